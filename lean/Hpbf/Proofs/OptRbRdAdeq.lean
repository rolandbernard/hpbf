/-
The clause `C01Dse.ReadsFact` of `C01Dse.AnalSound` from the big-step exposure predicate `Exposes` (`OptRbRd1.lean`)
paired with the analysis tree (`RdOkL`).  The core is `expC_of_unexposed`: if the small-step check `unexposedN` fails
for a configuration inside a block iteration, then the "remaining program" of that configuration (current list + the
continuations above depth `d`) exposes the address in the big-step sense (`ExpC`).
-/
import Hpbf.Proofs.OptRbRd1
import Hpbf.Proofs.OptRbDseFacts

namespace Hpbf
namespace OptProof
open Opt OptSem Ir

variable {w : Nat}

/-- What the continuations `ks` (the ones above the depth of the running block iteration) do from `σ` (the state
when the current list is exhausted) exposes `a`. -/
def ExpK (a : Int) : List (Cont w) → State w → Prop
  | [], _ => False
  | .loopEnd c sh body rest :: ks, σ =>
    Exposes a (.loop c sh body false :: rest) (σ.mov sh) ∨
      ∃ σ1, Thru a (.loop c sh body false :: rest) (σ.mov sh) σ1 ∧ ExpK a ks σ1
  | .ifEnd sh rest :: ks, σ =>
    Exposes a rest (σ.mov sh) ∨ ∃ σ1, Thru a rest (σ.mov sh) σ1 ∧ ExpK a ks σ1

def ExpC (a : Int) (cur : List (Instr w)) (ks : List (Cont w)) (σ : State w) : Prop :=
  Exposes a cur σ ∨ ∃ σ1, Thru a cur σ σ1 ∧ ExpK a ks σ1

theorem ExpC.map {a : Int} {l1 l2 : List (Instr w)} {ks : List (Cont w)} {σ1 σ2 : State w}
    (g : Exposes a l1 σ1 → Exposes a l2 σ2) (f : ∀ σ', Thru a l1 σ1 σ' → Thru a l2 σ2 σ')
    (h : ExpC a l1 ks σ1) : ExpC a l2 ks σ2 := by
  rcases h with h | ⟨σ', h1, h2⟩
  · exact Or.inl (g h)
  · exact Or.inr ⟨σ', f _ h1, h2⟩

theorem ExpC.of_nil {a : Int} {ks : List (Cont w)} {σ : State w} (h : ExpK a ks σ) : ExpC a [] ks σ :=
  Or.inr ⟨σ, .nil σ, h⟩

theorem ExpC.loop_enter {a : Int} {c sh : Int} {body rest : List (Instr w)} {once : Bool}
    {ks : List (Cont w)} {σ : State w} (hnz : σ.rd c ≠ 0#w) (hp : σ.ptr + c ≠ a)
    (h : ExpC a body (.loopEnd c sh body rest :: ks) σ) : ExpC a (.loop c sh body once :: rest) ks σ := by
  rcases h with h | ⟨σ1, hb, hk⟩
  · exact Or.inl (.loopIn hnz h)
  · rcases hk with hk | ⟨σ2, hl, hk⟩
    · exact Or.inl (.loopIter hnz hb (exposes_once_irrel hk))
    · exact Or.inr ⟨σ2, .loopIter hnz hp hb (thru_once_irrel hl), hk⟩

theorem ExpC.if_enter {a : Int} {c sh : Int} {body rest : List (Instr w)}
    {ks : List (Cont w)} {σ : State w} (hnz : σ.rd c ≠ 0#w) (hp : σ.ptr + c ≠ a)
    (h : ExpC a body (.ifEnd sh rest :: ks) σ) : ExpC a (.ifnz c sh body :: rest) ks σ := by
  rcases h with h | ⟨σ1, hb, hk⟩
  · exact Or.inl (.ifIn hnz h)
  · rcases hk with hk | ⟨σ2, hl, hk⟩
    · exact Or.inl (.ifIter hnz hb hk)
    · exact Or.inr ⟨σ2, .ifIter hnz hp hb hl, hk⟩

/-- One unfolding of `C01Dse.unexposedN` (`C01DseDefs`) that answers `false`: the running iteration is not over, and
`a` is read by this step, or not written by it and exposed within the remaining steps. -/
theorem unexposedN_succ_false {lim : Bool} {d : Nat} {a : Int} {n : Nat} {c : Cfg w}
    (h : C01Dse.unexposedN lim d a (n + 1) c = false) :
    ¬ (c.cur = [] ∧ c.conts.length ≤ d) ∧
      (a ∈ C01Dse.stepReads c ∨
        (a ∉ C01Dse.stepWrites c ∧ ∃ c', Ir.step lim c = .next c' ∧ C01Dse.unexposedN lim d a n c' = false)) := by
  rw [C01Dse.unexposedN] at h
  by_cases hstop : (c.cur.isEmpty && decide (c.conts.length ≤ d)) = true
  · rw [if_pos hstop] at h; cases h
  · rw [if_neg hstop] at h
    refine ⟨?_, ?_⟩
    · rintro ⟨h1, h2⟩
      apply hstop
      simp [h1, h2]
    · by_cases hr : a ∈ C01Dse.stepReads c
      · exact Or.inl hr
      · refine Or.inr ?_
        have hr' : (C01Dse.stepReads c).contains a = false := by simpa using hr
        rw [hr'] at h
        simp only [Bool.not_false, Bool.true_and, Bool.or_eq_false_iff] at h
        obtain ⟨h1, h2⟩ := h
        refine ⟨by simpa using h1, ?_⟩
        cases hs : Ir.step lim c with
        | next c' => rw [hs] at h2; exact ⟨c', rfl, h2⟩
        | halt _ => rw [hs] at h2; cases h2
        | stop _ => rw [hs] at h2; cases h2
        | interrupted _ => rw [hs] at h2; cases h2

/-- If the small-step check fails for a configuration whose continuation stack is `extra ++ base` (`base`: the
`d` continuations below the running block iteration), then the current list followed by `extra` exposes `a`. -/
theorem expC_of_unexposed (a : Int) (d : Nat) : ∀ (n : Nat) (cur : List (Instr w)) (extra base : List (Cont w))
    (bud : Nat) (σ : State w), base.length = d →
    C01Dse.unexposedN false d a n ⟨cur, extra ++ base, bud, σ⟩ = false → ExpC a cur extra σ := by
  intro n
  induction n with
  | zero => intro cur extra base bud σ _ h; simp [C01Dse.unexposedN] at h
  | succ n ih =>
    intro cur extra base bud σ hbase h
    obtain ⟨hne, hrw⟩ := unexposedN_succ_false h
    simp only at hne
    cases cur with
    | nil =>
      cases extra with
      | nil => exact absurd ⟨rfl, by simp [hbase]⟩ hne
      | cons k ks =>
        cases k with
        | loopEnd c sh body rest =>
          apply ExpC.of_nil
          by_cases hp : (σ.mov sh).ptr + c = a
          · exact Or.inl (.loopHere hp)
          · have hp' : a ∉ C01Dse.stepReads ⟨[], .loopEnd c sh body rest :: ks ++ base, bud, σ⟩ := by
              simp only [C01Dse.stepReads, List.cons_append, List.mem_singleton]
              exact fun e => hp e.symm
            rcases hrw with hr | ⟨_, c', hs, hu⟩
            · exact absurd hr hp'
            · by_cases hz : (σ.mov sh).rd c = 0#w
              · simp [Ir.step, hz] at hs
                subst hs
                exact (ih rest ks base bud _ hbase hu).map (.loopSkip hz) (fun _ ht => .loopSkip hz hp ht)
              · simp [Ir.step, hz] at hs
                subst hs
                exact ExpC.loop_enter hz hp (ih body (.loopEnd c sh body rest :: ks) base bud _ hbase hu)
        | ifEnd sh rest =>
          apply ExpC.of_nil
          rcases hrw with hr | ⟨_, c', hs, hu⟩
          · simp [C01Dse.stepReads] at hr
          · simp [Ir.step] at hs
            subst hs
            exact ih rest ks base bud _ hbase hu
    | cons i cur =>
      cases i with
      | output src =>
        by_cases hp : σ.ptr + src = a
        · exact Or.inl (.outHere hp)
        · rcases hrw with hr | ⟨_, c', hs, hu⟩
          · simp only [C01Dse.stepReads, List.mem_singleton] at hr
            exact absurd hr.symm hp
          · cases ho : σ.output src with
            | mk ok σ1 =>
              cases ok with
              | false => simp [Ir.step, ho] at hs
              | true =>
                simp [Ir.step, ho] at hs
                subst hs
                exact (ih cur extra base bud σ1 hbase hu).map (.outNext ho) (fun _ ht => .outOk ho hp ht)
      | input dst =>
        rcases hrw with hr | ⟨hw, c', hs, hu⟩
        · simp [C01Dse.stepReads] at hr
        · have hp : σ.ptr + dst ≠ a := by
            simp only [C01Dse.stepWrites, List.mem_singleton] at hw
            exact fun e => hw e.symm
          cases ho : σ.input dst with
          | mk ok σ1 =>
            cases ok with
            | false => simp [Ir.step, ho] at hs
            | true =>
              simp [Ir.step, ho] at hs
              subst hs
              exact (ih cur extra base bud σ1 hbase hu).map (.inNext ho hp) (fun _ ht => .inOk ho hp ht)
      | «calc» g =>
        by_cases hrd : ∃ ve ∈ g, ∃ v ∈ Expr.variables ve.2, σ.ptr + v = a
        · exact Or.inl (.calcHere hrd)
        · have hrd' : ∀ ve ∈ g, ∀ v ∈ Expr.variables ve.2, σ.ptr + v ≠ a :=
            fun ve hve v hv hh => hrd ⟨ve, hve, v, hv, hh⟩
          rcases hrw with hr | ⟨hw, c', hs, hu⟩
          · simp only [C01Dse.stepReads, List.mem_flatMap, List.mem_map] at hr
            obtain ⟨ve, hve, v, hv, e⟩ := hr
            exact absurd e (hrd' ve hve v hv)
          · have hw' : ∀ ve ∈ g, σ.ptr + ve.1 ≠ a := by
              simp only [C01Dse.stepWrites, List.mem_map, not_exists, not_and] at hw
              exact fun ve hve e => hw ve hve e
            simp [Ir.step] at hs
            subst hs
            exact (ih cur extra base bud _ hbase hu).map (.calcNext hw') (fun _ ht => .calc hw' hrd' ht)
      | loop c sh body once =>
        by_cases hp : σ.ptr + c = a
        · exact Or.inl (.loopHere hp)
        · rcases hrw with hr | ⟨_, c', hs, hu⟩
          · simp only [C01Dse.stepReads, List.mem_singleton] at hr
            exact absurd hr.symm hp
          · by_cases hz : σ.rd c = 0#w
            · simp [Ir.step, hz] at hs
              subst hs
              exact (ih cur extra base bud σ hbase hu).map (.loopSkip hz) (fun _ ht => .loopSkip hz hp ht)
            · simp [Ir.step, hz] at hs
              subst hs
              exact ExpC.loop_enter hz hp (ih body (.loopEnd c sh body cur :: extra) base bud σ hbase hu)
      | ifnz c sh body =>
        by_cases hp : σ.ptr + c = a
        · exact Or.inl (.ifHere hp)
        · rcases hrw with hr | ⟨_, c', hs, hu⟩
          · simp only [C01Dse.stepReads, List.mem_singleton] at hr
            exact absurd hr.symm hp
          · by_cases hz : σ.rd c = 0#w
            · simp [Ir.step, hz] at hs
              subst hs
              exact (ih cur extra base bud σ hbase hu).map (.ifSkip hz) (fun _ ht => .ifSkip hz hp ht)
            · simp [Ir.step, hz] at hs
              subst hs
              exact ExpC.if_enter hz hp (ih body (.ifEnd sh cur :: extra) base bud σ hbase hu)

theorem unexposed_of_not_exposes {a : Int} {body : List (Instr w)} {conts : List (Cont w)} {bud : Nat}
    {σ : State w} (h : ¬ Exposes a body σ) (n : Nat) :
    C01Dse.unexposedN false conts.length a n ⟨body, conts, bud, σ⟩ = true := by
  cases hu : C01Dse.unexposedN false conts.length a n ⟨body, conts, bud, σ⟩ with
  | true => rfl
  | false =>
    rcases expC_of_unexposed a conts.length n body [] conts bud σ rfl hu with h' | ⟨_, _, h'⟩
    · exact absurd h' h
    · exact h'.elim

theorem not_bad_of_reach {b : Block w} {env : Env} (ho : C02Emit.OnceOk b env) {c : Cfg w}
    (hr : C01Dse.Reach false 0 b env c) : ¬ Bad c.cur c.st := by
  intro hbad
  obtain ⟨f, hf⟩ := hr
  obtain ⟨n, c', hn, cond, shift, body, rest, e, hz⟩ := bad_reaches hbad [] c.conts c.budget
  rw [List.append_nil] at hn
  have := cfgAt_trans hf hn
  exact ho (f + n) c' (C01Dse.cfgAt_iff.1 this) cond shift body rest e hz

theorem shape_rdOk_split {pre : List (Instr w)} {i : Instr w} {rest : List (Instr w)}
    {subs : List (OptAnalysis w)} (hb : C01Dse.isBlock i = true) (h : ShapeL (pre ++ i :: rest) subs)
    (hr : RdOkL (pre ++ i :: rest) subs) :
    ∃ sp a sr, subs = sp ++ a :: sr ∧ ShapeI i a ∧ RdOkI i a ∧ ShapeL rest sr := by
  induction pre generalizing subs with
  | nil =>
    rw [List.nil_append, shapeL_cons_block hb] at h
    rw [List.nil_append, rdOkL_cons_block hb] at hr
    obtain ⟨a, subs', rfl, ha, hrest⟩ := h
    obtain ⟨a', subs'', e, ha', _⟩ := hr
    cases e
    exact ⟨[], a, subs', rfl, ha, ha', hrest⟩
  | cons j pre ih =>
    rw [List.cons_append] at h hr
    cases hj : C01Dse.isBlock j with
    | false =>
      rw [shapeL_cons_nonblock hj] at h
      rw [rdOkL_cons_nonblock hj] at hr
      exact ih h hr
    | true =>
      rw [shapeL_cons_block hj] at h
      rw [rdOkL_cons_block hj] at hr
      obtain ⟨b, subs', rfl, _, h'⟩ := h
      obtain ⟨b', subs'', e, _, hr'⟩ := hr
      cases e
      obtain ⟨sp, a, sr, e, h1, h2, h3⟩ := ih h' hr'
      exact ⟨b :: sp, a, sr, by rw [e]; rfl, h1, h2, h3⟩

/-- Along the continuation stack: the body of the running block is paired (`ShapeL` and `RdOkL`) with a node list
that has the same `toDAnals` as the one recorded in `KOk`; the node of a running loop satisfies `RdOkI`.  (`KOk`,
`posInv_of_reach`: `OptRbDseFacts`; `subAt_mid`: `OptRbShape`.) -/
theorem KOk.rd {tI : List (Instr w)} {tA : OptAnalysis w} (hs : ShapeL tI tA.subBlocks)
    (hrd : RdOkL tI tA.subBlocks) {ks : List (Cont w)} {body : List (Instr w)} {subs : List (OptAnalysis w)}
    {A0 : OptDse.DAnal} (h : KOk tI tA ks body subs A0) :
    (∃ subs', RdOkL body subs' ∧ ShapeL body subs' ∧
        OptAnalysis.toDAnals subs' = OptAnalysis.toDAnals subs) ∧
      (∀ cond shift lbody rest ks', ks = .loopEnd cond shift lbody rest :: ks' →
        ∃ a' once, RdOkI (.loop cond shift lbody once) a' ∧ a'.toDAnal = A0) := by
  induction h with
  | nil => exact ⟨⟨_, hrd, hs, rfl⟩, fun _ _ _ _ _ e => by cases e⟩
  | @loopEnd ks pbody psubs PA pre rest body cond shift once a hk hpb hi hsub ih =>
    obtain ⟨⟨psubs', r1, s1, e1⟩, _⟩ := ih
    subst hpb
    obtain ⟨sp, a', sr, rfl, hi', hri', hsr⟩ := shape_rdOk_split rfl s1 r1
    have hPA : PA.subs = OptAnalysis.toDAnals (sp ++ a' :: sr) := by rw [hk.subs_eq, e1]
    have hsub' := subAt_mid hPA
    rw [shapeL_length hsr, hsub] at hsub'
    have ea : a'.toDAnal = a.toDAnal := (Option.some.inj hsub').symm
    refine ⟨⟨a'.subBlocks, (rdOkI_loop hri').2, (shapeI_loop hi').2.2.2, ?_⟩, ?_⟩
    · rw [← toDAnal_subs, ← toDAnal_subs, ea]
    · intro _ _ _ _ _ e
      cases e
      exact ⟨a', once, hri', ea⟩
  | @ifEnd ks pbody psubs PA pre rest body cond shift a hk hpb hi hsub ih =>
    obtain ⟨⟨psubs', r1, s1, e1⟩, _⟩ := ih
    subst hpb
    obtain ⟨sp, a', sr, rfl, hi', hri', hsr⟩ := shape_rdOk_split rfl s1 r1
    have hPA : PA.subs = OptAnalysis.toDAnals (sp ++ a' :: sr) := by rw [hk.subs_eq, e1]
    have hsub' := subAt_mid hPA
    rw [shapeL_length hsr, hsub] at hsub'
    have ea : a'.toDAnal = a.toDAnal := (Option.some.inj hsub').symm
    refine ⟨⟨a'.subBlocks, rdOkI_ifnz hri', (shapeI_ifnz hi').2.2, ?_⟩, ?_⟩
    · rw [← toDAnal_subs, ← toDAnal_subs, ea]
    · intro _ _ _ _ _ e
      cases e

theorem readsFact_of_rdOk {b : Block w} {anal : OptAnalysis w} {env : Env}
    (hs : ShapeL b.insts anal.subBlocks) (hrd : RdOkL b.insts anal.subBlocks) (ho : C02Emit.OnceOk b env) :
    C01Dse.ReadsFact false 0 b anal.toDAnal env := by
  intro c hr cond shift body rest ks A0' c1 hcur hconts hanal hns hnz hstep v n hv
  obtain ⟨bodyX, subs, A0, pre, hk, _⟩ := posInv_of_reach hs hr
  rw [hk.analOf] at hanal
  cases hanal
  obtain ⟨a', once, hri, ea⟩ := (hk.rd hs hrd).2 cond shift body rest ks hconts
  subst ea
  rw [toDAnal_hasShift] at hns
  rw [toDAnal_reads] at hv
  have hr1 : C01Dse.Reach false 0 b env c1 := hr.step hstep
  have hnb := not_bad_of_reach ho hr1
  obtain ⟨cur, conts, bud, σ⟩ := c
  simp only at hcur hconts hnz
  subst hcur
  subst hconts
  simp [Ir.step, hnz] at hstep
  subst hstep
  exact unexposed_of_not_exposes ((rdOkI_loop hri).1 hns (σ.mov shift) hnz hnb v hv) n

/-- `hrd` is `optimizeOnce_rdOk hr hcl` (`OptRbRd5`, which is not below this file). -/
theorem optimizeOnce_readsFact {b : Block w} {prevAnal : OptAnalysis w} {os os' : Orders} {b' : Block w}
    {anal' : OptAnalysis w} (hr : (optimizeOnce b prevAnal).run os = .ok ((b', anal'), os'))
    (hcl : CanonL b.insts) {env : Env} (hrd : RdOkL b'.insts anal'.subBlocks) (ho : C02Emit.OnceOk b' env) :
    C01Dse.ReadsFact false 0 b' anal'.toDAnal env :=
  readsFact_of_rdOk (optimizeOnce_shape hr) hrd ho

#print axioms expC_of_unexposed
#print axioms unexposed_of_not_exposes
#print axioms not_bad_of_reach
#print axioms KOk.rd
#print axioms readsFact_of_rdOk
#print axioms optimizeOnce_readsFact

end OptProof
end Hpbf
