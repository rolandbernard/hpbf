/-
The fix for F13 (Hpbf/OptFix.lean), the syntactic facts: `fixClob` only changes `clobbered`; the fixed analysis
satisfies `TgtOkL` for the emitted program; `TgtOkL` survives dead store elimination; the equations of the fixed
pipeline `optimizeF` / `optimizeMF` (the proofs go through `Rounds.optimizeF_eq`).
-/
import Hpbf.Proofs.OptRbFixDefs
import Hpbf.Proofs.OptRbDseShape
import Hpbf.Proofs.OptRbRounds

namespace Hpbf
namespace OptProof
open Opt OptSem Ir

variable {w : Nat}

theorem isBlk_eq (i : Instr w) : OptFix.isBlk i = C01Dse.isBlock i := by
  cases i <;> rfl

theorem fixSubs_nil (subs : List (OptAnalysis w)) : OptFix.fixSubs ([] : List (Instr w)) subs = subs := by
  simp [OptFix.fixSubs]

theorem fixSubs_cons_nonblock {i : Instr w} (hb : C01Dse.isBlock i = false) (rest : List (Instr w))
    (subs : List (OptAnalysis w)) : OptFix.fixSubs (i :: rest) subs = OptFix.fixSubs rest subs := by
  cases subs <;> simp [OptFix.fixSubs, isBlk_eq, hb]

theorem fixSubs_cons_block {i : Instr w} (hb : C01Dse.isBlock i = true) (rest : List (Instr w))
    (a : OptAnalysis w) (subs : List (OptAnalysis w)) :
    OptFix.fixSubs (i :: rest) (a :: subs) = OptFix.fixNode i a :: OptFix.fixSubs rest subs := by
  rw [OptFix.fixSubs, isBlk_eq, hb]; simp

theorem fixSubs_cons_block_nil {i : Instr w} (hb : C01Dse.isBlock i = true) (rest : List (Instr w)) :
    OptFix.fixSubs (i :: rest) ([] : List (OptAnalysis w)) = [] := by
  rw [OptFix.fixSubs, isBlk_eq, hb]; simp

theorem fixNode_hasShift (i : Instr w) (a : OptAnalysis w) : (OptFix.fixNode i a).hasShift = a.hasShift := by
  cases a with
  | mk la hs rd cl subs => cases i <;> simp [OptFix.fixNode, OptAnalysis.hasShift]

theorem fixNode_loopAnal (i : Instr w) (a : OptAnalysis w) : (OptFix.fixNode i a).loopAnal = a.loopAnal := by
  cases a with
  | mk la hs rd cl subs => cases i <;> simp [OptFix.fixNode, OptAnalysis.loopAnal]

theorem fixSubs_hasShift (l : List (Instr w)) (subs : List (OptAnalysis w))
    (h : ∀ a ∈ subs, a.hasShift = false) : ∀ a ∈ OptFix.fixSubs l subs, a.hasShift = false := by
  induction l generalizing subs with
  | nil => rw [fixSubs_nil]; exact h
  | cons i rest ih =>
    cases hb : C01Dse.isBlock i with
    | false => rw [fixSubs_cons_nonblock hb]; exact ih subs h
    | true =>
      cases subs with
      | nil => rw [fixSubs_cons_block_nil hb]; intro a ha; cases ha
      | cons a0 subs' =>
        rw [fixSubs_cons_block hb]
        intro a ha
        rcases List.mem_cons.1 ha with rfl | ha
        · rw [fixNode_hasShift]; exact h a0 (by simp)
        · exact ih subs' (fun a' h' => h a' (by simp [h'])) a ha

theorem fixNode_nonblock {i : Instr w} (hb : C01Dse.isBlock i = false) (a : OptAnalysis w) :
    OptFix.fixNode i a = a := by
  cases i with
  | output _ | input _ | «calc» _ => rfl
  | loop _ _ _ _ | ifnz _ _ _ => cases hb

theorem fixNode_fixSubs_toDAnal :
    (∀ (i : Instr w) (a : OptAnalysis w), (OptFix.fixNode i a).toDAnal = a.toDAnal) ∧
    ∀ (l : List (Instr w)) (subs : List (OptAnalysis w)),
      OptAnalysis.toDAnals (OptFix.fixSubs l subs) = OptAnalysis.toDAnals subs := by
  refine instr_list_induction (fun i hb a => by rw [fixNode_nonblock hb]) ?_ ?_ (fun subs => by rw [fixSubs_nil]) ?_
  · rintro c sh body o ih ⟨la, hs, rd, cl, subs⟩
    rw [OptFix.fixNode, toDAnal_mk, toDAnal_mk, ih subs]
  · rintro c sh body ih ⟨la, hs, rd, cl, subs⟩
    rw [OptFix.fixNode, toDAnal_mk, toDAnal_mk, ih subs]
  · intro i rest ihi ihr subs
    cases hb : C01Dse.isBlock i with
    | false => rw [fixSubs_cons_nonblock hb]; exact ihr subs
    | true =>
      cases subs with
      | nil => rw [fixSubs_cons_block_nil hb]
      | cons a subs =>
        rw [fixSubs_cons_block hb, toDAnals_eq_map, toDAnals_eq_map, List.map_cons, List.map_cons, ihi a,
          ← toDAnals_eq_map, ← toDAnals_eq_map, ihr subs]

theorem fixNode_toDAnal : ∀ (i : Instr w) (a : OptAnalysis w), (OptFix.fixNode i a).toDAnal = a.toDAnal :=
  fixNode_fixSubs_toDAnal.1

theorem fixSubs_toDAnals : ∀ (l : List (Instr w)) (subs : List (OptAnalysis w)),
    OptAnalysis.toDAnals (OptFix.fixSubs l subs) = OptAnalysis.toDAnals subs :=
  fixNode_fixSubs_toDAnal.2

theorem fixClob_subBlocks (b : Block w) (a : OptAnalysis w) :
    (OptFix.fixClob b a).subBlocks = OptFix.fixSubs b.insts a.subBlocks := by
  cases a with
  | mk la hs rd cl subs => rfl

theorem fixClob_loopAnal (b : Block w) (a : OptAnalysis w) : (OptFix.fixClob b a).loopAnal = a.loopAnal := by
  cases a with
  | mk la hs rd cl subs => rfl

theorem fixClob_hasShift (b : Block w) (a : OptAnalysis w) : (OptFix.fixClob b a).hasShift = a.hasShift := by
  cases a with
  | mk la hs rd cl subs => rfl

theorem fixClob_reads (b : Block w) (a : OptAnalysis w) : (OptFix.fixClob b a).reads = a.reads := by
  cases a with
  | mk la hs rd cl subs => rfl

/-- Dead store elimination does not see the fix. -/
theorem fixClob_toDAnal (b : Block w) (a : OptAnalysis w) : (OptFix.fixClob b a).toDAnal = a.toDAnal := by
  cases a with
  | mk la hs rd cl subs =>
    show (OptAnalysis.mk la hs rd cl (OptFix.fixSubs b.insts subs)).toDAnal = _
    rw [toDAnal_mk, toDAnal_mk, fixSubs_toDAnals]

theorem dse_fixClob (b b0 : Block w) (a : OptAnalysis w) :
    deadStoreElimination b (OptFix.fixClob b0 a) = deadStoreElimination b a := by
  unfold deadStoreElimination
  rw [fixClob_toDAnal]

/-- The fixed nodes fit the same code. -/
theorem shape_fix :
    (∀ (i : Instr w) (a : OptAnalysis w), ShapeI i a → ShapeI i (OptFix.fixNode i a)) ∧
    ∀ (l : List (Instr w)) (subs : List (OptAnalysis w)), ShapeL l subs → ShapeL l (OptFix.fixSubs l subs) := by
  refine instr_list_induction (fun i hb a h => by rw [fixNode_nonblock hb]; exact h) ?_ ?_
    (fun subs h => by rw [fixSubs_nil]; exact h) ?_
  · rintro c sh body o ih ⟨la, hs, rd, cl, subs⟩ h
    rw [ShapeI] at h
    rw [OptFix.fixNode, ShapeI]
    exact ⟨h.1, h.2.1, fun hh => ⟨(h.2.2.1 hh).1, fixSubs_hasShift body subs (h.2.2.1 hh).2⟩, ih subs h.2.2.2⟩
  · rintro c sh body ih ⟨la, hs, rd, cl, subs⟩ h
    rw [ShapeI] at h
    rw [OptFix.fixNode, ShapeI]
    exact ⟨h.1, fun hh => ⟨(h.2.1 hh).1, fixSubs_hasShift body subs (h.2.1 hh).2⟩, ih subs h.2.2⟩
  · intro i rest ihi ihr subs h
    cases hb : C01Dse.isBlock i with
    | false =>
      rw [shapeL_cons_nonblock hb] at h ⊢
      rw [fixSubs_cons_nonblock hb]; exact ihr subs h
    | true =>
      rw [shapeL_cons_block hb] at h ⊢
      obtain ⟨a, subs', rfl, ha, hr⟩ := h
      rw [fixSubs_cons_block hb]
      exact ⟨_, _, rfl, ihi a ha, ihr subs' hr⟩

theorem shapeI_fixNode : ∀ (i : Instr w) (a : OptAnalysis w), ShapeI i a → ShapeI i (OptFix.fixNode i a) :=
  shape_fix.1

theorem shapeL_fixSubs : ∀ (l : List (Instr w)) (subs : List (OptAnalysis w)), ShapeL l subs →
    ShapeL l (OptFix.fixSubs l subs) :=
  shape_fix.2

/-- The fixed analysis records every write of the non-moving loops of the code it fits. -/
theorem tgtOk_fix :
    (∀ (i : Instr w) (a : OptAnalysis w), ShapeI i a → TgtOkI i (OptFix.fixNode i a)) ∧
    ∀ (l : List (Instr w)) (subs : List (OptAnalysis w)), ShapeL l subs → TgtOkL l (OptFix.fixSubs l subs) := by
  refine instr_list_induction (fun i hb a _ => tgtOkI_nonblock hb _) ?_ ?_ (fun subs _ => tgtOkL_nil _) ?_
  · rintro c sh body o ih ⟨la, hs, rd, cl, subs⟩ h
    rw [ShapeI] at h
    rw [OptFix.fixNode, TgtOkI]
    refine ⟨h.2.1, ?_, ih subs h.2.2.2⟩
    intro hh
    obtain ⟨e1, e2⟩ := h.2.2.1 hh
    refine ⟨e1, noShiftL_of_shapeL body subs h.2.2.2 e2, ?_⟩
    intro x hx
    rw [hh]
    simpa using hx
  · rintro c sh body ih ⟨la, hs, rd, cl, subs⟩ h
    rw [ShapeI] at h
    rw [OptFix.fixNode, TgtOkI]
    exact ih subs h.2.2
  · intro i rest ihi ihr subs h
    cases hb : C01Dse.isBlock i with
    | false =>
      rw [shapeL_cons_nonblock hb] at h
      rw [tgtOkL_cons_nonblock hb, fixSubs_cons_nonblock hb]; exact ihr subs h
    | true =>
      rw [shapeL_cons_block hb] at h
      obtain ⟨a, subs', rfl, ha, hr⟩ := h
      rw [fixSubs_cons_block hb, tgtOkL_cons_block hb]
      exact ⟨ihi a ha, ihr subs' hr⟩

theorem tgtOkI_fixNode : ∀ (i : Instr w) (a : OptAnalysis w), ShapeI i a → TgtOkI i (OptFix.fixNode i a) :=
  tgtOk_fix.1

theorem tgtOkL_fixSubs : ∀ (l : List (Instr w)) (subs : List (OptAnalysis w)), ShapeL l subs →
    TgtOkL l (OptFix.fixSubs l subs) :=
  tgtOk_fix.2

/-- Dead store elimination does not add write targets. -/
theorem targets_sub :
    (∀ (i i' : Instr w), C01Dse.SubI i i' → ∀ x ∈ OptFix.targetsI i', x ∈ OptFix.targetsI i) ∧
    ∀ (l l' : List (Instr w)), C01Dse.SubL l l' → ∀ x ∈ OptFix.targetsL l', x ∈ OptFix.targetsL l := by
  refine C01Dse.sub_induction (fun _ _ hx => hx) (fun _ _ hx => hx) ?_ ?_ ?_ (fun _ hx => hx) ?_
  · intro cs cs' hs x hx
    rw [OptFix.targetsI] at hx ⊢
    exact (hs.map _).subset hx
  · intro c sh o body body' _ ih x hx
    rw [OptFix.targetsI] at hx ⊢
    exact ih x hx
  · intro c sh body body' _ ih x hx
    rw [OptFix.targetsI] at hx ⊢
    exact ih x hx
  · intro i i' l l' _ _ ihi ihl x hx
    rw [OptFix.targetsL] at hx ⊢
    rcases List.mem_append.1 hx with hx | hx
    · exact List.mem_append.2 (Or.inl (ihi x hx))
    · exact List.mem_append.2 (Or.inr (ihl x hx))

theorem targetsI_sub : ∀ (i i' : Instr w), C01Dse.SubI i i' → ∀ x ∈ OptFix.targetsI i', x ∈ OptFix.targetsI i :=
  targets_sub.1

theorem targetsL_sub : ∀ (l l' : List (Instr w)), C01Dse.SubL l l' →
    ∀ x ∈ OptFix.targetsL l', x ∈ OptFix.targetsL l :=
  targets_sub.2

theorem tgtOk_sub :
    (∀ (i i' : Instr w), C01Dse.SubI i i' → ∀ a : OptAnalysis w, TgtOkI i a → TgtOkI i' a) ∧
    ∀ (l l' : List (Instr w)), C01Dse.SubL l l' → ∀ subs : List (OptAnalysis w), TgtOkL l subs →
      TgtOkL l' subs := by
  refine C01Dse.sub_induction (fun _ a _ => tgtOkI_nonblock rfl a) (fun _ a _ => tgtOkI_nonblock rfl a)
    (fun _ _ _ a _ => tgtOkI_nonblock rfl a) ?_ ?_ (fun _ h => h) ?_
  · rintro c sh o body body' hb ih ⟨la, hs, rd, cl, subs⟩ ht
    rw [TgtOkI] at ht ⊢
    refine ⟨ht.1, ?_, ih subs ht.2.2⟩
    intro hh
    obtain ⟨e1, e2, e3⟩ := ht.2.1 hh
    exact ⟨e1, by rw [noShiftL_sub body _ hb]; exact e2, fun x hx => e3 x (targetsL_sub body _ hb x hx)⟩
  · rintro c sh body body' _ ih ⟨la, hs, rd, cl, subs⟩ ht
    rw [TgtOkI] at ht ⊢
    exact ih subs ht
  · intro i i' l l' hi _ ihi ihl subs ht
    cases hb : C01Dse.isBlock i with
    | false =>
      rw [tgtOkL_cons_nonblock hb] at ht
      rw [tgtOkL_cons_nonblock ((isBlock_sub hi).trans hb)]
      exact ihl subs ht
    | true =>
      have hb' := (isBlock_sub hi).trans hb
      cases subs with
      | nil => exact tgtOkL_cons_block_nil hb' _
      | cons a subs' =>
        rw [tgtOkL_cons_block hb] at ht
        rw [tgtOkL_cons_block hb']
        exact ⟨ihi a ht.1, ihl subs' ht.2⟩

theorem tgtOkI_sub : ∀ (i i' : Instr w) (a : OptAnalysis w), C01Dse.SubI i i' → TgtOkI i a → TgtOkI i' a :=
  fun i i' a h => tgtOk_sub.1 i i' h a

theorem tgtOkL_sub : ∀ (l l' : List (Instr w)) (subs : List (OptAnalysis w)), C01Dse.SubL l l' →
    TgtOkL l subs → TgtOkL l' subs :=
  fun l l' subs h => tgtOk_sub.2 l l' h subs

/-- After a round (with the fix) and dead store elimination: the input of the next round. -/
theorem tgtOkL_dse {b b2 : Block w} {a : OptAnalysis w} (hs : ShapeL b.insts a.subBlocks)
    (hcl : CanonL b.insts) (hd : deadStoreElimination b (OptFix.fixClob b a) = .ok b2) :
    TgtOkL b2.insts (OptFix.fixClob b a).subBlocks ∧ ShapeL b2.insts (OptFix.fixClob b a).subBlocks ∧
    CanonL b2.insts := by
  obtain ⟨_, hsub⟩ := deadStoreElimination_sub hd
  rw [fixClob_subBlocks]
  exact ⟨tgtOkL_sub _ _ _ hsub (tgtOkL_fixSubs _ _ hs), shapeL_sub _ _ _ hsub (shapeL_fixSubs _ _ hs),
    canonL_sub _ _ hsub hcl⟩

/-- The fixed analysis of a round's output: `TgtOkL` and `ShapeL`. -/
theorem tgtOkL_round {b : Block w} {prevAnal : OptAnalysis w} {os os' : Orders} {b1 : Block w}
    {anal1 : OptAnalysis w} (hr : (optimizeOnce b prevAnal).run os = .ok ((b1, anal1), os'))
    (hcl : CanonL b.insts) :
    TgtOkL b1.insts (OptFix.fixClob b1 anal1).subBlocks ∧ ShapeL b1.insts (OptFix.fixClob b1 anal1).subBlocks ∧
    GoodL b1.insts := by
  have hs := optimizeOnce_shape hr
  rw [fixClob_subBlocks]
  exact ⟨tgtOkL_fixSubs _ _ hs, shapeL_fixSubs _ _ hs, optimizeOnce_good hr hcl⟩

theorem optimizeOnceF_ok {b b' : Block w} {prev a' : OptAnalysis w} {os os' : Orders} :
    (OptFix.optimizeOnceF b prev).run os = .ok ((b', a'), os') ↔
      ∃ a0, (optimizeOnce b prev).run os = .ok ((b', a0), os') ∧ a' = OptFix.fixClob b' a0 := by
  unfold OptFix.optimizeOnceF
  rw [run_bind_ok]
  constructor
  · rintro ⟨⟨p, a0⟩, os1, h1, h2⟩
    rw [run_pure] at h2
    cases h2
    exact ⟨a0, h1, rfl⟩
  · rintro ⟨a0, h1, rfl⟩
    exact ⟨(b', a0), os', h1, rfl⟩

theorem optimizeF_ok_iff {b b' : Block w} {level : Nat} {orders : Orders} :
    OptFix.optimizeF b level orders = .ok b' ↔ (OptFix.optimizeMF b level).run orders = .ok (b', []) := by
  rw [Rounds.optimizeF_eq, Rounds.pipeline_ok_iff, Rounds.optimizeMF_eq]

theorem optimizeMF_zero (b : Block w) : OptFix.optimizeMF b 0 = pure b := rfl

theorem optimizeMF_succ (b : Block w) (n : Nat) :
    OptFix.optimizeMF b (n + 1) = (do
      let (prog, anal) ← OptFix.optimizeOnceF b (topAnalysis [] [])
      OptFix.optimizeRoundsF (min (n + 1) 3 - 1) prog anal) := by
  unfold OptFix.optimizeMF
  rw [if_pos (bne_iff_ne.2 (Nat.succ_ne_zero n))]

#print axioms fixClob_toDAnal
#print axioms tgtOkL_fixSubs
#print axioms tgtOkL_dse

end OptProof
end Hpbf
