/-
The association-list maps (`mGet`/`mSet`/`mErase`) and sets (`sIns`/`sRem`) of `Hpbf/Opt.lean`.  `Sorted m` = keys
strictly ascending (the canonical representation; needed for `mErase`).
-/
import Hpbf.Proofs.OptSem
import Hpbf.Proofs.OptLoopMap
import Hpbf.Proofs.C01DseSem
import Hpbf.Proofs.StateAgree
import Hpbf.Proofs.C15

namespace Hpbf
namespace OptProof
open Opt OptSem

export OptLoop (mem_sIns mGet_mSet mGet_mSet_same mGet_mSet_ne mGet_mErase mHas_iff)

variable {w : Nat} {ν : Type}

/-- The same text as `OptLoop.KeysAsc`: the `sorted_*` lemmas below hand a `Sorted` to `OptLoop.keysAsc_*` as it is. -/
def Sorted (m : List (Int × ν)) : Prop := (m.map (·.1)).Pairwise (· < ·)

theorem sorted_nil : Sorted ([] : List (Int × ν)) := by simp [Sorted]

theorem mGet_nil (k : Int) : mGet ([] : List (Int × ν)) k = none := rfl

theorem mGet_cons (k' : Int) (v : ν) (m : List (Int × ν)) (k : Int) :
    mGet ((k', v) :: m) k = if k' = k then some v else mGet m k := rfl

theorem mem_keys_mSet (m : List (Int × ν)) (k : Int) (v : ν) (x : Int) :
    x ∈ (mSet m k v).map (·.1) ↔ x = k ∨ x ∈ m.map (·.1) := by
  rw [OptLoop.map_fst_mSet]; exact OptLoop.mem_sIns

theorem sorted_mSet {m : List (Int × ν)} (h : Sorted m) (k : Int) (v : ν) : Sorted (mSet m k v) :=
  OptLoop.keysAsc_mSet m k v h

theorem sorted_mErase {m : List (Int × ν)} (h : Sorted m) (k : Int) : Sorted (mErase m k) :=
  OptLoop.keysAsc_mErase m k h

theorem nodup_keys_of_sorted {m : List (Int × ν)} (h : Sorted m) : (mKeys m).Nodup := by
  unfold Sorted at h
  unfold mKeys
  exact h.imp (fun hab => by omega)

theorem mGet_of_mem {m : List (Int × ν)} (hs : Sorted m) {k : Int} {v : ν} (h : (k, v) ∈ m) :
    mGet m k = some v := OptLoop.mGet_of_mem (nodup_keys_of_sorted hs) h

theorem mGet_isSome_iff (m : List (Int × ν)) (k : Int) : (mGet m k).isSome ↔ k ∈ mKeys m := by
  induction m with
  | nil => simp [mGet, mKeys]
  | cons kv m ih =>
    obtain ⟨a, b⟩ := kv
    simp only [mGet, mKeys, List.map_cons, List.mem_cons]
    by_cases h1 : a = k
    · simp [h1]
    · simp only [h1, if_false]
      have : ¬ k = a := fun e => h1 e.symm
      simp only [this, false_or]
      exact ih

theorem mHas_false_iff (m : List (Int × ν)) (k : Int) : mHas m k = false ↔ mGet m k = none := by
  unfold mHas; cases mGet m k <;> simp

theorem mGet_none_iff (m : List (Int × ν)) (k : Int) : mGet m k = none ↔ k ∉ mKeys m := by
  rw [← mGet_isSome_iff]; cases mGet m k <;> simp

theorem mGet_none_of_sub {m m' : List (Int × ν)} (hsub : ∀ k v, mGet m' k = some v → mGet m k = some v)
    {k : Int} (h : mGet m k = none) : mGet m' k = none := by
  cases h' : mGet m' k with
  | none => rfl
  | some v => rw [hsub k v h'] at h; cases h

theorem mem_sRem {s : List Int} {k x : Int} : x ∈ sRem s k ↔ x ∈ s ∧ x ≠ k := by
  simp [sRem]

theorem contains_iff {s : List Int} {v : Int} : s.contains v = true ↔ v ∈ s :=
  C01Dse.contains_iff

theorem mErase_of_none {m : List (Int × ν)} {k : Int} (h : mGet m k = none) : mErase m k = m := by
  induction m with
  | nil => rfl
  | cons kv m ih =>
    obtain ⟨a, b⟩ := kv
    simp only [mGet] at h
    by_cases h1 : a = k
    · simp [h1] at h
    · simp only [h1, if_false] at h
      simp only [mErase, h1, if_false, ih h]

def upd (m : Mem w) (k : Int) (x : BitVec w) : Mem w := fun v => if v = k then x else m v

theorem upd_same (m : Mem w) (k : Int) (x : BitVec w) : upd m k x k = x := by simp [upd]

theorem upd_ne (m : Mem w) (k : Int) (x : BitVec w) (v : Int) (h : v ≠ k) : upd m k x v = m v := by
  simp [upd, h]

end OptProof
end Hpbf
