/-
C03, shared toolkit: the simulation relation between bytecode configurations and machine states, the
"temporaries view" of a machine state (`tmpVal` / `setTmp`), what each instruction does to a machine state
given what its operand (a cell, a temporary, a register) reads as and how it is written, and the
accumulator steps of which the arms of the selectors are made.

`C03Sel` builds on `Loads`, `Combines`, `Produces`, `runs_st`, `runs_accum`, `operand_dst`. `Rel`, `Rel'`, `Sim`
are the vocabulary of the property statements; everything is proved on `RelOn` / `SimOn` / `Runs` and
transferred once (`Impl.simOn`, `sim_of_simOn`).
-/
import Hpbf.X86Sem
import Hpbf.JitGen
import Hpbf.Proofs.C11Basic
import Hpbf.Proofs.C01State

namespace Hpbf
namespace C03

open Asm JitGen X86Sem

variable {w : Nat}

def lo (v : BitVec 64) : BitVec w := v.setWidth w

/-- Bytecode configuration `c` and machine state `m` agree: every register temporary (low `w` bits of
its register), every stack temporary (low `w` bits of its slot), every tape cell (offsets relative to the
pointer = indices relative to `rbp`). -/
def Rel (c : Bc.Cfg w) (m : MState w) : Prop :=
  (∀ t r, tmpReg t = some r → lo (m.regs r) = Bc.tget c.temps t) ∧
  (∀ t, 11 ≤ t → lo (m.stack t) = Bc.tget c.temps t) ∧
  (∀ o, m.tape o = c.st.rd o)

/-- Agreement after an instruction with live bitmap `live` and destination `d`: as `Rel`, except that a
REGISTER temporary that is neither declared live nor the destination may hold anything (the selector may
have used it as scratch: `canScratch`). -/
def Rel' (live : Nat) (d : Bc.Loc w) (c : Bc.Cfg w) (m : MState w) : Prop :=
  (∀ t r, tmpReg t = some r → (live.testBit t = true ∨ d = .tmp t) →
    lo (m.regs r) = Bc.tget c.temps t) ∧
  (∀ t, 11 ≤ t → lo (m.stack t) = Bc.tget c.temps t) ∧
  (∀ o, m.tape o = c.st.rd o)

/-- Agreement restricted to the register temporaries in `S` (all stack temporaries, the whole tape):
the form that composes along a program. `Rel` is `RelOn (fun _ => True)`, `Rel' live d` is
`RelOn (fun t => live.testBit t ∨ d = .tmp t)`. -/
def RelOn (S : Nat → Prop) (c : Bc.Cfg w) (m : MState w) : Prop :=
  (∀ t r, tmpReg t = some r → S t → lo (m.regs r) = Bc.tget c.temps t) ∧
  (∀ t, 11 ≤ t → lo (m.stack t) = Bc.tget c.temps t) ∧
  (∀ o, m.tape o = c.st.rd o)

/-- A source operand that is a register temporary belongs to `S`. -/
def SrcOk (S : Nat → Prop) : Bc.Loc w → Prop
  | .tmp t => t < 11 → S t
  | _ => True

/-- Operand ranges: offsets and temporary numbers are values of `i32` (so that `idx as i32`, `tmp as i32`
in `mem_param`/`tmp_param` do not wrap). -/
def LocOk : Bc.Loc w → Prop
  | .mem idx => -2147483648 ≤ idx ∧ idx < 2147483648
  | .memZero _ => True
  | .tmp t => t < 2147483648
  | .imm _ => True

/-- On `memZero` the value read only; the zeroing is not modelled: the selectors have no arm for such an
operand (`arith_sound`). -/
def rv (c : Bc.Cfg w) : Bc.Loc w → BitVec w
  | .mem off => c.st.rd off
  | .memZero off => c.st.rd off
  | .tmp i => Bc.tget c.temps i
  | .imm v => v

/-- The code `xs` run from `m` ends in a state related to `c'`, with the frame registers intact. -/
def Sim (live : Nat) (d : Bc.Loc w) (c' : Bc.Cfg w) (m : MState w) (xs : List X86) : Prop :=
  ∃ m', execAll xs m = some m' ∧ Rel' live d c' m' ∧
    m'.regs .rbx = m.regs .rbx ∧ m'.regs .rbp = m.regs .rbp ∧ m'.regs .rsp = m.regs .rsp

/-- The register temporaries known to agree after an instruction with live bitmap `live` and destination
`d`, when those in `S` agreed before: the live ones of `S`, and the destination. -/
def Post (S : Nat → Prop) (live : Nat) (d : Bc.Loc w) (t : Nat) : Prop :=
  (S t ∧ live.testBit t = true) ∨ d = .tmp t

/-- `Sim` with the precondition `RelOn S`: afterwards the register temporaries of `S` that are declared
live, and the destination, agree. -/
def SimOn (S : Nat → Prop) (live : Nat) (d : Bc.Loc w) (c' : Bc.Cfg w) (m : MState w) (xs : List X86) :
    Prop :=
  ∃ m', execAll xs m = some m' ∧ RelOn (Post S live d) c' m' ∧
    m'.regs .rbx = m.regs .rbx ∧ m'.regs .rbp = m.regs .rbp ∧ m'.regs .rsp = m.regs .rsp

theorem emitInstr_raw {sz : Size} {limited safe : Bool} {minAcc maxAcc : Int} {aE aI aO i live : Nat}
    {ins : Bc.Instr w} {its : List Item}
    (h : emitInstr sz limited safe minAcc maxAcc aE aI aO i live ins = some its) :
    emitInstrRaw sz limited safe minAcc maxAcc aE aI aO i live ins = some its ∧
      its.all Item.fits = true := by
  unfold emitInstr at h
  split at h
  · split at h
    · cases h; exact ⟨by assumption, by assumption⟩
    · cases h
  · cases h

theorem i32_eq {x : Int} (h1 : -2147483648 ≤ x) (h2 : x < 2147483648) : i32 x = x := by
  have e : (2 : Int) ^ 32 = 4294967296 := by decide
  simp only [i32, wrapS, e]
  split <;> omega

theorem i32_nat {t : Nat} (h : t < 2147483648) : i32 (t : Int) = t :=
  i32_eq (by omega) (by omega)

def treg (t : Nat) : Reg := (tmpReg t).getD .rax

theorem tmpReg_lt {t : Nat} (h : t < 11) : tmpReg t = some (treg t) := by
  revert t; decide

theorem tmpReg_ge {t : Nat} (h : 11 ≤ t) : tmpReg t = none := by
  unfold tmpReg
  split <;> first | omega | rfl

theorem tmpReg_eq_none {t : Nat} : tmpReg t = none ↔ 11 ≤ t := by
  constructor
  · intro h
    by_cases h' : t < 11
    · rw [tmpReg_lt h'] at h; cases h
    · omega
  · exact tmpReg_ge

theorem tmpReg_eq_some {t : Nat} {r : Reg} : tmpReg t = some r ↔ t < 11 ∧ r = treg t := by
  constructor
  · intro h
    by_cases h' : t < 11
    · rw [tmpReg_lt h'] at h; cases h; exact ⟨h', rfl⟩
    · rw [tmpReg_ge (by omega)] at h; cases h
  · rintro ⟨h, rfl⟩; exact tmpReg_lt h

/-- The temporary of a register (a left inverse of `treg` below 11). -/
def regTmp : Reg → Nat
  | .r12 => 0 | .r13 => 1 | .r14 => 2 | .r15 => 3 | .rsi => 4 | .rdi => 5 | .rdx => 6
  | .r8 => 7 | .r9 => 8 | .r10 => 9 | .r11 => 10 | _ => 0

theorem regTmp_treg {t : Nat} (h : t < 11) : regTmp (treg t) = t := by
  revert t; decide

theorem treg_inj {t t' : Nat} (h : t < 11) (h' : t' < 11) : treg t = treg t' ↔ t = t' :=
  ⟨fun e => by rw [← regTmp_treg h, e, regTmp_treg h'], fun e => e ▸ rfl⟩

theorem treg_ne {t : Nat} (h : t < 11) :
    treg t ≠ .rax ∧ treg t ≠ .rcx ∧ treg t ≠ .rbx ∧ treg t ≠ .rsp ∧ treg t ≠ .rbp := by
  revert t; decide

def tmpPlace (t : Nat) : Place :=
  match tmpReg t with | some r => .reg r | none => .slot t

def tmpVal (m : MState w) (t : Nat) : BitVec 64 :=
  match tmpReg t with | some r => m.regs r | none => m.stack t

def setTmp (m : MState w) (t : Nat) (v : BitVec 64) : MState w :=
  match tmpReg t with | some r => m.setReg r v | none => m.setSlot t v

theorem regs_treg (m : MState w) {t : Nat} (h : t < 11) : m.regs (treg t) = tmpVal m t := by
  simp [tmpVal, tmpReg_lt h]

theorem tmpVal_setTmp (m : MState w) (t t' : Nat) (v : BitVec 64) :
    tmpVal (setTmp m t v) t' = if t' = t then v else tmpVal m t' := by
  unfold tmpVal setTmp
  by_cases h : t < 11 <;> by_cases h' : t' < 11
  · simp only [tmpReg_lt h, tmpReg_lt h', MState.setReg, treg_inj h' h]
  · simp only [tmpReg_lt h, tmpReg_ge (Nat.le_of_not_lt h'), MState.setReg]
    split
    · omega
    · rfl
  · simp only [tmpReg_lt h', tmpReg_ge (Nat.le_of_not_lt h), MState.setSlot]
    split
    · omega
    · rfl
  · simp only [tmpReg_ge (Nat.le_of_not_lt h), tmpReg_ge (Nat.le_of_not_lt h'), MState.setSlot]

@[simp] theorem tmpVal_setCell (m : MState w) (t : Nat) (i : Int) (v : BitVec w) :
    tmpVal (m.setCell i v) t = tmpVal m t := rfl
@[simp] theorem tmpVal_setFlags (m : MState w) (t : Nat) (z c : Option Bool) :
    tmpVal (m.setFlags z c) t = tmpVal m t := rfl

theorem regs_setTmp (m : MState w) (t : Nat) (v : BitVec 64) {r : Reg}
    (hr : r = .rax ∨ r = .rcx ∨ r = .rbx ∨ r = .rsp ∨ r = .rbp) :
    (setTmp m t v).regs r = m.regs r := by
  unfold setTmp
  by_cases h : t < 11
  · have := treg_ne h
    simp only [tmpReg_lt h, MState.setReg]
    split
    · rename_i e; subst e; simp_all
    · rfl
  · simp only [tmpReg_ge (Nat.le_of_not_lt h), MState.setSlot]

@[simp] theorem tape_setTmp (m : MState w) (t : Nat) (v : BitVec 64) : (setTmp m t v).tape = m.tape := by
  unfold setTmp; split <;> rfl

@[simp] theorem regs_setReg (m : MState w) (r r' : Reg) (v : BitVec 64) :
    (m.setReg r v).regs r' = if r' = r then v else m.regs r' := rfl
@[simp] theorem tape_setReg (m : MState w) (r : Reg) (v : BitVec 64) : (m.setReg r v).tape = m.tape := rfl
@[simp] theorem stack_setReg (m : MState w) (r : Reg) (v : BitVec 64) : (m.setReg r v).stack = m.stack := rfl
@[simp] theorem regs_setCell (m : MState w) (i : Int) (v : BitVec w) : (m.setCell i v).regs = m.regs := rfl
@[simp] theorem tape_setCell (m : MState w) (i j : Int) (v : BitVec w) :
    (m.setCell i v).tape j = if j = i then v else m.tape j := rfl
@[simp] theorem regs_setFlags (m : MState w) (z c : Option Bool) : (m.setFlags z c).regs = m.regs := rfl
@[simp] theorem tape_setFlags (m : MState w) (z c : Option Bool) : (m.setFlags z c).tape = m.tape := rfl
@[simp] theorem stack_setFlags (m : MState w) (z c : Option Bool) : (m.setFlags z c).stack = m.stack := rfl

theorem lo_add (hw : w ≤ 64) (a b : BitVec 64) : (lo (a + b) : BitVec w) = lo a + lo b :=
  BitVec.setWidth_add a b hw

theorem lo_mul (hw : w ≤ 64) (a b : BitVec 64) : (lo (a * b) : BitVec w) = lo a * lo b :=
  BitVec.setWidth_mul a b hw

theorem lo_neg (hw : w ≤ 64) (a : BitVec 64) : (lo (-a) : BitVec w) = -lo a := by
  unfold lo
  rw [BitVec.neg_eq_not_add, BitVec.setWidth_add _ _ hw, BitVec.setWidth_not hw, BitVec.neg_eq_not_add]
  congr 1
  apply BitVec.eq_of_toNat_eq
  simp

theorem lo_ext (hw : w ≤ 64) (x : BitVec w) : (lo (x.setWidth 64) : BitVec w) = x := by
  unfold lo
  rw [BitVec.setWidth_setWidth_of_le x hw, BitVec.setWidth_eq]

theorem lo_trunc {n : Nat} (hn : w ≤ n) (v : BitVec 64) : (lo (trunc n v) : BitVec w) = lo v := by
  unfold lo trunc
  ext i hi
  have : i < n := by omega
  simp [*]
  exact fun h => BitVec.lt_of_getLsbD h

theorem lo_mergeLow {n : Nat} (hn : w ≤ n) (hn' : n ≤ 64) (old v : BitVec 64) :
    (lo (mergeLow n old v) : BitVec w) = lo v := by
  unfold lo mergeLow
  ext i hi
  have : i < n := by omega
  have : i < 64 := by omega
  simp [lowMask, *]

theorem lo_sizedWrite {sz : Size} (hsz : sz.bits = w) (old v : BitVec 64) :
    (lo (sizedWrite sz old v) : BitVec w) = lo v := by
  cases sz <;> simp only [Size.bits] at hsz <;> subst hsz <;> simp only [sizedWrite]
  · exact lo_mergeLow (Nat.le_refl _) (by decide) _ _
  · exact lo_mergeLow (Nat.le_refl _) (by decide) _ _
  · exact lo_trunc (Nat.le_refl _) _

/-- What `alu op` computes on the low bits. -/
def aluF : Alu → BitVec w → BitVec w → BitVec w
  | .add => (· + ·)
  | .sub => fun x y => x + -y

theorem lo_alu (op : Alu) {n : Nat} (hn : w ≤ n) (hn' : n ≤ 64) (a b : BitVec 64) :
    (lo (alu op n a b).1 : BitVec w) = aluF op (lo a) (lo b) := by
  have hw : w ≤ 64 := by omega
  cases op
  · simp only [alu, aluF, lo_trunc hn, lo_add hw]
  · simp only [alu, aluF, lo_trunc hn, BitVec.sub_eq_add_neg, lo_add hw, lo_neg hw]

theorem lo_immI64 (hw : w ≤ 64) (c : BitVec w) : (lo (immVal (immI64 c)) : BitVec w) = c := by
  simp only [lo, immVal, immI64, Cell.intoI64, BitVec.ofInt_toInt]
  ext i hi
  have : i < 64 := by omega
  simp [BitVec.getElem_signExtend, *]

theorem wrapS_eq {bits : Nat} {x : Int} (h1 : -(2 ^ bits) ≤ 2 * x) (h2 : 2 * x < 2 ^ bits) :
    wrapS bits x = x := by
  simp only [wrapS]
  have hp : (0 : Int) < 2 ^ bits := Int.pow_pos (by decide)
  by_cases hx : 0 ≤ x
  · have : x % 2 ^ bits = x := Int.emod_eq_of_lt hx (by omega)
    rw [this]; split <;> omega
  · have : x % 2 ^ bits = x + 2 ^ bits := by
      rw [← Int.add_emod_right, Int.emod_eq_of_lt (by omega) (by omega)]
    rw [this]; split <;> omega

theorem truncImm_immI64 {sz : Size} (hsz : sz.bits = w) (c : BitVec w) :
    truncImm sz (immI64 c) = immI64 c := by
  cases sz <;> simp only [Size.bits] at hsz <;> subst hsz <;> simp only [truncImm]
  · have := BitVec.two_mul_toInt_lt (x := c); have := BitVec.le_two_mul_toInt (x := c)
    simp only [immI64, Cell.intoI64, BitVec.toInt_signExtend_of_le (show 8 ≤ 64 by decide), i8]
    exact wrapS_eq (by omega) (by omega)
  · have := BitVec.two_mul_toInt_lt (x := c); have := BitVec.le_two_mul_toInt (x := c)
    simp only [immI64, Cell.intoI64, BitVec.toInt_signExtend_of_le (show 16 ≤ 64 by decide), i16]
    exact wrapS_eq (by omega) (by omega)

theorem fitsS_32 (v : Int) : fitsS 32 v = true ↔ (-2147483648 ≤ v ∧ v < 2147483648) := by
  simp [fitsS]

theorem readLoc_rv (c : Bc.Cfg w) {l : Bc.Loc w} (hl : ∀ o, l ≠ .memZero o) :
    Bc.readLoc c l = (rv c l, c) := by
  cases l with
  | memZero o => exact absurd rfl (hl o)
  | _ => rfl

/-- Without `memZero` operands the two-operand form (`sameDst`) computes the same value as the
three-operand form. -/
theorem binop_eq (f : BitVec w → BitVec w → BitVec w) (c : Bc.Cfg w) (d a b : Bc.Loc w)
    (ha : ∀ o, a ≠ .memZero o) (hb : ∀ o, b ≠ .memZero o) :
    Bc.binop f c d a b = Bc.writeLoc c (f (rv c a) (rv c b)) d := by
  unfold Bc.binop
  split
  · rename_i hs
    have hda : d = a := by
      cases d <;> cases a <;> simp_all [Bc.sameDst]
    subst hda
    simp only [readLoc_rv c hb, readLoc_rv c ha]
  · simp only [readLoc_rv c ha, readLoc_rv c hb]

theorem relOn_iff (S : Nat → Prop) (c : Bc.Cfg w) (m : MState w) :
    RelOn S c m ↔
      (∀ t, (11 ≤ t ∨ S t) → lo (tmpVal m t) = Bc.tget c.temps t) ∧ (∀ o, m.tape o = c.st.rd o) := by
  unfold RelOn tmpVal
  constructor
  · rintro ⟨h1, h2, h3⟩
    refine ⟨fun t hk => ?_, h3⟩
    by_cases h : t < 11
    · simp only [tmpReg_lt h]
      refine h1 t _ (tmpReg_lt h) ?_
      rcases hk with hk | hk
      · omega
      · exact hk
    · simp only [tmpReg_ge (Nat.le_of_not_lt h)]; exact h2 t (Nat.le_of_not_lt h)
  · rintro ⟨h1, h3⟩
    refine ⟨fun t r htr hk => ?_, fun t ht => ?_, h3⟩
    · have := h1 t (Or.inr hk)
      simpa only [htr] using this
    · have := h1 t (Or.inl ht)
      simpa only [tmpReg_ge ht] using this

theorem relOn_mono {S S' : Nat → Prop} {c : Bc.Cfg w} {m : MState w} (h : RelOn S c m)
    (hs : ∀ t, S' t → S t) : RelOn S' c m :=
  ⟨fun t r htr hk => h.1 t r htr (hs t hk), h.2.1, h.2.2⟩

theorem rel_iff_relOn (c : Bc.Cfg w) (m : MState w) : Rel c m ↔ RelOn (fun _ => True) c m :=
  ⟨fun h => ⟨fun t r htr _ => h.1 t r htr, h.2.1, h.2.2⟩, fun h => ⟨fun t r htr => h.1 t r htr trivial, h.2.1, h.2.2⟩⟩

theorem sim_of_simOn {live : Nat} {d : Bc.Loc w} {c' : Bc.Cfg w} {m : MState w} {xs : List X86}
    (h : SimOn (fun _ => True) live d c' m xs) : Sim live d c' m xs := by
  obtain ⟨m', hx, hr, hf⟩ := h
  refine ⟨m', hx, relOn_mono (S' := fun t => live.testBit t = true ∨ d = .tmp t) hr ?_, hf⟩
  intro t ht
  rcases ht with ht | ht
  · exact Or.inl ⟨trivial, ht⟩
  · exact Or.inr ht

theorem resolve_reg (r : Reg) : X86Sem.resolve w (.reg r) = some (.reg r) := rfl

theorem resolve_tmpParam {t : Nat} (h : t < 2147483648) : X86Sem.resolve w (tmpParam t) = some (tmpPlace t) := by
  unfold tmpParam tmpPlace
  cases tmpReg t with
  | some r => rfl
  | none =>
    simp only [i32_nat h, X86Sem.resolve]
    have : (0 : Int) ≤ 8 * (t : Int) ∧ 8 * (t : Int) % 8 = 0 := by omega
    rw [if_pos this]
    congr 2
    omega

theorem resolve_memParam {sz : Size} (hsz : sz.bits = w) {idx : Int} (h1 : -2147483648 ≤ idx)
    (h2 : idx < 2147483648) : X86Sem.resolve w (memParam sz idx) = some (.cell idx) := by
  unfold memParam
  rw [i32_eq h1 h2]
  cases sz <;> simp only [Size.bits] at hsz <;> subst hsz <;>
    simp [memr, X86Sem.resolve, Size.bytes, Int.mul_emod_right, Int.mul_ediv_cancel_left]

theorem readPlace_tmpPlace (m : MState w) (t : Nat) : readPlace m .b64 (tmpPlace t) = some (tmpVal m t) := by
  unfold tmpPlace tmpVal
  cases tmpReg t <;> simp [readPlace]

theorem readPlace_cell (m : MState w) {sz : Size} (hsz : sz.bits = w) (i : Int) :
    readPlace m sz (.cell i) = some ((m.tape i).setWidth 64) := by
  simp [readPlace, hsz]

theorem writePlace_tmpPlace (m : MState w) (t : Nat) (v : BitVec 64) :
    writePlace m .b64 v (tmpPlace t) = some (setTmp m t v) := by
  unfold tmpPlace setTmp
  by_cases h : t < 11
  · have := treg_ne h
    simp [tmpReg_lt h, writePlace, writeReg, this, sizedWrite]
  · simp [tmpReg_ge (Nat.le_of_not_lt h), writePlace]

theorem writePlace_cell (m : MState w) {sz : Size} (hsz : sz.bits = w) (i : Int) (v : BitVec 64) :
    writePlace m sz v (.cell i) = some (m.setCell i (lo v)) := by
  simp [writePlace, hsz, lo]

@[simp] theorem sizedWrite_b64 (old v : BitVec 64) : sizedWrite .b64 old v = v := rfl

/-- `execAll` without the `fits` tests: they are a side condition on the emitted list, discharged once
(`Impl.simOn`). -/
def execAllCore : List X86 → MState w → Option (MState w)
  | [], m => some m
  | x :: xs, m => (execCore x m).bind (execAllCore xs)

theorem execAll_eq_core (xs : List X86) (m : MState w) (h : xs.all X86.fits = true) :
    execAll xs m = execAllCore xs m := by
  induction xs generalizing m with
  | nil => rfl
  | cons x xs ih =>
    simp only [List.all_cons, Bool.and_eq_true] at h
    simp only [execAll, exec, h.1, if_true, execAllCore]
    cases execCore x m with
    | none => rfl
    | some m' => exact ih m' h.2

theorem canScratch_lt {live t : Nat} (h : canScratch live t = true) : t < 11 := by
  simp [canScratch] at h; exact h.1

theorem sz_le {sz : Size} (hsz : sz.bits = w) : w ≤ 64 := by
  cases sz <;> simp [Size.bits] at hsz <;> omega

@[simp] theorem immVal_zero : immVal 0 = 0#64 := by decide
@[simp] theorem lo_zero : (lo 0#64 : BitVec w) = 0#w := by simp [lo]

def Writable (r : Reg) : Prop := r ≠ .rsp ∧ r ≠ .rbp

theorem writeReg_eq (m : MState w) (sz : Size) {r : Reg} (hr : Writable r) (v : BitVec 64) :
    writeReg m sz r v = some (m.setReg r (sizedWrite sz (m.regs r) v)) := by
  simp [writeReg, hr.1, hr.2]

/-- The operand `rm` accessed at size `sz`: it reads as `a`, and writing `v` to it gives `wr v`. The three
operands of the selected code: a cell, a temporary (in its register or its slot alike), a register. -/
def Operand (m : MState w) (sz : Size) (rm : RegMem) (a : BitVec 64) (wr : BitVec 64 → MState w) : Prop :=
  ∃ p, X86Sem.resolve w rm = some p ∧ readPlace m sz p = some a ∧ ∀ v, writePlace m sz v p = some (wr v)

theorem operand_cell {sz : Size} (hsz : sz.bits = w) {i : Int} (hi : LocOk (w := w) (.mem i))
    (m : MState w) :
    Operand m sz (memParam sz i) ((m.tape i).setWidth 64) (fun v => m.setCell i (lo v)) :=
  ⟨_, resolve_memParam hsz hi.1 hi.2, readPlace_cell m hsz i, writePlace_cell m hsz i⟩

theorem operand_tmp {t : Nat} (ht : LocOk (w := w) (.tmp t)) (m : MState w) :
    Operand m .b64 (tmpParam t) (tmpVal m t) (setTmp m t) :=
  ⟨_, resolve_tmpParam ht, readPlace_tmpPlace m t, writePlace_tmpPlace m t⟩

theorem operand_reg {r : Reg} (hr : Writable r) (m : MState w) :
    Operand m .b64 (.reg r) (m.regs r) (m.setReg r) :=
  ⟨_, rfl, by simp [readPlace], fun v => by simp [writePlace, writeReg_eq m _ hr]⟩

/-- `x` takes `m` to `m'`, up to the flags (which no instruction of the subset reads). -/
def StepTo (x : X86) (m m' : MState w) : Prop := ∃ z cf, execCore x m = some (m'.setFlags z cf)

theorem stepTo_of_eq {x : X86} {m m' : MState w} (h : execCore x m = some m') : StepTo x m m' :=
  ⟨m'.zf, m'.cf, h⟩

/-- The two-operand ALU instructions, by operation. -/
def rrm : Alu → Size → Reg → RegMem → X86
  | .add => .addRRm
  | .sub => .subRRm

def rmr : Alu → Size → RegMem → Reg → X86
  | .add => .addRmR
  | .sub => .subRmR

section
variable {m : MState w} {sz : Size} {rm : RegMem} {a : BitVec 64} {wr : BitVec 64 → MState w} {r : Reg}

theorem stepTo_movRRm (hr : Writable r) (h : Operand m sz rm a wr) :
    StepTo (.movRRm sz r rm) m (m.setReg r a) := by
  obtain ⟨p, hp, ha, -⟩ := h
  exact stepTo_of_eq (by simp [execCore, hp, ha, writeReg_eq m _ hr])

theorem stepTo_movRmR (r : Reg) (h : Operand m sz rm a wr) :
    StepTo (.movRmR sz rm r) m (wr (m.regs r)) := by
  obtain ⟨p, hp, -, hw⟩ := h
  exact stepTo_of_eq (by simp [execCore, hp, hw])

theorem stepTo_movRmImm (imm : Int) (h : Operand m sz rm a wr) :
    StepTo (.movRmImm sz rm imm) m (wr (immVal imm)) := by
  obtain ⟨p, hp, -, hw⟩ := h
  exact stepTo_of_eq (by simp [execCore, hp, hw])

theorem stepTo_movRImm64 (hr : Writable r) (imm : Int) (m : MState w) :
    StepTo (.movRImm64 r imm) m (m.setReg r (immVal imm)) :=
  stepTo_of_eq (by simp [execCore, writeReg_eq m _ hr])

theorem stepTo_rrm (op : Alu) (hr : Writable r) (h : Operand m sz rm a wr) :
    StepTo (rrm op sz r rm) m (m.setReg r (sizedWrite sz (m.regs r) (alu op sz.bits (m.regs r) a).1)) := by
  obtain ⟨p, hp, ha, -⟩ := h
  cases op <;> exact ⟨_, _, by simp [rrm, execCore, aluR, hp, ha, writeReg_eq m _ hr]; rfl⟩

theorem stepTo_rmr (op : Alu) (r : Reg) (h : Operand m sz rm a wr) :
    StepTo (rmr op sz rm r) m (wr (alu op sz.bits a (m.regs r)).1) := by
  obtain ⟨p, hp, ha, hw⟩ := h
  cases op <;> exact ⟨_, _, by simp [rmr, execCore, aluRm, hp, ha, hw]; rfl⟩

theorem stepTo_addRmImm (imm : Int) (h : Operand m sz rm a wr) :
    StepTo (.addRmImm sz rm imm) m (wr (alu .add sz.bits a (immVal imm)).1) := by
  obtain ⟨p, hp, ha, hw⟩ := h
  exact ⟨_, _, by simp [execCore, aluRm, hp, ha, hw]; rfl⟩

theorem stepTo_imul (hr : Writable r) (h : Operand m .b64 rm a wr) :
    StepTo (.imulRRm r rm) m (m.setReg r (m.regs r * a)) := by
  obtain ⟨p, hp, ha, -⟩ := h
  exact ⟨none, none, by simp [execCore, hp, ha, writeReg_eq m _ hr]⟩

theorem stepTo_imulImm (hr : Writable r) (h : Operand m .b64 rm a wr) (imm : Int) :
    StepTo (.imulRRmImm r rm imm) m (m.setReg r (a * immVal imm)) := by
  obtain ⟨p, hp, ha, -⟩ := h
  exact ⟨none, none, by simp [execCore, hp, ha, writeReg_eq m _ hr]⟩

theorem stepTo_lea1 (hr : Writable r) (r1 : Reg) (imm : Int) (m : MState w) :
    StepTo (.lea r (.mem (some r1) none 1 imm)) m (m.setReg r (m.regs r1 + immVal imm)) :=
  stepTo_of_eq (by simp [execCore, leaAddr, writeReg_eq m _ hr])

theorem stepTo_lea2 (hr : Writable r) (r0 : Reg) {r1 : Reg} (h1 : r1 ≠ .rsp) (m : MState w) :
    StepTo (.lea r (.mem (some r0) (some r1) 1 0)) m (m.setReg r (m.regs r0 + m.regs r1)) :=
  stepTo_of_eq (by simp [execCore, leaAddr, writeReg_eq m _ hr, h1])

end

def Acc (r : Reg) : Prop := r ≠ .rbx ∧ r ≠ .rsp ∧ r ≠ .rbp

def SameFrame (m m' : MState w) : Prop :=
  m'.regs .rbx = m.regs .rbx ∧ m'.regs .rbp = m.regs .rbp ∧ m'.regs .rsp = m.regs .rsp

theorem frame_setReg {r : Reg} (h : Acc r) (m : MState w) (v : BitVec 64) : SameFrame m (m.setReg r v) :=
  ⟨if_neg h.1.symm, if_neg h.2.2.symm, if_neg h.2.1.symm⟩

theorem frame_setTmp (m : MState w) (t : Nat) (v : BitVec 64) : SameFrame m (setTmp m t v) :=
  ⟨regs_setTmp m t v (by simp), regs_setTmp m t v (by simp), regs_setTmp m t v (by simp)⟩

theorem SameFrame.trans {m m' m'' : MState w} (h : SameFrame m m') (h' : SameFrame m' m'') :
    SameFrame m m'' :=
  ⟨h'.1.trans h.1, h'.2.1.trans h.2.1, h'.2.2.trans h.2.2⟩

def Runs (xs : List X86) (m : MState w) (Q : MState w → Prop) : Prop :=
  ∃ m', execAllCore xs m = some m' ∧ Q m' ∧ SameFrame m m'

theorem Runs.nil {m : MState w} {Q : MState w → Prop} (h : Q m) : Runs [] m Q :=
  ⟨m, rfl, h, rfl, rfl, rfl⟩

/-- `Q` does not see the flags, so a step up to the flags is enough. -/
theorem Runs.step {x : X86} {xs : List X86} {m m1 : MState w} {Q : MState w → Prop} (h : StepTo x m m1)
    (hf : SameFrame m m1) (k : ∀ z cf, Runs xs (m1.setFlags z cf) Q) : Runs (x :: xs) m Q := by
  obtain ⟨z, cf, he⟩ := h
  obtain ⟨m', hx, hq, hf'⟩ := k z cf
  exact ⟨m', by simp only [execAllCore, he, Option.bind_some, hx], hq, hf.trans hf'⟩

theorem execAllCore_append (xs ys : List X86) (m : MState w) :
    execAllCore (xs ++ ys) m = (execAllCore xs m).bind (execAllCore ys) := by
  induction xs generalizing m with
  | nil => rfl
  | cons x xs ih =>
    simp only [List.cons_append, execAllCore]
    cases execCore x m with
    | none => rfl
    | some m' => exact ih m'

theorem Runs.append {xs ys : List X86} {m : MState w} {P Q : MState w → Prop} (h : Runs xs m P)
    (k : ∀ m', P m' → Runs ys m' Q) : Runs (xs ++ ys) m Q := by
  obtain ⟨m1, h1, hp, f1⟩ := h
  obtain ⟨m', hx, hq, hf'⟩ := k m1 hp
  exact ⟨m', by rw [execAllCore_append, h1]; exact hx, hq, f1.trans hf'⟩

theorem Runs.mono {xs : List X86} {m : MState w} {P Q : MState w → Prop} (h : Runs xs m P)
    (k : ∀ m', P m' → Q m') : Runs xs m Q := by
  obtain ⟨m', hx, hp, hf⟩ := h
  exact ⟨m', hx, k m' hp, hf⟩

section
variable {S S' : Nat → Prop} {c : Bc.Cfg w} {m : MState w}

theorem relOn_setReg {r : Reg} (h : RelOn S c m) (hs : ∀ t, S' t → S t ∧ tmpReg t ≠ some r)
    (v : BitVec 64) : RelOn S' c (m.setReg r v) := by
  refine ⟨fun t r' htr hk => ?_, h.2.1, h.2.2⟩
  have hne : r' ≠ r := fun e => (hs t hk).2 (e ▸ htr)
  rw [regs_setReg, if_neg hne]
  exact h.1 t r' htr (hs t hk).1

/- Writing the destination `d`, a cell or a temporary; afterwards `d` agrees as well (`d = .tmp t`). The case
without a write, the accumulator being the destination's register, is `Holds.relOn_dst`. -/

theorem relOn_setCell (h : RelOn S c m) (i : Int) (x : BitVec w) :
    RelOn (fun t => S t ∨ Bc.Loc.mem (w := w) i = .tmp t) { c with st := c.st.wr i x } (m.setCell i x) := by
  refine ⟨fun t r htr hk => h.1 t r htr (hk.resolve_right nofun), h.2.1, fun o => ?_⟩
  rw [tape_setCell, C01.rd_wr, h.2.2 o]

theorem relOn_setTmp (h : RelOn S c m) (t : Nat) (v : BitVec 64) :
    RelOn (fun t' => S t' ∨ Bc.Loc.tmp (w := w) t = .tmp t') { c with temps := Bc.tset c.temps t (lo v) }
      (setTmp m t v) := by
  rw [relOn_iff] at h ⊢
  refine ⟨fun t' hk => ?_, fun o => by rw [tape_setTmp]; exact h.2 o⟩
  rw [tmpVal_setTmp, C11.tget_tset]
  split
  · rfl
  · rename_i hne
    exact h.1 t' (hk.imp_right fun hk => hk.resolve_right fun e => hne (Bc.Loc.tmp.inj e).symm)

theorem relOn_post {live : Nat} {d : Bc.Loc w} (h : RelOn (fun t => S t ∨ d = .tmp t) c m) :
    RelOn (Post S live d) c m :=
  relOn_mono h fun _ h => h.imp_left And.left

theorem rel_tmpVal (h : RelOn S c m) {t : Nat} (hs : SrcOk (w := w) S (.tmp t)) :
    lo (tmpVal m t) = Bc.tget c.temps t := by
  rw [relOn_iff] at h
  refine h.1 t ?_
  by_cases ht : t < 11
  · exact Or.inr (hs ht)
  · exact Or.inl (by omega)

end

/-! ### Accumulators

Every arm of the four selectors loads one operand into a register (the accumulator), combines it with
the other operand there, and stores the register to the destination; each of the three steps may be
missing. -/

def Holds (S : Nat → Prop) (c : Bc.Cfg w) (r : Reg) (x : BitVec w) (m : MState w) : Prop :=
  RelOn S c m ∧ lo (m.regs r) = x

/-- `r` can be the accumulator of an instruction with live bitmap `live` and destination `d` when the
register temporaries in `S` agree: writing it keeps those in `S'` intact, and `S'` still has every
temporary that must agree afterwards, except the destination. -/
structure AccFor (S : Nat → Prop) (live : Nat) (d : Bc.Loc w) (S' : Nat → Prop) (r : Reg) : Prop where
  acc : Acc r
  sub : ∀ t, S' t → S t ∧ tmpReg t ≠ some r
  post : ∀ t, Post S live d t → S' t ∨ d = .tmp t

section
variable {S S' : Nat → Prop} {live : Nat} {d : Bc.Loc w} {c : Bc.Cfg w} {m : MState w} {r : Reg}

/-- A scratch register is no temporary. -/
theorem tmp_ne_scr {t : Nat} (h : tmpReg t = some r) : r ≠ scr0 ∧ r ≠ scr1 := by
  obtain ⟨ht, rfl⟩ := tmpReg_eq_some.1 h
  exact ⟨(treg_ne ht).1, (treg_ne ht).2.1⟩

theorem acc_tmp {t : Nat} (h : tmpReg t = some r) : Acc r := by
  obtain ⟨ht, rfl⟩ := tmpReg_eq_some.1 h
  exact (treg_ne ht).2.2

theorem tmpReg_inj {t t' : Nat} (h : tmpReg t = some r) (h' : tmpReg t' = some r) : t = t' := by
  obtain ⟨ht, e⟩ := tmpReg_eq_some.1 h
  obtain ⟨ht', e'⟩ := tmpReg_eq_some.1 h'
  exact (treg_inj ht ht').1 (e.symm.trans e')

theorem accFor_scr0 : AccFor S live d S scr0 :=
  ⟨by simp [Acc, scr0], fun t h => ⟨h, fun e => (tmp_ne_scr e).1 rfl⟩, fun _ h => h.imp_left And.left⟩

theorem accFor_scr1 : AccFor S live d S scr1 :=
  ⟨by simp [Acc, scr1], fun t h => ⟨h, fun e => (tmp_ne_scr e).2 rfl⟩, fun _ h => h.imp_left And.left⟩

/-- The register of the destination. -/
theorem accFor_dst {t0 : Nat} (h : tmpReg t0 = some r) :
    AccFor (w := w) S live (.tmp t0) (fun t => S t ∧ t ≠ t0) r := by
  refine ⟨acc_tmp h, fun t ht => ⟨ht.1, fun h' => ht.2 (tmpReg_inj h' h)⟩, fun t ht => ?_⟩
  by_cases e : t = t0
  · exact Or.inr (e ▸ rfl)
  · exact ht.imp_left fun ht => ⟨ht.1, e⟩

/-- The register of a temporary that is not live (`can_use_as_scratch`). -/
theorem accFor_dead {ts : Nat} (h : tmpReg ts = some r) (hs : canScratch live ts = true) :
    AccFor S live d (fun t => S t ∧ t ≠ ts) r := by
  refine ⟨acc_tmp h, fun t ht => ⟨ht.1, fun h' => ht.2 (tmpReg_inj h' h)⟩, fun t ht => ?_⟩
  refine ht.imp_left fun ht => ⟨ht.1, fun e => ?_⟩
  subst e
  simp [canScratch, ht.2] at hs

theorem runs_setReg {x : X86} {v : BitVec 64} {a : BitVec w} (hs : StepTo x m (m.setReg r v))
    (hacc : Acc r) (hsub : ∀ t, S' t → S t ∧ tmpReg t ≠ some r) (hrel : RelOn S c m) (hv : lo v = a) :
    Runs [x] m (Holds S' c r a) :=
  .step hs (frame_setReg hacc m v) fun _ _ =>
    .nil ⟨relOn_setReg hrel hsub v, (congrArg lo (if_pos rfl)).trans hv⟩

end

inductive Loads (sz : Size) (r : Reg) : Bc.Loc w → X86 → Prop
  | mem (i : Int) : Loads sz r (.mem i) (load sz i r)
  | tmp (t : Nat) : Loads sz r (.tmp t) (mov64 r (tmpParam t))
  | imm (v : BitVec w) : Loads sz r (.imm v) (.movRImm64 r (immI64 v))

/-- `x` is `r := f r b`; an immediate `b` is one the instruction can hold. -/
inductive Combines (sz : Size) (r : Reg) : (BitVec w → BitVec w → BitVec w) → Bc.Loc w → X86 → Prop
  | mem (op : Alu) (i : Int) : Combines sz r (aluF op) (.mem i) (rrm op sz r (memParam sz i))
  | tmp (op : Alu) (t : Nat) : Combines sz r (aluF op) (.tmp t) (rrm op .b64 r (tmpParam t))
  | addImm (v : BitVec w) (hv : fitsI32 (immI64 v) = true) :
      Combines sz r (· + ·) (.imm v) (addImm64 (.reg r) (immI64 v))
  | mulTmp (t : Nat) : Combines sz r (· * ·) (.tmp t) (.imulRRm r (tmpParam t))
  | mulImm (v : BitVec w) (hv : fitsI32 (immI64 v) = true) :
      Combines sz r (· * ·) (.imm v) (.imulRRmImm r (.reg r) (immI64 v))

section
variable {sz : Size} (hsz : sz.bits = w) {S S' : Nat → Prop} {live : Nat} {d a b : Bc.Loc w}
  {c : Bc.Cfg w} {m : MState w} {r : Reg} {x : X86}

include hsz

theorem Loads.step (hl : Loads sz r a x) (ha : LocOk a) (hsa : SrcOk S a) (hr : Writable r)
    (hrel : RelOn S c m) : ∃ v, StepTo x m (m.setReg r v) ∧ lo v = rv c a := by
  have hw := sz_le hsz
  cases hl with
  | mem i => exact ⟨_, stepTo_movRRm hr (operand_cell hsz ha m), (lo_ext hw _).trans (hrel.2.2 i)⟩
  | tmp t => exact ⟨_, stepTo_movRRm hr (operand_tmp ha m), rel_tmpVal hrel hsa⟩
  | imm v => exact ⟨_, stepTo_movRImm64 hr _ m, lo_immI64 hw v⟩

/-- `hbv`: a temporary operand reads as its value (it may be the temporary of `r` itself, as long as `r`
still holds it). -/
theorem Combines.runs {f : BitVec w → BitVec w → BitVec w} {y : BitVec w} (ho : Combines sz r f b x)
    (hb : LocOk b) (hbv : ∀ t, b = .tmp t → lo (tmpVal m t) = Bc.tget c.temps t) (hacc : Acc r)
    (hav : ∀ t, S t → tmpReg t ≠ some r) (h : Holds S c r y m) :
    Runs [x] m (Holds S c r (f y (rv c b))) := by
  have hw := sz_le hsz
  have hn : w ≤ sz.bits := hsz ▸ Nat.le_refl _
  have hn' : sz.bits ≤ 64 := hsz ▸ hw
  obtain ⟨hrel, hy⟩ := h
  have hsub : ∀ t, S t → S t ∧ tmpReg t ≠ some r := fun t h => ⟨h, hav t h⟩
  cases ho with
  | mem op i =>
    refine runs_setReg (stepTo_rrm op hacc.2 (operand_cell hsz hb m)) hacc hsub hrel ?_
    rw [lo_sizedWrite hsz, lo_alu op hn hn', hy, lo_ext hw, hrel.2.2 i]; rfl
  | tmp op t =>
    refine runs_setReg (stepTo_rrm op hacc.2 (operand_tmp hb m)) hacc hsub hrel ?_
    rw [sizedWrite_b64, lo_alu op (n := Size.b64.bits) hw (Nat.le_refl _), hy, hbv t rfl]; rfl
  | addImm v _ =>
    refine runs_setReg (stepTo_addRmImm _ (operand_reg hacc.2 m)) hacc hsub hrel ?_
    rw [lo_alu .add (n := Size.b64.bits) hw (Nat.le_refl _), hy, lo_immI64 hw]; rfl
  | mulTmp t =>
    refine runs_setReg (stepTo_imul hacc.2 (operand_tmp hb m)) hacc hsub hrel ?_
    rw [lo_mul hw, hy, hbv t rfl]; rfl
  | mulImm v _ =>
    refine runs_setReg (stepTo_imulImm hacc.2 (operand_reg hacc.2 m) _) hacc hsub hrel ?_
    rw [lo_mul hw, hy, lo_immI64 hw]; rfl

/-- Size and `r/m` operand under which the selected code accesses a destination. -/
def dstSz (sz : Size) : Bc.Loc w → Size
  | .tmp _ => .b64
  | _ => sz

def dstRm (sz : Size) : Bc.Loc w → RegMem
  | .tmp t => tmpParam t
  | .mem i => memParam sz i
  | _ => .reg scr0

omit hsz in
theorem truncImm_dst (hsz : sz.bits = w) (d : Bc.Loc w) (v : BitVec w) :
    truncImm (dstSz sz d) (immI64 v) = immI64 v := by
  cases d <;> first | exact truncImm_immI64 hsz v | rfl

/-- The operand of a destination: what it reads as, and that writing `V` to it performs `d := lo V`. -/
theorem operand_dst {v : BitVec w} {c' : Bc.Cfg w} (hd : LocOk d) (hrel : RelOn S c m)
    (hc : Bc.writeLoc c v d = some c') :
    ∃ a wr, Operand m (dstSz sz d) (dstRm sz d) a wr ∧ w ≤ (dstSz sz d).bits ∧ (dstSz sz d).bits ≤ 64 ∧
      (SrcOk S d → lo a = rv c d) ∧
      ∀ V, lo V = v → RelOn (fun t => S t ∨ d = .tmp t) c' (wr V) ∧ SameFrame m (wr V) := by
  have hw := sz_le hsz
  cases d with
  | mem i =>
    cases hc
    refine ⟨_, _, operand_cell hsz hd m, hsz ▸ Nat.le_refl _, hsz ▸ hw,
      fun _ => (lo_ext hw _).trans (hrel.2.2 i), fun V hV => ?_⟩
    subst hV
    exact ⟨relOn_setCell hrel i _, rfl, rfl, rfl⟩
  | tmp t =>
    cases hc
    refine ⟨_, _, operand_tmp hd m, hw, Nat.le_refl _, rel_tmpVal hrel, fun V hV => ?_⟩
    subst hV
    exact ⟨relOn_setTmp hrel t V, frame_setTmp m t V⟩
  | _ => cases hc

theorem runs_st {v : BitVec w} {c' : Bc.Cfg w} (hd : LocOk d) (h : Holds S c r v m)
    (hc : Bc.writeLoc c v d = some c') :
    Runs [.movRmR (dstSz sz d) (dstRm sz d) r] m (RelOn (fun t => S t ∨ d = .tmp t) c') := by
  obtain ⟨a, wr, ho, -, -, -, hwr⟩ := operand_dst hsz hd h.1 hc
  exact .step (stepTo_movRmR r ho) (hwr _ h.2).2 fun _ _ => .nil (hwr _ h.2).1

theorem runs_accum (op : Alu) {y : BitVec w} {c' : Bc.Cfg w} (hd : LocOk d) (hsd : SrcOk S d)
    (h : Holds S c r y m) (hc : Bc.writeLoc c (aluF op (rv c d) y) d = some c') :
    Runs [rmr op (dstSz sz d) (dstRm sz d) r] m (RelOn (fun t => S t ∨ d = .tmp t) c') := by
  obtain ⟨a, wr, ho, hn, hn', ha, hwr⟩ := operand_dst hsz hd h.1 hc
  have hV : lo (alu op (dstSz sz d).bits a (m.regs r)).1 = aluF op (rv c d) y := by
    rw [lo_alu op hn hn', ha hsd, h.2]
  exact .step (stepTo_rmr op r ho) (hwr _ hV).2 fun _ _ => .nil (hwr _ hV).1

end

/-- The destination's register holds the result: no store is needed. -/
theorem Holds.relOn_dst {S : Nat → Prop} {c c' : Bc.Cfg w} {m : MState w} {r : Reg} {v : BitVec w}
    {t0 : Nat} (h : Holds S c r v m) (ht : tmpReg t0 = some r)
    (hc : Bc.writeLoc c v (.tmp t0) = some c') :
    RelOn (fun t => S t ∨ Bc.Loc.tmp (w := w) t0 = .tmp t) c' m := by
  cases hc
  have hlt := (tmpReg_eq_some.1 ht).1
  refine ⟨fun t r' htr hk => ?_, fun t ht' => ?_, h.1.2.2⟩
  · rw [C11.tget_tset]
    split
    · rename_i e; subst e; rw [ht] at htr; cases htr; exact h.2
    · rename_i hne
      exact h.1.1 t r' htr (hk.resolve_right fun e => hne (Bc.Loc.tmp.inj e).symm)
  · rw [C11.tget_tset, if_neg (by omega)]; exact h.1.2.1 t ht'

theorem holds_src {S S' : Nat → Prop} {c : Bc.Cfg w} {m : MState w} {r : Reg} {t : Nat}
    (h : RelOn S c m) (ht : tmpReg t = some r) (hs : SrcOk (w := w) S (.tmp t))
    (hsub : ∀ t, S' t → S t) : Holds S' c r (rv c (.tmp t)) m :=
  ⟨relOn_mono h hsub, h.1 t r ht (hs (tmpReg_eq_some.1 ht).1)⟩

def Impl (S : Nat → Prop) (live : Nat) (c : Bc.Cfg w) (d : Bc.Loc w) (v : BitVec w) (xs : List X86) :
    Prop :=
  ∀ ⦃m : MState w⦄, RelOn S c m → ∀ ⦃c'⦄, Bc.writeLoc c v d = some c' →
    Runs xs m (RelOn (Post S live d) c')

theorem Impl.simOn {S : Nat → Prop} {live : Nat} {c c' : Bc.Cfg w} {d : Bc.Loc w} {v : BitVec w}
    {xs : List X86} {m : MState w} (h : Impl S live c d v xs) (hfit : xs.all X86.fits = true)
    (hrel : RelOn S c m) (hc : Bc.writeLoc c v d = some c') : SimOn S live d c' m xs := by
  obtain ⟨m', hx, hr, hf⟩ := h hrel hc
  exact ⟨m', (execAll_eq_core _ _ hfit).trans hx, hr, hf⟩

structure Produces (sz : Size) (S : Nat → Prop) (live : Nat) (d : Bc.Loc w) (S' : Nat → Prop)
    (c : Bc.Cfg w) (r : Reg) (v : BitVec w) (xs : List X86) : Prop where
  bits : sz.bits = w
  acc : AccFor S live d S' r
  runs : ∀ ⦃m : MState w⦄, RelOn S c m → Runs xs m (Holds S' c r v)

theorem tmpParam_reg {t : Nat} {r : Reg} (h : tmpReg t = some r) : tmpParam t = .reg r := by
  simp only [tmpParam, h]

section
variable {sz : Size} (hsz : sz.bits = w) {S S' : Nat → Prop} {live : Nat} {d a b : Bc.Loc w}
  {c : Bc.Cfg w} {r : Reg} {x : X86} {xs : List X86} {f : BitVec w → BitVec w → BitVec w}
  {y v : BitVec w}

include hsz

/-- The first operand is a temporary in a register that may be overwritten: nothing to load. -/
theorem prod_src (hA : AccFor S live d S' r) {t : Nat} (ht : tmpReg t = some r)
    (hs : SrcOk (w := w) S (.tmp t)) : Produces sz S live d S' c r (rv c (.tmp t)) [] :=
  ⟨hsz, hA, fun _ hrel => .nil (holds_src hrel ht hs fun t h => (hA.sub t h).1)⟩

omit hsz in
/-- The second factor goes through a scratch register `r2`. -/
theorem Produces.mulVia {r2 : Reg} (hp : Produces sz S live d S' c r y xs) (hl : Loads sz r2 b x)
    (h2 : r2 = scr0 ∨ r2 = scr1) (hne : r ≠ r2) (hb : LocOk b) (hsb : SrcOk S' b) :
    Produces sz S live d S' c r (y * rv c b) (xs ++ [x, .imulRRm r (.reg r2)]) := by
  have hA2 : AccFor S' live d S' r2 := by rcases h2 with rfl | rfl; exact accFor_scr0; exact accFor_scr1
  refine ⟨hp.bits, hp.acc, fun _ hrel => (hp.runs hrel).append fun m h => ?_⟩
  obtain ⟨v, hs, hv⟩ := hl.step hp.bits hb hsb hA2.acc.2 h.1
  refine .step hs (frame_setReg hA2.acc m v) fun z cf =>
    .step (stepTo_imul hp.acc.acc.2 (operand_reg hA2.acc.2 _)) (frame_setReg hp.acc.acc _ _) fun _ _ => .nil
      ⟨relOn_setReg (S := S') (relOn_setReg h.1 hA2.sub v) (fun t h => ⟨h, (hp.acc.sub t h).2⟩) _, ?_⟩
  simp only [regs_setReg, regs_setFlags, if_pos, if_neg hne, lo_mul (sz_le hp.bits), h.2, hv]

end

/-! ### A tactic for single leaves

`c03_arm h` checks one leaf of a selector by symbolic execution with `simp`. No proof uses it: the arms of the
selectors are derivations (`C03Sel`); the lemma names in its `simp` sets are those it was written against. -/

/-- Case split on the equality of two temporaries / offsets; the equation is substituted, the
disequation kept in both orientations. -/
macro "teq " a:term:max b:term:max : tactic =>
  `(tactic| by_cases heq : $a = $b <;>
      first
      | subst heq
      | have := fun e : $b = $a => heq e.symm)

/-- Symbolic execution of the emitted instruction list. -/
macro "c03_run" : tactic =>
  `(tactic| simp [execAllCore, execCore, aluRm, aluR, leaAddr, load, storeReg, storeI32, addReg, addToReg,
      addI32, subReg, subToReg, mov64, st64, add64, sub64, addImm64, scr0, scr1, resolve_memParam,
      resolve_tmpParam, resolve_reg, readPlace_tmpPlace, readPlace_reg, readPlace_cell, writeReg_rax,
      writeReg_rcx, writeReg_treg, writePlace_tmpPlace, writePlace_reg, writePlace_cell,
      regs_treg, setReg_treg, tmpVal_setTmp, tmpVal_setReg_rax, tmpVal_setReg_rcx, regs_setTmp,
      truncImm_immI64, *])

macro "c03_leaf" : tactic =>
  `(tactic| ((try simp_all [lo_alu_add, lo_alu_sub, lo_add, lo_mul, lo_ext, lo_immI64, lo_sizedWrite,
      canScratch]) <;> first | done | ac_rfl | omega))

macro "c03_tmp" : tactic =>
  `(tactic| (
    simp [tmpVal_setTmp, tmpVal_setReg_rax, tmpVal_setReg_rcx, C11.tget_tset, rv, Size.bits]
    try ((repeat' split) <;> c03_leaf)))

/-- The final state is related to the bytecode result. -/
macro "c03_fin" : tactic =>
  `(tactic| (
    rw [relOn_post_iff]
    refine ⟨fun t hk => ?_, fun t hk hl => ?_, fun t hk => ?_, fun o => ?_⟩
    · c03_tmp
    · c03_tmp
    · cases hk <;> c03_tmp
    · simp [C01.rd_wr, rv, Size.bits, *]
      try ((repeat' split) <;> c03_leaf)))

/-- One leaf of the case analysis of a selector: `h : emit… = some xs` with all tests decided. -/
macro "c03_arm " h:ident : tactic =>
  `(tactic| (simp [emitAdd, emitCopy, emitSub, emitMul, *] at $h:ident <;> (subst $h:ident; c03_run; c03_fin)))

end C03
end Hpbf
