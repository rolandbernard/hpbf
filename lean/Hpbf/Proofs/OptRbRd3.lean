/-
READ-BEFORE-WRITE footprint as a structural pass (`RdAll`: `OptRbFootRd.lean`): the state invariant `RdSt` (the
code emitted so far, seen from an empty start, with its analysis nodes), the step relation `RStep`, trace lemmas for
a non-moving `loop` / `ifnz`, and the non-loop arms of `rebuildInstr`.
-/
import Hpbf.Proofs.OptRbFoot2
import Hpbf.Proofs.OptRbShape2

namespace Hpbf
namespace OptProof
open Opt OptSem Ir

variable {w : Nat}

theorem bad_once_weaken {c sh : Int} {I : List (Instr w)} {once : Bool} {rest : List (Instr w)} {σ : State w}
    (h : Bad (.loop c sh I false :: rest) σ) : Bad (.loop c sh I once :: rest) σ := by
  cases h with
  | loopSkip hz hb => exact .loopSkip hz hb
  | loopIter hnz hex hb => exact .loopIter hnz hex hb
  | loopIn hnz hb => exact .loopIn hnz hb

/-- A non-moving loop exposes nothing that neither its test nor its body (at any head) exposes. -/
theorem not_exposes_loop_aux {a p c : Int} {I : List (Instr w)} (hc : p + c ≠ a)
    (hbody : ∀ σ : State w, σ.ptr = p → ¬ Bad I σ → ¬ Exposes a I σ) (hns : nsL I) {once : Bool}
    {l : List (Instr w)} {τ : State w} (h : Exposes a l τ) :
    l = [Instr.loop c 0 I once] → τ.ptr = p → ¬ Bad [Instr.loop c 0 I false] τ → False := by
  induction h with
  | outHere _ => intro hl; cases hl
  | outNext _ _ _ => intro hl; cases hl
  | inNext _ _ _ _ => intro hl; cases hl
  | calcHere _ => intro hl; cases hl
  | calcNext _ _ _ => intro hl; cases hl
  | loopHere hp' =>
    intro hl hp _
    simp only [List.cons.injEq, Instr.loop.injEq] at hl
    obtain ⟨⟨rfl, _, _, _⟩, _⟩ := hl
    rw [hp] at hp'
    exact hc hp'
  | loopSkip _ hrest _ =>
    intro hl _ _
    simp only [List.cons.injEq, Instr.loop.injEq] at hl
    obtain ⟨_, rfl⟩ := hl
    cases hrest
  | loopIn hnz hb _ =>
    intro hl hp hnb
    simp only [List.cons.injEq, Instr.loop.injEq] at hl
    obtain ⟨⟨rfl, rfl, rfl, _⟩, rfl⟩ := hl
    exact hbody _ hp (fun hb' => hnb (.loopIn hnz hb')) hb
  | @loopIter c' sh' body' once' rest' σ σ1 hnz ht _ ih =>
    intro hl hp hnb
    simp only [List.cons.injEq, Instr.loop.injEq] at hl
    obtain ⟨⟨rfl, rfl, rfl, rfl⟩, rfl⟩ := hl
    refine ih rfl ?_ ?_
    · show σ1.ptr + 0 = p
      rw [Int.add_zero, thru_ptr ht hns, hp]
    · exact fun hb' => hnb (.loopIter hnz (thru_exec ht) hb')
  | ifHere _ => intro hl; cases hl
  | ifSkip _ _ _ => intro hl; cases hl
  | ifIn _ _ _ => intro hl; cases hl
  | ifIter _ _ _ _ => intro hl; cases hl

theorem not_exposes_loop {a c : Int} {I : List (Instr w)} {once : Bool} {τ : State w}
    (hc : τ.ptr + c ≠ a)
    (hbody : ∀ σ : State w, σ.ptr = τ.ptr → ¬ Bad I σ → ¬ Exposes a I σ) (hns : nsL I)
    (hnb : ¬ Bad [Instr.loop c 0 I once] τ) : ¬ Exposes a [Instr.loop c 0 I once] τ :=
  fun h => not_exposes_loop_aux hc hbody hns h rfl rfl (fun hb => hnb (bad_once_weaken hb))

theorem not_exposes_ifnz {a c : Int} {I : List (Instr w)} {τ : State w}
    (hc : τ.ptr + c ≠ a) (hbody : ¬ Bad I τ → ¬ Exposes a I τ)
    (hnb : ¬ Bad [Instr.ifnz c 0 I] τ) : ¬ Exposes a [Instr.ifnz c 0 I] τ := by
  intro h
  cases h with
  | ifHere hp => exact hc hp
  | ifSkip _ hrest => cases hrest
  | ifIn hnz hb => exact hbody (fun hb' => hnb (.ifIn hnz hb')) hb
  | ifIter _ _ hrest => cases hrest

theorem thru_loop_cond {a c sh : Int} {I : List (Instr w)} {once : Bool} {rest : List (Instr w)}
    {τ τ1 : State w} (h : Thru a (.loop c sh I once :: rest) τ τ1) : τ.ptr + c ≠ a := by
  cases h with
  | loopSkip _ hp _ => exact hp
  | loopIter _ hp _ _ => exact hp

theorem thru_ifnz_cond {a c sh : Int} {I : List (Instr w)} {rest : List (Instr w)}
    {τ τ1 : State w} (h : Thru a (.ifnz c sh I :: rest) τ τ1) : τ.ptr + c ≠ a := by
  cases h with
  | ifSkip _ hp _ => exact hp
  | ifIter _ hp _ _ => exact hp

theorem not_thru_loop_once {a c sh : Int} {I : List (Instr w)} {rest : List (Instr w)} {τ τ1 : State w}
    (hnb : ¬ Bad (.loop c sh I true :: rest) τ) (hbody : ∀ τ', ¬ Thru a I τ τ') :
    ¬ Thru a (.loop c sh I true :: rest) τ τ1 := by
  intro h
  cases h with
  | loopSkip hz _ _ => exact hnb (.here hz)
  | loopIter _ _ hb _ => exact hbody _ hb

/-- Of the start state of `all` only `written = []` matters (`RdSt.rd`, `RdSt.wr`; `RdSt.footStepV` for any fresh
start). -/
structure RdSt (s : Rebuild w) : Prop where
  all : RdAll (Rebuild.new 0 none .zero none) s s.insts
  ok : RdOkL s.insts s.subAnal

theorem not_defW_new (sh : Int) (c : Option Int) (p : OptParent) (an : Option (OptAnalysis w)) (v : Int) :
    ¬ DefW (Rebuild.new sh c p an : Rebuild w) v := not_defW_of_none rfl

structure RStep (s s' : Rebuild w) : Prop where
  ext : ∃ newI newA, s'.insts = s.insts ++ newI ∧ s'.subAnal = s.subAnal ++ newA ∧ RdOkL newI newA ∧
    RdAll s s' newI

theorem RStep.refl (s : Rebuild w) : RStep s s :=
  ⟨[], [], by simp, by simp, rdOkL_nil, RdAll.refl s⟩

theorem RStep.trans {a b c : Rebuild w} (h1 : RStep a b) (h2 : RStep b c) : RStep a c := by
  obtain ⟨i1, a1, e1, f1, g1, r1⟩ := h1.ext
  obtain ⟨i2, a2, e2, f2, g2, r2⟩ := h2.ext
  exact ⟨i1 ++ i2, a1 ++ a2, by rw [e2, e1, List.append_assoc], by rw [f2, f1, List.append_assoc],
    rdOkL_append g1 g2, r1.trans r2⟩

theorem RStep.rdSt {s s' : Rebuild w} (h : RStep s s') (hs : RdSt s) : RdSt s' := by
  obtain ⟨i1, a1, e1, f1, g1, r1⟩ := h.ext
  refine ⟨?_, by rw [e1, f1]; exact rdOkL_append hs.ok g1⟩
  rw [e1]
  exact hs.all.trans r1

theorem RStep.of_same {s s' : Rebuild w} (hi : s'.insts = s.insts) (ha : s'.subAnal = s.subAnal)
    (hw : s'.written = s.written) (hr : ∀ v, v ∈ s.reads → v ∈ s'.reads) (hss : s'.subShift = s.subShift) :
    RStep s s' :=
  ⟨[], [], by rw [hi]; simp, by rw [ha]; simp, rdOkL_nil, RdAll.of_same hw hr hss⟩

theorem RStep.of_sameButPend {s s' : Rebuild w} (h : SameButPend s s') : RStep s s' :=
  RStep.of_same h.insts h.subAnal h.written (fun v hv => by rw [h.reads]; exact hv)
    h.subShift

theorem RdSt.of_same {s s' : Rebuild w} (h : RdSt s) (hi : s'.insts = s.insts) (ha : s'.subAnal = s.subAnal)
    (hw : s'.written = s.written) (hr : ∀ v, v ∈ s.reads → v ∈ s'.reads) (hss : s'.subShift = s.subShift) :
    RdSt s' := (RStep.of_same hi ha hw hr hss).rdSt h

theorem rdSt_new (shift : Int) (cond : Option Int) (par : OptParent) (anal : Option (OptAnalysis w)) :
    RdSt (Rebuild.new shift cond par anal) :=
  ⟨RdAll.of_same rfl (fun _ h => h) rfl, rdOkL_nil⟩

theorem RdSt.rd {s : Rebuild w} (h : RdSt s) (hs : s.subShift = false) {σ : State w} (hnb : ¬ Bad s.insts σ)
    {v : Int} (hv : v ∉ s.reads) : ¬ Exposes (σ.ptr + v) s.insts σ :=
  h.all.rd hs σ hnb v hv (not_defW_new _ _ _ _ v)

theorem RdSt.wr {s : Rebuild w} (h : RdSt s) (hs : s.subShift = false) {σ σ1 : State w} (hnb : ¬ Bad s.insts σ)
    {v : Int} (hv : DefW s v) : ¬ Thru (σ.ptr + v) s.insts σ σ1 :=
  h.all.wr hs σ σ1 hnb v hv (not_defW_new _ _ _ _ v)

theorem RdSt.footStepV {sub0 sub : Rebuild w} (h : RdSt sub) (hw0 : sub0.written = []) (hr0 : sub0.reads = [])
    (hs0 : sub0.subShift = false) : FootStepV (fun σ => ¬ Bad sub.insts σ) sub0 sub sub.insts :=
  (h.all.congr hw0.symm (fun v hv => by rw [hr0] at hv; cases hv) hs0.symm rfl (fun _ h => h) rfl).footStepV
    (fun _ h => h)

theorem EmitFoot.rstep {ps : List (Rebuild w)} {s s' : Rebuild w} {comps : List (List (Int × Expr w))}
    (r : EmitRes ps s s' comps) (f : EmitFoot s s' comps) : RStep s s' :=
  ⟨comps.map Instr.calc, [], r.insts, by rw [r.subAnal]; simp, rdOkL_nonblocks (noBlocks_calcs comps),
    RdAll.of_rdC f.rd f.mono⟩

theorem performAll_rstep {s : Rebuild w} {ps : List (Rebuild w)} {shift : Int} {calcs : List (Int × Expr w)}
    {os os' : Orders} {s' : Rebuild w}
    (hr : (performAll s ps shift calcs).run os = .ok (s', os')) (hwf : Wf s) : RStep s s' := by
  obtain ⟨comps, _, _, _, _, hi, _, f⟩ := performAll_foot hr hwf
  have hn := performAll_nstep hr hwf
  exact ⟨comps.map Instr.calc, [], hi, by rw [hn.subAnal]; simp, rdOkL_nonblocks (noBlocks_calcs comps),
    RdAll.of_rdC f.rd f.mono⟩

theorem rebuildInstr_straight_rstep {ps : List (Rebuild w)} {s : Rebuild w} (hwf : Wf s) {i : Instr w}
    (hi : C01Dse.isBlock i = false) {os os' : Orders} {s' : Rebuild w}
    (hr : (rebuildInstr ps s i).run os = .ok (s', os')) : RStep s s' := by
  obtain ⟨new, e, f⟩ := rebuildInstr_straight_all hwf hi hr
  exact ⟨new, [], e, by rw [(rebuildInstr_nstep hr hwf hi).subAnal]; simp, rdOkL_nonblocks f.noBlocks, f.rd⟩

end OptProof
end Hpbf
