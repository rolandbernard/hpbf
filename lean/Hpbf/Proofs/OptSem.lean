/-
Shared vocabulary for the proofs about the optimizer model `Hpbf/Opt.lean`.

Memories are total functions `Int → BitVec w` (cell contents by offset from the origin of the block being
rebuilt).  The notions:

* `Mem.par pend m`      – ONE simultaneous assignment: every key of the association list `pend` receives the
                          value of its expression evaluated in the OLD memory `m`; other cells keep their value.
                          (`Ir.doCalc` on a `calc` instruction whose targets are distinct is exactly this; with
                          duplicate targets the LAST assignment wins in `Ir.doCalc`, while `mGet` finds the
                          FIRST – the proofs assume `Nodup` targets where it matters.)
* `Mem.seq groups m`    – a sequence of simultaneous assignments, left to right (what a list of emitted `calc`
                          instructions does).
* `Mem.iter pend n m`   – the simultaneous assignment `pend` repeated `n` times (what `n` iterations of a loop
                          body consisting of one such assignment do).
-/
import Hpbf.Opt
import Hpbf.Proofs.C15Basic

namespace Hpbf
namespace OptSem

open Opt

variable {w : Nat}

abbrev Mem (w : Nat) := Int → BitVec w

def ev (e : Expr w) (m : Mem w) : BitVec w := Expr.evaluate e m

def Mem.par (pend : List (Int × Expr w)) (m : Mem w) : Mem w :=
  fun v => match mGet pend v with
    | some e => ev e m
    | none => m v

def Mem.seq : List (List (Int × Expr w)) → Mem w → Mem w
  | [], m => m
  | g :: gs, m => Mem.seq gs (Mem.par g m)

def Mem.iter (pend : List (Int × Expr w)) : Nat → Mem w → Mem w
  | 0, m => m
  | n + 1, m => Mem.iter pend n (Mem.par pend m)

/-- The memory a state denotes, relative to an origin `o` (absolute tape address of offset 0). -/
def memOf (s : State w) (o : Int) : Mem w := fun v => s.tape.get (o + v)

def targets (g : List (Int × Expr w)) : List Int := g.map (·.1)

@[simp] theorem par_nil (m : Mem w) : Mem.par ([] : List (Int × Expr w)) m = m := by
  funext v; simp [Mem.par, mGet]

@[simp] theorem seq_nil (m : Mem w) : Mem.seq ([] : List (List (Int × Expr w))) m = m := rfl

@[simp] theorem seq_cons (g : List (Int × Expr w)) (gs : List (List (Int × Expr w))) (m : Mem w) :
    Mem.seq (g :: gs) m = Mem.seq gs (Mem.par g m) := rfl

theorem seq_append (a b : List (List (Int × Expr w))) (m : Mem w) :
    Mem.seq (a ++ b) m = Mem.seq b (Mem.seq a m) := by
  induction a generalizing m with
  | nil => rfl
  | cons g gs ih => simp [ih]

@[simp] theorem iter_zero (p : List (Int × Expr w)) (m : Mem w) : Mem.iter p 0 m = m := rfl

@[simp] theorem iter_succ (p : List (Int × Expr w)) (n : Nat) (m : Mem w) :
    Mem.iter p (n + 1) m = Mem.iter p n (Mem.par p m) := rfl

theorem iter_succ' (p : List (Int × Expr w)) (n : Nat) (m : Mem w) :
    Mem.iter p (n + 1) m = Mem.par p (Mem.iter p n m) := by
  induction n generalizing m with
  | zero => rfl
  | succ n ih => rw [iter_succ, ih, iter_succ]

theorem par_of_not_mem (g : List (Int × Expr w)) (m : Mem w) (v : Int) (h : mGet g v = none) :
    Mem.par g m v = m v := by
  simp [Mem.par, h]

theorem par_of_get (g : List (Int × Expr w)) (m : Mem w) (v : Int) (e : Expr w) (h : mGet g v = some e) :
    Mem.par g m v = ev e m := by
  simp [Mem.par, h]

theorem mono_map_shift (f : Int → BitVec w) (s : Int) (vs : List Int) :
    Expr.mono f (vs.map (· + s)) = Expr.mono (fun v => f (v + s)) vs := by
  induction vs with
  | nil => rfl
  | cons v vs ih => simp [ih]

theorem shiftVars_value (e : Expr w) (shift : Int) (f : Int → BitVec w) :
    Expr.evaluate (shiftVars e shift) f = Expr.evaluate e (fun v => f (v + shift)) := by
  unfold shiftVars
  induction e with
  | nil => rfl
  | cons p e ih =>
    rw [List.map_cons, Expr.evaluate_cons', Expr.evaluate_cons', ih]
    simp only [mono_map_shift]

end OptSem
end Hpbf
