/-
A boolean equality test for IR blocks (`Ir.Instr` is a nested inductive type without
`DecidableEq`), so that concrete optimizer results can be checked by kernel evaluation in the examples.
-/
import Hpbf.Proofs.OptRbTop

namespace Hpbf
namespace OptProof
open Opt OptSem Ir

variable {w : Nat}

mutual
def beqI : Instr w → Instr w → Bool
  | .output a, .output b => a == b
  | .input a, .input b => a == b
  | .calc a, .calc b => a == b
  | .loop c s b o, .loop c' s' b' o' => c == c' && s == s' && o == o' && beqL b b'
  | .ifnz c s b, .ifnz c' s' b' => c == c' && s == s' && beqL b b'
  | _, _ => false
def beqL : List (Instr w) → List (Instr w) → Bool
  | [], [] => true
  | a :: as, b :: bs => beqI a b && beqL as bs
  | _, _ => false
end

mutual
theorem beqI_sound : ∀ (a b : Instr w), beqI a b = true → a = b
  | .output a, .output b, h => by simp [beqI] at h; rw [h]
  | .input a, .input b, h => by simp [beqI] at h; rw [h]
  | .calc a, .calc b, h => by simp [beqI] at h; rw [h]
  | .loop c s b o, .loop c' s' b' o', h => by
    simp [beqI] at h
    obtain ⟨⟨⟨h1, h2⟩, h3⟩, h4⟩ := h
    rw [h1, h2, h3, beqL_sound b b' h4]
  | .ifnz c s b, .ifnz c' s' b', h => by
    simp [beqI] at h
    obtain ⟨⟨h1, h2⟩, h4⟩ := h
    rw [h1, h2, beqL_sound b b' h4]
  | .output _, .input _, h | .output _, .calc _, h | .output _, .loop .., h | .output _, .ifnz .., h
  | .input _, .output _, h | .input _, .calc _, h | .input _, .loop .., h | .input _, .ifnz .., h
  | .calc _, .output _, h | .calc _, .input _, h | .calc _, .loop .., h | .calc _, .ifnz .., h
  | .loop .., .output _, h | .loop .., .input _, h | .loop .., .calc _, h | .loop .., .ifnz .., h
  | .ifnz .., .output _, h | .ifnz .., .input _, h | .ifnz .., .calc _, h | .ifnz .., .loop .., h => by
    simp [beqI] at h
theorem beqL_sound : ∀ (a b : List (Instr w)), beqL a b = true → a = b
  | [], [], _ => rfl
  | a :: as, b :: bs, h => by
    simp [beqL] at h
    rw [beqI_sound a b h.1, beqL_sound as bs h.2]
  | [], _ :: _, h => by simp [beqL] at h
  | _ :: _, [], h => by simp [beqL] at h
end

theorem block_eq_of_beq {r b' : Block w} (h : (r.shift == b'.shift && beqL r.insts b'.insts) = true) :
    r = b' := by
  obtain ⟨rs, ri⟩ := r
  obtain ⟨bs, bi⟩ := b'
  simp only [Bool.and_eq_true, beq_iff_eq] at h
  rw [h.1, beqL_sound _ _ h.2]

def optimizeIs (b : Block w) (level : Nat) (orders : Orders) (b' : Block w) : Bool :=
  match Opt.optimize b level orders with
  | .ok r => r.shift == b'.shift && beqL r.insts b'.insts
  | .error _ => false

theorem optimize_of_check {b b' : Block w} {level : Nat} {orders : Orders}
    (h : optimizeIs b level orders b' = true) : Opt.optimize b level orders = .ok b' := by
  unfold optimizeIs at h
  split at h
  · rename_i r hr
    rw [hr, block_eq_of_beq h]
  · cases h

def parseIs (src : List Kind) (b' : Block w) : Bool :=
  match Ir.parse (w := w) src with
  | .ok r => r.shift == b'.shift && beqL r.insts b'.insts
  | .error _ => false

theorem parse_of_check {src : List Kind} {b' : Block w} (h : parseIs src b' = true) :
    Ir.parse (w := w) src = .ok b' := by
  unfold parseIs at h
  split at h
  · rename_i r hr
    rw [hr, block_eq_of_beq h]
  · cases h

end OptProof
end Hpbf
