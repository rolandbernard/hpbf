/-
C02 (`allocate_temps`): the invariant `VInv` (visible values, plus the tables saved at the heads of the enclosing
blocks) through loops, ifs and scans.  It gives `flow` for forward edges and `ptr` of `EmitRest`.
-/
import Hpbf.Proofs.C02AllocEmitW
import Hpbf.Proofs.C02EmitInv
set_option linter.unusedSimpArgs false

namespace Hpbf
namespace C02
namespace AEmit

open Bc BcWf BcGen C11 C02Emit

variable {w : Nat}

/-! `core s` is the part of the state the emission proofs (`C02EmitBase`, `C02EmitInv`) talk about. -/

theorem core_lhHead (isLoop : Bool) (sub : Analysis) (s : St w) :
    core (lhHead isLoop sub s) = headG isLoop sub (core s) := by
  cases isLoop <;> rfl

theorem core_lhPro (isLoop once : Bool) (s : St w) :
    core (lhPro isLoop once s) = blockStart once (core s) := by
  cases isLoop <;> cases once <;> rfl

theorem core_loopEnd {once : Bool} {cond shift : Int} {sub : Analysis} {ps : Nat} {s sb so : St w}
    (hso : core so = core (lhMov shift sb)) :
    core (loopEnd once cond sub ps s (lhPro true once (lhHead true sub s)) so) =
      blockEnd true once cond shift sub (headG true sub (core s)) (core sb) :=
  core_endSt hso

theorem core_ifEnd {cond shift : Int} {sub : Analysis} {ps : Nat} {s sb : St w} :
    core (ifEnd cond shift sub ps s (lhPro false false s) sb) =
      blockEnd false false cond shift sub (core s) (core sb) :=
  core_endSt (ps := ps) (isLoop := false) (once := false) (cond := cond) (sub := sub) (s := s) (sb := sb) rfl

theorem core_scanEnd {cond shift : Int} {sub : Analysis} {once : Bool} {s : St w} :
    core (lhExit once sub s.exprs.size
      { lhHead true sub s with insts := (lhHead true sub s).insts.push (.scan cond shift) }) =
      scanEnd cond shift sub once (core s) :=
  rfl

theorem vk_append {fs : List VFrame} {ps : Nat} {s s' : St w} (h : VK fs ps s) {x : Instr w}
    (hl' : LInv s') (e1 : s'.insts = s.insts.push x) (e2 : s'.ranges = s.ranges)
    (e3 : s'.outerAccessed = s.outerAccessed) (e4 : s'.currentStart = s.currentStart)
    (hx0 : ∀ cnd off, x ≠ .brnz cnd off) (hx1 : ∀ cnd off, x ≠ .brz cnd off) (hx2 : ptrStable x = true)
    (hv : ∀ e t, alGet s'.values e = some t → alGet s.values e = some t) : VK fs ps s' := by
  have hva : ∀ i, VisAt fs s i → VisAt fs s' i := fun i hi => visAt_push hi e1 hx1 hx2
  refine ⟨finv_append h.finv hl' e1 e2 e3 e4 hx0, ?_, ?_⟩
  · exact vg_push h.vg e1 e2 e3 e4 hx1 hx2
  · intro e t ht
    exact vis_congr (h.tv e t (hv e t ht)) (fun r g => ⟨r, by rw [e2]; exact g, rfl⟩) hva

theorem vk_values {fs : List VFrame} {ps : Nat} {s : St w} (h : VK fs ps s) (vs : List (GvnExpr w × Nat))
    (hsub : ∀ p ∈ vs, p ∈ s.values) (hv : ∀ e t, alGet vs e = some t → alGet s.values e = some t) :
    VK fs ps { s with values := vs } := by
  refine ⟨finv_values h.finv vs hsub, ?_, fun e t ht => vis_congr (h.tv e t (hv e t ht)) (fun r g => ⟨r, g, rfl⟩)
    (fun i hi => hi)⟩
  exact vg_frame h.vg rfl rfl (Nat.le_refl _) (fun _ _ _ g => g) (fun p x g m => ⟨x, g, m⟩) (fun _ _ g => g)
    (fun _ _ _ g _ => g)

theorem valSub_mem {V V' : List (GvnExpr w × Nat)} (h : ∀ p ∈ V', p ∈ V) : ∀ p ∈ V', p ∈ V := h

theorem vk_lhHead {fs : List VFrame} {ps : Nat} {s : St w} (h : VK fs ps s) (hw : WfV (core s)) (isLoop : Bool)
    (sub : Analysis) : VK fs ps (lhHead isLoop sub s) := by
  have hc := core_lhHead isLoop sub s
  have hvals : (lhHead isLoop sub s).values = (headG isLoop sub (core s)).values := by rw [← hc]; rfl
  have hsub : ∀ e t, alGet (lhHead isLoop sub s).values e = some t → alGet s.values e = some t := by
    intro e t ht
    rw [hvals] at ht
    unfold headG at ht
    cases isLoop with
    | false => exact ht
    | true => simp only [if_true] at ht; exact headVals_sub hw.nodup sub e t ht
  rw [lhHead_eq]
  exact vk_values h _ mem_lhHead hsub

theorem child_noShift_loop {a : Analysis} {cond shift : Int} {body : List (Ir.Instr w)} {once : Bool}
    {rest : List (Ir.Instr w)} (h : (analyzeInsts (.loop cond shift body once :: rest) a).hasShift = false) :
    (subOf shift body).hasShift = false := by
  rw [analyzeInsts] at h
  obtain ⟨h1, _⟩ := analyzeInsts_noShift rest h
  simp only [analyzeInstr] at h1
  exact (absorb_noShift h1).2.1

theorem child_noShift_if {a : Analysis} {cond shift : Int} {body : List (Ir.Instr w)}
    {rest : List (Ir.Instr w)} (h : (analyzeInsts (.ifnz cond shift body :: rest) a).hasShift = false) :
    (subOf shift body).hasShift = false := by
  rw [analyzeInsts] at h
  obtain ⟨h1, _⟩ := analyzeInsts_noShift rest h
  simp only [analyzeInstr] at h1
  exact (absorb_noShift h1).2.1

theorem array_empty_of_noInOA {oa : Array Nat} (h : ∀ v, ¬ InOA oa 0 v) : oa = #[] := by
  apply Array.eq_empty_of_size_eq_zero
  cases hsz : oa.size with
  | zero => rfl
  | succ n =>
    exfalso
    have hlt : 0 < oa.size := by omega
    exact h oa[0] ⟨0, Nat.le_refl _, Array.getElem?_eq_getElem hlt⟩

/-- Appending a pointer move when `outerAccessed` is empty (the table is cleared afterwards). -/
theorem vg_move {fs : List VFrame} {s s' : St w} {x : Instr w} (h : VG fs s)
    (hlt : ∀ (t : Nat) (r : RangeInfo) (L : Nat), s.ranges[t]? = some r → r.lastUse = some L → L < s.insts.size)
    (hoa : s.outerAccessed = #[]) (e1 : s'.insts = s.insts.push x) (e2 : s'.ranges = s.ranges)
    (e3 : s'.outerAccessed = s.outerAccessed) (hx1 : ∀ cnd off, x ≠ .brz cnd off) : VG fs s' := by
  refine ⟨by rw [e3]; exact h.numLe, by rw [e1]; simp; exact Nat.le_succ_of_le h.cple, ?_,
    fun _ => by rw [e3]; exact hoa, ?_, ?_, ?_⟩
  · intro v hv; rw [e3, hoa] at hv; simp at hv
  · intro b cnd off hb
    rw [e1] at hb
    rcases getElem?_push_cases hb with ⟨_, g⟩ | ⟨_, g⟩
    · obtain ⟨g1, g2, g3⟩ := h.fw b cnd off g
      refine ⟨g1, by rw [e1]; simp; omega, ?_⟩
      intro t r L hr hL
      rw [e2] at hr
      exact g3 t r L hr hL
    · exact absurd g.symm (hx1 cnd off)
  · intro p y hy hm t r L hr hL hc
    rw [e2] at hr
    rw [e1] at hy
    rcases getElem?_push_cases hy with ⟨_, g⟩ | ⟨g, _⟩
    · exact h.pt p y g hm t r L hr hL hc
    · have := hlt t r L hr hL; omega
  · exact oab_congr e3 e2 fs h.oab

/-- The pointer move at the end of a block that shifts: nothing from outside has been accessed there. -/
theorem vg_lhMov {fs : List VFrame} {sb : St w} {shift : Int} (h : VG fs sb)
    (hlt : ∀ (t : Nat) (r : RangeInfo) (L : Nat), sb.ranges[t]? = some r → r.lastUse = some L → L < sb.insts.size)
    (hoa : shift ≠ 0 → sb.outerAccessed = #[]) : VG fs (lhMov shift sb) := by
  unfold lhMov
  split
  · exact h
  · rename_i h0
    exact vg_move (x := .mov shift) h hlt (hoa h0) rfl rfl rfl (by intro cnd off; simp)

theorem keep_getValue {e : GvnExpr w} {s s' : St w} {v : Nat} (hg : getValue e s = .ok (v, s')) : Keep s s' := by
  rcases getValue_spec hg with ⟨_, rfl⟩ | ⟨_, N⟩
  · exact keep_refl _
  · obtain ⟨s2, h2, rfl⟩ := N.reads
    have k0 : Keep s (gvS0 s e) := by
      refine ⟨?_, fun _ _ _ g => g, fun p x g m => ⟨x, g, m⟩⟩
      intro t q hq
      exact ⟨q, by show (s.ranges.push _)[t]? = some q
                   rw [getElem?_push_lt' _ _ (lt_of_getElem? hq)]; exact hq, rfl⟩
    have k1 : Keep (gvS0 s e) s2 := keep_reads _ h2
    have k2 : Keep s2 (gvS1 s2 e s.ranges.size) :=
      keep_push rfl rfl (gvInst_ne_brz _ _) (ptrStable_gvInst _ _)
    exact keep_trans k0 (keep_trans k1 k2)

theorem keep_memWrite {var : Int} {x : Nat} {s s' : St w} {u : Unit} (hm : memWrite var x s = .ok (u, s')) :
    Keep s s' := by
  obtain ⟨s1, h1, rfl⟩ := memWrite_spec hm
  exact keep_trans (keep_ext h1) (keep_push (s' := mwS1 s1 var x) rfl rfl (by intro cnd off; simp) rfl)

theorem keep_calc {calcs : List (Int × Expr w)} {s s1 s' : St w} {vals : List (Int × Nat)} {u : Unit}
    (hc : calcValues calcs s = .ok (vals, s1)) (hm : memWrites vals s1 = .ok (u, s')) : Keep s s' := by
  have k1 : Keep s s1 :=
    calcValues_pres0 (K := fun a => Keep s a)
      (fun e a v a' hk hh => keep_trans hk (keep_getValue hh)) calcs hc (keep_refl _)
  exact memWrites_pres0 (K := fun a => Keep s a)
    (fun var x a a' u hk hh => keep_trans hk (keep_memWrite hh)) vals hm k1

theorem keep_outer {ps i : Nat} {s s' : St w} (R : OLRes ps i s s') : Keep s s' := by
  refine ⟨?_, by rw [R.insts]; exact fun _ _ _ g => g, by rw [R.insts]; exact fun p x g m => ⟨x, g, m⟩⟩
  intro t q hq
  obtain ⟨q', g1, g2, _⟩ := R.fwd t q hq
  exact ⟨q', g1, g2⟩

/-- A value of the table of an enclosing block: created before `B`, visible. -/
def SV (fs : List VFrame) (s : St w) (t B : Nat) : Prop :=
  ∃ r : RangeInfo, s.ranges[t]? = some r ∧ r.created < B ∧ VisAt fs s r.created

theorem sv_keep {fs : List VFrame} {s s' : St w} {t B : Nat} (h : SV fs s t B) (k : Keep s s') : SV fs s' t B := by
  obtain ⟨r, g1, g2, g3⟩ := h
  obtain ⟨r', q1, q2⟩ := k.cr t r g1
  exact ⟨r', q1, by rw [q2]; exact g2, by rw [q2]; exact keep_visAt k g3⟩

def NoMove (B : Nat) (s : St w) : Prop :=
  ∀ (p : Nat) (x : Instr w), B ≤ p → s.insts[p]? = some x → ptrStable x = true

theorem noMove_keep {B : Nat} {s s' : St w} (h : NoMove B s) (k : Keep s s') : NoMove B s' := by
  intro p x hp hx
  cases hm : ptrStable x with
  | true => rfl
  | false =>
    obtain ⟨y, g1, g2⟩ := k.mv p x hx hm
    rw [h p y hp g1] at g2; cases g2

structure VCtx where
  /-- enclosing loops, innermost first; the last element stands for the top level -/
  frames : List VFrame
  /-- `has_shift` of the analysis of the current block -/
  flag : Bool
  /-- position at which the current block started -/
  bstart : Nat
  /-- values (with a bound on their creation) in the tables at the heads of the enclosing blocks without
  pointer moves -/
  saved : Nat → Nat → Prop

/-- `vk`: the position-independent part; `wfv`: the table is well formed (`C02EmitInv`); `ns` ("no shift"): in a block
whose analysis has no `has_shift` the rest of the block has none either; `mf`: if the block has `has_shift`, so have all
enclosing frames; `bs`: the block started inside the code; `nm` ("no move"): a block without `has_shift` has emitted no
pointer move so far; `se`: under `has_shift` no table is saved; `sb` ("saved bound") and `sv` ("saved visible"): a value
saved with bound `B` was in a table at a block head at or before the start of this block, was created before `B`, and is
visible. -/
structure VInv (c : VCtx) (ps : Nat) (a : Analysis) (l : List (Ir.Instr w)) (s : St w) : Prop where
  vk : VK c.frames ps s
  wfv : WfV (core s)
  ns : c.flag = false → (analyzeInsts l a).hasShift = false
  mf : c.flag = true → ∀ f ∈ c.frames, f.2.2 = true
  bs : c.bstart ≤ s.insts.size
  nm : c.flag = false → NoMove c.bstart s
  se : c.flag = true → ∀ t B, ¬ c.saved t B
  sb : ∀ t B, c.saved t B → B ≤ c.bstart
  sv : ∀ t B, c.saved t B → SV c.frames s t B

theorem ns_tail {c : VCtx} {a : Analysis} {i : Ir.Instr w} {rest : List (Ir.Instr w)}
    (h : c.flag = false → (analyzeInsts (i :: rest) a).hasShift = false) :
    c.flag = false → (analyzeInsts rest (analyzeInstr i a)).hasShift = false := by
  intro hf
  have := h hf
  rw [analyzeInsts] at this
  exact this

theorem vinv_step {c : VCtx} {ps : Nat} {a : Analysis} {i : Ir.Instr w} {rest : List (Ir.Instr w)} {s s' : St w}
    (h : VInv c ps a (i :: rest) s) (hvk : VK c.frames ps s') (hw : WfV (core s')) (k : Keep s s')
    (hsz : s.insts.size ≤ s'.insts.size) : VInv c ps (analyzeInstr i a) rest s' :=
  ⟨hvk, hw, ns_tail h.ns, h.mf, Nat.le_trans h.bs hsz, fun hf => noMove_keep (h.nm hf) k, h.se, h.sb,
    fun t B ht => sv_keep (h.sv t B ht) k⟩

theorem vinv_out {c : VCtx} {ps : Nat} {a : Analysis} {src : Int} {rest : List (Ir.Instr w)} {s : St w}
    (h : VInv c ps a (.output src :: rest) s) :
    VInv c ps (analyzeInstr (.output src : Ir.Instr w) a) rest { s with insts := s.insts.push (.out src) } := by
  refine vinv_step h ?_ (h.wfv.push _) (keep_push rfl rfl (by intro cnd off; simp) rfl) (by simp)
  exact vk_append (x := .out src) h.vk (linv_push h.vk.finv.linv rfl) rfl rfl rfl rfl (by intro cnd off; simp)
    (by intro cnd off; simp) rfl (fun _ _ g => g)

theorem vinv_inp {c : VCtx} {ps : Nat} {a : Analysis} {dst : Int} {rest : List (Ir.Instr w)} {s : St w}
    (h : VInv c ps a (.input dst :: rest) s) :
    VInv c ps (analyzeInstr (.input dst : Ir.Instr w) a) rest
      { s with values := alErase s.values (.mem dst), writes := addWrite s.writes dst s.insts.size,
               insts := s.insts.push (.inp dst) } := by
  refine vinv_step h ?_ (h.wfv.input dst) (keep_push rfl rfl (by intro cnd off; simp) rfl) (by simp)
  refine vk_append (x := .inp dst) h.vk
    (closed_linv.values _ _ (linv_inp h.vk.finv.linv dst) (fun p hp => mem_alErase hp)) rfl rfl rfl rfl
    (by intro cnd off; simp) (by intro cnd off; simp) rfl ?_
  intro e t ht
  change alGet (alErase s.values (.mem dst)) e = some t at ht
  have hn : (keys s.values).Nodup := h.wfv.nodup
  rw [alGet_alErase _ _ _ hn] at ht
  split at ht
  · cases ht
  · exact ht

theorem vinv_calc {c : VCtx} {ps : Nat} {a : Analysis} {calcs : List (Int × Expr w)} {rest : List (Ir.Instr w)}
    {s s1 s' : St w} {vals : List (Int × Nat)} {u : Unit}
    (h : VInv c ps a (.calc calcs :: rest) s) (hc : calcValues calcs s = .ok (vals, s1))
    (hm : memWrites vals s1 = .ok (u, s')) :
    VInv c ps (analyzeInstr (.calc calcs : Ir.Instr w) a) rest s' :=
  vinv_step h (vk_calc h.vk hc hm) ((calc_seg hc hm h.wfv).wf h.wfv) (keep_calc hc hm) (Pre.calc hc hm).1

theorem vg_congr {fs : List VFrame} {s s' : St w} (h : VG fs s) (e1 : s'.insts = s.insts) (e2 : s'.ranges = s.ranges)
    (e3 : s'.outerAccessed = s.outerAccessed) (e4 : s'.currentStart = s.currentStart) : VG fs s' :=
  vg_frame h e3 e4 (by rw [e1]; exact Nat.le_refl _) (by rw [e1]; exact fun _ _ _ g => g)
    (by rw [e1]; exact fun p x g m => ⟨x, g, m⟩) (by rw [e2]; exact fun _ _ g => g)
    (by rw [e2]; exact fun _ _ _ g _ => g)

theorem lhExit_values (once : Bool) (sub : Analysis) (pe : Nat) (s : St w) :
    (lhExit once sub pe s).values = exitVals sub once pe s.exprs s.values := rfl

theorem vk_lhExit {fs : List VFrame} {ps : Nat} {s : St w} (h : VK fs ps s) (hw : WfV (core s)) (once : Bool)
    (sub : Analysis) (pe : Nat) : VK fs ps (lhExit once sub pe s) := by
  rw [lhExit_eq]
  refine vk_values h _ mem_lhExit ?_
  rw [lhExit_values]
  exact exitVals_sub hw.nodup sub once pe s.exprs

theorem flag_of_shift {c : VCtx} {a : Analysis} {cond shift : Int} {body : List (Ir.Instr w)} {once : Bool}
    {rest : List (Ir.Instr w)}
    (hns : c.flag = false → (analyzeInsts (.loop cond shift body once :: rest) a).hasShift = false)
    (hs : (subOf shift body).hasShift = true) : c.flag = true := by
  cases hf : c.flag with
  | true => rfl
  | false => rw [child_noShift_loop (hns hf)] at hs; cases hs

theorem flag_of_shift_if {c : VCtx} {a : Analysis} {cond shift : Int} {body : List (Ir.Instr w)}
    {rest : List (Ir.Instr w)}
    (hns : c.flag = false → (analyzeInsts (.ifnz cond shift body :: rest) a).hasShift = false)
    (hs : (subOf shift body).hasShift = true) : c.flag = true := by
  cases hf : c.flag with
  | true => rfl
  | false => rw [child_noShift_if (hns hf)] at hs; cases hs

theorem vinv_scan {fuse : Bool} {c : VCtx} {ps : Nat} {a : Analysis} {cond shift : Int} {once : Bool}
    {rest : List (Ir.Instr w)} {s : St w} (hfu : fuse = true)
    (h : VInv c ps a (.loop cond shift [] once :: rest) s) :
    VInv c ps (analyzeInstr (.loop cond shift [] once : Ir.Instr w) a) rest
      (lhExit once (subOf shift ([] : List (Ir.Instr w))) s.exprs.size
        { lhHead true (subOf shift ([] : List (Ir.Instr w))) s with
          insts := (lhHead true (subOf shift ([] : List (Ir.Instr w))) s).insts.push (.scan cond shift) }) := by
  have hF := (closedI_finv fuse).scan (toFrames c.frames) ps a cond shift once rest s hfu h.vk.finv
  have hW : WfV (core (lhExit once (subOf shift ([] : List (Ir.Instr w))) s.exprs.size
        { lhHead true (subOf shift ([] : List (Ir.Instr w))) s with
          insts := (lhHead true (subOf shift ([] : List (Ir.Instr w))) s).insts.push (.scan cond shift) })) := by
    rw [core_scanEnd]; exact h.wfv.scanEnd _ _ _ _
  generalize hsub : subOf shift ([] : List (Ir.Instr w)) = sub at hF hW ⊢
  have h0 : VK c.frames ps (lhHead true sub s) := vk_lhHead h.vk h.wfv true sub
  have hins0 : (lhHead true sub s).insts = s.insts := by rw [lhHead_eq]
  have hrng0 : (lhHead true sub s).ranges = s.ranges := by rw [lhHead_eq]
  have hoa0 : (lhHead true sub s).outerAccessed = s.outerAccessed := by rw [lhHead_eq]
  cases hs : sub.hasShift with
  | true =>
    have hfl : c.flag = true := flag_of_shift h.ns (by rw [hsub]; exact hs)
    have hoa : s.outerAccessed = #[] := h.vk.vg.em (h.mf hfl)
    have hvals : (lhExit once sub s.exprs.size
        { lhHead true sub s with insts := (lhHead true sub s).insts.push (.scan cond shift) }).values = [] := by
      rw [lhExit_values, exitVals_shift hs]
    have hg1 : VG c.frames { lhHead true sub s with insts := (lhHead true sub s).insts.push (.scan cond shift) } :=
      vg_move (x := .scan cond shift) h0.vg h0.finv.lastLt (by rw [hoa0]; exact hoa) rfl rfl rfl
        (by intro cnd off; simp)
    refine ⟨⟨hF, ?_, ?_⟩, hW, ns_tail h.ns, h.mf, ?_, ?_, h.se, h.sb, ?_⟩
    · rw [lhExit_eq]; exact vg_congr hg1 rfl rfl rfl rfl
    · intro e t ht; rw [hvals] at ht; cases ht
    · rw [lhExit_eq]; show c.bstart ≤ ((lhHead true sub s).insts.push _).size
      rw [hins0]; simp; exact Nat.le_succ_of_le h.bs
    · intro hf; rw [hfl] at hf; cases hf
    · intro t B ht; exact absurd ht (h.se hfl t B)
  | false =>
    have hsh : shift = 0 := (subOf_noShift (by rw [hsub]; exact hs)).1
    subst hsh
    have h1 : VK c.frames ps { lhHead true sub s with insts := (lhHead true sub s).insts.push (.scan cond 0) } :=
      vk_append (x := .scan cond 0) h0 (linv_push h0.finv.linv rfl) rfl rfl rfl rfl (by intro cnd off; simp)
        (by intro cnd off; simp) rfl (fun _ _ g => g)
    have hw1 : WfV (core { lhHead true sub s with insts := (lhHead true sub s).insts.push (.scan cond 0) }) := by
      have : core { lhHead true sub s with insts := (lhHead true sub s).insts.push (.scan cond 0) } =
          (core (lhHead true sub s)).push (.scan cond 0) := rfl
      rw [this, core_lhHead]
      exact (h.wfv.headG true sub).push _
    have k : Keep s (lhExit once sub s.exprs.size
        { lhHead true sub s with insts := (lhHead true sub s).insts.push (.scan cond 0) }) := by
      refine keep_trans (keep_same hins0 hrng0) (keep_trans (keep_push (x := .scan cond 0)
        (s' := { lhHead true sub s with insts := (lhHead true sub s).insts.push (.scan cond 0) }) rfl rfl
        (by intro cnd off; simp) rfl) ?_)
      rw [lhExit_eq]; exact keep_same rfl rfl
    refine vinv_step h (vk_lhExit h1 hw1 once sub _) hW k ?_
    rw [lhExit_eq]; show s.insts.size ≤ ((lhHead true sub s).insts.push _).size
    rw [hins0]; simp

theorem visAt_cons_false {fs : List VFrame} {S N : Nat} {s : St w} {i : Nat} :
    VisAt ((S, N, false) :: fs) s i ↔ VisAt fs s i := Iff.rfl

theorem vg_enter {fs : List VFrame} {sP : St w} {fl : Bool} (hg : VG fs sP) (hl : LInv sP)
    (hfl : fl = true → sP.outerAccessed = #[])
    (hd : ∃ N1 fl1 rest, fs = (sP.currentStart, N1, fl1) :: rest) :
    VG ((sP.insts.size, sP.outerAccessed.size, fl) :: fs) { sP with currentStart := sP.insts.size } := by
  have hvis : ∀ v ∈ sP.outerAccessed.toList, Vis fs sP v →
      Vis ((sP.insts.size, sP.outerAccessed.size, fl) :: fs) { sP with currentStart := sP.insts.size } v := by
    intro v hv ⟨r, g1, g2⟩
    cases fl with
    | true => rw [hfl rfl] at hv; simp at hv
    | false => exact ⟨r, g1, g2⟩
  refine ⟨?_, ?_, ?_, ?_, hg.fw, hg.pt, ?_⟩
  · intro f hf
    rcases List.mem_cons.1 hf with rfl | hf
    · exact Nat.le_refl _
    · exact hg.numLe f hf
  · cases fl with
    | true => exact Nat.le_refl _
    | false => exact hg.cple
  · intro v hv
    obtain ⟨g1, r, g2, _⟩ := hg.ov v hv
    exact ⟨hvis v hv g1, r, g2, (hl.rwf v r g2).1⟩
  · intro hall
    exact hg.em (fun f hf => hall f (List.mem_cons_of_mem _ hf))
  · obtain ⟨N1, fl1, rest, hfs⟩ := hd
    subst hfs
    refine ⟨?_, oab_congr (s := sP) (s' := { sP with currentStart := sP.insts.size }) rfl rfl _ hg.oab⟩
    intro idx v _ hv
    obtain ⟨_, r, g2, g3⟩ := hg.ov v (Array.mem_toList_iff.2 (Array.mem_of_getElem? hv))
    exact ⟨r, g2, g3⟩

/-- The values remembered while a block without pointer moves is emitted. -/
def childSaved (c : VCtx) (fl : Bool) (s : St w) : Nat → Nat → Prop :=
  fun t B => fl = false ∧ (c.saved t B ∨ (B = s.insts.size ∧ ∃ e, alGet s.values e = some t))

def loopCtx (c : VCtx) (fl : Bool) (s s1 : St w) : VCtx :=
  ⟨(s1.insts.size, s.outerAccessed.size, fl) :: c.frames, fl, s1.insts.size, childSaved c fl s⟩

def ifCtx (c : VCtx) (fl : Bool) (s s1 : St w) : VCtx :=
  ⟨c.frames, fl, s1.insts.size, childSaved c fl s⟩

theorem vinv_loop_enter {c : VCtx} {ps : Nat} {a : Analysis} {cond shift : Int} {body : List (Ir.Instr w)}
    {once : Bool} {rest : List (Ir.Instr w)} {s : St w}
    (h : VInv c ps a (.loop cond shift body once :: rest) s) :
    VInv (loopCtx c (subOf shift body).hasShift s (lhPro true once (lhHead true (subOf shift body) s)))
      (lhPro true once (lhHead true (subOf shift body) s)).currentStart Analysis.empty body
      (lhPro true once (lhHead true (subOf shift body) s)) := by
  obtain ⟨e1, e2, _⟩ := finv_loop_enter h.vk.finv once (subOf shift body)
  have hW : WfV (core (lhPro true once (lhHead true (subOf shift body) s))) := by
    rw [core_lhPro, core_lhHead]; exact (h.wfv.headG true _).blockStart _
  generalize hsub : subOf shift body = sub at e1 e2 hW ⊢
  have h0 : VK c.frames ps (lhHead true sub s) := vk_lhHead h.vk h.wfv true sub
  have hins0 : (lhHead true sub s).insts = s.insts := by rw [lhHead_eq]
  have hrng0 : (lhHead true sub s).ranges = s.ranges := by rw [lhHead_eq]
  have hoa0 : (lhHead true sub s).outerAccessed = s.outerAccessed := by rw [lhHead_eq]
  have hcs0 : (lhHead true sub s).currentStart = s.currentStart := by rw [lhHead_eq]
  obtain ⟨sP, hpro, p1, p2, p3, p4, p5, p6, p7, p8⟩ := lhPro_true_eq once (lhHead true sub s)
  have hP : VK c.frames ps sP := by
    cases once with
    | true => rw [p7 rfl]; exact h0
    | false =>
      rw [p8 rfl]
      exact vk_append (x := .noop) h0 (linv_push h0.finv.linv rfl) rfl rfl rfl rfl (by intro cnd off; simp)
        (by intro cnd off; simp) rfl (fun _ _ g => g)
  have kP : Keep s sP := by
    refine keep_trans (keep_same hins0 hrng0) ?_
    cases once with
    | true => rw [p7 rfl]; exact keep_refl _
    | false => rw [p8 rfl]; exact keep_push (x := .noop) rfl rfl (by intro cnd off; simp) rfl
  have hszP : s.insts.size ≤ sP.insts.size := by
    rw [p6, hins0]; split <;> simp
  have k1 : Keep s (lhPro true once (lhHead true sub s)) := by
    rw [hpro]; exact keep_trans kP (keep_same rfl rfl)
  have hsz1 : (lhPro true once (lhHead true sub s)).insts.size = sP.insts.size := by rw [hpro]
  have hoaP : sP.outerAccessed.size = s.outerAccessed.size := by rw [p2, hoa0]
  have hflag : sub.hasShift = true → c.flag = true := fun hs => flag_of_shift h.ns (by rw [hsub]; exact hs)
  have hvg : VG ((sP.insts.size, sP.outerAccessed.size, sub.hasShift) :: c.frames)
      { sP with currentStart := sP.insts.size } := by
    refine vg_enter hP.vg hP.finv.linv ?_ (vk_hd hP)
    intro hs
    exact hP.vg.em (h.mf (hflag hs))
  unfold loopCtx
  rw [e2]
  refine ⟨⟨?_, ?_, ?_⟩, hW, ?_, ?_, Nat.le_refl _, ?_, ?_, ?_, ?_⟩
  · exact e1
  · show VG ((_, s.outerAccessed.size, sub.hasShift) :: c.frames) _
    rw [hsz1, ← hoaP, hpro]; exact hvg
  · intro e t ht
    cases hs : sub.hasShift with
    | true =>
      have : (lhPro true once (lhHead true sub s)).values = [] := by
        rw [hpro]; show sP.values = []
        rw [p4]; unfold lhHead headVals; simp [hs]
      rw [this] at ht; cases ht
    | false =>
      have ht' : alGet sP.values e = some t := by rw [hpro] at ht; exact ht
      obtain ⟨r, g1, g2⟩ := hP.tv e t ht'
      rw [hpro]
      exact ⟨r, g1, g2⟩
  · intro hs
    exact (subOf_noShift (by rw [hsub]; exact hs)).2.1
  · intro hs f hf
    rcases List.mem_cons.1 hf with rfl | hf
    · exact hs
    · exact h.mf (hflag hs) f hf
  · intro _ p x hp hx
    have hp' : (lhPro true once (lhHead true sub s)).insts.size ≤ p := hp
    have := lt_of_getElem? hx
    omega
  · intro hs t B ht
    have hs' : sub.hasShift = true := hs
    rw [ht.1] at hs'; cases hs'
  · intro t B ht
    show B ≤ (lhPro true once (lhHead true sub s)).insts.size
    rw [hsz1]
    rcases ht.2 with g | ⟨g, _⟩
    · exact Nat.le_trans (h.sb t B g) (Nat.le_trans h.bs hszP)
    · rw [g]; exact hszP
  · intro t B ht
    obtain ⟨hs, ht2⟩ := ht
    have hsv : SV c.frames s t B := by
      rcases ht2 with g | ⟨g, e, he⟩
      · exact h.sv t B g
      · obtain ⟨r, g1, g2⟩ := h.vk.tv e t he
        exact ⟨r, g1, by rw [g]; exact (h.vk.finv.linv.rwf t r g1).1, g2⟩
    obtain ⟨r, g1, g2, g3⟩ := sv_keep hsv k1
    rw [hs]
    exact ⟨r, g1, g2, g3⟩

theorem vg_leave {fs : List VFrame} {ps b1 N : Nat} {fl : Bool} {sm so : St w} {cond : Int}
    (hg : VG ((b1, N, fl) :: fs) sm) (R : OLRes ps N sm so)
    (hc : ∃ N1 fl1 rest, fs = (ps, N1, fl1) :: rest) (hN : ∀ f ∈ fs, f.2.1 ≤ N) (hpb : ps ≤ b1)
    (hcp : cpOf fs ≤ b1) (hb1 : b1 ≤ sm.insts.size) (hN0 : (∀ f ∈ fs, f.2.2 = true) → N = 0) :
    VG fs { lhBrnz cond b1 so with currentStart := ps } := by
  have hfr : ((b1, N, fl) : VFrame) ∈ (b1, N, fl) :: fs := List.mem_cons_self
  have hNsm : N ≤ sm.outerAccessed.size := hg.numLe _ hfr
  have hNso : N ≤ so.outerAccessed.size := olres_numLe R hNsm
  have hrng := olres_rng R
  have hinsX : ({ lhBrnz cond b1 so with currentStart := ps } : St w).insts =
      sm.insts.push (.brnz cond ((b1 : Int) - (so.insts.size : Int))) := by
    show so.insts.push _ = _
    rw [R.insts]
  have hva : ∀ i, VisAt ((b1, N, fl) :: fs) sm i → VisAt fs { lhBrnz cond b1 so with currentStart := ps } i := by
    intro i hi
    have h1 : VisAt fs sm i := by
      refine ⟨?_, hi.2.1, hi.2.2⟩
      cases fl with
      | true => have : b1 ≤ i := hi.1; omega
      | false => exact hi.1
    exact visAt_push h1 hinsX (by intro cnd off; simp) rfl
  have hvis : ∀ t, Vis ((b1, N, fl) :: fs) sm t → Vis fs { lhBrnz cond b1 so with currentStart := ps } t := by
    intro t ⟨r, g1, g2⟩
    obtain ⟨r', q1, q2, _⟩ := R.fwd t r g1
    exact ⟨r', q1, by rw [q2]; exact hva _ g2⟩
  obtain ⟨N1, fl1, rest, hfs⟩ := hc
  have hent : ∀ (idx v : Nat), so.outerAccessed[idx]? = some v →
      v ∈ sm.outerAccessed.toList ∧ ∃ r : RangeInfo, sm.ranges[v]? = some r ∧ r.created < ps := by
    intro idx v hv
    by_cases hi : idx < N
    · have hv' : sm.outerAccessed[idx]? = some v := by rw [← R.pre idx hi]; exact hv
      refine ⟨Array.mem_toList_iff.2 (Array.mem_of_getElem? hv'), ?_⟩
      have ho := hg.oab
      rw [hfs] at ho
      exact ho.1 idx v hi hv'
    · obtain ⟨g1, g2⟩ := R.kept v ⟨idx, by omega, hv⟩
      exact ⟨mem_toList_of_inOA g1, g2⟩
  refine ⟨fun f hf => Nat.le_trans (hN f hf) hNso, ?_, ?_, ?_, ?_, ?_, ?_⟩
  · rw [hinsX]; simp; omega
  · intro v hv
    have hv0 : v ∈ so.outerAccessed := Array.mem_toList_iff.1 hv
    obtain ⟨idx, hidx, hget⟩ := Array.getElem_of_mem hv0
    have hv' : so.outerAccessed[idx]? = some v := by rw [Array.getElem?_eq_getElem hidx, hget]
    obtain ⟨g1, r, g2, g3⟩ := hent idx v hv'
    obtain ⟨r', q1, q2, _⟩ := R.fwd v r g2
    exact ⟨hvis v (hg.ov v g1).1, r', q1, by rw [q2]; exact g3⟩
  · intro hall
    apply array_empty_of_noInOA
    rintro v ⟨idx, _, hv⟩
    obtain ⟨g1, r, g2, g3⟩ := hent idx v hv
    obtain ⟨⟨r0, q1, q2⟩, _⟩ := hg.ov v g1
    rw [g2] at q1; cases q1
    have hcp1 : cpOf fs = ps := cpOf_all_true hfs hall
    have : cpOf ((b1, N, fl) :: fs) ≤ r.created := q2.1
    cases fl with
    | true => have : b1 ≤ r.created := this; omega
    | false => have : cpOf fs ≤ r.created := this; omega
  · intro b cnd off hb
    rw [hinsX] at hb
    rcases getElem?_push_cases hb with ⟨_, g⟩ | ⟨_, g⟩
    · obtain ⟨g1, g2, g3⟩ := hg.fw b cnd off g
      refine ⟨g1, by rw [hinsX]; simp; omega, ?_⟩
      intro t r' L' hr' hL' h1 h2
      obtain ⟨r, hr, e, q⟩ := hrng t r' hr'
      rw [e] at h1 h2
      rcases q with ⟨q1, _, _⟩ | q
      · obtain ⟨⟨r0, p1, p2⟩, _⟩ := hg.ov t (mem_toList_of_inOA q1)
        rw [hr] at p1; cases p1
        exact absurd ⟨h1, h2⟩ (p2.2.1 b cnd off g)
      · rw [q] at hL'
        exact g3 t r L' hr hL' h1 h2
    · cases g
  · intro p x hx hm t r' L' hr' hL' h1
    rw [hinsX] at hx
    rcases getElem?_push_cases hx with ⟨_, g⟩ | ⟨_, g⟩
    · obtain ⟨r, hr, e, q⟩ := hrng t r' hr'
      rw [e] at h1
      rcases q with ⟨q1, _, _⟩ | q
      · obtain ⟨⟨r0, p1, p2⟩, _⟩ := hg.ov t (mem_toList_of_inOA q1)
        rw [hr] at p1; cases p1
        have := p2.2.2 p x g hm
        omega
      · rw [q] at hL'
        exact hg.pt p x g hm t r L' hr hL' h1
    · rw [g] at hm; cases hm
  · have ho := hg.oab
    rw [hfs] at ho
    rw [hfs]
    refine oab_mono (s' := { lhBrnz cond b1 so with currentStart := ps })
      (fun t q g => let ⟨q', p3, p4, _⟩ := R.fwd t q g; ⟨q', p3, p4⟩) _ (fun f hf idx u hidx hu => ?_) ho.2
    have hlt : idx < N := Nat.lt_of_lt_of_le hidx (hN f (by rw [hfs]; exact hf))
    rw [← R.pre idx hlt]; exact hu

theorem vg_patch {fs : List VFrame} {s : St w} {i : Nat} {cnd : Int} (hg : VG fs s)
    (hi : s.insts[i]? = some .noop) (hcs : s.currentStart ≤ i)
    (hl : ∀ (t : Nat) (r : RangeInfo) (L : Nat), s.ranges[t]? = some r → r.lastUse = some L → L < s.insts.size) :
    VG fs { s with insts := s.insts.setIfInBounds i (.brz cnd ((s.insts.size : Int) - (i : Int))) } := by
  have hlt : i < s.insts.size := lt_of_getElem? hi
  have hget : ∀ (p : Nat) (x : Instr w),
      (s.insts.setIfInBounds i (.brz cnd ((s.insts.size : Int) - (i : Int))))[p]? = some x →
      (p = i ∧ x = .brz cnd ((s.insts.size : Int) - (i : Int))) ∨ (p ≠ i ∧ s.insts[p]? = some x) :=
    fun _ _ => getElem?_setIfInBounds_cases
  have hmv : ∀ (p : Nat) (x : Instr w),
      (s.insts.setIfInBounds i (.brz cnd ((s.insts.size : Int) - (i : Int))))[p]? = some x →
      ptrStable x = false → s.insts[p]? = some x := by
    intro p x hx hm
    rcases hget p x hx with ⟨_, rfl⟩ | ⟨_, g⟩
    · cases hm
    · exact g
  have hva : ∀ j, j < i → VisAt fs s j →
      VisAt fs { s with insts := s.insts.setIfInBounds i (.brz cnd ((s.insts.size : Int) - (i : Int))) } j := by
    intro j hj h
    refine ⟨h.1, ?_, fun p x hx hm => h.2.2 p x (hmv p x hx hm) hm⟩
    intro b c' o' hb hcon
    rcases hget b _ hb with ⟨rfl, _⟩ | ⟨_, g⟩
    · omega
    · exact h.2.1 b c' o' g hcon
  refine ⟨hg.numLe, by simpa using hg.cple, ?_, hg.em, ?_, ?_, oab_congr (s := s) (by rfl) (by rfl) _ hg.oab⟩
  · intro v hv
    obtain ⟨⟨r, g1, g2⟩, r', g3, g4⟩ := hg.ov v hv
    rw [g1] at g3; cases g3
    exact ⟨⟨r, g1, hva _ (by omega) g2⟩, r, g1, g4⟩
  · intro b c' o' hb
    rcases hget b _ hb with ⟨rfl, e⟩ | ⟨_, g⟩
    · simp only [Instr.brz.injEq] at e
      obtain ⟨_, rfl⟩ := e
      refine ⟨by omega, by simp only [Array.size_setIfInBounds]; omega, ?_⟩
      intro t r L hr hL _ _
      have := hl t r L hr hL
      omega
    · obtain ⟨g1, g2, g3⟩ := hg.fw b c' o' g
      exact ⟨g1, by simpa using g2, g3⟩
  · intro p x hx hm
    exact hg.pt p x (hmv p x hx hm) hm

theorem exit_table {fuse : Bool} {body : List (Ir.Instr w)} {ps' : Nat} {s1 sb : St w} {u1 : Unit}
    (hrun : emitInsts fuse ps' body (subsOf body) s1 = .ok (u1, sb)) (hw : WfV (core s1)) {shift : Int} :
    ∀ e t, alGet (exitVals (subOf shift body) false s1.exprs.size sb.exprs sb.values) e = some t →
      alGet s1.values e = some t :=
  exit_sub (shift := shift) (em_of_emitInsts fuse body ps' s1 sb u1 hrun) hw

/-- Leaving a loop or an `if`.  `s`: before the block, `s1`: after its prologue (placeholder, `current_start`), `sb`: after
the body, `sf`: the final state; `fl`: `has_shift` of the block's analysis, `fs'`: the frames inside the block.  The
hypotheses say how `sf` arises from `sb` (`hszf` … `hbrz`: same ranges up to `created`, no new pointer move, the only new
`brz` is the patched placeholder) and what the table of `sf` contains (`htab1`, `htab2`: nothing under `has_shift`, else
only what was in the table of `s`, or of `sb` for a `once` loop). -/
theorem vinv_exit {c : VCtx} {ps : Nat} {a : Analysis} {i : Ir.Instr w} {rest : List (Ir.Instr w)}
    {s s1 sb sf : St w} {fl once : Bool} {fs' : List VFrame}
    (h : VInv c ps a (i :: rest) s)
    (hflag : c.flag = false → fl = false)
    (hfs : fl = false → ∀ (st : St w) (j : Nat), VisAt fs' st j → VisAt c.frames st j)
    (hFin : FInv (toFrames c.frames) ps sf) (hVG : VG c.frames sf) (hW : WfV (core sf))
    (hs1p : Pre s.insts s1.insts)
    (hs1 : ∀ (p : Nat) (x : Instr w), s.insts.size ≤ p → s1.insts[p]? = some x → ptrStable x = true)
    (hpre : Pre s1.insts sb.insts) (hszf : sb.insts.size ≤ sf.insts.size)
    (hbnm : fl = false → NoMove s1.insts.size sb)
    (hbtv : TV fs' sb)
    (hbsv : ∀ t B, childSaved c fl s t B → SV fs' sb t B)
    (htab1 : fl = true → sf.values = [])
    (htab2 : fl = false → ∀ e t, alGet sf.values e = some t →
      (once = true ∧ alGet sb.values e = some t) ∨ alGet s.values e = some t)
    (hrng : fl = false → ∀ (t : Nat) (r : RangeInfo), sb.ranges[t]? = some r →
      ∃ r' : RangeInfo, sf.ranges[t]? = some r' ∧ r'.created = r.created)
    (hmv : fl = false → ∀ (p : Nat) (x : Instr w), sf.insts[p]? = some x → ptrStable x = false →
      ∃ y, sb.insts[p]? = some y ∧ ptrStable y = false)
    (hbrz : fl = false → ∀ (b : Nat) (cnd off : Int), sf.insts[b]? = some (.brz cnd off) →
      sb.insts[b]? = some (.brz cnd off) ∨ (once = false ∧ s.insts.size ≤ b)) :
    VInv c ps (analyzeInstr i a) rest sf := by
  have hsz : s.insts.size ≤ sf.insts.size := Nat.le_trans hs1p.1 (Nat.le_trans hpre.1 hszf)
  -- visibility at the end, for positions below the start of the block
  have hva : fl = false → ∀ j, (once = false → j < s.insts.size) → VisAt fs' sb j → VisAt c.frames sf j := by
    intro hf j hj hv
    have h1 := hfs hf sb j hv
    refine ⟨h1.1, ?_, ?_⟩
    · intro b cnd off hb hcon
      rcases hbrz hf b cnd off hb with g | ⟨g1, g2⟩
      · exact h1.2.1 b cnd off g hcon
      · have := hj g1; omega
    · intro p x hx hm
      obtain ⟨y, g1, g2⟩ := hmv hf p x hx hm
      exact h1.2.2 p y g1 g2
  have hsvf : fl = false → ∀ t B, B ≤ s.insts.size → SV fs' sb t B → SV c.frames sf t B := by
    intro hf t B hB ⟨r, g1, g2, g3⟩
    obtain ⟨r', q1, q2⟩ := hrng hf t r g1
    exact ⟨r', q1, by rw [q2]; exact g2, by rw [q2]; exact hva hf _ (fun _ => by omega) g3⟩
  refine ⟨⟨hFin, hVG, ?_⟩, hW, ns_tail h.ns, h.mf, Nat.le_trans h.bs hsz, ?_, h.se, h.sb, ?_⟩
  · intro e t ht
    cases hf : fl with
    | true => rw [htab1 hf] at ht; cases ht
    | false =>
      rcases htab2 hf e t ht with ⟨g1, g2⟩ | g
      · obtain ⟨r, q1, q2⟩ := hbtv e t g2
        obtain ⟨r', p1, p2⟩ := hrng hf t r q1
        exact ⟨r', p1, by rw [p2]; exact hva hf _ (fun h0 => by rw [g1] at h0; cases h0) q2⟩
      · obtain ⟨r, q1, _, q3⟩ := hsvf hf t s.insts.size (Nat.le_refl _) (hbsv t _ ⟨hf, Or.inr ⟨rfl, e, g⟩⟩)
        exact ⟨r, q1, q3⟩
  · intro hc p x hp hx
    have hf := hflag hc
    cases hm : ptrStable x with
    | true => rfl
    | false =>
      exfalso
      obtain ⟨y, g1, g2⟩ := hmv hf p x hx hm
      by_cases h1 : s1.insts.size ≤ p
      · rw [hbnm hf p y h1 g1] at g2; cases g2
      · have g3 : s1.insts[p]? = some y := by rw [← hpre.2 p (by omega)]; exact g1
        by_cases h2 : s.insts.size ≤ p
        · rw [hs1 p y h2 g3] at g2; cases g2
        · have g4 : s.insts[p]? = some y := by rw [← hs1p.2 p (by omega)]; exact g3
          rw [h.nm hc p y hp g4] at g2; cases g2
  · intro t B ht
    cases hc : c.flag with
    | true => exact absurd ht (h.se hc t B)
    | false =>
      have hf := hflag hc
      exact hsvf hf t B (Nat.le_trans (h.sb t B ht) h.bs) (hbsv t B ⟨hf, Or.inl ht⟩)

theorem vinv_loop_exit {fuse : Bool} {c : VCtx} {ps : Nat} {a : Analysis} {cond shift : Int}
    {body : List (Ir.Instr w)} {once : Bool} {rest : List (Ir.Instr w)} {s sb so : St w} {u1 u2 : Unit} {fuel : Nat}
    (h : VInv c ps a (.loop cond shift body once :: rest) s)
    (hrun : emitInsts fuse (lhPro true once (lhHead true (subOf shift body) s)).currentStart body (subsOf body)
      (lhPro true once (lhHead true (subOf shift body) s)) = .ok (u1, sb))
    (hb : VInv (loopCtx c (subOf shift body).hasShift s (lhPro true once (lhHead true (subOf shift body) s)))
      (lhPro true once (lhHead true (subOf shift body) s)).currentStart (analyzeInsts body Analysis.empty) [] sb)
    (hpre : Pre (lhPro true once (lhHead true (subOf shift body) s)).insts sb.insts)
    (ho : outerLoop ps fuel s.outerAccessed.size (lhMov shift sb) = .ok (u2, so)) :
    VInv c ps (analyzeInstr (.loop cond shift body once : Ir.Instr w) a) rest
      (loopEnd once cond (subOf shift body) ps s (lhPro true once (lhHead true (subOf shift body) s)) so) := by
  obtain ⟨e1, e2, hpb⟩ := finv_loop_enter h.vk.finv once (subOf shift body)
  have hbF : FInv (((lhPro true once (lhHead true (subOf shift body) s)).insts.size, s.outerAccessed.size) ::
      toFrames c.frames) (lhPro true once (lhHead true (subOf shift body) s)).insts.size sb := by
    have := hb.vk.finv; rw [e2] at this; exact this
  obtain ⟨hFin, R, hmF⟩ := finv_loop_exit (cond := cond) h.vk.finv hbF hpre ho
  have hcore : core so = core (lhMov shift sb) := olres_core R
  have hW : WfV (core (loopEnd once cond (subOf shift body) ps s
      (lhPro true once (lhHead true (subOf shift body) s)) so)) := by
    rw [core_loopEnd hcore]; exact hb.wfv.blockEnd _ _ _ _ _ _
  have hval : (loopEnd once cond (subOf shift body) ps s
      (lhPro true once (lhHead true (subOf shift body) s)) so).values =
      exitVals (subOf shift body) once s.exprs.size sb.exprs sb.values := by
    have := congrArg G.values (core_loopEnd (once := once) (cond := cond) (sub := subOf shift body) (ps := ps)
      (s := s) hcore)
    rw [blockEnd_values] at this
    exact this
  have hs1W : WfV (core (lhPro true once (lhHead true (subOf shift body) s))) := by
    rw [core_lhPro, core_lhHead]; exact (h.wfv.headG true _).blockStart _
  obtain ⟨hs1i, hs1e, hs1v⟩ := lhPro_true_insts once (subOf shift body) s
  have hhv : ∀ e t, alGet (lhHead true (subOf shift body) s).values e = some t → alGet s.values e = some t := by
    intro e t ht
    have hc := core_lhHead true (subOf shift body) s
    have : (lhHead true (subOf shift body) s).values = headVals (subOf shift body) s.values := by
      have := congrArg G.values hc
      exact this
    rw [this] at ht
    exact headVals_sub h.wfv.nodup _ e t ht
  obtain ⟨hfr, hfo, hfc, o1, o2, hfi⟩ := loopEnd_fields once cond (subOf shift body) ps s
    (lhPro true once (lhHead true (subOf shift body) s)) so
  have hbnm := hb.nm
  have hbtv := hb.vk.tv
  have hbsv := hb.sv
  have hbmf := hb.mf
  have hbvg := hb.vk.vg
  unfold loopCtx at hbnm hbtv hbsv hbmf hbvg
  simp only at hbnm hbtv hbsv hbmf hbvg
  generalize hs1 : lhPro true once (lhHead true (subOf shift body) s) = s1 at *
  generalize hsf : loopEnd once cond (subOf shift body) ps s s1 so = sf at *
  have hb1 : s1.insts.size = s.insts.size + (if once then 0 else 1) := by
    rw [hs1i]; cases once <;> simp
  have hps : ps ≤ s.insts.size := h.vk.finv.ps_le
  have hshift : (subOf shift body).hasShift = false → shift = 0 := fun hf => (subOf_noShift hf).1
  have hsm0 : shift = 0 → lhMov shift sb = sb := by intro h0; unfold lhMov; simp [h0]
  have hgm : VG ((s1.insts.size, s.outerAccessed.size, (subOf shift body).hasShift) :: c.frames) (lhMov shift sb) :=
    vg_lhMov hbvg hbF.lastLt (fun h0 => hbvg.em (hbmf (subOf_shift body h0)))
  have hb1m : s1.insts.size ≤ (lhMov shift sb).insts.size :=
    hmF.core.startLe (s1.insts.size, s.outerAccessed.size) List.mem_cons_self
  have hXb : VG c.frames { lhBrnz cond s1.insts.size so with currentStart := ps } := by
    refine vg_leave (cond := cond) hgm R ?_ h.vk.vg.numLe hpb ?_ hb1m ?_
    · have := vk_hd h.vk; rw [h.vk.finv.cs] at this; exact this
    · have := h.vk.vg.cple; omega
    · intro hall; rw [h.vk.vg.em hall]; rfl
  have hlast := olres_lastLt R hmF.lastLt
  have hszf : sf.insts.size = (lhMov shift sb).insts.size + 1 := by
    rw [hfi, ← R.insts]; cases once <;> simp
  have hsbm : sb.insts.size ≤ (lhMov shift sb).insts.size := (pre_lhMov shift sb).1
  have hVG : VG c.frames sf := by
    rw [← hsf]
    unfold loopEnd
    rw [lhExit_eq]
    cases once with
    | true => exact vg_congr hXb rfl rfl rfl rfl
    | false =>
      have hnoop : ({ lhBrnz cond s1.insts.size so with currentStart := ps } : St w).insts[s1.insts.size - 1]? =
          some .noop := by
        subst hs1
        exact placeholder_noop true _ (hpre.trans (pre_lhBrnz R.insts cond _))
      have hp := vg_patch (cnd := cond) hXb hnoop (by show ps ≤ _; simp at hb1; omega) (by
        intro t r L hr hL
        show L < (so.insts.push _).size
        rw [R.insts]; simp
        have := hlast t r L hr hL; omega)
      exact vg_congr hp rfl rfl rfl rfl
  -- the code of the final state: that after `outerLoop`, the `brnz`, and possibly the patched placeholder
  have hsfi : ∀ p x, sf.insts[p]? = some x →
      (so.insts.push (.brnz cond o1))[p]? = some x ∨ (once = false ∧ p = s1.insts.size - 1 ∧ x = .brz cond o2) := by
    intro p x hx
    rw [hfi] at hx
    cases once with
    | true => exact Or.inl hx
    | false =>
      rcases getElem?_setIfInBounds_cases hx with ⟨e, rfl⟩ | ⟨_, hx⟩
      · exact Or.inr ⟨rfl, e, rfl⟩
      · exact Or.inl hx
  refine vinv_exit (s1 := s1) (sb := sb) (once := once) (fl := (subOf shift body).hasShift)
    (fs' := (s1.insts.size, s.outerAccessed.size, (subOf shift body).hasShift) :: c.frames)
    h (fun hc => child_noShift_loop (h.ns hc)) ?_ hFin hVG hW ?_ ?_ hpre (by omega) hbnm hbtv hbsv ?_ ?_ ?_ ?_ ?_
  · intro hf st j hv; rw [hf] at hv; exact hv
  · rw [hs1i]; cases once
    · exact Pre.push _ _
    · exact Pre.refl _
  · intro p x hp hx
    rw [hs1i] at hx
    cases once with
    | true =>
      have := lt_of_getElem? hx
      simp at this; omega
    | false =>
      simp only [Bool.false_eq_true, if_false] at hx
      rcases getElem?_push_cases hx with ⟨g, _⟩ | ⟨_, g⟩
      · omega
      · rw [g]; rfl
  · intro hf; rw [hval, exitVals_shift hf]
  · intro hf e t ht
    rw [hval] at ht
    cases once with
    | true => rw [exitVals_once hf] at ht; exact Or.inl ⟨rfl, ht⟩
    | false =>
      right
      rw [← hs1e] at ht
      have := exit_table hrun hs1W e t ht
      rw [hs1v] at this
      exact hhv e t this
  · intro hf t r hr
    rw [hfr]
    have hr' : (lhMov shift sb).ranges[t]? = some r := by rw [hsm0 (hshift hf)]; exact hr
    obtain ⟨r', g1, g2, _⟩ := R.fwd t r hr'
    exact ⟨r', g1, g2⟩
  · intro hf p x hx hm
    rcases hsfi p x hx with hx | ⟨_, _, rfl⟩
    · rw [R.insts, hsm0 (hshift hf)] at hx
      rcases getElem?_push_cases hx with ⟨_, g⟩ | ⟨_, g⟩
      · exact ⟨x, g, hm⟩
      · rw [g] at hm; cases hm
    · cases hm
  · intro hf b cnd off hx
    rcases hsfi b _ hx with hx | ⟨e, hb', _⟩
    · rw [R.insts, hsm0 (hshift hf)] at hx
      rcases getElem?_push_cases hx with ⟨_, g⟩ | ⟨_, g⟩
      · exact Or.inl g
      · cases g
    · subst e
      simp at hb1
      exact Or.inr ⟨rfl, by omega⟩

theorem vinv_if_enter {c : VCtx} {ps : Nat} {a : Analysis} {cond shift : Int} {body : List (Ir.Instr w)}
    {rest : List (Ir.Instr w)} {s : St w} (h : VInv c ps a (.ifnz cond shift body :: rest) s) :
    VInv (ifCtx c (subOf shift body).hasShift s (lhPro false false s)) (lhPro false false s).currentStart
      Analysis.empty body (lhPro false false s) := by
  have hcs : (lhPro false false s).currentStart = ps := h.vk.finv.cs
  have hW : WfV (core (lhPro false false s)) := by rw [core_lhPro]; exact h.wfv.blockStart _
  have heq : lhPro false false s = { s with insts := s.insts.push .noop } := rfl
  have hvk : VK c.frames ps (lhPro false false s) := by
    rw [heq]
    exact vk_append (x := .noop) h.vk (linv_push h.vk.finv.linv rfl) rfl rfl rfl rfl (by intro cnd off; simp)
      (by intro cnd off; simp) rfl (fun _ _ g => g)
  have k1 : Keep s (lhPro false false s) := by
    rw [heq]; exact keep_push (x := .noop) rfl rfl (by intro cnd off; simp) rfl
  have hsz : (lhPro false false s).insts.size = s.insts.size + 1 := by rw [heq]; simp
  rw [hcs]
  unfold ifCtx
  refine ⟨hvk, hW, ?_, ?_, Nat.le_refl _, ?_, ?_, ?_, ?_⟩
  · intro hs
    exact (subOf_noShift hs).2.1
  · intro hs
    exact h.mf (flag_of_shift_if h.ns hs)
  · intro _ p x hp hx
    have hp' : (lhPro false false s).insts.size ≤ p := hp
    have := lt_of_getElem? hx
    omega
  · intro hs t B ht
    have hs' : (subOf shift body).hasShift = true := hs
    rw [ht.1] at hs'; cases hs'
  · intro t B ht
    show B ≤ (lhPro false false s).insts.size
    rcases ht.2 with g | ⟨g, _⟩
    · have := h.sb t B g; have := h.bs; omega
    · omega
  · intro t B ht
    obtain ⟨_, ht2⟩ := ht
    have hsv : SV c.frames s t B := by
      rcases ht2 with g | ⟨g, e, he⟩
      · exact h.sv t B g
      · obtain ⟨r, g1, g2⟩ := h.vk.tv e t he
        exact ⟨r, g1, by rw [g]; exact (h.vk.finv.linv.rwf t r g1).1, g2⟩
    exact sv_keep hsv k1

theorem vinv_if_exit {fuse : Bool} {c : VCtx} {ps : Nat} {a : Analysis} {cond shift : Int}
    {body : List (Ir.Instr w)} {rest : List (Ir.Instr w)} {s sb : St w} {u1 : Unit}
    (h : VInv c ps a (.ifnz cond shift body :: rest) s)
    (hrun : emitInsts fuse (lhPro false false s).currentStart body (subsOf body) (lhPro false false s) = .ok (u1, sb))
    (hb : VInv (ifCtx c (subOf shift body).hasShift s (lhPro false false s)) (lhPro false false s).currentStart
      (analyzeInsts body Analysis.empty) [] sb)
    (hpre : Pre (lhPro false false s).insts sb.insts) :
    VInv c ps (analyzeInstr (.ifnz cond shift body : Ir.Instr w) a) rest
      (ifEnd cond shift (subOf shift body) ps s (lhPro false false s) sb) := by
  have hcs : (lhPro false false s).currentStart = ps := h.vk.finv.cs
  have hbF : FInv (toFrames c.frames) ps sb := by
    have := hb.vk.finv; rw [hcs] at this; exact this
  obtain ⟨hFin, hmF⟩ := finv_if_exit (sub := subOf shift body) (cond := cond) (shift := shift) hbF hpre
  have hW : WfV (core (ifEnd cond shift (subOf shift body) ps s (lhPro false false s) sb)) := by
    rw [core_ifEnd]; exact hb.wfv.blockEnd _ _ _ _ _ _
  have hval : (ifEnd cond shift (subOf shift body) ps s (lhPro false false s) sb).values =
      exitVals (subOf shift body) false s.exprs.size sb.exprs sb.values := by
    have := congrArg G.values (core_ifEnd (cond := cond) (shift := shift) (sub := subOf shift body) (ps := ps)
      (s := s) (sb := sb))
    rw [blockEnd_values] at this
    exact this
  have hs1W : WfV (core (lhPro false false s)) := by rw [core_lhPro]; exact h.wfv.blockStart _
  have hs1i : (lhPro false false s).insts = s.insts.push .noop := rfl
  have hs1e : (lhPro false false s).exprs = s.exprs := rfl
  have hs1v : (lhPro false false s).values = s.values := rfl
  obtain ⟨hfr, o2, hfi⟩ := ifEnd_fields cond shift (subOf shift body) ps s (lhPro false false s) sb
  have hbnm := hb.nm
  have hbtv := hb.vk.tv
  have hbsv := hb.sv
  have hbmf := hb.mf
  have hbvg := hb.vk.vg
  unfold ifCtx at hbnm hbtv hbsv hbmf hbvg
  simp only at hbnm hbtv hbsv hbmf hbvg
  have hvgeq : VG c.frames (ifEnd cond shift (subOf shift body) ps s (lhPro false false s) sb) := by
    have hgm : VG c.frames (lhMov shift sb) :=
      vg_lhMov hbvg hbF.lastLt (fun h0 => hbvg.em (hbmf (subOf_shift body h0)))
    have pm := pre_lhMov shift sb
    have hnoop := placeholder_noop false s (hpre.trans pm)
    have hps : ps ≤ s.insts.size := h.vk.finv.ps_le
    have hp := vg_patch (cnd := cond) hgm hnoop (by rw [hmF.cs, hs1i]; simp; exact hps) hmF.lastLt
    unfold ifEnd
    rw [lhExit_eq]
    exact vg_congr hp rfl rfl rfl hmF.cs.symm
  generalize hs1 : lhPro false false s = s1 at *
  generalize hsf : ifEnd cond shift (subOf shift body) ps s s1 sb = sf at *
  have hb1 : s1.insts.size = s.insts.size + 1 := by rw [hs1i]; simp
  have hshift : (subOf shift body).hasShift = false → shift = 0 := fun hf => (subOf_noShift hf).1
  have hsm0 : shift = 0 → lhMov shift sb = sb := by intro h0; unfold lhMov; simp [h0]
  have hsbm : sb.insts.size ≤ (lhMov shift sb).insts.size := (pre_lhMov shift sb).1
  refine vinv_exit (s1 := s1) (sb := sb) (once := false) (fl := (subOf shift body).hasShift)
    (fs' := c.frames) h (fun hc => child_noShift_if (h.ns hc)) (fun _ _ _ hv => hv) hFin hvgeq hW ?_ ?_ hpre
    (by rw [hfi]; simpa using hsbm) hbnm hbtv hbsv ?_ ?_ ?_ ?_ ?_
  · rw [hs1i]; exact Pre.push _ _
  · intro p x hp hx
    rw [hs1i] at hx
    rcases getElem?_push_cases hx with ⟨g, _⟩ | ⟨_, g⟩
    · omega
    · rw [g]; rfl
  · intro hf; rw [hval, exitVals_shift hf]
  · intro hf e t ht
    rw [hval] at ht
    right
    rw [← hs1e] at ht
    have := exit_table hrun hs1W e t ht
    rw [hs1v] at this
    exact this
  · intro hf t r hr
    rw [hfr, hsm0 (hshift hf)]
    exact ⟨r, hr, rfl⟩
  · intro hf p x hx hm
    rw [hfi, hsm0 (hshift hf)] at hx
    rcases getElem?_setIfInBounds_cases hx with ⟨_, rfl⟩ | ⟨_, hx⟩
    · cases hm
    · exact ⟨x, hx, hm⟩
  · intro hf b cnd off hx
    rw [hfi, hsm0 (hshift hf)] at hx
    rcases getElem?_setIfInBounds_cases hx with ⟨e, _⟩ | ⟨_, hx⟩
    · exact Or.inr ⟨rfl, by omega⟩
    · exact Or.inl hx

theorem closedI_vinv (fuse : Bool) : ClosedI fuse (VInv (w := w)) where
  out := fun _ _ _ _ _ _ h => vinv_out h
  inp := fun _ _ _ _ _ _ h => vinv_inp h
  calcR := fun _ _ _ _ _ _ _ _ _ _ h hc hm => vinv_calc h hc hm
  scan := fun _ _ _ _ _ _ _ _ hfu h => vinv_scan hfu h
  loop := fun c ps a cond shift body once rest s _ h =>
    ⟨_, vinv_loop_enter h, fun sb so u1 u2 fuel hrun hb hpre ho => vinv_loop_exit h hrun hb hpre ho⟩
  ifz := fun c ps a cond shift body rest s h =>
    ⟨_, vinv_if_enter h, fun sb u1 hrun hb hpre => vinv_if_exit h hrun hb hpre⟩

def topCtx : VCtx := ⟨[((0 : Nat), (0 : Nat), true)], true, 0, fun _ _ => False⟩

theorem vinv_init (l : List (Ir.Instr w)) : VInv topCtx 0 Analysis.empty l ({} : St w) := by
  refine ⟨⟨finv_init, ?_, ?_⟩, ⟨?_, ?_⟩, ?_, ?_, Nat.le_refl _, ?_, ?_, ?_, ?_⟩
  · refine ⟨?_, Nat.le_refl _, ?_, fun _ => rfl, ?_, ?_, trivial⟩
    · intro f hf
      simp only [topCtx, List.mem_singleton] at hf
      subst hf; exact Nat.le_refl _
    · intro v hv; simp at hv
    · intro b cnd off hb; simp at hb
    · intro p x hx; simp at hx
  · intro e t ht; cases ht
  · simp [core, keys]
  · intro e t ht; cases ht
  · intro hf; cases hf
  · intro _ f hf
    simp only [topCtx, List.mem_singleton] at hf
    subst hf; rfl
  · intro hf; cases hf
  · intro _ t B ht; exact ht
  · intro t B ht; exact ht.elim
  · intro t B ht; exact ht.elim

theorem vinv_of_emit {prog : Ir.Block w} {fuse : Bool} {s : St w} (h : emitState prog fuse = .ok s) :
    VInv topCtx 0 (analyzeInsts prog.insts Analysis.empty) [] s :=
  closedI_emitState (closedI_vinv fuse) h topCtx (vinv_init _)

/-- A value that is in range at the target of a `brz` is in range at the `brz`. -/
theorem flowFwd_of_emit {prog : Ir.Block w} {fuse : Bool} {s : St w} (h : emitState prog fuse = .ok s)
    (j : Nat) (cnd off : Int) (k' : Nat) (hj : s.insts[j]? = some (.brz cnd off))
    (hk : (j : Int) + off = (k' : Int)) (t : Nat) (ht : InRange s t k') : InRange s t j := by
  have hV := (vinv_of_emit h).vk.vg
  obtain ⟨r, L, g1, g2, g3, g4⟩ := ht
  obtain ⟨q1, _, q3⟩ := hV.fw j cnd off hj
  have hlt : r.created < j := by
    apply Nat.lt_of_not_le
    intro hle
    have := q3 t r L g1 g2 (by omega) (by omega)
    omega
  exact ⟨r, L, g1, g2, hlt, by omega⟩

/-- No value is in range at a pointer move. -/
theorem ptr_of_emit {prog : Ir.Block w} {fuse : Bool} {s : St w} (h : emitState prog fuse = .ok s)
    (t j : Nat) (ins : Instr w) (ht : InRange s t j) (hj : s.insts[j]? = some ins) : ptrStable ins = true := by
  have hV := (vinv_of_emit h).vk.vg
  obtain ⟨r, L, g1, g2, g3, g4⟩ := ht
  cases hm : ptrStable ins with
  | true => rfl
  | false =>
    have := hV.pt j ins hj hm t r L g1 g2 g3
    omega

end AEmit
end C02
end Hpbf
