/-
What `analyzeLoop` says about the real loop.

* `real_round`: one completed round of the source block, seen through the child state.
* `cvSeq`: the values of the condition cell at the successive tests, as a TOTAL sequence: the real values as long
  as the loop has heads, afterwards the prediction of the child's symbolic state (`cvNext`).
* `condFacts_real`: the hypotheses of `analyzeLoop_sound'` for this sequence.
* `FactsAt`: the meaning of the flags of `analyzeLoop …` for the source block started in one state, in terms of
  executions; `factsAt_real_g` proves it in the three cases (loop whose body returns, body never
  returns, `if`), `tripFacts_real_g` does the same for the number of rounds `Trip`.
-/
import Hpbf.Proofs.OptLoopTop
import Hpbf.Proofs.OptLoopAnalyze
import Hpbf.Proofs.OptRbLoopShift

namespace Hpbf
namespace OptProof
open Opt OptSem Ir

variable {w : Nat}

theorem getBoth_sound {s : Rebuild w} {ps : List (Rebuild w)} {M0 E S : Mem w} (h : MInv s ps M0 E S)
    {v : Int} {e : Expr w} (he : getBoth s ps v = some e) : S v = ev e M0 := by
  unfold getBoth at he
  split at he
  · rename_i p hp
    rw [h.S_pending hp, evalWritten_sound h he]
  · rename_i hp
    rw [h.S_absent hp, getWritten_sound h he]

/-- The source state re-coordinated to the pointer of the emitted program has the same memory. -/
theorem sameMem_movNeg (shP : Int) (σ : State w) : SameMem shP σ (σ.mov (-shP)) := by
  refine ⟨rfl, rfl, ?_, ?_⟩
  · show σ.ptr = σ.ptr + -shP + shP; omega
  · funext v; rfl

theorem head_first' {c sh : Int} {body : List (Instr w)} {σ x : State w} {k : Nat}
    (h : Head c sh body σ k x) (hk : k ≠ 0) : σ.rd c ≠ 0#w ∧ ∃ y, Exec body σ (.fin y) := by
  obtain ⟨j, rfl⟩ := Nat.exists_eq_succ_of_ne_zero hk
  obtain ⟨h1, y, hy, _⟩ := head_uncons h
  exact ⟨h1, y, hy⟩

theorem block_nofin_of_body {isLoop : Bool} {c sh : Int} {body : List (Instr w)} {o : Bool} {σ : State w}
    (hne : σ.rd c ≠ 0#w) (hb : ∀ x, ¬ Exec body σ (.fin x)) :
    ∀ x, ¬ Exec [blockInstr isLoop c sh body o] σ (.fin x) := by
  intro x hx
  cases isLoop with
  | true =>
    obtain ⟨k, hh, hz⟩ := exec_loop_fin_head hx
    by_cases hk : k = 0
    · subst hk
      cases hh
      exact hne hz
    · obtain ⟨_, y, hy⟩ := head_first' hh hk
      exact hb y hy
  | false =>
    rcases (exec_ifnz_once_iff hne _).1 hx with ⟨hnf, _⟩ | ⟨σ1, hb', _⟩
    · cases hnf
    · exact hb σ1 hb'

/-- What is known about the rebuilt body `sub` of a block whose rounds are looked at one by one: it represents the
source body (`ChildRep`), and every head that is entered is related to the fresh child `sub0`, which has recorded
no write. -/
structure RealCtx (Gc : State w → Prop) (shP shC cS : Int) (bodyS : List (Instr w)) (s : Rebuild w)
    (ps : List (Rebuild w)) (sub0 sub : Rebuild w) : Prop where
  rep : ChildRep Gc shP shC (s :: ps) sub0 (s :: ps) sub bodyS
  entry : EntryAt Gc shP cS (s :: ps) sub0
  w0 : sub0.written = []

section Real
variable {Gc : State w → Prop} {shP shC shS cS : Int} {bodyS : List (Instr w)}
  {s : Rebuild w} {ps : List (Rebuild w)} {sub0 sub : Rebuild w}

theorem real_round
    (hC : RealCtx Gc shP shC cS bodyS s ps sub0 sub)
    {σk a : State w} (hg : Gc σk) (hne : σk.rd cS ≠ 0#w) (hex : Exec bodyS σk (.fin a)) :
    ∃ b M0', Exec sub.insts (σk.mov (-shP)) (.fin b) ∧ RelAt shC sub (s :: ps) M0' b a ∧
      (sub.subShift = false → M0' = memE (σk.mov (-shP)) ∧ b.ptr = (σk.mov (-shP)).ptr) := by
  obtain ⟨M0c, hre⟩ := hC.entry _ _ (sameMem_movNeg shP σk) hne hg
  obtain ⟨hs, _⟩ := hC.rep M0c _ _ hre hg
  obtain ⟨b, hb, M0', hr', hk'⟩ := hs.finL a hex
  refine ⟨b, M0', hb, hr', fun hss => ?_⟩
  obtain ⟨k1, k2⟩ := hk' hss
  refine ⟨?_, k2⟩
  rw [k1]
  funext v
  have := hre.inv.writ v
  rw [hC.w0] at this
  exact this.symm

/-- The body never returns when the child state says so. -/
theorem real_noReturn
    (hC : RealCtx Gc shP shC cS bodyS s ps sub0 sub)
    (hnr : sub.noReturn = true)
    {σk : State w} (hg : Gc σk) (hne : σk.rd cS ≠ 0#w) : ∀ a, ¬ Exec bodyS σk (.fin a) := by
  intro a hex
  obtain ⟨M0c, hre⟩ := hC.entry _ _ (sameMem_movNeg shP σk) hne hg
  obtain ⟨hs, _⟩ := hC.rep M0c _ _ hre hg
  obtain ⟨b, _, M0', hr', _⟩ := hs.finL a hex
  have := hr'.nr
  rw [hnr] at this; cases this

/-- Where the next test finds the condition cell. -/
theorem next_cond {a b : State w} (hptr : a.ptr = b.ptr + shC)
    (hsh : shC + shS = (sub.shift - s.shift) + shP) :
    (a.mov shS).rd cS = memS b a (cS + shP + sub.shift - s.shift) := by
  show a.tape.get (a.ptr + shS + cS) = a.tape.get (b.ptr + (cS + shP + sub.shift - s.shift))
  congr 1; omega

end Real

/-- The value the child's symbolic state predicts for the condition cell at the next test. -/
noncomputable def cvNext (s : Rebuild w) (ps : List (Rebuild w)) (sub : Rebuild w) (cond cond' : Int)
    (prev : BitVec w) : BitVec w :=
  match getConstant sub (s :: ps) cond' with
  | some c => c
  | none =>
    match getBoth sub (s :: ps) cond' with
    | some e => ev e (fun v => if v = cond then prev else 0#w)
    | none => 0#w

theorem cvNext_both {s : Rebuild w} {ps : List (Rebuild w)} {sub : Rebuild w} {cond cond' : Int} {e : Expr w}
    (hc : getConstant sub (s :: ps) cond' = none) (he : getBoth sub (s :: ps) cond' = some e) (prev : BitVec w) :
    cvNext s ps sub cond cond' prev = ev e (fun v => if v = cond then prev else 0#w) := by
  unfold cvNext
  rw [hc, he]

open Classical in
/-- The condition values at the successive tests: real while the loop has heads, predicted afterwards. -/
noncomputable def cvSeq (cS shS : Int) (bodyS : List (Instr w)) (σS : State w) (nxt : BitVec w → BitVec w) :
    Nat → BitVec w
  | 0 => σS.rd cS
  | k + 1 =>
    if h : ∃ σ, Head cS shS bodyS σS (k + 1) σ then (Classical.choose h).rd cS
    else nxt (cvSeq cS shS bodyS σS nxt k)

theorem cvSeq_head {cS shS : Int} {bodyS : List (Instr w)} {σS : State w} {nxt : BitVec w → BitVec w}
    {k : Nat} {σk : State w} (h : Head cS shS bodyS σS k σk) : cvSeq cS shS bodyS σS nxt k = σk.rd cS := by
  cases k with
  | zero => cases h; rfl
  | succ k =>
    unfold cvSeq
    have hex : ∃ σ, Head cS shS bodyS σS (k + 1) σ := ⟨σk, h⟩
    rw [dif_pos hex]
    rw [head_det (Classical.choose_spec hex) h]

theorem cvSeq_nohead {cS shS : Int} {bodyS : List (Instr w)} {σS : State w} {nxt : BitVec w → BitVec w}
    {k : Nat} (h : ¬ ∃ σ, Head cS shS bodyS σS (k + 1) σ) :
    cvSeq cS shS bodyS σS nxt (k + 1) = nxt (cvSeq cS shS bodyS σS nxt k) := by
  conv => lhs; unfold cvSeq
  rw [dif_neg h]

/-- A head is preceded by heads with non-zero condition. -/
theorem head_pred {c sh : Int} {body : List (Instr w)} {σ σ' : State w} {k : Nat}
    (h : Head c sh body σ (k + 1) σ') :
    ∃ σk a, Head c sh body σ k σk ∧ σk.rd c ≠ 0#w ∧ Exec body σk (.fin a) ∧ σ' = a.mov sh := by
  cases h with
  | succ hprev hne hex => exact ⟨_, _, hprev, hne, hex, rfl⟩

section Cond
variable {Gc : State w → Prop} {shP shC shS cS : Int} {bodyS : List (Instr w)}
  {s : Rebuild w} {ps : List (Rebuild w)} {sub0 sub : Rebuild w}

/-- The hypotheses of `analyzeLoop_sound'` hold for `cvSeq` (source block = a loop). -/
theorem condFacts_real {M0 : Mem w} {σE σS : State w} {cond : Int}
    (hrel : RelAt shP s ps M0 σE σS) (hcond : cond = cS + shP)
    (hsh : shC + shS = (sub.shift - s.shift) + shP)
    (hC : RealCtx Gc shP shC cS bodyS s ps sub0 sub)
    (hGcH : ∀ k σk, Head cS shS bodyS σS k σk → σk.rd cS ≠ 0#w → Gc σk) :
    OptLoop.CondFacts' s ps sub cond true
      (cvSeq cS shS bodyS σS (cvNext s ps sub cond (cond + sub.shift - s.shift))) := by
  have h0 : cvSeq cS shS bodyS σS (cvNext s ps sub cond (cond + sub.shift - s.shift)) 0 = memS σE σS cond := by
    show σS.rd cS = _
    rw [hrel.rdS cS, hcond]
  refine ⟨?_, ?_, (fun h => by cases h), ?_, ?_⟩
  · intro c hc
    rw [h0]; exact getConstant_sound hrel.inv hc
  · intro hz
    rw [h0]; exact isNonZero_sound hrel.inv hz
  · intro c hc k _
    by_cases hex : ∃ σ, Head cS shS bodyS σS (k + 1) σ
    · obtain ⟨σ', hh⟩ := hex
      obtain ⟨σk, a, hk, hne, hexa, rfl⟩ := head_pred hh
      rw [cvSeq_head hh]
      obtain ⟨b, M0', _, hr', _⟩ := real_round hC (hGcH k σk hk hne) hne hexa
      rw [next_cond hr'.ptr hsh, ← hcond]
      exact getConstant_sound hr'.inv hc
    · rw [cvSeq_nohead hex]
      unfold cvNext
      rw [hc]
  · intro e hcn hss he k _
    by_cases hex : ∃ σ, Head cS shS bodyS σS (k + 1) σ
    · obtain ⟨σ', hh⟩ := hex
      obtain ⟨σk, a, hk, hne, hexa, rfl⟩ := head_pred hh
      obtain ⟨b, M0', _, hr', hk'⟩ := real_round hC (hGcH k σk hk hne) hne hexa
      obtain ⟨hM0, _⟩ := hk' hss
      refine ⟨memE (σk.mov (-shP)), ?_, ?_⟩
      · rw [cvSeq_head hk, hcond]
        show σk.tape.get (σk.ptr + -shP + (cS + shP)) = σk.tape.get (σk.ptr + cS)
        rw [Int.add_assoc, Int.add_comm cS shP, ← Int.add_assoc (-shP), Int.add_left_neg, Int.zero_add]
      · rw [cvSeq_head hh, next_cond hr'.ptr hsh, ← hcond, ← hM0]
        exact getBoth_sound hr'.inv he
    · refine ⟨fun v => if v = cond then cvSeq cS shS bodyS σS
        (cvNext s ps sub cond (cond + sub.shift - s.shift)) k else 0#w, by simp, ?_⟩
      rw [cvSeq_nohead hex, cvNext_both hcn he]

end Cond

/-- Meaning of the flags of `L` for the source block `blockInstr isLoop cS shS bodyS oS` started in `σS`. -/
structure FactsAt (isLoop : Bool) (cS shS : Int) (bodyS : List (Instr w)) (oS : Bool) (L : OptLoop w)
    (σS : State w) : Prop where
  never : L.never = true → σS.rd cS = 0#w
  alo : L.atLeastOnce = true → σS.rd cS ≠ 0#w
  amo : L.atMostOnce = true → isLoop = true → σS.rd cS ≠ 0#w →
    ∀ σ1, Exec bodyS σS (.fin σ1) → (σ1.mov shS).rd cS = 0#w
  ifamo : isLoop = false → L.atMostOnce = true
  nc : L.noContinue = true → ∀ x, ¬ Exec [blockInstr isLoop cS shS bodyS oS] σS (.fin x)
  ne : L.noEffect = true → σS.rd cS = 0#w ∨ ∀ x, ¬ Exec [blockInstr isLoop cS shS bodyS oS] σS (.fin x)
  fin : L.finite = true → L.atMostOnce = false →
    (∀ k σk, Head cS shS bodyS σS k σk → σk.rd cS ≠ 0#w → ∃ σ', Exec bodyS σk (.fin σ')) →
    ∃ k σk, Head cS shS bodyS σS k σk ∧ σk.rd cS = 0#w

/-- From the meaning of the flags for a sequence that follows the real heads of a loop. -/
theorem factsAt_of_meaning {cS shS : Int} {bodyS : List (Instr w)} {oS : Bool} {L : OptLoop w} {σS : State w}
    {cv : Nat → BitVec w} {cond : Int} (hm : OptLoop.LoopMeaning L cv cond)
    (hcv : ∀ k σk, Head cS shS bodyS σS k σk → cv k = σk.rd cS) :
    FactsAt true cS shS bodyS oS L σS := by
  have h0 : cv 0 = σS.rd cS := hcv 0 σS Head.zero
  have hdiv : OptLoop.Diverges cv → ∀ x, ¬ Exec [blockInstr true cS shS bodyS oS] σS (.fin x) := by
    intro hd x hx
    obtain ⟨k, hh, hz⟩ := exec_loop_fin_head hx
    exact hd k (by rw [hcv k x hh]; exact hz)
  refine ⟨?_, ?_, ?_, (fun h => by cases h), ?_, ?_, ?_⟩
  · intro h; rw [← h0]; exact hm.never h
  · intro h; rw [← h0]; exact hm.atLeastOnce h
  · intro h _ hne σ1 hex
    have hh : Head cS shS bodyS σS 1 (σ1.mov shS) := Head.succ Head.zero hne hex
    rcases hm.atMostOnce h with h' | h'
    · rw [h0] at h'; exact absurd h' hne
    · rw [← hcv 1 _ hh]; exact h'
  · intro h; exact hdiv (hm.noContinue h)
  · intro h
    rcases hm.noEffect h with h' | h'
    · left; rw [← h0]; exact h'
    · right; exact hdiv h'
  · intro h _ hall
    obtain ⟨n, hn1, hn2⟩ := hm.finite h
    have hex : ∀ j, j ≤ n → ∃ σj, Head cS shS bodyS σS j σj := by
      intro j
      induction j with
      | zero => intro _; exact ⟨σS, Head.zero⟩
      | succ j ih =>
        intro hj
        obtain ⟨σj, hh⟩ := ih (by omega)
        have hne : σj.rd cS ≠ 0#w := by rw [← hcv j σj hh]; exact hn1 j (by omega)
        obtain ⟨σ', hex'⟩ := hall j σj hh hne
        exact ⟨_, Head.succ hh hne hex'⟩
    obtain ⟨σn, hh⟩ := hex n (Nat.le_refl n)
    exact ⟨n, σn, hh, by rw [← hcv n σn hh]; exact hn2⟩

/-- `analyzeLoop` for an `if` whose body returns. -/
theorem analyzeLoop_if (s : Rebuild w) (ps : List (Rebuild w)) (sub : Rebuild w) (cond : Int)
    (hnr : sub.noReturn = false) :
    (getConstant s ps cond = some 0#w ∧ analyzeLoop s ps sub cond false = OptLoop.ofExpr (Expr.val 0#w)) ∨
    analyzeLoop s ps sub cond false = OptLoop.atMostOnceOf (isNonZero s ps cond) := by
  by_cases h0 : (getConstant s ps cond == some 0#w) = true
  · exact Or.inl ⟨by simpa using h0, if_pos h0⟩
  · refine Or.inr ((if_neg h0).trans ?_)
    rw [hnr]
    rfl

theorem atMostOnceOf_amo (b : Bool) : (OptLoop.atMostOnceOf b : OptLoop w).atMostOnce = true := by
  cases b with
  | false => rfl
  | true =>
    show (OptLoop.ofExpr (Expr.val 1#w) : OptLoop w).atMostOnce = true
    simp [OptLoop.ofExpr, OptLoop.constant_val]

theorem ofExpr_zero_amo : (OptLoop.ofExpr (Expr.val 0#w) : OptLoop w).atMostOnce = true := by
  simp [OptLoop.ofExpr, OptLoop.constant_val]

/-- From the meaning of the flags for the two-element sequence of an `if`. -/
theorem factsAt_if {cS shS : Int} {bodyS : List (Instr w)} {oS : Bool} {L : OptLoop w} {σS : State w}
    {cond : Int} (hm : OptLoop.LoopMeaning L (fun k => if k = 0 then σS.rd cS else 0#w) cond)
    (hamo : L.atMostOnce = true) : FactsAt false cS shS bodyS oS L σS := by
  have hnd : ¬ OptLoop.Diverges (fun k => if k = 0 then σS.rd cS else 0#w) := fun hd => hd 1 (by simp)
  refine ⟨?_, ?_, (fun _ h => by cases h), fun _ => hamo, ?_, ?_, ?_⟩
  · intro h; simpa using hm.never h
  · intro h; simpa using hm.atLeastOnce h
  · intro h; exact absurd (hm.noContinue h) hnd
  · intro h
    rcases hm.noEffect h with h' | h'
    · left; simpa using h'
    · exact absurd h' hnd
  · intro _ h; rw [hamo] at h; cases h

/-- `n` is the number of rounds of a terminating run of the source block started in `σS`. -/
def Trip (isLoop : Bool) (cS shS : Int) (bodyS : List (Instr w)) (σS : State w) (n : Nat) : Prop :=
  if isLoop then ∃ σn, Head cS shS bodyS σS n σn ∧ σn.rd cS = 0#w
  else (n = 0 ∧ σS.rd cS = 0#w) ∨ (n = 1 ∧ σS.rd cS ≠ 0#w ∧ ∃ a, Exec bodyS σS (.fin a))

theorem head_prefix {c sh : Int} {body : List (Instr w)} {σ σN : State w} {N : Nat}
    (h : Head c sh body σ N σN) : ∀ k, k < N → ∃ σk a, Head c sh body σ k σk ∧ σk.rd c ≠ 0#w ∧
      Exec body σk (.fin a) ∧ Head c sh body σ (k + 1) (a.mov sh) := by
  induction h with
  | zero => intro k hk; omega
  | @succ N' σN' σ' hprev hne hex ih =>
    intro k hk
    by_cases hkN : k = N'
    · subst hkN
      exact ⟨σN', σ', hprev, hne, hex, Head.succ hprev hne hex⟩
    · exact ih k (by omega)

section Facts
variable {Gc : State w → Prop} {shP shC shS cS : Int} {bodyS : List (Instr w)}
  {s : Rebuild w} {ps : List (Rebuild w)} {sub0 sub : Rebuild w}

/-- **The flags of `analyzeLoop` are right for the source block**, for one source state related through the
parent. -/
theorem factsAt_real_g (hw : 0 < w) {M0 : Mem w} {σE σS : State w} {cond : Int} {isLoop oS : Bool}
    (hrel : RelAt shP s ps M0 σE σS) (hcond : cond = cS + shP)
    (hsh : shC + shS = (sub.shift - s.shift) + shP)
    (hC : RealCtx Gc shP shC cS bodyS s ps sub0 sub)
    (hGcH : HeadsAt Gc cS shS bodyS (isLoop = false) σS) :
    FactsAt isLoop cS shS bodyS oS (analyzeLoop s ps sub cond isLoop) σS := by
  have hc0 : σS.rd cS = memS σE σS cond := by rw [hrel.rdS cS, hcond]
  cases hnr : sub.noReturn with
  | true =>
    -- the body never returns
    have hnb : σS.rd cS ≠ 0#w → ∀ a, ¬ Exec bodyS σS (.fin a) :=
      fun hne => real_noReturn hC hnr (hGcH 0 σS Head.zero (fun _ => rfl) hne) hne
    rcases OptLoop.analyzeLoop_noReturn s ps sub cond isLoop hnr with ⟨hc, heq⟩ | ⟨_, heq⟩
    · rw [heq]
      have hz : σS.rd cS = 0#w := by rw [hc0]; exact getConstant_sound hrel.inv hc
      refine ⟨fun _ => hz, ?_, fun _ _ hne => absurd hz hne, fun _ => ofExpr_zero_amo, ?_, fun _ => Or.inl hz, ?_⟩
      · intro h; simp [OptLoop.ofExpr, OptLoop.constant_val] at h
      · intro h; simp [OptLoop.ofExpr] at h
      · intro _ h; rw [ofExpr_zero_amo] at h; cases h
    · rw [heq]
      have hal : isNonZero s ps cond = true → σS.rd cS ≠ 0#w := by
        intro h; rw [hc0]; exact isNonZero_sound hrel.inv h
      refine ⟨?_, ?_, ?_, fun _ => rfl, ?_, ?_, ?_⟩
      · intro h; simp [OptLoop.noReturn] at h
      · intro h; exact hal (by simpa [OptLoop.noReturn] using h)
      · intro _ _ hne σ1 hex; exact absurd hex (hnb hne σ1)
      · intro h
        have hne := hal (by simpa [OptLoop.noReturn] using h)
        exact block_nofin_of_body hne (hnb hne)
      · intro _
        by_cases hz : σS.rd cS = 0#w
        · exact Or.inl hz
        · exact Or.inr (block_nofin_of_body hz (hnb hz))
      · intro _ h; simp [OptLoop.noReturn] at h
  | false =>
    cases isLoop with
    | true =>
      have hcf := condFacts_real hrel hcond hsh hC
        (fun k σk hh hne => hGcH k σk hh (fun h => by cases h) hne)
      have hm := OptLoop.analyzeLoop_sound' hw s ps sub cond true _ hcf hnr
      exact factsAt_of_meaning hm (fun k σk hh => cvSeq_head hh)
    | false =>
      have hnz : isNonZero s ps cond = true → σS.rd cS ≠ 0#w := by
        intro h; rw [hc0]; exact isNonZero_sound hrel.inv h
      rcases analyzeLoop_if s ps sub cond hnr with ⟨hc, heq⟩ | heq
      · rw [heq]
        have hz : σS.rd cS = 0#w := by rw [hc0]; exact getConstant_sound hrel.inv hc
        refine factsAt_if (cond := cond) ?_ ofExpr_zero_amo
        apply OptLoop.ofExpr_val_meaning
        refine ⟨fun k hk => ?_, ?_⟩
        · simp at hk
        · simpa using hz
      · rw [heq]
        refine factsAt_if (cond := cond) ?_ (atMostOnceOf_amo _)
        exact OptLoop.atMostOnceOf_meaning hw _ cond _ (by simpa using hnz) (fun _ => by simp)

end Facts

section TripFacts
variable {Gc : State w → Prop} {shP shC shS cS : Int} {bodyS : List (Instr w)}
  {s : Rebuild w} {ps : List (Rebuild w)} {sub0 sub : Rebuild w}

/-- What the loop-motion pack needs to know about the number of rounds. -/
theorem tripFacts_real_g (hw : 0 < w) {M0 : Mem w} {σE σS : State w} {cond : Int} {isLoop : Bool}
    (hrel : RelAt shP s ps M0 σE σS) (hcond : cond = cS + shP)
    (hsh : shC + shS = (sub.shift - s.shift) + shP)
    (hC : RealCtx Gc shP shC cS bodyS s ps sub0 sub)
    (hGcH : HeadsAt Gc cS shS bodyS (isLoop = false) σS)
    {n : Nat} (ht : Trip isLoop cS shS bodyS σS n) :
    OptLoop.TripFacts (analyzeLoop s ps sub cond isLoop) n (memS σE σS) ∧
    ((analyzeLoop s ps sub cond isLoop).atMostOnce = true → n ≤ 1) ∧
    ((analyzeLoop s ps sub cond isLoop).noEffect = true → n = 0) := by
  have hc0 : σS.rd cS = memS σE σS cond := by rw [hrel.rdS cS, hcond]
  cases hnr : sub.noReturn with
  | true =>
    have hnb : σS.rd cS ≠ 0#w → ∀ a, ¬ Exec bodyS σS (.fin a) :=
      fun hne => real_noReturn hC hnr (hGcH 0 σS Head.zero (fun _ => rfl) hne) hne
    -- no round is completed
    have hn0 : n = 0 ∧ σS.rd cS = 0#w := by
      unfold Trip at ht
      cases isLoop with
      | true =>
        simp only [if_true] at ht
        obtain ⟨σn, hh, hz⟩ := ht
        by_cases hn : n = 0
        · subst hn; cases hh; exact ⟨rfl, hz⟩
        · obtain ⟨hne, y, hy⟩ := head_first' hh hn
          exact absurd hy (hnb hne y)
      | false =>
        simp only [Bool.false_eq_true, if_false] at ht
        rcases ht with h | ⟨_, hne, a, ha⟩
        · exact h
        · exact absurd ha (hnb hne a)
    obtain ⟨rfl, hz⟩ := hn0
    rcases OptLoop.analyzeLoop_noReturn s ps sub cond isLoop hnr with ⟨_, heq⟩ | ⟨_, heq⟩
    · rw [heq]
      have hm : OptLoop.LoopMeaning (OptLoop.ofExpr (Expr.val 0#w)) (fun _ => (0#w : BitVec w)) cond := by
        apply OptLoop.ofExpr_val_meaning
        exact ⟨fun k hk => by simp at hk, rfl⟩
      exact OptLoop.tripFacts_of_meaning hw hm _ (by rw [← hc0]; exact hz) 0 ⟨fun k hk => by omega, rfl⟩
    · rw [heq]
      refine ⟨?_, fun _ => by omega, fun _ => rfl⟩
      intro expr he
      have hal : isNonZero s ps cond = false := by
        cases h : isNonZero s ps cond with
        | false => rfl
        | true =>
          have := isNonZero_sound hrel.inv h
          rw [← hc0] at this
          exact absurd hz this
      simp [OptLoop.noReturn, hal] at he
  | false =>
    cases isLoop with
    | true =>
      have hcf := condFacts_real hrel hcond hsh hC
        (fun k σk hh hne => hGcH k σk hh (fun h => by cases h) hne)
      have hm := OptLoop.analyzeLoop_sound' hw s ps sub cond true _ hcf hnr
      unfold Trip at ht
      simp only [if_true] at ht
      obtain ⟨σn, hh, hz⟩ := ht
      refine OptLoop.tripFacts_of_meaning hw hm _ ?_ n ⟨?_, ?_⟩
      · show memS σE σS cond = σS.rd cS
        exact hc0.symm
      · intro k hk
        obtain ⟨σk, _, hhk, hne, _, _⟩ := head_prefix hh k hk
        rw [cvSeq_head hhk]; exact hne
      · rw [cvSeq_head hh]; exact hz
    | false =>
      have hnz : isNonZero s ps cond = true → σS.rd cS ≠ 0#w := by
        intro h; rw [hc0]; exact isNonZero_sound hrel.inv h
      have hm : OptLoop.LoopMeaning (analyzeLoop s ps sub cond false)
          (fun k => if k = 0 then σS.rd cS else 0#w) cond := by
        rcases analyzeLoop_if s ps sub cond hnr with ⟨hc, heq⟩ | heq
        · rw [heq]
          have hz : σS.rd cS = 0#w := by rw [hc0]; exact getConstant_sound hrel.inv hc
          apply OptLoop.ofExpr_val_meaning
          exact ⟨fun k hk => by simp at hk, by simpa using hz⟩
        · rw [heq]
          exact OptLoop.atMostOnceOf_meaning hw _ cond _ (by simpa using hnz) (fun _ => by simp)
      unfold Trip at ht
      simp only [Bool.false_eq_true, if_false] at ht
      refine OptLoop.tripFacts_of_meaning hw hm _ (by simpa using hc0.symm) n ?_
      rcases ht with ⟨rfl, hz⟩ | ⟨rfl, hne, _⟩
      · exact ⟨fun k hk => by omega, by simpa using hz⟩
      · refine ⟨fun k hk => ?_, by simp⟩
        have : k = 0 := by omega
        subst this
        simpa using hne

end TripFacts

end OptProof
end Hpbf
