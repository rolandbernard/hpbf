/-
The static well-formedness of a `Rebuild` state (`Wf`: canonical maps, `reverse` is
the inverse index of `pending`) and its preservation by `removePending` / `insertPending` / `insertWritten`.
-/
import Hpbf.Proofs.OptRbMap

namespace Hpbf
namespace OptProof
open Opt OptSem

variable {w : Nat}

/-- `u` is recorded as a user of `v`. -/
def memR (R : List (Int × List Int)) (v u : Int) : Prop := ∃ us, mGet R v = some us ∧ u ∈ us

/-- `reverse` is the inverse index of `pending`: `u ∈ reverse v ↔ u ≠ v ∧ v ∈ vars (pending u)`. -/
def RevOk (P : List (Int × Expr w)) (R : List (Int × List Int)) : Prop :=
  ∀ v u, memR R v u ↔ (u ≠ v ∧ ∃ e, mGet P u = some e ∧ v ∈ Expr.variables e)

structure Wf (s : Rebuild w) : Prop where
  pend : Sorted s.pending
  writ : Sorted s.written
  rev : Sorted s.reverse
  revOk : RevOk s.pending s.reverse

/-- `Wf` depends only on `pending`, `written`, `reverse`. -/
theorem Wf.congr {s s' : Rebuild w} (h : Wf s) (hp : s'.pending = s.pending) (hw : s'.written = s.written)
    (hr : s'.reverse = s.reverse) : Wf s' :=
  ⟨by rw [hp]; exact h.pend, by rw [hw]; exact h.writ, by rw [hr]; exact h.rev, by rw [hp, hr]; exact h.revOk⟩

theorem wf_new (shift : Int) (cond : Option Int) (par : OptParent) (anal : Option (OptAnalysis w)) :
    Wf (Rebuild.new shift cond par anal) := by
  refine ⟨sorted_nil, sorted_nil, sorted_nil, ?_⟩
  intro v u
  simp [memR, Rebuild.new, mGet]

/-- One step of the `reverse` update of `removePending`. -/
def revDrop (var : Int) (rev : List (Int × List Int)) (v : Int) : List (Int × List Int) :=
  match mGet rev v with
  | some users =>
    let users := sRem users var
    if users.isEmpty then mErase rev v else mSet rev v users
  | none => rev

theorem removePending_eq (s : Rebuild w) (var : Int) :
    removePending s var =
      match mGet s.pending var with
      | none => (s, none)
      | some expr =>
        ({ s with pending := mErase s.pending var,
                  reverse := (Expr.variables expr).foldl (revDrop var) s.reverse }, some expr) := by
  unfold removePending revDrop; rfl

theorem removePending_of_none {s : Rebuild w} {var : Int} (h : mGet s.pending var = none) :
    (removePending s var).1 = s := by
  rw [removePending_eq, h]

theorem sorted_revDrop {rev : List (Int × List Int)} (h : Sorted rev) (var x : Int) :
    Sorted (revDrop var rev x) := by
  unfold revDrop
  split
  · simp only
    split
    · exact sorted_mErase h _
    · exact sorted_mSet h _ _
  · exact h

theorem memR_revDrop {rev : List (Int × List Int)} (h : Sorted rev) (var x v u : Int) :
    memR (revDrop var rev x) v u ↔ memR rev v u ∧ ¬ (v = x ∧ u = var) := by
  unfold revDrop
  split
  · rename_i users hx
    simp only
    split
    · rename_i hem
      rw [List.isEmpty_iff] at hem
      unfold memR
      simp only [mGet_mErase h]
      by_cases hv : x = v
      · subst hv
        simp only [if_true]
        constructor
        · rintro ⟨us, h1, _⟩; cases h1
        · rintro ⟨⟨us, h1, h2⟩, h3⟩
          rw [hx] at h1; cases h1
          have : u ∈ sRem users var := mem_sRem.2 ⟨h2, fun e => h3 (by simp [e])⟩
          rw [hem] at this; simp at this
      · simp only [hv, if_false]
        have : ¬ v = x := fun e => hv e.symm
        simp [this]
    · unfold memR
      simp only [mGet_mSet]
      by_cases hv : x = v
      · subst hv
        simp only [if_true, Option.some.injEq, exists_eq_left', hx]
        rw [mem_sRem]
        simp
      · simp only [hv, if_false]
        have : ¬ v = x := fun e => hv e.symm
        simp [this]
  · rename_i hx
    constructor
    · intro hm
      refine ⟨hm, ?_⟩
      rintro ⟨rfl, _⟩
      obtain ⟨us, h1, _⟩ := hm
      rw [hx] at h1; cases h1
    · exact fun hm => hm.1

theorem sorted_foldl_revDrop {rev : List (Int × List Int)} (h : Sorted rev) (var : Int) (vs : List Int) :
    Sorted (vs.foldl (revDrop var) rev) := by
  induction vs generalizing rev with
  | nil => exact h
  | cons x vs ih => exact ih (sorted_revDrop h var x)

theorem memR_foldl_revDrop {rev : List (Int × List Int)} (h : Sorted rev) (var : Int) (vs : List Int)
    (v u : Int) :
    memR (vs.foldl (revDrop var) rev) v u ↔ memR rev v u ∧ ¬ (v ∈ vs ∧ u = var) := by
  induction vs generalizing rev with
  | nil => simp
  | cons x vs ih =>
    simp only [List.foldl_cons]
    rw [ih (sorted_revDrop h var x), memR_revDrop h]
    simp only [List.mem_cons]
    constructor
    · rintro ⟨⟨h1, h2⟩, h3⟩
      refine ⟨h1, ?_⟩
      rintro ⟨h4 | h4, h5⟩
      · exact h2 ⟨h4, h5⟩
      · exact h3 ⟨h4, h5⟩
    · rintro ⟨h1, h2⟩
      exact ⟨⟨h1, fun h3 => h2 ⟨Or.inl h3.1, h3.2⟩⟩, fun h3 => h2 ⟨Or.inr h3.1, h3.2⟩⟩

/-- The fields `removePending` does not touch. -/
theorem uncertainShift_wf {s : Rebuild w} (h : Wf s) : Wf (uncertainShift s) :=
  ⟨h.pend, sorted_nil, h.rev, h.revOk⟩

/-- Everything but `anal` is the same (`popSubAnal`, `reverseSubBlocks`). -/
structure SameButAnal (s s' : Rebuild w) : Prop where
  parent : s'.parent = s.parent
  shift : s'.shift = s.shift
  cond : s'.cond = s.cond
  subShift : s'.subShift = s.subShift
  noReturn : s'.noReturn = s.noReturn
  reads : s'.reads = s.reads
  written : s'.written = s.written
  pending : s'.pending = s.pending
  reverse : s'.reverse = s.reverse
  insts : s'.insts = s.insts
  subAnal : s'.subAnal = s.subAnal

theorem SameButAnal.wf {s s' : Rebuild w} (h : SameButAnal s s') (hwf : Wf s) : Wf s' :=
  ⟨by rw [h.pending]; exact hwf.pend, by rw [h.written]; exact hwf.writ, by rw [h.reverse]; exact hwf.rev,
    by rw [h.pending, h.reverse]; exact hwf.revOk⟩

structure SameButPend (s s' : Rebuild w) : Prop where
  parent : s'.parent = s.parent
  anal : s'.anal = s.anal
  shift : s'.shift = s.shift
  cond : s'.cond = s.cond
  subShift : s'.subShift = s.subShift
  noReturn : s'.noReturn = s.noReturn
  reads : s'.reads = s.reads
  written : s'.written = s.written
  insts : s'.insts = s.insts
  subAnal : s'.subAnal = s.subAnal

theorem SameButPend.refl (s : Rebuild w) : SameButPend s s :=
  ⟨rfl, rfl, rfl, rfl, rfl, rfl, rfl, rfl, rfl, rfl⟩

theorem SameButPend.trans {a b c : Rebuild w} (h1 : SameButPend a b) (h2 : SameButPend b c) :
    SameButPend a c := by
  obtain ⟨a1, a2, a3, a4, a5, a6, a7, a8, a9, a10⟩ := h1
  obtain ⟨b1, b2, b3, b4, b5, b6, b7, b8, b9, b10⟩ := h2
  exact ⟨b1.trans a1, b2.trans a2, b3.trans a3, b4.trans a4, b5.trans a5, b6.trans a6, b7.trans a7,
    b8.trans a8, b9.trans a9, b10.trans a10⟩

theorem removePending_snd (s : Rebuild w) (var : Int) : (removePending s var).2 = mGet s.pending var := by
  rw [removePending_eq]; cases mGet s.pending var <;> rfl

theorem removePending_pending (s : Rebuild w) (var : Int) :
    (removePending s var).1.pending = mErase s.pending var := by
  rw [removePending_eq]
  cases hg : mGet s.pending var with
  | some e => rfl
  | none => exact (mErase_of_none hg).symm

theorem removePending_same (s : Rebuild w) (var : Int) : SameButPend s (removePending s var).1 := by
  rw [removePending_eq]
  cases mGet s.pending var <;> exact ⟨rfl, rfl, rfl, rfl, rfl, rfl, rfl, rfl, rfl, rfl⟩

theorem removePending_wf {s : Rebuild w} (h : Wf s) (var : Int) : Wf (removePending s var).1 := by
  rw [removePending_eq]
  cases hg : mGet s.pending var with
  | none => exact h
  | some expr =>
    refine ⟨sorted_mErase h.pend _, h.writ, sorted_foldl_revDrop h.rev _ _, ?_⟩
    intro v u
    show memR ((Expr.variables expr).foldl (revDrop var) s.reverse) v u ↔
      (u ≠ v ∧ ∃ e, mGet (mErase s.pending var) u = some e ∧ v ∈ Expr.variables e)
    rw [memR_foldl_revDrop h.rev, h.revOk v u, mGet_mErase h.pend]
    constructor
    · rintro ⟨⟨h1, e, h2, h3⟩, h4⟩
      refine ⟨h1, e, ?_, h3⟩
      by_cases hu : var = u
      · subst hu
        rw [hg] at h2; cases h2
        exact absurd ⟨h3, rfl⟩ h4
      · simp [hu, h2]
    · rintro ⟨h1, e, h2, h3⟩
      by_cases hu : var = u
      · simp [hu] at h2
      · simp only [hu, if_false] at h2
        exact ⟨⟨h1, e, h2, h3⟩, fun h4 => hu h4.2.symm⟩

theorem removePending_get {s : Rebuild w} (h : Wf s) (var k : Int) :
    mGet (removePending s var).1.pending k = if var = k then none else mGet s.pending k := by
  rw [removePending_pending, mGet_mErase h.pend]

/-- What `insertWritten` stores. -/
def normW (k : OptWrite w) : OptWrite w :=
  match k with
  | .known e => OptWrite.known (Expr.normalize e)
  | v => v

theorem normW_nonknown (k : OptWrite w) (hk : ∀ e, k ≠ .known e) : normW k = k := by
  cases k with
  | known e => exact absurd rfl (hk e)
  | unknown => rfl
  | maybe => rfl

theorem insertWritten_written (s : Rebuild w) (var : Int) (val : OptWrite w) :
    (insertWritten s var val).written = mSet s.written var (normW val) := by
  unfold insertWritten; cases val <;> rfl

/-- The fields `insertWritten` does not touch. -/
structure SameButWritten (s s' : Rebuild w) : Prop where
  parent : s'.parent = s.parent
  anal : s'.anal = s.anal
  shift : s'.shift = s.shift
  cond : s'.cond = s.cond
  subShift : s'.subShift = s.subShift
  noReturn : s'.noReturn = s.noReturn
  reads : s'.reads = s.reads
  pending : s'.pending = s.pending
  reverse : s'.reverse = s.reverse
  insts : s'.insts = s.insts
  subAnal : s'.subAnal = s.subAnal

theorem insertWritten_same (s : Rebuild w) (var : Int) (val : OptWrite w) :
    SameButWritten s (insertWritten s var val) := by
  unfold insertWritten; cases val <;> exact ⟨rfl, rfl, rfl, rfl, rfl, rfl, rfl, rfl, rfl, rfl, rfl⟩

theorem insertWritten_wf {s : Rebuild w} (h : Wf s) (var : Int) (val : OptWrite w) :
    Wf (insertWritten s var val) := by
  have hs := insertWritten_same s var val
  refine ⟨by rw [hs.pending]; exact h.pend, ?_, by rw [hs.reverse]; exact h.rev,
    by rw [hs.pending, hs.reverse]; exact h.revOk⟩
  rw [insertWritten_written]; exact sorted_mSet h.writ _ _

/-- One step of the `reverse` update of `insertPending`. -/
def revAdd (var : Int) (rev : List (Int × List Int)) (v : Int) : List (Int × List Int) :=
  mSet rev v (sIns ((mGet rev v).getD []) var)

theorem memR_revAdd (rev : List (Int × List Int)) (var x v u : Int) :
    memR (revAdd var rev x) v u ↔ memR rev v u ∨ (v = x ∧ u = var) := by
  unfold revAdd memR
  simp only [mGet_mSet]
  by_cases hv : x = v
  · subst hv
    simp only [if_true, Option.some.injEq, exists_eq_left', mem_sIns]
    cases hx : mGet rev x with
    | none => simp
    | some us => simp; exact Or.comm
  · simp only [hv, if_false]
    have : ¬ v = x := fun e => hv e.symm
    simp [this]

theorem sorted_foldl_revAdd {rev : List (Int × List Int)} (h : Sorted rev) (var : Int) (vs : List Int) :
    Sorted (vs.foldl (revAdd var) rev) := by
  induction vs generalizing rev with
  | nil => exact h
  | cons x vs ih => exact ih (sorted_mSet h _ _)

theorem memR_foldl_revAdd (rev : List (Int × List Int)) (var : Int) (vs : List Int) (v u : Int) :
    memR (vs.foldl (revAdd var) rev) v u ↔ memR rev v u ∨ (v ∈ vs ∧ u = var) := by
  induction vs generalizing rev with
  | nil => simp
  | cons x vs ih =>
    simp only [List.foldl_cons]
    rw [ih, memR_revAdd]
    simp only [List.mem_cons]
    constructor
    · rintro ((h | h) | h)
      · exact Or.inl h
      · exact Or.inr ⟨Or.inl h.1, h.2⟩
      · exact Or.inr ⟨Or.inr h.1, h.2⟩
    · rintro (h | ⟨h | h, h'⟩)
      · exact Or.inl (Or.inl h)
      · exact Or.inl (Or.inr ⟨h, h'⟩)
      · exact Or.inr ⟨h, h'⟩

theorem insertPending_eq (s : Rebuild w) (ps : List (Rebuild w)) (var : Int) (expr : Expr w) :
    insertPending s ps var expr =
      (let s1 := (removePending s var).1
       if !compareWrittenNoParent s1 ps (Expr.var var) expr then
         { s1 with
           reverse := ((Expr.variables (Expr.normalize expr)).filter (fun x => !(x == var))).foldl
             (revAdd var) s1.reverse
           pending := mSet s1.pending var (Expr.normalize expr) }
       else s1) := by
  unfold insertPending revAdd; rfl

theorem insertPending_same (s : Rebuild w) (ps : List (Rebuild w)) (var : Int) (expr : Expr w) :
    SameButPend s (insertPending s ps var expr) := by
  rw [insertPending_eq]
  simp only
  split
  · exact (removePending_same s var).trans ⟨rfl, rfl, rfl, rfl, rfl, rfl, rfl, rfl, rfl, rfl⟩
  · exact removePending_same s var

theorem insertPending_wf {s : Rebuild w} (h : Wf s) (ps : List (Rebuild w)) (var : Int) (expr : Expr w) :
    Wf (insertPending s ps var expr) := by
  rw [insertPending_eq]
  have h1 := removePending_wf h var
  simp only
  split
  · refine ⟨sorted_mSet h1.pend _ _, h1.writ, sorted_foldl_revAdd h1.rev _ _, ?_⟩
    intro v u
    show memR (((Expr.variables (Expr.normalize expr)).filter (fun x => !(x == var))).foldl
        (revAdd var) (removePending s var).1.reverse) v u ↔
      (u ≠ v ∧ ∃ e, mGet (mSet (removePending s var).1.pending var (Expr.normalize expr)) u = some e ∧
        v ∈ Expr.variables e)
    rw [memR_foldl_revAdd, h1.revOk v u, mGet_mSet, removePending_get h]
    simp only [List.mem_filter, Bool.not_eq_true', beq_eq_false_iff_ne, ne_eq]
    constructor
    · rintro (⟨h2, e, h3, h4⟩ | ⟨⟨h2, h3⟩, h4⟩)
      · refine ⟨h2, e, ?_, h4⟩
        by_cases hu : var = u
        · simp [hu] at h3
        · simp only [hu, if_false] at h3 ⊢; exact h3
      · subst h4
        exact ⟨fun e => h3 e.symm, _, by simp, h2⟩
    · rintro ⟨h2, e, h3, h4⟩
      by_cases hu : var = u
      · subst hu
        simp only [if_true, Option.some.injEq] at h3
        subst h3
        exact Or.inr ⟨⟨h4, fun e => h2 e.symm⟩, rfl⟩
      · simp only [hu, if_false] at h3
        exact Or.inl ⟨h2, e, by simp [hu, h3], h4⟩
  · exact h1

theorem insertPending_get {s : Rebuild w} (h : Wf s) (ps : List (Rebuild w)) (var : Int) (expr : Expr w)
    (k : Int) :
    mGet (insertPending s ps var expr).pending k =
      if var = k then
        (if compareWrittenNoParent (removePending s var).1 ps (Expr.var var) expr then none
         else some (Expr.normalize expr))
      else mGet s.pending k := by
  rw [insertPending_eq]
  simp only
  split
  · rename_i hc
    simp only [Bool.not_eq_true'] at hc
    show mGet (mSet (removePending s var).1.pending var (Expr.normalize expr)) k = _
    rw [mGet_mSet, removePending_get h, hc]
    by_cases hk : var = k <;> simp [hk]
  · rename_i hc
    simp only [Bool.not_eq_true', Bool.not_eq_false] at hc
    rw [removePending_get h, hc]
    by_cases hk : var = k <;> simp [hk]

end OptProof
end Hpbf
