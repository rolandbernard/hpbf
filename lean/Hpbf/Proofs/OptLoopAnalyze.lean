/-
`analyzeLoop` is sound (`LoopMeaning`), given what the queries it makes (`getConstant`, `isNonZero` on the
parent; `getConstant`, `getBoth` on the body state) mean.
-/
import Hpbf.Proofs.OptLoopTrip

namespace Hpbf.OptLoop
open Hpbf Opt OptSem Expr

variable {w : Nat}

/-- What the queries of `analyzeLoop` mean for the sequence `cv` of values of the condition cell at the
successive tests; a hypothesis the caller has to provide (soundness of `getConstant`, `isNonZero`, `getBoth`).
`cond' = cond + sub.shift - s.shift` is where the next test finds the condition cell, in the coordinates
of the body. -/
structure CondFacts (s : Rebuild w) (ps : List (Rebuild w)) (sub : Rebuild w) (cond : Int) (isLoop : Bool)
    (cv : Nat → BitVec w) : Prop where
  /-- the parent knows the initial value -/
  init : ∀ c, getConstant s ps cond = some c → cv 0 = c
  /-- the parent knows that the initial value is not zero -/
  nz : isNonZero s ps cond = true → cv 0 ≠ 0#w
  /-- an `if` block is a loop whose second test fails -/
  ifOnce : isLoop = false → cv 0 ≠ 0#w → cv 1 = 0#w
  /-- the body leaves a known constant in the condition cell -/
  stored : ∀ c, getConstant sub (s :: ps) (cond + sub.shift - s.shift) = some c →
    ∀ k, Live cv k → cv (k + 1) = c
  /-- the body leaves the value of `e` (over the memory at the start of the round) in the condition cell -/
  both : ∀ e, getBoth sub (s :: ps) (cond + sub.shift - s.shift) = some e →
    ∀ k, Live cv k → ∃ f : Mem w, f cond = cv k ∧ cv (k + 1) = ev e f

/-- `CondFacts` with the `getBoth` fact only required where `analyzeLoop` asks for it: `getConstant` on the body
state answers `none` and `sub.subShift = false`. -/
structure CondFacts' (s : Rebuild w) (ps : List (Rebuild w)) (sub : Rebuild w) (cond : Int) (isLoop : Bool)
    (cv : Nat → BitVec w) : Prop where
  init : ∀ c, getConstant s ps cond = some c → cv 0 = c
  nz : isNonZero s ps cond = true → cv 0 ≠ 0#w
  ifOnce : isLoop = false → cv 0 ≠ 0#w → cv 1 = 0#w
  stored : ∀ c, getConstant sub (s :: ps) (cond + sub.shift - s.shift) = some c →
    ∀ k, Live cv k → cv (k + 1) = c
  both : ∀ e, getConstant sub (s :: ps) (cond + sub.shift - s.shift) = none → sub.subShift = false →
    getBoth sub (s :: ps) (cond + sub.shift - s.shift) = some e →
    ∀ k, Live cv k → ∃ f : Mem w, f cond = cv k ∧ cv (k + 1) = ev e f

theorem CondFacts.to' {s : Rebuild w} {ps : List (Rebuild w)} {sub : Rebuild w} {cond : Int}
    {isLoop : Bool} {cv : Nat → BitVec w} (h : CondFacts s ps sub cond isLoop cv) :
    CondFacts' s ps sub cond isLoop cv :=
  ⟨h.init, h.nz, h.ifOnce, h.stored, fun e _ _ => h.both e⟩

theorem analyzeLoop_sound' (hw : 0 < w) (s : Rebuild w) (ps : List (Rebuild w)) (sub : Rebuild w)
    (cond : Int) (isLoop : Bool) (cv : Nat → BitVec w) (hf : CondFacts' s ps sub cond isLoop cv)
    (hnr : sub.noReturn = false) :
    LoopMeaning (analyzeLoop s ps sub cond isLoop) cv cond := by
  have hnz : isNonZero s ps cond = true → cv 0 ≠ 0#w := hf.nz
  unfold analyzeLoop
  simp only
  by_cases h0 : (getConstant s ps cond == some 0#w) = true
  · rw [if_pos h0]
    have hz : cv 0 = 0#w := hf.init _ (by simpa using h0)
    exact ofExpr_val_meaning cv cond _ ⟨fun k hk => by simp at hk, by simpa using hz⟩
  rw [if_neg h0, hnr, if_neg Bool.false_ne_true]
  by_cases hl : (!isLoop) = true
  · rw [if_pos hl]
    exact atMostOnceOf_meaning hw cv cond _ hnz (hf.ifOnce (by simpa using hl))
  rw [if_neg hl]
  cases hst : getConstant sub (s :: ps) (cond + sub.shift - s.shift) with
  | some storedCond =>
    simp only
    by_cases hz : (storedCond == 0#w) = true
    · rw [if_pos hz]
      have hz' : storedCond = 0#w := by simpa using hz
      subst hz'
      refine atMostOnceOf_meaning hw cv cond _ hnz (fun h0 => ?_)
      refine hf.stored _ hst 0 (fun j hj => ?_)
      have : j = 0 := by omega
      subst this; exact h0
    · rw [if_neg hz]
      have hz' : storedCond ≠ 0#w := by simpa using hz
      exact infinite_meaning cv cond _ hnz
        (fun h0 => stored_diverges cv storedCond hz' (hf.stored _ hst) h0)
  | none =>
    simp only
    by_cases hss : sub.subShift = true
    · rw [if_pos hss]; exact unknown_meaning cv cond _ hnz
    rw [if_neg hss]
    have hss' : sub.subShift = false := by simpa using hss
    cases hgb : getBoth sub (s :: ps) (cond + sub.shift - s.shift) with
    | none => exact unknown_meaning cv cond _ hnz
    | some expr =>
      simp only
      cases hinc : Expr.constIncOf expr cond with
      | some inc =>
        simp only
        have hrec : ∀ k, Live cv k → cv (k + 1) = cv k + inc := by
          intro k hk
          obtain ⟨f, hfc, hfe⟩ := hf.both expr hst hss' hgb k hk
          rw [hfe]
          show evaluate expr f = _
          rw [C15.constIncOf_recompose expr cond inc f hinc, hfc, BitVec.add_comm]
        cases hm : getConstant s ps cond with
        | some m =>
          have hm0 : cv 0 = m := hf.init m hm
          simp only
          cases hn : OptArith.tripCount m inc with
          | some n =>
            rw [← hm0] at hn
            exact ofExpr_val_meaning cv cond n (tripCount_runs hw cv inc n hrec hn)
          | none =>
            rw [← hm0] at hn
            exact infinite_meaning cv cond _ hnz (fun _ => tripCount_diverges hw cv inc hrec hn)
        | none =>
          simp only
          cases hinv : OptArith.tripInv inc with
          | some inv =>
            exact ofExpr_invvar_meaning hw cv cond inv (C01Opt.tripInv_some_odd inc inv hinv)
              (tripInv_runs hw cv inc inv hrec hinv)
          | none =>
            simp only
            by_cases hz : (inc == 0#w) = true
            · rw [if_pos hz]
              have hz' : inc = 0#w := by simpa using hz
              subst hz'
              refine infinite_meaning cv cond _ hnz (fun h0 => ?_)
              exact const_diverges cv (fun k hk => by rw [hrec k hk]; simp) h0
            · rw [if_neg hz]; exact unknown_meaning cv cond _ hnz
      | none =>
        simp only
        by_cases hid : (Expr.identity expr == some cond) = true
        · rw [if_pos hid]
          have hid' : Expr.identity expr = some cond := by simpa using hid
          refine infinite_meaning cv cond _ hnz (fun h0 => ?_)
          refine const_diverges cv (fun k hk => ?_) h0
          obtain ⟨f, hfc, hfe⟩ := hf.both expr hst hss' hgb k hk
          rw [hfe]
          show evaluate expr f = _
          rw [C15.identity_recompose expr cond f hid', hfc]
        · rw [if_neg hid]; exact unknown_meaning cv cond _ hnz

/-- A property of both branches holds of the conditional.  Used with `refine`, which looks at the head of the
term only, where `split` would rewrite the whole remaining body at every branch. -/
theorem prop_ite {α : Sort _} {P : α → Prop} {c : Prop} [Decidable c] {a b : α} (ha : P a) (hb : P b) :
    P (if c then a else b) := by
  by_cases h : c
  · rw [if_pos h]; exact ha
  · rw [if_neg h]; exact hb

theorem analyzeLoop_cases {P : OptLoop w → Prop} (s : Rebuild w) (ps : List (Rebuild w)) (sub : Rebuild w)
    (cond : Int) (isLoop : Bool) (hval : ∀ c, P (OptLoop.ofExpr (Expr.val c)))
    (hmul : ∀ c, P (OptLoop.ofExpr (Expr.mul (Expr.val c) (Expr.var cond))))
    (hnr : ∀ b, P (OptLoop.noReturn b)) (hamo : ∀ b, P (OptLoop.atMostOnceOf b))
    (hinf : ∀ b, P (OptLoop.infinite b)) (hunk : ∀ b, P (OptLoop.unknown b)) :
    P (analyzeLoop s ps sub cond isLoop) := by
  unfold analyzeLoop
  refine prop_ite (hval _) (prop_ite (hnr _) (prop_ite (hamo _) ?_))
  cases getConstant sub (s :: ps) (cond + sub.shift - s.shift) with
  | some storedCond => exact prop_ite (hamo _) (hinf _)
  | none =>
    refine prop_ite (hunk _) ?_
    cases getBoth sub (s :: ps) (cond + sub.shift - s.shift) with
    | none => exact hunk _
    | some expr =>
      dsimp only
      cases Expr.constIncOf expr cond with
      | none => exact prop_ite (hinf _) (hunk _)
      | some inc =>
        dsimp only
        cases getConstant s ps cond with
        | some m =>
          dsimp only
          cases OptArith.tripCount m inc with
          | some n => exact hval n
          | none => exact hinf _
        | none =>
          dsimp only
          cases OptArith.tripInv inc with
          | some inv => exact hmul inv
          | none => exact prop_ite (hinf _) (hunk _)

theorem analyzeLoop_noReturn (s : Rebuild w) (ps : List (Rebuild w)) (sub : Rebuild w)
    (cond : Int) (isLoop : Bool) (hnr : sub.noReturn = true) :
    (getConstant s ps cond = some 0#w ∧ analyzeLoop s ps sub cond isLoop = OptLoop.ofExpr (Expr.val 0#w)) ∨
    (getConstant s ps cond ≠ some 0#w ∧
      analyzeLoop s ps sub cond isLoop = OptLoop.noReturn (isNonZero s ps cond)) := by
  unfold analyzeLoop
  simp only
  by_cases h0 : (getConstant s ps cond == some 0#w) = true
  · rw [if_pos h0]
    exact Or.inl ⟨by simpa using h0, rfl⟩
  · rw [if_neg h0, hnr, if_pos rfl]
    exact Or.inr ⟨by simpa using h0, rfl⟩

/-- Extends the `never` / `atLeastOnce` half of `LoopMeaning` to bodies that do not return (`sub.noReturn`). -/
theorem analyzeLoop_entry (s : Rebuild w) (ps : List (Rebuild w)) (sub : Rebuild w)
    (cond : Int) (isLoop : Bool) (c0 : BitVec w)
    (hinit : ∀ c, getConstant s ps cond = some c → c0 = c)
    (hnz : isNonZero s ps cond = true → c0 ≠ 0#w)
    (hsound : sub.noReturn = false →
      ((analyzeLoop s ps sub cond isLoop).never = true → c0 = 0#w) ∧
      ((analyzeLoop s ps sub cond isLoop).atLeastOnce = true → c0 ≠ 0#w)) :
    ((analyzeLoop s ps sub cond isLoop).never = true → c0 = 0#w) ∧
    ((analyzeLoop s ps sub cond isLoop).atLeastOnce = true → c0 ≠ 0#w) := by
  cases hnr : sub.noReturn with
  | false => exact hsound hnr
  | true =>
    rcases analyzeLoop_noReturn s ps sub cond isLoop hnr with ⟨hc, heq⟩ | ⟨_, heq⟩
    · rw [heq]
      refine ⟨fun _ => hinit _ hc, fun h => ?_⟩
      simp [OptLoop.ofExpr, constant_val] at h
    · rw [heq]
      refine ⟨fun h => ?_, fun h => hnz ?_⟩
      · simp [OptLoop.noReturn] at h
      · simpa [OptLoop.noReturn] using h

end Hpbf.OptLoop
