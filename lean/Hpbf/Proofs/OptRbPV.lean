/-
The pending expressions of a state never mention a cell about which the state could get a constant from its parent
(`PVClean`): what `getParentConstant` depends on (`acore`, `ShiftIndep`), and that evaluating and inserting a
pending operation keeps the property.  The walk through the rebuild is in `OptRbShape2` / `OptRbShape3`.
The property is what makes it sound that `finishLoop` performs the child's operations (`performAll sub … toPerform`)
BEFORE the parent's (`performAll s … before`): the child's expressions ask the parent about no cell the parent is about
to change.
-/
import Hpbf.Proofs.OptRbKnown

namespace Hpbf
namespace OptProof
open Opt OptSem Ir

variable {w : Nat}

/-- The part of the state's analysis node that `canAskParentFor` looks at:
`(atMostOnce, hasShift, clobbered)`. -/
def acore (s : Rebuild w) : Option (Bool × Bool × List Int) :=
  s.anal.map (fun a => (a.loopAnal.atMostOnce, a.hasShift, a.clobbered))

theorem canAskParentFor_eq (s : Rebuild w) (var : Int) :
    canAskParentFor s var =
      (!s.subShift && (match acore s with
        | some c => c.1 || (!c.2.2.contains (var - s.shift) && !c.2.1)
        | none => false)) := by
  unfold canAskParentFor acore
  cases s.anal <;> rfl

/-- `canAskParentFor` does not depend on `shift`: no analysis, or `atMostOnce`, or `hasShift`. -/
def ShiftIndep (s : Rebuild w) : Prop :=
  match acore s with
  | none => True
  | some c => c.1 = true ∨ c.2.1 = true

theorem ShiftIndep.of_core {s s' : Rebuild w} (h : ShiftIndep s) (hc : acore s' = acore s) : ShiftIndep s' := by
  unfold ShiftIndep at *; rw [hc]; exact h

theorem canAskParentFor_of_core {s s' : Rebuild w} (hcore : acore s' = acore s)
    (hsub : s'.subShift = s.subShift) (hsh : s'.shift = s.shift ∨ ShiftIndep s) (x : Int) :
    canAskParentFor s' x = canAskParentFor s x := by
  rw [canAskParentFor_eq, canAskParentFor_eq, hcore, hsub]
  rcases hsh with h | h
  · rw [h]
  · unfold ShiftIndep at h
    cases hc : acore s with
    | none => rfl
    | some c =>
      rw [hc] at h
      rcases h with h | h
      · simp [h]
      · simp [h]

theorem getParentConstant_of_core {s s' : Rebuild w} (hcore : acore s' = acore s)
    (hsub : s'.subShift = s.subShift) (hpar : s'.parent = s.parent)
    (hsh : s'.shift = s.shift ∨ ShiftIndep s) (ps : List (Rebuild w)) (x : Int) :
    getParentConstant s' ps x = getParentConstant s ps x := by
  unfold getParentConstant
  rw [canAskParentFor_of_core hcore hsub hsh, hpar]

theorem getParentConstant_subShift {s : Rebuild w} (h : s.subShift = true) (ps : List (Rebuild w))
    (x : Int) : getParentConstant s ps x = none := by
  unfold getParentConstant canAskParentFor
  simp [h]

theorem acore_of_anal {s s' : Rebuild w} (h : s'.anal = s.anal) : acore s' = acore s := by
  unfold acore; rw [h]

def PVClean (s : Rebuild w) (ps : List (Rebuild w)) : Prop :=
  ∀ v p, mGet s.pending v = some p → ∀ x ∈ Expr.variables p, mGet s.written x = none →
    getParentConstant s ps x = none

def AskFree (s : Rebuild w) (ps : List (Rebuild w)) (x : Int) : Prop :=
  mGet s.written x = none → getParentConstant s ps x = none

theorem pvClean_iff (s : Rebuild w) (ps : List (Rebuild w)) :
    PVClean s ps ↔ ∀ v p, mGet s.pending v = some p → OptLoop.VarsIn (AskFree s ps) p := by
  unfold PVClean
  constructor
  · intro h v p hp
    exact (OptLoop.varsIn_iff (S := AskFree s ps)).2 (fun x hx => h v p hp x hx)
  · intro h v p hp x hx
    exact (OptLoop.varsIn_iff (S := AskFree s ps)).1 (h v p hp) x hx

theorem pvClean_of_pending_nil {s : Rebuild w} (h : s.pending = []) (ps : List (Rebuild w)) :
    PVClean s ps := by
  intro v p hp
  rw [h] at hp
  cases hp

theorem pv_of_shrink {s s' : Rebuild w} {ps : List (Rebuild w)}
    (hpend : ∀ k e, mGet s'.pending k = some e → mGet s.pending k = some e)
    (hkeys : s'.subShift = false → ∀ v, mGet s.written v ≠ none → mGet s'.written v ≠ none)
    (hask : ∀ x, getParentConstant s' ps x = none ∨ getParentConstant s' ps x = getParentConstant s ps x)
    (h : PVClean s ps) : PVClean s' ps := by
  intro v p hp x hx hwn
  rcases hask x with h1 | h1
  · exact h1
  · rw [h1]
    cases hss : s'.subShift with
    | true => rw [← h1]; exact getParentConstant_subShift hss ps x
    | false =>
      apply h v p (hpend v p hp) x hx
      cases hw : mGet s.written x with
      | none => rfl
      | some k => exact absurd hwn (hkeys hss x (by rw [hw]; simp))

theorem pv_congr {s s' : Rebuild w} {ps : List (Rebuild w)} (hpend : s'.pending = s.pending)
    (hw : s'.written = s.written) (hask : ∀ x, getParentConstant s' ps x = getParentConstant s ps x)
    (h : PVClean s ps) : PVClean s' ps :=
  pv_of_shrink (fun k e hk => by rw [← hpend]; exact hk) (fun _ v hv => by rw [hw]; exact hv)
    (fun x => Or.inr (hask x)) h

theorem pv_reshift {s s' : Rebuild w} {ps : List (Rebuild w)} (hp : s'.pending = s.pending)
    (hw : s'.written = s.written) (hcore : acore s' = acore s) (hsub : s'.subShift = s.subShift)
    (hpar : s'.parent = s.parent) (hsh : s'.shift = s.shift ∨ ShiftIndep s) (h : PVClean s ps) :
    PVClean s' ps :=
  pv_congr hp hw (fun x => getParentConstant_of_core hcore hsub hpar hsh ps x) h

theorem pvClean_setShift {s : Rebuild w} {ps : List (Rebuild w)} (hi : ShiftIndep s) (sh : Int)
    (h : PVClean s ps) : PVClean ({ s with shift := sh } : Rebuild w) ps :=
  pv_congr (s := s) (s' := { s with shift := sh }) rfl rfl
    (fun x => getParentConstant_of_core (s := s) (s' := { s with shift := sh }) rfl rfl rfl (Or.inr hi) ps x) h

theorem askFree_getPending {s : Rebuild w} {ps : List (Rebuild w)} (h : PVClean s ps) (y : Int) :
    OptLoop.VarsIn (AskFree s ps) (getPending s ps y) := by
  unfold getPending
  split
  · rename_i p hp
    exact (pvClean_iff s ps).1 h y p hp
  · split
    · intro p hp x hx
      unfold Expr.val at hp
      split at hp
      · cases hp
      · simp only [List.mem_singleton] at hp
        subst hp; cases hx
    · rename_i hnone
      intro p hp x hx
      simp only [Expr.var, List.mem_singleton] at hp
      subst hp
      simp only [List.mem_singleton] at hx
      subst hx
      intro hw
      unfold getWrittenConstant at hnone
      rw [hw] at hnone
      exact hnone

theorem evalPending_askFree {s : Rebuild w} {ps : List (Rebuild w)} (h : PVClean s ps) {sh : Int}
    {e e' : Expr w} (he : evalPending s ps sh e = .ok e') : OptLoop.VarsIn (AskFree s ps) e' := by
  unfold evalPending at he
  split at he
  · split at he
    · rename_i e0 hs
      cases he
      refine OptLoop.symbEvaluate_varsIn (S := AskFree s ps) _ e e' ?_ hs
      intro v _ e1 hv
      simp only [Option.some.injEq] at hv
      subst hv
      exact askFree_getPending h _
    · cases he
  · rename_i hany
    -- nothing was substituted: no variable is pending or has a written constant, so `getWrittenConstant` gives `AskFree`
    have hall : ∀ x ∈ Expr.variables e, AskFree s ps (x + sh) := by
      intro x hx hw
      have hf : (mHas s.pending (x + sh) || (getWrittenConstant s ps (x + sh)).isSome) = false := by
        cases hb : (mHas s.pending (x + sh) || (getWrittenConstant s ps (x + sh)).isSome) with
        | false => rfl
        | true => exact absurd (List.any_eq_true.2 ⟨x, hx, hb⟩) hany
      simp only [Bool.or_eq_false_iff] at hf
      have hg : getWrittenConstant s ps (x + sh) = none := by
        cases hc : getWrittenConstant s ps (x + sh) with
        | none => rfl
        | some c => rw [hc] at hf; simp at hf
      unfold getWrittenConstant at hg
      rw [hw] at hg
      exact hg
    split at he
    · cases he
      apply (OptLoop.varsIn_iff (S := AskFree s ps)).2
      intro y hy
      rw [OptLoop.shiftVars_variables] at hy
      obtain ⟨x, hx, rfl⟩ := List.mem_map.1 hy
      exact hall x hx
    · rename_i hz
      cases he
      have hz' : sh = 0 := by simpa using hz
      subst hz'
      apply (OptLoop.varsIn_iff (S := AskFree s ps)).2
      intro x hx
      have := hall x hx
      simpa using this

theorem insertPending_pv {s : Rebuild w} (hwf : Wf s) {ps : List (Rebuild w)} (h : PVClean s ps)
    (var : Int) {expr : Expr w} (he : OptLoop.VarsIn (AskFree s ps) expr) :
    PVClean (insertPending s ps var expr) ps := by
  have hs := insertPending_same s ps var expr
  have hask : ∀ x, getParentConstant (insertPending s ps var expr) ps x = getParentConstant s ps x :=
    fun x => getParentConstant_congr hs.hdr ps x
  intro v p hp x hx hwn
  rw [hs.written] at hwn
  rw [hask]
  rw [insertPending_get hwf] at hp
  split at hp
  · split at hp
    · cases hp
    · simp only [Option.some.injEq] at hp
      subst hp
      exact (OptLoop.varsIn_iff (S := AskFree s ps)).1 he x (normalize_variables_sub expr x hx) hwn
  · exact h v p hp x hx hwn

theorem askFree_congr_pend {s s' : Rebuild w} (h : SameButPend s s') (ps : List (Rebuild w)) (x : Int) :
    AskFree s' ps x ↔ AskFree s ps x := by
  unfold AskFree
  rw [h.written, getParentConstant_congr h.hdr]

theorem foldl_insertPending_pv {s : Rebuild w} (hwf : Wf s) {ps : List (Rebuild w)} (h : PVClean s ps)
    (exprs : List (Int × Expr w)) (he : ∀ ve ∈ exprs, OptLoop.VarsIn (AskFree s ps) ve.2) :
    PVClean (exprs.foldl (fun s ve => insertPending s ps ve.1 ve.2) s) ps := by
  induction exprs generalizing s with
  | nil => exact h
  | cons ve exprs ih =>
    simp only [List.foldl_cons]
    have hs := insertPending_same s ps ve.1 ve.2
    apply ih (insertPending_wf hwf ps ve.1 ve.2) (insertPending_pv hwf h ve.1 (he ve (by simp)))
    intro ve' hve' p hp x hx
    exact (askFree_congr_pend hs ps x).2 (he ve' (by simp [hve']) p hp x hx)

theorem all2_evalPending_askFree {s : Rebuild w} {ps : List (Rebuild w)} {shift : Int}
    {calcs exprs : List (Int × Expr w)} (hpv : PVClean s ps)
    (hf : All2 (fun vc ve => ve.1 = shift + vc.1 ∧ evalPending s ps shift vc.2 = .ok ve.2) calcs exprs) :
    ∀ ve ∈ exprs, OptLoop.VarsIn (AskFree s ps) ve.2 := by
  induction hf with
  | nil => intro ve h; cases h
  | cons hab _ ih =>
    intro ve h
    rcases List.mem_cons.1 h with rfl | h
    · exact evalPending_askFree hpv hab.2
    · exact ih ve h

end OptProof
end Hpbf
