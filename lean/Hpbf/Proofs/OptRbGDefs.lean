/-
Shared definitions of the files from `OptRbMotionChild` on.

* `subsOf s`: the nodes of the previous analysis that `s` has not popped yet, in the order they are popped.
* `PartnerG`: the guard of the child of the TRANSFORMED loop in `finishLoop` (after loop motion): the state has a
  real partner (a head of the real loop that satisfies the child's guard and enters the body) with the same
  pointer / environment / trace which agrees with it on the cells in `R` (the cells the loop reads).
* `HeadV`: the guard of the child of a block: the heads of the block, with non-zero condition, from the
  parent-valid guarded states.
* `InvA`: the static invariants of a rebuild state.
-/
import Hpbf.Proofs.OptRbAnalIn
import Hpbf.Proofs.OptRbPV2
import Hpbf.Proofs.OptRbFinish
import Hpbf.Proofs.OptRbFoot8
import Hpbf.Proofs.OptRbRd3
import Hpbf.Proofs.OptRbAnal

namespace Hpbf
namespace OptProof
open Opt OptSem Ir

variable {w : Nat}

def subsOf (s : Rebuild w) : List (OptAnalysis w) :=
  match s.anal with
  | some a => a.subBlocks.reverse
  | none => []

def PartnerG (Gc : State w → Prop) (shP cS : Int) (R : List Int) : State w → Prop :=
  fun τ => ∃ σ, Gc σ ∧ σ.rd cS ≠ 0#w ∧ AgreeOff (fun v => v ∉ R) (σ.mov (-shP)) τ

/-- The fresh state of the child of the transformed loop: no analysis, unknown parent. -/
def freshChildU (sh cond : Int) : Rebuild w := Rebuild.new sh (some cond) .unknown none

def HeadV (G : State w → Prop) (s : Rebuild w) (ps : List (Rebuild w)) (isLoop : Bool) (c sh : Int)
    (body : List (Instr w)) : State w → Prop :=
  fun σk => σk.rd c ≠ 0#w ∧ ∃ M0 σE σS, RelAt s.shift s ps M0 σE σS ∧ G σS ∧
    if isLoop then ∃ k, Head c sh body σS k σk else σk = σS

theorem HeadV.headG {G : State w → Prop} {s : Rebuild w} {ps : List (Rebuild w)} {isLoop : Bool} {c sh : Int}
    {body : List (Instr w)} {σk : State w} (h : HeadV G s ps isLoop c sh body σk) :
    HeadG G isLoop c sh body σk := by
  obtain ⟨hne, M0, σE, σS, _, hG, hk⟩ := h
  exact ⟨hne, σS, hG, hk⟩

structure InvA (s : Rebuild w) : Prop where
  wf : Wf s
  canon : CanonSt s
  known : KnownVars s
  reads : OptLoop.SAsc s.reads
  good : GoodL s.insts
  shape : ShapeSt s

theorem InvA.child {s : Rebuild w} (h : InvA s) : Child s := ⟨h.wf, h.canon, h.good⟩

end OptProof
end Hpbf
