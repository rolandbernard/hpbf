/-
C02 (`allocate_temps`): forward edges and pointer moves; visibility (`VisAt`, `Vis`) and the invariants `VG`, `TV`,
`VK` under reads, new values and appended instructions.

The table of values only contains values that are VISIBLE at the current position: not created inside a block
that has been closed by a `brz`, created after every pointer move, and (inside a loop whose analysis says
`has_shift`) created inside that loop.  Values are read only through the table or right after their creation,
so ranges never reach over the end of a closed block or over a pointer move.
-/
import Hpbf.Proofs.C02AllocEmitF
set_option linter.unusedSimpArgs false

namespace Hpbf
namespace C02
namespace AEmit

open Bc BcWf BcGen C11 C02Emit

variable {w : Nat}

/-- An enclosing loop: start, length of `outer_accessed` on entry, `has_shift` of its analysis. -/
abbrev VFrame := Nat × Nat × Bool

def toFrames (fs : List VFrame) : List Frame := fs.map (fun f => (f.1, f.2.1))

/-- Start of the innermost enclosing loop whose analysis has `has_shift`: its table of values was cleared there. -/
def cpOf : List VFrame → Nat
  | [] => 0
  | (S, _, true) :: _ => S
  | (_, _, false) :: rest => cpOf rest

/-- Position `i` is not inside a block closed by a `brz`. -/
def NotInner (s : St w) (i : Nat) : Prop :=
  ∀ (b : Nat) (cnd off : Int), s.insts[b]? = some (.brz cnd off) → ¬ ((b : Int) ≤ i ∧ (i : Int) < b + off)

def AfterMoves (s : St w) (i : Nat) : Prop :=
  ∀ (p : Nat) (x : Instr w), s.insts[p]? = some x → ptrStable x = false → p < i

def VisAt (fs : List VFrame) (s : St w) (i : Nat) : Prop := cpOf fs ≤ i ∧ NotInner s i ∧ AfterMoves s i

def Vis (fs : List VFrame) (s : St w) (t : Nat) : Prop :=
  ∃ r : RangeInfo, s.ranges[t]? = some r ∧ VisAt fs s r.created

/-- Entries of `outer_accessed` below the entry length of a loop were created before the enclosing loop. -/
def OAB (s : St w) : List VFrame → Prop
  | f0 :: f1 :: rest =>
    (∀ (idx v : Nat), idx < f0.2.1 → s.outerAccessed[idx]? = some v →
      ∃ r : RangeInfo, s.ranges[v]? = some r ∧ r.created < f1.1) ∧ OAB s (f1 :: rest)
  | _ => True

/-- `OAB` survives a step that keeps the creation positions and, below every entry length, the entries of
`outer_accessed`. -/
theorem oab_mono {s s' : St w}
    (hcr : ∀ (t : Nat) (q : RangeInfo), s.ranges[t]? = some q →
      ∃ q' : RangeInfo, s'.ranges[t]? = some q' ∧ q'.created = q.created) :
    ∀ (l : List VFrame), (∀ f ∈ l, ∀ (idx u : Nat), idx < f.2.1 → s'.outerAccessed[idx]? = some u →
      s.outerAccessed[idx]? = some u) → OAB s l → OAB s' l
  | [], _, _ => trivial
  | [_], _, _ => trivial
  | f0 :: f1 :: rest, hpre, ⟨o1, o2⟩ => by
    refine ⟨?_, oab_mono hcr (f1 :: rest) (fun f hf => hpre f (List.mem_cons_of_mem _ hf)) o2⟩
    intro idx u hidx hu
    obtain ⟨q, p1, p2⟩ := o1 idx u hidx (hpre f0 List.mem_cons_self idx u hidx hu)
    obtain ⟨q', p3, p4⟩ := hcr u q p1
    exact ⟨q', p3, by rw [p4]; exact p2⟩

theorem oab_congr {s s' : St w} (e1 : s'.outerAccessed = s.outerAccessed) (e2 : s'.ranges = s.ranges) (l : List VFrame)
    (h : OAB s l) : OAB s' l :=
  oab_mono (fun t q g => ⟨q, by rw [e2]; exact g, rfl⟩) l (fun _ _ _ _ _ g => by rw [← e1]; exact g) h

/-- Facts about the whole state for the frames `fs`.  `ov`: every entry of `outer_accessed` is visible and was created
before the current loop; `em` ("empty"): inside loops whose analyses all say `has_shift` nothing from outside has been
accessed; `fw`: the statement `flow` of `AllocPre` for the forward edges (a `brz` jumps forward inside the code, and a
value created in the skipped block is not used after it); `pt`: the statement `ptr` (no range reaches over an
instruction that moves the pointer); `oab`: see `OAB`. -/
structure VG (fs : List VFrame) (s : St w) : Prop where
  numLe : ∀ f ∈ fs, f.2.1 ≤ s.outerAccessed.size
  cple : cpOf fs ≤ s.insts.size
  ov : ∀ v ∈ s.outerAccessed.toList, Vis fs s v ∧ ∃ r : RangeInfo, s.ranges[v]? = some r ∧ r.created < s.currentStart
  em : (∀ f ∈ fs, f.2.2 = true) → s.outerAccessed = #[]
  fw : ∀ (b : Nat) (cnd off : Int), s.insts[b]? = some (.brz cnd off) → 0 < off ∧ (b : Int) + off ≤ s.insts.size ∧
    ∀ (t : Nat) (r : RangeInfo) (L : Nat), s.ranges[t]? = some r → r.lastUse = some L →
      (b : Int) ≤ r.created → (r.created : Int) < b + off → (L : Int) < b + off
  pt : ∀ (p : Nat) (x : Instr w), s.insts[p]? = some x → ptrStable x = false →
    ∀ (t : Nat) (r : RangeInfo) (L : Nat), s.ranges[t]? = some r → r.lastUse = some L → r.created < p → L < p
  oab : OAB s fs

theorem visAt_congr {fs : List VFrame} {s s' : St w} {i : Nat} (h : VisAt fs s i)
    (hb : ∀ (b : Nat) (cnd off : Int), s'.insts[b]? = some (.brz cnd off) → s.insts[b]? = some (.brz cnd off))
    (hp : ∀ (p : Nat) (x : Instr w), s'.insts[p]? = some x → ptrStable x = false →
      ∃ y, s.insts[p]? = some y ∧ ptrStable y = false) : VisAt fs s' i := by
  refine ⟨h.1, fun b cnd off hx => h.2.1 b cnd off (hb b cnd off hx), ?_⟩
  intro p x hx hm
  obtain ⟨y, hy, hym⟩ := hp p x hx hm
  exact h.2.2 p y hy hym

/-- An appended instruction that is no `brz` and does not move the pointer adds neither. -/
theorem push_keeps (A : Array (Instr w)) {x : Instr w} (hx1 : ∀ cnd off, x ≠ .brz cnd off) (hx2 : ptrStable x = true) :
    (∀ (b : Nat) (cnd off : Int), (A.push x)[b]? = some (.brz cnd off) → A[b]? = some (.brz cnd off)) ∧
    ∀ (p : Nat) (y : Instr w), (A.push x)[p]? = some y → ptrStable y = false →
      ∃ z, A[p]? = some z ∧ ptrStable z = false := by
  refine ⟨fun b cnd off hb => ?_, fun p y hy hm => ?_⟩
  · rcases getElem?_push_cases hb with ⟨_, g⟩ | ⟨_, g⟩
    · exact g
    · exact absurd g.symm (hx1 cnd off)
  · rcases getElem?_push_cases hy with ⟨_, g⟩ | ⟨_, g⟩
    · exact ⟨y, g, hm⟩
    · rw [g, hx2] at hm; cases hm

theorem visAt_push {fs : List VFrame} {s s' : St w} {i : Nat} {x : Instr w} (h : VisAt fs s i)
    (e : s'.insts = s.insts.push x) (hx1 : ∀ cnd off, x ≠ .brz cnd off) (hx2 : ptrStable x = true) :
    VisAt fs s' i :=
  visAt_congr h (by rw [e]; exact (push_keeps _ hx1 hx2).1) (by rw [e]; exact (push_keeps _ hx1 hx2).2)

theorem vis_congr {fs : List VFrame} {s s' : St w} {t : Nat} (h : Vis fs s t)
    (hr : ∀ r : RangeInfo, s.ranges[t]? = some r → ∃ r' : RangeInfo, s'.ranges[t]? = some r' ∧ r'.created = r.created)
    (hv : ∀ i, VisAt fs s i → VisAt fs s' i) : Vis fs s' t := by
  obtain ⟨r, g1, g2⟩ := h
  obtain ⟨r', q1, q2⟩ := hr r g1
  exact ⟨r', q1, by rw [q2]; exact hv _ g2⟩

/-- `created` of existing entries is kept, no `brz` and no pointer move appears. -/
structure Keep (s s' : St w) : Prop where
  cr : ∀ (t : Nat) (q : RangeInfo), s.ranges[t]? = some q →
    ∃ q' : RangeInfo, s'.ranges[t]? = some q' ∧ q'.created = q.created
  brz : ∀ (b : Nat) (cnd off : Int), s'.insts[b]? = some (.brz cnd off) → s.insts[b]? = some (.brz cnd off)
  mv : ∀ (p : Nat) (x : Instr w), s'.insts[p]? = some x → ptrStable x = false →
    ∃ y, s.insts[p]? = some y ∧ ptrStable y = false

theorem keep_refl (s : St w) : Keep s s :=
  ⟨fun _ q h => ⟨q, h, rfl⟩, fun _ _ _ h => h, fun _ x h m => ⟨x, h, m⟩⟩

theorem keep_trans {s1 s2 s3 : St w} (h1 : Keep s1 s2) (h2 : Keep s2 s3) : Keep s1 s3 := by
  refine ⟨?_, fun b cnd off h => h1.brz b cnd off (h2.brz b cnd off h), ?_⟩
  · intro t q hq
    obtain ⟨q', g1, g2⟩ := h1.cr t q hq
    obtain ⟨q'', g3, g4⟩ := h2.cr t q' g1
    exact ⟨q'', g3, g4.trans g2⟩
  · intro p x hx hm
    obtain ⟨y, g1, g2⟩ := h2.mv p x hx hm
    exact h1.mv p y g1 g2

theorem keep_ext {v inc : Nat} {s s' : St w} (E : ExtSpec v inc s s') : Keep s s' := by
  obtain ⟨⟨r, hr, hr'⟩, hother⟩ := ext_ranges E
  refine ⟨?_, by rw [E.insts]; exact fun _ _ _ g => g, by rw [E.insts]; exact fun p x g m => ⟨x, g, m⟩⟩
  intro t q hq
  by_cases e : t = v
  · subst e; rw [hr] at hq; cases hq; exact ⟨_, hr', rfl⟩
  · exact ⟨q, by rw [hother t e]; exact hq, rfl⟩

theorem keep_reads : ∀ (l : List Nat) {s s' : St w}, ReadsSpec l s s' → Keep s s'
  | [], s, s', h => by rw [h]; exact keep_refl _
  | _ :: rest, _, _, ⟨_, h1, h2⟩ => keep_trans (keep_ext h1) (keep_reads rest h2)

theorem keep_push {s s' : St w} {x : Instr w} (e1 : s'.insts = s.insts.push x) (e2 : s'.ranges = s.ranges)
    (hx1 : ∀ cnd off, x ≠ .brz cnd off) (hx2 : ptrStable x = true) : Keep s s' :=
  ⟨fun t q h => ⟨q, by rw [e2]; exact h, rfl⟩, by rw [e1]; exact (push_keeps _ hx1 hx2).1,
    by rw [e1]; exact (push_keeps _ hx1 hx2).2⟩

theorem keep_same {s s' : St w} (e1 : s'.insts = s.insts) (e2 : s'.ranges = s.ranges) : Keep s s' :=
  ⟨fun t q h => ⟨q, by rw [e2]; exact h, rfl⟩, by rw [e1]; exact fun _ _ _ g => g,
    by rw [e1]; exact fun p x g m => ⟨x, g, m⟩⟩

theorem keep_visAt {fs : List VFrame} {s s' : St w} (k : Keep s s') {i : Nat} (h : VisAt fs s i) : VisAt fs s' i :=
  visAt_congr h k.brz k.mv

theorem keep_vis {fs : List VFrame} {s s' : St w} (k : Keep s s') {t : Nat} (h : Vis fs s t) : Vis fs s' t :=
  vis_congr h (k.cr t) (fun _ hi => keep_visAt k hi)

theorem visAt_fresh {fs : List VFrame} {s : St w} (h : VG fs s) : VisAt fs s s.insts.size := by
  refine ⟨h.cple, ?_, ?_⟩
  · intro b cnd off hb hcon
    have := (h.fw b cnd off hb).2.1
    omega
  · intro p x hx _
    exact lt_of_getElem? hx

theorem cpOf_head_true {S N : Nat} {rest : List VFrame} : cpOf ((S, N, true) :: rest) = S := rfl

theorem cpOf_all_true : ∀ {fs : List VFrame} {S N : Nat} {fl : Bool} {rest : List VFrame},
    fs = (S, N, fl) :: rest → (∀ f ∈ fs, f.2.2 = true) → cpOf fs = S := by
  intro fs S N fl rest e h
  subst e
  have : fl = true := h (S, N, fl) List.mem_cons_self
  subst this
  rfl

theorem vg_ext {fs : List VFrame} {s s' : St w} {v inc : Nat} (h : VG fs s) (E : ExtSpec v inc s s')
    (hv : Vis fs s v) (hd : ∃ N fl rest, fs = (s.currentStart, N, fl) :: rest) : VG fs s' := by
  obtain ⟨⟨r, hr, hr'⟩, hother⟩ := ext_ranges E
  have hbC : (bump r s.insts.size inc).created = r.created := rfl
  obtain ⟨rv, hrv, hvis⟩ := hv
  rw [hr] at hrv; cases hrv
  have hcr := (keep_ext E).cr
  have hvis' : ∀ t, Vis fs s t → Vis fs s' t := fun t ht => keep_vis (keep_ext E) ht
  have hback : ∀ (t : Nat) (q' : RangeInfo), s'.ranges[t]? = some q' →
      (t = v ∧ q' = bump r s.insts.size inc) ∨ (t ≠ v ∧ s.ranges[t]? = some q') := by
    intro t q' hq'
    by_cases e : t = v
    · subst e; rw [hr'] at hq'; exact Or.inl ⟨rfl, (Option.some.inj hq').symm⟩
    · rw [hother t e] at hq'; exact Or.inr ⟨e, hq'⟩
  refine ⟨?_, by rw [E.insts]; exact h.cple, ?_, ?_, ?_, ?_, ?_⟩
  · intro f hf
    have := h.numLe f hf
    rcases E.outer with ⟨e, _⟩ | ⟨e, _⟩
    · rw [e]; exact this
    · rw [e]; simp; omega
  · intro u hu
    rw [E.currentStart]
    have : u ∈ s.outerAccessed.toList ∨ (u = v ∧ r.created < s.currentStart) := by
      rcases E.outer with ⟨e, _⟩ | ⟨e, r1, g1, g2, _⟩
      · rw [e] at hu; exact Or.inl hu
      · rw [e] at hu
        simp only [Array.toList_push, List.mem_append, List.mem_singleton] at hu
        rcases hu with hu | hu
        · exact Or.inl hu
        · rw [hr] at g1; cases g1
          exact Or.inr ⟨hu, g2⟩
    rcases this with g | ⟨rfl, g⟩
    · obtain ⟨q1, q, q2, q3⟩ := h.ov u g
      obtain ⟨q', p1, p2⟩ := hcr u q q2
      exact ⟨hvis' u q1, q', p1, by rw [p2]; exact q3⟩
    · exact ⟨hvis' u ⟨r, hr, hvis⟩, _, hr', by rw [hbC]; exact g⟩
  · intro hall
    have hemp := h.em hall
    rcases E.outer with ⟨e, _⟩ | ⟨e, r1, g1, g2, _⟩
    · rw [e]; exact hemp
    · exfalso
      rw [hr] at g1; cases g1
      obtain ⟨N, fl, rest, hfs⟩ := hd
      have := cpOf_all_true hfs hall
      have := hvis.1
      omega
  · intro b cnd off hb
    rw [E.insts] at hb
    obtain ⟨g1, g2, g3⟩ := h.fw b cnd off hb
    refine ⟨g1, by rw [E.insts]; exact g2, ?_⟩
    intro t q' L hq' hL h1 h2
    rcases hback t q' hq' with ⟨rfl, rfl⟩ | ⟨_, hq⟩
    · exact absurd ⟨h1, h2⟩ (hvis.2.1 b cnd off hb)
    · exact g3 t q' L hq hL h1 h2
  · intro p x hx hm t q' L hq' hL h1
    rw [E.insts] at hx
    rcases hback t q' hq' with ⟨rfl, rfl⟩ | ⟨_, hq⟩
    · have := hvis.2.2 p x hx hm
      rw [hbC] at h1
      omega
    · exact h.pt p x hx hm t q' L hq hL h1
  · -- the prefix below every entry length is unchanged
    refine oab_mono hcr fs (fun f hf idx u hidx hu => ?_) h.oab
    have hlt : idx < s.outerAccessed.size := Nat.lt_of_lt_of_le hidx (h.numLe f hf)
    rcases E.outer with ⟨e, _⟩ | ⟨e, _⟩
    · rw [e] at hu; exact hu
    · rw [e, getElem?_push_lt' _ _ hlt] at hu; exact hu

theorem vg_reads {fs : List VFrame} : ∀ (l : List Nat) {s s' : St w}, ReadsSpec l s s' → VG fs s →
    (∀ a ∈ l, Vis fs s a) → (∃ N fl rest, fs = (s.currentStart, N, fl) :: rest) →
    VG fs s' ∧ ∀ t, Vis fs s t → Vis fs s' t
  | [], s, s', h, hg, _, _ => by rw [h]; exact ⟨hg, fun t ht => ht⟩
  | a :: rest, s, s', ⟨s1, h1, h2⟩, hg, hv, hd => by
    have g1 := vg_ext hg h1 (hv a List.mem_cons_self) hd
    have hmono : ∀ t, Vis fs s t → Vis fs s1 t := fun t ht => keep_vis (keep_ext h1) ht
    obtain ⟨g2, m2⟩ := vg_reads rest h2 g1 (fun b hb => hmono b (hv b (List.mem_cons_of_mem _ hb)))
      (by rw [h1.currentStart]; exact hd)
    exact ⟨g2, fun t ht => m2 t (hmono t ht)⟩

theorem vg_frame {fs : List VFrame} {s s' : St w} (h : VG fs s)
    (e1 : s'.outerAccessed = s.outerAccessed) (e2 : s'.currentStart = s.currentStart)
    (e3 : s.insts.size ≤ s'.insts.size)
    (hb : ∀ (b : Nat) (cnd off : Int), s'.insts[b]? = some (.brz cnd off) → s.insts[b]? = some (.brz cnd off))
    (hp : ∀ (p : Nat) (x : Instr w), s'.insts[p]? = some x → ptrStable x = false →
      ∃ y, s.insts[p]? = some y ∧ ptrStable y = false)
    (hr : ∀ (t : Nat) (r : RangeInfo), s.ranges[t]? = some r → s'.ranges[t]? = some r)
    (hl : ∀ (t : Nat) (r : RangeInfo) (L : Nat), s'.ranges[t]? = some r → r.lastUse = some L →
      s.ranges[t]? = some r) : VG fs s' := by
  have hva : ∀ i, VisAt fs s i → VisAt fs s' i := fun i hi => visAt_congr hi hb hp
  have hvis : ∀ t, Vis fs s t → Vis fs s' t := fun t ht =>
    vis_congr ht (fun r g => ⟨r, hr t r g, rfl⟩) hva
  refine ⟨by rw [e1]; exact h.numLe, Nat.le_trans h.cple e3, ?_, by rw [e1]; exact h.em, ?_, ?_, ?_⟩
  · intro v hv
    rw [e1] at hv
    obtain ⟨g1, r, g2, g3⟩ := h.ov v hv
    exact ⟨hvis v g1, r, hr v r g2, by rw [e2]; exact g3⟩
  · intro b cnd off hx
    obtain ⟨g1, g2, g3⟩ := h.fw b cnd off (hb b cnd off hx)
    refine ⟨g1, by omega, ?_⟩
    intro t r L hr' hL
    exact g3 t r L (hl t r L hr' hL) hL
  · intro p x hx hm t r L hr' hL
    obtain ⟨y, hy, hym⟩ := hp p x hx hm
    exact h.pt p y hy hym t r L (hl t r L hr' hL) hL
  · exact oab_mono (fun t q g => ⟨q, hr t q g, rfl⟩) fs (fun _ _ _ _ _ g => by rw [← e1]; exact g) h.oab

theorem vg_push {fs : List VFrame} {s s' : St w} {x : Instr w} (h : VG fs s) (e1 : s'.insts = s.insts.push x)
    (e2 : s'.ranges = s.ranges) (e3 : s'.outerAccessed = s.outerAccessed) (e4 : s'.currentStart = s.currentStart)
    (hx1 : ∀ cnd off, x ≠ .brz cnd off) (hx2 : ptrStable x = true) : VG fs s' :=
  vg_frame h e3 e4 (by rw [e1]; simp) (by rw [e1]; exact (push_keeps _ hx1 hx2).1)
    (by rw [e1]; exact (push_keeps _ hx1 hx2).2) (fun t r g => by rw [e2]; exact g)
    (fun t r L g _ => by rw [← e2]; exact g)

def TV (fs : List VFrame) (s : St w) : Prop := ∀ e t, alGet s.values e = some t → Vis fs s t

/-- The part of `VInv` that does not depend on the position in the IR program (`tv`: every value in the table is visible). -/
structure VK (fs : List VFrame) (ps : Nat) (s : St w) : Prop where
  finv : FInv (toFrames fs) ps s
  vg : VG fs s
  tv : TV fs s

theorem vk_hd {fs : List VFrame} {ps : Nat} {s : St w} (h : VK fs ps s) :
    ∃ N fl rest, fs = (s.currentStart, N, fl) :: rest := by
  obtain ⟨N, rest, hc⟩ := h.finv.hd
  rw [h.finv.cs]
  cases fs with
  | nil => simp [toFrames] at hc
  | cons f tl =>
    obtain ⟨S, N', fl⟩ := f
    simp only [toFrames, List.map_cons, List.cons.injEq, Prod.mk.injEq] at hc
    obtain ⟨⟨rfl, rfl⟩, _⟩ := hc
    exact ⟨_, fl, tl, rfl⟩

theorem vis_lt {fs : List VFrame} {s : St w} {t : Nat} (h : Vis fs s t) : t < s.ranges.size := by
  obtain ⟨r, hr, _⟩ := h
  exact lt_of_getElem? hr

theorem gvInst_ne_brz (e : GvnExpr w) (v : Nat) (cnd off : Int) : gvInst e v ≠ .brz cnd off := by
  cases e <;> simp [gvInst]
theorem ptrStable_gvInst (e : GvnExpr w) (v : Nat) : ptrStable (gvInst e v) = true := by
  cases e <;> rfl

/-- The states of `getValue` (new entry; instruction appended) and `memWrite`. -/
def gvS1 (s2 : St w) (e : GvnExpr w) (v : Nat) : St w :=
  { s2 with insts := s2.insts.push (gvInst e v), values := alSet s2.values e v }
def mwS1 (s1 : St w) (var : Int) (x : Nat) : St w :=
  { s1 with writes := addWrite s1.writes var s1.insts.size, values := alSet s1.values (.mem var) x, insts := s1.insts.push (.copy (.mem var) (.tmp x)) }

theorem vk_getValue {fs : List VFrame} {ps : Nat} {e : GvnExpr w} {s s' : St w} {v : Nat} (h : VK fs ps s)
    (hops : ∀ a ∈ opsOf e, Vis fs s a) (hg : getValue e s = .ok (v, s')) :
    VK fs ps s' ∧ Vis fs s' v ∧ ∀ a, Vis fs s a → Vis fs s' a := by
  obtain ⟨hf', _⟩ := finv_getValue h.finv (fun a ha => vis_lt (hops a ha)) hg
  rcases getValue_spec hg with ⟨hv, rfl⟩ | ⟨rfl, N⟩
  · exact ⟨h, h.tv e v hv, fun a ha => ha⟩
  · obtain ⟨s2, h2, rfl⟩ := N.reads
    have hd := vk_hd h
    have hpushr : ∀ (t : Nat) (r : RangeInfo) (x : RangeInfo), s.ranges[t]? = some r → (s.ranges.push x)[t]? = some r :=
      fun t r x hr => by rw [getElem?_push_lt' _ _ (lt_of_getElem? hr)]; exact hr
    have hg0 : VG fs (gvS0 s e) := by
      refine vg_frame h.vg rfl rfl (Nat.le_refl _) (fun _ _ _ g => g) (fun p x g m => ⟨x, g, m⟩)
        (fun t r hr => hpushr t r _ hr) ?_
      intro t r L hr hL
      change (s.ranges.push _)[t]? = some r at hr
      rcases getElem?_push_cases hr with ⟨_, g⟩ | ⟨_, g⟩
      · exact g
      · rw [g] at hL; cases hL
    have hmono0 : ∀ t, Vis fs s t → Vis fs (gvS0 s e) t :=
      fun t ht => vis_congr ht (fun r g => ⟨r, hpushr t r _ g, rfl⟩) (fun i hi => hi)
    obtain ⟨g2, m2⟩ := vg_reads (s := gvS0 s e) _ h2 hg0 (fun a ha => hmono0 a (hops a ha)) hd
    have F := readsFacts _ h2
    have hpushV : ∀ i, VisAt fs s2 i → VisAt fs (gvS1 s2 e s.ranges.size) i :=
      fun i hi => visAt_push hi rfl (gvInst_ne_brz _ _) (ptrStable_gvInst _ _)
    have hg' : VG fs (gvS1 s2 e s.ranges.size) :=
      vg_push g2 rfl rfl rfl rfl (gvInst_ne_brz _ _) (ptrStable_gvInst _ _)
    have hmono : ∀ a, Vis fs s a → Vis fs (gvS1 s2 e s.ranges.size) a :=
      fun a ha => vis_congr (m2 a (hmono0 a ha)) (fun r g => ⟨r, g, rfl⟩) hpushV
    have hnew : Vis fs (gvS1 s2 e s.ranges.size) s.ranges.size := by
      have hno : s.ranges.size ∉ opsOf e := fun hm => Nat.lt_irrefl _ (vis_lt (hops _ hm))
      have hr2 : s2.ranges[s.ranges.size]? =
          some { created := s.insts.size, firstUse := none, lastUse := none, numUses := 0 } := by
        rw [F.miss _ hno]; simp
      refine ⟨_, hr2, ?_⟩
      have hfresh := visAt_fresh h.vg
      have h1 : VisAt fs s2 s.insts.size :=
        visAt_congr hfresh (by rw [F.insts]; exact fun _ _ _ g => g) (by rw [F.insts]; exact fun p x g m => ⟨x, g, m⟩)
      exact hpushV _ h1
    refine ⟨⟨hf', hg', ?_⟩, hnew, hmono⟩
    intro e' t ht
    change alGet (alSet s2.values e s.ranges.size) e' = some t at ht
    rw [F.values] at ht
    change alGet (alSet s.values e s.ranges.size) e' = some t at ht
    rw [C02Emit.alGet_alSet] at ht
    split at ht
    · cases ht; exact hnew
    · exact hmono t (h.tv e' t ht)

theorem vk_memWrite {fs : List VFrame} {ps : Nat} {var : Int} {x : Nat} {s s' : St w} {u : Unit}
    (h : VK fs ps s) (hx : Vis fs s x) (hm : memWrite var x s = .ok (u, s')) :
    VK fs ps s' ∧ ∀ a, Vis fs s a → Vis fs s' a := by
  have hf' := finv_memWrite h.finv (vis_lt hx) hm
  obtain ⟨s1, h1, rfl⟩ := memWrite_spec hm
  have hd := vk_hd h
  have g1 := vg_ext h.vg h1 hx hd
  have F : ReadsFacts [x] s s1 := readsFacts [x] ⟨s1, h1, rfl⟩
  have hg' : VG fs (mwS1 s1 var x) := vg_push g1 rfl rfl rfl rfl (by intro cnd off; simp) rfl
  have hmono : ∀ a, Vis fs s a → Vis fs (mwS1 s1 var x) a := fun a ha =>
    keep_vis (keep_trans (keep_ext h1) (keep_push (s' := mwS1 s1 var x) rfl rfl (by intro cnd off; simp) rfl)) ha
  refine ⟨⟨hf', hg', ?_⟩, hmono⟩
  intro e' t ht
  change alGet (alSet s1.values (.mem var) x) e' = some t at ht
  rw [F.values, C02Emit.alGet_alSet] at ht
  split at ht
  · cases ht; exact hmono x hx
  · exact hmono t (h.tv e' t ht)

theorem vk_calc {fs : List VFrame} {ps : Nat} {calcs : List (Int × Expr w)} {s s1 s' : St w}
    {vals : List (Int × Nat)} {u : Unit} (h : VK fs ps s) (hc : calcValues calcs s = .ok (vals, s1))
    (hm : memWrites vals s1 = .ok (u, s')) : VK fs ps s' := by
  obtain ⟨k1, v1, _⟩ := calcValues_walk (K := VK fs ps) (V := Vis fs) (Un := fun _ _ => False)
    (fun e a v a' hk ho hh =>
      ⟨(vk_getValue hk ho hh).1, (vk_getValue hk ho hh).2.1, (vk_getValue hk ho hh).2.2, fun _ f => f.elim⟩)
    calcs hc h
  exact (memWrites_walk (K := VK fs ps) (V := Vis fs) (Un := fun _ _ => False)
    (fun var x a a' u hk hx hh => ⟨(vk_memWrite hk hx hh).1, (vk_memWrite hk hx hh).2, fun _ f => f.elim⟩)
    vals hm k1 v1).1

end AEmit
end C02
end Hpbf
