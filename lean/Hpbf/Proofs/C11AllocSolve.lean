/-
C11 for the output of `allocate_temps` (namespace `Hpbf.C02.Alloc`): the dataflow solvers of the checker are COMPLETE.
If there is SOME solution of the flow clauses (a relation, `C11.Flow`) below `p.temps` that is empty at the entry,
`initSolve p` (the greatest solution) is accepted by `initOk`; if one has after every non-branch instruction only what
the bitmap declares, `liveSolve p` (the least solution) is accepted by `liveOk`; the fixed number of rounds suffices.
An accepted array is such a solution.  So exhibiting any solution makes `BcWf.check` answer `true` on these two tests.
-/
import Hpbf.Proofs.C11Basic

namespace Hpbf
namespace C02
namespace Alloc

open Bc BcWf C11

variable {w : Nat} {p : Program w}

namespace Wf

theorem getD_eq_getElem {A : Array (List Nat)} {j : Nat} (h : j < A.size) : BcWf.getD A j = A[j] := by
  simp [BcWf.getD, Array.getElem?_eq_getElem h]

theorem sum_set {α : Type} (f : α → Nat) (l : List α) : ∀ (j : Nat) (v : α) (h : j < l.length),
    ((l.set j v).map f).sum + f (l[j]) = (l.map f).sum + f v := by
  induction l with
  | nil => intro j v h; simp at h
  | cons a t ih =>
    intro j v h
    cases j with
    | zero => simp; omega
    | succ j =>
      have := ih j v (by simpa using h)
      simp only [List.set_cons_succ, List.map_cons, List.sum_cons, List.getElem_cons_succ]
      omega

theorem sum_setIfInBounds (f : List Nat → Nat) {A : Array (List Nat)} {j : Nat} (v : List Nat) (h : j < A.size) :
    ((A.setIfInBounds j v).toList.map f).sum + f (BcWf.getD A j) = (A.toList.map f).sum + f v := by
  rw [Array.toList_setIfInBounds, getD_eq_getElem h]
  have := sum_set f A.toList j v (by simpa using h)
  rw [Array.getElem_toList] at this
  exact this

theorem sum_le_of_bound (f : List Nat → Nat) {A : Array (List Nat)} {B : Nat} (h : ∀ l ∈ A.toList, f l ≤ B) :
    (A.toList.map f).sum ≤ A.size * B := by
  rw [← Array.length_toList]
  generalize A.toList = l at h
  induction l with
  | nil => simp
  | cons a t ih =>
    have h1 := h a List.mem_cons_self
    have h2 := ih (fun l hl => h l (List.mem_cons_of_mem _ hl))
    simp only [List.map_cons, List.sum_cons, List.length_cons]
    rw [Nat.add_mul]
    omega

/-- The measure of the initialisation solver: total length. -/
def mu (A : Array (List Nat)) : Nat := (A.toList.map List.length).sum

theorem mu_set {A : Array (List Nat)} {j : Nat} (v : List Nat) (h : j < A.size) :
    mu (A.setIfInBounds j v) + (BcWf.getD A j).length = mu A + v.length :=
  sum_setIfInBounds List.length v h

theorem getD_set {A : Array (List Nat)} {j : Nat} (v : List Nat) (h : j < A.size) (i : Nat) :
    BcWf.getD (A.setIfInBounds j v) i = if i = j then v else BcWf.getD A i := by
  unfold BcWf.getD
  rw [Array.getElem?_setIfInBounds]
  by_cases e : j = i
  · subst e; simp [h]
  · have : ¬ i = j := fun h => e h.symm
    simp [e, this]

theorem set_getD_self {A : Array (List Nat)} {j : Nat} (h : j < A.size) :
    A.setIfInBounds j (BcWf.getD A j) = A := by
  apply Array.ext
  · rw [Array.size_setIfInBounds]
  · intro i h1 h2
    rw [Array.getElem_setIfInBounds]
    split
    · rename_i e; subst e; rw [getD_eq_getElem h]
    · rfl

/-- `upd`, `initStep` (and `liveStep` below) name the local lambdas of `BcWf.initRound`/`liveRound`; `upd` is reducible so
that `initRound_eq` is `congr 1`. -/
@[reducible] def upd (out : List Nat) (acc : Array (List Nat)) (j : Nat) : Array (List Nat) :=
  if j < acc.size then acc.setIfInBounds j (inter (BcWf.getD acc j) out) else acc

def initStep (p : Program w) (acc : Array (List Nat)) (i : Nat) : Array (List Nat) :=
  match p.insts[i]? with
  | none => acc
  | some instr =>
    match succs p.insts.size i instr with
    | none => acc
    | some ss => ss.foldl (upd (union (BcWf.getD acc i) (defs instr))) acc

theorem initRound_eq (p : Program w) (ins : Array (List Nat)) :
    initRound p ins = (List.range p.insts.size).foldl (initStep p) ins := by
  unfold initRound
  congr 1

def Sub (A B : Array (List Nat)) : Prop := ∀ i t, t ∈ BcWf.getD A i → t ∈ BcWf.getD B i

theorem Sub.refl (A : Array (List Nat)) : Sub A A := fun _ _ h => h
theorem Sub.trans {A B C : Array (List Nat)} (h1 : Sub A B) (h2 : Sub B C) : Sub A C :=
  fun i t h => h2 i t (h1 i t h)

theorem upd_size (out : List Nat) (acc : Array (List Nat)) (j : Nat) : (upd out acc j).size = acc.size := by
  unfold upd; split <;> simp

theorem getD_upd (out : List Nat) (acc : Array (List Nat)) (j i : Nat) :
    BcWf.getD (upd out acc j) i = if i = j then inter (BcWf.getD acc j) out else BcWf.getD acc i := by
  unfold upd
  split
  · rename_i h; exact getD_set _ h i
  · rename_i h
    split
    · rename_i e; subst e
      rw [getD_oob (Nat.le_of_not_lt h)]; rfl
    · rfl

theorem upd_sub (out : List Nat) (acc : Array (List Nat)) (j : Nat) : Sub (upd out acc j) acc := by
  intro i t ht
  rw [getD_upd] at ht
  split at ht
  · rename_i e; subst e; exact (mem_inter.1 ht).1
  · exact ht

theorem mu_upd (out : List Nat) (acc : Array (List Nat)) (j : Nat) :
    mu (upd out acc j) ≤ mu acc ∧ (mu (upd out acc j) = mu acc → upd out acc j = acc) := by
  unfold upd
  split
  · rename_i h
    have h1 := mu_set (inter (BcWf.getD acc j) out) h
    have h2 : (inter (BcWf.getD acc j) out).length ≤ (BcWf.getD acc j).length := List.length_filter_le _ _
    refine ⟨by omega, fun he => ?_⟩
    have h3 : (inter (BcWf.getD acc j) out).length = (BcWf.getD acc j).length := by omega
    have h4 : inter (BcWf.getD acc j) out = BcWf.getD acc j :=
      List.filter_eq_self.2 (List.length_filter_eq_length_iff.1 h3)
    rw [h4]; exact set_getD_self h
  · exact ⟨Nat.le_refl _, fun _ => rfl⟩

theorem upd_fix {out : List Nat} {acc : Array (List Nat)} {j : Nat} (h : upd out acc j = acc) :
    ∀ t ∈ BcWf.getD acc j, t ∈ out := by
  intro t ht
  have := getD_upd out acc j j
  rw [h] at this
  simp only [if_true] at this
  rw [this] at ht
  exact (mem_inter.1 ht).2

/-- A fold of steps that keep an invariant `P`, do not raise a measure, and are the identity (leaving a witness `Q`)
when the measure stays, has these three properties itself.  They are the hypotheses of `iterate_reaches_fix` below:
a round that is such a fold reaches a fixed point.  Both solvers are built from such folds. -/
theorem foldl_fix {α ι : Type} {step : α → ι → α} {P : α → Prop} {m : α → Nat} {Q : α → ι → Prop}
    (is : List ι)
    (h : ∀ x, ∀ i ∈ is, P x → P (step x i) ∧ m (step x i) ≤ m x ∧ (m (step x i) = m x → step x i = x ∧ Q x i)) :
    ∀ x, P x → P (is.foldl step x) ∧ m (is.foldl step x) ≤ m x ∧
      (m (is.foldl step x) = m x → is.foldl step x = x ∧ ∀ i ∈ is, Q x i) := by
  induction is with
  | nil => intro x hx; exact ⟨hx, Nat.le_refl _, fun _ => ⟨rfl, fun j hj => by cases hj⟩⟩
  | cons i is ih =>
    intro x hx
    obtain ⟨u1, u2, u3⟩ := h x i List.mem_cons_self hx
    obtain ⟨i1, i2, i3⟩ := ih (fun y j hj => h y j (List.mem_cons_of_mem _ hj)) (step x i) u1
    simp only [List.foldl_cons]
    refine ⟨i1, Nat.le_trans i2 u2, fun he => ?_⟩
    obtain ⟨e2, e3⟩ := u3 (by omega)
    rw [e2] at i3 he ⊢
    obtain ⟨q1, q2⟩ := i3 he
    exact ⟨q1, fun j hj => (List.mem_cons.1 hj).elim (fun e => e ▸ e3) (q2 j)⟩

/-- A relation `H` (`H i t`: the temporary `t` is in the set at `i`) is below the array. -/
def Low (p : Program w) (H : Nat → Nat → Prop) (A : Array (List Nat)) : Prop :=
  ∀ i t, i < p.insts.size → H i t → t ∈ BcWf.getD A i

theorem upd_low {H : Nat → Nat → Prop} {out : List Nat} {acc : Array (List Nat)} {j : Nat}
    (h1 : ∀ t, H j t → t ∈ out) (h2 : Low p H acc) : Low p H (upd out acc j) := by
  intro i t hi ht
  rw [getD_upd]
  split
  · rename_i e; subst e
    exact mem_inter.2 ⟨h2 i t hi ht, h1 t ht⟩
  · exact h2 i t hi ht

def FixAt (p : Program w) (A : Array (List Nat)) (i : Nat) : Prop :=
  ∀ instr ss, p.insts[i]? = some instr → succs p.insts.size i instr = some ss →
    ∀ j ∈ ss, ∀ t ∈ BcWf.getD A j, t ∈ BcWf.getD A i ∨ t ∈ defs instr

theorem stepI_spec {H : Nat → Nat → Prop} (F : Flow p H) {acc : Array (List Nat)}
    (hlow : Low p H acc) (i : Nat) :
    ((initStep p acc i).size = acc.size ∧ Sub (initStep p acc i) acc ∧ Low p H (initStep p acc i)) ∧
    mu (initStep p acc i) ≤ mu acc ∧ (mu (initStep p acc i) = mu acc → initStep p acc i = acc ∧ FixAt p acc i) := by
  unfold initStep FixAt
  cases hi : p.insts[i]? with
  | none => exact ⟨⟨rfl, Sub.refl _, hlow⟩, Nat.le_refl _, fun _ => ⟨rfl, fun _ _ h => by cases h⟩⟩
  | some instr =>
    simp only
    cases hs : succs p.insts.size i instr with
    | none =>
      exact ⟨⟨rfl, Sub.refl _, hlow⟩, Nat.le_refl _,
        fun _ => ⟨rfl, fun _ _ e1 e2 => by cases e1; rw [hs] at e2; cases e2⟩⟩
    | some ss =>
      simp only
      -- what `H` has at a successor is propagated
      have hout : ∀ j ∈ ss, ∀ t, H j t → t ∈ union (BcWf.getD acc i) (defs instr) := by
        intro j hj t ht
        obtain ⟨ss', e, hf⟩ := F.flow hi
        rw [hs] at e; cases e
        exact mem_union.2 ((hf j hj t ht).imp (hlow i t (lt_of_getElem? hi)) id)
      obtain ⟨i1, i3, i4⟩ := foldl_fix (P := fun A => A.size = acc.size ∧ Sub A acc ∧ Low p H A)
        (Q := fun A j => upd (union (BcWf.getD acc i) (defs instr)) A j = A) ss
        (fun A j hj hA => ⟨⟨(upd_size _ A j).trans hA.1, (upd_sub _ A j).trans hA.2.1, upd_low (hout j hj) hA.2.2⟩,
          (mu_upd _ A j).1, fun e => ⟨(mu_upd _ A j).2 e, (mu_upd _ A j).2 e⟩⟩) acc ⟨rfl, Sub.refl _, hlow⟩
      refine ⟨i1, i3, fun he => ?_⟩
      obtain ⟨q1, q2⟩ := i4 he
      refine ⟨q1, ?_⟩
      intro instr' ss' e1 e2 j hj t ht
      cases e1
      rw [hs] at e2; cases e2
      exact mem_union.1 (upd_fix (q2 j hj) t ht)

theorem iterate_reaches_fix {α : Type} (f : α → α) (m : α → Nat) (P : α → Prop)
    (hP : ∀ x, P x → P (f x))
    (hle : ∀ x, P x → m (f x) ≤ m x) (heq : ∀ x, P x → m (f x) = m x → f x = x) :
    ∀ (k : Nat) (x : α), P x → m x < k → f (iterate f k x) = iterate f k x ∧ P (iterate f k x) := by
  intro k
  induction k with
  | zero => intro x _ h; omega
  | succ k ih =>
    intro x hx h
    rw [iterate]
    by_cases e : m (f x) = m x
    · have := heq x hx e
      rw [this, iterate_fixed f this]
      exact ⟨this, hx⟩
    · have := hle x hx
      exact ih (f x) (hP x hx) (by omega)

theorem iterate_inv {α : Type} (f : α → α) (P : α → Prop) (hP : ∀ x, P x → P (f x)) :
    ∀ (k : Nat) (x : α), P x → P (iterate f k x) := by
  intro k
  induction k with
  | zero => intro x h; exact h
  | succ k ih => intro x h; rw [iterate]; exact ih _ (hP x h)

theorem getD_replicate (n : Nat) (v : List Nat) (i : Nat) :
    BcWf.getD (Array.replicate n v) i = if i < n then v else [] := by
  unfold BcWf.getD
  rw [Array.getElem?_replicate]
  split <;> rfl

def initStart (p : Program w) : Array (List Nat) :=
  (Array.replicate p.insts.size (List.range p.temps)).setIfInBounds 0 []

/-- The number of rounds exceeds `p.insts.size * p.temps`, which bounds the measure of the start (`mu_initStart`);
`iterate_reaches_fix` asks for no more. -/
theorem initSolve_eq (p : Program w) :
    initSolve p = iterate (initRound p) (p.insts.size * (p.temps + 1) + 1) (initStart p) := rfl

theorem getD_initStart (p : Program w) (i : Nat) :
    BcWf.getD (initStart p) i = if i = 0 then [] else if i < p.insts.size then List.range p.temps else [] := by
  unfold initStart
  by_cases h : 0 < p.insts.size
  · rw [getD_set _ (by simpa using h), getD_replicate]
  · rw [getD_oob (by simp; omega)]
    have : ¬ i < p.insts.size := by omega
    simp [this]

theorem mu_initStart (p : Program w) : mu (initStart p) ≤ p.insts.size * p.temps := by
  have h := sum_le_of_bound List.length (A := initStart p) (B := p.temps) (by
    intro l hl
    obtain ⟨i, hi, rfl⟩ := List.getElem_of_mem hl
    rw [Array.getElem_toList, ← getD_eq_getElem (by simpa using hi), getD_initStart]
    split
    · simp
    · split <;> simp)
  have : (initStart p).size = p.insts.size := by simp [initStart]
  rw [this] at h
  exact h

def UsesLt (p : Program w) (T : Nat) : Prop :=
  ∀ (i : Nat) (ins : Instr w), p.insts[i]? = some ins → ∀ t ∈ uses ins, t < T

end Wf

open Wf

theorem alloc_initOk_of_facts {I : Array (List Nat)} (h : InitFacts p I) :
    initOk p I = true := by
  simp only [initOk, Bool.and_eq_true, beq_iff_eq, Bool.or_eq_true, List.all_eq_true, List.mem_range]
  refine ⟨⟨h.size, Or.inr (by rw [h.entry])⟩, ?_⟩
  intro i hi
  have hget : p.insts[i]? = some p.insts[i] := Array.getElem?_eq_getElem hi
  obtain ⟨ss, hs, hf⟩ := h.flow hget
  simp only [hget, hs, Bool.and_eq_true, List.all_eq_true, Bool.or_eq_true, decide_eq_true_eq]
  refine ⟨subset_iff.2 (h.uses hget), ?_⟩
  intro j hj
  by_cases hjn : j ≥ p.insts.size
  · exact Or.inl hjn
  · exact Or.inr (subset_iff.2 (fun t ht => mem_union.2 (hf j hj t ht)))

/-- The computed array is above every solution that is empty at the entry and stays below `p.temps`: it is accepted
as soon as there is one.  The solution is a relation, `Flow`; for an accepted array it is `initFlow`. -/
theorem initSolve_of_flow {H : Nat → Nat → Prop} (F : Flow p H) (h0 : ∀ t, ¬ H 0 t)
    (hb : ∀ i t, H i t → t < p.temps) : InitFacts p (initSolve p) := by
  have hstart : Low p H (initStart p) := by
    intro i t hi ht
    rw [getD_initStart]
    by_cases e : i = 0
    · subst e; exact absurd ht (h0 t)
    · rw [if_neg e, if_pos hi]; exact List.mem_range.2 (hb i t ht)
  -- a round is a fold of `initStep p`, which keeps the array between `H` and the start
  have R := fun A => foldl_fix (step := initStep p) (m := mu) (Q := FixAt p)
    (P := fun A => A.size = p.insts.size ∧ Low p H A ∧ Sub A (initStart p))
    (List.range p.insts.size) (fun A i _ ⟨h1, h2, h3⟩ =>
      have ⟨⟨q1, q2, q3⟩, q4⟩ := stepI_spec F h2 i
      ⟨⟨q1.trans h1, q3, q2.trans h3⟩, q4⟩) A
  simp only [← initRound_eq] at R
  obtain ⟨hfix, hinv⟩ := iterate_reaches_fix (initRound p) mu _ (fun A hA => (R A hA).1)
    (fun A hA => (R A hA).2.1) (fun A hA he => ((R A hA).2.2 he).1)
    (p.insts.size * (p.temps + 1) + 1) (initStart p)
    ⟨by simp [initStart], hstart, Sub.refl _⟩
    (by have := mu_initStart p; rw [Nat.mul_succ]; omega)
  rw [← initSolve_eq] at hfix hinv
  obtain ⟨hsz, hlow, hup⟩ := hinv
  have hFix : ∀ i, i < p.insts.size → FixAt p (initSolve p) i := fun i hi =>
    ((R _ ⟨hsz, hlow, hup⟩).2.2 (by rw [hfix])).2 i (List.mem_range.2 hi)
  refine ⟨hsz, ?_, ?_, ?_⟩
  · apply List.eq_nil_iff_forall_not_mem.2
    intro t ht
    have := hup 0 t ht
    rw [getD_initStart] at this
    simp at this
  · intro i ins hi t ht
    exact hlow i t (lt_of_getElem? hi) (F.uses hi t ht)
  · intro i ins hi
    obtain ⟨ss, hs, _⟩ := F.flow hi
    exact ⟨ss, hs, fun j hj t ht => hFix i (lt_of_getElem? hi) ins ss hi hs j hj t ht⟩

theorem flow_below {A : Nat → Nat → Prop} (F : Flow p A) {T : Nat} (hu : UsesLt p T) :
    Flow p (fun i t => A i t ∧ t < T) :=
  ⟨fun hi t ht => ⟨F.uses hi t ht, hu _ _ hi t ht⟩, fun hi =>
    have ⟨ss, hs, hf⟩ := F.flow hi
    ⟨ss, hs, fun j hj t ht => (hf j hj t ht.1).imp (fun g => ⟨g, ht.2⟩) id⟩⟩

theorem alloc_initSolve_facts' {I : Array (List Nat)} (hI : InitFacts p I)
    (hu : UsesLt p p.temps) : InitFacts p (initSolve p) :=
  initSolve_of_flow (flow_below (initFlow hI) hu) (fun t h => initSet_entry hI t h.1) (fun _ _ h => h.2)

theorem alloc_initSolve_complete {p : Program w} {I : Array (List Nat)} (hI : initOk p I = true)
    (hb : ∀ i t, t ∈ BcWf.getD I i → t < p.temps) : initOk p (initSolve p) = true :=
  have hI := initOk_facts hI
  alloc_initOk_of_facts (alloc_initSolve_facts' hI (fun _ _ hi t ht => hb _ t (hI.uses hi t ht)))

namespace Wf

/-- The measure of the liveness solver counts the distinct elements below `T`. -/
def cnt (T : Nat) (l : List Nat) : Nat := ((List.range T).filter (fun t => l.contains t)).length

def nu (T : Nat) (A : Array (List Nat)) : Nat := (A.toList.map (cnt T)).sum

theorem cnt_le (T : Nat) (l : List Nat) : cnt T l ≤ T := by
  unfold cnt
  have := List.length_filter_le (fun t => l.contains t) (List.range T)
  simpa using this

theorem filter_length_mono {α : Type} (p q : α → Bool) (l : List α) (h : ∀ x ∈ l, p x = true → q x = true) :
    (l.filter p).length ≤ (l.filter q).length := by
  induction l with
  | nil => simp
  | cons a t ih =>
    have ih' := ih (fun x hx => h x (List.mem_cons_of_mem _ hx))
    have ha := h a List.mem_cons_self
    simp only [List.filter_cons]
    cases hp : p a with
    | true => rw [ha hp]; simp; omega
    | false =>
      cases hq : q a <;> simp <;> omega

theorem filter_length_lt {α : Type} (p q : α → Bool) (l : List α) (h : ∀ x ∈ l, p x = true → q x = true)
    {y : α} (hy : y ∈ l) (hq : q y = true) (hp : p y = false) :
    (l.filter p).length < (l.filter q).length := by
  induction l with
  | nil => cases hy
  | cons a t ih =>
    have hmono := filter_length_mono p q t (fun x hx => h x (List.mem_cons_of_mem _ hx))
    simp only [List.filter_cons]
    rcases List.mem_cons.1 hy with rfl | hy'
    · rw [hp, hq]; simp; omega
    · have ih' := ih (fun x hx => h x (List.mem_cons_of_mem _ hx)) hy'
      have ha := h a List.mem_cons_self
      cases hpa : p a with
      | true => rw [ha hpa]; simp; omega
      | false => cases hqa : q a <;> simp <;> omega

theorem cnt_mono {T : Nat} {l l' : List Nat} (h : ∀ t ∈ l, t ∈ l') : cnt T l ≤ cnt T l' := by
  unfold cnt
  apply filter_length_mono
  intro x _ hx
  simp only [List.contains_eq_mem, decide_eq_true_eq] at hx ⊢
  exact h x hx

theorem cnt_lt {T : Nat} {l l' : List Nat} (h : ∀ t ∈ l, t ∈ l') {y : Nat} (hy : y < T) (h1 : y ∈ l')
    (h2 : y ∉ l) : cnt T l < cnt T l' := by
  unfold cnt
  apply filter_length_lt _ _ _ _ (List.mem_range.2 hy)
  · simpa using h1
  · simpa using h2
  · intro x _ hx
    simp only [List.contains_eq_mem, decide_eq_true_eq] at hx ⊢
    exact h x hx

theorem nu_set {T : Nat} {A : Array (List Nat)} {j : Nat} (v : List Nat) (h : j < A.size) :
    nu T (A.setIfInBounds j v) + cnt T (BcWf.getD A j) = nu T A + cnt T v :=
  sum_setIfInBounds (cnt T) v h

theorem nu_le (T : Nat) (A : Array (List Nat)) : nu T A ≤ A.size * T :=
  sum_le_of_bound (cnt T) (fun l _ => cnt_le T l)

def oOf (p : Program w) (acc : Array (List Nat)) (ss : List Nat) (o0 : List Nat) : List Nat :=
  ss.foldl (fun o j =>
    match p.insts[j]? with
    | some ij => union o (liveIn ij (BcWf.getD acc j))
    | none => o) o0

theorem oOf_cons (p : Program w) (acc : Array (List Nat)) (j : Nat) (ss : List Nat) (o0 : List Nat) :
    oOf p acc (j :: ss) o0 = oOf p acc ss (match p.insts[j]? with
      | some ij => union o0 (liveIn ij (BcWf.getD acc j))
      | none => o0) := rfl

def liveStep (p : Program w) (i : Nat) (acc : Array (List Nat)) : Array (List Nat) :=
  match p.insts[i]? with
  | none => acc
  | some instr =>
    match succs p.insts.size i instr with
    | none => acc
    | some ss => acc.setIfInBounds i (oOf p acc ss (BcWf.getD acc i))

theorem liveRound_eq (p : Program w) (outs : Array (List Nat)) :
    liveRound p outs = (List.range p.insts.size).reverse.foldl (fun A i => liveStep p i A) outs := by
  rw [List.foldl_reverse]
  unfold liveRound
  congr 1

theorem union_eq_self {o x : List Nat} (h : ∀ t ∈ x, t ∈ o) : union o x = o := by
  unfold union
  have : x.filter (fun y => !o.contains y) = [] := by
    apply List.filter_eq_nil_iff.2
    intro a ha
    simp [h a ha]
  rw [this, List.append_nil]

theorem mem_oOf {acc : Array (List Nat)} {t : Nat} : ∀ (ss : List Nat) (o0 : List Nat),
    t ∈ oOf p acc ss o0 ↔
      t ∈ o0 ∨ ∃ j ∈ ss, ∃ ij, p.insts[j]? = some ij ∧ t ∈ liveIn ij (BcWf.getD acc j) := by
  intro ss
  induction ss with
  | nil => intro o0; simp [oOf]
  | cons j ss ih =>
    intro o0
    rw [oOf_cons, ih]
    cases hj : p.insts[j]? <;> simp [hj, mem_union, or_assoc]

/-- Nothing is added if everything to be added is there already (as lists: `union` appends what is new). -/
theorem oOf_eq_self {acc : Array (List Nat)} : ∀ (ss : List Nat) (o0 : List Nat),
    (∀ j ∈ ss, ∀ ij, p.insts[j]? = some ij → ∀ t ∈ liveIn ij (BcWf.getD acc j), t ∈ o0) →
    oOf p acc ss o0 = o0 := by
  intro ss
  induction ss with
  | nil => intro o0 _; rfl
  | cons j ss ih =>
    intro o0 h
    rw [oOf_cons]
    cases hj : p.insts[j]? with
    | none => exact ih o0 (fun j' hj' => h j' (List.mem_cons_of_mem _ hj'))
    | some ij =>
      simp only
      rw [union_eq_self (h j List.mem_cons_self ij hj)]
      exact ih o0 (fun j' hj' => h j' (List.mem_cons_of_mem _ hj'))

def FixL (p : Program w) (A : Array (List Nat)) (i : Nat) : Prop :=
  ∀ instr ss, p.insts[i]? = some instr → succs p.insts.size i instr = some ss →
    ∀ j ∈ ss, ∀ ij, p.insts[j]? = some ij → ∀ t ∈ liveIn ij (BcWf.getD A j), t ∈ BcWf.getD A i

/-- The set after `i` that goes with sets `L` before the instructions: what some successor has. -/
def After (p : Program w) (L : Nat → Nat → Prop) (i t : Nat) : Prop :=
  ∃ ins ss j, p.insts[i]? = some ins ∧ succs p.insts.size i ins = some ss ∧ j ∈ ss ∧ L j t

theorem flow_liveIn {L : Nat → Nat → Prop} (F : Flow p L) {j : Nat} {ij : Instr w} (hij : p.insts[j]? = some ij)
    {l : List Nat} (hl : ∀ t ∈ l, After p L j t) {t : Nat} (ht : t ∈ liveIn ij l) : L j t := by
  rcases mem_liveIn.1 ht with g | ⟨g1, g2⟩
  · exact F.uses hij t g
  · obtain ⟨ins, ss, j', q1, q2, q3, q4⟩ := hl t g1
    rw [hij] at q1; cases q1
    obtain ⟨ss', e, hf⟩ := F.flow hij
    rw [q2] at e; cases e
    exact (hf j' q3 t q4).resolve_right g2

theorem stepL_spec {L : Nat → Nat → Prop} (F : Flow p L) (hb : ∀ i t, L i t → t < p.temps)
    {acc : Array (List Nat)} (h : acc.size = p.insts.size ∧ ∀ i t, t ∈ BcWf.getD acc i → After p L i t) (i : Nat) :
    ((liveStep p i acc).size = p.insts.size ∧ ∀ i' t, t ∈ BcWf.getD (liveStep p i acc) i' → After p L i' t) ∧
    nu p.temps acc ≤ nu p.temps (liveStep p i acc) ∧
    (nu p.temps (liveStep p i acc) = nu p.temps acc → liveStep p i acc = acc ∧ FixL p acc i) := by
  obtain ⟨hsz, hsub⟩ := h
  unfold liveStep FixL
  cases hi : p.insts[i]? with
  | none => exact ⟨⟨hsz, hsub⟩, Nat.le_refl _, fun _ => ⟨rfl, fun _ _ h => by cases h⟩⟩
  | some instr =>
    simp only
    cases hs : succs p.insts.size i instr with
    | none =>
      exact ⟨⟨hsz, hsub⟩, Nat.le_refl _, fun _ => ⟨rfl, fun _ _ e1 e2 => by cases e1; rw [hs] at e2; cases e2⟩⟩
    | some ss =>
      simp only
      have hlt : i < acc.size := by rw [hsz]; exact lt_of_getElem? hi
      -- the new entry: the old one and the live-in sets of the successors, which are in `L`
      have hmem := fun t => mem_oOf (p := p) (acc := acc) (t := t) ss (BcWf.getD acc i)
      have a2 : ∀ t ∈ BcWf.getD acc i, t ∈ oOf p acc ss (BcWf.getD acc i) := fun t ht => (hmem t).2 (Or.inl ht)
      have hlive : ∀ j ij, p.insts[j]? = some ij → ∀ t ∈ liveIn ij (BcWf.getD acc j), L j t :=
        fun j ij hij t ht => flow_liveIn F hij (hsub j) ht
      have hn := nu_set (T := p.temps) (oOf p acc ss (BcWf.getD acc i)) hlt
      have a5 := cnt_mono (T := p.temps) a2
      refine ⟨⟨by simp [hsz], ?_⟩, by omega, fun he => ?_⟩
      · intro i' t ht
        rw [getD_set _ hlt] at ht
        split at ht
        · rename_i e; subst e
          rcases (hmem t).1 ht with g | ⟨j, hj, ij, hij, g⟩
          · exact hsub _ t g
          · exact ⟨instr, ss, j, hi, hs, hj, hlive j ij hij t g⟩
        · exact hsub i' t ht
      · -- the count stays, so nothing new came in
        have hall : ∀ j ∈ ss, ∀ ij, p.insts[j]? = some ij → ∀ t ∈ liveIn ij (BcWf.getD acc j),
            t ∈ BcWf.getD acc i := fun j hj ij hij t ht => Classical.byContradiction fun hn' => by
          have := cnt_lt (T := p.temps) a2 (hb j t (hlive j ij hij t ht))
            ((hmem t).2 (Or.inr ⟨j, hj, ij, hij, ht⟩)) hn'
          omega
        rw [oOf_eq_self ss _ hall]
        refine ⟨set_getD_self hlt, ?_⟩
        intro instr' ss' q1 q2
        cases q1
        rw [hs] at q2; cases q2
        exact hall

/-- The number of rounds exceeds `p.insts.size * p.temps`, which bounds the measure
`p.insts.size * p.temps - nu p.temps A` used in `liveSolve_of_flow`. -/
theorem liveSolve_eq (p : Program w) :
    liveSolve p = iterate (liveRound p) (p.insts.size * (p.temps + 1) + 1) (Array.replicate p.insts.size []) := rfl

end Wf

open Wf

theorem alloc_liveOk_of_facts {numRegs : Nat} {O : Array (List Nat)}
    (h : LiveFacts p numRegs O) : liveOk p numRegs O = true := by
  simp only [liveOk, Bool.and_eq_true, beq_iff_eq, List.all_eq_true, List.mem_range]
  refine ⟨h.size, ?_⟩
  intro i hi
  have hget : p.insts[i]? = some p.insts[i] := Array.getElem?_eq_getElem hi
  obtain ⟨ss, hs, hf⟩ := h.flow hget
  simp only [hget, hs, Bool.and_eq_true, List.all_eq_true, Bool.or_eq_true]
  refine ⟨?_, ?_⟩
  · intro j hj
    cases hij : p.insts[j]? with
    | none => rfl
    | some ij => exact subset_iff.2 (hf j hj ij hij)
  · cases hb : isBranch p.insts[i] with
    | true => exact Or.inl rfl
    | false =>
      right
      intro t ht
      by_cases h1 : t < numRegs
      · by_cases h2 : t < 16
        · rcases h.declared hget hb t ht h1 h2 with g | g
          · simp [g]
          · simp [g]
        · simp [h2]
      · simp [h1]

theorem succs_of_not_branch {n i : Nat} {ins : Instr w} (h : isBranch ins = false) : succs n i ins = some [i + 1] := by
  cases ins <;> first | rfl | cases h

/-- The computed array is below the sets after the instructions (`After`) of every solution that stays below
`p.temps`: it is accepted as soon as one of them has, after each non-branch instruction, only what the instruction
writes or its bitmap declares.  The solution is the relation before the instructions, as for `initSolve_of_flow`; for an
accepted array it is `liveFlow`. -/
theorem liveSolve_of_flow {numRegs : Nat} {L : Nat → Nat → Prop} (F : Flow p L) (hb : ∀ i t, L i t → t < p.temps)
    (hd : ∀ {i : Nat} {ins : Instr w}, p.insts[i]? = some ins → isBranch ins = false → ∀ t, L (i + 1) t →
      t < numRegs → t < 16 → t ∈ defs ins ∨ ((p.live[i]?).getD 0).testBit t = true) :
    LiveFacts p numRegs (liveSolve p) := by
  have hnil : ∀ i t, t ∉ BcWf.getD (Array.replicate p.insts.size ([] : List Nat)) i := by
    intro i t ht
    rw [getD_replicate] at ht
    split at ht <;> cases ht
  -- a round is a fold of `liveStep p`; the measure counts what may still come in
  have R := fun A => foldl_fix (step := fun A i => liveStep p i A) (Q := FixL p)
    (m := fun A => p.insts.size * p.temps - nu p.temps A)
    (P := fun A => A.size = p.insts.size ∧ ∀ i t, t ∈ BcWf.getD A i → After p L i t)
    (List.range p.insts.size).reverse (fun A i _ hA => by
      obtain ⟨q1, q2, q3⟩ := stepL_spec F hb hA i
      have b := nu_le p.temps (liveStep p i A)
      rw [q1.1] at b
      exact ⟨q1, by omega, fun he => q3 (by omega)⟩) A
  simp only [← liveRound_eq] at R
  obtain ⟨hfix, hinv⟩ := iterate_reaches_fix (liveRound p) (fun A => p.insts.size * p.temps - nu p.temps A) _
    (fun A hA => (R A hA).1) (fun A hA => (R A hA).2.1) (fun A hA he => ((R A hA).2.2 he).1)
    (p.insts.size * (p.temps + 1) + 1) (Array.replicate p.insts.size [])
    ⟨by simp, fun i t ht => absurd ht (hnil i t)⟩
    (by rw [Nat.mul_succ]; omega)
  rw [← liveSolve_eq] at hfix hinv
  obtain ⟨hsz, hup⟩ := hinv
  have hFix : ∀ i, i < p.insts.size → FixL p (liveSolve p) i := fun i hi =>
    ((R _ ⟨hsz, hup⟩).2.2 (by rw [hfix])).2 i (List.mem_reverse.2 (List.mem_range.2 hi))
  refine ⟨hsz, ?_, ?_⟩
  · intro i ins hi
    obtain ⟨ss, hs, _⟩ := F.flow hi
    exact ⟨ss, hs, fun j hj ij hij t ht => hFix i (lt_of_getElem? hi) ins ss hi hs j hj ij hij t ht⟩
  · intro i ins hi hbr t ht h1 h2
    obtain ⟨ins', ss, j, q1, q2, q3, q4⟩ := hup i t ht
    rw [hi] at q1; cases q1
    rw [succs_of_not_branch hbr] at q2; cases q2
    cases List.mem_singleton.1 q3
    exact hd hi hbr t q4 h1 h2

theorem alloc_liveSolve_facts {numRegs : Nat} {O : Array (List Nat)}
    (hO : LiveFacts p numRegs O) (hu : UsesLt p p.temps) : LiveFacts p numRegs (liveSolve p) := by
  refine liveSolve_of_flow (flow_below (liveFlow hO) hu) (fun _ _ h => h.2) ?_
  intro i ins hi hbr t ht h1 h2
  obtain ⟨⟨ij, hij, g⟩, _⟩ := ht
  obtain ⟨ss, hs, hf⟩ := hO.flow hi
  rw [succs_of_not_branch hbr] at hs; cases hs
  exact hO.declared hi hbr t (hf (i + 1) (List.mem_singleton.2 rfl) ij hij t g) h1 h2

theorem alloc_liveSolve_complete {p : Program w} {numRegs : Nat} {O : Array (List Nat)}
    (hO : liveOk p numRegs O = true) (hu : UsesLt p p.temps) : liveOk p numRegs (liveSolve p) = true :=
  alloc_liveOk_of_facts (alloc_liveSolve_facts (liveOk_facts hO) hu)

end Alloc
end C02
end Hpbf
