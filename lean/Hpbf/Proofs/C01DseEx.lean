/-
Concrete instances for the dead store elimination theorem: the hypotheses are satisfiable (with a loop whose
back edge is looked through), the final tape may differ, and every hypothesis is necessary (for each one a
program + analysis + environment that violates only that hypothesis and for which the pass changes the
output).
-/
import Hpbf.Proofs.C01DseCheck

namespace Hpbf
namespace C01Dse
namespace Ex
open Ir OptDse

def envO : Env := { input := some [], sink := true, outOk := none }
/-- The sink accepts one byte and refuses the next. -/
def envRefuse : Env := { input := some [], sink := true, outOk := some 1 }

def leaf (atMostOnce atLeastOnce hasShift : Bool) (reads : List Int) : DAnal :=
  .mk atMostOnce atLeastOnce hasShift reads []
/-- The facts of the program's own node are not used by the pass. -/
def top (subs : List DAnal) : DAnal := .mk false false false [] subs

def cst (v : Int) (c : BitVec 8) : Instr 8 := .calc [(v, Expr.val c)]
/-- `x_v := x_v + c` -/
def addc (v : Int) (c : BitVec 8) : Instr 8 := Instr.add v c
def cpy (v u : Int) : Instr 8 := .calc [(v, Expr.var u)]
def blk (l : List (Instr 8)) : Block 8 := { shift := 0, insts := l }

def doneWith (b b' : Block 8) (env : Env) (N : Nat) (t t' : List Ev) : Prop :=
  ∃ c c', run b false 0 N env = .done c ∧ run b' false 0 N env = .done c' ∧ c.st.trace = t ∧ c'.st.trace = t'

theorem doneWith_of {b b' : Block 8} {env : Env} {N : Nat} {t t' : List Ev}
    (h : (match run b false 0 N env, run b' false 0 N env with
      | .done c, .done c' => decide (c.st.trace = t) && decide (c'.st.trace = t')
      | _, _ => false) = true) : doneWith b b' env N t t' := by
  unfold doneWith
  split at h
  · rename_i c c' h1 h2
    simp only [Bool.and_eq_true, decide_eq_true_eq] at h
    exact ⟨c, c', h1, h2, h.1, h.2⟩
  · exact absurd h (by simp)

/-- `x0 := 2; x1 := 9; while x0 { x3 := x2; x2 += 1; x0 -= 1 }; x1 := 3; out x1; out x2` -/
def exMain : Block 8 :=
  blk [cst 0 2, cst 1 9, .loop 0 0 [cpy 3 2, addc 2 1, addc 0 (-1)] false, cst 1 3, .output 1, .output 2]
/-- The loop: not at most once, at least once, no shift, reads `x0`, `x2`. -/
def anMain : DAnal := top [leaf false true false [0, 2]]
/-- `x1 := 9` (overwritten after the loop, which does not read `x1`) and `x3 := x2` (never read: seen through
the back edge of the loop and the end of the program) are deleted. -/
def exMain' : Block 8 :=
  blk [cst 0 2, .calc [], .loop 0 0 [.calc [], addc 2 1, addc 0 (-1)] false, cst 1 3, .output 1, .output 2]

theorem exMain_elim : eliminate exMain anMain = some exMain' := by rfl
theorem exMain_nodup : NoDupTargets exMain := by decide
theorem exMain_sound : AnalSound exMain anMain envO := analSoundAt_of_check 40 (by decide)
theorem exMain_sound_refuse : AnalSound exMain anMain envRefuse := analSoundAt_of_check 40 (by decide)
theorem exMain_runs : doneWith exMain exMain' envO 40 [.out 2, .out 3] [.out 2, .out 3] :=
  doneWith_of (by decide)
theorem exMain_stops : ∃ c c', run exMain false 0 40 envRefuse = .stopped c ∧
    run exMain' false 0 40 envRefuse = .stopped c' ∧ c.st.trace = [.outFail 2, .out 3] ∧
    c'.st.trace = [.outFail 2, .out 3] := by
  have h : (match run exMain false 0 40 envRefuse, run exMain' false 0 40 envRefuse with
      | .stopped c, .stopped c' =>
        decide (c.st.trace = [.outFail 2, .out 3]) && decide (c'.st.trace = [.outFail 2, .out 3])
      | _, _ => false) = true := by decide
  split at h
  · rename_i c c' h1 h2
    simp only [Bool.and_eq_true, decide_eq_true_eq] at h
    exact ⟨c, c', h1, h2, h.1, h.2⟩
  · exact absurd h (by simp)

/-- `x0 := 5` at the end of the program is deleted. -/
def exTape : Block 8 := blk [cst 0 5]
def exTape' : Block 8 := blk [.calc []]

theorem exTape_elim : eliminate exTape (top []) = some exTape' := by rfl
theorem exTape_sound : AnalSound exTape (top []) envO := analSoundAt_of_check 5 (by decide)
theorem exTape_differs : ∃ c c', run exTape false 0 5 envO = .done c ∧ run exTape' false 0 5 envO = .done c' ∧
    c.st.tape.get 0 = 5#8 ∧ c'.st.tape.get 0 = 0#8 := by
  have h : (match run exTape false 0 5 envO, run exTape' false 0 5 envO with
      | .done c, .done c' => decide (c.st.tape.get 0 = 5#8) && decide (c'.st.tape.get 0 = 0#8)
      | _, _ => false) = true := by decide
  split at h
  · rename_i c c' h1 h2
    simp only [Bool.and_eq_true, decide_eq_true_eq] at h
    exact ⟨c, c', h1, h2, h.1, h.2⟩
  · exact absurd h (by simp)

/-- `x0 := 7; if x1 { x0 := 3 }; out x0` with `x1 = 0`. -/
def exAL : Block 8 := blk [cst 0 7, .ifnz 1 0 [cst 0 3], .output 0]
/-- Claims `at_least_once` for the `if`, which is never entered. -/
def anAL : DAnal := top [leaf true true false [1]]
def exAL' : Block 8 := blk [.calc [], .ifnz 1 0 [cst 0 3], .output 0]

theorem exAL_elim : eliminate exAL anAL = some exAL' := by rfl
theorem exAL_others : NoDupTargets exAL ∧ ShiftFact exAL anAL ∧ AtMostFact false 0 exAL anAL envO ∧
    ReadsFact false 0 exAL anAL envO :=
  ⟨by decide, by decide, atMostFact_of_check 10 (by decide) (by decide),
    readsFact_of_check 10 (by decide) (by decide)⟩
theorem exAL_differs : doneWith exAL exAL' envO 10 [.out 7] [.out 0] := doneWith_of (by decide)

/-- `x0 := 2; while x0 { out x1; x1 := 5; x0 -= 1 }` (two iterations). -/
def exAM : Block 8 := blk [cst 0 2, .loop 0 0 [.output 1, cst 1 5, addc 0 (-1)] false]
/-- Claims `at_most_once`. -/
def anAM : DAnal := top [leaf true true false [0, 1]]
/-- Omits `x1` from `reads`. -/
def anRD : DAnal := top [leaf false true false [0]]
def exAM' : Block 8 := blk [cst 0 2, .loop 0 0 [.output 1, .calc [], addc 0 (-1)] false]

theorem exAM_elim : eliminate exAM anAM = some exAM' := by rfl
theorem exAM_others : NoDupTargets exAM ∧ ShiftFact exAM anAM ∧ AtLeastFact false 0 exAM anAM envO ∧
    ReadsFact false 0 exAM anAM envO :=
  ⟨by decide, by decide, atLeastFact_of_check 20 (by decide) (by decide),
    readsFact_of_check 20 (by decide) (by decide)⟩
theorem exRD_elim : eliminate exAM anRD = some exAM' := by rfl
theorem exRD_others : NoDupTargets exAM ∧ ShiftFact exAM anRD ∧ AtLeastFact false 0 exAM anRD envO ∧
    AtMostFact false 0 exAM anRD envO :=
  ⟨by decide, by decide, atLeastFact_of_check 20 (by decide) (by decide),
    atMostFact_of_check 20 (by decide) (by decide)⟩
theorem exAM_differs : doneWith exAM exAM' envO 20 [.out 5, .out 0] [.out 0, .out 0] := doneWith_of (by decide)

/-- `x0 := 1; x1 := 7; if x0 { } then move right; x1 := 9; out x0` (after the move: writes cell 2, prints
cell 1). -/
def exSA : Block 8 := blk [cst 0 1, cst 1 7, .ifnz 0 1 [], cst 1 9, .output 0]
/-- Claims `has_shift = false` for a block with `shift = 1`. -/
def anSA : DAnal := top [leaf true false false []]
def exSA' : Block 8 := blk [cst 0 1, .calc [], .ifnz 0 1 [], .calc [], .output 0]

theorem exSA_elim : eliminate exSA anSA = some exSA' := by rfl
theorem exSA_others : NoDupTargets exSA ∧ AtLeastFact false 0 exSA anSA envO ∧
    AtMostFact false 0 exSA anSA envO ∧ ReadsFact false 0 exSA anSA envO :=
  ⟨by decide, atLeastFact_of_check 10 (by decide) (by decide), atMostFact_of_check 10 (by decide) (by decide),
    readsFact_of_check 10 (by decide) (by decide)⟩
theorem exSA_differs : doneWith exSA exSA' envO 10 [.out 7] [.out 0] := doneWith_of (by decide)

/-- The same with the move inside a nested `if` (`shift = 0` for the outer one). -/
def exSB : Block 8 := blk [cst 0 1, cst 1 7, .ifnz 0 0 [.ifnz 0 1 []], cst 1 9, .output 0]
/-- The inner block is (correctly) marked `has_shift`, the outer one is not. -/
def anSB : DAnal := top [.mk true false false [] [leaf true false true []]]
def exSB' : Block 8 := blk [cst 0 1, .calc [], .ifnz 0 0 [.ifnz 0 1 []], .calc [], .output 0]

theorem exSB_elim : eliminate exSB anSB = some exSB' := by rfl
theorem exSB_others : NoDupTargets exSB ∧ AtLeastFact false 0 exSB anSB envO ∧
    AtMostFact false 0 exSB anSB envO ∧ ReadsFact false 0 exSB anSB envO :=
  ⟨by decide, atLeastFact_of_check 10 (by decide) (by decide), atMostFact_of_check 10 (by decide) (by decide),
    readsFact_of_check 10 (by decide) (by decide)⟩
theorem exSB_differs : doneWith exSB exSB' envO 10 [.out 7] [.out 0] := doneWith_of (by decide)

/-- `(x0, x0) := (1, 2); out x0`: the interpreter performs the assignments in order (prints 2); the pass
marks the second occurrence "will be overwritten" because of the first, and `retain` then deletes BOTH. -/
def exDup : Block 8 := blk [.calc [(0, Expr.val 1#8), (0, Expr.val 2#8)], .output 0]
def exDup' : Block 8 := blk [.calc [], .output 0]

theorem exDup_elim : eliminate exDup (top []) = some exDup' := by rfl
theorem exDup_sound : AnalSound exDup (top []) envO := analSoundAt_of_check 5 (by decide)
theorem exDup_differs : doneWith exDup exDup' envO 5 [.out 2] [.out 0] := doneWith_of (by decide)

/-- A loop without analysis node: the pass fails (the Rust panics). -/
theorem exShape : eliminate exAM (top []) = none ∧ ¬ ShapeOk exAM (top []) := ⟨by rfl, by decide⟩

end Ex
end C01Dse
end Hpbf
