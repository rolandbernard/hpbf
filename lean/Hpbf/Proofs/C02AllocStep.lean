/-
C02 (`allocate_temps`): one round of the loop — the invariant for `k + 1` and a summary `StepKind`
of what happened to instruction `k` and to the replacement table, as needed by the simulation.
-/
import Hpbf.Proofs.C02AllocInv
set_option linter.unusedSimpArgs false

namespace Hpbf
namespace C02
namespace Alloc

open Bc BcWf BcGen C11

variable {w : Nat} {s : St w}

/-- New entries of the replacement table apart, the table only shrinks. -/
def ReplSub (a a' : ASt w) (t : Nat) (l : Loc w) : Prop :=
  alGet a'.repl t = some l ∧
  ∀ t' v, alGet a'.repl t' = some v → (t' = t ∧ v = l) ∨ alGet a.repl t' = some v

/-- What step 7 did with the rewritten instruction `new` (afterwards `insts[k] = q`). -/
def DstKind (s : St w) (k : Nat) (a a' : ASt w) (new q : Instr w) : Prop :=
  (dstTmp? new = none ∧ q = new ∧ ∀ t' v, alGet a'.repl t' = some v → alGet a.repl t' = some v) ∨
  ∃ t, dstTmp? new = some t ∧ alGet a.repl t = none ∧
    (∃ r : RangeInfo, s.ranges[t]? = some r ∧ r.created = k) ∧
    ((q = .noop ∧ ∀ t' v, alGet a'.repl t' = some v → alGet a.repl t' = some v) ∨
     (∃ src, new = .copy (.tmp t) src ∧ ((∃ c, src = .imm c) ∨ ∃ m, src = .mem m) ∧ q = .noop ∧
        ReplSub a a' t src) ∨
     (∃ r, q = setDst new (.tmp r) ∧ ReplSub a a' t (.tmp r)))

/-- What round `k` did to `insts[k]`: `other` – not `plain`, left alone; `fuse` – a computation moved to the store `f`
that is its first use (step 3); `rw` – `plain`, sources rewritten (step 4), destination treated in step 7 (`DstKind`). -/
inductive StepKind (s : St w) (k : Nat) (a a' : ASt w) : Prop where
  | other (x : Instr w) (hx : a.st.insts[k]? = some x) (hpl : plain x = false)
      (hq : a'.st.insts[k]? = some x) (hi : ∀ j, j ≠ k → a'.st.insts[j]? = a.st.insts[j]?)
      (hr : ∀ t' v, alGet a'.repl t' = some v → alGet a.repl t' = some v)
  | fuse (op : BcGen.Op) (t : Nat) (s0 s1 : Loc w) (f : Nat) (m : Int)
      (hx : a.st.insts[k]? = some (mkArith op (.tmp t) s0 s1))
      (hPk : s.insts[k]? = some (mkArith op (.tmp t) s0 s1)) (hkf : k < f)
      (hPf : s.insts[f]? = some (.copy (.mem m) (.tmp t)))
      (hfa : a.st.insts[f]? = some (.copy (.mem m) (.tmp t)))
      (hq : a'.st.insts[k]? = some .noop) (hf : a'.st.insts[f]? = some (mkArith op (.mem m) s0 s1))
      (hi : ∀ j, j ≠ k → j ≠ f → a'.st.insts[j]? = a.st.insts[j]?)
      (hnone : alGet a.repl t = none) (hr : ReplSub a a' t (.mem m))
  | rw (cur new q : Instr w) (hx : a.st.insts[k]? = some cur) (hpl : plain cur = true)
      (hn : rwInst a.repl cur = .ok new) (hq : a'.st.insts[k]? = some q)
      (hi : ∀ j, j ≠ k → a'.st.insts[j]? = a.st.insts[j]?) (hd : DstKind s k a a' new q)

structure StepSum (s : St w) (numRegs k : Nat) (a a' : ASt w) : Prop where
  inv : PassInv s (k + 1) a'
  /-- the bitmap pushed in this round is that of the free registers of a state `c` (the one after step 5) with a
  consistent register part, whose table has every register entry of the result except the one made in step 7 -/
  mask : ∃ (c : ASt w) (live : Nat), a'.st.live = a.st.live.push live ∧ liveMask numRegs c.freeRegs = .ok live ∧
    RegsInv c ∧ ∀ t r, alGet a'.repl t = some (.tmp r) → alGet c.repl t = some (.tmp r) ∨
      ∃ new, dstTmp? new = some t ∧ a'.st.insts[k]? = some (setDst new (.tmp r))
  /-- an entry is dropped only when the recorded range has ended -/
  keep : ∀ t l, alGet a.repl t = some l → alGet a'.repl t = some l ∨
    ∀ (r : RangeInfo) (L : Nat), s.ranges[t]? = some r → r.lastUse = some L → L ≤ k
  kind : StepKind s k a a'

theorem StepSum.live {numRegs k : Nat} {a a' : ASt w} (S : StepSum s numRegs k a a') :
    a'.st.live.size = a.st.live.size + 1 := by
  obtain ⟨c, live, h, _⟩ := S.mask; rw [h]; simp

/-- Step 7 field by field, when `insts[k] = x` before it: only `insts[k]`, the table, the heap of range ends and the
free lists can change, and the four cases are: no temporary destination; destination never read (`noop`); a copy of a
constant or of an unwritten cell, forwarded (`noop`, table entry `src`); a location `rr` picked (destination set, table
entry `rr`).  In the last two the end of the range goes on the heap. -/
theorem phDst_sum {k : Nat} {can : Bool} {c a' : ASt w} {x : Instr w} {u : Unit}
    (hD : phDst k can c = .ok (u, a')) (hx : c.st.insts[k]? = some x) :
    (∀ j, j ≠ k → a'.st.insts[j]? = c.st.insts[j]?) ∧ a'.st.live = c.st.live ∧ a'.st.ranges = c.st.ranges ∧
    (∀ r ∈ a'.freeRegs, r ∈ c.freeRegs) ∧
    ((dstTmp? x = none ∧ a'.st.insts[k]? = some x ∧ a'.repl = c.repl ∧ a'.nre = c.nre) ∨
     ∃ t, dstTmp? x = some t ∧
      ((a'.st.insts[k]? = some .noop ∧ a'.repl = c.repl ∧ a'.nre = c.nre ∧
          ∀ r : RangeInfo, c.st.ranges[t]? = some r → r.numUses = 0 ∨ r.lastUse = none) ∨
       (∃ src, x = .copy (.tmp t) src ∧ ((∃ cc, src = .imm cc) ∨ ∃ m, src = .mem m) ∧
          a'.st.insts[k]? = some .noop ∧ a'.repl = alSet c.repl t src ∧
          ∃ (r : RangeInfo) (L : Nat), c.st.ranges[t]? = some r ∧ r.lastUse = some L ∧ a'.nre = nrePush (L, t) c.nre) ∨
       (∃ rr, a'.st.insts[k]? = some (setDst x (.tmp rr)) ∧ a'.repl = alSet c.repl t (.tmp rr) ∧
          ∃ (r : RangeInfo) (L : Nat), c.st.ranges[t]? = some r ∧ r.lastUse = some L ∧ a'.nre = nrePush (L, t) c.nre))) := by
  have hkc : k < c.st.insts.size := lt_of_getElem? hx
  have hset : ∀ (y : Instr w) j, j ≠ k → (c.st.insts.setIfInBounds k y)[j]? = c.st.insts[j]? := by
    intro y j hj
    rw [Array.getElem?_setIfInBounds]
    simp [Ne.symm hj]
  have hsetk : ∀ (y : Instr w), (c.st.insts.setIfInBounds k y)[k]? = some y := by
    intro y
    rw [Array.getElem?_setIfInBounds]
    simp [hkc]
  obtain ⟨x', hx', h⟩ := phDst_ok hD
  rw [hx] at hx'; cases hx'
  rcases h with ⟨hn, rfl⟩ | ⟨t, ht, r', hr', h⟩
  · exact ⟨fun j _ => rfl, rfl, rfl, fun _ h => h, Or.inl ⟨hn, hx, rfl, rfl⟩⟩
  rcases h with ⟨h0, rfl⟩ | ⟨src, L, rfl, hL, hnu, hsrc, rfl⟩ | ⟨hnu, L, hL, -, rfl⟩
  · refine ⟨fun j hj => hset _ j hj, rfl, rfl, fun _ h => h, Or.inr ⟨t, ht, Or.inl ⟨hsetk _, rfl, rfl, ?_⟩⟩⟩
    intro r hr
    rw [hr'] at hr; cases hr
    exact h0
  · refine ⟨fun j hj => hset _ j hj, rfl, rfl, fun _ h => h,
      Or.inr ⟨t, ht, Or.inr (Or.inl ⟨src, rfl, ?_, hsetk _, rfl, r', L, hr', hL, rfl⟩)⟩⟩
    rcases hsrc with h | ⟨m, h, _⟩
    · exact Or.inl h
    · exact Or.inr ⟨m, h⟩
  · exact ⟨fun j hj => hset _ j hj, rfl, rfl, pickTemp_freeRegs_sub c (L - k),
      Or.inr ⟨t, ht, Or.inr (Or.inr ⟨_, hsetk _, rfl, r', L, hr', hL, rfl⟩)⟩⟩

theorem plain_of_dstTmp? {x : Instr w} {t : Nat} (h : dstTmp? x = some t) : plain x = true := by
  cases x <;> first | rfl | (simp [dstTmp?] at h)

theorem mem_defs_of_dstTmp? {x : Instr w} {t : Nat} (h : dstTmp? x = some t) : t ∈ BcWf.defs x := by
  cases x with
  | add d a b | sub d a b | mul d a b | copy d a =>
    cases d <;> simp [dstTmp?] at h; subst h; simp [BcWf.defs, locTmp]
  | _ => simp [dstTmp?] at h

theorem rwInst_plain {repl : List (Nat × Loc w)} {cur new : Instr w} (h : rwInst repl cur = .ok new) :
    plain new = plain cur := by
  rcases rwInst_cases h with ⟨d, s, s', rfl, g, rfl⟩ | ⟨op, d, s0, s1, s0', s1', rfl, g0, g1, rfl⟩ |
      ⟨_, rfl⟩ | ⟨rfl, rfl⟩
  · rfl
  · rw [plain_mkArith, plain_mkArith]
  · rfl
  · rfl

theorem alloc_step (hp : AllocPre s) {numRegs k : Nat} {a a' : ASt w} {u : Unit} (hI : PassInv s k a)
    (h : allocStep numRegs k a = .ok (u, a')) : StepSum s numRegs k a a' := by
  obtain ⟨atf0, b, inst0, can, atf, aF, cur, new, live, hd, hi0, hF, hc, hn, hl, hD⟩ := allocStep_ok h
  obtain ⟨d1, d2, d3⟩ := drainEnds_ok _ hd
  obtain ⟨hb, hdead⟩ := passInv_drain hI d1 d2
    (fun t ht => (d3 t ht).resolve_left (by simp))
  have hbst : b.st = a.st := d1.st
  have hbrepl : b.repl = a.repl := d1.repl
  -- no move: steps 4–7 act on `inst0`.  Move: `insts[k] = noop`, steps 4 and 7 are identities and
  -- `a' = pushLive (freeList numRegs atf aF) live`
  rcases hF.moved hi0 with ⟨rfl, rfl⟩ | ⟨op, t, s0, s1, L, f, m, src, M⟩
  · have hcur : cur = inst0 := Option.some.inj (hc.symm.trans hi0)
    subst hcur
    clear hc
    have hc1 := passInv_rewrite hb hi0 hn
    have hkb : k < aF.st.insts.size := lt_of_getElem? hi0
    have hc2 := passInv_free (numRegs := numRegs) (atf := atf) hc1
    have hc3 := passInv_pushLive hc2 live
    obtain ⟨hrg3, hst3, -, hget3, hlv3⟩ := freed_fields numRegs atf live hc1.regs
    -- `setI` changes the instructions only
    replace hrg3 : (pushLive (freeList numRegs atf (aF.setI k new)) live).st.ranges = aF.st.ranges := hrg3
    replace hget3 : ∀ t', alGet (pushLive (freeList numRegs atf (aF.setI k new)) live).repl t' =
        if t' ∈ atf then none else alGet aF.repl t' := hget3
    replace hlv3 : (pushLive (freeList numRegs atf (aF.setI k new)) live).st.live = aF.st.live.push live := hlv3
    have hx3 : (pushLive (freeList numRegs atf (aF.setI k new)) live).st.insts[k]? = some new := by
      rw [hst3, getElem?_setI]; simp [hkb]
    have hrepl3 : (pushLive (freeList numRegs atf (aF.setI k new)) live).repl =
        (freeList numRegs atf (aF.setI k new)).repl := rfl
    generalize pushLive (freeList numRegs atf (aF.setI k new)) live = c3 at hc3 hst3 hx3 hget3 hrg3 hlv3 hD hrepl3
    obtain ⟨hzc, ycur, hycur, hbrc⟩ := hb.skel k cur hi0
    obtain ⟨hnz, hnb, hnd⟩ := rwInst_facts hn (fun t v g => (hb.replDom t v g).1) hzc
    -- the destination temporary is created here
    have hdstfacts : ∀ t, dstTmp? new = some t → alGet aF.repl t = none ∧
        ∃ r : RangeInfo, s.ranges[t]? = some r ∧ r.created = k ∧ aF.st.ranges[t]? = some r := by
      intro t ht
      rw [hnd] at ht
      have hPk : s.insts[k]? = some cur := by
        rcases hb.fut k (Nat.le_refl _) with h | ⟨op', m', t', a', b', h⟩
        · rw [← h]; exact hi0
        · have := h.2.2
          rw [hi0] at this
          cases this
          rw [dstTmp?_mkArith] at ht
          cases ht
      have htd : t ∈ BcWf.defs cur := mem_defs_of_dstTmp? ht
      obtain ⟨r0, hr0, hcr0⟩ := hp.defs k cur t hPk htd
      obtain ⟨r', q1, _, _, q4⟩ := hb.rkeep t r0 hr0
      rw [q4 (by rw [hcr0]; exact Nat.le_refl _)] at q1
      refine ⟨?_, r0, hr0, hcr0, q1⟩
      cases hg : alGet aF.repl t with
      | none => rfl
      | some v =>
        obtain ⟨_, r1, g1, g2⟩ := hb.replDom t v hg
        rw [hr0] at g1; cases g1
        omega
    have hnone3 : ∀ t, dstTmp? new = some t → alGet c3.repl t = none := by
      intro t ht
      rw [hget3]; split
      · rfl
      · exact (hdstfacts t ht).1
    have hdst3 : ∀ t, dstTmp? new = some t →
        (∀ f op m s0 s1, ¬ Fused s (k + 1) c3 f op m t s0 s1) ∧
        ∃ r : RangeInfo, s.ranges[t]? = some r ∧ r.created = k ∧ c3.st.ranges[t]? = some r := by
      intro t ht
      obtain ⟨g1, r0, g2, g3, g4⟩ := hdstfacts t ht
      refine ⟨?_, r0, g2, g3, ?_⟩
      · intro f op m s0 s1 hf
        obtain ⟨i, r1, L1, q1, q2, q3, q4, _⟩ := hc3.fused _ _ _ _ _ _ hf
        rw [g2] at q2; cases q2
        -- created at `k`, but the computation was moved in an earlier round
        have hf' : Fused s k aF f op m t s0 s1 := by
          refine ⟨Nat.le_of_succ_le hf.1, hf.2.1, ?_⟩
          have := hf.2.2
          rw [hst3, getElem?_setI] at this
          have hne : ¬ (k = f ∧ k < aF.st.insts.size) := fun h => Nat.ne_of_gt hf.1 h.1.symm
          simpa [hne] using this
        obtain ⟨i', r2, L2, p1, p2, p3, p4, _⟩ := hb.fused _ _ _ _ _ _ hf'
        rw [g2] at p2; cases p2
        omega
      · rw [hrg3]; exact g4
    have hinv := passInv_dst hp hc3 hD hx3 hnz hdst3
    obtain ⟨s1, s2, -, -, s3⟩ := phDst_sum hD hx3
    have hinsts : ∀ j, j ≠ k → a'.st.insts[j]? = a.st.insts[j]? := by
      intro j hj
      rw [s1 j hj, hst3, getElem?_setI, ← hbst]
      have : ¬ (k = j ∧ k < aF.st.insts.size) := fun h => hj h.1.symm
      simp [this]
    have hsub3 : ∀ t' v, alGet c3.repl t' = some v → alGet a.repl t' = some v := by
      intro t' v hv
      rw [hget3] at hv
      split at hv
      · cases hv
      · rw [← hbrepl]; exact hv
    have hrsub : ∀ t l, a'.repl = alSet c3.repl t l → ReplSub a a' t l := by
      intro t l e
      refine ⟨by rw [e, alGet_alSet_self], ?_⟩
      intro t' v hv
      rw [e, alGet_alSet] at hv
      split at hv
      · rename_i e'; cases hv; exact Or.inl ⟨e', rfl⟩
      · exact Or.inr (hsub3 _ _ hv)
    have hkeep : ∀ t l, alGet a.repl t = some l → alGet a'.repl t = some l ∨
        ∀ (r : RangeInfo) (L : Nat), s.ranges[t]? = some r → r.lastUse = some L → L ≤ k := by
      intro t l hl
      by_cases hm : t ∈ atf
      · exact Or.inr (hdead t hm)
      · left
        have h3 : alGet c3.repl t = some l := by
          rw [hget3]; simp only [hm, if_false]; rw [hbrepl]; exact hl
        have hne : ∀ t0, dstTmp? new = some t0 → t0 ≠ t := by
          intro t0 h0 e
          subst e
          have := hnone3 t0 h0
          rw [this] at h3; cases h3
        rcases s3 with ⟨_, _, e, _⟩ | ⟨t0, ht0, ⟨_, e, _⟩ | ⟨src, _, _, _, e, _⟩ | ⟨r, _, e, _⟩⟩
        · rw [e]; exact h3
        · rw [e]; exact h3
        · rw [e, alGet_alSet_ne _ _ (hne t0 ht0)]; exact h3
        · rw [e, alGet_alSet_ne _ _ (hne t0 ht0)]; exact h3
    have hmask : ∀ t r, alGet a'.repl t = some (.tmp r) →
        alGet (freeList numRegs atf (aF.setI k new)).repl t = some (.tmp r) ∨
        ∃ new, dstTmp? new = some t ∧ a'.st.insts[k]? = some (setDst new (.tmp r)) := by
      intro t r ht
      rw [← hrepl3]
      rcases s3 with ⟨_, _, e, _⟩ | ⟨t0, ht0, ⟨_, e, _⟩ | ⟨src, _, hsrc, _, e, _⟩ | ⟨r0, hq, e, _⟩⟩
      · rw [e] at ht; exact Or.inl ht
      · rw [e] at ht; exact Or.inl ht
      · rw [e, alGet_alSet] at ht
        split at ht
        · cases ht
          rcases hsrc with ⟨cc, h⟩ | ⟨mm, h⟩ <;> cases h
        · exact Or.inl ht
      · rw [e, alGet_alSet] at ht
        split at ht
        · rename_i e'
          cases ht
          exact Or.inr ⟨new, by rw [ht0, e'], hq⟩
        · exact Or.inl ht
    refine ⟨hinv, ⟨_, live, by rw [s2, hlv3, ← hbst], hl, hc2.regs, hmask⟩, hkeep, ?_⟩
    have hxa : a.st.insts[k]? = some cur := by rw [← hbst]; exact hi0
    have hna : rwInst a.repl cur = .ok new := by rw [← hbrepl]; exact hn
    by_cases hpl : plain cur = true
    · have hq : ∃ q, a'.st.insts[k]? = some q := by
        rcases s3 with ⟨_, e, _⟩ | ⟨t0, _, ⟨e, _⟩ | ⟨_, _, _, e, _⟩ | ⟨_, e, _⟩⟩ <;> exact ⟨_, e⟩
      obtain ⟨q, hq⟩ := hq
      refine StepKind.rw cur new q hxa hpl hna hq hinsts ?_
      rcases s3 with ⟨g1, g2, g3, _⟩ | ⟨t0, ht0, h3⟩
      · rw [hq] at g2; cases g2
        exact Or.inl ⟨g1, rfl, fun t' v hv => hsub3 t' v (by rw [← g3]; exact hv)⟩
      · obtain ⟨f1, r0, f2, f3, _⟩ := hdstfacts t0 ht0
        refine Or.inr ⟨t0, ht0, by rw [← hbrepl]; exact f1, ⟨r0, f2, f3⟩, ?_⟩
        rcases h3 with ⟨g1, g2, _⟩ | ⟨src, g1, g2, g3, g4, _⟩ | ⟨r, g1, g2, _⟩
        · rw [hq] at g1; cases g1
          exact Or.inl ⟨rfl, fun t' v hv => hsub3 t' v (by rw [← g2]; exact hv)⟩
        · rw [hq] at g3; cases g3
          exact Or.inr (Or.inl ⟨src, g1, g2, rfl, hrsub _ _ g4⟩)
        · rw [hq] at g1; cases g1
          exact Or.inr (Or.inr ⟨r, rfl, hrsub _ _ g2⟩)
    · have hpl' : plain cur = false := by simpa using hpl
      have hnew : new = cur := by
        rcases rwInst_cases hn with ⟨d, s, s', rfl, _⟩ | ⟨op, d, s0, s1, s0', s1', rfl, _⟩ | ⟨_, e⟩ | ⟨rfl, _⟩
        · cases hpl'
        · rw [plain_mkArith] at hpl'; cases hpl'
        · exact e
        · cases hpl'
      subst hnew
      have hdn : dstTmp? new = none := by
        cases hd' : dstTmp? new with
        | none => rfl
        | some t0 => rw [plain_of_dstTmp? hd'] at hpl'; cases hpl'
      rcases s3 with ⟨g1, g2, g3, _⟩ | ⟨t0, ht0, _⟩
      · exact StepKind.other new hxa hpl' g2 hinsts (fun t' v hv => hsub3 t' v (by rw [← g3]; exact hv))
      · rw [hdn] at ht0; cases ht0
  · have hcF := passInv_moved hp hb hdead M
    obtain ⟨hPk, hkf, rfl, hPf, -⟩ := M.input hp hb
    have hkF := M.noop
    have hfF : aF.st.insts[f]? = some (mkArith op (.mem m) s0 s1) := by rw [M.insts]; simp
    have hinsF : ∀ j, j ≠ k → j ≠ f → aF.st.insts[j]? = b.st.insts[j]? := by
      intro j h1 h2; rw [M.insts]; simp [h1, h2]
    have hreplF := M.repl
    have hatf : ∀ y, y ∈ atf → y ∈ atf0 := fun y hy => ((M.atf y).1 hy).1
    obtain ⟨rfl, hst'⟩ := M.result hc hn hD
    rw [setI_self hkF] at hl
    have hc1 := hcF
    have hc2 := passInv_free (numRegs := numRegs) (atf := atf) hc1
    have hc3 := passInv_pushLive hc2 live
    obtain ⟨-, hst3, -, hget3, hlv3⟩ := freed_fields numRegs atf live hc1.regs
    rw [← hst'] at hst3 hget3 hlv3
    have htnone : alGet a.repl t = none := by
      cases hg : alGet a.repl t with
      | none => rfl
      | some v =>
        rw [← hbrepl] at hg
        obtain ⟨_, r1, g1, g2⟩ := hb.replDom t v hg
        obtain ⟨r0, hr0, hcr0⟩ := hp.defs k _ t hPk (by rw [defs_mkArith]; simp [locTmp])
        rw [hr0] at g1; cases g1
        omega
    refine ⟨by rw [hst']; exact hc3, ⟨freeList numRegs atf aF, live, ?_, hl, hc2.regs, ?_⟩, ?_, ?_⟩
    · rw [hlv3, M.live, hbst]
    · intro t' r' ht
      rw [hst'] at ht
      exact Or.inl ht
    · intro t' l hl'
      by_cases hm : t' ∈ atf
      · exact Or.inr (hdead t' (hatf t' hm))
      · left
        rw [hget3]; simp only [hm, if_false]
        have : t ≠ t' := by intro e; subst e; rw [htnone] at hl'; cases hl'
        rw [hreplF, alGet_alSet_ne _ _ this, hbrepl]; exact hl'
    · have hxa : a.st.insts[k]? = some (mkArith op (.tmp t) s0 s1) := by
        rw [← hbst]; exact M.inst
      refine StepKind.fuse op t s0 s1 f m hxa hPk hkf hPf (by rw [← hbst]; exact M.store) ?_ ?_ ?_ htnone ⟨?_, ?_⟩
      · rw [hst3]; exact hkF
      · rw [hst3]; exact hfF
      · intro j hjk hjf
        rw [hst3, hinsF j hjk hjf, hbst]
      · have hm : t ∉ atf := by
          intro hm
          obtain ⟨r0, hr0, hcr0⟩ := hp.defs k _ t hPk (by rw [defs_mkArith]; simp [locTmp])
          obtain ⟨ru, Lu, gu, gl, _, gle⟩ := hp.uses f _ t hPf (by simp [BcWf.uses, locTmp])
          have := hdead t (hatf t hm) ru Lu gu gl
          omega
        rw [hget3]; simp only [hm, if_false]
        rw [hreplF, alGet_alSet_self]
      · intro t' v hv
        rw [hget3] at hv
        split at hv
        · cases hv
        · rw [hreplF, alGet_alSet] at hv
          split at hv
          · rename_i e; cases hv; exact Or.inl ⟨e, rfl⟩
          · exact Or.inr (by rw [← hbrepl]; exact hv)

end Alloc
end C02
end Hpbf
