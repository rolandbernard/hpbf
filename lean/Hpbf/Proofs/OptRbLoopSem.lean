/-
Generic facts about `Exec` of ONE loop / `ifnz` instruction: the loop seen through its heads (`Head`); a loop /
`ifnz` that is executed exactly once, or skipped; a loop is an `ifnz` around itself; no terminating run ⇔ no exit
head; a block simulated head by head (`heads_fwd/bwd`, `Sim.block`, `not_bad_block`).
-/
import Hpbf.Proofs.OptRbLoopDefs

namespace Hpbf
namespace OptProof
open Opt OptSem Ir

variable {w : Nat}

theorem Sim.congr {Q : State w → State w → Prop} {a a' b b' : List (Instr w)} {σS σE : State w}
    (ha : ∀ out, Exec a σS out ↔ Exec a' σS out) (hb : ∀ out, Exec b σE out ↔ Exec b' σE out)
    (h : Sim Q a' b' σS σE) : Sim Q a b σS σE where
  finL := fun x hx => let ⟨y, hy, hq⟩ := h.finL x ((ha _).1 hx); ⟨y, (hb _).2 hy, hq⟩
  stopL := fun x hx => let ⟨y, hy, hq⟩ := h.stopL x ((ha _).1 hx); ⟨y, (hb _).2 hy, hq⟩
  partL := fun t ht => (hb _).2 (h.partL t ((ha _).1 ht))
  finR := fun y hy => let ⟨x, hx, hq⟩ := h.finR y ((hb _).1 hy); ⟨x, (ha _).2 hx, hq⟩
  stopR := fun y hy => let ⟨x, hx, hq⟩ := h.stopR y ((hb _).1 hy); ⟨x, (ha _).2 hx, hq⟩
  partR := fun t ht => (ha _).2 (h.partR t ((hb _).1 ht))

theorem head_trans {c sh : Int} {body : List (Instr w)} {σ σk σj : State w} {k j : Nat}
    (h1 : Head c sh body σ k σk) (h2 : Head c sh body σk j σj) : Head c sh body σ (k + j) σj := by
  induction h2 with
  | zero => exact h1
  | succ _ hnz hb ih => exact .succ ih hnz hb

theorem head_cons {c sh : Int} {body : List (Instr w)} {σ σ1 x : State w} {k : Nat}
    (hnz : σ.rd c ≠ 0#w) (hb : Exec body σ (.fin σ1)) (h : Head c sh body (σ1.mov sh) k x) :
    Head c sh body σ (k + 1) x := by
  have h1 : Head c sh body σ (0 + 1) (σ1.mov sh) := .succ .zero hnz hb
  have := head_trans h1 h
  rwa [Nat.zero_add, Nat.add_comm] at this

theorem head_zero_inv {c sh : Int} {body : List (Instr w)} {σ x : State w} (h : Head c sh body σ 0 x) :
    x = σ := by
  cases h; rfl

theorem head_uncons {c sh : Int} {body : List (Instr w)} {σ x : State w} {j : Nat}
    (h : Head c sh body σ (j + 1) x) :
    σ.rd c ≠ 0#w ∧ ∃ σ1, Exec body σ (.fin σ1) ∧ Head c sh body (σ1.mov sh) j x := by
  generalize hn : j + 1 = n at h
  induction h generalizing j with
  | zero => omega
  | @succ k σk σ' hh hnz hb ih =>
    have hk : k = j := by omega
    subst hk
    cases k with
    | zero =>
      cases head_zero_inv hh
      exact ⟨hnz, σ', hb, .zero⟩
    | succ k' =>
      obtain ⟨h1, σ1, hb1, hh1⟩ := ih rfl
      exact ⟨h1, σ1, hb1, .succ hh1 hnz hb⟩

theorem head_det {c sh : Int} {body : List (Instr w)} {σ a b : State w} {k : Nat}
    (h1 : Head c sh body σ k a) (h2 : Head c sh body σ k b) : a = b := by
  induction h1 generalizing b with
  | zero => cases h2; rfl
  | succ _ _ hb ih =>
    cases h2 with
    | succ h2' _ hb' =>
      cases ih h2'
      cases exec_fin_det hb hb'
      rfl

theorem head_zero {c sh : Int} {body : List (Instr w)} {σ σk : State w} {k : Nat}
    (h : Head c sh body σ k σk) (h0 : σ.rd c = 0#w) : k = 0 ∧ σk = σ := by
  induction h with
  | zero => exact ⟨rfl, rfl⟩
  | succ _ hne _ ih =>
    obtain ⟨_, e⟩ := ih
    rw [e] at hne
    exact absurd h0 hne

/-- whatever the loop does from a head, it does from the start -/
theorem head_exec {c sh : Int} {body : List (Instr w)} {o : Bool} {σ σk : State w} {k : Nat} {out : Out w}
    (h : Head c sh body σ k σk) : Exec [.loop c sh body o] σk out → Exec [.loop c sh body o] σ out := by
  induction h generalizing out with
  | zero => exact id
  | succ _ hnz hb ih => intro hx; exact ih (.loopIter hnz hb hx)

theorem head_exec_fin {c sh : Int} {body : List (Instr w)} {o : Bool} {σ σk : State w} {k : Nat}
    (h : Head c sh body σ k σk) (hz : σk.rd c = 0#w) : Exec [.loop c sh body o] σ (.fin σk) :=
  head_exec h (.loopSkip hz (.nil _))

theorem head_exec_stop {c sh : Int} {body : List (Instr w)} {o : Bool} {σ σk x : State w} {k : Nat}
    (h : Head c sh body σ k σk) (hnz : σk.rd c ≠ 0#w) (hb : Exec body σk (.stop x)) :
    Exec [.loop c sh body o] σ (.stop x) :=
  head_exec h (.loopIn hnz hb rfl)

theorem head_exec_part {c sh : Int} {body : List (Instr w)} {o : Bool} {σ σk : State w} {k : Nat}
    {t : List Ev} (h : Head c sh body σ k σk) (hnz : σk.rd c ≠ 0#w) (hb : Exec body σk (.part t)) :
    Exec [.loop c sh body o] σ (.part t) :=
  head_exec h (.loopIn hnz hb rfl)

/-- the run can be cut at every head -/
theorem head_exec_cut {c sh : Int} {body : List (Instr w)} {o : Bool} {σ σk : State w} {k : Nat}
    (h : Head c sh body σ k σk) : Exec [.loop c sh body o] σ (.part σk.trace) :=
  head_exec h (.cut _ _)

/-- what an observation `out` of the loop means at the last head `σk` it passes -/
def HeadObs (c : Int) (body : List (Instr w)) (σk : State w) : Out w → Prop
  | .fin x => x = σk ∧ σk.rd c = 0#w
  | .stop x => σk.rd c ≠ 0#w ∧ Exec body σk (.stop x)
  | .part t => t = σk.trace ∨ (σk.rd c ≠ 0#w ∧ Exec body σk (.part t))

/-- The heads of two loops correspond round by round as soon as a relation `J k` between their `k`-th heads is kept
by one round of the bodies.  `B` bounds the round numbers considered (`isLoop = false → k = 0`,
`atMostOnce = true → k ≤ 1`). -/
theorem heads_bwd {J : Nat → State w → State w → Prop} {sh c' sh' : Int} {body body' : List (Instr w)}
    {σ τ : State w} {B : Nat → Prop} (hB : ∀ k, B (k + 1) → B k) (h0 : J 0 σ τ)
    (hround : ∀ k a b, J k a b → B (k + 1) → b.rd c' ≠ 0#w →
      Sim (fun x y => J (k + 1) (x.mov sh) (y.mov sh')) body body' a b)
    {k : Nat} {b : State w} (hh : Head c' sh' body' τ k b) (hk : B k) : ∃ a, J k a b := by
  induction hh with
  | zero => exact ⟨σ, h0⟩
  | @succ k' bk b' _ hne hex ih =>
    obtain ⟨a, hJ⟩ := ih (hB _ hk)
    obtain ⟨a', _, hq⟩ := (hround k' a bk hJ hk hne).finR b' hex
    exact ⟨a'.mov sh, hq⟩

theorem heads_fwd {J : Nat → State w → State w → Prop} {c sh sh' : Int} {body body' : List (Instr w)}
    {σ τ : State w} {B : Nat → Prop} (hB : ∀ k, B (k + 1) → B k) (h0 : J 0 σ τ)
    (hround : ∀ k a b, J k a b → B (k + 1) → a.rd c ≠ 0#w →
      Sim (fun x y => J (k + 1) (x.mov sh) (y.mov sh')) body body' a b)
    {k : Nat} {a : State w} (hh : Head c sh body σ k a) (hk : B k) : ∃ b, J k a b := by
  induction hh with
  | zero => exact ⟨τ, h0⟩
  | @succ k' ak a' _ hne hex ih =>
    obtain ⟨b, hJ⟩ := ih (hB _ hk)
    obtain ⟨b', _, hq⟩ := (hround k' ak b hJ hk hne).finL a' hex
    exact ⟨b'.mov sh', hq⟩

theorem exec_loop_head {c sh : Int} {body : List (Instr w)} {o : Bool} {l : List (Instr w)} {σ : State w}
    {out : Out w} (h : Exec l σ out) :
    l = [.loop c sh body o] → ∃ k σk, Head c sh body σ k σk ∧ HeadObs c body σk out := by
  induction h with
  | cut => intro _; exact ⟨0, _, .zero, Or.inl rfl⟩
  | loopSkip hz hr =>
    intro e; cases e
    cases hr with
    | cut => exact ⟨0, _, .zero, Or.inl rfl⟩
    | nil => exact ⟨0, _, .zero, rfl, hz⟩
  | loopIter hnz hb _ _ ih =>
    intro e; cases e
    obtain ⟨k, σk, hh, ho⟩ := ih rfl
    exact ⟨k + 1, σk, head_cons hnz hb hh, ho⟩
  | @loopIn _ _ _ _ _ _ out hnz hb hnf =>
    intro e; cases e
    cases out with
    | fin _ => cases hnf
    | stop x => exact ⟨0, _, .zero, hnz, hb⟩
    | part t => exact ⟨0, _, .zero, Or.inr ⟨hnz, hb⟩⟩
  | _ => intro e; cases e

theorem exec_loop_fin_head {c sh : Int} {body : List (Instr w)} {o : Bool} {σ x : State w}
    (h : Exec [.loop c sh body o] σ (.fin x)) : ∃ k, Head c sh body σ k x ∧ x.rd c = 0#w := by
  obtain ⟨k, σk, hh, rfl, hz⟩ := exec_loop_head h rfl
  exact ⟨k, hh, hz⟩

theorem exec_loop_stop_head {c sh : Int} {body : List (Instr w)} {o : Bool} {σ x : State w}
    (h : Exec [.loop c sh body o] σ (.stop x)) :
    ∃ k σk, Head c sh body σ k σk ∧ σk.rd c ≠ 0#w ∧ Exec body σk (.stop x) :=
  exec_loop_head h rfl

theorem exec_loop_part_head {c sh : Int} {body : List (Instr w)} {o : Bool} {σ : State w} {t : List Ev}
    (h : Exec [.loop c sh body o] σ (.part t)) :
    ∃ k σk, Head c sh body σ k σk ∧ (t = σk.trace ∨ (σk.rd c ≠ 0#w ∧ Exec body σk (.part t))) :=
  exec_loop_head h rfl

/-- observations of "run `body` once, then move by `sh`" -/
def OnceObs (body : List (Instr w)) (sh : Int) (σ : State w) (out : Out w) : Prop :=
  (out.isFin = false ∧ Exec body σ out) ∨
    ∃ σ1, Exec body σ (.fin σ1) ∧ (out = .fin (σ1.mov sh) ∨ out = .part σ1.trace)

theorem sim_of_onceObs {Q : State w → State w → Prop} {sh : Int} {src body tgt : List (Instr w)}
    {σ σE : State w} (hs : ∀ out, Exec src σ out ↔ OnceObs body sh σ out)
    (h : Sim (fun a b => Q (a.mov sh) b) body tgt σ σE) : Sim Q src tgt σ σE where
  finL := fun x hx => by
    rcases (hs _).1 hx with ⟨hnf, _⟩ | ⟨σ1, hb, e | e⟩
    · cases hnf
    · cases e; exact h.finL σ1 hb
    · cases e
  stopL := fun x hx => by
    rcases (hs _).1 hx with ⟨_, hb⟩ | ⟨σ1, hb, e | e⟩
    · exact h.stopL x hb
    · cases e
    · cases e
  partL := fun t ht => by
    rcases (hs _).1 ht with ⟨_, hb⟩ | ⟨σ1, hb, e | e⟩
    · exact h.partL t hb
    · cases e
    · cases e; exact h.partL _ (exec_fin_part hb)
  finR := fun y hy => by
    obtain ⟨σ1, hb, hq⟩ := h.finR y hy
    exact ⟨σ1.mov sh, (hs _).2 (Or.inr ⟨σ1, hb, Or.inl rfl⟩), hq⟩
  stopR := fun y hy => by
    obtain ⟨x, hb, hq⟩ := h.stopR y hy
    exact ⟨x, (hs _).2 (Or.inl ⟨rfl, hb⟩), hq⟩
  partR := fun t ht => (hs _).2 (Or.inl ⟨rfl, h.partR t ht⟩)

theorem exec_loop_once_iff {c sh : Int} {body : List (Instr w)} {o : Bool} {σ : State w}
    (hne : σ.rd c ≠ 0#w) (hz : ∀ σ1, Exec body σ (.fin σ1) → (σ1.mov sh).rd c = 0#w) (out : Out w) :
    Exec [.loop c sh body o] σ out ↔ OnceObs body sh σ out := by
  constructor
  · intro h
    cases h with
    | cut => exact Or.inl ⟨rfl, .cut _ _⟩
    | loopSkip hz' _ => exact absurd hz' hne
    | loopIter _ hb hl =>
      have hz1 := hz _ hb
      cases hl with
      | cut => exact Or.inr ⟨_, hb, Or.inr rfl⟩
      | loopSkip _ hr =>
        cases hr with
        | cut => exact Or.inr ⟨_, hb, Or.inr rfl⟩
        | nil => exact Or.inr ⟨_, hb, Or.inl rfl⟩
      | loopIter hnz' _ _ => exact absurd hz1 hnz'
      | loopIn hnz' _ _ => exact absurd hz1 hnz'
    | loopIn _ hb hnf => exact Or.inl ⟨hnf, hb⟩
  · rintro (⟨hnf, hb⟩ | ⟨σ1, hb, rfl | rfl⟩)
    · exact .loopIn hne hb hnf
    · exact .loopIter hne hb (.loopSkip (hz _ hb) (.nil _))
    · exact .loopIter hne hb (.cut _ (σ1.mov sh))

theorem exec_ifnz_once_iff {c sh : Int} {body : List (Instr w)} {σ : State w}
    (hne : σ.rd c ≠ 0#w) (out : Out w) :
    Exec [.ifnz c sh body] σ out ↔ OnceObs body sh σ out := by
  constructor
  · intro h
    cases h with
    | cut => exact Or.inl ⟨rfl, .cut _ _⟩
    | ifSkip hz' _ => exact absurd hz' hne
    | ifIter _ hb hr =>
      cases hr with
      | cut => exact Or.inr ⟨_, hb, Or.inr rfl⟩
      | nil => exact Or.inr ⟨_, hb, Or.inl rfl⟩
    | ifIn _ hb hnf => exact Or.inl ⟨hnf, hb⟩
  · rintro (⟨hnf, hb⟩ | ⟨σ1, hb, rfl | rfl⟩)
    · exact .ifIn hne hb hnf
    · exact .ifIter hne hb (.nil _)
    · exact .ifIter hne hb (.cut _ (σ1.mov sh))

theorem Sim.of_loop_once {Q : State w → State w → Prop} {c sh : Int} {body tgt : List (Instr w)} {o : Bool}
    {σ σE : State w}
    (hne : σ.rd c ≠ 0#w) (hz : ∀ σ1, Exec body σ (.fin σ1) → (σ1.mov sh).rd c = 0#w)
    (h : Sim (fun a b => Q (a.mov sh) b) body tgt σ σE) : Sim Q [.loop c sh body o] tgt σ σE :=
  sim_of_onceObs (exec_loop_once_iff hne hz) h

theorem Sim.of_ifnz_once {Q : State w → State w → Prop} {c sh : Int} {body tgt : List (Instr w)}
    {σ σE : State w} (hne : σ.rd c ≠ 0#w)
    (h : Sim (fun a b => Q (a.mov sh) b) body tgt σ σE) : Sim Q [.ifnz c sh body] tgt σ σE :=
  sim_of_onceObs (exec_ifnz_once_iff hne) h

theorem exec_loop_skip_iff {c sh : Int} {body : List (Instr w)} {o : Bool} {σ : State w}
    (hz : σ.rd c = 0#w) (out : Out w) : Exec [.loop c sh body o] σ out ↔ Exec [] σ out := by
  constructor
  · intro h
    cases h with
    | cut => exact .cut _ _
    | loopSkip _ hr => exact hr
    | loopIter hnz _ _ => exact absurd hz hnz
    | loopIn hnz _ _ => exact absurd hz hnz
  · intro h
    cases h with
    | cut => exact .cut _ _
    | nil => exact .loopSkip hz (.nil _)

theorem exec_ifnz_skip_iff {c sh : Int} {body : List (Instr w)} {σ : State w}
    (hz : σ.rd c = 0#w) (out : Out w) : Exec [.ifnz c sh body] σ out ↔ Exec [] σ out := by
  constructor
  · intro h
    cases h with
    | cut => exact .cut _ _
    | ifSkip _ hr => exact hr
    | ifIter hnz _ _ => exact absurd hz hnz
    | ifIn hnz _ _ => exact absurd hz hnz
  · intro h
    cases h with
    | cut => exact .cut _ _
    | nil => exact .ifSkip hz (.nil _)

theorem Sim.of_loop_skip {Q : State w → State w → Prop} {c sh : Int} {body : List (Instr w)} {o : Bool}
    {σ σE : State w} (hz : σ.rd c = 0#w) (hQ : Q σ σE) (ht : σE.trace = σ.trace) :
    Sim Q [.loop c sh body o] [] σ σE :=
  Sim.congr (exec_loop_skip_iff hz) (fun _ => Iff.rfl) (Sim.nil hQ ht)

theorem Sim.of_ifnz_skip {Q : State w → State w → Prop} {c sh : Int} {body : List (Instr w)}
    {σ σE : State w} (hz : σ.rd c = 0#w) (hQ : Q σ σE) (ht : σE.trace = σ.trace) :
    Sim Q [.ifnz c sh body] [] σ σE :=
  Sim.congr (exec_ifnz_skip_iff hz) (fun _ => Iff.rfl) (Sim.nil hQ ht)

theorem exec_loop_as_if {c sh : Int} {body : List (Instr w)} {o o' : Bool} (σ : State w) (out : Out w) :
    Exec [.ifnz c 0 [.loop c sh body o']] σ out ↔ Exec [.loop c sh body o] σ out := by
  constructor
  · intro h
    cases h with
    | cut => exact .cut _ _
    | ifSkip hz hr => exact (exec_loop_skip_iff hz out).2 hr
    | @ifIter _ _ _ _ _ σ1 _ _ hb hr =>
      cases hr with
      | cut => exact exec_fin_part (a := σ1) (exec_once_irrel hb)
      | nil => rw [C01.mov_zero]; exact exec_once_irrel hb
    | ifIn _ hb _ => exact exec_once_irrel hb
  · intro h
    by_cases hz : σ.rd c = 0#w
    · exact .ifSkip hz ((exec_loop_skip_iff hz out).1 h)
    · cases out with
      | fin x =>
        have : Exec [] (x.mov 0) (.fin x) := by rw [C01.mov_zero]; exact .nil _
        exact .ifIter hz (exec_once_irrel h) this
      | stop x => exact .ifIn hz (exec_once_irrel h) rfl
      | part t => exact .ifIn hz (exec_once_irrel h) rfl

theorem Sim.loop_as_if {c sh : Int} {body : List (Instr w)} {o o' : Bool} (σ : State w) :
    Sim (fun a b => a = b) [.loop c sh body o] [.ifnz c 0 [.loop c sh body o']] σ σ :=
  Sim.congr (fun _ => Iff.rfl) (exec_loop_as_if σ) (Sim.refl_of [.loop c sh body o] σ (fun _ => rfl))

theorem loop_no_fin_iff {c sh : Int} {body : List (Instr w)} {o : Bool} {σ : State w} :
    (∀ x, ¬ Exec [.loop c sh body o] σ (.fin x)) ↔ ∀ k σk, Head c sh body σ k σk → σk.rd c ≠ 0#w := by
  constructor
  · intro h k σk hh hz
    exact h σk (head_exec_fin hh hz)
  · intro h x hx
    obtain ⟨k, hh, hz⟩ := exec_loop_fin_head hx
    exact h k x hh hz

#print axioms head_exec_fin
#print axioms exec_loop_fin_head
#print axioms exec_loop_stop_head
#print axioms exec_loop_part_head
#print axioms head_exec_stop
#print axioms head_exec_part
#print axioms head_exec_cut
#print axioms head_trans
#print axioms head_det
#print axioms Sim.of_loop_once
#print axioms Sim.of_ifnz_once
#print axioms Sim.of_loop_skip
#print axioms Sim.of_ifnz_skip
#print axioms C01.mov_zero
#print axioms Sim.loop_as_if
#print axioms loop_no_fin_iff

/-- If the source has no `fin` observation, the end-state relation is irrelevant. -/
theorem Sim.of_no_fin {Q Q' : State w → State w → Prop} {a b : List (Instr w)} {σS σE : State w}
    (h : Sim Q a b σS σE) (hn : ∀ x, ¬ Exec a σS (.fin x)) : Sim Q' a b σS σE := by
  refine ⟨fun x hx => absurd hx (hn x), h.stopL, h.partL, ?_, h.stopR, h.partR⟩
  intro y hy
  obtain ⟨x, hx, _⟩ := h.finR y hy
  exact absurd hx (hn x)

def blockInstr (isLoop : Bool) (c sh : Int) (body : List (Instr w)) (once : Bool) : Instr w :=
  if isLoop then .loop c sh body once else .ifnz c sh body

/-- A block simulated head by head: `J k` relates the two states at the `k`-th head (`k` = rounds completed; an `if`
has the heads 0 and 1 only).  At the exit the states are related by some `J k`; after a loop the condition cell
is zero, after an `if` either nothing was executed (`k = 0`, the condition cell was zero) or one round. -/
theorem Sim.block {J : Nat → State w → State w → Prop} {isLoop : Bool} {cS shS cE shE : Int}
    {bodyS bodyE : List (Instr w)} {oS oE : Bool}
    (hc : ∀ k a b, J k a b → a.rd cS = b.rd cE) (htr : ∀ k a b, J k a b → b.trace = a.trace)
    (hround : ∀ k a b, J k a b → (isLoop = false → k = 0) → a.rd cS ≠ 0#w →
      Sim (fun a' b' => J (k + 1) (a'.mov shS) (b'.mov shE)) bodyS bodyE a b)
    {σS σE : State w} (h0 : J 0 σS σE) :
    Sim (fun a b => ∃ k, J k a b ∧ (isLoop = true → a.rd cS = 0#w) ∧
        (isLoop = false → (k = 0 ∧ σS.rd cS = 0#w) ∨ k = 1))
      [blockInstr isLoop cS shS bodyS oS] [blockInstr isLoop cE shE bodyE oE] σS σE := by
  cases isLoop with
  | true =>
    refine Sim.loop (J := fun a b => ∃ k, J k a b) ?_ ?_ ?_ ?_ ⟨0, h0⟩
    · rintro a b ⟨k, h⟩; rw [hc k a b h]
    · rintro a b ⟨k, h⟩; exact htr k a b h
    · rintro a b ⟨k, h⟩ hne
      exact (hround k a b h (fun e => Bool.noConfusion e) hne).mono (fun _ _ h' => ⟨k + 1, h'⟩)
    · rintro a b ⟨k, h⟩ hz
      exact ⟨k, h, fun _ => hz, fun e => Bool.noConfusion e⟩
  | false =>
    refine Sim.ifnz (by rw [hc 0 _ _ h0]) (htr 0 _ _ h0) (fun hne => ?_) (fun hz => ?_)
    · exact (hround 0 _ _ h0 (fun _ => rfl) hne).mono
        (fun _ _ h' => ⟨1, h', fun e => Bool.noConfusion e, fun _ => Or.inr rfl⟩)
    · exact ⟨0, h0, fun e => Bool.noConfusion e, fun _ => Or.inl ⟨rfl, hz⟩⟩

/-- The emitted block of `Sim.block` never reaches an unjustified `once` mark if no round of its body does. -/
theorem not_bad_block {J : Nat → State w → State w → Prop} {isLoop : Bool} {cS shS cE shE : Int}
    {bodyS bodyE : List (Instr w)} {oE : Bool}
    (hc : ∀ k a b, J k a b → a.rd cS = b.rd cE)
    (hround : ∀ k a b, J k a b → (isLoop = false → k = 0) → a.rd cS ≠ 0#w →
      Sim (fun a' b' => J (k + 1) (a'.mov shS) (b'.mov shE)) bodyS bodyE a b ∧ ¬ Bad bodyE b)
    {σS σE : State w} (h0 : J 0 σS σE) (honce : oE = true → σS.rd cS ≠ 0#w) :
    ¬ Bad [blockInstr isLoop cE shE bodyE oE] σE := by
  cases isLoop with
  | true =>
    refine not_bad_loop (J := fun a b => ∃ k, J k a b) (cS := cS) (shS := shS) (bodyS := bodyS) ?_ ⟨0, h0⟩
      (fun h => by rw [← hc 0 _ _ h0]; exact honce h)
    rintro a b ⟨k, h⟩ hne
    obtain ⟨h1, h2⟩ := hround k a b h (fun e => Bool.noConfusion e) (by rw [hc k a b h]; exact hne)
    exact ⟨h1.mono (fun _ _ h' => ⟨k + 1, h'⟩), h2⟩
  | false =>
    exact not_bad_ifnz fun hne => (hround 0 _ _ h0 (fun _ => rfl) (by rw [hc 0 _ _ h0]; exact hne)).2

end OptProof
end Hpbf
