/-
What the end of `finishLoop` (`finishEnd`) is proved from. The loop-motion phase
is treated abstractly: the source program is `endSrc`, i.e.
`[calc before] ++ ([block] ++ [calc after])` resp. `[calc before] ++ [ifnz c 0 ([block] ++ [calc after])]`;
in the second case the block is rebuilt in a child state `ifState` whose guard is `WrapG`.
The theorems themselves (`wrap_all`, `finishEnd_all`) are in `OptRbAnLoop4`.
-/
import Hpbf.Proofs.OptRbLoopIn

namespace Hpbf
namespace OptProof
open Opt OptSem Ir

variable {w : Nat}

theorem sameMem_rd {shP cS : Int} {σS σE : State w} (h : SameMem shP σS σE) :
    σS.rd cS = memE σE (cS + shP) := by
  have := congrFun h.2.2.2 (cS + shP)
  show σS.tape.get (σS.ptr + cS) = _
  rw [h.2.2.1, ← this]
  show σS.tape.get (σE.ptr + shP + cS) = σS.tape.get (σE.ptr + (cS + shP))
  rw [Int.add_assoc, Int.add_comm shP cS]

theorem memS_ptr {σE σE' : State w} (σ : State w) (h : σE.ptr = σE'.ptr) : memS σE σ = memS σE' σ := by
  funext v
  show σ.tape.get (σE.ptr + v) = σ.tape.get (σE'.ptr + v)
  rw [h]

theorem block_skip_fin {isLoop : Bool} {c sh : Int} {body : List (Instr w)} {o : Bool} {σ : State w}
    (hz : σ.rd c = 0#w) : Exec [blockInstr isLoop c sh body o] σ (.fin σ) := by
  cases isLoop with
  | true => exact .loopSkip hz (.nil σ)
  | false => exact .ifSkip hz (.nil σ)

/-- A terminating run of the wrapping `if`. -/
theorem wrap_fin_inv {c : Int} {blk : Instr w} {a : List (Int × Expr w)} {σ x : State w}
    (hne : σ.rd c ≠ 0#w) (h : Exec [.ifnz c 0 ([blk] ++ [.calc a])] σ (.fin x)) :
    ∃ σ' σ1, Exec [blk] σ (.fin σ') ∧ Exec [.calc a] σ' (.fin σ1) ∧ Exec ([blk] ++ [.calc a]) σ (.fin σ1) ∧
      x = σ1.mov 0 := by
  rcases (exec_ifnz_once_iff hne _).1 h with ⟨hnf, _⟩ | ⟨σ1, hb, e | e⟩
  · cases hnf
  · cases e
    rcases exec_append.1 hb with ⟨hnf, _⟩ | ⟨σ', h1, h2⟩
    · cases hnf
    · exact ⟨σ', σ1, h1, h2, hb, rfl⟩
  · cases e

theorem StepNG.trans_g {G G2 : State w → Prop} {sh1 sh2 sh3 : Int} {ps : List (Rebuild w)} {a b c : Rebuild w}
    {l1 l2 n1 n2 : List (Instr w)} (h1 : StepNG G sh1 sh2 ps a b l1 n1)
    (h2 : StepNG G2 sh2 sh3 ps b c l2 n2)
    (hg : ∀ M0 σE σS σS', RelAt sh1 a ps M0 σE σS → G σS → Exec l1 σS (.fin σS') → G2 σS') :
    StepNG G sh1 sh3 ps a c (l1 ++ l2) (n1 ++ n2) := by
  refine ⟨fun h => h1.1 (h2.1 h), ?_⟩
  intro M0 σE σS h hG
  obtain ⟨hs1, hb1⟩ := h1.2 M0 σE σS h hG
  refine ⟨Sim.append hs1.fin_strengthen ?_, ?_⟩
  · rintro σS' σE' ⟨⟨M0', h', hk'⟩, hex, _⟩
    refine (h2.2 M0' σE' σS' h' (hg M0 σE σS σS' h hG hex)).1.mono ?_
    rintro x y ⟨M0'', h'', hk''⟩
    refine ⟨M0'', h'', fun hc => ?_⟩
    obtain ⟨k1, k2⟩ := hk'' hc
    obtain ⟨k3, k4⟩ := hk' (h2.1 hc)
    exact ⟨k1.trans k3, k2.trans k4⟩
  · intro hb
    rcases bad_append.1 hb with hb | ⟨σ1, he, hb⟩
    · exact hb1 hb
    · obtain ⟨σS', hex, M0', h', _⟩ := hs1.finR σ1 he
      exact (h2.2 M0' σ1 σS' h' (hg M0 σE σS σS' h hG hex)).2 hb

/-- Guard of the child `ifState` of the wrapping `if`: its body is entered from a source state that is valid for
the parent, satisfies the parent's guard, and has a non-zero condition cell. -/
def WrapG (shP : Int) (s1 : Rebuild w) (ps : List (Rebuild w)) (G1 : State w → Prop) (cS : Int) :
    State w → Prop :=
  fun σS => (∃ M0 σE, RelAt shP s1 ps M0 σE σS) ∧ G1 σS ∧ σS.rd cS ≠ 0#w

/-- The facts about the block, seen from the child state of the wrapping `if`. -/
theorem LoopFacts.wrap {G1 : State w → Prop} {shP : Int} {s1 : Rebuild w} {ps : List (Rebuild w)}
    {isLoop : Bool} {cS shS : Int} {bodyS : List (Instr w)} {oS : Bool} {L : OptLoop w} {C : List Int}
    (hF : LoopFacts G1 shP s1 ps isLoop cS shS bodyS oS L C) (if0 : Rebuild w) :
    LoopFacts (WrapG shP s1 ps G1 cS) shP if0 [] isLoop cS shS bodyS oS L.toAtLeastOnce C := by
  refine ⟨?_, ?_, hF.ifamo, ?_, ?_, ?_, ?_⟩
  · rintro _ M0 σE σS _ ⟨_, _, hne⟩; exact hne
  · rintro ha hl M0 σE σS _ ⟨⟨M0', σE', hrel'⟩, hg, _⟩
    exact hF.amo ha hl M0' σE' σS hrel' hg
  · rintro ha M0 σE σS _ ⟨⟨M0', σE', hrel'⟩, hg, _⟩
    exact hF.nc ha M0' σE' σS hrel' hg
  · rintro ha M0 σE σS _ ⟨⟨M0', σE', hrel'⟩, hg, _⟩
    exact hF.ne ha M0' σE' σS hrel' hg
  · rintro M0 σE σS hrel ⟨⟨M0', σE', hrel'⟩, hg, _⟩ k σk hh hk x hx
    have hp : σE.ptr = σE'.ptr := by
      have h1 := hrel.ptr
      have h2 := hrel'.ptr
      omega
    rw [memS_ptr σk hp, memS_ptr σS hp]
    exact hF.const M0' σE' σS hrel' hg k σk hh hk x hx
  · rintro ha hb M0 σE σS _ ⟨⟨M0', σE', hrel'⟩, hg, _⟩
    exact hF.fin ha hb M0' σE' σS hrel' hg

/-- `performAll s ps 0 calcs` at a source offset `shP` (which must be `0` unless there is nothing to perform). -/
theorem performAll0_stepN {G : State w → Prop} {s : Rebuild w} {ps : List (Rebuild w)} {shP : Int}
    {calcs : List (Int × Expr w)}
    (hwf : Wf s) {os os' : Orders} {s' : Rebuild w}
    (hr : (performAll s ps 0 calcs).run os = .ok (s', os')) (h0 : calcs ≠ [] → shP = 0) :
    Wf s' ∧ SameHdr s s' ∧ s'.noReturn = s.noReturn ∧
    ∃ new, s'.insts = s.insts ++ new ∧ StepNG G shP shP ps s s' [.calc calcs] new := by
  by_cases hc : calcs = []
  · subst hc
    rw [performAll_nil, run_pure] at hr
    cases hr
    have h2' : (performAll s ps shP []).run os = .ok (s, os) := by rw [performAll_nil]; rfl
    obtain ⟨v1, v2, v3, new, hi, _, hsub, hst⟩ := performAll_stepN hwf h2'
    exact ⟨v1, v2, v3, new, hi, hsub, fun M0 σE σS hrel _ => hst M0 σE σS hrel⟩
  · have := h0 hc
    subst this
    obtain ⟨v1, v2, v3, new, hi, _, hsub, hst⟩ := performAll_stepN hwf hr
    exact ⟨v1, v2, v3, new, hi, hsub, fun M0 σE σS hrel _ => hst M0 σE σS hrel⟩

/-- The source program that `finishEnd … (sub, before, after, C)` simulates; the condition is the test of `finishEnd`
(`finish_end` in `opt.rs`) between the block itself and the block inside a wrapping `if`. -/
def endSrc (isLoop : Bool) (cS shS : Int) (bodyS : List (Instr w)) (oS : Bool) (L : OptLoop w)
    (before after : List (Int × Expr w)) : List (Instr w) :=
  [.calc before] ++
    (if L.atLeastOnce || (!L.atMostOnce && after.isEmpty) then
      [blockInstr isLoop cS shS bodyS oS] ++ [.calc after]
    else [.ifnz cS 0 ([blockInstr isLoop cS shS bodyS oS] ++ [.calc after])])

end OptProof
end Hpbf
