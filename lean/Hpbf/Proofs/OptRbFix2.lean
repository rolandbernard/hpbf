/-
The fix for F13: the SEMANTIC half.  The syntactic property `TgtOkL l subs`
(`OptRbFixDefs.lean`: every node of a non-moving loop lists as `clobbered` all store / input targets of the loop's
body) implies `AnalInL G l subs` for EVERY guard `G` (`analInL_of_tgtOk`):
* `exec_frame_targets`: code that does not move the pointer changes only the cells in `OptFix.targetsL` (the physical
  frame `phys_frame` of `OptRbPhys`, whose vocabulary `nsL` / `tgtL` is `noShiftL` / `∈ targetsL`: `phys_of_noShift`);
* `head_frame`: the same at every head of a loop with shift `0`.
-/
import Hpbf.Proofs.OptRbFixDefs
import Hpbf.Proofs.OptRbPhys

namespace Hpbf
namespace OptProof
open Opt OptSem Ir

variable {w : Nat}

theorem noShiftI_loop {c sh : Int} {body : List (Instr w)} {o : Bool}
    (h : C01Dse.noShiftI (.loop c sh body o) = true) : sh = 0 ∧ C01Dse.noShiftL body = true := by
  simpa [C01Dse.noShiftI] using h

theorem noShiftI_ifnz {c sh : Int} {body : List (Instr w)}
    (h : C01Dse.noShiftI (.ifnz c sh body) = true) : sh = 0 ∧ C01Dse.noShiftL body = true := by
  simpa [C01Dse.noShiftI] using h

/-- The two vocabularies for "does not move the pointer" and "may write the cell" agree. -/
theorem phys_of_noShift :
    (∀ i : Instr w, C01Dse.noShiftI i = true → nsI i ∧ ∀ v, tgtI i v → v ∈ OptFix.targetsI i) ∧
    ∀ l : List (Instr w), C01Dse.noShiftL l = true → nsL l ∧ ∀ v, tgtL l v → v ∈ OptFix.targetsL l := by
  refine instr_list_induction ?_ ?_ ?_ ?_ ?_
  · intro i hb _
    cases i with
    | output _ => exact ⟨trivial, fun _ h => h.elim⟩
    | input d => exact ⟨trivial, fun v h => by rw [tgtI] at h; rw [OptFix.targetsI, h]; exact List.mem_singleton.2 rfl⟩
    | «calc» g => exact ⟨trivial, fun v h => by rw [tgtI] at h; rw [OptFix.targetsI]; exact h⟩
    | loop _ _ _ _ | ifnz _ _ _ => cases hb
  · intro c sh body o ih h
    obtain ⟨h1, h2⟩ := noShiftI_loop h
    obtain ⟨a, b⟩ := ih h2
    exact ⟨⟨h1, a⟩, fun v hv => by rw [OptFix.targetsI]; exact b v (hv.resolve_left (fun n => n h1))⟩
  · intro c sh body ih h
    obtain ⟨h1, h2⟩ := noShiftI_ifnz h
    obtain ⟨a, b⟩ := ih h2
    exact ⟨⟨h1, a⟩, fun v hv => by rw [OptFix.targetsI]; exact b v (hv.resolve_left (fun n => n h1))⟩
  · exact fun _ => ⟨trivial, fun v h => (tgtL_nil v h).elim⟩
  · intro i rest ihi ihr h
    obtain ⟨h1, h2⟩ := C01Dse.noShiftL_cons h
    obtain ⟨a1, b1⟩ := ihi h1
    obtain ⟨a2, b2⟩ := ihr h2
    refine ⟨(nsL_cons _ _).2 ⟨a1, a2⟩, fun v hv => ?_⟩
    rw [OptFix.targetsL]
    exact List.mem_append.2 (((tgtL_cons _ _ _).1 hv).imp (b1 v) (b2 v))

/-- A list that does not move the pointer changes only its store / input targets. -/
theorem exec_frame_targets {l : List (Instr w)} {σ σ' : State w} (hns : C01Dse.noShiftL l = true)
    (h : Exec l σ (.fin σ')) : σ'.ptr = σ.ptr ∧ ∀ x, x ∉ OptFix.targetsL l → σ'.rd x = σ.rd x := by
  obtain ⟨a, b⟩ := phys_of_noShift.2 l hns
  obtain ⟨p, m⟩ := phys_frame h σ' rfl a
  exact ⟨p, fun x hx => m x (fun ht => hx (b x ht))⟩

/-- The same at every head of a loop that does not move the pointer. -/
theorem head_frame {c : Int} {body : List (Instr w)} {σ σk : State w} {k : Nat}
    (hns : C01Dse.noShiftL body = true) (h : Head c 0 body σ k σk) :
    σk.ptr = σ.ptr ∧ ∀ x, x ∉ OptFix.targetsL body → σk.rd x = σ.rd x := by
  induction h with
  | zero => exact ⟨rfl, fun _ _ => rfl⟩
  | @succ k σk σ' _ _ hb ih =>
    obtain ⟨p, m⟩ := exec_frame_targets hns hb
    refine ⟨?_, fun x hx => ?_⟩
    · show σ'.ptr + 0 = σ.ptr
      rw [Int.add_zero, p, ih.1]
    · show σ'.tape.get (σ'.ptr + 0 + x) = _
      rw [Int.add_zero]
      exact (m x hx).trans (ih.2 x hx)

theorem analIn_of_tgtOk :
    (∀ (i : Instr w) (A : OptAnalysis w) (G : State w → Prop), TgtOkI i A → AnalInI G i A) ∧
    ∀ (l : List (Instr w)) (subs : List (OptAnalysis w)) (G : State w → Prop), TgtOkL l subs → AnalInL G l subs := by
  refine instr_list_induction ?_ ?_ ?_ (fun subs G _ => analInL_nil G subs) ?_
  · intro i hb A G _
    cases i with
    | output _ | input _ | «calc» _ => rw [AnalInI] <;> simp
    | loop _ _ _ _ | ifnz _ _ _ => cases hb
  · intro c sh body o ih A G h
    obtain ⟨hamo, hcl, hsub⟩ := tgtOkI_loop h
    rw [analInI_loop]
    refine ⟨blockIn_loop_of hamo (fun hhs σ _ k σk hh => ?_), ih A.subBlocks _ hsub⟩
    obtain ⟨hsh, hns, hcont⟩ := hcl hhs
    subst hsh
    obtain ⟨hp, hrd⟩ := head_frame hns hh
    refine ⟨hp, fun x hx => hrd x (fun hm => ?_)⟩
    rw [hcont x hm] at hx
    cases hx
  · intro c sh body ih A G h
    exact analInI_ifnz_of (ih A.subBlocks _ (tgtOkI_ifnz h))
  · intro i rest ihi ihr subs G h
    cases hb : C01Dse.isBlock i with
    | false =>
      rw [analInL_cons_nonblock G hb]
      exact ihr subs _ ((tgtOkL_cons_nonblock hb rest subs).1 h)
    | true =>
      cases subs with
      | nil => exact analInL_cons_block_nil G hb rest
      | cons A subs' =>
        rw [analInL_cons_block G hb]
        obtain ⟨h1, h2⟩ := (tgtOkL_cons_block hb rest A subs').1 h
        exact ⟨ihi A G h1, ihr subs' _ h2⟩

theorem analInI_of_tgtOk : ∀ (i : Instr w) (A : OptAnalysis w) (G : State w → Prop),
    TgtOkI i A → AnalInI G i A :=
  analIn_of_tgtOk.1

theorem analInL_of_tgtOk : ∀ (l : List (Instr w)) (subs : List (OptAnalysis w)) (G : State w → Prop),
    TgtOkL l subs → AnalInL G l subs :=
  analIn_of_tgtOk.2

#print axioms exec_frame_targets
#print axioms head_frame
#print axioms analInL_of_tgtOk

end OptProof
end Hpbf
