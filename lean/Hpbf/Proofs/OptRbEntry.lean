/-
The entry relation of a nested block whose fresh state has no analysis, for every parent chain: `compare` on closed
normal forms is sound in every memory (`compare_closed_sound`), so a state without analysis learns nothing from its
parent chain (`pk_noanal`) and is entered from every state with the same memory (`entry_noanal`).
-/
import Hpbf.Proofs.OptRbAll

namespace Hpbf
namespace OptProof
open Opt OptSem Ir

variable {w : Nat}

theorem evalPending_closed (s : Rebuild w) (ps : List (Rebuild w)) (a : Expr w) (ha : Expr.variables a = []) :
    evalPending s ps 0 a = .ok a := by
  unfold evalPending
  rw [ha]
  simp [pure, Except.pure]

theorem evalWritten_closed (s : Rebuild w) (ps : List (Rebuild w)) (a : Expr w) (ha : Expr.variables a = []) :
    evalWritten s ps a = some a := by
  unfold evalWritten
  rw [ha]
  simp

/-- `compareParent` on closed normal forms: the answer `true` is right, given that `compare` is right one level up
the parent chain. -/
theorem compareParent_closed (s : Rebuild w) (ps : List (Rebuild w)) (a b : Expr w)
    (hva : Expr.variables a = []) (hvb : Expr.variables b = []) (ha : Expr.Canon a) (hb : Expr.Canon b)
    (hcmp : compareParent s ps a b = .ok true) (m : Mem w)
    (hrec : ∀ p ps', ps = p :: ps' → Opt.compare p ps' a b = .ok true → ev a m = ev b m) : ev a m = ev b m := by
  unfold compareParent at hcmp
  split at hcmp
  · rename_i hab
    have : a = b := by simpa using hab
    rw [this]
  · split at hcmp
    · cases hpar : s.parent with
      | zero =>
        rw [hpar] at hcmp
        simp only [pure, Except.pure, Except.ok.injEq, beq_iff_eq] at hcmp
        rw [ev_varfree a hva m (fun _ => 0#w), ev_varfree b hvb m (fun _ => 0#w)]
        show Expr.evaluate a _ = Expr.evaluate b _
        rw [← Expr.eval_constantPart a ha.weak, ← Expr.eval_constantPart b hb.weak, hcmp]
      | unknown => rw [hpar] at hcmp; simp [pure, Except.pure] at hcmp
      | parent =>
        rw [hpar] at hcmp
        cases ps with
        | nil => simp [pure, Except.pure] at hcmp
        | cons p ps' => exact hrec p ps' rfl hcmp
    · simp [pure, Except.pure] at hcmp

/-- One level of `compare` on closed normal forms: the answer `true` is right, given that it is right one level up
the parent chain. -/
theorem compare_closed_step (s : Rebuild w) (ps : List (Rebuild w)) (a b : Expr w)
    (hva : Expr.variables a = []) (hvb : Expr.variables b = []) (ha : Expr.Canon a) (hb : Expr.Canon b)
    (hcmp : Opt.compare s ps a b = .ok true) (m : Mem w)
    (hrec : ∀ p ps', ps = p :: ps' → Opt.compare p ps' a b = .ok true → ev a m = ev b m) : ev a m = ev b m := by
  rw [compare_eq] at hcmp
  split at hcmp
  · rename_i hab
    have : a = b := by simpa using hab
    rw [this]
  · rename_i hne
    rw [evalPending_closed s _ a hva, evalPending_closed s _ b hvb] at hcmp
    simp only [bind, Except.bind] at hcmp
    rw [if_neg hne, evalWritten_closed s _ a hva, evalWritten_closed s _ b hvb] at hcmp
    simp only at hcmp
    exact compareParent_closed s ps a b hva hvb ha hb hcmp m hrec

/-- `compare` on closed normal forms only answers `true` when the values are equal. -/
theorem compare_closed_sound (ps : List (Rebuild w)) : ∀ (s : Rebuild w) (a b : Expr w),
    Expr.variables a = [] → Expr.variables b = [] → Expr.Canon a → Expr.Canon b →
    Opt.compare s ps a b = .ok true → ∀ m : Mem w, ev a m = ev b m := by
  induction ps with
  | nil =>
    intro s a b hva hvb ha hb hcmp m
    exact compare_closed_step s [] a b hva hvb ha hb hcmp m (fun _ _ h => by cases h)
  | cons p ps' ih =>
    intro s a b hva hvb ha hb hcmp m
    refine compare_closed_step s _ a b hva hvb ha hb hcmp m (fun q qs h hc => ?_)
    cases h
    exact ih _ a b hva hvb ha hb hc m

/-- A state without analysis knows nothing through its parent chain except what holds in every memory, and that
its condition cell is not zero. -/
theorem pk_noanal {c : Rebuild w} (pc : List (Rebuild w)) (hanal : c.anal = none) (M0 : Mem w)
    (hcond : c.subShift = false → ∀ v, c.cond = some v → M0 v ≠ 0#w) : PK c pc M0 := by
  have hca : ∀ v, canAskParentFor c v = false := by
    intro v; unfold canAskParentFor; rw [hanal]; simp
  refine ⟨?_, ?_, ?_⟩
  · intro v cst h
    unfold getParentConstant at h
    rw [hca] at h; simp at h
  · intro v h
    unfold nonZeroParent at h
    rw [hca] at h
    simp only [Bool.false_eq_true, if_false, Bool.and_eq_true, Bool.not_eq_true', beq_iff_eq] at h
    split at h
    · rename_i hh
      exact hcond hh.1 v hh.2
    · cases h
  · intro a b ha hb h
    have h0 := h
    unfold compareParent at h
    split at h
    · rename_i hab
      have : a = b := by simpa using hab
      rw [this]
    · split at h
      · rename_i hall
        have hva : Expr.variables a = [] := by
          cases hv : Expr.variables a with
          | nil => rfl
          | cons x xs =>
            simp only [List.all_eq_true, List.mem_append] at hall
            have := hall x (Or.inl (by rw [hv]; simp))
            rw [hca] at this; cases this
        have hvb : Expr.variables b = [] := by
          cases hv : Expr.variables b with
          | nil => rfl
          | cons x xs =>
            simp only [List.all_eq_true, List.mem_append] at hall
            have := hall x (Or.inr (by rw [hv]; simp))
            rw [hca] at this; cases this
        refine compareParent_closed c pc a b hva hvb ha hb h0 M0 (fun p pc' e hc => ?_)
        subst e
        exact compare_closed_sound pc' p a b hva hvb ha hb hc M0
      · simp [pure, Except.pure] at h

/-- A fresh state without analysis (nothing pending, nothing written) is entered from every state with the same memory in
which its condition cell is not zero, whatever its parent chain and whatever the guard. -/
theorem entry_noanal {c : Rebuild w} (pc : List (Rebuild w)) {shP cS : Int} (G : State w → Prop)
    (hp : c.pending = []) (hw : c.written = []) (hnr : c.noReturn = false) (ha : c.anal = none)
    (hc : c.cond = some (cS + shP)) : EntryAt G shP cS pc c := by
  intro σE σS hm hne _
  refine ⟨memE σE, hm.1, hm.2.1, hm.2.2.1, hnr, ?_, fun v => ?_, ?_⟩
  · show memS σE σS = Mem.par c.pending (memE σE)
    rw [hp, par_nil]; exact hm.2.2.2
  · rw [hw]; rfl
  · refine pk_noanal _ ha (memE σE) ?_
    intro _ v hv
    rw [hc] at hv
    cases hv
    rw [← sameMem_rd hm]; exact hne

end OptProof
end Hpbf
