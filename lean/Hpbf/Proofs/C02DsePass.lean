/-
C02, `dead_store_elim`: the pass produces a certificate (`DseCert`, `C02DseSim.lean`). Precondition `DsePre s`:
* structural: no operand is a `memZero` (the scan does not see that reading `memZero m` also WRITES `m`);
* bookkeeping: for every temporary `t`, the number of source operands `tmp t` in `insts` (with multiplicity) is at
  most `ranges[t].numUses` (so `num_uses -= 1` never underflows or indexes out of bounds, and `num_uses == 0`
  implies that nobody reads `t`), and the destination temporaries of arithmetic instructions index `ranges`.
No assumption on branch targets is needed.
-/
import Hpbf.Proofs.C02DseSim
import Hpbf.Proofs.C02EmitBase
import Hpbf.Proofs.C11AllocSolve

namespace Hpbf
namespace C02

open Bc BcWf BcGen C11

variable {w : Nat}

/-- `ranges[t].num_uses` (0 outside the table). -/
def dseNuse (rs : Array RangeInfo) (t : Nat) : Nat :=
  match rs[t]? with
  | some r => r.numUses
  | none => 0

def dseCnt (t : Nat) (ins : Instr w) : Nat := (uses ins).count t

def dseUseCount (I : Array (Instr w)) (t : Nat) : Nat := (I.toList.map (dseCnt t)).sum

theorem dse_list_le_sum {α : Type} (f : α → Nat) : ∀ (l : List α) (x : α), x ∈ l → f x ≤ (l.map f).sum := by
  intro l
  induction l with
  | nil => intro x hx; simp at hx
  | cons a l ih =>
    intro x hx
    simp only [List.mem_cons] at hx
    simp only [List.map_cons, List.sum_cons]
    rcases hx with rfl | hx
    · omega
    · have := ih x hx; omega

theorem dse_useCount_set (I : Array (Instr w)) (i : Nat) (x : Instr w) (t : Nat) (hi : i < I.size) :
    dseUseCount (I.setIfInBounds i x) t + dseCnt t I[i] = dseUseCount I t + dseCnt t x := by
  unfold dseUseCount
  rw [Array.toList_setIfInBounds]
  have := Alloc.Wf.sum_set (dseCnt t) I.toList i x (by simpa using hi)
  simpa using this

theorem dse_useCount_push (I : Array (Instr w)) (x : Instr w) (t : Nat) :
    dseUseCount (I.push x) t = dseUseCount I t + dseCnt t x := by
  unfold dseUseCount
  simp

theorem dse_cnt_le_useCount {I : Array (Instr w)} {ins : Instr w} (h : ins ∈ I) (t : Nat) :
    dseCnt t ins ≤ dseUseCount I t :=
  dse_list_le_sum (dseCnt t) I.toList ins (by simpa using h)

theorem dse_not_uses_of_useCount_zero {I : Array (Instr w)} {t : Nat} (h : dseUseCount I t = 0) {ins : Instr w}
    (hm : ins ∈ I) : t ∉ uses ins := by
  have := dse_cnt_le_useCount hm t
  intro hmem
  have : 0 < dseCnt t ins := List.count_pos_iff.mpr hmem
  omega

/-- The invariant of the backward scan, on the two fields of the generator state the pass touches. -/
structure DseInv (I : Array (Instr w)) (R : Array RangeInfo) : Prop where
  noZero : ∀ ins ∈ I, NoMemZero ins
  uses : ∀ t, dseUseCount I t ≤ dseNuse R t
  dst : ∀ (i : Nat) (op : BcGen.Op) (t : Nat) (a b : Loc w), I[i]? = some (mkArith op (.tmp t) a b) → t < R.size

def DsePre (s : St w) : Prop := DseInv s.insts s.ranges

theorem dse_nuse_set (rs : Array RangeInfo) (t : Nat) (r : RangeInfo) (t' : Nat) (h : t < rs.size) :
    dseNuse (rs.setIfInBounds t r) t' = if t' = t then r.numUses else dseNuse rs t' := by
  unfold dseNuse
  rw [Array.getElem?_setIfInBounds]
  by_cases e : t = t'
  · subst e; simp [h]
  · have e' : ¬ t' = t := fun x => e x.symm
    simp [e, e']

theorem dse_decUse_spec (rs : Array RangeInfo) (l : Loc w) (h : ∀ t ∈ locTmp l, 1 ≤ dseNuse rs t) :
    ∃ rs', decUse rs l = .ok rs' ∧ rs'.size = rs.size ∧
      ∀ t, dseNuse rs' t + (locTmp l).count t = dseNuse rs t := by
  cases l with
  | tmp t =>
    have h1 := h t (by simp [locTmp])
    unfold dseNuse at h1
    cases hr : rs[t]? with
    | none => rw [hr] at h1; simp at h1
    | some r =>
      rw [hr] at h1
      simp only at h1
      have hlt : t < rs.size := lt_of_getElem? hr
      refine ⟨rs.setIfInBounds t { r with numUses := r.numUses - 1 }, ?_, by simp, ?_⟩
      · simp only [decUse, hr]
        have : ¬ r.numUses = 0 := by omega
        simp [this]
      · intro t'
        rw [dse_nuse_set _ _ _ _ hlt]
        by_cases e : t' = t
        · subst e
          simp only [if_true, locTmp, List.count_cons_self, List.count_nil]
          unfold dseNuse; rw [hr]; simp only; omega
        · have e' : ¬ t = t' := fun x => e x.symm
          simp [e, locTmp, e']
  | mem o => exact ⟨rs, rfl, rfl, fun t => by simp [locTmp]⟩
  | memZero o => exact ⟨rs, rfl, rfl, fun t => by simp [locTmp]⟩
  | imm v => exact ⟨rs, rfl, rfl, fun t => by simp [locTmp]⟩

theorem dse_decUses_spec : ∀ (ls : List (Loc w)) (rs : Array RangeInfo),
    (∀ t, (ls.flatMap locTmp).count t ≤ dseNuse rs t) →
    ∃ rs', ls.foldlM decUse rs = .ok rs' ∧ rs'.size = rs.size ∧
      ∀ t, dseNuse rs' t + (ls.flatMap locTmp).count t = dseNuse rs t := by
  intro ls
  induction ls with
  | nil => intro rs _; exact ⟨rs, rfl, rfl, fun t => by simp⟩
  | cons l ls ih =>
    intro rs h
    simp only [List.flatMap_cons, List.count_append] at h
    obtain ⟨r1, h1, h2, h3⟩ := dse_decUse_spec rs l (fun t ht => by
      have := h t
      have : 0 < (locTmp l).count t := List.count_pos_iff.mpr ht
      omega)
    obtain ⟨r2, g1, g2, g3⟩ := ih r1 (fun t => by have := h t; have := h3 t; omega)
    refine ⟨r2, ?_, by omega, fun t => ?_⟩
    · simp only [List.foldlM_cons, h1]
      exact g1
    · simp only [List.flatMap_cons, List.count_append]
      have := h3 t; have := g3 t; omega

theorem dse_mem_setErase {s : List Int} {k x : Int} : x ∈ setErase s k ↔ x ∈ s ∧ x ≠ k := by
  unfold setErase
  simp

theorem dse_mem_remMem {D : List Int} {l : Loc w} (hl : locNoZero l = true) {x : Int} :
    x ∈ remMem D l ↔ x ∈ D ∧ x ∉ locMem l := by
  cases l with
  | mem m => simp [remMem, dse_mem_setErase, locMem]
  | memZero m => simp [locNoZero] at hl
  | tmp t => simp [remMem, locMem]
  | imm v => simp [remMem, locMem]

/-- The three conditions of the "unchanged instruction" case of `DseStepOk`. -/
structure DseSameOk (inst : Instr w) (Db Da : List Int) : Prop where
  reads : ∀ o ∈ dseReadMems inst, o ∉ Db
  ctl : dseIsCtl inst = true → Db = []
  sub : ∀ o ∈ Db, o ∈ Da ∨ o ∈ dseWriteMems inst

theorem dse_getElem?_set_noop {I : Array (Instr w)} {i j : Nat} {ins : Instr w}
    (h : (I.setIfInBounds i .noop)[j]? = some ins) : ins = .noop ∨ (j ≠ i ∧ I[j]? = some ins) := by
  rw [Array.getElem?_setIfInBounds] at h
  by_cases hij : i = j
  · simp only [hij, if_true] at h
    by_cases hlt : j < I.size
    · simp only [hlt, if_true] at h
      cases h; exact Or.inl rfl
    · simp only [hlt, if_false] at h
      cases h
  · simp only [hij, if_false] at h
    exact Or.inr ⟨fun e => hij e.symm, h⟩

theorem dseReads_ok (inst : Instr w) (hnz : NoMemZero inst) (dead0 Da : List Int)
    (hsub : ∀ o ∈ dead0, o ∈ Da ∨ o ∈ dseWriteMems inst) : DseSameOk inst (dseReads dead0 inst) Da := by
  have arithCase : ∀ (d a b : Loc w), locNoZero a = true → locNoZero b = true →
      (∀ o ∈ dead0, o ∈ Da ∨ o ∈ dseDstMem d) →
      (∀ o ∈ locMem a ++ locMem b, o ∉ remMem (remMem dead0 b) a) ∧
      (∀ o ∈ remMem (remMem dead0 b) a, o ∈ Da ∨ o ∈ dseDstMem d) := by
    intro d a b ha hb hs
    refine ⟨fun o ho hm => ?_, fun o ho => ?_⟩
    · rw [dse_mem_remMem ha, dse_mem_remMem hb] at hm
      rcases List.mem_append.1 ho with h1 | h1
      · exact hm.2 h1
      · exact hm.1.2 h1
    · rw [dse_mem_remMem ha, dse_mem_remMem hb] at ho
      exact hs o ho.1.1
  cases inst with
  | noop => exact ⟨fun o ho => by simp [dseReadMems] at ho, fun h => (by cases h), hsub⟩
  | scan c sh => exact ⟨fun o _ h => by simp [dseReads] at h, fun _ => rfl, fun o h => by simp [dseReads] at h⟩
  | mov sh => exact ⟨fun o _ h => by simp [dseReads] at h, fun _ => rfl, fun o h => by simp [dseReads] at h⟩
  | brz c off => exact ⟨fun o _ h => by simp [dseReads] at h, fun _ => rfl, fun o h => by simp [dseReads] at h⟩
  | brnz c off => exact ⟨fun o _ h => by simp [dseReads] at h, fun _ => rfl, fun o h => by simp [dseReads] at h⟩
  | inp m =>
    refine ⟨fun o ho => by simp [dseReadMems] at ho, fun h => (by cases h), fun o ho => ?_⟩
    simp only [dseReads, C02Emit.mem_setInsert] at ho
    rcases ho with ho | rfl
    · exact hsub o ho
    · exact Or.inr (by simp [dseWriteMems])
  | out m =>
    refine ⟨fun o ho hm => ?_, fun h => (by cases h), fun o ho => ?_⟩
    · simp only [dseReadMems, List.mem_singleton] at ho
      simp only [dseReads, dse_mem_setErase] at hm
      exact hm.2 ho
    · simp only [dseReads, dse_mem_setErase] at ho
      exact hsub o ho.1
  | add d a b | sub d a b | mul d a b =>
    simp only [NoMemZero, noMemZero, Bool.and_eq_true] at hnz
    obtain ⟨h1, h2⟩ := arithCase d a b hnz.1.2 hnz.2 hsub
    exact ⟨h1, fun h => (by cases h), h2⟩
  | copy d s =>
    simp only [NoMemZero, noMemZero, Bool.and_eq_true] at hnz
    refine ⟨fun o ho hm => ?_, fun h => (by cases h), fun o ho => ?_⟩
    · simp only [dseReads, dse_mem_remMem hnz.2] at hm
      exact hm.2 ho
    · simp only [dseReads, dse_mem_remMem hnz.2] at ho
      exact hsub o ho.1

/-- The `kill` closure of `dseStep`. -/
def dseKill (i : Nat) (s : St w) (dead : List Int) (srcs : List (Loc w)) : Except String (St w × List Int) := do
  let rs ← srcs.foldlM decUse s.ranges
  pure ({ s with ranges := rs, insts := s.insts.setIfInBounds i .noop }, dead)

theorem dseStep_copy_mem {i : Nat} {s : St w} {dead : List Int} {m : Int} {src : Loc w}
    (hi : s.insts[i]? = some (.copy (.mem m) src)) :
    dseStep i s dead = if dead.contains m then dseKill i s dead [src]
      else .ok (s, dseReads (setInsert dead m) (.copy (.mem m) src)) := by
  unfold dseStep
  rw [hi]
  rfl

theorem dseStep_arith_mem {i : Nat} {s : St w} {dead : List Int} {op : BcGen.Op} {m : Int} {a b : Loc w}
    (hi : s.insts[i]? = some (mkArith op (.mem m) a b)) :
    dseStep i s dead = if dead.contains m then dseKill i s dead [a, b]
      else .ok (s, dseReads (setInsert dead m) (mkArith op (.mem m) a b)) := by
  unfold dseStep
  rw [hi]
  cases op <;> rfl

theorem dseStep_arith_tmp {i : Nat} {s : St w} {dead : List Int} {op : BcGen.Op} {t : Nat} {a b : Loc w}
    (hi : s.insts[i]? = some (mkArith op (.tmp t) a b)) :
    dseStep i s dead =
      match s.ranges[t]? with
      | none => .error "dead_store_elim:ranges-index"
      | some r => if r.numUses = 0 then dseKill i s dead [a, b]
          else .ok (s, dseReads dead (mkArith op (.tmp t) a b)) := by
  unfold dseStep
  rw [hi]
  cases op <;> rfl

theorem dseStep_other {i : Nat} {s : St w} {dead : List Int} {inst : Instr w} (hi : s.insts[i]? = some inst)
    (h1 : ∀ m src, inst ≠ .copy (.mem m) src) (h2 : ∀ op m a b, inst ≠ mkArith op (.mem m) a b)
    (h3 : ∀ op t a b, inst ≠ mkArith op (.tmp t) a b) :
    dseStep i s dead = .ok (s, dseReads dead inst) := by
  unfold dseStep
  rw [hi]
  cases inst with
  | noop => rfl
  | scan c sh => rfl
  | mov sh => rfl
  | inp m => rfl
  | out m => rfl
  | brz c off => rfl
  | brnz c off => rfl
  | copy d src =>
    cases d with
    | mem m => exact absurd rfl (h1 m src)
    | memZero m => rfl
    | tmp t => rfl
    | imm v => rfl
  | add d a b =>
    cases d with
    | mem m => exact absurd rfl (h2 .add m a b)
    | tmp t => exact absurd rfl (h3 .add t a b)
    | memZero m => rfl
    | imm v => rfl
  | sub d a b =>
    cases d with
    | mem m => exact absurd rfl (h2 .sub m a b)
    | tmp t => exact absurd rfl (h3 .sub t a b)
    | memZero m => rfl
    | imm v => rfl
  | mul d a b =>
    cases d with
    | mem m => exact absurd rfl (h2 .mul m a b)
    | tmp t => exact absurd rfl (h3 .mul t a b)
    | memZero m => rfl
    | imm v => rfl

theorem dse_uses_mkArith (op : BcGen.Op) (d a b : Loc w) : uses (mkArith op d a b) = [a, b].flatMap locTmp := by
  cases op <;> simp [mkArith, uses]

theorem dse_writeMems_mkArith (op : BcGen.Op) (d a b : Loc w) : dseWriteMems (mkArith op d a b) = dseDstMem d := by
  cases op <;> rfl

theorem dseKill_spec {i : Nat} {s : St w} {dead : List Int} {inst : Instr w} {srcs : List (Loc w)}
    (hi : s.insts[i]? = some inst) (hI : DseInv s.insts s.ranges) (hu : uses inst = srcs.flatMap locTmp) :
    ∃ rs, dseKill i s dead srcs = .ok ({ s with ranges := rs, insts := s.insts.setIfInBounds i .noop }, dead) ∧
      rs.size = s.ranges.size ∧ DseInv (s.insts.setIfInBounds i .noop) rs := by
  have hlt : i < s.insts.size := lt_of_getElem? hi
  have hget : s.insts[i] = inst := by
    rw [Array.getElem?_eq_getElem hlt] at hi; exact Option.some.inj hi
  have hmem : inst ∈ s.insts := Array.mem_of_getElem? hi
  obtain ⟨rs, h1, h2, h3⟩ := dse_decUses_spec srcs s.ranges (fun t => by
    rw [← hu]
    exact Nat.le_trans (dse_cnt_le_useCount hmem t) (hI.uses t))
  refine ⟨rs, ?_, h2, ?_, ?_, ?_⟩
  · simp only [dseKill, h1]
    rfl
  · intro ins hins
    rcases Array.getElem?_of_mem hins with ⟨j, hj⟩
    rcases dse_getElem?_set_noop hj with rfl | ⟨_, hj⟩
    · rfl
    · exact hI.noZero ins (Array.mem_of_getElem? hj)
  · intro t
    have hs := dse_useCount_set s.insts i .noop t hlt
    rw [hget] at hs
    have hc : dseCnt t (Instr.noop : Instr w) = 0 := by simp [dseCnt, uses]
    have h3t := h3 t
    rw [← hu] at h3t
    have := hI.uses t
    unfold dseCnt at hs hc
    omega
  · intro j op t a b hj
    rw [h2]
    rcases dse_getElem?_set_noop hj with h | ⟨_, hj⟩
    · cases op <;> cases h
    · exact hI.dst j op t a b hj

/-- What one iteration does: the state is unchanged and the dead set is updated soundly, or instruction `i`
is blanked because its destination is dead (a dead cell, or a temporary nobody reads). -/
def DseStepPost (i : Nat) (s : St w) (dead : List Int) (inst : Instr w) : Prop :=
  ∃ (I1 : Array (Instr w)) (R1 : Array RangeInfo) (dead1 : List Int),
    dseStep i s dead = .ok ({ s with ranges := R1, insts := I1 }, dead1) ∧ R1.size = s.ranges.size ∧ DseInv I1 R1 ∧
    ((I1 = s.insts ∧ DseSameOk inst dead1 dead) ∨
     (I1 = s.insts.setIfInBounds i .noop ∧ dead1 = dead ∧ ∃ d, DseKillOf inst d ∧
        ((∃ m, d = .mem m ∧ m ∈ dead) ∨ (∃ t, d = .tmp t ∧ dseUseCount s.insts t = 0))))

theorem dseStep_spec {i : Nat} {s : St w} {dead : List Int} {inst : Instr w}
    (hi : s.insts[i]? = some inst) (hI : DseInv s.insts s.ranges) :
    DseStepPost i s dead inst := by
  have hnz : NoMemZero inst := hI.noZero inst (Array.mem_of_getElem? hi)
  have same : ∀ dead1, dseStep i s dead = .ok (s, dead1) → DseSameOk inst dead1 dead →
      DseStepPost i s dead inst :=
    fun dead1 h1 h2 => ⟨s.insts, s.ranges, dead1, h1, rfl, hI, Or.inl ⟨rfl, h2⟩⟩
  have kill : ∀ (srcs : List (Loc w)) (d : Loc w), dseStep i s dead = dseKill i s dead srcs →
      uses inst = srcs.flatMap locTmp → DseKillOf inst d →
      ((∃ m, d = .mem m ∧ m ∈ dead) ∨ (∃ t, d = .tmp t ∧ dseUseCount s.insts t = 0)) →
      DseStepPost i s dead inst := by
    intro srcs d h1 hu hk hd
    obtain ⟨rs, g1, g2, g3⟩ := dseKill_spec (dead := dead) hi hI hu
    exact ⟨_, rs, dead, h1.trans g1, g2, g3, Or.inr ⟨rfl, rfl, d, hk, hd⟩⟩
  have memCase : ∀ (m : Int) (srcs : List (Loc w)),
      dseStep i s dead = (if dead.contains m then dseKill i s dead srcs
        else .ok (s, dseReads (setInsert dead m) inst)) →
      uses inst = srcs.flatMap locTmp → DseKillOf inst (.mem m) → m ∈ dseWriteMems inst →
      DseStepPost i s dead inst := by
    intro m srcs h1 hu hk hw
    by_cases hd : dead.contains m = true
    · rw [if_pos hd] at h1
      exact kill srcs (.mem m) h1 hu hk (Or.inl ⟨m, rfl, by simpa using hd⟩)
    · rw [if_neg hd] at h1
      refine same _ h1 (dseReads_ok inst hnz _ dead ?_)
      intro o ho
      rcases C02Emit.mem_setInsert.1 ho with h | rfl
      · exact Or.inl h
      · exact Or.inr hw
  by_cases c1 : ∃ m src, inst = .copy (.mem m) src
  · obtain ⟨m, src, rfl⟩ := c1
    exact memCase m [src] (dseStep_copy_mem hi) (by simp [uses]) (Or.inl ⟨src, rfl⟩) (by simp [dseWriteMems, dseDstMem])
  by_cases c2 : ∃ op m a b, inst = mkArith op (.mem m) a b
  · obtain ⟨op, m, a, b, rfl⟩ := c2
    exact memCase m [a, b] (dseStep_arith_mem hi) (dse_uses_mkArith _ _ _ _) (Or.inr ⟨op, a, b, rfl⟩)
      (by simp [dse_writeMems_mkArith, dseDstMem])
  by_cases c3 : ∃ op t a b, inst = mkArith op (.tmp t) a b
  · obtain ⟨op, t, a, b, rfl⟩ := c3
    have hstep := dseStep_arith_tmp (dead := dead) hi
    have hlt := hI.dst i op t a b hi
    rw [Array.getElem?_eq_getElem hlt] at hstep
    simp only at hstep
    by_cases hz : s.ranges[t].numUses = 0
    · rw [if_pos hz] at hstep
      refine kill [a, b] (.tmp t) hstep (dse_uses_mkArith _ _ _ _) (Or.inr ⟨op, a, b, rfl⟩) (Or.inr ⟨t, rfl, ?_⟩)
      have := hI.uses t
      unfold dseNuse at this
      rw [Array.getElem?_eq_getElem hlt] at this
      simp only at this
      omega
    · rw [if_neg hz] at hstep
      exact same _ hstep (dseReads_ok _ hnz dead dead (fun o ho => Or.inl ho))
  · refine same _ (dseStep_other hi (fun m src e => c1 ⟨m, src, e⟩) (fun op m a b e => c2 ⟨op, m, a, b, e⟩)
      (fun op t a b e => c3 ⟨op, t, a, b, e⟩)) (dseReads_ok _ hnz dead dead (fun o ho => Or.inl ho))

theorem dseLoop_spec : ∀ (k : Nat) (s : St w) (dead : List Int), k ≤ s.insts.size → DseInv s.insts s.ranges →
    ∃ (I' : Array (Instr w)) (R' : Array RangeInfo),
      dseLoop k s dead = .ok { s with ranges := R', insts := I' } ∧ I'.size = s.insts.size ∧
      R'.size = s.ranges.size ∧ DseInv I' R' ∧
      (∀ (j : Nat) (ins' : Instr w), I'[j]? = some ins' → ins' = .noop ∨ s.insts[j]? = some ins') ∧
      (∀ j, k ≤ j → I'[j]? = s.insts[j]?) ∧
      ∃ D : Nat → List Int, D k = dead ∧
        ∀ (i : Nat) (ins ins' : Instr w), i < k → s.insts[i]? = some ins → I'[i]? = some ins' →
          DseStepOk I' ins ins' (D i) (D (i + 1)) := by
  intro k
  induction k with
  | zero =>
    intro s dead _ hI
    exact ⟨s.insts, s.ranges, rfl, rfl, rfl, hI, fun j ins' h => Or.inr h, fun _ _ => rfl,
      fun _ => dead, rfl, fun i _ _ hi => by omega⟩
  | succ i ih =>
    intro s dead hk hI
    have hilt : i < s.insts.size := by omega
    have hi : s.insts[i]? = some s.insts[i] := Array.getElem?_eq_getElem hilt
    obtain ⟨I1, R1, dead1, hstep, hR1, hI1, hcase⟩ := dseStep_spec (dead := dead) hi hI
    have hsz1 : I1.size = s.insts.size := by
      rcases hcase with ⟨e, _⟩ | ⟨e, _⟩ <;> rw [e]
      simp
    have hlow : ∀ j, j ≠ i → I1[j]? = s.insts[j]? := by
      intro j hj
      rcases hcase with ⟨e, _⟩ | ⟨e, _⟩ <;> rw [e]
      rw [Array.getElem?_setIfInBounds]
      have hne : ¬ i = j := fun e' => hj e'.symm
      simp [hne]
    have hsub1 : ∀ (j : Nat) (ins' : Instr w), I1[j]? = some ins' → ins' = .noop ∨ s.insts[j]? = some ins' := by
      intro j ins' hj
      rcases hcase with ⟨e, _⟩ | ⟨e, _⟩
      · rw [e] at hj; exact Or.inr hj
      · rw [e] at hj
        rcases dse_getElem?_set_noop hj with h | ⟨_, h⟩
        · exact Or.inl h
        · exact Or.inr h
    obtain ⟨I', R', hloop, hsz', hR', hI', hsub', hframe', D', hD'k, hD'⟩ :=
      ih { s with ranges := R1, insts := I1 } dead1 (by simp only [hsz1]; omega) hI1
    simp only at hloop hsz' hR' hsub' hframe' hD'
    refine ⟨I', R', ?_, by omega, by omega, hI', ?_, ?_, ?_⟩
    · rw [dseLoop, hstep]
      exact hloop
    · intro j ins' hj
      rcases hsub' j ins' hj with h | h
      · exact Or.inl h
      · exact hsub1 j ins' h
    · intro j hj
      rw [hframe' j (by omega), hlow j (by omega)]
    · -- the dead sets are built backwards: up to `i` those of the recursive call, behind it the set this call
      -- arrived with (`hframe'`: the suffix of the program is no longer touched)
      refine ⟨fun j => if j ≤ i then D' j else dead, by simp only [show ¬ (i + 1 ≤ i) by omega, if_false], ?_⟩
      intro j ins ins' hj hins hins'
      by_cases hji : j = i
      · subst hji
        have hins1 : I'[j]? = I1[j]? := hframe' j (Nat.le_refl _)
        simp only [Nat.le_refl, if_true, show ¬ (j + 1 ≤ j) by omega, if_false, hD'k]
        rw [hi] at hins
        cases hins
        rcases hcase with ⟨e, hsame⟩ | ⟨e, hd1, d, hk', hdead⟩
        · rw [hins1, e, hi] at hins'
          cases hins'
          exact Or.inl ⟨rfl, hsame.reads, hsame.ctl, hsame.sub⟩
        · rw [hins1, e, Array.getElem?_setIfInBounds] at hins'
          simp only [hilt, if_true] at hins'
          cases hins'
          refine Or.inr ⟨rfl, hd1, d, hk', ?_⟩
          rcases hdead with h | ⟨t, rfl, hz⟩
          · exact Or.inl h
          · refine Or.inr ⟨t, rfl, ?_⟩
            rintro ⟨x, insx, hx, htx⟩
            rcases hsub' x insx hx with h | h
            · subst h; simp [uses] at htx
            · rcases hsub1 x insx h with h | h
              · subst h; simp [uses] at htx
              · exact dse_not_uses_of_useCount_zero hz (Array.mem_of_getElem? h) htx
      · have hjlt : j < i := by omega
        simp only [show j ≤ i by omega, show j + 1 ≤ i by omega, if_true]
        exact hD' j ins ins' hjlt (by rw [hlow j hji]; exact hins) hins'

theorem dse_targetsOk_of_sub {I I' : Array (Instr w)} (hsz : I'.size = I.size)
    (hsub : ∀ (j : Nat) (ins' : Instr w), I'[j]? = some ins' → ins' = .noop ∨ I[j]? = some ins')
    (hT : TargetsOk I) : TargetsOk I' := by
  intro i ins off hi hoff
  rw [hsz]
  rcases hsub i ins hi with h | h
  · subst h; cases hoff
  · exact hT i ins off h hoff

theorem deadStoreElim_cert (s : St w) (h : DsePre s) :
    ∃ (I' : Array (Instr w)) (R' : Array RangeInfo),
      deadStoreElim s = .ok { s with ranges := R', insts := I' } ∧ I'.size = s.insts.size ∧
      R'.size = s.ranges.size ∧ DseInv I' R' ∧
      (∀ (j : Nat) (ins' : Instr w), I'[j]? = some ins' → ins' = .noop ∨ s.insts[j]? = some ins') ∧
      ∃ D, DseCert s.insts I' D := by
  obtain ⟨I', R', h1, h2, h3, h4, h5, _, D, hD, hstep⟩ := dseLoop_spec s.insts.size s [] (Nat.le_refl _) h
  refine ⟨I', R', h1, h2, h3, h4, h5, D, h2, h.noZero, hD, ?_⟩
  intro i ins ins' hi hi'
  exact hstep i ins ins' (lt_of_getElem? hi) hi hi'

theorem deadStoreElim_preserves (s : St w) (h : DsePre s) :
    ∃ s', deadStoreElim s = .ok s' ∧ s'.insts.size = s.insts.size ∧ s'.ranges.size = s.ranges.size ∧
      s' = { s with insts := s'.insts, ranges := s'.ranges } ∧ s'.live = s.live ∧
      (∀ (j : Nat) (ins' : Instr w), s'.insts[j]? = some ins' → ins' = .noop ∨ s.insts[j]? = some ins') ∧
      DsePre s' ∧ (∀ ins ∈ s'.insts, NoMemZero ins) ∧ (TargetsOk s.insts → TargetsOk s'.insts) ∧
      (∀ (t : Nat) (mn mx : Int), BehEqIO (progOf s t mn mx) (progOf s' t mn mx)) ∧
      ∀ (t : Nat) (mn mx : Int) (limited : Bool) (b fuel : Nat) (env : Env),
        ObsEqIO (Bc.run (progOf s t mn mx) limited b fuel env) (Bc.run (progOf s' t mn mx) limited b fuel env) := by
  obtain ⟨I', R', h1, h2, h3, h4, h5, D, hD⟩ := deadStoreElim_cert s h
  refine ⟨_, h1, h2, h3, rfl, rfl, h5, h4, h4.noZero, dse_targetsOk_of_sub h2 h5, ?_, ?_⟩
  · intro t mn mx
    exact dse_behEqIO (P := progOf s t mn mx) (Q := progOf { s with ranges := R', insts := I' } t mn mx) hD
  · intro t mn mx limited b fuel env
    exact dse_run (P := progOf s t mn mx) (Q := progOf { s with ranges := R', insts := I' } t mn mx) hD
      limited b fuel env

end C02
end Hpbf
