/-
The footprint of `Opt.inline` (a block executed exactly once is spliced into its parent): the account of the
preparation (`inline_prep_acc`), the valid companion of the state in which the spliced code starts
(`inline_sem_ctx`); shift mode: `inline_shift_void`.  (Stay mode, all claims: `inline_stay_foot`, `OptRbFoot8.lean`.)
-/
import Hpbf.Proofs.OptRbFoot4
import Hpbf.Proofs.OptRbInline

namespace Hpbf
namespace OptProof
open Opt OptSem Ir

variable {w : Nat}

theorem writtenCalcs_fields (s : Rebuild w) (ps : List (Rebuild w)) (calcs : List (Int × Expr w))
    (hnd : (calcs.map (·.1)).Nodup) :
    SameButWritten s (writtenCalcs s ps calcs) ∧ (writtenCalcs s ps calcs).reads = s.reads ∧
    (∀ v, v ∉ calcs.map (·.1) → mGet (writtenCalcs s ps calcs).written v = mGet s.written v) ∧
    (∀ v, v ∈ calcs.map (·.1) → DefW (writtenCalcs s ps calcs) v) := by
  obtain ⟨a, b, c⟩ := writtenCalcs_eq s ps calcs
  refine ⟨a, b, ?_, ?_⟩
  · intro v hv
    rw [c]
    apply mGet_foldl_mSet_notin
    rw [List.map_map]; exact hv
  · intro v hv
    obtain ⟨vc, hvc, rfl⟩ := List.mem_map.1 hv
    refine ⟨knownOf s ps vc.2, ?_, knownOf_not_maybe _ _ _⟩
    rw [c]
    apply mGet_foldl_mSet_in
    · rw [List.map_map]; exact hnd
    · exact List.mem_map.2 ⟨vc, hvc, rfl⟩

theorem writtenCalcs_insts_wf {s : Rebuild w} (hwf : Wf s) (ps : List (Rebuild w)) (calcs : List (Int × Expr w))
    (i : List (Instr w)) : Wf (writtenCalcs ({ s with insts := i } : Rebuild w) ps calcs) := by
  obtain ⟨a, _, c⟩ := writtenCalcs_eq ({ s with insts := i } : Rebuild w) ps calcs
  refine ⟨by rw [a.pending]; exact hwf.pend, ?_, by rw [a.reverse]; exact hwf.rev,
    by rw [a.pending, a.reverse]; exact hwf.revOk⟩
  rw [c]; exact sorted_foldl_mSet _ hwf.writ

theorem inlineEnd_foot {s3 : Rebuild w} {ps : List (Rebuild w)} {sub : Rebuild w} {os os' : Orders}
    {s4 : Rebuild w} (hr : (inlineEnd s3 ps sub).run os = .ok (s4, os')) (hwf : Wf s3) :
    ∃ c3 : List (List (Int × Expr w)), s4.insts = s3.insts ++ c3.map Instr.calc ∧
      (∀ g ∈ c3, (g.map (·.1)).Nodup) ∧ EmitFoot s3 s4 c3 := by
  unfold inlineEnd at hr
  split at hr
  · rw [run_pure] at hr
    cases hr
    exact ⟨[], by simp, by simp, EmitFoot.congr_right (s1 := s3) rfl (fun _ h => h) rfl (EmitFoot.refl s3)⟩
  · rw [run_bind_ok] at hr
    obtain ⟨l, os3, _, h6⟩ := hr
    rw [run_bind_ok] at h6
    obtain ⟨s5, os5, h7, h8⟩ := h6
    rw [run_pure] at h8
    cases h8
    obtain ⟨comps, _, _, _, _, hi, hnd, hf⟩ := performAll_foot h7 hwf
    exact ⟨comps, hi, hnd, EmitFoot.congr_right (s1 := s5) rfl (fun _ h => h) rfl hf⟩

/-- The `clobberAll` of `inline` is the `clobber` phase of a loop with nothing constant and unknown trip count. -/
theorem inline_clobberPhase {s1 : Rebuild w} {ps : List (Rebuild w)} {sub : Rebuild w} {os1 os2 : Orders}
    {s2 : Rebuild w}
    (h3 : (clobberAll ps (Expr.stableSort (fun (a b : Int × Bool) => decide (a.1 ≤ b.1))
      (sub.written.foldl ifold (s1, [])).2) (sub.written.foldl ifold (s1, [])).1).run os1 = .ok (s2, os2)) :
    (clobberPhase s1 ps sub (OptLoop.unknown true) []).run os1 = .ok (s2, os2) := by
  rw [clobberPhase_eq]
  have : (!(OptLoop.unknown true : OptLoop w).noEffect) = true := rfl
  rw [if_pos this, ← ifold_eq]; exact h3

theorem clobSet_inline (sub : Rebuild w) (v : Int) :
    ClobSet (OptLoop.unknown true) [] sub v ↔ v ∈ mKeys sub.written := by
  unfold ClobSet mKeys
  constructor
  · rintro ⟨_, vk, hvk, e, _⟩
    exact List.mem_map.2 ⟨vk, hvk, e⟩
  · intro h
    obtain ⟨vk, hvk, e⟩ := List.mem_map.1 h
    exact ⟨rfl, vk, hvk, e, rfl⟩

theorem inline_prep_acc {s : Rebuild w} {ps : List (Rebuild w)} {sub : Rebuild w} (hwf : Wf s)
    (hwfc : Wf sub) {os os1 os2 : Orders} {s1 s2 : Rebuild w}
    (h1 : (emitReadAll ps (readsSorted sub s) s).run os = .ok (s1, os1))
    (hcp : (clobberPhase s1 ps sub (OptLoop.unknown true) []).run os1 = .ok (s2, os2)) :
    ∃ comps, ClobAcc ps (fun v => v ∈ mKeys sub.written) s s2 comps ∧
      (∀ v, v ∈ mKeys sub.written → DefW s2 v → DefW sub v) ∧
      (s2.subShift = false → ∀ v, v ∈ mKeys sub.written → v ∈ mKeys s2.written) ∧
      (s2.subShift = false → ∀ v ∈ sub.reads,
        (v ∈ s2.reads ∨ DefW s v ∨ ¬ ThruC v comps) ∧ (v ∈ mKeys s2.written ∨ v ∈ s2.reads)) := by
  obtain ⟨c1, r1, f1⟩ := emitReadAll_foot ps _ hwf h1
  obtain ⟨_, _, k1⟩ := emitReadAll_reads ps _ hwf h1
  obtain ⟨c3, a3, q7, q4⟩ := clobberPhase_acc ps sub (OptLoop.unknown true) [] r1.wf hwfc.writ hcp
  have hmemR : ∀ v, v ∈ sub.reads → v ∈ readsSorted sub s := fun v hv => by
    unfold readsSorted
    rw [(Expr.stableSort_perm _ _).mem_iff]; exact hv
  refine ⟨c1 ++ c3, ((ClobAcc.of_emit r1 f1).trans a3 (fun _ h => h.elim)).weaken
    (fun v h => h.elim False.elim (clobSet_inline sub v).1), fun v hv hd => (q7 v ((clobSet_inline sub v).2 hv) hd).2,
    fun hs v hv => q4 hs v ((clobSet_inline sub v).2 hv), fun hs2 v hv => ?_⟩
  have hs1 : s1.subShift = false := a3.mono.2 hs2
  rcases k1 v (hmemR v hv) with h | h
  · exact ⟨Or.inl (a3.mono.1 v h), Or.inr (a3.mono.1 v h)⟩
  · refine ⟨?_, Or.inl (a3.frame.keysMono hs2 v h.mem_keys)⟩
    by_cases hd : DefW s v
    · exact Or.inr (Or.inl hd)
    · exact Or.inr (Or.inr fun ht => (f1.rd hs1).2 v h hd id (thruC_append.1 ht).1)

/-- The semantic side: the state `σX` with the SOURCE memory and the emitted program's pointer is a valid entry
state of the child; it agrees with the emitted memory (after the preparation) on what the child reads and on the
cells the child only maybe-writes. -/
theorem inline_sem_ctx {Gc : State w → Prop} {shP shC cS : Int} {bodyS : List (Instr w)} {s : Rebuild w}
    {ps : List (Rebuild w)}
    {sub : Rebuild w} {pc : List (Rebuild w)} {sub0 : Rebuild w} (hwf : Wf s)
    (hpre : ChildPre Gc shP shC pc sub0 sub cS bodyS) {os os1 os2 : Orders} {s1 s2 : Rebuild w}
    (h1 : (emitReadAll ps (readsSorted sub s) s).run os = .ok (s1, os1))
    (hcp : (clobberPhase s1 ps sub (OptLoop.unknown true) []).run os1 = .ok (s2, os2)) :
    ∃ comps : List (List (Int × Expr w)), s2.insts = s.insts ++ comps.map Instr.calc ∧
      ∀ M0 (σ1 σS : State w), RelAt shP s ps M0 σ1 σS → σS.rd cS ≠ 0#w → Gc σS →
        ValidG Gc shP sub0 pc (σS.mov (-shP)) ∧ ¬ Bad sub.insts (σS.mov (-shP)) ∧
        (σS.mov (-shP)).ptr = (comps.foldl doCalc σ1).ptr ∧
        (σS.mov (-shP)).env = (comps.foldl doCalc σ1).env ∧
        (σS.mov (-shP)).trace = (comps.foldl doCalc σ1).trace ∧
        (∀ v ∈ sub.reads, memE (σS.mov (-shP)) v = memE (comps.foldl doCalc σ1) v) ∧
        (∀ v k, (v, k) ∈ sub.written → k.isMaybe = true →
          memE (σS.mov (-shP)) v = memE (comps.foldl doCalc σ1) v) := by
  obtain ⟨c1, r1, n1⟩ := emitReadAll_pending_none ps _ hwf h1
  obtain ⟨c2, r2, d2, k2⟩ := clobberPhase_res ps sub (OptLoop.unknown true) [] r1.wf hcp
  refine ⟨c1 ++ c2, by rw [r2.insts, r1.insts]; simp, ?_⟩
  intro M0 σ1 σS hrel hne hgc
  obtain ⟨m1, m2, m3⟩ := foldl_doCalc_meta (c1 ++ c2) σ1
  have hXptr : (σS.mov (-shP)).ptr = ((c1 ++ c2).foldl doCalc σ1).ptr := by
    rw [m1]
    show σS.ptr + -shP = σ1.ptr
    rw [hrel.ptr]; omega
  have hsm : SameMem shP σS (σS.mov (-shP)) := by
    refine ⟨rfl, rfl, ?_, by funext v; rfl⟩
    show σS.ptr = σS.ptr + -shP + shP
    omega
  obtain ⟨M0c, hre⟩ := hpre.entry (σS.mov (-shP)) σS hsm hne hgc
  have hnd12 : ∀ g ∈ c1 ++ c2, (g.map (·.1)).Nodup := by
    intro g hg
    rcases List.mem_append.1 hg with h | h
    · exact r1.nodup g h
    · exact r2.nodup g h
  have hX : MInvX (fun v => False ∨ ((OptLoop.unknown true : OptLoop w).noEffect = false ∧
        DropL (OptLoop.unknown true) [] sub.written s1 v)) s2 ps M0
      (memE ((c1 ++ c2).foldl doCalc σ1)) (memS ((c1 ++ c2).foldl doCalc σ1) σS) := by
    rw [memE_foldl_doCalc σ1 _ hnd12, memS_foldl_doCalc, seq_append]
    exact k2 _ M0 _ _ ((r1.minv hrel.inv).toX _)
  have hSE : ∀ v, mGet s2.pending v = none → ¬ (False ∨ ((OptLoop.unknown true : OptLoop w).noEffect = false ∧
      DropL (OptLoop.unknown true) [] sub.written s1 v)) →
      memS ((c1 ++ c2).foldl doCalc σ1) σS v = memE ((c1 ++ c2).foldl doCalc σ1) v := by
    intro v hp hd
    rw [hX.pendX v hd]; exact par_of_not_mem _ _ _ hp
  have hXS : ∀ v, memE (σS.mov (-shP)) v = memS ((c1 ++ c2).foldl doCalc σ1) σS v := by
    intro v
    show σS.tape.get ((σS.mov (-shP)).ptr + v) = σS.tape.get (((c1 ++ c2).foldl doCalc σ1).ptr + v)
    rw [hXptr]
  have hreads1 : ∀ v ∈ sub.reads, mGet s1.pending v = none := fun v hv =>
    n1 v (by unfold readsSorted; rw [(Expr.stableSort_perm _ _).mem_iff]; exact hv)
  refine ⟨⟨M0c, σS, hre, hgc⟩, (hpre.rep M0c _ σS hre hgc).2, hXptr, ?_, ?_, ?_, ?_⟩
  · show σS.env = _
    rw [m2]; exact hrel.env
  · show σS.trace = _
    rw [m3]; exact hrel.tr
  · intro v hv
    rw [hXS v]
    apply hSE v
    · cases hp : mGet s2.pending v with
      | none => rfl
      | some e =>
        have := hreads1 v hv
        rw [r2.sub v e hp] at this; cases this
    · rintro (h | ⟨_, vk, _, e1, _, _, e4⟩)
      · exact h
      · exact e4 (hreads1 v hv)
  · intro v k hvk hm
    rw [hXS v]
    apply hSE v
    · exact (d2 rfl (v, k) hvk (by simp)).1
    · rintro (h | ⟨_, vk, hvk', e1, _, e3, _⟩)
      · exact h
      · have g1 := mGet_of_mem hpre.wf.writ hvk
        have g2 := mGet_of_mem hpre.wf.writ hvk'
        rw [e1, g1] at g2
        cases g2
        rw [hm] at e3
        simp at e3

theorem inlineRest_readsMono {s : Rebuild w} {ps : List (Rebuild w)} {sub : Rebuild w} {os os' : Orders}
    {s' : Rebuild w} (hr : (inlineRest s ps sub).run os = .ok (s', os')) (hwf : Wf s) : ReadsMono s s' := by
  obtain ⟨s2, os2, s4, h3, h4, rfl⟩ := inlineRest_run hr
  rw [ifold_eq] at h3
  obtain ⟨i1, i2, _⟩ := cfold_spec ps (OptLoop.unknown true) [] sub.written (s, []) hwf
  obtain ⟨a2, a4⟩ := clobberAll_readsMono ps _ i1 h3
  have hwf3 := writtenCalcs_insts_wf a2 ps (knownsOf sub) (s2.insts ++ sub.insts)
  obtain ⟨w1, w2, _⟩ := writtenCalcs_eq ({ s2 with insts := s2.insts ++ sub.insts } : Rebuild w) ps (knownsOf sub)
  obtain ⟨c3, _, _, f3⟩ := inlineEnd_foot h4 hwf3
  refine ⟨fun v hv => ?_, fun h => ?_⟩
  · show v ∈ s4.reads
    apply f3.mono.1 v
    rw [w2]
    show v ∈ s2.reads
    exact a4.1 v (by rw [i2.reads]; exact hv)
  · have h3' := f3.mono.2 h
    rw [w1.subShift] at h3'
    have := a4.2 h3'
    rw [i2.subShift] at this
    exact this

theorem inline_shift_void {s : Rebuild w} {ps : List (Rebuild w)} {sub : Rebuild w} {os os' : Orders}
    {s' : Rebuild w} (hr : (Opt.inline s ps sub).run os = .ok (s', os')) (hwf : Wf s)
    (hss : sub.subShift = true) :
    s'.subShift = true ∧ ReadsMono s s' := by
  rw [inline_eq, if_pos hss, run_bind_ok] at hr
  obtain ⟨s0, os0, h0, h1⟩ := hr
  rw [run_bind_ok] at h1
  obtain ⟨s1, os1, h1', h2⟩ := h1
  rw [run_pure] at h1'
  cases h1'
  obtain ⟨c, res, ft⟩ := emitAll_foot ps (pendingSorted s s) hwf h0
  have hm := inlineRest_readsMono h2 (uncertainShift_wf res.wf)
  have hsub' : s'.subShift = true := by
    cases h : s'.subShift with
    | true => rfl
    | false =>
      have := hm.2 h
      rw [(uncertainShift_fields s0).2.1] at this
      cases this
  exact ⟨hsub', fun v hv => hm.1 v (ft.mono.1 v hv), fun h => absurd (hsub'.symm.trans h) (by simp)⟩

end OptProof
end Hpbf

#print axioms Hpbf.OptProof.inline_shift_void
