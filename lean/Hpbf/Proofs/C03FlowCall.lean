/-
C03 (control flow): register saving around runtime calls (`emit_pre_call` / `emit_post_call`):
`push_all`, `pre_call`, `post_call` (through `pop_all`), and which registers are saved (`savedRegs_mem`).
-/
import Hpbf.Proofs.C03FlowExit
namespace Hpbf
namespace C03
open Asm JitGen X86Sem X86Prog
variable {w : Nat}

/-- Fields neither `push` nor `pop` (of a register other than `rbp`) touches: `SameCtl` with `tape` in place of
the length of `stk`. -/
structure StackKeep (s s' : PState w) : Prop where
  tape : s'.tape = s.tape
  lptr : s'.lptr = s.lptr
  tapeOk : s'.tapeOk = s.tapeOk
  buf : s'.buf = s.buf
  size : s'.size = s.size
  off : s'.off = s.off
  budget : s'.budget = s.budget
  base : s'.base = s.base
  env : s'.env = s.env
  trace : s'.trace = s.trace

theorem StackKeep.rfl' (s : PState w) : StackKeep s s := ⟨rfl, rfl, rfl, rfl, rfl, rfl, rfl, rfl, rfl, rfl⟩

theorem StackKeep.trans {a b c : PState w} (h1 : StackKeep a b) (h2 : StackKeep b c) : StackKeep a c :=
  ⟨h2.tape.trans h1.tape, h2.lptr.trans h1.lptr, h2.tapeOk.trans h1.tapeOk, h2.buf.trans h1.buf,
   h2.size.trans h1.size, h2.off.trans h1.off, h2.budget.trans h1.budget, h2.base.trans h1.base,
   h2.env.trans h1.env, h2.trace.trans h1.trace⟩

theorem push_all {cfg : Cfg} (rs : List Reg) (hrs : ∀ r ∈ rs, r ≠ .rsp) (s : PState w) :
    ∃ s', Blk cfg (rs.map .push) s s' ∧ s'.stk = (rs.map s.regs.get).reverse ++ s.stk ∧
      (∀ r, r ≠ .rsp → s'.regs.get r = s.regs.get r) ∧
      s'.regs.get .rsp = s.regs.get .rsp - BitVec.ofNat 64 (8 * rs.length) ∧ StackKeep s s' := by
  induction rs generalizing s with
  | nil => exact ⟨s, .nil s, by simp, fun _ _ => rfl, by simp, StackKeep.rfl' s⟩
  | cons r rs ih =>
    obtain ⟨s', b, hstk, hregs, hrsp, hk⟩ := ih (fun r' hr' => hrs r' (List.mem_cons_of_mem _ hr'))
      { s with stk := s.regs.get r :: s.stk, regs := s.regs.set .rsp (s.regs.rsp - 8), pc := s.pc + (X86.push r).size }
    have hr1 : ∀ r', r' ≠ .rsp → (s.regs.set .rsp (s.regs.rsp - 8)).get r' = s.regs.get r' := by
      intro r' hr'; simp [hr']
    refine ⟨s', .cons si_push rfl b, ?_, fun r' hr' => (hregs r' hr').trans (hr1 r' hr'), ?_,
      ⟨hk.tape, hk.lptr, hk.tapeOk, hk.buf, hk.size, hk.off, hk.budget, hk.base, hk.env, hk.trace⟩⟩
    · rw [hstk, List.map_congr_left (fun r' hr' => hr1 r' (hrs r' (List.mem_cons_of_mem _ hr')))]; simp
    · rw [hrsp, List.length_cons]
      show (s.regs.set .rsp (s.regs.rsp - 8)).get .rsp - _ = _
      rw [regfile_set_get, if_pos rfl]; exact sub_ofNat_succ _ _


/-- The saved registers are those of the live temporaries 4..10. -/
theorem savedRegs_mem {live : Nat} {rs : List Reg} (h : savedRegs live = some rs) (r : Reg) :
    r ∈ rs ↔ ∃ t, 4 ≤ t ∧ t < 11 ∧ live.testBit t = true ∧ tmpReg t = some r := by
  unfold savedRegs at h
  rw [mapM_opt_mem _ _ _ h]
  constructor
  · rintro ⟨t, ht, hr⟩
    simp only [List.mem_filter, List.mem_range, Bool.and_eq_true, decide_eq_true_eq] at ht
    exact ⟨t, ht.2.1, (tmpReg_eq_some.1 hr).1, ht.2.2, hr⟩
  · rintro ⟨t, h4, h11, hb, hr⟩
    refine ⟨t, ?_, hr⟩
    simp only [List.mem_filter, List.mem_range, Bool.and_eq_true, decide_eq_true_eq]
    exact ⟨by omega, h4, hb⟩

theorem savedRegs_ne {live : Nat} {rs : List Reg} (h : savedRegs live = some rs) :
    ∀ r ∈ rs, r ≠ .rsp ∧ r ≠ .rbp := by
  intro r hr
  obtain ⟨t, _, h11, _, ht⟩ := (savedRegs_mem h r).1 hr
  obtain ⟨_, rfl⟩ := tmpReg_eq_some.1 ht
  have := treg_ne h11
  exact ⟨this.2.2.2.1, this.2.2.2.2⟩

/-- `rax` and the callee-saved registers hold none of the temporaries 4..10, so they are not saved. -/
theorem savedRegs_not_callee {live : Nat} {rs : List Reg} (h : savedRegs live = some rs) {r : Reg}
    (hr : r = .rax ∨ r = .rbx ∨ r = .rsp ∨ r = .rbp ∨ r = .r12 ∨ r = .r13 ∨ r = .r14 ∨ r = .r15) : r ∉ rs := by
  intro hm
  obtain ⟨t, h4, h11, _, ht⟩ := (savedRegs_mem h r).1 hm
  obtain ⟨_, rfl⟩ := tmpReg_eq_some.1 ht
  have : t = 4 ∨ t = 5 ∨ t = 6 ∨ t = 7 ∨ t = 8 ∨ t = 9 ∨ t = 10 := by omega
  rcases this with rfl | rfl | rfl | rfl | rfl | rfl | rfl <;> exact absurd hr (by decide)

/-- The temporaries 0..3 live in callee-saved registers. -/
theorem treg_callee {t : Nat} (h : t < 4) : treg t = .r12 ∨ treg t = .r13 ∨ treg t = .r14 ∨ treg t = .r15 := by
  have : t = 0 ∨ t = 1 ∨ t = 2 ∨ t = 3 := by omega
  rcases this with rfl | rfl | rfl | rfl <;> decide

/-- Number of 8-byte slots `emit_pre_call` pushes, including the alignment slot. -/
def padLen (rs : List Reg) : Nat := rs.length + rs.length % 2

theorem pre_call {cfg : Cfg} {live : Nat} {rs : List Reg} {pre : List X86}
    (hrs : savedRegs live = some rs) (hpre : preCall live = some pre) (s : PState w) :
    ∃ pad s', Blk cfg pre s s' ∧ pad.length = rs.length % 2 ∧
      s'.stk = pad ++ (rs.map s.regs.get).reverse ++ s.stk ∧
      (∀ r, r ≠ .rsp → s'.regs.get r = s.regs.get r) ∧
      s'.regs.get .rsp = s.regs.get .rsp - BitVec.ofNat 64 (8 * padLen rs) ∧ StackKeep s s' := by
  unfold preCall at hpre
  simp only [hrs, Option.bind_eq_bind, Option.bind_some, Option.some.injEq] at hpre
  subst hpre
  obtain ⟨s1, b1, hstk, hregs, hrsp, hk⟩ := push_all (cfg := cfg) rs (fun r hr => (savedRegs_ne hrs r hr).1) s
  by_cases hodd : rs.length % 2 = 1
  · -- `sub rsp, 8` keeps the stack pointer a multiple of 16
    have hb : (rs.length % 2 == 1) = true := by simp [hodd]
    simp only [hb, if_true]
    obtain ⟨s2, b2, e2⟩ : ∃ s2, Blk cfg [.subRmImm (.reg .rsp) 8] s1 s2 ∧ s2 = _ :=
      ⟨_, .one (si_subRsp (by decide) (by decide) (by decide)) rfl, rfl⟩
    refine ⟨[cfg.junk .rsp], s2, b1.append b2, by simp [hodd], ?_, ?_, ?_, ?_⟩
    all_goals rw [e2]
    · show List.replicate ((8 : Int) / 8).toNat _ ++ s1.stk = _
      rw [hstk]; rfl
    · intro r hr; show (s1.regs.set .rsp _).get r = _
      rw [regfile_set_get, if_neg hr]; exact hregs r hr
    · show (s1.regs.set .rsp _).get .rsp = _
      rw [regfile_set_get, if_pos rfl, show s1.regs.rsp = s1.regs.get .rsp from rfl, hrsp, padLen, hodd]
      apply BitVec.eq_of_toNat_eq
      have e8 : (immVal 8 : BitVec 64).toNat = 8 := rfl
      simp only [BitVec.toNat_sub, BitVec.toNat_ofNat, e8]
      omega
    · exact ⟨hk.tape, hk.lptr, hk.tapeOk, hk.buf, hk.size, hk.off, hk.budget, hk.base, hk.env, hk.trace⟩
  · have hb : (rs.length % 2 == 1) = false := by simp [hodd]
    have h0 : rs.length % 2 = 0 := by omega
    simp only [hb, Bool.false_eq_true, if_false, List.append_nil]
    refine ⟨[], s1, b1, by simp [h0], by simpa using hstk, hregs, ?_, hk⟩
    rw [hrsp, padLen, h0]; rfl

theorem post_call {cfg : Cfg} {live : Nat} {rs : List Reg} {post : List X86}
    (hrs : savedRegs live = some rs) (hpost : postCall live = some post) {s : PState w} (R : Reg → BitVec 64)
    {pad stk0 : List (BitVec 64)} (hpad : pad.length = rs.length % 2)
    (hstk : s.stk = pad ++ (rs.map R).reverse ++ stk0) :
    ∃ s', Blk cfg post s s' ∧ s'.stk = stk0 ∧
      (∀ r ∈ rs, s'.regs.get r = R r) ∧
      (∀ r, r ∉ rs → r ≠ .rsp → s'.regs.get r = s.regs.get r) ∧
      s'.regs.get .rsp = s.regs.get .rsp + BitVec.ofNat 64 (8 * padLen rs) ∧ StackKeep s s' := by
  unfold postCall at hpost
  simp only [hrs, Option.bind_eq_bind, Option.bind_some, Option.some.injEq] at hpost
  subst hpost
  have hne := fun r hr => (savedRegs_ne hrs r hr).1
  have hbp : Reg.rbp ∉ rs := fun h => (savedRegs_ne hrs _ h).2 rfl
  by_cases hodd : rs.length % 2 = 1
  · have hb : (rs.length % 2 == 1) = true := by simp [hodd]
    simp only [hb, if_true]
    obtain ⟨v, rfl⟩ : ∃ v, pad = [v] := by
      match pad, hpad with
      | [v], _ => exact ⟨v, rfl⟩
      | [], h => simp [hodd] at h
      | _ :: _ :: _, h => simp [hodd] at h
    -- `add rsp, 8` drops the alignment slot
    obtain ⟨s1, b1, e1⟩ : ∃ s1, Blk cfg [addImm64 (.reg .rsp) 8] s s1 ∧ s1 = _ :=
      ⟨_, .one (si_addRsp (by decide) (by decide) (by decide) (by rw [hstk]; simp)) rfl, rfl⟩
    obtain ⟨s2, b2, hstk2, hin, hout, hrsp, hk, hoff, htok⟩ := pop_all (cfg := cfg) rs hne R (s := s1) (stk0 := stk0)
      (by rw [e1]; show List.drop ((8 : Int) / 8).toNat s.stk = _; rw [hstk]; rfl)
    have hr1 : ∀ r, r ≠ .rsp → s1.regs.get r = s.regs.get r := by
      intro r hr; rw [e1]; show (s.regs.set .rsp _).get r = _; rw [regfile_set_get, if_neg hr]
    refine ⟨s2, b1.append b2, hstk2, hin, fun r hr hne' => (hout r hr hne').trans (hr1 r hne'), ?_, ?_⟩
    · rw [hrsp, e1]
      show (s.regs.set .rsp _).get .rsp + _ = _
      rw [regfile_set_get, if_pos rfl, padLen, hodd]
      apply BitVec.eq_of_toNat_eq
      have e8 : (immVal 8 : BitVec 64).toNat = 8 := rfl
      simp only [BitVec.toNat_add, BitVec.toNat_ofNat, e8]
      show _ = (s.regs.rsp.toNat + _) % _
      omega
    · have : StackKeep s s1 := by rw [e1]; exact ⟨rfl, rfl, rfl, rfl, rfl, rfl, rfl, rfl, rfl, rfl⟩
      exact this.trans ⟨hk.tape, hk.lptr, htok hbp, hk.buf, hk.size, hoff, hk.budget, hk.base, hk.env, hk.trace⟩
  · have hb : (rs.length % 2 == 1) = false := by simp [hodd]
    have h0 : rs.length % 2 = 0 := by omega
    simp only [hb, Bool.false_eq_true, if_false, List.nil_append]
    obtain rfl : pad = [] := by
      match pad, hpad with
      | [], _ => rfl
      | _ :: _, h => simp [h0] at h
    obtain ⟨s2, b2, hstk2, hin, hout, hrsp, hk, hoff, htok⟩ := pop_all (cfg := cfg) rs hne R (s := s) (stk0 := stk0)
      (by simpa using hstk)
    refine ⟨s2, b2, hstk2, hin, hout, ?_,
      ⟨hk.tape, hk.lptr, htok hbp, hk.buf, hk.size, hoff, hk.budget, hk.base, hk.env, hk.trace⟩⟩
    rw [hrsp, padLen, h0]; rfl

end C03
end Hpbf
