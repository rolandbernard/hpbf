/-
C02, first phase: a `calc` instruction.  `calcValues` evaluates all right-hand sides into temporaries
(straight-line extension), `memWrites` stores them; together they implement the simultaneous assignment
`Ir.doCalc`.

`Seg T F g g'` is the summary of a code segment kept by the certificate `Em`: what the segment does to the
machine state (`F`), and how it changes the value-numbering table (entries `mem v`, `v ∈ T`, may be replaced;
every new entry is either a freshly numbered expression or such a `mem v`). `SL` (`C02EmitVal`) is the case
`T = []`, `F = id`, field by field.
-/
import Hpbf.Proofs.C02EmitExpr

namespace Hpbf
namespace C02Emit
open BcGen Bc Sim Expr

variable {w : Nat}

structure Seg (T : List Int) (F : State w → State w) (g g' : G w) : Prop where
  n_le : g.n ≤ g'.n
  ext : Pre g.insts g'.insts
  eext : Pre g.exprs g'.exprs
  fresh : ∀ e, NewE g g' e → alGet g.values e = none
  wf : WfV g → WfV g'
  vals : ∀ e t, alGet g.values e = some t → (∀ v ∈ T, e ≠ .mem v) → alGet g'.values e = some t
  newvals : ∀ e t, alGet g'.values e = some t →
    alGet g.values e = some t ∨ NewE g g' e ∨ ∃ v ∈ T, e = .mem v
  sem : ∀ (p : Bc.Program w) (c : Bc.Cfg w), Agree p.insts g g' → c.pc = g.insts.size → WfV g →
    Sound g.values c →
    ∃ c', Steps (BcM p) (g'.insts.size - g.insts.size) c c' ∧ c'.pc = g'.insts.size ∧
      c'.st = F c.st ∧ Sound g'.values c'

/-- The temporaries listed in `vals` hold the right-hand sides of `calcs`. -/
def CV (g : G w) : List (Int × Expr w) → List (Int × Nat) → Prop
  | [], [] => True
  | ve :: calcs, vx :: vals =>
    (vx.1 = ve.1 ∧ vx.2 < g.n ∧ Val g vx.2 (fun st => evaluate ve.2 st.rd)) ∧ CV g calcs vals
  | _, _ => False

theorem CV.mono {g g' : G w} (h : SL g g') : ∀ {calcs : List (Int × Expr w)} {vals : List (Int × Nat)},
    CV g calcs vals → CV g' calcs vals := by
  intro calcs
  induction calcs with
  | nil =>
    intro vals hc
    cases vals with
    | nil => trivial
    | cons _ _ => simp [CV] at hc
  | cons ve calcs ih =>
    intro vals hc
    cases vals with
    | nil => simp [CV] at hc
    | cons vx vals =>
      simp only [CV] at hc ⊢
      exact ⟨⟨hc.1.1, Nat.lt_of_lt_of_le hc.1.2.1 h.n_le, hc.1.2.2.mono h⟩, ih hc.2⟩

theorem calcValues_spec : ∀ (calcs : List (Int × Expr w)) {s s' : St w} {vals : List (Int × Nat)},
    calcValues calcs s = .ok (vals, s') → WfV (core s) → SL (core s) (core s') ∧ CV (core s') calcs vals := by
  intro calcs
  induction calcs with
  | nil =>
    intro s s' vals h hw
    simp only [calcValues, pure_ok] at h
    obtain ⟨rfl, rfl⟩ := h
    exact ⟨SL.refl _, trivial⟩
  | cons ve calcs ih =>
    intro s s' vals h hw
    obtain ⟨v, e⟩ := ve
    simp only [calcValues, bind_ok, pure_ok] at h
    obtain ⟨x, s1, h1, r, s2, h2, rfl, rfl⟩ := h
    have o1 := getExprValue_spec e v h1 hw
    obtain ⟨sl2, cv2⟩ := ih h2 (o1.sl.wf hw)
    exact ⟨o1.sl.trans sl2, ⟨rfl, Nat.lt_of_lt_of_le o1.lt sl2.n_le, o1.val.mono sl2⟩, cv2⟩

theorem memWrite_core {var : Int} {value : Nat} {s s' : St w} {u : Unit}
    (h : memWrite var value s = .ok (u, s')) :
    core s' = ⟨s.insts.push (.copy (.mem var) (.tmp value)), alSet s.values (.mem var) value, s.exprs,
      s.ranges.size⟩ := by
  unfold memWrite at h
  simp only [bind_ok, modify_ok] at h
  obtain ⟨_, s1, h1, rfl⟩ := h
  have := (read_core h1).1
  simp only [core, G.mk.injEq] at this ⊢
  obtain ⟨i1, i2, i3, i4⟩ := this
  simp [i1, i2, i3, i4]

def storeVals (V : List (GvnExpr w × Nat)) (vals : List (Int × Nat)) : List (GvnExpr w × Nat) :=
  vals.foldl (fun V vx => alSet V (.mem vx.1) vx.2) V

def storeInsts (I : Array (Bc.Instr w)) (vals : List (Int × Nat)) : Array (Bc.Instr w) :=
  vals.foldl (fun I vx => I.push (.copy (.mem vx.1) (.tmp vx.2))) I

theorem memWrites_core : ∀ (vals : List (Int × Nat)) {s s' : St w} {u : Unit},
    memWrites vals s = .ok (u, s') →
    core s' = ⟨storeInsts s.insts vals, storeVals s.values vals, s.exprs, s.ranges.size⟩ := by
  intro vals
  induction vals with
  | nil =>
    intro s s' u h
    simp only [memWrites, pure_ok] at h
    obtain ⟨_, rfl⟩ := h
    rfl
  | cons vx vals ih =>
    intro s s' u h
    obtain ⟨v, x⟩ := vx
    simp only [memWrites, bind_ok] at h
    obtain ⟨_, s1, h1, h2⟩ := h
    have c1 := memWrite_core h1
    have c2 := ih h2
    rw [c2]
    simp only [core, G.mk.injEq] at c1
    obtain ⟨i1, i2, i3, i4⟩ := c1
    simp only [i1, i2, i3, i4, storeInsts, storeVals, List.foldl_cons]

theorem storeInsts_size (I : Array (Bc.Instr w)) (vals : List (Int × Nat)) :
    (storeInsts I vals).size = I.size + vals.length := by
  induction vals generalizing I with
  | nil => rfl
  | cons vx vals ih => simp only [storeInsts, List.foldl_cons, List.length_cons] at ih ⊢; rw [ih]; simp; omega

theorem storeInsts_pre (I : Array (Bc.Instr w)) (vals : List (Int × Nat)) : Pre I (storeInsts I vals) := by
  induction vals generalizing I with
  | nil => exact Pre.refl _
  | cons vx vals ih => exact (Pre.push _ _).trans (ih _)

theorem storeInsts_head (I : Array (Bc.Instr w)) (vx : Int × Nat) (vals : List (Int × Nat)) :
    (storeInsts I (vx :: vals))[I.size]? = some (.copy (.mem vx.1) (.tmp vx.2)) := by
  have := (storeInsts_pre (I.push (.copy (.mem vx.1) (.tmp vx.2))) vals).2 I.size (by simp)
  simp only [storeInsts, List.foldl_cons] at this ⊢
  rw [this]; simp

theorem storeVals_facts (n : Nat) : ∀ (vals : List (Int × Nat)) (V : List (GvnExpr w × Nat)),
    (keys V).Nodup → (∀ vx ∈ vals, vx.2 < n) →
    (keys (storeVals V vals)).Nodup ∧
    (∀ e t, alGet V e = some t → (∀ vx ∈ vals, e ≠ .mem vx.1) → alGet (storeVals V vals) e = some t) ∧
    (∀ e t, alGet (storeVals V vals) e = some t →
      alGet V e = some t ∨ (t < n ∧ ∃ vx ∈ vals, e = .mem vx.1)) := by
  intro vals
  induction vals with
  | nil => intro V hn _; exact ⟨hn, fun _ _ h _ => h, fun _ _ h => Or.inl h⟩
  | cons vx vals ih =>
    intro V hn hlt
    have hn1 := (keys_alSet_nodup V (.mem vx.1) vx.2 hn).1
    obtain ⟨a1, a2, a3⟩ := ih (alSet V (.mem vx.1) vx.2) hn1 (fun y hy => hlt y (List.mem_cons_of_mem _ hy))
    refine ⟨a1, ?_, ?_⟩
    · intro e t h hne
      apply a2 e t
      · rw [alGet_alSet]
        have : e ≠ .mem vx.1 := hne vx (List.mem_cons_self ..)
        simp only [this, if_false]; exact h
      · intro y hy; exact hne y (List.mem_cons_of_mem _ hy)
    · intro e t h
      rcases a3 e t h with h' | ⟨h1, y, hy, h2⟩
      · rw [alGet_alSet] at h'
        by_cases he : e = .mem vx.1
        · simp only [he, if_true, Option.some.injEq] at h'
          right
          exact ⟨h' ▸ hlt vx (List.mem_cons_self ..), vx, List.mem_cons_self .., he⟩
        · simp only [he, if_false] at h'; exact Or.inl h'
      · exact Or.inr ⟨h1, y, List.mem_cons_of_mem _ hy, h2⟩

theorem sound_store {V : List (GvnExpr w × Nat)} {c : Bc.Cfg w} (hs : Sound V c) (var : Int) (x : Nat)
    (pc : Nat) :
    Sound (alSet V (.mem var) x) { c with pc := pc, st := c.st.wr var (tget c.temps x) } := by
  intro e t h
  rw [alGet_alSet] at h
  by_cases he : e = .mem var
  · subst he
    simp only [if_true, Option.some.injEq] at h
    subst h
    simp [den, State.rd, State.wr]
  · simp only [he, if_false] at h
    rw [hs e t h]
    cases e with
    | mem u =>
      have : u ≠ var := fun e' => he (by rw [e'])
      simp only [den, State.rd, State.wr]
      rw [Tape.get_set_ne]
      omega
    | _ => rfl

theorem step_store {p : Bc.Program w} {c : Bc.Cfg w} {var : Int} {x : Nat}
    (hi : p.insts[c.pc]? = some (.copy (.mem var) (.tmp x))) :
    (BcM p).step c = .next { c with pc := c.pc + 1, st := c.st.wr var (tget c.temps x) } := by
  apply BcM_step_of hi
  simp [C11.stepI, C11.isDst, C11.copyCfg, C11.wrCfg, C11.rdSt, C11.rdVal]

theorem stores_sem (p : Bc.Program w) : ∀ (vals : List (Int × Nat)) (I : Array (Bc.Instr w))
    (V : List (GvnExpr w × Nat)) (c : Bc.Cfg w),
    (∀ i, I.size ≤ i → i < (storeInsts I vals).size → p.insts[i]? = (storeInsts I vals)[i]?) →
    c.pc = I.size → Sound V c →
    ∃ c', Steps (BcM p) vals.length c c' ∧ c'.pc = (storeInsts I vals).size ∧
      c'.st = (vals.map (fun vx => (vx.1, tget c.temps vx.2))).foldl (fun s vv => s.wr vv.1 vv.2) c.st ∧
      Sound (storeVals V vals) c' := by
  intro vals
  induction vals with
  | nil =>
    intro I V c _ hpc hs
    exact ⟨c, Steps.refl (M := BcM p) c, hpc, rfl, hs⟩
  | cons vx vals ih =>
    intro I V c hag hpc hs
    have hsz := storeInsts_size I (vx :: vals)
    have hi : p.insts[c.pc]? = some (.copy (.mem vx.1) (.tmp vx.2)) := by
      rw [hpc, hag _ (Nat.le_refl _) (by rw [hsz]; simp), storeInsts_head]
    have st1 := step_store hi
    obtain ⟨c', st2, pc2, e2, s2⟩ := ih (I.push (.copy (.mem vx.1) (.tmp vx.2))) (alSet V (.mem vx.1) vx.2)
      { c with pc := c.pc + 1, st := c.st.wr vx.1 (tget c.temps vx.2) }
      (fun i hi1 hi2 => hag i (by simp at hi1; omega) hi2) (by simp [hpc]) (sound_store hs _ _ _)
    refine ⟨c', ?_, pc2, e2, s2⟩
    have := (Steps.one st1).trans st2
    exact this.cast (by simp; omega)

theorem cv_values {g : G w} {c : Bc.Cfg w} (hs : Sound g.values c) :
    ∀ {calcs : List (Int × Expr w)} {vals : List (Int × Nat)}, CV g calcs vals →
    vals.map (fun vx => (vx.1, tget c.temps vx.2))
      = calcs.map (fun ve => (ve.1, evaluate ve.2 (fun off => c.st.rd off))) := by
  intro calcs
  induction calcs with
  | nil => intro vals h; cases vals with | nil => rfl | cons _ _ => simp [CV] at h
  | cons ve calcs ih =>
    intro vals h
    cases vals with
    | nil => simp [CV] at h
    | cons vx vals =>
      simp only [CV] at h
      simp only [List.map_cons, ih h.2, h.1.1, h.1.2.2 c hs]

theorem cv_lt {g : G w} : ∀ {calcs : List (Int × Expr w)} {vals : List (Int × Nat)}, CV g calcs vals →
    (∀ vx ∈ vals, vx.2 < g.n) ∧ vals.map (·.1) = calcs.map (·.1) := by
  intro calcs
  induction calcs with
  | nil => intro vals h; cases vals with | nil => simp | cons _ _ => simp [CV] at h
  | cons ve calcs ih =>
    intro vals h
    cases vals with
    | nil => simp [CV] at h
    | cons vx vals =>
      simp only [CV] at h
      obtain ⟨i1, i2⟩ := ih h.2
      refine ⟨?_, by simp [i2, h.1.1]⟩
      intro y hy
      rcases List.mem_cons.1 hy with rfl | hy
      · exact h.1.2.1
      · exact i1 y hy

theorem calc_seg {calcs : List (Int × Expr w)} {s s1 s' : St w} {vals : List (Int × Nat)} {u : Unit}
    (h1 : calcValues calcs s = .ok (vals, s1)) (h2 : memWrites vals s1 = .ok (u, s')) (hw : WfV (core s)) :
    Seg (calcs.map (·.1)) (fun st => Ir.doCalc st calcs) (core s) (core s') := by
  obtain ⟨sl, cv⟩ := calcValues_spec calcs h1 hw
  have hc := memWrites_core vals h2
  obtain ⟨hlt, htg⟩ := cv_lt cv
  have hw1 := sl.wf hw
  obtain ⟨f1, f2, f3⟩ := storeVals_facts (core s1).n vals s1.values hw1.nodup hlt
  have hmem : ∀ v, (∃ vx ∈ vals, v = vx.1) ↔ v ∈ calcs.map (·.1) := by
    intro v
    rw [← htg]
    simp only [List.mem_map]
    constructor
    · rintro ⟨vx, h, rfl⟩; exact ⟨vx, h, rfl⟩
    · rintro ⟨vx, h, rfl⟩; exact ⟨vx, h, rfl⟩
  have hnew : ∀ e, NewE (core s) (core s') e ↔ NewE (core s) (core s1) e := by
    intro e; simp only [NewE, hc, core_exprs]
  rw [hc] at *
  refine
    { n_le := sl.n_le
      ext := sl.ext.trans (storeInsts_pre _ _)
      eext := sl.eext
      fresh := fun e he => sl.fresh e he
      wf := fun _ => ⟨f1, fun e t h => ?_⟩
      vals := fun e t h hne => f2 e t (sl.vals e t h) (fun vx hvx => hne vx.1 ((hmem _).1 ⟨vx, hvx, rfl⟩))
      newvals := fun e t h => ?_
      sem := ?_ }
  · rcases f3 e t h with h' | ⟨h', vx, _, rfl⟩
    · exact hw1.lt e t h'
    · exact ⟨h', trivial⟩
  · rcases f3 e t h with h' | ⟨_, vx, hvx, rfl⟩
    · rcases sl.newvals e t h' with h'' | h''
      · exact Or.inl h''
      · exact Or.inr (Or.inl h'')
    · exact Or.inr (Or.inr ⟨vx.1, (hmem _).1 ⟨vx, hvx, rfl⟩, rfl⟩)
  · intro p c hag hpc hw0 hs
    have hsz := storeInsts_size s1.insts vals
    have hpre := storeInsts_pre s1.insts vals
    have ag1 : Agree p.insts (core s) (core s1) := by
      intro i hi hlt'
      rw [hag i hi (Nat.lt_of_lt_of_le hlt' hpre.1)]
      exact hpre.2 i hlt'
    obtain ⟨c1, st1, pc1, e1, so1⟩ := sl.sem p c ag1 hpc hw0 hs
    obtain ⟨c2, st2, pc2, e2, so2⟩ := stores_sem p vals s1.insts s1.values c1
      (fun i hi hlt' => hag i (Nat.le_trans sl.ext.1 hi) hlt') pc1 so1
    refine ⟨c2, (st1.trans st2).cast ?_, pc2, ?_, so2⟩
    · have := sl.ext.1
      simp only [core_insts] at this ⊢
      omega
    · rw [e2, cv_values so1 cv, e1]
      rfl

end C02Emit
end Hpbf
