/-
The parser establishes the bound: `reach (parse src) ≤ moves src` (`parse_reach_le_moves`). Accounting: every
`<`/`>` is charged to the frame of the parser's stack that is open when it is read (`m`, per frame). A frame's
`shift` and the keys of its buffer with a non-zero pending addition differ from
the frame's base (the parent's `shift` when the frame was opened) by at most `m`; when a frame is closed its
block's `|shift| ≤ m` becomes drift of the parent. Hence at every moment
  (drift emitted so far in all open frames) + (sum of the `m` of all open frames) ≤ number of moves so far,
and a new mention in the top frame is bounded by the sum of the `m`s.
-/
import Hpbf.Proofs.OptOffsDefs
import Hpbf.Proofs.C15Basic

namespace Hpbf.OptOffs
open Hpbf Ir

variable {w : Nat}

/-- The invariant of one frame: `G` = drift before the frame's first instruction, `b` = base of the frame,
`Mb` bounds `|b|`, `m` = moves charged to the frame, `n` = moves so far. -/
structure FOk (n G Mb : Nat) (b : Int) (m : Nat) (f : Frame w) : Prop where
  shift : (f.shift - b).natAbs ≤ m
  keys : ∀ kv ∈ f.buff, kv.2 ≠ 0#w → (kv.1 - b).natAbs ≤ m
  insts : OkL n G f.rinsts.reverse
  base : b.natAbs ≤ Mb
  acct : G + driftL f.rinsts + Mb + m ≤ n

theorem FOk.mono {n n' G Mb : Nat} {b : Int} {m : Nat} {f : Frame w} (h : FOk n G Mb b m f) (hn : n ≤ n') :
    FOk n' G Mb b m f :=
  ⟨h.shift, h.keys, h.insts.mono hn, h.base, Nat.le_trans h.acct hn⟩

theorem FOk.nb {n G Mb : Nat} {b : Int} {m : Nat} {f : Frame w} (h : FOk n G Mb b m f) {k : Int}
    (hk : (k - b).natAbs ≤ m) : NB n (G + driftL f.rinsts.reverse) k := by
  have := h.base; have := h.acct
  rw [driftL_reverse]
  unfold NB; omega

theorem FOk.push {n G Mb : Nat} {b : Int} {m : Nat} {f : Frame w} (h : FOk n G Mb b m f) {i : Instr w}
    (hi : OkI n (G + driftL f.rinsts.reverse) i) (hd : driftI i = 0) (buff : List (Int × BitVec w))
    (hb : ∀ kv ∈ buff, kv.2 ≠ 0#w → (kv.1 - b).natAbs ≤ m) (moved : Bool) :
    FOk n G Mb b m { shift := f.shift, moved := moved, rinsts := i :: f.rinsts, buff := buff } := by
  refine ⟨h.shift, hb, ?_, h.base, ?_⟩
  · show OkL n G (i :: f.rinsts).reverse
    rw [List.reverse_cons, okL_snoc]; exact ⟨h.insts, hi⟩
  · show G + driftL (i :: f.rinsts) + Mb + m ≤ n
    simp only [driftL, hd]; have := h.acct; omega

theorem mem_bset {b : List (Int × BitVec w)} {k : Int} {v : BitVec w} {kv : Int × BitVec w}
    (h : kv ∈ bset b k v) : kv = (k, v) ∨ kv ∈ b := by
  induction b with
  | nil => simp only [bset, List.mem_singleton] at h; exact Or.inl h
  | cons x rest ih =>
    obtain ⟨k', v'⟩ := x
    simp only [bset] at h
    split at h
    · rename_i e
      rcases List.mem_cons.1 h with e1 | e1
      · left; rw [e1, e]
      · exact Or.inr (List.mem_cons_of_mem _ e1)
    · rcases List.mem_cons.1 h with e1 | e1
      · exact Or.inr (e1 ▸ List.mem_cons_self)
      · rcases ih e1 with e2 | e2
        · exact Or.inl e2
        · exact Or.inr (List.mem_cons_of_mem _ e2)

theorem bget_mem {b : List (Int × BitVec w)} {k : Int} {v : BitVec w} (h : bget b k = some v) :
    (k, v) ∈ b := by
  induction b with
  | nil => simp [bget] at h
  | cons x rest ih =>
    obtain ⟨k', v'⟩ := x
    simp only [bget] at h
    split at h
    · rename_i e
      simp only [Option.some.injEq] at h
      rw [← e, ← h]; exact List.mem_cons_self
    · exact List.mem_cons_of_mem _ (ih h)

theorem keys_bset {b : List (Int × BitVec w)} {base : Int} {m : Nat} {k : Int} {v : BitVec w}
    (hb : ∀ kv ∈ b, kv.2 ≠ 0#w → (kv.1 - base).natAbs ≤ m) (hk : v ≠ 0#w → (k - base).natAbs ≤ m) :
    ∀ kv ∈ bset b k v, kv.2 ≠ 0#w → (kv.1 - base).natAbs ≤ m := by
  intro kv hkv hne
  rcases mem_bset hkv with e | e
  · subst e; exact hk hne
  · exact hb kv e hne

theorem okI_add {R g : Nat} {k : Int} (v : BitVec w) (hk : NB R g k) : OkI R g (Instr.add k v : Instr w) := by
  unfold Instr.add
  rw [okI_calc]
  intro ve hve
  simp only [List.mem_singleton] at hve
  subst hve
  refine ⟨hk, ?_⟩
  intro x hx
  simp [Expr.variables] at hx
  subst hx; exact hk

theorem okI_load {R g : Nat} {k : Int} (c : BitVec w) (hk : NB R g k) :
    OkI R g (Instr.load k c : Instr w) := by
  unfold Instr.load
  rw [okI_calc]
  intro ve hve
  simp only [List.mem_singleton] at hve
  subst hve
  refine ⟨hk, ?_⟩
  intro x hx
  simp only [Expr.val, Expr.variables] at hx
  split at hx <;> simp at hx

theorem driftI_add (k : Int) (v : BitVec w) : driftI (Instr.add k v : Instr w) = 0 := rfl
theorem driftI_load (k : Int) (v : BitVec w) : driftI (Instr.load k v : Instr w) = 0 := rfl

theorem flushOne_ok {n G Mb : Nat} {b : Int} {m : Nat} {f : Frame w} (h : FOk n G Mb b m f) (k : Int) :
    FOk n G Mb b m (flushOne f k) ∧ (flushOne f k).shift = f.shift ∧
      driftL (flushOne f k).rinsts = driftL f.rinsts := by
  unfold flushOne
  split
  · exact ⟨⟨h.shift, keys_bset h.keys (fun hne => absurd rfl hne), h.insts, h.base, h.acct⟩, rfl, rfl⟩
  · rename_i v hv
    split
    · rename_i hne
      have hne' : v ≠ 0#w := by simpa using hne
      have hk := h.keys _ (bget_mem hv) hne'
      refine ⟨h.push (okI_add v (h.nb hk)) (driftI_add k v) _
        (keys_bset h.keys (fun hne => absurd rfl hne)) _, rfl, ?_⟩
      simp [driftL, driftI_add]
    · exact ⟨h, rfl, rfl⟩

theorem flushMany_ok {n G Mb : Nat} {b : Int} {m : Nat} (vars : List (Int × BitVec w)) :
    ∀ (f : Frame w), FOk n G Mb b m f →
      FOk n G Mb b m (vars.foldl (fun p kv => flushOne p kv.1) f) ∧
      (vars.foldl (fun p kv => flushOne p kv.1) f).shift = f.shift ∧
      driftL (vars.foldl (fun p kv => flushOne p kv.1) f).rinsts = driftL f.rinsts := by
  induction vars with
  | nil => intro f hf; exact ⟨hf, rfl, rfl⟩
  | cons kv rest ih =>
    intro f hf
    simp only [List.foldl_cons]
    obtain ⟨h1, h2, h3⟩ := flushOne_ok hf kv.1
    obtain ⟨g1, g2, g3⟩ := ih _ h1
    exact ⟨g1, g2.trans h2, g3.trans h3⟩

/-- `pushAdds` only emits additions at keys with a non-zero value. -/
theorem pushAdds_ok {n G : Nat} (vars : List (Int × BitVec w)) :
    ∀ (r : List (Instr w)), OkL n G r.reverse →
      (∀ kv ∈ vars, kv.2 ≠ 0#w → NB n (G + driftL r) kv.1) →
      OkL n G (pushAdds r vars).reverse ∧ driftL (pushAdds r vars) = driftL r := by
  induction vars with
  | nil => intro r hr _; exact ⟨hr, rfl⟩
  | cons kv rest ih =>
    intro r hr hv
    simp only [pushAdds, List.foldl_cons]
    have hrest : ∀ x ∈ rest, x.2 ≠ 0#w → NB n (G + driftL r) x.1 :=
      fun x hx => hv x (List.mem_cons_of_mem _ hx)
    split
    · rename_i hne
      have hne' : kv.2 ≠ 0#w := by simpa using hne
      have hk := hv kv List.mem_cons_self hne'
      have hd : driftL (Instr.add kv.1 kv.2 :: r) = driftL r := by simp [driftL, driftI_add]
      obtain ⟨h1, h2⟩ := ih (Instr.add kv.1 kv.2 :: r)
        (by rw [List.reverse_cons, okL_snoc, driftL_reverse]; exact ⟨hr, okI_add _ hk⟩)
        (by rw [hd]; exact hrest)
      exact ⟨h1, h2.trans hd⟩
    · exact ih r hr hrest

theorem mem_bsorted {b : List (Int × BitVec w)} {kv : Int × BitVec w} (h : kv ∈ bsorted b) : kv ∈ b :=
  (Expr.stableSort_perm _ b).mem_iff.1 h

theorem pushAdds_frame {n G Mb : Nat} {b : Int} {m : Nat} {f : Frame w} (h : FOk n G Mb b m f) :
    OkL n G (pushAdds f.rinsts (bsorted f.buff)).reverse ∧
      driftL (pushAdds f.rinsts (bsorted f.buff)) = driftL f.rinsts := by
  apply pushAdds_ok _ _ h.insts
  intro kv hkv hne
  have := h.nb (h.keys kv (mem_bsorted hkv) hne)
  rwa [driftL_reverse] at this

/-- `p` after its buffered adds have been written out because the body of a loop moved the pointer. -/
abbrev flushed (p : Frame w) : Frame w :=
  { p with rinsts := pushAdds p.rinsts (bsorted p.buff)
           buff := p.buff.map (fun kv => (kv.1, 0#w))
           moved := true }

/-- For both values of the test of `closeLoop` at once, so that its `if` is never split on the condition. -/
theorem flushedIf_ok {n G Mb : Nat} {b : Int} {m : Nat} {p1 : Frame w} (c : Bool) (h1 : FOk n G Mb b m p1) :
    FOk n G Mb b m (if c then flushed p1 else p1) ∧ (if c then flushed p1 else p1).shift = p1.shift ∧
      driftL (if c then flushed p1 else p1).rinsts = driftL p1.rinsts := by
  cases c with
  | false => exact ⟨h1, rfl, rfl⟩
  | true =>
    obtain ⟨g1, g2⟩ := pushAdds_frame h1
    refine ⟨⟨h1.shift, ?_, g1, h1.base, ?_⟩, rfl, g2⟩
    · intro kv hkv hne
      simp only [if_true, List.mem_map] at hkv
      obtain ⟨x, _, e⟩ := hkv
      subst e; exact absurd rfl hne
    · simp only [if_true]; rw [g2]; exact h1.acct

theorem closeLoop_ok {n G Mb : Nat} {b : Int} {m ms : Nat} {sub par : Frame w}
    (hp : FOk n G Mb b m par)
    (hs : FOk n (G + driftL par.rinsts) (Mb + m) par.shift ms sub) :
    FOk n G Mb b m (closeLoop sub par) := by
  obtain ⟨hbody, hbd⟩ := pushAdds_frame hs
  unfold closeLoop
  simp only
  split
  · have hk : (par.shift - b).natAbs ≤ m := hp.shift
    exact hp.push (okI_load _ (hp.nb hk)) (driftI_load _ _) _
      (keys_bset hp.keys (fun hne => absurd rfl hne)) _
  · obtain ⟨h1, s1, d1⟩ := flushMany_ok (bsorted sub.buff) par hp
    generalize (bsorted sub.buff).foldl (fun p kv => flushOne p kv.1) par = p1 at h1 s1 d1 ⊢
    obtain ⟨h2', s2, d2⟩ := flushedIf_ok (sub.moved || sub.shift != p1.shift) h1
    generalize (if (sub.moved || sub.shift != p1.shift) = true then flushed p1 else p1) = p2 at h2' s2 d2 ⊢
    obtain ⟨h3, s3, d3⟩ := flushOne_ok h2' p2.shift
    generalize flushOne p2 p2.shift = p3 at h3 s3 d3 ⊢
    have hsh : p3.shift = par.shift := by rw [s3, s2, s1]
    have hdr : driftL p3.rinsts = driftL par.rinsts := by rw [d3, d2, d1]
    refine ⟨h3.shift, h3.keys, ?_, h3.base, ?_⟩
    · show OkL n G (Instr.loop p3.shift (sub.shift - p3.shift) _ false :: p3.rinsts).reverse
      rw [List.reverse_cons, okL_snoc, okI_loop]
      refine ⟨h3.insts, h3.nb h3.shift, ?_⟩
      rw [driftL_reverse, hdr]; exact hbody
    · show G + driftL (Instr.loop p3.shift (sub.shift - p3.shift) _ false :: p3.rinsts) + Mb + m ≤ n
      simp only [driftL, driftI, driftL_reverse, hbd, hdr, hsh]
      have := hs.acct; have := hs.shift
      omega

/-- The frames below the top one: `Stk n f rest G Mb b` — the frame `f` on top of `rest` starts at drift
`G` and has base `b` with `|b| ≤ Mb`. -/
inductive Stk (n : Nat) : Frame w → List (Frame w) → Nat → Nat → Int → Prop
  | bottom (f : Frame w) : Stk n f [] 0 0 0
  | push {f par : Frame w} {rest : List (Frame w)} {G Mb : Nat} {b : Int} {m : Nat} :
      Stk n par rest G Mb b → FOk n G Mb b m par →
      Stk n f (par :: rest) (G + driftL par.rinsts) (Mb + m) par.shift

theorem Stk.mono {n n' : Nat} (hn : n ≤ n') {f : Frame w} {rest : List (Frame w)} {G Mb : Nat} {b : Int}
    (h : Stk n f rest G Mb b) : Stk n' f rest G Mb b := by
  induction h with
  | bottom f => exact .bottom f
  | push _ hp ih => exact .push ih (hp.mono hn)

theorem Stk.top {n : Nat} {f f' : Frame w} {rest : List (Frame w)} {G Mb : Nat} {b : Int}
    (h : Stk n f rest G Mb b) : Stk n f' rest G Mb b := by
  cases h with
  | bottom => exact .bottom f'
  | push h1 h2 => exact .push h1 h2

def StateOk (n : Nat) (ps : PState w) : Prop :=
  ∃ (G Mb : Nat) (b : Int) (m : Nat), Stk n ps.top ps.rest G Mb b ∧ FOk n G Mb b m ps.top

theorem parseStep_ok {n : Nat} {ps ps' : PState w} {i : Nat} {k : Kind} (hs : StateOk n ps)
    (h : parseStep ps i k = .ok ps') : StateOk (n + C10.moveCount k) ps' := by
  obtain ⟨G, Mb, b, m, hst, ht⟩ := hs
  cases k with
  | right | left =>
    simp only [parseStep, Except.ok.injEq] at h
    subst h
    refine ⟨G, Mb, b, m + 1, (hst.mono (Nat.le_succ n)).top, ?_⟩
    have h1 := ht.shift; have h2 := ht.acct
    exact ⟨by simp only; omega, fun kv hkv hne => Nat.le_succ_of_le (ht.keys kv hkv hne),
      ht.insts.mono (Nat.le_succ n), ht.base,
      by show G + driftL ps.top.rinsts + Mb + (m + 1) ≤ n + 1; omega⟩
  | inc | dec =>
    simp only [parseStep, Except.ok.injEq] at h
    subst h
    exact ⟨G, Mb, b, m, hst.top,
      ⟨ht.shift, keys_bset ht.keys (fun _ => ht.shift), ht.insts, ht.base, ht.acct⟩⟩
  | out =>
    simp only [parseStep, Except.ok.injEq] at h
    subst h
    obtain ⟨hf, hsft, _⟩ := flushOne_ok ht ps.top.shift
    refine ⟨G, Mb, b, m, hst.top, ?_⟩
    exact hf.push (okI_output.2 (hf.nb hf.shift)) rfl _ hf.keys _
  | inp =>
    simp only [parseStep, Except.ok.injEq] at h
    subst h
    refine ⟨G, Mb, b, m, hst.top, ?_⟩
    exact ht.push (okI_input.2 (ht.nb ht.shift)) rfl _
      (keys_bset ht.keys (fun hne => absurd rfl hne)) _
  | «open» =>
    simp only [parseStep, Except.ok.injEq] at h
    subst h
    refine ⟨G + driftL ps.top.rinsts, Mb + m, ps.top.shift, 0, .push hst ht, ?_⟩
    have h1 := ht.shift; have h2 := ht.acct; have h3 := ht.base
    exact ⟨by simp, fun kv hkv => (by cases hkv), okL_nil _ _, by omega, (by simp [driftL]; omega)⟩
  | close =>
    simp only [parseStep] at h
    split at h
    · cases h
    · cases h
    · rename_i poss par rest hpos hrest
      simp only [Except.ok.injEq] at h
      subst h
      rw [hrest] at hst
      cases hst with
      | push hst' hp =>
        exact ⟨_, _, _, _, hst'.top, closeLoop_ok hp ht⟩
  | comment =>
    simp only [parseStep, Except.ok.injEq] at h
    subst h
    exact ⟨G, Mb, b, m, hst, ht⟩

theorem parseLoop_ok (ks : List Kind) :
    ∀ {n i : Nat} {ps ps' : PState w}, StateOk n ps → parseLoop ks i ps = .ok ps' →
      StateOk (n + moves ks) ps' := by
  induction ks with
  | nil =>
    intro n i ps ps' hs h
    simp only [parseLoop, Except.ok.injEq] at h
    subst h
    exact hs
  | cons k ks ih =>
    intro n i ps ps' hs h
    simp only [parseLoop] at h
    split at h
    · cases h
    · rename_i ps1 h1
      have := ih (parseStep_ok hs h1) h
      rw [C10.moves_cons]
      rw [Nat.add_assoc] at this
      exact this

/-- What the parser establishes: every mention has `drift + |offset| ≤ moves src`, and the drift of the whole block
plus its final shift is at most `moves src` as well. -/
theorem parse_measure {src : List Kind} {blk : Block w} (h : parse (w := w) src = .ok blk) :
    reach blk ≤ moves src ∧ driftL blk.insts + blk.shift.natAbs ≤ moves src := by
  unfold parse at h
  split at h
  · cases h
  · rename_i ps hps
    have h0 : StateOk 0
        ({ top := { shift := 0, moved := false, rinsts := [], buff := [] }, rest := [], positions := [] } :
          PState w) :=
      ⟨0, 0, 0, 0, .bottom _, ⟨by simp, fun kv hkv => (by cases hkv), okL_nil _ _, by simp, (by simp [driftL])⟩⟩
    have hs := parseLoop_ok src h0 hps
    rw [Nat.zero_add] at hs
    obtain ⟨G, Mb, b, m, hst, ht⟩ := hs
    split at h
    · rename_i hrest
      simp only [Except.ok.injEq] at h
      subst h
      rw [hrest] at hst
      cases hst
      refine ⟨okL_iff_reach.1 (pushAdds_frame ht).1, ?_⟩
      have h1 := (pushAdds_frame ht).2
      have h2 := ht.acct
      have h3 := ht.shift
      show driftL (pushAdds ps.top.rinsts (bsorted ps.top.buff)).reverse + ps.top.shift.natAbs ≤ _
      rw [driftL_reverse, h1]
      omega
    · cases h
    · cases h

theorem parse_reach_le_moves {src : List Kind} {blk : Block w} (h : parse (w := w) src = .ok blk) :
    reach blk ≤ moves src := (parse_measure h).1

end Hpbf.OptOffs

namespace Hpbf.C10
open Hpbf Ir

/-- The bound of `Props/C10.lean` for parser output, read off the measure. -/
theorem parse_bd {w : Nat} {src : List Kind} {blk : Block w} (h : parse (w := w) src = .ok blk) :
    Bd (moves src) blk.shift ∧ ∀ o ∈ offsets blk.insts, Bd (moves src) o := by
  obtain ⟨h1, h2⟩ := OptOffs.parse_measure h
  refine ⟨by unfold Bd; omega, fun o ho => ?_⟩
  have := OptOffs.offsets_le_reach blk o ho
  unfold Bd; omega

end Hpbf.C10
