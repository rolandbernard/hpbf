/-
`Program::optimize` at levels 2 and 3 is the first round followed by
one resp. two times (dead store elimination; a round that uses the analysis of the previous round).  This file
reduces the correctness of `optimize` at every level to the correctness of the two kinds of steps, for an arbitrary
invariant `P` of (program, analysis) pairs that the steps maintain (by the induction over the rounds of
`OptRounds.lean`).
-/
import Hpbf.Proofs.OptRbTop1
import Hpbf.Proofs.OptRounds
import Hpbf.Proofs.OptRbDseFacts
import Hpbf.Props.C01Dse

namespace Hpbf
namespace OptProof
open Opt OptSem Ir Rounds

variable {w : Nat}

theorem BehEq.refl (b : Block w) (env : Env) : BehEq b b env :=
  ⟨fun f c h => ⟨f, c, h, rfl, rfl⟩, fun f c h => ⟨f, c, h, rfl, rfl⟩, fun f c h => ⟨f, c, h, rfl, rfl⟩,
    fun f c h => ⟨f, c, h, rfl, rfl⟩, fun f => ⟨f, rfl⟩, fun f => ⟨f, rfl⟩⟩

theorem BehEq.trans {a b c : Block w} {env : Env} (h1 : BehEq a b env) (h2 : BehEq b c env) : BehEq a c env := by
  obtain ⟨a1, a2, a3, a4, a5, a6⟩ := h1
  obtain ⟨b1, b2, b3, b4, b5, b6⟩ := h2
  refine ⟨?_, ?_, ?_, ?_, ?_, ?_⟩
  · intro f x hx
    obtain ⟨f', y, hy, t1, e1⟩ := a1 f x hx
    obtain ⟨f'', z, hz, t2, e2⟩ := b1 f' y hy
    exact ⟨f'', z, hz, t2.trans t1, e2.trans e1⟩
  · intro f x hx
    obtain ⟨f', y, hy, t1, e1⟩ := a2 f x hx
    obtain ⟨f'', z, hz, t2, e2⟩ := b2 f' y hy
    exact ⟨f'', z, hz, t2.trans t1, e2.trans e1⟩
  · intro f z hz
    obtain ⟨f', y, hy, t2, e2⟩ := b3 f z hz
    obtain ⟨f'', x, hx, t1, e1⟩ := a3 f' y hy
    exact ⟨f'', x, hx, t2.trans t1, e2.trans e1⟩
  · intro f z hz
    obtain ⟨f', y, hy, t2, e2⟩ := b4 f z hz
    obtain ⟨f'', x, hx, t1, e1⟩ := a4 f' y hy
    exact ⟨f'', x, hx, t2.trans t1, e2.trans e1⟩
  · intro f''
    obtain ⟨f', h'⟩ := b5 f''
    obtain ⟨f, h⟩ := a5 f'
    exact ⟨f, h.trans h'⟩
  · intro f
    obtain ⟨f', h⟩ := a6 f
    obtain ⟨f'', h'⟩ := b6 f'
    exact ⟨f'', h'.trans h⟩

theorem optimize_preserves_of_steps (hw : 0 < w) {P P1 : Block w → OptAnalysis w → Prop} {env : Env}
    (hFirst : ∀ (b b1 : Block w) anal1 os os1, CanonL b.insts →
      (optimizeOnce b (topAnalysis [] [])).run os = .ok ((b1, anal1), os1) → P b1 anal1)
    (hDse : ∀ prog anal prog1, P prog anal → deadStoreElimination prog anal = .ok prog1 →
      BehEq prog prog1 env ∧ P1 prog1 anal)
    (hRound : ∀ prog1 anal prog2 anal2 os os2, P1 prog1 anal →
      (optimizeOnce prog1 anal).run os = .ok ((prog2, anal2), os2) → BehEq prog1 prog2 env ∧ P prog2 anal2)
    {b b' : Block w} (hcl : CanonL b.insts) {level : Nat} {orders : Orders}
    (h : Opt.optimize b level orders = .ok b') : BehEq b b' env := by
  rw [optimize_eq] at h
  refine (pipeline_ind (fun _ p a _ => BehEq b p env ∧ P p a) h ?_ ?_).elim ?_ ?_
  · exact fun _ h1 => ⟨optimizeOnce_preserves_l1 hw hcl h1 env, hFirst _ _ _ _ _ hcl h1⟩
  · intro n p a os p1 p2 a2 os2 hI hd h3
    obtain ⟨e1, hP1⟩ := hDse _ _ _ hI.2 hd
    obtain ⟨e2, hP2⟩ := hRound _ _ _ _ _ _ hP1 h3
    exact ⟨(hI.1.trans e1).trans e2, hP2⟩
  · rintro ⟨_, rfl⟩; exact BehEq.refl _ _
  · rintro ⟨_, _, e, _⟩; exact e

/-- The pass never fails (the Rust never panics) on the output of a round with the analysis of that round. -/
theorem dse_total_after_round {b : Block w} {prevAnal : OptAnalysis w} {os os' : Orders} {b1 : Block w}
    {anal1 : OptAnalysis w} (hr : (optimizeOnce b prevAnal).run os = .ok ((b1, anal1), os'))
    (hcl : CanonL b.insts) : ∃ b2, deadStoreElimination b1 anal1 = .ok b2 := by
  obtain ⟨b2, h2⟩ := C01Dse.eliminate_total (optimizeOnce_shapeOk hr)
  exact ⟨b2, by unfold deadStoreElimination; rw [h2]; rfl⟩

theorem deadStoreElimination_ok {b b2 : Block w} {anal : OptAnalysis w}
    (h : deadStoreElimination b anal = .ok b2) : OptDse.eliminate b anal.toDAnal = some b2 := by
  unfold deadStoreElimination at h
  cases he : OptDse.eliminate b anal.toDAnal with
  | none => rw [he] at h; cases h
  | some x => rw [he] at h; cases h; rfl

theorem behEq_of_eliminate {b b2 : Block w} {anal : OptDse.DAnal} {env : Env}
    (hE : OptDse.eliminate b anal = some b2) (hnd : C01Dse.NoDupTargets b) (hS : C01Dse.AnalSound b anal env) :
    BehEq b b2 env := by
  obtain ⟨h1, h2, h3, h4, h5, h6⟩ := C01Dse.eliminate_preserves hE hnd hS
  refine ⟨?_, ?_, ?_, ?_, h5, h6⟩
  · intro f c hc
    obtain ⟨f', c', hc', t, e, _⟩ := h1 f c hc
    exact ⟨f', c', hc', t, e⟩
  · intro f c hc
    obtain ⟨f', c', hc', t, e, _⟩ := h2 f c hc
    exact ⟨f', c', hc', t, e⟩
  · intro f c hc
    obtain ⟨f', c', hc', t, e, _⟩ := h3 f c hc
    exact ⟨f', c', hc', t, e⟩
  · intro f c hc
    obtain ⟨f', c', hc', t, e, _⟩ := h4 f c hc
    exact ⟨f', c', hc', t, e⟩

end OptProof
end Hpbf
