/-
C11 for the output of `allocate_temps` (namespace `Hpbf.C02`): evaluation of the checker on concrete outputs of the
pass (non-vacuity), a witness that the precondition is needed, the semantic reading of the initialisation clause, and the
`temps` clause of `LocalFacts` for `translateE` (`translateE_temps_lt`).
-/
import Hpbf.Proofs.C11AllocTop
import Hpbf.Proofs.C02AllocEx
import Hpbf.Proofs.C11

namespace Hpbf
namespace C02

open Bc BcWf BcGen C11 Alloc

def allocContract (numRegs : Nat) (s : St 8) : Option (Bool × Bool) :=
  (allocateTemps numRegs s).toOption.map (fun s' =>
    let p := progOf s' (countTemps s'.insts) (-8) 8
    (initOk p (initSolve p), liveOk p numRegs (liveSolve p)))

/-- The solvers may be cut short: if their `k`-th iterates are fixed points, `allocContract` is what the two tests
say about these.  (On the examples below two rounds reach the fixed points; evaluating the idle ones that
`initSolve` and `liveSolve` run after them is slow in the kernel.) -/
theorem allocContract_of_fix (k : Nat) {numRegs : Nat} {s : St 8} {r : Bool × Bool}
    (h : (allocateTemps numRegs s).toOption.map (fun s' =>
      let p := progOf s' (countTemps s'.insts) (-8) 8
      let I := iterate (initRound p) k (Wf.initStart p)
      let O := iterate (liveRound p) k (Array.replicate p.insts.size [])
      (decide (k ≤ p.insts.size * (p.temps + 1) + 1 ∧ initRound p I = I ∧ liveRound p O = O),
        initOk p I, liveOk p numRegs O)) = some (true, r)) :
    allocContract numRegs s = some r := by
  unfold allocContract
  cases hs : allocateTemps numRegs s with
  | error e => rw [hs] at h; cases h
  | ok s' =>
    rw [hs] at h
    simp only [Except.toOption, Option.map_some, Option.some.injEq, Prod.mk.injEq, decide_eq_true_eq] at h
    obtain ⟨⟨hk, hI, hO⟩, rfl⟩ := h
    have e1 := iterate_eq_of_fix (f := initRound _) rfl hI hk
    have e2 := iterate_eq_of_fix (f := liveRound _) rfl hO hk
    simp only [Except.toOption, Option.map_some]
    rw [← e1, ← e2]
    rfl

/-- The examples of `Props/C02Alloc.lean` that satisfy `AllocPre` (straight-line code with a forwarded and a moved
value; a loop with a value kept across it). -/
theorem alloc_contract_examples :
    allocContract 2 exFuseGood = some (true, true) ∧ allocContract 0 exFuseGood = some (true, true) ∧
    allocContract 1 exFlowGood = some (true, true) :=
  ⟨allocContract_of_fix 2 (by decide +kernel), allocContract_of_fix 2 (by decide +kernel),
    allocContract_of_fix 2 (by decide +kernel)⟩

/-- `flow` is needed for the liveness clause: on `exFlowBad` (a value used inside a loop whose range is not
extended to the loop end) the pass succeeds, reuses the register inside the loop, and the bitmap of the
instruction that overwrites it does not contain the register although it is needed again in the next iteration. -/
theorem alloc_flow_needed_for_liveOk :
    comps exFlowBad = [true, true, true, true, false, true, true, true, true] ∧
    allocContract 1 exFlowBad = some (true, false) :=
  ⟨exFlowBad_comps, allocContract_of_fix 2 (by decide +kernel)⟩

/-- The theorems apply to the examples (here: without evaluating the checker). -/
theorem alloc_contract_exFuseGood (numRegs : Nat) (s' : St 8) (h : allocateTemps numRegs exFuseGood = .ok s') :
    initOk (progOf s' (countTemps s'.insts) 0 0) (initSolve (progOf s' (countTemps s'.insts) 0 0)) = true ∧
    liveOk (progOf s' (countTemps s'.insts) 0 0) numRegs (liveSolve (progOf s' (countTemps s'.insts) 0 0)) = true := by
  have hT : TargetsOk exFuseGood.insts := by
    intro i ins off hi hoff
    have hlt : i < 7 := lt_of_getElem? hi
    have : ∀ i : Fin 7, ∀ ins, exFuseGood.insts[i.val]? = some ins → branchOff? ins = none := by decide
    rw [this ⟨i, hlt⟩ ins hi] at hoff
    cases hoff
  exact ⟨allocateTemps_initOk _ _ numRegs exFuseGood_pre hT h _ 0 0 (tempsBelow_countTemps _),
    allocateTemps_liveOk _ _ numRegs exFuseGood_pre hT h _ 0 0 (tempsBelow_countTemps _)⟩

/-- Semantic reading for the final program: on every execution path (any initial temporaries, budget, state, mode)
an instruction reads only temporaries that have been written before. -/
theorem translateE_no_uninit_read {w : Nat} {prog : Ir.Block w} {numRegs : Nat} {fuse : Bool} {p : Program w}
    (h : translateE prog numRegs fuse = .ok p) {limited : Bool} {c : Cfg w} {W : List Nat} {ins : Instr w}
    (hw : Wr p limited c W) (hi : p.insts[c.pc]? = some ins) : ∀ t ∈ BcWf.uses ins, t ∈ W :=
  init_sound (initOk_facts (translateE_initOk_liveOk h).1) hw hi

theorem translateE_temps_lt {w : Nat} {prog : Ir.Block w} {numRegs : Nat} {fuse : Bool} {p : Program w}
    (h : translateE prog numRegs fuse = .ok p) {i : Nat} {ins : Instr w} (hi : p.insts[i]? = some ins) :
    ∀ t ∈ BcWf.uses ins ++ BcWf.defs ins, t < p.temps := by
  obtain ⟨s1, s2, s3, s4, _, _, _, _, rfl⟩ := Chain.translateE_phases h
  intro t ht
  exact temps_lt_countTemps (insts := s4.insts) hi ht

end C02
end Hpbf
