/-
The vocabulary of the totality proof of the optimizer model (`Hpbf/Opt.lean`). Every Rust panic site is an error
`panic: …`, the two fuel sites are `model: …`; the diagnostics of the two oracle readers (`takeOrder`,
`takeInlineOrder`) and of the final "all orders consumed" check of `optimize` carry the literal prefix
`order-mismatch ` (`isOracleError`). `Total x` asks for a piece of oracle that `x` consumes exactly, whatever
follows it: that is what composes under `>>=`.
-/
import Hpbf.Proofs.OptRbMonad

namespace Hpbf
namespace OptTotal
open Opt OptProof

variable {α β γ : Type}

def isOracleError (e : String) : Bool := "order-mismatch ".toList.isPrefixOf e.toList

/-- A string literal is `String.ofList` of its characters: on a literal the test compares character lists, and the
UTF-8 encoding of the message is never evaluated. -/
theorem isOracleError_ofList (l : List Char) :
    isOracleError (String.ofList l) =
      ['o', 'r', 'd', 'e', 'r', '-', 'm', 'i', 's', 'm', 'a', 't', 'c', 'h', ' '].isPrefixOf l := by
  -- the first rewrite turns the literal prefix, itself a `String.ofList`, into its characters
  rw [isOracleError, String.toList_ofList, String.toList_ofList]

theorem isOracle_append (a b : String) (h : isOracleError a = true) : isOracleError (a ++ b) = true := by
  simp only [isOracleError, List.isPrefixOf_iff_prefix, String.toList_append] at h ⊢
  exact List.IsPrefix.trans h (List.prefix_append _ _)

/-- The shape of the oracle readers' messages `s!"order-mismatch …{x}…"`: a literal, then interpolated text. -/
theorem isOracle_lit (l : List Char) (b : String)
    (h : ['o', 'r', 'd', 'e', 'r', '-', 'm', 'i', 's', 'm', 'a', 't', 'c', 'h', ' '].isPrefixOf l = true) :
    isOracleError (toString (String.ofList l) ++ b) = true :=
  isOracle_append _ _ ((isOracleError_ofList l).trans h)

theorem isOracle_not_panic (e : String) (h : isOracleError e = true) :
    "panic: ".toList.isPrefixOf e.toList = false ∧ "model: ".toList.isPrefixOf e.toList = false := by
  simp only [isOracleError, List.isPrefixOf_iff_prefix] at h
  obtain ⟨t, ht⟩ := h
  rw [← ht, String.toList_ofList, String.toList_ofList, String.toList_ofList]
  constructor <;> rfl

def Ok (x : Except String α) : Prop := ∃ a, x = .ok a

theorem Ok.pure (a : α) : Ok (pure a : Except String α) := ⟨a, rfl⟩

theorem Ok.bind {x : Except String α} {f : α → Except String β} (hx : Ok x)
    (hf : ∀ a, x = .ok a → Ok (f a)) : Ok (x >>= f) := by
  obtain ⟨a, rfl⟩ := hx
  exact hf a rfl

theorem Ok.foldlM (Inv : β → Prop) (f : β → γ → Except String β) (l : List γ)
    (hstep : ∀ b x, x ∈ l → Inv b → Ok (f b x) ∧ ∀ b', f b x = .ok b' → Inv b') {b : β} (h0 : Inv b) :
    Ok (l.foldlM f b) ∧ ∀ b', l.foldlM f b = .ok b' → Inv b' := by
  induction l generalizing b with
  | nil =>
    refine ⟨⟨b, rfl⟩, fun b' h => ?_⟩
    rw [List.foldlM_nil] at h
    cases h; exact h0
  | cons x l ih =>
    obtain ⟨⟨b1, hb1⟩, hi⟩ := hstep b x (by simp) h0
    obtain ⟨h1, h2⟩ := ih (fun b x hx => hstep b x (List.mem_cons_of_mem _ hx)) (hi b1 hb1)
    rw [List.foldlM_cons, hb1]
    exact ⟨h1, h2⟩

def NoPanic (x : M α) : Prop := ∀ os e, x.run os = .error e → isOracleError e = true

def Total (x : M α) : Prop := ∃ pre a, ∀ rest, x.run (pre ++ rest) = .ok (a, rest)

structure Safe (x : M α) : Prop where
  noPanic : NoPanic x
  total : Total x

theorem Safe.pure (a : α) : Safe (pure a : M α) :=
  ⟨fun os e h => (by rw [run_pure] at h; cases h), [], a, fun rest => (by rw [run_pure]; rfl)⟩

theorem Safe.bind {x : M α} {f : α → M β} (hx : Safe x)
    (hf : ∀ a os os', x.run os = .ok (a, os') → Safe (f a)) : Safe (x >>= f) := by
  constructor
  · intro os e h
    rw [run_bind] at h
    cases hxo : x.run os with
    | error e' =>
      rw [hxo] at h
      cases h
      exact hx.noPanic os _ hxo
    | ok v =>
      obtain ⟨a, os1⟩ := v
      rw [hxo] at h
      exact (hf a os os1 hxo).noPanic os1 e h
  · obtain ⟨pre1, a, h1⟩ := hx.total
    obtain ⟨pre2, b, h2⟩ := (hf a (pre1 ++ []) [] (h1 [])).total
    refine ⟨pre1 ++ pre2, b, fun rest => ?_⟩
    rw [run_bind, List.append_assoc, h1 (pre2 ++ rest)]
    exact h2 rest

theorem Safe.monadLift {x : Except String α} (h : Ok x) : Safe (monadLift x : M α) := by
  obtain ⟨a, rfl⟩ := h
  exact ⟨fun os e h => (by rw [run_monadLift] at h; cases h), [], a, fun rest => (by rw [run_monadLift]; rfl)⟩

theorem takeOrder_safe (var : Int) (next : List Int) : Safe (takeOrder var next) := by
  constructor
  · intro os e h
    cases os with
    | nil =>
      simp only [StateT.run, takeOrder] at h
      cases h
      exact isOracle_lit _ _ (by decide +kernel)
    | cons o rest =>
      obtain ⟨k, ns⟩ := o
      simp only [StateT.run, takeOrder] at h
      split at h
      · cases h
        iterate 2 apply isOracle_append
        exact isOracle_lit _ _ (by decide +kernel)
      · split at h
        · cases h
        · cases h
          iterate 4 apply isOracle_append
          exact isOracle_lit _ _ (by decide +kernel)
  · refine ⟨[(toString var, next)], next, fun rest => (if_neg (by simp)).trans (if_pos ?_)⟩
    simp

theorem takeInlineOrder_safe {w : Nat} (pending : List (Int × Expr w)) : Safe (takeInlineOrder pending) := by
  constructor
  · intro os e h
    simp only [StateT.run, takeInlineOrder] at h
    split at h
    · cases h
    · split at h
      · split at h
        · cases h
        · cases h
          iterate 2 apply isOracle_append
          exact isOracle_lit _ _ (by decide +kernel)
      · cases h
        exact isOracle_lit _ _ (by decide +kernel)
  · by_cases hl : pending.length < 2
    · exact ⟨[], pending, fun rest => if_pos hl⟩
    · refine ⟨[("inline", mKeys pending)],
        (mKeys pending).filterMap (fun k => (mGet pending k).map (fun e => (k, e))),
        fun rest => (if_neg hl).trans (if_pos ?_)⟩
      simp

#print axioms Safe.bind
#print axioms takeOrder_safe
#print axioms takeInlineOrder_safe

end OptTotal
end Hpbf
