/-
The link from `loopMotion` to `finishLoop`: the loop of `finishLoop` over the pending variables (its body named
`motionStepM`, `finishLoop_eq`) produces lists `B`, `D`, `A` satisfying `MotionAllE` (`motionFold_spec_e`), and
the syntactic facts about `possibleReads` and `pendingSet` that `loopMotion_all_sound_h` needs.
-/
import Hpbf.Proofs.OptLoopAll
import Hpbf.Proofs.StateExcept

namespace Hpbf.OptLoop
open Hpbf Opt OptSem Expr

variable {w : Nat}

/-- The body of the loop over the pending variables in the `Loop`/`If` arm of `rebuild_block`. -/
def motionStepM (s : Rebuild w) (ps : List (Rebuild w)) (possibleReads constant : List Int)
    (linear : List (Int × Expr w)) (pendingSet : List Int) (loopAnal : OptLoop w)
    (acc : Rebuild w × List (Int × Expr w) × List (Int × Expr w) × List (Int × Expr w)) (var : Int) :
    M (Rebuild w × List (Int × Expr w) × List (Int × Expr w) × List (Int × Expr w)) := do
  let (sub, before, toPerform, after) := acc
  let hasWritten := mHas sub.written var
  match removePending sub var with
  | (_, none) => throw "panic: rebuild_block: remove_pending(var).unwrap()"
  | (sub, some p) =>
    let (b, d, a) ← (loopMotion s ps var p (!hasWritten) possibleReads constant linear pendingSet loopAnal :
      Except String (Option (Expr w) × Option (Expr w) × Option (Expr w)))
    let before := match b with | some b => before ++ [(var, b)] | none => before
    let toPerform := match d with | some d => toPerform ++ [(var, d)] | none => toPerform
    let after :=
      if !loopAnal.noEffect then (match a with | some a => after ++ [(var, a)] | none => after)
      else after
    pure (sub, before, toPerform, after)

theorem finishLoop_eq (s : Rebuild w) (ps : List (Rebuild w)) (sub : Rebuild w) (cond : Int) (isLoop : Bool) :
    finishLoop s ps sub cond isLoop = (do
  let loopAnal := analyzeLoop s ps sub cond isLoop
  if loopAnal.never then
    return s
  let (sub, before, after, constant) ←
    if sub.subShift || sub.shift != s.shift then
      pure (sub, ([] : List (Int × Expr w)), ([] : List (Int × Expr w)), ([] : List Int))
    else do
      let pending := pendingSorted sub sub
      let possibleReads := sIns (possibleReads sub) cond
      let constant ← (constantsAmong s ps sub
        (possibleReads ++ pending.filter (fun x => !possibleReads.contains x)) : Except String (List Int))
      let linear := linearAmong s ps sub constant (possibleReads ++ pending)
      let pendingSet := pending.filter (fun x => !constant.contains x)
      let init : Rebuild w × List (Int × Expr w) × List (Int × Expr w) × List (Int × Expr w) :=
        (sub, [], [], [])
      let (sub, before, toPerform, after) ← pending.foldlM
        (motionStepM s ps possibleReads constant linear pendingSet loopAnal) init
      let sub ← performAll sub (s :: ps) 0 toPerform
      pure (sub, before, after, constant)
  let sub := forgetParent sub
  let s ← performAll s ps 0 before
  if loopAnal.atLeastOnce || (!loopAnal.atMostOnce && after.isEmpty) then
    loopInsideIf s ps sub cond loopAnal after constant
  else do
    let ifState : Rebuild w := Rebuild.new s.shift (some cond) .unknown none
    let ifState ← loopInsideIf ifState [] sub cond loopAnal.toAtLeastOnce after constant
    loopOrIf s ps ifState cond false loopAnal.toAtMostOnce constant) := rfl

def pushOpt (l : List (Int × Expr w)) (var : Int) (o : Option (Expr w)) : List (Int × Expr w) :=
  match o with
  | some e => l ++ [(var, e)]
  | none => l

theorem motionStepM_ok (s : Rebuild w) (ps : List (Rebuild w)) (R C : List Int)
    (lin : List (Int × Expr w)) (pset : List Int) (L : OptLoop w)
    (sub : Rebuild w) (B D A : List (Int × Expr w)) (var : Int) (os os' : Orders)
    (res : Rebuild w × List (Int × Expr w) × List (Int × Expr w) × List (Int × Expr w))
    (h : motionStepM s ps R C lin pset L (sub, B, D, A) var os = .ok (res, os')) :
    os' = os ∧ ∃ sub' p b d a, removePending sub var = (sub', some p) ∧
      loopMotion s ps var p (!mHas sub.written var) R C lin pset L = .ok (b, d, a) ∧
      res = (sub', pushOpt B var b, pushOpt D var d, if !L.noEffect then pushOpt A var a else A) := by
  unfold motionStepM at h
  simp only at h
  rcases hrm : removePending sub var with ⟨sub', o⟩
  rw [hrm] at h
  cases o with
  | none => simp only at h; cases h
  | some p =>
    simp only at h
    cases hlm : loopMotion s ps var p (!mHas sub.written var) R C lin pset L with
    | error e => rw [hlm] at h; cases h
    | ok r =>
      obtain ⟨b, d, a⟩ := r
      rw [hlm] at h
      cases h
      exact ⟨rfl, sub', p, b, d, a, rfl, hlm, rfl⟩

theorem removePending_some {sub sub' : Rebuild w} {var : Int} {p : Expr w}
    (h : removePending sub var = (sub', some p)) :
    mGet sub.pending var = some p ∧ sub'.pending = mErase sub.pending var ∧ sub'.written = sub.written := by
  unfold removePending at h
  split at h
  · cases h
  · rename_i e he
    simp only [Prod.mk.injEq, Option.some.injEq] at h
    obtain ⟨h1, h2⟩ := h
    subst h2
    rw [← h1]
    exact ⟨he, rfl, rfl⟩

theorem mGet_pushOpt (l : List (Int × Expr w)) (var : Int) (o : Option (Expr w)) (k : Int) :
    mGet (pushOpt l var o) k =
      match mGet l k with
      | some y => some y
      | none => if var = k then o else none := by
  cases o with
  | none =>
    simp only [pushOpt]
    cases mGet l k <;> simp
  | some e =>
    simp only [pushOpt]
    rw [mGet_append_single]
    cases mGet l k <;> rfl

theorem mGet_pushOpt_ne (l : List (Int × Expr w)) {var k : Int} (o : Option (Expr w)) (hne : var ≠ k) :
    mGet (pushOpt l var o) k = mGet l k := by
  rw [mGet_pushOpt, if_neg hne]
  cases mGet l k <;> rfl

theorem mGet_pushOpt_self {l : List (Int × Expr w)} {var : Int} (o : Option (Expr w))
    (h : mGet l var = none) : mGet (pushOpt l var o) var = o := by
  rw [mGet_pushOpt, h]
  exact if_pos rfl

/-- Invariant of the loop of `finishLoop` over the pending variables; `done` are the variables handled so far. -/
structure FoldInv (s : Rebuild w) (ps : List (Rebuild w)) (sub0 : Rebuild w) (R C : List Int)
    (lin : List (Int × Expr w)) (pset : List Int) (L : OptLoop w) (done : List Int)
    (acc : Rebuild w × List (Int × Expr w) × List (Int × Expr w) × List (Int × Expr w)) : Prop where
  written : acc.1.written = sub0.written
  rest : ∀ v, v ∉ done → mGet acc.1.pending v = mGet sub0.pending v
  fresh : ∀ v, v ∉ done → mGet acc.2.1 v = none ∧ mGet acc.2.2.1 v = none ∧ mGet acc.2.2.2 v = none
  handled : ∀ v, v ∈ done → ∃ p b d a, mGet sub0.pending v = some p ∧
    loopMotion s ps v p (!mHas sub0.written v) R C lin pset L = .ok (b, d, a) ∧
    mGet acc.2.1 v = b ∧ mGet acc.2.2.1 v = d ∧ mGet acc.2.2.2 v = (if !L.noEffect then a else none)

theorem foldInv_step {s : Rebuild w} {ps : List (Rebuild w)} {sub0 : Rebuild w} {R C : List Int}
    {lin : List (Int × Expr w)} {pset : List Int} {L : OptLoop w} {done : List Int}
    {acc res : Rebuild w × List (Int × Expr w) × List (Int × Expr w) × List (Int × Expr w)}
    (hinv : FoldInv s ps sub0 R C lin pset L done acc) (var : Int) (hnd : var ∉ done) (os os' : Orders)
    (h : motionStepM s ps R C lin pset L acc var os = .ok (res, os')) :
    os' = os ∧ FoldInv s ps sub0 R C lin pset L (var :: done) res := by
  obtain ⟨sub, B, D, A⟩ := acc
  obtain ⟨hos, sub', p, b, d, a, hrm, hlm, hres⟩ := motionStepM_ok s ps R C lin pset L sub B D A var os os' res h
  refine ⟨hos, ?_⟩
  have hA : (if !L.noEffect then pushOpt A var a else A) = pushOpt A var (if !L.noEffect then a else none) := by
    split <;> rfl
  rw [hA] at hres
  subst hres
  obtain ⟨hp, hpend, hwr⟩ := removePending_some hrm
  have hw0 : sub.written = sub0.written := hinv.written
  obtain ⟨fB, fD, fA⟩ := hinv.fresh var hnd
  constructor
  · exact hwr.trans hw0
  · intro v hv
    have hne : var ≠ v := fun h => hv (by rw [h]; exact List.mem_cons_self)
    show mGet sub'.pending v = _
    rw [hpend, mGet_mErase_ne _ _ _ hne]
    exact hinv.rest v (fun hd => hv (List.mem_cons_of_mem _ hd))
  · intro v hv
    have hne : var ≠ v := fun h => hv (by rw [h]; exact List.mem_cons_self)
    obtain ⟨f1, f2, f3⟩ := hinv.fresh v (fun hd => hv (List.mem_cons_of_mem _ hd))
    exact ⟨(mGet_pushOpt_ne B _ hne).trans f1, (mGet_pushOpt_ne D _ hne).trans f2,
      (mGet_pushOpt_ne A _ hne).trans f3⟩
  · intro v hv
    rcases List.mem_cons.1 hv with rfl | hv
    · exact ⟨p, b, d, a, by rw [← hinv.rest v hnd]; exact hp, by rw [← hw0]; exact hlm,
        mGet_pushOpt_self b fB, mGet_pushOpt_self d fD, mGet_pushOpt_self _ fA⟩
    · obtain ⟨p', b', d', a', h1, h2, h3, h4, h5⟩ := hinv.handled v hv
      have hne : var ≠ v := fun e => hnd (e ▸ hv)
      exact ⟨p', b', d', a', h1, h2, (mGet_pushOpt_ne B _ hne).trans h3,
        (mGet_pushOpt_ne D _ hne).trans h4, (mGet_pushOpt_ne A _ hne).trans h5⟩

theorem foldInv_fold {s : Rebuild w} {ps : List (Rebuild w)} {sub0 : Rebuild w} {R C : List Int}
    {lin : List (Int × Expr w)} {pset : List Int} {L : OptLoop w} (vars : List Int) (done : List Int)
    (acc res : Rebuild w × List (Int × Expr w) × List (Int × Expr w) × List (Int × Expr w))
    (hinv : FoldInv s ps sub0 R C lin pset L done acc) (hnd : vars.Nodup)
    (hdis : ∀ v ∈ vars, v ∉ done) (os os' : Orders)
    (h : vars.foldlM (motionStepM s ps R C lin pset L) acc os = .ok (res, os')) :
    os' = os ∧ FoldInv s ps sub0 R C lin pset L (vars.reverse ++ done) res := by
  induction vars generalizing done acc os with
  | nil =>
    simp only [List.foldlM_nil] at h
    cases h
    exact ⟨rfl, hinv⟩
  | cons v vars ih =>
    rw [List.foldlM_cons] at h
    obtain ⟨acc1, os1, hstep, hrest⟩ := (StateExcept.bind_ok _ _ _ _ _).1 h
    rw [List.nodup_cons] at hnd
    obtain ⟨hos1, hinv1⟩ := foldInv_step hinv v (hdis v List.mem_cons_self) os os1 hstep
    subst hos1
    obtain ⟨hos', hfin⟩ := ih (v :: done) acc1 hinv1 hnd.2 (fun x hx hxd => by
      rcases List.mem_cons.1 hxd with rfl | hxd
      · exact hnd.1 hx
      · exact hdis x (List.mem_cons_of_mem _ hx) hxd) os1 hrest
    refine ⟨hos', ?_⟩
    rw [List.reverse_cons, List.append_assoc]
    exact hfin

/-- `pending` must list every key of `sub.pending` exactly once. -/
theorem motionFold_spec_e (s : Rebuild w) (ps : List (Rebuild w)) (sub : Rebuild w) (R C : List Int)
    (lin : List (Int × Expr w)) (pset : List Int) (L : OptLoop w) (pending : List Int)
    (sub' : Rebuild w) (B D A : List (Int × Expr w)) (os os' : Orders)
    (hnd : pending.Nodup) (hkeys : ∀ v p, mGet sub.pending v = some p → v ∈ pending)
    (h : pending.foldlM (motionStepM s ps R C lin pset L) (sub, [], [], []) os = .ok ((sub', B, D, A), os')) :
    os' = os ∧ MotionAllE s ps sub R C lin pset L B D A := by
  have h0 : FoldInv s ps sub R C lin pset L [] (sub, [], [], []) :=
    ⟨rfl, fun _ _ => rfl, fun _ _ => ⟨rfl, rfl, rfl⟩, fun v hv => by cases hv⟩
  obtain ⟨hos, hfin⟩ := foldInv_fold pending [] _ _ h0 hnd (fun v _ hv => by cases hv) os os' h
  refine ⟨hos, ?_, ?_⟩
  · intro var p hp
    have hmem : var ∈ pending.reverse ++ [] := by
      rw [List.append_nil]; exact List.mem_reverse.2 (hkeys var p hp)
    obtain ⟨p', b, d, a, h1, h2, h3, h4, h5⟩ := hfin.handled var hmem
    rw [hp] at h1
    cases h1
    refine ⟨b, d, a, loopMotion_cases _ _ _ _ _ _ _ _ _ _ _ h2, h3, h4, ?_⟩
    simp only at h5
    cases hL : L.noEffect with
    | false => left; rw [h5, hL]; rfl
    | true =>
      rw [hL] at h5
      exact Or.inr ⟨rfl, h5⟩
  · intro var hp
    have hnm : var ∉ pending.reverse ++ [] := by
      intro hm
      obtain ⟨p', _, _, _, h1, _⟩ := hfin.handled var hm
      rw [hp] at h1; cases h1
    exact hfin.fresh var hnm

def optKey (o : Option (Expr w)) (var : Int) : List Int :=
  match o with
  | some _ => [var]
  | none => []

theorem mKeys_pushOpt (l : List (Int × Expr w)) (var : Int) (o : Option (Expr w)) :
    mKeys (pushOpt l var o) = mKeys l ++ optKey o var := by
  cases o with
  | none => simp [pushOpt, optKey]
  | some e => simp [pushOpt, mKeys, optKey]

theorem motionFold_keys_aux (s : Rebuild w) (ps : List (Rebuild w)) (R C : List Int)
    (lin : List (Int × Expr w)) (pset : List Int) (L : OptLoop w) (vars : List Int)
    (acc res : Rebuild w × List (Int × Expr w) × List (Int × Expr w) × List (Int × Expr w))
    (os os' : Orders)
    (h : vars.foldlM (motionStepM s ps R C lin pset L) acc os = .ok (res, os')) :
    ∃ lb ld la : List Int, lb.Sublist vars ∧ ld.Sublist vars ∧ la.Sublist vars ∧
      mKeys res.2.1 = mKeys acc.2.1 ++ lb ∧ mKeys res.2.2.1 = mKeys acc.2.2.1 ++ ld ∧
      mKeys res.2.2.2 = mKeys acc.2.2.2 ++ la := by
  induction vars generalizing acc os with
  | nil =>
    simp only [List.foldlM_nil] at h
    cases h
    exact ⟨[], [], [], List.Sublist.refl _, List.Sublist.refl _, List.Sublist.refl _, by simp, by simp,
      by simp⟩
  | cons v vars ih =>
    rw [List.foldlM_cons] at h
    obtain ⟨acc1, os1, hstep, hrest⟩ := (StateExcept.bind_ok _ _ _ _ _).1 h
    obtain ⟨lb, ld, la, h1, h2, h3, k1, k2, k3⟩ := ih acc1 os1 hrest
    obtain ⟨sub, B, D, A⟩ := acc
    obtain ⟨_, sub', p, b, d, a, _, _, hres⟩ := motionStepM_ok s ps R C lin pset L sub B D A v os os1 acc1 hstep
    subst hres
    simp only at k1 k2 k3 ⊢
    refine ⟨optKey b v ++ lb, optKey d v ++ ld,
      (if !L.noEffect then optKey a v else []) ++ la, ?_, ?_, ?_, ?_, ?_, ?_⟩
    · cases b with
      | none => exact List.Sublist.cons _ h1
      | some _ => exact List.Sublist.cons_cons _ h1
    · cases d with
      | none => exact List.Sublist.cons _ h2
      | some _ => exact List.Sublist.cons_cons _ h2
    · split
      · cases a with
        | none => exact List.Sublist.cons _ h3
        | some _ => exact List.Sublist.cons_cons _ h3
      · exact List.Sublist.cons _ h3
    · rw [k1, mKeys_pushOpt, List.append_assoc]
    · rw [k2, mKeys_pushOpt, List.append_assoc]
    · rw [k3]
      split
      · rw [mKeys_pushOpt, List.append_assoc]
      · simp

/-- The targets of `B`, `D`, `A` are sub-lists of the list of pending variables the loop runs over, hence
duplicate-free if that list is. -/
theorem motionFold_keys (s : Rebuild w) (ps : List (Rebuild w)) (sub : Rebuild w) (R C : List Int)
    (lin : List (Int × Expr w)) (pset : List Int) (L : OptLoop w) (pending : List Int)
    (sub' : Rebuild w) (B D A : List (Int × Expr w)) (os os' : Orders)
    (h : pending.foldlM (motionStepM s ps R C lin pset L) (sub, [], [], []) os = .ok ((sub', B, D, A), os')) :
    (mKeys B).Sublist pending ∧ (mKeys D).Sublist pending ∧ (mKeys A).Sublist pending := by
  obtain ⟨lb, ld, la, h1, h2, h3, k1, k2, k3⟩ :=
    motionFold_keys_aux s ps R C lin pset L pending _ _ os os' h
  simp only [mKeys, List.map_nil, List.nil_append] at k1 k2 k3
  simp only [mKeys]
  rw [k1, k2, k3]
  exact ⟨h1, h2, h3⟩

theorem motionFold_keys_nodup (s : Rebuild w) (ps : List (Rebuild w)) (sub : Rebuild w) (R C : List Int)
    (lin : List (Int × Expr w)) (pset : List Int) (L : OptLoop w) (pending : List Int)
    (sub' : Rebuild w) (B D A : List (Int × Expr w)) (os os' : Orders) (hnd : pending.Nodup)
    (h : pending.foldlM (motionStepM s ps R C lin pset L) (sub, [], [], []) os = .ok ((sub', B, D, A), os')) :
    (B.map (·.1)).Nodup ∧ (D.map (·.1)).Nodup ∧ (A.map (·.1)).Nodup := by
  obtain ⟨h1, h2, h3⟩ := motionFold_keys s ps sub R C lin pset L pending sub' B D A os os' h
  exact ⟨h1.nodup hnd, h2.nodup hnd, h3.nodup hnd⟩

theorem mem_possibleReads (sub : Rebuild w) (x : Int) :
    x ∈ possibleReads sub ↔
      x ∈ sub.reads ∨ ∃ kv ∈ sub.pending, x ∈ Expr.variables kv.2 ∧ x ≠ kv.1 := by
  unfold possibleReads
  generalize sub.reads = acc
  induction sub.pending generalizing acc with
  | nil => simp
  | cons kv l ih =>
    rw [List.foldl_cons, ih, mem_foldl_sIns]
    constructor
    · rintro ((h | h) | ⟨kv', hkv', h⟩)
      · exact Or.inl h
      · obtain ⟨h1, h2⟩ := List.mem_filter.1 h
        exact Or.inr ⟨kv, List.mem_cons_self, h1, by simpa using h2⟩
      · exact Or.inr ⟨kv', List.mem_cons_of_mem _ hkv', h⟩
    · rintro (h | ⟨kv', hkv', h⟩)
      · exact Or.inl (Or.inl h)
      · rcases List.mem_cons.1 hkv' with rfl | hkv'
        · exact Or.inl (Or.inr (List.mem_filter.2 ⟨h.1, by simpa using h.2⟩))
        · exact Or.inr ⟨kv', hkv', h⟩

theorem pendReads_possibleReads (sub : Rebuild w) (cond : Int) (v : Int) (p : Expr w) (x : Int)
    (hp : mGet sub.pending v = some p) (hx : x ∈ Expr.variables p) (hne : x ≠ v) :
    (sIns (possibleReads sub) cond).contains x = true := by
  simp only [List.contains_eq_mem, decide_eq_true_eq]
  rw [mem_sIns]
  right
  rw [mem_possibleReads]
  exact Or.inr ⟨(v, p), mem_of_mGet hp, hx, hne⟩

theorem reads_possibleReads (sub : Rebuild w) (cond : Int) (x : Int) (hx : x ∈ sub.reads) :
    (sIns (possibleReads sub) cond).contains x = true := by
  simp only [List.contains_eq_mem, decide_eq_true_eq]
  rw [mem_sIns, mem_possibleReads]
  exact Or.inr (Or.inl hx)

theorem cond_possibleReads (sub : Rebuild w) (cond : Int) :
    (sIns (possibleReads sub) cond).contains cond = true := by
  simp only [List.contains_eq_mem, decide_eq_true_eq]
  exact mem_sIns.2 (Or.inl rfl)

theorem mem_pendingSorted (sub su : Rebuild w) (x : Int) :
    x ∈ pendingSorted sub su ↔ x ∈ mKeys sub.pending :=
  (stableSort_perm _ _).mem_iff

theorem pendingSet_spec (sub : Rebuild w) (C : List Int) (x : Int)
    (h : ((pendingSorted sub sub).filter (fun x => !C.contains x)).contains x = false) :
    mGet sub.pending x = none ∨ C.contains x = true := by
  cases hc : C.contains x with
  | true => exact Or.inr rfl
  | false =>
    left
    cases hp : mGet sub.pending x with
    | none => rfl
    | some p =>
      have : x ∈ (pendingSorted sub sub).filter (fun x => !C.contains x) :=
        List.mem_filter.2 ⟨(mem_pendingSorted sub sub x).2 (mem_mKeys_of_mGet hp), by rw [hc]; rfl⟩
      rw [List.contains_eq_mem, decide_eq_false_iff_not] at h
      exact absurd this h

theorem nodup_pendingSorted (sub su : Rebuild w) (h : KeysAsc sub.pending) :
    (pendingSorted sub su).Nodup := by
  have hp : (pendingSorted sub su).Perm (mKeys sub.pending) := stableSort_perm _ _
  rw [hp.nodup_iff]
  unfold KeysAsc at h
  exact h.imp (fun hlt => Int.ne_of_lt hlt)

end Hpbf.OptLoop
