/-
`SK` through `finishLoop` (`finishMotionK_tri`, `finishEnd_tri`, `finishLoop_tri`, over `finishLoop_cut` of
`OptRbLoopCut`), along the whole rebuild
(`rebuild_sk_tri`, an instance of `rebuild_tri`) and for one round: `optimizeOnce_tri`, `optimizeOnce_good`.  In total
mode this is the totality of the rebuild: the two places where it is not a matter of sequencing are `constants_among`
(its argument is duplicate-free) and the `remove_pending(var).unwrap()` of the loop over the pending variables
(`motionFold_tri`).
-/
import Hpbf.Proofs.OptRbTop
import Hpbf.Proofs.OptRbCanon4
import Hpbf.Proofs.OptTotalLoop

namespace Hpbf
namespace OptProof
open Opt OptSem Ir

variable {w : Nat}

theorem canonCalcs_nil : CanonCalcs ([] : List (Int × Expr w)) := fun _ h => by cases h

theorem pushOpt_canon {l : List (Int × Expr w)} (hl : CanonCalcs l) (var : Int) {o : Option (Expr w)}
    (ho : ∀ e, o = some e → Expr.Canon e) : CanonCalcs (OptLoop.pushOpt l var o) := by
  cases o with
  | none => exact hl
  | some e =>
    intro ve hve
    simp only [OptLoop.pushOpt, List.mem_append, List.mem_singleton] at hve
    rcases hve with h | h
    · exact hl ve h
    · rw [h]; exact ho e rfl

def MotionInv (acc : Rebuild w × List (Int × Expr w) × List (Int × Expr w) × List (Int × Expr w)) : Prop :=
  Child acc.1 ∧ CanonCalcs acc.2.1 ∧ CanonCalcs acc.2.2.1 ∧ CanonCalcs acc.2.2.2

theorem motionStepM_canon {s : Rebuild w} {ps : List (Rebuild w)} {R C : List Int}
    {lin : List (Int × Expr w)} {pset : List Int} {L : OptLoop w}
    (hlin : ∀ v l, mGet lin v = some l → Expr.Canon l) (hL : LoopCanon L)
    {acc res : Rebuild w × List (Int × Expr w) × List (Int × Expr w) × List (Int × Expr w)} {var : Int}
    {os os' : Orders} (hinv : MotionInv acc)
    (h : (OptLoop.motionStepM s ps R C lin pset L acc var).run os = .ok (res, os')) : MotionInv res := by
  obtain ⟨sub, B, D, A⟩ := acc
  obtain ⟨hch, hB, hD, hA⟩ := hinv
  obtain ⟨_, sub', p, b, d, a, hrm, hlm, hres⟩ :=
    OptLoop.motionStepM_ok s ps R C lin pset L sub B D A var os os' res h
  subst hres
  have e1 : sub' = (removePending sub var).1 := by rw [hrm]
  have hp : Expr.Canon p := removePending_snd_canon hch.canon var (by rw [hrm])
  obtain ⟨cb, cd, ca⟩ := loopMotion_canon hlm hp hlin hL
  refine ⟨?_, pushOpt_canon hB var cb, pushOpt_canon hD var cd, ?_⟩
  · show Child sub'
    rw [e1]
    exact hch.step ((CStep.refl hch.wf hch.canon).removePending var)
  · show CanonCalcs (if !L.noEffect then OptLoop.pushOpt A var a else A)
    split
    · exact pushOpt_canon hA var ca
    · exact hA

theorem blockChild_child (s : Rebuild w) (cond : Int) : Child (blockChild s cond) :=
  (child_new _ _ _ _).reverseSubBlocks

theorem Child.addShift {sub : Rebuild w} (h : Child sub) (completed : Bool) (shift : Int) :
    Child (if completed then { sub with shift := sub.shift + shift } else sub) := by
  cases completed
  · exact h
  · exact h.of_fields rfl rfl rfl rfl

section
variable {H : Prop} (t : Bool) {ps : List (Rebuild w)}

theorem motionStepM_tri {s : Rebuild w} {R C : List Int} {lin : List (Int × Expr w)} {pset : List Int}
    {L : OptLoop w} (hlin : ∀ v l, mGet lin v = some l → Expr.Canon l) (hL : LoopCanon L)
    {acc : Rebuild w × List (Int × Expr w) × List (Int × Expr w) × List (Int × Expr w)} {var : Int}
    (hinv : MotionInv acc) (hk : mHas acc.1.pending var = true) :
    Tri t (OptLoop.motionStepM s ps R C lin pset L acc var)
      (fun res => MotionInv res ∧ res.1 = (removePending acc.1 var).1) := by
  refine Tri.of (fun _ => OptTotal.motionStepM_safe s ps R C lin pset L acc var hk) (fun os res os' h => ?_)
  refine ⟨motionStepM_canon hlin hL hinv h, ?_⟩
  obtain ⟨sub, B, D, A⟩ := acc
  obtain ⟨_, sub', p, b, d, a, hrm, _, hres⟩ := OptLoop.motionStepM_ok s ps R C lin pset L sub B D A var os os' res h
  subst hres
  show sub' = (removePending sub var).1
  rw [hrm]

/-- The loop of `finishLoop` over the (distinct) pending variables: every step removes the pending operation of
its own variable only, so the next variable is still pending. -/
theorem motionFold_tri {s : Rebuild w} {R C : List Int} {lin : List (Int × Expr w)} {pset : List Int}
    {L : OptLoop w} (hlin : ∀ v l, mGet lin v = some l → Expr.Canon l) (hL : LoopCanon L) (sub : Rebuild w) :
    ∀ (l : List Int) (acc : Rebuild w × List (Int × Expr w) × List (Int × Expr w) × List (Int × Expr w)),
      l.Nodup → MotionInv acc → RemPend sub acc.1 → (∀ v ∈ l, mHas acc.1.pending v = true) →
      Tri t (l.foldlM (OptLoop.motionStepM s ps R C lin pset L) acc)
        (fun res => MotionInv res ∧ RemPend sub res.1) := by
  intro l
  induction l with
  | nil => intro acc _ hinv hrem _; rw [List.foldlM_nil]; exact Tri.pure ⟨hinv, hrem⟩
  | cons v l ih =>
    intro acc hnd hinv hrem hkeys
    rw [List.foldlM_cons]
    rw [List.nodup_cons] at hnd
    refine (motionStepM_tri t hlin hL hinv (hkeys v (by simp))).bind (fun acc' h' => ?_)
    refine ih acc' hnd.2 h'.1 (by rw [h'.2]; exact hrem.step v) (fun u hu => ?_)
    have hne : u ≠ v := fun h => hnd.1 (h ▸ hu)
    obtain ⟨e, he⟩ := (mHas_iff _ _).1 (hkeys u (List.mem_cons_of_mem _ hu))
    rw [mHas_iff]
    refine ⟨e, ?_⟩
    rw [h'.2, removePending_pending _ v, mGet_mErase hinv.1.wf.pend, if_neg (fun h => hne h.symm)]
    exact he

omit t in
theorem motionFold_rem {s : Rebuild w} {R C : List Int} {lin : List (Int × Expr w)}
    {pset : List Int} {L : OptLoop w} (sub : Rebuild w) (l : List Int)
    {acc : Rebuild w × List (Int × Expr w) × List (Int × Expr w) × List (Int × Expr w)}
    (h : RemPend sub acc.1) :
    Tri false (l.foldlM (OptLoop.motionStepM s ps R C lin pset L) acc) (fun res => RemPend sub res.1) := by
  refine Tri.foldlM (t := false)
    (fun (acc : Rebuild w × List (Int × Expr w) × List (Int × Expr w) × List (Int × Expr w)) => RemPend sub acc.1)
    _ l (fun acc var _ hacc => Tri.of nofun (fun os res os' hr => ?_)) h
  obtain ⟨sb, B, D, A⟩ := acc
  obtain ⟨_, sub', p, b, d, a, hrm, _, hres⟩ := OptLoop.motionStepM_ok s ps R C lin pset L sb B D A var os os' res hr
  subst hres
  have e1 : sub' = (removePending sb var).1 := by rw [hrm]
  show RemPend sub sub'
  rw [e1]
  exact hacc.step var

/-- `constants_among` is total because the list of variables handed to it is duplicate-free (`reads` ascending,
pending keys distinct). -/
theorem finishMotionK_tri {s sub : Rebuild w} {cond : Int} {L : OptLoop w} {k : MidRes w → M (Rebuild w)}
    {Q : Rebuild w → Prop} {X : Rebuild w → Rebuild w → Prop} (hsub : ChildK H sub)
    (hsasc : t = true → OptLoop.SAsc sub.reads) (hL : LoopCanon L)
    (hperf : ∀ sub1 D, RemPend sub sub1 → Child sub1 → CanonCalcs D →
      Tri t (performAll sub1 (s :: ps) 0 D) (X sub1))
    (hk : ∀ (r : MidRes w) sub1, RemPend sub sub1 → X sub1 r.1 → ChildK H r.1 → CanonCalcs r.2.1 →
      CanonCalcs r.2.2.1 → Tri t (k r) Q) :
    Tri t (finishMotionK s ps sub cond L k) Q := by
  unfold finishMotionK
  dsimp only
  -- totality here is not sequencing: `nodup_constVars` needs `SAsc reads`, which is what `RS` is carried for
  refine (Tri.lift (Q := fun _ => True) (fun ht => OptTotal.constantsAmong_ok s ps sub _
    (OptLoop.nodup_constVars sub cond (hsasc ht) hsub.wf.pend) (OptTotal.compare_ok ps s))
    (fun _ _ => trivial)).bind (fun constant _ => ?_)
  refine (motionFold_tri t (fun v l h => linearAmong_canon_get hsub.canon _ _ h) hL sub (pendingSorted sub sub)
    (sub, [], [], []) (OptLoop.nodup_pendingSorted sub sub hsub.wf.pend)
    ⟨hsub.toChild, canonCalcs_nil, canonCalcs_nil, canonCalcs_nil⟩ (RemPend.refl sub) (fun v hv => ?_)).bind
    (fun acc hacc => ?_)
  · unfold mHas
    exact (mGet_isSome_iff _ _).2 ((OptLoop.mem_pendingSorted sub sub v).1 hv)
  · obtain ⟨sub1, B, D, A⟩ := acc
    obtain ⟨⟨hch, hB, hD, hA⟩, hrem⟩ := hacc
    dsimp only
    have hK1 : ChildK H sub1 := hsub.step (hrem.sk (SK.refl hsub.wf hsub.canon))
    refine ((performAll_tri t (s :: ps) 0 hch.wf hch.canon hD (H := H)).and (hperf sub1 D hrem hch hD)).bind
      (fun sub2 r5 => ?_)
    exact Tri.bind (P := fun x => x = (sub2, B, A, constant)) (Tri.pure rfl)
      (fun x hx => by subst hx; exact hk _ sub1 hrem r5.2 (hK1.step r5.1) hB hA)

theorem finishEnd_tri {s : Rebuild w} {cond : Int} {L : OptLoop w} {r : MidRes w} (hwf : Wf s) (hc : CanonSt s)
    (hsub : ChildK H r.1) (hbefore : CanonCalcs r.2.1) (hafter : CanonCalcs r.2.2.1) :
    Tri t (finishEnd s ps cond L r) (SK H s) := by
  obtain ⟨sub, before, after, constant⟩ := r
  unfold finishEnd
  refine (sk_along H).tri_bind (s := s) ⟨hwf, hc⟩ (performAll_tri t ps 0 hwf hc hbefore) (fun s1 h1 => ?_)
  split
  · exact loopInsideIf_tri t h1.1 h1.2 hsub.forgetParent hafter
  · exact (loopInsideIf_tri t (wf_new _ _ _ _) (canonSt_new _ _ _ _) hsub.forgetParent hafter (H := H)).bind
      (fun ifS r2 => loopOrIf_tri t h1.1 h1.2 ((child_new s1.shift (some cond) .unknown none).step r2.c))

theorem finishLoop_tri {s sub : Rebuild w} {cond : Int} {isLoop : Bool} (hwf : Wf s) (hc : CanonSt s)
    (hsub : ChildK H sub) (hsasc : t = true → OptLoop.SAsc sub.reads) :
    Tri t (finishLoop s ps sub cond isLoop) (SK H s) := by
  rw [finishLoop_cut]
  split
  · exact Tri.pure (SK.refl hwf hc)
  · split
    · exact Tri.bind (P := fun x => x = (sub, [], [], [])) (Tri.pure rfl)
        (fun x hx => by subst hx; exact finishEnd_tri t hwf hc hsub canonCalcs_nil canonCalcs_nil)
    · exact finishMotionK_tri (X := fun _ _ => True) t hsub hsasc
        (analyzeLoop_canon s ps sub cond isLoop)
        (fun _ _ _ hch hD => (performAll_tri t (s :: ps) 0 hch.wf hch.canon hD (H := H)).mono (fun _ _ => trivial))
        (fun r _ _ _ a b c => finishEnd_tri t hwf hc a b c)

omit t in
theorem ChildK.addShift {sub : Rebuild w} (h : ChildK H sub) (completed : Bool) (shift : Int) :
    ChildK H (addShift (sub, completed) shift) := by
  unfold OptProof.addShift
  cases completed
  · exact h
  · exact h.of_fields rfl rfl rfl rfl rfl rfl

omit t in
theorem blockChild_childK (s : Rebuild w) (cond : Int) :
    ChildK H (blockChild s cond) ∧ (blockChild s cond).reads = [] := by
  have hrev := reverseSubBlocks_fields
    (Rebuild.new (popSubAnal s).1.shift (some (cond + s.shift)) .parent (popSubAnal s).2 : Rebuild w)
  exact ⟨(childK_new _ _ _ _).of_fields hrev.pending hrev.written hrev.reverse hrev.insts hrev.subShift hrev.reads,
    hrev.reads⟩

omit t in
theorem popSubAnal_sk {s : Rebuild w} (hwf : Wf s) (hc : CanonSt s) : SK H s (popSubAnal s).1 := by
  have hpop := popSubAnal_same s
  exact (SK.refl hwf hc).fields hpop.pending hpop.written hpop.reverse hpop.insts hpop.subShift hpop.reads

end

theorem rebuild_sk_tri (t : Bool) :
    (∀ (i : Instr w) (ps : List (Rebuild w)) (s : Rebuild w), Wf s ∧ CanonSt s ∧ CanonL [i] →
      Tri t (rebuildInstr ps s i) (SK True s)) ∧
    ∀ (l : List (Instr w)) (ps : List (Rebuild w)) (s : Rebuild w), Wf s ∧ CanonSt s ∧ CanonL l →
      Tri t (rebuildInsts ps s l) (fun r => SK True s r.1) := by
  refine rebuild_tri (Pre := fun _ l s => Wf s ∧ CanonSt s ∧ CanonL l) (R := fun _ _ s s' => SK True s s')
    (fun _ _ _ h => SK.refl h.1 h.2.1) (fun _ _ _ _ _ _ _ => SK.trans)
    (fun _ _ _ _ h => ⟨h.1, h.2.1, canonL_single.2 (canonL_cons.1 h.2.2).1⟩)
    (fun _ _ _ _ _ h r => ⟨r.wf, r.canon, (canonL_cons.1 h.2.2).2⟩)
    (fun ps _ _ hb h => rebuildInstr_plain_tri t ps hb h.1 h.2.1 h.2.2) ?_ ?_
  · intro ps s i cond shift body hp h
    refine ⟨(blockChild_child s cond).wf, (blockChild_child s cond).canon, ?_⟩
    cases i <;> cases hp
    · exact canonL_loop.1 h.2.2
    · exact canonL_ifnz.1 h.2.2
  · intro ps s i cond shift body isLoop r hp h hr
    obtain ⟨sub, completed⟩ := r
    obtain ⟨hK0, hrd0⟩ := blockChild_childK (H := True) s cond
    have r0 := popSubAnal_sk (H := True) h.1 h.2.1
    refine (finishLoop_tri t r0.wf r0.canon ((hK0.step hr).addShift completed shift) (fun _ => ?_)).mono
      (fun _ r1 => r0.trans r1)
    have : OptLoop.SAsc sub.reads := hr.sasc (by rw [hrd0]; exact List.Pairwise.nil)
    unfold addShift
    split <;> exact this

theorem rebuildInsts_sk_all {ps : List (Rebuild w)} (l : List (Instr w)) {s : Rebuild w}
    {os os' : Orders} {s' : Rebuild w} {done : Bool}
    (hr : (rebuildInsts ps s l).run os = .ok ((s', done), os')) (hwf : Wf s) (hc : CanonSt s)
    (hcl : CanonL l) : SK True s s' :=
  ((rebuild_sk_tri false).2 l ps s ⟨hwf, hc, hcl⟩).post hr

theorem rebuildInstr_sk_all {ps : List (Rebuild w)} {s : Rebuild w} (i : Instr w) {os os' : Orders}
    {s' : Rebuild w} (hr : (rebuildInstr ps s i).run os = .ok (s', os')) (hwf : Wf s) (hc : CanonSt s)
    (hci : CanonL [i]) : SK True s s' :=
  ((rebuild_sk_tri false).1 i ps s ⟨hwf, hc, hci⟩).post hr

theorem rebuildInsts_cstep_all {ps : List (Rebuild w)} (l : List (Instr w)) {s : Rebuild w}
    {os os' : Orders} {s' : Rebuild w} {done : Bool}
    (hr : (rebuildInsts ps s l).run os = .ok ((s', done), os')) (hwf : Wf s) (hc : CanonSt s)
    (hcl : CanonL l) : CStep s s' :=
  (rebuildInsts_sk_all l hr hwf hc hcl).c

theorem rebuildInsts_canon {ps : List (Rebuild w)} (l : List (Instr w)) (hl : StraightL l)
    {s : Rebuild w} {os os' : Orders} {s' : Rebuild w} {done : Bool}
    (hr : (rebuildInsts ps s l).run os = .ok ((s', done), os')) (hwf : Wf s) (hc : CanonSt s)
    (hcl : CanonL l) (hnr : s.noReturn = false) :
    CanonSt s' ∧ ∃ new, s'.insts = s.insts ++ new ∧ GoodL new :=
  (rebuildInsts_cstep_all l hr hwf hc hcl).out

theorem rebuildInsts_knownVars {ps : List (Rebuild w)} (l : List (Instr w)) {s : Rebuild w}
    {os os' : Orders} {s' : Rebuild w} {done : Bool}
    (hr : (rebuildInsts ps s l).run os = .ok ((s', done), os')) (hwf : Wf s) (hc : CanonSt s)
    (hcl : CanonL l) (hk : KnownVars s) : Wf s' ∧ KnownVars s' :=
  ⟨(rebuildInsts_sk_all l hr hwf hc hcl).wf, (rebuildInsts_sk_all l hr hwf hc hcl).known hk⟩

/-- The field `reads` is only ever extended by `sIns`. -/
theorem rebuildInsts_sasc_all {ps : List (Rebuild w)} (l : List (Instr w)) {s : Rebuild w}
    {os os' : Orders} {s' : Rebuild w} {completed : Bool}
    (hr : (rebuildInsts ps s l).run os = .ok ((s', completed), os')) (hwf : Wf s) (hc : CanonSt s)
    (hcl : CanonL l) (hs : OptLoop.SAsc s.reads) : OptLoop.SAsc s'.reads :=
  (rebuildInsts_sk_all l hr hwf hc hcl).sasc hs

theorem rebuildBlock_tri (t : Bool) {ps : List (Rebuild w)} {s : Rebuild w} {b : Block w} (hwf : Wf s)
    (hc : CanonSt s) (hcl : CanonL b.insts) : Tri t (rebuildBlock ps s b) (SK True s) := by
  unfold rebuildBlock
  have hrev := reverseSubBlocks_fields s
  have r0 := (SK.refl hwf hc (H := True)).fields hrev.pending hrev.written hrev.reverse hrev.insts hrev.subShift
    hrev.reads
  refine ((rebuild_sk_tri t).2 b.insts ps _ ⟨r0.wf, r0.canon, hcl⟩).bind (fun ⟨s1, done⟩ r1 => Tri.pure ?_)
  split
  · exact (r0.trans r1).fields rfl rfl rfl rfl rfl rfl
  · exact r0.trans r1

theorem optimizeOnce_tri (t : Bool) (b : Block w) (prevAnal : OptAnalysis w) (hcl : CanonL b.insts) :
    Tri t (optimizeOnce b prevAnal) (fun r => GoodL r.1.insts) := by
  unfold optimizeOnce
  refine (rebuildBlock_tri t (wf_new _ _ _ _) (canonSt_new _ _ _ _) hcl).bind (fun st r => Tri.pure ?_)
  obtain ⟨new, e, g⟩ := r.c.insts
  show GoodL st.insts
  rw [e]
  exact goodL_append.2 ⟨goodL_nil, g⟩

theorem optimizeOnce_good {b : Block w} {prevAnal : OptAnalysis w} {os os' : Orders} {b' : Block w}
    {anal' : OptAnalysis w} (hr : (optimizeOnce b prevAnal).run os = .ok ((b', anal'), os'))
    (hcl : CanonL b.insts) : GoodL b'.insts :=
  (optimizeOnce_tri false b prevAnal hcl).post hr

theorem optimizeOnce_canonL {b : Block w} {prevAnal : OptAnalysis w} {os os' : Orders} {b' : Block w}
    {anal' : OptAnalysis w} (hr : (optimizeOnce b prevAnal).run os = .ok ((b', anal'), os'))
    (hcl : CanonL b.insts) : CanonL b'.insts := goodL_canonL _ (optimizeOnce_good hr hcl)

theorem optimizeOnce_noDupTargets {b : Block w} {prevAnal : OptAnalysis w} {os os' : Orders} {b' : Block w}
    {anal' : OptAnalysis w} (hr : (optimizeOnce b prevAnal).run os = .ok ((b', anal'), os'))
    (hcl : CanonL b.insts) : C01Dse.NoDupTargets b' := goodL_noDup _ (optimizeOnce_good hr hcl)

theorem optimizeOnce_parse_good {src : List Kind} {b : Block w} (hp : Ir.parse (w := w) src = .ok b)
    {prevAnal : OptAnalysis w} {os os' : Orders} {b' : Block w} {anal' : OptAnalysis w}
    (hr : (optimizeOnce b prevAnal).run os = .ok ((b', anal'), os')) : GoodL b'.insts :=
  optimizeOnce_good hr (parse_canonL hp)

#print axioms rebuildInsts_canon
#print axioms rebuildInsts_cstep_all
#print axioms rebuildInsts_sk_all
#print axioms rebuildInsts_sasc_all
#print axioms optimizeOnce_good

end OptProof
end Hpbf
