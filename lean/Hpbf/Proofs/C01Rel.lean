/-
C01, level 0: the relation between a state of the canonical machine and a state of the IR
interpreter for a given parser frame, and how single commands / flushed instructions preserve it.
-/
import Hpbf.Proofs.C01Exec

namespace Hpbf
namespace C01
open Ir Sim

variable {w : Nat} {D : Int → BitVec w} {f : Fr w} {sb si : State w}

def Runs (l : List (Instr w)) (si si' : State w) : Prop :=
  ∃ n, ∀ (rest : List (Instr w)) (ks : List (Cont w)) (bud : Nat),
    Steps (IrM w) n ⟨l ++ rest, ks, bud, si⟩ ⟨rest, ks, bud, si'⟩

theorem Runs.nil (si : State w) : Runs [] si si := ⟨0, fun _ _ _ => Steps.refl _⟩

theorem Runs.append {l1 l2 : List (Instr w)} {s1 s2 s3 : State w} (h1 : Runs l1 s1 s2)
    (h2 : Runs l2 s2 s3) : Runs (l1 ++ l2) s1 s3 := by
  obtain ⟨n1, h1⟩ := h1
  obtain ⟨n2, h2⟩ := h2
  exact ⟨n1 + n2, fun rest ks bud => by
    rw [List.append_assoc]; exact (h1 _ ks bud).trans (h2 rest ks bud)⟩

theorem Runs.add (k : Int) (v : BitVec w) (si : State w) :
    Runs [Instr.add k v] si (si.wr k (v + si.rd k)) :=
  ⟨1, fun rest ks bud => Steps.one (step_add k v rest ks bud si)⟩

/-- `sb` (canonical) and `si` (IR) agree up to the pending increments of frame `f` (relative to the
IR pointer) and the pending increments `D` of the enclosing frames (absolute cell indices). -/
structure StRel (D : Int → BitVec w) (f : Fr w) (sb si : State w) : Prop where
  env : sb.env = si.env
  trace : sb.trace = si.trace
  ptr : sb.ptr = si.ptr + f.shift
  tape : ∀ x, sb.tape.get x = si.tape.get x + pend f.buff (x - si.ptr) + D x

theorem StRel.rd0 (h : StRel D f sb si)
    (hp : pend f.buff f.shift = 0#w) (hD : D (si.ptr + f.shift) = 0#w) : sb.rd 0 = si.rd f.shift := by
  unfold State.rd
  rw [Int.add_zero, h.ptr, h.tape, hD]
  rw [add_sub_self, hp]; simp

theorem StRel.congr_buff (h : StRel D f sb si)
    (b' : List (Int × BitVec w)) (hb : ∀ a, pend b' a = pend f.buff a) (mv : Bool) :
    StRel D { shift := f.shift, moved := mv, buff := b' } sb si :=
  ⟨h.env, h.trace, h.ptr, fun x => by rw [h.tape x]; simp only [hb]⟩

/-- The relation survives a change of one cell: `sb'`, `si'` and `b'` differ from `sb`, `si` and `f.buff`
at most at the IR offset `k`, and there the defining equation holds. -/
theorem StRel.of_cell {sb' si' : State w} (h : StRel D f sb si)
    (k : Int) {b' : List (Int × BitVec w)} {mv : Bool}
    (henv : sb'.env = si'.env) (htr : sb'.trace = si'.trace) (hpb : sb'.ptr = sb.ptr)
    (hpi : si'.ptr = si.ptr) (hb : ∀ a, a ≠ k → pend b' a = pend f.buff a)
    (htb : ∀ x, x ≠ si.ptr + k → sb'.tape.get x = sb.tape.get x)
    (hti : ∀ x, x ≠ si.ptr + k → si'.tape.get x = si.tape.get x)
    (hk : sb'.tape.get (si.ptr + k) = si'.tape.get (si.ptr + k) + pend b' k + D (si.ptr + k)) :
    StRel D { shift := f.shift, moved := mv, buff := b' } sb' si' := by
  refine ⟨henv, htr, by rw [hpb, hpi]; exact h.ptr, fun x => ?_⟩
  rw [hpi]
  by_cases hx : x = si.ptr + k
  · subst hx; rw [hk, add_sub_self]
  · rw [htb x hx, hti x hx]
    show _ = _ + pend b' (x - si.ptr) + _
    rw [hb _ (by omega)]; exact h.tape x

theorem StRel.silent (h : StRel D f sb si)
    (op : Op) (hop : op = .inc ∨ op = .dec ∨ op = .left ∨ op = .right) :
    (Bf.applyOp op sb).1 = true ∧ (Bf.applyOp op sb).2.trace = sb.trace ∧
      (compOp op f).1 = [] ∧ StRel D (compOp op f).2 (Bf.applyOp op sb).2 si := by
  have hp : sb.ptr + 0 = si.ptr + f.shift := by rw [Int.add_zero]; exact h.ptr
  have key : ∀ d : BitVec w,
      StRel D { f with buff := bset f.buff f.shift (pend f.buff f.shift + d) } (sb.wr 0 (sb.rd 0 + d)) si := by
    intro d
    refine h.of_cell f.shift h.env h.trace rfl rfl (fun a ha => by rw [pend_bset, if_neg ha])
      (fun x hx => by rw [tape_wr, hp, if_neg hx]) (fun _ _ => rfl) ?_
    rw [tape_wr, hp, if_pos rfl, pend_bset, if_pos rfl]
    unfold State.rd
    rw [hp, h.tape, add_sub_self]
    ac_rfl
  rcases hop with rfl | rfl | rfl | rfl
  · exact ⟨rfl, rfl, rfl, key 1#w⟩
  · exact ⟨rfl, rfl, rfl, key (-1#w)⟩
  · refine ⟨rfl, rfl, rfl, h.env, h.trace, ?_, h.tape⟩
    show sb.ptr + -1 = si.ptr + (f.shift - 1)
    rw [h.ptr, Int.add_assoc]; rfl
  · refine ⟨rfl, rfl, rfl, h.env, h.trace, ?_, h.tape⟩
    show sb.ptr + 1 = si.ptr + (f.shift + 1)
    rw [h.ptr, Int.add_assoc]

theorem StRel.add_step (h : StRel D f sb si)
    (k : Int) (b' : List (Int × BitVec w))
    (hb : ∀ a, pend b' a = if a = k then 0#w else pend f.buff a) :
    StRel D { f with buff := b' } sb (si.wr k (pend f.buff k + si.rd k)) := by
  refine h.of_cell k h.env h.trace rfl rfl (fun a ha => by rw [hb, if_neg ha]) (fun _ _ => rfl)
    (fun x hx => by rw [tape_wr, if_neg hx]) ?_
  rw [tape_wr, if_pos rfl, hb, if_pos rfl, h.tape, add_sub_self]
  unfold State.rd
  simp only [BitVec.add_zero]
  ac_rfl

theorem flushOne_exec (h : StRel D f sb si) (k : Int) :
    ∃ si', Runs (flushOneI f.buff k).1 si si' ∧
      StRel D { f with buff := (flushOneI f.buff k).2 } sb si' ∧ si'.ptr = si.ptr := by
  rcases flushOneI_cases f.buff k with ⟨_, hf⟩ | hf
  · rw [hf]; exact ⟨si, Runs.nil si, h, rfl⟩
  · rw [hf]
    have hb := fun a => pend_bset f.buff k a 0#w
    by_cases hv : pend f.buff k = 0#w
    · rw [hv, addsOf_cons_zero]
      refine ⟨si, Runs.nil si, h.congr_buff _ (fun a => ?_) f.moved, rfl⟩
      rw [hb]; split
      · rename_i ha; rw [ha, hv]
      · rfl
    · rw [addsOf_cons_ne k hv]
      exact ⟨_, Runs.add k _ si, h.add_step k _ hb, rfl⟩

theorem flushMany_exec (l : List Int) : ∀ {f : Fr w} {sb si : State w},
    StRel D f sb si →
    ∃ si', Runs (flushManyI f.buff l).1 si si' ∧
      StRel D { f with buff := (flushManyI f.buff l).2 } sb si' ∧ si'.ptr = si.ptr := by
  induction l with
  | nil => intro f sb si h; exact ⟨si, Runs.nil si, h, rfl⟩
  | cons k l ih =>
    intro f sb si h
    obtain ⟨si1, hs1, hr1, hp1⟩ := flushOne_exec h k
    obtain ⟨si2, hs2, hr2, hp2⟩ := ih hr1
    exact ⟨si2, hs1.append hs2, hr2, by rw [hp2, hp1]⟩

theorem adds_exec (l : List (Int × BitVec w)) : (keys l).Nodup → ∀ (si : State w),
    ∃ si', Runs (addsOf l) si si' ∧ si'.ptr = si.ptr ∧ si'.env = si.env ∧ si'.trace = si.trace ∧
      ∀ x, si'.tape.get x = si.tape.get x + pend l (x - si.ptr) := by
  induction l with
  | nil =>
    intro _ si
    exact ⟨si, Runs.nil si, rfl, rfl, rfl, by intro x; simp⟩
  | cons kv l ih =>
    obtain ⟨k, v⟩ := kv
    intro hn si
    simp only [keys, List.map_cons, List.nodup_cons] at hn
    have hk0 : pend l k = 0#w := pend_of_not_mem hn.1
    have hpc : ∀ a, pend ((k, v) :: l) a = if a = k then v else pend l a := by
      intro a
      unfold pend
      simp only [bget]
      by_cases ha : a = k
      · subst ha; simp
      · have : ¬ k = a := fun e => ha e.symm
        simp [ha, this]
    by_cases hv : v = 0#w
    · subst hv
      rw [addsOf_cons_zero]
      obtain ⟨si', hs, h1, h2, h3, h4⟩ := ih hn.2 si
      refine ⟨si', hs, h1, h2, h3, ?_⟩
      intro x
      rw [h4, hpc]
      by_cases ha : x - si.ptr = k
      · simp [ha, hk0]
      · simp [ha]
    · rw [addsOf_cons_ne k hv]
      obtain ⟨si', hs, h1, h2, h3, h4⟩ := ih hn.2 (si.wr k (v + si.rd k))
      refine ⟨si', (Runs.add k v si).append hs, h1, h2, h3, ?_⟩
      intro x
      rw [h4, hpc, tape_wr]
      have hp : (si.wr k (v + si.rd k)).ptr = si.ptr := rfl
      rw [hp]
      by_cases hx : x = si.ptr + k
      · have hx' : x - si.ptr = k := by omega
        rw [if_pos hx, if_pos hx', hx', hk0]
        unfold State.rd
        rw [← hx]
        simp only [BitVec.add_zero]
        ac_rfl
      · have hx' : ¬ x - si.ptr = k := by omega
        rw [if_neg hx, if_neg hx']

/-- `b'` (any buffer with nothing pending) and `mv` are free so that one statement serves both the end of a block
(`[]`) and the parent of an unbalanced loop (all entries zeroed, `moved`). -/
theorem flushAll_exec (hn : (keys f.buff).Nodup)
    (h : StRel D f sb si) (b' : List (Int × BitVec w)) (hb : ∀ a, pend b' a = 0#w) (mv : Bool) :
    ∃ si', Runs (addsOf (bsorted f.buff)) si si' ∧
      StRel D { shift := f.shift, moved := mv, buff := b' } sb si' ∧ si'.ptr = si.ptr := by
  obtain ⟨si', hs, h1, h2, h3, h4⟩ := adds_exec (bsorted f.buff) (nodup_keys_bsorted hn) si
  refine ⟨si', hs, ⟨by rw [h2]; exact h.env, by rw [h3]; exact h.trace, by rw [h1]; exact h.ptr, ?_⟩, h1⟩
  intro x
  rw [h4, h1, hb, h.tape, pend_bsorted hn]
  simp

theorem output_rel (h : StRel D f sb si)
    (hrd : sb.rd 0 = si.rd f.shift) :
    (sb.output 0).1 = (si.output f.shift).1 ∧ StRel D f (sb.output 0).2 (si.output f.shift).2 := by
  unfold State.output
  simp only [hrd, h.env]
  split
  · split
    · exact ⟨rfl, rfl, by simp [h.trace], h.ptr, h.tape⟩
    · exact ⟨rfl, rfl, by simp [h.trace], h.ptr, h.tape⟩
  · exact ⟨rfl, h.env, h.trace, h.ptr, h.tape⟩

theorem input_rel (h : StRel D f sb si)
    (hD : D (si.ptr + f.shift) = 0#w) :
    (sb.input 0).1 = (si.input f.shift).1 ∧
      (sb.input 0).2.trace = (si.input f.shift).2.trace ∧
      ((sb.input 0).1 = true →
        StRel D { f with buff := bset f.buff f.shift 0#w } (sb.input 0).2 (si.input f.shift).2 ∧
        (si.input f.shift).2.ptr = si.ptr) := by
  unfold State.input
  simp only [h.env]
  split
  · rename_i b e he
    have hp := h.ptr
    refine ⟨rfl, by simp [h.trace], fun _ => ⟨?_, rfl⟩⟩
    refine h.of_cell f.shift rfl (by simp [h.trace]) rfl rfl (fun a ha => by rw [pend_bset, if_neg ha])
      (fun x hx => by rw [tape_wr, if_neg (by omega)]) (fun x hx => by rw [tape_wr, if_neg hx]) ?_
    rw [tape_wr, if_pos (by omega), tape_wr, if_pos rfl, pend_bset, if_pos rfl, hD]
    simp
  · exact ⟨rfl, by simp [h.trace], fun hc => by simp at hc⟩
  · exact ⟨rfl, h.trace, fun hc => by simp at hc⟩

end C01
end Hpbf
