/-
C01, level 0: the simulation between the canonical machine running the bracket tree `p` and
the IR interpreter running `Ir.parse` of the same text, and its consequences.
-/
import Hpbf.Proofs.C01Special

namespace Hpbf
namespace C01
open Ir Sim

variable {w : Nat}

theorem block_nil (f : Fr w) : block .nil f = addsOf (bsorted f.buff) := by
  simp [block, comp]

theorem block_cmd (op : Op) (r : Prog) (f : Fr w) :
    block (.cmd op r) f = (compOp op f).1 ++ block r (compOp op f).2 := by
  simp [block, comp, List.append_assoc]

theorem block_loop (b r : Prog) (f : Fr w) :
    block (.loop b r) f =
      (closeI (comp b (fresh f.shift)).1 (comp b (fresh f.shift)).2 f).1 ++
        block r (closeI (comp b (fresh f.shift)).1 (comp b (fresh f.shift)).2 f).2 := by
  simp [block, comp, List.append_assoc]

theorem closeI_special {ib : List (Instr w)} {fb par : Fr w} (hs : isSpecial ib fb par = true) :
    closeI ib fb par = ([Instr.load par.shift 0#w], { par with buff := bset par.buff par.shift 0#w }) := by
  unfold closeI; rw [if_pos hs]

theorem closeI_general_exec {ib : List (Instr w)} {fb par : Fr w} {D : Int → BitVec w} {sb si : State w}
    (hs : isSpecial ib fb par = false) (hwf : WF par) (h : StRel D par sb si) :
    ∃ l si', (closeI ib fb par).1 =
        l ++ [.loop par.shift (fb.shift - par.shift) (bodyInsts ib fb) false] ∧
      Runs l si si' ∧ StRel D (closeI ib fb par).2 sb si' ∧ si'.ptr = si.ptr := by
  unfold closeI
  rw [if_neg (by simp [hs])]
  obtain ⟨si1, hs1, hr1, hp1⟩ := flushMany_exec ((bsorted fb.buff).map (·.1)) h
  have hn1 : (keys (flushManyI par.buff ((bsorted fb.buff).map (·.1))).2).Nodup := nodup_flushManyI _ _ hwf
  by_cases hu : unb fb par = true
  · simp only [hu, if_true]
    obtain ⟨si2, hs2, hr2, hp2⟩ := flushAll_exec hn1 hr1
      ((flushManyI par.buff ((bsorted fb.buff).map (·.1))).2.map (fun kv => (kv.1, 0#w)))
      (pend_map_zero _) true
    obtain ⟨si3, hs3, hr3, hp3⟩ := flushOne_exec hr2 par.shift
    exact ⟨_, si3, rfl, (hs1.append hs2).append hs3, hr3, by rw [hp3, hp2, hp1]⟩
  · have hu' : unb fb par = false := by simpa using hu
    simp only [hu', Bool.false_eq_true, if_false]
    obtain ⟨si3, hs3, hr3, hp3⟩ := flushOne_exec hr1 par.shift
    exact ⟨_, si3, rfl, (hs1.append (Runs.nil si1)).append hs3, hr3, by rw [hp3, hp1]⟩

/-- The pending increments `D` of the enclosing frames do not touch what the current block (with
final frame `E`, running with IR pointer `base`) reads or writes. On the FINAL frame: keys and `moved` only grow
along a block (`comp_le`), so this is kept by every step and covers every cell the rest of the block flushes. -/
def Compat (D : Int → BitVec w) (E : Fr w) (base : Int) : Prop :=
  (E.moved = true → ∀ x, D x = 0#w) ∧ (∀ a, a ∈ keys E.buff → D (base + a) = 0#w)

theorem Compat.rebase {D : Int → BitVec w} {E : Fr w} {b1 : Int} (h : Compat D E b1)
    (hm : E.moved = true) (b2 : Int) : Compat D E b2 :=
  ⟨h.1, fun _ _ => h.1 hm _⟩

/-- Relation between the continuation stacks.  `D'` is the sum of the pending increments of all
enclosing frames, `E` the final frame of the innermost block, `base` the IR pointer in it.
In `cons`, `P` is the parent frame as `closeI` leaves it (the premises on it come from `ClosedProps` and
`GeneralProps`), `sh` the offset of the loop cell, `basePar` the IR pointer of the parent block, `D` what is
pending further out.  The loop cell and every cell the body has a key for have nothing pending in `P`, so the
loop test and the body read true values; if the body is unbalanced nothing at all is pending in `P`, otherwise
the body runs at the pointer of the parent (`base = basePar`). -/
inductive ContsRel : (Int → BitVec w) → Fr w → Int → List Prog → List (Cont w) → Prop
  | nil {D : Int → BitVec w} {E : Fr w} {base : Int} : (∀ x, D x = 0#w) → ContsRel D E base [] []
  | cons {D' : Int → BitVec w} {E : Fr w} {base : Int} (D : Int → BitVec w) (P : Fr w) (sh basePar : Int)
      (b rest : Prog) (ks : List Prog) (iks : List (Cont w)) :
      P.shift = sh → WF P →
      E = (comp b (fresh sh)).2 →
      sh ∈ keys P.buff → pend P.buff sh = 0#w →
      (∀ a, a ∈ keys E.buff → a ∈ keys P.buff ∧ pend P.buff a = 0#w) →
      (unb E P = true → P.moved = true ∧ ∀ a, pend P.buff a = 0#w) →
      (unb E P = false → base = basePar) →
      (∀ x, D' x = D x + pend P.buff (x - basePar)) →
      Compat D (comp rest P).2 basePar →
      ContsRel D (comp rest P).2 basePar ks iks →
      ContsRel D' E base (.loop b rest :: ks)
        (.loopEnd sh (E.shift - sh) (block b (fresh sh)) (block rest P) :: iks)

theorem ContsRel.rebase {D : Int → BitVec w} {E : Fr w} {b1 : Int} {ks : List Prog} {iks : List (Cont w)}
    (h : ContsRel D E b1 ks iks) (hm : E.moved = true) (b2 : Int) : ContsRel D E b2 ks iks := by
  cases h with
  | nil h0 => exact ContsRel.nil h0
  | cons D0 P sh basePar b rest ks iks h1 h2 h3 h4 h5 h6 h7 h8 h9 h10 h11 =>
    refine ContsRel.cons D0 P sh basePar b rest ks iks h1 h2 h3 h4 h5 h6 h7 ?_ h9 h10 h11
    intro hu
    simp [unb, hm] at hu

def R (cb : Bf.Config w) (ci : Ir.Cfg w) : Prop :=
  ∃ (D : Int → BitVec w) (f : Fr w), WF f ∧ ci.cur = block cb.cur f ∧ StRel D f cb.st ci.st ∧
    Compat D (comp cb.cur f).2 ci.st.ptr ∧ ContsRel D (comp cb.cur f).2 ci.st.ptr cb.conts ci.conts

/-- The canonical machine steps alone only on `+ - < >` (`chunk_silent`), and each of them shortens `cur`. -/
def mu (cb : Bf.Config w) : Nat := Prog.size cb.cur

abbrev CH (w : Nat) := Chunk (BfM w) (IrM w) (R (w := w)) (mu (w := w))

theorem tr_eq_of_R {cb : Bf.Config w} {ci : Ir.Cfg w} (h : R cb ci) : (BfM w).tr cb = (IrM w).tr ci := by
  obtain ⟨D, f, _, _, hst, _, _⟩ := h
  exact hst.trace

section Cases
variable {ks : List Prog} {iks : List (Cont w)} {bud : Nat} {sb si : State w} {D : Int → BitVec w} {f : Fr w}

theorem chunk_silent {op : Op} (hop : op = .inc ∨ op = .dec ∨ op = .left ∨ op = .right)
    {r : Prog} (hwf : WF f) (hst : StRel D f sb si)
    (hc : Compat D (comp (.cmd op r) f).2 si.ptr)
    (hk : ContsRel D (comp (.cmd op r) f).2 si.ptr ks iks) :
    CH w ⟨.cmd op r, ks, sb⟩ ⟨block (.cmd op r) f, iks, bud, si⟩ := by
  obtain ⟨h1, h2, h3, h4⟩ := hst.silent op hop
  refine Chunk.silent ⟨r, ks, (Bf.applyOp op sb).2⟩ ?_ ?_ ?_ h2
  · rw [bstep_cmd, if_pos h1]
  · refine ⟨D, (compOp op f).2, compOp_wf op f hwf, ?_, h4, hc, hk⟩
    show block (.cmd op r) f = block r (compOp op f).2
    rw [block_cmd, h3]; rfl
  · show Prog.size r < Prog.size r + 1
    omega

theorem chunk_nil_halt (hwf : WF f) (hst : StRel D f sb si) :
    CH w ⟨.nil, [], sb⟩ ⟨block .nil f, [], bud, si⟩ := by
  obtain ⟨si1, ⟨n, hs1⟩, hr1, _⟩ := flushAll_exec hwf hst [] (by simp) false
  have hs1 := hs1 [] [] bud
  rw [List.append_nil, ← block_nil] at hs1
  refine Chunk.fin 0 n true sb.trace ⟨_, Steps.refl _, bstep_nil_nil sb⟩ ⟨_, hs1, ?_⟩ (by simp [BfM])
  rw [istep_end_nil, hr1.trace]

theorem chunk_out {r : Prog} (hwf : WF f) (hst : StRel D f sb si)
    (hc : Compat D (comp (.cmd .out r) f).2 si.ptr)
    (hk : ContsRel D (comp (.cmd .out r) f).2 si.ptr ks iks) :
    CH w ⟨.cmd .out r, ks, sb⟩ ⟨block (.cmd .out r) f, iks, bud, si⟩ := by
  have hwf1 : WF (compOp .out f).2 := compOp_wf .out f hwf
  have hle := (comp_le r (compOp .out f).2 hwf1).1
  obtain ⟨si1, ⟨n, hs1⟩, hr1, hp1⟩ := flushOne_exec hst f.shift
  have hs1 := hs1 (.output f.shift :: block r (compOp .out f).2) iks bud
  have hblock : block (.cmd .out r) f =
      (flushOneI f.buff f.shift).1 ++ (.output f.shift :: block r (compOp .out f).2) := by
    rw [block_cmd]; simp [compOp]
  rw [hblock]
  have hr1' : StRel D (compOp .out f).2 sb si1 := hr1
  have hmem : f.shift ∈ keys (compOp .out f).2.buff := (mem_keys_flushOneI _ _ _).mpr (Or.inl rfl)
  have hD0 : D (si1.ptr + f.shift) = 0#w := by rw [hp1]; exact hc.2 _ (hle.1 _ hmem)
  have hp0 : pend (compOp .out f).2.buff f.shift = 0#w := by
    show pend (flushOneI f.buff f.shift).2 f.shift = 0#w
    rw [pend_flushOneI]; simp
  have hrd : sb.rd 0 = si1.rd f.shift := hr1'.rd0 hp0 hD0
  obtain ⟨ho1, ho2⟩ := output_rel hr1' hrd
  have hsh : (compOp (w := w) .out f).2.shift = f.shift := rfl
  rw [hsh] at ho1 ho2
  by_cases hok : (sb.output 0).1 = true
  · have hok' : (si1.output f.shift).1 = true := by rw [← ho1]; exact hok
    refine Chunk.sync 0 n ⟨r, ks, (sb.output 0).2⟩ ⟨block r (compOp .out f).2, iks, bud, (si1.output f.shift).2⟩
      (Steps.one ?_) (hs1.snoc ?_) ?_ ?_
    · rw [bstep_out, if_pos hok]
    · rw [istep_output, if_pos hok']
    · refine ⟨D, (compOp .out f).2, hwf1, rfl, ho2, ?_, ?_⟩
      · show Compat D (comp (.cmd .out r) f).2 (si1.output f.shift).2.ptr
        rw [(C01Dse.output_meta _ _).1, hp1]; exact hc
      · show ContsRel D (comp (.cmd .out r) f).2 (si1.output f.shift).2.ptr ks iks
        rw [(C01Dse.output_meta _ _).1, hp1]; exact hk
    · exact output_trace_len sb 0
  · have hok' : ¬ (si1.output f.shift).1 = true := by rw [← ho1]; exact hok
    refine Chunk.fin 0 n false (sb.output 0).2.trace ⟨_, Steps.refl _, ?_⟩ ⟨_, hs1, ?_⟩ (output_trace_len sb 0)
    · rw [bstep_out, if_neg hok]
    · rw [istep_output, if_neg hok', ho2.trace]

theorem chunk_inp {r : Prog} (hwf : WF f) (hst : StRel D f sb si)
    (hc : Compat D (comp (.cmd .inp r) f).2 si.ptr)
    (hk : ContsRel D (comp (.cmd .inp r) f).2 si.ptr ks iks) :
    CH w ⟨.cmd .inp r, ks, sb⟩ ⟨block (.cmd .inp r) f, iks, bud, si⟩ := by
  have hwf1 : WF (compOp .inp f).2 := compOp_wf .inp f hwf
  have hle := (comp_le r (compOp .inp f).2 hwf1).1
  have hblock : block (.cmd .inp r) f = .input f.shift :: block r (compOp .inp f).2 := by
    rw [block_cmd]; simp [compOp]
  rw [hblock]
  have hmem : f.shift ∈ keys (compOp .inp f).2.buff := (mem_keys_bset _ _ _ _).mpr (Or.inl rfl)
  have hD0 : D (si.ptr + f.shift) = 0#w := hc.2 _ (hle.1 _ hmem)
  obtain ⟨hi1, hi2, hi3⟩ := input_rel hst hD0
  by_cases hok : (sb.input 0).1 = true
  · have hok' : (si.input f.shift).1 = true := by rw [← hi1]; exact hok
    obtain ⟨hr, hp⟩ := hi3 hok
    refine Chunk.sync 0 0 ⟨r, ks, (sb.input 0).2⟩ ⟨block r (compOp .inp f).2, iks, bud, (si.input f.shift).2⟩
      (Steps.one ?_) (Steps.one ?_) ?_ ?_
    · rw [bstep_inp, if_pos hok]
    · rw [istep_input, if_pos hok']
    · refine ⟨D, (compOp .inp f).2, hwf1, rfl, hr, ?_, ?_⟩
      · show Compat D (comp (.cmd .inp r) f).2 (si.input f.shift).2.ptr
        rw [hp]; exact hc
      · show ContsRel D (comp (.cmd .inp r) f).2 (si.input f.shift).2.ptr ks iks
        rw [hp]; exact hk
    · exact input_trace_len sb 0
  · have hok' : ¬ (si.input f.shift).1 = true := by rw [← hi1]; exact hok
    refine Chunk.fin 0 0 false (sb.input 0).2.trace ⟨_, Steps.refl _, ?_⟩ ⟨_, Steps.refl _, ?_⟩ (input_trace_len sb 0)
    · rw [bstep_inp, if_neg hok]
    · rw [istep_input, if_neg hok', hi2]

theorem unb_false {E P : Fr w} (h : unb E P = false) : E.moved = false ∧ E.shift = P.shift := by
  simpa [unb] using h

theorem chunk_nil_pop {k : Prog} {iks0 : List (Cont w)} {D' : Int → BitVec w}
    (hwf : WF f) (hst : StRel D' f sb si)
    (hc : Compat D' f si.ptr) (hk : ContsRel D' f si.ptr (k :: ks) iks0) :
    CH w ⟨.nil, k :: ks, sb⟩ ⟨block .nil f, iks0, bud, si⟩ := by
  cases hk with
  | cons D P sh basePar b rest _ iks hsh hwfP hE hcm hcz hbk hunb hbase hD hcP hkP =>
  subst hsh
  obtain ⟨si1, ⟨n, hs1⟩, hr1, hp1⟩ := flushAll_exec hwf hst [] (by simp) false
  have hs1 := hs1 []
    (.loopEnd P.shift (f.shift - P.shift) (block b (fresh P.shift)) (block rest P) :: iks) bud
  rw [List.append_nil, ← block_nil] at hs1
  have hlePar := (comp_le rest P hwfP).1
  -- balanced body: the `mov` at the end of the block brings the IR pointer back to `basePar`
  have hbal : unb f P = false → (si1.mov (f.shift - P.shift)).ptr = basePar := by
    intro hu
    have := (unb_false hu).2
    show si1.ptr + (f.shift - P.shift) = basePar
    rw [hp1, hbase hu, this, Int.sub_self, Int.add_zero]
  have hmovedPar : unb f P = true → (comp rest P).2.moved = true := fun hu => hlePar.2 (hunb hu).1
  have hstP : StRel D P sb (si1.mov (f.shift - P.shift)) := by
    refine ⟨hr1.env, hr1.trace, ?_, ?_⟩
    · show sb.ptr = si1.ptr + (f.shift - P.shift) + P.shift
      rw [Int.add_assoc, Int.sub_add_cancel]
      exact hr1.ptr
    · intro x
      have h1 := hr1.tape x
      simp only [pend_nil, BitVec.add_zero] at h1
      show sb.tape.get x = si1.tape.get x + pend P.buff (x - (si1.mov (f.shift - P.shift)).ptr) + D x
      rw [h1, hD]
      cases hu : unb f P with
      | false => rw [hbal hu]; ac_rfl
      | true => rw [(hunb hu).2, (hunb hu).2]; ac_rfl
  have hcP2 : Compat D (comp rest P).2 (si1.mov (f.shift - P.shift)).ptr := by
    cases hu : unb f P with
    | false => rw [hbal hu]; exact hcP
    | true => exact hcP.rebase (hmovedPar hu) _
  have hkP2 : ContsRel D (comp rest P).2 (si1.mov (f.shift - P.shift)).ptr ks iks := by
    cases hu : unb f P with
    | false => rw [hbal hu]; exact hkP
    | true => exact hkP.rebase (hmovedPar hu) _
  have hrd : sb.rd 0 = (si1.mov (f.shift - P.shift)).rd P.shift :=
    hstP.rd0 hcz (hcP2.2 _ (hlePar.1 _ hcm))
  have sB1 : Steps (BfM w) 1 ⟨.nil, .loop b rest :: ks, sb⟩ ⟨.loop b rest, ks, sb⟩ :=
    Steps.one (bstep_nil_cons _ _ _)
  by_cases h0 : sb.rd 0 = 0#w
  · have h0' : (si1.mov (f.shift - P.shift)).rd P.shift = 0#w := by rw [← hrd]; exact h0
    refine Chunk.sync 1 n ⟨rest, ks, sb⟩ ⟨block rest P, iks, bud, si1.mov (f.shift - P.shift)⟩
      (sB1.snoc ?_) (hs1.snoc ?_) ?_ (by simp [BfM])
    · rw [bstep_loop, if_pos h0]
    · rw [istep_end_loop, if_pos h0']
    · exact ⟨D, P, hwfP, rfl, hstP, hcP2, hkP2⟩
  · have h0' : ¬ (si1.mov (f.shift - P.shift)).rd P.shift = 0#w := by rw [← hrd]; exact h0
    refine Chunk.sync 1 n ⟨b, .loop b rest :: ks, sb⟩
      ⟨block b (fresh P.shift),
        .loopEnd P.shift (f.shift - P.shift) (block b (fresh P.shift)) (block rest P) :: iks, bud,
        si1.mov (f.shift - P.shift)⟩
      (sB1.snoc ?_) (hs1.snoc ?_) ?_ (by simp [BfM])
    · rw [bstep_loop, if_neg h0]
    · rw [istep_end_loop, if_neg h0']
    · refine ⟨D', fresh P.shift, wf_fresh _, rfl, ?_, ?_, ?_⟩
      · refine ⟨hr1.env, hr1.trace, hstP.ptr, ?_⟩
        intro x
        have h1 := hr1.tape x
        simp only [pend_nil] at h1
        show sb.tape.get x = si1.tape.get x + pend (fresh (w := w) P.shift).buff _ + D' x
        rw [h1]; rfl
      · show Compat D' (comp b (fresh P.shift)).2 (si1.mov (f.shift - P.shift)).ptr
        rw [← hE]
        refine ⟨hc.1, ?_⟩
        intro a ha
        cases hu : unb f P with
        | false =>
          rw [hbal hu, ← hbase hu]; exact hc.2 a ha
        | true =>
          rw [hD, (hunb hu).2, hcP.1 (hmovedPar hu)]; simp
      · show ContsRel D' (comp b (fresh P.shift)).2 (si1.mov (f.shift - P.shift)).ptr _ _
        rw [← hE]
        exact ContsRel.cons D P P.shift basePar b rest ks iks rfl hwfP hE hcm hcz hbk hunb hbal hD hcP hkP

theorem chunk_loop_special (hw : 0 < w) {b rest : Prog} (hwf : WF f) (hst : StRel D f sb si)
    (hc : Compat D (comp (.loop b rest) f).2 si.ptr)
    (hk : ContsRel D (comp (.loop b rest) f).2 si.ptr ks iks)
    (hs : isSpecial (comp b (fresh f.shift)).1 (comp b (fresh f.shift)).2 f = true) :
    CH w ⟨.loop b rest, ks, sb⟩ ⟨block (.loop b rest) f, iks, bud, si⟩ := by
  obtain ⟨hib, _, hshift, c, hodd, hpend⟩ :=
    isSpecial_elim (comp_shape b _) (comp_le b (fresh f.shift) (wf_fresh _)).2 hs
  have hcl := closeI_special hs
  have hblock : block (.loop b rest) f =
      Instr.load f.shift 0#w :: block rest { f with buff := bset f.buff f.shift 0#w } := by
    rw [block_loop, hcl]; rfl
  have hE : (comp (.loop b rest) f).2 = (comp rest { f with buff := bset f.buff f.shift 0#w }).2 := by
    simp only [comp]; rw [hcl]
  rw [hblock]
  rw [hE] at hc hk
  have hwfP : WF ({ f with buff := bset f.buff f.shift 0#w } : Fr w) := nodup_keys_bset _ _ _ hwf
  have hle := (comp_le rest _ hwfP).1
  have hmem : f.shift ∈ keys ({ f with buff := bset f.buff f.shift 0#w } : Fr w).buff :=
    (mem_keys_bset _ _ _ _).mpr (Or.inl rfl)
  have hD0 : D (si.ptr + f.shift) = 0#w := hc.2 _ (hle.1 _ hmem)
  obtain ⟨m, sb', hsB, hp', he', ht', hg'⟩ :=
    loop_zero_of_iter hw c hodd b rest (special_iter hib hshift hpend) ks sb
  refine Chunk.sync m 0 ⟨rest, ks, sb'⟩
    ⟨block rest { f with buff := bset f.buff f.shift 0#w }, iks, bud, si.wr f.shift 0#w⟩
    hsB (Steps.one (step_load_zero _ _ _ _ _)) ?_ (by simp [BfM, ht'])
  have hp := hst.ptr
  refine ⟨D, _, hwfP, rfl, ?_, hc, hk⟩
  refine hst.of_cell f.shift (he'.trans hst.env) (ht'.trans hst.trace) hp' rfl
    (fun a ha => by rw [pend_bset, if_neg ha]) (fun x hx => by rw [hg', if_neg (by omega)])
    (fun x hx => by rw [tape_wr, if_neg hx]) ?_
  rw [hg', if_pos hp.symm, tape_wr, if_pos rfl, pend_bset, if_pos rfl, hD0]
  simp

theorem chunk_loop_general {b rest : Prog} (hwf : WF f) (hst : StRel D f sb si)
    (hc : Compat D (comp (.loop b rest) f).2 si.ptr)
    (hk : ContsRel D (comp (.loop b rest) f).2 si.ptr ks iks)
    (hs : isSpecial (comp b (fresh f.shift)).1 (comp b (fresh f.shift)).2 f = false) :
    CH w ⟨.loop b rest, ks, sb⟩ ⟨block (.loop b rest) f, iks, bud, si⟩ := by
  have cp := closeI_props (comp b (fresh f.shift)).1 (comp b (fresh f.shift)).2 f hwf
  have gp := closeI_general_props (comp b (fresh f.shift)).1 (comp b (fresh f.shift)).2 f hs
  rw [block_loop]
  have hE : (comp (.loop b rest) f).2 =
      (comp rest (closeI (comp b (fresh f.shift)).1 (comp b (fresh f.shift)).2 f).2).2 := rfl
  rw [hE] at hc hk
  generalize hP : (closeI (comp b (fresh f.shift)).1 (comp b (fresh f.shift)).2 f).2 = P at cp gp hc hk
  obtain ⟨l, si3, hl, ⟨n, hs3⟩, hr3, hp3⟩ := closeI_general_exec hs hwf hst
  have hs3 := hs3 (.loop f.shift ((comp (w := w) b (fresh f.shift)).2.shift - f.shift)
    (block b (fresh f.shift)) false :: block rest P) iks bud
  rw [hl, List.append_assoc]
  rw [hP] at hr3
  have hle := (comp_le rest P cp.wf).1
  have hD0 : D (si3.ptr + P.shift) = 0#w := by
    rw [hp3, cp.shift]; exact hc.2 _ (hle.1 _ cp.cond_mem)
  have hrd : sb.rd 0 = si3.rd f.shift := by
    have := hr3.rd0 (by rw [cp.shift]; exact cp.cond_zero) hD0
    rw [cp.shift] at this; exact this
  by_cases h0 : sb.rd 0 = 0#w
  · have h0' : si3.rd f.shift = 0#w := by rw [← hrd]; exact h0
    refine Chunk.sync 0 n ⟨rest, ks, sb⟩ ⟨block rest P, iks, bud, si3⟩
      (Steps.one ?_) (hs3.snoc ?_) ?_ (by simp [BfM])
    · rw [bstep_loop, if_pos h0]
    · rw [istep_loop, if_pos h0']
    · refine ⟨D, P, cp.wf, rfl, hr3, ?_, ?_⟩
      · show Compat D (comp rest P).2 si3.ptr
        rw [hp3]; exact hc
      · show ContsRel D (comp rest P).2 si3.ptr ks iks
        rw [hp3]; exact hk
  · have h0' : ¬ si3.rd f.shift = 0#w := by rw [← hrd]; exact h0
    refine Chunk.sync 0 n ⟨b, .loop b rest :: ks, sb⟩
      (⟨block b (fresh f.shift),
        .loopEnd f.shift ((comp (w := w) b (fresh f.shift)).2.shift - f.shift) (block b (fresh f.shift))
          (block rest P) :: iks,
        bud, si3⟩ : Ir.Cfg w)
      (Steps.one ?_) (hs3.snoc ?_) ?_ (by simp [BfM])
    · rw [bstep_loop, if_neg h0]
    · rw [istep_loop, if_neg h0']
    · have hunbP : unb (comp b (fresh f.shift)).2 P = unb (comp b (fresh f.shift)).2 f := by
        simp [unb, cp.shift]
      have hmovedPar : unb (comp b (fresh f.shift)).2 f = true → (comp rest P).2.moved = true :=
        fun hu => hle.2 (gp.unb_zero hu).1
      refine ⟨fun x => D x + pend P.buff (x - si3.ptr), fresh f.shift, wf_fresh _, rfl, ?_, ?_, ?_⟩
      · refine ⟨hr3.env, hr3.trace, by rw [hr3.ptr, cp.shift]; rfl, ?_⟩
        intro x
        show sb.tape.get x = si3.tape.get x + pend (fresh (w := w) f.shift).buff _ + (D x + pend P.buff (x - si3.ptr))
        rw [hr3.tape x]
        simp only [fresh, pend_nil, BitVec.add_zero]
        ac_rfl
      · show Compat _ (comp b (fresh f.shift)).2 si3.ptr
        constructor
        · intro hm x
          have hu : unb (comp b (fresh f.shift)).2 f = true := by simp [unb, hm]
          show D x + pend P.buff (x - si3.ptr) = 0#w
          rw [(gp.unb_zero hu).2, hc.1 (hmovedPar hu)]; simp
        · intro a ha
          show D (si3.ptr + a) + pend P.buff (si3.ptr + a - si3.ptr) = 0#w
          rw [add_sub_self, (gp.body_keys a ha).2, hp3, hc.2 a (hle.1 _ (gp.body_keys a ha).1)]; simp
      · show ContsRel _ (comp b (fresh f.shift)).2 si3.ptr _ _
        refine ContsRel.cons D P f.shift si3.ptr b rest ks iks cp.shift cp.wf rfl cp.cond_mem cp.cond_zero
          gp.body_keys ?_ (fun _ => rfl) (fun _ => rfl) ?_ ?_
        · rw [hunbP]; exact gp.unb_zero
        · rw [hp3]; exact hc
        · rw [hp3]; exact hk

end Cases

theorem chunk (hw : 0 < w) {cb : Bf.Config w} {ci : Ir.Cfg w} (h : R cb ci) : CH w cb ci := by
  obtain ⟨cur, ks, sb⟩ := cb
  obtain ⟨icur, iks, bud, si⟩ := ci
  obtain ⟨D, f, hwf, hcur, hst, hc, hk⟩ := h
  simp only at hcur hst hc hk
  subst hcur
  cases cur with
  | nil =>
    cases ks with
    | nil =>
      cases hk with
      | nil _ => exact chunk_nil_halt hwf hst
    | cons k ks => exact chunk_nil_pop hwf hst hc hk
  | cmd op r =>
    cases op with
    | inc => exact chunk_silent (Or.inl rfl) hwf hst hc hk
    | dec => exact chunk_silent (Or.inr (Or.inl rfl)) hwf hst hc hk
    | left => exact chunk_silent (Or.inr (Or.inr (Or.inl rfl))) hwf hst hc hk
    | right => exact chunk_silent (Or.inr (Or.inr (Or.inr rfl))) hwf hst hc hk
    | inp => exact chunk_inp hwf hst hc hk
    | out => exact chunk_out hwf hst hc hk
  | loop b rest =>
    cases hs : isSpecial (comp b (fresh f.shift)).1 (comp b (fresh f.shift)).2 f with
    | true => exact chunk_loop_special hw hwf hst hc hk hs
    | false => exact chunk_loop_general hwf hst hc hk hs

theorem simulation (hw : 0 < w) : Simulation (BfM w) (IrM w) (R (w := w)) (mu (w := w)) where
  monoA := mono_BfM
  monoB := mono_IrM
  tr_eq := tr_eq_of_R
  chunk := chunk hw

def traceOfBf : Bf.Outcome w → List Ev
  | .done s => s.trace
  | .stopped s => s.trace
  | .outOfFuel c => c.st.trace

def traceOf : Ir.Outcome w → List Ev
  | .done c => c.st.trace
  | .stopped c => c.st.trace
  | .interrupted c => c.st.trace
  | .outOfFuel c => c.st.trace

theorem trace_obsBf (o : Bf.Outcome w) : (obsBf o).trace = traceOfBf o := by cases o <;> rfl
theorem trace_obsIr (o : Ir.Outcome w) : (obsIr o).trace = traceOf o := by cases o <;> rfl

theorem R_init {src : List Kind} {p : Prog} (hp : Bf.tree src = some p) {b : Block w}
    (hb : Ir.parse (w := w) src = .ok b) (env : Env) :
    R ⟨p, [], State.init env⟩ ⟨b.insts, [], 0, State.init env⟩ := by
  rw [parse_of_tree hp] at hb
  cases hb
  refine ⟨fun _ => 0#w, fresh 0, wf_fresh 0, rfl, ⟨rfl, rfl, rfl, ?_⟩, ⟨fun _ _ => rfl, fun _ _ => rfl⟩,
    ContsRel.nil (fun _ => rfl)⟩
  intro x; simp [fresh, State.init]

theorem obsIr_fin_true {o : Ir.Outcome w} {t : List Ev} (h : obsIr o = .fin true t)
    (hni : ∀ c, o ≠ .interrupted c) : ∃ c, o = .done c ∧ c.st.trace = t := by
  cases o with
  | done c => simp only [obsIr, Out.fin.injEq, true_and] at h; exact ⟨c, rfl, h⟩
  | stopped c => simp [obsIr] at h
  | interrupted c => exact absurd rfl (hni c)
  | outOfFuel c => simp [obsIr] at h

theorem obsIr_fin_false {o : Ir.Outcome w} {t : List Ev} (h : obsIr o = .fin false t) :
    ∃ c, o = .stopped c ∧ c.st.trace = t := by
  cases o with
  | done c => simp [obsIr] at h
  | stopped c => simp only [obsIr, Out.fin.injEq, true_and] at h; exact ⟨c, rfl, h⟩
  | interrupted c => simp [obsIr] at h
  | outOfFuel c => simp [obsIr] at h

theorem obsBf_fin {o : Bf.Outcome w} {ok : Bool} {t : List Ev} (h : obsBf o = .fin ok t) :
    ∃ s, o = (bif ok then .done s else .stopped s) ∧ s.trace = t := by
  cases o with
  | done s => simp only [obsBf, Out.fin.injEq] at h; obtain ⟨rfl, rfl⟩ := h; exact ⟨s, rfl, rfl⟩
  | stopped s => simp only [obsBf, Out.fin.injEq] at h; obtain ⟨rfl, rfl⟩ := h; exact ⟨s, rfl, rfl⟩
  | outOfFuel c => simp [obsBf] at h

section Main
variable (hw : 0 < w) {src : List Kind} {p : Prog} (hp : Bf.tree src = some p) {b : Block w}
  (hb : Ir.parse (w := w) src = .ok b) (env : Env)
include hw hp hb

theorem forward_obs (f : Nat) (ok : Bool) (t : List Ev) (h : obsBf (Bf.run (w := w) f p env) = .fin ok t) :
    ∃ f', obsIr (Ir.run b false 0 f' env) = .fin ok t := by
  obtain ⟨f', hf'⟩ := (simulation hw).forward f _ _ (R_init hp hb env) ok t (by rw [run_BfM]; exact h)
  exact ⟨f', by rw [← hf', run_IrM]; rfl⟩

theorem backward_obs (f' : Nat) (ok : Bool) (t : List Ev) (h : obsIr (Ir.run b false 0 f' env) = .fin ok t) :
    ∃ f, obsBf (Bf.run (w := w) f p env) = .fin ok t := by
  obtain ⟨f, hf⟩ := (simulation hw).backward f' _ _ _ rfl (R_init hp hb env) ok t (by rw [run_IrM]; exact h)
  exact ⟨f, by rw [← hf, run_BfM]; rfl⟩

theorem prefix_ir_bf (f' : Nat) :
    ∃ f, traceOf (Ir.run b false 0 f' env) = traceOfBf (Bf.run (w := w) f p env) := by
  obtain ⟨f, hf⟩ := (simulation hw).prefixBA f' _ _ (R_init hp hb env)
  rw [run_BfM, run_IrM, trace_obsBf, trace_obsIr] at hf
  exact ⟨f, hf.symm⟩

theorem prefix_bf_ir (f : Nat) :
    ∃ f', traceOf (Ir.run b false 0 f' env) = traceOfBf (Bf.run (w := w) f p env) := by
  obtain ⟨f', hf'⟩ := (simulation hw).prefixAB f _ _ (R_init hp hb env)
  rw [run_BfM, run_IrM, trace_obsBf, trace_obsIr] at hf'
  exact ⟨f', hf'⟩

end Main

end C01
end Hpbf
