/-
C02, `dead_store_elim`: the semantic core. `DseCert P Q D` certifies that `Q` is `P` with some stores replaced by
`noop`: `D i` is the set of tape offsets (relative to the pointer) that are DEAD at pc `i` – certainly overwritten
before any read, branch, pointer move, or the end. A store to a dead cell, and an arithmetic instruction whose
destination is a temporary that no instruction of `Q` reads, may be replaced by `noop`.

`dse_run`: certified programs run in LOCKSTEP (same fuel, pc, budget – `noop` and the store it replaces cost one
step of fuel and no budget); the tapes agree outside the dead cells of the current pc and the temporaries agree on
those that `Q` reads. The dead set is empty at every branch, `mov`, `scan` and at the end, so `done` and
`interrupted` outcomes have the same tape (`ObsEqIO`). Branch TARGETS need no treatment: the tapes are equal when
the branch executes.
-/
import Hpbf.Proofs.C02Fuse

namespace Hpbf
namespace C02

open Bc BcWf BcGen C11

variable {w : Nat}

structure DseSim (X : Int → Prop) (A : Nat → Prop) (c1 c2 : Cfg w) : Prop where
  pc : c1.pc = c2.pc
  budget : c1.budget = c2.budget
  st : StSim X c1.st c2.st
  temps : ∀ t, A t → tget c1.temps t = tget c2.temps t

theorem DseSim.mono {X X' : Int → Prop} {A A' : Nat → Prop} {c1 c2 : Cfg w} (h : DseSim X A c1 c2)
    (hX : ∀ x, X' x → X x) (hA : ∀ t, A' t → A t) : DseSim X' A' c1 c2 :=
  ⟨h.pc, h.budget, h.st.mono hX, fun t ht => h.temps t (hA t ht)⟩

theorem DseSim.cfgIo {X : Int → Prop} {A : Nat → Prop} {c1 c2 : Cfg w} (h : DseSim X A c1 c2) : CfgIo c1 c2 :=
  ⟨⟨h.st.ptr, h.st.env, h.st.trace⟩, h.budget⟩

theorem DseSim.cfgEq {X : Int → Prop} {A : Nat → Prop} {c1 c2 : Cfg w} (h : DseSim X A c1 c2)
    (hX : ∀ x, X x) : CfgEq c1 c2 :=
  ⟨⟨⟨h.st.ptr, h.st.env, h.st.trace⟩, fun x => h.st.tape x (hX x)⟩, h.budget⟩

theorem DseSim.setPc {X : Int → Prop} {A : Nat → Prop} {c1 c2 : Cfg w} (h : DseSim X A c1 c2) (k : Nat) :
    DseSim X A { c1 with pc := k } { c2 with pc := k } := ⟨rfl, h.budget, h.st, h.temps⟩

/-- `DseSim` is agreement of the states on `X` and of the temporaries on `A` (`C11.Agree`). -/
theorem DseSim.agree {X : Int → Prop} {A : Nat → Prop} {c1 c2 : Cfg w} (h : DseSim X A c1 c2) :
    Agree (StSim X) OnTmps A c1 c2 := ⟨h.pc, h.budget, h.st, h.temps⟩

theorem dseSim_of_agree {X : Int → Prop} {A : Nat → Prop} {c1 c2 : Cfg w} (h : Agree (StSim X) OnTmps A c1 c2) :
    DseSim X A c1 c2 := ⟨h.pc, h.budget, h.st, h.temps⟩

theorem dse_rdVal {X : Int → Prop} {A : Nat → Prop} {c1 c2 : Cfg w} (h : DseSim X A c1 c2) (l : Loc w)
    (hx : ∀ o ∈ locMem l, X (c1.st.ptr + o)) (ht : ∀ t ∈ locTmp l, A t) : rdVal c1 l = rdVal c2 l :=
  rdVal_agree (stAgree_sim X) tmAgree_on h.agree l hx ht

def dseDstCell (p : Int) : Loc w → Int → Prop
  | .mem o, x => x = p + o
  | _, _ => False

theorem dse_wrCfg {X : Int → Prop} {A : Nat → Prop} {c1 c2 : Cfg w} (h : DseSim X A c1 c2) (v : BitVec w)
    (l : Loc w) : DseSim (fun x => X x ∨ dseDstCell c1.st.ptr l x) A (wrCfg c1 v l) (wrCfg c2 v l) := by
  cases l with
  | mem o => exact ⟨h.pc, h.budget, h.st.wr o v, h.temps⟩
  | memZero o => exact h.mono (fun x hx => by simpa [dseDstCell] using hx) (fun _ ht => ht)
  | imm k => exact h.mono (fun x hx => by simpa [dseDstCell] using hx) (fun _ ht => ht)
  | tmp i =>
    refine ⟨h.pc, h.budget, ?_, ?_⟩
    · exact ⟨h.st.ptr, h.st.env, h.st.trace, fun x hx => h.st.tape x (by simpa [dseDstCell] using hx)⟩
    · intro t ht
      simp only [wrCfg, tget_tset]
      split
      · rfl
      · exact h.temps t ht

theorem dse_wrCfg_left {X : Int → Prop} {A : Nat → Prop} {c1 c2 : Cfg w} (h : DseSim X A c1 c2) (v : BitVec w)
    (l : Loc w) :
    DseSim (fun x => X x ∧ ¬ dseDstCell c1.st.ptr l x) (fun t => A t ∧ t ∉ locTmp l) (wrCfg c1 v l) c2 := by
  cases l with
  | mem o =>
    refine ⟨h.pc, h.budget, ⟨h.st.ptr, h.st.env, h.st.trace, ?_⟩, fun t ht => h.temps t ht.1⟩
    intro x hx
    simp only [wrCfg, State.wr]
    rw [Tape.get_set_ne _ _ _ _ (by simpa [dseDstCell] using hx.2)]
    exact h.st.tape x hx.1
  | memZero o => exact h.mono (fun x hx => hx.1) (fun _ ht => ht.1)
  | imm k => exact h.mono (fun x hx => hx.1) (fun _ ht => ht.1)
  | tmp i =>
    refine ⟨h.pc, h.budget, ?_, ?_⟩
    · exact ⟨h.st.ptr, h.st.env, h.st.trace, fun x hx => h.st.tape x hx.1⟩
    · intro t ht
      simp only [wrCfg]
      rw [tget_tset_ne _ _ (by simpa [locTmp] using ht.2)]
      exact h.temps t ht.1

/-- Offsets READ by an instruction (the destination of a two-operand form is also its first source). -/
def dseReadMems : Instr w → List Int
  | .add _ a b => locMem a ++ locMem b
  | .sub _ a b => locMem a ++ locMem b
  | .mul _ a b => locMem a ++ locMem b
  | .copy _ s => locMem s
  | .out m => [m]
  | .brz c _ => [c]
  | .brnz c _ => [c]
  | .scan c _ => [c]
  | _ => []

def dseDstMem : Loc w → List Int
  | .mem o => [o]
  | _ => []

/-- Offsets certainly WRITTEN (with a value that does not depend on the old content) when the instruction
continues at `pc + 1`. -/
def dseWriteMems : Instr w → List Int
  | .add d _ _ => dseDstMem d
  | .sub d _ _ => dseDstMem d
  | .mul d _ _ => dseDstMem d
  | .copy d _ => dseDstMem d
  | .inp m => [m]
  | _ => []

def dseIsCtl : Instr w → Bool
  | .brz _ _ => true
  | .brnz _ _ => true
  | .mov _ => true
  | .scan _ _ => true
  | _ => false

theorem dse_dstCell_iff (p : Int) (l : Loc w) (x : Int) : dseDstCell p l x ↔ ∃ o ∈ dseDstMem l, x = p + o := by
  cases l <;> simp [dseDstCell, dseDstMem]

theorem dse_input {X : Int → Prop} {s1 s2 : State w} (h : StSim X s1 s2) (off : Int) :
    (s1.input off).1 = (s2.input off).1 ∧ IoEq (s1.input off).2 (s2.input off).2 ∧
    ((s1.input off).1 = true →
      StSim (fun x => X x ∨ x = s1.ptr + off) (s1.input off).2 (s2.input off).2) := by
  obtain ⟨h1, h2⟩ := h.input off
  exact ⟨h1, ⟨h2.ptr, h2.env, h2.trace⟩, fun ht => h2.mono fun x hx => hx.imp_right fun e => ⟨ht, e⟩⟩

/-- A control instruction writes nothing: both sides take the same step. -/
theorem dse_stepI_ctl {A : Nat → Prop} {c1 c2 : Cfg w} (h : DseSim (fun _ => True) A c1 c2) (p : Program w)
    (limited : Bool) (ins : Instr w) (hc : dseIsCtl ins = true) :
    StepRel (DseSim (fun _ => True) A) (DseSim (fun _ => True) A) CfgIo
      (stepI p limited c1 ins) (stepI p limited c2 ins) := by
  have hu : ∀ t ∈ uses ins, A t := by cases ins <;> simp [uses, dseIsCtl] at hc ⊢
  obtain ⟨ht, ha⟩ := stepI_agree (stAgree_sim _) tmAgree_on h.agree p limited ins (fun _ _ => trivial) hu
  have hd := dseSim_of_agree (ha.mono tmAgree_on (fun t ht => Or.inl ht))
  exact StepRel.of_tag ht hd hd hd.cfgIo

def DseSameNext (X : Int → Prop) (A : Nat → Prop) (c1 : Cfg w) (ins : Instr w) (a b : Cfg w) : Prop :=
  DseSim (fun x => X x ∨ ∃ o ∈ dseWriteMems ins, x = c1.st.ptr + o) A a b ∧ a.pc = c1.pc + 1 ∧
    a.st.ptr = c1.st.ptr

theorem dse_wr_same {X : Int → Prop} {A : Nat → Prop} {c1 c2 : Cfg w} (h : DseSim X A c1 c2)
    (v1 v2 : BitVec w) (hv : v1 = v2) (d : Loc w) {ins : Instr w} (hw : dseWriteMems ins = dseDstMem d) :
    DseSameNext X A c1 ins { wrCfg c1 v1 d with pc := c1.pc + 1 } { wrCfg c2 v2 d with pc := c2.pc + 1 } := by
  subst hv
  refine ⟨?_, rfl, by simp [wrCfg_ptr]⟩
  rw [hw, ← h.pc]
  exact ((dse_wrCfg h v1 d).setPc (c1.pc + 1)).mono (fun x hx => by simpa [dse_dstCell_iff] using hx)
    (fun _ ht => ht)

theorem dse_arith_same {X : Int → Prop} {A : Nat → Prop} {c1 c2 : Cfg w} (h : DseSim X A c1 c2)
    (f : BitVec w → BitVec w → BitVec w) (d a b : Loc w) (ha : locNoZero a = true) (hb : locNoZero b = true)
    (hx : ∀ o ∈ locMem a ++ locMem b, X (c1.st.ptr + o)) (hu : ∀ t ∈ locTmp a ++ locTmp b, A t)
    {ins : Instr w} (hw : dseWriteMems ins = dseDstMem d) :
    StepRel (DseSameNext X A c1 ins) (fun _ _ => False) CfgIo (arith c1 f d a b) (arith c2 f d a b) := by
  have e1 : rdVal c1 a = rdVal c2 a :=
    dse_rdVal h a (fun o ho => hx o (by simp [ho])) (fun t ht => hu t (by simp [ht]))
  have e2 : rdVal c1 b = rdVal c2 b :=
    dse_rdVal h b (fun o ho => hx o (by simp [ho])) (fun t ht => hu t (by simp [ht]))
  simp only [arith, binopCfg_pure f _ d a b ha hb]
  split
  · exact dse_wr_same h _ _ (by rw [e1, e2]) d hw
  · exact h.cfgIo

theorem dse_stepI_same {X : Int → Prop} {A : Nat → Prop} {c1 c2 : Cfg w} (h : DseSim X A c1 c2) (p : Program w)
    (limited : Bool) (ins : Instr w) (hc : dseIsCtl ins = false) (hnz : NoMemZero ins)
    (hx : ∀ o ∈ dseReadMems ins, X (c1.st.ptr + o)) (hu : ∀ t ∈ uses ins, A t) :
    StepRel (DseSameNext X A c1 ins) (fun _ _ => False) CfgIo
      (stepI p limited c1 ins) (stepI p limited c2 ins) := by
  have hpc := h.pc
  cases ins with
  | mov sh => cases hc
  | scan cond sh => cases hc
  | brz cond off => cases hc
  | brnz cond off => cases hc
  | noop =>
    refine ⟨?_, rfl, rfl⟩
    rw [← hpc]
    exact (h.setPc (c1.pc + 1)).mono (fun x hx => by simpa [dseWriteMems] using hx) (fun _ ht => ht)
  | inp d =>
    obtain ⟨e1, e2, e3⟩ := dse_input h.st d
    simp only [stepI, ← e1]
    split
    · rename_i hok
      refine ⟨⟨by simp [hpc], h.budget, ?_, h.temps⟩, rfl, by simp [C01Dse.input_ptr]⟩
      have := e3 hok
      exact ⟨this.ptr, this.env, this.trace, fun x hx => this.tape x (by simpa [dseWriteMems] using hx)⟩
    · exact ⟨e2, h.budget⟩
  | out s =>
    obtain ⟨e1, e2⟩ := h.st.output (hx s (by simp [dseReadMems]))
    simp only [stepI, ← e1]
    split
    · refine ⟨⟨by simp [hpc], h.budget, ?_, h.temps⟩, rfl, by simp [(C01Dse.output_meta _ _).1]⟩
      exact ⟨e2.ptr, e2.env, e2.trace, fun x hx => e2.tape x (by simpa [dseWriteMems] using hx)⟩
    · exact ⟨⟨e2.ptr, e2.env, e2.trace⟩, h.budget⟩
  | add d a b | sub d a b | mul d a b =>
    simp only [NoMemZero, noMemZero, Bool.and_eq_true] at hnz
    exact dse_arith_same h _ d a b hnz.1.2 hnz.2 hx hu rfl
  | copy d s =>
    simp only [NoMemZero, noMemZero, Bool.and_eq_true] at hnz
    have e1 : rdVal c1 s = rdVal c2 s := dse_rdVal h s hx hu
    simp only [stepI, copyCfg, rdSt_noZero _ hnz.2]
    split
    · exact dse_wr_same h _ _ e1 d rfl
    · exact h.cfgIo

def DseKillOf (ins : Instr w) (d : Loc w) : Prop :=
  (∃ s, ins = .copy d s) ∨ (∃ op a b, ins = mkArith op d a b)

theorem dse_stepI_kill {X : Int → Prop} {A : Nat → Prop} {c1 c2 : Cfg w} (h : DseSim X A c1 c2) (p : Program w)
    (limited : Bool) (ins : Instr w) (d : Loc w) (hk : DseKillOf ins d) (hd : isDst d = true)
    (hnz : NoMemZero ins) :
    ∃ c1', stepI p limited c1 ins = .next c1' ∧ c1'.pc = c1.pc + 1 ∧ c1'.st.ptr = c1.st.ptr ∧
      DseSim (fun x => X x ∧ ¬ dseDstCell c1.st.ptr d x) (fun t => A t ∧ t ∉ locTmp d) c1'
        { c2 with pc := c2.pc + 1 } := by
  have key : ∀ v, ∃ c1', (Bc.StepRes.next { wrCfg c1 v d with pc := c1.pc + 1 } : StepRes w) = .next c1' ∧
      c1'.pc = c1.pc + 1 ∧ c1'.st.ptr = c1.st.ptr ∧
      DseSim (fun x => X x ∧ ¬ dseDstCell c1.st.ptr d x) (fun t => A t ∧ t ∉ locTmp d) c1'
        { c2 with pc := c2.pc + 1 } := by
    intro v
    refine ⟨_, rfl, rfl, by simp [wrCfg_ptr], ?_⟩
    have := (dse_wrCfg_left h v d).setPc (c2.pc + 1)
    rw [h.pc]
    exact this
  rcases hk with ⟨s, rfl⟩ | ⟨op, a, b, rfl⟩
  · simp only [NoMemZero, noMemZero, Bool.and_eq_true] at hnz
    simp only [stepI, hd, if_true, copyCfg, rdSt_noZero _ hnz.2]
    exact key _
  · have hnz' : locNoZero a = true ∧ locNoZero b = true := by
      cases op <;> simp only [mkArith, NoMemZero, noMemZero, Bool.and_eq_true] at hnz <;> exact ⟨hnz.1.2, hnz.2⟩
    simp only [stepI_mkArith, arith, hd, if_true, binopCfg_pure _ _ d a b hnz'.1 hnz'.2]
    exact key _

def DseRQ (Q : Array (Instr w)) (t : Nat) : Prop := ∃ (j : Nat) (ins : Instr w), Q[j]? = some ins ∧ t ∈ uses ins

/-- Local condition at one index: `ins` in the original, `ins'` in the result, `Db`/`Da` the dead sets before
and after the instruction. In the second alternative `Db = Da`: the `noop` neither reads (nothing is revived) nor
writes (nothing dies). -/
def DseStepOk (Q : Array (Instr w)) (ins ins' : Instr w) (Db Da : List Int) : Prop :=
  (ins' = ins ∧ (∀ o ∈ dseReadMems ins, o ∉ Db) ∧ (dseIsCtl ins = true → Db = []) ∧
    (∀ o ∈ Db, o ∈ Da ∨ o ∈ dseWriteMems ins)) ∨
  (ins' = .noop ∧ Db = Da ∧ ∃ d, DseKillOf ins d ∧
    ((∃ m, d = .mem m ∧ m ∈ Da) ∨ (∃ t, d = .tmp t ∧ ¬ DseRQ Q t)))

structure DseCert (P Q : Array (Instr w)) (D : Nat → List Int) : Prop where
  size : Q.size = P.size
  noZero : ∀ ins ∈ P, NoMemZero ins
  last : D P.size = []
  step : ∀ (i : Nat) (ins ins' : Instr w), P[i]? = some ins → Q[i]? = some ins' →
    DseStepOk Q ins ins' (D i) (D (i + 1))

def DseRel (Q : Array (Instr w)) (D : Nat → List Int) (c1 c2 : Cfg w) : Prop :=
  DseSim (fun x => x - c1.st.ptr ∉ D c1.pc) (DseRQ Q) c1 c2

theorem dse_stepRel_mono {R G E R' G' E' : Cfg w → Cfg w → Prop} {r1 r2 : StepRes w}
    (h : StepRel R G E r1 r2) (hR : ∀ a b, r1 = .next a → R a b → R' a b) (hG : ∀ a b, G a b → G' a b)
    (hE : ∀ a b, E a b → E' a b) : StepRel R' G' E' r1 r2 := by
  cases r1 <;> cases r2 <;> simp only [StepRel] at h ⊢
  all_goals first | exact hR _ _ rfl h | exact hG _ _ h | exact hE _ _ h

theorem dse_stepRel {P Q : Program w} {D : Nat → List Int} (hc : DseCert P.insts Q.insts D)
    (limited : Bool) (c1 c2 : Cfg w) (h : DseRel Q.insts D c1 c2) :
    StepRel (DseRel Q.insts D) CfgEq CfgIo (step P limited c1) (step Q limited c2) := by
  have hpc := h.pc
  cases hP : P.insts[c1.pc]? with
  | none =>
    have hge : P.insts.size ≤ c1.pc := by
      rcases Nat.lt_or_ge c1.pc P.insts.size with hlt | hge
      · rw [Array.getElem?_eq_getElem hlt] at hP; cases hP
      · exact hge
    have hQ : Q.insts[c2.pc]? = none := by
      rw [Array.getElem?_eq_none_iff, hc.size, ← hpc]; exact hge
    rw [step_none hP, step_none hQ]
    simp only [← hpc, hc.size]
    split
    · rename_i he
      refine h.cfgEq (fun x => ?_)
      rw [he, hc.last]; simp
    · exact h.cfgIo
  | some ins =>
    have hlt : c1.pc < P.insts.size := lt_of_getElem? hP
    have hlt2 : c2.pc < Q.insts.size := by rw [hc.size, ← hpc]; exact hlt
    have hQ : Q.insts[c2.pc]? = some Q.insts[c2.pc] := Array.getElem?_eq_getElem hlt2
    have hQ1 : Q.insts[c1.pc]? = some Q.insts[c2.pc] := by rw [hpc]; exact hQ
    have hnz : NoMemZero ins := hc.noZero ins (Array.mem_of_getElem? hP)
    rw [step_eq hP, step_eq hQ, stepI_size (p := P) (q := Q) hc.size]
    rcases hc.step c1.pc ins _ hP hQ1 with ⟨he, hrd, hctl, hsub⟩ | ⟨he, hD, d, hk, hdead⟩
    · rw [he]
      by_cases hcI : dseIsCtl ins = true
      · have hD := hctl hcI
        have h' : DseSim (fun _ => True) (DseRQ Q.insts) c1 c2 :=
          h.mono (fun x _ => by rw [hD]; simp) (fun _ ht => ht)
        refine dse_stepRel_mono (dse_stepI_ctl h' P limited ins hcI) ?_ ?_ (fun _ _ hE => hE)
        · intro a b _ hab
          exact hab.mono (fun _ _ => trivial) (fun _ ht => ht)
        · intro a b hab
          exact hab.cfgEq (fun _ => trivial)
      · have hcI' : dseIsCtl ins = false := by simpa using hcI
        refine dse_stepRel_mono (dse_stepI_same h P limited ins hcI' hnz ?_ ?_) ?_ (fun _ _ hF => hF.elim)
          (fun _ _ hE => hE)
        · intro o ho
          have : c1.st.ptr + o - c1.st.ptr = o := by omega
          rw [this]; exact hrd o ho
        · intro t ht
          exact ⟨c1.pc, ins, by rw [hQ1, he], ht⟩
        · rintro a b _ ⟨hab, hapc, haptr⟩
          refine hab.mono ?_ (fun _ ht => ht)
          intro x hx
          rw [hapc, haptr] at hx
          by_cases hm : x - c1.st.ptr ∈ D c1.pc
          · rcases hsub _ hm with h1 | h1
            · exact absurd h1 hx
            · exact Or.inr ⟨x - c1.st.ptr, h1, by omega⟩
          · exact Or.inl hm
    · rw [he]
      have hd : isDst d = true := by
        rcases hdead with ⟨m, rfl, _⟩ | ⟨t, rfl, _⟩ <;> rfl
      obtain ⟨c1', hs, hpc', hptr', hsim⟩ := dse_stepI_kill h P limited ins d hk hd hnz
      rw [hs]
      simp only [stepI, StepRel]
      refine hsim.mono ?_ ?_
      · intro x hx
        rw [hpc', hptr', ← hD] at hx
        refine ⟨hx, fun hcell => ?_⟩
        rcases hdead with ⟨m, rfl, hm⟩ | ⟨t, rfl, _⟩
        · simp only [dseDstCell] at hcell
          apply hx
          rw [hD]
          have : x - c1.st.ptr = m := by omega
          rw [this]; exact hm
        · exact hcell
      · intro t ht
        refine ⟨ht, fun hmem => ?_⟩
        rcases hdead with ⟨m, rfl, _⟩ | ⟨t', rfl, hnr⟩
        · simp [locTmp] at hmem
        · simp only [locTmp, List.mem_singleton] at hmem
          subst hmem
          exact hnr ht

theorem DseRel.refl (Q : Array (Instr w)) (D : Nat → List Int) (c : Cfg w) : DseRel Q D c c :=
  ⟨rfl, rfl, ⟨rfl, rfl, rfl, fun _ _ => rfl⟩, fun _ _ => rfl⟩

theorem dse_run {P Q : Program w} {D : Nat → List Int} (hc : DseCert P.insts Q.insts D)
    (limited : Bool) (b fuel : Nat) (env : Env) :
    ObsEqIO (Bc.run P limited b fuel env) (Bc.run Q limited b fuel env) := by
  unfold Bc.run
  simp only
  split
  · exact CfgEq.refl _
  · exact lockstep_run (R := DseRel Q.insts D) (G := CfgEq) (E := CfgIo) (O := CfgIo)
      (fun c1 c2 h => dse_stepRel hc limited c1 c2 h) (fun c1 c2 h => DseSim.cfgIo h) fuel _ _ (DseRel.refl _ _ _)

theorem dse_behEqIO {P Q : Program w} {D : Nat → List Int} (hc : DseCert P.insts Q.insts D) : BehEqIO P Q :=
  ⟨fun limited b fuel env => ⟨fuel, dse_run hc limited b fuel env⟩,
   fun limited b fuel env => ⟨fuel, (dse_run hc limited b fuel env).symm⟩⟩

end C02
end Hpbf
