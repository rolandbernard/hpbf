/-
Structure of the result of the pass: bookkeeping of the sub-analysis index, totality (`ShapeOk`), the
result is the input with some assignments deleted (`SubL`), and the consequences of the static part of
`AnalSound` (`noShiftL`, `hadShift`).
-/
import Hpbf.Proofs.C01DseBase

namespace Hpbf
namespace C01Dse
open Ir OptDse

variable {w : Nat}

@[simp] theorem nblocks_nil : nblocks ([] : List (Instr w)) = 0 := rfl

theorem nblocks_cons (i : Instr w) (l : List (Instr w)) :
    nblocks (i :: l) = nblocks l + (if isBlock i then 1 else 0) := by
  unfold nblocks
  rw [List.countP_cons]

theorem subAt_some {A A1 : DAnal} {k : Nat} (h : subAt A k = some A1) :
    1 ≤ k ∧ k ≤ A.subs.length ∧ A.subs[A.subs.length - k]? = some A1 := by
  unfold subAt at h
  split at h
  · rename_i hk
    refine ⟨?_, hk, h⟩
    cases k with
    | zero => simp at h
    | succ k => omega
  · exact absurd h (by simp)

theorem subAt_of {A A1 : DAnal} {k j : Nat} (h : A.subs[j]? = some A1) (hk : j + k = A.subs.length) :
    subAt A k = some A1 := by
  unfold subAt
  have hj : j < A.subs.length := by
    rcases List.getElem?_eq_some_iff.1 h with ⟨hj, _⟩
    exact hj
  rw [if_pos (by omega)]
  have : A.subs.length - k = j := by omega
  rw [this, h]

theorem elimInstr_plain {P : List DState} {i : Instr w} (hp : blockParts i = none) {s : DState} {idx : Nat}
    {i' : Instr w} {s' : DState} {idx' : Nat} (h : elimInstr P i s idx = some (i', s', idx')) :
    idx' = idx ∧ s'.anal = s.anal ∧ s'.shift = s.shift ∧ s'.hadShift = s.hadShift := by
  cases i with
  | output src =>
    rw [elimInstr_output] at h
    simp only [Option.some.injEq, Prod.mk.injEq] at h
    obtain ⟨_, rfl, rfl⟩ := h
    exact ⟨rfl, rfl, rfl, rfl⟩
  | input dst =>
    rw [elimInstr_input] at h
    simp only [Option.some.injEq, Prod.mk.injEq] at h
    obtain ⟨_, rfl, rfl⟩ := h
    exact ⟨rfl, rfl, rfl, rfl⟩
  | «calc» calcs =>
    rw [elimInstr_calc] at h
    simp only [Option.some.injEq, Prod.mk.injEq] at h
    obtain ⟨_, rfl, rfl⟩ := h
    obtain ⟨ws, hws, _⟩ := calcScan_state P calcs s []
    simp [hws]
  | loop _ _ _ _ => cases hp
  | ifnz _ _ _ => cases hp

theorem elimInstr_meta {P : List DState} {i : Instr w} {s : DState} {idx : Nat} {i' : Instr w} {s' : DState}
    {idx' : Nat} (h : elimInstr P i s idx = some (i', s', idx')) :
    s'.anal = s.anal ∧ s'.shift = s.shift ∧ idx = idx' + (if isBlock i then 1 else 0) := by
  cases hp : blockParts i with
  | some p =>
    obtain ⟨cond, shift, body⟩ := p
    obtain ⟨k, A1, body', sub, idx1, rfl, _, _, hr⟩ := elimInstr_block_some hp h
    simp only [Prod.mk.injEq] at hr
    obtain ⟨_, rfl, rfl⟩ := hr
    simp [isBlock_of_parts hp]
  | none =>
    obtain ⟨rfl, h1, h2, _⟩ := elimInstr_plain hp h
    simp [h1, h2, isBlock_of_noParts hp]

theorem elimInsts_meta {P : List DState} {l : List (Instr w)} {s : DState} {idx : Nat} {l' : List (Instr w)}
    {s' : DState} {idx' : Nat} (h : elimInsts P l s idx = some (l', s', idx')) :
    s'.anal = s.anal ∧ s'.shift = s.shift ∧ idx = idx' + nblocks l := by
  induction l generalizing l' s' idx' with
  | nil =>
    rw [elimInsts_nil] at h
    simp only [Option.some.injEq, Prod.mk.injEq] at h
    obtain ⟨_, rfl, rfl⟩ := h
    simp
  | cons i rest ih =>
    obtain ⟨rest', s1, idx1, i', s0, idx0, h1, h2, hr⟩ := elimInsts_cons_some h
    simp only [Prod.mk.injEq] at hr
    obtain ⟨_, rfl, rfl⟩ := hr
    obtain ⟨a1, a2, a3⟩ := ih h1
    obtain ⟨b1, b2, b3⟩ := elimInstr_meta h2
    refine ⟨b1.trans a1, b2.trans a2, ?_⟩
    rw [nblocks_cons]; omega

/-- A nested block at the head of `i :: rest` is processed with the `(nblocks rest + 1)`-th analysis from the
end. -/
theorem subAt_of_elim {P : List DState} {rest rest' : List (Instr w)} {sh : Int} {A : DAnal} {s1 : DState}
    {k : Nat} {A1 : DAnal} (h1 : elimInsts P rest (DState.new sh A) A.subs.length = some (rest', s1, k + 1))
    (hA : s1.anal.subs[k]? = some A1) : subAt A (nblocks rest + 1) = some A1 := by
  obtain ⟨a1, _, a3⟩ := elimInsts_meta h1
  have ha : s1.anal = A := a1
  rw [ha] at hA
  exact subAt_of hA (by omega)

theorem shapeOkI_block {i : Instr w} {cond shift : Int} {body : List (Instr w)}
    (hp : blockParts i = some (cond, shift, body)) {A : DAnal} {k : Nat} :
    shapeOkI A i k = true ↔ ∃ A1, subAt A k = some A1 ∧ shapeOkL A1 body = true := by
  cases i <;> cases hp
  all_goals
    rw [shapeOkI]
    cases subAt A k <;> simp

theorem shapeOkI_plain {i : Instr w} (hb : isBlock i = false) (A : DAnal) (k : Nat) :
    shapeOkI A i k = true := by
  cases i with
  | loop _ _ _ _ => cases hb
  | ifnz _ _ _ => cases hb
  | _ => simp [shapeOkI]

theorem shiftOkI_plain {i : Instr w} (hb : isBlock i = false) (A : DAnal) (k : Nat) :
    shiftOkI A i k = true := by
  cases i with
  | loop _ _ _ _ => cases hb
  | ifnz _ _ _ => cases hb
  | _ => simp [shiftOkI]

theorem elim_total_both :
    (∀ (i : Instr w) (P : List DState) (s : DState) (k idx : Nat),
      shapeOkI s.anal i k = true → (isBlock i = true → idx + k = s.anal.subs.length + 1) →
      ∃ r, elimInstr P i s idx = some r) ∧
    ∀ (l : List (Instr w)) (P : List DState) (s : DState),
      shapeOkL s.anal l = true → ∃ r, elimInsts P l s s.anal.subs.length = some r := by
  refine block_induction ?_ ?_ ?_ ?_
  · intro i hp P s k idx _ _
    cases i with
    | output src => exact ⟨_, elimInstr_output P src s idx⟩
    | input dst => exact ⟨_, elimInstr_input P dst s idx⟩
    | «calc» calcs => exact ⟨_, elimInstr_calc P calcs s idx⟩
    | loop _ _ _ _ => cases hp
    | ifnz _ _ _ => cases hp
  · intro i cond shift body hp ih P s k idx h hk
    obtain ⟨A1, hs, h⟩ := (shapeOkI_block hp).1 h
    obtain ⟨r, hb⟩ := ih (s.read cond :: P) (DState.new shift A1) h
    obtain ⟨k1, k2, k3⟩ := subAt_some hs
    have hidx : idx = (s.anal.subs.length - k) + 1 := by have := hk (isBlock_of_parts hp); omega
    subst hidx
    exact ⟨_, elimInstr_block_of hp k3 hb⟩
  · intro P s _
    exact ⟨_, elimInsts_nil P s _⟩
  · intro i rest ihi ihr P s h
    rw [shapeOkL, Bool.and_eq_true] at h
    obtain ⟨⟨rest', s1, idx1⟩, h1⟩ := ihr P s h.2
    obtain ⟨a1, _, a3⟩ := elimInsts_meta h1
    have hi : shapeOkI s1.anal i (nblocks rest + 1) = true := by rw [a1]; exact h.1
    obtain ⟨⟨i', s0, idx0⟩, h2⟩ := ihi P s1 (nblocks rest + 1) idx1 hi (fun _ => by rw [a1]; omega)
    exact ⟨_, elimInsts_cons_of h1 h2⟩

theorem elimInstr_total : ∀ (i : Instr w) (P : List DState) (s : DState) (k idx : Nat),
    shapeOkI s.anal i k = true → (isBlock i = true → idx + k = s.anal.subs.length + 1) →
    ∃ r, elimInstr P i s idx = some r :=
  elim_total_both.1

theorem shape_of_elim_both :
    (∀ (i : Instr w) (P : List DState) (s : DState) (k idx : Nat) (r : Instr w × DState × Nat),
      elimInstr P i s idx = some r → idx + k = s.anal.subs.length + 1 → shapeOkI s.anal i k = true) ∧
    ∀ (l : List (Instr w)) (P : List DState) (s : DState) (r : List (Instr w) × DState × Nat),
      elimInsts P l s s.anal.subs.length = some r → shapeOkL s.anal l = true := by
  refine block_induction ?_ ?_ ?_ ?_
  · intro i hp P s k idx r _ _
    exact shapeOkI_plain (isBlock_of_noParts hp) _ _
  · intro i cond shift body hp ih P s k idx r h hk
    obtain ⟨j, A1, body', sub, idx1, rfl, hA, hb, _⟩ := elimInstr_block_some hp h
    exact (shapeOkI_block hp).2 ⟨A1, subAt_of hA (by omega), ih _ (DState.new shift A1) _ hb⟩
  · intro P s r _
    rw [shapeOkL]
  · intro i rest ihi ihr P s r h
    obtain ⟨rest', s1, idx1, i', s0, idx0, h1, h2, _⟩ := elimInsts_cons_some h
    obtain ⟨a1, _, a3⟩ := elimInsts_meta h1
    rw [shapeOkL, Bool.and_eq_true]
    refine ⟨?_, ihr P s _ h1⟩
    have := ihi P s1 (nblocks rest + 1) idx1 _ h2 (by rw [a1]; omega)
    rw [a1] at this; exact this

theorem shape_of_elimInstr : ∀ (i : Instr w) (P : List DState) (s : DState) (k idx : Nat)
    (r : Instr w × DState × Nat), elimInstr P i s idx = some r → idx + k = s.anal.subs.length + 1 →
    shapeOkI s.anal i k = true :=
  shape_of_elim_both.1

mutual
/-- `SubI i i'`: `i'` is `i` with some assignments deleted from its `calc`s (recursively). -/
inductive SubI : Instr w → Instr w → Prop
  | output (src : Int) : SubI (.output src) (.output src)
  | input (dst : Int) : SubI (.input dst) (.input dst)
  | calc {calcs calcs' : List (Int × Expr w)} : calcs'.Sublist calcs → SubI (.calc calcs) (.calc calcs')
  | loop (cond shift : Int) {body body' : List (Instr w)} (once : Bool) :
      SubL body body' → SubI (.loop cond shift body once) (.loop cond shift body' once)
  | ifnz (cond shift : Int) {body body' : List (Instr w)} :
      SubL body body' → SubI (.ifnz cond shift body) (.ifnz cond shift body')
inductive SubL : List (Instr w) → List (Instr w) → Prop
  | nil : SubL [] []
  | cons {i i' : Instr w} {l l' : List (Instr w)} : SubI i i' → SubL l l' → SubL (i :: l) (i' :: l')
end

theorem SubI.withBody {i : Instr w} {cond shift : Int} {body body' : List (Instr w)}
    (hp : blockParts i = some (cond, shift, body)) (h : SubL body body') : SubI i (withBody i body') := by
  cases i <;> cases hp
  · exact SubI.loop _ _ _ h
  · exact SubI.ifnz _ _ h

/-- Induction over `SubI` / `SubL`: the cases are the constructors, so nothing is inverted by hand. -/
theorem sub_induction {P : Instr w → Instr w → Prop} {Q : List (Instr w) → List (Instr w) → Prop}
    (hout : ∀ x, P (.output x) (.output x)) (hin : ∀ x, P (.input x) (.input x))
    (hcalc : ∀ cs cs' : List (Int × Expr w), cs'.Sublist cs → P (.calc cs) (.calc cs'))
    (hloop : ∀ c sh o body body', SubL body body' → Q body body' → P (.loop c sh body o) (.loop c sh body' o))
    (hif : ∀ c sh body body', SubL body body' → Q body body' → P (.ifnz c sh body) (.ifnz c sh body'))
    (hnil : Q [] [])
    (hcons : ∀ i i' l l', SubI i i' → SubL l l' → P i i' → Q l l' → Q (i :: l) (i' :: l')) :
    (∀ i i', SubI i i' → P i i') ∧ ∀ l l', SubL l l' → Q l l' :=
  ⟨fun _ _ h => SubI.rec (motive_1 := fun i i' _ => P i i') (motive_2 := fun l l' _ => Q l l')
      hout hin
      (fun h => hcalc _ _ h) (fun c sh _ _ o hb ih => hloop c sh o _ _ hb ih) (fun c sh _ _ hb ih => hif c sh _ _ hb ih)
      hnil (fun hi hl ihi ihl => hcons _ _ _ _ hi hl ihi ihl) h,
   fun _ _ h => SubL.rec (motive_1 := fun i i' _ => P i i') (motive_2 := fun l l' _ => Q l l')
      hout hin
      (fun h => hcalc _ _ h) (fun c sh _ _ o hb ih => hloop c sh o _ _ hb ih) (fun c sh _ _ hb ih => hif c sh _ _ hb ih)
      hnil (fun hi hl ihi ihl => hcons _ _ _ _ hi hl ihi ihl) h⟩

theorem sub_of_elim_both :
    (∀ (i : Instr w) (P : List DState) (s : DState) (idx : Nat) (i' : Instr w) (s' : DState) (idx' : Nat),
      elimInstr P i s idx = some (i', s', idx') → SubI i i') ∧
    ∀ (l : List (Instr w)) (P : List DState) (s : DState) (idx : Nat) (l' : List (Instr w)) (s' : DState)
      (idx' : Nat), elimInsts P l s idx = some (l', s', idx') → SubL l l' := by
  refine block_induction ?_ ?_ ?_ ?_
  · intro i hp P s idx i' s' idx' h
    cases i with
    | output src =>
      rw [elimInstr_output] at h
      simp only [Option.some.injEq, Prod.mk.injEq] at h
      rw [← h.1]; exact SubI.output src
    | input dst =>
      rw [elimInstr_input] at h
      simp only [Option.some.injEq, Prod.mk.injEq] at h
      rw [← h.1]; exact SubI.input dst
    | «calc» calcs =>
      rw [elimInstr_calc] at h
      simp only [Option.some.injEq, Prod.mk.injEq] at h
      rw [← h.1]; exact SubI.calc List.filter_sublist
    | loop _ _ _ _ => cases hp
    | ifnz _ _ _ => cases hp
  · intro i cond shift body hp ih P s idx i' s' idx' h
    obtain ⟨j, A1, body', sub, idx1, rfl, hA, hb, hr⟩ := elimInstr_block_some hp h
    simp only [Prod.mk.injEq] at hr
    rw [hr.1]; exact SubI.withBody hp (ih _ _ _ _ _ _ hb)
  · intro P s idx l' s' idx' h
    rw [elimInsts_nil] at h
    simp only [Option.some.injEq, Prod.mk.injEq] at h
    rw [← h.1]; exact SubL.nil
  · intro i rest ihi ihr P s idx l' s' idx' h
    obtain ⟨rest', s1, idx1, i', s0, idx0, h1, h2, hr⟩ := elimInsts_cons_some h
    simp only [Prod.mk.injEq] at hr
    rw [hr.1]
    exact SubL.cons (ihi _ _ _ _ _ _ h2) (ihr _ _ _ _ _ _ h1)

theorem subI_of_elimInstr : ∀ (i : Instr w) (P : List DState) (s : DState) (idx : Nat)
    (i' : Instr w) (s' : DState) (idx' : Nat), elimInstr P i s idx = some (i', s', idx') → SubI i i' :=
  sub_of_elim_both.1

theorem subL_of_elimInsts : ∀ (l : List (Instr w)) (P : List DState) (s : DState) (idx : Nat)
    (l' : List (Instr w)) (s' : DState) (idx' : Nat), elimInsts P l s idx = some (l', s', idx') → SubL l l' :=
  sub_of_elim_both.2

theorem elimInsts_hadShift {P : List DState} {l : List (Instr w)} {s : DState} {idx : Nat}
    {l' : List (Instr w)} {s' : DState} {idx' : Nat} (h : elimInsts P l s idx = some (l', s', idx'))
    (hsub : ∀ j A, idx' ≤ j → j < idx → s.anal.subs[j]? = some A → A.hasShift = false) :
    s'.hadShift = s.hadShift := by
  induction l generalizing l' s' idx' with
  | nil =>
    rw [elimInsts_nil] at h
    simp only [Option.some.injEq, Prod.mk.injEq] at h
    rw [← h.2.1]
  | cons i rest ih =>
    obtain ⟨rest', s1, idx1, i', s0, idx0, h1, h2, hr⟩ := elimInsts_cons_some h
    simp only [Prod.mk.injEq] at hr
    obtain ⟨_, rfl, rfl⟩ := hr
    obtain ⟨a1, _, a3⟩ := elimInsts_meta h1
    obtain ⟨_, _, b3⟩ := elimInstr_meta h2
    have hs1 : s1.hadShift = s.hadShift := ih h1 (fun j A hj1 hj2 => hsub j A (by omega) hj2)
    rw [← hs1]
    cases hp : blockParts i with
    | some p =>
      obtain ⟨cond, shift, body⟩ := p
      obtain ⟨k, A1, body', sub, idx1', hk, hA, _, hr⟩ := elimInstr_block_some hp h2
      simp only [Prod.mk.injEq] at hr
      obtain ⟨_, hs0, hk0⟩ := hr
      rw [a1] at hA
      have := hsub k A1 (by omega) (by omega) hA
      rw [hs0, absorb_hadShift, this]; simp
    | none => exact (elimInstr_plain hp h2).2.2.2

theorem usedSubs_spec {A : DAnal} {n : Nat} (h : (usedSubs A n).all (fun a => !a.hasShift) = true)
    {j : Nat} {A1 : DAnal} (hj : A.subs.length - n ≤ j) (hA : A.subs[j]? = some A1) : A1.hasShift = false := by
  rw [List.all_eq_true] at h
  have hm : A1 ∈ usedSubs A n := by
    unfold usedSubs
    rw [List.mem_iff_getElem?]
    refine ⟨j - (A.subs.length - n), ?_⟩
    rw [List.getElem?_drop]
    have : A.subs.length - n + (j - (A.subs.length - n)) = j := by omega
    rw [this, hA]
  simpa using h A1 hm

theorem bodyStart_hadShift {P : List DState} {body body' : List (Instr w)} {shift : Int} {A1 : DAnal}
    {sub : DState} {idx1 : Nat}
    (hb : elimInsts P body (DState.new shift A1) A1.subs.length = some (body', sub, idx1))
    (hu : (usedSubs A1 (nblocks body)).all (fun a => !a.hasShift) = true) : sub.hadShift = false := by
  obtain ⟨_, _, a3⟩ := elimInsts_meta hb
  have := elimInsts_hadShift hb (fun j A hj1 _ hA => usedSubs_spec hu (by
    have : (DState.new shift A1).anal = A1 := rfl
    omega) hA)
  rw [this]; rfl

mutual
def noShiftI : Instr w → Bool
  | .loop _ shift body _ => shift == 0 && noShiftL body
  | .ifnz _ shift body => shift == 0 && noShiftL body
  | _ => true
def noShiftL : List (Instr w) → Bool
  | [] => true
  | i :: rest => noShiftI i && noShiftL rest
end

def noShiftK : Cont w → Bool
  | .loopEnd _ shift body rest => shift == 0 && noShiftL body && noShiftL rest
  | .ifEnd shift rest => shift == 0 && noShiftL rest

theorem noShiftK_parts {k : Cont w} (h : noShiftK k = true) : k.shift = 0 ∧ noShiftL (contRest k) = true := by
  cases k <;> simp only [noShiftK, Bool.and_eq_true, beq_iff_eq] at h
  · exact ⟨h.1.1, h.2⟩
  · exact ⟨h.1, h.2⟩

theorem noShiftK_contOf {i : Instr w} {cond sh : Int} {body rest : List (Instr w)}
    (hp : blockParts i = some (cond, sh, body)) (hi : noShiftI i = true) (hr : noShiftL rest = true) :
    noShiftL body = true ∧ noShiftK (contOf i rest) = true := by
  cases i <;> cases hp <;> simp only [noShiftI, Bool.and_eq_true, beq_iff_eq] at hi <;>
    simp [noShiftK, contOf, hi.1, hi.2, hr]

theorem subAt_used {A A1 : DAnal} {k n : Nat} (h : subAt A k = some A1) (hk : k ≤ n)
    (hu : (usedSubs A n).all (fun a => !a.hasShift) = true) : A1.hasShift = false := by
  obtain ⟨k1, k2, k3⟩ := subAt_some h
  exact usedSubs_spec hu (by omega) k3

theorem noShiftI_plain {i : Instr w} (hb : isBlock i = false) : noShiftI i = true := by
  cases i with
  | loop _ _ _ _ => cases hb
  | ifnz _ _ _ => cases hb
  | _ => simp [noShiftI]

theorem noShift_of_both :
    (∀ (i : Instr w) (A : DAnal) (k : Nat), shapeOkI A i k = true → shiftOkI A i k = true →
      (∀ A1, subAt A k = some A1 → A1.hasShift = false) → noShiftI i = true) ∧
    ∀ (l : List (Instr w)) (A : DAnal) (n : Nat), shapeOkL A l = true → shiftOkL A l = true →
      nblocks l ≤ n → (usedSubs A n).all (fun a => !a.hasShift) = true → noShiftL l = true := by
  refine block_induction ?_ ?_ ?_ ?_
  · intro i hp A k _ _ _
    exact noShiftI_plain (isBlock_of_noParts hp)
  · intro i cond shift body hp ih A k h1 h2 h3
    obtain ⟨A1, hs, hbody⟩ := (shapeOkI_block hp).1 h1
    cases i <;> cases hp
    all_goals
      rw [shiftOkI, hs] at h2
      simp only [Bool.and_eq_true, Bool.or_eq_true, h3 A1 hs, Bool.false_eq_true, false_or] at h2
      rw [noShiftI, Bool.and_eq_true]
      exact ⟨h2.1.1, ih A1 (nblocks body) hbody h2.2 (Nat.le_refl _) h2.1.2⟩
  · intro A n _ _ _ _
    rw [noShiftL]
  · intro i rest ihi ihr A n h1 h2 hn hu
    rw [shapeOkL, Bool.and_eq_true] at h1
    rw [shiftOkL, Bool.and_eq_true] at h2
    rw [nblocks_cons] at hn
    rw [noShiftL, Bool.and_eq_true]
    refine ⟨?_, ihr A n h1.2 h2.2 (by omega) hu⟩
    cases hb : isBlock i with
    | false => exact noShiftI_plain hb
    | true =>
      rw [hb, if_pos rfl] at hn
      exact ihi A (nblocks rest + 1) h1.1 h2.1 (fun A1 hA1 => subAt_used hA1 (by omega) hu)

theorem noShiftI_of : ∀ (i : Instr w) (A : DAnal) (k : Nat), shapeOkI A i k = true → shiftOkI A i k = true →
    (∀ A1, subAt A k = some A1 → A1.hasShift = false) → noShiftI i = true :=
  noShift_of_both.1

end C01Dse
end Hpbf
