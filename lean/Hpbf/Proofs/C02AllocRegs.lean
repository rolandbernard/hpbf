/-
C02 (`allocate_temps`): the register part of the invariant (`RegsInv`) under the elementary updates of
the pass: releasing a range (`freeOne`), forwarding, choosing a location (`pickTemp`).
-/
import Hpbf.Proofs.C02AllocLemmas
import Hpbf.Proofs.C02AllocSpec
set_option linter.unusedSimpArgs false

namespace Hpbf
namespace C02
namespace Alloc

open Bc BcWf BcGen C11

variable {w : Nat}

theorem regsInv_congr {a b : ASt w} (h : RegsInv a) (h1 : b.repl = a.repl) (h2 : b.freeRegs = a.freeRegs)
    (h3 : b.freeTemps = a.freeTemps) (h4 : b.nextFresh = a.nextFresh) : RegsInv b := by
  obtain ⟨k1, k2, k3, k4, k5, k6, k7⟩ := h
  constructor
  · rw [h1]; exact k1
  · rw [h1]; exact k2
  · rw [h1, h2, h3, h4]; exact k3
  · rw [h2]; exact k4
  · rw [h3]; exact k5
  · rw [h2, h3]; exact k6
  · rw [h2, h3, h4]; exact k7

theorem freeOne_st (numRegs : Nat) (a : ASt w) (t : Nat) : (freeOne numRegs a t).st = a.st := by
  unfold freeOne; split <;> (try split) <;> rfl
theorem freeOne_nre (numRegs : Nat) (a : ASt w) (t : Nat) : (freeOne numRegs a t).nre = a.nre := by
  unfold freeOne; split <;> (try split) <;> rfl
theorem freeOne_nextFresh (numRegs : Nat) (a : ASt w) (t : Nat) :
    (freeOne numRegs a t).nextFresh = a.nextFresh := by
  unfold freeOne; split <;> (try split) <;> rfl
theorem freeOne_repl (numRegs : Nat) (a : ASt w) (t : Nat) :
    (freeOne numRegs a t).repl = alErase a.repl t := by
  unfold freeOne; split <;> (try split) <;> rfl

theorem regs_freeOne (numRegs : Nat) {a : ASt w} (h : RegsInv a) (t : Nat) : RegsInv (freeOne numRegs a t) := by
  have hk := C02Emit.keys_alErase_nodup a.repl t h.replKeys
  have hget : ∀ t' l, alGet (alErase a.repl t) t' = some l → alGet a.repl t' = some l ∧ t' ≠ t := by
    intro t' l hl
    rw [alGet_alErase _ _ _ h.replKeys] at hl
    split at hl
    · cases hl
    · rename_i hne; exact ⟨hl, hne⟩
  have hinj : ∀ (t1 t2 r : Nat), alGet (alErase a.repl t) t1 = some (.tmp r) →
      alGet (alErase a.repl t) t2 = some (.tmp r) → t1 = t2 :=
    fun t1 t2 r h1 h2 => h.inj t1 t2 r (hget _ _ h1).1 (hget _ _ h2).1
  unfold freeOne
  split
  · rename_i r hg
    have hr := h.notFree t r hg
    by_cases hlt : r < numRegs
    · simp only [hlt, if_true]
      refine ⟨hk, hinj, ?_, nodup_minPush hr.1 h.freeRegsNodup, h.freeTempsNodup, ?_, ?_⟩
      · intro t' r' hr'
        obtain ⟨g1, g2⟩ := hget _ _ hr'
        have := h.notFree t' r' g1
        refine ⟨?_, this.2.1, this.2.2⟩
        simp only [mem_minPush, not_or]
        refine ⟨?_, this.1⟩
        intro e; subst e
        exact g2 (h.inj _ _ _ g1 hg)
      · intro x hx
        simp only [mem_minPush] at hx
        rcases hx with rfl | hx
        · exact hr.2.1
        · exact h.freeDisj x hx
      · intro x hx
        simp only [mem_minPush] at hx
        rcases hx with (rfl | hx) | hx
        · exact hr.2.2
        · exact h.freeLt x (Or.inl hx)
        · exact h.freeLt x (Or.inr hx)
    · simp only [hlt, if_false]
      refine ⟨hk, hinj, ?_, h.freeRegsNodup, nodup_minPush hr.2.1 h.freeTempsNodup, ?_, ?_⟩
      · intro t' r' hr'
        obtain ⟨g1, g2⟩ := hget _ _ hr'
        have := h.notFree t' r' g1
        refine ⟨this.1, ?_, this.2.2⟩
        simp only [mem_minPush, not_or]
        refine ⟨?_, this.2.1⟩
        intro e; subst e
        exact g2 (h.inj _ _ _ g1 hg)
      · intro x hx
        simp only [mem_minPush, not_or]
        refine ⟨?_, h.freeDisj x hx⟩
        intro e; subst e; exact hr.1 hx
      · intro x hx
        simp only [mem_minPush] at hx
        rcases hx with hx | rfl | hx
        · exact h.freeLt x (Or.inl hx)
        · exact hr.2.2
        · exact h.freeLt x (Or.inr hx)
  · exact ⟨hk, hinj, fun t' r hr => h.notFree t' r (hget _ _ hr).1, h.freeRegsNodup, h.freeTempsNodup,
      h.freeDisj, h.freeLt⟩

/-- What every single release keeps, step 5 keeps. -/
theorem freeList_induct {numRegs : Nat} {P : ASt w → Prop} (h : ∀ a t, P a → P (freeOne numRegs a t))
    (ts : List Nat) {a : ASt w} (ha : P a) : P (freeList numRegs ts a) := by
  induction ts generalizing a with
  | nil => exact ha
  | cons t ts ih => exact ih (h a t ha)

theorem freeList_st (numRegs : Nat) (ts : List Nat) (a : ASt w) : (freeList numRegs ts a).st = a.st :=
  freeList_induct (P := fun b => b.st = a.st) (fun b t h => (freeOne_st numRegs b t).trans h) ts rfl
theorem freeList_nre (numRegs : Nat) (ts : List Nat) (a : ASt w) : (freeList numRegs ts a).nre = a.nre :=
  freeList_induct (P := fun b => b.nre = a.nre) (fun b t h => (freeOne_nre numRegs b t).trans h) ts rfl
theorem freeList_nextFresh (numRegs : Nat) (ts : List Nat) (a : ASt w) :
    (freeList numRegs ts a).nextFresh = a.nextFresh :=
  freeList_induct (P := fun b => b.nextFresh = a.nextFresh) (fun b t h => (freeOne_nextFresh numRegs b t).trans h) ts rfl

theorem regs_freeList (numRegs : Nat) (ts : List Nat) {a : ASt w} (h : RegsInv a) :
    RegsInv (freeList numRegs ts a) :=
  freeList_induct (P := RegsInv) (fun _ t h => regs_freeOne numRegs h t) ts h

theorem alGet_freeList (numRegs : Nat) (ts : List Nat) {a : ASt w} (h : RegsInv a) (t' : Nat) :
    alGet (freeList numRegs ts a).repl t' = if t' ∈ ts then none else alGet a.repl t' := by
  induction ts generalizing a with
  | nil => simp [freeList]
  | cons t ts ih =>
    simp only [freeList, List.foldl_cons] at ih ⊢
    rw [ih (regs_freeOne numRegs h t), freeOne_repl, alGet_alErase _ _ _ h.replKeys]
    by_cases h1 : t' ∈ ts
    · simp [h1]
    · by_cases h2 : t = t'
      · subst h2; simp [h1]
      · have : ¬ t' = t := fun e => h2 e.symm
        simp [h1, h2, this]

theorem regs_setRepl_nontmp {a : ASt w} (h : RegsInv a) (t : Nat) (l : Loc w) (hl : ∀ r, l ≠ .tmp r) :
    RegsInv ({ a with repl := alSet a.repl t l } : ASt w) := by
  have hget : ∀ t' r, alGet (alSet a.repl t l) t' = some (.tmp r) → alGet a.repl t' = some (.tmp r) := by
    intro t' r hr
    rw [alGet_alSet] at hr
    split at hr
    · cases hr; exact absurd rfl (hl r)
    · exact hr
  exact ⟨(C02Emit.keys_alSet_nodup _ _ _ h.replKeys).1, fun t1 t2 r h1 h2 => h.inj t1 t2 r (hget _ _ h1) (hget _ _ h2),
    fun t' r hr => h.notFree t' r (hget _ _ hr), h.freeRegsNodup, h.freeTempsNodup, h.freeDisj, h.freeLt⟩

theorem pickTemp_freeRegs_sub (a : ASt w) (live : Nat) : ∀ r ∈ (pickTemp a live).2.1, r ∈ a.freeRegs := by
  unfold pickTemp
  split
  · cases hf : a.freeRegs with
    | cons r rs => intro x hx; exact List.mem_cons_of_mem _ hx
    | nil =>
      cases a.freeTemps <;> (intro x hx; simp at hx)
  · cases a.freeTemps <;> exact fun x hx => hx

theorem regs_pick {a : ASt w} (h : RegsInv a) (live old : Nat) :
    RegsInv ({ a with
      freeRegs := (pickTemp a live).2.1, freeTemps := (pickTemp a live).2.2.1,
      nextFresh := (pickTemp a live).2.2.2,
      repl := alSet a.repl old (.tmp (pickTemp a live).1) } : ASt w) := by
  -- the generic argument: `r` unused, the new free lists are sublists, `nextFresh` grows
  have key : ∀ (r : Nat) (fr ft : List Nat) (nf : Nat),
      (∀ x, x ∈ fr → x ∈ a.freeRegs) → (∀ x, x ∈ ft → x ∈ a.freeTemps) → fr.Nodup → ft.Nodup →
      a.nextFresh ≤ nf → r ∉ fr → r ∉ ft → r < nf →
      (∀ t' r', alGet a.repl t' = some (.tmp r') → r' ≠ r) →
      RegsInv ({ a with freeRegs := fr, freeTemps := ft, nextFresh := nf,
                        repl := alSet a.repl old (.tmp r) } : ASt w) := by
    intro r fr ft nf h1 h2 h3 h4 h5 h6 h7 h8 h9
    have hget : ∀ t' r', alGet (alSet a.repl old (.tmp r)) t' = some (.tmp r') →
        (t' = old ∧ r' = r) ∨ (t' ≠ old ∧ alGet a.repl t' = some (.tmp r')) := by
      intro t' r' hr
      rw [alGet_alSet] at hr
      split at hr
      · rename_i e; cases hr; exact Or.inl ⟨e, rfl⟩
      · rename_i e; exact Or.inr ⟨e, hr⟩
    refine ⟨(C02Emit.keys_alSet_nodup _ _ _ h.replKeys).1, ?_, ?_, h3, h4, ?_, ?_⟩
    · intro t1 t2 r' g1 g2
      rcases hget _ _ g1 with ⟨e1, e1'⟩ | ⟨n1, q1⟩ <;> rcases hget _ _ g2 with ⟨e2, e2'⟩ | ⟨n2, q2⟩
      · rw [e1, e2]
      · subst e1'; exact absurd rfl (h9 _ _ q2)
      · subst e2'; exact absurd rfl (h9 _ _ q1)
      · exact h.inj _ _ _ q1 q2
    · intro t' r' g
      rcases hget _ _ g with ⟨_, e⟩ | ⟨_, g⟩
      · subst e; exact ⟨h6, h7, h8⟩
      · have := h.notFree t' r' g
        exact ⟨fun hx => this.1 (h1 _ hx), fun hx => this.2.1 (h2 _ hx), Nat.lt_of_lt_of_le this.2.2 h5⟩
    · intro x hx hx'
      exact h.freeDisj x (h1 _ hx) (h2 _ hx')
    · intro x hx
      rcases hx with hx | hx
      · exact Nat.lt_of_lt_of_le (h.freeLt x (Or.inl (h1 _ hx))) h5
      · exact Nat.lt_of_lt_of_le (h.freeLt x (Or.inr (h2 _ hx))) h5
  have hfresh : ∀ t' r', alGet a.repl t' = some (.tmp r') → r' ≠ a.nextFresh :=
    fun t' r' g => Nat.ne_of_lt (h.notFree t' r' g).2.2
  have hfr : ∀ r rs, a.freeRegs = r :: rs →
      (∀ x, x ∈ rs → x ∈ a.freeRegs) ∧ rs.Nodup ∧ r ∉ rs ∧ r ∉ a.freeTemps ∧ r < a.nextFresh ∧
      (∀ t' r', alGet a.repl t' = some (.tmp r') → r' ≠ r) := by
    intro r rs e
    have hn := h.freeRegsNodup
    rw [e, List.nodup_cons] at hn
    have hm : r ∈ a.freeRegs := by rw [e]; exact List.mem_cons_self
    refine ⟨fun x hx => by rw [e]; exact List.mem_cons_of_mem _ hx, hn.2, hn.1, h.freeDisj r hm,
      h.freeLt r (Or.inl hm), ?_⟩
    intro t' r' g e'
    subst e'
    exact (h.notFree t' r' g).1 hm
  have hft : ∀ r rs, a.freeTemps = r :: rs →
      (∀ x, x ∈ rs → x ∈ a.freeTemps) ∧ rs.Nodup ∧ r ∉ rs ∧ r ∉ a.freeRegs ∧ r < a.nextFresh ∧
      (∀ t' r', alGet a.repl t' = some (.tmp r') → r' ≠ r) := by
    intro r rs e
    have hn := h.freeTempsNodup
    rw [e, List.nodup_cons] at hn
    have hm : r ∈ a.freeTemps := by rw [e]; exact List.mem_cons_self
    refine ⟨fun x hx => by rw [e]; exact List.mem_cons_of_mem _ hx, hn.2, hn.1,
      fun hx => h.freeDisj r hx hm, h.freeLt r (Or.inr hm), ?_⟩
    intro t' r' g e'
    subst e'
    exact (h.notFree t' r' g).2.1 hm
  have hnfR : a.nextFresh ∉ a.freeRegs := fun hx => Nat.lt_irrefl _ (h.freeLt _ (Or.inl hx))
  have hnfT : a.nextFresh ∉ a.freeTemps := fun hx => Nat.lt_irrefl _ (h.freeLt _ (Or.inr hx))
  unfold pickTemp
  split
  · cases hR : a.freeRegs with
    | cons r rs =>
      obtain ⟨g1, g2, g3, g4, g5, g6⟩ := hfr r rs hR
      exact key r rs a.freeTemps a.nextFresh g1 (fun x hx => hx) g2 h.freeTempsNodup (Nat.le_refl _) g3 g4 g5 g6
    | nil =>
      cases hT : a.freeTemps with
      | cons r rs =>
        obtain ⟨g1, g2, g3, g4, g5, g6⟩ := hft r rs hT
        exact key r [] rs a.nextFresh (fun x hx => by cases hx) g1 List.nodup_nil g2 (Nat.le_refl _)
          (by simp) g3 g5 g6
      | nil =>
        exact key a.nextFresh [] [] (a.nextFresh + 1) (fun x hx => by cases hx) (fun x hx => by cases hx)
          List.nodup_nil List.nodup_nil (Nat.le_succ _) (by simp) (by simp) (Nat.lt_succ_self _) hfresh
  · cases hT : a.freeTemps with
    | cons r rs =>
      obtain ⟨g1, g2, g3, g4, g5, g6⟩ := hft r rs hT
      exact key r a.freeRegs rs a.nextFresh (fun x hx => hx) g1 h.freeRegsNodup g2 (Nat.le_refl _) g4 g3 g5 g6
    | nil =>
      exact key a.nextFresh a.freeRegs [] (a.nextFresh + 1) (fun x hx => hx) (fun x hx => by cases hx)
        h.freeRegsNodup List.nodup_nil (Nat.le_succ _) hnfR (by simp) (Nat.lt_succ_self _) hfresh

theorem freed_fields (numRegs : Nat) (atf : List Nat) (live : Nat) {c : ASt w} (hR : RegsInv c) :
    (pushLive (freeList numRegs atf c) live).st.ranges = c.st.ranges ∧
    (pushLive (freeList numRegs atf c) live).st.insts = c.st.insts ∧
    (pushLive (freeList numRegs atf c) live).nre = c.nre ∧
    (∀ t, alGet (pushLive (freeList numRegs atf c) live).repl t = if t ∈ atf then none else alGet c.repl t) ∧
    (pushLive (freeList numRegs atf c) live).st.live = c.st.live.push live :=
  ⟨by show (freeList numRegs atf c).st.ranges = _; rw [freeList_st],
    by show (freeList numRegs atf c).st.insts = _; rw [freeList_st],
    freeList_nre numRegs atf c, alGet_freeList numRegs atf hR,
    by show (freeList numRegs atf c).st.live.push live = _; rw [freeList_st]⟩

end Alloc
end C02
end Hpbf
