/-
The PHYSICAL write footprint of emitted code, syntactically.  `tgtL is v`: the instruction
list `is` may write the cell at offset `v` (relative to the pointer at its start; a nested block that moves the
pointer may write anything).  `nsL is`: no nested block moves the pointer.  `phys_frame`: in ANY run of such code
the pointer comes back and the cells outside `tgtL` are untouched.
-/
import Hpbf.Proofs.OptRbFootDefs

namespace Hpbf
namespace OptProof
open Opt OptSem Ir

variable {w : Nat}

mutual
def tgtI : Instr w → Int → Prop
  | .calc g, v => v ∈ g.map (·.1)
  | .input d, v => v = d
  | .output _, _ => False
  | .loop _ sh body _, v => sh ≠ 0 ∨ tgtL body v
  | .ifnz _ sh body, v => sh ≠ 0 ∨ tgtL body v
def tgtL : List (Instr w) → Int → Prop
  | [], _ => False
  | i :: rest, v => tgtI i v ∨ tgtL rest v
end

mutual
def nsI : Instr w → Prop
  | .loop _ sh body _ => sh = 0 ∧ nsL body
  | .ifnz _ sh body => sh = 0 ∧ nsL body
  | _ => True
def nsL : List (Instr w) → Prop
  | [] => True
  | i :: rest => nsI i ∧ nsL rest
end

theorem tgtL_nil (v : Int) : ¬ tgtL ([] : List (Instr w)) v := by simp [tgtL]

theorem tgtL_cons (i : Instr w) (l : List (Instr w)) (v : Int) : tgtL (i :: l) v ↔ tgtI i v ∨ tgtL l v := by
  rw [tgtL]

theorem tgtL_append (a b : List (Instr w)) (v : Int) : tgtL (a ++ b) v ↔ tgtL a v ∨ tgtL b v := by
  induction a with
  | nil => simp [tgtL]
  | cons i a ih => simp only [List.cons_append, tgtL_cons, ih, or_assoc]

theorem nsL_cons (i : Instr w) (l : List (Instr w)) : nsL (i :: l) ↔ nsI i ∧ nsL l := by rw [nsL]

theorem nsL_append (a b : List (Instr w)) : nsL (a ++ b) ↔ nsL a ∧ nsL b := by
  induction a with
  | nil => simp [nsL]
  | cons i a ih => simp only [List.cons_append, nsL_cons, ih, and_assoc]

theorem tgtL_calcs (comps : List (List (Int × Expr w))) (v : Int) :
    tgtL (comps.map Instr.calc) v ↔ ∃ g ∈ comps, v ∈ g.map (·.1) := by
  induction comps with
  | nil => simp [tgtL]
  | cons g comps ih =>
    simp only [List.map_cons, tgtL_cons, ih, tgtI, List.mem_cons, exists_eq_or_imp]

theorem nsL_calcs (comps : List (List (Int × Expr w))) : nsL (comps.map Instr.calc) := by
  induction comps with
  | nil => simp [nsL]
  | cons g comps ih => simp only [List.map_cons, nsL_cons]; exact ⟨by simp [nsI], ih⟩

theorem memE_mov_zero (σ : State w) : memE (σ.mov 0) = memE σ := by
  funext v
  show σ.tape.get (σ.ptr + 0 + v) = σ.tape.get (σ.ptr + v)
  rw [Int.add_zero]

theorem phys_frame {is : List (Instr w)} {σ : State w} {o : Out w} (h : Exec is σ o) :
    ∀ σ', o = .fin σ' → nsL is → σ'.ptr = σ.ptr ∧ ∀ v, ¬ tgtL is v → memE σ' v = memE σ v := by
  induction h with
  | cut _ _ => intro σ' e; cases e
  | nil σ => intro σ' e _; cases e; exact ⟨rfl, fun _ _ => rfl⟩
  | @outOk src rest σ σ1 o h1 _ ih =>
    intro σ' e hns
    rw [nsL_cons] at hns
    obtain ⟨p, m⟩ := ih σ' e hns.2
    have hf := C01Dse.output_meta σ src
    rw [h1] at hf
    refine ⟨p.trans hf.1, fun v hv => ?_⟩
    rw [m v (fun h => hv ((tgtL_cons _ _ _).2 (Or.inr h)))]
    exact congrFun (memE_of_tape_ptr hf.2 hf.1) v
  | outFail _ => intro σ' e; cases e
  | @inOk dst rest σ σ1 o h1 _ ih =>
    intro σ' e hns
    rw [nsL_cons] at hns
    obtain ⟨p, m⟩ := ih σ' e hns.2
    have hp : σ1.ptr = σ.ptr := by
      have := C01Dse.input_ptr σ dst
      rw [h1] at this; exact this
    refine ⟨p.trans hp, fun v hv => ?_⟩
    rw [m v (fun h => hv ((tgtL_cons _ _ _).2 (Or.inr h)))]
    have hvd : v ≠ dst := fun e => hv ((tgtL_cons _ _ _).2 (Or.inl (by simp [tgtI, e])))
    have hin : ∀ a, a ≠ σ.ptr + dst → σ1.tape.get a = σ.tape.get a := by
      intro a ha
      have : σ1 = (σ.input dst).2 := by rw [h1]
      rw [this]
      unfold State.input
      split
      · show (σ.tape.set (σ.ptr + dst) _).get a = _
        exact Tape.get_set_ne _ _ _ _ ha
      · rfl
      · rfl
    show σ1.tape.get (σ1.ptr + v) = σ.tape.get (σ.ptr + v)
    rw [hp]
    exact hin _ (by omega)
  | inFail _ => intro σ' e; cases e
  | @«calc» calcs rest σ o _ ih =>
    intro σ' e hns
    rw [nsL_cons] at hns
    obtain ⟨p, m⟩ := ih σ' e hns.2
    obtain ⟨d1, _, _⟩ := C01Dse.doCalc_meta σ calcs
    refine ⟨p.trans d1, fun v hv => ?_⟩
    rw [m v (fun h => hv ((tgtL_cons _ _ _).2 (Or.inr h)))]
    show (doCalc σ calcs).tape.get ((doCalc σ calcs).ptr + v) = σ.tape.get (σ.ptr + v)
    rw [d1]
    apply C01Dse.doCalc_get_notin
    intro ve hve e'
    apply hv
    refine (tgtL_cons _ _ _).2 (Or.inl ?_)
    have : ve.1 = v := by omega
    simp only [tgtI]
    exact List.mem_map.2 ⟨ve, hve, this⟩
  | loopSkip _ _ ih =>
    intro σ' e hns
    rw [nsL_cons] at hns
    obtain ⟨p, m⟩ := ih σ' e hns.2
    exact ⟨p, fun v hv => m v (fun h => hv ((tgtL_cons _ _ _).2 (Or.inr h)))⟩
  | @loopIter cond shift body once rest σ σ1 o _ _ _ ih1 ih2 =>
    intro σ' e hns
    have hns' := hns
    rw [nsL_cons] at hns'
    obtain ⟨hsh, hnb⟩ : shift = 0 ∧ nsL body := by
      have := hns'.1; simp only [nsI] at this; exact this
    obtain ⟨p1, m1⟩ := ih1 σ1 rfl hnb
    obtain ⟨p2, m2⟩ := ih2 σ' e hns
    subst hsh
    refine ⟨by rw [p2]; show σ1.ptr + 0 = σ.ptr; rw [Int.add_zero, p1], fun v hv => ?_⟩
    rw [m2 v hv, memE_mov_zero]
    apply m1 v
    intro hb
    exact hv ((tgtL_cons _ _ _).2 (Or.inl (by simp only [tgtI]; exact Or.inr hb)))
  | loopIn _ _ hnf _ =>
    intro σ' e
    rw [e] at hnf; simp [Out.isFin] at hnf
  | ifSkip _ _ ih =>
    intro σ' e hns
    rw [nsL_cons] at hns
    obtain ⟨p, m⟩ := ih σ' e hns.2
    exact ⟨p, fun v hv => m v (fun h => hv ((tgtL_cons _ _ _).2 (Or.inr h)))⟩
  | @ifIter cond shift body rest σ σ1 o _ _ _ ih1 ih2 =>
    intro σ' e hns
    rw [nsL_cons] at hns
    obtain ⟨hsh, hnb⟩ : shift = 0 ∧ nsL body := by
      have := hns.1; simp only [nsI] at this; exact this
    obtain ⟨p1, m1⟩ := ih1 σ1 rfl hnb
    obtain ⟨p2, m2⟩ := ih2 σ' e hns.2
    subst hsh
    refine ⟨by rw [p2]; show σ1.ptr + 0 = σ.ptr; rw [Int.add_zero, p1], fun v hv => ?_⟩
    rw [m2 v (fun h => hv ((tgtL_cons _ _ _).2 (Or.inr h))), memE_mov_zero]
    apply m1 v
    intro hb
    exact hv ((tgtL_cons _ _ _).2 (Or.inl (by simp only [tgtI]; exact Or.inr hb)))
  | ifIn _ _ hnf _ =>
    intro σ' e
    rw [e] at hnf; simp [Out.isFin] at hnf

def PhysInv (s : Rebuild w) : Prop :=
  s.subShift = false → nsL s.insts ∧ ∀ v, tgtL s.insts v → v ∈ mKeys s.written ∨ v ∈ s.reads

theorem footFrameV_of_phys {V : State w → Prop} {s s' : Rebuild w} {new : List (Instr w)}
    (h : s'.subShift = false → nsL new ∧ ∀ v, tgtL new v → v ∈ mKeys s'.written ∨ v ∈ s'.reads) :
    FootFrameV V s s' new := by
  intro hs K _ σ1 σ2 _ _ b hex
  obtain ⟨hns, hph⟩ := h hs
  obtain ⟨p, m⟩ := phys_frame hex b rfl hns
  refine ⟨p, fun v h1 h2 => m v (fun ht => ?_)⟩
  rcases hph v ht with h' | h'
  · exact h1 h'
  · exact h2 h'

end OptProof
end Hpbf
