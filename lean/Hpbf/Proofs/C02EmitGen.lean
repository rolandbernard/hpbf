/-
C02, first phase: `emitLoopIf` succeeds iff its body (and the `outer_accessed` loop) does, and
the state it returns is an explicit function of theirs (`emitLoopIf_block_ok`, `emitLoopIf_scan_ok`; used
by every walk over `emit_block` through `C02EmitWalk`); and the list `subsOf` of analyses that `emit_block` consumes.
-/
import Hpbf.Proofs.C02EmitCalc

namespace Hpbf
namespace C02Emit
open BcGen Bc Sim Expr

variable {w : Nat}

def headVals (sub : Analysis) (V : List (GvnExpr w × Nat)) : List (GvnExpr w × Nat) :=
  if sub.hasShift then [] else removeMems V sub.writes

def exitVals (sub : Analysis) (once : Bool) (prevExprs : Nat) (exprs : Array (GvnExpr w))
    (V : List (GvnExpr w × Nat)) : List (GvnExpr w × Nat) :=
  if sub.hasShift then []
  else if once then V
  else (exprs.toList.drop prevExprs).foldl (fun vs e => alErase vs e) (removeMems V sub.writes)

theorem mem_headVals {sub : Analysis} {V : List (GvnExpr w × Nat)} {p : GvnExpr w × Nat}
    (h : p ∈ headVals sub V) : p ∈ V := by
  unfold headVals at h
  split at h
  · exact absurd h List.not_mem_nil
  · exact mem_removeMems h

theorem mem_exitVals {sub : Analysis} {once : Bool} {n : Nat} {ex : Array (GvnExpr w)}
    {V : List (GvnExpr w × Nat)} {p : GvnExpr w × Nat} (h : p ∈ exitVals sub once n ex V) : p ∈ V := by
  unfold exitVals at h
  split at h
  · exact absurd h List.not_mem_nil
  · split at h
    · exact h
    · exact mem_removeMems (mem_eraseFold h)

def G.push (g : G w) (i : Bc.Instr w) : G w := { g with insts := g.insts.push i }

/-- `core` of the state in which the body is emitted: after the placeholder for the leading `brz`. -/
def blockStart (once : Bool) (g0 : G w) : G w := if once then g0 else g0.push .noop

/-- State after the block: `g0` is the state at the head (values already adjusted), `g2` the state
after the body. -/
def blockEnd (isLoop once : Bool) (cond shift : Int) (sub : Analysis) (g0 g2 : G w) : G w :=
  let g3 := if shift = 0 then g2 else g2.push (.mov shift)
  let start := (blockStart once g0).insts.size
  let g4 := if isLoop then g3.push (.brnz cond ((start : Int) - (g3.insts.size : Int))) else g3
  let patch : Bc.Instr w := .brz cond ((g4.insts.size : Int) - ((start - 1 : Nat) : Int))
  let g5 : G w := if once then g4 else { g4 with insts := g4.insts.setIfInBounds (start - 1) patch }
  { g5 with values := exitVals sub once g0.exprs.size g5.exprs g5.values }

def headG (isLoop : Bool) (sub : Analysis) (g : G w) : G w :=
  if isLoop then { g with values := headVals sub g.values } else g

/-- State after a loop with empty body fused into `scan`. -/
def scanEnd (cond shift : Int) (sub : Analysis) (once : Bool) (g : G w) : G w :=
  { (headG true sub g).push (.scan cond shift) with
    values := exitVals sub once g.exprs.size g.exprs (headVals sub g.values) }

/-! The states of `emitLoopIf`, one definition per update: `lhHead` (the table at a loop head), `lhNoop` (the placeholder
of the leading `brz`), `lhPro` (`lhNoop`, then `current_start`), `lhMov`, `lhBrnz`, `lhPatch` (the placeholder becomes the
`brz`), `lhExit` (the table after the block); `bodySt`, `endSt`, `scanSt` are the composites in which
`emitLoopIf_block_ok` and `emitLoopIf_scan_ok` speak; `blockStart`, `blockEnd`, `headG`, `scanEnd` above are their `core`
(`core_bodySt`, `core_endSt`), in which the certificate `Em` speaks. Each step of the `do` block has one lemma (`lhHeadI_bind` …
`lhExit_ok`), for a loop and an `if`, run once or not, alike; `emitLoopIf_block_ok` runs them in order. -/

def lhHead (isLoop : Bool) (sub : Analysis) (s : St w) : St w :=
  if isLoop then { s with values := headVals sub s.values } else s

def lhPro (isLoop once : Bool) (s : St w) : St w :=
  let s1 : St w := if once then s else { s with insts := s.insts.push .noop }
  if isLoop then { s1 with currentStart := s1.insts.size } else s1

/-- The placeholder of the leading `brz` is pushed. -/
def lhNoop (once : Bool) (s : St w) : St w := if once then s else { s with insts := s.insts.push .noop }

def lhMov (shift : Int) (s : St w) : St w :=
  if shift = 0 then s else { s with insts := s.insts.push (.mov shift) }

def lhBrnz (cond : Int) (start : Nat) (s : St w) : St w :=
  { s with insts := s.insts.push (.brnz cond ((start : Int) - (s.insts.size : Int))) }

def lhPatch (cond : Int) (start : Nat) (s : St w) : St w :=
  { s with insts := s.insts.setIfInBounds (start - 1) (.brz cond ((s.insts.size : Int) - ((start - 1 : Nat) : Int))) }

def lhExit (once : Bool) (sub : Analysis) (prevExprs : Nat) (s : St w) : St w :=
  { s with values := exitVals sub once prevExprs s.exprs s.values }

/-- The state in which the body is emitted. -/
def bodySt (isLoop once : Bool) (sub : Analysis) (s : St w) : St w := lhPro isLoop once (lhHead isLoop sub s)

/-- The state after the block; `so` is the state after the `outer_accessed` loop. -/
def endSt (ps : Nat) (isLoop once : Bool) (cond : Int) (sub : Analysis) (s so : St w) : St w :=
  let start := (bodySt isLoop once sub s).insts.size
  let s4 := if isLoop then lhBrnz cond start so else so
  lhExit once sub s.exprs.size { (if once then s4 else lhPatch cond start s4) with currentStart := ps }

def scanSt (cond shift : Int) (sub : Analysis) (once : Bool) (s : St w) : St w :=
  lhExit once sub s.exprs.size
    { lhHead true sub s with insts := (lhHead true sub s).insts.push (.scan cond shift) }

theorem lhHead_bind {β : Type} (sub : Analysis) (f : Unit → M w β) (s : St w) :
    ((if sub.hasShift = true then (modify fun s => { s with values := [] } : M w Unit)
      else modify fun s => { s with values := removeMems s.values sub.writes }) >>= f) s =
    f () (lhHead true sub s) := by
  unfold lhHead headVals
  cases sub.hasShift <;> cases s <;> rfl

theorem lhMov_bind {β : Type} (shift : Int) (f : Unit → M w β) (s : St w) :
    ((if (shift != 0) = true then pushInst (.mov shift) else pure ()) >>= f) s = f () (lhMov shift s) := by
  unfold lhMov
  by_cases h : shift = 0
  · subst h; cases s; rfl
  · have : (shift != 0) = true := by simpa using h
    simp only [this, h, ↓reduceIte]; cases s; rfl

theorem lhHeadI_bind {β : Type} (isLoop : Bool) (sub : Analysis) (f : Unit → M w β) (s : St w) :
    ((if isLoop = true then
        (if sub.hasShift = true then (modify fun s => { s with values := [] } : M w Unit)
         else modify fun s => { s with values := removeMems s.values sub.writes })
      else pure ()) >>= f) s = f () (lhHead isLoop sub s) := by
  cases isLoop
  · cases s; rfl
  · exact lhHead_bind sub f s

theorem lhNoop_bind {β : Type} (once : Bool) (f : Unit → M w β) (s : St w) :
    ((if (!once) = true then pushInst .noop else pure ()) >>= f) s = f () (lhNoop once s) := by
  cases once <;> cases s <;> rfl

theorem lhCs_bind {β : Type} (isLoop : Bool) (n : Nat) (f : Unit → M w β) (s : St w) :
    ((if isLoop = true then (modify fun s => { s with currentStart := n } : M w Unit) else pure ()) >>= f) s =
      f () (if isLoop then { s with currentStart := n } else s) := by
  cases isLoop <;> cases s <;> rfl

/-- The `outer_accessed` loop and the closing `brnz`, for a loop. -/
theorem lhOuter_ok {β : Type} (isLoop : Bool) (ps n st : Nat) (cond : Int) (k : M w β) (x s' : St w)
    (u : β) :
    (if isLoop = true then
        get >>= fun s => outerLoop ps (s.outerAccessed.size + s.ranges.size + 1) n >>= fun _ =>
          get >>= fun l => pushInst (.brnz cond ((st : Int) - (l.insts.size : Int))) >>= fun _ => k
      else k) x = .ok (u, s') ↔
    ∃ so, (if isLoop = true then outerLoop ps (x.outerAccessed.size + x.ranges.size + 1) n x = .ok ((), so)
        else so = x) ∧
      k (if isLoop then lhBrnz cond st so else so) = .ok (u, s') := by
  cases isLoop
  · simp only [Bool.false_eq_true, if_false, exists_eq_left]
  · simp only [if_true, get_bind, bind_ok, pushInst_bind, lhBrnz]
    exact ⟨fun ⟨_, so, h1, h2⟩ => ⟨so, h1, h2⟩, fun ⟨so, h1, h2⟩ => ⟨(), so, h1, h2⟩⟩

/-- The two panic sites of the branch patch, and the patch. -/
theorem lhPatch_ok {β : Type} (once : Bool) (st : Nat) (cond : Int) (e1 e2 : String) (k : M w β) (x s' : St w)
    (u : β) :
    (if (!once) = true then
        (if st = 0 then throw e1 else pure ()) >>= fun _ => get >>= fun s =>
          (if st - 1 ≥ s.insts.size then throw e2 else pure ()) >>= fun _ =>
          set { s with insts := s.insts.setIfInBounds (st - 1) (.brz cond ((s.insts.size : Int) - ((st - 1 : Nat) : Int))) }
            >>= fun _ => k
      else k) x = .ok (u, s') ↔
    (once = false → st ≠ 0 ∧ st - 1 < x.insts.size) ∧ k (if once then x else lhPatch cond st x) = .ok (u, s') := by
  cases once
  · simp only [Bool.not_false, if_true, ite_throw_bind, get_bind, set_bind, ite_error_ok, lhPatch, Nat.not_le,
      ge_iff_le, forall_const, Bool.false_eq_true, if_false, and_assoc]
  · simp only [Bool.not_true, Bool.false_eq_true, if_false, reduceCtorEq, false_imp_iff, true_and, if_true]

theorem exitVals_true (sub : Analysis) (n : Nat) (ex : Array (GvnExpr w)) (V : List (GvnExpr w × Nat)) :
    exitVals sub true n ex V = if sub.hasShift then [] else V := by
  unfold exitVals
  split <;> rfl

/-- The last step of `emitLoopIf` (`once = false`, resp. `once = true`). -/
theorem exit_many_ok (sub : Analysis) (n : Nat) (x s' : St w) (u : Unit) :
    (if sub.hasShift = true then (modify fun s => { s with values := [] } : M w Unit)
      else modify fun s => { s with
        values := (s.exprs.toList.drop n).foldl (fun vs e => alErase vs e) (removeMems s.values sub.writes) }) x
      = .ok (u, s') ↔ s' = { x with values := exitVals sub false n x.exprs x.values } := by
  unfold exitVals
  cases sub.hasShift <;> simp [modify_ok]

theorem exit_once_ok (sub : Analysis) (x s' : St w) (u : Unit) :
    (if sub.hasShift = true then (modify fun s => { s with values := [] } : M w Unit) else pure ()) x
      = .ok (u, s') ↔ s' = { x with values := if sub.hasShift then [] else x.values } := by
  cases sub.hasShift <;> simp [modify_ok, pure_ok]

theorem lhExit_ok (once : Bool) (sub : Analysis) (n : Nat) (x s' : St w) (u : Unit) :
    (if sub.hasShift = true then (modify fun s => { s with values := [] } : M w Unit)
      else if (!once) = true then modify fun s => { s with
        values := (s.exprs.toList.drop n).foldl (fun vs e => alErase vs e) (removeMems s.values sub.writes) }
      else pure ()) x = .ok (u, s') ↔ s' = lhExit once sub n x := by
  cases once
  · exact exit_many_ok sub n x s' u
  · simpa only [lhExit, exitVals_true, Bool.not_true, Bool.false_eq_true, if_false] using exit_once_ok sub x s' u

theorem lhPro_fold (isLoop once : Bool) (s : St w) :
    (if isLoop = true then { lhNoop once s with currentStart := (lhNoop once s).insts.size } else lhNoop once s) =
      lhPro isLoop once s := rfl

theorem bodySt_fold (isLoop once : Bool) (sub : Analysis) (s : St w) :
    lhPro isLoop once (lhHead isLoop sub s) = bodySt isLoop once sub s := rfl

theorem lhHead_exprs (isLoop : Bool) (sub : Analysis) (s : St w) : (lhHead isLoop sub s).exprs = s.exprs := by
  cases isLoop <;> rfl

theorem lhHead_outerAccessed (isLoop : Bool) (sub : Analysis) (s : St w) :
    (lhHead isLoop sub s).outerAccessed = s.outerAccessed := by
  cases isLoop <;> rfl

theorem lhNoop_insts (isLoop once : Bool) (sub : Analysis) (s : St w) :
    (lhNoop once (lhHead isLoop sub s)).insts = (bodySt isLoop once sub s).insts := by
  cases isLoop <;> rfl

theorem size_lhBrnz (isLoop : Bool) (cond : Int) (st : Nat) (so : St w) :
    (if isLoop = true then lhBrnz cond st so else so).insts.size = so.insts.size + if isLoop = true then 1 else 0 := by
  cases isLoop <;> simp [lhBrnz]

theorem bodySt_pos (isLoop : Bool) (sub : Analysis) (s : St w) :
    0 < (bodySt isLoop false sub s).insts.size := by
  cases isLoop <;> simp [bodySt, lhHead, lhPro]

section
/- `ps`, `be`, `eb` are the model's `prevStart`, `bodyEmpty`, `emitBody`. -/
variable {fuse : Bool} {ps : Nat} {cond shift : Int} {be : Bool} {sub : Analysis}
  {eb : Nat → M w Unit} {s s' : St w} {u : Unit}

/-- A loop or `if` that is not fused: the body is emitted from `bodySt`, the `outer_accessed` loop runs
(loops only), and the two panic sites of the branch patch are passed iff the placeholder is still inside
the instruction list. -/
theorem emitLoopIf_block_ok {isLoop once : Bool} (hf : (!fuse || !isLoop || !be) = true) :
    emitLoopIf fuse ps isLoop once cond shift be sub eb s = .ok (u, s') ↔
    ∃ sb so, eb (bodySt isLoop once sub s).currentStart (bodySt isLoop once sub s) = .ok ((), sb) ∧
      (if isLoop then
        outerLoop ps ((lhMov shift sb).outerAccessed.size + (lhMov shift sb).ranges.size + 1)
          s.outerAccessed.size (lhMov shift sb) = .ok ((), so)
       else so = lhMov shift sb) ∧
      (once = false →
        (bodySt isLoop once sub s).insts.size - 1 < so.insts.size + (if isLoop then 1 else 0)) ∧
      s' = endSt ps isLoop once cond sub s so := by
  unfold emitLoopIf
  rw [hf]
  -- the optional single steps (`values` at the head, the placeholder, `current_start`, `mov`, the two `throw`s) back
  -- in sequence
  simp only [↓reduceIte, ite_seq, ite_bind_same]
  -- run the steps, one lemma each; `bind_ok` stops at the body, `lhOuter_ok` at the `outer_accessed` loop
  simp only [lhHeadI_bind, get_bind, lhNoop_bind, lhCs_bind, lhPro_fold, bodySt_fold, bind_ok, lhMov_bind, lhOuter_ok,
    lhPatch_ok, modify_bind, lhExit_ok]
  -- in the words of the statement: what the head leaves alone, the start of the body
  simp only [lhHead_exprs, lhHead_outerAccessed, lhNoop_insts, size_lhBrnz]
  -- the final state is `endSt` by unfolding; the placeholder has been pushed when `once = false`
  constructor
  · rintro ⟨_, sb, hb, so, ho, hp, rfl⟩
    exact ⟨sb, so, hb, ho, fun h => (hp h).2, rfl⟩
  · rintro ⟨sb, so, hb, ho, hp, rfl⟩
    exact ⟨(), sb, hb, so, ho, fun h => ⟨h ▸ Nat.ne_of_gt (bodySt_pos isLoop sub s), hp h⟩, rfl⟩

/-- A loop with empty body fused into `scan`. The literal `false` in `hf` is `!isLoop` at `isLoop = true`, the shape in
which the test of `emitLoopIf` stands after unfolding, so that `hf` rewrites it. -/
theorem emitLoopIf_scan_ok (once : Bool) (hf : (!fuse || false || !be) = false) :
    emitLoopIf fuse ps true once cond shift be sub eb s = .ok (u, s') ↔
    s' = scanSt cond shift sub once s := by
  unfold emitLoopIf
  simp only [Bool.not_true, hf, ↓reduceIte, Bool.false_eq_true, ite_bind_same]
  simp only [get_bind, lhHead_bind, pushInst_bind]
  cases once <;> simp [exit_many_ok, exit_once_ok, exitVals_true, scanSt, lhHead, lhExit]

end

theorem core_bodySt (isLoop once : Bool) (sub : Analysis) (s : St w) :
    core (bodySt isLoop once sub s) = blockStart once (headG isLoop sub (core s)) := by
  cases isLoop <;> cases once <;> rfl

theorem core_endSt {ps : Nat} {isLoop once : Bool} {cond shift : Int} {sub : Analysis} {s sb so : St w}
    (h : core so = core (lhMov shift sb)) :
    core (endSt ps isLoop once cond sub s so) =
      blockEnd isLoop once cond shift sub (headG isLoop sub (core s)) (core sb) := by
  have hm : core (lhMov shift sb) = if shift = 0 then core sb else (core sb).push (.mov shift) := by
    unfold lhMov; split <;> rfl
  rw [hm] at h
  simp only [blockEnd, ← h, ← core_bodySt]
  cases isLoop <;> cases once <;> rfl

def subOf (shift : Int) (body : List (Ir.Instr w)) : Analysis :=
  (analyzeInsts body Analysis.empty).close shift

/-- The list `anal.sub_anal` consumed by `emit_block`. -/
def subsOf : List (Ir.Instr w) → List Analysis
  | [] => []
  | .loop _ shift body _ :: rest => subOf shift body :: subsOf rest
  | .ifnz _ shift body :: rest => subOf shift body :: subsOf rest
  | .output _ :: rest => subsOf rest
  | .input _ :: rest => subsOf rest
  | .calc _ :: rest => subsOf rest

/-- `accessed` only moves the bounds. -/
theorem accessed_eq (a : Analysis) (v : Int) :
    a.accessed v = { a with minAcc := (a.accessed v).minAcc, maxAcc := (a.accessed v).maxAcc } := by
  cases a; unfold Analysis.accessed; dsimp only; split <;> split <;> rfl

theorem foldl_field {α β : Type} (f : Analysis → α → Analysis) (π : Analysis → β) (h : ∀ a x, π (f a x) = π a)
    (l : List α) (a : Analysis) : π (l.foldl f a) = π a := by
  induction l generalizing a with
  | nil => rfl
  | cons x l ih => rw [List.foldl_cons, ih, h]

theorem accessed_subAnal (a : Analysis) (v : Int) : (a.accessed v).subAnal = a.subAnal := by rw [accessed_eq]

theorem written_subAnal (a : Analysis) (v : Int) : (a.written v).subAnal = a.subAnal := by
  unfold Analysis.written
  dsimp only
  split <;> exact accessed_subAnal a v

theorem foldl_accessed_subAnal (l : List Int) (a : Analysis) :
    (l.foldl Analysis.accessed a).subAnal = a.subAnal := foldl_field _ _ accessed_subAnal l a

theorem foldl_written_subAnal (l : List Int) (a : Analysis) :
    (l.foldl Analysis.written a).subAnal = a.subAnal := foldl_field _ _ written_subAnal l a

theorem calc_subAnal (calcs : List (Int × Expr w)) (a : Analysis) : (a.calc calcs).subAnal = a.subAnal :=
  foldl_field _ (·.subAnal) (fun a ve => by rw [written_subAnal, foldl_accessed_subAnal]) calcs a

theorem absorb_subAnal (a : Analysis) (cond : Int) (sub : Analysis) :
    (a.absorb cond sub).subAnal = a.subAnal ++ [sub] := by
  unfold Analysis.absorb
  dsimp only
  split
  · simp only [accessed_subAnal]
  · split
    · simp only [foldl_written_subAnal, accessed_subAnal]
    · simp only [accessed_subAnal]

theorem analyzeInsts_subAnal : ∀ (l : List (Ir.Instr w)) (a : Analysis),
    (analyzeInsts l a).subAnal = a.subAnal ++ subsOf l := by
  intro l
  induction l with
  | nil => intro a; simp [analyzeInsts, subsOf]
  | cons i rest ih =>
    intro a
    rw [analyzeInsts, ih]
    cases i with
    | output src => simp only [analyzeInstr, accessed_subAnal, subsOf]
    | input dst => simp only [analyzeInstr, written_subAnal, subsOf]
    | «calc» calcs => simp only [analyzeInstr, calc_subAnal, subsOf]
    | loop cond shift body once =>
      simp only [analyzeInstr, absorb_subAnal, subsOf, subOf, List.append_assoc, List.singleton_append]
    | ifnz cond shift body =>
      simp only [analyzeInstr, absorb_subAnal, subsOf, subOf, List.append_assoc, List.singleton_append]

theorem close_subAnal (a : Analysis) (shift : Int) : (a.close shift).subAnal = a.subAnal := by
  unfold Analysis.close; split <;> rfl

theorem subOf_subAnal (shift : Int) (body : List (Ir.Instr w)) :
    (subOf shift body).subAnal = subsOf body := by
  unfold subOf
  rw [close_subAnal, analyzeInsts_subAnal]
  rfl

theorem analyze_subAnal (b : Ir.Block w) : (analyze b).subAnal = subsOf b.insts := by
  unfold analyze
  rw [close_subAnal, analyzeInsts_subAnal]
  rfl

mutual
/-- Size of an instruction list: the measure of `emitInsts_tr`, and of the IR configurations in the simulation (`mu`,
`C02EmitSim`); `2 +` so that entering a block and leaving it both decrease `mu`. -/
def isz : Ir.Instr w → Nat
  | .loop _ _ body _ => 2 + iszL body
  | .ifnz _ _ body => 2 + iszL body
  | .output _ => 1
  | .input _ => 1
  | .calc _ => 1
def iszL : List (Ir.Instr w) → Nat
  | [] => 0
  | i :: is => isz i + iszL is
end

end C02Emit
end Hpbf
