/-
C02: ONE fusion of `zeroing_move_detection` preserves behaviour. A fusion `(r, m, j)` turns a source operand
`mem m` of the instruction at `r` into `memZero m` (read and clear) and the later zeroing copy
`copy (mem m) (imm 0)` at `j` into `noop`; between `r` and `j` the fused program has 0 in cell `ptr + m` where the
original has the old value (`FR`). Conditions (`FuseCond`): no instruction strictly between touches `m`, moves the
pointer or branches, no branch lands in `(r, j]`, and the fused operand is the last read of `m` in its instruction
(`FuseAt`). The simulation is step-for-step (`lockstep_run`), so both programs use the same fuel.
-/
import Hpbf.Proofs.C02Reorder
import Hpbf.Proofs.C11Agree

namespace Hpbf
namespace C02

open Bc BcWf BcGen C11

variable {w : Nat}

structure SCleared (a : Int) (s s' : State w) : Prop where
  io : IoEq s s'
  tape : ∀ t, s'.tape.get t = if t = a then 0#w else s.tape.get t

structure Cleared (a : Int) (x y : Cfg w) : Prop where
  pc : y.pc = x.pc
  temps : y.temps = x.temps
  budget : y.budget = x.budget
  st : SCleared a x.st y.st

theorem sCleared_wr (s : State w) (m : Int) : SCleared (s.ptr + m) s (s.wr m 0#w) :=
  ⟨⟨rfl, rfl, rfl⟩, fun t => by simp only [State.wr, Tape.get_set]⟩

theorem SCleared.wr {s s' : State w} {a : Int} (h : SCleared a s s') {md : Int} (hne : s.ptr + md ≠ a)
    (v : BitVec w) : SCleared a (s.wr md v) (s'.wr md v) := by
  refine ⟨⟨h.io.ptr, h.io.env, h.io.trace⟩, fun t => ?_⟩
  simp only [State.wr, Tape.get_set, ← h.io.ptr, h.tape]
  by_cases h1 : t = s.ptr + md
  · have : ¬ t = a := by omega
    simp [h1]
    omega
  · simp [h1]

theorem SCleared.rd {s s' : State w} {a : Int} (h : SCleared a s s') {md : Int} (hne : s.ptr + md ≠ a) :
    s'.rd md = s.rd md := by
  unfold State.rd
  rw [← h.io.ptr, h.tape]
  simp [hne]

def Avoids (s : State w) (a : Int) (b : Loc w) : Prop := ∀ o ∈ locMem b, s.ptr + o ≠ a

theorem avoids_of_not_mem {s : State w} {p0 m : Int} {b : Loc w} (hp : s.ptr = p0) (hb : m ∉ locMem b) :
    Avoids s (p0 + m) b := by
  intro o ho
  have : o ≠ m := fun e => hb (e ▸ ho)
  omega

theorem SCleared.rdSt {s s' : State w} {a : Int} (h : SCleared a s s') {b : Loc w}
    (hb : Avoids s a b) : SCleared a (rdSt s b) (rdSt s' b) := by
  cases b with
  | memZero o => exact h.wr (hb o (by simp [locMem])) _
  | _ => exact h

theorem SCleared.rdVal {s s' : State w} {a : Int} (h : SCleared a s s') (c : Cfg w) {b : Loc w}
    (hb : Avoids s a b) : rdVal { c with st := s' } b = rdVal { c with st := s } b := by
  cases b with
  | mem o => exact h.rd (hb o (by simp [locMem]))
  | memZero o => exact h.rd (hb o (by simp [locMem]))
  | _ => rfl

theorem wrCfg_cleared {s s' : State w} {a : Int} (h : SCleared a s s') (c : Cfg w) (v : BitVec w)
    {d : Loc w} (hd : Avoids s a d) :
    Cleared a (wrCfg { c with st := s } v d) (wrCfg { c with st := s' } v d) := by
  cases d with
  | mem o => exact ⟨rfl, rfl, rfl, h.wr (hd o (by simp [locMem])) v⟩
  | tmp i => exact ⟨rfl, rfl, rfl, h⟩
  | memZero o => exact ⟨rfl, rfl, rfl, h⟩
  | imm k => exact ⟨rfl, rfl, rfl, h⟩

theorem copy_fuse (c : Cfg w) (d : Loc w) (m : Int) (hd : m ∉ locMem d) :
    Cleared (c.st.ptr + m) (copyCfg c d (.mem m)) (copyCfg c d (.memZero m)) := by
  unfold copyCfg
  exact wrCfg_cleared (sCleared_wr c.st m) c (c.st.rd m) (avoids_of_not_mem rfl hd)

theorem sameDst_false_of_not_mem {d a : Loc w} {m : Int} (hd : m ∉ locMem d) (ha : m ∈ locMem a) :
    sameDst d a = false := by
  cases d <;> cases a <;> simp_all [sameDst, locMem]
  omega

/-- Fusing the SECOND source: the first source carries no read-and-clear operand. -/
theorem binop_fuse_b (f : BitVec w → BitVec w → BitVec w) (c : Cfg w) (d a : Loc w) (m : Int)
    (hd : m ∉ locMem d) (ha : locNoZero a = true) :
    Cleared (c.st.ptr + m) (binopCfg f c d a (.mem m)) (binopCfg f c d a (.memZero m)) := by
  unfold binopCfg
  have h0 := sCleared_wr c.st m
  by_cases hs : sameDst d a = true
  · simp only [hs, if_true]
    have hv : rdVal { c with st := rdSt c.st (Loc.memZero m) } d = rdVal { c with st := rdSt c.st (Loc.mem m) } d :=
      h0.rdVal c (avoids_of_not_mem rfl hd)
    simp only [hv]
    exact wrCfg_cleared (h0.rdSt (avoids_of_not_mem rfl hd)) c _ (avoids_of_not_mem (rdSt_ptr _ _) hd)
  · simp only [hs]
    simp only [rdSt_noZero _ ha]
    exact wrCfg_cleared h0 c _ (avoids_of_not_mem rfl hd)

/-- Fusing the FIRST source: the second source does not read `m` (it may be another `memZero`). -/
theorem binop_fuse_a (f : BitVec w → BitVec w → BitVec w) (c : Cfg w) (d b : Loc w) (m : Int)
    (hd : m ∉ locMem d) (hb : m ∉ locMem b) :
    Cleared (c.st.ptr + m) (binopCfg f c d (.mem m) b) (binopCfg f c d (.memZero m) b) := by
  unfold binopCfg
  have h1 : sameDst d (.mem m : Loc w) = false := sameDst_false_of_not_mem hd (by simp [locMem])
  have h2 : sameDst d (.memZero m : Loc w) = false := sameDst_false_of_not_mem hd (by simp [locMem])
  simp only [h1, h2, Bool.false_eq_true, if_false]
  have h0 := sCleared_wr c.st m
  have hv : rdVal { c with st := rdSt c.st (Loc.memZero m) } b = rdVal { c with st := rdSt c.st (Loc.mem m) } b :=
    h0.rdVal c (avoids_of_not_mem rfl hb)
  simp only [hv]
  exact wrCfg_cleared (h0.rdSt (avoids_of_not_mem rfl hb)) c _ (avoids_of_not_mem (rdSt_ptr _ _) hd)

def opFn : BcGen.Op → BitVec w → BitVec w → BitVec w
  | .add => (· + ·)
  | .sub => fun x y => x + (-y)
  | .mul => (· * ·)

theorem stepI_mkArith (p : Program w) (limited : Bool) (c : Cfg w) (op : BcGen.Op) (d a b : Loc w) :
    stepI p limited c (mkArith op d a b) = arith c (opFn op) d a b := by
  cases op <;> rfl

/-- `a'` is `a` with ONE source operand `mem m` turned into `memZero m`, that operand being the last read of
cell `m` by the instruction and the destination being another location. -/
inductive FuseAt (m : Int) : Instr w → Instr w → Prop
  | copy (d : Loc w) : m ∉ locMem d → FuseAt m (.copy d (.mem m)) (.copy d (.memZero m))
  | arithB (op : BcGen.Op) (d a : Loc w) : m ∉ locMem d → locNoZero a = true →
      FuseAt m (mkArith op d a (.mem m)) (mkArith op d a (.memZero m))
  | arithA (op : BcGen.Op) (d b : Loc w) : m ∉ locMem d → m ∉ locMem b →
      FuseAt m (mkArith op d (.mem m) b) (mkArith op d (.memZero m) b)

theorem isDst_noZero {d : Loc w} (h : isDst d = true) : locNoZero d = true := by
  cases d <;> simp_all [isDst, locNoZero]

theorem fuse_local (p : Program w) (limited : Bool) (c : Cfg w) {m : Int} {a a' : Instr w}
    (h : FuseAt m a a') :
    (stepI p limited c a = .bad c ∧ stepI p limited c a' = .bad c) ∨
    ∃ x y, stepI p limited c a = .next x ∧ stepI p limited c a' = .next y ∧
      Cleared (c.st.ptr + m) x y ∧ x.pc = c.pc + 1 ∧ x.st.ptr = c.st.ptr := by
  have setPc : ∀ {x y : Cfg w} (k : Nat), Cleared (c.st.ptr + m) x y →
      Cleared (c.st.ptr + m) { x with pc := k } { y with pc := k } :=
    fun k h => ⟨rfl, h.temps, h.budget, h.st⟩
  cases h with
  | copy d hd =>
    simp only [stepI]
    by_cases hdz : isDst d = true
    · simp only [hdz, if_true]
      exact Or.inr ⟨_, _, rfl, rfl, setPc _ (copy_fuse c d m hd), rfl, copyCfg_ptr _ _ _⟩
    · simp only [hdz]
      exact Or.inl ⟨rfl, rfl⟩
  | arithB op d a hd ha =>
    simp only [stepI_mkArith, arith]
    by_cases hdz : isDst d = true
    · simp only [hdz, if_true]
      exact Or.inr ⟨_, _, rfl, rfl, setPc _ (binop_fuse_b _ c d a m hd ha), rfl, binopCfg_ptr _ _ _ _ _⟩
    · simp only [hdz]
      exact Or.inl ⟨rfl, rfl⟩
  | arithA op d b hd hb =>
    simp only [stepI_mkArith, arith]
    by_cases hdz : isDst d = true
    · simp only [hdz, if_true]
      exact Or.inr ⟨_, _, rfl, rfl, setPc _ (binop_fuse_a _ c d b m hd hb), rfl, binopCfg_ptr _ _ _ _ _⟩
    · simp only [hdz]
      exact Or.inl ⟨rfl, rfl⟩

def quiet (m : Int) : Instr w → Bool
  | .scan _ _ => false
  | .mov _ => false
  | .brz _ _ => false
  | .brnz _ _ => false
  | ins => !(memOps ins).contains m

theorem quiet_memOps {m : Int} {ins : Instr w} (h : quiet m ins = true) : m ∉ memOps ins := by
  cases ins <;> simp_all [quiet]

theorem quiet_step (p : Program w) (limited : Bool) (c : Cfg w) {m : Int} {ins : Instr w}
    (h : quiet m ins = true) :
    (stepI p limited c ins).cfg.st.ptr = c.st.ptr ∧
    ((∃ c', stepI p limited c ins = .next c' ∧ c'.pc = c.pc + 1) ∨
     (∃ c', stepI p limited c ins = .stop c') ∨ (∃ c', stepI p limited c ins = .bad c')) := by
  cases ins with
  | scan _ _ | mov _ | brz _ _ | brnz _ _ => simp [quiet] at h
  | noop => exact ⟨rfl, Or.inl ⟨_, rfl, rfl⟩⟩
  | inp dst =>
    refine ⟨by have := C01Dse.input_ptr c.st dst; simp only [stepI]; split <;> exact this, ?_⟩
    simp only [stepI]
    split
    · exact Or.inl ⟨_, rfl, rfl⟩
    · exact Or.inr (Or.inl ⟨_, rfl⟩)
  | out src =>
    refine ⟨by have := (C01Dse.output_meta c.st src).1; simp only [stepI]; split <;> exact this, ?_⟩
    simp only [stepI]
    split
    · exact Or.inl ⟨_, rfl, rfl⟩
    · exact Or.inr (Or.inl ⟨_, rfl⟩)
  | add d a b | sub d a b | mul d a b =>
    simp only [stepI, arith]
    split
    · exact ⟨binopCfg_ptr _ _ _ _ _, Or.inl ⟨_, rfl, rfl⟩⟩
    · exact ⟨rfl, Or.inr (Or.inr ⟨_, rfl⟩)⟩
  | copy d s =>
    simp only [stepI]
    split
    · exact ⟨copyCfg_ptr _ _ _, Or.inl ⟨_, rfl, rfl⟩⟩
    · exact ⟨rfl, Or.inr (Or.inr ⟨_, rfl⟩)⟩

structure FuseCond (P : Program w) (r j : Nat) (m : Int) (a a' : Instr w) : Prop where
  rj : r < j
  hr : P.insts[r]? = some a
  fuse : FuseAt m a a'
  hj : P.insts[j]? = some (.copy (.mem m) (.imm 0#w))
  quiet : ∀ x ins, r < x → x < j → P.insts[x]? = some ins → quiet m ins = true
  targets : TargetsOk P.insts
  noTarget : ∀ (i : Nat) (ins : Instr w) (off : Int), P.insts[i]? = some ins → branchOff? ins = some off →
    ¬ (r < ((i : Int) + off).toNat ∧ ((i : Int) + off).toNat ≤ j)

def fuseInsts (insts : Array (Instr w)) (r j : Nat) (a' : Instr w) : Array (Instr w) :=
  (insts.setIfInBounds r a').setIfInBounds j .noop

theorem fuseInsts_size (insts : Array (Instr w)) (r j : Nat) (a' : Instr w) :
    (fuseInsts insts r j a').size = insts.size := by simp [fuseInsts]

theorem fuseInsts_get_other (insts : Array (Instr w)) {r j x : Nat} (a' : Instr w) (hr : x ≠ r) (hj : x ≠ j) :
    (fuseInsts insts r j a')[x]? = insts[x]? := by
  simp only [fuseInsts, Array.getElem?_setIfInBounds]
  simp [Ne.symm hr, Ne.symm hj]

theorem fuseInsts_get_r (insts : Array (Instr w)) {r j : Nat} (a' : Instr w) (hrj : r ≠ j)
    (hr : r < insts.size) : (fuseInsts insts r j a')[r]? = some a' := by
  simp only [fuseInsts, Array.getElem?_setIfInBounds]
  simp [Ne.symm hrj, hr]

theorem fuseInsts_get_j (insts : Array (Instr w)) {r j : Nat} (a' : Instr w)
    (hj : j < insts.size) : (fuseInsts insts r j a')[j]? = some .noop := by
  simp only [fuseInsts, Array.getElem?_setIfInBounds]
  simp [hj]

/-- The simulation relation of one fusion: inside `(r, j]` the fused program has already cleared `ptr + m`. -/
structure FR (r j : Nat) (m : Int) (c1 c2 : Cfg w) : Prop where
  pc : c1.pc = c2.pc
  temps : c1.temps = c2.temps
  budget : c1.budget = c2.budget
  io : IoEq c1.st c2.st
  tape : if r < c1.pc ∧ c1.pc ≤ j then
      (∀ x, x ≠ c1.st.ptr + m → c1.st.tape.get x = c2.st.tape.get x) ∧ c2.st.tape.get (c1.st.ptr + m) = 0#w
    else ∀ x, c1.st.tape.get x = c2.st.tape.get x

theorem _root_.Hpbf.C11.TapeSim.cfgIo {X : Int → Prop} {c1 c2 : Cfg w} (h : TapeSim X c1 c2) : CfgIo c1 c2 :=
  ⟨⟨h.st.ptr, h.st.env, h.st.trace⟩, h.budget⟩

theorem _root_.Hpbf.C11.TapeSim.cfgEq {X : Int → Prop} {c1 c2 : Cfg w} (h : TapeSim X c1 c2) (hX : ∀ x, X x) : CfgEq c1 c2 :=
  ⟨⟨⟨h.st.ptr, h.st.env, h.st.trace⟩, fun x => h.st.tape x (hX x)⟩, h.budget⟩

theorem stepRel_of_tapeSim {X : Int → Prop} {r1 r2 : StepRes w} {R : Cfg w → Cfg w → Prop}
    (ht : r1.tag = r2.tag) (hs : TapeSim X r1.cfg r2.cfg)
    (hnext : ∀ a b, r1 = .next a → r2 = .next b → R a b)
    (hfin : (r1.tag = 1 ∨ r1.tag = 3) → ∀ x, X x) : StepRel R CfgEq CfgIo r1 r2 := by
  cases r1 <;> cases r2 <;> simp only [StepRes.tag] at ht <;> try omega
  all_goals simp only [StepRel, StepRes.cfg] at hs ⊢
  · exact hnext _ _ rfl rfl
  · exact hs.cfgEq (hfin (Or.inl rfl))
  · exact hs.cfgIo
  · exact hs.cfgEq (hfin (Or.inr rfl))
  · exact hs.cfgIo

/-- One step of the fused program `Q` against one step of `P`.  The configurations agree except that, while the pc is in
`(r, j]`, `Q` has `0` in the cell `ptr + m` already (`FR`).  By the pc: past the end; at `r`, where `P` runs the reader `a`
and `Q` the fused `a'`, which also clears the cell (`fuse_local`): the region is entered; at `j`, where `P` clears the cell
and `Q` has a `noop`: the region is left; strictly inside, where the instruction is `quiet m`, so both sides take the same
step on the cells other than `ptr + m` (`stepI_tape` on the complement) and the `0` stays where it is on `Q`'s side
(`stepI_frame`); outside, where both take the same step on all cells and no branch leads into the region (`noTarget`). -/
theorem fuse_stepRel {P Q : Program w} {r j : Nat} {m : Int} {a a' : Instr w}
    (h : FuseCond P r j m a a') (hQ : Q.insts = fuseInsts P.insts r j a') (limited : Bool)
    (c1 c2 : Cfg w) (hR : FR r j m c1 c2) :
    StepRel (FR r j m) CfgEq CfgIo (step P limited c1) (step Q limited c2) := by
  have hsz : Q.insts.size = P.insts.size := by rw [hQ, fuseInsts_size]
  have hjlt : j < P.insts.size := lt_of_getElem? h.hj
  have hrlt : r < P.insts.size := lt_of_getElem? h.hr
  have hrj := h.rj
  obtain ⟨hpc, htemps, hbudget, hio, htape⟩ := hR
  have outside : ¬ (r < c1.pc ∧ c1.pc ≤ j) → TapeSim (fun _ => True) c1 c2 := fun hnr => by
    simp only [hnr, if_false] at htape
    exact ⟨hpc, htemps, hbudget, ⟨hio.ptr, hio.env, hio.trace, fun x _ => htape x⟩⟩
  cases hi : P.insts[c1.pc]? with
  | none =>
    -- past the end: not inside the region
    have hge : P.insts.size ≤ c1.pc := by rw [Array.getElem?_eq_none_iff] at hi; exact hi
    have hts := outside (by omega)
    have hi2 : Q.insts[c2.pc]? = none := by rw [Array.getElem?_eq_none_iff]; omega
    rw [step_none hi, step_none hi2, ← hpc, hsz]
    by_cases he : c1.pc = P.insts.size
    · simp only [he, if_true, StepRel]; exact hts.cfgEq (fun _ => trivial)
    · simp only [he, if_false, StepRel]; exact hts.cfgIo
  | some ins =>
    have hlt : c1.pc < P.insts.size := lt_of_getElem? hi
    by_cases hcr : c1.pc = r
    · -- the fused reader
      have hts := outside (by omega)
      have hins : ins = a := by rw [hcr, h.hr] at hi; exact (Option.some.inj hi).symm
      subst hins
      have hq : Q.insts[c2.pc]? = some a' := by
        rw [← hpc, hcr, hQ]; exact fuseInsts_get_r _ _ (by omega) hrlt
      rw [step_eq hi, step_eq hq, stepI_size (p := P) hsz]
      obtain ⟨ht, hs⟩ := stepI_tape hts P limited a' (fun _ _ => trivial)
      rcases fuse_local P limited c1 h.fuse with ⟨hb1, hb2⟩ | ⟨x, y, hx, hy, hcl, hxpc, hxptr⟩
      · rw [hb1]
        rw [hb2] at ht hs
        cases h2 : stepI P limited c2 a' <;> rw [h2] at ht hs <;> simp only [StepRes.tag] at ht <;> try omega
        simp only [StepRel, StepRes.cfg] at hs ⊢
        exact hs.cfgIo
      · rw [hx]
        rw [hy] at ht hs
        cases h2 : stepI P limited c2 a' <;> rw [h2] at ht hs <;> simp only [StepRes.tag] at ht <;> try omega
        rename_i y2
        simp only [StepRel, StepRes.cfg] at hs ⊢
        refine ⟨hcl.pc.symm.trans hs.pc, hcl.temps.symm.trans hs.temps, hcl.budget.symm.trans hs.budget,
          hcl.st.io.trans ⟨hs.st.ptr, hs.st.env, hs.st.trace⟩, ?_⟩
        have hin : r < x.pc ∧ x.pc ≤ j := by omega
        simp only [hin, and_self, if_true]
        constructor
        · intro t ht'
          rw [hxptr] at ht'
          rw [← hs.st.tape t trivial, hcl.st.tape t]
          simp [ht']
        · rw [← hs.st.tape _ trivial, hcl.st.tape, hxptr]
          simp
    · by_cases hcj : c1.pc = j
      · -- the blanked zeroing copy
        have hinr : r < c1.pc ∧ c1.pc ≤ j := by omega
        simp only [hinr, and_self, if_true] at htape
        have hins : ins = .copy (.mem m) (.imm 0#w) := by rw [hcj, h.hj] at hi; exact (Option.some.inj hi).symm
        subst hins
        have hq : Q.insts[c2.pc]? = some .noop := by
          rw [← hpc, hcj, hQ]; exact fuseInsts_get_j _ _ hjlt
        rw [step_eq hi, step_eq hq]
        simp only [stepI, isDst, if_true, StepRel, copyCfg, rdVal, rdSt, wrCfg]
        refine ⟨by simp only [hpc], htemps, hbudget, ⟨hio.ptr, hio.env, hio.trace⟩, ?_⟩
        have hnr : ¬ (r < c1.pc + 1 ∧ c1.pc + 1 ≤ j) := by omega
        simp only [hnr, if_false]
        intro x
        simp only [State.wr, Tape.get_set]
        by_cases hx : x = c1.st.ptr + m
        · simp only [hx, if_true]; exact htape.2.symm
        · simp only [hx, if_false]; exact htape.1 x hx
      · have hq : Q.insts[c2.pc]? = some ins := by
          rw [← hpc, hQ, fuseInsts_get_other _ _ hcr hcj]; exact hi
        rw [step_eq hi, step_eq hq, stepI_size (p := P) hsz]
        by_cases hinr : r < c1.pc ∧ c1.pc ≤ j
        · -- strictly inside the region
          simp only [hinr, and_self, if_true] at htape
          have hqu := h.quiet c1.pc ins hinr.1 (by omega) hi
          have hts : TapeSim (fun x => x ≠ c1.st.ptr + m) c1 c2 :=
            ⟨hpc, htemps, hbudget, ⟨hio.ptr, hio.env, hio.trace, fun x hx => htape.1 x hx⟩⟩
          have hmo : ∀ o ∈ memOps ins, c1.st.ptr + o ≠ c1.st.ptr + m := by
            intro o ho
            have : o ≠ m := fun e => quiet_memOps hqu (e ▸ ho)
            omega
          obtain ⟨ht, hs⟩ := stepI_tape hts P limited ins hmo
          obtain ⟨hptr, hkind⟩ := quiet_step P limited c1 hqu
          have hfr : (stepI P limited c2 ins).cfg.st.tape.get (c1.st.ptr + m) = 0#w := by
            rw [stepI_frame P limited c2 ins (x := c1.st.ptr + m)]
            · exact htape.2
            · intro o ho
              have : o ≠ m := fun e => quiet_memOps hqu (e ▸ ho)
              rw [← hio.ptr]; omega
          apply stepRel_of_tapeSim ht hs
          · intro x y hx hy
            rw [hx, hy] at hs
            rw [hx] at hptr
            rw [hy] at hfr
            simp only [StepRes.cfg] at hs hptr hfr
            have hxpc : x.pc = c1.pc + 1 := by
              rcases hkind with ⟨c', hc', hpc'⟩ | ⟨c', hc'⟩ | ⟨c', hc'⟩
              · rw [hx] at hc'; cases hc'; exact hpc'
              · rw [hx] at hc'; cases hc'
              · rw [hx] at hc'; cases hc'
            refine ⟨hs.pc, hs.temps, hs.budget, ⟨hs.st.ptr, hs.st.env, hs.st.trace⟩, ?_⟩
            have hin' : r < x.pc ∧ x.pc ≤ j := by omega
            simp only [hin', and_self, if_true, hptr]
            exact ⟨fun t ht' => hs.st.tape t ht', hfr⟩
          · intro htag
            rcases hkind with ⟨c', hc', _⟩ | ⟨c', hc'⟩ | ⟨c', hc'⟩ <;> rw [hc'] at htag <;>
              simp [StepRes.tag] at htag
        · -- outside the region
          have hts := outside hinr
          obtain ⟨ht, hs⟩ := stepI_tape hts P limited ins (fun _ _ => trivial)
          apply stepRel_of_tapeSim ht hs
          · intro x y hx hy
            rw [hx, hy] at hs
            simp only [StepRes.cfg] at hs
            refine ⟨hs.pc, hs.temps, hs.budget, ⟨hs.st.ptr, hs.st.env, hs.st.trace⟩, ?_⟩
            have hout : ¬ (r < x.pc ∧ x.pc ≤ j) := by
              obtain ⟨ss, hss⟩ := Option.isSome_iff_exists.mp (succs_of_targetsOk h.targets hi)
              rcases stepI_pc hss hx with hmem | hsame
              · rcases mem_succs hss hmem with e | ⟨off, ho, e⟩
                · omega
                · rw [← e]; exact h.noTarget _ _ off hi ho
              · omega
            simp only [hout, if_false]
            exact fun t => hs.st.tape t trivial
          · intro _ _; trivial

theorem fuse_run {P Q : Program w} {r j : Nat} {m : Int} {a a' : Instr w}
    (h : FuseCond P r j m a a') (hQ : Q.insts = fuseInsts P.insts r j a') (limited : Bool)
    (b fuel : Nat) (env : Env) : ObsEqIO (Bc.run P limited b fuel env) (Bc.run Q limited b fuel env) := by
  unfold Bc.run
  by_cases hb : (limited && b == 0) = true
  · simp only [hb, if_true]; exact ObsEqIO.refl _
  · simp only [hb]
    apply lockstep_run (R := FR r j m) (fun c1 c2 hR => fuse_stepRel h hQ limited c1 c2 hR)
    · intro c1 c2 hR
      exact ⟨hR.io, hR.budget⟩
    · refine ⟨rfl, rfl, rfl, IoEq.refl _, ?_⟩
      have : ¬ (r < 0 ∧ 0 ≤ j) := by omega
      simp only [this, if_false]
      intro x; trivial

theorem fuse_behEqIO {P Q : Program w} {r j : Nat} {m : Int} {a a' : Instr w}
    (h : FuseCond P r j m a a') (hQ : Q.insts = fuseInsts P.insts r j a') : BehEqIO P Q :=
  ⟨fun limited b fuel env => ⟨fuel, fuse_run h hQ limited b fuel env⟩,
   fun limited b fuel env => ⟨fuel, (fuse_run h hQ limited b fuel env).symm⟩⟩

end C02
end Hpbf
