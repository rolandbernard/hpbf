/-
C02 (`allocate_temps`): the pass preserves behaviour.  `Rel` is a lockstep simulation between the input program and
the output, with one case of `sim_step` per `StepKind`; `BehEq` (same events, tape, pointer, budget; limited and
unlimited mode) follows by `lockstep_run`.  `allocateTemps_latePre` hands `LatePre` to the late passes.
-/
import Hpbf.Proofs.C02AllocSim2
import Hpbf.Proofs.C02Passes
set_option linter.unusedSimpArgs false

namespace Hpbf
namespace C02
namespace Alloc

open Bc BcWf BcGen C11

variable {w : Nat} {s : St w} {numRegs : Nat} {tr : Nat → ASt w}

theorem sim_step (hp : AllocPre s) (T : Trace s numRegs tr) {P Q : Program w} (hP : P.insts = s.insts)
    (hQ : Q.insts = (tr s.insts.size).st.insts) (lim : Bool) (c1 c2 : Cfg w) (hR : Rel s tr c1 c2) :
    StepRel (Rel s tr) CfgEq CfgEq (step P lim c1) (step Q lim c2) := by
  obtain ⟨k, t1, b, st⟩ := c1
  obtain ⟨k2, t2, b2, st2⟩ := c2
  obtain ⟨h1, h2, h3, h4, hV⟩ := hR
  simp only at h1 h2 h3 h4 hV
  subst h1 h3 h4
  have hIn := trace_inv hp T s.insts.size (Nat.le_refl _)
  have hQs : Q.insts.size = s.insts.size := by rw [hQ]; exact hIn.isize
  by_cases hk : k2 = s.insts.size
  · have e1 : step P lim ⟨k2, t1, b2, st2⟩ = .halt ⟨k2, t1, b2, st2⟩ :=
      step_exit (by rw [hP]; exact Array.getElem?_eq_none (by simp [hk])) (by rw [hP]; exact hk)
    have e2 : step Q lim ⟨k2, t2, b2, st2⟩ = .halt ⟨k2, t2, b2, st2⟩ :=
      step_exit (Array.getElem?_eq_none (by simp [hk, hQs])) (by rw [hQs]; exact hk)
    rw [e1, e2]
    exact ⟨StEq.refl _, rfl⟩
  · have hk' : k2 < s.insts.size := Nat.lt_of_le_of_ne h2 hk
    have hx : s.insts[k2]? = some s.insts[k2] := Array.getElem?_eq_getElem hk'
    have hI := trace_inv hp T k2 (by omega)
    have hI' := trace_inv hp T (k2 + 1) (by omega)
    have S := trace_sum hp T hk'
    have hfin : Q.insts[k2]? = (tr (k2 + 1)).st.insts[k2]? := by
      rw [hQ]; exact trace_insts_final hp T _ (by omega) (Nat.le_refl _)
    have hq' : (tr (k2 + 1)).st.insts[k2]? = some ((tr (k2 + 1)).st.insts[k2]'(by rw [hI'.isize]; exact hk')) :=
      Array.getElem?_eq_getElem _
    rw [step_eq (p := P) (ins := s.insts[k2]) (by rw [hP]; exact hx)]
    rw [step_eq (p := Q) (by rw [hfin]; exact hq')]
    generalize s.insts[k2] = x at hx
    generalize (tr (k2 + 1)).st.insts[k2]'_ = q at hq'
    cases S.kind with
    | other x' hx' hpl hq hi hr =>
      have : x' = x := by
        rcases hI.fut k2 (Nat.le_refl _) with h | ⟨op, m, t, a', b', h⟩
        · rw [hx', hx] at h; exact Option.some.inj h
        · have := h.2.2
          rw [hx'] at this
          cases this
          rw [plain_mkArith] at hpl; cases hpl
      subst this
      rw [hq'] at hq; cases hq
      exact sim_other hp T hP hQs lim hk' hx hpl hr hV
    | fuse op t s0 s1 f m hxa hPk hkf hPf hfa hq hf hi hnone hr =>
      rw [hx] at hPk; cases hPk
      rw [hq'] at hq; cases hq
      exact sim_fuse hp T lim hk' hx hxa hkf hPf hf hnone hr hV
    | rw cur new q0 hxa hpl hn hq hi hd =>
      rw [hq'] at hq; cases hq
      exact sim_rw hp T lim hk' hx hxa hpl hn hd hV

theorem rel_init (hp : AllocPre s) (T : Trace s numRegs tr) (c : Cfg w) (hc : c.pc = 0) : Rel s tr c c := by
  refine ⟨rfl, by rw [hc]; exact Nat.zero_le _, rfl, rfl, ?_⟩
  rw [hc, T.init]
  constructor
  · intro t l h; simp [initASt, alGet] at h
  · intro f op m t s0 s1 h
    exact absurd h.2.1 (Fused.ne_copy h)

theorem behEq_of_trace (hp : AllocPre s) (T : Trace s numRegs tr) {P Q : Program w} (hP : P.insts = s.insts)
    (hQ : Q.insts = (tr s.insts.size).st.insts) : BehEq P Q := by
  have key : ∀ (lim : Bool) (fuel : Nat) (c : Cfg w), c.pc = 0 →
      ObsEq' (runCfg P lim fuel c) (runCfg Q lim fuel c) := by
    intro lim fuel c hc
    exact lockstep_run (R := Rel s tr) (G := CfgEq) (E := CfgEq) (O := CfgIo)
      (fun c1 c2 h => sim_step hp T hP hQ lim c1 c2 h)
      (fun c1 c2 h => ⟨⟨by rw [h.st], by rw [h.st], by rw [h.st]⟩, h.budget.symm⟩) fuel c c (rel_init hp T c hc)
  constructor
  · exact beh_of_runCfg (fun c => ObsEq'.refl _) (fun lim fuel c hc => ⟨fuel, key lim fuel c hc⟩)
  · exact beh_of_runCfg (fun c => ObsEq'.refl _) (fun lim fuel c hc => ⟨fuel, (key lim fuel c hc).symm⟩)

end Alloc

open Bc BcWf BcGen C11 Alloc

variable {w : Nat}

theorem allocateTemps_preserves (s s' : St w) (numRegs : Nat) (hp : AllocPre s)
    (h : allocateTemps numRegs s = .ok s') :
    s'.insts.size = s.insts.size ∧ s'.live.size = s'.insts.size ∧
    (TargetsOk s.insts → TargetsOk s'.insts) ∧ (∀ ins ∈ s'.insts, NoMemZero ins) ∧
    ∀ (t t' : Nat) (mn mx : Int), BehEq (progOf s t mn mx) (progOf s' t' mn mx) := by
  obtain ⟨tr, T, hs'⟩ := trace_of_allocateTemps h
  have hI := trace_inv hp T s.insts.size (Nat.le_refl _)
  have hsz : s'.insts.size = s.insts.size := by rw [← hs']; exact hI.isize
  refine ⟨hsz, ?_, ?_, ?_, ?_⟩
  · rw [hsz, ← hs']; exact trace_live_size hp T _ (Nat.le_refl _)
  · intro hT i ins off hi hoff
    rw [← hs'] at hi
    obtain ⟨_, y, hy, hb⟩ := hI.skel i ins hi
    rw [hsz]
    exact hT i y off hy (by rw [← hb]; exact hoff)
  · intro ins hins
    obtain ⟨i, hi, rfl⟩ := Array.mem_iff_getElem.1 hins
    have : (tr s.insts.size).st.insts[i]? = some s'.insts[i] := by
      rw [hs']; exact Array.getElem?_eq_getElem hi
    exact (hI.skel i _ this).1
  · intro t t' mn mx
    exact behEq_of_trace hp T (P := progOf s t mn mx) (Q := progOf s' t' mn mx) rfl (by rw [hs']; rfl)

theorem allocateTemps_latePre (s s' : St w) (numRegs : Nat) (hp : AllocPre s) (hT : TargetsOk s.insts)
    (h : allocateTemps numRegs s = .ok s') : LatePre s' := by
  obtain ⟨_, h2, h3, h4, _⟩ := allocateTemps_preserves s s' numRegs hp h
  exact ⟨h2, h3 hT, h4⟩

end C02
end Hpbf
