/-
C02, first phase: static facts about the certificate `Em`.  Later emission only appends (`Em.mono`) and keeps the
table well formed; where the `brz`, `mov`, `brnz` of a block stand in `blockEnd` (`section Layout`); what `analyze`
records of a body without shift (`analyzeInsts_noShift`, `subOf_noShift`); and the two table invariants across a body that
need not be executed (`em_vinv`): (A) entries of the table at the loop head survive the body (`head_sub_end`), (B) entries
at the exit of a body that may be skipped were already there at the head (`exit_sub`, `exit_sub_head`).
-/
import Hpbf.Proofs.C02EmitCert

namespace Hpbf
namespace C02Emit
open BcGen Bc Sim Expr

variable {w : Nat}

def ValSub (V V' : List (GvnExpr w × Nat)) : Prop := ∀ e t, alGet V e = some t → alGet V' e = some t

theorem ValSub.refl (V : List (GvnExpr w × Nat)) : ValSub V V := fun _ _ h => h
theorem ValSub.trans {V1 V2 V3 : List (GvnExpr w × Nat)} (h1 : ValSub V1 V2) (h2 : ValSub V2 V3) :
    ValSub V1 V3 := fun e t h => h2 e t (h1 e t h)
theorem ValSub.nil (V : List (GvnExpr w × Nat)) : ValSub [] V := fun _ _ h => by simp [alGet] at h

theorem Sound.sub {V V' : List (GvnExpr w × Nat)} {c : Bc.Cfg w} (h : Sound V' c) (hs : ValSub V V') :
    Sound V c := fun e t he => h e t (hs e t he)

theorem sound_nil (c : Bc.Cfg w) : Sound ([] : List (GvnExpr w × Nat)) c := fun _ _ h => by
  simp [alGet] at h

def eraseKeys (V : List (GvnExpr w × Nat)) (ks : List (GvnExpr w)) : List (GvnExpr w × Nat) :=
  ks.foldl (fun vs e => alErase vs e) V

theorem removeMems_eq (V : List (GvnExpr w × Nat)) (vars : List Int) :
    removeMems V vars = eraseKeys V (vars.map GvnExpr.mem) := by
  unfold removeMems eraseKeys
  rw [List.foldl_map]

theorem eraseKeys_spec : ∀ (ks : List (GvnExpr w)) (V : List (GvnExpr w × Nat)), (keys V).Nodup →
    (keys (eraseKeys V ks)).Nodup ∧
      ∀ e, alGet (eraseKeys V ks) e = if e ∈ ks then none else alGet V e := by
  intro ks
  induction ks with
  | nil => intro V hn; exact ⟨hn, fun e => by simp [eraseKeys]⟩
  | cons k ks ih =>
    intro V hn
    obtain ⟨h1, h2⟩ := ih (alErase V k) (keys_alErase_nodup V k hn)
    refine ⟨h1, fun e => ?_⟩
    show alGet (eraseKeys (alErase V k) ks) e = _
    rw [h2 e, alGet_alErase V k e hn]
    by_cases hk : e = k
    · simp [hk]
    · by_cases hm : e ∈ ks <;> simp [hk, hm]

theorem eraseKeys_append (V : List (GvnExpr w × Nat)) (a b : List (GvnExpr w)) :
    eraseKeys (eraseKeys V a) b = eraseKeys V (a ++ b) := by
  unfold eraseKeys; rw [List.foldl_append]

theorem eraseKeys_sub {V : List (GvnExpr w × Nat)} (hn : (keys V).Nodup) (ks : List (GvnExpr w)) :
    ValSub (eraseKeys V ks) V := by
  intro e t h
  rw [(eraseKeys_spec ks V hn).2 e] at h
  split at h
  · cases h
  · exact h

def headKeys (sub : Analysis) : List (GvnExpr w) := sub.writes.map GvnExpr.mem

theorem headVals_noShift {sub : Analysis} (h : sub.hasShift = false) (V : List (GvnExpr w × Nat)) :
    headVals sub V = eraseKeys V (headKeys sub) := by
  simp [headVals, h, removeMems_eq, headKeys]

theorem headVals_shift {sub : Analysis} (h : sub.hasShift = true) (V : List (GvnExpr w × Nat)) :
    headVals sub V = [] := by
  simp [headVals, h]

theorem exitVals_shift {sub : Analysis} (h : sub.hasShift = true) (once : Bool) (p : Nat)
    (ex : Array (GvnExpr w)) (V : List (GvnExpr w × Nat)) : exitVals sub once p ex V = [] := by
  simp [exitVals, h]

theorem exitVals_once {sub : Analysis} (h : sub.hasShift = false) (p : Nat)
    (ex : Array (GvnExpr w)) (V : List (GvnExpr w × Nat)) : exitVals sub true p ex V = V := by
  simp [exitVals, h]

theorem exitVals_erase {sub : Analysis} (h : sub.hasShift = false) (p : Nat)
    (ex : Array (GvnExpr w)) (V : List (GvnExpr w × Nat)) :
    exitVals sub false p ex V = eraseKeys V (headKeys sub ++ ex.toList.drop p) := by
  simp only [exitVals, h, Bool.false_eq_true, if_false, removeMems_eq]
  exact eraseKeys_append V _ _

theorem headVals_sub {V : List (GvnExpr w × Nat)} (hn : (keys V).Nodup) (sub : Analysis) :
    ValSub (headVals sub V) V := by
  cases h : sub.hasShift
  · rw [headVals_noShift h]; exact eraseKeys_sub hn _
  · rw [headVals_shift h]; exact ValSub.nil _

theorem exitVals_sub {V : List (GvnExpr w × Nat)} (hn : (keys V).Nodup) (sub : Analysis) (once : Bool)
    (p : Nat) (ex : Array (GvnExpr w)) : ValSub (exitVals sub once p ex V) V := by
  cases h : sub.hasShift
  · cases once
    · rw [exitVals_erase h]; exact eraseKeys_sub hn _
    · rw [exitVals_once h]; exact ValSub.refl _
  · rw [exitVals_shift h]; exact ValSub.nil _

theorem WfV.of_sub {g g' : G w} (h : WfV g) (hn : g.n ≤ g'.n) (hd : (keys g'.values).Nodup)
    (hs : ValSub g'.values g.values) : WfV g' :=
  ⟨hd, fun e t he => by
    obtain ⟨h1, h2⟩ := h.lt e t (hs e t he)
    exact ⟨Nat.lt_of_lt_of_le h1 hn, opsLt_mono hn h2⟩⟩

theorem headVals_nodup {V : List (GvnExpr w × Nat)} (hn : (keys V).Nodup) (sub : Analysis) :
    (keys (headVals sub V)).Nodup := by
  cases h : sub.hasShift
  · rw [headVals_noShift h]; exact (eraseKeys_spec _ V hn).1
  · rw [headVals_shift h]; simp [keys]

theorem exitVals_nodup {V : List (GvnExpr w × Nat)} (hn : (keys V).Nodup) (sub : Analysis) (once : Bool)
    (p : Nat) (ex : Array (GvnExpr w)) : (keys (exitVals sub once p ex V)).Nodup := by
  cases h : sub.hasShift
  · cases once
    · rw [exitVals_erase h]; exact (eraseKeys_spec _ V hn).1
    · rw [exitVals_once h]; exact hn
  · rw [exitVals_shift h]; simp [keys]

theorem WfV.push {g : G w} (h : WfV g) (i : Bc.Instr w) : WfV (g.push i) := ⟨h.nodup, h.lt⟩

theorem WfV.headG {g : G w} (h : WfV g) (isLoop : Bool) (sub : Analysis) : WfV (headG isLoop sub g) := by
  unfold C02Emit.headG
  cases isLoop
  · exact h
  · exact h.of_sub (Nat.le_refl _) (headVals_nodup h.nodup sub) (headVals_sub h.nodup sub)

theorem WfV.blockStart {g : G w} (h : WfV g) (once : Bool) : WfV (blockStart once g) := by
  unfold C02Emit.blockStart
  cases once
  · exact h.push _
  · exact h

section Layout
variable (isLoop once : Bool) (cond shift : Int) (sub : Analysis) (g0 g2 : G w)

@[simp] theorem blockEnd_exprs : (blockEnd isLoop once cond shift sub g0 g2).exprs = g2.exprs := by
  unfold blockEnd
  cases isLoop <;> cases once <;> by_cases h : shift = 0 <;> simp [h, G.push]

@[simp] theorem blockEnd_n : (blockEnd isLoop once cond shift sub g0 g2).n = g2.n := by
  unfold blockEnd
  cases isLoop <;> cases once <;> by_cases h : shift = 0 <;> simp [h, G.push]

theorem blockEnd_values : (blockEnd isLoop once cond shift sub g0 g2).values
    = exitVals sub once g0.exprs.size g2.exprs g2.values := by
  unfold blockEnd
  cases isLoop <;> cases once <;> by_cases h : shift = 0 <;> simp [h, G.push]

theorem blockStart_size : (blockStart once g0).insts.size = g0.insts.size + (if once then 0 else 1) := by
  cases once <;> simp [blockStart, G.push]

/-- The code of a block before the placeholder is patched: the body's instructions `I`, then `mov`, then
`brnz` back to `start`. -/
def blockCode (isLoop : Bool) (cond shift : Int) (start : Nat) (I : Array (Bc.Instr w)) :
    Array (Bc.Instr w) :=
  let i3 := if shift = 0 then I else I.push (.mov shift)
  if isLoop then i3.push (.brnz cond ((start : Int) - (i3.size : Int))) else i3

section Code
variable {isLoop} {cond shift} {start : Nat} {I : Array (Bc.Instr w)}

theorem blockCode_size : (blockCode isLoop cond shift start I).size
    = I.size + (if shift = 0 then 0 else 1) + (if isLoop then 1 else 0) := by
  unfold blockCode
  cases isLoop <;> by_cases h : shift = 0 <;> simp [h]

theorem blockCode_get_lt {i : Nat} (hi : i < I.size) : (blockCode isLoop cond shift start I)[i]? = I[i]? := by
  have h3 : (if shift = 0 then I else I.push (.mov shift))[i]? = I[i]? := by
    split
    · rfl
    · rw [Array.getElem?_push, if_neg (Nat.ne_of_lt hi)]
  unfold blockCode
  cases isLoop
  · exact h3
  · rw [← h3]
    refine Array.getElem?_push.trans (if_neg (Nat.ne_of_lt ?_))
    split
    · exact hi
    · rw [Array.size_push]; omega

theorem blockCode_get_mov (hs : shift ≠ 0) : (blockCode isLoop cond shift start I)[I.size]? = some (.mov shift) := by
  unfold blockCode
  rw [if_neg hs]
  cases isLoop
  · exact Array.getElem?_push_size
  · refine Array.getElem?_push.trans ((if_neg ?_).trans Array.getElem?_push_size)
    rw [Array.size_push]; omega

theorem blockCode_get_brnz : (blockCode true cond shift start I)[I.size + (if shift = 0 then 0 else 1)]?
    = some (.brnz cond ((start : Int) - ((I.size + (if shift = 0 then 0 else 1) : Nat) : Int))) := by
  have e : (if shift = 0 then I else I.push (.mov shift)).size = I.size + (if shift = 0 then 0 else 1) := by
    split <;> simp
  unfold blockCode
  rw [← e]
  exact Array.getElem?_push_size

end Code

/-- The instructions of a block: its code with the placeholder, if there is one, patched to `brz`. -/
theorem blockEnd_insts : (blockEnd isLoop once cond shift sub g0 g2).insts =
    if once then blockCode isLoop cond shift (blockStart once g0).insts.size g2.insts
    else (blockCode isLoop cond shift (blockStart once g0).insts.size g2.insts).setIfInBounds g0.insts.size
      (.brz cond (((blockCode isLoop cond shift (blockStart once g0).insts.size g2.insts).size : Int)
        - (g0.insts.size : Int))) := by
  unfold blockEnd blockCode
  cases isLoop <;> cases once <;> by_cases h : shift = 0 <;> simp [h, G.push, blockStart]

theorem blockEnd_size : (blockEnd isLoop once cond shift sub g0 g2).insts.size
    = g2.insts.size + (if shift = 0 then 0 else 1) + (if isLoop then 1 else 0) := by
  rw [blockEnd_insts]
  cases once
  · exact Array.size_setIfInBounds.trans blockCode_size
  · exact blockCode_size

theorem blockEnd_get_ne {j : Nat} (hne : once = true ∨ j ≠ g0.insts.size) :
    (blockEnd isLoop once cond shift sub g0 g2).insts[j]?
      = (blockCode isLoop cond shift (blockStart once g0).insts.size g2.insts)[j]? := by
  rw [blockEnd_insts]
  cases once
  · rcases hne with h | h
    · cases h
    · rw [if_neg Bool.false_ne_true]
      exact Array.getElem?_setIfInBounds_ne (Ne.symm h)
  · rfl

theorem blockEnd_get_lt {i : Nat} (hi : i < g2.insts.size) (hne : once = true ∨ i ≠ g0.insts.size) :
    (blockEnd isLoop once cond shift sub g0 g2).insts[i]? = g2.insts[i]? := by
  rw [blockEnd_get_ne _ _ _ _ _ _ _ hne, blockCode_get_lt hi]

theorem blockEnd_get_mov (hs : shift ≠ 0) (hlt : once = true ∨ g0.insts.size < g2.insts.size) :
    (blockEnd isLoop once cond shift sub g0 g2).insts[g2.insts.size]? = some (.mov shift) := by
  rw [blockEnd_get_ne _ _ _ _ _ _ _ (hlt.imp id Nat.ne_of_gt), blockCode_get_mov hs]

theorem blockEnd_get_brnz (hlt : once = true ∨ g0.insts.size < g2.insts.size) :
    (blockEnd true once cond shift sub g0 g2).insts[g2.insts.size + (if shift = 0 then 0 else 1)]?
      = some (.brnz cond (((blockStart once g0).insts.size : Int)
          - ((g2.insts.size + (if shift = 0 then 0 else 1) : Nat) : Int))) := by
  rw [blockEnd_get_ne _ _ _ _ _ _ _ (hlt.imp id (fun h => by omega)), blockCode_get_brnz]

theorem blockEnd_get_brz (hlt : g0.insts.size < g2.insts.size) :
    (blockEnd isLoop false cond shift sub g0 g2).insts[g0.insts.size]?
      = some (.brz cond (((blockEnd isLoop false cond shift sub g0 g2).insts.size : Int)
          - (g0.insts.size : Int))) := by
  rw [blockEnd_size, ← blockCode_size (isLoop := isLoop) (cond := cond)
    (start := (blockStart false g0).insts.size), blockEnd_insts, if_neg Bool.false_ne_true]
  refine Array.getElem?_setIfInBounds_self_of_lt ?_
  rw [blockCode_size]
  omega

end Layout

@[simp] theorem headG_insts (b : Bool) (sub : Analysis) (g : G w) : (headG b sub g).insts = g.insts := by
  cases b <;> rfl
@[simp] theorem headG_exprs (b : Bool) (sub : Analysis) (g : G w) : (headG b sub g).exprs = g.exprs := by
  cases b <;> rfl
@[simp] theorem headG_n (b : Bool) (sub : Analysis) (g : G w) : (headG b sub g).n = g.n := by
  cases b <;> rfl
theorem headG_values_true (sub : Analysis) (g : G w) :
    (headG true sub g).values = headVals sub g.values := rfl
@[simp] theorem blockStart_exprs (once : Bool) (g : G w) : (blockStart once g).exprs = g.exprs := by
  cases once <;> rfl
@[simp] theorem blockStart_n (once : Bool) (g : G w) : (blockStart once g).n = g.n := by
  cases once <;> rfl
@[simp] theorem blockStart_values (once : Bool) (g : G w) : (blockStart once g).values = g.values := by
  cases once <;> rfl
theorem blockStart_pre (once : Bool) (g : G w) : Pre g.insts (blockStart once g).insts := by
  cases once
  · exact Pre.push _ _
  · exact Pre.refl _

@[simp] theorem scanEnd_insts (cond shift : Int) (sub : Analysis) (once : Bool) (g : G w) :
    (scanEnd cond shift sub once g).insts = g.insts.push (.scan cond shift) := by
  simp [scanEnd, G.push]
@[simp] theorem scanEnd_exprs (cond shift : Int) (sub : Analysis) (once : Bool) (g : G w) :
    (scanEnd cond shift sub once g).exprs = g.exprs := by
  simp [scanEnd, G.push]
@[simp] theorem scanEnd_n (cond shift : Int) (sub : Analysis) (once : Bool) (g : G w) :
    (scanEnd cond shift sub once g).n = g.n := by
  simp [scanEnd, G.push]
theorem scanEnd_values (cond shift : Int) (sub : Analysis) (once : Bool) (g : G w) :
    (scanEnd cond shift sub once g).values
      = exitVals sub once g.exprs.size g.exprs (headVals sub g.values) := by
  simp [scanEnd, G.push]

theorem scanEnd_sub {g : G w} (hw : WfV g) (cond shift : Int) (sub : Analysis) (once : Bool) :
    ValSub (scanEnd cond shift sub once g).values g.values := by
  rw [scanEnd_values]
  exact (exitVals_sub (headVals_nodup hw.nodup sub) _ _ _ _).trans (headVals_sub hw.nodup sub)

theorem WfV.scanEnd {g : G w} (h : WfV g) (cond shift : Int) (sub : Analysis) (once : Bool) :
    WfV (scanEnd cond shift sub once g) := by
  refine h.of_sub (by simp) ?_ (scanEnd_sub h cond shift sub once)
  rw [scanEnd_values]; exact exitVals_nodup (headVals_nodup h.nodup sub) _ _ _ _

theorem WfV.blockEnd {g2 : G w} (h : WfV g2) (isLoop once : Bool) (cond shift : Int) (sub : Analysis)
    (g0 : G w) : WfV (blockEnd isLoop once cond shift sub g0 g2) := by
  refine h.of_sub (by simp) ?_ ?_
  · rw [blockEnd_values]; exact exitVals_nodup h.nodup _ _ _ _
  · rw [blockEnd_values]; exact exitVals_sub h.nodup _ _ _ _

theorem WfV.input {g : G w} (h : WfV g) (dst : Int) :
    WfV { g.push (.inp dst) with values := alErase g.values (.mem dst) } := by
  refine h.of_sub (Nat.le_refl _) (keys_alErase_nodup _ _ h.nodup) ?_
  intro e t he
  simp only [alGet_alErase _ _ _ h.nodup] at he
  split at he
  · cases he
  · exact he

theorem blockEnd_pre {isLoop once : Bool} {cond shift : Int} {sub : Analysis} {g0 g2 : G w}
    (h : Pre (blockStart once g0).insts g2.insts) :
    Pre g0.insts (blockEnd isLoop once cond shift sub g0 g2).insts := by
  have h0 := blockStart_pre once g0
  have hsz := blockEnd_size isLoop once cond shift sub g0 g2
  refine ⟨by have := h0.1; have := h.1; omega, fun i hi => ?_⟩
  rw [blockEnd_get_lt _ _ _ _ _ _ _ (by have := h0.1; have := h.1; omega) (Or.inr (Nat.ne_of_lt hi))]
  rw [h.2 i (Nat.lt_of_lt_of_le hi h0.1), h0.2 i hi]

theorem Em.mono {fuse : Bool} {l : List (Ir.Instr w)} {g g' : G w} (h : Em fuse l g g') :
    WfV g → Pre g.insts g'.insts ∧ Pre g.exprs g'.exprs ∧ g.n ≤ g'.n ∧ WfV g' := by
  induction h with
  | nil g => intro hw; exact ⟨Pre.refl _, Pre.refl _, Nat.le_refl _, hw⟩
  | output _ ih =>
    intro hw
    obtain ⟨a, b, c, d⟩ := ih (hw.push _)
    exact ⟨(Pre.push _ _).trans a, b, c, d⟩
  | input _ ih =>
    intro hw
    obtain ⟨a, b, c, d⟩ := ih (hw.input _)
    exact ⟨(Pre.push _ _).trans a, b, c, d⟩
  | «calc» hseg _ ih =>
    intro hw
    have sg := hseg hw
    obtain ⟨a, b, c, d⟩ := ih (sg.wf hw)
    exact ⟨sg.ext.trans a, sg.eext.trans b, Nat.le_trans sg.n_le c, d⟩
  | scan _ _ ih =>
    intro hw
    obtain ⟨a, b, c, d⟩ := ih (hw.scanEnd _ _ _ _)
    simp only [scanEnd_insts, scanEnd_exprs, scanEnd_n] at a b c
    exact ⟨(Pre.push _ _).trans a, b, c, d⟩
  | loop _ _ _ ihb ihr =>
    intro hw
    obtain ⟨a, b, c, d⟩ := ihb ((hw.headG true _).blockStart _)
    obtain ⟨a', b', c', d'⟩ := ihr (d.blockEnd _ _ _ _ _ _)
    simp only [blockStart_exprs, headG_exprs, blockStart_n, headG_n] at b c
    simp only [blockEnd_exprs, blockEnd_n] at b' c'
    have hp := (blockEnd_pre a).trans a'
    simp only [headG_insts] at hp
    exact ⟨hp, b.trans b', Nat.le_trans c c', d'⟩
  | ifnz _ _ ihb ihr =>
    intro hw
    obtain ⟨a, b, c, d⟩ := ihb (hw.blockStart _)
    obtain ⟨a', b', c', d'⟩ := ihr (d.blockEnd _ _ _ _ _ _)
    simp only [blockStart_exprs, blockStart_n] at b c
    simp only [blockEnd_exprs, blockEnd_n] at b' c'
    exact ⟨(blockEnd_pre a).trans a', b.trans b', Nat.le_trans c c', d'⟩

theorem accessed_hasShift (a : Analysis) (v : Int) : (a.accessed v).hasShift = a.hasShift := by rw [accessed_eq]
theorem accessed_writes (a : Analysis) (v : Int) : (a.accessed v).writes = a.writes := by rw [accessed_eq]

theorem written_hasShift (a : Analysis) (v : Int) : (a.written v).hasShift = a.hasShift := by
  unfold Analysis.written; dsimp only
  split <;> simp [accessed_hasShift]

theorem written_writes (a : Analysis) (v : Int) (h : a.hasShift = false) (x : Int) :
    x ∈ (a.written v).writes ↔ x ∈ a.writes ∨ x = v := by
  unfold Analysis.written; dsimp only
  simp only [accessed_hasShift, h, Bool.not_false, if_true, mem_setInsert, accessed_writes]

theorem foldl_accessed_hasShift (l : List Int) (a : Analysis) :
    (l.foldl Analysis.accessed a).hasShift = a.hasShift := foldl_field _ _ accessed_hasShift l a
theorem foldl_accessed_writes (l : List Int) (a : Analysis) :
    (l.foldl Analysis.accessed a).writes = a.writes := foldl_field _ _ accessed_writes l a

theorem foldl_written_hasShift (l : List Int) (a : Analysis) :
    (l.foldl Analysis.written a).hasShift = a.hasShift := foldl_field _ _ written_hasShift l a

theorem foldl_written_writes (l : List Int) (a : Analysis) (h : a.hasShift = false) (x : Int) :
    x ∈ (l.foldl Analysis.written a).writes ↔ x ∈ a.writes ∨ x ∈ l := by
  induction l generalizing a with
  | nil => simp
  | cons v l ih =>
    simp only [List.foldl_cons, List.mem_cons]
    rw [ih _ (by rw [written_hasShift]; exact h), written_writes a v h]
    exact or_assoc

theorem calc_hasShift (calcs : List (Int × Expr w)) (a : Analysis) : (a.calc calcs).hasShift = a.hasShift :=
  foldl_field _ (·.hasShift) (fun a ve => by rw [written_hasShift, foldl_accessed_hasShift]) calcs a

theorem calc_writes (calcs : List (Int × Expr w)) (a : Analysis) (h : a.hasShift = false) (x : Int) :
    x ∈ (a.calc calcs).writes ↔ x ∈ a.writes ∨ x ∈ calcs.map (·.1) := by
  unfold Analysis.calc
  induction calcs generalizing a with
  | nil => simp
  | cons ve calcs ih =>
    simp only [List.foldl_cons, List.map_cons, List.mem_cons]
    rw [ih _ (by rw [written_hasShift, foldl_accessed_hasShift]; exact h),
      written_writes _ _ (by rw [foldl_accessed_hasShift]; exact h), foldl_accessed_writes]
    exact or_assoc

theorem absorb_noShift {a : Analysis} {cond : Int} {sub : Analysis}
    (h : (a.absorb cond sub).hasShift = false) :
    a.hasShift = false ∧ sub.hasShift = false ∧
      ∀ x, x ∈ (a.absorb cond sub).writes ↔ x ∈ a.writes ∨ x ∈ sub.writes := by
  unfold Analysis.absorb at h ⊢
  dsimp only at h ⊢
  cases hs : sub.hasShift with
  | true => simp [hs] at h
  | false =>
    simp only [hs, Bool.false_eq_true, if_false] at h ⊢
    cases ha : a.hasShift with
    | true =>
      simp [accessed_hasShift, ha] at h
    | false =>
      have ha3 : (((a.accessed cond).accessed sub.minAcc).accessed sub.maxAcc).hasShift = false := by
        simp only [accessed_hasShift, ha]
      refine ⟨by trivial, by trivial, fun x => ?_⟩
      simp only [ha3, Bool.not_false, if_true]
      rw [foldl_written_writes _ _ ha3]
      simp only [accessed_writes]

theorem close_noShift {a : Analysis} {shift : Int} (h : (a.close shift).hasShift = false) :
    shift = 0 ∧ a.hasShift = false ∧ (a.close shift).writes = a.writes := by
  unfold Analysis.close at h ⊢
  by_cases hs : shift = 0
  · subst hs
    simp only [bne_self_eq_false, Bool.false_eq_true, if_false] at h ⊢
    exact ⟨by trivial, h, by trivial⟩
  · have : (shift != 0) = true := by simp [hs]
    simp [this] at h

theorem close_shift (a : Analysis) {shift : Int} (h : shift ≠ 0) : (a.close shift).hasShift = true := by
  unfold Analysis.close
  have : (shift != 0) = true := by simp [h]
  simp [this]

theorem subOf_shift (body : List (Ir.Instr w)) {shift : Int} (h : shift ≠ 0) :
    (subOf shift body).hasShift = true := close_shift _ h

theorem subOf_noShift {body : List (Ir.Instr w)} {shift : Int} (h : (subOf shift body).hasShift = false) :
    shift = 0 ∧ (analyzeInsts body Analysis.empty).hasShift = false ∧
      (subOf shift body).writes = (analyzeInsts body Analysis.empty).writes :=
  close_noShift h

theorem analyzeInstr_noShift {i : Ir.Instr w} {a : Analysis} (h : (analyzeInstr i a).hasShift = false) :
    a.hasShift = false ∧ ∀ x ∈ a.writes, x ∈ (analyzeInstr i a).writes := by
  cases i with
  | output src =>
    simp only [analyzeInstr, accessed_hasShift, accessed_writes] at h ⊢
    exact ⟨h, fun _ hx => hx⟩
  | input dst =>
    simp only [analyzeInstr, written_hasShift] at h ⊢
    exact ⟨h, fun x hx => (written_writes a dst h x).2 (Or.inl hx)⟩
  | «calc» calcs =>
    simp only [analyzeInstr, calc_hasShift] at h ⊢
    exact ⟨h, fun x hx => (calc_writes calcs a h x).2 (Or.inl hx)⟩
  | loop cond shift body once | ifnz cond shift body =>
    simp only [analyzeInstr] at h ⊢
    obtain ⟨h1, _, h3⟩ := absorb_noShift h
    exact ⟨h1, fun x hx => (h3 x).2 (Or.inl hx)⟩

theorem analyzeInsts_noShift : ∀ (l : List (Ir.Instr w)) {a : Analysis},
    (analyzeInsts l a).hasShift = false →
    a.hasShift = false ∧ ∀ x ∈ a.writes, x ∈ (analyzeInsts l a).writes := by
  intro l
  induction l with
  | nil => intro a h; simp only [analyzeInsts] at h ⊢; exact ⟨h, fun _ hx => hx⟩
  | cons i rest ih =>
    intro a h
    rw [analyzeInsts] at h ⊢
    obtain ⟨h1, h2⟩ := ih h
    obtain ⟨h3, h4⟩ := analyzeInstr_noShift h1
    exact ⟨h3, fun x hx => h2 x (h4 x hx)⟩

/-- `NewE g g'` (`C02EmitVal`) with the two ends given explicitly: `NewE g g' e ↔ NewFrom g.exprs.size g'.exprs e`. -/
def NewFrom (n0 : Nat) (ex : Array (GvnExpr w)) (e : GvnExpr w) : Prop := ∃ i, n0 ≤ i ∧ ex[i]? = some e

theorem mem_drop_of_newFrom {n0 : Nat} {ex : Array (GvnExpr w)} {e : GvnExpr w}
    (h : NewFrom n0 ex e) : e ∈ ex.toList.drop n0 := by
  obtain ⟨i, hi, hg⟩ := h
  apply List.mem_of_getElem? (i := i - n0)
  rw [List.getElem?_drop]
  have : n0 + (i - n0) = i := by omega
  rw [this]
  simpa using hg

theorem NewFrom.mono {n0 : Nat} {ex ex' : Array (GvnExpr w)} (h : Pre ex ex') {e : GvnExpr w}
    (he : NewFrom n0 ex e) : NewFrom n0 ex' e := by
  obtain ⟨i, hi, hg⟩ := he
  exact ⟨i, hi, (h.2 i ((Array.getElem?_eq_some_iff.1 hg).1)).trans hg⟩

theorem newFrom_of_mem_drop {n0 : Nat} {ex : Array (GvnExpr w)} {e : GvnExpr w}
    (h : e ∈ ex.toList.drop n0) : NewFrom n0 ex e := by
  obtain ⟨i, hi⟩ := List.getElem?_of_mem h
  rw [List.getElem?_drop] at hi
  exact ⟨n0 + i, Nat.le_add_right _ _, by simpa using hi⟩

/-- (A): the entries of `V` are still in the table, and no expression numbered since is a key of `V`. -/
structure IA (V : List (GvnExpr w × Nat)) (n0 : Nat) (g : G w) : Prop where
  sub : ValSub V g.values
  fresh : ∀ e, NewFrom n0 g.exprs e → alGet V e = none

/-- (B): every entry of the table is an entry of `V`, or its key was numbered since, or it is a cell
in `W`. -/
def IB (V : List (GvnExpr w × Nat)) (n0 : Nat) (W : List Int) (g : G w) : Prop :=
  ∀ e t, alGet g.values e = some t →
    alGet V e = some t ∨ NewFrom n0 g.exprs e ∨ ∃ v ∈ W, e = .mem v

theorem IA.congr {V : List (GvnExpr w × Nat)} {n0 : Nat} {g g1 : G w} (h : IA V n0 g)
    (hv : g1.values = g.values) (he : g1.exprs = g.exprs) : IA V n0 g1 :=
  ⟨by rw [hv]; exact h.sub, by rw [he]; exact h.fresh⟩

theorem IB.congr {V : List (GvnExpr w × Nat)} {n0 : Nat} {W : List Int} {g g1 : G w} (h : IB V n0 W g)
    (hv : g1.values = g.values) (he : g1.exprs = g.exprs) : IB V n0 W g1 := by
  unfold IB; rw [hv, he]; exact h

theorem IA.erase {V : List (GvnExpr w × Nat)} {n0 : Nat} {g g1 : G w} (h : IA V n0 g) (hw : WfV g)
    (ks : List (GvnExpr w)) (hk : ∀ k ∈ ks, alGet V k = none)
    (hv : g1.values = eraseKeys g.values ks) (he : g1.exprs = g.exprs) : IA V n0 g1 := by
  refine ⟨?_, by rw [he]; exact h.fresh⟩
  intro e t hg
  rw [hv, (eraseKeys_spec ks g.values hw.nodup).2 e]
  split
  · rename_i hm
    rw [hk e hm] at hg; cases hg
  · exact h.sub e t hg

theorem IB.erase {V : List (GvnExpr w × Nat)} {n0 : Nat} {W : List Int} {g g1 : G w} (h : IB V n0 W g)
    (hw : WfV g) (ks : List (GvnExpr w))
    (hv : g1.values = eraseKeys g.values ks) (he : g1.exprs = g.exprs) : IB V n0 W g1 := by
  intro e t hg
  rw [hv] at hg
  have := h e t (eraseKeys_sub hw.nodup ks e t hg)
  rw [he]; exact this

theorem headKeys_none {V : List (GvnExpr w × Nat)} {W : List Int}
    (hVW : ∀ v ∈ W, alGet V (GvnExpr.mem v) = none) {sub : Analysis} (hsub : ∀ v ∈ sub.writes, v ∈ W) :
    ∀ k ∈ (headKeys sub : List (GvnExpr w)), alGet V k = none := by
  intro k hk
  simp only [headKeys, List.mem_map] at hk
  obtain ⟨v, hv, rfl⟩ := hk
  exact hVW v (hsub v hv)

/-- The table at the exit of a block is the table after the body with some keys erased: cells the block
writes, and expressions numbered since `n0`. -/
theorem exitVals_keys {n0 p : Nat} (once : Bool) {sub : Analysis} (hsub : sub.hasShift = false) (hn : n0 ≤ p)
    (ex : Array (GvnExpr w)) (V : List (GvnExpr w × Nat)) :
    ∃ ks : List (GvnExpr w), exitVals sub once p ex V = eraseKeys V ks ∧
      ∀ k ∈ ks, k ∈ (headKeys sub : List (GvnExpr w)) ∨ NewFrom n0 ex k := by
  cases once
  · rw [exitVals_erase hsub]
    refine ⟨_, rfl, fun k hk => ?_⟩
    rcases List.mem_append.1 hk with h1 | h1
    · exact Or.inl h1
    · obtain ⟨i, hi, hg⟩ := newFrom_of_mem_drop h1
      exact Or.inr ⟨i, Nat.le_trans hn hi, hg⟩
  · rw [exitVals_once hsub]
    exact ⟨[], rfl, fun k hk => by simp at hk⟩

theorem blockEnd_keys {n0 : Nat} (isLoop once : Bool) (cond shift : Int) {sub : Analysis} {g0 g2 : G w}
    (hsub : sub.hasShift = false) (hn : n0 ≤ g0.exprs.size) :
    ∃ ks : List (GvnExpr w), (blockEnd isLoop once cond shift sub g0 g2).values = eraseKeys g2.values ks ∧
      ∀ k ∈ ks, k ∈ (headKeys sub : List (GvnExpr w)) ∨ NewFrom n0 g2.exprs k := by
  rw [blockEnd_values]; exact exitVals_keys once hsub hn _ _

/-- Along `Em` the table changes only by `eraseKeys` with keys that are `mem v` for a written `v`, or numbered since `n0`,
or by a `Seg`; `IA` and `IB` are closed under both (`IA.erase`, `IB.erase`). `V` is the table to compare with, `n0` the
number of expressions numbered when it was taken, `W` a superset of the cells the list writes; `a` is arbitrary because
the analysis of an enclosing list absorbs the writes of this one. -/
theorem em_vinv {fuse : Bool} {V : List (GvnExpr w × Nat)} {n0 : Nat} {W : List Int}
    {l : List (Ir.Instr w)} {g g' : G w} (h : Em fuse l g g') :
    ∀ a : Analysis, (analyzeInsts l a).hasShift = false → (∀ v ∈ (analyzeInsts l a).writes, v ∈ W) →
    WfV g → n0 ≤ g.exprs.size →
    ((∀ v ∈ W, alGet V (GvnExpr.mem v) = none) → IA V n0 g → IA V n0 g') ∧ (IB V n0 W g → IB V n0 W g') := by
  induction h with
  | nil g => intro a _ _ _ _; exact ⟨fun _ h => h, fun h => h⟩
  | @output src rest g g' _ ih =>
    intro a hs hW hw hn
    rw [analyzeInsts] at hs hW
    obtain ⟨i1, i2⟩ := ih _ hs hW (hw.push _) hn
    exact ⟨fun hVW hA => i1 hVW (hA.congr rfl rfl), fun hB => i2 (hB.congr rfl rfl)⟩
  | @input dst rest g g' _ ih =>
    intro a hs hW hw hn
    rw [analyzeInsts] at hs hW
    obtain ⟨hs1, hW1⟩ := analyzeInsts_noShift rest hs
    simp only [analyzeInstr, written_hasShift] at hs1
    have hdst : dst ∈ W := hW _ (hW1 _ ((written_writes a dst hs1 dst).2 (Or.inr rfl)))
    obtain ⟨i1, i2⟩ := ih _ hs hW (hw.input dst) hn
    refine ⟨fun hVW hA => i1 hVW (hA.erase hw [.mem dst] ?_ rfl rfl), fun hB => i2 (hB.erase hw [.mem dst] rfl rfl)⟩
    intro k hk
    simp only [List.mem_singleton] at hk
    subst hk
    exact hVW dst hdst
  | @«calc» calcs rest g g1 g' hseg _ ih =>
    intro a hs hW hw hn
    rw [analyzeInsts] at hs hW
    obtain ⟨hs1, hW1⟩ := analyzeInsts_noShift rest hs
    simp only [analyzeInstr, calc_hasShift] at hs1
    have htg : ∀ v ∈ calcs.map (·.1), v ∈ W := fun v hv =>
      hW _ (hW1 _ ((calc_writes calcs a hs1 v).2 (Or.inr hv)))
    have sg := hseg hw
    obtain ⟨i1, i2⟩ := ih _ hs hW (sg.wf hw) (Nat.le_trans hn sg.eext.1)
    have hnew : ∀ e, NewE g g1 e → NewFrom n0 g1.exprs e := by
      rintro e ⟨i, hi, hg⟩; exact ⟨i, Nat.le_trans hn hi, hg⟩
    refine ⟨fun hVW hA => i1 hVW ⟨?_, ?_⟩, fun hB => i2 ?_⟩
    · intro e t he
      refine sg.vals e t (hA.sub e t he) (fun v hv hev => ?_)
      subst hev
      rw [hVW v (htg v hv)] at he; cases he
    · rintro e ⟨i, hi, hg⟩
      by_cases hlt : i < g.exprs.size
      · exact hA.fresh e ⟨i, hi, (sg.eext.2 i hlt).symm.trans hg⟩
      · have := sg.fresh e ⟨i, by omega, hg⟩
        cases hv : alGet V e with
        | none => rfl
        | some t => rw [hA.sub e t hv] at this; cases this
    · intro e t he
      rcases sg.newvals e t he with h1 | h1 | ⟨v, hv, rfl⟩
      · rcases hB e t h1 with h2 | h2 | h2
        · exact Or.inl h2
        · exact Or.inr (Or.inl (h2.mono sg.eext))
        · exact Or.inr (Or.inr h2)
      · exact Or.inr (Or.inl (hnew e h1))
      · exact Or.inr (Or.inr ⟨v, htg v hv, rfl⟩)
  | @scan cond shift once rest g g' _ _ ih =>
    intro a hs hW hw hn
    rw [analyzeInsts] at hs hW
    obtain ⟨hs1, hW1⟩ := analyzeInsts_noShift rest hs
    simp only [analyzeInstr] at hs1 hW1
    obtain ⟨_, hsub, hwr⟩ := absorb_noShift hs1
    change (subOf shift ([] : List (Ir.Instr w))).hasShift = false at hsub
    have hsubW : ∀ v ∈ (subOf shift ([] : List (Ir.Instr w))).writes, v ∈ W := fun v hv =>
      hW _ (hW1 _ ((hwr v).2 (Or.inr hv)))
    obtain ⟨i1, i2⟩ := ih _ hs hW (hw.scanEnd _ _ _ _) (by simpa using hn)
    have hval : ∃ ks : List (GvnExpr w),
        (scanEnd cond shift (subOf shift ([] : List (Ir.Instr w))) once g).values = eraseKeys g.values ks ∧
        ∀ k ∈ ks, k ∈ (headKeys (subOf shift ([] : List (Ir.Instr w))) : List (GvnExpr w)) ∨
          NewFrom n0 g.exprs k := by
      rw [scanEnd_values, headVals_noShift hsub]
      obtain ⟨ks, e, hk⟩ := exitVals_keys once hsub hn g.exprs (eraseKeys g.values (headKeys (subOf shift [])))
      exact ⟨_, by rw [e, eraseKeys_append], fun k h => (List.mem_append.1 h).elim Or.inl (hk k)⟩
    obtain ⟨ks, hks, hmem⟩ := hval
    refine ⟨fun hVW hA => i1 hVW (hA.erase hw ks ?_ hks (by simp)), fun hB => i2 (hB.erase hw ks hks (by simp))⟩
    intro k hk
    rcases hmem k hk with h1 | h1
    · exact headKeys_none hVW hsubW k h1
    · exact hA.fresh k h1
  | @loop cond shift body once rest g g2 g' _ hbody _ ihb ihr =>
    intro a hs hW hw hn
    rw [analyzeInsts] at hs hW
    obtain ⟨hs1, hW1⟩ := analyzeInsts_noShift rest hs
    simp only [analyzeInstr] at hs1 hW1
    obtain ⟨_, hsub, hwr⟩ := absorb_noShift hs1
    change (subOf shift body).hasShift = false at hsub
    have hsubW : ∀ v ∈ (subOf shift body).writes, v ∈ W := fun v hv =>
      hW _ (hW1 _ ((hwr v).2 (Or.inr hv)))
    obtain ⟨_, hbs, hbw⟩ := subOf_noShift hsub
    have hw1 : WfV (blockStart once (headG true (subOf shift body) g)) := (hw.headG true _).blockStart _
    obtain ⟨_, pe, _, hw2⟩ := hbody.mono hw1
    simp only [blockStart_exprs, headG_exprs] at pe
    obtain ⟨b1, b2⟩ := ihb Analysis.empty hbs (fun v hv => hsubW v (hbw ▸ hv)) hw1 (by simpa using hn)
    obtain ⟨r1, r2⟩ := ihr _ hs hW (hw2.blockEnd _ _ _ _ _ _) (by simp only [blockEnd_exprs]; exact Nat.le_trans hn pe.1)
    obtain ⟨ks, hks, hmem⟩ := blockEnd_keys (g2 := g2) true once cond shift hsub
      (show n0 ≤ (headG true (subOf shift body) g).exprs.size by simpa using hn)
    refine ⟨fun hVW hA => r1 hVW ?_, fun hB => r2 ?_⟩
    · have hA1 : IA V n0 (blockStart once (headG true (subOf shift body) g)) :=
        hA.erase hw (headKeys (subOf shift body)) (headKeys_none hVW hsubW)
          (by rw [blockStart_values, headG_values_true, headVals_noShift hsub]) (by simp)
      have hA2 := b1 hVW hA1
      refine hA2.erase hw2 ks ?_ hks (by simp)
      intro k hk
      rcases hmem k hk with h1 | h1
      · exact headKeys_none hVW hsubW k h1
      · exact hA2.fresh k h1
    · have hB1 : IB V n0 W (blockStart once (headG true (subOf shift body) g)) :=
        hB.erase hw (headKeys (subOf shift body))
          (by rw [blockStart_values, headG_values_true, headVals_noShift hsub]) (by simp)
      exact (b2 hB1).erase hw2 ks hks (by simp)
  | @ifnz cond shift body rest g g2 g' hbody _ ihb ihr =>
    intro a hs hW hw hn
    rw [analyzeInsts] at hs hW
    obtain ⟨hs1, hW1⟩ := analyzeInsts_noShift rest hs
    simp only [analyzeInstr] at hs1 hW1
    obtain ⟨_, hsub, hwr⟩ := absorb_noShift hs1
    change (subOf shift body).hasShift = false at hsub
    have hsubW : ∀ v ∈ (subOf shift body).writes, v ∈ W := fun v hv =>
      hW _ (hW1 _ ((hwr v).2 (Or.inr hv)))
    obtain ⟨_, hbs, hbw⟩ := subOf_noShift hsub
    have hw1 : WfV (blockStart false g) := hw.blockStart _
    obtain ⟨_, pe, _, hw2⟩ := hbody.mono hw1
    simp only [blockStart_exprs] at pe
    obtain ⟨b1, b2⟩ := ihb Analysis.empty hbs (fun v hv => hsubW v (hbw ▸ hv)) hw1 (by simpa using hn)
    obtain ⟨r1, r2⟩ := ihr _ hs hW (hw2.blockEnd _ _ _ _ _ _) (by simp only [blockEnd_exprs]; exact Nat.le_trans hn pe.1)
    obtain ⟨ks, hks, hmem⟩ := blockEnd_keys (g0 := g) (g2 := g2) false false cond shift hsub hn
    refine ⟨fun hVW hA => r1 hVW ?_, fun hB => r2 ?_⟩
    · have hA2 := b1 hVW (hA.congr (by simp) (by simp))
      refine hA2.erase hw2 ks ?_ hks (by simp)
      intro k hk
      rcases hmem k hk with h1 | h1
      · exact headKeys_none hVW hsubW k h1
      · exact hA2.fresh k h1
    · exact (b2 (hB.congr (by simp) (by simp))).erase hw2 ks hks (by simp)

/-- What is in the table at the exit of a body that may be skipped was in the table at its head. -/
theorem exit_sub {fuse : Bool} {shift : Int} {body : List (Ir.Instr w)} {g1 g2 : G w}
    (hb : Em fuse body g1 g2) (hw1 : WfV g1) :
    ValSub (exitVals (subOf shift body) false g1.exprs.size g2.exprs g2.values) g1.values := by
  cases hsh : (subOf shift body).hasShift with
  | true => rw [exitVals_shift hsh]; exact ValSub.nil _
  | false =>
    obtain ⟨_, hbs, hbw⟩ := subOf_noShift hsh
    obtain ⟨_, _, _, hw2⟩ := hb.mono hw1
    have hB := (em_vinv (V := g1.values) (n0 := g1.exprs.size) (W := (subOf shift body).writes) hb
      Analysis.empty hbs (fun v hv => hbw ▸ hv) hw1 (Nat.le_refl _)).2 (fun e t he => Or.inl he)
    rw [exitVals_erase hsh]
    intro e t he
    rw [(eraseKeys_spec _ _ hw2.nodup).2] at he
    split at he
    · cases he
    · rename_i hne
      rcases hB e t he with h1 | h1 | ⟨v, hv, rfl⟩
      · exact h1
      · exact absurd (List.mem_append.2 (Or.inr (mem_drop_of_newFrom h1))) hne
      · exact absurd (List.mem_append.2 (Or.inl (List.mem_map.2 ⟨v, hv, rfl⟩))) hne

/-- (A) the entries at the head of a loop survive its body. -/
theorem head_sub_end {fuse : Bool} {shift : Int} {body : List (Ir.Instr w)} {once : Bool} {g g2 : G w}
    (hb : Em fuse body (blockStart once (headG true (subOf shift body) g)) g2) (hw : WfV g) :
    ValSub (headG true (subOf shift body) g).values g2.values := by
  rw [headG_values_true]
  cases hsh : (subOf shift body).hasShift with
  | true => rw [headVals_shift hsh]; exact ValSub.nil _
  | false =>
    obtain ⟨_, hbs, hbw⟩ := subOf_noShift hsh
    have hw1 : WfV (blockStart once (headG true (subOf shift body) g)) := (hw.headG true _).blockStart _
    have := (em_vinv (V := headVals (subOf shift body) g.values) (n0 := g.exprs.size)
      (W := (subOf shift body).writes) hb Analysis.empty hbs (fun v hv => hbw ▸ hv) hw1 (by simp)).1
    refine (this ?_ ⟨?_, ?_⟩).sub
    · intro v hv
      rw [headVals_noShift hsh, (eraseKeys_spec _ _ hw.nodup).2]
      have : (GvnExpr.mem v : GvnExpr w) ∈ (headKeys (subOf shift body) : List (GvnExpr w)) :=
        List.mem_map.2 ⟨v, hv, rfl⟩
      simp [this]
    · rw [blockStart_values, headG_values_true]; exact ValSub.refl _
    · rintro e ⟨i, hi, hg⟩
      have := (Array.getElem?_eq_some_iff.1 hg).1
      simp only [blockStart_exprs, headG_exprs] at this
      omega

/-- (B) the entries at the exit of a block that may be skipped were there at its head. -/
theorem exit_sub_head {fuse : Bool} {shift : Int} {body : List (Ir.Instr w)} {g0 g2 : G w}
    (hb : Em fuse body (blockStart false g0) g2) (hw : WfV g0) :
    ValSub (exitVals (subOf shift body) false g0.exprs.size g2.exprs g2.values) g0.values := by
  simpa using exit_sub (shift := shift) hb (hw.blockStart _)

end C02Emit
end Hpbf
