/-
C01, level 0: both interpreters as abstract machines (`Sim.Mach`) whose traces only grow, and their single-step
equations (`bstep_*` for `BfM`, `istep_*`, `step_add`, `step_load_zero` for `IrM`).  Last, `C02Emit.irInit` and
`C02Emit.OnceOk`: the precondition on loops marked `once`, a statement about `Ir` runs alone that the emitter's and the
optimizer's proofs share (it lives here, below both).
-/
import Hpbf.Proofs.C01Sim
import Hpbf.Proofs.C01Comp
import Hpbf.Proofs.C01State
import Hpbf.Proofs.IrStep

namespace Hpbf
namespace C01
open Ir

variable {w : Nat}

def BfM (w : Nat) : Sim.Mach where
  C := Bf.Config w
  step := fun c =>
    match Bf.step c with
    | .next c' => .next c'
    | .halt s => .fin true s.trace
    | .stop s => .fin false s.trace
  tr := fun c => c.st.trace

/-- The `.interrupted` arm here and in `obsIr` is never taken, the interpreter running unlimited
(`step_not_interrupted`, `runCfg_not_interrupted`); its value is arbitrary. -/
def IrM (w : Nat) : Sim.Mach where
  C := Ir.Cfg w
  step := fun c =>
    match Ir.step false c with
    | .next c' => .next c'
    | .halt c' => .fin true c'.st.trace
    | .stop c' => .fin false c'.st.trace
    | .interrupted c' => .fin true c'.st.trace
  tr := fun c => c.st.trace

def obsBf : Bf.Outcome w → Sim.Out
  | .done s => .fin true s.trace
  | .stopped s => .fin false s.trace
  | .outOfFuel c => .fuel c.st.trace

def obsIr : Ir.Outcome w → Sim.Out
  | .done c => .fin true c.st.trace
  | .stopped c => .fin false c.st.trace
  | .interrupted c => .fin true c.st.trace
  | .outOfFuel c => .fuel c.st.trace

theorem run_BfM (f : Nat) : ∀ c : Bf.Config w, Sim.run (BfM w) f c = obsBf (Bf.runCfg f c) := by
  induction f with
  | zero => intro c; rfl
  | succ f ih =>
    intro c
    simp only [Sim.run, Bf.runCfg, BfM]
    cases h : Bf.step c with
    | next c' => simp only []; exact ih c'
    | halt s => rfl
    | stop s => rfl

theorem run_IrM (f : Nat) : ∀ c : Ir.Cfg w, Sim.run (IrM w) f c = obsIr (Ir.runCfg false f c) := by
  induction f with
  | zero => intro c; rfl
  | succ f ih =>
    intro c
    simp only [Sim.run, Ir.runCfg, IrM]
    cases h : Ir.step false c with
    | next c' => simp only []; exact ih c'
    | halt s => rfl
    | stop s => rfl
    | interrupted s => rfl

theorem step_not_interrupted (c c' : Ir.Cfg w) : Ir.step false c ≠ .interrupted c' := by
  intro hs
  have h := Ir.step_shape false c
  rw [hs] at h
  cases h with
  | interrupted _ _ _ hl => cases hl

theorem runCfg_not_interrupted (f : Nat) : ∀ (c c' : Ir.Cfg w), Ir.runCfg false f c ≠ .interrupted c' := by
  induction f with
  | zero => intro c c'; simp [Ir.runCfg]
  | succ f ih =>
    intro c c'
    simp only [Ir.runCfg]
    cases h : Ir.step false c with
    | next c1 => exact ih c1 c'
    | halt s => simp
    | stop s => simp
    | interrupted s => exact absurd h (step_not_interrupted c s)

theorem mono_BfM : Sim.Mono (BfM w) where
  next := by
    intro c c' h
    have := bf_step_trace c
    simp only [BfM] at h ⊢
    cases h' : Bf.step c with
    | next c1 => rw [h'] at h this; cases h; exact this
    | halt s => rw [h'] at h; simp at h
    | stop s => rw [h'] at h; simp at h
  fin := by
    intro c ok t h
    have := bf_step_trace c
    simp only [BfM] at h ⊢
    cases h' : Bf.step c with
    | next c1 => rw [h'] at h; simp at h
    | halt s => rw [h'] at h this; cases h; exact this
    | stop s => rw [h'] at h this; cases h; exact this

theorem mono_IrM : Sim.Mono (IrM w) where
  next := by
    intro c c' h
    have := Ir.step_trace false c
    simp only [IrM] at h ⊢
    cases h' : Ir.step false c with
    | next c1 => rw [h'] at h this; cases h; exact this
    | halt s => rw [h'] at h; simp at h
    | stop s => rw [h'] at h; simp at h
    | interrupted s => rw [h'] at h; simp at h
  fin := by
    intro c ok t h
    have := Ir.step_trace false c
    simp only [IrM] at h ⊢
    cases h' : Ir.step false c with
    | next c1 => rw [h'] at h; simp at h
    | halt s => rw [h'] at h this; cases h; exact this
    | stop s => rw [h'] at h this; cases h; exact this
    | interrupted s => rw [h'] at h this; cases h; exact this

theorem bstep_nil_nil (st : State w) : (BfM w).step ⟨.nil, [], st⟩ = .fin true st.trace := rfl

theorem bstep_nil_cons (k : Prog) (ks : List Prog) (st : State w) :
    (BfM w).step ⟨.nil, k :: ks, st⟩ = .next ⟨k, ks, st⟩ := rfl

theorem bstep_cmd (op : Op) (r : Prog) (ks : List Prog) (st : State w) :
    (BfM w).step ⟨.cmd op r, ks, st⟩ =
      if (Bf.applyOp op st).1 = true then .next ⟨r, ks, (Bf.applyOp op st).2⟩
      else .fin false (Bf.applyOp op st).2.trace := by
  simp only [BfM, Bf.step]
  rcases h : Bf.applyOp op st with ⟨b, s'⟩
  cases b <;> simp

theorem bstep_loop (b r : Prog) (ks : List Prog) (st : State w) :
    (BfM w).step ⟨.loop b r, ks, st⟩ =
      if st.rd 0 = 0#w then .next ⟨r, ks, st⟩ else .next ⟨b, .loop b r :: ks, st⟩ := by
  simp only [BfM, Bf.step]
  by_cases h : st.rd 0 = 0#w <;> simp [h]

theorem istep_output (k : Int) (rest : List (Instr w)) (ks : List (Cont w)) (bud : Nat) (st : State w) :
    (IrM w).step ⟨.output k :: rest, ks, bud, st⟩ =
      if (st.output k).1 = true then .next ⟨rest, ks, bud, (st.output k).2⟩
      else .fin false (st.output k).2.trace := by
  simp only [IrM, Ir.step]
  rcases h : st.output k with ⟨b, s'⟩
  cases b <;> simp

theorem istep_input (k : Int) (rest : List (Instr w)) (ks : List (Cont w)) (bud : Nat) (st : State w) :
    (IrM w).step ⟨.input k :: rest, ks, bud, st⟩ =
      if (st.input k).1 = true then .next ⟨rest, ks, bud, (st.input k).2⟩
      else .fin false (st.input k).2.trace := by
  simp only [IrM, Ir.step]
  rcases h : st.input k with ⟨b, s'⟩
  cases b <;> simp

theorem istep_loop (cond sh : Int) (body : List (Instr w)) (once : Bool) (rest : List (Instr w))
    (ks : List (Cont w)) (bud : Nat) (st : State w) :
    (IrM w).step ⟨.loop cond sh body once :: rest, ks, bud, st⟩ =
      if st.rd cond = 0#w then .next ⟨rest, ks, bud, st⟩
      else .next ⟨body, .loopEnd cond sh body rest :: ks, bud, st⟩ := by
  simp only [IrM, Ir.step]
  by_cases h : st.rd cond = 0#w <;> simp [h]

theorem istep_end_nil (bud : Nat) (st : State w) :
    (IrM w).step ⟨[], [], bud, st⟩ = .fin true st.trace := rfl

theorem istep_end_loop (cond sh : Int) (body rest : List (Instr w)) (ks : List (Cont w)) (bud : Nat)
    (st : State w) :
    (IrM w).step ⟨[], .loopEnd cond sh body rest :: ks, bud, st⟩ =
      if (st.mov sh).rd cond = 0#w then .next ⟨rest, ks, bud, st.mov sh⟩
      else .next ⟨body, .loopEnd cond sh body rest :: ks, bud, st.mov sh⟩ := by
  simp only [IrM, Ir.step, Bool.false_and, Bool.false_eq_true, if_false]
  by_cases h : (st.mov sh).rd cond = 0#w <;> simp [h]

theorem bstep_out (r : Prog) (ks : List Prog) (st : State w) :
    (BfM w).step ⟨.cmd .out r, ks, st⟩ =
      if (st.output 0).1 = true then .next ⟨r, ks, (st.output 0).2⟩
      else .fin false (st.output 0).2.trace := bstep_cmd .out r ks st

theorem bstep_inp (r : Prog) (ks : List Prog) (st : State w) :
    (BfM w).step ⟨.cmd .inp r, ks, st⟩ =
      if (st.input 0).1 = true then .next ⟨r, ks, (st.input 0).2⟩
      else .fin false (st.input 0).2.trace := bstep_cmd .inp r ks st

theorem evaluate_add (v : Int) (c : BitVec w) (f : Int → BitVec w) :
    Expr.evaluate [{ coef := c, vars := [] }, { coef := 1#w, vars := [v] }] f = c + f v := by
  simp [Expr.evaluate, Expr.evalPart]

theorem doCalc_add (s : State w) (k : Int) (v : BitVec w) :
    doCalc s [(k, [{ coef := v, vars := [] }, { coef := 1#w, vars := [k] }])] = s.wr k (v + s.rd k) := by
  simp [doCalc, evaluate_add]

theorem doCalc_load_zero (s : State w) (k : Int) :
    doCalc s [(k, Expr.val 0#w)] = s.wr k 0#w := by
  simp [doCalc, Expr.val, Expr.evaluate]

theorem step_add (k : Int) (v : BitVec w) (rest : List (Instr w)) (ks : List (Cont w)) (bud : Nat)
    (st : State w) :
    (IrM w).step ⟨Instr.add k v :: rest, ks, bud, st⟩ = .next ⟨rest, ks, bud, st.wr k (v + st.rd k)⟩ := by
  simp only [IrM, Instr.add, Ir.step, doCalc_add]

theorem step_load_zero (k : Int) (rest : List (Instr w)) (ks : List (Cont w)) (bud : Nat)
    (st : State w) :
    (IrM w).step ⟨Instr.load k 0#w :: rest, ks, bud, st⟩ = .next ⟨rest, ks, bud, st.wr k 0#w⟩ := by
  simp only [IrM, Instr.load, Ir.step, doCalc_load_zero]

end C01

namespace C02Emit

variable {w : Nat}

/-- The budget `0` is never consulted by a run with `limited = false`. -/
def irInit (blk : Ir.Block w) (env : Env) : Ir.Cfg w := ⟨blk.insts, [], 0, State.init env⟩

/-- Whenever the (unlimited) IR interpreter reaches a loop marked `once`, its condition cell is
non-zero. -/
def OnceOk (blk : Ir.Block w) (env : Env) : Prop :=
  ∀ (f : Nat) (c : Ir.Cfg w), Ir.runCfg false f (irInit blk env) = .outOfFuel c →
    ∀ cond shift body rest, c.cur = .loop cond shift body true :: rest → c.st.rd cond ≠ 0#w

end C02Emit
end Hpbf
