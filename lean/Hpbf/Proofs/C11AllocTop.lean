/-
C11 for the output of `allocate_temps` (namespace `Hpbf.C02`): the late passes carry solutions of the
initialisation and liveness clauses from their input to their output (`latePasses_initFacts`,
`latePasses_liveFacts`); hence the two clauses hold, in the boolean form tested by `BcWf.check`, for the output of
`allocate_temps` in the pipeline and for every program returned by `translateE` (`translateE_initOk_liveOk`).
-/
import Hpbf.Proofs.C11AllocStrip
import Hpbf.Proofs.ChainPhases

namespace Hpbf
namespace C02

open Bc BcWf BcGen C11 Alloc Alloc.Wf

variable {w : Nat}

theorem latePasses_shape (s s4 : St w) (h : LatePre s) (fuse : Bool) (h4 : latePasses fuse s = .ok s4) :
    ∃ sz : St w, InstsSim s.insts sz.insts ∧ sz.live = s.live ∧ sz.live.size = sz.insts.size ∧
      TargetsOk sz.insts ∧ stripNoops sz = .ok s4 := by
  obtain ⟨s3, e, hpw, hl, hT, hlv, _, _⟩ := latePasses_stages h fuse
  exact ⟨s3, hpw.mono (fun x z hz => (tmpSim_reorderInst x).trans (tmpSim_zmdI hz)), hlv, hl, hT, e ▸ h4⟩

theorem latePasses_initFacts (s s4 : St w) (h : LatePre s) (fuse : Bool) (h4 : latePasses fuse s = .ok s4)
    {t : Nat} {mn mx : Int} {I : Array (List Nat)} (hI : InitFacts (progOf s t mn mx) I)
    (t' : Nat) (mn' mx' : Int) : ∃ I', InitFacts (progOf s4 t' mn' mx') I' := by
  obtain ⟨sz, h1, h2, h3, h5, h6⟩ := latePasses_shape s s4 h fuse h4
  have hIz : InitFacts (progOf sz t mn mx) I := initFacts_of_sim (p' := progOf sz t mn mx) hI h1
  exact ⟨_, initFacts_strip (stripNoops_rel sz s4 h3 h5 h6 t t' mn mn' mx mx') hIz⟩

theorem latePasses_liveFacts (s s4 : St w) (h : LatePre s) (fuse : Bool) (h4 : latePasses fuse s = .ok s4)
    {numRegs t : Nat} {mn mx : Int} {O : Array (List Nat)} (hO : LiveFacts (progOf s t mn mx) numRegs O)
    (t' : Nat) (mn' mx' : Int) : ∃ O', LiveFacts (progOf s4 t' mn' mx') numRegs O' := by
  obtain ⟨sz, h1, h2, h3, h5, h6⟩ := latePasses_shape s s4 h fuse h4
  have hOz : LiveFacts (progOf sz t mn mx) numRegs O := liveFacts_of_sim (p' := progOf sz t mn mx) hO h1 h2
  exact ⟨_, liveFacts_strip (stripNoops_rel sz s4 h3 h5 h6 t t' mn mn' mx mx') hOz⟩

section
variable {prog : Ir.Block w} {fuse : Bool} {numRegs : Nat} {s1 s2 s3 : St w}

theorem allocPre_targets_of_emit (h1 : emitState prog fuse = .ok s1) (h2 : deadStoreElim s1 = .ok s2) :
    AllocPre s2 ∧ TargetsOk s2.insts := by
  obtain ⟨s2', h2', _, _, _, hT, _⟩ := deadStoreElim_preserves_of_emit h1
  rw [h2] at h2'; cases h2'
  exact ⟨AEmit.allocPre_of_emit h1 h2, hT (Chain.emit_targetsOk h1)⟩

/-- `Tn`, `mn`, `mx` are free: any packaging whose `temps` bounds the temporaries read. -/
theorem allocateTemps_initOk_of_emit (h1 : emitState prog fuse = .ok s1) (h2 : deadStoreElim s1 = .ok s2)
    (h3 : allocateTemps numRegs s2 = .ok s3) (Tn : Nat) (mn mx : Int) (hb : TempsBelow s3.insts Tn) :
    initOk (progOf s3 Tn mn mx) (initSolve (progOf s3 Tn mn mx)) = true :=
  have ⟨hpre, hT⟩ := allocPre_targets_of_emit h1 h2
  allocateTemps_initOk s2 s3 numRegs hpre hT h3 Tn mn mx hb

theorem allocateTemps_liveOk_of_emit (h1 : emitState prog fuse = .ok s1) (h2 : deadStoreElim s1 = .ok s2)
    (h3 : allocateTemps numRegs s2 = .ok s3) (Tn : Nat) (mn mx : Int) (hb : TempsBelow s3.insts Tn) :
    liveOk (progOf s3 Tn mn mx) numRegs (liveSolve (progOf s3 Tn mn mx)) = true :=
  have ⟨hpre, hT⟩ := allocPre_targets_of_emit h1 h2
  allocateTemps_liveOk s2 s3 numRegs hpre hT h3 Tn mn mx hb

/-- With the declared count used by `translate` (`count_temps`). -/
theorem allocateTemps_contract_of_emit (h1 : emitState prog fuse = .ok s1) (h2 : deadStoreElim s1 = .ok s2)
    (h3 : allocateTemps numRegs s2 = .ok s3) (mn mx : Int) :
    initOk (progOf s3 (countTemps s3.insts) mn mx) (initSolve (progOf s3 (countTemps s3.insts) mn mx)) = true ∧
    liveOk (progOf s3 (countTemps s3.insts) mn mx) numRegs (liveSolve (progOf s3 (countTemps s3.insts) mn mx)) = true :=
  ⟨allocateTemps_initOk_of_emit h1 h2 h3 _ mn mx (tempsBelow_countTemps _),
   allocateTemps_liveOk_of_emit h1 h2 h3 _ mn mx (tempsBelow_countTemps _)⟩

end

/-- The Bool tests on the allocator's output give facts (`initOk_facts`, `liveOk_facts`; the window `0 0` is arbitrary, the
facts do not read it); the late passes carry facts to SOME array (`∃ I'`); completeness of the solvers
(`alloc_initSolve_facts'`, `alloc_liveSolve_facts`) brings them back to the checker's own arrays. -/
theorem translateE_initOk_liveOk {prog : Ir.Block w} {numRegs : Nat} {fuse : Bool} {p : Program w}
    (h : translateE prog numRegs fuse = .ok p) :
    initOk p (initSolve p) = true ∧ liveOk p numRegs (liveSolve p) = true := by
  obtain ⟨s1, s2, s3, s4, h1, h2, h3, h4, rfl⟩ := Chain.translateE_phases h
  obtain ⟨hpre, hT2⟩ := allocPre_targets_of_emit h1 h2
  have hlate := allocateTemps_latePre s2 s3 numRegs hpre hT2 h3
  have hb3 := tempsBelow_countTemps s3.insts
  have hI := initOk_facts (allocateTemps_initOk s2 s3 numRegs hpre hT2 h3 (countTemps s3.insts) 0 0 hb3)
  have hO := liveOk_facts (allocateTemps_liveOk s2 s3 numRegs hpre hT2 h3 (countTemps s3.insts) 0 0 hb3)
  rw [Chain.package_eq_progOf]
  obtain ⟨I', hI'⟩ := latePasses_initFacts s3 s4 hlate fuse h4 hI (countTemps s4.insts)
    (analyze prog).minAcc (analyze prog).maxAcc
  obtain ⟨O', hO'⟩ := latePasses_liveFacts s3 s4 hlate fuse h4 hO (countTemps s4.insts)
    (analyze prog).minAcc (analyze prog).maxAcc
  have hu : UsesLt (progOf s4 (countTemps s4.insts) (analyze prog).minAcc (analyze prog).maxAcc)
      (progOf s4 (countTemps s4.insts) (analyze prog).minAcc (analyze prog).maxAcc).temps :=
    tempsBelow_countTemps s4.insts
  exact ⟨alloc_initOk_of_facts (alloc_initSolve_facts' hI' hu), alloc_liveOk_of_facts (alloc_liveSolve_facts hO' hu)⟩

end C02
end Hpbf
