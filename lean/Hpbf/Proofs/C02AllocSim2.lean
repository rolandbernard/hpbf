/-
C02 (`allocate_temps`): the relation `Rel` between configurations of the input and of the output program of the pass,
and one step of both under each `StepKind` (`sim_other`, `sim_fuse`, `sim_rw`).
-/
import Hpbf.Proofs.C02AllocSim
import Hpbf.Proofs.C01State
set_option linter.unusedSimpArgs false

namespace Hpbf
namespace C02
namespace Alloc

open Bc BcWf BcGen C11

variable {w : Nat} {s : St w}

theorem stepI_mkArith (p : Program w) (lim : Bool) (c : Cfg w) (op : BcGen.Op) (d a b : Loc w) :
    stepI p lim c (mkArith op d a b) = arith c (opFun op) d a b := by
  cases op <;> rfl

theorem copyCfg_pure (c : Cfg w) (d src : Loc w) (h : locNoZero src = true) :
    copyCfg c d src = wrCfg c (rdVal c src) d := by
  unfold copyCfg
  rw [rdSt_noZero _ h]

structure Rel (s : St w) (tr : Nat → ASt w) (c1 c2 : Cfg w) : Prop where
  pc : c2.pc = c1.pc
  le : c1.pc ≤ s.insts.size
  st : c2.st = c1.st
  budget : c2.budget = c1.budget
  v : RelV s c1.pc (tr c1.pc) c1 c2

section
variable {numRegs : Nat} {tr : Nat → ASt w}

theorem no_fused_nonplain (hp : AllocPre s) {k : Nat} {a : ASt w} (hI : PassInv s k a) {x : Instr w}
    (hx : s.insts[k]? = some x) (hpl : plain x = false) {f : Nat} {op : BcGen.Op} {m : Int} {t : Nat}
    {s0 s1 : Loc w} : ¬ Fused s k a f op m t s0 s1 := by
  intro h
  rw [fused_plain hp hI h hx] at hpl
  cases hpl

theorem relV_jump (hp : AllocPre s) (T : Trace s numRegs tr) {k k' : Nat} (hk : k < s.insts.size)
    (hk' : k' ≤ s.insts.size) {x : Instr w} {off : Int} (hx : s.insts[k]? = some x)
    (hoff : branchOff? x = some off) (hkk : (k : Int) + off = (k' : Int))
    {c1 c2 c1' c2' : Cfg w} (hR : RelV s k (tr k) c1 c2)
    (e1 : c1'.temps = c1.temps) (e2 : c2'.temps = c2.temps) (e3 : c1'.st = c1.st) (e4 : c2'.st = c2.st) :
    RelV s k' (tr k') c1' c2' := by
  have hI := trace_inv hp T k (by omega)
  have hI' := trace_inv hp T k' hk'
  have hpl : plain x = false := by cases x <;> simp [branchOff?] at hoff <;> rfl
  have hnoF : ∀ {f op m t s0 s1}, ¬ Fused s k' (tr k') f op m t s0 s1 :=
    fun h => fused_nojump hp hI' h hx hoff hkk
  constructor
  · intro t v hv hlive _
    rcases hlive with ⟨r, L, g1, g2, g3⟩ | ⟨f, op, m, t', s0, s1, hf, _⟩
    · obtain ⟨_, r', q1, q2⟩ := hI'.replDom t v hv
      rw [g1] at q1; cases q1
      obtain ⟨r1, L1, p1, p2, p3, p4⟩ := hp.flow k x off k' hx hoff hkk t ⟨r, L, g1, g2, q2, g3⟩
      rw [g1] at p1; cases p1
      rw [g2] at p2; cases p2
      have hv' : alGet (tr k).repl t = some v := by
        by_cases hle : k ≤ k'
        · rw [← repl_stable hp T g1 g2 p3 k' hle g3 hk']; exact hv
        · rw [repl_stable hp T g1 g2 q2 k (by omega) p4 (by omega)]; exact hv
      have h0 := hR.val t v hv' (Or.inl ⟨r, L, g1, g2, p4⟩) (by
        rintro ⟨f, op, m, s0, s1, hf⟩
        exact no_fused_nonplain hp hI hx hpl hf)
      rw [e1, h0]
      symm
      apply rdVal_of_eq
      · intro i _; rw [e2]
      · intro o _; rw [e4]
    · exact absurd hf hnoF
  · intro f op m t s0 s1 hf
    exact absurd hf hnoF

/-- After a pointer move nothing is live. -/
theorem relV_vacuous (hp : AllocPre s) {k j : Nat} {a : ASt w} (hI : PassInv s k a) {x : Instr w}
    (hx : s.insts[j]? = some x) (hjk : j ≤ k) (hptr : ptrStable x = false)
    (hdom : ∀ t v, alGet a.repl t = some v → ∃ r : RangeInfo, s.ranges[t]? = some r ∧ r.created < j)
    (hnoF : ∀ f op m t s0 s1, ¬ Fused s k a f op m t s0 s1) (c1 c2 : Cfg w) : RelV s k a c1 c2 := by
  constructor
  · intro t v hv hlive _
    rcases hlive with ⟨r, L, g1, g2, g3⟩ | ⟨f, op, m, t', s0, s1, hf, _⟩
    · obtain ⟨r', q1, q2⟩ := hdom t v hv
      rw [g1] at q1; cases q1
      have := hp.ptr t j x ⟨r, L, g1, g2, q2, by omega⟩ hx
      rw [this] at hptr; cases hptr
    · exact absurd hf (hnoF _ _ _ _ _ _)
  · intro f op m t s0 s1 hf
    exact absurd hf (hnoF _ _ _ _ _ _)

theorem sim_other (hp : AllocPre s) (T : Trace s numRegs tr) {P Q : Program w} (hP : P.insts = s.insts)
    (hQs : Q.insts.size = s.insts.size) (lim : Bool) {k : Nat} (hk : k < s.insts.size) {x : Instr w}
    (hx : s.insts[k]? = some x) (hpl : plain x = false)
    (hr : ∀ t' v, alGet (tr (k + 1)).repl t' = some v → alGet (tr k).repl t' = some v)
    {t1 t2 : Temps w} {b : Nat} {st : State w}
    (hV : RelV s k (tr k) ⟨k, t1, b, st⟩ ⟨k, t2, b, st⟩) :
    StepRel (Rel s tr) CfgEq CfgEq (stepI P lim ⟨k, t1, b, st⟩ x) (stepI Q lim ⟨k, t2, b, st⟩ x) := by
  have hI := trace_inv hp T k (by omega)
  have hI' := trace_inv hp T (k + 1) (by omega)
  have K := (trace_sum hp T hk).kind
  have hnoF : ∀ f op m t s0 s1, ¬ Fused s k (tr k) f op m t s0 s1 :=
    fun f op m t s0 s1 => no_fused_nonplain hp hI hx hpl
  have hnoF' : ∀ f op m t s0 s1, ¬ Fused s (k + 1) (tr (k + 1)) f op m t s0 s1 := by
    intro f op m t s0 s1 h
    rcases stepKind_fused_back K h with h | ⟨h, _, _⟩
    · exact hnoF _ _ _ _ _ _ h
    · rw [hx] at h; cases h; rw [plain_mkArith] at hpl; cases hpl
  have hnext : ∀ (b' : Nat) (st' : State w), (∀ m', m' ∉ memDefs x → st'.rd m' = st.rd m') →
      Rel s tr ⟨k + 1, t1, b', st'⟩ ⟨k + 1, t2, b', st'⟩ := by
    intro b' st' hm
    refine ⟨rfl, hk, rfl, rfl, ?_⟩
    refine relV_succ hp hI hI' K hx hV rfl rfl hm (fun _ _ => rfl) (fun _ _ _ _ => rfl) ?_ ?_ ?_
    · intro t' v hv hn _
      rw [hr t' v hv] at hn; cases hn
    · intro op m t s0 s1 h; exact absurd h (hnoF _ _ _ _ _ _)
    · intro op t s0 s1 h _
      rw [hx] at h; cases h; rw [plain_mkArith] at hpl; cases hpl
  have hsame : CfgEq (⟨k, t1, b, st⟩ : Cfg w) ⟨k, t2, b, st⟩ := ⟨StEq.refl _, rfl⟩
  have hbranch : ∀ (taken : Bool) (off : Int), branchOff? x = some off →
      StepRel (Rel s tr) CfgEq CfgEq (branch P lim ⟨k, t1, b, st⟩ taken off)
        (branch Q lim ⟨k, t2, b, st⟩ taken off) := by
    intro taken off hoff
    unfold branch
    rw [hP, hQs]
    by_cases hb : lim = true ∧ b ≤ 1
    · simp only [hb, and_self, if_true, StepRel]
      exact ⟨StEq.refl _, rfl⟩
    · simp only [hb, if_false]
      cases taken with
      | false =>
        simp only [Bool.false_eq_true, if_false, StepRel]
        exact hnext _ st (fun _ _ => rfl)
      | true =>
        simp only [if_true]
        cases hbt : branchTarget k off s.insts.size with
        | none => simp only [StepRel]; exact ⟨StEq.refl _, rfl⟩
        | some t =>
          simp only [StepRel]
          unfold branchTarget at hbt
          simp only at hbt
          split at hbt
          · rename_i hc
            cases hbt
            have hkk : (k : Int) + off = (((k : Int) + off).toNat : Int) := by omega
            have hle : ((k : Int) + off).toNat ≤ s.insts.size := by omega
            exact ⟨rfl, hle, rfl, rfl, relV_jump hp T hk hle hx hoff hkk hV rfl rfl rfl rfl⟩
          · cases hbt
  cases x with
  | noop | add d a b | sub d a b | mul d a b | copy d a => cases hpl
  | mov sh =>
    simp only [stepI, StepRel]
    refine ⟨rfl, hk, rfl, rfl, ?_⟩
    refine relV_vacuous hp hI' hx (Nat.le_succ k) rfl ?_ hnoF' _ _
    intro t v hv
    obtain ⟨_, r, g1, g2⟩ := hI.replDom t v (hr t v hv)
    exact ⟨r, g1, g2⟩
  | scan cond sh =>
    simp only [stepI]
    by_cases h0 : st.rd cond = 0#w
    · simp only [h0, if_true, StepRel]
      exact hnext _ st (fun _ _ => rfl)
    · simp only [h0, if_false]
      by_cases hs : sh = 0
      · simp only [hs, if_true]
        cases lim with
        | true => simp only [if_true, StepRel]; exact ⟨StEq.refl _, rfl⟩
        | false =>
          simp only [Bool.false_eq_true, if_false, StepRel]
          exact ⟨rfl, Nat.le_of_lt hk, rfl, rfl, hV⟩
      · simp only [hs, if_false, StepRel]
        refine ⟨rfl, Nat.le_of_lt hk, rfl, rfl, ?_⟩
        refine relV_vacuous hp hI hx (Nat.le_refl k) (by simp [ptrStable, hs]) ?_ hnoF _ _
        intro t v hv
        obtain ⟨_, r, g1, g2⟩ := hI.replDom t v hv
        exact ⟨r, g1, g2⟩
  | inp d =>
    simp only [stepI]
    by_cases hb : (st.input d).1 = true
    · simp only [hb, if_true, StepRel]
      apply hnext
      intro m' hm
      exact C01.input_rd st d m' (by simpa [memDefs] using hm)
    · simp only [hb, StepRel]
      exact ⟨StEq.refl _, rfl⟩
  | out d =>
    simp only [stepI]
    by_cases hb : (st.output d).1 = true
    · simp only [hb, if_true, StepRel]
      apply hnext
      intro m' _
      exact C01.output_rd st d m'
    · simp only [hb, StepRel]
      exact ⟨StEq.refl _, rfl⟩
  | brz cond off | brnz cond off => exact hbranch _ off rfl

theorem sim_fuse (hp : AllocPre s) (T : Trace s numRegs tr) {P Q : Program w} (lim : Bool) {k : Nat}
    (hk : k < s.insts.size) {op : BcGen.Op} {t : Nat} {s0 s1 : Loc w} {f : Nat} {m : Int}
    (hx : s.insts[k]? = some (mkArith op (.tmp t) s0 s1))
    (hxa : (tr k).st.insts[k]? = some (mkArith op (.tmp t) s0 s1)) (hkf : k < f)
    (hPf : s.insts[f]? = some (.copy (.mem m) (.tmp t)))
    (hf : (tr (k + 1)).st.insts[f]? = some (mkArith op (.mem m) s0 s1))
    (hnone : alGet (tr k).repl t = none) (hr : ReplSub (tr k) (tr (k + 1)) t (.mem m))
    {t1 t2 : Temps w} {b : Nat} {st : State w}
    (hV : RelV s k (tr k) ⟨k, t1, b, st⟩ ⟨k, t2, b, st⟩) :
    StepRel (Rel s tr) CfgEq CfgEq (stepI P lim ⟨k, t1, b, st⟩ (mkArith op (.tmp t) s0 s1))
      (stepI Q lim ⟨k, t2, b, st⟩ .noop) := by
  have hI := trace_inv hp T k (by omega)
  have hI' := trace_inv hp T (k + 1) (by omega)
  have K := (trace_sum hp T hk).kind
  have hz := hp.noZero k _ hx
  rw [noMemZero_mkArith] at hz
  rw [stepI_mkArith]
  simp only [arith, isDst, if_true, stepI, binopCfg_pure _ _ _ _ _ hz.2.1 hz.2.2, wrCfg, StepRel]
  refine ⟨rfl, hk, rfl, rfl, ?_⟩
  have hFnew : Fused s (k + 1) (tr (k + 1)) f op m t s0 s1 := ⟨hkf, hPf, hf⟩
  refine relV_succ hp hI hI' K hx hV rfl rfl (fun _ _ => rfl) ?_ (fun _ _ _ _ => rfl) ?_ ?_ ?_
  · intro t' hd
    have : t' ≠ t := by
      intro e; subst e; exact hd (by rw [defs_mkArith]; simp [locTmp])
    exact tget_tset_ne _ _ this
  · intro t' v hv hn hnp
    rcases hr.2 t' v hv with ⟨rfl, _⟩ | h
    · exact absurd ⟨f, op, m, s0, s1, hFnew⟩ hnp
    · rw [hn] at h; cases h
  · intro op' m' t' a' b' h
    exact absurd hxa (Fused.ne_tmpDst h)
  · intro op' t' a' b' h _
    rw [hx] at h
    obtain ⟨rfl, ht, rfl, rfl⟩ := mkArith_inj (Option.some.inj h)
    cases ht
    exact tget_tset_same _ _ _

theorem opnd_val {k : Nat} {a : ASt w} {c1 c2 : Cfg w} (hR : RelV s k a c1 c2) (hst : c2.st = c1.st)
    {l l' : Loc w} (hlive : ∀ u, l = .tmp u → LiveAt s k a u ∧ ¬ PendDst s k a u)
    (hrs : replSrc a.repl l = .ok l') : rdVal c2 l' = rdVal c1 l := by
  rcases replSrc_ok hrs with ⟨u, rfl, hu⟩ | ⟨hnt, rfl⟩
  · obtain ⟨h1, h2⟩ := hlive u rfl
    exact (hR.val u l' hu h1 h2).symm
  · apply rdVal_of_eq
    · intro i e; exact absurd e (hnt i)
    · intro o _; rw [hst]

theorem opnd_live_a (hp : AllocPre s) {k : Nat} {a : ASt w} (hI : PassInv s k a) {x : Instr w}
    (hx : s.insts[k]? = some x) (hxa : a.st.insts[k]? = some x) {u : Nat} (hu : u ∈ BcWf.uses x) :
    LiveAt s k a u ∧ ¬ PendDst s k a u := by
  obtain ⟨r, L, g1, g2, g3, g4⟩ := hp.uses k x u hx hu
  refine ⟨Or.inl ⟨r, L, g1, g2, g4⟩, ?_⟩
  rintro ⟨f, op, m, s0, s1, hf⟩
  obtain ⟨i, hik, hc, _⟩ := fused_cand hI hf
  obtain ⟨_, hreg, _⟩ := hp.fuse _ _ _ _ _ _ _ _ hc
  by_cases hkf : k = f
  · subst hkf
    have h1 := hf.2.1
    rw [hx] at h1; cases h1
    exact absurd hxa (Fused.ne_copy hf)
  · exact (hreg k x hik (Nat.lt_of_le_of_ne hf.1 hkf) hx).2 hu

theorem opnd_live_b (hp : AllocPre s) {k : Nat} {a : ASt w} (hI : PassInv s k a) {op : BcGen.Op} {m : Int}
    {t : Nat} {s0 s1 : Loc w} (hF : Fused s k a k op m t s0 s1) {u : Nat} (hu : s0 = .tmp u ∨ s1 = .tmp u) :
    LiveAt s k a u ∧ ¬ PendDst s k a u := by
  refine ⟨Or.inr ⟨k, op, m, t, s0, s1, hF, hu⟩, ?_⟩
  rintro ⟨f', op', m', a', b', hf'⟩
  obtain ⟨i, hik, hc, _⟩ := fused_cand hI hF
  obtain ⟨i', hik', hc', ru, gu, gc⟩ := fused_cand hI hf'
  obtain ⟨_, hreg, _⟩ := hp.fuse _ _ _ _ _ _ _ _ hc'
  have hmem : u ∈ BcWf.uses (mkArith op (.tmp t) s0 s1) := by
    rw [uses_mkArith]; rcases hu with rfl | rfl <;> simp [locTmp]
  obtain ⟨r, L, g1, g2, g3, g4⟩ := hp.uses i _ u hc.inst hmem
  rw [gu] at g1; cases g1
  have := hf'.1
  exact (hreg i _ (by omega) (by omega) hc.inst).2 hmem

def tmpOf : Loc w → Option Nat
  | .tmp t => some t
  | _ => none

/-- Both runs write the same value `v`: the input into `d`, the output into the location chosen in step 7. -/
theorem sim_dst (hp : AllocPre s) (T : Trace s numRegs tr) {P Q : Program w} (lim : Bool) {k : Nat}
    (hk : k < s.insts.size) {x new q : Instr w} (hx : s.insts[k]? = some x)
    (hxa : (tr k).st.insts[k]? = some x) {d : Loc w} {v : BitVec w} (hdz : locNoZero d = true)
    {t1 t2 : Temps w} {b : Nat} {st : State w}
    (hV : RelV s k (tr k) ⟨k, t1, b, st⟩ ⟨k, t2, b, st⟩)
    (hPs : stepI P lim ⟨k, t1, b, st⟩ x =
      if isDst d then .next { wrCfg ⟨k, t1, b, st⟩ v d with pc := k + 1 } else .bad ⟨k, t1, b, st⟩)
    (hQs : ∀ d', stepI Q lim ⟨k, t2, b, st⟩ (setDst new d') =
      if isDst d' then .next { wrCfg ⟨k, t2, b, st⟩ v d' with pc := k + 1 } else .bad ⟨k, t2, b, st⟩)
    (hnd : setDst new d = new)
    (hdn : dstTmp? new = tmpOf d)
    (hmd : memDefs x = locMem d) (hdf : BcWf.defs x = locTmp d)
    (hfwd : ∀ t src, new = .copy (.tmp t) src → v = rdVal (⟨k, t2, b, st⟩ : Cfg w) src)
    (harith : ∀ op t s0 s1, x = mkArith op (.tmp t) s0 s1 →
      d = .tmp t ∧ v = opFun op (rdVal (⟨k, t1, b, st⟩ : Cfg w) s0) (rdVal (⟨k, t1, b, st⟩ : Cfg w) s1))
    (hD : DstKind s k (tr k) (tr (k + 1)) new q) :
    StepRel (Rel s tr) CfgEq CfgEq (stepI P lim ⟨k, t1, b, st⟩ x) (stepI Q lim ⟨k, t2, b, st⟩ q) := by
  have hI := trace_inv hp T k (by omega)
  have hI' := trace_inv hp T (k + 1) (by omega)
  have K := (trace_sum hp T hk).kind
  have hexec : ∀ op m t s0 s1, ¬ Fused s k (tr k) k op m t s0 s1 := by
    intro op m t s0 s1 h
    have h1 := h.2.1
    rw [hx] at h1; cases h1
    exact absurd hxa (Fused.ne_copy h)
  rw [hPs]
  cases d with
  | memZero o => cases hdz
  | imm cc =>
    have hdn' : dstTmp? new = none := hdn
    unfold DstKind at hD
    rw [hdn'] at hD
    rcases hD with ⟨_, rfl, _⟩ | ⟨t, ht, _⟩
    · have := hQs (.imm cc)
      rw [hnd] at this
      rw [this]
      simp only [isDst, Bool.false_eq_true, if_false, StepRel]
      exact ⟨StEq.refl _, rfl⟩
    · cases ht
  | mem md =>
    have hdn' : dstTmp? new = none := hdn
    unfold DstKind at hD
    rw [hdn'] at hD
    rcases hD with ⟨_, rfl, hsub⟩ | ⟨t, ht, _⟩
    · have := hQs (.mem md)
      rw [hnd] at this
      rw [this]
      simp only [isDst, if_true, wrCfg, StepRel]
      refine ⟨rfl, hk, rfl, rfl, ?_⟩
      refine relV_succ hp hI hI' K hx hV rfl rfl ?_ (fun _ _ => rfl) (fun _ _ _ _ => rfl) ?_ ?_ ?_
      · intro m' hm'
        rw [hmd] at hm'
        have : m' ≠ md := by simpa [locMem] using hm'
        show (st.wr md v).rd m' = st.rd m'
        rw [C01.rd_wr]; simp [this]
      · intro t' v' hv hn _
        rw [hsub t' v' hv] at hn; cases hn
      · intro op m t s0 s1 h; exact (hexec op m t s0 s1 h).elim
      · intro op t s0 s1 h _
        rw [hx] at h
        have := (harith op t s0 s1 (Option.some.inj h)).1
        cases this
    · cases ht
  | tmp t =>
    have hdn' : dstTmp? new = some t := hdn
    unfold DstKind at hD
    rw [hdn'] at hD
    have hvnew : ∀ op t' s0 s1, s.insts[k]? = some (mkArith op (.tmp t') s0 s1) →
        t' = t ∧ v = opFun op (rdVal (⟨k, t1, b, st⟩ : Cfg w) s0) (rdVal (⟨k, t1, b, st⟩ : Cfg w) s1) := by
      intro op t' s0 s1 h
      rw [hx] at h
      obtain ⟨e, hv⟩ := harith op t' s0 s1 (Option.some.inj h)
      cases e
      exact ⟨rfl, hv⟩
    rcases hD with ⟨hcontra, _, _⟩ | ⟨t', ht', hnone, _, hD⟩
    · cases hcontra
    cases ht'
    have hne : ∀ t' v', alGet (tr k).repl t' = some v' → t' ≠ t := by
      intro t' v' hv e; subst e; rw [hnone] at hv; cases hv
    have hnd' : ∀ t', t' ∉ BcWf.defs x → t' ≠ t := by
      intro t' hd e; subst e; exact hd (by rw [hdf]; simp [locTmp])
    simp only [isDst, if_true, wrCfg]
    rcases hD with ⟨rfl, hsub⟩ | ⟨src, hnew, _, rfl, hrs⟩ | ⟨r, rfl, hrs⟩
    · -- the value is never used
      simp only [stepI, StepRel]
      refine ⟨rfl, hk, rfl, rfl, ?_⟩
      refine relV_succ hp hI hI' K hx hV rfl rfl (fun _ _ => rfl) ?_ (fun _ _ _ _ => rfl) ?_ ?_ ?_
      · intro t' hd; exact tget_tset_ne _ _ (hnd' t' hd)
      · intro t' v' hv hn _
        rw [hsub t' v' hv] at hn; cases hn
      · intro op m t s0 s1 h; exact (hexec op m t s0 s1 h).elim
      · intro op t' s0 s1 h _
        obtain ⟨rfl, hv⟩ := hvnew op t' s0 s1 h
        rw [← hv]; exact tget_tset_same _ _ _
    · -- forwarded
      simp only [stepI, StepRel]
      refine ⟨rfl, hk, rfl, rfl, ?_⟩
      refine relV_succ hp hI hI' K hx hV rfl rfl (fun _ _ => rfl) ?_ (fun _ _ _ _ => rfl) ?_ ?_ ?_
      · intro t' hd; exact tget_tset_ne _ _ (hnd' t' hd)
      · intro t' v' hv hn _
        rcases hrs.2 t' v' hv with ⟨rfl, rfl⟩ | h
        · show tget (tset t1 t' v) t' = _
          rw [tget_tset_same, hfwd t' v' hnew]
          apply rdVal_of_eq <;> (intros; rfl)
        · rw [hn] at h; cases h
      · intro op m t s0 s1 h; exact (hexec op m t s0 s1 h).elim
      · intro op t' s0 s1 h _
        obtain ⟨rfl, hv⟩ := hvnew op t' s0 s1 h
        rw [← hv]; exact tget_tset_same _ _ _
    · -- allocated
      rw [hQs (.tmp r)]
      simp only [isDst, if_true, wrCfg, StepRel]
      refine ⟨rfl, hk, rfl, rfl, ?_⟩
      refine relV_succ hp hI hI' K hx hV rfl rfl (fun _ _ => rfl) ?_ ?_ ?_ ?_ ?_
      · intro t' hd; exact tget_tset_ne _ _ (hnd' t' hd)
      · intro t' r' hv' hv
        have : r' ≠ r := by
          intro e; subst e
          have := hI'.regs.inj t' t r' hv' hrs.1
          exact hne t' _ hv this
        exact tget_tset_ne _ _ this
      · intro t' v' hv hn _
        rcases hrs.2 t' v' hv with ⟨rfl, rfl⟩ | h
        · show tget (tset t1 t' v) t' = tget (tset t2 r v) r
          rw [tget_tset_same, tget_tset_same]
        · rw [hn] at h; cases h
      · intro op m t s0 s1 h; exact (hexec op m t s0 s1 h).elim
      · intro op t' s0 s1 h _
        obtain ⟨rfl, hv⟩ := hvnew op t' s0 s1 h
        rw [← hv]; exact tget_tset_same _ _ _

theorem setDst_mkArith (op : BcGen.Op) (d d' a b : Loc w) : setDst (mkArith op d a b) d' = mkArith op d' a b := by
  cases op <;> rfl

theorem sim_rw (hp : AllocPre s) (T : Trace s numRegs tr) {P Q : Program w} (lim : Bool) {k : Nat}
    (hk : k < s.insts.size) {x cur new q : Instr w} (hx : s.insts[k]? = some x)
    (hxa : (tr k).st.insts[k]? = some cur) (hpl : plain cur = true)
    (hn : rwInst (tr k).repl cur = .ok new) (hD : DstKind s k (tr k) (tr (k + 1)) new q)
    {t1 t2 : Temps w} {b : Nat} {st : State w}
    (hV : RelV s k (tr k) ⟨k, t1, b, st⟩ ⟨k, t2, b, st⟩) :
    StepRel (Rel s tr) CfgEq CfgEq (stepI P lim ⟨k, t1, b, st⟩ x) (stepI Q lim ⟨k, t2, b, st⟩ q) := by
  have hI := trace_inv hp T k (by omega)
  have hI' := trace_inv hp T (k + 1) (by omega)
  have K := (trace_sum hp T hk).kind
  have hrz : ∀ t v, alGet (tr k).repl t = some v → locNoZero v = true := fun t v g => (hI.replDom t v g).1
  rcases hI.fut k (Nat.le_refl _) with hsame | ⟨op, m, t, s0, s1, hF⟩
  · -- the input instruction is still in place
    have hcx : x = cur := by
      rw [hx, hxa] at hsame
      exact (Option.some.inj hsame).symm
    subst hcx
    have hz := hp.noZero k _ hx
    have hlive : ∀ l : Loc w, (∀ u, l = Loc.tmp u → u ∈ BcWf.uses x) →
        ∀ u, l = Loc.tmp u → LiveAt s k (tr k) u ∧ ¬ PendDst s k (tr k) u :=
      fun l h u e => opnd_live_a hp hI hx hxa (h u e)
    rcases rwInst_cases hn with ⟨d, src, src', rfl, g, rfl⟩ | ⟨op, d, s0, s1, s0', s1', rfl, g0, g1, rfl⟩ |
        ⟨hc, _⟩ | ⟨rfl, rfl⟩
    · simp only [NoMemZero, noMemZero, Bool.and_eq_true] at hz
      have hv : rdVal (⟨k, t2, b, st⟩ : Cfg w) src' = rdVal (⟨k, t1, b, st⟩ : Cfg w) src :=
        opnd_val hV rfl (hlive src (by intro u e; subst e; simp [BcWf.uses, locTmp])) g
      have hz' := replSrc_noZero g hrz hz.2
      refine sim_dst hp T lim hk hx hxa hz.1 hV (d := d) (v := rdVal (⟨k, t1, b, st⟩ : Cfg w) src) ?_ ?_ rfl ?_ rfl rfl
        ?_ ?_ hD
      · simp only [stepI, copyCfg_pure _ _ _ hz.2]
      · intro d'
        simp only [setDst, stepI, copyCfg_pure _ _ _ hz', hv]
      · cases d <;> rfl
      · intro t src'' e
        cases e
        exact hv.symm
      · intro op t a b' e
        exact absurd e.symm (mkArith_ne_copy _ _ _ _ _ _)
    · rw [noMemZero_mkArith] at hz
      have hv0 : rdVal (⟨k, t2, b, st⟩ : Cfg w) s0' = rdVal (⟨k, t1, b, st⟩ : Cfg w) s0 :=
        opnd_val hV rfl (hlive s0 (by intro u e; subst e; rw [uses_mkArith]; simp [locTmp])) g0
      have hv1 : rdVal (⟨k, t2, b, st⟩ : Cfg w) s1' = rdVal (⟨k, t1, b, st⟩ : Cfg w) s1 :=
        opnd_val hV rfl (hlive s1 (by intro u e; subst e; rw [uses_mkArith]; simp [locTmp])) g1
      have hz0 := replSrc_noZero g0 hrz hz.2.1
      have hz1 := replSrc_noZero g1 hrz hz.2.2
      refine sim_dst hp T lim hk hx hxa hz.1 hV (d := d)
        (v := opFun op (rdVal (⟨k, t1, b, st⟩ : Cfg w) s0) (rdVal (⟨k, t1, b, st⟩ : Cfg w) s1)) ?_ ?_
        (setDst_mkArith _ _ _ _ _) ?_ ?_ (defs_mkArith _ _ _ _) ?_ ?_ hD
      · rw [stepI_mkArith]
        simp only [arith, binopCfg_pure _ _ _ _ _ hz.2.1 hz.2.2]
      · intro d'
        rw [setDst_mkArith, stepI_mkArith]
        simp only [arith, binopCfg_pure _ _ _ _ _ hz0 hz1, hv0, hv1]
      · rw [dstTmp?_mkArith]; cases d <;> rfl
      · cases op <;> rfl
      · intro t src'' e
        exact absurd e (mkArith_ne_copy _ _ _ _ _ _)
      · intro op' t a b' e
        obtain ⟨rfl, rfl, rfl, rfl⟩ := mkArith_inj e
        exact ⟨rfl, rfl⟩
    · rw [hc] at hpl; cases hpl
    · have hq : q = .noop := by
        rcases hD with ⟨_, e, _⟩ | ⟨t, ht, _⟩
        · exact e
        · cases ht
      subst hq
      simp only [stepI, StepRel]
      refine ⟨rfl, hk, rfl, rfl, ?_⟩
      have hsub : ∀ t' v, alGet (tr (k + 1)).repl t' = some v → alGet (tr k).repl t' = some v := by
        rcases hD with ⟨_, _, h⟩ | ⟨t, ht, _⟩
        · exact h
        · cases ht
      refine relV_succ hp hI hI' K hx hV rfl rfl (fun _ _ => rfl) (fun _ _ => rfl) (fun _ _ _ _ => rfl)
        ?_ ?_ ?_
      · intro t' v hv hn' _
        rw [hsub t' v hv] at hn'; cases hn'
      · intro op m t s0 s1 h
        have := h.2.2
        rw [hxa] at this
        cases op <;> cases this
      · intro op t s0 s1 h _
        rw [hx] at h
        cases op <;> cases h
  · -- a moved computation arrives at its destination
    have h1 := hF.2.1
    have h2 := hF.2.2
    rw [hx] at h1; cases h1
    rw [hxa] at h2; cases h2
    have hz := (hI.skel k _ hxa).1
    rw [noMemZero_mkArith] at hz
    rcases rwInst_cases hn with ⟨d, src, src', e, _⟩ | ⟨op', d, a', b', s0', s1', e, g0, g1, rfl⟩ |
        ⟨hc, _⟩ | ⟨e, _⟩
    · exact absurd e (mkArith_ne_copy _ _ _ _ _ _)
    · obtain ⟨rfl, rfl, rfl, rfl⟩ := mkArith_inj e
      have hq : q = mkArith op (.mem m) s0' s1' := by
        rcases hD with ⟨_, e, _⟩ | ⟨t', ht', _⟩
        · exact e
        · rw [dstTmp?_mkArith] at ht'; cases ht'
      have hsub : ∀ t' v, alGet (tr (k + 1)).repl t' = some v → alGet (tr k).repl t' = some v := by
        rcases hD with ⟨_, _, h⟩ | ⟨t', ht', _⟩
        · exact h
        · rw [dstTmp?_mkArith] at ht'; cases ht'
      subst hq
      have hv0 : rdVal (⟨k, t2, b, st⟩ : Cfg w) s0' = rdVal (⟨k, t1, b, st⟩ : Cfg w) s0 :=
        opnd_val hV rfl (fun u e => opnd_live_b hp hI hF (Or.inl e)) g0
      have hv1 : rdVal (⟨k, t2, b, st⟩ : Cfg w) s1' = rdVal (⟨k, t1, b, st⟩ : Cfg w) s1 :=
        opnd_val hV rfl (fun u e => opnd_live_b hp hI hF (Or.inr e)) g1
      have hz0 := replSrc_noZero g0 hrz hz.2.1
      have hz1 := replSrc_noZero g1 hrz hz.2.2
      have hpend : tget t1 t = opFun op (rdVal (⟨k, t1, b, st⟩ : Cfg w) s0) (rdVal (⟨k, t1, b, st⟩ : Cfg w) s1) :=
        hV.pend k op m t s0 s1 hF
      have hPs : stepI P lim ⟨k, t1, b, st⟩ (.copy (.mem m) (.tmp t)) =
          .next ⟨k + 1, t1, b, st.wr m (tget t1 t)⟩ := rfl
      have hQs : stepI Q lim ⟨k, t2, b, st⟩ (mkArith op (.mem m) s0' s1') =
          .next ⟨k + 1, t2, b, st.wr m (tget t1 t)⟩ := by
        rw [stepI_mkArith]
        simp only [arith, isDst, if_true, binopCfg_pure _ _ _ _ _ hz0 hz1, wrCfg, hv0, hv1, ← hpend]
      rw [hPs, hQs]
      simp only [StepRel]
      refine ⟨rfl, hk, rfl, rfl, ?_⟩
      refine relV_succ hp hI hI' K hx hV rfl rfl ?_ (fun _ _ => rfl) (fun _ _ _ _ => rfl) ?_ ?_ ?_
      · intro m' hm'
        have : m' ≠ m := by simpa [memDefs, locMem] using hm'
        show (st.wr m (tget t1 t)).rd m' = st.rd m'
        rw [C01.rd_wr]; simp [this]
      · intro t' v hv hn' _
        rw [hsub t' v hv] at hn'; cases hn'
      · intro op'' m'' t'' a'' b'' h
        have h1 := h.2.1
        rw [hx] at h1
        simp only [Option.some.injEq, Instr.copy.injEq, Loc.mem.injEq, Loc.tmp.injEq] at h1
        obtain ⟨rfl, rfl⟩ := h1
        show tget t1 t = (st.wr m (tget t1 t)).rd m
        rw [C01.rd_wr]; simp
      · intro op'' t'' a'' b'' h _
        rw [hx] at h
        exact absurd (Option.some.inj h) (Ne.symm (mkArith_ne_copy _ _ _ _ _ _))
    · rw [plain_mkArith] at hc; cases hc
    · cases op <;> cases e

end

end Alloc
end C02
end Hpbf
