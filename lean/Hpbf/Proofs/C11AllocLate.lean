/-
C11 for the output of `allocate_temps` (namespace `Hpbf.C02.Alloc`): the initialisation and liveness clauses
survive the late passes that keep the instruction positions (`parameter_reordering`, `zeroing_move_detection`).

`TmpSim x x'`: the instruction `x'` reads a subset of the temporaries `x` reads, writes the same temporaries and
has the same successors.  If every instruction of `p'` is `TmpSim` to the instruction of `p` at the same position
(and the `live` arrays agree), every solution accepted by `initOk` / `liveOk` for `p` is accepted for `p'`.
-/
import Hpbf.Proofs.C11AllocOk
import Hpbf.Proofs.C02Passes

namespace Hpbf
namespace C02

open Bc BcWf BcGen C11

variable {w : Nat}

namespace Alloc

structure TmpSim (x x' : Instr w) : Prop where
  uses : ∀ t, t ∈ BcWf.uses x' → t ∈ BcWf.uses x
  defs : ∀ t, t ∈ BcWf.defs x' ↔ t ∈ BcWf.defs x
  branch : isBranch x' = isBranch x
  succs : ∀ n i, BcWf.succs n i x' = BcWf.succs n i x

theorem TmpSim.refl (x : Instr w) : TmpSim x x := ⟨fun _ h => h, fun _ => Iff.rfl, rfl, fun _ _ => rfl⟩

theorem TmpSim.trans {x y z : Instr w} (h1 : TmpSim x y) (h2 : TmpSim y z) : TmpSim x z :=
  ⟨fun t h => h1.uses t (h2.uses t h), fun t => (h2.defs t).trans (h1.defs t), h2.branch.trans h1.branch,
    fun n i => (h2.succs n i).trans (h1.succs n i)⟩

/-- `PW TmpSim` (C02Shape) written out: position by position the same instruction up to `TmpSim`.  Its laws are those of
`PW` (`PW.refl`, `PW.trans`, `PW.mono`, `PW.all`), which apply to it as they stand. -/
def InstsSim (B B' : Array (Instr w)) : Prop :=
  B'.size = B.size ∧ ∀ (i : Nat) (x' : Instr w), B'[i]? = some x' → ∃ x, B[i]? = some x ∧ TmpSim x x'

theorem initFacts_of_sim {p p' : Program w} {I : Array (List Nat)} (h : InitFacts p I)
    (hs : InstsSim p.insts p'.insts) : InitFacts p' I := by
  refine ⟨h.size.trans hs.1.symm, h.entry, ?_, ?_⟩
  · intro i ins hi t ht
    obtain ⟨x, hx, sim⟩ := hs.2 i ins hi
    exact h.uses hx t (sim.uses t ht)
  · intro i ins hi
    obtain ⟨x, hx, sim⟩ := hs.2 i ins hi
    obtain ⟨ss, e, hf⟩ := h.flow hx
    refine ⟨ss, by rw [hs.1, sim.succs]; exact e, ?_⟩
    intro j hj t ht
    rcases hf j hj t ht with g | g
    · exact Or.inl g
    · exact Or.inr ((sim.defs t).2 g)

theorem liveFacts_of_sim {p p' : Program w} {numRegs : Nat} {O : Array (List Nat)} (h : LiveFacts p numRegs O)
    (hs : InstsSim p.insts p'.insts) (hl : p'.live = p.live) : LiveFacts p' numRegs O := by
  refine ⟨h.size.trans hs.1.symm, ?_, ?_⟩
  · intro i ins hi
    obtain ⟨x, hx, sim⟩ := hs.2 i ins hi
    obtain ⟨ss, e, hf⟩ := h.flow hx
    refine ⟨ss, by rw [hs.1, sim.succs]; exact e, ?_⟩
    intro j hj ij hij t ht
    obtain ⟨y, hy, simj⟩ := hs.2 j ij hij
    apply hf j hj y hy t
    rcases mem_liveIn.1 ht with g | ⟨g1, g2⟩
    · exact mem_liveIn.2 (Or.inl (simj.uses t g))
    · exact mem_liveIn.2 (Or.inr ⟨g1, fun hd => g2 ((simj.defs t).2 hd)⟩)
  · intro i ins hi hb t ht h1 h2
    obtain ⟨x, hx, sim⟩ := hs.2 i ins hi
    rw [hl]
    rcases h.declared hx (by rw [← sim.branch]; exact hb) t ht h1 h2 with g | g
    · exact Or.inl ((sim.defs t).2 g)
    · exact Or.inr g

theorem tempsBelow_of_sim {B B' : Array (Instr w)} {Tn : Nat} (h : TempsBelow B Tn) (hs : InstsSim B B') :
    TempsBelow B' Tn :=
  PW.all hs (fun _ _ sim hq t ht => hq t (sim.uses t ht)) h

theorem tmpSim_reorderInst (x : Instr w) : TmpSim x (reorderInst x) := by
  rcases reorderInst_cases x with e | ⟨op, d, a, b, v, rfl, e⟩ | ⟨d, a, b, rfl, e⟩ | ⟨d, a, b, rfl, e⟩ |
      ⟨d, a, c, rfl, e | e⟩ <;> rw [e]
  · exact TmpSim.refl x
  · cases op <;> exact ⟨(fun t h => by cases h), fun t => Iff.rfl, rfl, fun _ _ => rfl⟩
  · exact ⟨fun t h => List.mem_append.2 (List.mem_append.1 h).symm, fun t => Iff.rfl, rfl, fun _ _ => rfl⟩
  · exact ⟨fun t h => List.mem_append.2 (List.mem_append.1 h).symm, fun t => Iff.rfl, rfl, fun _ _ => rfl⟩
  · exact ⟨fun t h => h, fun t => Iff.rfl, rfl, fun _ _ => rfl⟩
  · exact ⟨fun t h => List.mem_append_left _ h, fun t => Iff.rfl, rfl, fun _ _ => rfl⟩

theorem instsSim_parameterReordering (s : St w) : InstsSim s.insts (parameterReordering s).insts := by
  refine ⟨by simp [parameterReordering], ?_⟩
  intro i x' hx'
  simp only [parameterReordering, Array.getElem?_map, Option.map_eq_some_iff] at hx'
  obtain ⟨a, ha, rfl⟩ := hx'
  exact ⟨a, ha, tmpSim_reorderInst a⟩

theorem tmpSim_zeroCopy (m : Int) (c : BitVec w) : TmpSim (.copy (.mem m) (.imm c) : Instr w) .noop :=
  ⟨(fun t h => by cases h), fun t => Iff.rfl, rfl, fun _ _ => rfl⟩

theorem tmpSim_copy (d : Loc w) {a a' : Loc w} (h : locTmp a' = locTmp a) : TmpSim (.copy d a) (.copy d a') :=
  ⟨fun t ht => by simp only [BcWf.uses] at ht ⊢; rw [← h]; exact ht, fun t => Iff.rfl, rfl, fun _ _ => rfl⟩

theorem tmpSim_mkArith (op : BcGen.Op) (d : Loc w) {a a' b b' : Loc w} (ha : locTmp a' = locTmp a)
    (hb : locTmp b' = locTmp b) : TmpSim (mkArith op d a b) (mkArith op d a' b') := by
  refine ⟨fun t ht => ?_, fun t => ?_, ?_, fun _ _ => ?_⟩
  · rw [uses_mkArith] at ht ⊢; rw [← ha, ← hb]; exact ht
  · rw [defs_mkArith, defs_mkArith]
  · cases op <;> rfl
  · cases op <;> rfl

theorem tmpSim_fuseAt {m : Int} {a a' : Instr w} (h : FuseAt m a a') : TmpSim a a' := by
  cases h with
  | copy d _ => exact tmpSim_copy d rfl
  | arithB op d a _ _ => exact tmpSim_mkArith op d rfl rfl
  | arithA op d b _ _ => exact tmpSim_mkArith op d rfl rfl

theorem tmpSim_zmdI {x y : Instr w} (h : ZmdI x y) : TmpSim x y := by
  induction h with
  | refl x => exact TmpSim.refl x
  | blank m => exact tmpSim_zeroCopy m _
  | fuse g _ ih => exact (tmpSim_fuseAt g).trans ih

theorem zeroingMoveDetection_sim (s : St w) (h : ZmdPre s) {s' : St w} (hz : zeroingMoveDetection s = .ok s') :
    InstsSim s.insts s'.insts ∧ s'.live = s.live := by
  refine ⟨(zeroingMoveDetection_shape h hz).mono (fun _ _ => tmpSim_zmdI), ?_⟩
  obtain ⟨s'', h1, h2, _⟩ := zeroingMoveDetection_preserves_of_pre s h
  rw [hz] at h1
  cases h1
  exact h2

end Alloc
end C02
end Hpbf
