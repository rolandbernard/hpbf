/-
The kinds of step of the IR interpreter, listed once: `Shape l c r` has one constructor for each way `Ir.step l c`
can come out, with the result as a constructor application, and `step_shape` says that `Ir.step` is of one of these
kinds.  A fact about one step is then proved by `cases` on the shape instead of walking through `Ir.step`.
-/
import Hpbf.Ir
import Hpbf.Proofs.Fuel
import Hpbf.Proofs.C01State

namespace Hpbf
namespace Ir

variable {w : Nat}

/-- What a block end does when it is not interrupted: a loop whose condition holds runs its body again under the same
continuation; otherwise the code after the block runs. -/
def Cont.after (k : Cont w) (ks : List (Cont w)) (st : State w) : List (Instr w) × List (Cont w) :=
  match k with
  | .loopEnd cond _ body rest => if st.rd cond ≠ 0#w then (body, k :: ks) else (rest, ks)
  | .ifEnd _ rest => (rest, ks)

/-- The code after the block. -/
def Cont.rest : Cont w → List (Instr w)
  | .loopEnd _ _ _ rest => rest
  | .ifEnd _ rest => rest

/-- The body a loop end may run again. -/
def Cont.body : Cont w → List (Instr w)
  | .loopEnd _ _ body _ => body
  | .ifEnd _ _ => []

theorem Cont.after_cases (k : Cont w) (ks : List (Cont w)) (st : State w) :
    k.after ks st = (k.body, k :: ks) ∨ k.after ks st = (k.rest, ks) := by
  cases k with
  | loopEnd cond shift body rest => simp only [Cont.after, Cont.body, Cont.rest]; split <;> simp
  | ifEnd shift rest => exact .inr rfl

def Instr.block? : Instr w → List (Instr w) → Option (Int × List (Instr w) × Cont w)
  | .loop cond shift body _, rest => some (cond, body, .loopEnd cond shift body rest)
  | .ifnz cond shift body, rest => some (cond, body, .ifEnd shift rest)
  | _, _ => none

def Instr.io? : Instr w → State w → Option (Bool × State w)
  | .output src, st => some (st.output src)
  | .input dst, st => some (st.input dst)
  | _, _ => none

/-- `blockEnd` is one case on purpose: it serves the users that need only the budget, the trace or a measure
(`Cont.after_cases`); who needs to know which way the block end went unfolds `Cont.after`. -/
inductive Shape (l : Bool) : Cfg w → StepRes w → Prop
  | halt (b st) : Shape l ⟨[], [], b, st⟩ (.halt ⟨[], [], b, st⟩)
  | interrupted (k ks st) : l = true → Shape l ⟨[], k :: ks, 0, st⟩ (.interrupted ⟨[], k :: ks, 0, unwind (st.mov k.shift) ks⟩)
  | blockEnd (k ks b st) : ¬ (l = true ∧ b = 0) →
      Shape l ⟨[], k :: ks, b, st⟩
        (.next ⟨(k.after ks (st.mov k.shift)).1, (k.after ks (st.mov k.shift)).2, if l then b - 1 else b, st.mov k.shift⟩)
  | ioOk (i rest ks b st s) : i.io? st = some (true, s) → Shape l ⟨i :: rest, ks, b, st⟩ (.next ⟨rest, ks, b, s⟩)
  | ioFail (i rest ks b st s) : i.io? st = some (false, s) → Shape l ⟨i :: rest, ks, b, st⟩ (.stop ⟨rest, ks, b, s⟩)
  | assign (calcs rest ks b st) : Shape l ⟨.calc calcs :: rest, ks, b, st⟩ (.next ⟨rest, ks, b, doCalc st calcs⟩)
  | enter (i rest ks b st cond body k) : i.block? rest = some (cond, body, k) → st.rd cond ≠ 0#w →
      Shape l ⟨i :: rest, ks, b, st⟩ (.next ⟨body, k :: ks, b, st⟩)
  | skip (i rest ks b st cond body k) : i.block? rest = some (cond, body, k) → st.rd cond = 0#w →
      Shape l ⟨i :: rest, ks, b, st⟩ (.next ⟨rest, ks, b, st⟩)

theorem step_shape (l : Bool) (c : Cfg w) : Shape l c (step l c) := by
  obtain ⟨cur, conts, budget, st⟩ := c
  cases cur with
  | nil =>
    cases conts with
    | nil => exact .halt _ _
    | cons k ks =>
      by_cases hb : l = true ∧ budget = 0
      · obtain ⟨rfl, rfl⟩ := hb
        cases k <;> exact .interrupted _ _ _ rfl
      · have := Shape.blockEnd k ks budget st hb
        cases k with
        | loopEnd cond shift body rest =>
          simp only [Cont.after, Cont.shift] at this
          by_cases hz : (st.mov shift).rd cond = 0#w
          · simpa only [step, Bool.and_eq_true, beq_iff_eq, if_neg hb, hz, ne_eq, not_true_eq_false, if_false] using this
          · simpa only [step, Bool.and_eq_true, beq_iff_eq, if_neg hb, hz, ne_eq, not_false_eq_true, if_true] using this
        | ifEnd shift rest =>
          simp only [step, Bool.and_eq_true, beq_iff_eq, if_neg hb]
          exact this
  | cons i rest =>
    cases i with
    | output src =>
      simp only [step]
      rcases h : st.output src with ⟨_ | _, s⟩
      · exact .ioFail (.output src) _ _ _ _ s (congrArg some h)
      · exact .ioOk (.output src) _ _ _ _ s (congrArg some h)
    | input dst =>
      simp only [step]
      rcases h : st.input dst with ⟨_ | _, s⟩
      · exact .ioFail (.input dst) _ _ _ _ s (congrArg some h)
      · exact .ioOk (.input dst) _ _ _ _ s (congrArg some h)
    | «calc» calcs => exact .assign _ _ _ _ _
    | loop cond shift body once =>
      simp only [step]
      split
      · exact .enter _ _ _ _ _ cond body _ rfl ‹_›
      · exact .skip _ _ _ _ _ cond body _ rfl (Decidable.not_not.mp ‹_›)
    | ifnz cond shift body =>
      simp only [step]
      split
      · exact .enter _ _ _ _ _ cond body _ rfl ‹_›
      · exact .skip _ _ _ _ _ cond body _ rfl (Decidable.not_not.mp ‹_›)

theorem io?_eq {i : Instr w} {st : State w} {r : Bool × State w} (h : i.io? st = some r) :
    (∃ src, i = .output src ∧ st.output src = r) ∨ (∃ dst, i = .input dst ∧ st.input dst = r) := by
  cases i <;> simp only [Instr.io?, Option.some.injEq, reduceCtorEq] at h
  · exact .inl ⟨_, rfl, h⟩
  · exact .inr ⟨_, rfl, h⟩

def StepRes.cfg : StepRes w → Cfg w
  | .next c => c
  | .halt c => c
  | .stop c => c
  | .interrupted c => c

theorem unwind_trace (ks : List (Cont w)) : ∀ st : State w, (unwind st ks).trace = st.trace := by
  induction ks with
  | nil => intro st; rfl
  | cons k ks ih =>
    intro st
    simp only [unwind, List.foldl] at ih ⊢
    rw [ih]; rfl

theorem io?_trace {i : Instr w} {st s : State w} {ok : Bool} (h : i.io? st = some (ok, s)) : st.trace <:+ s.trace := by
  rcases io?_eq h with ⟨src, _, e⟩ | ⟨dst, _, e⟩
  · have := C01.output_trace st src; rwa [e] at this
  · have := C01.input_trace st dst; rwa [e] at this

theorem step_trace (l : Bool) (c : Cfg w) :
    c.st.trace <:+ (step l c).cfg.st.trace := by
  have h := step_shape l c
  generalize step l c = r at h ⊢
  cases h with
  | interrupted k ks st _ => simp only [StepRes.cfg, unwind_trace]; exact List.suffix_refl _
  | ioOk i rest ks b st s h => exact io?_trace h
  | ioFail i rest ks b st s h => exact io?_trace h
  | assign calcs rest ks b st => exact (C01.doCalc_trace st calcs) ▸ List.suffix_refl _
  | _ => exact List.suffix_refl _

theorem fuelRun (l : Bool) :
    FuelRun (fun c c' : Cfg w => step l c = .next c') .outOfFuel (runCfg l) where
  zero _ := rfl
  next h f := by simp only [runCfg, h]
  final c := by
    cases h : step l c with
    | next c' => exact .inl ⟨c', rfl⟩
    | halt c' => exact .inr ⟨.done c', fun f => by simp only [runCfg, h], fun _ e => by cases e⟩
    | stop c' => exact .inr ⟨.stopped c', fun f => by simp only [runCfg, h], fun _ e => by cases e⟩
    | interrupted c' => exact .inr ⟨.interrupted c', fun f => by simp only [runCfg, h], fun _ e => by cases e⟩
  inj h := Outcome.outOfFuel.inj h

theorem runCfg_succ_next {l : Bool} {c c' : Cfg w} (h : step l c = .next c') (f : Nat) :
    runCfg l (f + 1) c = runCfg l f c' := (fuelRun l).next h f

theorem runCfg_succ_interrupted {l : Bool} {c c' : Cfg w} (h : step l c = .interrupted c') (f : Nat) :
    runCfg l (f + 1) c = .interrupted c' := by simp only [runCfg, h]

end Ir
end Hpbf
