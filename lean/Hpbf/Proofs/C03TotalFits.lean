/-
C03 / C13 (the JIT's instruction selector is total on generator output), operand ranges: every x86
instruction emitted by the four arithmetic / copy selectors (`emitCopy`, `emitAdd`, `emitSub`, `emitMul`)
passes the operand-range test `X86.fits`, provided the cell displacements `bytes * idx` and the stack
displacements `8 * t` of the bytecode operands are `i32`s (`LocFits`).

Why: every emitted instruction `Uses` the operands of the bytecode instruction (`copy_emits` … `mul_emits`), so
only its `r/m` operand is left to test: a tape operand is `[rbp + bytes * idx]` (`memParam`), a temporary a
register or `[rsp + 8 * t]` (`tmpParam`).
-/
import Hpbf.Proofs.C03Emits
import Hpbf.Proofs.C03Copy
import Hpbf.Proofs.C03Add
import Hpbf.Proofs.C03Sub
import Hpbf.Proofs.C03Mul
namespace Hpbf
namespace C03
open Asm JitGen

/-- The displacement of the cell at offset `idx` is an `i32`. -/
def DispOk (sz : Size) (idx : Int) : Prop :=
  -2147483648 ≤ (sz.bytes : Int) * idx ∧ (sz.bytes : Int) * idx < 2147483648

/-- The operand is encodable: cell displacement `bytes * idx` and stack displacement `8 * t` are `i32`s. -/
def LocFits {w : Nat} (sz : Size) : Bc.Loc w → Prop
  | .mem idx => DispOk sz idx
  | .memZero _ => True
  | .tmp t => 8 * t < 2147483648
  | .imm _ => True

theorem dispOk_range {sz : Size} {idx : Int} (h : DispOk sz idx) :
    -2147483648 ≤ idx ∧ idx < 2147483648 := by
  cases sz <;> simp only [DispOk, Size.bytes] at h <;> omega

theorem fits_memParam {sz : Size} {idx : Int} (h : DispOk sz idx) : (memParam sz idx).fits = true := by
  have hr := dispOk_range h
  simp only [memParam, i32_eq hr.1 hr.2, RegMem.fits, Bool.and_eq_true, decide_eq_true_eq, fitsS_32]
  exact ⟨by decide, h⟩

theorem fits_tmpParam {t : Nat} (h : 8 * t < 2147483648) : (tmpParam t).fits = true := by
  unfold tmpParam
  split
  · rfl
  · simp only [i32_nat (show t < 2147483648 by omega), RegMem.fits, Bool.and_eq_true, decide_eq_true_eq,
      fitsS_32]
    omega

@[simp] theorem fits_reg (r : Reg) : (RegMem.reg r).fits = true := rfl

theorem RmFrom.fits {w : Nat} {sz : Size} {L : List (Bc.Loc w)} (hL : ∀ l ∈ L, LocFits sz l) {rm : RegMem}
    (h : RmFrom sz L rm) : rm.fits = true := by
  cases h with
  | reg r => exact fits_reg r
  | mem h => exact fits_memParam (hL _ h)
  | tmp h => exact fits_tmpParam (hL _ h)

theorem Uses.fits {w : Nat} {sz : Size} {L : List (Bc.Loc w)} (hL : ∀ l ∈ L, LocFits sz l) {x : X86}
    (h : Uses sz L x) : x.fits = true :=
  h.imm fun rm hrm => (h.rm rm hrm).fits hL

theorem Emits.fits {w : Nat} {sz : Size} {L : List (Bc.Loc w)} {o : Option (List X86)} {xs : List X86}
    (h : Emits sz L o) (hL : ∀ l ∈ L, LocFits sz l) (e : o = some xs) : xs.all X86.fits = true :=
  List.all_eq_true.2 fun x hx => (h.uses e x hx).fits hL

theorem emitCopy_fits {w : Nat} (sz : Size) {d s : Bc.Loc w} {xs : List X86}
    (h : emitCopy sz d s = some xs) (hd : LocFits sz d) (hs : LocFits sz s) : xs.all X86.fits = true :=
  (copy_emits sz d s).fits (by simp [hd, hs]) h

theorem emitAdd_fits {w : Nat} (sz : Size) (live : Nat) {d a b : Bc.Loc w} {xs : List X86}
    (h : emitAdd sz live d a b = some xs) (hd : LocFits sz d) (ha : LocFits sz a) (hb : LocFits sz b) :
    xs.all X86.fits = true :=
  (add_emits sz live d a b).fits (by simp [hd, ha, hb]) h

theorem emitSub_fits {w : Nat} (sz : Size) (live : Nat) {d a b : Bc.Loc w} {xs : List X86}
    (h : emitSub sz live d a b = some xs) (hd : LocFits sz d) (ha : LocFits sz a) (hb : LocFits sz b) :
    xs.all X86.fits = true :=
  (sub_emits sz live d a b).fits (by simp [hd, ha, hb]) h

theorem emitMul_fits {w : Nat} (sz : Size) (live : Nat) {d a b : Bc.Loc w} {xs : List X86}
    (h : emitMul sz live d a b = some xs) (hd : LocFits sz d) (ha : LocFits sz a) (hb : LocFits sz b) :
    xs.all X86.fits = true :=
  (mul_emits sz live d a b).fits (by simp [hd, ha, hb]) h

end C03
end Hpbf

#print axioms Hpbf.C03.emitCopy_fits
#print axioms Hpbf.C03.emitAdd_fits
#print axioms Hpbf.C03.emitSub_fits
#print axioms Hpbf.C03.emitMul_fits
