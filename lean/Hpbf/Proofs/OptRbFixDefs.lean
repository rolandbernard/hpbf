/-
The fix for F13 (Hpbf/OptFix.lean): `TgtOkL l subs`: every node of a non-moving
loop in `subs` (paired with the blocks of `l` as in `ShapeL` / `AnalInL`) records as `clobbered` at least every cell
the loop's body may write (`OptFix.targetsL`), the loop and the blocks below it do not move the pointer, and the node
does not say `atMostOnce`.  This is a SYNTACTIC property; it implies `AnalInL G l subs` for every guard `G`, and it
survives dead store elimination.
-/
import Hpbf.OptFix
import Hpbf.Proofs.OptRbAnKit

namespace Hpbf
namespace OptProof
open Opt OptSem Ir

variable {w : Nat}

mutual
def TgtOkI : Instr w → OptAnalysis w → Prop
  | .loop _ sh body _, .mk L hs _ cl subs =>
      L.atMostOnce = false ∧
      (hs = false → sh = 0 ∧ C01Dse.noShiftL body = true ∧ ∀ x ∈ OptFix.targetsL body, cl.contains x = true) ∧
      TgtOkL body subs
  | .ifnz _ _ body, .mk _ _ _ _ subs => TgtOkL body subs
  | _, _ => True
def TgtOkL : List (Instr w) → List (OptAnalysis w) → Prop
  | [], _ => True
  | i :: rest, subs =>
    if C01Dse.isBlock i then
      (match subs with
       | a :: subs' => TgtOkI i a ∧ TgtOkL rest subs'
       | [] => True)
    else TgtOkL rest subs
end

theorem tgtOkL_nil (subs : List (OptAnalysis w)) : TgtOkL ([] : List (Instr w)) subs := by
  simp [TgtOkL]

theorem tgtOkL_cons_nonblock {i : Instr w} (hb : C01Dse.isBlock i = false) (rest : List (Instr w))
    (subs : List (OptAnalysis w)) : TgtOkL (i :: rest) subs ↔ TgtOkL rest subs := by
  cases subs <;> (rw [TgtOkL, hb]; simp)

theorem tgtOkL_cons_block {i : Instr w} (hb : C01Dse.isBlock i = true) (rest : List (Instr w))
    (A : OptAnalysis w) (subs : List (OptAnalysis w)) :
    TgtOkL (i :: rest) (A :: subs) ↔ TgtOkI i A ∧ TgtOkL rest subs := by
  rw [TgtOkL, hb]; simp

theorem tgtOkI_loop {c sh : Int} {body : List (Instr w)} {o : Bool} {A : OptAnalysis w}
    (h : TgtOkI (.loop c sh body o) A) :
    A.loopAnal.atMostOnce = false ∧
      (A.hasShift = false → sh = 0 ∧ C01Dse.noShiftL body = true ∧
        ∀ x ∈ OptFix.targetsL body, A.clobbered.contains x = true) ∧
      TgtOkL body A.subBlocks := by
  cases A with
  | mk L hs r cl subs => rw [TgtOkI] at h; exact h

theorem tgtOkI_ifnz {c sh : Int} {body : List (Instr w)} {A : OptAnalysis w}
    (h : TgtOkI (.ifnz c sh body) A) : TgtOkL body A.subBlocks := by
  cases A with
  | mk L hs r cl subs => rw [TgtOkI] at h; exact h

theorem tgtOkL_cons_block_nil {i : Instr w} (hb : C01Dse.isBlock i = true) (rest : List (Instr w)) :
    TgtOkL (i :: rest) ([] : List (OptAnalysis w)) := by
  rw [TgtOkL, hb]; simp

theorem tgtOkI_nonblock {i : Instr w} (hb : C01Dse.isBlock i = false) (a : OptAnalysis w) : TgtOkI i a := by
  cases i with
  | output _ | input _ | «calc» _ => simp [TgtOkI]
  | loop _ _ _ _ | ifnz _ _ _ => cases hb

end OptProof
end Hpbf
