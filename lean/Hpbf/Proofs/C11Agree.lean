/-
C11, noninterference of one step.  Two configurations that agree on pc and budget, whose states agree in a way `E`
under which the cells in `X` read the same, and whose temporaries agree in a way `T` on the set `A`, step to results
with the same constructor that agree again, provided the instruction reads only cells in `X` and temporaries in `A`
(`stepI_agree`).  `E` and `T` are parameters because the two fixed relations need different ones: `Sim A` wants EQUAL
states and temporaries equal on `A` (tapes and temporaries are association lists, so equality does not follow from
agreement of all reads), `TapeSim X` wants equal temporaries and tapes equal on `X`; dead store elimination (C02DseSim)
wants neither equal.  What the proof needs of `E` and `T` is that agreement is kept when both sides do the same write.
`Sim` and `TapeSim` are instances of `Agree` up to the order of the fields; they stay structures of their own because
`Props/C11` states its theorems with them (`stepI_sim`, `stepI_tape` repack the fields).
-/
import Hpbf.Proofs.C11Step
import Hpbf.Proofs.StateAgree

namespace Hpbf
namespace C11

open Bc BcWf

variable {w : Nat}

structure TapeSim (X : Int → Prop) (c1 c2 : Cfg w) : Prop where
  pc : c1.pc = c2.pc
  temps : c1.temps = c2.temps
  budget : c1.budget = c2.budget
  st : StSim X c1.st c2.st

/-- Tape offsets an instruction READS.  The destination `d` of an arithmetic form is read only when it is the first
source (`sameDst d a`), so it has no entry of its own. -/
def readMems : Instr w → List Int
  | .add _ a b => locMem a ++ locMem b
  | .sub _ a b => locMem a ++ locMem b
  | .mul _ a b => locMem a ++ locMem b
  | .copy _ s => locMem s
  | .out m => [m]
  | .brz c _ => [c]
  | .brnz c _ => [c]
  | .scan c _ => [c]
  | _ => []

theorem readMems_sub (ins : Instr w) : ∀ o ∈ readMems ins, o ∈ memOps ins := by
  intro o ho
  cases ins with
  | add d a b | sub d a b | mul d a b =>
    show o ∈ locMem d ++ locMem a ++ locMem b
    rw [List.append_assoc]
    exact List.mem_append_right _ ho
  | copy d s => exact List.mem_append_right _ ho
  | out m | brz c off | brnz c off | scan c sh => exact ho
  | noop | mov sh | inp d => exact nomatch ho

/-- A way for two states to agree that is kept by what a step does to both, and under which the cells in `X` read
the same.  `Eq` is one (for any `X`), `StSim X` another. -/
structure StAgree (E : State w → State w → Prop) (X : Int → Prop) : Prop where
  ptr : ∀ {s1 s2}, E s1 s2 → s1.ptr = s2.ptr
  env : ∀ {s1 s2}, E s1 s2 → s1.env = s2.env
  trace : ∀ {s1 s2}, E s1 s2 → s1.trace = s2.trace
  rd : ∀ {s1 s2 o}, E s1 s2 → X (s1.ptr + o) → s1.rd o = s2.rd o
  wr : ∀ {s1 s2} o v, E s1 s2 → E (s1.wr o v) (s2.wr o v)
  mov : ∀ {s1 s2} d, E s1 s2 → E (s1.mov d) (s2.mov d)
  ev : ∀ {s1 s2} e t, E s1 s2 → E { s1 with env := e, trace := t } { s2 with env := e, trace := t }

/-- The same for temporaries; a write makes the written temporary agree. -/
structure TmAgree (T : (Nat → Prop) → Temps w → Temps w → Prop) : Prop where
  get : ∀ {A t1 t2 i}, T A t1 t2 → A i → tget t1 i = tget t2 i
  set : ∀ {A t1 t2} i v, T A t1 t2 → T (fun j => A j ∨ j = i) (tset t1 i v) (tset t2 i v)
  mono : ∀ {A B : Nat → Prop} {t1 t2}, (∀ i, B i → A i) → T A t1 t2 → T B t1 t2

theorem stAgree_eq (X : Int → Prop) : StAgree (w := w) Eq X :=
  ⟨fun h => h ▸ rfl, fun h => h ▸ rfl, fun h => h ▸ rfl, fun h _ => h ▸ rfl, fun _ _ h => h ▸ rfl, fun _ h => h ▸ rfl,
    fun _ _ h => h ▸ rfl⟩

theorem stAgree_sim (X : Int → Prop) : StAgree (w := w) (StSim X) X :=
  ⟨(·.ptr), (·.env), (·.trace), fun h hx => h.rd hx, fun o v h => (h.wr o v).mono fun _ => Or.inl, fun d h => h.mov d,
    fun _ _ h => ⟨h.ptr, rfl, rfl, h.tape⟩⟩

theorem tmAgree_eq : TmAgree (w := w) (fun _ => Eq) :=
  ⟨fun h _ => h ▸ rfl, fun _ _ h => h ▸ rfl, fun _ h => h⟩

def OnTmps (A : Nat → Prop) (t1 t2 : Temps w) : Prop := ∀ i, A i → tget t1 i = tget t2 i

theorem tmAgree_on : TmAgree (w := w) OnTmps :=
  ⟨fun h hi => h _ hi, fun i v h j hj => by
      simp only [tget_tset]
      split
      · rfl
      · exact h j (hj.resolve_right ‹_›),
    fun hab h i hi => h i (hab i hi)⟩

structure Agree (E : State w → State w → Prop) (T : (Nat → Prop) → Temps w → Temps w → Prop) (A : Nat → Prop)
    (c1 c2 : Cfg w) : Prop where
  pc : c1.pc = c2.pc
  budget : c1.budget = c2.budget
  st : E c1.st c2.st
  temps : T A c1.temps c2.temps

variable {E : State w → State w → Prop} {T : (Nat → Prop) → Temps w → Temps w → Prop} {X : Int → Prop}
  {A : Nat → Prop}

theorem Agree.mono (hT : TmAgree T) {B : Nat → Prop} {c1 c2 : Cfg w} (h : Agree E T A c1 c2) (hab : ∀ t, B t → A t) :
    Agree E T B c1 c2 := ⟨h.pc, h.budget, h.st, hT.mono hab h.temps⟩

theorem Agree.setPc {c1 c2 : Cfg w} (h : Agree E T A c1 c2) (k : Nat) :
    Agree E T A { c1 with pc := k } { c2 with pc := k } := ⟨rfl, h.budget, h.st, h.temps⟩

theorem rdSt_agree (hE : StAgree E X) {s1 s2 : State w} (h : E s1 s2) (l : Loc w) : E (rdSt s1 l) (rdSt s2 l) := by
  cases l <;> simp only [rdSt]
  all_goals first | exact h | exact hE.wr _ _ h

theorem rdVal_agree (hE : StAgree E X) (hT : TmAgree T) {c1 c2 : Cfg w} (h : Agree E T A c1 c2) (l : Loc w)
    (hx : ∀ o ∈ locMem l, X (c1.st.ptr + o)) (ht : ∀ t ∈ locTmp l, A t) : rdVal c1 l = rdVal c2 l := by
  cases l with
  | mem o => exact hE.rd h.st (hx o (by simp [locMem]))
  | memZero o => exact hE.rd h.st (hx o (by simp [locMem]))
  | tmp t => exact hT.get h.temps (ht t (by simp [locTmp]))
  | imm v => rfl

theorem wrCfg_agree (hE : StAgree E X) (hT : TmAgree T) {c1 c2 : Cfg w} (h : Agree E T A c1 c2) (v : BitVec w)
    (l : Loc w) : Agree E T (fun t => A t ∨ t ∈ locTmp l) (wrCfg c1 v l) (wrCfg c2 v l) := by
  have hm : Agree E T (fun t => A t ∨ t ∈ ([] : List Nat)) c1 c2 := h.mono hT (fun t ht => by simpa using ht)
  cases l with
  | mem off => exact ⟨hm.pc, hm.budget, hE.wr _ _ hm.st, hm.temps⟩
  | memZero off | imm k => exact hm
  | tmp i =>
    refine ⟨h.pc, h.budget, h.st, hT.mono (fun t ht => ?_) (hT.set i v h.temps)⟩
    simpa [locTmp] using ht

/-- The source operands read the same; what the destination reads in the two-operand form is the first source. -/
theorem binopCfg_agree (hE : StAgree E X) (hT : TmAgree T) {c1 c2 : Cfg w} (h : Agree E T A c1 c2)
    (f : BitVec w → BitVec w → BitVec w) (d a b : Loc w)
    (hx : ∀ o ∈ locMem a ++ locMem b, X (c1.st.ptr + o)) (hu : ∀ t ∈ locTmp a ++ locTmp b, A t) :
    Agree E T (fun t => A t ∨ t ∈ locTmp d) (binopCfg f c1 d a b) (binopCfg f c2 d a b) := by
  have hxa : ∀ o ∈ locMem a, X (c1.st.ptr + o) := fun o ho => hx o (by simp [ho])
  have hxb : ∀ o ∈ locMem b, X (c1.st.ptr + o) := fun o ho => hx o (by simp [ho])
  have hta : ∀ t ∈ locTmp a, A t := fun t ht => hu t (by simp [ht])
  have htb : ∀ t ∈ locTmp b, A t := fun t ht => hu t (by simp [ht])
  -- after the first read the states still agree, at the same pointer
  have after : ∀ l : Loc w, Agree E T A { c1 with st := rdSt c1.st l } { c2 with st := rdSt c2.st l } :=
    fun l => ⟨h.pc, h.budget, rdSt_agree hE h.st l, h.temps⟩
  unfold binopCfg
  split
  · rename_i hsd
    have := sameDst_eq hsd
    subst this
    rw [rdVal_agree hE hT h b hxb htb,
      rdVal_agree hE hT (after b) d (by simpa only [rdSt_ptr] using hxa) hta]
    exact wrCfg_agree hE hT (c1 := { c1 with st := rdSt (rdSt c1.st b) d }) (c2 := { c2 with st := rdSt (rdSt c2.st b) d })
      ⟨h.pc, h.budget, rdSt_agree hE (rdSt_agree hE h.st b) d, h.temps⟩ _ d
  · rw [rdVal_agree hE hT h a hxa hta,
      rdVal_agree hE hT (after a) b (by simpa only [rdSt_ptr] using hxb) htb]
    exact wrCfg_agree hE hT (c1 := { c1 with st := rdSt (rdSt c1.st a) b }) (c2 := { c2 with st := rdSt (rdSt c2.st a) b })
      ⟨h.pc, h.budget, rdSt_agree hE (rdSt_agree hE h.st a) b, h.temps⟩ _ d

theorem copyCfg_agree (hE : StAgree E X) (hT : TmAgree T) {c1 c2 : Cfg w} (h : Agree E T A c1 c2) (d s : Loc w)
    (hx : ∀ o ∈ locMem s, X (c1.st.ptr + o)) (hu : ∀ t ∈ locTmp s, A t) :
    Agree E T (fun t => A t ∨ t ∈ locTmp d) (copyCfg c1 d s) (copyCfg c2 d s) := by
  unfold copyCfg
  rw [rdVal_agree hE hT h s hx hu]
  exact wrCfg_agree hE hT (c1 := { c1 with st := rdSt c1.st s }) (c2 := { c2 with st := rdSt c2.st s })
    ⟨h.pc, h.budget, rdSt_agree hE h.st s, h.temps⟩ _ d

theorem branch_agree {c1 c2 : Cfg w} (h : Agree E T A c1 c2) (p : Program w) (limited taken : Bool) (off : Int) :
    (branch p limited c1 taken off).tag = (branch p limited c2 taken off).tag ∧
    Agree E T A (branch p limited c1 taken off).cfg (branch p limited c2 taken off).cfg := by
  obtain ⟨pc1, t1, b1, s1⟩ := c1
  obtain ⟨pc2, t2, b2, s2⟩ := c2
  obtain ⟨h1, h2, h3, h4⟩ := h
  simp only at h1 h2 h3 h4
  subst h1 h2
  obtain ⟨_, _, _, hb⟩ := branch_shape p limited pc1 b1 taken off
  rw [(hb t1 s1).1, (hb t2 s2).1, (hb t1 s1).2, (hb t2 s2).2]
  exact ⟨rfl, rfl, rfl, h3, h4⟩

theorem arith_agree (hE : StAgree E X) (hT : TmAgree T) {c1 c2 : Cfg w} (h : Agree E T A c1 c2)
    (f : BitVec w → BitVec w → BitVec w) (d a b : Loc w)
    (hx : ∀ o ∈ locMem a ++ locMem b, X (c1.st.ptr + o)) (hu : ∀ t ∈ locTmp a ++ locTmp b, A t) :
    (arith c1 f d a b).tag = (arith c2 f d a b).tag ∧
    Agree E T (fun t => A t ∨ t ∈ locTmp d) (arith c1 f d a b).cfg (arith c2 f d a b).cfg := by
  rw [arith, arith, h.pc]
  split
  · exact ⟨rfl, (binopCfg_agree hE hT h f d a b hx hu).setPc _⟩
  · refine ⟨rfl, h.mono hT fun t ht => ht.elim id fun hd => ?_⟩
    cases d with
    | mem _ | tmp _ => exact absurd rfl ‹_›
    | memZero _ | imm _ => exact nomatch hd

theorem input_agree (hE : StAgree E X) {s1 s2 : State w} (h : E s1 s2) (off : Int) :
    (s1.input off).1 = (s2.input off).1 ∧ E (s1.input off).2 (s2.input off).2 := by
  unfold State.input
  rw [← hE.env h, ← hE.trace h]
  split
  · exact ⟨rfl, hE.ev _ _ (hE.wr _ _ h)⟩
  · exact ⟨rfl, hE.ev _ _ h⟩
  · exact ⟨rfl, h⟩

theorem output_agree (hE : StAgree E X) {s1 s2 : State w} (h : E s1 s2) {off : Int} (hx : X (s1.ptr + off)) :
    (s1.output off).1 = (s2.output off).1 ∧ E (s1.output off).2 (s2.output off).2 := by
  unfold State.output
  rw [← hE.env h, ← hE.trace h, ← hE.rd h hx]
  simp only
  split
  · split
    · exact ⟨rfl, hE.ev _ _ h⟩
    · exact ⟨rfl, hE.ev _ _ h⟩
  · exact ⟨rfl, h⟩

theorem stepI_agree (hE : StAgree E X) (hT : TmAgree T) {c1 c2 : Cfg w} (h : Agree E T A c1 c2) (p : Program w)
    (limited : Bool) (ins : Instr w) (hx : ∀ o ∈ readMems ins, X (c1.st.ptr + o)) (hu : ∀ t ∈ uses ins, A t) :
    (stepI p limited c1 ins).tag = (stepI p limited c2 ins).tag ∧
    Agree E T (fun t => A t ∨ t ∈ defs ins) (stepI p limited c1 ins).cfg (stepI p limited c2 ins).cfg := by
  have hw : ∀ {x y : Cfg w}, Agree E T A x y → Agree E T (fun t => A t ∨ t ∈ ([] : List Nat)) x y :=
    fun hxy => hxy.mono hT (fun t ht => by simpa using ht)
  -- a destination that cannot be written is no temporary
  have hbad : ∀ d : Loc w, ¬ isDst d = true → ∀ t, A t ∨ t ∈ locTmp d → A t := by
    intro d hd t ht
    cases d with
    | mem _ | tmp _ => exact absurd rfl hd
    | memZero _ | imm _ => exact ht.elim id (fun h => nomatch h)
  have H := h
  obtain ⟨pc1, t1, b1, s1⟩ := c1
  obtain ⟨pc2, t2, b2, s2⟩ := c2
  obtain ⟨h1, h2, h3, h4⟩ := h
  simp only at h1 h2 h3 h4 hx
  subst h1 h2
  cases ins with
  | noop => exact ⟨rfl, hw ⟨rfl, rfl, h3, h4⟩⟩
  | mov sh => exact ⟨rfl, hw ⟨rfl, rfl, hE.mov sh h3, h4⟩⟩
  | scan cond sh =>
    have hc : s1.rd cond = s2.rd cond := hE.rd h3 (hx cond List.mem_cons_self)
    simp only [stepI, ← hc]
    by_cases h0 : s1.rd cond = 0#w
    · rw [if_pos h0, if_pos h0]
      exact ⟨rfl, hw ⟨rfl, rfl, h3, h4⟩⟩
    · rw [if_neg h0, if_neg h0]
      by_cases hs : sh = 0
      · rw [if_pos hs, if_pos hs]
        cases limited <;> exact ⟨rfl, hw ⟨rfl, rfl, h3, h4⟩⟩
      · rw [if_neg hs, if_neg hs]
        exact ⟨rfl, hw ⟨rfl, rfl, hE.mov sh h3, h4⟩⟩
  | inp dst =>
    obtain ⟨e1, e2⟩ := input_agree hE h3 dst
    simp only [stepI, ← e1]
    split <;> exact ⟨rfl, hw ⟨rfl, rfl, e2, h4⟩⟩
  | out src =>
    obtain ⟨e1, e2⟩ := output_agree hE h3 (hx src List.mem_cons_self)
    simp only [stepI, ← e1]
    split <;> exact ⟨rfl, hw ⟨rfl, rfl, e2, h4⟩⟩
  | brz cond off | brnz cond off =>
    have hc : s1.rd cond = s2.rd cond := hE.rd h3 (hx cond List.mem_cons_self)
    simp only [stepI, ← hc]
    have hb := branch_agree H p limited
    exact ⟨(hb _ off).1, hw (hb _ off).2⟩
  | add d a b | sub d a b | mul d a b =>
    exact arith_agree hE hT H _ d a b hx hu
  | copy d s =>
    simp only [stepI]
    split
    · exact ⟨rfl, (copyCfg_agree hE hT H d s hx hu).setPc _⟩
    · exact ⟨rfl, H.mono hT (hbad d ‹_›)⟩

theorem stepI_sim {c1 c2 : Cfg w} (h : Sim A c1 c2) (p : Program w) (limited : Bool)
    (ins : Instr w) (hu : ∀ t ∈ uses ins, A t) :
    (stepI p limited c1 ins).tag = (stepI p limited c2 ins).tag ∧
    Sim (fun t => A t ∨ t ∈ defs ins) (stepI p limited c1 ins).cfg (stepI p limited c2 ins).cfg := by
  obtain ⟨e, g⟩ := stepI_agree (stAgree_eq fun _ => True) tmAgree_on (A := A) ⟨h.pc, h.budget, h.st, h.temps⟩ p limited ins
    (fun _ _ => trivial) hu
  exact ⟨e, g.pc, g.st, g.budget, g.temps⟩

theorem stepI_tape {c1 c2 : Cfg w} (h : TapeSim X c1 c2) (p : Program w)
    (limited : Bool) (ins : Instr w) (hx : ∀ o ∈ memOps ins, X (c1.st.ptr + o)) :
    (stepI p limited c1 ins).tag = (stepI p limited c2 ins).tag ∧
    TapeSim X (stepI p limited c1 ins).cfg (stepI p limited c2 ins).cfg := by
  obtain ⟨e, g⟩ := stepI_agree (stAgree_sim X) tmAgree_eq (A := fun _ => True) ⟨h.pc, h.budget, h.st, h.temps⟩ p limited ins
    (fun o ho => hx o (readMems_sub ins o ho)) (fun _ _ => trivial)
  exact ⟨e, g.pc, g.temps, g.budget, g.st⟩

theorem step_tape {p : Program w} {limited : Bool} {c1 c2 : Cfg w} {ins : Instr w}
    (hi : p.insts[c1.pc]? = some ins) (h : TapeSim X c1 c2)
    (hx : ∀ o ∈ memOps ins, X (c1.st.ptr + o)) :
    (Bc.step p limited c1).tag = (Bc.step p limited c2).tag ∧
    TapeSim X (Bc.step p limited c1).cfg (Bc.step p limited c2).cfg := by
  have hi2 : p.insts[c2.pc]? = some ins := by rw [← h.pc]; exact hi
  rw [step_eq hi, step_eq hi2]
  exact stepI_tape h p limited ins hx

end C11
end Hpbf
