/-
READ-BEFORE-WRITE footprint of `loopOrIf` (both modes) and `inline` (both modes).
-/
import Hpbf.Proofs.OptRbRd3
import Hpbf.Proofs.OptRbFoot7
import Hpbf.Proofs.OptRbShape3

namespace Hpbf
namespace OptProof
open Opt OptSem Ir

variable {w : Nat}

theorem rdOkL_nonblocks_left {pre l : List (Instr w)} {subs : List (OptAnalysis w)}
    (hpre : ∀ i ∈ pre, C01Dse.isBlock i = false) (h : RdOkL l subs) : RdOkL (pre ++ l) subs := by
  have := rdOkL_append (rdOkL_nonblocks hpre) h
  simpa using this

theorem rdOkL_nonblocks_right {post l : List (Instr w)} {subs : List (OptAnalysis w)}
    (h : RdOkL l subs) (hpost : ∀ i ∈ post, C01Dse.isBlock i = false) : RdOkL (l ++ post) subs := by
  have := rdOkL_append h (rdOkL_nonblocks hpost)
  simpa using this

/-- For an `if` the analysis must not claim `atLeastOnce` (an `ifnz` carries no `once` flag). -/
theorem loopOrIf_rstep {s : Rebuild w} {ps : List (Rebuild w)} {sub : Rebuild w} {cond : Int}
    {isLoop : Bool} {L : OptLoop w} {C : List Int} {os os' : Orders} {s' : Rebuild w}
    (hr : (loopOrIf s ps sub cond isLoop L C).run os = .ok (s', os')) (hwf : Wf s) (hwsub : Wf sub)
    (hch : RdSt sub) (hflag : isLoop = false → L.atLeastOnce = false) : RStep s s' := by
  have hr0 := hr
  obtain ⟨sub1, os1, r, h1, h2, rfl⟩ := loopOrIf_run hr
  have hc1 : RdSt sub1 ∧ Wf sub1 ∧ SameHdr sub sub1 := by
    split at h1
    · obtain ⟨c, r, f⟩ := emitAll_foot [] _ hwsub h1
      exact ⟨(EmitFoot.rstep r f).rdSt hch, r.wf, r.hdr⟩
    · rw [run_pure] at h1
      cases h1
      exact ⟨hch, hwsub, SameHdr.refl _⟩
  obtain ⟨hch1, hwf1, hhdr1⟩ := hc1
  obtain ⟨n, ei, ea, es, _⟩ := loopPrep_nstep h2 hwf
  obtain ⟨pre, epre, hpre⟩ := n.insts
  obtain ⟨f1, f2, _⟩ := loopTail_shapeFields r.1 r.2.1 cond isLoop L
    (sub1.subShift || sub1.shift != s.shift) r.2.2
  have hI : RdOkI (if isLoop then Ir.Instr.loop cond (r.2.1.shift - r.1.shift) r.2.1.insts L.atLeastOnce
      else Ir.Instr.ifnz cond (r.2.1.shift - r.1.shift) r.2.1.insts)
      (OptAnalysis.mk L (sub1.subShift || sub1.shift != s.shift) r.2.1.reads r.2.2 r.2.1.subAnal) := by
    have hbody : RdOkL r.2.1.insts r.2.1.subAnal := by rw [ei, ea]; exact hch1.ok
    cases isLoop with
    | false =>
      simp only [Bool.false_eq_true, if_false]
      rw [RdOkI]
      exact hbody
    | true =>
      simp only [if_true]
      rw [RdOkI]
      refine ⟨?_, hbody⟩
      intro hhs σ _ hnb v hv
      have hss1 : sub1.subShift = false := by
        simp only [Bool.or_eq_false_iff] at hhs; exact hhs.1
      obtain ⟨_, hsubR, _⟩ := loopPrep_stay_acc hwf hwf1 hhs h2
      rw [ei] at hnb ⊢
      refine hch1.rd hss1 hnb ?_
      intro hm
      apply hv
      rw [hsubR]
      show v ∈ sIns sub1.reads cond
      exact mem_sIns.2 (Or.inr hm)
  refine ⟨pre ++ [if isLoop then Ir.Instr.loop cond (r.2.1.shift - r.1.shift) r.2.1.insts L.atLeastOnce
      else Ir.Instr.ifnz cond (r.2.1.shift - r.1.shift) r.2.1.insts],
    [OptAnalysis.mk L (sub1.subShift || sub1.shift != s.shift) r.2.1.reads r.2.2 r.2.1.subAnal],
    by rw [f1, epre, List.append_assoc], by rw [f2, n.subAnal],
    rdOkL_nonblocks_left hpre (rdOkL_single hI), ?_⟩
  cases hns : (sub1.subShift || sub1.shift != s.shift) with
  | true =>
    have hns0 : (sub.subShift || sub.shift != s.shift) = true := by
      rw [← hhdr1.subShift, ← hhdr1.shift]; exact hns
    obtain ⟨g1, g2⟩ := loopOrIf_shift_foot hr0 hwf hwsub hns0
    rw [hns] at g1 g2
    exact RdAll.void g1 g2 _
  | false =>
    have hss1 : sub1.subShift = false := by
      simp only [Bool.or_eq_false_iff] at hns; exact hns.1
    have hse1 : sub1.shift = s.shift := by
      simp only [Bool.or_eq_false_iff, bne_eq_false_iff_eq] at hns; exact hns.2
    obtain ⟨comps, hsubR, acc, p6, hrd, _, _⟩ := loopPrep_stay_acc hwf hwf1 hns h2
    have e := acc.insts
    have d := acc.rd
    have p4 := acc.mono
    have pr : r.1.subShift = false → ∀ v, (v ∈ sub1.reads ∨ v = cond) →
        v ∈ r.1.reads ∨ DefW s v ∨ ¬ ThruC v comps := fun hs v hv => (hrd hs v hv).1
    have hpreEq : pre = comps.map Instr.calc := List.append_cancel_left (epre.symm.trans e)
    have hbs : r.2.1.shift - r.1.shift = 0 := by
      rw [es, n.shift, hse1]; omega
    rw [hpreEq, hbs, ei]
    obtain ⟨_, hreadsEq, hssEq, hwne, _⟩ := loopTail_stay_fields (cond := cond) hns hsubR acc.hdr isLoop L false
    have hnsI : nsL sub1.insts := hch1.all.ns hss1
    refine RdAll.calcs_then d p4 ⟨fun v hv => by rw [hreadsEq]; exact hv, fun h => by rw [← hssEq]; exact h⟩
      ?_ ?_ ?_
    · intro _
      cases isLoop with
      | true => simp only [if_true]; simp [nsL, nsI, hnsI]
      | false => simp only [Bool.false_eq_true, if_false]; simp [nsL, nsI, hnsI]
    · -- nothing outside `reads` is exposed by the pushed block
      intro hss τ hnb v hv hd htc
      have hssP : r.1.subShift = false := by rw [← hssEq]; exact hss
      have hvR : ∀ x, (x ∈ sub1.reads ∨ x = cond) → x ≠ v := by
        rintro x hx rfl
        rcases pr hssP x hx with h | h | h
        · exact hv (by rw [hreadsEq]; exact h)
        · exact hd h
        · exact h htc
      have hcnd : τ.ptr + cond ≠ τ.ptr + v := fun h => hvR cond (Or.inr rfl) (ptr_add_inj.1 h)
      have hbody : ∀ σ : State w, σ.ptr = τ.ptr → ¬ Bad sub1.insts σ → ¬ Exposes (τ.ptr + v) sub1.insts σ := by
        intro σ hp hnbσ
        rw [← hp]
        exact hch1.rd hss1 hnbσ (fun hm => hvR v (Or.inl hm) rfl)
      cases isLoop with
      | true =>
        simp only [if_true] at hnb ⊢
        exact not_exposes_loop hcnd hbody hnsI hnb
      | false =>
        simp only [Bool.false_eq_true, if_false] at hnb ⊢
        exact not_exposes_ifnz hcnd (hbody τ rfl) hnb
    · -- what the block is recorded to write, it writes (or its test reads it)
      intro hss τ τ1 hnb v hd' hd hor htc ht
      by_cases hvc : v = cond
      · subst hvc
        cases isLoop with
        | true =>
          simp only [if_true] at ht
          exact thru_loop_cond ht rfl
        | false =>
          simp only [Bool.false_eq_true, if_false] at ht
          exact thru_ifnz_cond ht rfl
      · have hdP : DefW r.1 v := (DefW.of_get_eq (hwne v hvc)).1 hd'
        rcases hor with h | h
        · exact h hdP
        · rcases h with hcl | h
          · obtain ⟨hal, hdsub⟩ := p6 v hvc hcl hdP
            cases isLoop with
            | false => rw [hflag rfl] at hal; cases hal
            | true =>
              simp only [if_true] at ht hnb
              rw [hal] at ht hnb
              refine not_thru_loop_once hnb ?_ ht
              intro τ' hτ'
              exact hch1.wr hss1 (fun hb => hnb (.loopIn (fun hz => hnb (.here hz)) hb)) hdsub hτ'
          · exact hvc h

theorem inlineEnd_rd {s3 : Rebuild w} {ps : List (Rebuild w)} {sub : Rebuild w} {os os' : Orders}
    {s4 : Rebuild w} (hr : (inlineEnd s3 ps sub).run os = .ok (s4, os')) (hwf : Wf s3) :
    ∃ c3 : List (List (Int × Expr w)), s4.insts = s3.insts ++ c3.map Instr.calc ∧ s4.subAnal = s3.subAnal ∧
      EmitFoot s3 s4 c3 := by
  obtain ⟨c3, i3, _, f3⟩ := inlineEnd_foot hr hwf
  refine ⟨c3, i3, ?_, f3⟩
  unfold inlineEnd at hr
  split at hr
  · rw [run_pure] at hr
    cases hr; rfl
  · rw [run_bind_ok] at hr
    obtain ⟨l, os3, _, h6⟩ := hr
    rw [run_bind_ok] at h6
    obtain ⟨s5, os5, h7, h8⟩ := h6
    rw [run_pure] at h8
    cases h8
    exact (performAll_nstep h7 hwf).subAnal

theorem inlineRest_subAnal {s1 : Rebuild w} {ps : List (Rebuild w)} {sub : Rebuild w} {os os' : Orders}
    {s' : Rebuild w} (hr : (inlineRest s1 ps sub).run os = .ok (s', os')) (hwf : Wf s1) :
    s'.subAnal = s1.subAnal ++ sub.subAnal ∧
    ∃ pre post, (∀ i ∈ pre, C01Dse.isBlock i = false) ∧ (∀ i ∈ post, C01Dse.isBlock i = false) ∧
      s'.insts = s1.insts ++ (pre ++ (sub.insts ++ post)) := by
  obtain ⟨s2, os2, s4, h3, h4, rfl⟩ := inlineRest_run hr
  rw [ifold_eq] at h3
  obtain ⟨i1, i2, _⟩ := cfold_spec ps (OptLoop.unknown true) [] sub.written (s1, []) hwf
  have n2 := clobberAll_nstep ps _ h3 i1
  obtain ⟨pre, epre, hpre⟩ := n2.insts
  have hwf3 := writtenCalcs_insts_wf n2.wf ps (knownsOf sub) (s2.insts ++ sub.insts)
  obtain ⟨w1, _, _⟩ := writtenCalcs_eq ({ s2 with insts := s2.insts ++ sub.insts } : Rebuild w) ps (knownsOf sub)
  obtain ⟨c3, i3, a3, _⟩ := inlineEnd_rd h4 hwf3
  refine ⟨?_, pre, c3.map Instr.calc, hpre, noBlocks_calcs c3, ?_⟩
  · show s4.subAnal ++ sub.subAnal = _
    rw [a3, w1.subAnal]
    show s2.subAnal ++ sub.subAnal = _
    rw [n2.subAnal, i2.subAnal]
  · show s4.insts = _
    rw [i3, w1.insts]
    show s2.insts ++ sub.insts ++ _ = _
    rw [epre, i2.insts]
    simp only [List.append_assoc]

theorem inline_rstep {s : Rebuild w} {ps : List (Rebuild w)} {sub : Rebuild w} {os os' : Orders}
    {s' : Rebuild w} (hr : (Opt.inline s ps sub).run os = .ok (s', os')) (hwf : Wf s) (hwsub : Wf sub)
    (hch : RdSt sub) : RStep s s' := by
  have hr0 := hr
  rw [inline_eq] at hr
  split at hr
  · rename_i hss
    rw [run_bind_ok] at hr
    obtain ⟨s0, os0, h0, h1⟩ := hr
    rw [run_bind_ok] at h1
    obtain ⟨s1, os1, h1', h2⟩ := h1
    rw [run_pure] at h1'
    cases h1'
    obtain ⟨c, xr, _⟩ := emitAll_foot ps (pendingSorted s s) hwf h0
    obtain ⟨ha, pre, post, hpre, hpost, hi⟩ := inlineRest_subAnal h2 (uncertainShift_wf xr.wf)
    obtain ⟨g1, g2⟩ := inline_shift_void hr0 hwf hss
    refine ⟨c.map Instr.calc ++ (pre ++ (sub.insts ++ post)), sub.subAnal, ?_, ?_, ?_, RdAll.void g1 g2 _⟩
    · rw [hi]
      show s0.insts ++ _ = _
      rw [xr.insts, List.append_assoc]
    · rw [ha]
      show s0.subAnal ++ _ = _
      rw [xr.subAnal]
    · exact rdOkL_nonblocks_left (noBlocks_calcs c)
        (rdOkL_nonblocks_left hpre (rdOkL_nonblocks_right hch.ok hpost))
  · rename_i hss'
    have hss : sub.subShift = false := by simpa using hss'
    rw [run_bind_ok] at hr
    obtain ⟨s1, os1, h1, h2⟩ := hr
    obtain ⟨_, r1, _⟩ := emitReadAll_foot ps _ hwf h1
    obtain ⟨ha, _⟩ := inlineRest_subAnal h2 r1.wf
    obtain ⟨s2, os2, s4, h3, h4, rfl⟩ := inlineRest_run h2
    have hcp := inline_clobberPhase h3
    obtain ⟨c12, acc, pdef, _, preads⟩ := inline_prep_acc hwf hwsub h1 hcp
    have pwf := acc.wf
    have pmono := acc.mono
    have d12 := acc.rd
    have hi12 := acc.insts
    have hwf3 := writtenCalcs_insts_wf pwf ps (knownsOf sub) (s2.insts ++ sub.insts)
    obtain ⟨w1, w2, w3, w4⟩ := writtenCalcs_fields ({ s2 with insts := s2.insts ++ sub.insts } : Rebuild w) ps
      (knownsOf sub) (nodup_knownsOf hwsub.writ)
    obtain ⟨S3, hS3⟩ : ∃ x, x = writtenCalcs ({ s2 with insts := s2.insts ++ sub.insts } : Rebuild w) ps
      (knownsOf sub) := ⟨_, rfl⟩
    rw [← hS3] at h4 hwf3 w1 w2 w3 w4
    have w2' : S3.reads = s2.reads := w2
    have w3' : ∀ v, v ∉ (knownsOf sub).map (·.1) → mGet S3.written v = mGet s2.written v := w3
    have wss : S3.subShift = s2.subShift := w1.subShift
    have wins : S3.insts = s2.insts ++ sub.insts := w1.insts
    obtain ⟨c3, i3, _, f3⟩ := inlineEnd_rd h4 hwf3
    have d3 := f3.rd
    have hdef3 : ∀ v, DefW S3 v → DefW s2 v ∨ DefW sub v := by
      intro v hd
      by_cases hk : v ∈ (knownsOf sub).map (·.1)
      · obtain ⟨ve, hve, e⟩ := List.mem_map.1 hk
        have := (mem_knownsOf hwsub.writ ve.1 ve.2).1 hve
        rw [e] at this
        exact Or.inr ⟨_, this, rfl⟩
      · exact Or.inl ((DefW.of_get_eq (w3' v hk)).1 hd)
    have hnsI : nsL sub.insts := hch.all.ns hss
    have hm2 : ReadsMono s2 ({ s4 with subAnal := s4.subAnal ++ sub.subAnal } : Rebuild w) := by
      refine ⟨fun v hv => ?_, fun h => ?_⟩
      · show v ∈ s4.reads
        exact f3.mono.1 v (by rw [w2']; exact hv)
      · have h3' : S3.subShift = false := f3.mono.2 h
        rw [← wss]; exact h3'
    refine ⟨c12.map Instr.calc ++ (sub.insts ++ c3.map Instr.calc), sub.subAnal, ?_, ?_, ?_, ?_⟩
    · show s4.insts = _
      rw [i3, wins, hi12]
      simp only [List.append_assoc]
    · rw [ha, r1.subAnal]
    · exact rdOkL_nonblocks_left (noBlocks_calcs c12)
        (rdOkL_nonblocks_right hch.ok (noBlocks_calcs c3))
    · refine RdAll.calcs_then d12 pmono hm2 ?_ ?_ ?_
      · intro _
        exact (nsL_append _ _).2 ⟨hnsI, nsL_calcs c3⟩
      · -- exposure by the spliced code, or by the groups of the final `performAll`
        intro hs4 τ hnb v hv hd htc hex
        have hs4' : s4.subShift = false := hs4
        have hs3 : S3.subShift = false := f3.mono.2 hs4'
        have hs2 : s2.subShift = false := by rw [← wss]; exact hs3
        have hnbI : ¬ Bad sub.insts τ := fun hb => hnb (bad_append.2 (Or.inl hb))
        have hv4 : v ∉ s4.reads := hv
        rcases exposes_append hex with h | ⟨τ2, ht, he⟩
        · refine hch.rd hss hnbI ?_ h
          intro hm
          rcases (preads hs2 v hm).1 with h' | h' | h'
          · exact hv4 (f3.mono.1 v (by rw [w2']; exact h'))
          · exact hd h'
          · exact h' htc
        · have hp := thru_ptr ht hnsI
          rw [← hp] at he
          have hec := (exposes_calcs_iff c3 τ2 v).1 he
          refine (d3 hs4').1 v hv4 ?_ hec
          intro hd3
          rcases hdef3 v hd3 with h' | h'
          · by_cases hk : v ∈ mKeys sub.written
            · exact hch.wr hss hnbI (pdef v hk h') ht
            · exact (d12 hs2).2 v h' hd hk htc
          · exact hch.wr hss hnbI h' ht
      · intro hs4 τ τ1 hnb v hd' hd hor htc ht
        have hs4' : s4.subShift = false := hs4
        have hs3 : S3.subShift = false := f3.mono.2 hs4'
        have hnbI : ¬ Bad sub.insts τ := fun hb => hnb (bad_append.2 (Or.inl hb))
        obtain ⟨τ2, t1, t2⟩ := thru_append ht
        have hp := thru_ptr t1 hnsI
        rw [← hp] at t2
        have htc3 := ((thru_calcs_iff c3 τ2 τ1 v).1 t2).1
        have hd4 : DefW s4 v := hd'
        by_cases hd3 : DefW S3 v
        · rcases hdef3 v hd3 with h' | h'
          · rcases hor with h'' | h''
            · exact h'' h'
            · exact hch.wr hss hnbI (pdef v h'' h') t1
          · exact hch.wr hss hnbI h' t1
        · exact (d3 hs4').2 v hd4 hd3 id htc3

end OptProof
end Hpbf
