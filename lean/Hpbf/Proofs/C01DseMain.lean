/-
The dead store elimination preserves behaviour: the two runs are in lockstep (same fuel, same budget; `inv_run`, by
`FuelRun.lockstepQ` from `inv_step`).
`C07.irErase`: a limited run with its budget erased is a prefix of the unlimited run; by this the facts of `AnalSound`,
stated for the unlimited mode, serve for limited runs too.
-/
import Hpbf.Proofs.C01DseStep
import Hpbf.Proofs.C07
import Hpbf.Proofs.FuelSim

namespace Hpbf
namespace C01Dse
open Ir OptDse

variable {w : Nat} {lim : Bool} {bud : Nat} {b : Block w} {anal : DAnal} {env : Env}

theorem inv_step
    (hS : AnalSoundAt lim bud b anal env) {c c' : Cfg w} (h : Inv lim bud b anal env c c') :
    StepRel lim bud b anal env (step lim c) (step lim c') := by
  obtain ⟨cur, conts, budget, st⟩ := c
  obtain ⟨cur', conts', budget', st'⟩ := c'
  cases cur with
  | nil =>
    cases conts with
    | nil => exact step_halt h
    | cons k ks =>
      cases k with
      | loopEnd cond shift body rest => exact step_loopEnd hS h
      | ifEnd shift rest => exact step_ifEnd h
  | cons i rest =>
    cases i with
    | output src => exact step_output h
    | input dst => exact step_input h
    | «calc» calcs => exact step_calc h
    | loop cond shift body once => exact step_block hS rfl h
    | ifnz cond shift body => exact step_block hS rfl h

theorem Inv.obs {c c' : Cfg w}
    (h : Inv lim bud b anal env c c') : Obs c c' := ⟨h.trace, h.env, h.ptr, h.budget⟩

theorem inv_run
    (hS : AnalSoundAt lim bud b anal env) (f : Nat) {c c' : Cfg w} (h : Inv lim bud b anal env c c') :
    ObsEq (runCfg lim f c) (runCfg lim f c') := by
  refine (Ir.fuelRun lim).lockstepQ (Ir.fuelRun lim) (R := Inv lim bud b anal env) (fun c c' h => ?_)
    (fun _ _ h => h.obs) f c c' h
  have hs := inv_step hS h
  cases h1 : step lim c with
  | next c1 =>
    cases h2 : step lim c' with
    | next c1' => rw [h1, h2] at hs; exact .inl ⟨_, _, rfl, rfl, hs⟩
    | halt _ | stop _ | interrupted _ => rw [h1, h2] at hs; exact hs.elim
  | halt c1 =>
    cases h2 : step lim c' with
    | halt c1' => rw [h1, h2] at hs; exact .inr fun _ => by simp only [runCfg, h1, h2]; exact hs
    | next _ | stop _ | interrupted _ => rw [h1, h2] at hs; exact hs.elim
  | stop c1 =>
    cases h2 : step lim c' with
    | stop c1' => rw [h1, h2] at hs; exact .inr fun _ => by simp only [runCfg, h1, h2]; exact hs
    | next _ | halt _ | interrupted _ => rw [h1, h2] at hs; exact hs.elim
  | interrupted c1 =>
    cases h2 : step lim c' with
    | interrupted c1' => rw [h1, h2] at hs; exact .inr fun _ => by simp only [runCfg, h1, h2]; exact hs
    | next _ | halt _ | stop _ => rw [h1, h2] at hs; exact hs.elim

theorem eliminate_some {b b' : Block w} {anal : DAnal} (h : eliminate b anal = some b') :
    ∃ s idx, elimInsts [] b.insts (DState.new 0 anal) anal.subs.length = some (b'.insts, s, idx) ∧
      b'.shift = b.shift := by
  unfold eliminate at h
  split at h
  · exact absurd h (by simp)
  · rename_i insts s idx he
    simp only [Option.some.injEq] at h
    subst h
    exact ⟨s, idx, he, rfl⟩

theorem inv_init {lim : Bool} {bud : Nat} {b b' : Block w} {anal : DAnal} {env : Env}
    (hE : eliminate b anal = some b') (hnd : NoDupTargets b) (hS : AnalSoundAt lim bud b anal env) :
    Inv lim bud b anal env (initCfg b bud env) (initCfg b' bud env) := by
  obtain ⟨s, idx, he, _⟩ := eliminate_some hE
  exact ⟨Reach.init lim bud b env, ⟨[], anal, 0, s, idx, MatchK.nil, he, ⟨hS.shift, hnd⟩,
    fun a => Or.inl rfl⟩, rfl, rfl, rfl, rfl⟩

theorem step_erase {c c1 : Cfg w} (h : step true c = .next c1) : step false (C07.irErase c) = .next (C07.irErase c1) := by
  rcases C07.ir_step_erase c with ⟨c', hi, _⟩ | hs
  · rw [h] at hi; cases hi
  · rw [h] at hs; exact hs.erase

theorem cfgAt_erase {f : Nat} {c0 c : Cfg w} (h : cfgAt true f c0 = some c) :
    cfgAt false f (C07.irErase c0) = some (C07.irErase c) := by
  induction f generalizing c0 with
  | zero =>
    simp only [cfgAt, Option.some.injEq] at h
    subst h; rfl
  | succ f ih =>
    obtain ⟨c1, hs, h⟩ := cfgAt_succ_some h
    rw [cfgAt, step_erase hs]
    exact ih h

theorem unexposed_erase {d : Nat} {a : Int} {n : Nat} {c : Cfg w}
    (h : unexposedN false d a n (C07.irErase c) = true) : unexposedN true d a n c = true := by
  induction n generalizing c with
  | zero => rfl
  | succ n ih =>
    -- `irErase` changes neither `cur`, `conts` nor what the next step reads and writes
    rcases unexposed_succ.1 h with h | ⟨h1, h2⟩
    · exact unexposed_succ.2 (Or.inl h)
    · exact unexposed_succ.2 (Or.inr ⟨h1, h2.imp id (fun h3 c1 hs => ih (h3 _ (step_erase hs)))⟩)

theorem traceOf_eq_of_obsEq {o o' : Outcome w} (h : ObsEq o o') : traceOf o' = traceOf o := by
  cases o <;> cases o' <;> first | exact h.1 | exact h.elim

theorem shapeOk_of_eliminate {b b' : Block w} {anal : DAnal} (h : eliminate b anal = some b') :
    ShapeOk b anal := by
  obtain ⟨s, idx, he, _⟩ := eliminate_some h
  exact shape_of_elim_both.2 b.insts [] (DState.new 0 anal) _ he

theorem eliminate_sub {b b' : Block w} {anal : DAnal} (h : eliminate b anal = some b') :
    b'.shift = b.shift ∧ SubL b.insts b'.insts := by
  obtain ⟨s, idx, he, hsh⟩ := eliminate_some h
  exact ⟨hsh, subL_of_elimInsts _ _ _ _ _ _ _ he⟩

theorem ObsEq.done_left {o o' : Outcome w} {c : Cfg w} (h : ObsEq o o') (ho : o = .done c) :
    ∃ c', o' = .done c' ∧ Obs c c' := by
  subst ho; cases o' <;> first | exact ⟨_, rfl, h⟩ | exact h.elim

theorem ObsEq.stopped_left {o o' : Outcome w} {c : Cfg w} (h : ObsEq o o') (ho : o = .stopped c) :
    ∃ c', o' = .stopped c' ∧ Obs c c' := by
  subst ho; cases o' <;> first | exact ⟨_, rfl, h⟩ | exact h.elim

theorem ObsEq.interrupted_left {o o' : Outcome w} {c : Cfg w} (h : ObsEq o o') (ho : o = .interrupted c) :
    ∃ c', o' = .interrupted c' ∧ Obs c c' := by
  subst ho; cases o' <;> first | exact ⟨_, rfl, h⟩ | exact h.elim

theorem ObsEq.done_right {o o' : Outcome w} {c' : Cfg w} (h : ObsEq o o') (ho : o' = .done c') :
    ∃ c, o = .done c ∧ Obs c c' := by
  subst ho; cases o <;> first | exact ⟨_, rfl, h⟩ | exact h.elim

theorem ObsEq.stopped_right {o o' : Outcome w} {c' : Cfg w} (h : ObsEq o o') (ho : o' = .stopped c') :
    ∃ c, o = .stopped c ∧ Obs c c' := by
  subst ho; cases o <;> first | exact ⟨_, rfl, h⟩ | exact h.elim

theorem ObsEq.interrupted_right {o o' : Outcome w} {c' : Cfg w} (h : ObsEq o o')
    (ho : o' = .interrupted c') : ∃ c, o = .interrupted c ∧ Obs c c' := by
  subst ho; cases o <;> first | exact ⟨_, rfl, h⟩ | exact h.elim

end C01Dse
end Hpbf
