/-
Expression lemmas for the loop optimisations of `Hpbf/Opt.lean`: the value of an expression depends only on
the variables that occur in it (`ev_congr`), sums over iterations (`accN`), and `symbEvaluate` does not
invent variables (`symbEvaluate_varsIn`).
-/
import Hpbf.Proofs.OptSem
import Hpbf.Proofs.C01OptArith
import Hpbf.Proofs.C15Canon
import Hpbf.Proofs.StateAgree

namespace Hpbf.OptLoop
open Hpbf Opt OptSem Expr

variable {w : Nat}

@[simp] theorem ev_nil (m : Mem w) : ev ([] : Expr w) m = 0#w := rfl
@[simp] theorem ev_val (c : BitVec w) (m : Mem w) : ev (Expr.val c) m = c := eval_val c m
@[simp] theorem ev_var (v : Int) (m : Mem w) : ev (Expr.var v : Expr w) m = m v := eval_var v m
@[simp] theorem ev_add (a b : Expr w) (m : Mem w) : ev (Expr.add a b) m = ev a m + ev b m :=
  eval_add a b m
@[simp] theorem ev_mul (a b : Expr w) (m : Mem w) : ev (Expr.mul a b) m = ev a m * ev b m :=
  eval_mul a b m
theorem ev_append (a b : Expr w) (m : Mem w) : ev (a ++ b) m = ev a m + ev b m :=
  evaluate_append m a b
theorem ev_cons (p : Part w) (e : Expr w) (m : Mem w) : ev (p :: e) m = ev [p] m + ev e m :=
  ev_append [p] e m
theorem ev_singleton (p : Part w) (m : Mem w) : ev [p] m = p.coef * mono m p.vars :=
  evaluate_singleton m p

theorem variables_cons (p : Part w) (e : Expr w) : Expr.variables (p :: e) = p.vars ++ Expr.variables e := by
  simp [Expr.variables]

theorem mem_variables {e : Expr w} {v : Int} : v ∈ Expr.variables e ↔ ∃ p ∈ e, v ∈ p.vars := by
  simp [Expr.variables, List.mem_flatMap]

theorem ev_congr (e : Expr w) (m m' : Mem w) (h : ∀ v ∈ Expr.variables e, m v = m' v) : ev e m = ev e m' :=
  C01Dse.evaluate_congr m m' e h

def accN (g : Nat → BitVec w) : Nat → BitVec w
  | 0 => 0#w
  | n + 1 => accN g n + g n

@[simp] theorem accN_zero (g : Nat → BitVec w) : accN g 0 = 0#w := rfl
@[simp] theorem accN_succ (g : Nat → BitVec w) (n : Nat) : accN g (n + 1) = accN g n + g n := rfl

theorem accN_congr (g h : Nat → BitVec w) (n : Nat) (hgh : ∀ k, k < n → g k = h k) :
    accN g n = accN h n := by
  induction n with
  | zero => rfl
  | succ n ih =>
    rw [accN_succ, accN_succ, ih (fun k hk => hgh k (Nat.lt_succ_of_lt hk)), hgh n (Nat.lt_succ_self n)]

open C01Opt.Lemmas in
theorem accN_add (g h : Nat → BitVec w) (n : Nat) :
    accN (fun k => g k + h k) n = accN g n + accN h n := by
  induction n with
  | zero => simp
  | succ n ih => simp only [accN_succ, ih]; bvring

open C01Opt.Lemmas in
theorem accN_const (c : BitVec w) (n : Nat) : accN (fun _ => c) n = BitVec.ofNat w n * c := by
  induction n with
  | zero => simp
  | succ n ih => simp only [accN_succ, ih]; bvring

theorem accN_zero_fn (n : Nat) : accN (fun _ => (0#w : BitVec w)) n = 0#w := by
  rw [accN_const]; simp

theorem accN_lin (I D : BitVec w) (n : Nat) :
    accN (fun k => I + BitVec.ofNat w k * D) n = C01Opt.tri I D n := by
  induction n with
  | zero => rfl
  | succ n ih => rw [accN_succ, ih]; rfl

theorem accN_run (x : Nat → BitVec w) (g : Nat → BitVec w) (n : Nat)
    (h : ∀ k, k < n → x (k + 1) = x k + g k) : x n = x 0 + accN g n := by
  induction n with
  | zero => simp
  | succ n ih =>
    rw [h n (Nat.lt_succ_self n), ih (fun k hk => h k (Nat.lt_succ_of_lt hk)), accN_succ,
      BitVec.add_assoc]

def VarsIn (S : Int → Prop) (e : Expr w) : Prop := ∀ p ∈ e, ∀ x ∈ p.vars, S x

theorem varsIn_eq_partsAll (S : Int → Prop) (e : Expr w) : VarsIn S e = PartsAll (fun vs => ∀ x ∈ vs, S x) e := rfl

theorem varsIn_iff {S : Int → Prop} {e : Expr w} : VarsIn S e ↔ ∀ x ∈ Expr.variables e, S x := by
  constructor
  · intro h x hx
    obtain ⟨p, hp, hxp⟩ := mem_variables.1 hx
    exact h p hp x hxp
  · intro h p hp x hx
    exact h x (mem_variables.2 ⟨p, hp, hx⟩)

theorem symbEvaluate_varsIn {S : Int → Prop} (g : Int → Option (Expr w)) (e r : Expr w)
    (hg : ∀ v ∈ Expr.variables e, ∀ e', g v = some e' → VarsIn S e')
    (h : symbEvaluate e g = some r) : VarsIn S r :=
  partsAll_symbEvaluate (merges_in S) (fun _ h => nomatch h) g e r hg h

end Hpbf.OptLoop
