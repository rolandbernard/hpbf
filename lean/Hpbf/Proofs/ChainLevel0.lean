/-
Chain: canonical Brainfuck semantics vs. the bytecode machine, and the corollaries for divergence
(C05), limited mode (C07) and I/O failure (C08).

The corollaries every level has are stated once, for an arbitrary bytecode program `p` that agrees with the canonical
program `prog` on event traces (`BcAgrees prog p env`: forward / backward / prefix; four more, `bc_terminates`,
`bc_runs_forever_or_bad`, `bc_limited_stops_like_canonical`, `bc_refused_byte`, are stated for level 0 only); `IrAgrees prog blk env` is the same
relation for the IR interpreter (the shape of `C01.parse_forward/backward/prefix`).  Every optimisation level
instantiates them with its own agreement theorem; the one for level 0 (source → `Program::parse` → `translate` →
threaded interpreter) is `bytecode_level0` at the end of this file.

Conventions at level 0: `src : List Kind` the classified source text, `prog` its bracket tree (`Bf.tree src = some
prog`, i.e. the text is balanced), `blk` the block `Ir.parse` returns at cell width `w > 0`, `p` the program
`translateE blk numRegs fuse` returns (`ht`: the translation succeeded; `C02.translateE_total` proves that it always
does, and `Proofs/ChainTotal.lean` restates the theorems without `ht`), `env` an arbitrary environment.
Traces are lists of events, most recent first.
Only the events are compared with the canonical machine (C01 compares events only).

First (section `Parse`): `Program::parse` never marks a loop `once` (`parse_noOnce`, by `C01.parse_induct`), so the
precondition `OnceOk` of the emission phase holds for every level-0 program and every environment (`parse_onceOk`).
-/
import Hpbf.Proofs.ChainRefine
import Hpbf.Props.C05
import Hpbf.Props.C08
import Hpbf.Props.C11
import Hpbf.Proofs.C01ParseInd

namespace Hpbf
namespace Chain

section Parse
open Ir C02Emit C01
variable {w : Nat}

theorem noOnceL_of_forall : ∀ l : List (Instr w), (∀ i ∈ l, noOnceI i = true) → noOnceL l = true
  | [], _ => rfl
  | i :: l, h => by
    rw [noOnceL, h i List.mem_cons_self, noOnceL_of_forall l fun j hj => h j (List.mem_cons_of_mem _ hj)]; rfl

theorem parse_noOnce {src : List Kind} {blk : Ir.Block w} (h : Ir.parse (w := w) src = .ok blk) :
    NoOnce blk :=
  noOnceL_of_forall _ (parse_induct (P := fun i => noOnceI i = true) (fun _ _ => rfl) (fun _ => rfl) (fun _ => rfl)
    (fun _ => rfl) (fun c sh body hb => by rw [noOnceI, noOnceL_of_forall body hb]; rfl) h)

theorem parse_onceOk {src : List Kind} {blk : Ir.Block w} (h : Ir.parse (w := w) src = .ok blk) (env : Env) :
    OnceOk blk env := onceOk_of_noOnce (parse_noOnce h) env

end Parse

open Bc BcWf BcGen C11 C02

variable {w : Nat}

theorem traceOfBf_eq (o : Bf.Outcome w) : C04.traceOfBf o = C01.traceOfBf o := by cases o <;> rfl
theorem traceOfIr_eq (o : Ir.Outcome w) : C07.traceOfIr o = C01.traceOf o := by cases o <;> rfl

theorem bc_run_more (p : Bc.Program w) (l : Bool) (b f k : Nat) (env : Env) (o : Bc.Outcome w)
    (h : Bc.run p l b f env = o) (hn : ∀ x, o ≠ .outOfFuel x) : Bc.run p l b (f + k) env = o := by
  unfold Bc.run at h ⊢
  split
  · rename_i hb; rw [if_pos hb] at h; exact h
  · rename_i hb; rw [if_neg hb] at h
    rw [(Bc.fuelRun p l).add (by rw [h]; exact hn) k, h]

theorem bc_run_det (p : Bc.Program w) (l : Bool) (b : Nat) (env : Env) {f1 f2 : Nat} {o1 o2 : Bc.Outcome w}
    (h1 : Bc.run p l b f1 env = o1) (h2 : Bc.run p l b f2 env = o2)
    (n1 : ∀ x, o1 ≠ .outOfFuel x) (n2 : ∀ x, o2 ≠ .outOfFuel x) : o1 = o2 := by
  have a := bc_run_more p l b f1 f2 env o1 h1 n1
  have c := bc_run_more p l b f2 f1 env o2 h2 n2
  rw [Nat.add_comm] at c
  rw [← a, ← c]

/-- Canonical semantics vs. the IR interpreter (unlimited) on `blk`, on event traces. -/
def IrAgrees (prog : Prog) (blk : Ir.Block w) (env : Env) : Prop :=
  ((∀ f (s : State w), Bf.run f prog env = .done s →
      ∃ f' c, Ir.run blk false 0 f' env = .done c ∧ c.st.trace = s.trace) ∧
   (∀ f (s : State w), Bf.run f prog env = .stopped s →
      ∃ f' c, Ir.run blk false 0 f' env = .stopped c ∧ c.st.trace = s.trace)) ∧
  ((∀ f' (c : Ir.Cfg w), Ir.run blk false 0 f' env = .done c →
      ∃ (f : Nat) (s : State w), Bf.run f prog env = .done s ∧ s.trace = c.st.trace) ∧
   (∀ f' (c : Ir.Cfg w), Ir.run blk false 0 f' env = .stopped c →
      ∃ (f : Nat) (s : State w), Bf.run f prog env = .stopped s ∧ s.trace = c.st.trace)) ∧
  ((∀ f', ∃ f, C01.traceOf (Ir.run blk false 0 f' env) = C01.traceOfBf (Bf.run (w := w) f prog env)) ∧
   (∀ f, ∃ f', C01.traceOf (Ir.run blk false 0 f' env) = C01.traceOfBf (Bf.run (w := w) f prog env)))

/-- Canonical semantics vs. the bytecode machine (unlimited) on `p`, on event traces. -/
def BcAgrees (prog : Prog) (p : Bc.Program w) (env : Env) : Prop :=
  ((∀ f (s : State w), Bf.run f prog env = .done s →
      ∃ f' c', Bc.run p false 0 f' env = .done c' ∧ c'.st.trace = s.trace) ∧
   (∀ f (s : State w), Bf.run f prog env = .stopped s →
      ∃ f' c', Bc.run p false 0 f' env = .stopped c' ∧ c'.st.trace = s.trace)) ∧
  ((∀ f' (c' : Bc.Cfg w), Bc.run p false 0 f' env = .done c' →
      ∃ (f : Nat) (s : State w), Bf.run f prog env = .done s ∧ s.trace = c'.st.trace) ∧
   (∀ f' (c' : Bc.Cfg w), Bc.run p false 0 f' env = .stopped c' →
      ∃ (f : Nat) (s : State w), Bf.run f prog env = .stopped s ∧ s.trace = c'.st.trace)) ∧
  ((∀ f', ∃ f, C07.traceOfBc (Bc.run p false 0 f' env) = C01.traceOfBf (Bf.run (w := w) f prog env)) ∧
   (∀ f, ∃ f', C07.traceOfBc (Bc.run p false 0 f' env) = C01.traceOfBf (Bf.run (w := w) f prog env)))

/-! The components by name: `done`, `stopped`, `trace` lead from a canonical run to a run of the other side,
`ofDone`, `ofStopped`, `ofTrace` back. -/

section
variable {prog : Prog} {blk : Ir.Block w} {env : Env} (I : IrAgrees prog blk env)
include I

theorem IrAgrees.done {f : Nat} {s : State w} (h : Bf.run f prog env = .done s) :
    ∃ f' c, Ir.run blk false 0 f' env = .done c ∧ c.st.trace = s.trace := I.1.1 f s h
theorem IrAgrees.stopped {f : Nat} {s : State w} (h : Bf.run f prog env = .stopped s) :
    ∃ f' c, Ir.run blk false 0 f' env = .stopped c ∧ c.st.trace = s.trace := I.1.2 f s h
theorem IrAgrees.ofDone {f' : Nat} {c : Ir.Cfg w} (h : Ir.run blk false 0 f' env = .done c) :
    ∃ (f : Nat) (s : State w), Bf.run f prog env = .done s ∧ s.trace = c.st.trace := I.2.1.1 f' c h
theorem IrAgrees.ofStopped {f' : Nat} {c : Ir.Cfg w} (h : Ir.run blk false 0 f' env = .stopped c) :
    ∃ (f : Nat) (s : State w), Bf.run f prog env = .stopped s ∧ s.trace = c.st.trace := I.2.1.2 f' c h
theorem IrAgrees.ofTrace (f' : Nat) :
    ∃ f, C01.traceOf (Ir.run blk false 0 f' env) = C01.traceOfBf (Bf.run (w := w) f prog env) := I.2.2.1 f'
theorem IrAgrees.trace (f : Nat) :
    ∃ f', C01.traceOf (Ir.run blk false 0 f' env) = C01.traceOfBf (Bf.run (w := w) f prog env) := I.2.2.2 f

end

section
variable {prog : Prog} {p : Bc.Program w} {env : Env} (A : BcAgrees prog p env)
include A

theorem BcAgrees.done {f : Nat} {s : State w} (h : Bf.run f prog env = .done s) :
    ∃ f' c', Bc.run p false 0 f' env = .done c' ∧ c'.st.trace = s.trace := A.1.1 f s h
theorem BcAgrees.stopped {f : Nat} {s : State w} (h : Bf.run f prog env = .stopped s) :
    ∃ f' c', Bc.run p false 0 f' env = .stopped c' ∧ c'.st.trace = s.trace := A.1.2 f s h
theorem BcAgrees.ofDone {f' : Nat} {c' : Bc.Cfg w} (h : Bc.run p false 0 f' env = .done c') :
    ∃ (f : Nat) (s : State w), Bf.run f prog env = .done s ∧ s.trace = c'.st.trace := A.2.1.1 f' c' h
theorem BcAgrees.ofStopped {f' : Nat} {c' : Bc.Cfg w} (h : Bc.run p false 0 f' env = .stopped c') :
    ∃ (f : Nat) (s : State w), Bf.run f prog env = .stopped s ∧ s.trace = c'.st.trace := A.2.1.2 f' c' h
theorem BcAgrees.ofTrace (f' : Nat) :
    ∃ f, C07.traceOfBc (Bc.run p false 0 f' env) = C01.traceOfBf (Bf.run (w := w) f prog env) := A.2.2.1 f'
theorem BcAgrees.trace (f : Nat) :
    ∃ f', C07.traceOfBc (Bc.run p false 0 f' env) = C01.traceOfBf (Bf.run (w := w) f prog env) := A.2.2.2 f

end

theorem irAgrees_level0 (hw : 0 < w) {src : List Kind} {prog : Prog} (hp : Bf.tree src = some prog)
    {blk : Ir.Block w} (hb : Ir.parse (w := w) src = .ok blk) (env : Env) : IrAgrees prog blk env :=
  ⟨C01.parse_forward hw hp hb env, C01.parse_backward hw hp hb env,
   (C01.parse_prefix hw hp hb env).1, (C01.parse_prefix hw hp hb env).2⟩

theorem bcAgrees_of_translateE {prog : Prog} {blk : Ir.Block w} {env : Env} (hI : IrAgrees prog blk env)
    (ho : OnceOk blk env) {numRegs : Nat} {fuse : Bool} {p : Bc.Program w}
    (hp : translateE blk numRegs fuse = .ok p) : BcAgrees prog p env := by
  obtain ⟨⟨f1, f2⟩, ⟨b1, b2⟩, p1, p2⟩ := hI
  obtain ⟨⟨t1, t2⟩, ⟨u1, u2⟩, v1, v2⟩ := translate_refines env hp ho
  refine ⟨⟨?_, ?_⟩, ⟨?_, ?_⟩, ?_, ?_⟩
  · intro f s hs
    obtain ⟨g, c, hc, ht⟩ := f1 f s hs
    obtain ⟨g', c', hc', ht', _⟩ := t1 g c hc
    exact ⟨g', c', hc', ht'.trans ht⟩
  · intro f s hs
    obtain ⟨g, c, hc, ht⟩ := f2 f s hs
    obtain ⟨g', c', hc', ht', _⟩ := t2 g c hc
    exact ⟨g', c', hc', ht'.trans ht⟩
  · intro f' c' hc'
    obtain ⟨g, c, hc, ht, _⟩ := u1 f' c' hc'
    obtain ⟨f, s, hs, hst⟩ := b1 g c hc
    exact ⟨f, s, hs, hst.trans ht⟩
  · intro f' c' hc'
    obtain ⟨g, c, hc, ht, _⟩ := u2 f' c' hc'
    obtain ⟨f, s, hs, hst⟩ := b2 g c hc
    exact ⟨f, s, hs, hst.trans ht⟩
  · intro f'
    obtain ⟨g, hg⟩ := v1 f'
    obtain ⟨f, hf⟩ := p1 g
    exact ⟨f, by rw [← hg, hf]⟩
  · intro f
    obtain ⟨g, hg⟩ := p2 f
    obtain ⟨f', hf'⟩ := v2 g
    exact ⟨f', by rw [hf', hg]⟩

theorem bcAgrees_debug {prog : Prog} {p : Bc.Program w} {env : Env} (A : BcAgrees prog p env) :
    ((∀ f (s : State w), Bf.run f prog env = .done s →
        ∃ f' c', runDebug p false 0 f' env = .done c' ∧ c'.st.trace = s.trace) ∧
     (∀ f (s : State w), Bf.run f prog env = .stopped s →
        ∃ f' c', runDebug p false 0 f' env = .stopped c' ∧ c'.st.trace = s.trace)) ∧
    ((∀ f' (c' : Bc.Cfg w), runDebug p false 0 f' env = .done c' →
        ∃ (f : Nat) (s : State w), Bf.run f prog env = .done s ∧ s.trace = c'.st.trace) ∧
     (∀ f' (c' : Bc.Cfg w), runDebug p false 0 f' env = .stopped c' →
        ∃ (f : Nat) (s : State w), Bf.run f prog env = .stopped s ∧ s.trace = c'.st.trace)) ∧
    ((∀ f', ∃ f, C07.traceOfBc (runDebug p false 0 f' env) = C01.traceOfBf (Bf.run (w := w) f prog env)) ∧
     (∀ f, ∃ f', C07.traceOfBc (runDebug p false 0 f' env) = C01.traceOfBf (Bf.run (w := w) f prog env))) := by
  simp only [runDebug_eq_run]
  exact A

section Cor
variable {prog : Prog} {p : Bc.Program w} {env : Env} (A : BcAgrees prog p env)
include A

/-- A canonically divergent program never returns from the bytecode interpreter: unlimited mode, and limited
mode with any budget (it is never reported "finished"). -/
theorem bc_never_returns (hdiv : C05.BfDiverges w prog env) :
    (∀ (f' : Nat) (c : Bc.Cfg w),
      Bc.run p false 0 f' env ≠ .done c ∧ Bc.run p false 0 f' env ≠ .stopped c) ∧
    (∀ (b f' : Nat) (c : Bc.Cfg w),
      Bc.run p true b f' env ≠ .done c ∧ Bc.run p true b f' env ≠ .stopped c) := by
  have hunl : ∀ (f' : Nat) (c : Bc.Cfg w),
      Bc.run p false 0 f' env ≠ .done c ∧ Bc.run p false 0 f' env ≠ .stopped c := by
    intro f' c
    constructor
    · intro hr
      obtain ⟨f, s, hf, _⟩ := A.ofDone hr
      obtain ⟨c', hc'⟩ := hdiv f
      rw [hf] at hc'; cases hc'
    · intro hr
      obtain ⟨f, s, hf, _⟩ := A.ofStopped hr
      obtain ⟨c', hc'⟩ := hdiv f
      rw [hf] at hc'; cases hc'
  refine ⟨hunl, fun b f' c => ⟨fun hr => ?_, fun hr => ?_⟩⟩
  · obtain ⟨g, c', hg, _⟩ := C07.bc_limited_done p env b f' c hr
    exact (hunl g c').1 hg
  · obtain ⟨g, c', hg, _⟩ := C07.bc_limited_stopped p env b f' c hr
    exact (hunl g c').2 hg

/-- Unlimited mode, divergent program: after any number of steps the interpreter is still running – provided
the outcome "malformed bytecode" is excluded (`nb`). -/
theorem bc_runs_forever (hdiv : C05.BfDiverges w prog env)
    (nb : ∀ (l : Bool) (b f : Nat) (c : Bc.Cfg w), Bc.run p l b f env ≠ .bad c) :
    ∀ f', ∃ c : Bc.Cfg w, Bc.run p false 0 f' env = .outOfFuel c := by
  intro f'
  have hn := (bc_never_returns A hdiv).1 f'
  cases hr : Bc.run p false 0 f' env with
  | outOfFuel c => exact ⟨c, rfl⟩
  | done c => exact ((hn c).1 hr).elim
  | stopped c => exact ((hn c).2 hr).elim
  | interrupted c => exact (translate_never_interrupted p f' env c hr).elim
  | bad c => exact (nb false 0 f' c hr).elim

/-- Limited mode, divergent program: the call comes back and reports "budget exhausted". -/
theorem bc_limited_interrupted (hdiv : C05.BfDiverges w prog env)
    (nb : ∀ (l : Bool) (b f : Nat) (c : Bc.Cfg w), Bc.run p l b f env ≠ .bad c) :
    ∀ b, ∃ f' c, Bc.run p true b f' env = .interrupted c := by
  intro b
  obtain ⟨f', hf'⟩ := C07.bc_limited_terminates p env b
  have hn := (bc_never_returns A hdiv).2 b f'
  cases hr : Bc.run p true b f' env with
  | outOfFuel c => exact (hf' c hr).elim
  | done c => exact ((hn c).1 hr).elim
  | stopped c => exact ((hn c).2 hr).elim
  | interrupted c => exact ⟨f', c, hr⟩
  | bad c => exact (nb true b f' c hr).elim

/-- Everything a divergent program outputs is output by the bytecode interpreter, in order and with nothing
extra (both runs are still running). -/
theorem bc_divergent_output (hdiv : C05.BfDiverges w prog env)
    (nb : ∀ (l : Bool) (b f : Nat) (c : Bc.Cfg w), Bc.run p l b f env ≠ .bad c) :
    (∀ f, ∃ f' c c', Bf.run (w := w) f prog env = .outOfFuel c ∧
      Bc.run p false 0 f' env = .outOfFuel c' ∧ c'.st.trace = c.st.trace) ∧
    (∀ f', ∃ f c c', Bc.run p false 0 f' env = .outOfFuel c' ∧
      Bf.run (w := w) f prog env = .outOfFuel c ∧ c'.st.trace = c.st.trace) := by
  constructor
  · intro f
    obtain ⟨c, hc⟩ := hdiv f
    obtain ⟨f', hf'⟩ := A.2.2.2 f
    obtain ⟨c', hc'⟩ := bc_runs_forever A hdiv nb f'
    rw [hc, hc'] at hf'
    exact ⟨f', c, c', hc, hc', hf'⟩
  · intro f'
    obtain ⟨c', hc'⟩ := bc_runs_forever A hdiv nb f'
    obtain ⟨f, hf⟩ := A.2.2.1 f'
    obtain ⟨c, hc⟩ := hdiv f
    rw [hc, hc'] at hf
    exact ⟨f, c, c', hc', hc, hf⟩

/-- A limited run that reports "finished" has produced exactly the complete canonical event sequence, and
the canonical run ends the same way. -/
theorem bc_limited_finished :
    (∀ (b f' : Nat) (c : Bc.Cfg w), Bc.run p true b f' env = .done c →
      ∃ (f : Nat) (s : State w), Bf.run f prog env = .done s ∧ s.trace = c.st.trace) ∧
    (∀ (b f' : Nat) (c : Bc.Cfg w), Bc.run p true b f' env = .stopped c →
      ∃ (f : Nat) (s : State w), Bf.run f prog env = .stopped s ∧ s.trace = c.st.trace) := by
  constructor
  · intro b f' c hr
    obtain ⟨g, c', hg, hst⟩ := C07.bc_limited_done p env b f' c hr
    obtain ⟨f, s, hf, htr⟩ := A.ofDone hg
    exact ⟨f, s, hf, by rw [htr, hst]⟩
  · intro b f' c hr
    obtain ⟨g, c', hg, hst⟩ := C07.bc_limited_stopped p env b f' c hr
    obtain ⟨f, s, hf, htr⟩ := A.ofStopped hg
    exact ⟨f, s, hf, by rw [htr, hst]⟩

/-- Whatever the limited run has emitted (finished, interrupted, or still running) is what the canonical
machine has emitted after some number of steps … -/
theorem bc_limited_prefix :
    ∀ b f', ∃ f, C07.traceOfBc (Bc.run p true b f' env) = C01.traceOfBf (Bf.run (w := w) f prog env) := by
  intro b f'
  obtain ⟨g, _, hg⟩ := C07.bc_limited_prefix p env b f'
  obtain ⟨f, hf⟩ := A.ofTrace g
  exact ⟨f, by rw [hg, hf]⟩

/-- … hence literally an initial part of the canonical event sequence (traces are most recent first, so
"initial part" is `<:+`), for every sufficiently long canonical run. -/
theorem bc_limited_is_prefix :
    ∀ b f', ∃ f, ∀ g, f ≤ g →
      C07.traceOfBc (Bc.run p true b f' env) <:+ C01.traceOfBf (Bf.run (w := w) g prog env) := by
  intro b f'
  obtain ⟨f, hf⟩ := bc_limited_prefix A b f'
  refine ⟨f, fun g hg => ?_⟩
  rw [hf, ← traceOfBf_eq, ← traceOfBf_eq]
  exact C04.bf_trace_mono hg _

/-- With a sufficiently large budget a canonically terminating program is reported "finished" with the
complete canonical event sequence (both kinds of ending). -/
theorem bc_limited_enough :
    (∀ (f : Nat) (s : State w), Bf.run f prog env = .done s →
      ∃ g, ∀ b, g ≤ b → ∃ f' c, Bc.run p true b f' env = .done c ∧ c.st.trace = s.trace) ∧
    (∀ (f : Nat) (s : State w), Bf.run f prog env = .stopped s →
      ∃ g, ∀ b, g ≤ b → ∃ f' c, Bc.run p true b f' env = .stopped c ∧ c.st.trace = s.trace) := by
  constructor
  · intro f s hr
    obtain ⟨g, c, hc, htr⟩ := A.done hr
    refine ⟨g, fun b hgb => ?_⟩
    obtain ⟨f', c', hc', hst⟩ := C07.bc_limited_enough p env g c hc b hgb
    exact ⟨f', c', hc', by rw [hst]; exact htr⟩
  · intro f s hr
    obtain ⟨g, c, hc, htr⟩ := A.stopped hr
    refine ⟨g, fun b hgb => ?_⟩
    obtain ⟨f', c', hc', hst⟩ := C07.bc_limited_enough_stopped p env g c hc b hgb
    exact ⟨f', c', hc', by rw [hst]; exact htr⟩

/-- If the canonical run stops at a failing I/O operation (refused output byte, absent source, read error),
the bytecode interpreter stops there too: same events (the failed request included), no later event (the
outcome is the same for every larger number of steps), normal return (`.stopped`, not `.bad`). -/
theorem bc_stops_like_canonical :
    ∀ (f : Nat) (s : State w), Bf.run f prog env = .stopped s →
      ∃ f' c, (∀ k, Bc.run p false 0 (f' + k) env = .stopped c) ∧ c.st.trace = s.trace := by
  intro f s hs
  obtain ⟨f', c, hc, htr⟩ := A.stopped hs
  exact ⟨f', c, fun k => bc_run_more p false 0 f' k env _ hc (by intro x; simp), htr⟩

/-- The bytecode interpreter stops only where the canonical machine stops (either mode, any budget). -/
theorem bc_stops_only_like_canonical :
    ∀ (l : Bool) (b f' : Nat) (c : Bc.Cfg w), Bc.run p l b f' env = .stopped c →
      (l = false → b = 0) →
      ∃ (f : Nat) (s : State w), Bf.run f prog env = .stopped s ∧ s.trace = c.st.trace := by
  intro l b f' c hr hl
  cases l with
  | false =>
    have := hl rfl; subst this
    exact A.ofStopped hr
  | true => exact (bc_limited_finished A).2 b f' c hr

end Cor

section Level0
variable (hw : 0 < w) {src : List Kind} {prog : Prog} (hp : Bf.tree src = some prog)
  {blk : Ir.Block w} (hb : Ir.parse (w := w) src = .ok blk)
  {numRegs : Nat} {fuse : Bool} {p : Bc.Program w} (ht : translateE blk numRegs fuse = .ok p) (env : Env)
include hw hp hb ht

theorem bytecode_level0 : BcAgrees prog p env :=
  bcAgrees_of_translateE (irAgrees_level0 hw hp hb env) (parse_onceOk hb env) ht

theorem bytecode_level0_forward :
    (∀ f (s : State w), Bf.run f prog env = .done s →
      ∃ f' c', Bc.run p false 0 f' env = .done c' ∧ c'.st.trace = s.trace) ∧
    (∀ f (s : State w), Bf.run f prog env = .stopped s →
      ∃ f' c', Bc.run p false 0 f' env = .stopped c' ∧ c'.st.trace = s.trace) :=
  (bytecode_level0 hw hp hb ht env).1

theorem bytecode_level0_backward :
    (∀ f' (c' : Bc.Cfg w), Bc.run p false 0 f' env = .done c' →
      ∃ (f : Nat) (s : State w), Bf.run f prog env = .done s ∧ s.trace = c'.st.trace) ∧
    (∀ f' (c' : Bc.Cfg w), Bc.run p false 0 f' env = .stopped c' →
      ∃ (f : Nat) (s : State w), Bf.run f prog env = .stopped s ∧ s.trace = c'.st.trace) :=
  (bytecode_level0 hw hp hb ht env).2.1

theorem bytecode_level0_prefix :
    (∀ f', ∃ f, C07.traceOfBc (Bc.run p false 0 f' env) = C01.traceOfBf (Bf.run (w := w) f prog env)) ∧
    (∀ f, ∃ f', C07.traceOfBc (Bc.run p false 0 f' env) = C01.traceOfBf (Bf.run (w := w) f prog env)) :=
  (bytecode_level0 hw hp hb ht env).2.2

/-- The unlimited bytecode run is never interrupted, and once the canonical run terminates it never reports
malformed bytecode. -/
theorem bytecode_level0_proper :
    (∀ f' c', Bc.run p false 0 f' env ≠ .interrupted c') ∧
    (∀ f (s : State w), (Bf.run f prog env = .done s ∨ Bf.run f prog env = .stopped s) →
      ∀ f' c', Bc.run p false 0 f' env ≠ .bad c') := by
  refine ⟨fun f' c' => translate_never_interrupted p f' env c', ?_⟩
  intro f s hs f' c'
  have ho := parse_onceOk hb env
  rcases hs with hs | hs
  · obtain ⟨f1, c1, h1, _⟩ := (C01.parse_forward hw hp hb env).1 f s hs
    exact translate_not_bad_of_terminates env ht ho (Or.inl h1) f' c'
  · obtain ⟨f1, c1, h1, _⟩ := (C01.parse_forward hw hp hb env).2 f s hs
    exact translate_not_bad_of_terminates env ht ho (Or.inr h1) f' c'

/-- Debug build: trampolined dispatch, budget test before every instruction. -/
theorem bytecode_level0_debug :
    ((∀ f (s : State w), Bf.run f prog env = .done s →
        ∃ f' c', runDebug p false 0 f' env = .done c' ∧ c'.st.trace = s.trace) ∧
     (∀ f (s : State w), Bf.run f prog env = .stopped s →
        ∃ f' c', runDebug p false 0 f' env = .stopped c' ∧ c'.st.trace = s.trace)) ∧
    ((∀ f' (c' : Bc.Cfg w), runDebug p false 0 f' env = .done c' →
        ∃ (f : Nat) (s : State w), Bf.run f prog env = .done s ∧ s.trace = c'.st.trace) ∧
     (∀ f' (c' : Bc.Cfg w), runDebug p false 0 f' env = .stopped c' →
        ∃ (f : Nat) (s : State w), Bf.run f prog env = .stopped s ∧ s.trace = c'.st.trace)) ∧
    ((∀ f', ∃ f, C07.traceOfBc (runDebug p false 0 f' env) = C01.traceOfBf (Bf.run (w := w) f prog env)) ∧
     (∀ f, ∃ f', C07.traceOfBc (runDebug p false 0 f' env) = C01.traceOfBf (Bf.run (w := w) f prog env))) :=
  bcAgrees_debug (bytecode_level0 hw hp hb ht env)

/-- Without the checker: still running, or malformed bytecode reached (never "finished"). -/
theorem bc_runs_forever_or_bad (hdiv : C05.BfDiverges w prog env) :
    ∀ f', (∃ c : Bc.Cfg w, Bc.run p false 0 f' env = .outOfFuel c) ∨
      (∃ c : Bc.Cfg w, Bc.run p false 0 f' env = .bad c) := by
  intro f'
  have hn := (bc_never_returns (bytecode_level0 hw hp hb ht env) hdiv).1 f'
  cases hr : Bc.run p false 0 f' env with
  | outOfFuel c => exact Or.inl ⟨c, rfl⟩
  | done c => exact ((hn c).1 hr).elim
  | stopped c => exact ((hn c).2 hr).elim
  | interrupted c => exact (translate_never_interrupted p f' env c hr).elim
  | bad c => exact Or.inr ⟨c, rfl⟩

/-- A canonically terminating program terminates in the bytecode interpreter with the same events (unlimited
mode, and limited mode with any sufficiently large budget). -/
theorem bc_terminates :
    (∀ (f : Nat) (s : State w), Bf.run f prog env = .done s →
      ∃ f' c, Bc.run p false 0 f' env = .done c ∧ c.st.trace = s.trace) ∧
    (∀ (f : Nat) (s : State w), Bf.run f prog env = .stopped s →
      ∃ f' c, Bc.run p false 0 f' env = .stopped c ∧ c.st.trace = s.trace) ∧
    (∀ (f : Nat) (s : State w), Bf.run f prog env = .done s →
      ∃ g, ∀ b, g ≤ b → ∃ f' c, Bc.run p true b f' env = .done c ∧ c.st.trace = s.trace) :=
  have A := bytecode_level0 hw hp hb ht env
  ⟨fun _ _ => A.done, fun _ _ => A.stopped, (bc_limited_enough A).1⟩

/- That the limited run always returns is `C07.bc_limited_terminates` (for every program). -/

/-- The same in limited mode with any sufficiently large budget. -/
theorem bc_limited_stops_like_canonical :
    ∀ (f : Nat) (s : State w), Bf.run f prog env = .stopped s →
      ∃ g, ∀ b, g ≤ b → ∃ f' c, (∀ k, Bc.run p true b (f' + k) env = .stopped c) ∧ c.st.trace = s.trace := by
  intro f s hs
  obtain ⟨g, hg⟩ := (bc_limited_enough (bytecode_level0 hw hp hb ht env)).2 f s hs
  refine ⟨g, fun b hgb => ?_⟩
  obtain ⟨f', c, hc, htr⟩ := hg b hgb
  exact ⟨f', c, fun k => bc_run_more p true b f' k env _ hc (by intro x; simp), htr⟩

/-- A refused output byte under the bytecode backend: the events before it and the refused byte are the
canonical ones. -/
theorem bc_refused_byte (f : Nat) (s : State w) (b : UInt8) (t : List Ev)
    (hrun : Bf.run f prog env = .stopped s) (htr : s.trace = Ev.outFail b :: t) :
    ∃ f' c, Bc.run p false 0 f' env = .stopped c ∧ c.st.trace = Ev.outFail b :: t := by
  obtain ⟨f', c, hc, hs⟩ := (bytecode_level0 hw hp hb ht env).1.2 f s hrun
  exact ⟨f', c, hc, by rw [hs, htr]⟩

end Level0

end Chain
end Hpbf
