/-
The analysis a round records is sound for the code it emits: the block-free steps (first section), then `inline`.
The emitted code is the parent's block-free preparation, the child's code, and block-free groups; the new nodes
are the child's nodes.  The child's code starts in a state that mirrors a child-valid state (the state with the
source memory at the emitted program's pointer), so the child's `AStep` transfers by `analInL_mono`.
-/
import Hpbf.Proofs.OptRbRd4
import Hpbf.Proofs.OptRbAnKit

namespace Hpbf
namespace OptProof
open Opt OptSem Ir

variable {w : Nat}

/-- A step that emits no nested block records no node, so `AStep` holds trivially (`AStep.of_noBlocks`); the shape facts
come from the `NStep` lemmas of `OptRbShape2.lean` / `OptRbShape3.lean`.  The lemmas up to `loopPrep_an` are its
instances for the block-free operations. -/
theorem AStep.of_nstep {V : State w → Prop} {s s' : Rebuild w} (h : NStep s s') :
    ∃ new, s'.insts = s.insts ++ new ∧ (∀ i ∈ new, C01Dse.isBlock i = false) ∧ AStep V s s' new := by
  obtain ⟨new, e, hb⟩ := h.insts
  exact ⟨new, e, hb, AStep.of_noBlocks hb h.subAnal⟩

theorem emit_an {V : State w → Prop} {s : Rebuild w} (ps : List (Rebuild w)) (var : Int) {os os' : Orders}
    {s' : Rebuild w} (hr : (emit s ps var).run os = .ok (s', os')) (hwf : Wf s) :
    ∃ new, s'.insts = s.insts ++ new ∧ (∀ i ∈ new, C01Dse.isBlock i = false) ∧ AStep V s s' new :=
  AStep.of_nstep (emit_nstep ps var hr hwf)

theorem emitAll_an {V : State w → Prop} (ps : List (Rebuild w)) (vars : List Int) {s : Rebuild w}
    {os os' : Orders} {s' : Rebuild w} (hr : (emitAll ps vars s).run os = .ok (s', os')) (hwf : Wf s) :
    ∃ new, s'.insts = s.insts ++ new ∧ (∀ i ∈ new, C01Dse.isBlock i = false) ∧ AStep V s s' new :=
  AStep.of_nstep (emitAll_nstep ps vars hr hwf)

theorem emitReadAll_an {V : State w → Prop} (ps : List (Rebuild w)) (vars : List Int) {s : Rebuild w}
    {os os' : Orders} {s' : Rebuild w} (hr : (emitReadAll ps vars s).run os = .ok (s', os')) (hwf : Wf s) :
    ∃ new, s'.insts = s.insts ++ new ∧ (∀ i ∈ new, C01Dse.isBlock i = false) ∧ AStep V s s' new :=
  AStep.of_nstep (emitReadAll_nstep ps vars hr hwf)

theorem clobber_an {V : State w → Prop} {s : Rebuild w} (ps : List (Rebuild w)) (var : Int) (maybe : Bool)
    {os os' : Orders} {s' : Rebuild w} (hr : (clobber s ps var maybe).run os = .ok (s', os')) (hwf : Wf s) :
    ∃ new, s'.insts = s.insts ++ new ∧ (∀ i ∈ new, C01Dse.isBlock i = false) ∧ AStep V s s' new :=
  AStep.of_nstep (clobber_nstep ps var maybe hr hwf)

theorem clobberAll_an {V : State w → Prop} (ps : List (Rebuild w)) (vars : List (Int × Bool)) {s : Rebuild w}
    {os os' : Orders} {s' : Rebuild w} (hr : (clobberAll ps vars s).run os = .ok (s', os')) (hwf : Wf s) :
    ∃ new, s'.insts = s.insts ++ new ∧ (∀ i ∈ new, C01Dse.isBlock i = false) ∧ AStep V s s' new :=
  AStep.of_nstep (clobberAll_nstep ps vars hr hwf)

theorem clobberPhase_an {V : State w → Prop} {s : Rebuild w} {ps : List (Rebuild w)} {sub : Rebuild w}
    {L : OptLoop w} {C : List Int} {os os' : Orders} {s' : Rebuild w}
    (hr : (clobberPhase s ps sub L C).run os = .ok (s', os')) (hwf : Wf s) :
    ∃ new, s'.insts = s.insts ++ new ∧ (∀ i ∈ new, C01Dse.isBlock i = false) ∧ AStep V s s' new :=
  AStep.of_nstep (clobberPhase_nstep hr hwf)

theorem rebuildInstr_straight_an {V : State w → Prop} {ps : List (Rebuild w)} {s : Rebuild w} {i : Instr w}
    {os os' : Orders} {s' : Rebuild w} (hr : (rebuildInstr ps s i).run os = .ok (s', os')) (hwf : Wf s)
    (hb : C01Dse.isBlock i = false) :
    ∃ new, s'.insts = s.insts ++ new ∧ (∀ i ∈ new, C01Dse.isBlock i = false) ∧ AStep V s s' new :=
  AStep.of_nstep (rebuildInstr_nstep hr hwf hb)

/-- The parent's preparation in `loopOrIf` (both modes). -/
theorem loopPrep_an {V : State w → Prop} {s : Rebuild w} {ps : List (Rebuild w)} {sub : Rebuild w} {cond : Int}
    {L : OptLoop w} {C : List Int} {os os' : Orders} {r : Rebuild w × Rebuild w × List Int}
    (hr : (loopPrep s ps sub cond L C).run os = .ok (r, os')) (hwf : Wf s) :
    ∃ new, r.1.insts = s.insts ++ new ∧ (∀ i ∈ new, C01Dse.isBlock i = false) ∧ AStep V s r.1 new :=
  AStep.of_nstep (loopPrep_nstep hr hwf).1

/-- Block-free code around a piece of code with nodes. -/
theorem analInL_sandwich {G : State w → Prop} {pre mid post : List (Instr w)} {subs : List (OptAnalysis w)}
    (hpre : ∀ i ∈ pre, C01Dse.isBlock i = false) (hpost : ∀ i ∈ post, C01Dse.isBlock i = false)
    (hs : ShapeL mid subs) (h : AnalInL (AfterG G pre) mid subs) :
    ShapeL (pre ++ (mid ++ post)) subs ∧ AnalInL G (pre ++ (mid ++ post)) subs := by
  have e : subs = [] ++ (subs ++ []) := by simp
  refine ⟨?_, ?_⟩
  · rw [e]
    exact shapeL_append (shapeL_nonblocks hpre) (shapeL_append hs (shapeL_nonblocks hpost))
  · rw [e]
    exact (analInL_append (shapeL_nonblocks hpre)).2
      ⟨analInL_noBlocks hpre, (analInL_append hs).2 ⟨h, analInL_noBlocks hpost⟩⟩

theorem inline_stay_an {shP shC cS : Int} {bodyS : List (Instr w)}
    {s : Rebuild w} {ps : List (Rebuild w)} {sub : Rebuild w} {pc : List (Rebuild w)} {sub0 : Rebuild w}
    {os os' : Orders} {s' : Rebuild w} {G Gc : State w → Prop}
    (hr : (Opt.inline s ps sub).run os = .ok (s', os'))
    (hwf : Wf s) (hpre : ChildPre Gc shP shC pc sub0 sub cS bodyS)
    (hne : ∀ M0 σE σS, RelAt shP s ps M0 σE σS → G σS → σS.rd cS ≠ 0#w)
    (hGc : ∀ M0 σE σS, RelAt shP s ps M0 σE σS → G σS → Gc σS)
    (hsa0 : sub0.subAnal = [])
    (hcA : AStep (ValidG Gc shP sub0 pc) sub0 sub sub.insts) :
    ∃ new, s'.insts = s.insts ++ new ∧ AStep (ValidG G shP s ps) s s' new := by
  rw [inline_eq, if_neg (by rw [hpre.noShift]; simp), run_bind_ok] at hr
  obtain ⟨s1, os1, h1, h2⟩ := hr
  have n1 := emitReadAll_nstep ps _ h1 hwf
  obtain ⟨ha, _⟩ := inlineRest_subAnal h2 n1.wf
  obtain ⟨s2, os2, s4, h3, h4, rfl⟩ := inlineRest_run h2
  have hcp := inline_clobberPhase h3
  obtain ⟨comps, acc, _, _, preads⟩ := inline_prep_acc hwf hpre.wf h1 hcp
  have p1 := acc.insts
  have pwf := acc.wf
  have hsem := (calcs_elim p1 (inline_sem_ctx hwf hpre h1 hcp) (fun _ p => p.1)).2
  have hwf3 := writtenCalcs_insts_wf pwf ps (knownsOf sub) (s2.insts ++ sub.insts)
  obtain ⟨w1, w2, _⟩ := writtenCalcs_eq ({ s2 with insts := s2.insts ++ sub.insts } : Rebuild w) ps (knownsOf sub)
  obtain ⟨S3, hS3⟩ : ∃ x, x = writtenCalcs ({ s2 with insts := s2.insts ++ sub.insts } : Rebuild w) ps
    (knownsOf sub) := ⟨_, rfl⟩
  rw [← hS3] at h4 hwf3 w1 w2
  have w2' : S3.reads = s2.reads := w2
  have wss : S3.subShift = s2.subShift := w1.subShift
  have wins : S3.insts = s2.insts ++ sub.insts := w1.insts
  obtain ⟨c3, i3, _, f3⟩ := inlineEnd_foot h4 hwf3
  obtain ⟨hshape, hAn⟩ := hcA.child hsa0
  have hinsts : ({ s4 with subAnal := s4.subAnal ++ sub.subAnal } : Rebuild w).insts =
      s.insts ++ (comps.map Instr.calc ++ (sub.insts ++ c3.map Instr.calc)) := by
    show s4.insts = _
    rw [i3, wins, p1]
    simp only [List.append_assoc]
  -- the states in which the child's code starts mirror child-valid states
  have hmir : ∀ τ2, AfterG (MirV (ValidG G shP s ps) s
      ({ s4 with subAnal := s4.subAnal ++ sub.subAnal } : Rebuild w)) (comps.map Instr.calc) τ2 →
      MirV (ValidG Gc shP sub0 pc) sub0 sub τ2 := by
    rintro τ2 ⟨σ2, ⟨σ1, K, hv1, hK, hKs, hag⟩, hex⟩
    rw [exec_calcs_fin hex]
    obtain ⟨M0, σS, hrel, hg⟩ := hv1
    obtain ⟨hvX, _, hXp, hXe, hXt, hXr, _⟩ :=
      hsem M0 σ1 σS hrel (hne M0 σ1 σS hrel hg) (hGc M0 σ1 σS hrel hg)
    have hmir1 : MirV (ValidG Gc shP sub0 pc) sub0 sub (comps.foldl doCalc σ1) := by
      refine ⟨σS.mov (-shP), fun v => memE (σS.mov (-shP)) v ≠ memE (comps.foldl doCalc σ1) v, hvX,
        fun v h hr' => h (hXr v hr'), fun hs => ?_, hXp, hXe, hXt, ?_⟩
      · rw [hpre.noShift] at hs; cases hs
      · intro v hv
        exact Classical.not_not.1 (fun h => hv ((rest_fresh hpre.w0 v).2 h))
    cases hs4 : s4.subShift with
    | false =>
      have hs3 : S3.subShift = false := f3.mono.2 hs4
      have hs2 : s2.subShift = false := by rw [← wss]; exact hs3
      have hK2 : ∀ v, K v → v ∉ s2.reads := fun v hv hr' => hK v hv (f3.mono.1 v (by rw [w2']; exact hr'))
      have hX := prep_agree (R := fun v => v ∈ sub.reads) acc hs2 (fun v hv => (preads hs2 v hv).1) K hK2 σ1 σ2 hag
      refine MirV.of_agree hpre.w0 hmir1 hX (fun v h => h.1) (fun hs => ?_)
      rw [hpre.noShift] at hs; cases hs
    | true =>
      have he : StEq σ1 σ2 := hag.stEq_of_empty (fun v hv' => hKs hs4 v hv'.1)
      refine MirV.of_agree (X := fun _ => False) hpre.w0 hmir1 (AgreeOff.of_stEq (he.foldl_doCalc comps))
        (fun _ h => h.elim) (fun _ _ h => h)
  obtain ⟨hsh, han⟩ := analInL_sandwich (G := MirV (ValidG G shP s ps) s
      ({ s4 with subAnal := s4.subAnal ++ sub.subAnal } : Rebuild w)) (noBlocks_calcs comps) (noBlocks_calcs c3)
    hshape (analInL_mono hmir hAn)
  exact ⟨_, hinsts, ⟨sub.subAnal, by rw [ha, n1.subAnal], hsh, han⟩⟩

/-- Child moves the pointer: the parent has emitted everything, the child's code starts in a state
that IS (up to the representation of the tape) child-valid. -/
theorem inline_shift_an {shP cS : Int}
    {s : Rebuild w} {ps : List (Rebuild w)} {sub : Rebuild w} {pc : List (Rebuild w)} {sub0 : Rebuild w}
    {os os' : Orders} {s' : Rebuild w} {G Gc : State w → Prop}
    (hr : (Opt.inline s ps sub).run os = .ok (s', os'))
    (hwf : Wf s) (hss : sub.subShift = true)
    (hentry : EntryAt Gc shP cS pc sub0)
    (hne : ∀ M0 σE σS, RelAt shP s ps M0 σE σS → G σS → σS.rd cS ≠ 0#w)
    (hGc : ∀ M0 σE σS, RelAt shP s ps M0 σE σS → G σS → Gc σS)
    (hsa0 : sub0.subAnal = [])
    (hcA : AStep (ValidG Gc shP sub0 pc) sub0 sub sub.insts) :
    ∃ new, s'.insts = s.insts ++ new ∧ AStep (ValidG G shP s ps) s s' new := by
  obtain ⟨hsub', _⟩ := inline_shift_void hr hwf hss
  rw [inline_eq, if_pos hss, run_bind_ok] at hr
  obtain ⟨s0, os0, h0, h1⟩ := hr
  rw [run_bind_ok] at h1
  obtain ⟨s1, os1, h1', h2⟩ := h1
  rw [run_pure] at h1'
  cases h1'
  obtain ⟨cP, resP, hclP⟩ := emitAll_clears ps (pendingSorted s s) hwf
    (fun k hk => (Hpbf.OptLoop.mem_pendingSorted s s k).2 hk) h0
  obtain ⟨_, _, _, u4, _, _, _, u8, _, _⟩ := uncertainShift_fields s0
  have hwf1 := uncertainShift_wf resP.wf
  obtain ⟨ha, _⟩ := inlineRest_subAnal h2 hwf1
  obtain ⟨s2, os2, s4, h3, h4, rfl⟩ := inlineRest_run h2
  obtain ⟨i1, i2, i3, _⟩ := cfold_spec ps (OptLoop.unknown true) [] sub.written (uncertainShift s0, []) hwf1
  rw [← ifold_eq] at i1 i2 i3
  have hpf : (sub.written.foldl ifold (uncertainShift s0, [])).1.pending = [] := by
    apply mGet_all_none_nil
    intro k
    cases h : mGet (sub.written.foldl ifold (uncertainShift s0, [])).1.pending k with
    | none => rfl
    | some e =>
      have := i3 k e h
      rw [u4, hclP] at this; simp [mGet] at this
  obtain ⟨c1, _, c3', _⟩ := clobberAll_nopending ps _ i1 hpf h3
  have hwf3 := writtenCalcs_insts_wf c1 ps (knownsOf sub) (s2.insts ++ sub.insts)
  obtain ⟨w1, _, _⟩ := writtenCalcs_eq ({ s2 with insts := s2.insts ++ sub.insts } : Rebuild w) ps (knownsOf sub)
  obtain ⟨c3, i3', _, _⟩ := inlineEnd_foot h4 hwf3
  obtain ⟨hshape, hAn⟩ := hcA.child hsa0
  have hinsts : ({ s4 with subAnal := s4.subAnal ++ sub.subAnal } : Rebuild w).insts =
      s.insts ++ (cP.map Instr.calc ++ (sub.insts ++ c3.map Instr.calc)) := by
    show s4.insts = _
    rw [i3', w1.insts]
    show s2.insts ++ sub.insts ++ _ = _
    rw [c3', i2.insts, u8, resP.insts]
    simp only [List.append_assoc]
  have hmir : ∀ τ2, AfterG (MirV (ValidG G shP s ps) s
      ({ s4 with subAnal := s4.subAnal ++ sub.subAnal } : Rebuild w)) (cP.map Instr.calc) τ2 →
      MirV (ValidG Gc shP sub0 pc) sub0 sub τ2 := by
    rintro τ2 ⟨σ2, hm2, hex⟩
    rw [exec_calcs_fin hex]
    obtain ⟨σ1, ⟨M0, σS, hrel, hg⟩, he⟩ := hm2.stEq_of_subShift hsub'
    have hsm : SameMem shP σS (cP.foldl doCalc σ1) := (resP.relAt hrel).sameMem hclP
    obtain ⟨M0c, hre⟩ := hentry _ σS hsm (hne M0 σ1 σS hrel hg) (hGc M0 σ1 σS hrel hg)
    exact ⟨cP.foldl doCalc σ1, fun _ => False, ⟨M0c, σS, hre, hGc M0 σ1 σS hrel hg⟩, fun _ h => h.elim,
      fun _ _ h => h, AgreeOff.of_stEq (he.foldl_doCalc cP)⟩
  obtain ⟨hsh, han⟩ := analInL_sandwich (G := MirV (ValidG G shP s ps) s
      ({ s4 with subAnal := s4.subAnal ++ sub.subAnal } : Rebuild w)) (noBlocks_calcs cP) (noBlocks_calcs c3)
    hshape (analInL_mono hmir hAn)
  refine ⟨_, hinsts, ⟨sub.subAnal, ?_, hsh, han⟩⟩
  rw [ha]
  show s0.subAnal ++ sub.subAnal = _
  rw [resP.subAnal]

end OptProof
end Hpbf

#print axioms Hpbf.OptProof.inline_stay_an
#print axioms Hpbf.OptProof.inline_shift_an
#print axioms Hpbf.OptProof.rebuildInstr_straight_an
