/-
C03 (control flow): `mov` WITH bounds check (`safe`): the probe (`lea; sub; sar; cmp; jb rel8`) and the
body that calls `hpbf_context_extend` and reloads the tape pointer. `C09` is imported for the closed form of the
growth of the allocation (`Mem.growth_eq_of_noWrap`, in `growth_probe`).
-/
import Hpbf.Proofs.C03FlowIO
import Hpbf.Proofs.C09
import Hpbf.Proofs.C03FlowStraight
namespace Hpbf
namespace C03
open Asm JitGen X86Sem X86Prog
variable {w : Nat}


/-- "The tape allocation is far from filling the address space": what the bounds-checked `mov` needs so that
its 64-bit index arithmetic does not wrap. `2^40` is a round number with room to spare: with `|sh|, |pr| < 2^31` the
probe index `q = lptr + sh - base + pr` stays below `2^41` in absolute value, inside the bound of `sar_mul`
(`2^59`: `8 * q` is an `i64`), of `probe_test` (`2^62`: a negative `q`, read as unsigned, is above every size) and
of `growth_probe` / `extend_probe` (`2^60`: `Mem.growth` does not wrap and the new size is below `2^62`). -/
def Bnd (s : PState w) : Prop :=
  s.size.toNat < 2 ^ 40 ∧ -(2 ^ 40) < s.lptr - s.base ∧ s.lptr - s.base < 2 ^ 40

theorem toInt_ofInt_small {q : Int} (h : -(2 ^ 63) ≤ q ∧ q < 2 ^ 63) : (BitVec.ofInt 64 q).toInt = q := by
  rw [BitVec.toInt_ofInt]
  exact Int.bmod_eq_of_le (by omega) (by omega)

theorem toNat_ofInt_small {q : Int} (h : -(2 ^ 63) ≤ q ∧ q < 2 ^ 63) :
    ((BitVec.ofInt 64 q).toNat : Int) = if 0 ≤ q then q else q + 2 ^ 64 := by
  rw [BitVec.toNat_ofInt]
  split <;> omega

/-- Arithmetic shift undoes the multiplication by the cell size. -/
theorem sar_mul {k : Nat} (hk : k ≤ 3) {q : Int} (h : -(2 ^ 59) ≤ q ∧ q < 2 ^ 59) :
    (BitVec.ofInt 64 ((2 ^ k : Nat) * q)).sshiftRight k = BitVec.ofInt 64 q := by
  apply BitVec.eq_of_toInt_eq
  have hk' : k = 0 ∨ k = 1 ∨ k = 2 ∨ k = 3 := by omega
  rw [BitVec.toInt_sshiftRight, Int.shiftRight_eq_div_pow, toInt_ofInt_small (q := q) (by omega)]
  rcases hk' with rfl | rfl | rfl | rfl
  · rw [toInt_ofInt_small (by simp only [Nat.pow_zero]; omega)]; simp
  · rw [toInt_ofInt_small (by simp only [Nat.pow_one]; omega)]; simp only [Nat.pow_one]; omega
  · rw [toInt_ofInt_small (by simp only [show (2:Nat)^2 = 4 from rfl]; omega)]
    simp only [show (2:Nat)^2 = 4 from rfl]; omega
  · rw [toInt_ofInt_small (by simp only [show (2:Nat)^3 = 8 from rfl]; omega)]
    simp only [show (2:Nat)^3 = 8 from rfl]; omega

/-- The unsigned comparison of the probe index with the size is the bounds test. -/
theorem probe_test {q : Int} (h : -(2 ^ 62) ≤ q ∧ q < 2 ^ 62) {n : Nat} (hn : n < 2 ^ 62) :
    decide ((BitVec.ofInt 64 q).toNat < n) = (decide (0 ≤ q) && decide (q < n)) := by
  have := toNat_ofInt_small (q := q) (by omega)
  by_cases h0 : 0 ≤ q
  · simp only [h0, if_true] at this
    simp only [h0, decide_true, Bool.true_and]
    congr 1
    apply propext
    omega
  · simp only [h0, if_false] at this
    simp only [h0, decide_false, Bool.false_and, decide_eq_false_iff_not]
    omega

/-- `make_accessible(0, 1)` with `offset` = index `q` of a cell outside `[0, size)`: the allocation grows,
by `ab` cells below. -/
theorem growth_probe {q : Int} (h : -(2 ^ 60) ≤ q ∧ q < 2 ^ 60) {n : Nat} (hn : n < 2 ^ 60)
    (hout : ¬ (0 ≤ q ∧ q < n)) :
    let g := ({ buf := #[], size := n, offset := (BitVec.ofInt 64 q).toNat } : Mem 8).growth 0 1
    ¬ (g.1 = 0 ∧ g.2.1 = 0) ∧ g.2.2.2 < 2 ^ 62 ∧ g.2.2.1 < 2 ^ 62 ∧
      (0 ≤ q + g.2.2.2 ∧ q + g.2.2.2 < g.2.2.1) := by
  have hoff := toNat_ofInt_small (q := q) (by omega)
  have a1 : asI64 (BitVec.ofInt 64 q).toNat = q := by
    unfold asI64 two63 two64
    split <;> split at hoff <;> omega
  rw [Mem.growth_eq_of_noWrap (by show (n : Int) < _; omega) (by rw [a1]; omega) (by rw [a1]; omega)
    (by rw [a1]; omega) (by rw [a1]; omega)]
  simp only [Mem.growthSpec, Mem.addedBelow, Mem.newSize, Mem.neededBelow, Mem.neededAbove, a1]
  clear hoff a1
  by_cases hneg : q < 0
  · have e1 : (q + 1 - n).toNat = 0 := by omega
    have e2 : (-(q + 0)).toNat = q.natAbs := by omega
    have e3 : q.natAbs ≠ 0 := by omega
    simp only [e1, e2, if_neg e3, if_true, Nat.add_zero]
    omega
  · have e1 : (-(q + 0)).toNat = 0 := by omega
    simp only [e1, if_true, Nat.zero_add]
    omega

def probeCode (sz : Size) (sh pr : Int) : List X86 :=
  [addImm64 (.reg memr) ((sz.bytes : Int) * sh),
   .lea scr0 (.mem (some memr) none 1 ((sz.bytes : Int) * pr)),
   sub64 scr0 (.mem (some cxt) none 1 0)] ++
  (if sz != .b8 then [.sarRmImm8 (.reg scr0) (Nat.log2 sz.bytes)] else []) ++
  [.cmpRRm scr0 (.mem (some cxt) none 1 8)]

theorem bytes_pow (sz : Size) : sz.bytes = 2 ^ Nat.log2 sz.bytes ∧ Nat.log2 sz.bytes ≤ 3 ∧
    ((sz != .b8) = false → Nat.log2 sz.bytes = 0) ∧ ((sz != .b8) = true → 0 < Nat.log2 sz.bytes) := by
  cases sz <;> refine ⟨by decide, by decide, by decide, by decide⟩

theorem mov_probe {cfg : Cfg} {sz : Size} (hsz : sz.bits = w) {sh pr : Int}
    (hsh : -2147483648 ≤ sh ∧ sh < 2147483648) (hpr : -2147483648 ≤ pr ∧ pr < 2147483648) {s : PState w}
    (hf1 : (addImm64 (.reg memr) ((sz.bytes : Int) * sh)).fits = true)
    (hf2 : (X86.lea scr0 (.mem (some memr) none 1 ((sz.bytes : Int) * pr))).fits = true)
    (hrbx : s.regs.rbx = cfg.cxtAddr) (hphys : Phys s) (hbnd : Bnd s) :
    ∃ s5, Blk cfg (probeCode sz sh pr) s s5 ∧ Moved s s5 sh ∧ s5.off = s.off ∧
      s5.regs.get .rax = BitVec.ofInt 64 (s.lptr + sh - s.base + pr) ∧
      s5.cf = some (decide (0 ≤ s.lptr + sh - s.base + pr) && decide (s.lptr + sh - s.base + pr < s.size.toNat)) := by
  obtain ⟨hb1, hb2⟩ := hbnd
  obtain ⟨hb, hb0⟩ := bytes_eq hsz
  obtain ⟨hpow, hk3, hk0, hk1⟩ := bytes_pow sz
  obtain ⟨q, hq⟩ : ∃ q, q = s.lptr + sh - s.base + pr := ⟨_, rfl⟩
  rw [← hq]
  -- add rbp; lea rax; sub rax, buf
  obtain ⟨s3, b3, e3⟩ : ∃ s3, Blk cfg [addImm64 (.reg memr) ((sz.bytes : Int) * sh),
      .lea scr0 (.mem (some memr) none 1 ((sz.bytes : Int) * pr)), sub64 scr0 (.mem (some cxt) none 1 0)] s s3 ∧
      s3 = _ :=
    ⟨_, .cons (si_addRbp hsz hf1) rfl (.cons (si_lea (r := scr0) (b := memr) (by decide) hf2) rfl
      (.one (si_subCxt (r := scr0) (d := 0) (v := s.buf) (by decide) (by exact hrbx) (by rfl) (by omega)) rfl)), rfl⟩
  have hm3 : Moved s s3 sh := by
    rw [e3]
    refine ⟨fun r h1 _ h3 => by simp [scr0, memr, h1, h3], ?_, rfl, rfl, rfl, rfl, rfl, rfl, rfl, rfl, rfl, rfl⟩
    simp [hb, scr0, memr]
  have hoff3 : s3.off = s.off := by rw [e3]
  have hrax3 : s3.regs.get .rax = BitVec.ofInt 64 ((sz.bytes : Int) * q) := by
    rw [e3]
    simp only [scr0, memr, regfile_set_get, if_true, reduceCtorEq, if_false, immVal]
    have hp := hphys
    unfold Phys at hp
    rw [show s.regs.get .rbp = s.regs.rbp from rfl, hp]
    have : s.buf + BitVec.ofInt 64 (cellBytes w * (s.lptr - s.base)) + BitVec.ofInt 64 (↑sz.bytes * sh) +
        BitVec.ofInt 64 (↑sz.bytes * pr) - s.buf =
        BitVec.ofInt 64 (cellBytes w * (s.lptr - s.base)) + BitVec.ofInt 64 (↑sz.bytes * sh) +
        BitVec.ofInt 64 (↑sz.bytes * pr) := by
      rw [BitVec.add_assoc, BitVec.add_assoc, add_sub_self, BitVec.add_assoc]
    rw [this, hb, ← BitVec.ofInt_add, ← BitVec.ofInt_add, hq]
    congr 1
    rw [Int.mul_sub, Int.mul_add, Int.mul_sub, Int.mul_add]; omega
  have hqb : -(2 ^ 41) < q ∧ q < 2 ^ 41 := by rw [hq]; omega
  have hrbx3 : s3.regs.rbx = cfg.cxtAddr := (hm3.regs .rbx (by decide) (by decide) (by decide)).trans hrbx
  -- optional sar
  have hsar : ∃ s4, Blk cfg (if sz != .b8 then [X86.sarRmImm8 (.reg scr0) (Nat.log2 sz.bytes)] else []) s3 s4 ∧
      Moved s s4 sh ∧ s4.off = s.off ∧ s4.regs.get .rax = BitVec.ofInt 64 q ∧ s4.regs.rbx = cfg.cxtAddr := by
    by_cases h8 : (sz != .b8) = true
    · simp only [h8, if_true]
      refine ⟨_, .one (si_sar (r := scr0) (by decide) ⟨hk1 h8, by omega⟩) rfl,
        hm3.sameTmp ⟨fun r h1 _ => by simp [scr0, h1], rfl, rfl, rfl, rfl, rfl, rfl, rfl, rfl, rfl⟩ rfl, hoff3, ?_, hrbx3⟩
      simp only [scr0, regfile_set_get, if_true]
      rw [hrax3, show ((sz.bytes : Nat) : Int) = ((2 ^ Nat.log2 sz.bytes : Nat) : Int) by rw [← hpow]]
      exact sar_mul hk3 (by omega)
    · have h8' : (sz != .b8) = false := by simpa using h8
      simp only [h8', Bool.false_eq_true, if_false]
      refine ⟨s3, .nil _, hm3, hoff3, ?_, hrbx3⟩
      rw [hrax3, show sz.bytes = 1 by rw [hpow, hk0 h8']]; simp
  obtain ⟨s4, b4, hm4, hoff4, hrax4, hrbx4⟩ := hsar
  -- cmp rax, size
  obtain ⟨s5, b5, e5⟩ : ∃ s5, Blk cfg [.cmpRRm scr0 (.mem (some cxt) none 1 8)] s4 s5 ∧ s5 = _ :=
    ⟨_, .one (si_cmpCxt (r := scr0) (d := 8) (v := s4.size) hrbx4 rfl (by omega)) rfl, rfl⟩
  refine ⟨s5, by simpa [probeCode] using (b3.append b4).append b5, hm4.sameTmp ?_ (by rw [e5]; rfl),
    by rw [e5]; exact hoff4, by rw [e5]; exact hrax4, ?_⟩
  · rw [e5]; exact ⟨fun r _ _ => rfl, rfl, rfl, rfl, rfl, rfl, rfl, rfl, rfl, rfl⟩
  · rw [e5]; show (cmpFlags s4 64 _ _).cf = _
    rw [cmpFlags_cf64, show s4.regs.get scr0 = s4.regs.get .rax from rfl, hrax4, hm4.size,
      probe_test (by omega) (by omega)]

theorem extend_probe (cfg : Cfg) {s : PState w} {q : Int} (hoff : s.off = BitVec.ofInt 64 q)
    (hq : -(2 ^ 60) ≤ q ∧ q < 2 ^ 60) (hn : s.size.toNat < 2 ^ 60) (hout : ¬ (0 ≤ q ∧ q < s.size.toNat)) :
    ∃ ab ns : Nat, extend cfg s 0 1 =
        { s with buf := cfg.newBuf s.buf, size := BitVec.ofNat 64 ns,
                 off := BitVec.ofNat 64 (s.off.toNat + ab), base := s.base - (ab : Int), tapeOk := false } ∧
      (BitVec.ofNat 64 (s.off.toNat + ab)).toInt = q + ab ∧ 0 ≤ q + ab ∧ q + (ab : Int) < ns ∧ ns < 2 ^ 62 := by
  have hg := growth_probe hq hn hout
  simp only at hg
  obtain ⟨h1, h2, h3, h4, h5⟩ := hg
  refine ⟨_, _, ?_, ?_, h4, h5, h3⟩
  · unfold extend
    simp only [hoff]
    rw [if_neg h1]
  · have ht := toNat_ofInt_small (q := q) (by omega)
    rw [hoff]
    rw [BitVec.toInt_ofNat']
    generalize hab : (({ buf := #[], size := s.size.toNat, offset := (BitVec.ofInt 64 q).toNat } : Mem 8).growth 0 1).2.2.2 = ab at *
    have : (((BitVec.ofInt 64 q).toNat + ab : Nat) : Int) = (BitVec.ofInt 64 q).toNat + ab := by push_cast; rfl
    rw [this, ht]
    split
    · exact Int.bmod_eq_of_le (by omega) (by omega)
    · rw [show q + 2 ^ 64 + (ab : Int) = (q + ab) + 2 ^ 64 by omega]
      rw [show ((2 : Int) ^ 64) = ((2 ^ 64 : Nat) : Int) by norm_cast, Int.add_bmod_right]
      exact Int.bmod_eq_of_le (by omega) (by omega)


/-- The list `movBody` of `C03FlowLayout` with the `i32` conversion of the displacement resolved and the address
as a `BitVec 64` (through `callCode`); its size is bounded by `skip8_body_le`. -/
def bodyCode (sz : Size) (aE : BitVec 64) (pr : Int) (pre post : List X86) : List X86 :=
  [st64 (.mem (some cxt) none 1 16) scr0] ++ callCode pre post [.movRImm64 .rsi 0, .movRImm64 .rdx 1] aE ++
    [mov64 memr (.mem (some cxt) none 1 0), mov64 scr0 (.mem (some cxt) none 1 16),
     .lea memr (.mem (some memr) (some scr0) sz.bytes ((sz.bytes : Int) * (-pr)))]

/-- The body: store the probe index, save registers, `hpbf_context_extend(cxt, 0, 1)`, restore, reload the
tape pointer from the (new) buffer and the (shifted) index. -/
theorem mov_body (K : Ctx w) {fr : Frame} {sz : Size} (hsz : sz.bits = w) {pr : Int}
    {live : Nat} {rs : List Reg} {pre post : List X86}
    (hrs : savedRegs live = some rs) (hpre : preCall live = some pre) (hpost : postCall live = some post)
    {s : PState w}
    (hfa : (X86.movRImm64 scr0 (BitVec.ofNat 64 K.cfg.aE.toNat).toInt).fits = true)
    (hfl : (X86.lea memr (.mem (some memr) (some scr0) sz.bytes ((sz.bytes : Int) * (-pr)))).fits = true)
    (hF : Framed K fr s)
    {q : Int} (hrax : s.regs.get .rax = BitVec.ofInt 64 q) (hq : -(2 ^ 60) ≤ q ∧ q < 2 ^ 60)
    (hn : s.size.toNat < 2 ^ 60) (hout : ¬ (0 ≤ q ∧ q < s.size.toNat)) :
    ∃ s', Blk K.cfg (bodyCode sz K.cfg.aE pr pre post) s s' ∧ Framed K fr s' ∧ s'.stk = s.stk ∧
      (∀ r ∈ rs, s'.regs.get r = s.regs.get r) ∧
      (∀ r, r = .r12 ∨ r = .r13 ∨ r = .r14 ∨ r = .r15 → s'.regs.get r = s.regs.get r) ∧
      s'.tape = s.tape ∧ s'.lptr = s.base + q - pr ∧
      s'.env = s.env ∧ s'.trace = s.trace ∧ s'.budget = s.budget := by
  -- `call_seq`, `call_extend`, `extend_probe` and the rules `si_*` are stated for a variable `cfg`: generalising
  -- keeps the projection `K.cfg` out of the terms below
  obtain ⟨cfg, hcfg⟩ : ∃ cfg, cfg = K.cfg := ⟨_, rfl⟩
  rw [← hcfg] at hfa ⊢
  have hrbx : s.regs.rbx = cfg.cxtAddr := hcfg ▸ hF.rbx
  have hal : s.regs.rsp.toNat % 16 = 0 := by rw [hF.rsp]; exact hF.align
  have hEI : cfg.aE ≠ cfg.aI := hcfg ▸ K.hEI
  have hEO : cfg.aE ≠ cfg.aO := hcfg ▸ K.hEO
  obtain ⟨hb, hb0⟩ := bytes_eq hsz
  have hbc0 : cellBytes w ≠ 0 := by rw [← hb]; exact_mod_cast hb0
  -- mov [rbx+16], rax
  obtain ⟨s1, b1, e1⟩ : ∃ s1, Blk cfg [st64 (.mem (some cxt) none 1 16) scr0] s s1 ∧ s1 = _ :=
    ⟨_, .one (si_storeOff hrbx) rfl, rfl⟩
  -- save, `hpbf_context_extend(cxt, 0, 1)`, restore
  obtain ⟨s8, s7, b8, ⟨ab, hbuf7, hoff7, hbase7⟩, hk8, h8⟩ := call_seq (cfg := cfg) (args := [.movRImm64 .rsi 0, .movRImm64 .rdx 1]) (ret := cfg.junk .rax)
    (env := s.env) (trace := s.trace) hrs hpre hpost (s := s1) hfa
    (show s1.regs.rbx = _ by rw [e1]; exact hrbx) (show s1.regs.rsp.toNat % 16 = 0 by rw [e1]; exact hal)
    (fun sb => (sb.regs.get .rsi).toInt = 0 ∧ (sb.regs.get .rdx).toInt = 1)
    (fun sa _ => ⟨_, .cons (si_movImm (r := .rsi) (v := 0) (by decide) (by decide)) rfl
      (.one (si_movImm (r := .rdx) (v := 1) (by decide) (by decide)) rfl),
      fun r h1 h2 => by simp [h1, h2], rfl, ⟨rfl, rfl, rfl, rfl, rfl, rfl, rfl, rfl, rfl, rfl⟩,
      by simp only [regfile_set_get, reduceCtorEq, if_false, if_true]; decide,
      by simp only [regfile_set_get, if_true]; decide⟩)
    (fun s3 => ∃ ab : Nat, s3.buf = cfg.newBuf s.buf ∧ s3.off.toInt = q + ab ∧ s3.base = s.base - (ab : Int))
    (fun sb s2 hQ hrsi hrdx _ hal2 hrdi hk => by
      have h7 := call_extend (x := .callInd (.reg scr0)) hEI hEO hal2 hrdi
      rw [show s2.regs.rsi = s2.regs.get .rsi from rfl, show s2.regs.rdx = s2.regs.get .rdx from rfl, hrsi, hrdx,
        hQ.1, hQ.2] at h7
      have hsz2 : s2.size = s.size := by rw [hk.size, e1]; rfl
      obtain ⟨ab, ns, hext, hoffInt, -, -, -⟩ := extend_probe cfg (s := s2) (by rw [hk.off, e1]; exact hrax) hq
        (by rw [hsz2]; exact hn) (by rw [hsz2]; exact hout)
      rw [hext] at h7
      refine ⟨_, h7, ⟨rfl, rfl, ?_, ?_, rfl, rfl, rfl, rfl⟩, ab, ?_, hoffInt, ?_⟩
      · show s2.env = s.env; rw [hk.env, e1]; rfl
      · show s2.trace = s.trace; rw [hk.trace, e1]; rfl
      · show cfg.newBuf s2.buf = _; rw [hk.buf, e1]; rfl
      · show s2.base - (ab : Int) = _; rw [hk.base, e1]; rfl)
  have hrbx8 : s8.regs.rbx = cfg.cxtAddr := by
    have := h8.callee .rbx (by simp)
    rw [e1] at this; exact this.trans hrbx
  -- mov rbp, [rbx+0]; mov rax, [rbx+16]; lea rbp, [rbp + rax*bytes + bytes*(-pr)]
  have hl : loadRbp s8 s8.buf = some { s8 with regs := s8.regs.set .rbp s8.buf, lptr := s8.base, tapeOk := true } := by
    unfold loadRbp
    simp only [BitVec.sub_self, BitVec.toInt_zero, hbc0, ne_eq, not_false_eq_true, Int.zero_emod, and_self,
      if_true, Int.zero_ediv, Int.add_zero]
  obtain ⟨s10, b10, e10⟩ : ∃ s10, Blk cfg [mov64 memr (.mem (some cxt) none 1 0),
      mov64 scr0 (.mem (some cxt) none 1 16)] s8 s10 ∧ s10 = _ :=
    ⟨_, .cons (si_loadRbpCxt (d := 0) (v := s8.buf) hrbx8 rfl (by omega) hl) rfl
      (.one (si_loadCxt (r := scr0) (d := 16) (v := s8.off) (by decide) (by exact hrbx8) (by rfl) (by omega)) rfl), rfl⟩
  have hrax10 : (s10.regs.get .rax).toInt = q + ab := by
    rw [e10]; simp only [PState.adv, PState.setReg, scr0, regfile_set_get, if_true]
    rw [hk8.off]; exact hoff7
  have hdelta : (s10.regs.get .rax).toInt * (sz.bytes : Nat) + (sz.bytes : Int) * (-pr) =
      cellBytes w * (q + ab - pr) := by
    rw [hrax10, hb, Int.mul_comm (q + ↑ab), ← Int.mul_add]
    congr 1
  have hm : moveRbp s10 ((s10.regs.get .rax).toInt * (sz.bytes : Nat) + (sz.bytes : Int) * (-pr)) =
      some { s10 with regs := s10.regs.set .rbp (s10.regs.get .rbp + BitVec.ofInt 64 (cellBytes w * (q + ab - pr))),
                      lptr := s10.lptr + (q + ab - pr) } := by
    unfold moveRbp
    rw [hdelta]
    simp only [hbc0, ne_eq, not_false_eq_true, Int.mul_emod_right, and_self, if_true,
      Int.mul_ediv_cancel_left _ hbc0]
  have hsc : sz.bytes = 1 ∨ sz.bytes = 2 ∨ sz.bytes = 4 ∨ sz.bytes = 8 := by cases sz <;> simp [Size.bytes]
  obtain ⟨s11, b11, e11⟩ : ∃ s11, Blk cfg [.lea memr (.mem (some memr) (some scr0) sz.bytes
      ((sz.bytes : Int) * (-pr)))] s10 s11 ∧ s11 = _ :=
    ⟨_, .one (si_leaRbp (i := scr0) (by decide) hfl hsc hm) rfl, rfl⟩
  have hk11 : ∀ r, r ≠ .rax → r ≠ .rbp → s11.regs.get r = s8.regs.get r := by
    intro r a1 a2
    rw [e11, e10]; simp [PState.adv, PState.setReg, scr0, a1, a2]
  have hstk : s11.stk = s.stk := by
    rw [e11, e10]; show s8.stk = _
    rw [h8.stk, e1]; rfl
  have hcallee : ∀ r, r = .rbx ∨ r = .rsp ∨ r = .r12 ∨ r = .r13 ∨ r = .r14 ∨ r = .r15 →
      s11.regs.get r = s.regs.get r := by
    intro r hr
    have hr' : r = .rbx ∨ r = .rsp ∨ r = .rbp ∨ r = .r12 ∨ r = .r13 ∨ r = .r14 ∨ r = .r15 := by
      rcases hr with h | h | h | h | h | h <;> simp [h]
    rw [hk11 r (by rintro rfl; simp at hr) (by rintro rfl; simp at hr), h8.callee r hr', e1]; rfl
  have hphys : Phys s11 := by
    unfold Phys
    have r1 : s11.regs.rbp = s8.buf + BitVec.ofInt 64 (cellBytes w * (q + ab - pr)) := by
      show s11.regs.get .rbp = _
      rw [e11, e10]; simp [PState.adv, PState.setReg, scr0]
    have r2 : s11.buf = s8.buf := by rw [e11, e10]; rfl
    have r3 : s11.lptr - s11.base = q + ab - pr := by
      rw [e11, e10]; simp only [PState.adv, PState.setReg]; omega
    rw [r1, r2, r3]
  refine ⟨s11, by simpa [bodyCode] using b1.append (b8.append (b10.append b11)),
    ⟨(hcallee .rbx (by simp)).trans hF.rbx, by rw [e11, e10]; rfl, (hcallee .rsp (by simp)).trans hF.rsp, hF.align,
      by rw [hstk]; exact hF.len, by rw [hstk]; exact hF.saved, hphys⟩, hstk, ?_,
    fun r hr => hcallee r (Or.inr (Or.inr hr)), ?_, ?_, ?_, ?_, ?_⟩
  · intro r hr
    rw [hk11 r (fun e => savedRegs_not_callee hrs (Or.inl e) hr) (savedRegs_ne hrs r hr).2, h8.saved r hr, e1]; rfl
  · rw [e11, e10]; show s8.tape = _
    rw [h8.tape, e1]; rfl
  · rw [e11, e10]; simp only [PState.adv, PState.setReg]
    rw [hk8.base, hbase7]; omega
  · rw [e11, e10]; exact h8.env
  · rw [e11, e10]; exact h8.trace
  · rw [e11, e10]; show s8.budget = _
    rw [h8.budget, e1]; rfl

theorem emit_mov_safe {sz : Size} {limited safe : Bool} (hsafe : safe = true) {minAcc maxAcc : Int}
    {aE : BitVec 64} {aI aO i live : Nat} {shift : Int} {its : List Item}
    (h : emitInstr (w := w) sz limited safe minAcc maxAcc aE.toNat aI aO i live (.mov shift) = some its)
    (hsh : -2147483648 ≤ shift ∧ shift < 2147483648)
    (hwin : -2147483648 < minAcc ∧ minAcc < 2147483648 ∧ -2147483648 < maxAcc ∧ maxAcc < 2147483648) :
    ∃ rs pre post pr, pr = (if shift < 0 then minAcc else maxAcc) ∧
      savedRegs live = some rs ∧ preCall live = some pre ∧ postCall live = some post ∧
      its = plains (probeCode sz shift pr) ++ [.skip8 .below (bodyCode sz aE pr pre post)] ∧
      (addImm64 (.reg memr) ((sz.bytes : Int) * shift)).fits = true ∧
      (X86.lea scr0 (.mem (some memr) none 1 ((sz.bytes : Int) * pr))).fits = true ∧
      (X86.movRImm64 scr0 (BitVec.ofNat 64 aE.toNat).toInt).fits = true ∧
      (X86.lea memr (.mem (some memr) (some scr0) sz.bytes ((sz.bytes : Int) * (-pr)))).fits = true := by
  subst hsafe
  obtain ⟨hraw, hfit⟩ := emitInstr_raw h
  simp only [emitInstrRaw, if_true] at hraw
  obtain ⟨pre, post, hpre, hpost, hraw⟩ := bind_bind_some hraw
  obtain ⟨rs, hrs⟩ := preCall_saved hpre
  obtain ⟨pr, hpr⟩ : ∃ pr, pr = (if shift < 0 then minAcc else maxAcc) := ⟨_, rfl⟩
  have hprr : -2147483648 < pr ∧ pr < 2147483648 := by rw [hpr]; split <;> omega
  rw [← hpr] at hraw
  rw [i32_eq hsh.1 hsh.2, i32_eq (show -2147483648 ≤ pr by omega) hprr.2,
    i32_eq (show -2147483648 ≤ -pr by omega) (show -pr < 2147483648 by omega)] at hraw
  have hits : its = plains (probeCode sz shift pr) ++ [.skip8 .below (bodyCode sz aE pr pre post)] := by
    rw [← hraw]; simp [probeCode, bodyCode, callCode]
  subst hits
  refine ⟨rs, pre, post, pr, hpr, hrs, hpre, hpost, rfl, ?_, ?_, ?_, ?_⟩
  · exact mem_all_fits hfit (by simp [plains, probeCode])
  · exact mem_all_fits hfit (by simp [plains, probeCode])
  · have := List.all_eq_true.1 hfit (.skip8 .below (bodyCode sz aE pr pre post)) (by simp)
    simp only [Item.fits] at this
    exact List.all_eq_true.1 this _ (by simp [bodyCode, callCode])
  · have := List.all_eq_true.1 hfit (.skip8 .below (bodyCode sz aE pr pre post)) (by simp)
    simp only [Item.fits] at this
    exact List.all_eq_true.1 this _ (by simp [bodyCode, callCode])


theorem flow_mov_checked (K : Ctx w) (hsafe : K.safe = true) {fr : Frame} {c : Bc.Cfg w} {s : PState w}
    {shift : Int} (hi : K.p.insts[c.pc]? = some (.mov shift))
    (hsh : -2147483648 ≤ shift ∧ shift < 2147483648)
    (hwin : -2147483648 < K.p.minAcc ∧ K.p.minAcc < 2147483648 ∧ -2147483648 < K.p.maxAcc ∧
      K.p.maxAcc < 2147483648)
    (hbnd : Bnd s) (hinv : Inv K fr c s) (hrel : Rel c (view s))
    {c' : Bc.Cfg w} (hstep : Bc.step K.p K.limited c = .next c') :
    ∃ lv n s', K.p.live[c.pc]? = some lv ∧ steps K.cfg (n + 1) s = some s' ∧ Inv K fr c' s' ∧
      RelOn (fun t => lv.testBit t = true) c' (view s') := by
  obtain ⟨lv, its, xs, hI⟩ := K.instrAt hi
  obtain ⟨rs, pre, post, pr, hpr, hrs, hpre, hpost, hits, hf1, hf2, hfa, hfl⟩ :=
    emit_mov_safe hsafe hI.emit hsh hwin
  have hprr : -2147483648 < pr ∧ pr < 2147483648 := by rw [hpr]; split <;> omega
  have hszb := K.hszb
  have ⟨hb1, hb2, hb3⟩ := hbnd
  have hres := hI.res
  have hnx := hI.next
  rw [hits] at hres hnx
  obtain ⟨ys, hxs, hres2⟩ := resolveItems_plains hres
  obtain ⟨y1, y2, hj, hres3, ey⟩ := resolveItems_cons _ _ _ hres2
  have e4 := resolveItems_nil' hres3
  subst e4
  simp only [JitGen.resolve, Option.some.injEq] at hj
  subst hj ey
  have hbody := skip8_body_le hI.emit (pr := .below) (body := bodyCode K.C.sz K.cfg.aE pr pre post)
    (by rw [hits]; simp)
  rw [hbody.2] at hxs
  simp only [itemsSize_append, itemsSize_plains, itemsSize_cons, itemsSize_nil, Item.size] at hnx
  obtain ⟨B, hB⟩ : ∃ B, B = bodyCode K.C.sz K.cfg.aE pr pre post := ⟨_, rfl⟩
  rw [← hB] at hxs hnx hbody
  have hat : At K.cfg K.code s.pc (probeCode K.C.sz shift pr ++ (.jccRel8 .below (sizeAll B : Nat) :: (B ++ []))) := by
    have := hI.at_
    rw [hxs, ← hinv.pc] at this
    simpa using this
  -- the probe
  obtain ⟨s5, b5, hm5, hoff5, hrax5, hcf5⟩ := mov_probe (cfg := K.cfg) hszb hsh ⟨by omega, hprr.2⟩ hf1 hf2
    hinv.rbx hinv.phys hbnd
  obtain ⟨q, hq⟩ : ∃ q, q = s.lptr + shift - s.base + pr := ⟨_, rfl⟩
  rw [← hq] at hrax5 hcf5
  have hpc5 := b5.pc_eq
  have hfj : (X86.jccRel8 .below (sizeAll B : Nat)).fits = true := by
    simp only [X86.fits, fitsS_8]; have := hbody.1; omega
  obtain ⟨s6, hs6, e6⟩ : ∃ s6, stepInstr K.cfg (.jccRel8 .below (sizeAll B : Nat)) s5 = .next s6 ∧ s6 = _ :=
    ⟨_, si_jcc8 (t := s5.pc + 2 + sizeAll B) hfj (show cond s5 .below = _ from hcf5) (by push_cast; omega), rfl⟩
  have hst6 := b5.step_after hat hs6
  have hm6 : Moved s s6 shift := by
    refine hm5.sameTmp ?_ (by rw [e6])
    rw [e6]; exact ⟨fun _ _ _ => rfl, rfl, rfl, rfl, rfl, rfl, rfl, rfl, rfl, rfl⟩
  simp only [Bc.step, hi, Bc.StepRes.next.injEq] at hstep
  subst hstep
  have hrelL : RelOn (fun t => lv.testBit t = true) c (view s) :=
    relOn_mono ((rel_iff_relOn ..).1 hrel) (fun _ _ => trivial)
  have hnxt : K.loc (c.pc + 1) = s.pc + sizeAll (probeCode K.C.sz shift pr) + 2 + sizeAll B := by
    rw [hnx, hinv.pc]; omega
  have hF6 : Framed K fr s6 := hinv.framed.of_moved hm6
  by_cases hin : 0 ≤ q ∧ q < s.size.toNat
  · -- the probe cell is inside the allocation: the body is skipped
    have hb' : (decide (0 ≤ q) && decide (q < (s.size.toNat : Int))) = true := by simp [hin.1, hin.2]
    have hpc6 : s6.pc = K.loc (c.pc + 1) := by rw [e6, hb', hnxt, hpc5]; rfl
    exact ⟨lv, _, s6, hI.live, hst6, hF6.inv hpc6 (hm6.env.trans hinv.env) (hm6.trace.trans hinv.trace)
      (by rw [hm6.budget]; exact hinv.budget), hm6.relOn hrelL⟩
  · -- outside: extend
    have hb' : (decide (0 ≤ q) && decide (q < (s.size.toNat : Int))) = false := by
      simp only [Bool.and_eq_false_iff, decide_eq_false_iff_not]
      by_cases h0 : 0 ≤ q
      · exact Or.inr (fun h => hin ⟨h0, h⟩)
      · exact Or.inl h0
    have hpc6 : s6.pc = s5.pc + 2 := by rw [e6, hb']; rfl
    have hat6 : At K.cfg K.code s6.pc (bodyCode K.C.sz K.cfg.aE pr pre post ++ []) := by
      rw [hpc6, ← hB]
      have := (b5.steps hat).2.tail
      rwa [size_jccRel8] at this
    obtain ⟨s7, b7, hF7, hstk7, hsv7, hcs7, htape7, hlptr7, henv7, htr7, hbud7⟩ :=
      mov_body K hszb hrs hpre hpost (s := s6) hfa hfl hF6 (by rw [e6]; exact hrax5)
        (by rw [hq]; omega) (by rw [hm6.size]; omega) (by rw [hm6.size]; exact hin)
    have hl7 : s7.lptr = s.lptr + shift := by rw [hlptr7, hm6.base, hq]; omega
    refine ⟨lv, _, s7, hI.live, Nat.add_right_comm _ 1 _ ▸ steps_trans hst6 (b7.steps hat6).1,
      hF7.inv ?_ (by rw [henv7, hm6.env]; exact hinv.env) (by rw [htr7, hm6.trace]; exact hinv.trace)
        (by rw [hbud7, hm6.budget]; exact hinv.budget),
      relOn_saved hrs hstk7 hsv7 hcs7 htape7 (hl7.trans hm6.lptr.symm) (hm6.relOn hrelL)⟩
    show s7.pc = K.loc (c.pc + 1)
    rw [b7.pc_eq, hpc6, hpc5, hnxt, hB]

end C03
end Hpbf
