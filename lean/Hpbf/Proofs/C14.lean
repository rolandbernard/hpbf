/-
C14 — cell arithmetic helpers (`Hpbf.Cell`, model of `trait CellType` in `src/lib.rs`) meet their
algebraic contracts at every width `w ≥ 1`.

* `pow`: `powLoop` with fuel `f` is right for exponents `< 2 ^ f`, so the fuel `w` of `wrappingPow`
  suffices.
* `inv`: for odd `a`, `a ^ (2 ^ j) = 1 + 2 ^ (j+1) * k` (induction on `j`), hence
  `x ^ (2 ^ (w-1)) = 1` in `BitVec w` and `x ^ (2 ^ (w-1) - 1)` is the inverse.
* `div`: with `s = trailingZeros d`, `m = w - s`, `d = 2^s * d'`, `n = 2^s * n'`, the result is
  `(I * n') % 2^m` where `I * d' ≡ 1 [MOD 2^m]`; `div_core_sol` / `div_core_min` are the Nat facts
  (it solves `y * d = n`; it is the least solution).
-/
import Hpbf.Proofs.CellBasic
import Mathlib.Tactic.Ring
import Mathlib.Data.Nat.ModEq

namespace Hpbf.C14.Lemmas
open Hpbf Cell

variable {w : Nat}

/-- Square `1 + 2^(j+1) * k`: the new witness is `k + 2^j * k^2`. -/
theorem odd_pow_two_pow (a : Nat) (ha : a % 2 = 1) (j : Nat) :
    ∃ k, a ^ (2 ^ j) = 1 + 2 ^ (j + 1) * k := by
  induction j with
  | zero =>
    refine ⟨a / 2, ?_⟩
    simp
    omega
  | succ j ih =>
    obtain ⟨k, hk⟩ := ih
    refine ⟨k + 2 ^ j * k ^ 2, ?_⟩
    rw [Nat.pow_succ 2 j, Nat.pow_mul, hk]
    ring

theorem odd_pow_two_pow_modEq (a : Nat) (ha : a % 2 = 1) (j : Nat) :
    a ^ (2 ^ j) ≡ 1 [MOD 2 ^ (j + 1)] := by
  obtain ⟨k, hk⟩ := odd_pow_two_pow a ha j
  rw [hk]
  unfold Nat.ModEq
  simp

theorem toNat_pow (x : BitVec w) (n : Nat) : (x ^ n).toNat = x.toNat ^ n % 2 ^ w := by
  induction n with
  | zero => simp
  | succ n ih =>
    rw [BitVec.pow_succ, BitVec.toNat_mul, ih, Nat.pow_succ, Nat.mod_mul_mod]

theorem pow_mul_self (b : BitVec w) (n : Nat) : (b * b) ^ n = b ^ (2 * n) := by
  induction n with
  | zero => simp
  | succ n ih =>
    rw [BitVec.pow_succ, ih, show 2 * (n + 1) = 2 * n + 1 + 1 by ring, BitVec.pow_succ,
      BitVec.pow_succ, BitVec.mul_assoc]

theorem powLoop_spec (hw : 0 < w) (fuel : Nat) :
    ∀ (b e r : BitVec w), e.toNat < 2 ^ fuel → Cell.powLoop fuel b e r = r * b ^ e.toNat := by
  induction fuel with
  | zero =>
    intro b e r h
    have : e.toNat = 0 := by simpa using h
    simp [Cell.powLoop, this]
  | succ fuel ih =>
    intro b e r h
    unfold Cell.powLoop
    by_cases he : e = 0#w
    · simp [he]
    · rw [if_neg he]
      have hlt : (Cell.wshr e 1).toNat < 2 ^ fuel := by
        rw [toNat_wshr_one]; rw [Nat.pow_succ] at h; omega
      simp only
      rw [ih _ _ _ hlt, toNat_wshr_one, pow_mul_self]
      cases ho : Cell.isOdd e
      · have := (isOdd_eq_false_iff hw e).1 ho
        have h2 : 2 * (e.toNat / 2) = e.toNat := by omega
        simp [h2]
      · have := (isOdd_iff hw e).1 ho
        have h2 : e.toNat = 2 * (e.toNat / 2) + 1 := by omega
        simp only [if_true]
        conv => rhs; rw [h2, BitVec.pow_succ]
        rw [BitVec.mul_assoc, BitVec.mul_comm b]

theorem pow_spec (hw : 0 < w) (b e : BitVec w) : Cell.wrappingPow b e = b ^ e.toNat := by
  unfold Cell.wrappingPow
  rw [powLoop_spec hw w b e _ e.isLt, BitVec.one_mul]


theorem toNat_add_neg_one (hw : 0 < w) (t : BitVec w) (ht : 0 < t.toNat) :
    (t + (-1#w)).toNat = t.toNat - 1 := by
  rw [BitVec.toNat_add, BitVec.toNat_neg, BitVec.toNat_one hw]
  have h1 : t.toNat < 2 ^ w := t.isLt
  have h2 : 1 < 2 ^ w := Nat.one_lt_two_pow (by omega)
  rw [Nat.mod_eq_of_lt (show 2 ^ w - 1 < 2 ^ w by omega)]
  rw [show t.toNat + (2 ^ w - 1) = (t.toNat - 1) + 2 ^ w by omega, Nat.add_mod_right,
    Nat.mod_eq_of_lt (by omega)]

/-- The exponent `tot + (-1)` of `wrappingInv` / `wrappingDiv`. -/
theorem toNat_tot (hw : 0 < w) (k : Nat) (hk : k < w) :
    (Cell.wshl (1#w) k + (-1#w)).toNat = 2 ^ k - 1 := by
  rw [toNat_add_neg_one hw _ (by rw [toNat_wshl_one hw k hk]; exact Nat.two_pow_pos k),
    toNat_wshl_one hw k hk]

/-- The mask of `wrappingDiv`.  For `m = w` the shift overflows to 0 (`Cell.wshl`) and `0 + (-1)` is
all ones. -/
theorem toNat_mask (hw : 0 < w) (m : Nat) (hm : 0 < m) (hmw : m ≤ w) :
    (Cell.wshl (1#w) m + (-1#w)).toNat = 2 ^ m - 1 := by
  by_cases h : m < w
  · exact toNat_tot hw m h
  · have : m = w := by omega
    subst this
    unfold Cell.wshl
    rw [if_neg h, BitVec.toNat_add, BitVec.toNat_neg, BitVec.toNat_one hw]
    have h2 : 1 < 2 ^ m := Nat.one_lt_two_pow (by omega)
    simp

theorem pow_pred_mul (x : BitVec w) (k : Nat) : x * x ^ (2 ^ k - 1) = x ^ (2 ^ k) := by
  have : 2 ^ k = (2 ^ k - 1) + 1 := by have := Nat.two_pow_pos k; omega
  conv => rhs; rw [this, BitVec.pow_succ]
  rw [BitVec.mul_comm]

theorem even_no_inv (hw : 0 < w) (x y : BitVec w) (hx : x.toNat % 2 = 0) : x * y ≠ 1#w := by
  intro h
  have := congrArg BitVec.toNat h
  rw [BitVec.toNat_mul, BitVec.toNat_one hw] at this
  have h2 : 2 ∣ 2 ^ w := dvd_pow_self 2 (by omega)
  have h3 : (x.toNat * y.toNat) % 2 ^ w % 2 = (x.toNat * y.toNat) % 2 := Nat.mod_mod_of_dvd _ h2
  rw [this, Nat.mul_mod, hx] at h3
  simp at h3

theorem tzAux_spec (x : BitVec w) (fuel : Nat) : ∀ i,
    i ≤ Cell.tzAux x fuel i ∧ Cell.tzAux x fuel i ≤ i + fuel ∧
    (∀ j, i ≤ j → j < Cell.tzAux x fuel i → x.getLsbD j = false) ∧
    (Cell.tzAux x fuel i < i + fuel → x.getLsbD (Cell.tzAux x fuel i) = true) := by
  induction fuel with
  | zero =>
    intro i
    simp only [Cell.tzAux]
    refine ⟨Nat.le_refl _, Nat.le_refl _, ?_, ?_⟩
    · intro j h1 h2; omega
    · intro h; omega
  | succ fuel ih =>
    intro i
    unfold Cell.tzAux
    by_cases hb : x.getLsbD i = true
    · rw [if_pos hb]
      refine ⟨Nat.le_refl _, by omega, ?_, fun _ => hb⟩
      intro j h1 h2; omega
    · rw [if_neg hb]
      obtain ⟨h1, h2, h3, h4⟩ := ih (i + 1)
      refine ⟨by omega, by omega, ?_, ?_⟩
      · intro j hj1 hj2
        by_cases hji : j = i
        · subst hji; simpa using hb
        · exact h3 j (by omega) hj2
      · intro h; exact h4 (by omega)

theorem low_bits_false_iff (n t : Nat) :
    (∀ j, j < t → n.testBit j = false) ↔ 2 ^ t ∣ n := by
  rw [Nat.dvd_iff_mod_eq_zero]
  constructor
  · intro h
    apply Nat.eq_of_testBit_eq
    intro i
    rw [Nat.testBit_mod_two_pow, Nat.zero_testBit]
    by_cases hi : i < t
    · simp [h i hi]
    · simp [hi]
  · intro h j hj
    have := Nat.testBit_mod_two_pow n t j
    rw [h, Nat.zero_testBit] at this
    simpa [hj] using this.symm

theorem trailingZeros_le (x : BitVec w) : Cell.trailingZeros x ≤ w := by
  have := (tzAux_spec x w 0).2.1
  simpa [Cell.trailingZeros] using this

theorem two_pow_trailingZeros_dvd (x : BitVec w) : 2 ^ Cell.trailingZeros x ∣ x.toNat := by
  rw [← low_bits_false_iff]
  intro j hj
  exact (tzAux_spec x w 0).2.2.1 j (Nat.zero_le _) hj

theorem trailingZeros_bit (x : BitVec w) (h : Cell.trailingZeros x < w) :
    x.toNat / 2 ^ Cell.trailingZeros x % 2 = 1 := by
  have := (tzAux_spec x w 0).2.2.2 (by simpa [Cell.trailingZeros] using h)
  rw [← BitVec.testBit_toNat, Nat.testBit_eq_decide_div_mod_eq] at this
  simpa [Cell.trailingZeros] using this

theorem trailingZeros_lt (x : BitVec w) (hx : x ≠ 0#w) : Cell.trailingZeros x < w := by
  have h1 := trailingZeros_le x
  by_contra hne
  have h2 : Cell.trailingZeros x = w := by omega
  have h3 := two_pow_trailingZeros_dvd x
  rw [h2] at h3
  have := Nat.eq_zero_of_dvd_of_lt h3 x.isLt
  exact hx (BitVec.eq_of_toNat_eq (by simpa using this))

theorem two_pow_dvd_iff_le_trailingZeros (x : BitVec w) (hx : x ≠ 0#w) (k : Nat) :
    2 ^ k ∣ x.toNat ↔ k ≤ Cell.trailingZeros x := by
  constructor
  · intro h
    by_contra hlt
    have hlt : Cell.trailingZeros x + 1 ≤ k := by omega
    have hd : 2 ^ (Cell.trailingZeros x + 1) ∣ x.toNat :=
      Nat.dvd_trans (Nat.pow_dvd_pow 2 hlt) h
    have hb := trailingZeros_bit x (trailingZeros_lt x hx)
    obtain ⟨q, hq⟩ := hd
    rw [hq, Nat.pow_succ, Nat.mul_assoc, Nat.mul_div_cancel_left _ (Nat.two_pow_pos _)] at hb
    omega
  · intro h
    exact Nat.dvd_trans (Nat.pow_dvd_pow 2 h) (two_pow_trailingZeros_dvd x)


theorem div_core_sol (s m D' N' I : Nat) (hI : I * D' ≡ 1 [MOD 2 ^ m]) (hN : N' < 2 ^ m) :
    ((I * N') % 2 ^ m * (2 ^ s * D')) % 2 ^ (s + m) = 2 ^ s * N' := by
  have h1 : (I * N') % 2 ^ m ≡ I * N' [MOD 2 ^ m] := Nat.mod_modEq _ _
  have h2 : (I * N') % 2 ^ m * D' ≡ N' [MOD 2 ^ m] := by
    calc (I * N') % 2 ^ m * D' ≡ I * N' * D' [MOD 2 ^ m] := h1.mul_right _
      _ = (I * D') * N' := by ring
      _ ≡ 1 * N' [MOD 2 ^ m] := hI.mul_right _
      _ = N' := Nat.one_mul _
  have h3 := h2.mul_left' (2 ^ s)
  unfold Nat.ModEq at h3
  rw [← Nat.pow_add] at h3
  rw [show (I * N') % 2 ^ m * (2 ^ s * D') = 2 ^ s * ((I * N') % 2 ^ m * D') by ring, h3]
  apply Nat.mod_eq_of_lt
  rw [Nat.pow_add]
  exact Nat.mul_lt_mul_of_pos_left hN (Nat.two_pow_pos s)

theorem div_core_min (s m D' N' I Y : Nat) (hI : I * D' ≡ 1 [MOD 2 ^ m])
    (hY : (Y * (2 ^ s * D')) % 2 ^ (s + m) = 2 ^ s * N') :
    (I * N') % 2 ^ m ≤ Y := by
  have h0 : 2 ^ s * (Y * D') ≡ 2 ^ s * N' [MOD 2 ^ s * 2 ^ m] := by
    unfold Nat.ModEq
    rw [← Nat.pow_add, show 2 ^ s * (Y * D') = Y * (2 ^ s * D') by ring]
    conv => rhs; rw [← hY, Nat.mod_mod]
  have h1 : Y * D' ≡ N' [MOD 2 ^ m] :=
    Nat.ModEq.mul_left_cancel' (Nat.pos_iff_ne_zero.1 (Nat.two_pow_pos s)) h0
  have h2 : Y ≡ I * N' [MOD 2 ^ m] := by
    calc Y = 1 * Y := (Nat.one_mul _).symm
      _ ≡ (I * D') * Y [MOD 2 ^ m] := (hI.mul_right _).symm
      _ = I * (Y * D') := by ring
      _ ≡ I * N' [MOD 2 ^ m] := h1.mul_left _
  unfold Nat.ModEq at h2
  rw [← h2]
  exact Nat.mod_le _ _


theorem mul_eq_iff_toNat (y d n : BitVec w) :
    y * d = n ↔ (y.toNat * d.toNat) % 2 ^ w = n.toNat := by
  rw [← BitVec.toNat_inj, BitVec.toNat_mul]

theorem toNat_wshr (x : BitVec w) (s : Nat) (hs : s < w) :
    (Cell.wshr x s).toNat = x.toNat / 2 ^ s := by
  unfold Cell.wshr
  rw [if_pos hs, BitVec.toNat_ushiftRight, Nat.shiftRight_eq_div_pow]

theorem wrappingDiv_zero (d : BitVec w) : Cell.wrappingDiv (0#w) d = some (0#w) := by
  simp [Cell.wrappingDiv]

theorem wrappingDiv_none (n d : BitVec w) (hn : n ≠ 0#w)
    (hs : Cell.trailingZeros n < Cell.trailingZeros d) : Cell.wrappingDiv n d = none := by
  unfold Cell.wrappingDiv
  simp only [if_neg hn]
  rw [if_pos hs]

/-- `wrappingDiv` inverts the odd part of `d` only modulo `2^m`, `m = w - trailingZeros d`: the
exponent is `2^(m-1) - 1`, not `2^(w-1) - 1`. -/
theorem inv_modEq (x : BitVec w) (m : Nat) (hm : 0 < m) (hmw : m ≤ w) (hx : x.toNat % 2 = 1) :
    (x ^ (2 ^ (m - 1) - 1)).toNat * x.toNat ≡ 1 [MOD 2 ^ m] := by
  have hdvd : 2 ^ m ∣ 2 ^ w := Nat.pow_dvd_pow 2 hmw
  have h1 : (x ^ (2 ^ (m - 1) - 1)).toNat ≡ x.toNat ^ (2 ^ (m - 1) - 1) [MOD 2 ^ m] := by
    rw [toNat_pow]
    exact Nat.mod_mod_of_dvd _ hdvd
  have h2 := odd_pow_two_pow_modEq x.toNat hx (m - 1)
  rw [show m - 1 + 1 = m by omega] at h2
  calc (x ^ (2 ^ (m - 1) - 1)).toNat * x.toNat
      ≡ x.toNat ^ (2 ^ (m - 1) - 1) * x.toNat [MOD 2 ^ m] := h1.mul_right _
    _ = x.toNat ^ (2 ^ (m - 1) - 1 + 1) := (Nat.pow_succ _ _).symm
    _ = x.toNat ^ (2 ^ (m - 1)) := by
        rw [show 2 ^ (m - 1) - 1 + 1 = 2 ^ (m - 1) by have := Nat.two_pow_pos (m - 1); omega]
    _ ≡ 1 [MOD 2 ^ m] := h2

theorem wrappingDiv_some_eq (hw : 0 < w) (n d : BitVec w) (hn : n ≠ 0#w)
    (hs : Cell.trailingZeros d ≤ Cell.trailingZeros n) :
    Cell.wrappingDiv n d = some
      (((Cell.wshr d (Cell.trailingZeros d)) ^ (2 ^ (w - Cell.trailingZeros d - 1) - 1)
          * Cell.wshr n (Cell.trailingZeros d))
        &&& (Cell.wshl (1#w) (w - Cell.trailingZeros d) + (-1#w))) := by
  have hlt := trailingZeros_lt n hn
  unfold Cell.wrappingDiv
  simp only [if_neg hn]
  rw [if_neg (by omega)]
  rw [pow_spec hw, toNat_tot hw _ (by omega)]

/-- `wrappingDiv n d` in the vocabulary of `div_core_sol` / `div_core_min`: `s = trailingZeros d`,
`m = w - s`, `D'`, `N'` the quotients of `d`, `n` by `2^s`, `I` the inverse of `D'` modulo `2^m`. -/
theorem wrappingDiv_decomp (hw : 0 < w) (n d : BitVec w) (hn : n ≠ 0#w)
    (hs : Cell.trailingZeros d ≤ Cell.trailingZeros n) :
    ∃ (r : BitVec w) (s m I D' N' : Nat), Cell.wrappingDiv n d = some r ∧ s + m = w ∧
      r.toNat = (I * N') % 2 ^ m ∧ I * D' ≡ 1 [MOD 2 ^ m] ∧
      d.toNat = 2 ^ s * D' ∧ n.toNat = 2 ^ s * N' ∧ N' < 2 ^ m := by
  have hlt := trailingZeros_lt n hn
  have hsw : Cell.trailingZeros d < w := by omega
  refine ⟨_, Cell.trailingZeros d, w - Cell.trailingZeros d,
    ((Cell.wshr d (Cell.trailingZeros d)) ^ (2 ^ (w - Cell.trailingZeros d - 1) - 1)).toNat,
    d.toNat / 2 ^ Cell.trailingZeros d, n.toNat / 2 ^ Cell.trailingZeros d,
    wrappingDiv_some_eq hw n d hn hs, by omega, ?_, ?_, ?_, ?_, ?_⟩
  · rw [BitVec.toNat_and, toNat_mask hw _ (by omega) (by omega), Nat.and_two_pow_sub_one_eq_mod,
      BitVec.toNat_mul, toNat_wshr n _ hsw]
    exact Nat.mod_mod_of_dvd _ (Nat.pow_dvd_pow 2 (by omega))
  · have := inv_modEq (Cell.wshr d (Cell.trailingZeros d)) (w - Cell.trailingZeros d)
      (by omega) (by omega) (by rw [toNat_wshr d _ hsw]; exact trailingZeros_bit d hsw)
    rw [toNat_wshr d _ hsw] at this
    exact this
  · exact (Nat.mul_div_cancel' (two_pow_trailingZeros_dvd d)).symm
  · exact (Nat.mul_div_cancel' (Nat.dvd_trans (Nat.pow_dvd_pow 2 hs)
      (two_pow_trailingZeros_dvd n))).symm
  · apply Nat.div_lt_of_lt_mul
    rw [← Nat.pow_add, show Cell.trailingZeros d + (w - Cell.trailingZeros d) = w by omega]
    exact n.isLt

theorem no_sol_of_lt (n d y : BitVec w) (hn : n ≠ 0#w)
    (hs : Cell.trailingZeros n < Cell.trailingZeros d) : y * d ≠ n := by
  intro h
  rw [mul_eq_iff_toNat] at h
  have h1 : 2 ^ Cell.trailingZeros d ∣ 2 ^ w := Nat.pow_dvd_pow 2 (trailingZeros_le d)
  have h2 : 2 ^ Cell.trailingZeros d ∣ y.toNat * d.toNat :=
    Dvd.dvd.mul_left (two_pow_trailingZeros_dvd d) _
  have h3 : 2 ^ Cell.trailingZeros d ∣ n.toNat := by
    rw [← h]; exact (Nat.dvd_mod_iff h1).2 h2
  have := (two_pow_dvd_iff_le_trailingZeros n hn _).1 h3
  omega

/-- The three ways `wrappingDiv n d` comes out: `0` for `n = 0`; the smallest root of `y * d = n` when `d` has no more
trailing zeros than `n`; `none`, and no root, otherwise. -/
theorem wrappingDiv_cases (hw : 0 < w) (n d : BitVec w) :
    (n = 0#w ∧ Cell.wrappingDiv n d = some 0#w) ∨
    (n ≠ 0#w ∧ Cell.trailingZeros d ≤ Cell.trailingZeros n ∧
      ∃ r, Cell.wrappingDiv n d = some r ∧ r * d = n ∧ ∀ y, y * d = n → r ≤ y) ∨
    (n ≠ 0#w ∧ Cell.trailingZeros n < Cell.trailingZeros d ∧ Cell.wrappingDiv n d = none ∧
      ∀ y, y * d ≠ n) := by
  by_cases hn : n = 0#w
  · exact .inl ⟨hn, hn ▸ wrappingDiv_zero d⟩
  by_cases hs : Cell.trailingZeros d ≤ Cell.trailingZeros n
  · obtain ⟨r, s, m, I, D', N', hr, hsm, hrt, hI, hd, hn', hN⟩ := wrappingDiv_decomp hw n d hn hs
    refine .inr (.inl ⟨hn, hs, r, hr, ?_, fun y hy => ?_⟩)
    · rw [mul_eq_iff_toNat, hrt, hd, hn', ← hsm]
      exact div_core_sol s m D' N' I hI hN
    · rw [mul_eq_iff_toNat, hd, hn'] at hy
      rw [BitVec.le_def, hrt]
      exact div_core_min s m D' N' I y.toNat hI (hsm ▸ hy)
  · exact .inr (.inr ⟨hn, by omega, wrappingDiv_none n d hn (by omega),
      fun y => no_sol_of_lt n d y hn (by omega)⟩)

theorem toNat_fromU8_general (b : BitVec 8) : (Cell.fromU8 b : BitVec w).toNat = b.toNat % 2 ^ w := by
  unfold Cell.fromU8 Cell.fromU64
  rw [BitVec.toNat_setWidth, BitVec.toNat_setWidth_of_le (by omega)]

theorem fromI16_eq_signExtend (h : w ≤ 64) (v : BitVec 16) :
    (Cell.fromI16 v : BitVec w) = v.signExtend w := by
  unfold Cell.fromI16 Cell.fromU64
  apply BitVec.eq_of_getLsbD_eq
  intro i hi
  rw [BitVec.getLsbD_setWidth, BitVec.getLsbD_signExtend, BitVec.getLsbD_signExtend]
  have : i < 64 := by omega
  simp [hi, this]

theorem toInt_i16_bounds (v : BitVec 16) : -32768 ≤ v.toInt ∧ v.toInt ≤ 32767 := by
  have h1 := BitVec.le_toInt v
  have h2 := @BitVec.toInt_lt 16 v
  norm_num at h1 h2
  omega

theorem toInt_bmod_self (x : BitVec w) : x.toInt.bmod (2 ^ w) = x.toInt := by
  rw [BitVec.toInt_eq_toNat_bmod, Int.bmod_bmod]

end Hpbf.C14.Lemmas
