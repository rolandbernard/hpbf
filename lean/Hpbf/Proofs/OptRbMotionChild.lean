/-
The child state after the loop-motion phase of `finishLoop`: all pending operations are removed from the child
(`motionFold_sub`), then `performAll sub (s :: ps) 0 toPerform` puts back the part `D` that stays in the loop.  The
resulting child represents the body `sub.insts ++ [calc D]` (the emitted code of the original child, in the
coordinates of the parent state, followed by `D`): `childPre_motion_g`.

The child's `StepAll Gc …` only holds at real heads (guard `Gc`); the heads `τ` of the transformed loop are not real,
they only have a real PARTNER `σ` (`PartnerG`): same pointer / environment / trace, agreeing on the cells `R` the loop
reads.  The facts about the run of `newC` from `τ` are obtained by mirroring the real run from `ρ := σ.mov (-shP)`
along the child's footprint (`partner_mirror`).
-/
import Hpbf.Proofs.OptRbGDefs
import Hpbf.Proofs.OptRbPerfC
import Hpbf.Proofs.OptRbExt

namespace Hpbf
namespace OptProof
open Opt OptSem Ir

variable {w : Nat}

theorem motionFold_sub {s : Rebuild w} {ps : List (Rebuild w)} {R C : List Int} {lin : List (Int × Expr w)}
    {pset : List Int} {L : OptLoop w} (vars : List Int)
    {acc res : Rebuild w × List (Int × Expr w) × List (Int × Expr w) × List (Int × Expr w)} {os os' : Orders}
    (h : (vars.foldlM (OptLoop.motionStepM s ps R C lin pset L) acc).run os = .ok (res, os'))
    (hwf : Wf acc.1) :
    Wf res.1 ∧ SameButPend acc.1 res.1 ∧
    ∀ k, mGet res.1.pending k = if k ∈ vars then none else mGet acc.1.pending k := by
  induction vars generalizing acc os with
  | nil =>
    rw [List.foldlM_nil, run_pure] at h
    cases h
    exact ⟨hwf, SameButPend.refl _, fun k => by simp⟩
  | cons v vars ih =>
    rw [List.foldlM_cons, run_bind_ok] at h
    obtain ⟨acc1, os1, h1, h2⟩ := h
    obtain ⟨sub, B, D, A⟩ := acc
    obtain ⟨_, sub', p, b, d, a, hrm, _, hres⟩ :=
      OptLoop.motionStepM_ok s ps R C lin pset L sub B D A v os os1 acc1 h1
    have e1 : acc1.1 = (removePending sub v).1 := by rw [hres, hrm]
    have hwf1 : Wf acc1.1 := by rw [e1]; exact removePending_wf hwf v
    obtain ⟨w1, w2, w3⟩ := ih h2 hwf1
    refine ⟨w1, ?_, ?_⟩
    · have := removePending_same sub v
      rw [← e1] at this
      exact this.trans w2
    · intro k
      rw [w3 k, e1, removePending_get hwf v k]
      by_cases hk : k ∈ vars
      · simp [hk]
      · by_cases hv : v = k
        · subst hv; simp
        · have : k ≠ v := fun h => hv h.symm
          simp [hk, hv, this]

theorem motionFold_sub_all {s : Rebuild w} {ps : List (Rebuild w)} {R C : List Int} {lin : List (Int × Expr w)}
    {pset : List Int} {L : OptLoop w} {sub sub1 : Rebuild w} {B D A : List (Int × Expr w)} {os os' : Orders}
    (h : ((pendingSorted sub sub).foldlM (OptLoop.motionStepM s ps R C lin pset L) (sub, [], [], [])).run os
      = .ok ((sub1, B, D, A), os'))
    (hwf : Wf sub) : Wf sub1 ∧ SameButPend sub sub1 ∧ sub1.pending = [] := by
  obtain ⟨w1, w2, w3⟩ := motionFold_sub _ h hwf
  refine ⟨w1, w2, mGet_all_none_nil _ ?_⟩
  intro k
  have := w3 k
  simp only at this
  rw [this]
  by_cases hk : k ∈ pendingSorted sub sub
  · simp [hk]
  · rw [if_neg hk]
    rw [OptLoop.mem_pendingSorted] at hk
    exact (mGet_none_iff _ _).2 hk

theorem relAt_unshift_coord {sh : Int} {s : Rebuild w} {ps : List (Rebuild w)} {M0 : Mem w} {σE σS : State w}
    (h : RelAt sh s ps M0 σE σS) : RelAt 0 s ps M0 σE (σS.mov (-sh)) :=
  ⟨h.tr, h.env, by show σS.ptr + -sh = σE.ptr + 0; rw [h.ptr]; omega, h.nr, h.inv⟩

theorem AgreeOff.stEq_right {X : Int → Prop} {a b c : State w} (h : AgreeOff X a b) (he : StEq b c) :
    AgreeOff X a c :=
  ⟨h.1.trans he.1, h.2.1.trans he.2.1, h.2.2.1.trans he.2.2.1, fun v hv => by rw [h.2.2.2 v hv, he.memE]⟩

theorem relAt_freshU {sh c : Int} {M0 : Mem w} {σE τ : State w}
    (h : RelAt 0 (freshChildU sh c) [] M0 σE τ) : StEq τ σE ∧ M0 = memE σE := by
  have hp := h.inv.pend
  rw [show (freshChildU sh c : Rebuild w).pending = [] from rfl, par_nil] at hp
  have hptr : τ.ptr = σE.ptr := by rw [h.ptr, Int.add_zero]
  refine ⟨⟨hptr, h.env, h.tr, ?_⟩, ?_⟩
  · intro i
    have := congrFun hp (i - σE.ptr)
    have e : σE.ptr + (i - σE.ptr) = i := by omega
    show τ.tape.get i = σE.tape.get i
    have h1 : memS σE τ (i - σE.ptr) = τ.tape.get i := by
      show τ.tape.get (σE.ptr + (i - σE.ptr)) = _
      rw [e]
    have h2 : memE σE (i - σE.ptr) = σE.tape.get i := by
      show σE.tape.get (σE.ptr + (i - σE.ptr)) = _
      rw [e]
    rw [← h1, ← h2]; exact this
  · exact h.m0_of_fresh rfl

theorem memS_doCalc0 {σE σS : State w} (he : StEq σS σE) (calcs : List (Int × Expr w)) :
    memS σE (doCalc σS calcs) = assignS 0 calcs (memE σE) := by
  have hmem : memS σE σS = memE σE := by
    funext v
    show σS.tape.get (σE.ptr + v) = σE.tape.get (σE.ptr + v)
    exact he.get_eq _
  have hrel : RelAt 0 (Rebuild.new 0 none .unknown none : Rebuild w) [] (memE σE) σE σS := by
    refine ⟨he.trace_eq, he.env_eq, by rw [he.ptr_eq, Int.add_zero], rfl, ?_, fun v => rfl, ?_⟩
    · show memS σE σS = Mem.par [] (memE σE)
      rw [par_nil]; exact hmem
    · exact pk_noanal [] rfl _ (fun _ v hv => by cases hv)
  rw [memS_doCalc hrel calcs, hmem]

section Core
variable {Gc : State w → Prop} {shP shC cS : Int} {bodyS newC : List (Instr w)}
  {s : Rebuild w} {ps : List (Rebuild w)} {sub0 sub : Rebuild w} {R : List Int}

theorem partner_ctx (hall : StepAll Gc shP shC (s :: ps) sub0 sub bodyS newC) (hw0 : sub0.written = [])
    (hentry : EntryAt Gc shP cS (s :: ps) sub0)
    {τ : State w} (hp : PartnerG Gc shP cS R τ) :
    ∃ σ, Gc σ ∧ σ.rd cS ≠ 0#w ∧ AgreeOff (fun v => v ∉ R) (σ.mov (-shP)) τ ∧
      RelAt shP sub0 (s :: ps) (memE (σ.mov (-shP))) (σ.mov (-shP)) σ ∧ ¬ Bad newC (σ.mov (-shP)) := by
  obtain ⟨σ, hg, hne, hag⟩ := hp
  obtain ⟨Mρ, hrel⟩ := hentry (σ.mov (-shP)) σ (sameMem_movNeg shP σ) hne hg
  have hM : Mρ = memE (σ.mov (-shP)) := hrel.m0_of_fresh hw0
  subst hM
  exact ⟨σ, hg, hne, hag, hrel, (hall.step.2 _ _ σ hrel hg).2⟩

/-- The child's code run from a state `τ` that agrees off `K` (cells the child does not read) with a re-coordinated
real head `σ.mov (-shP)`: the two runs behave alike and end in agreement off `K` and on what the child has written,
badness is mirrored, and the run from `τ` leaves the pointer and the cells the child neither writes nor reads as
they were. -/
theorem partner_mirror (hall : StepAll Gc shP shC (s :: ps) sub0 sub bodyS newC) (hw0 : sub0.written = [])
    (hns : sub.subShift = false) {σ τ : State w} (hg : Gc σ)
    (hrel : RelAt shP sub0 (s :: ps) (memE (σ.mov (-shP))) (σ.mov (-shP)) σ)
    (K : Int → Prop) (hK : ∀ v, K v → v ∉ sub.reads) (hag : AgreeOff K (σ.mov (-shP)) τ) :
    Sim (AgreeOff (Rest K sub)) newC newC (σ.mov (-shP)) τ ∧ (Bad newC τ → Bad newC (σ.mov (-shP))) ∧
    ∀ z, Exec newC τ (.fin z) → z.ptr = τ.ptr ∧ ∀ v, v ∉ mKeys sub.written → v ∉ sub.reads → memE z v = memE τ v :=
  have hV : ValidG Gc shP sub0 (s :: ps) (σ.mov (-shP)) := ⟨_, σ, hrel, hg⟩
  have hag0 : AgreeOff (Rest K sub0) (σ.mov (-shP)) τ := hag.congr (fun v => (rest_fresh hw0 v).symm)
  ⟨hall.foot hns K hK _ τ hV hag0, hall.bad hns K hK _ τ hV hag0, hall.frame hns K hK _ τ hV hag0⟩

/-- Mirror of a run of the child's code along the footprint: what the real run says about a run that agrees with it
on the cells in `R`. -/
theorem partner_end (hall : StepAll Gc shP shC (s :: ps) sub0 sub bodyS newC) (hw0 : sub0.written = [])
    (hns : sub.subShift = false) (hkvs : KnownVars sub) (hR : ∀ r ∈ sub.reads, r ∈ R)
    {σ τ y₂ : State w} (hg : Gc σ)
    (hrel : RelAt shP sub0 (s :: ps) (memE (σ.mov (-shP))) (σ.mov (-shP)) σ)
    (hag : AgreeOff (fun v => v ∉ R) (σ.mov (-shP)) τ) (hex : Exec newC τ (.fin y₂)) :
    sub.noReturn = false ∧ y₂.ptr = τ.ptr ∧ WrOk sub (memE τ) (memE y₂) := by
  obtain ⟨hf, _, hfr⟩ := partner_mirror hall hw0 hns hg hrel (fun v => v ∉ R) (fun v hv hr => hv (hR v hr)) hag
  obtain ⟨y, hexy, hyy⟩ := hf.finR y₂ hex
  obtain ⟨pfr, mfr⟩ := hfr y₂ hex
  obtain ⟨a, _, M0', hr', hk'⟩ := (hall.step.2 _ _ σ hrel hg).1.finR y hexy
  obtain ⟨hM0, _⟩ := hk' hns
  subst hM0
  have hRag : ∀ v, v ∈ R → memE (σ.mov (-shP)) v = memE τ v :=
    fun v hv => hag.2.2.2 v (fun h => h hv)
  refine ⟨hr'.nr, pfr, ?_⟩
  intro v
  split
  · rename_i e hv
    have hdef : DefW sub v := ⟨_, hv, rfl⟩
    have h1 : memE y v = memE y₂ v := hyy.2.2.2 v (fun h => h.2 hdef)
    rw [← h1, hr'.inv.writ.known hv]
    apply C01Dse.evaluate_congr
    intro x hx
    exact hRag x (hR x (hkvs hns v e hv x hx))
  · trivial
  · rename_i hv
    by_cases hr : v ∈ sub.reads
    · have h1 : memE y v = memE y₂ v := hyy.2.2.2 v (fun h => h.1 (hR v hr))
      rw [← h1, hr'.inv.writ.absent hv]
      exact hRag v (hR v hr)
    · exact mfr v ((mGet_none_iff _ _).1 hv) hr

end Core

/-- A state with forgotten parent only knows (through the "parent" interface) that its condition cell is not
zero. -/
theorem pk_forget_of_cond {sub : Rebuild w} {M0 : Mem w}
    (h : sub.subShift = false → ∀ v, sub.cond = some v → M0 v ≠ 0#w) : PK (forgetParent sub) [] M0 :=
  pk_of_unknown rfl [] M0 h

theorem childPre_motion_g {Gc : State w → Prop} {shP shC cS : Int} {bodyS newC : List (Instr w)}
    {s : Rebuild w} {ps : List (Rebuild w)} {sub0 sub sub1 sub' : Rebuild w} {D : List (Int × Expr w)}
    {R : List Int} {os os' : Orders}
    (hall : StepAll Gc shP shC (s :: ps) sub0 sub bodyS newC)
    (h0 : sub0.insts = []) (hw0 : sub0.written = [])
    (hns : sub.subShift = false) (hkvs : KnownVars sub)
    (hentry : EntryAt Gc shP cS (s :: ps) sub0)
    (hch : RdSt sub)
    (hR : ∀ r ∈ sub.reads, r ∈ R) (hRc : cS + shP ∈ R)
    (hcf : ∀ v, sub.cond = some v → v = cS + shP)
    (hDask : ∀ vc ∈ D, ∀ x ∈ Expr.variables vc.2, mGet sub.written x = none →
      getParentConstant sub (s :: ps) x = none)
    (hwf1 : Wf sub1) (hsame : SameButPend sub sub1) (hpend1 : sub1.pending = [])
    (h5 : (performAll sub1 (s :: ps) 0 D).run os = .ok (sub', os')) :
    ChildPre (PartnerG Gc shP cS R) 0 0 [] (freshChildU sub0.shift (cS + shP)) (forgetParent sub') (cS + shP)
      (newC ++ [.calc D]) ∧
    Wf sub' ∧ sub'.shift = sub.shift ∧ sub'.subShift = false ∧ sub'.noReturn = sub.noReturn ∧
    (∀ v e, mGet sub'.written v = some (.known e) → ∀ x ∈ Expr.variables e, x ∈ sub'.reads) := by
  obtain ⟨wf', hdr', nr', _, _, _, _, _⟩ := performAll_stepN hwf1 h5
  obtain ⟨_, _, hsame', hspec⟩ := performAll_spec_c hwf1 hpend1 h5
  obtain ⟨_, _, e_shift, e_cond, e_ss, e_nr, e_reads, e_written, e_insts, _⟩ := hsame
  obtain ⟨_, _, _, _, _, _, e_reads', e_written', e_insts', _⟩ := hsame'
  have hsameHdr : SameHdr sub sub1 := ⟨by assumption, by assumption, e_shift, e_cond, e_ss⟩
  have hinstsC : sub.insts = newC := by rw [hall.insts, h0]; rfl
  have hinsts' : (forgetParent sub').insts = newC := by
    show sub'.insts = _
    rw [e_insts', e_insts, hinstsC]
  have hss1 : sub1.subShift = false := by rw [e_ss]; exact hns
  have hss' : sub'.subShift = false := by rw [hdr'.subShift]; exact hss1
  have hreads' : (forgetParent sub').reads = sub.reads := by
    show sub'.reads = _
    rw [e_reads', e_reads]
  have hwritten' : (forgetParent sub').written = sub.written := by
    show sub'.written = _
    rw [e_written', e_written]
  have hK : ∀ v, (fun v => v ∉ R) v → v ∉ sub.reads := fun v hv hr => hv (hR v hr)
  have hK2 : ∀ K' : Int → Prop, (∀ v, K' v → v ∉ (forgetParent sub').reads) →
      ∀ v, v ∉ R ∨ K' v → v ∉ sub.reads := fun K' hK' v h =>
    h.elim (hK v) (fun h => by rw [← hreads']; exact hK' v h)
  have hrestF : ∀ (K : Int → Prop) v, Rest K (freshChildU sub0.shift (cS + shP) : Rebuild w) v ↔ K v :=
    fun K v => rest_fresh rfl v
  have hrest' : ∀ (K : Int → Prop) v, Rest K (forgetParent sub') v ↔ Rest K sub v := by
    intro K v; unfold Rest DefW; rw [hwritten']
  have hval : ∀ σ1, ValidG (PartnerG Gc shP cS R) 0 (freshChildU sub0.shift (cS + shP)) [] σ1 →
      ∃ σ, Gc σ ∧ σ.rd cS ≠ 0#w ∧ AgreeOff (fun v => v ∉ R) (σ.mov (-shP)) σ1 ∧
        RelAt shP sub0 (s :: ps) (memE (σ.mov (-shP))) (σ.mov (-shP)) σ ∧ ¬ Bad newC (σ.mov (-shP)) := by
    rintro σ1 ⟨M0, τ, hrel, hp⟩
    obtain ⟨σ, hg, hne, hag, hrelρ, hnb⟩ := partner_ctx hall hw0 hentry hp
    exact ⟨σ, hg, hne, hag.stEq_right (relAt_freshU hrel).1, hrelρ, hnb⟩
  have hkv1 : KnownVars sub1 := by
    intro _ v e hv x hx
    rw [e_reads]
    rw [e_written] at hv
    exact hkvs hns v e hv x hx
  have hkv' : KnownVars sub' := (KStep.of_sameButPend (performAll_spec_c hwf1 hpend1 h5).2.2.1).known hkv1
  refine ⟨⟨?_, ?_, ?_, ?_, hss', rfl, ?_, ⟨wf'.pend, wf'.writ, wf'.rev, wf'.revOk⟩⟩, wf',
    hdr'.shift.trans e_shift, hss', nr'.trans e_nr, hkv' hss'⟩
  · -- representation
    intro M0 σE τ hrel hp
    obtain ⟨heq, hM0⟩ := relAt_freshU hrel
    subst hM0
    obtain ⟨σ, hg, hne, hag, hrelρ, hnb⟩ := partner_ctx hall hw0 hentry hp
    have hV : ValidG Gc shP sub0 (s :: ps) (σ.mov (-shP)) := ⟨_, σ, hrelρ, hg⟩
    rw [hinsts']
    refine ⟨?_, ?_⟩
    · have hS : Sim (StepQ 0 [] (forgetParent sub') (memE σE) σE) (newC ++ [.calc D]) (newC ++ []) τ σE := by
        refine Sim.append (Sim.of_stEq heq).fin_strengthen ?_
        rintro y₂ yE ⟨hye, hex2, _⟩
        obtain ⟨hnr, hptr, hwr⟩ := partner_end hall hw0 hns hkvs hR hg hrelρ hag hex2
        obtain ⟨d1, d2, d3⟩ := C01Dse.doCalc_meta y₂ D
        have hsrc : Atomic [Instr.calc D] (fun σ : State w => (true, [D].foldl doCalc σ)) := atomic_calcs [D]
        have htgt : Atomic ([] : List (Instr w)) (fun σ : State w => (true, ([] : List (List (Int × Expr w))).foldl doCalc σ)) :=
          atomic_calcs []
        refine Sim.of_atomic hsrc htgt hye.trace_eq.symm rfl ?_ ?_ ?_
        · show yE.trace = (doCalc y₂ D).trace
          rw [d3]; exact hye.trace_eq.symm
        · show yE.env = (doCalc y₂ D).env
          rw [d2]; exact hye.env_eq.symm
        · intro _
          show StepQ 0 [] (forgetParent sub') (memE σE) σE (doCalc y₂ D) yE
          have hwr1 : WrOk sub1 (memE σE) (memE yE) := by
            rw [← heq.memE, ← hye.memE]
            exact hwr.of_written_eq e_written
          have hpkc : PKc (fun x => ∃ vc ∈ D, x ∈ Expr.variables vc.2) sub1 (s :: ps) (memE σE) := by
            rintro v ⟨vc, hvc, hx⟩ hv c hc
            rw [getParentConstant_congr hsameHdr, hDask vc hvc v hx (by rw [← e_written]; exact hv)] at hc
            cases hc
          obtain ⟨hpar, hwr'⟩ := hspec _ (memE σE) (memE yE) (fun vc hvc x hx => ⟨vc, hvc, hx⟩) hwr1 hpkc
          refine ⟨memE σE, ⟨?_, ?_, ?_, ?_, ?_, hwr', ?_⟩, fun _ => ⟨rfl, ?_⟩⟩
          · rw [d3]; exact hye.trace_eq
          · rw [d2]; exact hye.env_eq
          · rw [d1, Int.add_zero]; exact hye.ptr_eq
          · exact nr'.trans (e_nr.trans hnr)
          · show memS yE (doCalc y₂ D) = Mem.par sub'.pending (memE yE)
            rw [memS_doCalc0 hye D, hpar]
          · apply pk_forget_of_cond
            intro _ v hv
            have hv' : sub.cond = some v := by rw [← e_cond, ← hdr'.cond]; exact hv
            rw [hcf v hv', ← heq.memE, ← hag.2.2.2 (cS + shP) (fun h => h hRc)]
            have e1 : memE (σ.mov (-shP)) (cS + shP) = σ.rd cS := by
              show σ.tape.get (σ.ptr + -shP + (cS + shP)) = σ.tape.get (σ.ptr + cS)
              have e : σ.ptr + -shP + (cS + shP) = σ.ptr + cS := by omega
              rw [e]
            rw [e1]; exact hne
          · exact hye.ptr_eq.symm.trans (hptr.trans heq.ptr_eq)
      rw [List.append_nil] at hS
      exact hS
    · intro hb
      exact hnb ((partner_mirror hall hw0 hns hg hrelρ _ hK (hag.stEq_right heq)).2.1 hb)
  · -- read footprint
    rw [hinsts']
    intro _ K' hK' σ1 σ2 v1 hag'
    obtain ⟨σ, hg, _, hag, hrelρ, hnb⟩ := hval σ1 v1
    have hnb1 : ¬ Bad newC σ1 := fun hb => hnb ((partner_mirror hall hw0 hns hg hrelρ _ hK hag).2.1 hb)
    have hfoot := hch.footStepV (sub0 := freshChildU sub0.shift (cS + shP)) rfl rfl rfl
    rw [hinstsC] at hfoot
    refine (hfoot hns K' (fun v hv => by rw [← hreads']; exact hK' v hv) σ1 σ2 hnb1 hag').mono ?_
    intro a b hab
    exact hab.congr (fun v => (hrest' K' v).symm)
  · -- mirrored badness (void: the valid run's partner does not go bad)
    rw [hinsts']
    intro _ K' hK' σ1 σ2 v1 hag' hb
    obtain ⟨σ, hg, _, hag, hrelρ, hnb⟩ := hval σ1 v1
    exact absurd ((partner_mirror hall hw0 hns hg hrelρ _ (hK2 K' hK') (hag.trans' (hag'.congr (hrestF K')))).2.1 hb) hnb
  · -- write frame
    rw [hinsts']
    intro _ K' hK' σ1 σ2 v1 hag' b hex
    obtain ⟨σ, hg, _, hag, hrelρ, _⟩ := hval σ1 v1
    obtain ⟨p, m⟩ := (partner_mirror hall hw0 hns hg hrelρ _ (hK2 K' hK')
      (hag.trans' (hag'.congr (hrestF K')))).2.2 b hex
    exact ⟨p, fun v hv1 hv2 => m v (by rw [← hwritten']; exact hv1) (by rw [← hreads']; exact hv2)⟩
  · -- entry
    exact entry_noanal (shP := 0) [] _ rfl rfl rfl rfl (by rw [Int.add_zero]; rfl)

end OptProof
end Hpbf

#print axioms Hpbf.OptProof.childPre_motion_g
