/-
Parity, halving and the powers of two of a cell (`Hpbf.Cell`), stated on `toNat`.  No imports beyond the model, so that
the `Expr` files (`C15Basic`) can use them without the library that `Proofs/C14` needs.
-/
import Hpbf.Cell

namespace Hpbf.Cell
variable {w : Nat}

theorem isOdd_iff (hw : 0 < w) (x : BitVec w) : isOdd x = true ↔ x.toNat % 2 = 1 := by
  unfold isOdd
  rw [beq_iff_eq, ← BitVec.toNat_inj, BitVec.toNat_and, BitVec.toNat_one hw, Nat.and_one_is_mod]

theorem isOdd_eq_false_iff (hw : 0 < w) (x : BitVec w) : isOdd x = false ↔ x.toNat % 2 = 0 := by
  have := isOdd_iff hw x
  cases h : isOdd x <;> simp [h] at this ⊢ <;> omega

theorem toNat_wshr_one (e : BitVec w) : (wshr e 1).toNat = e.toNat / 2 := by
  unfold wshr
  split
  · simp [Nat.shiftRight_eq_div_pow]
  · have : w ≤ 1 := by omega
    have h2 : e.toNat < 2 ^ w := e.isLt
    have : 2 ^ w ≤ 2 ^ 1 := Nat.pow_le_pow_right (by omega) this
    simp; omega

/-- What makes `Expr::half` exact; `wshr x 1` is `wrapping_shr(1)`. -/
theorem toNat_wshl_one (hw : 0 < w) (k : Nat) (hk : k < w) : (wshl (1#w) k).toNat = 2 ^ k := by
  unfold wshl
  rw [if_pos hk, BitVec.toNat_shiftLeft, BitVec.toNat_one hw, Nat.shiftLeft_eq, Nat.one_mul,
    Nat.mod_eq_of_lt (Nat.pow_lt_pow_right (by omega) hk)]

theorem even_eq_double (x : BitVec w) (h : isOdd x = false) : x = wshr x 1 + wshr x 1 := by
  rcases Nat.eq_zero_or_pos w with rfl | hw
  · exact Subsingleton.elim _ _
  · apply BitVec.eq_of_toNat_eq
    have hx := (isOdd_eq_false_iff hw x).1 h
    have := x.isLt
    rw [BitVec.toNat_add, toNat_wshr_one, Nat.mod_eq_of_lt] <;> omega

end Hpbf.Cell
