/-
`loopOrIf` when the child block moves the pointer (`hasShift`): the parent emits
everything, forgets what it knew (`uncertainShift`) and pushes the `Loop` / `If`.
-/
import Hpbf.Proofs.OptRbLoopSem

namespace Hpbf
namespace OptProof
open Opt OptSem Ir

variable {w : Nat}

theorem par_nil_mem (m : Mem w) : Mem.par ([] : List (Int × Expr w)) m = m := par_nil m

/-- After an uncertain move nothing is known through the parent. -/
theorem pk_unknown {s : Rebuild w} (ps : List (Rebuild w)) (M0 : Mem w) (hp : s.parent = .unknown)
    (hs : s.subShift = true) : PK s ps M0 :=
  pk_of_unknown hp ps M0 (fun h => by rw [hs] at h; cases h)

/-- Executing the groups of an emission step keeps the states related (any pointer offset). -/
theorem EmitRes.relAt {ps : List (Rebuild w)} {s s' : Rebuild w} {comps : List (List (Int × Expr w))}
    (h : EmitRes ps s s' comps) {sh : Int} {M0 : Mem w} {σE σS : State w} (hr : RelAt sh s ps M0 σE σS) :
    RelAt sh s' ps M0 (comps.foldl doCalc σE) σS := by
  obtain ⟨m1, m2, m3⟩ := foldl_doCalc_meta comps σE
  refine ⟨by rw [m3]; exact hr.tr, by rw [m2]; exact hr.env, by rw [m1]; exact hr.ptr,
    by rw [h.noRet]; exact hr.nr, ?_⟩
  rw [memE_foldl_doCalc σE comps h.nodup, memS_foldl_doCalc]
  exact h.minv hr.inv

theorem ChildRep.emit {Gc : State w → Prop} {sh sh' : Int} {pc : List (Rebuild w)} {sub0 : Rebuild w}
    {pc' : List (Rebuild w)}
    {sub sub1 : Rebuild w} {comps : List (List (Int × Expr w))} {body : List (Instr w)}
    (h : ChildRep Gc sh sh' pc sub0 pc' sub body) (hres : EmitRes pc' sub sub1 comps) :
    ChildRep Gc sh sh' pc sub0 pc' sub1 body := by
  intro M0 σE σS hrel hg
  obtain ⟨hs, hb⟩ := h M0 σE σS hrel hg
  rw [hres.insts]
  refine ⟨?_, ?_⟩
  · have : Sim (StepQ sh' pc' sub1 M0 σE) (body ++ [])
        (sub.insts ++ comps.map Instr.calc) σS σE := by
      refine Sim.append hs ?_
      rintro σS' σE' ⟨M0', hr', hk'⟩
      have hr1 := hres.relAt hr'
      have := Sim.of_atomic (Q := StepQ sh' pc' sub1 M0 σE)
        (atomic_calcs ([] : List (List (Int × Expr w)))) (atomic_calcs comps) (σS := σS') (σE := σE')
        hr'.tr.symm rfl hr1.tr.symm hr1.env.symm (fun _ => ⟨M0', hr1, fun hc => by
          obtain ⟨k1, k2⟩ := hk' (hres.hdr.subShift.symm.trans hc)
          exact ⟨k1, (foldl_doCalc_meta comps σE').1.trans k2⟩⟩)
      exact this
    rw [List.append_nil] at this
    exact this
  · intro hbad
    rcases bad_append.1 hbad with h1 | ⟨σ1, _, h2⟩
    · exact hb h1
    · exact not_bad_of_noBlocks (noBlocks_calcs comps) _ h2

theorem SameMem.mov {shC shS bs shP : Int} {σS σE : State w} (h : SameMem shC σS σE)
    (hsh : shC + shS = bs + shP) : SameMem shP (σS.mov shS) (σE.mov bs) := by
  obtain ⟨h1, h2, h3, h4⟩ := h
  refine ⟨h1, h2, ?_, ?_⟩
  · show σS.ptr + shS = σE.ptr + bs + shP
    rw [h3]; omega
  · funext v
    show σS.tape.get (σE.ptr + bs + v) = σE.tape.get (σE.ptr + bs + v)
    have := congrFun h4 (bs + v)
    show σS.tape.get (σE.ptr + bs + v) = σE.tape.get (σE.ptr + bs + v)
    have e : σE.ptr + bs + v = σE.ptr + (bs + v) := by omega
    rw [e]; exact this

theorem RelAt.sameMem {sh : Int} {s : Rebuild w} {ps : List (Rebuild w)} {M0 : Mem w} {σE σS : State w}
    (h : RelAt sh s ps M0 σE σS) (hp : s.pending = []) : SameMem sh σS σE := by
  refine ⟨h.tr, h.env, h.ptr, ?_⟩
  have := h.inv.pend
  rw [hp, par_nil] at this
  exact this

/-- Through a state that has written nothing, the entry memory is the memory of the emitted-program state. -/
theorem RelAt.m0_of_fresh {sh : Int} {s : Rebuild w} {ps : List (Rebuild w)} {M0 : Mem w} {σE σS : State w}
    (h : RelAt sh s ps M0 σE σS) (hw : s.written = []) : M0 = memE σE := by
  funext v
  have := h.inv.writ v
  rw [hw] at this
  exact this.symm

theorem loopTail_fields (s sub : Rebuild w) (cond : Int) (isLoop : Bool) (L : OptLoop w) (hs : Bool)
    (cl : List Int) :
    let t := loopTail s sub cond isLoop L hs cl
    SameHdr s t ∧ t.pending = s.pending ∧ t.reverse = s.reverse ∧ t.reads = s.reads ∧
    t.written = (if isLoop then mSet s.written cond (.known (Expr.normalize (Expr.val 0#w))) else s.written) ∧
    t.noReturn = (if L.noContinue then true else s.noReturn) ∧
    t.insts = s.insts ++ [if isLoop then Instr.loop cond (sub.shift - s.shift) sub.insts L.atLeastOnce
      else Instr.ifnz cond (sub.shift - s.shift) sub.insts] := by
  cases isLoop <;> cases hL : L.noContinue <;>
    simp [loopTail, hL, insertWritten, SameHdr]

theorem loopTail_wf {s : Rebuild w} (hwf : Wf s) (sub : Rebuild w) (cond : Int) (isLoop : Bool)
    (L : OptLoop w) (hs : Bool) (cl : List Int) : Wf (loopTail s sub cond isLoop L hs cl) := by
  obtain ⟨_, h2, h3, _, h5, _, _⟩ := loopTail_fields s sub cond isLoop L hs cl
  refine ⟨by rw [h2]; exact hwf.pend, ?_, by rw [h3]; exact hwf.rev, by rw [h2, h3]; exact hwf.revOk⟩
  rw [h5]
  split
  · exact sorted_mSet hwf.writ _ _
  · exact hwf.writ

theorem uncertainShift_fields (s : Rebuild w) :
    (uncertainShift s).parent = .unknown ∧ (uncertainShift s).subShift = true ∧ (uncertainShift s).written = [] ∧
    (uncertainShift s).pending = s.pending ∧ (uncertainShift s).reverse = s.reverse ∧
    (uncertainShift s).shift = s.shift ∧ (uncertainShift s).noReturn = s.noReturn ∧
    (uncertainShift s).insts = s.insts ∧ (uncertainShift s).anal = s.anal ∧ (uncertainShift s).cond = s.cond :=
  ⟨rfl, rfl, rfl, rfl, rfl, rfl, rfl, rfl, rfl, rfl⟩

/-- The relation after a loop / if that moved the pointer by an unknown amount: same memory, nothing known,
except that the condition cell of a loop is zero. -/
theorem relAt_after_shift {shP : Int} {t : Rebuild w} (ps : List (Rebuild w)) {σS σE : State w}
    (hm : SameMem shP σS σE) (hpar : t.parent = .unknown) (hsub : t.subShift = true) (hp : t.pending = [])
    (hnr : t.noReturn = false) (cond : Int)
    (hw : t.written = [] ∨ (t.written = mSet [] cond (.known (Expr.normalize (Expr.val 0#w))) ∧ σE.rd cond = 0#w)) :
    RelAt shP t ps (memE σE) σE σS := by
  obtain ⟨h1, h2, h3, h4⟩ := hm
  refine ⟨h1, h2, h3, hnr, ?_, ?_, pk_unknown ps _ hpar hsub⟩
  · rw [hp, par_nil]; exact h4
  · intro v
    rcases hw with hw | ⟨hw, hc⟩
    · rw [hw]; rfl
    · rw [hw, mGet_mSet]
      by_cases hv : cond = v
      · subst hv
        simp only [if_true]
        show memE σE cond = ev (Expr.normalize (Expr.val 0#w)) (memE σE)
        rw [show ev (Expr.normalize (Expr.val 0#w)) (memE σE) = 0#w from by
          show Expr.evaluate _ _ = _
          rw [Expr.eval_normalize, Expr.eval_val]]
        exact hc
      · simp only [hv, if_false, mGet_nil]

/-- One round of the body of a block whose child moves the pointer: source and emitted state have the same memory
before and after (the child has nothing pending), and the source state is the next head. -/
theorem shift_round {Gc : State w → Prop} {shP shC shS cS bs : Int} {pc : List (Rebuild w)} {sub0 sub1 : Rebuild w}
    {bodyS : List (Instr w)} (hrep : ChildRep Gc shP shC pc sub0 [] sub1 bodyS)
    (hentry : EntryAt Gc shP cS pc sub0)
    (hpend : sub1.noReturn = false → sub1.pending = []) (hsh : shC + shS = bs + shP)
    {σS σS' σE' : State w} {k : Nat} (hm : SameMem shP σS' σE') (hh : Head cS shS bodyS σS k σS')
    (hne : σS'.rd cS ≠ 0#w) (hg : Gc σS') :
    Sim (fun a b => SameMem shP (a.mov shS) (b.mov bs) ∧ Head cS shS bodyS σS (k + 1) (a.mov shS))
      bodyS sub1.insts σS' σE' ∧ ¬ Bad sub1.insts σE' := by
  obtain ⟨M0c, hre⟩ := hentry σE' σS' hm hne hg
  obtain ⟨hs1, hb1⟩ := hrep M0c σE' σS' hre hg
  refine ⟨hs1.fin_strengthen.mono ?_, hb1⟩
  rintro a b ⟨⟨M0', hr', _⟩, hexa, _⟩
  exact ⟨(hr'.sameMem (hpend hr'.nr)).mov hsh, Head.succ hh hne hexa⟩

theorem loopOrIf_shift_ok {shP shC shS cS : Int} {bodyS : List (Instr w)} {oS : Bool}
    {s : Rebuild w} {ps : List (Rebuild w)} {sub : Rebuild w} {cond : Int} {isLoop : Bool} {L : OptLoop w}
    {C : List Int} {pc : List (Rebuild w)} {sub0 : Rebuild w} {os os' : Orders} {s' : Rebuild w}
    {G Gc : State w → Prop}
    (hr : (loopOrIf s ps sub cond isLoop L C).run os = .ok (s', os'))
    (hwf : Wf s) (hwfc : Wf sub)
    (hshift : (sub.subShift || sub.shift != s.shift) = true)
    (hcond : cond = cS + shP)
    (hsh : shC + shS = (sub.shift - s.shift) + shP)
    (hrep : ChildRep Gc shP shC pc sub0 [] sub bodyS)
    (hentry : EntryAt Gc shP cS pc sub0)
    (hGc : HeadsIn G Gc shP s ps cS shS bodyS (isLoop = false))
    (halo : L.atLeastOnce = true → ∀ M0 σE σS, RelAt shP s ps M0 σE σS → G σS → σS.rd cS ≠ 0#w)
    (hnc : L.noContinue = true → ∀ M0 σE σS, RelAt shP s ps M0 σE σS → G σS →
      ∀ x, ¬ Exec [blockInstr isLoop cS shS bodyS oS] σS (.fin x)) :
    Wf s' ∧ s'.subShift = true ∧ s'.anal = s.anal ∧ s'.cond = s.cond ∧ s'.shift = s.shift ∧
    ∃ new, s'.insts = s.insts ++ new ∧ StepNG G shP shP ps s s' [blockInstr isLoop cS shS bodyS oS] new := by
  obtain ⟨sub1, os1, compsC, s1, compsP, _, resC, hclC, hshift1, _, resP, hclP, rfl⟩ :=
    loopOrIf_shift_run hr hwf hwfc hshift
  have hrep1 : ChildRep Gc shP shC pc sub0 [] sub1 bodyS := hrep.emit resC
  obtain ⟨u1, u2, u3, u4, u5, u6, u7, u8, u9, u10⟩ := uncertainShift_fields s1
  obtain ⟨t1, t2, t3, t4, t5, t6, t7⟩ :=
    loopTail_fields (uncertainShift s1) sub1 cond isLoop L (sub1.subShift || sub1.shift != s.shift) []
  have hbs : sub1.shift - (uncertainShift s1).shift = sub.shift - s.shift := by
    rw [u6, resP.hdr.shift, resC.hdr.shift]
  refine ⟨loopTail_wf (uncertainShift_wf resP.wf) _ _ _ _ _ _, by rw [t1.subShift]; exact u2,
    by rw [t1.anal, u9, resP.hdr.anal], by rw [t1.cond, u10, resP.hdr.cond],
    by rw [t1.shift, u6, resP.hdr.shift], ?_⟩
  refine ⟨compsP.map Instr.calc ++ [if isLoop then Instr.loop cond (sub.shift - s.shift) sub1.insts L.atLeastOnce
      else Instr.ifnz cond (sub.shift - s.shift) sub1.insts], ?_, ?_⟩
  · rw [t7, u8, resP.insts, hbs, List.append_assoc]
  have hsub' : (loopTail (uncertainShift s1) sub1 cond isLoop L
      (sub1.subShift || sub1.shift != s.shift) []).subShift = true := by rw [t1.subShift]; exact u2
  refine ⟨fun h => absurd (hsub'.symm.trans h) (by simp), ?_⟩
  intro M0 σE σS hrel hG
  have hrel1 := resP.relAt hrel
  have hm1 : SameMem shP σS (compsP.foldl doCalc σE) := hrel1.sameMem hclP
  have hcondrd : ∀ (σS' σE' : State w), SameMem shP σS' σE' → σS'.rd cS = σE'.rd cond := by
    intro σS' σE' hm
    show σS'.tape.get (σS'.ptr + cS) = σE'.tape.get (σE'.ptr + cond)
    have := congrFun hm.2.2.2 cond
    rw [hcond] at this
    rw [hm.2.2.1, hcond]
    have e : σE'.ptr + shP + cS = σE'.ptr + (cS + shP) := by omega
    rw [e]; exact this
  have hbody : ∀ (k : Nat) (σS' σE' : State w), SameMem shP σS' σE' → Head cS shS bodyS σS k σS' →
      (isLoop = false → k = 0) → σS'.rd cS ≠ 0#w →
      Sim (fun a b => SameMem shP (a.mov shS) (b.mov (sub.shift - s.shift)) ∧
          Head cS shS bodyS σS (k + 1) (a.mov shS)) bodyS sub1.insts σS' σE' ∧
      ¬ Bad sub1.insts σE' :=
    fun k σS' σE' hm hh hk hne => shift_round hrep1 hentry (fun h => hclC (by rw [← resC.noRet]; exact h)) hsh hm hh
      hne (hGc M0 σE σS hrel hG k σS' hh hk hne)
  -- the end-state relation, ignoring `noContinue`
  have hexitQ : ∀ (σS' σE' : State w), SameMem shP σS' σE' → (isLoop = true → σE'.rd cond = 0#w) →
      L.noContinue = false →
      ∃ M0', RelAt shP (loopTail (uncertainShift s1) sub1 cond isLoop L
        (sub1.subShift || sub1.shift != s.shift) []) ps M0' σE' σS' := by
    intro σS' σE' hm hz hncf
    refine ⟨memE σE', relAt_after_shift ps hm (by rw [t1.parent]; exact u1) (by rw [t1.subShift]; exact u2)
      (by rw [t2, u4]; exact hclP) (by rw [t6, hncf, u7, resP.noRet]; exact hrel.nr) cond ?_⟩
    rw [t5, u3]
    cases isLoop with
    | false => exact Or.inl rfl
    | true => exact Or.inr ⟨rfl, hz rfl⟩
  have hsim : Sim (fun a b => SameMem shP a b ∧ (isLoop = true → b.rd cond = 0#w))
      [blockInstr isLoop cS shS bodyS oS]
      [blockInstr isLoop cond (sub.shift - s.shift) sub1.insts L.atLeastOnce] σS (compsP.foldl doCalc σE) :=
    (Sim.block (J := fun k a b => SameMem shP a b ∧ Head cS shS bodyS σS k a)
      (fun _ a b h => hcondrd a b h.1) (fun _ _ _ h => h.1.1.symm)
      (fun k a b h hk hne => (hbody k a b h.1 h.2 hk hne).1) ⟨hm1, Head.zero⟩).mono
      (fun a b ⟨_, h, hz, _⟩ => ⟨h.1, fun e => by rw [← hcondrd a b h.1]; exact hz e⟩)
  refine ⟨Sim.calcs_right compsP ?_, ?_⟩
  · cases hncv : L.noContinue with
    | false =>
      refine hsim.mono ?_
      rintro a b ⟨hab, hz⟩
      obtain ⟨M0', hq⟩ := hexitQ a b hab hz hncv
      exact ⟨M0', hq, fun h => absurd (hsub'.symm.trans h) (by simp)⟩
    | true => exact hsim.of_no_fin (hnc hncv M0 σE σS hrel hG)
  · rw [bad_calcs_iff]
    exact not_bad_block (J := fun k a b => SameMem shP a b ∧ Head cS shS bodyS σS k a)
      (fun _ a b h => hcondrd a b h.1) (fun k a b h hk hne => hbody k a b h.1 h.2 hk hne) ⟨hm1, Head.zero⟩
      (fun hal => halo hal M0 σE σS hrel hG)

end OptProof
end Hpbf
