/-
The interface of the loop-optimisation pack (`Hpbf/Proofs/OptLoop*.lean`) towards the proof of the rebuild round
(`Hpbf/Proofs/OptRb*.lean`): the statements and notions the pack is built to offer, each named by a `#check`, which is
elaborated whenever this module is built.  No module imports this one.  The list is the pack's entry points, not an
inventory of every `OptLoop` name an `OptRb*` file mentions (auxiliary lemmas such as `loopMotion_cases`,
`splitAlong_recompose`, `reduceConst_canon` are used there too).

The pack works with an ABSTRACT loop: a body function `body : Nat → Mem → Mem` (what the emitted instructions of
the child do in round `k`), the memories `run body P m0 k` at the successive loop heads when the pending operations
`P` are performed at the end of every round, and a total sequence `cv` of values of the condition cell.  The rebuild
proof instantiates
* `body := MCtx.absBody` (`OptRbMotion1.lean`): the real effect of the child's code at the `k`-th real head, the
  same for the `k`-th head of the transformed loop, the identity on unwritten cells elsewhere;
* `cv := cvSeq` (`OptRbAnal.lean`): the real values while the loop has heads, the child's prediction afterwards.

THE ENTRY POINTS
1. `analyzeLoop_sound'` (`CondFacts'`: the `getBoth` fact only when `getConstant` fails and `sub.subShift = false`),
   `analyzeLoop_noReturn`, `atMostOnceOf_meaning`, `ofExpr_val_meaning`, `LoopMeaning`, `tripFacts_of_meaning`:
   meaning of the flags of `analyzeLoop` (`factsAt_real_g`, `tripFacts_real_g`).
2. `finishLoop_sim : … → MotionSim …` at a horizon `N` (only the rounds `< N` are known to complete): one statement
   about the lists `B`, `D`, `A` — agreement of the two loops outside `Differ'`, on what is read and on the cells of
   `C`, and the equation at the exit head.  It is made of `finishLoop_prefix` and `finishLoop_motion` with the context
   `finishLoop_ctx_c` (`compare` is only assumed sound on normal forms, `Canon`; `MotionCtxH.constRun` is its field
   about `C`); these are the statements of `Props/C01LoopH`, the rebuild proof calls `finishLoop_sim` only.  The facts
   about the emitted instructions are asked at the memories of the two loops' heads only.
3. the structure of `B`, `D`, `A` beyond that: `motionFold_spec_e` (`MotionAllE`; its `nopend` and
   `motionAllE_D_vars` in `finishLoop_prep_g`), `motionFold_keys_nodup`, `MotionBD.B_none`; `motionStepM_ok` (the child
   after the fold).  `varBD` is the case analysis of `MotionBD` variable by variable (`VarBD`), `Differ'` the set
   `MotionSim` speaks of.
4. `reads_possibleReads`, `cond_possibleReads`, `mem_pendingSorted`, `nodup_pendingSorted`, `SAsc`, `KeysAsc`.
-/
import Hpbf.Proofs.OptLoopTop
import Hpbf.Proofs.OptLoopAnalyze

namespace Hpbf.OptLoop
open Hpbf Opt OptSem

#check @analyzeLoop_sound'
#check @CondFacts'
#check @analyzeLoop_noReturn
#check @atMostOnceOf_meaning
#check @ofExpr_val_meaning
#check @LoopMeaning
#check @tripFacts_of_meaning
#check @TripFacts
#check @finishLoop_prefix
#check @finishLoop_ctx_c
#check @finishLoop_motion
#check @MotionCtxH.constRun
#check @BodyFactsH
#check @GetBothFactsH
#check @motionFold_spec_e
#check @MotionAllE.toBD
#check @motionFold_keys_nodup
#check @varBD
#check @Differ'
#check @motionStepM_ok
#check @reads_possibleReads
#check @cond_possibleReads
#check @mem_pendingSorted
#check @nodup_pendingSorted
#check @run_succ
#check @MotionSim
#check @finishLoop_sim
#check @MotionBD.B_none
#check @motionAllE_D_vars

end Hpbf.OptLoop
