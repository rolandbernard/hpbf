/-
C03 (control flow): the fast instruction decoder of `X86Prog` (`fetchFast` over the table `fetchTable code`)
is the same function as the specification decoder `fetchList code`.  Every instruction has positive size,
so table entries never overwrite each other, and `fetchList` is `none` strictly inside an instruction and
at/after the end of the code.
-/
import Hpbf.Proofs.C03FlowBase
namespace Hpbf
namespace C03
open Asm JitGen X86Sem X86Prog

theorem fetchTable_loop (xs : List X86) : ∀ (tab : Array (Option X86)) (pos : Nat),
    pos + sizeAll xs ≤ tab.size →
    (∀ pc, pos ≤ pc → (tab[pc]?).join = none) →
    ∀ pc, ((xs.foldl (fun (acc : Array (Option X86) × Nat) x =>
        (acc.1.setIfInBounds acc.2 (some x), acc.2 + x.size)) (tab, pos)).1[pc]?).join
      = if pc < pos then (tab[pc]?).join else fetchList xs (pc - pos) := by
  induction xs with
  | nil =>
    intro tab pos _ hnone pc
    simp only [List.foldl_nil, fetchList]
    split
    · rfl
    · exact hnone pc (by omega)
  | cons x xs ih =>
    intro tab pos hsz hnone pc
    have hx := size_pos x
    rw [sizeAll_cons] at hsz
    simp only [List.foldl_cons]
    rw [ih (tab.setIfInBounds pos (some x)) (pos + x.size)
      (by rw [Array.size_setIfInBounds]; omega)
      (by
        intro q hq
        rw [Array.getElem?_setIfInBounds_ne (by omega)]
        exact hnone q (by omega))]
    by_cases h1 : pc < pos
    · rw [if_pos (by omega), if_pos h1, Array.getElem?_setIfInBounds_ne (by omega)]
    · rw [if_neg h1]
      by_cases h2 : pc = pos
      · subst h2
        rw [if_pos (by omega), Array.getElem?_setIfInBounds_self_of_lt (by omega)]
        simp [fetchList]
      · by_cases h3 : pc < pos + x.size
        · rw [if_pos h3, Array.getElem?_setIfInBounds_ne (by omega), hnone pc (by omega)]
          simp only [fetchList]
          rw [if_neg (by omega), if_pos (by omega)]
        · rw [if_neg h3]
          simp only [fetchList]
          rw [if_neg (by omega), if_neg (by omega)]
          congr 1
          omega

theorem fetchFast_eq (code : List Asm.X86) :
    X86Prog.fetchFast (X86Prog.fetchTable code) = X86Prog.fetchList code := by
  funext pc
  unfold fetchFast fetchTable
  rw [fetchTable_loop code _ 0 (by simp) (by intro q _; rw [Array.getElem?_replicate]; split <;> rfl)]
  simp

end C03
end Hpbf

#print axioms Hpbf.C03.fetchFast_eq
