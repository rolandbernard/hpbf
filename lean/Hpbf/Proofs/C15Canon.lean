/-
The normal form `Canon` of `ir::Expr` (every variable list ascending, parts strictly increasing in the
slice order `cmpVars`) is kept by every public operation that returns an expression.
`Canon` depends only on the list of variable lists, so coefficient changes and sublists are free.
The half of `Canon` that speaks about single variable lists is an instance of `PartsAll Q` (every part's variable list
satisfies `Q`; `KeysAll Q` for an accumulation table), which the operations keep for every `Q` that survives merging
(`Merges Q`); the other users of `PartsAll` are outside this file.
-/
import Hpbf.Proofs.C15Decomp
import Hpbf.Proofs.C15Norm

namespace Hpbf
namespace Expr
variable {w : Nat}

/-- What `vars.sort()` produces. -/
def SortedVars (vs : List Int) : Prop := vs.Pairwise (· ≤ ·)

instance (vs : List Int) : Decidable (SortedVars vs) := by unfold SortedVars; infer_instance

def CanonV (V : List (List Int)) : Prop :=
  (∀ vs ∈ V, SortedVars vs) ∧ V.Pairwise (fun a b => cmpVars a b = .lt)

instance (V : List (List Int)) : Decidable (CanonV V) := by unfold CanonV; infer_instance

/-- Strictly increasing by `vars`, hence pairwise distinct monomials and the constant part first. -/
def Canon (e : Expr w) : Prop := CanonV (e.map (·.vars))

instance (e : Expr w) : Decidable (Canon e) := by unfold Canon; infer_instance

theorem canonV_cons {a : List Int} {V : List (List Int)} :
    CanonV (a :: V) ↔ SortedVars a ∧ (∀ b ∈ V, cmpVars a b = .lt) ∧ CanonV V := by
  unfold CanonV
  simp only [List.mem_cons, forall_eq_or_imp, List.pairwise_cons]
  constructor
  · rintro ⟨⟨h1, h2⟩, h3, h4⟩; exact ⟨h1, h3, h2, h4⟩
  · rintro ⟨h1, h3, h2, h4⟩; exact ⟨⟨h1, h2⟩, h3, h4⟩

theorem canon_cons {p : Part w} {e : Expr w} :
    Canon (p :: e) ↔ SortedVars p.vars ∧ (∀ q ∈ e, cmpVars p.vars q.vars = .lt) ∧ Canon e := by
  unfold Canon
  rw [List.map_cons, canonV_cons]
  simp

theorem CanonV.sublist {V V' : List (List Int)} (hs : V'.Sublist V) (h : CanonV V) : CanonV V' :=
  ⟨fun vs hv => h.1 vs (hs.subset hv), h.2.sublist hs⟩

theorem Canon.sublist {e e' : Expr w} (hs : e'.Sublist e) (h : Canon e) : Canon e' :=
  CanonV.sublist (hs.map _) h

theorem Canon.filter {e : Expr w} (P : Part w → Bool) (h : Canon e) : Canon (e.filter P) :=
  h.sublist List.filter_sublist

theorem Canon.of_vars_eq {e e' : Expr w} (hv : e'.map (·.vars) = e.map (·.vars)) (h : Canon e) :
    Canon e' := by
  unfold Canon; rw [hv]; exact h

theorem Canon.map_coef {e : Expr w} (g : Part w → Part w) (hg : ∀ p, (g p).vars = p.vars)
    (h : Canon e) : Canon (e.map g) := by
  apply h.of_vars_eq
  rw [List.map_map]
  exact List.map_congr_left (fun p _ => hg p)

theorem Canon.pairwise {e : Expr w} (h : Canon e) :
    e.Pairwise (fun p q => cmpVars p.vars q.vars = .lt) :=
  List.pairwise_map.1 h.2

theorem Canon.weak {e : Expr w} (h : Canon e) : WeakCanon e := by
  unfold WeakCanon
  refine h.pairwise.imp ?_
  intro p q hlt
  refine ⟨?_, fun _ => cmpVars_lt_ne hlt⟩
  intro hq
  rw [hq] at hlt
  exact cmpVars_nil_right hlt

theorem strict_of_sorted_nodup {V : List (List Int)}
    (hle : V.Pairwise (fun a b => leVars a b = true)) (hnd : V.Nodup) :
    V.Pairwise (fun a b => cmpVars a b = .lt) := by
  refine (hle.and hnd).imp ?_
  rintro a b ⟨h1, h2⟩
  rcases leVars_iff.1 h1 with h | h
  · exact h
  · exact absurd h h2

theorem strict_stableSort (l : Expr w) (hnd : (l.map (·.vars)).Nodup) :
    ((stableSort (fun a b => leVars a.vars b.vars) l).map (·.vars)).Pairwise
      (fun a b => cmpVars a b = .lt) := by
  apply strict_of_sorted_nodup
  · rw [List.pairwise_map]
    exact stableSort_sorted (fun a b : Part w => leVars a.vars b.vars)
      (fun a b => leVars_total a.vars b.vars) (fun a b c => leVars_trans) l
  · exact ((stableSort_perm _ l).map _).nodup_iff.2 hnd

theorem sortVars_sorted (vs : List Int) : SortedVars (sortVars vs) := by
  unfold SortedVars sortVars
  refine (stableSort_sorted (fun a b : Int => decide (a ≤ b)) ?_ ?_ vs).imp ?_
  · intro a b h
    simp only [decide_eq_false_iff_not, decide_eq_true_eq] at h ⊢
    omega
  · intro a b c h1 h2
    simp only [decide_eq_true_eq] at h1 h2 ⊢
    omega
  · intro a b h
    simpa using h

theorem sortedVars_sublist {a b : List Int} (hs : a.Sublist b) (h : SortedVars b) : SortedVars a :=
  List.Pairwise.sublist hs h

theorem sortedVars_perm_eq {a b : List Int} (ha : SortedVars a) (hb : SortedVars b) (h : a.Perm b) :
    a = b :=
  List.Perm.eq_of_pairwise (le := (· ≤ ·)) (fun _ _ _ _ h1 h2 => Int.le_antisymm h1 h2) ha hb h

theorem mem_keys_accum (m : List (List Int × BitVec w)) (k x : List Int) (c : BitVec w) :
    x ∈ (accum m k c).map Prod.fst ↔ x ∈ m.map Prod.fst ∨ x = k := by
  induction m with
  | nil => simp [accum]
  | cons kc m ih =>
    obtain ⟨k', c'⟩ := kc
    simp only [accum]
    split
    · rename_i h
      subst h
      simp only [List.map_cons, List.mem_cons]
      constructor
      · intro h; exact Or.inl h
      · rintro (h | h)
        · exact h
        · exact Or.inl h
    · simp only [List.map_cons, List.mem_cons, ih]
      constructor
      · rintro (h | h | h)
        · exact Or.inl (Or.inl h)
        · exact Or.inl (Or.inr h)
        · exact Or.inr h
      · rintro ((h | h) | h)
        · exact Or.inl h
        · exact Or.inr (Or.inl h)
        · exact Or.inr (Or.inr h)

theorem nodup_keys_accum (m : List (List Int × BitVec w)) (k : List Int) (c : BitVec w)
    (h : (m.map Prod.fst).Nodup) : ((accum m k c).map Prod.fst).Nodup := by
  induction m with
  | nil => simp [accum]
  | cons kc m ih =>
    obtain ⟨k', c'⟩ := kc
    simp only [List.map_cons, List.nodup_cons] at h
    simp only [accum]
    split
    · simpa using h
    · rename_i hne
      simp only [List.map_cons, List.nodup_cons]
      refine ⟨?_, ih h.2⟩
      rw [mem_keys_accum]
      rintro (h' | h')
      · exact h.1 h'
      · exact hne h'

theorem foldl_accum_invariant {α : Type} {I : List (List Int × BitVec w) → Prop}
    {Q : List Int → Prop} (hacc : ∀ m k c, I m → Q k → I (accum m k c))
    (K : α → List Int) (C : α → BitVec w) (l : List α) (hK : ∀ x ∈ l, Q (K x))
    (m : List (List Int × BitVec w)) (h : I m) :
    I (l.foldl (fun m x => accum m (K x) (C x)) m) := by
  induction l generalizing m with
  | nil => exact h
  | cons x l ih =>
    simp only [List.foldl_cons]
    exact ih (fun y hy => hK y (List.mem_cons_of_mem _ hy)) _
      (hacc m _ _ h (hK x List.mem_cons_self))

/-! ### Properties of the parts' variable lists that every operation keeps

`PartsAll Q e`: the variable list of every part of `e` satisfies `Q`.  The operations build variable lists only by
merging two (`sortVars (a ++ b)`, in products) and by taking them over, so a `Q` that survives merging (`Merges Q`) is
kept by `mulParts`, `mul` and substitution, and any `Q` by `add` and `finish`.  "Every variable list is ascending"
(`Canon.inner`) is `PartsAll SortedVars`; "all variables lie in `S`" (`OptLoop.VarsIn S`) is
`PartsAll (∀ x ∈ ·, S x)`. -/

def PartsAll (Q : List Int → Prop) (e : Expr w) : Prop := ∀ p ∈ e, Q p.vars

def KeysAll (Q : List Int → Prop) (m : List (List Int × BitVec w)) : Prop := ∀ kc ∈ m, Q kc.1

variable {Q : List Int → Prop}

theorem keysAll_nil : KeysAll Q ([] : List (List Int × BitVec w)) := fun _ h => nomatch h

theorem keysAll_accum {m : List (List Int × BitVec w)} (k : List Int) (c : BitVec w) (hm : KeysAll Q m)
    (hk : Q k) : KeysAll Q (accum m k c) := by
  intro kc hkc
  rcases (mem_keys_accum m k kc.1 c).1 (List.mem_map.2 ⟨kc, hkc, rfl⟩) with h | h
  · obtain ⟨kc', h1, h2⟩ := List.mem_map.1 h
    exact h2 ▸ hm kc' h1
  · exact h ▸ hk

theorem partsAll_finish {m : List (List Int × BitVec w)} (hm : KeysAll Q m) : PartsAll Q (finish m) := by
  intro p hp
  unfold finish at hp
  obtain ⟨kc, hkc, rfl⟩ := List.mem_map.1 ((stableSort_perm _ _).mem_iff.1 hp)
  exact hm kc (List.mem_filter.1 hkc).1

/-- `Q` is kept when two variable lists are merged (what a product does). -/
def Merges (Q : List Int → Prop) : Prop := ∀ a b, Q a → Q b → Q (sortVars (a ++ b))

theorem foldl2_accum_invariant {α β : Type} {I : List (List Int × BitVec w) → Prop}
    (hacc : ∀ m k c, I m → Q k → I (accum m k c)) (K : α → β → List Int) (C : α → β → BitVec w)
    (A : List α) (B : List β) (hK : ∀ x ∈ A, ∀ y ∈ B, Q (K x y))
    (m : List (List Int × BitVec w)) (h : I m) :
    I (A.foldl (fun m x => B.foldl (fun m y => accum m (K x y) (C x y)) m) m) := by
  induction A generalizing m with
  | nil => exact h
  | cons x A ih =>
    exact ih (fun x' hx' => hK x' (List.mem_cons_of_mem _ hx')) _
      (foldl_accum_invariant hacc (K x) (C x) B (hK x List.mem_cons_self) m h)

theorem partsAll_mulParts (hQ : Merges Q) {l r : Expr w} (hl : PartsAll Q l) (hr : PartsAll Q r) :
    PartsAll Q (mulParts l r) := by
  unfold mulParts
  split
  · intro p hp; cases hp
  · intro p hp; cases hp
  · intro p hp
    obtain ⟨p0, hp0, rfl⟩ := List.mem_map.1 (List.mem_filter.1 hp).1
    exact hQ _ _ (hr p0 hp0) (hl _ List.mem_cons_self)
  · intro p hp
    obtain ⟨p0, hp0, rfl⟩ := List.mem_map.1 (List.mem_filter.1 hp).1
    exact hQ _ _ (hl p0 hp0) (hr _ List.mem_cons_self)
  · intro p hp
    obtain ⟨kc, hkc, rfl⟩ := List.mem_map.1 hp
    exact foldl2_accum_invariant (I := KeysAll Q) (fun _ k c h hk => keysAll_accum k c h hk)
      (fun sp op : Part w => sortVars (sp.vars ++ op.vars)) (fun sp op => sp.coef * op.coef) r l
      (fun sp hsp op hop => hQ _ _ (hr sp hsp) (hl op hop)) [] keysAll_nil kc (List.mem_filter.1 hkc).1

theorem partsAll_substProd (hQ : Merges Q) (g : Int → Option (Expr w)) (vs : List Int)
    (hg : ∀ v ∈ vs, ∀ e, g v = some e → PartsAll Q e) (part pr : Expr w) (hp : PartsAll Q part)
    (h : substProd g part vs = some pr) : PartsAll Q pr := by
  induction vs generalizing part with
  | nil => simp only [substProd, Option.some.injEq] at h; exact h ▸ hp
  | cons v vs ih =>
    simp only [substProd] at h
    cases hgv : g v with
    | none => simp [hgv] at h
    | some e =>
      simp only [hgv] at h
      exact ih (fun x hx => hg x (List.mem_cons_of_mem _ hx)) _
        (partsAll_mulParts hQ hp (hg v List.mem_cons_self e hgv)) h

theorem partsAll_substAll (hQ : Merges Q) (hnil : Q []) (g : Int → Option (Expr w)) (vs : List Int)
    (hg : ∀ v ∈ vs, ∀ e, g v = some e → PartsAll Q e) (pr : Expr w) (h : substAll g vs = some pr) :
    PartsAll Q pr := by
  cases vs with
  | nil =>
    simp only [substAll, Option.some.injEq] at h
    subst h; intro p hp; rw [List.mem_singleton.1 hp]; exact hnil
  | cons v vs =>
    simp only [substAll] at h
    cases hgv : g v with
    | none => simp [hgv] at h
    | some e0 =>
      simp only [hgv, Option.bind_some] at h
      exact partsAll_substProd hQ g vs (fun x hx => hg x (List.mem_cons_of_mem _ hx)) e0 pr
        (hg v List.mem_cons_self e0 hgv) h

theorem merges_sorted : Merges SortedVars := fun _ _ _ _ => sortVars_sorted _

theorem merges_in (S : Int → Prop) : Merges (fun vs => ∀ x ∈ vs, S x) := fun a b ha hb x hx =>
  (List.mem_append.1 ((sortVars_perm _).mem_iff.1 hx)).elim (ha x) (hb x)

theorem mem_add_vars {a b : Expr w} {r : Part w} (h : r ∈ add a b) :
    (∃ s ∈ a, r.vars = s.vars) ∨ (∃ s ∈ b, r.vars = s.vars) := by
  fun_induction add a b with
  | case1 b => exact Or.inr ⟨r, h, rfl⟩
  | case2 a _ => exact Or.inl ⟨r, h, rfl⟩
  | case3 p ps q qs hc ih =>
    rcases List.mem_cons.1 h with rfl | h
    · exact Or.inl ⟨r, List.mem_cons_self, rfl⟩
    · rcases ih h with ⟨s, hs, e⟩ | ⟨s, hs, e⟩
      · exact Or.inl ⟨s, List.mem_cons_of_mem _ hs, e⟩
      · exact Or.inr ⟨s, hs, e⟩
  | case4 p ps q qs hc ih =>
    rcases List.mem_cons.1 h with rfl | h
    · exact Or.inr ⟨r, List.mem_cons_self, rfl⟩
    · rcases ih h with ⟨s, hs, e⟩ | ⟨s, hs, e⟩
      · exact Or.inl ⟨s, hs, e⟩
      · exact Or.inr ⟨s, List.mem_cons_of_mem _ hs, e⟩
  | case5 p ps q qs hc c hne ih =>
    rcases List.mem_cons.1 h with rfl | h
    · exact Or.inl ⟨p, List.mem_cons_self, rfl⟩
    · rcases ih h with ⟨s, hs, e⟩ | ⟨s, hs, e⟩
      · exact Or.inl ⟨s, List.mem_cons_of_mem _ hs, e⟩
      · exact Or.inr ⟨s, List.mem_cons_of_mem _ hs, e⟩
  | case6 p ps q qs hc c hne ih =>
    rcases ih h with ⟨s, hs, e⟩ | ⟨s, hs, e⟩
    · exact Or.inl ⟨s, List.mem_cons_of_mem _ hs, e⟩
    · exact Or.inr ⟨s, List.mem_cons_of_mem _ hs, e⟩

theorem partsAll_add {a b : Expr w} (ha : PartsAll Q a) (hb : PartsAll Q b) : PartsAll Q (add a b) := by
  intro r hr
  rcases mem_add_vars hr with ⟨s, hs, e⟩ | ⟨s, hs, e⟩
  · exact e ▸ ha s hs
  · exact e ▸ hb s hs

theorem partsAll_mul (hQ : Merges Q) (hnil : Q []) {a b : Expr w} (ha : PartsAll Q a) (hb : PartsAll Q b) :
    PartsAll Q (mul a b) := by
  have hval : ∀ c : BitVec w, PartsAll Q (val c) := by
    intro c p hp
    unfold Expr.val at hp
    split at hp
    · cases hp
    · rw [List.mem_singleton.1 hp]; exact hnil
  have hsa : ∀ {e : Expr w} {q : Part w}, PartsAll Q e → Q q.vars → PartsAll Q (scaleAppend e q) := by
    intro e q he hq p hp
    unfold scaleAppend at hp
    obtain ⟨p0, hp0, rfl⟩ := List.mem_map.1 (List.mem_filter.1 ((stableSort_perm _ _).mem_iff.1 hp)).1
    exact hQ _ _ (he p0 hp0) hq
  unfold mul
  split
  · exact hval _
  · exact hval _
  · exact hsa hb (ha _ List.mem_cons_self)
  · exact hsa ha (hb _ List.mem_cons_self)
  · exact partsAll_finish (foldl2_accum_invariant (I := KeysAll Q) (fun _ k c h hk => keysAll_accum k c h hk)
      (fun sp op : Part w => sortVars (sp.vars ++ op.vars)) (fun sp op => sp.coef * op.coef) a b
      (fun sp hsp op hop => hQ _ _ (ha sp hsp) (hb op hop)) [] keysAll_nil)

theorem symbLoop_invariant {I : List (List Int × BitVec w) → Prop} {Q : List Int → Prop}
    (hacc : ∀ m k c, I m → Q k → I (accum m k c)) (g : Int → Option (Expr w))
    (ps : List (Part w)) (hsub : ∀ p ∈ ps, ∀ pr, substAll g p.vars = some pr → ∀ q ∈ pr, Q q.vars)
    (m m' : List (List Int × BitVec w)) (hm : I m)
    (h : symbLoop g ps m = some m') : I m' := by
  induction ps generalizing m with
  | nil =>
    simp only [symbLoop, Option.some.injEq] at h
    subst h; exact hm
  | cons p ps ih =>
    rw [symbLoop_cons] at h
    cases hs : substAll g p.vars with
    | none => simp [hs] at h
    | some pr =>
      simp only [hs, Option.bind_some] at h
      exact ih (fun q hq => hsub q (List.mem_cons_of_mem _ hq)) _
        (foldl_accum_invariant hacc (fun vp : Part w => vp.vars) (fun vp => p.coef * vp.coef)
          pr (hsub p List.mem_cons_self pr hs) m hm) h

theorem partsAll_symbEvaluate (hQ : Merges Q) (hnil : Q []) (g : Int → Option (Expr w)) (e r : Expr w)
    (hg : ∀ v ∈ variables e, ∀ e', g v = some e' → PartsAll Q e') (h : symbEvaluate e g = some r) :
    PartsAll Q r := by
  unfold symbEvaluate at h
  split at h
  · rename_i v hid
    refine hg v ?_ r h
    rw [identity_some hid]; simp [Expr.variables]
  · split at h
    · simp only [Option.some.injEq] at h
      subst h
      unfold Expr.val
      split
      · intro p hp; cases hp
      · intro p hp; rw [List.mem_singleton.1 hp]; exact hnil
    · cases hs : symbLoop g e [] with
      | none => simp [hs] at h
      | some m =>
        simp only [hs, Option.some.injEq] at h
        subst h
        exact partsAll_finish (symbLoop_invariant (I := KeysAll Q) (Q := Q)
          (fun _ k c h hk => keysAll_accum k c h hk) g e
          (fun p hp pr hpr => partsAll_substAll hQ hnil g p.vars
            (fun v hv => hg v (by simp only [Expr.variables, List.mem_flatMap]; exact ⟨p, hp, hv⟩)) pr hpr)
          [] m keysAll_nil hs)

/-! ### `Canon` is kept -/

theorem Canon.inner {e : Expr w} (h : Canon e) : PartsAll SortedVars e := by
  intro p hp
  exact h.1 p.vars (List.mem_map.2 ⟨p, hp, rfl⟩)

theorem Canon.of_parts {e : Expr w} (h1 : PartsAll SortedVars e)
    (h2 : (e.map (·.vars)).Pairwise (fun a b => cmpVars a b = .lt)) : Canon e := by
  refine ⟨fun vs hvs => ?_, h2⟩
  obtain ⟨p, hp, rfl⟩ := List.mem_map.1 hvs
  exact h1 p hp

theorem canon_stableSort (l : Expr w) (hin : PartsAll SortedVars l) (hnd : (l.map (·.vars)).Nodup) :
    Canon (stableSort (fun a b => leVars a.vars b.vars) l) :=
  .of_parts (fun p hp => hin p ((stableSort_perm _ l).mem_iff.1 hp)) (strict_stableSort l hnd)

/-- What the accumulation table of a product or a substitution satisfies: sorted keys, each once. -/
def TableOK (m : List (List Int × BitVec w)) : Prop :=
  KeysAll SortedVars m ∧ (m.map Prod.fst).Nodup

theorem tableOK_nil : TableOK ([] : List (List Int × BitVec w)) := ⟨keysAll_nil, List.nodup_nil⟩

theorem tableOK_accum {m : List (List Int × BitVec w)} (h : TableOK m) (k : List Int) (c : BitVec w)
    (hk : SortedVars k) : TableOK (accum m k c) :=
  ⟨keysAll_accum k c h.1 hk, nodup_keys_accum m k c h.2⟩

theorem tableOK_foldl2 {α β : Type} (K : α → β → List Int) (C : α → β → BitVec w)
    (hK : ∀ x y, SortedVars (K x y)) (A : List α) (B : List β)
    (m : List (List Int × BitVec w)) (h : TableOK m) :
    TableOK (A.foldl (fun m x => B.foldl (fun m y => accum m (K x y) (C x y)) m) m) :=
  foldl2_accum_invariant (I := TableOK) (Q := SortedVars) (fun _ k c h hk => tableOK_accum h k c hk) K C A B
    (fun x _ y _ => hK x y) m h

theorem nodup_vars_ofTable {m : List (List Int × BitVec w)} (h : (m.map Prod.fst).Nodup) :
    (((m.filter (fun kc => kc.2 != 0#w)).map
      (fun kc => ({ coef := kc.2, vars := kc.1 } : Part w))).map (·.vars)).Nodup := by
  rw [List.map_map]
  exact h.sublist (List.filter_sublist.map _)

theorem strict_finish {m : List (List Int × BitVec w)} (h : (m.map Prod.fst).Nodup) :
    ((finish m).map (·.vars)).Pairwise (fun a b => cmpVars a b = .lt) :=
  strict_stableSort _ (nodup_vars_ofTable h)

theorem canon_finish {m : List (List Int × BitVec w)} (h : TableOK m) : Canon (finish m) :=
  .of_parts (partsAll_finish h.1) (strict_finish h.2)

theorem canon_nil : Canon ([] : Expr w) := by simp [Canon, CanonV]

theorem canon_val (c : BitVec w) : Canon (val c) := by
  unfold val; split <;> simp [Canon, CanonV, SortedVars]

theorem canon_var (v : Int) : Canon (var v : Expr w) := by
  simp [var, Canon, CanonV, SortedVars]

/-- `add` is a merge. The guard `G` says which later parts must be strictly above the earlier ones:
all of them for `Canon`, those with at most one variable for `SCanon`. -/
theorem add_ordered (G : List Int → Prop) {a b : Expr w}
    (ha : a.Pairwise (fun p q => G q.vars → cmpVars p.vars q.vars = .lt))
    (hb : b.Pairwise (fun p q => G q.vars → cmpVars p.vars q.vars = .lt)) :
    (add a b).Pairwise (fun p q => G q.vars → cmpVars p.vars q.vars = .lt) := by
  fun_induction add a b with
  | case1 b => exact hb
  | case2 a _ => exact ha
  | case3 p ps q qs hc ih =>
    obtain ⟨ha2, ha3⟩ := List.pairwise_cons.1 ha
    obtain ⟨hb2, hb3⟩ := List.pairwise_cons.1 hb
    refine List.pairwise_cons.2 ⟨?_, ih ha3 hb⟩
    intro r hr hg
    rcases mem_add_vars hr with ⟨s, hs, e⟩ | ⟨s, hs, e⟩
    · rw [e] at hg ⊢; exact ha2 s hs hg
    · rw [e] at hg ⊢
      rcases List.mem_cons.1 hs with rfl | hs
      · exact hc
      · exact cmpVars_lt_trans hc (hb2 s hs hg)
  | case4 p ps q qs hc ih =>
    obtain ⟨ha2, ha3⟩ := List.pairwise_cons.1 ha
    obtain ⟨hb2, hb3⟩ := List.pairwise_cons.1 hb
    have hqp : cmpVars q.vars p.vars = .lt := cmpVars_swap.2 hc
    refine List.pairwise_cons.2 ⟨?_, ih ha hb3⟩
    intro r hr hg
    rcases mem_add_vars hr with ⟨s, hs, e⟩ | ⟨s, hs, e⟩
    · rw [e] at hg ⊢
      rcases List.mem_cons.1 hs with rfl | hs
      · exact hqp
      · exact cmpVars_lt_trans hqp (ha2 s hs hg)
    · rw [e] at hg ⊢; exact hb2 s hs hg
  | case5 p ps q qs hc c hne ih =>
    obtain ⟨ha2, ha3⟩ := List.pairwise_cons.1 ha
    obtain ⟨hb2, hb3⟩ := List.pairwise_cons.1 hb
    have hv : p.vars = q.vars := cmpVars_eq_iff.1 hc
    refine List.pairwise_cons.2 ⟨?_, ih ha3 hb3⟩
    intro r hr hg
    show cmpVars p.vars r.vars = .lt
    rcases mem_add_vars hr with ⟨s, hs, e⟩ | ⟨s, hs, e⟩
    · rw [e] at hg ⊢; exact ha2 s hs hg
    · rw [e] at hg ⊢; rw [hv]; exact hb2 s hs hg
  | case6 p ps q qs hc c hne ih =>
    exact ih (List.pairwise_cons.1 ha).2 (List.pairwise_cons.1 hb).2

theorem canon_add {a b : Expr w} (ha : Canon a) (hb : Canon b) : Canon (add a b) :=
  .of_parts (partsAll_add ha.inner hb.inner)
    (List.pairwise_map.2 ((add_ordered (fun _ => True) (ha.pairwise.imp fun h _ => h)
      (hb.pairwise.imp fun h _ => h)).imp fun h => h trivial))

theorem canon_neg {a : Expr w} (h : Canon a) : Canon (neg a) :=
  h.map_coef _ (fun _ => rfl)

theorem canon_half {a r : Expr w} (h : Canon a) (hh : half a = some r) : Canon r := by
  unfold half at hh
  split at hh
  · simp only [Option.some.injEq] at hh
    subst hh
    exact h.map_coef _ (fun _ => rfl)
  · cases hh

theorem sortVars_append_inj {a b p : List Int} (ha : SortedVars a) (hb : SortedVars b)
    (h : sortVars (a ++ p) = sortVars (b ++ p)) : a = b := by
  have h1 : (a ++ p).Perm (b ++ p) :=
    (sortVars_perm (a ++ p)).symm.trans (h ▸ sortVars_perm (b ++ p))
  exact sortedVars_perm_eq ha hb ((List.perm_append_right_iff p).1 h1)

/-- Merging the fixed `p.vars` into sorted lists is injective (`sortVars_append_inj`), so distinct `vars` stay distinct;
the sort then makes them strict. -/
theorem canon_scaleAppend {e : Expr w} (p : Part w) (h : Canon e) : Canon (scaleAppend e p) := by
  unfold scaleAppend
  apply canon_stableSort
  · intro q hq
    obtain ⟨q0, _, rfl⟩ := List.mem_map.1 (List.mem_filter.1 hq).1
    exact sortVars_sorted _
  · refine List.Nodup.sublist (List.filter_sublist.map _) ?_
    rw [List.map_map]
    have : ((fun q : Part w => q.vars) ∘ fun q : Part w =>
        ({ coef := q.coef * p.coef, vars := sortVars (q.vars ++ p.vars) } : Part w))
        = (fun vs => sortVars (vs ++ p.vars)) ∘ (fun q : Part w => q.vars) := rfl
    rw [this, ← List.map_map]
    unfold List.Nodup
    rw [List.pairwise_map]
    refine h.2.imp_of_mem ?_
    intro a b hma hmb hlt heq
    exact cmpVars_lt_ne hlt (sortVars_append_inj (h.1 a hma) (h.1 b hmb) heq)

theorem canon_mul {a b : Expr w} (ha : Canon a) (hb : Canon b) : Canon (mul a b) := by
  unfold mul
  split
  · exact canon_val _
  · exact canon_val _
  · exact canon_scaleAppend _ hb
  · exact canon_scaleAppend _ ha
  · exact canon_finish (tableOK_foldl2 (fun sp op : Part w => sortVars (sp.vars ++ op.vars))
      (fun sp op => sp.coef * op.coef) (fun _ _ => sortVars_sorted _) a b [] tableOK_nil)

theorem mergeChunks_vars (l : List (Part w)) : (mergeChunks l).map (·.vars) = l.map (·.vars) := by
  fun_induction mergeChunks l with
  | case1 => rfl
  | case2 p => rfl
  | case3 p q rest h hnil ih => exact absurd hnil (mergeChunks_ne_nil _ _)
  | case4 p q rest h hd tl heq ih =>
    rw [heq] at ih
    simp only [List.map_cons, List.cons.injEq] at ih ⊢
    exact ⟨ih.1, trivial, ih.2⟩
  | case5 p q rest h ih =>
    simp only [List.map_cons, List.cons.injEq] at ih ⊢
    exact ⟨trivial, ih⟩

theorem mergeChunks_pairwise (l : List (Part w))
    (hs : (l.map (·.vars)).Pairwise (fun a b => leVars a b = true)) :
    (mergeChunks l).Pairwise (fun p q => p.vars = q.vars → q.coef = 0#w) := by
  fun_induction mergeChunks l with
  | case1 => exact List.Pairwise.nil
  | case2 p => simp
  | case3 p q rest h hnil ih => exact absurd hnil (mergeChunks_ne_nil _ _)
  | case4 p q rest h hd tl heq ih =>
    have hv := mergeChunks_vars ({ p with coef := p.coef + q.coef } :: rest)
    rw [heq] at ih hv
    simp only [List.map_cons, List.cons.injEq] at hv
    have hs' : (({ p with coef := p.coef + q.coef } :: rest).map (·.vars)).Pairwise
        (fun a b => leVars a b = true) := by
      simp only [List.map_cons] at hs ⊢
      exact hs.sublist (List.Sublist.cons_cons _ (List.Sublist.cons _ (List.Sublist.refl _)))
    have ih' := List.pairwise_cons.1 (ih hs')
    refine List.pairwise_cons.2 ⟨?_, List.pairwise_cons.2 ⟨?_, ih'.2⟩⟩
    · intro x hx
      rcases List.mem_cons.1 hx with rfl | hx
      · intro _; rfl
      · exact ih'.1 x hx
    · intro x hx hqx
      exact ih'.1 x hx (by rw [hv.1, h]; exact hqx)
  | case5 p q rest h ih =>
    have hs' : ((q :: rest).map (·.vars)).Pairwise (fun a b => leVars a b = true) := by
      simp only [List.map_cons] at hs ⊢
      exact (List.pairwise_cons.1 hs).2
    refine List.pairwise_cons.2 ⟨?_, ih hs'⟩
    intro x hx hpx
    exfalso
    have hxv : x.vars ∈ (mergeChunks (q :: rest)).map (·.vars) := List.mem_map.2 ⟨x, hx, rfl⟩
    rw [mergeChunks_vars] at hxv
    simp only [List.map_cons, List.pairwise_cons] at hs
    have hpq : leVars p.vars q.vars = true := hs.1 _ List.mem_cons_self
    simp only [List.map_cons, List.mem_cons] at hxv
    rcases hxv with hxq | hxr
    · exact h (hpx.trans hxq)
    · have hqx : leVars q.vars x.vars = true := hs.2.1 _ hxr
      rw [← hpx] at hqx
      exact h (leVars_antisymm hpq hqx)

theorem zip_map_any_false {α β : Type} (g : α → β) (Q : α × β → Bool) (e : List α)
    (h : (e.zip (e.map g)).any Q = false) : ∀ p ∈ e, Q (p, g p) = false := by
  induction e with
  | nil => intro p hp; cases hp
  | cons x e ih =>
    simp only [List.map_cons, List.zip_cons_cons, List.any_cons, Bool.or_eq_false_iff] at h
    intro p hp
    rcases List.mem_cons.1 hp with rfl | hp
    · exact h.1
    · exact ih h.2 p hp

/-- When the Rust local `need_elim` (ir.rs:149) stays false, `dedup` changed nothing. -/
theorem dedupMap_eq_self (e : Expr w)
    (hne : ¬ ((e.zip (e.map (fun p => if p.coef = halfMod w then { p with vars := dedupVars p.vars } else p))).any
          (fun pq => pq.1.coef = halfMod w && pq.1.vars.length != pq.2.vars.length) = true)) :
    e.map (fun p => if p.coef = halfMod w then { p with vars := dedupVars p.vars } else p) = e := by
  have hne' : (e.zip (e.map (fun p => if p.coef = halfMod w then { p with vars := dedupVars p.vars } else p))).any
      (fun pq => pq.1.coef = halfMod w && pq.1.vars.length != pq.2.vars.length) = false := by
    simpa using hne
  have hz := zip_map_any_false _ _ e hne'
  conv => rhs; rw [← List.map_id e]
  apply List.map_congr_left
  intro p hp
  have hq := hz p hp
  split
  · rename_i hc
    simp only [hc, decide_true, Bool.true_and, bne_eq_false_iff_eq] at hq
    have := dedupVars_eq_of_length p.vars hq.symm
    simp [this]
  · rfl

/-- The branch under the Rust local `need_elim` (ir.rs:159-168: sort, merge equal neighbours, drop
zeros) makes the order strict whatever the input. -/
theorem strict_mergeSorted (e' : Expr w) :
    (((mergeChunks (stableSort (fun a b => leVars a.vars b.vars) e')).filter (fun p => p.coef != 0#w)).map
        (·.vars)).Pairwise (fun a b => cmpVars a b = .lt) ∧
    ∀ p ∈ (mergeChunks (stableSort (fun a b => leVars a.vars b.vars) e')).filter (fun p => p.coef != 0#w),
      ∃ p1 ∈ e', p.vars = p1.vars := by
  have hperm := stableSort_perm (fun a b : Part w => leVars a.vars b.vars) e'
  have hsorted := stableSort_sorted (fun a b : Part w => leVars a.vars b.vars)
    (fun a b => leVars_total a.vars b.vars) (fun a b c => leVars_trans) e'
  generalize stableSort (fun a b : Part w => leVars a.vars b.vars) e' = s at hperm hsorted
  have hsv : (s.map (·.vars)).Pairwise (fun a b => leVars a b = true) := List.pairwise_map.2 hsorted
  have hmv := mergeChunks_vars s
  have hmp := mergeChunks_pairwise s hsv
  have hmle : (mergeChunks s).Pairwise (fun p q => leVars p.vars q.vars = true) := by
    have : ((mergeChunks s).map (·.vars)).Pairwise (fun a b => leVars a b = true) := by
      rw [hmv]; exact hsv
    exact List.pairwise_map.1 this
  constructor
  · rw [List.pairwise_map]
    refine ((hmle.and hmp).filter _).imp_of_mem ?_
    rintro p q _ hq ⟨h1, h2⟩
    rcases leVars_iff.1 h1 with hlt | heq
    · exact hlt
    · have := h2 heq
      have hq0 := (List.mem_filter.1 hq).2
      simp [this] at hq0
  · intro p hp
    have hp' : p.vars ∈ (mergeChunks s).map (·.vars) := List.mem_map.2 ⟨p, (List.mem_filter.1 hp).1, rfl⟩
    rw [hmv] at hp'
    obtain ⟨p1, hp1, e1⟩ := List.mem_map.1 hp'
    exact ⟨p1, hperm.mem_iff.1 hp1, e1.symm⟩

theorem normPhase1_cases (e : Expr w) :
    normPhase1 e = e ∨
    (((normPhase1 e).map (·.vars)).Pairwise (fun a b => cmpVars a b = .lt) ∧
      ∀ p ∈ normPhase1 e, ∃ p0 ∈ e, p.vars.Sublist p0.vars) := by
  unfold normPhase1
  split
  · simp only []
    split
    · obtain ⟨h1, h2⟩ := strict_mergeSorted
        (e.map (fun p => if p.coef = halfMod w then { p with vars := dedupVars p.vars } else p))
      refine Or.inr ⟨h1, fun p hp => ?_⟩
      obtain ⟨p1, hp1, e1⟩ := h2 p hp
      obtain ⟨p0, hp0, rfl⟩ := List.mem_map.1 hp1
      refine ⟨p0, hp0, ?_⟩
      rw [e1]
      split
      · exact dedupVars_sublist _
      · exact List.Sublist.refl _
    · rename_i hne
      exact Or.inl (dedupMap_eq_self e hne)
  · exact Or.inl rfl

theorem canon_normPhase1 {e : Expr w} (h : Canon e) : Canon (normPhase1 e) := by
  rcases normPhase1_cases e with he | ⟨hs, hv⟩
  · rw [he]; exact h
  · refine ⟨fun vs hvs => ?_, hs⟩
    obtain ⟨p, hp, rfl⟩ := List.mem_map.1 hvs
    obtain ⟨p0, hp0, hsub⟩ := hv p hp
    exact sortedVars_sublist hsub (h.inner p0 hp0)

/-- Phase 2 only changes coefficients and then drops parts, so every sublist-closed property of the
list of `vars` survives it. -/
theorem normTail_vars {P : List (List Int) → Prop}
    (hsub : ∀ {V V' : List (List Int)}, V'.Sublist V → P V → P V') {e1 : Expr w}
    (h : P (e1.map (·.vars))) : P ((normTail e1).map (·.vars)) := by
  unfold normTail
  split
  · obtain ⟨s1, _⟩ := normPhase2_spec (fun _ => 0#w) (halfMod w + 1#w) (halfMod w + (-1#w))
      (e1.map (·.vars)) e1.length 0 e1.toArray [] false (by simp) (IdxOK_nil _)
    generalize normPhase2 (halfMod w) (halfMod w + 1#w) (halfMod w + (-1#w)) e1.length 0 e1.toArray [] false
      = st at s1
    obtain ⟨parts, need⟩ := st
    simp only at s1 ⊢
    rw [← s1] at h
    split
    · exact hsub (List.filter_sublist.map _) h
    · exact h
  · exact h

theorem canon_normTail {e1 : Expr w} (h : Canon e1) : Canon (normTail e1) :=
  normTail_vars CanonV.sublist h

theorem canon_normalize {e : Expr w} (h : Canon e) : Canon (normalize e) := by
  rw [normalize_eq]
  split
  · exact canon_normTail (canon_normPhase1 h)
  · exact h

theorem tableOK_symbLoop (g : Int → Option (Expr w))
    (hg : ∀ v e, g v = some e → PartsAll SortedVars e) (ps : List (Part w))
    (m m' : List (List Int × BitVec w)) (hm : TableOK m) (h : symbLoop g ps m = some m') :
    TableOK m' :=
  symbLoop_invariant (I := TableOK) (Q := SortedVars) (fun _ k c h hk => tableOK_accum h k c hk) g ps
    (fun p _ => partsAll_substAll merges_sorted (by simp [SortedVars]) g p.vars (fun v _ => hg v)) m m' hm h

theorem canon_symbEvaluate {e r : Expr w} (g : Int → Option (Expr w))
    (hg : ∀ v e', g v = some e' → Canon e') (h : symbEvaluate e g = some r) : Canon r := by
  unfold symbEvaluate at h
  split at h
  · rename_i v hid
    exact hg v r h
  · split at h
    · simp only [Option.some.injEq] at h
      subst h; exact canon_val _
    · split at h
      · cases h
      · rename_i m hm
        simp only [Option.some.injEq] at h
        subst h
        exact canon_finish (tableOK_symbLoop g (fun v e' hv => (hg v e' hv).inner) e [] m tableOK_nil hm)

theorem perm_of_count_one (v : Int) (vs : List Int) (h : (vs.filter (· == v)).length = 1) :
    vs.Perm (v :: vs.filter (· != v)) := by
  have h1 : vs.filter (· == v) = [v] := by
    obtain ⟨x, hx⟩ := List.length_eq_one_iff.1 h
    have : x ∈ vs.filter (· == v) := by rw [hx]; exact List.mem_singleton_self x
    have := (List.mem_filter.1 this).2
    simp only [beq_iff_eq] at this
    rw [hx, this]
  have h2 := List.filter_append_perm (· == v) vs
  rw [h1] at h2
  exact h2.symm

theorem filter_ne_inj {v : Int} {a b : List Int} (ha : SortedVars a) (hb : SortedVars b)
    (ca : (a.filter (· == v)).length = 1) (cb : (b.filter (· == v)).length = 1)
    (h : a.filter (· != v) = b.filter (· != v)) : a = b := by
  apply sortedVars_perm_eq ha hb
  exact (perm_of_count_one v a ca).trans (h ▸ (perm_of_count_one v b cb).symm)

theorem canon_prodOf {e r : Expr w} {v : Int} (h : Canon e) (hp : prodOf e v = some r) : Canon r := by
  unfold prodOf at hp
  split at hp
  · rename_i hall
    simp only [Option.some.injEq] at hp
    subst hp
    have hall' := List.all_eq_true.1 hall
    apply canon_stableSort
    · intro q hq
      obtain ⟨q0, hq0, rfl⟩ := List.mem_map.1 hq
      exact sortedVars_sublist List.filter_sublist (h.inner q0 hq0)
    · rw [List.map_map]
      unfold List.Nodup
      rw [List.pairwise_map]
      refine h.pairwise.imp_of_mem ?_
      intro a b hma hmb hlt heq
      simp only [Function.comp] at heq
      have ca := hall' a hma
      have cb := hall' b hmb
      simp only [beq_iff_eq] at ca cb
      exact cmpVars_lt_ne hlt (filter_ne_inj (h.inner a hma) (h.inner b hmb) ca cb heq)
  · cases hp

theorem canon_incOf {e r : Expr w} {v : Int} (h : Canon e) (hi : incOf e v = some r) : Canon r := by
  unfold incOf at hi
  split at hi
  · simp only [Option.some.injEq] at hi
    subst hi; exact h.filter _
  · cases hi

theorem canon_prodIncOf {e r : Expr w} {v : Int} {m : BitVec w} (h : Canon e)
    (hi : prodIncOf e v = some (r, m)) : Canon r := by
  unfold prodIncOf at hi
  split at hi
  · simp only [Option.some.injEq, Prod.mk.injEq] at hi
    obtain ⟨rfl, _⟩ := hi
    exact h.filter _
  · cases hi

end Expr
end Hpbf
