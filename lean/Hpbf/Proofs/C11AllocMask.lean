/-
C11 for the output of `allocate_temps` (namespace `Hpbf.C02.Alloc`): the `live` bitmap pushed in a round. It has
bit `r` set for every register `r < min numRegs 16` that is not free in an intermediate state of the round: after
the ended ranges have been released, before the destination gets its location.
-/
import Hpbf.Proofs.C02AllocTrace

namespace Hpbf
namespace C02
namespace Alloc

open Bc BcWf BcGen C11

variable {w : Nat} {s : St w}

theorem testBit_sub_two_pow {c v : Nat} (h : c.testBit v = true) (r : Nat) :
    (c - 2 ^ v).testBit r = (c.testBit r && decide (r ≠ v)) := by
  -- split `c` at bit `v + 1`: `c = 2^(v+1) * hi + lo` with `2^v ≤ lo < 2^(v+1)`; subtracting `2^v` touches only `lo`, where it
  -- clears exactly bit `v`
  have hm : (c % 2 ^ (v + 1)).testBit v = true := by
    rw [Nat.testBit_mod_two_pow]; simp [h]
  have hge : 2 ^ v ≤ c % 2 ^ (v + 1) := Nat.ge_two_pow_of_testBit hm
  have hlt : c % 2 ^ (v + 1) < 2 ^ (v + 1) := Nat.mod_lt _ (Nat.two_pow_pos _)
  have hdecomp : c = 2 ^ (v + 1) * (c / 2 ^ (v + 1)) + c % 2 ^ (v + 1) := (Nat.div_add_mod c _).symm
  have hpow : 2 ^ (v + 1) = 2 ^ v + 2 ^ v := by rw [Nat.pow_succ]; omega
  have hsub : c - 2 ^ v = 2 ^ (v + 1) * (c / 2 ^ (v + 1)) + (c % 2 ^ (v + 1) - 2 ^ v) := by omega
  have hlo : c % 2 ^ (v + 1) - 2 ^ v < 2 ^ v := by omega
  have hlo' : c % 2 ^ (v + 1) - 2 ^ v < 2 ^ (v + 1) := by omega
  have hc : c.testBit r = if r < v + 1 then (c % 2 ^ (v + 1)).testBit r else (c / 2 ^ (v + 1)).testBit (r - (v + 1)) := by
    conv => lhs; rw [hdecomp]
    exact Nat.testBit_two_pow_mul_add _ hlt r
  rw [hsub, Nat.testBit_two_pow_mul_add _ hlo' r, hc]
  by_cases h1 : r < v + 1
  · simp only [h1, if_true]
    by_cases h2 : r = v
    · subst h2
      simp [Nat.testBit_lt_two_pow hlo]
    · have h3 : r < v := by omega
      have : c % 2 ^ (v + 1) = 2 ^ v + (c % 2 ^ (v + 1) - 2 ^ v) := by omega
      conv => rhs; rw [this]
      rw [Nat.testBit_two_pow_add_gt h3]
      simp [h2]
  · have : r ≠ v := by omega
    simp [h1, this]

/-- One step of the bitmap loop: when the bits of `cur` are those below `B` not in `D`, and `var < B` is not in `D`,
bit `var` is set and clearing it gives the bits for `var :: D`. -/
theorem mask_step {cur B var : Nat} {D : List Nat}
    (hc : ∀ r, cur.testBit r = (decide (r < B) && !D.contains r)) (hvB : var < B) (hvD : var ∉ D) :
    ¬ cur < 2 ^ var ∧ ∀ r, (cur - 2 ^ var).testBit r = (decide (r < B) && !(var :: D).contains r) := by
  have hbit : cur.testBit var = true := by rw [hc]; simp [hvB, hvD]
  refine ⟨Nat.not_lt.2 (Nat.ge_two_pow_of_testBit hbit), fun r => ?_⟩
  rw [testBit_sub_two_pow hbit, hc]
  by_cases e : r = var
  · subst e; simp
  · simp [e]

theorem liveMask_loop : ∀ (F : List Nat) (cur live : Nat) (B : Nat), B ≤ 16 → F.Nodup →
    (∀ r, cur.testBit r = (decide (r < B))) →
    F.foldlM (fun live var =>
      if var < 16 then
        if live < 2 ^ var then (.error "allocate_temps:live-underflow" : Except String Nat) else .ok (live - 2 ^ var)
      else .ok live) cur = .ok live →
    ∀ r, r ∉ F → live.testBit r = decide (r < B) := by
  intro F
  -- generalised: the bits of `cur` are those below `B` that are not in `D`; the loop moves `F` into `D`
  suffices H : ∀ (F : List Nat) (D : List Nat) (cur live : Nat) (B : Nat), B ≤ 16 → F.Nodup → (∀ x ∈ F, x ∉ D) →
      (∀ r, cur.testBit r = (decide (r < B) && !D.contains r)) →
      F.foldlM (fun live var =>
        if var < 16 then
          if live < 2 ^ var then (.error "allocate_temps:live-underflow" : Except String Nat) else .ok (live - 2 ^ var)
        else .ok live) cur = .ok live →
      ∀ r, live.testBit r = (decide (r < B) && !(F.reverse ++ D).contains r) by
    intro cur live B hB hn hc hf r hr
    rw [H F [] cur live B hB hn (fun _ _ h => by cases h) (by intro r; rw [hc]; simp) hf r]
    simp [hr]
  intro F
  induction F with
  | nil =>
    intro D cur live B _ _ _ hc hf r
    simp only [List.foldlM, pure, Except.pure, Except.ok.injEq] at hf
    subst hf
    exact hc r
  | cons var F ih =>
    intro D cur live B hB hn hd hc hf r
    rw [List.foldlM_cons] at hf
    obtain ⟨hvF, hnF⟩ := List.nodup_cons.1 hn
    have hvD : var ∉ D := hd var List.mem_cons_self
    have hd' : ∀ x ∈ F, x ∉ var :: D := by
      intro x hx hxd
      rcases List.mem_cons.1 hxd with rfl | h
      · exact hvF hx
      · exact hd x (List.mem_cons_of_mem _ hx) h
    rw [List.reverse_cons, List.append_assoc, List.singleton_append]
    by_cases h16 : var < 16
    · simp only [h16, if_true] at hf
      by_cases hu : cur < 2 ^ var
      · simp only [hu, if_true] at hf
        cases hf
      · simp only [hu, if_false] at hf
        -- the loop did not underflow, so the bit was there: the model's underflow error is where `var < B` comes from
        have hvB : var < B := by
          apply Classical.byContradiction
          intro hnb
          have : cur < 2 ^ B := by
            apply Nat.lt_pow_two_of_testBit
            intro i hi
            rw [hc]
            have : ¬ i < B := by omega
            simp [this]
          have : 2 ^ B ≤ 2 ^ var := Nat.pow_le_pow_right (by omega) (by omega)
          omega
        exact ih (var :: D) (cur - 2 ^ var) live B hB hnF hd' (mask_step hc hvB hvD).2 hf r
    · simp only [h16, if_false] at hf
      refine ih (var :: D) cur live B hB hnF hd' ?_ hf r
      intro r
      rw [hc]
      by_cases e : r = var
      · subst e
        have : ¬ r < B := by omega
        simp [this]
      · simp [e]

theorem liveMask_testBit {numRegs : Nat} {F : List Nat} {live : Nat} (h : liveMask numRegs F = .ok live)
    (hn : F.Nodup) {r : Nat} (h1 : r < numRegs) (h2 : r < 16) (hr : r ∉ F) : live.testBit r = true := by
  unfold liveMask at h
  by_cases hlt : numRegs < 16
  · simp only [hlt, if_true] at h
    have := liveMask_loop F (2 ^ numRegs - 1) live numRegs (by omega) hn
      (fun r => Nat.testBit_two_pow_sub_one numRegs r) h r hr
    rw [this]; simp [h1]
  · simp only [hlt, if_false] at h
    have e : (65535 : Nat) = 2 ^ 16 - 1 := by decide
    rw [e] at h
    have := liveMask_loop F (2 ^ 16 - 1) live 16 (Nat.le_refl _) hn
      (fun r => Nat.testBit_two_pow_sub_one 16 r) h r hr
    rw [this]; simp [h2]

/-- What a round does to the bitmap and to the replacement table, as recorded in its summary. -/
theorem alloc_step_mask (hp : AllocPre s) {numRegs k : Nat} {a a' : ASt w} {u : Unit} (hI : PassInv s k a)
    (h : allocStep numRegs k a = .ok (u, a')) :
    ∃ (c : ASt w) (live : Nat), a'.st.live = a.st.live.push live ∧ liveMask numRegs c.freeRegs = .ok live ∧
      RegsInv c ∧
      ∀ t r, alGet a'.repl t = some (.tmp r) → alGet c.repl t = some (.tmp r) ∨
        ∃ new, dstTmp? new = some t ∧ a'.st.insts[k]? = some (setDst new (.tmp r)) :=
  (alloc_step hp hI h).mask

end Alloc
end C02
end Hpbf
