/-
The statements of `Props/C10Opt.lean` for the repaired optimizer `OptFix.optimizeF`. A repaired round is a round of
`Opt.optimizeOnce` whose recorded analysis is post-processed (`Rounds.optimizeOnceF_eq`), so `optimizeF` returns
the same kind of block as `optimize` (`Rounds.optimizeF_steps`), and the statements about `optimizeF` here are readings
of statements about `Rounds.Steps`. Before them `irOffsF_eq` (`irOffs_eq` once more) and `optimizeOnceF_reach` (one
repaired round, through `Rounds.onceP_ok`). `Props/C01Fixed` restates them among the facts about `optimizeF`.
-/
import Hpbf.Props.C10Opt

namespace Hpbf.OptOffs
open Hpbf Opt Ir

variable {w : Nat}

theorem irOffsF_eq : ∀ (i : Instr w), C02.Local.irOffs i = i.offsets := irOffs_eq

theorem optimizeOnceF_reach {b b' : Block w} {anal anal' : OptAnalysis w} {os os' : Orders}
    (h : (OptFix.optimizeOnceF b anal).run os = .ok ((b', anal'), os')) : reach b' ≤ reach b := by
  obtain ⟨a0, h1, _⟩ := Rounds.onceP_ok.1 h
  exact optimizeOnce_reach h1

theorem optimizeF_ok {R : Nat} {b b' : Block w} {level : Nat} {orders : Orders} (hb : OkL R 0 b.insts)
    (h : OptFix.optimizeF b level orders = .ok b') : OkL R 0 b'.insts :=
  (steps_okL hb (Rounds.optimizeF_steps h)).1

theorem optimizeF_reach {b b' : Block w} {level : Nat} {orders : Orders}
    (h : OptFix.optimizeF b level orders = .ok b') : reach b' ≤ reach b :=
  steps_reach (Rounds.optimizeF_steps h)

theorem optimizeF_tags {b b' : Block w} {level : Nat} {orders : Orders}
    (h : OptFix.optimizeF b level orders = .ok b') : ∀ p ∈ tagL 0 b'.insts, p.1 + p.2.natAbs ≤ reach b :=
  okL_iff_reach.2 (optimizeF_reach h)

theorem optimizeF_offsets {b b' : Block w} {level : Nat} {orders : Orders}
    (h : OptFix.optimizeF b level orders = .ok b') : ∀ o ∈ offsets b'.insts, o.natAbs ≤ reach b :=
  steps_offsets (Rounds.optimizeF_steps h)

/-- C10 for code optimized by `optimizeF`: the access window that `BcGen.analyze` computes lies within
`[-length, length]`. -/
theorem optimizedF_window_le_length {src : List Kind} {b b' : Block w} {level : Nat} {orders : Orders}
    (hp : parse (w := w) src = .ok b) (h : OptFix.optimizeF b level orders = .ok b') :
    -(src.length : Int) ≤ (BcGen.analyze b').minAcc ∧ (BcGen.analyze b').maxAcc ≤ (src.length : Int) :=
  steps_window_le_length hp (Rounds.optimizeF_steps h)

end Hpbf.OptOffs

#print axioms Hpbf.OptOffs.optimizeF_ok
#print axioms Hpbf.OptOffs.optimizeF_reach
#print axioms Hpbf.OptOffs.optimizeF_tags
#print axioms Hpbf.OptOffs.optimizeF_offsets
#print axioms Hpbf.OptOffs.optimizedF_window_le_length
