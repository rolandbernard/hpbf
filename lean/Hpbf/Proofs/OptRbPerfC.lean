/-
`performAll` on a state WITHOUT pending operations, justified with a parent interface that
is only required on a set `X` of cells (`PKc`), namely the targets and the variables of the calculations.

Used for `performAll sub (s :: ps) 0 toPerform` in `finishLoop` (the child state after all its pending operations
have been removed), at memories where the full interface `PK sub (s :: ps) M0` may fail on cells that are never
consulted.
-/
import Hpbf.Proofs.OptRbEmit
import Hpbf.Proofs.OptLoopSplit

namespace Hpbf
namespace OptProof
open Opt OptSem

variable {w : Nat}

theorem explosionVars_nopending (ps : List (Rebuild w)) (vars : List Int) (last : Option Int)
    {s : Rebuild w} (hp : s.pending = []) (os : Orders) :
    (explosionVars ps vars last s).run os = .ok (s, os) := by
  induction vars generalizing last with
  | nil => rfl
  | cons var rest ih =>
    unfold explosionVars
    have hm : mGet s.pending var = none := by rw [hp]; rfl
    simp only [hm]
    rw [run_bind, run_pure]
    exact ih (some var)

theorem foldlM_nop {γ : Type} (f : Rebuild w → γ → M (Rebuild w)) (l : List γ) (s : Rebuild w)
    (h : ∀ x, x ∈ l → ∀ os, (f s x).run os = .ok (s, os)) (os : Orders) :
    (l.foldlM f s).run os = .ok (s, os) := by
  induction l with
  | nil => rfl
  | cons x l ih =>
    rw [List.foldlM_cons, run_bind, h x List.mem_cons_self os]
    exact ih (fun y hy => h y (List.mem_cons_of_mem _ hy))

theorem performCheck_nopending {s : Rebuild w} (ps : List (Rebuild w)) (calcs : List (Int × Expr w))
    (hp : s.pending = []) (os : Orders) :
    (performCheck s ps calcs).run os = .ok (s, os) := by
  unfold performCheck
  apply foldlM_nop
  intro vc _ os1
  apply foldlM_nop
  intro vars _ os2
  split
  · exact explosionVars_nopending ps vars none hp os2
  · rfl

section Sound
variable {X : Int → Prop} {s : Rebuild w} {ps : List (Rebuild w)} {M0 E : Mem w}

theorem getPending_sound_c (hp : s.pending = []) (hw : WrOk s M0 E) (hk : PKc X s ps M0) {v : Int}
    (hx : X v) : ev (getPending s ps v) E = E v := by
  unfold getPending
  have hm : mGet s.pending v = none := by rw [hp]; rfl
  simp only [hm]
  split
  · rename_i c hc
    rw [getWrittenConstant_sound_c hw hk hx hc]; exact Expr.eval_val c E
  · exact Expr.eval_var v E

theorem getPending_vars_c (hp : s.pending = []) (v : Int) :
    ∀ y ∈ Expr.variables (getPending s ps v), y = v := by
  unfold getPending
  have hm : mGet s.pending v = none := by rw [hp]; rfl
  simp only [hm]
  split
  · intro y hy
    unfold Expr.val at hy
    split at hy <;> simp [Expr.variables] at hy
  · intro y hy
    simpa [Expr.variables, Expr.var] using hy

theorem evalPending_sound_c (hp : s.pending = []) (hw : WrOk s M0 E) (hk : PKc X s ps M0) {sh : Int}
    {e e' : Expr w} (hx : ∀ v ∈ Expr.variables e, X (v + sh)) (he : evalPending s ps sh e = .ok e') :
    ev e' E = Expr.evaluate e (fun x => E (x + sh)) := by
  unfold evalPending at he
  split at he
  · cases hr : Expr.symbEvaluate e (fun x => some (getPending s ps (x + sh))) with
    | none => rw [hr] at he; cases he
    | some r =>
      rw [hr] at he
      cases he
      show Expr.evaluate _ E = _
      rw [Expr.eval_symbEvaluate e _ _ E hr]
      apply C01Dse.evaluate_congr
      intro v hv
      exact getPending_sound_c hp hw hk (hx v hv)
  · split at he
    · cases he
      show Expr.evaluate (shiftVars e sh) E = _
      rw [shiftVars_value]
    · rename_i hsh
      cases he
      have : sh = 0 := by simpa using hsh
      subst this
      show Expr.evaluate e E = _
      congr 1; funext x; simp

theorem evalPending_vars_c (hp : s.pending = []) {sh : Int} {e e' : Expr w}
    (hx : ∀ v ∈ Expr.variables e, X (v + sh)) (he : evalPending s ps sh e = .ok e') :
    ∀ y ∈ Expr.variables e', X y := by
  unfold evalPending at he
  split at he
  · cases hr : Expr.symbEvaluate e (fun x => some (getPending s ps (x + sh))) with
    | none => rw [hr] at he; cases he
    | some r =>
      rw [hr] at he
      cases he
      refine OptLoop.varsIn_iff.1 (OptLoop.symbEvaluate_varsIn (S := X) _ e e' ?_ hr)
      intro v hv e1 he1
      simp only [Option.some.injEq] at he1
      subst he1
      refine (OptLoop.varsIn_iff (S := X)).2 ?_
      intro y hy
      rw [getPending_vars_c (ps := ps) hp (v + sh) y hy]
      exact hx v hv
  · split at he
    · cases he
      intro y hy
      rw [OptLoop.shiftVars_variables] at hy
      obtain ⟨v, hv, rfl⟩ := List.mem_map.1 hy
      exact hx v hv
    · rename_i hsh
      cases he
      have : sh = 0 := by simpa using hsh
      subst this
      intro y hy
      have := hx y hy
      simpa using this

end Sound

theorem assignE_eq_assignS_c {X : Int → Prop} {s : Rebuild w} {ps : List (Rebuild w)} {M0 E : Mem w}
    (hp : s.pending = []) (hw : WrOk s M0 E) (hk : PKc X s ps M0) {shift : Int}
    {calcs exprs : List (Int × Expr w)}
    (hx : ∀ vc ∈ calcs, ∀ x ∈ Expr.variables vc.2, X (x + shift))
    (hf : All2 (fun vc ve => ve.1 = shift + vc.1 ∧ evalPending s ps shift vc.2 = .ok ve.2)
      calcs exprs) :
    assignE E exprs E = assignS shift calcs E := by
  unfold assignE assignS
  suffices H : ∀ (acc : Mem w),
      exprs.foldl (fun S ve => upd S ve.1 (ev ve.2 E)) acc =
      (calcs.map (fun vc => (shift + vc.1, Expr.evaluate vc.2 (fun x => E (x + shift))))).foldl
        (fun m kv => upd m kv.1 kv.2) acc from H E
  intro acc
  induction hf generalizing acc with
  | nil => rfl
  | @cons a b as bs hab _ ih =>
    simp only [List.foldl_cons, List.map_cons]
    rw [hab.1, evalPending_sound_c hp hw hk (hx a List.mem_cons_self) hab.2]
    exact ih (fun vc h' => hx vc (List.mem_cons_of_mem _ h')) _

theorem performAll_spec_c {s : Rebuild w} {ps : List (Rebuild w)} {calcs : List (Int × Expr w)}
    (hwf : Wf s) (hp : s.pending = []) {os os' : Orders} {s' : Rebuild w}
    (hr : (performAll s ps 0 calcs).run os = .ok (s', os')) :
    os' = os ∧ Wf s' ∧ SameButPend s s' ∧
    ∀ (X : Int → Prop) (M0 E : Mem w),
      (∀ vc ∈ calcs, ∀ x ∈ Expr.variables vc.2, X x) → WrOk s M0 E → PKc X s ps M0 →
      Mem.par s'.pending E = assignS 0 calcs E ∧ WrOk s' M0 E := by
  rw [performAll_eq, run_bind_ok] at hr
  obtain ⟨s1, os1, h1, h2⟩ := hr
  rw [performCheck_nopending ps calcs hp os] at h1
  cases h1
  rw [run_bind_ok] at h2
  obtain ⟨exprs, os2, h3, h4⟩ := h2
  rw [run_pure] at h4
  cases h4
  obtain ⟨hos, hf⟩ := performEval_ok h3
  refine ⟨hos, (foldl_insertPending_wf hwf ps exprs).1, (foldl_insertPending_wf hwf ps exprs).2, ?_⟩
  intro X M0 E hX hw hk
  have hXsh : ∀ vc ∈ calcs, ∀ x ∈ Expr.variables vc.2, X (x + 0) := by
    intro vc hvc x hxv
    simpa using hX vc hvc x hxv
  have hxe : ∀ ve ∈ exprs, ∀ v ∈ Expr.variables ve.2, X v := by
    clear h3
    induction hf with
    | nil => intro ve hve; cases hve
    | @cons a b as bs hab _ ih =>
      intro ve hve
      rcases List.mem_cons.1 hve with rfl | hve
      · exact evalPending_vars_c (X := X) hp (hXsh a List.mem_cons_self) hab.2
      · exact ih (fun vc h' => hX vc (List.mem_cons_of_mem _ h'))
          (fun vc h' => hXsh vc (List.mem_cons_of_mem _ h')) ve hve
  have hpend : E = Mem.par s.pending E := by rw [hp]; exact (par_nil E).symm
  obtain ⟨g1, g2, _⟩ := foldl_insertPending_c hwf hpend hw hk exprs hxe
  refine ⟨?_, g2⟩
  rw [← g1]
  exact assignE_eq_assignS_c hp hw hk hXsh hf

end OptProof
end Hpbf

#print axioms Hpbf.OptProof.performCheck_nopending
#print axioms Hpbf.OptProof.evalPending_sound_c
#print axioms Hpbf.OptProof.evalPending_vars_c
#print axioms Hpbf.OptProof.performAll_spec_c
