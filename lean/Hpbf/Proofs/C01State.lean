/-
Facts about `State` (`rd`, `wr`, `input`, `output`) and `Ir.doCalc` that hold of the operations themselves,
whatever machine performs them: what an operation leaves unchanged, what a `calc` writes (`doCalc` is `wrAll` of the
values computed beforehand), and that the trace only grows, by at most one event. The middle of the file
(`output_meta` … `doCalc_get_in`) is of the same kind and sits in namespace `C01Dse`, under which the other files refer
to it; what follows (`doCalc_trace` … `lookup_not_mem`) rests on it and is in `C01` again. `bf_step_trace` is the one
fact here about a machine (`Bf.step`), `lookup_not_mem` the one that unfolds `Tape.lookup`.
-/
import Hpbf.Ir

namespace Hpbf
namespace C01
open Ir

variable {w : Nat}

theorem add_sub_self (p v : Int) : p + v - p = v := by omega

theorem tape_wr (s : State w) (k : Int) (v : BitVec w) (x : Int) :
    (s.wr k v).tape.get x = if x = s.ptr + k then v else s.tape.get x := by
  unfold State.wr; simp only; exact Tape.get_set _ _ _ _

theorem rd_wr (s : State w) (k a : Int) (v : BitVec w) :
    (s.wr k v).rd a = if a = k then v else s.rd a := by
  unfold State.rd
  rw [tape_wr]
  have : (s.wr k v).ptr = s.ptr := rfl
  rw [this]
  by_cases h : a = k
  · subst h; simp
  · have : ¬ s.ptr + a = s.ptr + k := by omega
    simp [h, this]

theorem mov_zero (s : State w) : s.mov 0 = s := by
  cases s; simp [State.mov]

theorem input_trace (s : State w) (off : Int) : s.trace <:+ (s.input off).2.trace := by
  unfold State.input
  split
  · exact List.suffix_cons _ _
  · exact List.suffix_cons _ _
  · exact List.suffix_refl _

theorem output_trace (s : State w) (off : Int) : s.trace <:+ (s.output off).2.trace := by
  unfold State.output
  simp only
  split
  · split
    · exact List.suffix_cons _ _
    · exact List.suffix_cons _ _
  · exact List.suffix_refl _

theorem input_trace_len (s : State w) (off : Int) : (s.input off).2.trace.length ≤ s.trace.length + 1 := by
  unfold State.input
  split <;> simp

theorem output_trace_len (s : State w) (off : Int) : (s.output off).2.trace.length ≤ s.trace.length + 1 := by
  unfold State.output
  simp only
  split
  · split <;> simp
  · simp

theorem applyOp_trace (op : Op) (s : State w) : s.trace <:+ (Bf.applyOp op s).2.trace := by
  cases op <;> simp [Bf.applyOp, State.wr, State.mov, input_trace, output_trace]

theorem bf_step_trace (c : Bf.Config w) :
    match Bf.step c with
    | .next c' => c.st.trace <:+ c'.st.trace
    | .halt s => c.st.trace <:+ s.trace
    | .stop s => c.st.trace <:+ s.trace := by
  obtain ⟨cur, conts, st⟩ := c
  cases cur with
  | nil => cases conts <;> simp [Bf.step]
  | cmd op rest =>
    have := applyOp_trace op st
    rcases h : Bf.applyOp op st with ⟨ok, s'⟩
    rw [h] at this
    cases ok <;> simpa [Bf.step, h] using this
  | loop body rest =>
    by_cases hz : st.rd 0 = 0#w <;> simp [Bf.step, hz]

end C01

namespace C01Dse
open Ir

variable {w : Nat}

theorem output_meta (s : State w) (off : Int) :
    (s.output off).2.ptr = s.ptr ∧ (s.output off).2.tape = s.tape := by
  unfold State.output
  split
  · split <;> exact ⟨rfl, rfl⟩
  · exact ⟨rfl, rfl⟩

theorem input_ptr (s : State w) (off : Int) : (s.input off).2.ptr = s.ptr := by
  unfold State.input
  split <;> rfl

theorem output_ptr_of_eq {st s : State w} {src : Int} {ok : Bool} (h : st.output src = (ok, s)) : s.ptr = st.ptr := by
  have := (output_meta st src).1; rwa [h] at this

theorem input_ptr_of_eq {st s : State w} {dst : Int} {ok : Bool} (h : st.input dst = (ok, s)) : s.ptr = st.ptr := by
  have := input_ptr st dst; rwa [h] at this

def wrAll (s : State w) (vals : List (Int × BitVec w)) : State w :=
  vals.foldl (fun s vv => s.wr vv.1 vv.2) s

theorem doCalc_eq (s : State w) (calcs : List (Int × Expr w)) :
    doCalc s calcs = wrAll s (calcs.map (fun ve => (ve.1, Expr.evaluate ve.2 (fun off => s.rd off)))) := rfl

theorem wrAll_meta (s : State w) (vals : List (Int × BitVec w)) :
    (wrAll s vals).ptr = s.ptr ∧ (wrAll s vals).env = s.env ∧ (wrAll s vals).trace = s.trace := by
  induction vals generalizing s with
  | nil => exact ⟨rfl, rfl, rfl⟩
  | cons vv vals ih => exact ih (s.wr vv.1 vv.2)

theorem wrAll_get_notin (s : State w) (vals : List (Int × BitVec w)) (a : Int)
    (h : ∀ vv ∈ vals, s.ptr + vv.1 ≠ a) : (wrAll s vals).tape.get a = s.tape.get a := by
  induction vals generalizing s with
  | nil => rfl
  | cons vv vals ih =>
    have h1 := ih (s.wr vv.1 vv.2) (fun x hx => h x (by simp [hx]))
    have h2 : (s.wr vv.1 vv.2).tape.get a = s.tape.get a := by
      rw [C01.tape_wr, if_neg (fun e => h vv (by simp) e.symm)]
    show (wrAll (s.wr vv.1 vv.2) vals).tape.get a = _
    rw [h1, h2]

theorem wrAll_get_in (s : State w) (vals : List (Int × BitVec w)) (v : Int) (x : BitVec w)
    (hnd : (vals.map Prod.fst).Nodup) (h : (v, x) ∈ vals) : (wrAll s vals).tape.get (s.ptr + v) = x := by
  induction vals generalizing s with
  | nil => simp at h
  | cons vv vals ih =>
    have hnd' : vv.1 ∉ vals.map Prod.fst ∧ (vals.map Prod.fst).Nodup := List.nodup_cons.1 hnd
    show (wrAll (s.wr vv.1 vv.2) vals).tape.get (s.ptr + v) = x
    rcases List.mem_cons.1 h with h | h
    · subst h
      rw [wrAll_get_notin]
      · rw [C01.tape_wr, if_pos rfl]
      · intro yy hy e
        have : yy.1 = v := by
          have : (s.wr v x).ptr = s.ptr := rfl
          rw [this] at e; omega
        exact hnd'.1 (by rw [← this]; exact List.mem_map.2 ⟨yy, hy, rfl⟩)
    · exact ih (s.wr vv.1 vv.2) hnd'.2 h

theorem doCalc_meta (s : State w) (calcs : List (Int × Expr w)) :
    (doCalc s calcs).ptr = s.ptr ∧ (doCalc s calcs).env = s.env ∧ (doCalc s calcs).trace = s.trace := by
  rw [doCalc_eq]; exact wrAll_meta _ _

theorem doCalc_get_notin (s : State w) (calcs : List (Int × Expr w)) (a : Int)
    (h : ∀ ve ∈ calcs, s.ptr + ve.1 ≠ a) : (doCalc s calcs).tape.get a = s.tape.get a := by
  rw [doCalc_eq]
  apply wrAll_get_notin
  intro vv hvv
  obtain ⟨ve, hve, rfl⟩ := List.mem_map.1 hvv
  exact h ve hve

theorem doCalc_get_in (s : State w) (calcs : List (Int × Expr w)) (v : Int) (e : Expr w)
    (hnd : (calcs.map Prod.fst).Nodup) (h : (v, e) ∈ calcs) :
    (doCalc s calcs).tape.get (s.ptr + v) = Expr.evaluate e (fun off => s.rd off) := by
  rw [doCalc_eq]
  apply wrAll_get_in
  · rw [List.map_map]
    exact hnd
  · exact List.mem_map.2 ⟨(v, e), h, rfl⟩

end C01Dse

namespace C01
open Ir
variable {w : Nat}

theorem doCalc_trace (s : State w) (calcs : List (Int × Expr w)) : (doCalc s calcs).trace = s.trace :=
  (C01Dse.doCalc_meta s calcs).2.2

theorem input_get (s : State w) (off : Int) {x : Int} (h : x ≠ s.ptr + off) :
    (s.input off).2.tape.get x = s.tape.get x := by
  unfold State.input
  split <;> simp [tape_wr, h]

theorem output_rd (s : State w) (src v : Int) : (s.output src).2.rd v = s.rd v := by
  simp only [State.rd, C01Dse.output_meta]

theorem input_rd (s : State w) (dst v : Int) (h : v ≠ dst) : (s.input dst).2.rd v = s.rd v := by
  simp only [State.rd, C01Dse.input_ptr]
  exact input_get s dst (by omega)

theorem lookup_not_mem (l : List (Int × BitVec w)) (i : Int) (h : ∀ kv ∈ l, kv.1 ≠ i) :
    Tape.lookup l i = 0#w := by
  induction l with
  | nil => rfl
  | cons kv rest ih =>
    obtain ⟨k, v⟩ := kv
    have hk : k ≠ i := h (k, v) (by simp)
    simp only [Tape.lookup, hk, if_false]
    exact ih (fun kv hkv => h kv (by simp [hkv]))

end C01

end Hpbf
