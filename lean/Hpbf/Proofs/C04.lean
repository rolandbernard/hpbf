/-
C04: the in-place interpreter (`Inplace`, run on `code.toArray` for a text `code : List Kind`) and
canonical Brainfuck (`Bf`) simulate each other. One in-place step is 0 (comment), 1 or 2 (`]`: pop
the continuation, test the loop again) canonical steps. In limited mode every `]` costs budget, so a
run returns within `(budget+1) * (length+2)` steps.
-/
import Hpbf.Proofs.Tree
import Hpbf.Proofs.C01State
import Hpbf.Proofs.FuelSim

namespace Hpbf

variable {w : Nat}

namespace Bf

def Outcome.Halted : Outcome w → Prop
  | .outOfFuel _ => False
  | _ => True

theorem Outcome.halted_iff {o : Outcome w} : o.Halted ↔ ∀ c', o ≠ .outOfFuel c' := by
  cases o <;> simp [Outcome.Halted]

theorem runCfg_det {f f' : Nat} {c : Config w} (h : (runCfg f c).Halted)
    (h' : (runCfg f' c).Halted) : runCfg f c = runCfg f' c :=
  fuelRun.det (Outcome.halted_iff.mp h) (Outcome.halted_iff.mp h')

end Bf

namespace Inplace

def Outcome.Halted : Outcome w → Prop
  | .outOfFuel _ => False
  | _ => True

variable {arr : Array Kind} {limited : Bool}

theorem runCfg_succ_finished {c c' : Cfg w} (h : step arr limited c = .finished c') (f : Nat) :
    runCfg arr limited (f + 1) c = .finished c' := by
  simp [runCfg, h]

theorem runCfg_succ_stopped {c c' : Cfg w} (h : step arr limited c = .stopped c') (f : Nat) :
    runCfg arr limited (f + 1) c = .stopped c' := by
  simp [runCfg, h]

theorem runCfg_succ_interrupted {c c' : Cfg w} (h : step arr limited c = .interrupted c')
    (f : Nat) : runCfg arr limited (f + 1) c = .interrupted c' := by
  simp [runCfg, h]

theorem fuelRun (code : Array Kind) (l : Bool) :
    FuelRun (fun c c' : Cfg w => step code l c = .next c') .outOfFuel (runCfg code l) where
  zero _ := rfl
  next h f := by simp only [runCfg, h]
  final c := by
    cases h : step code l c with
    | next c' => exact .inl ⟨c', rfl⟩
    | finished c' => exact .inr ⟨.finished c', fun f => by simp only [runCfg, h], fun _ e => by cases e⟩
    | stopped c' => exact .inr ⟨.stopped c', fun f => by simp only [runCfg, h], fun _ e => by cases e⟩
    | interrupted c' => exact .inr ⟨.interrupted c', fun f => by simp only [runCfg, h], fun _ e => by cases e⟩
    | notOpened p c' => exact .inr ⟨.notOpened p c', fun f => by simp only [runCfg, h], fun _ e => by cases e⟩
  inj h := Outcome.outOfFuel.inj h

theorem runCfg_succ_next {c c' : Cfg w} (h : step arr limited c = .next c') (f : Nat) :
    runCfg arr limited (f + 1) c = runCfg arr limited f c' := (fuelRun arr limited).next h f

theorem Outcome.halted_iff {o : Outcome w} : o.Halted ↔ ∀ c', o ≠ .outOfFuel c' := by
  cases o <;> simp [Outcome.Halted]

theorem runCfg_det {f f' : Nat} {c : Cfg w} (h : (runCfg arr limited f c).Halted)
    (h' : (runCfg arr limited f' c).Halted) :
    runCfg arr limited f c = runCfg arr limited f' c :=
  (fuelRun arr limited).det (Outcome.halted_iff.mp h) (Outcome.halted_iff.mp h')

end Inplace

namespace C04

/-- Traces are most recent first, so "the trace only grows" reads `<:+` below. -/
def traceOf : Inplace.Outcome w → List Ev
  | .finished c => c.st.trace
  | .stopped c => c.st.trace
  | .interrupted c => c.st.trace
  | .notOpened _ c => c.st.trace
  | .outOfFuel c => c.st.trace

/-- The same function as `C01.traceOfBf` (the two properties were stated apart); `Chain.traceOfBf_eq` goes between. -/
def traceOfBf : Bf.Outcome w → List Ev
  | .done s => s.trace
  | .stopped s => s.trace
  | .outOfFuel c => c.st.trace

theorem bf_trace_add (f g : Nat) (c : Bf.Config w) :
    traceOfBf (Bf.runCfg f c) <:+ traceOfBf (Bf.runCfg (f + g) c) :=
  Bf.fuelRun.obs_add traceOfBf (fun c => by
    have := C01.bf_step_trace c
    rw [Bf.runCfg]
    cases hs : Bf.step c <;> rw [hs] at this <;> exact this) f g c

/-- The two-step case is the one of `]`: the first step only pops a continuation, hence
`c1.st = cc.st`, which `Adv.runCfg_lt` needs when the canonical fuel ends between the two. -/
inductive Adv (cc cc' : Bf.Config w) : Nat → Prop
  | zero : cc' = cc → Adv cc cc' 0
  | one : Bf.step cc = .next cc' → Adv cc cc' 1
  | two {c1 : Bf.Config w} : Bf.step cc = .next c1 → c1.st = cc.st → Bf.step c1 = .next cc' →
      Adv cc cc' 2

theorem Adv.runCfg_add {cc cc' : Bf.Config w} {n : Nat} (h : Adv cc cc' n) (f : Nat) :
    Bf.runCfg (f + n) cc = Bf.runCfg f cc' := by
  cases h with
  | zero e => subst e; rfl
  | one h1 => exact Bf.runCfg_succ_next h1 f
  | two h1 _ h2 =>
    have e : f + 2 = (f + 1) + 1 := rfl
    rw [e, Bf.runCfg_succ_next h1, Bf.runCfg_succ_next h2]

theorem Adv.runCfg_lt {cc cc' : Bf.Config w} {n : Nat} (h : Adv cc cc' n) {m : Nat} (hm : m < n) :
    ∃ c, Bf.runCfg m cc = .outOfFuel c ∧ c.st = cc.st := by
  cases h with
  | zero _ => omega
  | one _ =>
    have : m = 0 := by omega
    subst this; exact ⟨cc, rfl, rfl⟩
  | @two c1 h1 hst _ =>
    rcases m with _ | m
    · exact ⟨cc, rfl, rfl⟩
    · have : m = 0 := by omega
      subst this
      exact ⟨c1, by rw [Bf.runCfg_succ_next h1]; rfl, hst⟩

theorem Adv.le_two {cc cc' : Bf.Config w} {n : Nat} (h : Adv cc cc' n) : n ≤ 2 := by
  cases h <;> omega

/-- `Ctx code j stack conts`: the current segment ends at `j`, which is the end of the text when no
loop is active, and otherwise the `]` of the innermost active loop `[`body`]`rest whose `[` is at `o`
(stack entry `o + 1`, continuation `.loop body rest`). -/
inductive Ctx (code : List Kind) : Nat → List Nat → List Prog → Prop
  | top : Ctx code code.length [] []
  | loop {o k j : Nat} {body rest : Prog} {stack : List Nat} {conts : List Prog} :
      code[o]? = some .open → Repr code (o + 1) k body → code[k]? = some .close →
      Repr code (k + 1) j rest → Ctx code j stack conts →
      Ctx code k ((o + 1) :: stack) (.loop body rest :: conts)

theorem Ctx.end_char {code : List Kind} {j : Nat} {stack : List Nat} {conts : List Prog}
    (h : Ctx code j stack conts) : code[j]? = none ∨ code[j]? = some .close := by
  cases h with
  | top => left; simp
  | loop _ _ hk _ _ => right; exact hk

theorem Ctx.ne_end {code : List Kind} {j : Nat} {stack : List Nat} {conts : List Prog}
    (h : Ctx code j stack conts) {pc : Nat} {k : Kind} (hk : code[pc]? = some k) (hc : k ≠ .close) :
    pc ≠ j := by
  rintro rfl
  rcases h.end_char with h | h <;> rw [hk] at h <;> cases h
  exact hc rfl

def Rel (code : List Kind) (ic : Inplace.Cfg w) (cc : Bf.Config w) : Prop :=
  ic.st = cc.st ∧ ∃ j, Repr code ic.pc j cc.cur ∧ Ctx code j ic.stack cc.conts

theorem Rel.pc_le {code : List Kind} {ic : Inplace.Cfg w} {cc : Bf.Config w}
    (h : Rel code ic cc) : ic.pc ≤ code.length := by
  obtain ⟨_, j, hr, _⟩ := h
  have := hr.le; have := hr.le_length; omega

theorem Rel.init {code : List Kind} {p : Prog} (h : Bf.tree code = some p) (b : Nat) (env : Env) :
    Rel (w := w) code { pc := 0, stack := [], budget := b, st := State.init env }
      { cur := p, conts := [], st := State.init env } :=
  ⟨rfl, code.length, tree_sound h, Ctx.top⟩

section StepLemmas
variable {code : List Kind} {limited : Bool} {ic : Inplace.Cfg w}

theorem step_none (h : code[ic.pc]? = none) :
    Inplace.step code.toArray limited ic = .finished ic := by
  simp [Inplace.step, h]

theorem step_comment (h : code[ic.pc]? = some .comment) :
    Inplace.step code.toArray limited ic = .next { ic with pc := ic.pc + 1 } := by
  simp [Inplace.step, h]

theorem step_cmd {k : Kind} {op : Op} (h : code[ic.pc]? = some k) (hop : k.toOp? = some op) :
    Inplace.step code.toArray limited ic =
      match Bf.applyOp op ic.st with
      | (true, s) => .next { ic with pc := ic.pc + 1, st := s }
      | (false, s) => .stopped { ic with pc := ic.pc + 1, st := s } := by
  cases k <;> cases hop <;> simp only [Inplace.step, h, List.getElem?_toArray, Bf.applyOp] <;> rfl

theorem step_open_zero {k : Nat} {body : Prog} (h : code[ic.pc]? = some .open)
    (hz : ic.st.rd 0 = 0#w) (hb : Repr code (ic.pc + 1) k body) (hk : code[k]? = some .close) :
    Inplace.step code.toArray limited ic = .next { ic with pc := k + 1 } := by
  simp [Inplace.step, h, hz, scan_finds_match hb hk]

theorem step_open_nonzero (h : code[ic.pc]? = some .open) (hz : ic.st.rd 0 ≠ 0#w) :
    Inplace.step code.toArray limited ic =
      .next { ic with pc := ic.pc + 1, stack := (ic.pc + 1) :: ic.stack } := by
  simp [Inplace.step, h, hz]

theorem step_close_interrupted (h : code[ic.pc]? = some .close) (hl : limited = true)
    (hb : ic.budget = 0) :
    Inplace.step code.toArray limited ic = .interrupted { ic with pc := ic.pc + 1 } := by
  simp [Inplace.step, h, hl, hb]

theorem step_close_nonzero {t : Nat} {rest : List Nat} (h : code[ic.pc]? = some .close)
    (hl : ¬ (limited = true ∧ ic.budget = 0)) (hs : ic.stack = t :: rest) (hz : ic.st.rd 0 ≠ 0#w) :
    Inplace.step code.toArray limited ic =
      .next { ic with pc := t, stack := t :: rest,
                      budget := if limited then ic.budget - 1 else ic.budget } := by
  simp [Inplace.step, h, hs, hz, hl]

theorem step_close_zero {t : Nat} {rest : List Nat} (h : code[ic.pc]? = some .close)
    (hl : ¬ (limited = true ∧ ic.budget = 0)) (hs : ic.stack = t :: rest) (hz : ic.st.rd 0 = 0#w) :
    Inplace.step code.toArray limited ic =
      .next { ic with pc := ic.pc + 1, stack := rest,
                      budget := if limited then ic.budget - 1 else ic.budget } := by
  simp [Inplace.step, h, hs, hz, hl]

end StepLemmas

/-- The disjunction in `.next` carries the two termination measures. With at most one canonical step
the program counter grows at equal budget (a comment takes no canonical step, but cannot repeat);
with two (a `]`) the budget goes down in limited mode. `fwd_chunk` has its measure from the first (at a
comment only the in-place interpreter moves), `limited_fuel` its bound from both. -/
def StepSim (code : List Kind) (limited : Bool) (ic : Inplace.Cfg w) (cc : Bf.Config w) :
    Inplace.StepRes w → Prop
  | .next ic' => ∃ n cc', Adv cc cc' n ∧ Rel code ic' cc' ∧
      ((n ≤ 1 ∧ ic.pc < ic'.pc ∧ ic'.budget = ic.budget) ∨
       (n = 2 ∧ ic'.budget = (if limited then ic.budget - 1 else ic.budget) ∧
         (limited = true → 0 < ic.budget)))
  | .finished c => c = ic ∧ Bf.step cc = .halt ic.st
  | .stopped c => Bf.step cc = .stop c.st
  | .interrupted c => limited = true ∧ ic.budget = 0 ∧ c.st = ic.st
  | .notOpened _ _ => False

section StepSim
variable {code : List Kind} {limited : Bool}

theorem step_sim_cmd {pc j : Nat} {stack : List Nat} {b : Nat} {st : State w} {cur : Prog}
    {conts : List Prog} {k : Kind} {op : Op} (hk : code[pc]? = some k) (hop : k.toOp? = some op)
    (hr : Repr code pc j cur) (hctx : Ctx code j stack conts) :
    StepSim code limited ⟨pc, stack, b, st⟩ ⟨cur, conts, st⟩
      (Inplace.step code.toArray limited ⟨pc, stack, b, st⟩) := by
  have hne : pc ≠ j := hctx.ne_end hk (by rintro rfl; cases hop)
  obtain ⟨p', rfl, hr'⟩ := hr.inv_cmd hk hop hne
  rw [step_cmd (ic := ⟨pc, stack, b, st⟩) hk hop]
  rcases ha : Bf.applyOp op st with ⟨_ | _, s⟩
  · show Bf.step _ = _
    simp [Bf.step, ha]
  · exact ⟨1, ⟨p', conts, s⟩, .one (by simp [Bf.step, ha]), ⟨rfl, j, hr', hctx⟩,
      .inl ⟨Nat.le_refl _, Nat.lt_succ_self _, rfl⟩⟩

theorem step_sim_open {pc j : Nat} {stack : List Nat} {b : Nat} {st : State w} {cur : Prog}
    {conts : List Prog} (hk : code[pc]? = some .open)
    (hr : Repr code pc j cur) (hctx : Ctx code j stack conts) :
    StepSim code limited ⟨pc, stack, b, st⟩ ⟨cur, conts, st⟩
      (Inplace.step code.toArray limited ⟨pc, stack, b, st⟩) := by
  obtain ⟨k, body, rest, rfl, hb, hc, hrest⟩ := hr.inv_open hk (hctx.ne_end hk (by decide))
  have := hb.le
  by_cases hz : st.rd 0 = 0#w
  · rw [step_open_zero (ic := ⟨pc, stack, b, st⟩) hk hz hb hc]
    exact ⟨1, ⟨rest, conts, st⟩, .one (by simp [Bf.step, hz]), ⟨rfl, j, hrest, hctx⟩,
      .inl ⟨Nat.le_refl _, by show pc < k + 1; omega, rfl⟩⟩
  · rw [step_open_nonzero (ic := ⟨pc, stack, b, st⟩) hk hz]
    exact ⟨1, ⟨body, .loop body rest :: conts, st⟩, .one (by simp [Bf.step, hz]),
      ⟨rfl, k, hb, Ctx.loop hk hb hc hrest hctx⟩,
      .inl ⟨Nat.le_refl _, Nat.lt_succ_self _, rfl⟩⟩

theorem step_sim_close {pc j : Nat} {stack : List Nat} {b : Nat} {st : State w} {cur : Prog}
    {conts : List Prog} (hk : code[pc]? = some .close)
    (hr : Repr code pc j cur) (hctx : Ctx code j stack conts) :
    StepSim code limited ⟨pc, stack, b, st⟩ ⟨cur, conts, st⟩
      (Inplace.step code.toArray limited ⟨pc, stack, b, st⟩) := by
  obtain ⟨rfl, rfl⟩ := hr.inv_close hk
  cases hctx with
  | top =>
    have := (List.getElem?_eq_some_iff.mp hk).1
    omega
  | @loop o _ j' body rest stack' conts' ho hb hc hrest hctx' =>
    by_cases hl : limited = true ∧ b = 0
    · rw [step_close_interrupted (ic := ⟨pc, _, b, st⟩) hk hl.1 hl.2]
      exact ⟨hl.1, hl.2, rfl⟩
    · have hpos : limited = true → 0 < b := fun h => Nat.pos_of_ne_zero fun h0 => hl ⟨h, h0⟩
      by_cases hz : st.rd 0 = 0#w
      · rw [step_close_zero (ic := ⟨pc, _, b, st⟩) hk hl rfl hz]
        refine ⟨2, ⟨rest, conts', st⟩, ?_, ⟨rfl, j', hrest, hctx'⟩, .inr ⟨rfl, rfl, hpos⟩⟩
        exact .two (c1 := ⟨.loop body rest, conts', st⟩) (by simp [Bf.step]) rfl
          (by simp [Bf.step, hz])
      · rw [step_close_nonzero (ic := ⟨pc, _, b, st⟩) hk hl rfl hz]
        refine ⟨2, ⟨body, .loop body rest :: conts', st⟩, ?_,
          ⟨rfl, pc, hb, Ctx.loop ho hb hc hrest hctx'⟩, .inr ⟨rfl, rfl, hpos⟩⟩
        exact .two (c1 := ⟨.loop body rest, conts', st⟩) (by simp [Bf.step]) rfl
          (by simp [Bf.step, hz])

theorem step_sim {ic : Inplace.Cfg w} {cc : Bf.Config w} (h : Rel code ic cc) :
    StepSim code limited ic cc (Inplace.step code.toArray limited ic) := by
  obtain ⟨pc, stack, b, st⟩ := ic
  obtain ⟨cur, conts, st'⟩ := cc
  obtain ⟨hst, j, hr, hctx⟩ := h
  simp only at hst hr hctx
  subst hst
  cases hk : code[pc]? with
  | none =>
    rw [step_none (ic := ⟨pc, stack, b, st⟩) hk]
    obtain ⟨rfl, rfl⟩ := hr.inv_none hk
    cases hctx with
    | top => exact ⟨rfl, by simp [Bf.step]⟩
    | loop _ _ hc _ _ => rw [hk] at hc; cases hc
  | some k =>
    cases k with
    | comment =>
      rw [step_comment (ic := ⟨pc, stack, b, st⟩) hk]
      exact ⟨0, _, .zero rfl, ⟨rfl, j, hr.inv_comment hk (hctx.ne_end hk (by decide)), hctx⟩,
        .inl ⟨by omega, Nat.lt_succ_self _, rfl⟩⟩
    | «open» => exact step_sim_open hk hr hctx
    | close => exact step_sim_close hk hr hctx
    | inc => exact step_sim_cmd hk rfl hr hctx
    | dec => exact step_sim_cmd hk rfl hr hctx
    | left => exact step_sim_cmd hk rfl hr hctx
    | right => exact step_sim_cmd hk rfl hr hctx
    | inp => exact step_sim_cmd hk rfl hr hctx
    | out => exact step_sim_cmd hk rfl hr hctx

end StepSim

def BackSim (code : List Kind) (limited : Bool) (cc : Bf.Config w) : Inplace.Outcome w → Prop
  | .finished c => ∃ f, Bf.runCfg f cc = .done c.st
  | .stopped c => ∃ f, Bf.runCfg f cc = .stopped c.st
  | .interrupted c => limited = true ∧ ∃ f c', Bf.runCfg f cc = .outOfFuel c' ∧ c'.st = c.st
  | .notOpened _ _ => False
  | .outOfFuel c => ∃ f c', Bf.runCfg f cc = .outOfFuel c' ∧ Rel code c c'

theorem BackSim.of_adv {code : List Kind} {limited : Bool} {cc cc' : Bf.Config w} {n : Nat}
    (ha : Adv cc cc' n) {r : Inplace.Outcome w} (h : BackSim code limited cc' r) :
    BackSim code limited cc r := by
  cases r with
  | finished c => obtain ⟨f, hf⟩ := h; exact ⟨f + n, by rw [ha.runCfg_add]; exact hf⟩
  | stopped c => obtain ⟨f, hf⟩ := h; exact ⟨f + n, by rw [ha.runCfg_add]; exact hf⟩
  | interrupted c =>
    obtain ⟨hl, f, c', hf, hc⟩ := h
    exact ⟨hl, f + n, c', by rw [ha.runCfg_add]; exact hf, hc⟩
  | notOpened p c => exact h
  | outOfFuel c =>
    obtain ⟨f, c', hf, hc⟩ := h
    exact ⟨f + n, c', by rw [ha.runCfg_add]; exact hf, hc⟩

theorem back_sim {code : List Kind} {limited : Bool} (f' : Nat) :
    ∀ {ic : Inplace.Cfg w} {cc : Bf.Config w}, Rel code ic cc →
      BackSim code limited cc (Inplace.runCfg code.toArray limited f' ic) := by
  induction f' with
  | zero => intro ic cc h; exact ⟨0, cc, rfl, h⟩
  | succ f' ih =>
    intro ic cc h
    have hs := step_sim (limited := limited) h
    cases hstep : Inplace.step code.toArray limited ic with
    | next ic' =>
      rw [hstep] at hs
      obtain ⟨n, cc', ha, hrel, _⟩ := hs
      rw [Inplace.runCfg_succ_next hstep]
      exact BackSim.of_adv ha (ih hrel)
    | finished c =>
      rw [hstep] at hs
      obtain ⟨rfl, hh⟩ := hs
      rw [Inplace.runCfg_succ_finished hstep]
      exact ⟨1, Bf.runCfg_succ_halt hh 0⟩
    | stopped c =>
      rw [hstep] at hs
      rw [Inplace.runCfg_succ_stopped hstep]
      exact ⟨1, Bf.runCfg_succ_stop hs 0⟩
    | interrupted c =>
      rw [hstep] at hs
      rw [Inplace.runCfg_succ_interrupted hstep]
      exact ⟨hs.1, 0, cc, rfl, by rw [hs.2.2]; exact h.1.symm⟩
    | notOpened p c =>
      rw [hstep] at hs
      exact hs.elim

/-- How an in-place outcome answers a canonical one: the same ending, in the same state. -/
def FwdQ : Bf.Outcome w → Inplace.Outcome w → Prop
  | .done s, r => ∃ c, r = .finished c ∧ c.st = s
  | .stopped s, r => ∃ c, r = .stopped c ∧ c.st = s
  | .outOfFuel cfg, r => ∃ c, r = .outOfFuel c ∧ c.st = cfg.st

/-- The relation mentions the fuel: in limited mode a budget of `f` is enough, since a unit of budget is spent only
together with two canonical steps. -/
theorem fwd_chunk {code : List Kind} {limited : Bool} {f : Nat} {cc : Bf.Config w} {ic : Inplace.Cfg w}
    (h : Rel code ic cc) (hb : limited = true → f ≤ ic.budget) :
    FuelRun.Chunk Bf.runCfg .outOfFuel (Inplace.runCfg code.toArray limited) .outOfFuel
      (fun f cc ic => Rel code ic cc ∧ (limited = true → f ≤ ic.budget)) FwdQ
      (fun _ ic => code.length - ic.pc) f cc ic := by
  have h0 : FwdQ (Bf.runCfg 0 cc) (Inplace.runCfg code.toArray limited 0 ic) := ⟨ic, rfl, h.1⟩
  have hs := step_sim (limited := limited) h
  cases hstep : Inplace.step code.toArray limited ic with
  | next ic' =>
    rw [hstep] at hs
    obtain ⟨n, cc', ha, hrel, hcase⟩ := hs
    have hpc' := hrel.pc_le
    have hA : Bf.runCfg n cc = .outOfFuel cc' := by rw [← Nat.zero_add n, ha.runCfg_add 0]; rfl
    refine .sync n 1 cc' ic' hA ((Inplace.fuelRun _ _).one hstep) (fun hn => ⟨hrel, fun hl => ?_⟩) (fun hn => ?_)
      fun hk => ?_
    · have := hb hl
      rcases hcase with ⟨_, _, hbud⟩ | ⟨rfl, hbud, hpos⟩
      · rw [hbud]; omega
      · have := hpos hl; rw [hbud, if_pos hl]; omega
    · rcases hcase with ⟨_, hpc, _⟩ | ⟨rfl, _, _⟩
      · show code.length - ic'.pc < code.length - ic.pc; omega
      · cases hn
    · obtain ⟨c, hc, hcst⟩ := ha.runCfg_lt hk
      exact ⟨0, by rw [hc]; exact ⟨ic, rfl, by rw [hcst]; exact h.1⟩⟩
  | finished c =>
    rw [hstep] at hs
    obtain ⟨rfl, hh⟩ := hs
    refine .last ?_
    cases f with
    | zero => exact ⟨0, h0⟩
    | succ f => exact ⟨1, by rw [Bf.runCfg_succ_halt hh, Inplace.runCfg_succ_finished hstep]; exact ⟨_, rfl, rfl⟩⟩
  | stopped c =>
    rw [hstep] at hs
    refine .last ?_
    cases f with
    | zero => exact ⟨0, h0⟩
    | succ f => exact ⟨1, by rw [Bf.runCfg_succ_stop hs, Inplace.runCfg_succ_stopped hstep]; exact ⟨_, rfl, rfl⟩⟩
  | interrupted c =>
    rw [hstep] at hs
    obtain ⟨hl, hb0, _⟩ := hs
    obtain rfl : f = 0 := by have := hb hl; omega
    exact .last ⟨0, h0⟩
  | notOpened p c => rw [hstep] at hs; exact hs.elim

theorem fwd_sim {code : List Kind} {limited : Bool} (f : Nat) {ic : Inplace.Cfg w} {cc : Bf.Config w}
    (h : Rel code ic cc) (hb : limited = true → f ≤ ic.budget) :
    ∃ f', FwdQ (Bf.runCfg f cc) (Inplace.runCfg code.toArray limited f' ic) :=
  Bf.fuelRun.sim (Inplace.fuelRun _ _) (fun _ _ _ h => fwd_chunk h.1 h.2) f cc ic ⟨h, hb⟩

/-- In limited mode every `]` consumes budget, and between two `]` the program counter strictly
increases and stays within the text: the run returns within
`budget * (length + 2) + (length + 1 - pc) + 1` steps. -/
theorem limited_fuel {code : List Kind} (f : Nat) :
    ∀ {ic : Inplace.Cfg w} {cc : Bf.Config w}, Rel code ic cc →
      ic.budget * (code.length + 2) + (code.length + 1 - ic.pc) < f →
      (Inplace.runCfg code.toArray true f ic).Halted := by
  induction f with
  | zero => intro ic cc _ h; omega
  | succ f ih =>
    intro ic cc h hf
    have hs := step_sim (limited := true) h
    cases hstep : Inplace.step code.toArray true ic with
    | next ic' =>
      rw [hstep] at hs
      obtain ⟨n, cc', ha, hrel, hcase⟩ := hs
      rw [Inplace.runCfg_succ_next hstep]
      apply ih hrel
      have h1 := hrel.pc_le
      have h2 := h.pc_le
      rcases hcase with ⟨_, hpc, hbud⟩ | ⟨_, hbud, hpos⟩
      · rw [hbud]
        generalize ic.budget * (code.length + 2) = X at hf ⊢
        omega
      · have hp := hpos rfl
        obtain ⟨b', hb'⟩ : ∃ b', ic.budget = b' + 1 := ⟨ic.budget - 1, by omega⟩
        simp only [if_true] at hbud
        rw [hb'] at hbud hf
        rw [hbud, Nat.add_sub_cancel]
        rw [Nat.succ_mul] at hf
        generalize b' * (code.length + 2) = X at hf ⊢
        omega
    | _ => simp only [Inplace.runCfg, hstep]; trivial

section Runs
variable {code : Array Kind} {p : Prog}

theorem back_run (h : Bf.tree code.toList = some p) (limited : Bool) (b f' : Nat) (env : Env) :
    BackSim (w := w) code.toList limited { cur := p, conts := [], st := State.init env }
      (Inplace.run code limited b f' env) := by
  exact back_sim f' (Rel.init h b env)

theorem fwd_run (h : Bf.tree code.toList = some p) (limited : Bool) (b f : Nat) (env : Env)
    (hb : limited = true → f ≤ b) :
    ∃ f', FwdQ (w := w) (Bf.run f p env) (Inplace.run code limited b f' env) :=
  fwd_sim (limited := limited) f (Rel.init (w := w) h b env) hb

theorem limited_run_halted (h : Bf.tree code.toList = some p) (b f' : Nat) (env : Env)
    (hf : (b + 1) * (code.size + 2) ≤ f') :
    (Inplace.run (w := w) code true b f' env).Halted := by
  refine limited_fuel (w := w) f' (Rel.init (w := w) h b env) ?_
  simp only [Array.length_toList]
  rw [Nat.succ_mul] at hf
  generalize b * (code.size + 2) = X at hf ⊢
  omega

end Runs

end C04
end Hpbf
