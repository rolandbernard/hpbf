/-
The second step relation through nested blocks.  `BStep ps s s' P`: the code and the recorded
analysis nodes grow in step (`PStep`), what the state may ask its parent is unchanged (`acore`), `shift` is unchanged
if `P` ("the code handled by the step does not move the pointer"), and `PVClean` is kept if the questions to the parent
do not depend on `shift`, or if `P`.  `inline`, `loopOrIf`, `loopInsideIf`, `finishLoop`, the induction, and for the
result of a round: `optimizeOnce_shape` and the static conditions of dead store elimination.  (Why this walk is
separate from the `SK` walk, and why its mode is `false`: head of `OptRbShape2`.)
-/
import Hpbf.Proofs.OptRbTop
import Hpbf.Proofs.OptRbShape2

namespace Hpbf
namespace OptProof
open Opt OptSem Ir

variable {w : Nat}

theorem ShapeSt.forgetParent {s : Rebuild w} (h : ShapeSt s) : ShapeSt (forgetParent s) :=
  h.of_same rfl rfl rfl

structure BStep (ps : List (Rebuild w)) (s s' : Rebuild w) (P : Prop) : Prop extends PStep s s' where
  wf : Wf s'
  core : acore s' = acore s
  shift : P → s'.shift = s.shift
  pv : (ShiftIndep s ∨ P) → PVClean s ps → PVClean s' ps

section
variable {ps : List (Rebuild w)} {P : Prop}

theorem FStep.bstep {s s' : Rebuild w} (h : FStep ps s s') (P : Prop) : BStep ps s s' P :=
  ⟨h.toNStep.pstep, h.wf, h.core, fun _ => h.shift, fun _ => h.pv⟩

theorem BStep.refl {s : Rebuild w} (h : Wf s) : BStep ps s s P := (FStep.refl h).bstep P

theorem BStep.trans {a b c : Rebuild w} (h1 : BStep ps a b P) (h2 : BStep ps b c P) : BStep ps a c P := by
  refine ⟨h1.toPStep.trans h2.toPStep, h2.wf, h2.core.trans h1.core, fun hp => (h2.shift hp).trans (h1.shift hp), ?_⟩
  intro hs hpv
  refine h2.pv ?_ (h1.pv hs hpv)
  rcases hs with hs | hs
  · exact Or.inl (hs.of_core h1.core)
  · exact Or.inr hs

theorem BStep.mono {s s' : Rebuild w} {P' : Prop} (h : BStep ps s s' P) (hp : P' → P) : BStep ps s s' P' :=
  ⟨h.toPStep, h.wf, h.core, fun h' => h.shift (hp h'), fun hs => h.pv (hs.imp id hp)⟩

theorem BStep.shapeSt {s s' : Rebuild w} (h : BStep ps s s' P) (hs : ShapeSt s) : ShapeSt s' :=
  h.toPStep.shapeSt hs

/-- A child `sub` is merged by `inline`: after the steps `s → s2`, its code is appended; after more steps that
emit no block (`→ X`), its nodes are appended and its `shift` may be taken over (`Y`). -/
theorem BStep.absorb {s s2 X Y sub : Rebuild w} (n2 : FStep ps s s2)
    (n3 : FStep ps ({ s2 with insts := s2.insts ++ sub.insts } : Rebuild w) X) (hsh : ShapeSt sub)
    (hss : s.subShift = false → sub.subShift = false) (hwf : Wf Y) (ei : Y.insts = X.insts)
    (ea : Y.subAnal = X.subAnal ++ sub.subAnal) (hp : Y.pending = X.pending) (hw : Y.written = X.written)
    (hcore : acore Y = acore X) (es : Y.subShift = X.subShift) (hpar : Y.parent = X.parent)
    (hshift : Y.shift = X.shift ∨ Y.shift = sub.shift) : BStep ps s Y (sub.shift = s.shift) := by
  obtain ⟨new2, e2, g2⟩ := n2.insts
  obtain ⟨new3, e3, g3⟩ := n3.insts
  have b3 : Y.subShift = false → s.subShift = false := fun h => n2.sub (n3.sub (es ▸ h))
  have hXs : X.shift = s.shift := n3.shift.trans n2.shift
  refine ⟨⟨b3, new2 ++ sub.insts ++ new3, sub.subAnal, ?_, ?_, ?_, fun hc => hsh.noShift (hss (b3 hc))⟩, hwf,
    hcore.trans (n3.core.trans n2.core), ?_, ?_⟩
  · rw [ei, e3]
    show s2.insts ++ sub.insts ++ new3 = _
    rw [e2]; simp
  · rw [ea, n3.subAnal]
    show s2.subAnal ++ sub.subAnal = _
    rw [n2.subAnal]
  · have := shapeL_append (shapeL_append (shapeL_nonblocks g2) hsh.shape) (shapeL_nonblocks g3)
    simpa using this
  · intro hP
    rcases hshift with h | h
    · exact h.trans hXs
    · exact h.trans hP
  · intro hs hpv
    have hpvX : PVClean X ps := n3.pv (pv_congr (s := s2) rfl rfl (fun _ => rfl) (n2.pv hpv))
    refine pv_reshift hp hw hcore es hpar ?_ hpvX
    rcases hshift with h | h
    · exact Or.inl h
    · rcases hs with hs | hs
      · exact Or.inr (hs.of_core (n3.core.trans n2.core))
      · exact Or.inl (h.trans (hs.trans hXs.symm))

variable (ps)

theorem clobberAll_rem_ftri {s s0 : Rebuild w} (vars : List (Int × Bool)) (hrem : RemPend s s0) (hwf : Wf s) :
    Tri false (clobberAll ps vars s0) (FStep ps s) :=
  have r := hrem.fstep (FStep.refl hwf (ps := ps))
  (clobberAll_ftri ps vars r.wf).mono (fun _ r2 => r.trans r2)

theorem inlineRest_btri {s sub : Rebuild w} (hwf : Wf s) (hsh : ShapeSt sub)
    (hss : s.subShift = false → sub.subShift = false) :
    Tri false (inlineRest s ps sub) (fun s' => BStep ps s s' (sub.shift = s.shift)) := by
  unfold inlineRest
  dsimp only
  refine Tri.bind (clobberAll_rem_ftri ps _ (foldl_remPend _ ?_ _ _ (RemPend.refl s)) hwf) (fun s2 n2 => ?_)
  · intro acc x
    split
    · exact Or.inl rfl
    · exact Or.inr ⟨_, rfl⟩
  have n3 := (FStep.refl (n2.wf.pushInsts sub.insts) (ps := ps)).writtenCalcs ps (knownCalcs sub)
  by_cases hn : sub.noReturn = true
  · rw [if_pos hn]
    refine Tri.bind (P := fun s4 => s4 = _) (Tri.pure rfl) (fun s4 e4 => Tri.pure ?_)
    subst e4
    exact BStep.absorb n2 n3 hsh hss ⟨n3.wf.pend, n3.wf.writ, n3.wf.rev, n3.wf.revOk⟩ rfl rfl rfl rfl rfl rfl rfl
      (Or.inl rfl)
  · rw [if_neg hn]
    exact (takeInlineOrder_tri false _).bind (fun pend _ =>
      (performAll_ftri ps 0 pend n3.wf).bind (fun s4 n4 =>
        Tri.bind (P := fun s5 => s5 = ({ s4 with shift := sub.shift } : Rebuild w)) (Tri.pure rfl)
          (fun s5 e5 => Tri.pure (by
            subst e5
            exact BStep.absorb n2 (n3.trans n4) hsh hss ⟨n4.wf.pend, n4.wf.writ, n4.wf.rev, n4.wf.revOk⟩
              rfl rfl rfl rfl rfl rfl rfl (Or.inr rfl)))))

theorem inline_btri {s sub : Rebuild w} (hwf : Wf s) (hsh : ShapeSt sub) :
    Tri false (Opt.inline s ps sub) (fun s' => BStep ps s s' (sub.shift = s.shift)) := by
  rw [inline_eq]
  by_cases hss : sub.subShift = true
  · rw [if_pos hss]
    refine (emitAll_ftri ps _ hwf).bind (fun s1 r1 => ?_)
    refine Tri.bind (P := fun s2 => FStep ps s s2 ∧ s2.subShift = true) (Tri.pure ⟨r1.uncertainShift, rfl⟩)
      (fun s2 r2 => ?_)
    exact (inlineRest_btri ps r2.1.wf hsh (fun h => by rw [r2.2] at h; cases h)).mono
      (fun _ r => (r2.1.bstep _).trans (r.mono (fun h => by rw [r2.1.shift]; exact h)))
  · rw [if_neg hss]
    refine (emitReadAll_ftri ps _ hwf).bind (fun s1 r1 => ?_)
    exact (inlineRest_btri ps r1.wf hsh (fun _ => by simpa using hss)).mono
      (fun _ r => (r1.bstep _).trans (r.mono (fun h => by rw [r1.shift]; exact h)))

theorem clobberPhase_ftri {s sub : Rebuild w} {L : OptLoop w} {C : List Int} (hwf : Wf s) :
    Tri false (clobberPhase s ps sub L C) (FStep ps s) := by
  unfold clobberPhase
  by_cases hne : (!L.noEffect) = true
  · rw [if_pos hne]
    refine clobberAll_rem_ftri ps _ (foldl_remPend _ ?_ _ _ (RemPend.refl s)) hwf
    intro acc x
    by_cases h1 : (!C.contains x.1) = true
    · by_cases h2 : (x.2.isMaybe || !L.atLeastOnce) = true
      · exact Or.inl (by rw [if_pos h1, if_pos h2])
      · exact Or.inr ⟨x.1, by rw [if_pos h1, if_neg h2]⟩
    · exact Or.inl (by rw [if_neg h1])
  · rw [if_neg hne]
    exact Tri.pure (FStep.refl hwf)

variable {ps} in
theorem condZero_f {s s1 : Rebuild w} (h : FStep ps s s1) (sub : Rebuild w) (cond : Int) :
    FStep ps s (condZero s1 sub cond) := by
  unfold condZero
  split
  · split
    · exact h.insertWritten _ _
    · exact h
  · exact h

theorem loopPrep_ftri {s sub : Rebuild w} {cond : Int} {L : OptLoop w} {C : List Int} (hwf : Wf s) :
    Tri false (loopPrep s ps sub cond L C) (fun r => FStep ps s r.1 ∧ r.2.1.insts = sub.insts ∧
      r.2.1.subAnal = sub.subAnal ∧ r.2.1.shift = sub.shift ∧
      ((sub.subShift || sub.shift != s.shift) = true → r.1.subShift = true)) := by
  unfold loopPrep
  by_cases hsh : (sub.subShift || sub.shift != s.shift) = true
  · rw [if_pos hsh]
    exact (emitAll_ftri ps _ hwf).bind (fun s1 r1 => Tri.pure ⟨r1.uncertainShift, rfl, rfl, rfl, fun _ => rfl⟩)
  · rw [if_neg hsh]
    dsimp only
    exact (emitReadAll_ftri ps _ hwf).bind (fun s1 r1 =>
      (emitReadAll_ftri ps _ r1.wf).bind (fun s2 r2 =>
        (clobberPhase_ftri ps (r1.trans r2).wf).bind (fun s3 r3 =>
          Tri.pure ⟨condZero_f ((r1.trans r2).trans r3) _ _, rfl, rfl, rfl, fun h => absurd h hsh⟩)))

theorem loopTail_shapeFields (s1 sub : Rebuild w) (cond : Int) (isLoop : Bool) (L : OptLoop w) (hasShift : Bool)
    (clobbered : List Int) :
    (loopTail s1 sub cond isLoop L hasShift clobbered).insts =
      s1.insts ++ [if isLoop then Ir.Instr.loop cond (sub.shift - s1.shift) sub.insts L.atLeastOnce
                   else Ir.Instr.ifnz cond (sub.shift - s1.shift) sub.insts] ∧
    (loopTail s1 sub cond isLoop L hasShift clobbered).subAnal =
      s1.subAnal ++ [OptAnalysis.mk L hasShift sub.reads clobbered sub.subAnal] ∧
    (loopTail s1 sub cond isLoop L hasShift clobbered).subShift = s1.subShift := by
  cases isLoop <;> by_cases hn : L.noContinue = true <;> simp [loopTail, hn, insertWritten]

theorem loopTail_askFields (s1 sub : Rebuild w) (cond : Int) (isLoop : Bool) (L : OptLoop w) (hasShift : Bool)
    (clobbered : List Int) :
    Wf s1 → (Wf (loopTail s1 sub cond isLoop L hasShift clobbered) ∧
    SameHdr s1 (loopTail s1 sub cond isLoop L hasShift clobbered) ∧
    (loopTail s1 sub cond isLoop L hasShift clobbered).pending = s1.pending ∧
    ∀ v, mGet s1.written v ≠ none → mGet (loopTail s1 sub cond isLoop L hasShift clobbered).written v ≠ none) := by
  intro hwf
  refine loopTail_ind (P := fun X => Wf X ∧ SameHdr s1 X ∧ X.pending = s1.pending ∧
    ∀ v, mGet s1.written v ≠ none → mGet X.written v ≠ none) s1 sub cond isLoop L hasShift clobbered
    ⟨hwf.pushInsts _, ⟨rfl, rfl, rfl, rfl, rfl⟩, rfl, fun _ h => h⟩ ?_ ?_ ?_
  · intro X hX
    have hs := insertWritten_same X cond (.known (Expr.val 0#w))
    refine ⟨insertWritten_wf hX.1 _ _, hX.2.1.trans hs.hdr, hs.pending.trans hX.2.2.1, fun v hv => ?_⟩
    rw [insertWritten_written, mGet_mSet]
    split
    · simp
    · exact hX.2.2.2 v hv
  · intro X hX
    exact ⟨⟨hX.1.pend, hX.1.writ, hX.1.rev, hX.1.revOk⟩, hX.2.1, hX.2.2.1, hX.2.2.2⟩
  · intro X a hX
    exact ⟨⟨hX.1.pend, hX.1.writ, hX.1.rev, hX.1.revOk⟩, hX.2.1, hX.2.2.1, hX.2.2.2⟩

/-- A `loop` is pushed for an analysis with `atMostOnce = false`, an `ifnz` for one with `atLeastOnce = false`. -/
theorem loopOrIf_btri {s sub : Rebuild w} {cond : Int} {isLoop : Bool} {L : OptLoop w} {C : List Int} {P : Prop}
    (hwf : Wf s) (hwsub : Wf sub) (hsh : ShapeSt sub)
    (hflag : if isLoop then L.atMostOnce = false else L.atLeastOnce = false) :
    Tri false (loopOrIf s ps sub cond isLoop L C) (fun s' => BStep ps s s' P) := by
  rw [loopOrIf_eq]
  refine Tri.bind (P := fun sub1 => ShapeSt sub1) ?_ (fun sub1 hsh1 => (loopPrep_ftri ps hwf).bind (fun r hr =>
    Tri.pure ?_))
  · by_cases hn : (!sub.noReturn) = true
    · rw [if_pos hn]
      exact (emitAll_ftri [] _ hwsub).mono (fun _ r => r.toNStep.shapeSt hsh)
    · rw [if_neg hn]
      exact Tri.pure hsh
  obtain ⟨n, ei, ea, es, hss⟩ := hr
  obtain ⟨f1, f2, f3⟩ := loopTail_shapeFields r.1 r.2.1 cond isLoop L (sub1.subShift || sub1.shift != s.shift) r.2.2
  obtain ⟨g1, g2, g3, g4⟩ := loopTail_askFields r.1 r.2.1 cond isLoop L (sub1.subShift || sub1.shift != s.shift) r.2.2
    n.wf
  have hnode : (sub1.subShift || sub1.shift != s.shift) = false →
      r.2.1.shift - r.1.shift = 0 ∧ ∀ a ∈ r.2.1.subAnal, a.hasShift = false := by
    intro h
    simp only [Bool.or_eq_false_iff, bne_eq_false_iff_eq] at h
    refine ⟨by rw [es, n.shift, h.2]; omega, ?_⟩
    rw [ea]
    exact hsh1.noShift h.1
  have hbody : ShapeL r.2.1.insts r.2.1.subAnal := by rw [ei, ea]; exact hsh1.shape
  have hI : ShapeI (if isLoop then Ir.Instr.loop cond (r.2.1.shift - r.1.shift) r.2.1.insts L.atLeastOnce
      else Ir.Instr.ifnz cond (r.2.1.shift - r.1.shift) r.2.1.insts)
      (OptAnalysis.mk L (sub1.subShift || sub1.shift != s.shift) r.2.1.reads r.2.2 r.2.1.subAnal) := by
    cases isLoop with
    | true =>
      simp only [if_true] at hflag ⊢
      rw [ShapeI]
      exact ⟨rfl, hflag, hnode, hbody⟩
    | false =>
      simp only [Bool.false_eq_true, if_false] at hflag ⊢
      rw [ShapeI]
      exact ⟨hflag, hnode, hbody⟩
  refine (n.bstep P).trans ⟨⟨fun h => by rw [f3] at h; exact h, _, _, f1, f2, shapeL_single hI, ?_⟩, g1,
    acore_of_anal g2.2.1, fun _ => g2.2.2.1, fun _ => pv_of_shrink (fun k e hk => by rw [g3] at hk; exact hk)
      (fun _ => g4) (fun x => Or.inr (getParentConstant_congr g2 ps x))⟩
  intro hc a ha
  simp only [List.mem_singleton] at ha
  subst ha
  rw [f3] at hc
  cases hh : (sub1.subShift || sub1.shift != s.shift) with
  | false => rfl
  | true => rw [hss hh] at hc; cases hc

theorem loopInsideIf_btri {s sub : Rebuild w} {cond : Int} {L : OptLoop w} {after : List (Int × Expr w)}
    {C : List Int} (hwf : Wf s) (hwsub : Wf sub) (hsh : ShapeSt sub) :
    Tri false (loopInsideIf s ps sub cond L after C) (fun s' => BStep ps s s' (sub.shift = s.shift)) := by
  rw [loopInsideIf_eq]
  refine Tri.bind (P := fun s1 => BStep ps s s1 (sub.shift = s.shift)) ?_
    (fun s1 r1 => (performAll_ftri ps 0 after r1.wf).mono (fun _ r2 => r1.trans (r2.bstep _)))
  unfold liiHead
  by_cases hamo : L.atMostOnce = true
  · rw [if_pos hamo]
    exact inline_btri ps hwf hsh
  · rw [if_neg hamo]
    split
    · exact (performAll_ftri ps 0 _ hwf).mono (fun _ r => r.bstep _)
    · exact loopOrIf_btri ps hwf hwsub hsh (by simpa using hamo)

theorem finishEnd_btri {s : Rebuild w} {cond : Int} {L : OptLoop w} {r : MidRes w} (hwf : Wf s)
    (hwsub : Wf r.1) (hsh : ShapeSt r.1) :
    Tri false (finishEnd s ps cond L r) (fun s' => BStep ps s s' (r.1.shift = s.shift)) := by
  obtain ⟨sub, before, after, constant⟩ := r
  unfold finishEnd
  refine (performAll_ftri ps 0 before hwf).bind (fun s1 n1 => ?_)
  have hwf' : Wf (forgetParent sub) := ⟨hwsub.pend, hwsub.writ, hwsub.rev, hwsub.revOk⟩
  by_cases hc : (L.atLeastOnce || (!L.atMostOnce && after.isEmpty)) = true
  · rw [if_pos hc]
    exact (loopInsideIf_btri ps n1.wf hwf' hsh.forgetParent).mono (fun _ r2 =>
      (n1.bstep _).trans (r2.mono (fun h => by
        show sub.shift = s1.shift
        rw [n1.shift]; exact h)))
  · rw [if_neg hc]
    refine (loopInsideIf_btri [] (wf_new _ _ _ _) hwf' hsh.forgetParent).bind (fun ifS r2 => ?_)
    have hal : L.atLeastOnce = false := by
      cases h : L.atLeastOnce with
      | false => rfl
      | true => exact absurd (by rw [h]; rfl) hc
    exact (loopOrIf_btri ps n1.wf r2.wf (r2.shapeSt (shapeSt_new _ _ _ _))
      (by simpa [OptLoop.toAtMostOnce] using hal)).mono (fun _ r3 => (n1.bstep _).trans r3)

theorem finishLoop_btri {s sub : Rebuild w} {cond : Int} {isLoop : Bool} (hwf : Wf s) (hwsub : Wf sub)
    (hsh : ShapeSt sub) :
    Tri false (finishLoop s ps sub cond isLoop) (fun s' => BStep ps s s' (sub.shift = s.shift)) := by
  rw [finishLoop_cut]
  by_cases hnever : (analyzeLoop s ps sub cond isLoop).never = true
  · rw [if_pos hnever]
    exact Tri.pure (BStep.refl hwf)
  · rw [if_neg hnever]
    by_cases hmv : (sub.subShift || sub.shift != s.shift) = true
    · rw [if_pos hmv]
      exact Tri.bind (P := fun x => x = (sub, [], [], [])) (Tri.pure rfl)
        (fun x hx => by subst hx; exact finishEnd_btri ps hwf hwsub hsh)
    · rw [if_neg hmv]
      -- `finishMotionK_tri` asks for `ChildK` and `LoopCanon`; here only `Wf sub` is at hand, so the phase is walked
      -- directly, with `motionFold_rem` for its fold
      unfold finishMotionK
      dsimp only
      refine (Tri.lift (t := false) (Q := fun _ => True) nofun (fun _ _ => trivial)).bind (fun constant _ => ?_)
      refine (motionFold_rem sub (pendingSorted sub sub) (acc := (sub, [], [], [])) (RemPend.refl sub)).bind
        (fun acc hrem => ?_)
      obtain ⟨sub1, B, D, A⟩ := acc
      dsimp only
      have n1 := hrem.fstep (FStep.refl hwsub (ps := s :: ps))
      refine (performAll_ftri (s :: ps) 0 D n1.wf).bind (fun sub2 n2 => ?_)
      refine Tri.bind (P := fun x => x = (sub2, B, A, constant)) (Tri.pure rfl) (fun x hx => ?_)
      subst hx
      have n := n1.trans n2
      exact (finishEnd_btri ps hwf n.wf (n.toNStep.shapeSt hsh)).mono (fun _ r => r.mono (fun h => by
        show sub2.shift = s.shift
        rw [n.shift]; exact h))

end

theorem clobberPhase_nstep {s : Rebuild w} {ps : List (Rebuild w)} {sub : Rebuild w} {L : OptLoop w}
    {C : List Int} {os os' : Orders} {s' : Rebuild w}
    (hr : (clobberPhase s ps sub L C).run os = .ok (s', os')) (hwf : Wf s) : NStep s s' :=
  ((clobberPhase_ftri ps hwf).post hr).toNStep

theorem loopPrep_nstep {s : Rebuild w} {ps : List (Rebuild w)} {sub : Rebuild w} {cond : Int}
    {L : OptLoop w} {C : List Int} {os os' : Orders} {r : Rebuild w × Rebuild w × List Int}
    (hr : (loopPrep s ps sub cond L C).run os = .ok (r, os')) (hwf : Wf s) :
    NStep s r.1 ∧ r.2.1.insts = sub.insts ∧ r.2.1.subAnal = sub.subAnal ∧ r.2.1.shift = sub.shift ∧
    ((sub.subShift || sub.shift != s.shift) = true → r.1.subShift = true) :=
  have h := (loopPrep_ftri ps hwf).post hr
  ⟨h.1.toNStep, h.2⟩

theorem loopOrIf_pstep {s : Rebuild w} {ps : List (Rebuild w)} {sub : Rebuild w} {cond : Int}
    {isLoop : Bool} {L : OptLoop w} {C : List Int} {os os' : Orders} {s' : Rebuild w}
    (hr : (loopOrIf s ps sub cond isLoop L C).run os = .ok (s', os')) (hwf : Wf s) (hwsub : Wf sub)
    (hsh : ShapeSt sub) (hflag : if isLoop then L.atMostOnce = false else L.atLeastOnce = false) :
    PStep s s' :=
  ((loopOrIf_btri ps hwf hwsub hsh hflag (P := True)).post hr).toPStep

theorem loopInsideIf_pstep {s : Rebuild w} {ps : List (Rebuild w)} {sub : Rebuild w} {cond : Int}
    {L : OptLoop w} {after : List (Int × Expr w)} {C : List Int} {os os' : Orders} {s' : Rebuild w}
    (hr : (loopInsideIf s ps sub cond L after C).run os = .ok (s', os')) (hwf : Wf s) (hsub : Child sub)
    (hsh : ShapeSt sub) : PStep s s' :=
  ((loopInsideIf_btri ps hwf hsub.wf hsh).post hr).toPStep

theorem blockChild_shapeSt (s : Rebuild w) (cond : Int) : ShapeSt (blockChild s cond) := by
  have hrev := reverseSubBlocks_fields
    (Rebuild.new (popSubAnal s).1.shift (some (cond + s.shift)) .parent (popSubAnal s).2 : Rebuild w)
  exact (shapeSt_new _ _ _ _).of_same hrev.insts hrev.subAnal hrev.subShift

theorem acore_popSubAnal (s : Rebuild w) : acore (popSubAnal s).1 = acore s := by
  unfold popSubAnal
  split
  · rename_i anal ha
    split
    · unfold acore
      rw [ha]
      cases anal with
      | mk a b c d e => rfl
    · rfl
  · rfl

theorem popSubAnal_f {ps : List (Rebuild w)} {s : Rebuild w} (hwf : Wf s) : FStep ps s (popSubAnal s).1 := by
  have hpop := popSubAnal_same s
  exact ⟨(NStep.refl hwf).of_same (hpop.wf hwf) hpop.shift hpop.subAnal hpop.subShift hpop.insts, acore_popSubAnal s,
    pv_reshift hpop.pending hpop.written (acore_popSubAnal s) hpop.subShift hpop.parent (Or.inl hpop.shift)⟩

theorem noShiftI_parts {i : Instr w} {cond shift : Int} {body : List (Instr w)}
    (hp : C01Dse.blockParts i = some (cond, shift, body)) (h : C01Dse.noShiftI i = true) :
    shift = 0 ∧ C01Dse.noShiftL body = true := by
  cases i with
  | output _ => cases hp
  | input _ => cases hp
  | «calc» _ => cases hp
  | loop c sh b o =>
    cases hp
    rw [C01Dse.noShiftI] at h
    simpa using h
  | ifnz c sh b =>
    cases hp
    rw [C01Dse.noShiftI] at h
    simpa using h

theorem blockChild_fields (s : Rebuild w) (cond : Int) :
    Wf (blockChild s cond) ∧ (blockChild s cond).shift = (popSubAnal s).1.shift := by
  have hrev := reverseSubBlocks_fields
    (Rebuild.new (popSubAnal s).1.shift (some (cond + s.shift)) .parent (popSubAnal s).2 : Rebuild w)
  exact ⟨(blockChild_child s cond).wf, by rw [blockChild, hrev.shift]; rfl⟩

theorem rebuild_b_tri :
    (∀ (i : Instr w) (ps : List (Rebuild w)) (s : Rebuild w), Wf s →
      Tri false (rebuildInstr ps s i) (fun s' => BStep ps s s' (C01Dse.noShiftL [i] = true))) ∧
    ∀ (l : List (Instr w)) (ps : List (Rebuild w)) (s : Rebuild w), Wf s →
      Tri false (rebuildInsts ps s l) (fun r => BStep ps s r.1 (C01Dse.noShiftL l = true)) := by
  refine rebuild_tri (Pre := fun _ _ s => Wf s) (R := fun ps l s s' => BStep ps s s' (C01Dse.noShiftL l = true))
    (fun _ _ _ h => BStep.refl h) ?_ (fun _ _ _ _ h => h) (fun _ _ _ _ _ _ r => r.wf)
    (fun ps _ _ hb h => (rebuildInstr_plain_ftri ps hb h).mono (fun _ r => r.bstep _)) ?_ ?_
  · intro ps i rest a b c _ r1 r2
    exact (r1.mono (fun h => by rw [C01Dse.noShiftL, (C01Dse.noShiftL_cons h).1]; rfl)).trans
      (r2.mono (fun h => (C01Dse.noShiftL_cons h).2))
  · intro ps s i cond shift body _ _
    exact (blockChild_fields s cond).1
  · intro ps s i cond shift body isLoop r hp hwf hr
    obtain ⟨sub, completed⟩ := r
    have n0 := popSubAnal_f (ps := ps) hwf
    have hsh := hr.shapeSt (blockChild_shapeSt s cond)
    have hwf2 : Wf (addShift (sub, completed) shift) := by
      unfold addShift; split
      · exact ⟨hr.wf.pend, hr.wf.writ, hr.wf.rev, hr.wf.revOk⟩
      · exact hr.wf
    have hsh2 : ShapeSt (addShift (sub, completed) shift) := by
      unfold addShift; split
      · exact hsh.of_same rfl rfl rfl
      · exact hsh
    refine (finishLoop_btri ps n0.wf hwf2 hsh2).mono (fun _ b1 => (n0.bstep _).trans (b1.mono ?_))
    intro h
    have h' : C01Dse.noShiftI i = true := by
      rw [C01Dse.noShiftL, Bool.and_eq_true] at h; exact h.1
    obtain ⟨h0, hns⟩ := noShiftI_parts hp h'
    have e : sub.shift = (popSubAnal s).1.shift := (hr.shift hns).trans (blockChild_fields s cond).2
    unfold addShift
    split
    · show sub.shift + shift = _
      rw [h0, e]; omega
    · exact e

theorem rebuildInsts_b_all {ps : List (Rebuild w)} (l : List (Instr w)) {s : Rebuild w}
    {os os' : Orders} {s' : Rebuild w} {done : Bool}
    (hr : (rebuildInsts ps s l).run os = .ok ((s', done), os')) (hwf : Wf s) :
    BStep ps s s' (C01Dse.noShiftL l = true) :=
  (rebuild_b_tri.2 l ps s hwf).post hr

theorem rebuildInstr_b_all {ps : List (Rebuild w)} {s : Rebuild w} (i : Instr w) {os os' : Orders}
    {s' : Rebuild w} (hr : (rebuildInstr ps s i).run os = .ok (s', os')) (hwf : Wf s) :
    BStep ps s s' (C01Dse.noShiftI i = true) :=
  ((rebuild_b_tri.1 i ps s hwf).post hr).mono (fun h => by rw [C01Dse.noShiftL, h]; rfl)

theorem rebuildInsts_pstep_all {ps : List (Rebuild w)} (l : List (Instr w)) {s : Rebuild w}
    {os os' : Orders} {s' : Rebuild w} {done : Bool}
    (hr : (rebuildInsts ps s l).run os = .ok ((s', done), os')) (hwf : Wf s) : PStep s s' :=
  (rebuildInsts_b_all l hr hwf).toPStep

theorem rebuildInstr_pstep_all {ps : List (Rebuild w)} {s : Rebuild w} (i : Instr w) {os os' : Orders}
    {s' : Rebuild w} (hr : (rebuildInstr ps s i).run os = .ok (s', os')) (hwf : Wf s) (hc : CanonSt s)
    (hci : CanonL [i]) : PStep s s' :=
  (rebuildInstr_b_all i hr hwf).toPStep

theorem rebuildBlock_pstep {ps : List (Rebuild w)} {s : Rebuild w} {b : Block w} {os os' : Orders}
    {s' : Rebuild w} (hr : (rebuildBlock ps s b).run os = .ok (s', os')) (hwf : Wf s) : PStep s s' := by
  obtain ⟨s1, done, h1, rfl⟩ := rebuildBlock_run hr
  have hrev := reverseSubBlocks_fields s
  have p0 : PStep s (reverseSubBlocks s) := PStep.of_same hrev.insts hrev.subAnal hrev.subShift
  have p1 := p0.trans (rebuildInsts_pstep_all b.insts h1 (hrev.wf hwf))
  split
  · exact p1.trans (PStep.of_same rfl rfl rfl)
  · exact p1

theorem optimizeOnce_shape {b : Block w} {prevAnal : OptAnalysis w} {os os' : Orders} {b' : Block w}
    {anal' : OptAnalysis w} (hr : (optimizeOnce b prevAnal).run os = .ok ((b', anal'), os')) :
    ShapeL b'.insts anal'.subBlocks := by
  obtain ⟨st, h1, rfl, rfl⟩ := optimizeOnce_run hr
  have p := rebuildBlock_pstep h1 (wf_new _ _ _ _)
  exact (p.shapeSt (shapeSt_new _ _ _ _)).shape

theorem optimizeOnce_shapeOk {b : Block w} {prevAnal : OptAnalysis w} {os os' : Orders} {b' : Block w}
    {anal' : OptAnalysis w} (hr : (optimizeOnce b prevAnal).run os = .ok ((b', anal'), os')) :
    C01Dse.ShapeOk b' anal'.toDAnal :=
  shapeOk_of_shapeL (optimizeOnce_shape hr)

theorem optimizeOnce_shiftFact {b : Block w} {prevAnal : OptAnalysis w} {os os' : Orders} {b' : Block w}
    {anal' : OptAnalysis w} (hr : (optimizeOnce b prevAnal).run os = .ok ((b', anal'), os')) :
    C01Dse.ShiftFact b' anal'.toDAnal :=
  shiftFact_of_shapeL (optimizeOnce_shape hr)

#print axioms optimizeOnce_shape
#print axioms optimizeOnce_shapeOk
#print axioms optimizeOnce_shiftFact

end OptProof
end Hpbf
