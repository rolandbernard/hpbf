/-
C02, first phase: the simulation between the IR interpreter and the bytecode machine running
the emitted code.

* `K`  – certificate for the continuation stack of the IR machine: every suspended loop/if is a block
         of the final program whose body ends where the current code segment ends;
* `R`  – the simulation relation: the IR machine is about to run `cur`, the bytecode machine is at the
         first instruction emitted for `cur`, the value-numbering table of the generator at that point
         is sound for the temporaries; plus the state "inside a fused `scan`"; and `OnceSafe`, which is `OnceOk`
         (`C01Exec`, where the optimizer proofs conclude it) read on `Steps`: no reachable configuration enters a loop
         marked `once` with zero condition, for which no leading `brz` is emitted;
* `Layout` – where the `brz`, `mov`, `brnz` of a block stand in the final program;
* `chunk` – every related pair of configurations can advance to a related pair (or both terminate): `CH`, with the
         measure `mu` (size of what the IR machine still has to run) for the steps that emit no code.
-/
import Hpbf.Proofs.C02EmitInv
import Hpbf.Proofs.C01Parse
import Hpbf.Proofs.C07

namespace Hpbf
namespace C02Emit
open BcGen Bc Sim Expr

variable {w : Nat}

theorem mono_BcM (p : Bc.Program w) : Sim.Mono (BcM p) where
  next := by
    intro c c' h
    have := C07.bc_step_trace p false c
    simp only [BcM] at h ⊢
    cases h' : Bc.step p false c with
    | next c1 => rw [h'] at h this; cases h; exact this
    | halt s | stop s => rw [h'] at h; simp at h
    | interrupted s | bad s => rw [h'] at h; cases h; exact List.suffix_refl _
  fin := by
    intro c ok t h
    have := C07.bc_step_trace p false c
    simp only [BcM] at h ⊢
    cases h' : Bc.step p false c with
    | next c1 => rw [h'] at h; simp at h
    | halt s | stop s => rw [h'] at h this; cases h; exact this
    | interrupted s | bad s => rw [h'] at h; simp at h

section Steps
variable {p : Bc.Program w} {c : Bc.Cfg w}

theorem step_mov {sh : Int} (hi : p.insts[c.pc]? = some (.mov sh)) :
    (BcM p).step c = .next { c with pc := c.pc + 1, st := c.st.mov sh } :=
  BcM_step_of hi rfl

theorem step_out_ok {src : Int} (hi : p.insts[c.pc]? = some (.out src)) (h : (c.st.output src).1 = true) :
    (BcM p).step c = .next { c with pc := c.pc + 1, st := (c.st.output src).2 } :=
  BcM_step_of hi (by simp [C11.stepI, h])

theorem step_out_fail {src : Int} (hi : p.insts[c.pc]? = some (.out src)) (h : (c.st.output src).1 = false) :
    (BcM p).step c = .fin false (c.st.output src).2.trace := by
  simp only [BcM, C11.step_eq hi, C11.stepI, h, Bool.false_eq_true, if_false]

theorem step_inp_ok {dst : Int} (hi : p.insts[c.pc]? = some (.inp dst)) (h : (c.st.input dst).1 = true) :
    (BcM p).step c = .next { c with pc := c.pc + 1, st := (c.st.input dst).2 } :=
  BcM_step_of hi (by simp [C11.stepI, h])

theorem step_inp_fail {dst : Int} (hi : p.insts[c.pc]? = some (.inp dst)) (h : (c.st.input dst).1 = false) :
    (BcM p).step c = .fin false (c.st.input dst).2.trace := by
  simp only [BcM, C11.step_eq hi, C11.stepI, h, Bool.false_eq_true, if_false]

theorem branch_taken {off : Int} {t : Nat} (ht : (c.pc : Int) + off = (t : Int)) (hle : t ≤ p.insts.size) :
    C11.branch p false c true off = .next { c with pc := t } := by
  unfold C11.branch
  have : branchTarget c.pc off p.insts.size = some t := by
    unfold branchTarget
    simp only [ht]
    have h1 : (0 : Int) ≤ (t : Int) ∧ (t : Int) ≤ (p.insts.size : Int) := ⟨by omega, by omega⟩
    simp [h1]
  simp [this]

theorem branch_not (off : Int) : C11.branch p false c false off = .next { c with pc := c.pc + 1 } := by
  unfold C11.branch
  simp

theorem step_brz_taken {cond off : Int} {t : Nat} (hi : p.insts[c.pc]? = some (.brz cond off))
    (hz : c.st.rd cond = 0#w) (ht : (c.pc : Int) + off = (t : Int)) (hle : t ≤ p.insts.size) :
    (BcM p).step c = .next { c with pc := t } :=
  BcM_step_of hi (by simp only [C11.stepI, hz, beq_self_eq_true]; exact branch_taken ht hle)

theorem step_brz_not {cond off : Int} (hi : p.insts[c.pc]? = some (.brz cond off))
    (hz : c.st.rd cond ≠ 0#w) : (BcM p).step c = .next { c with pc := c.pc + 1 } :=
  BcM_step_of hi (by
    have : (c.st.rd cond == 0#w) = false := by simp [hz]
    simp only [C11.stepI, this]; exact branch_not off)

theorem step_brnz_taken {cond off : Int} {t : Nat} (hi : p.insts[c.pc]? = some (.brnz cond off))
    (hz : c.st.rd cond ≠ 0#w) (ht : (c.pc : Int) + off = (t : Int)) (hle : t ≤ p.insts.size) :
    (BcM p).step c = .next { c with pc := t } :=
  BcM_step_of hi (by
    have : (c.st.rd cond != 0#w) = true := by simp [hz]
    simp only [C11.stepI, this]; exact branch_taken ht hle)

theorem step_brnz_not {cond off : Int} (hi : p.insts[c.pc]? = some (.brnz cond off))
    (hz : c.st.rd cond = 0#w) : (BcM p).step c = .next { c with pc := c.pc + 1 } :=
  BcM_step_of hi (by simp only [C11.stepI, hz, bne_self_eq_false]; exact branch_not off)

theorem step_scan_zero {cond sh : Int} (hi : p.insts[c.pc]? = some (.scan cond sh))
    (hz : c.st.rd cond = 0#w) : (BcM p).step c = .next { c with pc := c.pc + 1 } :=
  BcM_step_of hi (by simp [C11.stepI, hz])

theorem step_scan_move {cond sh : Int} (hi : p.insts[c.pc]? = some (.scan cond sh))
    (hz : c.st.rd cond ≠ 0#w) : (BcM p).step c = .next { c with st := c.st.mov sh } := by
  apply BcM_step_of hi
  by_cases hs : sh = 0
  · subst hs
    simp [C11.stepI, hz, C01.mov_zero]
  · simp [C11.stepI, hz, hs]

theorem raw_halt (h : c.pc = p.insts.size) : Bc.step p false c = .halt c := by
  have : p.insts[c.pc]? = none := by rw [h]; simp
  simp [Bc.step, h]

theorem raw_out_fail {src : Int} (hi : p.insts[c.pc]? = some (.out src))
    (h : (c.st.output src).1 = false) :
    Bc.step p false c = .stop { c with st := (c.st.output src).2 } := by
  simp only [C11.step_eq hi, C11.stepI, h, Bool.false_eq_true, if_false]

theorem raw_inp_fail {dst : Int} (hi : p.insts[c.pc]? = some (.inp dst))
    (h : (c.st.input dst).1 = false) :
    Bc.step p false c = .stop { c with st := (c.st.input dst).2 } := by
  simp only [C11.step_eq hi, C11.stepI, h, Bool.false_eq_true, if_false]

theorem step_halt (h : c.pc = p.insts.size) : (BcM p).step c = .fin true c.st.trace := by
  have : p.insts[c.pc]? = none := by rw [h]; simp
  simp [BcM, Bc.step, h]

end Steps

abbrev IrM (w : Nat) : Sim.Mach := C01.IrM w

theorem irM_step (c : Ir.Cfg w) : (IrM w).step c =
    match Ir.step false c with
    | .next c' => .next c'
    | .halt c' => .fin true c'.st.trace
    | .stop c' => .fin false c'.st.trace
    | .interrupted c' => .fin true c'.st.trace := rfl

theorem irM_next {c c' : Ir.Cfg w} (h : Ir.step false c = .next c') : (IrM w).step c = .next c' := by
  rw [irM_step, h]

theorem irM_stop {c c' : Ir.Cfg w} (h : Ir.step false c = .stop c') :
    (IrM w).step c = .fin false c'.st.trace := by
  rw [irM_step, h]

section IrSteps
variable {rest : List (Ir.Instr w)} {ks : List (Ir.Cont w)} {bud : Nat} {st : State w}

theorem ir_halt : (IrM w).step ⟨[], [], bud, st⟩ = .fin true st.trace := rfl

theorem ir_loopEnd_again {cond shift : Int} {body : List (Ir.Instr w)}
    (h : (st.mov shift).rd cond ≠ 0#w) :
    (IrM w).step ⟨[], .loopEnd cond shift body rest :: ks, bud, st⟩
      = .next ⟨body, .loopEnd cond shift body rest :: ks, bud, st.mov shift⟩ :=
  irM_next (by simp [Ir.step, h])

theorem ir_loopEnd_exit {cond shift : Int} {body : List (Ir.Instr w)}
    (h : (st.mov shift).rd cond = 0#w) :
    (IrM w).step ⟨[], .loopEnd cond shift body rest :: ks, bud, st⟩
      = .next ⟨rest, ks, bud, st.mov shift⟩ :=
  irM_next (by simp [Ir.step, h])

theorem ir_ifEnd {shift : Int} :
    (IrM w).step ⟨[], .ifEnd shift rest :: ks, bud, st⟩ = .next ⟨rest, ks, bud, st.mov shift⟩ :=
  irM_next (by simp [Ir.step])

theorem ir_output_ok {src : Int} (h : (st.output src).1 = true) :
    (IrM w).step ⟨.output src :: rest, ks, bud, st⟩ = .next ⟨rest, ks, bud, (st.output src).2⟩ := by
  apply irM_next
  simp only [Ir.step]
  cases ho : st.output src with
  | mk b s => rw [ho] at h; simp only at h; subst h; rfl

theorem raw_ir_output_fail {src : Int} (h : (st.output src).1 = false) :
    Ir.step false ⟨.output src :: rest, ks, bud, st⟩ = .stop ⟨rest, ks, bud, (st.output src).2⟩ := by
  simp only [Ir.step]
  cases ho : st.output src with
  | mk b s => rw [ho] at h; simp only at h; subst h; rfl

theorem raw_ir_input_fail {dst : Int} (h : (st.input dst).1 = false) :
    Ir.step false ⟨.input dst :: rest, ks, bud, st⟩ = .stop ⟨rest, ks, bud, (st.input dst).2⟩ := by
  simp only [Ir.step]
  cases ho : st.input dst with
  | mk b s => rw [ho] at h; simp only at h; subst h; rfl

theorem ir_output_fail {src : Int} (h : (st.output src).1 = false) :
    (IrM w).step ⟨.output src :: rest, ks, bud, st⟩ = .fin false (st.output src).2.trace :=
  irM_stop (raw_ir_output_fail h)

theorem ir_input_ok {dst : Int} (h : (st.input dst).1 = true) :
    (IrM w).step ⟨.input dst :: rest, ks, bud, st⟩ = .next ⟨rest, ks, bud, (st.input dst).2⟩ := by
  apply irM_next
  simp only [Ir.step]
  cases ho : st.input dst with
  | mk b s => rw [ho] at h; simp only at h; subst h; rfl

theorem ir_input_fail {dst : Int} (h : (st.input dst).1 = false) :
    (IrM w).step ⟨.input dst :: rest, ks, bud, st⟩ = .fin false (st.input dst).2.trace :=
  irM_stop (raw_ir_input_fail h)

theorem ir_calc {calcs : List (Int × Expr w)} :
    (IrM w).step ⟨.calc calcs :: rest, ks, bud, st⟩ = .next ⟨rest, ks, bud, Ir.doCalc st calcs⟩ := rfl

theorem ir_loop_enter {cond shift : Int} {body : List (Ir.Instr w)} {once : Bool}
    (h : st.rd cond ≠ 0#w) :
    (IrM w).step ⟨.loop cond shift body once :: rest, ks, bud, st⟩
      = .next ⟨body, .loopEnd cond shift body rest :: ks, bud, st⟩ :=
  irM_next (by simp [Ir.step, h])

theorem ir_loop_skip {cond shift : Int} {body : List (Ir.Instr w)} {once : Bool}
    (h : st.rd cond = 0#w) :
    (IrM w).step ⟨.loop cond shift body once :: rest, ks, bud, st⟩ = .next ⟨rest, ks, bud, st⟩ :=
  irM_next (by simp [Ir.step, h])

theorem ir_if_enter {cond shift : Int} {body : List (Ir.Instr w)} (h : st.rd cond ≠ 0#w) :
    (IrM w).step ⟨.ifnz cond shift body :: rest, ks, bud, st⟩
      = .next ⟨body, .ifEnd shift rest :: ks, bud, st⟩ :=
  irM_next (by simp [Ir.step, h])

theorem ir_if_skip {cond shift : Int} {body : List (Ir.Instr w)} (h : st.rd cond = 0#w) :
    (IrM w).step ⟨.ifnz cond shift body :: rest, ks, bud, st⟩ = .next ⟨rest, ks, bud, st⟩ :=
  irM_next (by simp [Ir.step, h])

end IrSteps

def contsz : List (Ir.Cont w) → Nat
  | [] => 0
  | .loopEnd _ _ _ rest :: ks => 1 + iszL rest + contsz ks
  | .ifEnd _ rest :: ks => 1 + iszL rest + contsz ks

def mu (c : Ir.Cfg w) : Nat := iszL c.cur + contsz c.conts

def OnceCond (c : Ir.Cfg w) : Prop :=
  ∀ cond shift body rest, c.cur = .loop cond shift body true :: rest → c.st.rd cond ≠ 0#w

def OnceSafe (c : Ir.Cfg w) : Prop := ∀ n c', Steps (IrM w) n c c' → OnceCond c'

theorem OnceSafe.step {c c' : Ir.Cfg w} (h : OnceSafe c) (hs : (IrM w).step c = .next c') : OnceSafe c' :=
  fun n c'' hst => h (n + 1) c'' (Steps.cons hs hst)

theorem OnceSafe.here {c : Ir.Cfg w} (h : OnceSafe c) : OnceCond c := h 0 c (Steps.refl (M := IrM w) c)

/-! `K.loop` has two premises more than `K.ifEnd`: the back edge re-enters the body with the table of the loop HEAD, so the
head's entries must have survived the body (`ValSub g0.values g2.values`, from `head_sub_end`), and after a pointer move
nothing in the table is valid any more (`shift ≠ 0 → g0.values = []`). -/

inductive K (P : Bc.Program w) (fuse : Bool) : G w → List (Ir.Cont w) → Prop
  | nil {g : G w} : g.insts.size = P.insts.size → K P fuse g []
  | loop {cond shift : Int} {body rest : List (Ir.Instr w)} {ks : List (Ir.Cont w)} {once : Bool}
      {g0 g2 g' : G w} :
      Em fuse body (blockStart once g0) g2 →
      Em fuse rest (blockEnd true once cond shift (subOf shift body) g0 g2) g' →
      Agree P.insts g0 g' → WfV g0 → ValSub g0.values g2.values → (shift ≠ 0 → g0.values = []) →
      K P fuse g' ks → K P fuse g2 (.loopEnd cond shift body rest :: ks)
  | ifEnd {cond shift : Int} {body rest : List (Ir.Instr w)} {ks : List (Ir.Cont w)}
      {g0 g2 g' : G w} :
      Em fuse body (blockStart false g0) g2 →
      Em fuse rest (blockEnd false false cond shift (subOf shift body) g0 g2) g' →
      Agree P.insts g0 g' → WfV g0 →
      K P fuse g' ks → K P fuse g2 (.ifEnd shift rest :: ks)

inductive R (P : Bc.Program w) (fuse : Bool) : Ir.Cfg w → Bc.Cfg w → Prop
  | run {cur : List (Ir.Instr w)} {conts : List (Ir.Cont w)} {bud : Nat} {st : State w} {pc : Nat}
      {temps : Temps w} {budget : Nat} {g g' : G w} :
      Em fuse cur g g' → pc = g.insts.size → Agree P.insts g g' → WfV g →
      Sound g.values ⟨pc, temps, budget, st⟩ → K P fuse g' conts → OnceSafe ⟨cur, conts, bud, st⟩ →
      R P fuse ⟨cur, conts, bud, st⟩ ⟨pc, temps, budget, st⟩
  | scan {cond shift : Int} {rest : List (Ir.Instr w)} {ks : List (Ir.Cont w)} {bud : Nat}
      {st : State w} {pc : Nat} {temps : Temps w} {budget : Nat} {gE g' : G w} :
      P.insts[pc]? = some (.scan cond shift) → st.rd cond ≠ 0#w →
      Em fuse rest gE g' → pc + 1 = gE.insts.size → Agree P.insts gE g' → WfV gE →
      Sound gE.values ⟨pc, temps, budget, st⟩ → (shift ≠ 0 → gE.values = []) →
      K P fuse g' ks → OnceSafe ⟨[], .loopEnd cond shift [] rest :: ks, bud, st⟩ →
      R P fuse ⟨[], .loopEnd cond shift [] rest :: ks, bud, st⟩ ⟨pc, temps, budget, st⟩

theorem Sound.congr {V : List (GvnExpr w × Nat)} {c c' : Bc.Cfg w} (h : Sound V c)
    (ht : c'.temps = c.temps) (hs : c'.st = c.st) : Sound V c' := by
  intro e t he
  have := h e t he
  rw [ht]
  rw [this]
  cases e <;> simp [den, ht, hs]

structure Layout (P : Bc.Program w) (isLoop once : Bool) (cond shift : Int) (sub : Analysis)
    (g0 g2 g' : G w) : Prop where
  agBody : Agree P.insts (blockStart once g0) g2
  agRest : Agree P.insts (blockEnd isLoop once cond shift sub g0 g2) g'
  wf1 : WfV (blockStart once g0)
  wfE : WfV g2 → WfV (blockEnd isLoop once cond shift sub g0 g2)
  le12 : (blockStart once g0).insts.size ≤ g2.insts.size
  leE : (blockEnd isLoop once cond shift sub g0 g2).insts.size ≤ g'.insts.size
  brz : once = false → P.insts[g0.insts.size]?
    = some (.brz cond (((blockEnd isLoop once cond shift sub g0 g2).insts.size : Int) - (g0.insts.size : Int)))
  mov : shift ≠ 0 → P.insts[g2.insts.size]? = some (.mov shift)
  brnz : isLoop = true → P.insts[g2.insts.size + (if shift = 0 then 0 else 1)]?
    = some (.brnz cond (((blockStart once g0).insts.size : Int)
        - ((g2.insts.size + (if shift = 0 then 0 else 1) : Nat) : Int)))

theorem layout {P : Bc.Program w} {fuse : Bool} {isLoop once : Bool} {cond shift : Int} {sub : Analysis}
    {body rest : List (Ir.Instr w)} {g0 g2 g' : G w}
    (hb : Em fuse body (blockStart once g0) g2)
    (hr : Em fuse rest (blockEnd isLoop once cond shift sub g0 g2) g')
    (hag : Agree P.insts g0 g') (hw : WfV g0) :
    Layout P isLoop once cond shift sub g0 g2 g' := by
  have hw1 : WfV (blockStart once g0) := hw.blockStart _
  obtain ⟨p12, _, _, hw2⟩ := hb.mono hw1
  have hwE := hw2.blockEnd isLoop once cond shift sub g0
  obtain ⟨pE, _, _, _⟩ := hr.mono hwE
  have h01 := blockStart_pre once g0
  have hsz1 := blockStart_size once g0
  have hszE := blockEnd_size isLoop once cond shift sub g0 g2
  have hlt : once = true ∨ g0.insts.size < g2.insts.size := by
    cases once
    · right; have := p12.1; simp at hsz1; omega
    · left; rfl
  have key : ∀ i, g0.insts.size ≤ i → i < (blockEnd isLoop once cond shift sub g0 g2).insts.size →
      P.insts[i]? = (blockEnd isLoop once cond shift sub g0 g2).insts[i]? := by
    intro i h1 h2
    rw [hag i h1 (Nat.lt_of_lt_of_le h2 pE.1)]
    exact pE.2 i h2
  refine
    { agBody := ?_, agRest := ?_, wf1 := hw1, wfE := fun h => h.blockEnd _ _ _ _ _ _, le12 := p12.1,
      leE := pE.1, brz := ?_, mov := ?_, brnz := ?_ }
  · intro i h1 h2
    rw [key i (Nat.le_trans h01.1 h1) (by omega)]
    refine blockEnd_get_lt _ _ _ _ _ _ _ h2 ?_
    cases once
    · right; simp at hsz1; omega
    · left; rfl
  · intro i h1 h2
    exact hag i (by have := p12.1; have := h01.1; omega) h2
  · intro ho
    subst ho
    have h3 : g0.insts.size < g2.insts.size := by
      rcases hlt with h | h
      · cases h
      · exact h
    rw [key _ (Nat.le_refl _) (by omega)]
    exact blockEnd_get_brz _ _ _ _ _ _ h3
  · intro hs
    rw [key _ (by have := p12.1; have := h01.1; omega) (by rw [hszE]; simp [hs]; omega)]
    exact blockEnd_get_mov _ _ _ _ _ _ _ hs hlt
  · intro hl
    subst hl
    rw [key _ (by have := p12.1; have := h01.1; omega) (by rw [hszE]; simp)]
    exact blockEnd_get_brnz _ _ _ _ _ _ hlt

/-- What is shown for every related pair: as `Sim.Chunk`, but when both machines stop they do so at
once and in the same state. -/
inductive CH (P : Bc.Program w) (fuse : Bool) (a : Ir.Cfg w) (b : Bc.Cfg w) : Prop
  | silent (a' : Ir.Cfg w) : (IrM w).step a = .next a' → R P fuse a' b → mu a' < mu a →
      a'.st.trace = a.st.trace → CH P fuse a b
  | sync (m n : Nat) (a' : Ir.Cfg w) (b' : Bc.Cfg w) : Steps (IrM w) (m + 1) a a' →
      Steps (BcM P) (n + 1) b b' → R P fuse a' b' → a'.st.trace.length ≤ a.st.trace.length + 1 →
      CH P fuse a b
  | halt (ca : Ir.Cfg w) (cb : Bc.Cfg w) : Ir.step false a = .halt ca → Bc.step P false b = .halt cb →
      cb.st = ca.st → ca.st.trace.length ≤ a.st.trace.length + 1 → CH P fuse a b
  | stop (ca : Ir.Cfg w) (cb : Bc.Cfg w) : Ir.step false a = .stop ca → Bc.step P false b = .stop cb →
      cb.st = ca.st → ca.st.trace.length ≤ a.st.trace.length + 1 → CH P fuse a b

theorem irM_halt {c c' : Ir.Cfg w} (h : Ir.step false c = .halt c') :
    (IrM w).step c = .fin true c'.st.trace := by
  rw [irM_step, h]

theorem CH.toChunk {P : Bc.Program w} {fuse : Bool} {a : Ir.Cfg w} {b : Bc.Cfg w} (h : CH P fuse a b) :
    Chunk (IrM w) (BcM P) (R P fuse) mu a b := by
  cases h with
  | silent a' h1 h2 h3 h4 => exact Chunk.silent a' h1 h2 h3 h4
  | sync m n a' b' h1 h2 h3 h4 => exact Chunk.sync m n a' b' h1 h2 h3 h4
  | halt ca cb h1 h2 h3 h4 =>
    refine Chunk.fin 0 0 true ca.st.trace ⟨_, Steps.refl (M := IrM w) _, irM_halt h1⟩
      ⟨_, Steps.refl (M := BcM P) _, ?_⟩ h4
    simp only [BcM, h2, h3]
  | stop ca cb h1 h2 h3 h4 =>
    refine Chunk.fin 0 0 false ca.st.trace ⟨_, Steps.refl (M := IrM w) _, irM_stop h1⟩
      ⟨_, Steps.refl (M := BcM P) _, ?_⟩ h4
    simp only [BcM, h2, h3]

theorem sound_after_mov {V V' : List (GvnExpr w × Nat)} {pc pc' : Nat} {temps : Temps w}
    {budget : Nat} {st : State w} {shift : Int} (h : Sound V ⟨pc, temps, budget, st⟩)
    (hsub : ValSub V' V) (hnil : shift ≠ 0 → V' = []) :
    Sound V' ⟨pc', temps, budget, st.mov shift⟩ := by
  by_cases hs : shift = 0
  · subst hs
    rw [C01.mov_zero]
    exact (h.sub hsub).congr rfl rfl
  · rw [hnil hs]; exact sound_nil _

theorem mov_steps {P : Bc.Program w} {shift : Int} {pc : Nat} {temps : Temps w} {budget : Nat}
    {st : State w} (hmov : shift ≠ 0 → P.insts[pc]? = some (.mov shift)) :
    Steps (BcM P) (if shift = 0 then 0 else 1) ⟨pc, temps, budget, st⟩
      ⟨pc + (if shift = 0 then 0 else 1), temps, budget, st.mov shift⟩ := by
  by_cases hs : shift = 0
  · subst hs
    simp only [if_true, Nat.add_zero, C01.mov_zero]
    exact Steps.refl (M := BcM P) _
  · simp only [hs, if_false]
    exact Steps.one (step_mov (c := ⟨pc, temps, budget, st⟩) (hmov hs))

theorem chunk_halt {P : Bc.Program w} {fuse : Bool} {bud : Nat} {st : State w} {pc : Nat}
    {temps : Temps w} {budget : Nat} (hpc : pc = P.insts.size) :
    CH P fuse ⟨[], [], bud, st⟩ ⟨pc, temps, budget, st⟩ :=
  CH.halt _ _ rfl (raw_halt (c := ⟨pc, temps, budget, st⟩) hpc) rfl (by simp)

theorem chunk_loopEnd {P : Bc.Program w} {fuse : Bool} {cond shift : Int} {body rest : List (Ir.Instr w)}
    {ks : List (Ir.Cont w)} {once : Bool} {g0 g2 g' : G w} {bud : Nat} {st : State w}
    {temps : Temps w} {budget : Nat}
    (hb : Em fuse body (blockStart once g0) g2)
    (hr : Em fuse rest (blockEnd true once cond shift (subOf shift body) g0 g2) g')
    (hag : Agree P.insts g0 g') (hw0 : WfV g0) (hA : ValSub g0.values g2.values)
    (hS : shift ≠ 0 → g0.values = []) (hK : K P fuse g' ks) (hw2 : WfV g2)
    (hs : Sound g2.values ⟨g2.insts.size, temps, budget, st⟩)
    (hos : OnceSafe ⟨[], .loopEnd cond shift body rest :: ks, bud, st⟩) :
    CH P fuse ⟨[], .loopEnd cond shift body rest :: ks, bud, st⟩ ⟨g2.insts.size, temps, budget, st⟩ := by
  have L := layout hb hr hag hw0
  have hm := mov_steps (P := P) (temps := temps) (budget := budget) (st := st) L.mov
  have hbr := L.brnz rfl
  have hszE := blockEnd_size true once cond shift (subOf shift body) g0 g2
  simp only [if_true] at hszE
  by_cases hz : (st.mov shift).rd cond = 0#w
  · have hi := ir_loopEnd_exit (rest := rest) (ks := ks) (bud := bud) (body := body) hz
    have hst := step_brnz_not (p := P)
      (c := ⟨g2.insts.size + (if shift = 0 then 0 else 1), temps, budget, st.mov shift⟩) hbr hz
    refine CH.sync 0 _ _ _ (Steps.one hi) (hm.snoc hst) ?_ (by simp [State.mov])
    refine R.run hr (by rw [hszE]) L.agRest (L.wfE hw2) ?_ hK (hos.step hi)
    refine sound_after_mov hs ?_ ?_
    · rw [blockEnd_values]; exact exitVals_sub hw2.nodup _ _ _ _
    · intro h0; rw [blockEnd_values]; exact exitVals_shift (subOf_shift body h0) _ _ _ _
  · have hi := ir_loopEnd_again (rest := rest) (ks := ks) (bud := bud) (body := body) hz
    have hq : g2.insts.size + (if shift = 0 then 0 else 1) < P.insts.size := (Array.getElem?_eq_some_iff.1 hbr).1
    have hst := step_brnz_taken (p := P)
      (c := ⟨g2.insts.size + (if shift = 0 then 0 else 1), temps, budget, st.mov shift⟩)
      (t := (blockStart once g0).insts.size) hbr hz (by simp only; omega)
      (by have := L.le12; omega)
    refine CH.sync 0 _ _ _ (Steps.one hi) (hm.snoc hst) ?_ (by simp [State.mov])
    refine R.run hb rfl L.agBody L.wf1 ?_ (K.loop hb hr hag hw0 hA hS hK) (hos.step hi)
    refine sound_after_mov hs ?_ ?_
    · rw [blockStart_values]; exact hA
    · intro h0; rw [blockStart_values]; exact hS h0

theorem chunk_ifEnd {P : Bc.Program w} {fuse : Bool} {cond shift : Int} {body rest : List (Ir.Instr w)}
    {ks : List (Ir.Cont w)} {g0 g2 g' : G w} {bud : Nat} {st : State w}
    {temps : Temps w} {budget : Nat}
    (hb : Em fuse body (blockStart false g0) g2)
    (hr : Em fuse rest (blockEnd false false cond shift (subOf shift body) g0 g2) g')
    (hag : Agree P.insts g0 g') (hw0 : WfV g0) (hK : K P fuse g' ks) (hw2 : WfV g2)
    (hs : Sound g2.values ⟨g2.insts.size, temps, budget, st⟩)
    (hos : OnceSafe ⟨[], .ifEnd shift rest :: ks, bud, st⟩) :
    CH P fuse ⟨[], .ifEnd shift rest :: ks, bud, st⟩ ⟨g2.insts.size, temps, budget, st⟩ := by
  have L := layout hb hr hag hw0
  have hszE := blockEnd_size false false cond shift (subOf shift body) g0 g2
  simp only [Bool.false_eq_true, if_false, Nat.add_zero] at hszE
  have hi := ir_ifEnd (rest := rest) (ks := ks) (bud := bud) (st := st) (shift := shift)
  have hR : ∀ pc', pc' = (blockEnd false false cond shift (subOf shift body) g0 g2).insts.size →
      R P fuse ⟨rest, ks, bud, st.mov shift⟩ ⟨pc', temps, budget, st.mov shift⟩ := by
    intro pc' hpc
    refine R.run hr hpc L.agRest (L.wfE hw2) ?_ hK (hos.step hi)
    refine sound_after_mov hs ?_ ?_
    · rw [blockEnd_values]; exact exitVals_sub hw2.nodup _ _ _ _
    · intro h0; rw [blockEnd_values]; exact exitVals_shift (subOf_shift body h0) _ _ _ _
  by_cases h0 : shift = 0
  · subst h0
    have hR' := hR g2.insts.size (by rw [hszE]; simp)
    rw [C01.mov_zero] at hR' hi
    exact CH.silent _ hi hR' (by simp [mu, contsz]; omega) rfl
  · have hst := step_mov (p := P) (c := ⟨g2.insts.size, temps, budget, st⟩) (L.mov h0)
    refine CH.sync 0 0 _ _ (Steps.one hi) (Steps.one hst) (hR _ (by rw [hszE]; simp [h0]))
      (by simp [State.mov])

theorem Agree.of_le {P : Array (Bc.Instr w)} {g g1 g' : G w} (h : Agree P g g')
    (hle : g.insts.size ≤ g1.insts.size) : Agree P g1 g' :=
  fun i h1 h2 => h i (Nat.le_trans hle h1) h2

theorem Agree.get {P : Array (Bc.Instr w)} {g g1 g' : G w} (h : Agree P g g')
    (hp : Pre g1.insts g'.insts) {i : Nat} (h1 : g.insts.size ≤ i) (h2 : i < g1.insts.size) :
    P[i]? = g1.insts[i]? := by
  rw [h i h1 (Nat.lt_of_lt_of_le h2 hp.1)]
  exact hp.2 i h2

theorem Agree.mid {P : Array (Bc.Instr w)} {g g1 g' : G w} (h : Agree P g g')
    (hp : Pre g1.insts g'.insts) : Agree P g g1 :=
  fun _ h1 h2 => h.get hp h1 h2

theorem sound_output {V : List (GvnExpr w × Nat)} {pc pc' : Nat} {temps : Temps w} {budget : Nat}
    {st : State w} (h : Sound V ⟨pc, temps, budget, st⟩) (src : Int) :
    Sound V ⟨pc', temps, budget, (st.output src).2⟩ := by
  intro e t he
  rw [h e t he]
  cases e <;> simp [den, C01.output_rd]

theorem sound_input {V : List (GvnExpr w × Nat)} (hn : (keys V).Nodup) {pc pc' : Nat}
    {temps : Temps w} {budget : Nat} {st : State w} (h : Sound V ⟨pc, temps, budget, st⟩) (dst : Int) :
    Sound (alErase V (.mem dst)) ⟨pc', temps, budget, (st.input dst).2⟩ := by
  intro e t he
  rw [alGet_alErase V _ e hn] at he
  split at he
  · cases he
  · rename_i hne
    rw [h e t he]
    cases e with
    | mem v =>
      have : v ≠ dst := fun e' => hne (by rw [e'])
      simp [den, C01.input_rd _ _ _ this]
    | _ => rfl

theorem chunk_output {P : Bc.Program w} {fuse : Bool} {src : Int} {rest : List (Ir.Instr w)}
    {ks : List (Ir.Cont w)} {g g' : G w} {bud : Nat} {st : State w} {temps : Temps w} {budget : Nat}
    (hr : Em fuse rest (g.push (.out src)) g') (hag : Agree P.insts g g') (hw : WfV g)
    (hs : Sound g.values ⟨g.insts.size, temps, budget, st⟩) (hK : K P fuse g' ks)
    (hos : OnceSafe ⟨.output src :: rest, ks, bud, st⟩) :
    CH P fuse ⟨.output src :: rest, ks, bud, st⟩ ⟨g.insts.size, temps, budget, st⟩ := by
  obtain ⟨pr, _, _, _⟩ := hr.mono (hw.push _)
  have hi : P.insts[g.insts.size]? = some (.out src) := by
    rw [hag.get pr (Nat.le_refl _) (by simp [G.push])]
    simp [G.push]
  cases ho : (st.output src).1 with
  | true =>
    have h1 := ir_output_ok (rest := rest) (ks := ks) (bud := bud) ho
    have h2 := step_out_ok (p := P) (c := ⟨g.insts.size, temps, budget, st⟩) hi ho
    refine CH.sync 0 0 _ _ (Steps.one h1) (Steps.one h2) ?_ (C01.output_trace_len st src)
    exact R.run hr (by simp [G.push]) (hag.of_le (by simp [G.push])) (hw.push _)
      (sound_output hs src) hK (hos.step h1)
  | false =>
    have h1 := raw_ir_output_fail (rest := rest) (ks := ks) (bud := bud) ho
    have h2 := raw_out_fail (p := P) (c := ⟨g.insts.size, temps, budget, st⟩) hi ho
    exact CH.stop _ _ h1 h2 rfl (C01.output_trace_len st src)

theorem chunk_input {P : Bc.Program w} {fuse : Bool} {dst : Int} {rest : List (Ir.Instr w)}
    {ks : List (Ir.Cont w)} {g g' : G w} {bud : Nat} {st : State w} {temps : Temps w} {budget : Nat}
    (hr : Em fuse rest { g.push (.inp dst) with values := alErase g.values (.mem dst) } g')
    (hag : Agree P.insts g g') (hw : WfV g)
    (hs : Sound g.values ⟨g.insts.size, temps, budget, st⟩) (hK : K P fuse g' ks)
    (hos : OnceSafe ⟨.input dst :: rest, ks, bud, st⟩) :
    CH P fuse ⟨.input dst :: rest, ks, bud, st⟩ ⟨g.insts.size, temps, budget, st⟩ := by
  obtain ⟨pr, _, _, _⟩ := hr.mono (hw.input _)
  have hi : P.insts[g.insts.size]? = some (.inp dst) := by
    rw [hag.get pr (Nat.le_refl _) (by simp [G.push])]
    simp [G.push]
  cases ho : (st.input dst).1 with
  | true =>
    have h1 := ir_input_ok (rest := rest) (ks := ks) (bud := bud) ho
    have h2 := step_inp_ok (p := P) (c := ⟨g.insts.size, temps, budget, st⟩) hi ho
    refine CH.sync 0 0 _ _ (Steps.one h1) (Steps.one h2) ?_ (C01.input_trace_len st dst)
    exact R.run hr (by simp [G.push]) (hag.of_le (by simp [G.push])) (hw.input _)
      (sound_input hw.nodup hs dst) hK (hos.step h1)
  | false =>
    have h1 := raw_ir_input_fail (rest := rest) (ks := ks) (bud := bud) ho
    have h2 := raw_inp_fail (p := P) (c := ⟨g.insts.size, temps, budget, st⟩) hi ho
    exact CH.stop _ _ h1 h2 rfl (C01.input_trace_len st dst)

theorem steps_zero {M : Mach} {a b : M.C} (h : Steps M 0 a b) : a = b := by
  generalize hn : 0 = n at h
  cases h with
  | refl => rfl
  | cons _ _ => cases hn

theorem chunk_calc {P : Bc.Program w} {fuse : Bool} {calcs : List (Int × Expr w)}
    {rest : List (Ir.Instr w)} {ks : List (Ir.Cont w)} {g g1 g' : G w} {bud : Nat} {st : State w}
    {temps : Temps w} {budget : Nat}
    (hseg : WfV g → Seg (calcs.map (·.1)) (fun st => Ir.doCalc st calcs) g g1)
    (hr : Em fuse rest g1 g') (hag : Agree P.insts g g') (hw : WfV g)
    (hs : Sound g.values ⟨g.insts.size, temps, budget, st⟩) (hK : K P fuse g' ks)
    (hos : OnceSafe ⟨.calc calcs :: rest, ks, bud, st⟩) :
    CH P fuse ⟨.calc calcs :: rest, ks, bud, st⟩ ⟨g.insts.size, temps, budget, st⟩ := by
  have sg := hseg hw
  obtain ⟨pr, _, _, _⟩ := hr.mono (sg.wf hw)
  obtain ⟨c', hst, hpc, hst', hsd⟩ := sg.sem P ⟨g.insts.size, temps, budget, st⟩ (hag.mid pr) rfl hw hs
  obtain ⟨pc', temps', budget', st'⟩ := c'
  simp only at hpc hst'
  subst hpc hst'
  have h1 := ir_calc (rest := rest) (ks := ks) (bud := bud) (st := st) (calcs := calcs)
  have hR : R P fuse ⟨rest, ks, bud, Ir.doCalc st calcs⟩ ⟨g1.insts.size, temps', budget', Ir.doCalc st calcs⟩ :=
    R.run hr rfl (hag.of_le sg.ext.1) (sg.wf hw) hsd hK (hos.step h1)
  have htr : (Ir.doCalc st calcs).trace = st.trace := C01.doCalc_trace st calcs
  cases hk : g1.insts.size - g.insts.size with
  | zero =>
    rw [hk] at hst
    have e := steps_zero hst
    have e1 : g.insts.size = g1.insts.size := congrArg Bc.Cfg.pc e
    have e2 : temps = temps' := congrArg Bc.Cfg.temps e
    have e3 : budget = budget' := congrArg Bc.Cfg.budget e
    have e4 : st = Ir.doCalc st calcs := congrArg Bc.Cfg.st e
    rw [← e1, ← e2, ← e3] at hR
    rw [← e4] at hR h1
    exact CH.silent _ h1 hR (by simp [mu, iszL, isz]) rfl
  | succ k =>
    rw [hk] at hst
    exact CH.sync 0 k _ _ (Steps.one h1) hst hR (by simp [htr])

theorem K.size_le {P : Bc.Program w} {fuse : Bool} {g : G w} {ks : List (Ir.Cont w)} (h : K P fuse g ks) :
    g.insts.size ≤ P.insts.size := by
  induction h with
  | nil h => exact Nat.le_of_eq h
  | @loop cond shift body rest ks once g0 g2 g' hb hr hag hw0 _ _ _ ih =>
    have L := layout hb hr hag hw0
    have := blockEnd_size true once cond shift (subOf shift body) g0 g2
    have := L.leE
    omega
  | @ifEnd cond shift body rest ks g0 g2 g' hb hr hag hw0 _ ih =>
    have L := layout hb hr hag hw0
    have := blockEnd_size false false cond shift (subOf shift body) g0 g2
    have := L.leE
    omega

theorem chunk_scan_enter {P : Bc.Program w} {fuse : Bool} {cond shift : Int} {once : Bool}
    {rest : List (Ir.Instr w)} {ks : List (Ir.Cont w)} {g g' : G w} {bud : Nat} {st : State w}
    {temps : Temps w} {budget : Nat}
    (hr : Em fuse rest (scanEnd cond shift (subOf shift ([] : List (Ir.Instr w))) once g) g')
    (hag : Agree P.insts g g') (hw : WfV g)
    (hs : Sound g.values ⟨g.insts.size, temps, budget, st⟩) (hK : K P fuse g' ks)
    (hos : OnceSafe ⟨.loop cond shift [] once :: rest, ks, bud, st⟩) :
    CH P fuse ⟨.loop cond shift [] once :: rest, ks, bud, st⟩ ⟨g.insts.size, temps, budget, st⟩ := by
  have hwE := hw.scanEnd cond shift (subOf shift ([] : List (Ir.Instr w))) once
  obtain ⟨pr, _, _, _⟩ := hr.mono hwE
  have hi : P.insts[g.insts.size]? = some (.scan cond shift) := by
    rw [hag.get pr (Nat.le_refl _) (by simp)]
    simp
  have hsE : Sound (scanEnd cond shift (subOf shift ([] : List (Ir.Instr w))) once g).values
      ⟨g.insts.size, temps, budget, st⟩ := hs.sub (scanEnd_sub hw _ _ _ _)
  by_cases hz : st.rd cond = 0#w
  · have h1 := ir_loop_skip (rest := rest) (ks := ks) (bud := bud) (shift := shift) (body := [])
      (once := once) hz
    have h2 := step_scan_zero (p := P) (c := ⟨g.insts.size, temps, budget, st⟩) hi hz
    refine CH.sync 0 0 _ _ (Steps.one h1) (Steps.one h2) ?_ (by simp)
    exact R.run hr (by simp) (hag.of_le (by simp)) hwE (hsE.congr rfl rfl) hK (hos.step h1)
  · have h1 := ir_loop_enter (rest := rest) (ks := ks) (bud := bud) (shift := shift) (body := [])
      (once := once) hz
    refine CH.silent _ h1 ?_ (by simp [mu, iszL, isz, contsz]) rfl
    refine R.scan hi hz hr (by simp) (hag.of_le (by simp)) hwE hsE ?_ hK (hos.step h1)
    intro h0
    rw [scanEnd_values]
    exact exitVals_shift (subOf_shift _ h0) _ _ _ _

theorem chunk_scan_inside {P : Bc.Program w} {fuse : Bool} {cond shift : Int}
    {rest : List (Ir.Instr w)} {ks : List (Ir.Cont w)} {gE g' : G w} {bud : Nat} {st : State w} {pc : Nat}
    {temps : Temps w} {budget : Nat}
    (hi : P.insts[pc]? = some (.scan cond shift)) (hnz : st.rd cond ≠ 0#w)
    (hr : Em fuse rest gE g') (hpc : pc + 1 = gE.insts.size) (hag : Agree P.insts gE g') (hwE : WfV gE)
    (hs : Sound gE.values ⟨pc, temps, budget, st⟩) (hnil : shift ≠ 0 → gE.values = [])
    (hK : K P fuse g' ks) (hos : OnceSafe ⟨[], .loopEnd cond shift [] rest :: ks, bud, st⟩) :
    CH P fuse ⟨[], .loopEnd cond shift [] rest :: ks, bud, st⟩ ⟨pc, temps, budget, st⟩ := by
  have h2 := step_scan_move (p := P) (c := ⟨pc, temps, budget, st⟩) hi hnz
  have hs' : Sound gE.values ⟨pc, temps, budget, st.mov shift⟩ :=
    sound_after_mov hs (ValSub.refl _) hnil
  by_cases hz : (st.mov shift).rd cond = 0#w
  · have h1 := ir_loopEnd_exit (rest := rest) (ks := ks) (bud := bud) (body := []) hz
    have h3 := step_scan_zero (p := P) (c := ⟨pc, temps, budget, st.mov shift⟩) hi hz
    refine CH.sync 0 1 _ _ (Steps.one h1) ((Steps.one h2).snoc h3) ?_ (by simp [State.mov])
    exact R.run hr hpc hag hwE (hs'.congr rfl rfl) hK (hos.step h1)
  · have h1 := ir_loopEnd_again (rest := rest) (ks := ks) (bud := bud) (body := []) hz
    refine CH.sync 0 0 _ _ (Steps.one h1) (Steps.one h2) ?_ (by simp [State.mov])
    exact R.scan hi hz hr hpc hag hwE hs' hnil hK (hos.step h1)

theorem chunk_loop {P : Bc.Program w} {fuse : Bool} {cond shift : Int} {body : List (Ir.Instr w)}
    {once : Bool} {rest : List (Ir.Instr w)} {ks : List (Ir.Cont w)} {g g2 g' : G w} {bud : Nat}
    {st : State w} {temps : Temps w} {budget : Nat}
    (hb : Em fuse body (blockStart once (headG true (subOf shift body) g)) g2)
    (hr : Em fuse rest (blockEnd true once cond shift (subOf shift body) (headG true (subOf shift body) g) g2) g')
    (hag : Agree P.insts g g') (hw : WfV g)
    (hs : Sound g.values ⟨g.insts.size, temps, budget, st⟩) (hK : K P fuse g' ks)
    (hos : OnceSafe ⟨.loop cond shift body once :: rest, ks, bud, st⟩) :
    CH P fuse ⟨.loop cond shift body once :: rest, ks, bud, st⟩ ⟨g.insts.size, temps, budget, st⟩ := by
  have hw0 : WfV (headG true (subOf shift body) g) := hw.headG true _
  have hag0 : Agree P.insts (headG true (subOf shift body) g) g' := hag
  have L := layout hb hr hag0 hw0
  have hA := head_sub_end hb hw
  have hS : shift ≠ 0 → (headG true (subOf shift body) g).values = [] := fun h0 => by
    rw [headG_values_true]; exact headVals_shift (subOf_shift body h0) _
  have hK' := K.loop hb hr hag0 hw0 hA hS hK
  have hs0 : Sound (headG true (subOf shift body) g).values ⟨g.insts.size, temps, budget, st⟩ :=
    hs.sub (by rw [headG_values_true]; exact headVals_sub hw.nodup _)
  cases once with
  | true =>
    have hz : st.rd cond ≠ 0#w := hos.here cond shift body rest rfl
    have h1 := ir_loop_enter (rest := rest) (ks := ks) (bud := bud) (shift := shift) (body := body)
      (once := true) hz
    refine CH.silent _ h1 ?_ (by simp [mu, iszL, isz, contsz]; omega) rfl
    exact R.run hb (by simp [blockStart]) L.agBody L.wf1 (by rw [blockStart_values]; exact hs0) hK'
      (hos.step h1)
  | false =>
    have hbrz := L.brz rfl
    simp only [headG_insts] at hbrz
    obtain ⟨_, _, _, hw2⟩ := hb.mono L.wf1
    by_cases hz : st.rd cond = 0#w
    · have h1 := ir_loop_skip (rest := rest) (ks := ks) (bud := bud) (shift := shift) (body := body)
        (once := false) hz
      have hle := Nat.le_trans L.leE hK.size_le
      have h2 := step_brz_taken (p := P) (c := ⟨g.insts.size, temps, budget, st⟩)
        (t := (blockEnd true false cond shift (subOf shift body) (headG true (subOf shift body) g) g2).insts.size)
        hbrz hz (by simp only; omega) hle
      refine CH.sync 0 0 _ _ (Steps.one h1) (Steps.one h2) ?_ (by simp)
      refine R.run hr rfl L.agRest (L.wfE hw2) ?_ hK (hos.step h1)
      refine (hs0.sub ?_).congr rfl rfl
      rw [blockEnd_values]
      exact exit_sub_head hb hw0
    · have h1 := ir_loop_enter (rest := rest) (ks := ks) (bud := bud) (shift := shift) (body := body)
        (once := false) hz
      have h2 := step_brz_not (p := P) (c := ⟨g.insts.size, temps, budget, st⟩) hbrz hz
      refine CH.sync 0 0 _ _ (Steps.one h1) (Steps.one h2) ?_ (by simp)
      exact R.run hb (by simp [blockStart, G.push]) L.agBody L.wf1
        (by rw [blockStart_values]; exact hs0.congr rfl rfl) hK' (hos.step h1)

theorem chunk_ifnz {P : Bc.Program w} {fuse : Bool} {cond shift : Int} {body : List (Ir.Instr w)}
    {rest : List (Ir.Instr w)} {ks : List (Ir.Cont w)} {g g2 g' : G w} {bud : Nat}
    {st : State w} {temps : Temps w} {budget : Nat}
    (hb : Em fuse body (blockStart false g) g2)
    (hr : Em fuse rest (blockEnd false false cond shift (subOf shift body) g g2) g')
    (hag : Agree P.insts g g') (hw : WfV g)
    (hs : Sound g.values ⟨g.insts.size, temps, budget, st⟩) (hK : K P fuse g' ks)
    (hos : OnceSafe ⟨.ifnz cond shift body :: rest, ks, bud, st⟩) :
    CH P fuse ⟨.ifnz cond shift body :: rest, ks, bud, st⟩ ⟨g.insts.size, temps, budget, st⟩ := by
  have L := layout hb hr hag hw
  have hbrz := L.brz rfl
  obtain ⟨_, _, _, hw2⟩ := hb.mono L.wf1
  by_cases hz : st.rd cond = 0#w
  · have h1 := ir_if_skip (rest := rest) (ks := ks) (bud := bud) (shift := shift) (body := body) hz
    have hle := Nat.le_trans L.leE hK.size_le
    have h2 := step_brz_taken (p := P) (c := ⟨g.insts.size, temps, budget, st⟩)
      (t := (blockEnd false false cond shift (subOf shift body) g g2).insts.size)
      hbrz hz (by simp only; omega) hle
    refine CH.sync 0 0 _ _ (Steps.one h1) (Steps.one h2) ?_ (by simp)
    refine R.run hr rfl L.agRest (L.wfE hw2) ?_ hK (hos.step h1)
    refine (hs.sub ?_).congr rfl rfl
    rw [blockEnd_values]
    exact exit_sub_head hb hw
  · have h1 := ir_if_enter (rest := rest) (ks := ks) (bud := bud) (shift := shift) (body := body) hz
    have h2 := step_brz_not (p := P) (c := ⟨g.insts.size, temps, budget, st⟩) hbrz hz
    refine CH.sync 0 0 _ _ (Steps.one h1) (Steps.one h2) ?_ (by simp)
    exact R.run hb (by simp [blockStart, G.push]) L.agBody L.wf1
      (by rw [blockStart_values]; exact hs.congr rfl rfl) (K.ifEnd hb hr hag hw hK) (hos.step h1)

theorem chunk {P : Bc.Program w} {fuse : Bool} {a : Ir.Cfg w} {b : Bc.Cfg w} (h : R P fuse a b) :
    CH P fuse a b := by
  cases h with
  | @run cur conts bud st pc temps budget g g' hem hpc hag hw hs hK hos =>
    subst hpc
    cases hem with
    | nil =>
      cases hK with
      | nil hsz => exact chunk_halt hsz
      | loop hb hr hag' hw0 hA hS hK' => exact chunk_loopEnd hb hr hag' hw0 hA hS hK' hw hs hos
      | ifEnd hb hr hag' hw0 hK' => exact chunk_ifEnd hb hr hag' hw0 hK' hw hs hos
    | output hr => exact chunk_output hr hag hw hs hK hos
    | input hr => exact chunk_input hr hag hw hs hK hos
    | «calc» hseg hr => exact chunk_calc hseg hr hag hw hs hK hos
    | scan _ hr => exact chunk_scan_enter hr hag hw hs hK hos
    | loop _ hb hr => exact chunk_loop hb hr hag hw hs hK hos
    | ifnz hb hr => exact chunk_ifnz hb hr hag hw hs hK hos
  | scan hi hnz hr hpc hag hwE hs hnil hK hos =>
    exact chunk_scan_inside hi hnz hr hpc hag hwE hs hnil hK hos

theorem tr_eq_of_R {P : Bc.Program w} {fuse : Bool} {a : Ir.Cfg w} {b : Bc.Cfg w} (h : R P fuse a b) :
    (IrM w).tr a = (BcM P).tr b := by
  cases h <;> rfl

theorem simulation (P : Bc.Program w) (fuse : Bool) : Simulation (IrM w) (BcM P) (R P fuse) mu where
  monoA := C01.mono_IrM
  monoB := mono_BcM P
  tr_eq := tr_eq_of_R
  chunk := fun h => (chunk h).toChunk

end C02Emit
end Hpbf
