/-
C02 / C13 (`allocate_temps` is total): `dead_store_elim` keeps the counting invariant and never removes the
definition of a temporary that is still read (`DInv`, `deadStoreElim_dinv`).
-/
import Hpbf.Proofs.C02AllocTotalCount
import Hpbf.Proofs.C02AllocDse
import Hpbf.Proofs.C02AllocStep
set_option linter.unusedSimpArgs false

namespace Hpbf
namespace C02
namespace AEmit

open Bc BcWf BcGen C11 Alloc

variable {w : Nat}

def DefUse (s : St w) : Prop :=
  ∀ (j : Nat) (x : Instr w) (t : Nat), s.insts[j]? = some x → t ∈ BcWf.uses x →
    ∃ (r : RangeInfo) (y : Instr w), s.ranges[t]? = some r ∧ s.insts[r.created]? = some y ∧ dstTmp? y = some t

def DefsU (s : St w) : Prop :=
  ∀ (i : Nat) (x : Instr w) (t : Nat), s.insts[i]? = some x → dstTmp? x = some t →
    ∃ r : RangeInfo, s.ranges[t]? = some r ∧ r.created = i

structure DInv (s : St w) : Prop where
  count : CountInv s
  defUse : DefUse s
  defsU : DefsU s

theorem dinv_kill {s : St w} {i : Nat} {inst : Instr w} {srcs : List (Loc w)} {rs : Array RangeInfo}
    (h : DInv s) (hi : s.insts[i]? = some inst) (hf : srcs.foldlM decUse s.ranges = .ok rs)
    (hu : ∀ t, (BcWf.uses inst).count t = (srcs.flatMap locTmp).count t)
    (hd : ∀ t, dstTmp? inst = some t → ∃ r : RangeInfo, s.ranges[t]? = some r ∧ r.numUses = 0) :
    DInv { s with ranges := rs, insts := s.insts.setIfInBounds i .noop } := by
  have hocc : ∀ t, occ t (s.insts.setIfInBounds i .noop) + (BcWf.uses inst).count t = occ t s.insts :=
    fun t => occ_set t hi .noop
  have hsr := foldlM_decUse_sameRange srcs hf
  -- the counts cover the occurrences, so the decrements are exact (`dse_decUses_spec`)
  obtain ⟨rs', e1, _, hnum⟩ := dse_decUses_spec srcs s.ranges (fun t => by
    rw [← hu t]
    cases hr : s.ranges[t]? with
    | none =>
      have : t ∉ BcWf.uses inst := fun hm => by
        obtain ⟨r, _, g1, _⟩ := h.defUse i inst t hi hm
        rw [hr] at g1; cases g1
      rw [List.count_eq_zero_of_not_mem this]; exact Nat.zero_le _
    | some r =>
      have := h.count t r hr
      have := hocc t
      simp only [dseNuse, hr]
      omega)
  rw [hf] at e1; cases e1
  refine ⟨?_, ?_, ?_⟩
  · intro t r' hr'
    rcases hsr t with ⟨e, _⟩ | ⟨r, r1, g1, g2, _⟩
    · rw [hr'] at e; cases e
    · have := hnum t
      simp only [dseNuse, g1, hr'] at this
      have := h.count t r g1
      have := hocc t
      have := hu t
      show occ t (s.insts.setIfInBounds i .noop) ≤ r'.numUses
      omega
  · intro j x t hx ht
    rcases dse_getElem?_set_noop hx with rfl | ⟨hji, hx'⟩
    · cases ht
    · obtain ⟨r, y, g1, g2, g3⟩ := h.defUse j x t hx' ht
      rcases hsr t with ⟨_, e⟩ | ⟨r0, r1, e1, e2, e3⟩
      · rw [g1] at e; cases e
      · rw [g1] at e1; cases e1
        refine ⟨r1, y, e2, ?_, g3⟩
        rw [e3.1]
        show (s.insts.setIfInBounds i .noop)[r.created]? = some y
        by_cases e : i = r.created
        · exfalso
          rw [← e, hi] at g2
          cases g2
          obtain ⟨rd, q1, q2⟩ := hd t g3
          rw [g1] at q1; cases q1
          have hc := h.count t r g1
          rw [q2] at hc
          exact not_mem_of_occ_zero (Nat.le_zero.1 hc) hx' ht
        · rw [Array.getElem?_setIfInBounds_ne e]; exact g2
  · intro j x t hx hdt
    rcases dse_getElem?_set_noop hx with rfl | ⟨_, hx'⟩
    · cases hdt
    · obtain ⟨r, g1, g2⟩ := h.defsU j x t hx' hdt
      rcases hsr t with ⟨_, e⟩ | ⟨r0, r1, e1, e2, e3⟩
      · rw [g1] at e; cases e
      · rw [g1] at e1; cases e1
        exact ⟨r1, e2, by rw [e3.1]; exact g2⟩

theorem dseStep_dinv {i : Nat} {s s' : St w} {dead dead' : List Int} (hI : DInv s)
    (h : dseStep i s dead = .ok (s', dead')) : DInv s' := by
  rcases dseStep_cases h with rfl | ⟨inst, srcs, rs, hi, _, hu, hd, hf, rfl⟩
  · exact hI
  · exact dinv_kill hI hi hf hu hd

theorem deadStoreElim_dinv {s s' : St w} (hI : DInv s) (h : deadStoreElim s = .ok s') : DInv s' :=
  dseLoop_induct (fun _ _ _ _ _ hP hs => dseStep_dinv hP hs) _ hI h

theorem dinv_of_emit {prog : Ir.Block w} {fuse : Bool} {s : St w} (h : emitState prog fuse = .ok s) : DInv s := by
  have hl := linv_of_emit h
  have hx := xinv_of_emit h
  refine ⟨countInv_of_emit h, ?_, ?_⟩
  · intro j x t hj ht
    obtain ⟨r, L, f, g1, _⟩ := hl.uses j x t hj ht
    obtain ⟨y, hy, hd⟩ := hx.defAt t r g1
    exact ⟨r, y, g1, hy, hd⟩
  · intro i x t hi hd
    exact hl.defs i x t hi (mem_defs_of_dstTmp? hd)

end AEmit
end C02
end Hpbf
