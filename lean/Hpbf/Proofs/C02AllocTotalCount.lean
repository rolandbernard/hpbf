/-
C02 / C13 (`allocate_temps` is total): use counts.  In the code produced by the emission the recorded use count of a
temporary is at least the number of its occurrences as a source operand (`CountInv`; this is `dsePre_of_emit` of
`C02DseEmit`).  `XInv` is the `Closed` predicate of the emission that gives the rest: every range entry has its
defining instruction at the `created` position (`DefAtP`), first and last use are recorded together (`FL`).
-/
import Hpbf.Proofs.C02AllocEmitR
import Hpbf.Proofs.C02DseEmit
set_option linter.unusedSimpArgs false

namespace Hpbf
namespace C02
namespace AEmit

open Bc BcWf BcGen C11 C02Emit

variable {w : Nat}

/-- Number of source operands `tmp t` in the code. -/
def occ (t : Nat) (insts : Array (Instr w)) : Nat := (insts.toList.map (fun x => (BcWf.uses x).count t)).sum

/-! `occ t insts` is `dseUseCount insts t` of `C02DsePass`; its lemmas in the form used here. -/

theorem occ_set (t : Nat) {insts : Array (Instr w)} {i : Nat} {x : Instr w} (hi : insts[i]? = some x)
    (y : Instr w) :
    occ t (insts.setIfInBounds i y) + (BcWf.uses x).count t = occ t insts + (BcWf.uses y).count t := by
  obtain ⟨hlt, hx⟩ := Array.getElem?_eq_some_iff.1 hi
  have := dse_useCount_set insts i y t hlt
  rw [hx] at this
  exact this

theorem not_mem_of_occ_zero {t : Nat} {insts : Array (Instr w)} (h : occ t insts = 0) {j : Nat} {x : Instr w}
    (hx : insts[j]? = some x) : t ∉ BcWf.uses x :=
  dse_not_uses_of_useCount_zero h (Array.mem_of_getElem? hx)

def CountInv (s : St w) : Prop :=
  ∀ (t : Nat) (r : RangeInfo), s.ranges[t]? = some r → occ t s.insts ≤ r.numUses

def DefAtP (s : St w) : Prop :=
  ∀ (t : Nat) (r : RangeInfo), s.ranges[t]? = some r →
    ∃ y, s.insts[r.created]? = some y ∧ dstTmp? y = some t

/-- First and last use are recorded together, in this order. -/
def FL (s : St w) : Prop :=
  ∀ (t : Nat) (r : RangeInfo), s.ranges[t]? = some r →
    (∀ f, r.firstUse = some f → ∃ L, r.lastUse = some L ∧ f ≤ L) ∧
    (∀ L, r.lastUse = some L → ∃ f, r.firstUse = some f)

structure XInv (s : St w) : Prop where
  defAt : DefAtP s
  fl : FL s

theorem xinv_frame {s s' : St w} (h : XInv s) (e1 : s'.ranges = s.ranges) (e2 : s'.insts = s.insts) : XInv s' :=
  ⟨by unfold DefAtP; rw [e1, e2]; exact h.defAt, by unfold FL; rw [e1]; exact h.fl⟩

theorem xinv_push {s : St w} (h : XInv s) (x : Instr w) : XInv { s with insts := s.insts.push x } := by
  refine ⟨?_, h.fl⟩
  intro t r hr
  obtain ⟨y, hy, hd⟩ := h.defAt t r hr
  refine ⟨y, ?_, hd⟩
  show (s.insts.push x)[r.created]? = some y
  rw [getElem?_push_lt' _ _ (lt_of_getElem? hy)]; exact hy

theorem fl_bumped {n : Nat} {r r' : RangeInfo} (hb : Bumped n r r') (hf : ∀ f, r.firstUse = some f → f ≤ n) :
    (∀ f, r'.firstUse = some f → ∃ L, r'.lastUse = some L ∧ f ≤ L) ∧
    (∀ L, r'.lastUse = some L → ∃ f, r'.firstUse = some f) := by
  refine ⟨fun f hf' => ⟨n, hb.last, ?_⟩, fun L _ => ?_⟩
  · cases hfo : r.firstUse with
    | none => rw [hb.firstNone hfo] at hf'; cases hf'; exact Nat.le_refl _
    | some f0 => rw [hb.firstSome f0 hfo] at hf'; cases hf'; exact hf f hfo
  · cases hfo : r.firstUse with
    | none => exact ⟨_, hb.firstNone hfo⟩
    | some f0 => exact ⟨_, hb.firstSome f0 hfo⟩

theorem ext_entry {v inc : Nat} {s s' : St w} (E : ExtSpec v inc s s') {t : Nat} {q : RangeInfo}
    (hq : s'.ranges[t]? = some q) :
    (∃ r, s.ranges[v]? = some r ∧ t = v ∧ q = bump r s.insts.size inc) ∨ (t ≠ v ∧ s.ranges[t]? = some q) := by
  obtain ⟨⟨r, hr, hr'⟩, hother⟩ := ext_ranges E
  by_cases e : t = v
  · subst e; rw [hr'] at hq; exact Or.inl ⟨r, hr, rfl, (Option.some.inj hq).symm⟩
  · rw [hother t e] at hq; exact Or.inr ⟨e, hq⟩

theorem reads_entry {l : List Nat} {s s' : St w} (hR : ReadsSpec l s s') {t : Nat} {r' : RangeInfo}
    (hr' : s'.ranges[t]? = some r') :
    ∃ r : RangeInfo, s.ranges[t]? = some r ∧ (Bumped s.insts.size r r' ∨ r' = r) := by
  have F := readsFacts l hR
  by_cases hm : t ∈ l
  · obtain ⟨r, r2, g1, g2, g3⟩ := F.hit t hm
    rw [hr'] at g2; cases g2
    exact ⟨r, g1, Or.inl g3⟩
  · exact ⟨r', by rw [← F.miss t hm]; exact hr', Or.inr rfl⟩

/-- Reads of the operands `l`, then the instruction `inst` is appended.  `s0` may have one range entry (created at
the current position) whose defining instruction is `inst`. -/
theorem xinv_reads_push {s0 s2 : St w} {l : List Nat} {inst : Instr w} (hR : ReadsSpec l s0 s2) (F0 : FL s0)
    (D0 : ∀ (t : Nat) (r : RangeInfo), s0.ranges[t]? = some r →
      (∃ y, s0.insts[r.created]? = some y ∧ dstTmp? y = some t) ∨
      (r.created = s0.insts.size ∧ dstTmp? inst = some t))
    (hf : ∀ (t : Nat) (r : RangeInfo) (f : Nat), s0.ranges[t]? = some r → r.firstUse = some f → f < s0.insts.size)
    {s' : St w} (e1 : s'.ranges = s2.ranges) (e2 : s'.insts = s0.insts.push inst) : XInv s' := by
  refine ⟨?_, ?_⟩
  · intro t r' hr'
    rw [e1] at hr'
    obtain ⟨r, g1, g⟩ := reads_entry hR hr'
    have g3 : r'.created = r.created := by
      rcases g with hb | rfl
      · exact hb.created
      · rfl
    rw [g3, e2]
    rcases D0 t r g1 with ⟨y, hy, hd⟩ | ⟨hc, hd⟩
    · exact ⟨y, by rw [getElem?_push_lt' _ _ (lt_of_getElem? hy)]; exact hy, hd⟩
    · exact ⟨inst, by rw [hc]; simp, hd⟩
  · intro t r' hr'
    rw [e1] at hr'
    obtain ⟨r, g1, g⟩ := reads_entry hR hr'
    rcases g with hb | rfl
    · exact fl_bumped hb (fun f hfo => Nat.le_of_lt (hf t r f g1 hfo))
    · exact F0 t r' g1

theorem dstTmp?_gvInst (e : GvnExpr w) (v : Nat) : dstTmp? (gvInst e v) = some v := by
  cases e <;> rfl

theorem xinv_getValue {e : GvnExpr w} {s s' : St w} {v : Nat} (hl : LInv s) (h : XInv s)
    (hg : getValue e s = .ok (v, s')) : XInv s' := by
  rcases getValue_spec hg with ⟨_, rfl⟩ | ⟨rfl, N⟩
  · exact h
  · obtain ⟨s2, h2, rfl⟩ := N.reads
    refine xinv_reads_push (inst := gvInst e s.ranges.size) h2 ?_ ?_ ?_ rfl
      (by show s2.insts.push _ = _; rw [readsSpec_insts _ h2])
    · intro t r hr
      rcases getElem?_push_cases hr with ⟨_, g⟩ | ⟨_, g2⟩
      · exact h.fl t r g
      · subst g2
        exact ⟨(fun f hf => by cases hf), (fun L hL => by cases hL)⟩
    · intro t r hr
      rcases getElem?_push_cases hr with ⟨_, g⟩ | ⟨g1, g2⟩
      · exact Or.inl (h.defAt t r g)
      · subst g1; subst g2
        exact Or.inr ⟨rfl, dstTmp?_gvInst _ _⟩
    · intro t r f hr hf
      rcases getElem?_push_cases hr with ⟨_, g⟩ | ⟨_, g2⟩
      · exact first_lt hl g hf
      · subst g2; cases hf

theorem xinv_memWrite {var : Int} {x : Nat} {s s' : St w} {u : Unit} (hl : LInv s) (h : XInv s)
    (hm : memWrite var x s = .ok (u, s')) : XInv s' := by
  obtain ⟨s1, h1, rfl⟩ := memWrite_spec hm
  refine xinv_reads_push (l := [x]) (inst := .copy (.mem var) (.tmp x)) ⟨s1, h1, rfl⟩ h.fl
    (fun t r hr => Or.inl (h.defAt t r hr)) (fun t r f hr hf => first_lt hl hr hf) rfl ?_
  show s1.insts.push _ = s.insts.push _
  rw [h1.insts]

theorem xinv_ext0 {s s' : St w} {v : Nat} (hl : LInv s) (h : XInv s) (E : ExtSpec v 0 s s') : XInv s' := by
  refine ⟨?_, ?_⟩
  · intro t q hq
    rw [E.insts]
    rcases ext_entry E hq with ⟨r, hr, rfl, rfl⟩ | ⟨_, g⟩
    · exact h.defAt t r hr
    · exact h.defAt t q g
  · intro t q hq
    rcases ext_entry E hq with ⟨r, hr, rfl, rfl⟩ | ⟨_, g⟩
    · exact fl_bumped (bumped_bump r _ 0) (fun f hfo => Nat.le_of_lt (first_lt hl hr hfo))
    · exact h.fl t q g

theorem xinv_patch {s : St w} (h : XInv s) {i : Nat} (c off : Int) (hi : s.insts[i]? = some .noop) :
    XInv { s with insts := s.insts.setIfInBounds i (.brz c off) } := by
  refine ⟨?_, h.fl⟩
  intro t r hr
  obtain ⟨y, hy, hd⟩ := h.defAt t r hr
  refine ⟨y, ?_, hd⟩
  show (s.insts.setIfInBounds i (.brz c off))[r.created]? = some y
  by_cases e : i = r.created
  · rw [e, hy] at hi; cases hi; cases hd
  · rw [Array.getElem?_setIfInBounds_ne e]; exact hy

theorem closed_xinv : Closed (fun s : St w => LInv s ∧ XInv s) where
  values := fun s vs h hsub => ⟨closed_linv.values s vs h.1 hsub, xinv_frame h.2 rfl rfl⟩
  start := fun s c h => ⟨closed_linv.start s c h.1, xinv_frame h.2 rfl rfl⟩
  push := fun s x h hx => ⟨closed_linv.push s x h.1 hx, xinv_push h.2 x⟩
  inp := fun s d h => ⟨closed_linv.inp s d h.1, xinv_frame (xinv_push h.2 (.inp d)) rfl rfl⟩
  patch := fun s i c off h hi => ⟨closed_linv.patch s i c off h.1 hi, xinv_patch h.2 c off hi⟩
  outer := fun ps fuel i _ _ _ h ho => outerLoop_inv ps (P := XInv)
    (fun _ _ _ hl hP _ E => xinv_ext0 hl hP E) (fun _ _ _ hP _ => xinv_frame hP rfl rfl) fuel i ho h.1 h.2
  getValue := fun e s v s' h ho hg =>
    ⟨⟨(closed_linv.getValue e s v s' h.1 ho hg).1, xinv_getValue h.1 h.2 hg⟩,
      (closed_linv.getValue e s v s' h.1 ho hg).2⟩
  memWrite := fun var x s s' u h hx hm => ⟨closed_linv.memWrite var x s s' u h.1 hx hm, xinv_memWrite h.1 h.2 hm⟩

theorem xinv_of_emit {prog : Ir.Block w} {fuse : Bool} {s : St w} (h : emitState prog fuse = .ok s) : XInv s :=
  (closed_emitState closed_xinv h ⟨linv_init, ⟨fun t r hr => by simp at hr, fun t r hr => by simp at hr⟩⟩).2

/-- The counts of emitted code: the precondition of `dead_store_elim` (`C02DseEmit`), read on the entries. -/
theorem countInv_of_emit {prog : Ir.Block w} {fuse : Bool} {s : St w} (h : emitState prog fuse = .ok s) :
    CountInv s := by
  intro t r hr
  have := (dsePre_of_emit h).uses t
  simp only [dseNuse, hr] at this
  exact this

end AEmit
end C02
end Hpbf
