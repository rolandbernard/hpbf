/-
C02 (`allocate_temps`): the walk over the expression code generator and the induction over `emit_block` of
`C02EmitWalk`, in the form the invariants of this pass use them: from a successful run, with plain hypotheses
(`getExprValue_walk`, `calcValues_walk`, `memWrites_walk`; `ClosedI`, `closedI_emitInsts`).  `ClosedI` is for invariants
that depend on the position in the IR program and on the enclosing blocks; a predicate on states alone that every
primitive preserves (`Closed`) is the special case in which the invariant ignores position and context
(`closedI_of_closed`, `closed_emitState`); "every emitted instruction satisfies `Q`" is the instance `EmitClosed`
(`closedI_allQ`, `emit_allQ`), used for the instruction shapes and shifts the JIT accepts and for the cells the contract
checker bounds.
-/
import Hpbf.Proofs.C02AllocEmit
import Hpbf.Proofs.C02Shape
set_option linter.unusedSimpArgs false

namespace Hpbf
namespace C02
namespace AEmit

open Bc BcWf BcGen C11 C02Emit

variable {w : Nat}

/-! `K`, `V`, `Un` are the parameters of the walk `C02Emit.WalkU` (a predicate on states, operand validity, "created and
not yet read"); here the walk is read from success. -/

section walk
variable {K : St w → Prop} {V Un : St w → Nat → Prop}
  (hg : ∀ (e : GvnExpr w) (s : St w) (v : Nat) (s' : St w), K s → (∀ a ∈ opsOf e, V s a) →
    getValue e s = .ok (v, s') →
    K s' ∧ V s' v ∧ (∀ a, V s a → V s' a) ∧ ∀ t, Un s' t → (Un s t ∧ t ∉ opsOf e) ∨ t = v)
  (hm : ∀ (var : Int) (x : Nat) (s s' : St w) (u : Unit), K s → V s x →
    memWrite var x s = .ok (u, s') → K s' ∧ (∀ a, V s a → V s' a) ∧ ∀ t, Un s' t → Un s t ∧ t ≠ x)
include hg in
/-- `hg` as the walks of `C02EmitWalk` take it. -/
theorem getValue_walkU (e : GvnExpr w) (s : St w) (hk : K s) (ho : ∀ a ∈ opsOf e, V s a) :
    Tr false (getValue e) s (fun v s' => WalkU K V Un s (opsOf e) [v] s') :=
  tr_false.2 fun v s' hh => by
    obtain ⟨k1, v1, z1, f1⟩ := hg e s v s' hk ho hh
    exact ⟨k1, by simpa using v1, z1, by simpa using f1⟩

include hg in
theorem getExprValue_walk (e : Expr w) (var : Int) {s s' : St w} {r : Nat}
    (h : getExprValue e var s = .ok (r, s')) (hk : K s) :
    K s' ∧ V s' r ∧ (∀ a, V s a → V s' a) ∧ ∀ t, Un s' t → Un s t ∨ t = r := by
  obtain ⟨k, v, z, f⟩ := tr_false.1 (getExprValue_tr (getValue_walkU hg) e var hk) r s' h
  refine ⟨k, v r (by simp), z, fun t ht => ?_⟩
  rcases f t ht with g | g
  · exact Or.inl g.1
  · exact Or.inr (by simpa using g)

include hg in
theorem calcValues_walk (calcs : List (Int × Expr w)) {s s' : St w} {vals : List (Int × Nat)}
    (h : calcValues calcs s = .ok (vals, s')) (hk : K s) :
    K s' ∧ (∀ p ∈ vals, V s' p.2) ∧ (∀ a, V s a → V s' a) ∧ ∀ t, Un s' t → Un s t ∨ ∃ p ∈ vals, p.2 = t := by
  obtain ⟨k, v, z, f⟩ := tr_false.1 (calcValues_tr (getValue_walkU hg) calcs hk) vals s' h
  refine ⟨k, fun p hp => v p.2 (List.mem_map_of_mem hp), z, fun t ht => ?_⟩
  rcases f t ht with g | g
  · exact Or.inl g.1
  · obtain ⟨p, hp, rfl⟩ := List.mem_map.1 g
    exact Or.inr ⟨p, hp, rfl⟩

include hm in
theorem memWrites_walk (vals : List (Int × Nat)) {s s' : St w} {u : Unit}
    (h : memWrites vals s = .ok (u, s')) (hk : K s) (hv : ∀ p ∈ vals, V s p.2) :
    K s' ∧ (∀ a, V s a → V s' a) ∧ ∀ t, Un s' t → Un s t ∧ ∀ p ∈ vals, p.2 ≠ t := by
  obtain ⟨k, -, z, f⟩ := tr_false.1 (memWrites_tr (K := K) (V := V) (Un := Un) (tot := false)
    (fun var x s hk hx => tr_false.2 fun u s' hh => by
      obtain ⟨k1, z1, f1⟩ := hm var x s s' u hk hx hh
      exact ⟨k1, fun _ h => (by cases h), z1, fun t ht => Or.inl ⟨(f1 t ht).1, by simpa using (f1 t ht).2⟩⟩)
    vals hk hv) u s' h
  refine ⟨k, z, fun t ht => ?_⟩
  rcases f t ht with g | g
  · exact ⟨g.1, fun p hp e => g.2 (e ▸ List.mem_map_of_mem hp)⟩
  · cases g

end walk

/-! Instances of the walks with `V s a := a < s.ranges.size` (the operands are value numbers). -/

theorem lt_size_mono {s s' : St w} (h : s.ranges.size ≤ s'.ranges.size) (a : Nat) (ha : a < s.ranges.size) :
    a < s'.ranges.size := Nat.lt_of_lt_of_le ha h

theorem getExprValue_flow {K : St w → Prop} {Un : St w → Nat → Prop}
    (hg : ∀ (e : GvnExpr w) (s : St w) (v : Nat) (s' : St w), K s → (∀ a ∈ opsOf e, a < s.ranges.size) →
      getValue e s = .ok (v, s') →
      K s' ∧ v < s'.ranges.size ∧ ∀ t, Un s' t → (Un s t ∧ t ∉ opsOf e) ∨ t = v)
    (e : Expr w) (var : Int) {s s' : St w} {r : Nat}
    (h : getExprValue e var s = .ok (r, s')) (hk : K s) :
    K s' ∧ r < s'.ranges.size ∧ s.ranges.size ≤ s'.ranges.size ∧ ∀ t, Un s' t → Un s t ∨ t = r := by
  obtain ⟨⟨k, hle⟩, v, _, f⟩ := getExprValue_walk (K := fun a => K a ∧ s.ranges.size ≤ a.ranges.size)
    (V := fun a x => x < a.ranges.size) (Un := Un)
    (fun e a v a' hk ho hh => ⟨⟨(hg e a v a' hk.1 ho hh).1, Nat.le_trans hk.2 (getValue_size hh)⟩,
      (hg e a v a' hk.1 ho hh).2.1, lt_size_mono (getValue_size hh), (hg e a v a' hk.1 ho hh).2.2⟩)
    e var h ⟨hk, Nat.le_refl _⟩
  exact ⟨k, v, hle, f⟩

section codegen
variable {K : St w → Prop}
  (hg : ∀ (e : GvnExpr w) (s : St w) (v : Nat) (s' : St w), K s → (∀ a ∈ opsOf e, a < s.ranges.size) →
    getValue e s = .ok (v, s') → K s' ∧ v < s'.ranges.size)
  (hm : ∀ (var : Int) (x : Nat) (s s' : St w) (u : Unit), K s → x < s.ranges.size →
    memWrite var x s = .ok (u, s') → K s')

include hg in
theorem calcValues_pres (calcs : List (Int × Expr w)) {s s' : St w} {vals : List (Int × Nat)}
    (h : calcValues calcs s = .ok (vals, s')) (hk : K s) :
    K s' ∧ (∀ p ∈ vals, p.2 < s'.ranges.size) ∧ s.ranges.size ≤ s'.ranges.size := by
  obtain ⟨⟨k, hle⟩, v, _⟩ := calcValues_walk (K := fun a => K a ∧ s.ranges.size ≤ a.ranges.size)
    (V := fun a x => x < a.ranges.size) (Un := fun _ _ => False)
    (fun e a v a' hk ho hh => ⟨⟨(hg e a v a' hk.1 ho hh).1, Nat.le_trans hk.2 (getValue_size hh)⟩,
      (hg e a v a' hk.1 ho hh).2, lt_size_mono (getValue_size hh), fun _ f => f.elim⟩)
    calcs h ⟨hk, Nat.le_refl _⟩
  exact ⟨k, v, hle⟩

include hm in
theorem memWrites_pres (vals : List (Int × Nat)) {s s' : St w} {u : Unit}
    (h : memWrites vals s = .ok (u, s')) (hk : K s) (hv : ∀ p ∈ vals, p.2 < s.ranges.size) : K s' :=
  (memWrites_walk (V := fun a x => x < a.ranges.size) (Un := fun _ _ => False)
    (fun var x s s' u hk hx h => ⟨hm var x s s' u hk hx h, lt_size_mono (Nat.le_of_eq (memWrite_size h).symm),
      fun _ f => f.elim⟩) vals h hk hv).1

end codegen

/-! Instances with `V := True`, `Un := False`: predicates that need no condition on the operands. -/

section codegen0
variable {K : St w → Prop}
  (hg : ∀ (e : GvnExpr w) (s : St w) (v : Nat) (s' : St w), K s → getValue e s = .ok (v, s') → K s')
  (hm : ∀ (var : Int) (x : Nat) (s s' : St w) (u : Unit), K s → memWrite var x s = .ok (u, s') → K s')

include hg in
theorem getExprValue_pres0 (e : Expr w) (var : Int) {s s' : St w} {r : Nat}
    (h : getExprValue e var s = .ok (r, s')) (hk : K s) : K s' :=
  (getExprValue_walk (V := fun _ _ => True) (Un := fun _ _ => False)
    (fun e s v s' hk _ h => ⟨hg e s v s' hk h, trivial, fun _ _ => trivial, fun _ f => f.elim⟩) e var h hk).1

include hg in
theorem calcValues_pres0 (calcs : List (Int × Expr w)) {s s' : St w} {vals : List (Int × Nat)}
    (h : calcValues calcs s = .ok (vals, s')) (hk : K s) : K s' :=
  (calcValues_walk (V := fun _ _ => True) (Un := fun _ _ => False)
    (fun e s v s' hk _ h => ⟨hg e s v s' hk h, trivial, fun _ _ => trivial, fun _ f => f.elim⟩) calcs h hk).1

include hm in
theorem memWrites_pres0 (vals : List (Int × Nat)) {s s' : St w} {u : Unit}
    (h : memWrites vals s = .ok (u, s')) (hk : K s) : K s' :=
  (memWrites_walk (V := fun _ _ => True) (Un := fun _ _ => False)
    (fun var x s s' u hk _ h => ⟨hm var x s s' u hk h, fun _ _ => trivial, fun _ f => f.elim⟩) vals h hk
    (fun _ _ => trivial)).1

end codegen0

/-- State after the last instruction of a loop (`so` = state after `outerLoop`). -/
def loopEnd (once : Bool) (cond : Int) (sub : Analysis) (ps : Nat) (s s1 so : St w) : St w :=
  lhExit once sub s.exprs.size
    { (if once then lhBrnz cond s1.insts.size so else lhPatch cond s1.insts.size (lhBrnz cond s1.insts.size so))
      with currentStart := ps }

/-- State after an `if` (`sb` = state after the body). -/
def ifEnd (cond shift : Int) (sub : Analysis) (ps : Nat) (s s1 sb : St w) : St w :=
  lhExit false sub s.exprs.size { lhPatch cond s1.insts.size (lhMov shift sb) with currentStart := ps }

/-- The from-success face of `C02Emit.ClosedT` (`ClosedI.closedT`); `J c ps a l s` as there. -/
structure ClosedI {Ctx : Type} (fuse : Bool)
    (J : Ctx → Nat → Analysis → List (Ir.Instr w) → St w → Prop) : Prop where
  out : ∀ c ps a src rest s, J c ps a (.output src :: rest) s →
    J c ps (analyzeInstr (.output src : Ir.Instr w) a) rest { s with insts := s.insts.push (.out src) }
  inp : ∀ c ps a dst rest s, J c ps a (.input dst :: rest) s →
    J c ps (analyzeInstr (.input dst : Ir.Instr w) a) rest
      { s with values := alErase s.values (.mem dst), writes := addWrite s.writes dst s.insts.size,
               insts := s.insts.push (.inp dst) }
  calcR : ∀ c ps a calcs rest s vals s1 s' u, J c ps a (.calc calcs :: rest) s →
    calcValues calcs s = .ok (vals, s1) → memWrites vals s1 = .ok (u, s') →
    J c ps (analyzeInstr (.calc calcs : Ir.Instr w) a) rest s'
  scan : ∀ c ps a cond shift once rest s, fuse = true → J c ps a (.loop cond shift [] once :: rest) s →
    J c ps (analyzeInstr (.loop cond shift [] once : Ir.Instr w) a) rest
      (lhExit once (subOf shift ([] : List (Ir.Instr w))) s.exprs.size
        { lhHead true (subOf shift ([] : List (Ir.Instr w))) s with
          insts := (lhHead true (subOf shift ([] : List (Ir.Instr w))) s).insts.push (.scan cond shift) })
  loop : ∀ c ps a cond shift body once rest s, (fuse && body.isEmpty) = false →
    J c ps a (.loop cond shift body once :: rest) s →
    ∃ c', J c' (lhPro true once (lhHead true (subOf shift body) s)).currentStart Analysis.empty body
        (lhPro true once (lhHead true (subOf shift body) s)) ∧
      ∀ sb so u1 u2 fuel,
        emitInsts fuse (lhPro true once (lhHead true (subOf shift body) s)).currentStart body (subsOf body)
          (lhPro true once (lhHead true (subOf shift body) s)) = .ok (u1, sb) →
        J c' (lhPro true once (lhHead true (subOf shift body) s)).currentStart (analyzeInsts body Analysis.empty) [] sb →
        Pre (lhPro true once (lhHead true (subOf shift body) s)).insts sb.insts →
        outerLoop ps fuel s.outerAccessed.size (lhMov shift sb) = .ok (u2, so) →
        J c ps (analyzeInstr (.loop cond shift body once : Ir.Instr w) a) rest
          (loopEnd once cond (subOf shift body) ps s (lhPro true once (lhHead true (subOf shift body) s)) so)
  ifz : ∀ c ps a cond shift body rest s, J c ps a (.ifnz cond shift body :: rest) s →
    ∃ c', J c' (lhPro false false s).currentStart Analysis.empty body (lhPro false false s) ∧
      ∀ sb u1, emitInsts fuse (lhPro false false s).currentStart body (subsOf body) (lhPro false false s) = .ok (u1, sb) →
        J c' (lhPro false false s).currentStart (analyzeInsts body Analysis.empty) [] sb →
        Pre (lhPro false false s).insts sb.insts →
        J c ps (analyzeInstr (.ifnz cond shift body : Ir.Instr w) a) rest
          (ifEnd cond shift (subOf shift body) ps s (lhPro false false s) sb)

/-- `ClosedI` is what `C02Emit.ClosedT false` asks for, with the states of a block written by `lh*`. -/
theorem ClosedI.closedT {Ctx : Type} {fuse : Bool} {J : Ctx → Nat → Analysis → List (Ir.Instr w) → St w → Prop}
    (C : ClosedI fuse J) : ClosedT false fuse J where
  out := C.out
  inp := C.inp
  calcR c ps a calcs rest s h := tr_false.2 fun vals s1 hc => tr_false.2 fun u s' hm =>
    C.calcR c ps a calcs rest s vals s1 s' u h hc hm
  scan := C.scan
  loop c ps a cond shift body once rest s hf h :=
    let ⟨c', j1, hexit⟩ := C.loop c ps a cond shift body once rest s hf h
    ⟨c', j1, fun sb hb jb pb => tr_false.2 fun u so ho => hexit sb so () u _ hb jb pb ho⟩
  ifz c ps a cond shift body rest s h :=
    let ⟨c', j1, hexit⟩ := C.ifz c ps a cond shift body rest s h
    ⟨c', j1, fun sb hb jb pb => hexit sb () hb jb pb⟩

theorem closedI_emitInsts {Ctx : Type} {fuse : Bool} {J : Ctx → Nat → Analysis → List (Ir.Instr w) → St w → Prop}
    (C : ClosedI fuse J) (n : Nat) (l : List (Ir.Instr w)) (hl : iszL l ≤ n)
    (c : Ctx) (a : Analysis) (ps : Nat) (s s' : St w) (u : Unit)
    (h : emitInsts fuse ps l (subsOf l) s = .ok (u, s')) (hJ : J c ps a l s) :
    J c ps (analyzeInsts l a) [] s' ∧ Pre s.insts s'.insts :=
  tr_false.1 (emitInsts_tr C.closedT n l hl c a ps s hJ) u s' h

theorem closedI_emitState {Ctx : Type} {fuse : Bool} {J : Ctx → Nat → Analysis → List (Ir.Instr w) → St w → Prop}
    (C : ClosedI fuse J) {prog : Ir.Block w} {s : St w} (h : emitState prog fuse = .ok s) (c : Ctx)
    (h0 : J c 0 Analysis.empty prog.insts ({} : St w)) :
    J c 0 (analyzeInsts prog.insts Analysis.empty) [] s := by
  unfold emitState at h
  rw [analyze_subAnal] at h
  cases hr : (emitInsts fuse 0 prog.insts (subsOf prog.insts)).run ({} : St w) with
  | error e => rw [hr] at h; cases h
  | ok p =>
    obtain ⟨u, s1⟩ := p
    rw [hr] at h
    cases h
    exact (closedI_emitInsts C _ prog.insts (Nat.le_refl _) c _ 0 {} s u hr h0).1

theorem closedI_of_closed {J : St w → Prop} (C : Closed J) (fuse : Bool) :
    ClosedI fuse (fun (_ : Unit) (_ : Nat) (_ : Analysis) (_ : List (Ir.Instr w)) s => J s) where
  out _ _ _ _ _ s h := C.push s _ h rfl
  inp _ _ _ dst _ s h := C.values _ _ (C.inp s dst h) (fun _ hp => mem_alErase hp)
  calcR _ _ _ calcs _ s vals s1 s' u h hc hm := by
    obtain ⟨k1, v1, _⟩ := calcValues_pres C.getValue calcs hc h
    exact memWrites_pres C.memWrite vals hm k1 v1
  scan _ _ _ _ _ _ _ s _ h := lhExit_J C.values _ _ _ (C.push _ _ (lhHead_J C.values true _ h) rfl)
  loop _ ps _ cond shift body once _ s _ h := by
    have j1 : J (lhPro true once (lhHead true (subOf shift body) s)) := by
      unfold lhPro
      cases once
      · exact C.start _ _ (C.push _ _ (lhHead_J C.values true _ h) rfl)
      · exact C.start _ _ (lhHead_J C.values true _ h)
    refine ⟨(), j1, fun sb so u1 u2 fuel _ jb pb ho => ?_⟩
    have jz : J (lhBrnz cond (lhPro true once (lhHead true (subOf shift body) s)).insts.size so) :=
      C.push _ _ (C.outer _ _ _ _ _ _ (lhMov_J C shift jb) ho) rfl
    unfold loopEnd
    cases once with
    | true => exact lhExit_J C.values _ _ _ (C.start _ _ jz)
    | false =>
      exact lhExit_J C.values _ _ _ (C.start _ _ (C.patch _ _ _ _ jz
        (placeholder_noop true _ (pb.trans (pre_lhBrnz (congrArg G.insts (outerLoop_core _ _ _ ho).1) cond _)))))
  ifz _ ps _ cond shift body _ s h := by
    have j1 : J (lhPro false false s) := C.push _ _ h rfl
    refine ⟨(), j1, fun sb u1 _ jb pb => ?_⟩
    exact lhExit_J C.values _ _ _ (C.start _ _ (C.patch _ _ _ _ (lhMov_J C shift jb)
      (placeholder_noop false s (pb.trans (pre_lhMov shift sb)))))

theorem closed_emitState {J : St w → Prop} (C : Closed J) {prog : Ir.Block w} {fuse : Bool} {s : St w}
    (h : emitState prog fuse = .ok s) (h0 : J ({} : St w)) : J s :=
  closedI_emitState (closedI_of_closed C fuse) h () h0

def gvS0 (s : St w) (e : GvnExpr w) : St w :=
  { s with ranges := s.ranges.push { created := s.insts.size, firstUse := none, lastUse := none, numUses := 0 }, exprs := s.exprs.push e }

theorem lhPro_true_eq (once : Bool) (s : St w) : ∃ sP : St w,
    lhPro true once s = { sP with currentStart := sP.insts.size } ∧
    sP.ranges = s.ranges ∧ sP.outerAccessed = s.outerAccessed ∧ sP.currentStart = s.currentStart ∧
    sP.values = s.values ∧ sP.exprs = s.exprs ∧
    sP.insts = (if once then s.insts else s.insts.push .noop) ∧
    (once = true → sP = s) ∧ (once = false → sP = { s with insts := s.insts.push .noop }) := by
  cases once with
  | true => exact ⟨s, rfl, rfl, rfl, rfl, rfl, rfl, rfl, (fun _ => rfl), (fun h => by cases h)⟩
  | false =>
    exact ⟨{ s with insts := s.insts.push .noop }, rfl, rfl, rfl, rfl, rfl, rfl, rfl, (fun h => by cases h), (fun _ => rfl)⟩

theorem lhPro_true_insts (once : Bool) (sub : Analysis) (s : St w) :
    (lhPro true once (lhHead true sub s)).insts = (if once then s.insts else s.insts.push .noop) ∧
    (lhPro true once (lhHead true sub s)).exprs = s.exprs ∧
    (lhPro true once (lhHead true sub s)).values = (lhHead true sub s).values := by
  have hins0 : (lhHead true sub s).insts = s.insts := by rw [lhHead_eq]
  have hex0 : (lhHead true sub s).exprs = s.exprs := by rw [lhHead_eq]
  cases once with
  | true => exact ⟨hins0, hex0, rfl⟩
  | false =>
    refine ⟨?_, hex0, rfl⟩
    show (lhHead true sub s).insts.push .noop = _
    rw [hins0]; rfl

theorem loopEnd_fields (once : Bool) (cond : Int) (sub : Analysis) (ps : Nat) (s s1 so : St w) :
    (loopEnd once cond sub ps s s1 so).ranges = so.ranges ∧
    (loopEnd once cond sub ps s s1 so).outerAccessed = so.outerAccessed ∧
    (loopEnd once cond sub ps s s1 so).currentStart = ps ∧
    ∃ o1 o2 : Int, (loopEnd once cond sub ps s s1 so).insts =
      (if once then so.insts.push (.brnz cond o1)
       else (so.insts.push (.brnz cond o1)).setIfInBounds (s1.insts.size - 1) (.brz cond o2)) := by
  rw [loopEnd, lhExit_eq]
  cases once
  · exact ⟨rfl, rfl, rfl, _, _, rfl⟩
  · exact ⟨rfl, rfl, rfl, _, 0, rfl⟩

theorem ifEnd_fields (cond shift : Int) (sub : Analysis) (ps : Nat) (s s1 sb : St w) :
    (ifEnd cond shift sub ps s s1 sb).ranges = (lhMov shift sb).ranges ∧
    ∃ o2 : Int, (ifEnd cond shift sub ps s s1 sb).insts =
      (lhMov shift sb).insts.setIfInBounds (s1.insts.size - 1) (.brz cond o2) := by
  rw [ifEnd, lhExit_eq]
  exact ⟨rfl, _, rfl⟩

/-! ### Predicates on the emitted instructions

The instance of `ClosedI` for "every instruction emitted so far satisfies `Q`". -/

theorem allQ_lhMov {Q : Instr w → Prop} {shift : Int} {sb : St w} (hb : AllQ Q sb.insts) (hs : Q (.mov shift)) :
    AllQ Q (lhMov shift sb).insts := by
  unfold lhMov
  split
  · exact hb
  · exact allQ_push hb hs

/-- The instruction forms the expression code generator emits. -/
structure ExprClosed (Q : Instr w → Prop) : Prop where
  cimm : ∀ v c, Q (.copy (.tmp v) (.imm c))
  cmem : ∀ v m, Q (.copy (.tmp v) (.mem m))
  add : ∀ v a b, Q (.add (.tmp v) (.tmp a) (.tmp b))
  sub : ∀ v a b, Q (.sub (.tmp v) (.tmp a) (.tmp b))
  mul : ∀ v a b, Q (.mul (.tmp v) (.tmp a) (.tmp b))
  store : ∀ m v, Q (.copy (.mem m) (.tmp v))

/-- A predicate that admits these forms, whatever their operands, holds of the code of a `calc`. -/
theorem ExprClosed.allQ {Q : Instr w → Prop} (E : ExprClosed Q) {calcs : List (Int × Expr w)} {s s1 s' : St w}
    {vals : List (Int × Nat)} {u : Unit} (h : AllQ Q s.insts) (hc : calcValues calcs s = .ok (vals, s1))
    (hm : memWrites vals s1 = .ok (u, s')) : AllQ Q s'.insts := by
  have hget : ∀ (e : GvnExpr w) (a : St w) (v : Nat) (a' : St w), AllQ Q a.insts → getValue e a = .ok (v, a') →
      AllQ Q a'.insts := by
    intro e a v a' hk hg
    rcases getValue_spec hg with ⟨_, rfl⟩ | ⟨_, N⟩
    · exact hk
    · obtain ⟨s2, h2, rfl⟩ := N.reads
      have hi := readsSpec_insts _ h2
      simp only at hi ⊢
      rw [hi]
      apply allQ_push hk
      cases e with
      | mem m => exact E.cmem _ _
      | imm c => exact E.cimm _ _
      | add a b => exact E.add _ _ _
      | sub a b => exact E.sub _ _ _
      | mul a b => exact E.mul _ _ _
  have hput : ∀ (var : Int) (x : Nat) (a a' : St w) (u : Unit), AllQ Q a.insts → memWrite var x a = .ok (u, a') →
      AllQ Q a'.insts := by
    intro var x a a' u hk hw
    obtain ⟨s0, e0, rfl⟩ := memWrite_spec hw
    simp only
    rw [e0.insts]
    exact allQ_push hk (E.store _ _)
  exact memWrites_pres0 (K := fun a => AllQ Q a.insts) hput vals hm
    (calcValues_pres0 (K := fun a => AllQ Q a.insts) hget calcs hc h)

/-- What a predicate `Q` on instructions must admit to hold of all code `emit_block` produces. `R` is a predicate on
the IR still to be translated; the instruction at its head vouches for the code emitted for it. -/
structure EmitClosed (fuse : Bool) (R : List (Ir.Instr w) → Prop) (Q : Instr w → Prop) : Prop where
  tail : ∀ {i rest}, R (i :: rest) → R rest
  noop : Q .noop
  out : ∀ {m rest}, R (.output m :: rest) → Q (.out m)
  inp : ∀ {m rest}, R (.input m :: rest) → Q (.inp m)
  expr : ∀ {calcs rest} {s s1 s' : St w} {vals u}, R (.calc calcs :: rest) → AllQ Q s.insts →
    calcValues calcs s = .ok (vals, s1) → memWrites vals s1 = .ok (u, s') → AllQ Q s'.insts
  scan : fuse = true → ∀ {c sh once rest}, R (.loop c sh [] once :: rest) → Q (.scan c sh)
  loop : ∀ {c sh body once rest}, R (.loop c sh body once :: rest) →
    Q (.mov sh) ∧ (∀ o, Q (.brz c o)) ∧ (∀ o, Q (.brnz c o)) ∧ R body
  ifnz : ∀ {c sh body rest}, R (.ifnz c sh body :: rest) → Q (.mov sh) ∧ (∀ o, Q (.brz c o)) ∧ R body

def QJ (R : List (Ir.Instr w) → Prop) (Q : Instr w → Prop) (_c : Unit) (_ps : Nat) (_a : Analysis)
    (l : List (Ir.Instr w)) (s : St w) : Prop :=
  AllQ Q s.insts ∧ R l

section
variable {fuse : Bool} {R : List (Ir.Instr w) → Prop} {Q : Instr w → Prop} (E : EmitClosed fuse R Q)
include E

theorem closedI_allQ : ClosedI fuse (QJ (w := w) R Q) where
  out := fun c ps a src rest s h => ⟨allQ_push h.1 (E.out h.2), E.tail h.2⟩
  inp := fun c ps a dst rest s h => ⟨allQ_push h.1 (E.inp h.2), E.tail h.2⟩
  calcR := fun c ps a calcs rest s vals s1 s' u h hc hm => ⟨E.expr h.2 h.1 hc hm, E.tail h.2⟩
  scan := fun c ps a cond shift once rest s hfu h => by
    refine ⟨?_, E.tail h.2⟩
    rw [lhExit_eq]
    show AllQ Q ((lhHead true _ s).insts.push _)
    rw [lhHead_eq]
    exact allQ_push h.1 (E.scan hfu h.2)
  loop := fun c ps a cond shift body once rest s _ h => by
    obtain ⟨hmov, hbrz, hbrnz, hbody⟩ := E.loop h.2
    obtain ⟨hs1i, _, _⟩ := lhPro_true_insts once (subOf shift body) s
    refine ⟨(), ⟨?_, hbody⟩, ?_⟩
    · rw [hs1i]
      cases once
      · exact allQ_push h.1 E.noop
      · exact h.1
    · intro sb so u1 u2 fuel _ hb _ ho
      refine ⟨?_, E.tail h.2⟩
      have hso : so.insts = (lhMov shift sb).insts := by
        have := (outerLoop_core ps fuel _ ho).1
        exact congrArg G.insts this
      have hm : AllQ Q (lhMov shift sb).insts := allQ_lhMov hb.1 hmov
      obtain ⟨_, _, _, o1, o2, hfi⟩ := loopEnd_fields once cond (subOf shift body) ps s
        (lhPro true once (lhHead true (subOf shift body) s)) so
      rw [hfi, hso]
      cases once
      · exact allQ_set (allQ_push hm (hbrnz _)) (hbrz _) _
      · exact allQ_push hm (hbrnz _)
  ifz := fun c ps a cond shift body rest s h => by
    obtain ⟨hmov, hbrz, hbody⟩ := E.ifnz h.2
    refine ⟨(), ⟨allQ_push h.1 E.noop, hbody⟩, ?_⟩
    intro sb u1 _ hb _
    refine ⟨?_, E.tail h.2⟩
    have hm : AllQ Q (lhMov shift sb).insts := allQ_lhMov hb.1 hmov
    obtain ⟨_, o2, hfi⟩ := ifEnd_fields cond shift (subOf shift body) ps s (lhPro false false s) sb
    rw [hfi]
    exact allQ_set hm (hbrz _) _

theorem emit_allQ {prog : Ir.Block w} {s : St w} (h : emitState prog fuse = .ok s) (hR : R prog.insts) :
    AllQ Q s.insts :=
  (closedI_emitState (closedI_allQ E) h () ⟨fun i x hx => by simp at hx, hR⟩).1
end

end AEmit
end C02
end Hpbf
