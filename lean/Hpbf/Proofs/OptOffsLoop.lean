/-
The loop analysis and loop motion do not invent names: the trip-count expression of `analyzeLoop` only mentions
the condition; the increments collected by `linearAmong` only mention variables of the sub-block's expressions;
what `loopMotion` moves before / keeps in / moves after the loop only mentions the variable itself and variables
of its pending expression, of the trip count and of the linear increments.

On names: in `OptOffs` a lemma `f_ok` / `f_varsIn` says that what `f` returns stays within the bound or mentions only
allowed variables (`loopMotion_ok` here, `optimize_ok`, `dse_ok`, `sub_ok`, `flushOne_ok`), and `…Ok` are the predicates
(`OkI`, `OkL`, `PendOk`, `CalcsOk`, `ExprOk`, `LinOk`, `StepOk`, `FOk`). In `OptTotal` a lemma `f_ok` says `Ok (f …)`: `f`
does not fail (`OptTotal.loopMotion_ok` is that one).
-/
import Hpbf.Proofs.OptOffsEmit
import Hpbf.Proofs.OptLoopMotion
import Hpbf.Proofs.OptRbCanon3

namespace Hpbf.OptOffs
open Hpbf Opt Ir
open Hpbf.OptLoop (VarsIn varsIn_iff mem_mSet)

variable {w : Nat}

def ExprOk (S : Int → Prop) (l : OptLoop w) : Prop := ∀ e, l.expr = some e → VarsIn S e

theorem exprOk_ofExpr {S : Int → Prop} {e : Expr w} (h : VarsIn S e) : ExprOk S (OptLoop.ofExpr e) := by
  intro e' he'
  simp only [OptLoop.ofExpr, Option.some.injEq] at he'
  subst he'; exact h

theorem exprOk_noReturn {S : Int → Prop} (b : Bool) : ExprOk S (OptLoop.noReturn b : OptLoop w) := by
  intro e' he'
  simp only [OptLoop.noReturn] at he'
  split at he'
  · simp only [Option.some.injEq] at he'; subst he'; exact varsIn_val _
  · cases he'

theorem exprOk_infinite {S : Int → Prop} (b : Bool) : ExprOk S (OptLoop.infinite b : OptLoop w) := by
  intro e' he'; simp [OptLoop.infinite] at he'

theorem exprOk_unknown {S : Int → Prop} (b : Bool) : ExprOk S (OptLoop.unknown b : OptLoop w) := by
  intro e' he'; simp [OptLoop.unknown] at he'

theorem exprOk_atMostOnceOf {S : Int → Prop} (b : Bool) : ExprOk S (OptLoop.atMostOnceOf b : OptLoop w) := by
  unfold OptLoop.atMostOnceOf
  split
  · exact exprOk_ofExpr (varsIn_val _)
  · intro e' he'; simp at he'

theorem exprOk_toAtLeastOnce {S : Int → Prop} {l : OptLoop w} (h : ExprOk S l) : ExprOk S l.toAtLeastOnce :=
  fun e he => h e he

theorem exprOk_toAtMostOnce {S : Int → Prop} (l : OptLoop w) : ExprOk S l.toAtMostOnce := by
  intro e he; simp [OptLoop.toAtMostOnce] at he

theorem analyzeLoop_exprOk {S : Int → Prop} (s : Rebuild w) (ps : List (Rebuild w)) (sub : Rebuild w)
    {cond : Int} (isLoop : Bool) (hc : S cond) : ExprOk S (analyzeLoop s ps sub cond isLoop) :=
  OptLoop.analyzeLoop_cases (P := ExprOk S) s ps sub cond isLoop (fun _ => exprOk_ofExpr (varsIn_val _))
    (fun _ => exprOk_ofExpr (varsIn_mul _ _ (varsIn_val _) (varsIn_var hc)))
    exprOk_noReturn exprOk_atMostOnceOf exprOk_infinite exprOk_unknown

def LinOk (S : Int → Prop) (linear : List (Int × Expr w)) : Prop := ∀ kv ∈ linear, VarsIn S kv.2

theorem linearAmong_varsIn {S : Int → Prop} (s : Rebuild w) (ps : List (Rebuild w)) (sub : Rebuild w)
    (constant vars : List Int) (hp : ∀ kv ∈ sub.pending, VarsIn S kv.2)
    (hw : ∀ kv ∈ sub.written, ∀ e, kv.2 = .known e → VarsIn S e) :
    LinOk S (linearAmong s ps sub constant vars) := by
  unfold linearAmong
  refine foldl_inv (LinOk S) _ vars ?_ (fun kv h => by cases h)
  intro linear var _ hl
  split
  · exact hl
  · split
    · rename_i complete hgb
      split
      · rename_i inc hinc
        split
        · intro kv hkv
          rcases mem_mSet _ _ _ _ hkv with e | e
          · subst e
            refine varsIn_incOf hinc ?_
            exact getBoth_varsIn (S := fun x => S x ∨ x = var) (s :: ps)
              (fun kv hkv => VarsIn.imp (hp kv hkv) (fun _ h => Or.inl h))
              (fun kv hkv e he => VarsIn.imp (hw kv hkv e he) (fun _ h => Or.inl h))
              (Or.inr rfl) hgb
          · exact hl kv e
        · exact hl
      · exact hl
    · exact hl

theorem triFold_varsIn {S : Int → Prop} {expr : Expr w} (he : VarsIn S expr) :
    ∀ (linears : List (Expr w × Expr w)) (ba : Expr w × Expr w),
      (∀ il ∈ linears, VarsIn S il.1 ∧ VarsIn S il.2) → VarsIn S ba.1 → VarsIn S ba.2 →
      VarsIn S (linears.foldl (OptLoop.triFoldStep expr) ba).1 ∧
      VarsIn S (linears.foldl (OptLoop.triFoldStep expr) ba).2 := by
  intro linears
  induction linears with
  | nil => intro ba _ h1 h2; exact ⟨h1, h2⟩
  | cons il rest ih =>
    intro ba hl h1 h2
    simp only [List.foldl_cons]
    have hil := hl il List.mem_cons_self
    apply ih _ (fun x hx => hl x (List.mem_cons_of_mem _ hx))
    · unfold OptLoop.triFoldStep
      simp only
      split
      · exact h1
      · exact varsIn_triStep _ _ _ _ he hil.1 hil.2 h1
    · unfold OptLoop.triFoldStep
      simp only
      split
      · exact varsIn_add _ _ h2 hil.1
      · exact h2

theorem none_ok {S : Int → Prop} : ∀ e, (none : Option (Expr w)) = some e → VarsIn S e :=
  fun _ h => nomatch h

theorem some_ok {S : Int → Prop} {x : Expr w} (hx : VarsIn S x) : ∀ e, some x = some e → VarsIn S e := by
  intro e h
  simp only [Option.some.injEq] at h
  subst h; exact hx

theorem loopMotion_ok {S : Int → Prop} {s : Rebuild w} {ps : List (Rebuild w)} {var : Int} {p : Expr w}
    {complete : Bool} {reads C : List Int} {lin : List (Int × Expr w)} {otherPending : List Int}
    {L : OptLoop w} {r : Option (Expr w) × Option (Expr w) × Option (Expr w)}
    (hv : S var) (hp : VarsIn S p) (hl : LinOk S lin) (hL : ExprOk S L)
    (h : loopMotion s ps var p complete reads C lin otherPending L = .ok r) :
    (∀ e, r.1 = some e → VarsIn S e) ∧ (∀ e, r.2.1 = some e → VarsIn S e) ∧
    (∀ e, r.2.2 = some e → VarsIn S e) := by
  have hred : ∀ p', reduceConst s ps p C = .ok p' → VarsIn S p' := fun p' hp' =>
    varsIn_iff.2 (fun x hx => varsIn_iff.1 hp x (OptLoop.reduceConst_varsIn s ps p p' C hp' x hx))
  cases OptLoop.loopMotion_cases s ps var p complete reads C lin otherPending L r h with
  | gone => exact ⟨none_ok, none_ok, none_ok⟩
  | after p' h1 => exact ⟨none_ok, none_ok, some_ok (hred p' h1)⟩
  | tri p' expr inc cst other linears _ _ _ h1 h2 h3 h4 =>
    have hp' := hred p' h1
    have hexpr := hL expr h2
    have hinc := varsIn_prodIncOf h3 hp'
    obtain ⟨_, _, hcst, hoth, hlin⟩ := OptLoop.splitAlong_recompose inc C lin cst other linears h4
    have hcst' : VarsIn S cst := fun q hq => hinc q (hcst q hq)
    have hoth' : VarsIn S other := fun q hq => hinc q (hoth q hq)
    have hlin' : ∀ il ∈ linears, VarsIn S il.1 ∧ VarsIn S il.2 := by
      intro il hil
      obtain ⟨part, lv, l, hpart, e1, _, _, hget, e2, _, _⟩ := hlin il hil
      have hpv : ∀ x ∈ part.vars, S x := hinc part hpart
      refine ⟨by rw [e1]; exact varsIn_single hpv, ?_⟩
      rw [e2]
      refine varsIn_mul _ _ (varsIn_single ?_) (hl _ (OptLoop.mem_of_mGet hget))
      intro x hx
      exact hpv x (List.mem_filter.1 hx).1
    obtain ⟨f1, f2⟩ := triFold_varsIn hexpr linears (Expr.mul expr cst, other) hlin'
      (varsIn_mul _ _ hexpr hcst') hoth'
    exact ⟨some_ok (varsIn_add _ _ (varsIn_var hv) f1), some_ok (varsIn_add _ _ (varsIn_var hv) f2), none_ok⟩
  | geo0 p' expr inc mul c =>
    exact ⟨some_ok (varsIn_mul _ _ (varsIn_val _) (varsIn_var hv)), none_ok, none_ok⟩
  | geo p' expr inc mul c _ _ _ h1 _ h3 =>
    have hinc := varsIn_prodIncOf h3 (hred p' h1)
    exact ⟨some_ok (varsIn_add _ _ (varsIn_mul _ _ (varsIn_val _) (varsIn_var hv))
      (varsIn_mul _ _ (varsIn_val _) hinc)), none_ok, none_ok⟩
  | stay p' h1 => exact ⟨none_ok, some_ok (hred p' h1), none_ok⟩

end Hpbf.OptOffs
