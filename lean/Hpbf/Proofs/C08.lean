/-
I/O failures.  In each machine (`Bf`, `Inplace`, `Ir`, `Bc`) a `.stop` step is an `inp`/`out` whose
`State.input`/`State.output` returned `false`, and a stopped run has made such a step as its last.  A
canonical run with a sink that refuses after `k` bytes goes in lock-step with the run with a sink that never
refuses, up to the refused byte.
-/
import Hpbf.Proofs.C04
import Hpbf.Proofs.C11Step
import Hpbf.Proofs.IrStep

namespace Hpbf
namespace C08

theorem ite_eq_or {α : Type} {P : Prop} [Decidable P] {a b x : α} (h : (if P then a else b) = x) :
    a = x ∨ b = x := by
  split at h
  · exact .inl h
  · exact .inr h

variable {w : Nat}

def outByte (s : State w) (off : Int) : UInt8 := UInt8.ofNat (Cell.intoU8 (s.rd off)).toNat

theorem intoU8_toNat (x : BitVec w) : (Cell.intoU8 x).toNat = x.toNat % 256 := by
  simp only [Cell.intoU8, Cell.intoU64, BitVec.toNat_setWidth]
  omega

theorem fromU8_zero : Cell.fromU8 (w := w) (BitVec.ofNat 8 (0 : UInt8).toNat) = 0#w := by
  simp [Cell.fromU8, Cell.fromU64]

theorem input_eof (s : State w) (off : Int) (h : s.env.input = some []) :
    s.input off = (true, { s.wr off 0#w with trace := Ev.inp 0 :: s.trace }) := by
  have hr : s.env.readByte = .got 0 s.env := by simp [Env.readByte, h]
  simp only [State.input, hr, fromU8_zero]
  rfl

theorem input_eof_reply (s : State w) (off : Int) (rest : List InResp)
    (h : s.env.input = some (.eof :: rest)) :
    s.input off = (true, { s.wr off 0#w with env := { s.env with input := some rest },
                                              trace := Ev.inp 0 :: s.trace }) := by
  have hr : s.env.readByte = .got 0 { s.env with input := some rest } := by simp [Env.readByte, h]
  simp only [State.input, hr, fromU8_zero]

theorem input_byte (s : State w) (off : Int) (b : UInt8) (rest : List InResp)
    (h : s.env.input = some (.byte b :: rest)) :
    s.input off = (true, { s.wr off (Cell.fromU8 (BitVec.ofNat 8 b.toNat)) with
                             env := { s.env with input := some rest }, trace := Ev.inp b :: s.trace }) := by
  have hr : s.env.readByte = .got b { s.env with input := some rest } := by simp [Env.readByte, h]
  simp only [State.input, hr]

theorem input_err (s : State w) (off : Int) (rest : List InResp)
    (h : s.env.input = some (.err :: rest)) :
    s.input off = (false, { s with env := { s.env with input := some rest },
                                   trace := Ev.inpFail :: s.trace }) := by
  have hr : s.env.readByte = .failed { s.env with input := some rest } := by simp [Env.readByte, h]
  simp only [State.input, hr]

theorem input_absent (s : State w) (off : Int) (h : s.env.input = none) : s.input off = (false, s) := by
  have hr : s.env.readByte = .absent := by simp [Env.readByte, h]
  simp only [State.input, hr]

theorem output_no_sink (s : State w) (off : Int) (h : s.env.sink = false) : s.output off = (true, s) := by
  simp [State.output, h]

theorem output_refused (s : State w) (off : Int) (hs : s.env.sink = true) (h : s.env.outOk = some 0) :
    s.output off = (false, { s with trace := Ev.outFail (outByte s off) :: s.trace }) := by
  simp [State.output, hs, Env.writeByte, h, outByte]

theorem output_unlimited (s : State w) (off : Int) (hs : s.env.sink = true) (h : s.env.outOk = none) :
    s.output off = (true, { s with trace := Ev.out (outByte s off) :: s.trace }) := by
  simp [State.output, hs, Env.writeByte, h, outByte]

theorem output_counted (s : State w) (off : Int) (k : Nat) (hs : s.env.sink = true)
    (h : s.env.outOk = some (k + 1)) :
    s.output off = (true, { s with env := { s.env with outOk := some k },
                                   trace := Ev.out (outByte s off) :: s.trace }) := by
  simp [State.output, hs, Env.writeByte, h, outByte]

theorem input_false {s t : State w} {off : Int} (h : s.input off = (false, t)) :
    (s.env.input = none ∧ t = s) ∨
    (∃ rest, s.env.input = some (.err :: rest) ∧
      t = { s with env := { s.env with input := some rest }, trace := Ev.inpFail :: s.trace }) := by
  rcases hi : s.env.input with _ | l
  · left; rw [input_absent s off hi] at h; cases h; exact ⟨rfl, rfl⟩
  · rcases l with _ | ⟨r, rest⟩
    · rw [input_eof s off hi] at h; cases h
    · cases r with
      | byte b => rw [input_byte s off b rest hi] at h; cases h
      | eof => rw [input_eof_reply s off rest hi] at h; cases h
      | err => right; rw [input_err s off rest hi] at h; cases h; exact ⟨rest, rfl, rfl⟩

theorem output_false {s t : State w} {off : Int} (h : s.output off = (false, t)) :
    s.env.sink = true ∧ s.env.outOk = some 0 ∧
      t = { s with trace := Ev.outFail (outByte s off) :: s.trace } := by
  cases hs : s.env.sink with
  | false => rw [output_no_sink s off hs] at h; cases h
  | true =>
    rcases ho : s.env.outOk with _ | k
    · rw [output_unlimited s off hs ho] at h; cases h
    · cases k with
      | zero => rw [output_refused s off hs ho] at h; cases h; exact ⟨rfl, rfl, rfl⟩
      | succ k => rw [output_counted s off k hs ho] at h; cases h

def BfStopAt (c : Bf.Config w) (s : State w) : Prop :=
  ∃ rest, (c.cur = .cmd .inp rest ∧ c.st.input 0 = (false, s)) ∨
          (c.cur = .cmd .out rest ∧ c.st.output 0 = (false, s))

theorem bf_step_stop {c : Bf.Config w} {s : State w} (h : Bf.step c = .stop s) : BfStopAt c s := by
  obtain ⟨cur, conts, st⟩ := c
  cases cur with
  | nil => cases conts <;> simp [Bf.step] at h
  | cmd op rest =>
    simp only [Bf.step] at h
    rcases ha : Bf.applyOp op st with ⟨ok, s'⟩
    rw [ha] at h
    cases ok
    · simp only [Bf.StepRes.stop.injEq] at h
      subst h
      cases op <;> simp only [Bf.applyOp, Prod.mk.injEq, Bool.true_eq_false, false_and] at ha
      · exact ⟨rest, Or.inl ⟨rfl, ha⟩⟩
      · exact ⟨rest, Or.inr ⟨rfl, ha⟩⟩
    · cases h
  | loop body rest =>
    simp only [Bf.step] at h
    split at h <;> cases h

theorem bf_run_stopped {f : Nat} {c0 : Bf.Config w} {s : State w} (h : Bf.runCfg f c0 = .stopped s) :
    ∃ n c, n < f ∧ Bf.runCfg n c0 = .outOfFuel c ∧ Bf.step c = .stop s := by
  obtain ⟨n, c, hn, hr, hg⟩ := Bf.fuelRun.last (f := f) (c := c0) (fun _ e => by rw [h] at e; cases e)
  refine ⟨n, c, hn, hr, ?_⟩
  have := hg 0
  rw [h, Bf.runCfg] at this
  cases hs : Bf.step c <;> rw [hs] at this <;> cases this
  rfl

def InplaceStopAt (code : Array Kind) (c c' : Inplace.Cfg w) : Prop :=
  (code[c.pc]? = some .inp ∧ c.st.input 0 = (false, c'.st)) ∨
  (code[c.pc]? = some .out ∧ c.st.output 0 = (false, c'.st))

theorem inplace_step_stop {code : Array Kind} {l : Bool} {c c' : Inplace.Cfg w}
    (h : Inplace.step code l c = .stopped c') : InplaceStopAt code c c' := by
  unfold Inplace.step at h
  cases hk : code[c.pc]? with
  | none => rw [hk] at h; cases h
  | some k =>
    rw [hk] at h
    cases k with
    | inp =>
      simp only at h
      rcases hi : c.st.input 0 with ⟨_ | _, s⟩ <;> rw [hi] at h <;> cases h
      exact Or.inl ⟨hk, hi⟩
    | out =>
      simp only at h
      rcases hi : c.st.output 0 with ⟨_ | _, s⟩ <;> rw [hi] at h <;> cases h
      exact Or.inr ⟨hk, hi⟩
    | «open» => rcases ite_eq_or h with e | e <;> cases e
    | close =>
      rcases ite_eq_or h with e | e
      · cases e
      · cases hs : c.stack with
        | nil => simp only [hs] at e; cases e
        | cons t rest =>
          simp only [hs] at e
          rcases ite_eq_or e with e | e <;> cases e
    | _ => cases h

theorem inplace_run_stopped {code : Array Kind} {l : Bool} {f : Nat} {c0 c' : Inplace.Cfg w}
    (h : Inplace.runCfg code l f c0 = .stopped c') :
    ∃ n c, n < f ∧ Inplace.runCfg code l n c0 = .outOfFuel c ∧ Inplace.step code l c = .stopped c' := by
  obtain ⟨n, c, hn, hr, hg⟩ := (Inplace.fuelRun code l).last (f := f) (c := c0) (fun _ e => by rw [h] at e; cases e)
  refine ⟨n, c, hn, hr, ?_⟩
  have := hg 0
  rw [h, Inplace.runCfg] at this
  cases hs : Inplace.step code l c <;> rw [hs] at this <;> cases this
  rfl

def IrStopAt (c c' : Ir.Cfg w) : Prop :=
  ∃ rest, (∃ dst, c.cur = .input dst :: rest ∧ c.st.input dst = (false, c'.st)) ∨
          (∃ src, c.cur = .output src :: rest ∧ c.st.output src = (false, c'.st))

theorem ir_step_stop {l : Bool} {c c' : Ir.Cfg w} (h : Ir.step l c = .stop c') : IrStopAt c c' := by
  have hs := Ir.step_shape l c
  rw [h] at hs
  clear h
  cases hs with
  | ioFail i rest ks b st s hio =>
    rcases Ir.io?_eq hio with ⟨src, rfl, e⟩ | ⟨dst, rfl, e⟩
    · exact ⟨rest, Or.inr ⟨_, rfl, e⟩⟩
    · exact ⟨rest, Or.inl ⟨_, rfl, e⟩⟩

theorem ir_run_stopped {l : Bool} {f : Nat} {c0 c' : Ir.Cfg w} (h : Ir.runCfg l f c0 = .stopped c') :
    ∃ n c, n < f ∧ Ir.runCfg l n c0 = .outOfFuel c ∧ Ir.step l c = .stop c' := by
  obtain ⟨n, c, hn, hr, hg⟩ := (Ir.fuelRun l).last (f := f) (c := c0) (fun _ e => by rw [h] at e; cases e)
  refine ⟨n, c, hn, hr, ?_⟩
  have := hg 0
  rw [h, Ir.runCfg] at this
  cases hs : Ir.step l c <;> rw [hs] at this <;> cases this
  rfl

theorem branch_ne_stop {p : Bc.Program w} {l : Bool} {c c' : Bc.Cfg w} {taken : Bool} {off : Int}
    (h : C11.branch p l c taken off = .stop c') : False := by
  unfold C11.branch at h
  by_cases hb : l = true ∧ c.budget ≤ 1
  · rw [if_pos hb] at h; cases h
  · rw [if_neg hb] at h
    cases taken with
    | false => cases h
    | true =>
      simp only [if_true] at h
      cases ht : Bc.branchTarget c.pc off p.insts.size <;> rw [ht] at h <;> cases h

def BcStopAt (p : Bc.Program w) (c c' : Bc.Cfg w) : Prop :=
  (∃ dst, p.insts[c.pc]? = some (.inp dst) ∧ c.st.input dst = (false, c'.st)) ∨
  (∃ src, p.insts[c.pc]? = some (.out src) ∧ c.st.output src = (false, c'.st))

theorem bc_step_stop {p : Bc.Program w} {l : Bool} {c c' : Bc.Cfg w}
    (h : Bc.step p l c = .stop c') : BcStopAt p c c' ∧ c'.pc = c.pc ∧ c'.temps = c.temps := by
  cases hi : p.insts[c.pc]? with
  | none =>
    rw [C11.step_none hi] at h
    rcases ite_eq_or h with e | e <;> cases e
  | some ins =>
    rw [C11.step_eq hi] at h
    cases ins with
    | inp dst =>
      simp only [C11.stepI] at h
      split at h <;> cases h
      rename_i hf
      exact ⟨Or.inl ⟨dst, hi, Prod.ext ((Bool.not_eq_true _).mp hf) rfl⟩, rfl, rfl⟩
    | out src =>
      simp only [C11.stepI] at h
      split at h <;> cases h
      rename_i hf
      exact ⟨Or.inr ⟨src, hi, Prod.ext ((Bool.not_eq_true _).mp hf) rfl⟩, rfl, rfl⟩
    | noop | mov sh => cases h
    | scan cond sh => rcases C11.scan_cases p l c cond sh with e | e | e | e <;> rw [e] at h <;> cases h
    | brz cond off | brnz cond off => exact (branch_ne_stop h).elim
    | _ => rcases ite_eq_or h with e | e <;> cases e

theorem bc_run_stopped {p : Bc.Program w} {l : Bool} {f : Nat} {c0 c' : Bc.Cfg w}
    (h : Bc.runCfg p l f c0 = .stopped c') :
    ∃ n c, n < f ∧ Bc.runCfg p l n c0 = .outOfFuel c ∧ Bc.step p l c = .stop c' := by
  obtain ⟨n, c, hn, hr, hg⟩ := (Bc.fuelRun p l).last (f := f) (c := c0) (fun _ e => by rw [h] at e; cases e)
  refine ⟨n, c, hn, hr, ?_⟩
  have := hg 0
  rw [h, Bc.runCfg] at this
  cases hs : Bc.step p l c <;> rw [hs] at this <;> cases this
  rfl

theorem inplace_run_split {code : Array Kind} {l : Bool} {n : Nat} {c0 c : Inplace.Cfg w}
    (h : Inplace.runCfg code l n c0 = .outOfFuel c) (m : Nat) :
    Inplace.runCfg code l (n + m) c0 = Inplace.runCfg code l m c := (Inplace.fuelRun code l).split h m

def NoRefusal (t : List Ev) : Prop := ∀ b, Ev.outFail b ∉ t

/-- `s` runs with the refusing sink, `s'` with the sink that never refuses; so far no refusal. -/
structure Agree (s s' : State w) : Prop where
  tape : s.tape = s'.tape
  ptr : s.ptr = s'.ptr
  trace : s.trace = s'.trace
  inp : s.env.input = s'.env.input
  snk : s.env.sink = s'.env.sink
  never : s'.env.outOk = none
  clean : NoRefusal s'.trace

structure AgreeC (c c' : Bf.Config w) : Prop where
  cur : c.cur = c'.cur
  conts : c.conts = c'.conts
  st : Agree c.st c'.st

theorem NoRefusal.cons {t : List Ev} (h : NoRefusal t) {e : Ev} (he : ∀ b, e ≠ Ev.outFail b) :
    NoRefusal (e :: t) := by
  intro b hb
  rcases List.mem_cons.1 hb with hb | hb
  · exact he b hb.symm
  · exact h b hb

theorem Agree.rd {s s' : State w} (h : Agree s s') (off : Int) : s.rd off = s'.rd off := by
  simp [State.rd, h.tape, h.ptr]

theorem Agree.outByte_eq {s s' : State w} (h : Agree s s') (off : Int) : outByte s off = outByte s' off := by
  simp [C08.outByte, h.rd]

theorem Agree.wr {s s' : State w} (h : Agree s s') (off : Int) (v : BitVec w) :
    Agree (s.wr off v) (s'.wr off v) := by
  refine ⟨?_, h.ptr, h.trace, h.inp, h.snk, h.never, h.clean⟩
  simp [State.wr, h.tape, h.ptr]

theorem Agree.mov {s s' : State w} (h : Agree s s') (d : Int) : Agree (s.mov d) (s'.mov d) := by
  refine ⟨h.tape, ?_, h.trace, h.inp, h.snk, h.never, h.clean⟩
  simp [State.mov, h.ptr]

theorem readByte_congr {e e' : Env} (h : e.input = e'.input) :
    match e.readByte, e'.readByte with
    | .got b e1, .got b' e1' => b = b' ∧ e1.input = e1'.input ∧ e1.sink = e.sink ∧ e1'.sink = e'.sink ∧
        e1'.outOk = e'.outOk
    | .failed e1, .failed e1' => e1.input = e1'.input ∧ e1.sink = e.sink ∧ e1'.sink = e'.sink ∧
        e1'.outOk = e'.outOk
    | .absent, .absent => True
    | _, _ => False := by
  rcases hi : e.input with _ | l
  · have hi' : e'.input = none := by rw [← h, hi]
    simp [Env.readByte, hi, hi']
  · have hi' : e'.input = some l := by rw [← h, hi]
    rcases l with _ | ⟨r, rest⟩
    · simp [Env.readByte, hi, hi']
    · cases r <;> simp [Env.readByte, hi, hi']

theorem Agree.input {s s' : State w} (h : Agree s s') (off : Int) :
    (s.input off).1 = (s'.input off).1 ∧ Agree (s.input off).2 (s'.input off).2 := by
  have hc := readByte_congr h.inp
  unfold State.input
  cases hr : s.env.readByte with
  | got b e1 =>
    cases hr' : s'.env.readByte with
    | got b' e1' =>
      rw [hr, hr'] at hc
      obtain ⟨rfl, hi, hs, hs', ho⟩ := hc
      refine ⟨rfl, ?_⟩
      have hw := h.wr off (Cell.fromU8 (BitVec.ofNat 8 b.toNat))
      exact ⟨hw.tape, hw.ptr, by simp [h.trace], hi, by simp [hs, hs', h.snk], by simp [ho, h.never],
        h.clean.cons (by intro b; simp)⟩
    | failed e1' => rw [hr, hr'] at hc; exact hc.elim
    | absent => rw [hr, hr'] at hc; exact hc.elim
  | failed e1 =>
    cases hr' : s'.env.readByte with
    | got b' e1' => rw [hr, hr'] at hc; exact hc.elim
    | failed e1' =>
      rw [hr, hr'] at hc
      obtain ⟨hi, hs, hs', ho⟩ := hc
      exact ⟨rfl, h.tape, h.ptr, by simp [h.trace], hi, by simp [hs, hs', h.snk], by simp [ho, h.never],
        h.clean.cons (by intro b; simp)⟩
    | absent => rw [hr, hr'] at hc; exact hc.elim
  | absent =>
    cases hr' : s'.env.readByte with
    | got b' e1' => rw [hr, hr'] at hc; exact hc.elim
    | failed e1' => rw [hr, hr'] at hc; exact hc.elim
    | absent => exact ⟨rfl, h⟩

theorem Agree.output {s s' : State w} (h : Agree s s') (off : Int) :
    ((s.output off).1 = true ∧ (s'.output off).1 = true ∧ Agree (s.output off).2 (s'.output off).2) ∨
    ((s.output off).1 = false ∧ (s'.output off).1 = true ∧
      (s.output off).2.trace = Ev.outFail (outByte s off) :: s.trace ∧
      (s'.output off).2.trace = Ev.out (outByte s off) :: s.trace) := by
  cases hs : s.env.sink with
  | false =>
    left
    rw [output_no_sink s off hs, output_no_sink s' off (by rw [← h.snk]; exact hs)]
    exact ⟨rfl, rfl, h⟩
  | true =>
    have hs' : s'.env.sink = true := by rw [← h.snk]; exact hs
    rw [output_unlimited s' off hs' h.never]
    rcases ho : s.env.outOk with _ | k
    · left
      rw [output_unlimited s off hs ho]
      exact ⟨rfl, rfl, h.tape, h.ptr, by simp [h.trace, h.outByte_eq], h.inp, h.snk, h.never,
        h.clean.cons (by intro b; simp)⟩
    · cases k with
      | zero =>
        right
        rw [output_refused s off hs ho]
        exact ⟨rfl, rfl, rfl, by simp [h.trace, h.outByte_eq]⟩
      | succ k =>
        left
        rw [output_counted s off k hs ho]
        exact ⟨rfl, rfl, h.tape, h.ptr, by simp [h.trace, h.outByte_eq], h.inp, h.snk, h.never,
          h.clean.cons (by intro b; simp)⟩

def AgreeStep (c : Bf.Config w) : Bf.StepRes w → Bf.StepRes w → Prop
  | .next c1, .next c1' => AgreeC c1 c1'
  | .halt s, .halt s' => Agree s s'
  | .stop s, .stop s' => Agree s s'
  | .stop s, .next c1' =>
    ∃ b, s.trace = Ev.outFail b :: c.st.trace ∧ c1'.st.trace = Ev.out b :: c.st.trace
  | _, _ => False

theorem agree_step {c c' : Bf.Config w} (h : AgreeC c c') : AgreeStep c (Bf.step c) (Bf.step c') := by
  obtain ⟨cur, conts, st⟩ := c
  obtain ⟨cur', conts', st'⟩ := c'
  obtain ⟨hc, hk, hs⟩ := h
  simp only at hc hk hs
  subst hc hk
  cases cur with
  | nil =>
    cases conts with
    | nil => exact hs
    | cons k ks => exact ⟨rfl, rfl, hs⟩
  | cmd op rest =>
    cases op with
    | inc => simp only [Bf.step, Bf.applyOp, hs.rd]; exact ⟨rfl, rfl, hs.wr _ _⟩
    | dec => simp only [Bf.step, Bf.applyOp, hs.rd]; exact ⟨rfl, rfl, hs.wr _ _⟩
    | left => exact ⟨rfl, rfl, hs.mov _⟩
    | right => exact ⟨rfl, rfl, hs.mov _⟩
    | inp =>
      have := hs.input 0
      simp only [Bf.step, Bf.applyOp]
      rcases h1 : st.input 0 with ⟨ok, t⟩
      rcases h2 : st'.input 0 with ⟨ok', t'⟩
      rw [h1, h2] at this
      obtain ⟨hok, hag⟩ := this
      simp only at hok hag
      subst hok
      cases ok
      · exact hag
      · exact ⟨rfl, rfl, hag⟩
    | out =>
      have := hs.output 0
      simp only [Bf.step, Bf.applyOp]
      rcases h1 : st.output 0 with ⟨ok, t⟩
      rcases h2 : st'.output 0 with ⟨ok', t'⟩
      rw [h1, h2] at this
      simp only at this
      rcases this with ⟨rfl, rfl, hag⟩ | ⟨rfl, rfl, ht, ht'⟩
      · exact ⟨rfl, rfl, hag⟩
      · exact ⟨_, ht, ht'⟩
  | loop body rest =>
    simp only [Bf.step, ← hs.rd 0]
    split
    · exact ⟨rfl, rfl, hs⟩
    · exact ⟨rfl, rfl, hs⟩

/-- `c'` runs with the sink that never refuses.  In the last case the other run stopped at a refused byte `b`
and this one has, after some `g ≤ f` steps, the same events with `out b` in place of `outFail b`. -/
def AgreeRun (f : Nat) (c' : Bf.Config w) : Bf.Outcome w → Prop
  | .done s => ∃ s', Bf.runCfg f c' = .done s' ∧ Agree s s'
  | .outOfFuel c1 => ∃ c1', Bf.runCfg f c' = .outOfFuel c1' ∧ AgreeC c1 c1'
  | .stopped s =>
    (∃ s', Bf.runCfg f c' = .stopped s' ∧ Agree s s') ∨
    (∃ g b t c1', g ≤ f ∧ s.trace = Ev.outFail b :: t ∧ Bf.runCfg g c' = .outOfFuel c1' ∧
      c1'.st.trace = Ev.out b :: t)

/-- Not a lock-step (`FuelRun.lockstepQ`): at the refused byte one run stops and the other goes on, and the conclusion
names the fuel `g ≤ f` at which that happened. -/
theorem agree_run (f : Nat) : ∀ {c c' : Bf.Config w}, AgreeC c c' → AgreeRun f c' (Bf.runCfg f c) := by
  induction f with
  | zero => intro c c' h; exact ⟨c', rfl, h⟩
  | succ f ih =>
    intro c c' h
    have hst := agree_step h
    cases h1 : Bf.step c with
    | next c1 =>
      cases h2 : Bf.step c' with
      | next c1' =>
        rw [h1, h2] at hst
        rw [Bf.runCfg_succ_next h1]
        have := ih hst
        cases hr : Bf.runCfg f c1 with
        | done s =>
          rw [hr] at this
          obtain ⟨s', hs', hag⟩ := this
          exact ⟨s', by rw [Bf.runCfg_succ_next h2]; exact hs', hag⟩
        | outOfFuel c2 =>
          rw [hr] at this
          obtain ⟨c2', hs', hag⟩ := this
          exact ⟨c2', by rw [Bf.runCfg_succ_next h2]; exact hs', hag⟩
        | stopped s =>
          rw [hr] at this
          rcases this with ⟨s', hs', hag⟩ | ⟨g, b, t, c2', hg, ht, hrun, ht'⟩
          · exact Or.inl ⟨s', by rw [Bf.runCfg_succ_next h2]; exact hs', hag⟩
          · exact Or.inr ⟨g + 1, b, t, c2', by omega, ht,
              by rw [Bf.runCfg_succ_next h2]; exact hrun, ht'⟩
      | halt s' => rw [h1, h2] at hst; exact hst.elim
      | stop s' => rw [h1, h2] at hst; exact hst.elim
    | halt s =>
      cases h2 : Bf.step c' with
      | next c1' => rw [h1, h2] at hst; exact hst.elim
      | halt s' =>
        rw [h1, h2] at hst
        rw [Bf.runCfg_succ_halt h1]
        exact ⟨s', Bf.runCfg_succ_halt h2 f, hst⟩
      | stop s' => rw [h1, h2] at hst; exact hst.elim
    | stop s =>
      cases h2 : Bf.step c' with
      | next c1' =>
        rw [h1, h2] at hst
        obtain ⟨b, ht, ht'⟩ := hst
        rw [Bf.runCfg_succ_stop h1]
        exact Or.inr ⟨1, b, _, c1', by omega, ht, by rw [Bf.runCfg_succ_next h2]; rfl, ht'⟩
      | halt s' => rw [h1, h2] at hst; exact hst.elim
      | stop s' =>
        rw [h1, h2] at hst
        rw [Bf.runCfg_succ_stop h1]
        exact Or.inl ⟨s', Bf.runCfg_succ_stop h2 f, hst⟩

end C08
end Hpbf
