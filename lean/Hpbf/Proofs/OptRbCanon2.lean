/-
The first step relation carried through the rebuild, `SK`: normal form (`CStep`: `Wf`, `CanonSt`, the code grows by
good instructions) together with known variables and `reads` (`KStep`, `RS` of `OptRbKnown`).  Here: the emitting
primitives, `performAll` and the non-loop arms of `rebuildInstr`, as triples `Tri t … (SK H s)` with the mode `t`
free: `t = false` is the statement about successful runs, `t = true` adds that the operation panics on no oracle.
After the triples of each file come their `.ok` readings that other passes use.
Also the parser output (`parse_good`, by `C01.parse_induct`).
-/
import Hpbf.Proofs.OptRbKnown
import Hpbf.Proofs.OptRbRec
import Hpbf.Proofs.OptTotalDfs
import Hpbf.Proofs.OptTotalPure
import Hpbf.Proofs.C01ParseInd
import Hpbf.Proofs.C01Rel
import Hpbf.Proofs.OptRbStep

namespace Hpbf
namespace OptProof
open Opt OptSem Ir
open OptTotal (gatherForEmit_safe evalPending_ok)

variable {w : Nat}

structure CStep (s s' : Rebuild w) : Prop where
  wf : Wf s'
  canon : CanonSt s'
  insts : ∃ new, s'.insts = s.insts ++ new ∧ GoodL new

theorem CStep.refl {s : Rebuild w} (hwf : Wf s) (hc : CanonSt s) : CStep s s :=
  ⟨hwf, hc, [], by simp, goodL_nil⟩

theorem CStep.trans {a b c : Rebuild w} (h1 : CStep a b) (h2 : CStep b c) : CStep a c := by
  obtain ⟨n1, e1, g1⟩ := h1.insts
  obtain ⟨n2, e2, g2⟩ := h2.insts
  exact ⟨h2.wf, h2.canon, n1 ++ n2, by rw [e2, e1, List.append_assoc], goodL_append.2 ⟨g1, g2⟩⟩


theorem CStep.out {s s' : Rebuild w} (h : CStep s s') :
    CanonSt s' ∧ ∃ new, s'.insts = s.insts ++ new ∧ GoodL new := ⟨h.canon, h.insts⟩

theorem CStep.push {s s1 s2 : Rebuild w} (h : CStep s s1) (hwf : Wf s2) (hc : CanonSt s2)
    {l : List (Instr w)} (hi : s2.insts = s1.insts ++ l) (hl : GoodL l) : CStep s s2 := by
  obtain ⟨n1, e1, g1⟩ := h.insts
  exact ⟨hwf, hc, n1 ++ l, by rw [hi, e1, List.append_assoc], goodL_append.2 ⟨g1, hl⟩⟩

theorem CStep.same {s s1 s2 : Rebuild w} (h : CStep s s1) (hwf : Wf s2) (hc : CanonSt s2)
    (hi : s2.insts = s1.insts) : CStep s s2 :=
  h.push hwf hc (l := []) (by rw [hi]; simp) goodL_nil

theorem CStep.read {s s1 : Rebuild w} (h : CStep s s1) (var : Int) : CStep s (Opt.read s1 var) :=
  h.same ((read_same s1 var).wf h.wf) (read_canon h.canon var) (read_same s1 var).insts

theorem CStep.removePending {s s1 : Rebuild w} (h : CStep s s1) (var : Int) :
    CStep s (removePending s1 var).1 :=
  h.same (removePending_wf h.wf var) (removePending_canon h.wf h.canon var)
    (removePending_same s1 var).insts

theorem CStep.insertWritten {s s1 : Rebuild w} (h : CStep s s1) (var : Int) (val : OptWrite w)
    (hv : ∀ e, val = .known e → Expr.Canon e) : CStep s (insertWritten s1 var val) :=
  h.same (insertWritten_wf h.wf var val) (insertWritten_canon h.canon var val hv)
    (insertWritten_same s1 var val).insts

theorem CStep.of_fields {s s1 s2 : Rebuild w} (h : CStep s s1) (hp : s2.pending = s1.pending)
    (hw : s2.written = s1.written) (hr : s2.reverse = s1.reverse) (hi : s2.insts = s1.insts) :
    CStep s s2 :=
  h.same ⟨by rw [hp]; exact h.wf.pend, by rw [hw]; exact h.wf.writ, by rw [hr]; exact h.wf.rev,
    by rw [hp, hr]; exact h.wf.revOk⟩ (h.canon.of_eq hp hw) hi

theorem CStep.uncertainShift {s s1 : Rebuild w} (h : CStep s s1) : CStep s (uncertainShift s1) :=
  h.same (uncertainShift_wf h.wf) (uncertainShift_canon h.canon) rfl

theorem known_val_canon (c : BitVec w) : ∀ e, (OptWrite.known (Expr.val c) : OptWrite w) = .known e →
    Expr.Canon e := by
  intro e h
  simp only [OptWrite.known.injEq] at h
  subst h; exact Expr.canon_val c

theorem writtenCalcs_wf {s : Rebuild w} (h : Wf s) (ps : List (Rebuild w)) (calcs : List (Int × Expr w)) :
    Wf (writtenCalcs s ps calcs) := by
  obtain ⟨hs, _, hwr⟩ := writtenCalcs_eq s ps calcs
  refine ⟨by rw [hs.pending]; exact h.pend, by rw [hwr]; exact sorted_foldl_mSet _ h.writ,
    by rw [hs.reverse]; exact h.rev, ?_⟩
  rw [hs.pending, hs.reverse]; exact h.revOk

theorem CStep.writtenCalcs {s s1 : Rebuild w} (h : CStep s s1) (ps : List (Rebuild w))
    {calcs : List (Int × Expr w)} (hcalcs : CanonCalcs calcs) : CStep s (writtenCalcs s1 ps calcs) :=
  h.same (writtenCalcs_wf h.wf ps calcs) (writtenCalcs_canon h.canon ps hcalcs)
    (writtenCalcs_eq s1 ps calcs).1.insts

theorem Wf.pushInsts {s : Rebuild w} (h : Wf s) (l : List (Instr w)) :
    Wf ({ s with insts := s.insts ++ l } : Rebuild w) := ⟨h.pend, h.writ, h.rev, h.revOk⟩

theorem CanonSt.pushInsts {s : Rebuild w} (h : CanonSt s) (l : List (Instr w)) :
    CanonSt ({ s with insts := s.insts ++ l } : Rebuild w) := ⟨h.1, h.2⟩

theorem all2_evalPending_canon {s : Rebuild w} {ps : List (Rebuild w)} {shift : Int}
    {calcs exprs : List (Int × Expr w)} (hc : CanonSt s) (hcalcs : CanonCalcs calcs)
    (hf : All2 (fun vc ve => ve.1 = shift + vc.1 ∧ evalPending s ps shift vc.2 = .ok ve.2) calcs exprs) :
    CanonCalcs exprs := by
  induction hf with
  | nil => intro ve h; cases h
  | cons hab _ ih =>
    intro ve h
    rcases List.mem_cons.1 h with rfl | h
    · exact evalPending_canon hc ps hab.2 (hcalcs _ (by simp))
    · exact ih (fun vc hvc => hcalcs vc (by simp [hvc])) ve h

/-- The step relation carried through the rebuild: normal form (`CStep`), known variables (`KStep`) and `reads`
(`RS`) together.  `H` is a hypothesis under which the `KStep` half is claimed: the steps that merge a child state
into its parent keep `KnownVars` only if the child has it; everywhere else `H` is arbitrary. -/
structure SK (H : Prop) (s s' : Rebuild w) : Prop where
  c : CStep s s'
  k : H → KStep s s'
  r : RS s s'

section
variable {H : Prop}

theorem SK.of {s s' : Rebuild w} (c : CStep s s') (k : KStep s s') (r : RS s s') : SK H s s' := ⟨c, fun _ => k, r⟩

theorem SK.wf {s s' : Rebuild w} (h : SK H s s') : Wf s' := h.c.wf

theorem SK.canon {s s' : Rebuild w} (h : SK H s s') : CanonSt s' := h.c.canon

theorem SK.refl {s : Rebuild w} (hwf : Wf s) (hc : CanonSt s) : SK H s s :=
  .of (CStep.refl hwf hc) (KStep.refl s) (RS.refl s)

theorem SK.trans {a b c : Rebuild w} (h1 : SK H a b) (h2 : SK H b c) : SK H a c :=
  ⟨h1.c.trans h2.c, fun h => (h1.k h).trans (h2.k h), h1.r.trans h2.r⟩

theorem SK.known {s s' : Rebuild w} (h : SK True s s') (hk : KnownVars s) : KnownVars s' := (h.k trivial).known hk

theorem SK.sasc {s s' : Rebuild w} (h : SK H s s') (hs : OptLoop.SAsc s.reads) : OptLoop.SAsc s'.reads :=
  h.r.sasc hs

/-- Followed by a step from `s1` given by its three parts.  The first is asked as a function from the reflexive
step at `s1`, so that the lemmas `CStep.x` apply as `(·.x)`. -/
theorem SK.then {s s1 s2 : Rebuild w} (h : SK H s s1) (c : CStep s1 s1 → CStep s1 s2) (k : KStep s1 s2)
    (r : RS s1 s2) : SK H s s2 :=
  h.trans (.of (c (CStep.refl h.wf h.canon)) k r)

theorem SK.read {s s1 : Rebuild w} (h : SK H s s1) (var : Int) : SK H s (Opt.read s1 var) :=
  h.then (·.read var) (read_kstep s1 var) (read_rs s1 var)

theorem SK.removePending {s s1 : Rebuild w} (h : SK H s s1) (var : Int) : SK H s (removePending s1 var).1 :=
  h.then (·.removePending var) (removePending_kstep s1 var) (removePending_rs s1 var)

theorem SK.mark {s s1 : Rebuild w} (h : SK H s s1) (var : Int) (val : OptWrite w) (hv : ∀ e, val ≠ .known e) :
    SK H s (insertWritten s1 var val) :=
  h.then (·.insertWritten var val (fun e he => absurd he (hv e))) (insertWritten_kstep_nonknown s1 var val hv)
    (insertWritten_rs s1 var val)

theorem SK.setVal {s s1 : Rebuild w} (h : SK H s s1) (var : Int) (c : BitVec w) :
    SK H s (insertWritten s1 var (.known (Expr.val c))) :=
  h.then (·.insertWritten var _ (known_val_canon c)) (insertWritten_kstep_val s1 var c) (insertWritten_rs s1 var _)

theorem SK.fields {s s1 s2 : Rebuild w} (h : SK H s s1) (hp : s2.pending = s1.pending)
    (hw : s2.written = s1.written) (hr : s2.reverse = s1.reverse) (hi : s2.insts = s1.insts)
    (hs : s2.subShift = s1.subShift) (hrd : s2.reads = s1.reads) : SK H s s2 :=
  h.then (·.of_fields hp hw hr hi) (KStep.of_same hs hrd hw) (RS.of_eq hrd)

theorem SK.push {s s1 : Rebuild w} (h : SK H s s1) {l : List (Instr w)} (hl : GoodL l) :
    SK H s ({ s1 with insts := s1.insts ++ l } : Rebuild w) :=
  h.then (·.push (h.wf.pushInsts l) (h.canon.pushInsts l) rfl hl) (KStep.of_same rfl rfl rfl) (RS.of_eq rfl)

theorem SK.uncertainShift {s s1 : Rebuild w} (h : SK H s s1) : SK H s (uncertainShift s1) :=
  h.then (·.uncertainShift) (uncertainShift_kstep s1) (uncertainShift_rs s1)

theorem sk_along (H : Prop) : Along (fun s : Rebuild w => Wf s ∧ CanonSt s) (SK H) :=
  ⟨fun _ h => SK.refl h.1 h.2, fun _ _ _ => SK.trans, fun _ _ _ r => ⟨r.wf, r.canon⟩⟩

theorem gatherEmit_sk {s : Rebuild w} (ps : List (Rebuild w)) (hwf : Wf s) (hc : CanonSt s) (var : Int)
    {os os' : Orders} {s1 : Rebuild w} {toEmit : List (List (Int × Expr w))}
    (hr : (gatherForEmit s [var]).run os = .ok ((s1, toEmit), os')) :
    SK H s (emitStructured s1 ps toEmit) := by
  obtain ⟨⟨g1, g2, g3, g6, g7, _, _⟩, _, _⟩ := gatherForEmit_spec hwf var hr
  have hc1 : CanonSt s1 := by
    constructor
    · intro v e h; exact hc.1 v e (g3 v e h)
    · intro v e h
      rw [g2.written] at h
      exact hc.2 v e h
  have hgc : ∀ g ∈ toEmit, CanonCalcs g := fun g hg ve hve => hc.1 ve.1 ve.2 (g7 g hg ve hve)
  obtain ⟨k1, _, k3, _⟩ := emitStructured_struct g1 ps toEmit
  refine .of ⟨k3, emitStructured_canon hc1 ps hgc, toEmit.map Instr.calc, ?_, ?_⟩
    ((KStep.of_sameButPend g2).trans (emitStructured_kstep s1 ps toEmit))
    ((RS.of_eq g2.reads).trans (emitStructured_rs s1 ps toEmit))
  · rw [k1, g2.insts]
  · exact goodL_calcs (fun g hg => (g6 g hg).1) hgc

variable (t : Bool) (ps : List (Rebuild w))

theorem gather_tri {s : Rebuild w} (var : Int) (hwf : Wf s) (hc : CanonSt s) :
    Tri t (gatherForEmit s [var]) (fun r => SK H s (emitStructured r.1 ps r.2)) :=
  Tri.of (fun _ => gatherForEmit_safe hwf [var]) (fun _ _ _ hr => gatherEmit_sk ps hwf hc var hr)

theorem emit_tri (s : Rebuild w) (var : Int) (h : Wf s ∧ CanonSt s) : Tri t (emit s ps var) (SK H s) :=
  (sk_along H).tri_emit (fun _ var h => gather_tri t ps var h.1 h.2) s var h

theorem clobber_tri (s : Rebuild w) (var : Int) (maybe : Bool) (h : Wf s ∧ CanonSt s) :
    Tri t (clobber s ps var maybe) (SK H s) :=
  (sk_along H).tri_clobber (fun _ var h => gather_tri t ps var h.1 h.2)
    (fun _ var h => (SK.refl h.1 h.2).removePending var)
    (fun _ var k hk h => (SK.refl h.1 h.2).mark var k hk) s var maybe h

theorem performCheck_tri (calcs : List (Int × Expr w)) {s : Rebuild w} (h : Wf s ∧ CanonSt s) :
    Tri t (performCheck s ps calcs) (SK H s) :=
  (sk_along H).tri_performCheck (emit_tri t ps) calcs h

theorem emitAll_tri (vars : List Int) {s : Rebuild w} (h : Wf s ∧ CanonSt s) :
    Tri t (emitAll ps vars s) (SK H s) :=
  (sk_along H).tri_emitAll (emit_tri t ps) vars h

theorem clobberAll_tri (vars : List (Int × Bool)) {s : Rebuild w} (h : Wf s ∧ CanonSt s) :
    Tri t (clobberAll ps vars s) (SK H s) :=
  (sk_along H).tri_clobberAll (clobber_tri t ps) vars h

theorem emitReadAll_tri_cov (vars : List Int) {s : Rebuild w} (h : Wf s ∧ CanonSt s) :
    Tri t (emitReadAll ps vars s)
      (fun s' => SK H s s' ∧ (H → s'.subShift = false → ∀ x ∈ vars, Cov s' x)) := by
  unfold emitReadAll
  induction vars generalizing s with
  | nil =>
    rw [List.foldlM_nil]
    exact Tri.pure ⟨SK.refl h.1 h.2, fun _ _ x hx => by cases hx⟩
  | cons y vars ih =>
    rw [List.foldlM_cons]
    refine ((emit_tri t ps s y h (H := H)).bind (Q := fun s1 => SK H s s1 ∧ Cov s1 y)
      (fun s0 r0 => Tri.pure ⟨r0.read y, read_cov s0 y⟩)).bind (fun s1 r1 => ?_)
    refine (ih ⟨r1.1.wf, r1.1.canon⟩).mono (fun s' r2 => ⟨r1.1.trans r2.1, fun hH hss x hx => ?_⟩)
    rcases List.mem_cons.1 hx with rfl | hx
    · exact (r2.1.k hH).cov hss r1.2
    · exact r2.2 hH hss x hx

theorem emitReadAll_tri (vars : List Int) {s : Rebuild w} (h : Wf s ∧ CanonSt s) :
    Tri t (emitReadAll ps vars s) (SK H s) :=
  (emitReadAll_tri_cov t ps vars h).mono (fun _ r => r.1)

theorem performEval_tri (s : Rebuild w) (shift : Int) (calcs : List (Int × Expr w)) :
    Tri t (performEval s ps shift calcs)
      (All2 (fun vc ve => ve.1 = shift + vc.1 ∧ evalPending s ps shift vc.2 = .ok ve.2) calcs) := by
  unfold performEval
  refine Tri.mapM _ _ calcs (fun vc _ => ?_)
  exact (Tri.lift (fun _ => evalPending_ok s ps shift vc.2) (fun _ hp => hp)).bind
    (fun _ hp => Tri.pure ⟨rfl, hp⟩)

theorem performAll_tri (shift : Int) {calcs : List (Int × Expr w)} {s : Rebuild w} (hwf : Wf s) (hc : CanonSt s)
    (hcalcs : CanonCalcs calcs) : Tri t (performAll s ps shift calcs) (SK H s) := by
  rw [performAll_eq]
  refine (performCheck_tri t ps calcs ⟨hwf, hc⟩ (H := H)).bind (fun s1 r1 =>
    (performEval_tri t ps s1 shift calcs).bind (fun exprs hf => Tri.pure ?_))
  obtain ⟨a, b⟩ := foldl_insertPending_wf r1.wf ps exprs
  exact r1.then (·.same a (foldl_insertPending_canon r1.wf r1.canon ps exprs
    (all2_evalPending_canon r1.canon hcalcs hf)) b.insts) (KStep.of_sameButPend b)
    (RS.of_eq b.reads)

theorem rebuildInstr_plain_tri {s : Rebuild w} {i : Instr w} (hb : C01Dse.isBlock i = false) (hwf : Wf s)
    (hc : CanonSt s) (hi : CanonL [i]) : Tri t (rebuildInstr ps s i) (SK H s) := by
  cases i with
  | output src =>
    rw [rebuildInstr]
    split
    · exact Tri.pure (((SK.refl hwf hc).read _).push (goodL_output _))
    · exact (emit_tri t ps s _ ⟨hwf, hc⟩ (H := H)).bind (fun s1 r1 => Tri.pure ((r1.read _).push (goodL_output _)))
  | input dst =>
    rw [rebuildInstr]
    exact (clobber_tri t ps s _ false ⟨hwf, hc⟩ (H := H)).bind (fun s1 r1 => Tri.pure (r1.push (goodL_input _)))
  | «calc» calcs =>
    rw [rebuildInstr]
    exact performAll_tri t ps s.shift hwf hc (canonL_calc.1 hi)
  | loop c sh b o => cases hb
  | ifnz c sh b => cases hb

end

theorem performAll_canon {s : Rebuild w} {ps : List (Rebuild w)} {shift : Int}
    {calcs : List (Int × Expr w)} {os os' : Orders} {s' : Rebuild w}
    (hr : (performAll s ps shift calcs).run os = .ok (s', os')) (hwf : Wf s) (hc : CanonSt s)
    (hcalcs : CanonCalcs calcs) : CStep s s' :=
  ((performAll_tri false ps shift hwf hc hcalcs (H := True)).post hr).c

theorem rebuildInstr_cstep {ps : List (Rebuild w)} {s : Rebuild w} {i : Instr w} {os os' : Orders}
    {s' : Rebuild w} (hr : (rebuildInstr ps s i).run os = .ok (s', os')) (hwf : Wf s) (hc : CanonSt s)
    (hi : CanonL [i]) (hb : C01Dse.isBlock i = false) : CStep s s' :=
  ((rebuildInstr_plain_tri false ps hb hwf hc hi (H := True)).post hr).c

theorem rebuildInstr_canon {ps : List (Rebuild w)} {s : Rebuild w} {i : Instr w} {os os' : Orders}
    {s' : Rebuild w} (hr : (rebuildInstr ps s i).run os = .ok (s', os')) (hwf : Wf s) (hc : CanonSt s)
    (hi : CanonL [i]) (hb : C01Dse.isBlock i = false) :
    CanonSt s' ∧ ∃ new, s'.insts = s.insts ++ new ∧ GoodL new :=
  (rebuildInstr_cstep hr hwf hc hi hb).out

theorem goodI_add (k : Int) (v : BitVec w) : GoodI (Instr.add k v : Instr w) := by
  rw [Instr.add, GoodI]
  refine ⟨by simp, ?_⟩
  intro ve hve
  simp only [List.mem_singleton] at hve
  subst hve
  simp [Expr.Canon, Expr.CanonV, Expr.SortedVars, Expr.cmpVars]

theorem goodI_load (k : Int) (v : BitVec w) : GoodI (Instr.load k v : Instr w) := by
  rw [Instr.load, GoodI]
  refine ⟨by simp, ?_⟩
  intro ve hve
  simp only [List.mem_singleton] at hve
  subst hve
  exact Expr.canon_val v

/-- **Parser output**: every `calc` has one target and a canonical right-hand side. -/
theorem parse_good {src : List Kind} {b : Block w} (h : Ir.parse (w := w) src = .ok b) :
    GoodL b.insts :=
  goodL_of_forall _ (C01.parse_induct (P := GoodI) goodI_add (fun k => goodI_load k _) (fun _ => by rw [GoodI]; trivial)
    (fun _ => by rw [GoodI]; trivial) (fun c sh body hb => by rw [GoodI]; exact goodL_of_forall body hb) h)

theorem parse_canonL {src : List Kind} {b : Block w} (h : Ir.parse (w := w) src = .ok b) :
    CanonL b.insts := goodL_canonL _ (parse_good h)

theorem parse_noDupTargets {src : List Kind} {b : Block w} (h : Ir.parse (w := w) src = .ok b) :
    C01Dse.NoDupTargets b := goodL_noDup _ (parse_good h)

#print axioms parse_good

end OptProof
end Hpbf
