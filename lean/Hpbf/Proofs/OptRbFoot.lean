/-
The account (`RdC`, `OptRbFootRd.lean`) of the emitting primitives: what `read` records,
`emitGroup`, `emitStructured`, `emit` and the loops built from it, `performAll`.  An emission step comes with ONE
record `EmitFoot` about its groups: the read-before-write account `RdC`, the write frame `CalcFrame` (a cell without
`written` entry is no target) and `ReadsMono`; that two runs of the groups behave alike is a consequence
(`EmitFoot.footStep`).  Along the folds the groups are hidden (`EmitAcct`, an instance of `Along`).
(`clobber`, the non-loop arms of `rebuildInstr` and straight-line lists: `OptRbFoot2.lean`.)
-/
import Hpbf.Proofs.OptRbFootRd
import Hpbf.Proofs.OptRbStraight
import Hpbf.Proofs.OptRbTri

namespace Hpbf
namespace OptProof
open Opt OptSem Ir

variable {w : Nat}

theorem mem_reads_read (s : Rebuild w) (var x : Int) :
    x ∈ (Opt.read s var).reads ↔ x ∈ s.reads ∨ (x = var ∧ ¬ DefW s var) := by
  unfold Opt.read DefW
  cases hg : mGet s.written var with
  | none =>
    simp only [mem_sIns]
    constructor
    · rintro (h | h)
      · exact Or.inr ⟨h, by rintro ⟨k, hk, _⟩; cases hk⟩
      · exact Or.inl h
    · rintro (h | ⟨h, _⟩)
      · exact Or.inr h
      · exact Or.inl h
  | some k =>
    cases k with
    | maybe =>
      simp only [mem_sIns]
      constructor
      · rintro (h | h)
        · refine Or.inr ⟨h, ?_⟩
          rintro ⟨k, hk, hm⟩
          cases hk; cases hm
        · exact Or.inl h
      · rintro (h | ⟨h, _⟩)
        · exact Or.inr h
        · exact Or.inl h
    | known e =>
      simp only
      constructor
      · exact fun h => Or.inl h
      · rintro (h | ⟨_, h⟩)
        · exact h
        · exact absurd ⟨_, rfl, rfl⟩ h
    | unknown =>
      simp only
      constructor
      · exact fun h => Or.inl h
      · rintro (h | ⟨_, h⟩)
        · exact h
        · exact absurd ⟨_, rfl, rfl⟩ h

theorem read_readsMono (s : Rebuild w) (var : Int) : ReadsMono s (Opt.read s var) :=
  ⟨fun v h => (mem_reads_read s var v).2 (Or.inl h), fun h => by rw [← (read_same s var).subShift]; exact h⟩

theorem mem_reads_foldl_read (s : Rebuild w) (vs : List Int) (x : Int) :
    x ∈ (vs.foldl Opt.read s).reads ↔ x ∈ s.reads ∨ (x ∈ vs ∧ ¬ DefW s x) := by
  induction vs generalizing s with
  | nil => simp
  | cons v vs ih =>
    simp only [List.foldl_cons]
    rw [ih, mem_reads_read, DefW.congr (read_same s v).written]
    simp only [List.mem_cons]
    constructor
    · rintro ((h | ⟨h, h'⟩) | ⟨h, h'⟩)
      · exact Or.inl h
      · subst h; exact Or.inr ⟨Or.inl rfl, h'⟩
      · exact Or.inr ⟨Or.inr h, h'⟩
    · rintro (h | ⟨h | h, h'⟩)
      · exact Or.inl (Or.inl h)
      · subst h; exact Or.inl (Or.inr ⟨rfl, h'⟩)
      · exact Or.inr ⟨h, h'⟩

theorem mem_reads_readGroup (s : Rebuild w) (calcs : List (Int × Expr w)) (x : Int) :
    x ∈ (readGroup s calcs).reads ↔
      x ∈ s.reads ∨ ((∃ vc ∈ calcs, x ∈ Expr.variables vc.2) ∧ ¬ DefW s x) := by
  unfold readGroup
  induction calcs generalizing s with
  | nil => simp
  | cons vc calcs ih =>
    simp only [List.foldl_cons]
    rw [ih, mem_reads_foldl_read, DefW.congr (foldl_read_same s _).written]
    simp only [List.mem_cons, exists_eq_or_imp]
    constructor
    · rintro ((h | ⟨h, h'⟩) | ⟨h, h'⟩)
      · exact Or.inl h
      · exact Or.inr ⟨Or.inl h, h'⟩
      · exact Or.inr ⟨Or.inr h, h'⟩
    · rintro (h | ⟨h | h, h'⟩)
      · exact Or.inl (Or.inl h)
      · exact Or.inl (Or.inr ⟨h, h'⟩)
      · exact Or.inr ⟨h, h'⟩

theorem readGroup_reads (s : Rebuild w) (calcs : List (Int × Expr w)) :
    (∀ vc ∈ calcs, ∀ x ∈ Expr.variables vc.2, x ∈ (readGroup s calcs).reads ∨ DefW s x) ∧
    (∀ x, x ∈ s.reads → x ∈ (readGroup s calcs).reads) := by
  refine ⟨?_, fun x hx => (mem_reads_readGroup s calcs x).2 (Or.inl hx)⟩
  intro vc hvc x hx
  by_cases hd : DefW s x
  · exact Or.inr hd
  · exact Or.inl ((mem_reads_readGroup s calcs x).2 (Or.inr ⟨⟨vc, hvc, hx⟩, hd⟩))

def CalcFrame (s s' : Rebuild w) (comps : List (List (Int × Expr w))) : Prop :=
  s'.subShift = false →
    (∀ v, mGet s'.written v = none → mGet s.written v = none) ∧
    ∀ v, mGet s'.written v = none → ∀ g ∈ comps, v ∉ g.map (·.1)

theorem seq_of_notin (comps : List (List (Int × Expr w))) (m : Mem w) (v : Int)
    (h : ∀ g ∈ comps, v ∉ g.map (·.1)) : Mem.seq comps m v = m v := by
  induction comps generalizing m with
  | nil => rfl
  | cons g gs ih =>
    rw [seq_cons, ih _ (fun g' hg' => h g' (List.mem_cons_of_mem _ hg')), par_of_notin (h g (by simp))]

theorem CalcFrame.refl (s : Rebuild w) : CalcFrame s s [] :=
  fun _ => ⟨fun _ h => h, fun _ _ g hg => by cases hg⟩

theorem CalcFrame.trans {a b c : Rebuild w} {c1 c2 : List (List (Int × Expr w))} (h1 : CalcFrame a b c1)
    (h2 : CalcFrame b c c2) (hm : ReadsMono b c) : CalcFrame a c (c1 ++ c2) := by
  intro hs
  obtain ⟨w2, f2⟩ := h2 hs
  obtain ⟨w1, f1⟩ := h1 (hm.2 hs)
  refine ⟨fun v h => w1 v (w2 v h), ?_⟩
  intro v hv g hg
  rcases List.mem_append.1 hg with h | h
  · exact f1 v (w2 v hv) g h
  · exact f2 v hv g h

structure EmitFoot (s s' : Rebuild w) (comps : List (List (Int × Expr w))) : Prop where
  rd : RdC (fun _ => False) s s' comps
  frame : CalcFrame s s' comps
  mono : ReadsMono s s'

theorem EmitFoot.footStep {s s' : Rebuild w} {comps : List (List (Int × Expr w))} (h : EmitFoot s s' comps) :
    FootStep s s' (comps.map Instr.calc) := (RdAll.of_rdC h.rd h.mono).footStep (noBlocks_calcs comps)

theorem EmitFoot.refl (s : Rebuild w) : EmitFoot s s [] := ⟨RdC.refl _ s, CalcFrame.refl s, ReadsMono.refl s⟩

theorem EmitFoot.trans {a b c : Rebuild w} {c1 c2 : List (List (Int × Expr w))} (h1 : EmitFoot a b c1)
    (h2 : EmitFoot b c c2) : EmitFoot a c (c1 ++ c2) :=
  ⟨h1.rd.trans0 h2.rd h2.mono, h1.frame.trans h2.frame h2.mono, h1.mono.trans h2.mono⟩

theorem EmitFoot.congr_left {s s0 s' : Rebuild w} {comps : List (List (Int × Expr w))}
    (hw : s0.written = s.written) (hr : s0.reads = s.reads) (hs : s0.subShift = s.subShift)
    (h : EmitFoot s0 s' comps) : EmitFoot s s' comps := by
  refine ⟨h.rd.congr_left hw, fun hss => ?_,
    fun v hv => h.mono.1 v (by rw [hr]; exact hv), fun hss => by rw [← hs]; exact h.mono.2 hss⟩
  obtain ⟨a, b⟩ := h.frame hss
  exact ⟨fun v hv => by rw [← hw]; exact a v hv, b⟩

theorem EmitFoot.congr_right {s s1 s' : Rebuild w} {comps : List (List (Int × Expr w))}
    (hw : s'.written = s1.written) (hr : ∀ v, v ∈ s1.reads → v ∈ s'.reads) (hs : s'.subShift = s1.subShift)
    (h : EmitFoot s s1 comps) : EmitFoot s s' comps := by
  refine ⟨h.rd.congr_right hw hr hs, fun hss => ?_,
    fun v hv => hr v (h.mono.1 v hv), fun hss => h.mono.2 (by rw [← hs]; exact hss)⟩
  obtain ⟨a, b⟩ := h.frame (by rw [← hs]; exact hss)
  exact ⟨fun v hv => a v (by rw [← hw]; exact hv), fun v hv => b v (by rw [← hw]; exact hv)⟩

theorem EmitFoot.of_sameButPend_left {s s0 s' : Rebuild w} {comps : List (List (Int × Expr w))}
    (hp : SameButPend s s0) (h : EmitFoot s0 s' comps) : EmitFoot s s' comps :=
  h.congr_left hp.written hp.reads hp.subShift

theorem EmitFoot.of_sameButPend_right {s s1 s' : Rebuild w} {comps : List (List (Int × Expr w))}
    (h : EmitFoot s s1 comps) (hp : SameButPend s1 s') : EmitFoot s s' comps :=
  h.congr_right hp.written (fun v hv => by rw [hp.reads]; exact hv) hp.subShift

theorem EmitFoot.of_sameButReads_right {s s1 s' : Rebuild w} {comps : List (List (Int × Expr w))}
    (h : EmitFoot s s1 comps) (hp : SameButReads s1 s') (hr : ∀ v, v ∈ s1.reads → v ∈ s'.reads) :
    EmitFoot s s' comps :=
  h.congr_right hp.written hr hp.subShift

theorem emitGroup_reads (ps : List (Rebuild w)) (s : Rebuild w) (g : List (Int × Expr w)) :
    (emitGroup ps s g).reads = (readGroup s g).reads :=
  (writtenCalcs_eq (readGroup s g) ps g).2.1

theorem knownOf_not_maybe (s : Rebuild w) (ps : List (Rebuild w)) (e : Expr w) :
    (knownOf s ps e).isMaybe = false := by
  unfold knownOf
  split
  · split <;> rfl
  · rfl

theorem emitGroup_defW {s : Rebuild w} (hwf : Wf s) (ps : List (Rebuild w)) (g : List (Int × Expr w))
    (hnd : (g.map (·.1)).Nodup) (v : Int) :
    DefW (emitGroup ps s g) v ↔ DefW s v ∨ v ∈ g.map (·.1) := by
  by_cases hv : v ∈ g.map (·.1)
  · obtain ⟨vc, hvc, rfl⟩ := List.mem_map.1 hv
    constructor
    · exact fun _ => Or.inr hv
    · intro _
      exact ⟨_, emitGroup_written_target ps g hnd hvc, knownOf_not_maybe _ _ _⟩
  · rw [DefW.of_get_eq ((emitGroup_struct hwf ps g).2.2.2 v hv)]
    constructor
    · exact Or.inl
    · rintro (h | h)
      · exact h
      · exact absurd h hv

/-- A cell that no pending operation of `s` targets or uses. -/
def NoUse (s : Rebuild w) (v : Int) : Prop :=
  mGet s.pending v = none ∧ ∀ u e, mGet s.pending u = some e → v ∉ Expr.variables e

theorem not_exposesC_of_noUse {s0 : Rebuild w} {comps : List (List (Int × Expr w))}
    (htgt : ∀ g ∈ comps, ∀ ve ∈ g, mGet s0.pending ve.1 = some ve.2) {v : Int} (h : NoUse s0 v) :
    ¬ ExposesC v comps := by
  intro hex
  induction comps with
  | nil => exact hex
  | cons g comps ih =>
    rcases hex with ⟨ve, hve, hx⟩ | ⟨_, hex⟩
    · exact h.2 ve.1 ve.2 (htgt g (by simp) ve hve) hx
    · exact ih (fun g' hg' => htgt g' (by simp [hg'])) hex

theorem emitGroup_rdC {s : Rebuild w} (hwf : Wf s) (ps : List (Rebuild w)) (g : List (Int × Expr w))
    (hnd : (g.map (·.1)).Nodup) : RdC (fun _ => False) s (emitGroup ps s g) [g] := by
  obtain ⟨hrd, _⟩ := readGroup_reads s g
  intro _
  refine ⟨?_, ?_⟩
  · intro v hv hd hex
    rcases hex with ⟨ve, hve, hx⟩ | ⟨_, h⟩
    · rcases hrd ve hve v hx with h | h
      · exact hv (by rw [emitGroup_reads]; exact h)
      · exact hd h
    · exact h
  · intro v hd' hd _ hthru
    rcases (emitGroup_defW hwf ps g hnd v).1 hd' with h | h
    · exact hd h
    · exact (hthru g (by simp)).1 h

theorem emitGroup_foot {s : Rebuild w} (hwf : Wf s) (ps : List (Rebuild w)) (g : List (Int × Expr w))
    (hnd : (g.map (·.1)).Nodup) : EmitFoot s (emitGroup ps s g) [g] := by
  obtain ⟨_, _, hse, hoff⟩ := emitGroup_struct hwf ps g
  have key : ∀ v, mGet (emitGroup ps s g).written v = none → v ∉ g.map (·.1) := by
    intro v hv hvt
    obtain ⟨vc, hvc, rfl⟩ := List.mem_map.1 hvt
    rw [emitGroup_written_target ps g hnd hvc] at hv
    cases hv
  refine ⟨emitGroup_rdC hwf ps g hnd, fun _ => ⟨?_, ?_⟩,
    fun v hv => by rw [emitGroup_reads]; exact (readGroup_reads s g).2 v hv, fun h => ?_⟩
  · intro v hv
    rw [← hoff v (key v hv)]; exact hv
  · intro v hv g' hg'
    cases List.mem_singleton.1 hg'
    exact key v hv
  · rw [← hse.subShift]; exact h

theorem emitStructured_foot {s : Rebuild w} (hwf : Wf s) (ps : List (Rebuild w))
    (toEmit : List (List (Int × Expr w))) (hnd : ∀ g ∈ toEmit, (g.map (·.1)).Nodup) :
    EmitFoot s (emitStructured s ps toEmit) toEmit := by
  rw [emitStructured_eq]
  induction toEmit generalizing s with
  | nil => exact EmitFoot.refl s
  | cons g toEmit ih =>
    simp only [List.foldl_cons]
    exact (emitGroup_foot hwf ps g (hnd g (by simp))).trans
      (ih (emitGroup_struct hwf ps g).1 (fun g' hg' => hnd g' (by simp [hg'])))

theorem emitStructured_defW {s : Rebuild w} (hwf : Wf s) (ps : List (Rebuild w))
    (toEmit : List (List (Int × Expr w))) (hnd : ∀ g ∈ toEmit, (g.map (·.1)).Nodup) (v : Int) :
    DefW (emitStructured s ps toEmit) v ↔ DefW s v ∨ ∃ g ∈ toEmit, v ∈ g.map (·.1) := by
  rw [emitStructured_eq]
  induction toEmit generalizing s with
  | nil => simp
  | cons g toEmit ih =>
    simp only [List.foldl_cons]
    rw [ih (emitGroup_struct hwf ps g).1 (fun g' hg' => hnd g' (by simp [hg'])),
      emitGroup_defW hwf ps g (hnd g (by simp))]
    simp only [List.mem_cons, exists_eq_or_imp]
    exact or_assoc

theorem gatherEmit_foot {s : Rebuild w} (ps : List (Rebuild w)) (hwf : Wf s) (var : Int) {os os' : Orders}
    {s1 : Rebuild w} {toEmit : List (List (Int × Expr w))}
    (hr : (gatherForEmit s [var]).run os = .ok ((s1, toEmit), os')) :
    EmitFoot s (emitStructured s1 ps toEmit) toEmit := by
  obtain ⟨⟨g1, g2, _, g6, _, _, _⟩, _, _⟩ := gatherForEmit_spec hwf var hr
  exact (emitStructured_foot g1 ps toEmit (fun g hg => (g6 g hg).1)).of_sameButPend_left g2

/-- An emission step with its account (THE SAME groups in both), the groups hidden: what holds along the folds. -/
def EmitAcct (ps : List (Rebuild w)) (s s' : Rebuild w) : Prop :=
  ∃ comps, EmitRes ps s s' comps ∧ EmitFoot s s' comps

theorem emitAcct_along (ps : List (Rebuild w)) : Along (fun s : Rebuild w => Wf s) (EmitAcct ps) :=
  ⟨fun s h => ⟨[], EmitRes.refl ps h, EmitFoot.refl s⟩,
    fun _ _ _ ⟨c1, r1, f1⟩ ⟨c2, r2, f2⟩ => ⟨c1 ++ c2, r1.trans r2, f1.trans f2⟩, fun _ _ _ ⟨_, r, _⟩ => r.wf⟩

theorem emit_acct (ps : List (Rebuild w)) (s : Rebuild w) (var : Int) (hwf : Wf s) :
    Tri false (emit s ps var) (EmitAcct ps s) :=
  (emitAcct_along ps).tri_emit (t := false) (fun _ var hwf => .of nofun fun _ r _ hr =>
    ⟨r.2, (gatherEmit_res ps hwf var hr).1, gatherEmit_foot ps hwf var hr⟩) s var hwf

theorem emit_foot {s : Rebuild w} (ps : List (Rebuild w)) (hwf : Wf s) (var : Int) {os os' : Orders}
    {s' : Rebuild w} (hr : (emit s ps var).run os = .ok (s', os')) :
    EmitAcct ps s s' :=
  (emit_acct ps s var hwf).post hr

/-- `EmitRes` says nothing about `reads`. -/
theorem EmitRes.of_sameButReads {ps : List (Rebuild w)} {s s1 s2 : Rebuild w}
    {comps : List (List (Int × Expr w))} (h : EmitRes ps s s1 comps) (hp : SameButReads s1 s2) :
    EmitRes ps s s2 comps := by
  obtain ⟨p1, p2, p3, p4, p5, p6, p7, p8, p9, p10, p11⟩ := hp
  refine ⟨SameButReads.wf ⟨p1, p2, p3, p4, p5, p6, p7, p8, p9, p10, p11⟩ h.wf, by rw [p10]; exact h.insts,
    h.nodup, h.hdr.trans ⟨p1, p2, p3, p4, p5⟩, by rw [p6]; exact h.noRet, by rw [p11]; exact h.subAnal,
    by rw [p8]; exact h.sub, h.tgt, by rw [p8]; exact h.gone, by rw [p7]; exact h.wr,
    by rw [p8]; exact h.par, ?_⟩
  intro M0 E hw hk
  exact (h.writ M0 E hw hk).of_written_eq p7

theorem read_acct (ps : List (Rebuild w)) (s : Rebuild w) (var : Int) (hwf : Wf s) :
    EmitAcct ps s (Opt.read s var) :=
  ⟨[], (EmitRes.refl ps hwf).of_sameButReads (read_same s var),
    (EmitFoot.refl s).of_sameButReads_right (read_same s var) (read_readsMono s var).1⟩

theorem explosionVars_foot (ps : List (Rebuild w)) (vars : List Int) (last : Option Int) {s : Rebuild w}
    (hwf : Wf s) {os os' : Orders} {s' : Rebuild w}
    (hr : (explosionVars ps vars last s).run os = .ok (s', os')) :
    EmitAcct ps s s' :=
  ((emitAcct_along ps).tri_explosionVars (emit_acct ps) vars last hwf).post hr

theorem performCheck_foot (ps : List (Rebuild w)) (calcs : List (Int × Expr w)) {s : Rebuild w}
    (hwf : Wf s) {os os' : Orders} {s' : Rebuild w}
    (hr : (performCheck s ps calcs).run os = .ok (s', os')) :
    EmitAcct ps s s' :=
  ((emitAcct_along ps).tri_performCheck (emit_acct ps) calcs hwf).post hr

theorem emitAll_foot (ps : List (Rebuild w)) (vars : List Int) {s : Rebuild w}
    (hwf : Wf s) {os os' : Orders} {s' : Rebuild w}
    (hr : (emitAll ps vars s).run os = .ok (s', os')) :
    EmitAcct ps s s' :=
  ((emitAcct_along ps).tri_emitAll (emit_acct ps) vars hwf).post hr

theorem emitReadAll_foot (ps : List (Rebuild w)) (vars : List Int) {s : Rebuild w}
    (hwf : Wf s) {os os' : Orders} {s' : Rebuild w}
    (hr : (emitReadAll ps vars s).run os = .ok (s', os')) :
    EmitAcct ps s s' :=
  ((emitAcct_along ps).tri_emitReadAll (emit_acct ps) (read_acct ps) vars hwf).post hr

/-- `performAll` with the intermediate state after the explosion check. -/
theorem performAll_foot {s : Rebuild w} {ps : List (Rebuild w)} {shift : Int} {calcs : List (Int × Expr w)}
    {os os' : Orders} {s' : Rebuild w}
    (hr : (performAll s ps shift calcs).run os = .ok (s', os')) (hwf : Wf s) :
    ∃ comps s1, EmitRes ps s s1 comps ∧ Wf s' ∧ SameButPend s1 s' ∧
      s'.insts = s.insts ++ comps.map Instr.calc ∧ (∀ g ∈ comps, (g.map (·.1)).Nodup) ∧
      EmitFoot s s' comps := by
  rw [performAll_eq, run_bind_ok] at hr
  obtain ⟨s1, os1, h1, h2⟩ := hr
  rw [run_bind_ok] at h2
  obtain ⟨exprs, os2, h3, h4⟩ := h2
  rw [run_pure] at h4
  cases h4
  obtain ⟨comps, r, f⟩ := performCheck_foot ps calcs hwf h1
  obtain ⟨hw', hsame⟩ := foldl_insertPending_wf r.wf ps exprs
  refine ⟨comps, s1, r, hw', hsame, ?_, r.nodup, f.of_sameButPend_right hsame⟩
  rw [hsame.insts, r.insts]

end OptProof
end Hpbf
