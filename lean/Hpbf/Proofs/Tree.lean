/-
`Repr`: "the text `code[i..j)` is the program `p`", stated on positions and committed to no scan direction,
so that it serves `Bf.tree` (a fold from the END of the text, `Bf.treeRev`; sound and complete for `Repr`),
the forward parser `Ir.parse`, and the forward bracket scan of the in-place interpreter, which started
just after a `[` stops exactly at the partner `]`.  `Repr` is functional, and a represented segment is
bracket-balanced.
-/
import Hpbf.Bf
import Hpbf.Inplace

namespace Hpbf

def Kind.toOp? : Kind → Option Op
  | .inc => some .inc
  | .dec => some .dec
  | .left => some .left
  | .right => some .right
  | .inp => some .inp
  | .out => some .out
  | .open => none
  | .close => none
  | .comment => none

inductive Repr (code : List Kind) : Nat → Nat → Prog → Prop
  | nil (i : Nat) (h : i ≤ code.length) : Repr code i i .nil
  | comment {i j : Nat} {p : Prog} :
      code[i]? = some .comment → Repr code (i + 1) j p → Repr code i j p
  | cmd {i j : Nat} {k : Kind} {op : Op} {p : Prog} :
      code[i]? = some k → Kind.toOp? k = some op → Repr code (i + 1) j p →
      Repr code i j (.cmd op p)
  | loop {i k j : Nat} {body rest : Prog} :
      code[i]? = some .open → Repr code (i + 1) k body → code[k]? = some .close →
      Repr code (k + 1) j rest → Repr code i j (.loop body rest)

namespace Repr

variable {code : List Kind}

theorem le {i j : Nat} {p : Prog} (h : Repr code i j p) : i ≤ j := by
  induction h with
  | nil i h => exact Nat.le_refl _
  | comment _ _ ih => omega
  | cmd _ _ _ ih => omega
  | loop _ _ _ _ ih1 ih2 => omega

theorem le_length {i j : Nat} {p : Prog} (h : Repr code i j p) : j ≤ code.length := by
  induction h with
  | nil i h => exact h
  | comment _ _ ih => exact ih
  | cmd _ _ _ ih => exact ih
  | loop _ _ _ _ _ ih2 => exact ih2

theorem eq_nil_of_eq {i j : Nat} {p : Prog} (h : Repr code i j p) (hij : j ≤ i) : p = .nil := by
  cases h with
  | nil => rfl
  | comment _ h' => have := h'.le; omega
  | cmd _ _ h' => have := h'.le; omega
  | loop _ h1 _ h2 => have := h1.le; have := h2.le; omega

theorem inv_none {i j : Nat} {p : Prog} (h : Repr code i j p) (hi : code[i]? = none) :
    i = j ∧ p = .nil := by
  cases h with
  | nil => exact ⟨rfl, rfl⟩
  | comment hc _ => simp [hi] at hc
  | cmd hc _ _ => simp [hi] at hc
  | loop hc _ _ _ => simp [hi] at hc

theorem inv_close {i j : Nat} {p : Prog} (h : Repr code i j p) (hi : code[i]? = some .close) :
    i = j ∧ p = .nil := by
  cases h with
  | nil => exact ⟨rfl, rfl⟩
  | comment hc _ => simp [hi] at hc
  | cmd hc hop _ =>
    rw [hi] at hc; cases hc; simp [Kind.toOp?] at hop
  | loop hc _ _ _ => simp [hi] at hc

theorem inv_comment {i j : Nat} {p : Prog} (h : Repr code i j p)
    (hi : code[i]? = some .comment) (hij : i ≠ j) : Repr code (i + 1) j p := by
  cases h with
  | nil => exact absurd rfl hij
  | comment _ h' => exact h'
  | cmd hc hop _ =>
    rw [hi] at hc; cases hc; simp [Kind.toOp?] at hop
  | loop hc _ _ _ => simp [hi] at hc

theorem inv_cmd {i j : Nat} {p : Prog} {k : Kind} {op : Op} (h : Repr code i j p)
    (hi : code[i]? = some k) (hk : Kind.toOp? k = some op) (hij : i ≠ j) :
    ∃ p', p = .cmd op p' ∧ Repr code (i + 1) j p' := by
  cases h with
  | nil => exact absurd rfl hij
  | comment hc _ =>
    rw [hi] at hc; cases hc; simp [Kind.toOp?] at hk
  | cmd hc hop h' =>
    rw [hi] at hc; cases hc
    rw [hk] at hop; cases hop
    exact ⟨_, rfl, h'⟩
  | loop hc _ _ _ =>
    rw [hi] at hc; cases hc; simp [Kind.toOp?] at hk

theorem inv_open {i j : Nat} {p : Prog} (h : Repr code i j p)
    (hi : code[i]? = some .open) (hij : i ≠ j) :
    ∃ k body rest, p = .loop body rest ∧ Repr code (i + 1) k body ∧ code[k]? = some .close ∧
      Repr code (k + 1) j rest := by
  cases h with
  | nil => exact absurd rfl hij
  | comment hc _ => simp [hi] at hc
  | cmd hc hop _ =>
    rw [hi] at hc; cases hc; simp [Kind.toOp?] at hop
  | loop _ h1 hk h2 => exact ⟨_, _, _, rfl, h1, hk, h2⟩

end Repr

def Kind.delta : Kind → Int
  | .open => 1
  | .close => -1
  | _ => 0

def depth : List Kind → Int
  | [] => 0
  | k :: ks => k.delta + depth ks

theorem depth_append (a b : List Kind) : depth (a ++ b) = depth a + depth b := by
  induction a with
  | nil => simp [depth]
  | cons k ks ih => simp [depth, ih, Int.add_assoc]

def depthTo (code : List Kind) (n : Nat) : Int := depth (code.take n)

theorem depthTo_succ {code : List Kind} {n : Nat} {k : Kind} (h : code[n]? = some k) :
    depthTo code (n + 1) = depthTo code n + k.delta := by
  obtain ⟨hn, hk⟩ := List.getElem?_eq_some_iff.mp h
  unfold depthTo
  rw [List.take_succ_eq_append_getElem hn, depth_append, hk]
  simp [depth]

theorem Kind.delta_of_toOp? {k : Kind} {op : Op} (h : Kind.toOp? k = some op) : k.delta = 0 := by
  cases k <;> simp [Kind.toOp?] at h <;> rfl

def segDepth (code : List Kind) (i m : Nat) : Int := depth ((code.drop i).take (m - i))

theorem segDepth_eq {code : List Kind} {i m : Nat} (h : i ≤ m) :
    segDepth code i m = depthTo code m - depthTo code i := by
  unfold segDepth depthTo
  have : code.take m = code.take i ++ (code.drop i).take (m - i) := by
    have hm : m = i + (m - i) := by omega
    conv => lhs; rw [hm]
    exact List.take_add
  rw [this, depth_append]; omega

namespace Repr
variable {code : List Kind}

theorem depthTo_eq {i j : Nat} {p : Prog} (h : Repr code i j p) :
    depthTo code j = depthTo code i := by
  induction h with
  | nil => rfl
  | comment hc _ ih => rw [ih, depthTo_succ hc]; simp [Kind.delta]
  | cmd hc hop _ ih => rw [ih, depthTo_succ hc, Kind.delta_of_toOp? hop]; simp
  | loop ho _ hk _ ih1 ih2 =>
    rw [ih2, depthTo_succ hk, ih1, depthTo_succ ho]; simp [Kind.delta]; omega

theorem depthTo_le {i j : Nat} {p : Prog} (h : Repr code i j p) :
    ∀ m, i ≤ m → m ≤ j → depthTo code i ≤ depthTo code m := by
  induction h with
  | nil i _ => intro m h1 h2; have : m = i := by omega
               subst this; exact Int.le_refl _
  | @comment i j p hc _ ih =>
    intro m h1 h2
    by_cases hm : m = i
    · subst hm; exact Int.le_refl _
    · have := ih m (by omega) h2
      rw [depthTo_succ hc] at this; simp [Kind.delta] at this; exact this
  | @cmd i j k op p hc hop _ ih =>
    intro m h1 h2
    by_cases hm : m = i
    · subst hm; exact Int.le_refl _
    · have := ih m (by omega) h2
      rw [depthTo_succ hc, Kind.delta_of_toOp? hop] at this; simp at this; exact this
  | @loop i k j body rest ho hb hk hr ih1 ih2 =>
    intro m h1 h2
    by_cases hm : m = i
    · subst hm; exact Int.le_refl _
    · by_cases hmk : m ≤ k
      · have := ih1 m (by omega) hmk
        rw [depthTo_succ ho] at this; simp [Kind.delta] at this; omega
      · have := ih2 m (by omega) h2
        rw [depthTo_succ hk, hb.depthTo_eq, depthTo_succ ho] at this
        simp [Kind.delta] at this; omega

/-- The second conjunct: no `]` inside the segment closes a bracket opened before `i`. -/
theorem balanced {i j : Nat} {p : Prog} (h : Repr code i j p) :
    segDepth code i j = 0 ∧ ∀ m, i ≤ m → m ≤ j → 0 ≤ segDepth code i m := by
  refine ⟨?_, ?_⟩
  · rw [segDepth_eq h.le, h.depthTo_eq]; omega
  · intro m h1 h2
    rw [segDepth_eq h1]; have := h.depthTo_le m h1 h2; omega

end Repr

section Scan
variable {code : List Kind}

theorem scan_succ_of_plain {fuel pc cnt : Nat} {k : Kind} (h : code[pc]? = some k)
    (hd : k.delta = 0) :
    Inplace.scan code.toArray (fuel + 1) pc cnt = Inplace.scan code.toArray fuel (pc + 1) cnt := by
  rw [Inplace.scan]
  simp only [List.getElem?_toArray, h]
  cases k with
  | «open» => exact absurd hd (by decide)
  | close => exact absurd hd (by decide)
  | _ => rfl

theorem scan_succ_of_open {fuel pc cnt : Nat} (h : code[pc]? = some .open) :
    Inplace.scan code.toArray (fuel + 1) pc cnt =
      Inplace.scan code.toArray fuel (pc + 1) (cnt + 1) := by
  simp [Inplace.scan, h]

theorem scan_succ_of_close {fuel pc cnt : Nat} (h : code[pc]? = some .close) :
    Inplace.scan code.toArray (fuel + 1) pc (cnt + 1) =
      Inplace.scan code.toArray fuel (pc + 1) cnt := by
  simp [Inplace.scan, h]

theorem scan_stop_of_close {fuel pc : Nat} (h : code[pc]? = some .close) :
    Inplace.scan code.toArray (fuel + 1) pc 0 = pc := by
  simp [Inplace.scan, h]

theorem scan_skip {i j : Nat} {p : Prog} (h : Repr code i j p) :
    ∀ fuel cnt,
      Inplace.scan code.toArray (fuel + (j - i)) i cnt = Inplace.scan code.toArray fuel j cnt := by
  induction h with
  | nil i _ => intro fuel cnt; rw [Nat.sub_self, Nat.add_zero]
  | @comment i j p hc hr ih =>
    intro fuel cnt
    have := hr.le
    rw [show fuel + (j - i) = fuel + (j - (i + 1)) + 1 by omega, scan_succ_of_plain hc rfl, ih]
  | @cmd i j k op p hc hop hr ih =>
    intro fuel cnt
    have := hr.le
    rw [show fuel + (j - i) = fuel + (j - (i + 1)) + 1 by omega,
      scan_succ_of_plain hc (Kind.delta_of_toOp? hop), ih]
  | @loop i k j body rest ho hb hk hr ih1 ih2 =>
    intro fuel cnt
    have := hb.le
    have := hr.le
    rw [show fuel + (j - i) = fuel + (j - (k + 1)) + 1 + (k - (i + 1)) + 1 by omega,
      scan_succ_of_open ho, ih1, scan_succ_of_close hk, ih2]

theorem scan_finds_match {i k : Nat} {body : Prog} (hb : Repr code (i + 1) k body)
    (hk : code[k]? = some .close) :
    Inplace.scan code.toArray (code.length - (i + 1)) (i + 1) 0 = k := by
  have hlt : k < code.length := (List.getElem?_eq_some_iff.mp hk).1
  have := hb.le
  rw [show code.length - (i + 1) = code.length - (k + 1) + 1 + (k - (i + 1)) by omega,
    scan_skip hb, scan_stop_of_close hk]

/-- Both positions are what the one scan returns. -/
theorem Repr.match_unique {i k k' : Nat} {b b' : Prog} (h : Repr code (i + 1) k b)
    (hk : code[k]? = some .close) (h' : Repr code (i + 1) k' b') (hk' : code[k']? = some .close) :
    k = k' := by
  rw [← scan_finds_match h hk, ← scan_finds_match h' hk']

end Scan

theorem Repr.functional {code : List Kind} {i j : Nat} {p q : Prog} (h : Repr code i j p) :
    Repr code i j q → p = q := by
  induction h generalizing q with
  | nil i _ => intro h2; exact (h2.eq_nil_of_eq (Nat.le_refl _)).symm
  | @comment i j p hc hr ih =>
    intro h2
    have := hr.le
    exact ih (h2.inv_comment hc (by omega))
  | @cmd i j k op p hc hop hr ih =>
    intro h2
    have := hr.le
    obtain ⟨p', rfl, h'⟩ := h2.inv_cmd hc hop (by omega)
    rw [ih h']
  | @loop i k j body rest ho hb hk hr ih1 ih2 =>
    intro h2
    have := hb.le
    have := hr.le
    obtain ⟨k', body', rest', rfl, hb', hk', hr'⟩ := h2.inv_open ho (by omega)
    have : k = k' := Repr.match_unique hb hk hb' hk'
    subst this
    rw [ih1 hb', ih2 hr']

/-- The suspended continuations of `Bf.treeRev`: `Stk code e stack` says the current segment ends
at the `]` at position `e` (or at the end of the text when the stack is empty), the head of the
stack represents the text after that `]` up to the next unmatched `]`, and so on. -/
inductive Stk (code : List Kind) : Nat → List Prog → Prop
  | nil : Stk code code.length []
  | cons {e e' : Nat} {r : Prog} {rest : List Prog} :
      code[e]? = some .close → Repr code (e + 1) e' r → Stk code e' rest → Stk code e (r :: rest)

theorem take_succ_reverse {code : List Kind} {n : Nat} {k : Kind} (h : code[n]? = some k) :
    (code.take (n + 1)).reverse = k :: (code.take n).reverse := by
  obtain ⟨hn, hk⟩ := List.getElem?_eq_some_iff.mp h
  rw [List.take_succ_eq_append_getElem hn, hk]; simp

theorem treeRev_op {k : Kind} {op : Op} (h : Kind.toOp? k = some op) (ks : List Kind) (cur : Prog)
    (stack : List Prog) : Bf.treeRev (k :: ks) cur stack = Bf.treeRev ks (.cmd op cur) stack := by
  cases k <;> cases h <;> rfl

theorem treeRev_sound {code : List Kind} {p : Prog} :
    ∀ n, n ≤ code.length → ∀ cur stack e, Repr code n e cur → Stk code e stack →
      Bf.treeRev (code.take n).reverse cur stack = some p → Repr code 0 code.length p := by
  intro n
  induction n with
  | zero =>
    intro _ cur stack e hr hs ht
    cases hs with
    | nil => simp [Bf.treeRev] at ht; subst ht; exact hr
    | cons _ _ _ => simp [Bf.treeRev] at ht
  | succ n ih =>
    intro hn cur stack e hr hs ht
    have hlt : n < code.length := by omega
    have hk : code[n]? = some code[n] := List.getElem?_eq_getElem hlt
    rw [take_succ_reverse hk] at ht
    generalize code[n] = k at hk ht
    have hn' : n ≤ code.length := by omega
    cases hop : Kind.toOp? k with
    | some op =>
      rw [treeRev_op hop] at ht
      exact ih hn' _ _ _ (Repr.cmd hk hop hr) hs ht
    | none =>
      cases k with
      | close =>
        simp only [Bf.treeRev] at ht
        exact ih hn' _ _ n (Repr.nil n hn') (Stk.cons hk hr hs) ht
      | «open» =>
        cases hs with
        | nil => simp [Bf.treeRev] at ht
        | cons hc hr' hs' =>
          simp only [Bf.treeRev] at ht
          exact ih hn' _ _ _ (Repr.loop hk hr hc hr') hs' ht
      | comment =>
        simp only [Bf.treeRev] at ht
        exact ih hn' _ _ _ (Repr.comment hk hr) hs ht
      | _ => cases hop

theorem tree_sound {code : List Kind} {p : Prog} (h : Bf.tree code = some p) :
    Repr code 0 code.length p := by
  unfold Bf.tree at h
  have : code.reverse = (code.take code.length).reverse := by simp
  rw [this] at h
  exact treeRev_sound code.length (Nat.le_refl _) .nil [] code.length
    (Repr.nil _ (Nat.le_refl _)) Stk.nil h

def Prog.append : Prog → Prog → Prog
  | .nil, q => q
  | .cmd c r, q => .cmd c (Prog.append r q)
  | .loop b r, q => .loop b (Prog.append r q)

theorem Prog.append_nil (p : Prog) : Prog.append p .nil = p := by
  induction p with
  | nil => rfl
  | cmd c r ih => simp [Prog.append, ih]
  | loop b r _ ih => simp [Prog.append, ih]

theorem treeRev_complete {code : List Kind} {i j : Nat} {p : Prog} (h : Repr code i j p) :
    ∀ cur stack, Bf.treeRev (code.take j).reverse cur stack =
      Bf.treeRev (code.take i).reverse (Prog.append p cur) stack := by
  induction h with
  | nil => intro cur stack; rfl
  | comment hc _ ih =>
    intro cur stack
    rw [ih, take_succ_reverse hc]; simp only [Bf.treeRev]
  | @cmd i j k op p hc hop _ ih =>
    intro cur stack
    rw [ih, take_succ_reverse hc]
    rw [treeRev_op hop]; rfl
  | loop ho _ hk _ ih1 ih2 =>
    intro cur stack
    rw [ih2, take_succ_reverse hk]
    simp only [Bf.treeRev]
    rw [ih1, take_succ_reverse ho]
    simp only [Bf.treeRev, Prog.append, Prog.append_nil]

theorem tree_complete {code : List Kind} {p : Prog} (h : Repr code 0 code.length p) :
    Bf.tree code = some p := by
  unfold Bf.tree
  have := treeRev_complete h .nil []
  simp only [List.take_length, List.take_zero, List.reverse_nil, Prog.append_nil] at this
  rw [this]; rfl

theorem tree_iff {code : List Kind} {p : Prog} :
    Bf.tree code = some p ↔ Repr code 0 code.length p :=
  ⟨tree_sound, tree_complete⟩

end Hpbf
