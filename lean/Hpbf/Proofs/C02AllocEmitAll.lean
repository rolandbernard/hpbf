/-
C02 (`allocate_temps`): the precondition `AllocPre` holds for every state produced by the generator
(`emitState`) followed by `deadStoreElim`, without further hypotheses.  The local invariant `LInv` yields all
components but three (`allocPre_of_linv`); those three (closure of the ranges under the branches, no pointer move inside
a range, straight-line code between a computation and the store that is its recorded first use) are collected in
`EmitRest` and come from `FInv`, `VInv` and `RInv` (`emitRest_of_emit`).
-/
import Hpbf.Proofs.C02AllocEmitX
import Hpbf.Proofs.C02AllocDse
import Hpbf.Proofs.C02Alloc
set_option linter.unusedSimpArgs false

namespace Hpbf
namespace C02
namespace AEmit

open Bc BcWf BcGen C11 C02Emit

variable {w : Nat}

/-- The components of `AllocPre` that are NOT derived from `LInv`. -/
structure EmitRest (s : St w) : Prop where
  flow : ∀ (j : Nat) (ins : Instr w) (off : Int) (k' : Nat), s.insts[j]? = some ins → branchOff? ins = some off →
    (j : Int) + off = (k' : Int) → ∀ t, InRange s t k' → InRange s t j
  ptr : ∀ (t j : Nat) (ins : Instr w), InRange s t j → s.insts[j]? = some ins → ptrStable ins = true
  region : ∀ (i : Nat) (op : BcGen.Op) (t : Nat) (s0 s1 : Loc w) (f : Nat) (m : Int) (src : Loc w),
    Cand s i op t s0 s1 f m src →
    (∀ (j : Nat) (x : Instr w), i < j → j < f → s.insts[j]? = some x → plain x = true) ∧
    (∀ (j : Nat) (x : Instr w) (off : Int), s.insts[j]? = some x → branchOff? x = some off →
      ¬ ((i : Int) < (j : Int) + off ∧ (j : Int) + off ≤ (f : Int)))

theorem allocPre_of_linv {s : St w} (h : LInv s) (hr : EmitRest s) : AllocPre s := by
  refine ⟨by rw [h.live]; rfl, h.noZero, h.defs, ?_, hr.flow, hr.ptr, h.writes, ?_, ?_⟩
  · intro j ins t hj ht
    obtain ⟨r, L, f, g1, g2, g3, g4, _⟩ := h.uses j ins t hj ht
    exact ⟨r, L, g1, g2, g3, g4⟩
  · intro i op t s0 s1 r f hi hr' hf
    obtain ⟨r0, g1, g2⟩ := h.defs i _ t hi (by rw [Alloc.defs_mkArith]; simp [locTmp])
    rw [hr'] at g1; cases g1
    have := ((h.rwf t r hr').2.2 f hf).1
    omega
  · intro i op t s0 s1 f m src hc
    obtain ⟨c1, ⟨r, L, c2, c3, c4⟩, c5⟩ := hc
    obtain ⟨_, x, p2, p3⟩ := (h.rwf t r c2).2.2 f c3
    rw [c5] at p2; cases p2
    have hsrc : src = .tmp t := by
      cases src <;> simp [BcWf.uses, locTmp] at p3
      rw [p3]
    obtain ⟨q1, q2⟩ := hr.region i op t s0 s1 f m src ⟨c1, ⟨r, L, c2, c3, c4⟩, c5⟩
    refine ⟨hsrc, ?_, q2⟩
    intro j y hij hjf hy
    refine ⟨q1 j y hij hjf hy, ?_⟩
    intro hu
    obtain ⟨r', L', f', g1, _, _, _, g5, g6⟩ := h.uses j y t hy hu
    rw [c2] at g1; cases g1
    rw [c3] at g5; cases g5
    omega

theorem emitRest_of_emit {prog : Ir.Block w} {fuse : Bool} {s : St w} (h : emitState prog fuse = .ok s) :
    EmitRest s := by
  refine ⟨?_, fun t j ins ht hj => ptr_of_emit h t j ins ht hj, fun i op t s0 s1 f m src hc =>
    region_of_emit h i op t s0 s1 f m src hc⟩
  intro j ins off k' hj hb hk t ht
  cases ins with
  | brz cnd o =>
    simp only [branchOff?, Option.some.injEq] at hb
    subst hb
    exact flowFwd_of_emit h j cnd o k' hj hk t ht
  | brnz cnd o =>
    simp only [branchOff?, Option.some.injEq] at hb
    subst hb
    exact flowBack_of_emit h j cnd o k' hj hk t ht
  | _ => simp [branchOff?] at hb

theorem allocPre_of_emitState {prog : Ir.Block w} {fuse : Bool} {s : St w} (h : emitState prog fuse = .ok s) :
    AllocPre s :=
  allocPre_of_linv (linv_of_emit h) (emitRest_of_emit h)

theorem allocPre_of_emit {prog : Ir.Block w} {fuse : Bool} {s1 s2 : St w} (h1 : emitState prog fuse = .ok s1)
    (h2 : deadStoreElim s1 = .ok s2) : AllocPre s2 :=
  Alloc.allocPre_of_deadStoreElim (allocPre_of_emitState h1) h2

theorem allocateTemps_of_emit {prog : Ir.Block w} {fuse : Bool} {numRegs : Nat} {s1 s2 s3 : St w}
    (h1 : emitState prog fuse = .ok s1) (h2 : deadStoreElim s1 = .ok s2)
    (h3 : allocateTemps numRegs s2 = .ok s3) :
    s3.insts.size = s2.insts.size ∧ s3.live.size = s3.insts.size ∧ (∀ ins ∈ s3.insts, NoMemZero ins) ∧
    (TargetsOk s2.insts → TargetsOk s3.insts) ∧
    ∀ (t t' : Nat) (mn mx : Int), BehEq (progOf s2 t mn mx) (progOf s3 t' mn mx) := by
  obtain ⟨a, b, c, d, e⟩ := allocateTemps_preserves s2 s3 numRegs (allocPre_of_emit h1 h2) h3
  exact ⟨a, b, d, c, e⟩

end AEmit
end C02
end Hpbf
