/-
A big-step ("natural") semantics of IR instruction lists with PARTIAL
observations, so that all reasoning about the optimizer is by induction on finite derivations (no
coinduction, no fuel bookkeeping), and the vocabulary for behavioural equivalence.

`Exec is σ o`: running the instruction list `is` from state `σ` (unlimited mode) can be observed as `o`:
* `.fin σ'`  – ran to the end of the list, final state `σ'`;
* `.stop σ'` – stopped at a failing I/O operation, state `σ'`;
* `.part t`  – the run was cut off at some instruction boundary when its trace was `t` (always possible
               at the start; a diverging run has only such observations).
The `once` flag of loops is ignored (as `Ir.step` does).

Adequacy with respect to `Ir.run` is in `OptRbAdeq.lean`.
-/
import Hpbf.Proofs.OptRbMap

namespace Hpbf
namespace OptProof
open Opt OptSem Ir

variable {w : Nat}

inductive Out (w : Nat) where
  | fin (σ : State w)
  | stop (σ : State w)
  | part (t : List Ev)

def Out.trace : Out w → List Ev
  | .fin σ => σ.trace
  | .stop σ => σ.trace
  | .part t => t

def Out.isFin : Out w → Bool
  | .fin _ => true
  | _ => false

inductive Exec : List (Instr w) → State w → Out w → Prop
  | cut (is : List (Instr w)) (σ : State w) : Exec is σ (.part σ.trace)
  | nil (σ : State w) : Exec [] σ (.fin σ)
  | outOk {src : Int} {rest : List (Instr w)} {σ σ1 : State w} {o : Out w} :
      σ.output src = (true, σ1) → Exec rest σ1 o → Exec (.output src :: rest) σ o
  | outFail {src : Int} {rest : List (Instr w)} {σ σ1 : State w} :
      σ.output src = (false, σ1) → Exec (.output src :: rest) σ (.stop σ1)
  | inOk {dst : Int} {rest : List (Instr w)} {σ σ1 : State w} {o : Out w} :
      σ.input dst = (true, σ1) → Exec rest σ1 o → Exec (.input dst :: rest) σ o
  | inFail {dst : Int} {rest : List (Instr w)} {σ σ1 : State w} :
      σ.input dst = (false, σ1) → Exec (.input dst :: rest) σ (.stop σ1)
  | calc {calcs : List (Int × Expr w)} {rest : List (Instr w)} {σ : State w} {o : Out w} :
      Exec rest (doCalc σ calcs) o → Exec (.calc calcs :: rest) σ o
  | loopSkip {cond shift : Int} {body : List (Instr w)} {once : Bool} {rest : List (Instr w)}
      {σ : State w} {o : Out w} :
      σ.rd cond = 0#w → Exec rest σ o → Exec (.loop cond shift body once :: rest) σ o
  | loopIter {cond shift : Int} {body : List (Instr w)} {once : Bool} {rest : List (Instr w)}
      {σ σ1 : State w} {o : Out w} :
      σ.rd cond ≠ 0#w → Exec body σ (.fin σ1) →
      Exec (.loop cond shift body once :: rest) (σ1.mov shift) o →
      Exec (.loop cond shift body once :: rest) σ o
  | loopIn {cond shift : Int} {body : List (Instr w)} {once : Bool} {rest : List (Instr w)}
      {σ : State w} {o : Out w} :
      σ.rd cond ≠ 0#w → Exec body σ o → o.isFin = false →
      Exec (.loop cond shift body once :: rest) σ o
  | ifSkip {cond shift : Int} {body : List (Instr w)} {rest : List (Instr w)} {σ : State w} {o : Out w} :
      σ.rd cond = 0#w → Exec rest σ o → Exec (.ifnz cond shift body :: rest) σ o
  | ifIter {cond shift : Int} {body : List (Instr w)} {rest : List (Instr w)} {σ σ1 : State w} {o : Out w} :
      σ.rd cond ≠ 0#w → Exec body σ (.fin σ1) → Exec rest (σ1.mov shift) o →
      Exec (.ifnz cond shift body :: rest) σ o
  | ifIn {cond shift : Int} {body : List (Instr w)} {rest : List (Instr w)} {σ : State w} {o : Out w} :
      σ.rd cond ≠ 0#w → Exec body σ o → o.isFin = false →
      Exec (.ifnz cond shift body :: rest) σ o

/-- Execution reaches a loop marked `once` whose condition cell is zero (the situation excluded by
`C02Emit.OnceOk`). -/
inductive Bad : List (Instr w) → State w → Prop
  | here {cond shift : Int} {body rest : List (Instr w)} {σ : State w} :
      σ.rd cond = 0#w → Bad (.loop cond shift body true :: rest) σ
  | outOk {src : Int} {rest : List (Instr w)} {σ σ1 : State w} :
      σ.output src = (true, σ1) → Bad rest σ1 → Bad (.output src :: rest) σ
  | inOk {dst : Int} {rest : List (Instr w)} {σ σ1 : State w} :
      σ.input dst = (true, σ1) → Bad rest σ1 → Bad (.input dst :: rest) σ
  | calc {calcs : List (Int × Expr w)} {rest : List (Instr w)} {σ : State w} :
      Bad rest (doCalc σ calcs) → Bad (.calc calcs :: rest) σ
  | loopSkip {cond shift : Int} {body : List (Instr w)} {once : Bool} {rest : List (Instr w)} {σ : State w} :
      σ.rd cond = 0#w → Bad rest σ → Bad (.loop cond shift body once :: rest) σ
  | loopIter {cond shift : Int} {body : List (Instr w)} {once : Bool} {rest : List (Instr w)}
      {σ σ1 : State w} :
      σ.rd cond ≠ 0#w → Exec body σ (.fin σ1) →
      Bad (.loop cond shift body false :: rest) (σ1.mov shift) →
      Bad (.loop cond shift body once :: rest) σ
  | loopIn {cond shift : Int} {body : List (Instr w)} {once : Bool} {rest : List (Instr w)} {σ : State w} :
      σ.rd cond ≠ 0#w → Bad body σ → Bad (.loop cond shift body once :: rest) σ
  | ifSkip {cond shift : Int} {body : List (Instr w)} {rest : List (Instr w)} {σ : State w} :
      σ.rd cond = 0#w → Bad rest σ → Bad (.ifnz cond shift body :: rest) σ
  | ifIter {cond shift : Int} {body : List (Instr w)} {rest : List (Instr w)} {σ σ1 : State w} :
      σ.rd cond ≠ 0#w → Exec body σ (.fin σ1) → Bad rest (σ1.mov shift) →
      Bad (.ifnz cond shift body :: rest) σ
  | ifIn {cond shift : Int} {body : List (Instr w)} {rest : List (Instr w)} {σ : State w} :
      σ.rd cond ≠ 0#w → Bad body σ → Bad (.ifnz cond shift body :: rest) σ

/-- `src` run from `σS` and `tgt` run from `σE` have the same observable behaviour; runs that reach the end
do so in states related by `Q`. -/
structure Sim (Q : State w → State w → Prop) (src tgt : List (Instr w)) (σS σE : State w) : Prop where
  finL : ∀ σS', Exec src σS (.fin σS') → ∃ σE', Exec tgt σE (.fin σE') ∧ Q σS' σE'
  stopL : ∀ σS', Exec src σS (.stop σS') →
    ∃ σE', Exec tgt σE (.stop σE') ∧ σE'.trace = σS'.trace ∧ σE'.env = σS'.env
  partL : ∀ t, Exec src σS (.part t) → Exec tgt σE (.part t)
  finR : ∀ σE', Exec tgt σE (.fin σE') → ∃ σS', Exec src σS (.fin σS') ∧ Q σS' σE'
  stopR : ∀ σE', Exec tgt σE (.stop σE') →
    ∃ σS', Exec src σS (.stop σS') ∧ σE'.trace = σS'.trace ∧ σE'.env = σS'.env
  partR : ∀ t, Exec tgt σE (.part t) → Exec src σS (.part t)

end OptProof
end Hpbf
