/-
C02 / C13 (`allocate_temps` is total): the heap of range ends and the bitmap.

* `drainEnds_total`: the loop `while let Some(..) = next_range_end.peek()` terminates within its fuel and pops
  every entry whose end is at most `i` (the heap is kept sorted by `nrePush`), provided every temporary on the heap
  has a recorded last use;
* `liveMask_total`: the bitmap computation does not underflow when the free registers are distinct and below
  `numRegs`.
-/
import Hpbf.Proofs.C11AllocMask
set_option linter.unusedSimpArgs false

namespace Hpbf
namespace C02
namespace Alloc

open Bc BcWf BcGen C11

variable {w : Nat}

theorem nrePush_head {e t : Nat} (tl : List (Nat × Nat)) (x : Nat × Nat) (h : e < x.1) :
    nrePush x ((e, t) :: tl) = (e, t) :: nrePush x tl := by
  simp only [nrePush]
  have : nreGt (e, t) x = true := by simp [nreGt, h]
  simp [this]

/-- Recorded last use of `t` (0 if there is none). -/
def luOf (a : ASt w) (t : Nat) : Nat :=
  match a.st.ranges[t]? with
  | some r => r.lastUse.getD 0
  | none => 0

/-- Number of visits an entry can still cause in round `i`: 2 if its end lies before the current last use (it is popped,
re-inserted with that last use and popped again), 1 if it is only popped.  `muE_le` is where the fuel
`2 * nre.length + 2` of `allocStep` comes from; the Rust loop has no fuel. -/
def wtE (i : Nat) (lu : Nat → Nat) (x : Nat × Nat) : Nat :=
  if x.1 ≤ i then (if x.1 < lu x.2 then 2 else 1) else 0

def muE (i : Nat) (lu : Nat → Nat) (l : List (Nat × Nat)) : Nat := (l.map (wtE i lu)).sum

theorem muE_nrePush (i : Nat) (lu : Nat → Nat) (x : Nat × Nat) (l : List (Nat × Nat)) :
    muE i lu (nrePush x l) = wtE i lu x + muE i lu l := by
  induction l with
  | nil => simp [nrePush, muE]
  | cons y ys ih =>
    simp only [nrePush]
    split
    · simp only [muE, List.map_cons, List.sum_cons] at ih ⊢
      omega
    · simp [muE]

theorem muE_le (i : Nat) (lu : Nat → Nat) (l : List (Nat × Nat)) : muE i lu l ≤ 2 * l.length := by
  induction l with
  | nil => simp [muE]
  | cons y ys ih =>
    simp only [muE, List.map_cons, List.sum_cons, List.length_cons] at ih ⊢
    have : wtE i lu y ≤ 2 := by
      unfold wtE
      split
      · split <;> decide
      · decide
    omega

theorem muE_ended {i e t : Nat} {lu : Nat → Nat} (tl : List (Nat × Nat)) (hle : e ≤ i) (hge : lu t ≤ e) :
    muE i lu tl < muE i lu ((e, t) :: tl) := by
  have h1 : wtE i lu (e, t) = 1 := by simp only [wtE, hle, if_true, Nat.not_lt.2 hge, if_false]
  simp only [muE, List.map_cons, List.sum_cons, h1]
  omega

/-- The re-inserted entry carries the current last use as its end, so it is visited at most once more. -/
theorem muE_reinsert {i e t : Nat} {lu : Nat → Nat} (tl : List (Nat × Nat)) (hle : e ≤ i) (hlt : e < lu t) :
    muE i lu (nrePush (lu t, t) tl) < muE i lu ((e, t) :: tl) := by
  have h2 : wtE i lu (e, t) = 2 := by simp only [wtE, hle, hlt, if_true]
  have h1 : wtE i lu (lu t, t) ≤ 1 := by
    simp only [wtE, Nat.lt_irrefl, if_false]
    split <;> decide
  rw [muE_nrePush]
  simp only [muE, List.map_cons, List.sum_cons, h2]
  omega

def HeapRange (a : ASt w) : Prop :=
  ∀ e t, (e, t) ∈ a.nre → ∃ (r : RangeInfo) (L : Nat), a.st.ranges[t]? = some r ∧ r.lastUse = some L

theorem drainEnds_total {i : Nat} : ∀ (fuel : Nat) (atf0 : List Nat) (a : ASt w),
    SortedE a.nre → HeapRange a → muE i (luOf a) a.nre < fuel →
    ∃ atf a1, drainEnds i fuel atf0 a = .ok (atf, a1) ∧ SortedE a1.nre ∧
      (∀ e t, (e, t) ∈ a1.nre → i < e) ∧
      (∀ e t, (e, t) ∈ a.nre → (∃ e', (e', t) ∈ a1.nre) ∨ t ∈ atf) ∧ (∀ t ∈ atf0, t ∈ atf)
  | 0, _, _, _, _, h => absurd h (Nat.not_lt_zero _)
  | fuel + 1, atf0, a, hs, hr, hm => by
    dsimp only [drainEnds, get_bind]
    cases hn : a.nre with
    | nil =>
      refine ⟨atf0, a, rfl, by rw [hn]; exact List.Pairwise.nil, ?_, ?_, fun t h => h⟩
      · intro e t h; rw [hn] at h; cases h
      · intro e t h; cases h
    | cons hd tl =>
      obtain ⟨e, tmp⟩ := hd
      dsimp only
      rw [hn] at hs hm
      by_cases hle : e ≤ i
      · simp only [hle, if_true]
        obtain ⟨r, L, hrg, hL⟩ := hr e tmp (by rw [hn]; exact List.mem_cons_self)
        have hlu : lastUseOf "allocate_temps:peek:last_use.unwrap" tmp a = .ok (L, a) :=
          (lastUseOf_ok _ _ _ _ _).2 ⟨⟨r, hrg, hL⟩, rfl⟩
        have hluv : luOf a tmp = L := by simp [luOf, hrg, hL]
        have hrtl : ∀ e' t', (e', t') ∈ tl → ∃ (r : RangeInfo) (L : Nat), a.st.ranges[t']? = some r ∧ r.lastUse = some L :=
          fun e' t' h => hr e' t' (by rw [hn]; exact List.mem_cons_of_mem _ h)
        by_cases hge : e ≥ L
        · -- the range has ended
          obtain ⟨atf, a1, h1, h2, h3, h4, h5⟩ :=
            drainEnds_total fuel (setInsert atf0 tmp) ({ a with nre := tl } : ASt w) hs.of_cons hrtl
              (Nat.lt_of_lt_of_le (muE_ended (lu := luOf a) tl hle (by rw [hluv]; exact hge)) (Nat.le_of_lt_succ hm))
          refine ⟨atf, a1, ?_, h2, h3, ?_, fun t ht => h5 t (mem_setInsert.2 (Or.inl ht))⟩
          · rw [bind_ok]
            refine ⟨L, a, hlu, ?_⟩
            simp only [hge, if_true, modify_bind, hn, List.drop_succ_cons, List.drop_zero]
            exact h1
          · intro e' t' h
            rcases List.mem_cons.1 h with h | h
            · cases h
              exact Or.inr (h5 _ (mem_setInsert.2 (Or.inr rfl)))
            · exact h4 e' t' h
        · -- re-insert with the later end
          have hlt : e < L := Nat.lt_of_not_ge hge
          have hpush : (nrePush (L, tmp) ((e, tmp) :: tl)).drop 1 = nrePush (L, tmp) tl := by
            rw [nrePush_head tl (L, tmp) hlt]; rfl
          have hmu := muE_reinsert (lu := luOf a) tl hle (by rw [hluv]; exact hlt)
          rw [hluv] at hmu
          obtain ⟨atf, a1, h1, h2, h3, h4, h5⟩ :=
            drainEnds_total fuel atf0 ({ a with nre := nrePush (L, tmp) tl } : ASt w)
              (sortedE_nrePush hs.of_cons)
              (fun e' t' h => (mem_nrePush.1 h).elim (fun h' => by cases h'; exact ⟨r, L, hrg, hL⟩) (hrtl e' t'))
              (Nat.lt_of_lt_of_le hmu (Nat.le_of_lt_succ hm))
          refine ⟨atf, a1, ?_, h2, h3, ?_, h5⟩
          · rw [bind_ok]
            refine ⟨L, a, hlu, ?_⟩
            simp only [hge, if_false, modify_bind, hn, hpush]
            exact h1
          · intro e' t' h
            rcases List.mem_cons.1 h with h | h
            · cases h
              exact h4 L tmp (mem_nrePush.2 (Or.inl rfl))
            · exact h4 e' t' (mem_nrePush.2 (Or.inr h))
      · simp only [hle, if_false]
        refine ⟨atf0, a, rfl, by rw [hn]; exact hs, ?_, fun e' t' h => Or.inl ⟨e', by rw [hn]; exact h⟩, fun t h => h⟩
        intro e' t' h
        rw [hn] at h
        rcases List.mem_cons.1 h with h | h
        · cases h; exact Nat.lt_of_not_le hle
        · exact Nat.lt_of_lt_of_le (Nat.lt_of_not_le hle) (List.rel_of_pairwise_cons hs h)

theorem liveMask_total {numRegs : Nat} {F : List Nat} (hn : F.Nodup) (hlt : ∀ r ∈ F, r < numRegs) :
    ∃ live, liveMask numRegs F = .ok live := by
  -- generalised: the bits of `cur` are those below `B` that are not in `D`
  have H : ∀ (F : List Nat) (D : List Nat) (cur B : Nat), B ≤ 16 → F.Nodup → (∀ x ∈ F, x ∉ D) →
      (∀ x ∈ F, x < 16 → x < B) → (∀ r, cur.testBit r = (decide (r < B) && !D.contains r)) →
      ∃ live, F.foldlM (fun live var =>
        if var < 16 then
          if live < 2 ^ var then (.error "allocate_temps:live-underflow" : Except String Nat) else .ok (live - 2 ^ var)
        else .ok live) cur = .ok live := by
    intro F
    induction F with
    | nil => intro D cur B _ _ _ _ _; exact ⟨cur, rfl⟩
    | cons var F ih =>
      intro D cur B hB hn hd hb hc
      rw [List.foldlM_cons]
      obtain ⟨hvF, hnF⟩ := List.nodup_cons.1 hn
      have hvD : var ∉ D := hd var List.mem_cons_self
      by_cases h16 : var < 16
      · simp only [h16, if_true]
        obtain ⟨hge, hc'⟩ := mask_step hc (hb var List.mem_cons_self h16) hvD
        simp only [hge, if_false]
        refine ih (var :: D) (cur - 2 ^ var) B hB hnF ?_ (fun x hx => hb x (List.mem_cons_of_mem _ hx)) hc'
        intro x hx hxd
        rcases List.mem_cons.1 hxd with rfl | h
        · exact hvF hx
        · exact hd x (List.mem_cons_of_mem _ hx) h
      · -- a register without a bit: nothing is subtracted
        simp only [h16, if_false]
        exact ih D cur B hB hnF (fun x hx => hd x (List.mem_cons_of_mem _ hx))
          (fun x hx => hb x (List.mem_cons_of_mem _ hx)) hc
  unfold liveMask
  by_cases h16 : numRegs < 16
  · simp only [h16, if_true]
    exact H F [] (2 ^ numRegs - 1) numRegs (by omega) hn (fun _ _ h => by cases h)
      (fun x hx _ => hlt x hx) (fun r => by rw [Nat.testBit_two_pow_sub_one]; simp)
  · simp only [h16, if_false]
    have e : (65535 : Nat) = 2 ^ 16 - 1 := by decide
    rw [e]
    exact H F [] (2 ^ 16 - 1) 16 (Nat.le_refl _) hn (fun _ _ h => by cases h)
      (fun x _ hx => hx) (fun r => by rw [Nat.testBit_two_pow_sub_one]; simp)

end Alloc
end C02
end Hpbf
