/-
Chain, totality: the end-to-end statements of `Props/Chain.lean` for the TOTAL function
`BcGen.translate` (the hypothesis `translateE … = .ok p` is discharged by `C02.translateE_total`, the hypothesis
`BcWf.check p n = true` by `C02.translateE_check`).

* `translate_ok`            – `translateE blk numRegs fuse = .ok (translate blk numRegs fuse)`: the sentinel of
                              `translate` is never returned;
* `irOf w src`, `parse_irOf` – the block `Program::parse` returns on a balanced text, as a total function;
* `translate_refines_unconditional`, `translate_never_bad_unconditional` – every IR block;
* `bytecode_level0_unconditional`, `bytecode_level0_debug_unconditional`, the C05 / C07 / C08 corollaries – level 0.
-/
import Hpbf.Proofs.ChainLevel0
import Hpbf.Props.C02AllocTotal
import Hpbf.Props.C11Full

namespace Hpbf
namespace Chain

open Bc BcWf BcGen C11 C02

variable {w : Nat}

/-- The total function `translate` returns the program `translateE` returns (never its sentinel). -/
theorem translate_ok (blk : Ir.Block w) (numRegs : Nat) (fuse : Bool) :
    translateE blk numRegs fuse = .ok (translate blk numRegs fuse) := by
  obtain ⟨p, hp⟩ := translateE_total blk numRegs fuse
  unfold translate
  rw [hp]

theorem translate_eq_of_ok {blk : Ir.Block w} {numRegs : Nat} {fuse : Bool} {p : Bc.Program w}
    (h : translateE blk numRegs fuse = .ok p) : translate blk numRegs fuse = p := by
  have := translate_ok blk numRegs fuse
  rw [h] at this
  cases this; rfl

theorem translate_check (blk : Ir.Block w) (numRegs : Nat) (fuse : Bool) :
    BcWf.check (translate blk numRegs fuse) numRegs = true := translateE_check (translate_ok blk numRegs fuse)

/-- The block `Program::parse` returns (an empty block on an unbalanced text). -/
def irOf (w : Nat) (src : List Kind) : Ir.Block w :=
  match Ir.parse (w := w) src with
  | .ok b => b
  | .error _ => ⟨0, []⟩

theorem parse_irOf {src : List Kind} {prog : Prog} (hp : Bf.tree src = some prog) :
    Ir.parse (w := w) src = .ok (irOf w src) := by
  obtain ⟨b, hb⟩ := C01.C01_parse_ok_of_tree (w := w) hp
  unfold irOf
  rw [hb]

theorem irOf_eq_of_ok {src : List Kind} {blk : Ir.Block w} (h : Ir.parse (w := w) src = .ok blk) :
    irOf w src = blk := by
  unfold irOf
  rw [h]

/-- Never "malformed bytecode", never interrupted in unlimited mode – for EVERY run (terminating or not), every
mode, budget and environment. -/
theorem translate_never_bad_unconditional (blk : Ir.Block w) (numRegs : Nat) (fuse : Bool) (env : Env) :
    (∀ (l : Bool) (b f' : Nat) (c' : Bc.Cfg w), Bc.run (translate blk numRegs fuse) l b f' env ≠ .bad c') ∧
    (∀ (f' : Nat) (c' : Bc.Cfg w), Bc.run (translate blk numRegs fuse) false 0 f' env ≠ .interrupted c') :=
  ⟨fun l b f' c' => C11.check_run_not_bad (translate_check blk numRegs fuse) l b f' env c',
   fun f' c' => translate_never_interrupted _ f' env c'⟩

/-- **`translate` refines the IR**, for every block, every `numRegs`, both values of `fuse`, every environment
in which the loops marked `once` are entered with a non-zero condition. -/
theorem translate_refines_unconditional (blk : Ir.Block w) (numRegs : Nat) (fuse : Bool) (env : Env)
    (ho : OnceOk blk env) :
    ((∀ f (c : Ir.Cfg w), Ir.run blk false 0 f env = .done c →
      ∃ f' c', Bc.run (translate blk numRegs fuse) false 0 f' env = .done c' ∧ c'.st.trace = c.st.trace ∧
        (∀ i, c'.st.tape.get i = c.st.tape.get i) ∧ c'.st.ptr = c.st.ptr ∧ c'.st.env = c.st.env) ∧
     (∀ f (c : Ir.Cfg w), Ir.run blk false 0 f env = .stopped c →
      ∃ f' c', Bc.run (translate blk numRegs fuse) false 0 f' env = .stopped c' ∧ c'.st.trace = c.st.trace ∧
        c'.st.ptr = c.st.ptr ∧ c'.st.env = c.st.env)) ∧
    ((∀ f' (c' : Bc.Cfg w), Bc.run (translate blk numRegs fuse) false 0 f' env = .done c' →
      ∃ f c, Ir.run blk false 0 f env = .done c ∧ c.st.trace = c'.st.trace ∧
        (∀ i, c.st.tape.get i = c'.st.tape.get i) ∧ c.st.ptr = c'.st.ptr ∧ c.st.env = c'.st.env) ∧
     (∀ f' (c' : Bc.Cfg w), Bc.run (translate blk numRegs fuse) false 0 f' env = .stopped c' →
      ∃ f c, Ir.run blk false 0 f env = .stopped c ∧ c.st.trace = c'.st.trace ∧
        c.st.ptr = c'.st.ptr ∧ c.st.env = c'.st.env)) ∧
    ((∀ f', ∃ f, C01.traceOf (Ir.run blk false 0 f env) =
        C07.traceOfBc (Bc.run (translate blk numRegs fuse) false 0 f' env)) ∧
     (∀ f, ∃ f', C07.traceOfBc (Bc.run (translate blk numRegs fuse) false 0 f' env) =
        C01.traceOf (Ir.run blk false 0 f env))) :=
  translate_refines env (translate_ok blk numRegs fuse) ho

/-- The version for IR without `once` loops: no hypothesis on the environment. -/
theorem translate_refines_noOnce_unconditional (blk : Ir.Block w) (numRegs : Nat) (fuse : Bool) (env : Env)
    (hn : NoOnce blk) :
    ((∀ f (c : Ir.Cfg w), Ir.run blk false 0 f env = .done c →
      ∃ f' c', Bc.run (translate blk numRegs fuse) false 0 f' env = .done c' ∧ c'.st.trace = c.st.trace ∧
        (∀ i, c'.st.tape.get i = c.st.tape.get i) ∧ c'.st.ptr = c.st.ptr ∧ c'.st.env = c.st.env) ∧
     (∀ f (c : Ir.Cfg w), Ir.run blk false 0 f env = .stopped c →
      ∃ f' c', Bc.run (translate blk numRegs fuse) false 0 f' env = .stopped c' ∧ c'.st.trace = c.st.trace ∧
        c'.st.ptr = c.st.ptr ∧ c'.st.env = c.st.env)) ∧
    ((∀ f' (c' : Bc.Cfg w), Bc.run (translate blk numRegs fuse) false 0 f' env = .done c' →
      ∃ f c, Ir.run blk false 0 f env = .done c ∧ c.st.trace = c'.st.trace ∧
        (∀ i, c.st.tape.get i = c'.st.tape.get i) ∧ c.st.ptr = c'.st.ptr ∧ c.st.env = c'.st.env) ∧
     (∀ f' (c' : Bc.Cfg w), Bc.run (translate blk numRegs fuse) false 0 f' env = .stopped c' →
      ∃ f c, Ir.run blk false 0 f env = .stopped c ∧ c.st.trace = c'.st.trace ∧
        c.st.ptr = c'.st.ptr ∧ c.st.env = c'.st.env)) ∧
    ((∀ f', ∃ f, C01.traceOf (Ir.run blk false 0 f env) =
        C07.traceOfBc (Bc.run (translate blk numRegs fuse) false 0 f' env)) ∧
     (∀ f, ∃ f', C07.traceOfBc (Bc.run (translate blk numRegs fuse) false 0 f' env) =
        C01.traceOf (Ir.run blk false 0 f env))) :=
  translate_refines_unconditional blk numRegs fuse env (noOnce_onceOk hn env)

theorem bcAgrees_of_ir {prog : Prog} {blk : Ir.Block w} {env : Env} (hI : IrAgrees prog blk env)
    (ho : OnceOk blk env) (numRegs : Nat) (fuse : Bool) :
    BcAgrees prog (translate blk numRegs fuse) env :=
  bcAgrees_of_translateE hI ho (translate_ok blk numRegs fuse)

section Level0
variable (hw : 0 < w) {src : List Kind} {prog : Prog} (hp : Bf.tree src = some prog)
  {blk : Ir.Block w} (hb : Ir.parse (w := w) src = .ok blk) (numRegs : Nat) (fuse : Bool) (env : Env)
include hw hp hb

/-- No hypothesis besides `0 < w` and balancedness (`hb` only names the parser's result; see `bytecode_level0_source`
for the form without it). -/
theorem bytecode_level0_unconditional : BcAgrees prog (translate blk numRegs fuse) env :=
  bytecode_level0 hw hp hb (translate_ok blk numRegs fuse) env

theorem bytecode_level0_debug_unconditional :
    ((∀ f (s : State w), Bf.run f prog env = .done s →
        ∃ f' c', runDebug (translate blk numRegs fuse) false 0 f' env = .done c' ∧ c'.st.trace = s.trace) ∧
     (∀ f (s : State w), Bf.run f prog env = .stopped s →
        ∃ f' c', runDebug (translate blk numRegs fuse) false 0 f' env = .stopped c' ∧ c'.st.trace = s.trace)) ∧
    ((∀ f' (c' : Bc.Cfg w), runDebug (translate blk numRegs fuse) false 0 f' env = .done c' →
        ∃ (f : Nat) (s : State w), Bf.run f prog env = .done s ∧ s.trace = c'.st.trace) ∧
     (∀ f' (c' : Bc.Cfg w), runDebug (translate blk numRegs fuse) false 0 f' env = .stopped c' →
        ∃ (f : Nat) (s : State w), Bf.run f prog env = .stopped s ∧ s.trace = c'.st.trace)) ∧
    ((∀ f', ∃ f, C07.traceOfBc (runDebug (translate blk numRegs fuse) false 0 f' env) =
        C01.traceOfBf (Bf.run (w := w) f prog env)) ∧
     (∀ f, ∃ f', C07.traceOfBc (runDebug (translate blk numRegs fuse) false 0 f' env) =
        C01.traceOfBf (Bf.run (w := w) f prog env))) :=
  bytecode_level0_debug hw hp hb (translate_ok blk numRegs fuse) env

theorem bc_never_returns_unconditional (hdiv : C05.BfDiverges w prog env) :
    (∀ (f' : Nat) (c : Bc.Cfg w),
      Bc.run (translate blk numRegs fuse) false 0 f' env ≠ .done c ∧
      Bc.run (translate blk numRegs fuse) false 0 f' env ≠ .stopped c) ∧
    (∀ (b f' : Nat) (c : Bc.Cfg w),
      Bc.run (translate blk numRegs fuse) true b f' env ≠ .done c ∧
      Bc.run (translate blk numRegs fuse) true b f' env ≠ .stopped c) :=
  bc_never_returns (bytecode_level0_unconditional hw hp hb numRegs fuse env) hdiv

theorem bc_runs_forever_unconditional (hdiv : C05.BfDiverges w prog env) :
    ∀ f', ∃ c : Bc.Cfg w, Bc.run (translate blk numRegs fuse) false 0 f' env = .outOfFuel c :=
  bc_runs_forever (bytecode_level0_unconditional hw hp hb numRegs fuse env) hdiv
    (translate_never_bad_unconditional blk numRegs fuse env).1

theorem bc_limited_interrupted_unconditional (hdiv : C05.BfDiverges w prog env) :
    ∀ b, ∃ f' c, Bc.run (translate blk numRegs fuse) true b f' env = .interrupted c :=
  bc_limited_interrupted (bytecode_level0_unconditional hw hp hb numRegs fuse env) hdiv
    (translate_never_bad_unconditional blk numRegs fuse env).1

theorem bc_divergent_output_unconditional (hdiv : C05.BfDiverges w prog env) :
    (∀ f, ∃ f' c c', Bf.run (w := w) f prog env = .outOfFuel c ∧
      Bc.run (translate blk numRegs fuse) false 0 f' env = .outOfFuel c' ∧ c'.st.trace = c.st.trace) ∧
    (∀ f', ∃ f c c', Bc.run (translate blk numRegs fuse) false 0 f' env = .outOfFuel c' ∧
      Bf.run (w := w) f prog env = .outOfFuel c ∧ c'.st.trace = c.st.trace) :=
  bc_divergent_output (bytecode_level0_unconditional hw hp hb numRegs fuse env) hdiv
    (translate_never_bad_unconditional blk numRegs fuse env).1

theorem bc_terminates_unconditional :
    (∀ (f : Nat) (s : State w), Bf.run f prog env = .done s →
      ∃ f' c, Bc.run (translate blk numRegs fuse) false 0 f' env = .done c ∧ c.st.trace = s.trace) ∧
    (∀ (f : Nat) (s : State w), Bf.run f prog env = .stopped s →
      ∃ f' c, Bc.run (translate blk numRegs fuse) false 0 f' env = .stopped c ∧ c.st.trace = s.trace) ∧
    (∀ (f : Nat) (s : State w), Bf.run f prog env = .done s →
      ∃ g, ∀ b, g ≤ b →
        ∃ f' c, Bc.run (translate blk numRegs fuse) true b f' env = .done c ∧ c.st.trace = s.trace) :=
  bc_terminates hw hp hb (translate_ok blk numRegs fuse) env

theorem bc_limited_finished_unconditional :
    (∀ (b f' : Nat) (c : Bc.Cfg w), Bc.run (translate blk numRegs fuse) true b f' env = .done c →
      ∃ (f : Nat) (s : State w), Bf.run f prog env = .done s ∧ s.trace = c.st.trace) ∧
    (∀ (b f' : Nat) (c : Bc.Cfg w), Bc.run (translate blk numRegs fuse) true b f' env = .stopped c →
      ∃ (f : Nat) (s : State w), Bf.run f prog env = .stopped s ∧ s.trace = c.st.trace) :=
  bc_limited_finished (bytecode_level0_unconditional hw hp hb numRegs fuse env)

theorem bc_limited_is_prefix_unconditional :
    ∀ b f', ∃ f, ∀ g, f ≤ g →
      C07.traceOfBc (Bc.run (translate blk numRegs fuse) true b f' env) <:+
        C01.traceOfBf (Bf.run (w := w) g prog env) :=
  bc_limited_is_prefix (bytecode_level0_unconditional hw hp hb numRegs fuse env)

theorem bc_limited_enough_unconditional :
    (∀ (f : Nat) (s : State w), Bf.run f prog env = .done s →
      ∃ g, ∀ b, g ≤ b →
        ∃ f' c, Bc.run (translate blk numRegs fuse) true b f' env = .done c ∧ c.st.trace = s.trace) ∧
    (∀ (f : Nat) (s : State w), Bf.run f prog env = .stopped s →
      ∃ g, ∀ b, g ≤ b →
        ∃ f' c, Bc.run (translate blk numRegs fuse) true b f' env = .stopped c ∧ c.st.trace = s.trace) :=
  bc_limited_enough (bytecode_level0_unconditional hw hp hb numRegs fuse env)

/-- Limited mode in one statement: the call returns; it reports finished / stopped only with the complete
canonical event sequence of a canonical run that ends the same way; never "malformed bytecode". -/
theorem bc_limited_total_unconditional (b : Nat) :
    ∃ f', (∃ c, Bc.run (translate blk numRegs fuse) true b f' env = .interrupted c) ∨
      (∃ (c : Bc.Cfg w) (f : Nat) (s : State w), Bc.run (translate blk numRegs fuse) true b f' env = .done c ∧
        Bf.run f prog env = .done s ∧ s.trace = c.st.trace) ∨
      (∃ (c : Bc.Cfg w) (f : Nat) (s : State w), Bc.run (translate blk numRegs fuse) true b f' env = .stopped c ∧
        Bf.run f prog env = .stopped s ∧ s.trace = c.st.trace) := by
  obtain ⟨f', hf'⟩ := C07.bc_limited_terminates (translate blk numRegs fuse) env b
  refine ⟨f', ?_⟩
  have hfin := bc_limited_finished (bytecode_level0_unconditional hw hp hb numRegs fuse env)
  cases hr : Bc.run (translate blk numRegs fuse) true b f' env with
  | outOfFuel c => exact (hf' c hr).elim
  | interrupted c => exact Or.inl ⟨c, rfl⟩
  | done c =>
    obtain ⟨f, s, h1, h2⟩ := hfin.1 b f' c hr
    exact Or.inr (Or.inl ⟨c, f, s, rfl, h1, h2⟩)
  | stopped c =>
    obtain ⟨f, s, h1, h2⟩ := hfin.2 b f' c hr
    exact Or.inr (Or.inr ⟨c, f, s, rfl, h1, h2⟩)
  | bad c => exact (C11.check_run_not_bad (translate_check blk numRegs fuse) true b f' env c hr).elim

theorem bc_stops_like_canonical_unconditional :
    ∀ (f : Nat) (s : State w), Bf.run f prog env = .stopped s →
      ∃ f' c, (∀ k, Bc.run (translate blk numRegs fuse) false 0 (f' + k) env = .stopped c) ∧
        c.st.trace = s.trace :=
  bc_stops_like_canonical (bytecode_level0_unconditional hw hp hb numRegs fuse env)

theorem bc_stops_only_like_canonical_unconditional :
    ∀ (l : Bool) (b f' : Nat) (c : Bc.Cfg w), Bc.run (translate blk numRegs fuse) l b f' env = .stopped c →
      (l = false → b = 0) →
      ∃ (f : Nat) (s : State w), Bf.run f prog env = .stopped s ∧ s.trace = c.st.trace :=
  bc_stops_only_like_canonical (bytecode_level0_unconditional hw hp hb numRegs fuse env)

end Level0

/-- The same with the parser's result as a function of the text: only `0 < w` and balancedness remain. -/
theorem bytecode_level0_source (hw : 0 < w) {src : List Kind} {prog : Prog} (hp : Bf.tree src = some prog)
    (numRegs : Nat) (fuse : Bool) (env : Env) :
    ((∀ f (s : State w), Bf.run f prog env = .done s →
        ∃ f' c', Bc.run (translate (irOf w src) numRegs fuse) false 0 f' env = .done c' ∧
          c'.st.trace = s.trace) ∧
     (∀ f (s : State w), Bf.run f prog env = .stopped s →
        ∃ f' c', Bc.run (translate (irOf w src) numRegs fuse) false 0 f' env = .stopped c' ∧
          c'.st.trace = s.trace)) ∧
    ((∀ f' (c' : Bc.Cfg w), Bc.run (translate (irOf w src) numRegs fuse) false 0 f' env = .done c' →
        ∃ (f : Nat) (s : State w), Bf.run f prog env = .done s ∧ s.trace = c'.st.trace) ∧
     (∀ f' (c' : Bc.Cfg w), Bc.run (translate (irOf w src) numRegs fuse) false 0 f' env = .stopped c' →
        ∃ (f : Nat) (s : State w), Bf.run f prog env = .stopped s ∧ s.trace = c'.st.trace)) ∧
    ((∀ f', ∃ f, C07.traceOfBc (Bc.run (translate (irOf w src) numRegs fuse) false 0 f' env) =
        C01.traceOfBf (Bf.run (w := w) f prog env)) ∧
     (∀ f, ∃ f', C07.traceOfBc (Bc.run (translate (irOf w src) numRegs fuse) false 0 f' env) =
        C01.traceOfBf (Bf.run (w := w) f prog env))) :=
  bytecode_level0_unconditional hw hp (parse_irOf hp) numRegs fuse env

end Chain
end Hpbf
