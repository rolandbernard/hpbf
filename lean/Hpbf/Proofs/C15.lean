/-
C15, expression arithmetic: the predicate "built through the public expression API" of `ir::Expr`;
every such expression is in normal form.
-/
import Hpbf.Proofs.C15Canon

namespace Hpbf
namespace Expr
variable {w : Nat}

/-- Expressions built through the public expression API of `ir::Expr`: the constructors
`val var add mul neg half normalize symb_evaluate` and the expression-valued results of the
decompositions `prod_of inc_of prod_inc_of`. For `symb_evaluate` the substituted expressions must be
API-built too. -/
inductive Built : Expr w → Prop
  | val (c : BitVec w) : Built (val c)
  | var (v : Int) : Built (var v)
  | add {a b : Expr w} : Built a → Built b → Built (add a b)
  | mul {a b : Expr w} : Built a → Built b → Built (mul a b)
  | neg {a : Expr w} : Built a → Built (neg a)
  | half {a r : Expr w} : Built a → half a = some r → Built r
  | normalize {a : Expr w} : Built a → Built (normalize a)
  | symbEvaluate {e r : Expr w} (g : Int → Option (Expr w)) :
      Built e → (∀ v e', g v = some e' → Built e') → symbEvaluate e g = some r → Built r
  | prodOf {e r : Expr w} {v : Int} : Built e → prodOf e v = some r → Built r
  | incOf {e r : Expr w} {v : Int} : Built e → incOf e v = some r → Built r
  | prodIncOf {e r : Expr w} {v : Int} {m : BitVec w} : Built e → prodIncOf e v = some (r, m) → Built r

theorem Built.canon {e : Expr w} (h : Built e) : Canon e := by
  induction h with
  | val c => exact canon_val c
  | var v => exact canon_var v
  | add _ _ iha ihb => exact canon_add iha ihb
  | mul _ _ iha ihb => exact canon_mul iha ihb
  | neg _ ih => exact canon_neg ih
  | half _ hh ih => exact canon_half ih hh
  | normalize _ ih => exact canon_normalize ih
  | symbEvaluate g _ _ hs _ ihg => exact canon_symbEvaluate g ihg hs
  | prodOf _ hp ih => exact canon_prodOf ih hp
  | incOf _ hi ih => exact canon_incOf ih hi
  | prodIncOf _ hi ih => exact canon_prodIncOf ih hi

end Expr
end Hpbf
