/-
`gatherForEmit` (the DFS over the `reverse` edges) is `Safe` on a well-formed state. The fuel argument: fix the
universe `K` of visitable variables (pending keys and the roots); every recursive call visits a variable of `K` not
visited before, so the number `mu K visited` of unvisited elements of `K` strictly decreases along the recursion; it
is at most `K.length`, which is below the fuel.
-/
import Hpbf.Proofs.OptTotalDefs
import Hpbf.Proofs.OptRbDfs
import Hpbf.Proofs.OptRbTri

namespace Hpbf
namespace OptTotal
open Opt OptProof OptSem

variable {w : Nat} {α β γ : Type}

def mu (K : List Int) (vis : List (Int × Nat)) : Nat := (K.filter (fun k => (mGet vis k).isNone)).length

theorem mu_le_length (K : List Int) (vis : List (Int × Nat)) : mu K vis ≤ K.length :=
  List.length_filter_le _ _

theorem isNone_of_visited {v v' : List (Int × Nat)} (h : ∀ k, (mGet v k).isSome → (mGet v' k).isSome) (k : Int)
    (hk : (mGet v' k).isNone = true) : (mGet v k).isNone = true := by
  cases hv : mGet v k with
  | none => rfl
  | some x =>
    have := h k (by rw [hv]; rfl)
    rw [Option.isNone_iff_eq_none.1 hk] at this
    cases this

theorem mu_mono (K : List Int) {v v' : List (Int × Nat)}
    (h : ∀ k, (mGet v k).isSome → (mGet v' k).isSome) : mu K v' ≤ mu K v := by
  unfold mu
  rw [← List.countP_eq_length_filter, ← List.countP_eq_length_filter]
  exact List.countP_mono_left fun k _ hk => isNone_of_visited h k hk

theorem mu_visit (K : List Int) {v v' : List (Int × Nat)} {var : Int} (hK : var ∈ K)
    (h0 : mGet v var = none) (h : ∀ k, (mGet v k).isSome → (mGet v' k).isSome)
    (h1 : (mGet v' var).isSome) : mu K v' + 1 ≤ mu K v := by
  -- what is unvisited in `v'` is unvisited in `v` and is not `var`, which is unvisited in `v`
  have hle : mu K v' ≤ ((K.filter fun k => (mGet v k).isNone).filter (fun k => k != var)).length := by
    unfold mu
    rw [List.filter_filter, ← List.countP_eq_length_filter, ← List.countP_eq_length_filter]
    refine List.countP_mono_left fun k _ hk => ?_
    rw [Bool.and_eq_true, bne_iff_ne]
    refine ⟨fun e => ?_, isNone_of_visited h k hk⟩
    rw [e, Option.isNone_iff_eq_none] at hk
    rw [hk] at h1; cases h1
  exact Nat.lt_of_le_of_lt hle (List.length_filter_lt_length_iff_exists.2
    ⟨var, List.mem_filter.2 ⟨hK, by rw [h0]; rfl⟩, by simp⟩)

def DInv (K : List Int) (d : Dfs w) : Prop := Wf d.s ∧ ∀ k, k ∈ mKeys d.s.pending → k ∈ K

def DStep (K : List Int) (d d' : Dfs w) : Prop :=
  DInv K d' ∧ (∀ k, (mGet d.visited k).isSome → (mGet d'.visited k).isSome) ∧ d.stack.length ≤ d'.stack.length

theorem DStep.refl {K : List Int} {d : Dfs w} (h : DInv K d) : DStep K d d :=
  ⟨h, fun _ h => h, Nat.le_refl _⟩

theorem DStep.trans {K : List Int} {a b c : Dfs w} (h1 : DStep K a b) (h2 : DStep K b c) : DStep K a c :=
  ⟨h2.1, fun k h => h2.2.1 k (h1.2.1 k h), Nat.le_trans h1.2.2 h2.2.2⟩

theorem dfsEnter_vis (d : Dfs w) (var : Int) (k : Int) (h : (mGet d.visited k).isSome) :
    (mGet (dfsEnter d var).visited k).isSome := by
  show (mGet (mSet d.visited var d.index) k).isSome
  rw [mGet_mSet]
  split
  · rfl
  · exact h

theorem dfsEnter_self (d : Dfs w) (var : Int) : (mGet (dfsEnter d var).visited var).isSome := by
  show (mGet (mSet d.visited var d.index) var).isSome
  rw [mGet_mSet_same]; rfl

theorem users_in_K {K : List Int} {d : Dfs w} (h : DInv K d) {var : Int} {next : List Int}
    (hr : mGet d.s.reverse var = some next) {n : Int} (hn : n ∈ next) : n ∈ K := by
  obtain ⟨_, e, he, _⟩ := (h.1.revOk var n).1 ⟨next, hr, hn⟩
  apply h.2
  rw [← mGet_isSome_iff, he]; rfl

theorem popComp_total (stackLen : Nat) : ∀ (stack : List Int) (s : Rebuild w) (comp : List (Int × Expr w)),
    stackLen ≤ stack.length → Wf s →
    ∃ s' stack' comp', popComp stackLen stack s comp = .ok (s', stack', comp') ∧ Wf s' ∧
      (∀ k, k ∈ mKeys s'.pending → k ∈ mKeys s.pending) ∧ stack'.length = stackLen := by
  intro stack
  induction stack with
  | nil =>
    intro s comp hl hwf
    have h0 : stackLen = 0 := by simpa using hl
    subst h0
    exact ⟨s, [], comp, by rw [popComp]; rfl, hwf, fun k h => h, rfl⟩
  | cons var rest ih =>
    intro s comp hl hwf
    rw [popComp_cons]
    by_cases h0 : ((var :: rest).length == stackLen) = true
    · rw [if_pos h0]
      exact ⟨s, var :: rest, comp, rfl, hwf, fun k h => h, by simpa using h0⟩
    · rw [if_neg h0]
      have hl' : stackLen ≤ rest.length := by
        simp only [List.length_cons, beq_iff_eq] at h0 hl
        omega
      obtain ⟨s', st', c', h1, h2, h3, h4⟩ := ih (removePending s var).1 _ hl' (removePending_wf hwf var)
      refine ⟨s', st', c', h1, h2, fun k hk => ?_, h4⟩
      have := h3 k hk
      rw [removePending_pending _ var] at this
      obtain ⟨kv, hkv, e⟩ := List.mem_map.1 this
      exact List.mem_map.2 ⟨kv, OptLoop.mem_mErase _ _ _ hkv, e⟩

def DfsOk (K : List Int) (fuel : Nat) : Prop :=
  ∀ (d : Dfs w) (var : Int), DInv K d → var ∈ K → mGet d.visited var = none → mu K d.visited ≤ fuel →
    Tri true (gatherToEmitDfs fuel d var) (fun r => DStep K d r.1 ∧ (mGet r.1.visited var).isSome)

theorem dfsStep_ok {K : List Int} {fuel : Nat} (ih : DfsOk (w := w) K fuel) {d0 : Dfs w} {acc : Dfs w × Nat}
    {n : Int} (hI : DStep K d0 acc.1) (hn : n ∈ K) (hmu : mu K d0.visited ≤ fuel) :
    Tri true (dfsStep fuel acc n) (fun r => DStep K d0 r.1) := by
  unfold dfsStep
  cases hv : mGet acc.1.visited n with
  | some v => exact Tri.pure hI
  | none =>
    exact (ih acc.1 n hI.1 hn hv (Nat.le_trans (mu_mono K hI.2.1) hmu)).bind
      (fun a ha => Tri.pure (hI.trans ha.1))

theorem dfsLoop_ok {K : List Int} {fuel : Nat} (ih : DfsOk (w := w) K fuel) {d : Dfs w} {var : Int}
    (hd : DInv K d) (hK : var ∈ K) (h0 : mGet d.visited var = none) (hmu : mu K d.visited ≤ fuel + 1) :
    Tri true (dfsLoop fuel d var) (fun p => DStep K (dfsEnter d var) p.1) := by
  have hd0 : DInv K (dfsEnter d var) := hd
  have hmu0 : mu K (dfsEnter d var).visited ≤ fuel := by
    have := mu_visit K hK h0 (dfsEnter_vis d var) (dfsEnter_self d var)
    omega
  unfold dfsLoop
  cases hr : mGet d.s.reverse var with
  | none => exact Tri.pure (DStep.refl hd0)
  | some next =>
    refine Tri.bind (P := fun order => ∀ u ∈ order, u ∈ next)
      (.of (fun _ => takeOrder_safe var next) (fun _ _ _ h => (takeOrder_mem h).2)) (fun order hsub => ?_)
    exact Tri.foldlM (fun acc : Dfs w × Nat => DStep K (dfsEnter d var) acc.1) (dfsStep fuel) order
      (fun b x hx hi => dfsStep_ok ih hi (users_in_K hd hr (hsub x hx)) hmu0) (DStep.refl hd0)

theorem dfsFinish_ok {K : List Int} {d : Dfs w} {var : Int} {p : Dfs w × Nat}
    (hp : DStep K (dfsEnter d var) p.1) :
    Tri true (dfsFinish d.stack.length d.index var p) (fun r => DStep K d r.1 ∧ (mGet r.1.visited var).isSome) := by
  have hvis : ∀ k, (mGet d.visited k).isSome → (mGet p.1.visited k).isSome :=
    fun k h => hp.2.1 k (dfsEnter_vis d var k h)
  have hself : (mGet p.1.visited var).isSome := hp.2.1 var (dfsEnter_self d var)
  have hlen : d.stack.length ≤ p.1.stack.length := hp.2.2
  unfold dfsFinish
  split
  · obtain ⟨s', st', c', h1, h2, h3, h4⟩ :=
      popComp_total d.stack.length (var :: p.1.stack) p.1.s [] (by simp only [List.length_cons]; omega) hp.1.1
    refine (Tri.lift (fun _ => ⟨_, h1⟩) (fun a ha => (h1.symm.trans ha))).bind (fun a ha => ?_)
    cases ha
    exact Tri.pure ⟨⟨⟨h2, fun k hk => hp.1.2 k (h3 k hk)⟩, hvis, Nat.le_of_eq h4.symm⟩, hself⟩
  · exact Tri.pure ⟨⟨hp.1, hvis, by simp only [List.length_cons]; omega⟩, hself⟩

theorem dfs_ok (K : List Int) : ∀ fuel, DfsOk (w := w) K fuel := by
  intro fuel
  induction fuel with
  | zero =>
    intro d var _ hK h0 hmu
    have := mu_visit K hK h0 (dfsEnter_vis d var) (dfsEnter_self d var)
    omega
  | succ fuel ih =>
    intro d var hd hK h0 hmu
    rw [dfs_unfold]
    exact (dfsLoop_ok ih hd hK h0 hmu).bind (fun p hp => dfsFinish_ok hp)

theorem gatherForEmit_safe {w : Nat} {s : Rebuild w} (hwf : Wf s) (emit : List Int) :
    Safe (gatherForEmit s emit) := by
  unfold gatherForEmit
  split
  · exact Safe.pure _
  · simp only
    have hfuel : ∀ vis : List (Int × Nat),
        mu (mKeys s.pending ++ emit) vis ≤ s.pending.length + s.reverse.length + emit.length + 1 := by
      intro vis
      have h1 := mu_le_length (mKeys s.pending ++ emit) vis
      have h2 : (mKeys s.pending ++ emit).length = s.pending.length + emit.length := by
        simp only [List.length_append, mKeys, List.length_map]
      omega
    refine Safe.bind (Tri.foldlM (fun d : Dfs w => DInv (mKeys s.pending ++ emit) d) _ emit ?_
      (b := { s := s, index := 0, visited := [], stack := [], comps := [] }) ?_).safe (fun _ _ _ _ => Safe.pure _)
    · intro d var hvar hd
      split
      · rename_i hc
        have h0 : mGet d.visited var = none := by
          rw [← mHas_false_iff]; simpa using hc
        have hd' : DInv (mKeys s.pending ++ emit) { d with index := 0 } := hd
        exact (dfs_ok (w := w) (mKeys s.pending ++ emit) _ { d with index := 0 } var hd'
          (List.mem_append_right _ hvar) h0 (hfuel _)).bind (fun ⟨d', r⟩ ha => Tri.pure ha.1.1)
      · exact Tri.pure hd
    · exact ⟨hwf, fun k hk => List.mem_append_left _ hk⟩

end OptTotal
end Hpbf

#print axioms Hpbf.OptTotal.gatherForEmit_safe
