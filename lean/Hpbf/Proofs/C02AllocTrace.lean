/-
C02 (`allocate_temps`): the whole loop.  A successful run of `allocLoop` yields the sequence `tr 0 … tr n`
of states before each round; the invariant holds along it, finished instructions are never touched again,
and the location of a temporary is the same at every position of its range.
-/
import Hpbf.Proofs.C02AllocStep
set_option linter.unusedSimpArgs false

namespace Hpbf
namespace C02
namespace Alloc

open Bc BcWf BcGen C11

variable {w : Nat} {s : St w}

def initASt (numRegs : Nat) (s : St w) : ASt w :=
  { st := s, nextFresh := numRegs, freeRegs := List.range numRegs, freeTemps := [], nre := [], repl := [] }

/-- In the initial state the code is the input: no slot holds a moved computation. -/
theorem not_fused_init (numRegs : Nat) {f : Nat} {op : BcGen.Op} {m : Int} {t : Nat} {s0 s1 : Loc w} :
    ¬ Fused s 0 (initASt numRegs s) f op m t s0 s1 :=
  fun h => Fused.ne_copy h h.2.1

theorem passInv_init (hp : AllocPre s) (numRegs : Nat) : PassInv s 0 (initASt numRegs s) := by
  refine ⟨rfl, rfl, fun t r h => ⟨r, h, rfl, rfl, fun _ => rfl⟩, fun j _ => Or.inl rfl, ?_, ?_, ?_, ?_, ?_, ?_⟩
  · intro j x hx
    exact ⟨hp.noZero j x hx, x, hx, rfl⟩
  · refine ⟨List.nodup_nil, ?_, ?_, List.nodup_range, List.nodup_nil, ?_, ?_⟩
    · intro t t' r h; simp [initASt, alGet] at h
    · intro t r h; simp [initASt, alGet] at h
    · intro r _ h; simp [initASt] at h
    · intro r h
      simp only [initASt, List.mem_range, List.not_mem_nil, or_false] at h
      exact h
  · intro t l h; simp [initASt, alGet] at h
  · intro t m h; simp [initASt, alGet] at h
  · intro e t h; simp [initASt] at h
  · intro f op m t s0 s1 h
    exact absurd h (not_fused_init numRegs)

structure Trace (s : St w) (numRegs : Nat) (tr : Nat → ASt w) : Prop where
  init : tr 0 = initASt numRegs s
  step : ∀ k, k < s.insts.size → ∃ u, allocStep numRegs k (tr k) = .ok (u, tr (k + 1))

/-- Induction along the trace of the allocator. -/
theorem Trace.induct {numRegs : Nat} {tr : Nat → ASt w} (T : Trace s numRegs tr) {P : Nat → ASt w → Prop}
    (h0 : P 0 (initASt numRegs s)) (hs : ∀ k, k < s.insts.size → P k (tr k) → P (k + 1) (tr (k + 1))) :
    ∀ k, k ≤ s.insts.size → P k (tr k) := by
  intro k
  induction k with
  | zero => intro _; rw [T.init]; exact h0
  | succ k ih => intro hk; exact hs k (by omega) (ih (by omega))

theorem allocLoop_trace (numRegs n : Nat) : ∀ (j : Nat) (a a' : ASt w) (u : Unit), j ≤ n →
    allocLoop numRegs n j a = .ok (u, a') →
    ∃ tr : Nat → ASt w, tr (n - j) = a ∧ tr n = a' ∧
      ∀ k, n - j ≤ k → k < n → ∃ u, allocStep numRegs k (tr k) = .ok (u, tr (k + 1)) := by
  intro j
  induction j with
  | zero =>
    intro a a' u _ h
    simp only [allocLoop] at h
    rw [pure_ok] at h
    obtain ⟨_, rfl⟩ := h
    exact ⟨fun _ => a', rfl, rfl, fun k h1 h2 => absurd h2 (by omega)⟩
  | succ j ih =>
    intro a a' u hj h
    simp only [allocLoop] at h
    rw [bind_ok] at h
    obtain ⟨u1, a1, h1, h2⟩ := h
    obtain ⟨tr', t1, t2, t3⟩ := ih a1 a' u (by omega) h2
    refine ⟨fun k => if k ≤ n - (j + 1) then a else tr' k, ?_, ?_, ?_⟩
    · simp
    · have : ¬ n ≤ n - (j + 1) := by omega
      simp only [this, if_false]; exact t2
    · intro k hk1 hk2
      by_cases hk : k = n - (j + 1)
      · subst hk
        have : ¬ (n - (j + 1) + 1 ≤ n - (j + 1)) := by omega
        simp only [Nat.le_refl, if_true, this, if_false]
        have e : n - (j + 1) + 1 = n - j := by omega
        rw [e, t1]
        exact ⟨u1, h1⟩
      · have g1 : ¬ k ≤ n - (j + 1) := by omega
        have g2 : ¬ k + 1 ≤ n - (j + 1) := by omega
        simp only [g1, g2, if_false]
        exact t3 k (by omega) hk2

theorem trace_of_allocateTemps {numRegs : Nat} {s' : St w} (h : allocateTemps numRegs s = .ok s') :
    ∃ tr, Trace s numRegs tr ∧ (tr s.insts.size).st = s' := by
  unfold allocateTemps at h
  simp only at h
  cases hr : (allocLoop numRegs s.insts.size s.insts.size).run
      { st := s, nextFresh := numRegs, freeRegs := List.range numRegs, freeTemps := [], nre := [], repl := [] } with
  | error e => rw [hr] at h; cases h
  | ok p =>
    obtain ⟨u, a⟩ := p
    rw [hr] at h
    simp only at h
    split at h
    · cases h
      obtain ⟨tr, t1, t2, t3⟩ := allocLoop_trace numRegs s.insts.size s.insts.size _ a u (Nat.le_refl _) hr
      refine ⟨tr, ⟨?_, fun k hk => t3 k (by omega) hk⟩, by rw [t2]⟩
      rw [Nat.sub_self] at t1
      exact t1
    · cases h

section
variable {numRegs : Nat} {tr : Nat → ASt w}

theorem trace_inv (hp : AllocPre s) (T : Trace s numRegs tr) : ∀ k, k ≤ s.insts.size → PassInv s k (tr k) :=
  T.induct (P := PassInv s) (passInv_init hp numRegs)
    (fun k hk ih => let ⟨_, h⟩ := T.step k hk; (alloc_step hp ih h).inv)

theorem trace_sum (hp : AllocPre s) (T : Trace s numRegs tr) {k : Nat} (hk : k < s.insts.size) :
    StepSum s numRegs k (tr k) (tr (k + 1)) := by
  obtain ⟨u, h⟩ := T.step k hk
  exact alloc_step hp (trace_inv hp T k (by omega)) h

theorem stepKind_insts_lt {k : Nat} {a a' : ASt w} (h : StepKind s k a a') {j : Nat} (hj : j < k) :
    a'.st.insts[j]? = a.st.insts[j]? := by
  cases h with
  | other x hx hpl hq hi hr => exact hi j (by omega)
  | fuse op t s0 s1 f m hx hPk hkf hPf hfa hq hf hi hnone hr => exact hi j (by omega) (by omega)
  | rw cur new q hx hpl hn hq hi hd => exact hi j (by omega)

theorem trace_insts_final (hp : AllocPre s) (T : Trace s numRegs tr) {j : Nat} :
    ∀ k, j < k → k ≤ s.insts.size → (tr k).st.insts[j]? = (tr (j + 1)).st.insts[j]? := by
  intro k
  induction k with
  | zero => intro h; omega
  | succ k ih =>
    intro h1 h2
    by_cases hk : k = j
    · subst hk; rfl
    · rw [stepKind_insts_lt (trace_sum hp T (by omega)).kind (by omega)]
      exact ih (by omega) (by omega)

theorem trace_live_size (hp : AllocPre s) (T : Trace s numRegs tr) :
    ∀ k, k ≤ s.insts.size → (tr k).st.live.size = k :=
  T.induct (P := fun k a => a.st.live.size = k) hp.live0 (fun k hk ih => by rw [(trace_sum hp T hk).live, ih])

/-- An entry of the table after round `k` was there before, unless its temporary is created in round `k` (then there
was none). -/
theorem stepKind_repl (hp : AllocPre s) {k : Nat} {a a' : ASt w} (K : StepKind s k a a') {t : Nat} {v : Loc w}
    (hv : alGet a'.repl t = some v) :
    alGet a.repl t = some v ∨ (alGet a.repl t = none ∧ ∃ r : RangeInfo, s.ranges[t]? = some r ∧ r.created = k) := by
  cases K with
  | other x hx hpl hq hi hr => exact Or.inl (hr t v hv)
  | fuse op t0 s0 s1 f m hx hPk hkf hPf hfa hq hf hi hnone hr =>
    rcases hr.2 t v hv with ⟨rfl, _⟩ | h
    · exact Or.inr ⟨hnone, hp.defs k _ t hPk (by rw [defs_mkArith]; simp [locTmp])⟩
    · exact Or.inl h
  | rw cur new q hx hpl hn hq hi hd =>
    rcases hd with ⟨_, _, h⟩ | ⟨t0, _, hn0, hr0, h⟩
    · exact Or.inl (h t v hv)
    · rcases h with ⟨_, h⟩ | ⟨src, _, _, _, h⟩ | ⟨r, _, h⟩
      · exact Or.inl (h t v hv)
      · rcases h.2 t v hv with ⟨rfl, _⟩ | h
        · exact Or.inr ⟨hn0, hr0⟩
        · exact Or.inl h
      · rcases h.2 t v hv with ⟨rfl, _⟩ | h
        · exact Or.inr ⟨hn0, hr0⟩
        · exact Or.inl h

theorem repl_stable (hp : AllocPre s) (T : Trace s numRegs tr) {t : Nat} {r : RangeInfo} {L : Nat}
    (hr : s.ranges[t]? = some r) (hL : r.lastUse = some L) {k1 : Nat} (h1 : r.created < k1) :
    ∀ k2, k1 ≤ k2 → k2 ≤ L → k2 ≤ s.insts.size → alGet (tr k2).repl t = alGet (tr k1).repl t := by
  intro k2
  induction k2 with
  | zero =>
    intro h _ _
    have : k1 = 0 := by omega
    subst this; rfl
  | succ k ih =>
    intro h2 h3 h4
    by_cases hk : k1 = k + 1
    · subst hk; rfl
    · have ih' := ih (by omega) (by omega) (by omega)
      rw [← ih']
      have S := trace_sum hp T (k := k) (by omega)
      cases hg : alGet (tr k).repl t with
      | some v =>
        rcases S.keep t v hg with h | h
        · exact h
        · have := h r L hr hL
          omega
      | none =>
        cases hg' : alGet (tr (k + 1)).repl t with
        | none => rfl
        | some v =>
          have := (stepKind_repl hp S.kind hg').resolve_right (by
            rintro ⟨_, r', hr', hc⟩
            rw [hr] at hr'; cases hr'
            omega)
          rw [hg] at this; cases this

end

end Alloc
end C02
end Hpbf
