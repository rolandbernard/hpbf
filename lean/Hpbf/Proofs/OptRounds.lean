/-
`Opt.optimize` and `OptFix.optimizeF` are one pipeline `pipeline once` over a round function `once`
(`optimizeOnce`, resp. `optimizeOnceF = onceP fixClob`): level 0 returns the input; otherwise a first round, then
`min level 3 - 1` times dead store elimination followed by a round; all orders must be consumed.
The induction over the rounds of a successful run is `pipeline_ind`.  (The same induction for `Safe`, which speaks of
failing runs and of the existence of an oracle and so is not an invariant of one successful run, is in
`Proofs/OptTotalRounds.lean`.)  A fact about the returned BLOCK is proved once, by induction over `Steps`, and holds for
both pipelines.
-/
import Hpbf.OptFix
import Hpbf.Proofs.OptRbMonad

namespace Hpbf
namespace Rounds
open Opt Ir OptProof

variable {w : Nat}

abbrev Once (w : Nat) := Block w → OptAnalysis w → M (Block w × OptAnalysis w)

def rounds (once : Once w) : Nat → Block w → OptAnalysis w → M (Block w)
  | 0, prog, _ => pure prog
  | n + 1, prog, anal => do
    let prog ← (deadStoreElimination prog anal : Except String (Block w))
    let (prog, anal) ← once prog anal
    rounds once n prog anal

def pipelineM (once : Once w) (b : Block w) (level : Nat) : M (Block w) :=
  if level != 0 then do
    let (prog, anal) ← once b (topAnalysis [] [])
    rounds once (min level 3 - 1) prog anal
  else pure b

def pipeline (once : Once w) (b : Block w) (level : Nat) (orders : Orders) : Except String (Block w) :=
  match (pipelineM once b level).run orders with
  | .error e => .error e
  | .ok (prog, []) => .ok prog
  | .ok (_, o :: _) => .error s!"order-mismatch unused {o.1}"

theorem optimizeRounds_eq : @optimizeRounds w = rounds optimizeOnce := by
  funext n
  induction n with
  | zero => rfl
  | succ n ih => funext p a; rw [optimizeRounds, rounds, ih]

theorem optimizeRoundsF_eq : @OptFix.optimizeRoundsF w = rounds OptFix.optimizeOnceF := by
  funext n
  induction n with
  | zero => rfl
  | succ n ih => funext p a; rw [OptFix.optimizeRoundsF, rounds, ih]

theorem optimizeM_eq (b : Block w) (level : Nat) : optimizeM b level = pipelineM optimizeOnce b level := by
  unfold optimizeM
  rw [optimizeRounds_eq]
  rfl

theorem optimizeMF_eq (b : Block w) (level : Nat) :
    OptFix.optimizeMF b level = pipelineM OptFix.optimizeOnceF b level := by
  unfold OptFix.optimizeMF
  rw [optimizeRoundsF_eq]
  rfl

theorem optimize_eq (b : Block w) (level : Nat) (orders : Orders) :
    Opt.optimize b level orders = pipeline optimizeOnce b level orders := by
  unfold Opt.optimize
  rw [optimizeM_eq]
  rfl

theorem optimizeF_eq (b : Block w) (level : Nat) (orders : Orders) :
    OptFix.optimizeF b level orders = pipeline OptFix.optimizeOnceF b level orders := by
  unfold OptFix.optimizeF
  rw [optimizeMF_eq]
  rfl

theorem pipeline_ok_iff {once : Once w} {b b' : Block w} {level : Nat} {orders : Orders} :
    pipeline once b level orders = .ok b' ↔ (pipelineM once b level).run orders = .ok (b', []) := by
  unfold pipeline
  cases h : (pipelineM once b level).run orders with
  | error e => simp
  | ok v =>
    obtain ⟨prog, os⟩ := v
    cases os <;> simp

theorem rounds_succ_ok {once : Once w} {n : Nat} {prog b' : Block w} {anal : OptAnalysis w} {os os' : Orders} :
    (rounds once (n + 1) prog anal).run os = .ok (b', os') ↔
      ∃ prog1 prog2 anal2 os2, deadStoreElimination prog anal = .ok prog1 ∧
        (once prog1 anal).run os = .ok ((prog2, anal2), os2) ∧
        (rounds once n prog2 anal2).run os2 = .ok (b', os') := by
  rw [rounds, run_bind_ok]
  constructor
  · rintro ⟨prog1, os1, h1, h2⟩
    obtain ⟨hd, ho⟩ := run_monadLift_ok.1 h1
    simp only at hd ho
    subst ho
    rw [run_bind_ok] at h2
    obtain ⟨⟨prog2, anal2⟩, os2, h3, h4⟩ := h2
    exact ⟨prog1, prog2, anal2, os2, hd, h3, h4⟩
  · rintro ⟨prog1, prog2, anal2, os2, hd, h3, h4⟩
    refine ⟨prog1, os, run_monadLift_ok.2 ⟨hd, rfl⟩, ?_⟩
    rw [run_bind_ok]
    exact ⟨(prog2, anal2), os2, h3, h4⟩

theorem pipelineM_ok_iff {once : Once w} {b b' : Block w} {level : Nat} {os os' : Orders} :
    (pipelineM once b level).run os = .ok (b', os') ↔
      (level = 0 ∧ b' = b ∧ os' = os) ∨
      (level ≠ 0 ∧ ∃ b1 a1 os1, (once b (topAnalysis [] [])).run os = .ok ((b1, a1), os1) ∧
        (rounds once (min level 3 - 1) b1 a1).run os1 = .ok (b', os')) := by
  unfold pipelineM
  cases level with
  | zero =>
    rw [if_neg (by decide), run_pure]
    constructor
    · intro h; cases h; exact Or.inl ⟨rfl, rfl, rfl⟩
    · rintro (⟨_, rfl, rfl⟩ | ⟨h, _⟩)
      · rfl
      · exact absurd rfl h
  | succ n =>
    rw [if_pos (bne_iff_ne.2 (Nat.succ_ne_zero n)), run_bind_ok]
    constructor
    · rintro ⟨⟨b1, a1⟩, os1, h1, h2⟩
      exact Or.inr ⟨Nat.succ_ne_zero n, b1, a1, os1, h1, h2⟩
    · rintro (⟨h, _⟩ | ⟨_, b1, a1, os1, h1, h2⟩)
      · cases h
      · exact ⟨(b1, a1), os1, h1, h2⟩

/-- At level 0 the pipeline returns its argument (and consumes no oracle entry). -/
theorem pipeline_zero {once : Once w} {b b' : Block w} {orders : Orders} :
    pipeline once b 0 orders = .ok b' ↔ b' = b ∧ orders = [] := by
  rw [pipeline_ok_iff, pipelineM_ok_iff]
  simp

/-- The induction over the rounds of a successful run. `I n prog anal os`: `n` rounds left, `(prog, anal)` the
output of the previous round, `os` the orders left. -/
theorem rounds_ind {once : Once w} (I : Nat → Block w → OptAnalysis w → Orders → Prop)
    (hstep : ∀ {n p a os p1 p2 a2 os2}, I (n + 1) p a os → deadStoreElimination p a = .ok p1 →
      (once p1 a).run os = .ok ((p2, a2), os2) → I n p2 a2 os2) :
    ∀ (n : Nat) {p b' : Block w} {a : OptAnalysis w} {os os' : Orders}, I n p a os →
      (rounds once n p a).run os = .ok (b', os') → ∃ a', I 0 b' a' os'
  | 0, p, b', a, os, os', hI, h => by
    rw [rounds, run_pure] at h; cases h
    exact ⟨a, hI⟩
  | n + 1, p, b', a, os, os', hI, h => by
    obtain ⟨p1, p2, a2, os2, hd, h3, h4⟩ := rounds_succ_ok.1 h
    exact rounds_ind I hstep n (hstep hI hd h3) h4

theorem pipeline_ind {once : Once w} (I : Nat → Block w → OptAnalysis w → Orders → Prop) {b b' : Block w}
    {level : Nat} {orders : Orders} (h : pipeline once b level orders = .ok b')
    (hfirst : ∀ {b1 a1 os1}, level ≠ 0 → (once b (topAnalysis [] [])).run orders = .ok ((b1, a1), os1) →
      I (min level 3 - 1) b1 a1 os1)
    (hstep : ∀ {n p a os p1 p2 a2 os2}, I (n + 1) p a os → deadStoreElimination p a = .ok p1 →
      (once p1 a).run os = .ok ((p2, a2), os2) → I n p2 a2 os2) :
    (level = 0 ∧ b' = b) ∨ (level ≠ 0 ∧ ∃ a', I 0 b' a' []) := by
  rcases pipelineM_ok_iff.1 (pipeline_ok_iff.1 h) with ⟨h0, hb, _⟩ | ⟨h0, b1, a1, os1, h1, h2⟩
  · exact Or.inl ⟨h0, hb⟩
  · exact Or.inr ⟨h0, rounds_ind I hstep _ (hfirst h0 h1) h2⟩

/-- A round whose recorded analysis is post-processed. -/
def onceP (post : Block w → OptAnalysis w → OptAnalysis w) : Once w := fun b prev => do
  let (prog, anal) ← optimizeOnce b prev
  pure (prog, post prog anal)

theorem optimizeOnceF_eq : @OptFix.optimizeOnceF w = onceP OptFix.fixClob := rfl

theorem onceP_id : onceP (fun _ a => a) = @optimizeOnce w := by
  funext b prev
  have : (fun x : Block w × OptAnalysis w => (match x with | (p, a) => pure (p, a) : M _)) = pure :=
    funext fun ⟨_, _⟩ => rfl
  unfold onceP
  rw [this, bind_pure]

theorem onceP_ok {post : Block w → OptAnalysis w → OptAnalysis w} {b b' : Block w} {prev a' : OptAnalysis w}
    {os os' : Orders} :
    (onceP post b prev).run os = .ok ((b', a'), os') ↔
      ∃ a0, (optimizeOnce b prev).run os = .ok ((b', a0), os') ∧ a' = post b' a0 := by
  unfold onceP
  rw [run_bind_ok]
  constructor
  · rintro ⟨⟨p, a0⟩, os1, h1, h2⟩
    rw [run_pure] at h2
    cases h2
    exact ⟨a0, h1, rfl⟩
  · rintro ⟨a0, h1, rfl⟩
    exact ⟨(b', a0), os', h1, rfl⟩

/-- At levels 0 and 1 the repaired pipeline runs as `optimizeM` does: the post-processed analysis is not read. -/
theorem optimizeMF_run_le_one (b : Block w) {level : Nat} (h : level ≤ 1) (orders : Orders) :
    (OptFix.optimizeMF b level).run orders = (optimizeM b level).run orders := by
  rw [optimizeMF_eq, optimizeM_eq]
  cases level with
  | zero => rfl
  | succ n =>
    have hn : n = 0 := by omega
    subst hn
    rw [pipelineM, pipelineM, if_pos (by decide), if_pos (by decide), run_bind, run_bind]
    unfold OptFix.optimizeOnceF
    rw [run_bind]
    cases hr : (optimizeOnce b (topAnalysis [] [])).run orders with
    | error e => rfl
    | ok v =>
      obtain ⟨⟨p, a⟩, os1⟩ := v
      rfl

/-- `Steps b b'`: `b'` is `b`, or the output of a round on `b`, or the output of (dead store elimination; a round)
on such a block — with any analysis, which is why the repaired pipeline has the same `Steps`.  `Steps` forgets the
level, the analysis and that the orders were consumed: it carries what a round keeps from ANY analysis (offset bounds,
drift, shifts), not the preservation of meaning (that is `pipeline_ind`). -/
inductive Steps (b : Block w) : Block w → Prop
  | refl : Steps b b
  | first {anal b1 anal1 os os'} : (optimizeOnce b anal).run os = .ok ((b1, anal1), os') → Steps b b1
  | round {b0 anal b1 b2 anal2 os os'} : Steps b b0 → deadStoreElimination b0 anal = .ok b1 →
      (optimizeOnce b1 anal).run os = .ok ((b2, anal2), os') → Steps b b2

theorem pipeline_steps {once : Once w}
    (hone : ∀ {b a os b' a' os'}, (once b a).run os = .ok ((b', a'), os') →
      ∃ a0, (optimizeOnce b a).run os = .ok ((b', a0), os'))
    {b b' : Block w} {level : Nat} {orders : Orders} (h : pipeline once b level orders = .ok b') :
    Steps b b' := by
  rcases pipeline_ind (fun _ p _ _ => Steps b p) h (fun _ h1 => (hone h1).elim fun _ h => .first h)
    (fun hI hd h3 => (hone h3).elim fun _ h => .round hI hd h) with ⟨_, rfl⟩ | ⟨_, _, hs⟩
  · exact .refl
  · exact hs

theorem optimize_steps {b b' : Block w} {level : Nat} {orders : Orders}
    (h : Opt.optimize b level orders = .ok b') : Steps b b' :=
  pipeline_steps (fun h => ⟨_, h⟩) (optimize_eq b level orders ▸ h)

theorem optimizeF_steps {b b' : Block w} {level : Nat} {orders : Orders}
    (h : OptFix.optimizeF b level orders = .ok b') : Steps b b' :=
  pipeline_steps (fun h => (onceP_ok.1 h).imp fun _ h => h.1) (optimizeF_eq b level orders ▸ h)

end Rounds
end Hpbf
