/-
C03 (control flow): the straight-line instructions on the program machine: `noop`, the arithmetic /
copy instructions (lifting `sel_instr` through `plain_blk`, the bridge from `X86Sem.execAll` to `Blk`), and `mov` without bounds check.
-/
import Hpbf.Proofs.C03FlowBranch
import Hpbf.Proofs.C03FlowSlots
namespace Hpbf
namespace C03
open Asm JitGen X86Sem X86Prog
variable {w : Nat}

theorem flow_noop (K : Ctx w) {fr : Frame} {c : Bc.Cfg w} {s : PState w}
    (hi : K.p.insts[c.pc]? = some .noop) (hinv : Inv K fr c s) (hrel : Rel c (view s))
    {c' : Bc.Cfg w} (hstep : Bc.step K.p K.limited c = .next c') :
    ∃ n s', steps K.cfg n s = some s' ∧ Inv K fr c' s' ∧ Rel c' (view s') := by
  obtain ⟨lv, its, xs, hI⟩ := K.instrAt hi
  obtain ⟨hraw, -⟩ := emitInstr_raw hI.emit
  simp only [emitInstrRaw, Option.some.injEq] at hraw
  subst hraw
  simp only [Bc.step, hi, Bc.StepRes.next.injEq] at hstep
  subst hstep
  refine ⟨0, s, rfl, ?_, hrel⟩
  have := hinv.move (SameTmp.rfl' s) (pc' := c.pc + 1) (b' := c.budget)
    (by rw [hinv.pc, hI.next]; simp) hinv.budget
  exact this

theorem plains_inj {xs ys : List X86} (h : plains xs = plains ys) : xs = ys := by
  induction xs generalizing ys with
  | nil => cases ys <;> simp_all [plains]
  | cons x xs ih =>
    cases ys with
    | nil => simp [plains] at h
    | cons y ys =>
      simp only [plains, List.map_cons, List.cons.injEq, Item.plain.injEq] at h
      rw [h.1, ih h.2]

/-- What an arithmetic / copy step leaves alone on the bytecode side. -/
structure BcKeep (c c' : Bc.Cfg w) : Prop where
  pc : c'.pc = c.pc
  budget : c'.budget = c.budget
  env : c'.st.env = c.st.env
  trace : c'.st.trace = c.st.trace
  ptr : c'.st.ptr = c.st.ptr

theorem BcKeep.trans {a b c : Bc.Cfg w} (h1 : BcKeep a b) (h2 : BcKeep b c) : BcKeep a c :=
  ⟨h2.pc.trans h1.pc, h2.budget.trans h1.budget, h2.env.trans h1.env, h2.trace.trans h1.trace,
   h2.ptr.trans h1.ptr⟩

theorem readLoc_keep (c : Bc.Cfg w) (l : Bc.Loc w) : BcKeep c (Bc.readLoc c l).2 := by
  cases l <;> exact ⟨rfl, rfl, rfl, rfl, rfl⟩

theorem writeLoc_keep {c c' : Bc.Cfg w} {v : BitVec w} {l : Bc.Loc w} (h : Bc.writeLoc c v l = some c') :
    BcKeep c c' := by
  cases l <;> simp [Bc.writeLoc] at h <;> subst h <;> exact ⟨rfl, rfl, rfl, rfl, rfl⟩

theorem binop_keep {f : BitVec w → BitVec w → BitVec w} {c c' : Bc.Cfg w} {d a b : Bc.Loc w}
    (h : Bc.binop f c d a b = some c') : BcKeep c c' := by
  unfold Bc.binop at h
  split at h
  · exact ((readLoc_keep c b).trans (readLoc_keep _ d)).trans (writeLoc_keep h)
  · exact ((readLoc_keep c a).trans (readLoc_keep _ b)).trans (writeLoc_keep h)

theorem arith_keep {c c' : Bc.Cfg w} {ins : Bc.Instr w} (h : arith c ins = some c') : BcKeep c c' := by
  cases ins <;> simp only [arith] at h <;> try (cases h; done)
  · exact binop_keep h
  · exact binop_keep h
  · exact binop_keep h
  · exact (readLoc_keep c _).trans (writeLoc_keep h)

/-- `copy` / `add` / `sub` / `mul`: the selector's code runs on the program machine, from a fully related
state to one related on the live register temporaries and the destination. `n` bounds the temporaries of
the instruction (`BcWf`: `< p.temps`). -/
theorem flow_arith (K : Ctx w) {fr : Frame} {c : Bc.Cfg w} {s : PState w} {ins : Bc.Instr w}
    (hi : K.p.insts[c.pc]? = some ins) (hok : ArithOk ins)
    (htmps : ∀ t ∈ insTmps ins, t < alignedTemps K.p.temps)
    (hinv : Inv K fr c s) (hrel : Rel c (view s))
    {c' : Bc.Cfg w} (hstep : Bc.step K.p K.limited c = .next c') :
    ∃ lv n s', K.p.live[c.pc]? = some lv ∧ steps K.cfg (n + 1) s = some s' ∧ Inv K fr c' s' ∧
      Rel' lv (dstOf ins) c' (view s') := by
  obtain ⟨lv, its, xs0, hI⟩ := K.instrAt hi
  obtain ⟨xs, hits, hemit⟩ := emitArith_of_emitInstr hok hI.emit
  obtain ⟨xs', hits', m', hx, hrel', hbx, hbp, hsp⟩ := sel_instr K.hszb K.limited K.safe K.p.minAcc K.p.maxAcc
    K.cfg.aE.toNat K.cfg.aI.toNat K.cfg.aO.toNat c.pc lv ins hok hI.emit K.p K.limited hi hrel hstep
  have : xs' = xs := plains_inj (hits'.symm.trans hits)
  subst this
  have hres := hI.res
  rw [hits] at hres
  obtain ⟨ys, hxs0, hres'⟩ := resolveItems_plains (its := []) (by simpa using hres)
  have := resolveItems_nil' hres'
  subst this
  have hat : At K.cfg K.code s.pc (xs' ++ []) := by
    rw [hinv.pc]; have := hI.at_; rw [hxs0] at this; exact this
  have hslots := emitArith_slotOk hemit hok htmps
  obtain ⟨s', b, hview, hctl, hdrop⟩ := plain_blk (cfg := K.cfg) hx (n := alignedTemps K.p.temps)
    (by rw [hinv.len]; omega) hslots
  have hst := (b.steps hat).1
  have hpc := b.pc_eq
  rw [step_arith K.p K.limited hi hok] at hstep
  cases ha : arith c ins with
  | none => rw [ha] at hstep; cases hstep
  | some c'' =>
    rw [ha] at hstep
    simp only [Bc.StepRes.next.injEq] at hstep
    have hkeep := arith_keep ha
    subst hstep
    -- `(view s).regs r` is `s.regs.get r` by definition
    have hreg : ∀ r, (view s').regs r = (view s).regs r → s'.regs.get r = s.regs.get r := fun _ h => h
    obtain ⟨n, hn⟩ : ∃ n, xs'.length = n + 1 :=
      ⟨xs'.length - 1, by have := List.length_pos_iff.2 (emitArith_ne_nil hemit); omega⟩
    rw [hn] at hst
    refine ⟨lv, n, s', hI.live, hst, ?_, by rw [hview]; exact hrel'⟩
    refine (hinv.framed.of_eq (s' := s') ?_ hctl.len hdrop hctl.tapeOk hctl.buf hctl.lptr hctl.base).inv ?_
      (by rw [hctl.env, hinv.env, hkeep.env]) (by rw [hctl.trace, hinv.trace, hkeep.trace])
      (by rw [hctl.budget, hinv.budget, hkeep.budget])
    · rintro r (rfl | rfl | rfl) <;> apply hreg <;> rw [hview] <;> assumption
    · show s'.pc = K.loc (c''.pc + 1)
      rw [hpc, hkeep.pc, hI.next, hinv.pc, hits, itemsSize_plains]


/-- `s'` is `s` after the tape pointer moved by `sh` cells; `rax`, `rcx`, flags, `pc`, `oob`, `off` are free. -/
structure Moved (s s' : PState w) (sh : Int) : Prop where
  regs : ∀ r, r ≠ .rax → r ≠ .rcx → r ≠ .rbp → s'.regs.get r = s.regs.get r
  rbp : s'.regs.get .rbp = s.regs.get .rbp + BitVec.ofInt 64 (cellBytes w * sh)
  lptr : s'.lptr = s.lptr + sh
  tape : s'.tape = s.tape
  stk : s'.stk = s.stk
  tapeOk : s'.tapeOk = s.tapeOk
  buf : s'.buf = s.buf
  size : s'.size = s.size
  base : s'.base = s.base
  budget : s'.budget = s.budget
  env : s'.env = s.env
  trace : s'.trace = s.trace

theorem Moved.sameTmp {s s1 s2 : PState w} {sh : Int} (h : Moved s s1 sh) (h2 : SameTmp s1 s2)
    (hb : s2.budget = s1.budget) : Moved s s2 sh :=
  ⟨fun r h1 h2' h3 => (h2.regs r h1 h2').trans (h.regs r h1 h2' h3),
   (h2.regs .rbp (by decide) (by decide)).trans h.rbp, h2.lptr.trans h.lptr, h2.tape.trans h.tape,
   h2.stk.trans h.stk, h2.tapeOk.trans h.tapeOk, h2.buf.trans h.buf, h2.size.trans h.size,
   h2.base.trans h.base, hb.trans h.budget, h2.env.trans h.env, h2.trace.trans h.trace⟩

/-- After the move the tape is seen shifted: agreement with the moved bytecode state. -/
theorem Moved.relOn {s s' : PState w} {sh : Int} (h : Moved s s' sh) {S : Nat → Prop} {c : Bc.Cfg w}
    (hr : RelOn S c (view s)) : RelOn S { c with st := c.st.mov sh } (view s') :=
  hr.of_kept (fun _ hlt _ => have hne := treg_ne hlt; h.regs _ hne.1 hne.2.1 hne.2.2.2.2) h.stk rfl fun o => by
    have := hr.2.2 (sh + o)
    simp only [view, State.rd, State.mov] at this ⊢
    rw [h.tape, h.lptr, Int.add_assoc, this, Int.add_assoc]

theorem Moved.phys {s s' : PState w} {sh : Int} (h : Moved s s' sh) (hp : Phys s) : Phys s' := by
  unfold Phys at *
  have e : s'.regs.rbp = s'.regs.get .rbp := rfl
  have e' : s.regs.get .rbp = s.regs.rbp := rfl
  rw [e, h.rbp, e', hp, h.buf, h.lptr, h.base, BitVec.add_assoc, ← BitVec.ofInt_add]
  congr 2
  rw [Int.mul_sub, Int.mul_sub, Int.mul_add]; omega


theorem Framed.of_moved {K : Ctx w} {fr : Frame} {s s' : PState w} {sh : Int} (h : Framed K fr s)
    (hm : Moved s s' sh) : Framed K fr s' :=
  ⟨(hm.regs .rbx (by decide) (by decide) (by decide)).trans h.rbx, hm.tapeOk.trans h.tapeOk,
    (hm.regs .rsp (by decide) (by decide) (by decide)).trans h.rsp, h.align, by rw [hm.stk]; exact h.len,
    by rw [hm.stk]; exact h.saved, hm.phys h.phys⟩

theorem flow_mov_unchecked (K : Ctx w) (hsafe : K.safe = false) {fr : Frame} {c : Bc.Cfg w} {s : PState w}
    {shift : Int} (hi : K.p.insts[c.pc]? = some (.mov shift))
    (hsh : -2147483648 ≤ shift ∧ shift < 2147483648) (hinv : Inv K fr c s) (hrel : Rel c (view s))
    {c' : Bc.Cfg w} (hstep : Bc.step K.p K.limited c = .next c') :
    ∃ n s', steps K.cfg (n + 1) s = some s' ∧ Inv K fr c' s' ∧ Rel c' (view s') := by
  obtain ⟨lv, its, xs, hI⟩ := K.instrAt hi
  obtain ⟨hraw, hfit⟩ := emitInstr_raw hI.emit
  simp only [emitInstrRaw, hsafe, Bool.false_eq_true, if_false, Option.some.injEq] at hraw
  subst hraw
  rw [i32_eq hsh.1 hsh.2] at hfit hI
  have hf : (addImm64 (.reg memr) ((K.C.sz.bytes : Int) * shift)).fits = true :=
    mem_all_fits hfit (by simp)
  obtain ⟨ys, hxs, hres⟩ := resolveItems_plain_cons hI.res
  have := resolveItems_nil' hres
  subst this
  have hat : At K.cfg K.code s.pc [addImm64 (.reg memr) ((K.C.sz.bytes : Int) * shift)] := by
    rw [hinv.pc, ← hxs]; exact hI.at_
  obtain ⟨s1, h1, e1⟩ : ∃ s1, stepInstr K.cfg _ s = .next s1 ∧ s1 = _ := ⟨_, si_addRbp K.hszb hf, rfl⟩
  have hm : Moved s s1 shift := by
    rw [e1]
    refine ⟨fun r _ _ h3 => by simp [h3], ?_, rfl, rfl, rfl, rfl, rfl, rfl, rfl, rfl, rfl, rfl⟩
    simp [(bytes_eq K.hszb).1]
  simp only [Bc.step, hi, Bc.StepRes.next.injEq] at hstep
  subst hstep
  refine ⟨0, s1, steps_one ((step_at hat).trans h1), (hinv.framed.of_moved hm).inv ?_ (hm.env.trans hinv.env)
    (hm.trace.trans hinv.trace) (by rw [hm.budget]; exact hinv.budget),
    (rel_iff_relOn ..).2 (hm.relOn ((rel_iff_relOn ..).1 hrel))⟩
  show s1.pc = K.loc (c.pc + 1)
  rw [e1, hI.next, hinv.pc]; simp [Item.size]

end C03
end Hpbf
