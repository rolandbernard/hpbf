/-
The fixed optimizer (`Hpbf/OptFix.lean`) preserves the observable behaviour at every level, without any hypothesis on
the run.

With the fix the analysis handed to a later round is `fixClob prog a0`: every non-moving loop node records as
`clobbered` all store/input targets of its body.  That analysis is `AnalInL`-sound for the dead-store-eliminated
program for SYNTACTIC reasons (`TgtOkL`: `tgtOkL_fixSubs`, `tgtOkL_sub`, `analInL_of_tgtOk`), dead store elimination
itself does not see the change (`dse_fixClob`); a round with a sound analysis is `optimizeOnce_preserves_g`,
`optimizeOnce_onceOk_g` (`OptRbTop1`), the rounds are taken together by `Rounds.pipeline_ind` (`OptRounds`).
-/
import Hpbf.Proofs.OptRbFix1
import Hpbf.Proofs.OptRbFix2
import Hpbf.Proofs.OptRbRounds3

namespace Hpbf
namespace OptProof
open Opt OptSem Ir Rounds

variable {w : Nat}

/-- The state of the loop of `optimizeF` after a round. -/
def AfterRoundF (env : Env) (prog : Block w) (anal : OptAnalysis w) : Prop :=
  C02Emit.OnceOk prog env ∧
  ∃ (b : Block w) (prev a0 : OptAnalysis w) (os os' : Orders), CanonL b.insts ∧
    (optimizeOnce b prev).run os = .ok ((prog, a0), os') ∧ anal = OptFix.fixClob prog a0

/-- One iteration of the loop of `optimizeF`: dead store elimination, then a round with the fixed analysis. -/
theorem laterRoundF_ok (hw : 0 < w) {env : Env} {prog prog1 prog2 : Block w} {anal anal2 : OptAnalysis w}
    {os os2 : Orders} (hp : AfterRoundF env prog anal)
    (hd : deadStoreElimination prog anal = .ok prog1)
    (hr : (OptFix.optimizeOnceF prog1 anal).run os = .ok ((prog2, anal2), os2)) :
    BehEq prog prog2 env ∧ AfterRoundF env prog2 anal2 := by
  obtain ⟨ho, b0, prev, a0, os0, os0', hcl0, hr0, rfl⟩ := hp
  have hs0 : ShapeL prog.insts a0.subBlocks := optimizeOnce_shape hr0
  have hd0 : deadStoreElimination prog a0 = .ok prog1 := by rw [← dse_fixClob]; exact hd
  have e1 : BehEq prog prog1 env := round_dse_behEq hr0 hcl0 ho hd0
  obtain ⟨htg, hs1, hcl1⟩ := tgtOkL_dse hs0 (optimizeOnce_canonL hr0 hcl0) hd
  have hamo : (OptFix.fixClob prog a0).loopAnal.atMostOnce = true := by
    rw [fixClob_loopAnal]; exact optimizeOnce_anal_amo hr0
  have ha : AnalInL (fun σ => σ = State.init env) prog1.insts (OptFix.fixClob prog a0).subBlocks :=
    analInL_of_tgtOk _ _ _ htg
  obtain ⟨a2, hr2, rfl⟩ := optimizeOnceF_ok.1 hr
  have e2 := optimizeOnce_preserves_g hw hcl1 hamo hs1 ha hr2
  have ho2 := optimizeOnce_onceOk_g hw hcl1 hamo hs1 ha hr2
  exact ⟨e1.trans e2, ho2, prog1, _, a2, os, os2, hcl1, hr2, rfl⟩

/-- Every level: same observable behaviour, and (levels ≥ 1) justified `once` marks. -/
theorem optimizeF_all_levels (hw : 0 < w) {b b' : Block w} (hcl : CanonL b.insts) {level : Nat}
    {orders : Orders} (h : OptFix.optimizeF b level orders = .ok b') (env : Env) :
    BehEq b b' env ∧ (level ≠ 0 → C02Emit.OnceOk b' env) := by
  rw [optimizeF_eq] at h
  refine (pipeline_ind (fun _ p a _ => BehEq b p env ∧ AfterRoundF env p a) h ?_ ?_).elim ?_ ?_
  · intro b1 a1 os1 _ h1
    obtain ⟨a0, h1', rfl⟩ := optimizeOnceF_ok.1 h1
    exact ⟨optimizeOnce_preserves_l1 hw hcl h1' env,
      optimizeOnce_onceOk_l1 hw hcl h1' env, b, _, a0, orders, os1, hcl, h1', rfl⟩
  · intro n p a os p1 p2 a2 os2 hI hd h3
    obtain ⟨e2, hp2⟩ := laterRoundF_ok hw hI.2 hd h3
    exact ⟨hI.1.trans e2, hp2⟩
  · rintro ⟨h0, rfl⟩
    exact ⟨BehEq.refl _ _, fun hl => absurd h0 hl⟩
  · rintro ⟨_, a', e, ho, _⟩
    exact ⟨e, fun _ => ho⟩

/-- The fixed `Program::optimize` preserves the observable behaviour at every level (every oracle, every
environment, no hypothesis on the run). -/
theorem optimizeF_preserves_all_levels (hw : 0 < w) {b b' : Block w} (hcl : CanonL b.insts) {level : Nat}
    {orders : Orders} (h : OptFix.optimizeF b level orders = .ok b') (env : Env) : BehEq b b' env :=
  (optimizeF_all_levels hw hcl h env).1

/-- The `once` marks of the result of the fixed `Program::optimize` are justified (levels ≥ 1). -/
theorem optimizeF_onceOk_all_levels (hw : 0 < w) {b b' : Block w} (hcl : CanonL b.insts) {level : Nat}
    (hl : level ≠ 0) {orders : Orders} (h : OptFix.optimizeF b level orders = .ok b') (env : Env) :
    C02Emit.OnceOk b' env :=
  (optimizeF_all_levels hw hcl h env).2 hl

end OptProof
end Hpbf

#print axioms Hpbf.OptProof.laterRoundF_ok
#print axioms Hpbf.OptProof.optimizeF_preserves_all_levels
#print axioms Hpbf.OptProof.optimizeF_onceOk_all_levels
