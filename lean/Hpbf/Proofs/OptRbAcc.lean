/-
The SEMANTIC invariant of a `Rebuild` state at the level of memories (`MInv`), the
abstract interface to the parent chain (`PK`), and soundness of the read-only accessors (`getWritten`,
`getPending`, `getConstant`, `isNonZero`, `evalWritten`, `evalPending`, `retargetOutput`,
`compareWrittenNoParent`).  Those that consult the parent are proved under `PKc X` (the interface required only
on the unwritten cells of `X`, the cells the argument mentions: `*_sound_c`), hence under `PK` (`*_sound`).

`M0` = memory at block entry (or after the last uncertain move), `E` = memory after the emitted instructions,
`S` = memory of the source program at the same point; all in the coordinates of the state (offsets from the
emitted program's pointer).
-/
import Hpbf.Proofs.OptRbInv

namespace Hpbf
namespace OptProof
open Opt OptSem

variable {w : Nat}

/-- The part of `isNonZero` that does not look at `pending` / `written`. -/
def nonZeroParent (s : Rebuild w) (ps : List (Rebuild w)) (var : Int) : Bool :=
  if !s.subShift && s.cond == some var then true
  else if canAskParentFor s var then
    match s.parent, ps with
    | .parent, p :: ps' => isNonZero p ps' var
    | _, _ => false
  else false

/-- What the state may conclude about its entry memory `M0` from the parent chain (and from `cond`). -/
structure PK (s : Rebuild w) (ps : List (Rebuild w)) (M0 : Mem w) : Prop where
  const : ∀ v c, getParentConstant s ps v = some c → M0 v = c
  nz : ∀ v, nonZeroParent s ps v = true → M0 v ≠ 0#w
  /-- `Canon`: at the top of the chain `compareParent` compares constant parts, which decides equality on the
  zero tape only for normal forms (`pk_top`). -/
  cmp : ∀ a b, Expr.Canon a → Expr.Canon b → compareParent s ps a b = .ok true →
    ev a M0 = ev b M0

/-- The fields the parent interface depends on. -/
def SameHdr (s s' : Rebuild w) : Prop :=
  s'.parent = s.parent ∧ s'.anal = s.anal ∧ s'.shift = s.shift ∧ s'.cond = s.cond ∧ s'.subShift = s.subShift

theorem SameHdr.refl (s : Rebuild w) : SameHdr s s := ⟨rfl, rfl, rfl, rfl, rfl⟩

theorem SameHdr.trans {a b c : Rebuild w} (h1 : SameHdr a b) (h2 : SameHdr b c) : SameHdr a c := by
  obtain ⟨a1, a2, a3, a4, a5⟩ := h1
  obtain ⟨b1, b2, b3, b4, b5⟩ := h2
  exact ⟨b1.trans a1, b2.trans a2, b3.trans a3, b4.trans a4, b5.trans a5⟩

theorem SameHdr.parent {s s' : Rebuild w} (h : SameHdr s s') : s'.parent = s.parent := h.1
theorem SameHdr.anal {s s' : Rebuild w} (h : SameHdr s s') : s'.anal = s.anal := h.2.1
theorem SameHdr.shift {s s' : Rebuild w} (h : SameHdr s s') : s'.shift = s.shift := h.2.2.1
theorem SameHdr.cond {s s' : Rebuild w} (h : SameHdr s s') : s'.cond = s.cond := h.2.2.2.1
theorem SameHdr.subShift {s s' : Rebuild w} (h : SameHdr s s') : s'.subShift = s.subShift := h.2.2.2.2

theorem SameButPend.hdr {s s' : Rebuild w} (h : SameButPend s s') : SameHdr s s' :=
  ⟨h.parent, h.anal, h.shift, h.cond, h.subShift⟩

theorem SameButWritten.hdr {s s' : Rebuild w} (h : SameButWritten s s') : SameHdr s s' :=
  ⟨h.parent, h.anal, h.shift, h.cond, h.subShift⟩

theorem canAskParentFor_congr {s s' : Rebuild w} (h : SameHdr s s') (v : Int) :
    canAskParentFor s' v = canAskParentFor s v := by
  obtain ⟨_, h2, h3, _, h5⟩ := h
  unfold canAskParentFor; rw [h2, h3, h5]

theorem getParentConstant_congr {s s' : Rebuild w} (h : SameHdr s s') (ps : List (Rebuild w)) (v : Int) :
    getParentConstant s' ps v = getParentConstant s ps v := by
  unfold getParentConstant
  rw [canAskParentFor_congr h, h.parent]

theorem nonZeroParent_congr {s s' : Rebuild w} (h : SameHdr s s') (ps : List (Rebuild w)) (v : Int) :
    nonZeroParent s' ps v = nonZeroParent s ps v := by
  unfold nonZeroParent
  rw [canAskParentFor_congr h, h.parent, h.cond, h.subShift]

theorem compareParent_congr {s s' : Rebuild w} (h : SameHdr s s') (ps : List (Rebuild w)) (a b : Expr w) :
    compareParent s' ps a b = compareParent s ps a b := by
  unfold compareParent
  have : (fun x => canAskParentFor s' x) = (fun x => canAskParentFor s x) := by
    funext x; exact canAskParentFor_congr h x
  rw [this, h.parent]

theorem PK.congr {s s' : Rebuild w} {ps : List (Rebuild w)} {M0 : Mem w} (h : PK s ps M0)
    (hh : SameHdr s s') : PK s' ps M0 :=
  ⟨fun v c hc => h.const v c (by rw [← getParentConstant_congr hh]; exact hc),
   fun v hv => h.nz v (by rw [← nonZeroParent_congr hh]; exact hv),
   fun a b ha hb hc => h.cmp a b ha hb (by rw [← compareParent_congr hh]; exact hc)⟩

/-- `written` describes `E` relative to `M0`. -/
def WrOk (s : Rebuild w) (M0 E : Mem w) : Prop :=
  ∀ v, match mGet s.written v with
    | some (.known e) => E v = ev e M0
    | some _ => True
    | none => E v = M0 v

structure MInv (s : Rebuild w) (ps : List (Rebuild w)) (M0 E S : Mem w) : Prop where
  pend : S = Mem.par s.pending E
  writ : WrOk s M0 E
  pk : PK s ps M0

theorem WrOk.known {s : Rebuild w} {M0 E : Mem w} (h : WrOk s M0 E) {v : Int} {e : Expr w}
    (hv : mGet s.written v = some (.known e)) : E v = ev e M0 := by
  have := h v; rw [hv] at this; exact this

theorem WrOk.absent {s : Rebuild w} {M0 E : Mem w} (h : WrOk s M0 E) {v : Int}
    (hv : mGet s.written v = none) : E v = M0 v := by
  have := h v; rw [hv] at this; exact this

theorem MInv.S_pending {s : Rebuild w} {ps : List (Rebuild w)} {M0 E S : Mem w} (h : MInv s ps M0 E S)
    {v : Int} {e : Expr w} (hv : mGet s.pending v = some e) : S v = ev e E := by
  rw [h.pend]; exact par_of_get _ _ _ _ hv

theorem MInv.S_absent {s : Rebuild w} {ps : List (Rebuild w)} {M0 E S : Mem w} (h : MInv s ps M0 E S)
    {v : Int} (hv : mGet s.pending v = none) : S v = E v := by
  rw [h.pend]; exact par_of_not_mem _ _ _ hv

theorem getWrittenConstant_eq (s : Rebuild w) (ps : List (Rebuild w)) (var : Int) :
    getWrittenConstant s ps var =
      match mGet s.written var with
      | some (.known expr) => Expr.constant expr
      | some _ => none
      | none => getParentConstant s ps var := rfl

theorem getConstant_eq (s : Rebuild w) (ps : List (Rebuild w)) (var : Int) :
    getConstant s ps var =
      match mGet s.pending var with
      | some expr => Expr.constant expr
      | none => getWrittenConstant s ps var := by
  cases ps <;> (unfold getConstant getWrittenConstant getParentConstant; rfl)

theorem isNonZero_eq (s : Rebuild w) (ps : List (Rebuild w)) (var : Int) :
    isNonZero s ps var =
      match mGet s.pending var with
      | some expr => (match Expr.constant expr with | some c => c != 0#w | none => false)
      | none =>
        match mGet s.written var with
        | some (.known expr) => (match Expr.constant expr with | some c => c != 0#w | none => false)
        | some _ => false
        | none => nonZeroParent s ps var := by
  cases ps <;> (unfold isNonZero nonZeroParent; rfl)

/-- The constants known through the parent chain are right on the cells in `X` that the state has not written
(the only cells for which the parent is ever asked). -/
def PKc (X : Int → Prop) (s : Rebuild w) (ps : List (Rebuild w)) (M0 : Mem w) : Prop :=
  ∀ v, X v → mGet s.written v = none → ∀ c, getParentConstant s ps v = some c → M0 v = c

theorem PK.toC {s : Rebuild w} {ps : List (Rebuild w)} {M0 : Mem w} (h : PK s ps M0) (X : Int → Prop) :
    PKc X s ps M0 := fun v _ _ c hc => h.const v c hc

theorem PKc.congr {X : Int → Prop} {s s' : Rebuild w} {ps : List (Rebuild w)} {M0 : Mem w}
    (h : PKc X s ps M0) (hh : SameHdr s s') (hwr : s'.written = s.written) : PKc X s' ps M0 :=
  fun v hx hv c hc => h v hx (by rw [← hwr]; exact hv) c (by rw [← getParentConstant_congr hh]; exact hc)

theorem PKc.mono {X Y : Int → Prop} {s : Rebuild w} {ps : List (Rebuild w)} {M0 : Mem w}
    (h : PKc X s ps M0) (hxy : ∀ v, Y v → X v) : PKc Y s ps M0 :=
  fun v hy hv c hc => h v (hxy v hy) hv c hc

section Sound
variable {X : Int → Prop} {s : Rebuild w} {ps : List (Rebuild w)} {M0 E S : Mem w}

theorem getWrittenConstant_sound_c (hw : WrOk s M0 E) (hk : PKc X s ps M0) {v : Int} {c : BitVec w}
    (hx : X v) (hc : getWrittenConstant s ps v = some c) : E v = c := by
  rw [getWrittenConstant_eq] at hc
  split at hc
  · rename_i e hv
    rw [hw.known hv]; exact Expr.eval_constant e c M0 hc
  · cases hc
  · rename_i hv
    rw [hw.absent hv]; exact hk v hx hv c hc

theorem getWritten_sound_c (hw : WrOk s M0 E) (hk : PKc X s ps M0) {v : Int} {e : Expr w}
    (hx : X v) (he : getWritten s ps v = some e) : ev e M0 = E v := by
  unfold getWritten at he
  split at he
  · rename_i e' hv
    cases he; exact (hw.known hv).symm
  · cases he
  · rename_i hv
    split at he
    · rename_i c hc
      cases he
      rw [hw.absent hv, hk v hx hv c hc]
      exact Expr.eval_val c M0
    · cases he
      rw [hw.absent hv]; exact Expr.eval_var v M0

theorem evalWritten_sound_c (hw : WrOk s M0 E) (hk : PKc X s ps M0) {e e' : Expr w}
    (hx : ∀ v ∈ Expr.variables e, X v) (he : evalWritten s ps e = some e') : ev e' M0 = ev e E := by
  unfold evalWritten at he
  split at he
  · have hd := (Expr.symbEvaluate_isSome e (fun i => getWritten s ps i)).1 (by rw [he]; rfl)
    show Expr.evaluate e' M0 = _
    rw [Expr.eval_symbEvaluate e e' _ M0 he]
    apply C01Dse.evaluate_congr
    intro v hv
    have := hd v hv
    cases hg : getWritten s ps v with
    | none => simp [hg] at this
    | some ev' =>
      show (match getWritten s ps v with | some ev => Expr.evaluate ev M0 | none => 0#w) = E v
      rw [hg]; exact getWritten_sound_c hw hk (hx v hv) hg
  · rename_i hany
    cases he
    apply C01Dse.evaluate_congr
    intro v hv
    have : mHas s.written v = false := by
      simp only [List.any_eq_true, not_exists, not_and, Bool.not_eq_true] at hany
      exact hany v hv
    exact (hw.absent ((mHas_false_iff _ _).1 this)).symm

theorem compareWrittenNoParent_sound_c (hw : WrOk s M0 E) (hk : PKc X s ps M0) {a b : Expr w}
    (hxa : ∀ v ∈ Expr.variables a, X v) (hxb : ∀ v ∈ Expr.variables b, X v)
    (hc : compareWrittenNoParent s ps a b = true) : ev a E = ev b E := by
  unfold compareWrittenNoParent at hc
  split at hc
  · rename_i hab
    have : a = b := by simpa using hab
    rw [this]
  · split at hc
    · rename_i a' ha
      split at hc
      · rename_i b' hb
        have : a' = b' := by simpa using hc
        rw [← evalWritten_sound_c hw hk hxa ha, ← evalWritten_sound_c hw hk hxb hb, this]
      · cases hc
    · cases hc

/-- The written value of a single cell never needs the parent: the parent is only asked for the OTHER cells of an
expression that mentions a written cell. -/
theorem evalWritten_var_sound (hw : WrOk s M0 E) {v : Int} {e' : Expr w}
    (he : evalWritten s ps (Expr.var v) = some e') : ev e' M0 = E v := by
  have hvars : Expr.variables (Expr.var (w := w) v) = [v] := by simp [Expr.variables, Expr.var]
  rw [← Expr.eval_var v E]
  cases hv : mGet s.written v with
  | some k =>
    refine evalWritten_sound_c (X := fun y => y = v) hw (fun y hy hn => ?_) (fun y hy => ?_) he
    · rw [hy, hv] at hn; cases hn
    · rw [hvars] at hy; simpa using hy
  | none =>
    unfold evalWritten at he
    rw [hvars] at he
    simp only [List.any_cons, List.any_nil, Bool.or_false, (mHas_false_iff _ _).2 hv] at he
    cases he
    exact (Expr.eval_var v M0).trans ((hw.absent hv).symm.trans (Expr.eval_var v E).symm)

theorem compareWrittenNoParent_var_sound_c (hw : WrOk s M0 E) (hk : PKc X s ps M0) {v : Int} {b : Expr w}
    (hxb : ∀ v ∈ Expr.variables b, X v)
    (hc : compareWrittenNoParent s ps (Expr.var v) b = true) : E v = ev b E := by
  unfold compareWrittenNoParent at hc
  split at hc
  · rename_i hab
    have : Expr.var v = b := by simpa using hab
    rw [← this]; exact (Expr.eval_var v E).symm
  · split at hc
    · rename_i a' ha
      split at hc
      · rename_i b' hb
        have : a' = b' := by simpa using hc
        rw [← evalWritten_var_sound hw ha, ← evalWritten_sound_c hw hk hxb hb, this]
      · cases hc
    · cases hc

theorem getWrittenConstant_sound (h : MInv s ps M0 E S) {v : Int} {c : BitVec w}
    (hc : getWrittenConstant s ps v = some c) : E v = c :=
  getWrittenConstant_sound_c h.writ (h.pk.toC fun _ => True) trivial hc

theorem getWritten_sound (h : MInv s ps M0 E S) {v : Int} {e : Expr w}
    (he : getWritten s ps v = some e) : ev e M0 = E v :=
  getWritten_sound_c h.writ (h.pk.toC fun _ => True) trivial he

theorem getPending_sound (h : MInv s ps M0 E S) (v : Int) : ev (getPending s ps v) E = S v := by
  unfold getPending
  split
  · rename_i e hv; exact (h.S_pending hv).symm
  · rename_i hv
    rw [h.S_absent hv]
    split
    · rename_i c hc
      rw [getWrittenConstant_sound h hc]; exact Expr.eval_val c E
    · exact Expr.eval_var v E

theorem getConstant_sound (h : MInv s ps M0 E S) {v : Int} {c : BitVec w}
    (hc : getConstant s ps v = some c) : S v = c := by
  rw [getConstant_eq] at hc
  split at hc
  · rename_i e hv
    rw [h.S_pending hv]; exact Expr.eval_constant e c E hc
  · rename_i hv
    rw [h.S_absent hv]; exact getWrittenConstant_sound h hc

theorem isNonZero_sound (h : MInv s ps M0 E S) {v : Int} (hz : isNonZero s ps v = true) : S v ≠ 0#w := by
  rw [isNonZero_eq] at hz
  split at hz
  · rename_i e hv
    rw [h.S_pending hv]
    split at hz
    · rename_i c hc
      rw [show ev e E = c from Expr.eval_constant e c E hc]
      simpa using hz
    · cases hz
  · rename_i hv
    rw [h.S_absent hv]
    split at hz
    · rename_i e hw
      rw [h.writ.known hw]
      split at hz
      · rename_i c hc
        rw [show ev e M0 = c from Expr.eval_constant e c M0 hc]
        simpa using hz
      · cases hz
    · cases hz
    · rename_i hw
      rw [h.writ.absent hw]; exact h.pk.nz v hz

theorem retargetOutput_sound (h : MInv s ps M0 E S) {v x : Int} (hx : retargetOutput s v = some x) :
    E x = S v := by
  unfold retargetOutput at hx
  split at hx
  · rename_i e hv
    rw [h.S_pending hv]; exact (Expr.eval_identity e x E hx).symm
  · rename_i hv
    cases hx; exact (h.S_absent hv).symm

theorem evalWritten_sound' (hw : WrOk s M0 E) (hk : PK s ps M0) {e e' : Expr w}
    (he : evalWritten s ps e = some e') : ev e' M0 = ev e E :=
  evalWritten_sound_c hw (hk.toC fun _ => True) (fun _ _ => trivial) he

theorem evalWritten_sound (h : MInv s ps M0 E S) {e e' : Expr w} (he : evalWritten s ps e = some e') :
    ev e' M0 = ev e E := evalWritten_sound' h.writ h.pk he

theorem compareWrittenNoParent_sound (h : MInv s ps M0 E S) {a b : Expr w}
    (hc : compareWrittenNoParent s ps a b = true) : ev a E = ev b E :=
  compareWrittenNoParent_sound_c h.writ (h.pk.toC fun _ => True) (fun _ _ => trivial) (fun _ _ => trivial) hc

theorem evalPending_sound (h : MInv s ps M0 E S) {sh : Int} {e e' : Expr w}
    (he : evalPending s ps sh e = .ok e') : ev e' E = Expr.evaluate e (fun x => S (x + sh)) := by
  unfold evalPending at he
  split at he
  · cases hr : Expr.symbEvaluate e (fun x => some (getPending s ps (x + sh))) with
    | none => rw [hr] at he; cases he
    | some r =>
      rw [hr] at he
      cases he
      show Expr.evaluate _ E = _
      rw [Expr.eval_symbEvaluate e _ _ E hr]
      apply C01Dse.evaluate_congr
      intro v _
      exact getPending_sound h (v + sh)
  · rename_i hany
    have hE : ∀ v ∈ Expr.variables e, S (v + sh) = E (v + sh) := by
      intro v hv
      simp only [List.any_eq_true, not_exists, not_and, Bool.not_eq_true, Bool.or_eq_false_iff] at hany
      exact h.S_absent ((mHas_false_iff _ _).1 (hany v hv).1)
    have hgoal : Expr.evaluate e (fun x => E (x + sh)) = Expr.evaluate e (fun x => S (x + sh)) :=
      C01Dse.evaluate_congr _ _ e (fun v hv => (hE v hv).symm)
    split at he
    · cases he
      show Expr.evaluate (shiftVars e sh) E = _
      rw [shiftVars_value]; exact hgoal
    · rename_i hsh
      cases he
      have : sh = 0 := by simpa using hsh
      subst this
      rw [← hgoal]
      show Expr.evaluate e E = _
      congr 1; funext x; simp

end Sound

end OptProof
end Hpbf

#print axioms Hpbf.OptProof.evalWritten_sound_c
#print axioms Hpbf.OptProof.compareWrittenNoParent_sound_c
