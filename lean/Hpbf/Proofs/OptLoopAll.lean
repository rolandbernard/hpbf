/-
`finishLoop` calls `loopMotion` for every pending variable and collects three simultaneous assignments: `B`
(performed by the PARENT before the loop, hence evaluated in the memory `m0` at loop entry), `D` (the pending
assignment of the new body) and `A` (performed after the loop, in the memory the new loop leaves; only if the
loop was entered).  Original loop `M k = run body sub.pending m0 k`, new loop `M' k = run body D (Mem.par B m0) k`,
only the rounds `k < N` real.  Without a trip count the two runs agree on `reads` and outside `Differ'`
(`loopMotion_prefix_sound`, usable for incomplete and infinite runs); for a trip count `n ≤ N` moreover
`Mem.par A (M' n) = M n` (`loopMotion_all_sound_h`).
-/
import Hpbf.Proofs.OptLoopMotionSem

namespace Hpbf.OptLoop
open Hpbf Opt OptSem Expr

variable {w : Nat}

/-- `finishLoop` drops the `after` entries when the analysis says `noEffect`; that only matters if the loop
runs, so it is allowed here only for `n = 0`. -/
structure MotionAll (s : Rebuild w) (ps : List (Rebuild w)) (sub : Rebuild w) (reads C : List Int)
    (lin : List (Int × Expr w)) (otherPending : List Int) (L : OptLoop w) (n : Nat)
    (B D A : List (Int × Expr w)) : Prop where
  pend : ∀ var p, mGet sub.pending var = some p →
    ∃ b d a, MotionCase s ps var p (!mHas sub.written var) reads C lin otherPending L (b, d, a) ∧
      mGet B var = b ∧ mGet D var = d ∧ (mGet A var = a ∨ (n = 0 ∧ mGet A var = none))
  nopend : ∀ var, mGet sub.pending var = none →
    mGet B var = none ∧ mGet D var = none ∧ mGet A var = none

structure MotionBD (s : Rebuild w) (ps : List (Rebuild w)) (sub : Rebuild w) (reads C : List Int)
    (lin : List (Int × Expr w)) (otherPending : List Int) (L : OptLoop w)
    (B D : List (Int × Expr w)) : Prop where
  pend : ∀ var p, mGet sub.pending var = some p →
    ∃ b d a, MotionCase s ps var p (!mHas sub.written var) reads C lin otherPending L (b, d, a) ∧
      mGet B var = b ∧ mGet D var = d
  nopend : ∀ var, mGet sub.pending var = none → mGet B var = none ∧ mGet D var = none

/-- `MotionAll` without a trip count: the `after` entry is the one of `loopMotion`, or it has been dropped
because the analysis says `noEffect`. -/
structure MotionAllE (s : Rebuild w) (ps : List (Rebuild w)) (sub : Rebuild w) (reads C : List Int)
    (lin : List (Int × Expr w)) (otherPending : List Int) (L : OptLoop w)
    (B D A : List (Int × Expr w)) : Prop where
  pend : ∀ var p, mGet sub.pending var = some p →
    ∃ b d a, MotionCase s ps var p (!mHas sub.written var) reads C lin otherPending L (b, d, a) ∧
      mGet B var = b ∧ mGet D var = d ∧ (mGet A var = a ∨ (L.noEffect = true ∧ mGet A var = none))
  nopend : ∀ var, mGet sub.pending var = none →
    mGet B var = none ∧ mGet D var = none ∧ mGet A var = none

theorem MotionAll.toBD {s : Rebuild w} {ps : List (Rebuild w)} {sub : Rebuild w} {reads C : List Int}
    {lin : List (Int × Expr w)} {otherPending : List Int} {L : OptLoop w} {n : Nat}
    {B D A : List (Int × Expr w)}
    (h : MotionAll s ps sub reads C lin otherPending L n B D A) :
    MotionBD s ps sub reads C lin otherPending L B D :=
  ⟨fun var p hp => let ⟨b, d, a, h1, h2, h3, _⟩ := h.pend var p hp; ⟨b, d, a, h1, h2, h3⟩,
   fun var hp => let ⟨h1, h2, _⟩ := h.nopend var hp; ⟨h1, h2⟩⟩

theorem MotionAllE.toAll {s : Rebuild w} {ps : List (Rebuild w)} {sub : Rebuild w} {reads C : List Int}
    {lin : List (Int × Expr w)} {otherPending : List Int} {L : OptLoop w} {B D A : List (Int × Expr w)}
    (h : MotionAllE s ps sub reads C lin otherPending L B D A) (n : Nat)
    (hne : L.noEffect = true → n = 0) : MotionAll s ps sub reads C lin otherPending L n B D A :=
  ⟨fun var p hp =>
    let ⟨b, d, a, h1, h2, h3, h4⟩ := h.pend var p hp
    ⟨b, d, a, h1, h2, h3, h4.imp id (fun h5 => ⟨hne h5.1, h5.2⟩)⟩,
   h.nopend⟩

theorem MotionAllE.toBD {s : Rebuild w} {ps : List (Rebuild w)} {sub : Rebuild w} {reads C : List Int}
    {lin : List (Int × Expr w)} {otherPending : List Int} {L : OptLoop w} {B D A : List (Int × Expr w)}
    (h : MotionAllE s ps sub reads C lin otherPending L B D A) :
    MotionBD s ps sub reads C lin otherPending L B D :=
  (h.toAll 0 (fun _ => rfl)).toBD

/-- `reads` is `possibleReads` with the condition cell. -/
structure ReadFacts (sub : Rebuild w) (reads : List Int) (body : Nat → Mem w → Mem w) (M : Nat → Mem w) :
    Prop where
  /-- a pending operation only reads its own target and cells in `reads` -/
  pendReads : ∀ v p x, mGet sub.pending v = some p → x ∈ Expr.variables p → x ≠ v →
    reads.contains x = true
  /-- the emitted instructions only read cells in `reads`: changing other cells does not change what they
  leave in the remaining cells -/
  bodyNI : ∀ k (m' : Mem w) (Z : Int → Prop), (∀ z, Z z → reads.contains z = false) →
    (∀ v, ¬ Z v → m' v = M k v) → ∀ v, ¬ Z v → body k m' v = body k (M k) v
  /-- a cell without an entry in `written` is never written by the emitted instructions -/
  frame : ∀ k (m' : Mem w) v, mGet sub.written v = none → body k m' v = m' v

structure ReadFactsH (sub : Rebuild w) (reads : List Int) (body : Nat → Mem w → Mem w) (M : Nat → Mem w)
    (N : Nat) : Prop where
  pendReads : ∀ v p x, mGet sub.pending v = some p → x ∈ Expr.variables p → x ≠ v →
    reads.contains x = true
  bodyNI : ∀ k, k < N → ∀ (m' : Mem w) (Z : Int → Prop), (∀ z, Z z → reads.contains z = false) →
    (∀ v, ¬ Z v → m' v = M k v) → ∀ v, ¬ Z v → body k m' v = body k (M k) v
  frame : ∀ k, k < N → ∀ (m' : Mem w) v, mGet sub.written v = none → body k m' v = m' v

theorem ReadFacts.toH {sub : Rebuild w} {reads : List Int} {body : Nat → Mem w → Mem w} {M : Nat → Mem w}
    (h : ReadFacts sub reads body M) (N : Nat) : ReadFactsH sub reads body M N :=
  ⟨h.pendReads, fun k _ => h.bodyNI k, fun k _ => h.frame k⟩

/-- `ReadFactsH` asked of the emitted instructions only where the two loops use it: started from the memory `M' k` at
head `k` of the transformed loop, compared with the start `M k` of the original round. -/
structure ReadFactsAt (sub : Rebuild w) (reads : List Int) (body : Nat → Mem w → Mem w) (M M' : Nat → Mem w)
    (N : Nat) : Prop where
  pendReads : ∀ v p x, mGet sub.pending v = some p → x ∈ Expr.variables p → x ≠ v →
    reads.contains x = true
  bodyNI : ∀ k, k < N → ∀ (Z : Int → Prop), (∀ z, Z z → reads.contains z = false) →
    (∀ v, ¬ Z v → M' k v = M k v) → ∀ v, ¬ Z v → body k (M' k) v = body k (M k) v
  frame : ∀ k, k < N → ∀ v, mGet sub.written v = none → body k (M' k) v = M' k v

theorem ReadFactsH.at {sub : Rebuild w} {reads : List Int} {body : Nat → Mem w → Mem w} {M : Nat → Mem w}
    {N : Nat} (h : ReadFactsH sub reads body M N) (M' : Nat → Mem w) : ReadFactsAt sub reads body M M' N :=
  ⟨h.pendReads, fun k hk Z hz hm => h.bodyNI k hk (M' k) Z hz hm, fun k hk v hv => h.frame k hk (M' k) v hv⟩

theorem readFacts_id (sub : Rebuild w) (reads : List Int) (M : Nat → Mem w)
    (h : ∀ v p x, mGet sub.pending v = some p → x ∈ Expr.variables p → x ≠ v → reads.contains x = true) :
    ReadFacts sub reads (fun _ m => m) M :=
  ⟨h, fun _ _ _ _ hv v hz => hv v hz, fun _ _ _ _ => rfl⟩

/-- The cells on which the two runs may differ during the loop: the moved ones, and the non-constant pending
ones that the new loop does not perform (assigned after the loop, or dropped under `noEffect`). -/
def Differ' (C : List Int) (B D P : List (Int × Expr w)) (v : Int) : Prop :=
  mGet B v ≠ none ∨ (mGet P v ≠ none ∧ mGet D v = none ∧ C.contains v = false)

section
variable {s : Rebuild w} {ps : List (Rebuild w)} {sub : Rebuild w} {reads C : List Int}
  {lin : List (Int × Expr w)} {otherPending : List Int} {L : OptLoop w}
  {B D A : List (Int × Expr w)} {m0 : Mem w} {body : Nat → Mem w → Mem w} {N : Nat}

theorem written_none_of_complete {sub : Rebuild w} {v : Int} (h : (!mHas sub.written v) = true) :
    mGet sub.written v = none := by
  simp only [mHas, Bool.not_eq_true', Option.isSome_eq_false_iff, Option.isNone_iff_eq_none] at h
  exact h

inductive VarBD (s : Rebuild w) (ps : List (Rebuild w)) (sub : Rebuild w) (reads C : List Int)
    (L : OptLoop w) (B D : List (Int × Expr w)) (v : Int) : Prop
  | nopend : mGet sub.pending v = none → mGet B v = none → mGet D v = none → VarBD s ps sub reads C L B D v
  | gone (p : Expr w) : mGet sub.pending v = some p → mGet B v = none → mGet D v = none →
      C.contains v = true → mGet sub.written v = none → VarBD s ps sub reads C L B D v
  | after (p p' : Expr w) : mGet sub.pending v = some p → mGet B v = none → mGet D v = none →
      reduceConst s ps p C = .ok p' → (reads.contains v = false ∨ L.atMostOnce = true) →
      VarBD s ps sub reads C L B D v
  | moved (p b : Expr w) : mGet sub.pending v = some p → mGet B v = some b →
      reads.contains v = false → mGet sub.written v = none → C.contains v = false →
      VarBD s ps sub reads C L B D v
  | stay (p p' : Expr w) : mGet sub.pending v = some p → mGet B v = none → mGet D v = some p' →
      reduceConst s ps p C = .ok p' → VarBD s ps sub reads C L B D v

theorem varBD (hbd : MotionBD s ps sub reads C lin otherPending L B D) (v : Int) :
    VarBD s ps sub reads C L B D v := by
  cases hp : mGet sub.pending v with
  | none =>
    obtain ⟨h1, h2⟩ := hbd.nopend v hp
    exact .nopend hp h1 h2
  | some p =>
    obtain ⟨b, d, a, hcase, hB, hD⟩ := hbd.pend v p hp
    cases b with
    | some b =>
      obtain ⟨_, hr, hc, hcv⟩ := moved_facts hcase
      exact .moved p b hp hB hr (written_none_of_complete hc) hcv
    | none =>
      rcases motionCase_none hcase with ⟨rfl, rfl, h1, h2⟩ | ⟨p', rfl, rfl, hp', h1, _⟩ | ⟨p', rfl, rfl, hp'⟩
      · exact .gone p hp hB hD h1 (written_none_of_complete h2)
      · exact .after p p' hp hB hD hp' h1
      · exact .stay p p' hp hB hD hp'

/-- What is read in the loop, and what is constant, is not moved in front of it. -/
theorem MotionBD.B_none (h : MotionBD s ps sub reads C lin otherPending L B D) {r : Int}
    (hr : reads.contains r = true ∨ C.contains r = true) : mGet B r = none := by
  cases varBD h r with
  | nopend _ hB _ => exact hB
  | gone _ _ hB _ _ _ => exact hB
  | after _ _ _ hB _ _ _ => exact hB
  | moved _ _ _ _ hrd _ hcv =>
    rcases hr with hr | hr
    · rw [hr] at hrd; cases hrd
    · rw [hr] at hcv; cases hcv
  | stay _ _ _ hB _ _ => exact hB

/-- In a loop that may run more than once, what is read keeps its place in the loop. -/
theorem MotionBD.reads_notDiffer (h : MotionBD s ps sub reads C lin otherPending L B D)
    (hamo : L.atMostOnce = false) {r : Int} (hr : reads.contains r = true) :
    ¬ Differ' C B D sub.pending r := by
  rintro (hd | ⟨h1, h2, h3⟩)
  · exact hd (h.B_none (Or.inl hr))
  · cases varBD h r with
    | nopend hp _ _ => exact h1 hp
    | gone p _ _ _ hc _ => rw [hc] at h3; cases h3
    | after p p' _ _ _ _ hra =>
      rcases hra with h | h
      · rw [hr] at h; cases h
      · rw [hamo] at h; cases h
    | moved p b _ _ hrd _ _ => rw [hr] at hrd; cases hrd
    | stay p p' _ _ hd _ => rw [hd] at h2; cases h2

theorem loopMotion_prefix_sound (ctx : MotionCtxH s ps sub C lin m0 body N)
    (hbd : MotionBD s ps sub reads C lin otherPending L B D)
    (hrf : ReadFactsAt sub reads body (run body sub.pending m0) (run body D (Mem.par B m0)) N)
    (N' : Nat) (hN' : N' ≤ N) (hamo : L.atMostOnce = true → N' ≤ 1) :
    (∀ k, k < N' → ∀ r, reads.contains r = true →
      run body D (Mem.par B m0) k r = run body sub.pending m0 k r) ∧
    (∀ k, k ≤ N' → ∀ v, ¬ Differ' C B D sub.pending v →
      run body D (Mem.par B m0) k v = run body sub.pending m0 k v) ∧
    (∀ k, k < N' →
      (∀ v, run body D (Mem.par B m0) k v = run body sub.pending m0 k v →
        mid body D (Mem.par B m0) k v = mid body sub.pending m0 k v) ∧
      (∀ r, reads.contains r = true →
        mid body D (Mem.par B m0) k r = mid body sub.pending m0 k r)) := by
  have hvs := varBD hbd
  have hinv0 : ∀ v, mGet B v = none → run body D (Mem.par B m0) 0 v = run body sub.pending m0 0 v :=
    fun v hv => par_of_not_mem B m0 v hv
  have hreads : ∀ k, k < N' →
      (∀ v, ¬ Differ' C B D sub.pending v →
        run body D (Mem.par B m0) k v = run body sub.pending m0 k v) →
      ∀ r, reads.contains r = true → run body D (Mem.par B m0) k r = run body sub.pending m0 k r := by
    intro k hk hI r hr
    cases ham : L.atMostOnce with
    | false => exact hI r (hbd.reads_notDiffer ham hr)
    | true =>
      have : k = 0 := by have := hamo ham; omega
      subst this
      exact hinv0 r (hbd.B_none (Or.inl hr))
  have hmid : ∀ k, k < N' →
      (∀ v, ¬ Differ' C B D sub.pending v →
        run body D (Mem.par B m0) k v = run body sub.pending m0 k v) →
      (∀ v, run body D (Mem.par B m0) k v = run body sub.pending m0 k v →
        mid body D (Mem.par B m0) k v = mid body sub.pending m0 k v) ∧
      (∀ r, reads.contains r = true →
        mid body D (Mem.par B m0) k r = mid body sub.pending m0 k r) := by
    intro k hk hI
    have hrd := hreads k hk hI
    have h1 : ∀ v, run body D (Mem.par B m0) k v = run body sub.pending m0 k v →
        mid body D (Mem.par B m0) k v = mid body sub.pending m0 k v := by
      intro v hv
      -- non-interference of the body with `Z` := the cells on which the two memories differ at head `k`
      refine hrf.bodyNI k (by omega)
        (fun z => run body D (Mem.par B m0) k z ≠ run body sub.pending m0 k z) ?_ ?_ v ?_
      · intro z hz
        cases hc : reads.contains z with
        | false => rfl
        | true => exact absurd (hrd z hc) hz
      · intro z hz
        exact Classical.not_not.1 hz
      · exact fun h => h hv
    exact ⟨h1, fun r hr => h1 r (hrd r hr)⟩
  have hstep : ∀ k, k < N' →
      (∀ v, ¬ Differ' C B D sub.pending v →
        run body D (Mem.par B m0) k v = run body sub.pending m0 k v) →
      ∀ v, ¬ Differ' C B D sub.pending v →
        run body D (Mem.par B m0) (k + 1) v = run body sub.pending m0 (k + 1) v := by
    intro k hk hI v hnd
    obtain ⟨hm1, hm2⟩ := hmid k hk hI
    have hEv := hm1 v (hI v hnd)
    have hconstv : C.contains v = true → mGet D v = none →
        run body D (Mem.par B m0) (k + 1) v = run body sub.pending m0 (k + 1) v := by
      intro hC hD
      rw [run_not_pending hD, hEv, ctx.constMid k (by omega) v hC, ctx.constRun (k + 1) (by omega) v hC]
    rcases hvs v with ⟨hP, _, hD⟩ | ⟨p, hP, _, hD, hC, _⟩ | ⟨p, p', hP, hB, hD, _, _⟩ |
      ⟨_, _, _, hB, _, _, _⟩ | ⟨p, p', hP, _, hD, hp'⟩
    · rw [run_not_pending hD, run_not_pending hP, hEv]
    · exact hconstv hC hD
    · have hC : C.contains v = true := by
        cases hc : C.contains v with
        | true => rfl
        | false => exact absurd (Or.inr ⟨by rw [hP]; simp, hD, hc⟩) hnd
      exact hconstv hC hD
    · exact absurd (Or.inl (by rw [hB]; simp)) hnd
    · rw [run_pending hD, run_pending hP, ← reduce_mid ctx hp' k (by omega)]
      apply ev_congr
      intro x hx
      by_cases hxv : x = v
      · rw [hxv]; exact hEv
      · exact hm2 x (hrf.pendReads v p x hP (reduceConst_varsIn s ps p p' C hp' x hx) hxv)
  have hI : ∀ k, k ≤ N' → ∀ v, ¬ Differ' C B D sub.pending v →
      run body D (Mem.par B m0) k v = run body sub.pending m0 k v := by
    intro k
    induction k with
    | zero =>
      intro _ v hnd
      apply hinv0
      cases hb : mGet B v with
      | none => rfl
      | some b => exact absurd (Or.inl (by rw [hb]; simp)) hnd
    | succ k ih =>
      intro hk v hnd
      exact hstep k (by omega) (ih (by omega)) v hnd
  exact ⟨fun k hk => hreads k hk (hI k (by omega)), hI, fun k hk => hmid k hk (hI k (by omega))⟩

inductive VarSem (s : Rebuild w) (ps : List (Rebuild w)) (sub : Rebuild w) (reads C : List Int)
    (otherPending : List Int) (L : OptLoop w) (n : Nat) (B D A : List (Int × Expr w)) (m0 : Mem w)
    (body : Nat → Mem w → Mem w) (v : Int) : Prop
  | nopend : mGet sub.pending v = none → mGet B v = none → mGet D v = none → mGet A v = none →
      VarSem s ps sub reads C otherPending L n B D A m0 body v
  | gone (p : Expr w) : mGet sub.pending v = some p → mGet B v = none → mGet D v = none →
      mGet A v = none → C.contains v = true → mGet sub.written v = none →
      VarSem s ps sub reads C otherPending L n B D A m0 body v
  | after (p p' : Expr w) : mGet sub.pending v = some p → mGet B v = none → mGet D v = none →
      (mGet A v = some p' ∨ (n = 0 ∧ mGet A v = none)) → reduceConst s ps p C = .ok p' →
      (reads.contains v = false ∨ L.atMostOnce = true) →
      (∀ x ∈ Expr.variables p', otherPending.contains x = false ∨ C.contains x = true) →
      VarSem s ps sub reads C otherPending L n B D A m0 body v
  | moved (p b : Expr w) (d : Option (Expr w)) : mGet sub.pending v = some p → mGet B v = some b →
      mGet D v = d → mGet A v = none → reads.contains v = false → mGet sub.written v = none →
      C.contains v = false → MovedSem sub body m0 n v p b d →
      VarSem s ps sub reads C otherPending L n B D A m0 body v
  | stay (p p' : Expr w) : mGet sub.pending v = some p → mGet B v = none → mGet D v = some p' →
      mGet A v = none → reduceConst s ps p C = .ok p' →
      VarSem s ps sub reads C otherPending L n B D A m0 body v

/- `varSem` gives, variable by variable, one of the five cases `nopend | gone | after | moved | stay`; the proofs below
take them apart by position, in this order, with the fields in the order of the constructor. -/
theorem varSem (hw : 0 < w) (ctx : MotionCtxH s ps sub C lin m0 body N) {n : Nat} (hnN : n ≤ N)
    (htrip : TripFacts L n m0)
    (hcanon : ∀ v p, mGet sub.pending v = some p → Canon p)
    (hall : MotionAll s ps sub reads C lin otherPending L n B D A) (v : Int) :
    VarSem s ps sub reads C otherPending L n B D A m0 body v := by
  cases hp : mGet sub.pending v with
  | none =>
    obtain ⟨h1, h2, h3⟩ := hall.nopend v hp
    exact .nopend hp h1 h2 h3
  | some p =>
    obtain ⟨b, d, a, hcase, hB, hD, hA⟩ := hall.pend v p hp
    cases b with
    | some b =>
      obtain ⟨ha, hr, hc, hcv, hsem⟩ := loopMotion_moved_sound hw ctx hnN hp written_none_of_complete
        (hcanon v p hp) htrip hcase
      subst ha
      have hA' : mGet A v = none := hA.elim id (·.2)
      exact .moved p b d hp hB hD hA' hr (written_none_of_complete hc) hcv hsem
    | none =>
      rcases motionCase_none hcase with ⟨rfl, rfl, h1, h2⟩ | ⟨p', rfl, rfl, hp', h1, h2⟩ | ⟨p', rfl, rfl, hp'⟩
      · exact .gone p hp hB hD (hA.elim id (·.2)) h1 (written_none_of_complete h2)
      · exact .after p p' hp hB hD hA hp' h1 h2
      · exact .stay p p' hp hB hD (hA.elim id (·.2)) hp'

theorem loopMotion_all_sound_h (hw : 0 < w) (ctx : MotionCtxH s ps sub C lin m0 body N) {n : Nat}
    (hnN : n ≤ N) (htrip : TripFacts L n m0)
    (hcanon : ∀ v p, mGet sub.pending v = some p → Canon p)
    (hall : MotionAll s ps sub reads C lin otherPending L n B D A)
    (hrf : ReadFactsAt sub reads body (run body sub.pending m0) (run body D (Mem.par B m0)) N)
    (hop : ∀ x, otherPending.contains x = false → mGet sub.pending x = none ∨ C.contains x = true)
    (hamo : L.atMostOnce = true → n ≤ 1) :
    (∀ k, k < n → ∀ r, reads.contains r = true →
      run body D (Mem.par B m0) k r = run body sub.pending m0 k r) ∧
    (∀ k, k ≤ n → ∀ v, ¬ (mGet B v ≠ none ∨ (mGet A v ≠ none ∧ C.contains v = false)) →
      run body D (Mem.par B m0) k v = run body sub.pending m0 k v) ∧
    (∀ k, k ≤ n → ∀ v, ¬ Differ' C B D sub.pending v →
      run body D (Mem.par B m0) k v = run body sub.pending m0 k v) ∧
    (∀ v, mGet A v = none → run body D (Mem.par B m0) n v = run body sub.pending m0 n v) ∧
    (0 < n → Mem.par A (run body D (Mem.par B m0) n) = run body sub.pending m0 n) ∧
    (n = 0 → Mem.par B m0 = m0) := by
  obtain ⟨hreads, hI, hmid⟩ := loopMotion_prefix_sound ctx hall.toBD hrf n hnN hamo
  have hvs := varSem hw ctx hnN htrip hcanon hall
  have hinv0 : ∀ v, mGet B v = none → run body D (Mem.par B m0) 0 v = run body sub.pending m0 0 v :=
    fun v hv => par_of_not_mem B m0 v hv
  -- a cell of `Differ'` that is neither moved nor has a non-constant after-entry: its after-entry was dropped, `n = 0`
  have hIA : ∀ k, k ≤ n → ∀ v, ¬ (mGet B v ≠ none ∨ (mGet A v ≠ none ∧ C.contains v = false)) →
      run body D (Mem.par B m0) k v = run body sub.pending m0 k v := by
    intro k hk v hnd
    by_cases hd' : Differ' C B D sub.pending v
    · rcases hvs v with ⟨hP, hB, _, _⟩ | ⟨_, _, hB, _, _, hC, _⟩ | ⟨_, _, _, hB, _, hA, _, _, _⟩ |
        ⟨_, _, _, _, hB, _, _, _, _, _, _⟩ | ⟨_, _, _, hB, hD, _, _⟩
      · rcases hd' with h | h
        · exact absurd hB h
        · exact absurd hP h.1
      · rcases hd' with h | h
        · exact absurd hB h
        · rw [hC] at h; cases h.2.2
      · rcases hA with hA | hA
        · rcases hd' with h | h
          · exact absurd hB h
          · exact absurd (Or.inr ⟨by rw [hA]; simp, h.2.2⟩) hnd
        · have : k = 0 := by omega
          subst this
          exact hinv0 v hB
      · exact absurd (Or.inl (by rw [hB]; simp)) hnd
      · rcases hd' with h | h
        · exact absurd hB h
        · rw [hD] at h; cases h.2.1
    · exact hI k hk v hd'
  -- a moved cell is framed by the body and its `during` entry is `var + dinc` with `dinc` over read cells, so along the
  -- new run it obeys the recurrence of `accN_run` with the mids of the original run; `MovedSem` equates that sum to
  -- the original value at `n`
  have hmoved : ∀ v b, mGet B v = some b →
      run body D (Mem.par B m0) n v = run body sub.pending m0 n v := by
    intro v b hb
    rcases hvs v with ⟨_, hB, _, _⟩ | ⟨_, _, hB, _, _, _, _⟩ | ⟨_, _, _, hB, _, _, _, _, _⟩ |
      ⟨p, b', d, hP, hB, hD, _, _, hW, _, dinc, hd, hdv, hsum⟩ | ⟨_, _, _, hB, _, _, _⟩
    · rw [hB] at hb; cases hb
    · rw [hB] at hb; cases hb
    · rw [hB] at hb; cases hb
    · rw [hB] at hb
      cases hb
      have hacc := accN_run (fun k => run body D (Mem.par B m0) k v)
        (fun k => ev dinc (mid body sub.pending m0 k)) n (by
          intro k hk
          obtain ⟨_, hm2⟩ := hmid k hk
          have hfr : mid body D (Mem.par B m0) k v = run body D (Mem.par B m0) k v :=
            hrf.frame k (by omega) v hW
          rcases hd with hd | ⟨hd, hdn⟩
          · rw [hd] at hD
            rw [run_pending hD, ev_add, ev_var, hfr]
            congr 1
            apply ev_congr
            intro x hx
            exact hm2 x (hrf.pendReads v p x hP (hdv x hx).1 (hdv x hx).2)
          · rw [hd] at hD
            rw [run_not_pending hD, hfr, hdn]
            simp)
      simp only [run_zero] at hacc
      rw [hacc, par_of_get B m0 v b hB, hsum]
    · rw [hB] at hb; cases hb
  have hnoA : ∀ v, mGet A v = none →
      run body D (Mem.par B m0) n v = run body sub.pending m0 n v := by
    intro v hA
    cases hb : mGet B v with
    | some b => exact hmoved v b hb
    | none =>
      apply hIA n (Nat.le_refl n) v
      rintro (h | h)
      · exact h hb
      · exact h.1 hA
  refine ⟨hreads, hIA, hI, hnoA, ?_, ?_⟩
  · -- an after-entry is the pending expression of the last round, whose variables are constants or not pending:
    -- evaluate it at mid `n - 1`
    intro hn
    funext v
    cases hA : mGet A v with
    | none => rw [par_of_not_mem A _ v hA]; exact hnoA v hA
    | some a =>
      rw [par_of_get A _ v a hA]
      rcases hvs v with ⟨_, _, _, hA'⟩ | ⟨_, _, _, _, hA', _, _⟩ | ⟨p, p', hP, hB, hD, hA', hp', _, huse⟩ |
        ⟨_, _, _, _, _, _, hA', _, _, _, _⟩ | ⟨_, _, _, _, _, hA', _⟩
      · rw [hA'] at hA; cases hA
      · rw [hA'] at hA; cases hA
      · rcases hA' with hA' | hA'
        · rw [hA'] at hA
          cases hA
          obtain ⟨k, rfl⟩ : ∃ k, n = k + 1 := ⟨n - 1, by omega⟩
          obtain ⟨hm1, _⟩ := hmid k (by omega)
          rw [run_pending hP, ← reduce_mid ctx hp' k (by omega)]
          apply ev_congr
          intro x hx
          have hconstx : C.contains x = true →
              run body D (Mem.par B m0) (k + 1) x = mid body sub.pending m0 k x := by
            intro hc
            have hnd : ¬ Differ' C B D sub.pending x := by
              rintro (h | h)
              · rcases hvs x with ⟨_, hB, _, _⟩ | ⟨_, _, hB, _, _, _, _⟩ | ⟨_, _, _, hB, _, _, _, _, _⟩ |
                  ⟨_, _, _, _, _, _, _, _, _, hcf, _⟩ | ⟨_, _, _, hB, _, _, _⟩
                · exact h hB
                · exact h hB
                · exact h hB
                · rw [hc] at hcf; cases hcf
                · exact h hB
              · rw [hc] at h; cases h.2.2
            rw [hI (k + 1) (Nat.le_refl _) x hnd, ctx.constRun (k + 1) (by omega) x hc,
              ctx.constMid k (by omega) x hc]
          rcases huse x hx with hu | hu
          · rcases hop x hu with hpx | hcx
            · obtain ⟨hBx, hDx, _⟩ := hall.nopend x hpx
              have hnd : ¬ Differ' C B D sub.pending x := by
                rintro (h | h)
                · exact h hBx
                · exact h.1 hpx
              rw [run_not_pending hDx]
              exact hm1 x (hI k (by omega) x hnd)
            · exact hconstx hcx
          · exact hconstx hu
        · omega
      · rw [hA'] at hA; cases hA
      · rw [hA'] at hA; cases hA
  · intro hn
    subst hn
    funext v
    cases hb : mGet B v with
    | none => exact par_of_not_mem B m0 v hb
    | some b => exact hmoved v b hb

theorem motionAllE_D_facts (h : MotionAllE s ps sub reads C lin otherPending L B D A) {v : Int} {d : Expr w}
    (hd : mGet D v = some d) : ∃ p, mGet sub.pending v = some p := by
  cases hp : mGet sub.pending v with
  | none => rw [(h.nopend v hp).2.1] at hd; cases hd
  | some p => exact ⟨p, rfl⟩

theorem motionAllE_A_facts (h : MotionAllE s ps sub reads C lin otherPending L B D A) {v : Int} {a : Expr w}
    (ha : mGet A v = some a) :
    ∃ p, mGet sub.pending v = some p ∧ mGet B v = none ∧ mGet D v = none ∧
      reduceConst s ps p C = .ok a ∧ (reads.contains v = false ∨ L.atMostOnce = true) ∧
      (∀ x ∈ Expr.variables a, otherPending.contains x = false ∨ C.contains x = true) := by
  cases hp : mGet sub.pending v with
  | none => rw [(h.nopend v hp).2.2] at ha; cases ha
  | some p =>
    obtain ⟨b, d, a', hcase, hB, hD, hA⟩ := h.pend v p hp
    have ha' : a' = some a := by
      rcases hA with hA | hA
      · rw [ha] at hA; exact hA.symm
      · rw [ha] at hA; cases hA.2
    subst ha'
    cases b with
    | some b => exact absurd (moved_facts hcase).1 (by simp)
    | none =>
      rcases motionCase_none hcase with ⟨_, h0, _⟩ | ⟨p', rfl, h0, hp', h1, h2⟩ | ⟨_, _, h0, _⟩
      · cases h0
      · cases h0; exact ⟨p, rfl, hB, hD, hp', h1, h2⟩
      · cases h0

theorem motionBD_D_vars (hw : 0 < w) (h : MotionBD s ps sub reads C lin otherPending L B D)
    {v : Int} {p d : Expr w} (hp : mGet sub.pending v = some p) (hd : mGet D v = some d) :
    ∀ x ∈ Expr.variables d, x ∈ Expr.variables p := by
  obtain ⟨b, d', a, hcase, _, hD⟩ := h.pend v p hp
  rw [hd] at hD
  subst hD
  exact motionCase_during_vars hw hcase

theorem motionAllE_D_vars (hw : 0 < w) (h : MotionAllE s ps sub reads C lin otherPending L B D A)
    {v : Int} {p d : Expr w} (hp : mGet sub.pending v = some p) (hd : mGet D v = some d) :
    ∀ x ∈ Expr.variables d, x ∈ Expr.variables p :=
  motionBD_D_vars hw h.toBD hp hd

theorem motionAllE_A_vars (h : MotionAllE s ps sub reads C lin otherPending L B D A)
    {v : Int} {p a : Expr w} (hp : mGet sub.pending v = some p) (ha : mGet A v = some a) :
    ∀ x ∈ Expr.variables a, x ∈ Expr.variables p := by
  obtain ⟨p', hp', _, _, hred, _, _⟩ := motionAllE_A_facts h ha
  rw [hp] at hp'
  cases hp'
  exact reduceConst_varsIn s ps p a C hred

end

end Hpbf.OptLoop

#print axioms Hpbf.OptLoop.motionAllE_D_vars
#print axioms Hpbf.OptLoop.motionBD_D_vars
#print axioms Hpbf.OptLoop.motionAllE_A_vars
