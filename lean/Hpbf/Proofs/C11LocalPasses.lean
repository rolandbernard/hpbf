/-
C11 (local clauses) for `translate`, in namespace `Hpbf.C02.Local`: every pass after the emission keeps "all tape
operands satisfy `P`, all destinations are cells or temporaries" (`AllGood P`), and the final code has its branches
inside the program. At the end, in `Hpbf.C02`: `localOk` and hence the whole checker `BcWf.check` accept every
program returned by `translateE` (`translateE_localFacts`, `translateE_check`).
-/
import Hpbf.Proofs.C11LocalEmit
import Hpbf.Proofs.C11AllocTop
import Hpbf.Proofs.C11AllocEx

namespace Hpbf
namespace C02

open Bc BcWf BcGen C11 Alloc

variable {w : Nat}

namespace Local

variable {P : Int → Prop}

theorem allGood_dseLike {s s' : St w} (h : DseLike s s') (hg : AllGood P s.insts) : AllGood P s'.insts :=
  allQ_dseLike (goodI_noop P) h hg

theorem memOps_mkArith (op : BcGen.Op) (d a b : Loc w) :
    memOps (mkArith op d a b) = locMem d ++ locMem a ++ locMem b := by cases op <;> rfl
theorem dstOk_mkArith (op : BcGen.Op) (d a b : Loc w) :
    dstOk (mkArith op d a b) = dstOk (.copy d a : Instr w) := by cases op <;> rfl

/-- Every location in the replacement table has its cell in `P`: a source the allocator forwards is an operand that was
already in the code, which is what carries `AllGood P` through a round (`good_step`). -/
def ReplGood (P : Int → Prop) (a : ASt w) : Prop := ∀ t l, alGet a.repl t = some l → ∀ o ∈ locMem l, P o

theorem good_replSrc {repl : List (Nat × Loc w)} {l l' : Loc w} (h : replSrc repl l = .ok l')
    (hr : ∀ t v, alGet repl t = some v → ∀ o ∈ locMem v, P o) (hl : ∀ o ∈ locMem l, P o) :
    ∀ o ∈ locMem l', P o := by
  rcases replSrc_ok h with ⟨u, rfl, hu⟩ | ⟨_, rfl⟩
  · exact hr u l' hu
  · exact hl

theorem good_rwInst {repl : List (Nat × Loc w)} {cur new : Instr w} (h : rwInst repl cur = .ok new)
    (hr : ∀ t v, alGet repl t = some v → ∀ o ∈ locMem v, P o) (hc : GoodI P cur) : GoodI P new := by
  rcases rwInst_cases h with ⟨d, s, s', rfl, g, rfl⟩ | ⟨op, d, s0, s1, s0', s1', rfl, g0, g1, rfl⟩ |
      ⟨_, rfl⟩ | ⟨rfl, rfl⟩
  · refine ⟨?_, hc.2⟩
    intro o ho
    simp only [memOps, List.mem_append] at ho
    rcases ho with ho | ho
    · exact hc.1 o (by simp only [memOps, List.mem_append]; exact Or.inl ho)
    · exact good_replSrc g hr (fun o' ho' => hc.1 o' (by simp only [memOps, List.mem_append]; exact Or.inr ho')) o ho
  · refine ⟨?_, by rw [dstOk_mkArith]; have := hc.2; rw [dstOk_mkArith] at this; exact this⟩
    intro o ho
    have hc1 := hc.1
    rw [memOps_mkArith] at ho hc1
    simp only [List.mem_append] at ho hc1
    rcases ho with (ho | ho) | ho
    · exact hc1 o (Or.inl (Or.inl ho))
    · exact good_replSrc g0 hr (fun o' ho' => hc1 o' (Or.inl (Or.inr ho'))) o ho
    · exact good_replSrc g1 hr (fun o' ho' => hc1 o' (Or.inr ho')) o ho
  · exact hc
  · exact hc

theorem good_setDst {x : Instr w} (hx : GoodI P x) (r : Nat) : GoodI P (setDst x (.tmp r)) := by
  -- the new destination is no cell, the sources are those of `x`
  have arith : ∀ {d a b : Loc w} {o : Int}, o ∈ locMem (.tmp r : Loc w) ++ locMem a ++ locMem b →
      o ∈ locMem d ++ locMem a ++ locMem b := fun ho =>
    (List.mem_append.1 ho).elim (fun h => List.mem_append_left _ (List.mem_append_right _ h))
      (List.mem_append_right _)
  cases x with
  | add d a b | sub d a b | mul d a b => exact ⟨fun o ho => hx.1 o (arith ho), rfl⟩
  | copy d s => exact ⟨fun o ho => hx.1 o (List.mem_append_right _ ho), rfl⟩
  | _ => exact hx

theorem good_step {s : St w} {k : Nat} {a a' : ASt w} (K : StepKind s k a a')
    (hg : AllGood P a.st.insts) (hr : ReplGood P a) : AllGood P a'.st.insts ∧ ReplGood P a' := by
  cases K with
  | other x hx hpl hq hi hr' =>
    refine ⟨?_, fun t l hl => hr t l (hr' t l hl)⟩
    intro j y hy
    by_cases e : j = k
    · subst e; rw [hq] at hy; cases hy; exact hg j x hx
    · exact hg j y (by rw [← hi j e]; exact hy)
  | fuse op t s0 s1 f m hx hPk hkf hPf hfa hq hf hi hnone hr' =>
    have gk := hg k _ hx
    have gf := hg f _ hfa
    have hm : P m := gf.1 m (by simp [memOps, locMem])
    have gk1 := gk.1
    rw [memOps_mkArith] at gk1
    refine ⟨?_, ?_⟩
    · intro j y hy
      by_cases e : j = k
      · subst e; rw [hq] at hy; cases hy; exact goodI_noop P
      · by_cases e' : j = f
        · subst e'
          rw [hf] at hy; cases hy
          refine ⟨?_, by rw [dstOk_mkArith]; rfl⟩
          intro o ho
          rw [memOps_mkArith] at ho
          simp only [List.mem_append, locMem, List.mem_singleton] at ho
          rcases ho with (ho | ho) | ho
          · rw [ho]; exact hm
          · exact gk1 o (by simp only [List.mem_append]; exact Or.inl (Or.inr ho))
          · exact gk1 o (by simp only [List.mem_append]; exact Or.inr ho)
        · exact hg j y (by rw [← hi j e e']; exact hy)
    · intro t' l hl
      rcases hr'.2 t' l hl with ⟨_, rfl⟩ | h
      · intro o ho
        simp only [locMem, List.mem_singleton] at ho
        rw [ho]; exact hm
      · exact hr t' l h
  | rw cur new q hx hpl hn hq hi hd =>
    have gnew : GoodI P new := good_rwInst hn hr (hg k cur hx)
    have hins : ∀ (q' : Instr w), a'.st.insts[k]? = some q' → GoodI P q' → AllGood P a'.st.insts := by
      intro q' hq' gq' j y hy
      by_cases e : j = k
      · subst e; rw [hq'] at hy; cases hy; exact gq'
      · exact hg j y (by rw [← hi j e]; exact hy)
    rcases hd with ⟨_, rfl, h⟩ | ⟨t, ht, _, _, ⟨rfl, h⟩ | ⟨src, rfl, _, rfl, h⟩ | ⟨r, rfl, h⟩⟩
    · exact ⟨hins _ hq gnew, fun t l hl => hr t l (h t l hl)⟩
    · exact ⟨hins _ hq (goodI_noop P), fun t l hl => hr t l (h t l hl)⟩
    · refine ⟨hins _ hq (goodI_noop P), ?_⟩
      intro t' l hl
      rcases h.2 t' l hl with ⟨_, rfl⟩ | h'
      · intro o ho
        exact gnew.1 o (by simp only [memOps, List.mem_append]; exact Or.inr ho)
      · exact hr t' l h'
    · refine ⟨hins _ hq (good_setDst gnew r), ?_⟩
      intro t' l hl
      rcases h.2 t' l hl with ⟨_, rfl⟩ | h'
      · intro o ho; cases ho
      · exact hr t' l h'

theorem allGood_allocateTemps {s s' : St w} {numRegs : Nat} (hp : AllocPre s)
    (h : allocateTemps numRegs s = .ok s') (hg : AllGood P s.insts) : AllGood P s'.insts := by
  obtain ⟨tr, T, rfl⟩ := trace_of_allocateTemps h
  have key : ∀ k, k ≤ s.insts.size → AllGood P (tr k).st.insts ∧ ReplGood P (tr k) := by
    intro k
    induction k with
    | zero =>
      intro _
      rw [T.init]
      exact ⟨hg, fun t l hl => by simp [initASt, alGet] at hl⟩
    | succ k ih =>
      intro hk
      obtain ⟨i1, i2⟩ := ih (by omega)
      exact good_step (trace_sum hp T (by omega)).kind i1 i2
  exact (key _ (Nat.le_refl _)).1

theorem mem_append_swap {o : Int} {l m n : List Int} (h : o ∈ l ++ m ++ n) : o ∈ l ++ n ++ m := by
  simp only [List.mem_append] at h ⊢
  rcases h with (h | h) | h
  · exact Or.inl (Or.inl h)
  · exact Or.inr h
  · exact Or.inl (Or.inr h)

theorem good_reorderInst {x : Instr w} (hx : GoodI P x) : GoodI P (reorderInst x) := by
  rcases reorderInst_cases x with e | ⟨op, d, a, b, v, rfl, e⟩ | ⟨d, a, b, rfl, e⟩ | ⟨d, a, b, rfl, e⟩ |
      ⟨d, a, c, rfl, e | e⟩ <;> rw [e]
  · exact hx
  · cases op <;> exact ⟨fun o ho => hx.1 o (List.mem_append_left _ ho), hx.2⟩
  · exact ⟨fun o ho => hx.1 o (mem_append_swap ho), hx.2⟩
  · exact ⟨fun o ho => hx.1 o (mem_append_swap ho), hx.2⟩
  · exact hx
  · exact ⟨fun o ho => hx.1 o (mem_append_swap ho), hx.2⟩

theorem good_fuseAt {m : Int} {a a' : Instr w} (h : FuseAt m a a') (hg : GoodI P a) : GoodI P a' := by
  cases h with
  | copy d _ => exact hg
  | arithB op d a _ _ => rw [GoodI, memOps_mkArith, dstOk_mkArith] at hg ⊢; exact hg
  | arithA op d b _ _ => rw [GoodI, memOps_mkArith, dstOk_mkArith] at hg ⊢; exact hg

theorem allGood_zeroingMoveDetection {s s' : St w} (hp : ZmdPre s) (h : zeroingMoveDetection s = .ok s')
    (hg : AllGood P s.insts) : AllGood P s'.insts :=
  (zeroingMoveDetection_shape hp h).all (fun _ _ hz => hz.keeps (goodI_noop P) (fun _ _ _ => good_fuseAt)) hg

theorem memOps_fixInst (B : Array (Instr w)) (i : Nat) (x : Instr w) : memOps (fixInst B i x) = memOps x := by
  cases x <;> rfl
theorem dstOk_fixInst (B : Array (Instr w)) (i : Nat) (x : Instr w) : dstOk (fixInst B i x) = dstOk x := by
  cases x <;> rfl

theorem allGood_parameterReordering {s : St w} (hg : AllGood P s.insts) :
    AllGood P (parameterReordering s).insts := allQ_parameterReordering (fun _ => good_reorderInst) hg

theorem good_fixInst (B : Array (Instr w)) (i : Nat) {x : Instr w} (hx : GoodI P x) : GoodI P (fixInst B i x) :=
  ⟨by rw [memOps_fixInst]; exact hx.1, by rw [dstOk_fixInst]; exact hx.2⟩

theorem allGood_strip {p q : Program w} (R : StripRel p q) (hg : AllGood P p.insts) : AllGood P q.insts :=
  R.stripped.all (fun A i _ => good_fixInst A i) hg

theorem latePasses_good (s s4 : St w) (h : LatePre s) (fuse : Bool) (h4 : latePasses fuse s = .ok s4)
    (hg : AllGood P s.insts) : AllGood P s4.insts ∧ TargetsOk s4.insts := by
  refine ⟨latePasses_all h h4 (fun _ => good_reorderInst) (goodI_noop P) (fun _ _ _ => good_fuseAt)
    (fun A i _ => good_fixInst A i) hg, ?_⟩
  obtain ⟨s3, e, _, hl3, hT3, _⟩ := latePasses_stages h fuse
  exact targetsOk_strip (stripNoops_rel s3 s4 hl3 hT3 (e ▸ h4) 0 0 0 0 0 0)

end Local

open Local

theorem local_localOk_of_facts {p : Program w} (h : LocalFacts p) : localOk p = true := by
  simp only [localOk, Bool.and_eq_true, decide_eq_true_eq, beq_iff_eq, List.all_eq_true, List.mem_range]
  refine ⟨⟨⟨h.min0, h.max0⟩, h.liveSize⟩, ?_⟩
  intro i hi
  have hget : p.insts[i]? = some p.insts[i] := Array.getElem?_eq_getElem hi
  simp only [hget, Bool.and_eq_true, List.all_eq_true, decide_eq_true_eq]
  exact ⟨⟨⟨fun o ho => h.window hget o ho, fun t ht => h.temps hget t ht⟩, h.dst hget⟩, h.succ hget⟩

theorem translateE_localFacts {prog : Ir.Block w} {numRegs : Nat} {fuse : Bool} {p : Program w}
    (h : translateE prog numRegs fuse = .ok p) : LocalFacts p := by
  have hshape := Chain.translate_shape h
  have htemps := fun {i : Nat} {ins : Instr w} (hi : p.insts[i]? = some ins) => translateE_temps_lt h hi
  obtain ⟨s1, s2, s3, s4, h1, h2, h3, h4, rfl⟩ := Chain.translateE_phases h
  obtain ⟨hpre, hT2⟩ := allocPre_targets_of_emit h1 h2
  have hlate := allocateTemps_latePre s2 s3 numRegs hpre hT2 h3
  obtain ⟨c0, c1, ccov⟩ := analyze_covers prog
  have g1 : AllGood (Cov (analyze prog)) s1.insts := allGood_mono ccov (emit_allGood h1)
  have g2 := allGood_dseLike (deadStoreElim_dseLike h2) g1
  have g3 := allGood_allocateTemps hpre h3 g2
  obtain ⟨g4, t4⟩ := latePasses_good s3 s4 hlate fuse h4 g3
  refine ⟨c0, c1, hshape.1, ?_, fun hi => htemps hi, ?_, ?_⟩
  · intro i ins hi o ho
    exact (g4 i ins hi).1 o ho
  · intro i ins hi
    exact (g4 i ins hi).2
  · intro i ins hi
    exact succs_of_targetsOk t4 hi

theorem translateE_localOk {prog : Ir.Block w} {numRegs : Nat} {fuse : Bool} {p : Program w}
    (h : translateE prog numRegs fuse = .ok p) : localOk p = true :=
  local_localOk_of_facts (translateE_localFacts h)

theorem translateE_check {prog : Ir.Block w} {numRegs : Nat} {fuse : Bool} {p : Program w}
    (h : translateE prog numRegs fuse = .ok p) : check p numRegs = true := by
  obtain ⟨h1, h2⟩ := translateE_initOk_liveOk h
  simp [check, translateE_localOk h, h1, h2]

end C02
end Hpbf
