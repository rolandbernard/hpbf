/-
`loopOrIf` cut into phases (`loopOrIf_run`): emission of the child's pending
operations, `loopPrep` (what the parent does before the instruction is pushed), `loopTail` (push + bookkeeping).
The cuts of `inline` (`inlineRest`, `inline_eq`), `loopInsideIf` (`liiHead`, `loopInsideIf_eq`) and `finishLoop`
(`finishMotionK`, `finishEnd`, `finishLoop_cut`).
-/
import Hpbf.Proofs.OptRbStraight
import Hpbf.Proofs.OptRbFootDefs
import Hpbf.Proofs.OptLoopFinish

namespace Hpbf
namespace OptProof
open Opt OptSem Ir

variable {w : Nat}

/-- The end of `loopOrIf`: push the `Loop` / `If`, record `cond = 0` after a loop, `noReturn`, the analysis. -/
def loopTail (s sub : Rebuild w) (cond : Int) (isLoop : Bool) (L : OptLoop w) (hasShift : Bool)
    (clobbered : List Int) : Rebuild w :=
  let blockShift := sub.shift - s.shift
  let s :=
    if isLoop then
      insertWritten { s with insts := s.insts ++ [Ir.Instr.loop cond blockShift sub.insts L.atLeastOnce] }
        cond (.known (Expr.val 0#w))
    else { s with insts := s.insts ++ [Ir.Instr.ifnz cond blockShift sub.insts] }
  let s := if L.noContinue then { s with noReturn := true } else s
  { s with subAnal := s.subAnal ++ [OptAnalysis.mk L hasShift sub.reads clobbered sub.subAnal] }

/-- The `clobber` phase of `loopOrIf` (non-shift branch). -/
def clobberPhase (s : Rebuild w) (ps : List (Rebuild w)) (sub : Rebuild w) (L : OptLoop w) (C : List Int) :
    M (Rebuild w) :=
  if !L.noEffect then do
    let sc := sub.written.foldl (fun (acc : Rebuild w × List (Int × Bool)) vk =>
      if !C.contains vk.1 then
        if vk.2.isMaybe || !L.atLeastOnce then (acc.1, acc.2 ++ [(vk.1, true)])
        else ((removePending acc.1 vk.1).1, acc.2 ++ [(vk.1, false)])
      else acc) (s, [])
    let clobber := Expr.stableSort (fun (a b : Int × Bool) => decide (a.1 ≤ b.1)) sc.2
    clobberAll ps clobber sc.1
  else pure s

/-- `if let Some(Known(expr)) = sub.written.get(cond) { if expr.constant() == 0 { … } }`. -/
def condZero (s sub : Rebuild w) (cond : Int) : Rebuild w :=
  match mGet sub.written cond with
  | some (.known expr) =>
    if Expr.constant expr == some 0#w then insertWritten s cond (.known (Expr.val 0#w)) else s
  | _ => s

/-- Everything of `loopOrIf` between the emission of the child's pending operations and the push of the
instruction: `(parent, child, clobbered)`. -/
def loopPrep (s : Rebuild w) (ps : List (Rebuild w)) (sub : Rebuild w) (cond : Int) (L : OptLoop w)
    (C : List Int) : M (Rebuild w × Rebuild w × List Int) :=
  if sub.subShift || sub.shift != s.shift then do
    let s ← emitAll ps (pendingSorted s s) s
    pure (uncertainShift s, sub, ([] : List Int))
  else do
    let sub := { sub with reads := sIns sub.reads cond }
    let s ← emitReadAll ps (readsSorted sub s) s
    let s ← emitReadAll ps ((mKeys sub.written).filter (fun var => C.contains var)) s
    let s ← clobberPhase s ps sub L C
    pure (condZero s sub cond, sub, (mKeys sub.written).filter (fun var => !C.contains var))

/-- `loopOrIf` is its three phases in sequence. `Opt.loopOrIf` is one flat `do` block whose continuation sits
inside the branches of each `if`; with the binds of the right side pushed into the branches and re-associated the
two sides agree by unfolding. -/
theorem loopOrIf_eq (s : Rebuild w) (ps : List (Rebuild w)) (sub : Rebuild w) (cond : Int) (isLoop : Bool)
    (L : OptLoop w) (C : List Int) :
    loopOrIf s ps sub cond isLoop L C =
      (if !sub.noReturn then emitAll [] (pendingSorted sub sub) sub else pure sub) >>= fun sub1 =>
      loopPrep s ps sub1 cond L C >>= fun r =>
      pure (loopTail r.1 r.2.1 cond isLoop L (sub1.subShift || sub1.shift != s.shift) r.2.2) := by
  unfold loopPrep clobberPhase
  simp only [ite_bind, bind_assoc]
  rfl

theorem loopOrIf_run {s : Rebuild w} {ps : List (Rebuild w)} {sub : Rebuild w} {cond : Int} {isLoop : Bool}
    {L : OptLoop w} {C : List Int} {os os' : Orders} {s' : Rebuild w}
    (hr : (loopOrIf s ps sub cond isLoop L C).run os = .ok (s', os')) :
    ∃ sub1 os1 r,
      ((if !sub.noReturn then emitAll [] (pendingSorted sub sub) sub else pure sub : M (Rebuild w)).run os
        = .ok (sub1, os1)) ∧
      (loopPrep s ps sub1 cond L C).run os1 = .ok (r, os') ∧
      s' = loopTail r.1 r.2.1 cond isLoop L (sub1.subShift || sub1.shift != s.shift) r.2.2 := by
  rw [loopOrIf_eq, run_bind_ok] at hr
  obtain ⟨sub1, os1, h1, h2⟩ := hr
  rw [run_bind_ok] at h2
  obtain ⟨r, os2, h3, h4⟩ := h2
  cases h4
  exact ⟨sub1, os1, r, h1, h3, rfl⟩

/-! `inline`, `loopInsideIf` and `finishLoop` cut the same way: `inlineRest` is `inline` after its first phase, `liiHead`
what `loopInsideIf` does before it performs `after`, `finishMotionK` the loop-motion phase of `finishLoop` (balanced
loops) handing `(child, before, after, constant)` to its continuation, `finishEnd` the end of `finishLoop`. -/

/-- `inline` after its first phase. -/
def inlineRest (s : Rebuild w) (ps : List (Rebuild w)) (sub : Rebuild w) : M (Rebuild w) := do
  let sc := sub.written.foldl (fun (acc : Rebuild w × List (Int × Bool)) vk =>
    if vk.2.isMaybe then (acc.1, acc.2 ++ [(vk.1, true)])
    else ((removePending acc.1 vk.1).1, acc.2 ++ [(vk.1, false)])) (s, [])
  let clobbered := Expr.stableSort (fun (a b : Int × Bool) => decide (a.1 ≤ b.1)) sc.2
  let s ← clobberAll ps clobbered sc.1
  let s := { s with insts := s.insts ++ sub.insts }
  let s := writtenCalcs s ps (sub.written.filterMap (fun vk =>
    match vk.2 with
    | .known e => some (vk.1, e)
    | _ => none))
  let s ←
    if sub.noReturn then pure { s with noReturn := true }
    else do
      let pending ← takeInlineOrder sub.pending
      let s ← performAll s ps 0 pending
      pure { s with shift := sub.shift }
  pure { s with subAnal := s.subAnal ++ sub.subAnal }

theorem inline_eq (s : Rebuild w) (ps : List (Rebuild w)) (sub : Rebuild w) :
    Opt.inline s ps sub =
      (if sub.subShift then do
        let s1 ← emitAll ps (pendingSorted s s) s
        let s2 ← pure (uncertainShift s1)
        inlineRest s2 ps sub
      else do
        let s1 ← emitReadAll ps (readsSorted sub s) s
        inlineRest s1 ps sub) := rfl

/-- What `loopInsideIf` does before it performs `after`. -/
def liiHead (s : Rebuild w) (ps : List (Rebuild w)) (sub : Rebuild w) (cond : Int) (loopAnal : OptLoop w)
    (constant : List Int) : M (Rebuild w) :=
  if loopAnal.atMostOnce then Opt.inline s ps sub
  else if loopAnal.finite && sub.shift == s.shift && sub.insts.isEmpty && sub.pending.length == 1
      && mHas sub.pending cond then
    performAll s ps 0 [(cond, Expr.val 0#w)]
  else loopOrIf s ps sub cond true loopAnal constant

theorem loopInsideIf_eq (s : Rebuild w) (ps : List (Rebuild w)) (sub : Rebuild w) (cond : Int)
    (loopAnal : OptLoop w) (after : List (Int × Expr w)) (constant : List Int) :
    loopInsideIf s ps sub cond loopAnal after constant =
      (liiHead s ps sub cond loopAnal constant >>= fun s1 => performAll s1 ps 0 after) := by
  unfold loopInsideIf liiHead
  by_cases h1 : loopAnal.atMostOnce = true
  · simp only [h1, if_true]
  · simp only [h1, if_false, Bool.false_eq_true]
    split <;> rfl

abbrev MidRes (w : Nat) := Rebuild w × List (Int × Expr w) × List (Int × Expr w) × List Int

def finishMotionK (s : Rebuild w) (ps : List (Rebuild w)) (sub : Rebuild w) (cond : Int) (loopAnal : OptLoop w)
    (k : MidRes w → M (Rebuild w)) : M (Rebuild w) := do
  let pending := pendingSorted sub sub
  let possibleReads := sIns (possibleReads sub) cond
  let constant ← (constantsAmong s ps sub
    (possibleReads ++ pending.filter (fun x => !possibleReads.contains x)) : Except String (List Int))
  let linear := linearAmong s ps sub constant (possibleReads ++ pending)
  let pendingSet := pending.filter (fun x => !constant.contains x)
  let init : Rebuild w × List (Int × Expr w) × List (Int × Expr w) × List (Int × Expr w) :=
    (sub, [], [], [])
  let (sub, before, toPerform, after) ← pending.foldlM
    (OptLoop.motionStepM s ps possibleReads constant linear pendingSet loopAnal) init
  let sub ← performAll sub (s :: ps) 0 toPerform
  let x ← pure (sub, before, after, constant)
  k x

def finishEnd (s : Rebuild w) (ps : List (Rebuild w)) (cond : Int) (loopAnal : OptLoop w)
    (r : MidRes w) : M (Rebuild w) := do
  let (sub, before, after, constant) := r
  let sub := forgetParent sub
  let s ← performAll s ps 0 before
  if loopAnal.atLeastOnce || (!loopAnal.atMostOnce && after.isEmpty) then
    loopInsideIf s ps sub cond loopAnal after constant
  else do
    let ifState : Rebuild w := Rebuild.new s.shift (some cond) .unknown none
    let ifState ← loopInsideIf ifState [] sub cond loopAnal.toAtLeastOnce after constant
    loopOrIf s ps ifState cond false loopAnal.toAtMostOnce constant

theorem finishLoop_cut (s : Rebuild w) (ps : List (Rebuild w)) (sub : Rebuild w) (cond : Int) (isLoop : Bool) :
    finishLoop s ps sub cond isLoop =
      (if (analyzeLoop s ps sub cond isLoop).never then pure s
       else if sub.subShift || sub.shift != s.shift then do
        let x ← pure (sub, ([] : List (Int × Expr w)), ([] : List (Int × Expr w)), ([] : List Int))
        finishEnd s ps cond (analyzeLoop s ps sub cond isLoop) x
       else finishMotionK s ps sub cond (analyzeLoop s ps sub cond isLoop)
        (finishEnd s ps cond (analyzeLoop s ps sub cond isLoop))) := rfl

end OptProof
end Hpbf
