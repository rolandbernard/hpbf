/-
C03 (converse direction): the code-size fact `emitInstrRaw_ne_nil` (every instruction but `noop` is compiled to at
least one byte of code; it serves `conv_code_nonempty` of `Props/C03Conv`) and the hypothesis `NoNoop`; then runs:
`conv_progress'` (every continuing bytecode step costs the machine at least one step: `sim_next_pos`), determinism
of the machine (`run_ret_unique`, `steps_lt_of_run`, from `X86Prog.fuelRun`), accumulation
(`conv_steps_ge`: `f` bytecode steps need at least `f` machine steps), and hence `conv_diverges'` (a bytecode run
that never ends is matched by a machine run that never returns and never faults) and `conv_run'` (a return of the
machine code means the bytecode run has ended, with the corresponding verdict). The primed theorems speak of a context
`K` with `Good K` and an `Entry` state; `Props/C03Conv` states them, unprimed, for a program that passes the check and
compiles, from `initState`.
-/
import Hpbf.Proofs.C03FlowProg
import Hpbf.Proofs.C03TotalForm
namespace Hpbf
namespace C03
open Asm JitGen X86Sem X86Prog
variable {w : Nat}

/-!
Every instruction but `noop` is compiled to at least one byte of code (`emitInstrRaw_ne_nil`), and
the hypothesis `NoNoop` of the converse theorems. That a continuing bytecode step of a `noop`-free program costs the
machine at least one step is `sim_next_pos` (C03FlowProg): every `flow_*` lemma executes at least one instruction.
(A `brnz c 0` on a non-zero cell, the empty loop `[]` compiled without fusion, changes nothing in the bytecode
configuration while the machine runs the compare-and-jump pair.) -/

theorem item_size_pos (it : Item) : 0 < it.size := by
  cases it with
  | plain x => exact size_pos x
  | jccInstr p t => show 0 < 6; decide
  | jccTerm p => show 0 < 6; decide
  | skip8 p b => show 0 < 2 + sizeAll b; omega

theorem itemsSize_pos {its : List Item} (h : its ≠ []) : 0 < itemsSize its := by
  cases its with
  | nil => exact absurd rfl h
  | cons it rest => rw [itemsSize_cons]; have := item_size_pos it; omega

theorem plains_ne_nil {xs : List X86} (h : xs ≠ []) : plains xs ≠ [] := by
  cases xs with
  | nil => exact absurd rfl h
  | cons x xs => simp [plains]

theorem emitInstrRaw_ne_nil {sz : Size} {limited safe : Bool} {mn mx : Int} {aE aI aO i live : Nat}
    {ins : Bc.Instr w} {its : List Item}
    (h : emitInstrRaw sz limited safe mn mx aE aI aO i live ins = some its) (hn : ins ≠ .noop) : its ≠ [] := by
  cases ins with
  | noop => exact absurd rfl hn
  | scan c s => simp [emitInstrRaw] at h
  | mov shift =>
    simp only [emitInstrRaw] at h
    split at h
    · obtain ⟨pre, post, -, -, rfl⟩ := bind_bind_some h
      simp
    · cases h; simp
  | inp d | out d =>
    obtain ⟨pre, post, -, -, rfl⟩ := bind_bind_some h
    simp
  | brz c o | brnz c o => simp only [emitInstrRaw, Option.some.injEq] at h; subst h; simp
  | add d a b | sub d a b | mul d a b | copy d s =>
    obtain ⟨xs, hx, rfl⟩ := emitInstrRaw_arith h (List.cons_ne_nil _ _)
    exact plains_ne_nil ((arith_emits sz live _).ne_nil hx)

/-- The program has no `noop` (true of everything `translate` returns: `strip_noops`). -/
def NoNoop (p : Bc.Program w) : Prop := ∀ i : Nat, p.insts[i]? ≠ some Bc.Instr.noop

/-- The `.next` clause of `prog_simulation` with at least one machine step. -/
theorem conv_progress' (K : Ctx w) (G : Good K) (hnn : NoNoop K.p) {fr : Frame} (h7 : fr.saved.length = 7)
    {c : Bc.Cfg w} {s : PState w} (hbnd : K.safe = true → Bnd s) (hsh : Sh K fr c s) {c' : Bc.Cfg w}
    (hstep : Bc.step K.p K.limited c = .next c') :
    ∃ n s', 0 < n ∧ steps K.cfg n s = some s' ∧ Sh K fr c' s' := by
  obtain ⟨c2, hsim, hinv, hrel⟩ := hsh
  obtain ⟨htag, hobs, hnext⟩ := C11.live_step G.V (limited := K.limited) hsim
  obtain ⟨o1, o2, o3⟩ := hobs
  cases h2 : Bc.step K.p K.limited c2 with
  | next c2' =>
    obtain ⟨n, s', c3, g1, g2, g3, g4⟩ := sim_next_pos K G h7 hbnd hinv hrel h2 (hnn c2.pc)
    have hs := hnext c' c2' hstep h2
    have hpc : c2'.pc = c'.pc := by
      simp only [hstep, h2, Bc.StepRes.cfg] at o1; exact o1.symm
    rw [hpc] at g4
    exact ⟨n + 1, s', Nat.succ_pos n, g1, c3, hs.trans g4, g2, g3⟩
  | _ => simp [hstep, h2, Bc.StepRes.tag] at htag

theorem run_ret_unique {cfg : Cfg} {n1 n2 : Nat} {s a b : PState w} (h1 : run cfg n1 s = .ret a)
    (h2 : run cfg n2 s = .ret b) : a = b := by
  have := (X86Prog.fuelRun cfg).det (f := n1) (f' := n2) (c := s) (by rw [h1]; intro _ e; cases e)
    (by rw [h2]; intro _ e; cases e)
  rw [h1, h2] at this; cases this; rfl

/-- A run that ends (return or fault) within `m` steps cannot make `m` or more `.next` steps. -/
theorem steps_lt_of_run {cfg : Cfg} (n : Nat) {m : Nat} {s s' : PState w} (h : steps cfg n s = some s')
    (hr : ∀ x, run cfg m s ≠ .fuel x) : n < m := by
  apply Nat.lt_of_not_le
  intro hle
  obtain ⟨x, hx⟩ := (X86Prog.fuelRun cfg).oof_of_le (steps_iff.1 h) hle
  exact hr x hx

theorem conv_steps_ge (K : Ctx w) (G : Good K) (hnn : NoNoop K.p) {fr : Frame} (h7 : fr.saved.length = 7) :
    ∀ (f : Nat) {c cf : Bc.Cfg w} {s : PState w}, NoOOM K s → Sh K fr c s →
      Bc.runCfg K.p K.limited f c = .outOfFuel cf →
      ∃ n s', f ≤ n ∧ steps K.cfg n s = some s' ∧ Sh K fr cf s'
  | 0, c, cf, s, _, hsh, h => by
    simp only [Bc.runCfg, Bc.Outcome.outOfFuel.injEq] at h
    subst h
    exact ⟨0, s, Nat.le_refl _, rfl, hsh⟩
  | f + 1, c, cf, s, hoom, hsh, h => by
    simp only [Bc.runCfg] at h
    cases hst : Bc.step K.p K.limited c with
    | next c1 =>
      rw [hst] at h
      obtain ⟨n, s1, hn, h1, hsh1⟩ := conv_progress' K G hnn h7 (fun hs => hoom hs 0 s rfl) hsh hst
      obtain ⟨m, s2, hm, h2, hsh2⟩ := conv_steps_ge K G hnn h7 f (hoom.of_steps h1) hsh1 h
      exact ⟨n + m, s2, by omega, steps_trans h1 h2, hsh2⟩
    | halt c1 => rw [hst] at h; cases h
    | stop c1 => rw [hst] at h; cases h
    | interrupted c1 => rw [hst] at h; cases h
    | bad c1 => rw [hst] at h; cases h


def Running (cfg : Cfg) (n : Nat) (s : PState w) : Prop := ∃ x, run cfg n s = .fuel x

theorem running_iff {cfg : Cfg} {n : Nat} {s : PState w} :
    Running cfg n s ↔ ((∀ r, run cfg n s ≠ .ret r) ∧ ∀ f r, run cfg n s ≠ .fault f r) := by
  unfold Running
  cases h : run cfg n s with
  | ret r => simp
  | fault f r => simp
  | fuel x => simp

/-- The bytecode run from the shadow configuration of the entry state (arbitrary initial temporaries) and
`Bc.run` (zeroed temporaries) are observationally equal. -/
theorem obs_run (K : Ctx w) (G : Good K) {budget : Nat} (hlim : (K.limited && budget == 0) = false) (env : Env)
    (fuel : Nat) (T : Bc.Temps w) :
    C11.ObsEq (Bc.run K.p K.limited budget fuel env)
      (Bc.runCfg K.p K.limited fuel { pc := 0, temps := T, budget := budget, st := State.init env }) := by
  have hchk := G.check
  simp only [BcWf.check, Bool.and_eq_true] at hchk
  unfold Bc.run
  simp only [hlim]
  exact C11.init_independent (C11.initOk_facts hchk.1.2) K.limited fuel budget _ _ _

/-- While the bytecode run is out of fuel after `n + 1` steps, the machine is still running after `n`: it has
made at least `n + 1` steps (`conv_steps_ge`) and a run that returns or faults stops making steps. -/
theorem conv_running (K : Ctx w) (G : Good K) (hnn : NoNoop K.p) {s0 : PState w} {ra : BitVec 64}
    (hE : Entry K s0 ra) {env : Env} (henv : s0.env = env) (htr : s0.trace = []) {budget : Nat}
    (hb : s0.budget.toNat = budget) (hlim : (K.limited && budget == 0) = false) (hoom : NoOOM K s0)
    {n : Nat} {c : Bc.Cfg w} (hc : Bc.run K.p K.limited budget (n + 1) env = .outOfFuel c) :
    Running K.cfg n s0 := by
  obtain ⟨s, T, hst, hinv, hrel, -⟩ := prologue_run K G.temps K.w_range hE env henv htr
  rw [hb] at hinv hrel
  have hsh : Sh K (frameOf K s0 ra) { pc := 0, temps := T, budget := budget, st := State.init env } s :=
    ⟨_, ⟨rfl, rfl, rfl, fun _ _ => rfl⟩, hinv, hrel⟩
  obtain ⟨otag, _, _, _⟩ := obs_run K G hlim env (n + 1) T
  rw [hc] at otag
  cases h2 : Bc.runCfg K.p K.limited (n + 1) { pc := 0, temps := T, budget := budget, st := State.init env } with
  | outOfFuel cf =>
    obtain ⟨k, s', hk, hk', _⟩ := conv_steps_ge K G hnn (fr := frameOf K s0 ra) rfl (n + 1) (hoom.of_steps hst) hsh h2
    have hall : steps K.cfg (9 + k) s0 = some s' := steps_trans hst hk'
    cases hr : run K.cfg n s0 with
    | fuel x => exact ⟨x, hr⟩
    | ret r =>
      have := steps_lt_of_run (9 + k) hall (fun x hx => by rw [hr] at hx; cases hx)
      omega
    | fault f r =>
      have := steps_lt_of_run (9 + k) hall (fun x hx => by rw [hr] at hx; cases hx)
      omega
  | done c2 => rw [h2] at otag; simp [Bc.Outcome.tag] at otag
  | stopped c2 => rw [h2] at otag; simp [Bc.Outcome.tag] at otag
  | interrupted c2 => rw [h2] at otag; simp [Bc.Outcome.tag] at otag
  | bad c2 => rw [h2] at otag; simp [Bc.Outcome.tag] at otag

theorem conv_diverges' (K : Ctx w) (G : Good K) (hnn : NoNoop K.p) {s0 : PState w} {ra : BitVec 64}
    (hE : Entry K s0 ra) {env : Env} (henv : s0.env = env) (htr : s0.trace = []) {budget : Nat}
    (hb : s0.budget.toNat = budget) (hlim : (K.limited && budget == 0) = false) (hoom : NoOOM K s0)
    (hdiv : ∀ fuel, ∃ c, Bc.run K.p K.limited budget fuel env = .outOfFuel c) (n : Nat) :
    Running K.cfg n s0 := by
  obtain ⟨c, hc⟩ := hdiv (n + 1)
  exact conv_running K G hnn hE henv htr hb hlim hoom hc

theorem conv_run' (K : Ctx w) (G : Good K) (hnn : NoNoop K.p) {s0 : PState w} {ra : BitVec 64}
    (hE : Entry K s0 ra) {env : Env} (henv : s0.env = env) (htr : s0.trace = []) {budget : Nat}
    (hb : s0.budget.toNat = budget) (hlim : (K.limited && budget == 0) = false) (hoom : NoOOM K s0)
    {n : Nat} {s' : PState w} (hret : run K.cfg n s0 = .ret s') :
    ∃ fuel c',
      ((Bc.run K.p K.limited budget fuel env = .done c' ∧ s'.regs.rax = 1 ∧ s'.budget.toNat = c'.budget) ∨
       (Bc.run K.p K.limited budget fuel env = .stopped c' ∧ s'.regs.rax = 0 ∧ s'.budget.toNat = c'.budget) ∨
       (Bc.run K.p K.limited budget fuel env = .interrupted c' ∧ s'.regs.rax = 0 ∧ s'.budget.toNat < 2 ∧
          c'.budget = 0)) ∧
      Result s0 s' c' := by
  -- the bytecode run with fuel `n + 1` has ended: otherwise the machine would still be running
  have hp := prog_run' K G hE henv htr hb hlim hoom (n + 1)
  cases h1 : Bc.run K.p K.limited budget (n + 1) env with
  | outOfFuel c =>
    obtain ⟨x, hx⟩ := conv_running K G hnn hE henv htr hb hlim hoom h1
    rw [hret] at hx
    cases hx
  | bad c => rw [h1] at hp; exact hp.elim
  | done c =>
    rw [h1] at hp
    obtain ⟨m, r, g1, g2, g3, g4⟩ := hp 0
    have := run_ret_unique hret g1
    subst this
    exact ⟨n + 1, c, Or.inl ⟨h1, g2, g4⟩, g3⟩
  | stopped c =>
    rw [h1] at hp
    obtain ⟨m, r, g1, g2, g3, g4⟩ := hp 0
    have := run_ret_unique hret g1
    subst this
    exact ⟨n + 1, c, Or.inr (Or.inl ⟨h1, g2, g4⟩), g3⟩
  | interrupted c =>
    rw [h1] at hp
    obtain ⟨m, r, g1, g2, g3, g4⟩ := hp 0
    have := run_ret_unique hret g1
    subst this
    exact ⟨n + 1, c, Or.inr (Or.inr ⟨h1, g2, g4.1, g4.2⟩), g3⟩


end C03
end Hpbf
