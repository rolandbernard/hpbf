/-
The laws of `StateT σ (Except ε)`, for every state and error type: the monads `BcGen.M` (emission) and `BcGen.A`
(`allocate_temps`) are instances, and so is the optimizer's `Opt.M`.  `bind_run` is the equation behind `bind_ok`,
`bind_of_ok` and `Tr.bind`.
-/

namespace Hpbf
namespace StateExcept

variable {σ ε α β : Type}

theorem bind_run (m : StateT σ (Except ε) α) (f : α → StateT σ (Except ε) β) (s : σ) :
    (m >>= f) s = match m s with | .ok (a, s1) => f a s1 | .error e => .error e := by
  show (m s).bind _ = _
  cases m s <;> rfl

theorem bind_ok (m : StateT σ (Except ε) α) (f : α → StateT σ (Except ε) β) (s s' : σ) (b : β) :
    (m >>= f) s = .ok (b, s') ↔ ∃ a s1, m s = .ok (a, s1) ∧ f a s1 = .ok (b, s') := by
  rw [bind_run]
  cases m s with
  | error e => simp
  | ok p =>
    obtain ⟨a, s1⟩ := p
    exact ⟨fun h => ⟨a, s1, rfl, h⟩, fun ⟨_, _, h1, h2⟩ => by cases h1; exact h2⟩

/-- The same for the error monad alone. -/
theorem except_bind_ok {x : Except ε α} {f : α → Except ε β} {b : β} (h : x >>= f = .ok b) :
    ∃ a, x = .ok a ∧ f a = .ok b := by
  cases x with
  | error e => cases h
  | ok a => exact ⟨a, rfl, h⟩

theorem pure_ok (a b : α) (s s' : σ) : (pure a : StateT σ (Except ε) α) s = .ok (b, s') ↔ b = a ∧ s' = s := by
  show Except.ok (a, s) = .ok (b, s') ↔ _
  simp only [Except.ok.injEq, Prod.mk.injEq]
  constructor <;> rintro ⟨h1, h2⟩ <;> exact ⟨h1.symm, h2.symm⟩

theorem get_ok (a s s' : σ) : (get : StateT σ (Except ε) σ) s = .ok (a, s') ↔ a = s ∧ s' = s := pure_ok s a s s'

theorem set_ok (x s s' : σ) (u : Unit) : (set x : StateT σ (Except ε) Unit) s = .ok (u, s') ↔ s' = x := by
  show Except.ok ((), x) = .ok (u, s') ↔ _
  simp only [Except.ok.injEq, Prod.mk.injEq, true_and]
  exact eq_comm

theorem modify_ok (f : σ → σ) (s s' : σ) (u : Unit) :
    (modify f : StateT σ (Except ε) Unit) s = .ok (u, s') ↔ s' = f s := set_ok (f s) s s' u

theorem throw_ok (e : ε) (s s' : σ) (a : α) : (throw e : StateT σ (Except ε) α) s = .ok (a, s') ↔ False := by
  show Except.error e = .ok (a, s') ↔ False
  simp

theorem get_bind (f : σ → StateT σ (Except ε) β) (s : σ) : ((get : StateT σ (Except ε) σ) >>= f) s = f s s := rfl
theorem set_bind (x : σ) (f : Unit → StateT σ (Except ε) β) (s : σ) :
    ((set x : StateT σ (Except ε) Unit) >>= f) s = f () x := rfl
theorem modify_bind (g : σ → σ) (f : Unit → StateT σ (Except ε) β) (s : σ) :
    ((modify g : StateT σ (Except ε) Unit) >>= f) s = f () (g s) := rfl
theorem pure_bind' (a : α) (f : α → StateT σ (Except ε) β) (s : σ) :
    ((pure a : StateT σ (Except ε) α) >>= f) s = f a s := rfl
theorem ite_run (c : Prop) [Decidable c] (a b : StateT σ (Except ε) α) (s : σ) :
    (if c then a else b) s = if c then a s else b s := by
  split <;> rfl

theorem bind_of_ok {m : StateT σ (Except ε) α} {f : α → StateT σ (Except ε) β} {s s1 : σ} {a : α}
    (h : m s = .ok (a, s1)) : (m >>= f) s = f a s1 := by
  rw [bind_run, h]

/-! A weakest precondition with a mode: `Tr tot m s Q` says that what `m` returns from `s` satisfies `Q`, and that `m`
may fail only if `tot = false`.  At `tot = false` this is reasoning from success, at `tot = true` it is totality; the
rules `Tr.bind`, `Tr.pure`, `Tr.mono` do not look at `tot`, so a walk over a program written with them is both. -/

section Tr
variable {tot : Bool} {m : StateT σ (Except ε) α} {s : σ} {Q Q' : α → σ → Prop}

def Tr (tot : Bool) (m : StateT σ (Except ε) α) (s : σ) (Q : α → σ → Prop) : Prop :=
  match m s with
  | .ok (a, s') => Q a s'
  | .error _ => tot = false

theorem tr_iff : Tr tot m s Q ↔
    (∀ a s', m s = .ok (a, s') → Q a s') ∧ (tot = true → ∃ a s', m s = .ok (a, s')) := by
  unfold Tr
  cases h : m s with
  | error e => cases tot <;> simp
  | ok p => obtain ⟨a, s'⟩ := p; simp

theorem tr_false : Tr false m s Q ↔ ∀ a s', m s = .ok (a, s') → Q a s' := by
  simp [tr_iff]

theorem tr_true : Tr true m s Q ↔ ∃ a s', m s = .ok (a, s') ∧ Q a s' := by
  rw [tr_iff]
  constructor
  · rintro ⟨h1, h2⟩
    obtain ⟨a, s', h⟩ := h2 rfl
    exact ⟨a, s', h, h1 a s' h⟩
  · rintro ⟨a, s', h, hq⟩
    refine ⟨fun a' s'' h' => ?_, fun _ => ⟨a, s', h⟩⟩
    rw [h] at h'; cases h'; exact hq

theorem Tr.of_ok {a : α} {s' : σ} (h : m s = .ok (a, s')) (hq : Q a s') : Tr tot m s Q := by
  unfold Tr; rw [h]; exact hq

theorem Tr.pure {a : α} (h : Q a s) : Tr tot (pure a : StateT σ (Except ε) α) s Q := Tr.of_ok rfl h

/-- The consequence may use that `m` returned `(a, s')`. -/
theorem Tr.mono (h : Tr tot m s Q) (hq : ∀ a s', m s = .ok (a, s') → Q a s' → Q' a s') : Tr tot m s Q' := by
  unfold Tr at h ⊢
  cases hm : m s with
  | error e => rw [hm] at h; exact h
  | ok p => obtain ⟨a, s'⟩ := p; rw [hm] at h; exact hq a s' hm h

theorem Tr.bind {f : α → StateT σ (Except ε) β} {R : β → σ → Prop}
    (h : Tr tot m s (fun a s1 => Tr tot (f a) s1 R)) : Tr tot (m >>= f) s R := by
  unfold Tr at h ⊢
  rw [bind_run]
  cases hm : m s with
  | error e => rw [hm] at h; exact h
  | ok p => obtain ⟨a, s1⟩ := p; rw [hm] at h; exact h

end Tr

end StateExcept

end Hpbf
