/-
C02: the three late passes of `bc::CodeGen::translate` composed
(`parameter_reordering`; if `fuse`: `record_branch_targets`, `zeroing_move_detection`; `strip_noops`).  Under `LatePre`
they are `strip_noops` of a state that is the input rewritten in place (`latePasses_stages`); what holds of the
emitted instructions, and the behaviour, are read off that.
-/
import Hpbf.Proofs.C02Zmd
import Hpbf.Proofs.C02Strip
import Hpbf.Proofs.C02Dispatch

namespace Hpbf
namespace C02

open Bc BcWf BcGen C11

variable {w : Nat}

/-- The tail of `translateE` after `allocate_temps` (see `translateE_eq_latePasses`). -/
def latePasses (fuse : Bool) (s : St w) : Except String (St w) := do
  let s := parameterReordering s
  let s ← if fuse then (do let s ← recordBranchTargets s; zeroingMoveDetection s) else pure s
  stripNoops s

theorem translateE_eq_latePasses (prog : Ir.Block w) (numRegs : Nat) (fuse : Bool) :
    translateE prog numRegs fuse =
      (do
        let analysis := analyze prog
        let (_, s) ← (emitInsts fuse 0 prog.insts analysis.subAnal).run ({} : St w)
        let s ← deadStoreElim s
        let s ← allocateTemps numRegs s
        let s ← latePasses fuse s
        pure { temps := countTemps s.insts, minAcc := analysis.minAcc, maxAcc := analysis.maxAcc,
               live := s.live, insts := s.insts }) := by
  unfold translateE latePasses
  cases fuse <;> simp only [bind_assoc, pure_bind, if_true, Bool.false_eq_true, if_false]

theorem branchOff?_reorderInst (ins : Instr w) : branchOff? (reorderInst ins) = branchOff? ins := by
  cases ins with
  | add d a b => rw [reorderInst_add]; split <;> rfl
  | mul d a b => rw [reorderInst_mul]; split <;> rfl
  | sub d a b => rw [reorderInst_sub]; split <;> rfl
  | _ => rfl

theorem parameterReordering_targetsOk (s : St w) (hT : TargetsOk s.insts) :
    TargetsOk (parameterReordering s).insts := by
  intro i ins off hi hoff
  simp only [parameterReordering, Array.getElem?_map, Option.map_eq_some_iff] at hi
  obtain ⟨a, ha, rfl⟩ := hi
  rw [branchOff?_reorderInst] at hoff
  have := hT i a off ha hoff
  simpa [parameterReordering] using this

theorem allQ_parameterReordering {Q Q' : Instr w → Prop} (hf : ∀ x, Q x → Q' (reorderInst x)) {s : St w}
    (hg : AllQ Q s.insts) : AllQ Q' (parameterReordering s).insts := by
  intro i x' hx'
  simp only [parameterReordering, Array.getElem?_map, Option.map_eq_some_iff] at hx'
  obtain ⟨a, ha, rfl⟩ := hx'
  exact hf a (hg i a ha)

/-- What the generator guarantees after `allocate_temps` and what the late passes need. -/
structure LatePre (s : St w) : Prop where
  live : s.live.size = s.insts.size
  targets : TargetsOk s.insts
  noZero : ∀ ins ∈ s.insts, NoMemZero ins

/-- `s3` is the state before `strip_noops` in `latePasses fuse s`: `s` with every instruction reordered and then, under
fusion, treated by `zeroing_move_detection` (`ZmdI`), in place. -/
structure LateStages (fuse : Bool) (s s3 : St w) : Prop where
  eq : latePasses fuse s = stripNoops s3
  shape : PW (fun x z => ZmdI (reorderInst x) z) s.insts s3.insts
  live : s3.live.size = s3.insts.size
  targets : TargetsOk s3.insts
  liveEq : s3.live = s.live
  noFuse : fuse = false → s3 = parameterReordering s
  io : ∀ (t : Nat) (mn mx : Int), BehEqIO (progOf s t mn mx) (progOf s3 t mn mx)

/-- Under `LatePre` nothing before `strip_noops` panics. -/
theorem latePasses_stages {s : St w} (h : LatePre s) (fuse : Bool) : ∃ s3, LateStages fuse s s3 := by
  have hR := parameterReordering_preserves s h.noZero
  have hT1 := parameterReordering_targetsOk s h.targets
  have hZ1 := parameterReordering_noMemZero s h.noZero
  have hL1 : (parameterReordering s).live.size = (parameterReordering s).insts.size := by
    rw [parameterReordering_live, parameterReordering_size]; exact h.live
  have hmap : ∀ (i : Nat) (y : Instr w), (parameterReordering s).insts[i]? = some y →
      ∃ x, s.insts[i]? = some x ∧ y = reorderInst x := by
    intro i y hy
    simp only [parameterReordering, Array.getElem?_map, Option.map_eq_some_iff] at hy
    obtain ⟨x, hx, rfl⟩ := hy
    exact ⟨x, hx, rfl⟩
  cases fuse with
  | false =>
    refine ⟨_, by simp only [latePasses, Bool.false_eq_true, if_false, pure_bind],
      ⟨parameterReordering_size s, fun i y hy => ?_⟩, hL1, hT1, parameterReordering_live s, fun _ => rfl,
      fun t mn mx => (hR t mn mx).io⟩
    obtain ⟨x, hx, rfl⟩ := hmap i y hy
    exact ⟨x, hx, .refl _⟩
  | true =>
    obtain ⟨tg, r1, r2⟩ := recordBranchTargets_spec (parameterReordering s) hT1
    obtain ⟨s3, z1, z2, _, z4, z5, z6⟩ := zeroingMoveDetection_preserves_of_pre
      { parameterReordering s with isTarget := tg } ⟨r2, hZ1⟩
    have hpw := zeroingMoveDetection_shape (s := { parameterReordering s with isTarget := tg }) ⟨r2, hZ1⟩ z1
    refine ⟨s3, by simp only [latePasses, if_true, r1, bind, Except.bind, z1],
      ⟨hpw.1.trans (parameterReordering_size s), fun i z hz => ?_⟩, by rw [z2, z4]; exact hL1, z5,
      z2.trans (parameterReordering_live s), fun hf => (by cases hf), fun t mn mx => (hR t mn mx).io.trans (z6 t mn mx)⟩
    obtain ⟨y, hy, hyz⟩ := hpw.2 i z hz
    obtain ⟨x, hx, rfl⟩ := hmap i y hy
    exact ⟨x, hx, hyz⟩

/-- Success means no modelled panic. The strong `BehEq` holds only without fusion
(`zmd_stopped_tape_differs`). -/
theorem late_passes_preserve (s : St w) (h : LatePre s) (fuse : Bool) :
    ∃ s', latePasses fuse s = .ok s' ∧ s'.live.size = s'.insts.size ∧ (∀ x ∈ s'.insts, isNoop x = false) ∧
      (∀ (t : Nat) (mn mx : Int), BehEqIO (progOf s t mn mx) (progOf s' t mn mx)) ∧
      (fuse = false → ∀ (t : Nat) (mn mx : Int), BehEq (progOf s t mn mx) (progOf s' t mn mx)) := by
  obtain ⟨s3, e, _, hl3, hT3, _, hs3, hio⟩ := latePasses_stages h fuse
  obtain ⟨s', e1, e2, e3, _, e5⟩ := stripNoops_preserves s3 hl3 hT3
  refine ⟨s', e.trans e1, e3, e2.noNoop, fun t mn mx => (hio t mn mx).trans (e5 t mn mx).io, fun hf t mn mx => ?_⟩
  have e5' := e5 t mn mx
  rw [hs3 hf] at e5'
  exact (parameterReordering_preserves s h.noZero t mn mx).trans e5'

/-- A property of single instructions that each late pass carries over holds of every emitted instruction. -/
theorem latePasses_all {s s4 : St w} (h : LatePre s) {fuse : Bool} (h4 : latePasses fuse s = .ok s4)
    {Q Q' : Instr w → Prop} (hR : ∀ x, Q x → Q' (reorderInst x)) (hn : Q' .noop)
    (hF : ∀ m a a', FuseAt m a a' → Q' a → Q' a') (hfix : ∀ A i x, Q' x → Q' (fixInst A i x))
    (hg : AllQ Q s.insts) : AllQ Q' s4.insts := by
  obtain ⟨s3, e, hpw, hl3, hT3, _, _, _⟩ := latePasses_stages h fuse
  obtain ⟨s', e1, hS, _⟩ := stripNoops_preserves s3 hl3 hT3
  rw [e, e1] at h4
  cases h4
  exact hS.all hfix (hpw.all (fun x z hz hx => hz.keeps hn hF (hR x hx)) hg)

/-- `late_passes_preserve` for the debug (trampolined) dispatch profile, through `runDebug_eq_run`. -/
theorem late_passes_preserve_debug (s : St w) (h : LatePre s) (fuse : Bool) :
    ∃ s', latePasses fuse s = .ok s' ∧
      ∀ (t : Nat) (mn mx : Int) (limited : Bool) (b fuel : Nat) (env : Env),
        ∃ fuel', ObsEqIO (runDebug (progOf s t mn mx) limited b fuel env)
          (runDebug (progOf s' t mn mx) limited b fuel' env) := by
  obtain ⟨s', h1, _, _, h4, _⟩ := late_passes_preserve s h fuse
  refine ⟨s', h1, fun t mn mx limited b fuel env => ?_⟩
  obtain ⟨fuel', hf⟩ := (h4 t mn mx).1 limited b fuel env
  exact ⟨fuel', by rw [runDebug_eq_run, runDebug_eq_run]; exact hf⟩

/-- A small generator state with a constant to fold, a `sub` by an immediate, operands to swap, `noop`s, a loop
and a fusable zeroing copy. -/
def exLate : St 8 :=
  { insts := #[.add (.mem 0) (.imm 2#8) (.imm 3#8), .noop, .brz 0 6, .add (.mem 1) (.tmp 0) (.mem 1),
               .sub (.mem 0) (.mem 0) (.imm 1#8), .noop, .brnz 0 (-3), .noop,
               .copy (.mem 2) (.mem 1), .copy (.mem 1) (.imm 0#8), .out 2],
    live := #[0, 0, 0, 0, 0, 0, 0, 0, 0, 0, 0] }

example : (latePasses true exLate).toOption.map (fun s => (s.insts, s.live.size)) =
    some (#[.copy (.mem 0) (.imm 5#8), .brz 0 4, .add (.mem 1) (.mem 1) (.tmp 0),
            .add (.mem 0) (.mem 0) (.imm 255#8), .brnz 0 (-2), .copy (.mem 2) (.memZero 1), .out 2], 7) := by
  decide +kernel

example : (latePasses false exLate).toOption.map (fun s => s.insts) =
    some #[.copy (.mem 0) (.imm 5#8), .brz 0 4, .add (.mem 1) (.mem 1) (.tmp 0),
           .add (.mem 0) (.mem 0) (.imm 255#8), .brnz 0 (-2), .copy (.mem 2) (.mem 1),
           .copy (.mem 1) (.imm 0#8), .out 2] := by
  decide +kernel

theorem exLate_pre : LatePre exLate := by
  refine ⟨by decide, ?_, by decide +kernel⟩
  apply targetsOk_of_succs
  intro i ins hi
  have hlt : i < 11 := lt_of_getElem? hi
  have : ∀ i : Fin 11, ∀ ins, exLate.insts[i.val]? = some ins → (succs 11 i.val ins).isSome = true := by
    decide +kernel
  exact this ⟨i, hlt⟩ ins hi

end C02
end Hpbf
