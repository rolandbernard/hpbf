/-
Reasoning about the oracle monad `M = StateT Orders (Except String)` of `Hpbf/Opt.lean`.
-/
import Hpbf.Proofs.OptRbInv
import Hpbf.Proofs.StateExcept

namespace Hpbf
namespace OptProof
open Opt

variable {α β : Type}

theorem run_pure (a : α) (os : Orders) : (pure a : M α).run os = .ok (a, os) := rfl

theorem run_bind (x : M α) (f : α → M β) (os : Orders) :
    (x >>= f).run os = (match x.run os with
      | .ok (a, os1) => (f a).run os1
      | .error e => .error e) := by
  show (x >>= f) os = _
  simp only [bind, StateT.bind, Except.bind, StateT.run]
  cases x os with
  | error e => rfl
  | ok v => obtain ⟨a, os1⟩ := v; rfl

theorem run_bind_ok {x : M α} {f : α → M β} {os : Orders} {r : β × Orders} :
    (x >>= f).run os = .ok r ↔ ∃ a os1, x.run os = .ok (a, os1) ∧ (f a).run os1 = .ok r :=
  StateExcept.bind_ok x f os r.2 r.1

theorem run_monadLift (e : Except String α) (os : Orders) :
    ((monadLift e : M α)).run os = (match e with | .ok a => .ok (a, os) | .error m => .error m) := by
  cases e <;> rfl

theorem run_monadLift_ok {e : Except String α} {os : Orders} {r : α × Orders} :
    ((monadLift e : M α)).run os = .ok r ↔ e = .ok r.1 ∧ r.2 = os := by
  rw [run_monadLift]
  cases e with
  | error m => simp
  | ok a =>
    obtain ⟨r1, r2⟩ := r
    simp only [Except.ok.injEq, Prod.mk.injEq]
    constructor
    · rintro ⟨rfl, rfl⟩; exact ⟨rfl, rfl⟩
    · rintro ⟨h1, h2⟩; exact ⟨h1, h2.symm⟩

theorem run_throw (m : String) (os : Orders) : ((throw m : M α)).run os = .error m := rfl

theorem foldlM_inv_prefix {γ : Type} (Inv : List γ → β → Orders → Prop) (f : β → γ → M β) (l : List γ)
    (hstep : ∀ pre b x os b' os', x ∈ l → Inv pre b os → (f b x).run os = .ok (b', os') →
      Inv (pre ++ [x]) b' os')
    {pre : List γ} {b : β} {os : Orders} {b' : β} {os' : Orders}
    (h0 : Inv pre b os) (hr : (l.foldlM f b).run os = .ok (b', os')) : Inv (pre ++ l) b' os' := by
  induction l generalizing pre b os with
  | nil =>
    rw [List.foldlM_nil, run_pure] at hr
    cases hr
    rw [List.append_nil]
    exact h0
  | cons x l ih =>
    rw [List.foldlM_cons, run_bind_ok] at hr
    obtain ⟨b1, os1, h1, h2⟩ := hr
    have := ih (fun pre b x os b' os' hx => hstep pre b x os b' os' (List.mem_cons_of_mem _ hx))
      (hstep pre b x os b1 os1 (List.mem_cons_self ..) h0 h1) h2
    rwa [List.append_assoc] at this

theorem foldlM_inv {γ : Type} (Inv : β → Orders → Prop) (f : β → γ → M β) (l : List γ)
    (hstep : ∀ b x os b' os', x ∈ l → Inv b os → (f b x).run os = .ok (b', os') → Inv b' os')
    {b : β} {os : Orders} {b' : β} {os' : Orders}
    (h0 : Inv b os) (hr : (l.foldlM f b).run os = .ok (b', os')) : Inv b' os' :=
  foldlM_inv_prefix (fun _ => Inv) f l (fun _ => hstep) (pre := []) h0 hr

/-- A bind after an `if` is a bind in each branch (the form in which `do` blocks are elaborated). -/
theorem ite_bind (c : Prop) [Decidable c] (x y : M α) (f : α → M β) :
    (if c then x else y) >>= f = if c then x >>= f else y >>= f := by
  split <;> rfl

end OptProof
end Hpbf
