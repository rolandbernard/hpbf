/-
C02 (`allocate_temps`): the first phase (`emit_block`) seen from the range table.  `ExtSpec`, `NewSpec`,
`memWrite_spec` say exactly what `rangeExtend`, `read`, `getValue`, `memWrite` do to `ranges`, `writes`,
`outerAccessed`, which the emission proofs (`C02EmitGen`, `C02EmitInv`) ignore.  `Closed`: what it means for a
predicate on generator states to be preserved by every primitive.
-/
import Hpbf.Proofs.C02EmitCert
import Hpbf.Proofs.C02AllocPre
import Hpbf.Proofs.C02Strip
set_option linter.unusedSimpArgs false
namespace Hpbf
namespace C02
namespace AEmit
open Bc BcWf BcGen C11 C02Emit
variable {w : Nat}

/-- `rangeExtend` / `read`: the entry of `v` is bumped, `v` may be appended to `outerAccessed`. -/
structure ExtSpec (v inc : Nat) (s s' : St w) : Prop where
  entry : ∃ r, s.ranges[v]? = some r ∧ s'.ranges = s.ranges.setIfInBounds v (bump r s.insts.size inc)
  outer : (s'.outerAccessed = s.outerAccessed ∧
      ∃ r, s.ranges[v]? = some r ∧ (s.currentStart ≤ r.created ∨ ∃ L, r.lastUse = some L ∧ s.currentStart ≤ L)) ∨
    (s'.outerAccessed = s.outerAccessed.push v ∧
      ∃ r, s.ranges[v]? = some r ∧ r.created < s.currentStart ∧
        ∀ L, r.lastUse = some L → L < s.currentStart)
  writes : s'.writes = s.writes
  exprs : s'.exprs = s.exprs
  values : s'.values = s.values
  insts : s'.insts = s.insts
  live : s'.live = s.live
  isTarget : s'.isTarget = s.isTarget
  currentStart : s'.currentStart = s.currentStart

/-- The explicit states of `C02EmitBase` satisfy the description. -/
theorem extSpec_useSt {v : Nat} {s : St w} (hv : v < s.ranges.size) (inc : Nat) : ExtSpec v inc s (useSt v inc s) := by
  have hr : s.ranges[v]? = some s.ranges[v] := Array.getElem?_eq_getElem hv
  unfold useSt
  rw [hr]
  refine ⟨⟨_, hr, rfl⟩, ?_, rfl, rfl, rfl, rfl, rfl, rfl, rfl⟩
  cases hb : staleB s.currentStart s.ranges[v] with
  | true =>
    refine Or.inr ⟨by simp [hb], _, hr, ?_⟩
    simp only [staleB, staleL, Bool.and_eq_true, decide_eq_true_eq] at hb
    refine ⟨hb.1, fun L hL => ?_⟩
    have := hb.2; rw [hL] at this; simpa using this
  | false =>
    refine Or.inl ⟨by simp [hb], _, hr, ?_⟩
    simp only [staleB, staleL, Bool.and_eq_false_iff, decide_eq_false_iff_not, Nat.not_lt] at hb
    rcases hb with hc | hc
    · exact Or.inl hc
    · cases hL : s.ranges[v].lastUse with
      | none => rw [hL] at hc; cases hc
      | some L =>
        rw [hL] at hc
        exact Or.inr ⟨L, rfl, by simpa using hc⟩

theorem rangeExtend_spec {v : Nat} {s s' : St w} {u : Unit} (h : rangeExtend v s = .ok (u, s')) :
    ExtSpec v 0 s s' := by
  obtain ⟨hv, rfl⟩ := rangeExtend_ok.1 h; exact extSpec_useSt hv 0

theorem read_spec {v : Nat} {s s' : St w} {u : Unit} (h : BcGen.read v s = .ok (u, s')) : ExtSpec v 1 s s' := by
  obtain ⟨hv, rfl⟩ := read_ok.1 h; exact extSpec_useSt hv 1

def ReadsSpec : List Nat → St w → St w → Prop
  | [], s, s' => s' = s
  | a :: rest, s, s' => ∃ s1, ExtSpec a 1 s s1 ∧ ReadsSpec rest s1 s'

/-- A new value number: fresh range entry, reads of the operands, the defining instruction. -/
structure NewSpec (e : GvnExpr w) (s : St w) (s' : St w) : Prop where
  miss : alGet s.values e = none
  reads : ∃ s2, ReadsSpec (opsOf e)
      { s with ranges := s.ranges.push { created := s.insts.size, firstUse := none, lastUse := none, numUses := 0 },
               exprs := s.exprs.push e } s2 ∧
    s' = { s2 with insts := s2.insts.push (gvInst e s.ranges.size), values := alSet s2.values e s.ranges.size }

theorem readsSpec_readsSt : ∀ (l : List Nat) (s : St w), (∀ a ∈ l, a < s.ranges.size) →
    ReadsSpec l s (readsSt l s)
  | [], _, _ => rfl
  | a :: l, s, h => ⟨_, extSpec_useSt (h a List.mem_cons_self) 1,
      readsSpec_readsSt l _ (fun b hb => by rw [size_useSt]; exact h b (List.mem_cons_of_mem _ hb))⟩

theorem getValue_spec {e : GvnExpr w} {s s' : St w} {v : Nat} (h : getValue e s = .ok (v, s')) :
    (alGet s.values e = some v ∧ s' = s) ∨ (v = s.ranges.size ∧ NewSpec e s s') := by
  rcases getValue_ok.1 h with g | ⟨hg, hops, rfl, rfl⟩
  · exact Or.inl g
  · exact Or.inr ⟨rfl, hg, _, readsSpec_readsSt _ _ (fun a ha => by
      simp only [Array.size_push]; exact Nat.lt_succ_of_le (hops a ha)), rfl⟩

theorem memWrite_spec {var : Int} {value : Nat} {s s' : St w} {u : Unit}
    (h : memWrite var value s = .ok (u, s')) :
    ∃ s1, ExtSpec value 1 s s1 ∧
      s' = { s1 with writes := addWrite s1.writes var s1.insts.size,
                     values := alSet s1.values (.mem var) value,
                     insts := s1.insts.push (.copy (.mem var) (.tmp value)) } := by
  unfold memWrite at h
  simp only [bind_ok, modify_ok] at h
  obtain ⟨_, s1, h1, rfl⟩ := h
  exact ⟨s1, read_spec h1, rfl⟩



theorem lhHead_eq (isLoop : Bool) (sub : Analysis) (s : St w) :
    lhHead isLoop sub s = { s with values := (lhHead isLoop sub s).values } := by
  cases isLoop <;> rfl

theorem extSpec_size {v inc : Nat} {s s' : St w} (E : ExtSpec v inc s s') : s'.ranges.size = s.ranges.size := by
  obtain ⟨r, _, h⟩ := E.entry
  rw [h]; simp

theorem readsSpec_size : ∀ (l : List Nat) {s s' : St w}, ReadsSpec l s s' → s'.ranges.size = s.ranges.size
  | [], s, s', h => by rw [h]
  | a :: rest, s, s', ⟨s1, h1, h2⟩ => by rw [readsSpec_size rest h2, extSpec_size h1]

theorem getValue_size {e : GvnExpr w} {s s' : St w} {v : Nat} (h : getValue e s = .ok (v, s')) :
    s.ranges.size ≤ s'.ranges.size := by
  rcases getValue_spec h with ⟨_, rfl⟩ | ⟨_, N⟩
  · exact Nat.le_refl _
  · obtain ⟨s2, h2, rfl⟩ := N.reads
    have := readsSpec_size _ h2
    simp only [Array.size_push] at this ⊢
    omega

theorem memWrite_size {var : Int} {x : Nat} {s s' : St w} {u : Unit} (h : memWrite var x s = .ok (u, s')) :
    s'.ranges.size = s.ranges.size := by
  obtain ⟨s1, h1, rfl⟩ := memWrite_spec h
  show s1.ranges.size = _
  exact extSpec_size h1

/-- Control instructions pushed by `emit_block` itself (no temporaries, no stores). -/
def isCtl : Instr w → Bool
  | .noop => true
  | .mov _ => true
  | .brnz _ _ => true
  | .scan _ _ => true
  | .out _ => true
  | _ => false

/-- An invariant of the generator state alone that every primitive of `emit_block` keeps (`LInv`, and `XInv` of
`C02AllocTotalCount`); `closed_emitState` carries it over a whole run. -/
structure Closed (J : St w → Prop) : Prop where
  values : ∀ (s : St w) (vs : List (GvnExpr w × Nat)), J s → (∀ p ∈ vs, p ∈ s.values) → J { s with values := vs }
  start : ∀ (s : St w) (c : Nat), J s → J { s with currentStart := c }
  push : ∀ (s : St w) (x : Instr w), J s → isCtl x = true → J { s with insts := s.insts.push x }
  inp : ∀ (s : St w) (d : Int), J s →
    J { s with writes := addWrite s.writes d s.insts.size, insts := s.insts.push (.inp d) }
  patch : ∀ (s : St w) (i : Nat) (c off : Int), J s → s.insts[i]? = some .noop →
    J { s with insts := s.insts.setIfInBounds i (.brz c off) }
  outer : ∀ (ps fuel i : Nat) (s s' : St w) (u : Unit), J s → outerLoop ps fuel i s = .ok (u, s') → J s'
  getValue : ∀ (e : GvnExpr w) (s : St w) (v : Nat) (s' : St w), J s → (∀ a ∈ opsOf e, a < s.ranges.size) →
    getValue e s = .ok (v, s') → J s' ∧ v < s'.ranges.size
  memWrite : ∀ (var : Int) (x : Nat) (s s' : St w) (u : Unit), J s → x < s.ranges.size →
    memWrite var x s = .ok (u, s') → J s'

theorem readsSpec_insts : ∀ (l : List Nat) {s s' : St w}, ReadsSpec l s s' → s'.insts = s.insts
  | [], s, s', h => by rw [h]
  | a :: rest, s, s', ⟨s1, h1, h2⟩ => by rw [readsSpec_insts rest h2, h1.insts]

theorem mem_lhHead {isLoop : Bool} {sub : Analysis} {s : St w} :
    ∀ p ∈ (lhHead isLoop sub s).values, p ∈ s.values := by
  unfold lhHead
  split
  · exact fun p hp => mem_headVals hp
  · exact fun p hp => hp

theorem lhExit_eq (once : Bool) (sub : Analysis) (pe : Nat) (s : St w) :
    lhExit once sub pe s = { s with values := (lhExit once sub pe s).values } := rfl

theorem mem_lhExit {once : Bool} {sub : Analysis} {pe : Nat} {s : St w} :
    ∀ p ∈ (lhExit once sub pe s).values, p ∈ s.values := fun _ hp => mem_exitVals hp

/-- The table at a loop head and after a block is a part of the table before: what survives a shrinking table survives
`lhHead` and `lhExit`. -/
theorem lhHead_J {J : St w → Prop}
    (hv : ∀ (s : St w) (vs : List (GvnExpr w × Nat)), J s → (∀ p ∈ vs, p ∈ s.values) → J { s with values := vs })
    (isLoop : Bool) (sub : Analysis) {s : St w} (h : J s) : J (lhHead isLoop sub s) := by
  rw [lhHead_eq]; exact hv _ _ h mem_lhHead

theorem lhExit_J {J : St w → Prop}
    (hv : ∀ (s : St w) (vs : List (GvnExpr w × Nat)), J s → (∀ p ∈ vs, p ∈ s.values) → J { s with values := vs })
    (once : Bool) (sub : Analysis) (pe : Nat) {s : St w} (h : J s) : J (lhExit once sub pe s) := by
  rw [lhExit_eq]; exact hv _ _ h mem_lhExit

theorem lhHead_insts (isLoop : Bool) (sub : Analysis) (s : St w) : (lhHead isLoop sub s).insts = s.insts := by
  rw [lhHead_eq]
theorem lhExit_insts (once : Bool) (sub : Analysis) (pe : Nat) (s : St w) :
    (lhExit once sub pe s).insts = s.insts := by
  rw [lhExit_eq]

theorem lhMov_J {J : St w → Prop} (C : Closed J) (shift : Int) {s : St w} (h : J s) : J (lhMov shift s) := by
  unfold lhMov; split
  · exact h
  · exact C.push _ _ h rfl

theorem pre_lhBrnz {sb so : St w} {shift : Int} (hso : so.insts = (lhMov shift sb).insts) (cond : Int) (n : Nat) :
    Pre sb.insts (lhBrnz cond n so).insts := by
  refine (pre_lhMov shift sb).trans ?_
  show Pre _ (so.insts.push _)
  rw [hso]; exact Pre.push _ _

/-- The `noop` pushed by `lhPro` in front of a block that may be skipped is still there when the block ends. -/
theorem placeholder_noop (isLoop : Bool) (s : St w) {a : Array (Instr w)} (h : Pre (lhPro isLoop false s).insts a) :
    a[(lhPro isLoop false s).insts.size - 1]? = some .noop := by
  have e : (lhPro isLoop false s).insts = s.insts.push .noop := by cases isLoop <;> rfl
  rw [h.2 _ (by rw [e]; simp), e]
  simp

end AEmit
end C02
end Hpbf
