/-
C02: `zeroing_move_detection` is a sequence of single fusions (`C02Fuse.lean`). Scanning backwards, `zerod` maps a
cell `m` to the index `j` of a remembered zeroing copy `copy (mem m) (imm 0)`. Invariant `ZSound tg k B Z` after the
instructions `≥ k` have been processed: for every entry `m ↦ j`, `k ≤ j`, `B[j]` is that copy, the instructions in
`[k, j)` are `quiet m` (straight-line, do not touch `m`) and no index in `[k, j]` is a branch target. When the
instruction at `i = k-1` reads `mem m` as a source and `m ↦ j` is present, the pass performs the fusion `(i, m, j)`,
whose conditions (`FuseCond`) follow from the invariant.  The same induction yields what the pass does to the array,
position by position (`ZmdI`, `zeroingMoveDetection_shape`): the proofs that a property of single instructions survives
the pass use that and do not look at the loop.
-/
import Hpbf.Proofs.C02Fuse
import Hpbf.Proofs.C02EmitBase

namespace Hpbf
namespace C02

open Bc BcWf BcGen C11

variable {w : Nat}

theorem alGet_alErase_some {Z : List (Int × Nat)} (h : (C02Emit.keys Z).Nodup) {m m' : Int} {j : Nat}
    (hg : alGet (alErase Z m) m' = some j) : m' ≠ m ∧ alGet Z m' = some j := by
  rw [C02Emit.alGet_alErase Z m m' h] at hg
  split at hg
  · cases hg
  · exact ⟨‹_›, hg⟩

/-- What `zeroing_move_detection` does to one instruction: nothing; or it blanks a zeroing copy; or it turns
source operands `mem m` into `memZero m`, one at a time. -/
inductive ZmdI : Instr w → Instr w → Prop
  | refl (x : Instr w) : ZmdI x x
  | blank (m : Int) : ZmdI (.copy (.mem m) (.imm 0#w)) .noop
  | fuse {m : Int} {a a' b : Instr w} : FuseAt m a a' → ZmdI a' b → ZmdI a b

theorem FuseAt.ne_noop {m : Int} {a a' : Instr w} (h : FuseAt m a a') : a ≠ .noop := by
  cases h with
  | copy d _ => nofun
  | arithB op d a _ _ => cases op <;> nofun
  | arithA op d b _ _ => cases op <;> nofun

theorem ZmdI.trans {x y z : Instr w} (h1 : ZmdI x y) (h2 : ZmdI y z) : ZmdI x z := by
  induction h1 with
  | refl _ => exact h2
  | blank m =>
    generalize hn : (Instr.noop : Instr w) = n at h2
    cases h2 with
    | refl _ => subst hn; exact .blank m
    | blank _ => cases hn
    | fuse hf _ => exact (hf.ne_noop hn.symm).elim
  | fuse hf _ ih => exact .fuse hf (ih h2)

/-- A property that holds of `noop` and that no single fusion destroys survives the pass. -/
theorem ZmdI.keeps {Q : Instr w → Prop} (hn : Q .noop) (hf : ∀ m a a', FuseAt m a a' → Q a → Q a') {x y : Instr w}
    (h : ZmdI x y) (hx : Q x) : Q y := by
  induction h with
  | refl _ => exact hx
  | blank _ => exact hn
  | fuse g _ ih => exact ih (hf _ _ _ g hx)

/-- Facts about the program that no fusion changes. -/
structure ZGlob (tg : Array Bool) (B : Array (Instr w)) : Prop where
  tgsize : tg.size = B.size + 1
  targets : TargetsOk B
  marked : ∀ (i : Nat) (ins : Instr w) (off : Int), B[i]? = some ins → branchOff? ins = some off →
    tg[((i : Int) + off).toNat]? = some true

structure ZSound (tg : Array Bool) (k : Nat) (B : Array (Instr w)) (Z : List (Int × Nat)) : Prop where
  nodup : (C02Emit.keys Z).Nodup
  sound : ∀ (m : Int) (j : Nat), alGet Z m = some j →
    k ≤ j ∧ B[j]? = some (.copy (.mem m) (.imm 0#w)) ∧
    (∀ (x : Nat) (ins : Instr w), k ≤ x → x < j → B[x]? = some ins → quiet m ins = true) ∧
    (∀ x, k ≤ x → x ≤ j → tg[x]? = some false)

theorem ZSound.nil (tg : Array Bool) (k : Nat) (B : Array (Instr w)) : ZSound tg k B [] :=
  ⟨by simp [C02Emit.keys], fun m j h => by simp [alGet] at h⟩

theorem ZSound.erase {tg : Array Bool} {k : Nat} {B : Array (Instr w)} {Z : List (Int × Nat)}
    (h : ZSound tg k B Z) (m : Int) : ZSound tg k B (alErase Z m) :=
  ⟨C02Emit.keys_alErase_nodup _ m h.nodup, fun m' j hg => h.sound m' j (alGet_alErase_some h.nodup hg).2⟩

/-- Behavioural equivalence of instruction arrays (the other program fields are irrelevant). -/
def InstsBehIO (B B' : Array (Instr w)) : Prop :=
  ∀ p q : Program w, p.insts = B → q.insts = B' → BehEqIO p q

theorem InstsBehIO.refl (B : Array (Instr w)) : InstsBehIO B B :=
  fun _ _ hp hq => (behEq_of_insts_eq (hp.trans hq.symm)).io

theorem InstsBehIO.trans {B1 B2 B3 : Array (Instr w)} (h : InstsBehIO B1 B2) (g : InstsBehIO B2 B3) :
    InstsBehIO B1 B3 :=
  fun p q hp hq => (h p { p with insts := B2 } hp rfl).trans (g { p with insts := B2 } q rfl hq)

theorem setIfInBounds_same {α : Type} (B : Array α) {i : Nat} {x : α} (h : B[i]? = some x) :
    B.setIfInBounds i x = B := by
  apply Array.ext_getElem?
  intro k
  rw [Array.getElem?_setIfInBounds]
  by_cases hk : i = k
  · subst hk
    have := lt_of_getElem? h
    simp only [this, if_true]
    exact h.symm
  · simp [hk]

theorem fuseAt_noBranch {m : Int} {a a' : Instr w} (h : FuseAt m a a') :
    branchOff? a = none ∧ branchOff? a' = none := by
  cases h with
  | copy d _ => exact ⟨rfl, rfl⟩
  | arithB op d a _ _ => cases op <;> exact ⟨rfl, rfl⟩
  | arithA op d b _ _ => cases op <;> exact ⟨rfl, rfl⟩

theorem zfuse {tg : Array Bool} {B : Array (Instr w)} {Z : List (Int × Nat)} {i j : Nat} {m : Int}
    {a a' : Instr w} (hG : ZGlob tg B) (hS : ZSound tg (i + 1) B Z) (hi : B[i]? = some a)
    (hf : FuseAt m a a') (hz : alGet Z m = some j) :
    InstsBehIO B (fuseInsts B i j a') ∧ ZGlob tg (fuseInsts B i j a') ∧
    ZSound tg (i + 1) (fuseInsts B i j a') (alErase Z m) ∧ PW ZmdI B (fuseInsts B i j a') := by
  obtain ⟨hij, hj, hq, htg⟩ := hS.sound m j hz
  have hilt : i < B.size := lt_of_getElem? hi
  have hjlt : j < B.size := lt_of_getElem? hj
  have hbranch : ∀ (x : Nat) (ins : Instr w) (off : Int), (fuseInsts B i j a')[x]? = some ins →
      branchOff? ins = some off → B[x]? = some ins := by
    intro x ins off hx hoff
    by_cases hxi : x = i
    · subst hxi
      rw [fuseInsts_get_r _ _ (by omega) hilt] at hx
      cases hx
      rw [(fuseAt_noBranch hf).2] at hoff; cases hoff
    · by_cases hxj : x = j
      · subst hxj
        rw [fuseInsts_get_j _ _ hjlt] at hx
        cases hx; cases hoff
      · rw [fuseInsts_get_other _ _ hxi hxj] at hx; exact hx
  refine ⟨?_, ?_, ?_, ?_⟩
  · intro p q hp hq'
    have hc : FuseCond p i j m a a' := by
      refine ⟨by omega, by rw [hp]; exact hi, hf, by rw [hp]; exact hj, ?_, by rw [hp]; exact hG.targets, ?_⟩
      · intro x ins hx1 hx2 hx; rw [hp] at hx; exact hq x ins (by omega) hx2 hx
      · intro x ins off hx hoff hin
        rw [hp] at hx
        have h1 := hG.marked x ins off hx hoff
        have h2 := htg _ (by omega) hin.2
        rw [h1] at h2; cases h2
    exact fuse_behEqIO hc (by rw [hq', hp])
  · refine ⟨by rw [fuseInsts_size]; exact hG.tgsize, ?_, ?_⟩
    · intro x ins off hx hoff
      rw [fuseInsts_size]
      exact hG.targets x ins off (hbranch x ins off hx hoff) hoff
    · intro x ins off hx hoff
      exact hG.marked x ins off (hbranch x ins off hx hoff) hoff
  · refine ⟨C02Emit.keys_alErase_nodup _ m hS.nodup, ?_⟩
    intro m' j' hg
    obtain ⟨hne, hg'⟩ := alGet_alErase_some hS.nodup hg
    obtain ⟨h1, h2, h3, h4⟩ := hS.sound m' j' hg'
    have hjj : j' ≠ j := by
      intro e
      subst e
      rw [hj] at h2
      injection h2 with h2; injection h2 with h2 _; injection h2 with h2
      exact hne h2.symm
    refine ⟨h1, ?_, ?_, h4⟩
    · rw [fuseInsts_get_other _ _ (by omega) hjj]; exact h2
    · intro x ins hx1 hx2 hx
      by_cases hxj : x = j
      · subst hxj
        rw [fuseInsts_get_j _ _ hjlt] at hx
        cases hx; rfl
      · rw [fuseInsts_get_other _ _ (by omega) hxj] at hx
        exact h3 x ins hx1 hx2 hx
  · refine ⟨fuseInsts_size _ _ _ _, fun x ins hx => ?_⟩
    by_cases hxj : x = j
    · subst hxj
      rw [fuseInsts_get_j _ _ hjlt] at hx
      cases hx; exact ⟨_, hj, .blank m⟩
    · by_cases hxi : x = i
      · subst hxi
        rw [fuseInsts_get_r _ _ (by omega) hilt] at hx
        cases hx; exact ⟨a, hi, .fuse hf (.refl _)⟩
      · rw [fuseInsts_get_other _ _ hxi hxj] at hx
        exact ⟨ins, hx, .refl _⟩

theorem blank_none (B : Array (Instr w)) : blank B none = B := rfl
theorem blank_some (B : Array (Instr w)) (j : Nat) : blank B (some j) = B.setIfInBounds j .noop := rfl

/-- What one call `zeroSrc Z l` for a source slot of the instruction at `i` (`ctx l` with the slot filled) achieves; `r` is
its result (new operand, remaining table, index of the blanked copy).  With `B'` the array after the call, in this order:
`B'` behaves as `B`; `ZGlob`; `ZSound` above `i`; `B'[i]` is the instruction with the new operand; the remaining keys
avoid the operand and were keys of `Z`; below `i` nothing changed; a blanked copy lies above `i`; `B'` is `B` position by
position up to `ZmdI`. -/
def ZsrcConcl (tg : Array Bool) (B : Array (Instr w)) (Z : List (Int × Nat)) (i : Nat)
    (ctx : Loc w → Instr w) (r : Loc w × List (Int × Nat) × Option Nat) : Prop :=
  InstsBehIO B (blank (B.setIfInBounds i (ctx r.1)) r.2.2) ∧
  ZGlob tg (blank (B.setIfInBounds i (ctx r.1)) r.2.2) ∧
  ZSound tg (i + 1) (blank (B.setIfInBounds i (ctx r.1)) r.2.2) r.2.1 ∧
  (blank (B.setIfInBounds i (ctx r.1)) r.2.2)[i]? = some (ctx r.1) ∧
  (∀ m' j', alGet r.2.1 m' = some j' → m' ∉ locMem r.1 ∧ alGet Z m' = some j') ∧
  (∀ x, x < i → (blank (B.setIfInBounds i (ctx r.1)) r.2.2)[x]? = B[x]?) ∧
  (∀ j, r.2.2 = some j → i < j) ∧
  PW ZmdI B (blank (B.setIfInBounds i (ctx r.1)) r.2.2)

theorem zsrc_step {tg : Array Bool} {B : Array (Instr w)} {Z : List (Int × Nat)} {i : Nat}
    (hG : ZGlob tg B) (hS : ZSound tg (i + 1) B Z) (ctx : Loc w → Instr w) (l : Loc w)
    (hi : B[i]? = some (ctx l)) (hl : locNoZero l = true)
    (hf : ∀ m j, l = .mem m → alGet Z m = some j → FuseAt m (ctx (.mem m)) (ctx (.memZero m))) :
    ZsrcConcl tg B Z i ctx (zeroSrc Z l) := by
  have hilt : i < B.size := lt_of_getElem? hi
  have trivialCase : (zeroSrc Z l) = (l, Z, none) → (∀ m' j', alGet Z m' = some j' → m' ∉ locMem l) →
      ZsrcConcl tg B Z i ctx (zeroSrc Z l) := by
    intro hz hk
    rw [hz]
    simp only [ZsrcConcl, blank_none, setIfInBounds_same B hi]
    exact ⟨InstsBehIO.refl B, hG, hS, hi, fun m' j' hg => ⟨hk m' j' hg, hg⟩, fun _ _ => trivial,
      fun j hj => (by cases hj), PW.refl ZmdI.refl B⟩
  cases l with
  | memZero o => simp [locNoZero] at hl
  | tmp t => exact trivialCase rfl (fun _ _ _ => by simp [locMem])
  | imm v => exact trivialCase rfl (fun _ _ _ => by simp [locMem])
  | mem m =>
    cases hz : alGet Z m with
    | none =>
      apply trivialCase (by simp only [zeroSrc, hz])
      intro m' j' hg
      simp only [locMem, List.mem_singleton]
      intro e; subst e; rw [hz] at hg; cases hg
    | some j =>
      have hzs : zeroSrc Z (.mem m : Loc w) = (.memZero m, alErase Z m, some j) := by simp only [zeroSrc, hz]
      rw [hzs]
      simp only [ZsrcConcl, blank_some]
      obtain ⟨h1, h2, h3, h4⟩ := zfuse hG hS hi (hf m j rfl hz) hz
      have hij : i < j := by have := (hS.sound m j hz).1; omega
      have hjlt : j < B.size := lt_of_getElem? (hS.sound m j hz).2.1
      refine ⟨h1, h2, h3, fuseInsts_get_r _ _ (by omega) hilt, ?_, ?_, fun j' hj' => by cases hj'; exact hij, h4⟩
      · intro m' j' hg
        obtain ⟨hne, hg'⟩ := alGet_alErase_some hS.nodup hg
        exact ⟨by simpa [locMem] using hne, hg'⟩
      · intro x hx
        exact fuseInsts_get_other _ _ (by omega) (by omega)

theorem ZSound.lower {tg : Array Bool} {B : Array (Instr w)} {Z : List (Int × Nat)} {i : Nat} {ins : Instr w}
    (hS : ZSound tg (i + 1) B Z) (hi : B[i]? = some ins) {t : Bool} (ht : tg[i]? = some t)
    (hq : ∀ m j, alGet Z m = some j → quiet m ins = true) :
    ZSound tg i B (if t then [] else Z) := by
  cases t with
  | true => exact ZSound.nil tg i B
  | false =>
    refine ⟨hS.nodup, ?_⟩
    intro m j hg
    obtain ⟨h1, h2, h3, h4⟩ := hS.sound m j hg
    refine ⟨by omega, h2, ?_, ?_⟩
    · intro x ins' hx1 hx2 hx
      by_cases hxi : x = i
      · subst hxi; rw [hi] at hx; cases hx; exact hq m j hg
      · exact h3 x ins' (by omega) hx2 hx
    · intro x hx1 hx2
      by_cases hxi : x = i
      · subst hxi; exact ht
      · exact h4 x (by omega) hx2

/-- The instruction-specific part of `zmdStep` (verbatim). -/
def zmdPair (i : Nat) (B : Array (Instr w)) (zerod : List (Int × Nat)) (inst : Instr w) :
    Array (Instr w) × List (Int × Nat) :=
  match inst with
  | .noop => (B, zerod)
  | .copy dst src =>
    let zerod :=
      match dst with
      | .mem mem =>
        let z := alErase zerod mem
        match src with
        | .imm c => if c = 0#w then alSet z mem i else z
        | _ => z
      | _ => zerod
    let (src', zerod, j) := zeroSrc zerod src
    (blank (B.setIfInBounds i (.copy dst src')) j, zerod)
  | .brnz _ _ => (B, [])
  | .brz _ _ => (B, [])
  | .mov _ => (B, [])
  | .scan _ _ => (B, [])
  | .out mem => (B, alErase zerod mem)
  | .inp mem => (B, alErase zerod mem)
  | _ =>
    match arith? inst with
    | some (op, dst, s0, s1) =>
      let zerod := match dst with | .mem mem => alErase zerod mem | _ => zerod
      let (s1', zerod, j1) := zeroSrc zerod s1
      let (s0', zerod, j0) := zeroSrc zerod s0
      (blank (blank (B.setIfInBounds i (mkArith op dst s0' s1')) j1) j0, zerod)
    | none => (B, zerod)

theorem zmdStep_eq (i : Nat) (s : St w) (zerod : List (Int × Nat)) :
    zmdStep i s zerod =
      match s.insts[i]? with
      | none => .error "zeroing_move_detection:insts-index"
      | some inst =>
        match s.isTarget[i]? with
        | none => .error "zeroing_move_detection:is_target-index"
        | some t => .ok ({ s with insts := (zmdPair i s.insts zerod inst).1 },
            if t then [] else (zmdPair i s.insts zerod inst).2) := by
  unfold zmdStep
  cases s.insts[i]? with
  | none => rfl
  | some inst => rfl

def dstErase (Z : List (Int × Nat)) : Loc w → List (Int × Nat)
  | .mem md => alErase Z md
  | _ => Z

theorem ZSound.dstErase {tg : Array Bool} {k : Nat} {B : Array (Instr w)} {Z : List (Int × Nat)}
    (h : ZSound tg k B Z) (d : Loc w) : ZSound tg k B (dstErase Z d) := by
  cases d <;> first | exact h.erase _ | exact h

theorem dstErase_some {Z : List (Int × Nat)} (hn : (C02Emit.keys Z).Nodup) {d : Loc w} (hd : locNoZero d = true)
    {m : Int} {j : Nat} (hg : alGet (dstErase Z d) m = some j) : m ∉ locMem d ∧ alGet Z m = some j := by
  cases d with
  | mem md =>
    obtain ⟨h1, h2⟩ := alGet_alErase_some hn hg
    exact ⟨by simpa [locMem] using h1, h2⟩
  | memZero o => simp [locNoZero] at hd
  | tmp t => exact ⟨by simp [locMem], hg⟩
  | imm v => exact ⟨by simp [locMem], hg⟩

theorem quiet_mkArith {m : Int} {op : BcGen.Op} {d a b : Loc w} (hd : m ∉ locMem d) (ha : m ∉ locMem a)
    (hb : m ∉ locMem b) : quiet m (mkArith op d a b) = true := by
  cases op <;> simp [mkArith, quiet, memOps, hd, ha, hb]

theorem quiet_copy {m : Int} {d s : Loc w} (hd : m ∉ locMem d) (hs : m ∉ locMem s) :
    quiet m (.copy d s) = true := by
  simp [quiet, memOps, hd, hs]

theorem set_blank_set (B : Array (Instr w)) (i : Nat) (x y : Instr w) (j1 : Option Nat)
    (h : ∀ j, j1 = some j → i < j) :
    (blank (B.setIfInBounds i x) j1).setIfInBounds i y = blank (B.setIfInBounds i y) j1 := by
  cases j1 with
  | none =>
    simp only [blank_none]
    apply Array.ext_getElem?
    intro k
    simp only [Array.getElem?_setIfInBounds, Array.size_setIfInBounds]
    by_cases hk : i = k <;> simp [hk]
  | some j =>
    have hij := h j rfl
    simp only [blank_some]
    apply Array.ext_getElem?
    intro k
    simp only [Array.getElem?_setIfInBounds, Array.size_setIfInBounds]
    by_cases hk : i = k
    · have : ¬ j = k := by omega
      simp [hk, this]
    · simp [hk]

/-- The state of the backward scan at `k`.  `low`: the instructions below `k`, which the scan has not reached, still have no
`memZero` operand; `zsrc_step` needs `locNoZero` of the source it looks up and `FuseAt.arithB` that the first source is
still pure when the second is fused. -/
structure ZState (tg : Array Bool) (k : Nat) (B : Array (Instr w)) (Z : List (Int × Nat)) : Prop where
  glob : ZGlob tg B
  sound : ZSound tg k B Z
  low : ∀ (x : Nat) (ins : Instr w), x < k → B[x]? = some ins → NoMemZero ins

/-- The second source is looked up first, then the first. -/
theorem zmdPair_mkArith (i : Nat) (B : Array (Instr w)) (Z : List (Int × Nat)) (op : BcGen.Op)
    (d s0 s1 : Loc w) :
    zmdPair i B Z (mkArith op d s0 s1) =
      (blank (blank (B.setIfInBounds i (mkArith op d
          (zeroSrc (zeroSrc (dstErase Z d) s1).2.1 s0).1 (zeroSrc (dstErase Z d) s1).1))
          (zeroSrc (dstErase Z d) s1).2.2) (zeroSrc (zeroSrc (dstErase Z d) s1).2.1 s0).2.2,
        (zeroSrc (zeroSrc (dstErase Z d) s1).2.1 s0).2.1) := by
  cases op <;> cases d <;> rfl

theorem zmdPair_arith {tg : Array Bool} {B : Array (Instr w)} {Z : List (Int × Nat)} {i : Nat}
    (hG : ZGlob tg B) (hS : ZSound tg (i + 1) B Z)
    (hlow' : ∀ (x : Nat) (ins : Instr w), x < i → B[x]? = some ins → NoMemZero ins)
    {t : Bool} (ht : tg[i]? = some t) (op : BcGen.Op) (d s0 s1 : Loc w)
    (hi : B[i]? = some (mkArith op d s0 s1)) (hnz : NoMemZero (mkArith op d s0 s1))
    {inst : Instr w} (hinst : inst = mkArith op d s0 s1) :
    InstsBehIO B (zmdPair i B Z inst).1 ∧
    ZState tg i (zmdPair i B Z inst).1 (if t then [] else (zmdPair i B Z inst).2) ∧
    PW ZmdI B (zmdPair i B Z inst).1 := by
  subst hinst
  have hnz' : locNoZero d = true ∧ locNoZero s0 = true ∧ locNoZero s1 = true := by
    cases op <;> simpa [mkArith, NoMemZero, noMemZero, Bool.and_eq_true, and_assoc] using hnz
  obtain ⟨hd, h0, h1⟩ := hnz'
  -- first slot: `src1`
  have hZc := hS.dstErase d
  have hA := zsrc_step hG hZc (fun l => mkArith op d s0 l) s1 hi h1 (by
    intro m j hm hg
    exact FuseAt.arithB op d s0 (dstErase_some hS.nodup hd hg).1 h0)
  rcases hz1 : zeroSrc (dstErase Z d) s1 with ⟨s1', Z1, j1⟩
  rw [hz1] at hA
  obtain ⟨aBeh, aGlob, aSnd, aAt, aKeys, aLow, aLt, aPw⟩ := hA
  simp only at aBeh aGlob aSnd aAt aKeys aLow aLt aPw
  -- second slot: `src0`
  have hB := zsrc_step aGlob aSnd (fun l => mkArith op d l s1') s0 aAt h0 (by
    intro m j hm hg
    obtain ⟨hx, hy⟩ := aKeys m j hg
    exact FuseAt.arithA op d s1' (dstErase_some hS.nodup hd hy).1 hx)
  rcases hz0 : zeroSrc Z1 s0 with ⟨s0', Z2, j0⟩
  rw [hz0] at hB
  obtain ⟨bBeh, bGlob, bSnd, bAt, bKeys, bLow, bLt, bPw⟩ := hB
  simp only at bBeh bGlob bSnd bAt bKeys bLow bLt bPw
  rw [set_blank_set B i _ _ j1 aLt] at bBeh bGlob bSnd bAt bLow bPw
  have hform : zmdPair i B Z (mkArith op d s0 s1) =
      (blank (blank (B.setIfInBounds i (mkArith op d s0' s1')) j1) j0, Z2) := by
    rw [zmdPair_mkArith, hz1]
    simp only
    rw [hz0]
  rw [hform]
  refine ⟨aBeh.trans bBeh, ⟨bGlob, ?_, fun x ins hx h => hlow' x ins hx (by rw [← aLow x hx, ← bLow x hx]; exact h)⟩,
    PW.trans (r := ZmdI) (fun _ _ _ => ZmdI.trans) aPw bPw⟩
  apply bSnd.lower bAt ht
  intro m j hg
  obtain ⟨c0, c1⟩ := bKeys m j hg
  obtain ⟨c2, c3⟩ := aKeys m j c1
  exact quiet_mkArith (dstErase_some hS.nodup hd c3).1 c0 c2

theorem zmdPair_spec {tg : Array Bool} {B : Array (Instr w)} {Z : List (Int × Nat)} {i : Nat}
    (hI : ZState tg (i + 1) B Z) {inst : Instr w} (hi : B[i]? = some inst) {t : Bool} (ht : tg[i]? = some t) :
    InstsBehIO B (zmdPair i B Z inst).1 ∧
    ZState tg i (zmdPair i B Z inst).1 (if t then [] else (zmdPair i B Z inst).2) ∧
    PW ZmdI B (zmdPair i B Z inst).1 := by
  obtain ⟨hG, hS, hlow⟩ := hI
  have hnz : NoMemZero inst := hlow i inst (by omega) hi
  have hlow' : ∀ (x : Nat) (ins : Instr w), x < i → B[x]? = some ins → NoMemZero ins :=
    fun x ins hx h => hlow x ins (by omega) h
  have same : ∀ Z2 : List (Int × Nat), ZSound tg (i + 1) B Z2 →
      (∀ m j, alGet Z2 m = some j → quiet m inst = true) →
      InstsBehIO B B ∧ ZState tg i B (if t then [] else Z2) ∧ PW ZmdI B B :=
    fun Z2 h2 hq => ⟨InstsBehIO.refl B, ⟨hG, h2.lower hi ht hq, hlow'⟩, PW.refl ZmdI.refl B⟩
  cases inst with
  | noop => exact same Z hS (fun _ _ _ => rfl)
  | brz _ _ | brnz _ _ | mov _ | scan _ _ =>
    exact same [] (ZSound.nil _ _ _) (fun m j h => by simp [alGet] at h)
  | out o | inp o =>
    refine same (alErase Z o) (hS.erase o) (fun m j h => ?_)
    have := (alGet_alErase_some hS.nodup h).1
    simp [quiet, memOps, this]
  | copy d src =>
    simp only [NoMemZero, noMemZero, Bool.and_eq_true] at hnz
    obtain ⟨hd, hsrc⟩ := hnz
    -- a source that is looked up by `zeroSrc` (not an immediate)
    have viaSrc : zmdPair i B Z (.copy d src) =
          (blank (B.setIfInBounds i (.copy d (zeroSrc (dstErase Z d) src).1)) (zeroSrc (dstErase Z d) src).2.2,
            (zeroSrc (dstErase Z d) src).2.1) →
        InstsBehIO B (zmdPair i B Z (.copy d src)).1 ∧
          ZState tg i (zmdPair i B Z (.copy d src)).1 (if t then [] else (zmdPair i B Z (.copy d src)).2) ∧
          PW ZmdI B (zmdPair i B Z (.copy d src)).1 := by
      intro hform
      rw [hform]
      obtain ⟨zBeh, zGlob, zSnd, zAt, zKeys, zLow, _, zPw⟩ := zsrc_step hG (hS.dstErase d) (fun l => .copy d l) src hi hsrc (by
        intro m j hm hg
        subst hm
        exact FuseAt.copy d (dstErase_some hS.nodup hd hg).1)
      refine ⟨zBeh, ⟨zGlob, ?_, fun x ins hx h => hlow' x ins hx (by rw [← zLow x hx]; exact h)⟩, zPw⟩
      apply zSnd.lower zAt ht
      intro m j hg
      obtain ⟨ha, hb⟩ := zKeys m j hg
      exact quiet_copy (dstErase_some hS.nodup hd hb).1 ha
    cases src with
    | memZero o => simp [locNoZero] at hsrc
    | imm c =>
      -- a (possibly zeroing) constant copy: `zeroSrc` does nothing, the copy may be remembered
      have hform : zmdPair i B Z (.copy d (.imm c)) =
          (B, match d with
              | .mem md => if c = 0#w then alSet (alErase Z md) md i else alErase Z md
              | _ => Z) := by
        simp only [zmdPair, zeroSrc, blank_none, setIfInBounds_same B hi]
        cases d <;> rfl
      rw [hform]
      simp only
      refine ⟨InstsBehIO.refl B, ⟨hG, ?_, hlow'⟩, PW.refl ZmdI.refl B⟩
      cases t with
      | true => exact ZSound.nil _ _ _
      | false =>
        simp only [Bool.false_eq_true, if_false]
        cases d with
        | memZero o => simp [locNoZero] at hd
        | tmp x => exact hS.lower (t := false) hi ht (fun m j _ => by simp [quiet, memOps, locMem])
        | imm x => exact hS.lower (t := false) hi ht (fun m j _ => by simp [quiet, memOps, locMem])
        | mem md =>
          have hE := hS.erase md
          have hq : ∀ m j, alGet (alErase Z md) m = some j → quiet m (.copy (.mem md) (.imm c) : Instr w) = true := by
            intro m j h
            have := (alGet_alErase_some hS.nodup h).1
            simp [quiet, memOps, locMem, this]
          have hL := hE.lower (t := false) hi ht hq
          simp only [Bool.false_eq_true, if_false] at hL
          by_cases hc : c = 0#w
          · simp only [hc, if_true]
            subst hc
            refine ⟨(C02Emit.keys_alSet_nodup _ md i hL.nodup).1, ?_⟩
            intro m j hg
            by_cases hm : m = md
            · subst hm
              rw [C02Emit.alGet_alSet, if_pos rfl] at hg
              cases hg
              refine ⟨Nat.le_refl _, hi, fun x ins h1 h2 => by omega, fun x h1 h2 => ?_⟩
              have : x = i := by omega
              subst this; exact ht
            · rw [C02Emit.alGet_alSet, if_neg hm] at hg
              exact hL.sound m j hg
          · simp only [hc, if_false]
            exact hL
    | mem ms => exact viaSrc (by simp only [zmdPair]; cases d <;> rfl)
    | tmp ts => exact viaSrc (by simp only [zmdPair]; cases d <;> rfl)
  | add d s0 s1 => exact zmdPair_arith hG hS hlow' ht .add d s0 s1 hi hnz rfl
  | sub d s0 s1 => exact zmdPair_arith hG hS hlow' ht .sub d s0 s1 hi hnz rfl
  | mul d s0 s1 => exact zmdPair_arith hG hS hlow' ht .mul d s0 s1 hi hnz rfl

theorem zmdLoop_spec : ∀ (k : Nat) (s : St w) (Z : List (Int × Nat)), k ≤ s.insts.size →
    ZState s.isTarget k s.insts Z →
    ∃ s', zmdLoop k s Z = .ok s' ∧ InstsBehIO s.insts s'.insts ∧ s'.live = s.live ∧
      s'.isTarget = s.isTarget ∧ ZGlob s.isTarget s'.insts ∧ PW ZmdI s.insts s'.insts := by
  intro k
  induction k with
  | zero =>
    intro s Z _ hI
    exact ⟨s, rfl, InstsBehIO.refl _, rfl, rfl, hI.glob, PW.refl ZmdI.refl _⟩
  | succ i ih =>
    intro s Z hk hI
    have hilt : i < s.insts.size := by omega
    have hi : s.insts[i]? = some s.insts[i] := Array.getElem?_eq_getElem hilt
    have htlt : i < s.isTarget.size := by rw [hI.glob.tgsize]; omega
    have ht : s.isTarget[i]? = some s.isTarget[i] := Array.getElem?_eq_getElem htlt
    obtain ⟨hbeh, hI', hpw⟩ := zmdPair_spec hI hi ht
    have hstep : zmdStep i s Z = .ok ({ s with insts := (zmdPair i s.insts Z s.insts[i]).1 },
        if s.isTarget[i] then [] else (zmdPair i s.insts Z s.insts[i]).2) := by
      rw [zmdStep_eq]
      simp only [hi, ht]
    have hsz : (zmdPair i s.insts Z s.insts[i]).1.size = s.insts.size := by
      have h1 := hI'.glob.tgsize
      have h2 := hI.glob.tgsize
      omega
    obtain ⟨s', h1, h2, h3, h4, h5, h6⟩ := ih { s with insts := (zmdPair i s.insts Z s.insts[i]).1 }
      (if s.isTarget[i] then [] else (zmdPair i s.insts Z s.insts[i]).2)
      (by simp only [hsz]; omega) hI'
    refine ⟨s', ?_, hbeh.trans h2, h3, h4, h5, PW.trans (r := ZmdI) (fun _ _ _ => ZmdI.trans) hpw h6⟩
    rw [zmdLoop, hstep]
    exact h1

/-- Precondition of `zeroing_move_detection`: `is_target` as `record_branch_targets` leaves it
(`recordBranchTargets_ok`), and no `memZero` operand yet. -/
structure ZmdPre (s : St w) : Prop where
  glob : ZGlob s.isTarget s.insts
  noZero : ∀ ins ∈ s.insts, NoMemZero ins

/-- The whole pass, from the empty table: what `zmdLoop_spec` says of it. -/
theorem zmd_run {s : St w} (h : ZmdPre s) :
    ∃ s', zeroingMoveDetection s = .ok s' ∧ InstsBehIO s.insts s'.insts ∧ s'.live = s.live ∧
      s'.isTarget = s.isTarget ∧ ZGlob s.isTarget s'.insts ∧ PW ZmdI s.insts s'.insts :=
  zmdLoop_spec s.insts.size s [] (Nat.le_refl _)
    ⟨h.glob, ZSound.nil _ _ _, fun x ins _ hx => h.noZero ins (Array.mem_of_getElem? hx)⟩

/-- `zeroing_move_detection` preserves behaviour only up to `BehEqIO`: `zmd_stopped_tape_differs`. -/
theorem zeroingMoveDetection_preserves_of_pre (s : St w) (h : ZmdPre s) :
    ∃ s', zeroingMoveDetection s = .ok s' ∧ s'.live = s.live ∧ s'.isTarget = s.isTarget ∧
      s'.insts.size = s.insts.size ∧ TargetsOk s'.insts ∧
      ∀ (t : Nat) (mn mx : Int), BehEqIO (progOf s t mn mx) (progOf s' t mn mx) := by
  obtain ⟨s', h1, h2, h3, h4, h5, _⟩ := zmd_run h
  refine ⟨s', h1, h3, h4, ?_, h5.targets, fun t mn mx => h2 _ _ rfl rfl⟩
  have a := h5.tgsize
  have b := h.glob.tgsize
  omega

theorem zeroingMoveDetection_shape {s s' : St w} (h : ZmdPre s) (hz : zeroingMoveDetection s = .ok s') :
    PW ZmdI s.insts s'.insts := by
  obtain ⟨s'', h1, _, _, _, _, h6⟩ := zmd_run h
  rw [h1] at hz
  cases hz; exact h6

/-- The branches of the last `k` instructions land inside `[0, n]`. -/
def TargetsFrom (insts : Array (Instr w)) (k : Nat) : Prop :=
  ∀ (i : Nat) (ins : Instr w) (off : Int), insts.size - k ≤ i → insts[i]? = some ins → branchOff? ins = some off →
    0 ≤ (i : Int) + off ∧ (i : Int) + off ≤ insts.size

/-- `record_branch_targets` panics exactly on a branch that leaves `[0, n]`; otherwise it marks every target and
keeps the marks it was given. -/
theorem rbtLoop_char {insts : Array (Instr w)} :
    ∀ (k : Nat) (tg : Array Bool), k ≤ insts.size → tg.size = insts.size + 1 →
      (∀ tg', rbtLoop insts k tg = .ok tg' → TargetsFrom insts k ∧ tg'.size = insts.size + 1 ∧
        (∀ x : Nat, tg[x]? = some true → tg'[x]? = some true) ∧
        (∀ (i : Nat) (ins : Instr w) (off : Int), insts.size - k ≤ i → insts[i]? = some ins →
          branchOff? ins = some off → tg'[((i : Int) + off).toNat]? = some true)) ∧
      (TargetsFrom insts k → ∃ tg', rbtLoop insts k tg = .ok tg') := by
  intro k
  induction k with
  | zero =>
    intro tg _ hsz
    have h0 : ∀ (i : Nat) (ins : Instr w), insts.size - 0 ≤ i → insts[i]? = some ins → False :=
      fun i ins hi hins => by have := lt_of_getElem? hins; omega
    refine ⟨fun tg' h => ?_, fun _ => ⟨tg, rfl⟩⟩
    cases h
    exact ⟨fun i ins off hi hins _ => (h0 i ins hi hins).elim, hsz, fun _ h => h,
      fun i ins off hi hins _ => (h0 i ins hi hins).elim⟩
  | succ k ih =>
    intro tg hk hsz
    have hlt : insts.size - (k + 1) < insts.size := by omega
    have hi : insts[insts.size - (k + 1)]? = some insts[insts.size - (k + 1)] := Array.getElem?_eq_getElem hlt
    -- the instructions after this one are the last `k`
    have hrest : ∀ {P : Nat → Instr w → Int → Prop}, (∀ off, branchOff? insts[insts.size - (k + 1)] = some off →
          P (insts.size - (k + 1)) insts[insts.size - (k + 1)] off) →
        (∀ i ins off, insts.size - k ≤ i → insts[i]? = some ins → branchOff? ins = some off → P i ins off) →
        ∀ i ins off, insts.size - (k + 1) ≤ i → insts[i]? = some ins → branchOff? ins = some off → P i ins off := by
      intro P h0 h1 i ins off hge hins hb
      by_cases hie : i = insts.size - (k + 1)
      · subst hie; rw [hi] at hins; cases hins; exact h0 off hb
      · exact h1 i ins off (by omega) hins hb
    rw [rbtLoop]
    simp only [hi]
    cases hoff : branchOff? insts[insts.size - (k + 1)] with
    | none =>
      simp only
      obtain ⟨ih1, ih2⟩ := ih tg (by omega) hsz
      refine ⟨fun tg' h => ?_, fun hT => ih2 (fun i ins off hge => hT i ins off (by omega))⟩
      obtain ⟨h0, h2, h3, h4⟩ := ih1 tg' h
      exact ⟨hrest (fun off hb => by rw [hoff] at hb; cases hb) h0, h2, h3,
        hrest (fun off hb => by rw [hoff] at hb; cases hb) h4⟩
    | some off =>
      simp only
      cases ht : target "record_branch_targets:is_target-index" (insts.size - (k + 1)) off tg.size with
      | error e =>
        refine ⟨fun tg' h => (by cases h), fun hT => ?_⟩
        have hto := hT _ _ off (Nat.le_refl _) hi hoff
        rw [target_ok.2 ⟨hto.1, by omega, rfl⟩] at ht
        cases ht
      | ok t =>
        obtain ⟨t0, tlt, rfl⟩ := target_ok.1 ht
        simp only
        obtain ⟨ih1, ih2⟩ := ih (tg.setIfInBounds (((insts.size - (k + 1) : Nat) : Int) + off).toNat true)
          (by omega) (by rw [Array.size_setIfInBounds]; exact hsz)
        refine ⟨fun tg' h => ?_, fun hT => ih2 (fun i ins off hge => hT i ins off (by omega))⟩
        obtain ⟨h0, h2, h3, h4⟩ := ih1 tg' h
        have hset : (tg.setIfInBounds (((insts.size - (k + 1) : Nat) : Int) + off).toNat true)[
            (((insts.size - (k + 1) : Nat) : Int) + off).toNat]? = some true := by
          rw [Array.getElem?_setIfInBounds]; simp [tlt]
        refine ⟨hrest (fun off' hb => by rw [hoff] at hb; cases hb; exact ⟨t0, by omega⟩) h0, h2, ?_,
          hrest (fun off' hb => by rw [hoff] at hb; cases hb; exact h3 _ hset) h4⟩
        intro x hx
        apply h3
        rw [Array.getElem?_setIfInBounds]
        split
        · rename_i e
          subst e
          have := lt_of_getElem? hx
          simp [this]
        · exact hx

theorem targetsFrom_all {insts : Array (Instr w)} : TargetsFrom insts insts.size ↔ TargetsOk insts :=
  ⟨fun h i ins off hins hb => h i ins off (by omega) hins hb, fun h i ins off _ hins hb => h i ins off hins hb⟩

theorem recordBranchTargets_ok {s s1 : St w} (h : recordBranchTargets s = .ok s1) :
    TargetsOk s.insts ∧ ∃ tg, s1 = { s with isTarget := tg } ∧ ZGlob tg s.insts := by
  unfold recordBranchTargets at h
  cases hr : rbtLoop s.insts s.insts.size (Array.replicate (s.insts.size + 1) false) with
  | error e => simp only [hr] at h; cases h
  | ok tg =>
    simp only [hr, Except.ok.injEq] at h
    obtain ⟨h0, h2, -, h4⟩ := (rbtLoop_char s.insts.size _ (Nat.le_refl _) (by simp)).1 tg hr
    have hT := targetsFrom_all.1 h0
    exact ⟨hT, tg, h.symm, h2, hT, fun i ins off hi hoff => h4 i ins off (by omega) hi hoff⟩

theorem recordBranchTargets_spec (s : St w) (hT : TargetsOk s.insts) :
    ∃ tg, recordBranchTargets s = .ok { s with isTarget := tg } ∧ ZGlob tg s.insts := by
  obtain ⟨tg, h1⟩ := (rbtLoop_char s.insts.size (Array.replicate (s.insts.size + 1) false) (Nat.le_refl _)
    (by simp)).2 (targetsFrom_all.2 hT)
  have hs : recordBranchTargets s = .ok { s with isTarget := tg } := by
    unfold recordBranchTargets
    simp only [h1]
  obtain ⟨_, tg', e, hG⟩ := recordBranchTargets_ok hs
  cases e
  exact ⟨tg, hs, hG⟩

theorem zeroingMoveDetection_preserves (s s1 : St w) (hr : recordBranchTargets s = .ok s1)
    (hz : ∀ ins ∈ s.insts, NoMemZero ins) :
    ∃ s', zeroingMoveDetection s1 = .ok s' ∧ s'.live = s.live ∧ s'.insts.size = s.insts.size ∧
      TargetsOk s'.insts ∧ ∀ (t : Nat) (mn mx : Int), BehEqIO (progOf s t mn mx) (progOf s' t mn mx) := by
  obtain ⟨_, tg, rfl, hG⟩ := recordBranchTargets_ok hr
  obtain ⟨s', h1, h2, _, h4, h5, h6⟩ := zeroingMoveDetection_preserves_of_pre { s with isTarget := tg } ⟨hG, hz⟩
  exact ⟨s', h1, h2, h4, h5, h6⟩

def zmdInsts (s : St w) : Option (Array (Instr w)) :=
  match recordBranchTargets s with
  | .ok s1 => (zeroingMoveDetection s1).toOption.map (·.insts)
  | .error _ => none

/-- Non-vacuity: both sources and a copy are fused; the loop head (a branch target) keeps its zeroing copy. -/
def exZmd : St 8 :=
  { insts := #[.brz 0 5, .add (.mem 2) (.mem 0) (.mem 1), .copy (.mem 0) (.imm 0#8), .copy (.mem 1) (.imm 0#8),
               .brnz 2 (-3), .copy (.mem 3) (.mem 2), .copy (.mem 2) (.imm 0#8)],
    live := #[0, 0, 0, 0, 0, 0, 0] }

example : zmdInsts exZmd =
    some #[.brz 0 5, .add (.mem 2) (.memZero 0) (.memZero 1), .noop, .noop,
           .brnz 2 (-3), .copy (.mem 3) (.memZero 2), .noop] := by decide +kernel

example : ∀ ins ∈ exZmd.insts, NoMemZero ins := by decide +kernel

/-- Counterexample 1 (why ZMD only satisfies `BehEqIO`, not `BehEq`): an I/O operation on ANOTHER cell may sit
between the fused read and the blanked zeroing copy; if it fails, the run stops with cell 0 already cleared. -/
def exStop : St 8 :=
  { insts := #[.copy (.mem 0) (.imm 7#8), .copy (.mem 1) (.mem 0), .out 1, .copy (.mem 0) (.imm 0#8)],
    live := #[0, 0, 0, 0] }
def exStopFused : Array (Instr 8) :=
  #[.copy (.mem 0) (.imm 7#8), .copy (.mem 1) (.memZero 0), .out 1, .noop]
def envRefuse : Env := { input := none, sink := true, outOk := some 0 }

theorem zmd_stopped_tape_differs :
    zmdInsts exStop = some exStopFused ∧
    (let o1 := Bc.run (progOf exStop 0 0 1) false 0 10 envRefuse
     let o2 := Bc.run ({ temps := 0, minAcc := 0, maxAcc := 1, live := exStop.live, insts := exStopFused } : Program 8)
        false 0 10 envRefuse
     o1.tag = 1 ∧ o2.tag = 1 ∧ o1.cfg.st.trace = [Ev.outFail 7] ∧ o2.cfg.st.trace = [Ev.outFail 7] ∧
     o1.cfg.st.tape.get 0 = 7#8 ∧ o2.cfg.st.tape.get 0 = 0#8) := by decide +kernel

/-- Counterexample 2 (necessity of the branch-target guard): if index 3 is NOT marked as a target, the pass
fuses across the join point; the taken branch then skips the read-and-clear AND finds the zeroing copy gone:
the program prints 7 instead of 0. -/
def exJoin : St 8 :=
  { insts := #[.copy (.mem 0) (.imm 7#8), .brnz 0 2, .copy (.mem 1) (.mem 0), .copy (.mem 0) (.imm 0#8), .out 0],
    live := #[0, 0, 0, 0, 0] }
def exJoinBad : Array (Instr 8) :=
  #[.copy (.mem 0) (.imm 7#8), .brnz 0 2, .copy (.mem 1) (.memZero 0), .noop, .out 0]
def envSink : Env := { input := none, sink := true, outOk := none }

theorem zmd_target_guard_necessary :
    -- with the targets recorded nothing is fused …
    zmdInsts exJoin = some exJoin.insts ∧
    -- … with an `is_target` that misses index 3 the pass fuses …
    (zeroingMoveDetection { exJoin with isTarget := Array.replicate 6 false }).toOption.map (·.insts)
      = some exJoinBad ∧
    -- … and the result prints a different byte.
    (Bc.run (progOf exJoin 0 0 1) false 0 10 envSink).cfg.st.trace = [Ev.out 0] ∧
    (Bc.run ({ temps := 0, minAcc := 0, maxAcc := 1, live := exJoin.live, insts := exJoinBad } : Program 8)
      false 0 10 envSink).cfg.st.trace = [Ev.out 7] := by decide +kernel

end C02
end Hpbf
