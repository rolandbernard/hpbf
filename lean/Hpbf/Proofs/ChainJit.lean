/-
Chain: canonical Brainfuck semantics vs. the machine code of the x86-64 baseline JIT (`translate` →
`JitGen.compileX86`, run by the program-level machine `X86Prog`), by composing an agreement `BcAgrees prog p env`
with `C03.prog_run`; at the end the instances for optimisation level 0 (`bytecode_level0`).

`JitHyps` bundles the explicit hypotheses of `C03.prog_run` (they are NOT discharged here): compilation
succeeds (no `scan`: the JIT calls `translate(&program, 11, false)`, `/repo/src/exec/basejit/mod.rs:137`), code < 2^31 bytes, three distinct runtime addresses, the
contract checker accepts `p` with 11 registers, access window / temporaries / `mov` shifts inside `i32`, stack
alignment at entry, budget < 2^64, not (limited with budget 0), and – for bounds-checked code – no allocation
beyond 2^40 cells in any reached state.

NOT stated here: "the function returns ⇒ the canonical run terminates" in unlimited mode.  `prog_run` matches
every unfinished bytecode run with SOME machine state reached by `.next` steps, without a lower bound on the
number of machine steps, so a divergent bytecode run is not shown to keep the machine from returning
(that is `C03.conv_run`, used in `Proofs/ChainFinal2.lean`).
-/
import Hpbf.Proofs.ChainLevel0
import Hpbf.Props.C03Flow
import Hpbf.Proofs.C03ConvRun

namespace Hpbf
namespace Chain

open Asm JitGen X86Sem X86Prog C03 BcGen

variable {w : Nat}

theorem x86_ret_unique (cfg : X86Prog.Cfg) {n1 n2 : Nat} {s a b : PState w}
    (h1 : X86Prog.run cfg n1 s = .ret a) (h2 : X86Prog.run cfg n2 s = .ret b) : a = b :=
  C03.run_ret_unique h1 h2

structure JitHyps (p : Bc.Program w) (limited safe : Bool) (cfg : X86Prog.Cfg) (code : List X86)
    (buf0 rsp0 ra : BitVec 64) (budget : Nat) (env : Env) : Prop where
  comp : compileX86 w p limited safe cfg.aE.toNat cfg.aI.toNat cfg.aO.toNat = some code
  fetch : cfg.fetch = fetchFast (fetchTable code)
  small : sizeAll code < 2 ^ 31
  addrIO : cfg.aI ≠ cfg.aO
  addrEI : cfg.aE ≠ cfg.aI
  addrEO : cfg.aE ≠ cfg.aO
  check : BcWf.check p 11 = true
  win : -2147483648 < p.minAcc ∧ p.maxAcc < 2147483648
  temps : alignedTemps p.temps * 8 < 2147483648
  shift : ∀ (i : Nat) (sh : Int), p.insts[i]? = some (Bc.Instr.mov sh) → -2147483648 ≤ sh ∧ sh < 2147483648
  rsp : rsp0.toNat % 16 = 8
  budgetLt : budget < 2 ^ 64
  lim : (limited && budget == 0) = false
  noOOM : safe = true → ∀ n s',
    steps cfg n (initState (w := w) cfg buf0 rsp0 ra p.minAcc p.maxAcc budget env) = some s' → Bnd s'

/-- No instruction of `p` is a `mov` (so the `shift` hypothesis is void), as a check that evaluates. -/
def noMov (p : Bc.Program w) : Bool := p.insts.all (fun x => match x with | .mov _ => false | _ => true)

theorem no_mov_of_all {p : Bc.Program w} (h : noMov p = true) (i : Nat) (sh : Int) :
    p.insts[i]? ≠ some (Bc.Instr.mov sh) :=
  fun hi => absurd (Array.all_eq_true_iff_forall_mem.1 h _ (Array.mem_of_getElem? hi)) Bool.false_ne_true

section Jit
variable {p : Bc.Program w} {limited safe : Bool} {cfg : X86Prog.Cfg} {code : List X86}
  {buf0 rsp0 ra : BitVec 64} {budget : Nat} {env : Env}

/-- `C03.prog_run` in elementary terms: what the compiled function does, given the outcome of the bytecode run
(`s0` is the state in which `enter_jit_code` calls the function). -/
theorem jit_of_bc (H : JitHyps p limited safe cfg code buf0 rsp0 ra budget env) (fuel : Nat) :
    let s0 : PState w := initState cfg buf0 rsp0 ra p.minAcc p.maxAcc budget env
    match Bc.run p limited budget fuel env with
    | .done c' => ∃ n s', X86Prog.run cfg n s0 = .ret s' ∧ s'.regs.rax = 1 ∧ s'.trace = c'.st.trace ∧
        s'.env = c'.st.env ∧ (∀ o, s'.tape.get (s'.lptr + o) = c'.st.rd o) ∧ s'.budget.toNat = c'.budget
    | .stopped c' => ∃ n s', X86Prog.run cfg n s0 = .ret s' ∧ s'.regs.rax = 0 ∧ s'.trace = c'.st.trace ∧
        s'.env = c'.st.env ∧ s'.budget.toNat = c'.budget
    | .interrupted c' => ∃ n s', X86Prog.run cfg n s0 = .ret s' ∧ s'.regs.rax = 0 ∧ s'.trace = c'.st.trace ∧
        s'.env = c'.st.env ∧ (∀ o, s'.tape.get (s'.lptr + o) = c'.st.rd o)
    | .bad _ => False
    | .outOfFuel c' => ∃ n s', steps cfg n s0 = some s' ∧ s'.trace = c'.st.trace ∧ s'.env = c'.st.env := by
  intro s0
  obtain ⟨K, _, hcfg, _, hrun⟩ := prog_run p limited safe cfg H.comp H.fetch H.small H.addrIO H.addrEI H.addrEO
    H.check H.win H.temps H.shift buf0 rsp0 ra H.rsp budget H.budgetLt H.lim env H.noOOM fuel
  simp only at hrun
  cases hr : Bc.run p limited budget fuel env with
  | done c' =>
    rw [hr] at hrun
    -- `C03.Returns` is stable under more fuel (`∀ k, ∃ n, run cfg (n + k) …`); `k = 0` is all that is wanted here
    obtain ⟨n, s', h1, h2, h3, h4⟩ := hrun 0
    rw [hcfg] at h1
    exact ⟨n + 0, s', h1, h2, h3.trace, h3.env, h3.tape, h4⟩
  | stopped c' =>
    rw [hr] at hrun
    obtain ⟨n, s', h1, h2, h3, h4⟩ := hrun 0
    rw [hcfg] at h1
    exact ⟨n + 0, s', h1, h2, h3.trace, h3.env, h4⟩
  | interrupted c' =>
    rw [hr] at hrun
    obtain ⟨n, s', h1, h2, h3, _⟩ := hrun 0
    rw [hcfg] at h1
    exact ⟨n + 0, s', h1, h2, h3.trace, h3.env, h3.tape⟩
  | bad c' => rw [hr] at hrun; exact hrun
  | outOfFuel c' => rw [hr] at hrun; exact hrun

end Jit

section Agrees
variable {prog : Prog} {p : Bc.Program w} {env : Env} (A : BcAgrees prog p env)
  {safe : Bool} {cfg : X86Prog.Cfg} {code : List X86} {buf0 rsp0 ra : BitVec 64}
include A

/-- **Forward.** A terminating canonical run is reproduced by the machine code: the function returns 1 (ran off
the end) resp. 0 (stopped at a failing I/O operation) with exactly the canonical events. -/
theorem jit_forward_of_agrees (H : JitHyps p false safe cfg code buf0 rsp0 ra 0 env) :
    let s0 : PState w := initState cfg buf0 rsp0 ra p.minAcc p.maxAcc 0 env
    (∀ f (s : State w), Bf.run f prog env = .done s →
      ∃ n s', X86Prog.run cfg n s0 = .ret s' ∧ s'.regs.rax = 1 ∧ s'.trace = s.trace) ∧
    (∀ f (s : State w), Bf.run f prog env = .stopped s →
      ∃ n s', X86Prog.run cfg n s0 = .ret s' ∧ s'.regs.rax = 0 ∧ s'.trace = s.trace) := by
  intro s0
  constructor
  · intro f s hs
    obtain ⟨f', c', hc', htr⟩ := A.done hs
    have := jit_of_bc H f'
    simp only [hc'] at this
    obtain ⟨n, s', h1, h2, h3, _⟩ := this
    exact ⟨n, s', h1, h2, h3.trans htr⟩
  · intro f s hs
    obtain ⟨f', c', hc', htr⟩ := A.stopped hs
    have := jit_of_bc H f'
    simp only [hc'] at this
    obtain ⟨n, s', h1, h2, h3, _⟩ := this
    exact ⟨n, s', h1, h2, h3.trans htr⟩

/-- **Uniqueness.** If the canonical run terminates, every return of the function is the one above. -/
theorem jit_unique_of_agrees (H : JitHyps p false safe cfg code buf0 rsp0 ra 0 env) :
    let s0 : PState w := initState cfg buf0 rsp0 ra p.minAcc p.maxAcc 0 env
    (∀ f (s : State w), Bf.run f prog env = .done s →
      ∀ n s', X86Prog.run cfg n s0 = .ret s' → s'.regs.rax = 1 ∧ s'.trace = s.trace) ∧
    (∀ f (s : State w), Bf.run f prog env = .stopped s →
      ∀ n s', X86Prog.run cfg n s0 = .ret s' → s'.regs.rax = 0 ∧ s'.trace = s.trace) := by
  intro s0
  have F := jit_forward_of_agrees A H
  constructor
  · intro f s hs n s' hr
    obtain ⟨n1, s1, h1, h2, h3⟩ := F.1 f s hs
    have := x86_ret_unique cfg hr h1
    subst this
    exact ⟨h2, h3⟩
  · intro f s hs n s' hr
    obtain ⟨n1, s1, h1, h2, h3⟩ := F.2 f s hs
    have := x86_ret_unique cfg hr h1
    subst this
    exact ⟨h2, h3⟩

/-- **Prefix.** Every canonical event prefix is the trace of a state the machine reaches (by `.next` steps, or
by returning). -/
theorem jit_prefix_of_agrees (H : JitHyps p false safe cfg code buf0 rsp0 ra 0 env) :
    let s0 : PState w := initState cfg buf0 rsp0 ra p.minAcc p.maxAcc 0 env
    ∀ f, ∃ n s', (steps cfg n s0 = some s' ∨ X86Prog.run cfg n s0 = .ret s') ∧
      s'.trace = C01.traceOfBf (Bf.run (w := w) f prog env) := by
  intro s0 f
  obtain ⟨f', hf'⟩ := A.trace f
  have := jit_of_bc H f'
  cases hr : Bc.run p false 0 f' env with
  | done c' =>
    simp only [hr] at this
    obtain ⟨n, s', h1, _, h3, _⟩ := this
    exact ⟨n, s', Or.inr h1, by rw [← hf', hr]; exact h3⟩
  | stopped c' =>
    simp only [hr] at this
    obtain ⟨n, s', h1, _, h3, _⟩ := this
    exact ⟨n, s', Or.inr h1, by rw [← hf', hr]; exact h3⟩
  | interrupted c' =>
    simp only [hr] at this
    obtain ⟨n, s', h1, _, h3, _⟩ := this
    exact ⟨n, s', Or.inr h1, by rw [← hf', hr]; exact h3⟩
  | bad c' => simp only [hr] at this
  | outOfFuel c' =>
    simp only [hr] at this
    obtain ⟨n, s', h1, h3, _⟩ := this
    exact ⟨n, s', Or.inl h1, by rw [← hf', hr]; exact h3⟩

/-- **Divergence.** For a canonically divergent program the machine reaches, by `.next` steps only, states
carrying every canonical event prefix (the bytecode run never finishes, `bc_runs_forever`). -/
theorem jit_divergent_of_agrees (H : JitHyps p false safe cfg code buf0 rsp0 ra 0 env)
    (hdiv : C05.BfDiverges w prog env) :
    let s0 : PState w := initState cfg buf0 rsp0 ra p.minAcc p.maxAcc 0 env
    ∀ f, ∃ n s', steps cfg n s0 = some s' ∧ s'.trace = C01.traceOfBf (Bf.run (w := w) f prog env) := by
  intro s0 f
  obtain ⟨f', hf'⟩ := A.trace f
  obtain ⟨c', hr⟩ := bc_runs_forever A hdiv
    (fun l b f c => C11.check_run_not_bad H.check l b f env c) f'
  have := jit_of_bc H f'
  simp only [hr] at this
  obtain ⟨n, s', h1, h3, _⟩ := this
  exact ⟨n, s', h1, by rw [← hf', hr]; exact h3⟩

/-- **Limited mode.** With any budget `b ≠ 0` (`JitHyps.lim`) the function returns; the return is unique; the
result is 0 or 1; result 1 means: the canonical run terminates by running off the end and the events are its
complete event sequence; in every case the events are an initial part of the canonical event sequence. -/
theorem jit_limited_of_agrees {b : Nat} (H : JitHyps p true safe cfg code buf0 rsp0 ra b env) :
    let s0 : PState w := initState cfg buf0 rsp0 ra p.minAcc p.maxAcc b env
    ∃ n s', X86Prog.run cfg n s0 = .ret s' ∧
      (∀ n2 s2, X86Prog.run cfg n2 s0 = .ret s2 → s2 = s') ∧
      (s'.regs.rax = 1 ∨ s'.regs.rax = 0) ∧
      (s'.regs.rax = 1 → ∃ (f : Nat) (s : State w), Bf.run f prog env = .done s ∧ s.trace = s'.trace) ∧
      (∃ f, ∀ g, f ≤ g → s'.trace <:+ C01.traceOfBf (Bf.run (w := w) g prog env)) := by
  intro s0
  obtain ⟨f', hf'⟩ := C07.bc_limited_terminates p env b
  obtain ⟨f0, hpre⟩ := bc_limited_is_prefix A b f'
  have h01 : ¬ ((0 : BitVec 64) = 1) := by decide
  -- the function returns with the events of the (finished) bytecode run; uniqueness and the prefix follow
  obtain ⟨n, s', h1, h2, h4, h3⟩ : ∃ n s', X86Prog.run cfg n s0 = .ret s' ∧
      (s'.regs.rax = 1 ∨ s'.regs.rax = 0) ∧
      (s'.regs.rax = 1 → ∃ (f : Nat) (s : State w), Bf.run f prog env = .done s ∧ s.trace = s'.trace) ∧
      s'.trace = C07.traceOfBc (Bc.run p true b f' env) := by
    have := jit_of_bc H f'
    cases hr : Bc.run p true b f' env with
    | done c' =>
      simp only [hr] at this
      obtain ⟨n, s', h1, h2, h3, _⟩ := this
      obtain ⟨f, s, hs, hst⟩ := (bc_limited_finished A).1 b f' c' hr
      exact ⟨n, s', h1, Or.inl h2, fun _ => ⟨f, s, hs, by rw [hst, h3]⟩, h3⟩
    | stopped c' =>
      simp only [hr] at this
      obtain ⟨n, s', h1, h2, h3, _⟩ := this
      exact ⟨n, s', h1, Or.inr h2, fun h => absurd (h2.symm.trans h) h01, h3⟩
    | interrupted c' =>
      simp only [hr] at this
      obtain ⟨n, s', h1, h2, h3, _⟩ := this
      exact ⟨n, s', h1, Or.inr h2, fun h => absurd (h2.symm.trans h) h01, h3⟩
    | bad c' => simp only [hr] at this
    | outOfFuel c' => exact (hf' c' hr).elim
  exact ⟨n, s', h1, fun n2 s2 h => x86_ret_unique cfg h h1, h2, h4, f0, fun g hg => by rw [h3]; exact hpre g hg⟩

/-- **Limited mode, enough budget.** If the canonical run terminates, there is a bound `g` such that with every
budget `b ≥ g` (for which the hypotheses hold) the function returns 1 resp. 0 with the complete canonical event
sequence. -/
theorem jit_limited_enough_of_agrees :
    (∀ f (s : State w), Bf.run f prog env = .done s → ∃ g, ∀ b, g ≤ b →
      JitHyps p true safe cfg code buf0 rsp0 ra b env →
      ∃ n s', X86Prog.run cfg n (initState (w := w) cfg buf0 rsp0 ra p.minAcc p.maxAcc b env) = .ret s' ∧
        s'.regs.rax = 1 ∧ s'.trace = s.trace) ∧
    (∀ f (s : State w), Bf.run f prog env = .stopped s → ∃ g, ∀ b, g ≤ b →
      JitHyps p true safe cfg code buf0 rsp0 ra b env →
      ∃ n s', X86Prog.run cfg n (initState (w := w) cfg buf0 rsp0 ra p.minAcc p.maxAcc b env) = .ret s' ∧
        s'.regs.rax = 0 ∧ s'.trace = s.trace) := by
  constructor
  · intro f s hs
    obtain ⟨g, hg⟩ := (bc_limited_enough A).1 f s hs
    refine ⟨g, fun b hgb H => ?_⟩
    obtain ⟨f', c', hc', htr⟩ := hg b hgb
    have := jit_of_bc H f'
    simp only [hc'] at this
    obtain ⟨n, s', h1, h2, h3, _⟩ := this
    exact ⟨n, s', h1, h2, h3.trans htr⟩
  · intro f s hs
    obtain ⟨g, hg⟩ := (bc_limited_enough A).2 f s hs
    refine ⟨g, fun b hgb H => ?_⟩
    obtain ⟨f', c', hc', htr⟩ := hg b hgb
    have := jit_of_bc H f'
    simp only [hc'] at this
    obtain ⟨n, s', h1, h2, h3, _⟩ := this
    exact ⟨n, s', h1, h2, h3.trans htr⟩

end Agrees

section Level0
variable (hw : 0 < w) {src : List Kind} {prog : Prog} (hp : Bf.tree src = some prog)
  {blk : Ir.Block w} (hb : Ir.parse (w := w) src = .ok blk)
  {numRegs : Nat} {fuse : Bool} {p : Bc.Program w} (ht : translateE blk numRegs fuse = .ok p)
  {safe : Bool} {cfg : X86Prog.Cfg} {code : List X86} {buf0 rsp0 ra : BitVec 64} (env : Env)
include hw hp hb ht

theorem jit_level0_forward (H : JitHyps p false safe cfg code buf0 rsp0 ra 0 env) :
    let s0 : PState w := initState cfg buf0 rsp0 ra p.minAcc p.maxAcc 0 env
    (∀ f (s : State w), Bf.run f prog env = .done s →
      ∃ n s', X86Prog.run cfg n s0 = .ret s' ∧ s'.regs.rax = 1 ∧ s'.trace = s.trace) ∧
    (∀ f (s : State w), Bf.run f prog env = .stopped s →
      ∃ n s', X86Prog.run cfg n s0 = .ret s' ∧ s'.regs.rax = 0 ∧ s'.trace = s.trace) :=
  jit_forward_of_agrees (bytecode_level0 hw hp hb ht env) H

theorem jit_level0_unique (H : JitHyps p false safe cfg code buf0 rsp0 ra 0 env) :
    let s0 : PState w := initState cfg buf0 rsp0 ra p.minAcc p.maxAcc 0 env
    (∀ f (s : State w), Bf.run f prog env = .done s →
      ∀ n s', X86Prog.run cfg n s0 = .ret s' → s'.regs.rax = 1 ∧ s'.trace = s.trace) ∧
    (∀ f (s : State w), Bf.run f prog env = .stopped s →
      ∀ n s', X86Prog.run cfg n s0 = .ret s' → s'.regs.rax = 0 ∧ s'.trace = s.trace) :=
  jit_unique_of_agrees (bytecode_level0 hw hp hb ht env) H

theorem jit_level0_prefix (H : JitHyps p false safe cfg code buf0 rsp0 ra 0 env) :
    let s0 : PState w := initState cfg buf0 rsp0 ra p.minAcc p.maxAcc 0 env
    ∀ f, ∃ n s', (steps cfg n s0 = some s' ∨ X86Prog.run cfg n s0 = .ret s') ∧
      s'.trace = C01.traceOfBf (Bf.run (w := w) f prog env) :=
  jit_prefix_of_agrees (bytecode_level0 hw hp hb ht env) H

theorem jit_level0_divergent (H : JitHyps p false safe cfg code buf0 rsp0 ra 0 env)
    (hdiv : C05.BfDiverges w prog env) :
    let s0 : PState w := initState cfg buf0 rsp0 ra p.minAcc p.maxAcc 0 env
    ∀ f, ∃ n s', steps cfg n s0 = some s' ∧ s'.trace = C01.traceOfBf (Bf.run (w := w) f prog env) :=
  jit_divergent_of_agrees (bytecode_level0 hw hp hb ht env) H hdiv

theorem jit_level0_limited {b : Nat} (H : JitHyps p true safe cfg code buf0 rsp0 ra b env) :
    let s0 : PState w := initState cfg buf0 rsp0 ra p.minAcc p.maxAcc b env
    ∃ n s', X86Prog.run cfg n s0 = .ret s' ∧
      (∀ n2 s2, X86Prog.run cfg n2 s0 = .ret s2 → s2 = s') ∧
      (s'.regs.rax = 1 ∨ s'.regs.rax = 0) ∧
      (s'.regs.rax = 1 → ∃ (f : Nat) (s : State w), Bf.run f prog env = .done s ∧ s.trace = s'.trace) ∧
      (∃ f, ∀ g, f ≤ g → s'.trace <:+ C01.traceOfBf (Bf.run (w := w) g prog env)) :=
  jit_limited_of_agrees (bytecode_level0 hw hp hb ht env) H

theorem jit_level0_limited_enough :
    (∀ f (s : State w), Bf.run f prog env = .done s → ∃ g, ∀ b, g ≤ b →
      JitHyps p true safe cfg code buf0 rsp0 ra b env →
      ∃ n s', X86Prog.run cfg n (initState (w := w) cfg buf0 rsp0 ra p.minAcc p.maxAcc b env) = .ret s' ∧
        s'.regs.rax = 1 ∧ s'.trace = s.trace) ∧
    (∀ f (s : State w), Bf.run f prog env = .stopped s → ∃ g, ∀ b, g ≤ b →
      JitHyps p true safe cfg code buf0 rsp0 ra b env →
      ∃ n s', X86Prog.run cfg n (initState (w := w) cfg buf0 rsp0 ra p.minAcc p.maxAcc b env) = .ret s' ∧
        s'.regs.rax = 0 ∧ s'.trace = s.trace) :=
  jit_limited_enough_of_agrees (bytecode_level0 hw hp hb ht env)

end Level0

end Chain
end Hpbf
