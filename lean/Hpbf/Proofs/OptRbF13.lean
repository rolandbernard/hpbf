/-
FINDING F13 (a miscompile of `Program::optimize` at levels 2 and 3, found through the proof of the rebuild rounds;
confirmed on the real binary from Brainfuck source), on record as kernel-checked facts
about the model `Hpbf/Opt.lean`.

MECHANISM.  Cells `c=0 a=1 b=2 x=3 z=4 y=5 q=6 d=7 w=8 t=9`.  The top state knows `x = 5`, `a = b = 2`.
Round 1 (no previous analysis) on the loop `L = loop x0 { … }`:
* the last store to `x` in the body of `L`, `x3 := 1 + x1 + x2`, is emitted only because of the EXPLOSION CHECK of
  `perform_all` (the following calculation multiplies `x3`); nothing reads it afterwards;
* `x6 := 1 + x3`, pending at the end of the body, puts `x3` among the variables `constants_among` looks at; the
  parent's `compare (var x3) (1 + x1 + x2)` succeeds, so `x3` is "constant": it is NOT in `clobbered` of the node of `L`;
  `x6 := 1 + x3` is then moved behind the loop as `x6 := 6`;
* `x3` is not in `reads` of the node either: the nested loop `L0` (surely entered) writes it first.
The claim of the node ("`x3` has its loop-entry value at every head of `L`") is TRUE for round 1's own output
(`f13_check_before_dse`).  Dead store elimination then deletes the explosion store (last store, unread, not in `reads`,
dead behind the loop), after which the claim is FALSE (`f13_check_after_dse`: at the second head `x3 = 7`), while the
program still behaves like the source (`f13_dse_trace`).  Round 2 trusts the stale node: the store `x3 := 1 + x1 + x2`
inside `L0`, pending and complete at the end of `L0`'s body, is compared with `var x3` THROUGH the node of `L`
(`can_ask_parent_for`: not clobbered), the top state answers `5`, the store is judged constant and dropped, and the
`out x3` behind `L0` prints the stale `7` in the second round of `L` (`f13_miscompile'` in `Hpbf/Props/C01Full.lean`).
-/
import Hpbf.Proofs.OptRbEx
import Hpbf.OptCheck
import Hpbf.OptFix
import Hpbf.BcGen

namespace Hpbf
namespace OptProof
namespace F13
open Opt Ir

/-- The IR-level witness (canonical right-hand sides). -/
def f13Src : Block 8 :=
  { shift := 0,
    insts := [
      .calc [(1, [⟨2#8, []⟩])], .calc [(2, [⟨2#8, []⟩])], .calc [(3, [⟨5#8, []⟩])],
      .output 3, .input 4, .input 0,
      .loop 0 0 [
        .calc [(7, [⟨3#8, []⟩])],
        .loop 7 0 [
          .calc [(3, [⟨1#8, []⟩, ⟨1#8, [1]⟩, ⟨1#8, [2]⟩])],
          .calc [(9, [⟨1#8, [3, 4]⟩, ⟨1#8, [9]⟩])],
          .calc [(9, [])],
          .output 8,
          .calc [(7, [⟨0xff#8, []⟩, ⟨1#8, [7]⟩])]] false,
        .output 3,
        .calc [(3, [⟨7#8, []⟩])],
        .output 3,
        .calc [(3, [⟨1#8, []⟩, ⟨1#8, [1]⟩, ⟨1#8, [2]⟩])],
        .calc [(5, [⟨1#8, [3, 4]⟩, ⟨1#8, [5]⟩])],
        .calc [(5, [])],
        .calc [(6, [⟨1#8, []⟩, ⟨1#8, [3]⟩])],
        .calc [(0, [⟨0xff#8, []⟩, ⟨1#8, [0]⟩])]] false] }

/-- What `optimize` makes of it at level 2 (no oracle entries are needed). -/
def f13Out : Block 8 :=
  { shift := 0,
    insts := [
      .calc [(3, [⟨5#8, []⟩])], .output 3, .input 4, .input 0,
      .ifnz 0 0 [
        .loop 0 0 [
          .calc [(7, [⟨3#8, []⟩])],
          .loop 7 0 [.output 8, .calc [(7, [⟨0xff#8, []⟩, ⟨1#8, [7]⟩])]] true,
          .output 3,
          .calc [(3, [⟨7#8, []⟩])],
          .output 3,
          .calc [(0, [⟨0xff#8, []⟩, ⟨1#8, [0]⟩])]] false]] }

def f13Orders : Orders := []

/-- Input: `z = 3`, `c = 2` (two rounds of the outer loop). -/
def f13Env : Env := { input := some [.byte 3, .byte 2], sink := true, outOk := none }

/-- The events of a run that ends regularly. -/
def doneTrace {w : Nat} : Outcome w → Option (List Ev)
  | .done c => some c.st.trace
  | _ => none

theorem doneTrace_some {w : Nat} {o : Outcome w} {t : List Ev} (h : doneTrace o = some t) :
    ∃ c, o = .done c ∧ c.st.trace = t := by
  cases o with
  | done c => exact ⟨c, rfl, by simpa [doneTrace] using h⟩
  | stopped c => cases h
  | interrupted c => cases h
  | outOfFuel c => cases h

/-- The events of the source (most recent first): `5`; per round of `L`: `0 0 0 5 7`. -/
def srcTrace : List Ev :=
  [.out 7, .out 5, .out 0, .out 0, .out 0, .out 7, .out 5, .out 0, .out 0, .out 0, .inp 2, .inp 3, .out 5]

/-- The events of the optimized program: in the second round `out x3` prints `7`. -/
def outTrace : List Ev :=
  [.out 7, .out 7, .out 0, .out 0, .out 0, .out 7, .out 5, .out 0, .out 0, .out 0, .inp 2, .inp 3, .out 5]

section
variable {N : Nat} {b : Block 8} {env : Env} {tS tO : List Ev}
  {extra : Block 8 → OptAnalysis 8 → Block 8 → Block 8 → Bool}

/-- The level-2 pipeline on `b` with the empty oracle, cut at its steps: round 1 gives `(p, a)`, dead store elimination
`p'`, round 2 `p2`.  `b` prints `tS` and `p2` prints `tO` within `N` steps, the analysis `a` fails the test on `p'`, and
`extra p a p' p2` holds. -/
def witness (N : Nat) (b : Block 8) (env : Env) (tS tO : List Ev)
    (extra : Block 8 → OptAnalysis 8 → Block 8 → Block 8 → Bool) : Bool :=
  match (optimizeOnce b (topAnalysis [] [])).run [] with
  | .ok ((p, a), []) =>
    (match deadStoreElimination p a with
     | .ok p' =>
       (match (optimizeOnce p' a).run [] with
        | .ok ((p2, _), []) =>
          doneTrace (Ir.run b false 0 N env) == some tS && doneTrace (Ir.run p2 false 0 N env) == some tO &&
            !OptCheck.checkAnalIn N p' a env && extra p a p' p2
        | _ => false)
     | _ => false)
  | _ => false

/-- What a witness says about `optimize` at level 2 and about the test of the all-levels theorems (which fails as soon
as round 1's analysis fails on the program round 2 starts from). -/
theorem witness_spec (h : witness N b env tS tO extra = true) :
    ∃ p a p' p2, (optimizeOnce b (topAnalysis [] [])).run [] = .ok ((p, a), []) ∧
      deadStoreElimination p a = .ok p' ∧ OptCheck.checkAnalIn N p' a env = false ∧ extra p a p' p2 = true ∧
      Opt.optimize b 2 [] = .ok p2 ∧ OptCheck.optimizeCheck N b 2 [] env = false ∧
      doneTrace (Ir.run b false 0 N env) = some tS ∧ doneTrace (Ir.run p2 false 0 N env) = some tO := by
  unfold witness at h
  split at h
  · rename_i p a h1
    split at h
    · rename_i p' hd
      split at h
      · rename_i p2 a2 h2
        simp only [Bool.and_eq_true, beq_iff_eq, Bool.not_eq_true'] at h
        refine ⟨p, a, p', p2, h1, hd, h.1.2, h.2, ?_, ?_, h.1.1.1, h.1.1.2⟩
        · rw [optimize_ok_iff, optimizeM_succ, run_bind_ok]
          refine ⟨(p, a), [], h1, ?_⟩
          show (optimizeRounds (0 + 1) p a).run [] = _
          rw [optimizeRounds, run_bind_ok]
          refine ⟨p', [], run_monadLift_ok.2 ⟨hd, rfl⟩, ?_⟩
          rw [run_bind_ok]
          exact ⟨(p2, a2), [], h2, rfl⟩
        · unfold OptCheck.optimizeCheck
          rw [if_neg (by decide), h1]
          show OptCheck.roundsCheck N env (0 + 1) p a [] = false
          rw [OptCheck.roundsCheck, hd]
          simp only [h.1.2, Bool.false_and]
      · cases h
    · cases h
  · cases h

theorem witness_miscompile (h : witness N b env tS tO extra = true) (hne : tS ≠ tO) :
    ∃ (b' : Block 8) (c c' : Cfg 8), Opt.optimize b 2 [] = .ok b' ∧
      Ir.run b false 0 N env = .done c ∧ Ir.run b' false 0 N env = .done c' ∧ c.st.trace ≠ c'.st.trace := by
  obtain ⟨_, _, _, p2, -, -, -, -, ho, -, hS, hO⟩ := witness_spec h
  obtain ⟨c, hc, t1⟩ := doneTrace_some hS
  obtain ⟨c', hc', t2⟩ := doneTrace_some hO
  exact ⟨p2, c, c', ho, hc, hc', by rw [t1, t2]; exact hne⟩

end

/-- Round 1's analysis is sound for round 1's own output, round 1 and dead store elimination keep the trace, and
round 2 produces `f13Out`. -/
def f13Extra (p : Block 8) (a : OptAnalysis 8) (p' p2 : Block 8) : Bool :=
  OptCheck.checkAnalIn 400 p a f13Env &&
    doneTrace (Ir.run p false 0 400 f13Env) == some srcTrace &&
    doneTrace (Ir.run p' false 0 400 f13Env) == some srcTrace &&
    (p2.shift == f13Out.shift && beqL p2.insts f13Out.insts)

/-- "The optimizer's result `r` is a block that prints `t` within 400 steps." -/
def traceOk (r : Except String (Block 8)) (env : Env) (t : List Ev) : Bool :=
  match r with
  | .ok b' => doneTrace (Ir.run b' false 0 400 env) == some t
  | .error _ => false

/-- The witness, and the repaired optimizer `OptFix.optimizeF` on the same program at levels 2 and 3 (it keeps the
trace).  Evaluated in one declaration: all three runs start with the same first round `optimizeOnce f13Src`, which the
kernel then reduces once. -/
theorem f13_eval : witness 400 f13Src f13Env srcTrace outTrace f13Extra = true ∧
    (traceOk (OptFix.optimizeF f13Src 2 []) f13Env srcTrace &&
      traceOk (OptFix.optimizeF f13Src 3 []) f13Env srcTrace) = true := by decide +kernel

theorem f13_witness : witness 400 f13Src f13Env srcTrace outTrace f13Extra = true := f13_eval.1

/-- Round 1's analysis IS sound for round 1's own output. -/
theorem f13_check_before_dse :
    (match (optimizeOnce f13Src (topAnalysis [] [])).run [] with
     | .ok ((p, a), _) => OptCheck.checkAnalIn 400 p a f13Env
     | .error _ => false) = true := by
  obtain ⟨p, a, p', p2, h1, -, -, hx, -⟩ := witness_spec f13_witness
  simp only [f13Extra, Bool.and_eq_true] at hx
  rw [h1]
  exact hx.1.1.1

/-- Round 1's analysis is falsified by dead store elimination. -/
theorem f13_check_after_dse :
    (match (optimizeOnce f13Src (topAnalysis [] [])).run [] with
     | .ok ((p, a), _) =>
       (match deadStoreElimination p a with
        | .ok p' => OptCheck.checkAnalIn 400 p' a f13Env
        | .error _ => true)
     | .error _ => true) = false := by
  obtain ⟨p, a, p', p2, h1, hd, hc, -⟩ := witness_spec f13_witness
  rw [h1]
  simp only [hd]
  exact hc

/-- Dead store elimination itself preserves the behaviour (the defect is the stale analysis, not the pass). -/
theorem f13_dse_trace :
    (match (optimizeOnce f13Src (topAnalysis [] [])).run [] with
     | .ok ((p, a), _) =>
       (match deadStoreElimination p a with
        | .ok p' => doneTrace (Ir.run p false 0 400 f13Env) == some srcTrace &&
                    doneTrace (Ir.run p' false 0 400 f13Env) == some srcTrace
        | .error _ => false)
     | .error _ => false) = true := by
  obtain ⟨p, a, p', p2, h1, hd, -, hx, -⟩ := witness_spec f13_witness
  simp only [f13Extra, Bool.and_eq_true] at hx
  rw [h1]
  simp only [hd, Bool.and_eq_true]
  exact ⟨hx.1.1.2, hx.1.2⟩

/-- Level 1 is right on this program. -/
theorem f13_level1 :
    (match Opt.optimize f13Src 1 [] with
     | .ok b' => doneTrace (Ir.run b' false 0 400 f13Env) == some srcTrace
     | .error _ => false) = true := by
  obtain ⟨p, a, p', p2, h1, -, -, hx, -⟩ := witness_spec f13_witness
  simp only [f13Extra, Bool.and_eq_true] at hx
  rw [optimize_ok_iff.2 (optimizeM_one_ok.2 ⟨a, h1⟩)]
  exact hx.1.1.2

/-! From Brainfuck source.

A witness of 481 characters: `a:=1; b:=1; x:=3; out x; in z; in c;
c[ t:=0; d:=2; d[ t:=0; x:=0; x+=a; x+=b; x++; z0[- t:=0; y0+=x ]; y0:=0; out w; d-- ];
   out x; x:=1; out x; x:=0; x+=a; x+=b; x++; z[- t:=0; y+=x ]; y:=0; q:=0; q+=x; q++; c-- ]`
(copies through the temporary `t`; the products `y0 += z0*x`, `y += z*x` come from the loop motion of round 1 and trigger
the explosion check).  The real binary prints `03 00 00 03 01 00 00 01 01` at `-O2`/`-O3` instead of
`03 00 00 03 01 00 00 03 01`. -/

def f13Bf : List Kind := [
    .right, .inc, .right, .inc, .right, .inc, .inc, .inc, .out, .right, .inp, .left, .left, .left, .left, .inp,
    .open, .right, .right, .right, .right, .right, .right, .right, .right, .right, .open, .dec, .close, .left, .left, .open,
    .dec, .close, .inc, .inc, .open, .right, .right, .open, .dec, .close, .left, .left, .left, .left, .left, .left,
    .open, .dec, .close, .left, .left, .open, .dec, .right, .right, .inc, .right, .right, .right, .right, .right, .right,
    .inc, .left, .left, .left, .left, .left, .left, .left, .left, .close, .right, .right, .right, .right, .right, .right,
    .right, .right, .open, .dec, .left, .left, .left, .left, .left, .left, .left, .left, .inc, .right, .right, .right,
    .right, .right, .right, .right, .right, .close, .left, .left, .left, .left, .left, .left, .left, .open, .dec, .right,
    .inc, .right, .right, .right, .right, .right, .right, .inc, .left, .left, .left, .left, .left, .left, .left, .close,
    .right, .right, .right, .right, .right, .right, .right, .open, .dec, .left, .left, .left, .left, .left, .left, .left,
    .inc, .right, .right, .right, .right, .right, .right, .right, .close, .left, .left, .left, .left, .left, .left, .inc,
    .right, .right, .right, .right, .right, .right, .right, .right, .open, .dec, .left, .left, .open, .dec, .close, .left,
    .left, .left, .left, .left, .left, .open, .dec, .right, .right, .right, .right, .right, .right, .right, .inc, .left,
    .inc, .left, .left, .left, .left, .left, .left, .close, .right, .right, .right, .right, .right, .right, .open, .dec,
    .left, .left, .left, .left, .left, .left, .inc, .right, .right, .right, .right, .right, .right, .close, .right, .right,
    .close, .left, .open, .dec, .close, .left, .left, .out, .left, .dec, .close, .left, .left, .left, .left, .out,
    .open, .dec, .close, .inc, .out, .open, .dec, .close, .left, .left, .open, .dec, .right, .right, .inc, .right,
    .right, .right, .right, .right, .right, .inc, .left, .left, .left, .left, .left, .left, .left, .left, .close, .right,
    .right, .right, .right, .right, .right, .right, .right, .open, .dec, .left, .left, .left, .left, .left, .left, .left,
    .left, .inc, .right, .right, .right, .right, .right, .right, .right, .right, .close, .left, .left, .left, .left, .left,
    .left, .left, .open, .dec, .right, .inc, .right, .right, .right, .right, .right, .right, .inc, .left, .left, .left,
    .left, .left, .left, .left, .close, .right, .right, .right, .right, .right, .right, .right, .open, .dec, .left, .left,
    .left, .left, .left, .left, .left, .inc, .right, .right, .right, .right, .right, .right, .right, .close, .left, .left,
    .left, .left, .left, .left, .inc, .right, .open, .dec, .right, .right, .right, .right, .right, .open, .dec, .close,
    .left, .left, .left, .left, .left, .left, .open, .dec, .right, .right, .inc, .right, .right, .right, .right, .inc,
    .left, .left, .left, .left, .left, .left, .close, .right, .right, .right, .right, .right, .right, .open, .dec, .left,
    .left, .left, .left, .left, .left, .inc, .right, .right, .right, .right, .right, .right, .close, .left, .left, .left,
    .left, .left, .close, .right, .open, .dec, .close, .right, .open, .dec, .close, .left, .left, .left, .open, .dec,
    .right, .right, .right, .inc, .right, .right, .right, .inc, .left, .left, .left, .left, .left, .left, .close, .right,
    .right, .right, .right, .right, .right, .open, .dec, .left, .left, .left, .left, .left, .left, .inc, .right, .right,
    .right, .right, .right, .right, .close, .left, .left, .left, .inc, .left, .left, .left, .left, .left, .left, .dec,
    .close]

/-- The events of the source: `3`; per round of the outer loop: `0 0 3 1`. -/
def bfSrcTrace : List Ev :=
  [.out 1, .out 3, .out 0, .out 0, .out 1, .out 3, .out 0, .out 0, .inp 2, .inp 3, .out 3]

def bfOutTrace : List Ev :=
  [.out 1, .out 1, .out 0, .out 0, .out 1, .out 3, .out 0, .out 0, .inp 2, .inp 3, .out 3]

/-- The parsed program is a witness: it prints `bfSrcTrace`, its level-2 optimization `bfOutTrace`. -/
def bfCheck : Bool :=
  match Ir.parse (w := 8) f13Bf with
  | .ok b => witness 600 b f13Env bfSrcTrace bfOutTrace (fun _ _ _ _ => true)
  | .error _ => false

/-- The events of a bytecode run, whatever its outcome. -/
def bcTrace : Bc.Outcome 8 → List Ev
  | .done c | .stopped c | .interrupted c | .bad c | .outOfFuel c => c.st.trace

def succeeds (r : Except String (Block 8)) : Bool :=
  match r with
  | .ok _ => true
  | .error _ => false

/-- "`r` is a block whose bytecode (4 registers, fused) runs off the end within 2000 steps with events `t`." -/
def bcDoneIs (r : Except String (Block 8)) (t : List Ev) : Bool :=
  match r with
  | .ok b =>
    (match Bc.run (BcGen.translate b 4 true) false 0 2000 f13Env with
     | .done c => c.st.trace == t
     | _ => false)
  | .error _ => false

theorem bcDoneIs_ok {b : Block 8} {t : List Ev} (h : bcDoneIs (.ok b) t = true) :
    ∃ c, Bc.run (BcGen.translate b 4 true) false 0 2000 f13Env = .done c ∧ c.st.trace = t := by
  change (match Bc.run (BcGen.translate b 4 true) false 0 2000 f13Env with
    | .done c => c.st.trace == t
    | _ => false) = true at h
  generalize Bc.run (BcGen.translate b 4 true) false 0 2000 f13Env = o at h ⊢
  cases o with
  | done c => exact ⟨c, rfl, beq_iff_eq.1 h⟩
  | _ => cases h

theorem succeeds_of_bcDoneIs {r : Except String (Block 8)} {t : List Ev} (h : bcDoneIs r t = true) :
    succeeds r = true := by
  cases r with
  | ok b => rfl
  | error e => cases h

/-- "`r` is a block whose bytecode has emitted `t` after 2000 steps." -/
def bcTraceIs (r : Except String (Block 8)) (t : List Ev) : Bool :=
  match r with
  | .ok b => bcTrace (Bc.run (BcGen.translate b 4 true) false 0 2000 f13Env) == t
  | .error _ => false

/-- Through the bytecode interpreter: the repaired optimizer's level-2 code prints `bfSrcTrace`, the repaired optimizer
succeeds at level 3, and the unrepaired optimizer's level-2 code prints `bfOutTrace`. -/
def bfBcCheck : Bool :=
  match Ir.parse (w := 8) f13Bf with
  | .ok b =>
    bcDoneIs (OptFix.optimizeF b 2 []) bfSrcTrace &&
      succeeds (OptFix.optimizeF b 3 []) &&
      bcTraceIs (Opt.optimize b 2 []) bfOutTrace
  | .error _ => false

/-- One declaration for everything that is evaluated on the 481-character witness: the four optimizer runs (unrepaired
level 2 inside `bfCheck`; repaired levels 2 and 3, unrepaired level 2 inside `bfBcCheck`) share the parse and the first
round, by far the dearest part, which the kernel reduces once within a declaration. -/
theorem f13_bf_eval : bfCheck = true ∧ bfBcCheck = true := by decide +kernel

theorem f13_bf_check : bfCheck = true := f13_bf_eval.1

/-! Variant F13b: the store in FRONT of the loop is deleted (the explosion store in the loop survives).

Same cells.  The top state knows `x3 = 5`; `L` is surely entered (`x0 := 2`) and its body WRITES `x3` first (the nested,
surely entered `L0` sets `x3 := 252 + x1 + x2 = 0`), prints it, sets it to `7`, prints it, restores `x3 := 1 + x1 + x2 = 5`
and prints it (so this last store is demanded and survives dead store elimination).  Round 1 again records `x3` as constant
(not clobbered, not read) in `L`.  Dead store elimination deletes `x3 := 5` in FRONT of `L` (its own scan sees that the body
of the at-least-once loop overwrites `x3` before reading it).  In round 2 the top state therefore "knows" `x3 = 0`
(untouched cell), the node of `L` lets the body ask for it, the store `x3 := 0` at the end of `L0` is judged constant and
dropped, and in the second round of `L` the `out x3` behind `L0` prints the `5` left by the first round instead of `0`.
Hence putting the constant-but-written cells into the node's `reads` would NOT be a sufficient repair: the claim
"not clobbered" itself has to go (all cells the emitted body writes must be in `clobbered`).
On a Brainfuck witness of this variant the binary prints `… 00 00 00 05 07 05` at `-O2`/`-O3` instead of
`… 00 00 00 00 07 05`. -/

def f13bSrc : Block 8 :=
  { shift := 0,
    insts := [
      .calc [(1, [⟨2#8, []⟩])], .calc [(2, [⟨2#8, []⟩])], .calc [(3, [⟨5#8, []⟩])],
      .input 4, .calc [(0, [⟨2#8, []⟩])],
      .loop 0 0 [
        .calc [(7, [⟨3#8, []⟩])],
        .loop 7 0 [
          .calc [(3, [⟨252#8, []⟩, ⟨1#8, [1]⟩, ⟨1#8, [2]⟩])],
          .calc [(9, [⟨1#8, [3, 4]⟩, ⟨1#8, [9]⟩])],
          .calc [(9, [])],
          .output 8,
          .calc [(7, [⟨0xff#8, []⟩, ⟨1#8, [7]⟩])]] false,
        .output 3,
        .calc [(3, [⟨7#8, []⟩])],
        .output 3,
        .calc [(3, [⟨1#8, []⟩, ⟨1#8, [1]⟩, ⟨1#8, [2]⟩])],
        .output 3,
        .calc [(6, [⟨1#8, []⟩, ⟨1#8, [3]⟩])],
        .calc [(0, [⟨0xff#8, []⟩, ⟨1#8, [0]⟩])]] false] }

def f13bEnv : Env := { input := some [.byte 3], sink := true, outOk := none }

/-- per round of `L`: `0 0 0` (`out w`), `0`, `7`, `5`. -/
def bSrcTrace : List Ev :=
  [.out 5, .out 7, .out 0, .out 0, .out 0, .out 0, .out 5, .out 7, .out 0, .out 0, .out 0, .out 0, .inp 3]

def bOutTrace : List Ev :=
  [.out 5, .out 7, .out 5, .out 0, .out 0, .out 0, .out 5, .out 7, .out 0, .out 0, .out 0, .out 0, .inp 3]

/-- `x3 := 1 + x1 + x2` occurs as an instruction of the outer loop body. -/
def keepsStore (b : Block 8) : Bool :=
  b.insts.any (fun i => match i with
    | .loop _ _ body _ => body.any (fun j => match j with
        | .calc [(3, e)] => e == [⟨1#8, []⟩, ⟨1#8, [1]⟩, ⟨1#8, [2]⟩]
        | _ => false)
    | _ => false)

/-- Round 1's analysis is sound for its own output, and the restoring store survives dead store elimination. -/
def f13bCheck : Bool :=
  witness 400 f13bSrc f13bEnv bSrcTrace bOutTrace
    (fun p a p' _ => OptCheck.checkAnalIn 400 p a f13bEnv && keepsStore p')

/-- The variant, and the repaired optimizer on it at level 2; one declaration because both start with the same first
round. -/
theorem f13b_eval : f13bCheck = true ∧ traceOk (OptFix.optimizeF f13bSrc 2 []) f13bEnv bSrcTrace = true := by
  decide +kernel

theorem f13b_check : f13bCheck = true := f13b_eval.1

end F13
end OptProof
end Hpbf

#print axioms Hpbf.OptProof.F13.f13_check_before_dse
#print axioms Hpbf.OptProof.F13.f13_check_after_dse
#print axioms Hpbf.OptProof.F13.f13_dse_trace
#print axioms Hpbf.OptProof.F13.f13_level1
#print axioms Hpbf.OptProof.F13.f13_bf_check
#print axioms Hpbf.OptProof.F13.f13b_check
