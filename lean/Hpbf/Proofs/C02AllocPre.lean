/-
C02 (`allocate_temps`): the precondition `AllocPre` on the input of the pass, and the invariant
`PassInv` of the allocation loop (state before round `k`, relative to the input state `s`).
-/
import Hpbf.Proofs.C02Reorder

namespace Hpbf
namespace C02

open Bc BcWf BcGen C11

variable {w : Nat}

/-! ### vocabulary -/

/-- Instructions that neither branch, nor move the pointer, nor perform I/O. -/
def plain : Instr w → Bool
  | .noop => true
  | .add _ _ _ => true
  | .sub _ _ _ => true
  | .mul _ _ _ => true
  | .copy _ _ => true
  | _ => false

/-- Instructions that leave the pointer where it is. -/
def ptrStable : Instr w → Bool
  | .mov _ => false
  | .scan _ sh => sh == 0
  | _ => true

/-- Tape offsets an instruction writes. -/
def memDefs : Instr w → List Int
  | .inp d => [d]
  | .add d _ _ => locMem d
  | .sub d _ _ => locMem d
  | .mul d _ _ => locMem d
  | .copy d _ => locMem d
  | _ => []

/-- The operation computed by `mkArith op`. -/
def opFun : BcGen.Op → BitVec w → BitVec w → BitVec w
  | .add => (· + ·)
  | .sub => fun x y => x + (-y)
  | .mul => (· * ·)

/-- `t` is in its recorded range on entry to instruction `k`. -/
def InRange (s : St w) (t k : Nat) : Prop :=
  ∃ (r : RangeInfo) (L : Nat), s.ranges[t]? = some r ∧ r.lastUse = some L ∧ r.created < k ∧ k ≤ L

/-- Candidate for step 3 of the pass: `insts[i] = op (tmp t) s0 s1` and the recorded first use of `t` is the
store `insts[f] = copy (mem m) src`. -/
structure Cand (s : St w) (i : Nat) (op : BcGen.Op) (t : Nat) (s0 s1 : Loc w) (f : Nat) (m : Int)
    (src : Loc w) : Prop where
  inst : s.insts[i]? = some (mkArith op (.tmp t) s0 s1)
  first : ∃ (r : RangeInfo) (L : Nat), s.ranges[t]? = some r ∧ r.firstUse = some f ∧ r.lastUse = some L
  store : s.insts[f]? = some (.copy (.mem m) src)

/-- The precondition of `allocateTemps`. -/
structure AllocPre (s : St w) : Prop where
  /-- no bitmap has been recorded yet -/
  live0 : s.live.size = 0
  noZero : ∀ (j : Nat) (ins : Instr w), s.insts[j]? = some ins → NoMemZero ins
  /-- a temporary is written only by the instruction at its `created` position -/
  defs : ∀ (j : Nat) (ins : Instr w) (t : Nat), s.insts[j]? = some ins → t ∈ BcWf.defs ins → ∃ r : RangeInfo, s.ranges[t]? = some r ∧ r.created = j
  /-- a temporary is read only inside its recorded range -/
  uses : ∀ (j : Nat) (ins : Instr w) (t : Nat), s.insts[j]? = some ins → t ∈ BcWf.uses ins → InRange s t j
  /-- the ranges are closed under control flow: a temporary in range at the target of a branch is in range at
  the branch (loop back edges: the range reaches the end of the loop; forward edges: a value created in the
  skipped region is not used after it) -/
  flow : ∀ (j : Nat) (ins : Instr w) (off : Int) (k' : Nat), s.insts[j]? = some ins → branchOff? ins = some off → (j : Int) + off = (k' : Int) →
    ∀ t, InRange s t k' → InRange s t j
  /-- no pointer movement inside a range -/
  ptr : ∀ (t j : Nat) (ins : Instr w), InRange s t j → s.insts[j]? = some ins → ptrStable ins = true
  /-- the table of write positions is complete -/
  writes : ∀ (j : Nat) (ins : Instr w) (m : Int), s.insts[j]? = some ins → m ∈ memDefs ins →
    ∃ ws, alGet s.writes m = some ws ∧ j ∈ ws
  /-- the recorded first use of a computed value lies after the computation (the pass inspects and overwrites
  `insts[first_use]`) -/
  firstLt : ∀ (i : Nat) (op : BcGen.Op) (t : Nat) (s0 s1 : Loc w) (r : RangeInfo) (f : Nat),
    s.insts[i]? = some (mkArith op (.tmp t) s0 s1) → s.ranges[t]? = some r → r.firstUse = some f → i < f
  /-- a fusion candidate: the store reads `t`, the code in between is straight-line and does not read `t`, and
  no branch lands in `(i, f]` -/
  fuse : ∀ (i : Nat) (op : BcGen.Op) (t : Nat) (s0 s1 : Loc w) (f : Nat) (m : Int) (src : Loc w), Cand s i op t s0 s1 f m src →
    src = .tmp t ∧
    (∀ (j : Nat) (x : Instr w), i < j → j < f → s.insts[j]? = some x → plain x = true ∧ t ∉ BcWf.uses x) ∧
    (∀ (j : Nat) (x : Instr w) (off : Int), s.insts[j]? = some x → branchOff? x = some off →
      ¬ ((i : Int) < (j : Int) + off ∧ (j : Int) + off ≤ (f : Int)))

/-! ### the loop invariant -/

/-- A moved computation waiting at `f ≥ k`: the input has the store `mem[m] = tmp t` there, the current code
the computation `mem[m] = op s0 s1`. -/
def Fused (s : St w) (k : Nat) (a : ASt w) (f : Nat) (op : BcGen.Op) (m : Int) (t : Nat) (s0 s1 : Loc w) : Prop :=
  k ≤ f ∧ s.insts[f]? = some (.copy (.mem m) (.tmp t)) ∧ a.st.insts[f]? = some (mkArith op (.mem m) s0 s1)

/-- What the pass checked about an operand of a moved computation. -/
def SrcFacts (s : St w) (a : ASt w) (i f : Nat) : Loc w → Prop
  | .mem m' => hasWriteInRange s m' i f = false
  | .tmp u => ∀ m', alGet a.repl u = some (.mem m') → hasWriteInRange s m' i f = false
  | _ => True

/-- The register part of the invariant: the physical temporaries in use are pairwise different, different from
the free ones, and everything handed out so far is below `nextFresh`. -/
structure RegsInv (a : ASt w) : Prop where
  replKeys : (a.repl.map (·.1)).Nodup
  inj : ∀ (t t' r : Nat), alGet a.repl t = some (.tmp r) → alGet a.repl t' = some (.tmp r) → t = t'
  notFree : ∀ (t r : Nat), alGet a.repl t = some (.tmp r) → r ∉ a.freeRegs ∧ r ∉ a.freeTemps ∧ r < a.nextFresh
  freeRegsNodup : a.freeRegs.Nodup
  freeTempsNodup : a.freeTemps.Nodup
  freeDisj : ∀ r ∈ a.freeRegs, r ∉ a.freeTemps
  freeLt : ∀ r, r ∈ a.freeRegs ∨ r ∈ a.freeTemps → r < a.nextFresh

structure PassInv (s : St w) (k : Nat) (a : ASt w) : Prop where
  writes : a.st.writes = s.writes
  isize : a.st.insts.size = s.insts.size
  rkeep : ∀ (t : Nat) (r : RangeInfo), s.ranges[t]? = some r → ∃ r' : RangeInfo, a.st.ranges[t]? = some r' ∧ r'.created = r.created ∧
    r'.numUses = r.numUses ∧ (k ≤ r.created → r' = r)
  /-- instructions still to be processed: the input, or a moved computation -/
  fut : ∀ (j : Nat), k ≤ j → a.st.insts[j]? = s.insts[j]? ∨ ∃ op m t s0 s1, Fused s k a j op m t s0 s1
  /-- all instructions: same branches as the input, no read-and-clear operand -/
  skel : ∀ (j : Nat) (x : Instr w), a.st.insts[j]? = some x → NoMemZero x ∧ ∃ y, s.insts[j]? = some y ∧ branchOff? x = branchOff? y
  regs : RegsInv a
  replDom : ∀ (t : Nat) (l : Loc w), alGet a.repl t = some l → locNoZero l = true ∧ ∃ r : RangeInfo, s.ranges[t]? = some r ∧ r.created < k
  /-- a value forwarded to a memory cell: the cell is not written while the value is needed -/
  fwdMem : ∀ (t : Nat) (m : Int), alGet a.repl t = some (.mem m) → (∃ f op s0 s1, Fused s k a f op m t s0 s1) ∨
    ∃ (r : RangeInfo) (L lo : Nat), s.ranges[t]? = some r ∧ r.lastUse = some L ∧ lo ≤ k ∧ hasWriteInRange s m lo L = false
  /-- heap entries: created earlier, and the recorded end is not before the original last use -/
  heap : ∀ (e t : Nat), (e, t) ∈ a.nre → ∃ r : RangeInfo, s.ranges[t]? = some r ∧ r.created < k ∧ ∀ L, r.lastUse = some L → L ≤ e
  fused : ∀ (f : Nat) (op : BcGen.Op) (m : Int) (t : Nat) (s0 s1 : Loc w), Fused s k a f op m t s0 s1 →
    ∃ (i : Nat) (r : RangeInfo) (L : Nat), s.insts[i]? = some (mkArith op (.tmp t) s0 s1) ∧ s.ranges[t]? = some r ∧ r.created = i ∧ i < k ∧
      r.firstUse = some f ∧ r.lastUse = some L ∧ (∀ v, alGet a.repl t = some v → v = .mem m) ∧
      hasWriteInRange s m (f + 1) L = false ∧ SrcFacts s a i f s0 ∧ SrcFacts s a i f s1

end C02
end Hpbf
