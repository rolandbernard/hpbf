/-
The step lemmas at the level of machine states for the non-loop arms of `rebuildInstr` (`output`, `input`,
`calc`): the newly emitted instructions simulate the source instruction, and the end states are again related
(`StepQ`). The statement comes in two forms. `StepAt` (and `StepOk`, its instance at the shifts of the states)
hides the emitted instructions under `∃ new`; it is the form of the three step lemmas and of the composition in
`OptRbStraight`. `StepNG` names them and restricts the source states by a guard; it is the form the proofs about
nested blocks compose. `new_elim` and `calcs_elim` turn a fact under `∃ new` into the fact about the
instructions that were emitted.
-/
import Hpbf.Proofs.OptRbRel
import Hpbf.Proofs.OptRbEmit
import Hpbf.Proofs.OptRbAdeq

namespace Hpbf
namespace OptProof
open Opt OptSem Ir

variable {w : Nat}

/-- End-state relation of a step: related through `s'`; while no uncertain move has happened the reference
memory `M0` and the pointer of the emitted program are the ones from before the step. -/
def StepQ (sh' : Int) (ps : List (Rebuild w)) (s' : Rebuild w) (M0 : Mem w) (σE : State w)
    (σS' σE' : State w) : Prop :=
  ∃ M0', RelAt sh' s' ps M0' σE' σS' ∧ (s'.subShift = false → M0' = M0 ∧ σE'.ptr = σE.ptr)

/-- `s'` extends `s` by instructions that simulate the source instructions `src`; the source program's pointer
is `sh` (before) / `sh'` (after) cells to the right of the emitted program's pointer. -/
def StepAt (sh sh' : Int) (ps : List (Rebuild w)) (s s' : Rebuild w) (src : List (Instr w)) : Prop :=
  ∃ new, s'.insts = s.insts ++ new ∧ (s'.subShift = false → s.subShift = false) ∧
    ∀ M0 σE σS, RelAt sh s ps M0 σE σS →
      Sim (StepQ sh' ps s' M0 σE) src new σS σE ∧ ¬ Bad new σE

/-- `StepAt` with the emitted instructions exposed and a guard `G` on the source states considered (facts that
hold for the source states that really occur at this point). -/
def StepNG (G : State w → Prop) (sh sh' : Int) (ps : List (Rebuild w)) (s s' : Rebuild w)
    (src new : List (Instr w)) : Prop :=
  (s'.subShift = false → s.subShift = false) ∧
  ∀ M0 σE σS, RelAt sh s ps M0 σE σS → G σS → Sim (StepQ sh' ps s' M0 σE) src new σS σE ∧ ¬ Bad new σE

abbrev StepOk (ps : List (Rebuild w)) (s s' : Rebuild w) (src : List (Instr w)) : Prop :=
  StepAt s.shift s'.shift ps s s' src

theorem not_bad_of_noBlocks {l : List (Instr w)} (hl : ∀ i ∈ l, C01Dse.isBlock i = false) (σ : State w) :
    ¬ Bad l σ := by
  intro h
  induction h with
  | here _ => simpa [C01Dse.isBlock] using hl _ (List.mem_cons_self)
  | outOk _ _ ih => exact ih (fun i hi => hl i (List.mem_cons_of_mem _ hi))
  | inOk _ _ ih => exact ih (fun i hi => hl i (List.mem_cons_of_mem _ hi))
  | «calc» _ ih => exact ih (fun i hi => hl i (List.mem_cons_of_mem _ hi))
  | loopSkip _ _ _ => simpa [C01Dse.isBlock] using hl _ (List.mem_cons_self)
  | loopIter _ _ _ _ => simpa [C01Dse.isBlock] using hl _ (List.mem_cons_self)
  | loopIn _ _ _ => simpa [C01Dse.isBlock] using hl _ (List.mem_cons_self)
  | ifSkip _ _ _ => simpa [C01Dse.isBlock] using hl _ (List.mem_cons_self)
  | ifIter _ _ _ _ => simpa [C01Dse.isBlock] using hl _ (List.mem_cons_self)
  | ifIn _ _ _ => simpa [C01Dse.isBlock] using hl _ (List.mem_cons_self)

theorem noBlocks_calcs_then (comps : List (List (Int × Expr w))) (i : Instr w)
    (hi : C01Dse.isBlock i = false) : ∀ j ∈ comps.map Instr.calc ++ [i], C01Dse.isBlock j = false := by
  intro j hj
  rcases List.mem_append.1 hj with h | h
  · obtain ⟨g, _, rfl⟩ := List.mem_map.1 h; rfl
  · simp at h; rw [h]; exact hi

theorem noBlocks_calcs (comps : List (List (Int × Expr w))) :
    ∀ j ∈ comps.map Instr.calc, C01Dse.isBlock (w := w) j = false := by
  intro j hj
  obtain ⟨g, _, rfl⟩ := List.mem_map.1 hj; rfl

theorem MInv.congr {s s' : Rebuild w} {ps : List (Rebuild w)} {M0 E S : Mem w} (h : MInv s ps M0 E S)
    (hp : s'.pending = s.pending) (hw : s'.written = s.written) (hh : SameHdr s s') : MInv s' ps M0 E S :=
  ⟨by rw [hp]; exact h.pend, h.writ.of_written_eq hw, h.pk.congr hh⟩

theorem Wf.withInsts {s : Rebuild w} (h : Wf s) (i : List (Instr w)) : Wf ({ s with insts := i } : Rebuild w) :=
  h.congr rfl rfl rfl

theorem EmitRes.rel {ps : List (Rebuild w)} {s s' : Rebuild w} {comps : List (List (Int × Expr w))}
    (h : EmitRes ps s s' comps) {M0 : Mem w} {σE σS : State w} (hr : Rel s ps M0 σE σS) :
    Rel s' ps M0 (comps.foldl doCalc σE) σS := by
  obtain ⟨m1, m2, m3⟩ := foldl_doCalc_meta comps σE
  refine ⟨by rw [m3]; exact hr.tr, by rw [m2]; exact hr.env, by rw [m1, h.hdr.shift]; exact hr.ptr,
    by rw [h.noRet]; exact hr.nr, ?_⟩
  rw [memE_foldl_doCalc σE comps h.nodup, memS_foldl_doCalc]
  exact h.minv hr.inv

theorem memE_of_tape_ptr {σ σ' : State w} (ht : σ'.tape = σ.tape) (hp : σ'.ptr = σ.ptr) :
    memE σ' = memE σ := by
  funext v
  show σ'.tape.get (σ'.ptr + v) = σ.tape.get (σ.ptr + v)
  rw [ht, hp]

theorem memS_of_tape_ptr {σE σE' σS σS' : State w} (ht : σS'.tape = σS.tape) (hp : σE'.ptr = σE.ptr) :
    memS σE' σS' = memS σE σS := by
  funext v
  show σS'.tape.get (σE'.ptr + v) = σS.tape.get (σE.ptr + v)
  rw [ht, hp]

/-- The common part of the two `output` cases: after the groups `comps` the value to print sits in cell `x`. -/
theorem output_sim {ps : List (Rebuild w)} {s s1 s' : Rebuild w} {comps : List (List (Int × Expr w))}
    (hres : EmitRes ps s s1 comps) (src x : Int)
    (hval : ∀ M0 E S, MInv s1 ps M0 E S → E x = S (src + s.shift))
    (hp : s'.pending = s1.pending) (hw : s'.written = s1.written) (hh : SameHdr s1 s')
    (hnr : s'.noReturn = s1.noReturn)
    {M0 : Mem w} {σE σS : State w} (hr : Rel s ps M0 σE σS) :
    Sim (StepQ s'.shift ps s' M0 σE) [.output src]
      (comps.map Instr.calc ++ [.output x]) σS σE := by
  have hr1 := hres.rel hr
  have hbyte : σS.rd src = (comps.foldl doCalc σE).rd x := by
    rw [hr.rdS, rd_eq_memE]
    have := hval M0 _ _ hr1.inv
    rw [this]
    show memOf σS σE.ptr _ = memOf σS (comps.foldl doCalc σE).ptr _
    rw [(foldl_doCalc_meta comps σE).1]
  obtain ⟨o1, o2, o3⟩ := output_rel hbyte hr1.env hr1.tr
  refine Sim.of_atomic (atomic_output src) (atomic_calcs_then comps (atomic_output x))
    hr.tr.symm o1 o2 o3 ?_
  intro _
  obtain ⟨p1, t1⟩ := C01Dse.output_meta σS src
  obtain ⟨p2, t2⟩ := C01Dse.output_meta (comps.foldl doCalc σE) x
  refine ⟨M0, ⟨o2.symm, o3.symm, ?_, by rw [hnr]; exact hr1.nr, ?_⟩,
    fun _ => ⟨rfl, by rw [p2]; exact (foldl_doCalc_meta comps σE).1⟩⟩
  · show (σS.output src).2.ptr = ((comps.foldl doCalc σE).output x).2.ptr + s'.shift
    rw [p1, p2, hh.shift]; exact hr1.ptr
  · show MInv s' ps M0 (memE ((comps.foldl doCalc σE).output x).2)
      (memS ((comps.foldl doCalc σE).output x).2 (σS.output src).2)
    rw [memE_of_tape_ptr t2 p2, memS_of_tape_ptr t1 p2]
    exact hr1.inv.congr hp hw hh

theorem step_output {ps : List (Rebuild w)} {s : Rebuild w} (hwf : Wf s) (src : Int) {os os' : Orders}
    {s' : Rebuild w} (hr : (rebuildInstr ps s (.output src)).run os = .ok (s', os')) :
    Wf s' ∧ s'.noReturn = s.noReturn ∧ SameHdr s s' ∧ s'.subAnal = s.subAnal ∧
    StepOk ps s s' [.output src] := by
  rw [rebuildInstr] at hr
  split at hr
  · -- the value is (a copy of) an emitted cell
    rename_i x hx
    rw [run_pure] at hr
    cases hr
    have hsame := read_same s x
    refine ⟨?_, hsame.noReturn, hsame.hdr, hsame.subAnal, [.output x], ?_, ?_⟩
    · exact (hsame.wf hwf).withInsts _
    · show (Opt.read s x).insts ++ _ = _
      rw [hsame.insts]
    · refine ⟨fun h => hsame.subShift.symm.trans h, ?_⟩
      intro M0 σE σS hrel
      have := output_sim (s' := { Opt.read s x with insts := (Opt.read s x).insts ++ [Instr.output x] })
        (EmitRes.refl ps hwf) src x
        (fun M0 E S hi => retargetOutput_sound hi hx) hsame.pending hsame.written hsame.hdr
        hsame.noReturn hrel
      exact ⟨by simpa using this, not_bad_of_noBlocks (by simp [C01Dse.isBlock]) _⟩
  · -- the value has to be materialized first
    rw [run_bind_ok] at hr
    obtain ⟨s1, os1, h1, h2⟩ := hr
    rw [run_pure] at h2
    cases h2
    obtain ⟨comps, res, hnone⟩ := emit_res ps hwf (src + s.shift) h1
    have hsame := read_same s1 (src + s.shift)
    refine ⟨?_, ?_, res.hdr.trans hsame.hdr, ?_, comps.map Instr.calc ++ [.output (src + s.shift)], ?_, ?_⟩
    · exact (hsame.wf res.wf).withInsts _
    · show (Opt.read s1 (src + s.shift)).noReturn = _
      rw [hsame.noReturn, res.noRet]
    · show (Opt.read s1 (src + s.shift)).subAnal = _
      rw [hsame.subAnal, res.subAnal]
    · show (Opt.read s1 (src + s.shift)).insts ++ _ = _
      rw [hsame.insts, res.insts, List.append_assoc]
    · refine ⟨fun h => (res.hdr.trans hsame.hdr).subShift.symm.trans h, ?_⟩
      intro M0 σE σS hrel
      exact ⟨output_sim (s' := { Opt.read s1 (src + s.shift) with
          insts := (Opt.read s1 (src + s.shift)).insts ++ [Instr.output (src + s.shift)] })
        res src (src + s.shift)
        (fun M0 E S hi => (hi.S_absent hnone).symm) hsame.pending hsame.written hsame.hdr
        hsame.noReturn hrel,
        not_bad_of_noBlocks (noBlocks_calcs_then comps _ rfl) _⟩

theorem step_input {ps : List (Rebuild w)} {s : Rebuild w} (hwf : Wf s) (dst : Int) {os os' : Orders}
    {s' : Rebuild w} (hr : (rebuildInstr ps s (.input dst)).run os = .ok (s', os')) :
    Wf s' ∧ s'.noReturn = s.noReturn ∧ SameHdr s s' ∧ s'.subAnal = s.subAnal ∧
    StepOk ps s s' [.input dst] := by
  rw [rebuildInstr, run_bind_ok] at hr
  obtain ⟨s1, os1, h1, h2⟩ := hr
  rw [run_pure] at h2
  cases h2
  obtain ⟨comps, ⟨c1, c2, c3, c4, c5, c6, _, _⟩, c8, c10, _⟩ := clobber_spec ps hwf (dst + s.shift) false h1
  have hwf' : Wf ({ s1 with insts := s1.insts ++ [Instr.input (dst + s.shift)] } : Rebuild w) := c1.withInsts _
  refine ⟨hwf', c5, c4, c6, comps.map Instr.calc ++ [.input (dst + s.shift)], ?_, ?_⟩
  · show s1.insts ++ _ = _
    rw [c2, List.append_assoc]
  · refine ⟨fun h => c4.subShift.symm.trans h, ?_⟩
    intro M0 σE σS hrel
    -- the invariant after the groups, except at the cell about to be read into
    have hX := c10 (fun _ => False) M0 _ _ (hrel.inv.toX _)
    obtain ⟨m1, m2, m3⟩ := foldl_doCalc_meta comps σE
    have henv : σS.env = (comps.foldl doCalc σE).env := by rw [m2]; exact hrel.env
    have htr : σS.trace = (comps.foldl doCalc σE).trace := by rw [m3]; exact hrel.tr
    obtain ⟨o1, o2, o3⟩ := input_rel (σS := σS) (σE := comps.foldl doCalc σE) dst (dst + s.shift) henv htr
    refine ⟨?_, not_bad_of_noBlocks (noBlocks_calcs_then comps _ rfl) _⟩
    refine Sim.of_atomic (atomic_input dst) (atomic_calcs_then comps (atomic_input (dst + s.shift)))
      hrel.tr.symm o1 o2 o3 ?_
    intro hok
    obtain ⟨x, hS, hE, pS, pE⟩ := input_ok_mem (σS := σS) (σE := comps.foldl doCalc σE) dst (dst + s.shift)
      henv hok
    refine ⟨M0, ⟨o2.symm, o3.symm, ?_, by show s1.noReturn = false; rw [c5]; exact hrel.nr, ?_⟩,
      fun _ => ⟨rfl, by rw [pE]; exact m1⟩⟩
    · show (σS.input dst).2.ptr = ((comps.foldl doCalc σE).input (dst + s.shift)).2.ptr + s1.shift
      rw [pS, pE, m1, c4.shift]; exact hrel.ptr
    · show MInv ({ s1 with insts := s1.insts ++ [Instr.input (dst + s.shift)] } : Rebuild w) ps M0
        (memE ((comps.foldl doCalc σE).input (dst + s.shift)).2)
        (memS ((comps.foldl doCalc σE).input (dst + s.shift)).2 (σS.input dst).2)
      have hmE : memE ((comps.foldl doCalc σE).input (dst + s.shift)).2 =
          upd (Mem.seq comps (memE σE)) (dst + s.shift) x := by
        show memOf _ ((comps.foldl doCalc σE).input (dst + s.shift)).2.ptr = _
        rw [pE, hE, ← memE_foldl_doCalc σE comps c3, Int.sub_self, Int.zero_add]
      have hmS : memS ((comps.foldl doCalc σE).input (dst + s.shift)).2 (σS.input dst).2 =
          upd (memS σE σS) (dst + s.shift) x := by
        show memOf _ ((comps.foldl doCalc σE).input (dst + s.shift)).2.ptr = _
        rw [pE, hS, m1, show σS.ptr - σE.ptr + dst = dst + s.shift from by rw [hrel.ptr]; omega]
      rw [hmE, hmS]
      have hX' : MInvX (fun v => False ∨ v = dst + s.shift) s1 ps M0 (Mem.seq comps (memE σE)) (memS σE σS) :=
        hX
      have hfin : MInv s1 ps M0 (upd (Mem.seq comps (memE σE)) (dst + s.shift) x)
          (upd (memS σE σS) (dst + s.shift) x) := by
        refine hX'.havoc ?_ ?_ ?_
        · rintro v (h | h)
          · exact absurd h id
          · rw [h]; exact c8
        · intro v hv
          have : v ≠ dst + s.shift := fun e => hv (Or.inr e)
          exact ⟨upd_ne _ _ _ _ this, upd_ne _ _ _ _ this⟩
        · rintro v (h | h)
          · exact absurd h id
          · rw [h, upd_same, upd_same]
      exact hfin.congr rfl rfl (SameHdr.refl _)

theorem step_calc {ps : List (Rebuild w)} {s : Rebuild w} (hwf : Wf s) (calcs : List (Int × Expr w))
    {os os' : Orders} {s' : Rebuild w} (hr : (rebuildInstr ps s (.calc calcs)).run os = .ok (s', os')) :
    Wf s' ∧ s'.noReturn = s.noReturn ∧ SameHdr s s' ∧ s'.subAnal = s.subAnal ∧
    StepOk ps s s' [.calc calcs] := by
  rw [rebuildInstr] at hr
  obtain ⟨comps, s1, res, hwf', hsame, hminv⟩ := performAll_spec hwf hr
  refine ⟨hwf', ?_, res.hdr.trans hsame.hdr, ?_, comps.map Instr.calc, ?_, ?_⟩
  · rw [hsame.noReturn, res.noRet]
  · rw [hsame.subAnal, res.subAnal]
  · rw [hsame.insts, res.insts]
  · refine ⟨fun h => (res.hdr.trans hsame.hdr).subShift.symm.trans h, ?_⟩
    intro M0 σE σS hrel
    obtain ⟨m1, m2, m3⟩ := foldl_doCalc_meta comps σE
    obtain ⟨d1, d2, d3⟩ := C01Dse.doCalc_meta σS calcs
    have hsrc : Atomic [Instr.calc calcs] (fun σ : State w => (true, [calcs].foldl doCalc σ)) :=
      atomic_calcs [calcs]
    refine ⟨?_, not_bad_of_noBlocks (noBlocks_calcs comps) _⟩
    refine Sim.of_atomic hsrc (atomic_calcs comps) hrel.tr.symm rfl ?_ ?_ ?_
    · show (comps.foldl doCalc σE).trace = (doCalc σS calcs).trace
      rw [m3, d3]; exact hrel.tr.symm
    · show (comps.foldl doCalc σE).env = (doCalc σS calcs).env
      rw [m2, d2]; exact hrel.env.symm
    · intro _
      refine ⟨M0, ⟨?_, ?_, ?_, by rw [hsame.noReturn, res.noRet]; exact hrel.nr, ?_⟩, fun _ => ⟨rfl, m1⟩⟩
      · show (doCalc σS calcs).trace = (comps.foldl doCalc σE).trace
        rw [m3, d3]; exact hrel.tr
      · show (doCalc σS calcs).env = (comps.foldl doCalc σE).env
        rw [m2, d2]; exact hrel.env
      · show (doCalc σS calcs).ptr = (comps.foldl doCalc σE).ptr + s'.shift
        rw [m1, d1, (res.hdr.trans hsame.hdr).shift]; exact hrel.ptr
      · show MInv s' ps M0 (memE (comps.foldl doCalc σE)) (memS (comps.foldl doCalc σE) (doCalc σS calcs))
        rw [memE_foldl_doCalc σE comps res.nodup]
        have : memS (comps.foldl doCalc σE) (doCalc σS calcs) = assignS s.shift calcs (memS σE σS) := by
          rw [← memS_doCalc hrel calcs]
          show memOf _ (comps.foldl doCalc σE).ptr = memOf _ σE.ptr
          rw [m1]
        rw [this]
        exact hminv M0 _ _ hrel.inv

theorem calc_map_inj {a b : List (List (Int × Expr w))} (h : a.map Instr.calc = b.map Instr.calc) : a = b := by
  induction a generalizing b with
  | nil => cases b <;> simp_all
  | cons x a ih =>
    cases b with
    | nil => simp at h
    | cons y b =>
      simp only [List.map_cons, List.cons.injEq, Instr.calc.injEq] at h
      rw [h.1, ih h.2]

/-- The code a step appends is determined by the two states: a fact stated for SOME appended code holds of the
appended code at hand. -/
theorem new_elim {s s' : Rebuild w} {new : List (Instr w)} {P : List (Instr w) → Prop}
    (hi : s'.insts = s.insts ++ new) (h : ∃ n, s'.insts = s.insts ++ n ∧ P n) : P new := by
  obtain ⟨n, e, p⟩ := h
  cases List.append_cancel_left (e.symm.trans hi)
  exact p

/-- The same for emitted groups, when the growth equation follows from the fact (a field of `EmitRes`, `ClobRes`,
`ClobAcc`). -/
theorem calcs_elim {s s' : Rebuild w} {comps : List (List (Int × Expr w))} {P : List (List (Int × Expr w)) → Prop}
    (hi : s'.insts = s.insts ++ comps.map Instr.calc) (h : ∃ c, P c)
    (hins : ∀ c, P c → s'.insts = s.insts ++ c.map Instr.calc) : P comps := by
  obtain ⟨c, p⟩ := h
  cases calc_map_inj (List.append_cancel_left ((hins c p).symm.trans hi))
  exact p

end OptProof
end Hpbf
