/-
The executable test exists twice: `Hpbf/OptCheck.lean` is the model the driver runs, and imports nothing of the proofs;
`OptRbAnalCheck` / `OptRbRounds3` hold the copy the proofs are about, written over the proofs' own `Res`, `evalL`.
Here: `OptCheck.checkAnalIn`, `OptCheck.roundsCheck`, `OptCheck.optimizeCheck` are equal to the functions of the same
names in `OptProof`, so the main theorems hold for the test that is run (`Props/C01Rounds`:
`optimize_preserves_of_check'`, `optimize_onceOk_of_check'`).
-/
import Hpbf.OptCheck
import Hpbf.Proofs.OptRbRounds3

namespace Hpbf
namespace OptProof
open Opt OptSem Ir

variable {w : Nat}

def resOfLight : OptCheck.Res w → Res w
  | .oof => .oof
  | .fail => .fail
  | .stop => .stop
  | .fin σ => .fin σ

theorem rl_oof : resOfLight (.oof : OptCheck.Res w) = .oof := rfl
theorem rl_fail : resOfLight (.fail : OptCheck.Res w) = .fail := rfl
theorem rl_stop : resOfLight (.stop : OptCheck.Res w) = .stop := rfl
theorem rl_fin (σ : State w) : resOfLight (.fin σ : OptCheck.Res w) = .fin σ := rfl

theorem resOfLight_ok (r : OptCheck.Res w) : (resOfLight r).ok = r.ok := by
  cases r <;> rfl

theorem sameOutside_light : @OptCheck.sameOutside w = sameOutside := rfl
theorem noClaim_light : @OptCheck.noClaim w = noClaim := rfl
theorem headNode_light : @OptCheck.headNode w = headNode := rfl
theorem clobOk_light : @OptCheck.clobOk w = clobOk := rfl
theorem amoOk_light : @OptCheck.amoOk w = amoOk := rfl

-- (one `simp only` list serves all cases of `cases … <;>`; no case uses every lemma of it)
set_option linter.unusedSimpArgs false in
theorem eval_light : ∀ f : Nat,
    (∀ (l : List (Instr w)) (subs : List (OptAnalysis w)) (σ : State w),
      resOfLight (OptCheck.evalL f l subs σ) = evalL f l subs σ) ∧
    (∀ (c sh : Int) (body : List (Instr w)) (A : OptAnalysis w) (σ0 σ : State w),
      resOfLight (OptCheck.evalLoop f c sh body A σ0 σ) = evalLoop f c sh body A σ0 σ) := by
  intro f
  induction f with
  | zero =>
    refine ⟨fun l subs σ => ?_, fun c sh body A σ0 σ => ?_⟩
    · simp only [OptCheck.evalL, evalL, rl_oof, rl_fin]
    · simp only [OptCheck.evalLoop, evalLoop, rl_oof]
  | succ f ih =>
    obtain ⟨ihL, ihLoop⟩ := ih
    refine ⟨fun l subs σ => ?_, fun c sh body A σ0 σ => ?_⟩
    · cases l with
      | nil => simp only [OptCheck.evalL, evalL, rl_oof, rl_fin]
      | cons i rest =>
        cases i with
        | output src =>
          simp only [OptCheck.evalL, evalL]
          cases σ.output src with
          | mk b σ1 => cases b <;> simp only [ihL, rl_oof, rl_fail, rl_stop, rl_fin]
        | input dst =>
          simp only [OptCheck.evalL, evalL]
          cases σ.input dst with
          | mk b σ1 => cases b <;> simp only [ihL, rl_oof, rl_fail, rl_stop, rl_fin]
        | «calc» g => simp only [OptCheck.evalL, evalL, ihL]
        | loop c sh body once =>
          simp only [OptCheck.evalL, evalL, headNode_light]
          rw [← ihLoop]
          cases OptCheck.evalLoop f c sh body (headNode subs) σ σ <;> simp only [ihL, rl_oof, rl_fail, rl_stop, rl_fin]
        | ifnz c sh body =>
          simp only [OptCheck.evalL, evalL, headNode_light]
          by_cases hz : σ.rd c = 0#w
          · simp only [hz, if_true, ihL]
          · simp only [hz, if_false]
            rw [← ihL body]
            cases OptCheck.evalL f body (headNode subs).subBlocks σ <;> simp only [ihL, rl_oof, rl_fail, rl_stop, rl_fin]
    · simp only [OptCheck.evalLoop, evalLoop, clobOk_light, amoOk_light]
      by_cases hc : clobOk A σ0 σ = true
      · simp only [hc, if_true]
        by_cases hz : σ.rd c = 0#w
        · simp only [hz, if_true, rl_fin]
        · simp only [hz, if_false]
          rw [← ihL body]
          cases OptCheck.evalL f body A.subBlocks σ with
          | fin σ1 =>
            simp only [rl_fin]
            by_cases ha : amoOk A c (σ1.mov sh) = true
            · simp only [ha, if_true, ihLoop]
            · simp only [ha, Bool.false_eq_true, if_false, rl_fail]
          | oof => simp only [rl_oof]
          | fail => simp only [rl_fail]
          | stop => simp only [rl_stop]
      · simp only [hc, Bool.false_eq_true, if_false, rl_fail]

theorem checkAnalIn_light : @OptCheck.checkAnalIn w = checkAnalIn := by
  funext N b anal env
  unfold OptCheck.checkAnalIn checkAnalIn
  rw [← (eval_light N).1, resOfLight_ok]

theorem roundsCheck_light : @OptCheck.roundsCheck w = roundsCheck := by
  funext N env n
  induction n with
  | zero => funext prog anal os; simp [OptCheck.roundsCheck, roundsCheck]
  | succ n ih =>
    funext prog anal os
    simp only [OptCheck.roundsCheck, roundsCheck, checkAnalIn_light, ih]
    rfl

theorem optimizeCheck_light : @OptCheck.optimizeCheck w = optimizeCheck := by
  funext N b level orders env
  simp only [OptCheck.optimizeCheck, optimizeCheck, roundsCheck_light]
  rfl

/-- The source-level convenience: what `OptCheck.optimizeCheckSrcW w … = true` means. -/
theorem optimizeCheckSrcW_true {N : Nat} {src : List Kind} {level : Nat} {orders : Orders} {env : Env}
    (h : OptCheck.optimizeCheckSrcW w N src level orders env = true) :
    ∃ b : Block w, Ir.parse (w := w) src = .ok b ∧ optimizeCheck N b level orders env = true := by
  unfold OptCheck.optimizeCheckSrcW at h
  cases hp : Ir.parse (w := w) src with
  | error e => rw [hp] at h; cases h
  | ok b =>
    rw [hp] at h
    exact ⟨b, rfl, by rw [← optimizeCheck_light]; exact h⟩

#print axioms checkAnalIn_light
#print axioms roundsCheck_light
#print axioms optimizeCheck_light

end OptProof
end Hpbf
