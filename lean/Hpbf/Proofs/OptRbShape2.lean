/-
The second step relation carried through the rebuild, for the steps that emit no nested
block (the emitting primitives, `performAll`, the non-loop arms of `rebuildInstr`).  `NStep`: `shift` and `subAnal`
are untouched and the appended code holds no block, so the recorded analysis tree still matches the emitted nested
blocks (`ShapeSt`, `PStep`); `FStep` adds what the state may ask its parent: `acore` is untouched and `PVClean` is
kept.

This walk (here and in `OptRbShape3`) follows the same operations as the `SK` walk of `OptRbCanon2..5` and is kept
apart from it.  `SK` asks for `CanonSt`, `CanonL` and `ChildK` and has a total mode; `FStep`/`BStep` ask for `Wf` only,
depend on the parents `ps` and on a proposition `P`, and where a child is merged they need other facts about the child
(`BStep` of its body, where `SK` needs `ChildK`).  A walk of the conjunction has to carry all of this at every
operation, and a layer general enough for both is as long as the two walks.  The mode is `t = false` throughout: the
total mode is the `SK` walk's; the judgement `Tri` is used because the rules `Along.tri_*` are stated for it.
-/
import Hpbf.Proofs.OptRbCanon5
import Hpbf.Proofs.OptRbShape
import Hpbf.Proofs.OptRbPV

namespace Hpbf
namespace OptProof
open Opt OptSem Ir

variable {w : Nat}

structure ShapeSt (s : Rebuild w) : Prop where
  shape : ShapeL s.insts s.subAnal
  noShift : s.subShift = false → ∀ a ∈ s.subAnal, a.hasShift = false

structure NStep (s s' : Rebuild w) : Prop where
  wf : Wf s'
  shift : s'.shift = s.shift
  subAnal : s'.subAnal = s.subAnal
  sub : s'.subShift = false → s.subShift = false
  insts : ∃ new, s'.insts = s.insts ++ new ∧ ∀ i ∈ new, C01Dse.isBlock i = false

structure PStep (s s' : Rebuild w) : Prop where
  sub : s'.subShift = false → s.subShift = false
  ext : ∃ newI newA, s'.insts = s.insts ++ newI ∧ s'.subAnal = s.subAnal ++ newA ∧ ShapeL newI newA ∧
    (s'.subShift = false → ∀ a ∈ newA, a.hasShift = false)

theorem NStep.refl {s : Rebuild w} (h : Wf s) : NStep s s :=
  ⟨h, rfl, rfl, fun h => h, [], by simp, fun _ h => by cases h⟩

theorem NStep.trans {a b c : Rebuild w} (h1 : NStep a b) (h2 : NStep b c) : NStep a c := by
  obtain ⟨n1, e1, g1⟩ := h1.insts
  obtain ⟨n2, e2, g2⟩ := h2.insts
  refine ⟨h2.wf, h2.shift.trans h1.shift, h2.subAnal.trans h1.subAnal, fun h => h1.sub (h2.sub h),
    n1 ++ n2, by rw [e2, e1, List.append_assoc], ?_⟩
  intro i hi
  rcases List.mem_append.1 hi with h | h
  · exact g1 i h
  · exact g2 i h

theorem PStep.refl (s : Rebuild w) : PStep s s :=
  ⟨fun h => h, [], [], by simp, by simp, shapeL_nil, fun _ _ h => by cases h⟩

theorem PStep.trans {a b c : Rebuild w} (h1 : PStep a b) (h2 : PStep b c) : PStep a c := by
  obtain ⟨i1, a1, e1, f1, g1, n1⟩ := h1.ext
  obtain ⟨i2, a2, e2, f2, g2, n2⟩ := h2.ext
  refine ⟨fun h => h1.sub (h2.sub h), i1 ++ i2, a1 ++ a2, by rw [e2, e1, List.append_assoc],
    by rw [f2, f1, List.append_assoc], shapeL_append g1 g2, ?_⟩
  intro hc x hx
  rcases List.mem_append.1 hx with h | h
  · exact n1 (h2.sub hc) x h
  · exact n2 hc x h

theorem NStep.pstep {s s' : Rebuild w} (h : NStep s s') : PStep s s' := by
  obtain ⟨n, e, g⟩ := h.insts
  exact ⟨h.sub, n, [], e, by rw [h.subAnal]; simp, shapeL_nonblocks g, fun _ _ hx => by cases hx⟩

theorem PStep.shapeSt {s s' : Rebuild w} (h : PStep s s') (hs : ShapeSt s) : ShapeSt s' := by
  obtain ⟨i1, a1, e1, f1, g1, n1⟩ := h.ext
  refine ⟨by rw [e1, f1]; exact shapeL_append hs.shape g1, ?_⟩
  intro hc x hx
  rw [f1] at hx
  rcases List.mem_append.1 hx with hx | hx
  · exact hs.noShift (h.sub hc) x hx
  · exact n1 hc x hx

theorem NStep.shapeSt {s s' : Rebuild w} (h : NStep s s') (hs : ShapeSt s) : ShapeSt s' :=
  h.pstep.shapeSt hs

theorem PStep.of_same {s s' : Rebuild w} (hi : s'.insts = s.insts) (ha : s'.subAnal = s.subAnal)
    (hsub : s'.subShift = s.subShift) : PStep s s' :=
  ⟨fun h => by rw [← hsub]; exact h, [], [], by rw [hi]; simp, by rw [ha]; simp, shapeL_nil,
   fun _ _ h => by cases h⟩

theorem ShapeSt.of_same {s s' : Rebuild w} (h : ShapeSt s) (hi : s'.insts = s.insts)
    (ha : s'.subAnal = s.subAnal) (hsub : s'.subShift = s.subShift) : ShapeSt s' :=
  (PStep.of_same hi ha hsub).shapeSt h

theorem shapeSt_new (shift : Int) (cond : Option Int) (par : OptParent) (anal : Option (OptAnalysis w)) :
    ShapeSt (Rebuild.new shift cond par anal) :=
  ⟨shapeL_nil, fun _ _ h => by cases h⟩

theorem NStep.of_same {s s1 s2 : Rebuild w} (h : NStep s s1) (hwf : Wf s2) (hsh : s2.shift = s1.shift)
    (ha : s2.subAnal = s1.subAnal) (hsub : s2.subShift = s1.subShift) (hi : s2.insts = s1.insts) :
    NStep s s2 :=
  h.trans ⟨hwf, hsh, ha, fun hh => by rw [← hsub]; exact hh, [], by rw [hi]; simp, fun _ hx => by cases hx⟩

theorem NStep.push {s s1 : Rebuild w} (h : NStep s s1) (l : List (Instr w))
    (hl : ∀ i ∈ l, C01Dse.isBlock i = false) :
    NStep s ({ s1 with insts := s1.insts ++ l } : Rebuild w) :=
  h.trans ⟨h.wf.pushInsts l, rfl, rfl, fun hh => hh, l, rfl, hl⟩

theorem NStep.read {s s1 : Rebuild w} (h : NStep s s1) (var : Int) : NStep s (Opt.read s1 var) := by
  have hs := read_same s1 var
  exact h.of_same (hs.wf h.wf) hs.shift hs.subAnal hs.subShift hs.insts

theorem NStep.uncertainShift {s s1 : Rebuild w} (h : NStep s s1) : NStep s (uncertainShift s1) :=
  h.trans ⟨uncertainShift_wf h.wf, rfl, rfl, fun hh => by simp [Opt.uncertainShift] at hh, [], by
    simp [Opt.uncertainShift], fun _ hx => by cases hx⟩

theorem NStep.removePending {s s1 : Rebuild w} (h : NStep s s1) (var : Int) :
    NStep s (removePending s1 var).1 := by
  have hs := removePending_same s1 var
  exact h.of_same (removePending_wf h.wf var) hs.shift hs.subAnal hs.subShift
    hs.insts

theorem NStep.insertWritten {s s1 : Rebuild w} (h : NStep s s1) (var : Int) (val : OptWrite w) :
    NStep s (insertWritten s1 var val) := by
  have hs := insertWritten_same s1 var val
  exact h.of_same (insertWritten_wf h.wf var val) hs.shift hs.subAnal hs.subShift
    hs.insts

theorem NStep.writtenCalcs {s s1 : Rebuild w} (h : NStep s s1) (ps : List (Rebuild w))
    (calcs : List (Int × Expr w)) : NStep s (writtenCalcs s1 ps calcs) := by
  have hs := (writtenCalcs_eq s1 ps calcs).1
  exact h.of_same (writtenCalcs_wf h.wf ps calcs) hs.shift hs.subAnal hs.subShift
    hs.insts

structure FStep (ps : List (Rebuild w)) (s s' : Rebuild w) : Prop extends NStep s s' where
  core : acore s' = acore s
  pv : PVClean s ps → PVClean s' ps

section
variable {ps : List (Rebuild w)}

theorem FStep.refl {s : Rebuild w} (h : Wf s) : FStep ps s s := ⟨NStep.refl h, rfl, fun h => h⟩

theorem FStep.trans {a b c : Rebuild w} (h1 : FStep ps a b) (h2 : FStep ps b c) : FStep ps a c :=
  ⟨h1.toNStep.trans h2.toNStep, h2.core.trans h1.core, fun h => h2.pv (h1.pv h)⟩

theorem FStep.of_hdr {s s' : Rebuild w} (n : NStep s s') (hh : SameHdr s s')
    (hpend : ∀ k e, mGet s'.pending k = some e → mGet s.pending k = some e)
    (hkeys : s'.subShift = false → ∀ v, mGet s.written v ≠ none → mGet s'.written v ≠ none) :
    FStep ps s s' :=
  ⟨n, acore_of_anal hh.2.1, pv_of_shrink hpend hkeys (fun x => Or.inr (getParentConstant_congr hh ps x))⟩

theorem FStep.fields {s s1 s2 : Rebuild w} (h : FStep ps s s1) (hwf : Wf s2) (hh : SameHdr s1 s2)
    (ha : s2.subAnal = s1.subAnal) (hi : s2.insts = s1.insts) (hp : s2.pending = s1.pending)
    (hw : s2.written = s1.written) : FStep ps s s2 :=
  h.trans (.of_hdr ((NStep.refl h.wf).of_same hwf hh.2.2.1 ha hh.2.2.2.2 hi) hh
    (fun k e hk => by rw [hp] at hk; exact hk) (fun _ v hv => by rw [hw]; exact hv))

theorem FStep.push {s s1 : Rebuild w} (h : FStep ps s s1) (l : List (Instr w))
    (hl : ∀ i ∈ l, C01Dse.isBlock i = false) :
    FStep ps s ({ s1 with insts := s1.insts ++ l } : Rebuild w) :=
  h.trans (.of_hdr ((NStep.refl h.wf).push l hl) ⟨rfl, rfl, rfl, rfl, rfl⟩ (fun _ _ hk => hk) (fun _ _ hv => hv))

theorem FStep.read {s s1 : Rebuild w} (h : FStep ps s s1) (var : Int) : FStep ps s (Opt.read s1 var) := by
  have hs := read_same s1 var
  exact h.trans (.of_hdr ((NStep.refl h.wf).read var) hs.hdr
    (fun k e hk => by rw [hs.pending] at hk; exact hk) (fun _ v hv => by rw [hs.written]; exact hv))

theorem FStep.removePending {s s1 : Rebuild w} (h : FStep ps s s1) (var : Int) :
    FStep ps s (removePending s1 var).1 := by
  have hs := removePending_same s1 var
  refine h.trans (.of_hdr ((NStep.refl h.wf).removePending var) hs.hdr ?_ ?_)
  · intro k e hk
    rw [removePending_get h.wf] at hk
    split at hk
    · cases hk
    · exact hk
  · intro _ v hv
    rw [hs.written]; exact hv

theorem FStep.insertWritten {s s1 : Rebuild w} (h : FStep ps s s1) (var : Int) (val : OptWrite w) :
    FStep ps s (insertWritten s1 var val) := by
  have hs := insertWritten_same s1 var val
  refine h.trans (.of_hdr ((NStep.refl h.wf).insertWritten var val) hs.hdr ?_ ?_)
  · intro k e hk
    rw [hs.pending] at hk; exact hk
  · intro _ v hv
    rw [insertWritten_written, mGet_mSet]
    split
    · simp
    · exact hv

theorem FStep.writtenCalcs {s s1 : Rebuild w} (h : FStep ps s s1) (ps' : List (Rebuild w))
    (calcs : List (Int × Expr w)) : FStep ps s (writtenCalcs s1 ps' calcs) := by
  obtain ⟨hs, _, hwr⟩ := writtenCalcs_eq s1 ps' calcs
  refine h.trans (.of_hdr ((NStep.refl h.wf).writtenCalcs ps' calcs) hs.hdr ?_ ?_)
  · intro k e hk
    rw [hs.pending] at hk; exact hk
  · intro _ v hv
    rw [hwr]; exact mGet_foldl_mSet_ne_none _ _ _ hv

/-- `uncertainShift` makes `PVClean` vacuous. -/
theorem FStep.uncertainShift {s s1 : Rebuild w} (h : FStep ps s s1) : FStep ps s (Opt.uncertainShift s1) :=
  h.trans ⟨(NStep.refl h.wf).uncertainShift, rfl, fun _ _ _ _ x _ _ =>
    getParentConstant_subShift (s := Opt.uncertainShift s1) rfl ps x⟩

theorem RemPend.fstep {s0 s a : Rebuild w} (h : RemPend s a) (h0 : FStep ps s0 s) : FStep ps s0 a := by
  induction h with
  | refl => exact h0
  | step k _ ih => exact ih.removePending k

end

theorem f_along (ps : List (Rebuild w)) : Along (Wf (w := w)) (FStep ps) :=
  ⟨fun _ h => FStep.refl h, fun _ _ _ => FStep.trans, fun _ _ _ r => r.wf⟩

section
variable (ps : List (Rebuild w))

theorem gatherEmit_f {s : Rebuild w} (hwf : Wf s) (var : Int) {os os' : Orders} {s1 : Rebuild w}
    {toEmit : List (List (Int × Expr w))} (hr : (gatherForEmit s [var]).run os = .ok ((s1, toEmit), os')) :
    FStep ps s (emitStructured s1 ps toEmit) := by
  obtain ⟨h, _⟩ := gatherEmit_res ps hwf var hr
  refine .of_hdr ⟨h.wf, h.hdr.shift, h.subAnal, fun hh => by rw [← h.hdr.subShift]; exact hh,
    toEmit.map Instr.calc, h.insts, ?_⟩ h.hdr h.sub
    ((KStep.of_sameButPend (gatherForEmit_spec hwf var hr).1.same).trans (emitStructured_kstep s1 ps toEmit)).keys
  intro i hi
  obtain ⟨g, _, rfl⟩ := List.mem_map.1 hi
  rfl

theorem gather_ftri {s : Rebuild w} (var : Int) (hwf : Wf s) :
    Tri false (gatherForEmit s [var]) (fun r => FStep ps s (emitStructured r.1 ps r.2)) :=
  Tri.of nofun (fun _ _ _ hr => gatherEmit_f ps hwf var hr)

theorem emit_ftri (s : Rebuild w) (var : Int) (hwf : Wf s) : Tri false (emit s ps var) (FStep ps s) :=
  (f_along ps).tri_emit (fun _ var h => gather_ftri ps var h) s var hwf

theorem clobber_ftri (s : Rebuild w) (var : Int) (maybe : Bool) (hwf : Wf s) :
    Tri false (clobber s ps var maybe) (FStep ps s) :=
  (f_along ps).tri_clobber (fun _ var h => gather_ftri ps var h) (fun _ var h => (FStep.refl h).removePending var)
    (fun _ var k _ h => (FStep.refl h).insertWritten var k) s var maybe hwf

theorem emitAll_ftri (vars : List Int) {s : Rebuild w} (hwf : Wf s) :
    Tri false (emitAll ps vars s) (FStep ps s) :=
  (f_along ps).tri_emitAll (emit_ftri ps) vars hwf

theorem emitReadAll_ftri (vars : List Int) {s : Rebuild w} (hwf : Wf s) :
    Tri false (emitReadAll ps vars s) (FStep ps s) :=
  (f_along ps).tri_emitReadAll (emit_ftri ps) (fun _ var h => (FStep.refl h).read var) vars hwf

theorem clobberAll_ftri (vars : List (Int × Bool)) {s : Rebuild w} (hwf : Wf s) :
    Tri false (clobberAll ps vars s) (FStep ps s) :=
  (f_along ps).tri_clobberAll (clobber_ftri ps) vars hwf

/-- `performAll`: the evaluated right-hand sides only mention cells about which the parent cannot be asked. -/
theorem performAll_ftri (shift : Int) (calcs : List (Int × Expr w)) {s : Rebuild w} (hwf : Wf s) :
    Tri false (performAll s ps shift calcs) (FStep ps s) := by
  rw [performAll_eq]
  refine ((f_along ps).tri_performCheck (emit_ftri ps) calcs hwf).bind (fun s1 r1 =>
    (performEval_tri false ps s1 shift calcs).bind (fun exprs hf => Tri.pure ?_))
  obtain ⟨a, b⟩ := foldl_insertPending_wf r1.wf ps exprs
  exact r1.trans ⟨(NStep.refl r1.wf).of_same a b.shift b.subAnal b.subShift b.insts,
    acore_of_anal b.anal, fun hpv => foldl_insertPending_pv r1.wf hpv exprs (all2_evalPending_askFree hpv hf)⟩

theorem rebuildInstr_plain_ftri {s : Rebuild w} {i : Instr w} (hb : C01Dse.isBlock i = false) (hwf : Wf s) :
    Tri false (rebuildInstr ps s i) (FStep ps s) := by
  have h1i : ∀ j : Instr w, C01Dse.isBlock j = false → ∀ i ∈ [j], C01Dse.isBlock i = false := by
    intro j hj i hi
    rw [List.mem_singleton.1 hi]; exact hj
  cases i with
  | output src =>
    rw [rebuildInstr]
    split
    · exact Tri.pure (((FStep.refl hwf).read _).push _ (h1i _ rfl))
    · exact (emit_ftri ps s _ hwf).bind (fun s1 r1 => Tri.pure ((r1.read _).push _ (h1i _ rfl)))
  | input dst =>
    rw [rebuildInstr]
    exact (clobber_ftri ps s _ false hwf).bind (fun s1 r1 => Tri.pure (r1.push _ (h1i _ rfl)))
  | «calc» calcs =>
    rw [rebuildInstr]
    exact performAll_ftri ps s.shift calcs hwf
  | loop c sh b o => cases hb
  | ifnz c sh b => cases hb

end

theorem emit_nstep {s : Rebuild w} (ps : List (Rebuild w)) (var : Int) {os os' : Orders} {s' : Rebuild w}
    (hr : (emit s ps var).run os = .ok (s', os')) (hwf : Wf s) : NStep s s' :=
  (emit_ftri ps s var hwf).post hr |>.toNStep

theorem emitAll_nstep (ps : List (Rebuild w)) (vars : List Int) {s : Rebuild w}
    {os os' : Orders} {s' : Rebuild w}
    (hr : (emitAll ps vars s).run os = .ok (s', os')) (hwf : Wf s) : NStep s s' :=
  (emitAll_ftri ps vars hwf).post hr |>.toNStep

theorem emitReadAll_nstep (ps : List (Rebuild w)) (vars : List Int) {s : Rebuild w}
    {os os' : Orders} {s' : Rebuild w}
    (hr : (emitReadAll ps vars s).run os = .ok (s', os')) (hwf : Wf s) : NStep s s' :=
  (emitReadAll_ftri ps vars hwf).post hr |>.toNStep

theorem clobber_nstep {s : Rebuild w} (ps : List (Rebuild w)) (var : Int) (maybe : Bool)
    {os os' : Orders} {s' : Rebuild w} (hr : (clobber s ps var maybe).run os = .ok (s', os'))
    (hwf : Wf s) : NStep s s' :=
  (clobber_ftri ps s var maybe hwf).post hr |>.toNStep

theorem clobberAll_nstep (ps : List (Rebuild w)) (vars : List (Int × Bool)) {s : Rebuild w}
    {os os' : Orders} {s' : Rebuild w}
    (hr : (clobberAll ps vars s).run os = .ok (s', os')) (hwf : Wf s) : NStep s s' :=
  (clobberAll_ftri ps vars hwf).post hr |>.toNStep

theorem performAll_nstep {s : Rebuild w} {ps : List (Rebuild w)} {shift : Int}
    {calcs : List (Int × Expr w)} {os os' : Orders} {s' : Rebuild w}
    (hr : (performAll s ps shift calcs).run os = .ok (s', os')) (hwf : Wf s) : NStep s s' :=
  (performAll_ftri ps shift calcs hwf).post hr |>.toNStep

theorem rebuildInstr_nstep {ps : List (Rebuild w)} {s : Rebuild w} {i : Instr w} {os os' : Orders}
    {s' : Rebuild w} (hr : (rebuildInstr ps s i).run os = .ok (s', os')) (hwf : Wf s)
    (hb : C01Dse.isBlock i = false) : NStep s s' :=
  (rebuildInstr_plain_ftri ps hb hwf).post hr |>.toNStep

end OptProof
end Hpbf
