/-
C02 / C13, totality of the emission phase.  `emitTotal_Inv s` is what every `throw` site of `get_value`/`read`/`range_extend`
needs: every value number recorded in `values` or `outer_accessed` is below `ranges.len()`, and `current_start ≤
insts.len()`.  It is carried through the generator by the walks of `C02EmitWalk` at `tot = true`: the primitives succeed
(`emitTotal_read`, `emitTotal_getValue`: by `rangeExtend_ok`, `read_ok`, `getValue_ok` they fail only on the index test); the
`outer_accessed` loop after a loop body neither runs out of the model's fuel nor indexes out of bounds
(`emitTotal_outerLoop`); the expression code is the walk `calcValues_tr`/`memWrites_tr` with the predicate "`emitTotal_Step` from
the start state" and the operand validity "is a value number" (`emitTotal_calc`); and `emitTotal_Inv` with a lower bound for
`insts.len()` is an instance `closedT_total` of the induction over `emit_block` (`C02Emit.emitInsts_tr`).
Which panic site of `BcGen.lean` is discharged by which of these is listed at the head of `Props/C02EmitTotal.lean`.
-/
import Hpbf.Proofs.C02EmitWalk

namespace Hpbf
namespace C02
open BcGen C02Emit

variable {w : Nat}

structure emitTotal_Inv (s : St w) : Prop where
  vals : ∀ p ∈ s.values, p.2 < s.ranges.size
  oa : ∀ (i : Nat) (x : Nat), s.outerAccessed[i]? = some x → x < s.ranges.size
  cs : s.currentStart ≤ s.insts.size

structure emitTotal_Step (s s' : St w) : Prop where
  inv : emitTotal_Inv s'
  rs : s.ranges.size ≤ s'.ranges.size
  is : s.insts.size ≤ s'.insts.size
  cs : s'.currentStart = s.currentStart

theorem emitTotal_Step_refl {s : St w} (h : emitTotal_Inv s) : emitTotal_Step s s :=
  ⟨h, Nat.le_refl _, Nat.le_refl _, rfl⟩

theorem emitTotal_Step_trans {s s1 s2 : St w} (h1 : emitTotal_Step s s1) (h2 : emitTotal_Step s1 s2) :
    emitTotal_Step s s2 :=
  ⟨h2.inv, Nat.le_trans h1.rs h2.rs, Nat.le_trans h1.is h2.is, h2.cs.trans h1.cs⟩

theorem emitTotal_useSt {v : Nat} {s : St w} (hv : v < s.ranges.size) (h : emitTotal_Inv s) (inc : Nat) :
    emitTotal_Step s (useSt v inc s) ∧ (useSt v inc s).values = s.values ∧
      (useSt v inc s).ranges.size = s.ranges.size ∧ (useSt v inc s).insts = s.insts ∧
      (useSt v inc s).exprs = s.exprs := by
  have hsz := size_useSt v inc s
  have hc := (core_useSt v inc s).1
  have e1 : (useSt v inc s).values = s.values := congrArg G.values hc
  have e2 : (useSt v inc s).insts = s.insts := congrArg G.insts hc
  refine ⟨⟨⟨?_, ?_, ?_⟩, Nat.le_of_eq hsz.symm, Nat.le_of_eq (by rw [e2]), (core_useSt v inc s).2⟩, e1, hsz, e2,
    congrArg G.exprs hc⟩
  · intro p hp; rw [hsz]; rw [e1] at hp; exact h.vals p hp
  · intro i x hx
    rw [hsz]
    unfold useSt at hx
    rw [Array.getElem?_eq_getElem hv] at hx
    simp only at hx
    split at hx
    · rw [Array.getElem?_push] at hx
      split at hx
      · cases hx; exact hv
      · exact h.oa i x hx
    · exact h.oa i x hx
  · rw [(core_useSt v inc s).2, e2]; exact h.cs

theorem emitTotal_read {v : Nat} {s : St w} (hv : v < s.ranges.size) (h : emitTotal_Inv s) :
    ∃ s', BcGen.read v s = .ok ((), s') ∧ emitTotal_Step s s' ∧ s'.values = s.values ∧
      s'.ranges.size = s.ranges.size ∧ s'.insts = s.insts ∧ s'.exprs = s.exprs :=
  ⟨_, read_ok.2 ⟨hv, rfl⟩, emitTotal_useSt hv h 1⟩

theorem emitTotal_readsSt : ∀ (l : List Nat) {s : St w}, (∀ a ∈ l, a < s.ranges.size) → emitTotal_Inv s →
    emitTotal_Step s (readsSt l s) ∧ (readsSt l s).values = s.values ∧ (readsSt l s).ranges.size = s.ranges.size
  | [], _, _, h => ⟨emitTotal_Step_refl h, rfl, rfl⟩
  | a :: l, s, hl, h => by
    obtain ⟨st1, v1, z1, _⟩ := emitTotal_useSt (hl a List.mem_cons_self) h 1
    obtain ⟨st2, v2, z2⟩ := emitTotal_readsSt l (s := useSt a 1 s)
      (fun b hb => by rw [z1]; exact hl b (List.mem_cons_of_mem _ hb)) st1.inv
    exact ⟨emitTotal_Step_trans st1 st2, v2.trans v1, z2.trans z1⟩

def emitTotal_Res (s : St w) (r : Nat) (s' : St w) : Prop := emitTotal_Step s s' ∧ r < s'.ranges.size

/-- After pushing the new range and the reads, the defining instruction is appended. -/
theorem emitTotal_getValue_new {s : St w} (h : emitTotal_Inv s) (e : GvnExpr w) (inst : Bc.Instr w) :
    let s0 : St w := { s with
      ranges := s.ranges.push { created := s.insts.size, firstUse := none, lastUse := none, numUses := 0 }
      exprs := s.exprs.push e }
    emitTotal_Inv s0 ∧ ∀ s1, emitTotal_Step s0 s1 → s1.values = s0.values → s1.ranges.size = s0.ranges.size →
      emitTotal_Res s s.ranges.size
        { s1 with insts := s1.insts.push inst, values := alSet s1.values e s.ranges.size } := by
  intro s0
  have h0 : emitTotal_Inv s0 :=
    ⟨fun p hp => by
       simp only [s0, Array.size_push]; exact Nat.lt_succ_of_lt (h.vals p hp),
     fun i x hx => by
       have := h.oa i x hx
       simp only [s0, Array.size_push]; omega,
     h.cs⟩
  refine ⟨h0, fun s1 st1 ev er => ⟨⟨⟨?_, ?_, ?_⟩, ?_, ?_, ?_⟩, ?_⟩⟩
  · intro p hp
    rcases mem_alSet hp with hp | hp
    · rw [hp, er]; simp [s0]
    · exact st1.inv.vals p hp
  · exact st1.inv.oa
  · have := st1.inv.cs; simp only [Array.size_push]; omega
  · have := st1.rs; simp only [s0, Array.size_push] at this; simp only; omega
  · have := st1.is; simp only [Array.size_push]; simp only [s0] at this; omega
  · exact st1.cs
  · simp only; rw [er]; simp [s0]

theorem emitTotal_getValue (e : GvnExpr w) {s : St w} (h : emitTotal_Inv s)
    (he : ∀ a ∈ C02.AEmit.opsOf e, a < s.ranges.size) :
    ∃ v s', getValue e s = .ok (v, s') ∧ emitTotal_Res s v s' := by
  cases hv : alGet s.values e with
  | some v =>
    exact ⟨v, s, getValue_ok.2 (Or.inl ⟨hv, rfl⟩), emitTotal_Step_refl h, h.vals (e, v) (mem_of_alGet hv)⟩
  | none =>
    obtain ⟨h0, hk⟩ := emitTotal_getValue_new h e (gvInst e s.ranges.size)
    obtain ⟨st, ev, er⟩ := emitTotal_readsSt (C02.AEmit.opsOf e)
      (fun a ha => by have := he a ha; simp only [Array.size_push]; omega) h0
    exact ⟨_, _, getValue_ok.2 (Or.inr ⟨hv, fun a ha => Nat.le_of_lt (he a ha), rfl, rfl⟩), hk _ st ev er⟩

/-! ### The `outer_accessed` loop
Potential: `(|outer_accessed| - i) + #stale`, where a value is stale if its `last_use` is unset or below
`current_start`.  Every iteration lowers it: either `i` advances, or `range_extend(var)` is called.  If
that call pushes `var` again (it was stale) the following `swap_remove(i)` restores the length but `var`
is no longer stale (`last_use = insts.len() ≥ current_start`); otherwise `swap_remove(i)` shortens the
vector.  Hence `|outer_accessed| + |ranges| + 1` iterations suffice. -/

def staleLN (s : St w) : Nat := s.ranges.countP (staleL s.currentStart)

theorem staleLN_le (s : St w) : staleLN s ≤ s.ranges.size := by
  unfold staleLN
  exact Array.countP_le_size

/-- `swap_remove(i)`. -/
theorem emitTotal_swapRemove_get {a : Array Nat} {i : Nat} {last : Nat} (hi : i < a.size)
    (idx : Nat) (x : Nat) (h : ((a.setIfInBounds i last).pop)[idx]? = some x) :
    x = last ∨ a[idx]? = some x := by
  rw [Array.getElem?_pop] at h
  split at h
  · rw [Array.getElem?_setIfInBounds] at h
    split at h
    · left; exact (Option.some.inj h).symm
    · right; exact h
  · cases h

theorem bump_not_stale (r : RangeInfo) {to cs : Nat} (h : cs ≤ to) (inc : Nat) :
    staleL cs (C02.AEmit.bump r to inc) = false := by
  simp [staleL, C02.AEmit.bump]
  omega

/-- `range_extend` on a value number, with the entry named. -/
theorem emitTotal_rangeExtend {v : Nat} {s : St w} (hv : v < s.ranges.size) :
    rangeExtend v s = .ok ((),
      { s with
        ranges := s.ranges.setIfInBounds v (C02.AEmit.bump s.ranges[v] s.insts.size 0)
        outerAccessed :=
          if (decide (s.ranges[v].created < s.currentStart) && staleL s.currentStart s.ranges[v]) = true
          then s.outerAccessed.push v else s.outerAccessed }) := by
  refine rangeExtend_ok.2 ⟨hv, ?_⟩
  unfold useSt
  rw [Array.getElem?_eq_getElem hv]
  rfl

theorem emitTotal_outerLoop (ps : Nat) : ∀ (fuel i : Nat) (s : St w), emitTotal_Inv s →
    (s.outerAccessed.size - i) + staleLN s < fuel →
    ∃ s', outerLoop ps fuel i s = .ok ((), s') ∧ emitTotal_Inv s' := by
  intro fuel
  induction fuel with
  | zero => intro i s _ h; omega
  | succ fuel ih =>
    intro i s h hm
    simp only [outerLoop, get_bind]
    by_cases hi : i < s.outerAccessed.size
    · have ho : s.outerAccessed[i]? = some s.outerAccessed[i] := Array.getElem?_eq_getElem hi
      have hvar : s.outerAccessed[i] < s.ranges.size := h.oa i _ ho
      have hr : s.ranges[s.outerAccessed[i]]? = some s.ranges[s.outerAccessed[i]] :=
        Array.getElem?_eq_getElem hvar
      simp only [hi, if_true, ho, hr]
      by_cases hc : s.ranges[s.outerAccessed[i]].created < ps
      · simp only [hc, if_true]
        exact ih (i + 1) s h (by omega)
      · simp only [hc, if_false]
        rw [bind_of_ok (emitTotal_rangeExtend hvar), modify_bind]
        generalize hvdef : s.outerAccessed[i] = var at hvar hr hc
        -- the state after `range_extend(var)`
        generalize hoa1 : (if (decide (s.ranges[var].created < s.currentStart) &&
            staleL s.currentStart s.ranges[var]) = true
          then s.outerAccessed.push var else s.outerAccessed) = oa1
        have hoa1sz : i < oa1.size := by
          rw [← hoa1]; split
          · simp only [Array.size_push]; omega
          · exact hi
        have hoa1el : ∀ (j : Nat) (x : Nat), oa1[j]? = some x → x < s.ranges.size := by
          intro j x hx
          rw [← hoa1] at hx
          split at hx
          · rw [Array.getElem?_push] at hx
            split at hx
            · cases hx; exact hvar
            · exact h.oa j x hx
          · exact h.oa j x hx
        have hback : oa1.back? = some oa1[oa1.size - 1] := by
          rw [Array.back?_eq_getElem?]
          exact Array.getElem?_eq_getElem (by omega)
        simp only [hback]
        apply ih
        · refine ⟨?_, ?_, h.cs⟩
          · intro p hp
            simp only [Array.size_setIfInBounds]
            exact h.vals p hp
          · intro j x hx
            simp only [Array.size_setIfInBounds]
            rcases emitTotal_swapRemove_get hoa1sz j x hx with rfl | hx'
            · exact hoa1el (oa1.size - 1) _ (Array.getElem?_eq_getElem (by omega))
            · exact hoa1el j x hx'
        · -- the potential decreases; from here on only sizes and counts matter (a small context for `omega`)
          clear ih hoa1el hback ho hr hc
          have hns : staleL s.currentStart (C02.AEmit.bump s.ranges[var] s.insts.size 0) = false :=
            bump_not_stale _ h.cs 0
          have hcnt : (s.ranges.setIfInBounds var (C02.AEmit.bump s.ranges[var] s.insts.size 0)).countP
              (staleL s.currentStart)
              = s.ranges.countP (staleL s.currentStart)
                - (if staleL s.currentStart s.ranges[var] then 1 else 0) := by
            rw [Array.setIfInBounds_def]
            simp only [hvar, dite_true]
            rw [Array.countP_set hvar, hns]
            simp
          have hle := Array.boole_getElem_le_countP (p := staleL s.currentStart) hvar
          simp only [staleLN, Array.size_pop, Array.size_setIfInBounds, hcnt] at hm ⊢
          rw [← hoa1]
          cases hst : staleL s.currentStart s.ranges[var]
          · simp only [Bool.and_false, Bool.false_eq_true, if_false, Nat.sub_zero] at hm ⊢
            omega
          · simp only [hst, if_true] at hle
            by_cases hcr : s.ranges[var].created < s.currentStart
            · simp only [hcr, decide_true, Bool.and_self, if_true, Array.size_push]
              omega
            · simp only [hcr, decide_false, Bool.false_and, Bool.false_eq_true, if_false]
              omega
    · simp only [hi, if_false]
      exact ⟨s, (pure_ok _ _ _ _).2 ⟨rfl, rfl⟩, h⟩

/-- The call as it appears in `emit_block`. -/
theorem emitTotal_outerLoop_call (ps numOuter : Nat) {s : St w} (h : emitTotal_Inv s) :
    ∃ s', outerLoop ps (s.outerAccessed.size + s.ranges.size + 1) numOuter s = .ok ((), s') ∧
      emitTotal_Step s s' ∧ s'.insts = s.insts ∧ s'.values = s.values ∧ s'.exprs = s.exprs := by
  obtain ⟨s', h1, h2⟩ := emitTotal_outerLoop ps (s.outerAccessed.size + s.ranges.size + 1) numOuter s h (by
    have := staleLN_le s; omega)
  obtain ⟨hc, hcs⟩ := outerLoop_core ps _ _ h1
  have e1 : s'.insts = s.insts := congrArg G.insts hc
  have e2 : s'.values = s.values := congrArg G.values hc
  have e3 : s'.exprs = s.exprs := congrArg G.exprs hc
  have e4 : s'.ranges.size = s.ranges.size := congrArg G.n hc
  exact ⟨s', h1, ⟨h2, Nat.le_of_eq e4.symm, Nat.le_of_eq (by rw [e1]), hcs⟩, e1, e2, e3⟩

section Expr
open AEmit

theorem emitTotal_getValue_tr (s0 : St w) (e : GvnExpr w) (s : St w) (hk : emitTotal_Step s0 s)
    (ho : ∀ a ∈ opsOf e, a < s.ranges.size) :
    Tr true (getValue e) s (fun v s' =>
      WalkU (emitTotal_Step s0) (fun a x => x < a.ranges.size) (fun _ _ => False) s (opsOf e) [v] s') :=
  (tr_true.2 (emitTotal_getValue e hk.inv ho)).mono fun v _ _ r =>
    ⟨emitTotal_Step_trans hk r.1, fun x hx => by rw [List.mem_singleton.1 hx]; exact r.2,
      fun _ ha => Nat.lt_of_lt_of_le ha r.1.rs, fun _ f => f.elim⟩

theorem emitTotal_memWrite (var : Int) {value : Nat} {s : St w} (h : emitTotal_Inv s)
    (hv : value < s.ranges.size) :
    ∃ s', memWrite var value s = .ok ((), s') ∧ emitTotal_Step s s' ∧ s'.ranges.size = s.ranges.size := by
  obtain ⟨s1, r1, st1, _, z1, _⟩ := emitTotal_read hv h
  unfold memWrite
  rw [bind_of_ok r1]
  refine ⟨_, (modify_ok _ _ _ _).2 rfl, ⟨⟨?_, st1.inv.oa, ?_⟩, st1.rs, ?_, st1.cs⟩, z1⟩
  · intro p hp
    rcases mem_alSet hp with hp | hp
    · rw [hp, z1]; exact hv
    · exact st1.inv.vals p hp
  · have := st1.inv.cs; simp only [Array.size_push]; omega
  · have := st1.is; simp only [Array.size_push]; omega

theorem emitTotal_memWrite_tr (s0 : St w) (var : Int) (x : Nat) (s : St w) (hk : emitTotal_Step s0 s)
    (hx : x < s.ranges.size) :
    Tr true (memWrite var x) s (fun _ s' =>
      WalkU (emitTotal_Step s0) (fun a x => x < a.ranges.size) (fun _ _ => False) s [x] [] s') := by
  obtain ⟨s', h1, st, z⟩ := emitTotal_memWrite var hk.inv hx
  exact Tr.of_ok h1 ⟨emitTotal_Step_trans hk st, fun _ h => (by cases h), fun _ ha => Nat.lt_of_lt_of_le ha st.rs,
    fun _ f => f.elim⟩

theorem emitTotal_calc (calcs : List (Int × Expr w)) {s : St w} (h : emitTotal_Inv s) :
    Tr true (calcValues calcs) s (fun vals s1 => Tr true (memWrites vals) s1 (fun _ s' => emitTotal_Step s s')) :=
  (calcValues_tr (emitTotal_getValue_tr s) calcs (emitTotal_Step_refl h)).mono fun vals _ _ w1 =>
    (memWrites_tr (emitTotal_memWrite_tr s) vals w1.k (fun p hp => w1.res p.2 (List.mem_map_of_mem hp))).mono
      fun _ _ _ w2 => w2.k

end Expr

/-! ### The induction over `emit_block` -/

theorem emitTotal_Inv_mod {s s1 : St w} (h : emitTotal_Inv s) (hr : s1.ranges.size = s.ranges.size)
    (ho : s1.outerAccessed = s.outerAccessed) (hv : ∀ p ∈ s1.values, p ∈ s.values)
    (hc : s1.currentStart ≤ s1.insts.size) : emitTotal_Inv s1 :=
  ⟨fun p hp => by rw [hr]; exact h.vals p (hv p hp), fun i x hx => by rw [hr]; rw [ho] at hx; exact h.oa i x hx, hc⟩

section
variable {ps : Nat} {cond shift : Int} {sub : Analysis} {s : St w}

theorem emitTotal_bodySt (isLoop once : Bool) (h : emitTotal_Inv s) :
    emitTotal_Inv (bodySt isLoop once sub s) ∧ s.insts.size ≤ (bodySt isLoop once sub s).insts.size := by
  have hcs := h.cs
  have hv : ∀ p ∈ (lhHead isLoop sub s).values, p ∈ s.values := by
    intro p hp
    cases isLoop
    · exact hp
    · exact mem_headVals hp
  cases isLoop <;> cases once <;>
    refine ⟨emitTotal_Inv_mod h rfl rfl hv ?_, ?_⟩ <;>
    simp [bodySt, lhHead, lhPro] <;> omega

theorem emitTotal_lhMov {sb : St w} (h : emitTotal_Inv sb) :
    emitTotal_Inv (lhMov shift sb) ∧ sb.insts.size ≤ (lhMov shift sb).insts.size := by
  have hcs := h.cs
  unfold lhMov
  split
  · exact ⟨h, Nat.le_refl _⟩
  · exact ⟨emitTotal_Inv_mod h rfl rfl (fun _ hp => hp) (by simp; omega), by simp⟩

theorem emitTotal_endSt (isLoop once : Bool) {so : St w} (h : emitTotal_Inv so) (hps : ps ≤ so.insts.size) :
    emitTotal_Inv (endSt ps isLoop once cond sub s so) ∧
      so.insts.size ≤ (endSt ps isLoop once cond sub s so).insts.size := by
  cases isLoop <;> cases once <;>
    refine ⟨emitTotal_Inv_mod h rfl rfl (fun _ hp => mem_exitVals hp) ?_, ?_⟩ <;>
    simp [endSt, lhExit, lhPatch, lhBrnz] <;> omega

end

/-- `ps` is the `current_start` on entry of the block; `endSt` restores it, so it has to be a position. -/
def emitTotal_J (_ : Unit) (ps : Nat) (_ : Analysis) (_ : List (Ir.Instr w)) (s : St w) : Prop :=
  emitTotal_Inv s ∧ ps ≤ s.insts.size

theorem closedT_total (fuse : Bool) : ClosedT true fuse (emitTotal_J (w := w)) where
  out _ ps _ src _ s h :=
    ⟨emitTotal_Inv_mod h.1 rfl rfl (fun _ hp => hp) (by have := h.1.cs; simp; omega), by have := h.2; simp; omega⟩
  inp _ ps _ dst _ s h :=
    ⟨emitTotal_Inv_mod h.1 rfl rfl (fun _ hp => mem_alErase hp) (by have := h.1.cs; simp; omega),
      by have := h.2; simp; omega⟩
  calcR _ ps _ calcs _ s h :=
    (emitTotal_calc calcs h.1).mono fun _ _ _ h1 => h1.mono fun _ _ _ st => ⟨st.inv, Nat.le_trans h.2 st.is⟩
  scan _ ps _ cond shift once _ s _ h :=
    ⟨emitTotal_Inv_mod h.1 rfl rfl (fun _ hp => mem_headVals (mem_exitVals hp))
      (by have := h.1.cs; simp [scanSt, lhHead, lhExit]; omega), by have := h.2; simp [scanSt, lhHead, lhExit]; omega⟩
  loop _ ps _ cond shift body once _ s _ h := by
    obtain ⟨i0, z0⟩ := emitTotal_bodySt (sub := subOf shift body) true once h.1
    refine ⟨(), ⟨i0, i0.cs⟩, fun sb _ jb pb => ?_⟩
    obtain ⟨im, zm⟩ := emitTotal_lhMov (shift := shift) jb.1
    obtain ⟨so, ho, st, e, _⟩ := emitTotal_outerLoop_call ps s.outerAccessed.size im
    have hps : ps ≤ so.insts.size := by have := h.2; have := pb.1; rw [e]; omega
    obtain ⟨ie, ze⟩ := emitTotal_endSt (cond := cond) (sub := subOf shift body) (s := s) true once st.inv hps
    exact Tr.of_ok ho ⟨ie, Nat.le_trans hps ze⟩
  ifz _ ps _ cond shift body _ s h := by
    obtain ⟨i0, z0⟩ := emitTotal_bodySt (sub := subOf shift body) false false h.1
    refine ⟨(), ⟨i0, i0.cs⟩, fun sb _ jb pb => ?_⟩
    obtain ⟨im, zm⟩ := emitTotal_lhMov (shift := shift) jb.1
    have hps : ps ≤ (lhMov shift sb).insts.size := by have := h.2; have := pb.1; omega
    obtain ⟨ie, ze⟩ := emitTotal_endSt (cond := cond) (sub := subOf shift body) (s := s) false false im hps
    exact ⟨ie, Nat.le_trans hps ze⟩

theorem emitTotal_emitInsts (fuse : Bool) (l : List (Ir.Instr w)) (ps : Nat) (s : St w) (h : emitTotal_Inv s)
    (hps : ps ≤ s.insts.size) : ∃ s', emitInsts fuse ps l (subsOf l) s = .ok ((), s') ∧ emitTotal_Inv s' := by
  obtain ⟨⟨⟩, s', h1, h2, _⟩ :=
    tr_true.1 (emitInsts_tr (closedT_total fuse) _ l (Nat.le_refl _) () Analysis.empty ps s ⟨h, hps⟩)
  exact ⟨s', h1, h2.1⟩

theorem emitTotal_init : emitTotal_Inv ({} : St w) :=
  ⟨fun _ hp => absurd hp List.not_mem_nil, fun i x hx => by simp at hx, Nat.le_refl _⟩

end C02
end Hpbf
