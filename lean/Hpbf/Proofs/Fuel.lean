/-
Step machines with fuel.  Each interpreter (`Bf`, `Inplace`, `Ir`, `Bc`, the x86 machine) defines its own
`runCfg : Nat → C → O` by iterating a step function until the fuel is spent (`oof c`) or a step does not continue.
`FuelRun nx oof run` says just that, with `nx c c'` for "a step from `c` continues with `c'`"; what holds of such a run
whatever the machine is proved here, directly about the machine's own `runCfg`.  The instances stand with the
machines' first users: `Bf.fuelRun` below, `Ir.fuelRun` in IrStep, `Inplace.fuelRun` in C04, `Bc.fuelRun` in C11Step,
`X86Prog.fuelRun` in C03FlowBase, and `Sim.fuelRun` in C01Sim (for `runC`, whose outcome type is the step-result type:
`oof = .next`); beside each stand the equations `X.runCfg_succ_*` (what `runCfg (f + 1)` is after each kind of step) that
its users rewrite with.
-/
import Hpbf.Bf

namespace Hpbf

structure FuelRun {C O : Type} (nx : C → C → Prop) (oof : C → O) (run : Nat → C → O) : Prop where
  zero : ∀ c, run 0 c = oof c
  next : ∀ {c c'}, nx c c' → ∀ f, run (f + 1) c = run f c'
  /-- A step that does not continue ends the run with a result that is not `oof _`, whatever fuel is left. -/
  final : ∀ c, (∃ c', nx c c') ∨ ∃ o, (∀ f, run (f + 1) c = o) ∧ ∀ c', o ≠ oof c'
  /-- Lets `split` read the configuration off `run m c = oof c'`; with `next` it also makes the successor unique. -/
  inj : ∀ {c c'}, oof c = oof c' → c = c'

namespace FuelRun

variable {C O : Type} {nx : C → C → Prop} {oof : C → O} {run : Nat → C → O}

theorem one (M : FuelRun nx oof run) {c c' : C} (h : nx c c') : run 1 c = oof c' := by
  rw [M.next h, M.zero]

theorem split (M : FuelRun nx oof run) {m : Nat} {c c' : C} (h : run m c = oof c') (n : Nat) :
    run (m + n) c = run n c' := by
  induction m generalizing c with
  | zero => rw [M.zero] at h; rw [M.inj h, Nat.zero_add]
  | succ m ih =>
    rw [Nat.add_right_comm]
    rcases M.final c with ⟨c1, h1⟩ | ⟨o, ho, hne⟩
    · rw [M.next h1] at h ⊢; exact ih h
    · exact (hne c' (ho m ▸ h)).elim

theorem add (M : FuelRun nx oof run) {f : Nat} {c : C} (h : ∀ c', run f c ≠ oof c') (g : Nat) :
    run (f + g) c = run f c := by
  induction f generalizing c with
  | zero => exact (h c (M.zero c)).elim
  | succ f ih =>
    rw [Nat.add_right_comm]
    rcases M.final c with ⟨c1, h1⟩ | ⟨o, ho, _⟩
    · rw [M.next h1] at h; rw [M.next h1, M.next h1]; exact ih h
    · rw [ho, ho]

theorem mono (M : FuelRun nx oof run) {f f' : Nat} {c : C} (h : ∀ c', run f c ≠ oof c') (hf : f ≤ f') :
    run f' c = run f c := by
  obtain ⟨g, rfl⟩ : ∃ g, f' = f + g := ⟨f' - f, by omega⟩
  exact M.add h g

theorem det (M : FuelRun nx oof run) {f f' : Nat} {c : C} (h : ∀ c', run f c ≠ oof c')
    (h' : ∀ c', run f' c ≠ oof c') : run f c = run f' c := by
  rcases Nat.le_total f f' with hle | hle
  · exact (M.mono h hle).symm
  · exact M.mono h' hle

theorem oof_of_le (M : FuelRun nx oof run) {f f' : Nat} {c c' : C} (h : run f' c = oof c') (hf : f ≤ f') :
    ∃ c'', run f c = oof c'' := by
  induction f generalizing c f' with
  | zero => exact ⟨c, M.zero c⟩
  | succ f ih =>
    obtain ⟨g, rfl⟩ : ∃ g, f' = g + 1 := ⟨f' - 1, by omega⟩
    rcases M.final c with ⟨c1, h1⟩ | ⟨o, ho, hne⟩
    · rw [M.next h1] at h ⊢; exact ih h (by omega)
    · exact (hne c' (ho g ▸ h)).elim

/-- A run that has returned made a last step, from a configuration reached with less fuel. -/
theorem last (M : FuelRun nx oof run) {f : Nat} {c : C} (h : ∀ c', run f c ≠ oof c') :
    ∃ n c', n < f ∧ run n c = oof c' ∧ ∀ g, run (g + 1) c' = run f c := by
  induction f generalizing c with
  | zero => exact (h c (M.zero c)).elim
  | succ f ih =>
    rcases M.final c with ⟨c1, h1⟩ | ⟨o, ho, _⟩
    · rw [M.next h1] at h ⊢
      obtain ⟨n, c', hn, hr, hg⟩ := ih h
      exact ⟨n + 1, c', by omega, by rw [M.next h1]; exact hr, hg⟩
    · exact ⟨0, c, Nat.succ_pos _, M.zero c, fun g => by rw [ho, ho]⟩

/-- A measure that falls with every continuing step (under an invariant) bounds the length of the run. -/
theorem halts (M : FuelRun nx oof run) {I : C → Prop} {μ : C → Nat}
    (hμ : ∀ {c c'}, I c → nx c c' → I c' ∧ μ c' < μ c) {f : Nat} {c : C} (hc : I c) (hf : μ c < f) (c' : C) :
    run f c ≠ oof c' := by
  induction f generalizing c with
  | zero => omega
  | succ f ih =>
    rcases M.final c with ⟨c1, h1⟩ | ⟨o, ho, hne⟩
    · rw [M.next h1]
      obtain ⟨hi, hlt⟩ := hμ hc h1
      exact ih hi (by omega)
    · rw [ho]; exact hne c'

/-- An observation (the events so far) that every step extends: a run with more fuel extends it. -/
theorem obs_add (M : FuelRun nx oof run) {α : Type} (tr : O → List α)
    (hstep : ∀ c, tr (oof c) <:+ tr (run 1 c)) (f g : Nat) (c : C) :
    tr (run f c) <:+ tr (run (f + g) c) := by
  have start : ∀ g c, tr (oof c) <:+ tr (run g c) := by
    intro g
    induction g with
    | zero => intro c; rw [M.zero]; exact List.suffix_refl _
    | succ g ih =>
      intro c
      rcases M.final c with ⟨c1, h1⟩ | ⟨o, ho, _⟩
      · have := hstep c
        rw [M.next h1, M.zero] at this
        rw [M.next h1]; exact this.trans (ih c1)
      · have := hstep c
        rwa [ho 0, ← ho g] at this
  induction f generalizing c with
  | zero => rw [Nat.zero_add, M.zero]; exact start g c
  | succ f ih =>
    rw [Nat.add_right_comm]
    rcases M.final c with ⟨c1, h1⟩ | ⟨o, ho, _⟩
    · rw [M.next h1, M.next h1]; exact ih c1
    · rw [ho, ho]; exact List.suffix_refl _

end FuelRun

theorem Bf.fuelRun {w : Nat} : FuelRun (fun c c' : Bf.Config w => Bf.step c = .next c') .outOfFuel Bf.runCfg where
  zero _ := rfl
  next h f := by simp only [Bf.runCfg, h]
  final c := by
    cases h : Bf.step c with
    | next c' => exact .inl ⟨c', rfl⟩
    | halt s => exact .inr ⟨.done s, fun f => by simp only [Bf.runCfg, h], fun _ e => by cases e⟩
    | stop s => exact .inr ⟨.stopped s, fun f => by simp only [Bf.runCfg, h], fun _ e => by cases e⟩
  inj h := Bf.Outcome.outOfFuel.inj h

/-! What `runCfg (f + 1)` is after each kind of step.  Every machine has these beside its instance, as `X.runCfg_succ_*`. -/

theorem Bf.runCfg_succ_next {w : Nat} {c c' : Bf.Config w} (h : Bf.step c = .next c') (f : Nat) :
    Bf.runCfg (f + 1) c = Bf.runCfg f c' := Bf.fuelRun.next h f

theorem Bf.runCfg_succ_halt {w : Nat} {c : Bf.Config w} {s : State w} (h : Bf.step c = .halt s) (f : Nat) :
    Bf.runCfg (f + 1) c = .done s := by
  simp only [Bf.runCfg, h]

theorem Bf.runCfg_succ_stop {w : Nat} {c : Bf.Config w} {s : State w} (h : Bf.step c = .stop s) (f : Nat) :
    Bf.runCfg (f + 1) c = .stopped s := by
  simp only [Bf.runCfg, h]

end Hpbf
