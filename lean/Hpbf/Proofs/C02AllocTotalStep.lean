/-
C02 / C13 (`allocate_temps` is total): one round of the loop keeps `TInv` (`tinv_step`) and succeeds
(`alloc_step_total`).
-/
import Hpbf.Proofs.C02AllocTotalInv
set_option linter.unusedSimpArgs false

namespace Hpbf
namespace C02
namespace Alloc

open Bc BcWf BcGen C11

variable {w : Nat} {s : St w}

theorem mem_uses_mkArith {op : BcGen.Op} {d s0 s1 : Loc w} {t : Nat} :
    t ∈ BcWf.uses (mkArith op d s0 s1) ↔ s0 = .tmp t ∨ s1 = .tmp t := by
  have key : ∀ l : Loc w, t ∈ locTmp l ↔ l = .tmp t := by
    intro l
    cases l <;> simp [locTmp, eq_comm]
  rw [uses_mkArith, List.mem_append, key, key]

/-- What is known after step 1 of round `k` (`b` = state, `atf0` = temporaries about to be released): `TInv`,
except that the temporaries in `atf0` keep their table entry without a heap entry; none of them is read later. -/
structure DrainFacts (s : St w) (numRegs k : Nat) (b : ASt w) (atf0 : List Nat) : Prop where
  complete : ∀ (j : Nat) (x : Instr w) (t : Nat) (r : RangeInfo), k ≤ j → b.st.insts[j]? = some x →
    t ∈ BcWf.uses x → s.ranges[t]? = some r → r.created < k → ∃ l, alGet b.repl t = some l
  fusedLast : ∀ (f : Nat) (op : BcGen.Op) (m : Int) (t' : Nat) (s0 s1 : Loc w) (t : Nat),
    Fused s k b f op m t' s0 s1 → (s0 = .tmp t ∨ s1 = .tmp t) →
    ∃ (r : RangeInfo) (L : Nat), b.st.ranges[t]? = some r ∧ r.lastUse = some L ∧ f ≤ L
  heapRange : HeapRange b
  kept : ∀ t l, alGet b.repl t = some l → (∃ e, (e, t) ∈ b.nre) ∨ t ∈ atf0
  heapBound : ∀ e t, (e, t) ∈ b.nre → k < e ∧ e < s.insts.size
  sorted : SortedE b.nre
  freeLt : ∀ r ∈ b.freeRegs, r < numRegs
  rangeLt : ∀ (t : Nat) (r : RangeInfo) (L : Nat), b.st.ranges[t]? = some r → r.lastUse = some L →
    L < s.insts.size
  noread : ∀ t ∈ atf0, ∀ (j : Nat) (x : Instr w), k + 1 ≤ j → b.st.insts[j]? = some x → t ∉ BcWf.uses x

theorem drain_round (hp : AllocPre s) {numRegs k : Nat} {a : ASt w} (hI : PassInv s k a)
    (hT : TInv s numRegs k a) :
    ∃ atf0 b, drainEnds k (2 * a.nre.length + 2) [] a = .ok (atf0, b) ∧ PassInv s k b ∧
      (∀ t ∈ atf0, DeadAt s k t) ∧ DrainFacts s numRegs k b atf0 := by
  obtain ⟨atf0, b, hd, D1, D2, D3, _⟩ := drainEnds_total (i := k) (2 * a.nre.length + 2) [] a hT.sorted
    hT.heapRange (Nat.lt_succ_of_le (Nat.le_succ_of_le (muE_le k (luOf a) a.nre)))
  obtain ⟨d1, d2, d3⟩ := drainEnds_ok _ hd
  replace d3 := fun t ht => (d3 t ht).resolve_left List.not_mem_nil
  obtain ⟨hb, hdead⟩ := passInv_drain hI d1 d2 d3
  refine ⟨atf0, b, hd, hb, hdead, ?_⟩
  -- every entry of the new heap stems from an old entry with an end that is not later
  have hent : ∀ e t, Ent a (e, t) → ∃ e0, e0 ≤ e ∧ (e0, t) ∈ a.nre ∧ e < s.insts.size := by
    intro e t he
    rcases he with h | ⟨e0, r, h1, h2, h3, h4⟩
    · exact ⟨e, Nat.le_refl _, h, (hT.heapBound e t h).2⟩
    · exact ⟨e0, Nat.le_of_lt h4, h1, hT.rangeLt t r e h2 h3⟩
  refine ⟨?_, ?_, ?_, ?_, ?_, D1, ?_, ?_, ?_⟩
  · rw [d1.st, d1.repl]; exact hT.complete
  · intro f op m t' s0 s1 t hFu hs
    rw [d1.st]
    exact hT.fusedLast f op m t' s0 s1 t (fused_mono hFu hFu.1 (by rw [d1.st])) hs
  · intro e t h
    obtain ⟨e0, _, g, _⟩ := hent e t (d2 _ h)
    rw [d1.st]
    exact hT.heapRange e0 t g
  · intro t l hl
    rw [d1.repl] at hl
    obtain ⟨e, he⟩ := hT.replHeap t l hl
    exact D3 e t he
  · intro e t h
    exact ⟨D2 e t h, (hent e t (d2 _ h)).choose_spec.2.2⟩
  · rw [d1.freeRegs]; exact hT.freeLt
  · rw [d1.st]; exact hT.rangeLt
  · intro t ht j x hj hx hu
    rw [d1.st] at hx
    obtain ⟨e, r, L, hE, hek, hr, hL, hLe⟩ := d3 t ht
    obtain ⟨e0, he0, hmem, _⟩ := hent e t hE
    obtain ⟨r0, g1, g2, g3⟩ := hI.heap e0 t hmem
    rcases hI.fut j (Nat.le_of_succ_le hj) with hsame | ⟨op, m, t', s0, s1, hFu⟩
    · obtain ⟨r1, L1, p1, p2, p3, p4⟩ := hp.uses j x t (by rw [← hsame]; exact hx) hu
      rw [g1] at p1; cases p1
      exact absurd (Nat.le_trans p4 (Nat.le_trans (g3 L1 p2) (Nat.le_trans he0 hek))) (Nat.not_le.2 hj)
    · have h2 := hFu.2.2
      rw [hx] at h2; cases h2
      obtain ⟨r', L', q1, q2, q3⟩ := hT.fusedLast j op m t' s0 s1 t hFu (mem_uses_mkArith.1 hu)
      rw [hr] at q1; cases q1
      rw [hL] at q2; cases q2
      exact absurd (Nat.le_trans q3 (Nat.le_trans hLe hek)) (Nat.not_le.2 hj)

theorem read_in_input {k : Nat} {b : ASt w} (hb : PassInv s k b) {j : Nat} {x : Instr w} {t : Nat} (hj : k ≤ j)
    (hx : b.st.insts[j]? = some x) (ht : t ∈ BcWf.uses x) :
    ∃ (j' : Nat) (y : Instr w), s.insts[j']? = some y ∧ t ∈ BcWf.uses y := by
  rcases hb.fut j hj with hsame | ⟨op, m, t', s0, s1, hFu⟩
  · exact ⟨j, x, by rw [← hsame]; exact hx, ht⟩
  · have h2 := hFu.2.2
    rw [hx] at h2; cases h2
    obtain ⟨i, r, L, g1, _⟩ := hb.fused _ _ _ _ _ _ hFu
    exact ⟨i, _, g1, mem_uses_mkArith.2 (mem_uses_mkArith.1 ht)⟩

theorem created_here (hp : TotalPre s) {k : Nat} {b : ASt w} (hb : PassInv s k b) {j : Nat} {x : Instr w} {t : Nat}
    (hj : k ≤ j) (hx : b.st.insts[j]? = some x) (ht : t ∈ BcWf.uses x) {r : RangeInfo}
    (hr : s.ranges[t]? = some r) (hc : r.created = k) :
    ∃ y, s.insts[k]? = some y ∧ dstTmp? y = some t ∧ r.numUses ≠ 0 := by
  obtain ⟨j', y', hy', hu'⟩ := read_in_input hb hj hx ht
  obtain ⟨r', y, g1, g2, g3⟩ := hp.defAt j' y' t hy' hu'
  rw [hr] at g1; cases g1
  rw [hc] at g2
  exact ⟨y, g2, g3, fun h0 => hp.unread t r hr h0 j' y' hy' hu'⟩

/-- An instruction with a destination temporary has not been replaced by a moved computation. -/
theorem fut_dst {k : Nat} {b : ASt w} (hb : PassInv s k b) {x y : Instr w} {t : Nat}
    (hd : dstTmp? x = some t ∨ dstTmp? y = some t) (hx : b.st.insts[k]? = some x) (hy : s.insts[k]? = some y) :
    x = y := by
  rcases hb.fut k (Nat.le_refl _) with hsame | ⟨op, m, t', s0, s1, hFu⟩
  · rw [hx, hy] at hsame; exact Option.some.inj hsame
  · have h1 := hFu.2.1
    have h2 := hFu.2.2
    rw [hy] at h1; cases h1
    rw [hx] at h2; cases h2
    rw [dstTmp?_mkArith] at hd
    rcases hd with hd | hd <;> cases hd

/-- The destination temporary of the current instruction: the instruction is that of the input, the entry in the
current table is the original one, and the range lies after `k`. -/
theorem dst_range (hp : TotalPre s) {k : Nat} {b : ASt w} (hb : PassInv s k b) {cur : Instr w} {t : Nat}
    (hi0 : b.st.insts[k]? = some cur) (hd : dstTmp? cur = some t) :
    s.insts[k]? = some cur ∧ ∃ (r : RangeInfo) (f L : Nat), s.ranges[t]? = some r ∧ b.st.ranges[t]? = some r ∧
      r.created = k ∧ r.firstUse = some f ∧ r.lastUse = some L ∧ k < f ∧ f ≤ L := by
  have hk : k < s.insts.size := by rw [← hb.isize]; exact lt_of_getElem? hi0
  have hPk : s.insts[k]? = some cur := by
    rw [Array.getElem?_eq_getElem hk, ← fut_dst hb (Or.inl hd) hi0 (Array.getElem?_eq_getElem hk)]
  obtain ⟨r, f, L, g1, g2, g3, g4, g5⟩ := hp.defd k cur t hPk hd
  obtain ⟨rd, gd1, gd2⟩ := hp.pre.defs k cur t hPk (mem_defs_of_dstTmp? hd)
  rw [g1] at gd1; cases gd1
  obtain ⟨r', q1, _, _, q4⟩ := hb.rkeep t r g1
  rw [q4 (Nat.le_of_eq gd2.symm)] at q1
  exact ⟨hPk, r, f, L, g1, q1, gd2, g2, g3, g4, g5⟩

theorem tinv_nofuse (hp : TotalPre s) {numRegs k : Nat} {b a' : ASt w} {atf0 : List Nat} {cur new : Instr w}
    {can : Bool} {live : Nat} {u : Unit} (hb : PassInv s k b) (DF : DrainFacts s numRegs k b atf0)
    (hi0 : b.st.insts[k]? = some cur) (hn : rwInst b.repl cur = .ok new)
    (hD : phDst k can (pushLive (freeList numRegs atf0 (b.setI k new)) live) = .ok (u, a')) :
    TInv s numRegs (k + 1) a' := by
  obtain ⟨hcrng, hcins, hcnre, hcrepl, -⟩ :=
    freed_fields numRegs atf0 live (passInv_rewrite hb hi0 hn).regs (c := b.setI k new)
  have hcfree : ∀ r ∈ (pushLive (freeList numRegs atf0 (b.setI k new)) live).freeRegs, r < numRegs :=
    freeList_freeRegs_lt atf0 DF.freeLt
  have hx3 : (pushLive (freeList numRegs atf0 (b.setI k new)) live).st.insts[k]? = some new := by
    rw [hcins, getElem?_setI, if_pos ⟨rfl, lt_of_getElem? hi0⟩]
  obtain ⟨f3, -, f1, f2, f4⟩ := phDst_sum hD hx3
  generalize pushLive (freeList numRegs atf0 (b.setI k new)) live = c at *
  -- of the four cases only this: heap and table stay (destination, if any, never read), or `t` gets an entry
  replace f4 : (a'.nre = c.nre ∧ a'.repl = c.repl ∧ ∀ (t : Nat) (r : RangeInfo), dstTmp? new = some t →
        c.st.ranges[t]? = some r → r.numUses = 0 ∨ r.lastUse = none) ∨
      ∃ (t : Nat) (r : RangeInfo) (L : Nat) (l : Loc w), dstTmp? new = some t ∧ c.st.ranges[t]? = some r ∧
        r.lastUse = some L ∧ a'.nre = nrePush (L, t) c.nre ∧ a'.repl = alSet c.repl t l := by
    rcases f4 with ⟨hn, _, e1, e2⟩ | ⟨t, ht, ⟨_, e1, e2, h0⟩ | ⟨_, _, _, _, e1, r, L, hr, hL, e2⟩ |
        ⟨_, _, e1, r, L, hr, hL, e2⟩⟩
    · exact Or.inl ⟨e2, e1, fun t r ht => by rw [hn] at ht; cases ht⟩
    · exact Or.inl ⟨e2, e1, fun t' r' ht' hr' => by rw [ht] at ht'; cases ht'; exact h0 r' hr'⟩
    · exact Or.inr ⟨t, r, L, _, ht, hr, hL, e2, e1⟩
    · exact Or.inr ⟨t, r, L, _, ht, hr, hL, e2, e1⟩
  replace hcrng : c.st.ranges = b.st.ranges := hcrng
  replace hcnre : c.nre = b.nre := hcnre
  replace hcrepl : ∀ t, alGet c.repl t = if t ∈ atf0 then none else alGet b.repl t := hcrepl
  have hrng : a'.st.ranges = b.st.ranges := f1.trans hcrng
  have hins : ∀ j, j ≠ k → a'.st.insts[j]? = b.st.insts[j]? := by
    intro j hj
    rw [f3 j hj, hcins, getElem?_setI_ne b hj]
  -- `dstTmp?` is not changed by the rewriting
  obtain ⟨_, _, hnd⟩ := rwInst_facts hn (fun t v g => (hb.replDom t v g).1) (hb.skel k cur hi0).1
  have hkeep : ∀ t l, alGet b.repl t = some l → t ∉ atf0 → ∃ l', alGet a'.repl t = some l' := by
    intro t l hl hna
    have hc : alGet c.repl t = some l := by rw [hcrepl, if_neg hna]; exact hl
    rcases f4 with ⟨_, e, _⟩ | ⟨t0, r0, L, l0, _, _, _, _, e⟩
    · exact ⟨l, by rw [e]; exact hc⟩
    · rw [e, alGet_alSet]
      split
      · exact ⟨_, rfl⟩
      · exact ⟨l, hc⟩
  have hheap : ∀ t l, alGet c.repl t = some l → ∃ e, (e, t) ∈ b.nre := by
    intro t l hc
    rw [hcrepl] at hc
    split at hc
    · cases hc
    · rename_i hna
      exact (DF.kept t l hc).resolve_right hna
  refine ⟨?_, ?_, ?_, ?_, ?_, ?_, fun r hr => hcfree r (f2 r hr), by rw [hrng]; exact DF.rangeLt⟩
  · intro j x t r hj hx ht hr hcr
    have hxb : b.st.insts[j]? = some x := by rw [← hins j (Nat.ne_of_gt hj)]; exact hx
    by_cases hck : r.created = k
    · -- `t` is the destination of the current instruction: it gets its location in step 7
      obtain ⟨y, hy, hdy, hnu⟩ := created_here hp hb (Nat.le_of_succ_le hj) hxb ht hr hck
      cases fut_dst hb (Or.inr hdy) hi0 hy
      obtain ⟨_, r', f, L, g1, g2, _, _, hL, _⟩ := dst_range hp hb hi0 hdy
      rw [hr] at g1; cases g1
      rw [← hnd] at hdy
      rcases f4 with ⟨_, _, hno⟩ | ⟨t0, r0, L0, l0, e0, _, _, _, e⟩
      · rcases hno t r hdy (by rw [hcrng]; exact g2) with h0 | h0
        · exact absurd h0 hnu
        · rw [hL] at h0; cases h0
      · rw [hdy] at e0; cases e0
        exact ⟨l0, by rw [e, alGet_alSet_self]⟩
    · obtain ⟨l, hl⟩ := DF.complete j x t r (Nat.le_of_succ_le hj) hxb ht hr
        (Nat.lt_of_le_of_ne (Nat.le_of_lt_succ hcr) hck)
      exact hkeep t l hl (fun hm => DF.noread t hm j x hj hxb ht)
  · intro f op m t' s0 s1 t hFu hs
    rw [hrng]
    exact DF.fusedLast f op m t' s0 s1 t
      (fused_mono hFu (Nat.le_of_succ_le hFu.1) (hins f (Nat.ne_of_gt hFu.1)).symm) hs
  · intro e t h
    rw [hrng]
    rcases f4 with ⟨e1, _⟩ | ⟨t0, r0, L, l0, _, hr0, hL, e1, _⟩
    · rw [e1, hcnre] at h; exact DF.heapRange e t h
    · rw [e1, hcnre, mem_nrePush] at h
      rcases h with h | h
      · cases h
        exact ⟨r0, _, by rw [← hcrng]; exact hr0, hL⟩
      · exact DF.heapRange e t h
  · intro t l hl
    rcases f4 with ⟨e1, e2, _⟩ | ⟨t0, r0, L, l0, _, _, _, e1, e2⟩
    · rw [e1, hcnre]; exact hheap t l (by rw [← e2]; exact hl)
    · rw [e2, alGet_alSet] at hl
      rw [e1, hcnre]
      split at hl
      · rename_i e; subst e
        exact ⟨L, mem_nrePush.2 (Or.inl rfl)⟩
      · obtain ⟨e, he⟩ := hheap t l hl
        exact ⟨e, mem_nrePush.2 (Or.inr he)⟩
  · intro e t h
    rcases f4 with ⟨e1, _⟩ | ⟨t0, r0, L, l0, hd0, hr0, hL, e1, _⟩
    · rw [e1, hcnre] at h; exact DF.heapBound e t h
    · rw [e1, hcnre, mem_nrePush] at h
      rcases h with h | h
      · cases h
        obtain ⟨_, r, f, L1, g1, g2, _, _, g5, g6, g7⟩ := dst_range hp hb hi0 (hnd ▸ hd0)
        rw [hcrng, g2] at hr0; cases hr0
        rw [g5] at hL; cases hL
        exact ⟨Nat.lt_of_lt_of_le g6 g7, hp.lastLt t _ _ g1 g5⟩
      · exact DF.heapBound e t h
  · rcases f4 with ⟨e1, _⟩ | ⟨t0, r0, L, l0, _, _, _, e1, _⟩
    · rw [e1, hcnre]; exact DF.sorted
    · rw [e1, hcnre]; exact sortedE_nrePush DF.sorted

theorem tinv_moved (hp : TotalPre s) {numRegs k : Nat} {b a' : ASt w} {atf0 atf : List Nat}
    {live : Nat} (hb : PassInv s k b) (DF : DrainFacts s numRegs k b atf0)
    (hdead : ∀ t ∈ atf0, DeadAt s k t)
    {op : BcGen.Op} {t : Nat} {s0 s1 : Loc w} {L f : Nat} {m : Int} {src : Loc w} {aF : ASt w}
    (M : Moved k atf0 b op t s0 s1 L f m src atf aF)
    (ha' : a' = pushLive (freeList numRegs atf aF) live) :
    TInv s numRegs (k + 1) a' := by
  have hpa := hp.pre
  have hcF := passInv_moved hpa hb hdead M
  obtain ⟨hPk, hkf, rfl, hPf, r, gt1, e2, _, e3, e4⟩ := M.input hpa hb
  have hi0 := M.inst
  subst ha'
  obtain ⟨hst', hins', hnre', hrepl', -⟩ := freed_fields numRegs atf live hcF.regs (c := aF)
  have hfree' : ∀ r ∈ (pushLive (freeList numRegs atf aF) live).freeRegs, r < numRegs :=
    freeList_freeRegs_lt atf (by rw [M.freeRegs]; exact DF.freeLt)
  generalize pushLive (freeList numRegs atf aF) live = A' at *
  have hreplF := M.repl
  have hfF : aF.st.insts[f]? = some (mkArith op (.mem m) s0 s1) := by rw [M.insts]; simp
  have hinsF : ∀ j, j ≠ k → j ≠ f → aF.st.insts[j]? = b.st.insts[j]? := by
    intro j h1 h2; rw [M.insts]; simp [h1, h2]
  have hlast : ∀ (t' : Nat) (r0 : RangeInfo) (L0 : Nat), b.st.ranges[t']? = some r0 → r0.lastUse = some L0 →
      ∃ (r2 : RangeInfo) (L2 : Nat), aF.st.ranges[t']? = some r2 ∧ r2.lastUse = some L2 := by
    intro t' r0 L0 h0 hL0
    obtain ⟨r2, q1, _, _, q2, q3⟩ := M.ranges t' r0 h0
    by_cases hop : s0 = .tmp t' ∨ s1 = .tmp t'
    · exact ⟨r2, f, q1, q3 hop⟩
    · rw [q2 hop] at q1
      exact ⟨r0, L0, q1, hL0⟩
  have hopnd : ∀ u, (s0 = .tmp u ∨ s1 = .tmp u) →
      ∃ ru : RangeInfo, s.ranges[u]? = some ru ∧ ru.created < k ∧
        ∃ r2 : RangeInfo, aF.st.ranges[u]? = some r2 ∧ r2.lastUse = some f := by
    intro u hu
    obtain ⟨ru, Lu, g1, _, g3, _⟩ := hpa.uses k _ u hPk (mem_uses_mkArith.2 hu)
    obtain ⟨rb, q1, _⟩ := hb.rkeep u ru g1
    obtain ⟨r2, p1, _, _, _, p3⟩ := M.ranges u rb q1
    exact ⟨ru, g1, g3, r2, p1, p3 hu⟩
  obtain ⟨_, rt, ft, Lt, gt1', gb, _, gt2, gt3, gt4, gt5⟩ := dst_range hp hb hi0 (by rw [dstTmp?_mkArith])
  rw [e2] at gb; cases gb
  rw [e3] at gt3; cases gt3
  rw [e4] at gt2; cases gt2
  have hLn : L < s.insts.size := hp.lastLt t r L gt1 e3
  have hkL : k < L := Nat.lt_of_lt_of_le gt4 gt5
  have htatf : t ∉ atf := fun hm =>
    Nat.lt_irrefl k (Nat.lt_of_lt_of_le hkL (hdead t ((M.atf t).1 hm).1 r L gt1 e3))
  have hget : ∀ t' l, alGet b.repl t' = some l → t' ∉ atf → ∃ l', alGet A'.repl t' = some l' := by
    intro t' l hl hna
    rw [hrepl', if_neg hna, hreplF, alGet_alSet]
    split
    · exact ⟨_, rfl⟩
    · exact ⟨l, hl⟩
  refine ⟨?_, ?_, ?_, ?_, ?_, ?_, hfree', ?_⟩
  · intro j x' t' r' hj hx' ht' hr' hcr
    rw [hins'] at hx'
    by_cases hjf : j = f
    · subst hjf
      rw [hfF] at hx'; cases hx'
      have hu := mem_uses_mkArith.1 ht'
      obtain ⟨ru, g1, g2, _⟩ := hopnd t' hu
      rw [hr'] at g1; cases g1
      obtain ⟨l, hl⟩ := DF.complete k _ t' r' (Nat.le_refl _) hi0 (mem_uses_mkArith.2 hu) hr' g2
      exact hget t' l hl (fun hm => ((M.atf t').1 hm).2 hu)
    · have hjk : j ≠ k := Nat.ne_of_gt hj
      have hxb : b.st.insts[j]? = some x' := by rw [← hinsF j hjk hjf]; exact hx'
      by_cases hck : r'.created = k
      · obtain ⟨y, hy, hdy, _⟩ := created_here hp hb (Nat.le_of_succ_le hj) hxb ht' hr' hck
        rw [hPk] at hy; cases hy
        rw [dstTmp?_mkArith] at hdy
        cases hdy
        rw [hrepl', if_neg htatf]
        exact ⟨_, by rw [hreplF, alGet_alSet_self]⟩
      · obtain ⟨l, hl⟩ := DF.complete j x' t' r' (Nat.le_of_succ_le hj) hxb ht' hr'
          (Nat.lt_of_le_of_ne (Nat.le_of_lt_succ hcr) hck)
        exact hget t' l hl (fun hm => DF.noread t' ((M.atf t').1 hm).1 j x' hj hxb ht')
  · intro f' op' m' t'' s0' s1' u hFu hs
    rw [hst']
    by_cases hff : f' = f
    · subst hff
      have h2 := hFu.2.2
      rw [hins', hfF] at h2
      obtain ⟨rfl, _, rfl, rfl⟩ := mkArith_inj (Option.some.inj h2)
      obtain ⟨_, _, _, r2, q1, q3⟩ := hopnd u hs
      exact ⟨r2, f', q1, q3, Nat.le_refl _⟩
    · have hFb : Fused s k b f' op' m' t'' s0' s1' := by
        refine fused_mono hFu (Nat.le_of_succ_le hFu.1) ?_
        rw [hins', hinsF f' (Nat.ne_of_gt hFu.1) hff]
      obtain ⟨r0, L0, g1, g2, g3⟩ := DF.fusedLast f' op' m' t'' s0' s1' u hFb hs
      obtain ⟨r2, q1, _, _, q2, q3⟩ := M.ranges u r0 g1
      by_cases hop : s0 = .tmp u ∨ s1 = .tmp u
      · refine ⟨r2, f, q1, q3 hop, ?_⟩
        obtain ⟨i', hik', hc', _⟩ := fused_cand hb hFb
        have hcnew : Cand s k op t s0 s1 f m (.tmp t) := ⟨hPk, ⟨r, L, gt1, e4, e3⟩, hPf⟩
        exact hp.mono i' op' t'' s0' s1' f' m' k op t s0 s1 f m u hc' hcnew hik' hs hop
      · rw [q2 hop] at q1
        exact ⟨r0, L0, q1, g2, g3⟩
  · intro e t' h
    rw [hst']
    rw [hnre'] at h
    rcases (M.nre e t').1 h with h | h1 | ⟨rfl, _, hu⟩
    · cases h
      exact hlast _ r _ e2 e3
    · obtain ⟨r0, L0, g1, g2⟩ := DF.heapRange e t' h1
      exact hlast t' r0 L0 g1 g2
    · obtain ⟨_, _, _, r2, q1, q3⟩ := hopnd t' hu
      exact ⟨r2, _, q1, q3⟩
  · intro t' l hl
    rw [hrepl'] at hl
    split at hl
    · cases hl
    · rename_i hna
      rw [hnre']
      rw [hreplF, alGet_alSet] at hl
      split at hl
      · rename_i e; subst e
        exact ⟨L, (M.nre _ _).2 (Or.inl rfl)⟩
      · rcases DF.kept t' l hl with ⟨e, he⟩ | hm
        · exact ⟨e, (M.nre _ _).2 (Or.inr (Or.inl he))⟩
        · -- about to be released, but an operand of the moved computation: re-inserted with end `f`
          exact ⟨f, (M.nre _ _).2 (Or.inr (Or.inr ⟨rfl, hm,
            Classical.byContradiction fun hno => hna ((M.atf t').2 ⟨hm, hno⟩)⟩))⟩
  · intro e t' h
    rw [hnre'] at h
    rcases (M.nre e t').1 h with h | h1 | ⟨rfl, _, _⟩
    · cases h
      exact ⟨hkL, hLn⟩
    · exact DF.heapBound e t' h1
    · exact ⟨gt4, Nat.lt_of_le_of_lt gt5 hLn⟩
  · rw [hnre']
    exact M.sorted DF.sorted
  · intro t' r2 L2 h2 hL2
    rw [hst'] at h2
    have hlt : t' < b.st.ranges.size := by rw [← M.rsize]; exact lt_of_getElem? h2
    obtain ⟨r2', q1, _, _, q2, q3⟩ := M.ranges t' _ (Array.getElem?_eq_getElem hlt)
    rw [h2] at q1; cases q1
    by_cases hop : s0 = .tmp t' ∨ s1 = .tmp t'
    · rw [q3 hop] at hL2; cases hL2
      exact Nat.lt_of_le_of_lt gt5 hLn
    · rw [q2 hop] at hL2
      exact DF.rangeLt t' _ L2 (Array.getElem?_eq_getElem hlt) hL2

theorem tinv_step (hp : TotalPre s) {numRegs k : Nat} {a a' : ASt w} {u : Unit}
    (hI : PassInv s k a) (hT : TInv s numRegs k a) (h : allocStep numRegs k a = .ok (u, a')) :
    TInv s numRegs (k + 1) a' := by
  obtain ⟨atf0, b, inst0, can, atf, aF, cur, new, live, hd, hi0, hF, hc, hn, hl, hD⟩ := allocStep_ok h
  obtain ⟨atf0', b', hd', hb, hdead, DF⟩ := drain_round hp.pre hI hT
  rw [hd] at hd'; cases hd'
  rcases hF.moved hi0 with ⟨rfl, rfl⟩ | ⟨op, t, s0, s1, L, f, m, src, M⟩
  · cases hc.symm.trans hi0
    exact tinv_nofuse hp hb DF hi0 hn hD
  · exact tinv_moved hp hb DF hdead M (M.result hc hn hD).2

theorem alloc_step_total (hp : TotalPre s) (numRegs : Nat) {k : Nat} {a : ASt w} (hk : k < s.insts.size)
    (hI : PassInv s k a) (hT : TInv s numRegs k a) : ∃ u a', allocStep numRegs k a = .ok (u, a') := by
  have hpa := hp.pre
  suffices H : ∃ res, allocStep numRegs k a = .ok res by
    obtain ⟨⟨u, a'⟩, h⟩ := H; exact ⟨u, a', h⟩
  rw [allocStep_eqK]
  dsimp only [get_bind]
  obtain ⟨atf0, b, hd, hb, hdead, DF⟩ := drain_round hpa hI hT
  refine bind_prog hd ?_
  have hkb : k < b.st.insts.size := by rw [hb.isize]; exact hk
  have hi0 : b.st.insts[k]? = some b.st.insts[k] := Array.getElem?_eq_getElem hkb
  generalize b.st.insts[k] = inst0 at hi0
  refine bind_prog ((instAt_ok _ _ _ _ _).2 ⟨hi0, rfl⟩) ?_
  have hsrcb : ∀ u ∈ BcWf.uses inst0, (∃ l, alGet b.repl u = some l) ∧ ∃ ru : RangeInfo, b.st.ranges[u]? = some ru := by
    intro u hu
    have hcr : ∃ ru : RangeInfo, s.ranges[u]? = some ru ∧ ru.created < k := by
      rcases hb.fut k (Nat.le_refl _) with hsame | ⟨op, m, t', s0, s1, hFu⟩
      · obtain ⟨ru, Lu, g1, _, g3, _⟩ := hpa.uses k inst0 u (by rw [← hsame]; exact hi0) hu
        exact ⟨ru, g1, g3⟩
      · have h2 := hFu.2.2
        rw [hi0] at h2; cases h2
        obtain ⟨ru, g1, g2⟩ := fused_src_created hpa hb hFu (u := u) (mem_uses_mkArith.1 hu)
        exact ⟨ru, g1, Nat.lt_of_succ_lt g2⟩
    obtain ⟨ru, g1, g2⟩ := hcr
    obtain ⟨rb, q1, _⟩ := hb.rkeep u ru g1
    exact ⟨DF.complete k inst0 u ru (Nat.le_refl _) hi0 hu g1 g2, rb, q1⟩
  refine phCanK_prog ?_ ?_
  · intro t ht
    obtain ⟨_, r, f, L, _, g2, _, _, g5, g6, g7⟩ := dst_range hp hb hi0 ht
    exact ⟨r, L, g2, g5, Nat.le_of_lt (Nat.lt_of_lt_of_le g6 g7)⟩
  intro can
  refine phFuseK_prog ?_ ?_
  · intro op t s0 s1 har
    have hinst0 : inst0 = mkArith op (.tmp t) s0 s1 := arith?_eq_some.1 har
    obtain ⟨_, r, f, L, g1, g2, _, g4, g5, g6, g7⟩ := dst_range hp hb hi0 (by rw [hinst0, dstTmp?_mkArith])
    refine ⟨r, g2, ?_, ?_⟩
    · intro L' hL'
      have hfn : f < b.st.insts.size := by
        rw [hb.isize]
        exact Nat.lt_of_le_of_lt g7 (hp.lastLt t r L g1 g5)
      exact ⟨f, _, g4, Array.getElem?_eq_getElem hfn⟩
    · intro u hu
      obtain ⟨h1, rb, h2⟩ := hsrcb u (by rw [hinst0]; exact mem_uses_mkArith.2 hu)
      exact ⟨h1, lt_of_getElem? h2⟩
  intro atf aF hF
  rcases hF.moved hi0 with ⟨rfl, rfl⟩ | ⟨op, t, s0, s1, L, f, m, src, M⟩
  · obtain ⟨new, hn⟩ := rwInst_total (repl := aF.repl) (cur := inst0) (fun u hu => (hsrcb u hu).1)
    refine phRewriteK_prog hi0 hn ?_
    have hc1 := passInv_rewrite hb hi0 hn
    refine bind_prog (freeAll_eq numRegs atf _) ?_
    obtain ⟨live, hlive⟩ := liveMask_total (passInv_free (numRegs := numRegs) (atf := atf) hc1).regs.freeRegsNodup
      (freeList_freeRegs_lt atf (a := aF.setI k new) DF.freeLt)
    refine phLiveK_prog (a := freeList numRegs atf (aF.setI k new)) hlive ?_
    obtain ⟨hcrng, hcins, _⟩ := freed_fields numRegs atf live hc1.regs (c := aF.setI k new)
    refine phDst_prog (x := new) ?_ ?_
    · rw [hcins, getElem?_setI, if_pos ⟨rfl, hkb⟩]
    intro t ht
    obtain ⟨_, _, hnd⟩ := rwInst_facts hn (fun t v g => (hb.replDom t v g).1) (hb.skel k inst0 hi0).1
    obtain ⟨_, r, f, L, _, g2, _, _, g5, g6, g7⟩ := dst_range hp hb hi0 (hnd ▸ ht)
    exact ⟨r, L, by rw [hcrng]; exact g2, g5, Nat.le_of_lt (Nat.lt_of_lt_of_le g6 g7)⟩
  · have hcF := passInv_moved hpa hb hdead M
    have hkF := M.noop
    refine phRewriteK_prog hkF (new := .noop) rfl ?_
    rw [setI_self hkF]
    refine bind_prog (freeAll_eq numRegs atf _) ?_
    have hfl : ∀ r ∈ aF.freeRegs, r < numRegs := by rw [M.freeRegs]; exact DF.freeLt
    obtain ⟨live, hlive⟩ := liveMask_total (passInv_free (numRegs := numRegs) (atf := atf) hcF).regs.freeRegsNodup
      (freeList_freeRegs_lt atf hfl)
    refine phLiveK_prog (a := freeList numRegs atf aF) hlive ?_
    refine phDst_prog (x := .noop) ?_ (fun t ht => by cases ht)
    rw [(freed_fields numRegs atf live hcF.regs).2.1]; exact hkF

end Alloc
end C02
end Hpbf
