/-
C03 (control flow): execution of a BLOCK of code on the program machine, independent of where the block sits
(`Blk`: the big-step counterpart of `X86Sem.execAll` for `X86Prog`), and what ONE instruction of each form the
generated code uses does (`si_*`: `stepInstr` on that form, with the final state written out). A block is run by
chaining rules, `.cons (si_a …) rfl (.cons (si_b …) rfl (.one (si_c …) rfl))`; position, decoding and the number of
machine steps come in once, through `Blk.steps`.

In the block proofs, `obtain ⟨s1, h1, e1⟩ : ∃ s1, stepInstr … = .next s1 ∧ s1 = _ := ⟨_, si_… , rfl⟩` names the
successor state and keeps its defining equation `e1`; a fact about `s1` is then `rw [e1]` followed by `rfl`s, the
right-hand side being an explicit record update of the previous state.
-/
import Hpbf.Proofs.C03FlowBase
namespace Hpbf
namespace C03
open Asm JitGen X86Sem X86Prog
variable {w : Nat}

/-- The instructions `xs`, executed one after the other wherever they sit, lead from `s` to `s'`; none of them
transfers control. -/
inductive Blk (cfg : Cfg) : List X86 → PState w → PState w → Prop
  | nil (s : PState w) : Blk cfg [] s s
  | cons {x : X86} {xs : List X86} {s s1 s2 : PState w} (h : stepInstr cfg x s = .next s1)
      (hpc : s1.pc = s.pc + x.size) (t : Blk cfg xs s1 s2) : Blk cfg (x :: xs) s s2

namespace Blk
variable {cfg : Cfg}

theorem one {x : X86} {s s' : PState w} (h : stepInstr cfg x s = .next s') (hpc : s'.pc = s.pc + x.size) :
    Blk cfg [x] s s' := .cons h hpc (.nil _)

theorem append {xs ys : List X86} {s s1 s2 : PState w} (h1 : Blk cfg xs s s1) (h2 : Blk cfg ys s1 s2) :
    Blk cfg (xs ++ ys) s s2 := by
  induction h1 with
  | nil => exact h2
  | cons h hpc _ ih => exact .cons h hpc (ih h2)

theorem pc_eq {xs : List X86} {s s' : PState w} (h : Blk cfg xs s s') : s'.pc = s.pc + sizeAll xs := by
  induction h with
  | nil => simp
  | cons _ hpc _ ih => rw [ih, hpc, sizeAll_cons, Nat.add_assoc]

/-- Where the block sits in a program, the machine takes one step per instruction. -/
theorem steps {code xs rest : List X86} {s s' : PState w} (h : Blk cfg xs s s')
    (hat : At cfg code s.pc (xs ++ rest)) : C03.steps cfg xs.length s = some s' ∧ At cfg code s'.pc rest := by
  induction h with
  | nil => exact ⟨rfl, hat⟩
  | cons h hpc _ ih =>
    obtain ⟨h1, h2⟩ := ih (hpc ▸ hat.tail)
    exact ⟨by rw [List.length_cons, Nat.add_comm]; exact steps_trans (steps_one ((step_at hat).trans h)) h1, h2⟩

/-- A block followed by one more instruction (the jump that ends it). -/
theorem step_after {code xs rest : List X86} {x : X86} {s s1 s2 : PState w} (h : Blk cfg xs s s1)
    (hat : At cfg code s.pc (xs ++ x :: rest)) (hx : stepInstr cfg x s1 = .next s2) :
    C03.steps cfg (xs.length + 1) s = some s2 :=
  have ⟨h1, h2⟩ := h.steps hat
  steps_trans h1 (steps_one ((step_at h2).trans hx))

end Blk

/-- Straight-line code inside `X86Sem`'s subset runs on the program machine as `execAll` says (`n` bounds the stack
slots touched: they must belong to the activation). -/
theorem plain_blk {cfg : Cfg} {xs : List X86} {s : PState w} {m' : MState w} (hx : execAll xs (view s) = some m')
    {n : Nat} (hn : n ≤ s.stk.length) (hslots : ∀ x ∈ xs, SlotOk w n x) :
    ∃ s', Blk cfg xs s s' ∧ view s' = m' ∧ SameCtl s s' ∧ s'.stk.drop n = s.stk.drop n := by
  induction xs generalizing s with
  | nil =>
    simp only [execAll, Option.some.injEq] at hx
    exact ⟨s, .nil s, hx, SameCtl.rfl' s, rfl⟩
  | cons x xs ih =>
    simp only [execAll] at hx
    cases hx1 : exec x (view s) with
    | none => simp [hx1] at hx
    | some m1 =>
      simp only [hx1] at hx
      obtain ⟨s1, h1, h2, h3, h4, h4'⟩ := stepPlain_spec hx1 hn (hslots x (List.mem_cons_self))
      obtain ⟨s', h5, h6, h8, h8'⟩ := ih (by rw [h2]; exact hx) (by rw [h4.len]; exact hn)
        (fun y hy => hslots y (List.mem_cons_of_mem _ hy))
      exact ⟨s', .cons ((stepInstr_of_exec cfg hx1).trans h1) h3 h5, h6, h4.trans h8, h8'.trans h4'⟩

/-- Open `stepInstr` on an instruction whose operands fit. -/
macro "step_open " h:term : tactic =>
  `(tactic| (unfold stepInstr; rw [if_neg (by simp [$h:term])]))

theorem trunc64 (v : BitVec 64) : trunc 64 v = v := by simp [trunc]

theorem alu_sub64 (a b : BitVec 64) : (alu .sub 64 a b).1 = a - b := by simp only [alu, trunc64]
theorem alu_add64 (a b : BitVec 64) : (alu .add 64 a b).1 = a + b := by simp only [alu, trunc64]

theorem fitsS_8 (v : Int) : fitsS 8 v = true ↔ (-128 ≤ v ∧ v < 128) := by
  simp [fitsS]

theorem bytes_eq {sz : Size} (hsz : sz.bits = w) : ((sz.bytes : Nat) : Int) = cellBytes w ∧ sz.bytes ≠ 0 := by
  cases sz <;> simp only [Size.bits] at hsz <;> subst hsz <;> simp [Size.bytes, cellBytes]

section rules
variable {cfg : Cfg} {s : PState w}

/-! ### Stack -/

theorem si_push {r : Reg} :
    stepInstr cfg (.push r) s =
      .next { s with stk := s.regs.get r :: s.stk, regs := s.regs.set .rsp (s.regs.rsp - 8),
                     pc := s.pc + (X86.push r).size } := by
  step_open (show (X86.push r).fits = true from rfl)
  rfl

theorem si_pop {r : Reg} (hr : r ≠ .rsp) {v : BitVec 64} {tl : List (BitVec 64)} (hs : s.stk = v :: tl) :
    stepInstr cfg (.pop r) s =
      .next { s with stk := tl, regs := (s.regs.set .rsp (s.regs.rsp + 8)).set r v,
                     pc := s.pc + (X86.pop r).size, tapeOk := if r = .rbp then false else s.tapeOk } := by
  step_open (show (X86.pop r).fits = true from rfl)
  simp [stepPop, hs, hr]

theorem si_ret {v : BitVec 64} {tl : List (BitVec 64)} (hs : s.stk = v :: tl) :
    stepInstr cfg .ret s = .ret { s with stk := tl, regs := s.regs.set .rsp (s.regs.rsp + 8) } := by
  step_open (show X86.ret.fits = true from rfl)
  simp [stepRet, hs]

theorem si_subRsp {imm : Int} (h0 : 0 ≤ imm) (h8 : imm % 8 = 0) (hfit : imm < 2147483648) :
    stepInstr cfg (.subRmImm (.reg .rsp) imm) s =
      .next { s with stk := List.replicate (imm / 8).toNat (cfg.junk .rsp) ++ s.stk
                     regs := s.regs.set .rsp (s.regs.rsp - immVal imm)
                     zf := some (alu .sub 64 s.regs.rsp (immVal imm)).2.1
                     cf := some (alu .sub 64 s.regs.rsp (immVal imm)).2.2
                     pc := s.pc + (X86.subRmImm (.reg .rsp) imm).size } := by
  have hfit' : (X86.subRmImm (.reg .rsp) imm).fits = true := by
    simp only [X86.fits, RegMem.fits, Bool.true_and, fitsS_32]
    omega
  step_open hfit'
  simp only [if_true, stepSubRsp, h0, h8, and_self, alu_sub64]

theorem si_addRsp {imm : Int} (h0 : 0 ≤ imm) (h8 : imm % 8 = 0) (hfit : imm < 2147483648)
    (hlen : (imm / 8).toNat ≤ s.stk.length) :
    stepInstr cfg (addImm64 (.reg .rsp) imm) s =
      .next { s with stk := s.stk.drop (imm / 8).toNat
                     regs := s.regs.set .rsp (s.regs.rsp + immVal imm)
                     zf := some (alu .add 64 s.regs.rsp (immVal imm)).2.1
                     cf := some (alu .add 64 s.regs.rsp (immVal imm)).2.2
                     pc := s.pc + (addImm64 (.reg .rsp) imm).size } := by
  have hfit' : (addImm64 (.reg .rsp) imm).fits = true := by
    simp only [addImm64, X86.fits, RegMem.fits, Size.immBits, Bool.true_and, fitsS_32]
    omega
  step_open hfit'
  simp only [addImm64, true_and, if_true, stepAddRsp, h0, h8, hlen, and_self, alu_add64]

/-! ### Registers -/

theorem si_movImm {r : Reg} {v : Int} (hr : r ≠ .rsp ∧ r ≠ .rbp) (hfit : (X86.movRImm64 r v).fits = true) :
    stepInstr cfg (.movRImm64 r v) s =
      .next { s with regs := s.regs.set r (immVal v), pc := s.pc + (X86.movRImm64 r v).size } := by
  step_open hfit
  simp only [stepPlain, exec, hfit, if_true, execCore, writeReg, hr.1, hr.2, or_self, if_false, placeOf, rmOf,
    Option.bind_none]
  rfl

/-- `mov d, r` in the encoding `emit_mov_rm64_r64`. -/
theorem si_movRegReg {d r : Reg} (hd : d ≠ .rsp ∧ d ≠ .rbp) :
    stepInstr cfg (st64 (.reg d) r) s =
      .next { s with regs := s.regs.set d (s.regs.get r), pc := s.pc + (st64 (.reg d) r).size } := by
  step_open (show (st64 (.reg d) r).fits = true from rfl)
  simp only [st64, cxtDisp, stepPlain, exec, show (X86.movRmR .b64 (.reg d) r).fits = true from rfl, if_true,
    execCore, X86Sem.resolve, Option.bind_eq_bind, Option.bind_some, writePlace, writeReg, hd.1, hd.2,
    or_self, if_false, placeOf, rmOf, sizedWrite_b64]
  rfl

/-- `mov d, r` in the encoding `emit_mov_r64_rm64`. -/
theorem si_mov64Reg {d r : Reg} (hd : d ≠ .rsp ∧ d ≠ .rbp) :
    stepInstr cfg (mov64 d (.reg r)) s =
      .next { s with regs := s.regs.set d (s.regs.get r), pc := s.pc + (mov64 d (.reg r)).size } := by
  step_open (show (mov64 d (.reg r)).fits = true from rfl)
  simp only [mov64, hd.2, and_false, if_false, cxtDisp, Option.isSome_none, Bool.false_eq_true,
    stepPlain, exec, show (X86.movRRm .b64 d (.reg r)).fits = true from rfl, if_true,
    execCore, X86Sem.resolve, Option.bind_eq_bind, Option.bind_some, readPlace, writeReg, hd.1,
    or_self, placeOf, rmOf, sizedWrite_b64]
  rfl

theorem si_lea {r b : Reg} {d : Int} (hr : r ≠ .rsp ∧ r ≠ .rbp)
    (hfit : (X86.lea r (.mem (some b) none 1 d)).fits = true) :
    stepInstr cfg (.lea r (.mem (some b) none 1 d)) s =
      .next { s with regs := s.regs.set r (s.regs.get b + immVal d),
                     pc := s.pc + (X86.lea r (.mem (some b) none 1 d)).size } := by
  step_open hfit
  simp only [hr.2, if_false, stepPlain, exec, hfit, if_true, execCore, leaAddr, true_or,
    Option.bind_eq_bind, Option.bind_some, writeReg, hr.1, or_self, placeOf, rmOf, Option.bind_none, sizedWrite_b64]
  rfl

/-- `sub r, 1` (encoded as `dec`: the carry flag is kept). -/
theorem si_sub1 {r : Reg} (hr : r ≠ .rsp ∧ r ≠ .rbp) :
    stepInstr cfg (.subRmImm (.reg r) 1) s =
      .next { s with regs := s.regs.set r (s.regs.get r - 1),
                     zf := some (alu .sub 64 (s.regs.get r) (immVal 1)).2.1,
                     pc := s.pc + (X86.subRmImm (.reg r) 1).size } := by
  step_open (show (X86.subRmImm (.reg r) 1).fits = true by simp [X86.fits, RegMem.fits, fitsS])
  have hexec : exec (.subRmImm (.reg r) 1) (view s) =
      some (((view s).setReg r (s.regs.get r - 1)).setFlags
        (some (alu .sub 64 (s.regs.get r) (immVal 1)).2.1) s.cf) := by
    have hf : (X86.subRmImm (.reg r) 1).fits = true := by simp [X86.fits, RegMem.fits, fitsS]
    simp only [exec, hf, if_true, execCore, aluRm, X86Sem.resolve, Option.bind_eq_bind, Option.bind_some,
      readPlace, writePlace, writeReg, hr.1, hr.2, or_self, if_false, sizedWrite_b64, Size.bits]
    have : (alu Alu.sub 64 ((view s).regs r) (immVal 1)).1 = s.regs.get r - 1 := by
      rw [alu_sub64]; rfl
    rw [this]
    rfl
  have hne : ¬ RegMem.reg r = RegMem.reg Reg.rsp := by simpa using hr.1
  simp only [hne, if_false, stepPlain, hexec, placeOf, rmOf, Option.bind_some, X86Sem.resolve]
  rfl

theorem si_sar {r : Reg} {k : Nat} (hr : r ≠ .rsp ∧ r ≠ .rbp) (hk : 0 < k ∧ k < 64) :
    stepInstr cfg (.sarRmImm8 (.reg r) k) s =
      .next { s with regs := s.regs.set r ((s.regs.get r).sshiftRight k),
                     zf := some ((s.regs.get r).sshiftRight k == 0), cf := none,
                     pc := s.pc + (X86.sarRmImm8 (.reg r) k).size } := by
  step_open (show (X86.sarRmImm8 (.reg r) k).fits = true by simp [X86.fits, RegMem.fits]; omega)
  simp only [stepSar, hr.1, hr.2, false_or, show ¬ 64 ≤ k from by omega, if_false, PState.adv,
    PState.setReg, show ¬ k = 0 by omega]

theorem si_cmpRegImm {r : Reg} {imm : Int} (himm : -128 ≤ imm ∧ imm < 128) :
    stepInstr cfg (.cmpRmImm8 .b64 (.reg r) imm) s =
      .next ((cmpFlags s 64 (s.regs.get r) (immVal imm)).adv (.cmpRmImm8 .b64 (.reg r) imm)) := by
  have hfit : (X86.cmpRmImm8 .b64 (.reg r) imm).fits = true := by
    simp [X86.fits, RegMem.fits, fitsS]; omega
  step_open hfit
  simp [stepCmpImm, X86Sem.resolve, readPlace, view, Size.bits]

/-- `test r8, r8` of a register with itself. -/
theorem si_testSelf {r : Reg} (hr : needsRexByte r = false) :
    stepInstr cfg (.testRm8R8 (.reg r) r) s =
      .next ({ s with zf := some (trunc 8 (s.regs.get r &&& s.regs.get r) == 0),
                      cf := some false }.adv (.testRm8R8 (.reg r) r)) := by
  step_open (show (X86.testRm8R8 (.reg r) r).fits = true from rfl)
  simp [stepTest, hr]

/-! ### Jumps -/

theorem jumpTo_eq {x : X86} {d : Int} {t : Nat} (h : (s.pc : Int) + x.size + d = t) :
    jumpTo s x d = .next { s with pc := t } := by
  unfold jumpTo
  simp only [h]
  rw [if_pos (by omega)]
  simp

theorem stepJcc_eq {x : X86} {p : JmpPred} {d : Int} {b : Bool} (hb : cond s p = some b) {t : Nat}
    (ht : (s.pc : Int) + x.size + d = t) :
    stepJcc s x p d = .next { s with pc := if b then t else s.pc + x.size } := by
  unfold stepJcc
  rw [hb]
  cases b
  · rfl
  · exact jumpTo_eq ht

theorem si_jcc {p : JmpPred} {d : Int} (hfit : (X86.jccRel32 p d).fits = true) {b : Bool}
    (hb : cond s p = some b) {t : Nat} (ht : (s.pc : Int) + 6 + d = t) :
    stepInstr cfg (.jccRel32 p d) s = .next { s with pc := if b then t else s.pc + 6 } := by
  step_open hfit
  exact stepJcc_eq hb (by simpa using ht)

theorem si_jcc8 {p : JmpPred} {d : Int} (hfit : (X86.jccRel8 p d).fits = true) {b : Bool}
    (hb : cond s p = some b) {t : Nat} (ht : (s.pc : Int) + 2 + d = t) :
    stepInstr cfg (.jccRel8 p d) s = .next { s with pc := if b then t else s.pc + 2 } := by
  step_open hfit
  exact stepJcc_eq hb (by simpa using ht)

theorem si_jmp8 {d : Int} (hfit : (X86.jmpRel8 d).fits = true) {t : Nat} (ht : (s.pc : Int) + 2 + d = t) :
    stepInstr cfg (.jmpRel8 d) s = .next { s with pc := t } := by
  step_open hfit
  exact jumpTo_eq (by simpa using ht)

/-! ### The context record `[rbx + d]` -/

theorem cxt_fits {d : Int} (hd : -2147483648 ≤ d ∧ d < 2147483648) :
    (RegMem.mem (some cxt) none 1 d).fits = true := by
  simp [RegMem.fits, fitsS]; omega

theorem si_loadCxt {r : Reg} {d : Int} (hr : r ≠ .rsp ∧ r ≠ .rbp) (hrbx : s.regs.rbx = cfg.cxtAddr)
    {v : BitVec 64} (hv : cxtField s d = some v) (hd : -2147483648 ≤ d ∧ d < 2147483648) :
    stepInstr cfg (mov64 r (.mem (some cxt) none 1 d)) s =
      .next ((s.setReg r v).adv (mov64 r (.mem (some cxt) none 1 d))) := by
  step_open (show (mov64 r (.mem (some cxt) none 1 d)).fits = true from cxt_fits hd)
  simp only [mov64, cxt]
  rw [if_neg (by simp [hr.2]), if_pos (by simp [cxtDisp])]
  simp only [stepLoadCxt, hr.1, if_false, src64]
  have : s.regs.get .rbx = cfg.cxtAddr := hrbx
  simp [this, hv]

theorem si_storeOff {r : Reg} (hrbx : s.regs.rbx = cfg.cxtAddr) :
    stepInstr cfg (st64 (.mem (some cxt) none 1 16) r) s =
      .next ({ s with off := s.regs.get r }.adv (st64 (.mem (some cxt) none 1 16) r)) := by
  step_open (show (st64 (.mem (some cxt) none 1 16) r).fits = true from rfl)
  have : s.regs.get .rbx = cfg.cxtAddr := hrbx
  simp [st64, cxt, cxtDisp, stepStoreCxt, this]

theorem si_storeBudget {r : Reg} (hrbx : s.regs.rbx = cfg.cxtAddr) :
    stepInstr cfg (st64 (.mem (some cxt) none 1 24) r) s =
      .next ({ s with budget := s.regs.get r }.adv (st64 (.mem (some cxt) none 1 24) r)) := by
  step_open (show (st64 (.mem (some cxt) none 1 24) r).fits = true from rfl)
  have : s.regs.get .rbx = cfg.cxtAddr := hrbx
  simp [st64, cxt, cxtDisp, stepStoreCxt, this]

theorem si_subCxt {r : Reg} {d : Int} (hr : r ≠ .rsp ∧ r ≠ .rbp) (hrbx : s.regs.rbx = cfg.cxtAddr)
    {v : BitVec 64} (hv : cxtField s d = some v) (hd : -2147483648 ≤ d ∧ d < 2147483648) :
    stepInstr cfg (sub64 r (.mem (some cxt) none 1 d)) s =
      .next { s with regs := s.regs.set r (s.regs.get r - v),
                     zf := some (alu .sub 64 (s.regs.get r) v).2.1, cf := some (alu .sub 64 (s.regs.get r) v).2.2,
                     pc := s.pc + (sub64 r (.mem (some cxt) none 1 d)).size } := by
  step_open (show (sub64 r (.mem (some cxt) none 1 d)).fits = true from cxt_fits hd)
  have : s.regs.get .rbx = cfg.cxtAddr := hrbx
  simp only [sub64, cxt, cxtDisp, Option.isSome_some, and_self, if_true, stepSubCxt, hr.1, hr.2,
    or_self, if_false, src64, this, hv, alu_sub64]
  rfl

theorem si_cmpCxt {r : Reg} {d : Int} (hrbx : s.regs.rbx = cfg.cxtAddr) {v : BitVec 64}
    (hv : cxtField s d = some v) (hd : -2147483648 ≤ d ∧ d < 2147483648) :
    stepInstr cfg (.cmpRRm r (.mem (some cxt) none 1 d)) s =
      .next ((cmpFlags s 64 (s.regs.get r) v).adv (.cmpRRm r (.mem (some cxt) none 1 d))) := by
  step_open (show (X86.cmpRRm r (.mem (some cxt) none 1 d)).fits = true from cxt_fits hd)
  have : s.regs.get .rbx = cfg.cxtAddr := hrbx
  simp only [cxt, stepCmpRRm, src64, this, if_true, hv]

theorem cmpFlags_cf64 (a b : BitVec 64) : (cmpFlags s 64 a b).cf = some (decide (a.toNat < b.toNat)) := by
  simp only [cmpFlags, alu, trunc64]

/-! ### The tape pointer `rbp` -/

theorem si_addRbp {sz : Size} (hsz : sz.bits = w) {shift : Int}
    (hfit : (addImm64 (.reg memr) ((sz.bytes : Int) * shift)).fits = true) :
    stepInstr cfg (addImm64 (.reg memr) ((sz.bytes : Int) * shift)) s = .next { s with
      regs := s.regs.set .rbp (s.regs.get .rbp + BitVec.ofInt 64 ((sz.bytes : Int) * shift))
      lptr := s.lptr + shift, zf := some (alu .add 64 s.regs.rbp (immVal ((sz.bytes : Int) * shift))).2.1
      cf := if (sz.bytes : Int) * shift == 1 || (sz.bytes : Int) * shift == -1 then s.cf
            else some (alu .add 64 s.regs.rbp (immVal ((sz.bytes : Int) * shift))).2.2
      pc := s.pc + (addImm64 (.reg memr) ((sz.bytes : Int) * shift)).size } := by
  step_open hfit
  obtain ⟨hb, hb0⟩ := bytes_eq hsz
  have hb0' : cellBytes w ≠ 0 := by rw [← hb]; exact_mod_cast hb0
  simp only [addImm64, memr, reduceCtorEq, RegMem.reg.injEq, and_false, if_false, true_and, if_true,
    stepAddRbp, moveRbp]
  have hmod : (sz.bytes : Int) * shift % cellBytes w = 0 := by rw [hb]; exact Int.mul_emod_right _ _
  have hdiv : (sz.bytes : Int) * shift / cellBytes w = shift := by
    rw [hb]; exact Int.mul_ediv_cancel_left _ hb0'
  simp only [hb0', ne_eq, not_false_eq_true, hmod, and_self, if_true, hdiv]

/-- `mov rbp, r`. -/
theorem si_loadRbpReg {r : Reg} {s' : PState w} (hl : loadRbp s (s.regs.get r) = some s') :
    stepInstr cfg (mov64 memr (.reg r)) s = .next (s'.adv (mov64 memr (.reg r))) := by
  step_open (show (mov64 memr (.reg r)).fits = true from rfl)
  simp only [mov64, memr, and_self, if_true, stepLoadRbp, src64, hl]

/-- `mov rbp, [rbx + d]`. -/
theorem si_loadRbpCxt {d : Int} (hrbx : s.regs.rbx = cfg.cxtAddr) {v : BitVec 64} (hv : cxtField s d = some v)
    (hd : -2147483648 ≤ d ∧ d < 2147483648) {s' : PState w} (hl : loadRbp s v = some s') :
    stepInstr cfg (mov64 memr (.mem (some cxt) none 1 d)) s =
      .next (s'.adv (mov64 memr (.mem (some cxt) none 1 d))) := by
  step_open (show (mov64 memr (.mem (some cxt) none 1 d)).fits = true from cxt_fits hd)
  have : s.regs.get .rbx = cfg.cxtAddr := hrbx
  simp only [mov64, memr, cxt, and_self, if_true, stepLoadRbp, src64, this, hv, hl]

/-- `lea rbp, [rbp + i*scale + d]`. -/
theorem si_leaRbp {i : Reg} {scale : Nat} {d : Int} {s' : PState w} (hi : i ≠ .rsp ∧ i ≠ .rbp)
    (hfit : (X86.lea memr (.mem (some memr) (some i) scale d)).fits = true)
    (hsc : scale = 1 ∨ scale = 2 ∨ scale = 4 ∨ scale = 8)
    (hm : moveRbp s ((s.regs.get i).toInt * scale + d) = some s') :
    stepInstr cfg (.lea memr (.mem (some memr) (some i) scale d)) s =
      .next (s'.adv (.lea memr (.mem (some memr) (some i) scale d))) := by
  step_open hfit
  simp only [memr, if_true, stepLeaRbp, hsc, hi.1, hi.2, ne_eq, not_false_eq_true, and_self, hm]

/-! ### Tape cells -/

theorem si_cmpZero {sz : Size} (hsz : sz.bits = w) {idx : Int} (hidx : -2147483648 ≤ idx ∧ idx < 2147483648)
    (hfit : (cmpZero sz idx).fits = true) :
    stepInstr cfg (cmpZero sz idx) s =
      .next { (cmpFlags s sz.bits ((s.tape.get (s.lptr + idx)).setWidth 64) (immVal 0)).adv (cmpZero sz idx) with
        oob := s.oob || !(cellOk s idx) } := by
  step_open hfit
  simp only [cmpZero, stepCmpImm]
  rw [resolve_memParam hsz hidx.1 hidx.2]
  simp only [readPlace_cell _ hsz]
  rfl

/-- The zero flag after `cmp cell, 0`. -/
theorem cmpZero_zf {sz : Size} (hsz : sz.bits = w) (v : BitVec w) :
    (cmpFlags s sz.bits (v.setWidth 64) (immVal 0)).zf = some (decide (v = 0#w)) := by
  simp only [cmpFlags, alu, immVal_zero]
  have hw : w ≤ 64 := sz_le hsz
  congr 1
  rw [hsz]
  have e : trunc w (BitVec.setWidth 64 v) = BitVec.setWidth 64 v := by
    unfold trunc
    rw [BitVec.setWidth_setWidth_of_le _ hw, BitVec.setWidth_eq]
  have e0 : trunc w (0#64) = 0#64 := by simp [trunc]
  rw [e, e0, BitVec.sub_zero, e]
  by_cases hz : v = 0#w
  · simp [hz]
  · simp only [hz, decide_false, beq_eq_false_iff_ne, ne_eq]
    intro h0
    apply hz
    have := congrArg (BitVec.setWidth w) h0
    rw [BitVec.setWidth_setWidth_of_le _ hw, BitVec.setWidth_eq] at this
    rw [this]; simp

theorem si_load {sz : Size} (hsz : sz.bits = w) {idx : Int} (hidx : -2147483648 ≤ idx ∧ idx < 2147483648)
    {r : Reg} (hr : r ≠ .rsp ∧ r ≠ .rbp) (hfit : (load sz idx r).fits = true) :
    stepInstr cfg (load sz idx r) s =
      .next { s with regs := s.regs.set r ((s.tape.get (s.lptr + idx)).setWidth 64),
                     pc := s.pc + (load sz idx r).size, oob := s.oob || !(cellOk s idx) } := by
  have hexec : exec (load sz idx r) (view s) =
      some ((view s).setReg r ((s.tape.get (s.lptr + idx)).setWidth 64)) := by
    have hfit' : (X86.movRRm sz r (memParam sz idx)).fits = true := hfit
    simp only [exec, load, hfit', if_true, execCore, resolve_memParam hsz hidx.1 hidx.2,
      Option.bind_eq_bind, Option.bind_some, readPlace_cell _ hsz, writeReg, hr.1, hr.2, or_self, if_false,
      sizedWrite_b64]
    rfl
  rw [stepInstr_of_exec cfg hexec]
  unfold stepPlain
  simp only [hexec]
  have hp : placeOf w (load sz idx r) = some (.cell idx) := by
    simp only [placeOf, load, rmOf, Option.bind_some, resolve_memParam hsz hidx.1 hidx.2]
  simp only [hp]
  rw [if_pos (by rfl)]
  rfl

/-- Existential, unlike the other rules: it goes through `stepPlain_spec`, which gives the successor by its `view`. -/
theorem si_store {sz : Size} (hsz : sz.bits = w) {idx : Int} (hidx : -2147483648 ≤ idx ∧ idx < 2147483648)
    {r : Reg} (hfit : (storeReg sz idx r).fits = true) :
    ∃ s', stepInstr cfg (storeReg sz idx r) s = .next s' ∧ view s' = (view s).setCell idx (lo (s.regs.get r)) ∧
      s'.pc = s.pc + (storeReg sz idx r).size ∧ SameCtl s s' ∧ s'.stk = s.stk ∧ s'.regs = s.regs := by
  have hexec : exec (storeReg sz idx r) (view s) = some ((view s).setCell idx (lo (s.regs.get r))) := by
    have hfit' : (X86.movRmR sz (memParam sz idx) r).fits = true := hfit
    simp only [exec, storeReg, hfit', if_true, execCore, resolve_memParam hsz hidx.1 hidx.2,
      Option.bind_eq_bind, Option.bind_some, writePlace_cell _ hsz]
    rfl
  obtain ⟨s', h1, h2, h3, h4, h5⟩ := stepPlain_spec hexec (n := 0) (Nat.zero_le _) (by
    intro k hk
    simp only [placeOf, storeReg, rmOf, Option.bind_some, resolve_memParam hsz hidx.1 hidx.2] at hk
    cases hk)
  refine ⟨s', by rw [stepInstr_of_exec cfg hexec]; exact h1, h2, h3, h4, by simpa using h5, ?_⟩
  apply regfile_ext
  have := congrArg MState.regs h2
  simpa [view, MState.setCell] using this

/-! ### Runtime calls -/

theorem si_call {r : Reg} :
    stepInstr cfg (.callInd (.reg r)) s = call cfg (.callInd (.reg r)) s (s.regs.get r) := by
  step_open (show (X86.callInd (.reg r)).fits = true from rfl)

theorem clobber_get (f : RegFile) (ret : BitVec 64) (r : Reg) :
    (clobber cfg f ret).get r =
      if r = .rax then ret
      else if r = .rbx ∨ r = .rsp ∨ r = .rbp ∨ r = .r12 ∨ r = .r13 ∨ r = .r14 ∨ r = .r15 then f.get r
      else cfg.junk r := by
  cases r <;> rfl

end rules

end C03
end Hpbf
