/-
C03: every arm of `JitGen.emitCopy` is a derivation (`emitCopy_sel`); that it performs the bytecode instruction
(`emitCopy_impl`) and what it emits (`copy_emits`) are read off it.
-/
import Hpbf.Proofs.C03Sel

namespace Hpbf
namespace C03

open Asm JitGen X86Sem

variable {w : Nat}

theorem emitCopy_sel (sz : Size) (live : Nat) (c : Bc.Cfg w) {d s : Bc.Loc w} {xs : List X86}
    (h : emitCopy sz d s = some xs) : ISel sz live c [s] d (rv c s) xs := by
  have hs : s ∈ [s] := List.mem_cons_self
  unfold emitCopy at h
  split at h
  next i v =>
    dsimp only at h
    split at h <;> cases h
    next hv => exact .movImm v hv
    next => exact .st (.load .scr0 hs (.imm v))
  next i0 i1 =>
    cases h
    exact .st (.load .scr0 hs (.mem i1))
  next i t =>
    split at h <;> cases h
    next r hr => exact .stSrc hr hs
    next => exact .st (.load .scr0 hs (.tmp t))
  next t v =>
    split at h
    next r hr => cases h; exact .dst (.load (.dst hr) hs (.imm v))
    next =>
      dsimp only at h
      split at h <;> cases h
      next hv => exact .movImm v hv
      next => exact .st (.load .scr0 hs (.imm v))
  next t i =>
    split at h <;> cases h
    next r hr => exact .dst (.load (.dst hr) hs (.mem i))
    next => exact .st (.load .scr0 hs (.mem i))
  next t0 t1 =>
    split at h <;> cases h
    next r hr => exact .dst (.load (.dst hr) hs (.tmp t1))
    next r hr => exact .stSrc hr hs
    next => exact .st (.load .scr0 hs (.tmp t1))
  next => cases h

theorem emitCopy_impl {sz : Size} (hsz : sz.bits = w) (S : Nat → Prop) (live : Nat) (c : Bc.Cfg w)
    {d s : Bc.Loc w} {xs : List X86} (h : emitCopy sz d s = some xs) (hd : LocOk d) (hs : LocOk s)
    (hss : SrcOk S s) : Impl S live c d (rv c s) xs :=
  (emitCopy_sel sz live c h).impl hsz (List.forall_mem_singleton.2 ⟨hs, hss⟩) hd

theorem copy_emits (sz : Size) (d s : Bc.Loc w) : Emits sz [d, s] (emitCopy sz d s) :=
  emits_of_sel fun c _ => emitCopy_sel sz 0 c

end C03
end Hpbf
