/-
Unfolding of `rebuildBlock`, `optimizeOnce`, `Opt.optimize` / `optimizeM` (the pipeline itself is
treated in `OptRounds.lean`).
-/
import Hpbf.Proofs.OptRounds

namespace Hpbf
namespace OptProof
open Opt OptSem Ir

variable {w : Nat}

theorem rebuildBlock_run {ps : List (Rebuild w)} {s : Rebuild w} {b : Block w} {os os' : Orders} {st : Rebuild w}
    (h : (rebuildBlock ps s b).run os = .ok (st, os')) :
    ∃ s' done, (rebuildInsts ps (reverseSubBlocks s) b.insts).run os = .ok ((s', done), os') ∧
      st = if done then { s' with shift := s'.shift + b.shift } else s' := by
  unfold rebuildBlock at h
  rw [run_bind_ok] at h
  obtain ⟨⟨s', done⟩, os1, h1, h2⟩ := h
  cases h2
  exact ⟨s', done, h1, rfl⟩

theorem optimizeOnce_run {b : Block w} {prevAnal : OptAnalysis w} {os os' : Orders} {b' : Block w}
    {anal' : OptAnalysis w} (h : (optimizeOnce b prevAnal).run os = .ok ((b', anal'), os')) :
    ∃ st, (rebuildBlock [] (Rebuild.new 0 none .zero (some prevAnal)) b).run os = .ok (st, os') ∧
      b' = { shift := 0, insts := st.insts } ∧ anal' = topAnalysis st.reads st.subAnal := by
  unfold optimizeOnce at h
  rw [run_bind_ok] at h
  obtain ⟨st, os1, h1, h2⟩ := h
  cases h2
  exact ⟨st, h1, rfl, rfl⟩

theorem optimize_ok_iff {b b' : Block w} {level : Nat} {orders : Orders} :
    Opt.optimize b level orders = .ok b' ↔ (optimizeM b level).run orders = .ok (b', []) := by
  rw [Rounds.optimize_eq, Rounds.pipeline_ok_iff, Rounds.optimizeM_eq]

theorem optimizeM_zero (b : Block w) : optimizeM b 0 = pure b := rfl

theorem optimizeM_succ (b : Block w) (n : Nat) :
    optimizeM b (n + 1) = (do
      let (prog, anal) ← optimizeOnce b (topAnalysis [] [])
      optimizeRounds (min (n + 1) 3 - 1) prog anal) :=
  if_pos (bne_iff_ne.2 (Nat.succ_ne_zero n))

theorem optimizeM_one_ok {b b' : Block w} {os os' : Orders} :
    (optimizeM b 1).run os = .ok (b', os') ↔
      ∃ anal, (optimizeOnce b (topAnalysis [] [])).run os = .ok ((b', anal), os') := by
  rw [optimizeM_succ, run_bind_ok]
  constructor
  · rintro ⟨⟨prog, anal⟩, os1, h1, h2⟩
    have : (optimizeRounds (min (0 + 1) 3 - 1) prog anal : M (Block w)) = pure prog := rfl
    simp only at h2
    rw [this, run_pure] at h2
    cases h2
    exact ⟨anal, h1⟩
  · rintro ⟨anal, h⟩
    exact ⟨(b', anal), os', h, rfl⟩

end OptProof
end Hpbf
