/-
C10 — the unchecked mode against the checked mode of the layout-instrumented bytecode run (`runLay`):
the outcome is the same in every mode; a checked run that never grows the allocation is step by step
the unchecked run; an unchecked run whose pointer excursion (computable by `ptrRange`) fits the
pre-grown region accesses only that region.
-/
import Hpbf.Proofs.C06

namespace Hpbf
namespace C10

open Window Bc BcWf C06

variable {w : Nat}

-- layout and access flag are instrumentation: `Bc.step` never reads them
theorem runLay_out (mode : Mode) (p : Program w) (limited : Bool) :
    ∀ (fuel : Nat) (c : Cfg w) (l : Lay) (ok : Bool),
      (runLay mode p limited fuel c l ok).out = Bc.runCfg p limited fuel c := by
  intro fuel
  induction fuel with
  | zero => intro c l ok; simp only [runLay, runCfg]
  | succ n ih =>
    intro c l ok
    simp only [runLay, runCfg]
    cases hs : Bc.step p limited c with
    | next c' => simp only; exact ih _ _ _
    | halt c' => rfl
    | stop c' => rfl
    | interrupted c' => rfl
    | bad c' => rfl

theorem move_unchecked_eq (mn mx : Int) (l : Lay) (sh : Int) :
    Lay.move .unchecked mn mx l sh = { l with cur := l.cur + sh } := rfl

-- `Lay.grow` computes in wrapping arithmetic; the `SmallArg`/`bound` hypotheses put its arguments in
-- the range where `grow_eq` gives the `Int` form
theorem move_no_growth {mn mx : Int} {l : Lay} {sh : Int}
    (hw : l.InWindow mn mx) (hs : (l.size : Int) < bound) (hmn : SmallArg mn) (hmx : SmallArg mx)
    (hsh : SmallArg sh) (hsz : (Lay.move .threadedSafe mn mx l sh).size = l.size) :
    Lay.move .threadedSafe mn mx l sh = Lay.move .unchecked mn mx l sh := by
  obtain ⟨a1, a2, b1, b2⟩ := window_wide hmn hmx
  obtain ⟨s1, s2⟩ := hsh
  have hwide := wide_near hw hs hmn hmx (c := l.cur + sh) (by unfold bound at *; omega)
    (by unfold bound at *; omega)
  rw [move_unchecked_eq]
  rw [move_threaded_eq] at hsz ⊢
  simp only at hsz ⊢
  rw [grow_eq hwide a1 a2 b1 b2] at hsz ⊢
  by_cases hp : ({ size := l.size, cur := l.cur + sh } : Lay).inBounds (if sh < 0 then mn else mx) = true
  · rw [if_pos hp]
  · rw [if_neg hp] at hsz ⊢
    -- a growth adds all missing cells, so one that adds nothing had none to add
    have hg : ({ size := l.size, cur := l.cur + sh } : Lay).NoGrowth mn (mx + 1) := by
      apply Classical.byContradiction
      intro hg
      rw [if_neg hg] at hsz
      unfold Lay.NoGrowth at hg
      unfold Lay.added at hsz
      simp only at hsz
      omega
    rw [if_pos hg]

theorem layStep_no_growth {p : Program w} (hp : SmallProg p) (c c' : Cfg w)
    {l : Lay} (hw : l.InWindow p.minAcc p.maxAcc) (hs : (l.size : Int) < bound)
    (hsz : (layStep .threadedSafe p c c' l).size = l.size) :
    layStep .threadedSafe p c c' l = layStep .unchecked p c c' l := by
  unfold layStep at hsz ⊢
  split
  · rename_i sh hi
    simp only [hi] at hsz
    exact move_no_growth hw hs hp.1 hp.2.1 (hp.shift hi) hsz
  · rename_i cond sh hi
    simp only [hi] at hsz
    split
    · rename_i hc
      rw [if_pos hc] at hsz
      exact move_no_growth hw hs hp.1 hp.2.1 (hp.shift hi) hsz
    · rfl
  · rfl

theorem runLay_unchecked_eq {p : Program w} (L : C11.LocalFacts p) (hp : SmallProg p)
    (limited : Bool) :
    ∀ (fuel : Nat) (c : Cfg w) (l : Lay) (ok : Bool), l.InWindow p.minAcc p.maxAcc →
      (l.size : Int) < bound →
      (runLay .threadedSafe p limited fuel c l ok).lay.size = l.size →
      runLay .unchecked p limited fuel c l ok = runLay .threadedSafe p limited fuel c l ok := by
  intro fuel
  induction fuel with
  | zero => intro c l ok _ _ _; simp only [runLay]
  | succ n ih =>
    intro c l ok hw hs hsz
    simp only [runLay] at hsz ⊢
    cases hst : Bc.step p limited c with
    | next c' =>
      simp only [hst] at hsz
      simp only
      -- the size never shrinks, so an unchanged final size means this step did not grow either
      have h1 := layStep_size_ge .threadedSafe p c c' l
      have h2 := runLay_size_ge .threadedSafe p limited n c' (layStep .threadedSafe p c c' l)
        (ok && accessOk p c.pc l)
      have hsz1 : (layStep .threadedSafe p c c' l).size = l.size := by omega
      have he := layStep_no_growth hp c c' hw hs hsz1
      rw [← he]
      apply ih
      · exact layStep_inWindow (by simp) L hp c c' hw hs
      · rw [hsz1]; exact hs
      · rw [hsz1]; exact hsz
    | halt c' => rfl
    | stop c' => rfl
    | interrupted c' => rfl
    | bad c' => rfl

/-- Reached from `c0` by `.next` steps.  `C11.Reach p limited c` is this from the configurations at `pc = 0` (any
temporaries, budget, state); no lemma goes between the two, each property uses its own. -/
inductive ReachFrom (p : Program w) (limited : Bool) (c0 : Cfg w) : Cfg w → Prop
  | refl : ReachFrom p limited c0 c0
  | step {c c' : Cfg w} : ReachFrom p limited c0 c → Bc.step p limited c = .next c' →
      ReachFrom p limited c0 c'

theorem layStep_unchecked {p : Program w} {limited : Bool} {c c' : Cfg w}
    (hs : Bc.step p limited c = .next c') (l : Lay) :
    (layStep .unchecked p c c' l).size = l.size ∧
    (layStep .unchecked p c c' l).cur = l.cur + (c'.st.ptr - c.st.ptr) := by
  cases hi : p.insts[c.pc]? with
  | none =>
    rw [C11.step_none hi] at hs
    split at hs <;> cases hs
  | some ins =>
    rw [C11.step_eq hi] at hs
    have hptr := C11.stepI_ptr p limited c ins
    rw [hs] at hptr
    simp only [StepRes.cfg] at hptr
    cases ins with
    | mov sh =>
      simp only [C11.stepI, StepRes.next.injEq] at hs
      subst hs
      simp only [layStep, hi, move_unchecked_eq, State.mov]
      exact ⟨trivial, by omega⟩
    | scan cond sh =>
      simp only [C11.stepI] at hs
      by_cases hz : c.st.rd cond = 0#w
      · rw [if_pos hz] at hs
        cases hs
        simp only [layStep, hi]
        rw [if_neg (by omega)]
        exact ⟨rfl, by omega⟩
      · rw [if_neg hz] at hs
        by_cases h0 : sh = 0
        · rw [if_pos h0] at hs
          cases limited <;> cases hs
          simp only [layStep, hi]
          rw [if_neg (fun h => h.2 h0)]
          exact ⟨rfl, by omega⟩
        · rw [if_neg h0] at hs
          cases hs
          simp only [layStep, hi]
          rw [if_pos ⟨trivial, h0⟩]
          simp only [move_unchecked_eq, State.mov]
          exact ⟨trivial, by omega⟩
    | _ =>
      have hptr : c'.st.ptr = c.st.ptr := by
        rcases hptr with h | ⟨_, h, _⟩ | ⟨_, _, h, _⟩
        · exact h
        · cases h
        · cases h
      simp only [layStep, hi]
      exact ⟨trivial, by omega⟩

-- `base` is the physical index of logical pointer 0; the invariant of the run is `l.cur = base + ptr`
theorem runLay_unchecked_region {p : Program w} (L : C11.LocalFacts p) (limited : Bool)
    (c0 : Cfg w) (lo hi base : Int) (size : Nat)
    (hreach : ∀ c, ReachFrom p limited c0 c → lo ≤ c.st.ptr ∧ c.st.ptr ≤ hi)
    (hlo : 0 ≤ base + lo + p.minAcc) (hhi : base + hi + p.maxAcc < size) :
    ∀ (fuel : Nat) (c : Cfg w) (l : Lay), ReachFrom p limited c0 c → l.size = size →
      l.cur = base + c.st.ptr →
      (runLay .unchecked p limited fuel c l true).ok = true ∧
      (runLay .unchecked p limited fuel c l true).lay.size = size := by
  intro fuel
  induction fuel with
  | zero => intro c l _ hsz _; simp only [runLay]; exact ⟨trivial, hsz⟩
  | succ n ih =>
    intro c l hr hsz hcur
    have hb := hreach c hr
    have hacc : accessOk p c.pc l = true := by
      apply accessOk_of_inWindow L
      unfold Lay.InWindow
      rw [hsz, hcur]
      omega
    simp only [runLay, hacc, Bool.and_self]
    cases hst : Bc.step p limited c with
    | next c' =>
      simp only
      obtain ⟨e1, e2⟩ := layStep_unchecked hst l
      apply ih _ _ (ReachFrom.step hr hst)
      · rw [e1]; exact hsz
      · rw [e2, hcur]; omega
    | halt c' => exact ⟨rfl, hsz⟩
    | stop c' => exact ⟨rfl, hsz⟩
    | interrupted c' => exact ⟨rfl, hsz⟩
    | bad c' => exact ⟨rfl, hsz⟩

theorem ReachFrom.head {p : Program w} {limited : Bool} {c c' : Cfg w} (h : ReachFrom p limited c c') :
    c' = c ∨ ∃ c1, Bc.step p limited c = .next c1 ∧ ReachFrom p limited c1 c' := by
  induction h with
  | refl => exact Or.inl rfl
  | step hr hs ih =>
    rcases ih with e | ⟨c1, h1, h2⟩
    · subst e
      exact Or.inr ⟨_, hs, ReachFrom.refl⟩
    · exact Or.inr ⟨c1, h1, ReachFrom.step h2 hs⟩

/-- Decidable source of the hypothesis `hreach` of `runLay_unchecked_region` for a run that ends within
the fuel: least and greatest logical pointer over the configurations passed.  `none` when the fuel runs
out first (the range seen so far bounds nothing). -/
def ptrRange (p : Program w) (limited : Bool) : Nat → Cfg w → Int × Int → Option (Int × Int)
  | 0, _, _ => none
  | fuel + 1, c, r =>
    let r' := (min r.1 c.st.ptr, max r.2 c.st.ptr)
    match Bc.step p limited c with
    | .next c' => ptrRange p limited fuel c' r'
    | _ => some r'

theorem ptrRange_sound (p : Program w) (limited : Bool) :
    ∀ (fuel : Nat) (c : Cfg w) (r : Int × Int) (lo hi : Int),
      ptrRange p limited fuel c r = some (lo, hi) →
      lo ≤ r.1 ∧ r.2 ≤ hi ∧ ∀ c', ReachFrom p limited c c' → lo ≤ c'.st.ptr ∧ c'.st.ptr ≤ hi := by
  intro fuel
  induction fuel with
  | zero => intro c r lo hi h; simp only [ptrRange] at h; cases h
  | succ n ih =>
    intro c r lo hi h
    -- the result contains `r` extended by the pointer of `c`, and whatever is reached after a step
    have key : lo ≤ min r.1 c.st.ptr ∧ max r.2 c.st.ptr ≤ hi ∧
        ∀ c1, Bc.step p limited c = .next c1 →
          ∀ c', ReachFrom p limited c1 c' → lo ≤ c'.st.ptr ∧ c'.st.ptr ≤ hi := by
      simp only [ptrRange] at h
      cases hs : Bc.step p limited c with
      | next c1 =>
        simp only [hs] at h
        obtain ⟨h1, h2, h3⟩ := ih _ _ _ _ h
        exact ⟨h1, h2, fun _ e => by cases e; exact h3⟩
      | _ =>
        simp only [hs, Option.some.injEq, Prod.mk.injEq] at h
        exact ⟨Int.le_of_eq h.1.symm, Int.le_of_eq h.2, fun _ e => nomatch e⟩
    obtain ⟨k1, k2, k3⟩ := key
    refine ⟨by omega, by omega, fun c' hr => ?_⟩
    rcases hr.head with rfl | ⟨c1, e1, e2⟩
    · omega
    · exact k3 c1 e1 c' e2

end C10
end Hpbf
