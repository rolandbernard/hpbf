/-
One step of the lockstep simulation. First the straight-line instructions `output`, `input`, `calc`; then control
flow: entering / skipping a nested block, the end of a loop iteration (back edge or exit), the end of an `if`, the
end of the program.  The second half is where the analysis facts `at_least_once`, `at_most_once`, `reads`,
`has_shift` are used.
-/
import Hpbf.Proofs.C01DseInv
import Hpbf.Proofs.StateAgree

namespace Hpbf
namespace C01Dse
open Ir OptDse

variable {w : Nat} {lim : Bool} {bud : Nat} {b : Block w} {anal : DAnal} {env : Env}
variable {cur' : List (Instr w)} {conts conts' : List (Cont w)} {budget budget' : Nat} {st st' : State w}

theorem agree_of_meta {st st' : State w} (hptr : st'.ptr = st.ptr) (henv : st'.env = st.env)
    (htr : st'.trace = st.trace) : C11.StSim (fun a => st.tape.get a = st'.tape.get a) st st' :=
  .of_meta hptr.symm henv.symm htr.symm

theorem step_output {src : Int}
    {rest : List (Instr w)}
    (h : Inv lim bud b anal env ⟨.output src :: rest, conts, budget, st⟩ ⟨cur', conts', budget', st'⟩) :
    StepRel lim bud b anal env (step lim ⟨.output src :: rest, conts, budget, st⟩)
      (step lim ⟨cur', conts', budget', st'⟩) := by
  obtain ⟨frs, A, sh, rest', s1, idx1, i', s0, idx0, rfl, hK, h1, h2, hst, htape, hreach, hbud, hptr, henv, htr⟩ :=
    h.head
  rw [elimInstr_output] at h2
  simp only [Option.some.injEq, Prod.mk.injEq] at h2
  obtain ⟨rfl, rfl, rfl⟩ := h2
  have hx : st.tape.get (st.ptr + src) = st'.tape.get (st.ptr + src) := by
    rcases htape (st.ptr + src) with h | h | h
    · exact h
    · exact absurd (C01.add_sub_self _ _) (DeadI.of_read h).2
    · exact absurd (by simp [stepReads]) (h.noread (by simp))
  obtain ⟨eok, hS⟩ := (agree_of_meta hptr henv htr).output hx
  simp only [step]
  cases ho : st.output src with
  | mk ok s2 =>
    cases ho' : st'.output src with
    | mk ok' s2' =>
      rw [ho, ho'] at eok hS
      simp only at eok hS
      subst eok
      cases ok with
      | false => exact ⟨hS.trace.symm, hS.env.symm, hS.ptr.symm, hbud⟩
      | true =>
        have hs : step lim ⟨.output src :: rest, conts, budget, st⟩ = .next ⟨rest, conts, budget, s2⟩ := by
          simp only [step, ho]
        refine ⟨hreach.step hs, ⟨frs, A, sh, s1, idx1, hK, h1, hst.tail, fun a => ?_⟩, hbud, hS.ptr.symm,
          hS.env.symm, hS.trace.symm⟩
        rcases htape a with h | h | h
        · exact Or.inl (hS.tape a h)
        · refine Or.inr (Or.inl ?_)
          simp only [output_ptr_of_eq ho]
          exact (DeadI.of_read h).1
        · exact Or.inr (Or.inr (h.next hK.length.1 (by simp) hs (by simp [stepWrites]) (fun _ h => h)))

theorem step_input {dst : Int}
    {rest : List (Instr w)}
    (h : Inv lim bud b anal env ⟨.input dst :: rest, conts, budget, st⟩ ⟨cur', conts', budget', st'⟩) :
    StepRel lim bud b anal env (step lim ⟨.input dst :: rest, conts, budget, st⟩)
      (step lim ⟨cur', conts', budget', st'⟩) := by
  obtain ⟨frs, A, sh, rest', s1, idx1, i', s0, idx0, rfl, hK, h1, h2, hst, htape, hreach, hbud, hptr, henv, htr⟩ :=
    h.head
  rw [elimInstr_input] at h2
  simp only [Option.some.injEq, Prod.mk.injEq] at h2
  obtain ⟨rfl, rfl, rfl⟩ := h2
  obtain ⟨eok, hS⟩ := (agree_of_meta hptr henv htr).input dst
  simp only [step]
  cases ho : st.input dst with
  | mk ok s2 =>
    cases ho' : st'.input dst with
    | mk ok' s2' =>
      rw [ho, ho'] at eok hS
      simp only at eok hS
      subst eok
      cases ok with
      | false => exact ⟨hS.trace.symm, hS.env.symm, hS.ptr.symm, hbud⟩
      | true =>
        have hs : step lim ⟨.input dst :: rest, conts, budget, st⟩ = .next ⟨rest, conts, budget, s2⟩ := by
          simp only [step, ho]
        refine ⟨hreach.step hs, ⟨frs, A, sh, s1, idx1, hK, h1, hst.tail, fun a => ?_⟩, hbud, hS.ptr.symm,
          hS.env.symm, hS.trace.symm⟩
        by_cases ha : a = st.ptr + dst
        · exact Or.inl (hS.tape a (Or.inr ⟨rfl, ha⟩))
        · rcases htape a with h | h | h
          · exact Or.inl (hS.tape a (Or.inl h))
          · refine Or.inr (Or.inl ?_)
            simp only [input_ptr_of_eq ho]
            exact DeadI.of_write h (fun e => ha (by omega))
          · exact Or.inr (Or.inr (h.next hK.length.1 (by simp) hs (by simpa [stepWrites] using ha)
              (fun _ h => h)))

theorem keptCalcs_sub {P : List DState} {calcs : List (Int × Expr w)} {s : DState} :
    (keptCalcs P calcs s).Sublist calcs := List.filter_sublist

theorem step_calc
    {calcs : List (Int × Expr w)}
    {rest : List (Instr w)}
    (h : Inv lim bud b anal env ⟨.calc calcs :: rest, conts, budget, st⟩ ⟨cur', conts', budget', st'⟩) :
    StepRel lim bud b anal env (step lim ⟨.calc calcs :: rest, conts, budget, st⟩)
      (step lim ⟨cur', conts', budget', st'⟩) := by
  obtain ⟨frs, A, sh, rest', s1, idx1, i', s0, idx0, rfl, hK, h1, h2, hst, htape, hreach, hbud, hptr, henv, htr⟩ :=
    h.head
  rw [elimInstr_calc] at h2
  simp only [Option.some.injEq, Prod.mk.injEq] at h2
  obtain ⟨rfl, rfl, rfl⟩ := h2
  have hnd : (calcs.map Prod.fst).Nodup := hst.calc_nodup
  have hndk : ((keptCalcs (frs.map Frame.par) calcs s1).map Prod.fst).Nodup :=
    hnd.sublist (keptCalcs_sub.map _)
  have hchain : ChainOk s1 frs := hK.chain s1 (elimInsts_meta h1).1 (elimInsts_meta h1).2.1
  have hrd : ∀ x ∈ (keptCalcs (frs.map Frame.par) calcs s1).flatMap (fun c => Expr.variables c.2),
      st'.rd x = st.rd x := by
    intro x hx
    unfold State.rd; rw [hptr]
    rcases htape (st.ptr + x) with h | h | h
    · exact h.symm
    · exact absurd (by rw [C01.add_sub_self]; exact hx) (dead_calc_noread h)
    · refine absurd ?_ (h.noread (by simp))
      simp only [stepReads, List.mem_flatMap, List.mem_map]
      obtain ⟨ve, hve, hxv⟩ := List.mem_flatMap.1 hx
      exact ⟨ve, keptCalcs_sub.subset hve, x, hxv, rfl⟩
  have hs : step lim ⟨.calc calcs :: rest, conts, budget, st⟩ = .next ⟨rest, conts, budget, doCalc st calcs⟩ := by
    simp only [step]
  simp only [step]
  obtain ⟨m1, m2, m3⟩ := doCalc_meta st calcs
  obtain ⟨m1', m2', m3'⟩ := doCalc_meta st' (keptCalcs (frs.map Frame.par) calcs s1)
  refine ⟨hreach.step hs, ⟨frs, A, sh, s1, idx1, hK, h1, hst.tail, fun a => ?_⟩, hbud,
    by simp only [m1, m1', hptr], by simp only [m2, m2', henv], by simp only [m3, m3', htr]⟩
  simp only
  have hav : a = st.ptr + (a - st.ptr) := by omega
  by_cases hk : (a - st.ptr) ∈ (keptCalcs (frs.map Frame.par) calcs s1).map Prod.fst
  · -- assigned by both
    obtain ⟨ve, hve, hv⟩ := List.mem_map.1 hk
    obtain ⟨v, e⟩ := ve
    simp only at hv
    subst hv
    left
    have g1 := doCalc_get_in st calcs _ e hnd (keptCalcs_sub.subset hve)
    have g2 := doCalc_get_in st' _ _ e hndk hve
    rw [hptr] at g2
    rw [hav, g1, g2]
    apply evaluate_congr
    intro x hx
    exact (hrd x (List.mem_flatMap.2 ⟨_, hve, hx⟩)).symm
  · have g2 : (doCalc st' (keptCalcs (frs.map Frame.par) calcs s1)).tape.get a = st'.tape.get a := by
      apply doCalc_get_notin
      intro ve hve e
      exact hk (List.mem_map.2 ⟨ve, hve, by rw [hptr] at e; omega⟩)
    by_cases hc : (a - st.ptr) ∈ calcs.map Prod.fst
    · -- assigned by the original program only: a deleted assignment
      right; left
      obtain ⟨ve, hve, hv⟩ := List.mem_map.1 hc
      have hrem : ve.1 ∈ (calcScan (frs.map Frame.par) calcs s1 []).2 := by
        by_cases hcon : ve.1 ∈ (calcScan (frs.map Frame.par) calcs s1 []).2
        · exact hcon
        · exact absurd (List.mem_map.2 ⟨ve, mem_keptCalcs.2 ⟨hve, hcon⟩, hv⟩) hk
      simp only [m1]
      rw [← hv]
      exact dead_calc_removed hchain hnd hrem
    · have g1 : (doCalc st calcs).tape.get a = st.tape.get a := by
        apply doCalc_get_notin
        intro ve hve e
        exact hc (List.mem_map.2 ⟨ve, hve, by omega⟩)
      rw [g1, g2]
      rcases htape a with h | h | h
      · exact Or.inl h
      · refine Or.inr (Or.inl ?_)
        simp only [m1]
        exact dead_calc_other h hc
      · refine Or.inr (Or.inr (h.next hK.length.1 (by simp) hs ?_ (fun _ h => h)))
        simp only [stepWrites, List.mem_map, not_exists, not_and]
        intro ve hve e
        exact hc (List.mem_map.2 ⟨ve, hve, by omega⟩)

section Block
variable {i : Instr w} {cond shift : Int} {body : List (Instr w)}

theorem step_block_eq (hp : blockParts i = some (cond, shift, body)) (lim : Bool) (rest : List (Instr w))
    (conts : List (Cont w)) (budget : Nat) (st : State w) :
    step lim ⟨i :: rest, conts, budget, st⟩ =
      if st.rd cond ≠ 0#w then .next ⟨body, contOf i rest :: conts, budget, st⟩
      else .next ⟨rest, conts, budget, st⟩ := by
  cases i <;> cases hp <;> rfl

theorem stepReads_block (hp : blockParts i = some (cond, shift, body)) (rest : List (Instr w))
    (conts : List (Cont w)) (budget : Nat) (st : State w) :
    stepReads ⟨i :: rest, conts, budget, st⟩ = [st.ptr + cond] := by
  cases i <;> cases hp <;> rfl

theorem stepWrites_block (hp : blockParts i = some (cond, shift, body)) (rest : List (Instr w))
    (conts : List (Cont w)) (budget : Nat) (st : State w) :
    stepWrites ⟨i :: rest, conts, budget, st⟩ = [] := by
  cases i <;> cases hp <;> rfl

theorem step_block
    (hS : AnalSoundAt lim bud b anal env) (hp : blockParts i = some (cond, shift, body))
    {rest : List (Instr w)}
    (h : Inv lim bud b anal env ⟨i :: rest, conts, budget, st⟩ ⟨cur', conts', budget', st'⟩) :
    StepRel lim bud b anal env (step lim ⟨i :: rest, conts, budget, st⟩)
      (step lim ⟨cur', conts', budget', st'⟩) := by
  obtain ⟨frs, A, sh, rest', s1, idx1, i', s0, idx0, rfl, hK, h1, h2, hst, htape, hreach, hbud, hptr, henv, htr⟩ :=
    h.head
  obtain ⟨k, A1, body', sub, idxb, rfl, hA, hb, hr2⟩ := elimInstr_block_some hp h2
  simp only [Prod.mk.injEq] at hr2
  obtain ⟨rfl, rfl, rfl⟩ := hr2
  have hA1 : subAt A (nblocks rest + 1) = some A1 := subAt_of_elim h1 hA
  obtain ⟨mb1, mb2, _⟩ := elimInsts_meta hb
  have mb1' : sub.anal = A1 := mb1
  have mb2' : sub.shift = shift := mb2
  obtain ⟨hstb, hstsh⟩ := hst.block hp hA1
  have hnw : ∀ a, a ∉ stepWrites ⟨i :: rest, conts, budget, st⟩ := by simp [stepWrites_block hp]
  have hrd : st'.rd cond = st.rd cond := by
    unfold State.rd; rw [hptr]
    rcases htape (st.ptr + cond) with h | h | h
    · exact h.symm
    · exact absurd (C01.add_sub_self _ _) (dead_head_ne_cond h)
    · exact absurd (by simp [stepReads_block hp]) (h.noread (by simp))
  have hF1 := hS.atLeast _ hreach i rest cond shift body A A1 rfl hp hK.analOf hA1
  simp only at hF1
  have hs := step_block_eq hp lim rest conts budget st
  rw [hs, step_block_eq (blockParts_withBody hp body'), hrd]
  by_cases hz : st.rd cond ≠ 0#w
  · -- the body is entered
    rw [if_pos hz] at hs
    rw [if_pos hz, if_pos hz]
    refine ⟨hreach.step hs, ⟨⟨sub, s1.read cond⟩ :: frs, A1, shift, sub, idxb,
      MatchK.enter hp hK h1 hA1 hb hst, by simpa using hb, hstb, fun a => ?_⟩, hbud, hptr, henv, htr⟩
    simp only
    rcases htape a with h | h | h
    · exact Or.inl h
    · refine Or.inr (Or.inl ?_)
      refine dead_enter h mb1' (fun hns => ?_)
      obtain ⟨g1, g2⟩ := hstsh hns
      exact ⟨mb2'.trans g1, (body_noShift hb hstb g2).1⟩
    · exact Or.inr (Or.inr (h.next hK.length.1 (by simp) hs (hnw a)
        (fun _ h => h.trans (List.suffix_cons _ _))))
  · -- the block is skipped
    rw [if_neg hz] at hs
    rw [if_neg hz, if_neg hz]
    have hlo : A1.atLeastOnce = false := Bool.eq_false_iff.2 (fun h => hz (hF1 h))
    refine ⟨hreach.step hs, ⟨frs, A, sh, s1, _, hK, h1, hst.tail, fun a => ?_⟩, hbud, hptr, henv, htr⟩
    simp only
    rcases htape a with h | h | h
    · exact Or.inl h
    · exact Or.inr (Or.inl (dead_skip h hlo))
    · exact Or.inr (Or.inr (h.next hK.length.1 (by simp) hs (hnw a) (fun _ h => h)))

end Block

theorem step_halt
    (h : Inv lim bud b anal env ⟨[], [], budget, st⟩ ⟨cur', conts', budget', st'⟩) :
    StepRel lim bud b anal env (step lim ⟨[], [], budget, st⟩) (step lim ⟨cur', conts', budget', st'⟩) := by
  obtain ⟨rfl, frs, A, sh, hK, _, _, hbud, hptr, henv, htr⟩ := h.atEnd
  cases hK
  simp only [step]
  exact ⟨htr, henv, hptr, hbud⟩

theorem step_ifEnd
    {shift : Int} {rest : List (Instr w)} {ks : List (Cont w)}
    (h : Inv lim bud b anal env ⟨[], .ifEnd shift rest :: ks, budget, st⟩ ⟨cur', conts', budget', st'⟩) :
    StepRel lim bud b anal env (step lim ⟨[], .ifEnd shift rest :: ks, budget, st⟩)
      (step lim ⟨cur', conts', budget', st'⟩) := by
  obtain ⟨rfl, frs, A, sh, hK, htape, hreach, rfl, hptr, henv, htr⟩ := h.atEnd
  cases hK with
  | @ifEnd _ ks' frs0 A0 sh0 _ body body' _ rest' s idx _ sub idx1 cond hk hrest hA1 hbody hstK =>
  obtain ⟨mb1, mb2, _⟩ := elimInsts_meta hbody
  have mb2' : sub.shift = shift := mb2
  rw [step_at_ifEnd, step_at_ifEnd]
  by_cases hl : (lim && budget' == 0) = true
  · rw [if_pos hl, if_pos hl]
    obtain ⟨e1, e2, e3⟩ := unwind_obs shift htr henv hptr hk.shifts
    exact ⟨e1, e2, e3, rfl⟩
  · rw [if_neg hl, if_neg hl]
    have hs : step lim ⟨[], .ifEnd shift rest :: ks, budget', st⟩ =
        .next ⟨rest, ks, if lim = true then budget' - 1 else budget', st.mov shift⟩ := by
      rw [step_at_ifEnd, if_neg hl]
    refine ⟨hreach.step hs, ⟨frs0, A0, sh0, s, idx, hk, hrest, hstK.tail, fun a => ?_⟩, rfl,
      by simp only [State.mov, hptr], henv, htr⟩
    simp only
    rcases htape a with h | h
    · exact Or.inl h
    · exact Or.inr (h.leave (congrArg (· + 1) hk.length.1) hs List.not_mem_nil hk.length.1 (by rw [mb2']; rfl))

theorem step_loopEnd
    (hS : AnalSoundAt lim bud b anal env)
    {cond shift : Int} {body rest : List (Instr w)} {ks : List (Cont w)}
    (h : Inv lim bud b anal env ⟨[], .loopEnd cond shift body rest :: ks, budget, st⟩
      ⟨cur', conts', budget', st'⟩) :
    StepRel lim bud b anal env (step lim ⟨[], .loopEnd cond shift body rest :: ks, budget, st⟩)
      (step lim ⟨cur', conts', budget', st'⟩) := by
  obtain ⟨rfl, frs, A, sh, hK, htape, hreach, rfl, hptr, henv, htr⟩ := h.atEnd
  cases hK with
  | @loopEnd _ ks' frs0 A0 sh0 _ _ _ body' _ rest' s idx _ sub idx1 once hk hrest hA1 hbody hstK =>
  have hKfull := MatchK.loopEnd once hk hrest hA1 hbody hstK
  obtain ⟨mb1, mb2, _⟩ := elimInsts_meta hbody
  have mb1' : sub.anal = A := mb1
  have mb2' : sub.shift = shift := mb2
  obtain ⟨hstb, hstsh⟩ := hstK.block rfl hA1
  have hlen : (Cont.loopEnd cond shift body rest :: ks).length = frs0.length + 1 :=
    congrArg (· + 1) hk.length.1
  rw [step_at_loopEnd, step_at_loopEnd]
  by_cases hl : (lim && budget' == 0) = true
  · rw [if_pos hl, if_pos hl]
    obtain ⟨e1, e2, e3⟩ := unwind_obs shift htr henv hptr hk.shifts
    exact ⟨e1, e2, e3, rfl⟩
  · rw [if_neg hl, if_neg hl]
    have hrd : (st'.mov shift).rd cond = (st.mov shift).rd cond := by
      show st'.tape.get (st'.ptr + shift + cond) = st.tape.get (st.ptr + shift + cond)
      rw [hptr]
      rcases htape (st.ptr + shift + cond) with h | h
      · exact h.symm
      · exfalso
        rcases DC.at_end h hlen with hd | ⟨nr, _, _⟩
        · have e : st.ptr + shift + cond - st.ptr - sub.shift = cond := by rw [mb2']; omega
          have := (DeadI.of_read hd.2).2
          simp only at this
          rw [e] at this
          exact this rfl
        · exact nr (List.mem_singleton.2 rfl)
    rw [hrd]
    by_cases hz : (st.mov shift).rd cond ≠ 0#w
    · -- back edge
      rw [if_pos hz, if_pos hz]
      have hs : step lim ⟨[], .loopEnd cond shift body rest :: ks, budget', st⟩ =
          .next ⟨body, .loopEnd cond shift body rest :: ks, if lim = true then budget' - 1 else budget',
            st.mov shift⟩ := by
        rw [step_at_loopEnd, if_neg hl, if_pos hz]
      refine ⟨hreach.step hs, ⟨⟨sub, s.read cond⟩ :: frs0, A, shift, sub, idx1, hKfull,
        by simpa using hbody, hstb, fun a => ?_⟩, rfl, by simp only [State.mov, hptr], henv, htr⟩
      simp only
      rcases htape a with h | h
      · exact Or.inl h
      · rcases DC.at_end h hlen with hd | ⟨_, _, pre⟩
        · obtain ⟨hLoop, hAfter⟩ := hd
          simp only at hLoop hAfter
          rcases hLoop with hA | ⟨hNS, hBC⟩
          · -- `at_most_once` contradicts the back edge
            exfalso
            rw [mb1'] at hA
            exact hz (hS.atMost _ hreach cond shift body rest ks A rfl rfl hKfull.analOf hA)
          · rw [mb1'] at hNS
            obtain ⟨hsh0, hused⟩ := hstsh hNS
            subst hsh0
            have hp0 : (st.mov 0).ptr = st.ptr := by simp [State.mov]
            rw [mb2', Int.sub_zero] at hAfter
            rcases hBC with hB | hC
            · -- protected by the `reads` fact
              refine Or.inr (Or.inr ⟨⟨sub, s.read cond⟩, frs0, List.suffix_refl _, ?_⟩)
              refine ⟨(body_noShift hbody hstb hused).2, nsAbove_le (by simp [hk.length.1]), fun n => ?_,
                by rw [mb1']; exact hNS, mb2', by simp only [hp0]; exact hB, by simp only [hp0]; exact hAfter⟩
              have := hS.reads _ hreach cond 0 body rest ks A _ rfl rfl hKfull.analOf hNS hz hs
                (a - st.ptr) n (by rw [← mb1']; exact hB)
              simp only [hp0, hlen] at this
              rw [show st.ptr + (a - st.ptr) = a by omega] at this
              exact this
            · refine Or.inr (Or.inl ?_)
              simp only [hp0]
              refine Or.inr ⟨hC.1, hC.2, ⟨Or.inr ⟨by rw [mb1']; exact hNS, Or.inr hC⟩, ?_⟩⟩
              simp only [mb2', Int.sub_zero]
              exact hAfter
        · exact Or.inr (Or.inr (pre _ hs List.not_mem_nil hlen))
    · -- exit
      rw [if_neg hz, if_neg hz]
      have hs : step lim ⟨[], .loopEnd cond shift body rest :: ks, budget', st⟩ =
          .next ⟨rest, ks, if lim = true then budget' - 1 else budget', st.mov shift⟩ := by
        rw [step_at_loopEnd, if_neg hl, if_neg hz]
      refine ⟨hreach.step hs, ⟨frs0, A0, sh0, s, idx, hk, hrest, hstK.tail, fun a => ?_⟩, rfl,
        by simp only [State.mov, hptr], henv, htr⟩
      simp only
      rcases htape a with h | h
      · exact Or.inl h
      · exact Or.inr (h.leave hlen hs List.not_mem_nil hk.length.1 (by rw [mb2']; rfl))

end C01Dse
end Hpbf
