/-
C02 / C13 (`allocate_temps` is total): the order of first uses in emitted code.

At the boundaries between IR instructions every value number has been read (`NoUn`), and whenever the first use of
a value `t2` is a store `mem[m] = tmp t2`, every value created before `t2` was first used before that store
(`OrdInv`): within a `calc` all computations precede all stores, and the stores follow the order in which their
values were computed.  `totalPre_of_emit` (`C02AllocTotalEmit`) derives `TotalPre.defd` and `TotalPre.mono` from this.
-/
import Hpbf.Proofs.C02AllocEmitI
import Hpbf.Proofs.C02AllocTotalCount
set_option linter.unusedSimpArgs false

namespace Hpbf
namespace C02
namespace AEmit

open Bc BcWf BcGen C11 C02Emit

variable {w : Nat}

/-- `t` has not been read yet: `Un` of `C02AllocEmitR` without `ArithAt`. -/
def Un' (s : St w) (t : Nat) : Prop := ∃ r : RangeInfo, s.ranges[t]? = some r ∧ r.firstUse = none

def IsStore (x : Instr w) (t : Nat) : Prop := ∃ m, x = .copy (.mem m) (.tmp t)

def OrdInv (s : St w) : Prop :=
  ∀ (t1 t2 : Nat) (r1 r2 : RangeInfo) (f2 : Nat) (x : Instr w), s.ranges[t1]? = some r1 → s.ranges[t2]? = some r2 →
    r1.created < r2.created → r2.firstUse = some f2 → s.insts[f2]? = some x → IsStore x t2 →
    ∃ f1, r1.firstUse = some f1 ∧ f1 < f2

def RangesKeep (s s' : St w) : Prop :=
  ∀ (t : Nat) (r' : RangeInfo), s'.ranges[t]? = some r' →
    ∃ r : RangeInfo, s.ranges[t]? = some r ∧ r'.created = r.created ∧ r'.firstUse = r.firstUse

theorem rangesKeep_of_eq {s s' : St w} (e : s'.ranges = s.ranges) : RangesKeep s s' :=
  fun t r' h => ⟨r', by rw [← e]; exact h, rfl, rfl⟩

theorem RangesKeep.trans {s0 s1 s2 : St w} (h1 : RangesKeep s0 s1) (h2 : RangesKeep s1 s2) : RangesKeep s0 s2 := by
  intro t r2 hr2
  obtain ⟨r1, g1, g2, g3⟩ := h2 t r2 hr2
  obtain ⟨r0, q1, q2, q3⟩ := h1 t r1 g1
  exact ⟨r0, q1, g2.trans q2, g3.trans q3⟩

theorem ord_frame {s s' : St w} (h : OrdInv s) (hr : RangesKeep s s')
    (hi : ∀ (j : Nat) (x : Instr w) (t : Nat), s'.insts[j]? = some x → IsStore x t → s.insts[j]? = some x) :
    OrdInv s' := by
  intro t1 t2 r1' r2' f2 x h1 h2 hc hf hx hs
  obtain ⟨r1, g1, g2, g3⟩ := hr t1 r1' h1
  obtain ⟨r2, q1, q2, q3⟩ := hr t2 r2' h2
  rw [g3]
  exact h t1 t2 r1 r2 f2 x g1 q1 (by rw [← g2, ← q2]; exact hc) (by rw [← q3]; exact hf) (hi f2 x t2 hx hs) hs

theorem un'_frame {s s' : St w} (hr : RangesKeep s s') {t : Nat} (h : Un' s' t) : Un' s t := by
  obtain ⟨r', g1, g2⟩ := h
  obtain ⟨r, q1, _, q3⟩ := hr t r' g1
  exact ⟨r, q1, by rw [← q3]; exact g2⟩

theorem ext0_ranges {s s' : St w} {v : Nat} (E : ExtSpec v 0 s s')
    (hv : ∃ (r : RangeInfo) (f : Nat), s.ranges[v]? = some r ∧ r.firstUse = some f) : RangesKeep s s' := by
  intro t q hq
  rcases ext_entry E hq with ⟨r, hr, rfl, rfl⟩ | ⟨_, g⟩
  · obtain ⟨r0, f, hr0, hf0⟩ := hv
    rw [hr] at hr0; cases hr0
    exact ⟨r, hr, rfl, (bumped_bump r _ 0).firstSome f hf0 |>.trans hf0.symm⟩
  · exact ⟨q, g, rfl, rfl⟩

theorem ranges_outer (ps fuel i : Nat) {s s' : St w} {u : Unit} (h : outerLoop ps fuel i s = .ok (u, s'))
    (hl : LInv s) : RangesKeep s s' :=
  (outerLoop_inv ps (P := RangesKeep s)
    (fun _ _ v hl hP hm E => hP.trans (ext0_ranges E (hl.oa v hm))) (fun _ _ _ hP _ => hP) fuel i h hl
    (rangesKeep_of_eq rfl)).2

theorem un'_pushStep {s s' : St w} {ops : List Nat} {inst : Instr w} {nv : Option Nat}
    (P : PushStep s s' ops inst nv) {t : Nat} (h : Un' s' t) : (Un' s t ∧ t ∉ ops) ∨ nv = some t := by
  obtain ⟨r', hr', hf⟩ := h
  rcases P.ent hr' with ⟨_, r, g1, g2⟩ | ⟨g1, _, g3⟩ | ⟨g1, _, _⟩
  · cases hfo : r.firstUse with
    | none => rw [g2.firstNone hfo] at hf; cases hf
    | some f0 => rw [g2.firstSome f0 hfo] at hf; cases hf
  · exact Or.inl ⟨⟨r', g3, hf⟩, g1⟩
  · exact Or.inr g1

theorem ord_pushStep {s s' : St w} {ops : List Nat} {inst : Instr w} {nv : Option Nat}
    (P : PushStep s s' ops inst nv) (hl : LInv s) (h : OrdInv s)
    (hst : ∀ (t2 : Nat) (r2 : RangeInfo), IsStore inst t2 → s.ranges[t2]? = some r2 → r2.firstUse = none →
      ∀ (t1 : Nat) (r1 : RangeInfo), s.ranges[t1]? = some r1 → r1.created < r2.created →
        ∃ f1, r1.firstUse = some f1) : OrdInv s' := by
  -- an entry of the new table with a first use, seen from the old table
  have hold : ∀ (t : Nat) (r' : RangeInfo), s'.ranges[t]? = some r' → r'.created < s.insts.size →
      ∃ r : RangeInfo, s.ranges[t]? = some r ∧ r'.created = r.created ∧
        (∀ f, r.firstUse = some f → r'.firstUse = some f) ∧
        (r.firstUse = none → r'.firstUse = none ∨ (r'.firstUse = some s.insts.size ∧ t ∈ ops)) := by
    intro t r' hr' hc
    rcases P.ent hr' with ⟨g0, r, g1, g2⟩ | ⟨_, _, g3⟩ | ⟨_, _, g3⟩
    · exact ⟨r, g1, g2.created, g2.firstSome, fun hn => Or.inr ⟨g2.firstNone hn, g0⟩⟩
    · exact ⟨r', g3, rfl, fun f hf => hf, fun hn => Or.inl hn⟩
    · rw [g3] at hc; simp at hc
  intro t1 t2 r1' r2' f2 x h1 h2 hc hf hx hs
  have hlt2 : f2 < s'.insts.size := lt_of_getElem? hx
  rw [P.hinsts] at hlt2 hx
  -- `t2` is an old value
  have hc2 : r2'.created < s.insts.size := by
    rcases P.ent h2 with ⟨_, r, g1, g2⟩ | ⟨_, _, g3⟩ | ⟨_, _, g3⟩
    · rw [g2.created]; exact (hl.rwf t2 r g1).1
    · exact (hl.rwf t2 r2' g3).1
    · rw [g3] at hf; cases hf
  obtain ⟨r2, q1, q2, q3, q4⟩ := hold t2 r2' h2 hc2
  obtain ⟨r1, g1, g2, g3, g4⟩ := hold t1 r1' h1 (by omega)
  have hcr : r1.created < r2.created := by rw [← g2, ← q2]; exact hc
  cases hfo : r2.firstUse with
  | some f0 =>
    rw [q3 f0 hfo] at hf; cases hf
    have hlt := first_lt hl q1 hfo
    rw [getElem?_push_lt' _ _ hlt] at hx
    obtain ⟨f1, e1, e2⟩ := h t1 t2 r1 r2 f2 x g1 q1 hcr hfo hx hs
    exact ⟨f1, g3 f1 e1, e2⟩
  | none =>
    rcases q4 hfo with hn | ⟨hp, _⟩
    · rw [hn] at hf; cases hf
    · rw [hp] at hf; cases hf
      have : (s.insts.push inst)[s.insts.size]? = some inst := by simp
      rw [this] at hx; cases hx
      obtain ⟨f1, e1⟩ := hst t2 r2 hs q1 hfo t1 r1 g1 hcr
      exact ⟨f1, g3 f1 e1, first_lt hl g1 e1⟩

theorem not_isStore_gvInst (e : GvnExpr w) (v t : Nat) : ¬ IsStore (gvInst e v) t := by
  rintro ⟨m, h⟩
  cases e <;> simp [gvInst] at h

/-- Inside a `calc`: `CInv` together with the order of first uses. -/
structure CK (n0 : Nat) (bs : List Nat) (s : St w) : Prop where
  cinv : CInv n0 bs s
  ord : OrdInv s

theorem ck_getValue {n0 : Nat} {bs : List Nat} {e : GvnExpr w} {s s' : St w} {v : Nat} (h : CK n0 bs s)
    (hops : ∀ a ∈ opsOf e, a < s.ranges.size) (hg : getValue e s = .ok (v, s')) :
    CK n0 bs s' ∧ v < s'.ranges.size ∧ ∀ t, Un' s' t → (Un' s t ∧ t ∉ opsOf e) ∨ t = v := by
  obtain ⟨c1, c2, _⟩ := cinv_getValue h.cinv hops hg
  rcases getValue_spec hg with ⟨hv, rfl⟩ | ⟨rfl, N⟩
  · refine ⟨h, c2, ?_⟩
    intro t ht
    refine Or.inl ⟨ht, ?_⟩
    intro hto
    obtain ⟨r, f, g1, g2⟩ := h.cinv.kv _ (mem_of_alGet hv) t hto
    obtain ⟨r', q1, q2⟩ := ht
    rw [g1] at q1; cases q1
    rw [g2] at q2; cases q2
  · obtain ⟨P, _⟩ := pushStep_getValue hops N
    refine ⟨⟨c1, ord_pushStep P h.cinv.linv h.ord (fun t2 r2 hs => absurd hs (not_isStore_gvInst _ _ _))⟩, c2, ?_⟩
    intro t ht
    rcases un'_pushStep P ht with g | g
    · exact Or.inl g
    · exact Or.inr (Option.some.inj g).symm

/-- What the state `a` of later emission keeps of an earlier state `s0` (unrelated to `TotalPre.mono`). -/
structure Mono (s0 a : St w) : Prop where
  size : s0.insts.size ≤ a.insts.size
  keep : ∀ (t : Nat) (r : RangeInfo), s0.ranges[t]? = some r → ∃ r' : RangeInfo, a.ranges[t]? = some r' ∧
    r'.created = r.created ∧ ∀ f, r.firstUse = some f → r'.firstUse = some f
  fresh : ∀ (t : Nat) (r' : RangeInfo), a.ranges[t]? = some r' → t < s0.ranges.size ∨ s0.insts.size ≤ r'.created

theorem mono_refl (s : St w) : Mono s s :=
  ⟨Nat.le_refl _, fun t r h => ⟨r, h, rfl, fun f hf => hf⟩, fun t r' h => Or.inl (lt_of_getElem? h)⟩

theorem mono_trans {s0 s1 s2 : St w} (h1 : Mono s0 s1) (h2 : Mono s1 s2) : Mono s0 s2 := by
  refine ⟨Nat.le_trans h1.size h2.size, ?_, ?_⟩
  · intro t r hr
    obtain ⟨r1, g1, g2, g3⟩ := h1.keep t r hr
    obtain ⟨r2, q1, q2, q3⟩ := h2.keep t r1 g1
    exact ⟨r2, q1, q2.trans g2, fun f hf => q3 f (g3 f hf)⟩
  · intro t r2 hr2
    rcases h2.fresh t r2 hr2 with g | g
    · have hget : s1.ranges[t]? = some s1.ranges[t] := Array.getElem?_eq_getElem g
      obtain ⟨r2', q1, q2, _⟩ := h2.keep t _ hget
      rw [hr2] at q1; cases q1
      rcases h1.fresh t _ hget with g' | g'
      · exact Or.inl g'
      · exact Or.inr (by rw [q2]; exact g')
    · exact Or.inr (Nat.le_trans h1.size g)

theorem mono_reads_push {s0 s2 s' : St w} {l : List Nat} {inst : Instr w} (hR : ReadsSpec l s0 s2)
    (e1 : s'.ranges = s2.ranges) (e2 : s'.insts = s0.insts.push inst) : Mono s0 s' := by
  have F := readsFacts l hR
  refine ⟨by rw [e2]; simp, ?_, ?_⟩
  · intro t r hr
    rw [e1]
    by_cases hm : t ∈ l
    · obtain ⟨r0, r2, g1, g2, g3⟩ := F.hit t hm
      rw [hr] at g1; cases g1
      exact ⟨r2, g2, g3.created, g3.firstSome⟩
    · exact ⟨r, by rw [F.miss t hm]; exact hr, rfl, fun f hf => hf⟩
  · intro t r' hr'
    rw [e1] at hr'
    exact Or.inl (by rw [← F.size]; exact lt_of_getElem? hr')

theorem mono_getValue {e : GvnExpr w} {s s' : St w} {v : Nat} (hg : getValue e s = .ok (v, s')) : Mono s s' := by
  rcases getValue_spec hg with ⟨_, rfl⟩ | ⟨_, N⟩
  · exact mono_refl _
  · obtain ⟨s2, h2, rfl⟩ := N.reads
    -- first the new range entry, then the reads and the instruction
    have m1 : Mono s (gvS0 s e) := by
      refine ⟨Nat.le_refl _, ?_, ?_⟩
      · intro t r hr
        exact ⟨r, by show (s.ranges.push _)[t]? = some r
                     rw [getElem?_push_lt' _ _ (lt_of_getElem? hr)]; exact hr, rfl, fun f hf => hf⟩
      · intro t r' hr'
        rcases getElem?_push_cases hr' with ⟨g, _⟩ | ⟨_, g⟩
        · exact Or.inl g
        · right; rw [g]; exact Nat.le_refl _
    have h2' : ReadsSpec (opsOf e) (gvS0 s e) s2 := h2
    exact mono_trans m1 (mono_reads_push (inst := gvInst e s.ranges.size) h2' rfl
      (by show s2.insts.push _ = _; rw [readsSpec_insts _ h2]; rfl))

theorem mono_memWrite {var : Int} {x : Nat} {s s' : St w} {u : Unit} (hm : memWrite var x s = .ok (u, s')) :
    Mono s s' := by
  obtain ⟨s1, h1, rfl⟩ := memWrite_spec hm
  exact mono_reads_push (l := [x]) (inst := .copy (.mem var) (.tmp x)) ⟨s1, h1, rfl⟩ rfl
    (by show s1.insts.push _ = _; rw [h1.insts])

theorem mono_getExprValue {e : Expr w} {var : Int} {s s' : St w} {r : Nat}
    (h : getExprValue e var s = .ok (r, s')) : Mono s s' :=
  getExprValue_pres0 (K := fun a => Mono s a) (fun e a v a' hk hh => mono_trans hk (mono_getValue hh)) e var h
    (mono_refl _)

theorem mono_calcValues {calcs : List (Int × Expr w)} {s s' : St w} {vals : List (Int × Nat)}
    (h : calcValues calcs s = .ok (vals, s')) : Mono s s' :=
  calcValues_pres0 (K := fun a => Mono s a) (fun e a v a' hk hh => mono_trans hk (mono_getValue hh)) calcs h
    (mono_refl _)

theorem Mono.un' {s0 a : St w} (h : Mono s0 a) {t : Nat} (ht : t < s0.ranges.size) (hu : Un' a t) : Un' s0 t := by
  have hget : s0.ranges[t]? = some s0.ranges[t] := Array.getElem?_eq_getElem ht
  obtain ⟨r', g1, _, g3⟩ := h.keep t _ hget
  obtain ⟨r, q1, q2⟩ := hu
  rw [g1] at q1; cases q1
  refine ⟨_, hget, ?_⟩
  cases hf : s0.ranges[t].firstUse with
  | none => rfl
  | some f => rw [g3 f hf] at q2; cases q2

/-- Among the results `vals` of the evaluation phase: an unread value created before an unread result `vals[k]`
is an earlier result (or was unread before the evaluation started). -/
def Star (vals : List (Int × Nat)) (s0 s' : St w) : Prop :=
  ∀ (k : Nat) (v : Int) (x : Nat) (rx : RangeInfo), vals[k]? = some (v, x) → s'.ranges[x]? = some rx →
    rx.firstUse = none → ∀ (t : Nat) (rt : RangeInfo), s'.ranges[t]? = some rt → rt.firstUse = none →
      rt.created < rx.created → (∃ j v', j < k ∧ vals[j]? = some (v', t)) ∨ Un' s0 t

theorem star_calcValues {n0 : Nat} {bs : List Nat} : ∀ (calcs : List (Int × Expr w)) {s s' : St w}
    {vals : List (Int × Nat)}, calcValues calcs s = .ok (vals, s') → CK n0 bs s →
    CK n0 bs s' ∧ (∀ p ∈ vals, p.2 < s'.ranges.size) ∧ (∀ t, Un' s' t → Un' s t ∨ ∃ p ∈ vals, p.2 = t) ∧
      Star vals s s'
  | [], s, s', vals, h, hk => by
    simp only [calcValues, pure_ok] at h
    rw [h.1, h.2]
    exact ⟨hk, (fun p hp => by cases hp), fun t ht => Or.inl ht, fun k v x rx hv => by simp at hv⟩
  | (v, e) :: rest, s, s', vals, h, hk => by
    simp only [calcValues, bind_ok, pure_ok] at h
    obtain ⟨x0, s1, h1, vr, s2, h2, rfl, rfl⟩ := h
    have hg : ∀ (e : GvnExpr w) (a : St w) (v : Nat) (a' : St w), CK n0 bs a →
        (∀ o ∈ opsOf e, o < a.ranges.size) → getValue e a = .ok (v, a') →
        CK n0 bs a' ∧ v < a'.ranges.size ∧ ∀ t, Un' a' t → (Un' a t ∧ t ∉ opsOf e) ∨ t = v :=
      fun e a v a' hk ho hh => ck_getValue hk ho hh
    obtain ⟨k1, v1, z1, f1⟩ := getExprValue_flow (Un := Un') hg e v h1 hk
    obtain ⟨k2, v2, f2, st2⟩ := star_calcValues rest h2 k1
    have hm12 := mono_calcValues h2
    refine ⟨k2, ?_, ?_, ?_⟩
    · intro p hp
      rcases List.mem_cons.1 hp with rfl | hp
      · obtain ⟨r', g, _⟩ := hm12.keep x0 _ (Array.getElem?_eq_getElem v1)
        exact lt_of_getElem? g
      · exact v2 p hp
    · intro t ht
      rcases f2 t ht with g | ⟨p, hp, e'⟩
      · rcases f1 t g with q | q
        · exact Or.inl q
        · exact Or.inr ⟨(v, x0), List.mem_cons_self, q.symm⟩
      · exact Or.inr ⟨p, List.mem_cons_of_mem _ hp, e'⟩
    · intro k v' x rx hv hrx hfx t rt hrt hft hlt
      cases k with
      | zero =>
        simp only [List.getElem?_cons_zero, Option.some.injEq, Prod.mk.injEq] at hv
        obtain ⟨_, rfl⟩ := hv
        by_cases ht : t < s1.ranges.size
        · have hu1 := hm12.un' ht ⟨rt, hrt, hft⟩
          rcases f1 t hu1 with q | q
          · exact Or.inr q
          · subst q
            rw [hrt] at hrx; cases hrx
            exact absurd hlt (Nat.lt_irrefl _)
        · exfalso
          rcases hm12.fresh t rt hrt with g | g
          · exact ht g
          · obtain ⟨r', q1, q2, _⟩ := hm12.keep x0 _ (Array.getElem?_eq_getElem v1)
            rw [hrx] at q1; cases q1
            have := (k1.cinv.linv.rwf x0 _ (Array.getElem?_eq_getElem v1)).1
            omega
      | succ k' =>
        simp only [List.getElem?_cons_succ] at hv
        rcases st2 k' v' x rx hv hrx hfx t rt hrt hft hlt with ⟨j, v'', hj, hjv⟩ | hu1
        · exact Or.inl ⟨j + 1, v'', Nat.succ_lt_succ hj, hjv⟩
        · rcases f1 t hu1 with q | q
          · exact Or.inr q
          · exact Or.inl ⟨0, v, Nat.succ_pos _, by rw [q]; rfl⟩

theorem memWrites_ord {n0 : Nat} {bs : List Nat} : ∀ (vals : List (Int × Nat)) {s s' : St w} {u : Unit},
    memWrites vals s = .ok (u, s') → CK n0 bs s → (∀ p ∈ vals, p.2 < s.ranges.size) →
    ∀ {s0 : St w}, (∀ t, ¬ Un' s0 t) → Star vals s0 s →
    CK n0 bs s' ∧ ∀ t, Un' s' t → Un' s t ∧ ∀ p ∈ vals, p.2 ≠ t
  | [], s, s', u, h, hk, _, _, _, _ => by
    simp only [memWrites, pure_ok] at h
    rw [h.2]; exact ⟨hk, fun t ht => ⟨ht, fun p hp => by cases hp⟩⟩
  | (v, x) :: rest, s, s', u, h, hk, hv, s0, hn, hP => by
    simp only [memWrites, bind_ok] at h
    obtain ⟨_, s1, h1, h2⟩ := h
    have hx : x < s.ranges.size := hv (v, x) List.mem_cons_self
    obtain ⟨c1, _⟩ := cinv_memWrite hk.cinv hx h1
    obtain ⟨P, _⟩ := pushStep_memWrite hx h1
    have hm := mono_memWrite h1
    have ho : OrdInv s1 := by
      refine ord_pushStep P hk.cinv.linv hk.ord ?_
      intro t2 r2 hs hr2 hf2 t1 r1 hr1 hc
      obtain ⟨m, hm'⟩ := hs
      simp only [Instr.copy.injEq, Loc.tmp.injEq] at hm'
      obtain ⟨_, rfl⟩ := hm'
      cases hf1 : r1.firstUse with
      | some f1 => exact ⟨f1, rfl⟩
      | none =>
        rcases hP 0 v x r2 rfl hr2 hf2 t1 r1 hr1 hf1 hc with ⟨j, _, hj, _⟩ | hu
        · exact absurd hj (Nat.not_lt_zero _)
        · exact absurd hu (hn t1)
    have hu1 : ∀ t, Un' s1 t → Un' s t ∧ t ≠ x := by
      intro t ht
      rcases un'_pushStep P ht with ⟨g1, g2⟩ | g
      · exact ⟨g1, by simpa using g2⟩
      · cases g
    have hback : ∀ (y : Nat) (ry : RangeInfo), s1.ranges[y]? = some ry → ry.firstUse = none →
        ∃ ry0 : RangeInfo, s.ranges[y]? = some ry0 ∧ ry0.firstUse = none ∧ ry0.created = ry.created ∧ y ≠ x := by
      intro y ry hy hfy
      obtain ⟨⟨ry0, q1, q2⟩, hne⟩ := hu1 y ⟨ry, hy, hfy⟩
      obtain ⟨ry', p1, p2, _⟩ := hm.keep y ry0 q1
      rw [hy] at p1; cases p1
      exact ⟨ry0, q1, q2, p2.symm, hne⟩
    have hP1 : Star rest s0 s1 := by
      intro k v' x' rx hv' hrx hfx t rt hrt hft hlt
      obtain ⟨rx0, a1, a2, a3, _⟩ := hback x' rx hrx hfx
      obtain ⟨rt0, b1, b2, b3, hne⟩ := hback t rt hrt hft
      rcases hP (k + 1) v' x' rx0 hv' a1 a2 t rt0 b1 b2 (by rw [a3, b3]; exact hlt) with ⟨j, v'', hj, hjv⟩ | hu
      · cases j with
        | zero =>
          simp only [List.getElem?_cons_zero, Option.some.injEq, Prod.mk.injEq] at hjv
          exact absurd hjv.2.symm hne
        | succ j' => exact Or.inl ⟨j', v'', Nat.lt_of_succ_lt_succ hj, hjv⟩
      · exact Or.inr hu
    obtain ⟨k2, f2⟩ := memWrites_ord rest h2 ⟨c1, ho⟩ (by
      intro p hp
      rw [memWrite_size h1]
      exact hv p (List.mem_cons_of_mem _ hp)) hn hP1
    refine ⟨k2, ?_⟩
    intro t ht
    obtain ⟨g1, g2⟩ := f2 t ht
    obtain ⟨q1, q2⟩ := hu1 t g1
    refine ⟨q1, ?_⟩
    intro p hp
    rcases List.mem_cons.1 hp with rfl | hp
    · exact fun e => q2 e.symm
    · exact g2 p hp

def NoUn (s : St w) : Prop := ∀ t, ¬ Un' s t

theorem oi_calc {bs : List Nat} {calcs : List (Int × Expr w)} {s s1 s' : St w} {vals : List (Int × Nat)}
    {u : Unit} (h : CInv s.insts.size bs s) (hn : NoUn s) (ho : OrdInv s)
    (hc : calcValues calcs s = .ok (vals, s1)) (hm : memWrites vals s1 = .ok (u, s')) :
    NoUn s' ∧ OrdInv s' := by
  obtain ⟨k1, v1, f1, st1⟩ := star_calcValues calcs hc ⟨h, ho⟩
  obtain ⟨k2, f2⟩ := memWrites_ord vals hm k1 v1 hn st1
  refine ⟨?_, k2.ord⟩
  intro t ht
  obtain ⟨g1, g2⟩ := f2 t ht
  rcases f1 t g1 with q | ⟨p, hp, e⟩
  · exact hn t q
  · exact g2 p hp e

def OI (s : St w) : Prop := NoUn s ∧ OrdInv s

theorem oi_frame {s s' : St w} (h : OI s) (hr : RangesKeep s s')
    (hi : ∀ (j : Nat) (x : Instr w) (t : Nat), s'.insts[j]? = some x → IsStore x t → s.insts[j]? = some x) :
    OI s' :=
  ⟨fun t ht => h.1 t (un'_frame hr ht), ord_frame h.2 hr hi⟩

def NotStore (y : Instr w) : Prop := ∀ t, ¬ IsStore y t

theorem store_of_push {A : Array (Instr w)} {y x : Instr w} {j t : Nat} (hy : NotStore y)
    (h : (A.push y)[j]? = some x) (hs : IsStore x t) : A[j]? = some x := by
  rcases getElem?_push_cases h with ⟨_, g⟩ | ⟨_, g⟩
  · exact g
  · rw [g] at hs; exact absurd hs (hy t)

theorem store_of_set {A : Array (Instr w)} {y x : Instr w} {i j t : Nat} (hy : NotStore y)
    (h : (A.setIfInBounds i y)[j]? = some x) (hs : IsStore x t) : A[j]? = some x := by
  rw [Array.getElem?_setIfInBounds] at h
  by_cases e : i = j
  · simp only [e, if_true] at h
    split at h
    · cases h; exact absurd hs (hy t)
    · cases h
  · simp only [e, if_false] at h; exact h

theorem notStore_ctl {y : Instr w} (h : isCtl y = true) : NotStore y := by
  rintro t ⟨m, rfl⟩; cases h
theorem notStore_brz (c off : Int) : NotStore (.brz c off : Instr w) := by rintro t ⟨m, h⟩; cases h
theorem notStore_inp (d : Int) : NotStore (.inp d : Instr w) := by rintro t ⟨m, h⟩; cases h

theorem oi_push {s s' : St w} (h : OI s) {y : Instr w} (hy : NotStore y) (e1 : s'.ranges = s.ranges)
    (e2 : s'.insts = s.insts.push y) : OI s' :=
  oi_frame h (rangesKeep_of_eq e1) (fun j x t hx hs => store_of_push hy (by rw [← e2]; exact hx) hs)

theorem oi_lhMov {sb : St w} (shift : Int) (h : OI sb) : OI (lhMov shift sb) := by
  unfold lhMov
  split
  · exact h
  · exact oi_push h (notStore_ctl rfl) rfl rfl

/-- `RInv` extended by `OI`, so that `closedI_oj` takes the `RInv` half from `closedI_rinv` field by field. -/
def OJ (c : List Nat) (ps : Nat) (a : Analysis) (l : List (Ir.Instr w)) (s : St w) : Prop :=
  RInv c ps a l s ∧ OI s

theorem closedI_oj (fuse : Bool) : ClosedI fuse (OJ (w := w)) where
  out := fun c ps a src rest s h =>
    ⟨(closedI_rinv fuse).out c ps a src rest s h.1, oi_push h.2 (notStore_ctl rfl) rfl rfl⟩
  inp := fun c ps a dst rest s h =>
    ⟨(closedI_rinv fuse).inp c ps a dst rest s h.1, oi_push h.2 (notStore_inp dst) rfl rfl⟩
  calcR := fun c ps a calcs rest s vals s1 s' u h hc hm =>
    ⟨(closedI_rinv fuse).calcR c ps a calcs rest s vals s1 s' u h.1 hc hm, oi_calc h.1.2 h.2.1 h.2.2 hc hm⟩
  scan := fun c ps a cond shift once rest s hf h => by
    refine ⟨(closedI_rinv fuse).scan c ps a cond shift once rest s hf h.1, ?_⟩
    rw [lhExit_eq]
    refine oi_push h.2 (y := .scan cond shift) (notStore_ctl rfl) ?_ ?_
    · show (lhHead true (subOf shift ([] : List (Ir.Instr w))) s).ranges = s.ranges
      rw [lhHead_eq]
    · show (lhHead true (subOf shift ([] : List (Ir.Instr w))) s).insts.push (.scan cond shift) = _
      rw [lhHead_eq]
  loop := fun c ps a cond shift body once rest s hf h => by
    obtain ⟨c', hb1, hexit⟩ := (closedI_rinv fuse).loop c ps a cond shift body once rest s hf h.1
    obtain ⟨hs1i, _, _⟩ := lhPro_true_insts once (subOf shift body) s
    obtain ⟨sP, hpro, p1, _⟩ := lhPro_true_eq once (lhHead true (subOf shift body) s)
    have hrng1 : (lhPro true once (lhHead true (subOf shift body) s)).ranges = s.ranges := by
      rw [hpro]; show sP.ranges = _; rw [p1, lhHead_eq]
    refine ⟨c', ⟨hb1, ?_⟩, ?_⟩
    · refine oi_frame h.2 (rangesKeep_of_eq hrng1) ?_
      intro j x t hx hs
      rw [hs1i] at hx
      cases once
      · exact store_of_push (notStore_ctl rfl) hx hs
      · exact hx
    · intro sb so u1 u2 fuel hrun hb hpre ho
      refine ⟨hexit sb so u1 u2 fuel hrun hb.1 hpre ho, ?_⟩
      have hso : so.insts = (lhMov shift sb).insts := congrArg G.insts (outerLoop_core ps fuel _ ho).1
      obtain ⟨hfr, _, _, o1, o2, hfi⟩ := loopEnd_fields once cond (subOf shift body) ps s
        (lhPro true once (lhHead true (subOf shift body) s)) so
      refine oi_frame (oi_lhMov shift hb.2) ?_ ?_
      · intro t r' hr'
        rw [hfr] at hr'
        exact ranges_outer ps fuel _ ho (lhMov_J closed_linv shift hb.1.2.linv) t r' hr'
      · intro j x t hx hs
        rw [hfi, hso] at hx
        have hx1 : ((lhMov shift sb).insts.push (.brnz cond o1))[j]? = some x := by
          cases once
          · exact store_of_set (notStore_brz cond o2) hx hs
          · exact hx
        exact store_of_push (notStore_ctl rfl) hx1 hs
  ifz := fun c ps a cond shift body rest s h => by
    obtain ⟨c', hb1, hexit⟩ := (closedI_rinv fuse).ifz c ps a cond shift body rest s h.1
    refine ⟨c', ⟨hb1, oi_push h.2 (notStore_ctl rfl) rfl rfl⟩, ?_⟩
    intro sb u1 hrun hb hpre
    refine ⟨hexit sb u1 hrun hb.1 hpre, ?_⟩
    obtain ⟨hfr, o2, hfi⟩ := ifEnd_fields cond shift (subOf shift body) ps s (lhPro false false s) sb
    refine oi_frame (oi_lhMov shift hb.2) (rangesKeep_of_eq hfr) ?_
    intro j x t hx hs
    rw [hfi] at hx
    exact store_of_set (notStore_brz cond o2) hx hs

theorem oi_of_emit {prog : Ir.Block w} {fuse : Bool} {s : St w} (h : emitState prog fuse = .ok s) : OI s := by
  have h0 : OJ ([] : List Nat) 0 Analysis.empty prog.insts ({} : St w) :=
    ⟨rinv_init _, fun t ⟨r, hr, _⟩ => by simp at hr, fun t1 t2 r1 r2 f2 x h1 => by simp at h1⟩
  exact (closedI_emitState (closedI_oj fuse) h _ h0).2

end AEmit
end C02
end Hpbf
