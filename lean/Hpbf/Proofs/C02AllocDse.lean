/-
C02 (`allocate_temps`): `AllocPre` is stable under the changes `dead_store_elim` makes – straight-line
instructions replaced by `noop`, use counts decremented (`DseLike`) – and `deadStoreElim` only makes such changes
(`deadStoreElim_dseLike`).
-/
import Hpbf.Proofs.C02AllocCheck
import Hpbf.Proofs.C02DsePass
import Hpbf.Proofs.C02AllocInv
set_option linter.unusedSimpArgs false

namespace Hpbf
namespace C02
namespace Alloc

open Bc BcWf BcGen C11

variable {w : Nat}

def SameRange (r r' : RangeInfo) : Prop :=
  r'.created = r.created ∧ r'.firstUse = r.firstUse ∧ r'.lastUse = r.lastUse

/-- The tables `rs` and `rs'` have the same entries up to the use counts (the field `ranges` of `DseLike`). -/
def RangesLike (rs rs' : Array RangeInfo) : Prop :=
  ∀ t : Nat, (rs'[t]? = none ∧ rs[t]? = none) ∨ ∃ r r', rs[t]? = some r ∧ rs'[t]? = some r' ∧ SameRange r r'

theorem RangesLike.refl (rs : Array RangeInfo) : RangesLike rs rs := fun t => by
  cases h : rs[t]? with
  | none => exact Or.inl ⟨rfl, rfl⟩
  | some r => exact Or.inr ⟨r, r, rfl, rfl, rfl, rfl, rfl⟩

theorem RangesLike.trans {rs1 rs2 rs3 : Array RangeInfo} (h : RangesLike rs1 rs2) (g : RangesLike rs2 rs3) :
    RangesLike rs1 rs3 := fun t => by
  rcases g t with ⟨e1, e2⟩ | ⟨r, r', e1, e2, e3⟩
  · rcases h t with ⟨f1, f2⟩ | ⟨q, q', f1, f2, _⟩
    · exact Or.inl ⟨e1, f2⟩
    · rw [f2] at e2; cases e2
  · rcases h t with ⟨f1, f2⟩ | ⟨q, q', f1, f2, f3⟩
    · rw [f1] at e1; cases e1
    · rw [f2] at e1; cases e1
      exact Or.inr ⟨q, r', f1, e2, e3.1.trans f3.1, e3.2.1.trans f3.2.1, e3.2.2.trans f3.2.2⟩

/-- `s'` is `s` with some straight-line instructions blanked and some use counts changed. -/
structure DseLike (s s' : St w) : Prop where
  live : s'.live = s.live
  writes : s'.writes = s.writes
  insts : ∀ j : Nat, s'.insts[j]? = s.insts[j]? ∨
    (s'.insts[j]? = some Instr.noop ∧ ∃ x, s.insts[j]? = some x ∧ plain x = true)
  ranges : ∀ t : Nat, (s'.ranges[t]? = none ∧ s.ranges[t]? = none) ∨
    ∃ r r', s.ranges[t]? = some r ∧ s'.ranges[t]? = some r' ∧ SameRange r r'

theorem DseLike.refl (s : St w) : DseLike s s :=
  ⟨rfl, rfl, fun _ => Or.inl rfl, RangesLike.refl s.ranges⟩

theorem DseLike.trans {s1 s2 s3 : St w} (h : DseLike s1 s2) (g : DseLike s2 s3) : DseLike s1 s3 := by
  refine ⟨g.live.trans h.live, g.writes.trans h.writes, ?_, RangesLike.trans h.ranges g.ranges⟩
  · intro j
    rcases g.insts j with e | ⟨e, x, hx, hp⟩
    · rcases h.insts j with e' | ⟨e', y, hy, hq⟩
      · exact Or.inl (e.trans e')
      · exact Or.inr ⟨e.trans e', y, hy, hq⟩
    · rcases h.insts j with e' | ⟨e', y, hy, hq⟩
      · exact Or.inr ⟨e, x, by rw [← e']; exact hx, hp⟩
      · exact Or.inr ⟨e, y, hy, hq⟩

theorem DseLike.range_to {s s' : St w} (h : DseLike s s') {t : Nat} {r : RangeInfo} (hr : s.ranges[t]? = some r) :
    ∃ r', s'.ranges[t]? = some r' ∧ SameRange r r' := by
  rcases h.ranges t with ⟨_, e⟩ | ⟨q, r', e1, e2, e3⟩
  · rw [hr] at e; cases e
  · rw [hr] at e1; cases e1; exact ⟨r', e2, e3⟩

theorem DseLike.range_of {s s' : St w} (h : DseLike s s') {t : Nat} {r' : RangeInfo} (hr : s'.ranges[t]? = some r') :
    ∃ r, s.ranges[t]? = some r ∧ SameRange r r' := by
  rcases h.ranges t with ⟨e, _⟩ | ⟨r, q, e1, e2, e3⟩
  · rw [hr] at e; cases e
  · rw [hr] at e2; cases e2; exact ⟨r, e1, e3⟩

theorem DseLike.inRange {s s' : St w} (h : DseLike s s') {t k : Nat} : InRange s' t k ↔ InRange s t k := by
  constructor
  · rintro ⟨r', L, g1, g2, g3, g4⟩
    obtain ⟨r, e1, e3⟩ := h.range_of g1
    exact ⟨r, L, e1, by rw [← e3.2.2]; exact g2, by rw [← e3.1]; exact g3, g4⟩
  · rintro ⟨r, L, g1, g2, g3, g4⟩
    obtain ⟨r', e2, e3⟩ := h.range_to g1
    exact ⟨r', L, e2, by rw [e3.2.2]; exact g2, by rw [e3.1]; exact g3, g4⟩

theorem DseLike.inst_of {s s' : St w} (h : DseLike s s') {j : Nat} {x : Instr w} (hx : s'.insts[j]? = some x)
    (hn : x ≠ .noop) : s.insts[j]? = some x := by
  rcases h.insts j with e | ⟨e, _⟩
  · rw [← e]; exact hx
  · rw [hx] at e; exact absurd (Option.some.inj e) hn

theorem allQ_dseLike {Q : Instr w → Prop} (hn : Q .noop) {s s' : St w} (h : DseLike s s')
    (hg : AllQ Q s.insts) : AllQ Q s'.insts := by
  intro j x hx
  rcases h.insts j with e | ⟨e, _⟩
  · exact hg j x (by rw [← e]; exact hx)
  · rw [hx] at e; cases e; exact hn

theorem allocPre_of_dseLike {s s' : St w} (hp : AllocPre s) (h : DseLike s s') : AllocPre s' := by
  have hbr : ∀ {j : Nat} {x : Instr w} {off : Int}, s'.insts[j]? = some x → branchOff? x = some off →
      s.insts[j]? = some x := by
    intro j x off hx ho
    exact h.inst_of hx (by intro e; subst e; cases ho)
  refine ⟨by rw [h.live]; exact hp.live0, ?_, ?_, ?_, ?_, ?_, ?_, ?_, ?_⟩
  · intro j ins hj
    rcases h.insts j with e | ⟨e, _⟩
    · exact hp.noZero j ins (by rw [← e]; exact hj)
    · rw [hj] at e; cases e; rfl
  · intro j ins t hj ht
    have hs := h.inst_of hj (by intro e; subst e; cases ht)
    obtain ⟨r, g1, g2⟩ := hp.defs j ins t hs ht
    obtain ⟨r', e2, e3⟩ := h.range_to g1
    exact ⟨r', e2, by rw [e3.1]; exact g2⟩
  · intro j ins t hj ht
    have hs := h.inst_of hj (by intro e; subst e; cases ht)
    exact h.inRange.2 (hp.uses j ins t hs ht)
  · intro j ins off k' hj ho hk t ht
    exact h.inRange.2 (hp.flow j ins off k' (hbr hj ho) ho hk t (h.inRange.1 ht))
  · intro t j ins ht hj
    rcases h.insts j with e | ⟨e, _⟩
    · exact hp.ptr t j ins (h.inRange.1 ht) (by rw [← e]; exact hj)
    · rw [hj] at e; cases e; rfl
  · intro j ins m hj hm
    have hs := h.inst_of hj (by intro e; subst e; cases hm)
    rw [h.writes]
    exact hp.writes j ins m hs hm
  · intro i op t s0 s1 r' f hi hr hf
    have hs := h.inst_of hi (mkArith_ne_noop _ _ _ _)
    obtain ⟨r, e1, e3⟩ := h.range_of hr
    exact hp.firstLt i op t s0 s1 r f hs e1 (by rw [← e3.2.1]; exact hf)
  · intro i op t s0 s1 f m src hc
    obtain ⟨c1, ⟨r', L, c2, c3, c4⟩, c5⟩ := hc
    have hs1 := h.inst_of c1 (mkArith_ne_noop _ _ _ _)
    have hs5 := h.inst_of c5 (by intro e; cases e)
    have hc' : Cand s i op t s0 s1 f m src := by
      obtain ⟨r, e1, e3⟩ := h.range_of c2
      exact ⟨hs1, ⟨r, L, e1, by rw [← e3.2.1]; exact c3, by rw [← e3.2.2]; exact c4⟩, hs5⟩
    obtain ⟨g1, g2, g3⟩ := hp.fuse _ _ _ _ _ _ _ _ hc'
    refine ⟨g1, ?_, ?_⟩
    · intro j x hij hjf hx
      rcases h.insts j with e | ⟨e, _⟩
      · exact g2 j x hij hjf (by rw [← e]; exact hx)
      · rw [hx] at e; cases e; exact ⟨rfl, by simp [BcWf.uses]⟩
    · intro j x off hx ho
      exact g3 j x off (hbr hx ho) ho

theorem decUse_sameRange {rs rs' : Array RangeInfo} {l : Loc w} (h : decUse rs l = .ok rs') : RangesLike rs rs' := by
  intro t
  have hrefl := RangesLike.refl rs t
  cases l with
  | tmp u =>
    simp only [decUse] at h
    cases hu : rs[u]? with
    | none => simp [hu] at h
    | some ru =>
      simp only [hu] at h
      split at h
      · cases h
      · cases h
        by_cases e : u = t
        · subst e
          have hlt : u < rs.size := lt_of_getElem? hu
          refine Or.inr ⟨ru, { ru with numUses := ru.numUses - 1 }, hu, ?_, rfl, rfl, rfl⟩
          rw [Array.getElem?_setIfInBounds]; simp [hlt]
        · rw [Array.getElem?_setIfInBounds]
          simp only [e, false_and, if_false]
          exact hrefl
  | mem m | memZero m | imm c => simp only [decUse, Except.ok.injEq] at h; subst h; exact hrefl

theorem foldlM_decUse_sameRange : ∀ (srcs : List (Loc w)) {rs rs' : Array RangeInfo},
    srcs.foldlM decUse rs = .ok rs' → RangesLike rs rs'
  | [], rs, rs', h => by
    simp only [List.foldlM, pure, Except.pure, Except.ok.injEq] at h
    subst h
    exact RangesLike.refl rs
  | l :: ls, rs, rs', h => by
    simp only [List.foldlM, bind, Except.bind] at h
    cases h1 : decUse rs l with
    | error e => rw [h1] at h; cases h
    | ok rs1 =>
      rw [h1] at h
      exact (decUse_sameRange h1).trans (foldlM_decUse_sameRange ls h)

/-- What `dseStep` does: nothing, or it blanks the straight-line instruction `i` with sources `srcs` (a store to a
dead cell, or a computation whose value is never used). -/
def DseStepRes (i : Nat) (s s' : St w) : Prop :=
  s' = s ∨ ∃ (inst : Instr w) (srcs : List (Loc w)) (rs : Array RangeInfo),
    s.insts[i]? = some inst ∧ plain inst = true ∧
    (∀ t, (BcWf.uses inst).count t = (srcs.flatMap locTmp).count t) ∧
    (∀ t, dstTmp? inst = some t → ∃ r : RangeInfo, s.ranges[t]? = some r ∧ r.numUses = 0) ∧
    srcs.foldlM decUse s.ranges = .ok rs ∧
    s' = { s with ranges := rs, insts := s.insts.setIfInBounds i .noop }

theorem dseStep_cases {i : Nat} {s s' : St w} {dead dead' : List Int} (h : dseStep i s dead = .ok (s', dead')) :
    DseStepRes i s s' := by
  cases hi : s.insts[i]? with
  | none => unfold dseStep at h; rw [hi] at h; cases h
  | some inst =>
    have hkill : ∀ (srcs : List (Loc w)), plain inst = true →
        (∀ t, (BcWf.uses inst).count t = (srcs.flatMap locTmp).count t) →
        (∀ t, dstTmp? inst = some t → ∃ r : RangeInfo, s.ranges[t]? = some r ∧ r.numUses = 0) →
        dseKill i s dead srcs = .ok (s', dead') → DseStepRes i s s' := by
      intro srcs hpl hu hd hk
      unfold dseKill at hk
      cases hf : srcs.foldlM decUse s.ranges with
      | error e => rw [hf] at hk; cases hk
      | ok rs =>
        rw [hf] at hk
        cases hk
        exact Or.inr ⟨inst, srcs, rs, hi, hpl, hu, hd, hf, rfl⟩
    have hsame : ∀ d, (.ok (s, d) : Except String (St w × List Int)) = .ok (s', dead') → DseStepRes i s s' :=
      fun d hk => by cases hk; exact Or.inl rfl
    -- the four shapes of `dseStep` (`C02DsePass`)
    by_cases c1 : ∃ m src, inst = .copy (.mem m) src
    · obtain ⟨m, src, rfl⟩ := c1
      rw [dseStep_copy_mem hi] at h
      split at h
      · exact hkill [src] rfl (fun t => by simp [BcWf.uses]) (fun t ht => by cases ht) h
      · exact hsame _ h
    by_cases c2 : ∃ op m a b, inst = mkArith op (.mem m) a b
    · obtain ⟨op, m, a, b, rfl⟩ := c2
      rw [dseStep_arith_mem hi] at h
      split at h
      · exact hkill [a, b] (plain_mkArith _ _ _ _) (fun t => by rw [dse_uses_mkArith])
          (fun t ht => by rw [dstTmp?_mkArith] at ht; cases ht) h
      · exact hsame _ h
    by_cases c3 : ∃ op t a b, inst = mkArith op (.tmp t) a b
    · obtain ⟨op, t0, a, b, rfl⟩ := c3
      rw [dseStep_arith_tmp hi] at h
      cases hr : s.ranges[t0]? with
      | none => rw [hr] at h; cases h
      | some r =>
        rw [hr] at h
        dsimp only at h
        split at h
        · rename_i h0
          refine hkill [a, b] (plain_mkArith _ _ _ _) (fun t => by rw [dse_uses_mkArith]) (fun t ht => ?_) h
          rw [dstTmp?_mkArith] at ht
          cases ht
          exact ⟨r, hr, h0⟩
        · exact hsame _ h
    · rw [dseStep_other hi (fun m src e => c1 ⟨m, src, e⟩) (fun op m a b e => c2 ⟨op, m, a, b, e⟩)
        (fun op t a b e => c3 ⟨op, t, a, b, e⟩)] at h
      exact hsame _ h

theorem dseStep_dseLike {i : Nat} {s s' : St w} {dead dead' : List Int}
    (h : dseStep i s dead = .ok (s', dead')) : DseLike s s' := by
  rcases dseStep_cases h with rfl | ⟨inst, srcs, rs, hi, hpl, _, _, hf, rfl⟩
  · exact DseLike.refl _
  · refine ⟨rfl, rfl, ?_, foldlM_decUse_sameRange srcs hf⟩
    intro j
    simp only [Array.getElem?_setIfInBounds]
    by_cases e : i = j
    · subst e
      have hlt : i < s.insts.size := lt_of_getElem? hi
      simp only [hlt, and_self, if_true]
      exact Or.inr ⟨trivial, inst, hi, hpl⟩
    · simp [e]

/-- What every step of the elimination loop keeps holds of its result. -/
theorem dseLoop_induct {P : St w → Prop}
    (step : ∀ i s dead s1 dead1, P s → dseStep i s dead = .ok (s1, dead1) → P s1) :
    ∀ (n : Nat) {s s' : St w} {dead : List Int}, P s → dseLoop n s dead = .ok s' → P s'
  | 0, s, s', dead, hP, h => by
    simp only [dseLoop, Except.ok.injEq] at h
    subst h; exact hP
  | n + 1, s, s', dead, hP, h => by
    simp only [dseLoop] at h
    cases hs : dseStep n s dead with
    | error e => rw [hs] at h; cases h
    | ok p =>
      obtain ⟨s1, d1⟩ := p
      rw [hs] at h
      exact dseLoop_induct step n (step _ _ _ _ _ hP hs) h

theorem deadStoreElim_dseLike {s s' : St w} (h : deadStoreElim s = .ok s') : DseLike s s' :=
  dseLoop_induct (P := DseLike s) (fun _ _ _ _ _ hP hs => hP.trans (dseStep_dseLike hs)) _ (DseLike.refl s) h

theorem allocPre_of_deadStoreElim {s s' : St w} (hp : AllocPre s) (h : deadStoreElim s = .ok s') : AllocPre s' :=
  allocPre_of_dseLike hp (deadStoreElim_dseLike h)

end Alloc
end C02
end Hpbf
