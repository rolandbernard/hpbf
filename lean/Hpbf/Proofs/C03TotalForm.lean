/-
C03 / C13 (the JIT's instruction selector is total on generator output): the exact set of instruction
forms for which `emit_program` (`JitGen.emitInstrRaw`) has an arm (`JitForm`), and the only other panic site of
the loop body (`Reg::tmp(l).unwrap()` in `emit_pre_call`).
-/
import Hpbf.Proofs.C03Base
namespace Hpbf
namespace C03
open Asm JitGen
variable {w : Nat}

def isMT : Bc.Loc w → Bool
  | .mem _ | .tmp _ => true
  | _ => false
def isMTI : Bc.Loc w → Bool
  | .mem _ | .tmp _ | .imm _ => true
  | _ => false

/-- The operand combinations `emit_program` has an arm for in `Add` and `Mul`. -/
def commForm : Bc.Loc w → Bc.Loc w → Bc.Loc w → Bool
  | .mem _, .mem _, s1 => isMTI s1
  | .mem _, .tmp _, .imm _ => true
  | .mem _, .tmp _, .tmp _ => true
  | .tmp _, .mem _, s1 => isMTI s1
  | .tmp _, .tmp _, .imm _ => true
  | .tmp _, .tmp _, .tmp _ => true
  | .tmp t0, .tmp t1, .mem _ => t0 == t1
  | _, _, _ => false

/-- … in `Sub`. -/
def subForm : Bc.Loc w → Bc.Loc w → Bc.Loc w → Bool
  | d, s0, s1 => isMT d && isMTI s0 && isMT s1

/-- The instruction forms for which the baseline JIT's selector has an arm. -/
def JitForm : Bc.Instr w → Bool
  | .noop | .mov _ | .inp _ | .out _ | .brz _ _ | .brnz _ _ => true
  | .scan _ _ => false
  | .copy d s => isMT d && isMTI s
  | .add d a b => commForm d a b
  | .mul d a b => commForm d a b
  | .sub d a b => subForm d a b

theorem canScratch_map {α : Type} {live t : Nat} (h : canScratch live t = true) (f : Reg → α) :
    ((tmpReg t).map f).isSome = true := by
  rw [tmpReg_lt (canScratch_lt h)]; rfl

theorem emitCopy_isSome (sz : Size) (d s : Bc.Loc w) : (emitCopy sz d s).isSome = (isMT d && isMTI s) := by
  cases d <;> cases s <;> simp only [emitCopy, isMT, isMTI, Bool.and_self, Bool.and_false, Bool.false_and,
    Option.isSome_none] <;> (repeat' split) <;> rfl

/-- The three-operand selectors are defined exactly on their tables. Operand kinds without an arm agree by computation; an
arm that emits code does so in every branch of its tests, a `canScratch` temporary having a register. -/
theorem arith_isSome (sz : Size) (live : Nat) (d a b : Bc.Loc w) :
    (emitAdd sz live d a b).isSome = commForm d a b ∧
      (emitSub sz live d a b).isSome = subForm d a b ∧ (emitMul sz live d a b).isSome = commForm d a b := by
  refine ⟨?_, ?_, ?_⟩
  all_goals cases d <;> cases a <;> cases b <;> try rfl
  all_goals simp only [emitAdd, emitSub, emitMul, commForm]
  all_goals repeat' split
  all_goals
    first
    | rfl
    | (rename_i h; exact canScratch_map h _)
    | (rename_i h _; exact canScratch_map h _)
    | (rename_i h _ _; exact canScratch_map h _)
    | simp_all

/-- The instructions whose code calls the runtime (and therefore saves the live caller-saved registers). -/
def needsCall (safe : Bool) : Bc.Instr w → Bool
  | .inp _ | .out _ => true
  | .mov _ => safe
  | _ => false

/-- The arms that call the runtime fail exactly when `emit_pre_call` does. -/
theorem prePost_isSome {α : Type} (live : Nat) (f : List X86 → List X86 → α) :
    (do let pre ← preCall live; let post ← postCall live; some (f pre post) : Option α).isSome =
      (savedRegs live).isSome := by
  unfold preCall postCall; cases savedRegs live <;> rfl

end C03
end Hpbf
