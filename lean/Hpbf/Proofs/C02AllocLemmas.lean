/-
C02 (`allocate_temps`): list-level facts (`minPush`, `setInsert`/`setErase`, `hasWriteInRange`, `arith?`/`mkArith`) for the invariant.
-/
import Hpbf.Proofs.C02AllocPre
import Hpbf.Proofs.C02EmitBase
set_option linter.unusedSimpArgs false

namespace Hpbf
namespace C02
namespace Alloc

open Bc BcWf BcGen C11

variable {w : Nat}

export C02Emit (alGet_alSet alGet_alSet_self alGet_alSet_ne alGet_alErase)

section AL
variable {κ ν : Type} [DecidableEq κ]

theorem mem_keys_of_alGet (l : List (κ × ν)) (k : κ) (v : ν) (h : alGet l k = some v) : k ∈ l.map (·.1) :=
  Classical.not_not.1 fun hm => by rw [(C02Emit.alGet_none_iff l k).2 hm] at h; cases h

end AL

theorem mem_minPush {x y : Nat} {l : List Nat} : y ∈ minPush x l ↔ y = x ∨ y ∈ l := by
  induction l with
  | nil => simp [minPush]
  | cons z zs ih =>
    simp only [minPush]
    split
    · simp only [List.mem_cons, ih]
      constructor
      · rintro (h | h | h)
        · exact Or.inr (Or.inl h)
        · exact Or.inl h
        · exact Or.inr (Or.inr h)
      · rintro (h | h | h)
        · exact Or.inr (Or.inl h)
        · exact Or.inl h
        · exact Or.inr (Or.inr h)
    · simp only [List.mem_cons]

theorem nodup_minPush {x : Nat} {l : List Nat} (hx : x ∉ l) (hl : l.Nodup) : (minPush x l).Nodup := by
  induction l with
  | nil => simp [minPush]
  | cons z zs ih =>
    simp only [minPush]
    simp only [List.mem_cons, not_or] at hx
    rw [List.nodup_cons] at hl
    split
    · rw [List.nodup_cons]
      refine ⟨?_, ih hx.2 hl.2⟩
      rw [mem_minPush]
      rintro (h | h)
      · exact hx.1 h.symm
      · exact hl.1 h
    · rw [List.nodup_cons]
      refine ⟨?_, List.nodup_cons.2 hl⟩
      simp only [List.mem_cons, not_or]
      exact hx

theorem mem_setErase {x y : Nat} {l : List Nat} : y ∈ setErase l x ↔ y ∈ l ∧ y ≠ x := by
  simp [setErase]

theorem mem_setInsert {x y : Nat} {l : List Nat} : y ∈ setInsert l x ↔ y ∈ l ∨ y = x := by
  unfold setInsert
  split
  · rename_i h
    constructor
    · exact Or.inl
    · rintro (h' | rfl)
      · exact h'
      · simpa using h
  · simp

theorem hasWriteInRange_congr {s s' : St w} (h : s'.writes = s.writes) (m : Int) (lo hi : Nat) :
    hasWriteInRange s' m lo hi = hasWriteInRange s m lo hi := by
  unfold hasWriteInRange; rw [h]

theorem no_write_of_check {s : St w} (hp : AllocPre s) {m : Int} {lo hi j : Nat} {ins : Instr w}
    (hc : hasWriteInRange s m lo hi = false) (hlo : lo ≤ j) (hhi : j < hi) (hj0 : s.insts[j]? = some ins) :
    m ∉ memDefs ins := by
  intro hm
  obtain ⟨ws, hws, hj⟩ := hp.writes j ins m hj0 hm
  unfold hasWriteInRange at hc
  have hlt : lo < hi := Nat.lt_of_le_of_lt hlo hhi
  simp only [hws, hlt, decide_true, Bool.true_and] at hc
  have : (ws.any fun x => decide (lo ≤ x) && decide (x < hi)) = true := by
    rw [List.any_eq_true]
    exact ⟨j, hj, by simp [hlo, hhi]⟩
  rw [this] at hc
  cases hc

theorem arith?_eq_some {x : Instr w} {op : BcGen.Op} {d a b : Loc w} :
    arith? x = some (op, d, a, b) ↔ x = mkArith op d a b := by
  cases x <;> cases op <;> simp [arith?, mkArith] <;> (try (constructor <;> (rintro ⟨rfl, rfl, rfl⟩; exact ⟨rfl, rfl, rfl⟩)))

theorem arith?_mkArith (op : BcGen.Op) (d a b : Loc w) : arith? (mkArith op d a b) = some (op, d, a, b) :=
  arith?_eq_some.2 rfl

theorem mkArith_inj {op op' : BcGen.Op} {d d' a a' b b' : Loc w}
    (h : mkArith op d a b = mkArith op' d' a' b') : op = op' ∧ d = d' ∧ a = a' ∧ b = b' := by
  cases op <;> cases op' <;> simp [mkArith] at h <;> exact ⟨rfl, h.1, h.2.1, h.2.2⟩

theorem mkArith_ne_copy (op : BcGen.Op) (d a b d' s' : Loc w) : mkArith op d a b ≠ .copy d' s' := by
  cases op <;> simp [mkArith]

theorem noMemZero_mkArith {op : BcGen.Op} {d a b : Loc w} :
    NoMemZero (mkArith op d a b) ↔ (locNoZero d = true ∧ locNoZero a = true ∧ locNoZero b = true) := by
  cases op <;> simp [mkArith, NoMemZero, noMemZero, Bool.and_eq_true, and_assoc]

theorem uses_mkArith (op : BcGen.Op) (d a b : Loc w) : BcWf.uses (mkArith op d a b) = locTmp a ++ locTmp b := by
  cases op <;> rfl
theorem defs_mkArith (op : BcGen.Op) (d a b : Loc w) : BcWf.defs (mkArith op d a b) = locTmp d := by
  cases op <;> rfl
theorem branchOff?_mkArith (op : BcGen.Op) (d a b : Loc w) : branchOff? (mkArith op d a b) = none := by
  cases op <;> rfl
theorem dstTmp?_mkArith (op : BcGen.Op) (d a b : Loc w) :
    dstTmp? (mkArith op d a b) = (match d with | .tmp t => some t | _ => none) := by
  cases op <;> cases d <;> rfl
theorem plain_mkArith (op : BcGen.Op) (d a b : Loc w) : plain (mkArith op d a b) = true := by
  cases op <;> rfl

theorem mkArith_ne_noop (op : BcGen.Op) (d a b : Loc w) : mkArith op d a b ≠ .noop := by
  cases op <;> simp [mkArith]

end Alloc
end C02
end Hpbf
