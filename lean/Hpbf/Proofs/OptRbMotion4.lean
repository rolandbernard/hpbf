/-
The source block behaves like `calc B; block₂; calc A` (resp. with `block₂; calc A` wrapped in an `if`), where
`block₂ = blockInstr (!L.atMostOnce) (cS + shP) 0 (sub.insts ++ [calc D])` runs in the coordinates of the parent state
(`MAtG.sim`). Then: the flags of `L` and the constant set `C` mean for the transformed block (after `calc B`) what
they mean for the source block (`loopFacts₂_g`, `constW₂_g`).
-/
import Hpbf.Proofs.OptRbMotion3

namespace Hpbf
namespace OptProof
open Opt OptSem Ir

variable {w : Nat}

theorem Sim.tgt_ifnz_once {Q : State w → State w → Prop} {c sh : Int} {body src : List (Instr w)}
    {σ τ : State w} (hne : τ.rd c ≠ 0#w) (h : Sim (fun a t => Q a (t.mov sh)) src body σ τ) :
    Sim Q src [.ifnz c sh body] σ τ :=
  (Sim.of_ifnz_once (Q := fun t a => Q a t) (c := c) (sh := sh) hne h.symm).symm

theorem Sim.tgt_block_skip {Q : State w → State w → Prop} {isLoop : Bool} {c sh : Int}
    {body : List (Instr w)} {o : Bool} {σ τ : State w} (hz : τ.rd c = 0#w) (hQ : Q σ τ)
    (ht : σ.trace = τ.trace) : Sim Q [] [blockInstr isLoop c sh body o] σ τ := by
  cases isLoop with
  | true => exact (Sim.of_loop_skip (Q := fun t a => Q a t) hz hQ ht).symm
  | false => exact (Sim.of_ifnz_skip (Q := fun t a => Q a t) hz hQ ht).symm

theorem Sim.src_block_skip {Q : State w → State w → Prop} {isLoop : Bool} {c sh : Int}
    {body : List (Instr w)} {o : Bool} {σ τ : State w} (hz : σ.rd c = 0#w) (hQ : Q σ τ)
    (ht : τ.trace = σ.trace) : Sim Q [blockInstr isLoop c sh body o] [] σ τ := by
  cases isLoop with
  | true => exact Sim.of_loop_skip hz hQ ht
  | false => exact Sim.of_ifnz_skip hz hQ ht

theorem block_skip_iff {isLoop : Bool} {c sh : Int} {body : List (Instr w)} {o : Bool} {σ : State w}
    (hz : σ.rd c = 0#w) (out : Out w) : Exec [blockInstr isLoop c sh body o] σ out ↔ Exec [] σ out := by
  cases isLoop with
  | true => exact exec_loop_skip_iff hz out
  | false => exact exec_ifnz_skip_iff hz out

theorem Sim.both_skip {Q : State w → State w → Prop} {isLoop isLoop' : Bool} {c sh c' sh' : Int}
    {body body' : List (Instr w)} {o o' : Bool} {σ τ : State w} (hz : σ.rd c = 0#w) (hz' : τ.rd c' = 0#w)
    (hQ : Q σ τ) (ht : τ.trace = σ.trace) :
    Sim Q [blockInstr isLoop c sh body o] [blockInstr isLoop' c' sh' body' o'] σ τ :=
  Sim.congr (block_skip_iff hz) (block_skip_iff hz') (Sim.nil hQ ht)

theorem Sim.src_block_once {Q : State w → State w → Prop} {isLoop : Bool} {c sh : Int}
    {body tgt : List (Instr w)} {o : Bool} {σ τ : State w} (hne : σ.rd c ≠ 0#w)
    (hz : isLoop = true → ∀ σ1, Exec body σ (.fin σ1) → (σ1.mov sh).rd c = 0#w)
    (h : Sim (fun a t => Q (a.mov sh) t) body tgt σ τ) : Sim Q [blockInstr isLoop c sh body o] tgt σ τ := by
  cases isLoop with
  | true => exact Sim.of_loop_once hne (hz rfl) h
  | false => exact Sim.of_ifnz_once hne h

theorem block_fin_of_once {isLoop : Bool} {c sh : Int} {body : List (Instr w)} {o : Bool} {σ a : State w}
    (hne : σ.rd c ≠ 0#w) (hex : Exec body σ (.fin a)) (hz : isLoop = true → (a.mov sh).rd c = 0#w) :
    Exec [blockInstr isLoop c sh body o] σ (.fin (a.mov sh)) := by
  cases isLoop with
  | true => exact head_exec_fin (Head.succ Head.zero hne hex) (hz rfl)
  | false => exact (exec_ifnz_once_iff hne _).2 (Or.inr ⟨a, hex, Or.inl rfl⟩)

/-- `MAtG` with the child's guard at every head. -/
structure MAt (Gc : State w → Prop) (shP shC shS cS : Int) (bodyS : List (Instr w)) (isLoop oS : Bool)
    (s : Rebuild w) (ps : List (Rebuild w)) (sub0 sub sub1 : Rebuild w) (L : OptLoop w) (C : List Int)
    (B D A : List (Int × Expr w)) (os os' : Orders) (M0 : Mem w) (σE σS τ0 : State w) : Prop where
  md : MotionData s ps sub sub1 (cS + shP) L C B D A os os'
  hc : BalChild Gc shP shC shS cS bodyS s ps sub0 sub
  hGcH : ∀ k σk, Head cS shS bodyS σS k σk → σk.rd cS ≠ 0#w → Gc σk
  hrel : RelAt shP s ps M0 σE σS
  hτ0 : τ0 = doCalc (σS.mov (-shP)) B
  facts : FactsAt isLoop cS shS bodyS oS L σS
  trip : ∀ n, Trip isLoop cS shS bodyS σS n →
    OptLoop.TripFacts L n (memE (σS.mov (-shP))) ∧ (L.atMostOnce = true → n ≤ 1) ∧
    (L.noEffect = true → n = 0)

theorem MAt.toG {Gc : State w → Prop} {shP shC shS cS : Int} {bodyS : List (Instr w)} {isLoop oS : Bool}
    {s : Rebuild w} {ps : List (Rebuild w)} {sub0 sub sub1 : Rebuild w} {L : OptLoop w} {C : List Int}
    {B D A : List (Int × Expr w)} {os os' : Orders} {M0 : Mem w} {σE σS τ0 : State w}
    (h : MAt Gc shP shC shS cS bodyS isLoop oS s ps sub0 sub sub1 L C B D A os os' M0 σE σS τ0) :
    MAtG Gc shP shC shS cS bodyS isLoop oS s ps sub0 sub sub1 L C B D A os os' M0 σE σS τ0 :=
  ⟨h.md, h.hc, fun k σk hh _ hne => h.hGcH k σk hh hne, h.hrel, h.hτ0, h.facts, h.trip⟩

/-- The end relation: same behaviour, same memory (the source pointer is `shP` cells ahead), and the constant
cells hold their initial values. -/
def QM (shP : Int) (C : List Int) (σS : State w) (a b : State w) : Prop :=
  a.trace = b.trace ∧ a.env = b.env ∧ a.ptr = b.ptr + shP ∧ memE (a.mov (-shP)) = memE b ∧
  (∀ c, C.contains c = true → memE b c = memE (σS.mov (-shP)) c) ∧ b.ptr = (σS.mov (-shP)).ptr

section At
variable {Gc : State w → Prop} {shP shC shS cS : Int} {bodyS : List (Instr w)} {isLoop oS : Bool}
  {s : Rebuild w} {ps : List (Rebuild w)} {sub0 sub sub1 : Rebuild w} {L : OptLoop w} {C : List Int}
  {B D A : List (Int × Expr w)} {os os' : Orders} {M0 : Mem w} {σE σS τ0 : State w}

theorem MAtG.cond0 (h : MAtG Gc shP shC shS cS bodyS isLoop oS s ps sub0 sub sub1 L C B D A os os' M0 σE σS τ0) :
    τ0.rd (cS + shP) = σS.rd cS :=
  (MJ.init h.md h.hτ0).cond_agree_g h (fun _ => rfl)

/-- After the rounds, `calc A` restores the memory of the real loop. `0 < w` is asked by the pack's
`MotionSim.exit` (its trip-count facts); from here it runs up into every statement about a whole round. -/
theorem MAtG.exit (h : MAtG Gc shP shC shS cS bodyS isLoop oS s ps sub0 sub sub1 L C B D A os os' M0 σE σS τ0)
    (hw : 0 < w) {n : Nat} {σ τ : State w} (hJ : MJ cS shS shP bodyS σS sub B D τ0 n σ τ)
    (ht : Trip isLoop cS shS bodyS σS n) (hn : 0 < n) : QM shP C σS σ (doCalc τ A) := by
  obtain ⟨m1, m2, m3⟩ := C01Dse.doCalc_meta τ A
  obtain ⟨t1, t2, t3⟩ := h.trip n ht
  have ms := h.motionSim hJ.hd t2
  obtain ⟨f1, _⟩ := ms.exit hw n (Nat.le_refl n) t1 t2 t3
  obtain ⟨r1, _, r3⟩ := run_real_g D τ0 h.hc h.hGcH hJ.hd t2
  have hmem : memE (doCalc τ A) = memE (σ.mov (-shP)) := by
    rw [memE_doCalc _ _ h.md.nodup.2.2, hJ.mem, f1 hn, ← r1]
  refine ⟨by rw [m3]; exact hJ.tr.symm, by rw [m2]; exact hJ.env.symm, ?_, hmem.symm, ?_,
    by rw [m1, hJ.ptr]; exact r3⟩
  · rw [m1, hJ.ptr]
    show σ.ptr = σ.ptr + -shP + shP
    omega
  · intro c hc
    rw [hmem, r1]
    exact ms.const n (Nat.le_refl n) c hc

/-- No round: `calc B` has changed nothing. -/
theorem MAtG.exit0 (h : MAtG Gc shP shC shS cS bodyS isLoop oS s ps sub0 sub sub1 L C B D A os os' M0 σE σS τ0)
    (hw : 0 < w) (hz : σS.rd cS = 0#w) : QM shP C σS σS τ0 := by
  have hJ : MJ cS shS shP bodyS σS sub B D τ0 0 σS τ0 := MJ.init h.md h.hτ0
  have ht : Trip isLoop cS shS bodyS σS 0 := by
    unfold Trip
    cases isLoop with
    | true => exact ⟨σS, Head.zero, hz⟩
    | false => exact Or.inl ⟨rfl, hz⟩
  obtain ⟨t1, t2, t3⟩ := h.trip 0 ht
  obtain ⟨_, f2⟩ := (h.motionSim hJ.hd t2).exit hw 0 (Nat.le_refl 0) t1 t2 t3
  have hmem : memE τ0 = memE (σS.mov (-shP)) := by
    rw [hJ.mem]
    exact f2 rfl
  refine ⟨hJ.tr.symm, hJ.env.symm, ?_, hmem.symm, fun c _ => by rw [hmem], hJ.ptr⟩
  rw [hJ.ptr]
  show σS.ptr = σS.ptr + -shP + shP
  omega

theorem MAtG.core (h : MAtG Gc shP shC shS cS bodyS isLoop oS s ps sub0 sub sub1 L C B D A os os' M0 σE σS τ0)
    (hw : 0 < w) (hne : σS.rd cS ≠ 0#w) :
    Sim (QM shP C σS) [blockInstr isLoop cS shS bodyS oS]
      ([blockInstr (!L.atMostOnce) (cS + shP) 0 (sub.insts ++ [.calc D]) oS] ++ [.calc A]) σS τ0 := by
  have hJ0 : MJ cS shS shP bodyS σS sub B D τ0 0 σS τ0 := MJ.init h.md h.hτ0
  have hfinal : ∀ n σ τ, MJ cS shS shP bodyS σS sub B D τ0 n σ τ → Trip isLoop cS shS bodyS σS n → 0 < n →
      Sim (QM shP C σS) [] [.calc A] σ τ := by
    intro n σ τ hJ ht hn
    obtain ⟨m1, m2, m3⟩ := C01Dse.doCalc_meta τ A
    refine Sim.of_atomic (atomic_calcs ([] : List (List (Int × Expr w)))) (atomic_calcs [A])
      hJ.tr rfl (m3.trans hJ.tr) (m2.trans hJ.env) ?_
    intro _
    exact h.exit hw hJ ht hn
  cases hamo : L.atMostOnce with
  | false =>
    -- a real loop, transformed into a loop
    have hil : isLoop = true := by
      cases hi : isLoop with
      | true => rfl
      | false => have := h.facts.ifamo hi; rw [hamo] at this; cases this
    subst hil
    have hk : ∀ k : Nat, L.atMostOnce = true → k = 0 := fun k hh => by rw [hamo] at hh; cases hh
    have hloop := Sim.block (J := MJ cS shS shP bodyS σS sub B D τ0) (isLoop := true) (oS := oS) (oE := oS)
      (fun k σ τ hJ => (hJ.cond_agree_g h (hk k)).symm) (fun _ _ _ hJ => hJ.tr)
      (fun k σ τ hJ _ hne' => hJ.round_g h (hk k) hne') hJ0
    have : Sim (QM shP C σS) ([.loop cS shS bodyS oS] ++ [])
        ([.loop (cS + shP) 0 (sub.insts ++ [.calc D]) oS] ++ [.calc A]) σS τ0 := by
      refine Sim.append hloop ?_
      rintro σ τ ⟨k, hJ, hz, _⟩
      have hz := hz rfl
      have hk0 : 0 < k := by
        rcases Nat.eq_zero_or_pos k with h0 | h0
        · subst h0
          have := hJ.hd
          cases this
          exact absurd hz hne
        · exact h0
      exact hfinal k σ τ hJ ⟨σ, hJ.hd, hz⟩ hk0
    simpa [blockInstr] using this
  | true =>
    -- at most one round: the transformed block is an `if`
    have hτne : τ0.rd (cS + shP) ≠ 0#w := by
      rw [h.cond0]; exact hne
    have hround := hJ0.round_g h (fun _ => rfl) hne
    have hz : isLoop = true → ∀ σ1, Exec bodyS σS (.fin σ1) → (σ1.mov shS).rd cS = 0#w :=
      fun hi => h.facts.amo hamo hi hne
    have hfirst : Sim (fun σ τ => MJ cS shS shP bodyS σS sub B D τ0 1 σ τ ∧
          Trip isLoop cS shS bodyS σS 1)
        [blockInstr isLoop cS shS bodyS oS] [.ifnz (cS + shP) 0 (sub.insts ++ [.calc D])] σS τ0 := by
      refine Sim.src_block_once hne hz (Sim.tgt_ifnz_once hτne ?_)
      refine hround.fin_strengthen.mono ?_
      rintro a t ⟨hq, hexa, _⟩
      refine ⟨hq, ?_⟩
      unfold Trip
      cases hi : isLoop with
      | true => exact ⟨a.mov shS, Head.succ Head.zero hne hexa, hz hi a hexa⟩
      | false => exact Or.inr ⟨rfl, hne, a, hexa⟩
    have : Sim (QM shP C σS) ([blockInstr isLoop cS shS bodyS oS] ++ [])
        ([.ifnz (cS + shP) 0 (sub.insts ++ [.calc D])] ++ [.calc A]) σS τ0 := by
      refine Sim.append hfirst ?_
      rintro σ τ ⟨hJ, ht⟩
      exact hfinal 1 σ τ hJ ht (by omega)
    simpa [blockInstr] using this

/-- The source block behaves like the program `finishEnd` is correct for. -/
theorem MAtG.sim (h : MAtG Gc shP shC shS cS bodyS isLoop oS s ps sub0 sub sub1 L C B D A os os' M0 σE σS τ0)
    (hw : 0 < w) :
    Sim (QM shP C σS) [blockInstr isLoop cS shS bodyS oS]
      (endSrc (!L.atMostOnce) (cS + shP) 0 (sub.insts ++ [.calc D]) oS L B A) σS (σS.mov (-shP)) := by
  unfold endSrc
  have hcalc : ([Instr.calc B] : List (Instr w)) = [B].map Instr.calc := rfl
  rw [hcalc]
  refine Sim.calcs_right [B] ?_
  have e0 : [B].foldl doCalc (σS.mov (-shP)) = τ0 := h.hτ0.symm
  rw [e0]
  have hJ0 : MJ cS shS shP bodyS σS sub B D τ0 0 σS τ0 := MJ.init h.md h.hτ0
  have hcond0 := h.cond0
  by_cases hz : σS.rd cS = 0#w
  ·
    have hτz : τ0.rd (cS + shP) = 0#w := by rw [hcond0]; exact hz
    have hQ0 := h.exit0 hw hz
    split
    · rename_i hdir
      have hA : A = [] := by
        have hal : L.atLeastOnce = false := by
          cases ha : L.atLeastOnce with
          | false => rfl
          | true => exact absurd hz (h.facts.alo ha)
        rw [hal] at hdir
        simp only [Bool.false_or, Bool.and_eq_true, List.isEmpty_iff] at hdir
        exact hdir.2
      subst hA
      have : Sim (QM shP C σS) ([blockInstr isLoop cS shS bodyS oS] ++ [])
          ([blockInstr (!L.atMostOnce) (cS + shP) 0 (sub.insts ++ [.calc D]) oS] ++ [.calc []]) σS τ0 := by
        refine Sim.append (Sim.both_skip (Q := fun σ τ => σ = σS ∧ τ = τ0) hz hτz ⟨rfl, rfl⟩ hJ0.tr) ?_
        rintro σ τ ⟨rfl, rfl⟩
        refine Sim.of_atomic (atomic_calcs ([] : List (List (Int × Expr w))))
          (atomic_calcs ([[]] : List (List (Int × Expr w)))) hJ0.tr rfl hJ0.tr hJ0.env ?_
        intro _
        exact hQ0
      rwa [List.append_nil] at this
    · exact Sim.both_skip (isLoop' := false) (o' := oS) hz hτz hQ0 hJ0.tr
  ·
    have hτne : τ0.rd (cS + shP) ≠ 0#w := by rw [hcond0]; exact hz
    have hcore := h.core hw hz
    split
    · exact hcore
    · refine Sim.tgt_ifnz_once hτne (hcore.mono ?_)
      rintro a t ⟨q1, q2, q3, q4, q5, q6⟩
      refine ⟨q1, q2, ?_, ?_, ?_, ?_⟩
      · show a.ptr = t.ptr + 0 + shP
        rw [q3]; omega
      · rw [memE_mov_zero]; exact q4
      · intro c hc; rw [memE_mov_zero]; exact q5 c hc
      · show t.ptr + 0 = _
        rw [Int.add_zero]; exact q6

end At

section At
variable {Gc : State w → Prop} {shP shC shS cS : Int} {bodyS : List (Instr w)} {isLoop oS : Bool}
  {s : Rebuild w} {ps : List (Rebuild w)} {sub0 sub sub1 : Rebuild w} {L : OptLoop w} {C : List Int}
  {B D A : List (Int × Expr w)} {os os' : Orders} {M0 : Mem w} {σE σS τ0 : State w}

theorem MAtG.fin_real (h : MAtG Gc shP shC shS cS bodyS isLoop oS s ps sub0 sub sub1 L C B D A os os' M0 σE σS τ0)
    {x : State w}
    (hx : Exec [blockInstr (!L.atMostOnce) (cS + shP) 0 (sub.insts ++ [.calc D]) oS] τ0 (.fin x)) :
    ∃ y, Exec [blockInstr isLoop cS shS bodyS oS] σS (.fin y) := by
  by_cases hz : σS.rd cS = 0#w
  · exact ⟨σS, block_skip_fin hz⟩
  cases hamo : L.atMostOnce with
  | false =>
    have hil : isLoop = true := by
      cases hi : isLoop with
      | true => rfl
      | false => have := h.facts.ifamo hi; rw [hamo] at this; cases this
    subst hil
    rw [hamo] at hx
    obtain ⟨k, hh, hxz⟩ := exec_loop_fin_head (c := cS + shP) (sh := 0) hx
    obtain ⟨σ, hJ⟩ := heads_bwd_g h hh (fun hh' => by rw [hamo] at hh'; cases hh')
    have : σ.rd cS = 0#w := by
      rw [← hJ.cond_agree_g h (fun hh' => by rw [hamo] at hh'; cases hh')]; exact hxz
    exact ⟨σ, head_exec_fin hJ.hd this⟩
  | true =>
    rw [hamo] at hx
    have hτne : τ0.rd (cS + shP) ≠ 0#w := by rw [h.cond0]; exact hz
    rcases (exec_ifnz_once_iff (c := cS + shP) (sh := 0) hτne _).1 hx with ⟨hnf, _⟩ | ⟨t, ht, _⟩
    · cases hnf
    · have hround := (MJ.init h.md h.hτ0).round_g h (fun _ => rfl) hz
      obtain ⟨a, ha, _⟩ := hround.finR t ht
      exact ⟨a.mov shS, block_fin_of_once hz ha (fun hi => h.facts.amo hamo hi hz a ha)⟩

theorem MAtG.const₂ (h : MAtG Gc shP shC shS cS bodyS isLoop oS s ps sub0 sub sub1 L C B D A os os' M0 σE σS τ0)
    {k : Nat} {τk : State w} (hh : Head (cS + shP) 0 (sub.insts ++ [.calc D]) τ0 k τk)
    (hk : L.atMostOnce = true → k ≤ 1) {x : Int} (hx : C.contains x = true) :
    memE τk x = memE τ0 x ∧ τk.ptr = τ0.ptr := by
  obtain ⟨σ, hJ⟩ := heads_bwd_g h hh hk
  have ms := h.motionSim hJ.hd hk
  obtain ⟨_, _, r3⟩ := run_real_g D τ0 h.hc h.hGcH hJ.hd hk
  have hJ0 : MJ cS shS shP bodyS σS sub B D τ0 0 σS τ0 := MJ.init h.md h.hτ0
  refine ⟨?_, by rw [hJ.ptr, r3]; exact hJ0.ptr.symm⟩
  rw [hJ.mem, ms.agree k (Nat.le_refl k) x (ms.const_notDiffer x hx), ms.const k (Nat.le_refl k) x hx, hJ0.mem]
  exact (par_of_not_mem _ _ _ (ms.B_const x hx)).symm

theorem MAtG.fin₂ (h : MAtG Gc shP shC shS cS bodyS isLoop oS s ps sub0 sub sub1 L C B D A os os' M0 σE σS τ0)
    (hfin : L.finite = true) (hamo : L.atMostOnce = false)
    (hall : ∀ k τk, Head (cS + shP) 0 (sub.insts ++ [.calc D]) τ0 k τk → τk.rd (cS + shP) ≠ 0#w →
      ∃ t, Exec (sub.insts ++ [.calc D]) τk (.fin t)) :
    ∃ k τk, Head (cS + shP) 0 (sub.insts ++ [.calc D]) τ0 k τk ∧ τk.rd (cS + shP) = 0#w := by
  have hk : ∀ k : Nat, L.atMostOnce = true → k ≤ 1 := fun k hh => by rw [hamo] at hh; cases hh
  have hk0 : ∀ k : Nat, L.atMostOnce = true → k = 0 := fun k hh => by rw [hamo] at hh; cases hh
  obtain ⟨n, σn, hn, hz⟩ := h.facts.fin hfin hamo (by
    intro k σk hhk hne
    obtain ⟨τ, hJ⟩ := heads_fwd_g h hhk (hk k)
    have hτne : τ.rd (cS + shP) ≠ 0#w := by
      rw [hJ.cond_agree_g h (hk0 k)]; exact hne
    obtain ⟨t, ht⟩ := hall k τ hJ.hd2 hτne
    obtain ⟨a, ha, _⟩ := (hJ.round_g h (hk0 k) hne).finR t ht
    exact ⟨a, ha⟩)
  obtain ⟨τ, hJ⟩ := heads_fwd_g h hn (hk n)
  exact ⟨n, τ, hJ.hd2, by rw [hJ.cond_agree_g h (hk0 n)]; exact hz⟩

/-- The heads of the transformed loop that are entered have real partners. -/
theorem MAtG.partner (h : MAtG Gc shP shC shS cS bodyS isLoop oS s ps sub0 sub sub1 L C B D A os os' M0 σE σS τ0)
    {k : Nat} {τk : State w} (hh : Head (cS + shP) 0 (sub.insts ++ [.calc D]) τ0 k τk)
    (hk : L.atMostOnce = true → k = 0) (hne : τk.rd (cS + shP) ≠ 0#w) :
    PartnerG Gc shP cS (sIns (possibleReads sub) (cS + shP)) τk := by
  obtain ⟨σ, hJ⟩ := heads_bwd_g h hh (fun ha => by have := hk ha; omega)
  have hcσ : σ.rd cS ≠ 0#w := by rw [← hJ.cond_agree_g h hk]; exact hne
  refine ⟨σ, h.hGcH k σ hJ.hd hk hcσ, hcσ, hJ.ptr.symm, hJ.env.symm, hJ.tr.symm, fun v hv => ?_⟩
  exact (hJ.reads_agree_g h hk (List.contains_iff_mem.2 (Classical.not_not.1 hv))).symm

end At

/-- The guard after `calc B`: the state comes from a valid source state. -/
def G1M (G : State w → Prop) (shP : Int) (s : Rebuild w) (ps : List (Rebuild w)) (B : List (Int × Expr w)) :
    State w → Prop :=
  fun τ => ∃ σS M0 σE, RelAt shP s ps M0 σE σS ∧ G σS ∧ τ = doCalc (σS.mov (-shP)) B

section All
variable {G Gc : State w → Prop} {shP shC shS cS : Int} {bodyS : List (Instr w)} {isLoop oS : Bool}
  {s : Rebuild w} {ps : List (Rebuild w)} {sub0 sub sub1 : Rebuild w} {L : OptLoop w} {C : List Int}
  {B D A : List (Int × Expr w)} {os os' : Orders}

theorem loopFacts₂_g
    (hAt : ∀ M0 σE σS, RelAt shP s ps M0 σE σS → G σS →
      MAtG Gc shP shC shS cS bodyS isLoop oS s ps sub0 sub sub1 L C B D A os os' M0 σE σS
        (doCalc (σS.mov (-shP)) B))
    (s1 : Rebuild w) :
    LoopFacts (G1M G shP s ps B) 0 s1 ps (!L.atMostOnce) (cS + shP) 0 (sub.insts ++ [.calc D]) oS L C := by
  refine ⟨?alo, ?amo, ?ifamo, ?nc, ?ne, ?const, ?fin⟩
  case alo =>
    rintro ha M0' σE' τ _ ⟨σS, M0, σE, hrel, hG, rfl⟩
    have h := hAt M0 σE σS hrel hG
    rw [h.cond0]; exact h.facts.alo ha
  case amo =>
    intro ha hl
    rw [ha] at hl; cases hl
  case ifamo =>
    intro hl
    cases h : L.atMostOnce with
    | true => rfl
    | false => rw [h] at hl; cases hl
  case nc =>
    rintro ha M0' σE' τ _ ⟨σS, M0, σE, hrel, hG, rfl⟩ x hx
    have h := hAt M0 σE σS hrel hG
    obtain ⟨y, hy⟩ := h.fin_real hx
    exact h.facts.nc ha y hy
  case ne =>
    rintro ha M0' σE' τ _ ⟨σS, M0, σE, hrel, hG, rfl⟩
    have h := hAt M0 σE σS hrel hG
    rcases h.facts.ne ha with h' | h'
    · left; rw [h.cond0]; exact h'
    · right
      intro x hx
      obtain ⟨y, hy⟩ := h.fin_real hx
      exact h' y hy
  case const =>
    rintro M0' σE' τ hrel' ⟨σS, M0, σE, hrel, hG, rfl⟩ k τk hh hk x hx
    have h := hAt M0 σE σS hrel hG
    obtain ⟨c1, c2⟩ := h.const₂ hh (fun ha => hk (by rw [ha]; rfl)) hx
    have hp : σE'.ptr = (doCalc (σS.mov (-shP)) B).ptr := by
      have := hrel'.ptr; omega
    show τk.tape.get (σE'.ptr + x) = (doCalc (σS.mov (-shP)) B).tape.get (σE'.ptr + x)
    rw [hp]
    have e1 : τk.tape.get ((doCalc (σS.mov (-shP)) B).ptr + x) = memE τk x := by
      rw [← c2]; rfl
    rw [e1, c1]; rfl
  case fin =>
    rintro hf ha M0' σE' τ _ ⟨σS, M0, σE, hrel, hG, rfl⟩ hall
    exact (hAt M0 σE σS hrel hG).fin₂ hf ha hall

theorem constW₂_g (hw : 0 < w)
    (hAt : ∀ M0 σE σS, RelAt shP s ps M0 σE σS → G σS →
      MAtG Gc shP shC shS cS bodyS isLoop oS s ps sub0 sub sub1 L C B D A os os' M0 σE σS
        (doCalc (σS.mov (-shP)) B))
    (s1 : Rebuild w) (M0' : Mem w) (σE' τ : State w) (hrel' : RelAt 0 s1 ps M0' σE' τ)
    (hg : G1M G shP s ps B τ) (hne : τ.rd (cS + shP) ≠ 0#w) (σ1 : State w)
    (hex : Exec ([blockInstr (!L.atMostOnce) (cS + shP) 0 (sub.insts ++ [.calc D]) oS] ++ [.calc A]) τ
      (.fin σ1)) (x : Int) (hx : C.contains x = true) : memS σE' σ1 x = memS σE' τ x := by
  obtain ⟨σS, M0, σE, hrel, hG, rfl⟩ := hg
  have h := hAt M0 σE σS hrel hG
  have hneS : σS.rd cS ≠ 0#w := by rw [← h.cond0]; exact hne
  obtain ⟨a, _, q1, q2, q3, q4, q5, q6⟩ := (h.core hw hneS).finR σ1 hex
  have hJ0 : MJ cS shS shP bodyS σS sub B D (doCalc (σS.mov (-shP)) B) 0 σS (doCalc (σS.mov (-shP)) B) :=
    MJ.init h.md h.hτ0
  have hp : σE'.ptr = (doCalc (σS.mov (-shP)) B).ptr := by
    have := hrel'.ptr; omega
  show σ1.tape.get (σE'.ptr + x) = (doCalc (σS.mov (-shP)) B).tape.get (σE'.ptr + x)
  rw [hp]
  have e1 : σ1.tape.get ((doCalc (σS.mov (-shP)) B).ptr + x) = memE σ1 x := by
    rw [hJ0.ptr, ← q6]; rfl
  have e2 : (doCalc (σS.mov (-shP)) B).tape.get ((doCalc (σS.mov (-shP)) B).ptr + x) =
      memE (doCalc (σS.mov (-shP)) B) x := rfl
  rw [e1, e2, q5 x hx, hJ0.mem]
  exact (par_of_not_mem _ _ _ (h.md.allE.toBD.B_none (Or.inr hx))).symm

end All

end OptProof
end Hpbf
