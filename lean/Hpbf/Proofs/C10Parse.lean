/-
C10 — every tape offset in the IR produced by `Ir.parse` is bounded by the number of `<`/`>`
characters of the source (the "margin of the program's length" at optimisation level 0). Here: the notions of the
bound, `Ir.offsets`, `moves`, `Bd`, and its spelling for the parts of the parser's state (`OffBd`, `KeysBd`, `FrameOk`,
`StateOk`, with monotonicity).  The proof does not go through the latter: the bound, `C10.parse_bd`
(`Proofs/OptOffsParse.lean`), is read off the finer measure that the parser establishes and the optimizer keeps
(`OptOffs.parse_measure`, whose invariant of the parser state is `OptOffs.StateOk`).
-/
import Hpbf.Ir

namespace Hpbf
namespace Ir

variable {w : Nat}

mutual
/-- Tape offsets (relative to the pointer at the start of the enclosing block) occurring in an
instruction: sources, destinations, variables of expressions, loop conditions, and recursively the
offsets of nested bodies.  The `shift` of a nested block is a pointer move, NOT an offset. -/
def Instr.offsets : Instr w → List Int
  | .output src => [src]
  | .input dst => [dst]
  | .calc calcs => calcs.flatMap (fun ve => ve.1 :: Expr.variables ve.2)
  | .loop cond _ body _ => cond :: offsets body
  | .ifnz cond _ body => cond :: offsets body
def offsets : List (Instr w) → List Int
  | [] => []
  | i :: is => i.offsets ++ offsets is
end

def moves (src : List Kind) : Nat := (src.filter (fun k => k == .left || k == .right)).length

end Ir

namespace C10
open Ir

variable {w : Nat}

def Bd (n : Nat) (o : Int) : Prop := -(n : Int) ≤ o ∧ o ≤ (n : Int)

theorem Bd.mono {n m : Nat} {o : Int} (h : n ≤ m) (hb : Bd n o) : Bd m o := by
  unfold Bd at *; omega

theorem mem_offsets {o : Int} {l : List (Instr w)} :
    o ∈ offsets l ↔ ∃ i ∈ l, o ∈ i.offsets := by
  induction l with
  | nil => simp [offsets]
  | cons i is ih => simp [offsets, ih]

def OffBd (n : Nat) (l : List (Instr w)) : Prop := ∀ i ∈ l, ∀ o ∈ i.offsets, Bd n o

def KeysBd (n : Nat) (b : List (Int × BitVec w)) : Prop := ∀ kv ∈ b, Bd n kv.1

theorem OffBd.offsets {n : Nat} {l : List (Instr w)} (hl : OffBd n l) : ∀ o ∈ offsets l, Bd n o := by
  intro o ho
  obtain ⟨i, hi, hio⟩ := mem_offsets.1 ho
  exact hl i hi o hio

def FrameOk (n : Nat) (f : Frame w) : Prop := Bd n f.shift ∧ KeysBd n f.buff ∧ OffBd n f.rinsts

theorem FrameOk.mono {n m : Nat} {f : Frame w} (h : n ≤ m) (hf : FrameOk n f) : FrameOk m f :=
  ⟨hf.1.mono h, fun kv hkv => (hf.2.1 kv hkv).mono h, fun i hi o ho => (hf.2.2 i hi o ho).mono h⟩

def StateOk (n : Nat) (ps : PState w) : Prop := FrameOk n ps.top ∧ ∀ f ∈ ps.rest, FrameOk n f

theorem StateOk.mono {n m : Nat} {ps : PState w} (h : n ≤ m) (hs : StateOk n ps) : StateOk m ps :=
  ⟨hs.1.mono h, fun f hf => (hs.2 f hf).mono h⟩

def moveCount (k : Kind) : Nat := if k == .left || k == .right then 1 else 0

theorem moves_cons (k : Kind) (ks : List Kind) : moves (k :: ks) = moveCount k + moves ks := by
  unfold moves moveCount
  simp only [List.filter_cons]
  split <;> simp <;> omega

theorem moves_le_length (src : List Kind) : moves src ≤ src.length :=
  List.length_filter_le _ _

end C10
end Hpbf
