/-
C02 / C13 (`allocate_temps` is total): the input the pass receives in `translate` satisfies `TotalPre`,
hence `allocate_temps` – and with it the whole of `translate` – never panics.
First (section `Loop`) the whole loop and the final assertion: on every state satisfying `TotalPre` the pass returns a
state, for every `numRegs` (`allocateTemps_total_of_pre`).
-/
import Hpbf.Proofs.C02AllocTotalDse
import Hpbf.Proofs.C02AllocTotalOrd
import Hpbf.Proofs.ChainPhases
import Hpbf.Props.C02EmitTotal
import Hpbf.Proofs.C02AllocTotalStep
set_option linter.unusedSimpArgs false

namespace Hpbf
namespace C02

open Bc BcWf BcGen C11 Alloc AEmit

variable {w : Nat}

section Loop
variable {s : St w}

namespace Alloc

theorem allocLoop_total (hp : TotalPre s) (numRegs : Nat) : ∀ (j : Nat), j ≤ s.insts.size → ∀ a : ASt w,
    PassInv s (s.insts.size - j) a → TInv s numRegs (s.insts.size - j) a →
    ∃ u a', allocLoop numRegs s.insts.size j a = .ok (u, a') ∧ TInv s numRegs s.insts.size a' := by
  intro j
  induction j with
  | zero =>
    intro _ a _ hT
    exact ⟨(), a, rfl, by simpa using hT⟩
  | succ j ih =>
    intro hj a hI hT
    have hk : s.insts.size - (j + 1) < s.insts.size := by omega
    obtain ⟨u1, a1, h1⟩ := alloc_step_total hp numRegs hk hI hT
    have hI1 := (alloc_step hp.pre hI h1).inv
    have hT1 := tinv_step hp hI hT h1
    have e : s.insts.size - (j + 1) + 1 = s.insts.size - j := by omega
    rw [e] at hI1 hT1
    obtain ⟨u2, a2, h2, hT2⟩ := ih (by omega) a1 hI1 hT1
    refine ⟨u2, a2, ?_, hT2⟩
    simp only [allocLoop]
    exact (bind_ok _ _ _ _ _).2 ⟨u1, a1, h1, h2⟩

end Alloc

theorem allocateTemps_total_of_pre (hp : TotalPre s) (numRegs : Nat) : ∃ s', allocateTemps numRegs s = .ok s' := by
  obtain ⟨u, a, h, hT⟩ := allocLoop_total hp numRegs s.insts.size (Nat.le_refl _) (initASt numRegs s)
    (by rw [Nat.sub_self]; exact passInv_init hp.pre numRegs)
    (by rw [Nat.sub_self]; exact tinv_init hp numRegs)
  have hempty : a.repl.isEmpty = true := by
    cases hr : a.repl with
    | nil => rfl
    | cons p rest =>
      exfalso
      obtain ⟨t, l⟩ := p
      have hg : alGet a.repl t = some l := by rw [hr]; simp [alGet]
      obtain ⟨e, he⟩ := hT.replHeap t l hg
      have := hT.heapBound e t he
      omega
  refine ⟨a.st, ?_⟩
  unfold allocateTemps
  have h' : (allocLoop numRegs s.insts.size s.insts.size).run
      { st := s, nextFresh := numRegs, freeRegs := List.range numRegs, freeTemps := [], nre := [], repl := [] }
      = .ok (u, a) := h
  simp only [h', hempty, if_true]

end Loop

theorem totalPre_of_emit {prog : Ir.Block w} {fuse : Bool} {s1 s2 : St w} (h1 : emitState prog fuse = .ok s1)
    (h2 : deadStoreElim s1 = .ok s2) : TotalPre s2 := by
  have hD := deadStoreElim_dseLike h2
  obtain ⟨s2', e2', hsize, _⟩ := deadStoreElim_preserves_of_emit h1
  rw [h2] at e2'; cases e2'
  have hl := linv_of_emit h1
  have hx := xinv_of_emit h1
  obtain ⟨hnu, hord⟩ := oi_of_emit h1
  have hdi := deadStoreElim_dinv (dinv_of_emit h1) h2
  -- the frame `(0, 0)` stands for the top level (`finv_init`)
  have hF : FInv [((0 : Nat), (0 : Nat))] 0 s1 := closedI_emitState (closedI_finv fuse) h1 _ finv_init
  have hdst_ne : ∀ {x : Instr w} {t : Nat}, dstTmp? x = some t → x ≠ .noop := by
    intro x t h e; subst e; cases h
  refine ⟨AEmit.allocPre_of_emit h1 h2, ?_, hdi.defUse, ?_, ?_, ?_⟩
  · intro i x t hi hd
    have hi1 := hD.inst_of hi (hdst_ne hd)
    obtain ⟨r1, g1, g2⟩ := hl.defs i x t hi1 (mem_defs_of_dstTmp? hd)
    obtain ⟨r2, q1, q2⟩ := hD.range_to g1
    cases hf : r1.firstUse with
    | none => exact absurd ⟨r1, g1, hf⟩ (hnu t)
    | some f =>
      obtain ⟨L, hL, hfl⟩ := (hx.fl t r1 g1).1 f hf
      obtain ⟨_, _, g5⟩ := hl.rwf t r1 g1
      have := (g5 f hf).1
      exact ⟨r2, f, L, q1, by rw [q2.2.1]; exact hf, by rw [q2.2.2]; exact hL, by omega, hfl⟩
  · intro t r hr h0 j x hj
    have := hdi.count t r hr
    rw [h0] at this
    exact not_mem_of_occ_zero (Nat.le_zero.1 this) hj
  · intro t r2 L hr2 hL
    obtain ⟨r1, g1, g2⟩ := hD.range_of hr2
    rw [hsize]
    exact hF.lastLt t r1 L g1 (by rw [← g2.2.2]; exact hL)
  · -- the shared operand is not used: `OrdInv` orders the stores of any two computed values
    intro i1 op1 t1 a1 b1 f1 m1 i2 op2 t2 a2 b2 f2 m2 u c1 c2 hlt _ _
    have hi1 := hD.inst_of c1.inst (mkArith_ne_noop _ _ _ _)
    have hi2 := hD.inst_of c2.inst (mkArith_ne_noop _ _ _ _)
    have hs2 := hD.inst_of c2.store (by intro e; cases e)
    obtain ⟨r1', L1, p1, p2, _⟩ := c1.first
    obtain ⟨r2', L2, q1, q2, _⟩ := c2.first
    obtain ⟨r1, g1, g2⟩ := hD.range_of p1
    obtain ⟨r2, e1, e2⟩ := hD.range_of q1
    obtain ⟨rd1, d1, d2⟩ := hl.defs i1 _ t1 hi1 (by rw [defs_mkArith]; simp [locTmp])
    obtain ⟨rd2, d3, d4⟩ := hl.defs i2 _ t2 hi2 (by rw [defs_mkArith]; simp [locTmp])
    rw [g1] at d1; cases d1
    rw [e1] at d3; cases d3
    obtain ⟨f1', k1, k2⟩ := hord t1 t2 r1 r2 f2 _ g1 e1 (by omega) (by rw [← e2.2.1]; exact q2) hs2 ⟨m2, rfl⟩
    rw [g2.2.1, k1] at p2
    cases p2
    omega

theorem allocateTemps_total_of_emit {prog : Ir.Block w} {fuse : Bool} {s1 s2 : St w} (numRegs : Nat)
    (h1 : emitState prog fuse = .ok s1) (h2 : deadStoreElim s1 = .ok s2) :
    ∃ s3, allocateTemps numRegs s2 = .ok s3 :=
  allocateTemps_total_of_pre (totalPre_of_emit h1 h2) numRegs

/-- `translate` is total (property C13 for the bytecode generator): every IR block, every number of
registers, both values of `fuse`. -/
theorem translateE_total (prog : Ir.Block w) (numRegs : Nat) (fuse : Bool) :
    ∃ p, translateE prog numRegs fuse = .ok p := by
  obtain ⟨s1, h1⟩ := emit_total prog fuse
  obtain ⟨s2, h2, hrest⟩ := Chain.translateE_ok_of_alloc (numRegs := numRegs) h1
  obtain ⟨s3, h3⟩ := allocateTemps_total_of_emit numRegs h1 h2
  exact hrest s3 h3

end C02
end Hpbf
