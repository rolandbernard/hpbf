/-
The recorded analysis is sound for the emitted code: `loopOrIf` with a non-moving
child, the part that does not depend on how the block is emitted.

* `HeadsW`: every head of the VALID run of the emitted block keeps the pointer and the cells outside `clobbered`
  (`Q`), and (when the body is entered) has a child-valid companion that agrees with it on the child's reads and on
  the protected cells `P` (the condition cell and the constant keys).
* `loopPrep_stay_headsW`: `HeadsW` for the run after the parent's preparation.
* `heads_mirror_clob`, `jw_mirV`: the heads of a MIRROR run correspond to heads of the valid run (`heads_mirror`,
  `OptRbFoot6`); hence they keep the pointer and the cells in `Q`, and (when the body is entered) mirror a child-valid
  state.
-/
import Hpbf.Proofs.OptRbAnKit
import Hpbf.Proofs.OptRbShape3

namespace Hpbf
namespace OptProof
open Opt OptSem Ir

variable {w : Nat}

def HeadsW (Gc : State w → Prop) (shP cS : Int) (pc : List (Rebuild w)) (sub0 sub1 : Rebuild w)
    (isLoop : Bool) (P Q : Int → Prop) (τ1 : State w) : Prop :=
  ∀ k a, Head (cS + shP) 0 sub1.insts τ1 k a → (isLoop = false → k = 0) →
    (a.ptr = τ1.ptr ∧ ∀ x, Q x → memE a x = memE τ1 x) ∧
    (a.rd (cS + shP) ≠ 0#w →
      ∃ σX, ValidG Gc shP sub0 pc σX ∧ σX.ptr = a.ptr ∧ σX.env = a.env ∧ σX.trace = a.trace ∧
        (∀ v ∈ sub1.reads, memE σX v = memE a v) ∧ (∀ v, P v → memE σX v = memE a v))

/-- The protected cells: the condition cell and the keys of the child's `written` that are constant. -/
def ProtP (sub1 : Rebuild w) (C : List Int) (c : Int) (v : Int) : Prop :=
  v = c ∨ (v ∈ mKeys sub1.written ∧ C.contains v = true)

/-- The cells outside `clobbered`. -/
def KeepQ (sub1 : Rebuild w) (C : List Int) (v : Int) : Prop :=
  v ∉ mKeys sub1.written ∨ C.contains v = true

theorem loopPrep_stay_headsW {shP shC shS cS : Int} {bodyS : List (Instr w)}
    {s : Rebuild w} {ps : List (Rebuild w)} {sub1 : Rebuild w} {isLoop : Bool} {L : OptLoop w}
    {C : List Int} {pc : List (Rebuild w)} {sub0 : Rebuild w} {os os' : Orders}
    {r : Rebuild w × Rebuild w × List Int} {G Gc : State w → Prop}
    (hc : ChildOk Gc shP shC pc sub0 sub1 cS bodyS) (hwf : Wf s) (hwf1 : Wf sub1)
    (hns1 : (sub1.subShift || sub1.shift != s.shift) = false)
    (hsh : shC + shS = shP)
    (hGc : HeadsIn G Gc shP s ps cS shS bodyS (isLoop = false))
    (hconst : ∀ M0 σE σS, RelAt shP s ps M0 σE σS → G σS → ∀ k σk, Head cS shS bodyS σS k σk →
      (isLoop = false → k ≤ 1) → ∀ x, C.contains x = true → memS σE σk x = memS σE σS x)
    (h2 : (loopPrep s ps sub1 (cS + shP) L C).run os = .ok (r, os')) :
    ∃ comps : List (List (Int × Expr w)), r.1.insts = s.insts ++ comps.map Instr.calc ∧
      ∀ M0 σ1 σS, RelAt shP s ps M0 σ1 σS → G σS →
        HeadsW Gc shP cS pc sub0 sub1 isLoop (ProtP sub1 C (cS + shP)) (KeepQ sub1 C) (comps.foldl doCalc σ1) := by
  obtain ⟨s3, comps, Dx, hreq, hclob, hdrop, hreads, hconstP, _, hminvx⟩ := loopPrep_stay hwf hns1 h2
  have e1 : r.1.insts = s3.insts := by
    rw [hreq]
    exact (condZero_same s3 _ (cS + shP)).insts
  refine ⟨comps, e1.trans hclob.insts, ?_⟩
  intro M0 σE σS hrel hG
  obtain ⟨m1, _, _⟩ := foldl_doCalc_meta comps σE
  obtain ⟨_, hread', hJ0, hcondrd, hrun⟩ := stayJ_setup (isLoop := isLoop) hc hwf1 hsh hclob hdrop hreads hminvx hrel rfl
  obtain ⟨_, hheads⟩ := hrun (hGc M0 σE σS hrel hG)
  intro k b hh hk
  obtain ⟨σk, hJ⟩ := hheads k b hh hk
  have hXptr : (σk.mov (-shP)).ptr = b.ptr := by
    show σk.ptr + -shP = b.ptr
    rw [hJ.ptr]; omega
  have hXS : ∀ v, memE (σk.mov (-shP)) v = memS b σk v := by
    intro v
    show σk.tape.get ((σk.mov (-shP)).ptr + v) = σk.tape.get (b.ptr + v)
    rw [hXptr]
  have hR : ∀ v, (v ∈ sub1.reads ∨ v = cS + shP) → memS b σk v = memE b v := by
    intro v hv
    obtain ⟨p1, p2⟩ := hread' v hv
    exact hJ.agree v p1 p2
  have hCk : ∀ v, v ∈ mKeys sub1.written → C.contains v = true → memS b σk v = memE b v :=
    fun v hkey hC => hJ.agree v (hconstP v hkey hC)
      (fun hd => by have := hdrop.notConst v hd; rw [hC] at this; cases this)
  refine ⟨⟨hJ.ptrE, ?_⟩, ?_⟩
  · intro x hx
    by_cases hkey : x ∈ mKeys sub1.written
    · have hC : C.contains x = true := by
        rcases hx with h | h
        · exact absurd hkey h
        · exact h
      have hk1 : ∀ j : Nat, (isLoop = false → j = 0) → (isLoop = false → j ≤ 1) := by
        intro j hj h; rw [hj h]; omega
      have h1 := hconst M0 σE σS hrel hG k σk hJ.head (hk1 k hk) x hC
      have h0 : memS (comps.foldl doCalc σE) σS x = memE (comps.foldl doCalc σE) x :=
        hJ0.agree x (hconstP x hkey hC)
          (fun hd => by have := hdrop.notConst x hd; rw [hC] at this; cases this)
      have hp : b.ptr = σE.ptr := hJ.ptrE.trans m1
      rw [← hCk x hkey hC, ← h0]
      show σk.tape.get (b.ptr + x) = σS.tape.get ((comps.foldl doCalc σE).ptr + x)
      rw [hp, m1]
      exact h1
    · exact (hJ.frame x ((mGet_none_iff _ _).2 hkey)).1
  · intro hne
    have hneS : σk.rd cS ≠ 0#w := by rw [hcondrd k σk b hJ]; exact hne
    have hg := hGc M0 σE σS hrel hG k σk hJ.head hk hneS
    obtain ⟨M0c, hre⟩ := hc.entry (σk.mov (-shP)) σk (sameMem_movNeg shP σk) hneS hg
    refine ⟨σk.mov (-shP), ⟨M0c, σk, hre, hg⟩, hXptr, hJ.env, hJ.tr, ?_, ?_⟩
    · intro v hv
      rw [hXS v]; exact hR v (Or.inl hv)
    · rintro v (hv | ⟨hkey, hC⟩)
      · rw [hXS v]; exact hR v (Or.inr hv)
      · rw [hXS v]; exact hCk v hkey hC

section Round
variable {Gc : State w → Prop} {shP shC cS : Int} {pc : List (Rebuild w)} {sub0 sub1 : Rebuild w}
  {bodyS : List (Instr w)} {P Q : Int → Prop} {τ1 : State w}

theorem HeadsW.headsV {isLoop : Bool} (hW : HeadsW Gc shP cS pc sub0 sub1 isLoop P Q τ1) :
    HeadsV Gc shP cS pc sub0 sub1 isLoop P τ1 := fun k a hh hk => (hW k a hh hk).2

/-- The claim of the recorded node about the emitted loop, from a mirror of the start state. -/
theorem heads_mirror_clob (hc : ChildOk Gc shP shC pc sub0 sub1 cS bodyS)
    (hW : HeadsW Gc shP cS pc sub0 sub1 true P Q τ1) (hPc : P (cS + shP)) {τ2 : State w}
    (hJ0 : JW sub1 (cS + shP) P τ1 0 τ1 τ2)
    (hQ : ∀ v, Q v → v ∈ mKeys sub1.written → P v)
    {k : Nat} {b : State w} (hh : Head (cS + shP) 0 sub1.insts τ2 k b) :
    b.ptr = τ2.ptr ∧ ∀ x, Q x → b.rd x = τ2.rd x := by
  obtain ⟨a, hJ, hp, hm⟩ := heads_mirror hc hW.headsV hPc hJ0 hh
  refine ⟨hp, fun x hx => ?_⟩
  show memE b x = memE τ2 x
  obtain ⟨hha, X, hag, hXr, hXP⟩ := hJ
  obtain ⟨_, X0, hag0, hXr0, hXP0⟩ := hJ0
  obtain ⟨⟨_, hqa⟩, _⟩ := hW k a hha (fun h => Bool.noConfusion h)
  by_cases hkey : x ∈ mKeys sub1.written
  · have hP := hQ x hx hkey
    rw [← hag.2.2.2 x (hXP x hP), hqa x hx]
    exact hag0.2.2.2 x (hXP0 x hP)
  · by_cases hr : x ∈ sub1.reads
    · rw [← hag.2.2.2 x (fun h => hXr x h hr), hqa x hx]
      exact hag0.2.2.2 x (fun h => hXr0 x h hr)
    · exact hm x hkey hr

/-- A head of a mirror run at which the body is entered mirrors a child-valid state. -/
theorem jw_mirV (hc : ChildOk Gc shP shC pc sub0 sub1 cS bodyS) {isLoop : Bool}
    (hW : HeadsW Gc shP cS pc sub0 sub1 isLoop P Q τ1) (hPc : P (cS + shP)) {k : Nat} {a b : State w}
    (hk : isLoop = false → k = 0)
    (hJ : JW sub1 (cS + shP) P τ1 k a b) (hne : b.rd (cS + shP) ≠ 0#w) :
    MirV (ValidG Gc shP sub0 pc) sub0 sub1 b := by
  have hnea : a.rd (cS + shP) ≠ 0#w := by rw [jw_cond hPc hJ]; exact hne
  obtain ⟨hh, X, hag, hXr, _⟩ := hJ
  obtain ⟨σX, hvX, hXp, hXe, hXt, hXrd, _⟩ := (hW k a hh hk).2 hnea
  refine ⟨σX, fun v => memE σX v ≠ memE a v ∨ X v, hvX, ?_, ?_, ?_⟩
  · rintro v (h | h) hr
    · exact h (hXrd v hr)
    · exact hXr v h hr
  · intro h
    rw [hc.noShift] at h; cases h
  · refine ⟨hXp.trans hag.1, hXe.trans hag.2.1, hXt.trans hag.2.2.1, ?_⟩
    intro v hv
    have hv' : ¬ (memE σX v ≠ memE a v ∨ X v) := fun h => hv ((rest_fresh hc.w0 v).2 h)
    have e1 : memE σX v = memE a v := Classical.not_not.1 (fun h => hv' (Or.inl h))
    rw [e1]
    exact hag.2.2.2 v (fun h => hv' (Or.inr h))

end Round

end OptProof
end Hpbf
