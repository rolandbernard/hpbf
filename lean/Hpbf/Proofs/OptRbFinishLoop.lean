/-
`finishLoop` (the `Loop` / `If` arm of `rebuild_block` after the body has been
rebuilt) up to its call of `finishEnd`, in three cases (`finishLoop_prep_g`): the block is known never to be entered;
the child moves the pointer (no loop motion); balanced child (loop motion, through the bridge to the loop pack).  In
the last two `finishEnd` does the rest (`finishLoop_all_g`, `OptRbAnFinishLoop.lean`).

The guard `Gc` of the child is only asked for at the heads entered from valid guarded states (`hGcH`); after loop
motion the child of the transformed loop is guarded by `PartnerG` (`childPre_motion_g`).
-/
import Hpbf.Proofs.OptRbMotion4
import Hpbf.Proofs.OptRbFinish
import Hpbf.Proofs.OptRbFoot8
import Hpbf.Proofs.OptRbRd3

namespace Hpbf
namespace OptProof
open Opt OptSem Ir

variable {w : Nat}

theorem exec_calc_nil_fin {σ σ' : State w} (h : Exec [(.calc [] : Instr w)] σ (.fin σ')) : σ' = σ := by
  rw [exec_calc_iff] at h
  rcases (exec_nil_iff _ _).1 h with h' | h'
  · cases h'
  · cases h'; rfl

/-- Without loop motion the program of `finishEnd` is the block itself. -/
theorem endSrc_nil_sim (isLoop : Bool) (cS shS : Int) (bodyS : List (Instr w)) (oS : Bool) (L : OptLoop w)
    (σ : State w) :
    Sim (fun a b => a = b) [blockInstr isLoop cS shS bodyS oS] (endSrc isLoop cS shS bodyS oS L [] []) σ σ := by
  unfold endSrc
  have hcalc : ([Instr.calc []] : List (Instr w)) = ([[]] : List (List (Int × Expr w))).map Instr.calc := rfl
  rw [hcalc]
  refine Sim.calcs_right [[]] ?_
  show Sim _ _ _ σ σ
  split
  · have : Sim (fun a b => a = b) ([blockInstr isLoop cS shS bodyS oS] ++ [])
        ([blockInstr isLoop cS shS bodyS oS] ++ [.calc []]) σ σ := by
      refine Sim.append (Sim.refl_of _ σ (Q := fun a b => a = b) (fun _ => rfl)) ?_
      rintro a b rfl
      exact Sim.of_atomic (atomic_calcs ([] : List (List (Int × Expr w))))
        (atomic_calcs ([[]] : List (List (Int × Expr w)))) rfl rfl rfl rfl (fun _ => rfl)
    rwa [List.append_nil] at this
  · by_cases hz : σ.rd cS = 0#w
    · exact Sim.both_skip (isLoop' := false) (o' := oS) hz hz rfl rfl
    · refine Sim.tgt_ifnz_once hz ?_
      have : Sim (fun a b => a = b.mov 0) ([blockInstr isLoop cS shS bodyS oS] ++ [])
          ([blockInstr isLoop cS shS bodyS oS] ++ [.calc []]) σ σ := by
        refine Sim.append (Sim.refl_of _ σ (Q := fun a b => a = b) (fun _ => rfl)) ?_
        rintro a b rfl
        exact Sim.of_atomic (atomic_calcs ([] : List (List (Int × Expr w))))
          (atomic_calcs ([[]] : List (List (Int × Expr w)))) rfl rfl rfl rfl (fun _ => (C01.mov_zero _).symm)
      rwa [List.append_nil] at this

theorem finishMotionK_cut {s : Rebuild w} {ps : List (Rebuild w)} {sub : Rebuild w} {cond : Int}
    {L : OptLoop w} {k : MidRes w → M (Rebuild w)} {os os' : Orders} {s' : Rebuild w}
    (hr : (finishMotionK s ps sub cond L k).run os = .ok (s', os')) :
    ∃ C sub1 B D A os2 sub' os3,
      constantsAmong s ps sub (sIns (possibleReads sub) cond ++
        (pendingSorted sub sub).filter (fun x => !(sIns (possibleReads sub) cond).contains x)) = .ok C ∧
      ((pendingSorted sub sub).foldlM
        (OptLoop.motionStepM s ps (sIns (possibleReads sub) cond) C
          (linearAmong s ps sub C (sIns (possibleReads sub) cond ++ pendingSorted sub sub))
          ((pendingSorted sub sub).filter (fun x => !C.contains x)) L) (sub, [], [], [])).run os
        = .ok ((sub1, B, D, A), os2) ∧
      (performAll sub1 (s :: ps) 0 D).run os2 = .ok (sub', os3) ∧
      (k (sub', B, A, C)).run os3 = .ok (s', os') := by
  unfold finishMotionK at hr
  dsimp only at hr
  rw [run_bind_ok] at hr
  obtain ⟨constant, os1, h1, h2⟩ := hr
  obtain ⟨hC, hos⟩ := run_monadLift_ok.1 h1
  simp only at hC hos
  subst hos
  rw [run_bind_ok] at h2
  obtain ⟨⟨sub1, B, D, A⟩, os2, h3, h4⟩ := h2
  dsimp only at h4
  rw [run_bind_ok] at h4
  obtain ⟨sub2, os3, h5, h6⟩ := h4
  rw [run_bind_ok] at h6
  obtain ⟨x, os4, h7, h8⟩ := h6
  rw [run_pure] at h7
  cases h7
  exact ⟨constant, sub1, B, D, A, os2, sub2, os3, hC, h3, h5, h8⟩

section FinishLoop
variable {G Gc : State w → Prop} {shP shC shS cS : Int} {bodyS : List (Instr w)} {isLoop oS : Bool}
  {s : Rebuild w} {ps : List (Rebuild w)} {sub0 sub : Rebuild w} {cond : Int} {os os' : Orders} {s' : Rebuild w}

/-- `finishLoop` up to its call of `finishEnd`: the block is never entered; or `finishEnd` gets the child as it is
(it moves the pointer); or it gets the child of the transformed loop after loop motion.  In the last two cases
everything a statement about that run of `finishEnd` asks for is provided (`EndArgs`). -/
theorem finishLoop_prep_g (hw : 0 < w)
    (hr : (finishLoop s ps sub cond isLoop).run os = .ok (s', os'))
    (hwf : Wf s) (hcs : CanonSt s) (hsf : sub.subShift = false → AskStable s sub.shift)
    (hcond : cond = cS + shP)
    (hsh : shC + shS = (sub.shift - s.shift) + shP)
    (hall : StepAll Gc shP shC (s :: ps) sub0 sub bodyS sub.insts)
    (hi0 : sub0.insts = []) (hw0 : sub0.written = []) (hp0 : sub0.pending = [])
    (hentry : EntryAt Gc shP cS (s :: ps) sub0)
    (hGcH : HeadsIn G Gc shP s ps cS shS bodyS (isLoop = false))
    (hcsub : CanonSt sub) (hkvs : KnownVars sub) (hreads : OptLoop.SAsc sub.reads)
    (hch : RdSt sub)
    (hpv : PVClean sub (s :: ps)) (hcf : sub.cond = some cond) (oS : Bool) :
    ((∀ M0 σE σS, RelAt shP s ps M0 σE σS → G σS → σS.rd cS = 0#w) ∧ s' = s) ∨
    ((finishEnd s ps cond (analyzeLoop s ps sub cond isLoop) (sub, [], [], [])).run os = .ok (s', os') ∧
      EndArgs (fun σ => G σ ∧ ∃ M0 σE, RelAt shP s ps M0 σE σ) (fun σ => G σ ∧ ∃ M0 σE, RelAt shP s ps M0 σE σ)
        Gc shP shC shS cS bodyS oS isLoop s ps sub cond (analyzeLoop s ps sub cond isLoop) [] [] [] (s :: ps) sub0 os) ∨
    (sub.subShift = false ∧ sub.shift = s.shift ∧ ∃ C sub1 B D A os2 sub' os3,
      MotionData s ps sub sub1 (cS + shP) (analyzeLoop s ps sub cond isLoop) C B D A os os2 ∧
      Wf sub1 ∧ SameButPend sub sub1 ∧ sub1.pending = [] ∧
      (performAll sub1 (s :: ps) 0 D).run os2 = .ok (sub', os3) ∧ sub'.subShift = false ∧
      (finishEnd s ps cond (analyzeLoop s ps sub cond isLoop) (sub', B, A, C)).run os3 = .ok (s', os') ∧
      (∀ M0 σE σS, RelAt shP s ps M0 σE σS → G σS →
        MAtG Gc shP shC shS cS bodyS isLoop oS s ps sub0 sub sub1 (analyzeLoop s ps sub cond isLoop) C B D A
          os os2 M0 σE σS (doCalc (σS.mov (-shP)) B)) ∧
      EndArgs (fun σ0 => ∃ σS M0 σE, RelAt shP s ps M0 σE σS ∧ G σS ∧ σ0 = σS.mov (-shP)) (G1M G shP s ps B)
        (PartnerG Gc shP cS (sIns (possibleReads sub) (cS + shP))) 0 0 0 (cS + shP) (sub.insts ++ [.calc D]) oS
        (!(analyzeLoop s ps sub cond isLoop).atMostOnce) s ps sub' cond (analyzeLoop s ps sub cond isLoop) B A C []
        (freshChildU sub0.shift (cS + shP)) os3) := by
  have hrepC : ChildRep Gc shP shC (s :: ps) sub0 (s :: ps) sub bodyS := hall.step.2
  have hfacts : ∀ M0 σE σS, RelAt shP s ps M0 σE σS → G σS →
      FactsAt isLoop cS shS bodyS oS (analyzeLoop s ps sub cond isLoop) σS :=
    fun M0 σE σS hrel hG => factsAt_real_g hw hrel hcond hsh ⟨hrepC, hentry, hw0⟩ (hGcH M0 σE σS hrel hG)
  have hifamo : isLoop = false → (analyzeLoop s ps sub cond isLoop).atMostOnce = true := by
    intro hi
    cases hi
    cases hnr : sub.noReturn with
    | true =>
      rcases OptLoop.analyzeLoop_noReturn s ps sub cond false hnr with ⟨_, heq⟩ | ⟨_, heq⟩
      · rw [heq]; exact ofExpr_zero_amo
      · rw [heq]; rfl
    | false =>
      rcases analyzeLoop_if s ps sub cond hnr with ⟨_, heq⟩ | heq
      · rw [heq]; exact ofExpr_zero_amo
      · rw [heq]; exact atMostOnceOf_amo _
  have hGcL : HeadsIn G Gc shP s ps cS shS bodyS ((analyzeLoop s ps sub cond isLoop).atMostOnce = true) :=
    hGcH.mono hifamo
  have hwfsub : Wf sub := hall.wf
  rw [finishLoop_cut] at hr
  split at hr
  · -- never entered
    rename_i hnever
    rw [run_pure] at hr
    cases hr
    exact Or.inl ⟨fun M0 σE σS hrel hG => (hfacts M0 σE σS hrel hG).never hnever, rfl⟩
  · split at hr
    · -- the child moves the pointer: no loop motion
      rename_i hnever hshift
      rw [run_bind_ok] at hr
      obtain ⟨x, os1, h1, h2⟩ := hr
      rw [run_pure] at h1
      cases h1
      have hLF : ∀ s1 os1, (performAll s ps 0 []).run os = .ok (s1, os1) →
          LoopFacts (fun σ => G σ ∧ ∃ M0 σE, RelAt shP s ps M0 σE σ) shP s1 ps isLoop cS shS bodyS oS
            (analyzeLoop s ps sub cond isLoop) [] := by
        intro s1 os1 hp
        rw [performAll_nil, run_pure] at hp
        cases hp
        exact ⟨fun h M0 σE σS hrel hG => (hfacts M0 σE σS hrel hG.1).alo h,
          fun h hi M0 σE σS hrel hG => (hfacts M0 σE σS hrel hG.1).amo h hi,
          hifamo,
          fun h M0 σE σS hrel hG => (hfacts M0 σE σS hrel hG.1).nc h,
          fun h M0 σE σS hrel hG => (hfacts M0 σE σS hrel hG.1).ne h,
          fun _ _ _ _ _ _ _ _ _ x hx => by simp at hx,
          fun h ha M0 σE σS hrel hG => (hfacts M0 σE σS hrel hG.1).fin h ha⟩
      exact Or.inr (Or.inl ⟨h2,
        { hwf, hsf, hcond, hsh, hentry, hch
          hrep := childRep_forget hall
          hwfc := hwfsub
          hpre := fun hns => childPre_of_stepAll hall hi0 hw0 hns hentry
          hkv := hkvs
          hbefore := fun h => absurd rfl h
          hafter := fun h => absurd rfl h
          hG1 := fun M0 σE σS σS' _ hG hex => by rw [exec_calc_nil_fin hex]; exact hG
          hF := hLF
          -- the parent state after `performAll … []` is the parent state
          hGc := fun s1 _ _ σS _ ⟨hG, M0, σE, hrel⟩ => hGcL M0 σE σS hrel hG
          hconstW := fun _ _ _ _ _ _ _ _ _ x hx => by simp at hx }⟩)
    · -- balanced child: loop motion
      rename_i hnever hshift
      have hns : sub.subShift = false := by
        cases h : sub.subShift with
        | false => rfl
        | true => rw [h] at hshift; simp at hshift
      have hse : sub.shift = s.shift := by
        rw [hns] at hshift
        simpa using hshift
      have hshB : shC + shS = shP := by rw [hsh, hse]; omega
      obtain ⟨C, sub1, B, D, A, os2, sub', os3, hC, hfold, h5, h6⟩ := finishMotionK_cut hr
      obtain ⟨hwf1, hsame1, hpend1⟩ := motionFold_sub_all hfold hwfsub
      have md : MotionData s ps sub sub1 (cS + shP) (analyzeLoop s ps sub cond isLoop) C B D A os os2 := by
        rw [← hcond]
        exact ⟨hC, hfold, hreads, hwfsub, hcsub, hcs⟩
      have hc : BalChild Gc shP shC shS cS bodyS s ps sub0 sub := ⟨hall, hw0, hp0, hns, hshB, hentry⟩
      -- the variables of `D` are variables of pending operations: the parent is never asked about them
      have hDask : ∀ vc ∈ D, ∀ x ∈ Expr.variables vc.2, mGet sub.written x = none →
          getParentConstant sub (s :: ps) x = none := by
        intro vc hvc x hx hwx
        have hd : mGet D vc.1 = some vc.2 := OptLoop.mGet_of_mem md.nodup.2.1 hvc
        cases hp : mGet sub.pending vc.1 with
        | none =>
          have := (md.allE.nopend vc.1 hp).2.1
          rw [this] at hd; cases hd
        | some p =>
          exact hpv vc.1 p hp x (OptLoop.motionAllE_D_vars hw md.allE hp hd x hx) hwx
      obtain ⟨hpre', hwf', hsh', hss', hnr', hkv'⟩ :=
        childPre_motion_g (cS := cS) (R := sIns (possibleReads sub) (cS + shP)) hall hi0 hw0 hns hkvs hentry
          hch (fun r hr => List.contains_iff_mem.1 (OptLoop.reads_possibleReads sub (cS + shP) r hr))
          (List.contains_iff_mem.1 (OptLoop.cond_possibleReads sub (cS + shP)))
          (fun v hv => by rw [hcf] at hv; cases hv; exact hcond) hDask hwf1 hsame1 hpend1 h5
      have hAt : ∀ M0 σE σS, RelAt shP s ps M0 σE σS → G σS →
          MAtG Gc shP shC shS cS bodyS isLoop oS s ps sub0 sub sub1 (analyzeLoop s ps sub cond isLoop) C B D A
            os os2 M0 σE σS (doCalc (σS.mov (-shP)) B) := by
        intro M0 σE σS hrel hG
        refine ⟨md, hc, hGcL M0 σE σS hrel hG, hrel, rfl, hfacts M0 σE σS hrel hG, ?_⟩
        intro n ht
        have := tripFacts_real_g hw hrel hcond hsh ⟨hrepC, hentry, hw0⟩ (hGcH M0 σE σS hrel hG) ht
        rw [← memE_movNeg hrel] at this
        exact this
      refine Or.inr (Or.inr ⟨hns, hse, C, sub1, B, D, A, os2, sub', os3, md, hwf1, hsame1, hpend1, h5, hss', h6, hAt,
        { hwf
          hsf := fun _ => by rw [hsh']; exact hsf hns
          hcond := by rw [hcond]; omega
          hsh := by rw [hsh', hse]; omega
          hrep := hpre'.rep
          hentry := hpre'.entry
          hwfc := hwf'
          hch := ((RStep.of_sameButPend hsame1).trans (performAll_rstep h5 hwf1)).rdSt hch
          hpre := fun _ => hpre'
          hkv := fun _ => hkv'
          hbefore := fun _ => rfl
          hafter := fun _ => ⟨rfl, by rw [hsh', hse]⟩
          hG1 := ?_
          hF := fun s1 _ _ => loopFacts₂_g hAt s1
          -- the heads of the transformed loop have real partners
          hGc := fun s1 _ _ _ _ ⟨σS, M0, σE, hrel, hG, e⟩ k τk hh hk hne => by
            subst e
            exact (hAt M0 σE σS hrel hG).partner hh hk hne
          hconstW := constW₂_g hw hAt }⟩)
      rintro M0 σE σ0 σ' _ ⟨σS, M0', σE', hrel, hG, rfl⟩ hex
      refine ⟨σS, M0', σE', hrel, hG, ?_⟩
      rw [exec_calc_iff] at hex
      rcases (exec_nil_iff _ _).1 hex with h' | h'
      · cases h'
      · cases h'; rfl

end FinishLoop

end OptProof
end Hpbf

