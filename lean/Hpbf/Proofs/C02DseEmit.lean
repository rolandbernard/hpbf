/-
C02, `dead_store_elim`: the state produced by the emission phase satisfies `DsePre`. The emission proofs
(`C02Emit*.lean`) work on the "core" of the generator state and ignore `ranges`. Here `DseInv insts ranges` is shown to
be kept by every primitive: every instruction that reads a temporary is pushed right after the matching `read`s (which
increment `num_uses`), `range_extend(_to)` and the `outer_accessed` loop leave `num_uses` alone, and a fresh value
number gets a fresh `ranges` entry before its defining instruction is pushed.  The induction over `emit_block` is
`C02Emit.emitInsts_tr` (`closedT_dse`).
-/
import Hpbf.Proofs.C02DsePass
import Hpbf.Proofs.C02EmitWalk

namespace Hpbf
namespace C02

open Bc BcWf BcGen C11 C02Emit

variable {w : Nat}

theorem DseInv.push {I : Array (Instr w)} {R : Array RangeInfo} (h : DseInv I R) {x : Instr w} (hz : NoMemZero x)
    (hu : ∀ t, dseUseCount I t + dseCnt t x ≤ dseNuse R t)
    (hd : ∀ op t a b, x = mkArith op (.tmp t) a b → t < R.size) : DseInv (I.push x) R := by
  refine ⟨?_, ?_, ?_⟩
  · intro ins hins
    rcases Array.mem_push.1 hins with h1 | rfl
    · exact h.noZero ins h1
    · exact hz
  · intro t; rw [dse_useCount_push]; exact hu t
  · intro i op t a b hi
    rw [Array.getElem?_push] at hi
    split at hi
    · cases hi; exact hd op t a b rfl
    · exact h.dst i op t a b hi

structure DsePlain (x : Instr w) : Prop where
  noZero : NoMemZero x
  uses : uses x = []
  notArith : ∀ op t a b, x ≠ mkArith op (.tmp t) a b

theorem DseInv.pushPlain {I : Array (Instr w)} {R : Array RangeInfo} (h : DseInv I R) {x : Instr w} (hx : DsePlain x) :
    DseInv (I.push x) R :=
  h.push hx.noZero (fun t => by simp only [dseCnt, hx.uses, List.count_nil, Nat.add_zero]; exact h.uses t)
    (fun op t a b e => absurd e (hx.notArith op t a b))

theorem DseInv.setPlain {I : Array (Instr w)} {R : Array RangeInfo} (h : DseInv I R) {x : Instr w} (hx : DsePlain x)
    (i : Nat) : DseInv (I.setIfInBounds i x) R := by
  by_cases hi : i < I.size
  · refine ⟨?_, ?_, ?_⟩
    · intro ins hins
      rcases Array.getElem?_of_mem hins with ⟨j, hj⟩
      rw [Array.getElem?_setIfInBounds] at hj
      by_cases hij : i = j
      · simp only [hij, if_true] at hj
        split at hj
        · cases hj; exact hx.noZero
        · cases hj
      · simp only [hij, if_false] at hj
        exact h.noZero ins (Array.mem_of_getElem? hj)
    · intro t
      have := dse_useCount_set I i x t hi
      have hc : dseCnt t x = 0 := by simp [dseCnt, hx.uses]
      have := h.uses t
      omega
    · intro j op t a b hj
      rw [Array.getElem?_setIfInBounds] at hj
      by_cases hij : i = j
      · simp only [hij, if_true] at hj
        split at hj
        · cases hj; exact absurd rfl (hx.notArith op t a b)
        · cases hj
      · simp only [hij, if_false] at hj
        exact h.dst j op t a b hj
  · have : I.setIfInBounds i x = I := by
      apply Array.ext_getElem?
      intro k
      rw [Array.getElem?_setIfInBounds]
      by_cases hik : i = k
      · subst hik; simp [hi]
      · simp [hik]
    rw [this]; exact h

theorem DseInv.ranges {I : Array (Instr w)} {R R' : Array RangeInfo} (h : DseInv I R) (hs : R.size ≤ R'.size)
    (hn : ∀ t, dseNuse R t ≤ dseNuse R' t) : DseInv I R' :=
  ⟨h.noZero, fun t => Nat.le_trans (h.uses t) (hn t), fun i op t a b hi => Nat.lt_of_lt_of_le (h.dst i op t a b hi) hs⟩

theorem dsePlain_of {x : Instr w} (hz : NoMemZero x) (hu : uses x = []) (ha : arith? x = none) : DsePlain x :=
  ⟨hz, hu, fun op _ _ _ e => by subst e; cases op <;> cases ha⟩

theorem dse_plain_noop : DsePlain (.noop : Instr w) := dsePlain_of rfl rfl rfl
theorem dse_plain_out (m : Int) : DsePlain (.out m : Instr w) := dsePlain_of rfl rfl rfl
theorem dse_plain_inp (m : Int) : DsePlain (.inp m : Instr w) := dsePlain_of rfl rfl rfl
theorem dse_plain_mov (m : Int) : DsePlain (.mov m : Instr w) := dsePlain_of rfl rfl rfl
theorem dse_plain_scan (c m : Int) : DsePlain (.scan c m : Instr w) := dsePlain_of rfl rfl rfl
theorem dse_plain_brz (c m : Int) : DsePlain (.brz c m : Instr w) := dsePlain_of rfl rfl rfl
theorem dse_plain_brnz (c m : Int) : DsePlain (.brnz c m : Instr w) := dsePlain_of rfl rfl rfl

structure DseGrow (s s' : St w) (e : List Nat) : Prop where
  insts : s'.insts = s.insts
  size : s'.ranges.size = s.ranges.size
  nuse : ∀ t, dseNuse s'.ranges t = dseNuse s.ranges t + e.count t

theorem DseGrow.refl (s : St w) : DseGrow s s [] := ⟨rfl, rfl, fun t => by simp⟩

theorem DseGrow.trans {s1 s2 s3 : St w} {e1 e2 : List Nat} (h1 : DseGrow s1 s2 e1) (h2 : DseGrow s2 s3 e2) :
    DseGrow s1 s3 (e1 ++ e2) :=
  ⟨h2.insts.trans h1.insts, h2.size.trans h1.size, fun t => by
    rw [h2.nuse, h1.nuse, List.count_append]; omega⟩

theorem DseGrow.pre {s s' : St w} (h : DseGrow s s' []) (hI : DsePre s) : DsePre s' := by
  unfold DsePre
  rw [h.insts]
  exact hI.ranges (Nat.le_of_eq h.size.symm) (fun t => by rw [h.nuse]; simp)

theorem dseNuse_useSt {v : Nat} {s : St w} (hv : v < s.ranges.size) (inc t : Nat) :
    dseNuse (useSt v inc s).ranges t = dseNuse s.ranges t + if t = v then inc else 0 := by
  unfold useSt
  rw [Array.getElem?_eq_getElem hv]
  simp only
  rw [dse_nuse_set _ _ _ _ hv]
  split
  · rename_i e; subst e
    unfold dseNuse; rw [Array.getElem?_eq_getElem hv]; rfl
  · rfl

/-- `range_extend` leaves `num_uses` alone, `read` counts one use. -/
theorem dseGrow_useSt {v : Nat} {s : St w} (hv : v < s.ranges.size) (inc : Nat) :
    DseGrow s (useSt v inc s) (List.replicate inc v) := by
  refine ⟨congrArg G.insts (core_useSt v inc s).1, size_useSt v inc s, fun t => ?_⟩
  rw [dseNuse_useSt hv, List.count_replicate]
  by_cases e : t = v
  · subst e; simp
  · have e' : ¬ v = t := fun x => e x.symm
    simp [e, e']

theorem dse_read_grow {v : Nat} {s s' : St w} {u : Unit} (h : BcGen.read v s = .ok (u, s')) : DseGrow s s' [v] := by
  obtain ⟨hv, rfl⟩ := read_ok.1 h
  exact dseGrow_useSt hv 1

theorem dseGrow_readsSt : ∀ (l : List Nat) {s : St w}, (∀ a ∈ l, a < s.ranges.size) → DseGrow s (readsSt l s) l
  | [], s, _ => DseGrow.refl s
  | a :: l, s, hl => by
    have g1 := dseGrow_useSt (hl a List.mem_cons_self) 1
    exact g1.trans (dseGrow_readsSt l (s := useSt a 1 s)
      (fun b hb => by rw [g1.size]; exact hl b (List.mem_cons_of_mem _ hb)))

theorem dse_nuse_push (R : Array RangeInfo) (x : RangeInfo) (hx : x.numUses = 0) (t : Nat) :
    dseNuse (R.push x) t = dseNuse R t := by
  unfold dseNuse
  rw [Array.getElem?_push]
  by_cases e : t = R.size
  · subst e
    simp [hx]
  · simp [e]

theorem dse_gvInst_tmp {e : GvnExpr w} {n : Nat} {op : BcGen.Op} {t : Nat} {a b : Loc w}
    (h : gvInst e n = mkArith op (.tmp t) a b) : t = n := by
  cases e <;> cases op <;> simp only [gvInst, mkArith, Instr.add.injEq, Instr.sub.injEq, Instr.mul.injEq,
    Loc.tmp.injEq, reduceCtorEq] at h
  all_goals exact h.1.symm

/-- A fresh value number gets a fresh `ranges` entry, its operands are read (each read counts one use), then the
defining instruction, which uses exactly them, is pushed. -/
theorem dsePre_newSt {e : GvnExpr w} {s : St w} (hI : DsePre s) (ho : ∀ a ∈ AEmit.opsOf e, a ≤ s.ranges.size) :
    DsePre (newSt e s) := by
  have g := dseGrow_readsSt (AEmit.opsOf e) (s := { s with
    ranges := s.ranges.push { created := s.insts.size, firstUse := none, lastUse := none, numUses := 0 },
    exprs := s.exprs.push e }) (fun a ha => by have := ho a ha; simp only [Array.size_push]; omega)
  have hn : ∀ t, dseNuse (readsSt (AEmit.opsOf e) _).ranges t = dseNuse s.ranges t + (AEmit.opsOf e).count t :=
    fun t => by rw [g.nuse, dse_nuse_push _ _ rfl]
  have hsz := g.size
  simp only [Array.size_push] at hsz
  show DseInv (Array.push _ _) _
  rw [g.insts]
  have base : DseInv s.insts (readsSt (AEmit.opsOf e) _).ranges :=
    DseInv.ranges hI (by rw [hsz]; omega) (fun t => by rw [hn]; omega)
  refine base.push (by cases e <;> rfl) (fun t => ?_) (fun op t a b h => by rw [dse_gvInst_tmp h, hsz]; omega)
  have : dseCnt t (gvInst e s.ranges.size) = (AEmit.opsOf e).count t := by
    cases e <;> simp [dseCnt, gvInst, uses, locTmp, AEmit.opsOf]
  rw [this, hn]
  have := hI.uses t
  omega

theorem dse_getValue_pres (e : GvnExpr w) (s : St w) (t : Nat) (s' : St w) (hI : DsePre s)
    (h : getValue e s = .ok (t, s')) : DsePre s' := by
  rcases getValue_ok.1 h with ⟨-, rfl⟩ | ⟨-, ho, -, rfl⟩
  · exact hI
  · exact dsePre_newSt hI ho

theorem dse_memWrite_pres (var : Int) (value : Nat) (s s' : St w) (u : Unit) (hI : DsePre s)
    (h : memWrite var value s = .ok (u, s')) : DsePre s' := by
  unfold memWrite at h
  simp only [bind_ok, modify_ok] at h
  obtain ⟨_, s1, h1, rfl⟩ := h
  have g := dse_read_grow h1
  show DseInv (s1.insts.push _) s1.ranges
  rw [g.insts]
  have base : DseInv s.insts s1.ranges :=
    DseInv.ranges hI (Nat.le_of_eq g.size.symm) (fun t => by rw [g.nuse]; omega)
  refine base.push rfl ?_ ?_
  · intro t
    have : dseCnt t (.copy (.mem var) (.tmp value) : Instr w) = [value].count t := by
      simp [dseCnt, uses, locTmp]
    rw [this, g.nuse]
    have := hI.uses t
    omega
  · intro op t a b e
    cases op <;> simp [mkArith] at e

theorem dse_outerLoop_pres (ps : Nat) (fuel i : Nat) (s : St w) (u : Unit) (s' : St w)
    (h : outerLoop ps fuel i s = .ok (u, s')) : DsePre s → DsePre s' :=
  outerLoop_keeps ps (fun _ _ hx _ hv => (dseGrow_useSt hv 0).pre hx) (fun _ _ hx _ => hx) fuel i h

section
variable {ps : Nat} {cond shift : Int} {sub : Analysis} {s : St w}

theorem dsePre_bodySt (isLoop once : Bool) (hI : DsePre s) : DsePre (bodySt isLoop once sub s) := by
  cases isLoop <;> cases once <;> first | exact hI | exact hI.pushPlain dse_plain_noop

theorem dsePre_lhMov {sb : St w} (hI : DsePre sb) : DsePre (lhMov shift sb) := by
  unfold lhMov
  split
  · exact hI
  · exact hI.pushPlain (dse_plain_mov _)

theorem dsePre_endSt (isLoop once : Bool) {so : St w} (hI : DsePre so) :
    DsePre (endSt ps isLoop once cond sub s so) := by
  cases isLoop <;> cases once
  · exact DseInv.setPlain hI (dse_plain_brz _ _) _
  · exact hI
  · exact (hI.pushPlain (dse_plain_brnz _ _)).setPlain (dse_plain_brz _ _) _
  · exact hI.pushPlain (dse_plain_brnz _ _)

end

/-- Around a body only instructions without temporaries are pushed or patched in. -/
theorem closedT_dse (fuse : Bool) :
    ClosedT false fuse (fun (_ : Unit) (_ : Nat) (_ : Analysis) (_ : List (Ir.Instr w)) (s : St w) => DsePre s) where
  out _ _ _ src _ s h := h.pushPlain (dse_plain_out _)
  inp _ _ _ dst _ s h := h.pushPlain (dse_plain_inp _)
  calcR _ _ _ calcs _ s h := tr_false.2 fun _ _ hc => tr_false.2 fun _ _ hw =>
    calc_pres dse_getValue_pres dse_memWrite_pres hc hw h
  scan _ _ _ _ _ _ _ s _ h := h.pushPlain (dse_plain_scan _ _)
  loop _ ps _ cond shift body once _ s _ h :=
    ⟨(), dsePre_bodySt true once h, fun sb _ jb _ => tr_false.2 fun _ so ho =>
      dsePre_endSt true once (dse_outerLoop_pres _ _ _ _ _ _ ho (dsePre_lhMov jb))⟩
  ifz _ ps _ cond shift body _ s h :=
    ⟨(), dsePre_bodySt false false h, fun sb _ jb _ => dsePre_endSt false false (dsePre_lhMov jb)⟩

theorem dsePre_of_emit {prog : Ir.Block w} {fuse : Bool} {s : St w} (h : emitState prog fuse = .ok s) :
    DsePre s := by
  unfold emitState at h
  rw [analyze_subAnal] at h
  cases hr : (emitInsts fuse 0 prog.insts (subsOf prog.insts)).run ({} : St w) with
  | error e => rw [hr] at h; cases h
  | ok p =>
    obtain ⟨u, s1⟩ := p
    rw [hr] at h
    cases h
    refine (tr_false.1 (emitInsts_tr (closedT_dse fuse) _ prog.insts (Nat.le_refl _) () Analysis.empty 0 {} ?_)
      u s hr).1
    exact ⟨fun ins hins => by simp at hins, fun t => by simp [dseUseCount], fun i op t a b hi => by simp at hi⟩

theorem deadStoreElim_preserves_of_emit {prog : Ir.Block w} {fuse : Bool} {s : St w}
    (h : emitState prog fuse = .ok s) :
    ∃ s', deadStoreElim s = .ok s' ∧ s'.insts.size = s.insts.size ∧ s'.live = s.live ∧ DsePre s' ∧
      (TargetsOk s.insts → TargetsOk s'.insts) ∧
      ∀ (t : Nat) (mn mx : Int), BehEqIO (progOf s t mn mx) (progOf s' t mn mx) := by
  obtain ⟨s', h1, h2, _, _, h5, _, h7, _, h9, h10, _⟩ := deadStoreElim_preserves s (dsePre_of_emit h)
  exact ⟨s', h1, h2, h5, h7, h9, h10⟩

end C02
end Hpbf
