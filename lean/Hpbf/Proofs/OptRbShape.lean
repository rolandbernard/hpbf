/-
The recorded analysis tree matches the emitted nested blocks (`ShapeI` / `ShapeL`), and
what dead store elimination needs from that: `C01Dse.ShapeOk`, `C01Dse.ShiftFact`, and the lookup of the node of
a nested block.  Here: everything that does not mention the optimizer state (`ShapeSt` and the walk:
`OptRbShape2`, `OptRbShape3`).
-/
import Hpbf.Proofs.OptRbTri
import Hpbf.Proofs.C01DseStruct

namespace Hpbf
namespace OptProof
open Opt OptSem Ir

variable {w : Nat}

/- The clauses are the facts dead store elimination consumes.  `once = L.atLeastOnce` is how `loopTail` pushes a
`loop`; `L.atMostOnce = false` for a `loop` and `L.atLeastOnce = false` for an `ifnz` are what `finishEnd` guarantees
when it calls `loopOrIf` (`toAtMostOnce` only for the wrapping `if`); `hs = false → sh = 0 ∧ …` is `hasShift` as
`loopOrIf` computes it. -/
mutual
def ShapeI : Instr w → OptAnalysis w → Prop
  | .loop _ sh body once, .mk L hs _ _ subs =>
      once = L.atLeastOnce ∧ L.atMostOnce = false ∧
      (hs = false → sh = 0 ∧ ∀ a ∈ subs, a.hasShift = false) ∧ ShapeL body subs
  | .ifnz _ sh body, .mk L hs _ _ subs =>
      L.atLeastOnce = false ∧ (hs = false → sh = 0 ∧ ∀ a ∈ subs, a.hasShift = false) ∧ ShapeL body subs
  | .output _, _ => False
  | .input _, _ => False
  | .calc _, _ => False
def ShapeL : List (Instr w) → List (OptAnalysis w) → Prop
  | [], subs => subs = []
  | i :: rest, subs =>
    if C01Dse.isBlock i then ∃ a subs', subs = a :: subs' ∧ ShapeI i a ∧ ShapeL rest subs'
    else ShapeL rest subs
end

theorem shapeL_nil : ShapeL ([] : List (Instr w)) [] := by rw [ShapeL]

theorem shapeL_nil_iff {subs : List (OptAnalysis w)} : ShapeL ([] : List (Instr w)) subs ↔ subs = [] := by
  rw [ShapeL]

theorem shapeL_cons_nonblock {i : Instr w} (h : C01Dse.isBlock i = false) {rest : List (Instr w)}
    {subs : List (OptAnalysis w)} : ShapeL (i :: rest) subs ↔ ShapeL rest subs := by
  rw [ShapeL, h]; simp

theorem shapeL_cons_block {i : Instr w} (h : C01Dse.isBlock i = true) {rest : List (Instr w)}
    {subs : List (OptAnalysis w)} :
    ShapeL (i :: rest) subs ↔ ∃ a subs', subs = a :: subs' ∧ ShapeI i a ∧ ShapeL rest subs' := by
  rw [ShapeL, h]; simp

theorem shapeI_isBlock {i : Instr w} {a : OptAnalysis w} (h : ShapeI i a) : C01Dse.isBlock i = true := by
  cases i with
  | output _ => rw [ShapeI] at h; exact h.elim
  | input _ => rw [ShapeI] at h; exact h.elim
  | «calc» _ => rw [ShapeI] at h; exact h.elim
  | loop _ _ _ _ => rfl
  | ifnz _ _ _ => rfl

theorem shapeL_append {l1 l2 : List (Instr w)} {s1 s2 : List (OptAnalysis w)} (h1 : ShapeL l1 s1)
    (h2 : ShapeL l2 s2) : ShapeL (l1 ++ l2) (s1 ++ s2) := by
  induction l1 generalizing s1 with
  | nil =>
    rw [shapeL_nil_iff] at h1
    subst h1; exact h2
  | cons i l1 ih =>
    rw [List.cons_append]
    cases hb : C01Dse.isBlock i with
    | false =>
      rw [shapeL_cons_nonblock hb] at h1 ⊢
      exact ih h1
    | true =>
      rw [shapeL_cons_block hb] at h1 ⊢
      obtain ⟨a, subs', rfl, ha, hr⟩ := h1
      exact ⟨a, subs' ++ s2, rfl, ha, ih hr⟩

theorem shapeL_nonblocks {l : List (Instr w)} (h : ∀ i ∈ l, C01Dse.isBlock i = false) : ShapeL l [] := by
  induction l with
  | nil => exact shapeL_nil
  | cons i l ih =>
    rw [shapeL_cons_nonblock (h i (by simp))]
    exact ih (fun j hj => h j (by simp [hj]))

theorem shapeL_single {i : Instr w} {a : OptAnalysis w} (h : ShapeI i a) : ShapeL [i] [a] := by
  rw [shapeL_cons_block (shapeI_isBlock h)]
  exact ⟨a, [], rfl, h, shapeL_nil⟩

theorem shapeL_length {l : List (Instr w)} {subs : List (OptAnalysis w)} (h : ShapeL l subs) :
    subs.length = C01Dse.nblocks l := by
  induction l generalizing subs with
  | nil => rw [shapeL_nil_iff] at h; subst h; rfl
  | cons i l ih =>
    cases hb : C01Dse.isBlock i with
    | false =>
      rw [shapeL_cons_nonblock hb] at h
      rw [ih h]
      simp [C01Dse.nblocks, hb]
    | true =>
      rw [shapeL_cons_block hb] at h
      obtain ⟨a, subs', rfl, _, hr⟩ := h
      rw [List.length_cons, ih hr]
      simp [C01Dse.nblocks, hb]

theorem shapeL_split {pre : List (Instr w)} {i : Instr w} {rest : List (Instr w)}
    {subs : List (OptAnalysis w)} (hb : C01Dse.isBlock i = true) (h : ShapeL (pre ++ i :: rest) subs) :
    ∃ sp a sr, subs = sp ++ a :: sr ∧ ShapeL pre sp ∧ ShapeI i a ∧ ShapeL rest sr := by
  induction pre generalizing subs with
  | nil =>
    rw [List.nil_append, shapeL_cons_block hb] at h
    obtain ⟨a, subs', rfl, ha, hr⟩ := h
    exact ⟨[], a, subs', rfl, shapeL_nil, ha, hr⟩
  | cons j pre ih =>
    rw [List.cons_append] at h
    cases hj : C01Dse.isBlock j with
    | false =>
      rw [shapeL_cons_nonblock hj] at h
      obtain ⟨sp, a, sr, e, h1, h2, h3⟩ := ih h
      exact ⟨sp, a, sr, e, (shapeL_cons_nonblock hj).2 h1, h2, h3⟩
    | true =>
      rw [shapeL_cons_block hj] at h
      obtain ⟨b, subs', rfl, hbj, hr⟩ := h
      obtain ⟨sp, a, sr, e, h1, h2, h3⟩ := ih hr
      exact ⟨b :: sp, a, sr, by rw [e]; rfl, (shapeL_cons_block hj).2 ⟨b, sp, rfl, hbj, h1⟩, h2, h3⟩

theorem toDAnals_eq_map (l : List (OptAnalysis w)) : OptAnalysis.toDAnals l = l.map OptAnalysis.toDAnal := by
  induction l with
  | nil => rw [OptAnalysis.toDAnals]; rfl
  | cons a l ih => rw [OptAnalysis.toDAnals, ih]; rfl

theorem toDAnal_mk (L : OptLoop w) (hs : Bool) (r c : List Int) (subs : List (OptAnalysis w)) :
    (OptAnalysis.mk L hs r c subs).toDAnal =
      .mk L.atMostOnce L.atLeastOnce hs r (OptAnalysis.toDAnals subs) := by
  rw [OptAnalysis.toDAnal]

theorem toDAnal_hasShift (a : OptAnalysis w) : a.toDAnal.hasShift = a.hasShift := by
  cases a with
  | mk L hs r c subs => rw [toDAnal_mk]; rfl

theorem toDAnal_subs (a : OptAnalysis w) : a.toDAnal.subs = OptAnalysis.toDAnals a.subBlocks := by
  cases a with
  | mk L hs r c subs => rw [toDAnal_mk]; rfl

theorem toDAnal_atMostOnce (a : OptAnalysis w) : a.toDAnal.atMostOnce = a.loopAnal.atMostOnce := by
  cases a with
  | mk L hs r c subs => rw [toDAnal_mk]; rfl

theorem toDAnal_atLeastOnce (a : OptAnalysis w) : a.toDAnal.atLeastOnce = a.loopAnal.atLeastOnce := by
  cases a with
  | mk L hs r c subs => rw [toDAnal_mk]; rfl

theorem toDAnal_reads (a : OptAnalysis w) : a.toDAnal.reads = a.reads := by
  cases a with
  | mk L hs r c subs => rw [toDAnal_mk]; rfl

/-- The index counts from the end: dead store elimination walks a block backwards and pops the nodes of its nested
blocks from the end of `subs`. -/
theorem subAt_mid {A : OptDse.DAnal} {sp : List (OptAnalysis w)} {a : OptAnalysis w}
    {sr : List (OptAnalysis w)} (h : A.subs = OptAnalysis.toDAnals (sp ++ a :: sr)) :
    C01Dse.subAt A (sr.length + 1) = some a.toDAnal := by
  apply C01Dse.subAt_of (j := sp.length)
  · rw [h, toDAnals_eq_map]
    simp
  · rw [h, toDAnals_eq_map]
    simp

theorem shapeI_loop {c sh : Int} {body : List (Instr w)} {once : Bool} {a : OptAnalysis w}
    (h : ShapeI (.loop c sh body once) a) :
    once = a.loopAnal.atLeastOnce ∧ a.loopAnal.atMostOnce = false ∧
    (a.hasShift = false → sh = 0 ∧ ∀ a' ∈ a.subBlocks, a'.hasShift = false) ∧ ShapeL body a.subBlocks := by
  cases a with
  | mk L hs r cl subs => rw [ShapeI] at h; exact h

theorem shapeI_ifnz {c sh : Int} {body : List (Instr w)} {a : OptAnalysis w}
    (h : ShapeI (.ifnz c sh body) a) :
    a.loopAnal.atLeastOnce = false ∧
    (a.hasShift = false → sh = 0 ∧ ∀ a' ∈ a.subBlocks, a'.hasShift = false) ∧ ShapeL body a.subBlocks := by
  cases a with
  | mk L hs r cl subs => rw [ShapeI] at h; exact h

theorem shiftOk_node (a : OptAnalysis w) {sh : Int} (n : Nat)
    (h : a.hasShift = false → sh = 0 ∧ ∀ a' ∈ a.subBlocks, a'.hasShift = false) :
    (a.toDAnal.hasShift || (sh == 0 && (C01Dse.usedSubs a.toDAnal n).all (fun x => !x.hasShift))) = true := by
  rw [toDAnal_hasShift]
  cases hhs : a.hasShift with
  | true => rfl
  | false =>
    obtain ⟨e1, e2⟩ := h hhs
    simp only [Bool.false_or, Bool.and_eq_true, beq_iff_eq, List.all_eq_true, Bool.not_eq_true']
    refine ⟨e1, ?_⟩
    intro x hx
    have hx' : x ∈ a.toDAnal.subs := List.mem_of_mem_drop hx
    rw [toDAnal_subs, toDAnals_eq_map] at hx'
    obtain ⟨a', ha', rfl⟩ := List.mem_map.1 hx'
    rw [toDAnal_hasShift]
    exact e2 a' ha'

theorem okI_nonblock (A : OptDse.DAnal) {i : Instr w} (hb : C01Dse.isBlock i = false) (k : Nat) :
    C01Dse.shapeOkI A i k = true ∧ C01Dse.shiftOkI A i k = true := by
  cases i with
  | output _ => exact ⟨rfl, rfl⟩
  | input _ => exact ⟨rfl, rfl⟩
  | «calc» _ => exact ⟨rfl, rfl⟩
  | loop _ _ _ _ => cases hb
  | ifnz _ _ _ => cases hb

theorem shape_ok :
    (∀ (i : Instr w) (a : OptAnalysis w) (A : OptDse.DAnal) (k : Nat), ShapeI i a →
      C01Dse.subAt A k = some a.toDAnal → C01Dse.shapeOkI A i k = true ∧ C01Dse.shiftOkI A i k = true) ∧
    ∀ (l : List (Instr w)) (subs pre : List (OptAnalysis w)) (A : OptDse.DAnal),
      A.subs = OptAnalysis.toDAnals (pre ++ subs) → ShapeL l subs →
      C01Dse.shapeOkL A l = true ∧ C01Dse.shiftOkL A l = true := by
  refine instr_list_induction ?_ ?_ ?_ ?_ ?_
  · intro i hb a A k h _
    rw [shapeI_isBlock h] at hb
    cases hb
  · intro c sh body o ih a A k h hk
    obtain ⟨_, _, h3, h4⟩ := shapeI_loop h
    obtain ⟨b1, b2⟩ := ih a.subBlocks [] a.toDAnal (by rw [toDAnal_subs]; rfl) h4
    rw [C01Dse.shapeOkI, C01Dse.shiftOkI, hk]
    refine ⟨b1, ?_⟩
    show (_ && _) = true
    rw [b2, Bool.and_true]
    exact shiftOk_node _ _ h3
  · intro c sh body ih a A k h hk
    obtain ⟨_, h3, h4⟩ := shapeI_ifnz h
    obtain ⟨b1, b2⟩ := ih a.subBlocks [] a.toDAnal (by rw [toDAnal_subs]; rfl) h4
    rw [C01Dse.shapeOkI, C01Dse.shiftOkI, hk]
    refine ⟨b1, ?_⟩
    show (_ && _) = true
    rw [b2, Bool.and_true]
    exact shiftOk_node _ _ h3
  · intro subs pre A _ _
    rw [C01Dse.shapeOkL, C01Dse.shiftOkL]
    exact ⟨rfl, rfl⟩
  · intro i rest ihi ihr subs pre A hA h
    rw [C01Dse.shapeOkL, C01Dse.shiftOkL]
    cases hb : C01Dse.isBlock i with
    | false =>
      rw [shapeL_cons_nonblock hb] at h
      obtain ⟨b1, b2⟩ := ihr subs pre A hA h
      obtain ⟨c1, c2⟩ := okI_nonblock A hb (C01Dse.nblocks rest + 1)
      rw [b1, b2, c1, c2]
      exact ⟨rfl, rfl⟩
    | true =>
      rw [shapeL_cons_block hb] at h
      obtain ⟨a, subs', rfl, ha, hr⟩ := h
      have hk : C01Dse.subAt A (C01Dse.nblocks rest + 1) = some a.toDAnal := by
        rw [← shapeL_length hr]; exact subAt_mid hA
      obtain ⟨b1, b2⟩ := ihr subs' (pre ++ [a]) A (by rw [hA]; simp) hr
      obtain ⟨c1, c2⟩ := ihi a A _ ha hk
      rw [b1, b2, c1, c2]
      exact ⟨rfl, rfl⟩

theorem shapeI_ok : ∀ (i : Instr w) (a : OptAnalysis w) (A : OptDse.DAnal) (k : Nat), ShapeI i a →
    C01Dse.subAt A k = some a.toDAnal → C01Dse.shapeOkI A i k = true ∧ C01Dse.shiftOkI A i k = true :=
  shape_ok.1

theorem shapeL_ok : ∀ (l : List (Instr w)) (subs pre : List (OptAnalysis w)) (A : OptDse.DAnal),
    A.subs = OptAnalysis.toDAnals (pre ++ subs) → ShapeL l subs →
    C01Dse.shapeOkL A l = true ∧ C01Dse.shiftOkL A l = true :=
  shape_ok.2

theorem shapeOk_of_shapeL {b : Block w} {anal : OptAnalysis w} (h : ShapeL b.insts anal.subBlocks) :
    C01Dse.ShapeOk b anal.toDAnal :=
  (shapeL_ok b.insts anal.subBlocks [] anal.toDAnal (by rw [toDAnal_subs]; rfl) h).1

theorem shiftFact_of_shapeL {b : Block w} {anal : OptAnalysis w} (h : ShapeL b.insts anal.subBlocks) :
    C01Dse.ShiftFact b anal.toDAnal :=
  (shapeL_ok b.insts anal.subBlocks [] anal.toDAnal (by rw [toDAnal_subs]; rfl) h).2

theorem shapeL_lookup {l : List (Instr w)} {subs : List (OptAnalysis w)} (h : ShapeL l subs)
    {pre : List (Instr w)} {i : Instr w} {rest : List (Instr w)} (hl : l = pre ++ i :: rest)
    {p : Int × Int × List (Instr w)} (hp : C01Dse.blockParts i = some p) :
    ∃ a, a ∈ subs ∧ ShapeI i a ∧
      ∀ A : OptDse.DAnal, A.subs = OptAnalysis.toDAnals subs →
        C01Dse.subAt A (C01Dse.nblocks rest + 1) = some a.toDAnal := by
  subst hl
  obtain ⟨sp, a, sr, rfl, _, ha, hr⟩ := shapeL_split (C01Dse.isBlock_of_parts hp) h
  refine ⟨a, by simp, ha, ?_⟩
  intro A hA
  rw [← shapeL_length hr]
  exact subAt_mid hA

#print axioms shapeL_lookup

end OptProof
end Hpbf
