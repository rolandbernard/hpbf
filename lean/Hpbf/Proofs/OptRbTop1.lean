/-
From the induction to `optimizeOnce`: one round started in the top-level state simulates its input, justifies the
`once` marks it puts on loops, and records an analysis that is sound for the program it emits, on that program's own
run (`optimizeOnce_one`).  Instances: the first round (`topAnalysis [] []`, what `Program::optimize` does first) and a
round that uses an analysis which is sound for its input; level 1 of `Program::optimize`.
-/
import Hpbf.Proofs.OptRbMain
import Hpbf.Proofs.OptRbTop

namespace Hpbf
namespace OptProof
open Opt OptSem Ir

variable {w : Nat}

/-- The hypothesis of the induction for the top-level state of a round: the analysis of a whole program says
`atMostOnce`, so its questions do not depend on the shift; its nodes are absent or fit the program. -/
theorem prev_top {G : State w → Prop} {prevAnal : OptAnalysis w} {l : List (Instr w)}
    (hamo : prevAnal.loopAnal.atMostOnce = true)
    (hfit : prevAnal.subBlocks = [] ∨ ShapeL l prevAnal.subBlocks) (han : AnalInL G l prevAnal.subBlocks) :
    Prev G [] (reverseSubBlocks (Rebuild.new 0 none .zero (some prevAnal)) : Rebuild w) l := by
  have hsubs : subsOf (reverseSubBlocks (Rebuild.new 0 none .zero (some prevAnal)) : Rebuild w) =
      prevAnal.subBlocks := subsOf_child _ _ _ _
  refine ⟨by rw [hsubs]; exact hfit, by rw [hsubs]; exact han, Or.inl ?_, pvClean_child _ _ _ _ _⟩
  unfold ShiftIndep
  rw [acore_child]
  exact Or.inl hamo

/-- One round, started in the top-level state: the emitted program simulates the input from `State.init env`, never
reaches an unjustified `once` mark, and the analysis the round records is sound for the emitted program's own run.
(`0 < w`: the trip-count facts of the loop analysis, `OptLoop.analyzeLoop_sound'`, and the exit of a moved loop.) -/
theorem optimizeOnce_one (hw : 0 < w) {b : Block w} (hcl : CanonL b.insts) {prevAnal : OptAnalysis w} {env : Env}
    (hprev : Prev (fun σ => σ = State.init env) []
      (reverseSubBlocks (Rebuild.new 0 none .zero (some prevAnal)) : Rebuild w) b.insts)
    {os os' : Orders} {b' : Block w} {anal' : OptAnalysis w}
    (hr : (optimizeOnce b prevAnal).run os = .ok ((b', anal'), os')) :
    (∃ Q : State w → State w → Prop, (∀ x y, Q x y → y.trace = x.trace ∧ y.env = x.env) ∧
      Sim Q b.insts b'.insts (State.init env) (State.init env)) ∧
    ¬ Bad b'.insts (State.init env) ∧ AnalInL (fun σ => σ = State.init env) b'.insts anal'.subBlocks := by
  obtain ⟨st, h1, rfl, rfl⟩ := optimizeOnce_run hr
  obtain ⟨s', done, h3, rfl⟩ := rebuildBlock_run h1
  obtain ⟨f1, f2, f3, f4, f5, f6, f7, f8, f9, f10, f11⟩ :=
    reverseSubBlocks_fields (Rebuild.new 0 none .zero (some prevAnal) : Rebuild w)
  obtain ⟨_, shE, new, ⟨hall, hA⟩, _⟩ := rebuildInsts_one hw b.insts (fun σ => σ = State.init env) [] _ _ _ _
    _ h3 (invA_child 0 none .zero (some prevAnal)) hcl (by rw [f5]; rfl) hprev
  have hrel := rel_init (w := w)
    (s := reverseSubBlocks (Rebuild.new 0 none .zero (some prevAnal))) []
    (by rw [f1]; rfl) (by rw [f3]; rfl) (by rw [f2]; rfl) (by rw [f8]; rfl) (by rw [f7]; rfl)
    (by rw [f5]; rfl) env
  obtain ⟨hS, hB⟩ := hall.step.2 _ _ _ hrel rfl
  have hnew : s'.insts = new := by rw [hall.insts, f10]; rfl
  obtain ⟨newA, e1, _, e3⟩ := hA.ext
  have hnewA : s'.subAnal = newA := by rw [e1, f11]; rfl
  have key : AnalInL (fun σ => σ = State.init env) s'.insts s'.subAnal := by
    rw [hnew, hnewA]
    refine analInL_mono ?_ e3
    rintro σ rfl
    exact MirV.self ⟨_, _, hrel, rfl⟩
  refine ⟨⟨StepQ shE [] s' (fun _ => 0#w) (State.init env), ?_, ?_⟩, ?_, ?_⟩
  · rintro x y ⟨M0', h, _⟩
    exact ⟨h.tr.symm, h.env.symm⟩
  · exact addShift_ind (P := fun r => Sim _ b.insts r.insts _ _) done b.shift (by rw [hnew]; exact hS) (fun _ => by
      show Sim _ b.insts s'.insts _ _
      rw [hnew]; exact hS)
  · exact addShift_ind (P := fun r => ¬ Bad r.insts _) done b.shift (by rw [hnew]; exact hB) (fun _ => by
      show ¬ Bad s'.insts _
      rw [hnew]; exact hB)
  · exact addShift_ind (P := fun r => AnalInL _ r.insts r.subAnal) done b.shift key (fun _ => key)

/-- The first round.  `CanonL`: right-hand sides in normal form, which is what the parser and the optimizer emit. -/
theorem optimizeOnce_one_l1 (hw : 0 < w) {b : Block w} (hcl : CanonL b.insts)
    {os os' : Orders} {b' : Block w} {anal' : OptAnalysis w}
    (hr : (optimizeOnce b (topAnalysis [] [])).run os = .ok ((b', anal'), os')) (env : Env) :
    BehEq b b' env ∧ C02Emit.OnceOk b' env ∧ AnalInL (fun σ => σ = State.init env) b'.insts anal'.subBlocks := by
  obtain ⟨⟨Q, hQ, hsim⟩, hb, ha⟩ := optimizeOnce_one hw hcl (env := env)
    (prev_top (prevAnal := topAnalysis [] []) (atMostOnceOf_amo true) (Or.inl rfl) (analInL_no_nodes _ _)) hr
  exact ⟨behEq_of_sim hQ hsim, (onceOk_iff_not_bad b' env).2 hb, ha⟩

/-- A round that uses a previous analysis: the analysis says `atMostOnce` at the top, fits the round's input and is sound
for it. -/
theorem optimizeOnce_one_g (hw : 0 < w) {b : Block w} (hcl : CanonL b.insts) {prevAnal : OptAnalysis w}
    (hamo : prevAnal.loopAnal.atMostOnce = true) {env : Env} (hs : ShapeL b.insts prevAnal.subBlocks)
    (ha : AnalInL (fun σ => σ = State.init env) b.insts prevAnal.subBlocks)
    {os os' : Orders} {b' : Block w} {anal' : OptAnalysis w}
    (hr : (optimizeOnce b prevAnal).run os = .ok ((b', anal'), os')) :
    BehEq b b' env ∧ C02Emit.OnceOk b' env ∧ AnalInL (fun σ => σ = State.init env) b'.insts anal'.subBlocks := by
  obtain ⟨⟨Q, hQ, hsim⟩, hb, ha'⟩ := optimizeOnce_one hw hcl (prev_top hamo (Or.inr hs) ha) hr
  exact ⟨behEq_of_sim hQ hsim, (onceOk_iff_not_bad b' env).2 hb, ha'⟩

theorem optimizeOnce_preserves_l1 (hw : 0 < w) {b : Block w} (hcl : CanonL b.insts)
    {os os' : Orders} {b' : Block w} {anal' : OptAnalysis w}
    (hr : (optimizeOnce b (topAnalysis [] [])).run os = .ok ((b', anal'), os')) (env : Env) :
    BehEq b b' env :=
  (optimizeOnce_one_l1 hw hcl hr env).1

theorem optimizeOnce_onceOk_l1 (hw : 0 < w) {b : Block w} (hcl : CanonL b.insts)
    {os os' : Orders} {b' : Block w} {anal' : OptAnalysis w}
    (hr : (optimizeOnce b (topAnalysis [] [])).run os = .ok ((b', anal'), os')) (env : Env) :
    C02Emit.OnceOk b' env :=
  (optimizeOnce_one_l1 hw hcl hr env).2.1

theorem optimizeOnce_preserves_g (hw : 0 < w) {b : Block w} (hcl : CanonL b.insts)
    {prevAnal : OptAnalysis w} (hamo : prevAnal.loopAnal.atMostOnce = true) {env : Env}
    (hs : ShapeL b.insts prevAnal.subBlocks)
    (ha : AnalInL (fun σ => σ = State.init env) b.insts prevAnal.subBlocks)
    {os os' : Orders} {b' : Block w} {anal' : OptAnalysis w}
    (hr : (optimizeOnce b prevAnal).run os = .ok ((b', anal'), os')) : BehEq b b' env :=
  (optimizeOnce_one_g hw hcl hamo hs ha hr).1

theorem optimizeOnce_onceOk_g (hw : 0 < w) {b : Block w} (hcl : CanonL b.insts)
    {prevAnal : OptAnalysis w} (hamo : prevAnal.loopAnal.atMostOnce = true) {env : Env}
    (hs : ShapeL b.insts prevAnal.subBlocks)
    (ha : AnalInL (fun σ => σ = State.init env) b.insts prevAnal.subBlocks)
    {os os' : Orders} {b' : Block w} {anal' : OptAnalysis w}
    (hr : (optimizeOnce b prevAnal).run os = .ok ((b', anal'), os')) : C02Emit.OnceOk b' env :=
  (optimizeOnce_one_g hw hcl hamo hs ha hr).2.1

theorem optimize_preserves_level1 (hw : 0 < w) {b b' : Block w} (hcl : CanonL b.insts) {orders : Orders}
    (h : Opt.optimize b 1 orders = .ok b') (env : Env) : BehEq b b' env := by
  rw [optimize_ok_iff, optimizeM_one_ok] at h
  obtain ⟨anal, h⟩ := h
  exact optimizeOnce_preserves_l1 hw hcl h env

theorem optimize_onceOk_level1 (hw : 0 < w) {b b' : Block w} (hcl : CanonL b.insts) {orders : Orders}
    (h : Opt.optimize b 1 orders = .ok b') (env : Env) : C02Emit.OnceOk b' env := by
  rw [optimize_ok_iff, optimizeM_one_ok] at h
  obtain ⟨anal, h⟩ := h
  exact optimizeOnce_onceOk_l1 hw hcl h env

end OptProof
end Hpbf

#print axioms Hpbf.OptProof.optimize_preserves_level1
#print axioms Hpbf.OptProof.optimize_onceOk_level1
#print axioms Hpbf.OptProof.optimizeOnce_preserves_g
#print axioms Hpbf.OptProof.optimizeOnce_onceOk_g
