/-
One round of a non-moving child block inside its parent.
The parent's emitted memory `E` and the source memory `S` differ on a set `K` of cells that the child's code does
not read (cells with pending operations of the parent, cells whose pending operation was dropped because the child
overwrites them).  `child_run`: the source body from `S` and the child's code from `E` behave alike
(`ChildRep` at `S`, then the read footprint to move from `S` to `E`); afterwards the memories differ at most on the
cells of `K` that the child has not definitely written, and cells without `written` entry are unchanged on both
sides.  `child_round` is its form for a child that has emitted its pending operations (a round of a loop); `inline`
uses `child_run` itself.  `ChildPre.emit`: the child's own `emitAll` turns `ChildPre` into `ChildOk`.
-/
import Hpbf.Proofs.OptRbLoopShift
import Hpbf.Proofs.OptRbFoot

namespace Hpbf
namespace OptProof
open Opt OptSem Ir

variable {w : Nat}

/-- What the parent needs of a non-moving child (after the child's own `emitAll`). -/
structure ChildOk (Gc : State w → Prop) (shP shC : Int) (pc : List (Rebuild w)) (sub0 sub1 : Rebuild w)
    (cS : Int) (bodyS : List (Instr w)) : Prop where
  rep : ChildRep Gc shP shC pc sub0 [] sub1 bodyS
  foot : FootStepV (ValidG Gc shP sub0 pc) sub0 sub1 sub1.insts
  badfoot : FootBadV (ValidG Gc shP sub0 pc) sub0 sub1 sub1.insts
  frame2 : FootFrameV (ValidG Gc shP sub0 pc) sub0 sub1 sub1.insts
  noShift : sub1.subShift = false
  pend : sub1.noReturn = false → sub1.pending = []
  w0 : sub0.written = []
  entry : ∀ σE σS : State w, SameMem shP σS σE → σS.rd cS ≠ 0#w → Gc σS → ∃ M0, RelAt shP sub0 pc M0 σE σS

/-- What the parent needs of a non-moving child BEFORE the child's own `emitAll`. -/
structure ChildPre (Gc : State w → Prop) (shP shC : Int) (pc : List (Rebuild w)) (sub0 sub : Rebuild w)
    (cS : Int) (bodyS : List (Instr w)) : Prop where
  rep : ChildRep Gc shP shC pc sub0 [] sub bodyS
  foot : FootStepV (ValidG Gc shP sub0 pc) sub0 sub sub.insts
  badfoot : FootBadV (ValidG Gc shP sub0 pc) sub0 sub sub.insts
  frame2 : FootFrameV (ValidG Gc shP sub0 pc) sub0 sub sub.insts
  noShift : sub.subShift = false
  w0 : sub0.written = []
  entry : ∀ σE σS : State w, SameMem shP σS σE → σS.rd cS ≠ 0#w → Gc σS → ∃ M0, RelAt shP sub0 pc M0 σE σS
  wf : Wf sub

/-- End-state relation of one round of a child that has emitted its pending operations.  Last clause: what `condZero`
reads. -/
def RoundQ (shC : Int) (K : Int → Prop) (sub1 : Rebuild w) (σS' σE' : State w) (a b : State w) : Prop :=
  a.trace = b.trace ∧ a.env = b.env ∧ a.ptr = b.ptr + shC ∧ b.ptr = σE'.ptr ∧
  (∀ v, ¬ Rest K sub1 v → memS b a v = memE b v) ∧
  (∀ v, mGet sub1.written v = none → memE b v = memE σE' v ∧ memS b a v = memS σE' σS' v) ∧
  (∀ v e c, mGet sub1.written v = some (.known e) → Expr.constant e = some c → ¬ K v → memE b v = c)

theorem rest_fresh {K : Int → Prop} {sub0 : Rebuild w} (h : sub0.written = []) (v : Int) :
    Rest K sub0 v ↔ K v := by
  unfold Rest DefW
  rw [h]
  simp [mGet]

/-- End-state relation of one execution of a non-moving child whose pending operations are kept: `y` is the
run of the child's code from the SOURCE memory (related to the source end state `a` through `sub`), `b` the run
from the parent's emitted memory. -/
def OnceQ (shC : Int) (K : Int → Prop) (sub : Rebuild w) (σS' σE' : State w) (a b : State w) : Prop :=
  ∃ y M0c, RelAt shC sub [] M0c y a ∧ AgreeOff (Rest K sub) y b ∧ b.ptr = σE'.ptr ∧
    (∀ v, M0c v = memS σE' σS' v) ∧
    (∀ v, mGet sub.written v = none → memE b v = memE σE' v)

/-- One execution of a non-moving child from an emitted-program state `σE'` that agrees with the source state `σS'`
off cells `K` the child does not read: the source body from `σS'` and the child's code from `σE'` behave alike.  The
source state, re-coordinated to the pointer of the emitted program, is a valid entry state of the child; the child's
code is run from it (`rep`) and, by the two-run footprint, from `σE'`.  Stated on the fields that `ChildOk` and
`ChildPre` share. -/
theorem child_run {Gc : State w → Prop} {shP shC cS : Int} {pc : List (Rebuild w)} {sub0 sub : Rebuild w}
    {bodyS : List (Instr w)} (hrep : ChildRep Gc shP shC pc sub0 [] sub bodyS)
    (hfoot : FootStepV (ValidG Gc shP sub0 pc) sub0 sub sub.insts)
    (hbad : FootBadV (ValidG Gc shP sub0 pc) sub0 sub sub.insts)
    (hframe : FootFrameV (ValidG Gc shP sub0 pc) sub0 sub sub.insts)
    (hns : sub.subShift = false) (hw0 : sub0.written = [])
    (hentry : EntryAt Gc shP cS pc sub0)
    (K : Int → Prop) (hK : ∀ v, K v → v ∉ sub.reads) {σS' σE' : State w}
    (htr : σS'.trace = σE'.trace) (henv : σS'.env = σE'.env) (hptr : σS'.ptr = σE'.ptr + shP)
    (hag : ∀ v, ¬ K v → memS σE' σS' v = memE σE' v) (hne : σS'.rd cS ≠ 0#w) (hg : Gc σS') :
    Sim (OnceQ shC K sub σS' σE') bodyS sub.insts σS' σE' ∧ ¬ Bad sub.insts σE' := by
  -- `σX`: the source state at the pointer of the emitted program, a variable of which only `hXptr`, `hXtape` are used
  obtain ⟨σX, hσX⟩ : ∃ σX : State w, σX = σS'.mov (-shP) := ⟨_, rfl⟩
  have hXptr : σX.ptr = σE'.ptr := by
    rw [hσX]; show σS'.ptr + -shP = σE'.ptr; rw [hptr]; omega
  have hXtape : σX.tape = σS'.tape := by rw [hσX]; rfl
  have hsm : SameMem shP σS' σX := by
    refine ⟨by rw [hσX]; rfl, by rw [hσX]; rfl, by rw [hXptr]; exact hptr, ?_⟩
    funext v
    show σS'.tape.get (σX.ptr + v) = σX.tape.get (σX.ptr + v)
    rw [hXtape]
  obtain ⟨M0c, hre⟩ := hentry σX σS' hsm hne hg
  obtain ⟨hs1, hnb1⟩ := hrep M0c σX σS' hre hg
  have hagX : AgreeOff (Rest K sub0) σX σE' := by
    refine ⟨hXptr, by rw [hσX]; exact henv, by rw [hσX]; exact htr, ?_⟩
    intro v hv
    have hkv : ¬ K v := fun hk => hv ((rest_fresh hw0 v).2 hk)
    have := hag v hkv
    show σX.tape.get (σX.ptr + v) = _
    rw [hXtape, hXptr]; exact this
  have hvX : ValidG Gc shP sub0 pc σX := ⟨M0c, σS', hre, hg⟩
  have hs2 := hfoot hns K hK σX σE' hvX hagX
  refine ⟨?_, fun hb => hnb1 (hbad hns K hK σX σE' hvX hagX hb)⟩
  refine (Sim.trans hs1.fin_strengthen hs2.fin_strengthen).mono ?_
  rintro a b ⟨y, ⟨⟨M0', hr', hk'⟩, _, hy⟩, hab, _, hb⟩
  obtain ⟨hM0, pyp⟩ := hk' hns
  obtain ⟨pb, fb⟩ := hframe hns K hK σX σE' hvX hagX b hb
  have hXE : ∀ v, memE σX v = memS σE' σS' v := by
    intro v
    show σX.tape.get (σX.ptr + v) = σS'.tape.get (σE'.ptr + v)
    rw [hXtape, hXptr]
  have hM0c : M0c = memE σX := hre.m0_of_fresh hw0
  refine ⟨y, M0', hr', hab, pb, fun v => by rw [hM0, hM0c, hXE v], ?_⟩
  intro v hv
  by_cases hr : v ∈ sub.reads
  · have hkv : ¬ K v := fun hk => hK v hk hr
    have hnr : ¬ Rest K sub v := fun h => hkv h.1
    rw [← hab.2.2.2 v hnr, hr'.inv.writ.absent hv, hM0, hM0c, hXE v]
    exact hag v hkv
  · exact fb v ((mGet_none_iff _ _).1 hv) hr


theorem child_round {Gc : State w → Prop} {shP shC cS : Int} {pc : List (Rebuild w)} {sub0 sub1 : Rebuild w}
    {bodyS : List (Instr w)} (hc : ChildOk Gc shP shC pc sub0 sub1 cS bodyS)
    (K : Int → Prop) (hK : ∀ v, K v → v ∉ sub1.reads) {σS' σE' : State w}
    (htr : σS'.trace = σE'.trace) (henv : σS'.env = σE'.env) (hptr : σS'.ptr = σE'.ptr + shP)
    (hag : ∀ v, ¬ K v → memS σE' σS' v = memE σE' v) (hne : σS'.rd cS ≠ 0#w) (hg : Gc σS') :
    Sim (RoundQ shC K sub1 σS' σE') bodyS sub1.insts σS' σE' ∧ ¬ Bad sub1.insts σE' := by
  obtain ⟨hs, hnb⟩ := child_run hc.rep hc.foot hc.badfoot hc.frame2 hc.noShift hc.w0 hc.entry K hK htr henv hptr hag
    hne hg
  refine ⟨hs.mono ?_, hnb⟩
  -- after the child's own `emitAll` nothing is pending: the run `y` from the source memory IS the source end state
  rintro a b ⟨y, M0', hr', hab, pb, hM0, hfb⟩
  have hsm' := hr'.sameMem (hc.pend hr'.nr)
  have hmS : ∀ v, memS b a v = memE y v := by
    intro v
    show a.tape.get (b.ptr + v) = _
    rw [← hab.1]
    exact congrFun hsm'.2.2.2 v
  refine ⟨hr'.tr.trans hab.2.2.1, hr'.env.trans hab.2.1, by rw [← hab.1]; exact hr'.ptr, pb, ?_, ?_, ?_⟩
  · intro v hv
    rw [hmS v]; exact hab.2.2.2 v hv
  · intro v hv
    exact ⟨hfb v hv, by rw [hmS v, hr'.inv.writ.absent hv, hM0 v]⟩
  · intro v e c hv hcst hkv
    have hnr : ¬ Rest K sub1 v := fun h => hkv h.1
    rw [← hab.2.2.2 v hnr, hr'.inv.writ.known hv]
    exact Expr.eval_constant e c _ hcst

/-- Badness mirroring composes (first half of the code, then code without blocks). -/
theorem FootBadV.then_noBlocks {V : State w → Prop} {a b c : Rebuild w} {n1 n2 : List (Instr w)}
    (b1 : FootBadV V a b n1) (h2 : ∀ i ∈ n2, C01Dse.isBlock i = false) (hm : ReadsMono b c) :
    FootBadV V a c (n1 ++ n2) := by
  intro hs K hK σ1 σ2 v1 hag hbad
  have hsb := hm.2 hs
  have hKb : ∀ v, K v → v ∉ b.reads := fun v hv' hr => hK v hv' (hm.1 v hr)
  rcases bad_append.1 hbad with hb | ⟨σ2', _, hb⟩
  · exact bad_append.2 (Or.inl (b1 hsb K hKb σ1 σ2 v1 hag hb))
  · exact absurd hb (not_bad_of_noBlocks h2 σ2')

theorem ChildPre.emit {Gc : State w → Prop} {shP shC : Int} {pc : List (Rebuild w)} {sub0 sub : Rebuild w}
    {cS : Int}
    {bodyS : List (Instr w)} (h : ChildPre Gc shP shC pc sub0 sub cS bodyS) {os os1 : Orders} {sub1 : Rebuild w}
    (h1 : ((if !sub.noReturn then emitAll [] (pendingSorted sub sub) sub else pure sub : M (Rebuild w)).run os
      = .ok (sub1, os1))) :
    ChildOk Gc shP shC pc sub0 sub1 cS bodyS ∧ Wf sub1 ∧ sub1.shift = sub.shift := by
  split at h1
  · obtain ⟨c, res, hcl⟩ := emitAll_clears [] (pendingSorted sub sub) h.wf
      (fun k hk => (Hpbf.OptLoop.mem_pendingSorted sub sub k).2 hk) h1
    have ef := (calcs_elim res.insts (emitAll_foot [] (pendingSorted sub sub) h.wf h1) (fun _ p => p.1.insts)).2
    have hss : sub1.subShift = false := by rw [res.hdr.subShift]; exact h.noShift
    refine ⟨⟨h.rep.emit res, ?_, ?_, ?_, hss, fun _ => hcl, h.w0, h.entry⟩, res.wf, res.hdr.shift⟩
    · rw [res.insts]
      exact h.foot.trans (ef.footStep.toV (fun _ => True)) (fun _ _ _ _ => trivial) ef.mono
    · rw [res.insts]
      exact h.badfoot.then_noBlocks (noBlocks_calcs c) ef.mono
    · -- the emitted groups write their targets, which get `written` entries
      rw [res.insts]
      have hphys : sub1.subShift = false → nsL (c.map Instr.calc) ∧
          ∀ v, tgtL (c.map Instr.calc) v → v ∈ mKeys sub1.written ∨ v ∈ sub1.reads := by
        intro hs'
        obtain ⟨fw, ft⟩ := ef.frame hs'
        refine ⟨nsL_calcs c, fun v hv => Or.inl ?_⟩
        rw [tgtL_calcs] at hv
        obtain ⟨g, hg, hvg⟩ := hv
        rw [← mGet_isSome_iff]
        cases hw : mGet sub1.written v with
        | some k => rfl
        | none => exact absurd hvg (ft v hw g hg)
      refine h.frame2.trans h.foot (footFrameV_of_phys hphys) (fun _ _ _ _ => trivial) ef.mono ?_
      intro hs' v hv
      obtain ⟨fw, _⟩ := ef.frame hs'
      rw [← mGet_isSome_iff] at hv ⊢
      cases hw : mGet sub1.written v with
      | some k => rfl
      | none => rw [fw v hw] at hv; cases hv
  · rename_i hn
    rw [run_pure] at h1
    cases h1
    refine ⟨⟨h.rep, h.foot, h.badfoot, h.frame2, h.noShift, fun hnr => ?_, h.w0, h.entry⟩, h.wf, rfl⟩
    rw [hnr] at hn; simp at hn

end OptProof
end Hpbf
