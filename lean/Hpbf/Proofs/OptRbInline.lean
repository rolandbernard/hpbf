/-
`inline` (a block that is executed exactly once is spliced into its parent).
-/
import Hpbf.Proofs.OptRbLoopStay2
import Hpbf.Proofs.OptRbCanon4

namespace Hpbf
namespace OptProof
open Opt OptSem Ir

variable {w : Nat}

/-- The fold of `inline` over the child's `written` map. -/
def ifold (acc : Rebuild w × List (Int × Bool)) (vk : Int × OptWrite w) : Rebuild w × List (Int × Bool) :=
  if vk.2.isMaybe then (acc.1, acc.2 ++ [(vk.1, true)])
  else ((removePending acc.1 vk.1).1, acc.2 ++ [(vk.1, false)])

def knownsOf (sub : Rebuild w) : List (Int × Expr w) :=
  sub.written.filterMap (fun vk => match vk.2 with | .known e => some (vk.1, e) | _ => none)

/-- The last phase of `inline`: the child's pending operations are performed in the parent, in the order
`takeInlineOrder` gives. -/
def inlineEnd (s3 : Rebuild w) (ps : List (Rebuild w)) (sub : Rebuild w) : M (Rebuild w) :=
  if sub.noReturn then pure { s3 with noReturn := true }
  else do
    let pending ← takeInlineOrder sub.pending
    let s ← performAll s3 ps 0 pending
    pure { s with shift := sub.shift }

theorem inlineRest_run {s : Rebuild w} {ps : List (Rebuild w)} {sub : Rebuild w} {os os' : Orders} {s' : Rebuild w}
    (hr : (inlineRest s ps sub).run os = .ok (s', os')) :
    ∃ s2 os2 s4,
      (clobberAll ps (Expr.stableSort (fun (a b : Int × Bool) => decide (a.1 ≤ b.1))
        (sub.written.foldl ifold (s, [])).2) (sub.written.foldl ifold (s, [])).1).run os = .ok (s2, os2) ∧
      (inlineEnd (writtenCalcs { s2 with insts := s2.insts ++ sub.insts } ps (knownsOf sub)) ps sub).run os2
        = .ok (s4, os') ∧
      s' = { s4 with subAnal := s4.subAnal ++ sub.subAnal } := by
  have e : inlineRest s ps sub =
      clobberAll ps (Expr.stableSort (fun (a b : Int × Bool) => decide (a.1 ≤ b.1))
        (sub.written.foldl ifold (s, [])).2) (sub.written.foldl ifold (s, [])).1 >>= fun s2 =>
      inlineEnd (writtenCalcs { s2 with insts := s2.insts ++ sub.insts } ps (knownsOf sub)) ps sub >>= fun s4 =>
      pure { s4 with subAnal := s4.subAnal ++ sub.subAnal } := by
    unfold inlineRest inlineEnd
    simp only [ite_bind, bind_assoc, pure_bind]
    rfl
  rw [e, run_bind_ok] at hr
  obtain ⟨s2, os2, h1, h2⟩ := hr
  rw [run_bind_ok] at h2
  obtain ⟨s4, os4, h3, h4⟩ := h2
  rw [run_pure] at h4
  cases h4
  exact ⟨s2, os2, s4, h1, h3, rfl⟩

theorem ifold_eq : (ifold : Rebuild w × List (Int × Bool) → Int × OptWrite w → _) =
    cfold (OptLoop.unknown true) [] := by
  funext acc vk
  simp [ifold, cfold, OptLoop.unknown]

/-- Setting `shift := x` does not change what the state may ask its parent. -/
def AskStable (s : Rebuild w) (x : Int) : Prop :=
  ∀ v, canAskParentFor { s with shift := x } v = canAskParentFor s v

theorem AskStable.of_eq {s : Rebuild w} {x : Int} (h : x = s.shift) : AskStable s x := by
  intro v; subst h; rfl

theorem AskStable.of_hdr {s s' : Rebuild w} {x : Int} (h : AskStable s x) (hh : SameHdr s s') :
    AskStable s' x := by
  intro v
  have := h v
  unfold canAskParentFor at this ⊢
  obtain ⟨_, h2, h3, _, h5⟩ := hh
  simp only at this ⊢
  rw [h2, h5, h3]
  exact this

theorem PK.shift {s : Rebuild w} {ps : List (Rebuild w)} {M0 : Mem w} {x : Int} (h : PK s ps M0)
    (hca : AskStable s x) : PK { s with shift := x } ps M0 := by
  refine ⟨?_, ?_, ?_⟩
  · intro v c hc
    apply h.const v c
    unfold getParentConstant at hc ⊢
    rw [hca] at hc; exact hc
  · intro v hv
    apply h.nz v
    unfold nonZeroParent at hv ⊢
    rw [hca] at hv; exact hv
  · intro a b ha hb hc
    apply h.cmp a b ha hb
    unfold compareParent at hc ⊢
    have : (fun y => canAskParentFor { s with shift := x } y) = (fun y => canAskParentFor s y) := by
      funext y; exact hca y
    rw [this] at hc; exact hc

/-- Sequential assignment of entries of a map, covering all its keys, is the simultaneous assignment. -/
theorem assignS_eq_par {P l : List (Int × Expr w)} (hl : ∀ ve ∈ l, mGet P ve.1 = some ve.2)
    (hall : ∀ k e, mGet P k = some e → (k, e) ∈ l) (S : Mem w) :
    assignS 0 l S = Mem.par P S := by
  unfold assignS
  have key : ∀ (l' : List (Int × Expr w)) (acc : Mem w), (∀ ve ∈ l', mGet P ve.1 = some ve.2) →
      ∀ v, ((l'.map (fun vc => ((0 : Int) + vc.1, Expr.evaluate vc.2 (fun x => S (x + 0))))).foldl
        (fun m kv => upd m kv.1 kv.2) acc) v =
        (if v ∈ l'.map (·.1) then Mem.par P S v else acc v) := by
    intro l'
    induction l' with
    | nil => intro acc _ v; simp
    | cons ve l' ih =>
      intro acc hl' v
      simp only [List.map_cons, List.foldl_cons]
      rw [ih _ (fun x hx => hl' x (List.mem_cons_of_mem _ hx))]
      by_cases hv : v ∈ l'.map (·.1)
      · simp [hv]
      · simp only [hv, if_false, List.mem_cons]
        by_cases hv2 : v = ve.1
        · subst hv2
          simp only [true_or, if_true]
          rw [show (0 : Int) + ve.1 = ve.1 by omega, upd_same, par_of_get _ _ _ _ (hl' ve (by simp))]
          show Expr.evaluate ve.2 _ = Expr.evaluate ve.2 S
          congr 1; funext x; simp
        · simp only [hv2, false_or, hv, if_false]
          rw [upd_ne]
          omega
  funext v
  rw [key l S hl v]
  by_cases hv : v ∈ l.map (·.1)
  · simp [hv]
  · simp only [hv, if_false]
    cases hp : mGet P v with
    | none => exact (par_of_not_mem _ _ _ hp).symm
    | some e => exact absurd (List.mem_map.2 ⟨(v, e), hall v e hp, rfl⟩) hv

theorem mem_knownsOf {sub : Rebuild w} (hs : Sorted sub.written) (v : Int) (e : Expr w) :
    (v, e) ∈ knownsOf sub ↔ mGet sub.written v = some (.known e) := by
  unfold knownsOf
  rw [List.mem_filterMap]
  constructor
  · rintro ⟨⟨k, wv⟩, hmem, hsome⟩
    cases wv with
    | known e' =>
      simp only [Option.some.injEq, Prod.mk.injEq] at hsome
      obtain ⟨rfl, rfl⟩ := hsome
      exact mGet_of_mem hs hmem
    | unknown => simp at hsome
    | maybe => simp at hsome
  · intro h
    exact ⟨(v, .known e), OptLoop.mem_of_mGet h, rfl⟩

theorem nodup_knownsOf {sub : Rebuild w} (hs : Sorted sub.written) : ((knownsOf sub).map (·.1)).Nodup := by
  unfold knownsOf
  have hnd := nodup_keys_of_sorted hs
  unfold mKeys at hnd
  generalize sub.written = l at hnd
  induction l with
  | nil => simp
  | cons kv l ih =>
    simp only [List.map_cons, List.nodup_cons] at hnd
    simp only [List.filterMap_cons]
    cases hk : kv.2 with
    | known e =>
      simp only [List.map_cons, List.nodup_cons]
      refine ⟨?_, ih hnd.2⟩
      intro hmem
      obtain ⟨x, hx, e1⟩ := List.mem_map.1 hmem
      obtain ⟨y, hy, e2⟩ := List.mem_filterMap.1 hx
      apply hnd.1
      have : y.1 = x.1 := by
        cases hy2 : y.2 with
        | known e' => rw [hy2] at e2; simp only [Option.some.injEq] at e2; rw [← e2]
        | unknown => rw [hy2] at e2; simp at e2
        | maybe => rw [hy2] at e2; simp at e2
      exact List.mem_map.2 ⟨y, hy, by rw [this, e1]⟩
    | unknown => exact ih hnd.2
    | maybe => exact ih hnd.2

/-- After the child's code: the parent's invariant for the state that has clobbered the child's writes and
recorded the child's known entries; `Ey` plays the role of the source memory (the child's pending operations are
not applied yet). -/
theorem inline_minv {ps : List (Rebuild w)} {s2 sub : Rebuild w} {M0 E2 S Eb Ey : Mem w} {Dx : Int → Prop}
    {M0c : Mem w} (hwfc : Wf sub)
    (hX : MInvX Dx s2 ps M0 E2 S)
    (hdead : ∀ vk ∈ sub.written, Dead s2 vk.1)
    (hDx : ∀ v, Dx v → ∃ k, (v, k) ∈ sub.written ∧ k.isMaybe = false)
    (hreadsP : ∀ v ∈ sub.reads, mGet s2.pending v = none ∧ ¬ Dx v)
    (hkv : ∀ v e, mGet sub.written v = some (.known e) → ∀ x ∈ Expr.variables e, x ∈ sub.reads)
    (hM0c : ∀ v, M0c v = S v)
    (hwy : WrOk sub M0c Ey)
    (hag : ∀ v, ¬ ((S v ≠ E2 v) ∧ ¬ DefW sub v) → Ey v = Eb v)
    (hfb : ∀ v, mGet sub.written v = none → Eb v = E2 v)
    (insts' : List (Instr w)) :
    MInv (writtenCalcs { s2 with insts := insts' } ps (knownsOf sub)) ps M0 Eb Ey := by
  -- the parent's invariant before recording the known entries
  have hSE : ∀ v, mGet s2.pending v = none → ¬ Dx v → S v = E2 v := by
    intro v hp hd
    rw [hX.pendX v hd]; exact par_of_not_mem _ _ _ hp
  have hm2 : MInv s2 ps M0 Eb Ey := by
    refine (hX.mono (D' := fun v => ∃ k, (v, k) ∈ sub.written) ?_).havoc ?_ ?_ ?_
    · intro v hd
      obtain ⟨k, hk, _⟩ := hDx v hd
      exact ⟨k, hk⟩
    · rintro v ⟨k, hk⟩
      exact hdead (v, k) hk
    · intro v hv
      have hw : mGet sub.written v = none := by
        cases h : mGet sub.written v with
        | none => rfl
        | some k => exact absurd ⟨k, OptLoop.mem_of_mGet h⟩ hv
      refine ⟨hfb v hw, ?_⟩
      rw [hwy.absent hw, hM0c v]
    · rintro v ⟨k, hk⟩
      apply hag v
      rintro ⟨hne, hnd⟩
      by_cases hm : k.isMaybe = false
      · exact hnd ⟨k, mGet_of_mem hwfc.writ hk, hm⟩
      · apply hne
        apply hSE v (hdead (v, k) hk).1
        intro hd
        obtain ⟨k', hk', hm'⟩ := hDx v hd
        have e1 := mGet_of_mem hwfc.writ hk
        have e2 := mGet_of_mem hwfc.writ hk'
        rw [e1] at e2
        cases e2
        exact hm hm'
  obtain ⟨hsame, _, hwr⟩ := writtenCalcs_eq ({ s2 with insts := insts' } : Rebuild w) ps (knownsOf sub)
  have hm2' : MInv ({ s2 with insts := insts' } : Rebuild w) ps M0 Eb Ey :=
    hm2.congr rfl rfl (SameHdr.refl _)
  refine ⟨by rw [hsame.pending]; exact hm2'.pend, ?_, hm2'.pk.congr hsame.hdr⟩
  intro v
  rw [hwr]
  have hnd : (((knownsOf sub).map (fun vc => (vc.1, knownOf ({ s2 with insts := insts' } : Rebuild w) ps vc.2))).map
      (·.1)).Nodup := by
    rw [List.map_map]; exact nodup_knownsOf hwfc.writ
  by_cases hv : v ∈ (knownsOf sub).map (·.1)
  · obtain ⟨ve, hve, rfl⟩ := List.mem_map.1 hv
    rw [mGet_foldl_mSet_in _ _ ve.1 (knownOf ({ s2 with insts := insts' } : Rebuild w) ps ve.2) hnd
      (List.mem_map.2 ⟨ve, hve, rfl⟩)]
    have hkn : mGet sub.written ve.1 = some (.known ve.2) := (mem_knownsOf hwfc.writ ve.1 ve.2).1 hve
    by_cases hop : Expr.opCount ve.2 < 32
    · cases hc : evalWritten ({ s2 with insts := insts' } : Rebuild w) ps ve.2 with
      | none => simp only [knownOf, hop, hc, if_true]
      | some c =>
        simp only [knownOf, hop, hc, if_true]
        -- the value in the emitted run
        have h1 : Eb ve.1 = Ey ve.1 := by
          symm; apply hag
          rintro ⟨_, hnd'⟩
          exact hnd' ⟨_, hkn, rfl⟩
        have h2 : Ey ve.1 = ev ve.2 M0c := hwy.known hkn
        have h3 : ev ve.2 M0c = ev ve.2 E2 := by
          apply C01Dse.evaluate_congr
          intro x hx
          obtain ⟨hp, hd⟩ := hreadsP x (hkv ve.1 ve.2 hkn x hx)
          rw [hM0c x, hSE x hp hd]
        have h4 : ev c M0 = ev ve.2 E2 :=
          evalWritten_sound' (s := ({ s2 with insts := insts' } : Rebuild w)) (ps := ps)
            (hX.writ.of_written_eq rfl) (hX.pk.congr (SameHdr.refl _)) hc
        rw [h1, h2, h3, ← h4]
        exact (Expr.eval_normalize c M0).symm
    · simp only [knownOf, hop, if_false]
  · have hv' : v ∉ ((knownsOf sub).map (fun vc => (vc.1, knownOf ({ s2 with insts := insts' } : Rebuild w) ps vc.2))).map
        (·.1) := by
      rw [List.map_map]; exact hv
    rw [mGet_foldl_mSet_notin _ _ _ hv']
    exact hm2.writ v

theorem takeInlineOrder_cover {P l : List (Int × Expr w)} {os os' : Orders} (hs : Sorted P)
    (h : (takeInlineOrder P).run os = .ok (l, os')) :
    (∀ ve ∈ l, mGet P ve.1 = some ve.2) ∧ (∀ k e, mGet P k = some e → (k, e) ∈ l) := by
  have hmem := takeInlineOrder_mem h
  refine ⟨fun ve hve => mGet_of_mem hs (hmem ve hve), ?_⟩
  have h' : takeInlineOrder P os = .ok (l, os') := h
  unfold takeInlineOrder at h'
  split at h'
  · cases h'
    intro k e hk; exact OptLoop.mem_of_mGet hk
  · split at h'
    · rename_i ks rest
      dsimp only at h'
      split at h'
      · rename_i hchk
        cases h'
        intro k e hk
        simp only [Bool.and_eq_true, List.all_eq_true, List.contains_eq_mem, decide_eq_true_eq] at hchk
        have hkk : k ∈ mKeys P := (mGet_isSome_iff _ _).1 (by rw [hk]; rfl)
        have hks : k ∈ ks := hchk.1.2 k hkk
        rw [List.mem_filterMap]
        exact ⟨k, hks, by rw [hk]; rfl⟩
      · cases h'
    · cases h'

/-- The last phase of `inline`, after the child's code `newC` (both modes).  `hpk`: taking over the child's shift
keeps what is known through the parent. -/
theorem inlineEnd_ok {shC shS : Int} {s3 s4 : Rebuild w} {ps : List (Rebuild w)} {sub : Rebuild w}
    {os2 os' : Orders} (h4 : (inlineEnd s3 ps sub).run os2 = .ok (s4, os')) (hwf3 : Wf s3)
    (hps : Sorted sub.pending)
    (hpk : ∀ (s5 : Rebuild w) (M1 : Mem w), SameHdr s3 s5 → PK s5 ps M1 →
      PK { s5 with shift := sub.shift } ps M1) :
    Wf s4 ∧ s4.parent = s3.parent ∧ s4.anal = s3.anal ∧ s4.cond = s3.cond ∧ s4.subShift = s3.subShift ∧
    (sub.noReturn = true → s4.noReturn = true) ∧ (sub.noReturn = false → s4.shift = sub.shift) ∧
    ∃ new2, s4.insts = s3.insts ++ new2 ∧
      ∀ {src newC : List (Instr w)} {M0 : Mem w} {σS σE : State w}, s3.noReturn = false →
        Sim (fun a b => ∃ y M0c M1, RelAt shC sub [] M0c y a ∧ y.ptr = b.ptr ∧ a.trace = b.trace ∧
            a.env = b.env ∧ MInv s3 ps M1 (memE b) (memE y) ∧
            (s3.subShift = false → M1 = M0 ∧ b.ptr = σE.ptr)) src newC σS σE →
        ¬ Bad newC σE →
        Sim (fun a b => StepQ (shC + shS) ps { s4 with subAnal := s4.subAnal ++ sub.subAnal } M0 σE
            (a.mov shS) b) src (newC ++ new2) σS σE ∧ ¬ Bad (newC ++ new2) σE := by
  unfold inlineEnd at h4
  split at h4
  · -- the child never returns
    rename_i hnr
    rw [run_pure] at h4
    cases h4
    refine ⟨⟨hwf3.pend, hwf3.writ, hwf3.rev, hwf3.revOk⟩, rfl, rfl, rfl, rfl, fun _ => rfl,
      fun h => absurd (hnr.symm.trans h) (by simp), [], (List.append_nil _).symm, ?_⟩
    intro src newC M0 σS σE _ hs hb
    rw [List.append_nil]
    refine ⟨hs.mono ?_, hb⟩
    rintro a b ⟨y, M0c, M1, hr', _⟩
    have := hr'.nr
    rw [hnr] at this; cases this
  · rename_i hnr
    rw [run_bind_ok] at h4
    obtain ⟨l, os3, h5, h6⟩ := h4
    rw [run_bind_ok] at h6
    obtain ⟨s5, os5, h7, h8⟩ := h6
    rw [run_pure] at h8
    cases h8
    obtain ⟨hl1, hl2⟩ := takeInlineOrder_cover hps h5
    obtain ⟨c3, s3', res3, hwf5, hsame5, hminv5⟩ := performAll_spec hwf3 h7
    have hhdr5 : SameHdr s3 s5 := res3.hdr.trans hsame5.hdr
    refine ⟨⟨hwf5.pend, hwf5.writ, hwf5.rev, hwf5.revOk⟩, hhdr5.parent, hhdr5.anal, hhdr5.cond, hhdr5.subShift,
      fun h => absurd h hnr, fun _ => rfl, c3.map Instr.calc, ?_, ?_⟩
    · show s5.insts = _
      rw [hsame5.insts, res3.insts]
    · intro src newC M0 σS σE hnr3 hs hb
      refine ⟨?_, ?_⟩
      · have : Sim (fun a b => StepQ (shC + shS) ps
            ({ ({ s5 with shift := sub.shift } : Rebuild w) with
              subAnal := ({ s5 with shift := sub.shift } : Rebuild w).subAnal ++ sub.subAnal }) M0 σE (a.mov shS) b)
            (src ++ []) (newC ++ c3.map Instr.calc) σS σE := by
          refine Sim.append hs ?_
          rintro a b ⟨y, M0c, M1, hr', hyb, htr, henv, hm3, hX⟩
          obtain ⟨m1, m2, m3⟩ := foldl_doCalc_meta c3 b
          refine Sim.of_atomic (atomic_calcs ([] : List (List (Int × Expr w)))) (atomic_calcs c3)
            htr.symm rfl (m3.trans htr.symm) (m2.trans henv.symm) ?_
          intro _
          refine ⟨M1, ⟨?_, ?_, ?_, ?_, ?_⟩, fun h => ?_⟩
          · show a.trace = (c3.foldl doCalc b).trace
            rw [m3]; exact htr
          · show a.env = (c3.foldl doCalc b).env
            rw [m2]; exact henv
          · show a.ptr + shS = (c3.foldl doCalc b).ptr + (shC + shS)
            rw [m1, hr'.ptr, hyb]; omega
          · show s5.noReturn = false
            rw [hsame5.noReturn, res3.noRet]; exact hnr3
          · have hS : memS (c3.foldl doCalc b) (a.mov shS) = assignS 0 l (memE y) := by
              have e1 : memS (c3.foldl doCalc b) (a.mov shS) = memS y a := by
                funext v
                show a.tape.get ((c3.foldl doCalc b).ptr + v) = a.tape.get (y.ptr + v)
                rw [m1, hyb]
              rw [e1, hr'.inv.pend, assignS_eq_par hl1 hl2]
            have hE : memE (c3.foldl doCalc b) = Mem.seq c3 (memE b) := memE_foldl_doCalc b c3 res3.nodup
            show MInv _ ps M1 (memE (c3.foldl doCalc b)) (memS (c3.foldl doCalc b) (a.mov shS))
            rw [hS, hE]
            have h5m := hminv5 M1 _ _ hm3
            exact ⟨h5m.pend, h5m.writ, (hpk s5 M1 hhdr5 h5m.pk).congr ⟨rfl, rfl, rfl, rfl, rfl⟩⟩
          · obtain ⟨e1, e2⟩ := hX ((show s5.subShift = s3.subShift from hhdr5.subShift).symm.trans h)
            exact ⟨e1, m1.trans e2⟩
        rw [List.append_nil] at this
        exact this
      · intro hbad
        rcases bad_append.1 hbad with h1' | ⟨σ1, _, h2'⟩
        · exact hb h1'
        · exact not_bad_of_noBlocks (noBlocks_calcs c3) _ h2'

/-- `inline` of a child that does not move the pointer (the block is executed exactly once).  The state may carry
an analysis, as long as taking over the child's shift does not change what may be asked of the parent. -/
theorem inline_stay_ok {shP shC shS cS : Int} {bodyS : List (Instr w)}
    {s : Rebuild w} {ps : List (Rebuild w)} {sub : Rebuild w} {pc : List (Rebuild w)} {sub0 : Rebuild w}
    {os os' : Orders} {s' : Rebuild w} {G Gc : State w → Prop}
    (hr : (Opt.inline s ps sub).run os = .ok (s', os'))
    (hwf : Wf s) (hpre : ChildPre Gc shP shC pc sub0 sub cS bodyS) (hsf : AskStable s sub.shift)
    (hkv : ∀ v e, mGet sub.written v = some (.known e) → ∀ x ∈ Expr.variables e, x ∈ sub.reads)
    (hne : ∀ M0 σE σS, RelAt shP s ps M0 σE σS → G σS → σS.rd cS ≠ 0#w)
    (hGc : ∀ M0 σE σS, RelAt shP s ps M0 σE σS → G σS → Gc σS) :
    Wf s' ∧ s'.subShift = s.subShift ∧ s'.parent = s.parent ∧ s'.anal = s.anal ∧ s'.cond = s.cond ∧
    (sub.noReturn = true → s'.noReturn = true) ∧ (sub.noReturn = false → s'.shift = sub.shift) ∧
    ∃ new, s'.insts = s.insts ++ new ∧
      ∀ M0 σE σS, RelAt shP s ps M0 σE σS → G σS →
        Sim (fun a b => StepQ (shC + shS) ps s' M0 σE (a.mov shS) b) bodyS new σS σE ∧ ¬ Bad new σE := by
  rw [inline_eq, if_neg (by rw [hpre.noShift]; simp), run_bind_ok] at hr
  obtain ⟨s1, os1, h1, h2⟩ := hr
  obtain ⟨s2, os2, s4, h3, h4, rfl⟩ := inlineRest_run h2
  have hcp : (clobberPhase s1 ps sub (OptLoop.unknown true) []).run os1 = .ok (s2, os2) := by
    rw [clobberPhase_eq]
    have : (!(OptLoop.unknown true : OptLoop w).noEffect) = true := rfl
    rw [if_pos this, ← ifold_eq]; exact h3
  obtain ⟨c12, Dx, r12, hDx, hreads2, hdead', hminvx⟩ := readClobber_res hwf h1 hcp
  have hdead : ∀ vk ∈ sub.written, Dead s2 vk.1 := fun vk hvk => hdead' rfl vk hvk (by simp)
  have hmemR : ∀ v ∈ sub.reads, v ∈ readsSorted sub s := fun v hv => by
    unfold readsSorted; rw [(Expr.stableSort_perm _ _).mem_iff]; exact hv
  have hwc := writtenCalcs_eq ({ s2 with insts := s2.insts ++ sub.insts } : Rebuild w) ps (knownsOf sub)
  obtain ⟨hsame3, _, hwr3⟩ := hwc
  have hwf3 : Wf (writtenCalcs ({ s2 with insts := s2.insts ++ sub.insts } : Rebuild w) ps (knownsOf sub)) := by
    refine ⟨by rw [hsame3.pending]; exact r12.wf.pend, ?_, by rw [hsame3.reverse]; exact r12.wf.rev,
      by rw [hsame3.pending, hsame3.reverse]; exact r12.wf.revOk⟩
    rw [hwr3]; exact sorted_foldl_mSet _ r12.wf.writ
  have hinsts3 : (writtenCalcs ({ s2 with insts := s2.insts ++ sub.insts } : Rebuild w) ps (knownsOf sub)).insts
      = s.insts ++ c12.map Instr.calc ++ sub.insts := by
    rw [hsame3.insts]
    show s2.insts ++ sub.insts = _
    rw [r12.insts]
  have hhdr3 : SameHdr s (writtenCalcs ({ s2 with insts := s2.insts ++ sub.insts } : Rebuild w) ps (knownsOf sub)) :=
    r12.hdr.trans hsame3.hdr
  have hcore : ∀ M0 σE σS, RelAt shP s ps M0 σE σS → G σS →
      Sim (fun a b => ∃ y M0c, RelAt shC sub [] M0c y a ∧ y.ptr = b.ptr ∧ a.trace = b.trace ∧ a.env = b.env ∧
          b.ptr = σE.ptr ∧
          MInv (writtenCalcs ({ s2 with insts := s2.insts ++ sub.insts } : Rebuild w) ps (knownsOf sub)) ps M0
            (memE b) (memE y))
        bodyS (c12.map Instr.calc ++ sub.insts) σS σE ∧
      ¬ Bad (c12.map Instr.calc ++ sub.insts) σE := by
    intro M0 σE σS hrel hG
    obtain ⟨m1, m2, m3⟩ := foldl_doCalc_meta c12 σE
    have hX : MInvX Dx s2 ps M0 (memE (c12.foldl doCalc σE)) (memS (c12.foldl doCalc σE) σS) := by
      rw [memE_foldl_doCalc σE _ r12.nodup, memS_foldl_doCalc]
      exact hminvx M0 _ _ hrel.inv
    have hDxW : ∀ v, Dx v → ∃ k, (v, k) ∈ sub.written ∧ k.isMaybe = false := fun v hd => (hDx v hd).1
    have hDxR : ∀ v ∈ sub.reads, mGet s2.pending v = none ∧ ¬ Dx v := fun v hv =>
      ⟨hreads2 v (hmemR v hv), fun hd => (hDx v hd).2.2.2.2 (hmemR v hv)⟩
    have hSE : ∀ v, mGet s2.pending v = none → ¬ Dx v →
        memS (c12.foldl doCalc σE) σS v = memE (c12.foldl doCalc σE) v := by
      intro v hp hd
      rw [hX.pendX v hd]; exact par_of_not_mem _ _ _ hp
    have hK : ∀ v, memS (c12.foldl doCalc σE) σS v ≠ memE (c12.foldl doCalc σE) v →
        v ∉ sub.reads := by
      intro v hv hr'
      obtain ⟨hp, hd⟩ := hDxR v hr'
      exact hv (hSE v hp hd)
    have honce := child_run hpre.rep hpre.foot hpre.badfoot hpre.frame2 hpre.noShift hpre.w0 hpre.entry
      (fun v => memS (c12.foldl doCalc σE) σS v ≠ memE (c12.foldl doCalc σE) v) hK
      (by rw [m3]; exact hrel.tr) (by rw [m2]; exact hrel.env) (by rw [m1]; exact hrel.ptr)
      (fun v hv => Classical.not_not.1 hv) (hne M0 σE σS hrel hG) (hGc M0 σE σS hrel hG)
    refine ⟨Sim.calcs_right c12 (honce.1.mono ?_), ?_⟩
    · rintro a b ⟨y, M0c, hr', hab, pb, hM0c, hfb⟩
      refine ⟨y, M0c, hr', hab.1, hr'.tr.trans hab.2.2.1, hr'.env.trans hab.2.1, pb.trans m1, ?_⟩
      refine inline_minv hpre.wf hX hdead hDxW hDxR hkv hM0c hr'.inv.writ ?_ hfb _
      intro v hv
      apply hab.2.2.2 v
      rintro ⟨h1', h2'⟩
      exact hv ⟨h1', h2'⟩
    · rw [bad_calcs_iff]
      exact honce.2
  have hnr3 : (writtenCalcs ({ s2 with insts := s2.insts ++ sub.insts } : Rebuild w) ps (knownsOf sub)).noReturn
      = s.noReturn := by
    rw [hsame3.noReturn]
    exact r12.noRet
  obtain ⟨e1, e2, e3, e4, e5, e6, e7, new2, hi4, hend⟩ := inlineEnd_ok (shC := shC) (shS := shS) h4 hwf3 hpre.wf.pend
    (fun s5 M1 hh hp => hp.shift (hsf.of_hdr (hhdr3.trans hh)))
  refine ⟨⟨e1.pend, e1.writ, e1.rev, e1.revOk⟩, e5.trans hhdr3.subShift, e2.trans hhdr3.parent, e3.trans hhdr3.anal,
    e4.trans hhdr3.cond, e6, e7, (c12.map Instr.calc ++ sub.insts) ++ new2, ?_, ?_⟩
  · show s4.insts = _
    rw [hi4, hinsts3]; simp only [List.append_assoc]
  · intro M0 σE σS hrel hG
    obtain ⟨hs, hb⟩ := hcore M0 σE σS hrel hG
    refine hend (hnr3.trans hrel.nr) (hs.mono ?_) hb
    rintro a b ⟨y, M0c, hr', hyb, htr, henv, hbp, hm3⟩
    exact ⟨y, M0c, M0, hr', hyb, htr, henv, hm3, fun _ => ⟨rfl, hbp⟩⟩

end OptProof
end Hpbf
