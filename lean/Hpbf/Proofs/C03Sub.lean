/-
C03: every arm of `JitGen.emitSub` is a derivation (`emitSub_sel`); that it performs the bytecode instruction
(`emitSub_impl`) and what it emits (`sub_emits`) are read off it.
-/
import Hpbf.Proofs.C03Sel

namespace Hpbf
namespace C03

open Asm JitGen X86Sem

variable {w : Nat}

theorem emitSub_sel (sz : Size) (live : Nat) (c : Bc.Cfg w) {d a b : Bc.Loc w} {xs : List X86}
    (h : emitSub sz live d a b = some xs) : ISel sz live c [a, b] d (aluF .sub (rv c a) (rv c b)) xs := by
  have ha : a ∈ [a, b] := List.mem_cons_self
  have hb : b ∈ [a, b] := List.mem_cons_of_mem _ List.mem_cons_self
  unfold emitSub at h
  split at h
  next i0 i1 t =>
    split at h
    next e =>
      cases eq_of_beq e
      split at h <;> cases h
      next r hr => exact .acc hr .sub hb ha
      next => exact .accum (.load .scr0 hb (.tmp t)) .sub ha trivial
    next =>
      cases h
      exact .viaScr0 ha (.mem i1) hb (.tmp .sub t)
  next i0 i1 i2 =>
    split at h <;> cases h
    next e =>
      cases eq_of_beq e
      exact .accum (.load .scr0 hb (.mem i2)) .sub ha trivial
    next => exact .viaScr0 ha (.mem i1) hb (.mem .sub i2)
  next i t0 t1 =>
    split at h
    next hs0 =>
      obtain ⟨r0, h0, rfl⟩ := Option.map_eq_some_iff.1 h
      exact .st (.srcOp (.dead h0 hs0) ha hb (.tmp .sub t1))
    next =>
      cases h
      exact .viaScr0 ha (.tmp t0) hb (.tmp .sub t1)
  next i0 t i1 =>
    split at h
    next hs =>
      obtain ⟨r, hr, rfl⟩ := Option.map_eq_some_iff.1 h
      exact .st (.srcOp (.dead hr hs) ha hb (.mem .sub i1))
    next =>
      cases h
      exact .viaScr0 ha (.tmp t) hb (.mem .sub i1)
  next t0 i t1 =>
    split at h
    next r0 h0 =>
      split at h <;> cases h
      next e => exact .dst (.op (.load (.dst h0) ha (.mem i)) hb (.tmp .sub t1) (bne_iff_ne.1 e).symm)
      next => exact .viaScr0 ha (.mem i) hb (.tmp .sub t1)
    next => cases h; exact .viaScr0 ha (.mem i) hb (.tmp .sub t1)
  next t i0 i1 =>
    split at h <;> cases h
    next r hr => exact .dst (.op (.load (.dst hr) ha (.mem i0)) hb (.mem .sub i1) trivial)
    next => exact .viaScr0 ha (.mem i0) hb (.mem .sub i1)
  next t0 t1 t2 =>
    split at h
    next e =>
      cases eq_of_beq e
      split at h <;> cases h
      next r0 h0 => exact .dst (.srcOp (.dst h0) ha hb (.tmp .sub t2))
      next => exact .accum (.load .scr0 hb (.tmp t2)) .sub ha trivial
    next =>
      split at h
      next r0 h0 =>
        split at h <;> cases h
        next e => exact .dst (.op (.load (.dst h0) ha (.tmp t1)) hb (.tmp .sub t2) (bne_iff_ne.1 e).symm)
        next => exact .viaScr0 ha (.tmp t1) hb (.tmp .sub t2)
      next => cases h; exact .viaScr0 ha (.tmp t1) hb (.tmp .sub t2)
  next t0 t1 i =>
    split at h
    next e =>
      cases eq_of_beq e
      split at h <;> cases h
      next r0 h0 => exact .dst (.srcOp (.dst h0) ha hb (.mem .sub i))
      next => exact .accum (.load .scr0 hb (.mem i)) .sub ha trivial
    next =>
      split at h <;> cases h
      next r0 h0 => exact .dst (.op (.load (.dst h0) ha (.tmp t1)) hb (.mem .sub i) trivial)
      next => exact .viaScr0 ha (.tmp t1) hb (.mem .sub i)
  next i v t =>
    cases h
    exact .viaScr0 ha (.imm v) hb (.tmp .sub t)
  next i0 v i1 =>
    cases h
    exact .viaScr0 ha (.imm v) hb (.mem .sub i1)
  next t0 v t1 =>
    dsimp only at h
    split at h
    next r0 h0 =>
      split at h <;> cases h
      next e => exact .dst (.op (.load (.dst h0) ha (.imm v)) hb (.tmp .sub t1) (bne_iff_ne.1 e).symm)
      next => exact .viaScr0 ha (.imm v) hb (.tmp .sub t1)
    next => cases h; exact .viaScr0 ha (.imm v) hb (.tmp .sub t1)
  next t v i =>
    dsimp only at h
    split at h <;> cases h
    next r hr => exact .dst (.op (.load (.dst hr) ha (.imm v)) hb (.mem .sub i) trivial)
    next => exact .viaScr0 ha (.imm v) hb (.mem .sub i)
  next => cases h

theorem emitSub_impl {sz : Size} (hsz : sz.bits = w) (S : Nat → Prop) (live : Nat) (c : Bc.Cfg w)
    {d a b : Bc.Loc w} {xs : List X86} (h : emitSub sz live d a b = some xs) (hd : LocOk d)
    (ha : LocOk a) (hb : LocOk b) (hsa : SrcOk S a) (hsb : SrcOk S b) :
    Impl S live c d (aluF .sub (rv c a) (rv c b)) xs :=
  (emitSub_sel sz live c h).impl hsz (srcs_ok ha hb hsa hsb) hd

theorem sub_emits (sz : Size) (live : Nat) (d a b : Bc.Loc w) : Emits sz [d, a, b] (emitSub sz live d a b) :=
  emits_of_sel fun c _ => emitSub_sel sz live c

end C03
end Hpbf
