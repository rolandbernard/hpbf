/-
The two-run forms of the footprint (what `reads` and the keys of `written` mean for the emitted instructions), as
the simulation proofs consume them: per step (for the instructions `new` appended when the state goes from `s` to
`s'`), composable along `++`, and only while `subShift = false` (after an uncertain move the state does not describe
the block entry any more).  They are derived in `OptRbFootRd` from the one-run account (`RdAll`).

`reads`  : the cells whose value from before the block (or after a `maybe` write) the emitted instructions may
           read: two runs from states that differ only on cells outside `reads` behave the same, and afterwards
           differ at most on cells that have not been DEFINITELY written (`known` / `unknown` entry of `written`):
           `FootStep`; for code with blocks only if the first run is valid (`FootStepV`, with `FootBadV` for the
           `once` marks).
`written`: block-free code writes only keys of `written` and leaves the pointer alone (`FrameStep`); with blocks, a run
           that mirrors a valid run leaves the cells that are neither keys of `written` nor in `reads` untouched
           (`FootFrameV`: what a child writes may be recorded in the parent's `reads` only).
`ReadsMono`, `KeysMono'`: both fields only grow.  `FootAll` (at the end) packages the claims of one step.
-/
import Hpbf.Proofs.OptRbStep

namespace Hpbf
namespace OptProof
open Opt OptSem Ir

variable {w : Nat}

def AgreeOff (K : Int → Prop) (σ1 σ2 : State w) : Prop :=
  σ1.ptr = σ2.ptr ∧ σ1.env = σ2.env ∧ σ1.trace = σ2.trace ∧ ∀ v, ¬ K v → memE σ1 v = memE σ2 v

/-- `v` has been definitely written (entry `known` or `unknown`). -/
def DefW (s : Rebuild w) (v : Int) : Prop := ∃ k, mGet s.written v = some k ∧ k.isMaybe = false

/-- The cells on which two runs may still differ: initially `K`, minus what has been definitely written. -/
def Rest (K : Int → Prop) (s : Rebuild w) (v : Int) : Prop := K v ∧ ¬ DefW s v

def FootStep (s s' : Rebuild w) (new : List (Instr w)) : Prop :=
  s'.subShift = false →
  ∀ (K : Int → Prop), (∀ v, K v → v ∉ s'.reads) →
  ∀ σ1 σ2 : State w, AgreeOff (Rest K s) σ1 σ2 →
    Sim (fun a b => AgreeOff (Rest K s') a b) new new σ1 σ2

def FrameStep (s s' : Rebuild w) (new : List (Instr w)) : Prop :=
  s'.subShift = false →
  (∀ v, mGet s'.written v = none → mGet s.written v = none) ∧
  ∀ σ σ' : State w, Exec new σ (.fin σ') →
    σ'.ptr = σ.ptr ∧ ∀ v, mGet s'.written v = none → memE σ' v = memE σ v

def ReadsMono (s s' : Rebuild w) : Prop :=
  (∀ v, v ∈ s.reads → v ∈ s'.reads) ∧ (s'.subShift = false → s.subShift = false)

theorem AgreeOff.refl (K : Int → Prop) (σ : State w) : AgreeOff K σ σ := ⟨rfl, rfl, rfl, fun _ _ => rfl⟩

theorem AgreeOff.mono {K K' : Int → Prop} {σ1 σ2 : State w} (h : AgreeOff K σ1 σ2) (hK : ∀ v, K v → K' v) :
    AgreeOff K' σ1 σ2 :=
  ⟨h.1, h.2.1, h.2.2.1, fun v hv => h.2.2.2 v (fun hk => hv (hK v hk))⟩

theorem AgreeOff.trans' {X Y : Int → Prop} {a b c : State w} (h1 : AgreeOff X a b) (h2 : AgreeOff Y b c) :
    AgreeOff (fun v => X v ∨ Y v) a c :=
  ⟨h1.1.trans h2.1, h1.2.1.trans h2.2.1, h1.2.2.1.trans h2.2.2.1,
    fun v hv => (h1.2.2.2 v (fun h => hv (Or.inl h))).trans (h2.2.2.2 v (fun h => hv (Or.inr h)))⟩

theorem DefW.congr {s s' : Rebuild w} (h : s'.written = s.written) (v : Int) : DefW s' v ↔ DefW s v := by
  unfold DefW; rw [h]

theorem DefW.of_get_eq {s s' : Rebuild w} {v : Int} (h : mGet s'.written v = mGet s.written v) :
    DefW s' v ↔ DefW s v := by
  unfold DefW; rw [h]

theorem not_defW_of_none {s : Rebuild w} {v : Int} (h : mGet s.written v = none) : ¬ DefW s v := by
  rintro ⟨k, hk, _⟩; rw [h] at hk; cases hk

theorem Rest.congr {s s' : Rebuild w} (h : s'.written = s.written) (K : Int → Prop) (v : Int) :
    Rest K s' v ↔ Rest K s v := by
  unfold Rest; rw [DefW.congr h]

theorem AgreeOff.congr {K K' : Int → Prop} {σ1 σ2 : State w} (h : AgreeOff K σ1 σ2) (hK : ∀ v, K v ↔ K' v) :
    AgreeOff K' σ1 σ2 := h.mono (fun v hv => (hK v).1 hv)

theorem ReadsMono.refl (s : Rebuild w) : ReadsMono s s := ⟨fun _ h => h, fun h => h⟩

theorem ReadsMono.trans {a b c : Rebuild w} (h1 : ReadsMono a b) (h2 : ReadsMono b c) : ReadsMono a c :=
  ⟨fun v h => h2.1 v (h1.1 v h), fun h => h1.2 (h2.2 h)⟩

theorem FootStep.refl (s : Rebuild w) : FootStep s s [] := by
  intro _ K _ σ1 σ2 h
  exact Sim.nil h h.2.2.1.symm

theorem FootStep.trans {a b c : Rebuild w} {n1 n2 : List (Instr w)} (h1 : FootStep a b n1)
    (h2 : FootStep b c n2) (hm : ReadsMono b c) : FootStep a c (n1 ++ n2) := by
  intro hs K hK σ1 σ2 h
  refine Sim.append (h1 (hm.2 hs) K (fun v hv hr => hK v hv (hm.1 v hr)) σ1 σ2 h) ?_
  intro x y hxy
  exact h2 hs K hK x y hxy

theorem Sim.fin_strengthen {Q : State w → State w → Prop} {a b : List (Instr w)} {σS σE : State w}
    (h : Sim Q a b σS σE) :
    Sim (fun x y => Q x y ∧ Exec a σS (.fin x) ∧ Exec b σE (.fin y)) a b σS σE := by
  refine ⟨?_, h.stopL, h.partL, ?_, h.stopR, h.partR⟩
  · intro x hx
    obtain ⟨y, hy, hq⟩ := h.finL x hx
    exact ⟨y, hy, hq, hx, hy⟩
  · intro y hy
    obtain ⟨x, hx, hq⟩ := h.finR y hy
    exact ⟨x, hx, hq, hx, hy⟩

/-!
The footprint relativized to valid states.  Only the FIRST of the two runs has to be valid: the second one agrees
with it on everything that is read.
For loops the footprint only holds for states that really occur (e.g. a cell recorded as definitely written by
a loop that "runs at least once" is written only if the claim about the loop is true): `V` is the set of valid
start states (those related to some state of the source program). -/

def Valid (sh : Int) (s : Rebuild w) (ps : List (Rebuild w)) (σ : State w) : Prop :=
  ∃ M0 σS, RelAt sh s ps M0 σ σS

def ValidG (G : State w → Prop) (sh : Int) (s : Rebuild w) (ps : List (Rebuild w)) (σ : State w) : Prop :=
  ∃ M0 σS, RelAt sh s ps M0 σ σS ∧ G σS

def FootStepV (V : State w → Prop) (s s' : Rebuild w) (new : List (Instr w)) : Prop :=
  s'.subShift = false →
  ∀ (K : Int → Prop), (∀ v, K v → v ∉ s'.reads) →
  ∀ σ1 σ2 : State w, V σ1 → AgreeOff (Rest K s) σ1 σ2 →
    Sim (fun a b => AgreeOff (Rest K s') a b) new new σ1 σ2

def FrameStepV (V : State w → Prop) (s s' : Rebuild w) (new : List (Instr w)) : Prop :=
  s'.subShift = false →
  (∀ v, mGet s'.written v = none → mGet s.written v = none) ∧
  ∀ σ σ' : State w, V σ → Exec new σ (.fin σ') →
    σ'.ptr = σ.ptr ∧ ∀ v, mGet s'.written v = none → memE σ' v = memE σ v

/-- Badness (reaching a `once` loop with a zero condition) is mirrored along the footprint: if the second run
goes bad so does the (valid) first one. -/
def FootBadV (V : State w → Prop) (s s' : Rebuild w) (new : List (Instr w)) : Prop :=
  s'.subShift = false →
  ∀ (K : Int → Prop), (∀ v, K v → v ∉ s'.reads) →
  ∀ σ1 σ2 : State w, V σ1 → AgreeOff (Rest K s) σ1 σ2 → Bad new σ2 → Bad new σ1

/-- Write frame along the footprint: in a run that mirrors a valid run, the pointer comes back and the cells
that are neither keys of `written` nor in `reads` are untouched.  (For most code this holds for every run,
syntactically; for a loop that is known never to exit once entered (`noEffect`) it holds because a run that
reaches the end has not entered the loop.) -/
def FootFrameV (V : State w → Prop) (s s' : Rebuild w) (new : List (Instr w)) : Prop :=
  s'.subShift = false →
  ∀ (K : Int → Prop), (∀ v, K v → v ∉ s'.reads) →
  ∀ σ1 σ2 : State w, V σ1 → AgreeOff (Rest K s) σ1 σ2 → ∀ b, Exec new σ2 (.fin b) →
    b.ptr = σ2.ptr ∧ ∀ v, v ∉ mKeys s'.written → v ∉ s'.reads → memE b v = memE σ2 v

/-- The same as `KeysMono` (`OptRbFoot2`). -/
def KeysMono' (s s' : Rebuild w) : Prop :=
  s'.subShift = false → ∀ v, v ∈ mKeys s.written → v ∈ mKeys s'.written

theorem FootFrameV.trans {V V' : State w → Prop} {a b c : Rebuild w} {n1 n2 : List (Instr w)}
    (f1 : FootFrameV V a b n1) (h1 : FootStepV V a b n1) (f2 : FootFrameV V' b c n2)
    (hv : ∀ σ σ', V σ → Exec n1 σ (.fin σ') → V' σ') (hm : ReadsMono b c) (hk : KeysMono' b c) :
    FootFrameV V a c (n1 ++ n2) := by
  intro hs K hK σ1 σ2 v1 hag bb hex
  have hsb := hm.2 hs
  have hKb : ∀ v, K v → v ∉ b.reads := fun v hv' hr => hK v hv' (hm.1 v hr)
  rcases exec_append.1 hex with ⟨hf, _⟩ | ⟨σ2', e1, e2⟩
  · cases hf
  · obtain ⟨σ1', e1', hag'⟩ := (h1 hsb K hKb σ1 σ2 v1 hag).finR σ2' e1
    obtain ⟨p1, m1⟩ := f1 hsb K hKb σ1 σ2 v1 hag σ2' e1
    obtain ⟨p2, m2⟩ := f2 hs K hK σ1' σ2' (hv σ1 σ1' v1 e1') hag' bb e2
    refine ⟨p2.trans p1, fun v hv1 hv2 => ?_⟩
    rw [m2 v hv1 hv2]
    exact m1 v (fun h => hv1 (hk hs v h)) (fun h => hv2 (hm.1 v h))

theorem FootStepV.weaken {V V' : State w → Prop} {s s' : Rebuild w} {new : List (Instr w)}
    (h : FootStepV V s s' new) (hv : ∀ σ, V' σ → V σ) : FootStepV V' s s' new :=
  fun hs K hK σ1 σ2 v1 hag => h hs K hK σ1 σ2 (hv σ1 v1) hag

theorem FootBadV.weaken {V V' : State w → Prop} {s s' : Rebuild w} {new : List (Instr w)}
    (h : FootBadV V s s' new) (hv : ∀ σ, V' σ → V σ) : FootBadV V' s s' new :=
  fun hs K hK σ1 σ2 v1 hag hb => h hs K hK σ1 σ2 (hv σ1 v1) hag hb

theorem FootFrameV.weaken {V V' : State w → Prop} {s s' : Rebuild w} {new : List (Instr w)}
    (h : FootFrameV V s s' new) (hv : ∀ σ, V' σ → V σ) : FootFrameV V' s s' new :=
  fun hs K hK σ1 σ2 v1 hag b hex => h hs K hK σ1 σ2 (hv σ1 v1) hag b hex

theorem FootStep.toV {s s' : Rebuild w} {new : List (Instr w)} (h : FootStep s s' new) (V : State w → Prop) :
    FootStepV V s s' new := fun hs K hK σ1 σ2 _ hag => h hs K hK σ1 σ2 hag

theorem FrameStep.toV {s s' : Rebuild w} {new : List (Instr w)} (h : FrameStep s s' new) (V : State w → Prop) :
    FrameStepV V s s' new := fun hs => ⟨(h hs).1, fun σ σ' _ hex => (h hs).2 σ σ' hex⟩

theorem FootStepV.trans {V V' : State w → Prop} {a b c : Rebuild w} {n1 n2 : List (Instr w)}
    (h1 : FootStepV V a b n1) (h2 : FootStepV V' b c n2)
    (hv : ∀ σ σ', V σ → Exec n1 σ (.fin σ') → V' σ') (hm : ReadsMono b c) : FootStepV V a c (n1 ++ n2) := by
  intro hs K hK σ1 σ2 v1 h
  have hs1 := (h1 (hm.2 hs) K (fun v hv' hr => hK v hv' (hm.1 v hr)) σ1 σ2 v1 h).fin_strengthen
  refine Sim.append hs1 ?_
  rintro x y ⟨hxy, hx, _⟩
  exact h2 hs K hK x y (hv σ1 x v1 hx) hxy

theorem FrameStepV.trans {V V' : State w → Prop} {a b c : Rebuild w} {n1 n2 : List (Instr w)}
    (h1 : FrameStepV V a b n1) (h2 : FrameStepV V' b c n2)
    (hv : ∀ σ σ', V σ → Exec n1 σ (.fin σ') → V' σ') (hm : ReadsMono b c) : FrameStepV V a c (n1 ++ n2) := by
  intro hs
  obtain ⟨w2, f2⟩ := h2 hs
  obtain ⟨w1, f1⟩ := h1 (hm.2 hs)
  refine ⟨fun v h => w1 v (w2 v h), ?_⟩
  intro σ σ' hvσ h
  rcases exec_append.1 h with ⟨hf, _⟩ | ⟨σ1, e1, e2⟩
  · cases hf
  · obtain ⟨p1, m1⟩ := f1 σ σ1 hvσ e1
    obtain ⟨p2, m2⟩ := f2 σ1 σ' (hv σ σ1 hvσ e1) e2
    refine ⟨p2.trans p1, fun v hv' => ?_⟩
    rw [m2 v hv', m1 v (w2 v hv')]

theorem StepNG.valid {G G2 : State w → Prop} {sh sh' : Int} {ps : List (Rebuild w)} {s s' : Rebuild w}
    {src new : List (Instr w)}
    (h : StepNG G sh sh' ps s s' src new)
    (hg : ∀ M0 σE σS σS', RelAt sh s ps M0 σE σS → G σS → Exec src σS (.fin σS') → G2 σS')
    {σ σ' : State w} (hv : ValidG G sh s ps σ) (he : Exec new σ (.fin σ')) :
    ValidG G2 sh' s' ps σ' := by
  obtain ⟨M0, σS, hrel, hG⟩ := hv
  obtain ⟨σS', hex, M0', hr', _⟩ := (h.2 M0 σ σS hrel hG).1.finR σ' he
  exact ⟨M0', σS', hr', hg M0 σ σS σS' hrel hG hex⟩

theorem footBadV_of_noBlocks {V : State w → Prop} {s s' : Rebuild w} {new : List (Instr w)}
    (h : ∀ i ∈ new, C01Dse.isBlock i = false) : FootBadV V s s' new :=
  fun _ _ _ _ σ2 _ _ hb => absurd hb (not_bad_of_noBlocks h σ2)

theorem FootBadV.refl (V : State w → Prop) (s : Rebuild w) : FootBadV V s s [] :=
  footBadV_of_noBlocks (fun _ h => by cases h)

theorem FootBadV.trans {V V' : State w → Prop} {a b c : Rebuild w} {n1 n2 : List (Instr w)}
    (b1 : FootBadV V a b n1) (h1 : FootStepV V a b n1) (b2 : FootBadV V' b c n2)
    (hv : ∀ σ σ', V σ → Exec n1 σ (.fin σ') → V' σ') (hm : ReadsMono b c) : FootBadV V a c (n1 ++ n2) := by
  intro hs K hK σ1 σ2 v1 hag hbad
  have hsb := hm.2 hs
  have hKb : ∀ v, K v → v ∉ b.reads := fun v hv' hr => hK v hv' (hm.1 v hr)
  rcases bad_append.1 hbad with hb | ⟨σ2', e2, hb⟩
  · exact bad_append.2 (Or.inl (b1 hsb K hKb σ1 σ2 v1 hag hb))
  · obtain ⟨σ1', e1, hag'⟩ := (h1 hsb K hKb σ1 σ2 v1 hag).finR σ2' e2
    exact bad_append.2 (Or.inr ⟨σ1', e1, b2 hs K hK σ1' σ2' (hv σ1 σ1' v1 e1) hag' hb⟩)

/-- The footprint claims of one step. -/
def FootAll (V : State w → Prop) (s s' : Rebuild w) (new : List (Instr w)) : Prop :=
  FootStepV V s s' new ∧ FootBadV V s s' new ∧ FootFrameV V s s' new ∧ ReadsMono s s' ∧ KeysMono' s s'

theorem KeysMono'.trans {a b c : Rebuild w} (h1 : KeysMono' a b) (h2 : KeysMono' b c) (hm : ReadsMono b c) :
    KeysMono' a c := fun hs v hv => h2 hs v (h1 (hm.2 hs) v hv)

theorem FootAll.trans {V V' : State w → Prop} {a b c : Rebuild w} {n1 n2 : List (Instr w)}
    (h1 : FootAll V a b n1) (h2 : FootAll V' b c n2)
    (hv : ∀ σ σ', V σ → Exec n1 σ (.fin σ') → V' σ') : FootAll V a c (n1 ++ n2) := by
  obtain ⟨a1, a2, a3, a4, a5⟩ := h1
  obtain ⟨b1, b2, b3, b4, b5⟩ := h2
  exact ⟨a1.trans b1 hv b4, a2.trans a1 b2 hv b4, a3.trans a1 b3 hv b4 b5, a4.trans b4, a5.trans b5 b4⟩

theorem FootAll.void {V : State w → Prop} {s s' : Rebuild w} (hs : s'.subShift = true) (hm : ReadsMono s s')
    (new : List (Instr w)) : FootAll V s s' new := by
  refine ⟨fun h => ?_, fun h => ?_, fun h => ?_, hm, fun h => ?_⟩ <;> exact absurd (hs.symm.trans h) (by simp)

theorem FootAll.weaken {V V' : State w → Prop} {s s' : Rebuild w} {new : List (Instr w)}
    (h : FootAll V s s' new) (hv : ∀ σ, V' σ → V σ) : FootAll V' s s' new :=
  ⟨h.1.weaken hv, h.2.1.weaken hv, h.2.2.1.weaken hv, h.2.2.2.1, h.2.2.2.2⟩

theorem FootAll.congr {V : State w → Prop} {a a' b b' : Rebuild w} {new : List (Instr w)}
    (h : FootAll V a b new)
    (ha1 : a'.subShift = a.subShift) (ha2 : a'.reads = a.reads) (ha3 : a'.written = a.written)
    (hb1 : b'.subShift = b.subShift) (hb2 : b'.reads = b.reads) (hb3 : b'.written = b.written) :
    FootAll V a' b' new := by
  have hrest : ∀ K v, Rest K a' v ↔ Rest K a v := by
    intro K v; unfold Rest DefW; rw [ha3]
  have hrestb : ∀ K v, Rest K b' v ↔ Rest K b v := by
    intro K v; unfold Rest DefW; rw [hb3]
  obtain ⟨h1, h2, h3, h4, h5⟩ := h
  refine ⟨?_, ?_, ?_, ?_, ?_⟩
  · intro hs K hK σ1 σ2 v1 hag
    refine (h1 (hb1 ▸ hs) K (fun v hv => by rw [← hb2]; exact hK v hv) σ1 σ2 v1
      (hag.mono (fun v hv => (hrest K v).1 hv))).mono ?_
    intro x y hxy
    exact hxy.mono (fun v hv => (hrestb K v).2 hv)
  · intro hs K hK σ1 σ2 v1 hag hb
    exact h2 (hb1 ▸ hs) K (fun v hv => by rw [← hb2]; exact hK v hv) σ1 σ2 v1
      (hag.mono (fun v hv => (hrest K v).1 hv)) hb
  · intro hs K hK σ1 σ2 v1 hag x hex
    obtain ⟨p, m⟩ := h3 (hb1 ▸ hs) K (fun v hv => by rw [← hb2]; exact hK v hv) σ1 σ2 v1
      (hag.mono (fun v hv => (hrest K v).1 hv)) x hex
    exact ⟨p, fun v hv1 hv2 => m v (by rw [← hb3]; exact hv1) (by rw [← hb2]; exact hv2)⟩
  · refine ⟨fun v hv => ?_, fun hs => ?_⟩
    · rw [hb2]; rw [ha2] at hv; exact h4.1 v hv
    · rw [ha1]; exact h4.2 (hb1 ▸ hs)
  · intro hs v hv
    rw [hb3]; rw [ha3] at hv
    exact h5 (hb1 ▸ hs) v hv

end OptProof
end Hpbf
