/-
Substitution lemma for `Expr::symb_evaluate`: its result evaluates as the expression does under the
assignment induced by the substituted expressions (`substVal`), and it is defined exactly when every
variable of the expression is.
-/
import Hpbf.Proofs.C15Basic

namespace Hpbf
namespace Expr
variable {w : Nat}

theorem constant_some {e : Expr w} {c : BitVec w} (h : constant e = some c) :
    (e = [] ∧ c = 0#w) ∨ e = [{ coef := c, vars := [] }] := by
  unfold constant at h
  split at h
  · left; simp_all
  · rename_i p
    split at h
    · rename_i hv
      simp only [Option.some.injEq] at h
      right
      obtain ⟨pc, pv⟩ := p
      simp only [List.isEmpty_iff] at hv
      simp_all
    · cases h
  · cases h

theorem eval_constant (e : Expr w) (c : BitVec w) (f : Int → BitVec w) (h : constant e = some c) :
    evaluate e f = c := by
  rcases constant_some h with ⟨rfl, rfl⟩ | rfl
  · rfl
  · simp [evaluate_singleton]

theorem identity_some {e : Expr w} {v : Int} (h : identity e = some v) :
    e = [{ coef := 1#w, vars := [v] }] := by
  unfold identity at h
  split at h
  · rename_i p
    split at h
    · rename_i hc
      split at h
      · rename_i v' hv
        simp only [Option.some.injEq] at h
        obtain ⟨pc, pv⟩ := p
        simp_all
      · cases h
    · cases h
  · cases h

theorem eval_identity (e : Expr w) (v : Int) (f : Int → BitVec w) (h : identity e = some v) :
    evaluate e f = f v := by
  rw [identity_some h]; simp [evaluate_singleton]

/-- The assignment induced by a symbolic assignment `g`; undefined variables read as 0. -/
def substVal (g : Int → Option (Expr w)) (f : Int → BitVec w) : Int → BitVec w :=
  fun v => match g v with
    | some ev => evaluate ev f
    | none => 0#w

theorem substVal_some {g : Int → Option (Expr w)} {f : Int → BitVec w} {v : Int} {e : Expr w}
    (h : g v = some e) : substVal g f v = evaluate e f := by
  simp [substVal, h]

theorem substProd_eval (g : Int → Option (Expr w)) (f : Int → BitVec w) (vs : List Int)
    (part pr : Expr w) (h : substProd g part vs = some pr) :
    evaluate pr f = evaluate part f * mono (substVal g f) vs := by
  induction vs generalizing part with
  | nil =>
    simp only [substProd, Option.some.injEq] at h
    subst h; simp
  | cons v vs ih =>
    simp only [substProd] at h
    cases hg : g v with
    | none => simp [hg] at h
    | some e =>
      simp only [hg] at h
      rw [ih _ h, eval_mulParts, mono_cons, substVal_some hg, BitVec.mul_assoc]

theorem substProd_isSome (g : Int → Option (Expr w)) (vs : List Int) (part : Expr w) :
    (substProd g part vs).isSome ↔ ∀ v ∈ vs, (g v).isSome := by
  induction vs generalizing part with
  | nil => simp [substProd]
  | cons v vs ih =>
    simp only [substProd]
    cases hg : g v with
    | none => simp [hg]
    | some e => simp [hg, ih]

theorem foldr_scaled (f : Int → BitVec w) (c : BitVec w) (e : Expr w) :
    (e.map (fun vp : Part w => c * vp.coef * mono f vp.vars)).foldr (· + ·) 0#w = c * evaluate e f := by
  induction e with
  | nil => simp
  | cons p e ih => simp only [List.map_cons, List.foldr_cons, ih, evaluate_cons']; grind

theorem evalM_scaledFold (f : Int → BitVec w) (c : BitVec w) (e : Expr w)
    (m : List (List Int × BitVec w)) :
    evalM f (e.foldl (fun m vp => accum m vp.vars (c * vp.coef)) m) = evalM f m + c * evaluate e f := by
  rw [evalM_foldl_accum f (fun vp : Part w => vp.vars) (fun vp => c * vp.coef), foldr_scaled]

/-- The product of the substituted values of `vs`, as `symbLoop` computes it for a part with these variables. -/
def substAll (g : Int → Option (Expr w)) : List Int → Option (Expr w)
  | [] => some [{ coef := 1#w, vars := [] }]
  | v :: vs => (g v).bind (fun e0 => substProd g e0 vs)

/-- The three cases of `symbLoop` (no variable, one, several) are one: substitute, scale by the coefficient,
accumulate. -/
theorem symbLoop_cons (g : Int → Option (Expr w)) (p : Part w) (ps : List (Part w))
    (m : List (List Int × BitVec w)) :
    symbLoop g (p :: ps) m =
      (substAll g p.vars).bind fun pr =>
        symbLoop g ps (pr.foldl (fun m vp => accum m vp.vars (p.coef * vp.coef)) m) := by
  rw [symbLoop]
  split
  · rename_i hv; simp [hv, substAll]
  · rename_i v hv
    rw [hv]; cases hg : g v <;> simp [substAll, hg, substProd]
  · rename_i v vs hne hv
    rw [hv]; cases hg : g v with
    | none => simp [substAll, hg]
    | some e0 => cases hs : substProd g e0 vs <;> simp [substAll, hg, hs]

theorem substAll_eval (g : Int → Option (Expr w)) (f : Int → BitVec w) (vs : List Int) (pr : Expr w)
    (h : substAll g vs = some pr) : evaluate pr f = mono (substVal g f) vs := by
  cases vs with
  | nil => simp only [substAll, Option.some.injEq] at h; subst h; simp [evaluate_singleton]
  | cons v vs =>
    simp only [substAll] at h
    cases hg : g v with
    | none => simp [hg] at h
    | some e0 =>
      simp only [hg, Option.bind_some] at h
      rw [substProd_eval g f vs e0 pr h, mono_cons, substVal_some hg]

theorem substAll_isSome (g : Int → Option (Expr w)) (vs : List Int) :
    (substAll g vs).isSome ↔ ∀ v ∈ vs, (g v).isSome := by
  cases vs with
  | nil => simp [substAll]
  | cons v vs => cases hg : g v <;> simp [substAll, hg, substProd_isSome]

theorem symbLoop_eval (g : Int → Option (Expr w)) (f : Int → BitVec w) (ps : List (Part w))
    (m m' : List (List Int × BitVec w)) (h : symbLoop g ps m = some m') :
    evalM f m' = evalM f m + evaluate ps (substVal g f) := by
  induction ps generalizing m with
  | nil =>
    simp only [symbLoop, Option.some.injEq] at h
    subst h; simp
  | cons p ps ih =>
    rw [symbLoop_cons] at h
    cases hs : substAll g p.vars with
    | none => simp [hs] at h
    | some pr =>
      simp only [hs, Option.bind_some] at h
      rw [ih _ h, evalM_scaledFold, substAll_eval g f _ pr hs, evaluate_cons']
      ac_rfl

theorem symbLoop_isSome (g : Int → Option (Expr w)) (ps : List (Part w))
    (m : List (List Int × BitVec w)) :
    (symbLoop g ps m).isSome ↔ ∀ v ∈ variables ps, (g v).isSome := by
  induction ps generalizing m with
  | nil => simp [symbLoop, variables]
  | cons p ps ih =>
    have hvars : variables (p :: ps) = p.vars ++ variables ps := by simp [variables]
    rw [symbLoop_cons, hvars]
    have := substAll_isSome g p.vars
    cases hs : substAll g p.vars with
    | none =>
      rw [hs] at this
      simp only [Option.isSome_none, Bool.false_eq_true, false_iff] at this
      simp only [Option.bind_none, Option.isSome_none, Bool.false_eq_true, false_iff]
      exact fun hall => this fun v hv => hall v (List.mem_append_left _ hv)
    | some pr =>
      rw [hs] at this
      simp only [Option.isSome_some, true_iff] at this
      simp only [Option.bind_some, ih, List.mem_append]
      exact ⟨fun hall v hv => hv.elim (this v) (hall v), fun hall v hv => hall v (Or.inr hv)⟩

/-- No side condition on `g`: a `some` result implies that every variable `substVal` is asked for is
defined, so its default 0 is never read. -/
theorem eval_symbEvaluate (e e' : Expr w) (g : Int → Option (Expr w)) (f : Int → BitVec w)
    (h : symbEvaluate e g = some e') :
    evaluate e' f = evaluate e (substVal g f) := by
  unfold symbEvaluate at h
  split at h
  · rename_i v hid
    rw [eval_identity e v _ hid, substVal_some h]
  · split at h
    · rename_i c hc
      simp only [Option.some.injEq] at h
      subst h
      rw [eval_val, eval_constant e c _ hc]
    · split at h
      · cases h
      · rename_i m hm
        simp only [Option.some.injEq] at h
        subst h
        rw [evaluate_finish, symbLoop_eval g f e [] m hm]; simp

theorem symbEvaluate_isSome (e : Expr w) (g : Int → Option (Expr w)) :
    (symbEvaluate e g).isSome ↔ ∀ v ∈ variables e, (g v).isSome := by
  unfold symbEvaluate
  split
  · rename_i v hid
    rw [identity_some hid]; simp [variables]
  · split
    · rename_i c hc
      rcases constant_some hc with ⟨rfl, _⟩ | rfl <;> simp [variables]
    · have := symbLoop_isSome g e []
      split
      · rename_i hn
        rw [hn] at this; simpa using this
      · rename_i m hm
        rw [hm] at this; simpa using this

end Expr
end Hpbf
