/-
The tape API (`runtime::Memory<C>`, model `Hpbf.Mem`) is an unbounded zero-initialised array under any call
history.  All claims are made for states and arguments below `Mem.bound = 2^59` cells (the range guard, see
there); outside it the model says what wraps and no claim is made.
-/
import Hpbf.Mem

namespace Hpbf

theorem asI64_wrapU64 {x : Int} (h1 : -2 ^ 63 ≤ x) (h2 : x < 2 ^ 63) :
    asI64 (wrapU64 x) = x := by
  unfold asI64 wrapU64 two63 two64
  split <;> omega

theorem wrapU64_lt (x : Int) : wrapU64 x < two64 := by
  unfold wrapU64 two64; omega

theorem wrapU64_nonneg {x : Int} (h1 : 0 ≤ x) (h2 : x < 2 ^ 64) :
    wrapU64 x = x.toNat := by
  unfold wrapU64 two64; omega

theorem wrapU64_neg {x : Int} (h1 : x < 0) (h2 : -18446744073709551616 ≤ x) :
    (wrapU64 x : Int) = x + 18446744073709551616 := by
  unfold wrapU64 two64; omega

theorem asI64_small {n : Nat} (h : n < two63) : asI64 n = n := by
  unfold asI64; simp [h]

theorem wrapU64_cast (x : Int) : (wrapU64 x : Int) = x % (two64 : Int) :=
  Int.toNat_of_nonneg (Int.emod_nonneg _ (by decide))

/-- `o as isize` is congruent to `o` modulo `2^64`: whatever is computed from it and then wrapped could as
well have been computed from `o`. -/
theorem asI64_emod (o : Nat) : asI64 o % (two64 : Int) = (o : Int) % (two64 : Int) := by
  unfold asI64
  split
  · rfl
  · exact Int.sub_emod_right _ _

theorem wrapU64_asI64 {o : Nat} (h : o < two64) : wrapU64 (asI64 o) = o := by
  unfold wrapU64
  rw [asI64_emod, ← Int.natCast_emod, Int.toNat_natCast, Nat.mod_eq_of_lt h]

/-- `o.wrapping_add_signed(x)` only depends on `o as isize`. -/
theorem wrapU64_off (o : Nat) (x : Int) :
    wrapU64 ((o : Int) + x) = wrapU64 (asI64 o + x) := by
  unfold wrapU64
  rw [← Int.emod_add_emod (asI64 o), asI64_emod, Int.emod_add_emod]

theorem wrapU64_asI64_mul (o k : Nat) : wrapU64 (asI64 o * (k : Int)) = (o * k) % two64 := by
  unfold wrapU64
  rw [Int.mul_emod, asI64_emod, ← Int.mul_emod, ← Int.natCast_mul, ← Int.natCast_emod,
    Int.toNat_natCast]

theorem wrapU64_wrapU64_add (x y : Int) : wrapU64 ((wrapU64 x : Nat) + y) = wrapU64 (x + y) := by
  rw [wrapU64_cast]
  unfold wrapU64
  rw [Int.emod_add_emod]

/-- `o.wrapping_add_signed(x) as isize` is the signed sum as long as that fits an `isize`. -/
theorem asI64_wrapU64_off {o : Nat} {x : Int} (h1 : -2 ^ 63 ≤ asI64 o + x)
    (h2 : asI64 o + x < 2 ^ 63) : asI64 (wrapU64 (o + x)) = asI64 o + x := by
  rw [wrapU64_off]
  exact asI64_wrapU64 h1 h2

/-- Below `2^60` cells a byte distance, at up to 8 bytes a cell, fits an `isize`.  This is where the
guard `2^59` comes from. -/
theorem mul_small {x : Int} {k : Nat} (hk : k ≤ 8) (h1 : -2 ^ 60 < x) (h2 : x < 2 ^ 60) :
    -2 ^ 63 < x * (k : Int) ∧ x * (k : Int) < 2 ^ 63 := by
  have hk' : (k : Int) ≤ 8 := by omega
  have hk0 : (0 : Int) ≤ k := by omega
  by_cases h0 : 0 ≤ x
  · have t1 : x * k ≤ x * 8 := Int.mul_le_mul_of_nonneg_left hk' h0
    have t0 : 0 ≤ x * k := Int.mul_nonneg h0 hk0
    omega
  · have t1 : x * 8 ≤ x * k := Int.mul_le_mul_of_nonpos_left (by omega) hk'
    have t0 : x * k ≤ 0 := Int.mul_nonpos_of_nonpos_of_nonneg (by omega) hk0
    omega

/-- The unsigned compare of `check_ptr` on such a byte distance `q * k`: a negative `q` wraps to at
least `2^63` bytes, which is at least `2^60` cells. -/
theorem wrapU64_mul_div_lt {k : Nat} (hk1 : 1 ≤ k) (hk8 : k ≤ 8) {q : Int} {S : Nat}
    (hq1 : -2 ^ 60 < q) (hq2 : q < 2 ^ 60) (hS : (S : Int) ≤ 2 ^ 60) :
    wrapU64 (q * k) / k < S ↔ 0 ≤ q ∧ q < S := by
  rw [Nat.div_lt_iff_lt_mul (by omega)]
  have hk : (0 : Int) < k := by omega
  obtain ⟨r1, r2⟩ := mul_small hk8 hq1 hq2
  have hSk : ((S * k : Nat) : Int) = (S : Int) * k := Int.natCast_mul S k
  have hS8 : (S : Int) * k ≤ S * 8 := Int.mul_le_mul_of_nonneg_left (by omega) (by omega)
  by_cases h0 : 0 ≤ q
  · have t0 : 0 ≤ q * k := Int.mul_nonneg h0 (by omega)
    have hlt : q * k < (S : Int) * k ↔ q < S := Int.mul_lt_mul_right hk
    rw [wrapU64_nonneg t0 (by omega)]
    omega
  · have t0 : q * k < 0 := Int.mul_neg_of_neg_of_pos (by omega) hk
    have e := wrapU64_neg t0 (by omega)
    omega

/-- The three-case `match` for `added_below` in `make_accessible`, on numbers: `nb`, `na` cells are
needed below and above, `n` are added in all. -/
theorem addedBelow_cases {nb na n ab : Nat} (h : nb + na ≤ n)
    (hab : ab = if nb = 0 then 0 else if na = 0 then n else min (max nb (n / 2)) (n - na)) :
    nb ≤ ab ∧ ab + na ≤ n ∧ (nb = 0 → ab = 0) ∧ (nb ≠ 0 → na = 0 → ab = n) ∧
    (nb ≠ 0 → na ≠ 0 → ab = max nb (n / 2) ∨ ab = n - na) := by
  by_cases h0 : nb = 0
  · rw [if_pos h0] at hab
    exact ⟨by omega, by omega, fun _ => hab, fun h => absurd h0 h, fun h => absurd h0 h⟩
  · by_cases h1 : na = 0
    · rw [if_neg h0, if_pos h1] at hab
      exact ⟨by omega, by omega, fun h => absurd h h0, fun _ _ => hab, fun _ h => absurd h1 h⟩
    · rw [if_neg h0, if_neg h1] at hab
      have hle : ab ≤ n - na := hab ▸ Nat.min_le_right _ _
      have hge : nb ≤ ab := hab ▸ Nat.le_min.2 ⟨Nat.le_max_left _ _, by omega⟩
      refine ⟨hge, by omega, fun h => absurd h h0, fun _ h => absurd h h1, fun _ _ => ?_⟩
      rw [hab]
      rcases Nat.le_total (max nb (n / 2)) (n - na) with c | c
      · exact Or.inl (Nat.min_eq_left c)
      · exact Or.inr (Nat.min_eq_right c)

namespace Mem
variable {w : Nat}

/-- Representation invariant of `Memory`. -/
def WF (m : Mem w) : Prop := m.size = m.buf.size ∧ m.offset < two64

/-- `2^59` cells, the range guard on `size`, `|offset as isize|` and `|argument|`.  Assumed: the real code
cannot leave this range before the allocator fails, because `Layout::array::<C>(n)` needs
`n * size_of::<C>() ≤ isize::MAX = 2^63 - 1` bytes and no x86-64 process can map more than 2^56 bytes
(57-bit linear addresses, half of them user space); offsets and arguments are compile-time `isize`
constants of a program whose text must fit in the same address space.  `2^59` rather than `2^61`/`2^62`
because the byte-pointer theorems (`setCurrentPtr_currentPtr'`, `checkPtr_currentPtr'`) need `offset * 8`
and `(offset + off) * 8` not to wrap in an `isize` for 8-byte cells (`mul_small`). -/
def bound : Int := 576460752303423488

theorem bound_eq : bound = 2 ^ 59 := by decide

def Small (m : Mem w) : Prop :=
  (m.size : Int) < bound ∧ -bound < asI64 m.offset ∧ asI64 m.offset < bound

def SmallArg (x : Int) : Prop := -bound < x ∧ x < bound

instance (m : Mem w) : Decidable (WF m) := by unfold WF; infer_instance
instance (m : Mem w) : Decidable (Small m) := by unfold Small; infer_instance
instance (x : Int) : Decidable (SmallArg x) := by unfold SmallArg; infer_instance

/-- The two ends of a `make_accessible` request.  Closed, so that it covers the request `[off, off + 1)` of
`write_out_of_bounds` for every guarded `off`. -/
def RangeGuard (a b : Int) : Prop := -bound ≤ a ∧ a ≤ bound ∧ -bound ≤ b ∧ b ≤ bound

theorem SmallArg.range {a b : Int} (ha : SmallArg a) (hb : SmallArg b) : RangeGuard a b :=
  ⟨Int.le_of_lt ha.1, Int.le_of_lt ha.2, Int.le_of_lt hb.1, Int.le_of_lt hb.2⟩

theorem SmallArg.cellRange {off : Int} (ho : SmallArg off) : RangeGuard off (off + 1) := by
  obtain ⟨o1, o2⟩ := ho
  unfold RangeGuard bound at *
  omega

def cell (m : Mem w) (off : Int) : BitVec w :=
  let p := asI64 m.offset + off
  if 0 ≤ p ∧ p < m.size then m.buf[p.toNat]?.getD 0#w else 0#w

/-- Core of every bounds test: an unsigned compare of the wrapped sum against `size`. -/
theorem wrap_lt_iff_raw {o S : Nat} {x : Int} (hS : (S : Int) ≤ 2 ^ 63)
    (h1 : -2 ^ 63 ≤ asI64 o + x) (h2 : asI64 o + x < 2 ^ 63) :
    wrapU64 (o + x) < S ↔ 0 ≤ asI64 o + x ∧ asI64 o + x < S := by
  rw [wrapU64_off]
  generalize asI64 o = O at *
  unfold wrapU64 two64
  omega

theorem wrap_eq_toNat_raw {o : Nat} {x : Int} (h0 : 0 ≤ asI64 o + x) (h2 : asI64 o + x < 2 ^ 63) :
    wrapU64 (o + x) = (asI64 o + x).toNat := by
  rw [wrapU64_off]
  apply wrapU64_nonneg h0
  omega

theorem wrap_lt_size_iff {m : Mem w} {off : Int} (hs : Small m) (ho : SmallArg off) :
    wrapU64 (m.offset + off) < m.size ↔
      0 ≤ asI64 m.offset + off ∧ asI64 m.offset + off < m.size := by
  obtain ⟨h1, h2, h3⟩ := hs
  obtain ⟨h4, h5⟩ := ho
  unfold bound at *
  apply wrap_lt_iff_raw <;> omega

theorem wrap_eq_toNat {m : Mem w} {off : Int} (hs : Small m) (ho : SmallArg off)
    (h0 : 0 ≤ asI64 m.offset + off) :
    wrapU64 (m.offset + off) = (asI64 m.offset + off).toNat := by
  obtain ⟨h1, h2, h3⟩ := hs
  obtain ⟨h4, h5⟩ := ho
  unfold bound at *
  apply wrap_eq_toNat_raw h0
  omega

theorem mov_offset {m : Mem w} {d : Int} (hs : Small m) (hd : SmallArg d) :
    asI64 (m.mov d).offset = asI64 m.offset + d := by
  obtain ⟨h1, h2, h3⟩ := hs
  obtain ⟨h4, h5⟩ := hd
  unfold bound at *
  apply asI64_wrapU64_off <;> omega

/-- `needed_below` without wrap-arounds (valid under the guard): `max 0 (-(offset + start))`. -/
def neededBelow (m : Mem w) (start : Int) : Nat := (-(asI64 m.offset + start)).toNat
/-- `needed_above` without wrap-arounds: `max 0 (offset + stop - size)`. -/
def neededAbove (m : Mem w) (stop : Int) : Nat := (asI64 m.offset + stop - m.size).toNat
def newSize (m : Mem w) (start stop : Int) : Nat :=
  m.size + max (m.size / 2) (m.neededBelow start + m.neededAbove stop)
def addedBelow (m : Mem w) (start stop : Int) : Nat :=
  if m.neededBelow start = 0 then 0
  else if m.neededAbove stop = 0 then m.newSize start stop - m.size
  else min (max (m.neededBelow start) ((m.newSize start stop - m.size) / 2))
    (m.newSize start stop - m.size - m.neededAbove stop)

def growthSpec (m : Mem w) (start stop : Int) : Nat × Nat × Nat × Nat :=
  (m.neededBelow start, m.neededAbove stop, m.newSize start stop, m.addedBelow start stop)

theorem growth_eq_of_noWrap {m : Mem w} {a b : Int} (hS : (m.size : Int) < 2 ^ 63)
    (ha1 : -2 ^ 63 ≤ asI64 m.offset + a) (ha2 : asI64 m.offset + a < 2 ^ 63)
    (hb1 : -2 ^ 63 ≤ asI64 m.offset + b) (hb2 : asI64 m.offset + b < 2 ^ 63) :
    m.growth a b = m.growthSpec a b := by
  have e3 : asI64 m.size = m.size := by
    apply asI64_small; unfold two63; omega
  unfold growth growthSpec addedBelow newSize neededBelow neededAbove
  simp only [asI64_wrapU64 ha1 ha2, asI64_wrapU64 hb1 hb2, e3]
  have hnb : (if asI64 m.offset + a < 0 then (asI64 m.offset + a).natAbs else 0)
      = (-(asI64 m.offset + a)).toNat := by
    split <;> omega
  have hna : (if asI64 m.offset + b > (m.size : Int) then wrapU64 (asI64 m.offset + b - m.size) else 0)
      = (asI64 m.offset + b - m.size).toNat := by
    split
    · apply wrapU64_nonneg <;> omega
    · omega
  rw [hnb, hna]

theorem growth_eq {m : Mem w} {a b : Int} (hs : Small m)
    (hr : RangeGuard a b) :
    m.growth a b = m.growthSpec a b := by
  obtain ⟨h1, h2, h3⟩ := hs
  obtain ⟨ha1, ha2, hb1, hb2⟩ := hr
  unfold bound at *
  apply growth_eq_of_noWrap <;> omega

/-- `m'` is `m` with `ab` zero cells added below and `g` above; the pointer moves up by `ab`, so it
designates the same logical cell.  Every fact about `make_accessible` below is read off this. -/
structure Grown (m m' : Mem w) (ab g : Nat) : Prop where
  buf : m'.buf = Array.replicate ab 0#w ++ m.buf ++ Array.replicate g 0#w
  size : m'.size = ab + m.size + g
  offset_lt : m'.offset < two64
  offset : asI64 m'.offset = asI64 m.offset + ab

theorem Grown.wf {m m' : Mem w} {ab g : Nat} (h : Grown m m' ab g) (hwf : WF m) : WF m' := by
  refine ⟨?_, h.offset_lt⟩
  rw [h.size, h.buf, hwf.1]
  simp only [Array.size_append, Array.size_replicate]

/-- Under `WF` the upper bounds test of `cell` is implied by the buffer lookup. -/
theorem cell_eq_getD {m : Mem w} (hwf : WF m) (off : Int) :
    m.cell off =
      if 0 ≤ asI64 m.offset + off then m.buf[(asI64 m.offset + off).toNat]?.getD 0#w else 0#w := by
  unfold cell
  simp only
  by_cases h0 : 0 ≤ asI64 m.offset + off
  · rw [if_pos h0]
    by_cases h1 : asI64 m.offset + off < m.size
    · rw [if_pos ⟨h0, h1⟩]
    · rw [if_neg (fun h => h1 h.2), Array.getElem?_eq_none (by have := hwf.1; omega)]
      rfl
  · rw [if_neg h0, if_neg (fun h => h0 h.1)]

theorem getD_grown (buf : Array (BitVec w)) (ab g i : Nat) :
    (Array.replicate ab 0#w ++ buf ++ Array.replicate g 0#w)[i]?.getD 0#w =
      if ab ≤ i then buf[i - ab]?.getD 0#w else 0#w := by
  simp only [Array.getElem?_append, Array.getElem?_replicate, Array.size_append, Array.size_replicate]
  by_cases h1 : i < ab
  · rw [if_pos (by omega), if_pos h1, if_pos h1, if_neg (by omega)]
    rfl
  · rw [if_pos (by omega : ab ≤ i)]
    by_cases h2 : i < ab + buf.size
    · rw [if_pos h2, if_neg h1]
    · rw [if_neg h2, Array.getElem?_eq_none (by omega)]
      split <;> rfl

theorem Grown.cell {m m' : Mem w} {ab g : Nat} (h : Grown m m' ab g) (hwf : WF m) (off : Int) :
    m'.cell off = m.cell off := by
  rw [cell_eq_getD (h.wf hwf), cell_eq_getD hwf, h.offset, h.buf, getD_grown]
  generalize asI64 m.offset = O
  by_cases c1 : 0 ≤ O + off
  · have e : (O + (ab : Int) + off).toNat - ab = (O + off).toNat := by omega
    rw [if_pos (by omega), if_pos (by omega), if_pos c1, e]
  · rw [if_neg c1]
    split
    · rw [if_neg (by omega)]
    · rfl

def NoGrowth (m : Mem w) (a b : Int) : Prop := m.neededBelow a = 0 ∧ m.neededAbove b = 0

instance (m : Mem w) (a b : Int) : Decidable (NoGrowth m a b) := by unfold NoGrowth; infer_instance

theorem noGrowth_iff (m : Mem w) (a b : Int) :
    NoGrowth m a b ↔ 0 ≤ asI64 m.offset + a ∧ asI64 m.offset + b ≤ m.size := by
  unfold NoGrowth neededBelow neededAbove; omega

theorem makeAccessible_eq {m : Mem w} {a b : Int} (hs : Small m)
    (hr : RangeGuard a b) :
    m.makeAccessible a b =
      if NoGrowth m a b then m
      else
        { buf := Array.replicate (m.addedBelow a b) 0#w ++ m.buf ++
            Array.replicate (m.newSize a b - m.size - m.addedBelow a b) 0#w
          size := m.newSize a b
          offset := wrapU64 (m.offset + m.addedBelow a b) } := by
  unfold makeAccessible
  rw [growth_eq hs hr]
  rfl

theorem newSize_sub_size (m : Mem w) (a b : Int) :
    m.newSize a b - m.size = max (m.size / 2) (m.neededBelow a + m.neededAbove b) :=
  Nat.add_sub_cancel_left _ _

theorem addedBelow_bounds (m : Mem w) (a b : Int) :
    m.neededBelow a ≤ m.addedBelow a b ∧
    m.addedBelow a b + m.neededAbove b ≤ m.newSize a b - m.size ∧
    (m.neededBelow a = 0 → m.addedBelow a b = 0) ∧
    (m.neededBelow a ≠ 0 → m.neededAbove b = 0 → m.addedBelow a b = m.newSize a b - m.size) ∧
    (m.neededBelow a ≠ 0 → m.neededAbove b ≠ 0 →
      m.addedBelow a b = max (m.neededBelow a) ((m.newSize a b - m.size) / 2) ∨
      m.addedBelow a b = m.newSize a b - m.size - m.neededAbove b) :=
  addedBelow_cases (by rw [newSize_sub_size]; omega) rfl

/-- `4 * bound`: under the guard `needed_below` and `needed_above` are each at most `2 * bound` (offset plus
argument), and `size / 2` is less. -/
theorem newSize_sub_size_le {m : Mem w} {a b : Int} (hs : Small m) (hr : RangeGuard a b) :
    ((m.newSize a b - m.size : Nat) : Int) ≤ 4 * bound := by
  obtain ⟨s1, s2, s3⟩ := hs
  obtain ⟨ha1, -, -, hb2⟩ := hr
  rw [newSize_sub_size]
  unfold neededBelow neededAbove bound at *
  omega

theorem addedBelow_offset {m : Mem w} {a b : Int} (hs : Small m) (hr : RangeGuard a b) :
    asI64 (wrapU64 (m.offset + m.addedBelow a b)) = asI64 m.offset + m.addedBelow a b := by
  obtain ⟨-, h2, -⟩ := addedBelow_bounds m a b
  have hN := newSize_sub_size_le hs hr
  obtain ⟨-, s2, s3⟩ := hs
  unfold bound at *
  apply asI64_wrapU64_off <;> omega

theorem makeAccessible_grown {m : Mem w} {a b : Int} (hwf : WF m) (hs : Small m)
    (hr : RangeGuard a b) :
    Grown m (m.makeAccessible a b)
      (if NoGrowth m a b then 0 else m.addedBelow a b)
      (if NoGrowth m a b then 0 else m.newSize a b - m.size - m.addedBelow a b) := by
  rw [makeAccessible_eq hs hr]
  by_cases hn : NoGrowth m a b
  · simp only [if_pos hn]
    exact ⟨by simp, by simp, hwf.2, by simp⟩
  · simp only [if_neg hn]
    obtain ⟨-, h2, -⟩ := addedBelow_bounds m a b
    have hle : m.size ≤ m.newSize a b := Nat.le_add_right _ _
    refine ⟨rfl, ?_, wrapU64_lt (m.offset + m.addedBelow a b), addedBelow_offset hs hr⟩
    show m.newSize a b = _
    omega

theorem makeAccessible_wf' {m : Mem w} {a b : Int} (hwf : WF m) (hs : Small m)
    (hr : RangeGuard a b) :
    WF (m.makeAccessible a b) :=
  (makeAccessible_grown hwf hs hr).wf hwf

theorem makeAccessible_cell' {m : Mem w} {a b : Int} (hwf : WF m) (hs : Small m)
    (hr : RangeGuard a b) (off : Int) :
    (m.makeAccessible a b).cell off = m.cell off :=
  (makeAccessible_grown hwf hs hr).cell hwf off

/-- `5 * bound`: the size before (`< bound`) plus a growth of at most `4 * bound` (`newSize_sub_size_le`);
what is used of it is that it is below `2^63`. -/
theorem makeAccessible_cover {m : Mem w} {a b : Int} (hwf : WF m) (hs : Small m)
    (hr : RangeGuard a b) :
    0 ≤ asI64 (m.makeAccessible a b).offset + a ∧
    asI64 (m.makeAccessible a b).offset + b ≤ (m.makeAccessible a b).size ∧
    ((m.makeAccessible a b).size : Int) ≤ 5 * bound := by
  have G := makeAccessible_grown hwf hs hr
  rw [G.offset, G.size]
  by_cases hn : NoGrowth m a b
  · have h := (noGrowth_iff m a b).1 hn
    have s1 := hs.1
    simp only [if_pos hn]
    unfold bound at *
    omega
  · obtain ⟨h1, h2, -⟩ := addedBelow_bounds m a b
    have hN := newSize_sub_size_le hs hr
    have s1 := hs.1
    simp only [if_neg hn]
    unfold neededBelow at h1
    unfold neededAbove at h2
    omega

theorem makeAccessible_inside {m : Mem w} {a b i : Int} (hwf : WF m) (hs : Small m)
    (hr : RangeGuard a b)
    (hi1 : a ≤ i) (hi2 : i < b) :
    0 ≤ asI64 (m.makeAccessible a b).offset + i ∧
    asI64 (m.makeAccessible a b).offset + i < (m.makeAccessible a b).size ∧
    wrapU64 ((m.makeAccessible a b).offset + i) = (asI64 (m.makeAccessible a b).offset + i).toNat := by
  obtain ⟨c1, c2, c3⟩ := makeAccessible_cover hwf hs hr
  have p1 : 0 ≤ asI64 (m.makeAccessible a b).offset + i := by omega
  refine ⟨p1, by omega, wrap_eq_toNat_raw p1 ?_⟩
  unfold bound at c3
  omega

theorem cell_set {m : Mem w} (hwf : WF m) {off : Int} (v : BitVec w)
    (h0 : 0 ≤ asI64 m.offset + off) (h1 : asI64 m.offset + off < m.size) (off' : Int) :
    ({ m with buf := m.buf.setIfInBounds (asI64 m.offset + off).toNat v } : Mem w).cell off' =
      if off' = off then v else m.cell off' := by
  unfold cell
  simp only [Array.getElem?_setIfInBounds]
  have hsz := hwf.1
  generalize asI64 m.offset = O at *
  by_cases e : off' = off
  · subst e
    rw [if_pos rfl, if_pos ⟨h0, h1⟩, if_pos rfl, if_pos (by omega)]
    rfl
  · rw [if_neg e]
    split
    · rw [if_neg (by omega)]
    · rfl

/-- `size_of::<C>()` for the four cell types of `impl CellType`; the byte-pointer theorems need only this range. -/
theorem cellBytes_range (hw : w = 8 ∨ w = 16 ∨ w = 32 ∨ w = 64) :
    1 ≤ cellBytes w ∧ cellBytes w ≤ 8 := by
  rcases hw with h | h | h | h <;> subst h <;> decide

theorem currentPtr_eq (m : Mem w) :
    m.currentPtr = wrapU64 (asI64 m.offset * (cellBytes w : Int)) :=
  (wrapU64_asI64_mul _ _).symm

theorem setCurrentPtr_offset {m : Mem w} (hk : 1 ≤ cellBytes w ∧ cellBytes w ≤ 8) (hwf : WF m)
    (hs : Small m) :
    wrapU64 (Int.tdiv (asI64 m.currentPtr) (cellBytes w : Int)) = m.offset := by
  obtain ⟨-, s2, s3⟩ := hs
  obtain ⟨r1, r2⟩ := mul_small hk.2 (x := asI64 m.offset) (by unfold bound at *; omega)
    (by unfold bound at *; omega)
  rw [currentPtr_eq, asI64_wrapU64 (Int.le_of_lt r1) r2, Int.mul_tdiv_cancel _ (by omega),
    wrapU64_asI64 hwf.2]

theorem setCurrentPtr_currentPtr' {m : Mem w} (hk : 1 ≤ cellBytes w ∧ cellBytes w ≤ 8) (hwf : WF m)
    (hs : Small m) : m.setCurrentPtr m.currentPtr = m := by
  unfold setCurrentPtr
  rw [setCurrentPtr_offset hk hwf hs]

theorem checkPtr_currentPtr' {m : Mem w} {off : Int} (hk : 1 ≤ cellBytes w ∧ cellBytes w ≤ 8)
    (hs : Small m) (ho : SmallArg off) :
    m.checkPtr (wrapU64 ((m.currentPtr : Int) + off * (cellBytes w : Int))) = m.check off := by
  unfold checkPtr check
  rw [decide_eq_decide, wrap_lt_size_iff hs ho, currentPtr_eq, wrapU64_wrapU64_add, ← Int.add_mul]
  obtain ⟨s1, s2, s3⟩ := hs
  obtain ⟨o1, o2⟩ := ho
  unfold bound at *
  apply wrapU64_mul_div_lt hk.1 hk.2 <;> omega

end Mem

/-- The abstract specification: an unbounded zero-initialised tape. -/
structure Spec (w : Nat) where
  tape : Int → BitVec w
  ptr : Int

inductive MemOp (w : Nat) where
  | mov (d : Int)
  | read (off : Int)
  | write (off : Int) (v : BitVec w)
  | makeAccessible (a b : Int)
  | check (off : Int)

namespace Spec
variable {w : Nat}

def zero : Spec w := { tape := fun _ => 0#w, ptr := 0 }

/-- `make_accessible` is a no-op, `check` has no visible effect (its result is deliberately unconstrained),
only `read` produces an output. -/
def apply (s : Spec w) : MemOp w → Spec w × Option (BitVec w)
  | .mov d => ({ s with ptr := s.ptr + d }, none)
  | .read off => (s, some (s.tape (s.ptr + off)))
  | .write off v => ({ s with tape := fun i => if i = s.ptr + off then v else s.tape i }, none)
  | .makeAccessible _ _ => (s, none)
  | .check _ => (s, none)

/-- One output slot per call (`some v` for reads, `none` otherwise). -/
def run (s : Spec w) : List (MemOp w) → Spec w × List (Option (BitVec w))
  | [] => (s, [])
  | op :: ops =>
    let r := s.apply op
    let rs := run r.1 ops
    (rs.1, r.2 :: rs.2)

end Spec

namespace Mem
variable {w : Nat}

def apply (m : Mem w) : MemOp w → Mem w × Option (BitVec w)
  | .mov d => (m.mov d, none)
  | .read off => (m, some (m.read off))
  | .write off v => (m.write off v, none)
  | .makeAccessible a b => (m.makeAccessible a b, none)
  | .check _ => (m, none)

def run (m : Mem w) : List (MemOp w) → Mem w × List (Option (BitVec w))
  | [] => (m, [])
  | op :: ops =>
    let r := m.apply op
    let rs := run r.1 ops
    (rs.1, r.2 :: rs.2)

def ArgGuard : MemOp w → Prop
  | .mov d => SmallArg d
  | .read off => SmallArg off
  | .write off _ => SmallArg off
  | .makeAccessible a b => SmallArg a ∧ SmallArg b
  | .check off => SmallArg off

instance (op : MemOp w) : Decidable (ArgGuard op) := by
  cases op <;> unfold ArgGuard <;> infer_instance

def Guard (m : Mem w) (op : MemOp w) : Prop := Small m ∧ ArgGuard op

instance (m : Mem w) (op : MemOp w) : Decidable (Guard m op) := by unfold Guard; infer_instance

def GuardAll (m : Mem w) : List (MemOp w) → Prop
  | [] => True
  | op :: ops => Guard m op ∧ GuardAll (m.apply op).1 ops

instance decGuardAll : (m : Mem w) → (ops : List (MemOp w)) → Decidable (GuardAll m ops)
  | _, [] => isTrue trivial
  | m, op :: ops =>
    have := decGuardAll (m.apply op).1 ops
    by unfold GuardAll; infer_instance

def Abs (m : Mem w) (s : Spec w) : Prop := ∀ off : Int, m.cell off = s.tape (s.ptr + off)

theorem abs_new : Abs (Mem.new : Mem w) Spec.zero := by
  intro off
  unfold cell new Spec.zero
  simp

theorem wf_new : WF (Mem.new : Mem w) := by
  unfold WF new two64; simp

theorem small_new : Small (Mem.new : Mem w) := by
  unfold Small new asI64 two63 bound; simp

theorem run_append (m : Mem w) (xs ys : List (MemOp w)) :
    m.run (xs ++ ys) = ((m.run xs).1.run ys |>.1, (m.run xs).2 ++ ((m.run xs).1.run ys).2) := by
  induction xs generalizing m with
  | nil => rfl
  | cons x xs ih =>
    show (((m.apply x).1.run (xs ++ ys)).1, (m.apply x).2 :: ((m.apply x).1.run (xs ++ ys)).2) = _
    rw [ih]
    rfl

theorem run_length (m : Mem w) (ops : List (MemOp w)) : (m.run ops).2.length = ops.length := by
  induction ops generalizing m with
  | nil => rfl
  | cons op ops ih =>
    show ((m.apply op).1.run ops).2.length + 1 = ops.length + 1
    rw [ih]

theorem run_prefix_out (m : Mem w) (xs ys : List (MemOp w)) (i : Nat) (hi : i < xs.length) :
    (m.run (xs ++ ys)).2[i]? = (m.run xs).2[i]? := by
  rw [run_append]
  simp only
  rw [List.getElem?_append_left (by rw [run_length]; exact hi)]

end Mem

namespace MemOp
variable {w : Nat}

def ptrAfter (p : Int) : List (MemOp w) → Int
  | [] => p
  | .mov d :: ops => ptrAfter (p + d) ops
  | _ :: ops => ptrAfter p ops

/-- "Most recently written value" stated on the history itself, without `Spec`: `p` is the pointer at the
start, `none` means never written. -/
def lastWrite (p : Int) (pos : Int) : List (MemOp w) → Option (BitVec w)
  | [] => none
  | .mov d :: ops => lastWrite (p + d) pos ops
  | .write off v :: ops =>
    match lastWrite p pos ops with
    | some v' => some v'
    | none => if pos = p + off then some v else none
  | _ :: ops => lastWrite p pos ops

theorem lastWrite_write (p pos off : Int) (v : BitVec w) (ops : List (MemOp w)) :
    lastWrite p pos (.write off v :: ops) =
      match lastWrite p pos ops with
      | some v' => some v'
      | none => if pos = p + off then some v else none := rfl

end MemOp

namespace Spec
variable {w : Nat}

theorem run_ptr (s : Spec w) (ops : List (MemOp w)) : (s.run ops).1.ptr = MemOp.ptrAfter s.ptr ops := by
  induction ops generalizing s with
  | nil => rfl
  | cons op ops ih =>
    show ((s.apply op).1.run ops).1.ptr = _
    rw [ih]
    cases op <;> rfl

theorem run_tape (s : Spec w) (ops : List (MemOp w)) (pos : Int) :
    (s.run ops).1.tape pos = (MemOp.lastWrite s.ptr pos ops).getD (s.tape pos) := by
  induction ops generalizing s with
  | nil => rfl
  | cons op ops ih =>
    show ((s.apply op).1.run ops).1.tape pos = _
    rw [ih]
    cases op with
    | write off v =>
      show (MemOp.lastWrite s.ptr pos ops).getD (if pos = s.ptr + off then v else s.tape pos) = _
      rw [MemOp.lastWrite_write]
      cases MemOp.lastWrite s.ptr pos ops with
      | some v' => rfl
      | none => by_cases e : pos = s.ptr + off <;> simp [e]
    | _ => rfl

theorem run_append (s : Spec w) (xs ys : List (MemOp w)) :
    s.run (xs ++ ys) = ((s.run xs).1.run ys |>.1, (s.run xs).2 ++ ((s.run xs).1.run ys).2) := by
  induction xs generalizing s with
  | nil => rfl
  | cons x xs ih =>
    show (((s.apply x).1.run (xs ++ ys)).1, (s.apply x).2 :: ((s.apply x).1.run (xs ++ ys)).2) = _
    rw [ih]
    rfl

theorem run_length (s : Spec w) (ops : List (MemOp w)) : (s.run ops).2.length = ops.length := by
  induction ops generalizing s with
  | nil => rfl
  | cons op ops ih =>
    show ((s.apply op).1.run ops).2.length + 1 = ops.length + 1
    rw [ih]

theorem run_read_out (pre post : List (MemOp w)) (off : Int) :
    ((Spec.zero : Spec w).run (pre ++ MemOp.read off :: post)).2[pre.length]? =
      some (some ((MemOp.lastWrite 0 (MemOp.ptrAfter 0 pre + off) pre).getD 0#w)) := by
  rw [run_append]
  simp only
  rw [List.getElem?_append_right (by rw [run_length]; exact Nat.le_refl _), run_length,
    Nat.sub_self]
  show some (some (((Spec.zero : Spec w).run pre).1.tape (((Spec.zero : Spec w).run pre).1.ptr + off))) = _
  rw [run_ptr, run_tape]
  rfl

end Spec

end Hpbf
