/-
Run-level soundness of the bytecode checker. The definitely-initialised sets and the live-in sets are both
instances of one forward dataflow argument (`Flow`), proved for ARBITRARY solution arrays satisfying
`initOk` / `liveOk`; `Props/C11.lean` instantiates it with the solutions that `BcWf.check` tests.  Also here: reachable
configurations (`Reach`, `Wr`) never step to `.bad`, and a temporary that is not live is dead (`not_live_after`).  That
the checker's own arrays (`BcWf.initSolve`, `liveSolve`) are below every solution, i.e. completeness of the two solvers,
is in `C11AllocSolve` (namespace `C02.Alloc`, where its users are).
-/
import Hpbf.Proofs.C11Agree

namespace Hpbf
namespace C11

open Bc BcWf

variable {w : Nat}

/-- The initial temporaries, budget and state are ARBITRARY. -/
inductive Reach (p : Program w) (limited : Bool) : Cfg w → Prop
  | init (t0 : Temps w) (b : Nat) (s : State w) :
      Reach p limited { pc := 0, temps := t0, budget := b, st := s }
  | step {c c' : Cfg w} : Reach p limited c → Bc.step p limited c = .next c' → Reach p limited c'

/-- `Reach` together with the list `W` of temporaries written on the way. -/
inductive Wr (p : Program w) (limited : Bool) : Cfg w → List Nat → Prop
  | init (t0 : Temps w) (b : Nat) (s : State w) :
      Wr p limited { pc := 0, temps := t0, budget := b, st := s } []
  | step {c c' : Cfg w} {W : List Nat} {ins : Instr w} :
      Wr p limited c W → p.insts[c.pc]? = some ins → Bc.step p limited c = .next c' →
      Wr p limited c' (defs ins ++ W)

def _root_.Hpbf.Bc.touched (ins : Instr w) : List Int := memOps ins

def _root_.Hpbf.Bc.Outcome.cfg : Outcome w → Cfg w
  | .done c => c
  | .stopped c => c
  | .interrupted c => c
  | .bad c => c
  | .outOfFuel c => c

def _root_.Hpbf.Bc.Outcome.tag : Outcome w → Nat
  | .done _ => 0
  | .stopped _ => 1
  | .interrupted _ => 2
  | .bad _ => 3
  | .outOfFuel _ => 4

/-- Same outcome constructor, same final pc, state (tape, pointer, environment, trace) and budget;
the temporaries may differ. -/
def ObsEq (o1 o2 : Outcome w) : Prop :=
  o1.tag = o2.tag ∧ o1.cfg.pc = o2.cfg.pc ∧ o1.cfg.st = o2.cfg.st ∧ o1.cfg.budget = o2.cfg.budget

variable {p : Program w} {limited : Bool}

theorem Wr.reach {c : Cfg w} {W : List Nat}
    (h : Wr p limited c W) : Reach p limited c := by
  induction h with
  | init t0 b s => exact .init t0 b s
  | step _ _ hs ih => exact .step ih hs

theorem step_next_some {c c' : Cfg w}
    (hs : Bc.step p limited c = .next c') : ∃ ins, p.insts[c.pc]? = some ins := by
  cases hi : p.insts[c.pc]? with
  | some ins => exact ⟨ins, rfl⟩
  | none =>
    rw [step_none hi] at hs
    split at hs <;> cases hs

theorem Reach.wr {c : Cfg w}
    (h : Reach p limited c) : ∃ W, Wr p limited c W := by
  induction h with
  | init t0 b s => exact ⟨[], .init t0 b s⟩
  | step _ hs ih =>
    obtain ⟨W, hW⟩ := ih
    obtain ⟨ins, hi⟩ := step_next_some hs
    exact ⟨_, .step hW hi hs⟩

theorem reach_pc_le (L : LocalFacts p) {c : Cfg w}
    (h : Reach p limited c) : c.pc ≤ p.insts.size := by
  induction h with
  | init t0 b s => exact Nat.zero_le _
  | @step c c' _ hs ih =>
    obtain ⟨ins, hi⟩ := step_next_some hs
    rw [step_eq hi] at hs
    obtain ⟨ss, hss⟩ := Option.isSome_iff_exists.mp (L.succ hi)
    rcases stepI_pc hss hs with hj | ⟨hj, _⟩
    · exact succs_le (lt_of_getElem? hi) hss _ hj
    · omega

theorem step_not_bad_of_le (L : LocalFacts p) {c : Cfg w}
    (hle : c.pc ≤ p.insts.size) (c' : Cfg w) : Bc.step p limited c ≠ .bad c' := by
  cases hi : p.insts[c.pc]? with
  | some ins =>
    rw [step_eq hi]
    exact stepI_not_bad (L.dst hi) (L.succ hi) c'
  | none =>
    have hge : p.insts.size ≤ c.pc := by
      by_cases hlt : c.pc < p.insts.size
      · simp [Array.getElem?_eq_getElem hlt] at hi
      · omega
    rw [step_none hi, if_pos (by omega)]
    nofun

theorem reach_no_bad (L : LocalFacts p) {c : Cfg w}
    (h : Reach p limited c) (c' : Cfg w) : Bc.step p limited c ≠ .bad c' :=
  step_not_bad_of_le L (reach_pc_le L h) c'

theorem runCfg_not_bad (L : LocalFacts p) :
    ∀ (fuel : Nat) {c : Cfg w}, Reach p limited c → ∀ c', runCfg p limited fuel c ≠ .bad c' := by
  intro fuel
  induction fuel with
  | zero => intro c _ c'; simp [runCfg]
  | succ fuel ih =>
    intro c hc c'
    unfold runCfg
    cases hs : Bc.step p limited c with
    | next c1 => exact ih (.step hc hs) c'
    | halt c1 | stop c1 | interrupted c1 => simp
    | bad c1 => exact absurd hs (reach_no_bad L hc c1)

theorem run_not_bad (L : LocalFacts p) (limited : Bool) (b fuel : Nat) (env : Env)
    (c' : Cfg w) : Bc.run p limited b fuel env ≠ .bad c' := by
  unfold Bc.run
  simp only
  split
  · simp
  · exact runCfg_not_bad L fuel (.init _ _ _) c'

theorem Flow.next {A : Nat → Nat → Prop} (F : Flow p A) 
    {c c' : Cfg w} {ins : Instr w} (hi : p.insts[c.pc]? = some ins)
    (hs : Bc.step p limited c = .next c') : ∀ t, A c'.pc t → A c.pc t ∨ t ∈ defs ins := by
  rw [step_eq hi] at hs
  obtain ⟨ss, hss, hfl⟩ := F.flow hi
  intro t ht
  rcases stepI_pc hss hs with hj | ⟨hj, _⟩
  · exact hfl _ hj t ht
  · rw [hj] at ht; exact Or.inl ht

theorem Flow.wr {A : Nat → Nat → Prop} (F : Flow p A) (h0 : ∀ t, ¬ A 0 t)
    {c : Cfg w} {W : List Nat} (h : Wr p limited c W) : ∀ t, A c.pc t → t ∈ W := by
  induction h with
  | init t0 b s => intro t ht; exact absurd ht (h0 t)
  | step _ hi hs ih =>
    intro t ht
    rcases F.next hi hs t ht with h | h
    · exact List.mem_append_right _ (ih t h)
    · exact List.mem_append_left _ h

def CfgObs (c1 c2 : Cfg w) : Prop := c1.pc = c2.pc ∧ c1.st = c2.st ∧ c1.budget = c2.budget

theorem Flow.step {A : Nat → Nat → Prop} (F : Flow p A)
    {c1 c2 : Cfg w} (h : Sim (A c1.pc) c1 c2) :
    (Bc.step p limited c1).tag = (Bc.step p limited c2).tag ∧
    CfgObs (Bc.step p limited c1).cfg (Bc.step p limited c2).cfg ∧
    ∀ c1' c2', Bc.step p limited c1 = .next c1' → Bc.step p limited c2 = .next c2' →
      Sim (A c1'.pc) c1' c2' := by
  cases hi : p.insts[c1.pc]? with
  | none =>
    have hi2 : p.insts[c2.pc]? = none := by rw [← h.pc]; exact hi
    rw [step_none hi, step_none hi2, ← h.pc]
    split
    · exact ⟨rfl, ⟨h.pc, h.st, h.budget⟩, fun _ _ h1 => by cases h1⟩
    · exact ⟨rfl, ⟨h.pc, h.st, h.budget⟩, fun _ _ h1 => by cases h1⟩
  | some ins =>
    have hi2 : p.insts[c2.pc]? = some ins := by rw [← h.pc]; exact hi
    have hsim := stepI_sim h p limited ins (F.uses hi)
    have hs1 := step_eq (limited := limited) hi
    have hs2 := step_eq (limited := limited) hi2
    rw [hs1, hs2]
    refine ⟨hsim.1, ⟨hsim.2.pc, hsim.2.st, hsim.2.budget⟩, ?_⟩
    intro c1' c2' h1 h2
    have hs := hsim.2
    rw [h1, h2] at hs
    refine hs.mono ?_
    intro t ht
    exact F.next hi (hs1.trans h1) t ht

theorem Flow.run {A : Nat → Nat → Prop} (F : Flow p A) :
    ∀ (fuel : Nat) {c1 c2 : Cfg w}, Sim (A c1.pc) c1 c2 →
      ObsEq (runCfg p limited fuel c1) (runCfg p limited fuel c2) := by
  intro fuel
  induction fuel with
  | zero => intro c1 c2 h; exact ⟨rfl, h.pc, h.st, h.budget⟩
  | succ fuel ih =>
    intro c1 c2 h
    obtain ⟨htag, hobs, hnext⟩ := F.step (limited := limited) h
    unfold runCfg
    cases h1 : Bc.step p limited c1 <;> cases h2 : Bc.step p limited c2 <;>
      simp only [h1, h2, StepRes.tag, reduceCtorEq, Nat.reduceEqDiff] at htag
    all_goals simp only [h1, h2, StepRes.cfg] at hobs
    · exact ih (hnext _ _ h1 h2)
    all_goals exact ⟨rfl, hobs⟩

theorem init_sound {I : Array (List Nat)} (N : InitFacts p I) 
    {c : Cfg w} {W : List Nat} (h : Wr p limited c W) {ins : Instr w}
    (hi : p.insts[c.pc]? = some ins) : ∀ t ∈ uses ins, t ∈ W :=
  fun t ht => (initFlow N).wr (initSet_entry N) h t (N.uses hi t ht)

theorem init_inv {I : Array (List Nat)} (N : InitFacts p I) 
    {c : Cfg w} {W : List Nat} (h : Wr p limited c W) : ∀ t ∈ BcWf.getD I c.pc, t ∈ W :=
  fun t ht => (initFlow N).wr (initSet_entry N) h t ht

theorem init_independent {I : Array (List Nat)} (N : InitFacts p I)
    (limited : Bool) (fuel b : Nat) (s : State w) (t0 t0' : Temps w) :
    ObsEq (runCfg p limited fuel { pc := 0, temps := t0, budget := b, st := s })
      (runCfg p limited fuel { pc := 0, temps := t0', budget := b, st := s }) :=
  (initFlow N).run fuel ⟨rfl, rfl, rfl, fun t ht => absurd ht (initSet_entry N t)⟩

theorem live_step {numRegs : Nat} {O : Array (List Nat)}
    (V : LiveFacts p numRegs O) {limited : Bool} {c1 c2 : Cfg w} (h : Sim (liveSet p O c1.pc) c1 c2) :
    (Bc.step p limited c1).tag = (Bc.step p limited c2).tag ∧
    CfgObs (Bc.step p limited c1).cfg (Bc.step p limited c2).cfg ∧
    ∀ c1' c2', Bc.step p limited c1 = .next c1' → Bc.step p limited c2 = .next c2' →
      Sim (liveSet p O c1'.pc) c1' c2' :=
  (liveFlow V).step h

theorem live_run {numRegs : Nat} {O : Array (List Nat)}
    (V : LiveFacts p numRegs O) (fuel : Nat) {c1 c2 : Cfg w}
    (h : Sim (liveSet p O c1.pc) c1 c2) :
    ObsEq (runCfg p limited fuel c1) (runCfg p limited fuel c2) :=
  (liveFlow V).run fuel h

/-- `t < 16`: `live` is a `Vec<u16>` in `src/bc.rs`, one bit for each of the temporaries 0..15. -/
theorem not_live_after {numRegs : Nat} {O : Array (List Nat)}
    (V : LiveFacts p numRegs O) {limited : Bool} {c c' : Cfg w} {ins : Instr w} {t : Nat}
    (hi : p.insts[c.pc]? = some ins) (hb : isBranch ins = false) (hr : t < numRegs) (h16 : t < 16)
    (hd : t ∉ defs ins) (hbit : ((p.live[c.pc]?).getD 0).testBit t = false)
    (hs : Bc.step p limited c = .next c') : ¬ liveSet p O c'.pc t := by
  intro hl
  obtain ⟨ij, hij, hlj⟩ := hl
  have hs' := hs
  rw [step_eq hi] at hs'
  obtain ⟨ss, hss, hfl⟩ := V.flow hi
  have hO : t ∈ BcWf.getD O c.pc := by
    rcases stepI_pc hss hs' with hj | ⟨hj, _, hu, _⟩
    · exact hfl _ hj ij hij t hlj
    · rw [hj] at hij hlj
      rw [hi] at hij
      cases hij
      rcases mem_liveIn.mp hlj with h | ⟨h, _⟩
      · rw [hu] at h; cases h
      · exact h
  rcases V.declared hi hb t hO hr h16 with h | h
  · exact hd h
  · rw [hbit] at h; cases h

end C11
end Hpbf
