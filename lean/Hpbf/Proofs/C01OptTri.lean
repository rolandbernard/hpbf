/-
C01, optimiser arithmetic, triangular sums: the three halving alternatives of `triStep`
(`loop_motion`, `for (initial, increment) in linears`): the closed form of `tri`, the one lemma behind the three
halvings (`tri_halved`), and the theorems about `triStep`.
-/
import Hpbf.Proofs.C01OptArith
import Hpbf.Props.C15

namespace Hpbf.C01Opt
open Hpbf Lemmas

variable {w : Nat}

theorem half_succ (N : Nat) : (N + 1) * (N + 1 - 1) / 2 = N * (N - 1) / 2 + N := by
  cases N with
  | zero => rfl
  | succ M =>
    have : (M + 1 + 1) * (M + 1 + 1 - 1) = (M + 1) * (M + 1 - 1) + 2 * (M + 1) := by
      simp only [Nat.add_sub_cancel]; ring
    rw [this, Nat.add_mul_div_left _ _ (by decide : 0 < 2)]

theorem two_mul_half (N : Nat) : 2 * (N * (N - 1) / 2) = N * (N - 1) :=
  Nat.two_mul_div_two_of_even (Nat.even_mul_pred_self N)

@[simp] theorem tri_zero (I D : BitVec w) : tri I D 0 = 0#w := rfl
theorem tri_succ (I D : BitVec w) (k : Nat) :
    tri I D (k + 1) = tri I D k + (I + BitVec.ofNat w k * D) := rfl

/-- Closed form: `N * I + (N * (N - 1) / 2) * D` (the division is exact, in `Nat`). -/
theorem tri_closed (I D : BitVec w) (N : Nat) :
    tri I D N = BitVec.ofNat w N * I + BitVec.ofNat w (N * (N - 1) / 2) * D := by
  induction N with
  | zero =>
    show 0#w = BitVec.ofNat w 0 * I + BitVec.ofNat w 0 * D
    bvring
  | succ N ih => rw [tri_succ, ih, half_succ]; bvring

/-- The three alternatives of `triStep` in one: with `D = k * y`, the triangular part is `m * y` for the natural
number `m` with `2 * m = k * (N * (N - 1))` (halve `D`: `k = 2`, `m = N * (N - 1)`; halve `N` or `N - 1`: `k = 1`).
The equation is over `Nat`: in `BitVec w` it would not determine `m`. -/
theorem tri_halved (I D y : BitVec w) (k N m : Nat) (hD : D = BitVec.ofNat w k * y)
    (h : 2 * m = k * (N * (N - 1))) :
    tri I D N = BitVec.ofNat w N * I + BitVec.ofNat w m * y := by
  have hm : N * (N - 1) / 2 * k = m :=
    Nat.eq_of_mul_eq_mul_left (by decide : 0 < 2)
      (by rw [← Nat.mul_assoc, two_mul_half, h, Nat.mul_comm])
  rw [tri_closed, hD, ← hm, BitVec.ofNat_mul, BitVec.mul_assoc]

/-- The one place where the truncated `N - 1` is cast. -/
theorem ofNat_mul_pred (a N : Nat) (h : N = 0 → a = 0) :
    BitVec.ofNat w (a * (N - 1)) = BitVec.ofNat w a * (BitVec.ofNat w N + -1#w) := by
  cases N with
  | zero => rw [h rfl, Nat.zero_mul]; exact BitVec.zero_mul.symm
  | succ M => rw [Nat.add_sub_cancel, BitVec.ofNat_mul, BitVec.ofNat_add, add_neg_cancel_right]

/-- Alternative 1: the increment is even (`D = h + h`); any representative `N` of the trip count. -/
theorem core1 (B I D h E : BitVec w) (N : Nat) (hE : E = BitVec.ofNat w N) (hD : D = h + h) :
    E * I + (B + E * ((E + -1#w) * h)) = B + tri I D N := by
  rw [tri_halved I D h 2 N _ (hD.trans (two_mul h).symm) rfl, ofNat_mul_pred N N id, ← hE]
  ring

/-- Alternative 2: the trip count is `N = 2 * H` with no wrap-around. -/
theorem core2 (B I D H E : BitVec w) (N : Nat) (hq : H.toNat * 2 = N) (hE : E = H + H) :
    E * I + (B + (E + -1#w) * (D * H)) = B + tri I D N := by
  have hH := Lemmas.ofNat_toNat_self H
  have hN : BitVec.ofNat w N = E := by rw [hE, ← hq, Nat.mul_two, BitVec.ofNat_add, hH]
  rw [tri_halved I D D 1 N (H.toNat * (N - 1)) (BitVec.one_mul D).symm
      (by rw [← hq]; ring), ofNat_mul_pred _ N (by omega), hH, hN]
  ring

/-- Alternative 3: the trip count is `N = 2 * H + 1` with no wrap-around. -/
theorem core3 (B I D H E : BitVec w) (N : Nat) (hq : H.toNat * 2 + 1 = N)
    (hE : E + -1#w = H + H) :
    E * I + (B + E * (D * H)) = B + tri I D N := by
  have hH := Lemmas.ofNat_toNat_self H
  have hN : BitVec.ofNat w N = E := by
    rw [← hq, Nat.mul_two, BitVec.ofNat_add, BitVec.ofNat_add, hH, ← hE, neg_add_cancel_right]
  rw [tri_halved I D D 1 N (N * H.toNat) (BitVec.one_mul D).symm
      (by rw [← hq, Nat.add_sub_cancel]; ring), BitVec.ofNat_mul, hH, hN]
  ring

theorem triStep_cases (expr initial increment before r : Expr w) (b : Nat)
    (h : OptArith.triStep expr initial increment before = (b, r)) :
    (b = 1 ∧ ∃ hi, Expr.half increment = some hi ∧
      r = Expr.add (Expr.mul expr initial) (Expr.add before
            (Expr.mul expr (Expr.mul (Expr.add expr (Expr.val (-1#w))) hi)))) ∨
    (b = 2 ∧ Expr.half increment = none ∧ ∃ hx, Expr.half expr = some hx ∧
      r = Expr.add (Expr.mul expr initial) (Expr.add before
            (Expr.mul (Expr.add expr (Expr.val (-1#w))) (Expr.mul increment hx)))) ∨
    (b = 3 ∧ Expr.half increment = none ∧ Expr.half expr = none ∧
      ∃ hx, Expr.half (Expr.add expr (Expr.val (-1#w))) = some hx ∧
      r = Expr.add (Expr.mul expr initial) (Expr.add before
            (Expr.mul expr (Expr.mul increment hx)))) ∨
    (b = 0 ∧ Expr.half increment = none ∧ Expr.half expr = none ∧
      Expr.half (Expr.add expr (Expr.val (-1#w))) = none ∧ r = before) := by
  unfold OptArith.triStep at h
  cases h1 : Expr.half increment with
  | some hi =>
    simp only [h1, Prod.mk.injEq] at h
    obtain ⟨rfl, rfl⟩ := h
    exact Or.inl ⟨rfl, hi, rfl, rfl⟩
  | none =>
    cases h2 : Expr.half expr with
    | some hx =>
      simp only [h1, h2, Prod.mk.injEq] at h
      obtain ⟨rfl, rfl⟩ := h
      exact Or.inr (Or.inl ⟨rfl, rfl, hx, rfl, rfl⟩)
    | none =>
      cases h3 : Expr.half (Expr.add expr (Expr.val (-1#w))) with
      | some hx =>
        simp only [h1, h2, h3, Prod.mk.injEq] at h
        obtain ⟨rfl, rfl⟩ := h
        exact Or.inr (Or.inr (Or.inl ⟨rfl, rfl, rfl, hx, rfl, rfl⟩))
      | none =>
        simp only [h1, h2, h3, Prod.mk.injEq] at h
        obtain ⟨rfl, rfl⟩ := h
        exact Or.inr (Or.inr (Or.inr ⟨rfl, rfl, rfl, rfl, rfl⟩))

/-- Alternative 1 (even increment): correct for EVERY `N` that represents the trip count. -/
theorem triStep_branch1 (expr initial increment before r : Expr w) (b : Nat)
    (h : OptArith.triStep expr initial increment before = (b, r)) (hb : b = 1)
    (f : Int → BitVec w) (N : Nat) (hN : Expr.evaluate expr f = BitVec.ofNat w N) :
    Expr.evaluate r f = Expr.evaluate before f
      + tri (Expr.evaluate initial f) (Expr.evaluate increment f) N := by
  rcases triStep_cases expr initial increment before r b h with
    ⟨_, hi, h1, rfl⟩ | ⟨h2, _⟩ | ⟨h3, _⟩ | ⟨h0, _⟩
  · simp only [C15.value_add, C15.value_mul, C15.value_val]
    exact core1 _ _ _ _ _ N hN (C15.value_half increment hi f h1)
  · omega
  · omega
  · omega

/-- Alternative 2 (trip count halved to `hx`): correct when doubling `hx` does not wrap, i.e.
`N = 2 * hx` in `Nat` (this implies `evaluate expr f = N`, `C15.value_half`). -/
theorem triStep_branch2 (expr initial increment before r : Expr w) (b : Nat)
    (h : OptArith.triStep expr initial increment before = (b, r)) (hb : b = 2)
    (f : Int → BitVec w) (N : Nat) (hx : Expr w) (hh : Expr.half expr = some hx)
    (hq : (Expr.evaluate hx f).toNat * 2 = N) :
    Expr.evaluate r f = Expr.evaluate before f
      + tri (Expr.evaluate initial f) (Expr.evaluate increment f) N := by
  rcases triStep_cases expr initial increment before r b h with
    ⟨h1, _⟩ | ⟨_, _, hx', h2, rfl⟩ | ⟨h3, _⟩ | ⟨h0, _⟩
  · omega
  · rw [hh] at h2
    obtain rfl : hx = hx' := Option.some.inj h2
    simp only [C15.value_add, C15.value_mul, C15.value_val]
    exact core2 _ _ _ _ _ N hq (C15.value_half expr hx f hh)
  · omega
  · omega

/-- Alternative 3 (trip count minus one halved to `hx`): correct when `N = 2 * hx + 1` in `Nat`. -/
theorem triStep_branch3 (expr initial increment before r : Expr w) (b : Nat)
    (h : OptArith.triStep expr initial increment before = (b, r)) (hb : b = 3)
    (f : Int → BitVec w) (N : Nat) (hx : Expr w)
    (hh : Expr.half (Expr.add expr (Expr.val (-1#w))) = some hx)
    (hq : (Expr.evaluate hx f).toNat * 2 + 1 = N) :
    Expr.evaluate r f = Expr.evaluate before f
      + tri (Expr.evaluate initial f) (Expr.evaluate increment f) N := by
  rcases triStep_cases expr initial increment before r b h with
    ⟨h1, _⟩ | ⟨h2, _⟩ | ⟨_, _, _, hx', h3, rfl⟩ | ⟨h0, _⟩
  · omega
  · omega
  · rw [hh] at h3
    obtain rfl : hx = hx' := Option.some.inj h3
    simp only [C15.value_add, C15.value_mul]
    refine core3 _ _ _ _ _ N hq ?_
    have := C15.value_half _ hx f hh
    rw [C15.value_add, C15.value_val] at this
    exact this
  · omega

theorem add_nil_right (a : Expr w) : Expr.add a [] = a := by
  cases a with
  | nil => rw [Expr.add]
  | cons p ps => rw [Expr.add]; exact List.cons_ne_nil _ _

theorem add_val_val (c d : BitVec w) :
    Expr.add (Expr.val c) (Expr.val d) = Expr.val (c + d) := by
  unfold Expr.val
  by_cases hc : c = 0#w
  · subst hc
    rw [if_pos rfl, BitVec.zero_add, Expr.add]
  · by_cases hd : d = 0#w
    · subst hd
      rw [if_pos rfl, BitVec.add_zero, add_nil_right]
    · rw [if_neg hc, if_neg hd, Expr.add]
      simp only [Expr.cmpVars]
      by_cases hs : c + d = 0#w
      · simp [hs, add_nil_right]
      · simp [hs, add_nil_right]

theorem evaluate_const (x : BitVec w) (f : Int → BitVec w) :
    Expr.evaluate [({ coef := x, vars := [] } : Part w)] f = x := by
  simp [Expr.evaluate, Expr.evalPart]

/-- Halving an even cell value by `wrapping_shr(1)` does not wrap. -/
theorem wshr_one_toNat (c : BitVec w) (h : Cell.isOdd c = false) :
    (Cell.wshr c 1).toNat * 2 = c.toNat := by
  rw [Cell.toNat_wshr_one]
  rcases Nat.eq_zero_or_pos w with rfl | hw
  · rw [isOdd_width_zero] at h; cases h
  · have := (Cell.isOdd_eq_false_iff hw c).1 h; omega

theorem half_val_toNat (c : BitVec w) (hx : Expr w) (f : Int → BitVec w)
    (h : Expr.half (Expr.val c) = some hx) : (Expr.evaluate hx f).toNat * 2 = c.toNat := by
  unfold Expr.val at h
  by_cases hc : c = 0#w
  · subst hc
    rw [if_pos rfl] at h
    simp [Expr.half] at h
    subst h
    simp
  · rw [if_neg hc] at h
    simp [Expr.half] at h
    obtain ⟨hodd, rfl⟩ := h
    rw [evaluate_const]
    exact wshr_one_toNat c hodd

theorem toNat_pred (c : BitVec w) (hc : c ≠ 0#w) : (c + -1#w).toNat + 1 = c.toNat := by
  have hw : 0 < w := by
    rcases Nat.eq_zero_or_pos w with rfl | hw
    · exact absurd (Subsingleton.elim _ _) hc
    · exact hw
  have h0 : c.toNat ≠ 0 := fun e => hc (BitVec.eq_of_toNat_eq e)
  have h1 : 1#w ≤ c := by rw [BitVec.le_def, BitVec.toNat_one hw]; omega
  rw [← sub_eq_add_neg, BitVec.toNat_sub_of_le h1, BitVec.toNat_one hw]
  omega

theorem half_none_of_odd (e : Expr w) (p : Part w) (hp : p ∈ e) (ho : Cell.isOdd p.coef = true) :
    Expr.half e = none := by
  unfold Expr.half
  rw [if_neg]
  intro hall
  have := List.all_eq_true.1 hall p hp
  simp [ho] at this

theorem mem_add_val (e : Expr w) (d : BitVec w) (p : Part w) (hp : p ∈ e) (hv : p.vars ≠ []) :
    p ∈ Expr.add e (Expr.val d) := by
  unfold Expr.val
  by_cases hd : d = 0#w
  · rw [if_pos hd, add_nil_right]; exact hp
  · rw [if_neg hd]
    cases e with
    | nil => cases hp
    | cons p0 ps =>
      rw [Expr.add]
      cases hv0 : p0.vars with
      | nil =>
        have hne : p ≠ p0 := fun e => hv (e ▸ hv0)
        have hps : p ∈ ps := by
          rcases List.mem_cons.1 hp with h | h
          · exact absurd h hne
          · exact h
        simp only [Expr.cmpVars, add_nil_right]
        split
        · exact List.mem_cons_of_mem _ hps
        · exact hps
      | cons v vs =>
        simp only [Expr.cmpVars, add_nil_right]
        exact List.mem_cons_of_mem _ hp

/-- If some non-constant part of the trip count has an odd coefficient then neither the trip count
nor the trip count minus one can be halved: alternatives 2 and 3 are never taken (all widths). -/
theorem triStep_oddpart_no_half (expr initial increment before r : Expr w) (b : Nat)
    (h : OptArith.triStep expr initial increment before = (b, r))
    (p : Part w) (hp : p ∈ expr) (hv : p.vars ≠ []) (ho : Cell.isOdd p.coef = true) :
    b = 0 ∨ b = 1 := by
  have e2 : Expr.half expr = none := half_none_of_odd expr p hp ho
  have e3 : Expr.half (Expr.add expr (Expr.val (-1#w))) = none :=
    half_none_of_odd _ p (mem_add_val expr _ p hp hv) ho
  rcases triStep_cases expr initial increment before r b h with
    ⟨b1, _⟩ | ⟨_, _, hx, h2, _⟩ | ⟨_, _, _, hx, h3, _⟩ | ⟨b0, _⟩
  · exact Or.inr b1
  · rw [e2] at h2; cases h2
  · rw [e3] at h3; cases h3
  · exact Or.inl b0

/-- The optimiser's other trip-count shape, `inv * x_v` with `inv` odd, is the single part `inv * [v]`. -/
theorem invvar_eq (hw : 0 < w) (inv : BitVec w) (v : Int) (ho : Cell.isOdd inv = true) :
    Expr.mul (Expr.val inv) (Expr.var v) = [({ coef := inv, vars := [v] } : Part w)] := by
  have hne : inv ≠ 0#w := by
    rintro rfl
    have := (C14.isOdd_iff hw (0#w)).1 ho
    simp at this
  simp [Expr.val, Expr.var, hne, Expr.mul, Expr.scaleAppend, Expr.stableSort, Expr.insertSorted,
    Expr.sortVars]

/-- The shape `inv * x_v` never takes the halving alternatives 2 and 3. -/
theorem triStep_invvar_no_half (hw : 0 < w) (inv : BitVec w) (v : Int)
    (ho : Cell.isOdd inv = true) (initial increment before r : Expr w) (b : Nat)
    (h : OptArith.triStep (Expr.mul (Expr.val inv) (Expr.var v)) initial increment before = (b, r)) :
    b = 0 ∨ b = 1 := by
  refine triStep_oddpart_no_half _ initial increment before r b h
    { coef := inv, vars := [v] } ?_ (by simp) ho
  rw [invvar_eq hw inv v ho]
  exact List.mem_singleton.2 rfl

/-- Whenever something is moved for the shape `inv * x_v` it is right, for EVERY `N` representing `inv * x_v`. -/
theorem triStep_invvar_sound (hw : 0 < w) (inv : BitVec w) (v : Int)
    (ho : Cell.isOdd inv = true) (initial increment before r : Expr w) (b : Nat)
    (h : OptArith.triStep (Expr.mul (Expr.val inv) (Expr.var v)) initial increment before = (b, r))
    (hb : b ≠ 0) (f : Int → BitVec w) (N : Nat)
    (hN : Expr.evaluate (Expr.mul (Expr.val inv) (Expr.var v)) f = BitVec.ofNat w N) :
    Expr.evaluate r f = Expr.evaluate before f
      + tri (Expr.evaluate initial f) (Expr.evaluate increment f) N := by
  rcases triStep_invvar_no_half hw inv v ho initial increment before r b h with b0 | b1
  · exact absurd b0 hb
  · exact triStep_branch1 _ initial increment before r b h b1 f N hN

end Hpbf.C01Opt
