/-
C11: per-instruction analysis of `Bc.step`. `step_eq` rewrites `Bc.step` on an in-range pc into the normal form
`stepI` (operand reads/writes as the total functions `rdVal` / `rdSt` / `wrCfg`, branches as `branch`); control
flow, absence of `.bad` and the tape frame are proved on `stepI` (noninterference: C11Agree).  At the end: `Sim A`, the
relation of `Props/C11` between configurations equal but for the temporaries outside `A` (used from C11Agree on), and the
`FuelRun` instance of the bytecode machine, `Bc.fuelRun`, with the `Bc.runCfg_succ_*` equations.
-/
import Hpbf.Proofs.C11Basic
import Hpbf.Proofs.C01State
import Hpbf.Proofs.Fuel

namespace Hpbf
namespace C11

open Bc BcWf

variable {w : Nat}

def rdVal (c : Cfg w) : Loc w → BitVec w
  | .mem off => c.st.rd off
  | .memZero off => c.st.rd off
  | .tmp i => tget c.temps i
  | .imm v => v

def rdSt (s : State w) : Loc w → State w
  | .memZero off => s.wr off 0#w
  | _ => s

theorem readLoc_eq (c : Cfg w) (l : Loc w) : readLoc c l = (rdVal c l, { c with st := rdSt c.st l }) := by
  cases l <;> rfl

def isDst : Loc w → Bool
  | .mem _ => true
  | .tmp _ => true
  | _ => false

def wrCfg (c : Cfg w) (v : BitVec w) : Loc w → Cfg w
  | .mem off => { c with st := c.st.wr off v }
  | .tmp i => { c with temps := tset c.temps i v }
  | _ => c

theorem writeLoc_eq (c : Cfg w) (v : BitVec w) (l : Loc w) :
    writeLoc c v l = if isDst l then some (wrCfg c v l) else none := by
  cases l <;> rfl

theorem sameDst_eq {d a : Loc w} (h : sameDst d a = true) : d = a := by
  cases d <;> cases a <;> simp_all [sameDst]

/-- Before the pc is advanced; the destination is assumed valid. -/
def binopCfg (f : BitVec w → BitVec w → BitVec w) (c : Cfg w) (d a b : Loc w) : Cfg w :=
  if sameDst d a then
    wrCfg { c with st := rdSt (rdSt c.st b) d }
      (f (rdVal { c with st := rdSt c.st b } d) (rdVal c b)) d
  else
    wrCfg { c with st := rdSt (rdSt c.st a) b }
      (f (rdVal c a) (rdVal { c with st := rdSt c.st a } b)) d

theorem binop_eq (f : BitVec w → BitVec w → BitVec w) (c : Cfg w) (d a b : Loc w) :
    binop f c d a b = if isDst d then some (binopCfg f c d a b) else none := by
  unfold binop binopCfg
  by_cases h : sameDst d a = true
  · simp only [h, if_true, readLoc_eq, writeLoc_eq]
  · simp only [h, readLoc_eq, writeLoc_eq]
    rfl

/-- Before the pc is advanced. -/
def copyCfg (c : Cfg w) (d s : Loc w) : Cfg w :=
  wrCfg { c with st := rdSt c.st s } (rdVal c s) d

def branch (p : Program w) (limited : Bool) (c : Cfg w) (taken : Bool) (off : Int) : StepRes w :=
  if limited = true ∧ c.budget ≤ 1 then .interrupted { c with budget := 0 }
  else
    let c0 : Cfg w := { c with budget := if limited then c.budget - 1 else c.budget }
    if taken then
      match branchTarget c.pc off p.insts.size with
      | some t => .next { c0 with pc := t }
      | none => .bad c0
    else .next { c0 with pc := c.pc + 1 }

def arith (c : Cfg w) (f : BitVec w → BitVec w → BitVec w) (d a b : Loc w) : StepRes w :=
  if isDst d then .next { binopCfg f c d a b with pc := c.pc + 1 } else .bad c

/-- Only `branch` charges the budget; a stationary `scan` (`sh = 0` on a non-zero cell) is the one other place where
`limited` is read. -/
def stepI (p : Program w) (limited : Bool) (c : Cfg w) : Instr w → StepRes w
  | .noop => .next { c with pc := c.pc + 1 }
  | .mov sh => .next { c with pc := c.pc + 1, st := c.st.mov sh }
  | .scan cond sh =>
    if c.st.rd cond = 0#w then .next { c with pc := c.pc + 1 }
    else if sh = 0 then
      if limited then .interrupted { c with budget := 0 } else .next c
    else .next { c with st := c.st.mov sh }
  | .inp dst =>
    if (c.st.input dst).1 then .next { c with pc := c.pc + 1, st := (c.st.input dst).2 }
    else .stop { c with st := (c.st.input dst).2 }
  | .out src =>
    if (c.st.output src).1 then .next { c with pc := c.pc + 1, st := (c.st.output src).2 }
    else .stop { c with st := (c.st.output src).2 }
  | .brz cond off => branch p limited c (c.st.rd cond == 0#w) off
  | .brnz cond off => branch p limited c (c.st.rd cond != 0#w) off
  | .add d a b => arith c (· + ·) d a b
  | .sub d a b => arith c (fun x y => x + (-y)) d a b
  | .mul d a b => arith c (· * ·) d a b
  | .copy d s => if isDst d then .next { copyCfg c d s with pc := c.pc + 1 } else .bad c

theorem wrCfg_pc (c : Cfg w) (v : BitVec w) (l : Loc w) : (wrCfg c v l).pc = c.pc := by
  cases l <;> rfl
theorem wrCfg_budget (c : Cfg w) (v : BitVec w) (l : Loc w) : (wrCfg c v l).budget = c.budget := by
  cases l <;> rfl

theorem binopCfg_pc (f : BitVec w → BitVec w → BitVec w) (c : Cfg w) (d a b : Loc w) :
    (binopCfg f c d a b).pc = c.pc := by
  unfold binopCfg; split <;> simp [wrCfg_pc]
theorem binopCfg_budget (f : BitVec w → BitVec w → BitVec w) (c : Cfg w) (d a b : Loc w) :
    (binopCfg f c d a b).budget = c.budget := by
  unfold binopCfg; split <;> simp [wrCfg_budget]

theorem step_eq {p : Program w} {limited : Bool} {c : Cfg w} {ins : Instr w}
    (hi : p.insts[c.pc]? = some ins) : step p limited c = stepI p limited c ins := by
  unfold step
  simp only [hi]
  cases ins with
  | noop | mov sh | scan cond sh => rfl
  | inp dst =>
    simp only [stepI]
    rcases h : c.st.input dst with ⟨b, s⟩
    cases b <;> simp
  | out src =>
    simp only [stepI]
    rcases h : c.st.output src with ⟨b, s⟩
    cases b <;> simp
  | brz cond off | brnz cond off =>
    simp only [stepI, branch]
    cases limited
    · simp only [Bool.false_eq_true, if_false, false_and, beq_iff_eq, bne_iff_ne]
      split
      · cases branchTarget c.pc off p.insts.size <;> rfl
      · rfl
    · by_cases hb : c.budget ≤ 1
      · simp [charge, hb]
      · simp only [charge, hb, if_true, if_false, true_and, beq_iff_eq, bne_iff_ne]
        split
        · cases branchTarget c.pc off p.insts.size <;> rfl
        · rfl
  | add d a b | sub d a b | mul d a b =>
    simp only [stepI, arith, binop_eq]
    cases isDst d <;> simp [binopCfg_pc]
  | copy d s =>
    simp only [stepI, copyCfg, readLoc_eq, writeLoc_eq]
    cases isDst d <;> simp [wrCfg_pc]

theorem step_none {p : Program w} {limited : Bool} {c : Cfg w} (hi : p.insts[c.pc]? = none) :
    step p limited c = if c.pc = p.insts.size then .halt c else .bad c := by
  unfold step
  simp only [hi]

def _root_.Hpbf.Bc.StepRes.cfg : StepRes w → Cfg w
  | .next c => c
  | .halt c => c
  | .stop c => c
  | .interrupted c => c
  | .bad c => c

def _root_.Hpbf.Bc.StepRes.tag : StepRes w → Nat
  | .next _ => 0
  | .halt _ => 1
  | .stop _ => 2
  | .interrupted _ => 3
  | .bad _ => 4

theorem branch_pc {p : Program w} {limited : Bool} {c c' : Cfg w} {taken : Bool} {off : Int} {t : Nat}
    (ht : branchTarget c.pc off p.insts.size = some t)
    (hs : branch p limited c taken off = .next c') : c'.pc = c.pc + 1 ∨ c'.pc = t := by
  unfold branch at hs
  split at hs
  · cases hs
  · simp only [ht] at hs
    split at hs
    · cases hs; exact Or.inr rfl
    · cases hs; exact Or.inl rfl

theorem branch_interrupted {p : Program w} {limited : Bool} {c c' : Cfg w} {taken : Bool} {off : Int}
    (h : branch p limited c taken off = .interrupted c') :
    limited = true ∧ c.budget ≤ 1 ∧ c' = { c with budget := 0 } := by
  unfold branch at h
  by_cases h1 : limited = true ∧ c.budget ≤ 1
  · rw [if_pos h1] at h; cases h; exact ⟨h1.1, h1.2, rfl⟩
  · rw [if_neg h1] at h
    cases taken with
    | false => cases h
    | true =>
      simp only [if_true] at h
      cases ht : branchTarget c.pc off p.insts.size <;> rw [ht] at h <;> cases h

theorem branch_next {p : Program w} {limited : Bool} {c c' : Cfg w} {taken : Bool} {off : Int}
    (h : branch p limited c taken off = .next c') :
    ¬ (limited = true ∧ c.budget ≤ 1) ∧
    (if taken = true then ∃ t, branchTarget c.pc off p.insts.size = some t ∧
        c' = { c with pc := t, budget := if limited then c.budget - 1 else c.budget }
      else c' = { c with pc := c.pc + 1, budget := if limited then c.budget - 1 else c.budget }) := by
  unfold branch at h
  by_cases h1 : limited = true ∧ c.budget ≤ 1
  · rw [if_pos h1] at h; cases h
  · rw [if_neg h1] at h
    refine ⟨h1, ?_⟩
    cases taken with
    | false => cases h; exact rfl
    | true =>
      simp only [if_true] at h ⊢
      cases ht : branchTarget c.pc off p.insts.size <;> rw [ht] at h <;> cases h
      exact ⟨_, rfl, rfl⟩

theorem next_mem_succs {n i : Nat} {ins : Instr w} {ss : List Nat} (hb : isBranch ins = false)
    (hss : succs n i ins = some ss) : i + 1 ∈ ss := by
  cases ins <;> first | (cases hss; exact List.mem_singleton.2 rfl) | cases hb

theorem arith_pc {c c' : Cfg w} {f : BitVec w → BitVec w → BitVec w} {d a b : Loc w}
    (hs : arith c f d a b = .next c') : c'.pc = c.pc + 1 := by
  unfold arith at hs
  split at hs <;> cases hs
  rfl

theorem stepI_pc {p : Program w} {limited : Bool} {c c' : Cfg w} {ins : Instr w} {ss : List Nat}
    (hss : succs p.insts.size c.pc ins = some ss) (hs : stepI p limited c ins = .next c') :
    c'.pc ∈ ss ∨ (c'.pc = c.pc ∧ c'.temps = c.temps ∧ uses ins = [] ∧ defs ins = []) := by
  -- all but the branches and a `scan` that stays go to the next instruction
  have nxt : isBranch ins = false → c'.pc = c.pc + 1 → c'.pc ∈ ss := fun hb e => e ▸ next_mem_succs hb hss
  cases ins with
  | noop | mov sh => cases hs; exact Or.inl (nxt rfl rfl)
  | scan cond sh =>
    simp only [stepI] at hs
    split at hs
    · cases hs; exact Or.inl (nxt rfl rfl)
    · split at hs
      · split at hs <;> cases hs
        exact Or.inr ⟨rfl, rfl, rfl, rfl⟩
      · cases hs; exact Or.inr ⟨rfl, rfl, rfl, rfl⟩
  | inp dst | out src | copy d s =>
    simp only [stepI] at hs
    split at hs <;> cases hs
    exact Or.inl (nxt rfl rfl)
  | brz cond off | brnz cond off =>
    simp only [succs, Option.map_eq_some_iff] at hss
    obtain ⟨t, ht, rfl⟩ := hss
    rcases branch_pc ht hs with h | h
    · exact Or.inl (h ▸ List.mem_cons_self)
    · exact Or.inl (h ▸ List.mem_cons_of_mem _ List.mem_cons_self)
  | add d a b | sub d a b | mul d a b => exact Or.inl (nxt rfl (arith_pc hs))

theorem succs_le {n i : Nat} {ins : Instr w} {ss : List Nat} (hi : i < n)
    (hss : succs n i ins = some ss) : ∀ j ∈ ss, j ≤ n := by
  have hbt : ∀ off t, branchTarget i off n = some t → t ≤ n := by
    intro off t h
    simp only [branchTarget] at h
    split at h
    · cases h; omega
    · cases h
  intro j hj
  cases ins <;> simp only [succs, Option.some.injEq, Option.map_eq_some_iff] at hss
  case brz cond off =>
    obtain ⟨t, ht, rfl⟩ := hss
    have := hbt _ _ ht
    simp at hj; omega
  case brnz cond off =>
    obtain ⟨t, ht, rfl⟩ := hss
    have := hbt _ _ ht
    simp at hj; omega
  all_goals (subst hss; simp at hj; omega)

theorem scan_cases (p : Program w) (limited : Bool) (c : Cfg w) (cond sh : Int) :
    stepI p limited c (.scan cond sh) = .next { c with pc := c.pc + 1 } ∨
    stepI p limited c (.scan cond sh) = .interrupted { c with budget := 0 } ∨
    stepI p limited c (.scan cond sh) = .next c ∨
    stepI p limited c (.scan cond sh) = .next { c with st := c.st.mov sh } := by
  simp only [stepI]
  split
  · exact Or.inl rfl
  · split
    · split
      · exact Or.inr (Or.inl rfl)
      · exact Or.inr (Or.inr (Or.inl rfl))
    · exact Or.inr (Or.inr (Or.inr rfl))

theorem branch_shape (p : Program w) (limited : Bool) (pc b : Nat) (taken : Bool) (off : Int) :
    ∃ tag pc' b', ∀ (t : Temps w) (s : State w),
      (branch p limited ⟨pc, t, b, s⟩ taken off).tag = tag ∧
      (branch p limited ⟨pc, t, b, s⟩ taken off).cfg = ⟨pc', t, b', s⟩ := by
  by_cases h1 : limited = true ∧ b ≤ 1
  · exact ⟨3, pc, 0, fun t s => by rw [branch, if_pos h1]; exact ⟨rfl, rfl⟩⟩
  · cases taken with
    | false => exact ⟨0, pc + 1, if limited then b - 1 else b, fun t s => by rw [branch, if_neg h1]; exact ⟨rfl, rfl⟩⟩
    | true =>
      cases ht : branchTarget pc off p.insts.size with
      | none =>
        exact ⟨4, pc, if limited then b - 1 else b, fun t s => by
          rw [branch, if_neg h1]; simp only [ht]; exact ⟨rfl, rfl⟩⟩
      | some k =>
        exact ⟨0, k, if limited then b - 1 else b, fun t s => by
          rw [branch, if_neg h1]; simp only [ht]; exact ⟨rfl, rfl⟩⟩

theorem branch_st (p : Program w) (limited : Bool) (c : Cfg w) (taken : Bool) (off : Int) :
    (branch p limited c taken off).cfg.st = c.st ∧ (branch p limited c taken off).cfg.temps = c.temps := by
  obtain ⟨_, _, _, h⟩ := branch_shape p limited c.pc c.budget taken off
  rw [(h c.temps c.st).2]
  exact ⟨rfl, rfl⟩

/-- The hypothesis is `BcWf.dstOk ins = true` after its match on `ins` (fed by defeq). -/
theorem isDst_of_dstOk {d : Loc w} (h : (match d with | .mem _ => true | .tmp _ => true | _ => false) = true) :
    isDst d = true := by
  cases d <;> first | rfl | cases h

theorem stepI_not_bad {p : Program w} {limited : Bool} {c : Cfg w} {ins : Instr w}
    (hd : dstOk ins = true) (hss : (succs p.insts.size c.pc ins).isSome = true) (c' : Cfg w) :
    stepI p limited c ins ≠ .bad c' := by
  -- `hss` for a branch says that the target exists
  have hbr : ∀ taken off, (Option.map (fun t => [c.pc + 1, t]) (branchTarget c.pc off p.insts.size)).isSome = true →
      branch p limited c taken off ≠ .bad c' := by
    intro taken off h
    rw [Option.isSome_map] at h
    obtain ⟨t, ht⟩ := Option.isSome_iff_exists.mp h
    rw [branch]
    by_cases h1 : limited = true ∧ c.budget ≤ 1
    · rw [if_pos h1]
      nofun
    · rw [if_neg h1]
      cases taken
      · nofun
      · simp only [ht]
        nofun
  cases ins with
  | noop | mov sh => nofun
  | scan cond sh => rcases scan_cases p limited c cond sh with e | e | e | e <;> rw [e] <;> nofun
  | inp dst | out src =>
    simp only [stepI]
    split <;> nofun
  | brz cond off | brnz cond off => exact hbr _ _ hss
  | add d a b | sub d a b | mul d a b =>
    show arith c _ d a b ≠ _
    rw [arith, if_pos (isDst_of_dstOk hd)]
    nofun
  | copy d s =>
    rw [stepI, if_pos (isDst_of_dstOk hd)]
    nofun

theorem wr_get (s : State w) (off : Int) (v : BitVec w) {x : Int} (h : x ≠ s.ptr + off) :
    (s.wr off v).tape.get x = s.tape.get x := Tape.get_set_ne _ _ _ _ h

theorem rdSt_ptr (s : State w) (l : Loc w) : (rdSt s l).ptr = s.ptr := by
  cases l <;> rfl

theorem rdSt_get (s : State w) (l : Loc w) {x : Int} (h : ∀ o ∈ locMem l, x ≠ s.ptr + o) :
    (rdSt s l).tape.get x = s.tape.get x := by
  cases l <;> simp only [rdSt]
  exact wr_get _ _ _ (h _ (by simp [locMem]))

theorem wrCfg_ptr (c : Cfg w) (v : BitVec w) (l : Loc w) : (wrCfg c v l).st.ptr = c.st.ptr := by
  cases l <;> rfl

theorem wrCfg_get (c : Cfg w) (v : BitVec w) (l : Loc w) {x : Int}
    (h : ∀ o ∈ locMem l, x ≠ c.st.ptr + o) : (wrCfg c v l).st.tape.get x = c.st.tape.get x := by
  cases l <;> simp only [wrCfg]
  exact wr_get _ _ _ (h _ (by simp [locMem]))

theorem binopCfg_ptr (f : BitVec w → BitVec w → BitVec w) (c : Cfg w) (d a b : Loc w) :
    (binopCfg f c d a b).st.ptr = c.st.ptr := by
  unfold binopCfg; split <;> simp [wrCfg_ptr, rdSt_ptr]

theorem binopCfg_get (f : BitVec w → BitVec w → BitVec w) (c : Cfg w) (d a b : Loc w) {x : Int}
    (h : ∀ o ∈ locMem d ++ locMem a ++ locMem b, x ≠ c.st.ptr + o) :
    (binopCfg f c d a b).st.tape.get x = c.st.tape.get x := by
  have hd : ∀ o ∈ locMem d, x ≠ c.st.ptr + o := fun o ho =>
    h o (List.mem_append_left _ (List.mem_append_left _ ho))
  have ha : ∀ o ∈ locMem a, x ≠ c.st.ptr + o := fun o ho =>
    h o (List.mem_append_left _ (List.mem_append_right _ ho))
  have hb : ∀ o ∈ locMem b, x ≠ c.st.ptr + o := fun o ho => h o (List.mem_append_right _ ho)
  unfold binopCfg
  split
  · rw [wrCfg_get _ _ _ (by simp only [rdSt_ptr]; exact hd)]
    simp only
    rw [rdSt_get _ _ (by simp only [rdSt_ptr]; exact hd), rdSt_get _ _ hb]
  · rw [wrCfg_get _ _ _ (by simp only [rdSt_ptr]; exact hd)]
    simp only
    rw [rdSt_get _ _ (by simp only [rdSt_ptr]; exact hb), rdSt_get _ _ ha]

theorem copyCfg_ptr (c : Cfg w) (d s : Loc w) : (copyCfg c d s).st.ptr = c.st.ptr := by
  simp [copyCfg, wrCfg_ptr, rdSt_ptr]

theorem copyCfg_get (c : Cfg w) (d s : Loc w) {x : Int}
    (h : ∀ o ∈ locMem d ++ locMem s, x ≠ c.st.ptr + o) :
    (copyCfg c d s).st.tape.get x = c.st.tape.get x := by
  have hd : ∀ o ∈ locMem d, x ≠ c.st.ptr + o := fun o ho => h o (List.mem_append_left _ ho)
  have hs : ∀ o ∈ locMem s, x ≠ c.st.ptr + o := fun o ho => h o (List.mem_append_right _ ho)
  unfold copyCfg
  rw [wrCfg_get _ _ _ (by simp only [rdSt_ptr]; exact hd)]
  simp only
  rw [rdSt_get _ _ hs]

theorem arith_get (f : BitVec w → BitVec w → BitVec w) (c : Cfg w) (d a b : Loc w) {x : Int}
    (h : ∀ o ∈ locMem d ++ locMem a ++ locMem b, x ≠ c.st.ptr + o) :
    (arith c f d a b).cfg.st.tape.get x = c.st.tape.get x := by
  unfold arith
  split
  · exact binopCfg_get f c d a b h
  · rfl

theorem arith_ptr (f : BitVec w → BitVec w → BitVec w) (c : Cfg w) (d a b : Loc w) :
    (arith c f d a b).cfg.st.ptr = c.st.ptr := by
  unfold arith
  split
  · exact binopCfg_ptr f c d a b
  · rfl

theorem stepI_frame (p : Program w) (limited : Bool) (c : Cfg w) (ins : Instr w) {x : Int}
    (h : ∀ o ∈ memOps ins, x ≠ c.st.ptr + o) :
    (stepI p limited c ins).cfg.st.tape.get x = c.st.tape.get x := by
  cases ins with
  | noop | mov sh => rfl
  | scan cond sh => rcases scan_cases p limited c cond sh with e | e | e | e <;> rw [e] <;> rfl
  | inp dst =>
    have := C01.input_get c.st dst (h dst List.mem_cons_self)
    simp only [stepI]
    split <;> exact this
  | out src =>
    have := congrArg (Tape.get · x) (C01Dse.output_meta c.st src).2
    simp only [stepI]
    split <;> exact this
  | brz cond off | brnz cond off => exact congrArg (fun s : State w => s.tape.get x) (branch_st p limited c _ off).1
  | add d a b | sub d a b | mul d a b => exact arith_get _ c d a b h
  | copy d s =>
    simp only [stepI]
    split
    · exact copyCfg_get _ _ _ h
    · rfl

theorem stepI_ptr (p : Program w) (limited : Bool) (c : Cfg w) (ins : Instr w) :
    (stepI p limited c ins).cfg.st.ptr = c.st.ptr ∨
    (∃ sh, ins = .mov sh ∧ (stepI p limited c ins).cfg.st.ptr = c.st.ptr + sh) ∨
    (∃ cond sh, ins = .scan cond sh ∧ (stepI p limited c ins).cfg.st.ptr = c.st.ptr + sh) := by
  cases ins with
  | noop => exact Or.inl rfl
  | mov sh => exact Or.inr (Or.inl ⟨sh, rfl, rfl⟩)
  | scan cond sh =>
    rcases scan_cases p limited c cond sh with e | e | e | e
    · exact Or.inl (by rw [e]; rfl)
    · exact Or.inl (by rw [e]; rfl)
    · exact Or.inl (by rw [e]; rfl)
    · exact Or.inr (Or.inr ⟨cond, sh, rfl, by rw [e]; rfl⟩)
  | inp dst =>
    refine Or.inl ?_
    simp only [stepI]
    split <;> exact C01Dse.input_ptr c.st dst
  | out src =>
    refine Or.inl ?_
    simp only [stepI]
    split <;> exact (C01Dse.output_meta c.st src).1
  | brz cond off | brnz cond off => exact Or.inl (congrArg State.ptr (branch_st p limited c _ off).1)
  | add d a b | sub d a b | mul d a b => exact Or.inl (arith_ptr _ c d a b)
  | copy d s =>
    refine Or.inl ?_
    simp only [stepI]
    split
    · exact copyCfg_ptr _ _ _
    · rfl

/-- For `Props/C11`; used from C11Agree on (see its head). -/
structure Sim (A : Nat → Prop) (c1 c2 : Cfg w) : Prop where
  pc : c1.pc = c2.pc
  st : c1.st = c2.st
  budget : c1.budget = c2.budget
  temps : ∀ t, A t → tget c1.temps t = tget c2.temps t

variable {A : Nat → Prop}

theorem Sim.mono {A B : Nat → Prop} {c1 c2 : Cfg w} (h : Sim A c1 c2) (hab : ∀ t, B t → A t) :
    Sim B c1 c2 := ⟨h.pc, h.st, h.budget, fun t ht => h.temps t (hab t ht)⟩

theorem _root_.Hpbf.Bc.fuelRun (p : Bc.Program w) (l : Bool) :
    FuelRun (fun c c' : Bc.Cfg w => Bc.step p l c = .next c') .outOfFuel (Bc.runCfg p l) where
  zero _ := rfl
  next h f := by simp only [Bc.runCfg, h]
  final c := by
    cases h : Bc.step p l c with
    | next c' => exact .inl ⟨c', rfl⟩
    | halt c' => exact .inr ⟨.done c', fun f => by simp only [Bc.runCfg, h], fun _ e => by cases e⟩
    | stop c' => exact .inr ⟨.stopped c', fun f => by simp only [Bc.runCfg, h], fun _ e => by cases e⟩
    | interrupted c' => exact .inr ⟨.interrupted c', fun f => by simp only [Bc.runCfg, h], fun _ e => by cases e⟩
    | bad c' => exact .inr ⟨.bad c', fun f => by simp only [Bc.runCfg, h], fun _ e => by cases e⟩
  inj h := Bc.Outcome.outOfFuel.inj h

theorem _root_.Hpbf.Bc.runCfg_succ_next {p : Bc.Program w} {l : Bool} {c c' : Bc.Cfg w} (h : Bc.step p l c = .next c')
    (f : Nat) : Bc.runCfg p l (f + 1) c = Bc.runCfg p l f c' := (Bc.fuelRun p l).next h f

theorem _root_.Hpbf.Bc.runCfg_succ_interrupted {p : Bc.Program w} {l : Bool} {c c' : Bc.Cfg w}
    (h : Bc.step p l c = .interrupted c') (f : Nat) : Bc.runCfg p l (f + 1) c = .interrupted c' := by
  simp only [Bc.runCfg, h]

theorem _root_.Hpbf.Bc.runCfg_succ_bad {p : Bc.Program w} {l : Bool} {c c' : Bc.Cfg w} (h : Bc.step p l c = .bad c')
    (f : Nat) : Bc.runCfg p l (f + 1) c = .bad c' := by
  simp only [Bc.runCfg, h]

end C11
end Hpbf
