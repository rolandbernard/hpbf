/-
The mutating primitives that do not need the DFS, at the level of memories:
`insertPending` (one assignment of the source), the evaluation/insertion phases of `performAll`,
`read`, `writtenCalcs`, `emitStructured` (the emitted groups are executed: `E` becomes `Mem.seq groups E`).
-/
import Hpbf.Proofs.OptRbAcc
import Hpbf.Proofs.OptRbMonad

namespace Hpbf
namespace OptProof
open Opt OptSem

variable {w : Nat}

theorem WrOk.of_written_eq {s s' : Rebuild w} {M0 E : Mem w} (h : s'.written = s.written)
    (hw : WrOk s M0 E) : WrOk s' M0 E := by
  unfold WrOk at *; rw [h]; exact hw

/-- One assignment of the source, with the parent interface required only on the variables of the expression
(`X`). -/
theorem insertPending_c {X : Int → Prop} {s : Rebuild w} {ps : List (Rebuild w)} {M0 E S : Mem w}
    (hwf : Wf s) (hpend : S = Mem.par s.pending E) (hw : WrOk s M0 E) (hk : PKc X s ps M0)
    (var : Int) (expr : Expr w) (hxe : ∀ v ∈ Expr.variables expr, X v) :
    upd S var (ev expr E) = Mem.par (insertPending s ps var expr).pending E ∧
    WrOk (insertPending s ps var expr) M0 E ∧ PKc X (insertPending s ps var expr) ps M0 := by
  have hsame := insertPending_same s ps var expr
  refine ⟨?_, hw.of_written_eq hsame.written, hk.congr hsame.hdr hsame.written⟩
  funext v
  unfold Mem.par
  rw [insertPending_get hwf]
  by_cases hv : var = v
  · subst hv
    simp only [if_true, upd_same]
    cases hc : compareWrittenNoParent (removePending s var).1 ps (Expr.var var) expr with
    | true =>
      simp only [if_true]
      have hs1 := removePending_same s var
      exact Eq.symm <| compareWrittenNoParent_var_sound_c (X := X) (s := (removePending s var).1) (ps := ps) (M0 := M0)
        (E := E) (hw.of_written_eq hs1.written) (hk.congr hs1.hdr hs1.written) hxe hc
    | false =>
      simp only [Bool.false_eq_true, if_false]
      exact (Expr.eval_normalize expr E).symm
  · simp only [hv, if_false]
    have : v ≠ var := fun e => hv e.symm
    rw [upd_ne _ _ _ _ this, hpend]
    rfl

/-- Sequential assignment of already evaluated right-hand sides (later bindings win). -/
def assignE (E : Mem w) (exprs : List (Int × Expr w)) (S : Mem w) : Mem w :=
  exprs.foldl (fun S ve => upd S ve.1 (ev ve.2 E)) S

theorem foldl_insertPending_wf {s : Rebuild w} (hwf : Wf s) (ps : List (Rebuild w))
    (exprs : List (Int × Expr w)) :
    Wf (exprs.foldl (fun s ve => insertPending s ps ve.1 ve.2) s) ∧
    SameButPend s (exprs.foldl (fun s ve => insertPending s ps ve.1 ve.2) s) := by
  induction exprs generalizing s with
  | nil => exact ⟨hwf, SameButPend.refl s⟩
  | cons ve exprs ih =>
    simp only [List.foldl_cons]
    obtain ⟨a, b⟩ := ih (insertPending_wf hwf ps ve.1 ve.2)
    exact ⟨a, (insertPending_same s ps ve.1 ve.2).trans b⟩

theorem foldl_insertPending_c {X : Int → Prop} {s : Rebuild w} {ps : List (Rebuild w)} {M0 E S : Mem w}
    (hwf : Wf s) (hpend : S = Mem.par s.pending E) (hw : WrOk s M0 E) (hk : PKc X s ps M0)
    (exprs : List (Int × Expr w))
    (hx : ∀ ve ∈ exprs, ∀ v ∈ Expr.variables ve.2, X v) :
    assignE E exprs S = Mem.par (exprs.foldl (fun s ve => insertPending s ps ve.1 ve.2) s).pending E ∧
    WrOk (exprs.foldl (fun s ve => insertPending s ps ve.1 ve.2) s) M0 E ∧
    PKc X (exprs.foldl (fun s ve => insertPending s ps ve.1 ve.2) s) ps M0 := by
  induction exprs generalizing s S with
  | nil => exact ⟨hpend, hw, hk⟩
  | cons ve exprs ih =>
    simp only [List.foldl_cons, assignE]
    obtain ⟨h1, h2, h3⟩ := insertPending_c hwf hpend hw hk ve.1 ve.2 (hx ve List.mem_cons_self)
    exact ih (insertPending_wf hwf ps ve.1 ve.2) h1 h2 h3
      (fun ve' h' => hx ve' (List.mem_cons_of_mem _ h'))

theorem foldl_insertPending_minv {s : Rebuild w} {ps : List (Rebuild w)} {M0 E S : Mem w} (hwf : Wf s)
    (h : MInv s ps M0 E S) (exprs : List (Int × Expr w)) :
    Wf (exprs.foldl (fun s ve => insertPending s ps ve.1 ve.2) s) ∧
    SameButPend s (exprs.foldl (fun s ve => insertPending s ps ve.1 ve.2) s) ∧
    MInv (exprs.foldl (fun s ve => insertPending s ps ve.1 ve.2) s) ps M0 E (assignE E exprs S) :=
  have ⟨a, b⟩ := foldl_insertPending_wf hwf ps exprs
  have ⟨h1, h2, _⟩ := foldl_insertPending_c hwf h.pend h.writ (h.pk.toC fun _ => True) exprs
    (fun _ _ _ _ => trivial)
  ⟨a, b, h1, h2, h.pk.congr b.hdr⟩

inductive All2 {α β : Type} (R : α → β → Prop) : List α → List β → Prop
  | nil : All2 R [] []
  | cons {a : α} {b : β} {as : List α} {bs : List β} : R a b → All2 R as bs → All2 R (a :: as) (b :: bs)

/-- The explosion-check phase of `performAll`. -/
def performCheck (s : Rebuild w) (ps : List (Rebuild w)) (calcs : List (Int × Expr w)) : M (Rebuild w) :=
  calcs.foldlM (fun s vc =>
    (groupedVars vc.2).foldlM (fun s vars =>
      if vars.length ≥ 2 then explosionVars ps vars none s else pure s) s) s

/-- The evaluation phase of `performAll`. -/
def performEval (s : Rebuild w) (ps : List (Rebuild w)) (shift : Int) (calcs : List (Int × Expr w)) :
    M (List (Int × Expr w)) :=
  calcs.mapM (fun vc => do
    let pending ← (evalPending s ps shift vc.2 : Except String (Expr w))
    pure (shift + vc.1, pending))

theorem performAll_eq (s : Rebuild w) (ps : List (Rebuild w)) (shift : Int) (calcs : List (Int × Expr w)) :
    performAll s ps shift calcs = (do
      let s ← performCheck s ps calcs
      let exprs ← performEval s ps shift calcs
      pure (exprs.foldl (fun s ve => insertPending s ps ve.1 ve.2) s)) := rfl

theorem performEval_ok {s : Rebuild w} {ps : List (Rebuild w)} {shift : Int} {calcs : List (Int × Expr w)}
    {os os' : Orders} {exprs : List (Int × Expr w)}
    (h : (performEval s ps shift calcs).run os = .ok (exprs, os')) :
    os' = os ∧ All2 (fun vc ve => ve.1 = shift + vc.1 ∧ evalPending s ps shift vc.2 = .ok ve.2)
      calcs exprs := by
  unfold performEval at h
  induction calcs generalizing exprs os os' with
  | nil =>
    rw [List.mapM_nil, run_pure] at h
    cases h; exact ⟨rfl, .nil⟩
  | cons vc calcs ih =>
    rw [List.mapM_cons, run_bind_ok] at h
    obtain ⟨b, os1, h1, h2⟩ := h
    rw [run_bind_ok] at h1
    obtain ⟨p, os2, h3, h4⟩ := h1
    rw [run_monadLift_ok] at h3
    rw [run_pure] at h4
    cases h4
    rw [run_bind_ok] at h2
    obtain ⟨bs, os3, h5, h6⟩ := h2
    rw [run_pure] at h6
    cases h6
    obtain ⟨e1, e2⟩ := ih h5
    simp only at h3
    refine ⟨by rw [e1, h3.2], .cons ⟨rfl, h3.1⟩ e2⟩

/-- The source-side meaning of a `calc` instruction at the level of memories: all right-hand sides are
evaluated in the old memory (variables shifted by `shift`), then assigned left to right. -/
def assignS (shift : Int) (calcs : List (Int × Expr w)) (S : Mem w) : Mem w :=
  (calcs.map (fun vc => (shift + vc.1, Expr.evaluate vc.2 (fun x => S (x + shift))))).foldl
    (fun m kv => upd m kv.1 kv.2) S

theorem assignE_eq_assignS {s : Rebuild w} {ps : List (Rebuild w)} {M0 E S : Mem w}
    (h : MInv s ps M0 E S) {shift : Int} {calcs exprs : List (Int × Expr w)}
    (hf : All2 (fun vc ve => ve.1 = shift + vc.1 ∧ evalPending s ps shift vc.2 = .ok ve.2)
      calcs exprs) :
    assignE E exprs S = assignS shift calcs S := by
  unfold assignE assignS
  suffices H : ∀ (acc : Mem w),
      exprs.foldl (fun S ve => upd S ve.1 (ev ve.2 E)) acc =
      (calcs.map (fun vc => (shift + vc.1, Expr.evaluate vc.2 (fun x => S (x + shift))))).foldl
        (fun m kv => upd m kv.1 kv.2) acc from H S
  intro acc
  induction hf generalizing acc with
  | nil => rfl
  | cons hab _ ih =>
    simp only [List.foldl_cons, List.map_cons]
    rw [hab.1, evalPending_sound h hab.2]
    exact ih _

structure SameButReads (s s' : Rebuild w) : Prop where
  parent : s'.parent = s.parent
  anal : s'.anal = s.anal
  shift : s'.shift = s.shift
  cond : s'.cond = s.cond
  subShift : s'.subShift = s.subShift
  noReturn : s'.noReturn = s.noReturn
  written : s'.written = s.written
  pending : s'.pending = s.pending
  reverse : s'.reverse = s.reverse
  insts : s'.insts = s.insts
  subAnal : s'.subAnal = s.subAnal

theorem SameButReads.refl (s : Rebuild w) : SameButReads s s :=
  ⟨rfl, rfl, rfl, rfl, rfl, rfl, rfl, rfl, rfl, rfl, rfl⟩

theorem SameButReads.trans {a b c : Rebuild w} (h1 : SameButReads a b) (h2 : SameButReads b c) :
    SameButReads a c := by
  obtain ⟨a1, a2, a3, a4, a5, a6, a7, a8, a9, a10, a11⟩ := h1
  obtain ⟨b1, b2, b3, b4, b5, b6, b7, b8, b9, b10, b11⟩ := h2
  exact ⟨b1.trans a1, b2.trans a2, b3.trans a3, b4.trans a4, b5.trans a5, b6.trans a6, b7.trans a7,
    b8.trans a8, b9.trans a9, b10.trans a10, b11.trans a11⟩

theorem SameButReads.hdr {s s' : Rebuild w} (h : SameButReads s s') : SameHdr s s' :=
  ⟨h.parent, h.anal, h.shift, h.cond, h.subShift⟩

theorem SameButReads.wf {s s' : Rebuild w} (h : SameButReads s s') (hwf : Wf s) : Wf s' :=
  hwf.congr h.pending h.written h.reverse

theorem read_same (s : Rebuild w) (var : Int) : SameButReads s (Opt.read s var) := by
  unfold Opt.read
  split <;> exact ⟨rfl, rfl, rfl, rfl, rfl, rfl, rfl, rfl, rfl, rfl, rfl⟩

theorem foldl_read_same (s : Rebuild w) (vs : List Int) : SameButReads s (vs.foldl Opt.read s) := by
  induction vs generalizing s with
  | nil => exact SameButReads.refl s
  | cons v vs ih => exact (read_same s v).trans (ih _)

/-- The `read` phase of one emitted group. -/
def readGroup (s : Rebuild w) (calcs : List (Int × Expr w)) : Rebuild w :=
  calcs.foldl (fun s vc => (Expr.variables vc.2).foldl Opt.read s) s

theorem readGroup_same (s : Rebuild w) (calcs : List (Int × Expr w)) : SameButReads s (readGroup s calcs) := by
  unfold readGroup
  induction calcs generalizing s with
  | nil => exact SameButReads.refl s
  | cons vc calcs ih => exact (foldl_read_same s _).trans (ih _)

theorem mGet_foldl_mSet_notin {ν : Type} (l : List (Int × ν)) (m0 : List (Int × ν)) (v : Int)
    (h : v ∉ l.map (·.1)) : mGet (l.foldl (fun m kv => mSet m kv.1 kv.2) m0) v = mGet m0 v := by
  induction l generalizing m0 with
  | nil => rfl
  | cons kv l ih =>
    simp only [List.map_cons, List.mem_cons, not_or] at h
    simp only [List.foldl_cons]
    rw [ih _ h.2, mGet_mSet_ne _ _ _ _ (fun e => h.1 e.symm)]

theorem mGet_foldl_mSet_in {ν : Type} (l : List (Int × ν)) (m0 : List (Int × ν)) (v : Int) (x : ν)
    (hnd : (l.map (·.1)).Nodup) (h : (v, x) ∈ l) :
    mGet (l.foldl (fun m kv => mSet m kv.1 kv.2) m0) v = some x := by
  induction l generalizing m0 with
  | nil => simp at h
  | cons kv l ih =>
    simp only [List.map_cons, List.nodup_cons] at hnd
    simp only [List.foldl_cons]
    rcases List.mem_cons.1 h with e | e
    · subst e
      rw [mGet_foldl_mSet_notin _ _ _ hnd.1, mGet_mSet_same]
    · exact ih _ hnd.2 e

theorem sorted_foldl_mSet {ν : Type} (l : List (Int × ν)) {m0 : List (Int × ν)} (h : Sorted m0) :
    Sorted (l.foldl (fun m kv => mSet m kv.1 kv.2) m0) := by
  induction l generalizing m0 with
  | nil => exact h
  | cons kv l ih => exact ih (sorted_mSet h _ _)

/-- The value `writtenCalcs` records for one calculation (`< 32`: `written_calcs` in `/repo/src/ir/opt.rs` records
only expressions with `op_count() < 32`). -/
def knownOf (s : Rebuild w) (ps : List (Rebuild w)) (e : Expr w) : OptWrite w :=
  if Expr.opCount e < 32 then
    match evalWritten s ps e with
    | some c => OptWrite.known (Expr.normalize c)
    | none => OptWrite.unknown
  else OptWrite.unknown

theorem foldl_insertWritten (l : List (Int × OptWrite w)) (s : Rebuild w) :
    SameButWritten s (l.foldl (fun s vk => insertWritten s vk.1 vk.2) s) ∧
    (l.foldl (fun s vk => insertWritten s vk.1 vk.2) s).reads = s.reads ∧
    (l.foldl (fun s vk => insertWritten s vk.1 vk.2) s).written =
      (l.map (fun vk => (vk.1, normW vk.2))).foldl (fun m kv => mSet m kv.1 kv.2) s.written := by
  induction l generalizing s with
  | nil => exact ⟨⟨rfl, rfl, rfl, rfl, rfl, rfl, rfl, rfl, rfl, rfl, rfl⟩, rfl, rfl⟩
  | cons vk l ih =>
    simp only [List.foldl_cons, List.map_cons]
    obtain ⟨a, b, c⟩ := ih (insertWritten s vk.1 vk.2)
    have hs := insertWritten_same s vk.1 vk.2
    obtain ⟨a1, a2, a3, a4, a5, a6, a7, a8, a9, a10, a11⟩ := a
    obtain ⟨b1, b2, b3, b4, b5, b6, b7, b8, b9, b10, b11⟩ := hs
    refine ⟨⟨a1.trans b1, a2.trans b2, a3.trans b3, a4.trans b4, a5.trans b5, a6.trans b6, a7.trans b7,
      a8.trans b8, a9.trans b9, a10.trans b10, a11.trans b11⟩, b.trans b7, ?_⟩
    rw [c, insertWritten_written]

theorem writtenCalcs_eq (s : Rebuild w) (ps : List (Rebuild w)) (calcs : List (Int × Expr w)) :
    SameButWritten s (writtenCalcs s ps calcs) ∧ (writtenCalcs s ps calcs).reads = s.reads ∧
    (writtenCalcs s ps calcs).written =
      (calcs.map (fun vc => (vc.1, knownOf s ps vc.2))).foldl (fun m kv => mSet m kv.1 kv.2) s.written := by
  unfold writtenCalcs
  obtain ⟨a, b, c⟩ := foldl_insertWritten (calcs.map (fun vc =>
    if Expr.opCount vc.2 < 32 then
      match evalWritten s ps vc.2 with
      | some c => (vc.1, OptWrite.known c)
      | none => (vc.1, OptWrite.unknown)
    else (vc.1, OptWrite.unknown))) s
  refine ⟨a, b, ?_⟩
  refine c.trans ?_
  rw [List.map_map]
  congr 1
  apply List.map_congr_left
  intro vc _
  simp only [Function.comp, knownOf]
  split
  · split <;> rfl
  · rfl

theorem par_of_mem {g : List (Int × Expr w)} (hnd : (g.map (·.1)).Nodup) {v : Int} {e : Expr w}
    (h : (v, e) ∈ g) (m : Mem w) : Mem.par g m v = ev e m :=
  par_of_get g m v e (OptLoop.mGet_of_mem hnd h)

theorem par_of_notin {g : List (Int × Expr w)} {v : Int} (h : v ∉ g.map (·.1)) (m : Mem w) :
    Mem.par g m v = m v := by
  apply par_of_not_mem
  rw [mGet_none_iff]; exact h

def emitGroup (ps : List (Rebuild w)) (s : Rebuild w) (calcs : List (Int × Expr w)) : Rebuild w :=
  let s := readGroup s calcs
  let s := writtenCalcs s ps calcs
  { s with insts := s.insts ++ [Ir.Instr.calc calcs] }

theorem emitStructured_eq (s : Rebuild w) (ps : List (Rebuild w)) (toEmit : List (List (Int × Expr w))) :
    emitStructured s ps toEmit = toEmit.foldl (emitGroup ps) s := rfl

structure SameButEmit (s s' : Rebuild w) : Prop where
  parent : s'.parent = s.parent
  anal : s'.anal = s.anal
  shift : s'.shift = s.shift
  cond : s'.cond = s.cond
  subShift : s'.subShift = s.subShift
  noReturn : s'.noReturn = s.noReturn
  pending : s'.pending = s.pending
  reverse : s'.reverse = s.reverse
  subAnal : s'.subAnal = s.subAnal

theorem SameButEmit.hdr {s s' : Rebuild w} (h : SameButEmit s s') : SameHdr s s' :=
  ⟨h.parent, h.anal, h.shift, h.cond, h.subShift⟩

theorem emitGroup_struct {s : Rebuild w} (hwf : Wf s) (ps : List (Rebuild w)) (calcs : List (Int × Expr w)) :
    Wf (emitGroup ps s calcs) ∧
    (emitGroup ps s calcs).insts = s.insts ++ [Ir.Instr.calc calcs] ∧
    SameButEmit s (emitGroup ps s calcs) ∧
    (∀ v, v ∉ calcs.map (·.1) → mGet (emitGroup ps s calcs).written v = mGet s.written v) := by
  have hr := readGroup_same s calcs
  obtain ⟨hwc, _, hwr⟩ := writtenCalcs_eq (readGroup s calcs) ps calcs
  have hwf1 : Wf (readGroup s calcs) := hr.wf hwf
  obtain ⟨c1, c2, c3, c4, c5, c6, c7, c8, c9, c10, c11⟩ := hwc
  obtain ⟨r1, r2, r3, r4, r5, r6, r7, r8, r9, r10, r11⟩ := hr
  refine ⟨⟨?_, ?_, ?_, ?_⟩, ?_, ?_, ?_⟩
  · show Sorted (writtenCalcs (readGroup s calcs) ps calcs).pending
    rw [c8]; exact hwf1.pend
  · show Sorted (writtenCalcs (readGroup s calcs) ps calcs).written
    rw [hwr]; exact sorted_foldl_mSet _ hwf1.writ
  · show Sorted (writtenCalcs (readGroup s calcs) ps calcs).reverse
    rw [c9]; exact hwf1.rev
  · show RevOk (writtenCalcs (readGroup s calcs) ps calcs).pending
      (writtenCalcs (readGroup s calcs) ps calcs).reverse
    rw [c8, c9]; exact hwf1.revOk
  · show (writtenCalcs (readGroup s calcs) ps calcs).insts ++ _ = _
    rw [c10, r10]
  · exact ⟨c1.trans r1, c2.trans r2, c3.trans r3, c4.trans r4, c5.trans r5, c6.trans r6, c8.trans r8,
      c9.trans r9, c11.trans r11⟩
  · intro v hv
    show mGet (writtenCalcs (readGroup s calcs) ps calcs).written v = _
    have hv' : v ∉ (calcs.map (fun vc => (vc.1, knownOf (readGroup s calcs) ps vc.2))).map (·.1) := by
      rw [List.map_map]; exact hv
    rw [hwr, mGet_foldl_mSet_notin _ _ _ hv', r7]

theorem emitGroup_written_target {s : Rebuild w} (ps : List (Rebuild w)) (calcs : List (Int × Expr w))
    (hnd : (calcs.map (·.1)).Nodup) {vc : Int × Expr w} (hvc : vc ∈ calcs) :
    mGet (emitGroup ps s calcs).written vc.1 = some (knownOf (readGroup s calcs) ps vc.2) := by
  obtain ⟨_, _, hwr⟩ := writtenCalcs_eq (readGroup s calcs) ps calcs
  show mGet (writtenCalcs (readGroup s calcs) ps calcs).written vc.1 = _
  rw [hwr]
  have hnd' : ((calcs.map (fun vc => (vc.1, knownOf (readGroup s calcs) ps vc.2))).map (·.1)).Nodup := by
    rw [List.map_map]; exact hnd
  exact mGet_foldl_mSet_in _ _ vc.1 _ hnd' (List.mem_map.2 ⟨vc, hvc, rfl⟩)

theorem emitGroup_writ {s : Rebuild w} {ps : List (Rebuild w)} {M0 E : Mem w} (hwf : Wf s)
    (hw : WrOk s M0 E) (hk : PK s ps M0) (calcs : List (Int × Expr w))
    (hnd : (calcs.map (·.1)).Nodup) : WrOk (emitGroup ps s calcs) M0 (Mem.par calcs E) := by
  have hr := readGroup_same s calcs
  have hw1 : WrOk (readGroup s calcs) M0 E := hw.of_written_eq hr.written
  have hk1 : PK (readGroup s calcs) ps M0 := hk.congr hr.hdr
  obtain ⟨_, _, _, hoff⟩ := emitGroup_struct hwf ps calcs
  intro v
  by_cases hv : v ∈ calcs.map (·.1)
  · obtain ⟨vc, hvc, rfl⟩ := List.mem_map.1 hv
    rw [emitGroup_written_target ps calcs hnd hvc]
    by_cases hop : Expr.opCount vc.2 < 32
    · cases hc : evalWritten (readGroup s calcs) ps vc.2 with
      | none => simp only [knownOf, hop, hc, if_true]
      | some c =>
        simp only [knownOf, hop, hc, if_true]
        rw [par_of_mem hnd (show (vc.1, vc.2) ∈ calcs from hvc)]
        rw [← evalWritten_sound' hw1 hk1 hc]
        exact (Expr.eval_normalize c M0).symm
    · simp only [knownOf, hop, if_false]
  · rw [hoff v hv, par_of_notin hv]
    exact hw v

theorem emitStructured_struct {s : Rebuild w} (hwf : Wf s) (ps : List (Rebuild w))
    (toEmit : List (List (Int × Expr w))) :
    (emitStructured s ps toEmit).insts = s.insts ++ toEmit.map Ir.Instr.calc ∧
    SameButEmit s (emitStructured s ps toEmit) ∧ Wf (emitStructured s ps toEmit) ∧
    (∀ v, (∀ g ∈ toEmit, v ∉ g.map (·.1)) →
      mGet (emitStructured s ps toEmit).written v = mGet s.written v) := by
  rw [emitStructured_eq]
  induction toEmit generalizing s with
  | nil => exact ⟨by simp, ⟨rfl, rfl, rfl, rfl, rfl, rfl, rfl, rfl, rfl⟩, hwf, fun _ _ => rfl⟩
  | cons g toEmit ih =>
    obtain ⟨a1, a3, a4, a5⟩ := emitGroup_struct hwf ps g
    obtain ⟨b3, b4, b1, b5⟩ := ih a1
    simp only [List.foldl_cons, List.map_cons]
    refine ⟨?_, ?_, b1, ?_⟩
    · rw [b3, a3]; simp
    · obtain ⟨x1, x2, x3, x4, x5, x6, x7, x8, x9⟩ := a4
      obtain ⟨y1, y2, y3, y4, y5, y6, y7, y8, y9⟩ := b4
      exact ⟨y1.trans x1, y2.trans x2, y3.trans x3, y4.trans x4, y5.trans x5, y6.trans x6, y7.trans x7,
        y8.trans x8, y9.trans x9⟩
    · intro v hv
      rw [b5 v (fun g' hg' => hv g' (by simp [hg'])), a5 v (hv g (by simp))]

theorem emitStructured_writ {s : Rebuild w} {ps : List (Rebuild w)} {M0 E : Mem w} (hwf : Wf s)
    (hw : WrOk s M0 E) (hk : PK s ps M0) (toEmit : List (List (Int × Expr w)))
    (hnd : ∀ g ∈ toEmit, (g.map (·.1)).Nodup) :
    WrOk (emitStructured s ps toEmit) M0 (Mem.seq toEmit E) := by
  rw [emitStructured_eq]
  induction toEmit generalizing s E with
  | nil => exact hw
  | cons g toEmit ih =>
    obtain ⟨a1, _, a4, _⟩ := emitGroup_struct hwf ps g
    have a2 := emitGroup_writ hwf hw hk g (hnd g (by simp))
    simp only [List.foldl_cons, seq_cons]
    exact ih a1 a2 (hk.congr a4.hdr) (fun g' hg' => hnd g' (by simp [hg']))

end OptProof
end Hpbf

#print axioms Hpbf.OptProof.insertPending_c
