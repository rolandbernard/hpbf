/-
The optimizer pipelines never panic and are total (`optimize_no_panic`, `optimize_total`, and the same for the
repaired `OptFix.optimizeF`): the induction over the rounds, with dead store elimination between them. Both
pipelines are `Rounds.pipelineM (Rounds.onceP post)` for a `post` that changes nothing dead store elimination
reads (`pipelineP_safe`); a round is `Safe` by `optimizeOnce_safe`. `Safe` speaks of failing runs and of the
existence of an oracle, so it needs its own induction over the rounds (`rounds_safe`), beside `Rounds.rounds_ind`.
`optimizeOnce_safe` is the total mode of the walk `OptProof.rebuild_sk_tri` on well-formed canonical states (`Wf`: the
DFS of `gatherForEmit` needs the `reverse` index to point at pending keys only).
-/
import Hpbf.Proofs.OptRounds
import Hpbf.Proofs.OptRbFix1
import Hpbf.Proofs.OptRbTri

namespace Hpbf
namespace OptTotal
open Opt OptProof Ir

variable {w : Nat}

theorem finishLoop_safe {s : Rebuild w} {ps : List (Rebuild w)} {sub : Rebuild w} {cond : Int}
    {isLoop : Bool} (hwf : Wf s) (hc : CanonSt s) (hsub : Child sub) (hsasc : OptLoop.SAsc sub.reads) :
    Safe (finishLoop s ps sub cond isLoop) :=
  (finishLoop_tri true hwf hc hsub.toK (fun _ => hsasc)).safe

theorem optimizeOnce_safe (b : Block w) (prevAnal : OptAnalysis w) (hcl : CanonL b.insts) :
    Safe (optimizeOnce b prevAnal) :=
  (optimizeOnce_tri true b prevAnal hcl).safe

#print axioms finishLoop_safe

theorem canonI_of_subI : ∀ {i i' : Instr w}, C01Dse.SubI i i' → CanonI i → CanonI i' :=
  fun h hc => canonI_sub _ _ h hc

theorem steps_canonL {b b' : Block w} (hcl : CanonL b.insts) (h : Rounds.Steps b b') : CanonL b'.insts := by
  induction h with
  | refl => exact hcl
  | first h1 => exact optimizeOnce_canonL h1 hcl
  | round _ hd ho ih => exact optimizeOnce_canonL ho (deadStoreElimination_canonL ih hd)

/-- `(prog, anal)` is what a round on a block in normal form returns. -/
def RoundOut (prog : Block w) (anal : OptAnalysis w) : Prop :=
  ∃ (b : Block w) (prev : OptAnalysis w) (os os' : Orders), CanonL b.insts ∧
    (optimizeOnce b prev).run os = .ok ((prog, anal), os')

theorem rounds_safe {once : Rounds.Once w} (I : Block w → OptAnalysis w → Prop)
    (hstep : ∀ {p a}, I p a → Ok (deadStoreElimination p a) ∧
      ∀ {p1}, deadStoreElimination p a = .ok p1 → Tri true (once p1 a) (fun r => I r.1 r.2)) :
    ∀ (n : Nat) {p : Block w} {a : OptAnalysis w}, I p a → Tri true (Rounds.rounds once n p a) (fun _ => True)
  | 0, p, a, _ => Tri.pure trivial
  | n + 1, p, a, hI => by
    obtain ⟨hd, hr⟩ := hstep hI
    rw [Rounds.rounds]
    exact (Tri.lift (fun _ => hd) (fun p1 h1 => h1)).bind (fun p1 h1 =>
      (hr h1).bind (fun r hr => rounds_safe I hstep n hr))

theorem pipelineM_safe {once : Rounds.Once w} (I : Block w → OptAnalysis w → Prop) {b : Block w} (level : Nat)
    (hfirst : Tri true (once b (topAnalysis [] [])) (fun r => I r.1 r.2))
    (hstep : ∀ {p a}, I p a → Ok (deadStoreElimination p a) ∧
      ∀ {p1}, deadStoreElimination p a = .ok p1 → Tri true (once p1 a) (fun r => I r.1 r.2)) :
    Safe (Rounds.pipelineM once b level) := by
  unfold Rounds.pipelineM
  split
  · exact (hfirst.bind (fun r hr => rounds_safe I hstep _ hr)).safe
  · exact Safe.pure _

theorem pipeline_no_panic {once : Rounds.Once w} {b : Block w} {level : Nat}
    (hs : Safe (Rounds.pipelineM once b level)) (orders : Orders) :
    ∀ e, Rounds.pipeline once b level orders = .error e → isOracleError e = true := by
  intro e h
  unfold Rounds.pipeline at h
  split at h
  · rename_i e' he'
    cases h
    exact hs.noPanic orders _ he'
  · cases h
  · cases h
    exact isOracle_lit _ _ (by decide +kernel)

theorem pipeline_total {once : Rounds.Once w} {b : Block w} {level : Nat}
    (hs : Safe (Rounds.pipelineM once b level)) : ∃ orders b', Rounds.pipeline once b level orders = .ok b' := by
  obtain ⟨pre, b', h⟩ := hs.total
  refine ⟨pre, b', Rounds.pipeline_ok_iff.2 ?_⟩
  have h' := h []
  rwa [List.append_nil] at h'

/-- Dead store elimination after a round cannot run out of `sub_blocks` because the analysis of a round matches
the blocks it emitted (`dse_total_after_round`); it reads the analysis through `toDAnal` only. -/
theorem pipelineP_safe {post : Block w → OptAnalysis w → OptAnalysis w}
    (hpost : ∀ p a, (post p a).toDAnal = a.toDAnal) (b : Block w) (level : Nat) (hcl : CanonL b.insts) :
    Safe (Rounds.pipelineM (Rounds.onceP post) b level) := by
  have hr : ∀ {b : Block w} {prev : OptAnalysis w}, CanonL b.insts →
      Tri true (Rounds.onceP post b prev) (fun r => ∃ a0, RoundOut r.1 a0 ∧ r.2.toDAnal = a0.toDAnal) := by
    intro b prev hcl
    refine .of (fun _ => (optimizeOnce_safe b prev hcl).bind (fun ⟨_, _⟩ _ _ _ => Safe.pure _)) ?_
    rintro os ⟨b', a'⟩ os' h
    obtain ⟨a0, h0, rfl⟩ := Rounds.onceP_ok.1 h
    exact ⟨a0, ⟨b, prev, os, os', hcl, h0⟩, hpost _ _⟩
  refine pipelineM_safe (fun p a => ∃ a0, RoundOut p a0 ∧ a.toDAnal = a0.toDAnal) level (hr hcl) ?_
  rintro p a ⟨a0, ⟨b0, prev, os, os', hcl0, hr0⟩, ha⟩
  have hd : deadStoreElimination p a = deadStoreElimination p a0 := by
    unfold deadStoreElimination; rw [ha]
  refine ⟨hd ▸ dse_total_after_round hr0 hcl0, fun {p1} h1 => hr ?_⟩
  exact deadStoreElimination_canonL (optimizeOnce_canonL hr0 hcl0) h1

theorem optimizeM_safe (b : Block w) (level : Nat) (hcl : CanonL b.insts) : Safe (optimizeM b level) := by
  rw [Rounds.optimizeM_eq, ← Rounds.onceP_id]
  exact pipelineP_safe (fun _ _ => rfl) b level hcl

theorem optimizeMF_safe (b : Block w) (level : Nat) (hcl : CanonL b.insts) :
    Safe (OptFix.optimizeMF b level) := by
  rw [Rounds.optimizeMF_eq]
  exact pipelineP_safe fixClob_toDAnal b level hcl

theorem optimize_no_panic (b : Block w) (level : Nat) (orders : Orders) (hcl : CanonL b.insts) :
    ∀ e, Opt.optimize b level orders = .error e → isOracleError e = true := by
  rw [Rounds.optimize_eq]
  exact pipeline_no_panic (Rounds.optimizeM_eq b level ▸ optimizeM_safe b level hcl) orders

theorem optimize_total (b : Block w) (level : Nat) (hcl : CanonL b.insts) :
    ∃ orders b', Opt.optimize b level orders = .ok b' := by
  simp only [Rounds.optimize_eq]
  exact pipeline_total (Rounds.optimizeM_eq b level ▸ optimizeM_safe b level hcl)

theorem optimizeF_no_panic (b : Block w) (level : Nat) (orders : Orders) (hcl : CanonL b.insts) :
    ∀ e, OptFix.optimizeF b level orders = .error e → isOracleError e = true := by
  rw [Rounds.optimizeF_eq]
  exact pipeline_no_panic (Rounds.optimizeMF_eq b level ▸ optimizeMF_safe b level hcl) orders

theorem optimizeF_never_panics (b : Block w) (level : Nat) (orders : Orders) (hcl : CanonL b.insts)
    (e : String) (h : OptFix.optimizeF b level orders = .error e) :
    "panic: ".toList.isPrefixOf e.toList = false ∧ "model: ".toList.isPrefixOf e.toList = false :=
  isOracle_not_panic e (optimizeF_no_panic b level orders hcl e h)

theorem optimizeF_total (b : Block w) (level : Nat) (hcl : CanonL b.insts) :
    ∃ orders b', OptFix.optimizeF b level orders = .ok b' := by
  simp only [Rounds.optimizeF_eq]
  exact pipeline_total (Rounds.optimizeMF_eq b level ▸ optimizeMF_safe b level hcl)

theorem optimizeF_canonL {b b' : Block w} {level : Nat} {orders : Orders} (hcl : CanonL b.insts)
    (h : OptFix.optimizeF b level orders = .ok b') : CanonL b'.insts :=
  steps_canonL hcl (Rounds.optimizeF_steps h)

theorem optimizeF_never_panics_parse {src : List Kind} {b : Block w} (hp : Ir.parse (w := w) src = .ok b)
    (level : Nat) (orders : Orders) (e : String) (h : OptFix.optimizeF b level orders = .error e) :
    "panic: ".toList.isPrefixOf e.toList = false ∧ "model: ".toList.isPrefixOf e.toList = false :=
  optimizeF_never_panics b level orders (parse_canonL hp) e h

theorem optimizeF_canonL_parse {src : List Kind} {b b' : Block w} (hp : Ir.parse (w := w) src = .ok b)
    {level : Nat} {orders : Orders} (h : OptFix.optimizeF b level orders = .ok b') : CanonL b'.insts :=
  optimizeF_canonL (parse_canonL hp) h

#print axioms optimize_no_panic
#print axioms optimize_total
#print axioms optimizeF_no_panic
#print axioms optimizeF_never_panics
#print axioms optimizeF_total
#print axioms optimizeF_canonL

end OptTotal
end Hpbf
