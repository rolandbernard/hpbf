/-
Towards `loopInsideIf` (three ways a loop is emitted: `inline` when it runs exactly
once, `cond := 0` for a pure counting loop, `loopOrIf` otherwise; then the `after` operations): `performAll` as a step,
(`performAll_stepN`), the `cond := 0` shortcut (`cond_zero_ok`), the meaning of the flags (`LoopFacts`), the cut
`loopInsideIf_run`.  The three ways are put together in `loopInsideIf_first_all` (`OptRbAnLoop3`).
-/
import Hpbf.Proofs.OptRbInline2
import Hpbf.Proofs.OptRbLoopSem

namespace Hpbf
namespace OptProof
open Opt OptSem Ir

variable {w : Nat}

theorem performAll_nil (s : Rebuild w) (ps : List (Rebuild w)) (sh : Int) :
    performAll s ps sh [] = pure s := by
  rw [performAll_eq]
  unfold performCheck performEval
  simp only [List.foldlM_nil, List.mapM_nil, pure_bind, List.foldl_nil]

/-- `performAll s ps sh calcs` simulates the source instruction `calc calcs` when the source pointer is `sh` cells
to the right of the emitted program's pointer. -/
theorem performAll_stepN {s : Rebuild w} {ps : List (Rebuild w)} {sh : Int} {calcs : List (Int × Expr w)}
    (hwf : Wf s) {os os' : Orders} {s' : Rebuild w}
    (hr : (performAll s ps sh calcs).run os = .ok (s', os')) :
    Wf s' ∧ SameHdr s s' ∧ s'.noReturn = s.noReturn ∧
    ∃ new, s'.insts = s.insts ++ new ∧ (∀ i ∈ new, C01Dse.isBlock i = false) ∧
      (s'.subShift = false → s.subShift = false) ∧
      ∀ M0 σE σS, RelAt sh s ps M0 σE σS →
        Sim (StepQ sh ps s' M0 σE) [.calc calcs] new σS σE ∧ ¬ Bad new σE := by
  obtain ⟨comps, s1, res, hwf', hsame, hminv⟩ := performAll_spec hwf hr
  refine ⟨hwf', res.hdr.trans hsame.hdr, by rw [hsame.noReturn, res.noRet], comps.map Instr.calc, ?_,
    noBlocks_calcs comps, fun h => (res.hdr.trans hsame.hdr).subShift.symm.trans h, ?_⟩
  · rw [hsame.insts, res.insts]
  · intro M0 σE σS hrel
    obtain ⟨m1, m2, m3⟩ := foldl_doCalc_meta comps σE
    obtain ⟨d1, d2, d3⟩ := C01Dse.doCalc_meta σS calcs
    have hsrc : Atomic [Instr.calc calcs] (fun σ : State w => (true, [calcs].foldl doCalc σ)) :=
      atomic_calcs [calcs]
    refine ⟨?_, not_bad_of_noBlocks (noBlocks_calcs comps) _⟩
    refine Sim.of_atomic hsrc (atomic_calcs comps) hrel.tr.symm rfl ?_ ?_ ?_
    · show (comps.foldl doCalc σE).trace = (doCalc σS calcs).trace
      rw [m3, d3]; exact hrel.tr.symm
    · show (comps.foldl doCalc σE).env = (doCalc σS calcs).env
      rw [m2, d2]; exact hrel.env.symm
    · intro _
      refine ⟨M0, ⟨?_, ?_, ?_, by rw [hsame.noReturn, res.noRet]; exact hrel.nr, ?_⟩, fun _ => ⟨rfl, m1⟩⟩
      · show (doCalc σS calcs).trace = (comps.foldl doCalc σE).trace
        rw [m3, d3]; exact hrel.tr
      · show (doCalc σS calcs).env = (comps.foldl doCalc σE).env
        rw [m2, d2]; exact hrel.env
      · show (doCalc σS calcs).ptr = (comps.foldl doCalc σE).ptr + sh
        rw [m1, d1]; exact hrel.ptr
      · show MInv s' ps M0 (memE (comps.foldl doCalc σE)) (memS (comps.foldl doCalc σE) (doCalc σS calcs))
        rw [memE_foldl_doCalc σE comps res.nodup]
        have : memS (comps.foldl doCalc σE) (doCalc σS calcs) = assignS sh calcs (memS σE σS) := by
          rw [← memS_doCalc hrel calcs]
          show memOf _ (comps.foldl doCalc σE).ptr = memOf _ σE.ptr
          rw [m1]
        rw [this]
        exact hminv M0 _ _ hrel.inv

/-- What is known at every head of a loop whose body only changes the condition cell. -/
structure CountJ (cond : Int) (σE σS : State w) (σk : State w) : Prop where
  tr : σk.trace = σS.trace
  env : σk.env = σS.env
  ptr : σk.ptr = σS.ptr
  mem : ∀ v, v ≠ cond → memS σE σk v = memS σE σS v

/-- A finite loop whose body emits nothing and whose only pending operation is on the condition cell is
replaced by `cond := 0`. -/
theorem cond_zero_ok {shP shC shS cS : Int} {bodyS : List (Instr w)} {oS : Bool}
    {s : Rebuild w} {ps : List (Rebuild w)} {sub : Rebuild w} {cond : Int}
    {pc : List (Rebuild w)} {sub0 : Rebuild w} {os os' : Orders} {s' : Rebuild w} {G Gc : State w → Prop}
    (hr : (performAll s ps 0 [(cond, Expr.val 0#w)]).run os = .ok (s', os'))
    (hwf : Wf s) (hins : sub.insts = []) (hlen : sub.pending.length = 1) (hhas : mHas sub.pending cond = true)
    (hrep : ChildRep Gc shP shC pc sub0 [] sub bodyS)
    (hentry : EntryAt Gc shP cS pc sub0)
    (hGc : ∀ M0 σE σS, RelAt shP s ps M0 σE σS → G σS → ∀ k σk, Head cS shS bodyS σS k σk →
      σk.rd cS ≠ 0#w → Gc σk)
    (hcond : cond = cS + shP) (hsh : shC + shS = shP)
    (hfin : ∀ M0 σE σS, RelAt shP s ps M0 σE σS → G σS →
      (∀ k σk, Head cS shS bodyS σS k σk → σk.rd cS ≠ 0#w → ∃ σ', Exec bodyS σk (.fin σ')) →
      ∃ k σk, Head cS shS bodyS σS k σk ∧ σk.rd cS = 0#w) :
    Wf s' ∧ SameHdr s s' ∧
    ∃ new, s'.insts = s.insts ++ new ∧ StepNG G shP shP ps s s' [.loop cS shS bodyS oS] new := by
  obtain ⟨comps, s1, res, hwf', hsame, hminv⟩ := performAll_spec hwf hr
  -- the only pending operation of the body
  obtain ⟨e, hP⟩ : ∃ e, sub.pending = [(cond, e)] := by
    cases hp : sub.pending with
    | nil => rw [hp] at hlen; simp at hlen
    | cons kv rest =>
      cases rest with
      | nil =>
        obtain ⟨k, e⟩ := kv
        rw [hp] at hhas
        simp only [mHas, mGet] at hhas
        by_cases hk : k = cond
        · exact ⟨e, by rw [hk]⟩
        · simp [hk] at hhas
      | cons kv2 rest2 => rw [hp] at hlen; simp at hlen
  refine ⟨hwf', res.hdr.trans hsame.hdr, comps.map Instr.calc, by rw [hsame.insts, res.insts],
    fun h => (res.hdr.trans hsame.hdr).subShift.symm.trans h, ?_⟩
  intro M0 σE σS hrel hG
  obtain ⟨m1, m2, m3⟩ := foldl_doCalc_meta comps σE
  have hround : ∀ σk : State w, CountJ cond σE σS σk → Gc σk → σk.rd cS ≠ 0#w →
      (∃ a, Exec bodyS σk (.fin a) ∧ CountJ cond σE σS (a.mov shS)) ∧
      (∀ x, ¬ Exec bodyS σk (.stop x)) ∧ (∀ t, Exec bodyS σk (.part t) → t = σS.trace) := by
    intro σk hJ hg hne
    -- (`σX` as a variable: `show` and `rw` below do not unfold `mov`)
    have hX : ∃ σX : State w, σX = σk.mov (-shP) := ⟨_, rfl⟩
    obtain ⟨σX, hσX⟩ := hX
    have hXptr : σX.ptr = σE.ptr := by
      rw [hσX]; show σk.ptr + -shP = σE.ptr; rw [hJ.ptr, hrel.ptr]; omega
    have hXtape : σX.tape = σk.tape := by rw [hσX]; rfl
    have hsm : SameMem shP σk σX := by
      refine ⟨by rw [hσX]; rfl, by rw [hσX]; rfl, by rw [hXptr, hJ.ptr]; exact hrel.ptr, ?_⟩
      funext v
      show σk.tape.get (σX.ptr + v) = σX.tape.get (σX.ptr + v)
      rw [hXtape]
    obtain ⟨M0c, hre⟩ := hentry σX σk hsm hne hg
    obtain ⟨hs, _⟩ := hrep M0c σX σk hre hg
    rw [hins] at hs
    refine ⟨?_, ?_, ?_⟩
    · obtain ⟨a, ha, M0', hr', _⟩ := hs.finR σX (Exec.nil σX)
      refine ⟨a, ha, ?_, ?_, ?_, ?_⟩
      · show a.trace = σS.trace
        rw [hr'.tr]; show σX.trace = _; rw [hσX]; exact hJ.tr
      · show a.env = σS.env
        rw [hr'.env]; show σX.env = _; rw [hσX]; exact hJ.env
      · show a.ptr + shS = σS.ptr
        rw [hr'.ptr, hXptr, hrel.ptr]; omega
      · intro v hv
        show a.tape.get (σE.ptr + v) = _
        have h1 : memS σX a v = Mem.par sub.pending (memE σX) v := by rw [hr'.inv.pend]
        rw [hP] at h1
        have h2 : Mem.par [(cond, e)] (memE σX) v = memE σX v := by
          apply par_of_not_mem
          simp only [mGet]
          rw [if_neg (fun h => hv h.symm)]
        rw [h2] at h1
        have h3 : memS σX a v = a.tape.get (σE.ptr + v) := by
          show a.tape.get (σX.ptr + v) = _; rw [hXptr]
        rw [← h3, h1]
        show σX.tape.get (σX.ptr + v) = _
        rw [hXtape, hXptr]
        exact hJ.mem v hv
    · intro x hx
      obtain ⟨y, hy, _⟩ := hs.stopL x hx
      cases hy
    · intro t ht
      have := hs.partL t ht
      cases this
      show σX.trace = _
      rw [hσX]; exact hJ.tr
  have hJ0 : CountJ cond σE σS σS := ⟨rfl, rfl, rfl, fun _ _ => rfl⟩
  have hheads : ∀ k σk, Head cS shS bodyS σS k σk → CountJ cond σE σS σk := by
    intro k σk hh
    induction hh with
    | zero => exact hJ0
    | succ hprev hne hex ih =>
      obtain ⟨⟨a, ha, hJa⟩, _, _⟩ := hround _ ih (hGc M0 σE σS hrel hG _ _ hprev hne) hne
      rw [exec_fin_det hex ha]; exact hJa
  have hexit : ∀ k σk, Head cS shS bodyS σS k σk → σk.rd cS = 0#w →
      StepQ shP ps s' M0 σE σk (comps.foldl doCalc σE) := by
    intro k σk hh hz
    have hJ := hheads k σk hh
    refine ⟨M0, ⟨hJ.tr.trans (hrel.tr.trans m3.symm), hJ.env.trans (hrel.env.trans m2.symm), ?_, ?_, ?_⟩,
      fun _ => ⟨rfl, m1⟩⟩
    · rw [hJ.ptr, m1]; exact hrel.ptr
    · rw [hsame.noReturn, res.noRet]; exact hrel.nr
    · have hmS : memS (comps.foldl doCalc σE) σk = assignS 0 [(cond, Expr.val 0#w)] (memS σE σS) := by
        funext v
        show σk.tape.get ((comps.foldl doCalc σE).ptr + v) = _
        rw [m1]
        unfold assignS
        simp only [List.map_cons, List.map_nil, List.foldl_cons, List.foldl_nil]
        by_cases hv : v = cond
        · rw [hv, show (0 : Int) + cond = cond by omega, upd_same]
          have : σk.rd cS = σk.tape.get (σE.ptr + cond) := by
            show σk.tape.get (σk.ptr + cS) = _
            rw [hJ.ptr, hrel.ptr, hcond]; congr 1; omega
          rw [← this, hz]
          exact (Expr.eval_val 0#w _).symm
        · rw [show (0 : Int) + cond = cond by omega, upd_ne _ _ _ _ hv]
          exact hJ.mem v hv
      rw [hmS, memE_foldl_doCalc σE comps res.nodup]
      exact hminv M0 _ _ hrel.inv
  have hterm : ∃ k σk, Head cS shS bodyS σS k σk ∧ σk.rd cS = 0#w :=
    hfin M0 σE σS hrel hG (fun k σk hh hne => by
      obtain ⟨⟨a, ha, _⟩, _, _⟩ := hround σk (hheads k σk hh) (hGc M0 σE σS hrel hG k σk hh hne) hne
      exact ⟨a, ha⟩)
  have hcalcs := atomic_calcs comps (w := w)
  refine ⟨⟨?_, ?_, ?_, ?_, ?_, ?_⟩, not_bad_of_noBlocks (noBlocks_calcs comps) _⟩
  · intro x hx
    obtain ⟨k, hh, hz⟩ := exec_loop_fin_head hx
    exact ⟨comps.foldl doCalc σE, (hcalcs σE _).2 (Or.inr (Or.inl ⟨rfl, Or.inl rfl⟩)), hexit k x hh hz⟩
  · intro x hx
    obtain ⟨k, σk, hh, hne, hb⟩ := exec_loop_stop_head hx
    exact absurd hb ((hround σk (hheads k σk hh) (hGc M0 σE σS hrel hG k σk hh hne) hne).2.1 x)
  · intro t ht
    have ht' : t = σS.trace := by
      obtain ⟨k, σk, hh, h | ⟨hne, hb⟩⟩ := exec_loop_part_head ht
      · rw [h]; exact (hheads k σk hh).tr
      · exact (hround σk (hheads k σk hh) (hGc M0 σE σS hrel hG k σk hh hne) hne).2.2 t hb
    rw [ht', hrel.tr]
    exact Exec.cut _ _
  · intro y hy
    rcases (hcalcs σE _).1 hy with h | ⟨_, h | h⟩ | ⟨h, _⟩
    · cases h
    · cases h
      obtain ⟨k, σk, hh, hz⟩ := hterm
      exact ⟨σk, head_exec_fin hh hz, hexit k σk hh hz⟩
    · cases h
    · cases h
  · intro y hy
    rcases (hcalcs σE _).1 hy with h | ⟨_, h | h⟩ | ⟨h, _⟩
    · cases h
    · cases h
    · cases h
    · cases h
  · intro t ht
    have ht' : t = σE.trace := by
      rcases (hcalcs σE _).1 ht with h | ⟨_, h | h⟩ | ⟨_, h⟩
      · cases h; rfl
      · cases h
      · cases h; exact m3
      · cases h
    rw [ht', ← hrel.tr]
    exact Exec.cut _ _

/-- Semantic meaning of the flags of `L` and of the constant set `C` for the source block
`blockInstr isLoop cS shS bodyS oS`, at the source states related through `s` that satisfy `G`.  (`const`: an `if` has
the heads `0` and `1`, head `1` being the state after its body; hence `k ≤ 1`, where the guards at the heads at which
the body is ENTERED say `k = 0`.) -/
structure LoopFacts (G : State w → Prop) (shP : Int) (s : Rebuild w) (ps : List (Rebuild w))
    (isLoop : Bool) (cS shS : Int) (bodyS : List (Instr w)) (oS : Bool) (L : OptLoop w) (C : List Int) :
    Prop where
  alo : L.atLeastOnce = true → ∀ M0 σE σS, RelAt shP s ps M0 σE σS → G σS → σS.rd cS ≠ 0#w
  amo : L.atMostOnce = true → isLoop = true → ∀ M0 σE σS, RelAt shP s ps M0 σE σS → G σS → σS.rd cS ≠ 0#w →
    ∀ σ1, Exec bodyS σS (.fin σ1) → (σ1.mov shS).rd cS = 0#w
  ifamo : isLoop = false → L.atMostOnce = true
  nc : L.noContinue = true → ∀ M0 σE σS, RelAt shP s ps M0 σE σS → G σS →
    ∀ x, ¬ Exec [blockInstr isLoop cS shS bodyS oS] σS (.fin x)
  ne : L.noEffect = true → ∀ M0 σE σS, RelAt shP s ps M0 σE σS → G σS →
    σS.rd cS = 0#w ∨ ∀ x, ¬ Exec [blockInstr isLoop cS shS bodyS oS] σS (.fin x)
  const : ∀ M0 σE σS, RelAt shP s ps M0 σE σS → G σS → ∀ k σk, Head cS shS bodyS σS k σk →
    (isLoop = false → k ≤ 1) → ∀ x, C.contains x = true → memS σE σk x = memS σE σS x
  fin : L.finite = true → L.atMostOnce = false → ∀ M0 σE σS, RelAt shP s ps M0 σE σS → G σS →
    (∀ k σk, Head cS shS bodyS σS k σk → σk.rd cS ≠ 0#w → ∃ σ', Exec bodyS σk (.fin σ')) →
    ∃ k σk, Head cS shS bodyS σS k σk ∧ σk.rd cS = 0#w

theorem loopInsideIf_run {s : Rebuild w} {ps : List (Rebuild w)} {sub : Rebuild w} {cond : Int} {L : OptLoop w}
    {after : List (Int × Expr w)} {C : List Int} {os os' : Orders} {s' : Rebuild w}
    (hr : (loopInsideIf s ps sub cond L after C).run os = .ok (s', os')) :
    ∃ s1 os1, ((if L.atMostOnce then Opt.inline s ps sub
      else if L.finite && sub.shift == s.shift && sub.insts.isEmpty && sub.pending.length == 1
          && mHas sub.pending cond then performAll s ps 0 [(cond, Expr.val 0#w)]
      else loopOrIf s ps sub cond true L C : M (Rebuild w))).run os = .ok (s1, os1) ∧
      (performAll s1 ps 0 after).run os1 = .ok (s', os') := by
  unfold loopInsideIf at hr
  dsimp only at hr
  split at hr
  · rename_i h
    rw [run_bind_ok] at hr
    obtain ⟨s1, os1, h1, h2⟩ := hr
    exact ⟨s1, os1, by rw [if_pos h]; exact h1, h2⟩
  · rename_i h
    split at hr
    · rename_i h'
      rw [run_bind_ok] at hr
      obtain ⟨s1, os1, h1, h2⟩ := hr
      exact ⟨s1, os1, by rw [if_neg h, if_pos h']; exact h1, h2⟩
    · rename_i h'
      rw [run_bind_ok] at hr
      obtain ⟨s1, os1, h1, h2⟩ := hr
      exact ⟨s1, os1, by rw [if_neg h, if_neg h']; exact h1, h2⟩

end OptProof
end Hpbf
