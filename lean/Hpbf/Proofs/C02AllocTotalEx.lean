/-
C02 / C13 (`allocate_temps` is total): each additional component of `TotalPre` is necessary (states that satisfy
`AllocPre`, violate one component and make the pass panic), and no bound on `numRegs` is needed.
`translateE_total_check` adds the checker `BcWf.check` to the totality of `translateE`.
-/
import Hpbf.Proofs.C02AllocTotalEmit
import Hpbf.Proofs.C02AllocEx
import Hpbf.Proofs.C11LocalPasses

namespace Hpbf
namespace C02

open Bc BcWf BcGen C11

namespace Alloc

/-- `defd`: a temporary that is written but never read. -/
def exNoUse : St 8 := { insts := #[.copy (.tmp 0) (.mem 1), .out 0], ranges := #[ri 0 none none 0] }

/-- `defAt`: a temporary that is read but never written. -/
def exNoDef : St 8 :=
  { insts := #[.noop, .copy (.mem 0) (.tmp 0), .out 0], ranges := #[ri 0 (some 1) (some 1) 1],
    writes := [(0, [1])] }

/-- `unread`: use count `0` although the temporary is read. -/
def exCount : St 8 :=
  { insts := #[.copy (.tmp 0) (.mem 1), .add (.tmp 1) (.tmp 0) (.imm 1), .copy (.mem 0) (.tmp 1), .out 0],
    ranges := #[ri 0 (some 1) (some 1) 0, ri 1 (some 2) (some 2) 1],
    writes := [(0, [2])] }

/-- `lastLt`: a recorded last use beyond the end of the code. -/
def exLast : St 8 :=
  { insts := #[.copy (.tmp 0) (.mem 1), .copy (.mem 0) (.tmp 0), .out 0],
    ranges := #[ri 0 (some 1) (some 7) 1],
    writes := [(0, [1])] }

theorem alloc_total_defd_necessary :
    allocPreB exNoUse = true ∧ allocErr 2 exNoUse = some "allocate_temps:can_alloc_reg:last_use.unwrap" := by
  refine ⟨?_, ?_⟩ <;> decide +kernel
theorem alloc_total_defAt_necessary :
    allocPreB exNoDef = true ∧ allocErr 2 exNoDef = some "allocate_temps:replace:replacements.get.unwrap" := by
  refine ⟨?_, ?_⟩ <;> decide +kernel
theorem alloc_total_unread_necessary :
    allocPreB exCount = true ∧ allocErr 2 exCount = some "allocate_temps:fusion:replacements.get.unwrap" := by
  refine ⟨?_, ?_⟩ <;> decide +kernel
theorem alloc_total_lastLt_necessary :
    allocPreB exLast = true ∧ allocErr 2 exLast = some "allocate_temps:assert-replacements-empty" := by
  refine ⟨?_, ?_⟩ <;> decide +kernel

/-- No register at all, fewer than the Rust ever uses, more than 16: the pass still succeeds. -/
theorem alloc_total_any_numRegs :
    allocErr 0 exFuseGood = none ∧ allocErr 1 exFuseGood = none ∧ allocErr 17 exFuseGood = none ∧
    allocErr 0 exFlowGood = none ∧ allocErr 40 exFlowGood = none := by
  refine ⟨?_, ?_, ?_, ?_, ?_⟩ <;> decide +kernel

end Alloc

theorem translateE_total_check {w : Nat} (prog : Ir.Block w) (numRegs : Nat) (fuse : Bool) :
    ∃ p, translateE prog numRegs fuse = .ok p ∧ BcWf.check p numRegs = true := by
  obtain ⟨p, hp⟩ := translateE_total prog numRegs fuse
  exact ⟨p, hp, translateE_check hp⟩

end C02
end Hpbf
