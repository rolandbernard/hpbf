/-
Chain, final (2): the CONVERSE direction for the machine code in unlimited mode, and totality of the repaired
optimizer.

With `C03.conv_run` / `C03.conv_diverges` (`Props/C03Conv.lean`: a return of the compiled function means that the
bytecode run has ended with the matching verdict and the same trace; a bytecode run that never ends keeps the machine
running without fault) – whose extra hypothesis `NoNoop p` holds for every `translate` output – the unlimited-mode
JIT conjunct of `AllBackends` becomes an equivalence (`AllBackends2`).  With `Props/C01Fixed.lean` a fitting oracle
for the repaired optimizer exists at every level and no oracle makes it panic (`all_levels_exists_final2`), and the
window fields of `JitRange` follow from the length of the text (`jitRange_window_of_length_final2`).
-/
import Hpbf.Proofs.ChainFinal
import Hpbf.Props.C03Conv
import Hpbf.Props.C01Fixed

namespace Hpbf
namespace Chain

open Bc BcWf BcGen C11 C02

variable {w : Nat}

/-- Every program `translate` returns is `noop`-free. -/
theorem noNoop_translate (blk : Ir.Block w) (numRegs : Nat) (fuse : Bool) :
    C03.NoNoop (translate blk numRegs fuse) := by
  intro i h
  have hm := Array.mem_of_getElem? h
  have := (translate_shape (translate_ok blk numRegs fuse)).2.1 _ hm
  simp [isNoop] at this

section Jit
open Asm JitGen X86Sem X86Prog C03
variable {prog : Prog} {p : Bc.Program w} {env : Env} (A : BcAgrees prog p env)
  {safe : Bool} {cfg : X86Prog.Cfg} {code : List X86} {buf0 rsp0 ra : BitVec 64}
include A

/-- If the compiled function returns (unlimited mode), the canonical run terminates with that result. -/
theorem jit_converse_of_agrees (H : JitHyps p false safe cfg code buf0 rsp0 ra 0 env) (hnn : NoNoop p)
    {n : Nat} {s' : PState w}
    (hret : X86Prog.run cfg n (initState (w := w) cfg buf0 rsp0 ra p.minAcc p.maxAcc 0 env) = .ret s') :
    ∃ f, finBf (Bf.run (w := w) f prog env) = some (s'.regs.rax == 1, s'.trace) := by
  obtain ⟨fuel, c', hcase, hres⟩ := conv_run p false safe cfg H.comp H.fetch H.small H.addrIO H.addrEI H.addrEO
    H.check H.win H.temps H.shift hnn buf0 rsp0 ra H.rsp 0 H.budgetLt H.lim env H.noOOM hret
  rcases hcase with ⟨hr, hrax, _⟩ | ⟨hr, hrax, _⟩ | ⟨hr, _⟩
  · obtain ⟨f, s, hs, htr⟩ := A.ofDone hr
    exact ⟨f, by simp only [hs, finBf, hrax, htr, hres.trace, beq_self_eq_true]⟩
  · obtain ⟨f, s, hs, htr⟩ := A.ofStopped hr
    have h01 : ((0 : BitVec 64) == 1) = false := by decide
    exact ⟨f, by simp only [hs, finBf, hrax, htr, hres.trace, h01]⟩
  · exact (translate_never_interrupted p fuel env c' hr).elim

/-- On a canonically divergent program the compiled function never returns and never faults. -/
theorem jit_never_returns_of_agrees (H : JitHyps p false safe cfg code buf0 rsp0 ra 0 env) (hnn : NoNoop p)
    (hdiv : C05.BfDiverges w prog env) (n : Nat) :
    (∀ r, X86Prog.run cfg n (initState (w := w) cfg buf0 rsp0 ra p.minAcc p.maxAcc 0 env) ≠ .ret r) ∧
    (∀ f r, X86Prog.run cfg n (initState (w := w) cfg buf0 rsp0 ra p.minAcc p.maxAcc 0 env) ≠ .fault f r) :=
  conv_diverges p false safe cfg H.comp H.fetch H.small H.addrIO H.addrEI H.addrEO H.check H.win H.temps H.shift
    hnn buf0 rsp0 ra H.rsp 0 H.budgetLt H.lim env H.noOOM
    (bc_runs_forever A hdiv (fun l b f c => C11.check_run_not_bad H.check l b f env c)) n

/-- Canonical semantics ≡ machine code (unlimited mode): the same finished results. -/
theorem same_jit_of_agrees (H : JitHyps p false safe cfg code buf0 rsp0 ra 0 env) (hnn : NoNoop p) :
    SameResults (fun f => finBf (Bf.run (w := w) f prog env))
      (fun n => finX86 (X86Prog.run cfg n (initState (w := w) cfg buf0 rsp0 ra p.minAcc p.maxAcc 0 env))) := by
  intro r
  constructor
  · intro hr
    exact jit_forward_fin_of_agrees A H r hr
  · rintro ⟨n, hn⟩
    dsimp only at hn
    cases hrun : X86Prog.run cfg n (initState (w := w) cfg buf0 rsp0 ra p.minAcc p.maxAcc 0 env) with
    | ret s' =>
      rw [hrun] at hn
      simp only [finX86, Option.some.injEq] at hn
      subst hn
      exact jit_converse_of_agrees A H hnn hrun
    | fault f s' => rw [hrun] at hn; cases hn
    | fuel s' => rw [hrun] at hn; cases hn

end Jit

/-- As `AllBackends`, with the unlimited-mode machine-code conjunct strengthened to `SameResults`: the compiled
function returns exactly when the canonical run terminates, `rax = 1` exactly when it ran off the end, with exactly
the canonical events. -/
def AllBackends2 (code : Array Kind) (prog : Prog) (b' : Ir.Block w) (numRegs : Nat) (fuse : Bool) (env : Env) :
    Prop :=
  let canon : Nat → Fin := fun f => finBf (Bf.run (w := w) f prog env)
  let p : Bc.Program w := translate b' numRegs fuse
  let pj : Bc.Program w := translate b' 11 false
  SameResults canon (fun f => finInplace (Inplace.run (w := w) code false 0 f env)) ∧
  SameResults canon (fun f => finIr (Ir.run b' false 0 f env)) ∧
  SameResults canon (fun f => finBc (Bc.run p false 0 f env)) ∧
  SameResults canon (fun f => finBc (C02.runDebug p false 0 f env)) ∧
  (∀ (sz : Asm.Size) (safe : Bool) (cfg : X86Prog.Cfg) (buf0 rsp0 ra : BitVec 64),
    JitRange sz pj false safe cfg buf0 rsp0 ra 0 env →
    SameResults canon (fun n => finX86
      (X86Prog.run cfg n (X86Prog.initState (w := w) cfg buf0 rsp0 ra pj.minAcc pj.maxAcc 0 env)))) ∧
  (∀ (sz : Asm.Size) (safe : Bool) (cfg : X86Prog.Cfg) (buf0 rsp0 ra : BitVec 64) (bd : Nat),
    JitRange sz pj true safe cfg buf0 rsp0 ra bd env →
    ∃ n r, finX86 (X86Prog.run cfg n (X86Prog.initState (w := w) cfg buf0 rsp0 ra pj.minAcc pj.maxAcc bd env))
        = some r ∧
      (r.1 = true → ∃ f, canon f = some r) ∧
      ∃ f, ∀ g, f ≤ g → r.2 <:+ C01.traceOfBf (Bf.run (w := w) g prog env))

theorem allBackends2_of_agrees {code : Array Kind} {prog : Prog} (hp : Bf.tree code.toList = some prog)
    {b' : Ir.Block w} {env : Env} (I : IrAgrees prog b' env) (ho : OnceOk b' env) (numRegs : Nat)
    (fuse : Bool) : AllBackends2 code prog b' numRegs fuse env := by
  obtain ⟨h1, h2, h3, h4, _, h6⟩ := allBackends_of_agrees (code := code) hp I ho numRegs fuse
  have Aj := bcAgrees_of_ir I ho 11 false
  refine ⟨h1, h2, h3, h4, ?_, h6⟩
  intro sz safe cfg buf0 rsp0 ra R
  exact same_jit_of_agrees Aj (jitHyps_of_range (translate_ok b' 11 false) R) (noNoop_translate b' 11 false)

theorem AllBackends2.toAllBackends {code : Array Kind} {prog : Prog} {b' : Ir.Block w} {numRegs : Nat}
    {fuse : Bool} {env : Env} (h : AllBackends2 code prog b' numRegs fuse env) :
    AllBackends code prog b' numRegs fuse env := by
  obtain ⟨h1, h2, h3, h4, h5, h6⟩ := h
  exact ⟨h1, h2, h3, h4, fun sz safe cfg buf0 rsp0 ra R r hr => (h5 sz safe cfg buf0 rsp0 ra R r).1 hr, h6⟩

section Final2
variable (hw : 0 < w) {src : List Kind} {prog : Prog} (hp : Bf.tree src = some prog)
  {b b' : Ir.Block w} (hb : Ir.parse (w := w) src = .ok b) {level : Nat} {orders : Opt.Orders}
  (hopt : OptFix.optimizeF b level orders = .ok b') (env : Env)
include hw hp hb hopt

section
open Asm JitGen X86Sem X86Prog C03
variable {sz : Size} {safe : Bool} {cfg : X86Prog.Cfg} {buf0 rsp0 ra : BitVec 64}

/-- **Converse** (unlimited mode): if the compiled function returns, the canonical run terminates, with the ending
`rax` reports and exactly the events of the machine. -/
theorem jit_final_converse (R : JitRange sz (translate b' 11 false) false safe cfg buf0 rsp0 ra 0 env)
    {n : Nat} {s' : PState w}
    (hret : X86Prog.run cfg n (initState (w := w) cfg buf0 rsp0 ra (translate b' 11 false).minAcc
      (translate b' 11 false).maxAcc 0 env) = .ret s') :
    ∃ f, finBf (Bf.run (w := w) f prog env) = some (s'.regs.rax == 1, s'.trace) :=
  jit_converse_of_agrees (bcAgrees_final hw hp hb hopt env 11 false)
    (jitHyps_of_range (translate_ok b' 11 false) R) (noNoop_translate b' 11 false) hret

/-- **Divergence**: on a canonically divergent program the compiled function never returns and never faults. -/
theorem jit_final_never_returns (R : JitRange sz (translate b' 11 false) false safe cfg buf0 rsp0 ra 0 env)
    (hdiv : C05.BfDiverges w prog env) (n : Nat) :
    (∀ r, X86Prog.run cfg n (initState (w := w) cfg buf0 rsp0 ra (translate b' 11 false).minAcc
      (translate b' 11 false).maxAcc 0 env) ≠ .ret r) ∧
    (∀ f r, X86Prog.run cfg n (initState (w := w) cfg buf0 rsp0 ra (translate b' 11 false).minAcc
      (translate b' 11 false).maxAcc 0 env) ≠ .fault f r) :=
  jit_never_returns_of_agrees (bcAgrees_final hw hp hb hopt env 11 false)
    (jitHyps_of_range (translate_ok b' 11 false) R) (noNoop_translate b' 11 false) hdiv n

theorem jit_final_same (R : JitRange sz (translate b' 11 false) false safe cfg buf0 rsp0 ra 0 env) :
    SameResults (fun f => finBf (Bf.run (w := w) f prog env))
      (fun n => finX86 (X86Prog.run cfg n (initState (w := w) cfg buf0 rsp0 ra (translate b' 11 false).minAcc
        (translate b' 11 false).maxAcc 0 env))) :=
  same_jit_of_agrees (bcAgrees_final hw hp hb hopt env 11 false)
    (jitHyps_of_range (translate_ok b' 11 false) R) (noNoop_translate b' 11 false)

end

omit hw hp in
/-- The access window of the bytecode for the repaired optimizer's output lies within `[-length, length]` of the
source (any level, any oracle, any register count, fusion on/off). -/
theorem translate_window_final2 (numRegs : Nat) (fuse : Bool) :
    -(src.length : Int) ≤ (translate b' numRegs fuse).minAcc ∧
    (translate b' numRegs fuse).maxAcc ≤ (src.length : Int) := by
  obtain ⟨h1, h2⟩ := translate_window_final b' numRegs fuse
  rw [h1, h2]
  exact OptProof.optimizedF_window_le_length' hb hopt

omit hw hp in
/-- Hence the window fields of `JitRange` (`win`, `dispMin`, `dispMax`, both parts of `dispNeg`) follow from
`bytes * length < 2^31`. -/
theorem jitRange_window_of_length_final2 (numRegs : Nat) (fuse : Bool) (sz : Asm.Size)
    (hlen : (sz.bytes : Int) * src.length < 2147483648) :
    let p := translate b' numRegs fuse
    (-2147483648 < p.minAcc ∧ p.maxAcc < 2147483648) ∧ C03.DispOk sz p.minAcc ∧ C03.DispOk sz p.maxAcc ∧
    C03.DispOk sz (-p.minAcc) ∧ C03.DispOk sz (-p.maxAcc) :=
  jitRange_window_of_bound b' numRegs fuse sz (OptProof.optimizedF_window_le_length' hb hopt) hlen

end Final2

/-- **Every level, every backend, machine code as an equivalence** (repaired optimizer).

ASSUMED: exactly what `all_levels_all_backends` assumes – `code` balanced with bracket tree `prog`, `w ≥ 1`, any
`level`, ANY oracle `orders` with `OptFix.optimizeF (parse code) level orders = .ok b'`, any `env`, `numRegs`,
`fuse`; `JitRange` for the two machine-code conjuncts.

CONCLUDED: `AllBackends2`, i.e. `AllBackends` with its fifth conjunct (machine code, unlimited mode) strengthened to
`SameResults`: the function returns iff the canonical run terminates, with `rax = 1` iff it ran off the end, and with
exactly the canonical events (so on a canonically divergent program it never returns; it never faults either:
`jit_final_never_returns`). -/
theorem all_levels_all_backends_final2 (hw : 0 < w) (code : Array Kind) (prog : Prog)
    (hp : Bf.tree code.toList = some prog) (level : Nat) (orders : Opt.Orders) (b' : Ir.Block w)
    (hopt : OptFix.optimizeF (irOf w code.toList) level orders = .ok b') (env : Env)
    (numRegs : Nat) (fuse : Bool) : AllBackends2 code prog b' numRegs fuse env := by
  have hb := parse_irOf (w := w) hp
  exact allBackends2_of_agrees hp (irAgrees_final hw hp hb hopt env) (onceOk_final hw hb hopt env) numRegs fuse

/-- **The repaired optimizer is total.**  For every balanced source and every level: no oracle makes the optimizer
panic (an error is always an oracle mismatch), a fitting oracle exists, and for EVERY oracle for which it succeeds
all backends agree with the canonical semantics, in every environment. -/
theorem all_levels_exists_final2 (hw : 0 < w) (code : Array Kind) (prog : Prog)
    (hp : Bf.tree code.toList = some prog) (level : Nat) :
    (∀ orders e, OptFix.optimizeF (irOf w code.toList) level orders = .error e →
      OptTotal.isOracleError e = true) ∧
    (∃ orders b', OptFix.optimizeF (irOf w code.toList) level orders = .ok b') ∧
    (∀ orders b', OptFix.optimizeF (irOf w code.toList) level orders = .ok b' →
      ∀ (env : Env) (numRegs : Nat) (fuse : Bool), AllBackends2 code prog b' numRegs fuse env) := by
  have hb := parse_irOf (w := w) hp
  exact ⟨fun orders e he => OptProof.optimizeF_no_panic_parse' hb level orders e he,
    OptProof.optimizeF_total_parse' hb level,
    fun orders b' hopt env numRegs fuse =>
      all_levels_all_backends_final2 hw code prog hp level orders b' hopt env numRegs fuse⟩

end Chain
end Hpbf
