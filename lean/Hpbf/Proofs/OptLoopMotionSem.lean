/-
The closed forms of `loopMotion` are right.  For a variable that `loopMotion` moves (`tri`, `geo0`, `geo`
outcomes) `MovedSem` says: its value after `n` rounds of the ORIGINAL loop is the value of the `before`
expression at loop entry plus the sum, over the rounds, of what the `during` expression still adds (`dinc`,
evaluated in the middle of the rounds of the original run).  The facts about the run are assumed for the real
rounds `k < N` only (`MotionCtxH`), with a trip count `n ≤ N`.
-/
import Hpbf.Proofs.OptLoopMotion

namespace Hpbf.OptLoop
open Hpbf Opt OptSem Expr

variable {w : Nat}

/-- What is known along the original run `M k = run body sub.pending m0 k`: the facts about `C` are what
`constantsAmong_sound_h` / `_c` conclude, `lin` what `linearAmong_sound_h` concludes (assembled by `motionCtxH_of_const`
for the horizon form); `known` (soundness of `getConstant`) and `body` are the caller's. -/
structure MotionCtx (s : Rebuild w) (ps : List (Rebuild w)) (sub : Rebuild w) (C : List Int)
    (lin : List (Int × Expr w)) (m0 : Mem w) (body : Nat → Mem w → Mem w) : Prop where
  const : ∀ k c, C.contains c = true →
    run body sub.pending m0 k c = m0 c ∧ mid body sub.pending m0 k c = m0 c
  known : ∀ i c, C.contains i = true → getConstant s ps i = some c → m0 i = c
  lin : ∀ v inc, mGet lin v = some inc → LinSound sub C (run body sub.pending m0) v inc
  body : BodyFacts sub body (run body sub.pending m0)

structure MotionCtxH (s : Rebuild w) (ps : List (Rebuild w)) (sub : Rebuild w) (C : List Int)
    (lin : List (Int × Expr w)) (m0 : Mem w) (body : Nat → Mem w → Mem w) (N : Nat) : Prop where
  constRun : ∀ k, k ≤ N → ∀ c, C.contains c = true → run body sub.pending m0 k c = m0 c
  constMid : ∀ k, k < N → ∀ c, C.contains c = true → mid body sub.pending m0 k c = m0 c
  known : ∀ i c, C.contains i = true → getConstant s ps i = some c → m0 i = c
  lin : ∀ v inc, mGet lin v = some inc → LinSoundH sub C (run body sub.pending m0) N v inc
  body : BodyFactsH sub body (run body sub.pending m0) N

theorem MotionCtx.toH {s : Rebuild w} {ps : List (Rebuild w)} {sub : Rebuild w} {C : List Int}
    {lin : List (Int × Expr w)} {m0 : Mem w} {body : Nat → Mem w → Mem w}
    (h : MotionCtx s ps sub C lin m0 body) (N : Nat) : MotionCtxH s ps sub C lin m0 body N :=
  ⟨fun k _ c hc => (h.const k c hc).1, fun k _ c hc => (h.const k c hc).2, h.known,
    fun v inc hv => let r := h.lin v inc hv
      ⟨r.unwritten, r.overConst, r.fresh, fun k _ => r.step k, fun k _ => r.closed k⟩,
    h.body.toH N⟩

theorem MotionCtxH.mono {s : Rebuild w} {ps : List (Rebuild w)} {sub : Rebuild w} {C : List Int}
    {lin : List (Int × Expr w)} {m0 : Mem w} {body : Nat → Mem w → Mem w} {N N' : Nat}
    (h : MotionCtxH s ps sub C lin m0 body N) (hle : N' ≤ N) : MotionCtxH s ps sub C lin m0 body N' :=
  ⟨fun k hk => h.constRun k (by omega), fun k hk => h.constMid k (by omega), h.known,
    fun v inc hv => let r := h.lin v inc hv
      ⟨r.unwritten, r.overConst, r.fresh, fun k hk => r.step k (by omega),
        fun k hk => r.closed k (by omega)⟩,
    h.body.mono hle⟩

def TripFacts (L : OptLoop w) (n : Nat) (m0 : Mem w) : Prop :=
  ∀ expr, L.expr = some expr → ev expr m0 = BitVec.ofNat w n ∧ n < 2 ^ w ∧ TriOk expr n m0

def MovedSem (sub : Rebuild w) (body : Nat → Mem w → Mem w) (m0 : Mem w) (n : Nat) (var : Int) (p : Expr w)
    (b : Expr w) (d : Option (Expr w)) : Prop :=
  ∃ dinc : Expr w,
    (d = some (Expr.add (Expr.var var) dinc) ∨ (d = none ∧ dinc = [])) ∧
    (∀ x ∈ Expr.variables dinc, x ∈ Expr.variables p ∧ x ≠ var) ∧
    ev b m0 + accN (fun k => ev dinc (mid body sub.pending m0 k)) n = run body sub.pending m0 n var

section
variable {s : Rebuild w} {ps : List (Rebuild w)} {sub : Rebuild w} {C : List Int}
  {lin : List (Int × Expr w)} {m0 : Mem w} {body : Nat → Mem w → Mem w} {N : Nat}

theorem reduce_mid (ctx : MotionCtxH s ps sub C lin m0 body N) {p p' : Expr w}
    (hp' : reduceConst s ps p C = .ok p') (k : Nat) (hk : k < N) :
    ev p' (mid body sub.pending m0 k) = ev p (mid body sub.pending m0 k) :=
  reduceConst_value s ps p p' C hp' _ (fun i _ hi c hc => by
    rw [ctx.constMid k hk i hi]; exact ctx.known i c hi hc)

theorem reduce_run_h (ctx : MotionCtxH s ps sub C lin m0 body N) {p p' : Expr w}
    (hp' : reduceConst s ps p C = .ok p') (k : Nat) (hk : k ≤ N) :
    ev p' (run body sub.pending m0 k) = ev p (run body sub.pending m0 k) :=
  reduceConst_value s ps p p' C hp' _ (fun i _ hi c hc => by
    rw [ctx.constRun k hk i hi]; exact ctx.known i c hi hc)

theorem reduce_run (ctx : MotionCtx s ps sub C lin m0 body) {p p' : Expr w}
    (hp' : reduceConst s ps p C = .ok p') (k : Nat) :
    ev p' (run body sub.pending m0 k) = ev p (run body sub.pending m0 k) :=
  reduce_run_h (ctx.toH k) hp' k (Nat.le_refl k)

theorem ev_mid_const (ctx : MotionCtxH s ps sub C lin m0 body N) (e : Expr w)
    (he : ∀ x ∈ Expr.variables e, C.contains x = true) (k : Nat) (hk : k < N) :
    ev e (mid body sub.pending m0 k) = ev e m0 :=
  ev_congr e _ _ (fun x hx => ctx.constMid k hk x (he x hx))

theorem linPart_mid (ctx : MotionCtxH s ps sub C lin m0 body N) {e : Expr w} {il : Expr w × Expr w}
    (h : LinPart C lin e il) (k : Nat) (hk : k < N) :
    ev il.1 (mid body sub.pending m0 k) = ev il.1 m0 + BitVec.ofNat w k * ev il.2 m0 := by
  obtain ⟨part, lv, l, _, _, _, _, hl, hall, hval⟩ := linPart_value h
  have hls := ctx.lin lv l hl
  have hq : ev [incPart part lv] (mid body sub.pending m0 k) = ev [incPart part lv] m0 := by
    apply ev_mid_const ctx _ _ k hk
    intro x hx
    have hx' : x ∈ part.vars.filter (fun x => !(x == lv)) := by
      simpa [Expr.variables, incPart] using hx
    obtain ⟨hxm, hne⟩ := List.mem_filter.1 hx'
    rcases hall x hxm with rfl | hc
    · simp at hne
    · exact hc
  have hlv : mid body sub.pending m0 k lv = m0 lv + BitVec.ofNat w k * ev l m0 := by
    rw [mid, ctx.body.unwritten k hk lv hls.unwritten, hls.closed k (by omega)]; rfl
  rw [(hval _).1, (hval m0).1, (hval m0).2, hq, hlv]
  generalize ev [incPart part lv] m0 = q
  generalize ev l m0 = l0
  generalize m0 lv = a
  bvring

theorem tri_sem (ctx : MotionCtxH s ps sub C lin m0 body N) {var : Int}
    {p p' expr inc cst other : Expr w} {linears : List (Expr w × Expr w)} {n : Nat} (hnN : n ≤ N)
    (hp : mGet sub.pending var = some p) (hunw : mGet sub.written var = none) (hcanon : Canon p)
    (hp' : reduceConst s ps p C = .ok p')
    (hev : ev expr m0 = BitVec.ofNat w n) (htri : TriOk expr n m0)
    (hpi : Expr.prodIncOf p' var = some (inc, 1#w))
    (hsplit : splitAlong inc C lin = .ok (cst, other, linears)) :
    MovedSem sub body m0 n var p
      (Expr.add (Expr.var var) (linears.foldl (triFoldStep expr) (Expr.mul expr cst, other)).1)
      (some (Expr.add (Expr.var var) (linears.foldl (triFoldStep expr) (Expr.mul expr cst, other)).2)) := by
  obtain ⟨hrec, hcstv, hcstsub, hothsub, hlinp⟩ := splitAlong_recompose inc C lin cst other linears hsplit
  have hwc : WeakCanon p' := C15.canon_implies_weakCanon (reduceConst_canon s ps p p' C hp' hcanon)
  have hstep : ∀ k, k < n → run body sub.pending m0 (k + 1) var
      = run body sub.pending m0 k var + ev inc (mid body sub.pending m0 k) := by
    intro k hk
    rw [run_pending hp, ← reduce_mid ctx hp' k (by omega)]
    show evaluate p' _ = _
    rw [C15.prodIncOf_recompose p' inc var 1#w _ hwc hpi, mid,
      ctx.body.unwritten k (by omega) var hunw, BitVec.one_mul]
    rfl
  have hsum := accN_run (fun k => run body sub.pending m0 k var)
    (fun k => ev inc (mid body sub.pending m0 k)) n hstep
  simp only [run_zero] at hsum
  have hinc : ∀ k, k < n → ev inc (mid body sub.pending m0 k)
      = ev cst m0 + ev other (mid body sub.pending m0 k)
        + sumL (fun il => ev il.1 m0 + BitVec.ofNat w k * ev il.2 m0) linears := by
    intro k hk
    rw [hrec, ev_mid_const ctx cst hcstv k (by omega)]
    congr 1
    exact sumL_congr (fun il hil => linPart_mid ctx (hlinp il hil) k (by omega))
  have hacc : accN (fun k => ev inc (mid body sub.pending m0 k)) n
      = BitVec.ofNat w n * ev cst m0 + accN (fun k => ev other (mid body sub.pending m0 k)) n
        + sumL (fun il => C01Opt.tri (ev il.1 m0) (ev il.2 m0) n) linears := by
    rw [accN_congr _ _ n (fun k hk => hinc k hk), accN_add, accN_add, accN_const, accN_sumL]
    congr 1
    exact sumL_congr (fun il _ => accN_lin _ _ n)
  have hfold := triFold_spec expr n m0 (mid body sub.pending m0) htri linears
    (fun il hil k hk => linPart_mid ctx (hlinp il hil) k (by omega)) (Expr.mul expr cst, other)
  refine ⟨_, Or.inl rfl, ?_, ?_⟩
  · intro x hx
    obtain ⟨q, hq, hxq⟩ := mem_variables.1 hx
    obtain ⟨t, ht, e⟩ := triFold_parts_of_split hsplit expr q hq
    have hxinc : x ∈ Expr.variables inc := mem_variables.2 ⟨t, ht, e ▸ hxq⟩
    have hxp' : x ∈ Expr.variables p' := mem_variables.2 ⟨t, prodIncOf_sub hpi t ht, e ▸ hxq⟩
    refine ⟨reduceConst_varsIn s ps p p' C hp' x hxp', ?_⟩
    rintro rfl
    exact C15.prodIncOf_fresh p' inc x 1#w hpi hxinc
  · rw [hsum, hacc, ev_add, ev_var]
    simp only [ev_mul, hev] at hfold
    generalize ev (linears.foldl (triFoldStep expr) (Expr.mul expr cst, other)).1 m0 = A at hfold ⊢
    generalize accN (fun k => ev (linears.foldl (triFoldStep expr) (Expr.mul expr cst, other)).2
      (mid body sub.pending m0 k)) n = B at hfold ⊢
    rw [BitVec.add_assoc, hfold]

/-- Covers both the `geo0` and the `geo` outcome. -/
theorem geo_sem (hw : 0 < w) (ctx : MotionCtxH s ps sub C lin m0 body N) {var : Int}
    {p p' expr inc : Expr w} {mul c : BitVec w} {n : Nat} (hnN : n ≤ N)
    (hp : mGet sub.pending var = some p) (hunw : mGet sub.written var = none) (hcanon : Canon p)
    (hp' : reduceConst s ps p C = .ok p')
    (hev : ev expr m0 = BitVec.ofNat w n) (hlt : n < 2 ^ w)
    (hpi : Expr.prodIncOf p' var = some (inc, mul))
    (hc : Expr.constant expr = some c)
    (hinc : ∀ x ∈ Expr.variables inc, C.contains x = true) :
    run body sub.pending m0 n var
      = Cell.wrappingPow mul c * m0 var + OptArith.geomSum mul c * ev inc m0 := by
  have hwc : WeakCanon p' := C15.canon_implies_weakCanon (reduceConst_canon s ps p p' C hp' hcanon)
  have hstep : ∀ k, k < n → run body sub.pending m0 (k + 1) var
      = run body sub.pending m0 k var * mul + ev inc m0 := by
    intro k hk
    rw [run_pending hp, ← reduce_mid ctx hp' k (by omega)]
    show evaluate p' _ = _
    rw [C15.prodIncOf_recompose p' inc var mul _ hwc hpi, mid, ctx.body.unwritten k (by omega) var hunw]
    have := ev_mid_const ctx inc hinc k (by omega)
    unfold ev mid at this
    rw [this, BitVec.mul_comm]
    rfl
  have hiter : ∀ k, k ≤ n →
      run body sub.pending m0 k var = (fun x => x * mul + ev inc m0)^[k] (m0 var) := by
    intro k
    induction k with
    | zero => exact fun _ => rfl
    | succ k ih =>
      intro hk
      rw [hstep k (by omega), ih (by omega), Function.iterate_succ_apply']
  have hcn : c.toNat = n := by
    have : ev expr m0 = c := C15.constant_recompose expr c m0 hc
    rw [this] at hev
    rw [hev, BitVec.toNat_ofNat, Nat.mod_eq_of_lt hlt]
  rw [hiter n (Nat.le_refl n), ← hcn, C01Opt.affine_loop hw mul (ev inc m0) (m0 var) c]
  generalize Cell.wrappingPow mul c = P
  generalize OptArith.geomSum mul c = G
  generalize ev inc m0 = i
  generalize m0 var = a
  bvring

theorem moved_facts {var : Int} {p : Expr w} {complete : Bool} {reads otherPending : List Int}
    {L : OptLoop w} {b : Expr w} {d a : Option (Expr w)}
    (hcase : MotionCase s ps var p complete reads C lin otherPending L (some b, d, a)) :
    a = none ∧ reads.contains var = false ∧ complete = true ∧ C.contains var = false := by
  generalize hr : (some b, d, a) = r at hcase
  cases hcase with
  | gone _ _ => cases hr
  | after p' _ _ _ => cases hr
  | stay p' _ => cases hr
  | tri p' expr inc cst other linears h1 h2 h3 _ _ _ _ => cases hr; exact ⟨rfl, h1, h2, h3⟩
  | geo0 p' expr inc mul c h1 h2 h3 _ _ _ _ _ _ => cases hr; exact ⟨rfl, h1, h2, h3⟩
  | geo p' expr inc mul c h1 h2 h3 _ _ _ _ _ _ => cases hr; exact ⟨rfl, h1, h2, h3⟩

theorem loopMotion_moved_sound (hw : 0 < w) (ctx : MotionCtxH s ps sub C lin m0 body N) {var : Int}
    {p : Expr w} {complete : Bool} {reads otherPending : List Int} {L : OptLoop w} {n : Nat}
    {b : Expr w} {d a : Option (Expr w)} (hnN : n ≤ N)
    (hp : mGet sub.pending var = some p) (hcomp : complete = true → mGet sub.written var = none)
    (hcanon : Canon p) (htrip : TripFacts L n m0)
    (hcase : MotionCase s ps var p complete reads C lin otherPending L (some b, d, a)) :
    a = none ∧ reads.contains var = false ∧ complete = true ∧ C.contains var = false ∧
      MovedSem sub body m0 n var p b d := by
  obtain ⟨ha, h1, h2, h3⟩ := moved_facts hcase
  refine ⟨ha, h1, h2, h3, ?_⟩
  have hunw := hcomp h2
  generalize hr : (some b, d, a) = r at hcase
  cases hcase with
  | gone _ _ => cases hr
  | after p' _ _ _ => cases hr
  | stay p' _ => cases hr
  | tri p' expr inc cst other linears _ _ _ hp' hexpr hpi hsplit =>
    cases hr
    obtain ⟨hev, _, htri⟩ := htrip expr hexpr
    exact tri_sem ctx hnN hp hunw hcanon hp' hev htri hpi hsplit
  | geo0 p' expr inc mul c _ _ _ hp' hexpr hpi hm1 hc hz =>
    cases hr
    obtain ⟨hev, hlt, _⟩ := htrip expr hexpr
    refine ⟨[], Or.inr ⟨rfl, rfl⟩, fun x hx => (by cases hx), ?_⟩
    have := geo_sem hw ctx hnN hp hunw hcanon hp' hev hlt hpi hc (by rw [hz]; intro x hx; cases hx)
    rw [this, hz]
    simp only [ev_nil, ev_mul, ev_val, ev_var, accN_zero_fn]
    simp
  | geo p' expr inc mul c _ _ _ hp' hexpr hpi hm1 hc hall =>
    cases hr
    obtain ⟨hev, hlt, _⟩ := htrip expr hexpr
    refine ⟨[], Or.inr ⟨rfl, rfl⟩, fun x hx => (by cases hx), ?_⟩
    have := geo_sem hw ctx hnN hp hunw hcanon hp' hev hlt hpi hc hall
    rw [this]
    simp only [ev_nil, ev_add, ev_mul, ev_val, ev_var, accN_zero_fn]
    simp

end

end Hpbf.OptLoop
