/-
C02, first phase: `Expr::codegen` (`getExprValue`) emits straight-line code whose result temporary holds
`Expr.evaluate` of the expression, whatever order `orderParts` and the stable sorts put the parts and factors in.
This semantic reading (`Out`: each result carries its denotation `F`) is a walk of its own over `codegenVars` …
`getExprValue` (`*_spec`), from success only: in `WalkU` (`C02EmitWalk`), what is known of a result, `V s r`, cannot
depend on which result it is.
-/
import Hpbf.Proofs.C02EmitVal
import Hpbf.Proofs.C15Basic

namespace Hpbf
namespace C02Emit
open BcGen Bc Sim Expr

variable {w : Nat}

/-- Result of a code generating function. -/
structure Out (g g' : G w) (r : Nat) (F : State w → BitVec w) : Prop where
  sl : SL g g'
  lt : r < g'.n
  val : Val g' r F

theorem Out.prepend {g g1 g2 : G w} (h : SL g g1) {r : Nat} {F : State w → BitVec w} (o : Out g1 g2 r F) :
    Out g g2 r F := ⟨h.trans o.sl, o.lt, o.val⟩

theorem Out.congr {g g' : G w} {r : Nat} {F F' : State w → BitVec w} (o : Out g g' r F)
    (h : ∀ st, F st = F' st) : Out g g' r F' :=
  ⟨o.sl, o.lt, fun c hs => (o.val c hs).trans (h _)⟩

theorem gv_imm {v : BitVec w} {s s' : St w} {r : Nat} (h : getValue (.imm v) s = .ok (r, s'))
    (hw : WfV (core s)) : Out (core s) (core s') r (fun _ => v) := by
  obtain ⟨h1, h2, h3⟩ := getValue_SL h hw trivial
  exact ⟨h1, h2, Val.of_get h3 (fun _ _ => rfl)⟩

theorem gv_mem {v : Int} {s s' : St w} {r : Nat} (h : getValue (.mem v) s = .ok (r, s'))
    (hw : WfV (core s)) : Out (core s) (core s') r (fun st => st.rd v) := by
  obtain ⟨h1, h2, h3⟩ := getValue_SL h hw trivial
  exact ⟨h1, h2, Val.of_get h3 (fun _ _ => rfl)⟩

theorem gv_add {a b : Nat} {s s' : St w} {r : Nat} (h : getValue (.add a b) s = .ok (r, s'))
    (hw : WfV (core s)) {Fa Fb : State w → BitVec w} (ha : a < (core s).n) (hb : b < (core s).n)
    (va : Val (core s) a Fa) (vb : Val (core s) b Fb) :
    Out (core s) (core s') r (fun st => Fa st + Fb st) := by
  obtain ⟨h1, h2, h3⟩ := getValue_SL h hw ⟨ha, hb⟩
  refine ⟨h1, h2, Val.of_get h3 (fun c hs => ?_)⟩
  simp only [den, (va.mono h1) c hs, (vb.mono h1) c hs]

theorem gv_sub {a b : Nat} {s s' : St w} {r : Nat} (h : getValue (.sub a b) s = .ok (r, s'))
    (hw : WfV (core s)) {Fa Fb : State w → BitVec w} (ha : a < (core s).n) (hb : b < (core s).n)
    (va : Val (core s) a Fa) (vb : Val (core s) b Fb) :
    Out (core s) (core s') r (fun st => Fa st + (- Fb st)) := by
  obtain ⟨h1, h2, h3⟩ := getValue_SL h hw ⟨ha, hb⟩
  refine ⟨h1, h2, Val.of_get h3 (fun c hs => ?_)⟩
  simp only [den, (va.mono h1) c hs, (vb.mono h1) c hs]

theorem gv_mul {a b : Nat} {s s' : St w} {r : Nat} (h : getValue (.mul a b) s = .ok (r, s'))
    (hw : WfV (core s)) {Fa Fb : State w → BitVec w} (ha : a < (core s).n) (hb : b < (core s).n)
    (va : Val (core s) a Fa) (vb : Val (core s) b Fb) :
    Out (core s) (core s') r (fun st => Fa st * Fb st) := by
  obtain ⟨h1, h2, h3⟩ := getValue_SL h hw ⟨ha, hb⟩
  refine ⟨h1, h2, Val.of_get h3 (fun c hs => ?_)⟩
  simp only [den, (va.mono h1) c hs, (vb.mono h1) c hs]

theorem codegenVars_spec : ∀ (vs : List Int) (result : Nat) {s s' : St w} {r : Nat}
    {F : State w → BitVec w}, codegenVars result vs s = .ok (r, s') → WfV (core s) →
    result < (core s).n → Val (core s) result F →
    Out (core s) (core s') r (fun st => F st * mono st.rd vs) := by
  intro vs
  induction vs with
  | nil =>
    intro result s s' r F h hw hlt hv
    simp only [codegenVars, pure_ok] at h
    obtain ⟨rfl, rfl⟩ := h
    exact ⟨SL.refl _, hlt, fun c hs => by simp [hv c hs]⟩
  | cons v vs ih =>
    intro result s s' r F h hw hlt hv
    simp only [codegenVars, bind_ok] at h
    obtain ⟨m, s1, h1, r1, s2, h2, h3⟩ := h
    have o1 := gv_mem h1 hw
    have hw1 := o1.sl.wf hw
    have o2 := gv_mul h2 hw1 (Nat.lt_of_lt_of_le hlt o1.sl.n_le) o1.lt (hv.mono o1.sl) o1.val
    have hw2 := o2.sl.wf hw1
    have o3 := ih r1 h3 hw2 o2.lt o2.val
    refine ((o3.prepend o2.sl).prepend o1.sl).congr (fun st => ?_)
    simp only [mono_cons, BitVec.mul_assoc]

/-- What `codegen_part` leaves in its result: the monomial without the coefficient `-1`. -/
def partVal (p : Part w) (st : State w) : BitVec w :=
  if isNegVar p then mono st.rd p.vars else p.coef * mono st.rd p.vars

theorem codegenPart_spec (var : Int) (p : Part w) {s s' : St w} {r : Nat}
    (h : codegenPart var p s = .ok (r, s')) (hw : WfV (core s)) :
    Out (core s) (core s') r (partVal p) := by
  unfold codegenPart at h
  have hperm := stableSort_perm (fun a b => decide (ordering var a ≤ ordering var b)) p.vars
  generalize stableSort (fun a b => decide (ordering var a ≤ ordering var b)) p.vars = sorted at h hperm
  cases sorted with
  | nil =>
    have hnil : p.vars = [] := List.Perm.eq_nil hperm.symm
    have o := gv_imm h hw
    refine o.congr (fun st => ?_)
    simp [partVal, isNegVar, hnil]
  | cons v0 vs =>
    have hne : p.vars ≠ [] := by
      intro e; rw [e] at hperm; exact List.cons_ne_nil _ _ (List.Perm.eq_nil hperm)
    have hmono : ∀ st : State w, mono st.rd p.vars = st.rd v0 * mono st.rd vs := fun st => by
      rw [← mono_perm st.rd hperm]; rfl
    simp only [bind_ok] at h
    obtain ⟨r0, s1, h1, r1, s2, h2, h3⟩ := h
    have o1 := gv_mem h1 hw
    have hw1 := o1.sl.wf hw
    have o2 := (codegenVars_spec vs r0 h2 hw1 o1.lt o1.val).prepend o1.sl
    have hw2 := o2.sl.wf hw
    have hemp : p.vars.isEmpty = false := by
      cases hv : p.vars with
      | nil => exact absurd hv hne
      | cons _ _ => rfl
    split at h3
    · rename_i hc
      simp only [pure_ok] at h3
      obtain ⟨rfl, rfl⟩ := h3
      refine o2.congr (fun st => ?_)
      simp only [partVal, isNegVar, hemp, Bool.not_false, Bool.true_and, decide_eq_true_eq, hmono]
      split
      · rfl
      · rename_i hn
        simp only [Bool.or_eq_true, decide_eq_true_eq] at hc
        rcases hc with hc | hc
        · rw [hc]; simp
        · exact absurd hc hn
    · rename_i hc
      simp only [bind_ok] at h3
      obtain ⟨im, s3, h4, h5⟩ := h3
      have o3 := gv_imm h4 hw2
      have hw3 := o3.sl.wf hw2
      have o4 := gv_mul h5 hw3 (Nat.lt_of_lt_of_le o2.lt o3.sl.n_le) o3.lt (o2.val.mono o3.sl) o3.val
      refine ((o4.prepend o3.sl).prepend o2.sl).congr (fun st => ?_)
      have : isNegVar p = false := by
        simp only [isNegVar, hemp, Bool.not_false, Bool.true_and, decide_eq_false_iff_not]
        intro e
        apply hc
        simp [e]
      simp only [partVal, this, hmono, Bool.false_eq_true, if_false]
      exact BitVec.mul_comm _ _

theorem partVal_neg {p : Part w} (h : isNegVar p = true) (st : State w) :
    - partVal p st = evalPart st.rd p := by
  have hc : p.coef = -1#w := by
    simp only [isNegVar, Bool.and_eq_true, decide_eq_true_eq] at h; exact h.2
  simp only [partVal, h, if_true, evalPart_eq, hc]
  rw [BitVec.neg_mul, BitVec.one_mul]

theorem partVal_pos {p : Part w} (h : isNegVar p = false) (st : State w) :
    partVal p st = evalPart st.rd p := by
  simp only [partVal, h, Bool.false_eq_true, if_false, evalPart_eq]

theorem codegenRest_spec (var : Int) : ∀ (ps : List (Part w)) (result : Nat) {s s' : St w} {r : Nat}
    {F : State w → BitVec w}, codegenRest var result ps s = .ok (r, s') → WfV (core s) →
    result < (core s).n → Val (core s) result F →
    Out (core s) (core s') r (fun st => F st + evaluate ps st.rd) := by
  intro ps
  induction ps with
  | nil =>
    intro result s s' r F h hw hlt hv
    simp only [codegenRest, pure_ok] at h
    obtain ⟨rfl, rfl⟩ := h
    exact ⟨SL.refl _, hlt, fun c hs => by simp [hv c hs]⟩
  | cons p ps ih =>
    intro result s s' r F h hw hlt hv
    simp only [codegenRest, bind_ok] at h
    obtain ⟨pr, s1, h1, h⟩ := h
    have o1 := codegenPart_spec var p h1 hw
    have hw1 := o1.sl.wf hw
    have hlt1 := Nat.lt_of_lt_of_le hlt o1.sl.n_le
    obtain ⟨r1, s2, o2, h3⟩ : ∃ r1 s2, Out (core s1) (core s2) r1 (fun st => F st + evalPart st.rd p) ∧
        codegenRest var r1 ps s2 = .ok (r, s') := by
      cases hn : isNegVar p with
      | true =>
        simp only [hn, if_true, bind_ok] at h
        obtain ⟨r1, s2, h2, h3⟩ := h
        refine ⟨r1, s2, (gv_sub h2 hw1 hlt1 o1.lt (hv.mono o1.sl) o1.val).congr (fun st => ?_), h3⟩
        rw [partVal_neg hn]
      | false =>
        simp only [hn, Bool.false_eq_true, if_false, bind_ok] at h
        obtain ⟨r1, s2, h2, h3⟩ := h
        refine ⟨r1, s2, (gv_add h2 hw1 hlt1 o1.lt (hv.mono o1.sl) o1.val).congr (fun st => ?_), h3⟩
        rw [partVal_pos hn]
    have hw2 := o2.sl.wf hw1
    have o3 := ih r1 h3 hw2 o2.lt o2.val
    refine ((o3.prepend o2.sl).prepend o1.sl).congr (fun st => ?_)
    simp only [evaluate_cons, BitVec.add_assoc]

/-- `order_parts` sorts and then, when the first part has coefficient `-1`, swaps it with the first part that can lead
the sum (`findSwap`); exchanging two positions is a permutation (`List.set_set_perm`), and the value of a sum needs no
more. -/
theorem orderParts_perm (var : Int) (e : Expr w) : (orderParts var e).Perm e := by
  unfold orderParts
  have hperm := stableSort_perm (fun a b : Part w => decide (partKey var a ≤ partKey var b)) e
  generalize stableSort (fun a b : Part w => decide (partKey var a ≤ partKey var b)) e = sorted at hperm
  cases sorted with
  | nil => exact hperm
  | cons p0 rest =>
    simp only []
    split
    · split
      · rename_i idx hidx
        split
        · rename_i pi hpi
          refine List.Perm.trans ?_ hperm
          have hlt : idx < (p0 :: rest).length := by
            have := (Array.getElem?_eq_some_iff.1 hpi).1
            simpa using this
          have e1 : pi = (p0 :: rest)[idx] := by
            have : (p0 :: rest)[idx]? = some pi := by simpa using hpi
            rw [List.getElem?_eq_getElem hlt] at this
            exact (Option.some.inj this).symm
          have := List.set_set_perm (as := p0 :: rest) (i := 0) (j := idx) (by simp) hlt
          simpa [e1] using this
        · exact hperm
      · exact hperm
    · exact hperm

theorem getExprValue_spec (e : Expr w) (var : Int) {s s' : St w} {r : Nat}
    (h : getExprValue e var s = .ok (r, s')) (hw : WfV (core s)) :
    Out (core s) (core s') r (fun st => evaluate e st.rd) := by
  unfold getExprValue at h
  have hperm := orderParts_perm var e
  generalize orderParts var e = parts at h hperm
  cases parts with
  | nil =>
    have : e = [] := List.Perm.eq_nil hperm.symm
    subst this
    exact (gv_imm h hw).congr (fun st => rfl)
  | cons p0 ps =>
    simp only [bind_ok] at h
    obtain ⟨r0, s1, h1, h⟩ := h
    have o1 := codegenPart_spec var p0 h1 hw
    have hw1 := o1.sl.wf hw
    obtain ⟨r1, s2, o2, h3⟩ : ∃ r1 s2, Out (core s1) (core s2) r1 (fun st => evalPart st.rd p0) ∧
        codegenRest var r1 ps s2 = .ok (r, s') := by
      cases hn : isNegVar p0 with
      | true =>
        simp only [hn, if_true, bind_ok] at h
        obtain ⟨z, s3, h4, r1, s2, h5, h3⟩ := h
        have o3 := gv_imm h4 hw1
        have hw3 := o3.sl.wf hw1
        have o4 := gv_sub h5 hw3 o3.lt (Nat.lt_of_lt_of_le o1.lt o3.sl.n_le) o3.val (o1.val.mono o3.sl)
        refine ⟨r1, s2, (o4.prepend o3.sl).congr (fun st => ?_), h3⟩
        rw [partVal_neg hn]; simp
      | false =>
        simp only [hn, Bool.false_eq_true, if_false, pure_bind'] at h
        exact ⟨r0, s1, ⟨SL.refl _, o1.lt, fun c hs => (o1.val c hs).trans (partVal_pos hn _)⟩, h⟩
    have hw2 := o2.sl.wf hw1
    have o3 := codegenRest_spec var ps r1 h3 hw2 o2.lt o2.val
    refine ((o3.prepend o2.sl).prepend o1.sl).congr (fun st => ?_)
    rw [← evaluate_cons, evaluate_perm st.rd hperm]

end C02Emit
end Hpbf
