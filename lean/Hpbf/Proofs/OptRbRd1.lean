/-
READ-BEFORE-WRITE footprint, the one-run notions under it: the big-step trace predicates `Thru a` (the list runs
to its end without reading or writing the absolute address `a`) and `Exposes a` (some finite prefix of the run reads
`a` with no earlier write of `a`), the special case of lists of `calc` groups, and the pairing `RdOkL` of emitted
code with analysis nodes.

Reads and writes are counted as `C01Dse.stepReads` / `stepWrites` count them: `output src` reads `ptr + src`;
`calc g` reads `ptr + v` for every variable of every right-hand side (before the writes of the same `calc`) and
writes the targets; `input dst` writes `ptr + dst`; `loop c …` / `ifnz c …` read `ptr + c` at every test
(including the re-test of a loop after an iteration, at the moved pointer).  The `once` flag of a loop matters to
neither predicate (`thru_once_irrel`, `exposes_once_irrel`): `OptRbRdAdeq` re-reads a running loop with `once := false`.
-/
import Hpbf.Proofs.OptRbPhys

namespace Hpbf
namespace OptProof
open Opt OptSem Ir

variable {w : Nat}

inductive Thru (a : Int) : List (Instr w) → State w → State w → Prop
  | nil (σ : State w) : Thru a [] σ σ
  | outOk {src : Int} {rest : List (Instr w)} {σ σ1 σ' : State w} :
      σ.output src = (true, σ1) → σ.ptr + src ≠ a → Thru a rest σ1 σ' → Thru a (.output src :: rest) σ σ'
  | inOk {dst : Int} {rest : List (Instr w)} {σ σ1 σ' : State w} :
      σ.input dst = (true, σ1) → σ.ptr + dst ≠ a → Thru a rest σ1 σ' → Thru a (.input dst :: rest) σ σ'
  | calc {g : List (Int × Expr w)} {rest : List (Instr w)} {σ σ' : State w} :
      (∀ ve ∈ g, σ.ptr + ve.1 ≠ a) → (∀ ve ∈ g, ∀ v ∈ Expr.variables ve.2, σ.ptr + v ≠ a) →
      Thru a rest (doCalc σ g) σ' → Thru a (.calc g :: rest) σ σ'
  | loopSkip {c sh : Int} {body : List (Instr w)} {once : Bool} {rest : List (Instr w)} {σ σ' : State w} :
      σ.rd c = 0#w → σ.ptr + c ≠ a → Thru a rest σ σ' → Thru a (.loop c sh body once :: rest) σ σ'
  | loopIter {c sh : Int} {body : List (Instr w)} {once : Bool} {rest : List (Instr w)} {σ σ1 σ' : State w} :
      σ.rd c ≠ 0#w → σ.ptr + c ≠ a → Thru a body σ σ1 →
      Thru a (.loop c sh body once :: rest) (σ1.mov sh) σ' → Thru a (.loop c sh body once :: rest) σ σ'
  | ifSkip {c sh : Int} {body : List (Instr w)} {rest : List (Instr w)} {σ σ' : State w} :
      σ.rd c = 0#w → σ.ptr + c ≠ a → Thru a rest σ σ' → Thru a (.ifnz c sh body :: rest) σ σ'
  | ifIter {c sh : Int} {body : List (Instr w)} {rest : List (Instr w)} {σ σ1 σ' : State w} :
      σ.rd c ≠ 0#w → σ.ptr + c ≠ a → Thru a body σ σ1 → Thru a rest (σ1.mov sh) σ' →
      Thru a (.ifnz c sh body :: rest) σ σ'

/-- The constructors overlap on purpose (a test of the cell `a` is exposed by `loopHere`/`ifHere`, and `loopIter`,
`loopSkip`, … do not ask `σ.ptr + c ≠ a`): a derivation is a witness, the predicate is not computed by cases. -/
inductive Exposes (a : Int) : List (Instr w) → State w → Prop
  | outHere {src : Int} {rest : List (Instr w)} {σ : State w} :
      σ.ptr + src = a → Exposes a (.output src :: rest) σ
  | outNext {src : Int} {rest : List (Instr w)} {σ σ1 : State w} :
      σ.output src = (true, σ1) → Exposes a rest σ1 → Exposes a (.output src :: rest) σ
  | inNext {dst : Int} {rest : List (Instr w)} {σ σ1 : State w} :
      σ.input dst = (true, σ1) → σ.ptr + dst ≠ a → Exposes a rest σ1 → Exposes a (.input dst :: rest) σ
  | calcHere {g : List (Int × Expr w)} {rest : List (Instr w)} {σ : State w} :
      (∃ ve ∈ g, ∃ v ∈ Expr.variables ve.2, σ.ptr + v = a) → Exposes a (.calc g :: rest) σ
  | calcNext {g : List (Int × Expr w)} {rest : List (Instr w)} {σ : State w} :
      (∀ ve ∈ g, σ.ptr + ve.1 ≠ a) → Exposes a rest (doCalc σ g) → Exposes a (.calc g :: rest) σ
  | loopHere {c sh : Int} {body : List (Instr w)} {once : Bool} {rest : List (Instr w)} {σ : State w} :
      σ.ptr + c = a → Exposes a (.loop c sh body once :: rest) σ
  | loopSkip {c sh : Int} {body : List (Instr w)} {once : Bool} {rest : List (Instr w)} {σ : State w} :
      σ.rd c = 0#w → Exposes a rest σ → Exposes a (.loop c sh body once :: rest) σ
  | loopIn {c sh : Int} {body : List (Instr w)} {once : Bool} {rest : List (Instr w)} {σ : State w} :
      σ.rd c ≠ 0#w → Exposes a body σ → Exposes a (.loop c sh body once :: rest) σ
  | loopIter {c sh : Int} {body : List (Instr w)} {once : Bool} {rest : List (Instr w)} {σ σ1 : State w} :
      σ.rd c ≠ 0#w → Thru a body σ σ1 → Exposes a (.loop c sh body once :: rest) (σ1.mov sh) →
      Exposes a (.loop c sh body once :: rest) σ
  | ifHere {c sh : Int} {body : List (Instr w)} {rest : List (Instr w)} {σ : State w} :
      σ.ptr + c = a → Exposes a (.ifnz c sh body :: rest) σ
  | ifSkip {c sh : Int} {body : List (Instr w)} {rest : List (Instr w)} {σ : State w} :
      σ.rd c = 0#w → Exposes a rest σ → Exposes a (.ifnz c sh body :: rest) σ
  | ifIn {c sh : Int} {body : List (Instr w)} {rest : List (Instr w)} {σ : State w} :
      σ.rd c ≠ 0#w → Exposes a body σ → Exposes a (.ifnz c sh body :: rest) σ
  | ifIter {c sh : Int} {body : List (Instr w)} {rest : List (Instr w)} {σ σ1 : State w} :
      σ.rd c ≠ 0#w → Thru a body σ σ1 → Exposes a rest (σ1.mov sh) → Exposes a (.ifnz c sh body :: rest) σ

theorem not_exposes_nil (a : Int) (σ : State w) : ¬ Exposes a ([] : List (Instr w)) σ := by
  intro h; cases h

theorem thru_exec {a : Int} {l : List (Instr w)} {σ σ' : State w} (h : Thru a l σ σ') : Exec l σ (.fin σ') := by
  induction h with
  | nil σ => exact .nil σ
  | outOk h1 _ _ ih => exact .outOk h1 ih
  | inOk h1 _ _ ih => exact .inOk h1 ih
  | «calc» _ _ _ ih => exact .calc ih
  | loopSkip hz _ _ ih => exact .loopSkip hz ih
  | loopIter hnz _ _ _ ih1 ih2 => exact .loopIter hnz ih1 ih2
  | ifSkip hz _ _ ih => exact .ifSkip hz ih
  | ifIter hnz _ _ _ ih1 ih2 => exact .ifIter hnz ih1 ih2

theorem thru_ptr {a : Int} {l : List (Instr w)} {σ σ' : State w} (h : Thru a l σ σ') (hns : nsL l) :
    σ'.ptr = σ.ptr := (phys_frame (thru_exec h) σ' rfl hns).1

theorem thru_once_irrel {a : Int} {c sh : Int} {body rest : List (Instr w)} {o o' : Bool} {σ σ' : State w}
    (h : Thru a (.loop c sh body o :: rest) σ σ') : Thru a (.loop c sh body o' :: rest) σ σ' := by
  generalize hl : Instr.loop c sh body o :: rest = l at h
  induction h with
  | loopSkip hz hp hr => cases hl; exact .loopSkip hz hp hr
  | loopIter hnz hp hb _ _ ih => cases hl; exact .loopIter hnz hp hb (ih rfl)
  | _ => cases hl

theorem exposes_once_irrel {a : Int} {c sh : Int} {body rest : List (Instr w)} {o o' : Bool} {σ : State w}
    (h : Exposes a (.loop c sh body o :: rest) σ) : Exposes a (.loop c sh body o' :: rest) σ := by
  generalize hl : Instr.loop c sh body o :: rest = l at h
  induction h with
  | loopHere hp => cases hl; exact .loopHere hp
  | loopSkip hz hr => cases hl; exact .loopSkip hz hr
  | loopIn hnz hb => cases hl; exact .loopIn hnz hb
  | loopIter hnz hb _ ih => cases hl; exact .loopIter hnz hb (ih rfl)
  | _ => cases hl

/-- The split of `l1 ++ l2`, from the split of `i :: (l1 ++ l2)` (the form the induction over a derivation
provides: an iteration of a loop recurs on the same list). -/
theorem thru_split {a : Int} {l : List (Instr w)} {σ σ' : State w} (h : Thru a l σ σ')
    (hc : ∀ i l1 l2, l = i :: (l1 ++ l2) → ∃ σ1, Thru a (i :: l1) σ σ1 ∧ Thru a l2 σ1 σ') :
    ∀ l1 l2, l = l1 ++ l2 → ∃ σ1, Thru a l1 σ σ1 ∧ Thru a l2 σ1 σ'
  | [], _, e => by subst e; exact ⟨σ, .nil σ, h⟩
  | i :: l1, l2, e => hc i l1 l2 e

theorem thru_cons_append {a : Int} {l : List (Instr w)} {σ σ' : State w} (h : Thru a l σ σ') :
    ∀ (i : Instr w) (l1 l2 : List (Instr w)), l = i :: (l1 ++ l2) →
      ∃ σ1, Thru a (i :: l1) σ σ1 ∧ Thru a l2 σ1 σ' := by
  induction h with
  | nil σ => intro i l1 l2 e; cases e
  | outOk ho hp hrest ih =>
    intro i l1 l2 e
    cases e
    obtain ⟨σm, h1, h2⟩ := thru_split hrest ih l1 l2 rfl
    exact ⟨σm, .outOk ho hp h1, h2⟩
  | inOk ho hp hrest ih =>
    intro i l1 l2 e
    cases e
    obtain ⟨σm, h1, h2⟩ := thru_split hrest ih l1 l2 rfl
    exact ⟨σm, .inOk ho hp h1, h2⟩
  | «calc» hw hr hrest ih =>
    intro i l1 l2 e
    cases e
    obtain ⟨σm, h1, h2⟩ := thru_split hrest ih l1 l2 rfl
    exact ⟨σm, .calc hw hr h1, h2⟩
  | loopSkip hz hp hrest ih =>
    intro i l1 l2 e
    cases e
    obtain ⟨σm, h1, h2⟩ := thru_split hrest ih l1 l2 rfl
    exact ⟨σm, .loopSkip hz hp h1, h2⟩
  | loopIter hnz hp hb _ _ ih2 =>
    intro i l1 l2 e
    cases e
    obtain ⟨σm, h1, h2⟩ := ih2 _ l1 l2 rfl
    exact ⟨σm, .loopIter hnz hp hb h1, h2⟩
  | ifSkip hz hp hrest ih =>
    intro i l1 l2 e
    cases e
    obtain ⟨σm, h1, h2⟩ := thru_split hrest ih l1 l2 rfl
    exact ⟨σm, .ifSkip hz hp h1, h2⟩
  | ifIter hnz hp hb hrest _ ih2 =>
    intro i l1 l2 e
    cases e
    obtain ⟨σm, h1, h2⟩ := thru_split hrest ih2 l1 l2 rfl
    exact ⟨σm, .ifIter hnz hp hb h1, h2⟩

theorem thru_append {a : Int} {l1 l2 : List (Instr w)} {σ σ' : State w} (h : Thru a (l1 ++ l2) σ σ') :
    ∃ σ1, Thru a l1 σ σ1 ∧ Thru a l2 σ1 σ' :=
  thru_split h (thru_cons_append h) l1 l2 rfl

theorem exposes_split {a : Int} {l : List (Instr w)} {σ : State w} (h : Exposes a l σ)
    (hc : ∀ i l1 l2, l = i :: (l1 ++ l2) →
      Exposes a (i :: l1) σ ∨ ∃ σ1, Thru a (i :: l1) σ σ1 ∧ Exposes a l2 σ1) :
    ∀ l1 l2, l = l1 ++ l2 → Exposes a l1 σ ∨ ∃ σ1, Thru a l1 σ σ1 ∧ Exposes a l2 σ1
  | [], _, e => by subst e; exact Or.inr ⟨σ, .nil σ, h⟩
  | i :: l1, l2, e => hc i l1 l2 e

theorem exposes_cons_append {a : Int} {l : List (Instr w)} {σ : State w} (h : Exposes a l σ) :
    ∀ (i : Instr w) (l1 l2 : List (Instr w)), l = i :: (l1 ++ l2) →
      Exposes a (i :: l1) σ ∨ ∃ σ1, Thru a (i :: l1) σ σ1 ∧ Exposes a l2 σ1 := by
  induction h with
  | outHere hp => intro i l1 l2 e; cases e; exact Or.inl (.outHere hp)
  | @outNext src rest σ σ1 ho hrest ih =>
    intro i l1 l2 e
    cases e
    by_cases hp : σ.ptr + src = a
    · exact Or.inl (.outHere hp)
    · rcases exposes_split hrest ih l1 l2 rfl with h | ⟨σm, h1, h2⟩
      · exact Or.inl (.outNext ho h)
      · exact Or.inr ⟨σm, .outOk ho hp h1, h2⟩
  | inNext ho hp hrest ih =>
    intro i l1 l2 e
    cases e
    rcases exposes_split hrest ih l1 l2 rfl with h | ⟨σm, h1, h2⟩
    · exact Or.inl (.inNext ho hp h)
    · exact Or.inr ⟨σm, .inOk ho hp h1, h2⟩
  | calcHere hr => intro i l1 l2 e; cases e; exact Or.inl (.calcHere hr)
  | @calcNext g rest σ hw hrest ih =>
    intro i l1 l2 e
    cases e
    by_cases hr : ∃ ve ∈ g, ∃ v ∈ Expr.variables ve.2, σ.ptr + v = a
    · exact Or.inl (.calcHere hr)
    · have hr' : ∀ ve ∈ g, ∀ v ∈ Expr.variables ve.2, σ.ptr + v ≠ a :=
        fun ve hve v hv hh => hr ⟨ve, hve, v, hv, hh⟩
      rcases exposes_split hrest ih l1 l2 rfl with h | ⟨σm, h1, h2⟩
      · exact Or.inl (.calcNext hw h)
      · exact Or.inr ⟨σm, .calc hw hr' h1, h2⟩
  | loopHere hp => intro i l1 l2 e; cases e; exact Or.inl (.loopHere hp)
  | @loopSkip c sh body once rest σ hz hrest ih =>
    intro i l1 l2 e
    cases e
    by_cases hp : σ.ptr + c = a
    · exact Or.inl (.loopHere hp)
    · rcases exposes_split hrest ih l1 l2 rfl with h | ⟨σm, h1, h2⟩
      · exact Or.inl (.loopSkip hz h)
      · exact Or.inr ⟨σm, .loopSkip hz hp h1, h2⟩
  | loopIn hnz hb _ => intro i l1 l2 e; cases e; exact Or.inl (.loopIn hnz hb)
  | @loopIter c sh body once rest σ σ1 hnz hb _ ih =>
    intro i l1 l2 e
    cases e
    by_cases hp : σ.ptr + c = a
    · exact Or.inl (.loopHere hp)
    · rcases ih _ l1 l2 rfl with h | ⟨σm, h1, h2⟩
      · exact Or.inl (.loopIter hnz hb h)
      · exact Or.inr ⟨σm, .loopIter hnz hp hb h1, h2⟩
  | ifHere hp => intro i l1 l2 e; cases e; exact Or.inl (.ifHere hp)
  | @ifSkip c sh body rest σ hz hrest ih =>
    intro i l1 l2 e
    cases e
    by_cases hp : σ.ptr + c = a
    · exact Or.inl (.ifHere hp)
    · rcases exposes_split hrest ih l1 l2 rfl with h | ⟨σm, h1, h2⟩
      · exact Or.inl (.ifSkip hz h)
      · exact Or.inr ⟨σm, .ifSkip hz hp h1, h2⟩
  | ifIn hnz hb _ => intro i l1 l2 e; cases e; exact Or.inl (.ifIn hnz hb)
  | @ifIter c sh body rest σ σ1 hnz hb hrest ih =>
    intro i l1 l2 e
    cases e
    by_cases hp : σ.ptr + c = a
    · exact Or.inl (.ifHere hp)
    · rcases exposes_split hrest ih l1 l2 rfl with h | ⟨σm, h1, h2⟩
      · exact Or.inl (.ifIter hnz hb h)
      · exact Or.inr ⟨σm, .ifIter hnz hp hb h1, h2⟩

theorem exposes_append {a : Int} {l1 l2 : List (Instr w)} {σ : State w} (h : Exposes a (l1 ++ l2) σ) :
    Exposes a l1 σ ∨ ∃ σ1, Thru a l1 σ σ1 ∧ Exposes a l2 σ1 :=
  exposes_split h (exposes_cons_append h) l1 l2 rfl

def ThruC (v : Int) (comps : List (List (Int × Expr w))) : Prop :=
  ∀ g ∈ comps, v ∉ g.map (·.1) ∧ ∀ ve ∈ g, v ∉ Expr.variables ve.2

def ExposesC (v : Int) : List (List (Int × Expr w)) → Prop
  | [] => False
  | g :: rest => (∃ ve ∈ g, v ∈ Expr.variables ve.2) ∨ (v ∉ g.map (·.1) ∧ ExposesC v rest)

theorem thruC_nil (v : Int) : ThruC v ([] : List (List (Int × Expr w))) := fun _ h => by cases h

theorem thruC_append {v : Int} {c1 c2 : List (List (Int × Expr w))} :
    ThruC v (c1 ++ c2) ↔ ThruC v c1 ∧ ThruC v c2 := by
  unfold ThruC
  constructor
  · intro h
    exact ⟨fun g hg => h g (List.mem_append_left _ hg), fun g hg => h g (List.mem_append_right _ hg)⟩
  · rintro ⟨h1, h2⟩ g hg
    rcases List.mem_append.1 hg with h | h
    · exact h1 g h
    · exact h2 g h

theorem exposesC_append {v : Int} {c1 c2 : List (List (Int × Expr w))} :
    ExposesC v (c1 ++ c2) ↔ ExposesC v c1 ∨ ((∀ g ∈ c1, v ∉ g.map (·.1)) ∧ ExposesC v c2) := by
  induction c1 with
  | nil =>
    exact ⟨fun h => Or.inr ⟨fun _ hg => (nomatch hg), h⟩, fun h => h.elim (fun h => False.elim h) (fun h => h.2)⟩
  | cons g c1 ih =>
    simp only [List.cons_append, ExposesC, ih, List.mem_cons, forall_eq_or_imp]
    constructor
    · rintro (h | ⟨h1, h2 | ⟨h2, h3⟩⟩)
      · exact Or.inl (Or.inl h)
      · exact Or.inl (Or.inr ⟨h1, h2⟩)
      · exact Or.inr ⟨⟨h1, h2⟩, h3⟩
    · rintro ((h | ⟨h1, h2⟩) | ⟨⟨h1, h2⟩, h3⟩)
      · exact Or.inl h
      · exact Or.inr ⟨h1, Or.inl h2⟩
      · exact Or.inr ⟨h1, Or.inr ⟨h2, h3⟩⟩

theorem thruC_of_not_exposesC {v : Int} {comps : List (List (Int × Expr w))}
    (hw : ∀ g ∈ comps, v ∉ g.map (·.1)) (he : ¬ ExposesC v comps) : ThruC v comps := by
  induction comps with
  | nil => exact thruC_nil v
  | cons g comps ih =>
    have hg := hw g (by simp)
    have h1 : ¬ ∃ ve ∈ g, v ∈ Expr.variables ve.2 := fun h => he (Or.inl h)
    have h2 : ¬ ExposesC v comps := fun h => he (Or.inr ⟨hg, h⟩)
    intro g' hg'
    rcases List.mem_cons.1 hg' with e | e
    · subst e
      exact ⟨hg, fun ve hve hv => h1 ⟨ve, hve, hv⟩⟩
    · exact ih (fun g'' h'' => hw g'' (List.mem_cons_of_mem _ h'')) h2 g' e

theorem thruC_not_written {v : Int} {comps : List (List (Int × Expr w))} (h : ThruC v comps) :
    ∀ g ∈ comps, v ∉ g.map (·.1) := fun g hg => (h g hg).1

theorem thruC_not_exposesC {v : Int} {comps : List (List (Int × Expr w))} (h : ThruC v comps) :
    ¬ ExposesC v comps := by
  induction comps with
  | nil => exact fun h' => h'
  | cons g comps ih =>
    rintro (⟨ve, hve, hv⟩ | ⟨_, h'⟩)
    · exact (h g (by simp)).2 ve hve hv
    · exact ih (fun g' hg' => h g' (List.mem_cons_of_mem _ hg')) h'

theorem ptr_add_inj {p v x : Int} : p + x = p + v ↔ x = v := by omega

theorem thru_calcs_iff (comps : List (List (Int × Expr w))) (σ σ' : State w) (v : Int) :
    Thru (σ.ptr + v) (comps.map Instr.calc) σ σ' ↔ ThruC v comps ∧ σ' = comps.foldl doCalc σ := by
  induction comps generalizing σ with
  | nil =>
    constructor
    · intro h; cases h; exact ⟨thruC_nil v, rfl⟩
    · rintro ⟨_, rfl⟩; exact .nil _
  | cons g comps ih =>
    have hp : (doCalc σ g).ptr = σ.ptr := (C01Dse.doCalc_meta σ g).1
    simp only [List.map_cons, List.foldl_cons]
    constructor
    · intro h
      cases h with
      | «calc» hw hr hrest =>
        rw [← hp] at hrest
        obtain ⟨h1, h2⟩ := (ih (doCalc σ g)).1 hrest
        refine ⟨?_, h2⟩
        intro g' hg'
        rcases List.mem_cons.1 hg' with e | e
        · subst e
          refine ⟨fun hm => ?_, fun ve hve hv => hr ve hve v hv rfl⟩
          obtain ⟨ve, hve, e'⟩ := List.mem_map.1 hm
          exact hw ve hve (by rw [e'])
        · exact h1 g' e
    · rintro ⟨h1, h2⟩
      have hg := h1 g (by simp)
      refine .calc ?_ ?_ ?_
      · intro ve hve hh
        exact hg.1 (List.mem_map.2 ⟨ve, hve, ptr_add_inj.1 hh⟩)
      · intro ve hve x hx hh
        exact hg.2 ve hve (by rw [← ptr_add_inj.1 hh]; exact hx)
      · have := (ih (doCalc σ g)).2 ⟨fun g' hg' => h1 g' (List.mem_cons_of_mem _ hg'), h2⟩
        rw [hp] at this
        exact this

theorem exposes_calcs_iff (comps : List (List (Int × Expr w))) (σ : State w) (v : Int) :
    Exposes (σ.ptr + v) (comps.map Instr.calc) σ ↔ ExposesC v comps := by
  induction comps generalizing σ with
  | nil =>
    constructor
    · intro h; cases h
    · intro h; exact h.elim
  | cons g comps ih =>
    have hp : (doCalc σ g).ptr = σ.ptr := (C01Dse.doCalc_meta σ g).1
    simp only [List.map_cons, ExposesC]
    constructor
    · intro h
      cases h with
      | calcHere hr =>
        obtain ⟨ve, hve, x, hx, hh⟩ := hr
        exact Or.inl ⟨ve, hve, by rw [← ptr_add_inj.1 hh]; exact hx⟩
      | calcNext hw hrest =>
        rw [← hp] at hrest
        refine Or.inr ⟨fun hm => ?_, (ih (doCalc σ g)).1 hrest⟩
        obtain ⟨ve, hve, e'⟩ := List.mem_map.1 hm
        exact hw ve hve (by rw [e'])
    · rintro (⟨ve, hve, hv⟩ | ⟨hw, hrest⟩)
      · exact .calcHere ⟨ve, hve, v, hv, rfl⟩
      · refine .calcNext ?_ ?_
        · intro ve hve hh
          exact hw (List.mem_map.2 ⟨ve, hve, ptr_add_inj.1 hh⟩)
        · have := (ih (doCalc σ g)).2 hrest
          rw [hp] at this
          exact this

mutual
/-- The `reads` of the node of a non-moving loop bound what an iteration of its body exposes (in runs that do not
reach a `once` loop with a zero condition), recursively. -/
def RdOkI : Instr w → OptAnalysis w → Prop
  | .loop c _ body _, .mk _ hs reads _ subs =>
      (hs = false → ∀ σ : State w, σ.rd c ≠ 0#w → ¬ Bad body σ →
        ∀ v, v ∉ reads → ¬ Exposes (σ.ptr + v) body σ) ∧ RdOkL body subs
  | .ifnz _ _ body, .mk _ _ _ _ subs => RdOkL body subs
  | .output _, _ => False
  | .input _, _ => False
  | .calc _, _ => False
/-- The nested blocks of the list, in order, are paired with the nodes (as `ShapeL`). -/
def RdOkL : List (Instr w) → List (OptAnalysis w) → Prop
  | [], subs => subs = []
  | i :: rest, subs =>
    if C01Dse.isBlock i then ∃ a subs', subs = a :: subs' ∧ RdOkI i a ∧ RdOkL rest subs'
    else RdOkL rest subs
end

theorem rdOkL_nil : RdOkL ([] : List (Instr w)) [] := by rw [RdOkL]

theorem rdOkL_nil_iff {subs : List (OptAnalysis w)} : RdOkL ([] : List (Instr w)) subs ↔ subs = [] := by
  rw [RdOkL]

theorem rdOkL_cons_nonblock {i : Instr w} (h : C01Dse.isBlock i = false) {rest : List (Instr w)}
    {subs : List (OptAnalysis w)} : RdOkL (i :: rest) subs ↔ RdOkL rest subs := by
  rw [RdOkL, h]; simp

theorem rdOkL_cons_block {i : Instr w} (h : C01Dse.isBlock i = true) {rest : List (Instr w)}
    {subs : List (OptAnalysis w)} :
    RdOkL (i :: rest) subs ↔ ∃ a subs', subs = a :: subs' ∧ RdOkI i a ∧ RdOkL rest subs' := by
  rw [RdOkL, h]; simp

theorem rdOkI_loop {c sh : Int} {body : List (Instr w)} {once : Bool} {a : OptAnalysis w}
    (h : RdOkI (.loop c sh body once) a) :
    (a.hasShift = false → ∀ σ : State w, σ.rd c ≠ 0#w → ¬ Bad body σ →
      ∀ v, v ∉ a.reads → ¬ Exposes (σ.ptr + v) body σ) ∧ RdOkL body a.subBlocks := by
  obtain ⟨L, hs, reads, cl, subs⟩ := a
  rw [RdOkI] at h
  exact h

theorem rdOkI_ifnz {c sh : Int} {body : List (Instr w)} {a : OptAnalysis w}
    (h : RdOkI (.ifnz c sh body) a) : RdOkL body a.subBlocks := by
  obtain ⟨L, hs, reads, cl, subs⟩ := a
  rw [RdOkI] at h
  exact h

theorem rdOkI_isBlock {i : Instr w} {a : OptAnalysis w} (h : RdOkI i a) : C01Dse.isBlock i = true := by
  cases i with
  | output _ => rw [RdOkI] at h; exact h.elim
  | input _ => rw [RdOkI] at h; exact h.elim
  | «calc» _ => rw [RdOkI] at h; exact h.elim
  | loop _ _ _ _ => rfl
  | ifnz _ _ _ => rfl

theorem rdOkL_append {l1 l2 : List (Instr w)} {s1 s2 : List (OptAnalysis w)} (h1 : RdOkL l1 s1)
    (h2 : RdOkL l2 s2) : RdOkL (l1 ++ l2) (s1 ++ s2) := by
  induction l1 generalizing s1 with
  | nil =>
    rw [rdOkL_nil_iff] at h1
    subst h1; exact h2
  | cons i l1 ih =>
    rw [List.cons_append]
    cases hb : C01Dse.isBlock i with
    | false =>
      rw [rdOkL_cons_nonblock hb] at h1 ⊢
      exact ih h1
    | true =>
      rw [rdOkL_cons_block hb] at h1 ⊢
      obtain ⟨a, subs', rfl, ha, hr⟩ := h1
      exact ⟨a, subs' ++ s2, rfl, ha, ih hr⟩

theorem rdOkL_nonblocks {l : List (Instr w)} (h : ∀ i ∈ l, C01Dse.isBlock i = false) : RdOkL l [] := by
  induction l with
  | nil => exact rdOkL_nil
  | cons i l ih =>
    rw [rdOkL_cons_nonblock (h i (by simp))]
    exact ih (fun j hj => h j (by simp [hj]))

theorem rdOkL_single {i : Instr w} {a : OptAnalysis w} (h : RdOkI i a) : RdOkL [i] [a] := by
  rw [rdOkL_cons_block (rdOkI_isBlock h)]
  exact ⟨a, [], rfl, h, rdOkL_nil⟩

end OptProof
end Hpbf
