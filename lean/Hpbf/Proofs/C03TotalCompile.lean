/-
C03 / C13 (the JIT's instruction selector is total on generator output): compilation succeeds.
`compile_total_of`: `compileX86` succeeds if every `emitInstr` does and relocation finds every branch target
(which `TargetsOk` guarantees: `jccInstr` items only come from `brz`/`brnz`); `emitInstrRaw_fits`: the items emitted
for an instruction with encodable operands (`InstrFits`) pass the operand-range test.
-/
import Hpbf.Proofs.C03TotalTranslate
import Hpbf.Proofs.C03TotalFits
import Hpbf.Proofs.C03FlowLayout
import Hpbf.Proofs.C03
namespace Hpbf
namespace C03
open Asm JitGen
variable {w : Nat}

/-- Where the `jccInstr` items come from: only `brz`/`brnz`, with target `i + off`. -/
theorem emitInstrRaw_jccInstr {sz : Size} {limited safe : Bool} {minAcc maxAcc : Int} {aE aI aO i live : Nat}
    {ins : Bc.Instr w} {its : List Item}
    (h : emitInstrRaw sz limited safe minAcc maxAcc aE aI aO i live ins = some its)
    {pr : JmpPred} {t : Int} (hm : Item.jccInstr pr t ∈ its) :
    ∃ c off, (ins = .brz c off ∨ ins = .brnz c off) ∧ t = (i : Int) + off := by
  have np : ∀ xs : List X86, Item.jccInstr pr t ∉ plains xs := by intro xs; simp [plains]
  cases ins with
  | noop => simp [emitInstrRaw] at h; subst h; simp at hm
  | scan c s => simp [emitInstrRaw] at h
  | mov shift =>
    cases safe with
    | false => simp [emitInstrRaw] at h; subst h; simp at hm
    | true =>
      simp only [emitInstrRaw, if_true, Option.bind_eq_bind, Option.bind_eq_some_iff, Option.some.injEq] at h
      obtain ⟨pre, -, post, -, rfl⟩ := h
      rcases List.mem_append.1 hm with hm | hm
      · exact absurd hm (np _)
      · simp at hm
  | inp | out =>
    simp only [emitInstrRaw, Option.bind_eq_bind, Option.bind_eq_some_iff, Option.some.injEq] at h
    obtain ⟨pre, -, post, -, rfl⟩ := h
    rcases List.mem_append.1 hm with hm | hm
    · exact absurd hm (np _)
    · simp at hm
  | brz c o =>
    simp only [emitInstrRaw, Option.some.injEq] at h; subst h
    rcases List.mem_append.1 hm with hm | hm
    · split at hm <;> simp [limitCheck] at hm
    · simp at hm; exact ⟨c, o, Or.inl rfl, hm.2⟩
  | brnz c o =>
    simp only [emitInstrRaw, Option.some.injEq] at h; subst h
    rcases List.mem_append.1 hm with hm | hm
    · split at hm <;> simp [limitCheck] at hm
    · simp at hm; exact ⟨c, o, Or.inr rfl, hm.2⟩
  | add | sub | mul | copy =>
    simp only [emitInstrRaw, Option.map_eq_some_iff] at h
    obtain ⟨xs, -, rfl⟩ := h; exact absurd hm (np _)

theorem resolveItems_isSome {locs : Array Nat} {term : Nat} : ∀ (its : List Item) (pos : Nat),
    (∀ it ∈ its, ∀ pos, (JitGen.resolve locs term pos it).isSome = true) →
    (resolveItems locs term pos its).isSome = true
  | [], _, _ => rfl
  | it :: rest, pos, h => by
    have h1 := h it List.mem_cons_self pos
    have h2 := resolveItems_isSome rest (pos + it.size) (fun x hx => h x (List.mem_cons_of_mem _ hx))
    simp only [resolveItems]
    cases hr : JitGen.resolve locs term pos it with
    | none => rw [hr] at h1; cases h1
    | some xs =>
      cases hrs : resolveItems locs term (pos + it.size) rest with
      | none => rw [hrs] at h2; cases h2
      | some ys => rfl

/-- The two per-instruction conditions of a successful compilation: the selector has an arm and its operands
pass the range test (`emitInstr`), and relocation finds every branch target. -/
theorem compile_total_of (p : Bc.Program w) (limited safe : Bool) (aE aI aO : Nat) {sz : Size}
    (hsz : Size.ofBits? w = some sz) (hsize : p.live.size = p.insts.size)
    (hemit : ∀ (i : Nat) (ins : Bc.Instr w) (lv : Nat), p.insts[i]? = some ins → p.live[i]? = some lv →
      (emitInstr sz limited safe p.minAcc p.maxAcc aE aI aO i lv ins).isSome = true)
    (hT : C02.TargetsOk p.insts) :
    ∃ code, compileX86 w p limited safe aE aI aO = some code := by
  have hbody : (emitProgram sz p limited safe aE aI aO).isSome = true := by
    unfold emitProgram
    apply mapM_opt_some
    rintro ⟨⟨ins, lv⟩, i⟩ hmem
    obtain ⟨k, hk⟩ := List.getElem?_of_mem hmem
    rw [List.getElem?_zipIdx] at hk
    cases hz : (p.insts.toList.zip p.live.toList)[k]? with
    | none => rw [hz] at hk; cases hk
    | some pr =>
      rw [hz] at hk
      simp only [Option.map_some, Option.some.injEq, Prod.mk.injEq, Nat.zero_add] at hk
      obtain ⟨rfl, rfl⟩ := hk
      have := List.getElem?_zip_eq_some.1 hz
      simp only at this
      exact hemit k ins lv (by simpa using this.1) (by simpa using this.2)
  cases hb : emitProgram sz p limited safe aE aI aO with
  | none => rw [hb] at hbody; cases hbody
  | some body =>
    have hlen : body.length = p.insts.size := emitProgram_length hb hsize
    have hres : (resolveItems (locsOf p body) (termOf p body) (startOf p) body.flatten).isSome = true := by
      apply resolveItems_isSome
      intro it hit pos
      cases it with
      | plain x => rfl
      | jccTerm pr => rfl
      | skip8 pr b => rfl
      | jccInstr pr t =>
        obtain ⟨its, hits, hin⟩ := List.mem_flatten.1 hit
        obtain ⟨i, hi⟩ := List.getElem?_of_mem hits
        have hlt : i < p.insts.size := by
          rw [← hlen]; exact (List.getElem?_eq_some_iff.1 hi).1
        obtain ⟨its', hits', hemit'⟩ := emitProgram_getElem? hb (i := i) (ins := p.insts[i]) (lv := p.live[i]'(by omega))
          (Array.getElem?_eq_getElem hlt) (Array.getElem?_eq_getElem (by omega))
        rw [hi] at hits'; cases hits'
        obtain ⟨c, off, hins, rfl⟩ := emitInstrRaw_jccInstr (emitInstr_raw hemit').1 hin
        have hoff : BcGen.branchOff? (p.insts[i]) = some off := by rcases hins with h | h <;> rw [h] <;> rfl
        have := hT i _ off (Array.getElem?_eq_getElem hlt) hoff
        simp only [JitGen.resolve]
        rw [if_neg (by omega), locsOf_getElem?, if_pos (by rw [hlen]; omega)]
        rfl
    cases hr : resolveItems (locsOf p body) (termOf p body) (startOf p) body.flatten with
    | none => rw [hr] at hres; cases hres
    | some rcode =>
      exact ⟨_, compileX86_of ⟨sz, hsz, body, hb, rcode, hr, rfl⟩⟩

theorem fits_addr (a : Nat) (r : Reg) : (X86.movRImm64 r (BitVec.ofNat 64 a).toInt).fits = true := by
  simp only [X86.fits, fitsS, Bool.and_eq_true, decide_eq_true_eq]
  have h1 := BitVec.le_two_mul_toInt (x := BitVec.ofNat 64 a)
  have h2 := BitVec.two_mul_toInt_lt (x := BitVec.ofNat 64 a)
  constructor <;> omega

theorem preCall_fits {live : Nat} {pre : List X86} (h : preCall live = some pre) : pre.all X86.fits = true := by
  simp only [preCall, Option.bind_eq_bind, Option.bind_eq_some_iff, Option.some.injEq] at h
  obtain ⟨rs, -, rfl⟩ := h
  rw [List.all_append, List.all_map]
  split <;> simp [X86.fits, RegMem.fits, fitsS]

theorem postCall_fits {live : Nat} {post : List X86} (h : postCall live = some post) : post.all X86.fits = true := by
  simp only [postCall, Option.bind_eq_bind, Option.bind_eq_some_iff, Option.some.injEq] at h
  obtain ⟨rs, -, rfl⟩ := h
  rw [List.all_append, List.all_map]
  split <;> simp [X86.fits, RegMem.fits, fitsS, addImm64, Size.immBits]

theorem plains_fits {xs : List X86} (h : xs.all X86.fits = true) : (plains xs).all Item.fits = true := by
  rw [plains_all_fits]; exact h

/-- The operand-range condition on one instruction (`safe`: with bounds-checked `mov`). -/
def InstrFits (sz : Size) (safe : Bool) (mn mx : Int) : Bc.Instr w → Prop
  | .copy d s => LocFits sz d ∧ LocFits sz s
  | .add d a b => LocFits sz d ∧ LocFits sz a ∧ LocFits sz b
  | .sub d a b => LocFits sz d ∧ LocFits sz a ∧ LocFits sz b
  | .mul d a b => LocFits sz d ∧ LocFits sz a ∧ LocFits sz b
  | .inp m => DispOk sz m
  | .out m => DispOk sz m
  | .brz m _ => DispOk sz m
  | .brnz m _ => DispOk sz m
  | .mov sh => DispOk sz sh ∧
      (safe = true → DispOk sz (if sh < 0 then mn else mx) ∧ DispOk sz (-(if sh < 0 then mn else mx)))
  | _ => True

theorem limitCheck_fits : (limitCheck).all Item.fits = true := by decide

theorem fits_storeReg (sz : Size) (idx : Int) (r : Reg) : (storeReg sz idx r).fits = (memParam sz idx).fits := rfl
theorem fits_load (sz : Size) (idx : Int) (r : Reg) : (load sz idx r).fits = (memParam sz idx).fits := rfl
theorem fits_cmpZero (sz : Size) (idx : Int) : (cmpZero sz idx).fits = (memParam sz idx).fits := by
  simp [cmpZero, X86.fits, fitsS]
theorem fits_st64_reg (d r : Reg) : (st64 (.reg d) r).fits = true := rfl
theorem fits_callReg (r : Reg) : (X86.callInd (.reg r)).fits = true := rfl

theorem locFits_ops {sz : Size} {safe : Bool} {mn mx : Int} {ins : Bc.Instr w}
    (hf : InstrFits sz safe mn mx ins) (ha : srcsOf ins ≠ []) : ∀ l ∈ dstOf ins :: srcsOf ins, LocFits sz l := by
  cases ins <;> first | exact absurd rfl ha | simpa [InstrFits, dstOf, srcsOf] using hf

theorem emitInstrRaw_fits {sz : Size} {limited safe : Bool} {mn mx : Int} {aE aI aO i live : Nat}
    {ins : Bc.Instr w} {its : List Item}
    (h : emitInstrRaw sz limited safe mn mx aE aI aO i live ins = some its)
    (hf : InstrFits sz safe mn mx ins) : its.all Item.fits = true := by
  cases ins with
  | noop => simp [emitInstrRaw] at h; subst h; rfl
  | scan c s => simp [emitInstrRaw] at h
  | add d a b | sub d a b | mul d a b | copy d s =>
    obtain ⟨xs, hxs, rfl⟩ := emitInstrRaw_arith h (List.cons_ne_nil _ _)
    rw [plains_all_fits]; exact (arith_emits sz live _).fits (locFits_ops hf (List.cons_ne_nil _ _)) hxs
  | brz c o | brnz c o =>
    simp only [emitInstrRaw, Option.some.injEq] at h; subst h
    have hm := fits_memParam (show DispOk sz c from hf)
    cases limited <;> simp [limitCheck_fits, Item.fits, fits_cmpZero, hm]
  | inp dst =>
    simp only [emitInstrRaw, Option.bind_eq_bind, Option.bind_eq_some_iff, Option.some.injEq] at h
    obtain ⟨pre, hpre, post, hpost, rfl⟩ := h
    have hm := fits_memParam (show DispOk sz dst from hf)
    have hc : (X86.cmpRmImm8 .b64 (.reg .rax) (-1)).fits = true := by decide
    rw [List.all_append, plains_all_fits]
    simp only [List.all_append, preCall_fits hpre, postCall_fits hpost, List.all_cons, List.all_nil, fits_addr,
      Item.fits, fits_st64_reg, fits_callReg, fits_storeReg, hm, hc, Bool.and_self]
  | out src =>
    simp only [emitInstrRaw, Option.bind_eq_bind, Option.bind_eq_some_iff, Option.some.injEq] at h
    obtain ⟨pre, hpre, post, hpost, rfl⟩ := h
    have hm := fits_memParam (show DispOk sz src from hf)
    have hc : (X86.testRm8R8 (.reg .rax) .rax).fits = true := by decide
    rw [List.all_append, plains_all_fits]
    simp only [List.all_append, preCall_fits hpre, postCall_fits hpost, List.all_cons, List.all_nil, fits_addr,
      Item.fits, fits_st64_reg, fits_callReg, fits_load, hm, hc, Bool.and_self]
  | mov shift =>
    obtain ⟨hsh, hsafe⟩ := hf
    have hr := dispOk_range hsh
    have hadv : (addImm64 (.reg memr) ((sz.bytes : Int) * i32 shift)).fits = true := by
      rw [i32_eq hr.1 hr.2]
      simp only [addImm64, X86.fits, RegMem.fits, Size.immBits, Bool.true_and, fitsS_32]; exact hsh
    cases safe with
    | false => simp [emitInstrRaw] at h; subst h; simp [Item.fits, hadv]
    | true =>
      obtain ⟨hp1, hp2⟩ := hsafe rfl
      have r1 := dispOk_range hp1
      have r2 := dispOk_range hp2
      simp only [emitInstrRaw, if_true, Option.bind_eq_bind, Option.bind_eq_some_iff, Option.some.injEq] at h
      obtain ⟨pre, hpre, post, hpost, rfl⟩ := h
      have hb : sz.bytes < 256 := by cases sz <;> decide
      have hlea : (X86.lea scr0 (.mem (some memr) none 1 ((sz.bytes : Int) * i32 (if shift < 0 then mn else mx)))).fits
          = true := by
        rw [i32_eq r1.1 r1.2]
        simp only [X86.fits, RegMem.fits, Bool.and_eq_true, decide_eq_true_eq, fitsS_32]
        exact ⟨by decide, hp1⟩
      have hsar : ((if sz != .b8 then [X86.sarRmImm8 (.reg scr0) (Nat.log2 sz.bytes)] else []) : List X86).all
          X86.fits = true := by cases sz <;> decide
      have hlea2 : (X86.lea memr (.mem (some memr) (some scr0) sz.bytes
          ((sz.bytes : Int) * i32 (-(if shift < 0 then mn else mx))))).fits = true := by
        rw [i32_eq r2.1 r2.2]
        simp only [X86.fits, RegMem.fits, Bool.and_eq_true, decide_eq_true_eq, fitsS_32]
        exact ⟨hb, hp2⟩
      -- the remaining instructions of the arm have constant operands
      have hsub : (sub64 scr0 (.mem (some cxt) none 1 0)).fits = true := by decide
      have hcmp : (X86.cmpRRm scr0 (.mem (some cxt) none 1 8)).fits = true := by decide
      have hst : (st64 (.mem (some cxt) none 1 16) scr0).fits = true := by decide
      have hm0 : (X86.movRImm64 .rsi 0).fits = true := by decide
      have hm1 : (X86.movRImm64 .rdx 1).fits = true := by decide
      have hl1 : (mov64 memr (.mem (some cxt) none 1 0)).fits = true := by decide
      have hl2 : (mov64 scr0 (.mem (some cxt) none 1 16)).fits = true := by decide
      rw [List.all_append, plains_all_fits]
      simp only [List.all_append, List.all_cons, List.all_nil, Item.fits, hadv, preCall_fits hpre,
        postCall_fits hpost, fits_addr, hlea, hsub, hsar, hcmp, hst, hm0, hm1, hl1, hl2, hlea2,
        fits_st64_reg, fits_callReg, Bool.and_self]

theorem dispOk_between {sz : Size} {lo hi o : Int} (hlo : DispOk sz lo) (hhi : DispOk sz hi)
    (h : lo ≤ o ∧ o ≤ hi) : DispOk sz o := by
  have hb : (0 : Int) ≤ sz.bytes := Int.natCast_nonneg _
  have h1 := Int.mul_le_mul_of_nonneg_left h.1 hb
  have h2 := Int.mul_le_mul_of_nonneg_left h.2 hb
  exact ⟨Int.le_trans hlo.1 h1, Int.lt_of_le_of_lt h2 hhi.2⟩

/-- `InstrFits` of every instruction from the window, the temporaries' bound and the `mov` shifts. -/
theorem instrFits_of_bounds {sz : Size} {safe : Bool} (p : Bc.Program w) {ins : Bc.Instr w}
    (hlo : DispOk sz p.minAcc) (hhi : DispOk sz p.maxAcc)
    (hwin : ∀ o ∈ BcWf.memOps ins, p.minAcc ≤ o ∧ o ≤ p.maxAcc)
    (htmp : ∀ t ∈ BcWf.uses ins ++ BcWf.defs ins, t < p.temps) (htemps : 8 * p.temps < 2147483648)
    (hmov : ∀ sh, ins = .mov sh → DispOk sz sh)
    (hneg : safe = true → DispOk sz (-p.minAcc) ∧ DispOk sz (-p.maxAcc)) :
    InstrFits sz safe p.minAcc p.maxAcc ins := by
  have loc : ∀ l ∈ dstOf ins :: srcsOf ins, srcsOf ins ≠ [] → LocFits sz l := by
    intro l hl ha
    obtain ⟨h1, h2⟩ := ops_sub ins hl ha
    cases l with
    | mem o => exact dispOk_between hlo hhi (hwin o (h1 o (by simp [BcWf.locMem])))
    | memZero o => trivial
    | tmp t =>
      have := htmp t (h2 t (by simp [BcWf.locTmp]))
      show 8 * t < 2147483648
      omega
    | imm c => trivial
  cases ins with
  | noop | scan => trivial
  | mov sh =>
    refine ⟨hmov sh rfl, fun hs => ?_⟩
    obtain ⟨h1, h2⟩ := hneg hs
    split
    · exact ⟨hlo, h1⟩
    · exact ⟨hhi, h2⟩
  | inp m | out m | brz m o | brnz m o => exact dispOk_between hlo hhi (hwin m (by simp [BcWf.memOps]))
  | add d a b | sub d a b | mul d a b =>
    exact ⟨loc d (by simp [dstOf]) (by simp [srcsOf]), loc a (by simp [srcsOf]) (by simp [srcsOf]),
      loc b (by simp [srcsOf]) (by simp [srcsOf])⟩
  | copy d s => exact ⟨loc d (by simp [dstOf]) (by simp [srcsOf]), loc s (by simp [srcsOf]) (by simp [srcsOf])⟩

end C03
end Hpbf
