/-
C02 (`allocate_temps`): concrete generator states (all facts by `decide`).

* `exFlowGood`, `exWritesGood`, `exFuseGood` satisfy `AllocPre` (non-vacuity; the pass allocates, forwards and
  moves a computation on them).
* `exFlowBad`, `exPtrBad`, `exWritesBad`, `exFuseBad`, `exJumpBad`, `exFirstBad` violate exactly one component of
  `AllocPre`; on each the pass succeeds and the output program behaves differently: the components `flow`, `ptr`,
  `writes`, `fuse` (both parts) and `firstLt` are necessary.
* `exMonoBad`: overlapping fusion candidates in the wrong order make the pass fail (modelled panic
  `replacements.get.unwrap`), they do not make it produce wrong code.
-/
import Hpbf.Proofs.C02AllocCheck
import Hpbf.Proofs.C02Zmd
set_option linter.unusedSimpArgs false

namespace Hpbf
namespace C02
namespace Alloc

open Bc BcWf BcGen C11

def ri (c : Nat) (f l : Option Nat) (n : Nat) : RangeInfo :=
  { created := c, firstUse := f, lastUse := l, numUses := n }

/-- Events (most recent first) of a program run without budget. -/
def traceOf (insts : Array (Instr 8)) : List Ev :=
  (Bc.run ({ temps := 0, minAcc := 0, maxAcc := 0, live := #[], insts := insts } : Program 8) false 0 40
    envSink).cfg.st.trace

/-- Instructions produced by the pass (`none` = modelled panic). -/
def allocInsts (numRegs : Nat) (s : St 8) : Option (Array (Instr 8)) :=
  (allocateTemps numRegs s).toOption.map (·.insts)

/-- The components of `AllocPre` as checked by `allocPreB`. -/
def comps (s : St 8) : List Bool :=
  [s.live.size == 0, chkNoZero s, chkDefs s, chkUses s, chkFlow s, chkPtr s, chkWrites s, chkFirstLt s, chkFuse s]

/-! ### `flow`: a value created before a loop and used inside must stay allocated to the end of the loop -/

/-- `m0 = 2; t0 = m1 + 5; while m0 { m2 += t0; t1 = m0 - 1; m0 = t1 + 0 }; out m2`, `t0` recorded as dead after
its use inside the loop. -/
def exFlowBad : St 8 :=
  { insts := #[.copy (.mem 0) (.imm 2), .add (.tmp 0) (.mem 1) (.imm 5), .brz 0 5,
               .add (.mem 2) (.mem 2) (.tmp 0), .add (.tmp 1) (.mem 0) (.imm 255), .add (.mem 0) (.tmp 1) (.imm 0),
               .brnz 0 (-3), .out 2],
    ranges := #[ri 1 (some 3) (some 3) 1, ri 4 (some 5) (some 5) 1],
    writes := [(0, [5, 0]), (2, [3])] }

/-- The same with the range of `t0` extended to the `brnz`. -/
def exFlowGood : St 8 := { exFlowBad with ranges := #[ri 1 (some 3) (some 6) 1, ri 4 (some 5) (some 5) 1] }

theorem exFlowGood_pre : AllocPre exFlowGood := allocPreB_sound (by decide +kernel)

/-- With one register the pass gives `t1` the register of `t0` inside the loop. -/
def exFlowBadOut : Array (Instr 8) :=
  #[.copy (.mem 0) (.imm 2), .add (.tmp 0) (.mem 1) (.imm 5), .brz 0 5,
    .add (.mem 2) (.mem 2) (.tmp 0), .add (.tmp 0) (.mem 0) (.imm 255), .add (.mem 0) (.tmp 0) (.imm 0),
    .brnz 0 (-3), .out 2]
/-- With the extended range `t1` gets a spill slot. -/
def exFlowGoodOut : Array (Instr 8) :=
  #[.copy (.mem 0) (.imm 2), .add (.tmp 0) (.mem 1) (.imm 5), .brz 0 5,
    .add (.mem 2) (.mem 2) (.tmp 0), .add (.tmp 1) (.mem 0) (.imm 255), .add (.mem 0) (.tmp 1) (.imm 0),
    .brnz 0 (-3), .out 2]

theorem exFlowBad_comps : comps exFlowBad = [true, true, true, true, false, true, true, true, true] := by decide +kernel
theorem exFlowBad_alloc : allocInsts 1 exFlowBad = some exFlowBadOut := by decide +kernel
theorem exFlowGood_alloc : allocInsts 1 exFlowGood = some exFlowGoodOut := by decide +kernel
theorem exFlow_traces : traceOf exFlowBad.insts = [Ev.out 10] ∧ traceOf exFlowBadOut = [Ev.out 6] ∧
    traceOf exFlowGoodOut = [Ev.out 10] := by decide +kernel

theorem alloc_flow_necessary :
    comps exFlowBad = [true, true, true, true, false, true, true, true, true] ∧
    traceOf exFlowBad.insts = [Ev.out 10] ∧
    (allocInsts 1 exFlowBad).map traceOf = some [Ev.out 6] ∧
    (allocInsts 1 exFlowGood).map traceOf = some [Ev.out 10] := by
  rw [exFlowBad_alloc, exFlowGood_alloc]
  exact ⟨exFlowBad_comps, exFlow_traces.1, congrArg some exFlow_traces.2.1, congrArg some exFlow_traces.2.2⟩

/-! ### `ptr`: no pointer move inside a range -/

def exPtrBad : St 8 :=
  { insts := #[.copy (.mem 1) (.imm 7), .copy (.tmp 0) (.mem 1), .mov 1, .copy (.mem 0) (.tmp 0), .out 0],
    ranges := #[ri 1 (some 3) (some 3) 1],
    writes := [(1, [0]), (0, [3])] }

theorem alloc_ptr_necessary :
    comps exPtrBad = [true, true, true, true, true, false, true, true, true] ∧
    allocInsts 2 exPtrBad = some #[.copy (.mem 1) (.imm 7), .noop, .mov 1, .copy (.mem 0) (.mem 1), .out 0] ∧
    traceOf exPtrBad.insts = [Ev.out 7] ∧ (allocInsts 2 exPtrBad).map traceOf = some [Ev.out 0] := by decide +kernel

/-! ### `writes`: the table of write positions is complete -/

def exWritesBad : St 8 :=
  { insts := #[.copy (.mem 1) (.imm 7), .copy (.tmp 0) (.mem 1), .copy (.mem 1) (.imm 9), .copy (.mem 0) (.tmp 0),
               .out 0],
    ranges := #[ri 1 (some 3) (some 3) 1],
    writes := [(1, [0]), (0, [3])] }
def exWritesGood : St 8 := { exWritesBad with writes := [(1, [2, 0]), (0, [3])] }

theorem exWritesGood_pre : AllocPre exWritesGood := allocPreB_sound (by decide +kernel)

theorem alloc_writes_necessary :
    comps exWritesBad = [true, true, true, true, true, true, false, true, true] ∧
    traceOf exWritesBad.insts = [Ev.out 7] ∧ (allocInsts 2 exWritesBad).map traceOf = some [Ev.out 9] ∧
    (allocInsts 2 exWritesGood).map traceOf = some [Ev.out 7] := by decide +kernel

/-! ### `fuse`: the recorded first use is the first use; no branch into the region -/

/-- `t0` is read at 1, its recorded first use is the store at 2. -/
def exFuseBad : St 8 :=
  { insts := #[.add (.tmp 0) (.mem 1) (.imm 5), .add (.mem 2) (.tmp 0) (.imm 1), .copy (.mem 0) (.tmp 0), .out 2,
               .out 0],
    ranges := #[ri 0 (some 2) (some 2) 2],
    writes := [(2, [1]), (0, [2])] }

theorem alloc_fuse_first_use_necessary :
    comps exFuseBad = [true, true, true, true, true, true, true, true, false] ∧
    allocInsts 0 exFuseBad = some #[.noop, .add (.mem 2) (.mem 0) (.imm 1), .add (.mem 0) (.mem 1) (.imm 5), .out 2,
      .out 0] ∧
    traceOf exFuseBad.insts = [Ev.out 5, Ev.out 6] ∧
    (allocInsts 0 exFuseBad).map traceOf = some [Ev.out 5, Ev.out 1] := by decide +kernel

/-- A loop whose head lies between the computation (1) and the store it is moved to (2). -/
def exJumpBad : St 8 :=
  { insts := #[.copy (.mem 3) (.imm 2), .add (.tmp 0) (.mem 1) (.imm 5), .copy (.mem 0) (.tmp 0),
               .add (.mem 1) (.mem 1) (.imm 1), .add (.mem 3) (.mem 3) (.imm 255), .brnz 3 (-3), .out 0],
    ranges := #[ri 1 (some 2) (some 5) 1],
    writes := [(3, [4, 0]), (0, [2]), (1, [3])] }

theorem alloc_fuse_nojump_necessary :
    comps exJumpBad = [true, true, true, true, true, true, true, true, false] ∧
    traceOf exJumpBad.insts = [Ev.out 5] ∧ (allocInsts 2 exJumpBad).map traceOf = some [Ev.out 6] := by decide +kernel

/-! ### `firstLt`: the recorded first use lies after the computation -/

def exFirstBad : St 8 :=
  { insts := #[.copy (.mem 0) (.imm 3), .add (.tmp 0) (.mem 1) (.imm 5), .copy (.mem 2) (.tmp 0), .out 0, .out 2],
    ranges := #[ri 1 (some 0) (some 2) 1],
    writes := [(0, [0]), (2, [2])] }

theorem alloc_firstLt_necessary :
    chkFirstLt exFirstBad = false ∧
    allocInsts 2 exFirstBad = some #[.add (.mem 0) (.mem 1) (.imm 5), .noop, .copy (.mem 2) (.mem 0), .out 0, .out 2] ∧
    traceOf exFirstBad.insts = [Ev.out 5, Ev.out 3] ∧
    (allocInsts 2 exFirstBad).map traceOf = some [Ev.out 5, Ev.out 5] := by decide +kernel

/-! ### a performed fusion; overlapping candidates in the wrong order -/

/-- `t0 = m1; t1 = t0 + 5; m0 = t1; t2 = t1 + t0; m2 = t2`. -/
def exFuseGood : St 8 :=
  { insts := #[.copy (.tmp 0) (.mem 1), .add (.tmp 1) (.tmp 0) (.imm 5), .copy (.mem 0) (.tmp 1),
               .add (.tmp 2) (.tmp 1) (.tmp 0), .copy (.mem 2) (.tmp 2), .out 0, .out 2],
    ranges := #[ri 0 (some 1) (some 3) 2, ri 1 (some 2) (some 3) 2, ri 3 (some 4) (some 4) 1],
    writes := [(0, [2]), (2, [4])] }

theorem exFuseGood_pre : AllocPre exFuseGood := allocPreB_sound (by decide +kernel)

/-- Without registers everything is forwarded or moved to the stores. -/
theorem exFuseGood_out0 :
    allocInsts 0 exFuseGood = some #[.noop, .noop, .add (.mem 0) (.mem 1) (.imm 5), .noop,
      .add (.mem 2) (.mem 0) (.mem 1), .out 0, .out 2] := by decide +kernel
/-- With two registers `t0`, `t1` are allocated and `t2 = t1 + t0` is moved to its store. -/
theorem exFuseGood_out2 :
    allocInsts 2 exFuseGood = some #[.copy (.tmp 0) (.mem 1), .add (.tmp 1) (.tmp 0) (.imm 5),
      .copy (.mem 0) (.tmp 1), .noop, .add (.mem 2) (.tmp 1) (.tmp 0), .out 0, .out 2] := by decide +kernel
theorem exFuseGood_live :
    (allocateTemps 2 exFuseGood).toOption.map (·.live) = some #[0, 1, 3, 3, 0, 0, 0] := by decide +kernel

/-- `u1` (first use 6) and `u2` (first use 3) are both moved and both read `t0`, whose last use 4 lies between:
`range_extend_to` shrinks the extension of `t0`, it is released at 4, and the moved `u1` cannot be rewritten. -/
def exMonoBad : St 8 :=
  { insts := #[.add (.tmp 0) (.mem 5) (.imm 3), .add (.tmp 1) (.tmp 0) (.imm 10), .add (.tmp 2) (.tmp 0) (.imm 20),
               .copy (.mem 1) (.tmp 2), .add (.tmp 3) (.tmp 0) (.imm 1), .add (.mem 3) (.tmp 3) (.imm 0),
               .copy (.mem 2) (.tmp 1), .out 2],
    ranges := #[ri 0 (some 1) (some 4) 3, ri 1 (some 6) (some 6) 1, ri 2 (some 3) (some 3) 1, ri 4 (some 5) (some 5) 1],
    writes := [(1, [3]), (3, [5]), (2, [6])] }

theorem exMonoBad_pre : AllocPre exMonoBad := allocPreB_sound (by decide +kernel)

/-- The modelled panic site of a failing run. -/
def allocErr (numRegs : Nat) (s : St 8) : Option String :=
  match allocateTemps numRegs s with
  | .ok _ => none
  | .error e => some e

theorem alloc_shrunk_extension_panics :
    allocErr 1 exMonoBad = some "allocate_temps:replace:replacements.get.unwrap" := by decide +kernel

end Alloc
end C02
end Hpbf
