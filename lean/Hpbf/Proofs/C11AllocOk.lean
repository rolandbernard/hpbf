/-
C11 for the output of `allocate_temps` (namespaces `Hpbf.C02`, `Hpbf.C02.Alloc`): a successful run of the pass on a
state satisfying `AllocPre` yields code that passes the initialisation and liveness clauses of the bytecode contract,
for every packaging `progOf s' temps mn mx` whose `temps` bounds the temporaries of the code. The temporaries holding
a needed value before each instruction (`Held`) are a solution of the flow clauses (`held_flow`); completeness of the
solvers then gives `allocateTemps_initOk`, `allocateTemps_liveOk`.
-/
import Hpbf.Proofs.C11AllocSets
import Hpbf.Proofs.C11AllocSolve
import Hpbf.Proofs.C02Alloc

namespace Hpbf
namespace C02

open Bc BcWf BcGen C11

variable {w : Nat}

namespace Alloc

variable {s : St w} {numRegs : Nat} {tr : Nat → ASt w}

/-- `AllQ (fun q => ∀ t ∈ BcWf.uses q, t < Tn)` (C02Shape) written out. -/
def TempsBelow (insts : Array (Instr w)) (Tn : Nat) : Prop :=
  ∀ (i : Nat) (q : Instr w), insts[i]? = some q → ∀ t ∈ BcWf.uses q, t < Tn

theorem succs_cases {n i : Nat} {ins : Instr w} {ss : List Nat} (h : succs n i ins = some ss) {j : Nat}
    (hj : j ∈ ss) : j = i + 1 ∨ ∃ off, branchOff? ins = some off ∧ (i : Int) + off = (j : Int) ∧ j ≤ n := by
  have key : ∀ (c off : Int), (branchTarget i off n).map (fun t => [i + 1, t]) = some ss →
      j = i + 1 ∨ ((i : Int) + off = (j : Int) ∧ j ≤ n) := by
    intro c off h
    simp only [branchTarget] at h
    split at h
    · rename_i hb
      simp only [Option.map_some, Option.some.injEq] at h
      subst h
      simp only [List.mem_cons, List.not_mem_nil, or_false] at hj
      rcases hj with rfl | rfl
      · exact Or.inl rfl
      · right; omega
    · simp at h
  cases ins with
  | brz c off | brnz c off =>
    rcases key c off h with g | g
    · exact Or.inl g
    · exact Or.inr ⟨off, rfl, g⟩
  | _ =>
    simp only [succs, Option.some.injEq] at h
    subst h
    simp only [List.mem_singleton] at hj
    exact Or.inl hj

section
variable (hp : AllocPre s) (T : Trace s numRegs tr)
include hp T

theorem final_size : (tr s.insts.size).st.insts.size = s.insts.size :=
  (trace_inv hp T s.insts.size (Nat.le_refl _)).isize

theorem final_get {i : Nat} {ins : Instr w} (hi : (tr s.insts.size).st.insts[i]? = some ins) :
    i < s.insts.size ∧ (tr (i + 1)).st.insts[i]? = some ins := by
  have hlt : i < s.insts.size := by rw [← final_size hp T]; exact lt_of_getElem? hi
  exact ⟨hlt, by rw [← final_inst hp T hlt]; exact hi⟩

theorem held_edge {i j : Nat} {ins : Instr w} {ss : List Nat}
    (hi : (tr s.insts.size).st.insts[i]? = some ins)
    (hs : succs (tr s.insts.size).st.insts.size i ins = some ss) (hj : j ∈ ss) {r : Nat}
    (h : Held s tr j r) : Held s tr i r ∨ r ∈ BcWf.defs ins := by
  have hsz := final_size hp T
  obtain ⟨hi_lt, hq⟩ := final_get hp T hi
  rcases succs_cases hs hj with rfl | ⟨off, hoff, hkk, hle⟩
  · exact held_succ hp T hi_lt hq h
  · left
    obtain ⟨_, y, hy, hbr⟩ := (trace_inv hp T s.insts.size (Nat.le_refl _)).skel i ins hi
    rw [hoff] at hbr
    exact held_jump hp T hi_lt (by rw [← hsz]; exact hle) hy hbr.symm hkk h

/-- One solution for both clauses: before `i`, the physical temporaries below the declared count that hold a needed
value.  `r < Tn` is part of the relation because the init solver starts from `List.range p.temps`, so a solution it is
compared with must stay below `p.temps` (`hb` of `initSolve_of_flow`). -/
theorem held_flow {Tn : Nat} (mn mx : Int) (hT : TargetsOk (tr s.insts.size).st.insts)
    (htemps : TempsBelow (tr s.insts.size).st.insts Tn) :
    Flow (progOf (tr s.insts.size).st Tn mn mx) (fun i r => r < Tn ∧ Held s tr i r) := by
  refine ⟨?_, ?_⟩
  · intro i ins hi t ht
    obtain ⟨hi_lt, hq⟩ := final_get hp T hi
    exact ⟨htemps i ins hi t ht, held_uses hp T hi_lt hq ht⟩
  · intro i ins hi
    obtain ⟨ss, hs⟩ := Option.isSome_iff_exists.1 (succs_of_targetsOk hT hi)
    exact ⟨ss, hs, fun j hj t ht => (held_edge hp T hi hs hj ht.2).imp (fun g => ⟨ht.1, g⟩) id⟩

/-- The array the checker computes is accepted by the initialisation clause: `Held` is empty at the entry. -/
theorem alloc_initFacts {Tn : Nat} (mn mx : Int) (hT : TargetsOk (tr s.insts.size).st.insts)
    (htemps : TempsBelow (tr s.insts.size).st.insts Tn) :
    InitFacts (progOf (tr s.insts.size).st Tn mn mx) (initSolve (progOf (tr s.insts.size).st Tn mn mx)) :=
  initSolve_of_flow (held_flow hp T mn mx hT htemps) (fun r h => held_zero T r h.2) (fun _ _ h => h.1)

/-- The array the checker computes is accepted by the liveness clause: what is `Held` after a non-branch instruction
is written by it or in its bitmap (`held_mask`). -/
theorem alloc_liveFacts {Tn : Nat} (mn mx : Int) (hT : TargetsOk (tr s.insts.size).st.insts)
    (htemps : TempsBelow (tr s.insts.size).st.insts Tn) :
    LiveFacts (progOf (tr s.insts.size).st Tn mn mx) numRegs (liveSolve (progOf (tr s.insts.size).st Tn mn mx)) := by
  refine liveSolve_of_flow (held_flow hp T mn mx hT htemps) (fun _ _ h => h.1) ?_
  intro i ins hi _ t ht h1 h2
  obtain ⟨hi_lt, hq⟩ := final_get hp T hi
  exact held_mask hp T hi_lt hq ht.2 h1 h2

end

theorem locMax_spec {l : Loc w} {t : Nat} (h : t ∈ locTmp l) : t < locMax l := by
  cases l <;> simp [locTmp] at h
  subst h
  simp [locMax]

theorem uses_lt_instTemps {x : Instr w} {t : Nat} (h : t ∈ BcWf.uses x ++ BcWf.defs x) : t < instTemps x := by
  have arith : ∀ {d a b : Loc w}, t ∈ (locTmp a ++ locTmp b) ++ locTmp d →
      t < max (locMax d) (max (locMax a) (locMax b)) := by
    intro d a b h
    rcases List.mem_append.1 h with h | h
    · refine Nat.lt_of_lt_of_le ?_ (Nat.le_max_right _ _)
      rcases List.mem_append.1 h with h | h
      · exact Nat.lt_of_lt_of_le (locMax_spec h) (Nat.le_max_left _ _)
      · exact Nat.lt_of_lt_of_le (locMax_spec h) (Nat.le_max_right _ _)
    · exact Nat.lt_of_lt_of_le (locMax_spec h) (Nat.le_max_left _ _)
  cases x with
  | add d a b | sub d a b | mul d a b => exact arith h
  | copy d s =>
    rcases List.mem_append.1 h with h | h
    · exact Nat.lt_of_lt_of_le (locMax_spec h) (Nat.le_max_right _ _)
    · exact Nat.lt_of_lt_of_le (locMax_spec h) (Nat.le_max_left _ _)
  | _ => cases h

theorem instTemps_le_countTemps {insts : Array (Instr w)} {i : Nat} {x : Instr w} (h : insts[i]? = some x) :
    instTemps x ≤ countTemps insts := by
  unfold countTemps
  rw [← Array.foldl_toList]
  have hm : x ∈ insts.toList := by
    rw [Array.mem_toList_iff]; exact Array.mem_of_getElem? h
  generalize insts.toList = l at hm
  have key : ∀ (l : List (Instr w)) (m : Nat),
      m ≤ l.foldl (fun m x => max m (instTemps x)) m ∧
      ∀ x ∈ l, instTemps x ≤ l.foldl (fun m x => max m (instTemps x)) m := by
    intro l
    induction l with
    | nil => intro m; exact ⟨Nat.le_refl _, fun x hx => by cases hx⟩
    | cons a t ih =>
      intro m
      obtain ⟨h1, h2⟩ := ih (max m (instTemps a))
      simp only [List.foldl_cons]
      refine ⟨by omega, ?_⟩
      intro x hx
      rcases List.mem_cons.1 hx with rfl | hx
      · omega
      · exact h2 x hx
  exact (key l 0).2 x hm

theorem temps_lt_countTemps {insts : Array (Instr w)} {i : Nat} {x : Instr w} (h : insts[i]? = some x) {t : Nat}
    (ht : t ∈ BcWf.uses x ++ BcWf.defs x) : t < countTemps insts :=
  Nat.lt_of_lt_of_le (uses_lt_instTemps ht) (instTemps_le_countTemps h)

theorem tempsBelow_countTemps (insts : Array (Instr w)) : TempsBelow insts (countTemps insts) :=
  fun _ _ h _ ht => temps_lt_countTemps h (List.mem_append_left _ ht)

end Alloc

open Alloc

theorem allocateTemps_initOk (s s' : St w) (numRegs : Nat) (hp : AllocPre s) (hT : TargetsOk s.insts)
    (h : allocateTemps numRegs s = .ok s') (Tn : Nat) (mn mx : Int) (hb : TempsBelow s'.insts Tn) :
    initOk (progOf s' Tn mn mx) (initSolve (progOf s' Tn mn mx)) = true := by
  obtain ⟨tr, T, rfl⟩ := trace_of_allocateTemps h
  have hT' := (allocateTemps_preserves s _ numRegs hp h).2.2.1 hT
  exact alloc_initOk_of_facts (alloc_initFacts hp T mn mx hT' hb)

theorem allocateTemps_liveOk (s s' : St w) (numRegs : Nat) (hp : AllocPre s) (hT : TargetsOk s.insts)
    (h : allocateTemps numRegs s = .ok s') (Tn : Nat) (mn mx : Int) (hb : TempsBelow s'.insts Tn) :
    liveOk (progOf s' Tn mn mx) numRegs (liveSolve (progOf s' Tn mn mx)) = true := by
  obtain ⟨tr, T, rfl⟩ := trace_of_allocateTemps h
  have hT' := (allocateTemps_preserves s _ numRegs hp h).2.2.1 hT
  exact alloc_liveOk_of_facts (alloc_liveFacts hp T mn mx hT' hb)

end C02
end Hpbf
