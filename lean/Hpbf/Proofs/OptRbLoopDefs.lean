/-
Vocabulary for nested blocks: `ChildRep` (the rebuilt child state represents the body of the source loop), `Head`
(the states at the successive heads of a loop), `EntryAt` (the child's entry relation), `HeadsAt` / `HeadsIn` (the
child's guard holds at the heads at which the body is entered); generic lemmas about `Sim` and `Bad`
(`Sim.calcs_right`, `Sim.trans`, `not_bad_loop`, `not_bad_ifnz`); `pk_of_unknown` (a state with parent `.unknown` learns
nothing from its parents); at the end the run of `loopOrIf` for a child that moves the pointer (`loopOrIf_shift_run`:
the parent emits everything, `emitAll_clears`).
-/
import Hpbf.Proofs.OptRbLoopCut
import Hpbf.Proofs.OptLoopFinish

namespace Hpbf
namespace OptProof
open Opt OptSem Ir

variable {w : Nat}

/-- A state whose parent is `.unknown` knows nothing through its parent chain, except that its condition cell is not
zero. -/
theorem pk_of_unknown {c : Rebuild w} (hpar : c.parent = .unknown) (ps : List (Rebuild w)) (M0 : Mem w)
    (hcond : c.subShift = false → ∀ v, c.cond = some v → M0 v ≠ 0#w) : PK c ps M0 := by
  refine ⟨?_, ?_, ?_⟩
  · intro v cst h
    unfold getParentConstant at h
    rw [hpar] at h
    split at h <;> simp at h
  · intro v h
    unfold nonZeroParent at h
    rw [hpar] at h
    split at h
    · rename_i hh
      simp only [Bool.and_eq_true, Bool.not_eq_true', beq_iff_eq] at hh
      exact hcond hh.1 v hh.2
    · split at h <;> simp at h
  · intro a b _ _ h
    unfold compareParent at h
    rw [hpar] at h
    split at h
    · rename_i hab
      have : a = b := by simpa using hab
      rw [this]
    · split at h <;> simp [pure, Except.pure] at h

/-- The child state `sub` (with parent chain `pc'`) represents the source body `body`: from every entry pair
related through the fresh child state `sub0` (chain `pc`) whose source state satisfies the guard `Gc` (what is
known about the source states in which the body is really entered), `body` and `sub.insts` behave alike and end
in states related through `sub`. -/
def ChildRep (Gc : State w → Prop) (sh sh' : Int) (pc : List (Rebuild w)) (sub0 : Rebuild w)
    (pc' : List (Rebuild w)) (sub : Rebuild w) (body : List (Instr w)) : Prop :=
  ∀ M0 σE σS, RelAt sh sub0 pc M0 σE σS → Gc σS →
    Sim (StepQ sh' pc' sub M0 σE) body sub.insts σS σE ∧ ¬ Bad sub.insts σE

inductive Head (c sh : Int) (body : List (Instr w)) (σ : State w) : Nat → State w → Prop
  | zero : Head c sh body σ 0 σ
  | succ {k : Nat} {σk σ' : State w} : Head c sh body σ k σk → σk.rd c ≠ 0#w → Exec body σk (.fin σ') →
      Head c sh body σ (k + 1) (σ'.mov sh)

/-- Loop-head relation in the shifting case: same memory (nothing pending), pointers `shP` apart. -/
def SameMem (shP : Int) (σS σE : State w) : Prop :=
  σS.trace = σE.trace ∧ σS.env = σE.env ∧ σS.ptr = σE.ptr + shP ∧ memS σE σS = memE σE

/-- The entry relation of the child of a block: a source state in which the body is entered (condition cell not zero,
guard `Gc`) and an emitted-program state with the same memory are related through the fresh child `sub0`. -/
def EntryAt (Gc : State w → Prop) (shP cS : Int) (pc : List (Rebuild w)) (sub0 : Rebuild w) : Prop :=
  ∀ σE σS : State w, SameMem shP σS σE → σS.rd cS ≠ 0#w → Gc σS → ∃ M0, RelAt shP sub0 pc M0 σE σS

/-- The heads of the block from `σS` at which the body is entered satisfy the child's guard `Gc`; only head `0` is
asked for when `once` holds (an `if`: `isLoop = false`; a block known to run at most once: `L.atMostOnce = true`). -/
def HeadsAt (Gc : State w → Prop) (cS shS : Int) (bodyS : List (Instr w)) (once : Prop) (σS : State w) : Prop :=
  ∀ k σk, Head cS shS bodyS σS k σk → (once → k = 0) → σk.rd cS ≠ 0#w → Gc σk

/-- `HeadsAt` from every guarded source state that the parent `s` relates to an emitted-program state. -/
def HeadsIn (G Gc : State w → Prop) (shP : Int) (s : Rebuild w) (ps : List (Rebuild w)) (cS shS : Int)
    (bodyS : List (Instr w)) (once : Prop) : Prop :=
  ∀ M0 σE σS, RelAt shP s ps M0 σE σS → G σS → HeadsAt Gc cS shS bodyS once σS

/-- Asking for fewer heads. -/
theorem HeadsAt.mono {Gc : State w → Prop} {cS shS : Int} {bodyS : List (Instr w)} {once once' : Prop}
    {σS : State w} (h : HeadsAt Gc cS shS bodyS once σS) (ho : once → once') : HeadsAt Gc cS shS bodyS once' σS :=
  fun k σk hh hk hne => h k σk hh (fun o => hk (ho o)) hne

theorem HeadsIn.mono {G Gc : State w → Prop} {shP : Int} {s : Rebuild w} {ps : List (Rebuild w)} {cS shS : Int}
    {bodyS : List (Instr w)} {once once' : Prop} (h : HeadsIn G Gc shP s ps cS shS bodyS once)
    (ho : once → once') : HeadsIn G Gc shP s ps cS shS bodyS once' :=
  fun M0 σE σS hrel hG => (h M0 σE σS hrel hG).mono ho

/-- The guard at the start state, when the body is entered there. -/
theorem HeadsAt.zero {Gc : State w → Prop} {cS shS : Int} {bodyS : List (Instr w)} {once : Prop} {σS : State w}
    (h : HeadsAt Gc cS shS bodyS once σS) (hne : σS.rd cS ≠ 0#w) : Gc σS :=
  h 0 σS Head.zero (fun _ => rfl) hne

/-- Emitted `calc` groups in front of the target. -/
theorem Sim.calcs_right {Q : State w → State w → Prop} {a b : List (Instr w)} {σS σE : State w}
    (gs : List (List (Int × Expr w))) (h : Sim Q a b σS (gs.foldl doCalc σE)) :
    Sim Q a (gs.map Instr.calc ++ b) σS σE := by
  refine ⟨?_, ?_, ?_, ?_, ?_, ?_⟩
  · intro x hx
    obtain ⟨y, hy, hq⟩ := h.finL x hx
    exact ⟨y, (exec_calcs_iff gs b σE _).2 hy, hq⟩
  · intro x hx
    obtain ⟨y, hy, hq⟩ := h.stopL x hx
    exact ⟨y, (exec_calcs_iff gs b σE _).2 hy, hq⟩
  · intro t ht
    exact (exec_calcs_iff gs b σE _).2 (h.partL t ht)
  · intro y hy
    exact h.finR y ((exec_calcs_iff gs b σE _).1 hy)
  · intro y hy
    exact h.stopR y ((exec_calcs_iff gs b σE _).1 hy)
  · intro t ht
    exact h.partR t ((exec_calcs_iff gs b σE _).1 ht)

theorem bad_calcs_iff (gs : List (List (Int × Expr w))) (rest : List (Instr w)) (σ : State w) :
    Bad (gs.map Instr.calc ++ rest) σ ↔ Bad rest (gs.foldl doCalc σ) := by
  induction gs generalizing σ with
  | nil => rfl
  | cons g gs ih =>
    simp only [List.map_cons, List.cons_append, List.foldl_cons]
    rw [← ih]
    constructor
    · intro h; cases h with | «calc» h => exact h
    · exact Bad.calc

theorem Sim.trans {Q1 Q2 : State w → State w → Prop} {a b c : List (Instr w)} {σ1 σ2 σ3 : State w}
    (h1 : Sim Q1 a b σ1 σ2) (h2 : Sim Q2 b c σ2 σ3) :
    Sim (fun x z => ∃ y, Q1 x y ∧ Q2 y z) a c σ1 σ3 := by
  refine ⟨?_, ?_, ?_, ?_, ?_, ?_⟩
  · intro x hx
    obtain ⟨y, hy, hq⟩ := h1.finL x hx
    obtain ⟨z, hz, hq'⟩ := h2.finL y hy
    exact ⟨z, hz, y, hq, hq'⟩
  · intro x hx
    obtain ⟨y, hy, t1, e1⟩ := h1.stopL x hx
    obtain ⟨z, hz, t2, e2⟩ := h2.stopL y hy
    exact ⟨z, hz, t2.trans t1, e2.trans e1⟩
  · intro t ht
    exact h2.partL t (h1.partL t ht)
  · intro z hz
    obtain ⟨y, hy, hq'⟩ := h2.finR z hz
    obtain ⟨x, hx, hq⟩ := h1.finR y hy
    exact ⟨x, hx, y, hq, hq'⟩
  · intro z hz
    obtain ⟨y, hy, t2, e2⟩ := h2.stopR z hz
    obtain ⟨x, hx, t1, e1⟩ := h1.stopR y hy
    exact ⟨x, hx, t2.trans t1, e2.trans e1⟩
  · intro t ht
    exact h1.partR t (h2.partR t ht)

/-- A target loop whose `once` flag is justified and whose body never goes bad at a related head. -/
theorem not_bad_loop {J : State w → State w → Prop} {cS shS cE shE : Int} {bodyS bodyE : List (Instr w)}
    (hbody : ∀ σS σE, J σS σE → σE.rd cE ≠ 0#w →
       Sim (fun σS' σE' => J (σS'.mov shS) (σE'.mov shE)) bodyS bodyE σS σE ∧ ¬ Bad bodyE σE)
    {σS σE : State w} {oE : Bool} (h : J σS σE) (honce : oE = true → σE.rd cE ≠ 0#w) :
    ¬ Bad [.loop cE shE bodyE oE] σE := by
  intro hb
  generalize hl : [Instr.loop cE shE bodyE oE] = l at hb
  induction hb generalizing σS oE with
  | here h0 =>
    simp only [List.cons.injEq, Instr.loop.injEq] at hl
    obtain ⟨⟨rfl, rfl, rfl, rfl⟩, _⟩ := hl
    exact honce rfl h0
  | outOk _ _ _ => cases hl
  | inOk _ _ _ => cases hl
  | «calc» _ _ => cases hl
  | loopSkip _ hb' _ =>
    simp only [List.cons.injEq, Instr.loop.injEq] at hl
    obtain ⟨_, rfl⟩ := hl
    cases hb'
  | loopIter hne hex _ ih =>
    simp only [List.cons.injEq, Instr.loop.injEq] at hl
    obtain ⟨⟨rfl, rfl, rfl, rfl⟩, rfl⟩ := hl
    obtain ⟨x, _, hJ⟩ := (hbody _ _ h hne).1.finR _ hex
    exact ih hJ (fun hf => by cases hf) rfl
  | loopIn hne hb' _ =>
    simp only [List.cons.injEq, Instr.loop.injEq] at hl
    obtain ⟨⟨rfl, rfl, rfl, rfl⟩, rfl⟩ := hl
    exact (hbody _ _ h hne).2 hb'
  | ifSkip _ _ _ => cases hl
  | ifIter _ _ _ _ => cases hl
  | ifIn _ _ _ => cases hl

theorem not_bad_ifnz {cE shE : Int} {bodyE : List (Instr w)} {σE : State w}
    (hbody : σE.rd cE ≠ 0#w → ¬ Bad bodyE σE) : ¬ Bad [.ifnz cE shE bodyE] σE := by
  intro hb
  cases hb with
  | ifSkip _ hb' => cases hb'
  | ifIter _ _ hb' => cases hb'
  | ifIn hne hb' => exact hbody hne hb'

theorem mGet_all_none_nil {ν : Type} (m : List (Int × ν)) (h : ∀ k, mGet m k = none) : m = [] := by
  cases m with
  | nil => rfl
  | cons kv rest =>
    obtain ⟨a, b⟩ := kv
    have := h a
    simp [mGet] at this

theorem emitAll_clears (ps : List (Rebuild w)) (vars : List Int) {s : Rebuild w} (hwf : Wf s)
    (hall : ∀ k, k ∈ mKeys s.pending → k ∈ vars)
    {os os' : Orders} {s' : Rebuild w} (hr : (emitAll ps vars s).run os = .ok (s', os')) :
    ∃ comps, EmitRes ps s s' comps ∧ s'.pending = [] := by
  obtain ⟨comps, res, hn⟩ := emitAll_pending_none ps vars hwf hr
  refine ⟨comps, res, mGet_all_none_nil _ ?_⟩
  intro k
  cases hp : mGet s'.pending k with
  | none => rfl
  | some e =>
    have hk : k ∈ mKeys s.pending := (mGet_isSome_iff _ _).1 (by rw [res.sub k e hp]; rfl)
    rw [hn k (hall k hk)] at hp; cases hp

/-- `loopOrIf` when the child moves the pointer: the child emits its pending operations (`sub1`, nothing pending left
unless it does not return), the parent emits everything (`s1`), then an uncertain move and the push. -/
theorem loopOrIf_shift_run {s : Rebuild w} {ps : List (Rebuild w)} {sub : Rebuild w} {cond : Int} {isLoop : Bool}
    {L : OptLoop w} {C : List Int} {os os' : Orders} {s' : Rebuild w}
    (hr : (loopOrIf s ps sub cond isLoop L C).run os = .ok (s', os')) (hwf : Wf s) (hwfc : Wf sub)
    (hshift : (sub.subShift || sub.shift != s.shift) = true) :
    ∃ sub1 os1 compsC s1 compsP,
      ((if !sub.noReturn then emitAll [] (pendingSorted sub sub) sub else pure sub : M (Rebuild w)).run os
        = .ok (sub1, os1)) ∧
      EmitRes [] sub sub1 compsC ∧ (sub.noReturn = false → sub1.pending = []) ∧
      (sub1.subShift || sub1.shift != s.shift) = true ∧
      (emitAll ps (pendingSorted s s) s).run os1 = .ok (s1, os') ∧ EmitRes ps s s1 compsP ∧ s1.pending = [] ∧
      s' = loopTail (uncertainShift s1) sub1 cond isLoop L (sub1.subShift || sub1.shift != s.shift) [] := by
  obtain ⟨sub1, os1, r, h1, h2, rfl⟩ := loopOrIf_run hr
  have hsub1 : ∃ compsC, EmitRes [] sub sub1 compsC ∧ (sub.noReturn = false → sub1.pending = []) := by
    split at h1
    · obtain ⟨c, res, hcl⟩ := emitAll_clears [] (pendingSorted sub sub) hwfc
        (fun k hk => (Hpbf.OptLoop.mem_pendingSorted sub sub k).2 hk) h1
      exact ⟨c, res, fun _ => hcl⟩
    · rename_i hn
      rw [run_pure] at h1
      cases h1
      refine ⟨[], EmitRes.refl [] hwfc, fun h => ?_⟩
      rw [h] at hn; simp at hn
  obtain ⟨compsC, resC, hclC⟩ := hsub1
  have hshift1 : (sub1.subShift || sub1.shift != s.shift) = true := by
    rw [resC.hdr.subShift, resC.hdr.shift]; exact hshift
  unfold loopPrep at h2
  rw [if_pos hshift1, run_bind_ok] at h2
  obtain ⟨s1, os2, h3, h4⟩ := h2
  rw [run_pure] at h4
  cases h4
  obtain ⟨compsP, resP, hclP⟩ := emitAll_clears ps (pendingSorted s s) hwf
    (fun k hk => (Hpbf.OptLoop.mem_pendingSorted s s k).2 hk) h3
  exact ⟨sub1, os1, compsC, s1, compsP, h1, resC, hclC, hshift1, h3, resP, hclP, rfl⟩

end OptProof
end Hpbf
