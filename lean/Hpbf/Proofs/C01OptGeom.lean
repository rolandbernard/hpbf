/-
C01, optimiser arithmetic, geometric sums: `geo (a + b) = geo a * mul ^ b + geo b` (`geo_add`), hence the pair
`(geo mul p, mul ^ p)` with `p = n.toNat / 2 ^ j` is kept by one round of `geomStep` on bit `j` (`geomStep_inv`) and by
the fold over the bits (`geom_fold`).  `geomSum_spec` and the affine recurrence are in `Hpbf/Props/C01Opt.lean`.
-/
import Hpbf.Proofs.C01OptArith

namespace Hpbf.C01Opt
open Hpbf Lemmas

variable {w : Nat}

@[simp] theorem geo_zero (mul : BitVec w) : geo mul 0 = 0#w := rfl
theorem geo_succ (mul : BitVec w) (k : Nat) : geo mul (k + 1) = geo mul k * mul + 1#w := rfl

theorem geo_add (mul : BitVec w) (a b : Nat) :
    geo mul (a + b) = geo mul a * mul ^ b + geo mul b := by
  induction b with
  | zero => rw [Nat.add_zero, geo_zero]; bvring
  | succ b ih => rw [← Nat.add_assoc, geo_succ, geo_succ, ih]; bvring

theorem geo_two_mul (mul : BitVec w) (p : Nat) :
    geo mul (2 * p) = geo mul p * (mul ^ p + 1#w) := by
  rw [Nat.two_mul, geo_add]; bvring

theorem isOdd_wshr (n : BitVec w) (j : Nat) (hj : j < w) :
    Cell.isOdd (Cell.wshr n j) = true ↔ (n.toNat / 2 ^ j) % 2 = 1 := by
  rw [C14.isOdd_iff (by omega)]
  unfold Cell.wshr
  rw [if_pos hj, BitVec.toNat_ushiftRight, Nat.shiftRight_eq_div_pow]

/-- One round of `geomStep` keeps the invariant `(geo mul p, mul ^ p)`, `p` the bits of `n` above
the ones still to be processed. -/
theorem geomStep_inv (mul n : BitVec w) (j : Nat) (hj : j < w) :
    OptArith.geomStep mul n (geo mul (n.toNat / 2 ^ (j + 1)), mul ^ (n.toNat / 2 ^ (j + 1))) j
      = (geo mul (n.toNat / 2 ^ j), mul ^ (n.toNat / 2 ^ j)) := by
  have hdiv : n.toNat / 2 ^ (j + 1) = n.toNat / 2 ^ j / 2 := by
    rw [Nat.pow_succ, Nat.div_div_eq_div_mul]
  have hq := (Nat.div_add_mod (n.toNat / 2 ^ j) 2).symm
  rw [← hdiv] at hq
  generalize n.toNat / 2 ^ (j + 1) = p at hq
  unfold OptArith.geomStep
  by_cases hb : Cell.isOdd (Cell.wshr n j) = true
  · rw [if_pos hb, hq, (isOdd_wshr n j hj).1 hb, geo_succ, geo_two_mul]
    refine Prod.ext rfl ?_
    show mul ^ p * mul ^ p * mul = mul ^ (2 * p + 1)
    rw [pow_succ, Nat.two_mul, pow_add]
  · rw [if_neg hb, hq, Nat.mod_two_ne_one.1 ((isOdd_wshr n j hj).not.1 hb), Nat.add_zero, geo_two_mul]
    refine Prod.ext rfl ?_
    show mul ^ p * mul ^ p = mul ^ (2 * p)
    rw [Nat.two_mul, pow_add]

theorem geom_fold (mul n : BitVec w) : ∀ j : Nat, j ≤ w →
    (List.range j).reverse.foldl (OptArith.geomStep mul n)
        (geo mul (n.toNat / 2 ^ j), mul ^ (n.toNat / 2 ^ j))
      = (geo mul n.toNat, mul ^ n.toNat) := by
  intro j
  induction j with
  | zero => intro _; simp
  | succ j ih =>
    intro hj
    rw [List.range_succ, List.reverse_append, List.reverse_singleton, List.singleton_append,
      List.foldl_cons, geomStep_inv mul n j (by omega)]
    exact ih (by omega)

end Hpbf.C01Opt
