/-
Facts about the IR machine used by the soundness proof of the dead store elimination: `unwind`, reachability
(`cfgAt` is the run seen where the fuel ends), `unexposedN`, blocks without pointer movement. (What a `calc` writes is
in C01State; that evaluation depends on the variables only, in StateAgree.)
-/
import Hpbf.Proofs.C01DseStruct

namespace Hpbf
namespace C01Dse
open Ir OptDse

variable {w : Nat}

theorem unwind_meta (st : State w) (ks : List (Cont w)) :
    (unwind st ks).env = st.env ∧ (unwind st ks).trace = st.trace ∧
      (unwind st ks).ptr = st.ptr + (ks.map Cont.shift).sum := by
  unfold unwind
  induction ks generalizing st with
  | nil => simp
  | cons k ks ih =>
    simp only [List.foldl_cons, List.map_cons, List.sum_cons]
    obtain ⟨h1, h2, h3⟩ := ih (st.mov k.shift)
    refine ⟨h1, h2, ?_⟩
    rw [h3]
    show st.ptr + k.shift + _ = _
    omega

theorem unwind_obs {st st' : State w} {ks ks' : List (Cont w)} (shift : Int) (htr : st'.trace = st.trace)
    (henv : st'.env = st.env) (hptr : st'.ptr = st.ptr) (hsh : ks'.map Cont.shift = ks.map Cont.shift) :
    (unwind (st'.mov shift) ks').trace = (unwind (st.mov shift) ks).trace ∧
      (unwind (st'.mov shift) ks').env = (unwind (st.mov shift) ks).env ∧
      (unwind (st'.mov shift) ks').ptr = (unwind (st.mov shift) ks).ptr := by
  obtain ⟨u1, u2, u3⟩ := unwind_meta (st.mov shift) ks
  obtain ⟨u1', u2', u3'⟩ := unwind_meta (st'.mov shift) ks'
  refine ⟨?_, ?_, ?_⟩
  · rw [u2, u2']; exact htr
  · rw [u1, u1']; exact henv
  · rw [u3, u3', hsh]; simp only [State.mov, hptr]

theorem cfgAt_succ_some {lim : Bool} {f : Nat} {c0 c : Cfg w} (h : cfgAt lim (f + 1) c0 = some c) :
    ∃ c1, step lim c0 = .next c1 ∧ cfgAt lim f c1 = some c := by
  rw [cfgAt] at h
  cases hs : step lim c0 with
  | next c1 => rw [hs] at h; exact ⟨c1, rfl, h⟩
  | halt _ => rw [hs] at h; exact absurd h (by simp)
  | stop _ => rw [hs] at h; exact absurd h (by simp)
  | interrupted _ => rw [hs] at h; exact absurd h (by simp)

/-- `cfgAt` is the run seen at the point where the fuel ends, so what holds of any `FuelRun` holds of it. -/
theorem cfgAt_iff {lim : Bool} {f : Nat} {c0 c : Cfg w} : cfgAt lim f c0 = some c ↔ runCfg lim f c0 = .outOfFuel c := by
  induction f generalizing c0 with
  | zero => simp [runCfg, cfgAt]
  | succ f ih =>
    simp only [runCfg, cfgAt]
    cases step lim c0 with
    | next c1 => exact ih
    | halt _ | stop _ | interrupted _ => simp

theorem cfgAt_snoc {lim : Bool} {f : Nat} {c0 c c1 : Cfg w} (h : cfgAt lim f c0 = some c)
    (hs : step lim c = .next c1) : cfgAt lim (f + 1) c0 = some c1 := by
  rw [cfgAt_iff] at h ⊢
  rw [(Ir.fuelRun lim).split h 1, runCfg, hs]; rfl

theorem Reach.init (lim : Bool) (bud : Nat) (b : Block w) (env : Env) :
    Reach lim bud b env (initCfg b bud env) := ⟨0, rfl⟩

theorem Reach.step {lim : Bool} {bud : Nat} {b : Block w} {env : Env} {c c1 : Cfg w}
    (h : Reach lim bud b env c) (hs : step lim c = .next c1) : Reach lim bud b env c1 := by
  obtain ⟨f, hf⟩ := h
  exact ⟨f + 1, cfgAt_snoc hf hs⟩

theorem unexposed_succ {lim : Bool} {d : Nat} {a : Int} {n : Nat} {c : Cfg w} :
    unexposedN lim d a (n + 1) c = true ↔
      (c.cur = [] ∧ c.conts.length ≤ d) ∨
        (a ∉ stepReads c ∧
          (a ∈ stepWrites c ∨ ∀ c1, step lim c = .next c1 → unexposedN lim d a n c1 = true)) := by
  rw [unexposedN]
  by_cases hst : c.cur = [] ∧ c.conts.length ≤ d
  · simp [hst.1, hst.2]
  · have hb : (c.cur.isEmpty && decide (c.conts.length ≤ d)) = false := by
      cases hc : c.cur with
      | nil =>
        have : ¬ c.conts.length ≤ d := fun h' => hst ⟨hc, h'⟩
        simp [this]
      | cons _ _ => simp
    rw [hb]
    cases hs : step lim c <;> simp [hst]

theorem unexposed_noread {lim : Bool} {d : Nat} {a : Int} {c : Cfg w}
    (h : ∀ n, unexposedN lim d a n c = true) (hne : ¬ (c.cur = [] ∧ c.conts.length ≤ d)) :
    a ∉ stepReads c := by
  rcases unexposed_succ.1 (h 1) with hst | ⟨h1, _⟩
  · exact absurd hst hne
  · exact h1

theorem unexposed_next {lim : Bool} {d : Nat} {a : Int} {c c1 : Cfg w}
    (h : ∀ n, unexposedN lim d a n c = true) (hne : ¬ (c.cur = [] ∧ c.conts.length ≤ d))
    (hs : step lim c = .next c1) (hw : a ∉ stepWrites c) : ∀ n, unexposedN lim d a n c1 = true := by
  intro n
  rcases unexposed_succ.1 (h (n + 1)) with hst | ⟨_, hw' | h3⟩
  · exact absurd hst hne
  · exact absurd hw' hw
  · exact h3 c1 hs

/-- All continuations except the `d` outermost ones belong to blocks without pointer movement. -/
def nsAbove : List (Cont w) → Nat → Bool
  | [], _ => true
  | k :: ks, d => if ks.length < d then true else noShiftK k && nsAbove ks d

theorem nsAbove_push {k : Cont w} {ks : List (Cont w)} {d : Nat} (hk : noShiftK k = true)
    (h : nsAbove ks d = true) : nsAbove (k :: ks) d = true := by
  rw [nsAbove]; split
  · rfl
  · simp [hk, h]

theorem nsAbove_pop {k : Cont w} {ks : List (Cont w)} {d : Nat} (h : nsAbove (k :: ks) d = true)
    (hd : d ≤ ks.length) : noShiftK k = true ∧ nsAbove ks d = true := by
  rw [nsAbove, if_neg (by omega)] at h
  simpa using h

theorem nsAbove_le {ks : List (Cont w)} {d : Nat} (h : ks.length ≤ d) : nsAbove ks d = true := by
  cases ks with
  | nil => rfl
  | cons k ks =>
    rw [nsAbove, if_pos]
    simp only [List.length_cons] at h; omega

theorem noShiftL_cons {i : Instr w} {l : List (Instr w)} (h : noShiftL (i :: l) = true) :
    noShiftI i = true ∧ noShiftL l = true := by
  rw [noShiftL] at h; simpa using h

theorem step_at_loopEnd (lim : Bool) (cond shift : Int) (body rest : List (Instr w)) (ks : List (Cont w))
    (budget : Nat) (st : State w) :
    step lim ⟨[], .loopEnd cond shift body rest :: ks, budget, st⟩ =
      if (lim && budget == 0) = true then
        .interrupted ⟨[], .loopEnd cond shift body rest :: ks, budget, unwind (st.mov shift) ks⟩
      else if (st.mov shift).rd cond ≠ 0#w then
        .next ⟨body, .loopEnd cond shift body rest :: ks, if lim = true then budget - 1 else budget,
          st.mov shift⟩
      else .next ⟨rest, ks, if lim = true then budget - 1 else budget, st.mov shift⟩ := rfl

theorem step_at_ifEnd (lim : Bool) (shift : Int) (rest : List (Instr w)) (ks : List (Cont w))
    (budget : Nat) (st : State w) :
    step lim ⟨[], .ifEnd shift rest :: ks, budget, st⟩ =
      if (lim && budget == 0) = true then
        .interrupted ⟨[], .ifEnd shift rest :: ks, budget, unwind (st.mov shift) ks⟩
      else .next ⟨rest, ks, if lim = true then budget - 1 else budget, st.mov shift⟩ := rfl

theorem noShift_step {lim : Bool} {d : Nat} {c c1 : Cfg w} (hcur : noShiftL c.cur = true)
    (hks : nsAbove c.conts d = true) (hd : d ≤ c.conts.length)
    (hne : ¬ (c.cur = [] ∧ c.conts.length ≤ d)) (hs : step lim c = .next c1) :
    noShiftL c1.cur = true ∧ nsAbove c1.conts d = true ∧ d ≤ c1.conts.length ∧ c1.st.ptr = c.st.ptr := by
  have h := step_shape lim c
  rw [hs] at h
  cases h with
  | blockEnd k ks b st _ =>
    have hn : ¬ (k :: ks).length ≤ d := fun h => hne ⟨rfl, h⟩
    have hlen : d ≤ ks.length := by simp only [List.length_cons] at hn; omega
    have ⟨hk, hks'⟩ := nsAbove_pop hks hlen
    have ⟨h0, hr⟩ := noShiftK_parts hk
    have hp : (st.mov k.shift).ptr = st.ptr := by rw [h0]; exact Int.add_zero _
    cases k with
    | loopEnd cond sh body rest =>
      simp only [noShiftK, Bool.and_eq_true] at hk
      simp only [Cont.after]
      split
      · exact ⟨hk.1.2, hks, hd, hp⟩
      · exact ⟨hr, hks', hlen, hp⟩
    | ifEnd sh rest => exact ⟨hr, hks', hlen, hp⟩
  | ioOk i rest ks b st s hio =>
    refine ⟨(noShiftL_cons hcur).2, hks, hd, ?_⟩
    rcases io?_eq hio with ⟨_, _, e⟩ | ⟨_, _, e⟩
    · exact output_ptr_of_eq e
    · exact input_ptr_of_eq e
  | assign => exact ⟨(noShiftL_cons hcur).2, hks, hd, (doCalc_meta _ _).1⟩
  | enter i rest ks b st cond body k hb _ =>
    rw [block?_eq] at hb
    cases hp : blockParts i with
    | none => rw [hp] at hb; cases hb
    | some p =>
      rw [hp] at hb; cases hb
      have ⟨hbody, hk⟩ := noShiftK_contOf (cond := p.1) (sh := p.2.1) (body := p.2.2) hp (noShiftL_cons hcur).1
        (noShiftL_cons hcur).2
      exact ⟨hbody, nsAbove_push hk hks, Nat.le_succ_of_le hd, rfl⟩
  | skip => exact ⟨(noShiftL_cons hcur).2, hks, hd, rfl⟩

end C01Dse
end Hpbf
