/-
Corollary for programs without loops / ifs: no analysis fact is needed (pure backward liveness with
"nothing runs after the end of the program").
-/
import Hpbf.Proofs.C01DseMain

namespace Hpbf
namespace C01Dse
open Ir OptDse

variable {w : Nat}

theorem cfgAt_inv {lim : Bool} (P : Cfg w → Prop) (hstep : ∀ c c1, P c → step lim c = .next c1 → P c1)
    {f : Nat} {c0 c : Cfg w} (h0 : P c0) (h : cfgAt lim f c0 = some c) : P c := by
  induction f generalizing c0 with
  | zero =>
    simp only [cfgAt, Option.some.injEq] at h
    subst h; exact h0
  | succ f ih =>
    obtain ⟨c1, hs, h⟩ := cfgAt_succ_some h
    exact ih (hstep c0 c1 h0 hs) h

def StraightLine (b : Block w) : Prop := ∀ i ∈ b.insts, isBlock i = false

theorem straight_step {lim : Bool} (c c1 : Cfg w)
    (h : c.conts = [] ∧ ∀ i ∈ c.cur, isBlock i = false) (hs : step lim c = .next c1) :
    c1.conts = [] ∧ ∀ i ∈ c1.cur, isBlock i = false := by
  obtain ⟨cur, conts, budget, st⟩ := c
  obtain ⟨hk, hc⟩ := h
  simp only at hk hc
  subst hk
  cases cur with
  | nil => simp [step] at hs
  | cons i rest =>
    have hrest : ∀ j ∈ rest, isBlock j = false := fun j hj => hc j (List.mem_cons_of_mem _ hj)
    cases i with
    | output src =>
      simp only [step] at hs
      split at hs
      · cases hs; exact ⟨rfl, hrest⟩
      · exact absurd hs (by simp)
    | input dst =>
      simp only [step] at hs
      split at hs
      · cases hs; exact ⟨rfl, hrest⟩
      · exact absurd hs (by simp)
    | «calc» calcs =>
      simp only [step] at hs
      cases hs; exact ⟨rfl, hrest⟩
    | loop cond shift body once => exact absurd (hc _ (List.mem_cons_self ..)) (by simp [isBlock])
    | ifnz cond shift body => exact absurd (hc _ (List.mem_cons_self ..)) (by simp [isBlock])

theorem shiftOkL_straight (A : DAnal) (l : List (Instr w)) (h : ∀ i ∈ l, isBlock i = false) :
    shiftOkL A l = true := by
  induction l with
  | nil => rw [shiftOkL]
  | cons i rest ih =>
    rw [shiftOkL, ih (fun j hj => h j (List.mem_cons_of_mem _ hj)), Bool.and_true]
    exact shiftOkI_plain (h i List.mem_cons_self) _ _

theorem shapeOkL_straight (A : DAnal) (l : List (Instr w)) (h : ∀ i ∈ l, isBlock i = false) :
    shapeOkL A l = true := by
  induction l with
  | nil => rw [shapeOkL]
  | cons i rest ih =>
    rw [shapeOkL, ih (fun j hj => h j (List.mem_cons_of_mem _ hj)), Bool.and_true]
    exact shapeOkI_plain (h i List.mem_cons_self) _ _

theorem analSound_straight (lim : Bool) (bud : Nat) {b : Block w} (anal : DAnal) (env : Env)
    (hb : StraightLine b) : AnalSoundAt lim bud b anal env := by
  have hinv : ∀ c, Reach lim bud b env c → c.conts = [] ∧ ∀ i ∈ c.cur, isBlock i = false := by
    rintro c ⟨f, hf⟩
    have h0 : (initCfg b bud env).conts = [] ∧ ∀ i ∈ (initCfg b bud env).cur, isBlock i = false := ⟨rfl, hb⟩
    exact cfgAt_inv (fun c => c.conts = [] ∧ ∀ i ∈ c.cur, isBlock i = false) straight_step h0 hf
  refine ⟨shiftOkL_straight anal b.insts hb, ?_, ?_, ?_⟩
  · intro c hc i rest cond shift body A0 A1 h1 h2 _ _ _
    have := (hinv c hc).2 i (by rw [h1]; exact List.mem_cons_self ..)
    cases i <;> simp [blockParts] at h2 <;> simp [isBlock] at this
  · intro c hc cond shift body rest ks A0 _ h2 _ _
    rw [(hinv c hc).1] at h2; exact absurd h2 (by simp)
  · intro c hc cond shift body rest ks A0 c1 _ h2
    rw [(hinv c hc).1] at h2; exact absurd h2 (by simp)

end C01Dse
end Hpbf
