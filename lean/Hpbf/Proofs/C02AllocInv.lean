/-
C02 (`allocate_temps`): the loop invariant `PassInv` through the phases of a round: the frame rule `passInv_frame` and
its instances (`passInv_drain`, `_rewrite`, `_free`, `_pushLive`, `_setI_done`), and the two phases that add a table
entry (`passInv_newEntry` for step 7, `passInv_moved` for a performed step 3, over `Moved`).  After step 4 (the source
rewrite) the state already satisfies the invariant for `k + 1`.  The round is composed in `C02AllocStep`.
-/
import Hpbf.Proofs.C02AllocRegs
set_option linter.unusedSimpArgs false

namespace Hpbf
namespace C02
namespace Alloc

open Bc BcWf BcGen C11

variable {w : Nat} {s : St w}

theorem getElem?_setI (a : ASt w) (i j : Nat) (x : Instr w) :
    (a.setI i x).st.insts[j]? = if i = j ∧ i < a.st.insts.size then some x else a.st.insts[j]? := by
  simp only [ASt.setI, Array.getElem?_setIfInBounds]
  by_cases h : i = j
  · subst h
    by_cases h2 : i < a.st.insts.size
    · simp [h2]
    · simp [h2]
  · simp [h]

theorem getElem?_setI_ne (a : ASt w) {i j : Nat} (h : j ≠ i) (x : Instr w) :
    (a.setI i x).st.insts[j]? = a.st.insts[j]? := by
  rw [getElem?_setI, if_neg (fun e => h e.1.symm)]

theorem setI_size (a : ASt w) (i : Nat) (x : Instr w) : (a.setI i x).st.insts.size = a.st.insts.size := by
  simp [ASt.setI]

theorem fused_mono {k k' : Nat} {a a' : ASt w} {f : Nat} {op : BcGen.Op} {m : Int} {t : Nat} {s0 s1 : Loc w}
    (h : Fused s k a f op m t s0 s1) (hk : k' ≤ f) (hi : a'.st.insts[f]? = a.st.insts[f]?) :
    Fused s k' a' f op m t s0 s1 := ⟨hk, h.2.1, by rw [hi]; exact h.2.2⟩

/-- A slot in which a moved computation waits holds an arithmetic instruction with a memory destination: neither a
copy nor a computation into a temporary. -/
theorem Fused.ne_copy {k : Nat} {a : ASt w} {f : Nat} {op : BcGen.Op} {m : Int} {t : Nat} {s0 s1 : Loc w}
    (h : Fused s k a f op m t s0 s1) {d src : Loc w} : a.st.insts[f]? ≠ some (.copy d src) := by
  rw [h.2.2]; exact fun e => mkArith_ne_copy _ _ _ _ _ _ (Option.some.inj e)

theorem Fused.ne_tmpDst {k : Nat} {a : ASt w} {f : Nat} {op : BcGen.Op} {m : Int} {t : Nat} {s0 s1 : Loc w}
    (h : Fused s k a f op m t s0 s1) {op' : BcGen.Op} {t' : Nat} {a' b' : Loc w} :
    a.st.insts[f]? ≠ some (mkArith op' (.tmp t') a' b') := by
  rw [h.2.2]; intro e; cases (mkArith_inj (Option.some.inj e)).2.1

theorem fused_cand {k : Nat} {a : ASt w} (hI : PassInv s k a) {f : Nat} {op : BcGen.Op} {m : Int} {t : Nat}
    {s0 s1 : Loc w} (h : Fused s k a f op m t s0 s1) :
    ∃ i, i < k ∧ Cand s i op t s0 s1 f m (.tmp t) ∧ ∃ r : RangeInfo, s.ranges[t]? = some r ∧ r.created = i := by
  obtain ⟨i, r, L, g1, g2, g3, g4, g5, g6, _⟩ := hI.fused _ _ _ _ _ _ h
  exact ⟨i, g4, ⟨g1, ⟨r, L, g2, g5, g6⟩, h.2.1⟩, r, g2, g3⟩

theorem srcFacts_congr {a a' : ASt w} {i f : Nat} {l : Loc w} (h : SrcFacts s a i f l)
    (h0 : ∀ u v, alGet a'.repl u = some v → alGet a.repl u = some v) : SrcFacts s a' i f l := by
  cases l with
  | tmp u => intro m' hm; exact h m' (h0 _ _ hm)
  | mem m => exact h
  | memZero m | imm c => trivial

/-! The frame rule.  Every step of a round except the creation of a table entry changes the allocation state in the
same way: the instructions from `k'` on, the range table and the write table stay, no replacement is added.  Only a
computation that waited at a position below `k'` needs an argument: its cell is then protected by the second
alternative of `fwdMem`. -/

theorem passInv_frame {k k' : Nat} {a a' : ASt w} (h : PassInv s k a) (hk : k ≤ k')
    (hwr : a'.st.writes = a.st.writes) (hsz : a'.st.insts.size = a.st.insts.size)
    (hrg : a'.st.ranges = a.st.ranges) (hfut : ∀ j, k' ≤ j → a'.st.insts[j]? = a.st.insts[j]?)
    (hskel : ∀ (j : Nat) (x : Instr w), a'.st.insts[j]? = some x →
      NoMemZero x ∧ ∃ y, s.insts[j]? = some y ∧ branchOff? x = branchOff? y)
    (hregs : RegsInv a') (hrepl : ∀ t l, alGet a'.repl t = some l → alGet a.repl t = some l)
    (hheap : ∀ e t, (e, t) ∈ a'.nre →
      ∃ r : RangeInfo, s.ranges[t]? = some r ∧ r.created < k' ∧ ∀ L, r.lastUse = some L → L ≤ e) :
    PassInv s k' a' := by
  have hnew : ∀ {f op m t s0 s1}, Fused s k a f op m t s0 s1 → k' ≤ f → Fused s k' a' f op m t s0 s1 :=
    fun g hf => fused_mono g hf (hfut _ hf)
  have hold : ∀ {f op m t s0 s1}, Fused s k' a' f op m t s0 s1 → Fused s k a f op m t s0 s1 :=
    fun g => fused_mono g (Nat.le_trans hk g.1) (hfut _ g.1).symm
  refine ⟨by rw [hwr]; exact h.writes, by rw [hsz]; exact h.isize, ?_, ?_, hskel, hregs, ?_, ?_, hheap, ?_⟩
  · intro t r hr
    obtain ⟨r', g1, g2, g3, g4⟩ := h.rkeep t r hr
    exact ⟨r', by rw [hrg]; exact g1, g2, g3, fun hc => g4 (Nat.le_trans hk hc)⟩
  · intro j hj
    rw [hfut j hj]
    rcases h.fut j (Nat.le_trans hk hj) with g | ⟨op, m, t, s0, s1, g⟩
    · exact Or.inl g
    · exact Or.inr ⟨op, m, t, s0, s1, hnew g hj⟩
  · intro t l ht
    obtain ⟨g1, r, g2, g3⟩ := h.replDom t l (hrepl t l ht)
    exact ⟨g1, r, g2, Nat.lt_of_lt_of_le g3 hk⟩
  · intro t m ht
    rcases h.fwdMem t m (hrepl _ _ ht) with ⟨f, op, s0, s1, g⟩ | ⟨r, L, lo, g1, g2, g3, g4⟩
    · by_cases hf : k' ≤ f
      · exact Or.inl ⟨f, op, s0, s1, hnew g hf⟩
      · obtain ⟨i, r, L, _, q2, _, _, _, q6, _, q8, _, _⟩ := h.fused _ _ _ _ _ _ g
        exact Or.inr ⟨r, L, f + 1, q2, q6, Nat.lt_of_not_le hf, q8⟩
    · exact Or.inr ⟨r, L, lo, g1, g2, Nat.le_trans g3 hk, g4⟩
  · intro f op m t s0 s1 g
    obtain ⟨i, r, L, g1, g2, g3, g4, g5, g6, g7, g8, g9, g10⟩ := h.fused f op m t s0 s1 (hold g)
    exact ⟨i, r, L, g1, g2, g3, Nat.lt_of_lt_of_le g4 hk, g5, g6, fun v hv => g7 v (hrepl _ _ hv), g8,
      srcFacts_congr g9 hrepl, srcFacts_congr g10 hrepl⟩

/-- A temporary whose range has been taken off the heap in round `k` is past its recorded last use. -/
def DeadAt (s : St w) (k : Nat) (t : Nat) : Prop :=
  ∀ (r : RangeInfo) (L : Nat), s.ranges[t]? = some r → r.lastUse = some L → L ≤ k

/-- The hypotheses are the conclusions of `drainEnds_ok` (`C02AllocSpec`; `Ent a x`: `x` is an entry of the heap of `a` or
its re-insertion with the later last use).  A released temporary is dead: its entry's end is at most `k`, and by
`PassInv.heap` no recorded last use lies after the end of an entry. -/
theorem passInv_drain {k : Nat} {a a1 : ASt w} {atf0 : List Nat} (hI : PassInv s k a)
    (h1 : NreOnly a a1) (h2 : ∀ x ∈ a1.nre, Ent a x)
    (h3 : ∀ t ∈ atf0, ∃ e r L, Ent a (e, t) ∧ e ≤ k ∧ a.st.ranges[t]? = some r ∧ r.lastUse = some L ∧ L ≤ e) :
    PassInv s k a1 ∧ ∀ t ∈ atf0, DeadAt s k t := by
  obtain ⟨e1, e2, e3, e4, e5⟩ := h1
  have hheap : ∀ e t, Ent a (e, t) → ∃ r : RangeInfo, s.ranges[t]? = some r ∧ r.created < k ∧
      ∀ L, r.lastUse = some L → L ≤ e := by
    intro e t he
    rcases he with he | ⟨e0, r0, g1, g2, g3, g4⟩
    · exact hI.heap e t he
    · obtain ⟨r, q1, q2, q3⟩ := hI.heap e0 t g1
      exact ⟨r, q1, q2, fun L hL => Nat.le_trans (q3 L hL) (Nat.le_of_lt g4)⟩
  refine ⟨passInv_frame hI (Nat.le_refl _) (by rw [e1]) (by rw [e1]) (by rw [e1]) (fun j _ => by rw [e1])
    (by rw [e1]; exact hI.skel) (regsInv_congr hI.regs e5 e3 e4 e2) (fun t l g => by rw [e5] at g; exact g)
    (fun e t he => hheap e t (h2 _ he)), ?_⟩
  intro t ht r0 L0 hr0 hL0
  obtain ⟨e, r, L, he, hek, hr, hL, hLe⟩ := h3 t ht
  obtain ⟨r1, q1, q2, q3⟩ := hheap e t he
  rw [hr0] at q1; cases q1
  exact Nat.le_trans (q3 L0 hL0) hek

theorem replSrc_ok {repl : List (Nat × Loc w)} {l l' : Loc w} (h : replSrc repl l = .ok l') :
    (∃ t, l = .tmp t ∧ alGet repl t = some l') ∨ ((∀ t, l ≠ .tmp t) ∧ l' = l) := by
  cases l with
  | tmp t =>
    simp only [replSrc] at h
    cases hg : alGet repl t with
    | none => simp [hg] at h
    | some v => simp only [hg, Except.ok.injEq] at h; subst h; exact Or.inl ⟨t, rfl, hg⟩
  | mem m | memZero m | imm c =>
    simp only [replSrc, Except.ok.injEq] at h; exact Or.inr ⟨fun t => by simp, h.symm⟩

theorem replSrc_noZero {repl : List (Nat × Loc w)} {l l' : Loc w} (h : replSrc repl l = .ok l')
    (hr : ∀ t v, alGet repl t = some v → locNoZero v = true) (hl : locNoZero l = true) : locNoZero l' = true := by
  rcases replSrc_ok h with ⟨t, _, g⟩ | ⟨_, rfl⟩
  · exact hr t l' g
  · exact hl

theorem rwInst_cases {repl : List (Nat × Loc w)} {cur new : Instr w} (h : rwInst repl cur = .ok new) :
    (∃ d s s', cur = .copy d s ∧ replSrc repl s = .ok s' ∧ new = .copy d s') ∨
    (∃ op d s0 s1 s0' s1', cur = mkArith op d s0 s1 ∧ replSrc repl s0 = .ok s0' ∧ replSrc repl s1 = .ok s1' ∧
      new = mkArith op d s0' s1') ∨
    (plain cur = false ∧ new = cur) ∨ (cur = .noop ∧ new = .noop) := by
  have harith : ∀ op d s0 s1, cur = mkArith op d s0 s1 →
      (match replSrc repl s0 with
        | .error e => .error e
        | .ok s0' =>
          match replSrc repl s1 with
          | .error e => .error e
          | .ok s1' => .ok (mkArith op d s0' s1') : Except String (Instr w)) = .ok new →
      ∃ op d s0 s1 s0' s1', cur = mkArith op d s0 s1 ∧ replSrc repl s0 = .ok s0' ∧
        replSrc repl s1 = .ok s1' ∧ new = mkArith op d s0' s1' := by
    intro op d s0 s1 hc h
    cases h0 : replSrc repl s0 with
    | error e => simp [h0] at h
    | ok s0' =>
      cases h1 : replSrc repl s1 with
      | error e => simp [h0, h1] at h
      | ok s1' =>
        simp only [h0, h1, Except.ok.injEq] at h
        exact ⟨op, d, s0, s1, s0', s1', hc, h0, h1, h.symm⟩
  cases cur with
  | copy d s =>
    simp only [rwInst] at h
    cases h0 : replSrc repl s with
    | error e => simp [h0] at h
    | ok s' =>
      simp only [h0, Except.ok.injEq] at h
      exact Or.inl ⟨d, s, s', rfl, h0, h.symm⟩
  | add d s0 s1 | sub d s0 s1 | mul d s0 s1 => exact Or.inr (Or.inl (harith _ d s0 s1 rfl h))
  | noop => simp only [rwInst, arith?, Except.ok.injEq] at h; exact Or.inr (Or.inr (Or.inr ⟨rfl, h.symm⟩))
  | _ => simp only [rwInst, arith?, Except.ok.injEq] at h; exact Or.inr (Or.inr (Or.inl ⟨rfl, h.symm⟩))

theorem rwInst_facts {repl : List (Nat × Loc w)} {cur new : Instr w} (h : rwInst repl cur = .ok new)
    (hr : ∀ t v, alGet repl t = some v → locNoZero v = true) (hz : NoMemZero cur) :
    NoMemZero new ∧ branchOff? new = branchOff? cur ∧ dstTmp? new = dstTmp? cur := by
  rcases rwInst_cases h with ⟨d, s, s', rfl, g, rfl⟩ | ⟨op, d, s0, s1, s0', s1', rfl, g0, g1, rfl⟩ |
      ⟨_, rfl⟩ | ⟨rfl, rfl⟩
  · simp only [NoMemZero, noMemZero, Bool.and_eq_true] at hz ⊢
    exact ⟨⟨hz.1, replSrc_noZero g hr hz.2⟩, rfl, by cases d <;> rfl⟩
  · rw [noMemZero_mkArith] at hz ⊢
    exact ⟨⟨hz.1, replSrc_noZero g0 hr hz.2.1, replSrc_noZero g1 hr hz.2.2⟩,
      by rw [branchOff?_mkArith, branchOff?_mkArith], by rw [dstTmp?_mkArith, dstTmp?_mkArith]⟩
  · exact ⟨hz, rfl, rfl⟩
  · exact ⟨hz, rfl, rfl⟩

theorem passInv_rewrite {k : Nat} {b : ASt w} {cur new : Instr w} (hb : PassInv s k b)
    (hc : b.st.insts[k]? = some cur) (hn : rwInst b.repl cur = .ok new) :
    PassInv s (k + 1) (b.setI k new) := by
  have hkb : k < b.st.insts.size := lt_of_getElem? hc
  have hins : ∀ j, j ≠ k → (b.setI k new).st.insts[j]? = b.st.insts[j]? := fun j hj => getElem?_setI_ne b hj new
  refine passInv_frame hb (Nat.le_succ k) rfl (setI_size _ _ _) rfl (fun j hj => hins j (Nat.ne_of_gt hj)) ?_
    (regsInv_congr hb.regs rfl rfl rfl rfl) (fun _ _ g => g) ?_
  · intro j x hx
    by_cases hj : j = k
    · subst hj
      rw [getElem?_setI] at hx
      simp only [hkb, and_self, if_true, Option.some.injEq] at hx
      subst hx
      obtain ⟨hz, y, hy, hbr⟩ := hb.skel j cur hc
      obtain ⟨q1, q2, _⟩ := rwInst_facts hn (fun t v g => (hb.replDom t v g).1) hz
      exact ⟨q1, y, hy, by rw [q2, hbr]⟩
    · rw [hins j hj] at hx
      exact hb.skel j x hx
  · intro e t he
    obtain ⟨r, g1, g2, g3⟩ := hb.heap e t he
    exact ⟨r, g1, Nat.lt_succ_of_lt g2, g3⟩

theorem passInv_free {k1 numRegs : Nat} {c : ASt w} {atf : List Nat} (hc : PassInv s k1 c) :
    PassInv s k1 (freeList numRegs atf c) := by
  have hst := freeList_st numRegs atf c
  have hnre := freeList_nre numRegs atf c
  have hget := alGet_freeList numRegs atf hc.regs
  have hsub : ∀ t l, alGet (freeList numRegs atf c).repl t = some l → alGet c.repl t = some l := by
    intro t l h
    rw [hget] at h
    split at h
    · cases h
    · exact h
  exact passInv_frame hc (Nat.le_refl _) (by rw [hst]) (by rw [hst]) (by rw [hst]) (fun j _ => by rw [hst])
    (by rw [hst]; exact hc.skel) (regs_freeList numRegs atf hc.regs) hsub
    (fun e t he => by rw [hnre] at he; exact hc.heap e t he)

theorem passInv_pushLive {k1 : Nat} {c : ASt w} (hc : PassInv s k1 c) (live : Nat) :
    PassInv s k1 (pushLive c live) :=
  passInv_frame hc (Nat.le_refl _) rfl rfl rfl (fun _ _ => rfl) hc.skel (regsInv_congr hc.regs rfl rfl rfl rfl)
    (fun _ _ g => g) hc.heap

theorem passInv_setI_done {k : Nat} {c : ASt w} {x fin : Instr w} (hc : PassInv s (k + 1) c)
    (hx : c.st.insts[k]? = some x) (hbx : branchOff? x = none) (hfin : NoMemZero fin)
    (hbf : branchOff? fin = none) : PassInv s (k + 1) (c.setI k fin) := by
  have hkb : k < c.st.insts.size := lt_of_getElem? hx
  have hins : ∀ j, j ≠ k → (c.setI k fin).st.insts[j]? = c.st.insts[j]? := fun j hj => getElem?_setI_ne c hj fin
  refine passInv_frame hc (Nat.le_refl _) rfl (setI_size _ _ _) rfl (fun j hj => hins j (Nat.ne_of_gt hj)) ?_
    (regsInv_congr hc.regs rfl rfl rfl rfl) (fun _ _ g => g) hc.heap
  intro j y hy
  by_cases hj : j = k
  · subst hj
    rw [getElem?_setI] at hy
    simp only [hkb, and_self, if_true, Option.some.injEq] at hy
    subst hy
    obtain ⟨_, y, hy, hbr⟩ := hc.skel j x hx
    exact ⟨hfin, y, hy, by rw [hbf, ← hbr, hbx]⟩
  · rw [hins j hj] at hy
    exact hc.skel j y hy

theorem fused_src_created (hp : AllocPre s) {k : Nat} {a : ASt w} (hI : PassInv s k a) {f : Nat} {op : BcGen.Op}
    {m : Int} {t : Nat} {s0 s1 : Loc w} (h : Fused s k a f op m t s0 s1) {u : Nat}
    (hu : s0 = .tmp u ∨ s1 = .tmp u) : ∃ r : RangeInfo, s.ranges[u]? = some r ∧ r.created + 1 < k := by
  obtain ⟨i, r, L, g1, g2, g3, g4, _⟩ := hI.fused _ _ _ _ _ _ h
  obtain ⟨ru, Lu, gu, _, gc, _⟩ := hp.uses i _ u g1 (by
    rw [uses_mkArith]; rcases hu with rfl | rfl <;> simp [locTmp])
  exact ⟨ru, gu, by omega⟩

/-- A new table entry for a value created in this round does not touch what was checked about the operands of a
waiting computation: they were created earlier. -/
theorem srcFacts_keep (hp : AllocPre s) {k : Nat} {a a' : ASt w} (hI : PassInv s k a) {t : Nat} {r : RangeInfo}
    (hr : s.ranges[t]? = some r) (hcr : k ≤ r.created + 1)
    (hold : ∀ u v, u ≠ t → alGet a'.repl u = some v → alGet a.repl u = some v)
    {f : Nat} {op : BcGen.Op} {m : Int} {t' : Nat} {s0 s1 : Loc w} (hF : Fused s k a f op m t' s0 s1)
    (i : Nat) (l : Loc w) (hl : l = s0 ∨ l = s1) (h : SrcFacts s a i f l) : SrcFacts s a' i f l := by
  cases l with
  | tmp u =>
    intro m' hm
    obtain ⟨ru, gu, gc⟩ := fused_src_created hp hI hF (u := u) (hl.imp Eq.symm Eq.symm)
    have hne : u ≠ t := by
      intro e; subst e
      rw [hr] at gu; cases gu
      omega
    exact h m' (hold u _ hne hm)
  | mem m' => exact h
  | memZero m' | imm c' => trivial

theorem passInv_newEntry (hp : AllocPre s) {k : Nat} {c a' : ASt w} {t L : Nat} {l : Loc w} {r : RangeInfo}
    (hc : PassInv s (k + 1) c) (hst : a'.st = c.st) (hrepl : a'.repl = alSet c.repl t l)
    (hnre : a'.nre = nrePush (L, t) c.nre) (hregs : RegsInv a')
    (hnoF : ∀ f op m s0 s1, ¬ Fused s (k + 1) c f op m t s0 s1)
    (hr : s.ranges[t]? = some r) (hcr : r.created = k) (hL : r.lastUse = some L) (hl : locNoZero l = true)
    (hmem : ∀ m, l = .mem m → hasWriteInRange s m k L = false) : PassInv s (k + 1) a' := by
  have hfu : ∀ {f op m t s0 s1}, Fused s (k + 1) a' f op m t s0 s1 ↔ Fused s (k + 1) c f op m t s0 s1 := by
    intro f op m t s0 s1; unfold Fused; rw [hst]
  have hold : ∀ u v, u ≠ t → alGet a'.repl u = some v → alGet c.repl u = some v := by
    intro u v hne h
    rw [hrepl, alGet_alSet_ne _ _ (Ne.symm hne)] at h; exact h
  have hsrc : ∀ f op m t' s0 s1, Fused s (k + 1) c f op m t' s0 s1 → ∀ i l', (l' = s0 ∨ l' = s1) →
      SrcFacts s c i f l' → SrcFacts s a' i f l' :=
    fun f op m t' s0 s1 hF i l' hl' => srcFacts_keep hp hc hr (by omega) hold hF i l' hl'
  refine ⟨by rw [hst]; exact hc.writes, by rw [hst]; exact hc.isize, by rw [hst]; exact hc.rkeep, ?_,
    by rw [hst]; exact hc.skel, hregs, ?_, ?_, ?_, ?_⟩
  · intro j hj
    rcases hc.fut j hj with h | ⟨op, m, t, s0, s1, h⟩
    · exact Or.inl (by rw [hst]; exact h)
    · exact Or.inr ⟨op, m, t, s0, s1, hfu.2 h⟩
  · intro t' v h
    rw [hrepl, alGet_alSet] at h
    split at h
    · rename_i e; subst e; cases h
      exact ⟨hl, r, hr, by rw [hcr]; exact Nat.lt_succ_self _⟩
    · exact hc.replDom t' v h
  · intro t' m h
    rw [hrepl, alGet_alSet] at h
    split at h
    · rename_i e; subst e; cases h
      exact Or.inr ⟨r, L, k, hr, hL, Nat.le_succ _, hmem m rfl⟩
    · rcases hc.fwdMem t' m h with ⟨f, op, s0, s1, g⟩ | g
      · exact Or.inl ⟨f, op, s0, s1, hfu.2 g⟩
      · exact Or.inr g
  · intro e t' he
    rw [hnre, mem_nrePush] at he
    rcases he with he | he
    · simp only [Prod.mk.injEq] at he
      obtain ⟨rfl, rfl⟩ := he
      refine ⟨r, hr, by rw [hcr]; exact Nat.lt_succ_self _, ?_⟩
      intro L' hL'
      rw [hL] at hL'; cases hL'; exact Nat.le_refl _
    · exact hc.heap e t' he
  · intro f op m t' s0 s1 h
    have h' := hfu.1 h
    obtain ⟨i, r', L', g1, g2, g3, g4, g5, g6, g7, g8, g9, g10⟩ := hc.fused f op m t' s0 s1 h'
    have hne : t' ≠ t := by intro e; subst e; exact hnoF _ _ _ _ _ h'
    exact ⟨i, r', L', g1, g2, g3, g4, g5, g6, fun v hv => g7 v (hold _ _ hne hv), g8,
      hsrc _ _ _ _ _ _ h' _ _ (Or.inl rfl) g9, hsrc _ _ _ _ _ _ h' _ _ (Or.inr rfl) g10⟩

theorem branchOff?_of_dstTmp? {x : Instr w} {t : Nat} (h : dstTmp? x = some t) : branchOff? x = none := by
  cases x <;> first | rfl | (simp [dstTmp?] at h)

theorem noMemZero_setDst {x : Instr w} (hx : NoMemZero x) (r : Nat) : NoMemZero (setDst x (.tmp r)) := by
  cases x <;> simp_all [setDst, NoMemZero, noMemZero, locNoZero]

theorem branchOff?_setDst {x : Instr w} {t : Nat} (h : dstTmp? x = some t) (d : Loc w) :
    branchOff? (setDst x d) = none := by
  cases x <;> first | rfl | (simp [dstTmp?] at h)

/-- `hdst`: the destination of `insts[k]` is created here (`C02AllocStep` supplies it from `AllocPre.defs`), so it has
no table entry yet and no moved computation waits for it. -/
theorem passInv_dst (hp : AllocPre s) {k : Nat} {can : Bool} {c a' : ASt w} {x : Instr w} {u : Unit}
    (hc : PassInv s (k + 1) c) (hD : phDst k can c = .ok (u, a')) (hx : c.st.insts[k]? = some x)
    (hxz : NoMemZero x)
    (hdst : ∀ t, dstTmp? x = some t → (∀ f op m s0 s1, ¬ Fused s (k + 1) c f op m t s0 s1) ∧
      ∃ r : RangeInfo, s.ranges[t]? = some r ∧ r.created = k ∧ c.st.ranges[t]? = some r) :
    PassInv s (k + 1) a' := by
  obtain ⟨x', hx', h⟩ := phDst_ok hD
  rw [hx] at hx'; cases hx'
  rcases h with ⟨_, rfl⟩ | ⟨t, ht, r', hr', h⟩
  · exact hc
  obtain ⟨hnoF, r, hr, hcr, hrc⟩ := hdst t ht
  rw [hrc] at hr'; cases hr'
  have hbx := branchOff?_of_dstTmp? ht
  have hwr : ∀ m lo hi, hasWriteInRange c.st m lo hi = hasWriteInRange s m lo hi :=
    fun m lo hi => hasWriteInRange_congr hc.writes m lo hi
  have hnoF1 : ∀ (y : Instr w) f op m s0 s1, ¬ Fused s (k + 1) (c.setI k y) f op m t s0 s1 := by
    intro y f op m s0 s1 h
    refine hnoF f op m s0 s1 (fused_mono h h.1 ?_)
    rw [getElem?_setI]
    have : ¬ (k = f ∧ k < c.st.insts.size) := fun e => Nat.ne_of_gt h.1 e.1.symm
    simp [this]
  rcases h with ⟨_, rfl⟩ | ⟨src, L, rfl, hL, hnu, hsrc, rfl⟩ | ⟨hnu, L, q2, -, rfl⟩
  · exact passInv_setI_done hc hx hbx rfl rfl
  · have h1 := passInv_setI_done hc hx hbx (fin := .noop) rfl rfl
    have hsz : locNoZero src = true := by
      rcases hsrc with ⟨c', rfl⟩ | ⟨m, rfl, _⟩ <;> rfl
    refine passInv_newEntry hp (c := c.setI k .noop) (l := src) h1 rfl rfl rfl ?_ (hnoF1 _) hr hcr hL hsz ?_
    · refine regsInv_congr (regs_setRepl_nontmp hc.regs t src ?_) rfl rfl rfl rfl
      rcases hsrc with ⟨c', rfl⟩ | ⟨m, rfl, _⟩ <;> (intro r e; cases e)
    · intro m e
      rcases hsrc with ⟨c', rfl⟩ | ⟨m', rfl, hw⟩
      · cases e
      · cases e; rw [← hwr]; exact hw
  · have h1 := passInv_setI_done hc hx hbx (fin := setDst x (.tmp (pickTemp c (L - k)).1))
      (noMemZero_setDst hxz _) (branchOff?_setDst ht _)
    refine passInv_newEntry hp (c := c.setI k (setDst x (.tmp (pickTemp c (L - k)).1)))
      (l := .tmp (pickTemp c (L - k)).1) h1 rfl rfl rfl ?_ (hnoF1 _) hr hcr q2 rfl ?_
    · exact regsInv_congr (regs_pick hc.regs (L - k) t) rfl rfl rfl rfl
    · intro m e; cases e

structure FuseSrcSpec (f : Nat) (atf : List Nat) (l : Loc w) (a : ASt w) (atf' : List Nat) (a' : ASt w) : Prop where
  repl : a'.repl = a.repl
  freeRegs : a'.freeRegs = a.freeRegs
  freeTemps : a'.freeTemps = a.freeTemps
  nextFresh : a'.nextFresh = a.nextFresh
  insts : a'.st.insts = a.st.insts
  writes : a'.st.writes = a.st.writes
  live : a'.st.live = a.st.live
  ranges : ∀ (t' : Nat) (r0 : RangeInfo), a.st.ranges[t']? = some r0 →
    ∃ r1 : RangeInfo, a'.st.ranges[t']? = some r1 ∧ r1.created = r0.created ∧ r1.numUses = r0.numUses ∧
      (l ≠ .tmp t' → r1 = r0) ∧ (l = .tmp t' → r1.lastUse = some f)
  src : ∀ u, l = .tmp u → ∃ r0, a.st.ranges[u]? = some r0
  nre : ∀ x, x ∈ a'.nre → x ∈ a.nre ∨ ∃ u, l = .tmp u ∧ x = (f, u) ∧ u ∈ atf
  nreSub : ∀ x, x ∈ a.nre → x ∈ a'.nre
  atfMem : ∀ y, y ∈ atf' ↔ y ∈ atf ∧ l ≠ .tmp y

theorem fuseSrcP_spec {f : Nat} {atf atf' : List Nat} {l : Loc w} {a a' : ASt w}
    (h : fuseSrcP f atf l a = .ok (atf', a')) : FuseSrcSpec f atf l a atf' a' := by
  rcases fuseSrcP_cases h with ⟨hl, rfl, rfl⟩ | ⟨t, r0, rfl, hr, rfl, rfl⟩
  · exact ⟨rfl, rfl, rfl, rfl, rfl, rfl, rfl, fun t' r0 h => ⟨r0, h, rfl, rfl, fun _ => rfl, fun e => absurd e (hl t')⟩,
      fun u e => absurd e (hl u), fun x hx => Or.inl hx, fun x hx => hx, fun y => ⟨fun g => ⟨g, hl y⟩, fun g => g.1⟩⟩
  refine ⟨rfl, rfl, rfl, rfl, rfl, rfl, rfl, ?_, fun u hu => ⟨r0, by cases hu; exact hr⟩, ?_, ?_, ?_⟩
  · intro t' q hq
    have hlt : t' < a.st.ranges.size := lt_of_getElem? hq
    show ∃ r1, (a.st.ranges.setIfInBounds t (AEmit.bump r0 f 0))[t']? = some r1 ∧ _
    rw [Array.getElem?_setIfInBounds]
    by_cases e : t = t'
    · subst e
      rw [hr] at hq; cases hq
      simp only [hlt, and_self, if_true]
      exact ⟨_, rfl, rfl, rfl, fun hne => absurd rfl hne, fun _ => rfl⟩
    · simp only [e, false_and, if_false]
      exact ⟨q, hq, rfl, rfl, fun _ => rfl, fun h' => absurd (Loc.tmp.inj h') e⟩
  · intro x hx
    show x ∈ a.nre ∨ _
    split at hx
    · rename_i hc
      rcases mem_nrePush.1 hx with rfl | hx
      · exact Or.inr ⟨t, rfl, rfl, by simpa using hc⟩
      · exact Or.inl hx
    · exact Or.inl hx
  · intro x hx
    show x ∈ (if atf.contains t then nrePush (f, t) a.nre else a.nre)
    split
    · exact mem_nrePush.2 (Or.inr hx)
    · exact hx
  · intro y
    split
    · rw [mem_setErase]
      exact ⟨fun ⟨g1, g2⟩ => ⟨g1, fun e => g2 (Loc.tmp.inj e).symm⟩, fun ⟨g1, g2⟩ => ⟨g1, fun e => g2 (by rw [e])⟩⟩
    · rename_i hc
      exact ⟨fun g1 => ⟨g1, fun e => hc (by cases e; simpa using g1)⟩, fun g => g.1⟩

/-- What `fuseSrcP` does to the heap: an operand that was about to be released is re-inserted with end `f`. -/
theorem fuseSrcP_nre {f : Nat} {atf atf' : List Nat} {l : Loc w} {a a' : ASt w}
    (h : fuseSrcP f atf l a = .ok (atf', a')) :
    a'.st.ranges.size = a.st.ranges.size ∧
    ((∃ u, l = .tmp u ∧ u ∈ atf ∧ a'.nre = nrePush (f, u) a.nre) ∨
     ((∀ u, l = .tmp u → u ∉ atf) ∧ a'.nre = a.nre)) := by
  refine ⟨(fuseSrcP_sizes h).2, ?_⟩
  rcases fuseSrcP_cases h with ⟨hl, _, rfl⟩ | ⟨t, r, rfl, _, _, rfl⟩
  · exact Or.inr ⟨fun u e => absurd e (hl u), rfl⟩
  · by_cases hc : atf.contains t = true
    · exact Or.inl ⟨t, rfl, by simpa using hc, if_pos hc⟩
    · exact Or.inr ⟨fun u e => (by cases e; simpa using hc), if_neg hc⟩

theorem fuseSrcP_sorted {f : Nat} {atf atf' : List Nat} {l : Loc w} {a a' : ASt w}
    (h : fuseSrcP f atf l a = .ok (atf', a')) (hs : SortedE a.nre) : SortedE a'.nre := by
  rcases (fuseSrcP_nre h).2 with ⟨u, _, _, e⟩ | ⟨_, e⟩
  · rw [e]; exact sortedE_nrePush hs
  · rw [e]; exact hs

theorem fuseSrcP_push {f : Nat} {atf atf' : List Nat} {u : Nat} {a a' : ASt w}
    (h : fuseSrcP f atf (.tmp u) a = .ok (atf', a')) (hu : u ∈ atf) : (f, u) ∈ a'.nre := by
  rcases (fuseSrcP_nre h).2 with ⟨u', e, _, e'⟩ | ⟨hn, _⟩
  · cases e
    rw [e']; exact mem_nrePush.2 (Or.inl rfl)
  · exact absurd hu (hn u rfl)

theorem srcOk_true {a : ASt w} {i f : Nat} {l : Loc w} (h : srcOk a i f l = .ok true) :
    match l with
    | .mem m => hasWriteInRange a.st m i f = false
    | .tmp u => ∃ v, alGet a.repl u = some v ∧ ∀ m', v = .mem m' → hasWriteInRange a.st m' i f = false
    | _ => True := by
  cases l with
  | mem m => simpa [srcOk] using h
  | tmp u =>
    simp only [srcOk] at h
    cases hg : alGet a.repl u with
    | none => simp [hg] at h
    | some v =>
      refine ⟨v, hg, ?_⟩
      intro m' e
      subst e
      simpa [hg] using h
  | memZero m | imm c => trivial

theorem fuseSt_setI_fields (a2 : ASt w) (i t L f : Nat) (m : Int) (x y : Instr w) :
    ((fuseSt a2 i t L f m x).setI f y).repl = alSet a2.repl t (.mem m) ∧
    ((fuseSt a2 i t L f m x).setI f y).nre = nrePush (L, t) a2.nre ∧
    ((fuseSt a2 i t L f m x).setI f y).freeRegs = a2.freeRegs ∧
    ((fuseSt a2 i t L f m x).setI f y).freeTemps = a2.freeTemps ∧
    ((fuseSt a2 i t L f m x).setI f y).nextFresh = a2.nextFresh ∧
    ((fuseSt a2 i t L f m x).setI f y).st.ranges = a2.st.ranges ∧
    ((fuseSt a2 i t L f m x).setI f y).st.writes = a2.st.writes ∧
    ((fuseSt a2 i t L f m x).setI f y).st.live = a2.st.live := by
  -- not `rfl`: to compare two applications of the same projection Lean first compares the two states,
  -- which unfolds the array updates
  simp only [fuseSt, ASt.setI, and_self]

/-- Step 3 of round `k` moved the computation `insts[k] = op (tmp t) s0 s1` to the store `insts[f] = mem[m] := src`
that is its first use: what was checked (`inst` … `ok1`) and what it did to the state `b` (`insts` … `atf`).  An
operand is a source `s0`/`s1` that is a temporary. -/
structure Moved (k : Nat) (atf0 : List Nat) (b : ASt w) (op : BcGen.Op) (t : Nat) (s0 s1 : Loc w) (L f : Nat)
    (m : Int) (src : Loc w) (atf : List Nat) (aF : ASt w) : Prop where
  inst : b.st.insts[k]? = some (mkArith op (.tmp t) s0 s1)
  range : ∃ r : RangeInfo, b.st.ranges[t]? = some r ∧ r.lastUse = some L ∧ r.firstUse = some f
  store : b.st.insts[f]? = some (.copy (.mem m) src)
  noWrite : hasWriteInRange b.st m (f + 1) L = false
  ok0 : srcOk b k f s0 = .ok true
  ok1 : srcOk b k f s1 = .ok true
  insts : ∀ j, aF.st.insts[j]? = if j = f then some (mkArith op (.mem m) s0 s1)
    else if j = k then some .noop else b.st.insts[j]?
  isize : aF.st.insts.size = b.st.insts.size
  repl : aF.repl = alSet b.repl t (.mem m)
  freeRegs : aF.freeRegs = b.freeRegs
  freeTemps : aF.freeTemps = b.freeTemps
  nextFresh : aF.nextFresh = b.nextFresh
  writes : aF.st.writes = b.st.writes
  live : aF.st.live = b.st.live
  /-- the last use of an operand becomes `f`, nothing else changes in the range table -/
  ranges : ∀ (t' : Nat) (r0 : RangeInfo), b.st.ranges[t']? = some r0 →
    ∃ r2 : RangeInfo, aF.st.ranges[t']? = some r2 ∧ r2.created = r0.created ∧ r2.numUses = r0.numUses ∧
      (¬ (s0 = .tmp t' ∨ s1 = .tmp t') → r2 = r0) ∧ ((s0 = .tmp t' ∨ s1 = .tmp t') → r2.lastUse = some f)
  rsize : aF.st.ranges.size = b.st.ranges.size
  /-- the heap gains the entry of `t` and, with end `f`, the operands that were about to be released -/
  nre : ∀ e u, (e, u) ∈ aF.nre ↔
    (e, u) = (L, t) ∨ (e, u) ∈ b.nre ∨ (e = f ∧ u ∈ atf0 ∧ (s0 = .tmp u ∨ s1 = .tmp u))
  sorted : SortedE b.nre → SortedE aF.nre
  /-- those operands are no longer about to be released -/
  atf : ∀ y, y ∈ atf ↔ y ∈ atf0 ∧ ¬ (s0 = .tmp y ∨ s1 = .tmp y)

theorem moved_of {k : Nat} {atf0 : List Nat} {b : ASt w} {inst0 : Instr w} (hi0 : b.st.insts[k]? = some inst0)
    {op : BcGen.Op} {t : Nat} {s0 s1 : Loc w} {r : RangeInfo} {L f : Nat} {m : Int} {src : Loc w}
    {atf1 atf : List Nat} {a1 a2 : ASt w} {x : Instr w}
    (e1 : arith? inst0 = some (op, .tmp t, s0, s1)) (e2 : b.st.ranges[t]? = some r) (e3 : r.lastUse = some L)
    (e4 : r.firstUse = some f) (e5 : b.st.insts[f]? = some (.copy (.mem m) src))
    (e6 : hasWriteInRange b.st m (f + 1) L = false)
    (e7 : srcOk b k f s0 = .ok true) (e8 : srcOk b k f s1 = .ok true)
    (e9 : fuseSrcP f atf0 s0 b = .ok (atf1, a1)) (e10 : fuseSrcP f atf1 s1 a1 = .ok (atf, a2))
    (e11 : (fuseSt a2 k t L f m inst0).st.insts[f]? = some x) :
    Moved k atf0 b op t s0 s1 L f m src atf (retarget (fuseSt a2 k t L f m inst0) f m x) := by
  have hinst0 : inst0 = mkArith op (.tmp t) s0 s1 := arith?_eq_some.1 e1
  subst hinst0
  have S0 := fuseSrcP_spec e9
  have S1 := fuseSrcP_spec e10
  have hkb : k < b.st.insts.size := lt_of_getElem? hi0
  have hfb : f < b.st.insts.size := lt_of_getElem? e5
  have hkf : k ≠ f := by
    intro e; subst e
    rw [hi0] at e5
    exact absurd (Option.some.inj e5) (mkArith_ne_copy _ _ _ _ _ _)
  have ha2i : a2.st.insts = b.st.insts := by rw [S1.insts, S0.insts]
  have hx : x = mkArith op (.tmp t) s0 s1 := by
    simp only [fuseSt, getElem?_setI, setI_size, ha2i] at e11
    have h1 : ¬ (k = f ∧ k < b.st.insts.size) := fun h => hkf h.1
    simp only [h1, if_false, hfb, and_self, if_true, Option.some.injEq] at e11
    exact e11.symm
  subst hx
  have haF : retarget (fuseSt a2 k t L f m (mkArith op (.tmp t) s0 s1)) f m (mkArith op (.tmp t) s0 s1) =
      (fuseSt a2 k t L f m (mkArith op (.tmp t) s0 s1)).setI f (mkArith op (.mem m) s0 s1) := by
    unfold retarget
    rw [arith?_mkArith]
  obtain ⟨f1, f2, f3, f4, f5, f6, f7, f8⟩ :=
    fuseSt_setI_fields a2 k t L f m (mkArith op (.tmp t) s0 s1) (mkArith op (.mem m) s0 s1)
  rw [← haF] at f1 f2 f3 f4 f5 f6 f7 f8
  refine ⟨hi0, ⟨r, e2, e3, e4⟩, e5, e6, e7, e8, ?_, ?_, by rw [f1, S1.repl, S0.repl],
    by rw [f3, S1.freeRegs, S0.freeRegs], by rw [f4, S1.freeTemps, S0.freeTemps],
    by rw [f5, S1.nextFresh, S0.nextFresh], by rw [f7, S1.writes, S0.writes], by rw [f8, S1.live, S0.live],
    ?_, ?_, ?_, fun h => by rw [f2]; exact sortedE_nrePush (fuseSrcP_sorted e10 (fuseSrcP_sorted e9 h)), ?_⟩
  · intro j
    rw [haF]
    simp only [fuseSt, getElem?_setI, setI_size, ha2i]
    by_cases hjf : j = f
    · subst hjf; simp [hfb]
    · by_cases hjk : j = k
      · subst hjk
        have : ¬ (f = j ∧ f < b.st.insts.size) := fun h => hjf h.1.symm
        simp [this, hjf, hkb]
      · have h1 : ¬ (f = j ∧ f < b.st.insts.size) := fun h => hjf h.1.symm
        have h2 : ¬ (k = j ∧ k < b.st.insts.size) := fun h => hjk h.1.symm
        simp [h1, h2, hjf, hjk]
  · rw [haF]; simp only [setI_size, fuseSt, ha2i]
  · intro t' r0 h0
    obtain ⟨r1, g1, g2, g3, g4, g5⟩ := S0.ranges t' r0 h0
    obtain ⟨r2, q1, q2, q3, q4, q5⟩ := S1.ranges t' r1 g1
    refine ⟨r2, by rw [f6]; exact q1, by rw [q2, g2], by rw [q3, g3], ?_, ?_⟩
    · intro hno
      rw [q4 (fun h => hno (Or.inr h)), g4 (fun h => hno (Or.inl h))]
    · intro hop
      by_cases h1 : s1 = .tmp t'
      · exact q5 h1
      · rw [q4 h1]
        exact g5 (hop.resolve_right h1)
  · rw [f6, (fuseSrcP_sizes e10).2, (fuseSrcP_sizes e9).2]
  · intro e u
    rw [f2, mem_nrePush]
    constructor
    · rintro (he | he)
      · exact Or.inl he
      · rcases S1.nre _ he with he | ⟨u', hu', hx', hm'⟩
        · rcases S0.nre _ he with he | ⟨u', hu', hx', hm'⟩
          · exact Or.inr (Or.inl he)
          · cases hx'; exact Or.inr (Or.inr ⟨rfl, hm', Or.inl hu'⟩)
        · cases hx'; exact Or.inr (Or.inr ⟨rfl, ((S0.atfMem _).1 hm').1, Or.inr hu'⟩)
    · rintro (he | he | ⟨rfl, hm, hs⟩)
      · exact Or.inl he
      · exact Or.inr (S1.nreSub _ (S0.nreSub _ he))
      · right
        by_cases h0 : s0 = .tmp u
        · subst h0
          exact S1.nreSub _ (fuseSrcP_push e9 hm)
        · have h1 : s1 = .tmp u := hs.resolve_left h0
          subst h1
          exact fuseSrcP_push e10 ((S0.atfMem u).2 ⟨hm, h0⟩)
  · intro y
    rw [S1.atfMem, S0.atfMem, and_assoc, not_or]


theorem FusePhase.moved {k : Nat} {atf0 atf : List Nat} {inst0 : Instr w} {b aF : ASt w}
    (hi0 : b.st.insts[k]? = some inst0) (h : FusePhase k atf0 inst0 b atf aF) :
    (atf = atf0 ∧ aF = b) ∨ ∃ op t s0 s1 L f m src, Moved k atf0 b op t s0 s1 L f m src atf aF := by
  rcases h with h | ⟨op, t, s0, s1, r, L, f, m, src, atf1, a1, a2, x, e1, e2, e3, e4, e5, e6, e7, e8, e9, e10, e11, rfl⟩
  · exact Or.inl h
  · exact Or.inr ⟨op, t, s0, s1, L, f, m, src, moved_of hi0 e1 e2 e3 e4 e5 e6 e7 e8 e9 e10 e11⟩

theorem Moved.noop {k : Nat} {atf0 atf : List Nat} {b aF : ASt w} {op : BcGen.Op} {t : Nat} {s0 s1 : Loc w} {L f : Nat}
    {m : Int} {src : Loc w} (M : Moved k atf0 b op t s0 s1 L f m src atf aF) : aF.st.insts[k]? = some .noop := by
  have hkf : k ≠ f := fun e => mkArith_ne_copy _ _ _ _ _ _ (Option.some.inj ((e ▸ M.inst).symm.trans M.store))
  rw [M.insts]; simp [hkf]

/-- After a move the instruction at `k` is `noop`: steps 4 and 7 do nothing. -/
theorem Moved.result {k : Nat} {atf0 atf : List Nat} {b aF : ASt w} {op : BcGen.Op} {t : Nat} {s0 s1 : Loc w} {L f : Nat}
    {m : Int} {src : Loc w} (M : Moved k atf0 b op t s0 s1 L f m src atf aF) {numRegs live : Nat} {can : Bool}
    {cur new : Instr w} {a' : ASt w} {u : Unit} (hc : aF.st.insts[k]? = some cur) (hn : rwInst aF.repl cur = .ok new)
    (hD : phDst k can (pushLive (freeList numRegs atf (aF.setI k new)) live) = .ok (u, a')) :
    new = .noop ∧ a' = pushLive (freeList numRegs atf aF) live := by
  rw [M.noop] at hc; cases hc
  cases hn
  rw [setI_self M.noop] at hD
  exact ⟨rfl, phDst_none hD (by show (freeList numRegs atf _).st.insts[k]? = _; rw [freeList_st]; exact M.noop) rfl⟩

/-- Both slots `k` and `f` still hold input instructions (a waiting computation sits in neither). -/
theorem Moved.input (hp : AllocPre s) {k : Nat} {b : ASt w} (hb : PassInv s k b) {atf0 atf : List Nat}
    {op : BcGen.Op} {t : Nat} {s0 s1 : Loc w} {L f : Nat} {m : Int} {src : Loc w} {aF : ASt w}
    (M : Moved k atf0 b op t s0 s1 L f m src atf aF) :
    s.insts[k]? = some (mkArith op (.tmp t) s0 s1) ∧ k < f ∧ src = .tmp t ∧
    s.insts[f]? = some (.copy (.mem m) (.tmp t)) ∧
    ∃ r : RangeInfo, s.ranges[t]? = some r ∧ b.st.ranges[t]? = some r ∧ r.created = k ∧ r.lastUse = some L ∧
      r.firstUse = some f := by
  obtain ⟨r, e2, e3, e4⟩ := M.range
  have hPk : s.insts[k]? = some (mkArith op (.tmp t) s0 s1) := by
    rcases hb.fut k (Nat.le_refl _) with h | ⟨op', m', t', a', b', h⟩
    · rw [← h]; exact M.inst
    · exact absurd M.inst (Fused.ne_tmpDst h)
  obtain ⟨r0, hr0, hcr0⟩ := hp.defs k _ t hPk (by rw [defs_mkArith]; simp [locTmp])
  obtain ⟨r', q1, _, _, q4⟩ := hb.rkeep t r0 hr0
  have hrr : r0 = r := by
    rw [q4 (by rw [hcr0]; exact Nat.le_refl _)] at q1
    rw [e2] at q1; exact (Option.some.inj q1).symm
  subst hrr
  have hkf : k < f := hp.firstLt k op t s0 s1 r0 f hPk hr0 e4
  have hPf : s.insts[f]? = some (.copy (.mem m) src) := by
    rcases hb.fut f (Nat.le_of_lt hkf) with h | ⟨op', m', t', a', b', h⟩
    · rw [← h]; exact M.store
    · exact absurd M.store (Fused.ne_copy h)
  obtain ⟨hsrc, _, _⟩ := hp.fuse _ _ _ _ _ _ _ _ ⟨hPk, ⟨r0, L, hr0, e4, e3⟩, hPf⟩
  subst hsrc
  exact ⟨hPk, hkf, rfl, hPf, r0, hr0, e2, hcr0, e3, e4⟩

/-- Slots other than `k`, `f` keep their waiting computations (`hfuOld`, `hfuNew`); the facts about the operands of the new
slot `f` come from `srcOk` (`hsrcNew`); an operand re-inserted in the heap with end `f` was about to be released, hence
past its last use (`hdead`): `L ≤ k < f`. -/
theorem passInv_moved (hp : AllocPre s) {k : Nat} {b : ASt w} (hb : PassInv s k b) {atf0 atf : List Nat}
    (hdead : ∀ t ∈ atf0, DeadAt s k t)
    {op : BcGen.Op} {t : Nat} {s0 s1 : Loc w} {L f : Nat} {m : Int} {src : Loc w} {aF : ASt w}
    (M : Moved k atf0 b op t s0 s1 L f m src atf aF) : PassInv s (k + 1) aF := by
  obtain ⟨hPk, hkf, rfl, hPf, r0, hr0, e2, hcr0, e3, e4⟩ := M.input hp hb
  have hi0 := M.inst
  have e5 := M.store
  have hins := M.insts
  have hrepl := M.repl
  have htnone : alGet b.repl t = none := by
    cases hg : alGet b.repl t with
    | none => rfl
    | some v =>
      obtain ⟨_, r1, g1, g2⟩ := hb.replDom t v hg
      rw [hr0] at g1; cases g1
      omega
  have hold : ∀ u v, u ≠ t → alGet aF.repl u = some v → alGet b.repl u = some v := by
    intro u v hne h
    rw [hrepl, alGet_alSet_ne _ _ (Ne.symm hne)] at h; exact h
  have huse : ∀ u, (s0 = .tmp u ∨ s1 = .tmp u) → InRange s u k := by
    intro u hu
    apply hp.uses k _ u hPk
    rw [uses_mkArith]
    rcases hu with rfl | rfl <;> simp [locTmp]
  have hfuOld : ∀ {f' op' m' t' a' b'}, Fused s (k + 1) aF f' op' m' t' a' b' → f' ≠ f →
      Fused s k b f' op' m' t' a' b' := by
    intro f' op' m' t' a' b' h hne
    refine ⟨Nat.le_of_succ_le h.1, h.2.1, ?_⟩
    have := h.2.2
    rw [hins] at this
    have hk' : f' ≠ k := Nat.ne_of_gt h.1
    simpa [hne, hk'] using this
  have hfuNew : ∀ {f' op' m' t' a' b'}, Fused s k b f' op' m' t' a' b' → Fused s (k + 1) aF f' op' m' t' a' b' := by
    intro f' op' m' t' a' b' h
    have hk' : f' ≠ k := fun e => Fused.ne_tmpDst h (e ▸ hi0)
    have hf' : f' ≠ f := fun e => Fused.ne_copy h (e ▸ e5)
    refine ⟨Nat.lt_of_le_of_ne h.1 (Ne.symm hk'), h.2.1, ?_⟩
    rw [hins]; simp only [hf', hk', if_false]; exact h.2.2
  have hfuF : Fused s (k + 1) aF f op m t s0 s1 := ⟨hkf, hPf, by rw [hins]; simp⟩
  have hsrcOld : ∀ {f' op' m' t' a' b'}, Fused s k b f' op' m' t' a' b' → ∀ i l, (l = a' ∨ l = b') →
      SrcFacts s b i f' l → SrcFacts s aF i f' l :=
    fun hF i l hl => srcFacts_keep hp hb hr0 (by omega) hold hF i l hl
  have hsrcNew : ∀ l, (l = s0 ∨ l = s1) → srcOk b k f l = .ok true → SrcFacts s aF k f l := by
    intro l hl hok
    have := srcOk_true hok
    cases l with
    | tmp u =>
      obtain ⟨v, g1, g2⟩ := this
      intro m' hm
      have hne : u ≠ t := by intro e; subst e; rw [htnone] at g1; cases g1
      have := hold u _ hne hm
      rw [g1] at this; cases this
      rw [← hasWriteInRange_congr hb.writes]; exact g2 m' rfl
    | mem m' =>
      show hasWriteInRange s m' k f = false
      rw [← hasWriteInRange_congr hb.writes]; exact this
    | memZero m' | imm c' => trivial
  have hnz : NoMemZero (mkArith op (.tmp t) s0 s1) := (hb.skel k _ hi0).1
  rw [noMemZero_mkArith] at hnz
  refine ⟨?_, ?_, ?_, ?_, ?_, ?_, ?_, ?_, ?_, ?_⟩
  · rw [M.writes]; exact hb.writes
  · rw [M.isize]; exact hb.isize
  · intro t' q hq
    obtain ⟨r', g1, g2, g3, g4⟩ := hb.rkeep t' q hq
    obtain ⟨r1, h1, h2, h3, h4, _⟩ := M.ranges t' r' g1
    refine ⟨r1, h1, by rw [h2, g2], by rw [h3, g3], ?_⟩
    intro hle
    have hn : ¬ (s0 = .tmp t' ∨ s1 = .tmp t') := by
      intro hu
      obtain ⟨ru, Lu, gu, _, gc, _⟩ := huse t' hu
      rw [hq] at gu; cases gu
      omega
    rw [h4 hn]
    exact g4 (Nat.le_of_succ_le hle)
  · intro j hj
    by_cases hjf : j = f
    · subst hjf; exact Or.inr ⟨op, m, t, s0, s1, hfuF⟩
    · rw [hins]
      have hjk : j ≠ k := Nat.ne_of_gt hj
      simp only [hjf, hjk, if_false]
      rcases hb.fut j (Nat.le_of_succ_le hj) with h | ⟨op', m', t', a', b', h⟩
      · exact Or.inl h
      · exact Or.inr ⟨op', m', t', a', b', hfuNew h⟩
  · intro j y hy
    rw [hins] at hy
    by_cases hjf : j = f
    · subst hjf
      simp only [if_true, Option.some.injEq] at hy
      subst hy
      refine ⟨noMemZero_mkArith.2 ⟨rfl, hnz.2.1, hnz.2.2⟩, _, hPf, ?_⟩
      rw [branchOff?_mkArith]; rfl
    · by_cases hjk : j = k
      · subst hjk
        simp only [hjf, if_false, if_true, Option.some.injEq] at hy
        subst hy
        exact ⟨rfl, _, hPk, by rw [branchOff?_mkArith]; rfl⟩
      · simp only [hjf, hjk, if_false] at hy
        exact hb.skel j y hy
  · exact regsInv_congr (regs_setRepl_nontmp hb.regs t (.mem m) (fun r e => by cases e)) hrepl M.freeRegs
      M.freeTemps M.nextFresh
  · intro t' v h
    rw [hrepl, alGet_alSet] at h
    split at h
    · rename_i e; subst e; cases h
      exact ⟨rfl, r0, hr0, by omega⟩
    · obtain ⟨g1, r1, g2, g3⟩ := hb.replDom t' v h
      exact ⟨g1, r1, g2, Nat.lt_succ_of_lt g3⟩
  · intro t' m' h
    rw [hrepl, alGet_alSet] at h
    split at h
    · rename_i e; subst e; cases h
      exact Or.inl ⟨f, op, s0, s1, hfuF⟩
    · rcases hb.fwdMem t' m' h with ⟨f', op', a', b', g⟩ | ⟨r1, L1, lo, g1, g2, g3, g4⟩
      · exact Or.inl ⟨f', op', a', b', hfuNew g⟩
      · exact Or.inr ⟨r1, L1, lo, g1, g2, Nat.le_succ_of_le g3, g4⟩
  · intro e u he
    rcases (M.nre e u).1 he with he | he | ⟨rfl, hm, hsu⟩
    · cases he
      refine ⟨r0, hr0, by omega, ?_⟩
      intro L' hL'; rw [e3] at hL'; cases hL'; exact Nat.le_refl _
    · obtain ⟨r1, g1, g2, g3⟩ := hb.heap e u he
      exact ⟨r1, g1, Nat.lt_succ_of_lt g2, g3⟩
    · obtain ⟨ru, Lu, gu, gl, gc, _⟩ := huse u hsu
      refine ⟨ru, gu, Nat.lt_succ_of_lt gc, ?_⟩
      intro L' hL'
      have := hdead u hm ru L' gu hL'
      omega
  · intro f' op' m' t' a' b' h
    by_cases hf' : f' = f
    · subst hf'
      have h1 := h.2.1
      rw [hPf] at h1
      have h2 := h.2.2
      rw [hins] at h2
      simp only [if_true, Option.some.injEq] at h2
      obtain ⟨rfl, hm, rfl, rfl⟩ := mkArith_inj h2
      cases hm
      simp only [Option.some.injEq, Instr.copy.injEq, Loc.tmp.injEq, true_and] at h1
      subst h1
      refine ⟨k, r0, L, hPk, hr0, hcr0, Nat.lt_succ_self _, e4, e3, ?_, ?_, hsrcNew _ (Or.inl rfl) M.ok0,
        hsrcNew _ (Or.inr rfl) M.ok1⟩
      · intro v hv
        rw [hrepl, alGet_alSet_self] at hv
        exact (Option.some.inj hv).symm
      · rw [← hasWriteInRange_congr hb.writes]; exact M.noWrite
    · have hold' := hfuOld h hf'
      obtain ⟨i, r1, L1, g1, g2, g3, g4, g5, g6, g7, g8, g9, g10⟩ := hb.fused _ _ _ _ _ _ hold'
      have hne : t' ≠ t := by
        intro e; subst e
        rw [hr0] at g2; cases g2
        omega
      exact ⟨i, r1, L1, g1, g2, g3, Nat.lt_succ_of_lt g4, g5, g6, fun v hv => g7 v (hold _ _ hne hv), g8,
        hsrcOld hold' _ _ (Or.inl rfl) g9, hsrcOld hold' _ _ (Or.inr rfl) g10⟩

end Alloc
end C02
end Hpbf
