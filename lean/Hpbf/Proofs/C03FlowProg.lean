/-
C03 (control flow): composition. The hypotheses on the program (`Good`), re-synchronising the shadow
bytecode configuration after an instruction that clobbered dead register temporaries (`patch_rel`), the
one-step simulation for every instruction kind (`sim_next`) and the whole-run theorems; at the end `ctx_of_compiled`,
which builds the context `Ctx` from the hypotheses as the whole-program theorems state them (with `fetchFast`).
-/
import Hpbf.Proofs.C03FlowEntry
import Hpbf.Proofs.C03FlowMovChecked
import Hpbf.Proofs.C11
import Hpbf.Proofs.C03FlowFetch
namespace Hpbf
namespace C03
open Asm JitGen X86Sem X86Prog
variable {w : Nat}

/-- From agreement on the register temporaries in `S` to full agreement with a configuration that differs
from `c` only in register temporaries outside `S` – which is harmless when every live one is in `S`. -/
theorem patch_rel {S A : Nat → Prop} {c : Bc.Cfg w} {m : MState w} (h : RelOn S c m)
    (hAS : ∀ t, t < 11 → A t → S t) :
    ∃ c2 : Bc.Cfg w, Rel c2 m ∧ C11.Sim A c c2 ∧ c2.pc = c.pc ∧ c2.st = c.st ∧ c2.budget = c.budget := by
  refine ⟨{ c with temps := (List.range 11).map (fun t => (t, lo (tmpVal m t))) ++ c.temps }, ?_, ?_, rfl, rfl, rfl⟩
  · refine ⟨fun t r htr => ?_, fun t ht => ?_, h.2.2⟩
    · obtain ⟨hlt, rfl⟩ := tmpReg_eq_some.1 htr
      show _ = Bc.tget (_ ++ c.temps) t
      rw [tget_append_map, if_pos (List.mem_range.2 hlt), regs_treg m hlt]
    · show _ = Bc.tget (_ ++ c.temps) t
      rw [tget_append_map, if_neg (by simp; omega)]
      exact h.2.1 t ht
  · refine ⟨rfl, rfl, rfl, fun t hA => ?_⟩
    show _ = Bc.tget (_ ++ c.temps) t
    rw [tget_append_map]
    split
    · rename_i hm
      have hlt : t < 11 := List.mem_range.1 hm
      rw [← h.1 t _ (tmpReg_lt hlt) (hAS t hlt hA), regs_treg m hlt]
    · rfl

theorem Inv.congr {K : Ctx w} {fr : Frame} {c c2 : Bc.Cfg w} {s : PState w} (h : Inv K fr c s)
    (hpc : c2.pc = c.pc) (hst : c2.st = c.st) (hb : c2.budget = c.budget) : Inv K fr c2 s :=
  ⟨by rw [hpc]; exact h.pc, h.rbx, by rw [hst]; exact h.env, by rw [hst]; exact h.trace,
   by rw [hb]; exact h.budget, h.tapeOk, h.rsp, h.align, h.len, h.saved, h.phys⟩

theorem _root_.Hpbf.C11.Sim.trans {A : Nat → Prop} {a b c : Bc.Cfg w} (h1 : C11.Sim A a b) (h2 : C11.Sim A b c) :
    C11.Sim A a c :=
  ⟨h1.pc.trans h2.pc, h1.st.trans h2.st, h1.budget.trans h2.budget,
   fun t ht => (h1.temps t ht).trans (h2.temps t ht)⟩


/-- What the whole-program theorems assume about the bytecode program besides successful compilation. -/
structure Good (K : Ctx w) : Prop where
  /-- the contract of C11, for the eleven register temporaries of the JIT -/
  check : BcWf.check K.p 11 = true
  /-- the access window is addressable with `i32` cell offsets (`idx as i32` in `mem_param`; the lower bound
  is strict because the bounds-checked `mov` also uses `-probe as i32`) -/
  win : -2147483648 < K.p.minAcc ∧ K.p.maxAcc < 2147483648
  /-- the frame size is an `i32` (`(temps * 8) as i32` in the prologue) -/
  temps : alignedTemps K.p.temps * 8 < 2147483648
  /-- pointer moves are `i32`s (`shift as i32`) -/
  shift : ∀ (i : Nat) (sh : Int), K.p.insts[i]? = some (Bc.Instr.mov sh) → -2147483648 ≤ sh ∧ sh < 2147483648

theorem Ctx.w_range (K : Ctx w) : 8 ≤ w ∧ w ≤ 64 := by
  have := K.C.hsz
  unfold Size.ofBits? at this
  split at this <;> first | omega | cases this

theorem Good.L {K : Ctx w} (G : Good K) : C11.LocalFacts K.p := by
  have h := G.check
  simp only [BcWf.check, Bool.and_eq_true] at h
  exact C11.localOk_facts h.1.1

theorem Good.V {K : Ctx w} (G : Good K) : C11.LiveFacts K.p 11 (BcWf.liveSolve K.p) := by
  have h := G.check
  simp only [BcWf.check, Bool.and_eq_true] at h
  exact C11.liveOk_facts h.2

theorem Good.memOk {K : Ctx w} (G : Good K) {i : Nat} {ins : Bc.Instr w} (hi : K.p.insts[i]? = some ins)
    {o : Int} (ho : o ∈ BcWf.memOps ins) : -2147483648 ≤ o ∧ o < 2147483648 := by
  have := G.L.window hi o ho
  have := G.win
  omega

theorem alignedTemps_ge (t : Nat) : t ≤ alignedTemps t := by unfold alignedTemps; split <;> omega

theorem Good.tmpOk {K : Ctx w} (G : Good K) {i : Nat} {ins : Bc.Instr w} (hi : K.p.insts[i]? = some ins)
    {t : Nat} (ht : t ∈ BcWf.uses ins ++ BcWf.defs ins) : t < alignedTemps K.p.temps ∧ t < 2147483648 := by
  have := G.L.temps hi t ht
  have := alignedTemps_ge K.p.temps
  have := G.temps
  omega

theorem Good.locOk {K : Ctx w} (G : Good K) {i : Nat} {ins : Bc.Instr w} (hi : K.p.insts[i]? = some ins)
    (l : Bc.Loc w) (hm : ∀ o ∈ BcWf.locMem l, o ∈ BcWf.memOps ins)
    (ht : ∀ t ∈ BcWf.locTmp l, t ∈ BcWf.uses ins ++ BcWf.defs ins) : LocOk l := by
  cases l with
  | mem o => exact G.memOk hi (hm o (by simp [BcWf.locMem]))
  | memZero o => trivial
  | tmp t => exact (G.tmpOk hi (ht t (by simp [BcWf.locTmp]))).2
  | imm v => trivial

theorem Good.arithOk {K : Ctx w} (G : Good K) {i : Nat} {ins : Bc.Instr w} (hi : K.p.insts[i]? = some ins)
    (ha : srcsOf ins ≠ []) :
    ArithOk ins ∧ ∀ t ∈ insTmps ins, t < alignedTemps K.p.temps := by
  have key : ∀ l ∈ dstOf ins :: srcsOf ins, LocOk l ∧ ∀ t ∈ locTmps l, t < alignedTemps K.p.temps := by
    intro l hl
    obtain ⟨h1, h2⟩ := ops_sub ins hl ha
    refine ⟨G.locOk hi l h1 h2, fun t ht => ?_⟩
    cases l <;> simp only [locTmps, List.mem_singleton, List.not_mem_nil] at ht
    subst ht
    exact (G.tmpOk hi (h2 _ (by simp [BcWf.locTmp]))).1
  cases ins with
  | add d a b | sub d a b | mul d a b =>
    have k1 := key d (by simp [dstOf])
    have k2 := key a (by simp [srcsOf])
    have k3 := key b (by simp [srcsOf])
    refine ⟨⟨k1.1, k2.1, k3.1⟩, fun t ht => ?_⟩
    simp only [insTmps, List.mem_append] at ht
    rcases ht with (ht | ht) | ht
    · exact k1.2 t ht
    · exact k2.2 t ht
    · exact k3.2 t ht
  | copy d a =>
    have k1 := key d (by simp [dstOf])
    have k2 := key a (by simp [srcsOf])
    refine ⟨⟨k1.1, k2.1⟩, fun t ht => ?_⟩
    simp only [insTmps, List.mem_append] at ht
    rcases ht with ht | ht
    · exact k1.2 t ht
    · exact k2.2 t ht
  | _ => exact absurd rfl ha

theorem defs_dstOf {ins : Bc.Instr w} {t : Nat} (h : t ∈ BcWf.defs ins) : dstOf ins = .tmp t := by
  have key : ∀ d : Bc.Loc w, t ∈ BcWf.locTmp d → d = .tmp t := by
    intro d hd
    cases d <;> simp only [BcWf.locTmp, List.mem_singleton, List.not_mem_nil] at hd
    rw [hd]
  cases ins <;> first | exact key _ h | cases h

/-- A compiled program has no `scan`: the selector has no arm for it. -/
theorem Ctx.no_scan (K : Ctx w) {i : Nat} {a b : Int} : K.p.insts[i]? ≠ some (.scan a b) := by
  intro hi
  obtain ⟨lv, its, xs, hI⟩ := K.instrAt hi
  have := (emitInstr_raw hI.emit).1
  simp [emitInstrRaw] at this

abbrev Ctx.O (K : Ctx w) : Array (List Nat) := BcWf.liveSolve K.p

/-- One bytecode step that continues, from a fully related state: the machine reaches, in at least one step
unless the instruction is a `noop`, a state that is fully related to a configuration `c2` which differs from the
bytecode result `c'` only in dead register temporaries. -/
theorem sim_next_pos (K : Ctx w) (G : Good K) {fr : Frame} (h7 : fr.saved.length = 7) {c : Bc.Cfg w}
    {s : PState w} (hbnd : K.safe = true → Bnd s) (hinv : Inv K fr c s) (hrel : Rel c (view s)) {c' : Bc.Cfg w}
    (hstep : Bc.step K.p K.limited c = .next c') (hnn : K.p.insts[c.pc]? ≠ some .noop) :
    ∃ n s' c2, steps K.cfg (n + 1) s = some s' ∧ Inv K fr c2 s' ∧ Rel c2 (view s') ∧
      C11.Sim (C11.liveSet K.p K.O c'.pc) c' c2 := by
  have hw := K.w_range
  -- a result with full agreement needs no patching
  have full : (∃ n s', steps K.cfg (n + 1) s = some s' ∧ Inv K fr c' s' ∧ Rel c' (view s')) →
      ∃ n s' c2, steps K.cfg (n + 1) s = some s' ∧ Inv K fr c2 s' ∧ Rel c2 (view s') ∧
        C11.Sim (C11.liveSet K.p K.O c'.pc) c' c2 := by
    rintro ⟨n, s', h1, h2, h3⟩
    exact ⟨n, s', c', h1, h2, h3, ⟨rfl, rfl, rfl, fun _ _ => rfl⟩⟩
  -- a result with agreement on `S` is patched using the liveness contract
  have part : ∀ (ins : Bc.Instr w) (lv : Nat) (S : Nat → Prop), K.p.insts[c.pc]? = some ins →
      K.p.live[c.pc]? = some lv → BcWf.isBranch ins = false →
      (∀ t, t < 11 → (t ∈ BcWf.defs ins ∨ lv.testBit t = true) → S t) →
      (∃ n s', steps K.cfg (n + 1) s = some s' ∧ Inv K fr c' s' ∧ RelOn S c' (view s')) →
      ∃ n s' c2, steps K.cfg (n + 1) s = some s' ∧ Inv K fr c2 s' ∧ Rel c2 (view s') ∧
        C11.Sim (C11.liveSet K.p K.O c'.pc) c' c2 := by
    rintro ins lv S hi hlv hb hS ⟨n, s', h1, h2, h3⟩
    obtain ⟨c2, r1, r2, r3, r4, r5⟩ := patch_rel (A := C11.liveSet K.p K.O c'.pc) h3 (by
      intro t hlt hA
      apply hS t hlt
      by_cases hd : t ∈ BcWf.defs ins
      · exact Or.inl hd
      · right
        by_cases hbit : ((K.p.live[c.pc]?).getD 0).testBit t = true
        · simpa [hlv] using hbit
        · exact absurd hA (C11.not_live_after G.V hi hb hlt (by omega) hd (by simpa using hbit) hstep))
    exact ⟨n, s', c2, h1, h2.congr r3 r4 r5, r1, r2⟩
  -- the selector's code keeps the live register temporaries and the destination
  have arith : ∀ ins : Bc.Instr w, K.p.insts[c.pc]? = some ins → srcsOf ins ≠ [] →
      ∃ n s' c2, steps K.cfg (n + 1) s = some s' ∧ Inv K fr c2 s' ∧ Rel c2 (view s') ∧
        C11.Sim (C11.liveSet K.p K.O c'.pc) c' c2 := by
    intro ins hi ha
    obtain ⟨hok, htm⟩ := G.arithOk hi ha
    obtain ⟨lv, n, s', h1, h2, h3, h4⟩ := flow_arith K hi hok htm hinv hrel hstep
    refine part _ lv _ hi h1 (by cases ins <;> first | rfl | exact absurd rfl ha) ?_ ⟨n, s', h2, h3, h4⟩
    rintro t - (h | h)
    · exact Or.inr (defs_dstOf h)
    · exact Or.inl h
  cases hi : K.p.insts[c.pc]? with
  | none =>
    rw [C11.step_none hi] at hstep
    split at hstep <;> cases hstep
  | some ins =>
    cases ins with
    | noop => exact absurd hi hnn
    | scan cond sh => exact absurd hi K.no_scan
    | mov sh =>
      cases hsafe : K.safe with
      | false => exact full (flow_mov_unchecked K hsafe hi (G.shift _ _ hi) hinv hrel hstep)
      | true =>
        have hz := G.L.min0
        have hz' := G.L.max0
        obtain ⟨lv, n, s', h1, h2, h3, h4⟩ := flow_mov_checked K hsafe hi (G.shift _ _ hi)
          ⟨G.win.1, by have := G.win.2; omega, by have := G.win.1; omega, G.win.2⟩ (hbnd hsafe) hinv hrel hstep
        exact part _ lv _ hi h1 rfl (by intro t _ h; simpa [BcWf.defs] using h) ⟨n, s', h2, h3, h4⟩
    | inp dst =>
      obtain ⟨lv, n, s', h1, h2, h3, h4⟩ := (flow_inp K G.temps (fr := fr) h7 hi
        (G.memOk hi (by simp [BcWf.memOps])) hw.1 hinv hrel).1 c' hstep
      exact part _ lv _ hi h1 rfl (by intro t _ h; simpa [BcWf.defs] using h) ⟨n, s', h2, h3, h4⟩
    | out src =>
      obtain ⟨lv, n, s', h1, h2, h3, h4⟩ := (flow_out K G.temps (fr := fr) h7 hi
        (G.memOk hi (by simp [BcWf.memOps])) hinv hrel).1 c' hstep
      exact part _ lv _ hi h1 rfl (by intro t _ h; simpa [BcWf.defs] using h) ⟨n, s', h2, h3, h4⟩
    | brz cond off =>
      exact full (flow_branch_next K hi (Or.inl ⟨rfl, rfl⟩) (G.memOk hi (by simp [BcWf.memOps])) hinv hrel hstep)
    | brnz cond off =>
      exact full (flow_branch_next K hi (Or.inr ⟨rfl, rfl⟩) (G.memOk hi (by simp [BcWf.memOps])) hinv hrel hstep)
    | add d a b | sub d a b | mul d a b | copy d a => exact arith _ hi (List.cons_ne_nil _ _)


theorem sim_next (K : Ctx w) (G : Good K) {fr : Frame} (h7 : fr.saved.length = 7) {c : Bc.Cfg w} {s : PState w}
    (hbnd : K.safe = true → Bnd s) (hinv : Inv K fr c s) (hrel : Rel c (view s)) {c' : Bc.Cfg w}
    (hstep : Bc.step K.p K.limited c = .next c') :
    ∃ n s' c2, steps K.cfg n s = some s' ∧ Inv K fr c2 s' ∧ Rel c2 (view s') ∧
      C11.Sim (C11.liveSet K.p K.O c'.pc) c' c2 := by
  by_cases hi : K.p.insts[c.pc]? = some .noop
  · obtain ⟨n, s', h1, h2, h3⟩ := flow_noop K hi hinv hrel hstep
    exact ⟨n, s', c', h1, h2, h3, ⟨rfl, rfl, rfl, fun _ _ => rfl⟩⟩
  · obtain ⟨n, r⟩ := sim_next_pos K G h7 hbnd hinv hrel hstep hi
    exact ⟨n + 1, r⟩

/-- The simulation relation of the whole-program theorems: the machine state is fully related (`Inv`,
`Rel`) to a shadow configuration that agrees with `c` on everything but dead temporaries. -/
def Sh (K : Ctx w) (fr : Frame) (c : Bc.Cfg w) (s : PState w) : Prop :=
  ∃ c2, C11.Sim (C11.liveSet K.p K.O c.pc) c c2 ∧ Inv K fr c2 s ∧ Rel c2 (view s)

/-- The function returned `ret` and the final state matches the final bytecode configuration. `∀ k … (n + k)`: it
returns under every larger fuel as well; the exits give this form (`exit_common`: `8 + k`) and `Exits.of_steps`
carries it along with `run_of_steps`, without a monotonicity lemma for `run`. -/
def Exits (K : Ctx w) (fr : Frame) (s : PState w) (ret : BitVec 64) (c' : Bc.Cfg w) (P : PState w → Prop) : Prop :=
  ∀ k, ∃ n s', run K.cfg (n + k) s = .ret s' ∧ s'.regs.rax = ret ∧ Final fr K.p.temps c' s' ∧ P s'

-- `caseN` is the N-th case `fun_cases` derives from the `match` of `Bc.step`, in its order: a reordering of
-- `Bc.step` moves the numbers used in the next three proofs.
theorem step_halt_inv {p : Bc.Program w} {lim : Bool} {c c' : Bc.Cfg w} :
    Bc.step p lim c = .halt c' → c' = c ∧ c.pc = p.insts.size := by
  fun_cases Bc.step p lim c
  case case1 => intro h; cases h; exact ⟨rfl, ‹_›⟩   -- no instruction at `pc = size`
  all_goals intro h; cases h

theorem step_stop_inv {p : Bc.Program w} {lim : Bool} {c c' : Bc.Cfg w} :
    Bc.step p lim c = .stop c' →
      c'.budget = c.budget ∧ ∃ l, p.insts[c.pc]? = some (.inp l) ∨ p.insts[c.pc]? = some (.out l) := by
  fun_cases Bc.step p lim c
  case case10 => intro h; cases h; exact ⟨rfl, _, Or.inl ‹_›⟩   -- `inp`, the request failed
  case case12 => intro h; cases h; exact ⟨rfl, _, Or.inr ‹_›⟩   -- `out`, the request failed
  all_goals intro h; cases h

theorem step_interrupted_inv {p : Bc.Program w} {lim : Bool} {c c' : Bc.Cfg w} :
    Bc.step p lim c = .interrupted c' → ∃ a b, p.insts[c.pc]? = some (.brz a b) ∨
      p.insts[c.pc]? = some (.brnz a b) ∨ p.insts[c.pc]? = some (.scan a b) := by
  fun_cases Bc.step p lim c
  case case6 => intro _; exact ⟨_, _, Or.inr (Or.inr ‹_›)⟩   -- stationary `scan` in limited mode
  case case13 => intro _; exact ⟨_, _, Or.inl ‹_›⟩            -- `brz`, budget exhausted
  case case17 => intro _; exact ⟨_, _, Or.inr (Or.inl ‹_›)⟩   -- `brnz`, budget exhausted
  all_goals intro h; cases h
theorem prog_step (K : Ctx w) (G : Good K) {fr : Frame} (h7 : fr.saved.length = 7) {c : Bc.Cfg w}
    {s : PState w} (hbnd : K.safe = true → Bnd s) (hsh : Sh K fr c s) :
    match Bc.step K.p K.limited c with
    | .next c' => ∃ n s', steps K.cfg n s = some s' ∧ Sh K fr c' s'
    | .halt c' => Exits K fr s 1 c' (fun s' => s'.budget.toNat = c'.budget)
    | .stop c' => Exits K fr s 0 c' (fun s' => s'.budget.toNat = c'.budget)
    | .interrupted c' => Exits K fr s 0 c' (fun s' => s'.budget.toNat < 2 ∧ c'.budget = 0)
    | .bad _ => True := by
  obtain ⟨c2, hsim, hinv, hrel⟩ := hsh
  obtain ⟨htag, hobs, hnext⟩ := C11.live_step G.V (limited := K.limited) hsim
  obtain ⟨o1, o2, o3⟩ := hobs
  cases h1 : Bc.step K.p K.limited c with
  | next c' =>
    cases h2 : Bc.step K.p K.limited c2 with
    | next c2' =>
      obtain ⟨n, s', c3, g1, g2, g3, g4⟩ := sim_next K G h7 hbnd hinv hrel h2
      have hs := hnext c' c2' h1 h2
      have hpc : c2'.pc = c'.pc := by
        simp only [h1, h2, Bc.StepRes.cfg] at o1; exact o1.symm
      rw [hpc] at g4
      exact ⟨n, s', g1, c3, hs.trans g4, g2, g3⟩
    | _ => simp [h1, h2, Bc.StepRes.tag] at htag
  | halt c' =>
    cases h2 : Bc.step K.p K.limited c2 with
    | halt c2' =>
      simp only [h1, h2, Bc.StepRes.cfg] at o1 o2 o3
      obtain ⟨rfl, hpc⟩ : c2' = c2 ∧ c2.pc = K.n := step_halt_inv h2
      -- 10: the instructions of the fall-through exit (`exit_normal`)
      intro k
      obtain ⟨s', r1, r2, r3, r4⟩ := flow_halt K G.temps h7 hpc hinv hrel k
      refine ⟨10, s', r1, r2, r3.congr o2, ?_⟩
      · show s'.budget.toNat = c'.budget
        rw [r4, o3]; exact hinv.budget
    | _ => simp [h1, h2, Bc.StepRes.tag] at htag
  | stop c' =>
    cases h2 : Bc.step K.p K.limited c2 with
    | stop c2' =>
      simp only [h1, h2, Bc.StepRes.cfg] at o1 o2 o3
      have key : Exits K fr s 0 c2' (fun s' => s'.budget = s.budget) ∧ c2'.budget = c2.budget := by
        obtain ⟨hb, l, hi | hi⟩ := step_stop_inv h2
        · exact ⟨(flow_inp K G.temps h7 hi (G.memOk hi (by simp [BcWf.memOps])) K.w_range.1 hinv hrel).2 c2' h2,
            hb⟩
        · exact ⟨(flow_out K G.temps h7 hi (G.memOk hi (by simp [BcWf.memOps])) hinv hrel).2 c2' h2, hb⟩
      obtain ⟨key, hb⟩ := key
      intro k
      obtain ⟨n, s', r1, r2, r3, r4⟩ := key k
      refine ⟨n, s', r1, r2, r3.congr o2, ?_⟩
      · show s'.budget.toNat = c'.budget
        rw [r4, o3, hb]; exact hinv.budget
    | _ => simp [h1, h2, Bc.StepRes.tag] at htag
  | interrupted c' =>
    cases h2 : Bc.step K.p K.limited c2 with
    | interrupted c2' =>
      simp only [h1, h2, Bc.StepRes.cfg] at o1 o2 o3
      -- 12: three steps of the budget check, nine of `exit_term` (`flow_branch_interrupted`)
      have key : ∀ k, ∃ s', run K.cfg (12 + k) s = .ret s' ∧ s'.regs.rax = 0 ∧
          Returned fr K.p.temps s s' ∧ c2.budget < 2 ∧ c2' = { c2 with budget := 0 } := by
        intro k
        obtain ⟨cond, off, hi | hi | hi⟩ := step_interrupted_inv h2
        · exact flow_branch_interrupted K G.temps h7 hi (Or.inl ⟨rfl, rfl⟩) hinv h2 k
        · exact flow_branch_interrupted K G.temps h7 hi (Or.inr ⟨rfl, rfl⟩) hinv h2 k
        · exact absurd hi K.no_scan
      intro k
      obtain ⟨s', r1, r2, r3, r4, r5⟩ := key k
      subst r5
      refine ⟨12, s', r1, r2, ?_, ?_, ?_⟩
      · refine Final.of_returned r3 ?_ ?_ ?_
        · rw [o2]; exact hinv.env
        · rw [o2]; exact hinv.trace
        · intro o; rw [o2]; exact hrel.2.2 o
      · show s'.budget.toNat < 2
        rw [r3.budget, hinv.budget]; exact r4
      · show c'.budget = 0
        rw [o3]
    | _ => simp [h1, h2, Bc.StepRes.tag] at htag
  | bad c' => trivial

/-- In bounds-checked mode: every state the machine reaches from `s` has a tape allocation far from filling
the address space (below `2^40` cells), so that the 64-bit index arithmetic of the probe does not wrap. -/
def NoOOM (K : Ctx w) (s : PState w) : Prop :=
  K.safe = true → ∀ n s', steps K.cfg n s = some s' → Bnd s'

theorem NoOOM.of_steps {K : Ctx w} {s s1 : PState w} {n : Nat} (h : NoOOM K s) (h1 : steps K.cfg n s = some s1) :
    NoOOM K s1 := fun hs m s' hm => h hs (n + m) s' (steps_trans h1 hm)

theorem Exits.of_steps {K : Ctx w} {fr : Frame} {s s1 : PState w} {ret : BitVec 64} {c' : Bc.Cfg w}
    {P : PState w → Prop} {n : Nat} (h : steps K.cfg n s = some s1) (he : Exits K fr s1 ret c' P) :
    Exits K fr s ret c' P := by
  intro k
  obtain ⟨m, s', r1, r2⟩ := he k
  exact ⟨n + m, s', by rw [Nat.add_assoc, run_of_steps h]; exact r1, r2⟩

/-- Whole runs from a related state: finished runs of the bytecode are matched by a return of the compiled
function with the corresponding result; unfinished ones by a machine state that is still related. -/
theorem prog_runCfg (K : Ctx w) (G : Good K) {fr : Frame} (h7 : fr.saved.length = 7) :
    ∀ (fuel : Nat) {c : Bc.Cfg w} {s : PState w}, NoOOM K s → Sh K fr c s →
    match Bc.runCfg K.p K.limited fuel c with
    | .done c' => Exits K fr s 1 c' (fun s' => s'.budget.toNat = c'.budget)
    | .stopped c' => Exits K fr s 0 c' (fun s' => s'.budget.toNat = c'.budget)
    | .interrupted c' => Exits K fr s 0 c' (fun s' => s'.budget.toNat < 2 ∧ c'.budget = 0)
    | .bad _ => True
    | .outOfFuel c' => ∃ n s', steps K.cfg n s = some s' ∧ Sh K fr c' s' := by
  intro fuel
  induction fuel with
  | zero => intro c s _ h; exact ⟨0, s, rfl, h⟩
  | succ fuel ih =>
    intro c s hoom h
    have hs := prog_step K G h7 (fun hsf => hoom hsf 0 s rfl) h
    simp only [Bc.runCfg]
    cases hst : Bc.step K.p K.limited c with
    | next c' =>
      rw [hst] at hs
      obtain ⟨n, s1, h1, h2⟩ := hs
      have := ih (hoom.of_steps h1) h2
      simp only
      cases hr : Bc.runCfg K.p K.limited fuel c' with
      | done c'' => rw [hr] at this; exact Exits.of_steps h1 this
      | stopped c'' => rw [hr] at this; exact Exits.of_steps h1 this
      | interrupted c'' => rw [hr] at this; exact Exits.of_steps h1 this
      | bad c'' => trivial
      | outOfFuel c'' =>
        rw [hr] at this
        obtain ⟨m, s2, h3, h4⟩ := this
        exact ⟨n + m, s2, steps_trans h1 h3, h4⟩
    | halt c' => rw [hst] at hs; exact hs
    | stop c' => rw [hst] at hs; exact hs
    | interrupted c' => rw [hst] at hs; exact hs
    | bad c' => trivial


/-- What the caller (`enter_jit_code`) and the environment observe when the function has returned. -/
structure Result (s0 s' : PState w) (c' : Bc.Cfg w) : Prop where
  rbx : s'.regs.rbx = s0.regs.rbx
  rbp : s'.regs.rbp = s0.regs.rbp
  r12 : s'.regs.r12 = s0.regs.r12
  r13 : s'.regs.r13 = s0.regs.r13
  r14 : s'.regs.r14 = s0.regs.r14
  r15 : s'.regs.r15 = s0.regs.r15
  rsp : s'.regs.rsp = s0.regs.rsp + 8
  env : s'.env = c'.st.env
  trace : s'.trace = c'.st.trace
  tape : ∀ o, s'.tape.get (s'.lptr + o) = c'.st.rd o

theorem Result.of_final {K : Ctx w} {s0 s' : PState w} {ra : BitVec 64} {c' : Bc.Cfg w}
    (h : Final (frameOf K s0 ra) K.p.temps c' s') : Result s0 s' c' := by
  obtain ⟨ra', hs⟩ := h.saved
  simp only [frameOf, List.cons.injEq, and_true] at hs
  obtain ⟨e1, e2, e3, e4, e5, e6, _⟩ := hs
  refine ⟨e5.symm, e6.symm, e4.symm, e3.symm, e2.symm, e1.symm, ?_, h.env, h.trace, h.tape⟩
  rw [h.rsp]
  simp only [frameOf]
  apply BitVec.eq_of_toNat_eq
  have := s0.regs.rsp.isLt
  have e56 : (56 : BitVec 64).toNat = 56 := rfl
  have e8 : (8 : BitVec 64).toNat = 8 := rfl
  simp only [BitVec.toNat_add, BitVec.toNat_sub, BitVec.toNat_ofNat, e56, e8]
  omega

/-- The function was called (`Entry`) and returned `ret`; `P` holds of the final state. -/
def Returns (K : Ctx w) (s0 : PState w) (ret : BitVec 64) (c' : Bc.Cfg w) (P : PState w → Prop) : Prop :=
  ∀ k, ∃ n s', run K.cfg (n + k) s0 = .ret s' ∧ s'.regs.rax = ret ∧ Result s0 s' c' ∧ P s'

theorem prog_run' (K : Ctx w) (G : Good K) {s0 : PState w} {ra : BitVec 64} (hE : Entry K s0 ra)
    {env : Env} (henv : s0.env = env) (htr : s0.trace = []) {budget : Nat} (hb : s0.budget.toNat = budget)
    (hlim : (K.limited && budget == 0) = false) (hoom : NoOOM K s0) (fuel : Nat) :
    match Bc.run K.p K.limited budget fuel env with
    | .done c' => Returns K s0 1 c' (fun s' => s'.budget.toNat = c'.budget)
    | .stopped c' => Returns K s0 0 c' (fun s' => s'.budget.toNat = c'.budget)
    | .interrupted c' => Returns K s0 0 c' (fun s' => s'.budget.toNat < 2 ∧ c'.budget = 0)
    | .bad _ => False
    | .outOfFuel c' => ∃ n s', steps K.cfg n s0 = some s' ∧ s'.trace = c'.st.trace ∧ s'.env = c'.st.env := by
  obtain ⟨s, T, hst, hinv, hrel, -⟩ := prologue_run K G.temps K.w_range hE env henv htr
  rw [hb] at hinv hrel
  have hsh : Sh K (frameOf K s0 ra) { pc := 0, temps := T, budget := budget, st := State.init env } s :=
    ⟨_, ⟨rfl, rfl, rfl, fun _ _ => rfl⟩, hinv, hrel⟩
  have hrun := prog_runCfg K G (fr := frameOf K s0 ra) rfl fuel (hoom.of_steps hst) hsh
  have hchk := G.check
  simp only [BcWf.check, Bool.and_eq_true] at hchk
  have hobs : C11.ObsEq (Bc.run K.p K.limited budget fuel env)
      (Bc.runCfg K.p K.limited fuel { pc := 0, temps := T, budget := budget, st := State.init env }) := by
    unfold Bc.run
    simp only [hlim]
    exact C11.init_independent (C11.initOk_facts hchk.1.2) K.limited fuel budget _ _ _
  obtain ⟨otag, opc, ost, obud⟩ := hobs
  have lift : ∀ {ret : BitVec 64} {c1 c2 : Bc.Cfg w} {P Q : PState w → Prop},
      c1.st = c2.st → (∀ s', P s' → Q s') →
      Exits K (frameOf K s0 ra) s ret c2 P → Returns K s0 ret c1 Q := by
    -- 9: the instructions of the prologue (`prologue_run`)
    intro ret c1 c2 P Q hst' hPQ he k
    obtain ⟨n, s', r1, r2, r3, r4⟩ := he k
    exact ⟨9 + n, s', by rw [Nat.add_assoc, run_of_steps hst]; exact r1, r2, .of_final (r3.congr hst'),
      hPQ s' r4⟩
  cases h1 : Bc.run K.p K.limited budget fuel env with
  | done c1 =>
    cases h2 : Bc.runCfg K.p K.limited fuel { pc := 0, temps := T, budget := budget, st := State.init env } with
    | done c2 =>
      rw [h2] at hrun
      simp only [h1, h2, Bc.Outcome.cfg] at ost obud
      exact lift ost (fun s' h => by rw [obud]; exact h) hrun
    | _ => simp [h1, h2, Bc.Outcome.tag] at otag
  | stopped c1 =>
    cases h2 : Bc.runCfg K.p K.limited fuel { pc := 0, temps := T, budget := budget, st := State.init env } with
    | stopped c2 =>
      rw [h2] at hrun
      simp only [h1, h2, Bc.Outcome.cfg] at ost obud
      exact lift ost (fun s' h => by rw [obud]; exact h) hrun
    | _ => simp [h1, h2, Bc.Outcome.tag] at otag
  | interrupted c1 =>
    cases h2 : Bc.runCfg K.p K.limited fuel { pc := 0, temps := T, budget := budget, st := State.init env } with
    | interrupted c2 =>
      rw [h2] at hrun
      simp only [h1, h2, Bc.Outcome.cfg] at ost obud
      exact lift ost (fun s' h => by rw [obud]; exact h) hrun
    | _ => simp [h1, h2, Bc.Outcome.tag] at otag
  | bad c1 =>
    exact C11.run_not_bad G.L K.limited budget fuel env c1 h1
  | outOfFuel c1 =>
    cases h2 : Bc.runCfg K.p K.limited fuel { pc := 0, temps := T, budget := budget, st := State.init env } with
    | outOfFuel c2 =>
      rw [h2] at hrun
      simp only [h1, h2, Bc.Outcome.cfg] at ost
      obtain ⟨n, s', r1, c3, r2, r3, r4⟩ := hrun
      refine ⟨9 + n, s', steps_trans hst r1, ?_, ?_⟩
      · rw [r3.trace, ← r2.st, ost]
      · rw [r3.env, ← r2.st, ost]
    | _ => simp [h1, h2, Bc.Outcome.tag] at otag

/-- `make_accessible(min, max + 1)` on a fresh `Memory`. -/
theorem growth_fresh {mn mx : Int} (h0 : mn ≤ 0 ∧ 0 ≤ mx) (hr : -2147483648 ≤ mn ∧ mx < 2147483648) :
    ({ buf := #[], size := 0, offset := 0 } : Mem 8).growth mn (mx + 1) =
      ((-mn).toNat, (mx + 1).toNat, (mx - mn + 1).toNat, (-mn).toNat) := by
  have a0 : asI64 0 = 0 := by decide
  rw [Mem.growth_eq_of_noWrap (by decide) (by rw [a0]; omega) (by rw [a0]; omega) (by rw [a0]; omega)
    (by rw [a0]; omega)]
  simp only [Mem.growthSpec, Mem.addedBelow, Mem.newSize, Mem.neededBelow, Mem.neededAbove, a0]
  have hb : (mx + 1).toNat ≠ 0 := by omega
  have hs : (mx - mn + 1).toNat = (-mn).toNat + (mx + 1).toNat := by omega
  simp only [Int.zero_add, Int.natCast_zero, Int.sub_zero, Nat.zero_add, Nat.zero_div, Nat.sub_zero,
    Nat.zero_max, hs, if_neg hb, Nat.add_sub_cancel]
  generalize (-mn).toNat = a
  generalize (mx + 1).toNat = b
  refine Prod.ext rfl (Prod.ext rfl (Prod.ext rfl ?_))
  show (if a = 0 then 0 else min (max a ((a + b) / 2)) a) = a
  clear hb hs
  split <;> omega
/-- The state `Driver7` starts the machine in satisfies the entry conditions. -/
theorem initState_entry (K : Ctx w) (h0 : K.p.minAcc ≤ 0 ∧ 0 ≤ K.p.maxAcc)
    (hr : -2147483648 ≤ K.p.minAcc ∧ K.p.maxAcc < 2147483648) (buf0 rsp0 ra : BitVec 64)
    (hrsp : rsp0.toNat % 16 = 8) (budget : Nat) (hb : budget < 2 ^ 64) (env : Env) :
    let s0 : PState w := initState K.cfg buf0 rsp0 ra K.p.minAcc K.p.maxAcc budget env
    Entry K s0 ra ∧ s0.env = env ∧ s0.trace = [] ∧ s0.budget.toNat = budget := by
  have hw := K.w_range
  have hg := growth_fresh h0 hr
  intro s0
  have hext : ∀ sA : PState w, sA.size = 0 → sA.off = 0 →
      extend K.cfg sA K.p.minAcc (K.p.maxAcc + 1) =
        { sA with buf := K.cfg.newBuf sA.buf, size := BitVec.ofNat 64 (K.p.maxAcc - K.p.minAcc + 1).toNat,
                  off := BitVec.ofNat 64 (0 + (-K.p.minAcc).toNat), base := sA.base - ((-K.p.minAcc).toNat : Int),
                  tapeOk := false } := by
    intro sA h1 h2
    unfold extend
    simp only [h1, h2, show (0 : BitVec 64).toNat = 0 from rfl, hg]
    rw [if_neg (by omega)]
  obtain ⟨sA, hsA⟩ : ∃ sA : PState w, sA =
      { regs := RegFile.ofFn K.cfg.junk, zf := none, cf := none, tape := Tape.empty, lptr := 0, tapeOk := false,
        stk := [ra], buf := buf0, size := 0, off := 0, budget := BitVec.ofNat 64 budget, base := 0,
        env := env, trace := [], pc := 0, oob := false } := ⟨_, rfl⟩
  have hs0 : s0 = (fun s1 : PState w =>
      { s1 with regs := RegFile.set ((s1.regs.set .rsp rsp0).set .rdi K.cfg.cxtAddr) .rsi
                  (s1.buf + BitVec.ofNat 64 (s1.off.toNat * (w / 8))) })
      (extend K.cfg sA K.p.minAcc (K.p.maxAcc + 1)) := by
    rw [hsA]; rfl
  rw [hext sA (by rw [hsA]) (by rw [hsA])] at hs0
  simp only at hs0
  refine ⟨⟨?_, ?_, ?_, ?_, ?_, ?_⟩, ?_, ?_, ?_⟩
  · rw [hs0, hsA]
  · rw [hs0, hsA]
  · show s0.regs.get .rdi = _
    rw [hs0]; simp
  · show (s0.regs.get .rsp).toNat % 16 = 8
    rw [hs0]; simp; exact hrsp
  · have e1 : s0.regs.rsi = s0.regs.get .rsi := rfl
    rw [e1, hs0]
    simp only [regfile_set_get, if_true]
    have hoff : (BitVec.ofNat 64 (0 + (-K.p.minAcc).toNat)).toNat = (-K.p.minAcc).toNat := by
      simp only [BitVec.toNat_ofNat]; omega
    rw [hoff]
    rw [add_sub_self]
    have hlt : (-K.p.minAcc).toNat * (w / 8) < 2 ^ 63 := by
      have h1 : w / 8 ≤ 8 := by omega
      have h2 : (-K.p.minAcc).toNat ≤ 2147483648 := by omega
      calc (-K.p.minAcc).toNat * (w / 8) ≤ 2147483648 * 8 := Nat.mul_le_mul h2 h1
        _ < 2 ^ 63 := by decide
    have etoInt : (BitVec.ofNat 64 ((-K.p.minAcc).toNat * (w / 8))).toInt =
        (((-K.p.minAcc).toNat * (w / 8) : Nat) : Int) := by
      rw [BitVec.toInt_eq_toNat_of_lt]
      · simp only [BitVec.toNat_ofNat]; omega
      · simp only [BitVec.toNat_ofNat]; omega
    rw [etoInt]
    unfold cellBytes
    push_cast
    exact Int.mul_emod_left _ _
  · intro a
    rw [hs0, hsA]; rfl
  · rw [hs0, hsA]
  · rw [hs0, hsA]
  · rw [hs0, hsA]
    simp only [BitVec.toNat_ofNat]
    exact Nat.mod_eq_of_lt hb

/-- From the hypotheses of the whole-program theorems, spelled out on the program and on the machine configuration
`Driver7` uses (`fetchFast`), to the context `Ctx` the proofs work in. -/
theorem ctx_of_compiled (p : Bc.Program w) (limited safe : Bool) (cfg : Cfg) {code : List X86}
    (hcomp : compileX86 w p limited safe cfg.aE.toNat cfg.aI.toNat cfg.aO.toNat = some code)
    (hfetch : cfg.fetch = fetchFast (fetchTable code)) (hsmall : sizeAll code < 2 ^ 31)
    (hIO : cfg.aI ≠ cfg.aO) (hEI : cfg.aE ≠ cfg.aI) (hEO : cfg.aE ≠ cfg.aO)
    (hchk : BcWf.check p 11 = true) (hwin : -2147483648 < p.minAcc ∧ p.maxAcc < 2147483648)
    (htemps : alignedTemps p.temps * 8 < 2147483648)
    (hshift : ∀ (i : Nat) (sh : Int), p.insts[i]? = some (Bc.Instr.mov sh) → -2147483648 ≤ sh ∧ sh < 2147483648) :
    ∃ K : Ctx w, K.p = p ∧ K.cfg = cfg ∧ K.limited = limited ∧ K.safe = safe ∧ Good K := by
  obtain ⟨C⟩ := compileX86_some hcomp
  have hloc : BcWf.localOk p = true := by
    simp only [BcWf.check, Bool.and_eq_true] at hchk; exact hchk.1.1
  have L := C11.localOk_facts hloc
  have hf : cfg.fetch = fetchList code := by rw [hfetch, fetchFast_eq]
  exact ⟨⟨p, limited, safe, cfg, code, C, hf, hsmall, hIO, hEI, hEO, L.liveSize⟩, rfl, rfl, rfl, rfl,
    ⟨hchk, hwin, htemps, hshift⟩⟩

end C03
end Hpbf
