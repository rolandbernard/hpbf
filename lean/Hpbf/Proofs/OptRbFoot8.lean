/-
All footprint claims of `inline` with a staying child (`inline_stay_foot`) and of `performAll` at an arbitrary pointer
offset; `BlockCtx`: the rebuilt child of a block as the state that pushes the block sees it (what the statements about
`loopInsideIf` and the wrapping `if` in `OptRbAnLoop3`, `OptRbAnLoop4` take as hypothesis) and `EndArgs` (the same for
`finishEnd`).
-/
import Hpbf.Proofs.OptRbFoot6
import Hpbf.Proofs.OptRbFoot7
import Hpbf.Proofs.OptRbLoopIn

namespace Hpbf
namespace OptProof
open Opt OptSem Ir

variable {w : Nat}

/-- All footprint claims of `inline` (staying child): the read footprint and the mirrored badness from the
structural pass, the frame through the valid companion of the state in which the spliced code starts. -/
theorem inline_stay_foot {shP shC cS : Int} {bodyS : List (Instr w)}
    {s : Rebuild w} {ps : List (Rebuild w)} {sub : Rebuild w} {pc : List (Rebuild w)} {sub0 : Rebuild w}
    {os os' : Orders} {s' : Rebuild w} {G Gc : State w → Prop}
    (hr : (Opt.inline s ps sub).run os = .ok (s', os'))
    (hwf : Wf s) (hpre : ChildPre Gc shP shC pc sub0 sub cS bodyS)
    (hne : ∀ M0 σE σS, RelAt shP s ps M0 σE σS → G σS → σS.rd cS ≠ 0#w)
    (hGc : ∀ M0 σE σS, RelAt shP s ps M0 σE σS → G σS → Gc σS) (hch : RdSt sub)
    {new : List (Instr w)} (hi : s'.insts = s.insts ++ new)
    (hnb : ∀ σ, ValidG G shP s ps σ → ¬ Bad new σ) :
    FootAll (ValidG G shP s ps) s s' new := by
  obtain ⟨newI, _, e, _, _, hall⟩ := (inline_rstep hr hwf hpre.wf hch).ext
  cases List.append_cancel_left (e.symm.trans hi)
  rw [inline_eq, if_neg (by rw [hpre.noShift]; simp), run_bind_ok] at hr
  obtain ⟨s1, os1, h1, h2⟩ := hr
  obtain ⟨s2, os2, s4, h3, h4, rfl⟩ := inlineRest_run h2
  have hcp := inline_clobberPhase h3
  obtain ⟨comps, acc, _, pkeys, preads⟩ := inline_prep_acc hwf hpre.wf h1 hcp
  have hsem := (calcs_elim acc.insts (inline_sem_ctx hwf hpre h1 hcp) (fun _ p => p.1)).2
  have hwf3 := writtenCalcs_insts_wf acc.wf ps (knownsOf sub) (s2.insts ++ sub.insts)
  obtain ⟨w1, w2, w3, w4⟩ := writtenCalcs_fields ({ s2 with insts := s2.insts ++ sub.insts } : Rebuild w) ps
    (knownsOf sub) (nodup_knownsOf hpre.wf.writ)
  obtain ⟨S3, hS3⟩ : ∃ x, x = writtenCalcs ({ s2 with insts := s2.insts ++ sub.insts } : Rebuild w) ps
    (knownsOf sub) := ⟨_, rfl⟩
  rw [← hS3] at h4 hwf3 w1 w2 w3 w4
  have w2' : S3.reads = s2.reads := w2
  have w3' : ∀ v, v ∉ (knownsOf sub).map (·.1) → mGet S3.written v = mGet s2.written v := w3
  have wss : S3.subShift = s2.subShift := w1.subShift
  have wins : S3.insts = s2.insts ++ sub.insts := w1.insts
  have hnone23 : ∀ v, mGet S3.written v = none → mGet s2.written v = none := by
    intro v hv
    by_cases hk : v ∈ (knownsOf sub).map (·.1)
    · exact absurd (w4 v hk) (not_defW_of_none hv)
    · rw [← w3' v hk]; exact hv
  obtain ⟨c3, i3, n3, f3⟩ := inlineEnd_foot h4 hwf3
  have hnewEq : new = comps.map Instr.calc ++ (sub.insts ++ c3.map Instr.calc) := by
    apply List.append_cancel_left (as := s.insts)
    rw [← hi]
    show s4.insts = _
    rw [i3, wins, acc.insts]
    simp only [List.append_assoc]
  subst hnewEq
  refine FootAll.of_rd hall hnb ?_ ?_
  · -- write frame along the footprint
    intro hss K hK σ1 σ2 v1 hag bb hex
    have hs4 : s4.subShift = false := hss
    have hs3 : S3.subShift = false := f3.mono.2 hs4
    have hs2 : s2.subShift = false := by rw [← wss]; exact hs3
    have hK2 : ∀ v, K v → v ∉ s2.reads := fun v hv hr' => hK v hv (f3.mono.1 v (by rw [w2']; exact hr'))
    have hX := prep_agree (R := fun v => v ∈ sub.reads) acc hs2 (fun v hv => (preads hs2 v hv).1) K hK2 σ1 σ2 hag
    obtain ⟨M0, σS, hrel, hg⟩ := v1
    obtain ⟨hvX, _, hXptr, hXenv, hXtr, hXr, _⟩ :=
      hsem M0 σ1 σS hrel (hne M0 σ1 σS hrel hg) (hGc M0 σ1 σS hrel hg)
    obtain ⟨_, _, hfr⟩ := child_chain hpre.foot hpre.badfoot hpre.frame2 hpre.noShift
      hpre.w0 hvX (fun v h => h.1) hXptr hXenv hXtr hXr hX
    have hexL := (exec_calcs_iff comps _ σ2 _).1 hex
    rcases exec_append.1 hexL with ⟨hf, _⟩ | ⟨b, eb, e3⟩
    · cases hf
    · obtain ⟨pb, fb⟩ := hfr b eb
      rw [exec_calcs_fin e3]
      refine ⟨by rw [(foldl_doCalc_meta c3 b).1, pb, (foldl_doCalc_meta comps σ2).1], fun v hv1 hv2 => ?_⟩
      have hn4 : mGet s4.written v = none := (mGet_none_iff _ v).2 hv1
      have hn3 : mGet S3.written v = none := (f3.frame hs4).1 v hn4
      have hn2 : mGet s2.written v = none := hnone23 v hn3
      have hk2 : v ∉ mKeys s2.written := (mGet_none_iff _ v).1 hn2
      have hkey : v ∉ mKeys sub.written := fun h => hk2 (pkeys hs2 v h)
      have hrd : v ∉ sub.reads := fun h =>
        ((preads hs2 v h).2).elim hk2 (fun h' => hv2 (f3.mono.1 v (by rw [w2']; exact h')))
      rw [memE_foldl_doCalc b c3 n3, seq_of_notin c3 _ v ((f3.frame hs4).2 v hn4), fb v hkey hrd,
        memE_foldl_doCalc σ2 comps acc.nodup, seq_of_notin comps _ v ((acc.frame hs2).2 v hn2)]
  · intro hs v hv
    have hs4 : s4.subShift = false := hs
    have hs3 : S3.subShift = false := f3.mono.2 hs4
    have hs2 : s2.subShift = false := by rw [← wss]; exact hs3
    show v ∈ mKeys s4.written
    exact f3.keysMono hs4 v (keys_of_none_mono hnone23 (acc.frame.keysMono hs2 v hv))

theorem performAll_footAll {V : State w → Prop} {s : Rebuild w} {ps : List (Rebuild w)} {sh : Int}
    {calcs : List (Int × Expr w)} {os os' : Orders} {s' : Rebuild w}
    (hr : (performAll s ps sh calcs).run os = .ok (s', os')) (hwf : Wf s) :
    ∃ new, s'.insts = s.insts ++ new ∧ (∀ i ∈ new, C01Dse.isBlock i = false) ∧
      FootStepV V s s' new ∧ FootBadV V s s' new ∧ FootFrameV V s s' new ∧ ReadsMono s s' ∧ KeysMono' s s' := by
  obtain ⟨comps, _, _, _, _, hi, _, hf⟩ := performAll_foot hr hwf
  exact ⟨comps.map Instr.calc, hi, noBlocks_calcs comps, hf.footStep.toV V,
    footBadV_of_noBlocks (noBlocks_calcs comps), hf.physStep.footFrameV V, hf.mono, hf.keysMono⟩

/-- The rebuilt body `sub` of a block as the state `s` that pushes the block sees it: how the two are coordinated
(`hcond`, `hsh`), what the emitted code of `sub` does (`hrep`, `hpre`; `Gc` = guard on the source states in which the
body is entered, `hentry`, `hGc`), static facts about `sub` (`hwfc`, `hkv`, the read-before-write account `hch`) and the
meaning of the flags of `L` and of the constant set `C` for the source block (`hF`). -/
structure BlockCtx (G Gc : State w → Prop) (shP shC shS cS : Int) (bodyS : List (Instr w)) (oS isLoop : Bool)
    (s : Rebuild w) (ps : List (Rebuild w)) (sub : Rebuild w) (cond : Int) (L : OptLoop w) (C : List Int)
    (pc : List (Rebuild w)) (sub0 : Rebuild w) : Prop where
  hcond : cond = cS + shP
  hsh : shC + shS = (sub.shift - s.shift) + shP
  hrep : ChildRep Gc shP shC pc sub0 [] sub bodyS
  hentry : EntryAt Gc shP cS pc sub0
  hGc : HeadsIn G Gc shP s ps cS shS bodyS (L.atMostOnce = true)
  hwfc : Wf sub
  hpre : sub.subShift = false → ChildPre Gc shP shC pc sub0 sub cS bodyS
  hkv : sub.subShift = false →
    ∀ v e, mGet sub.written v = some (.known e) → ∀ x ∈ Expr.variables e, x ∈ sub.reads
  hF : LoopFacts G shP s ps isLoop cS shS bodyS oS L C
  hch : RdSt sub

/-- What a statement about the run of `finishEnd s ps cond L (sub, before, after, C)` from the oracle state `os` asks
for: the child (`ChildRep`, `ChildPre` for the guard `Gc`), the guard `G1` after `calc before`, the meaning of the
flags of `L` and of the constant set `C` for the source block.  It is `BlockCtx` for the child as `finishEnd` gets it
(`forgetParent sub`; `hF`, `hGc` for the state after `calc before`, under the guard `G1` reached by `hG1`);
`finishEnd_all` (`OptRbAnLoop4`) passes from one to the other. -/
structure EndArgs (G G1 Gc : State w → Prop) (shP shC shS cS : Int) (bodyS : List (Instr w)) (oS isLoop : Bool)
    (s : Rebuild w) (ps : List (Rebuild w)) (sub : Rebuild w) (cond : Int) (L : OptLoop w)
    (before after : List (Int × Expr w)) (C : List Int) (pc : List (Rebuild w)) (sub0 : Rebuild w)
    (os : Orders) : Prop where
  hwf : Wf s
  hsf : sub.subShift = false → AskStable s sub.shift
  hcond : cond = cS + shP
  hsh : shC + shS = (sub.shift - s.shift) + shP
  hrep : ChildRep Gc shP shC pc sub0 [] (forgetParent sub) bodyS
  hentry : EntryAt Gc shP cS pc sub0
  hwfc : Wf sub
  hch : RdSt sub
  hpre : sub.subShift = false → ChildPre Gc shP shC pc sub0 (forgetParent sub) cS bodyS
  hkv : sub.subShift = false →
    ∀ v e, mGet sub.written v = some (.known e) → ∀ x ∈ Expr.variables e, x ∈ sub.reads
  hbefore : before ≠ [] → shP = 0
  hafter : after ≠ [] → shP = 0 ∧ sub.shift = s.shift
  hG1 : ∀ M0 σE σS σS', RelAt shP s ps M0 σE σS → G σS → Exec [.calc before] σS (.fin σS') → G1 σS'
  hF : ∀ s1 os1, (performAll s ps 0 before).run os = .ok (s1, os1) →
    LoopFacts G1 shP s1 ps isLoop cS shS bodyS oS L C
  hGc : ∀ s1 M0 σE σS, RelAt shP s1 ps M0 σE σS → G1 σS → HeadsAt Gc cS shS bodyS (L.atMostOnce = true) σS
  hconstW : ∀ s1 M0 σE σS, RelAt shP s1 ps M0 σE σS → G1 σS → σS.rd cS ≠ 0#w →
    ∀ σ1, Exec ([blockInstr isLoop cS shS bodyS oS] ++ [.calc after]) σS (.fin σ1) →
    ∀ x, C.contains x = true → memS σE σ1 x = memS σE σS x

end OptProof
end Hpbf

#print axioms Hpbf.OptProof.inline_stay_foot
#print axioms Hpbf.OptProof.performAll_footAll
