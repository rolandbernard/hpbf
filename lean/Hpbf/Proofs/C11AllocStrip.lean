/-
C11 for the output of `allocate_temps` (namespace `Hpbf.C02.Alloc`): the initialisation and liveness clauses
survive `strip_noops`.

`strip_noops` removes the `noop`s, moves the instruction at `i` to `pos insts i` and retargets the branches.  A
solution for the program before the pass, restricted to the kept positions (`stripArr`), is a solution after the
pass: the removed instructions neither read nor write temporaries and only fall through.
-/
import Hpbf.Proofs.C11AllocLate
import Hpbf.Proofs.C11

namespace Hpbf
namespace C02

open Bc BcWf BcGen C11

variable {w : Nat}

namespace Alloc

theorem zip_filter_get {α β : Type} (P : β → Bool) :
    ∀ (a : List α) (b : List β) (i : Nat) (x : α) (y : β), a[i]? = some x → b[i]? = some y → P y = true →
      (((a.zip b).filter (fun li => P li.2)).map (·.1))[(b.take i).countP P]? = some x := by
  intro a
  induction a with
  | nil => intro b i x y h; simp at h
  | cons a0 as ih =>
    intro b i x y ha hb hy
    cases b with
    | nil => simp at hb
    | cons b0 bs =>
      cases i with
      | zero =>
        simp only [List.getElem?_cons_zero, Option.some.injEq] at ha hb
        subst ha; subst hb
        simp [hy]
      | succ j =>
        simp only [List.getElem?_cons_succ] at ha hb
        have := ih bs j x y ha hb hy
        by_cases h0 : P b0 = true
        · simp only [List.zip_cons_cons, List.filter_cons, h0, if_true, List.map_cons, List.take_succ_cons,
            List.countP_cons, List.getElem?_cons_succ]
          exact this
        · simp only [List.zip_cons_cons, List.filter_cons, h0, Bool.false_eq_true, if_false, List.take_succ_cons,
            List.countP_cons, Nat.add_zero]
          exact this

/-- The entries of `A` at the positions of the kept instructions of `B`. -/
def stripArr {α : Type} (A : Array α) (B : Array (Instr w)) : Array α :=
  (((A.toList.zip B.toList).filter (fun li => keep li.2)).map (·.1)).toArray

theorem stripArr_size {α : Type} (A : Array α) (B : Array (Instr w)) (h : A.size = B.size) :
    (stripArr A B).size = pos B B.size := by
  unfold stripArr
  simp only [List.size_toArray]
  rw [zip_filter_length keep A.toList B.toList (by simpa using h), pos_size, ← Array.toList_filter,
    Array.length_toList]

theorem stripArr_get {α : Type} (A : Array α) (B : Array (Instr w)) {i : Nat} {a : α} {x : Instr w}
    (ha : A[i]? = some a) (hx : B[i]? = some x) (hk : keep x = true) : (stripArr A B)[pos B i]? = some a := by
  unfold stripArr pos
  rw [List.getElem?_toArray]
  exact zip_filter_get keep A.toList B.toList i a x (by simpa using ha) (by simpa using hx) hk

theorem getD_stripArr (A : Array (List Nat)) (B : Array (Instr w)) (h : A.size = B.size) {i : Nat} {x : Instr w}
    (hx : B[i]? = some x) (hk : keep x = true) : BcWf.getD (stripArr A B) (pos B i) = BcWf.getD A i := by
  have hi : i < A.size := by rw [h]; exact lt_of_getElem? hx
  have ha : A[i]? = some A[i] := Array.getElem?_eq_getElem hi
  unfold BcWf.getD
  rw [stripArr_get A B ha hx hk, ha]

theorem keep_false_iff {x : Instr w} : keep x = false ↔ x = .noop := by
  cases x <;> simp [keep, isNoop]

theorem next_kept (B : Array (Instr w)) : ∀ (d k : Nat), B.size - k ≤ d → pos B k < pos B B.size →
    ∃ j x, k ≤ j ∧ B[j]? = some x ∧ keep x = true ∧ pos B j = pos B k ∧
      ∀ l, k ≤ l → l < j → B[l]? = some .noop := by
  intro d
  induction d with
  | zero =>
    intro k hd h
    have : B.size ≤ k := by omega
    have := pos_mono B this
    omega
  | succ d ih =>
    intro k hd h
    have hk : k < B.size := by
      apply Nat.lt_of_not_le
      intro hle
      have := pos_mono B hle
      omega
    have hget : B[k]? = some B[k] := Array.getElem?_eq_getElem hk
    cases hkp : keep B[k] with
    | true => exact ⟨k, B[k], Nat.le_refl _, hget, hkp, rfl, fun l h1 h2 => by omega⟩
    | false =>
      have hnoop : B[k]? = some .noop := by rw [hget, keep_false_iff.1 hkp]
      have hp : pos B (k + 1) = pos B k := by rw [pos_succ hget, hkp]; simp
      obtain ⟨j, x, g1, g2, g3, g4, g5⟩ := ih (k + 1) (by omega) (by rw [hp]; exact h)
      refine ⟨j, x, by omega, g2, g3, g4.trans hp, ?_⟩
      intro l h1 h2
      by_cases e : l = k
      · subst e; exact hnoop
      · exact g5 l (by omega) h2

theorem uses_fixInst (B : Array (Instr w)) (i : Nat) (x : Instr w) : BcWf.uses (fixInst B i x) = BcWf.uses x := by
  cases x <;> rfl
theorem defs_fixInst (B : Array (Instr w)) (i : Nat) (x : Instr w) : BcWf.defs (fixInst B i x) = BcWf.defs x := by
  cases x <;> rfl
theorem isBranch_fixInst (B : Array (Instr w)) (i : Nat) (x : Instr w) :
    isBranch (fixInst B i x) = isBranch x := by
  cases x <;> rfl
theorem liveIn_fixInst (B : Array (Instr w)) (i : Nat) (x : Instr w) (out : List Nat) :
    liveIn (fixInst B i x) out = liveIn x out := by
  unfold liveIn; rw [uses_fixInst, defs_fixInst]

theorem succs_fixInst {B : Array (Instr w)} (hT : TargetsOk B) {i : Nat} {x : Instr w} (hx : B[i]? = some x)
    (hk : keep x = true) :
    ∃ ss, BcWf.succs B.size i x = some ss ∧
      BcWf.succs (pos B B.size) (pos B i) (fixInst B i x) = some (ss.map (pos B)) := by
  have hp1 : pos B (i + 1) = pos B i + 1 := by rw [pos_succ hx, hk]; rfl
  have key : ∀ (off : Int), 0 ≤ (i : Int) + off → (i : Int) + off ≤ B.size →
      (branchTarget i off B.size).map (fun t => [i + 1, t]) = some [i + 1, ((i : Int) + off).toNat] ∧
      (branchTarget (pos B i) (newOff B i off) (pos B B.size)).map (fun t => [pos B i + 1, t]) =
        some [pos B i + 1, pos B ((i : Int) + off).toNat] := by
    intro off h0 h1
    have hle : ((i : Int) + off).toNat ≤ B.size := by omega
    have hpl := pos_mono B hle
    constructor
    · simp [branchTarget, h0, h1]
    · have e : (pos B i : Int) + newOff B i off = (pos B ((i : Int) + off).toNat : Int) := by
        unfold newOff; omega
      simp only [branchTarget, e]
      have : (0 : Int) ≤ (pos B ((i : Int) + off).toNat : Int) ∧
          (pos B ((i : Int) + off).toNat : Int) ≤ (pos B B.size : Int) := by omega
      simp [this]
  cases x with
  | brz c off | brnz c off =>
    obtain ⟨h0, h1⟩ := hT i _ off hx rfl
    obtain ⟨k1, k2⟩ := key off h0 h1
    exact ⟨_, k1, by simp only [fixInst, BcWf.succs, k2, List.map_cons, List.map_nil, hp1]⟩
  | _ => exact ⟨_, rfl, by simp only [fixInst, BcWf.succs, List.map_cons, List.map_nil, hp1]⟩

theorem succs_le {n i : Nat} {x : Instr w} {ss : List Nat} (h : BcWf.succs n i x = some ss) (hi : i < n) :
    ∀ k ∈ ss, k ≤ n :=
  C11.succs_le hi h

/-- A dataflow fact (`Flow`: initialised or live) passes backwards through `noop`s: they write nothing and only
fall through. -/
theorem flow_chain {p : Program w} {A : Nat → Nat → Prop} (F : Flow p A) {k : Nat} :
    ∀ (d j : Nat), j = k + d → (∀ l, k ≤ l → l < j → p.insts[l]? = some .noop) → ∀ t, A j t → A k t := by
  intro d
  induction d with
  | zero => intro j e _ t ht; subst e; exact ht
  | succ d ih =>
    intro j e hn t ht
    subst e
    obtain ⟨ss, hs, hf⟩ := F.flow (hn (k + d) (by omega) (by omega))
    cases hs
    rcases hf (k + d + 1) List.mem_cons_self t ht with g | g
    · exact ih (k + d) rfl (fun l h1 h2 => hn l h1 (by omega)) t g
    · cases g

/-- `q` is `p` after `strip_noops`: instructions, `live` array; the other fields are arbitrary. -/
structure StripRel (p q : Program w) : Prop where
  stripped : Stripped p.insts q.insts
  targets : TargetsOk p.insts
  live : ∀ (i : Nat) (x : Instr w), p.insts[i]? = some x → keep x = true → q.live[pos p.insts i]? = p.live[i]?

theorem stripRel_inst {p q : Program w} (R : StripRel p q) {m : Nat} {y : Instr w} (hy : q.insts[m]? = some y) :
    ∃ i x, p.insts[i]? = some x ∧ keep x = true ∧ pos p.insts i = m ∧ y = fixInst p.insts i x :=
  stripped_inst R.stripped hy

/-- Stated here, in the namespace of the `C11Local*` files that use it, because it needs `StripRel` and `succs_fixInst` of
this file. -/
theorem _root_.Hpbf.C02.Local.targetsOk_strip {p q : Program w} (R : StripRel p q) : TargetsOk q.insts := by
  apply targetsOk_of_succs
  intro m y hy
  obtain ⟨i, x, g1, g2, g3, rfl⟩ := stripRel_inst R hy
  obtain ⟨ss, _, hs'⟩ := succs_fixInst R.targets g1 g2
  rw [R.stripped.size, ← g3, hs']
  rfl

theorem initFacts_strip {p q : Program w} (R : StripRel p q) {I : Array (List Nat)} (h : InitFacts p I) :
    InitFacts q (stripArr I p.insts) := by
  have hsz : (stripArr I p.insts).size = q.insts.size := by
    rw [stripArr_size I p.insts h.size, R.stripped.size]
  have hpos : ∀ k, pos p.insts k < pos p.insts p.insts.size →
      ∀ t ∈ BcWf.getD (stripArr I p.insts) (pos p.insts k), t ∈ BcWf.getD I k := by
    intro k hk t ht
    obtain ⟨j, x, g1, g2, g3, g4, g5⟩ := next_kept p.insts _ k (Nat.le_refl _) hk
    rw [← g4, getD_stripArr I p.insts h.size g2 g3] at ht
    exact flow_chain (initFlow h) (j - k) j (by omega) g5 t ht
  refine ⟨hsz, ?_, ?_, ?_⟩
  · by_cases h0 : 0 < pos p.insts p.insts.size
    · apply List.eq_nil_iff_forall_not_mem.2
      intro t ht
      have := hpos 0 (by rw [pos_zero]; exact h0) t (by rw [pos_zero]; exact ht)
      rw [h.entry] at this; cases this
    · exact getD_oob (by rw [hsz, R.stripped.size]; omega)
  · intro m y hy t ht
    obtain ⟨i, x, g1, g2, g3, rfl⟩ := stripRel_inst R hy
    rw [uses_fixInst] at ht
    rw [← g3, getD_stripArr I p.insts h.size g1 g2]
    exact h.uses g1 t ht
  · intro m y hy
    obtain ⟨i, x, g1, g2, g3, rfl⟩ := stripRel_inst R hy
    obtain ⟨ss, hs, hs'⟩ := succs_fixInst R.targets g1 g2
    obtain ⟨ss0, e0, hf⟩ := h.flow g1
    rw [hs] at e0; cases e0
    refine ⟨ss.map (pos p.insts), by rw [R.stripped.size, ← g3]; exact hs', ?_⟩
    intro j' hj' t ht
    obtain ⟨k, hk, rfl⟩ := List.mem_map.1 hj'
    rw [defs_fixInst, ← g3, getD_stripArr I p.insts h.size g1 g2]
    by_cases hlt : pos p.insts k < pos p.insts p.insts.size
    · exact hf k hk t (hpos k hlt t ht)
    · rw [getD_oob (by rw [hsz, R.stripped.size]; omega)] at ht; cases ht

theorem liveFacts_strip {p q : Program w} {numRegs : Nat} (R : StripRel p q) {O : Array (List Nat)}
    (h : LiveFacts p numRegs O) : LiveFacts q numRegs (stripArr O p.insts) := by
  have hsz : (stripArr O p.insts).size = q.insts.size := by
    rw [stripArr_size O p.insts h.size, R.stripped.size]
  refine ⟨hsz, ?_, ?_⟩
  · intro m y hy
    obtain ⟨i, x, g1, g2, g3, rfl⟩ := stripRel_inst R hy
    obtain ⟨ss, hs, hs'⟩ := succs_fixInst R.targets g1 g2
    obtain ⟨ss0, e0, hf⟩ := h.flow g1
    rw [hs] at e0; cases e0
    refine ⟨ss.map (pos p.insts), by rw [R.stripped.size, ← g3]; exact hs', ?_⟩
    intro j' hj' ij' hij' t ht
    obtain ⟨k, hk, rfl⟩ := List.mem_map.1 hj'
    have hlt : pos p.insts k < pos p.insts p.insts.size := by
      rw [← R.stripped.size]; exact lt_of_getElem? hij'
    obtain ⟨j, y, q1, q2, q3, q4, q5⟩ := next_kept p.insts _ k (Nat.le_refl _) hlt
    have hqj := R.stripped.get j y q2 q3
    rw [q4, hij'] at hqj
    cases hqj
    rw [liveIn_fixInst, ← q4, getD_stripArr O p.insts h.size q2 q3] at ht
    rw [← g3, getD_stripArr O p.insts h.size g1 g2]
    have hkn : k < p.insts.size := by
      apply Nat.lt_of_not_le
      intro hle
      have := pos_mono p.insts hle
      omega
    have hxk : p.insts[k]? = some p.insts[k] := Array.getElem?_eq_getElem hkn
    obtain ⟨x', hx', g⟩ := flow_chain (liveFlow h) (j - k) j (by omega) q5 t ⟨y, q2, ht⟩
    rw [hxk] at hx'; cases hx'
    exact hf k hk _ hxk t g
  · intro m y hy hb t ht h1 h2
    obtain ⟨i, x, g1, g2, g3, rfl⟩ := stripRel_inst R hy
    rw [isBranch_fixInst] at hb
    rw [← g3, getD_stripArr O p.insts h.size g1 g2] at ht
    rw [defs_fixInst, ← g3, R.live i x g1 g2]
    exact h.declared g1 hb t ht h1 h2

theorem tempsBelow_strip {B qi : Array (Instr w)} (hS : Stripped B qi) {Tn : Nat} (h : TempsBelow B Tn) :
    TempsBelow qi Tn := by
  intro m y hy t ht
  obtain ⟨i, x, g2, _, _, rfl⟩ := stripped_inst hS hy
  rw [uses_fixInst] at ht
  exact h i x g2 t ht

theorem stripNoops_rel (s s' : St w) (hl : s.live.size = s.insts.size) (hT : TargetsOk s.insts)
    (h : stripNoops s = .ok s') (t t' : Nat) (mn mn' mx mx' : Int) :
    StripRel (progOf s t mn mx) (progOf s' t' mn' mx') := by
  obtain ⟨fixed, hsz, hget, hform⟩ := stripNoops_eq s hl hT
  rw [hform] at h
  cases h
  refine ⟨stripped_of_fixed hsz hget, hT, ?_⟩
  intro i x hx hk
  replace hx : s.insts[i]? = some x := hx
  have hi : i < s.insts.size := lt_of_getElem? hx
  have hfx : fixed[i]? = some (fixInst s.insts i x) := by rw [hget i hi, hx]; rfl
  have hlv : s.live[i]? = some (s.live[i]'(hl.symm ▸ hi)) := Array.getElem?_eq_getElem (hl.symm ▸ hi)
  show ((((s.live.toList.zip fixed.toList).filter (fun li => !isNoop li.2)).map (·.1)).toArray)[pos s.insts i]? =
    s.live[i]?
  rw [hlv, ← pos_fixed hsz hget i]
  exact stripArr_get s.live fixed hlv hfx (by rw [keep_fixInst]; exact hk)

end Alloc
end C02
end Hpbf
