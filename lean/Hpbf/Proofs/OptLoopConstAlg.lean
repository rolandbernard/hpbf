/-
Counting of pending occurrences in the `dependents` lists of `constantsAmong` (`occ`) under `mSet` / `mErase`, the
counters of `dependsOn` (`cnt`) and the number of positive ones (`pos`, the potential of the work loop); the
work-list invariant of `OptLoopConstFix` bounds each count by the counter.
-/
import Hpbf.Proofs.OptLoopMap
import Hpbf.Proofs.OptSem

namespace Hpbf.OptLoop
open Hpbf Opt OptSem Expr

variable {w : Nat}

def occ (d : List (Int × List Int)) (u : Int) : Nat :=
  match d with
  | [] => 0
  | kv :: rest => kv.2.count u + occ rest u

theorem occ_mSet (d : List (Int × List Int)) (k : Int) (l : List Int) (u : Int) (h : KeysAsc d) :
    occ (mSet d k l) u + ((mGet d k).getD []).count u = occ d u + l.count u := by
  induction d with
  | nil => simp [mSet, mGet, occ]
  | cons kv d ih =>
    obtain ⟨k0, l0⟩ := kv
    simp only [mSet, mGet]
    split
    · rename_i he; subst he
      simp only [occ, Option.getD_some]; omega
    · rename_i hne
      split
      · rename_i hlt
        have hnone : mGet d k = none :=
          mGet_none_of_lt d k (fun kv hkv => Int.lt_trans hlt (h.head_lt hkv))
        simp only [occ, hnone, Option.getD_none, List.count_nil]; omega
      · have := ih h.tail
        simp only [occ]; omega

theorem occ_mErase (d : List (Int × List Int)) (k : Int) (u : Int) :
    occ (mErase d k) u + ((mGet d k).getD []).count u = occ d u := by
  induction d with
  | nil => simp [mErase, mGet, occ]
  | cons kv d ih =>
    obtain ⟨k0, l0⟩ := kv
    simp only [mErase, mGet]
    split
    · simp only [occ, Option.getD_some]; omega
    · simp only [occ]; omega

theorem count_le_occ (d : List (Int × List Int)) (x : Int) (l : List Int) (u : Int)
    (h : mGet d x = some l) : l.count u ≤ occ d u := by
  induction d with
  | nil => cases h
  | cons kv d ih =>
    obtain ⟨k0, l0⟩ := kv
    simp only [mGet] at h
    split at h
    · cases h; simp only [occ]; omega
    · have := ih h
      simp only [occ]; omega

end Hpbf.OptLoop

/- `cnt` and `pos` measure the fuel of `constLoop`; they carry the namespace of the no-panic vocabulary, whose
`OptTotal.constantsAmong_ok` is what the measure is for. -/
namespace Hpbf.OptTotal
open Hpbf Opt OptLoop

def cnt (o : List (Int × Nat)) (var : Int) : Nat := (mGet o var).getD 0

def pos : List (Int × Nat) → Nat
  | [] => 0
  | kv :: rest => (if 0 < kv.2 then 1 else 0) + pos rest

theorem pos_eq_filter (o : List (Int × Nat)) :
    pos o = (o.filter (fun kv => decide (0 < kv.2))).length := by
  induction o with
  | nil => rfl
  | cons kv o ih =>
    simp only [pos, List.filter_cons, ih]
    by_cases h : 0 < kv.2
    · simp [h]; omega
    · simp [h]

theorem pos_le_length (o : List (Int × Nat)) : pos o ≤ o.length := by
  induction o with
  | nil => exact Nat.le_refl _
  | cons kv o ih =>
    simp only [pos, List.length_cons]
    split <;> omega

theorem cnt_mSet (o : List (Int × Nat)) (k : Int) (v : Nat) (u : Int) :
    cnt (mSet o k v) u = if k = u then v else cnt o u := by
  unfold cnt
  rw [mGet_mSet]
  split <;> rfl

theorem pos_mSet_dec (o : List (Int × Nat)) (k : Int) (v : Nat) (h : KeysAsc o)
    (hg : mGet o k = some (v + 1)) :
    pos (mSet o k v) + (if v = 0 then 1 else 0) = pos o := by
  induction o with
  | nil => cases hg
  | cons kv o ih =>
    obtain ⟨k0, v0⟩ := kv
    simp only [mGet] at hg
    simp only [mSet]
    split
    · rename_i he
      rw [if_pos he] at hg
      cases hg
      simp only [pos]
      by_cases hv : v = 0
      · subst hv; simp; omega
      · have : 0 < v := Nat.pos_of_ne_zero hv
        simp [hv, this]
    · rename_i hne
      rw [if_neg hne] at hg
      split
      · rename_i hlt
        have hnone := mGet_none_of_lt o k (fun kv hkv => Int.lt_trans hlt (h.head_lt hkv))
        rw [hnone] at hg
        cases hg
      · have := ih h.tail hg
        simp only [pos]
        omega

end Hpbf.OptTotal

