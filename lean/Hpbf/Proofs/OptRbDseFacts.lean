/-
Two of the four clauses of `C01Dse.AnalSound` (`AtLeastFact`, `AtMostFact`) hold
for a block whose nested blocks are paired with the recorded analysis tree (`ShapeL`), given `C02Emit.OnceOk`.
They are stated at the arguments `false 0` (unlimited mode, no budget) at which `C01Dse.AnalSound` takes `AnalSoundAt`.

The POSITION INVARIANT of reachable configurations (`PosInv`): the continuation stack is paired with a chain of
analysis nodes (`KOk`), and the current instruction list is a suffix of the body of the block being executed.
-/
import Hpbf.Proofs.OptRbShape3
import Hpbf.Proofs.OptRbAdeq2
import Hpbf.Proofs.C01DseStraight

namespace Hpbf
namespace OptProof
open Opt OptSem Ir

variable {w : Nat}

/-- `KOk tI tA ks body subs A0`: in the program with top-level instructions `tI` and top node `tA`, the
continuation stack `ks` belongs to the execution of a block with instruction list `body`, whose nested blocks are
paired with `subs`, and whose `DAnal` node (the one `C01Dse.analOf` finds) is `A0`. -/
inductive KOk (tI : List (Instr w)) (tA : OptAnalysis w) :
    List (Cont w) → List (Instr w) → List (OptAnalysis w) → OptDse.DAnal → Prop
  | nil : KOk tI tA [] tI tA.subBlocks tA.toDAnal
  | loopEnd {ks : List (Cont w)} {pbody : List (Instr w)} {psubs : List (OptAnalysis w)} {PA : OptDse.DAnal}
      {pre rest body : List (Instr w)} {cond shift : Int} {once : Bool} {a : OptAnalysis w} :
      KOk tI tA ks pbody psubs PA → pbody = pre ++ .loop cond shift body once :: rest →
      ShapeI (.loop cond shift body once) a → C01Dse.subAt PA (C01Dse.nblocks rest + 1) = some a.toDAnal →
      KOk tI tA (.loopEnd cond shift body rest :: ks) body a.subBlocks a.toDAnal
  | ifEnd {ks : List (Cont w)} {pbody : List (Instr w)} {psubs : List (OptAnalysis w)} {PA : OptDse.DAnal}
      {pre rest body : List (Instr w)} {cond shift : Int} {a : OptAnalysis w} :
      KOk tI tA ks pbody psubs PA → pbody = pre ++ .ifnz cond shift body :: rest →
      ShapeI (.ifnz cond shift body) a → C01Dse.subAt PA (C01Dse.nblocks rest + 1) = some a.toDAnal →
      KOk tI tA (.ifEnd shift rest :: ks) body a.subBlocks a.toDAnal

theorem KOk.analOf {tI : List (Instr w)} {tA : OptAnalysis w} {ks : List (Cont w)} {body : List (Instr w)}
    {subs : List (OptAnalysis w)} {A0 : OptDse.DAnal} (h : KOk tI tA ks body subs A0) :
    C01Dse.analOf tA.toDAnal ks = some A0 := by
  induction h with
  | nil => rfl
  | loopEnd _ _ _ hsub ih => simp only [C01Dse.analOf, ih, C01Dse.contRest]; exact hsub
  | ifEnd _ _ _ hsub ih => simp only [C01Dse.analOf, ih, C01Dse.contRest]; exact hsub

theorem KOk.subs_eq {tI : List (Instr w)} {tA : OptAnalysis w} {ks : List (Cont w)} {body : List (Instr w)}
    {subs : List (OptAnalysis w)} {A0 : OptDse.DAnal} (h : KOk tI tA ks body subs A0) :
    A0.subs = OptAnalysis.toDAnals subs := by
  cases h with
  | nil => exact toDAnal_subs _
  | loopEnd _ _ _ _ => exact toDAnal_subs _
  | ifEnd _ _ _ _ => exact toDAnal_subs _

theorem KOk.shape {tI : List (Instr w)} {tA : OptAnalysis w} (hs : ShapeL tI tA.subBlocks)
    {ks : List (Cont w)} {body : List (Instr w)} {subs : List (OptAnalysis w)} {A0 : OptDse.DAnal}
    (h : KOk tI tA ks body subs A0) : ShapeL body subs := by
  cases h with
  | nil => exact hs
  | loopEnd _ _ hi _ => exact (shapeI_loop hi).2.2.2
  | ifEnd _ _ hi _ => exact (shapeI_ifnz hi).2.2

theorem KOk.atMostOnce_loopEnd {tI : List (Instr w)} {tA : OptAnalysis w} {ks : List (Cont w)}
    {cond shift : Int} {lbody rest body : List (Instr w)} {subs : List (OptAnalysis w)} {A0 : OptDse.DAnal}
    (h : KOk tI tA (.loopEnd cond shift lbody rest :: ks) body subs A0) : A0.atMostOnce = false := by
  cases h with
  | loopEnd _ _ hi _ => rw [toDAnal_atMostOnce]; exact (shapeI_loop hi).2.1

theorem KOk.enter {tI : List (Instr w)} {tA : OptAnalysis w} (hs : ShapeL tI tA.subBlocks)
    {ks : List (Cont w)} {body : List (Instr w)} {subs : List (OptAnalysis w)} {A0 : OptDse.DAnal}
    (h : KOk tI tA ks body subs A0) {pre rest : List (Instr w)} {i : Instr w} (hb : body = pre ++ i :: rest)
    {p : Int × Int × List (Instr w)} (hp : C01Dse.blockParts i = some p) :
    ∃ a, ShapeI i a ∧ C01Dse.subAt A0 (C01Dse.nblocks rest + 1) = some a.toDAnal := by
  obtain ⟨a, _, hi, hsub⟩ := shapeL_lookup (h.shape hs) hb hp
  exact ⟨a, hi, hsub A0 h.subs_eq⟩

def PosInv (tI : List (Instr w)) (tA : OptAnalysis w) (c : Cfg w) : Prop :=
  ∃ (body : List (Instr w)) (subs : List (OptAnalysis w)) (A0 : OptDse.DAnal) (pre : List (Instr w)),
    KOk tI tA c.conts body subs A0 ∧ body = pre ++ c.cur

theorem posInv_init (b : Block w) (tA : OptAnalysis w) (bud : Nat) (env : Env) :
    PosInv b.insts tA (C01Dse.initCfg b bud env) :=
  ⟨b.insts, tA.subBlocks, tA.toDAnal, [], .nil, rfl⟩

theorem posInv_step {tI : List (Instr w)} {tA : OptAnalysis w} (hs : ShapeL tI tA.subBlocks) {lim : Bool}
    {c c1 : Cfg w} (h : PosInv tI tA c) (hst : Ir.step lim c = .next c1) : PosInv tI tA c1 := by
  obtain ⟨body, subs, A0, pre, hk, hb⟩ := h
  have hsh := Ir.step_shape lim c
  rw [hst] at hsh
  -- an instruction that is passed over (`PosInv` does not look at budget and state)
  have over : ∀ (i : Instr w) (cur : List (Instr w)) (ks : List (Cont w)) (bud' : Nat) (σ' : State w),
      KOk tI tA ks body subs A0 → body = pre ++ i :: cur → PosInv tI tA ⟨cur, ks, bud', σ'⟩ :=
    fun i cur ks _ _ hk hb => ⟨body, subs, A0, pre ++ [i], hk, by simp [hb]⟩
  cases hsh with
  | blockEnd k ks b st _ =>
    cases k with
    | loopEnd cond shift lbody rest =>
      simp only [Ir.Cont.after, Ir.Cont.shift]
      by_cases h2 : (st.mov shift).rd cond = 0#w
      · simp only [h2, ne_eq, not_true_eq_false, if_false]
        cases hk with
        | @loopEnd _ pbody psubs PA pre' _ _ _ _ once a hk' hpb _ _ =>
          exact ⟨pbody, psubs, PA, pre' ++ [.loop cond shift body once], hk', by simp [hpb]⟩
      · simp only [ne_eq, h2, not_false_eq_true, if_true]
        exact ⟨body, subs, A0, [], hk, by cases hk; rfl⟩
    | ifEnd shift rest =>
      cases hk with
      | @ifEnd _ pbody psubs PA pre' _ _ cond _ a hk' hpb _ _ =>
        exact ⟨pbody, psubs, PA, pre' ++ [.ifnz cond shift body], hk', by simp [hpb, Ir.Cont.after]⟩
  | ioOk i rest ks b st s _ => exact over i rest ks b s hk hb
  | assign calcs rest ks b st => exact over _ rest ks b _ hk hb
  | skip i rest ks b st cond body' k _ _ => exact over i rest ks b st hk hb
  | enter i rest ks b st cond body' k hblk _ =>
    cases i with
    | output _ => cases hblk
    | input _ => cases hblk
    | «calc» _ => cases hblk
    | loop cond' shift lbody once =>
      cases hblk
      obtain ⟨a, hi, hsub⟩ := hk.enter hs hb (i := .loop cond shift body' once) rfl
      exact ⟨body', a.subBlocks, a.toDAnal, [], .loopEnd hk hb hi hsub, rfl⟩
    | ifnz cond' shift lbody =>
      cases hblk
      obtain ⟨a, hi, hsub⟩ := hk.enter hs hb (i := .ifnz cond shift body') rfl
      exact ⟨body', a.subBlocks, a.toDAnal, [], .ifEnd hk hb hi hsub, rfl⟩

theorem posInv_of_reach {b : Block w} {anal : OptAnalysis w} (hs : ShapeL b.insts anal.subBlocks)
    {lim : Bool} {bud : Nat} {env : Env} {c : Cfg w} (h : C01Dse.Reach lim bud b env c) :
    PosInv b.insts anal c := by
  obtain ⟨f, hf⟩ := h
  exact C01Dse.cfgAt_inv (PosInv b.insts anal) (fun _ _ hp hst => posInv_step hs hp hst)
    (posInv_init b anal bud env) hf

theorem atLeastFact_of_shape {b : Block w} {anal : OptAnalysis w} {env : Env}
    (hs : ShapeL b.insts anal.subBlocks) (ho : C02Emit.OnceOk b env) :
    C01Dse.AtLeastFact false 0 b anal.toDAnal env := by
  intro c hr i rest cond shift lbody A0' A1 hcur hparts hanal hsub hal
  obtain ⟨body, subs, A0, pre, hk, hb⟩ := posInv_of_reach hs hr
  rw [hk.analOf] at hanal
  cases hanal
  rw [hcur] at hb
  obtain ⟨a, hi, hsub'⟩ := hk.enter hs hb hparts
  rw [hsub'] at hsub
  cases hsub
  rw [toDAnal_atLeastOnce] at hal
  cases i with
  | output _ => simp [C01Dse.blockParts] at hparts
  | input _ => simp [C01Dse.blockParts] at hparts
  | «calc» _ => simp [C01Dse.blockParts] at hparts
  | ifnz c' sh' b' =>
    rw [(shapeI_ifnz hi).1] at hal
    cases hal
  | loop c' sh' b' once =>
    simp only [C01Dse.blockParts, Option.some.injEq, Prod.mk.injEq] at hparts
    obtain ⟨rfl, rfl, rfl⟩ := hparts
    have honce : once = true := (shapeI_loop hi).1.trans hal
    subst honce
    obtain ⟨f, hf⟩ := hr
    exact ho f c (C01Dse.cfgAt_iff.1 hf) _ _ _ _ hcur

/-- Vacuous: the node of a `loop` never has `atMostOnce = true`. -/
theorem atMostFact_of_shape {b : Block w} {anal : OptAnalysis w} {env : Env}
    (hs : ShapeL b.insts anal.subBlocks) : C01Dse.AtMostFact false 0 b anal.toDAnal env := by
  intro c hr cond shift lbody rest ks A0' _ hconts hanal ham
  obtain ⟨body, subs, A0, pre, hk, _⟩ := posInv_of_reach hs hr
  rw [hk.analOf] at hanal
  cases hanal
  rw [hconts] at hk
  rw [hk.atMostOnce_loopEnd] at ham
  cases ham

theorem optimizeOnce_atLeastFact {b : Block w} {prevAnal : OptAnalysis w} {os os' : Orders} {b' : Block w}
    {anal' : OptAnalysis w} (hr : (optimizeOnce b prevAnal).run os = .ok ((b', anal'), os'))
    {env : Env} (ho : C02Emit.OnceOk b' env) : C01Dse.AtLeastFact false 0 b' anal'.toDAnal env :=
  atLeastFact_of_shape (optimizeOnce_shape hr) ho

theorem optimizeOnce_atMostFact {b : Block w} {prevAnal : OptAnalysis w} {os os' : Orders} {b' : Block w}
    {anal' : OptAnalysis w} (hr : (optimizeOnce b prevAnal).run os = .ok ((b', anal'), os'))
    (env : Env) : C01Dse.AtMostFact false 0 b' anal'.toDAnal env :=
  atMostFact_of_shape (optimizeOnce_shape hr)

#print axioms posInv_of_reach
#print axioms atLeastFact_of_shape
#print axioms atMostFact_of_shape
#print axioms optimizeOnce_atLeastFact
#print axioms optimizeOnce_atMostFact

end OptProof
end Hpbf
