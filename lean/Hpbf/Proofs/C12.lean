/-
C12 — bracket validation of `Program::parse` (model `Ir.parse`) and of the canonical bracket tree
(`Bf.tree`), comment insensitivity, UTF-8 classification.

The bracket spec (`depthScan`, `firstUnmatchedClose`, `openStack`, `innermostUnclosed`, `specError`)
is declarative and does not mention the parser; `parseLoop_spec` ties `Ir.parseLoop` to all its scans
in one induction.
-/
import Hpbf.Ir
import Hpbf.Inplace

namespace Hpbf
namespace C12

def depthScan : List Kind → Nat → Option Nat
  | [], d => some d
  | k :: ks, d =>
    match k with
    | .open => depthScan ks (d + 1)
    | .close =>
      match d with
      | 0 => none
      | d' + 1 => depthScan ks d'
    | _ => depthScan ks d

def Balanced (src : List Kind) : Prop := depthScan src 0 = some 0

instance (src : List Kind) : Decidable (Balanced src) := by unfold Balanced; infer_instance

/-- `firstUnmatchedCloseFrom src i d`: `i` is the character index of the head of `src`, `d` the current
depth. -/
def firstUnmatchedCloseFrom : List Kind → Nat → Nat → Option Nat
  | [], _, _ => none
  | k :: ks, i, d =>
    match k with
    | .open => firstUnmatchedCloseFrom ks (i + 1) (d + 1)
    | .close =>
      match d with
      | 0 => some i
      | d' + 1 => firstUnmatchedCloseFrom ks (i + 1) d'
    | _ => firstUnmatchedCloseFrom ks (i + 1) d

def firstUnmatchedClose (src : List Kind) : Option Nat := firstUnmatchedCloseFrom src 0 0

/-- `openStack src i st`: `i` is the character index of the head of `src`, `st` the indices of the
currently open `[`, innermost first; `none` if some `]` has no partner. -/
def openStack : List Kind → Nat → List Nat → Option (List Nat)
  | [], _, st => some st
  | k :: ks, i, st =>
    match k with
    | .open => openStack ks (i + 1) (i :: st)
    | .close =>
      match st with
      | [] => none
      | _ :: st' => openStack ks (i + 1) st'
    | _ => openStack ks (i + 1) st

/-- The innermost `[` open at the end of the text, which is the LAST `[` that is never closed
(`spec_innermostUnclosed`). -/
def innermostUnclosed (src : List Kind) : Option Nat :=
  match openStack src 0 [] with
  | some (p :: _) => some p
  | _ => none

def strip (src : List Kind) : List Kind := src.filter (· ≠ Kind.comment)

/-- The error for an unbalanced text: an unmatched `]` is reported in preference to an unclosed `[`
(the parser fails at that `]`, before it sees the end of the text). -/
def specError (src : List Kind) : Ir.ParseErr :=
  match firstUnmatchedClose src with
  | some i => ⟨.loopNotOpened, i⟩
  | none => ⟨.loopNotClosed, (innermostUnclosed src).getD 0⟩

/-- The scans distinguish `[`, `]` and everything else. -/
theorem bracketCases {motive : Kind → Prop} (opn : motive .open) (cls : motive .close)
    (other : ∀ k, k ≠ .open → k ≠ .close → motive k) : ∀ k, motive k := by
  intro k
  cases k
  case «open» => exact opn
  case close => exact cls
  all_goals exact other _ (by decide) (by decide)

section
variable {k : Kind} (ho : k ≠ .open) (hc : k ≠ .close) (ks : List Kind)
include ho hc

theorem depthScan_other (d : Nat) : depthScan (k :: ks) d = depthScan ks d := by
  cases k <;> first | rfl | contradiction

theorem fuc_other (i d : Nat) :
    firstUnmatchedCloseFrom (k :: ks) i d = firstUnmatchedCloseFrom ks (i + 1) d := by
  cases k <;> first | rfl | contradiction

theorem openStack_other (i : Nat) (st : List Nat) :
    openStack (k :: ks) i st = openStack ks (i + 1) st := by
  cases k <;> first | rfl | contradiction

end

theorem depthScan_append (a b : List Kind) : ∀ d,
    depthScan (a ++ b) d = (depthScan a d).bind (depthScan b) := by
  induction a with
  | nil => intro d; rfl
  | cons k ks ih =>
    intro d
    rw [List.cons_append]
    cases k using bracketCases with
    | opn => exact ih (d + 1)
    | cls =>
      cases d with
      | zero => rfl
      | succ d' => exact ih d'
    | other k ho hc => rw [depthScan_other ho hc, depthScan_other ho hc]; exact ih d

/-- The depth counter of `depthScan` / `firstUnmatchedCloseFrom` is the length of the stack of
`openStack`. -/
theorem spec_consistent (src : List Kind) : ∀ (i : Nat) (st : List Nat),
    match openStack src i st with
    | some st' => depthScan src st.length = some st'.length ∧
        firstUnmatchedCloseFrom src i st.length = none
    | none => depthScan src st.length = none ∧
        (firstUnmatchedCloseFrom src i st.length).isSome := by
  induction src with
  | nil => intro i st; exact ⟨rfl, rfl⟩
  | cons k ks ih =>
    intro i st
    cases k using bracketCases with
    | opn => exact ih (i + 1) (i :: st)
    | cls =>
      cases st with
      | nil => exact ⟨rfl, rfl⟩
      | cons p st' => exact ih (i + 1) st'
    | other k ho hc =>
      rw [openStack_other ho hc, depthScan_other ho hc, fuc_other ho hc]
      exact ih (i + 1) st

theorem firstUnmatchedClose_eq_none_iff (src : List Kind) :
    firstUnmatchedClose src = none ↔ (depthScan src 0).isSome := by
  have h := spec_consistent src 0 []
  unfold firstUnmatchedClose
  split at h
  · simp_all
  · obtain ⟨h1, h2⟩ := h
    simp only [List.length_nil] at h1 h2
    rw [h1]
    cases hf : firstUnmatchedCloseFrom src 0 0 <;> simp_all

theorem fuc_shift (src : List Kind) : ∀ i d,
    firstUnmatchedCloseFrom src i d = (firstUnmatchedCloseFrom src 0 d).map (· + i) := by
  induction src with
  | nil => intro i d; rfl
  | cons k ks ih =>
    intro i d
    have step : ∀ d', firstUnmatchedCloseFrom ks (i + 1) d' =
        (firstUnmatchedCloseFrom ks (0 + 1) d').map (· + i) := by
      intro d'
      rw [ih (i + 1), ih (0 + 1), Option.map_map]
      congr 1
      funext n
      simp only [Function.comp]
      omega
    cases k using bracketCases with
    | opn => exact step (d + 1)
    | cls =>
      cases d with
      | zero => simp [firstUnmatchedCloseFrom]
      | succ d' => exact step d'
    | other k ho hc => rw [fuc_other ho hc, fuc_other ho hc]; exact step d

theorem fuc_iff (src : List Kind) : ∀ d n,
    firstUnmatchedCloseFrom src 0 d = some n ↔
      src[n]? = some Kind.close ∧ depthScan (src.take n) d = some 0 := by
  induction src with
  | nil => intro d n; simp [firstUnmatchedCloseFrom]
  | cons k ks ih =>
    intro d n
    -- past the first character `k`, which is not an unmatched `]` and leads to depth `d'`
    have step : ∀ d', k ≠ .close ∨ d ≠ 0 → (∀ l, depthScan (k :: l) d = depthScan l d') →
        (firstUnmatchedCloseFrom ks (0 + 1) d' = some n ↔
          (k :: ks)[n]? = some Kind.close ∧ depthScan ((k :: ks).take n) d = some 0) := by
      intro d' hk hd
      rw [fuc_shift ks 1]
      cases n with
      | zero =>
        rcases hk with hk | hk
        · simp [hk]
        · simp [depthScan]; omega
      | succ n => simp [ih, hd]
    cases k using bracketCases with
    | opn => exact step (d + 1) (.inl (by decide)) fun _ => rfl
    | cls =>
      cases d with
      | zero => cases n <;> simp [firstUnmatchedCloseFrom, depthScan]
      | succ d' => exact step d' (.inr (by omega)) fun _ => rfl
    | other k ho hc =>
      rw [fuc_other ho hc]
      exact step d (.inl hc) fun l => depthScan_other ho hc l d

theorem openStack_append (a b : List Kind) : ∀ i st,
    openStack (a ++ b) i st = (openStack a i st).bind (openStack b (i + a.length)) := by
  induction a with
  | nil => intro i st; rfl
  | cons k ks ih =>
    intro i st
    have e : i + (k :: ks).length = i + 1 + ks.length := by rw [List.length_cons]; omega
    rw [List.cons_append, e]
    cases k using bracketCases with
    | opn => exact ih (i + 1) (i :: st)
    | cls =>
      cases st with
      | nil => rfl
      | cons p st' => exact ih (i + 1) st'
    | other k ho hc => rw [openStack_other ho hc, openStack_other ho hc]; exact ih (i + 1) st

/-- `m` counts from the innermost entry (0).  Stated for `l.reverse` so that the induction on `l`
takes characters off the END of the text. -/
theorem openStack_final (l : List Kind) : ∀ st, openStack l.reverse 0 [] = some st →
    ∀ (m p : Nat), st[m]? = some p →
      l.reverse[p]? = some Kind.open ∧ depthScan (l.reverse.drop (p + 1)) 0 = some m := by
  induction l with
  | nil =>
    intro st h m p hp
    simp only [List.reverse_nil, openStack, Option.some.injEq] at h
    subst h
    simp at hp
  | cons k l ih =>
    intro st h m p hp
    rw [List.reverse_cons, openStack_append] at h
    rw [List.reverse_cons]
    cases hA : openStack l.reverse 0 [] with
    | none => rw [hA] at h; simp at h
    | some sta =>
      rw [hA] at h
      have ih' := ih sta hA
      have hlt : ∀ (m p : Nat), sta[m]? = some p → p < l.reverse.length := by
        intro m p hmp
        have := (ih' m p hmp).1
        exact (List.getElem?_eq_some_iff.mp this).1
      simp only [Option.bind_some, Nat.zero_add, List.length_reverse] at h
      have key : ∀ (m p : Nat) (x : Kind) (e : Nat), sta[m]? = some p → depthScan [x] m = some e →
          (l.reverse ++ [x])[p]? = some Kind.open ∧
            depthScan ((l.reverse ++ [x]).drop (p + 1)) 0 = some e := by
        intro m p x e hmp hx
        have h1 := ih' m p hmp
        have h2 := hlt m p hmp
        rw [List.getElem?_append_left h2, List.drop_append_of_le_length (by omega),
          depthScan_append, h1.2]
        exact ⟨h1.1, hx⟩
      cases k using bracketCases with
      | opn =>
        simp only [openStack, Option.some.injEq] at h
        subst h
        cases m with
        | zero =>
          simp only [List.getElem?_cons_zero, Option.some.injEq] at hp
          subst hp
          constructor
          · rw [List.getElem?_append_right (by simp)]; simp
          · rw [List.drop_of_length_le (by simp)]; rfl
        | succ m =>
          simp only [List.getElem?_cons_succ] at hp
          exact key m p _ _ hp rfl
      | cls =>
        cases sta with
        | nil => simp [openStack] at h
        | cons q st' =>
          simp only [openStack, Option.some.injEq] at h
          subst h
          exact key (m + 1) p _ _ (by simpa using hp) rfl
      | other k ho hc =>
        rw [openStack_other ho hc] at h
        simp only [openStack, Option.some.injEq] at h
        subst h
        exact key m p _ _ hp (depthScan_other ho hc [] m)

/-- A scan that succeeds from depth `st1.length` never pops below `st1`, so whatever lies underneath
(`st2`) is untouched. -/
theorem openStack_of_depthScan (b : List Kind) : ∀ (i : Nat) (st1 : List Nat) (e : Nat),
    depthScan b st1.length = some e →
      ∃ st1', st1'.length = e ∧ ∀ st2, openStack b i (st1 ++ st2) = some (st1' ++ st2) := by
  induction b with
  | nil =>
    intro i st1 e h
    simp only [depthScan, Option.some.injEq] at h
    exact ⟨st1, h, fun _ => rfl⟩
  | cons k ks ih =>
    intro i st1 e h
    cases k using bracketCases with
    | opn => exact ih (i + 1) (i :: st1) e h
    | cls =>
      cases st1 with
      | nil => cases h
      | cons q st1t => exact ih (i + 1) st1t e h
    | other k ho hc =>
      rw [depthScan_other ho hc] at h
      simp only [openStack_other ho hc]
      exact ih (i + 1) st1 e h

open Ir

variable {w : Nat}

def ps0 : PState w :=
  { top := { shift := 0, moved := false, rinsts := [], buff := [] }, rest := [], positions := [] }

/-- The parser's stack invariant: one suspended frame per open bracket position. -/
def Inv (ps : PState w) : Prop := ps.rest.length = ps.positions.length

theorem inv_ps0 : Inv (ps0 : PState w) := rfl

theorem parseStep_other {k : Kind} (ho : k ≠ .open) (hc : k ≠ .close) (ps : PState w) (i : Nat) :
    ∃ top, parseStep ps i k = .ok { ps with top := top } := by
  cases k <;> first | contradiction | exact ⟨_, rfl⟩

theorem parseStep_inv {ps ps' : PState w} {i : Nat} {k : Kind} (h : Inv ps)
    (hs : parseStep ps i k = .ok ps') : Inv ps' := by
  obtain ⟨top, rest, positions⟩ := ps
  unfold Inv at *
  cases k using bracketCases with
  | opn => cases hs; exact congrArg (· + 1) h
  | cls =>
    cases positions with
    | nil => cases hs
    | cons p poss =>
      cases rest with
      | nil => cases h
      | cons par rest' => cases hs; exact Nat.succ.inj h
  | other k ho hc =>
    obtain ⟨top', e⟩ := parseStep_other ho hc ⟨top, rest, positions⟩ i
    rw [e] at hs
    cases hs
    exact h

/-- One induction for all three spec scans; they start from the parser's current stack of open
positions, resp. its length. -/
theorem parseLoop_spec (src : List Kind) : ∀ (i : Nat) (ps : PState w), Inv ps →
    match parseLoop src i ps with
    | .ok ps' => Inv ps' ∧ openStack src i ps.positions = some ps'.positions ∧
        depthScan src ps.positions.length = some ps'.positions.length ∧
        firstUnmatchedCloseFrom src i ps.positions.length = none
    | .error e => e.kind = .loopNotOpened ∧ openStack src i ps.positions = none ∧
        depthScan src ps.positions.length = none ∧
        firstUnmatchedCloseFrom src i ps.positions.length = some e.position := by
  induction src with
  | nil => intro i ps h; exact ⟨h, rfl, rfl, rfl⟩
  | cons k ks ih =>
    intro i ps h
    obtain ⟨top, rest, positions⟩ := ps
    cases k using bracketCases with
    | opn => exact ih (i + 1) ⟨_, top :: rest, i :: positions⟩ (congrArg (· + 1) h)
    | cls =>
      cases positions with
      | nil => exact ⟨rfl, rfl, rfl, rfl⟩
      | cons p poss =>
        cases rest with
        | nil => cases h
        | cons par rest' => exact ih (i + 1) ⟨_, rest', poss⟩ (Nat.succ.inj h)
    | other k ho hc =>
      obtain ⟨top', e⟩ := parseStep_other ho hc ⟨top, rest, positions⟩ i
      simp only [parseLoop, e, openStack_other ho hc, depthScan_other ho hc, fuc_other ho hc]
      exact ih (i + 1) ⟨top', rest, positions⟩ h

theorem parseLoop_inv {src : List Kind} {i : Nat} {ps ps' : PState w} (h : Inv ps)
    (hl : parseLoop src i ps = .ok ps') : Inv ps' := by
  have := parseLoop_spec src i ps h
  rw [hl] at this
  exact this.1

theorem parseLoop_append (a b : List Kind) : ∀ (i : Nat) (ps : PState w),
    parseLoop (a ++ b) i ps =
      match parseLoop a i ps with
      | .error e => .error e
      | .ok ps' => parseLoop b (i + a.length) ps' := by
  induction a with
  | nil => intro i ps; simp [parseLoop]
  | cons k ks ih =>
    intro i ps
    simp only [List.cons_append, parseLoop, List.length_cons]
    cases parseStep ps i k with
    | error e => rfl
    | ok ps' => simp only [ih]; rw [Nat.add_assoc, Nat.add_comm 1]

theorem parse_eq (src : List Kind) :
    Ir.parse (w := w) src =
      match parseLoop src 0 (ps0 : PState w) with
      | .error e => .error e
      | .ok ps =>
        match ps.rest, ps.positions with
        | [], _ => .ok { shift := ps.top.shift, insts := (pushAdds ps.top.rinsts (bsorted ps.top.buff)).reverse }
        | _ :: _, p :: _ => .error { kind := .loopNotClosed, position := p }
        | _ :: _, [] => .error { kind := .loopNotClosed, position := 0 } := rfl

theorem parse_spec (src : List Kind) :
    match Ir.parse (w := w) src with
    | .ok _ => Balanced src
    | .error e => ¬ Balanced src ∧ e = specError src ∧
        (match firstUnmatchedClose src with
         | some i => e = ⟨.loopNotOpened, i⟩
         | none => ∃ j, innermostUnclosed src = some j ∧ e = ⟨.loopNotClosed, j⟩) := by
  have h := parseLoop_spec src 0 (ps0 : PState w) inv_ps0
  rw [parse_eq]
  unfold Balanced specError firstUnmatchedClose innermostUnclosed
  cases hl : parseLoop src 0 (ps0 : PState w) with
  | error e =>
    rw [hl] at h
    obtain ⟨h1, h2, h3, h4⟩ := h
    simp only [ps0, List.length_nil] at h2 h3 h4
    obtain ⟨kind, pos⟩ := e
    simp only at h1 h4
    subst h1
    simp [h3, h4]
  | ok ps =>
    rw [hl] at h
    obtain ⟨h1, h2, h3, h4⟩ := h
    simp only [ps0, List.length_nil] at h2 h3 h4
    obtain ⟨top, rest, positions⟩ := ps
    unfold Inv at h1
    simp only at h1 h2 h3 h4
    cases rest with
    | nil =>
      cases positions with
      | nil => simpa using h3
      | cons p poss => simp at h1
    | cons par rest' =>
      cases positions with
      | nil => simp at h1
      | cons p poss => simp [h2, h3, h4]

def mirror (k : Kind) : Kind :=
  match k with
  | .open => .close
  | .close => .open
  | k => k

theorem mirror_other {k : Kind} (ho : k ≠ .open) (hc : k ≠ .close) : mirror k = k := by
  cases k <;> first | rfl | contradiction

/-- `Bf.tree` reads the text backwards (`Bf.treeRev` on `src.reverse`), where a `]` opens and a `[`
closes.  That scan walks the same depth path in reverse, so it stays non-negative. -/
theorem depthScan_reverse (src : List Kind) : ∀ d e,
    depthScan src d = some e ↔ depthScan (src.reverse.map mirror) e = some d := by
  induction src with
  | nil => intro d e; simp [depthScan, eq_comm]
  | cons k ks ih =>
    intro d e
    simp only [List.reverse_cons, List.map_append, List.map_cons, List.map_nil, depthScan_append]
    cases k using bracketCases with
    | opn =>
      simp only [depthScan, mirror]
      rw [ih]
      cases depthScan (ks.reverse.map mirror) e with
      | none => simp
      | some m => cases m <;> simp
    | cls =>
      simp only [depthScan, mirror]
      cases d with
      | zero =>
        cases depthScan (ks.reverse.map mirror) e <;> simp
      | succ d' =>
        simp only [ih]
        cases depthScan (ks.reverse.map mirror) e <;> simp
    | other k ho hc =>
      rw [depthScan_other ho hc, mirror_other ho hc, ih]
      cases depthScan (ks.reverse.map mirror) e <;> simp [depthScan]

theorem treeRev_other {k : Kind} (ho : k ≠ .open) (hc : k ≠ .close) (ks : List Kind) (cur : Prog)
    (stack : List Prog) : ∃ cur', Bf.treeRev (k :: ks) cur stack = Bf.treeRev ks cur' stack := by
  cases k <;> first | contradiction | exact ⟨_, rfl⟩

theorem treeRev_isSome (ks : List Kind) : ∀ (cur : Prog) (stack : List Prog),
    (Bf.treeRev ks cur stack).isSome ↔ depthScan (ks.map mirror) stack.length = some 0 := by
  induction ks with
  | nil => intro cur stack; cases stack <;> simp [Bf.treeRev, depthScan]
  | cons k ks ih =>
    intro cur stack
    cases k using bracketCases with
    | opn =>
      cases stack with
      | nil => simp [Bf.treeRev, mirror, depthScan]
      | cons outer stack' => exact ih _ stack'
    | cls => exact ih .nil (cur :: stack)
    | other k ho hc =>
      obtain ⟨cur', e⟩ := treeRev_other ho hc ks cur stack
      rw [e, List.map_cons, mirror_other ho hc, depthScan_other ho hc]
      exact ih cur' stack

theorem strip_cons_comment (ks : List Kind) : strip (.comment :: ks) = strip ks := by
  simp [strip]

theorem strip_cons_of_ne {k : Kind} (h : k ≠ .comment) (ks : List Kind) :
    strip (k :: ks) = k :: strip ks := by
  simp [strip, h]

theorem strip_append (a b : List Kind) : strip (a ++ b) = strip a ++ strip b := by
  simp [strip]

theorem strip_reverse (a : List Kind) : strip a.reverse = (strip a).reverse := by
  simp [strip]

theorem strip_strip (a : List Kind) : strip (strip a) = strip a := by
  simp [strip]

theorem treeRev_strip (ks : List Kind) : ∀ (cur : Prog) (stack : List Prog),
    Bf.treeRev (strip ks) cur stack = Bf.treeRev ks cur stack := by
  induction ks with
  | nil => intro cur stack; rfl
  | cons k ks ih =>
    intro cur stack
    cases k
    case comment => rw [strip_cons_comment, ih]; rfl
    all_goals
      rw [strip_cons_of_ne (by decide)]
      simp only [Bf.treeRev]
      first
        | exact ih _ _
        | (cases stack with
           | nil => rfl
           | cons o st => exact ih _ _)

theorem parseStep_comment (ps : PState w) (i : Nat) : parseStep ps i .comment = .ok ps := rfl

def mapPos (f : Nat → Nat) (ps : PState w) : PState w := { ps with positions := ps.positions.map f }

def mapRes (f : Nat → Nat) : Except ParseErr (PState w) → Except ParseErr (PState w)
  | .ok ps => .ok (mapPos f ps)
  | .error e => .error ⟨e.kind, f e.position⟩

def mapErr {α : Type} (f : Nat → Nat) : Except ParseErr α → Except ParseErr α
  | .ok a => .ok a
  | .error e => .error ⟨e.kind, f e.position⟩

/-- `parseStep` uses the character index only to record it. -/
theorem parseStep_mapPos (f : Nat → Nat) (ps : PState w) (i : Nat) (k : Kind) :
    parseStep (mapPos f ps) (f i) k = mapRes f (parseStep ps i k) := by
  obtain ⟨top, rest, positions⟩ := ps
  cases k <;> simp only [parseStep, mapPos, mapRes, List.map_cons]
  cases positions with
  | nil => rfl
  | cons p poss =>
    cases rest with
    | nil => rfl
    | cons par rest' => rfl

/-- Index in `strip src` of the character that has index `p` in `src`. -/
def newIdx (src : List Kind) (p : Nat) : Nat := (strip (src.take p)).length

theorem newIdx_cons_comment (ks : List Kind) (n : Nat) : newIdx (.comment :: ks) (n + 1) = newIdx ks n := by
  simp only [newIdx, List.take_succ_cons, strip_cons_comment]

theorem newIdx_cons_of_ne {k : Kind} (h : k ≠ .comment) (ks : List Kind) (n : Nat) :
    newIdx (k :: ks) (n + 1) = newIdx ks n + 1 := by
  simp only [newIdx, List.take_succ_cons, strip_cons_of_ne h, List.length_cons]

/-- `f` is fixed before the induction while `src`, `i`, `j` move: the positions already on the stack
are renamed by that same `f`, and the hypothesis constrains it only on the indices from `i` on. -/
theorem parseLoop_strip_gen (f : Nat → Nat) (src : List Kind) : ∀ (i j : Nat) (ps : PState w),
    (∀ n, f (i + n) = j + newIdx src n) →
    parseLoop (strip src) j (mapPos f ps) = mapRes f (parseLoop src i ps) := by
  induction src with
  | nil => intro i j ps _; rfl
  | cons k ks ih =>
    intro i j ps hf
    by_cases hk : k = .comment
    · subst hk
      rw [strip_cons_comment]
      exact ih (i + 1) j ps fun n => by rw [Nat.add_right_comm, Nat.add_assoc, hf, newIdx_cons_comment]
    · have h0 : f i = j := hf 0
      rw [strip_cons_of_ne hk, parseLoop, parseLoop, ← h0, parseStep_mapPos]
      cases parseStep ps i k with
      | error e => rfl
      | ok ps' =>
        exact ih (i + 1) (f i + 1) ps' fun n => by
          rw [Nat.add_right_comm, Nat.add_assoc, hf, newIdx_cons_of_ne hk, h0]
          omega

theorem parseLoop_strip (src : List Kind) :
    parseLoop (strip src) 0 (ps0 : PState w) = mapRes (newIdx src) (parseLoop src 0 ps0) :=
  parseLoop_strip_gen (newIdx src) src 0 0 ps0 fun n => by rw [Nat.zero_add, Nat.zero_add]

theorem parse_strip (src : List Kind) :
    Ir.parse (w := w) (strip src) = mapErr (newIdx src) (Ir.parse src) := by
  rw [parse_eq, parse_eq, parseLoop_strip]
  cases parseLoop src 0 (ps0 : PState w) with
  | error e => rfl
  | ok ps =>
    obtain ⟨top, rest, positions⟩ := ps
    cases rest with
    | nil => rfl
    | cons par rest' =>
      cases positions with
      | nil => rfl
      | cons p poss => rfl

theorem parse_err_kind_strip (src : List Kind) (k : ErrKind) :
    (∃ i, Ir.parse (w := w) src = .error ⟨k, i⟩) ↔ ∃ j, Ir.parse (w := w) (strip src) = .error ⟨k, j⟩ := by
  rw [parse_strip]
  cases Ir.parse (w := w) src with
  | ok b => exact ⟨fun ⟨_, h⟩ => (nomatch h), fun ⟨_, h⟩ => (nomatch h)⟩
  | error e =>
    obtain ⟨k', p⟩ := e
    constructor
    · rintro ⟨i, h⟩
      cases h
      exact ⟨_, rfl⟩
    · rintro ⟨j, h⟩
      cases h
      exact ⟨_, rfl⟩

/-- Common form of `Kind.ofChar` (on the code point) and `Kind.ofByte` (on the byte value). -/
def kindOfNat (n : Nat) : Kind :=
  if n = 43 then .inc else if n = 45 then .dec else if n = 60 then .left
  else if n = 62 then .right else if n = 44 then .inp else if n = 46 then .out
  else if n = 91 then .open else if n = 93 then .close else .comment

theorem char_eq_iff (c d : Char) : c = d ↔ c.val.toNat = d.val.toNat := by
  rw [Char.ext_iff, ← UInt32.toNat_inj]

theorem ofChar_eq (c : Char) : Kind.ofChar c = kindOfNat c.val.toNat := by
  simp only [Kind.ofChar, kindOfNat, char_eq_iff]
  rfl

theorem ofByte_eq (b : UInt8) : Kind.ofByte b = kindOfNat b.toNat := by
  simp only [Kind.ofByte, kindOfNat, ← UInt8.toNat_inj]
  rfl

theorem kindOfNat_high {n : Nat} (h : 128 ≤ n) : kindOfNat n = .comment := by
  unfold kindOfNat
  iterate 8 rw [if_neg (by omega)]

/-- `x % m + b` is the shape of the lead and continuation bytes in `String.utf8EncodeChar`
(`m, b` = 64, 128 / 32, 192 / 16, 224 / 8, 240). -/
theorem ofByte_high (x m b : Nat) (hm : 0 < m := by decide) (hb : 128 ≤ b := by decide)
    (hmb : m + b ≤ 256 := by decide) :
    Kind.ofByte (UInt8.ofNat (x % m + b)) = .comment := by
  rw [ofByte_eq, UInt8.toNat_ofNat']
  have := Nat.mod_lt x hm
  exact kindOfNat_high (by omega)

/-- Every byte of a multi-byte encoding is ≥ 0x80, all eight command bytes are < 0x80, and an ASCII
char is encoded as itself. -/
theorem utf8_kinds_char (c : Char) :
    strip ((String.utf8EncodeChar c).map Kind.ofByte) = strip [Kind.ofChar c] := by
  simp only [String.utf8EncodeChar, ofChar_eq]
  split
  · rename_i h
    simp only [List.map_cons, List.map_nil, ofByte_eq, UInt8.toNat_ofNat']
    rw [Nat.mod_eq_of_lt (by omega)]
  · rename_i h
    rw [kindOfNat_high (n := c.val.toNat) (by omega)]
    split
    · simp only [List.map_cons, List.map_nil, ofByte_high _ 64 128, ofByte_high _ 32 192]
      rfl
    · split
      · simp only [List.map_cons, List.map_nil, ofByte_high _ 64 128, ofByte_high _ 16 224]
        rfl
      · simp only [List.map_cons, List.map_nil, ofByte_high _ 64 128, ofByte_high _ 8 240]
        rfl

theorem utf8_kinds_list (l : List Char) :
    strip ((l.flatMap String.utf8EncodeChar).map Kind.ofByte) = strip (l.map Kind.ofChar) := by
  induction l with
  | nil => rfl
  | cons c l ih =>
    rw [List.flatMap_cons, List.map_append, strip_append, ih, utf8_kinds_char, ← strip_append]
    rfl

theorem ByteArray_toList_loop (bs : ByteArray) (i : Nat) (r : List UInt8) :
    ByteArray.toList.loop bs i r = r.reverse ++ bs.data.toList.drop i := by
  obtain ⟨arr⟩ := bs
  fun_induction ByteArray.toList.loop ⟨arr⟩ i r with
  | case1 i r h ih =>
    rw [ih]
    have hi : i < arr.toList.length := by rw [Array.length_toList]; exact h
    rw [List.drop_eq_getElem_cons hi]
    have hg : ByteArray.get! ⟨arr⟩ i = arr[i]! := rfl
    have hi' : i < arr.size := h
    simp [hg, getElem!_pos arr i hi']
  | case2 i r h =>
    have hi : arr.toList.length ≤ i := by rw [Array.length_toList]; exact Nat.le_of_not_lt h
    simp [List.drop_eq_nil_of_le hi]

theorem ByteArray_toList (bs : ByteArray) : bs.toList = bs.data.toList := by
  simp [ByteArray.toList, ByteArray_toList_loop]

theorem toUTF8_toList (s : String) : s.toUTF8.toList = s.toList.flatMap String.utf8EncodeChar := by
  rw [ByteArray_toList, String.toUTF8_eq_toByteArray, ← String.utf8Encode_toList, List.utf8Encode,
    List.data_toByteArray]

theorem parseLoop_take_drop (src : List Kind) (n : Nat) (hn : n ≤ src.length) (ps : PState w) :
    parseLoop src 0 ps =
      match parseLoop (src.take n) 0 ps with
      | .error e => .error e
      | .ok ps' => parseLoop (src.drop n) n ps' := by
  have h := parseLoop_append (src.take n) (src.drop n) 0 ps
  rw [List.take_append_drop] at h
  rw [h, List.length_take, Nat.min_eq_left hn, Nat.zero_add]

def errOf {α : Type} : Except ParseErr α → Option ParseErr
  | .ok _ => none
  | .error e => some e

/-- classified characters of a string (what `Program::parse` sees) -/
def kindsOfString (s : String) : List Kind := s.toList.map Kind.ofChar

/-- classified bytes of a string (what the in-place interpreter sees) -/
def kindsOfBytes (s : String) : List Kind := s.toUTF8.toList.map Kind.ofByte

end C12
end Hpbf
