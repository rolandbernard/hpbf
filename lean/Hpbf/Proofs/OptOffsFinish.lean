/-
`loopInsideIf` and `finishLoop` (the `Loop`/`If` arm of `rebuild_block` after the body has been rebuilt) satisfy
`FinRes`: whatever the optimizer does with the block (drop it, inline it, replace it by an assignment, emit it as
a loop, wrap it into an `if`), the emitted drift plus the shift absorbed into later names is paid for by the
drift of the body plus the shift of the block.
-/
import Hpbf.Proofs.OptOffsBlock
import Hpbf.Proofs.OptRbCanon5

namespace Hpbf.OptOffs
open Hpbf Opt Ir
open Hpbf.OptLoop (VarsIn varsIn_iff)
open Hpbf.OptProof (liiHead loopInsideIf_eq run_pure run_bind_ok removePending_snd)

variable {w : Nat}

structure FinRes (R g0 : Nat) (s sub s' : Rebuild w) : Prop where
  inv : Inv R g0 s'
  slack : driftL s'.insts + (s'.shift - s.shift).natAbs
    ≤ driftL s.insts + driftL sub.insts + (sub.shift - s.shift).natAbs

/-- `hcase`: motion is attempted only when the body does not move the pointer; otherwise `after` is empty. -/
theorem loopInsideIf_step {R g0 : Nat} {s sub : Rebuild w} (ps : List (Rebuild w)) {cond : Int}
    (loopAnal : OptLoop w) {after : Calcs w} (constant : List Int) (hi : Inv R g0 s)
    (hsub : Inv R (g0 + driftL s.insts) sub) (hc : NB R (g0 + driftL s.insts) cond)
    (hafter : CalcsOk R (g0 + driftL s.insts + driftL sub.insts) after)
    (hcase : after = [] ∨ sub.shift = s.shift)
    {os os' : Orders} {s' : Rebuild w}
    (h : (loopInsideIf s ps sub cond loopAnal after constant).run os = .ok (s', os')) :
    FinRes R g0 s sub s' := by
  rw [loopInsideIf_eq, run_bind_ok] at h
  obtain ⟨s1, os1, h1, h2⟩ := h
  have key : Inv R g0 s1 ∧ CalcsOk R (g0 + driftL s1.insts) after ∧
      driftL s1.insts + (s1.shift - s.shift).natAbs
        ≤ driftL s.insts + driftL sub.insts + (sub.shift - s.shift).natAbs := by
    unfold liiHead at h1
    split at h1
    · obtain ⟨a, b, c⟩ := inline_step ps hi hsub h1
      refine ⟨a, by rw [b, ← Nat.add_assoc]; exact hafter, ?_⟩
      rcases c with c | c
      · rw [b, c]
      · rw [b, c]; omega
    · split at h1
      · rename_i hcond
        simp only [Bool.and_eq_true, List.isEmpty_iff] at hcond
        have hd : driftL sub.insts = 0 := by rw [hcond.1.1.2]; rfl
        have hp := performAll_step ps hi (shift := 0) (calcs := [(cond, Expr.val 0#w)]) (calcsOk_shift0 (by
          intro ve hve
          simp only [List.mem_singleton] at hve
          subst hve
          exact ⟨hc, varsIn_val (0#w)⟩)) h1
        refine ⟨hp.inv, ?_, ?_⟩
        · rw [hp.keep.drift]
          rw [hd, Nat.add_zero] at hafter; exact hafter
        · rw [hp.keep.drift, hp.keep.shift]; omega
      · obtain ⟨a, b, c⟩ := loopOrIf_step ps true loopAnal constant hi hsub hc h1
        refine ⟨a, ?_, by rw [b, c]; omega⟩
        rcases hcase with e | e
        · rw [e]; exact fun ve hve => by cases hve
        · rw [b, e]
          simp only [Int.sub_self, Int.natAbs_zero, Nat.add_zero]
          rw [← Nat.add_assoc]; exact hafter
  obtain ⟨k1, k2, k3⟩ := key
  have hp := performAll_step ps k1 (shift := 0) (calcsOk_shift0 k2) h2
  exact ⟨hp.inv, by rw [hp.keep.drift, hp.keep.shift]; exact k3⟩

structure MAcc (R g : Nat) (sub : Rebuild w) (acc : Rebuild w × Calcs w × Calcs w × Calcs w) : Prop where
  step : PStep sub acc.1
  before : CalcsOk R g acc.2.1
  perform : CalcsOk R g acc.2.2.1
  after : CalcsOk R g acc.2.2.2

theorem calcsOk_pushOpt {R g : Nat} {calcs : Calcs w} {var : Int} {o : Option (Expr w)} (h : CalcsOk R g calcs)
    (hv : NB R g var) (ho : ∀ e, o = some e → VarsIn (NB R g) e) : CalcsOk R g (OptLoop.pushOpt calcs var o) := by
  cases o with
  | none => exact h
  | some e =>
    intro ve hve
    rcases List.mem_append.1 hve with h1 | h1
    · exact h ve h1
    · simp only [List.mem_singleton] at h1
      subst h1; exact ⟨hv, ho e rfl⟩

theorem motionStep_spec {R g : Nat} {s : Rebuild w} {ps : List (Rebuild w)} {sub : Rebuild w}
    {possibleReads constant : List Int} {linear : List (Int × Expr w)} {pendingSet : List Int}
    {loopAnal : OptLoop w} (hp : PendOk R g sub.pending) (hl : LinOk (NB R g) linear)
    (hL : ExprOk (NB R g) loopAnal)
    {acc acc' : Rebuild w × Calcs w × Calcs w × Calcs w} {var : Int} {os os' : Orders}
    (ha : MAcc R g sub acc)
    (h : (OptLoop.motionStepM s ps possibleReads constant linear pendingSet loopAnal acc var).run os
      = .ok (acc', os')) :
    MAcc R g sub acc' := by
  obtain ⟨sb, before, toPerform, after⟩ := acc
  obtain ⟨_, sb2, p, b, d, a, hrm, hlm, rfl⟩ :=
    OptLoop.motionStepM_ok s ps _ _ _ _ _ sb before toPerform after var os os' acc' h
  have hps := removePending_pstep sb var
  have hsnd := removePending_snd sb var
  rw [hrm] at hps hsnd
  have hmem : (var, p) ∈ sub.pending := ha.step.sub.subset (OptLoop.mem_of_mGet hsnd.symm)
  obtain ⟨hv, hpv⟩ := hp _ hmem
  obtain ⟨r1, r2, r3⟩ := loopMotion_ok (S := NB R g) hv hpv hl hL hlm
  exact ⟨ha.step.trans hps, calcsOk_pushOpt ha.before hv r1, calcsOk_pushOpt ha.perform hv r2,
    OptLoop.prop_ite (calcsOk_pushOpt ha.after hv r3) ha.after⟩

theorem finishMotionK_spec {R gs : Nat} {s : Rebuild w} (ps : List (Rebuild w)) {sub : Rebuild w} {cond : Int}
    {loopAnal : OptLoop w} {k : OptProof.MidRes w → M (Rebuild w)} (hsub : Inv R gs sub)
    (hL : ExprOk (NB R (gs + driftL sub.insts)) loopAnal) {os os' : Orders} {s' : Rebuild w}
    (h : (OptProof.finishMotionK s ps sub cond loopAnal k).run os = .ok (s', os')) :
    ∃ r os1, KStep R gs sub r.1 ∧ CalcsOk R (gs + driftL sub.insts) r.2.1 ∧
      CalcsOk R (gs + driftL sub.insts) r.2.2.1 ∧ (k r).run os1 = .ok (s', os') := by
  unfold OptProof.finishMotionK at h
  simp only at h
  rw [run_bind_ok] at h
  obtain ⟨constant, os1, _, h2⟩ := h
  rw [run_bind_ok] at h2
  obtain ⟨acc, os2, h3, h4⟩ := h2
  rw [run_bind_ok] at h4
  obtain ⟨sub2, os3, h5, h6⟩ := h4
  rw [pure_bind] at h6
  have hl := linearAmong_varsIn (S := NB R (gs + driftL sub.insts)) s ps sub constant
    (sIns (possibleReads sub) cond ++ pendingSorted sub sub)
    (fun kv hkv => (hsub.pend kv hkv).2) hsub.writ
  have hacc : MAcc R (gs + driftL sub.insts) sub acc := by
    refine OptProof.foldlM_inv (fun acc _ => MAcc R (gs + driftL sub.insts) sub acc) _ _ ?_
      ⟨PStep.refl _, fun _ h => (by cases h), fun _ h => (by cases h), fun _ h => (by cases h)⟩ h3
    intro a v osa b osb _ ha hstep
    exact motionStep_spec hsub.pend hl hL ha hstep
  have hi2 := hacc.step.inv hsub
  have hp := performAll_step (s :: ps) hi2 (shift := 0) (calcs := acc.2.2.1)
    (calcsOk_shift0 (by rw [hacc.step.insts]; exact hacc.perform)) h5
  exact ⟨_, os3, ⟨hp.inv, hacc.step.keep.trans hp.keep⟩, hacc.before, hacc.after, h6⟩

theorem finRes_of {R g0 : Nat} {s s1 sub sub1 s' : Rebuild w} (h : FinRes R g0 s1 sub1 s')
    (hd : driftL s1.insts = driftL s.insts) (hs : s1.shift = s.shift)
    (hd' : driftL sub1.insts = driftL sub.insts) (hs' : sub1.shift = sub.shift) : FinRes R g0 s sub s' :=
  ⟨h.inv, by have := h.slack; rw [hd, hs, hd', hs'] at this; exact this⟩

theorem finishEnd_spec {R g0 : Nat} {s sub : Rebuild w} (ps : List (Rebuild w)) {cond : Int}
    (loopAnal : OptLoop w) {r : Rebuild w × Calcs w × Calcs w × List Int} (hi : Inv R g0 s)
    (hc : NB R (g0 + driftL s.insts) cond)
    (hr : KStep R (g0 + driftL s.insts) sub r.1)
    (hbefore : CalcsOk R (g0 + driftL s.insts + driftL sub.insts) r.2.1)
    (hafter : CalcsOk R (g0 + driftL s.insts + driftL sub.insts) r.2.2.1)
    (hcase : r.2.2.1 = [] ∨ sub.shift = s.shift)
    {os os' : Orders} {s' : Rebuild w}
    (h : (OptProof.finishEnd s ps cond loopAnal r).run os = .ok (s', os')) : FinRes R g0 s sub s' := by
  obtain ⟨sub1, before, after, constant⟩ := r
  unfold OptProof.finishEnd at h
  simp only at h hr hbefore hafter hcase
  rw [run_bind_ok] at h
  obtain ⟨s1, os1, h1, h2⟩ := h
  have hp := performAll_step ps hi (shift := 0) (calcs := before)
    (calcsOk_shift0 (hbefore.anti (Nat.le_add_right _ _))) h1
  have hd1 : driftL s1.insts = driftL s.insts := hp.keep.drift
  have hs1 : s1.shift = s.shift := hp.keep.shift
  have hf : Inv R (g0 + driftL s1.insts) (forgetParent sub1) := by
    rw [hd1]; exact hr.inv.of_eq rfl rfl rfl rfl
  have hfd : driftL (forgetParent sub1).insts = driftL sub.insts := hr.keep.drift
  have hfs : (forgetParent sub1).shift = sub.shift := hr.keep.shift
  have hc1 : NB R (g0 + driftL s1.insts) cond := by rw [hd1]; exact hc
  have hafter1 : CalcsOk R (g0 + driftL s1.insts + driftL (forgetParent sub1).insts) after := by
    rw [hd1, hfd]; exact hafter
  have hcase1 : after = [] ∨ (forgetParent sub1).shift = s1.shift := by
    rw [hfs, hs1]; exact hcase
  split at h2
  · exact finRes_of (loopInsideIf_step ps loopAnal constant hp.inv hf hc1 hafter1 hcase1 h2) hd1 hs1 hfd hfs
  · rw [run_bind_ok] at h2
    obtain ⟨ifState, os2, h3, h4⟩ := h2
    have hnew : Inv R (g0 + driftL s1.insts) (Rebuild.new s1.shift (some cond) .unknown none : Rebuild w) :=
      inv_new _ _ _ _ _ _
    have hnd : driftL (Rebuild.new s1.shift (some cond) OptParent.unknown none : Rebuild w).insts = 0 := rfl
    have hif := loopInsideIf_step (s := Rebuild.new s1.shift (some cond) .unknown none) []
      loopAnal.toAtLeastOnce constant hnew (by rw [hnd, Nat.add_zero]; exact hf)
      (by rw [hnd, Nat.add_zero]; exact hc1) (by rw [hnd, Nat.add_zero]; exact hafter1) hcase1 h3
    obtain ⟨a, b, c⟩ := loopOrIf_step ps false loopAnal.toAtMostOnce constant hp.inv hif.inv hc1 h4
    refine ⟨a, ?_⟩
    have hsl := hif.slack
    rw [hnd, hfd, hfs] at hsl
    have e1 : (Rebuild.new s1.shift (some cond) OptParent.unknown none : Rebuild w).shift = s1.shift := rfl
    rw [e1, hs1] at hsl
    rw [b, c, hd1, hs1]
    omega

theorem finishLoop_step {R g0 : Nat} {s sub : Rebuild w} (ps : List (Rebuild w)) {cond : Int} (isLoop : Bool)
    (hi : Inv R g0 s) (hsub : Inv R (g0 + driftL s.insts) sub) (hc : NB R (g0 + driftL s.insts) cond)
    {os os' : Orders} {s' : Rebuild w}
    (h : (finishLoop s ps sub cond isLoop).run os = .ok (s', os')) : FinRes R g0 s sub s' := by
  rw [OptProof.finishLoop_cut] at h
  split at h
  · simp only [run_pure, Except.ok.injEq, Prod.mk.injEq] at h
    rw [← h.1]
    exact ⟨hi, by omega⟩
  · split at h
    · rw [pure_bind] at h
      exact finishEnd_spec ps _ hi hc (KStep.refl hsub) (fun _ h => (by cases h)) (fun _ h => (by cases h))
        (Or.inl rfl) h
    · rename_i hns
      simp only [Bool.or_eq_true, bne_iff_ne, ne_eq, not_or, Bool.not_eq_true, Decidable.not_not] at hns
      have hflat : driftL sub.insts = 0 := hsub.flat hns.1
      have hL : ExprOk (NB R (g0 + driftL s.insts + driftL sub.insts))
          (analyzeLoop s ps sub cond isLoop) :=
        analyzeLoop_exprOk s ps sub isLoop (by rw [hflat, Nat.add_zero]; exact hc)
      obtain ⟨r, os1, a, b, c, h2⟩ := finishMotionK_spec ps hsub hL h
      exact finishEnd_spec ps _ hi hc a b c (Or.inr hns.2) h2

end Hpbf.OptOffs
