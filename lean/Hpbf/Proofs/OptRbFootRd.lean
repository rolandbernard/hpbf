/-
The footprint as ONE account, and the two-run statements as its corollaries.

What `reads` and `written` claim about emitted code is stated once, about a single run: a cell that is not in `reads`
afterwards and was not definitely written before is not EXPOSED (read before it is written), and a cell that becomes
definitely written is really touched.  `RdC E s s' comps` says this of emitted `calc` groups (`ExposesC` / `ThruC`),
`RdAll s s' new` of emitted code (`Exposes` / `Thru`, for runs that do not reach a `once` loop with a zero condition).
Every statement about TWO runs that agree on what is read follows through `OptRbAgree.lean`: the agreement of the
memories after the groups (`RdC.agree_thru`), the mirrored runs `FootStepV` (`RdAll.footStepV`,
`RdAll.footStep`) and the mirrored badness `FootBadV` (`footBadV_of_rdAll`), for every notion of validity that
excludes `Bad`; a valid state of a simulated step is such a state (`StepNG.notBad`).
-/
import Hpbf.Proofs.OptRbAgree
import Hpbf.Proofs.OptRbLoopDefs

namespace Hpbf
namespace OptProof
open Opt OptSem Ir

variable {w : Nat}

theorem exec_calcs_fin {comps : List (List (Int × Expr w))} {σ σ' : State w}
    (h : Exec (comps.map Instr.calc) σ (.fin σ')) : σ' = comps.foldl doCalc σ := by
  rcases (atomic_calcs comps σ _).1 h with h | ⟨_, h | h⟩ | ⟨_, h⟩
  · cases h
  · cases h; rfl
  · cases h
  · cases h

theorem exec_calcs_run (comps : List (List (Int × Expr w))) (σ : State w) :
    Exec (comps.map Instr.calc) σ (.fin (comps.foldl doCalc σ)) := by
  have := (exec_calcs_iff comps [] σ (.fin (comps.foldl doCalc σ))).2 (Exec.nil _)
  rwa [List.append_nil] at this

theorem AgreeOff.toAbs {K : Int → Prop} {σ1 σ2 : State w} (h : AgreeOff K σ1 σ2) :
    AgreeAbs (fun a => K (a - σ1.ptr)) σ1 σ2 := by
  refine ⟨h.1, h.2.1, h.2.2.1, ?_⟩
  intro a ha
  have h1 : σ1.tape.get (σ1.ptr + (a - σ1.ptr)) = σ2.tape.get (σ2.ptr + (a - σ1.ptr)) :=
    h.2.2.2 (a - σ1.ptr) ha
  have e1 : σ1.ptr + (a - σ1.ptr) = a := by omega
  have e2 : σ2.ptr + (a - σ1.ptr) = a := by rw [← h.1]; omega
  rw [e1, e2] at h1
  exact h1

/-- `E`: cells recorded as written before the instruction that writes them has run (the groups need not touch
them). -/
def RdC (E : Int → Prop) (s s' : Rebuild w) (comps : List (List (Int × Expr w))) : Prop :=
  s'.subShift = false →
    (∀ v, v ∉ s'.reads → ¬ DefW s v → ¬ ExposesC v comps) ∧
    (∀ v, DefW s' v → ¬ DefW s v → ¬ E v → ¬ ThruC v comps)

theorem RdC.refl (E : Int → Prop) (s : Rebuild w) : RdC E s s [] :=
  fun _ => ⟨fun _ _ _ h => h, fun _ h1 h2 _ _ => h2 h1⟩

theorem RdC.weaken {E E' : Int → Prop} {s s' : Rebuild w} {comps : List (List (Int × Expr w))}
    (h : RdC E s s' comps) (hE : ∀ v, E v → E' v) : RdC E' s s' comps :=
  fun hs => ⟨(h hs).1, fun v h1 h2 h3 => (h hs).2 v h1 h2 (fun he => h3 (hE v he))⟩

/-- `hE`: the later groups do not read the cells recorded early by the first step. -/
theorem RdC.trans {E1 E2 : Int → Prop} {a b c : Rebuild w} {c1 c2 : List (List (Int × Expr w))}
    (h1 : RdC E1 a b c1) (h2 : RdC E2 b c c2) (hm : ReadsMono b c) (hE : ∀ v, E1 v → ¬ ExposesC v c2) :
    RdC (fun v => E1 v ∨ E2 v) a c (c1 ++ c2) := by
  intro hs
  obtain ⟨r1, w1⟩ := h1 (hm.2 hs)
  obtain ⟨r2, w2⟩ := h2 hs
  refine ⟨?_, ?_⟩
  · intro v hv hd hex
    have hvb : v ∉ b.reads := fun h => hv (hm.1 v h)
    rcases exposesC_append.1 hex with h | ⟨hnw, h⟩
    · exact r1 v hvb hd h
    · by_cases hdb : DefW b v
      · by_cases he : E1 v
        · exact hE v he h
        · exact w1 v hdb hd he (thruC_of_not_exposesC hnw (r1 v hvb hd))
      · exact r2 v hv hdb h
  · intro v hdc hda he hthru
    obtain ⟨t1, t2⟩ := thruC_append.1 hthru
    by_cases hdb : DefW b v
    · exact w1 v hdb hda (fun h => he (Or.inl h)) t1
    · exact w2 v hdc hdb (fun h => he (Or.inr h)) t2

theorem RdC.trans0 {a b c : Rebuild w} {c1 c2 : List (List (Int × Expr w))}
    (h1 : RdC (fun _ => False) a b c1) (h2 : RdC (fun _ => False) b c c2) (hm : ReadsMono b c) :
    RdC (fun _ => False) a c (c1 ++ c2) :=
  (h1.trans h2 hm (fun _ h => h.elim)).weaken (fun _ h => h.elim id id)

theorem RdC.congr_left {E : Int → Prop} {s s0 s' : Rebuild w} {comps : List (List (Int × Expr w))}
    (hw : s0.written = s.written) (h : RdC E s0 s' comps) : RdC E s s' comps := by
  intro hs
  obtain ⟨r, wq⟩ := h hs
  exact ⟨fun v hv hd => r v hv (fun h' => hd ((DefW.congr hw v).1 h')),
    fun v h1 h2 => wq v h1 (fun h' => h2 ((DefW.congr hw v).1 h'))⟩

theorem RdC.congr_right {E : Int → Prop} {s s1 s' : Rebuild w} {comps : List (List (Int × Expr w))}
    (hw : s'.written = s1.written) (hr : ∀ v, v ∈ s1.reads → v ∈ s'.reads) (hs : s'.subShift = s1.subShift)
    (h : RdC E s s1 comps) : RdC E s s' comps := by
  intro hss
  obtain ⟨r, wq⟩ := h (by rw [← hs]; exact hss)
  exact ⟨fun v hv => r v (fun h' => hv (hr v h')), fun v h1 => wq v ((DefW.congr hw v).1 h1)⟩

theorem RdC.agree_thru {E : Int → Prop} {s s' : Rebuild w} {comps : List (List (Int × Expr w))}
    (h : RdC E s s' comps) (hs : s'.subShift = false) (K : Int → Prop) (hK : ∀ v, K v → v ∉ s'.reads)
    (σ1 σ2 : State w) (hag : AgreeOff (Rest K s) σ1 σ2) :
    AgreeOff (fun v => Rest K s v ∧ ThruC v comps) (comps.foldl doCalc σ1) (comps.foldl doCalc σ2) := by
  have hne : ∀ a, Rest K s (a - σ1.ptr) → ¬ Exposes a (comps.map Instr.calc) σ1 := by
    intro a hr he
    have e : σ1.ptr + (a - σ1.ptr) = a := by omega
    rw [← e, exposes_calcs_iff] at he
    exact (h hs).1 _ (hK _ hr.1) hr.2 he
  obtain ⟨y, hy, hxy⟩ := (sim_of_unexposed _ σ1 σ2 _ hag.toAbs hne).finL _ (exec_calcs_run comps σ1)
  cases exec_calcs_fin hy
  have hp : (comps.foldl doCalc σ1).ptr = σ1.ptr := (foldl_doCalc_meta comps σ1).1
  refine ⟨hxy.1, hxy.2.1, hxy.2.2.1, fun v hv => ?_⟩
  show (comps.foldl doCalc σ1).tape.get ((comps.foldl doCalc σ1).ptr + v) =
    (comps.foldl doCalc σ2).tape.get ((comps.foldl doCalc σ2).ptr + v)
  rw [← hxy.1]
  apply hxy.2.2.2
  rintro ⟨hr, ht⟩
  have e : (comps.foldl doCalc σ1).ptr + v - σ1.ptr = v := by rw [hp]; omega
  rw [e] at hr
  rw [hp] at ht
  exact hv ⟨hr, ((thru_calcs_iff comps σ1 _ v).1 ht).1⟩

/-- The one-run account of the code `new` appended between `s` and `s'`.  `rd`/`wr` speak of EVERY state from which
`new` does not go bad, not of valid ones: that is why the account composes (`RdAll.trans`) where `FootStepV (ValidG …)`
does not.  `ns` (no block moves the pointer) makes `σ.ptr + v` the same cell before and after (`thru_ptr`). -/
structure RdAll (s s' : Rebuild w) (new : List (Instr w)) : Prop where
  mono : ReadsMono s s'
  ns : s'.subShift = false → nsL new
  rd : s'.subShift = false → ∀ σ : State w, ¬ Bad new σ → ∀ v, v ∉ s'.reads → ¬ DefW s v →
    ¬ Exposes (σ.ptr + v) new σ
  wr : s'.subShift = false → ∀ σ σ1 : State w, ¬ Bad new σ → ∀ v, DefW s' v → ¬ DefW s v →
    ¬ Thru (σ.ptr + v) new σ σ1

theorem RdAll.refl (s : Rebuild w) : RdAll s s [] :=
  ⟨ReadsMono.refl s, fun _ => by simp [nsL], fun _ σ _ v _ _ h => not_exposes_nil _ σ h,
    fun _ _ _ _ _ h1 h2 _ => h2 h1⟩

theorem RdAll.void {s s' : Rebuild w} (hs : s'.subShift = true) (hm : ReadsMono s s') (new : List (Instr w)) :
    RdAll s s' new :=
  ⟨hm, fun h => absurd (hs.symm.trans h) (by simp), fun h => absurd (hs.symm.trans h) (by simp),
    fun h => absurd (hs.symm.trans h) (by simp)⟩

theorem RdAll.trans {a b c : Rebuild w} {n1 n2 : List (Instr w)} (h1 : RdAll a b n1) (h2 : RdAll b c n2) :
    RdAll a c (n1 ++ n2) := by
  refine ⟨h1.mono.trans h2.mono, fun hs => (nsL_append _ _).2 ⟨h1.ns (h2.mono.2 hs), h2.ns hs⟩, ?_, ?_⟩
  · intro hs σ hnb v hv hd hex
    have hsb := h2.mono.2 hs
    have hnb1 : ¬ Bad n1 σ := fun h => hnb (bad_append.2 (Or.inl h))
    rcases exposes_append hex with h | ⟨σ1, ht, he⟩
    · exact h1.rd hsb σ hnb1 v (fun h' => hv (h2.mono.1 v h')) hd h
    · have hnb2 : ¬ Bad n2 σ1 := fun h => hnb (bad_append.2 (Or.inr ⟨σ1, thru_exec ht, h⟩))
      by_cases hdb : DefW b v
      · exact h1.wr hsb σ σ1 hnb1 v hdb hd ht
      · have hp := thru_ptr ht (h1.ns hsb)
        rw [← hp] at he
        exact h2.rd hs σ1 hnb2 v hv hdb he
  · intro hs σ σ' hnb v hdc hda ht
    have hsb := h2.mono.2 hs
    have hnb1 : ¬ Bad n1 σ := fun h => hnb (bad_append.2 (Or.inl h))
    obtain ⟨σ1, t1, t2⟩ := thru_append ht
    have hnb2 : ¬ Bad n2 σ1 := fun h => hnb (bad_append.2 (Or.inr ⟨σ1, thru_exec t1, h⟩))
    by_cases hdb : DefW b v
    · exact h1.wr hsb σ σ1 hnb1 v hdb hda t1
    · have hp := thru_ptr t1 (h1.ns hsb)
      rw [← hp] at t2
      exact h2.wr hs σ1 σ' hnb2 v hdc hdb t2

theorem RdAll.congr {s s0 s1 s' : Rebuild w} {new : List (Instr w)} (h : RdAll s0 s1 new)
    (hw0 : s0.written = s.written) (hr0 : ∀ v, v ∈ s.reads → v ∈ s0.reads) (hs0 : s0.subShift = s.subShift)
    (hw1 : s'.written = s1.written) (hr1 : ∀ v, v ∈ s1.reads → v ∈ s'.reads) (hs1 : s'.subShift = s1.subShift) :
    RdAll s s' new := by
  refine ⟨⟨fun v hv => hr1 v (h.mono.1 v (hr0 v hv)), fun hh => by rw [← hs0]; exact h.mono.2 (by rw [← hs1]; exact hh)⟩,
    fun hh => h.ns (by rw [← hs1]; exact hh), ?_, ?_⟩
  · intro hh σ hnb v hv hd
    exact h.rd (by rw [← hs1]; exact hh) σ hnb v (fun h' => hv (hr1 v h')) (fun h' => hd ((DefW.congr hw0 v).1 h'))
  · intro hh σ σ1 hnb v hd' hd
    exact h.wr (by rw [← hs1]; exact hh) σ σ1 hnb v ((DefW.congr hw1 v).1 hd')
      (fun h' => hd ((DefW.congr hw0 v).1 h'))

theorem RdAll.of_same {s s' : Rebuild w} (hw : s'.written = s.written) (hr : ∀ v, v ∈ s.reads → v ∈ s'.reads)
    (hs : s'.subShift = s.subShift) : RdAll s s' [] :=
  (RdAll.refl s).congr rfl (fun _ h => h) rfl hw hr hs

/-- Groups, then more code: the general way to close a `RdC` step whose exceptions `E` are written by the code
that follows.  The point is the disjunction in `hT2`: a cell that `s'` records as definitely written and the groups
pass is either not yet recorded in `s1` or one of the exceptions `E`, and then `tail` must write it. -/
theorem RdAll.calcs_then {E : Int → Prop} {s s1 s' : Rebuild w} {comps : List (List (Int × Expr w))}
    {tail : List (Instr w)} (h : RdC E s s1 comps) (hm1 : ReadsMono s s1)
    (hm2 : ReadsMono s1 s') (hns : s'.subShift = false → nsL tail)
    (hT1 : s'.subShift = false → ∀ τ : State w, ¬ Bad tail τ → ∀ v, v ∉ s'.reads → ¬ DefW s v → ThruC v comps →
      ¬ Exposes (τ.ptr + v) tail τ)
    (hT2 : s'.subShift = false → ∀ τ τ1 : State w, ¬ Bad tail τ → ∀ v, DefW s' v → ¬ DefW s v →
      (¬ DefW s1 v ∨ E v) → ThruC v comps → ¬ Thru (τ.ptr + v) tail τ τ1) :
    RdAll s s' (comps.map Instr.calc ++ tail) := by
  refine ⟨hm1.trans hm2, fun hs => (nsL_append _ _).2 ⟨nsL_calcs comps, hns hs⟩, ?_, ?_⟩
  · intro hs σ hnb v hv hd hex
    obtain ⟨rd1, _⟩ := h (hm2.2 hs)
    have hnbT : ¬ Bad tail (comps.foldl doCalc σ) := fun hb => hnb ((bad_calcs_iff comps tail σ).2 hb)
    rcases exposes_append hex with h' | ⟨σ1, ht, he⟩
    · exact rd1 v (fun h'' => hv (hm2.1 v h'')) hd ((exposes_calcs_iff comps σ v).1 h')
    · obtain ⟨htc, e⟩ := (thru_calcs_iff comps σ σ1 v).1 ht
      subst e
      have hp : (comps.foldl doCalc σ).ptr = σ.ptr := (foldl_doCalc_meta comps σ).1
      rw [← hp] at he
      exact hT1 hs _ hnbT v hv hd htc he
  · intro hs σ σ' hnb v hd' hd ht
    obtain ⟨_, wr1⟩ := h (hm2.2 hs)
    have hnbT : ¬ Bad tail (comps.foldl doCalc σ) := fun hb => hnb ((bad_calcs_iff comps tail σ).2 hb)
    obtain ⟨σ1, t1, t2⟩ := thru_append ht
    obtain ⟨htc, e⟩ := (thru_calcs_iff comps σ σ1 v).1 t1
    subst e
    have hp : (comps.foldl doCalc σ).ptr = σ.ptr := (foldl_doCalc_meta comps σ).1
    rw [← hp] at t2
    by_cases hd1 : DefW s1 v
    · by_cases he : E v
      · exact hT2 hs _ σ' hnbT v hd' hd (Or.inr he) htc t2
      · exact wr1 v hd1 hd he htc
    · exact hT2 hs _ σ' hnbT v hd' hd (Or.inl hd1) htc t2

theorem RdAll.of_rdC {s s' : Rebuild w} {comps : List (List (Int × Expr w))}
    (h : RdC (fun _ => False) s s' comps) (hm : ReadsMono s s') :
    RdAll s s' (comps.map Instr.calc) := by
  have := RdAll.calcs_then (tail := []) h hm (ReadsMono.refl s') (fun _ => by simp [nsL])
    (fun _ τ _ v _ _ _ he => not_exposes_nil _ τ he)
    (fun _ τ τ1 _ v hd' _ hor _ _ => hor.elim (fun h' => h' hd') id)
  rw [List.append_nil] at this
  exact this

theorem RdAll.unexposed {s s' : Rebuild w} {new : List (Instr w)} (h : RdAll s s' new) (hs : s'.subShift = false)
    {K : Int → Prop} (hK : ∀ v, K v → v ∉ s'.reads) {σ1 : State w} (hnb : ¬ Bad new σ1) (a : Int)
    (hr : Rest K s (a - σ1.ptr)) : ¬ Exposes a new σ1 := by
  intro he
  have e : σ1.ptr + (a - σ1.ptr) = a := by omega
  rw [← e] at he
  exact h.rd hs σ1 hnb _ (hK _ hr.1) hr.2 he

theorem RdAll.footStepV {s s' : Rebuild w} {new : List (Instr w)} (h : RdAll s s' new) {V : State w → Prop}
    (hV : ∀ σ, V σ → ¬ Bad new σ) : FootStepV V s s' new := by
  intro hs K hK σ1 σ2 v1 hag
  have hnb := hV σ1 v1
  refine (sim_of_unexposed new σ1 σ2 _ hag.toAbs (h.unexposed hs hK hnb)).fin_strengthen.mono ?_
  rintro x y ⟨hxy, hex, _⟩
  have hpx : x.ptr = σ1.ptr := (phys_frame hex x rfl (h.ns hs)).1
  refine ⟨hxy.1, hxy.2.1, hxy.2.2.1, ?_⟩
  intro v hv
  show x.tape.get (x.ptr + v) = y.tape.get (y.ptr + v)
  rw [← hxy.1]
  apply hxy.2.2.2
  rintro ⟨hr, ht⟩
  have e : x.ptr + v - σ1.ptr = v := by rw [hpx]; omega
  rw [e] at hr
  rw [hpx] at ht
  by_cases hd : DefW s' v
  · exact h.wr hs σ1 x hnb v hd hr.2 ht
  · exact hv ⟨hr.1, hd⟩

theorem footBadV_of_rdAll {s s' : Rebuild w} {new : List (Instr w)} (h : RdAll s s' new)
    (V : State w → Prop) (hV : ∀ σ, V σ → ¬ Bad new σ) : FootBadV V s s' new :=
  fun hs _ hK σ1 _ hv hag hbad => bad_of_unexposed hbad _ σ1 hag.toAbs (h.unexposed hs hK (hV σ1 hv))

theorem StepNG.notBad {G : State w → Prop} {sh sh' : Int} {ps : List (Rebuild w)} {s s' : Rebuild w}
    {src new : List (Instr w)} (h : StepNG G sh sh' ps s s' src new) {σ : State w}
    (hv : ValidG G sh s ps σ) : ¬ Bad new σ := by
  obtain ⟨M0, σS, hrel, hg⟩ := hv
  exact (h.2 M0 σ σS hrel hg).2

/-- Code without blocks never goes `Bad`: the footprint holds from every state. -/
theorem RdAll.footStep {s s' : Rebuild w} {new : List (Instr w)} (h : RdAll s s' new)
    (hnb : ∀ i ∈ new, C01Dse.isBlock i = false) : FootStep s s' new :=
  fun hs K hK σ1 σ2 hag =>
    h.footStepV (V := fun _ => True) (fun σ _ => not_bad_of_noBlocks hnb σ) hs K hK σ1 σ2 trivial hag

end OptProof
end Hpbf

#print axioms Hpbf.OptProof.RdAll.footStepV
#print axioms Hpbf.OptProof.RdC.agree_thru
