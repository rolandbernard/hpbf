/-
Two step machines with fuel (`FuelRun`) related by a simulation: `lockstepQ` (step for step, same fuel) and `sim`
(either machine may take steps alone, and a step of one may answer several of the other).  Both conclude with a
relation `Q` between the machines' own outcomes, so what is carried to the end of the runs (final configurations,
traces, nothing about unfinished runs) is the caller's choice; `sim`'s conclusion composes by chaining the fuel.
Most users reach `sim` through the machines with an event trace of C01Sim (`Sim.Chunk`, `Simulation.chunkAB/BA`); only
C02Strip, C04 and C02EmitRun build a `FuelRun.Chunk` directly.
-/
import Hpbf.Proofs.Fuel

namespace Hpbf
namespace FuelRun

variable {C O C' O' : Type} {nx : C → C → Prop} {oof : C → O} {run : Nat → C → O}
  {nx' : C' → C' → Prop} {oof' : C' → O'} {run' : Nat → C' → O'}

theorem lockstepQ (M : FuelRun nx oof run) (M' : FuelRun nx' oof' run') {R : C → C' → Prop} {Q : O → O' → Prop}
    (hR : ∀ a b, R a b → (∃ a' b', nx a a' ∧ nx' b b' ∧ R a' b') ∨ ∀ f, Q (run (f + 1) a) (run' (f + 1) b))
    (h0 : ∀ a b, R a b → Q (oof a) (oof' b)) : ∀ f a b, R a b → Q (run f a) (run' f b) := by
  intro f
  induction f with
  | zero => intro a b h; rw [M.zero, M'.zero]; exact h0 a b h
  | succ f ih =>
    intro a b h
    rcases hR a b h with ⟨a', b', h1, h2, hr⟩ | hq
    · rw [M.next h1, M'.next h2]; exact ih a' b' hr
    · exact hq f

/-- What a pair of configurations, related when the first machine has fuel `f` left, must offer.  `sync`: `m` steps
of the first machine and `n` of the second lead to a pair related at the fuel that remains; when the first machine
does not move, `μ` falls (so the second cannot go on alone for ever); if the fuel ends inside the `m` steps, that run
is answered.  `last`: the run of the first machine from here is answered, which is what a pair about to terminate
proves directly.  A relation that does not mention the fuel is `fun _ => R`; one that does can say, for instance,
that a budget bounds it. -/
inductive Chunk (run : Nat → C → O) (oof : C → O) (run' : Nat → C' → O') (oof' : C' → O')
    (R : Nat → C → C' → Prop) (Q : O → O' → Prop) (μ : C → C' → Nat) (f : Nat) (a : C) (b : C') : Prop
  | sync (m n : Nat) (a' : C) (b' : C') : run m a = oof a' → run' n b = oof' b' → (m ≤ f → R (f - m) a' b') →
      (m = 0 → μ a' b' < μ a b) → (f < m → ∃ j, Q (run f a) (run' j b)) → Chunk run oof run' oof' R Q μ f a b
  | last : (∃ j, Q (run f a) (run' j b)) → Chunk run oof run' oof' R Q μ f a b

theorem sim (M : FuelRun nx oof run) (M' : FuelRun nx' oof' run') {R : Nat → C → C' → Prop} {Q : O → O' → Prop}
    {μ : C → C' → Nat} (hR : ∀ f a b, R f a b → Chunk run oof run' oof' R Q μ f a b) :
    ∀ f a b, R f a b → ∃ f', Q (run f a) (run' f' b) := by
  intro f
  induction f using Nat.strongRecOn with
  | _ f ih =>
    intro a b
    -- Outer induction on the fuel of the first machine; the inner one on `μ` serves only the chunks with `m = 0`,
    -- where that fuel stays.  The answer's fuel is the sum `n + f'`, through `M'.split`.
    generalize hk : μ a b = k
    induction k using Nat.strongRecOn generalizing a b with
    | _ k ihk =>
      intro h
      cases hR f a b h with
      | last hq => exact hq
      | sync m n a' b' hA hB hr hμ hmid =>
        by_cases hlt : f < m
        · exact hmid hlt
        · have hr := hr (by omega)
          obtain ⟨f', hf'⟩ : ∃ f', Q (run (f - m) a') (run' f' b') := by
            by_cases hm : m = 0
            · subst hm; exact ihk _ (hk ▸ hμ rfl) a' b' rfl hr
            · exact ih (f - m) (by omega) a' b' hr
          refine ⟨n + f', ?_⟩
          rw [M'.split hB, show f = m + (f - m) by omega, M.split hA]
          exact hf'

/-- A pair about to terminate: both runs end, with related results, and a run of the first that is cut short
before its end is answered. -/
theorem Chunk.ends (M : FuelRun nx oof run) {R : Nat → C → C' → Prop} {Q : O → O' → Prop} {μ : C → C' → Nat}
    {f : Nat} {a : C} {b : C'} {m n : Nat} {o : O} {o' : O'} (hA : run (m + 1) a = o) (ho : ∀ c, o ≠ oof c)
    (hB : run' n b = o') (hQ : Q o o') (hmid : f ≤ m → ∃ j, Q (run f a) (run' j b)) : Chunk run oof run' oof' R Q μ f a b := by
  refine .last ?_
  by_cases hk : f ≤ m
  · exact hmid hk
  · refine ⟨n, ?_⟩
    rw [M.mono (f := m + 1) (by rw [hA]; exact ho) (by omega), hA, hB]
    exact hQ

end FuelRun
end Hpbf
