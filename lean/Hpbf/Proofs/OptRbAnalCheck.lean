/-
An EXECUTABLE test for the semantic hypothesis `AnalInL` (`OptRbAnalIn.lean`) on one
run, and its soundness.

* `checkAnalIn N b anal env : Bool` runs `b` from `State.init env` with a BIG-STEP evaluator with fuel `N`
  (`evalL` / `evalLoop`; every instruction and every loop iteration costs one unit of recursion depth, so a run of
  `K` machine steps needs `N ≈ K`), pairing the nested blocks with the nodes of `anal.subBlocks` exactly as
  `AnalInL` does (nodes are popped in order; a missing node means "no claim" for that block and whatever follows in
  the same list).  At every head of a loop whose node says `atMostOnce = false ∧ hasShift = false` it checks that
  the pointer equals the pointer at loop entry and that every cell of the two (finite) tapes whose offset is not in
  `clobbered` has its entry value (`sameOutside`); at every re-test of a loop whose node says `atMostOnce` it checks
  that the condition is zero.  The result is `false` if a claim fails or the run does not end (normally, or at a
  failing I/O operation) within the fuel.
* `analIn_of_check : checkAnalIn N b anal env = true → AnalInL (· = State.init env) b.insts anal.subBlocks`.
  Key facts: `AnalInL` is determined state by state (`analInL_cover`, `analInL_pointwise`), and the run is
  deterministic (`exec_fin_det`), so every state satisfying one of the nested guards is a state the evaluator visits.
-/
import Hpbf.Proofs.OptRbAnalIn

namespace Hpbf
namespace OptProof
open Opt OptSem Ir

variable {w : Nat}

theorem blockIn_cover {G : State w → Prop} {isLoop : Bool} {c sh : Int} {body : List (Instr w)}
    {A : OptAnalysis w} (h : ∀ σ, G σ → ∃ G' : State w → Prop, G' σ ∧ BlockIn G' isLoop c sh body A) :
    BlockIn G isLoop c sh body A where
  amo := fun h1 h2 σ hσ => by
    obtain ⟨G', hG', hb⟩ := h σ hσ
    exact hb.amo h1 h2 σ hG'
  clob := fun h1 h2 h3 σ hσ => by
    obtain ⟨G', hG', hb⟩ := h σ hσ
    exact hb.clob h1 h2 h3 σ hG'

/-- If every guarded state is covered by SOME guard for which the nodes are sound, they are sound for the guard. -/
theorem analIn_cover :
    (∀ (i : Instr w) (A : OptAnalysis w) (G : State w → Prop),
      (∀ σ, G σ → ∃ G' : State w → Prop, G' σ ∧ AnalInI G' i A) → AnalInI G i A) ∧
    ∀ (l : List (Instr w)) (subs : List (OptAnalysis w)) (G : State w → Prop),
      (∀ σ, G σ → ∃ G' : State w → Prop, G' σ ∧ AnalInL G' l subs) → AnalInL G l subs := by
  refine instr_list_induction ?_ ?_ ?_ (fun subs G _ => analInL_nil G subs) ?_
  · intro i hb A G _
    cases i with
    | output _ | input _ | «calc» _ => rw [AnalInI] <;> simp
    | loop _ _ _ _ | ifnz _ _ _ => cases hb
  · intro c sh body o ih A G h
    rw [analInI_loop]
    refine ⟨blockIn_cover (fun σ hσ => ?_), ih A.subBlocks _ (fun σ' hσ' => ?_)⟩
    · obtain ⟨G', hG', hi⟩ := h σ hσ
      exact ⟨G', hG', ((analInI_loop ..).1 hi).1⟩
    · obtain ⟨hnz, σ, hσ, hh⟩ := hσ'
      obtain ⟨G', hG', hi⟩ := h σ hσ
      exact ⟨HeadG G' true c sh body, ⟨hnz, σ, hG', hh⟩, ((analInI_loop ..).1 hi).2⟩
  · intro c sh body ih A G h
    rw [analInI_ifnz]
    refine ⟨blockIn_cover (fun σ hσ => ?_), ih A.subBlocks _ (fun σ' hσ' => ?_)⟩
    · obtain ⟨G', hG', hi⟩ := h σ hσ
      exact ⟨G', hG', ((analInI_ifnz ..).1 hi).1⟩
    · obtain ⟨hnz, σ, hσ, hh⟩ := hσ'
      obtain ⟨G', hG', hi⟩ := h σ hσ
      exact ⟨HeadG G' false c sh body, ⟨hnz, σ, hG', hh⟩, ((analInI_ifnz ..).1 hi).2⟩
  · intro i rest ihi ihr subs G h
    have hafter : ∀ subs', (∀ σ, G σ → ∃ G' : State w → Prop, G' σ ∧ AnalInL (AfterG G' [i]) rest subs') →
        AnalInL (AfterG G [i]) rest subs' := by
      intro subs' h'
      refine ihr subs' _ (fun σ' hσ' => ?_)
      obtain ⟨σ, hσ, hex⟩ := hσ'
      obtain ⟨G', hG', hr⟩ := h' σ hσ
      exact ⟨AfterG G' [i], ⟨σ, hG', hex⟩, hr⟩
    cases hb : C01Dse.isBlock i with
    | false =>
      rw [analInL_cons_nonblock G hb]
      refine hafter subs (fun σ hσ => ?_)
      obtain ⟨G', hG', hl⟩ := h σ hσ
      exact ⟨G', hG', (analInL_cons_nonblock G' hb rest subs).1 hl⟩
    | true =>
      cases subs with
      | nil => exact analInL_cons_block_nil G hb rest
      | cons A subs' =>
        rw [analInL_cons_block G hb]
        refine ⟨ihi A G (fun σ hσ => ?_), hafter subs' (fun σ hσ => ?_)⟩
        · obtain ⟨G', hG', hl⟩ := h σ hσ
          exact ⟨G', hG', ((analInL_cons_block G' hb rest A subs').1 hl).1⟩
        · obtain ⟨G', hG', hl⟩ := h σ hσ
          exact ⟨G', hG', ((analInL_cons_block G' hb rest A subs').1 hl).2⟩

theorem analInI_cover : ∀ (i : Instr w) (A : OptAnalysis w) (G : State w → Prop),
    (∀ σ, G σ → ∃ G' : State w → Prop, G' σ ∧ AnalInI G' i A) → AnalInI G i A :=
  analIn_cover.1

theorem analInL_cover : ∀ (l : List (Instr w)) (subs : List (OptAnalysis w)) (G : State w → Prop),
    (∀ σ, G σ → ∃ G' : State w → Prop, G' σ ∧ AnalInL G' l subs) → AnalInL G l subs :=
  analIn_cover.2

theorem analInL_pointwise {G : State w → Prop} {l : List (Instr w)} {subs : List (OptAnalysis w)}
    (h : ∀ σ, G σ → AnalInL (fun σ' => σ' = σ) l subs) : AnalInL G l subs :=
  analInL_cover l subs G (fun σ hσ => ⟨fun σ' => σ' = σ, rfl, h σ hσ⟩)

theorem analInL_empty {G : State w → Prop} {l : List (Instr w)} {subs : List (OptAnalysis w)}
    (h : ∀ σ, ¬ G σ) : AnalInL G l subs :=
  analInL_pointwise (fun σ hσ => (h σ hσ).elim)

/-- Same pointer, and same value in every cell whose offset (from the pointer) is not in `cl`.  Cells that occur in
neither association list are `0` in both tapes. -/
def sameOutside (cl : List Int) (σ0 σk : State w) : Bool :=
  σk.ptr == σ0.ptr &&
    (σ0.tape.cells ++ σk.tape.cells).all
      (fun kv => cl.contains (kv.1 - σ0.ptr) || σk.tape.get kv.1 == σ0.tape.get kv.1)

theorem sameOutside_sound {cl : List Int} {σ0 σk : State w} (h : sameOutside cl σ0 σk = true) :
    σk.ptr = σ0.ptr ∧ ∀ x, cl.contains x = false → σk.rd x = σ0.rd x := by
  unfold sameOutside at h
  simp only [Bool.and_eq_true, beq_iff_eq, List.all_eq_true, Bool.or_eq_true] at h
  obtain ⟨hp, hall⟩ := h
  refine ⟨hp, fun x hx => ?_⟩
  show σk.tape.get (σk.ptr + x) = σ0.tape.get (σ0.ptr + x)
  rw [hp]
  by_cases hm : ∃ kv ∈ σ0.tape.cells ++ σk.tape.cells, kv.1 = σ0.ptr + x
  · obtain ⟨kv, hkv, e⟩ := hm
    have := hall kv hkv
    rw [e] at this
    have e' : σ0.ptr + x - σ0.ptr = x := by omega
    rw [e', hx] at this
    simpa using this
  · have h0 : ∀ kv ∈ σ0.tape.cells, kv.1 ≠ σ0.ptr + x :=
      fun kv hkv e => hm ⟨kv, List.mem_append_left _ hkv, e⟩
    have hk : ∀ kv ∈ σk.tape.cells, kv.1 ≠ σ0.ptr + x :=
      fun kv hkv e => hm ⟨kv, List.mem_append_right _ hkv, e⟩
    show Tape.lookup _ _ = Tape.lookup _ _
    rw [C01.lookup_not_mem _ _ h0, C01.lookup_not_mem _ _ hk]

inductive Res (w : Nat) where
  | oof                    -- out of fuel
  | fail                   -- a claim of a node is violated
  | stop                   -- the run stopped at a failing I/O operation (all claims checked so far hold)
  | fin (σ : State w)      -- the list ran to its end (all claims hold)

def Res.ok : Res w → Bool
  | .stop => true
  | .fin _ => true
  | _ => false

/-- The node used when the recorded tree has no node for a block: it claims nothing (`hasShift := true` and
`atMostOnce := false` switch off both clauses of `BlockIn`). -/
def noClaim : OptAnalysis w :=
  .mk { never := false, finite := false, noEffect := false, noContinue := false, atLeastOnce := false,
        atMostOnce := false, expr := none } true [] [] []

def headNode (subs : List (OptAnalysis w)) : OptAnalysis w := subs.headD noClaim

/-- The `clob` claim at the head `σ` of a loop entered in `σ0`. -/
def clobOk (A : OptAnalysis w) (σ0 σ : State w) : Bool :=
  A.loopAnal.atMostOnce || A.hasShift || sameOutside A.clobbered σ0 σ

/-- The `amo` claim at the re-test in state `σ'`. -/
def amoOk (A : OptAnalysis w) (c : Int) (σ' : State w) : Bool :=
  !A.loopAnal.atMostOnce || σ'.rd c == 0#w

mutual
/-- Big-step evaluator with fuel (every instruction and every loop iteration costs one unit of recursion depth)
that checks the claims of the nodes `subs` paired (in order) with the nested blocks of the list. -/
def evalL : Nat → List (Instr w) → List (OptAnalysis w) → State w → Res w
  | 0, _, _, _ => .oof
  | _ + 1, [], _, σ => .fin σ
  | f + 1, .output src :: rest, subs, σ =>
    match σ.output src with
    | (true, σ1) => evalL f rest subs σ1
    | (false, _) => .stop
  | f + 1, .input dst :: rest, subs, σ =>
    match σ.input dst with
    | (true, σ1) => evalL f rest subs σ1
    | (false, _) => .stop
  | f + 1, .calc g :: rest, subs, σ => evalL f rest subs (doCalc σ g)
  | f + 1, .loop c sh body _ :: rest, subs, σ =>
    match evalLoop f c sh body (headNode subs) σ σ with
    | .fin σ' => evalL f rest subs.tail σ'
    | r => r
  | f + 1, .ifnz c sh body :: rest, subs, σ =>
    if σ.rd c = 0#w then evalL f rest subs.tail σ
    else
      match evalL f body (headNode subs).subBlocks σ with
      | .fin σ1 => evalL f rest subs.tail (σ1.mov sh)
      | r => r
/-- The loop `loop c sh body` with node `A`, entered in `σ0`, at the head `σ`. -/
def evalLoop : Nat → Int → Int → List (Instr w) → OptAnalysis w → State w → State w → Res w
  | 0, _, _, _, _, _, _ => .oof
  | f + 1, c, sh, body, A, σ0, σ =>
    if clobOk A σ0 σ then
      if σ.rd c = 0#w then .fin σ
      else
        match evalL f body A.subBlocks σ with
        | .fin σ1 =>
          if amoOk A c (σ1.mov sh) then evalLoop f c sh body A σ0 (σ1.mov sh) else .fail
        | r => r
    else .fail
end

/-- **The test**: run the block from the initial state with fuel `N`, checking every claim of the recorded tree
on the way; `false` if a claim fails or the run does not end within the fuel. -/
def checkAnalIn (N : Nat) (b : Block w) (anal : OptAnalysis w) (env : Env) : Bool :=
  (evalL N b.insts anal.subBlocks (State.init env)).ok

/-- What a successful result says about the big-step semantics. -/
def Res.Good (r : Res w) (l : List (Instr w)) (σ : State w) : Prop :=
  match r with
  | .fin σ' => Exec l σ (.fin σ')
  | .stop => ∃ x, Exec l σ (.stop x)
  | _ => False

theorem Res.Good.map {r : Res w} {l1 l2 : List (Instr w)} {σ1 σ2 : State w}
    (f : ∀ out, Exec l1 σ1 out → Exec l2 σ2 out) (h : r.Good l1 σ1) : r.Good l2 σ2 := by
  cases r with
  | oof => exact h
  | fail => exact h
  | stop => obtain ⟨x, hx⟩ := h; exact ⟨x, f _ hx⟩
  | fin σ' => exact f _ h

theorem good_seq {r : Res w} {i : Instr w} {rest : List (Instr w)} {σ σ1 : State w}
    (h1 : Exec [i] σ (.fin σ1)) (h : r.Good rest σ1) : r.Good (i :: rest) σ :=
  h.map (fun _ hx => exec_append (a := [i]).2 (Or.inr ⟨σ1, h1, hx⟩))

theorem good_stop {i : Instr w} {rest : List (Instr w)} {σ x : State w} (h1 : Exec [i] σ (.stop x)) :
    (Res.stop : Res w).Good (i :: rest) σ :=
  ⟨x, exec_append (a := [i]).2 (Or.inl ⟨rfl, h1⟩)⟩

theorem afterG_single {i : Instr w} {rest : List (Instr w)} {subs : List (OptAnalysis w)} {σ σ1 : State w}
    (h1 : Exec [i] σ (.fin σ1)) (h : AnalInL (fun s => s = σ1) rest subs) :
    AnalInL (AfterG (fun s => s = σ) [i]) rest subs := by
  refine analInL_pointwise (fun σ' hσ' => ?_)
  obtain ⟨σ0, rfl, hex⟩ := hσ'
  cases exec_fin_det hex h1
  exact h

theorem afterG_stop {i : Instr w} {rest : List (Instr w)} {subs : List (OptAnalysis w)} {σ x : State w}
    (h1 : Exec [i] σ (.stop x)) : AnalInL (AfterG (fun s => s = σ) [i]) rest subs := by
  refine analInL_empty (fun σ' hσ' => ?_)
  obtain ⟨σ0, rfl, hex⟩ := hσ'
  exact exec_fin_stop_excl hex h1

theorem nb_fin {r : Res w} {i : Instr w} {rest : List (Instr w)} {subs : List (OptAnalysis w)} {σ σ1 : State w}
    (hb : C01Dse.isBlock i = false) (h1 : Exec [i] σ (.fin σ1))
    (h : r.Good rest σ1 ∧ AnalInL (fun s => s = σ1) rest subs) :
    r.Good (i :: rest) σ ∧ AnalInL (fun s => s = σ) (i :: rest) subs :=
  ⟨good_seq h1 h.1, (analInL_cons_nonblock _ hb rest subs).2 (afterG_single h1 h.2)⟩

theorem nb_stop {i : Instr w} {rest : List (Instr w)} {subs : List (OptAnalysis w)} {σ x : State w}
    (hb : C01Dse.isBlock i = false) (h1 : Exec [i] σ (.stop x)) :
    (Res.stop : Res w).Good (i :: rest) σ ∧ AnalInL (fun s => s = σ) (i :: rest) subs :=
  ⟨good_stop h1, (analInL_cons_nonblock _ hb rest subs).2 (afterG_stop h1)⟩

theorem blk_fin {r : Res w} {i : Instr w} {rest : List (Instr w)} {subs : List (OptAnalysis w)} {σ σ1 : State w}
    (hb : C01Dse.isBlock i = true) (h1 : Exec [i] σ (.fin σ1))
    (hI : AnalInI (fun s => s = σ) i (headNode subs))
    (h : r.Good rest σ1 ∧ AnalInL (fun s => s = σ1) rest subs.tail) :
    r.Good (i :: rest) σ ∧ AnalInL (fun s => s = σ) (i :: rest) subs := by
  refine ⟨good_seq h1 h.1, ?_⟩
  cases subs with
  | nil => exact analInL_cons_block_nil _ hb rest
  | cons A subs' => exact (analInL_cons_block _ hb rest A subs').2 ⟨hI, afterG_single h1 h.2⟩

theorem blk_stop {i : Instr w} {rest : List (Instr w)} {subs : List (OptAnalysis w)} {σ x : State w}
    (hb : C01Dse.isBlock i = true) (h1 : Exec [i] σ (.stop x))
    (hI : AnalInI (fun s => s = σ) i (headNode subs)) :
    (Res.stop : Res w).Good (i :: rest) σ ∧ AnalInL (fun s => s = σ) (i :: rest) subs := by
  refine ⟨good_stop h1, ?_⟩
  cases subs with
  | nil => exact analInL_cons_block_nil _ hb rest
  | cons A subs' => exact (analInL_cons_block _ hb rest A subs').2 ⟨hI, afterG_stop h1⟩

/-- What a successful `evalLoop` at the head `σ` establishes: the claims at every later head. -/
def LoopOk (A : OptAnalysis w) (c sh : Int) (body : List (Instr w)) (σ0 σ : State w) : Prop :=
  ∀ j σj, Head c sh body σ j σj →
    (A.loopAnal.atMostOnce = false → A.hasShift = false →
      σj.ptr = σ0.ptr ∧ ∀ x, A.clobbered.contains x = false → σj.rd x = σ0.rd x) ∧
    (σj.rd c ≠ 0#w → AnalInL (fun s => s = σj) body A.subBlocks ∧
      (A.loopAnal.atMostOnce = true → ∀ a, Exec body σj (.fin a) → (a.mov sh).rd c = 0#w))

theorem analInI_of_loopOk {A : OptAnalysis w} {c sh : Int} {body : List (Instr w)} {σ : State w} (o : Bool)
    (h : LoopOk A c sh body σ σ) : AnalInI (fun s => s = σ) (.loop c sh body o) A := by
  rw [analInI_loop]
  refine ⟨⟨?_, ?_⟩, analInL_pointwise (fun σ' hσ' => ?_)⟩
  · intro hamo _ σ' hσ' hnz a ha
    cases hσ'
    exact ((h 0 _ .zero).2 hnz).2 hamo a ha
  · intro h1 h2 _ σ' hσ' k σk hh
    cases hσ'
    exact (h k σk hh).1 h1 h2
  · obtain ⟨hnz, σ0, rfl, hh⟩ := hσ'
    simp only [if_true] at hh
    obtain ⟨k, hh⟩ := hh
    exact ((h k σ' hh).2 hnz).1

theorem analInI_ifnz_zero {A : OptAnalysis w} {c sh : Int} {body : List (Instr w)} {σ : State w}
    (hz : σ.rd c = 0#w) : AnalInI (fun s => s = σ) (.ifnz c sh body) A := by
  rw [analInI_ifnz]
  refine ⟨⟨fun _ h => (by cases h), fun _ _ h => (by cases h)⟩, analInL_empty (fun σ' hσ' => ?_)⟩
  obtain ⟨hnz, σ0, rfl, hh⟩ := hσ'
  simp only [Bool.false_eq_true, if_false] at hh
  subst hh
  exact hnz hz

theorem analInI_ifnz_nz {A : OptAnalysis w} {c sh : Int} {body : List (Instr w)} {σ : State w}
    (h : AnalInL (fun s => s = σ) body A.subBlocks) : AnalInI (fun s => s = σ) (.ifnz c sh body) A := by
  rw [analInI_ifnz]
  refine ⟨⟨fun _ h => (by cases h), fun _ _ h => (by cases h)⟩, analInL_pointwise (fun σ' hσ' => ?_)⟩
  obtain ⟨_, σ0, rfl, hh⟩ := hσ'
  simp only [Bool.false_eq_true, if_false] at hh
  subst hh
  exact h

theorem clobOk_sound {A : OptAnalysis w} {σ0 σ : State w} (h : clobOk A σ0 σ = true)
    (h1 : A.loopAnal.atMostOnce = false) (h2 : A.hasShift = false) :
    σ.ptr = σ0.ptr ∧ ∀ x, A.clobbered.contains x = false → σ.rd x = σ0.rd x := by
  unfold clobOk at h
  rw [h1, h2] at h
  exact sameOutside_sound (by simpa using h)

theorem amoOk_sound {A : OptAnalysis w} {c : Int} {σ' : State w} (h : amoOk A c σ' = true)
    (h1 : A.loopAnal.atMostOnce = true) : σ'.rd c = 0#w := by
  unfold amoOk at h
  rw [h1] at h
  simpa using h

/-- A result that is continued only when it is `fin`, and is `ok` in the end, is `stop` or `fin`. -/
theorem Res.ok_cont {r : Res w} {k : State w → Res w}
    (h : (match r with | .fin σ' => k σ' | r => r).ok = true) :
    r = .stop ∨ ∃ σ', r = .fin σ' ∧ (k σ').ok = true := by
  cases r with
  | oof => simp [Res.ok] at h
  | fail => simp [Res.ok] at h
  | stop => exact Or.inl rfl
  | fin σ' => exact Or.inr ⟨σ', rfl, h⟩

theorem eval_sound : ∀ f : Nat,
    (∀ (l : List (Instr w)) (subs : List (OptAnalysis w)) (σ : State w), (evalL f l subs σ).ok = true →
      (evalL f l subs σ).Good l σ ∧ AnalInL (fun s => s = σ) l subs) ∧
    (∀ (c sh : Int) (body : List (Instr w)) (A : OptAnalysis w) (σ0 σ : State w) (o : Bool),
      (evalLoop f c sh body A σ0 σ).ok = true →
      (evalLoop f c sh body A σ0 σ).Good [.loop c sh body o] σ ∧ LoopOk A c sh body σ0 σ) := by
  intro f
  induction f with
  | zero =>
    refine ⟨fun l subs σ h => ?_, fun c sh body A σ0 σ o h => ?_⟩
    · simp [evalL, Res.ok] at h
    · simp [evalLoop, Res.ok] at h
  | succ f ih =>
    obtain ⟨ihL, ihLoop⟩ := ih
    refine ⟨fun l subs σ hok => ?_, fun c sh body A σ0 σ o hok => ?_⟩
    · cases l with
      | nil =>
        simp only [evalL]
        exact ⟨.nil σ, analInL_nil _ _⟩
      | cons i rest =>
        cases i with
        | output src =>
          simp only [evalL] at hok ⊢
          cases ho : σ.output src with
          | mk b σ1 =>
            rw [ho] at hok
            cases b with
            | true => exact nb_fin rfl (.outOk ho (.nil _)) (ihL rest subs σ1 hok)
            | false => exact nb_stop rfl (.outFail ho)
        | input dst =>
          simp only [evalL] at hok ⊢
          cases ho : σ.input dst with
          | mk b σ1 =>
            rw [ho] at hok
            cases b with
            | true => exact nb_fin rfl (.inOk ho (.nil _)) (ihL rest subs σ1 hok)
            | false => exact nb_stop rfl (.inFail ho)
        | «calc» g =>
          simp only [evalL] at hok ⊢
          exact nb_fin rfl (.calc (.nil _)) (ihL rest subs _ hok)
        | loop c sh body once =>
          simp only [evalL] at hok ⊢
          have := ihLoop c sh body (headNode subs) σ σ once
          rcases Res.ok_cont hok with hr | ⟨σ', hr, hok'⟩ <;> rw [hr] at this ⊢
          · obtain ⟨⟨x, hx⟩, lo⟩ := this rfl
            exact blk_stop rfl hx (analInI_of_loopOk once lo)
          · obtain ⟨g, lo⟩ := this rfl
            exact blk_fin rfl g (analInI_of_loopOk once lo) (ihL rest subs.tail σ' hok')
        | ifnz c sh body =>
          simp only [evalL] at hok ⊢
          by_cases hz : σ.rd c = 0#w
          · rw [if_pos hz] at hok ⊢
            exact blk_fin rfl (.ifSkip hz (.nil _)) (analInI_ifnz_zero hz) (ihL rest subs.tail σ hok)
          · rw [if_neg hz] at hok ⊢
            have := ihL body (headNode subs).subBlocks σ
            rcases Res.ok_cont hok with hr | ⟨σ1, hr, hok'⟩ <;> rw [hr] at this ⊢
            · obtain ⟨⟨x, hx⟩, ab⟩ := this rfl
              exact blk_stop rfl (.ifIn hz hx rfl) (analInI_ifnz_nz ab)
            · obtain ⟨g, ab⟩ := this rfl
              exact blk_fin rfl (.ifIter hz g (.nil _)) (analInI_ifnz_nz ab)
                (ihL rest subs.tail (σ1.mov sh) hok')
    · simp only [evalLoop] at hok ⊢
      by_cases hc : clobOk A σ0 σ = true
      · rw [if_pos hc] at hok ⊢
        have hclob := clobOk_sound hc
        by_cases hz : σ.rd c = 0#w
        · rw [if_pos hz]
          refine ⟨.loopSkip hz (.nil _), fun j σj hh => ?_⟩
          cases j with
          | zero =>
            cases head_zero_inv hh
            exact ⟨hclob, fun hnz => absurd hz hnz⟩
          | succ j => exact absurd hz (head_uncons hh).1
        · rw [if_neg hz] at hok ⊢
          have := ihL body A.subBlocks σ
          rcases Res.ok_cont hok with hr | ⟨σ1, hr, hok⟩ <;> rw [hr] at this ⊢
          · obtain ⟨⟨x, hx⟩, ab⟩ := this rfl
            refine ⟨⟨x, .loopIn hz hx rfl⟩, fun j σj hh => ?_⟩
            cases j with
            | zero =>
              cases head_zero_inv hh
              exact ⟨hclob, fun _ => ⟨ab, fun _ a ha => (exec_fin_stop_excl ha hx).elim⟩⟩
            | succ j =>
              obtain ⟨_, σ1, hb1, _⟩ := head_uncons hh
              exact (exec_fin_stop_excl hb1 hx).elim
          · obtain ⟨gb, ab⟩ := this rfl
            have gb : Exec body σ (.fin σ1) := gb
            by_cases ha : amoOk A c (σ1.mov sh) = true
            · simp only [ha, ↓reduceIte] at hok ⊢
              obtain ⟨g', lo'⟩ := ihLoop c sh body A σ0 (σ1.mov sh) o hok
              refine ⟨g'.map (fun _ hx => .loopIter hz gb hx), fun j σj hh => ?_⟩
              cases j with
              | zero =>
                cases head_zero_inv hh
                refine ⟨hclob, fun _ => ⟨ab, fun hamo a hx => ?_⟩⟩
                cases exec_fin_det hx gb
                exact amoOk_sound ha hamo
              | succ j =>
                obtain ⟨_, σ1', hb1, hh1⟩ := head_uncons hh
                cases exec_fin_det hb1 gb
                exact lo' j σj hh1
            · simp [ha, Res.ok] at hok
      · rw [if_neg hc] at hok; simp [Res.ok] at hok

theorem analIn_of_check (N : Nat) {b : Block w} {anal : OptAnalysis w} {env : Env}
    (h : checkAnalIn N b anal env = true) :
    AnalInL (fun σ => σ = State.init env) b.insts anal.subBlocks :=
  ((eval_sound N).1 b.insts anal.subBlocks (State.init env) h).2

/-- The run the test followed, in big-step form. -/
theorem exec_of_check (N : Nat) {b : Block w} {anal : OptAnalysis w} {env : Env}
    (h : checkAnalIn N b anal env = true) :
    (∃ σ', Exec b.insts (State.init env) (.fin σ')) ∨ ∃ x, Exec b.insts (State.init env) (.stop x) := by
  have := ((eval_sound N).1 b.insts anal.subBlocks (State.init env) h).1
  cases hr : evalL N b.insts anal.subBlocks (State.init env) with
  | oof => rw [hr] at this; exact this.elim
  | fail => rw [hr] at this; exact this.elim
  | stop => rw [hr] at this; exact Or.inr this
  | fin σ' => rw [hr] at this; exact Or.inl ⟨σ', this⟩

namespace AnalCheckEx

def envAB : Env := { input := some [.byte 65, .byte 66, .eof], sink := true, outOk := none }

/-- an `OptLoop` with the two flags the test looks at -/
def lp (amo alo : Bool) : OptLoop 8 :=
  { never := false, finite := false, noEffect := false, noContinue := false, atLeastOnce := alo,
    atMostOnce := amo, expr := none }

/-- `,[.,]` (already in the form round 1 emits) -/
def echo : Block 8 := { shift := 0, insts := [.input 0, .loop 0 0 [.output 0, .input 0] false] }

/-- the tree round 1 records for `echo`: the loop keeps the pointer and clobbers only cell 0 -/
def echoAnal : OptAnalysis 8 := .mk (lp true true) false [] [] [.mk (lp false false) false [0] [0] []]

/-- a wrong tree: the loop is claimed to clobber nothing -/
def echoBad1 : OptAnalysis 8 := .mk (lp true true) false [] [] [.mk (lp false false) false [0] [] []]

/-- a wrong tree: the loop is claimed to run at most once (it runs twice on `envAB`) -/
def echoBad2 : OptAnalysis 8 := .mk (lp true true) false [] [] [.mk (lp true false) false [0] [0] []]

/-- a nested example: `,[ x1 := 3; [ . x1 -= 1 ] , ]` with the tree round 1 records -/
def nest : Block 8 :=
  { shift := 0,
    insts := [.input 0,
      .loop 0 0 [.calc [(1, [⟨3#8, []⟩])],
        .loop 1 0 [.output 0, .calc [(1, [⟨0xff#8, []⟩, ⟨1#8, [1]⟩])]] true,
        .input 0] false] }

def nestAnal : OptAnalysis 8 :=
  .mk (lp true true) false [] []
    [.mk (lp false false) false [0] [0, 1] [.mk (lp false true) false [0, 1] [1] []]]

example : checkAnalIn 100 echo echoAnal envAB = true := by decide +kernel
example : checkAnalIn 100 echo echoBad1 envAB = false := by decide +kernel
example : checkAnalIn 100 echo echoBad2 envAB = false := by decide +kernel
example : checkAnalIn 100 nest nestAnal envAB = true := by decide +kernel
/-- too little fuel -/
example : checkAnalIn 5 nest nestAnal envAB = false := by decide +kernel

/-- the test applied to what a round produces (program and tree computed by `optimizeOnce`) -/
example :
    (match (optimizeOnce nest (topAnalysis [] [])).run [] with
     | .ok ((b', a'), _) => checkAnalIn 100 b' a' envAB
     | .error _ => false) = true := by decide +kernel

example : AnalInL (fun σ => σ = State.init envAB) nest.insts nestAnal.subBlocks :=
  analIn_of_check 100 (by decide +kernel)

end AnalCheckEx

#print axioms analInL_pointwise
#print axioms sameOutside_sound
#print axioms eval_sound
#print axioms analIn_of_check

end OptProof
end Hpbf
