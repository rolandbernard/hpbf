/-
Two valuations that agree on the variables of an expression give it the same value (`C01Dse.evaluate_congr`), and two
states that agree on a set of cells.  `StSim X s1 s2`: same pointer, environment and trace, and the same tape
on the absolute addresses in `X`.  Every operation of `State` keeps the agreement if it reads only cells in `X`, and a
cell that both states WRITE joins `X` (`StSim.wr`, `StSim.wrAll`, `StSim.doCalc`, `StSim.input`).
`OptProof.AgreeAbs Kd` is `StSim (¬ Kd ·)` (`AgreeAbs.toSim`, `AgreeAbs.of_sim`), and `OptProof.StEq` is `AgreeAbs` of
the empty set (`AgreeAbs.stEq`, `AgreeAbs.of_stEq`).  `C02.StEq` says the same as `StSim (fun _ => True)` but is not
connected to it; `C05.StEq` ignores the trace and `C08.Agree` relates different environments.
The namespaces (`C01Dse`, `C11`) are those of the first users.
-/
import Hpbf.Proofs.C01State

namespace Hpbf

namespace C01Dse
open Ir

variable {w : Nat}

theorem evalPart_congr (f g : Int → BitVec w) (p : Part w) (h : ∀ v ∈ p.vars, f v = g v) :
    Expr.evalPart f p = Expr.evalPart g p := by
  obtain ⟨coef, vars⟩ := p
  unfold Expr.evalPart
  simp only at h ⊢
  induction vars generalizing coef with
  | nil => rfl
  | cons v vs ih =>
    simp only [List.foldl_cons]
    rw [h v (by simp)]
    exact ih _ (fun x hx => h x (by simp [hx]))

theorem evaluate_congr (f g : Int → BitVec w) (e : Expr w) (h : ∀ v ∈ Expr.variables e, f v = g v) :
    Expr.evaluate e f = Expr.evaluate e g := by
  unfold Expr.evaluate
  generalize (0#w) = acc
  induction e generalizing acc with
  | nil => rfl
  | cons p ps ih =>
    simp only [List.foldl_cons]
    have hp : Expr.evalPart f p = Expr.evalPart g p :=
      evalPart_congr f g p (fun v hv => h v (by simp [Expr.variables, hv]))
    rw [hp]
    exact ih (fun v hv => h v (by
      simp only [Expr.variables, List.flatMap_cons, List.mem_append] at hv ⊢
      exact Or.inr hv)) _

end C01Dse

namespace C11
open Ir

variable {w : Nat} {X : Int → Prop} {s1 s2 : State w}

structure StSim (X : Int → Prop) (s1 s2 : State w) : Prop where
  ptr : s1.ptr = s2.ptr
  env : s1.env = s2.env
  trace : s1.trace = s2.trace
  tape : ∀ x, X x → s1.tape.get x = s2.tape.get x

/-- For a user who TAKES `X` to be "where the tapes agree": a tape clause of his invariant then gives membership in `X`. -/
theorem StSim.of_meta (hp : s1.ptr = s2.ptr) (he : s1.env = s2.env) (ht : s1.trace = s2.trace) :
    StSim (fun a => s1.tape.get a = s2.tape.get a) s1 s2 := ⟨hp, he, ht, fun _ h => h⟩

theorem StSim.mono {Y : Int → Prop} (h : StSim X s1 s2) (hyx : ∀ a, Y a → X a) : StSim Y s1 s2 :=
  ⟨h.ptr, h.env, h.trace, fun x hx => h.tape x (hyx x hx)⟩

theorem StSim.rd (h : StSim X s1 s2) {off : Int} (hx : X (s1.ptr + off)) : s1.rd off = s2.rd off := by
  unfold State.rd
  rw [← h.ptr]
  exact h.tape _ hx

theorem StSim.mov (h : StSim X s1 s2) (d : Int) : StSim X (s1.mov d) (s2.mov d) :=
  ⟨by simp [State.mov, h.ptr], h.env, h.trace, h.tape⟩

theorem StSim.wr (h : StSim X s1 s2) (off : Int) (v : BitVec w) :
    StSim (fun a => X a ∨ a = s1.ptr + off) (s1.wr off v) (s2.wr off v) := by
  refine ⟨h.ptr, h.env, h.trace, fun x hx => ?_⟩
  simp only [State.wr, Tape.get_set, ← h.ptr]
  split
  · rfl
  · rename_i hne
    exact h.tape x (hx.resolve_right hne)

theorem StSim.wrAll (h : StSim X s1 s2) (vals : List (Int × BitVec w)) :
    StSim (fun a => X a ∨ ∃ vv ∈ vals, a = s1.ptr + vv.1) (C01Dse.wrAll s1 vals) (C01Dse.wrAll s2 vals) := by
  induction vals generalizing X s1 s2 with
  | nil => exact h.mono (fun a ha => ha.resolve_right (fun ⟨_, hv, _⟩ => nomatch hv))
  | cons vv vals ih =>
    refine (ih (h.wr vv.1 vv.2)).mono (fun a ha => ?_)
    rcases ha with ha | ⟨vv', hvv', e⟩
    · exact Or.inl (Or.inl ha)
    · rcases List.mem_cons.1 hvv' with rfl | hm
      · exact Or.inl (Or.inr e)
      · exact Or.inr ⟨vv', hm, e⟩

theorem StSim.doCalc (h : StSim X s1 s2) (g : List (Int × Expr w))
    (hr : ∀ ve ∈ g, ∀ v ∈ Expr.variables ve.2, X (s1.ptr + v)) :
    StSim (fun a => X a ∨ ∃ ve ∈ g, a = s1.ptr + ve.1) (doCalc s1 g) (doCalc s2 g) := by
  rw [C01Dse.doCalc_eq, C01Dse.doCalc_eq]
  have hvals : g.map (fun ve => (ve.1, Expr.evaluate ve.2 (fun off => s2.rd off))) =
      g.map (fun ve => (ve.1, Expr.evaluate ve.2 (fun off => s1.rd off))) :=
    List.map_congr_left fun ve hve => by
      rw [C01Dse.evaluate_congr _ _ ve.2 (fun v hv => h.rd (hr ve hve v hv))]
  rw [hvals]
  refine (h.wrAll _).mono (fun a ha => ha.imp_right ?_)
  rintro ⟨ve, hve, e⟩
  exact ⟨_, List.mem_map.2 ⟨ve, hve, rfl⟩, e⟩

theorem StSim.output {X : Int → Prop} {s1 s2 : State w} (h : StSim X s1 s2) {off : Int}
    (hx : X (s1.ptr + off)) :
    (s1.output off).1 = (s2.output off).1 ∧ StSim X (s1.output off).2 (s2.output off).2 := by
  unfold State.output
  rw [← h.env, ← h.trace, ← h.rd hx]
  simp only
  split
  · split
    · exact ⟨rfl, h.ptr, rfl, rfl, h.tape⟩
    · exact ⟨rfl, h.ptr, rfl, rfl, h.tape⟩
  · exact ⟨rfl, h⟩

theorem StSim.input (h : StSim X s1 s2) (off : Int) :
    (s1.input off).1 = (s2.input off).1 ∧
      StSim (fun a => X a ∨ ((s1.input off).1 = true ∧ a = s1.ptr + off)) (s1.input off).2 (s2.input off).2 := by
  unfold State.input
  rw [← h.env, ← h.trace]
  split
  · obtain ⟨hp, _, _, hg⟩ := h.wr off (Cell.fromU8 (BitVec.ofNat 8 (‹UInt8›).toNat))
    exact ⟨rfl, hp, rfl, rfl, fun x hx => hg x (hx.imp_right (·.2))⟩
  · exact ⟨rfl, h.ptr, rfl, rfl, fun x hx => h.tape x (hx.resolve_right (fun hf => nomatch hf.1))⟩
  · exact ⟨rfl, h.ptr, h.env, h.trace, fun x hx => h.tape x (hx.resolve_right (fun hf => nomatch hf.1))⟩

end C11
end Hpbf
