/-
`normalize` preserves the value. With `H = 2^(w-1)` (`halfMod`): `H + H = 0` and `H * (x * x) = H * x`,
hence `H * m(vars) = H * m(dedupVars vars)`, and adding `H` to the coefficients of two parts whose
deduplicated variable lists agree changes the value by `H*m + H*m = 0`.
-/
import Hpbf.Proofs.C15Basic

namespace Hpbf
namespace Expr
variable {w : Nat}

/-- `half_mod` of `normalize`. -/
def halfMod (w : Nat) : BitVec w := Cell.wshl (1#w) (w - 1)

theorem halfMod_toNat (hw : 0 < w) : (halfMod w).toNat = 2 ^ (w - 1) :=
  Cell.toNat_wshl_one hw (w - 1) (by omega)

theorem two_pow_pred (hw : 0 < w) : 2 ^ w = 2 ^ (w - 1) * 2 := by
  rw [← Nat.pow_succ]; congr 1; omega

theorem halfMod_add_self : halfMod w + halfMod w = 0#w := by
  by_cases hw : 0 < w
  · apply BitVec.eq_of_toNat_eq
    rw [BitVec.toNat_add, halfMod_toNat hw]
    have := two_pow_pred hw
    simp only [BitVec.toNat_ofNat, Nat.zero_mod]
    rw [this, ← Nat.mul_two, Nat.mod_self]
  · have : w = 0 := by omega
    subst this; exact Subsingleton.elim _ _

theorem halfMod_mul_congr (y z : BitVec w) (h : y.toNat % 2 = z.toNat % 2) :
    halfMod w * y = halfMod w * z := by
  by_cases hw : 0 < w
  · apply BitVec.eq_of_toNat_eq
    rw [BitVec.toNat_mul, BitVec.toNat_mul, halfMod_toNat hw]
    rw [two_pow_pred hw, Nat.mul_mod_mul_left, Nat.mul_mod_mul_left, h]
  · have : w = 0 := by omega
    subst this; exact Subsingleton.elim _ _

theorem halfMod_mul_sq (x : BitVec w) : halfMod w * (x * x) = halfMod w * x := by
  by_cases hw : 0 < w
  · apply halfMod_mul_congr
    rw [BitVec.toNat_mul]
    have hd : 2 ∣ 2 ^ w := by rw [two_pow_pred hw]; exact Nat.dvd_mul_left 2 _
    rw [Nat.mod_mod_of_dvd _ hd, Nat.mul_mod]
    rcases Nat.mod_two_eq_zero_or_one x.toNat with h | h <;> simp [h]
  · have : w = 0 := by omega
    subst this; exact Subsingleton.elim _ _

theorem halfMod_mul_mono_dedup (f : Int → BitVec w) (vs : List Int) :
    halfMod w * mono f (dedupVars vs) = halfMod w * mono f vs := by
  fun_induction dedupVars vs with
  | case1 => rfl
  | case2 x => rfl
  | case3 x rest ih =>
    rw [ih]
    simp only [mono_cons]
    have := halfMod_mul_sq (f x)
    grind
  | case4 x y rest h ih =>
    simp only [mono_cons] at ih ⊢
    grind

theorem halfMod_pair (f : Int → BitVec w) (vs1 vs2 : List Int) (h : dedupVars vs1 = dedupVars vs2) :
    halfMod w * mono f vs1 + halfMod w * mono f vs2 = 0#w := by
  rw [← halfMod_mul_mono_dedup f vs1, ← halfMod_mul_mono_dedup f vs2, h, ← BitVec.add_mul,
    halfMod_add_self]
  simp

theorem dedupVars_sublist (vs : List Int) : (dedupVars vs).Sublist vs := by
  fun_induction dedupVars vs with
  | case1 => exact List.Sublist.refl _
  | case2 x => exact List.Sublist.refl _
  | case3 x rest ih =>
    exact ih.trans (List.Sublist.cons _ (List.Sublist.refl _))
  | case4 x y rest h ih => exact List.Sublist.cons_cons _ ih

theorem dedupVars_eq_of_length (vs : List Int) (h : (dedupVars vs).length = vs.length) :
    dedupVars vs = vs := (dedupVars_sublist vs).eq_of_length h

/-- The value bound to `e1` in `normalize`.  `normPhase1`, `normTail` and `pairStep` below are pieces of the model's
`Expr.normalize` / `Expr.normPhase2` copied out so that they can be named; `normalize_eq` and `normPhase2_step` (both
`rfl`) check the copies. -/
def normPhase1 (e : Expr w) : Expr w :=
  if e.any (fun p => p.vars.length ≥ 2 && p.coef = halfMod w) then
    let e' := e.map (fun p => if p.coef = halfMod w then { p with vars := dedupVars p.vars } else p)
    let needElim := (e.zip e').any (fun pq => pq.1.coef = halfMod w && pq.1.vars.length != pq.2.vars.length)
    if needElim then
      (mergeChunks (stableSort (fun a b => leVars a.vars b.vars) e')).filter (fun p => p.coef != 0#w)
    else e'
  else e

/-- `normalize` from `e1` on; `normPhase2` is only its loop. -/
def normTail (e1 : Expr w) : Expr w :=
  if e1.any (fun p => !p.vars.isEmpty && (p.coef ≤ halfMod w + 1#w || p.coef ≥ halfMod w + (-1#w))) then
    let (parts, need) := normPhase2 (halfMod w) (halfMod w + 1#w) (halfMod w + (-1#w)) e1.length 0 e1.toArray [] false
    if need then parts.toList.filter (fun p => p.coef != 0#w) else parts.toList
  else e1

theorem normalize_eq (e : Expr w) :
    normalize e = if !e.isEmpty && e.any (fun p => p.vars.length ≥ 2) then normTail (normPhase1 e) else e :=
  rfl

theorem evaluate_dedupMap (f : Int → BitVec w) (e : Expr w) :
    evaluate (e.map (fun p => if p.coef = halfMod w then { p with vars := dedupVars p.vars } else p)) f
      = evaluate e f := by
  induction e with
  | nil => rfl
  | cons p e ih =>
    simp only [List.map_cons, evaluate_cons', ih]
    split
    · rename_i h
      simp only [h, halfMod_mul_mono_dedup]
    · rfl

theorem mergeChunks_ne_nil (p : Part w) (l : List (Part w)) : mergeChunks (p :: l) ≠ [] := by
  generalize hl : p :: l = l'
  fun_induction mergeChunks l' generalizing p l with
  | case1 => cases hl
  | case2 p => simp
  | case3 p q rest h hnil ih => exact absurd hnil (ih _ _ rfl)
  | case4 p q rest h hd tl heq ih => simp
  | case5 p q rest h ih => simp

theorem evaluate_mergeChunks (f : Int → BitVec w) (l : List (Part w)) :
    evaluate (mergeChunks l) f = evaluate l f := by
  fun_induction mergeChunks l with
  | case1 => rfl
  | case2 p => rfl
  | case3 p q rest h hnil ih => exact absurd hnil (mergeChunks_ne_nil _ _)
  | case4 p q rest h hd tl heq ih =>
    rw [heq] at ih
    simp only [evaluate_cons'] at ih ⊢
    rw [h] at ih
    rw [h]
    simp only [BitVec.zero_mul, BitVec.zero_add]
    rw [ih]; grind
  | case5 p q rest h ih => simp only [evaluate_cons, ih]

theorem evaluate_normPhase1 (f : Int → BitVec w) (e : Expr w) :
    evaluate (normPhase1 e) f = evaluate e f := by
  unfold normPhase1
  split
  · simp only []
    split
    · rw [evaluate_filter_coef, evaluate_mergeChunks, evaluate_perm f (stableSort_perm _ _),
        evaluate_dedupMap]
    · exact evaluate_dedupMap f e
  · rfl

def setCoefL (l : List (Part w)) (i : Nat) (c : BitVec w) : List (Part w) :=
  match l[i]? with
  | some p => l.set i { p with coef := c }
  | none => l

theorem setCoef_toList (parts : Array (Part w)) (i : Nat) (c : BitVec w) :
    (setCoef parts i c).toList = setCoefL parts.toList i c := by
  unfold setCoef setCoefL
  rw [Array.getElem?_toList]
  cases parts[i]? <;> simp

theorem setCoefL_vars (l : List (Part w)) (i : Nat) (c : BitVec w) :
    (setCoefL l i c).map (·.vars) = l.map (·.vars) := by
  unfold setCoefL
  cases h : l[i]? with
  | none => rfl
  | some p =>
    simp only
    apply List.ext_getElem?
    intro j
    simp only [List.getElem?_map, List.getElem?_set]
    by_cases hij : i = j
    · subst hij
      simp only [if_true]
      obtain ⟨hlt, hli⟩ := List.getElem?_eq_some_iff.1 h
      simp [hlt, hli]
    · simp [hij]

theorem setCoefL_getElem?_ne (l : List (Part w)) (i j : Nat) (c : BitVec w) (h : i ≠ j) :
    (setCoefL l i c)[j]? = l[j]? := by
  unfold setCoefL
  cases l[i]? with
  | none => rfl
  | some p => simp [h]

theorem evaluate_set (f : Int → BitVec w) (l : List (Part w)) (i : Nat) (p q : Part w)
    (h : l[i]? = some p) :
    evaluate (l.set i q) f + evalPart f p = evaluate l f + evalPart f q := by
  induction l generalizing i with
  | nil => simp at h
  | cons x l ih =>
    cases i with
    | zero =>
      simp only [List.getElem?_cons_zero, Option.some.injEq] at h
      subst h
      simp only [List.set_cons_zero, evaluate_cons]; ac_rfl
    | succ i =>
      simp only [List.getElem?_cons_succ] at h
      simp only [List.set_cons_succ, evaluate_cons]
      have := ih i h
      grind

theorem evaluate_setCoefL (f : Int → BitVec w) (l : List (Part w)) (i : Nat) (c : BitVec w) (p : Part w)
    (h : l[i]? = some p) :
    evaluate (setCoefL l i c) f + p.coef * mono f p.vars = evaluate l f + c * mono f p.vars := by
  unfold setCoefL
  rw [h]
  simp only
  have := evaluate_set f l i p { p with coef := c } h
  simpa [evalPart_eq] using this

theorem lookupIdx_pushIdx (m : List (List Int × List Nat)) (k k' : List Int) (i : Nat) :
    lookupIdx (pushIdx m k i) k'
      = if k = k' then some ((lookupIdx m k).getD [] ++ [i]) else lookupIdx m k' := by
  induction m with
  | nil =>
    simp only [pushIdx, lookupIdx]
    split <;> simp
  | cons kv m ih =>
    obtain ⟨k0, v0⟩ := kv
    simp only [pushIdx]
    by_cases h0 : k0 = k
    · subst h0
      simp only [if_true, lookupIdx]
      by_cases h1 : k0 = k' <;> simp [h1]
    · simp only [h0, if_false, lookupIdx, ih]
      by_cases h1 : k0 = k'
      · subst h1
        have : ¬ k = k0 := fun e => h0 e.symm
        simp [this]
      · simp [h1]

/-- The table only mentions earlier indices, filed under the deduplicated variables of their part. -/
def IdxOK (V : List (List Int)) (i : Nat) (byRed : List (List Int × List Nat)) : Prop :=
  ∀ k idxs, lookupIdx byRed k = some idxs →
    ∀ j ∈ idxs, j < i ∧ ∃ vs, V[j]? = some vs ∧ dedupVars vs = k

theorem IdxOK_nil (V : List (List Int)) : IdxOK V 0 [] := by
  intro k idxs h; simp [lookupIdx] at h

theorem IdxOK_mono {V : List (List Int)} {i : Nat} {byRed} (h : IdxOK V i byRed) :
    IdxOK V (i + 1) byRed := by
  intro k idxs hk j hj
  obtain ⟨h1, h2⟩ := h k idxs hk j hj
  exact ⟨by omega, h2⟩

theorem IdxOK_push {V : List (List Int)} {i : Nat} {byRed} (h : IdxOK V i byRed)
    (vs : List Int) (hv : V[i]? = some vs) :
    IdxOK V (i + 1) (pushIdx byRed (dedupVars vs) i) := by
  intro k idxs hk j hj
  rw [lookupIdx_pushIdx] at hk
  split at hk
  · rename_i hkk
    subst hkk
    simp only [Option.some.injEq] at hk
    subst hk
    rcases List.mem_append.1 hj with hj | hj
    · cases hl : lookupIdx byRed (dedupVars vs) with
      | none => simp [hl] at hj
      | some idxs' =>
        simp only [hl, Option.getD_some] at hj
        obtain ⟨h1, h2⟩ := h _ _ hl j hj
        exact ⟨by omega, h2⟩
    · simp only [List.mem_singleton] at hj
      subst hj
      exact ⟨by omega, vs, hv, rfl⟩
  · exact IdxOK_mono h k idxs hk j hj

/-- The inner loop body of `normPhase2`. -/
def pairStep (hm hp hmm : BitVec w) (i : Nat) (acc : Array (Part w) × Bool) (j : Nat) :
    Array (Part w) × Bool :=
  let (parts, need) := acc
  match parts[i]?, parts[j]? with
  | some a, some b =>
    let ci := a.coef
    let cj := b.coef
    if ((ci ≤ hp || ci ≥ hmm) && (cj > 1#w || cj < (-1#w)))
        || ((ci > 1#w && ci < (-1#w)) && (cj ≤ hp || cj ≥ hmm)) then
      let ni := ci + hm
      let nj := cj + hm
      (setCoef (setCoef parts i ni) j nj, need || ni = 0#w || nj = 0#w)
    else (parts, need)
  | _, _ => (parts, need)

theorem pairStep_spec (f : Int → BitVec w) (hp hmm : BitVec w) (V : List (List Int)) (i j : Nat)
    (parts : Array (Part w)) (need : Bool)
    (hV : parts.toList.map (·.vars) = V) (hji : j < i)
    (vi vj : List Int) (hvi : V[i]? = some vi) (hvj : V[j]? = some vj)
    (hd : dedupVars vi = dedupVars vj) :
    ((pairStep (halfMod w) hp hmm i (parts, need) j).1.toList.map (·.vars) = V) ∧
    evaluate (pairStep (halfMod w) hp hmm i (parts, need) j).1.toList f = evaluate parts.toList f := by
  unfold pairStep
  simp only
  cases hai : parts[i]? with
  | none => simp [hV]
  | some a =>
    cases hbj : parts[j]? with
    | none => simp [hV]
    | some b =>
      simp only
      split
      · simp only [setCoef_toList, setCoefL_vars, hV, true_and]
        have hai' : parts.toList[i]? = some a := by rw [Array.getElem?_toList]; exact hai
        have hbj' : parts.toList[j]? = some b := by rw [Array.getElem?_toList]; exact hbj
        have hav : a.vars = vi := by
          have : (parts.toList.map (·.vars))[i]? = some a.vars := by simp [hai']
          rw [hV, hvi] at this; exact (Option.some.inj this).symm
        have hbv : b.vars = vj := by
          have : (parts.toList.map (·.vars))[j]? = some b.vars := by simp [hbj']
          rw [hV, hvj] at this; exact (Option.some.inj this).symm
        have hbj'' : (setCoefL parts.toList i (a.coef + halfMod w))[j]? = some b := by
          rw [setCoefL_getElem?_ne _ _ _ _ (by omega)]; exact hbj'
        have e1 := evaluate_setCoefL f parts.toList i (a.coef + halfMod w) a hai'
        have e2 := evaluate_setCoefL f _ j (b.coef + halfMod w) b hbj''
        have e3 := halfMod_pair f vi vj hd
        rw [hav] at e1
        rw [hbv] at e2
        grind
      · simp [hV]

theorem pairFold_spec (f : Int → BitVec w) (hp hmm : BitVec w) (V : List (List Int)) (i : Nat)
    (vi : List Int) (hvi : V[i]? = some vi) (others : List Nat)
    (hoth : ∀ j ∈ others, j < i ∧ ∃ vs, V[j]? = some vs ∧ dedupVars vs = dedupVars vi)
    (parts : Array (Part w)) (need : Bool) (hV : parts.toList.map (·.vars) = V) :
    ((others.foldl (pairStep (halfMod w) hp hmm i) (parts, need)).1.toList.map (·.vars) = V) ∧
    evaluate (others.foldl (pairStep (halfMod w) hp hmm i) (parts, need)).1.toList f
      = evaluate parts.toList f := by
  induction others generalizing parts need with
  | nil => exact ⟨hV, rfl⟩
  | cons j others ih =>
    simp only [List.foldl_cons]
    obtain ⟨hji, vj, hvj, hd⟩ := hoth j (List.mem_cons_self)
    obtain ⟨s1, s2⟩ := pairStep_spec f hp hmm V i j parts need hV hji vi vj hvi hvj hd.symm
    generalize pairStep (halfMod w) hp hmm i (parts, need) j = st at s1 s2
    obtain ⟨parts', need'⟩ := st
    obtain ⟨t1, t2⟩ := ih (fun j hj => hoth j (List.mem_cons_of_mem _ hj)) parts' need' s1
    exact ⟨t1, t2.trans s2⟩

theorem normPhase2_step (hm hp hmm : BitVec w) (fuel i : Nat) (parts : Array (Part w))
    (byRed : List (List Int × List Nat)) (need : Bool) :
    normPhase2 hm hp hmm (fuel + 1) i parts byRed need =
      match parts[i]? with
      | none => (parts, need)
      | some pi =>
        if pi.vars.isEmpty then normPhase2 hm hp hmm fuel (i + 1) parts byRed need
        else
          match lookupIdx byRed (dedupVars pi.vars) with
          | none => normPhase2 hm hp hmm fuel (i + 1) parts (pushIdx byRed (dedupVars pi.vars) i) need
          | some others =>
            normPhase2 hm hp hmm fuel (i + 1) (others.foldl (pairStep hm hp hmm i) (parts, need)).1
              (pushIdx byRed (dedupVars pi.vars) i) (others.foldl (pairStep hm hp hmm i) (parts, need)).2 := by
  rfl

/-- `V` is a parameter because phase 2 changes coefficients only: the indices in `byRed` keep pointing at parts with the
variables they were filed under (`IdxOK V`). -/
theorem normPhase2_spec (f : Int → BitVec w) (hp hmm : BitVec w) (V : List (List Int))
    (fuel i : Nat) (parts : Array (Part w)) (byRed : List (List Int × List Nat)) (need : Bool)
    (hV : parts.toList.map (·.vars) = V) (hok : IdxOK V i byRed) :
    ((normPhase2 (halfMod w) hp hmm fuel i parts byRed need).1.toList.map (·.vars) = V) ∧
    evaluate (normPhase2 (halfMod w) hp hmm fuel i parts byRed need).1.toList f
      = evaluate parts.toList f := by
  induction fuel generalizing i parts byRed need with
  | zero => exact ⟨hV, rfl⟩
  | succ fuel ih =>
    rw [normPhase2_step]
    cases hpi : parts[i]? with
    | none => exact ⟨hV, rfl⟩
    | some pi =>
      simp only
      have hvi : V[i]? = some pi.vars := by
        rw [← hV]; simp [hpi]
      split
      · exact ih (i + 1) parts byRed need hV (IdxOK_mono hok)
      · cases hl : lookupIdx byRed (dedupVars pi.vars) with
        | none =>
          simp only
          exact ih (i + 1) parts _ need hV (IdxOK_push hok pi.vars hvi)
        | some others =>
          simp only
          have hoth := hok _ _ hl
          obtain ⟨s1, s2⟩ := pairFold_spec f hp hmm V i pi.vars hvi others hoth parts need hV
          generalize others.foldl (pairStep (halfMod w) hp hmm i) (parts, need) = st at s1 s2
          obtain ⟨parts', need'⟩ := st
          obtain ⟨t1, t2⟩ := ih (i + 1) parts' (pushIdx byRed (dedupVars pi.vars) i) need' s1
            (IdxOK_push hok pi.vars hvi)
          exact ⟨t1, t2.trans s2⟩

theorem evaluate_normTail (f : Int → BitVec w) (e1 : Expr w) :
    evaluate (normTail e1) f = evaluate e1 f := by
  unfold normTail
  split
  · obtain ⟨_, s2⟩ := normPhase2_spec f (halfMod w + 1#w) (halfMod w + (-1#w)) (e1.map (·.vars))
      e1.length 0 e1.toArray [] false (by simp) (IdxOK_nil _)
    generalize normPhase2 (halfMod w) (halfMod w + 1#w) (halfMod w + (-1#w)) e1.length 0 e1.toArray [] false
      = st at s2
    obtain ⟨parts, need⟩ := st
    simp only at s2 ⊢
    split
    · rw [evaluate_filter_coef]; simpa using s2
    · simpa using s2
  · rfl

theorem eval_normalize (e : Expr w) (f : Int → BitVec w) : evaluate (normalize e) f = evaluate e f := by
  rw [normalize_eq]
  split
  · rw [evaluate_normTail, evaluate_normPhase1]
  · rfl

end Expr
end Hpbf
