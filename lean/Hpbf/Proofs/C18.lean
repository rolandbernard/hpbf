/-
C18 — `SmallVec<T, N>` (model `Hpbf.SmallVec`) exposes the same contents as a `Vec<T>` under any
operation history, never reads an uninitialised slot, never leaks and drops every element exactly
once.  A state satisfying the invariant is one of two canonical states (`inl`, `fromVec`), so every
operation is evaluated on those two shapes only (`refines_of_cases`).  The inline slots always have the one
shape `gap ks m us B` (values, a run of empty slots, values, the slots beyond `size`): `inl` is `gap l 0 [] _`,
a by-value iterator holds `gap [] i rem _`, the compaction loops of `retain`/`dedup` pass through every
`gap ks m us _`; what a slot primitive does to a `gap` is stated once (`gap_ref` … `gap_last`).
-/
import Hpbf.SmallVec

namespace Hpbf
namespace SmallVec

variable {α : Type}

/-- The `Vec` the small vector stands for. -/
def SV.toList (s : SV α) : List α :=
  if s.size ≤ s.cap then (s.arr.take s.size).filterMap id else s.vec

/-- Representation invariant: `N` slots; either inline (`size ≤ N`, exactly the first `size` slots
own a value, no heap vector) or heap (`size = N + 1`, no slot owns anything). -/
structure SV.Inv (s : SV α) : Prop where
  len : s.arr.length = s.cap
  shape :
    (s.size ≤ s.cap ∧ (∀ i, i < s.size → ∃ v, s.arr[i]? = some (some v)) ∧
      (∀ i, s.size ≤ i → i < s.cap → s.arr[i]? = some none) ∧ s.vec = []) ∨
    (s.size = s.cap + 1 ∧ ∀ i, i < s.cap → s.arr[i]? = some none)

/-- Canonical inline state holding `l` (`l.length ≤ cap`). -/
def inl (cap : Nat) (l : List α) : SV α :=
  { cap := cap, size := l.length, arr := l.map some ++ List.replicate (cap - l.length) none, vec := [] }

theorem filterMap_id_map_some (l : List α) : (l.map some).filterMap id = l := by
  induction l with
  | nil => rfl
  | cons x xs ih => simp [ih]

theorem filterMap_id_replicate_none (n : Nat) : (List.replicate n (none : Option α)).filterMap id = [] := by
  induction n with
  | zero => rfl
  | succ n ih => simp [List.replicate_succ, ih]

theorem map_some_filterMap_id (L : List (Option α)) (h : ∀ o ∈ L, ∃ v, o = some v) :
    (L.filterMap id).map some = L := by
  induction L with
  | nil => rfl
  | cons o os ih =>
    obtain ⟨v, rfl⟩ := h o (by simp)
    simp only [List.filterMap_cons, id, List.map_cons]
    rw [ih (fun o ho => h o (by simp [ho]))]

theorem inv_inl {cap : Nat} {l : List α} (h : l.length ≤ cap) : (inl cap l).Inv := by
  refine ⟨by simp [inl]; omega, Or.inl ⟨h, ?_, ?_, rfl⟩⟩
  · intro i hi
    simp only [inl] at hi ⊢
    refine ⟨l[i], ?_⟩
    rw [List.getElem?_append_left (by simpa using hi)]
    simp [hi]
  · intro i h1 h2
    simp only [inl] at h1 h2 ⊢
    rw [List.getElem?_append_right (by simpa using h1)]
    simp only [List.length_map]
    rw [List.getElem?_replicate]
    simp; omega

theorem toList_inl {cap : Nat} {l : List α} (h : l.length ≤ cap) : (inl cap l).toList = l := by
  simp [SV.toList, inl, h]

theorem inv_fromVec (cap : Nat) (l : List α) : (fromVec cap l).Inv := by
  refine ⟨by simp [fromVec], Or.inr ⟨rfl, ?_⟩⟩
  intro i hi
  simp only [fromVec] at hi ⊢
  simp [hi]

theorem toList_fromVec (cap : Nat) (l : List α) : (fromVec cap l).toList = l := by
  have : ¬ cap + 1 ≤ cap := by omega
  simp [SV.toList, fromVec, this]

theorem new_eq_inl (cap : Nat) : (new cap : SV α) = inl cap [] := by
  simp [new, inl]

theorem all_none_eq_replicate (L : List (Option α)) (h : ∀ i, i < L.length → L[i]? = some none) :
    L = List.replicate L.length none := by
  apply List.ext_getElem?
  intro i
  by_cases hi : i < L.length
  · rw [h i hi, List.getElem?_replicate]; simp [hi]
  · rw [List.getElem?_eq_none (by omega), List.getElem?_eq_none (by simp; omega)]

theorem SV.Inv.cases' {s : SV α} (h : s.Inv) :
    (s.toList.length ≤ s.cap ∧ s = inl s.cap s.toList) ∨
    (s = fromVec s.cap s.toList) := by
  obtain ⟨cap, size, arr, vec⟩ := s
  obtain ⟨hlen, hshape⟩ := h
  simp only at hlen hshape
  rcases hshape with ⟨hsz, hsome, hnone, hvec⟩ | ⟨hsz, hnone⟩
  · left
    have htake : ∀ o ∈ arr.take size, ∃ v, o = some v := by
      intro o ho
      obtain ⟨i, hi⟩ := List.mem_iff_getElem?.1 ho
      rw [List.getElem?_take] at hi
      split at hi
      · rename_i hlt
        obtain ⟨v, hv⟩ := hsome i hlt
        rw [hv] at hi
        exact ⟨v, (Option.some.inj hi).symm⟩
      · cases hi
    have hdrop : arr.drop size = List.replicate (cap - size) none := by
      have := all_none_eq_replicate (arr.drop size) (by
        intro i hi
        rw [List.getElem?_drop]
        simp only [List.length_drop] at hi
        exact hnone _ (by omega) (by omega))
      rw [this]; simp [hlen]
    have hmap := map_some_filterMap_id _ htake
    have hl : ((arr.take size).filterMap id).length = size := by
      have := congrArg List.length hmap
      simp only [List.length_map, List.length_take] at this
      omega
    simp only [SV.toList, if_pos hsz, inl, hl]
    refine ⟨hsz, ?_⟩
    subst hvec
    congr 1
    rw [hmap, ← hdrop, List.take_append_drop]
  · right
    have : ¬ size ≤ cap := by omega
    simp only [SV.toList, if_neg this, fromVec]
    subst hsz
    congr 1
    rw [← hlen]
    exact all_none_eq_replicate arr (by intro i hi; exact hnone i (by omega))

theorem SV.Inv.cases {s : SV α} (h : s.Inv) :
    (∃ cap l, l.length ≤ cap ∧ s = inl cap l) ∨ (∃ cap l, s = fromVec cap l) := by
  rcases h.cases' with ⟨hl, he⟩ | he
  · exact Or.inl ⟨_, _, hl, he⟩
  · exact Or.inr ⟨_, _, he⟩

theorem getElem?_mid (A B : List (Option α)) (x : Option α) {i : Nat} (h : A.length = i) :
    (A ++ x :: B)[i]? = some x := by
  subst h; simp

theorem set_mid (A B : List (Option α)) (x y : Option α) {i : Nat} (h : A.length = i) :
    (A ++ x :: B).set i y = A ++ y :: B := by
  subst h; simp

theorem slotRef_mid (A B : List (Option α)) (v : α) {i : Nat} (h : A.length = i) :
    slotRef (A ++ some v :: B) i = .ok v := by
  unfold slotRef; rw [getElem?_mid A B _ h]

theorem slotTake_mid (A B : List (Option α)) (v : α) {i : Nat} (h : A.length = i) :
    slotTake (A ++ some v :: B) i = .ok (v, A ++ none :: B) := by
  unfold slotTake; rw [getElem?_mid A B _ h]; simp only [set_mid A B _ _ h]

theorem slotWrite_mid_none (A B : List (Option α)) (v : α) {j : Nat} (h : A.length = j) :
    slotWrite (A ++ none :: B) j v = (A ++ some v :: B, []) := by
  unfold slotWrite; rw [getElem?_mid A B _ h]; simp only [set_mid A B _ _ h]

theorem replicate_snoc_none (m : Nat) (X : List (Option α)) :
    List.replicate m none ++ none :: X = List.replicate (m + 1) none ++ X := by
  rw [List.replicate_succ']; simp

/-- The inline slots: `ks` initialised, then `m` empty (moved out or dropped), then `us` initialised, then `B`
(the slots beyond `size`).  In a compaction `ks` are the elements kept so far and `us` those still to be
looked at; slot `ks.length + m` is the next one read, slot `ks.length` the next one written. -/
def gap (ks : List α) (m : Nat) (us : List α) (B : List (Option α)) : List (Option α) :=
  ks.map some ++ (List.replicate m none ++ (us.map some ++ B))

theorem gap_split (ks : List α) (m : Nat) (o : Option α) (us : List α) (B : List (Option α)) :
    ks.map some ++ (List.replicate m none ++ (o :: (us.map some ++ B))) =
      (ks.map some ++ List.replicate m none) ++ o :: (us.map some ++ B) := by simp

theorem gap_ref (ks : List α) (m : Nat) (u : α) (us : List α) (B : List (Option α)) {i : Nat}
    (hi : i = ks.length + m) : slotRef (gap ks m (u :: us) B) i = .ok u := by
  rw [gap, List.map_cons, List.cons_append, gap_split]
  exact slotRef_mid _ _ _ (by simp [hi])

theorem gap_set (ks : List α) (m : Nat) (u v : α) (us : List α) (B : List (Option α)) {i : Nat}
    (hi : i = ks.length + m) : (gap ks m (u :: us) B).set i (some v) = gap ks m (v :: us) B := by
  simp only [gap, List.map_cons, List.cons_append, gap_split]
  exact set_mid _ _ _ _ (by simp [hi])

/-- Slot `i` is dropped, or moved out on its way to the front: the run of empty slots grows. -/
theorem gap_take (ks : List α) (m : Nat) (u : α) (us : List α) (B : List (Option α)) {i : Nat}
    (hi : i = ks.length + m) : slotTake (gap ks m (u :: us) B) i = .ok (u, gap ks (m + 1) us B) := by
  simp only [gap, List.map_cons, List.cons_append, gap_split]
  rw [slotTake_mid _ _ _ (by simp [hi]), List.append_assoc, replicate_snoc_none]

/-- The value moved out lands in the first empty slot. -/
theorem gap_write (ks : List α) (m : Nat) (v : α) (us : List α) (B : List (Option α)) :
    slotWrite (gap ks (m + 1) us B) ks.length v = (gap (ks ++ [v]) m us B, []) := by
  simp only [gap, List.replicate_succ, List.cons_append]
  rw [slotWrite_mid_none _ _ _ (by simp)]
  simp

/-- With no empty slot in between, the element just read is already in place. -/
theorem gap_zero (ks : List α) (u : α) (us : List α) (B : List (Option α)) :
    gap ks 0 (u :: us) B = gap (ks ++ [u]) 0 us B := by simp [gap]

/-- The last kept element, which `dedup` compares with. -/
theorem gap_last (ks : List α) (b : α) (m : Nat) (us : List α) (B : List (Option α)) :
    slotRef (gap (ks ++ [b]) m us B) ((ks ++ [b]).length - 1) = .ok b := by
  simp only [gap, List.map_append, List.map_cons, List.map_nil, List.append_assoc, List.cons_append,
    List.nil_append]
  exact slotRef_mid _ _ _ (by simp)

theorem gap_done (ks : List α) (m k : Nat) :
    gap ks m [] (List.replicate k none) = ks.map some ++ List.replicate (m + k) none := by
  simp [gap, List.replicate_append_replicate]

theorem inl_arr (cap : Nat) (l : List α) :
    (inl cap l).arr = gap [] 0 l (List.replicate (cap - l.length) none) := rfl

/-- Moving out (or dropping) all of `us`, front to back. -/
theorem slotsTake_gap (us : List α) :
    ∀ (ks : List α) (m : Nat) (B : List (Option α)) (i : Nat), i = ks.length + m →
      slotsTake (gap ks m us B) i us.length = .ok (us, gap ks (m + us.length) [] B) := by
  induction us with
  | nil => intro ks m B i _; simp [slotsTake]
  | cons u us ih =>
    intro ks m B i hi
    simp only [List.length_cons, slotsTake, gap_take _ _ _ _ _ hi]
    rw [ih ks (m + 1) B (i + 1) (by omega)]
    simp [Nat.add_assoc, Nat.add_comm 1]

theorem slotsRef_take (l : List α) (B : List (Option α)) :
    ∀ n, n ≤ l.length → slotsRef (l.map some ++ B) n = .ok (l.take n) := by
  intro n
  induction n with
  | zero => intro _; simp [slotsRef]
  | succ n ih =>
    intro hn
    have hlt : n < l.length := by omega
    have hr : slotRef (l.map some ++ B) n = .ok l[n] := by
      unfold slotRef
      rw [List.getElem?_append_left (by simpa using hlt)]
      simp [hlt]
    rw [slotsRef, ih (by omega), hr, List.take_succ_eq_append_getElem hlt]

theorem slotsRef_all (l : List α) (B : List (Option α)) :
    slotsRef (l.map some ++ B) l.length = .ok l := by
  rw [slotsRef_take l B _ (Nat.le_refl _)]; simp

theorem view_inl {cap : Nat} {l : List α} (h : l.length ≤ cap) : view (inl cap l) = .ok l := by
  simp only [view, inl, if_pos h, slotsRef_all]

theorem view_fromVec (cap : Nat) (l : List α) : view (fromVec cap l) = .ok l := by
  have : ¬ cap + 1 ≤ cap := by omega
  simp [view, fromVec, this]

theorem view_eq {s : SV α} (h : s.Inv) : view s = .ok s.toList := by
  rcases h.cases with ⟨cap, l, hl, rfl⟩ | ⟨cap, l, rfl⟩
  · rw [view_inl hl, toList_inl hl]
  · rw [view_fromVec, toList_fromVec]

/-- What every operation lemma concludes; `cap` is kept so that histories compose. -/
def Refines (x : Except UB (R α)) (cap : Nat) (l d : List α) : Prop :=
  ∃ r, x = .ok r ∧ r.sv.Inv ∧ r.sv.cap = cap ∧ r.sv.toList = l ∧ r.dropped = d ∧ r.leaked = []

theorem refines_inl {cap : Nat} {l d : List α} (h : l.length ≤ cap) :
    Refines (.ok { sv := inl cap l, dropped := d }) cap l d :=
  ⟨_, rfl, inv_inl h, rfl, toList_inl h, rfl, rfl⟩

theorem refines_fromVec (cap : Nat) (l d : List α) :
    Refines (.ok { sv := fromVec cap l, dropped := d }) cap l d :=
  ⟨_, rfl, inv_fromVec _ _, rfl, toList_fromVec _ _, rfl, rfl⟩

/-- An operation that does on the two canonical states what `spec` does on a `Vec` does so on every state. -/
theorem refines_of_cases {s : SV α} (h : s.Inv) (op : SV α → Except UB (R α))
    (spec : List α → List α × List α)
    (hi : ∀ cap (l : List α), l.length ≤ cap → Refines (op (inl cap l)) cap (spec l).1 (spec l).2)
    (hv : ∀ cap (l : List α), Refines (op (fromVec cap l)) cap (spec l).1 (spec l).2) :
    Refines (op s) s.cap (spec s.toList).1 (spec s.toList).2 := by
  rcases h.cases' with ⟨hl, he⟩ | he
  · have := hi s.cap s.toList hl; rwa [← he] at this
  · have := hv s.cap s.toList; rwa [← he] at this

theorem push_inl_lt {cap : Nat} {l : List α} (x : α) (h : l.length < cap) :
    push (inl cap l) x = .ok { sv := inl cap (l ++ [x]) } := by
  obtain ⟨k, hk⟩ : ∃ k, cap - l.length = k + 1 := ⟨cap - l.length - 1, by omega⟩
  have hk' : cap - (l.length + 1) = k := by omega
  simp only [push, inl, if_pos h, hk, List.replicate_succ]
  rw [slotWrite_mid_none _ _ _ (by simp)]
  simp [hk']

theorem slotsTake_inl {cap : Nat} (l : List α) :
    slotsTake (inl cap l).arr 0 l.length = .ok (l, List.replicate (l.length + (cap - l.length)) none) := by
  rw [inl_arr, slotsTake_gap l [] 0 _ 0 rfl, gap_done]
  simp

theorem push_inl_eq {cap : Nat} {l : List α} (x : α) (h : l.length = cap) :
    push (inl cap l) x = .ok { sv := fromVec cap (l ++ [x]) } := by
  subst h
  have h1 : ¬ l.length < l.length := by omega
  have := slotsTake_inl (cap := l.length) l
  simp only [inl] at this ⊢
  simp only [push, if_neg h1, if_true, this]
  simp only [filterMap_id_replicate_none, fromVec]

theorem push_fromVec (cap : Nat) (l : List α) (x : α) :
    push (fromVec cap l) x = .ok { sv := fromVec cap (l ++ [x]) } := by
  have h1 : ¬ cap + 1 < cap := by omega
  have h2 : ¬ cap + 1 = cap := by omega
  simp only [fromVec]
  simp only [push, if_neg h1, if_neg h2]

theorem push_spec {s : SV α} (h : s.Inv) (x : α) : Refines (push s x) s.cap (s.toList ++ [x]) [] :=
  refines_of_cases h (push · x) (fun l => (l ++ [x], []))
    (fun cap l hl => by
      by_cases hlt : l.length < cap
      · exact push_inl_lt x hlt ▸ refines_inl (l := l ++ [x]) (by simp; omega)
      · exact push_inl_eq (cap := cap) (l := l) x (by omega) ▸ refines_fromVec _ _ _)
    (fun cap l => push_fromVec cap l x ▸ refines_fromVec _ _ _)

theorem extend_spec (xs : List α) : ∀ {s : SV α}, s.Inv → Refines (extend s xs) s.cap (s.toList ++ xs) [] := by
  induction xs with
  | nil => intro s h; exact ⟨_, rfl, h, rfl, by simp, rfl, rfl⟩
  | cons x xs ih =>
    intro s h
    obtain ⟨r, hr, hinv, hcap, hl, hd, hk⟩ := push_spec h x
    obtain ⟨r', hr', hinv', hcap', hl', hd', hk'⟩ := ih hinv
    refine ⟨{ sv := r'.sv, dropped := r.dropped ++ r'.dropped, leaked := r.leaked ++ r'.leaked },
      by simp only [extend, hr, hr'], hinv', by rw [hcap', hcap], ?_, ?_, ?_⟩
    · simp [hl', hl]
    · simp [hd, hd']
    · simp [hk, hk']

theorem new_spec (cap : Nat) : (new cap : SV α).Inv ∧ (new cap : SV α).toList = [] ∧ (new cap : SV α).cap = cap := by
  rw [new_eq_inl]
  exact ⟨inv_inl (Nat.zero_le _), toList_inl (Nat.zero_le _), rfl⟩

theorem withCapacity_spec (cap n : Nat) :
    (withCapacity cap n : SV α).Inv ∧ (withCapacity cap n : SV α).toList = [] ∧
      (withCapacity cap n : SV α).cap = cap := by
  unfold withCapacity
  split
  · exact new_spec cap
  · exact ⟨inv_fromVec _ _, toList_fromVec _ _, rfl⟩

theorem clear_inl {cap : Nat} {l : List α} (h : l.length ≤ cap) :
    clear (inl cap l) = .ok { sv := inl cap [], dropped := l } := by
  have := slotsTake_inl (cap := cap) l
  simp only [inl] at this ⊢
  simp only [clear, if_pos h, this]
  simp; omega

theorem clear_fromVec (cap : Nat) (l : List α) :
    clear (fromVec cap l) = .ok { sv := fromVec cap [], dropped := l } := by
  have h1 : ¬ cap + 1 ≤ cap := by omega
  simp only [fromVec]
  simp only [clear, if_neg h1]

theorem clear_spec {s : SV α} (h : s.Inv) : Refines (clear s) s.cap [] s.toList :=
  refines_of_cases h clear (fun l => ([], l))
    (fun _ _ hl => clear_inl hl ▸ refines_inl (Nat.zero_le _))
    (fun cap l => clear_fromVec cap l ▸ refines_fromVec _ _ _)

theorem dropAll_inl {cap : Nat} {l : List α} (h : l.length ≤ cap) :
    dropAll (inl cap l) = .ok { sv := inl cap [], dropped := l } := by
  have := slotsTake_inl (cap := cap) l
  simp only [inl] at this ⊢
  simp only [dropAll, if_pos h, this, filterMap_id_replicate_none]
  simp; omega

theorem dropAll_fromVec (cap : Nat) (l : List α) :
    dropAll (fromVec cap l) = .ok { sv := inl cap [], dropped := l } := by
  have h1 : ¬ cap + 1 ≤ cap := by omega
  simp only [fromVec]
  simp only [dropAll, if_neg h1]
  simp [inl]

theorem dropAll_spec {s : SV α} (h : s.Inv) : Refines (dropAll s) s.cap [] s.toList :=
  refines_of_cases h dropAll (fun l => ([], l))
    (fun _ _ hl => dropAll_inl hl ▸ refines_inl (Nat.zero_le _))
    (fun cap l => dropAll_fromVec cap l ▸ refines_inl (Nat.zero_le _))

theorem vecRetainMut_length (f : α → α × Bool) (l : List α) :
    (vecRetainMut f l).1.length + (vecRetainMut f l).2.length = l.length := by
  induction l with
  | nil => rfl
  | cons x xs ih =>
    simp only [vecRetainMut]
    split <;> simp <;> omega

theorem retainLoop_spec (f : α → α × Bool) (us : List α) :
    ∀ (ks : List α) (m : Nat) (B : List (Option α)) (dr lk : List α) (i : Nat), i = ks.length + m →
      retainLoop true f ⟨gap ks m us B, ks.length, dr, lk⟩ i us.length
        = .ok ⟨gap (ks ++ (vecRetainMut f us).1) (m + (vecRetainMut f us).2.length) [] B,
               ks.length + (vecRetainMut f us).1.length, dr ++ (vecRetainMut f us).2, lk⟩ := by
  induction us with
  | nil => intro ks m B dr lk i _; simp [retainLoop, vecRetainMut]
  | cons u us ih =>
    intro ks m B dr lk i hi
    simp only [List.length_cons, retainLoop, gap_ref _ _ _ _ _ hi, gap_set _ _ _ _ _ _ hi, vecRetainMut]
    cases hf : f u with
    | mk v keep =>
    cases keep with
    | false =>
      simp only [Bool.false_eq_true, if_false, if_true, gap_take _ _ _ _ _ hi]
      rw [ih ks (m + 1) B (dr ++ [v]) lk (i + 1) (by omega)]
      simp [Nat.add_assoc, Nat.add_comm 1]
    | true =>
      simp only [if_true]
      have e : ks.length + 1 = (ks ++ [v]).length := by simp
      cases m with
      | zero =>
        rw [if_neg (by omega), gap_zero, e, ih (ks ++ [v]) 0 B dr lk (i + 1) (by simp; omega)]
        simp [Nat.add_assoc, Nat.add_comm 1]
      | succ m =>
        rw [if_pos (by omega)]
        simp only [gap_take _ _ _ _ _ hi, gap_write, List.append_nil]
        rw [e, ih (ks ++ [v]) (m + 1) B dr lk (i + 1) (by simp; omega)]
        simp [Nat.add_assoc, Nat.add_comm 1]

theorem retainMut_inl {cap : Nat} {l : List α} (f : α → α × Bool) (h : l.length ≤ cap) :
    retainMut true (inl cap l) f
      = .ok { sv := inl cap (vecRetainMut f l).1, dropped := (vecRetainMut f l).2 } := by
  have e := retainLoop_spec f l [] 0 (List.replicate (cap - l.length) none) [] [] 0 rfl
  have hlen := vecRetainMut_length f l
  simp only [gap_done, List.nil_append, List.length_nil, Nat.zero_add] at e
  simp only [retainMut, inl_arr, show (inl cap l).size = l.length from rfl,
    show (inl cap l).cap = cap from rfl, if_pos h, e]
  simp only [inl]
  rw [show (vecRetainMut f l).2.length + (cap - l.length) = cap - (vecRetainMut f l).1.length by omega]

theorem retainMut_fromVec (cap : Nat) (l : List α) (f : α → α × Bool) :
    retainMut true (fromVec cap l) f
      = .ok { sv := fromVec cap (vecRetainMut f l).1, dropped := (vecRetainMut f l).2 } := by
  have h1 : ¬ cap + 1 ≤ cap := by omega
  simp only [fromVec]
  simp only [retainMut, if_neg h1]

/-- `true` is `dropRejected`: `src/smallvec.rs`, where a rejected element gets `assume_init_drop`. -/
theorem retainMut_spec {s : SV α} (h : s.Inv) (f : α → α × Bool) :
    Refines (retainMut true s f) s.cap (vecRetainMut f s.toList).1 (vecRetainMut f s.toList).2 :=
  refines_of_cases h (retainMut true · f) (vecRetainMut f)
    (fun _ l hl => retainMut_inl f hl ▸ refines_inl (by have := vecRetainMut_length f l; omega))
    (fun cap l => retainMut_fromVec cap l f ▸ refines_fromVec _ _ _)

theorem vecDedup_cons_cons (eq : α → α → Bool) (x y : α) (rest : List α) :
    vecDedup eq (x :: y :: rest) =
      if eq y x then ((vecDedup eq (x :: rest)).1, y :: (vecDedup eq (x :: rest)).2)
      else (x :: (vecDedup eq (y :: rest)).1, (vecDedup eq (y :: rest)).2) := by
  rw [vecDedup]

theorem vecDedup_length (eq : α → α → Bool) (l : List α) :
    (vecDedup eq l).1.length + (vecDedup eq l).2.length = l.length := by
  fun_induction vecDedup eq l <;> simp_all <;> omega

theorem dedupLoop_spec (eq : α → α → Bool) (us : List α) :
    ∀ (ks : List α) (b : α) (m : Nat) (B : List (Option α)) (dr lk : List α) (i : Nat),
      i = (ks ++ [b]).length + m →
      dedupLoop true eq ⟨gap (ks ++ [b]) m us B, (ks ++ [b]).length, dr, lk⟩ i us.length
        = .ok ⟨gap (ks ++ (vecDedup eq (b :: us)).1) (m + (vecDedup eq (b :: us)).2.length) [] B,
               ks.length + (vecDedup eq (b :: us)).1.length, dr ++ (vecDedup eq (b :: us)).2, lk⟩ := by
  induction us with
  | nil => intro ks b m B dr lk i _; simp [dedupLoop, vecDedup]
  | cons a us ih =>
    intro ks b m B dr lk i hi
    simp only [List.length_cons, dedupLoop, gap_ref _ _ _ _ _ hi, gap_last, vecDedup_cons_cons]
    cases hab : eq a b with
    | true =>
      simp only [Bool.not_true, Bool.false_eq_true, if_false, if_true, gap_take _ _ _ _ _ hi]
      rw [ih ks b (m + 1) B (dr ++ [a]) lk (i + 1) (by omega)]
      simp [Nat.add_assoc, Nat.add_comm 1]
    | false =>
      simp only [Bool.not_false, if_true, Bool.false_eq_true, if_false]
      have e : (ks ++ [b]).length + 1 = ((ks ++ [b]) ++ [a]).length := by simp
      cases m with
      | zero =>
        rw [if_neg (by omega), gap_zero, e, ih (ks ++ [b]) a 0 B dr lk (i + 1) (by simp at hi ⊢; omega)]
        simp [Nat.add_assoc, Nat.add_comm 1]
      | succ m =>
        rw [if_pos (by omega)]
        simp only [gap_take _ _ _ _ _ hi, gap_write, List.append_nil]
        rw [e, ih (ks ++ [b]) a (m + 1) B dr lk (i + 1) (by simp at hi ⊢; omega)]
        simp [Nat.add_assoc, Nat.add_comm 1]

theorem dedup_inl {cap : Nat} {l : List α} (eq : α → α → Bool) (h : l.length ≤ cap) :
    dedup true (inl cap l) eq
      = .ok { sv := inl cap (vecDedup eq l).1, dropped := (vecDedup eq l).2 } := by
  cases l with
  | nil => simp [dedup, inl, vecDedup]
  | cons b us =>
    have e := dedupLoop_spec eq us [] b 0 (List.replicate (cap - (us.length + 1)) none) [] [] 1 rfl
    have hlen := vecDedup_length eq (b :: us)
    simp only [List.length_cons] at h hlen
    simp only [gap_done, List.nil_append, List.length_nil, Nat.zero_add, List.length_cons] at e
    have h0 : us.length + 1 ≠ 0 := by omega
    simp only [dedup, show (inl cap (b :: us)).size = us.length + 1 from rfl,
      show (inl cap (b :: us)).cap = cap from rfl, if_pos h, if_pos h0, Nat.add_sub_cancel]
    rw [show (inl cap (b :: us)).arr = gap [b] 0 us (List.replicate (cap - (us.length + 1)) none) from rfl, e]
    simp only [inl]
    rw [show (vecDedup eq (b :: us)).2.length + (cap - (us.length + 1))
        = cap - (vecDedup eq (b :: us)).1.length by omega]

theorem dedup_fromVec (cap : Nat) (l : List α) (eq : α → α → Bool) :
    dedup true (fromVec cap l) eq
      = .ok { sv := fromVec cap (vecDedup eq l).1, dropped := (vecDedup eq l).2 } := by
  have h1 : ¬ cap + 1 ≤ cap := by omega
  simp only [fromVec]
  simp only [dedup, if_neg h1]

theorem dedup_spec {s : SV α} (h : s.Inv) (eq : α → α → Bool) :
    Refines (dedup true s eq) s.cap (vecDedup eq s.toList).1 (vecDedup eq s.toList).2 :=
  refines_of_cases h (dedup true · eq) (vecDedup eq)
    (fun _ l hl => dedup_inl eq hl ▸ refines_inl (by have := vecDedup_length eq l; omega))
    (fun cap l => dedup_fromVec cap l eq ▸ refines_fromVec _ _ _)

theorem mapSlice_inl {cap : Nat} {l : List α} (g : List α → List α) (h : l.length ≤ cap)
    (hg : (g l).length = l.length) : mapSlice (inl cap l) g = .ok (inl cap (g l)) := by
  have hd : (l.map some ++ List.replicate (cap - l.length) none).drop l.length
      = List.replicate (cap - l.length) (none : Option α) := by
    rw [List.drop_append_of_le_length (by simp)]; simp
  simp only [mapSlice, view_inl h]
  simp only [inl, if_pos h, storeSlots, hg, hd]

theorem mapSlice_fromVec (cap : Nat) (l : List α) (g : List α → List α) :
    mapSlice (fromVec cap l) g = .ok (fromVec cap (g l)) := by
  have h1 : ¬ cap + 1 ≤ cap := by omega
  simp only [mapSlice, view_fromVec]
  split
  · rename_i h; exact absurd h h1
  · rfl

/-- `mapSlice` returns no drop log: that a slice rewrite through `DerefMut` (`sort`, `swap`, `reverse`, …)
neither drops nor leaks is part of the model. -/
theorem mapSlice_spec {s : SV α} (h : s.Inv) (g : List α → List α)
    (hg : (g s.toList).length = s.toList.length) :
    ∃ s', mapSlice s g = .ok s' ∧ s'.Inv ∧ s'.cap = s.cap ∧ s'.toList = g s.toList := by
  rcases h.cases with ⟨cap, l, hl, rfl⟩ | ⟨cap, l, rfl⟩
  · rw [toList_inl hl] at hg ⊢
    have hk : (g l).length ≤ cap := by omega
    exact ⟨_, mapSlice_inl g hl hg, inv_inl hk, rfl, toList_inl hk⟩
  · rw [toList_fromVec]
    exact ⟨_, mapSlice_fromVec cap l g, inv_fromVec _ _, rfl, toList_fromVec _ _⟩

/-- The source is untouched: `clone` takes `&self` and the model is a pure function of `s`. -/
theorem clone_spec {s : SV α} (h : s.Inv) (cl : α → α) :
    Refines (clone s cl) s.cap (s.toList.map cl) [] := by
  simp only [clone, view_eq h]
  split
  · obtain ⟨hi, hl, hc⟩ := new_spec (α := α) s.cap
    obtain ⟨r, hr, hinv, hcap, hlist, hd, hk⟩ := extend_spec (s.toList.map cl) hi
    exact ⟨r, hr, hinv, by rw [hcap, hc], by rw [hlist, hl]; rfl, hd, hk⟩
  · exact ⟨_, rfl, inv_fromVec _ _, rfl, toList_fromVec _ _, rfl, rfl⟩

/-- The iterator owns exactly the elements `rem` (in iteration order); every other slot is empty. -/
def Iter.Owns : Iter α → List α → Prop
  | .small arr i size, rem => ∃ k, arr = gap [] i rem (List.replicate k none) ∧ size = i + rem.length
  | .large rest, rem => rest = rem

/-- `n` calls of `next`; returns the elements yielded (calls after exhaustion yield nothing). -/
def Iter.nexts : Nat → Iter α → Except UB (List α × Iter α)
  | 0, it => .ok ([], it)
  | n + 1, it =>
    match it.next with
    | .error e => .error e
    | .ok (o, it') =>
      match Iter.nexts n it' with
      | .error e => .error e
      | .ok (ys, it'') => .ok (o.toList ++ ys, it'')

theorem intoIter_owns {s : SV α} (h : s.Inv) : (intoIter s).Owns s.toList := by
  rcases h.cases with ⟨cap, l, hl, rfl⟩ | ⟨cap, l, rfl⟩
  · rw [toList_inl hl]
    simp only [intoIter, show (inl cap l).size = l.length from rfl, show (inl cap l).cap = cap from rfl,
      if_pos hl]
    exact ⟨cap - l.length, rfl, by simp⟩
  · rw [toList_fromVec]
    have h1 : ¬ cap + 1 ≤ cap := by omega
    simp only [fromVec]
    simp only [intoIter, if_neg h1]
    rfl

theorem Iter.next_cons {it : Iter α} {x : α} {rem : List α} (h : it.Owns (x :: rem)) :
    ∃ it', it.next = .ok (some x, it') ∧ it'.Owns rem := by
  cases it with
  | small arr i size =>
    obtain ⟨k, rfl, rfl⟩ := h
    have hlt : i < i + (x :: rem).length := by simp
    simp only [Iter.next, if_pos hlt, gap_take [] i x rem _ (i := i) (by simp)]
    exact ⟨_, rfl, k, rfl, by simp; omega⟩
  | large rest =>
    cases h
    exact ⟨_, rfl, rfl⟩

theorem Iter.next_nil {it : Iter α} (h : it.Owns []) : it.next = .ok (none, it) := by
  cases it with
  | small arr i size =>
    obtain ⟨k, rfl, hs⟩ := h
    have hlt : ¬ i < size := by simp at hs; omega
    simp only [Iter.next, if_neg hlt]
  | large rest =>
    cases h
    rfl

theorem Iter.dropRest_owns {it : Iter α} {rem : List α} (h : it.Owns rem) :
    it.dropRest = .ok (rem, []) := by
  cases it with
  | small arr i size =>
    obtain ⟨k, rfl, rfl⟩ := h
    simp only [Iter.dropRest, Nat.add_sub_cancel_left]
    rw [slotsTake_gap rem [] i _ i (by simp), gap_done]
    simp
  | large rest =>
    cases h
    rfl

theorem Iter.nexts_owns (n : Nat) : ∀ {it : Iter α} {rem : List α}, it.Owns rem →
    ∃ it', Iter.nexts n it = .ok (rem.take n, it') ∧ it'.Owns (rem.drop n) := by
  induction n with
  | zero => intro it rem h; exact ⟨it, rfl, by simpa using h⟩
  | succ n ih =>
    intro it rem h
    cases rem with
    | nil =>
      obtain ⟨it', h1, h2⟩ := ih h
      refine ⟨it', ?_, by simpa using h2⟩
      simp only [Iter.nexts, Iter.next_nil h, h1]
      simp
    | cons x rem =>
      obtain ⟨it1, hn, ho⟩ := Iter.next_cons h
      obtain ⟨it', h1, h2⟩ := ih ho
      refine ⟨it', ?_, by simpa using h2⟩
      simp only [Iter.nexts, hn, h1]
      simp

theorem vecRetainMut_fst (f : α → α × Bool) (l : List α) :
    (vecRetainMut f l).1 = ((l.map f).filter (fun p => p.2)).map (fun p => p.1) := by
  induction l with
  | nil => rfl
  | cons x xs ih =>
    simp only [vecRetainMut, List.map_cons]
    cases h : (f x).2 <;> simp [h, ih]

theorem vecRetainMut_snd (f : α → α × Bool) (l : List α) :
    (vecRetainMut f l).2 = ((l.map f).filter (fun p => !p.2)).map (fun p => p.1) := by
  induction l with
  | nil => rfl
  | cons x xs ih =>
    simp only [vecRetainMut, List.map_cons]
    cases h : (f x).2 <;> simp [h, ih]

theorem vecRetainMut_perm (f : α → α × Bool) (l : List α) :
    ((vecRetainMut f l).2 ++ (vecRetainMut f l).1).Perm (l.map (fun x => (f x).1)) := by
  induction l with
  | nil => exact List.Perm.refl _
  | cons x xs ih =>
    simp only [vecRetainMut, List.map_cons]
    cases h : (f x).2
    · simpa [h] using ih
    · simp only [if_true]
      exact List.perm_middle.trans (List.Perm.cons _ ih)

theorem vecDedup_perm (eq : α → α → Bool) (l : List α) :
    ((vecDedup eq l).2 ++ (vecDedup eq l).1).Perm l := by
  fun_induction vecDedup eq l with
  | case1 => exact List.Perm.refl _
  | case2 x => exact List.Perm.refl _
  | case3 x y rest hxy ks ds hrec ih =>
    simp only [hrec] at ih
    -- ds ++ ks ~ x :: rest  ⊢  (y :: ds) ++ ks ~ x :: y :: rest
    exact (List.Perm.cons y ih).trans (List.Perm.swap x y rest)
  | case4 x y rest hxy ks ds hrec ih =>
    simp only [hrec] at ih
    -- ds ++ ks ~ y :: rest  ⊢  ds ++ x :: ks ~ x :: y :: rest
    exact List.perm_middle.trans (List.Perm.cons x ih)

/-- Witness that `retainMut false` (rejected elements not dropped) leaks: inline `[1, 2]` (`N = 2`),
predicate rejecting everything. -/
def leakWitness : SV Nat := inl 2 [1, 2]

/-- The same for `dedup false`: inline `[1, 1]` (`N = 2`). -/
def leakWitnessDedup : SV Nat := inl 2 [1, 1]

theorem leakWitness_inv : leakWitness.Inv := inv_inl (by decide)
theorem leakWitnessDedup_inv : leakWitnessDedup.Inv := inv_inl (by decide)

/-- An inline state with an initialised slot at or beyond `size` violates the invariant: that
value is owned by nobody and will never be dropped. -/
theorem not_inv_of_dead_slot {s : SV α} {v : α} (i : Nat) (hs : s.size ≤ i) (hc : i < s.cap)
    (h0 : s.arr[i]? = some (some v)) : ¬ s.Inv := by
  intro h
  rcases h.shape with ⟨_, _, hnone, _⟩ | ⟨hsz, _⟩
  · have := hnone i hs hc
    rw [h0] at this
    cases this
  · omega

end SmallVec
end Hpbf
