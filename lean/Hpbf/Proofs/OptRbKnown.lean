/-
The invariant `KnownVars` — the variables of every `known` entry of `written` have been
read by the block (while `subShift = false`) — and the step relations `KStep` (the invariant is kept, `reads` and the
keys of `written` grow) and `RS` (`reads` is only ever extended by `sIns`, so it stays ascending), for the mutators
that do not consume the oracle.  `OptRbCanon2` carries them through the rebuild together with the normal form.
`KnownVars` is consumed where a child is moved out of a loop (`OptRbMotionChild`, through `InvA`): the values the child
records as known then depend only on cells in its `reads`, which the footprint covers.
-/
import Hpbf.Proofs.OptOffsExpr
import Hpbf.Proofs.OptRbCanon

namespace Hpbf
namespace OptProof
open Opt OptSem Ir

variable {w : Nat}

theorem variables_val (c : BitVec w) : Expr.variables (Expr.val c) = [] := by
  unfold Expr.val
  split <;> simp [Expr.variables]

theorem variables_var (v : Int) : Expr.variables (Expr.var v : Expr w) = [v] := by
  simp [Expr.var, Expr.variables]

theorem normalize_variables_sub (e : Expr w) :
    ∀ x ∈ Expr.variables (Expr.normalize e), x ∈ Expr.variables e :=
  OptLoop.varsIn_iff.1 (OptOffs.varsIn_normalize (S := fun x => x ∈ Expr.variables e)
    (OptLoop.varsIn_iff.2 (fun _ h => h)))

def KnownVars (s : Rebuild w) : Prop :=
  s.subShift = false → ∀ v e, mGet s.written v = some (.known e) → ∀ x ∈ Expr.variables e, x ∈ s.reads

/-- `x` has been read or has an entry in `written` (what `read s x` establishes). -/
def Cov (s : Rebuild w) (x : Int) : Prop := x ∈ s.reads ∨ mGet s.written x ≠ none

/-- `subShift` is never reset, `reads` and (while `subShift = false`) the keys of `written` only grow, the
invariant is kept. -/
structure KStep (s s' : Rebuild w) : Prop where
  sub : s'.subShift = false → s.subShift = false
  reads : ∀ x ∈ s.reads, x ∈ s'.reads
  keys : s'.subShift = false → ∀ v, mGet s.written v ≠ none → mGet s'.written v ≠ none
  known : KnownVars s → KnownVars s'

theorem KStep.refl (s : Rebuild w) : KStep s s := ⟨fun h => h, fun _ h => h, fun _ _ h => h, fun h => h⟩

theorem KStep.trans {a b c : Rebuild w} (h1 : KStep a b) (h2 : KStep b c) : KStep a c :=
  ⟨fun h => h1.sub (h2.sub h), fun x hx => h2.reads x (h1.reads x hx),
   fun h v hv => h2.keys h v (h1.keys (h2.sub h) v hv), fun h => h2.known (h1.known h)⟩

theorem KStep.cov {s s' : Rebuild w} (h : KStep s s') (hss : s'.subShift = false) {x : Int}
    (hx : Cov s x) : Cov s' x := by
  rcases hx with hx | hx
  · exact Or.inl (h.reads x hx)
  · exact Or.inr (h.keys hss x hx)

theorem KStep.of_grow {s s' : Rebuild w} (hsub : s'.subShift = s.subShift)
    (hreads : ∀ x ∈ s.reads, x ∈ s'.reads) (hw : s'.written = s.written) : KStep s s' := by
  refine ⟨fun h => by rw [← hsub]; exact h, hreads, fun _ v hv => by rw [hw]; exact hv, ?_⟩
  intro hk hss v e hv x hx
  rw [hw] at hv
  exact hreads x (hk (by rw [← hsub]; exact hss) v e hv x hx)

theorem KStep.of_same {s s' : Rebuild w} (hsub : s'.subShift = s.subShift) (hr : s'.reads = s.reads)
    (hw : s'.written = s.written) : KStep s s' :=
  KStep.of_grow hsub (fun x hx => by rw [hr]; exact hx) hw

theorem KStep.of_sameButPend {s s' : Rebuild w} (h : SameButPend s s') : KStep s s' :=
  KStep.of_same h.subShift h.reads h.written

theorem knownVars_new (shift : Int) (cond : Option Int) (par : OptParent) (anal : Option (OptAnalysis w)) :
    KnownVars (Rebuild.new shift cond par anal) := by
  intro _ v e h
  simp [Rebuild.new, mGet] at h

/-- `uncertainShift` makes the invariant vacuous. -/
theorem uncertainShift_kstep (s : Rebuild w) : KStep s (uncertainShift s) :=
  ⟨fun h => by simp [uncertainShift] at h, fun _ h => h, fun h => by simp [uncertainShift] at h,
   fun _ h => by simp [uncertainShift] at h⟩

inductive RExt : List Int → List Int → Prop
  | refl (a : List Int) : RExt a a
  | ins {a b : List Int} (x : Int) : RExt a b → RExt a (sIns b x)

theorem RExt.trans {a b c : List Int} (h1 : RExt a b) (h2 : RExt b c) : RExt a c := by
  induction h2 with
  | refl => exact h1
  | ins x _ ih => exact RExt.ins x ih

theorem RExt.sasc {a b : List Int} (h : RExt a b) (ha : OptLoop.SAsc a) : OptLoop.SAsc b := by
  induction h with
  | refl => exact ha
  | ins x _ ih => exact OptLoop.sasc_sIns _ x ih

def RS (s s' : Rebuild w) : Prop := RExt s.reads s'.reads

theorem RS.refl (s : Rebuild w) : RS s s := RExt.refl _
theorem RS.trans {a b c : Rebuild w} (h1 : RS a b) (h2 : RS b c) : RS a c := RExt.trans h1 h2
theorem RS.of_eq {s s' : Rebuild w} (h : s'.reads = s.reads) : RS s s' := by
  unfold RS; rw [h]; exact RExt.refl _
theorem RS.sasc {s s' : Rebuild w} (h : RS s s') (hs : OptLoop.SAsc s.reads) : OptLoop.SAsc s'.reads :=
  RExt.sasc h hs

theorem read_rs (s : Rebuild w) (var : Int) : RS s (Opt.read s var) := by
  unfold RS Opt.read
  split
  · exact RExt.ins var (RExt.refl _)
  · exact RExt.ins var (RExt.refl _)
  · exact RExt.refl _

theorem foldl_read_rs (s : Rebuild w) (vs : List Int) : RS s (vs.foldl Opt.read s) :=
  foldl_keeps (RS s) _ (fun b y h => h.trans (read_rs b y)) vs s (RS.refl s)

theorem readGroup_rs (s : Rebuild w) (calcs : List (Int × Expr w)) : RS s (readGroup s calcs) :=
  foldl_keeps (RS s) _ (fun b _ h => h.trans (foldl_read_rs b _)) calcs s (RS.refl s)

theorem removePending_rs (s : Rebuild w) (var : Int) : RS s (removePending s var).1 :=
  RS.of_eq (removePending_same s var).reads

theorem insertPending_rs (s : Rebuild w) (ps : List (Rebuild w)) (var : Int) (expr : Expr w) :
    RS s (insertPending s ps var expr) :=
  RS.of_eq (insertPending_same s ps var expr).reads

theorem insertWritten_rs (s : Rebuild w) (var : Int) (val : OptWrite w) : RS s (insertWritten s var val) :=
  RS.of_eq (insertWritten_same s var val).reads

theorem writtenCalcs_rs (s : Rebuild w) (ps : List (Rebuild w)) (calcs : List (Int × Expr w)) :
    RS s (writtenCalcs s ps calcs) :=
  RS.of_eq (writtenCalcs_eq s ps calcs).2.1

theorem uncertainShift_rs (s : Rebuild w) : RS s (uncertainShift s) := RS.of_eq rfl

theorem emitGroup_rs (ps : List (Rebuild w)) (s : Rebuild w) (calcs : List (Int × Expr w)) :
    RS s (emitGroup ps s calcs) :=
  ((readGroup_rs s calcs).trans (writtenCalcs_rs _ ps calcs)).trans
    (RS.of_eq (s := writtenCalcs (readGroup s calcs) ps calcs) (s' := emitGroup ps s calcs) rfl)

theorem emitStructured_rs (s : Rebuild w) (ps : List (Rebuild w)) (toEmit : List (List (Int × Expr w))) :
    RS s (emitStructured s ps toEmit) := by
  rw [emitStructured_eq]
  exact foldl_keeps (RS s) _ (fun b g h => h.trans (emitGroup_rs ps b g)) toEmit s (RS.refl s)

theorem read_reads_mono (s : Rebuild w) (var : Int) : ∀ x ∈ s.reads, x ∈ (Opt.read s var).reads := by
  intro x hx
  unfold Opt.read
  split
  · exact mem_sIns.2 (Or.inr hx)
  · exact mem_sIns.2 (Or.inr hx)
  · exact hx

theorem read_kstep (s : Rebuild w) (var : Int) : KStep s (Opt.read s var) :=
  KStep.of_grow (read_same s var).subShift (read_reads_mono s var) (read_same s var).written

theorem read_cov (s : Rebuild w) (x : Int) : Cov (Opt.read s x) x := by
  have hw : (Opt.read s x).written = s.written := (read_same s x).written
  unfold Cov
  rw [hw]
  cases hg : mGet s.written x with
  | none =>
    left
    unfold Opt.read
    rw [hg]
    exact mem_sIns.2 (Or.inl rfl)
  | some k =>
    right; simp

theorem cov_read {s : Rebuild w} {x : Int} (h : Cov s x) (y : Int) : Cov (Opt.read s y) x := by
  rcases h with h | h
  · exact Or.inl (read_reads_mono s y x h)
  · right
    rw [(read_same s y).written]; exact h

theorem cov_foldl_read {s : Rebuild w} {x : Int} (h : Cov s x) (vs : List Int) :
    Cov (vs.foldl Opt.read s) x :=
  foldl_keeps (Cov · x) _ (fun _ y hb => cov_read hb y) vs s h

theorem foldl_read_cov (s : Rebuild w) (vs : List Int) : ∀ x ∈ vs, Cov (vs.foldl Opt.read s) x := by
  induction vs generalizing s with
  | nil => intro x hx; cases hx
  | cons y vs ih =>
    intro x hx
    simp only [List.foldl_cons]
    rcases List.mem_cons.1 hx with rfl | hx
    · exact cov_foldl_read (read_cov s x) vs
    · exact ih _ x hx

theorem cov_readGroup {s : Rebuild w} {x : Int} (h : Cov s x) (calcs : List (Int × Expr w)) :
    Cov (readGroup s calcs) x :=
  foldl_keeps (Cov · x) _ (fun _ _ hb => cov_foldl_read hb _) calcs s h

theorem readGroup_cov (s : Rebuild w) (calcs : List (Int × Expr w)) :
    ∀ vc ∈ calcs, ∀ x ∈ Expr.variables vc.2, Cov (readGroup s calcs) x := by
  induction calcs generalizing s with
  | nil => intro vc h; cases h
  | cons vc0 calcs ih =>
    intro vc hvc x hx
    rcases List.mem_cons.1 hvc with rfl | hvc
    · exact cov_readGroup (s := (Expr.variables vc.2).foldl Opt.read s) (foldl_read_cov s _ x hx) calcs
    · exact ih _ vc hvc x hx

theorem readGroup_kstep (s : Rebuild w) (calcs : List (Int × Expr w)) : KStep s (readGroup s calcs) :=
  foldl_keeps (KStep s) _ (fun b vc h => foldl_keeps (KStep s) _ (fun b' y h' => h'.trans (read_kstep b' y))
    (Expr.variables vc.2) b h) calcs s (KStep.refl s)

theorem insertWritten_kstep (s : Rebuild w) (var : Int) (val : OptWrite w)
    (hv : ∀ e, val = .known e → s.subShift = false → ∀ x ∈ Expr.variables e, x ∈ s.reads) :
    KStep s (insertWritten s var val) := by
  have hs := insertWritten_same s var val
  have hsub : (insertWritten s var val).subShift = s.subShift := hs.subShift
  have hreads : (insertWritten s var val).reads = s.reads := hs.reads
  refine ⟨fun h => by rw [← hsub]; exact h, fun x hx => by rw [hreads]; exact hx, ?_, ?_⟩
  · intro _ v hv'
    rw [insertWritten_written, mGet_mSet]
    split
    · simp
    · exact hv'
  · intro hk hss v e h x hx
    rw [hsub] at hss
    rw [hreads]
    rw [insertWritten_written, mGet_mSet] at h
    split at h
    · simp only [Option.some.injEq] at h
      cases val with
      | known e0 =>
        simp only [normW, OptWrite.known.injEq] at h
        subst h
        exact hv e0 rfl hss x (normalize_variables_sub e0 x hx)
      | unknown => cases h
      | maybe => cases h
    · exact hk hss v e h x hx

theorem insertWritten_kstep_nonknown (s : Rebuild w) (var : Int) (val : OptWrite w)
    (hv : ∀ e, val ≠ .known e) : KStep s (insertWritten s var val) :=
  insertWritten_kstep s var val (fun e h => absurd h (hv e))

theorem insertWritten_kstep_val (s : Rebuild w) (var : Int) (c : BitVec w) :
    KStep s (insertWritten s var (.known (Expr.val c))) := by
  refine insertWritten_kstep s var _ ?_
  intro e h _ x hx
  simp only [OptWrite.known.injEq] at h
  subst h
  rw [variables_val] at hx
  cases hx

/-- What `writtenCalcs` records only mentions variables that have been read: a variable that `evalWritten` substituted
brings the variables of a `known` entry, which are in `reads` by `KnownVars`; one it left alone has no entry in
`written`, so `Cov` puts it in `reads`. -/
theorem knownOf_vars {s : Rebuild w} (hk : KnownVars s) (hss : s.subShift = false) (ps : List (Rebuild w))
    {e0 e : Expr w} (hcov : ∀ x ∈ Expr.variables e0, Cov s x) (h : knownOf s ps e0 = .known e) :
    ∀ x ∈ Expr.variables e, x ∈ s.reads := by
  unfold knownOf at h
  split at h
  · split at h
    · rename_i c hcw
      simp only [OptWrite.known.injEq] at h
      subst h
      intro x hx
      have hx' := normalize_variables_sub c x hx
      revert x
      suffices H : ∀ x ∈ Expr.variables c, x ∈ s.reads from fun x _ hx' => H x hx'
      unfold evalWritten at hcw
      split at hcw
      · refine (OptLoop.varsIn_iff (S := fun x => x ∈ s.reads)).1
          (OptLoop.symbEvaluate_varsIn (S := fun x => x ∈ s.reads) _ e0 c ?_ hcw)
        intro v hv e' he'
        refine (OptLoop.varsIn_iff (S := fun x => x ∈ s.reads)).2 ?_
        unfold getWritten at he'
        split at he'
        · rename_i expr hw
          simp only [Option.some.injEq] at he'
          subst he'
          exact hk hss v _ hw
        · cases he'
        · rename_i hnone
          split at he'
          · simp only [Option.some.injEq] at he'
            subst he'
            intro x hx; rw [variables_val] at hx; cases hx
          · simp only [Option.some.injEq] at he'
            subst he'
            intro x hx
            rw [variables_var] at hx
            simp only [List.mem_singleton] at hx
            subst hx
            rcases hcov x hv with h1 | h1
            · exact h1
            · exact absurd hnone h1
      · rename_i hany
        simp only [Option.some.injEq] at hcw
        subst hcw
        intro x hx
        rcases hcov x hx with h1 | h1
        · exact h1
        · exfalso
          apply hany
          rw [List.any_eq_true]
          refine ⟨x, hx, ?_⟩
          unfold mHas
          cases hg : mGet s.written x with
          | none => exact absurd hg h1
          | some k => rfl
    · cases h
  · cases h

theorem mGet_foldl_mSet_ne_none {ν : Type} (l : List (Int × ν)) (m0 : List (Int × ν)) (v : Int)
    (h : mGet m0 v ≠ none) : mGet (l.foldl (fun m kv => mSet m kv.1 kv.2) m0) v ≠ none := by
  induction l generalizing m0 with
  | nil => exact h
  | cons kv l ih =>
    simp only [List.foldl_cons]
    apply ih
    rw [mGet_mSet]
    split
    · simp
    · exact h

theorem writtenCalcs_kstep (s : Rebuild w) (ps : List (Rebuild w)) (calcs : List (Int × Expr w))
    (hcov : s.subShift = false → ∀ vc ∈ calcs, ∀ x ∈ Expr.variables vc.2, Cov s x) :
    KStep s (writtenCalcs s ps calcs) := by
  obtain ⟨hs, hreads, hwr⟩ := writtenCalcs_eq s ps calcs
  have hsub : (writtenCalcs s ps calcs).subShift = s.subShift := hs.subShift
  refine ⟨fun h => by rw [← hsub]; exact h, fun x hx => by rw [hreads]; exact hx, ?_, ?_⟩
  · intro _ v hv
    rw [hwr]; exact mGet_foldl_mSet_ne_none _ _ _ hv
  · intro hk hss v e h x hx
    rw [hsub] at hss
    rw [hreads]
    rw [hwr] at h
    rcases mGet_foldl_mSet_cases _ _ _ _ h with h1 | h1
    · obtain ⟨vc, hvc, e1⟩ := List.mem_map.1 h1
      simp only [Prod.mk.injEq] at e1
      exact knownOf_vars hk hss ps (hcov hss vc hvc) e1.2 x hx
    · exact hk hss v e h1 x hx

theorem emitGroup_kstep (ps : List (Rebuild w)) (s : Rebuild w) (calcs : List (Int × Expr w)) :
    KStep s (emitGroup ps s calcs) := by
  have k1 := readGroup_kstep s calcs
  have k2 := writtenCalcs_kstep (readGroup s calcs) ps calcs (fun _ => readGroup_cov s calcs)
  exact (k1.trans k2).trans (KStep.of_same (s := writtenCalcs (readGroup s calcs) ps calcs)
    (s' := emitGroup ps s calcs) rfl rfl rfl)

theorem emitStructured_kstep (s : Rebuild w) (ps : List (Rebuild w)) (toEmit : List (List (Int × Expr w))) :
    KStep s (emitStructured s ps toEmit) := by
  rw [emitStructured_eq]
  exact foldl_keeps (KStep s) _ (fun b g h => h.trans (emitGroup_kstep ps b g)) toEmit s (KStep.refl s)

theorem removePending_kstep (s : Rebuild w) (var : Int) : KStep s (removePending s var).1 :=
  KStep.of_sameButPend (removePending_same s var)

theorem insertPending_kstep (s : Rebuild w) (ps : List (Rebuild w)) (var : Int) (expr : Expr w) :
    KStep s (insertPending s ps var expr) :=
  KStep.of_sameButPend (insertPending_same s ps var expr)

end OptProof
end Hpbf
