/-
Basic facts about the big-step semantics `Exec` of `OptRbSem.lean`
(every observation is a point of a run of the machine `Ir.step`: `exec_reaches`; hence determinism; sequencing,
lists of `calc`s) and composition of `Sim` (append, loop and `ifnz` congruence).
The converse (a run of the machine gives an `Exec`), `Ir.run` and `OnceOk ↔ ¬ Bad` are in `OptRbAdeq2.lean`.
-/
import Hpbf.Proofs.OptRbSem

namespace Hpbf
namespace OptProof
open Ir

variable {w : Nat}

open C01Dse (cfgAt)

theorem cfgAt_trans {lim : Bool} {n m : Nat} {a b c : Cfg w} (h1 : cfgAt lim n a = some b)
    (h2 : cfgAt lim m b = some c) : cfgAt lim (n + m) a = some c := by
  rw [C01Dse.cfgAt_iff] at h1 h2 ⊢
  rw [(Ir.fuelRun lim).split h1 m, h2]

def Reaches (a : Cfg w) (P : Cfg w → Prop) : Prop := ∃ n c, cfgAt false n a = some c ∧ P c

theorem Reaches.here {a : Cfg w} {P : Cfg w → Prop} (h : P a) : Reaches a P := ⟨0, a, rfl, h⟩

theorem Reaches.cons {a b : Cfg w} {P : Cfg w → Prop} (hs : step false a = .next b) (h : Reaches b P) :
    Reaches a P := by
  obtain ⟨n, c, h1, h2⟩ := h
  exact ⟨n + 1, c, by simp [cfgAt, hs, h1], h2⟩

theorem Reaches.trans {a b : Cfg w} {P : Cfg w → Prop} (h1 : Reaches a (· = b)) (h2 : Reaches b P) :
    Reaches a P := by
  obtain ⟨n, c, h1, rfl⟩ := h1
  obtain ⟨m, c', h2, h3⟩ := h2
  exact ⟨n + m, c', cfgAt_trans h1 h2, h3⟩

theorem Reaches.mono {a : Cfg w} {P P' : Cfg w → Prop} (hP : ∀ c, P c → P' c) (h : Reaches a P) :
    Reaches a P' := by
  obtain ⟨n, c, h1, h2⟩ := h
  exact ⟨n, c, h1, hP c h2⟩

theorem Reaches.transfer {a a' : Cfg w} {P : Cfg w → Prop} (hs : step false a' = step false a)
    (hP : P a → P a') (h : Reaches a P) : Reaches a' P := by
  obtain ⟨n, c, h1, h2⟩ := h
  cases n with
  | zero =>
    simp only [cfgAt, Option.some.injEq] at h1
    subst h1; exact .here (hP h2)
  | succ n => exact ⟨n + 1, c, by simp only [cfgAt, hs] at h1 ⊢; exact h1, h2⟩

/-- the back edge of a loop does what the `.loop` instruction does -/
theorem step_loopEnd (c s : Int) (body R : List (Instr w)) (once : Bool) (ks : List (Cont w)) (bud : Nat)
    (σ : State w) :
    step false ⟨[], .loopEnd c s body R :: ks, bud, σ⟩ =
      step false ⟨.loop c s body once :: R, ks, bud, σ.mov s⟩ := by
  simp [step]

/-- What the machine does for an observation `o` of `is` (started with `is ++ rest`, continuations `ks`). -/
def Goal (rest : List (Instr w)) (ks : List (Cont w)) (bud : Nat) : Out w → Cfg w → Prop
  | .fin σ1, c => c = ⟨rest, ks, bud, σ1⟩
  | .stop σ1, c => ∃ c', step false c = .stop c' ∧ c'.st = σ1
  | .part t, c => c.st.trace = t

theorem goal_nonfin {rest rest' : List (Instr w)} {ks ks' : List (Cont w)} {bud bud' : Nat} {o : Out w}
    (h : o.isFin = false) (c : Cfg w) : Goal rest ks bud o c → Goal rest' ks' bud' o c := by
  cases o with
  | fin _ => cases h
  | stop _ => exact id
  | part _ => exact id

theorem goal_transfer {rest rest' : List (Instr w)} {ks : List (Cont w)} {bud : Nat} {o : Out w}
    {c s : Int} {body : List (Instr w)} {once : Bool} {σ1 : State w} :
    Goal rest ks bud o ⟨.loop c s body once :: (rest' ++ rest), ks, bud, σ1.mov s⟩ →
      Goal rest ks bud o ⟨[], .loopEnd c s body (rest' ++ rest) :: ks, bud, σ1⟩ := by
  cases o with
  | fin σ2 =>
    intro h
    have := congrArg (fun c => c.cur.length) h
    simp at this
    omega
  | stop σ2 =>
    rintro ⟨c', h1, h2⟩
    exact ⟨c', by rw [step_loopEnd _ _ _ _ once]; exact h1, h2⟩
  | part t => exact id

theorem exec_reaches {is : List (Instr w)} {σ : State w} {o : Out w} (h : Exec is σ o) :
    ∀ (rest : List (Instr w)) (ks : List (Cont w)) (bud : Nat),
      Reaches ⟨is ++ rest, ks, bud, σ⟩ (Goal rest ks bud o) := by
  induction h with
  | cut => intro rest ks bud; exact .here rfl
  | nil => intro rest ks bud; exact .here rfl
  | outOk h _ ih =>
    intro rest ks bud
    exact .cons (by simp [step, h]) (ih rest ks bud)
  | @outFail src rest' σ σ1 h =>
    intro rest ks bud
    exact .here ⟨⟨rest' ++ rest, ks, bud, σ1⟩, by simp [step, h], rfl⟩
  | inOk h _ ih =>
    intro rest ks bud
    exact .cons (by simp [step, h]) (ih rest ks bud)
  | @inFail dst rest' σ σ1 h =>
    intro rest ks bud
    exact .here ⟨⟨rest' ++ rest, ks, bud, σ1⟩, by simp [step, h], rfl⟩
  | «calc» _ ih =>
    intro rest ks bud
    exact .cons (by simp [step]) (ih rest ks bud)
  | loopSkip hz _ ih =>
    intro rest ks bud
    exact .cons (by simp [step, hz]) (ih rest ks bud)
  | @loopIter cond shift body once rest' σ σ1 o hnz _ _ ihb ihl =>
    intro rest ks bud
    have hb := ihb [] (.loopEnd cond shift body (rest' ++ rest) :: ks) bud
    rw [List.append_nil] at hb
    refine .cons (b := ⟨body, .loopEnd cond shift body (rest' ++ rest) :: ks, bud, σ⟩) (by simp [step, hnz]) ?_
    refine .trans hb ?_
    exact Reaches.transfer (step_loopEnd _ _ _ _ _ _ _ _) goal_transfer (ihl rest ks bud)
  | @loopIn cond shift body once rest' σ o hnz _ hnf ihb =>
    intro rest ks bud
    have hb := ihb [] (.loopEnd cond shift body (rest' ++ rest) :: ks) bud
    rw [List.append_nil] at hb
    exact .cons (b := ⟨body, .loopEnd cond shift body (rest' ++ rest) :: ks, bud, σ⟩) (by simp [step, hnz])
      (hb.mono (goal_nonfin hnf))
  | ifSkip hz _ ih =>
    intro rest ks bud
    exact .cons (by simp [step, hz]) (ih rest ks bud)
  | @ifIter cond shift body rest' σ σ1 o hnz _ _ ihb ihr =>
    intro rest ks bud
    have hb := ihb [] (.ifEnd shift (rest' ++ rest) :: ks) bud
    rw [List.append_nil] at hb
    refine .cons (b := ⟨body, .ifEnd shift (rest' ++ rest) :: ks, bud, σ⟩) (by simp [step, hnz]) ?_
    refine .trans hb ?_
    exact .cons (by simp [step]) (ihr rest ks bud)
  | @ifIn cond shift body rest' σ o hnz _ hnf ihb =>
    intro rest ks bud
    have hb := ihb [] (.ifEnd shift (rest' ++ rest) :: ks) bud
    rw [List.append_nil] at hb
    exact .cons (b := ⟨body, .ifEnd shift (rest' ++ rest) :: ks, bud, σ⟩) (by simp [step, hnz])
      (hb.mono (goal_nonfin hnf))

/-- `o'` is an observation compatible with the terminal observation `o`. -/
def Out.Le (o' o : Out w) : Prop := o' = o ∨ ∃ t, o' = .part t ∧ t <:+ o.trace

def Out.isPart : Out w → Bool
  | .part _ => true
  | _ => false

/-- Two points of one run: a configuration that cannot step lies after every other one. -/
theorem cfgAt_before_last {n m : Nat} {a c d : Cfg w} (h1 : cfgAt false n a = some c)
    (h2 : cfgAt false m a = some d) (hd : ∀ e, step false d ≠ .next e) : ∃ k, cfgAt false k c = some d := by
  induction n generalizing a m with
  | zero => cases h1; exact ⟨m, h2⟩
  | succ n ih =>
    obtain ⟨a1, hs, h1⟩ := C01Dse.cfgAt_succ_some h1
    cases m with
    | zero => cases h2; exact absurd hs (hd a1)
    | succ m =>
      obtain ⟨a1', hs', h2⟩ := C01Dse.cfgAt_succ_some h2
      cases hs.symm.trans hs'
      exact ih h1 h2

theorem cfgAt_trace {k : Nat} {c d : Cfg w} (h : cfgAt false k c = some d) : c.st.trace <:+ d.st.trace := by
  induction k generalizing c with
  | zero => cases h; exact List.suffix_refl _
  | succ k ih =>
    obtain ⟨c1, hs, h⟩ := C01Dse.cfgAt_succ_some h
    have := Ir.step_trace false c
    rw [hs] at this
    exact this.trans (ih h)

/-- What `Goal` says about a terminal observation: the configuration cannot step, and its trace is below the
observation's. -/
theorem goal_terminal {o : Out w} (ht : o.isPart = false) {c : Cfg w} (g : Goal [] [] 0 o c) :
    (∀ e, step false c ≠ .next e) ∧ c.st.trace <:+ o.trace := by
  cases o with
  | part t => cases ht
  | fin σ1 =>
    cases (g : c = _)
    exact ⟨fun e he => (nomatch he), List.suffix_refl _⟩
  | stop σ1 =>
    obtain ⟨c', hs, rfl⟩ := g
    have := Ir.step_trace false c
    rw [hs] at this
    exact ⟨fun e he => (nomatch hs.symm.trans he), this⟩

theorem exec_trace_suffix {is : List (Instr w)} {σ : State w} {o : Out w} (h : Exec is σ o) :
    σ.trace <:+ o.trace := by
  obtain ⟨n, c, hc, g⟩ := exec_reaches h [] [] 0
  have := cfgAt_trace hc
  cases o with
  | part t => cases (g : c.st.trace = t); exact this
  | fin σ1 => cases (g : c = _); exact this
  | stop σ1 =>
    obtain ⟨c', hs, rfl⟩ := g
    have h' := Ir.step_trace false c
    rw [hs] at h'
    exact this.trans h'

/-- The key determinism lemma: any observation is bounded by a terminal (non-`part`) one.  Both observations are
points of ONE run of the machine (`exec_reaches`), which is a function; the terminal one is its last point. -/
theorem exec_le {is : List (Instr w)} {σ : State w} {o2 : Out w} (h2 : Exec is σ o2) :
    ∀ {o1 : Out w}, Exec is σ o1 → o1.isPart = false → Out.Le o2 o1 := by
  intro o1 h1 ht
  obtain ⟨n2, c2, hc2, g2⟩ := exec_reaches h2 [] [] 0
  obtain ⟨n1, c1, hc1, g1⟩ := exec_reaches h1 [] [] 0
  obtain ⟨hlast, htr1⟩ := goal_terminal ht g1
  obtain ⟨k, hk⟩ := cfgAt_before_last hc2 hc1 hlast
  by_cases hp : o2.isPart = true
  · cases o2 with
    | part t => cases (g2 : c2.st.trace = t); exact Or.inr ⟨_, rfl, (cfgAt_trace hk).trans htr1⟩
    | fin _ => cases hp
    | stop _ => cases hp
  · -- both terminal: `c2` cannot step either, so `c1 = c2`, and `Goal` determines the observation
    obtain ⟨hlast2, _⟩ := goal_terminal (by simpa using hp) g2
    cases k with
    | succ k => obtain ⟨e, hs, _⟩ := C01Dse.cfgAt_succ_some hk; exact absurd hs (hlast2 e)
    | zero =>
      cases hk
      left
      cases o2 with
      | part t => exact absurd rfl hp
      | fin σ2 =>
        cases (g2 : c2 = _)
        cases o1 with
        | part t => cases ht
        | fin σ1 => cases (g1 : _ = _); rfl
        | stop σ1 => obtain ⟨c', hs, _⟩ := g1; cases hs
      | stop σ2 =>
        obtain ⟨c', hs, rfl⟩ := g2
        cases o1 with
        | part t => cases ht
        | fin σ1 => cases (g1 : c2 = _); cases hs
        | stop σ1 => obtain ⟨c'', hs', rfl⟩ := g1; cases hs.symm.trans hs'; rfl

theorem exec_fin_det {is : List (Instr w)} {σ a b : State w} (h1 : Exec is σ (.fin a)) (h2 : Exec is σ (.fin b)) :
    a = b := by
  rcases exec_le h1 h2 rfl with h | ⟨t, h, _⟩ <;> cases h; rfl

theorem exec_stop_det {is : List (Instr w)} {σ a b : State w} (h1 : Exec is σ (.stop a))
    (h2 : Exec is σ (.stop b)) : a = b := by
  rcases exec_le h1 h2 rfl with h | ⟨t, h, _⟩ <;> cases h; rfl

theorem exec_fin_stop_excl {is : List (Instr w)} {σ a b : State w} (h1 : Exec is σ (.fin a))
    (h2 : Exec is σ (.stop b)) : False := by
  rcases exec_le h1 h2 rfl with h | ⟨t, h, _⟩ <;> cases h

theorem exec_part_le_fin {is : List (Instr w)} {σ a : State w} {t : List Ev} (h1 : Exec is σ (.fin a))
    (h2 : Exec is σ (.part t)) : t <:+ a.trace := by
  rcases exec_le h2 h1 rfl with h | ⟨t', h, hl⟩ <;> cases h; exact hl

theorem exec_part_le_stop {is : List (Instr w)} {σ a : State w} {t : List Ev} (h1 : Exec is σ (.stop a))
    (h2 : Exec is σ (.part t)) : t <:+ a.trace := by
  rcases exec_le h2 h1 rfl with h | ⟨t', h, hl⟩ <;> cases h; exact hl

theorem exec_fin_part_aux {is : List (Instr w)} {σ : State w} {o : Out w} (h : Exec is σ o) :
    ∀ a, o = .fin a → Exec is σ (.part a.trace) := by
  induction h with
  | cut => intro a e; cases e
  | nil σ => intro a e; cases e; exact .cut _ _
  | outOk h _ ih => intro a e; exact .outOk h (ih a e)
  | outFail => intro a e; cases e
  | inOk h _ ih => intro a e; exact .inOk h (ih a e)
  | inFail => intro a e; cases e
  | «calc» _ ih => intro a e; exact .calc (ih a e)
  | loopSkip hz _ ih => intro a e; exact .loopSkip hz (ih a e)
  | loopIter hnz hb _ _ ihl => intro a e; exact .loopIter hnz hb (ihl a e)
  | loopIn _ _ hnf => intro a e; subst e; cases hnf
  | ifSkip hz _ ih => intro a e; exact .ifSkip hz (ih a e)
  | ifIter hnz hb _ _ ihr => intro a e; exact .ifIter hnz hb (ihr a e)
  | ifIn _ _ hnf => intro a e; subst e; cases hnf

theorem exec_fin_part {is : List (Instr w)} {σ a : State w} (h : Exec is σ (.fin a)) :
    Exec is σ (.part a.trace) := exec_fin_part_aux h a rfl

theorem exec_once_irrel {c s : Int} {body rest : List (Instr w)} {o o' : Bool} {σ : State w} {out : Out w}
    (h : Exec (.loop c s body o :: rest) σ out) : Exec (.loop c s body o' :: rest) σ out := by
  generalize hl : Instr.loop c s body o :: rest = l at h
  induction h with
  | cut => exact .cut _ _
  | loopSkip hz hr => cases hl; exact .loopSkip hz hr
  | loopIter hnz hb _ _ ih => cases hl; exact .loopIter hnz hb (ih rfl)
  | loopIn hnz hb hnf => cases hl; exact .loopIn hnz hb hnf
  | _ => cases hl

theorem exec_append_left {a : List (Instr w)} {σ : State w} {o : Out w} (h : Exec a σ o) (b : List (Instr w)) :
    o.isFin = false → Exec (a ++ b) σ o := by
  induction h with
  | cut => intro _; exact .cut _ _
  | nil => intro e; cases e
  | outOk h _ ih => intro e; exact .outOk h (ih e)
  | outFail h => intro _; exact .outFail h
  | inOk h _ ih => intro e; exact .inOk h (ih e)
  | inFail h => intro _; exact .inFail h
  | «calc» _ ih => intro e; exact .calc (ih e)
  | loopSkip hz _ ih => intro e; exact .loopSkip hz (ih e)
  | loopIter hnz hb _ _ ihl => intro e; exact .loopIter hnz hb (ihl e)
  | loopIn hnz hb hnf => intro _; exact .loopIn hnz hb hnf
  | ifSkip hz _ ih => intro e; exact .ifSkip hz (ih e)
  | ifIter hnz hb _ _ ihr => intro e; exact .ifIter hnz hb (ihr e)
  | ifIn hnz hb hnf => intro _; exact .ifIn hnz hb hnf

theorem exec_append_right {a b : List (Instr w)} {σ : State w} {o o' : Out w} (h : Exec a σ o) :
    ∀ σ1, o = .fin σ1 → Exec b σ1 o' → Exec (a ++ b) σ o' := by
  induction h with
  | cut => intro _ e; cases e
  | nil => intro _ e h'; cases e; exact h'
  | outOk h _ ih => intro _ e h'; exact .outOk h (ih _ e h')
  | outFail h => intro _ e; cases e
  | inOk h _ ih => intro _ e h'; exact .inOk h (ih _ e h')
  | inFail h => intro _ e; cases e
  | «calc» _ ih => intro _ e h'; exact .calc (ih _ e h')
  | loopSkip hz _ ih => intro _ e h'; exact .loopSkip hz (ih _ e h')
  | loopIter hnz hb _ _ ihl => intro _ e h'; exact .loopIter hnz hb (ihl _ e h')
  | loopIn hnz hb hnf => intro _ e; subst e; cases hnf
  | ifSkip hz _ ih => intro _ e h'; exact .ifSkip hz (ih _ e h')
  | ifIter hnz hb _ _ ihr => intro _ e h'; exact .ifIter hnz hb (ihr _ e h')
  | ifIn hnz hb hnf => intro _ e; subst e; cases hnf

/-- The right-hand side of `exec_append`, named so that `exec_cons_append_inv` can carry it through its induction. -/
def AppR (b a : List (Instr w)) (σ : State w) (o : Out w) : Prop :=
  (o.isFin = false ∧ Exec a σ o) ∨ ∃ σ1, Exec a σ (.fin σ1) ∧ Exec b σ1 o

theorem AppR.map {b a1 a2 : List (Instr w)} {σ1 σ2 : State w} {o : Out w}
    (f : ∀ o', Exec a1 σ1 o' → Exec a2 σ2 o') (h : AppR b a1 σ1 o) : AppR b a2 σ2 o := by
  rcases h with ⟨h1, h2⟩ | ⟨σ', h1, h2⟩
  · exact Or.inl ⟨h1, f _ h2⟩
  · exact Or.inr ⟨σ', f _ h1, h2⟩

theorem AppR.ofNil {b : List (Instr w)} {σ : State w} {o : Out w} (h : Exec b σ o) : AppR b [] σ o :=
  Or.inr ⟨σ, .nil σ, h⟩

/-- A run of `a ++ b` with `a` empty is a run of `b`; so only a non-empty `a` needs an argument. -/
theorem AppR.of_cons {b l : List (Instr w)} {σ : State w} {o : Out w} (h : Exec l σ o)
    (hc : ∀ i a, l = i :: (a ++ b) → AppR b (i :: a) σ o) : ∀ a, l = a ++ b → AppR b a σ o
  | [], e => by cases e; exact .ofNil h
  | i :: a, e => hc i a e

theorem exec_cons_append_inv {b l : List (Instr w)} {σ : State w} {o : Out w} (h : Exec l σ o) :
    ∀ i a, l = i :: (a ++ b) → AppR b (i :: a) σ o := by
  induction h with
  | cut => intro i a _; exact Or.inl ⟨rfl, .cut _ _⟩
  | nil σ => intro i a e; cases e
  | outOk h hr ih => intro i a e; cases e; exact (AppR.of_cons hr ih a rfl).map (fun _ hx => .outOk h hx)
  | outFail h => intro i a e; cases e; exact Or.inl ⟨rfl, .outFail h⟩
  | inOk h hr ih => intro i a e; cases e; exact (AppR.of_cons hr ih a rfl).map (fun _ hx => .inOk h hx)
  | inFail h => intro i a e; cases e; exact Or.inl ⟨rfl, .inFail h⟩
  | «calc» hr ih => intro i a e; cases e; exact (AppR.of_cons hr ih a rfl).map (fun _ hx => .calc hx)
  | loopSkip hz hr ih =>
    intro i a e; cases e; exact (AppR.of_cons hr ih a rfl).map (fun _ hx => .loopSkip hz hx)
  | loopIter hnz hb _ _ ihl => intro i a e; cases e; exact (ihl _ a rfl).map (fun _ hx => .loopIter hnz hb hx)
  | loopIn hnz hb hnf => intro i a e; cases e; exact Or.inl ⟨hnf, .loopIn hnz hb hnf⟩
  | ifSkip hz hr ih => intro i a e; cases e; exact (AppR.of_cons hr ih a rfl).map (fun _ hx => .ifSkip hz hx)
  | ifIter hnz hb hr _ ihr =>
    intro i a e; cases e; exact (AppR.of_cons hr ihr a rfl).map (fun _ hx => .ifIter hnz hb hx)
  | ifIn hnz hb hnf => intro i a e; cases e; exact Or.inl ⟨hnf, .ifIn hnz hb hnf⟩

theorem exec_append {a b : List (Instr w)} {σ : State w} {o : Out w} :
    Exec (a ++ b) σ o ↔ (o.isFin = false ∧ Exec a σ o) ∨ ∃ σ1, Exec a σ (.fin σ1) ∧ Exec b σ1 o := by
  constructor
  · intro h; exact AppR.of_cons h (exec_cons_append_inv h) a rfl
  · rintro (⟨h1, h2⟩ | ⟨σ1, h1, h2⟩)
    · exact exec_append_left h2 b h1
    · exact exec_append_right h1 σ1 rfl h2

/-- The right-hand side of `bad_append`, likewise for `bad_cons_append_inv`. -/
def BadR (b a : List (Instr w)) (σ : State w) : Prop :=
  Bad a σ ∨ ∃ σ1, Exec a σ (.fin σ1) ∧ Bad b σ1

theorem BadR.map {b a1 a2 : List (Instr w)} {σ1 σ2 : State w}
    (f : ∀ σ', Exec a1 σ1 (.fin σ') → Exec a2 σ2 (.fin σ')) (g : Bad a1 σ1 → Bad a2 σ2)
    (h : BadR b a1 σ1) : BadR b a2 σ2 := by
  rcases h with h | ⟨σ', h1, h2⟩
  · exact Or.inl (g h)
  · exact Or.inr ⟨σ', f _ h1, h2⟩

theorem BadR.ofNil {b : List (Instr w)} {σ : State w} (h : Bad b σ) : BadR b [] σ :=
  Or.inr ⟨σ, .nil σ, h⟩

theorem BadR.of_cons {b l : List (Instr w)} {σ : State w} (h : Bad l σ)
    (hc : ∀ i a, l = i :: (a ++ b) → BadR b (i :: a) σ) : ∀ a, l = a ++ b → BadR b a σ
  | [], e => by cases e; exact .ofNil h
  | i :: a, e => hc i a e

theorem bad_cons_append_inv {b l : List (Instr w)} {σ : State w} (h : Bad l σ) :
    ∀ i a, l = i :: (a ++ b) → BadR b (i :: a) σ := by
  induction h with
  | here hz => intro i a e; cases e; exact Or.inl (.here hz)
  | outOk h hr ih =>
    intro i a e; cases e; exact (BadR.of_cons hr ih a rfl).map (fun _ hx => .outOk h hx) (.outOk h)
  | inOk h hr ih =>
    intro i a e; cases e; exact (BadR.of_cons hr ih a rfl).map (fun _ hx => .inOk h hx) (.inOk h)
  | «calc» hr ih => intro i a e; cases e; exact (BadR.of_cons hr ih a rfl).map (fun _ hx => .calc hx) .calc
  | loopSkip hz hr ih =>
    intro i a e; cases e
    exact (BadR.of_cons hr ih a rfl).map (fun _ hx => .loopSkip hz hx) (.loopSkip hz)
  | loopIter hnz hb _ ihl =>
    intro i a e; cases e
    exact (ihl _ a rfl).map (fun _ hx => .loopIter hnz hb (exec_once_irrel hx)) (.loopIter hnz hb)
  | loopIn hnz hb _ => intro i a e; cases e; exact Or.inl (.loopIn hnz hb)
  | ifSkip hz hr ih =>
    intro i a e; cases e; exact (BadR.of_cons hr ih a rfl).map (fun _ hx => .ifSkip hz hx) (.ifSkip hz)
  | ifIter hnz hb hr ihr =>
    intro i a e; cases e
    exact (BadR.of_cons hr ihr a rfl).map (fun _ hx => .ifIter hnz hb hx) (.ifIter hnz hb)
  | ifIn hnz hb _ => intro i a e; cases e; exact Or.inl (.ifIn hnz hb)

theorem bad_append_left {a : List (Instr w)} {σ : State w} (h : Bad a σ) (b : List (Instr w)) :
    Bad (a ++ b) σ := by
  induction h with
  | here hz => exact .here hz
  | outOk h _ ih => exact .outOk h ih
  | inOk h _ ih => exact .inOk h ih
  | «calc» _ ih => exact .calc ih
  | loopSkip hz _ ih => exact .loopSkip hz ih
  | loopIter hnz hb _ ih => exact .loopIter hnz hb ih
  | loopIn hnz hb _ => exact .loopIn hnz hb
  | ifSkip hz _ ih => exact .ifSkip hz ih
  | ifIter hnz hb _ ih => exact .ifIter hnz hb ih
  | ifIn hnz hb _ => exact .ifIn hnz hb

/-- the statement is strengthened for loops: the conclusion holds whatever the `once` flag of a loop at the head
(`Bad.loopIter` continues with the flag `false`). -/
theorem bad_append_right {a b : List (Instr w)} {σ : State w} {o : Out w} (h : Exec a σ o) :
    ∀ σ1, o = .fin σ1 → Bad b σ1 →
      Bad (a ++ b) σ ∧ ∀ c s body once rest, a = .loop c s body once :: rest →
        Bad (.loop c s body false :: rest ++ b) σ := by
  induction h with
  | cut => intro _ e; cases e
  | nil => intro _ e h'; cases e; exact ⟨h', fun _ _ _ _ _ e => by cases e⟩
  | outOk h _ ih => intro _ e h'; exact ⟨.outOk h (ih _ e h').1, fun _ _ _ _ _ e => by cases e⟩
  | outFail h => intro _ e; cases e
  | inOk h _ ih => intro _ e h'; exact ⟨.inOk h (ih _ e h').1, fun _ _ _ _ _ e => by cases e⟩
  | inFail h => intro _ e; cases e
  | «calc» _ ih => intro _ e h'; exact ⟨.calc (ih _ e h').1, fun _ _ _ _ _ e => by cases e⟩
  | loopSkip hz _ ih =>
    intro _ e h'
    exact ⟨.loopSkip hz (ih _ e h').1, fun _ _ _ _ _ e => by cases e; exact .loopSkip hz (ih _ ‹_› h').1⟩
  | loopIter hnz hb _ _ ihl =>
    intro _ e h'
    have := (ihl _ e h').2 _ _ _ _ _ rfl
    exact ⟨.loopIter hnz hb this, fun _ _ _ _ _ e => by cases e; exact .loopIter hnz hb this⟩
  | loopIn hnz hb hnf => intro _ e; subst e; cases hnf
  | ifSkip hz _ ih => intro _ e h'; exact ⟨.ifSkip hz (ih _ e h').1, fun _ _ _ _ _ e => by cases e⟩
  | ifIter hnz hb _ _ ihr => intro _ e h'; exact ⟨.ifIter hnz hb (ihr _ e h').1, fun _ _ _ _ _ e => by cases e⟩
  | ifIn hnz hb hnf => intro _ e; subst e; cases hnf

theorem bad_append {a b : List (Instr w)} {σ : State w} :
    Bad (a ++ b) σ ↔ Bad a σ ∨ ∃ σ1, Exec a σ (.fin σ1) ∧ Bad b σ1 := by
  constructor
  · intro h; exact BadR.of_cons h (bad_cons_append_inv h) a rfl
  · rintro (h | ⟨σ1, h1, h2⟩)
    · exact bad_append_left h b
    · exact (bad_append_right h1 σ1 rfl h2).1

theorem exec_calc_iff (g : List (Int × Expr w)) (rest : List (Instr w)) (σ : State w) (o : Out w) :
    Exec (.calc g :: rest) σ o ↔ Exec rest (doCalc σ g) o := by
  constructor
  · intro h
    cases h with
    | cut => rw [← C01.doCalc_trace σ g]; exact .cut _ _
    | «calc» h => exact h
  · exact .calc

/-- a list of `calc` instructions always runs to the end; its effect is the fold of `doCalc` (a cut inside the
list is also a cut at `rest`, because `doCalc` does not change the trace) -/
theorem exec_calcs_iff (gs : List (List (Int × Expr w))) (rest : List (Instr w)) (σ : State w) (o : Out w) :
    Exec (gs.map Instr.calc ++ rest) σ o ↔ Exec rest (gs.foldl doCalc σ) o := by
  induction gs generalizing σ with
  | nil => rfl
  | cons g gs ih =>
    simp only [List.map_cons, List.cons_append, List.foldl_cons]
    rw [exec_calc_iff, ih]

theorem Sim.symm {Q : State w → State w → Prop} {a a' : List (Instr w)} {σS σE : State w}
    (h : Sim Q a a' σS σE) : Sim (fun x y => Q y x) a' a σE σS where
  finL := h.finR
  stopL := fun σ' hx => let ⟨σ'', h1, h2, h3⟩ := h.stopR σ' hx; ⟨σ'', h1, h2.symm, h3.symm⟩
  partL := h.partR
  finR := h.finL
  stopR := fun σ' hx => let ⟨σ'', h1, h2, h3⟩ := h.stopL σ' hx; ⟨σ'', h1, h2.symm, h3.symm⟩
  partR := h.partL

theorem Sim.fin_trace {Q : State w → State w → Prop} {a a' : List (Instr w)} {σS σE x y : State w}
    (h : Sim Q a a' σS σE) (hx : Exec a σS (.fin x)) (hy : Exec a' σE (.fin y)) : y.trace = x.trace := by
  have h1 : x.trace <:+ y.trace := exec_part_le_fin hy (h.partL _ (exec_fin_part hx))
  have h2 : y.trace <:+ x.trace := exec_part_le_fin hx (h.partR _ (exec_fin_part hy))
  exact h2.eq_of_length_le h1.length_le

theorem Sim.refl_of {Q : State w → State w → Prop} (is : List (Instr w)) (σ : State w) (hQ : ∀ σ', Q σ' σ') :
    Sim Q is is σ σ where
  finL := fun σ' h => ⟨σ', h, hQ σ'⟩
  stopL := fun σ' h => ⟨σ', h, rfl, rfl⟩
  partL := fun _ h => h
  finR := fun σ' h => ⟨σ', h, hQ σ'⟩
  stopR := fun σ' h => ⟨σ', h, rfl, rfl⟩
  partR := fun _ h => h

theorem Sim.mono {Q Q' : State w → State w → Prop} {a a' : List (Instr w)} {σS σE : State w}
    (h : Sim Q a a' σS σE) (hQ : ∀ x y, Q x y → Q' x y) : Sim Q' a a' σS σE where
  finL := fun σ' hx => let ⟨σ'', h1, h2⟩ := h.finL σ' hx; ⟨σ'', h1, hQ _ _ h2⟩
  stopL := h.stopL
  partL := h.partL
  finR := fun σ' hx => let ⟨σ'', h1, h2⟩ := h.finR σ' hx; ⟨σ'', h1, hQ _ _ h2⟩
  stopR := h.stopR
  partR := h.partR

def Match (Q : State w → State w → Prop) : Out w → Out w → Prop
  | .fin a, o' => ∃ b, o' = .fin b ∧ Q a b
  | .stop a, o' => ∃ b, o' = .stop b ∧ b.trace = a.trace ∧ b.env = a.env
  | .part t, o' => o' = .part t

/-- one half of `Sim` -/
def Fwd (Q : State w → State w → Prop) (src tgt : List (Instr w)) (σS σE : State w) : Prop :=
  ∀ o, Exec src σS o → ∃ o', Exec tgt σE o' ∧ Match Q o o'

theorem Sim.fwd {Q : State w → State w → Prop} {a a' : List (Instr w)} {σS σE : State w}
    (h : Sim Q a a' σS σE) : Fwd Q a a' σS σE := by
  intro o ho
  cases o with
  | fin x => obtain ⟨y, h1, h2⟩ := h.finL x ho; exact ⟨_, h1, y, rfl, h2⟩
  | stop x => obtain ⟨y, h1, h2⟩ := h.stopL x ho; exact ⟨_, h1, y, rfl, h2⟩
  | part t => exact ⟨_, h.partL t ho, rfl⟩

theorem Sim.of_fwd {Q : State w → State w → Prop} {a a' : List (Instr w)} {σS σE : State w}
    (h1 : Fwd Q a a' σS σE) (h2 : Fwd (fun x y => Q y x) a' a σE σS) : Sim Q a a' σS σE where
  finL := fun σ' hx => by
    obtain ⟨o', ho', b, rfl, hq⟩ := h1 _ hx; exact ⟨b, ho', hq⟩
  stopL := fun σ' hx => by
    obtain ⟨o', ho', b, rfl, hq⟩ := h1 _ hx; exact ⟨b, ho', hq⟩
  partL := fun t hx => by
    obtain ⟨o', ho', rfl⟩ := h1 _ hx; exact ho'
  finR := fun σ' hx => by
    obtain ⟨o', ho', b, rfl, hq⟩ := h2 _ hx; exact ⟨b, ho', hq⟩
  stopR := fun σ' hx => by
    obtain ⟨o', ho', b, rfl, hq1, hq2⟩ := h2 _ hx; exact ⟨b, ho', hq1.symm, hq2.symm⟩
  partR := fun t hx => by
    obtain ⟨o', ho', rfl⟩ := h2 _ hx; exact ho'

theorem fwd_append {Q Q' : State w → State w → Prop} {a a' b b' : List (Instr w)} {σS σE : State w}
    (h1 : Fwd Q a a' σS σE) (h2 : ∀ σS' σE', Q σS' σE' → Fwd Q' b b' σS' σE') :
    Fwd Q' (a ++ b) (a' ++ b') σS σE := by
  intro o ho
  rcases exec_append.1 ho with ⟨hnf, ha⟩ | ⟨σ1, ha, hb⟩
  · obtain ⟨o', ho', hm⟩ := h1 _ ha
    cases o with
    | fin _ => cases hnf
    | stop x =>
      obtain ⟨y, rfl, hm⟩ := hm
      exact ⟨_, exec_append.2 (Or.inl ⟨rfl, ho'⟩), y, rfl, hm⟩
    | part t =>
      cases hm
      exact ⟨_, exec_append.2 (Or.inl ⟨rfl, ho'⟩), rfl⟩
  · obtain ⟨o1, ho1, σE1, rfl, hq⟩ := h1 _ ha
    obtain ⟨o', ho', hm⟩ := h2 _ _ hq _ hb
    exact ⟨o', exec_append.2 (Or.inr ⟨σE1, ho1, ho'⟩), hm⟩

theorem Sim.append {Q Q' : State w → State w → Prop} {a a' b b' : List (Instr w)} {σS σE : State w}
    (h1 : Sim Q a a' σS σE) (h2 : ∀ σS' σE', Q σS' σE' → Sim Q' b b' σS' σE') :
    Sim Q' (a ++ b) (a' ++ b') σS σE :=
  Sim.of_fwd (fwd_append h1.fwd (fun _ _ hq => (h2 _ _ hq).fwd))
    (fwd_append h1.symm.fwd (fun _ _ hq => (h2 _ _ hq).symm.fwd))

theorem fwd_nil {Q : State w → State w → Prop} {σS σE : State w} (hQ : Q σS σE) (ht : σE.trace = σS.trace) :
    Fwd Q [] [] σS σE := by
  intro o ho
  cases ho with
  | cut => exact ⟨_, .cut _ _, by rw [ht]; rfl⟩
  | nil => exact ⟨_, .nil _, σE, rfl, hQ⟩

theorem Sim.nil {Q : State w → State w → Prop} {σS σE : State w} (hQ : Q σS σE) (ht : σE.trace = σS.trace) :
    Sim Q [] [] σS σE :=
  Sim.of_fwd (fwd_nil hQ ht) (fwd_nil hQ ht.symm)

theorem fwd_loop {J Q : State w → State w → Prop} {cS shS cE shE : Int} {bodyS bodyE : List (Instr w)}
    {oS oE : Bool}
    (hc : ∀ σS σE, J σS σE → (σS.rd cS = 0#w ↔ σE.rd cE = 0#w))
    (htr : ∀ σS σE, J σS σE → σE.trace = σS.trace)
    (hbody : ∀ σS σE, J σS σE → σS.rd cS ≠ 0#w →
       Fwd (fun σS' σE' => J (σS'.mov shS) (σE'.mov shE)) bodyS bodyE σS σE)
    (hexit : ∀ σS σE, J σS σE → σS.rd cS = 0#w → Q σS σE)
    {l : List (Instr w)} {σS : State w} {o : Out w} (h : Exec l σS o) :
    l = [.loop cS shS bodyS oS] → ∀ σE, J σS σE →
      ∃ o', Exec [.loop cE shE bodyE oE] σE o' ∧ Match Q o o' := by
  induction h with
  | cut => intro _ σE hJ; exact ⟨_, .cut _ _, by rw [htr _ _ hJ]; rfl⟩
  | loopSkip hz hr =>
    intro e σE hJ
    cases e
    have hzE := (hc _ _ hJ).1 hz
    cases hr with
    | cut => exact ⟨_, .cut _ _, by rw [htr _ _ hJ]; rfl⟩
    | nil => exact ⟨_, .loopSkip hzE (.nil _), σE, rfl, hexit _ _ hJ hz⟩
  | loopIter hnz hb _ _ ihl =>
    intro e σE hJ
    cases e
    have hnzE := mt (hc _ _ hJ).2 hnz
    obtain ⟨o1, hbE, σE1, rfl, hJ1⟩ := hbody _ _ hJ hnz _ hb
    obtain ⟨o', ho', hm⟩ := ihl rfl _ hJ1
    exact ⟨o', .loopIter hnzE hbE ho', hm⟩
  | @loopIn _ _ _ _ _ _ o hnz hb hnf =>
    intro e σE hJ
    cases e
    have hnzE := mt (hc _ _ hJ).2 hnz
    obtain ⟨o1, hbE, hm⟩ := hbody _ _ hJ hnz _ hb
    cases o with
    | fin _ => cases hnf
    | stop x =>
      obtain ⟨y, rfl, hm⟩ := hm
      exact ⟨_, .loopIn hnzE hbE rfl, y, rfl, hm⟩
    | part t =>
      cases hm
      exact ⟨_, .loopIn hnzE hbE rfl, rfl⟩
  | _ => intro e; cases e

/-- loop congruence: `J` is a loop invariant relating the two states at every loop head -/
theorem Sim.loop {J Q : State w → State w → Prop} {cS shS cE shE : Int} {bodyS bodyE : List (Instr w)}
    {oS oE : Bool}
    (hc : ∀ σS σE, J σS σE → (σS.rd cS = 0#w ↔ σE.rd cE = 0#w))
    (htr : ∀ σS σE, J σS σE → σE.trace = σS.trace)
    (hbody : ∀ σS σE, J σS σE → σS.rd cS ≠ 0#w →
       Sim (fun σS' σE' => J (σS'.mov shS) (σE'.mov shE)) bodyS bodyE σS σE)
    (hexit : ∀ σS σE, J σS σE → σS.rd cS = 0#w → Q σS σE)
    {σS σE : State w} (h : J σS σE) :
    Sim Q [.loop cS shS bodyS oS] [.loop cE shE bodyE oE] σS σE := by
  apply Sim.of_fwd
  · intro o ho
    exact fwd_loop hc htr (fun _ _ hJ hnz => (hbody _ _ hJ hnz).fwd) hexit ho rfl σE h
  · intro o ho
    exact fwd_loop (J := fun x y => J y x) (Q := fun x y => Q y x)
      (fun _ _ hJ => (hc _ _ hJ).symm) (fun _ _ hJ => (htr _ _ hJ).symm)
      (fun _ _ hJ hnz => (hbody _ _ hJ (mt (hc _ _ hJ).1 hnz)).symm.fwd)
      (fun _ _ hJ hz => hexit _ _ hJ ((hc _ _ hJ).2 hz)) ho rfl σS h

/-- The body is given as a `Sim`, not as a `Fwd` as in `fwd_loop`: a cut right after the body needs equal traces of
the two end states (`Sim.fin_trace`); in a loop the next head supplies them (`htr`). -/
theorem fwd_ifnz {Q : State w → State w → Prop} {cS shS cE shE : Int} {bodyS bodyE : List (Instr w)}
    {σS σE : State w}
    (hc : σS.rd cS = 0#w ↔ σE.rd cE = 0#w) (htr : σE.trace = σS.trace)
    (hbody : σS.rd cS ≠ 0#w → Sim (fun σS' σE' => Q (σS'.mov shS) (σE'.mov shE)) bodyS bodyE σS σE)
    (hskip : σS.rd cS = 0#w → Q σS σE) :
    Fwd Q [.ifnz cS shS bodyS] [.ifnz cE shE bodyE] σS σE := by
  intro o ho
  cases ho with
  | cut => exact ⟨_, .cut _ _, by rw [htr]; rfl⟩
  | ifSkip hz hr =>
    have hzE := hc.1 hz
    cases hr with
    | cut => exact ⟨_, .cut _ _, by rw [htr]; rfl⟩
    | nil => exact ⟨_, .ifSkip hzE (.nil _), σE, rfl, hskip hz⟩
  | @ifIter _ _ _ _ _ σ1 _ hnz hb hr =>
    have hnzE := mt hc.2 hnz
    obtain ⟨σE1, hbE, hq⟩ := (hbody hnz).finL _ hb
    have ht : σE1.trace = σ1.trace := (hbody hnz).fin_trace hb hbE
    cases hr with
    | cut =>
      refine ⟨_, .ifIter hnzE hbE (.cut _ _), ?_⟩
      show Out.part σE1.trace = Out.part σ1.trace
      rw [ht]
    | nil => exact ⟨_, .ifIter hnzE hbE (.nil _), _, rfl, hq⟩
  | @ifIn _ _ _ _ _ o hnz hb hnf =>
    have hnzE := mt hc.2 hnz
    obtain ⟨o1, hbE, hm⟩ := (hbody hnz).fwd _ hb
    cases o with
    | fin _ => cases hnf
    | stop x =>
      obtain ⟨y, rfl, hm⟩ := hm
      exact ⟨_, .ifIn hnzE hbE rfl, y, rfl, hm⟩
    | part t =>
      cases hm
      exact ⟨_, .ifIn hnzE hbE rfl, rfl⟩

theorem Sim.ifnz {Q : State w → State w → Prop} {cS shS cE shE : Int} {bodyS bodyE : List (Instr w)}
    {σS σE : State w}
    (hc : σS.rd cS = 0#w ↔ σE.rd cE = 0#w) (htr : σE.trace = σS.trace)
    (hbody : σS.rd cS ≠ 0#w → Sim (fun σS' σE' => Q (σS'.mov shS) (σE'.mov shE)) bodyS bodyE σS σE)
    (hskip : σS.rd cS = 0#w → Q σS σE) :
    Sim Q [.ifnz cS shS bodyS] [.ifnz cE shE bodyE] σS σE :=
  Sim.of_fwd (fwd_ifnz hc htr hbody hskip)
    (fwd_ifnz (Q := fun x y => Q y x) hc.symm htr.symm (fun hnz => (hbody (mt hc.1 hnz)).symm)
      (fun hz => hskip (hc.2 hz)))

#print axioms exec_trace_suffix
#print axioms exec_fin_det
#print axioms exec_stop_det
#print axioms exec_fin_stop_excl
#print axioms exec_part_le_fin
#print axioms exec_part_le_stop
#print axioms exec_fin_part
#print axioms exec_append
#print axioms bad_append
#print axioms Sim.refl_of
#print axioms Sim.mono
#print axioms Sim.append
#print axioms Sim.nil
#print axioms Sim.loop
#print axioms Sim.ifnz
#print axioms exec_calcs_iff

end OptProof
end Hpbf
