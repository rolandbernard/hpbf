/-
C03 (control flow): the code the instruction selectors emit for an arithmetic / copy instruction touches
only stack slots of temporaries that occur in the instruction (`emitArith_slotOk`).

Every emitted instruction `Uses` the operands of the bytecode instruction (`arith_emits`): its
`r/m` operand is a register, a tape operand `memParam sz idx` (base `rbp`, never a stack slot), or `tmpParam t`
for a temporary `t` of the instruction (slot `t` when `11 ≤ t`); `lea` and `mov r, imm64` have no `r/m` operand
in the sense of `rmOf`.
-/
import Hpbf.Proofs.C03FlowBase
namespace Hpbf
namespace C03
open Asm JitGen X86Sem X86Prog
variable {w : Nat}

def locTmps {w : Nat} : Bc.Loc w → List Nat
  | .tmp t => [t]
  | _ => []

/-- `locTmps` is `BcWf.locTmp`; `insTmps ins` is the `locTmp`s of `dstOf ins :: srcsOf ins`. -/
def insTmps {w : Nat} : Bc.Instr w → List Nat
  | .copy d s => locTmps d ++ locTmps s
  | .add d a b | .sub d a b | .mul d a b => locTmps d ++ locTmps a ++ locTmps b
  | _ => []

def RmOk (w n : Nat) (rm : RegMem) : Prop := ∀ k, X86Sem.resolve w rm = some (.slot k) → k < n

/-- `t < 2^31` so that `t as i32` in `tmp_param` does not wrap. -/
def TOk (n t : Nat) : Prop := t < n ∧ t < 2147483648

def LocT (n : Nat) : Bc.Loc w → Prop
  | .tmp t => TOk n t
  | _ => True

def AllOk (w n : Nat) (xs : List X86) : Prop := ∀ x ∈ xs, SlotOk w n x

@[simp] theorem rmOk_reg (n : Nat) (r : Reg) : RmOk w n (.reg r) := by
  intro k h; simp [X86Sem.resolve] at h

@[simp] theorem rmOk_memParam (n : Nat) (sz : Size) (idx : Int) : RmOk w n (memParam sz idx) := by
  intro k h
  simp only [memParam, memr, X86Sem.resolve] at h
  split at h <;> cases h

theorem rmOk_tmpParam {n t : Nat} (h : TOk n t) : RmOk w n (tmpParam t) := by
  intro k hk
  rw [resolve_tmpParam h.2] at hk
  unfold tmpPlace at hk
  split at hk
  · cases hk
  · cases hk; exact h.1

theorem slotOk_of_rm {n : Nat} {x : X86} {rm : RegMem} (h : rmOf x = some rm) (hrm : RmOk w n rm) :
    SlotOk w n x := by
  intro k hk
  simp only [placeOf, h, Option.bind_some] at hk
  exact hrm k hk

theorem slotOk_of_none {n : Nat} {x : X86} (h : rmOf x = none) : SlotOk w n x := by
  intro k hk
  simp [placeOf, h] at hk

theorem RmFrom.rmOk {sz : Size} {L : List (Bc.Loc w)} {n : Nat} (hL : ∀ l ∈ L, LocT n l) {rm : RegMem}
    (h : RmFrom sz L rm) : RmOk w n rm := by
  cases h with
  | reg r => exact rmOk_reg n r
  | mem h => exact rmOk_memParam n sz _
  | tmp h => exact rmOk_tmpParam (hL _ h)

theorem Uses.slotOk {sz : Size} {L : List (Bc.Loc w)} {n : Nat} (hL : ∀ l ∈ L, LocT n l) {x : X86}
    (h : Uses sz L x) : SlotOk w n x := by
  cases hr : rmOf x with
  | none => exact slotOk_of_none hr
  | some rm => exact slotOk_of_rm hr ((h.rm rm hr).rmOk hL)

theorem Emits.slotOk {sz : Size} {L : List (Bc.Loc w)} {n : Nat} {o : Option (List X86)} {xs : List X86}
    (h : Emits sz L o) (hL : ∀ l ∈ L, LocT n l) (e : o = some xs) : ∀ x ∈ xs, SlotOk w n x :=
  fun x hx => (h.uses e x hx).slotOk hL

@[simp] theorem allOk_nil (n : Nat) : AllOk w n [] := by intro x hx; cases hx

@[simp] theorem allOk_cons (n : Nat) (x : X86) (xs : List X86) :
    AllOk w n (x :: xs) ↔ SlotOk w n x ∧ AllOk w n xs := by
  simp [AllOk]

@[simp] theorem allOk_append (n : Nat) (xs ys : List X86) :
    AllOk w n (xs ++ ys) ↔ AllOk w n xs ∧ AllOk w n ys := by
  simp only [AllOk, List.mem_append]
  exact ⟨fun h => ⟨fun x hx => h x (Or.inl hx), fun x hx => h x (Or.inr hx)⟩,
    fun h x hx => hx.elim (h.1 x) (h.2 x)⟩

theorem locT_of {n : Nat} {l : Bc.Loc w} (hok : LocOk l) (ht : ∀ t ∈ locTmps l, t < n) : LocT n l := by
  cases l with
  | tmp t => exact ⟨ht t (by simp [locTmps]), hok⟩
  | _ => trivial

theorem locT_of3 {n : Nat} {d a b : Bc.Loc w} (hok : LocOk d ∧ LocOk a ∧ LocOk b)
    (ht : ∀ t ∈ locTmps d ++ locTmps a ++ locTmps b, t < n) : ∀ l ∈ [d, a, b], LocT n l := by
  simp only [List.mem_append] at ht
  simp only [List.mem_cons, List.not_mem_nil, or_false, forall_eq_or_imp, forall_eq]
  exact ⟨locT_of hok.1 fun t h => ht t (.inl (.inl h)), locT_of hok.2.1 fun t h => ht t (.inl (.inr h)),
    locT_of hok.2.2 fun t h => ht t (.inr h)⟩

theorem locT_ops {n : Nat} {ins : Bc.Instr w} (hok : ArithOk ins) (ht : ∀ t ∈ insTmps ins, t < n) :
    ∀ l ∈ dstOf ins :: srcsOf ins, LocT n l := by
  cases ins with
  | copy d s =>
    simp only [insTmps, List.mem_append] at ht
    simp only [dstOf, srcsOf, List.mem_cons, List.not_mem_nil, or_false, forall_eq_or_imp, forall_eq]
    exact ⟨locT_of hok.1 fun t h => ht t (.inl h), locT_of hok.2 fun t h => ht t (.inr h)⟩
  | add d a b | sub d a b | mul d a b => exact locT_of3 hok ht
  | _ => exact absurd hok (by simp [ArithOk])

theorem emitArith_slotOk {w : Nat} {sz : Asm.Size} {live : Nat} {ins : Bc.Instr w} {xs : List Asm.X86}
    (h : emitArith sz live ins = some xs) (hok : ArithOk ins) {n : Nat}
    (htmps : ∀ t ∈ insTmps ins, t < n) : ∀ x ∈ xs, SlotOk w n x :=
  (arith_emits sz live ins).slotOk (locT_ops hok htmps) (emitArith_some h).1

theorem emitArith_ne_nil {w : Nat} {sz : Asm.Size} {live : Nat} {ins : Bc.Instr w} {xs : List Asm.X86}
    (h : emitArith sz live ins = some xs) : xs ≠ [] :=
  (arith_emits sz live ins).ne_nil (emitArith_some h).1

end C03
end Hpbf

#print axioms Hpbf.C03.emitArith_slotOk
