/-
Chain, final: canonical Brainfuck semantics vs. every backend at EVERY optimisation level for the REPAIRED
optimizer `OptFix.optimizeF` (it models `opt.rs` as it is in /repo, with the repair of defect F13:
`Opt.optimizeOnce` followed by `fixClob`), WITHOUT any per-run test.

`b` = the parser's output, `level` arbitrary, `orders` an ARBITRARY oracle of hash iteration orders, `b'` the
block the model returns for it (`hopt : OptFix.optimizeF b level orders = .ok b'`).  The ingredients are
`OptProof.optimizeF_preserves_all_levels'` and `OptProof.optimizeF_onceOk_all_levels'` (`Props/C01Full.lean`;
level 0: `optimizeF` is the identity and the parser never sets `once`); everything else is the generic composition
(`irAgrees_of_behEq`, `bcAgrees_of_ir`, the `*_of_agrees` corollaries, `allBackends_of_agrees`).
-/
import Hpbf.Proofs.ChainO1Gen
import Hpbf.Props.C01Full

namespace Hpbf
namespace Chain

open Bc BcWf BcGen C11 C02

variable {w : Nat}

/-- At level 0 the repaired `optimize` returns its argument (and consumes no oracle entry). -/
theorem optimizeF_zero {b b' : Ir.Block w} {orders : Opt.Orders} (h : OptFix.optimizeF b 0 orders = .ok b') :
    b' = b ∧ orders = [] := Rounds.pipeline_zero.1 (Rounds.optimizeF_eq b 0 orders ▸ h)

theorem optimizeF_zero_ok (b : Ir.Block w) : OptFix.optimizeF b 0 [] = .ok b :=
  (Rounds.optimizeF_eq b 0 []).trans (Rounds.pipeline_zero.2 ⟨rfl, rfl⟩)

section Final
variable (hw : 0 < w) {src : List Kind} {prog : Prog} (hp : Bf.tree src = some prog)
  {b b' : Ir.Block w} (hb : Ir.parse (w := w) src = .ok b) {level : Nat} {orders : Opt.Orders}
  (hopt : OptFix.optimizeF b level orders = .ok b') (env : Env)
-- one call shape for the whole family (`X hw hp hb hopt … env`): every theorem takes these hypotheses, used or not
include hw hb hopt

/-- Same observable behaviour of the parser's output and the optimizer's output. -/
theorem behEq_final : OptProof.BehEq b b' env :=
  OptProof.optimizeF_preserves_all_levels' hw (OptProof.parse_canonL hb) hopt env

/-- The `once` marks of the optimizer's output are justified (level 0: there are none). -/
theorem onceOk_final : OnceOk b' env := by
  by_cases hl : level = 0
  · subst hl
    obtain ⟨rfl, _⟩ := optimizeF_zero hopt
    exact parse_onceOk hb env
  · exact OptProof.optimizeF_onceOk_all_levels' hw (OptProof.parse_canonL hb) hl hopt env

include hp

theorem irAgrees_final : IrAgrees prog b' env :=
  irAgrees_of_behEq (irAgrees_level0 hw hp hb env) (behEq_final hw hb hopt env)

theorem bcAgrees_final (numRegs : Nat) (fuse : Bool) : BcAgrees prog (translate b' numRegs fuse) env :=
  bcAgrees_of_ir (irAgrees_final hw hp hb hopt env) (onceOk_final hw hb hopt env) numRegs fuse

theorem ir_final :
    ((∀ f (s : State w), Bf.run f prog env = .done s →
        ∃ f' c, Ir.run b' false 0 f' env = .done c ∧ c.st.trace = s.trace) ∧
     (∀ f (s : State w), Bf.run f prog env = .stopped s →
        ∃ f' c, Ir.run b' false 0 f' env = .stopped c ∧ c.st.trace = s.trace)) ∧
    ((∀ f' (c : Ir.Cfg w), Ir.run b' false 0 f' env = .done c →
        ∃ (f : Nat) (s : State w), Bf.run f prog env = .done s ∧ s.trace = c.st.trace) ∧
     (∀ f' (c : Ir.Cfg w), Ir.run b' false 0 f' env = .stopped c →
        ∃ (f : Nat) (s : State w), Bf.run f prog env = .stopped s ∧ s.trace = c.st.trace)) ∧
    ((∀ f', ∃ f, C01.traceOf (Ir.run b' false 0 f' env) = C01.traceOfBf (Bf.run (w := w) f prog env)) ∧
     (∀ f, ∃ f', C01.traceOf (Ir.run b' false 0 f' env) = C01.traceOfBf (Bf.run (w := w) f prog env))) :=
  irAgrees_final hw hp hb hopt env

theorem bytecode_final (numRegs : Nat) (fuse : Bool) :
    ((∀ f (s : State w), Bf.run f prog env = .done s →
        ∃ f' c', Bc.run (translate b' numRegs fuse) false 0 f' env = .done c' ∧ c'.st.trace = s.trace) ∧
     (∀ f (s : State w), Bf.run f prog env = .stopped s →
        ∃ f' c', Bc.run (translate b' numRegs fuse) false 0 f' env = .stopped c' ∧ c'.st.trace = s.trace)) ∧
    ((∀ f' (c' : Bc.Cfg w), Bc.run (translate b' numRegs fuse) false 0 f' env = .done c' →
        ∃ (f : Nat) (s : State w), Bf.run f prog env = .done s ∧ s.trace = c'.st.trace) ∧
     (∀ f' (c' : Bc.Cfg w), Bc.run (translate b' numRegs fuse) false 0 f' env = .stopped c' →
        ∃ (f : Nat) (s : State w), Bf.run f prog env = .stopped s ∧ s.trace = c'.st.trace)) ∧
    ((∀ f', ∃ f, C07.traceOfBc (Bc.run (translate b' numRegs fuse) false 0 f' env) =
        C01.traceOfBf (Bf.run (w := w) f prog env)) ∧
     (∀ f, ∃ f', C07.traceOfBc (Bc.run (translate b' numRegs fuse) false 0 f' env) =
        C01.traceOfBf (Bf.run (w := w) f prog env))) :=
  bcAgrees_final hw hp hb hopt env numRegs fuse

theorem bytecode_final_debug (numRegs : Nat) (fuse : Bool) :
    ((∀ f (s : State w), Bf.run f prog env = .done s →
        ∃ f' c', runDebug (translate b' numRegs fuse) false 0 f' env = .done c' ∧ c'.st.trace = s.trace) ∧
     (∀ f (s : State w), Bf.run f prog env = .stopped s →
        ∃ f' c', runDebug (translate b' numRegs fuse) false 0 f' env = .stopped c' ∧ c'.st.trace = s.trace)) ∧
    ((∀ f' (c' : Bc.Cfg w), runDebug (translate b' numRegs fuse) false 0 f' env = .done c' →
        ∃ (f : Nat) (s : State w), Bf.run f prog env = .done s ∧ s.trace = c'.st.trace) ∧
     (∀ f' (c' : Bc.Cfg w), runDebug (translate b' numRegs fuse) false 0 f' env = .stopped c' →
        ∃ (f : Nat) (s : State w), Bf.run f prog env = .stopped s ∧ s.trace = c'.st.trace)) ∧
    ((∀ f', ∃ f, C07.traceOfBc (runDebug (translate b' numRegs fuse) false 0 f' env) =
        C01.traceOfBf (Bf.run (w := w) f prog env)) ∧
     (∀ f, ∃ f', C07.traceOfBc (runDebug (translate b' numRegs fuse) false 0 f' env) =
        C01.traceOfBf (Bf.run (w := w) f prog env))) :=
  bcAgrees_debug (bcAgrees_final hw hp hb hopt env numRegs fuse)

theorem bc_never_returns_final (numRegs : Nat) (fuse : Bool) (hdiv : C05.BfDiverges w prog env) :
    (∀ (f' : Nat) (c : Bc.Cfg w),
      Bc.run (translate b' numRegs fuse) false 0 f' env ≠ .done c ∧
      Bc.run (translate b' numRegs fuse) false 0 f' env ≠ .stopped c) ∧
    (∀ (bd f' : Nat) (c : Bc.Cfg w),
      Bc.run (translate b' numRegs fuse) true bd f' env ≠ .done c ∧
      Bc.run (translate b' numRegs fuse) true bd f' env ≠ .stopped c) :=
  bc_never_returns (bcAgrees_final hw hp hb hopt env numRegs fuse) hdiv

theorem bc_runs_forever_final (numRegs : Nat) (fuse : Bool) (hdiv : C05.BfDiverges w prog env) :
    ∀ f', ∃ c : Bc.Cfg w, Bc.run (translate b' numRegs fuse) false 0 f' env = .outOfFuel c :=
  bc_runs_forever (bcAgrees_final hw hp hb hopt env numRegs fuse) hdiv
    (translate_never_bad_unconditional b' numRegs fuse env).1

theorem bc_limited_interrupted_final (numRegs : Nat) (fuse : Bool) (hdiv : C05.BfDiverges w prog env) :
    ∀ bd, ∃ f' c, Bc.run (translate b' numRegs fuse) true bd f' env = .interrupted c :=
  bc_limited_interrupted (bcAgrees_final hw hp hb hopt env numRegs fuse) hdiv
    (translate_never_bad_unconditional b' numRegs fuse env).1

theorem bc_divergent_output_final (numRegs : Nat) (fuse : Bool) (hdiv : C05.BfDiverges w prog env) :
    (∀ f, ∃ f' c c', Bf.run (w := w) f prog env = .outOfFuel c ∧
      Bc.run (translate b' numRegs fuse) false 0 f' env = .outOfFuel c' ∧ c'.st.trace = c.st.trace) ∧
    (∀ f', ∃ f c c', Bc.run (translate b' numRegs fuse) false 0 f' env = .outOfFuel c' ∧
      Bf.run (w := w) f prog env = .outOfFuel c ∧ c'.st.trace = c.st.trace) :=
  bc_divergent_output (bcAgrees_final hw hp hb hopt env numRegs fuse) hdiv
    (translate_never_bad_unconditional b' numRegs fuse env).1

theorem bc_limited_finished_final (numRegs : Nat) (fuse : Bool) :
    (∀ (bd f' : Nat) (c : Bc.Cfg w), Bc.run (translate b' numRegs fuse) true bd f' env = .done c →
      ∃ (f : Nat) (s : State w), Bf.run f prog env = .done s ∧ s.trace = c.st.trace) ∧
    (∀ (bd f' : Nat) (c : Bc.Cfg w), Bc.run (translate b' numRegs fuse) true bd f' env = .stopped c →
      ∃ (f : Nat) (s : State w), Bf.run f prog env = .stopped s ∧ s.trace = c.st.trace) :=
  bc_limited_finished (bcAgrees_final hw hp hb hopt env numRegs fuse)

theorem bc_limited_prefix_final (numRegs : Nat) (fuse : Bool) :
    ∀ bd f', ∃ f, ∀ g, f ≤ g →
      C07.traceOfBc (Bc.run (translate b' numRegs fuse) true bd f' env) <:+
        C01.traceOfBf (Bf.run (w := w) g prog env) :=
  bc_limited_is_prefix (bcAgrees_final hw hp hb hopt env numRegs fuse)

theorem bc_limited_enough_final (numRegs : Nat) (fuse : Bool) :
    (∀ (f : Nat) (s : State w), Bf.run f prog env = .done s →
      ∃ g, ∀ bd, g ≤ bd →
        ∃ f' c, Bc.run (translate b' numRegs fuse) true bd f' env = .done c ∧ c.st.trace = s.trace) ∧
    (∀ (f : Nat) (s : State w), Bf.run f prog env = .stopped s →
      ∃ g, ∀ bd, g ≤ bd →
        ∃ f' c, Bc.run (translate b' numRegs fuse) true bd f' env = .stopped c ∧ c.st.trace = s.trace) :=
  bc_limited_enough (bcAgrees_final hw hp hb hopt env numRegs fuse)

theorem bc_stops_like_canonical_final (numRegs : Nat) (fuse : Bool) :
    ∀ (f : Nat) (s : State w), Bf.run f prog env = .stopped s →
      ∃ f' c, (∀ k, Bc.run (translate b' numRegs fuse) false 0 (f' + k) env = .stopped c) ∧
        c.st.trace = s.trace :=
  bc_stops_like_canonical (bcAgrees_final hw hp hb hopt env numRegs fuse)

theorem bc_stops_only_like_canonical_final (numRegs : Nat) (fuse : Bool) :
    ∀ (l : Bool) (bd f' : Nat) (c : Bc.Cfg w), Bc.run (translate b' numRegs fuse) l bd f' env = .stopped c →
      (l = false → bd = 0) →
      ∃ (f : Nat) (s : State w), Bf.run f prog env = .stopped s ∧ s.trace = c.st.trace :=
  bc_stops_only_like_canonical (bcAgrees_final hw hp hb hopt env numRegs fuse)

section Jit
open Asm JitGen X86Sem X86Prog C03
variable {sz : Size} {safe : Bool} {cfg : X86Prog.Cfg} {buf0 rsp0 ra : BitVec 64}

theorem jit_final_forward (R : JitRange sz (translate b' 11 false) false safe cfg buf0 rsp0 ra 0 env) :
    let p := translate b' 11 false
    let s0 : PState w := initState cfg buf0 rsp0 ra p.minAcc p.maxAcc 0 env
    (∀ f (s : State w), Bf.run f prog env = .done s →
      ∃ n s', X86Prog.run cfg n s0 = .ret s' ∧ s'.regs.rax = 1 ∧ s'.trace = s.trace) ∧
    (∀ f (s : State w), Bf.run f prog env = .stopped s →
      ∃ n s', X86Prog.run cfg n s0 = .ret s' ∧ s'.regs.rax = 0 ∧ s'.trace = s.trace) :=
  jit_forward_of_agrees (bcAgrees_final hw hp hb hopt env 11 false)
    (jitHyps_of_range (translate_ok b' 11 false) R)

theorem jit_final_unique (R : JitRange sz (translate b' 11 false) false safe cfg buf0 rsp0 ra 0 env) :
    let p := translate b' 11 false
    let s0 : PState w := initState cfg buf0 rsp0 ra p.minAcc p.maxAcc 0 env
    (∀ f (s : State w), Bf.run f prog env = .done s →
      ∀ n s', X86Prog.run cfg n s0 = .ret s' → s'.regs.rax = 1 ∧ s'.trace = s.trace) ∧
    (∀ f (s : State w), Bf.run f prog env = .stopped s →
      ∀ n s', X86Prog.run cfg n s0 = .ret s' → s'.regs.rax = 0 ∧ s'.trace = s.trace) :=
  jit_unique_of_agrees (bcAgrees_final hw hp hb hopt env 11 false)
    (jitHyps_of_range (translate_ok b' 11 false) R)

theorem jit_final_prefix (R : JitRange sz (translate b' 11 false) false safe cfg buf0 rsp0 ra 0 env) :
    let p := translate b' 11 false
    let s0 : PState w := initState cfg buf0 rsp0 ra p.minAcc p.maxAcc 0 env
    ∀ f, ∃ n s', (steps cfg n s0 = some s' ∨ X86Prog.run cfg n s0 = .ret s') ∧
      s'.trace = C01.traceOfBf (Bf.run (w := w) f prog env) :=
  jit_prefix_of_agrees (bcAgrees_final hw hp hb hopt env 11 false)
    (jitHyps_of_range (translate_ok b' 11 false) R)

theorem jit_final_divergent (R : JitRange sz (translate b' 11 false) false safe cfg buf0 rsp0 ra 0 env)
    (hdiv : C05.BfDiverges w prog env) :
    let p := translate b' 11 false
    let s0 : PState w := initState cfg buf0 rsp0 ra p.minAcc p.maxAcc 0 env
    ∀ f, ∃ n s', steps cfg n s0 = some s' ∧ s'.trace = C01.traceOfBf (Bf.run (w := w) f prog env) :=
  jit_divergent_of_agrees (bcAgrees_final hw hp hb hopt env 11 false)
    (jitHyps_of_range (translate_ok b' 11 false) R) hdiv

theorem jit_final_limited {bd : Nat}
    (R : JitRange sz (translate b' 11 false) true safe cfg buf0 rsp0 ra bd env) :
    let p := translate b' 11 false
    let s0 : PState w := initState cfg buf0 rsp0 ra p.minAcc p.maxAcc bd env
    ∃ n s', X86Prog.run cfg n s0 = .ret s' ∧
      (∀ n2 s2, X86Prog.run cfg n2 s0 = .ret s2 → s2 = s') ∧
      (s'.regs.rax = 1 ∨ s'.regs.rax = 0) ∧
      (s'.regs.rax = 1 → ∃ (f : Nat) (s : State w), Bf.run f prog env = .done s ∧ s.trace = s'.trace) ∧
      (∃ f, ∀ g, f ≤ g → s'.trace <:+ C01.traceOfBf (Bf.run (w := w) g prog env)) :=
  jit_limited_of_agrees (bcAgrees_final hw hp hb hopt env 11 false)
    (jitHyps_of_range (translate_ok b' 11 false) R)

theorem jit_final_limited_enough :
    let p := translate b' 11 false
    (∀ f (s : State w), Bf.run f prog env = .done s → ∃ g, ∀ bd, g ≤ bd →
      JitRange sz p true safe cfg buf0 rsp0 ra bd env →
      ∃ n s', X86Prog.run cfg n (initState (w := w) cfg buf0 rsp0 ra p.minAcc p.maxAcc bd env) = .ret s' ∧
        s'.regs.rax = 1 ∧ s'.trace = s.trace) ∧
    (∀ f (s : State w), Bf.run f prog env = .stopped s → ∃ g, ∀ bd, g ≤ bd →
      JitRange sz p true safe cfg buf0 rsp0 ra bd env →
      ∃ n s', X86Prog.run cfg n (initState (w := w) cfg buf0 rsp0 ra p.minAcc p.maxAcc bd env) = .ret s' ∧
        s'.regs.rax = 0 ∧ s'.trace = s.trace) :=
  jit_limited_enough_of_range (bcAgrees_final hw hp hb hopt env 11 false)

end Jit

end Final

/-- **Every level, every backend, no test** (repaired optimizer).

ASSUMED
* `code` is a balanced Brainfuck text with bracket tree `prog` (`hp`); the cell width is `w ≥ 1` (`hw`);
* `level` is any optimisation level (0: no optimisation; ≥ 3 behaves like 3) and `orders` ANY oracle of hash
  iteration orders for which the model of the repaired optimizer returns a block:
  `hopt : OptFix.optimizeF (parse code) level orders = .ok b'`;
* `env` is any environment (input replies incl. EOF and errors, absent source, absent or refusing sink),
  `numRegs` any register count and `fuse` either fusion setting of `translate`;
* for the two machine-code conjuncts only: the range conditions `JitRange` (cell width 8/16/32/64, operand
  displacements, frame size and `mov` shifts inside `i32`, code < 2^31 bytes, distinct runtime addresses,
  `rsp ≡ 8 mod 16`, budget a `u64` and not (limited with budget 0), no allocation beyond 2^40 cells for
  bounds-checked code).
Nothing else: no test on the run, no well-formedness of the IR, no hypothesis on the generator (it is total, its
output passes the contract checker and is compiled by the JIT's selector).

CONCLUDED (`AllBackends`), with `canon f` = the result of the canonical Brainfuck run with fuel `f`
(`some (true, events)`: ran off the end; `some (false, events)`: stopped at a failing I/O operation; `none`:
still running):
1. the in-place interpreter on the text,
2. the IR interpreter on the optimized block `b'`,
3. the bytecode interpreter (release build: tail-called dispatch) on `translate b' numRegs fuse`,
4. the bytecode interpreter (debug build: trampolined dispatch) on the same program,
   each terminate exactly when the canonical run does, with the same kind of ending and the same events;
5. the machine code of the baseline JIT for `translate b' 11 false`, unlimited mode: whenever the canonical run
   terminates, the function returns with that ending (`rax = 1` / `0`) and those events;
6. limited mode, any budget: the function returns; "finished" (`rax = 1`) only with the complete canonical event
   sequence of a run that ran off the end; in every case its events are an initial part of the canonical events.
Only events and the kind of ending are compared (the optimizer does not preserve the final tape / pointer). -/
theorem all_levels_all_backends (hw : 0 < w) (code : Array Kind) (prog : Prog)
    (hp : Bf.tree code.toList = some prog) (level : Nat) (orders : Opt.Orders) (b' : Ir.Block w)
    (hopt : OptFix.optimizeF (irOf w code.toList) level orders = .ok b') (env : Env)
    (numRegs : Nat) (fuse : Bool) : AllBackends code prog b' numRegs fuse env := by
  have hb := parse_irOf (w := w) hp
  exact allBackends_of_agrees hp (irAgrees_final hw hp hb hopt env) (onceOk_final hw hb hopt env) numRegs fuse

end Chain
end Hpbf
