/-
C02 (`allocate_temps`): `BcGen.allocStep` is one `do` block whose elaboration threads join points through the whole
body.  Here the block is cut at the comments `-- 1.` … `-- 7.` of `BcGen.allocStep` ("step n" everywhere in
`C02Alloc*`): `drainEnds` 1, `phCanK` 2, `phFuseK` 3, `phRewriteK` 4, `freeAll` 5, `phLiveK` 6, `phDst` 7.
-/
import Hpbf.BcGen
import Hpbf.Proofs.StateExcept

namespace Hpbf
namespace C02
namespace Alloc

open Bc BcGen

variable {w : Nat}

theorem bind_ok {α β : Type} (m : A w α) (f : α → A w β) (s s' : ASt w) (b : β) :
    (m >>= f) s = .ok (b, s') ↔ ∃ a s1, m s = .ok (a, s1) ∧ f a s1 = .ok (b, s') := StateExcept.bind_ok m f s s' b

theorem pure_ok {α : Type} (a b : α) (s s' : ASt w) :
    (pure a : A w α) s = .ok (b, s') ↔ b = a ∧ s' = s := StateExcept.pure_ok a b s s'

theorem get_ok (a s s' : ASt w) : (get : A w (ASt w)) s = .ok (a, s') ↔ a = s ∧ s' = s := StateExcept.get_ok a s s'

theorem throw_ok {α : Type} (e : String) (s s' : ASt w) (a : α) :
    (throw e : A w α) s = .ok (a, s') ↔ False := StateExcept.throw_ok e s s' a

theorem get_bind {β : Type} (f : ASt w → A w β) (s : ASt w) :
    ((get : A w (ASt w)) >>= f) s = f s s := rfl
theorem set_bind {β : Type} (x : ASt w) (f : Unit → A w β) (s : ASt w) :
    ((set x : A w Unit) >>= f) s = f () x := rfl
theorem modify_bind {β : Type} (g : ASt w → ASt w) (f : Unit → A w β) (s : ASt w) :
    ((modify g : A w Unit) >>= f) s = f () (g s) := rfl
theorem pure_bind' {α β : Type} (a : α) (f : α → A w β) (s : ASt w) :
    ((pure a : A w α) >>= f) s = f a s := rfl
theorem throw_bind {α β : Type} (e : String) (f : α → A w β) :
    ((throw e : A w α) >>= f) = throw e := rfl
theorem throw_run {α : Type} (e : String) (s : ASt w) : (throw e : A w α) s = .error e := rfl

theorem ite_run {α : Type} (c : Prop) [Decidable c] (a b : A w α) (s : ASt w) :
    (if c then a else b) s = if c then a s else b s := StateExcept.ite_run c a b s

def _root_.Hpbf.BcGen.ASt.setI (a : ASt w) (i : Nat) (x : Instr w) : ASt w :=
  { a with st := { a.st with insts := a.st.insts.setIfInBounds i x } }

theorem setInst_bind {β : Type} (i : Nat) (x : Instr w) (f : Unit → A w β) (a : ASt w) :
    (setInst i x >>= f) a = f () (a.setI i x) := rfl

theorem instAt_ok (site : String) (i : Nat) (a a' : ASt w) (x : Instr w) :
    instAt site i a = .ok (x, a') ↔ a.st.insts[i]? = some x ∧ a' = a := by
  unfold instAt
  simp only [get_bind]
  cases h : a.st.insts[i]? with
  | none => simp [throw_run]
  | some y =>
    simp only [pure, StateT.pure, Except.pure, Except.ok.injEq, Prod.mk.injEq, Option.some.injEq]
    constructor
    · rintro ⟨rfl, rfl⟩; exact ⟨rfl, rfl⟩
    · rintro ⟨rfl, rfl⟩; exact ⟨rfl, rfl⟩

theorem rangeAt_ok (site : String) (t : Nat) (a a' : ASt w) (r : RangeInfo) :
    rangeAt site t a = .ok (r, a') ↔ a.st.ranges[t]? = some r ∧ a' = a := by
  unfold rangeAt
  simp only [get_bind]
  cases h : a.st.ranges[t]? with
  | none => simp [throw_run]
  | some y =>
    simp only [pure, StateT.pure, Except.pure, Except.ok.injEq, Prod.mk.injEq, Option.some.injEq]
    constructor
    · rintro ⟨rfl, rfl⟩; exact ⟨rfl, rfl⟩
    · rintro ⟨rfl, rfl⟩; exact ⟨rfl, rfl⟩

theorem lastUseOf_ok (site : String) (t : Nat) (a a' : ASt w) (l : Nat) :
    lastUseOf site t a = .ok (l, a') ↔
      (∃ r, a.st.ranges[t]? = some r ∧ r.lastUse = some l) ∧ a' = a := by
  unfold lastUseOf
  rw [bind_ok]
  constructor
  · rintro ⟨r, a1, h1, h2⟩
    rw [rangeAt_ok] at h1
    obtain ⟨h1, rfl⟩ := h1
    cases hl : r.lastUse with
    | none => simp [hl, throw_run] at h2
    | some l' =>
      simp only [hl] at h2
      rw [pure_ok] at h2
      obtain ⟨rfl, rfl⟩ := h2
      exact ⟨⟨r, h1, hl⟩, rfl⟩
  · rintro ⟨⟨r, h1, hl⟩, h⟩
    subst h
    refine ⟨r, _, (rangeAt_ok _ _ _ _ _).2 ⟨h1, rfl⟩, ?_⟩
    simp only [hl]
    rfl

/-! Rules of `StateExcept.Tr` for the primitives of the pass.  A phase is walked once, as `Tr tot phase a Post` under
`tot = true → Pre`: at `tot = false` this says what a successful run did, at `tot = true` that no panic site is reached. -/

section tr
open StateExcept (Tr Tr.bind Tr.pure Tr.mono Tr.of_ok tr_iff tr_false tr_true)
variable {tot : Bool}

theorem tot_false (h : tot = true → False) : tot = false := by cases tot <;> simp at h ⊢

/-- A primitive that only reads: it returns some `x` with `P x` and leaves the state alone, or fails. -/
theorem tr_read {α : Type} {m : A w α} {a : ASt w} {P : α → Prop} {Q : α → ASt w → Prop}
    (hok : ∀ a' x, m a = .ok (x, a') ↔ P x ∧ a' = a) (ht : tot = true → ∃ x, P x) (hq : ∀ x, P x → Q x a) :
    Tr tot m a Q :=
  tr_iff.2 ⟨fun x a' h => by obtain ⟨hp, rfl⟩ := (hok a' x).1 h; exact hq x hp,
    fun h => let ⟨x, hp⟩ := ht h; ⟨x, a, (hok a x).2 ⟨hp, rfl⟩⟩⟩

theorem tr_throw {α : Type} {e : String} {a : ASt w} {Q : α → ASt w → Prop} (h : tot = false) :
    Tr tot (throw e : A w α) a Q := h

theorem tr_get_bind {β : Type} {f : ASt w → A w β} {a : ASt w} {Q : β → ASt w → Prop}
    (h : Tr tot (f a) a Q) : Tr tot (get >>= f) a Q := h

theorem tr_modify_bind {β : Type} {g : ASt w → ASt w} {f : Unit → A w β} {a : ASt w} {Q : β → ASt w → Prop}
    (h : Tr tot (f ()) (g a) Q) : Tr tot (modify g >>= f) a Q := h

theorem tr_setInst_bind {β : Type} {i : Nat} {x : Instr w} {f : Unit → A w β} {a : ASt w} {Q : β → ASt w → Prop}
    (h : Tr tot (f ()) (a.setI i x) Q) : Tr tot (setInst i x >>= f) a Q := h

theorem tr_prog {α : Type} {m : A w α} {a : ASt w} : Tr true m a (fun _ _ => True) ↔ ∃ res, m a = .ok res :=
  tr_true.trans ⟨fun ⟨x, a', h, _⟩ => ⟨(x, a'), h⟩, fun ⟨res, h⟩ => ⟨res.1, res.2, h, trivial⟩⟩

end tr

-- Continuation-passing form: `allocStep_eqK` is then `rfl`.  `16` and `> 2` are the heuristic of `can_alloc_reg`.

def phCanK (numRegs i : Nat) (atf0 : List Nat) (inst0 : Instr w) (k : Bool → A w Unit) : A w Unit :=
  match dstTmp? inst0 with
  | some tmp => do
    let lastUse ← lastUseOf "allocate_temps:can_alloc_reg:last_use.unwrap" tmp
    if lastUse < i then throw "allocate_temps:can_alloc_reg:last_use-i-underflow"
    let live := lastUse - i
    let a ← get
    let can ← pure ((live < 16 || a.freeRegs.length > 2)
      && (!a.freeRegs.isEmpty || atf0.any (fun x => decide (x < numRegs))))
    k can
  | none => do let can ← pure false; k can

def phFuseK (i : Nat) (canAllocReg : Bool) (atf0 : List Nat) (inst0 : Instr w)
    (k : List Nat → A w Unit) : A w Unit := do
  let mut atf := atf0
  match arith? inst0 with
  | some (_, .tmp tmp, s0, s1) =>
    let r ← rangeAt "allocate_temps:ranges-index" tmp
    match r.lastUse with
    | some lastUse =>
      let firstUse ←
        match r.firstUse with
        | some f => pure f
        | none => throw "allocate_temps:first_use.unwrap"
      let fi ← instAt "allocate_temps:insts[first_use]-index" firstUse
      match fi with
      | .copy (.mem mem) _ =>
        let a ← get
        let c1 := (r.numUses == 1 || !canAllocReg) && !hasWriteInRange a.st mem (firstUse + 1) lastUse
        let ok ←
          if c1 then
            match srcOk a i firstUse s0 with
            | .error e => throw e
            | .ok false => pure false
            | .ok true =>
              match srcOk a i firstUse s1 with
              | .error e => throw e
              | .ok b => pure b
          else pure false
        if ok then
          atf ← fuseSrc firstUse atf s0
          atf ← fuseSrc firstUse atf s1
          modify fun a =>
            { a with repl := alSet a.repl tmp (.mem mem), nre := nrePush (lastUse, tmp) a.nre }
          setInst firstUse inst0
          setInst i .noop
          match arith? (← instAt "allocate_temps:insts[first_use]-index" firstUse) with
          | some (op, _, x0, x1) => setInst firstUse (mkArith op (.mem mem) x0 x1)
          | none => pure ()
      | _ => pure ()
    | none => pure ()
  | _ => pure ()
  k atf

def phRewriteK (i : Nat) (k : Unit → A w Unit) : A w Unit := do
  let inst1 ← instAt "allocate_temps:insts-index" i
  let repl := (← get).repl
  match inst1 with
  | .copy d s =>
    match replSrc repl s with
    | .error e => throw e
    | .ok s' => setInst i (.copy d s')
  | _ =>
    match arith? inst1 with
    | some (op, d, s0, s1) =>
      match replSrc repl s0 with
      | .error e => throw e
      | .ok s0' =>
        match replSrc repl s1 with
        | .error e => throw e
        | .ok s1' => setInst i (mkArith op d s0' s1')
    | none => pure ()
  k ()

def phLiveK (numRegs : Nat) (k : Unit → A w Unit) : A w Unit := do
  match liveMask numRegs (← get).freeRegs with
  | .error e => throw e
  | .ok live => modify fun a => { a with st := { a.st with live := a.st.live.push live } }
  k ()

def phDst (i : Nat) (canAllocReg : Bool) : A w Unit := do
  let inst2 ← instAt "allocate_temps:insts-index" i
  match inst2 with
  | .copy (.tmp tmp) src =>
    let r ← rangeAt "allocate_temps:ranges-index" tmp
    match r.lastUse with
    | some lastUse =>
      if r.numUses == 0 then setInst i .noop
      else
        match src with
        | .imm _ => forward i tmp lastUse src
        | .mem mem =>
          if (r.numUses == 1 || !canAllocReg) && !hasWriteInRange (← get).st mem i lastUse then
            forward i tmp lastUse src
          else allocTemp i tmp
        | _ => allocTemp i tmp
    | none => setInst i .noop
  | _ =>
    match arith? inst2 with
    | some (_, .tmp tmp, _, _) =>
      let r ← rangeAt "allocate_temps:ranges-index" tmp
      if r.numUses != 0 then allocTemp i tmp else setInst i .noop
    | _ => pure ()

theorem allocStep_eqK (numRegs i : Nat) :
    (allocStep numRegs i : A w Unit) = (do
      let atf0 ← drainEnds i (2 * (← get).nre.length + 2) []
      let inst0 ← instAt "allocate_temps:insts-index" i
      phCanK numRegs i atf0 inst0 fun can =>
        phFuseK i can atf0 inst0 fun atf =>
          phRewriteK i fun _ => do
            freeAll numRegs atf
            phLiveK numRegs fun _ => phDst i can) := rfl

end Alloc
end C02
end Hpbf
