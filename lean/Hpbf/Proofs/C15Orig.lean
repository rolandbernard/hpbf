/-
A defect of upstream hpbf. There the one-term fast paths of `Expr::mul` extend `vars` without sorting
them or the parts, and `Expr::prod_of` does not re-sort (`mulOrig`, `prodOfOrig`); the verified source
sorts (/repo/src/ir.rs:223,227,518), which is what `mul` and `prodOf` model. The unsorted variants
still compute the right value, but `mulOrig` breaks the normal form, `add` then yields two parts with
equal `vars`, and `prodOfOrig` turns these into two equal one-variable parts and a constant part that
is not first, on which `constantPart`, `incOf`, `prodIncOf` recompose to a WRONG value (w = 8).
`prodOfOrig` is needed for that: the weaker invariant `SCanon` is kept by all other constructors,
`mulOrig` included, and implies `WeakCanon`.
-/
import Hpbf.Proofs.C15Canon

namespace Hpbf
namespace Expr
variable {w : Nat}

/-- `Expr::mul` of upstream hpbf. -/
def mulOrig (a b : Expr w) : Expr w :=
  match a, b with
  | [], _ => val 0#w
  | _, [] => val 0#w
  | [p], _ => scaleAppendOrig b p
  | _, [q] => scaleAppendOrig a q
  | _, _ =>
    finish (a.foldl (fun m sp =>
      b.foldl (fun m op => accum m (sortVars (sp.vars ++ op.vars)) (sp.coef * op.coef)) m) [])

/-- `Expr::prod_of` of upstream hpbf. -/
def prodOfOrig (e : Expr w) (v : Int) : Option (Expr w) :=
  if e.all (fun p => (p.vars.filter (· == v)).length == 1) then
    some (e.map (fun p => { coef := p.coef, vars := p.vars.filter (· != v) }))
  else none

theorem eval_prodOfOrig (e r : Expr w) (v : Int) (f : Int → BitVec w) (h : prodOfOrig e v = some r) :
    evaluate e f = f v * evaluate r f := by
  unfold prodOfOrig at h
  split at h
  · rename_i hall
    simp only [Option.some.injEq] at h
    subst h
    exact evaluate_divVar f v e hall
  · cases h

/-- `Expr::var(7).mul(Expr::val(1).add(Expr::var(5))).add(Expr::var(7).mul(Expr::var(5)))` at `u8`;
the witness divides it by `x7`. -/
def origWitness : Expr 8 :=
  add (mulOrig (var 7) (add (val 1#8) (var 5))) (mulOrig (var 7) (var 5))

theorem origWitness_fastPath :
    mulOrig (var 7 : Expr 8) (add (val 1#8) (var 5)) = [⟨1#8, [7]⟩, ⟨1#8, [5, 7]⟩] := by
  simp [add, val, var, cmpVars, mulOrig, scaleAppendOrig]

theorem origWitness_eq : origWitness = [⟨1#8, [5, 7]⟩, ⟨1#8, [7]⟩, ⟨1#8, [5, 7]⟩] := by
  unfold origWitness
  rw [origWitness_fastPath]
  simp [add, var, cmpVars, mulOrig, scaleAppendOrig]

/-- The quotient by `x7`; its value is `2*x5 + 1`. -/
def origQuot : Expr 8 := [⟨1#8, [5]⟩, ⟨1#8, []⟩, ⟨1#8, [5]⟩]

theorem origWitness_prodOf : prodOfOrig origWitness 7 = some origQuot := by
  rw [origWitness_eq]; decide

theorem orig_fastPath_not_canon : ¬ Canon (mulOrig (var 7 : Expr 8) (add (val 1#8) (var 5))) := by
  rw [origWitness_fastPath]; decide

theorem orig_add_duplicates : ¬ (origWitness.map (·.vars)).Nodup := by
  rw [origWitness_eq]; decide

theorem orig_witness_constantPart : constantPart origQuot ≠ evaluate origQuot (fun _ => 0#8) := by
  decide

/-- `incOf` answers `x5 + 1` for the quotient `2*x5 + 1`. -/
theorem orig_witness_incOf :
    ∃ r, incOf origQuot 5 = some r ∧
      evaluate origQuot (fun _ => 1#8) ≠ (fun _ => 1#8) 5 + evaluate r (fun _ => 1#8) :=
  ⟨[⟨1#8, []⟩], by decide, by decide⟩

theorem orig_witness_prodIncOf :
    ∃ r m, prodIncOf origQuot 5 = some (r, m) ∧
      evaluate origQuot (fun _ => 1#8) ≠ m * (fun _ => 1#8) 5 + evaluate r (fun _ => 1#8) :=
  ⟨[⟨1#8, []⟩], 1#8, by decide, by decide⟩

/-- The same construction with the sorting `mul` and `prodOf`. -/
theorem repaired_witness :
    let e : Expr 8 := add (mul (var 7) (add (val 1#8) (var 5))) (mul (var 7) (var 5))
    e = [⟨2#8, [5, 7]⟩, ⟨1#8, [7]⟩] ∧ prodOf e 7 = some [⟨1#8, []⟩, ⟨2#8, [5]⟩] := by
  have h1 : mul (var 7 : Expr 8) (add (val 1#8) (var 5)) = [⟨1#8, [5, 7]⟩, ⟨1#8, [7]⟩] := by
    simp [add, val, var, cmpVars, mul]; decide
  have h2 : mul (var 7 : Expr 8) (var 5) = [⟨1#8, [5, 7]⟩] := by
    simp [var, mul]; decide
  simp only [h1, h2]
  have h3 : add ([⟨1#8, [5, 7]⟩, ⟨1#8, [7]⟩] : Expr 8) [⟨1#8, [5, 7]⟩] = [⟨2#8, [5, 7]⟩, ⟨1#8, [7]⟩] := by
    simp [add, cmpVars]
  rw [h3]
  exact ⟨rfl, by decide⟩

/-- Every part with at most one variable is strictly greater than all parts before it: what upstream
hpbf's `mul` still guarantees, and enough for `WeakCanon`. -/
def SCanonV (V : List (List Int)) : Prop :=
  V.Pairwise (fun a b => b.length ≤ 1 → cmpVars a b = .lt)

def SCanon (e : Expr w) : Prop := SCanonV (e.map (·.vars))

instance (e : Expr w) : Decidable (SCanon e) := by unfold SCanon SCanonV; infer_instance

theorem SCanon.of_strict {e : Expr w}
    (h : (e.map (·.vars)).Pairwise (fun a b => cmpVars a b = .lt)) : SCanon e := by
  unfold SCanon SCanonV
  refine List.Pairwise.imp ?_ h
  intro a b hlt _
  exact hlt

theorem Canon.scanon {e : Expr w} (h : Canon e) : SCanon e := SCanon.of_strict h.2

theorem SCanon.weak {e : Expr w} (h : SCanon e) : WeakCanon e := by
  unfold WeakCanon
  have h' : e.Pairwise (fun p q => q.vars.length ≤ 1 → cmpVars p.vars q.vars = .lt) :=
    List.pairwise_map.1 h
  refine h'.imp ?_
  intro p q hpq
  constructor
  · intro hq
    have := hpq (by rw [hq]; simp)
    rw [hq] at this
    exact cmpVars_nil_right this
  · intro hl
    exact cmpVars_lt_ne (hpq (by omega))

theorem scanon_cons {p : Part w} {e : Expr w} :
    SCanon (p :: e) ↔ (∀ q ∈ e, q.vars.length ≤ 1 → cmpVars p.vars q.vars = .lt) ∧ SCanon e := by
  unfold SCanon SCanonV
  rw [List.map_cons, List.pairwise_cons]
  simp

theorem SCanon.sublist {e e' : Expr w} (hs : e'.Sublist e) (h : SCanon e) : SCanon e' :=
  List.Pairwise.sublist (hs.map _) h

theorem SCanon.of_vars_eq {e e' : Expr w} (hv : e'.map (·.vars) = e.map (·.vars)) (h : SCanon e) :
    SCanon e' := by
  unfold SCanon; rw [hv]; exact h

theorem SCanon.map_coef {e : Expr w} (g : Part w → Part w) (hg : ∀ p, (g p).vars = p.vars)
    (h : SCanon e) : SCanon (e.map g) := by
  apply h.of_vars_eq
  rw [List.map_map]
  exact List.map_congr_left (fun p _ => hg p)

theorem scanon_val (c : BitVec w) : SCanon (val c) := (canon_val c).scanon
theorem scanon_var (v : Int) : SCanon (var v : Expr w) := (canon_var v).scanon
theorem scanon_neg {a : Expr w} (h : SCanon a) : SCanon (neg a) := h.map_coef _ (fun _ => rfl)

theorem scanon_half {a r : Expr w} (h : SCanon a) (hh : half a = some r) : SCanon r := by
  unfold half at hh
  split at hh
  · simp only [Option.some.injEq] at hh
    subst hh
    exact h.map_coef _ (fun _ => rfl)
  · cases hh

/-- `add` needs only this much order of its inputs to keep one-variable and constant parts unique. -/
theorem scanon_add {a b : Expr w} (ha : SCanon a) (hb : SCanon b) : SCanon (add a b) :=
  List.pairwise_map.2
    (add_ordered (fun vs => vs.length ≤ 1) (List.pairwise_map.1 ha) (List.pairwise_map.1 hb))

theorem scanon_scaleAppendOrig {e : Expr w} (p : Part w) (h : SCanon e) :
    SCanon (scaleAppendOrig e p) := by
  unfold scaleAppendOrig
  refine SCanon.sublist (e := e.map (fun q => ({ coef := q.coef * p.coef, vars := q.vars ++ p.vars } : Part w)))
    List.filter_sublist ?_
  unfold SCanon SCanonV
  rw [List.map_map]
  have : ((fun q : Part w => q.vars) ∘ fun q : Part w =>
      ({ coef := q.coef * p.coef, vars := q.vars ++ p.vars } : Part w))
      = (fun vs => vs ++ p.vars) ∘ (fun q : Part w => q.vars) := rfl
  rw [this, ← List.map_map, List.pairwise_map]
  refine List.Pairwise.imp ?_ h
  intro a b hab hlen
  cases hp : p.vars with
  | nil =>
    rw [hp] at hlen
    simp only [List.append_nil] at hlen ⊢
    exact hab hlen
  | cons v vs =>
    -- a non-empty `p.vars` makes every list longer than 1 unless it was `[]`, and `[]` can only come first
    rw [hp] at hlen
    have hb : b = [] := by
      cases b with
      | nil => rfl
      | cons _ _ => simp at hlen
    exact absurd (hab (by rw [hb]; simp)) (by rw [hb]; exact cmpVars_nil_right)

theorem scanon_mulOrig {a b : Expr w} (ha : SCanon a) (hb : SCanon b) : SCanon (mulOrig a b) := by
  unfold mulOrig
  split
  · exact scanon_val _
  · exact scanon_val _
  · exact scanon_scaleAppendOrig _ hb
  · exact scanon_scaleAppendOrig _ ha
  · exact (canon_finish (tableOK_foldl2 (fun sp op : Part w => sortVars (sp.vars ++ op.vars))
      (fun sp op => sp.coef * op.coef) (fun _ _ => sortVars_sorted _) a b [] tableOK_nil)).scanon

theorem scanon_normalize {e : Expr w} (h : SCanon e) : SCanon (normalize e) := by
  rw [normalize_eq]
  split
  · have h1 : SCanon (normPhase1 e) := by
      rcases normPhase1_cases e with he | ⟨hs, _⟩
      · rw [he]; exact h
      · exact SCanon.of_strict hs
    exact normTail_vars (P := SCanonV) (fun hs hV => List.Pairwise.sublist hs hV) h1
  · exact h

theorem nodup_keys_symbLoop (g : Int → Option (Expr w)) (ps : List (Part w))
    (m m' : List (List Int × BitVec w)) (hm : (m.map Prod.fst).Nodup)
    (h : symbLoop g ps m = some m') : (m'.map Prod.fst).Nodup :=
  symbLoop_invariant (I := fun m => (m.map Prod.fst).Nodup) (Q := fun _ => True)
    (fun m k c h _ => nodup_keys_accum m k c h) g ps (fun _ _ _ _ _ _ => trivial) m m' hm h

theorem scanon_symbEvaluate {e r : Expr w} (g : Int → Option (Expr w))
    (hg : ∀ v e', g v = some e' → SCanon e') (h : symbEvaluate e g = some r) : SCanon r := by
  unfold symbEvaluate at h
  split at h
  · rename_i v hid
    exact hg v r h
  · split at h
    · simp only [Option.some.injEq] at h
      subst h; exact scanon_val _
    · split at h
      · cases h
      · rename_i m hm
        simp only [Option.some.injEq] at h
        subst h
        exact SCanon.of_strict (strict_finish (nodup_keys_symbLoop g e [] m (by simp) hm))

/-- `prodOfOrig` by itself loses `SCanon`, and even `WeakCanon`. -/
theorem orig_prodOf_breaks : SCanon origWitness ∧ ¬ WeakCanon origQuot := by
  rw [origWitness_eq]; decide

/-- `add` does not keep `WeakCanon` by itself: it needs the order. -/
theorem add_needs_order :
    let a : Expr 8 := [⟨1#8, [9, 3]⟩, ⟨1#8, [7]⟩]
    let b : Expr 8 := [⟨1#8, [7]⟩]
    WeakCanon a ∧ WeakCanon b ∧ ¬ WeakCanon (add a b) := by
  have h : add ([⟨1#8, [9, 3]⟩, ⟨1#8, [7]⟩] : Expr 8) [⟨1#8, [7]⟩]
      = [⟨1#8, [7]⟩, ⟨1#8, [9, 3]⟩, ⟨1#8, [7]⟩] := by simp [add, cmpVars]
  simp only [h]
  decide

end Expr
end Hpbf
