/-
Trip counts and the meaning of the `OptLoop` record that `analyzeLoop` returns.  The loop is seen through the
sequence `cv : Nat → BitVec w` of values of its condition cell at the successive tests (`cv k` = value at the
`k`-th test, i.e. after `k` rounds; only meaningful while the loop is still running, which is why every recurrence
is guarded by `Live cv k`).  This covers balanced loops
(`cv k = M k cond` for the memories `M k` at the start of round `k`) and loops that move the pointer alike.
An `if` block is a loop whose second test fails (`cv 1 = 0`).
-/
import Hpbf.Proofs.OptLoopSplit
import Hpbf.Props.C01Opt

namespace Hpbf.OptLoop
open Hpbf Opt OptSem Expr

variable {w : Nat}

def RunsExactly (cv : Nat → BitVec w) (n : Nat) : Prop :=
  (∀ k, k < n → cv k ≠ 0#w) ∧ cv n = 0#w

def Diverges (cv : Nat → BitVec w) : Prop := ∀ k, cv k ≠ 0#w

/-- Round `k` is executed. -/
def Live (cv : Nat → BitVec w) (k : Nat) : Prop := ∀ j, j ≤ k → cv j ≠ 0#w

theorem runsExactly_unique {cv : Nat → BitVec w} {n n' : Nat} (h : RunsExactly cv n)
    (h' : RunsExactly cv n') : n = n' := by
  rcases Nat.lt_trichotomy n n' with hlt | heq | hgt
  · exact absurd h.2 (h'.1 n hlt)
  · exact heq
  · exact absurd h'.2 (h.1 n' hgt)

theorem not_diverges_of_runsExactly {cv : Nat → BitVec w} {n : Nat} (h : RunsExactly cv n) :
    ¬ Diverges cv := fun hd => hd n h.2

theorem live_of_lt {cv : Nat → BitVec w} {n k : Nat} (h : RunsExactly cv n) (hk : k < n) : Live cv k :=
  fun j hj => h.1 j (Nat.lt_of_le_of_lt hj hk)

theorem cv_eq_iter (cv : Nat → BitVec w) (inc : BitVec w)
    (hrec : ∀ k, Live cv k → cv (k + 1) = cv k + inc) (N : Nat)
    (hN : ∀ k, k < N → C01Opt.iter inc k (cv 0) ≠ 0#w) :
    ∀ k, k ≤ N → cv k = C01Opt.iter inc k (cv 0) := by
  intro k
  induction k using Nat.strong_induction_on with
  | _ k ih =>
    intro hk
    cases k with
    | zero => rfl
    | succ k =>
      have hlive : Live cv k := by
        intro j hj
        rw [ih j (Nat.lt_succ_of_le hj) (by omega)]
        exact hN j (by omega)
      rw [hrec k hlive, ih k (Nat.lt_succ_self k) (by omega), C01Opt.iter_succ]

theorem tripCount_runs (hw : 0 < w) (cv : Nat → BitVec w) (inc n : BitVec w)
    (hrec : ∀ k, Live cv k → cv (k + 1) = cv k + inc)
    (h : OptArith.tripCount (cv 0) inc = some n) : RunsExactly cv n.toNat := by
  obtain ⟨h0, hne⟩ := C01Opt.tripCount_some hw (cv 0) inc n h
  have heq := cv_eq_iter cv inc hrec n.toNat hne
  refine ⟨fun k hk => ?_, ?_⟩
  · rw [heq k (Nat.le_of_lt hk)]; exact hne k hk
  · rw [heq _ (Nat.le_refl _)]; exact h0

theorem tripCount_diverges (hw : 0 < w) (cv : Nat → BitVec w) (inc : BitVec w)
    (hrec : ∀ k, Live cv k → cv (k + 1) = cv k + inc)
    (h : OptArith.tripCount (cv 0) inc = none) : Diverges cv := by
  intro k
  have hne := C01Opt.tripCount_none hw (cv 0) inc h
  rw [cv_eq_iter cv inc hrec k (fun j _ => hne j) k (Nat.le_refl _)]
  exact hne k

theorem tripInv_runs (hw : 0 < w) (cv : Nat → BitVec w) (inc inv : BitVec w)
    (hrec : ∀ k, Live cv k → cv (k + 1) = cv k + inc)
    (h : OptArith.tripInv inc = some inv) : RunsExactly cv (inv * cv 0).toNat :=
  tripCount_runs hw cv inc (inv * cv 0) hrec (C01Opt.tripInv_tripCount hw inc inv h (cv 0))

theorem diverges_of_step (cv : Nat → BitVec w) (h0 : cv 0 ≠ 0#w)
    (hstep : ∀ k, Live cv k → cv (k + 1) ≠ 0#w) : Diverges cv := by
  have : ∀ k, Live cv k := by
    intro k
    induction k with
    | zero =>
      intro j hj
      have : j = 0 := by omega
      subst this; exact h0
    | succ k ih =>
      intro j hj
      rcases Nat.lt_or_ge j (k + 1) with hlt | hge
      · exact ih j (by omega)
      · have : j = k + 1 := by omega
        subst this; exact hstep k ih
  exact fun k => this k k (Nat.le_refl k)

theorem const_diverges (cv : Nat → BitVec w) (hrec : ∀ k, Live cv k → cv (k + 1) = cv k)
    (h0 : cv 0 ≠ 0#w) : Diverges cv :=
  diverges_of_step cv h0 (fun k hl => by rw [hrec k hl]; exact hl k (Nat.le_refl k))

theorem stored_diverges (cv : Nat → BitVec w) (c : BitVec w) (hc : c ≠ 0#w)
    (hrec : ∀ k, Live cv k → cv (k + 1) = c) (h0 : cv 0 ≠ 0#w) : Diverges cv :=
  diverges_of_step cv h0 (fun k hl => by rw [hrec k hl]; exact hc)

/-- A trip-count expression has one of the two shapes `analyzeLoop` builds (a constant, or an odd inverse times
the condition cell), and evaluates to the number of rounds in every memory that holds the initial value of the
condition cell.  `n < 2 ^ w` is what lets a user pass from `ev e m0 = ofNat n` to `(ev e m0).toNat = n`
(`triOk_of_meaning`, `geo_sem`). -/
def ExprMeaning (e : Expr w) (cv : Nat → BitVec w) (cond : Int) : Prop :=
  ((∃ c, e = Expr.val c) ∨ (∃ inv, Cell.isOdd inv = true ∧ e = Expr.mul (Expr.val inv) (Expr.var cond))) ∧
  ∀ m0 : Mem w, m0 cond = cv 0 →
    ∃ n, RunsExactly cv n ∧ n < 2 ^ w ∧ ev e m0 = BitVec.ofNat w n

/-- Meaning of the flags of an `OptLoop` for a loop (or `if`) whose body returns. -/
structure LoopMeaning (L : OptLoop w) (cv : Nat → BitVec w) (cond : Int) : Prop where
  never : L.never = true → cv 0 = 0#w
  atLeastOnce : L.atLeastOnce = true → cv 0 ≠ 0#w
  atMostOnce : L.atMostOnce = true → cv 0 = 0#w ∨ cv 1 = 0#w
  finite : L.finite = true → ∃ n, RunsExactly cv n
  noContinue : L.noContinue = true → Diverges cv
  noEffect : L.noEffect = true → cv 0 = 0#w ∨ Diverges cv
  expr : ∀ e, L.expr = some e → ExprMeaning e cv cond

theorem constant_val (c : BitVec w) : Expr.constant (Expr.val c) = some c := by
  unfold Expr.val
  split
  · rename_i h; subst h; rfl
  · rfl

theorem ofExpr_val_meaning (cv : Nat → BitVec w) (cond : Int) (c : BitVec w)
    (h : RunsExactly cv c.toNat) : LoopMeaning (OptLoop.ofExpr (Expr.val c)) cv cond := by
  have hpos : c ≠ 0#w → 0 < c.toNat := by
    intro hc
    rcases Nat.eq_zero_or_pos c.toNat with h0 | h0
    · exact absurd (BitVec.eq_of_toNat_eq (by simpa using h0)) hc
    · exact h0
  constructor
  · intro hn
    simp only [OptLoop.ofExpr, constant_val, beq_iff_eq, Option.some.injEq] at hn
    subst hn; simpa using h.2
  · intro hn
    simp only [OptLoop.ofExpr, constant_val, bne_iff_ne, ne_eq] at hn
    exact h.1 0 (hpos hn)
  · intro hn
    simp only [OptLoop.ofExpr, constant_val, Bool.or_eq_true, beq_iff_eq] at hn
    rcases hn with hn | hn
    · subst hn; left; simpa using h.2
    · subst hn
      rcases Nat.eq_zero_or_pos w with hw | hw
      · subst hw; left; exact Subsingleton.elim _ _
      · right
        rw [BitVec.toNat_one hw] at h; exact h.2
  · intro _; exact ⟨c.toNat, h⟩
  · intro hn; simp [OptLoop.ofExpr] at hn
  · intro hn
    simp only [OptLoop.ofExpr, constant_val, beq_iff_eq, Option.some.injEq] at hn
    subst hn; left; simpa using h.2
  · intro e he
    simp only [OptLoop.ofExpr, Option.some.injEq] at he
    subst he
    exact ⟨Or.inl ⟨c, rfl⟩, fun m0 _ => ⟨c.toNat, h, c.isLt, by rw [ev_val, C01Opt.Lemmas.ofNat_toNat_self]⟩⟩

theorem ofExpr_invvar_meaning (hw : 0 < w) (cv : Nat → BitVec w) (cond : Int) (inv : BitVec w)
    (hodd : Cell.isOdd inv = true) (h : RunsExactly cv (inv * cv 0).toNat) :
    LoopMeaning (OptLoop.ofExpr (Expr.mul (Expr.val inv) (Expr.var cond))) cv cond := by
  have hshape := C01Opt.invvar_eq hw inv cond hodd
  have hconst : Expr.constant (Expr.mul (Expr.val inv) (Expr.var cond)) = none := by
    rw [hshape]; rfl
  constructor
  · intro hn; simp [OptLoop.ofExpr, hconst] at hn
  · intro hn; simp [OptLoop.ofExpr, hconst] at hn
  · intro hn; simp [OptLoop.ofExpr, hconst] at hn
  · intro _; exact ⟨_, h⟩
  · intro hn; simp [OptLoop.ofExpr] at hn
  · intro hn; simp [OptLoop.ofExpr, hconst] at hn
  · intro e he
    simp only [OptLoop.ofExpr, Option.some.injEq] at he
    subst he
    refine ⟨Or.inr ⟨inv, hodd, rfl⟩, fun m0 hm0 => ⟨(inv * cv 0).toNat, h, (inv * cv 0).isLt, ?_⟩⟩
    rw [ev_mul, ev_val, ev_var, hm0, C01Opt.Lemmas.ofNat_toNat_self]

theorem infinite_meaning (cv : Nat → BitVec w) (cond : Int) (b : Bool)
    (hb : b = true → cv 0 ≠ 0#w) (hd : cv 0 ≠ 0#w → Diverges cv) :
    LoopMeaning (OptLoop.infinite b) cv cond := by
  constructor
  · intro hn; simp [OptLoop.infinite] at hn
  · intro hn; exact hb hn
  · intro hn; simp [OptLoop.infinite] at hn
  · intro hn; simp [OptLoop.infinite] at hn
  · intro hn; exact hd (hb hn)
  · intro _
    by_cases h0 : cv 0 = 0#w
    · exact Or.inl h0
    · exact Or.inr (hd h0)
  · intro e he; simp [OptLoop.infinite] at he

theorem unknown_meaning (cv : Nat → BitVec w) (cond : Int) (b : Bool)
    (hb : b = true → cv 0 ≠ 0#w) : LoopMeaning (OptLoop.unknown b) cv cond := by
  constructor
  · intro hn; simp [OptLoop.unknown] at hn
  · intro hn; exact hb hn
  · intro hn; simp [OptLoop.unknown] at hn
  · intro hn; simp [OptLoop.unknown] at hn
  · intro hn; simp [OptLoop.unknown] at hn
  · intro hn; simp [OptLoop.unknown] at hn
  · intro e he; simp [OptLoop.unknown] at he

theorem atMostOnceOf_meaning (hw : 0 < w) (cv : Nat → BitVec w) (cond : Int) (b : Bool)
    (hb : b = true → cv 0 ≠ 0#w) (h1 : cv 0 ≠ 0#w → cv 1 = 0#w) :
    LoopMeaning (OptLoop.atMostOnceOf b) cv cond := by
  cases b with
  | true =>
    have h0 := hb rfl
    have hr : RunsExactly cv (1#w).toNat := by
      rw [BitVec.toNat_one hw]
      refine ⟨fun k hk => ?_, h1 h0⟩
      have : k = 0 := by omega
      subst this; exact h0
    exact ofExpr_val_meaning cv cond 1#w hr
  | false =>
    constructor
    · intro hn; simp [OptLoop.atMostOnceOf] at hn
    · intro hn; simp [OptLoop.atMostOnceOf] at hn
    · intro _
      by_cases h0 : cv 0 = 0#w
      · exact Or.inl h0
      · exact Or.inr (h1 h0)
    · intro _
      by_cases h0 : cv 0 = 0#w
      · exact ⟨0, fun k hk => by omega, h0⟩
      · refine ⟨1, fun k hk => ?_, h1 h0⟩
        have : k = 0 := by omega
        subst this; exact h0
    · intro hn; simp [OptLoop.atMostOnceOf] at hn
    · intro hn; simp [OptLoop.atMostOnceOf] at hn
    · intro e he; simp [OptLoop.atMostOnceOf] at he

end Hpbf.OptLoop
