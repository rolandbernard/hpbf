/-
Chain, optimised code: agreement with the canonical semantics (`IrAgrees`, `Proofs/ChainLevel0.lean`) is
transported along `OptProof.BehEq`, the relation every optimizer round preserves.  With `bcAgrees_of_ir`
(`Proofs/ChainTotal.lean`) and `allBackends_of_agrees` (`Proofs/ChainTotalJit.lean`) this is all an optimisation
level has to supply: `BehEq` of the parser's and the optimizer's output, and `OnceOk` of the latter.
Also here: `ir_limited_of_agrees`, the IR interpreter's limited mode for any block that agrees.
-/
import Hpbf.Proofs.ChainTotalJit
import Hpbf.Props.C01Rebuild

namespace Hpbf
namespace Chain

variable {w : Nat}

theorem irAgrees_of_behEq {prog : Prog} {b b' : Ir.Block w} {env : Env} (h0 : IrAgrees prog b env)
    (hB : OptProof.BehEq b b' env) : IrAgrees prog b' env := by
  obtain ⟨⟨f1, f2⟩, ⟨b1, b2⟩, p1, p2⟩ := h0
  obtain ⟨e1, e2, e3, e4, e5, e6⟩ := hB
  refine ⟨⟨?_, ?_⟩, ⟨?_, ?_⟩, ?_, ?_⟩
  · intro f s hs
    obtain ⟨g, c, hc, ht⟩ := f1 f s hs
    obtain ⟨g', c', hc', ht', _⟩ := e1 g c hc
    exact ⟨g', c', hc', ht'.trans ht⟩
  · intro f s hs
    obtain ⟨g, c, hc, ht⟩ := f2 f s hs
    obtain ⟨g', c', hc', ht', _⟩ := e2 g c hc
    exact ⟨g', c', hc', ht'.trans ht⟩
  · intro f' c' hc'
    obtain ⟨g, c, hc, ht, _⟩ := e3 f' c' hc'
    obtain ⟨f, s, hs, hst⟩ := b1 g c hc
    exact ⟨f, s, hs, hst.trans ht.symm⟩
  · intro f' c' hc'
    obtain ⟨g, c, hc, ht, _⟩ := e4 f' c' hc'
    obtain ⟨f, s, hs, hst⟩ := b2 g c hc
    exact ⟨f, s, hs, hst.trans ht.symm⟩
  · intro f'
    obtain ⟨g, hg⟩ := e5 f'
    obtain ⟨f, hf⟩ := p1 g
    exact ⟨f, by rw [← hg, hf]⟩
  · intro f
    obtain ⟨g, hg⟩ := p2 f
    obtain ⟨f', hf'⟩ := e6 g
    exact ⟨f', by rw [hf', hg]⟩

/-- The IR interpreter in limited mode (C07), for any block that agrees with the canonical semantics. -/
theorem ir_limited_of_agrees {prog : Prog} {b' : Ir.Block w} {env : Env} (I : IrAgrees prog b' env) :
    (∀ (bd f' : Nat) (c : Ir.Cfg w), Ir.run b' true bd f' env = .done c →
      ∃ (f : Nat) (s : State w), Bf.run f prog env = .done s ∧ s.trace = c.st.trace) ∧
    (∀ (bd f' : Nat) (c : Ir.Cfg w), Ir.run b' true bd f' env = .stopped c →
      ∃ (f : Nat) (s : State w), Bf.run f prog env = .stopped s ∧ s.trace = c.st.trace) ∧
    (∀ bd f', ∃ f, ∀ g, f ≤ g →
      C07.traceOfIr (Ir.run b' true bd f' env) <:+ C01.traceOfBf (Bf.run (w := w) g prog env)) := by
  refine ⟨?_, ?_, ?_⟩
  · intro bd f' c hr
    obtain ⟨g, c', hg, hst⟩ := C07.ir_limited_done b' env bd f' c hr
    obtain ⟨f, s, hf, htr⟩ := I.ofDone hg
    exact ⟨f, s, hf, by rw [htr, hst]⟩
  · intro bd f' c hr
    obtain ⟨g, c', hg, hst⟩ := C07.ir_limited_stopped b' env bd f' c hr
    obtain ⟨f, s, hf, htr⟩ := I.ofStopped hg
    exact ⟨f, s, hf, by rw [htr, hst]⟩
  · intro bd f'
    obtain ⟨g, _, hg⟩ := C07.ir_limited_prefix b' env bd f'
    obtain ⟨f, hf⟩ := I.ofTrace g
    refine ⟨f, fun g' hg' => ?_⟩
    rw [hg, traceOfIr_eq, hf, ← traceOfBf_eq, ← traceOfBf_eq]
    exact C04.bf_trace_mono hg' _

end Chain
end Hpbf
