/-
What a later round needs of the output of dead store elimination.  `OptDse.eliminate` only
deletes assignments from `calc`s (`C01Dse.SubL`), so `CanonL`, `GoodL`, `ShapeL` (for the unchanged analysis),
`noShiftL`, `blockParts`, `isBlock`, `nblocks` transfer from its input to its output.
-/
import Hpbf.Proofs.OptRbPV2
import Hpbf.Proofs.C01DseMain

namespace Hpbf
namespace OptProof
open Opt OptSem Ir

variable {w : Nat}

theorem canon_sub : (∀ i i' : Instr w, C01Dse.SubI i i' → CanonI i → CanonI i') ∧
    ∀ l l' : List (Instr w), C01Dse.SubL l l' → CanonL l → CanonL l' := by
  refine C01Dse.sub_induction (fun _ h => h) (fun _ h => h) ?_ ?_ ?_ (fun h => h) ?_
  · intro cs cs' hs hc
    rw [CanonI] at hc ⊢
    exact fun ve hve => hc ve (hs.subset hve)
  · intro c sh o body body' _ ih hc
    rw [CanonI] at hc ⊢
    exact ih hc
  · intro c sh body body' _ ih hc
    rw [CanonI] at hc ⊢
    exact ih hc
  · intro i i' l l' _ _ ihi ihl hc
    rw [canonL_cons] at hc ⊢
    exact ⟨ihi hc.1, ihl hc.2⟩

theorem canonI_sub : ∀ (i i' : Instr w), C01Dse.SubI i i' → CanonI i → CanonI i' := canon_sub.1

theorem canonL_sub : ∀ (l l' : List (Instr w)), C01Dse.SubL l l' → CanonL l → CanonL l' := canon_sub.2

theorem good_sub : (∀ i i' : Instr w, C01Dse.SubI i i' → GoodI i → GoodI i') ∧
    ∀ l l' : List (Instr w), C01Dse.SubL l l' → GoodL l → GoodL l' := by
  refine C01Dse.sub_induction (fun _ h => h) (fun _ h => h) ?_ ?_ ?_ (fun h => h) ?_
  · intro cs cs' hs hc
    rw [GoodI] at hc ⊢
    exact ⟨hc.1.sublist (hs.map _), fun ve hve => hc.2 ve (hs.subset hve)⟩
  · intro c sh o body body' _ ih hc
    rw [GoodI] at hc ⊢
    exact ih hc
  · intro c sh body body' _ ih hc
    rw [GoodI] at hc ⊢
    exact ih hc
  · intro i i' l l' _ _ ihi ihl hc
    rw [goodL_cons] at hc ⊢
    exact ⟨ihi hc.1, ihl hc.2⟩

theorem goodI_sub : ∀ (i i' : Instr w), C01Dse.SubI i i' → GoodI i → GoodI i' := good_sub.1

theorem goodL_sub : ∀ (l l' : List (Instr w)), C01Dse.SubL l l' → GoodL l → GoodL l' := good_sub.2

theorem isBlock_sub {i i' : Instr w} (h : C01Dse.SubI i i') : C01Dse.isBlock i' = C01Dse.isBlock i := by
  cases h <;> rfl

theorem nblocks_sub {l l' : List (Instr w)} (h : C01Dse.SubL l l') : C01Dse.nblocks l' = C01Dse.nblocks l := by
  unfold C01Dse.nblocks
  suffices H : ∀ (l l' : List (Instr w)), C01Dse.SubL l l' →
      List.countP C01Dse.isBlock l' = List.countP C01Dse.isBlock l from H l l' h
  intro l
  induction l with
  | nil => intro l' h; cases h; rfl
  | cons i rest ih =>
    intro l' h
    cases h with
    | cons hi hr =>
      rw [List.countP_cons, List.countP_cons, ih _ hr, isBlock_sub hi]

theorem blockParts_sub {i i' : Instr w} (h : C01Dse.SubI i i') {cond shift : Int} {body : List (Instr w)}
    (hp : C01Dse.blockParts i = some (cond, shift, body)) :
    ∃ body', C01Dse.blockParts i' = some (cond, shift, body') ∧ C01Dse.SubL body body' := by
  cases h with
  | output _ => simp [C01Dse.blockParts] at hp
  | input _ => simp [C01Dse.blockParts] at hp
  | «calc» _ => simp [C01Dse.blockParts] at hp
  | loop c sh o hb =>
    simp only [C01Dse.blockParts, Option.some.injEq, Prod.mk.injEq] at hp
    obtain ⟨rfl, rfl, rfl⟩ := hp
    exact ⟨_, rfl, hb⟩
  | ifnz c sh hb =>
    simp only [C01Dse.blockParts, Option.some.injEq, Prod.mk.injEq] at hp
    obtain ⟨rfl, rfl, rfl⟩ := hp
    exact ⟨_, rfl, hb⟩

theorem shape_sub :
    (∀ (i i' : Instr w), C01Dse.SubI i i' → ∀ a : OptAnalysis w, ShapeI i a → ShapeI i' a) ∧
    ∀ (l l' : List (Instr w)), C01Dse.SubL l l' → ∀ subs : List (OptAnalysis w), ShapeL l subs →
      ShapeL l' subs := by
  refine C01Dse.sub_induction (fun _ _ h => h) (fun _ _ h => h) ?_ ?_ ?_ (fun _ h => h) ?_
  · intro cs cs' _ a hs
    cases shapeI_isBlock hs
  · intro c sh o body body' _ ih a hs
    cases a with
    | mk L hsf r cl subs =>
      rw [ShapeI] at hs ⊢
      exact ⟨hs.1, hs.2.1, hs.2.2.1, ih subs hs.2.2.2⟩
  · intro c sh body body' _ ih a hs
    cases a with
    | mk L hsf r cl subs =>
      rw [ShapeI] at hs ⊢
      exact ⟨hs.1, hs.2.1, ih subs hs.2.2⟩
  · intro i i' l l' hi _ ihi ihl subs hs
    cases hb : C01Dse.isBlock i with
    | false =>
      rw [shapeL_cons_nonblock hb] at hs
      rw [shapeL_cons_nonblock (by rw [isBlock_sub hi]; exact hb)]
      exact ihl subs hs
    | true =>
      rw [shapeL_cons_block hb] at hs
      rw [shapeL_cons_block (by rw [isBlock_sub hi]; exact hb)]
      obtain ⟨a, subs', e, ha, hrest⟩ := hs
      exact ⟨a, subs', e, ihi a ha, ihl subs' hrest⟩

theorem shapeI_sub : ∀ (i i' : Instr w) (a : OptAnalysis w), C01Dse.SubI i i' → ShapeI i a → ShapeI i' a :=
  fun i i' a h => shape_sub.1 i i' h a

theorem shapeL_sub : ∀ (l l' : List (Instr w)) (subs : List (OptAnalysis w)), C01Dse.SubL l l' →
    ShapeL l subs → ShapeL l' subs :=
  fun l l' subs h => shape_sub.2 l l' h subs

theorem noShift_sub : (∀ i i' : Instr w, C01Dse.SubI i i' → C01Dse.noShiftI i' = C01Dse.noShiftI i) ∧
    ∀ l l' : List (Instr w), C01Dse.SubL l l' → C01Dse.noShiftL l' = C01Dse.noShiftL l := by
  refine C01Dse.sub_induction (fun _ => rfl) (fun _ => rfl) (fun _ _ _ => rfl) ?_ ?_ rfl ?_
  · intro c sh o body body' _ ih
    rw [C01Dse.noShiftI, C01Dse.noShiftI, ih]
  · intro c sh body body' _ ih
    rw [C01Dse.noShiftI, C01Dse.noShiftI, ih]
  · intro i i' l l' _ _ ihi ihl
    rw [C01Dse.noShiftL, C01Dse.noShiftL, ihi, ihl]

theorem noShiftI_sub : ∀ (i i' : Instr w), C01Dse.SubI i i' → C01Dse.noShiftI i' = C01Dse.noShiftI i :=
  noShift_sub.1

theorem noShiftL_sub : ∀ (l l' : List (Instr w)), C01Dse.SubL l l' → C01Dse.noShiftL l' = C01Dse.noShiftL l :=
  noShift_sub.2

theorem deadStoreElimination_sub {b b2 : Block w} {anal : OptAnalysis w}
    (h : deadStoreElimination b anal = .ok b2) : b2.shift = b.shift ∧ C01Dse.SubL b.insts b2.insts := by
  unfold deadStoreElimination at h
  cases he : OptDse.eliminate b anal.toDAnal with
  | none => rw [he] at h; cases h
  | some x =>
    rw [he] at h
    cases h
    exact C01Dse.eliminate_sub he

theorem eliminate_canonL {b b2 : Block w} {anal : OptDse.DAnal} (hc : CanonL b.insts)
    (h : OptDse.eliminate b anal = some b2) : CanonL b2.insts :=
  canonL_sub _ _ (C01Dse.eliminate_sub h).2 hc

theorem deadStoreElimination_canonL {b b2 : Block w} {anal : OptAnalysis w} (hc : CanonL b.insts)
    (h : deadStoreElimination b anal = .ok b2) : CanonL b2.insts :=
  canonL_sub _ _ (deadStoreElimination_sub h).2 hc

theorem eliminate_shapeL {b b2 : Block w} {anal : OptDse.DAnal} {subs : List (OptAnalysis w)}
    (hs : ShapeL b.insts subs) (h : OptDse.eliminate b anal = some b2) : ShapeL b2.insts subs :=
  shapeL_sub _ _ subs (C01Dse.eliminate_sub h).2 hs

theorem deadStoreElimination_shapeL {b b2 : Block w} {anal : OptAnalysis w}
    (hs : ShapeL b.insts anal.subBlocks) (hd : deadStoreElimination b anal = .ok b2) :
    ShapeL b2.insts anal.subBlocks :=
  shapeL_sub _ _ _ (deadStoreElimination_sub hd).2 hs

theorem deadStoreElimination_noShiftL {b b2 : Block w} {anal : OptAnalysis w}
    (hd : deadStoreElimination b anal = .ok b2) : C01Dse.noShiftL b2.insts = C01Dse.noShiftL b.insts :=
  noShiftL_sub _ _ (deadStoreElimination_sub hd).2

theorem deadStoreElimination_shapeOk {b b2 : Block w} {anal : OptAnalysis w}
    (hs : ShapeL b.insts anal.subBlocks) (hd : deadStoreElimination b anal = .ok b2) :
    C01Dse.ShapeOk b2 anal.toDAnal ∧ C01Dse.ShiftFact b2 anal.toDAnal :=
  ⟨shapeOk_of_shapeL (deadStoreElimination_shapeL hs hd), shiftFact_of_shapeL (deadStoreElimination_shapeL hs hd)⟩

theorem eliminate_goodL {b b2 : Block w} {anal : OptDse.DAnal} (hg : GoodL b.insts)
    (h : OptDse.eliminate b anal = some b2) : GoodL b2.insts :=
  goodL_sub _ _ (C01Dse.eliminate_sub h).2 hg

theorem deadStoreElimination_goodL {b b2 : Block w} {anal : OptAnalysis w} (hg : GoodL b.insts)
    (h : deadStoreElimination b anal = .ok b2) : GoodL b2.insts :=
  goodL_sub _ _ (deadStoreElimination_sub h).2 hg

theorem deadStoreElimination_noDupTargets {b b2 : Block w} {anal : OptAnalysis w} (hg : GoodL b.insts)
    (h : deadStoreElimination b anal = .ok b2) : C01Dse.NoDupTargets b2 :=
  goodL_noDup _ (deadStoreElimination_goodL hg h)

theorem round_then_dse {b : Block w} {prevAnal : OptAnalysis w} {os os' : Orders} {b1 b2 : Block w}
    {anal1 : OptAnalysis w} (hr : (optimizeOnce b prevAnal).run os = .ok ((b1, anal1), os'))
    (hcl : CanonL b.insts) (hd : deadStoreElimination b1 anal1 = .ok b2) :
    GoodL b2.insts ∧ CanonL b2.insts ∧ C01Dse.NoDupTargets b2 ∧ ShapeL b2.insts anal1.subBlocks ∧
    C01Dse.ShapeOk b2 anal1.toDAnal ∧ C01Dse.ShiftFact b2 anal1.toDAnal := by
  have hg := deadStoreElimination_goodL (optimizeOnce_good hr hcl) hd
  have hs := optimizeOnce_shape hr
  exact ⟨hg, goodL_canonL _ hg, goodL_noDup _ hg, deadStoreElimination_shapeL hs hd,
    (deadStoreElimination_shapeOk hs hd).1, (deadStoreElimination_shapeOk hs hd).2⟩

#print axioms deadStoreElimination_canonL
#print axioms deadStoreElimination_shapeL
#print axioms deadStoreElimination_goodL
#print axioms round_then_dse

end OptProof
end Hpbf
