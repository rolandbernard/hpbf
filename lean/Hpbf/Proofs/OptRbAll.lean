/-
The bundle `StepAll` (simulation `StepNG` and, field by field, the footprint facts of `FootAll`, for one rebuild step),
its composition, soundness of `compare`, the fresh child of a block without node (`freshChild`), and how a parent
obtains the facts about a child block (`ChildPre`, for the child with its parent forgotten: `PK.forget`, `RelAt.forget`,
the `congr_right` lemmas) from the `StepAll` of the child's body (`childPre_of_stepAll`).
-/
import Hpbf.Proofs.OptRbFinish
import Hpbf.Proofs.OptRbFoot6

namespace Hpbf
namespace OptProof
open Opt OptSem Ir

variable {w : Nat}

/-- Everything the proof knows about one rebuild step (for the source states satisfying the guard `G`). -/
structure StepAll (G : State w → Prop) (sh sh' : Int) (ps : List (Rebuild w)) (s s' : Rebuild w)
    (src new : List (Instr w)) : Prop where
  insts : s'.insts = s.insts ++ new
  wf : Wf s'
  step : StepNG G sh sh' ps s s' src new
  foot : FootStepV (ValidG G sh s ps) s s' new
  bad : FootBadV (ValidG G sh s ps) s s' new
  frame : FootFrameV (ValidG G sh s ps) s s' new
  mono : ReadsMono s s'
  keys : KeysMono' s s'

theorem StepAll.trans {G G2 : State w → Prop} {sh1 sh2 sh3 : Int} {ps : List (Rebuild w)} {a b c : Rebuild w}
    {l1 l2 n1 n2 : List (Instr w)} (h1 : StepAll G sh1 sh2 ps a b l1 n1) (h2 : StepAll G2 sh2 sh3 ps b c l2 n2)
    (hg : ∀ M0 σE σS σS', RelAt sh1 a ps M0 σE σS → G σS → Exec l1 σS (.fin σS') → G2 σS') :
    StepAll G sh1 sh3 ps a c (l1 ++ l2) (n1 ++ n2) := by
  have hv : ∀ σ σ', ValidG G sh1 a ps σ → Exec n1 σ (.fin σ') → ValidG G2 sh2 b ps σ' :=
    fun σ σ' hv he => h1.step.valid hg hv he
  exact ⟨by rw [h2.insts, h1.insts, List.append_assoc], h2.wf, h1.step.trans_g h2.step hg,
    h1.foot.trans h2.foot hv h2.mono, FootBadV.trans h1.bad h1.foot h2.bad hv h2.mono,
    h1.frame.trans h1.foot h2.frame hv h2.mono h2.keys, h1.mono.trans h2.mono,
    fun hs v hv' => h2.keys hs v (h1.keys (h2.mono.2 hs) v hv')⟩

theorem StepAll.refl (G : State w → Prop) (sh : Int) (ps : List (Rebuild w)) {s : Rebuild w} (hwf : Wf s) :
    StepAll G sh sh ps s s [] [] := by
  refine ⟨by simp, hwf, ⟨fun h => h, ?_⟩, (FootStep.refl s).toV _, FootBadV.refl _ s, ?_, ReadsMono.refl s,
    fun _ _ h => h⟩
  · intro M0 σE σS h _
    refine ⟨Sim.nil ⟨M0, h, fun _ => ⟨rfl, rfl⟩⟩ h.tr.symm, fun hb => by cases hb⟩
  · intro _ K _ σ1 σ2 _ _ b hex
    cases hex
    exact ⟨rfl, fun _ _ _ => rfl⟩

theorem compare_eq (s : Rebuild w) (ps : List (Rebuild w)) (a b : Expr w) :
    Opt.compare s ps a b =
      (if a == b then pure true
       else do
         let a' ← evalPending s ps 0 a
         let b' ← evalPending s ps 0 b
         if a' == b' then pure true
         else
           match evalWritten s ps a', evalWritten s ps b' with
           | some a'', some b'' => compareParent s ps a'' b''
           | _, _ => pure false) := by
  cases ps <;> (unfold Opt.compare compareParent; rfl)

theorem compare_sound {s : Rebuild w} {ps : List (Rebuild w)} {M0 E S : Mem w} (h : MInv s ps M0 E S)
    (hc : CanonSt s) {a b : Expr w} (ha : Expr.Canon a) (hb : Expr.Canon b)
    (hcmp : Opt.compare s ps a b = .ok true) : ev a S = ev b S := by
  rw [compare_eq] at hcmp
  split at hcmp
  · rename_i hab
    have : a = b := by simpa using hab
    rw [this]
  · cases ha' : evalPending s ps 0 a with
    | error e => rw [ha'] at hcmp; cases hcmp
    | ok a' =>
      cases hb' : evalPending s ps 0 b with
      | error e => rw [ha', hb'] at hcmp; cases hcmp
      | ok b' =>
        rw [ha', hb'] at hcmp
        have ea : ev a' E = ev a S := by
          rw [evalPending_sound h ha']; show Expr.evaluate a _ = Expr.evaluate a S
          congr 1; funext x; simp
        have eb : ev b' E = ev b S := by
          rw [evalPending_sound h hb']; show Expr.evaluate b _ = Expr.evaluate b S
          congr 1; funext x; simp
        have hca' := evalPending_canon hc ps ha' ha
        have hcb' := evalPending_canon hc ps hb' hb
        simp only [bind, Except.bind] at hcmp
        split at hcmp
        · rename_i hab
          have : a' = b' := by simpa using hab
          rw [← ea, ← eb, this]
        · split at hcmp
          · rename_i a'' b'' ha'' hb''
            have e1 := evalWritten_sound h ha''
            have e2 := evalWritten_sound h hb''
            have := h.pk.cmp a'' b'' (evalWritten_canon hc ps ha'' hca')
              (evalWritten_canon hc ps hb'' hcb') hcmp
            rw [← ea, ← eb, ← e1, ← e2, this]
          · simp [pure, Except.pure] at hcmp

/-- The fresh state of a nested block without previous analysis. -/
def freshChild (sh : Int) (cond : Int) : Rebuild w :=
  reverseSubBlocks (Rebuild.new sh (some cond) .parent none)

theorem freshChild_fields (sh cond : Int) :
    (freshChild sh cond : Rebuild w).pending = [] ∧ (freshChild sh cond : Rebuild w).written = [] ∧
    (freshChild sh cond : Rebuild w).reads = [] ∧ (freshChild sh cond : Rebuild w).insts = [] ∧
    (freshChild sh cond : Rebuild w).anal = none ∧ (freshChild sh cond : Rebuild w).shift = sh ∧
    (freshChild sh cond : Rebuild w).cond = some cond ∧ (freshChild sh cond : Rebuild w).subShift = false ∧
    (freshChild sh cond : Rebuild w).noReturn = false ∧ (freshChild sh cond : Rebuild w).parent = .parent :=
  ⟨rfl, rfl, rfl, rfl, rfl, rfl, rfl, rfl, rfl, rfl⟩

theorem ev_varfree (e : Expr w) (h : Expr.variables e = []) (m m' : Mem w) : ev e m = ev e m' :=
  C01Dse.evaluate_congr m m' e (fun v hv => by rw [h] at hv; cases hv)

theorem PK.forget {sub : Rebuild w} {pc : List (Rebuild w)} {M0 : Mem w} (h : PK sub pc M0) :
    PK (forgetParent sub) [] M0 := by
  refine ⟨?_, ?_, ?_⟩
  · intro v c hc
    unfold getParentConstant at hc
    split at hc
    · simp [forgetParent] at hc
    · cases hc
  · intro v hv
    apply h.nz v
    unfold nonZeroParent at hv ⊢
    split at hv
    · rename_i hh
      exact if_pos hh
    · split at hv
      · simp [forgetParent] at hv
      · cases hv
  · intro a b _ _ hc
    unfold compareParent at hc
    split at hc
    · rename_i hab
      have : a = b := by simpa using hab
      rw [this]
    · split at hc
      · simp [forgetParent, pure, Except.pure] at hc
      · simp [pure, Except.pure] at hc

theorem RelAt.forget {sh : Int} {sub : Rebuild w} {pc : List (Rebuild w)} {M0 : Mem w} {σE σS : State w}
    (h : RelAt sh sub pc M0 σE σS) : RelAt sh (forgetParent sub) [] M0 σE σS :=
  ⟨h.tr, h.env, h.ptr, h.nr, ⟨h.inv.pend, h.inv.writ, h.inv.pk.forget⟩⟩

/-- The footprint notions only look at `subShift`, `reads` and `written` of the end state. -/
theorem FootStepV.congr_right {V : State w → Prop} {s s1 s2 : Rebuild w} {new : List (Instr w)}
    (h : FootStepV V s s1 new) (h1 : s2.subShift = s1.subShift) (h2 : s2.reads = s1.reads)
    (h3 : s2.written = s1.written) : FootStepV V s s2 new := by
  intro hs K hK σ1 σ2 hv hag
  have := h (h1 ▸ hs) K (fun v hv' => by rw [← h2]; exact hK v hv') σ1 σ2 hv hag
  refine this.mono ?_
  intro a b hab
  refine hab.mono ?_
  rintro v ⟨hk, hd⟩
  refine ⟨hk, fun hd' => hd ?_⟩
  obtain ⟨k, e1, e2⟩ := hd'
  exact ⟨k, by rw [← h3]; exact e1, e2⟩

theorem FootBadV.congr_right {V : State w → Prop} {s s1 s2 : Rebuild w} {new : List (Instr w)}
    (h : FootBadV V s s1 new) (h1 : s2.subShift = s1.subShift) (h2 : s2.reads = s1.reads) :
    FootBadV V s s2 new := by
  intro hs K hK σ1 σ2 hv hag hb
  exact h (h1 ▸ hs) K (fun v hv' => by rw [← h2]; exact hK v hv') σ1 σ2 hv hag hb

theorem FootFrameV.congr_right {V : State w → Prop} {s s1 s2 : Rebuild w} {new : List (Instr w)}
    (h : FootFrameV V s s1 new) (h1 : s2.subShift = s1.subShift) (h2 : s2.reads = s1.reads)
    (h3 : s2.written = s1.written) : FootFrameV V s s2 new := by
  intro hs K hK σ1 σ2 hv hag b hex
  obtain ⟨p, m⟩ := h (h1 ▸ hs) K (fun v hv' => by rw [← h2]; exact hK v hv') σ1 σ2 hv hag b hex
  exact ⟨p, fun v hv1 hv2 => m v (by rw [← h3]; exact hv1) (by rw [← h2]; exact hv2)⟩

/-- The child's representation, with the parent forgotten. -/
theorem childRep_forget {Gc : State w → Prop} {shP shC : Int} {s : Rebuild w} {ps : List (Rebuild w)}
    {sub0 sub : Rebuild w} {bodyS : List (Instr w)}
    (hall : StepAll Gc shP shC (s :: ps) sub0 sub bodyS sub.insts) :
    ChildRep Gc shP shC (s :: ps) sub0 [] (forgetParent sub) bodyS := by
  intro M0 σE σS hrel hg
  obtain ⟨hs, hb⟩ := hall.step.2 M0 σE σS hrel hg
  refine ⟨hs.mono ?_, hb⟩
  rintro a b ⟨M0', hr', hk'⟩
  exact ⟨M0', hr'.forget, hk'⟩

theorem childPre_of_stepAll {Gc : State w → Prop} {shP shC cS : Int} {s : Rebuild w} {ps : List (Rebuild w)}
    {sub0 sub : Rebuild w}
    {bodyS new : List (Instr w)} (hb : StepAll Gc shP shC (s :: ps) sub0 sub bodyS new)
    (h0 : sub0.insts = []) (hw0 : sub0.written = []) (hns : sub.subShift = false)
    (hentry : EntryAt Gc shP cS (s :: ps) sub0) :
    ChildPre Gc shP shC (s :: ps) sub0 (forgetParent sub) cS bodyS := by
  have hnew : new = sub.insts := by rw [hb.insts, h0]; rfl
  subst hnew
  exact ⟨childRep_forget hb, hb.foot.congr_right rfl rfl rfl, hb.bad.congr_right rfl rfl,
    hb.frame.congr_right rfl rfl rfl, hns, hw0, hentry, ⟨hb.wf.pend, hb.wf.writ, hb.wf.rev, hb.wf.revOk⟩⟩

end OptProof
end Hpbf
