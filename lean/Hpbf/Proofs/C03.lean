/-
C03: per-instruction simulation for the arithmetic / copy forms of the baseline JIT: the selectors
`JitGen.emitCopy/emitAdd/emitSub/emitMul` (all arms, all operand kinds, all widths: `C03Copy`, `C03Add`,
`C03Sub`, `C03Mul`) as one statement `arith_sound` about `emitArith` / `arith`, lifted to `JitGen.emitInstr` /
`Bc.step` (`sel_instr`); and the definitions over which `Props/C03` states the block theorem (`block_sound` there:
`arithAll`, `blockCode`, `Chain`, `SetAfter`; `blockCode` is also used by `C02EmitInv`) and the witnesses of finding
F6 (`stateOf`, `cfgOf`, `not_sim_of_stack`, `not_sim_of_dst_reg`).
-/
import Hpbf.Proofs.C03Copy
import Hpbf.Proofs.C03Add
import Hpbf.Proofs.C03Sub
import Hpbf.Proofs.C03Mul

namespace Hpbf
namespace C03

open Asm JitGen X86Sem

variable {w : Nat}

theorem srcOk_true (l : Bc.Loc w) : SrcOk (fun _ => True) l := by
  cases l <;> simp [SrcOk]

def ArithOk : Bc.Instr w → Prop
  | .copy d s => LocOk d ∧ LocOk s
  | .add d a b | .sub d a b | .mul d a b => LocOk d ∧ LocOk a ∧ LocOk b
  | _ => False

def dstOf : Bc.Instr w → Bc.Loc w
  | .copy d _ | .add d _ _ | .sub d _ _ | .mul d _ _ => d
  | _ => .imm 0#w

theorem plains_all_fits (xs : List X86) : (plains xs).all Item.fits = xs.all X86.fits := by
  induction xs with
  | nil => rfl
  | cons x xs ih => simp only [plains, List.map_cons, List.all_cons, Item.fits] at ih ⊢; rw [ih]

def SrcsOk (S : Nat → Prop) : Bc.Instr w → Prop
  | .copy _ s => SrcOk S s
  | .add _ a b | .sub _ a b | .mul _ a b => SrcOk S a ∧ SrcOk S b
  | _ => True

theorem srcsOk_true (ins : Bc.Instr w) : SrcsOk (fun _ => True) ins := by
  cases ins <;> simp [SrcsOk, srcOk_true]

/-- `Bc.step` on an arithmetic / copy instruction, without the pc. -/
def arith (c : Bc.Cfg w) : Bc.Instr w → Option (Bc.Cfg w)
  | .copy d s => Bc.writeLoc (Bc.readLoc c s).2 (Bc.readLoc c s).1 d
  | .add d a b => Bc.binop (· + ·) c d a b
  | .sub d a b => Bc.binop (fun x y => x + (-y)) c d a b
  | .mul d a b => Bc.binop (· * ·) c d a b
  | _ => none

def arithAll : List (Bc.Instr w × Nat) → Bc.Cfg w → Option (Bc.Cfg w)
  | [], c => some c
  | (ins, _) :: rest, c => (arith c ins).bind (arithAll rest)

/-- The selector on one arithmetic / copy instruction, with `emitInstr`'s operand-range test. -/
def emitArith (sz : Size) (live : Nat) (ins : Bc.Instr w) : Option (List X86) :=
  let r := match ins with
    | .copy d s => emitCopy sz d s
    | .add d a b => emitAdd sz live d a b
    | .sub d a b => emitSub sz live d a b
    | .mul d a b => emitMul sz live d a b
    | _ => none
  r.bind fun xs => if xs.all X86.fits then some xs else none

def srcsOf : Bc.Instr w → List (Bc.Loc w)
  | .copy _ s => [s]
  | .add _ a b | .sub _ a b | .mul _ a b => [a, b]
  | _ => []

/-- The operands of an arithmetic / copy instruction are among the operands the well-formedness check looks at. -/
theorem ops_sub (ins : Bc.Instr w) {l : Bc.Loc w} (hl : l ∈ dstOf ins :: srcsOf ins) (ha : srcsOf ins ≠ []) :
    (∀ o ∈ BcWf.locMem l, o ∈ BcWf.memOps ins) ∧ (∀ t ∈ BcWf.locTmp l, t ∈ BcWf.uses ins ++ BcWf.defs ins) := by
  cases ins <;> first | exact absurd rfl ha | skip
  all_goals
    simp only [dstOf, srcsOf, List.mem_cons, List.not_mem_nil, or_false] at hl
    simp only [BcWf.memOps, BcWf.uses, BcWf.defs, List.mem_append]
    rcases hl with rfl | rfl | rfl <;> exact ⟨fun _ h => by simp [h], fun _ h => by simp [h]⟩

def selArith (sz : Size) (live : Nat) : Bc.Instr w → Option (List X86)
  | .copy d s => emitCopy sz d s
  | .add d a b => emitAdd sz live d a b
  | .sub d a b => emitSub sz live d a b
  | .mul d a b => emitMul sz live d a b
  | _ => none

theorem arith_emits (sz : Size) (live : Nat) (ins : Bc.Instr w) :
    Emits sz (dstOf ins :: srcsOf ins) (selArith sz live ins) := by
  cases ins with
  | copy d s => exact copy_emits sz d s
  | add d a b => exact add_emits sz live d a b
  | sub d a b => exact sub_emits sz live d a b
  | mul d a b => exact mul_emits sz live d a b
  | _ => exact fun _ e => nomatch e

theorem emitArith_eq (sz : Size) (live : Nat) (ins : Bc.Instr w) : emitArith sz live ins =
    (selArith sz live ins).bind fun xs => if xs.all X86.fits then some xs else none := by
  cases ins <;> rfl

theorem emitArith_some {sz : Size} {live : Nat} {ins : Bc.Instr w} {xs : List X86}
    (h : emitArith sz live ins = some xs) : selArith sz live ins = some xs ∧ xs.all X86.fits = true := by
  rw [emitArith_eq] at h
  obtain ⟨xs', hx, hf⟩ := Option.bind_eq_some_iff.1 h
  split at hf <;> cases hf
  exact ⟨hx, ‹_›⟩

theorem emitInstrRaw_arith {sz : Size} {limited safe : Bool} {mn mx : Int} {aE aI aO i live : Nat}
    {ins : Bc.Instr w} {its : List Item} (h : emitInstrRaw sz limited safe mn mx aE aI aO i live ins = some its)
    (ha : srcsOf ins ≠ []) : ∃ xs, selArith sz live ins = some xs ∧ its = plains xs := by
  have e : emitInstrRaw sz limited safe mn mx aE aI aO i live ins = (selArith sz live ins).map plains := by
    cases ins <;> first | rfl | exact absurd rfl ha
  obtain ⟨xs, hx, rfl⟩ := Option.map_eq_some_iff.1 (e ▸ h)
  exact ⟨xs, hx, rfl⟩

def blockCode (sz : Size) : List (Bc.Instr w × Nat) → Option (List X86)
  | [] => some []
  | (ins, live) :: rest =>
    (emitArith sz live ins).bind fun xs => (blockCode sz rest).map fun ys => xs ++ ys

/-- The liveness contract along a block, starting from the set `S` of register temporaries known to
agree: operands in range, register sources in the current set; the set after an instruction is `Post`. -/
def Chain (S : Nat → Prop) : List (Bc.Instr w × Nat) → Prop
  | [] => True
  | (ins, live) :: rest => ArithOk ins ∧ SrcsOk S ins ∧ Chain (Post S live (dstOf ins)) rest

def SetAfter (S : Nat → Prop) : List (Bc.Instr w × Nat) → (Nat → Prop)
  | [] => S
  | (ins, live) :: rest => SetAfter (Post S live (dstOf ins)) rest

theorem fits_bind {r : Option (List X86)} {xs : List X86} (h : r = some xs)
    (hfit : xs.all X86.fits = true) :
    (r.bind fun xs => if xs.all X86.fits then some xs else none) = some xs := by
  subst h
  simp only [Option.bind_some, hfit, if_true]

/-- The selectors have no arm for a `memZero` operand, so reads have no effect (`readLoc_rv`, `binop_eq`) and
every arm performs `d := f a b`. -/
theorem arith_sound {sz : Size} (hsz : sz.bits = w) (S : Nat → Prop) (live : Nat) (ins : Bc.Instr w)
    (hok : ArithOk ins) (hsrc : SrcsOk S ins) {xs : List X86} (h : emitArith sz live ins = some xs)
    {c : Bc.Cfg w} {m : MState w} (hrel : RelOn S c m) {c' : Bc.Cfg w} (hc : arith c ins = some c') :
    SimOn S live (dstOf ins) c' m xs := by
  unfold emitArith at h
  simp only [Option.bind_eq_some_iff] at h
  obtain ⟨xs', hx, hf⟩ := h
  split at hf
  · rename_i hfit
    cases hf
    cases ins with
    | copy d s =>
      have hns : ∀ o, s ≠ .memZero o := by rintro o rfl; cases d <;> cases hx
      simp only [arith, readLoc_rv c hns] at hc
      exact (emitCopy_impl hsz S live c hx hok.1 hok.2 hsrc).simOn hfit hrel hc
    | add d a b =>
      have hna : ∀ o, a ≠ .memZero o := by rintro o rfl; cases d <;> cases b <;> cases hx
      have hnb : ∀ o, b ≠ .memZero o := by rintro o rfl; cases d <;> cases a <;> cases hx
      simp only [arith, binop_eq _ _ _ _ _ hna hnb] at hc
      exact (emitAdd_impl hsz S live c hx hok.1 hok.2.1 hok.2.2 hsrc.1 hsrc.2).simOn hfit hrel hc
    | sub d a b =>
      have hna : ∀ o, a ≠ .memZero o := by rintro o rfl; cases d <;> cases b <;> cases hx
      have hnb : ∀ o, b ≠ .memZero o := by rintro o rfl; cases d <;> cases a <;> cases hx
      simp only [arith, binop_eq _ _ _ _ _ hna hnb] at hc
      exact (emitSub_impl hsz S live c hx hok.1 hok.2.1 hok.2.2 hsrc.1 hsrc.2).simOn hfit hrel hc
    | mul d a b =>
      have hna : ∀ o, a ≠ .memZero o := by rintro o rfl; cases d <;> cases b <;> cases hx
      have hnb : ∀ o, b ≠ .memZero o := by rintro o rfl; cases d <;> cases a <;> cases hx
      simp only [arith, binop_eq _ _ _ _ _ hna hnb] at hc
      exact (emitMul_impl hsz S live c hx hok.1 hok.2.1 hok.2.2 hsrc.1 hsrc.2).simOn hfit hrel hc
    | _ => exact absurd hok (by simp [ArithOk])
  · cases hf

theorem step_arith (p : Bc.Program w) (lim : Bool) {c : Bc.Cfg w} {ins : Bc.Instr w}
    (hins : p.insts[c.pc]? = some ins) (hok : ArithOk ins) :
    Bc.step p lim c =
      match arith c ins with
      | some c' => .next { c' with pc := c'.pc + 1 }
      | none => .bad c := by
  cases ins with
  | copy d s => simp only [Bc.step, hins, arith]; cases Bc.writeLoc (Bc.readLoc c s).2 (Bc.readLoc c s).1 d <;> rfl
  | add d a b => simp only [Bc.step, hins, arith]; cases Bc.binop (· + ·) c d a b <;> rfl
  | sub d a b => simp only [Bc.step, hins, arith]; cases Bc.binop (fun x y => x + (-y)) c d a b <;> rfl
  | mul d a b => simp only [Bc.step, hins, arith]; cases Bc.binop (· * ·) c d a b <;> rfl
  | _ => exact absurd hok (by simp [ArithOk])

theorem emitArith_of_emitInstr {sz : Size} {limited safe : Bool} {minAcc maxAcc : Int}
    {addrExtend addrInput addrOutput i live : Nat} {ins : Bc.Instr w} (hok : ArithOk ins)
    {its : List Item}
    (h : emitInstr sz limited safe minAcc maxAcc addrExtend addrInput addrOutput i live ins = some its) :
    ∃ xs, its = plains xs ∧ emitArith sz live ins = some xs := by
  obtain ⟨hraw, hfit⟩ := emitInstr_raw h
  obtain ⟨xs, hx, rfl⟩ := emitInstrRaw_arith hraw (by
    cases ins <;> first | exact List.cons_ne_nil _ _ | exact absurd hok (by simp [ArithOk]))
  exact ⟨xs, rfl, by rw [emitArith_eq]; exact fits_bind hx ((plains_all_fits xs).symm.trans hfit)⟩

theorem sel_instr {sz : Size} (hsz : sz.bits = w) (limited safe : Bool) (minAcc maxAcc : Int)
    (addrExtend addrInput addrOutput i live : Nat) (ins : Bc.Instr w) (hok : ArithOk ins)
    {its : List Item}
    (h : emitInstr sz limited safe minAcc maxAcc addrExtend addrInput addrOutput i live ins = some its)
    (p : Bc.Program w) (lim : Bool) {c : Bc.Cfg w} (hins : p.insts[c.pc]? = some ins)
    {m : MState w} (hrel : Rel c m) {c' : Bc.Cfg w} (hstep : Bc.step p lim c = .next c') :
    ∃ xs, its = plains xs ∧ Sim live (dstOf ins) c' m xs := by
  obtain ⟨xs, rfl, hx⟩ := emitArith_of_emitInstr hok h
  rw [step_arith p lim hins hok] at hstep
  split at hstep
  next c'' hc =>
    cases hstep
    -- `Sim` does not look at the pc
    exact ⟨xs, rfl, sim_of_simOn (arith_sound hsz _ live ins hok (srcsOk_true _) hx
      ((rel_iff_relOn ..).1 hrel) (c' := c'') hc)⟩
  next => cases hstep

/-- The machine state that holds the zero-extended temporaries and the tape of `c` (other registers zero). -/
def stateOf (c : Bc.Cfg w) : MState w :=
  { regs := fun r =>
      match r with
      | .r12 => (Bc.tget c.temps 0).setWidth 64 | .r13 => (Bc.tget c.temps 1).setWidth 64
      | .r14 => (Bc.tget c.temps 2).setWidth 64 | .r15 => (Bc.tget c.temps 3).setWidth 64
      | .rsi => (Bc.tget c.temps 4).setWidth 64 | .rdi => (Bc.tget c.temps 5).setWidth 64
      | .rdx => (Bc.tget c.temps 6).setWidth 64 | .r8 => (Bc.tget c.temps 7).setWidth 64
      | .r9 => (Bc.tget c.temps 8).setWidth 64 | .r10 => (Bc.tget c.temps 9).setWidth 64
      | .r11 => (Bc.tget c.temps 10).setWidth 64
      | _ => 0
    tape := fun o => c.st.rd o
    stack := fun k => (Bc.tget c.temps k).setWidth 64
    zf := none
    cf := none }

/-- `Rel` is satisfiable for every configuration. -/
theorem rel_stateOf (hw : w ≤ 64) (c : Bc.Cfg w) : Rel c (stateOf c) := by
  refine ⟨fun t r htr => ?_, fun t _ => lo_ext hw _, fun _ => rfl⟩
  obtain ⟨ht, rfl⟩ := tmpReg_eq_some.1 htr
  have : t = 0 ∨ t = 1 ∨ t = 2 ∨ t = 3 ∨ t = 4 ∨ t = 5 ∨ t = 6 ∨ t = 7 ∨ t = 8 ∨ t = 9 ∨ t = 10 := by
    omega
  rcases this with h | h | h | h | h | h | h | h | h | h | h <;> subst h <;> exact lo_ext hw _

theorem not_sim_of_stack {live : Nat} {d : Bc.Loc w} {c' : Bc.Cfg w} {m : MState w} {xs : List X86}
    (t : Nat) (ht : 11 ≤ t) (v : BitVec w)
    (hx : (execAll xs m).map (fun m' => (lo (m'.stack t) : BitVec w)) = some v)
    (hne : Bc.tget c'.temps t ≠ v) : ¬ Sim live d c' m xs := by
  rintro ⟨m', hex, hrel, -⟩
  rw [hex] at hx
  simp only [Option.map_some, Option.some.injEq] at hx
  exact hne ((hrel.2.1 t ht).symm.trans hx)

theorem not_sim_of_dst_reg {live : Nat} {c' : Bc.Cfg w} {m : MState w} {xs : List X86}
    (t : Nat) (r : Reg) (htr : tmpReg t = some r) (v : BitVec w)
    (hx : (execAll xs m).map (fun m' => (lo (m'.regs r) : BitVec w)) = some v)
    (hne : Bc.tget c'.temps t ≠ v) : ¬ Sim live (.tmp t) c' m xs := by
  rintro ⟨m', hex, hrel, -⟩
  rw [hex] at hx
  simp only [Option.map_some, Option.some.injEq] at hx
  exact hne ((hrel.1 t r htr (Or.inr rfl)).symm.trans hx)

def cfgOf (temps : Bc.Temps w) (cells : List (Int × BitVec w)) : Bc.Cfg w :=
  { pc := 0, temps := temps, budget := 0,
    st := { tape := ⟨cells⟩, ptr := 0, env := { input := none, sink := false, outOk := none }, trace := [] } }

theorem ofBits_eq {sz : Size} : Size.ofBits? w = some sz ↔ sz.bits = w := by
  constructor
  · intro h
    unfold Size.ofBits? at h
    split at h <;> cases h <;> rfl
  · rintro rfl; cases sz <;> rfl

theorem ins_ne_nil (pre : List UInt8) (wide isb : Bool) (reg : Option Reg) (opc : List UInt8) (op : Nat)
    (rm : RegMem) (tail : List UInt8) (h : opc ≠ []) : ins pre wide isb reg opc op rm tail ≠ [] := by
  simp [ins, h]

/-- Primed: the unprimed name is that of the property in `Props/C03`, which is this lemma. -/
theorem encode_ne_nil' (x : X86) : encode x ≠ [] := by
  cases x <;> simp only [encode, encInc, encDec] <;> (repeat' split) <;>
    first
    | (apply ins_ne_nil; simp)
    | simp

end C03
end Hpbf
