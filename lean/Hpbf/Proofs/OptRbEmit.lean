/-
The emitting primitives at the level of memories.
* `EmitRes ps s s' comps`: `s'` is `s` after the groups `comps` have been taken out of `pending` and emitted
  (`gatherForEmit` + `emitStructured`): closed under composition, so the walk rules of `Along` apply
  (`emitRes_along`); `emit`, the check phase of `performAll`, `emitAll`; with them `performAll_spec`.
* `MInvX D`: the invariant modulo a set `D` of cells that are about to be overwritten, `Dead s v` (nothing
  pending for / reading `v`, `v` recorded as overwritten), `clobber_spec`, and the `havoc` lemma.
-/
import Hpbf.Proofs.OptRbTri
import Hpbf.Proofs.OptRbDfs

namespace Hpbf
namespace OptProof
open Opt OptSem

variable {w : Nat}

structure EmitRes (ps : List (Rebuild w)) (s s' : Rebuild w) (comps : List (List (Int × Expr w))) : Prop where
  wf : Wf s'
  insts : s'.insts = s.insts ++ comps.map Ir.Instr.calc
  nodup : ∀ g ∈ comps, (g.map (·.1)).Nodup
  hdr : SameHdr s s'
  noRet : s'.noReturn = s.noReturn
  subAnal : s'.subAnal = s.subAnal
  sub : ∀ k e, mGet s'.pending k = some e → mGet s.pending k = some e
  tgt : ∀ g ∈ comps, ∀ ve ∈ g, mGet s.pending ve.1 = some ve.2
  gone : ∀ k, mGet s'.pending k = none → mGet s.pending k ≠ none → ∃ g ∈ comps, k ∈ g.map (·.1)
  wr : ∀ v, (∀ g ∈ comps, v ∉ g.map (·.1)) → mGet s'.written v = mGet s.written v
  par : ∀ E : Mem w, Mem.par s.pending E = Mem.par s'.pending (Mem.seq comps E)
  writ : ∀ M0 E, WrOk s M0 E → PK s ps M0 → WrOk s' M0 (Mem.seq comps E)

theorem EmitRes.refl (ps : List (Rebuild w)) {s : Rebuild w} (h : Wf s) : EmitRes ps s s [] :=
  ⟨h, by simp, by simp, SameHdr.refl s, rfl, rfl, fun _ _ h => h, by simp,
   fun k h1 h2 => absurd h1 h2, fun _ _ => rfl, fun _ => rfl, fun _ _ h _ => h⟩

theorem EmitRes.trans {ps : List (Rebuild w)} {a b c : Rebuild w} {c1 c2 : List (List (Int × Expr w))}
    (h1 : EmitRes ps a b c1) (h2 : EmitRes ps b c c2) : EmitRes ps a c (c1 ++ c2) := by
  refine ⟨h2.wf, ?_, ?_, h1.hdr.trans h2.hdr, h2.noRet.trans h1.noRet, h2.subAnal.trans h1.subAnal,
    fun k e h => h1.sub k e (h2.sub k e h), ?_, ?_, ?_, ?_, ?_⟩
  · rw [h2.insts, h1.insts]; simp
  · intro g hg
    rcases List.mem_append.1 hg with h | h
    · exact h1.nodup g h
    · exact h2.nodup g h
  · intro g hg ve hve
    rcases List.mem_append.1 hg with h | h
    · exact h1.tgt g h ve hve
    · exact h1.sub _ _ (h2.tgt g h ve hve)
  · intro k hk hk'
    cases hb : mGet b.pending k with
    | none =>
      obtain ⟨g, hg, hkg⟩ := h1.gone k hb hk'
      exact ⟨g, List.mem_append_left _ hg, hkg⟩
    | some e =>
      obtain ⟨g, hg, hkg⟩ := h2.gone k hk (by rw [hb]; simp)
      exact ⟨g, List.mem_append_right _ hg, hkg⟩
  · intro v hv
    rw [h2.wr v (fun g hg => hv g (List.mem_append_right _ hg)),
      h1.wr v (fun g hg => hv g (List.mem_append_left _ hg))]
  · intro E
    rw [h1.par E, h2.par (Mem.seq c1 E), seq_append]
  · intro M0 E hw hk
    rw [seq_append]
    exact h2.writ M0 _ (h1.writ M0 E hw hk) (hk.congr h1.hdr)

theorem gatherEmit_res {s : Rebuild w} (ps : List (Rebuild w)) (hwf : Wf s) (var : Int) {os os' : Orders}
    {s1 : Rebuild w} {toEmit : List (List (Int × Expr w))}
    (hr : (gatherForEmit s [var]).run os = .ok ((s1, toEmit), os')) :
    EmitRes ps s (emitStructured s1 ps toEmit) toEmit ∧
    mGet (emitStructured s1 ps toEmit).pending var = none ∧
    (∀ u e, mGet (emitStructured s1 ps toEmit).pending u = some e → var ∉ Expr.variables e) := by
  obtain ⟨⟨g1, g2, g3, g6, g7, g8, g9⟩, g4, g5⟩ := gatherForEmit_spec hwf var hr
  have hnd : ∀ g ∈ toEmit, (g.map (·.1)).Nodup := fun g hg => (g6 g hg).1
  have hstruct : ∀ (M0 E : Mem w), WrOk s M0 E → PK s ps M0 →
      WrOk (emitStructured s1 ps toEmit) M0 (Mem.seq toEmit E) := fun M0 E hw hk =>
    emitStructured_writ (ps := ps) g1 (hw.of_written_eq g2.written) (hk.congr g2.hdr) toEmit hnd
  have key : (emitStructured s1 ps toEmit).insts = s1.insts ++ toEmit.map Ir.Instr.calc ∧
      SameButEmit s1 (emitStructured s1 ps toEmit) ∧ Wf (emitStructured s1 ps toEmit) ∧
      (∀ v, (∀ g ∈ toEmit, v ∉ g.map (·.1)) →
        mGet (emitStructured s1 ps toEmit).written v = mGet s1.written v) :=
    emitStructured_struct g1 ps toEmit
  obtain ⟨k1, k2, k3, k4⟩ := key
  have hpend : (emitStructured s1 ps toEmit).pending = s1.pending := k2.pending
  refine ⟨⟨k3, ?_, hnd, g2.hdr.trans k2.hdr, ?_, ?_, ?_, g7, ?_, ?_, ?_, ?_⟩, ?_, ?_⟩
  · rw [k1, g2.insts]
  · rw [k2.noReturn, g2.noReturn]
  · rw [k2.subAnal, g2.subAnal]
  · intro k e h; rw [hpend] at h; exact g3 k e h
  · intro k h; rw [hpend] at h; exact g8 k h
  · intro v hv; rw [k4 v hv, g2.written]
  · intro E; rw [hpend]; exact g9 E
  · intro M0 E hw hk; exact hstruct M0 E hw hk
  · rw [hpend]; exact g4
  · intro u e h; rw [hpend] at h; exact g5 u e h

theorem emit_res {s : Rebuild w} (ps : List (Rebuild w)) (hwf : Wf s) (var : Int) {os os' : Orders}
    {s' : Rebuild w} (hr : (emit s ps var).run os = .ok (s', os')) :
    ∃ comps, EmitRes ps s s' comps ∧ mGet s'.pending var = none := by
  unfold emit at hr
  split at hr
  · rw [run_bind_ok] at hr
    obtain ⟨⟨s1, toEmit⟩, os1, h1, h2⟩ := hr
    rw [run_pure] at h2
    cases h2
    obtain ⟨a, b, _⟩ := gatherEmit_res ps hwf var h1
    exact ⟨toEmit, a, b⟩
  · rename_i hh
    rw [run_pure] at hr
    cases hr
    exact ⟨[], EmitRes.refl ps hwf, (mHas_false_iff _ _).1 (by simpa using hh)⟩

/-- Emission steps compose: the walk rule of `Along` (`OptRbTri`) applies to them. -/
theorem emitRes_along (ps : List (Rebuild w)) :
    Along (fun s : Rebuild w => Wf s) (fun s s' => ∃ comps, EmitRes ps s s' comps) :=
  ⟨fun _ h => ⟨[], .refl ps h⟩, fun _ _ _ ⟨_, r1⟩ ⟨_, r2⟩ => ⟨_, r1.trans r2⟩, fun _ _ _ ⟨_, r⟩ => r.wf⟩

/-- A `foldlM` all of whose steps are emission steps is an emission step, and what the step for `x` establishes
about `x` still holds at the end if later emission steps keep it. -/
theorem foldlM_emitRes_post {γ : Type} (ps : List (Rebuild w)) (f : Rebuild w → γ → M (Rebuild w)) (l : List γ)
    (P : γ → Rebuild w → Prop) (hP : ∀ x s s' comps, EmitRes ps s s' comps → P x s → P x s')
    (hstep : ∀ s x os s' os', x ∈ l → Wf s → (f s x).run os = .ok (s', os') →
      ∃ comps, EmitRes ps s s' comps ∧ P x s')
    {s : Rebuild w} {os : Orders} {s' : Rebuild w} {os' : Orders} (hwf : Wf s)
    (hr : (l.foldlM f s).run os = .ok (s', os')) : ∃ comps, EmitRes ps s s' comps ∧ ∀ x ∈ l, P x s' :=
  let ⟨⟨c, r⟩, p⟩ := (emitRes_along ps).foldlM_post f l P (fun x s s' ⟨c, r⟩ => hP x s s' c r)
    (fun s x os s' os' hx hw h => let ⟨c, r, p⟩ := hstep s x os s' os' hx hw h; ⟨⟨c, r⟩, p⟩) hwf hr
  ⟨c, r, p⟩

theorem performCheck_res (ps : List (Rebuild w)) (calcs : List (Int × Expr w)) {s : Rebuild w}
    (hwf : Wf s) {os os' : Orders} {s' : Rebuild w}
    (hr : (performCheck s ps calcs).run os = .ok (s', os')) : ∃ comps, EmitRes ps s s' comps :=
  ((emitRes_along ps).tri_performCheck
    (fun _ var hwf => .ofRun fun _ _ _ hr => (emit_res ps hwf var hr).imp fun _ h => h.1) calcs hwf).post hr

theorem emitAll_pending_none (ps : List (Rebuild w)) (vars : List Int) {s : Rebuild w} (hwf : Wf s)
    {os os' : Orders} {s' : Rebuild w} (hr : (emitAll ps vars s).run os = .ok (s', os')) :
    ∃ comps, EmitRes ps s s' comps ∧ ∀ v ∈ vars, mGet s'.pending v = none :=
  foldlM_emitRes_post ps _ vars (fun v s => mGet s.pending v = none)
    (fun _ _ _ _ r h => mGet_none_of_sub r.sub h) (fun _ v _ _ _ _ hwf' h => emit_res ps hwf' v h) hwf hr

/-- An emission step preserves the invariant: the emitted groups have been executed. -/
theorem EmitRes.minv {ps : List (Rebuild w)} {s s' : Rebuild w} {comps : List (List (Int × Expr w))}
    (h : EmitRes ps s s' comps) {M0 E S : Mem w} (hi : MInv s ps M0 E S) :
    MInv s' ps M0 (Mem.seq comps E) S :=
  ⟨by rw [hi.pend, h.par E], h.writ M0 E hi.writ hi.pk, hi.pk.congr h.hdr⟩

theorem performAll_spec {s : Rebuild w} {ps : List (Rebuild w)} {shift : Int} {calcs : List (Int × Expr w)}
    (hwf : Wf s) {os os' : Orders} {s' : Rebuild w}
    (hr : (performAll s ps shift calcs).run os = .ok (s', os')) :
    ∃ comps s1, EmitRes ps s s1 comps ∧ Wf s' ∧ SameButPend s1 s' ∧
      ∀ M0 E S, MInv s ps M0 E S → MInv s' ps M0 (Mem.seq comps E) (assignS shift calcs S) := by
  rw [performAll_eq, run_bind_ok] at hr
  obtain ⟨s1, os1, h1, h2⟩ := hr
  rw [run_bind_ok] at h2
  obtain ⟨exprs, os2, h3, h4⟩ := h2
  rw [run_pure] at h4
  cases h4
  obtain ⟨comps, r⟩ := performCheck_res ps calcs hwf h1
  obtain ⟨_, hf⟩ := performEval_ok h3
  refine ⟨comps, s1, r, ?_⟩
  have hbase : ∀ M0 E S, MInv s ps M0 E S → MInv s1 ps M0 (Mem.seq comps E) S := fun M0 E S hi => r.minv hi
  refine ⟨?_, ?_, ?_⟩
  · exact (foldl_insertPending_wf r.wf ps exprs).1
  · exact (foldl_insertPending_wf r.wf ps exprs).2
  · intro M0 E S hi
    have h1' := hbase M0 E S hi
    have := (foldl_insertPending_minv r.wf h1' exprs).2.2
    rw [assignE_eq_assignS h1' hf] at this
    exact this

/-- Nothing is pending for `v`, no pending operation reads `v`, and `v` is recorded as overwritten
(`unknown` / `maybe`). -/
def Dead (s : Rebuild w) (v : Int) : Prop :=
  mGet s.pending v = none ∧ (∀ u e, mGet s.pending u = some e → v ∉ Expr.variables e) ∧
  ∃ k, mGet s.written v = some k ∧ ∀ e, k ≠ .known e

/-- The invariant, except that on the cells in `D` the source memory need not agree with
`Mem.par pending E` (their pending operations have been dropped because they are about to be overwritten). -/
structure MInvX (D : Int → Prop) (s : Rebuild w) (ps : List (Rebuild w)) (M0 E S : Mem w) : Prop where
  pendX : ∀ v, ¬ D v → S v = Mem.par s.pending E v
  writ : WrOk s M0 E
  pk : PK s ps M0

theorem MInv.toX {s : Rebuild w} {ps : List (Rebuild w)} {M0 E S : Mem w} (h : MInv s ps M0 E S)
    (D : Int → Prop) : MInvX D s ps M0 E S :=
  ⟨fun v _ => by rw [h.pend], h.writ, h.pk⟩

theorem MInvX.mono {D D' : Int → Prop} {s : Rebuild w} {ps : List (Rebuild w)} {M0 E S : Mem w}
    (h : MInvX D s ps M0 E S) (hD : ∀ v, D v → D' v) : MInvX D' s ps M0 E S :=
  ⟨fun v hv => h.pendX v (fun hd => hv (hD v hd)), h.writ, h.pk⟩

theorem MInvX.emit {D : Int → Prop} {ps : List (Rebuild w)} {s s' : Rebuild w}
    {comps : List (List (Int × Expr w))} (h : EmitRes ps s s' comps) {M0 E S : Mem w}
    (hi : MInvX D s ps M0 E S) : MInvX D s' ps M0 (Mem.seq comps E) S :=
  ⟨fun v hv => by rw [hi.pendX v hv, h.par E], h.writ M0 E hi.writ hi.pk, hi.pk.congr h.hdr⟩

theorem MInvX.removePending {D : Int → Prop} {ps : List (Rebuild w)} {s : Rebuild w} (hwf : Wf s)
    {M0 E S : Mem w} (hi : MInvX D s ps M0 E S) (var : Int) :
    MInvX (fun v => D v ∨ v = var) (removePending s var).1 ps M0 E S := by
  have hs := removePending_same s var
  refine ⟨?_, hi.writ.of_written_eq hs.written, hi.pk.congr hs.hdr⟩
  intro v hv
  have h1 : ¬ D v := fun h => hv (Or.inl h)
  have h2 : ¬ var = v := fun h => hv (Or.inr h.symm)
  rw [hi.pendX v h1]
  unfold Mem.par
  rw [removePending_get hwf, if_neg h2]

theorem MInvX.insertWritten {D : Int → Prop} {ps : List (Rebuild w)} {s : Rebuild w}
    {M0 E S : Mem w} (hi : MInvX D s ps M0 E S) (var : Int) (k : OptWrite w) (hk : ∀ e, k ≠ .known e) :
    MInvX D (insertWritten s var k) ps M0 E S := by
  have hs := insertWritten_same s var k
  refine ⟨?_, ?_, hi.pk.congr hs.hdr⟩
  · intro v hv; rw [hs.pending]; exact hi.pendX v hv
  · intro v
    rw [insertWritten_written, normW_nonknown k hk, mGet_mSet]
    by_cases hv : var = v
    · rw [if_pos hv]
      cases k with
      | known e => exact absurd rfl (hk e)
      | unknown => trivial
      | maybe => trivial
    · rw [if_neg hv]; exact hi.writ v

/-- The cells in `D` are overwritten (by the same values in both programs): the full invariant is back. -/
theorem MInvX.havoc {D : Int → Prop} {ps : List (Rebuild w)} {s : Rebuild w}
    {M0 E S : Mem w} (hi : MInvX D s ps M0 E S) (hD : ∀ v, D v → Dead s v) {E' S' : Mem w}
    (hout : ∀ v, ¬ D v → E' v = E v ∧ S' v = S v) (hin : ∀ v, D v → S' v = E' v) :
    MInv s ps M0 E' S' := by
  refine ⟨?_, ?_, hi.pk⟩
  · funext v
    by_cases hv : D v
    · rw [par_of_not_mem _ _ _ (hD v hv).1]; exact hin v hv
    · rw [(hout v hv).2, hi.pendX v hv]
      unfold Mem.par
      cases hp : mGet s.pending v with
      | none => exact (hout v hv).1.symm
      | some e =>
        simp only
        apply C01Dse.evaluate_congr
        intro x hx
        have : ¬ D x := fun hd => (hD x hd).2.1 v e hp hx
        exact ((hout x this).1).symm
  · intro v
    by_cases hv : D v
    · obtain ⟨k, hk1, hk2⟩ := (hD v hv).2.2
      rw [hk1]
      cases k with
      | known e => exact absurd rfl (hk2 e)
      | unknown => trivial
      | maybe => trivial
    · have := hi.writ v
      rw [(hout v hv).1]; exact this

theorem Dead.emit {ps : List (Rebuild w)} {s s' : Rebuild w} {comps : List (List (Int × Expr w))}
    (h : EmitRes ps s s' comps) {v : Int} (hd : Dead s v) : Dead s' v := by
  obtain ⟨d1, d2, d3⟩ := hd
  refine ⟨mGet_none_of_sub h.sub d1, fun u e hu => d2 u e (h.sub u e hu), ?_⟩
  rw [h.wr v]
  · exact d3
  · intro g hg hv
    obtain ⟨ve, hve, e⟩ := List.mem_map.1 hv
    have := h.tgt g hg ve hve
    rw [e, d1] at this; cases this

/-- What a sequence of `clobber`s (and the like) establishes. -/
structure ClobRes (ps : List (Rebuild w)) (s s' : Rebuild w) (comps : List (List (Int × Expr w))) : Prop where
  wf : Wf s'
  insts : s'.insts = s.insts ++ comps.map Ir.Instr.calc
  nodup : ∀ g ∈ comps, (g.map (·.1)).Nodup
  hdr : SameHdr s s'
  noRet : s'.noReturn = s.noReturn
  subAnal : s'.subAnal = s.subAnal
  sub : ∀ k e, mGet s'.pending k = some e → mGet s.pending k = some e
  dead : ∀ v, Dead s v → Dead s' v

theorem ClobRes.refl (ps : List (Rebuild w)) {s : Rebuild w} (h : Wf s) : ClobRes ps s s [] :=
  ⟨h, by simp, by simp, SameHdr.refl s, rfl, rfl, fun _ _ h => h, fun _ h => h⟩

theorem ClobRes.trans {ps : List (Rebuild w)} {a b c : Rebuild w} {c1 c2 : List (List (Int × Expr w))}
    (h1 : ClobRes ps a b c1) (h2 : ClobRes ps b c c2) : ClobRes ps a c (c1 ++ c2) := by
  refine ⟨h2.wf, by rw [h2.insts, h1.insts]; simp, ?_, h1.hdr.trans h2.hdr, h2.noRet.trans h1.noRet,
    h2.subAnal.trans h1.subAnal, fun k e h => h1.sub k e (h2.sub k e h), fun v h => h2.dead v (h1.dead v h)⟩
  intro g hg
  rcases List.mem_append.1 hg with h | h
  · exact h1.nodup g h
  · exact h2.nodup g h

theorem EmitRes.clobRes {ps : List (Rebuild w)} {s s' : Rebuild w} {comps : List (List (Int × Expr w))}
    (h : EmitRes ps s s' comps) : ClobRes ps s s' comps :=
  ⟨h.wf, h.insts, h.nodup, h.hdr, h.noRet, h.subAnal, h.sub, fun _ hd => Dead.emit h hd⟩

theorem clobber_spec {s : Rebuild w} (ps : List (Rebuild w)) (hwf : Wf s) (var : Int) (maybe : Bool)
    {os os' : Orders} {s' : Rebuild w} (hr : (clobber s ps var maybe).run os = .ok (s', os')) :
    ∃ comps, ClobRes ps s s' comps ∧ Dead s' var ∧
      (∀ (D : Int → Prop) M0 E S, MInvX D s ps M0 E S →
        MInvX (fun v => D v ∨ v = var) s' ps M0 (Mem.seq comps E) S) ∧
      ((maybe = true ∨ mGet s.pending var = none) →
        ∀ (D : Int → Prop) M0 E S, MInvX D s ps M0 E S → MInvX D s' ps M0 (Mem.seq comps E) S) := by
  unfold clobber at hr
  rw [run_bind_ok] at hr
  obtain ⟨⟨s2, toEmit⟩, os1, h1, h2⟩ := hr
  rw [run_pure] at h2
  cases h2
  -- the state handed to `gatherForEmit`, under a name: the case split on `maybe` is made in each fact below, not in `h1`
  have hs0 : ∃ s0, s0 = (if !maybe then (removePending s var).1 else s) := ⟨_, rfl⟩
  obtain ⟨s0, hs0e⟩ := hs0
  rw [← hs0e] at h1
  have hwf0 : Wf s0 := by
    rw [hs0e]; split
    · exact removePending_wf hwf var
    · exact hwf
  have hsame0 : SameButPend s s0 := by
    rw [hs0e]; split
    · exact removePending_same s var
    · exact SameButPend.refl s
  have hsub0 : ∀ k e, mGet s0.pending k = some e → mGet s.pending k = some e := by
    rw [hs0e]; split
    · intro k e h
      rw [removePending_get hwf] at h
      split at h
      · cases h
      · exact h
    · exact fun _ _ h => h
  have hX0 : ∀ (D : Int → Prop) M0 E S, MInvX D s ps M0 E S → MInvX (fun v => D v ∨ v = var) s0 ps M0 E S := by
    intro D M0 E S hi
    rw [hs0e]; split
    · exact hi.removePending hwf var
    · exact hi.mono (fun v h => Or.inl h)
  obtain ⟨r, hg1, hg2⟩ := gatherEmit_res ps hwf0 var h1
  have hk : ∀ e, (if maybe then OptWrite.maybe else OptWrite.unknown : OptWrite w) ≠ .known e := by
    intro e; split <;> simp
  have hiw := insertWritten_same (emitStructured s2 ps toEmit) var (if maybe then .maybe else .unknown)
  obtain ⟨i1, i2, i3, i4, i5, i6, i7, i8, i9, i10, i11⟩ := hiw
  have hdead0 : ∀ v, Dead s v → Dead s0 v := by
    intro v ⟨d1, d2, d3⟩
    refine ⟨?_, fun u e hu => d2 u e (hsub0 u e hu), by rw [hsame0.written]; exact d3⟩
    cases hp : mGet s0.pending v with
    | none => rfl
    | some e => rw [hsub0 v e hp] at d1; cases d1
  refine ⟨toEmit, ⟨insertWritten_wf r.wf _ _, ?_, r.nodup, ?_, ?_, ?_, ?_, ?_⟩, ?_, ?_, ?_⟩
  · rw [i10, r.insts, hsame0.insts]
  · exact (hsame0.hdr.trans r.hdr).trans ⟨i1, i2, i3, i4, i5⟩
  · rw [i6, r.noRet, hsame0.noReturn]
  · rw [i11, r.subAnal, hsame0.subAnal]
  · intro k e h
    rw [i8] at h
    exact hsub0 k e (r.sub k e h)
  · intro v hv
    have hd2 := Dead.emit r (hdead0 v hv)
    obtain ⟨d1, d2, d3⟩ := hd2
    refine ⟨by rw [i8]; exact d1, by rw [i8]; exact d2, ?_⟩
    rw [insertWritten_written, normW_nonknown _ hk, mGet_mSet]
    by_cases hvv : var = v
    · rw [if_pos hvv]; exact ⟨_, rfl, hk⟩
    · rw [if_neg hvv]; exact d3
  · refine ⟨by rw [i8]; exact hg1, by rw [i8]; exact hg2, ?_⟩
    rw [insertWritten_written, normW_nonknown _ hk, mGet_mSet_same]
    exact ⟨_, rfl, hk⟩
  · intro D M0 E S hi
    exact ((hX0 D M0 E S hi).emit r).insertWritten var _ hk
  · intro hkeep D M0 E S hi
    have hs0 : s0 = s := by
      rw [hs0e]
      rcases hkeep with h | h
      · rw [h]; rfl
      · cases maybe with
        | true => rfl
        | false => exact removePending_of_none h
    have hi0 : MInvX D s0 ps M0 E S := by rw [hs0]; exact hi
    exact (hi0.emit r).insertWritten var _ hk

end OptProof
end Hpbf
