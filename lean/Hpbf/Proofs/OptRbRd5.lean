/-
READ-BEFORE-WRITE footprint of `loopInsideIf` and `finishLoop`, along the whole rebuild (`rebuild_r_tri`, an instance
of `rebuild_tri`), and the result for one round, `optimizeOnce_rdOk`.  At the end `rebuildInstr_footNB`, the two-run
footprint of the code of one instruction.
-/
import Hpbf.Proofs.OptRbRd4

namespace Hpbf
namespace OptProof
open Opt OptSem Ir

variable {w : Nat}

theorem RdSt.forgetParent {s : Rebuild w} (h : RdSt s) : RdSt (forgetParent s) :=
  h.of_same rfl rfl rfl (fun _ h => h) rfl

theorem rdSt_fresh (shift : Int) (cond : Option Int) (par : OptParent) (anal : Option (OptAnalysis w)) :
    RdSt (reverseSubBlocks (Rebuild.new shift cond par anal)) := by
  obtain ⟨_, _, _, f4, _, f6, f7, _, _, f10, f11⟩ := reverseSubBlocks_fields (Rebuild.new shift cond par anal : Rebuild w)
  exact (rdSt_new _ _ _ _).of_same f10 f11 f7 (fun v hv => by rw [f6]; exact hv) f4

theorem RemPend.rstep {s a : Rebuild w} (h : RemPend s a) : RStep s a := by
  induction h with
  | refl => exact RStep.refl s
  | step k _ ih =>
    exact ih.trans (RStep.of_sameButPend (removePending_same _ k))

/-- The normal form rides along because the next operation asks for it (`performAll_rtri` … need `CanonSt`). -/
def RC (s s' : Rebuild w) : Prop := RStep s s' ∧ CStep s s'

theorem RC.trans {a b c : Rebuild w} (h1 : RC a b) (h2 : RC b c) : RC a c := ⟨h1.1.trans h2.1, h1.2.trans h2.2⟩

section
variable {ps : List (Rebuild w)}

theorem performAll_rtri {s : Rebuild w} {calcs : List (Int × Expr w)} (hwf : Wf s) (hc : CanonSt s)
    (hcalcs : CanonCalcs calcs) : Tri false (performAll s ps 0 calcs) (RC s) :=
  Tri.of nofun (fun _ _ _ hr => ⟨performAll_rstep hr hwf, performAll_canon hr hwf hc hcalcs⟩)

theorem loopOrIf_rtri {s sub : Rebuild w} {cond : Int} {isLoop : Bool} {L : OptLoop w} {C : List Int}
    (hwf : Wf s) (hc : CanonSt s) (hsub : Child sub) (hch : RdSt sub)
    (hflag : isLoop = false → L.atLeastOnce = false) : Tri false (loopOrIf s ps sub cond isLoop L C) (RC s) :=
  Tri.of nofun (fun _ _ _ hr => ⟨loopOrIf_rstep hr hwf hsub.wf hch hflag, loopOrIf_canon hr hwf hc hsub⟩)

theorem loopInsideIf_rtri {s sub : Rebuild w} {cond : Int} {L : OptLoop w} {after : List (Int × Expr w)}
    {C : List Int} (hwf : Wf s) (hc : CanonSt s) (hsub : Child sub) (hch : RdSt sub)
    (hafter : CanonCalcs after) : Tri false (loopInsideIf s ps sub cond L after C) (RC s) := by
  rw [loopInsideIf_eq]
  refine Tri.bind (P := RC s) ?_
    (fun s1 r1 => (performAll_rtri r1.2.wf r1.2.canon hafter).mono (fun _ r2 => r1.trans r2))
  unfold liiHead
  by_cases hamo : L.atMostOnce = true
  · rw [if_pos hamo]
    exact Tri.of nofun (fun _ _ _ hr => ⟨inline_rstep hr hwf hsub.wf hch, inline_canon hr hwf hc hsub⟩)
  · rw [if_neg hamo]
    split
    · exact performAll_rtri hwf hc (canonCalcs_condZero cond)
    · exact loopOrIf_rtri hwf hc hsub hch (fun h => Bool.noConfusion h)

theorem finishEnd_rtri {s : Rebuild w} {cond : Int} {L : OptLoop w} {r : MidRes w} (hwf : Wf s)
    (hc : CanonSt s) (hsub : Child r.1) (hch : RdSt r.1) (hbefore : CanonCalcs r.2.1)
    (hafter : CanonCalcs r.2.2.1) : Tri false (finishEnd s ps cond L r) (RC s) := by
  obtain ⟨sub, before, after, constant⟩ := r
  unfold finishEnd
  refine (performAll_rtri hwf hc hbefore).bind (fun s1 r1 => ?_)
  by_cases hcase : (L.atLeastOnce || (!L.atMostOnce && after.isEmpty)) = true
  · rw [if_pos hcase]
    exact (loopInsideIf_rtri r1.2.wf r1.2.canon hsub.forgetParent hch.forgetParent hafter).mono
      (fun _ r2 => r1.trans r2)
  · rw [if_neg hcase]
    have hal : L.atLeastOnce = false := by
      cases h : L.atLeastOnce with
      | false => rfl
      | true => exact absurd (by rw [h]; rfl) hcase
    refine (loopInsideIf_rtri (wf_new _ _ _ _) (canonSt_new _ _ _ _) hsub.forgetParent hch.forgetParent
      hafter).bind (fun ifS r2 => ?_)
    exact (loopOrIf_rtri r1.2.wf r1.2.canon ((child_new s1.shift (some cond) .unknown none).step r2.2)
      (r2.1.rdSt (rdSt_new _ _ _ _)) (fun _ => by simpa [OptLoop.toAtMostOnce] using hal)).mono
      (fun _ r3 => r1.trans r3)

theorem finishLoop_rtri {s sub : Rebuild w} {cond : Int} {isLoop : Bool} (hwf : Wf s) (hc : CanonSt s)
    (hsub : Child sub) (hch : RdSt sub) : Tri false (finishLoop s ps sub cond isLoop) (RC s) := by
  rw [finishLoop_cut]
  by_cases hnever : (analyzeLoop s ps sub cond isLoop).never = true
  · rw [if_pos hnever]
    exact Tri.pure ⟨RStep.refl s, CStep.refl hwf hc⟩
  · rw [if_neg hnever]
    by_cases hmv : (sub.subShift || sub.shift != s.shift) = true
    · rw [if_pos hmv]
      exact Tri.bind (P := fun x => x = (sub, [], [], [])) (Tri.pure rfl)
        (fun x hx => by subst hx; exact finishEnd_rtri hwf hc hsub hch canonCalcs_nil canonCalcs_nil)
    · rw [if_neg hmv]
      exact finishMotionK_tri (H := False) (X := RStep) false hsub.toK nofun
        (analyzeLoop_canon s ps sub cond isLoop)
        (fun _ _ _ hch _ => Tri.of nofun (fun _ _ _ hr => performAll_rstep hr hch.wf))
        (fun r _ hrem hx a b c => finishEnd_rtri hwf hc a.toChild ((hrem.rstep.trans hx).rdSt hch) b c)

end

theorem rebuild_r_tri :
    (∀ (i : Instr w) (ps : List (Rebuild w)) (s : Rebuild w), Wf s ∧ CanonSt s ∧ CanonL [i] →
      Tri false (rebuildInstr ps s i) (RC s)) ∧
    ∀ (l : List (Instr w)) (ps : List (Rebuild w)) (s : Rebuild w), Wf s ∧ CanonSt s ∧ CanonL l →
      Tri false (rebuildInsts ps s l) (fun r => RC s r.1) := by
  refine rebuild_tri (Pre := fun _ l s => Wf s ∧ CanonSt s ∧ CanonL l) (R := fun _ _ s s' => RC s s')
    (fun _ _ s h => ⟨RStep.refl s, CStep.refl h.1 h.2.1⟩) (fun _ _ _ _ _ _ _ => RC.trans)
    (fun _ _ _ _ h => ⟨h.1, h.2.1, canonL_single.2 (canonL_cons.1 h.2.2).1⟩)
    (fun _ _ _ _ _ h r => ⟨r.2.wf, r.2.canon, (canonL_cons.1 h.2.2).2⟩)
    (fun _ _ _ hb h => Tri.of nofun (fun _ _ _ hr =>
      ⟨rebuildInstr_straight_rstep h.1 hb hr, rebuildInstr_cstep hr h.1 h.2.1 h.2.2 hb⟩)) ?_ ?_
  · intro ps s i cond shift body hp h
    refine ⟨(blockChild_child s cond).wf, (blockChild_child s cond).canon, ?_⟩
    cases i <;> cases hp
    · exact canonL_loop.1 h.2.2
    · exact canonL_ifnz.1 h.2.2
  · intro ps s i cond shift body isLoop r hp h hr
    obtain ⟨sub, completed⟩ := r
    have r0 := (popSubAnal_sk (H := False) h.1 h.2.1).c
    have hpop := popSubAnal_same s
    have k0 : RStep s (popSubAnal s).1 :=
      RStep.of_same hpop.insts hpop.subAnal hpop.written (fun v hv => by rw [hpop.reads]; exact hv) hpop.subShift
    have hsh := hr.1.rdSt (rdSt_fresh _ _ _ _)
    have hsh' : RdSt (addShift (sub, completed) shift) := by
      unfold addShift
      split
      · exact hsh.of_same rfl rfl rfl (fun _ h => h) rfl
      · exact hsh
    exact (finishLoop_rtri r0.wf r0.canon (((blockChild_child s cond).step hr.2).addShift completed shift)
      hsh').mono (fun _ r1 => ⟨k0.trans r1.1, r0.trans r1.2⟩)

theorem rebuildInsts_rstep_all {ps : List (Rebuild w)} (l : List (Instr w)) {s : Rebuild w}
    {os os' : Orders} {s' : Rebuild w} {done : Bool}
    (hr : (rebuildInsts ps s l).run os = .ok ((s', done), os')) (hwf : Wf s) (hc : CanonSt s)
    (hcl : CanonL l) : RStep s s' :=
  ((rebuild_r_tri.2 l ps s ⟨hwf, hc, hcl⟩).post hr).1

theorem rebuildInstr_rstep_all {ps : List (Rebuild w)} {s : Rebuild w} (i : Instr w) {os os' : Orders}
    {s' : Rebuild w} (hr : (rebuildInstr ps s i).run os = .ok (s', os')) (hwf : Wf s) (hc : CanonSt s)
    (hci : CanonL [i]) : RStep s s' :=
  ((rebuild_r_tri.1 i ps s ⟨hwf, hc, hci⟩).post hr).1

theorem rebuildBlock_rstep {ps : List (Rebuild w)} {s : Rebuild w} {b : Block w} {os os' : Orders}
    {s' : Rebuild w} (hr : (rebuildBlock ps s b).run os = .ok (s', os')) (hwf : Wf s) (hc : CanonSt s)
    (hcl : CanonL b.insts) : RStep s s' := by
  obtain ⟨s1, done, h1, rfl⟩ := rebuildBlock_run hr
  have r0 := reverseSubBlocks_cstep hwf hc
  obtain ⟨_, _, _, f4, _, f6, f7, _, _, f10, f11⟩ := reverseSubBlocks_fields s
  have p0 : RStep s (reverseSubBlocks s) := RStep.of_same f10 f11 f7 (fun v hv => by rw [f6]; exact hv) f4
  have p1 := p0.trans (rebuildInsts_rstep_all b.insts h1 r0.wf r0.canon hcl)
  split
  · exact p1.trans (RStep.of_same rfl rfl rfl (fun _ h => h) rfl)
  · exact p1

/-- **The `reads` a round records bound what the loop bodies expose** (for every previous analysis, hence for
every round): for each emitted `loop c sh body once` whose node has `hasShift = false`, an iteration of `body`
started in a state with non-zero condition, and not reaching a `once` loop with a zero condition, does not read a
cell outside the node's `reads` before it has written it. -/
theorem optimizeOnce_rdOk {b : Block w} {prevAnal : OptAnalysis w} {os os' : Orders} {b' : Block w}
    {anal' : OptAnalysis w} (hr : (optimizeOnce b prevAnal).run os = .ok ((b', anal'), os'))
    (hcl : CanonL b.insts) : RdOkL b'.insts anal'.subBlocks := by
  obtain ⟨st, h1, rfl, rfl⟩ := optimizeOnce_run hr
  have p := rebuildBlock_rstep h1 (wf_new _ _ _ _) (canonSt_new _ _ _ _) hcl
  exact (p.rdSt (rdSt_new _ _ _ _)).ok

/-- The two-run footprint of rebuilt code for EVERY start state from which the code does not reach a `once` loop with a
zero condition: the structural pass `rebuildInstr_rstep_all` read through `OptRbFootRd.lean` — no semantic validity
needed. -/
theorem rebuildInstr_footNB {ps : List (Rebuild w)} {s : Rebuild w} (i : Instr w) {os os' : Orders}
    {s' : Rebuild w} (hr : (rebuildInstr ps s i).run os = .ok (s', os')) (hwf : Wf s) (hc : CanonSt s)
    (hci : CanonL [i]) :
    ∃ new, s'.insts = s.insts ++ new ∧ FootStepV (fun σ => ¬ Bad new σ) s s' new ∧
      FootBadV (fun σ => ¬ Bad new σ) s s' new ∧ ReadsMono s s' ∧ RdAll s s' new := by
  obtain ⟨newI, _, hi, _, _, hall⟩ := (rebuildInstr_rstep_all i hr hwf hc hci).ext
  exact ⟨newI, hi, hall.footStepV (fun _ h => h), footBadV_of_rdAll hall _ (fun _ h => h), hall.mono, hall⟩

end OptProof
end Hpbf

#print axioms Hpbf.OptProof.optimizeOnce_rdOk
#print axioms Hpbf.OptProof.loopOrIf_rstep
#print axioms Hpbf.OptProof.inline_rstep
#print axioms Hpbf.OptProof.rebuildInstr_footNB
