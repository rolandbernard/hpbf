/-
JIT range, the `shift` field (bytecode side): every `mov sh` of a program returned by `translateE` (any
register count, fusion on or off) carries the shift `sh` of a loop/if block nested in the IR (`sh ∈ shiftsL insts`;
the shift of the top-level block is never emitted).

The predicate `MovOk B x := ∀ sh, x = .mov sh → B sh` is pushed through the emission phase with `emit_allQ`
(`Proofs/C03TotalShape.lean`; the invariant also says that all shifts of the IR still to be translated satisfy `B`),
and through `dead_store_elim`, `allocate_temps`, `parameter_reordering`, `zeroing_move_detection`, `strip_noops` (none
of them creates or changes a `mov`).
-/
import Hpbf.Proofs.C11LocalPasses
import Hpbf.Proofs.C03TotalShape
import Hpbf.Proofs.ChainPhases
import Hpbf.Proofs.JitShiftIr

namespace Hpbf
namespace C03
open Bc BcWf BcGen C11 C02 C02Emit C02.AEmit C02.Alloc C02.Local OptOffs
variable {w : Nat}

def MovOk (B : Int → Prop) (x : Instr w) : Prop := ∀ sh, x = .mov sh → B sh

variable {B : Int → Prop}

theorem movOk_noop : MovOk B (.noop : Instr w) := by intro sh hh; cases hh

theorem movOk_mkArith (op : BcGen.Op) (d a b : Loc w) : MovOk B (mkArith op d a b) := by
  intro sh hh; cases op <;> cases hh

theorem shiftsL_cons {i : Ir.Instr w} {rest : List (Ir.Instr w)}
    (h : ∀ sh ∈ shiftsL (i :: rest), B sh) : (∀ sh ∈ shiftsI i, B sh) ∧ ∀ sh ∈ shiftsL rest, B sh := by
  rw [shiftsL] at h
  exact ⟨fun o ho => h o (List.mem_append_left _ ho), fun o ho => h o (List.mem_append_right _ ho)⟩

theorem emitClosed_movOk (fuse : Bool) (B : Int → Prop) :
    EmitClosed fuse (fun l : List (Ir.Instr w) => ∀ sh ∈ shiftsL l, B sh) (MovOk B) where
  tail := fun h => (shiftsL_cons h).2
  noop := fun _ e => nomatch e
  out := fun _ _ e => nomatch e
  inp := fun _ _ e => nomatch e
  expr := fun _ => ExprClosed.allQ ⟨fun _ _ _ e => (nomatch e), fun _ _ _ e => (nomatch e),
    fun _ _ _ _ e => (nomatch e), fun _ _ _ _ e => (nomatch e), fun _ _ _ _ e => (nomatch e),
    fun _ _ _ e => (nomatch e)⟩
  scan := fun _ => fun _ _ e => nomatch e
  loop := fun h => ⟨fun _ e => by cases e; exact (shiftsL_cons h).1 _ (by simp [shiftsI]), fun _ _ e => (nomatch e),
    fun _ _ e => (nomatch e), fun o ho => (shiftsL_cons h).1 o (by simp [shiftsI, ho])⟩
  ifnz := fun h => ⟨fun _ e => by cases e; exact (shiftsL_cons h).1 _ (by simp [shiftsI]), fun _ _ e => (nomatch e),
    fun o ho => (shiftsL_cons h).1 o (by simp [shiftsI, ho])⟩

theorem movOk_rwInst {repl : List (Nat × Loc w)} {cur new : Instr w} (h : rwInst repl cur = .ok new)
    (hc : MovOk B cur) : MovOk B new := by
  unfold rwInst at h
  split at h
  · split at h
    · cases h
    · cases h; intro sh hh; cases hh
  · split at h
    · split at h
      · cases h
      · split at h
        · cases h
        · cases h; exact movOk_mkArith _ _ _ _
    · cases h; exact hc

theorem movOk_setDst {x : Instr w} {t : Nat} (h : dstTmp? x = some t) (r : Nat) :
    MovOk B (setDst x (.tmp r)) := by
  cases x with
  | mov => cases h
  | _ => intro sh hh; cases hh

theorem movQ_step {s : St w} {k : Nat} {a a' : ASt w} (K : StepKind s k a a')
    (hg : AllQ (MovOk B) a.st.insts) : AllQ (MovOk B) a'.st.insts := by
  cases K with
  | other x hx hpl hq hi hr' =>
    intro j y hy
    by_cases e : j = k
    · subst e; rw [hq] at hy; cases hy; exact hg j x hx
    · exact hg j y (by rw [← hi j e]; exact hy)
  | fuse op t s0 s1 f m hx hPk hkf hPf hfa hq hf hi hnone hr' =>
    intro j y hy
    by_cases e : j = k
    · subst e; rw [hq] at hy; cases hy; exact movOk_noop
    · by_cases e' : j = f
      · subst e'
        rw [hf] at hy; cases hy
        exact movOk_mkArith _ _ _ _
      · exact hg j y (by rw [← hi j e e']; exact hy)
  | rw cur new q hx hpl hn hq hi hd =>
    have gnew : MovOk B new := movOk_rwInst hn (hg k cur hx)
    have hins : ∀ (q' : Instr w), a'.st.insts[k]? = some q' → MovOk B q' → AllQ (MovOk B) a'.st.insts := by
      intro q' hq' gq' j y hy
      by_cases e : j = k
      · subst e; rw [hq'] at hy; cases hy; exact gq'
      · exact hg j y (by rw [← hi j e]; exact hy)
    rcases hd with ⟨_, rfl, h⟩ | ⟨t, ht, _, _, ⟨rfl, h⟩ | ⟨src, rfl, _, rfl, h⟩ | ⟨r, rfl, h⟩⟩
    · exact hins _ hq gnew
    · exact hins _ hq movOk_noop
    · exact hins _ hq movOk_noop
    · exact hins _ hq (movOk_setDst ht r)

theorem movQ_allocateTemps {s s' : St w} {numRegs : Nat} (hp : AllocPre s)
    (h : allocateTemps numRegs s = .ok s') (hg : AllQ (MovOk B) s.insts) : AllQ (MovOk B) s'.insts := by
  obtain ⟨tr, T, rfl⟩ := trace_of_allocateTemps h
  exact T.induct (P := fun _ a => AllQ (MovOk B) a.st.insts) hg
    (fun k hk ih => movQ_step (trace_sum hp T hk).kind ih) _ (Nat.le_refl _)

/-- `parameter_reordering` changes arithmetic instructions only, into arithmetic instructions or copies. -/
theorem movOk_reorderInst {x : Instr w} (hx : MovOk B x) : MovOk B (reorderInst x) := by
  rcases reorderInst_cases x with e | ⟨op, d, a, b, v, rfl, e⟩ | ⟨d, a, b, rfl, e⟩ | ⟨d, a, b, rfl, e⟩ |
      ⟨d, a, c, rfl, e | e⟩ <;> rw [e]
  · exact hx
  all_goals (intro sh hh; cases hh)

theorem movOk_fuseAt {m : Int} {a a' : Instr w} (h : FuseAt m a a') (_ : MovOk B a) : MovOk B a' := by
  cases h with
  | copy d _ => intro sh hh; cases hh
  | arithB op d a _ _ => exact movOk_mkArith op _ _ _
  | arithA op d b _ _ => exact movOk_mkArith op _ _ _

theorem movOk_fixInst (A : Array (Instr w)) (i : Nat) {x : Instr w} (hx : MovOk B x) :
    MovOk B (fixInst A i x) := by
  cases x <;> first | exact hx | (intro sh hh; cases hh)

theorem latePasses_movOk (s s4 : St w) (h : LatePre s) (fuse : Bool) (h4 : latePasses fuse s = .ok s4)
    (hg : AllQ (MovOk B) s.insts) : AllQ (MovOk B) s4.insts :=
  latePasses_all h h4 (fun _ => movOk_reorderInst) movOk_noop (fun _ _ _ => movOk_fuseAt)
    (fun A i _ => movOk_fixInst A i) hg

theorem translateE_movOk {prog : Ir.Block w} {numRegs : Nat} {fuse : Bool} {p : Program w}
    (h : translateE prog numRegs fuse = .ok p) (hB : ∀ sh ∈ shiftsL prog.insts, B sh) :
    ∀ (i : Nat) (sh : Int), p.insts[i]? = some (.mov sh) → B sh := by
  obtain ⟨s1, s2, s3, s4, h1, h2, h3, h4, rfl⟩ := Chain.translateE_phases h
  obtain ⟨s2', h2', _, _, _, hT, _⟩ := deadStoreElim_preserves_of_emit h1
  rw [h2] at h2'; cases h2'
  have hpre := AEmit.allocPre_of_emit h1 h2
  have hT2 := hT (Chain.emit_targetsOk h1)
  have hlate := allocateTemps_latePre s2 s3 numRegs hpre hT2 h3
  have g1 : AllQ (MovOk B) s1.insts := emit_allQ (emitClosed_movOk fuse B) h1 hB
  have g2 := allQ_dseLike movOk_noop (deadStoreElim_dseLike h2) g1
  have g3 := movQ_allocateTemps hpre h3 g2
  have g4 := latePasses_movOk s3 s4 hlate fuse h4 g3
  intro i sh hi
  exact g4 i _ hi sh rfl

theorem translateE_mov_mem {prog : Ir.Block w} {numRegs : Nat} {fuse : Bool} {p : Program w}
    (h : translateE prog numRegs fuse = .ok p) :
    ∀ (i : Nat) (sh : Int), p.insts[i]? = some (.mov sh) → sh ∈ shiftsL prog.insts :=
  translateE_movOk (B := fun sh => sh ∈ shiftsL prog.insts) h (fun _ h => h)

end C03
end Hpbf
