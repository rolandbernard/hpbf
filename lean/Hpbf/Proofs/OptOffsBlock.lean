/-
What happens to a finished sub-block (`inline`, `loopOrIf`). `s` is the enclosing state (`Inv R g0 s`), `sub` the
state of the body, built from drift `g0 + driftL s.insts` on. `inline` appends `sub.insts` and takes over
`sub.shift`, so the drift grows by `driftL sub.insts`; `loopOrIf` appends one block with shift
`sub.shift - s.shift`. The names kept in `s` stay valid: either the body has no shift inside
(`sub.subShift = false`, then `driftL sub.insts = 0`), or everything pending in `s` has been emitted before
(`emitAll_pending_empty`) and `written` has been cleared (`uncertainShift`).
-/
import Hpbf.Proofs.OptOffsLoop
import Hpbf.Proofs.OptRbCanon4

namespace Hpbf.OptOffs
open Hpbf Opt Ir
open Hpbf.OptLoop (VarsIn mem_mSet)
open Hpbf.OptProof (Tri loopPrep loopTail clobberPhase condZero run_pure run_bind_ok)

variable {w : Nat}

abbrev Calcs (w : Nat) := List (Int × Expr w)

theorem Inv.of_eq {R g0 : Nat} {s s' : Rebuild w} (hi : Inv R g0 s) (h1 : s'.insts = s.insts)
    (h2 : s'.pending = s.pending) (h3 : s'.written = s.written) (h4 : s'.subShift = s.subShift) :
    Inv R g0 s' :=
  ⟨by rw [h1]; exact hi.insts, by rw [h1, h2]; exact hi.pend, by rw [h1, h3]; exact hi.writ,
   by rw [h2]; exact hi.sorted, by rw [h1, h4]; exact hi.flat⟩

def NoKnown (written : List (Int × OptWrite w)) : Prop := ∀ kv ∈ written, ∀ e, kv.2 ≠ .known e

theorem noKnown_nil : NoKnown ([] : List (Int × OptWrite w)) := fun _ h => by cases h

/-- Appending instructions `l`: the names kept in the state must survive the additional drift — either there
is none, or nothing is kept. -/
theorem inv_append {R g0 : Nat} {s s' : Rebuild w} (hi : Inv R g0 s) (l : List (Instr w))
    (hl : OkL R (g0 + driftL s.insts) l)
    (hcase : (s.pending = [] ∧ NoKnown s.written ∧ s.subShift = true) ∨ driftL l = 0)
    (h1 : s'.insts = s.insts ++ l) (h2 : s'.pending = s.pending) (h3 : s'.written = s.written)
    (h4 : s'.subShift = s.subShift) : Inv R g0 s' := by
  refine ⟨by rw [h1, okL_append]; exact ⟨hi.insts, hl⟩, ?_, ?_, by rw [h2]; exact hi.sorted, ?_⟩
  · rw [h1, h2, driftL_append]
    rcases hcase with ⟨e, _, _⟩ | e
    · rw [e]; exact fun kv h => by cases h
    · rw [e]; exact hi.pend
  · rw [h1, h3, driftL_append]
    rcases hcase with ⟨_, e, _⟩ | e
    · exact fun kv hkv x hx => absurd hx (e kv hkv x)
    · rw [e]; exact hi.writ
  · rw [h1, h4, driftL_append]
    rcases hcase with ⟨_, _, e⟩ | e
    · intro h; rw [e] at h; cases h
    · intro h; rw [hi.flat h, e]

theorem calcsOk_shift0 {R g : Nat} {calcs : Calcs w} (h : CalcsOk R g calcs) :
    ∀ vc ∈ calcs, NB R g (0 + vc.1) ∧ VarsIn (fun x => NB R g (x + 0)) vc.2 := by
  intro vc hvc
  obtain ⟨a, b⟩ := h vc hvc
  exact ⟨by rw [Int.zero_add]; exact a, VarsIn.imp b (fun x hx => by rw [Int.add_zero]; exact hx)⟩

theorem CalcsOk.anti {R g g' : Nat} {calcs : Calcs w} (h : CalcsOk R g' calcs) (hg : g ≤ g') :
    CalcsOk R g calcs :=
  fun vc hvc => ⟨(h vc hvc).1.anti hg, VarsIn.imp (h vc hvc).2 (fun _ hx => hx.anti hg)⟩

theorem emitStructured_empty (s : Rebuild w) (ps : List (Rebuild w)) (toEmit : List (Calcs w))
    (he : ∀ c ∈ toEmit, c = []) :
    (emitStructured s ps toEmit).written = s.written ∧ (emitStructured s ps toEmit).pending = s.pending := by
  unfold emitStructured
  refine foldl_inv (fun (s' : Rebuild w) => s'.written = s.written ∧ s'.pending = s.pending) _ toEmit ?_ ⟨rfl, rfl⟩
  intro s1 c hc h1
  rw [he c hc]
  simpa [writtenCalcs] using h1

theorem clobber_flushed {R g0 : Nat} {s : Rebuild w} (ps : List (Rebuild w)) (hi : Inv R g0 s) (var : Int)
    (maybe : Bool) (hp : s.pending = []) (hw : NoKnown s.written) {os os' : Orders} {s' : Rebuild w}
    (h : (clobber s ps var maybe).run os = .ok (s', os')) : s'.pending = [] ∧ NoKnown s'.written := by
  have hsub := (clobber_step ps hi var maybe h).sub
  rw [hp] at hsub
  refine ⟨List.eq_nil_of_sublist_nil hsub, ?_⟩
  unfold clobber at h
  rw [run_bind_ok] at h
  obtain ⟨⟨s1, toEmit⟩, os1, h1, h2⟩ := h
  obtain ⟨rfl, _⟩ := run_pure_ok h2
  have h0 : (if (!maybe) = true then (removePending s var).1 else s).pending = [] ∧
      (if (!maybe) = true then (removePending s var).1 else s).written = s.written := by
    split
    · have := removePending_pstep s var
      refine ⟨List.eq_nil_of_sublist_nil (by rw [← hp]; exact this.sub), this.written⟩
    · exact ⟨hp, rfl⟩
  obtain ⟨a, b, _⟩ := gatherForEmit_spec h1
  have hempty : ∀ c ∈ toEmit, c = [] := by
    intro c hc
    cases c with
    | nil => rfl
    | cons ve rest =>
      have := b _ hc ve List.mem_cons_self
      rw [h0.1] at this; cases this
  obtain ⟨e1, _⟩ := emitStructured_empty s1 ps toEmit hempty
  intro kv hkv e
  unfold insertWritten at hkv
  have hbase : NoKnown (emitStructured s1 ps toEmit).written := by
    rw [e1, a.written, h0.2]; exact hw
  split at hkv
  · rename_i x hx
    split at hx <;> cases hx
  · rcases mem_mSet _ _ _ _ hkv with h3 | h3
    · subst h3
      simp only
      split <;> exact fun hh => by cases hh
    · exact hbase kv h3 e

theorem clobberAll_flushed {R g0 : Nat} (ps : List (Rebuild w)) (vars : List (Int × Bool)) {s : Rebuild w}
    (hi : Inv R g0 s) (hp : s.pending = []) (hw : NoKnown s.written) {os os' : Orders} {s' : Rebuild w}
    (h : (clobberAll ps vars s).run os = .ok (s', os')) : s'.pending = [] ∧ NoKnown s'.written := by
  unfold clobberAll at h
  have := OptProof.foldlM_inv (fun s' _ => Inv R g0 s' ∧ s'.pending = [] ∧ NoKnown s'.written) _ vars ?_
    ⟨hi, hp, hw⟩ h
  · exact this.2
  · intro sa v osa sb osb _ ha hstep
    exact ⟨(clobber_step ps ha.1 v.1 v.2 hstep).inv, clobber_flushed ps ha.1 v.1 v.2 ha.2.1 ha.2.2 hstep⟩

theorem remPend_pstep {s a : Rebuild w} (h : OptProof.RemPend s a) : PStep s a := by
  induction h with
  | refl => exact PStep.refl _
  | step k _ ih => exact ih.trans (removePending_pstep _ k)

/-- With everything pending emitted, forgetting `written` keeps the invariant although inner shifts follow. -/
theorem inv_uncertainShift {R g0 : Nat} {s sa : Rebuild w} (ha : EStep R g0 s sa) (hemp : sa.pending = []) :
    Inv R g0 (uncertainShift sa) := by
  refine ⟨ha.inv.insts, ?_, fun kv h => (by cases h), ha.inv.sorted, fun h => (by cases h)⟩
  show PendOk R _ sa.pending
  rw [hemp]; exact fun kv h => by cases h

/-- Recording the constant `c` as the known value of `var`. -/
theorem insertWritten_val {R g0 : Nat} {s : Rebuild w} (hi : Inv R g0 s) (var : Int) (c : BitVec w) :
    KStep R g0 s (insertWritten s var (.known (Expr.val c))) := by
  obtain ⟨a, b, _⟩ := insertWritten_inv hi var (.known (Expr.val c)) (by
    intro e he
    simp only [OptWrite.known.injEq] at he
    subst he; exact varsIn_val _)
  exact ⟨a, b⟩

/-- `inline` after its first phase (the cut of `OptProof.inline_eq`): `s1` is `s` with reads (or, if the body moves
the pointer, everything) emitted. -/
theorem inlineRest_step {R g0 : Nat} {s s1 sub : Rebuild w} (ps : List (Rebuild w)) (i1 : Inv R g0 s1)
    (d1 : driftL s1.insts = driftL s.insts) (sh1 : s1.shift = s.shift)
    (fl1 : sub.subShift = true → s1.pending = [] ∧ NoKnown s1.written ∧ s1.subShift = true)
    (hsub : Inv R (g0 + driftL s.insts) sub) :
    Tri false (OptProof.inlineRest s1 ps sub) (fun s' =>
      Inv R g0 s' ∧ driftL s'.insts = driftL s.insts + driftL sub.insts ∧
        (s'.shift = sub.shift ∨ s'.shift = s.shift)) := by
  unfold OptProof.inlineRest
  dsimp only
  -- The stages, with the state after each: the keys certainly written by the body leave `pending` (`s1` → `hsc`);
  -- `clobberAll` on all written keys (`s2`); `sub.insts` appended (`i3`, `d3`); `writtenCalcs` of the known entries
  -- (`w4`, `d4`, `sh4`); unless the body does not return, `performAll` of the body's pending list (`s4`); `subAnal`
  -- appended (`fin`).
  have hrem := OptProof.foldl_remPend (fun (acc : Rebuild w × List (Int × Bool)) (vk : Int × OptWrite w) =>
    if vk.2.isMaybe then (acc.1, acc.2 ++ [(vk.1, true)])
    else ((removePending acc.1 vk.1).1, acc.2 ++ [(vk.1, false)]))
    (by intro acc x; split
        · exact Or.inl rfl
        · exact Or.inr ⟨_, rfl⟩) sub.written (s1, []) (OptProof.RemPend.refl s1)
  have hsc := remPend_pstep hrem
  have i2 := hsc.inv i1
  refine Tri.bind (P := fun s2 => EStep R g0 _ s2 ∧ (sub.subShift = true → s2.pending = [] ∧ NoKnown s2.written))
    ((clobberAll_tri ps _ i2).and (.ofRun (fun _ s2 _ h3 hss => by
      obtain ⟨a, b, _⟩ := fl1 hss
      exact clobberAll_flushed ps _ i2 (List.eq_nil_of_sublist_nil (by rw [← a]; exact hsc.sub))
        (by rw [hsc.written]; exact b) h3))) (fun s2 hs2 => ?_)
  obtain ⟨hcl, hfl⟩ := hs2
  have d2 : driftL s2.insts = driftL s.insts := by rw [hcl.keep.drift, hsc.insts, d1]
  have sh2 : s2.shift = s.shift := by rw [hcl.keep.shift, hsc.shift, sh1]
  have ss2 : s2.subShift = s1.subShift := by rw [hcl.keep.subShift, hsc.subShift]
  have hcase : (s2.pending = [] ∧ NoKnown s2.written ∧ s2.subShift = true) ∨ driftL sub.insts = 0 := by
    cases hss : sub.subShift with
    | true => exact Or.inl ⟨(hfl hss).1, (hfl hss).2, by rw [ss2, (fl1 hss).2.2]⟩
    | false => exact Or.inr (hsub.flat hss)
  have i3 : Inv R g0 ({ s2 with insts := s2.insts ++ sub.insts } : Rebuild w) :=
    inv_append hcl.inv sub.insts (by rw [d2]; exact hsub.insts) hcase rfl rfl rfl rfl
  have d3 : driftL ({ s2 with insts := s2.insts ++ sub.insts } : Rebuild w).insts
      = driftL s.insts + driftL sub.insts := by
    show driftL (s2.insts ++ sub.insts) = _
    rw [driftL_append, d2]
  have hk : ∀ ve ∈ OptProof.knownCalcs sub, VarsIn (NB R (g0 + driftL
      ({ s2 with insts := s2.insts ++ sub.insts } : Rebuild w).insts)) ve.2 := by
    intro ve hve
    rw [d3, ← Nat.add_assoc]
    obtain ⟨vk, hvk, e⟩ := List.mem_filterMap.1 hve
    split at e
    · rename_i ex hex
      simp only [Option.some.injEq] at e
      rw [← e]
      exact hsub.writ vk hvk ex hex
    · cases e
  have w4 := writtenCalcs_step ps i3 hk
  have d4 := w4.keep.drift.trans d3
  have sh4 := w4.keep.shift.trans sh2
  have fin : ∀ s5 : Rebuild w, (Inv R g0 s5 ∧ driftL s5.insts = driftL s.insts + driftL sub.insts ∧
      (s5.shift = sub.shift ∨ s5.shift = s.shift)) →
      Tri false (pure ({ s5 with subAnal := s5.subAnal ++ sub.subAnal } : Rebuild w) : M (Rebuild w))
        (fun s' => Inv R g0 s' ∧ driftL s'.insts = driftL s.insts + driftL sub.insts ∧
          (s'.shift = sub.shift ∨ s'.shift = s.shift)) :=
    fun s5 h5 => Tri.pure ⟨h5.1.of_eq rfl rfl rfl rfl, h5.2.1, h5.2.2⟩
  by_cases hn : sub.noReturn = true
  · rw [if_pos hn]
    exact (Tri.pure ⟨w4.inv.of_eq rfl rfl rfl rfl, d4, Or.inr sh4⟩).bind fin
  · rw [if_neg hn]
    refine (OptProof.takeInlineOrder_tri false sub.pending).bind (fun pending hmem => ?_)
    refine Tri.bind (P := KStep R g0 _)
      (performAll_tri ps w4.inv (shift := 0) (calcs := pending) (calcsOk_shift0 (by
        intro ve hve
        rw [d4, ← Nat.add_assoc]
        exact hsub.pend ve (hmem ve hve)))) (fun s4 hpa => ?_)
    exact (Tri.pure ⟨hpa.inv.of_eq rfl rfl rfl rfl, by show driftL s4.insts = _; rw [hpa.keep.drift, d4],
      Or.inl rfl⟩).bind fin

theorem inline_step {R g0 : Nat} {s sub : Rebuild w} (ps : List (Rebuild w)) (hi : Inv R g0 s)
    (hsub : Inv R (g0 + driftL s.insts) sub) {os os' : Orders} {s' : Rebuild w}
    (h : (Opt.inline s ps sub).run os = .ok (s', os')) :
    Inv R g0 s' ∧ driftL s'.insts = driftL s.insts + driftL sub.insts ∧
      (s'.shift = sub.shift ∨ s'.shift = s.shift) := by
  rw [OptProof.inline_eq] at h
  split at h
  · rename_i hss
    rw [run_bind_ok] at h
    obtain ⟨sa, osa, h3, h4⟩ := h
    rw [pure_bind] at h4
    have ha := (emitAll_tri ps _ hi).post h3
    have hemp := emitAll_pending_empty ps hi h3
    exact (inlineRest_step ps (s1 := uncertainShift sa) (inv_uncertainShift ha hemp)
      ha.keep.drift ha.keep.shift (fun _ => ⟨hemp, noKnown_nil, rfl⟩) hsub).post h4
  · rename_i hss
    rw [run_bind_ok] at h
    obtain ⟨s1, os1, h1, h2⟩ := h
    have ha := (emitReadAll_tri ps _ hi).post h1
    exact (inlineRest_step ps ha.inv ha.keep.drift ha.keep.shift (fun h => absurd h hss) hsub).post h2

theorem clobberPhase_step {R g0 : Nat} {s : Rebuild w} (ps : List (Rebuild w)) (sub : Rebuild w)
    (loopAnal : OptLoop w) (constant : List Int) (hi : Inv R g0 s) :
    Tri false (clobberPhase s ps sub loopAnal constant) (KStep R g0 s) := by
  unfold clobberPhase
  by_cases hne : (!loopAnal.noEffect) = true
  · rw [if_pos hne]
    have hrem := OptProof.foldl_remPend (fun (acc : Rebuild w × List (Int × Bool)) (vk : Int × OptWrite w) =>
      if !constant.contains vk.1 then
        if vk.2.isMaybe || !loopAnal.atLeastOnce then (acc.1, acc.2 ++ [(vk.1, true)])
        else ((removePending acc.1 vk.1).1, acc.2 ++ [(vk.1, false)])
      else acc)
      (by intro acc x
          by_cases h1 : (!constant.contains x.1) = true
          · by_cases h2 : (x.2.isMaybe || !loopAnal.atLeastOnce) = true
            · exact Or.inl (by rw [if_pos h1, if_pos h2])
            · exact Or.inr ⟨x.1, by rw [if_pos h1, if_neg h2]⟩
          · exact Or.inl (by rw [if_neg h1])) sub.written (s, []) (OptProof.RemPend.refl s)
    have e := ((remPend_pstep hrem).estep hi).kstep
    exact (clobberAll_tri ps _ e.inv).mono (fun _ h1 => e.trans h1.kstep)
  · rw [if_neg hne]
    exact Tri.pure (KStep.refl hi)

theorem condZero_step {R g0 : Nat} {s : Rebuild w} (sub : Rebuild w) (hi : Inv R g0 s) (cond : Int) :
    KStep R g0 s (condZero s sub cond) := by
  unfold condZero
  split
  · split
    · exact insertWritten_val hi cond 0#w
    · exact KStep.refl hi
  · exact KStep.refl hi

theorem loopPrep_spec {R g0 : Nat} {s : Rebuild w} (ps : List (Rebuild w)) (sub : Rebuild w) (cond : Int)
    (loopAnal : OptLoop w) (constant : List Int) (hi : Inv R g0 s) :
    Tri false (loopPrep s ps sub cond loopAnal constant) (fun r =>
      Inv R g0 r.1 ∧ driftL r.1.insts = driftL s.insts ∧ r.1.shift = s.shift ∧
      r.2.1.insts = sub.insts ∧ r.2.1.shift = sub.shift ∧
      ((sub.subShift || sub.shift != s.shift) = true →
        r.1.pending = [] ∧ NoKnown r.1.written ∧ r.1.subShift = true) ∧
      ((sub.subShift || sub.shift != s.shift) = false → r.1.subShift = s.subShift)) := by
  unfold loopPrep
  by_cases hhs : (sub.subShift || sub.shift != s.shift) = true
  · rw [if_pos hhs]
    refine Tri.bind (P := fun sa => EStep R g0 s sa ∧ sa.pending = [])
      ((emitAll_tri ps _ hi).and (.ofRun (fun _ _ _ h3 => emitAll_pending_empty ps hi h3)))
      (fun sa hsa => Tri.pure ?_)
    obtain ⟨ha, hemp⟩ := hsa
    exact ⟨inv_uncertainShift ha hemp, ha.keep.drift, ha.keep.shift, rfl, rfl, fun _ => ⟨hemp, noKnown_nil, rfl⟩,
      fun h => (by rw [hhs] at h; cases h)⟩
  · rw [if_neg hhs]
    dsimp only
    refine Tri.bind (P := KStep R g0 s) ((emitReadAll_tri ps _ hi).mono (fun _ h1 => h1.kstep)) (fun s1 e1 => ?_)
    refine Tri.bind (P := KStep R g0 s)
      ((emitReadAll_tri ps _ e1.inv).mono (fun _ h3 => e1.trans h3.kstep)) (fun s2 e2 => ?_)
    refine (clobberPhase_step ps _ loopAnal constant e2.inv).bind (fun s3 e3 => Tri.pure ?_)
    have a := (e2.trans e3).trans
      (condZero_step { sub with reads := sIns sub.reads cond } (e2.trans e3).inv cond)
    exact ⟨a.inv, a.keep.drift, a.keep.shift, rfl, rfl, fun h => absurd h hhs, fun _ => a.keep.subShift⟩

theorem loopTail_spec {R g0 : Nat} {s sub : Rebuild w} (clobbered : List Int) {cond : Int} (isLoop : Bool)
    (loopAnal : OptLoop w) (hasShift : Bool) (hi : Inv R g0 s) (hb : OkL R (g0 + driftL s.insts) sub.insts)
    (hc : NB R (g0 + driftL s.insts) cond)
    (hcase : (s.pending = [] ∧ NoKnown s.written ∧ s.subShift = true) ∨
      (driftL sub.insts = 0 ∧ sub.shift = s.shift)) :
    Inv R g0 (loopTail s sub cond isLoop loopAnal hasShift clobbered) ∧
    driftL (loopTail s sub cond isLoop loopAnal hasShift clobbered).insts
      = driftL s.insts + driftL sub.insts + (sub.shift - s.shift).natAbs ∧
    (loopTail s sub cond isLoop loopAnal hasShift clobbered).shift = s.shift := by
  refine OptProof.loopTail_ind (P := fun X => Inv R g0 X ∧
    driftL X.insts = driftL s.insts + driftL sub.insts + (sub.shift - s.shift).natAbs ∧ X.shift = s.shift)
    s sub cond isLoop loopAnal hasShift clobbered ?_ ?_ ?_ ?_
  · have hok : OkI R (g0 + driftL s.insts)
        (if isLoop then Instr.loop cond (sub.shift - s.shift) sub.insts loopAnal.atLeastOnce
         else Instr.ifnz cond (sub.shift - s.shift) sub.insts) := by
      cases isLoop
      · exact okI_ifnz.2 ⟨hc, hb⟩
      · exact okI_loop.2 ⟨hc, hb⟩
    have hd : driftI (if isLoop then Instr.loop cond (sub.shift - s.shift) sub.insts loopAnal.atLeastOnce
        else Instr.ifnz cond (sub.shift - s.shift) sub.insts)
        = driftL sub.insts + (sub.shift - s.shift).natAbs := by
      cases isLoop <;> simp [driftI]
    refine ⟨inv_append hi [_] (by rw [okL_cons]; exact ⟨hok, okL_nil _ _⟩) ?_ rfl rfl rfl rfl, ?_, rfl⟩
    · rcases hcase with h | ⟨h1, h2⟩
      · exact Or.inl h
      · right
        rw [driftL, hd, h1, h2]; simp [driftL]
    · show driftL (s.insts ++ [_]) = _
      rw [driftL_snoc, hd]; omega
  · intro X ⟨a, b, c⟩
    obtain ⟨x, y⟩ := insertWritten_val a cond 0#w
    exact ⟨x, y.drift.trans b, y.shift.trans c⟩
  · intro X ⟨a, b, c⟩
    exact ⟨a.of_eq rfl rfl rfl rfl, b, c⟩
  · intro X an ⟨a, b, c⟩
    exact ⟨a.of_eq rfl rfl rfl rfl, b, c⟩

theorem loopOrIf_step {R g0 : Nat} {s sub : Rebuild w} (ps : List (Rebuild w)) {cond : Int} (isLoop : Bool)
    (loopAnal : OptLoop w) (constant : List Int) (hi : Inv R g0 s)
    (hsub : Inv R (g0 + driftL s.insts) sub) (hc : NB R (g0 + driftL s.insts) cond)
    {os os' : Orders} {s' : Rebuild w}
    (h : (loopOrIf s ps sub cond isLoop loopAnal constant).run os = .ok (s', os')) :
    Inv R g0 s' ∧ driftL s'.insts = driftL s.insts + driftL sub.insts + (sub.shift - s.shift).natAbs ∧
      s'.shift = s.shift := by
  rw [OptProof.loopOrIf_eq, run_bind_ok] at h
  obtain ⟨sub1, os1, h1, h2⟩ := h
  rw [run_bind_ok] at h2
  obtain ⟨r, os2, h3, h4⟩ := h2
  obtain ⟨rfl, _⟩ := run_pure_ok h4
  have hs1 : EStep R (g0 + driftL s.insts) sub sub1 := by
    split at h1
    · exact (emitAll_tri [] _ hsub).post h1
    · simp only [run_pure, Except.ok.injEq, Prod.mk.injEq] at h1
      rw [← h1.1]; exact EStep.refl hsub
  obtain ⟨a, b, c, d, e, f, g⟩ := (loopPrep_spec ps sub1 cond loopAnal constant hi).post h3
  have hcase : (r.1.pending = [] ∧ NoKnown r.1.written ∧ r.1.subShift = true) ∨
      (driftL r.2.1.insts = 0 ∧ r.2.1.shift = r.1.shift) := by
    cases hhs : (sub1.subShift || sub1.shift != s.shift) with
    | true => exact Or.inl (f hhs)
    | false =>
      right
      simp only [Bool.or_eq_false_iff, bne_eq_false_iff_eq] at hhs
      rw [d, e, c]
      exact ⟨hs1.inv.flat hhs.1, hhs.2⟩
  obtain ⟨x, y, z⟩ := loopTail_spec r.2.2 isLoop loopAnal (sub1.subShift || sub1.shift != s.shift) a
    (sub := r.2.1) (cond := cond) (by rw [b, d]; exact hs1.inv.insts) (by rw [b]; exact hc) hcase
  refine ⟨x, ?_, z.trans c⟩
  rw [y, b, d, e, c, hs1.keep.drift, hs1.keep.shift]

end Hpbf.OptOffs
