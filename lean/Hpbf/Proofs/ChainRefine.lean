/-
Chain: `translate` (all phases) refines the IR: `translate_forward`, `translate_backward`,
`translate_prefix`, bundled as `translate_refines` / `translate_refines_noOnce`.

Observables.  `done`: trace, environment, pointer AND the tape (as a function) agree.  `stopped` (I/O failure):
trace, environment and pointer agree; the tape is NOT compared – `dead_store_elim` (always) and
`zeroing_move_detection` (`fuse = true`) are only `BehEqIO` (`C02.dse_stopped_tape_differs_reachable`,
`C02.zmd_stopped_tape_differs`).  Cut-off runs: the traces agree.
-/
import Hpbf.Proofs.ChainPhases
import Hpbf.Props.C02Emit

namespace Hpbf
namespace Chain

open Bc BcWf BcGen C11 C02

variable {w : Nat}

theorem obsEqIO_done_left {c : Bc.Cfg w} {o : Bc.Outcome w} (h : ObsEqIO (.done c) o) :
    ∃ c', o = .done c' ∧ StEq c.st c'.st ∧ c.budget = c'.budget := by
  cases o <;> simp only [ObsEqIO, OutRel] at h
  exact ⟨_, rfl, h.1, h.2⟩

theorem obsEqIO_stopped_left {c : Bc.Cfg w} {o : Bc.Outcome w} (h : ObsEqIO (.stopped c) o) :
    ∃ c', o = .stopped c' ∧ IoEq c.st c'.st ∧ c.budget = c'.budget := by
  cases o <;> simp only [ObsEqIO, OutRel] at h
  exact ⟨_, rfl, h.1, h.2⟩

theorem obsEqIO_trace {o1 o2 : Bc.Outcome w} (h : ObsEqIO o1 o2) :
    C07.traceOfBc o1 = C07.traceOfBc o2 := by
  cases o1 <;> cases o2 <;> simp only [ObsEqIO, OutRel] at h
  all_goals first | exact h.1.1.trace | exact h.1.trace

/-- What `Beh ObsEqIO p q` gives for the finished runs of `p` and for the traces (any mode, any budget). -/
theorem beh_transfer {p q : Bc.Program w} (h : Beh ObsEqIO p q) (l : Bool) (b : Nat) (env : Env) :
    (∀ f c, Bc.run p l b f env = .done c →
      ∃ f' c', Bc.run q l b f' env = .done c' ∧ StEq c.st c'.st ∧ c.budget = c'.budget) ∧
    (∀ f c, Bc.run p l b f env = .stopped c →
      ∃ f' c', Bc.run q l b f' env = .stopped c' ∧ IoEq c.st c'.st ∧ c.budget = c'.budget) ∧
    (∀ f, ∃ f', C07.traceOfBc (Bc.run p l b f env) = C07.traceOfBc (Bc.run q l b f' env)) := by
  refine ⟨?_, ?_, ?_⟩
  · intro f c hc
    obtain ⟨f', hf'⟩ := h l b f env
    rw [hc] at hf'
    obtain ⟨c', e, r⟩ := obsEqIO_done_left hf'
    exact ⟨f', c', e, r⟩
  · intro f c hc
    obtain ⟨f', hf'⟩ := h l b f env
    rw [hc] at hf'
    obtain ⟨c', e, r⟩ := obsEqIO_stopped_left hf'
    exact ⟨f', c', e, r⟩
  · intro f
    obtain ⟨f', hf'⟩ := h l b f env
    exact ⟨f', obsEqIO_trace hf'⟩

section Refine
variable {blk : Ir.Block w} {numRegs : Nat} {fuse : Bool} {p : Bc.Program w}

theorem translate_forward (env : Env) (hp : translateE blk numRegs fuse = .ok p) (ho : OnceOk blk env) :
    (∀ f (c : Ir.Cfg w), Ir.run blk false 0 f env = .done c →
      ∃ f' c', Bc.run p false 0 f' env = .done c' ∧ c'.st.trace = c.st.trace ∧
        (∀ i, c'.st.tape.get i = c.st.tape.get i) ∧ c'.st.ptr = c.st.ptr ∧ c'.st.env = c.st.env) ∧
    (∀ f (c : Ir.Cfg w), Ir.run blk false 0 f env = .stopped c →
      ∃ f' c', Bc.run p false 0 f' env = .stopped c' ∧ c'.st.trace = c.st.trace ∧
        c'.st.ptr = c.st.ptr ∧ c'.st.env = c.st.env) := by
  obtain ⟨p0, hp0, hB⟩ := translate_behEqIO hp
  have hE := emit_forward env hp0 ho
  have hT := beh_transfer hB.1 false 0 env
  constructor
  · intro f c hc
    obtain ⟨f0, c0, h0, t0, tp0, pt0, e0⟩ := hE.1 f c hc
    obtain ⟨f', c', h', hs, _⟩ := hT.1 f0 c0 h0
    exact ⟨f', c', h', by rw [← hs.io.trace, t0], fun i => by rw [← hs.tape i, tp0 i],
      by rw [← hs.io.ptr, pt0], by rw [← hs.io.env, e0]⟩
  · intro f c hc
    obtain ⟨f0, c0, h0, t0, _, pt0, e0⟩ := hE.2 f c hc
    obtain ⟨f', c', h', hs, _⟩ := hT.2.1 f0 c0 h0
    exact ⟨f', c', h', by rw [← hs.trace, t0], by rw [← hs.ptr, pt0], by rw [← hs.env, e0]⟩

theorem translate_backward (env : Env) (hp : translateE blk numRegs fuse = .ok p) (ho : OnceOk blk env) :
    (∀ f' (c' : Bc.Cfg w), Bc.run p false 0 f' env = .done c' →
      ∃ f c, Ir.run blk false 0 f env = .done c ∧ c.st.trace = c'.st.trace ∧
        (∀ i, c.st.tape.get i = c'.st.tape.get i) ∧ c.st.ptr = c'.st.ptr ∧ c.st.env = c'.st.env) ∧
    (∀ f' (c' : Bc.Cfg w), Bc.run p false 0 f' env = .stopped c' →
      ∃ f c, Ir.run blk false 0 f env = .stopped c ∧ c.st.trace = c'.st.trace ∧
        c.st.ptr = c'.st.ptr ∧ c.st.env = c'.st.env) := by
  obtain ⟨p0, hp0, hB⟩ := translate_behEqIO hp
  have hE := emit_backward env hp0 ho
  have hT := beh_transfer hB.2 false 0 env
  constructor
  · intro f' c' hc'
    obtain ⟨f0, c0, h0, hs, _⟩ := hT.1 f' c' hc'
    obtain ⟨f, c, h, t, tp, pt, e⟩ := hE.1 f0 c0 h0
    exact ⟨f, c, h, by rw [t, ← hs.io.trace], fun i => by rw [tp i, ← hs.tape i],
      by rw [pt, ← hs.io.ptr], by rw [e, ← hs.io.env]⟩
  · intro f' c' hc'
    obtain ⟨f0, c0, h0, hs, _⟩ := hT.2.1 f' c' hc'
    obtain ⟨f, c, h, t, _, pt, e⟩ := hE.2 f0 c0 h0
    exact ⟨f, c, h, by rw [t, ← hs.trace], by rw [pt, ← hs.ptr], by rw [e, ← hs.env]⟩

theorem translate_prefix (env : Env) (hp : translateE blk numRegs fuse = .ok p) (ho : OnceOk blk env) :
    (∀ f', ∃ f, C01.traceOf (Ir.run blk false 0 f env) = C07.traceOfBc (Bc.run p false 0 f' env)) ∧
    (∀ f, ∃ f', C07.traceOfBc (Bc.run p false 0 f' env) = C01.traceOf (Ir.run blk false 0 f env)) := by
  obtain ⟨p0, hp0, hB⟩ := translate_behEqIO hp
  have hE := emit_prefix env hp0 ho
  constructor
  · intro f'
    obtain ⟨f0, h0⟩ := (beh_transfer hB.2 false 0 env).2.2 f'
    obtain ⟨f, hf⟩ := hE.1 f0
    exact ⟨f, by rw [hf, h0]⟩
  · intro f
    obtain ⟨f0, h0⟩ := hE.2 f
    obtain ⟨f', hf'⟩ := (beh_transfer hB.1 false 0 env).2.2 f0
    exact ⟨f', by rw [← hf', h0]⟩

/-- The unlimited run of the translated program is never interrupted; and once the IR run terminates, the run of
the translated program is never `bad` (malformed bytecode), whatever the fuel.  (For IR runs that do NOT
terminate, `bad` is excluded by the contract checker: `C11.check_run_not_bad` under `BcWf.check p n = true`;
the simulation of the emission phase treats `bad` like divergence.) -/
theorem translate_never_interrupted (p : Bc.Program w) (f' : Nat) (env : Env) (c' : Bc.Cfg w) :
    Bc.run p false 0 f' env ≠ .interrupted c' := emit_never_interrupted p f' env c'

theorem translate_not_bad_of_terminates (env : Env) (hp : translateE blk numRegs fuse = .ok p)
    (ho : OnceOk blk env) {f : Nat} {c : Ir.Cfg w}
    (hc : Ir.run blk false 0 f env = .done c ∨ Ir.run blk false 0 f env = .stopped c)
    (f' : Nat) (c' : Bc.Cfg w) : Bc.run p false 0 f' env ≠ .bad c' := by
  intro hbad
  rw [emit_bc_run_unlimited] at hbad
  rcases hc with hc | hc
  · obtain ⟨f1, c1, h1, _⟩ := (translate_forward env hp ho).1 f c hc
    rw [emit_bc_run_unlimited] at h1
    have := emit_bc_run_det p false hbad h1 (by intro x; simp) (by intro x; simp)
    cases this
  · obtain ⟨f1, c1, h1, _⟩ := (translate_forward env hp ho).2 f c hc
    rw [emit_bc_run_unlimited] at h1
    have := emit_bc_run_det p false hbad h1 (by intro x; simp) (by intro x; simp)
    cases this

theorem translate_refines (env : Env) (hp : translateE blk numRegs fuse = .ok p) (ho : OnceOk blk env) :
    ((∀ f (c : Ir.Cfg w), Ir.run blk false 0 f env = .done c →
      ∃ f' c', Bc.run p false 0 f' env = .done c' ∧ c'.st.trace = c.st.trace ∧
        (∀ i, c'.st.tape.get i = c.st.tape.get i) ∧ c'.st.ptr = c.st.ptr ∧ c'.st.env = c.st.env) ∧
     (∀ f (c : Ir.Cfg w), Ir.run blk false 0 f env = .stopped c →
      ∃ f' c', Bc.run p false 0 f' env = .stopped c' ∧ c'.st.trace = c.st.trace ∧
        c'.st.ptr = c.st.ptr ∧ c'.st.env = c.st.env)) ∧
    ((∀ f' (c' : Bc.Cfg w), Bc.run p false 0 f' env = .done c' →
      ∃ f c, Ir.run blk false 0 f env = .done c ∧ c.st.trace = c'.st.trace ∧
        (∀ i, c.st.tape.get i = c'.st.tape.get i) ∧ c.st.ptr = c'.st.ptr ∧ c.st.env = c'.st.env) ∧
     (∀ f' (c' : Bc.Cfg w), Bc.run p false 0 f' env = .stopped c' →
      ∃ f c, Ir.run blk false 0 f env = .stopped c ∧ c.st.trace = c'.st.trace ∧
        c.st.ptr = c'.st.ptr ∧ c.st.env = c'.st.env)) ∧
    ((∀ f', ∃ f, C01.traceOf (Ir.run blk false 0 f env) = C07.traceOfBc (Bc.run p false 0 f' env)) ∧
     (∀ f, ∃ f', C07.traceOfBc (Bc.run p false 0 f' env) = C01.traceOf (Ir.run blk false 0 f env))) :=
  ⟨translate_forward env hp ho, translate_backward env hp ho, translate_prefix env hp ho⟩

theorem translate_refines_noOnce (env : Env) (hp : translateE blk numRegs fuse = .ok p) (hn : NoOnce blk) :
    ((∀ f (c : Ir.Cfg w), Ir.run blk false 0 f env = .done c →
      ∃ f' c', Bc.run p false 0 f' env = .done c' ∧ c'.st.trace = c.st.trace ∧
        (∀ i, c'.st.tape.get i = c.st.tape.get i) ∧ c'.st.ptr = c.st.ptr ∧ c'.st.env = c.st.env) ∧
     (∀ f (c : Ir.Cfg w), Ir.run blk false 0 f env = .stopped c →
      ∃ f' c', Bc.run p false 0 f' env = .stopped c' ∧ c'.st.trace = c.st.trace ∧
        c'.st.ptr = c.st.ptr ∧ c'.st.env = c.st.env)) ∧
    ((∀ f' (c' : Bc.Cfg w), Bc.run p false 0 f' env = .done c' →
      ∃ f c, Ir.run blk false 0 f env = .done c ∧ c.st.trace = c'.st.trace ∧
        (∀ i, c.st.tape.get i = c'.st.tape.get i) ∧ c.st.ptr = c'.st.ptr ∧ c.st.env = c'.st.env) ∧
     (∀ f' (c' : Bc.Cfg w), Bc.run p false 0 f' env = .stopped c' →
      ∃ f c, Ir.run blk false 0 f env = .stopped c ∧ c.st.trace = c'.st.trace ∧
        c.st.ptr = c'.st.ptr ∧ c.st.env = c'.st.env)) ∧
    ((∀ f', ∃ f, C01.traceOf (Ir.run blk false 0 f env) = C07.traceOfBc (Bc.run p false 0 f' env)) ∧
     (∀ f, ∃ f', C07.traceOfBc (Bc.run p false 0 f' env) = C01.traceOf (Ir.run blk false 0 f env))) :=
  translate_refines env hp (noOnce_onceOk hn env)

end Refine

end Chain
end Hpbf
