/-
`MotionData`: the static data of the loop-motion phase of `finishLoop`; `sim_at_g`: the theorem of the loop-motion
pack (`OptLoop.finishLoop_sim`) instantiated at a real head of the loop. `MAtG`: what is known when the phase is
looked at from one source state. Then: the heads of the real loop and the heads of the transformed loop
`blockInstr … (cS + shP) 0 (sub.insts ++ [calc D])` (started after `calc B`, in the coordinates of the parent
state) correspond round by round (`MJ`, `MJ.round_g`, `heads_fwd_g`, `heads_bwd_g`).
-/
import Hpbf.Proofs.OptRbMotion1

namespace Hpbf
namespace OptProof
open Opt OptSem Ir

variable {w : Nat}

structure MotionData (s : Rebuild w) (ps : List (Rebuild w)) (sub sub1 : Rebuild w) (cond : Int)
    (L : OptLoop w) (C : List Int) (B D A : List (Int × Expr w)) (os os' : Orders) : Prop where
  hC : constantsAmong s ps sub (sIns (possibleReads sub) cond ++
    (pendingSorted sub sub).filter (fun x => !(sIns (possibleReads sub) cond).contains x)) = .ok C
  hfold : (pendingSorted sub sub).foldlM
    (OptLoop.motionStepM s ps (sIns (possibleReads sub) cond) C
      (linearAmong s ps sub C (sIns (possibleReads sub) cond ++ pendingSorted sub sub))
      ((pendingSorted sub sub).filter (fun x => !C.contains x)) L) (sub, [], [], []) os
    = .ok ((sub1, B, D, A), os')
  reads : OptLoop.SAsc sub.reads
  wf : Wf sub
  canon : CanonSt sub
  canonP : CanonSt s

section Data
variable {s : Rebuild w} {ps : List (Rebuild w)} {sub sub1 : Rebuild w} {cond : Int} {L : OptLoop w}
  {C : List Int} {B D A : List (Int × Expr w)} {os os' : Orders}

theorem MotionData.allE (md : MotionData s ps sub sub1 cond L C B D A os os') :
    OptLoop.MotionAllE s ps sub (sIns (possibleReads sub) cond) C
      (linearAmong s ps sub C (sIns (possibleReads sub) cond ++ pendingSorted sub sub))
      ((pendingSorted sub sub).filter (fun x => !C.contains x)) L B D A :=
  (OptLoop.motionFold_spec_e s ps sub _ C _ _ L (pendingSorted sub sub) sub1 B D A os os'
    (OptLoop.nodup_pendingSorted sub sub md.wf.pend)
    (fun v p hp => (OptLoop.mem_pendingSorted sub sub v).2 (OptLoop.mem_mKeys_of_mGet hp)) md.hfold).2

theorem MotionData.nodup (md : MotionData s ps sub sub1 cond L C B D A os os') :
    (B.map (·.1)).Nodup ∧ (D.map (·.1)).Nodup ∧ (A.map (·.1)).Nodup :=
  OptLoop.motionFold_keys_nodup s ps sub _ C _ _ L (pendingSorted sub sub) sub1 B D A os os'
    (OptLoop.nodup_pendingSorted sub sub md.wf.pend) md.hfold

end Data

theorem memE_movNeg {shP : Int} {s : Rebuild w} {ps : List (Rebuild w)} {M0 : Mem w} {σE σS : State w}
    (h : RelAt shP s ps M0 σE σS) : memE (σS.mov (-shP)) = memS σE σS := by
  funext v
  show σS.tape.get (σS.ptr + -shP + v) = σS.tape.get (σE.ptr + v)
  rw [h.ptr]; congr 1; omega

section At
variable {Gc : State w → Prop} {shP shC shS cS : Int} {bodyS : List (Instr w)}
  {s : Rebuild w} {ps : List (Rebuild w)} {sub0 sub sub1 : Rebuild w} {σS σE : State w} {M0 : Mem w}
  {L : OptLoop w} {C : List Int} {B D A : List (Int × Expr w)} {os os' : Orders}
  (τ0 : State w)

/-- The loop-motion pack at a real head `N` (horizon `N`: only the rounds below `N` are known to complete), for the
abstract body made from the real executions: the transformed run against the real one. -/
theorem MotionData.sim_at_g (md : MotionData s ps sub sub1 (cS + shP) L C B D A os os')
    (hc : BalChild Gc shP shC shS cS bodyS s ps sub0 sub)
    (hGcH : ∀ k σk, Head cS shS bodyS σS k σk → (L.atMostOnce = true → k = 0) → σk.rd cS ≠ 0#w → Gc σk)
    (hrel : RelAt shP s ps M0 σE σS) {N : Nat} {σN : State w} (hN : Head cS shS bodyS σS N σN)
    (hamo : L.atMostOnce = true → N ≤ 1) :
    OptLoop.MotionSim sub (sIns (possibleReads sub) (cS + shP)) C L B D A (memE (σS.mov (-shP)))
      (MCtx.mk cS shS shP bodyS σS sub D τ0).absBody N := by
  obtain ⟨hb, hgb, hNI, hfr⟩ := motion_hyps_g D τ0 hc md.canon hGcH hN hamo
  have hm0 : memE (σS.mov (-shP)) = memS σE σS := memE_movNeg hrel
  refine OptLoop.finishLoop_sim md.hC md.hfold md.reads md.wf.pend md.canon.1 md.canon.2
    (fun v e he hcm => ?_) (fun i c hi => ?_) hb hgb (fun k hk Z _ h => hNI k hk _ Z h)
    (fun k hk v hv => hfr k hk _ v hv) hamo
  -- the pack's two hypotheses on the parent's `compare` / `getConstant` at the entry memory
  · rw [hm0, ← compare_sound hrel.inv md.canonP (Expr.canon_var v) he hcm]
    exact Expr.eval_var v _
  · rw [hm0]; exact getConstant_sound hrel.inv hi

end At

structure MJ (cS shS shP : Int) (bodyS : List (Instr w)) (σS : State w) (sub : Rebuild w)
    (B D : List (Int × Expr w)) (τ0 : State w) (k : Nat) (σ τ : State w) : Prop where
  hd : Head cS shS bodyS σS k σ
  hd2 : Head (cS + shP) 0 (sub.insts ++ [.calc D]) τ0 k τ
  ptr : τ.ptr = (σ.mov (-shP)).ptr
  env : τ.env = σ.env
  tr : τ.trace = σ.trace
  mem : memE τ = OptLoop.run (MCtx.mk cS shS shP bodyS σS sub D τ0).absBody D
    (Mem.par B (memE (σS.mov (-shP)))) k

/-- What is known when the loop-motion phase is looked at from one source state `σS`; the child's guard only at the
heads that are entered (for a block that runs at most once: at the first). -/
structure MAtG (Gc : State w → Prop) (shP shC shS cS : Int) (bodyS : List (Instr w)) (isLoop oS : Bool)
    (s : Rebuild w) (ps : List (Rebuild w)) (sub0 sub sub1 : Rebuild w) (L : OptLoop w) (C : List Int)
    (B D A : List (Int × Expr w)) (os os' : Orders) (M0 : Mem w) (σE σS τ0 : State w) : Prop where
  md : MotionData s ps sub sub1 (cS + shP) L C B D A os os'
  hc : BalChild Gc shP shC shS cS bodyS s ps sub0 sub
  hGcH : ∀ k σk, Head cS shS bodyS σS k σk → (L.atMostOnce = true → k = 0) → σk.rd cS ≠ 0#w → Gc σk
  hrel : RelAt shP s ps M0 σE σS
  hτ0 : τ0 = doCalc (σS.mov (-shP)) B
  facts : FactsAt isLoop cS shS bodyS oS L σS
  trip : ∀ n, Trip isLoop cS shS bodyS σS n →
    OptLoop.TripFacts L n (memE (σS.mov (-shP))) ∧ (L.atMostOnce = true → n ≤ 1) ∧
    (L.noEffect = true → n = 0)

section Corr
variable {Gc : State w → Prop} {shP shC shS cS : Int} {bodyS : List (Instr w)} {isLoop oS : Bool}
  {s : Rebuild w} {ps : List (Rebuild w)} {sub0 sub sub1 : Rebuild w} {L : OptLoop w} {C : List Int}
  {B D A : List (Int × Expr w)} {os os' : Orders} {M0 : Mem w} {σE σS τ0 : State w}

theorem MJ.init (md : MotionData s ps sub sub1 (cS + shP) L C B D A os os')
    (hτ0 : τ0 = doCalc (σS.mov (-shP)) B) : MJ cS shS shP bodyS σS sub B D τ0 0 σS τ0 := by
  obtain ⟨m1, m2, m3⟩ := C01Dse.doCalc_meta (σS.mov (-shP)) B
  refine ⟨Head.zero, Head.zero, by rw [hτ0]; exact m1, by rw [hτ0]; exact m2, by rw [hτ0]; exact m3, ?_⟩
  rw [hτ0, memE_doCalc _ _ md.nodup.1]
  rfl

variable (h : MAtG Gc shP shC shS cS bodyS isLoop oS s ps sub0 sub sub1 L C B D A os os' M0 σE σS τ0)
include h

/-- The loop-motion pack at the real head `N`. -/
theorem MAtG.motionSim {N : Nat} {σN : State w} (hN : Head cS shS bodyS σS N σN) (hamo : L.atMostOnce = true → N ≤ 1) :
    OptLoop.MotionSim sub (sIns (possibleReads sub) (cS + shP)) C L B D A (memE (σS.mov (-shP)))
      (MCtx.mk cS shS shP bodyS σS sub D τ0).absBody N :=
  h.md.sim_at_g τ0 h.hc h.hGcH h.hrel hN hamo

theorem MJ.reads_agree_g {k : Nat} {σ τ : State w}
    (hJ : MJ cS shS shP bodyS σS sub B D τ0 k σ τ) (hk : L.atMostOnce = true → k = 0)
    {r : Int} (hr : (sIns (possibleReads sub) (cS + shP)).contains r = true) :
    memE τ r = memE (σ.mov (-shP)) r := by
  rw [hJ.mem, (run_real_g D τ0 h.hc h.hGcH hJ.hd (fun ha => by have := hk ha; omega)).1]
  exact (h.motionSim hJ.hd (fun ha => by have := hk ha; omega)).reads_agree k (Nat.le_refl k) hk r hr

theorem MJ.cond_agree_g {k : Nat} {σ τ : State w}
    (hJ : MJ cS shS shP bodyS σS sub B D τ0 k σ τ) (hk : L.atMostOnce = true → k = 0) :
    τ.rd (cS + shP) = σ.rd cS := by
  have := hJ.reads_agree_g h hk (OptLoop.cond_possibleReads sub (cS + shP))
  show τ.tape.get (τ.ptr + (cS + shP)) = σ.tape.get (σ.ptr + cS)
  have e : memE τ (cS + shP) = τ.tape.get (τ.ptr + (cS + shP)) := rfl
  rw [← e, this]
  show σ.tape.get (σ.ptr + -shP + (cS + shP)) = _
  congr 1; omega

theorem MJ.round_g {k : Nat} {σ τ : State w}
    (hJ : MJ cS shS shP bodyS σS sub B D τ0 k σ τ) (hk : L.atMostOnce = true → k = 0)
    (hne : σ.rd cS ≠ 0#w) :
    Sim (fun a t => MJ cS shS shP bodyS σS sub B D τ0 (k + 1) (a.mov shS) (t.mov 0))
      bodyS (sub.insts ++ [.calc D]) σ τ := by
  have hg := h.hGcH k σ hJ.hd hk hne
  have hreads : ∀ r ∈ sub.reads, memE τ r = memE (σ.mov (-shP)) r := fun r hr =>
    hJ.reads_agree_g h hk (OptLoop.reads_possibleReads sub (cS + shP) r hr)
  have hcond := hJ.cond_agree_g h hk
  obtain ⟨hf, hfr⟩ := h.hc.mirror hg hne hJ.ptr hJ.env hJ.tr hreads
  obtain ⟨hrep, _⟩ := h.hc.rep hg hne
  have h12 := Sim.trans hrep.fin_strengthen hf.fin_strengthen
  have : Sim (fun a t => MJ cS shS shP bodyS σS sub B D τ0 (k + 1) (a.mov shS) (t.mov 0))
      (bodyS ++ []) (sub.insts ++ [.calc D]) σ τ := by
    refine Sim.append h12 ?_
    rintro a z ⟨y, ⟨⟨hr', hyp⟩, hexa, hexy⟩, hyz, _, hexz⟩
    obtain ⟨m1, m2, m3⟩ := C01Dse.doCalc_meta z D
    obtain ⟨n1, n2, n3, n4, n5⟩ := h.hc.next hr' hyp
    obtain ⟨pz, _⟩ := hfr z hexz
    refine Sim.of_atomic (atomic_calcs ([] : List (List (Int × Expr w)))) (atomic_calcs [D])
      (hyz.2.2.1.symm.trans hr'.tr.symm) rfl (m3.trans (hyz.2.2.1.symm.trans hr'.tr.symm))
      (m2.trans (hyz.2.1.symm.trans hr'.env.symm)) ?_
    intro _
    have hR : (MCtx.mk cS shS shP bodyS σS sub D τ0).RoundR k σ y := ⟨hJ.hd, hexy⟩
    have hbody : (MCtx.mk cS shS shP bodyS σS sub D τ0).absBody k (memE τ) = memE z := by
      by_cases hme : memE τ = memE (σ.mov (-shP))
      · rw [hme, MCtx.absBody_real hR]
        funext v
        apply hyz.2.2.2 v
        rintro ⟨h, _⟩
        exact h (congrFun hme v)
      · exact MCtx.absBody_T hR ⟨hJ.hd2, hexz, rfl, hJ.ptr, hJ.env, hJ.tr, hreads⟩ hme
    show MJ cS shS shP bodyS σS sub B D τ0 (k + 1) (a.mov shS) ((doCalc z D).mov 0)
    refine ⟨Head.succ hJ.hd hne hexa, ?_, ?_, ?_, ?_, ?_⟩
    · refine Head.succ hJ.hd2 (by rw [hcond]; exact hne) ?_
      exact exec_append.2 (Or.inr ⟨z, hexz, .calc (.nil _)⟩)
    · show (doCalc z D).ptr + 0 = _
      rw [m1, Int.add_zero, pz, n1]; exact hJ.ptr
    · show (doCalc z D).env = _
      rw [m2, n3]; exact hyz.2.1.symm
    · show (doCalc z D).trace = _
      rw [m3, n2]; exact hyz.2.2.1.symm
    · rw [OptLoop.run_succ]
      show memE ((doCalc z D).mov 0) = Mem.par D ((MCtx.mk cS shS shP bodyS σS sub D τ0).absBody k _)
      rw [← hJ.mem, hbody, memE_mov_zero, memE_doCalc _ _ h.md.nodup.2.1]
  rw [List.append_nil] at this
  exact this

theorem heads_fwd_g {k : Nat} {σ : State w} (hh : Head cS shS bodyS σS k σ) (hk : L.atMostOnce = true → k ≤ 1) :
    ∃ τ, MJ cS shS shP bodyS σS sub B D τ0 k σ τ :=
  heads_fwd (B := fun k => L.atMostOnce = true → k ≤ 1) (fun _ h ha => by have := h ha; omega) (MJ.init h.md h.hτ0)
    (fun _ _ _ hJ hk hne => hJ.round_g h (fun ha => by have := hk ha; omega) hne) hh hk

theorem heads_bwd_g {k : Nat} {τ : State w} (hh : Head (cS + shP) 0 (sub.insts ++ [.calc D]) τ0 k τ)
    (hk : L.atMostOnce = true → k ≤ 1) :
    ∃ σ, MJ cS shS shP bodyS σS sub B D τ0 k σ τ :=
  heads_bwd (B := fun k => L.atMostOnce = true → k ≤ 1) (fun _ h ha => by have := h ha; omega) (MJ.init h.md h.hτ0)
    (fun _ _ _ hJ hk hne =>
      have hk0 := fun ha => by have := hk ha; omega
      hJ.round_g h hk0 (by rw [← hJ.cond_agree_g h hk0]; exact hne)) hh hk

end Corr

end OptProof
end Hpbf
