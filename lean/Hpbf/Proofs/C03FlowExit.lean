/-
C03 (control flow): leaving the compiled function. `pop_all` restores any list of pushed registers (also used
for the registers saved around runtime calls); `exit_common` runs `add rsp, N; pop r15 … pop rbp; ret`; `exit_term` is
the termination label (`mov rax, 0` first: the function returns 0), `exit_normal` the fall-through exit after the last
instruction (`mov rax, 1; jmp +6`: the function returns 1), `flow_halt` is `exit_normal` from a related state.
`Returned` is what the caller sees, `Final` adds the agreement with the final bytecode configuration. The `BitVec 64`
equations about `rsp` that the files after this one use stand together before `pop_all`.
-/
import Hpbf.Proofs.C03FlowInv
import Hpbf.Proofs.C03FlowStep
namespace Hpbf
namespace C03
open Asm JitGen X86Sem X86Prog
variable {w : Nat}

theorem run_ret {cfg : Cfg} {n : Nat} {s s1 s' : PState w} (h : steps cfg n s = some s1)
    (hr : step cfg s1 = .ret s') (k : Nat) : run cfg (n + 1 + k) s = .ret s' := by
  rw [Nat.add_assoc, run_of_steps h, Nat.add_comm 1 k]
  simp [run, hr]

/-- The common end of both exits: `add rsp, N; pop r15; …; pop rbp; ret` – eight instructions, hence the fuel
`8 + k` (`k` spare) of `exit_common`, `9 + k` after the `mov rax, 0` of `exit_term` and `10 + k` after the
`mov rax, 1; jmp` of `exit_normal`. -/
def exitCode (temps : Nat) : List X86 :=
  [addImm64 (.reg .rsp) (i32 ((alignedTemps temps * 8 : Nat) : Int)),
   .pop .r15, .pop .r14, .pop .r13, .pop .r12, .pop .rbx, .pop .rbp, .ret]

theorem epilogueTail_eq (temps : Nat) : epilogueTail temps = .movRImm64 .rax 0 :: exitCode temps := rfl

/-- What the caller sees after `ret`: the callee-saved registers and the stack pointer it had. -/
structure Returned (fr : Frame) (temps : Nat) (s s' : PState w) : Prop where
  saved : ∃ ra, fr.saved = [s'.regs.r15, s'.regs.r14, s'.regs.r13, s'.regs.r12, s'.regs.rbx, s'.regs.rbp, ra]
  rsp : s'.regs.rsp = fr.rsp + BitVec.ofNat 64 (alignedTemps temps * 8) + 56
  stk : s'.stk = []
  lptr : s'.lptr = s.lptr
  tape : s'.tape = s.tape
  env : s'.env = s.env
  trace : s'.trace = s.trace
  budget : s'.budget = s.budget
  buf : s'.buf = s.buf
  size : s'.size = s.size
  base : s'.base = s.base

/-- Fields no exit instruction touches. -/
structure ExitKeep (s s' : PState w) : Prop where
  lptr : s'.lptr = s.lptr
  tape : s'.tape = s.tape
  env : s'.env = s.env
  trace : s'.trace = s.trace
  budget : s'.budget = s.budget
  buf : s'.buf = s.buf
  size : s'.size = s.size
  base : s'.base = s.base

theorem Returned.of_keep {fr : Frame} {temps : Nat} {s s1 s' : PState w} (e : ExitKeep s s1)
    (h : Returned fr temps s1 s') : Returned fr temps s s' :=
  ⟨h.saved, h.rsp, h.stk, h.lptr.trans e.lptr, h.tape.trans e.tape, h.env.trans e.env, h.trace.trans e.trace,
   h.budget.trans e.budget, h.buf.trans e.buf, h.size.trans e.size, h.base.trans e.base⟩

/-! ### Arithmetic of `rsp` -/

theorem add_ofNat_succ (a : BitVec 64) (n : Nat) :
    a + BitVec.ofNat 64 (8 * n) + 8 = a + BitVec.ofNat 64 (8 * (n + 1)) := by
  apply BitVec.eq_of_toNat_eq
  have e8 : (8 : BitVec 64).toNat = 8 := rfl
  simp only [BitVec.toNat_add, BitVec.toNat_ofNat, e8]
  omega

theorem sub_ofNat_succ (a : BitVec 64) (n : Nat) :
    a - 8 - BitVec.ofNat 64 (8 * n) = a - BitVec.ofNat 64 (8 * (n + 1)) := by
  apply BitVec.eq_of_toNat_eq
  have e8 : (8 : BitVec 64).toNat = 8 := rfl
  simp only [BitVec.toNat_sub, BitVec.toNat_ofNat, e8]
  omega

theorem align_sub {a : BitVec 64} (h : a.toNat % 16 = 0) {k : Nat} (hk : k % 2 = 0) :
    (a - BitVec.ofNat 64 (8 * k)).toNat % 16 = 0 := by
  have := a.isLt
  simp only [BitVec.toNat_sub, BitVec.toNat_ofNat]
  omega

/-- Six pushes and an odd number of slots after a call (`rsp ≡ 8 mod 16`) leave `rsp` 16-byte aligned. -/
theorem frame_align {a : BitVec 64} (h : a.toNat % 16 = 8) {t : Nat} (ht : t % 2 = 1) :
    (a - BitVec.ofNat 64 (8 * 6) - BitVec.ofNat 64 (t * 8)).toNat % 16 = 0 := by
  have := a.isLt
  simp only [BitVec.toNat_sub, BitVec.toNat_ofNat]
  omega

theorem add_sub_self (a b : BitVec 64) : a + b - a = b := by
  rw [BitVec.add_comm, BitVec.add_sub_cancel]

/-! ### The epilogue -/

/-- The stack holds `R r` for each `r` of `rs`, pushed in list order; the pops (in reverse order) give every
`r ∈ rs` the value `R r` and leave the other registers alone. -/
theorem pop_all {cfg : Cfg} (rs : List Reg) (hrs : ∀ r ∈ rs, r ≠ .rsp) (R : Reg → BitVec 64) {s : PState w}
    {stk0 : List (BitVec 64)} (hstk : s.stk = (rs.map R).reverse ++ stk0) :
    ∃ s', Blk cfg (rs.reverse.map .pop) s s' ∧ s'.stk = stk0 ∧
      (∀ r ∈ rs, s'.regs.get r = R r) ∧
      (∀ r, r ∉ rs → r ≠ .rsp → s'.regs.get r = s.regs.get r) ∧
      s'.regs.get .rsp = s.regs.get .rsp + BitVec.ofNat 64 (8 * rs.length) ∧ ExitKeep s s' ∧ s'.off = s.off ∧
      (.rbp ∉ rs → s'.tapeOk = s.tapeOk) := by
  induction rs generalizing stk0 with
  | nil => exact ⟨s, .nil s, by simpa using hstk, by simp, fun _ _ _ => rfl, by simp,
      ⟨rfl, rfl, rfl, rfl, rfl, rfl, rfl, rfl⟩, rfl, fun _ => rfl⟩
  | cons r rs ih =>
    obtain ⟨s1, b1, hstk1, hin, hout, hrsp, hk, hoff, htok⟩ := ih
      (fun r' hr' => hrs r' (List.mem_cons_of_mem _ hr')) (stk0 := R r :: stk0) (by rw [hstk]; simp)
    have hr := hrs r List.mem_cons_self
    obtain ⟨s2, b2, e2⟩ : ∃ s2, Blk cfg [.pop r] s1 s2 ∧ s2 = _ := ⟨_, .one (si_pop hr hstk1) rfl, rfl⟩
    refine ⟨s2, by simpa using b1.append b2, by rw [e2], ?_, ?_, ?_, ?_, by rw [e2]; exact hoff, ?_⟩
    all_goals rw [e2]
    · intro r' hr'
      show (RegFile.set _ r _).get r' = _
      by_cases e : r' = r
      · subst e; simp
      · rcases List.mem_cons.1 hr' with h | h
        · exact absurd h e
        · simp [e, (hrs r' hr')]; exact hin r' h
    · intro r' hr' hne
      have h1 : r' ≠ r := fun e => hr' (e ▸ List.mem_cons_self)
      show (RegFile.set _ r _).get r' = _
      simp [h1, hne]; exact hout r' (fun h => hr' (List.mem_cons_of_mem _ h)) hne
    · show (RegFile.set _ r _).get .rsp = _
      simp only [regfile_set_get, Ne.symm hr, if_false, if_true]
      rw [show s1.regs.rsp = s1.regs.get .rsp from rfl, hrsp, List.length_cons]
      exact add_ofNat_succ _ _
    · exact ⟨hk.lptr, hk.tape, hk.env, hk.trace, hk.budget, hk.buf, hk.size, hk.base⟩
    · intro hbp
      show (if r = .rbp then false else s1.tapeOk) = _
      rw [if_neg (fun e : r = .rbp => hbp (e ▸ List.mem_cons_self))]
      exact htok (fun h => hbp (List.mem_cons_of_mem _ h))

theorem exit_common {cfg : Cfg} {code : List X86} {temps : Nat} (htemps : alignedTemps temps * 8 < 2147483648)
    {fr : Frame} {s : PState w} (hat : At cfg code s.pc (exitCode temps))
    (hrsp : s.regs.rsp = fr.rsp) (hlen : s.stk.length = alignedTemps temps + fr.saved.length)
    (hsaved : s.stk.drop (alignedTemps temps) = fr.saved) (h7 : fr.saved.length = 7) (k : Nat) :
    ∃ s', run cfg (8 + k) s = .ret s' ∧ s'.regs.rax = s.regs.rax ∧ Returned fr temps s s' := by
  have hN : i32 ((alignedTemps temps * 8 : Nat) : Int) = ((alignedTemps temps * 8 : Nat) : Int) :=
    i32_nat (by omega)
  obtain ⟨a, b, c, d, e, f, g, hs⟩ : ∃ a b c d e f g, fr.saved = [a, b, c, d, e, f, g] := by
    match hfs : fr.saved, h7 with
    | [a, b, c, d, e, f, g], _ => exact ⟨a, b, c, d, e, f, g, rfl⟩
  unfold exitCode at hat
  rw [hN] at hat
  have hdiv : (((alignedTemps temps * 8 : Nat) : Int) / 8).toNat = alignedTemps temps := by omega
  -- add rsp, N
  have h1 := si_addRsp (cfg := cfg) (s := s) (imm := ((alignedTemps temps * 8 : Nat) : Int)) (by omega) (by omega)
    (by omega) (by rw [hdiv, hlen]; omega)
  rw [hdiv, hsaved, hs] at h1
  obtain ⟨s1, hs1, e1⟩ : ∃ s1, stepInstr cfg _ s = .next s1 ∧ s1 = _ := ⟨_, h1, rfl⟩
  -- the six pops
  obtain ⟨s7, b7, hstk7, hin, hout, hrsp7, hk, -, -⟩ := pop_all (cfg := cfg) [.rbp, .rbx, .r12, .r13, .r14, .r15]
    (by decide) (fun r => match r with | .r15 => a | .r14 => b | .r13 => c | .r12 => d | .rbx => e | _ => f)
    (s := s1) (stk0 := [g]) (by rw [e1]; rfl)
  obtain ⟨hst, hat7⟩ := (Blk.cons hs1 (by rw [e1]) b7).steps (rest := [.ret]) hat
  have hret := (step_at hat7).trans (si_ret hstk7)
  have k1 : ExitKeep s s1 := by rw [e1]; exact ⟨rfl, rfl, rfl, rfl, rfl, rfl, rfl, rfl⟩
  have r1 : ∀ r, r ≠ .rsp → s1.regs.get r = s.regs.get r := by intro r hr; rw [e1]; simp [hr]
  have get7 : ∀ r, r ≠ .rsp → (s7.regs.set .rsp (s7.regs.rsp + 8)).get r = s7.regs.get r := by
    intro r hr; simp [hr]
  refine ⟨_, run_ret hst hret k, ?_, Returned.of_keep k1 ⟨⟨g, ?_⟩, ?_, rfl, hk.lptr, hk.tape, hk.env, hk.trace,
    hk.budget, hk.buf, hk.size, hk.base⟩⟩
  · show (s7.regs.set .rsp (s7.regs.rsp + 8)).get .rax = s.regs.get .rax
    rw [get7 _ (by decide), hout _ (by decide) (by decide), r1 _ (by decide)]
  · rw [hs]
    show _ = [(s7.regs.set .rsp (s7.regs.rsp + 8)).get .r15, (s7.regs.set .rsp (s7.regs.rsp + 8)).get .r14,
      (s7.regs.set .rsp (s7.regs.rsp + 8)).get .r13, (s7.regs.set .rsp (s7.regs.rsp + 8)).get .r12,
      (s7.regs.set .rsp (s7.regs.rsp + 8)).get .rbx, (s7.regs.set .rsp (s7.regs.rsp + 8)).get .rbp, g]
    rw [get7 _ (by decide), get7 _ (by decide), get7 _ (by decide), get7 _ (by decide), get7 _ (by decide),
      get7 _ (by decide), hin _ (by decide), hin _ (by decide), hin _ (by decide), hin _ (by decide),
      hin _ (by decide), hin _ (by decide)]
  · show (s7.regs.set .rsp (s7.regs.rsp + 8)).get .rsp = _
    rw [regfile_set_get, if_pos rfl, show s7.regs.rsp = s7.regs.get .rsp from rfl, hrsp7, e1]
    show s.regs.rsp + immVal _ + _ + 8 = _
    rw [hrsp, immVal, BitVec.ofInt_natCast]
    simp only [BitVec.add_assoc]
    congr 1

/-- The termination path: `mov rax, 0` and the common end. The function returns 0. -/
theorem exit_term (K : Ctx w) (htemps : alignedTemps K.p.temps * 8 < 2147483648)
    {fr : Frame} {s : PState w} (hF : Framed K fr s) (hpc : s.pc = K.term) (h7 : fr.saved.length = 7) (k : Nat) :
    ∃ s', run K.cfg (9 + k) s = .ret s' ∧ s'.regs.rax = 0 ∧ Returned fr K.p.temps s s' := by
  have hat : At K.cfg K.code s.pc ([.movRImm64 .rax 0] ++ exitCode K.p.temps) := by
    rw [hpc]; exact K.at_term
  obtain ⟨s1, b1, e1⟩ : ∃ s1, Blk K.cfg [.movRImm64 .rax 0] s s1 ∧ s1 = _ :=
    ⟨_, .one (si_movImm (by decide) (by decide)) rfl, rfl⟩
  obtain ⟨hst, hat1⟩ := b1.steps hat
  obtain ⟨s', hrun, hrax, hret⟩ := exit_common (fr := fr) htemps hat1 (by rw [e1]; exact hF.rsp)
    (by rw [e1]; exact hF.len) (by rw [e1]; exact hF.saved) h7 k
  refine ⟨s', ?_, ?_, ?_⟩
  · rw [show 9 + k = 1 + (8 + k) by omega]; exact (run_of_steps hst (8 + k)).trans hrun
  · rw [hrax, e1]; exact immVal_zero
  · exact hret.of_keep (by rw [e1]; exact ⟨rfl, rfl, rfl, rfl, rfl, rfl, rfl, rfl⟩)

/-- The normal exit: `mov rax, 1; jmp +6` and the common end. The function returns 1. -/
theorem exit_normal (K : Ctx w) (htemps : alignedTemps K.p.temps * 8 < 2147483648)
    {fr : Frame} {s : PState w} (hF : Framed K fr s) (hpc : s.pc = K.loc K.n) (h7 : fr.saved.length = 7) (k : Nat) :
    ∃ s', run K.cfg (10 + k) s = .ret s' ∧ s'.regs.rax = 1 ∧ Returned fr K.p.temps s s' := by
  have hat : At K.cfg K.code s.pc ([.movRImm64 .rax 1] ++ .jmpRel8 6 :: ([.movRImm64 .rax 0] ++ exitCode K.p.temps)) := by
    have hat0 := K.at_end
    rw [epilogueHead_eq, epilogueTail_eq] at hat0
    rw [hpc]; exact hat0
  obtain ⟨s1, b1, e1⟩ : ∃ s1, Blk K.cfg [.movRImm64 .rax 1] s s1 ∧ s1 = _ :=
    ⟨_, .one (si_movImm (by decide) (by decide)) rfl, rfl⟩
  -- the jump skips the `mov rax, 0` of the termination path
  obtain ⟨s2, hs2, e2⟩ : ∃ s2, stepInstr K.cfg (.jmpRel8 6) s1 = .next s2 ∧ s2 = _ :=
    ⟨_, si_jmp8 (t := s1.pc + 2 + 6) (by decide) (by push_cast; omega), rfl⟩
  have hst := b1.step_after hat hs2
  have hat2 : At K.cfg K.code s2.pc (exitCode K.p.temps) := by
    have := ((b1.steps hat).2.tail).drop
    rw [e2]; exact this
  obtain ⟨s', hrun, hrax, hret⟩ := exit_common (fr := fr) htemps hat2 (by rw [e2, e1]; exact hF.rsp)
    (by rw [e2, e1]; exact hF.len) (by rw [e2, e1]; exact hF.saved) h7 k
  refine ⟨s', ?_, ?_, ?_⟩
  · rw [show 10 + k = 1 + 1 + (8 + k) by omega]; exact (run_of_steps hst (8 + k)).trans hrun
  · rw [hrax, e2, e1]
    show (s.regs.set .rax (immVal 1)).get .rax = 1
    rw [regfile_set_get, if_pos rfl]; decide
  · exact hret.of_keep (by rw [e2, e1]; exact ⟨rfl, rfl, rfl, rfl, rfl, rfl, rfl, rfl⟩)

/-- The function has returned; what the caller and the environment see, against the final bytecode
configuration. -/
structure Final (fr : Frame) (temps : Nat) (c' : Bc.Cfg w) (s' : PState w) : Prop where
  saved : ∃ ra, fr.saved = [s'.regs.r15, s'.regs.r14, s'.regs.r13, s'.regs.r12, s'.regs.rbx, s'.regs.rbp, ra]
  rsp : s'.regs.rsp = fr.rsp + BitVec.ofNat 64 (alignedTemps temps * 8) + 56
  stk : s'.stk = []
  env : s'.env = c'.st.env
  trace : s'.trace = c'.st.trace
  tape : ∀ o, s'.tape.get (s'.lptr + o) = c'.st.rd o

theorem Final.of_returned {fr : Frame} {temps : Nat} {c' : Bc.Cfg w} {sB s' : PState w}
    (h : Returned fr temps sB s') (henv : sB.env = c'.st.env) (htr : sB.trace = c'.st.trace)
    (htape : ∀ o, sB.tape.get (sB.lptr + o) = c'.st.rd o) : Final fr temps c' s' :=
  ⟨h.saved, h.rsp, h.stk, h.env.trans henv, h.trace.trans htr, fun o => by rw [h.tape, h.lptr]; exact htape o⟩

theorem Final.congr {fr : Frame} {temps : Nat} {c c2 : Bc.Cfg w} {s' : PState w} (h : c.st = c2.st)
    (r : Final fr temps c2 s') : Final fr temps c s' :=
  ⟨r.saved, r.rsp, r.stk, by rw [h]; exact r.env, by rw [h]; exact r.trace, fun o => by rw [h]; exact r.tape o⟩

theorem flow_halt (K : Ctx w) (htemps : alignedTemps K.p.temps * 8 < 2147483648)
    {fr : Frame} (h7 : fr.saved.length = 7) {c : Bc.Cfg w} {s : PState w}
    (hpc : c.pc = K.n) (hinv : Inv K fr c s) (hrel : Rel c (view s)) (k : Nat) :
    ∃ s', run K.cfg (10 + k) s = .ret s' ∧ s'.regs.rax = 1 ∧ Final fr K.p.temps c s' ∧
      s'.budget = s.budget := by
  obtain ⟨s', hrun, hrax, hret⟩ := exit_normal K htemps hinv.framed (by rw [hinv.pc, hpc]) h7 k
  refine ⟨s', hrun, hrax, Final.of_returned hret hinv.env hinv.trace (fun o => hrel.2.2 o), hret.budget⟩

end C03
end Hpbf
