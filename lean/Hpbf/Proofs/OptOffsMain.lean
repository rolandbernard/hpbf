/-
`optimize` keeps the bound. The induction over the input of `rebuild_block`: the state `s` (with `Inv R g0 s`) is
rebuilding an input list `l` whose mentions respect the bound from INPUT drift `gi` (`OkL R gi l`). The link
between the two drifts is the slack `g0 + driftL s.insts + W ≤ gi` with `|s.shift| ≤ W`: the output is behind the
input by at least the shift absorbed so far. An input offset `o` becomes the name `o + s.shift`, and
`g_out + |o + s.shift| ≤ g_out + W + |o| ≤ gi + |o| ≤ R`.
-/
import Hpbf.Proofs.OptOffsFinish
import Hpbf.Proofs.C01DseStruct
import Hpbf.Proofs.OptRounds
import Hpbf.Proofs.OptRbRec

namespace Hpbf.OptOffs
open Hpbf Opt Ir
open Hpbf.OptLoop (VarsIn varsIn_iff)
open Hpbf.OptProof (run_pure run_bind_ok)

variable {w : Nat}

theorem nb_shift {R g W gi : Nat} {o σ : Int} (ho : NB R gi o) (hσ : σ.natAbs ≤ W) (hg : g + W ≤ gi) :
    NB R g (o + σ) := by
  have := Int.natAbs_add_le o σ
  unfold NB at ho ⊢
  omega

theorem slack_keep {g0 W gi : Nat} {s s' : Rebuild w} (hg : g0 + driftL s.insts + W ≤ gi)
    (hd : driftL s'.insts = driftL s.insts) (hs : s'.shift = s.shift) (d : Nat) :
    g0 + driftL s'.insts + W + (s'.shift - s.shift).natAbs ≤ gi + d := by
  rw [hd, hs, Int.sub_self]
  exact Nat.le_add_right_of_le hg

theorem shift_le_slack {W : Nat} {σ σ1 : Int} (hW : σ.natAbs ≤ W) : σ1.natAbs ≤ W + (σ1 - σ).natAbs := by
  have e : σ1 = σ + (σ1 - σ) := by omega
  have t := Int.natAbs_add_le σ (σ1 - σ)
  rw [← e] at t
  omega

theorem slack_trans {g W n : Nat} {σ σ1 σ' : Int}
    (h : g + (W + (σ1 - σ).natAbs) + (σ' - σ1).natAbs ≤ n) : g + W + (σ' - σ).natAbs ≤ n := by
  have e : σ' - σ = (σ' - σ1) + (σ1 - σ) := by omega
  have t := Int.natAbs_add_le (σ' - σ1) (σ1 - σ)
  rw [← e] at t
  omega

theorem inv_push {R g0 : Nat} {s s' : Rebuild w} (hi : Inv R g0 s) (i : Instr w)
    (hok : OkI R (g0 + driftL s.insts) i) (hd : driftI i = 0)
    (h1 : s'.insts = s.insts ++ [i]) (h2 : s'.pending = s.pending) (h3 : s'.written = s.written)
    (h4 : s'.subShift = s.subShift) : Inv R g0 s' ∧ driftL s'.insts = driftL s.insts := by
  refine ⟨inv_append hi [i] (by rw [okL_cons]; exact ⟨hok, okL_nil _ _⟩) (Or.inr ?_) h1 h2 h3 h4, ?_⟩
  · simp [driftL, hd]
  · rw [h1, driftL_snoc, hd]; rfl

theorem retargetOutput_nb {R g0 : Nat} {s : Rebuild w} (hi : Inv R g0 s) {var src : Int}
    (hv : NB R (g0 + driftL s.insts) var) (h : retargetOutput s var = some src) :
    NB R (g0 + driftL s.insts) src := by
  unfold retargetOutput at h
  split at h
  · rename_i expr hg
    have he := Expr.identity_some h
    have := (hi.pend _ (OptLoop.mem_of_mGet hg)).2
    rw [he] at this
    exact this _ List.mem_cons_self src List.mem_cons_self
  · simp only [Option.some.injEq] at h
    rw [← h]; exact hv

/-- Rebuilding the input `l` leads from `s` to `s'` within the bound: for every bound `R`, output origin `g0`, slack
`W` and input drift `gi` that fit `s` and `l`, `Inv` holds again and the slack is kept. The parameters that change
along a list (`W`, `gi`) are quantified here, inside the relation. -/
def StepOk (l : List (Instr w)) (s s' : Rebuild w) : Prop :=
  ∀ R g0 W gi : Nat, Inv R g0 s → s.shift.natAbs ≤ W → g0 + driftL s.insts + W ≤ gi → OkL R gi l →
    Inv R g0 s' ∧ g0 + driftL s'.insts + W + (s'.shift - s.shift).natAbs ≤ gi + driftL l

theorem StepOk.refl (l : List (Instr w)) (s : Rebuild w) : StepOk l s s :=
  fun _ _ _ _ hi _ hg _ => ⟨hi, by rw [Int.sub_self]; simp only [Int.natAbs_zero]; omega⟩

/-- The slack handed to the rest of the list is `W` plus the shift the first instruction absorbed; the triangle
inequality gives it back at the end. -/
theorem StepOk.cons {i : Instr w} {rest : List (Instr w)} {a b c : Rebuild w} (h1 : StepOk [i] a b)
    (h2 : StepOk rest b c) : StepOk (i :: rest) a c := by
  intro R g0 W gi hi hW hg hok
  rw [okL_cons] at hok
  obtain ⟨x, y⟩ := h1 R g0 W gi hi hW hg (okL_single.2 hok.1)
  rw [driftL_single] at y
  obtain ⟨u, v⟩ := h2 R g0 (W + (b.shift - a.shift).natAbs) (gi + driftI i) x (shift_le_slack hW)
    (by rw [← Nat.add_assoc]; exact y) hok.2
  refine ⟨u, ?_⟩
  rw [driftL, ← Nat.add_assoc]
  exact slack_trans v

/-- The arms `output`, `input`, `calc`: names are shifted by `s.shift`, nothing with a drift is emitted. -/
theorem rebuildInstr_plain_step {ps : List (Rebuild w)} {s : Rebuild w} {i : Instr w} {os os' : Orders}
    {s' : Rebuild w} (hb : C01Dse.isBlock i = false) (h : (rebuildInstr ps s i).run os = .ok (s', os')) :
    StepOk [i] s s' := by
  intro R g0 W gi hi hW hg hok
  rw [okL_single] at hok
  cases i with
  | output src =>
    rw [okI_output] at hok
    have hv : NB R (g0 + driftL s.insts) (src + s.shift) := nb_shift hok hW hg
    rw [rebuildInstr] at h
    split at h
    · rename_i src' hre
      obtain ⟨rfl, _⟩ := run_pure_ok h
      have hp := read_pstep s src'
      have hi1 := hp.inv hi
      obtain ⟨a, b⟩ := inv_push (s' := { (Opt.read s src') with insts := (Opt.read s src').insts ++
          [Instr.output src'] }) hi1 (Instr.output src')
        (okI_output.2 (by rw [hp.insts]; exact retargetOutput_nb hi hv hre)) rfl rfl rfl rfl rfl
      exact ⟨a, slack_keep hg (b.trans (congrArg driftL hp.insts)) hp.shift _⟩
    · rw [run_bind_ok] at h
      obtain ⟨s1, os1, h1, h2⟩ := h
      obtain ⟨rfl, _⟩ := run_pure_ok h2
      have he := (emit_step ps hi _ h1).1
      have hp := read_pstep s1 (src + s.shift)
      have hi1 := hp.inv he.inv
      obtain ⟨a, b⟩ := inv_push (s' := { (Opt.read s1 (src + s.shift)) with
          insts := (Opt.read s1 (src + s.shift)).insts ++ [Instr.output (src + s.shift)] })
        hi1 (Instr.output (src + s.shift))
        (okI_output.2 (by rw [hp.insts, he.keep.drift]; exact hv)) rfl rfl rfl rfl rfl
      exact ⟨a, slack_keep hg (b.trans ((congrArg driftL hp.insts).trans he.keep.drift)) (hp.shift.trans he.keep.shift) _⟩
  | input dst =>
    rw [okI_input] at hok
    have hv : NB R (g0 + driftL s.insts) (dst + s.shift) := nb_shift hok hW hg
    rw [rebuildInstr, run_bind_ok] at h
    obtain ⟨s1, os1, h1, h2⟩ := h
    obtain ⟨rfl, _⟩ := run_pure_ok h2
    have he := clobber_step ps hi _ false h1
    obtain ⟨a, b⟩ := inv_push (s' := { s1 with insts := s1.insts ++ [Instr.input (dst + s.shift)] })
      he.inv (Instr.input (dst + s.shift))
      (okI_input.2 (by rw [he.keep.drift]; exact hv)) rfl rfl rfl rfl rfl
    exact ⟨a, slack_keep hg (b.trans he.keep.drift) he.keep.shift _⟩
  | «calc» calcs =>
    rw [okI_calc] at hok
    rw [rebuildInstr] at h
    have hp := performAll_step ps hi (shift := s.shift) (calcs := calcs) (by
      intro vc hvc
      obtain ⟨a, b⟩ := hok vc hvc
      exact ⟨Int.add_comm _ s.shift ▸ nb_shift a hW hg, varsIn_iff.2 (fun x hx => nb_shift (b x hx) hW hg)⟩) h
    exact ⟨hp.inv, slack_keep hg hp.keep.drift hp.keep.shift _⟩
  | loop c sh b o => cases hb
  | ifnz c sh b => cases hb

/-- A fresh state with its sub-analyses reversed: the invariant at any origin, its shift, no code yet. -/
theorem inv_fresh (R g : Nat) (shift : Int) (cond : Option Int) (par : OptParent) (anal : Option (OptAnalysis w)) :
    Inv R g (reverseSubBlocks (Rebuild.new shift cond par anal)) ∧
      (reverseSubBlocks (Rebuild.new shift cond par anal : Rebuild w)).shift = shift ∧
      (reverseSubBlocks (Rebuild.new shift cond par anal : Rebuild w)).insts = [] := by
  obtain ⟨_, q5, _, q4, _, _, q3, q2, _, q1, _⟩ := OptProof.reverseSubBlocks_fields
    (Rebuild.new shift cond par anal : Rebuild w)
  exact ⟨(inv_new R g shift cond par anal).of_eq q1 q2 q3 q4, q5, q1⟩

theorem Inv.popSubAnal {R g0 : Nat} {s : Rebuild w} (hi : Inv R g0 s) :
    Inv R g0 (popSubAnal s).1 ∧ (popSubAnal s).1.insts = s.insts ∧ (popSubAnal s).1.shift = s.shift := by
  obtain ⟨_, p5, _, p4, _, _, p3, p2, _, p1, _⟩ := OptProof.popSubAnal_same s
  exact ⟨hi.of_eq p1 p2 p3 p4, p1, p5⟩

/-- The `Loop` / `If` arm, given the statement for the body rebuilt in the fresh child: the child starts at the
parent's shift with no code, at output origin `g0 + driftL s.insts`; `finishLoop` pays the new drift and the absorbed
shift with the drift of the body and the shift of the block (`finishLoop_step`). -/
theorem block_arm {ps : List (Rebuild w)} {s : Rebuild w} {i : Instr w} {cond shift : Int}
    {body : List (Instr w)} (hp : C01Dse.blockParts i = some (cond, shift, body)) {isLoop : Bool}
    {r : Rebuild w × Bool} (hbody : StepOk body (OptProof.blockChild s cond) r.1) {os os' : Orders}
    {s' : Rebuild w}
    (h : (finishLoop (popSubAnal s).1 ps (OptProof.addShift r shift) (cond + s.shift) isLoop).run os
      = .ok (s', os')) : StepOk [i] s s' := by
  intro R g0 W gi hi hW hg hok
  have hok' : NB R gi cond ∧ OkL R gi body ∧ driftI i = driftL body + shift.natAbs := by
    rw [okL_single] at hok
    cases i with
    | loop c sh b o => cases hp; exact ⟨(okI_loop.1 hok).1, (okI_loop.1 hok).2, rfl⟩
    | ifnz c sh b => cases hp; exact ⟨(okI_ifnz.1 hok).1, (okI_ifnz.1 hok).2, rfl⟩
    | _ => cases hp
  obtain ⟨hc, hb, hdr⟩ := hok'
  obtain ⟨hi1, p1, p5⟩ := hi.popSubAnal
  have hd1 : driftL (popSubAnal s).1.insts = driftL s.insts := by rw [p1]
  obtain ⟨hi0, q5, q1⟩ := inv_fresh R (g0 + driftL s.insts) (popSubAnal s).1.shift (some (cond + s.shift))
    OptParent.parent (popSubAnal s).2
  have hi0 : Inv R (g0 + driftL s.insts) (OptProof.blockChild s cond) := hi0
  have hsh0 : (OptProof.blockChild s cond).shift = s.shift := q5.trans p5
  have hdr0 : driftL (OptProof.blockChild s cond).insts = 0 := by
    show driftL (reverseSubBlocks _).insts = 0
    rw [q1]; rfl
  obtain ⟨a, b⟩ := hbody R (g0 + driftL s.insts) W gi hi0 (by rw [hsh0]; exact hW) (by rw [hdr0]; omega) hb
  rw [hsh0] at b
  have hi2 : Inv R (g0 + driftL (popSubAnal s).1.insts) (OptProof.addShift r shift) := by
    rw [hd1]
    unfold OptProof.addShift
    split
    · exact a.of_eq rfl rfl rfl rfl
    · exact a
  have hd2 : driftL (OptProof.addShift r shift).insts = driftL r.1.insts := by
    unfold OptProof.addShift; split <;> rfl
  have hs2 : ((OptProof.addShift r shift).shift - s.shift).natAbs
      ≤ (r.1.shift - s.shift).natAbs + shift.natAbs := by
    unfold OptProof.addShift
    split
    · show (r.1.shift + shift - s.shift).natAbs ≤ _
      have e : r.1.shift + shift - s.shift = (r.1.shift - s.shift) + shift := by omega
      rw [e]; exact Int.natAbs_add_le _ _
    · exact Nat.le_add_right _ _
  have hfin := finishLoop_step ps isLoop hi1 hi2 (by rw [hd1]; exact nb_shift hc hW hg) h
  refine ⟨hfin.inv, ?_⟩
  have hsl := hfin.slack
  rw [hd2, hd1, p5] at hsl
  rw [driftL_single, hdr]
  omega

theorem rebuild_stepOk :
    (∀ (i : Instr w) ps s, True → OptProof.Tri false (rebuildInstr ps s i) (StepOk [i] s)) ∧
    ∀ (l : List (Instr w)) ps s, True →
      OptProof.Tri false (rebuildInsts ps s l) (fun r => StepOk l s r.1) :=
  OptProof.rebuild_tri (Pre := fun _ _ _ => True) (R := fun _ l s s' => StepOk l s s')
    (fun _ l s _ => StepOk.refl l s) (fun _ _ _ _ _ _ _ => StepOk.cons) (fun _ _ _ _ _ => trivial)
    (fun _ _ _ _ _ _ _ => trivial)
    (fun _ _ _ hb _ => .ofRun (fun _ _ _ h => rebuildInstr_plain_step hb h))
    (fun _ _ _ _ _ _ _ _ => trivial)
    (fun _ _ _ _ _ _ _ _ hp _ hbody => .ofRun (fun _ _ _ h => block_arm hp hbody h))

theorem rebuildInsts_step (l : List (Instr w)) (ps : List (Rebuild w)) (s : Rebuild w) (os os' : Orders)
    (s' : Rebuild w) (c : Bool) (R g0 W gi : Nat) (hi : Inv R g0 s) (hW : s.shift.natAbs ≤ W)
    (hg : g0 + driftL s.insts + W ≤ gi) (hl : OkL R gi l)
    (h : (rebuildInsts ps s l).run os = .ok ((s', c), os')) :
    Inv R g0 s' ∧ g0 + driftL s'.insts + W + (s'.shift - s.shift).natAbs ≤ gi + driftL l :=
  (rebuild_stepOk.2 l ps s trivial).post h R g0 W gi hi hW hg hl

theorem rebuildInstr_step : ∀ (i : Instr w) (ps : List (Rebuild w)) (s : Rebuild w) (os os' : Orders)
    (s' : Rebuild w) (R g0 W gi : Nat), Inv R g0 s → s.shift.natAbs ≤ W → g0 + driftL s.insts + W ≤ gi →
    OkI R gi i → (rebuildInstr ps s i).run os = .ok (s', os') →
    Inv R g0 s' ∧ g0 + driftL s'.insts + W + (s'.shift - s.shift).natAbs ≤ gi + driftI i := by
  intro i ps s os os' s' R g0 W gi hi hW hg hok h
  rw [← driftL_single]
  exact (rebuild_stepOk.1 i ps s trivial).post h R g0 W gi hi hW hg (okL_single.2 hok)

theorem optimizeOnce_ok {R : Nat} {b b' : Block w} {anal anal' : OptAnalysis w} {os os' : Orders}
    (hb : OkL R 0 b.insts) (h : (optimizeOnce b anal).run os = .ok ((b', anal'), os')) :
    OkL R 0 b'.insts ∧ driftL b'.insts ≤ driftL b.insts := by
  unfold optimizeOnce at h
  rw [run_bind_ok] at h
  obtain ⟨state, os1, h1, h2⟩ := h
  simp only [run_pure, Except.ok.injEq, Prod.mk.injEq] at h2
  obtain ⟨⟨rfl, _⟩, _⟩ := h2
  unfold rebuildBlock at h1
  rw [run_bind_ok] at h1
  obtain ⟨⟨s1, completed⟩, os2, h3, h4⟩ := h1
  obtain ⟨rfl, _⟩ := run_pure_ok h4
  obtain ⟨hi0, q5, q1⟩ := inv_fresh R 0 0 none OptParent.zero (some anal)
  obtain ⟨a, d⟩ := rebuildInsts_step b.insts [] _ os os2 s1 completed R 0 0 0 hi0
    (by rw [q5]; rfl) (by rw [q1]; rfl) hb h3
  have e : (if completed = true then { s1 with shift := s1.shift + b.shift } else s1).insts = s1.insts := by
    split <;> rfl
  show OkL R 0 (if completed = true then { s1 with shift := s1.shift + b.shift } else s1).insts ∧
    driftL (if completed = true then { s1 with shift := s1.shift + b.shift } else s1).insts ≤ _
  rw [e]
  exact ⟨a.insts, by omega⟩

/-- Deleting assignments of `calc`s keeps the drift and the bound. -/
theorem sub_ok :
    (∀ (i i' : Instr w), C01Dse.SubI i i' → ∀ R g : Nat, driftI i' = driftI i ∧ (OkI R g i → OkI R g i')) ∧
    ∀ (l l' : List (Instr w)), C01Dse.SubL l l' → ∀ R g : Nat, driftL l' = driftL l ∧ (OkL R g l → OkL R g l') := by
  refine C01Dse.sub_induction (fun _ _ _ => ⟨rfl, id⟩) (fun _ _ _ => ⟨rfl, id⟩) ?_ ?_ ?_
    (fun _ _ => ⟨rfl, id⟩) ?_
  · intro cs cs' hs R g
    refine ⟨rfl, ?_⟩
    rw [okI_calc, okI_calc]
    exact fun hok ve hve => hok ve (hs.subset hve)
  · intro c sh o body body' _ ih R g
    obtain ⟨a, b⟩ := ih R g
    refine ⟨by simp only [driftI, a], ?_⟩
    rw [okI_loop, okI_loop]
    exact fun hok => ⟨hok.1, b hok.2⟩
  · intro c sh body body' _ ih R g
    obtain ⟨a, b⟩ := ih R g
    refine ⟨by simp only [driftI, a], ?_⟩
    rw [okI_ifnz, okI_ifnz]
    exact fun hok => ⟨hok.1, b hok.2⟩
  · intro i i' l l' _ _ ihi ihl R g
    obtain ⟨a, b⟩ := ihi R g
    obtain ⟨x, y⟩ := ihl R (g + driftI i)
    refine ⟨by simp only [driftL, a, x], ?_⟩
    rw [okL_cons, okL_cons, a]
    exact fun hok => ⟨b hok.1, y hok.2⟩

theorem subI_ok : ∀ (i i' : Instr w) (R g : Nat), C01Dse.SubI i i' →
    driftI i' = driftI i ∧ (OkI R g i → OkI R g i') :=
  fun i i' R g h => sub_ok.1 i i' h R g

theorem subL_ok : ∀ (l l' : List (Instr w)) (R g : Nat), C01Dse.SubL l l' →
    driftL l' = driftL l ∧ (OkL R g l → OkL R g l') :=
  fun l l' R g h => sub_ok.2 l l' h R g

theorem dse_ok {R : Nat} {b b' : Block w} {anal : OptAnalysis w} (hb : OkL R 0 b.insts)
    (h : deadStoreElimination b anal = .ok b') : OkL R 0 b'.insts ∧ driftL b'.insts = driftL b.insts := by
  unfold deadStoreElimination at h
  split at h
  · rename_i b1 he
    simp only [pure, Except.pure, Except.ok.injEq] at h
    subst h
    unfold OptDse.eliminate at he
    split at he
    · cases he
    · rename_i insts x y hel
      simp only [Option.some.injEq] at he
      subst he
      obtain ⟨d, ok⟩ := subL_ok _ _ R 0 (C01Dse.subL_of_elimInsts _ _ _ _ _ _ _ hel)
      exact ⟨ok hb, d⟩
  · cases h

theorem steps_okL {R : Nat} {b b' : Block w} (hb : OkL R 0 b.insts) (h : Rounds.Steps b b') :
    OkL R 0 b'.insts ∧ driftL b'.insts ≤ driftL b.insts := by
  induction h with
  | refl => exact ⟨hb, Nat.le_refl _⟩
  | first h1 => exact optimizeOnce_ok hb h1
  | round _ h1 h3 ih =>
    obtain ⟨o1, d1⟩ := dse_ok ih.1 h1
    obtain ⟨o2, d2⟩ := optimizeOnce_ok o1 h3
    exact ⟨o2, by omega⟩

theorem steps_reach {b b' : Block w} (h : Rounds.Steps b b') : reach b' ≤ reach b :=
  okL_iff_reach.1 (steps_okL (okL_reach b) h).1

theorem optimize_ok {R : Nat} {b b' : Block w} {level : Nat} {orders : Orders} (hb : OkL R 0 b.insts)
    (h : Opt.optimize b level orders = .ok b') : OkL R 0 b'.insts :=
  (steps_okL hb (Rounds.optimize_steps h)).1

theorem optimize_reach {b b' : Block w} {level : Nat} {orders : Orders}
    (h : Opt.optimize b level orders = .ok b') : reach b' ≤ reach b :=
  okL_iff_reach.1 (optimize_ok (okL_reach b) h)

theorem optimizeOnce_shift {b b' : Block w} {anal anal' : OptAnalysis w} {os os' : Orders}
    (h : (optimizeOnce b anal).run os = .ok ((b', anal'), os')) : b'.shift = 0 := by
  unfold optimizeOnce at h
  rw [run_bind_ok] at h
  obtain ⟨state, os1, _, h2⟩ := h
  simp only [run_pure, Except.ok.injEq, Prod.mk.injEq] at h2
  obtain ⟨⟨rfl, _⟩, _⟩ := h2
  rfl

theorem steps_shift {b b' : Block w} (h : Rounds.Steps b b') : b' = b ∨ b'.shift = 0 := by
  cases h with
  | refl => exact Or.inl rfl
  | first h1 => exact Or.inr (optimizeOnce_shift h1)
  | round _ _ h3 => exact Or.inr (optimizeOnce_shift h3)

end Hpbf.OptOffs
