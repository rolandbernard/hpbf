/-
C01, level 0: structural facts about `comp` — key sets and the `moved`
flag only grow (`Le`, `comp_le`), buffers keep distinct keys (`WF`), what the parent frame looks like after a loop is
closed (`ClosedProps`, `GeneralProps`), the shape of emitted instruction lists (`Shape`), and what the fold test
`isSpecial` implies about the loop body: nothing is emitted for it, so it has no I/O and no loop (`Pure`). Their
client is `ContsRel.cons` (C01Parse), whose premises they are. Last `Prog.size`, the measure of the simulation.
-/
import Hpbf.Proofs.C01Rel

namespace Hpbf
namespace C01
open Ir Sim

variable {w : Nat}

def Le (f f' : Fr w) : Prop :=
  (∀ a, a ∈ keys f.buff → a ∈ keys f'.buff) ∧ (f.moved = true → f'.moved = true)

theorem Le.refl (f : Fr w) : Le f f := ⟨fun _ h => h, fun h => h⟩

theorem Le.trans {f g h : Fr w} (h1 : Le f g) (h2 : Le g h) : Le f h :=
  ⟨fun a ha => h2.1 a (h1.1 a ha), fun hm => h2.2 (h1.2 hm)⟩

def WF (f : Fr w) : Prop := (keys f.buff).Nodup

theorem wf_fresh (sh : Int) : WF (fresh sh : Fr w) := by simp [WF, fresh, keys]

theorem compOp_le (op : Op) (f : Fr w) : Le f (compOp op f).2 := by
  cases op <;> simp only [compOp]
  · exact ⟨fun a ha => (mem_keys_bset _ _ _ _).mpr (Or.inr ha), fun h => h⟩
  · exact ⟨fun a ha => (mem_keys_bset _ _ _ _).mpr (Or.inr ha), fun h => h⟩
  · exact Le.refl _
  · exact Le.refl _
  · exact ⟨fun a ha => (mem_keys_bset _ _ _ _).mpr (Or.inr ha), fun h => h⟩
  · exact ⟨fun a ha => (mem_keys_flushOneI _ _ _).mpr (Or.inr ha), fun h => h⟩

theorem compOp_wf (op : Op) (f : Fr w) (h : WF f) : WF (compOp op f).2 := by
  cases op <;> simp only [compOp, WF]
  · exact nodup_keys_bset _ _ _ h
  · exact nodup_keys_bset _ _ _ h
  · exact h
  · exact h
  · exact nodup_keys_bset _ _ _ h
  · exact nodup_flushOneI _ _ h

/-- The `ite` is the form in which `closeI` zeroes the parent's buffer for an unbalanced loop. -/
theorem keys_ite_map_zero (c : Bool) (b : List (Int × BitVec w)) :
    keys (if c = true then b.map (fun kv => (kv.1, 0#w)) else b) = keys b := by
  cases c
  · rfl
  · exact keys_map_zero b

structure ClosedProps (par P : Fr w) : Prop where
  shift : P.shift = par.shift
  wf : WF P
  le : Le par P
  cond_mem : par.shift ∈ keys P.buff
  cond_zero : pend P.buff par.shift = 0#w

theorem closeI_props (ib : List (Instr w)) (fb par : Fr w) (hw : WF par) :
    ClosedProps par (closeI ib fb par).2 := by
  unfold closeI
  by_cases hs : isSpecial ib fb par = true
  · rw [if_pos hs]
    exact ⟨rfl, nodup_keys_bset _ _ _ hw,
      ⟨fun a ha => (mem_keys_bset _ _ _ _).mpr (Or.inr ha), fun h => h⟩,
      (mem_keys_bset _ _ _ _).mpr (Or.inl rfl), by simp [pend_bset]⟩
  · rw [if_neg hs]
    simp only
    refine ⟨rfl, ?_, ⟨?_, ?_⟩, ?_, ?_⟩
    · apply nodup_flushOneI
      rw [keys_ite_map_zero]; exact nodup_flushManyI _ _ hw
    · intro a ha
      apply (mem_keys_flushOneI _ _ _).mpr; right
      rw [keys_ite_map_zero]; exact (mem_keys_flushManyI _ _ _).mpr (Or.inr ha)
    · intro hm
      by_cases hu : unb fb par = true
      · simp [hu]
      · simp only [hu]; exact hm
    · exact (mem_keys_flushOneI _ _ _).mpr (Or.inl rfl)
    · rw [pend_flushOneI]; simp

structure GeneralProps (fb par P : Fr w) : Prop where
  body_keys : ∀ a, a ∈ keys fb.buff → a ∈ keys P.buff ∧ pend P.buff a = 0#w
  unb_zero : unb fb par = true → P.moved = true ∧ ∀ a, pend P.buff a = 0#w

theorem closeI_general_props (ib : List (Instr w)) (fb par : Fr w) (hs : isSpecial ib fb par = false) :
    GeneralProps fb par (closeI ib fb par).2 := by
  unfold closeI
  rw [if_neg (by simp [hs])]
  simp only
  constructor
  · intro a ha
    have hmem : a ∈ (bsorted fb.buff).map (·.1) := (mem_keys_bsorted fb.buff a).mpr ha
    constructor
    · apply (mem_keys_flushOneI _ _ _).mpr; right
      rw [keys_ite_map_zero]; exact (mem_keys_flushManyI _ _ _).mpr (Or.inl hmem)
    · rw [pend_flushOneI]
      by_cases hc : a = par.shift
      · simp [hc]
      · simp only [hc, if_false]
        by_cases hu : unb fb par = true
        · simp only [hu, if_true]; exact pend_map_zero _ _
        · simp only [hu, Bool.false_eq_true, ↓reduceIte]; rw [pend_flushManyI]; simp [hmem]
  · intro hu
    simp only [hu, if_true, true_and]
    intro a
    rw [pend_flushOneI]
    by_cases hc : a = par.shift
    · simp [hc]
    · simp only [hc, if_false]; exact pend_map_zero _ _

theorem comp_le (q : Prog) : ∀ f : Fr w, WF f → Le f (comp q f).2 ∧ WF (comp q f).2 := by
  induction q with
  | nil => intro f h; exact ⟨Le.refl _, h⟩
  | cmd op r ih =>
    intro f h
    simp only [comp]
    have h1 := ih _ (compOp_wf op f h)
    exact ⟨(compOp_le op f).trans h1.1, h1.2⟩
  | loop b r _ ih2 =>
    intro f h
    simp only [comp]
    have hc := closeI_props (comp b (fresh f.shift)).1 (comp b (fresh f.shift)).2 f h
    have h1 := ih2 _ hc.wf
    exact ⟨hc.le.trans h1.1, h1.2⟩

def NotStep (i : Instr w) : Prop := ∀ sh, isOddStep [i] sh = false

/-- Everything `comp` emits has this shape (`comp_shape`): whatever is emitted ends in an I/O instruction, a loop
or a `load 0`, never in an `add`.  Hence a body recognised by `isOddStep` emitted nothing (`shape_oddStep`). -/
def Shape (l : List (Instr w)) : Prop := l = [] ∨ ∃ pre last, l = pre ++ [last] ∧ NotStep last

theorem Shape.append {l1 l2 : List (Instr w)} (h1 : Shape l1) (h2 : Shape l2) : Shape (l1 ++ l2) := by
  rcases h2 with rfl | ⟨pre, last, rfl, hl⟩
  · simpa using h1
  · exact Or.inr ⟨l1 ++ pre, last, by simp, hl⟩

theorem notStep_output (k : Int) : NotStep (.output k : Instr w) := fun _ => rfl
theorem notStep_input (k : Int) : NotStep (.input k : Instr w) := fun _ => rfl
theorem notStep_loop (c s : Int) (b : List (Instr w)) (o : Bool) : NotStep (.loop c s b o) := fun _ => rfl
theorem notStep_load_zero (k : Int) : NotStep (Instr.load k 0#w : Instr w) := by
  intro sh
  simp [Instr.load, Expr.val, isOddStep, Expr.constIncOf]

theorem shape_snoc (pre : List (Instr w)) {last : Instr w} (h : NotStep last) : Shape (pre ++ [last]) :=
  Or.inr ⟨pre, last, rfl, h⟩

theorem compOp_shape (op : Op) (f : Fr w) : Shape (compOp op f).1 := by
  cases op <;> simp only [compOp]
  · exact Or.inl rfl
  · exact Or.inl rfl
  · exact Or.inl rfl
  · exact Or.inl rfl
  · exact shape_snoc [] (notStep_input _)
  · exact shape_snoc _ (notStep_output _)

theorem closeI_shape (ib : List (Instr w)) (fb par : Fr w) : Shape (closeI ib fb par).1 := by
  unfold closeI
  split
  · exact shape_snoc [] (notStep_load_zero _)
  · exact shape_snoc _ (notStep_loop _ _ _ _)

theorem closeI_ne_nil (ib : List (Instr w)) (fb par : Fr w) : (closeI ib fb par).1 ≠ [] := by
  unfold closeI
  split <;> simp

theorem comp_shape (q : Prog) : ∀ f : Fr w, Shape (comp q f).1 := by
  induction q with
  | nil => intro f; exact Or.inl rfl
  | cmd op r ih => intro f; simp only [comp]; exact (compOp_shape op f).append (ih _)
  | loop b r _ ih2 => intro f; simp only [comp]; exact (closeI_shape _ _ _).append (ih2 _)

theorem isOddStep_singleton {l : List (Instr w)} {sh : Int} (h : isOddStep l sh = true) :
    ∃ x, l = [x] := by
  unfold isOddStep at h
  split at h
  · exact ⟨_, rfl⟩
  · cases h

theorem shape_oddStep {ib adds : List (Instr w)} {sh : Int} (hs : Shape ib)
    (h : isOddStep (ib ++ adds) sh = true) : ib = [] := by
  rcases hs with rfl | ⟨pre, last, rfl, hl⟩
  · rfl
  · obtain ⟨x, hx⟩ := isOddStep_singleton h
    have hlen := congrArg List.length hx
    simp only [List.length_append, List.length_cons, List.length_nil] at hlen
    have hp : pre = [] := List.eq_nil_of_length_eq_zero (by omega)
    have ha : adds = [] := List.eq_nil_of_length_eq_zero (by omega)
    subst hp ha
    simp only [List.nil_append, List.append_nil] at h
    rw [hl sh] at h; cases h

theorem addsOf_singleton (l : List (Int × BitVec w)) (i : Instr w) (h : addsOf l = [i]) :
    ∃ k c, i = Instr.add k c ∧ c ≠ 0#w ∧ (k, c) ∈ l ∧ ∀ k' c', (k', c') ∈ l → c' ≠ 0#w → k' = k ∧ c' = c := by
  induction l with
  | nil => simp [addsOf] at h
  | cons kv l ih =>
    obtain ⟨k0, c0⟩ := kv
    by_cases hc : c0 = 0#w
    · subst hc
      rw [addsOf_cons_zero] at h
      obtain ⟨k, c, h1, h2, h3, h4⟩ := ih h
      refine ⟨k, c, h1, h2, List.mem_cons_of_mem _ h3, ?_⟩
      intro k' c' hm hne
      rcases List.mem_cons.mp hm with he | hm'
      · cases he; exact absurd rfl hne
      · exact h4 k' c' hm' hne
    · rw [addsOf_cons_ne k0 hc] at h
      simp only [List.cons.injEq] at h
      obtain ⟨h1, h2⟩ := h
      refine ⟨k0, c0, h1.symm, hc, List.mem_cons_self, ?_⟩
      intro k' c' hm hne
      rcases List.mem_cons.mp hm with he | hm'
      · cases he; exact ⟨rfl, rfl⟩
      · exfalso
        have : Instr.add k' c' ∈ addsOf l := by
          unfold addsOf
          apply List.mem_filterMap.mpr
          exact ⟨(k', c'), hm', by simp [hne]⟩
        rw [h2] at this; cases this

theorem isOddStep_add {k sh : Int} {c : BitVec w} (h : isOddStep [Instr.add k c] sh = true) :
    k = sh ∧ Cell.isOdd c = true := by
  simp only [isOddStep, Instr.add, Expr.constIncOf, Bool.and_eq_true, beq_iff_eq] at h
  obtain ⟨h1, h2⟩ := h
  subst h1
  simpa using h2

theorem isSpecial_elim {ib : List (Instr w)} {fb par : Fr w} (hsh : Shape ib) (hwf : WF fb)
    (h : isSpecial ib fb par = true) :
    ib = [] ∧ fb.moved = false ∧ fb.shift = par.shift ∧
      ∃ c, Cell.isOdd c = true ∧ ∀ a, pend fb.buff a = if a = par.shift then c else 0#w := by
  unfold isSpecial at h
  simp only [Bool.and_eq_true, Bool.not_eq_true', beq_iff_eq] at h
  obtain ⟨⟨hm, hs⟩, ho⟩ := h
  unfold bodyInsts at ho
  have hib := shape_oddStep hsh ho
  subst hib
  simp only [List.nil_append] at ho
  obtain ⟨x, hx⟩ := isOddStep_singleton ho
  obtain ⟨k, c, h1, h2, h3, h4⟩ := addsOf_singleton _ _ hx
  rw [hx, h1] at ho
  obtain ⟨hk, hodd⟩ := isOddStep_add ho
  subst hk
  refine ⟨rfl, hm, hs, c, hodd, ?_⟩
  intro a
  rw [← pend_bsorted hwf]
  have hn := nodup_keys_bsorted hwf
  by_cases ha : a = par.shift
  · rw [ha]
    simp only [if_true]
    unfold pend
    rw [(bget_eq_some_iff hn par.shift c).mpr h3]; rfl
  · simp only [ha, if_false]
    unfold pend
    cases hg : bget (bsorted fb.buff) a with
    | none => rfl
    | some c' =>
      have hm' := (bget_eq_some_iff hn a c').mp hg
      by_cases hc' : c' = 0#w
      · subst hc'; rfl
      · exact absurd (h4 a c' hm' hc').1 ha

def Pure : Prog → Prop
  | .nil => True
  | .cmd op r => (op = .inc ∨ op = .dec ∨ op = .left ∨ op = .right) ∧ Pure r
  | .loop _ _ => False

theorem pure_of_comp_nil (q : Prog) : ∀ f : Fr w, (comp q f).1 = [] → Pure q := by
  induction q with
  | nil => intro f _; trivial
  | cmd op r ih =>
    intro f h
    simp only [comp, List.append_eq_nil_iff] at h
    refine ⟨?_, ih _ h.2⟩
    cases op <;> simp [compOp] at h ⊢
  | loop b r _ _ =>
    intro f h
    simp only [comp, List.append_eq_nil_iff] at h
    exact absurd h.1 (closeI_ne_nil _ _ _)

/-- Measure of the simulation (it decreases on the steps the canonical machine takes alone), and the number of
steps the canonical machine needs for a `Pure` program. -/
def Prog.size : Prog → Nat
  | .nil => 0
  | .cmd _ r => Prog.size r + 1
  | .loop b r => Prog.size b + Prog.size r + 1

end C01
end Hpbf
