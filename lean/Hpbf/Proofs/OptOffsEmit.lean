/-
The emitting primitives keep `Inv`. Emission takes entries out of `pending` (never anything else: the `reverse`
map, the DFS and the oracle only decide WHICH entries and in which order) and appends them as `calc` instructions,
which have no drift. `emit s var` really removes `var` (`SortedK`), hence `emitAll` over all keys leaves `pending`
empty — that is what makes it sound to emit a block with a shift afterwards.

`popComp_spec`, `dfs_spec`, `gatherForEmit_spec` here say less than their namesakes in `OptProof` (`OptRbDfs`) and hold
without `Wf`, which a state under `Inv` need not satisfy: whatever the `reverse` map contains, the DFS only removes
entries of `pending`, and removes the root.
-/
import Hpbf.Proofs.OptOffsMap
import Hpbf.Proofs.OptRbDfs
import Hpbf.Proofs.OptRbTri
import Hpbf.Proofs.OptRbCanon2

namespace Hpbf.OptOffs
open Hpbf Opt Ir
open Hpbf.OptLoop (VarsIn varsIn_iff)
open Hpbf.OptProof (run_pure run_bind_ok run_throw removePending_snd)

variable {w : Nat}

/-- Fourth conjunct: if anything is popped, the key popped first has left `pending`. -/
theorem popComp_spec (stackLen : Nat) : ∀ (stack : List Int) (s : Rebuild w) (comp : List (Int × Expr w))
    (s' : Rebuild w) (stack' : List Int) (comp' : List (Int × Expr w)),
    popComp stackLen stack s comp = .ok (s', stack', comp') →
    PStep s s' ∧ stack'.length = stackLen ∧ (∀ ve ∈ comp', ve ∈ comp ∨ ve ∈ s.pending) ∧
    (SortedK s.pending → ∀ hd tl, stack = hd :: tl → stack.length ≠ stackLen → mGet s'.pending hd = none) := by
  intro stack
  induction stack with
  | nil =>
    intro s comp s' stack' comp' h
    simp only [popComp] at h
    split at h
    · rename_i h0
      simp only [pure, Except.pure, Except.ok.injEq, Prod.mk.injEq] at h
      obtain ⟨rfl, rfl, rfl⟩ := h
      refine ⟨PStep.refl _, by simpa using h0, fun ve hve => Or.inl hve, fun _ hd tl e => by cases e⟩
    · cases h
  | cons var rest ih =>
    intro s comp s' stack' comp' h
    rw [OptProof.popComp_cons] at h
    split at h
    · rename_i h0
      simp only [pure, Except.pure, Except.ok.injEq, Prod.mk.injEq] at h
      obtain ⟨rfl, rfl, rfl⟩ := h
      refine ⟨PStep.refl _, by simpa using h0, fun ve hve => Or.inl hve, ?_⟩
      intro _ hd tl _ hne
      exact absurd (by simpa using h0) hne
    · have hp := removePending_pstep s var
      obtain ⟨a, b, c, d⟩ := ih _ _ s' stack' comp' h
      refine ⟨hp.trans a, b, ?_, ?_⟩
      · intro ve hve
        rcases c ve hve with h1 | h1
        · rcases List.mem_append.1 h1 with h2 | h2
          · exact Or.inl h2
          · cases hg : mGet s.pending var with
            | none => rw [hg] at h2; cases h2
            | some e =>
              rw [hg] at h2
              simp only [Option.map_some, Option.toList_some, List.mem_singleton] at h2
              subst h2; exact Or.inr (OptLoop.mem_of_mGet hg)
        · exact Or.inr (hp.sub.subset h1)
      · intro hs hd tl e _
        simp only [List.cons.injEq] at e
        obtain ⟨rfl, rfl⟩ := e
        exact mGet_none_of_sublist a.sub (removePending_gone hs var)

structure DfsRes (d d' : Dfs w) : Prop where
  step : PStep d.s d'.s
  comps : ∀ c ∈ d'.comps, c ∈ d.comps ∨ ∀ ve ∈ c, ve ∈ d.s.pending
  stack : d.stack.length ≤ d'.stack.length

theorem DfsRes.refl (d : Dfs w) : DfsRes d d := ⟨PStep.refl _, fun _ h => Or.inl h, Nat.le_refl _⟩

theorem DfsRes.trans {a b c : Dfs w} (h1 : DfsRes a b) (h2 : DfsRes b c) : DfsRes a c := by
  refine ⟨h1.step.trans h2.step, ?_, Nat.le_trans h1.stack h2.stack⟩
  intro x hx
  rcases h2.comps x hx with h | h
  · exact h1.comps x h
  · exact Or.inr (fun ve hve => h1.step.sub.subset (h ve hve))

theorem dfsFinish_spec {var : Int} {d d1 d' : Dfs w} {low1 low : Nat} {os os' : Orders}
    (hd : DfsRes d d1) (hlow : low1 ≤ d.index)
    (h : (OptProof.dfsFinish d.stack.length d.index var (d1, low1)).run os = .ok ((d', low), os')) :
    DfsRes d d' ∧ low ≤ d.index ∧ (SortedK d.s.pending → low = d.index → mGet d'.s.pending var = none) := by
  unfold OptProof.dfsFinish at h
  simp only at h
  split at h
  · rw [run_bind_ok] at h
    obtain ⟨⟨s', stack', comp⟩, os1, h1, h2⟩ := h
    replace h1 := OptProof.run_monadLift_ok.1 h1
    simp only [run_pure, Except.ok.injEq, Prod.mk.injEq] at h2
    obtain ⟨⟨rfl, rfl⟩, _⟩ := h2
    obtain ⟨a, b, c, e⟩ := popComp_spec _ _ _ _ _ _ _ h1.1
    refine ⟨⟨hd.step.trans a, ?_, by simp only; omega⟩, hlow, ?_⟩
    · intro x hx
      simp only at hx
      split at hx
      · exact hd.comps x hx
      · rcases List.mem_append.1 hx with h3 | h3
        · exact hd.comps x h3
        · simp only [List.mem_singleton] at h3
          subst h3
          right
          intro ve hve
          rcases c ve hve with h4 | h4
          · cases h4
          · exact hd.step.sub.subset h4
    · intro hs _
      refine e (hs.sublist hd.step.sub) var d1.stack rfl ?_
      have := hd.stack
      simp only [List.length_cons]; omega
  · rename_i hne
    simp only [run_pure, Except.ok.injEq, Prod.mk.injEq] at h
    obtain ⟨⟨rfl, rfl⟩, _⟩ := h
    refine ⟨⟨hd.step, hd.comps, by simp only [List.length_cons]; have := hd.stack; omega⟩, hlow, ?_⟩
    intro _ hl
    rw [hl] at hne
    simp at hne

theorem dfs_spec : ∀ (fuel : Nat) (d : Dfs w) (var : Int) (os : Orders) (d' : Dfs w) (low : Nat) (os' : Orders),
    (gatherToEmitDfs fuel d var).run os = .ok ((d', low), os') →
    DfsRes d d' ∧ low ≤ d.index ∧ (SortedK d.s.pending → low = d.index → mGet d'.s.pending var = none) := by
  intro fuel
  induction fuel with
  | zero =>
    intro d var os d' low os' h
    rw [gatherToEmitDfs, run_throw] at h
    cases h
  | succ fuel ih =>
    intro d var os d' low os' h
    rw [OptProof.dfs_unfold, run_bind_ok] at h
    obtain ⟨⟨d1, low1⟩, os1, h1, h2⟩ := h
    have hd0 : DfsRes d (OptProof.dfsEnter d var) := ⟨PStep.refl _, fun _ h => Or.inl h, Nat.le_refl _⟩
    have key : DfsRes d d1 ∧ low1 ≤ d.index := by
      unfold OptProof.dfsLoop at h1
      split at h1
      · simp only [run_pure, Except.ok.injEq, Prod.mk.injEq] at h1
        obtain ⟨⟨rfl, rfl⟩, _⟩ := h1
        exact ⟨hd0, Nat.le_refl _⟩
      · rw [run_bind_ok] at h1
        obtain ⟨order, os2, _, h4⟩ := h1
        refine OptProof.foldlM_inv (fun (acc : Dfs w × Nat) _ => DfsRes d acc.1 ∧ acc.2 ≤ d.index) _ order ?_
          ⟨hd0, Nat.le_refl _⟩ h4
        intro acc n osa acc' osa' _ hacc hstep
        unfold OptProof.dfsStep at hstep
        split at hstep
        · simp only [run_pure, Except.ok.injEq, Prod.mk.injEq] at hstep
          obtain ⟨rfl, _⟩ := hstep
          exact ⟨hacc.1, Nat.le_trans (Nat.min_le_left _ _) hacc.2⟩
        · rw [run_bind_ok] at hstep
          obtain ⟨⟨d2, reached⟩, os3, h5, h6⟩ := hstep
          obtain ⟨rfl, _⟩ := run_pure_ok h6
          obtain ⟨a, _, _⟩ := ih _ _ _ _ _ _ h5
          exact ⟨hacc.1.trans a, Nat.le_trans (Nat.min_le_left _ _) hacc.2⟩
    exact dfsFinish_spec key.1 key.2 h2

theorem gatherForEmit_spec {s : Rebuild w} {var : Int} {os os' : Orders} {s' : Rebuild w}
    {comps : List (List (Int × Expr w))}
    (h : (gatherForEmit s [var]).run os = .ok ((s', comps), os')) :
    PStep s s' ∧ (∀ c ∈ comps, ∀ ve ∈ c, ve ∈ s.pending) ∧
    (SortedK s.pending → mGet s'.pending var = none) := by
  by_cases hc : ([var].all (fun v => !mHas s.reverse v)) = true
  · -- nobody reads `var`: its entry is removed
    unfold gatherForEmit at h
    rw [if_pos hc] at h
    obtain ⟨e, _⟩ := run_pure_ok h
    simp only [List.foldl_cons, List.foldl_nil] at e
    have hp := removePending_pstep s var
    have hsnd := removePending_snd s var
    have hg := fun hs => removePending_gone (s := s) hs var
    split at e
    · rename_i s1 p heq
      rw [heq] at hp hsnd hg
      obtain ⟨rfl, rfl⟩ := Prod.mk.inj e
      refine ⟨hp, fun c hc ve hve => ?_, hg⟩
      simp only [List.nil_append, List.mem_singleton] at hc
      subst hc
      rw [List.mem_singleton.1 hve]
      exact OptLoop.mem_of_mGet hsnd.symm
    · rename_i s1 heq
      rw [heq] at hp hg
      obtain ⟨rfl, rfl⟩ := Prod.mk.inj e
      exact ⟨hp, fun c hc => (by cases hc), hg⟩
  · -- the DFS from the one root `var`
    rw [OptProof.gatherForEmit_dfs_eq s var hc, run_bind_ok] at h
    obtain ⟨⟨d, low⟩, os1, h1, h2⟩ := h
    obtain ⟨e, _⟩ := run_pure_ok h2
    obtain ⟨rfl, rfl⟩ := Prod.mk.inj e
    obtain ⟨a, b, c⟩ := dfs_spec _ _ _ _ _ _ _ h1
    exact ⟨a.step, fun c hc => (a.comps c hc).resolve_left (fun h => (by cases h)),
      fun hs => c hs (Nat.le_zero.1 b)⟩

/-- `PendOk` read as a statement about the assignments of a `calc`. -/
def CalcsOk (R g : Nat) (calcs : List (Int × Expr w)) : Prop :=
  ∀ ve ∈ calcs, NB R g ve.1 ∧ VarsIn (NB R g) ve.2

theorem okI_calc_of {R g : Nat} {calcs : List (Int × Expr w)} (h : CalcsOk R g calcs) :
    OkI R g (.calc calcs) :=
  okI_calc.2 (fun ve hve => ⟨(h ve hve).1, varsIn_iff.1 (h ve hve).2⟩)

theorem calcsOk_of_okI {R g : Nat} {calcs : List (Int × Expr w)} (h : OkI R g (.calc calcs)) :
    CalcsOk R g calcs :=
  fun ve hve => ⟨(okI_calc.1 h ve hve).1, varsIn_iff.2 (okI_calc.1 h ve hve).2⟩

structure WStep (R g0 : Nat) (s s' : Rebuild w) : Prop where
  inv : Inv R g0 s'
  keep : Keep s s'
  pending : s'.pending = s.pending

theorem WStep.refl {R g0 : Nat} {s : Rebuild w} (h : Inv R g0 s) : WStep R g0 s s := ⟨h, Keep.refl _, rfl⟩
theorem WStep.trans {R g0 : Nat} {a b c : Rebuild w} (h1 : WStep R g0 a b) (h2 : WStep R g0 b c) :
    WStep R g0 a c := ⟨h2.inv, h1.keep.trans h2.keep, h2.pending.trans h1.pending⟩

theorem writtenCalcs_step {R g0 : Nat} {s : Rebuild w} (ps : List (Rebuild w)) (hi : Inv R g0 s)
    {calcs : List (Int × Expr w)} (hc : ∀ ve ∈ calcs, VarsIn (NB R (g0 + driftL s.insts)) ve.2) :
    WStep R g0 s (writtenCalcs s ps calcs) := by
  unfold writtenCalcs
  simp only
  refine foldl_inv (fun s' => WStep R g0 s s') _ _ ?_ (WStep.refl hi)
  intro s1 vk hvk h1
  obtain ⟨vc, hvc, rfl⟩ := List.mem_map.1 hvk
  have hv : ∀ e, (if Expr.opCount vc.2 < 32 then
        match evalWritten s ps vc.2 with
        | some c => (vc.1, OptWrite.known c)
        | none => (vc.1, OptWrite.unknown)
      else (vc.1, OptWrite.unknown)).2 = .known e → VarsIn (NB R (g0 + driftL s1.insts)) e := by
    intro e he
    rw [h1.keep.drift]
    split at he
    · split at he
      · rename_i c hcc
        simp only [OptWrite.known.injEq] at he
        subst he
        exact evalWritten_varsIn ps hi.writ (hc vc hvc) hcc
      · cases he
    · cases he
  obtain ⟨a, b, c⟩ := insertWritten_inv h1.inv _ _ hv
  exact h1.trans ⟨a, b, c⟩

theorem foldl_read_pstep (vars : List Int) (s : Rebuild w) :
    PStep s (vars.foldl Opt.read s) ∧ (vars.foldl Opt.read s).pending = s.pending := by
  induction vars generalizing s with
  | nil => exact ⟨PStep.refl _, rfl⟩
  | cons v vs ih =>
    simp only [List.foldl_cons]
    obtain ⟨a, b⟩ := ih (Opt.read s v)
    exact ⟨(read_pstep s v).trans a, b.trans (read_pending s v)⟩

theorem reads_wstep {R g0 : Nat} {s : Rebuild w} (hi : Inv R g0 s) (calcs : List (Int × Expr w)) :
    WStep R g0 s (calcs.foldl (fun s vc => (Expr.variables vc.2).foldl Opt.read s) s) := by
  refine foldl_inv (fun s' => WStep R g0 s s') _ _ ?_ (WStep.refl hi)
  intro s1 vc _ h1
  obtain ⟨a, b⟩ := foldl_read_pstep (Expr.variables vc.2) s1
  exact h1.trans ⟨a.inv h1.inv, a.keep, b⟩

theorem emitStructured_step {R g0 : Nat} {s : Rebuild w} (ps : List (Rebuild w)) (hi : Inv R g0 s)
    {toEmit : List (List (Int × Expr w))} (hc : ∀ c ∈ toEmit, CalcsOk R (g0 + driftL s.insts) c) :
    WStep R g0 s (emitStructured s ps toEmit) := by
  unfold emitStructured
  refine foldl_inv (fun s' => WStep R g0 s s') _ _ ?_ (WStep.refl hi)
  intro s1 calcs hcalcs h1
  simp only
  have hok : CalcsOk R (g0 + driftL s1.insts) calcs := by rw [h1.keep.drift]; exact hc calcs hcalcs
  have h2 := reads_wstep h1.inv calcs
  have h3 := writtenCalcs_step ps h2.inv (calcs := calcs)
    (by rw [h2.keep.drift]; exact fun ve hve => (hok ve hve).2)
  have h4 := h2.trans h3
  generalize writtenCalcs (calcs.foldl (fun s vc => (Expr.variables vc.2).foldl Opt.read s) s1) ps calcs = s3
    at h3 h4
  have hd : driftL (s3.insts ++ [Instr.calc calcs]) = driftL s3.insts := by
    rw [driftL_snoc]; simp [driftI]
  refine h1.trans ⟨⟨?_, ?_, ?_, h4.inv.sorted, ?_⟩, ⟨?_, h4.keep.shift, h4.keep.subShift⟩, h4.pending⟩
  · show OkL R g0 (s3.insts ++ [Instr.calc calcs])
    rw [okL_snoc]
    refine ⟨h4.inv.insts, okI_calc_of ?_⟩
    rw [h4.keep.drift]; exact hok
  · show PendOk R (g0 + driftL (s3.insts ++ [Instr.calc calcs])) s3.pending
    rw [hd]; exact h4.inv.pend
  · show WritOk R (g0 + driftL (s3.insts ++ [Instr.calc calcs])) s3.written
    rw [hd]; exact h4.inv.writ
  · show s3.subShift = false → driftL (s3.insts ++ [Instr.calc calcs]) = 0
    rw [hd]; exact h4.inv.flat
  · show driftL (s3.insts ++ [Instr.calc calcs]) = driftL s1.insts
    rw [hd]; exact h4.keep.drift

structure EStep (R g0 : Nat) (s s' : Rebuild w) : Prop where
  inv : Inv R g0 s'
  keep : Keep s s'
  sub : s'.pending.Sublist s.pending

theorem EStep.refl {R g0 : Nat} {s : Rebuild w} (h : Inv R g0 s) : EStep R g0 s s :=
  ⟨h, Keep.refl _, List.Sublist.refl _⟩
theorem EStep.trans {R g0 : Nat} {a b c : Rebuild w} (h1 : EStep R g0 a b) (h2 : EStep R g0 b c) :
    EStep R g0 a c := ⟨h2.inv, h1.keep.trans h2.keep, h2.sub.trans h1.sub⟩

theorem WStep.estep {R g0 : Nat} {s s' : Rebuild w} (h : WStep R g0 s s') : EStep R g0 s s' :=
  ⟨h.inv, h.keep, by rw [h.pending]⟩

theorem PStep.estep {R g0 : Nat} {s s' : Rebuild w} (h : PStep s s') (hi : Inv R g0 s) : EStep R g0 s s' :=
  ⟨h.inv hi, h.keep, h.sub⟩

theorem gatherEmit_step {R g0 : Nat} {s : Rebuild w} (ps : List (Rebuild w)) (hi : Inv R g0 s)
    {var : Int} {os os' : Orders} {s1 : Rebuild w} {toEmit : List (List (Int × Expr w))}
    (h : (gatherForEmit s [var]).run os = .ok ((s1, toEmit), os')) :
    EStep R g0 s (emitStructured s1 ps toEmit) ∧ mGet (emitStructured s1 ps toEmit).pending var = none := by
  obtain ⟨a, b, c⟩ := gatherForEmit_spec h
  have h1 := a.estep hi
  have h2 := emitStructured_step ps h1.inv (toEmit := toEmit) (by
    rw [h1.keep.drift]
    exact fun cc hcc ve hve => hi.pend ve (b cc hcc ve hve))
  exact ⟨h1.trans h2.estep, by rw [h2.pending]; exact c hi.sorted⟩

/-- Stated on `emit` itself and not through `Along.tri_emit`: the second conclusion mentions `var`. -/
theorem emit_step {R g0 : Nat} {s : Rebuild w} (ps : List (Rebuild w)) (hi : Inv R g0 s) (var : Int)
    {os os' : Orders} {s' : Rebuild w} (h : (emit s ps var).run os = .ok (s', os')) :
    EStep R g0 s s' ∧ mGet s'.pending var = none := by
  unfold emit at h
  split at h
  · rw [run_bind_ok] at h
    obtain ⟨⟨s1, toEmit⟩, os1, h1, h2⟩ := h
    obtain ⟨rfl, _⟩ := run_pure_ok h2
    obtain ⟨a, b⟩ := gatherEmit_step ps hi h1
    exact ⟨a, b⟩
  · rename_i hh
    obtain ⟨rfl, _⟩ := run_pure_ok h
    refine ⟨EStep.refl hi, ?_⟩
    unfold mHas at hh
    cases hg : mGet s.pending var with
    | none => rfl
    | some e => rw [hg] at hh; simp at hh

/-- `EStep` is a preorder on the states with `Inv`: it holds along the folds of `emit`, `read`, `clobber`. -/
theorem estep_along (R g0 : Nat) : OptProof.Along (Inv R g0 (w := w)) (EStep R g0) :=
  ⟨fun _ h => EStep.refl h, fun _ _ _ => EStep.trans, fun _ _ _ r => r.inv⟩

theorem clobber_step {R g0 : Nat} {s : Rebuild w} (ps : List (Rebuild w)) (hi : Inv R g0 s) (var : Int)
    (maybe : Bool) {os os' : Orders} {s' : Rebuild w}
    (h : (clobber s ps var maybe).run os = .ok (s', os')) : EStep R g0 s s' :=
  ((estep_along R g0).tri_clobber (t := false)
    (fun _ _ hi => .ofRun fun _ _ _ hr => (gatherEmit_step ps hi hr).1)
    (fun s var hi => (removePending_pstep s var).estep hi)
    (fun _ var k hk hi =>
      let ⟨x, y, z⟩ := insertWritten_inv hi var k (fun e he => absurd he (hk e))
      ⟨x, y, by rw [z]⟩) s var maybe hi).post h

structure KStep (R g0 : Nat) (s s' : Rebuild w) : Prop where
  inv : Inv R g0 s'
  keep : Keep s s'

theorem KStep.refl {R g0 : Nat} {s : Rebuild w} (h : Inv R g0 s) : KStep R g0 s s := ⟨h, Keep.refl _⟩
theorem KStep.trans {R g0 : Nat} {a b c : Rebuild w} (h1 : KStep R g0 a b) (h2 : KStep R g0 b c) :
    KStep R g0 a c := ⟨h2.inv, h1.keep.trans h2.keep⟩
theorem EStep.kstep {R g0 : Nat} {s s' : Rebuild w} (h : EStep R g0 s s') : KStep R g0 s s' := ⟨h.inv, h.keep⟩

theorem emit_tri {R g0 : Nat} (ps : List (Rebuild w)) (s : Rebuild w) (var : Int) (hi : Inv R g0 s) :
    OptProof.Tri false (emit s ps var) (EStep R g0 s) :=
  .ofRun (fun _ _ _ h => (emit_step ps hi var h).1)

/-- Only `KStep`: `insertPending` adds entries, so `pending` is no sublist of what it was. -/
theorem performAll_tri {R g0 : Nat} {s : Rebuild w} (ps : List (Rebuild w)) (hi : Inv R g0 s) {shift : Int}
    {calcs : List (Int × Expr w)}
    (hc : ∀ vc ∈ calcs, NB R (g0 + driftL s.insts) (shift + vc.1) ∧
      VarsIn (fun x => NB R (g0 + driftL s.insts) (x + shift)) vc.2) :
    OptProof.Tri false (performAll s ps shift calcs) (KStep R g0 s) := by
  rw [OptProof.performAll_eq]
  refine ((estep_along R g0).tri_performCheck (emit_tri ps) calcs hi).bind (fun s1 hs1 =>
    (OptProof.performEval_tri false ps s1 shift calcs).bind (fun exprs hf => OptProof.Tri.pure ?_))
  have hd1 : driftL s1.insts = driftL s.insts := hs1.keep.drift
  have key : ∀ {cs es : List (Int × Expr w)},
      OptProof.All2 (fun vc ve => ve.1 = shift + vc.1 ∧ evalPending s1 ps shift vc.2 = .ok ve.2) cs es →
      (∀ vc ∈ cs, vc ∈ calcs) → ∀ sa, KStep R g0 s sa →
      KStep R g0 s (es.foldl (fun s ve => insertPending s ps ve.1 ve.2) sa) := by
    intro cs es hf
    induction hf with
    | nil => exact fun _ _ ha => ha
    | @cons vc ve _ _ hab _ ih =>
      intro hsub sa ha
      refine ih (fun x hx => hsub x (List.mem_cons_of_mem _ hx)) _ (ha.trans ?_)
      have hvc := hc vc (hsub vc List.mem_cons_self)
      have hd : driftL sa.insts = driftL s.insts := ha.keep.drift
      obtain ⟨a, b⟩ := insertPending_inv ps ha.inv (var := ve.1) (expr := ve.2)
        (by rw [hd, hab.1]; exact hvc.1)
        (by
          rw [hd, ← hd1]
          refine evalPending_varsIn ps (fun kv hkv => (hs1.inv.pend kv hkv).2) ?_ hab.2
          rw [hd1]; exact hvc.2)
      exact ⟨a, b⟩
  exact key hf (fun _ h => h) s1 hs1.kstep

theorem performAll_step {R g0 : Nat} {s : Rebuild w} (ps : List (Rebuild w)) (hi : Inv R g0 s) {shift : Int}
    {calcs : List (Int × Expr w)}
    (hc : ∀ vc ∈ calcs, NB R (g0 + driftL s.insts) (shift + vc.1) ∧
      VarsIn (fun x => NB R (g0 + driftL s.insts) (x + shift)) vc.2)
    {os os' : Orders} {s' : Rebuild w} (h : (performAll s ps shift calcs).run os = .ok (s', os')) :
    KStep R g0 s s' := (performAll_tri ps hi hc).post h

theorem emitAll_tri {R g0 : Nat} (ps : List (Rebuild w)) (vars : List Int) {s : Rebuild w}
    (hi : Inv R g0 s) : OptProof.Tri false (emitAll ps vars s) (EStep R g0 s) :=
  (estep_along R g0).tri_emitAll (emit_tri ps) vars hi

theorem emitReadAll_tri {R g0 : Nat} (ps : List (Rebuild w)) (vars : List Int) {s : Rebuild w}
    (hi : Inv R g0 s) : OptProof.Tri false (emitReadAll ps vars s) (EStep R g0 s) :=
  (estep_along R g0).tri_emitReadAll (emit_tri ps) (fun s var hi => (read_pstep s var).estep hi) vars hi

theorem clobberAll_tri {R g0 : Nat} (ps : List (Rebuild w)) (vars : List (Int × Bool)) {s : Rebuild w}
    (hi : Inv R g0 s) : OptProof.Tri false (clobberAll ps vars s) (EStep R g0 s) :=
  (estep_along R g0).tri_clobberAll (t := false)
    (fun _ var maybe hi => .ofRun (fun _ _ _ h => clobber_step ps hi var maybe h)) vars hi

theorem emitAll_gone {R g0 : Nat} (ps : List (Rebuild w)) : ∀ (vars : List Int) (s : Rebuild w),
    Inv R g0 s → ∀ (os os' : Orders) (s' : Rebuild w), (emitAll ps vars s).run os = .ok (s', os') →
    ∀ v ∈ vars, mGet s'.pending v = none := by
  intro vars
  induction vars with
  | nil => intro s _ os os' s' _ v hv; cases hv
  | cons x rest ih =>
    intro s hi os os' s' h v hv
    unfold emitAll at h
    rw [List.foldlM_cons, run_bind_ok] at h
    obtain ⟨s1, os1, h1, h2⟩ := h
    obtain ⟨a, b⟩ := emit_step ps hi x h1
    have h2' : (emitAll ps rest s1).run os1 = .ok (s', os') := h2
    rcases List.mem_cons.1 hv with e | e
    · subst e
      exact mGet_none_of_sublist ((emitAll_tri ps rest a.inv).post h2').sub b
    · exact ih s1 a.inv os1 os' s' h2' v e

theorem emitAll_pending_empty {R g0 : Nat} (ps : List (Rebuild w)) {s : Rebuild w} (hi : Inv R g0 s)
    {os os' : Orders} {s' : Rebuild w}
    (h : (emitAll ps (pendingSorted s s) s).run os = .ok (s', os')) : s'.pending = [] := by
  have hgone := emitAll_gone ps _ s hi os os' s' h
  have hsub := ((emitAll_tri ps _ hi).post h).sub
  apply eq_nil_of_mGet_none
  intro k hk
  apply hgone
  unfold pendingSorted
  rw [(Expr.stableSort_perm _ _).mem_iff]
  unfold mKeys at hk ⊢
  obtain ⟨kv, hkv, rfl⟩ := List.mem_map.1 hk
  exact List.mem_map.2 ⟨kv, hsub.subset hkv, rfl⟩

end Hpbf.OptOffs
