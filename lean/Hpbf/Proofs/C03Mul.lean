/-
C03: every arm of `JitGen.emitMul` is a derivation (`emitMul_sel`); that it performs the bytecode instruction
(`emitMul_impl`) and what it emits (`mul_emits`) are read off it. An arm that loads `b` first is a derivation of
`rv c b * rv c a`: hence the `rw [BitVec.mul_comm]` before it.
-/
import Hpbf.Proofs.C03Sel

namespace Hpbf
namespace C03

open Asm JitGen X86Sem

variable {w : Nat}

theorem emitMul_sel (sz : Size) (live : Nat) (c : Bc.Cfg w) {d a b : Bc.Loc w} {xs : List X86}
    (h : emitMul sz live d a b = some xs) : ISel sz live c [a, b] d (rv c a * rv c b) xs := by
  have ha : a ∈ [a, b] := List.mem_cons_self
  have hb : b ∈ [a, b] := List.mem_cons_of_mem _ List.mem_cons_self
  have scr01 : scr0 ≠ scr1 := by decide
  unfold emitMul at h
  split at h
  next i0 i1 v =>
    dsimp only at h
    cases h
    split
    · exact .viaScr0 ha (.mem i1) hb (.mulImm v ‹_›)
    · exact .st (.mulVia (.load .scr0 ha (.mem i1)) hb (.imm v) (.inr rfl) scr01 trivial)
  next i0 i1 t =>
    cases h
    exact .viaScr0 ha (.mem i1) hb (.mulTmp t)
  next i0 i1 i2 =>
    cases h
    exact .st (.mulVia (.load .scr0 ha (.mem i1)) hb (.mem i2) (.inr rfl) scr01 trivial)
  next i t v =>
    dsimp only at h
    split at h
    next r _ hr =>
      split at h <;> cases h
      next hs =>
        exact .st (.srcOp (.dead hr hs) ha hb (.mulImm v ‹_›))
      next =>
        rw [← tmpParam_reg hr]
        exact .st (.imul3 .scr0 ha v ‹_›)
    next =>
      cases h
      rw [BitVec.mul_comm]
      exact .viaScr0 hb (.imm v) ha (.mulTmp t)
  next i t0 t1 =>
    split at h
    next hs0 =>
      obtain ⟨r0, h0, rfl⟩ := Option.map_eq_some_iff.1 h
      exact .st (.srcOp (.dead h0 hs0) ha hb (.mulTmp t1))
    next hs0 =>
      split at h
      next hs1 =>
        obtain ⟨r1, h1, rfl⟩ := Option.map_eq_some_iff.1 h
        rw [BitVec.mul_comm]
        exact .st (.srcOp (.dead h1 hs1) hb ha (.mulTmp t0))
      next =>
        split at h <;> cases h
        · exact .viaScr0 ha (.tmp t0) hb (.mulTmp t1)
        · rw [BitVec.mul_comm]
          exact .viaScr0 hb (.tmp t1) ha (.mulTmp t0)
  next t i v =>
    dsimp only at h
    split at h
    next r hr =>
      split at h <;> cases h
      · exact .dst (.op (.load (.dst hr) ha (.mem i)) hb (.mulImm v ‹_›) trivial)
      · exact .dst (.mulVia (.load (.dst hr) ha (.mem i)) hb (.imm v) (.inl rfl) (tmp_ne_scr hr).1 trivial)
    next =>
      cases h
      split
      · exact .viaScr0 ha (.mem i) hb (.mulImm v ‹_›)
      · exact .st (.mulVia (.load .scr0 ha (.mem i)) hb (.imm v) (.inr rfl) scr01 trivial)
  next t0 i t1 =>
    have scr : ISel sz live c [.mem i, .tmp t1] (.tmp t0) (rv c (.mem i) * rv c (.tmp t1))
        [load sz i scr0, .imulRRm scr0 (tmpParam t1), st64 (tmpParam t0) scr0] :=
      .viaScr0 ha (.mem i) hb (.mulTmp t1)
    split at h
    next r0 h0 =>
      split at h <;> cases h
      next e =>
        exact .dst (.op (.load (.dst h0) ha (.mem i)) hb (.mulTmp t1) (fun e' => (bne_iff_ne.1 e) e'.symm))
      next => exact scr
    next => cases h; exact scr
  next t i0 i1 =>
    split at h <;> cases h
    next r hr =>
      exact .dst (.mulVia (.load (.dst hr) ha (.mem i0)) hb (.mem i1) (.inl rfl) (tmp_ne_scr hr).1 trivial)
    next =>
      exact .st (.mulVia (.load .scr0 ha (.mem i0)) hb (.mem i1) (.inr rfl) scr01 trivial)
  next t0 t1 v =>
    dsimp only at h
    have scr : ISel sz live c [.tmp t1, .imm v] (.tmp t0) (rv c (.tmp t1) * rv c (.imm v))
        [.movRImm64 scr0 (immI64 v), .imulRRm scr0 (tmpParam t1), st64 (tmpParam t0) scr0] := by
      rw [BitVec.mul_comm]
      exact .viaScr0 hb (.imm v) ha (.mulTmp t1)
    split at h
    next r0 h0 _ =>
      cases h
      exact .dst (.imul3 (.dst h0) ha v ‹_›)
    next =>
      split at h
      next r0 h0 =>
        split at h <;> cases h
        next e =>
          rw [BitVec.mul_comm]
          exact .dst (.op (.load (.dst h0) hb (.imm v)) ha (.mulTmp t1) (fun e' => (bne_iff_ne.1 e) e'.symm))
        next => exact scr
      next => cases h; exact scr
  next t0 t1 t2 =>
    split at h
    next e =>
      cases eq_of_beq e
      split at h <;> cases h
      next r0 h0 =>
        exact .dst (.srcOp (.dst h0) ha hb (.mulTmp t2))
      next =>
        rw [BitVec.mul_comm]
        exact .viaScr0 hb (.tmp t2) ha (.mulTmp t0)
    next e =>
      have e : t1 ≠ t0 := fun e' => e (beq_iff_eq.2 e'.symm)
      split at h
      next r0 h0 =>
        split at h <;> cases h
        next e2 =>
          simp only [Bool.and_eq_true, bne_iff_ne, ne_eq] at e2
          exact .dst (.op (.load (.dst h0) ha (.tmp t1)) hb (.mulTmp t2) (fun e' => e2.2 e'.symm))
        next =>
          rw [BitVec.mul_comm]
          exact .dst (.op (.load (.dst h0) hb (.tmp t2)) ha (.mulTmp t1) e)
      next =>
        cases h
        exact .viaScr0 ha (.tmp t1) hb (.mulTmp t2)
      next =>
        cases h
        rw [BitVec.mul_comm]
        exact .viaScr0 hb (.tmp t2) ha (.mulTmp t1)
  next t0 t1 i =>
    split at h
    next e =>
      cases eq_of_beq e
      split at h <;> cases h
      next r0 h0 =>
        exact .dst (.srcVia (.dst h0) ha hb (.mem i) (.inl rfl) (tmp_ne_scr h0).1 trivial)
      next =>
        rw [BitVec.mul_comm]
        exact .viaScr0 hb (.mem i) ha (.mulTmp t0)
    next => cases h
  next => cases h


theorem emitMul_impl {sz : Size} (hsz : sz.bits = w) (S : Nat → Prop) (live : Nat) (c : Bc.Cfg w)
    {d a b : Bc.Loc w} {xs : List X86} (h : emitMul sz live d a b = some xs) (hd : LocOk d)
    (ha : LocOk a) (hb : LocOk b) (hsa : SrcOk S a) (hsb : SrcOk S b) :
    Impl S live c d (rv c a * rv c b) xs :=
  (emitMul_sel sz live c h).impl hsz (srcs_ok ha hb hsa hsb) hd

theorem mul_emits (sz : Size) (live : Nat) (d a b : Bc.Loc w) : Emits sz [d, a, b] (emitMul sz live d a b) :=
  emits_of_sel fun c _ => emitMul_sel sz live c

end C03
end Hpbf
