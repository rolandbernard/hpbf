/-
C01, level 0: what `Program::parse` emits, as an induction principle.  The instructions `C01.comp` produces are
additions, the folded `load 0`, input, output and loops built by `closeI` (never marked `once`) of such
(`comp_induct`); a text the parser accepts is balanced (`C12.parse_ok_iff_tree_isSome`) and on it the parser is
`comp` (`parse_of_tree`), so the same holds of every instruction of a parsed block (`parse_induct`).  A property of
the parser's output that is checked instruction by instruction is five one-line cases of this.
-/
import Hpbf.Proofs.C01Comp
import Hpbf.Props.C12

namespace Hpbf
namespace C01
open Ir

variable {w : Nat} {P : Instr w → Prop}

theorem addsOf_induct (hadd : ∀ k c, P (Instr.add k c)) : ∀ l : List (Int × BitVec w), ∀ i ∈ addsOf l, P i := by
  intro l
  induction l with
  | nil => intro i hi; cases hi
  | cons kv l ih =>
    obtain ⟨k, v⟩ := kv
    by_cases hv : v = 0#w
    · rw [hv, addsOf_cons_zero]; exact ih
    · rw [addsOf_cons_ne k hv]
      intro i hi
      rcases List.mem_cons.1 hi with rfl | hi
      · exact hadd k v
      · exact ih i hi

variable (hadd : ∀ k c, P (Instr.add k c)) (hload : ∀ k, P (Instr.load k 0#w)) (hout : ∀ k, P (.output k))
  (hin : ∀ k, P (.input k)) (hloop : ∀ c sh body, (∀ i ∈ body, P i) → P (.loop c sh body false))
include hadd hload hout hin hloop

theorem comp_induct : ∀ (q : Prog) (f : Fr w), ∀ i ∈ (comp q f).1, P i := by
  have flushOne_ok : ∀ (bf : List (Int × BitVec w)) (k : Int), ∀ i ∈ (flushOneI bf k).1, P i := by
    intro bf k i hi
    unfold flushOneI at hi
    split at hi
    · cases hi
    · split at hi
      · rw [List.mem_singleton.1 hi]; exact hadd _ _
      · cases hi
  have flushMany_ok : ∀ (ks : List Int) (bf : List (Int × BitVec w)), ∀ i ∈ (flushManyI bf ks).1, P i := by
    intro ks
    induction ks with
    | nil => intro bf i hi; cases hi
    | cons k ks ih =>
      intro bf i hi
      rw [flushManyI] at hi
      rcases List.mem_append.1 hi with hi | hi
      · exact flushOne_ok bf k i hi
      · exact ih _ i hi
  have compOp_ok : ∀ (op : Op) (f : Fr w), ∀ i ∈ (compOp op f).1, P i := by
    intro op f i hi
    cases op <;> simp only [compOp, List.mem_append, List.mem_singleton, List.not_mem_nil] at hi
    · rw [hi]; exact hin _
    · rcases hi with hi | rfl
      · exact flushOne_ok _ _ i hi
      · exact hout _
  have closeI_ok : ∀ (ib : List (Instr w)) (fb par : Fr w), (∀ i ∈ ib, P i) → ∀ i ∈ (closeI ib fb par).1, P i := by
    intro ib fb par hib i hi
    unfold closeI at hi
    split at hi
    · rw [List.mem_singleton.1 hi]; exact hload _
    · simp only [List.mem_append, List.mem_singleton] at hi
      rcases hi with ((hi | hi) | hi) | rfl
      · exact flushMany_ok _ _ i hi
      · split at hi
        · exact addsOf_induct hadd _ i hi
        · cases hi
      · exact flushOne_ok _ _ i hi
      · refine hloop _ _ _ fun j hj => ?_
        rcases List.mem_append.1 hj with hj | hj
        · exact hib j hj
        · exact addsOf_induct hadd _ j hj
  intro q
  induction q with
  | nil => intro f i hi; cases hi
  | cmd op r ih =>
    intro f i hi
    rw [comp] at hi
    rcases List.mem_append.1 hi with hi | hi
    · exact compOp_ok op f i hi
    · exact ih _ i hi
  | loop b r ihb ihr =>
    intro f i hi
    rw [comp] at hi
    rcases List.mem_append.1 hi with hi | hi
    · exact closeI_ok _ _ _ (ihb _) i hi
    · exact ihr _ i hi

theorem parse_induct {src : List Kind} {b : Block w} (h : Ir.parse (w := w) src = .ok b) : ∀ i ∈ b.insts, P i := by
  have ht := (C12.parse_ok_iff_tree_isSome (w := w) src).1 ⟨b, h⟩
  cases hp : Bf.tree src with
  | none => rw [hp] at ht; cases ht
  | some p =>
    rw [parse_of_tree hp] at h
    cases h
    intro i hi
    rcases List.mem_append.1 hi with hi | hi
    · exact comp_induct hadd hload hout hin hloop p _ i hi
    · exact addsOf_induct hadd _ i hi

end C01
end Hpbf
