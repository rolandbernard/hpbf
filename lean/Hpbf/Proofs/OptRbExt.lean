/-
Extensionality of the big-step semantics.  `Tape` is an association list, so two states
can have the same contents without being equal; `StEq` (`OptRbAgree`) is equality of states up to the representation
of the tape, and `Exec` / `Bad` / `Head` cannot tell `StEq` states apart: the agreement theorems of `OptRbAgree` for
the empty set of differing addresses.
-/
import Hpbf.Proofs.OptRbAgree
import Hpbf.Proofs.OptRbLoopSem

namespace Hpbf
namespace OptProof
open Opt OptSem Ir

variable {w : Nat}

theorem StEq.refl (σ : State w) : StEq σ σ := ⟨rfl, rfl, rfl, fun _ => rfl⟩

theorem StEq.symm {σ σ' : State w} (h : StEq σ σ') : StEq σ' σ :=
  ⟨h.1.symm, h.2.1.symm, h.2.2.1.symm, fun i => (h.2.2.2 i).symm⟩

theorem StEq.trans {a b c : State w} (h : StEq a b) (h' : StEq b c) : StEq a c :=
  ⟨h.1.trans h'.1, h.2.1.trans h'.2.1, h.2.2.1.trans h'.2.2.1, fun i => (h.2.2.2 i).trans (h'.2.2.2 i)⟩

theorem StEq.of_eq {σ σ' : State w} (h : σ = σ') : StEq σ σ' := h ▸ StEq.refl σ

theorem StEq.ptr_eq {σ σ' : State w} (h : StEq σ σ') : σ.ptr = σ'.ptr := h.1
theorem StEq.env_eq {σ σ' : State w} (h : StEq σ σ') : σ.env = σ'.env := h.2.1
theorem StEq.trace_eq {σ σ' : State w} (h : StEq σ σ') : σ.trace = σ'.trace := h.2.2.1
theorem StEq.get_eq {σ σ' : State w} (h : StEq σ σ') (i : Int) : σ.tape.get i = σ'.tape.get i := h.2.2.2 i

theorem StEq.mov {σ σ' : State w} (h : StEq σ σ') (d : Int) : StEq (σ.mov d) (σ'.mov d) :=
  ⟨by show σ.ptr + d = σ'.ptr + d; rw [h.1], h.2.1, h.2.2.1, h.2.2.2⟩

theorem StEq.rd {σ σ' : State w} (h : StEq σ σ') (v : Int) : σ.rd v = σ'.rd v := by
  show σ.tape.get (σ.ptr + v) = σ'.tape.get (σ'.ptr + v)
  rw [h.1, h.2.2.2]

theorem StEq.doCalc {σ σ' : State w} (h : StEq σ σ') (g : List (Int × Expr w)) :
    StEq (doCalc σ g) (doCalc σ' g) :=
  (((AgreeAbs.of_stEq h).doCalc g nofun).mono fun _ hk => hk.1).stEq

theorem StEq.foldl_doCalc {σ σ' : State w} (h : StEq σ σ') (gs : List (List (Int × Expr w))) :
    StEq (gs.foldl Ir.doCalc σ) (gs.foldl Ir.doCalc σ') := by
  induction gs generalizing σ σ' with
  | nil => exact h
  | cons g gs ih => exact ih (h.doCalc g)

theorem StEq.memOf {σ σ' : State w} (h : StEq σ σ') (o : Int) : memOf σ o = memOf σ' o :=
  funext (fun v => h.2.2.2 (o + v))

theorem StEq.memE {σ σ' : State w} (h : StEq σ σ') : memE σ = memE σ' := by
  show OptSem.memOf σ σ.ptr = OptSem.memOf σ' σ'.ptr
  rw [h.1, h.memOf]

theorem StEq.memS {σ σ' : State w} (h : StEq σ σ') (σE : State w) : memS σE σ = memS σE σ' :=
  h.memOf σE.ptr

theorem StEq.memS_left {σE σE' : State w} (h : StEq σE σE') (σS : State w) :
    Hpbf.OptProof.memS σE σS = Hpbf.OptProof.memS σE' σS := by
  show OptSem.memOf σS σE.ptr = OptSem.memOf σS σE'.ptr
  rw [h.1]

theorem StEq.output {σ σ' : State w} (h : StEq σ σ') (src : Int) :
    (σ.output src).1 = (σ'.output src).1 ∧ StEq (σ.output src).2 (σ'.output src).2 :=
  let ⟨h1, h2⟩ := (AgreeAbs.of_stEq (Kd := fun _ => False) h).output id
  ⟨h1, h2.stEq⟩

def OutEq : Out w → Out w → Prop
  | .fin a, .fin b => StEq a b
  | .stop a, .stop b => StEq a b
  | .part t, .part t' => t = t'
  | _, _ => False

theorem OutEq.refl (o : Out w) : OutEq o o := by
  cases o with
  | fin a => exact StEq.refl a
  | stop a => exact StEq.refl a
  | part t => exact rfl

theorem OutEq.symm {o o' : Out w} (h : OutEq o o') : OutEq o' o := by
  cases o <;> cases o' <;> simp only [OutEq] at h ⊢
  · exact h.symm
  · exact h.symm
  · exact h.symm

theorem OutEq.fin_left {a : State w} {o' : Out w} (h : OutEq (.fin a) o') : ∃ b, o' = .fin b ∧ StEq a b := by
  cases o' with
  | fin b => exact ⟨b, rfl, h⟩
  | stop _ => exact h.elim
  | part _ => exact h.elim

theorem OutEq.stop_left {a : State w} {o' : Out w} (h : OutEq (.stop a) o') :
    ∃ b, o' = .stop b ∧ StEq a b := by
  cases o' with
  | fin _ => exact h.elim
  | stop b => exact ⟨b, rfl, h⟩
  | part _ => exact h.elim

theorem OutEq.part_left {t : List Ev} {o' : Out w} (h : OutEq (.part t) o') : o' = .part t := by
  cases o' with
  | fin _ => exact h.elim
  | stop _ => exact h.elim
  | part t' => cases (h : t = t'); rfl

theorem OutEq.trace_eq {o o' : Out w} (h : OutEq o o') : o.trace = o'.trace := by
  cases o <;> cases o' <;> first | exact h.elim | exact StEq.trace_eq h | exact h

/-- The runs from `StEq` states mirror each other: `agree_execK` for the empty set of differing addresses. -/
theorem exec_ext {is : List (Instr w)} {σ σ' : State w} {o : Out w} (h : Exec is σ o) (he : StEq σ σ') :
    ∃ o', Exec is σ' o' ∧ OutEq o o' := by
  obtain ⟨o', h1, h2⟩ := agree_execK h (fun _ => False) σ' (.of_stEq he) nofun
  refine ⟨o', h1, ?_⟩
  cases o with
  | fin x => obtain ⟨y, rfl, hxy⟩ := h2; exact (hxy.mono fun _ hk => hk.1).stEq
  | stop x => obtain ⟨y, rfl, hxy⟩ := h2; exact hxy.stEq
  | part t => cases (h2 : o' = _); rfl

theorem exec_ext_fin {is : List (Instr w)} {σ σ' a : State w} (h : Exec is σ (.fin a)) (he : StEq σ σ') :
    ∃ b, Exec is σ' (.fin b) ∧ StEq a b := by
  obtain ⟨o', ho', hq⟩ := exec_ext h he
  obtain ⟨b, rfl, hb⟩ := hq.fin_left
  exact ⟨b, ho', hb⟩

theorem bad_ext {is : List (Instr w)} {σ σ' : State w} (h : Bad is σ) (he : StEq σ σ') : Bad is σ' :=
  bad_agree h (fun _ => False) σ' (.of_stEq he) nofun

theorem Sim.of_stEq {is : List (Instr w)} {σ σ' : State w} (he : StEq σ σ') :
    Sim (fun a b => StEq a b) is is σ σ' :=
  (sim_of_unexposed is σ σ' (fun _ => False) (.of_stEq he) nofun).mono
    fun _ _ h => (h.mono fun _ hk => hk.1).stEq

theorem head_ext {c sh : Int} {body : List (Instr w)} {σ σ' σk : State w} {k : Nat}
    (h : Head c sh body σ k σk) (he : StEq σ σ') : ∃ σk', Head c sh body σ' k σk' ∧ StEq σk σk' := by
  induction h with
  | zero => exact ⟨σ', .zero, he⟩
  | succ _ hnz hb ih =>
    obtain ⟨σk', hh', hek⟩ := ih
    obtain ⟨σ1', hb', he1⟩ := exec_ext_fin hb hek
    exact ⟨σ1'.mov sh, .succ hh' (hek.rd _ ▸ hnz) hb', he1.mov sh⟩

#print axioms StEq.doCalc
#print axioms StEq.memE
#print axioms StEq.memS
#print axioms exec_ext
#print axioms bad_ext
#print axioms Sim.of_stEq
#print axioms head_ext

end OptProof
end Hpbf
