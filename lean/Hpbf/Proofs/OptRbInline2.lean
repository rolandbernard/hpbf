/-
`inline` of a child that contains an uncertain pointer move (`sub.subShift`):
the parent emits everything and forgets; the child's knowledge (relative to the memory after its last move)
becomes the parent's.
-/
import Hpbf.Proofs.OptRbInline

namespace Hpbf
namespace OptProof
open Opt OptSem Ir

variable {w : Nat}

/-- `clobber` when nothing is pending: only the mark is recorded. -/
theorem clobber_nopending {s : Rebuild w} (ps : List (Rebuild w)) (hwf : Wf s) (hp : s.pending = [])
    (var : Int) (maybe : Bool) {os os' : Orders} {s' : Rebuild w}
    (hr : (clobber s ps var maybe).run os = .ok (s', os')) :
    Wf s' ∧ s'.pending = [] ∧ s'.insts = s.insts ∧ SameHdr s s' ∧ s'.noReturn = s.noReturn ∧
    s'.subAnal = s.subAnal ∧
    s'.written = mSet s.written var (if maybe then .maybe else .unknown) := by
  unfold clobber at hr
  rw [run_bind_ok] at hr
  obtain ⟨⟨s2, toEmit⟩, os1, h1, h2⟩ := hr
  rw [run_pure] at h2
  cases h2
  have hs0 : (if !maybe then (removePending s var).1 else s) = s := by
    cases maybe with
    | true => rfl
    | false => exact removePending_of_none (by rw [hp]; rfl)
  rw [hs0] at h1
  obtain ⟨⟨g1, g2, g3, g6, g7, _, _⟩, _, _⟩ := gatherForEmit_spec hwf var h1
  have hte : toEmit = [] := by
    cases toEmit with
    | nil => rfl
    | cons g rest =>
      have hne := (g6 g (by simp)).2
      cases g with
      | nil => exact absurd rfl hne
      | cons ve g' =>
        have := g7 (ve :: g') (by simp) ve (by simp)
        rw [hp] at this; simp [mGet] at this
  subst hte
  have hes : emitStructured s2 ps [] = s2 := rfl
  rw [hes]
  have hp2 : s2.pending = [] := by
    apply mGet_all_none_nil
    intro k
    cases h : mGet s2.pending k with
    | none => rfl
    | some e => have := g3 k e h; rw [hp] at this; simp [mGet] at this
  have hk : ∀ e, (if maybe then OptWrite.maybe else OptWrite.unknown : OptWrite w) ≠ .known e := by
    intro e; split <;> simp
  obtain ⟨i1, i2, i3, i4, i5, i6, i7, i8, i9, i10, i11⟩ := insertWritten_same s2 var (if maybe then .maybe else .unknown)
  refine ⟨insertWritten_wf g1 _ _, by rw [i8]; exact hp2, by rw [i10, g2.insts],
    g2.hdr.trans ⟨i1, i2, i3, i4, i5⟩, by rw [i6, g2.noReturn], by rw [i11, g2.subAnal], ?_⟩
  rw [insertWritten_written, normW_nonknown _ hk, g2.written]

theorem clobberAll_nopending {s : Rebuild w} (ps : List (Rebuild w)) (cl : List (Int × Bool)) (hwf : Wf s)
    (hp : s.pending = []) {os os' : Orders} {s' : Rebuild w}
    (hr : (clobberAll ps cl s).run os = .ok (s', os')) :
    Wf s' ∧ s'.pending = [] ∧ s'.insts = s.insts ∧ SameHdr s s' ∧ s'.noReturn = s.noReturn ∧
    s'.subAnal = s.subAnal ∧
    (∀ v, (∃ b, (v, b) ∈ cl) → ∃ k, mGet s'.written v = some k ∧ ∀ e, k ≠ .known e) ∧
    (∀ v, (¬ ∃ b, (v, b) ∈ cl) → mGet s'.written v = mGet s.written v) := by
  induction cl generalizing s os with
  | nil =>
    unfold clobberAll at hr
    rw [List.foldlM_nil, run_pure] at hr
    cases hr
    exact ⟨hwf, hp, rfl, SameHdr.refl _, rfl, rfl, fun v ⟨b, hb⟩ => absurd hb (by simp), fun _ _ => rfl⟩
  | cons vb rest ih =>
    unfold clobberAll at hr
    rw [List.foldlM_cons, run_bind_ok] at hr
    obtain ⟨s1, os1, h1, h2⟩ := hr
    obtain ⟨a1, a2, a3, a4, a5, a6, a7⟩ := clobber_nopending ps hwf hp vb.1 vb.2 h1
    obtain ⟨b1, b2, b3, b4, b5, b6, b7, b8⟩ := ih a1 a2 (show (clobberAll ps rest s1).run os1 = _ from h2)
    refine ⟨b1, b2, b3.trans a3, a4.trans b4, b5.trans a5, b6.trans a6, ?_, ?_⟩
    · rintro v ⟨b, hb⟩
      by_cases hin : ∃ b', (v, b') ∈ rest
      · exact b7 v hin
      · rw [b8 v hin, a7, mGet_mSet]
        rcases List.mem_cons.1 hb with e | e
        · have : vb.1 = v := by rw [← e]
          rw [if_pos this]
          exact ⟨_, rfl, fun e' => by split <;> simp⟩
        · exact absurd ⟨b, e⟩ hin
    · intro v hv
      have hin : ¬ ∃ b', (v, b') ∈ rest := fun ⟨b', hb'⟩ => hv ⟨b', List.mem_cons_of_mem _ hb'⟩
      rw [b8 v hin, a7, mGet_mSet]
      have : ¬ vb.1 = v := fun e => hv ⟨vb.2, by rw [← e]; simp⟩
      rw [if_neg this]

/-- The parent's `written` after splicing a child that moved the pointer: the child's knowledge, relative to the
child's reference memory. -/
theorem inline_shift_wrok {ps : List (Rebuild w)} {s2 sub : Rebuild w} {M0c Eb : Mem w} (hwfc : Wf sub)
    (h2k : ∀ v, (∃ k, (v, k) ∈ sub.written) → ∃ k, mGet s2.written v = some k ∧ ∀ e, k ≠ .known e)
    (h2n : ∀ v, (¬ ∃ k, (v, k) ∈ sub.written) → mGet s2.written v = none)
    (hpar : s2.parent = .unknown) (hsub : s2.subShift = true) (hwy : WrOk sub M0c Eb)
    (insts' : List (Instr w)) :
    WrOk (writtenCalcs { s2 with insts := insts' } ps (knownsOf sub)) M0c Eb := by
  have hw2 : WrOk ({ s2 with insts := insts' } : Rebuild w) M0c M0c := by
    intro v
    show match mGet s2.written v with
      | some (.known e) => M0c v = ev e M0c
      | some _ => True
      | none => M0c v = M0c v
    by_cases hv : ∃ k, (v, k) ∈ sub.written
    · obtain ⟨k, hk1, hk2⟩ := h2k v hv
      rw [hk1]
      cases k with
      | known e => exact absurd rfl (hk2 e)
      | unknown => trivial
      | maybe => trivial
    · rw [h2n v hv]
  have hpk : PK ({ s2 with insts := insts' } : Rebuild w) ps M0c := pk_unknown ps M0c hpar hsub
  obtain ⟨_, _, hwr⟩ := writtenCalcs_eq ({ s2 with insts := insts' } : Rebuild w) ps (knownsOf sub)
  intro v
  rw [hwr]
  have hnd : (((knownsOf sub).map (fun vc => (vc.1, knownOf ({ s2 with insts := insts' } : Rebuild w) ps vc.2))).map
      (·.1)).Nodup := by
    rw [List.map_map]; exact nodup_knownsOf hwfc.writ
  by_cases hv : v ∈ (knownsOf sub).map (·.1)
  · obtain ⟨ve, hve, rfl⟩ := List.mem_map.1 hv
    rw [mGet_foldl_mSet_in _ _ ve.1 (knownOf ({ s2 with insts := insts' } : Rebuild w) ps ve.2) hnd
      (List.mem_map.2 ⟨ve, hve, rfl⟩)]
    have hkn : mGet sub.written ve.1 = some (.known ve.2) := (mem_knownsOf hwfc.writ ve.1 ve.2).1 hve
    by_cases hop : Expr.opCount ve.2 < 32
    · cases hc : evalWritten ({ s2 with insts := insts' } : Rebuild w) ps ve.2 with
      | none => simp only [knownOf, hop, hc, if_true]
      | some c =>
        simp only [knownOf, hop, hc, if_true]
        rw [hwy.known hkn, ← evalWritten_sound' hw2 hpk hc]
        exact (Expr.eval_normalize c M0c).symm
    · simp only [knownOf, hop, if_false]
  · have hv' : v ∉ ((knownsOf sub).map (fun vc => (vc.1, knownOf ({ s2 with insts := insts' } : Rebuild w) ps vc.2))).map
        (·.1) := by
      rw [List.map_map]; exact hv
    rw [mGet_foldl_mSet_notin _ _ _ hv']
    show match mGet s2.written v with
      | some (.known e) => Eb v = ev e M0c
      | some _ => True
      | none => Eb v = M0c v
    by_cases hvw : ∃ k, (v, k) ∈ sub.written
    · obtain ⟨k, hk1, hk2⟩ := h2k v hvw
      rw [hk1]
      cases k with
      | known e => exact absurd rfl (hk2 e)
      | unknown => trivial
      | maybe => trivial
    · rw [h2n v hvw]
      have : mGet sub.written v = none := by
        cases h : mGet sub.written v with
        | none => rfl
        | some k => exact absurd ⟨k, OptLoop.mem_of_mGet h⟩ hvw
      exact hwy.absent this

theorem inline_shift_ok {shP shC shS cS : Int} {bodyS : List (Instr w)}
    {s : Rebuild w} {ps : List (Rebuild w)} {sub : Rebuild w} {pc : List (Rebuild w)} {sub0 : Rebuild w}
    {os os' : Orders} {s' : Rebuild w} {G Gc : State w → Prop}
    (hr : (Opt.inline s ps sub).run os = .ok (s', os'))
    (hwf : Wf s) (hwfc : Wf sub) (hss : sub.subShift = true)
    (hrep : ChildRep Gc shP shC pc sub0 [] sub bodyS)
    (hentry : EntryAt Gc shP cS pc sub0)
    (hne : ∀ M0 σE σS, RelAt shP s ps M0 σE σS → G σS → σS.rd cS ≠ 0#w)
    (hGc : ∀ M0 σE σS, RelAt shP s ps M0 σE σS → G σS → Gc σS) :
    Wf s' ∧ s'.subShift = true ∧ s'.anal = s.anal ∧ s'.cond = s.cond ∧
    (sub.noReturn = true → s'.noReturn = true) ∧ (sub.noReturn = false → s'.shift = sub.shift) ∧
    ∃ new, s'.insts = s.insts ++ new ∧
      ∀ M0 σE σS, RelAt shP s ps M0 σE σS → G σS →
        Sim (fun a b => StepQ (shC + shS) ps s' M0 σE (a.mov shS) b) bodyS new σS σE ∧ ¬ Bad new σE := by
  rw [inline_eq, if_pos hss, run_bind_ok] at hr
  obtain ⟨s0, os0, h0, h1⟩ := hr
  rw [run_bind_ok] at h1
  obtain ⟨s1, os1, h1', h2⟩ := h1
  rw [run_pure] at h1'
  cases h1'
  obtain ⟨cP, resP, hclP⟩ := emitAll_clears ps (pendingSorted s s) hwf
    (fun k hk => (Hpbf.OptLoop.mem_pendingSorted s s k).2 hk) h0
  obtain ⟨u1, u2, u3, u4, u5, u6, u7, u8, u9, u10⟩ := uncertainShift_fields s0
  have hwf1 := uncertainShift_wf resP.wf
  obtain ⟨s2, os2, s4, h3, h4, rfl⟩ := inlineRest_run h2
  -- the fold over `sub.written` changes nothing but the list
  obtain ⟨i1, i2, i3, i4, _, _, _⟩ := cfold_spec ps (OptLoop.unknown true) [] sub.written (uncertainShift s0, []) hwf1
  rw [← ifold_eq] at i1 i2 i3 i4
  have hpf : (sub.written.foldl ifold (uncertainShift s0, [])).1.pending = [] := by
    apply mGet_all_none_nil
    intro k
    cases h : mGet (sub.written.foldl ifold (uncertainShift s0, [])).1.pending k with
    | none => rfl
    | some e =>
      have := i3 k e h
      rw [u4, hclP] at this; simp [mGet] at this
  obtain ⟨c1, c2, c3, c4, c5, c6, c7, c8⟩ := clobberAll_nopending ps _ i1 hpf h3
  have hmemcl : ∀ v, (∃ b, (v, b) ∈ Expr.stableSort (fun (a b : Int × Bool) => decide (a.1 ≤ b.1))
      (sub.written.foldl ifold (uncertainShift s0, [])).2) ↔ ∃ k, (v, k) ∈ sub.written := by
    intro v
    constructor
    · rintro ⟨b, hb⟩
      rw [(Expr.stableSort_perm _ _).mem_iff, i4] at hb
      rcases hb with h | ⟨vk, hvk, _, e⟩
      · simp at h
      · simp only [Prod.mk.injEq] at e
        exact ⟨vk.2, by rw [e.1]; exact hvk⟩
    · rintro ⟨k, hk⟩
      refine ⟨k.isMaybe || !(OptLoop.unknown true : OptLoop w).atLeastOnce, ?_⟩
      rw [(Expr.stableSort_perm _ _).mem_iff, i4]
      exact Or.inr ⟨(v, k), hk, by simp, rfl⟩
  have h2k : ∀ v, (∃ k, (v, k) ∈ sub.written) → ∃ k, mGet s2.written v = some k ∧ ∀ e, k ≠ .known e :=
    fun v hv => c7 v ((hmemcl v).2 hv)
  have h2n : ∀ v, (¬ ∃ k, (v, k) ∈ sub.written) → mGet s2.written v = none := by
    intro v hv
    rw [c8 v (fun h => hv ((hmemcl v).1 h)), i2.written, u3]; rfl
  have hhdr2 : SameHdr (uncertainShift s0) s2 := i2.hdr.trans c4
  have hpar2 : s2.parent = .unknown := by rw [hhdr2.parent]; exact u1
  have hsub2 : s2.subShift = true := by rw [hhdr2.subShift]; exact u2
  have hanal2 : s2.anal = s.anal := by rw [hhdr2.anal, u9, resP.hdr.anal]
  have hcond2 : s2.cond = s.cond := by rw [hhdr2.cond, u10, resP.hdr.cond]
  obtain ⟨hsame3, _, hwr3⟩ := writtenCalcs_eq ({ s2 with insts := s2.insts ++ sub.insts } : Rebuild w) ps (knownsOf sub)
  have hwf3 : Wf (writtenCalcs ({ s2 with insts := s2.insts ++ sub.insts } : Rebuild w) ps (knownsOf sub)) := by
    refine ⟨by rw [hsame3.pending]; exact c1.pend, ?_, by rw [hsame3.reverse]; exact c1.rev,
      by rw [hsame3.pending, hsame3.reverse]; exact c1.revOk⟩
    rw [hwr3]; exact sorted_foldl_mSet _ c1.writ
  have hinsts3 : (writtenCalcs ({ s2 with insts := s2.insts ++ sub.insts } : Rebuild w) ps (knownsOf sub)).insts
      = s.insts ++ cP.map Instr.calc ++ sub.insts := by
    rw [hsame3.insts]
    show s2.insts ++ sub.insts = _
    rw [c3, i2.insts, u8, resP.insts]
  have hp3 : (writtenCalcs ({ s2 with insts := s2.insts ++ sub.insts } : Rebuild w) ps (knownsOf sub)).pending = [] := by
    rw [hsame3.pending]; exact c2
  have hpar3 : (writtenCalcs ({ s2 with insts := s2.insts ++ sub.insts } : Rebuild w) ps (knownsOf sub)).parent = .unknown := by
    rw [hsame3.1]; exact hpar2
  have hsub3 : (writtenCalcs ({ s2 with insts := s2.insts ++ sub.insts } : Rebuild w) ps (knownsOf sub)).subShift = true := by
    rw [hsame3.subShift]; exact hsub2
  have hnr3 : (writtenCalcs ({ s2 with insts := s2.insts ++ sub.insts } : Rebuild w) ps (knownsOf sub)).noReturn
      = s.noReturn := by
    rw [hsame3.noReturn]
    show s2.noReturn = _
    rw [c5, i2.noReturn, u7, resP.noRet]
  have hcore : ∀ M0 σE σS, RelAt shP s ps M0 σE σS → G σS →
      Sim (fun a b => ∃ M0c, RelAt shC sub [] M0c b a ∧
          MInv (writtenCalcs ({ s2 with insts := s2.insts ++ sub.insts } : Rebuild w) ps (knownsOf sub)) ps M0c
            (memE b) (memE b))
        bodyS (cP.map Instr.calc ++ sub.insts) σS σE ∧ ¬ Bad (cP.map Instr.calc ++ sub.insts) σE := by
    intro M0 σE σS hrel hG
    have hrel1 := resP.relAt hrel
    have hm1 : SameMem shP σS (cP.foldl doCalc σE) := hrel1.sameMem hclP
    obtain ⟨M0c, hre⟩ := hentry _ _ hm1 (hne M0 σE σS hrel hG) (hGc M0 σE σS hrel hG)
    obtain ⟨hs, hb⟩ := hrep M0c _ _ hre (hGc M0 σE σS hrel hG)
    refine ⟨Sim.calcs_right cP (hs.mono ?_), by rw [bad_calcs_iff]; exact hb⟩
    rintro a b ⟨M0', hr', _⟩
    refine ⟨M0', hr', by rw [hp3, par_nil], ?_, pk_unknown ps M0' hpar3 hsub3⟩
    exact inline_shift_wrok hwfc h2k h2n hpar2 hsub2 hr'.inv.writ _
  obtain ⟨e1, e2, e3, e4, e5, e6, e7, new2, hi4, hend⟩ := inlineEnd_ok (shC := shC) (shS := shS) h4 hwf3 hwfc.pend
    (fun s5 M1 hh _ => pk_unknown ps M1 (hh.parent.trans hpar3) (hh.subShift.trans hsub3))
  refine ⟨⟨e1.pend, e1.writ, e1.rev, e1.revOk⟩, e5.trans hsub3, e3.trans (hsame3.anal.trans hanal2),
    e4.trans (hsame3.cond.trans hcond2), e6, e7, (cP.map Instr.calc ++ sub.insts) ++ new2, ?_, ?_⟩
  · show s4.insts = _
    rw [hi4, hinsts3]; simp only [List.append_assoc]
  · intro M0 σE σS hrel hG
    obtain ⟨hs, hb⟩ := hcore M0 σE σS hrel hG
    refine hend (hnr3.trans hrel.nr) (hs.mono ?_) hb
    rintro a b ⟨M0c, hr', hm3⟩
    exact ⟨b, M0c, M0c, hr', rfl, hr'.tr, hr'.env, hm3, fun h => absurd (hsub3.symm.trans h) (by simp)⟩

end OptProof
end Hpbf
