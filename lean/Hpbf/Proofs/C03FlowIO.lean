/-
C03 (control flow): `inp` and `out`. `call_seq` is the code of a runtime call (register saving, arguments,
`call`, restoring) for any of the three runtime functions; `guard_term` is a failure test followed by the jump to the
termination label; `flow_inp` / `flow_out` put the two together.
-/
import Hpbf.Proofs.C03FlowCall
import Hpbf.Proofs.C03FlowBranch
namespace Hpbf
namespace C03
open Asm JitGen X86Sem X86Prog
variable {w : Nat}

theorem immVal_addr (a : BitVec 64) : immVal (BitVec.ofNat 64 a.toNat).toInt = a := by
  simp [immVal]

theorem call_input {cfg : Cfg} {x : X86} {s : PState w} (hal : s.regs.rsp.toNat % 16 = 0)
    (hrdi : s.regs.rdi = cfg.cxtAddr) :
    call cfg x s cfg.aI = .next (match s.env.readByte with
      | .got b e =>
        { s with regs := clobber cfg s.regs (BitVec.ofNat 64 b.toNat), zf := none, cf := none,
                 env := e, trace := Ev.inp b :: s.trace, pc := s.pc + x.size }
      | .failed e =>
        { s with regs := clobber cfg s.regs (BitVec.ofInt 64 (-1)), zf := none, cf := none,
                 env := e, trace := Ev.inpFail :: s.trace, pc := s.pc + x.size }
      | .absent =>
        { s with regs := clobber cfg s.regs (BitVec.ofInt 64 (-1)), zf := none, cf := none,
                 pc := s.pc + x.size }) := by
  simp only [call, hal, ne_eq, not_true_eq_false, if_false, hrdi, if_true]
  cases s.env.readByte <;> rfl

theorem call_output {cfg : Cfg} {x : X86} {s : PState w} (hIO : cfg.aI ≠ cfg.aO)
    (hal : s.regs.rsp.toNat % 16 = 0) (hrdi : s.regs.rdi = cfg.cxtAddr) :
    call cfg x s cfg.aO = .next (
      let b : UInt8 := UInt8.ofNat (s.regs.rsi.setWidth 8).toNat
      let retv (failed : Bool) : BitVec 64 := mergeLow 8 (cfg.junk .rax) (if failed then 1 else 0)
      if s.env.sink then
        match s.env.writeByte with
        | (true, e) =>
          { s with regs := clobber cfg s.regs (retv false), zf := none, cf := none,
                   env := e, trace := Ev.out b :: s.trace, pc := s.pc + x.size }
        | (false, e) =>
          { s with regs := clobber cfg s.regs (retv true), zf := none, cf := none,
                   env := e, trace := Ev.outFail b :: s.trace, pc := s.pc + x.size }
      else
        { s with regs := clobber cfg s.regs (retv false), zf := none, cf := none, pc := s.pc + x.size }) := by
  simp only [call, hal, ne_eq, not_true_eq_false, if_false, hrdi, if_true, Ne.symm hIO]
  split
  · rcases s.env.writeByte with ⟨b, e⟩
    cases b <;> rfl
  · rfl

theorem call_extend {cfg : Cfg} {x : X86} {s : PState w} (hEI : cfg.aE ≠ cfg.aI) (hEO : cfg.aE ≠ cfg.aO)
    (hal : s.regs.rsp.toNat % 16 = 0) (hrdi : s.regs.rdi = cfg.cxtAddr) :
    call cfg x s cfg.aE = .next { (extend cfg s s.regs.rsi.toInt s.regs.rdx.toInt) with
      regs := clobber cfg s.regs (cfg.junk .rax), zf := none, cf := none, pc := s.pc + x.size } := by
  simp only [call, hal, ne_eq, not_true_eq_false, if_false, hrdi, if_true, hEI, hEO]


/-- Effect of one of the I/O runtime functions on the state at the `call` instruction. The proofs use its two halves,
`CallCore` and `CxtKeep`, and not this structure. -/
structure CallFx (cfg : Cfg) (s s' : PState w) (ret : BitVec 64) (env : Env) (trace : List Ev) : Prop where
  regs : s'.regs = clobber cfg s.regs ret
  stk : s'.stk = s.stk
  env : s'.env = env
  trace : s'.trace = trace
  tape : s'.tape = s.tape
  lptr : s'.lptr = s.lptr
  tapeOk : s'.tapeOk = s.tapeOk
  buf : s'.buf = s.buf
  size : s'.size = s.size
  off : s'.off = s.off
  budget : s'.budget = s.budget
  base : s'.base = s.base
  pc : s'.pc = s.pc + (X86.callInd (.reg scr0)).size

/-- What each of the three runtime functions does at the `call`, apart from the context fields
(`hpbf_context_extend` changes those: `CxtKeep`). -/
structure CallCore (cfg : Cfg) (s s' : PState w) (ret : BitVec 64) (env : Env) (trace : List Ev) : Prop where
  regs : s'.regs = clobber cfg s.regs ret
  stk : s'.stk = s.stk
  env : s'.env = env
  trace : s'.trace = trace
  tape : s'.tape = s.tape
  lptr : s'.lptr = s.lptr
  budget : s'.budget = s.budget
  pc : s'.pc = s.pc + (X86.callInd (.reg scr0)).size

/-- The fields of the context that only `hpbf_context_extend` changes. -/
structure CxtKeep (s s' : PState w) : Prop where
  tapeOk : s'.tapeOk = s.tapeOk
  buf : s'.buf = s.buf
  size : s'.size = s.size
  off : s'.off = s.off
  base : s'.base = s.base

theorem padLen_even (rs : List Reg) : padLen rs % 2 = 0 := by unfold padLen; omega

/-- The code of a runtime call: `pre ++ [mov rdi, rbx] ++ args ++ [mov rax, addr; call rax] ++ post`. -/
def callCode (pre post args : List X86) (addr : BitVec 64) : List X86 :=
  pre ++ ([st64 (.reg .rdi) cxt] ++ args ++
    [.movRImm64 scr0 (BitVec.ofNat 64 addr.toNat).toInt, .callInd (.reg scr0)]) ++ post

structure AfterCore (rs : List Reg) (s s' : PState w) (ret : BitVec 64) (env : Env) (trace : List Ev) : Prop where
  stk : s'.stk = s.stk
  rax : s'.regs.get .rax = ret
  saved : ∀ r ∈ rs, s'.regs.get r = s.regs.get r
  callee : ∀ r, r = .rbx ∨ r = .rsp ∨ r = .rbp ∨ r = .r12 ∨ r = .r13 ∨ r = .r14 ∨ r = .r15 →
    s'.regs.get r = s.regs.get r
  env : s'.env = env
  trace : s'.trace = trace
  tape : s'.tape = s.tape
  lptr : s'.lptr = s.lptr
  budget : s'.budget = s.budget

/-- The register saving, argument set-up, call and register restoring common to the three runtime calls.
`args` (empty for `inp`, the load of the cell into `rsi` for `out`, the two constants for `extend`) is code that
changes at most `rsi`, `rdx`, flags and `pc` (`hargs`, which may establish a fact `Q` about the state it ends in).
`hcall` describes the call and may establish a fact `R` about the state `s3` right after it; the context fields of
the final state are those of `s3`. -/
theorem call_seq {cfg : Cfg} {live : Nat} {rs : List Reg} {pre post args : List X86}
    (hrs : savedRegs live = some rs) (hpre : preCall live = some pre) (hpost : postCall live = some post)
    {addr : BitVec 64} {s : PState w}
    (hfit : (X86.movRImm64 scr0 (BitVec.ofNat 64 addr.toNat).toInt).fits = true)
    (hrbx : s.regs.rbx = cfg.cxtAddr) (hal : s.regs.rsp.toNat % 16 = 0)
    (Q : PState w → Prop)
    (hargs : ∀ sa : PState w, StackKeep s sa →
      ∃ sb, Blk cfg args sa sb ∧ (∀ r, r ≠ .rsi → r ≠ .rdx → sb.regs.get r = sa.regs.get r) ∧
        sb.stk = sa.stk ∧ StackKeep sa sb ∧ Q sb)
    {ret : BitVec 64} {env : Env} {trace : List Ev} (R : PState w → Prop)
    (hcall : ∀ sb s2 : PState w, Q sb → s2.regs.get .rsi = sb.regs.get .rsi →
      s2.regs.get .rdx = sb.regs.get .rdx →
      s2.regs.rax = addr → s2.regs.rsp.toNat % 16 = 0 → s2.regs.rdi = cfg.cxtAddr → StackKeep s s2 →
      ∃ s3, call cfg (.callInd (.reg scr0)) s2 addr = .next s3 ∧ CallCore cfg s2 s3 ret env trace ∧ R s3) :
    ∃ s' s3, Blk cfg (callCode pre post args addr) s s' ∧ R s3 ∧ CxtKeep s3 s' ∧ AfterCore rs s s' ret env trace := by
  obtain ⟨pad, s1, b1, hpad, hstk1, hregs1, hrsp1, hk1⟩ := pre_call (cfg := cfg) hrs hpre s
  -- mov rdi, rbx
  obtain ⟨sa, ba, ea⟩ : ∃ sa, Blk cfg [st64 (.reg .rdi) cxt] s1 sa ∧ sa = _ :=
    ⟨_, .one (si_movRegReg (by decide)) rfl, rfl⟩
  have hka : StackKeep s sa := by
    refine hk1.trans ?_; rw [ea]; exact ⟨rfl, rfl, rfl, rfl, rfl, rfl, rfl, rfl, rfl, rfl⟩
  -- the arguments
  obtain ⟨sb, bb, hregsb, hstkb, hkb, hQ⟩ := hargs sa hka
  -- mov rax, addr
  obtain ⟨s2, b2, e2⟩ : ∃ s2, Blk cfg [.movRImm64 scr0 (BitVec.ofNat 64 addr.toNat).toInt] sb s2 ∧ s2 = _ :=
    ⟨_, .one (si_movImm (by decide) hfit) rfl, rfl⟩
  have hrax2 : s2.regs.rax = addr := by
    rw [e2]; show (sb.regs.set scr0 _).get .rax = _
    simp only [scr0, regfile_set_get, if_true]; exact immVal_addr addr
  have hr2 : ∀ r, r ≠ .rax → r ≠ .rdi → r ≠ .rsi → r ≠ .rdx → r ≠ .rsp → s2.regs.get r = s.regs.get r := by
    intro r h1 h2 h3 h4 h5
    rw [e2]; simp only [scr0, regfile_set_get, h1, if_false]
    rw [hregsb r h3 h4, ea]; simp only [regfile_set_get, h2, if_false]; exact hregs1 r h5
  have hrsp2 : s2.regs.get .rsp = s.regs.get .rsp - BitVec.ofNat 64 (8 * padLen rs) := by
    rw [e2]; simp only [scr0, regfile_set_get, reduceCtorEq, if_false]
    rw [hregsb _ (by decide) (by decide), ea]; simp only [regfile_set_get, reduceCtorEq, if_false]; exact hrsp1
  have hrdi2 : s2.regs.rdi = cfg.cxtAddr := by
    show s2.regs.get .rdi = _
    rw [e2]; simp only [scr0, regfile_set_get, reduceCtorEq, if_false]
    rw [hregsb _ (by decide) (by decide), ea]; simp only [regfile_set_get, if_true, cxt]
    rw [hregs1 _ (by decide)]; exact hrbx
  have hal2 : s2.regs.rsp.toNat % 16 = 0 := by
    have : s2.regs.rsp = s2.regs.get .rsp := rfl
    rw [this, hrsp2]; exact align_sub hal (padLen_even rs)
  have hstk2 : s2.stk = s1.stk := by rw [e2]; show sb.stk = _; rw [hstkb, ea]
  have hk2 : StackKeep s s2 := by
    refine (hka.trans hkb).trans ?_; rw [e2]; exact ⟨rfl, rfl, rfl, rfl, rfl, rfl, rfl, rfl, rfl, rfl⟩
  -- call rax
  obtain ⟨s3, hs3, fx, hR⟩ := hcall sb s2 hQ (by rw [e2]; simp [scr0]) (by rw [e2]; simp [scr0]) hrax2 hal2 hrdi2 hk2
  have b3 : Blk cfg [.callInd (.reg scr0)] s2 s3 :=
    .one (by rw [si_call, show s2.regs.get scr0 = s2.regs.rax from rfl, hrax2]; exact hs3) fx.pc
  obtain ⟨s4, b4, hstk4, hin4, hout4, hrsp4, hk4⟩ := post_call (cfg := cfg) hrs hpost (s := s3) s.regs.get hpad
    (stk0 := s.stk) (by rw [fx.stk, hstk2, hstk1])
  refine ⟨s4, s3, ?_, hR, ⟨hk4.tapeOk, hk4.buf, hk4.size, hk4.off, hk4.base⟩, hstk4, ?_, hin4, ?_,
    hk4.env.trans fx.env, hk4.trace.trans fx.trace, ?_, ?_, ?_⟩
  · have := (b1.append (ba.append (bb.append (b2.append b3)))).append b4
    simpa [callCode] using this
  · rw [hout4 _ (savedRegs_not_callee hrs (Or.inl rfl)) (by decide), fx.regs, clobber_get]; simp
  · intro r hr
    by_cases hsp : r = .rsp
    · subst hsp
      rw [hrsp4, fx.regs, clobber_get]
      simp only [reduceCtorEq, if_false, true_or, or_true, if_true]
      rw [hrsp2, BitVec.sub_add_cancel]
    · rw [hout4 _ (savedRegs_not_callee hrs (Or.inr hr)) hsp, fx.regs, clobber_get]
      have h1 : r ≠ .rax := by rintro rfl; simp at hr
      have h2 : r ≠ .rdi := by rintro rfl; simp at hr
      have h3 : r ≠ .rsi := by rintro rfl; simp at hr
      have h4 : r ≠ .rdx := by rintro rfl; simp at hr
      rw [if_neg h1, if_pos hr]
      exact hr2 r h1 h2 h3 h4 hsp
  · rw [hk4.tape, fx.tape, hk2.tape]
  · rw [hk4.lptr, fx.lptr, hk2.lptr]
  · rw [hk4.budget, fx.budget, hk2.budget]


theorem preCall_saved {live : Nat} {pre : List X86} (h : preCall live = some pre) :
    ∃ rs, savedRegs live = some rs := by
  unfold preCall at h
  cases hs : savedRegs live with
  | none => simp [hs] at h
  | some rs => exact ⟨rs, rfl⟩

theorem cmp_m1_zf (a : BitVec 64) : (alu .sub 64 a (immVal (-1))).2.1 = decide (a = BitVec.ofInt 64 (-1)) := by
  simp only [alu, trunc64, immVal]
  by_cases h : a = BitVec.ofInt 64 (-1)
  · subst h; simp
  · simp only [h, decide_false, beq_eq_false_iff_ne, ne_eq]
    intro h0
    apply h; bv_omega

theorem lo_byte (hw : 8 ≤ w) (b : UInt8) :
    (lo (BitVec.ofNat 64 b.toNat) : BitVec w) = Cell.fromU8 (BitVec.ofNat 8 b.toNat) := by
  unfold lo Cell.fromU8 Cell.fromU64
  congr 1
  apply BitVec.eq_of_toNat_eq
  have := b.toNat_lt
  simp only [BitVec.toNat_ofNat, BitVec.toNat_setWidth]
  omega

/-- The state after the register-restoring code that follows a runtime call of `inp` / `out`. -/
structure AfterCall (K : Ctx w) (rs : List Reg) (s s' : PState w) (ret : BitVec 64) (env : Env)
    (trace : List Ev) : Prop where
  stk : s'.stk = s.stk
  rax : s'.regs.get .rax = ret
  saved : ∀ r ∈ rs, s'.regs.get r = s.regs.get r
  callee : ∀ r, r = .rbx ∨ r = .rsp ∨ r = .rbp ∨ r = .r12 ∨ r = .r13 ∨ r = .r14 ∨ r = .r15 →
    s'.regs.get r = s.regs.get r
  env : s'.env = env
  trace : s'.trace = trace
  tape : s'.tape = s.tape
  lptr : s'.lptr = s.lptr
  tapeOk : s'.tapeOk = s.tapeOk
  buf : s'.buf = s.buf
  size : s'.size = s.size
  off : s'.off = s.off
  budget : s'.budget = s.budget
  base : s'.base = s.base

/-- Restoring the saved registers keeps agreement on the live register temporaries: those of the temporaries
4..10 are saved and restored, those of 0..3 are callee-saved. -/
theorem relOn_saved {live : Nat} {rs : List Reg} (hrs : savedRegs live = some rs) {s s' : PState w}
    (hstk : s'.stk = s.stk) (hsaved : ∀ r ∈ rs, s'.regs.get r = s.regs.get r)
    (hcallee : ∀ r, r = .r12 ∨ r = .r13 ∨ r = .r14 ∨ r = .r15 → s'.regs.get r = s.regs.get r)
    (htape : s'.tape = s.tape) (hlptr : s'.lptr = s.lptr) {c : Bc.Cfg w}
    (hrel : RelOn (fun t => live.testBit t = true) c (view s)) :
    RelOn (fun t => live.testBit t = true) c (view s') :=
  hrel.of_kept (fun t hlt hl => by
    by_cases h4 : 4 ≤ t
    · exact hsaved _ ((savedRegs_mem hrs _).2 ⟨t, h4, hlt, hl, tmpReg_lt hlt⟩)
    · exact hcallee _ (treg_callee (by omega))) hstk rfl (hrel.tape_kept htape hlptr)

theorem AfterCall.relOn {K : Ctx w} {live : Nat} {rs : List Reg} (hrs : savedRegs live = some rs)
    {s s' : PState w} {ret : BitVec 64} {env : Env} {trace : List Ev} (h : AfterCall K rs s s' ret env trace)
    {c : Bc.Cfg w} (hrel : Rel c (view s)) : RelOn (fun t => live.testBit t = true) c (view s') :=
  relOn_saved hrs h.stk h.saved (fun r hr => h.callee r (Or.inr (Or.inr (Or.inr hr)))) h.tape h.lptr
    (relOn_mono ((rel_iff_relOn ..).1 hrel) (fun _ _ => trivial))

theorem AfterCall.of_core {K : Ctx w} {rs : List Reg} {s s' : PState w} {ret : BitVec 64} {env : Env}
    {trace : List Ev} (h : AfterCore rs s s' ret env trace) (k : CxtKeep s s') : AfterCall K rs s s' ret env trace :=
  ⟨h.stk, h.rax, h.saved, h.callee, h.env, h.trace, h.tape, h.lptr, k.tapeOk, k.buf, k.size, k.off, h.budget, k.base⟩

theorem Framed.of_afterCall {K : Ctx w} {fr : Frame} {rs : List Reg} {s s' : PState w} {ret : BitVec 64} {env : Env}
    {tr : List Ev} (h : Framed K fr s) (a : AfterCall K rs s s' ret env tr) : Framed K fr s' :=
  h.of_eq (fun r hr => a.callee r (by rcases hr with rfl | rfl | rfl <;> simp)) (by rw [a.stk]) (by rw [a.stk])
    a.tapeOk a.buf a.lptr a.base

/-- The end of `inp` / `out`: the runtime call `P` has returned (`hA`), the flag-setting instruction `x` tests its
result and the jump to the termination label follows. When the condition holds the function returns 0 through
`exit_term` with the environment and trace the call left, otherwise the code `Q` behind the jump is next. -/
theorem guard_term (K : Ctx w) (htemps : alignedTemps K.p.temps * 8 < 2147483648) {fr : Frame}
    (h7 : fr.saved.length = 7) {P Q : List X86} {x : X86} {pr : JmpPred} {d : Int} {c : Bc.Cfg w}
    {s s4 s5 : PState w} {live : Nat} {rs : List Reg} (hrs : savedRegs live = some rs) {ret : BitVec 64} {env : Env}
    {trace : List Ev} (hinv : Inv K fr c s) (hrel : Rel c (view s))
    (hat : At K.cfg K.code s.pc (P ++ x :: .jccRel32 pr d :: Q))
    (hdt : ((s.pc + sizeAll (P ++ [x]) : Nat) : Int) + 6 + d = K.term) (hfd : (X86.jccRel32 pr d).fits = true)
    (b4 : Blk K.cfg P s s4) (hA : AfterCall K rs s s4 ret env trace) (hx : stepInstr K.cfg x s4 = .next s5)
    (hpc5 : s5.pc = s4.pc + x.size) (hk : SameBut s4 s5) {b : Bool} (hb : cond s5 pr = some b) :
    ∃ s6, steps K.cfg ((P ++ [x]).length + 1) s = some s6 ∧ s6.regs.get .rax = ret ∧ Framed K fr s6 ∧
      s6.env = env ∧ s6.trace = trace ∧ s6.budget = s.budget ∧
      RelOn (fun t => live.testBit t = true) c (view s6) ∧
      (b = true → ∀ k, ∃ n s', run K.cfg (n + k) s = .ret s' ∧ s'.regs.rax = 0 ∧
        Final fr K.p.temps { c with st := { c.st with env := env, trace := trace } } s' ∧ s'.budget = s.budget) ∧
      (b = false → At K.cfg K.code s6.pc Q ∧ s6.pc = s.pc + sizeAll (P ++ [x]) + 6) := by
  have b5 : Blk K.cfg (P ++ [x]) s s5 := b4.append (.one hx hpc5)
  have hat' : At K.cfg K.code s.pc ((P ++ [x]) ++ .jccRel32 pr d :: Q) := by simpa using hat
  obtain ⟨s6, hs6, e6⟩ : ∃ s6, stepInstr K.cfg (.jccRel32 pr d) s5 = .next s6 ∧ s6 = _ :=
    ⟨_, si_jcc (t := K.term) hfd hb (by rw [b5.pc_eq]; exact hdt), rfl⟩
  have hk6 : SameBut s4 s6 :=
    hk.trans (by rw [e6]; exact ⟨rfl, rfl, rfl, ⟨rfl, rfl, rfl, rfl, rfl, rfl, rfl, rfl, rfl, rfl⟩⟩)
  have hst6 := b5.step_after hat' hs6
  have hF6 := (hinv.framed.of_afterCall hA).of_sameBut hk6
  have henv6 : s6.env = env := by rw [hk6.ctl.env, hA.env]
  have htr6 : s6.trace = trace := by rw [hk6.ctl.trace, hA.trace]
  have hbud6 : s6.budget = s.budget := by rw [hk6.ctl.budget, hA.budget]
  refine ⟨s6, hst6, by rw [hk6.regs, hA.rax], hF6, henv6, htr6, hbud6, hk6.sameTmp.relOn (hA.relOn hrs hrel),
    ?_, ?_⟩
  · rintro rfl k
    obtain ⟨s', hrun, hrax, hret⟩ := exit_term K htemps hF6 (by rw [e6]; rfl) h7 k
    exact ⟨_ + 9, s', by rw [Nat.add_assoc, run_of_steps hst6]; exact hrun, hrax,
      Final.of_returned hret henv6 htr6
        (fun o => by rw [hk6.tape, hk6.ctl.lptr, hA.tape, hA.lptr]; exact hrel.2.2 o),
      by rw [hret.budget, hbud6]⟩
  · rintro rfl
    have h6 : s6.pc = s5.pc + 6 := by rw [e6]; rfl
    refine ⟨?_, by rw [h6, b5.pc_eq]⟩
    have := (b5.steps hat').2.tail
    rwa [size_jccRel32, ← h6] at this

/-- Result of `hpbf_context_input` for the environment `e` with trace `tr`. -/
def inpRes (e : Env) (tr : List Ev) : BitVec 64 × Env × List Ev :=
  match e.readByte with
  | .got b e' => (BitVec.ofNat 64 b.toNat, e', Ev.inp b :: tr)
  | .failed e' => (BitVec.ofInt 64 (-1), e', Ev.inpFail :: tr)
  | .absent => (BitVec.ofInt 64 (-1), e, tr)

/-- `inp` on the bytecode side in terms of the result of the runtime function (`inpRes`): `-1` in `rax` is the
failure, anything else is the byte read, stored with the cell's width. -/
theorem stepOf_inpRes (hw8 : 8 ≤ w) {p : Bc.Program w} {limited : Bool} {c : Bc.Cfg w} {dst : Int}
    (hi : p.insts[c.pc]? = some (.inp dst)) :
    Bc.step p limited c =
      (let R := inpRes c.st.env c.st.trace
       if R.1 = BitVec.ofInt 64 (-1) then .stop { c with st := { c.st with env := R.2.1, trace := R.2.2 } }
       else .next { c with pc := c.pc + 1, st := { c.st.wr dst (lo R.1) with env := R.2.1, trace := R.2.2 } }) := by
  simp only [Bc.step, hi, State.input]
  unfold inpRes
  cases c.st.env.readByte with
  | got b e =>
    have hne : BitVec.ofNat 64 b.toNat ≠ BitVec.ofInt 64 (-1) := by
      intro h
      have := congrArg BitVec.toNat h
      have hb := b.toNat_lt
      simp only [BitVec.toNat_ofNat] at this
      rw [Nat.mod_eq_of_lt (by omega)] at this
      have e : (BitVec.ofInt 64 (-1)).toNat = 18446744073709551615 := by decide
      omega
    simp only [if_neg hne, lo_byte hw8]
  | failed e => rfl
  | absent => rfl

theorem emit_inp {sz : Size} {limited safe : Bool} {minAcc maxAcc : Int} {aE aI aO i live : Nat}
    {dst : Int} {its : List Item}
    (h : emitInstr (w := w) sz limited safe minAcc maxAcc aE aI aO i live (.inp dst) = some its) :
    ∃ rs pre post, savedRegs live = some rs ∧ preCall live = some pre ∧ postCall live = some post ∧
      its = plains (pre ++ [st64 (.reg .rdi) cxt, .movRImm64 scr0 (BitVec.ofNat 64 aI).toInt,
        .callInd (.reg scr0)] ++ post ++ [.cmpRmImm8 .b64 (.reg .rax) (-1)]) ++
        [.jccTerm .equal, .plain (storeReg sz dst .rax)] ∧
      (X86.movRImm64 scr0 (BitVec.ofNat 64 aI).toInt).fits = true ∧
      (storeReg sz dst .rax).fits = true := by
  obtain ⟨hraw, hfit⟩ := emitInstr_raw h
  obtain ⟨pre, post, hpre, hpost, rfl⟩ := bind_bind_some hraw
  obtain ⟨rs, hrs⟩ := preCall_saved hpre
  refine ⟨rs, pre, post, hrs, hpre, hpost, rfl, ?_, ?_⟩
  · exact mem_all_fits hfit (by simp [plains])
  · exact mem_all_fits hfit (by simp [plains])

theorem flow_inp (K : Ctx w) (htemps : alignedTemps K.p.temps * 8 < 2147483648)
    {fr : Frame} (h7 : fr.saved.length = 7) {c : Bc.Cfg w} {s : PState w} {dst : Int}
    (hi : K.p.insts[c.pc]? = some (.inp dst)) (hdst : -2147483648 ≤ dst ∧ dst < 2147483648) (hw8 : 8 ≤ w)
    (hinv : Inv K fr c s) (hrel : Rel c (view s)) :
    (∀ c', Bc.step K.p K.limited c = .next c' → ∃ lv n s', K.p.live[c.pc]? = some lv ∧
      steps K.cfg (n + 1) s = some s' ∧ Inv K fr c' s' ∧ RelOn (fun t => lv.testBit t = true) c' (view s')) ∧
    (∀ c', Bc.step K.p K.limited c = .stop c' → ∀ k, ∃ n s', run K.cfg (n + k) s = .ret s' ∧
      s'.regs.rax = 0 ∧ Final fr K.p.temps c' s' ∧ s'.budget = s.budget) := by
  obtain ⟨lv, its, xs, hI⟩ := K.instrAt hi
  obtain ⟨rs, pre, post, hrs, hpre, hpost, hits, hfa, hfs⟩ := emit_inp hI.emit
  have hszb := K.hszb
  obtain ⟨P, hP⟩ : ∃ P, P = callCode pre post [] K.cfg.aI := ⟨_, rfl⟩
  obtain ⟨d, hat0, hdt, hfd, hnx⟩ := hI.jccTerm (P := P ++ [.cmpRmImm8 .b64 (.reg .rax) (-1)])
    (Q := [storeReg K.C.sz dst .rax]) (pr := .equal) (by rw [hits, hP]; simp [callCode, plains])
  have hat : At K.cfg K.code s.pc (P ++ .cmpRmImm8 .b64 (.reg .rax) (-1) :: .jccRel32 .equal d ::
      [storeReg K.C.sz dst .rax]) := by
    rw [hinv.pc]; simpa using hat0
  -- the result of the runtime function
  obtain ⟨R, hR⟩ : ∃ R, R = inpRes c.st.env c.st.trace := ⟨_, rfl⟩
  obtain ⟨s4, s3, b4, hC, hk4, hcore⟩ := call_seq (cfg := K.cfg) (args := []) (ret := R.1) (env := R.2.1)
    (trace := R.2.2) hrs hpre hpost hfa hinv.rbx (by rw [hinv.rsp]; exact hinv.align) (fun _ => True)
    (fun sa _ => ⟨sa, .nil sa, fun _ _ _ => rfl, rfl, StackKeep.rfl' sa, trivial⟩) (CxtKeep s)
    (fun sb s2 _ _ _ _ hal2 hrdi hk => by
      refine ⟨_, call_input hal2 hrdi, ?_⟩
      rw [hR]
      unfold inpRes
      rw [← hinv.env, ← hinv.trace, ← hk.env, ← hk.trace]
      cases s2.env.readByte <;>
        exact ⟨⟨rfl, rfl, rfl, rfl, rfl, rfl, rfl, rfl⟩, hk.tapeOk, hk.buf, hk.size, hk.off, hk.base⟩)
  rw [← hP] at b4
  have hA : AfterCall K rs s s4 R.1 R.2.1 R.2.2 :=
    .of_core hcore ⟨hk4.tapeOk.trans hC.tapeOk, hk4.buf.trans hC.buf, hk4.size.trans hC.size, hk4.off.trans hC.off,
      hk4.base.trans hC.base⟩
  -- cmp rax, -1; je term
  obtain ⟨s5, hs5, e5⟩ : ∃ s5, stepInstr K.cfg (.cmpRmImm8 .b64 (.reg .rax) (-1)) s4 = .next s5 ∧ s5 = _ :=
    ⟨_, si_cmpRegImm (by omega), rfl⟩
  have hc5 : cond s5 .equal = some (decide (R.1 = BitVec.ofInt 64 (-1))) := by
    rw [e5]; simp only [X86Prog.cond, PState.adv, cmpFlags]; rw [cmp_m1_zf, hA.rax]
  obtain ⟨s6, hst6, hrax6, hF6, henv6, htr6, hbud6, hrel6, hexit, hnext⟩ := guard_term K htemps h7 hrs hinv hrel
    hat (by rw [hinv.pc]; simpa using hdt) hfd b4 hA hs5 (by rw [e5]; rfl)
    (by rw [e5]; exact ⟨rfl, rfl, rfl, ⟨rfl, rfl, rfl, rfl, rfl, rfl, rfl, rfl, rfl, rfl⟩⟩) hc5
  rw [stepOf_inpRes hw8 hi, ← hR]
  by_cases hR1 : R.1 = BitVec.ofInt 64 (-1)
  · -- the request failed
    rw [if_pos hR1]
    refine ⟨fun c' hc' => (nomatch hc'), fun c' hc' k => ?_⟩
    cases hc'
    exact hexit (decide_eq_true hR1) k
  · -- the request succeeded: store the byte
    rw [if_neg hR1]
    refine ⟨fun c' hc' => ?_, fun c' hc' => (nomatch hc')⟩
    cases hc'
    obtain ⟨hat6, hpc6⟩ := hnext (decide_eq_false hR1)
    obtain ⟨s7, hs7, hv7, hpc7, hctl7, hstk7, hregs7⟩ := si_store (cfg := K.cfg) (s := s6) hszb hdst hfs
    refine ⟨lv, _, s7, hI.live, steps_trans hst6 (steps_one ((step_at hat6).trans hs7)), ?_, ?_⟩
    · refine (hF6.of_eq (fun r _ => by rw [hregs7]) (by rw [hstk7]) (by rw [hstk7]) hctl7.tapeOk hctl7.buf
        hctl7.lptr hctl7.base).inv ?_ (by rw [hctl7.env, henv6]) (by rw [hctl7.trace, htr6])
        (by rw [hctl7.budget, hbud6]; exact hinv.budget)
      show s7.pc = K.loc (c.pc + 1)
      rw [hpc7, hpc6, hnx, hinv.pc]; simp
    · rw [hv7]
      refine ⟨fun t r htr hl => hrel6.1 t r htr hl, fun t ht => hrel6.2.1 t ht, fun o => ?_⟩
      simp only [MState.setCell]
      rw [hrax6]
      show _ = (State.wr c.st dst _).rd o
      rw [C01.rd_wr]
      split
      · rfl
      · exact hrel6.2.2 o

/-- Result of `hpbf_context_output` for the environment `e`, trace `tr` and byte `b`: (failed, environment,
trace). -/
def outRes (e : Env) (tr : List Ev) (b : UInt8) : Bool × Env × List Ev :=
  if e.sink then
    match e.writeByte with
    | (true, e') => (false, e', Ev.out b :: tr)
    | (false, e') => (true, e', Ev.outFail b :: tr)
  else (false, e, tr)

theorem emit_out {sz : Size} {limited safe : Bool} {minAcc maxAcc : Int} {aE aI aO i live : Nat}
    {src : Int} {its : List Item}
    (h : emitInstr (w := w) sz limited safe minAcc maxAcc aE aI aO i live (.out src) = some its) :
    ∃ rs pre post, savedRegs live = some rs ∧ preCall live = some pre ∧ postCall live = some post ∧
      its = plains (pre ++ [st64 (.reg .rdi) cxt, load sz src .rsi,
        .movRImm64 scr0 (BitVec.ofNat 64 aO).toInt, .callInd (.reg scr0)] ++ post ++
        [.testRm8R8 (.reg .rax) .rax]) ++ [.jccTerm .notEqual] ∧
      (X86.movRImm64 scr0 (BitVec.ofNat 64 aO).toInt).fits = true ∧
      (load sz src .rsi).fits = true := by
  obtain ⟨hraw, hfit⟩ := emitInstr_raw h
  obtain ⟨pre, post, hpre, hpost, rfl⟩ := bind_bind_some hraw
  obtain ⟨rs, hrs⟩ := preCall_saved hpre
  refine ⟨rs, pre, post, hrs, hpre, hpost, rfl, ?_, ?_⟩
  · exact mem_all_fits hfit (by simp [plains])
  · exact mem_all_fits hfit (by simp [plains])

theorem test_merge (j : BitVec 64) (f : Bool) :
    (trunc 8 (mergeLow 8 j (if f then 1 else 0) &&& mergeLow 8 j (if f then 1 else 0)) == 0) = !f := by
  have h : trunc 8 (mergeLow 8 j (if f then 1 else 0)) = (if f then 1 else 0) := by
    unfold trunc mergeLow lowMask
    cases f
    · ext i hi
      simp
    · ext i hi
      simp
  rw [BitVec.and_self, h]
  cases f <;> decide

/-- `out` on the bytecode side in terms of the result of the runtime function (`outRes`). -/
theorem stepOf_outRes {p : Bc.Program w} {limited : Bool} {c : Bc.Cfg w} {src : Int}
    (hi : p.insts[c.pc]? = some (.out src)) :
    Bc.step p limited c =
      (let R := outRes c.st.env c.st.trace (UInt8.ofNat (Cell.intoU8 (c.st.rd src)).toNat)
       match R.1 with
       | false => .next { c with pc := c.pc + 1, st := { c.st with env := R.2.1, trace := R.2.2 } }
       | true => .stop { c with st := { c.st with env := R.2.1, trace := R.2.2 } }) := by
  simp only [Bc.step, hi, State.output]
  unfold outRes
  by_cases hs : c.st.env.sink = true
  · simp only [hs, if_true]
    rcases c.st.env.writeByte with ⟨ok, e⟩
    cases ok <;> rfl
  · simp only [hs, Bool.false_eq_true, if_false]

theorem flow_out (K : Ctx w) (htemps : alignedTemps K.p.temps * 8 < 2147483648)
    {fr : Frame} (h7 : fr.saved.length = 7) {c : Bc.Cfg w} {s : PState w} {src : Int}
    (hi : K.p.insts[c.pc]? = some (.out src)) (hsrc : -2147483648 ≤ src ∧ src < 2147483648)
    (hinv : Inv K fr c s) (hrel : Rel c (view s)) :
    (∀ c', Bc.step K.p K.limited c = .next c' → ∃ lv n s', K.p.live[c.pc]? = some lv ∧
      steps K.cfg (n + 1) s = some s' ∧ Inv K fr c' s' ∧ RelOn (fun t => lv.testBit t = true) c' (view s')) ∧
    (∀ c', Bc.step K.p K.limited c = .stop c' → ∀ k, ∃ n s', run K.cfg (n + k) s = .ret s' ∧
      s'.regs.rax = 0 ∧ Final fr K.p.temps c' s' ∧ s'.budget = s.budget) := by
  obtain ⟨lv, its, xs, hI⟩ := K.instrAt hi
  obtain ⟨rs, pre, post, hrs, hpre, hpost, hits, hfa, hfl⟩ := emit_out hI.emit
  have hszb := K.hszb
  obtain ⟨P, hP⟩ : ∃ P, P = callCode pre post [load K.C.sz src .rsi] K.cfg.aO := ⟨_, rfl⟩
  obtain ⟨d, hat0, hdt, hfd, hnx⟩ := hI.jccTerm (P := P ++ [.testRm8R8 (.reg .rax) .rax]) (Q := [])
    (pr := .notEqual) (by rw [hits, hP]; simp [callCode, plains])
  have hat : At K.cfg K.code s.pc (P ++ .testRm8R8 (.reg .rax) .rax :: .jccRel32 .notEqual d :: []) := by
    rw [hinv.pc]; simpa using hat0
  -- the byte and the result of the runtime function
  obtain ⟨b, hb⟩ : ∃ b : UInt8, b = UInt8.ofNat (Cell.intoU8 (c.st.rd src)).toNat := ⟨_, rfl⟩
  obtain ⟨R, hR⟩ : ∃ R, R = outRes c.st.env c.st.trace b := ⟨_, rfl⟩
  have hcell : s.tape.get (s.lptr + src) = c.st.rd src := hrel.2.2 src
  obtain ⟨s4, s3, b4, hC, hk4, hcore⟩ := call_seq (cfg := K.cfg)
    (ret := mergeLow 8 (K.cfg.junk .rax) (if R.1 then 1 else 0)) (env := R.2.1) (trace := R.2.2) hrs hpre hpost hfa
    hinv.rbx (by rw [hinv.rsp]; exact hinv.align)
    (fun sb => sb.regs.get .rsi = (c.st.rd src).setWidth 64)
    (fun sa hk => ⟨_, .one (si_load hszb hsrc (r := .rsi) (by decide) hfl) rfl,
      fun r hr _ => by simp [hr], rfl, ⟨rfl, rfl, rfl, rfl, rfl, rfl, rfl, rfl, rfl, rfl⟩, by
        simp only [regfile_set_get, if_true]; rw [hk.tape, hk.lptr, hcell]⟩) (CxtKeep s)
    (fun sb s2 hQ hrsi _ _ hal2 hrdi hk => by
      refine ⟨_, call_output K.hIO hal2 hrdi, ?_⟩
      have hb2 : UInt8.ofNat (s2.regs.rsi.setWidth 8).toNat = b := by
        rw [show s2.regs.rsi = s2.regs.get .rsi from rfl, hrsi, hQ, hb]; rfl
      simp only [hb2]
      rw [hR]
      unfold outRes
      rw [← hinv.env, ← hinv.trace, ← hk.env, ← hk.trace]
      by_cases hs : s2.env.sink = true
      · simp only [hs, if_true]
        rcases s2.env.writeByte with ⟨ok, e⟩
        cases ok <;> exact ⟨⟨rfl, rfl, rfl, rfl, rfl, rfl, rfl, rfl⟩, hk.tapeOk, hk.buf, hk.size, hk.off, hk.base⟩
      · simp only [hs, Bool.false_eq_true, if_false]
        exact ⟨⟨rfl, rfl, rfl, rfl, rfl, rfl, rfl, rfl⟩, hk.tapeOk, hk.buf, hk.size, hk.off, hk.base⟩)
  rw [← hP] at b4
  have hA : AfterCall K rs s s4 (mergeLow 8 (K.cfg.junk .rax) (if R.1 then 1 else 0)) R.2.1 R.2.2 :=
    .of_core hcore ⟨hk4.tapeOk.trans hC.tapeOk, hk4.buf.trans hC.buf, hk4.size.trans hC.size, hk4.off.trans hC.off,
      hk4.base.trans hC.base⟩
  -- test al, al; jne term
  obtain ⟨s5, hs5, e5⟩ : ∃ s5, stepInstr K.cfg (.testRm8R8 (.reg .rax) .rax) s4 = .next s5 ∧ s5 = _ :=
    ⟨_, si_testSelf rfl, rfl⟩
  have hc5 : cond s5 .notEqual = some R.1 := by
    rw [e5]; simp only [X86Prog.cond, PState.adv]; rw [hA.rax, test_merge]; simp
  obtain ⟨s6, hst6, -, hF6, henv6, htr6, hbud6, hrel6, hexit, hnext⟩ := guard_term K htemps h7 hrs hinv hrel
    hat (by rw [hinv.pc]; simpa using hdt) hfd b4 hA hs5 (by rw [e5]; rfl)
    (by rw [e5]; exact ⟨rfl, rfl, rfl, ⟨rfl, rfl, rfl, rfl, rfl, rfl, rfl, rfl, rfl, rfl⟩⟩) hc5
  rw [stepOf_outRes hi, ← hb, ← hR]
  cases hR1 : R.1 with
  | false =>
    simp only [hR1]
    refine ⟨fun c' hc' => ?_, fun c' hc' => (nomatch hc')⟩
    cases hc'
    obtain ⟨-, hpc6⟩ := hnext hR1
    exact ⟨lv, _, s6, hI.live, hst6, hF6.inv (by rw [hpc6, hnx, hinv.pc]; simp) henv6 htr6
      (by rw [hbud6]; exact hinv.budget), hrel6⟩
  | true =>
    simp only [hR1]
    refine ⟨fun c' hc' => (nomatch hc'), fun c' hc' k => ?_⟩
    cases hc'
    exact hexit hR1 k

end C03
end Hpbf
