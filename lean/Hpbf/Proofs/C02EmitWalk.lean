/-
C02, first phase: ONE walk over the expression code generator for what holds of states and value numbers as such
(`WalkU`) and ONE induction over `emit_block`, each valid in both directions.  (What the results DENOTE is the other walk,
`Out` in `C02EmitExpr` / `C02EmitCalc`; it enters the induction as the `calcR` clause of `closedT_em`.)  `StateExcept.Tr tot m s Q`: what `m` returns from `s` satisfies `Q`, and `m` may fail only if `tot = false`.  At
`tot = false` this is reasoning from success (the refinement `em_of_emitInsts`, `DsePre`, and the invariants of
`allocate_temps`, C11 and the JIT through `AEmit.closedI_emitInsts`); at `tot = true` it is totality.  The rules
`Tr.bind`, `Tr.pure`, `Tr.mono` do not look at `tot`, and the walks use nothing else.
-/
import Hpbf.Proofs.C02EmitGen
import Hpbf.Proofs.StateExcept

namespace Hpbf
namespace C02Emit
open BcGen C02.AEmit

-- `Tr` and its rules are those of `Proofs/StateExcept.lean`; the walks below and their users write them unqualified.
export StateExcept (Tr Tr.bind Tr.pure Tr.mono Tr.of_ok tr_iff tr_false tr_true bind_of_ok)

variable {w : Nat}

section walk
variable {tot : Bool} {K : St w → Prop} {V Un : St w → Nat → Prop}

/-- What a piece of the expression code generator that runs from `s` to `s'` does to states and value numbers: it
consumes the operands `o` and leaves the results `R` pending for the next piece.  `K` is a predicate on states (an
invariant, or a relation to the state the walk started in); `V s a` says that `a` is a valid operand in `s`, and stays true
along the walk (`mono`); `Un s t` ("created and not yet read") is followed BACKWARDS (`un`): whatever satisfies it after
the piece satisfied it before and was not an operand of the piece, or is one of its results.  So after `calcValues` it
holds only of values it held of before and of the results, after `memWrites` of none of the stored values. -/
structure WalkU (K : St w → Prop) (V Un : St w → Nat → Prop) (s : St w) (o R : List Nat) (s' : St w) : Prop where
  k : K s'
  res : ∀ r ∈ R, V s' r
  mono : ∀ a, V s a → V s' a
  un : ∀ t, Un s' t → (Un s t ∧ t ∉ o) ∨ t ∈ R

theorem WalkU.refl {s : St w} (hk : K s) {R : List Nat} (hr : ∀ r ∈ R, V s r) : WalkU K V Un s R R s :=
  ⟨hk, hr, fun _ h => h, fun t ht => by
    by_cases e : t ∈ R
    · exact Or.inr e
    · exact Or.inl ⟨ht, e⟩⟩

/-- A result of the first part is consumed by the second or still pending. -/
theorem WalkU.seq {s s1 s2 : St w} {o o1 o2 R R1 R2 : List Nat} (h1 : WalkU K V Un s o1 R1 s1)
    (h2 : WalkU K V Un s1 o2 R2 s2) (hR : ∀ t ∈ R, t ∈ R1 ∨ t ∈ R2) (h12 : ∀ t ∈ R1, t ∈ o2 ∨ t ∈ R)
    (h2R : ∀ t ∈ R2, t ∈ R) (ho : ∀ x ∈ o, x ∈ o1 ∨ x ∈ o2) : WalkU K V Un s o R s2 := by
  refine ⟨h2.k, ?_, fun a ha => h2.mono a (h1.mono a ha), ?_⟩
  · intro r hr
    rcases hR r hr with h | h
    · exact h2.mono r (h1.res r h)
    · exact h2.res r h
  · intro t ht
    rcases h2.un t ht with ⟨g1, g2⟩ | g
    · rcases h1.un t g1 with ⟨q1, q2⟩ | q
      · refine Or.inl ⟨q1, fun hx => ?_⟩
        rcases ho t hx with h | h
        · exact q2 h
        · exact g2 h
      · rcases h12 t q with h | h
        · exact absurd h g2
        · exact Or.inr h
    · exact Or.inr (h2R t g)

/-! The shapes in which `Expr::codegen` hands values on. -/

theorem WalkU.val {s s' : St w} {o R : List Nat} (h : WalkU K V Un s o R s') {r : Nat} (hr : r ∈ R) : V s' r :=
  h.res r hr


/-- The pending results are consumed by a part that reads nothing else. -/
theorem WalkU.next {s s1 s2 : St w} {o R R' : List Nat} (h1 : WalkU K V Un s o R s1)
    (h2 : WalkU K V Un s1 R R' s2) : WalkU K V Un s o R' s2 :=
  h1.seq h2 (fun _ h => Or.inr h) (fun _ h => Or.inl h) (fun _ h => h) (fun _ h => Or.inl h)

/-- The pending result is combined with an older value `a`. -/
theorem WalkU.withOld {s s1 s2 : St w} {a b : Nat} {R : List Nat} (h1 : WalkU K V Un s [] [b] s1)
    (h2 : WalkU K V Un s1 [a, b] R s2) : WalkU K V Un s [a] R s2 :=
  h1.seq h2 (fun _ h => Or.inr h) (fun _ h => Or.inl (List.mem_cons_of_mem _ h)) (fun _ h => h)
    (fun _ h => Or.inr (List.mem_cons.2 (Or.inl (List.mem_singleton.1 h))))

/-- Nothing is consumed: the results of both parts are pending. -/
theorem WalkU.both {s s1 s2 : St w} {o R1 R2 : List Nat} (h1 : WalkU K V Un s o R1 s1)
    (h2 : WalkU K V Un s1 [] R2 s2) : WalkU K V Un s o (R1 ++ R2) s2 :=
  h1.seq h2 (fun _ h => List.mem_append.1 h) (fun _ h => Or.inr (List.mem_append_left _ h))
    (fun _ h => List.mem_append_right _ h) (fun _ h => Or.inl h)

/-- Nothing is pending after the first part. -/
theorem WalkU.after {s s1 s2 : St w} {o1 o2 R : List Nat} (h1 : WalkU K V Un s o1 [] s1)
    (h2 : WalkU K V Un s1 o2 R s2) : WalkU K V Un s (o1 ++ o2) R s2 :=
  h1.seq h2 (fun _ h => Or.inr h) (fun _ h => (by cases h)) (fun _ h => h) (fun _ h => List.mem_append.1 h)

theorem WalkU.swap {s s' : St w} {o : List Nat} {a b : Nat} (h : WalkU K V Un s o [a, b] s') :
    WalkU K V Un s o [b, a] s' :=
  ⟨h.1, fun r hr => h.res r (by simpa [or_comm] using hr), h.mono,
    fun t ht => (h.un t ht).imp id (fun hr => by simpa [or_comm] using hr)⟩

/-! The walk.  `C` are the cells the code may name: `Expr::codegen` requests `mem v` only for variables `v` of the
expression, `mem_write` writes only the targets of the `calc`.  An invariant that does not care takes `C := fun _ => True`
(`getExprValue_tr`, `calcValues_tr`, `memWrites_tr` below). -/

variable {C : Int → Prop}
  (hg : ∀ (e : GvnExpr w) (s : St w), (∀ m, e = .mem m → C m) → K s → (∀ a ∈ opsOf e, V s a) →
    Tr tot (getValue e) s (fun v s' => WalkU K V Un s (opsOf e) [v] s'))
  (hm : ∀ (var : Int) (x : Nat) (s : St w), C var → K s → V s x →
    Tr tot (memWrite var x) s (fun _ s' => WalkU K V Un s [x] [] s'))
include hg

theorem getValue2_tr {e : GvnExpr w} {a b : Nat} (he : opsOf e = [a, b]) {s : St w} (hk : K s) (ha : V s a)
    (hb : V s b) : Tr tot (getValue e) s (fun v s' => WalkU K V Un s [a, b] [v] s') :=
  he ▸ hg e s (fun m em => by subst em; cases he) hk (by
    intro x hx; rw [he] at hx
    simp only [List.mem_cons, List.not_mem_nil, or_false] at hx
    rcases hx with rfl | rfl
    · exact ha
    · exact hb)

theorem getValueImm_tr (c : BitVec w) {s : St w} (hk : K s) :
    Tr tot (getValue (.imm c)) s (fun v s' => WalkU K V Un s [] [v] s') :=
  hg (.imm c) s (fun _ em => by cases em) hk (fun _ h => by cases h)

theorem getValueMem_tr {v : Int} (hv : C v) {s : St w} (hk : K s) :
    Tr tot (getValue (.mem v)) s (fun r s' => WalkU K V Un s [] [r] s') :=
  hg (.mem v) s (fun _ em => by cases em; exact hv) hk (fun _ h => by cases h)

theorem codegenVars_tr : ∀ (vs : List Int) (result : Nat) {s : St w}, (∀ v ∈ vs, C v) → K s → V s result →
    Tr tot (codegenVars result vs) s (fun r s' => WalkU K V Un s [result] [r] s')
  | [], result, s, _, hk, hr => Tr.pure (WalkU.refl hk (by simpa using hr))
  | v :: vs, result, s, hv, hk, hr => by
    simp only [codegenVars]
    refine Tr.bind ((getValueMem_tr hg (hv v List.mem_cons_self) hk).mono ?_)
    intro m s1 _ w1
    refine Tr.bind ((getValue2_tr hg (e := .mul result m) rfl w1.k (w1.mono _ hr)
      (w1.val List.mem_cons_self)).mono ?_)
    intro r s2 _ w2
    exact (codegenVars_tr vs r (fun v h => hv v (List.mem_cons_of_mem _ h)) w2.k (w2.val List.mem_cons_self)).mono
      (fun _ _ _ w3 => (w1.withOld w2).next w3)

theorem codegenPart_tr (var : Int) (p : Part w) {s : St w} (hv : ∀ v ∈ p.vars, C v) (hk : K s) :
    Tr tot (codegenPart var p) s (fun r s' => WalkU K V Un s [] [r] s') := by
  unfold codegenPart
  have hperm := Expr.stableSort_perm (fun a b => decide (ordering var a ≤ ordering var b)) p.vars
  generalize Expr.stableSort (fun a b => decide (ordering var a ≤ ordering var b)) p.vars = sorted at hperm
  have hvs : ∀ v ∈ sorted, C v := fun v hm => hv v (hperm.mem_iff.1 hm)
  cases sorted with
  | nil => exact getValueImm_tr hg _ hk
  | cons v0 vs =>
    refine Tr.bind ((getValueMem_tr hg (hvs v0 List.mem_cons_self) hk).mono ?_)
    intro r0 s1 _ w1
    refine Tr.bind ((codegenVars_tr hg vs r0 (fun v h => hvs v (List.mem_cons_of_mem _ h)) w1.k
      (w1.val List.mem_cons_self)).mono ?_)
    intro r s2 _ w2
    have w12 : WalkU K V Un s [] [r] s2 := w1.next w2
    split
    · exact Tr.pure w12
    · refine Tr.bind ((getValueImm_tr hg p.coef w2.k).mono ?_)
      intro im s3 _ w3
      have w123 : WalkU K V Un s [] [r, im] s3 := w12.both w3
      exact (getValue2_tr hg (e := .mul r im) rfl w3.k (w123.val List.mem_cons_self)
        (w123.val (List.mem_cons_of_mem _ List.mem_cons_self))).mono (fun _ _ _ w4 => w123.next w4)

theorem codegenRest_tr (var : Int) : ∀ (ps : List (Part w)) (result : Nat) {s : St w},
    (∀ p ∈ ps, ∀ v ∈ p.vars, C v) → K s → V s result →
    Tr tot (codegenRest var result ps) s (fun r s' => WalkU K V Un s [result] [r] s')
  | [], result, s, _, hk, hr => Tr.pure (WalkU.refl hk (by simpa using hr))
  | p :: ps, result, s, hv, hk, hr => by
    simp only [codegenRest]
    refine Tr.bind ((codegenPart_tr hg var p (hv p List.mem_cons_self) hk).mono ?_)
    intro pr s1 _ w1
    have next : ∀ e : GvnExpr w, opsOf e = [result, pr] →
        Tr tot (getValue e >>= fun r => codegenRest var r ps) s1 (fun r s' => WalkU K V Un s [result] [r] s') :=
      fun e he =>
      Tr.bind ((getValue2_tr hg he w1.k (w1.mono _ hr) (w1.val List.mem_cons_self)).mono fun r s2 _ w2 =>
        (codegenRest_tr var ps r (fun p h => hv p (List.mem_cons_of_mem _ h)) w2.k (w2.val List.mem_cons_self)).mono
          (fun _ _ _ w3 => (w1.withOld w2).next w3))
    split
    · exact next _ rfl
    · exact next _ rfl

theorem getExprValue_trC (e : Expr w) (var : Int) {s : St w} (hv : ∀ v ∈ Expr.variables e, C v) (hk : K s) :
    Tr tot (getExprValue e var) s (fun r s' => WalkU K V Un s [] [r] s') := by
  unfold getExprValue
  have hvp : ∀ p ∈ orderParts var e, ∀ v ∈ p.vars, C v := fun p hp v hvm =>
    hv v (List.mem_flatMap.2 ⟨p, (orderParts_perm var e).mem_iff.1 hp, hvm⟩)
  generalize orderParts var e = parts at hvp
  cases parts with
  | nil => exact getValueImm_tr hg _ hk
  | cons p0 ps =>
    have hps : ∀ p ∈ ps, ∀ v ∈ p.vars, C v := fun p h => hvp p (List.mem_cons_of_mem _ h)
    refine Tr.bind ((codegenPart_tr hg var p0 (hvp p0 List.mem_cons_self) hk).mono ?_)
    intro r0 s1 _ w1
    split
    · refine Tr.bind ((getValueImm_tr hg 0#w w1.k).mono ?_)
      intro z s2 _ w2
      have w12 : WalkU K V Un s [] [z, r0] s2 := (w1.both w2).swap
      refine Tr.bind ((getValue2_tr hg (e := .sub z r0) rfl w2.k (w12.val List.mem_cons_self)
        (w12.val (List.mem_cons_of_mem _ List.mem_cons_self))).mono ?_)
      intro r s3 _ w3
      exact (codegenRest_tr hg var ps r hps w3.k (w3.val List.mem_cons_self)).mono
        (fun _ _ _ w4 => (w12.next w3).next w4)
    · exact Tr.bind (Tr.pure ((codegenRest_tr hg var ps r0 hps w1.k (w1.val List.mem_cons_self)).mono
        (fun _ _ _ w4 => w1.next w4)))

theorem calcValues_trC : ∀ (calcs : List (Int × Expr w)) {s : St w}, (∀ c ∈ calcs, ∀ v ∈ Expr.variables c.2, C v) →
    K s → Tr tot (calcValues calcs) s (fun vals s' => WalkU K V Un s [] (vals.map (·.2)) s')
  | [], s, _, hk => Tr.pure (WalkU.refl hk (fun _ h => (by cases h)))
  | (v, e) :: rest, s, hv, hk => by
    simp only [calcValues]
    refine Tr.bind ((getExprValue_trC hg e v (hv (v, e) List.mem_cons_self) hk).mono ?_)
    intro x s1 _ w1
    refine Tr.bind ((calcValues_trC rest (fun c h => hv c (List.mem_cons_of_mem _ h)) w1.k).mono ?_)
    intro r s2 _ w2
    have w12 : WalkU K V Un s [] (x :: r.map (·.2)) s2 := w1.both w2
    exact Tr.pure w12

omit hg in
include hm in
theorem memWrites_trC : ∀ (vals : List (Int × Nat)) {s : St w}, (∀ p ∈ vals, C p.1) → K s → (∀ p ∈ vals, V s p.2) →
    Tr tot (memWrites vals) s (fun _ s' => WalkU K V Un s (vals.map (·.2)) [] s')
  | [], s, _, hk, _ => Tr.pure (WalkU.refl hk (fun _ h => (by cases h)))
  | (v, x) :: rest, s, hc, hk, hv => by
    simp only [memWrites]
    refine Tr.bind ((hm v x s (hc (v, x) List.mem_cons_self) hk (hv (v, x) List.mem_cons_self)).mono ?_)
    intro _ s1 _ w1
    exact (memWrites_trC rest (fun p h => hc p (List.mem_cons_of_mem _ h)) w1.k
      (fun p hp => w1.mono _ (hv p (List.mem_cons_of_mem _ hp)))).mono (fun _ _ _ w2 => w1.after w2)

end walk

section walkAny
variable {tot : Bool} {K : St w → Prop} {V Un : St w → Nat → Prop}
  (hg : ∀ (e : GvnExpr w) (s : St w), K s → (∀ a ∈ opsOf e, V s a) →
    Tr tot (getValue e) s (fun v s' => WalkU K V Un s (opsOf e) [v] s'))
  (hm : ∀ (var : Int) (x : Nat) (s : St w), K s → V s x →
    Tr tot (memWrite var x) s (fun _ s' => WalkU K V Un s [x] [] s'))

include hg in
theorem getExprValue_tr (e : Expr w) (var : Int) {s : St w} (hk : K s) :
    Tr tot (getExprValue e var) s (fun r s' => WalkU K V Un s [] [r] s') :=
  getExprValue_trC (C := fun _ => True) (fun e s _ => hg e s) e var (fun _ _ => trivial) hk

include hg in
theorem calcValues_tr (calcs : List (Int × Expr w)) {s : St w} (hk : K s) :
    Tr tot (calcValues calcs) s (fun vals s' => WalkU K V Un s [] (vals.map (·.2)) s') :=
  calcValues_trC (C := fun _ => True) (fun e s _ => hg e s) calcs (fun _ _ _ _ => trivial) hk

include hm in
theorem memWrites_tr (vals : List (Int × Nat)) {s : St w} (hk : K s) (hv : ∀ p ∈ vals, V s p.2) :
    Tr tot (memWrites vals) s (fun _ s' => WalkU K V Un s (vals.map (·.2)) [] s') :=
  memWrites_trC (C := fun _ => True) (fun var x s _ => hm var x s) vals (fun _ _ => trivial) hk hv

end walkAny



theorem Pre.getValue {e : GvnExpr w} {s s' : St w} {v : Nat} (h : getValue e s = .ok (v, s')) :
    Pre s.insts s'.insts := by
  rcases getValue_core h with ⟨_, rfl⟩ | ⟨_, _, hc⟩
  · exact Pre.refl _
  · rw [show s'.insts = _ from congrArg G.insts hc]; exact Pre.push _ _

theorem Pre.memWrite {var : Int} {x : Nat} {s s' : St w} {u : Unit} (h : memWrite var x s = .ok (u, s')) :
    Pre s.insts s'.insts := by
  rw [show s'.insts = _ from congrArg G.insts (memWrite_core h)]; exact Pre.push _ _

theorem pre_setIfInBounds {α : Type} {a b : Array α} (h : Pre a b) {i : Nat} (hi : a.size ≤ i) (x : α) :
    Pre a (b.setIfInBounds i x) := by
  refine ⟨by simpa using h.1, ?_⟩
  intro j hj
  rw [Array.getElem?_setIfInBounds]
  have : ¬ i = j := fun e => by omega
  simp only [this, false_and, if_false]
  exact h.2 j hj


/-- What `get_value` and `mem_write` preserve, the code of a `calc` instruction preserves. -/
theorem calc_pres {K : St w → Prop}
    (hg : ∀ (e : GvnExpr w) (s : St w) (v : Nat) (s' : St w), K s → getValue e s = .ok (v, s') → K s')
    (hm : ∀ (var : Int) (x : Nat) (s s' : St w) (u : Unit), K s → memWrite var x s = .ok (u, s') → K s')
    {calcs : List (Int × Expr w)} {s s1 s' : St w} {vals : List (Int × Nat)} {u : Unit}
    (hc : calcValues calcs s = .ok (vals, s1)) (hw : memWrites vals s1 = .ok (u, s')) (hk : K s) : K s' := by
  have k1 := (tr_false.1 (calcValues_tr (K := K) (V := fun _ _ => True) (Un := fun _ _ => False)
    (fun e a hk _ => tr_false.2 fun v a' hh =>
      ⟨hg e a v a' hk hh, fun _ _ => trivial, fun _ _ => trivial, fun _ f => f.elim⟩) calcs hk) vals s1 hc).1
  exact (tr_false.1 (memWrites_tr (K := K) (V := fun _ _ => True) (Un := fun _ _ => False)
    (fun var x a hk _ => tr_false.2 fun u a' hh =>
      ⟨hm var x a a' u hk hh, fun _ h => (by cases h), fun _ _ => trivial, fun _ f => f.elim⟩)
    vals k1 (fun _ _ => trivial)) u s' hw).1

theorem Pre.calc {calcs : List (Int × Expr w)} {s s1 s' : St w} {vals : List (Int × Nat)} {u : Unit}
    (hc : calcValues calcs s = .ok (vals, s1)) (hw : memWrites vals s1 = .ok (u, s')) : Pre s.insts s'.insts :=
  calc_pres (K := fun a => Pre s.insts a.insts) (fun _ _ _ _ hk hh => hk.trans (Pre.getValue hh))
    (fun _ _ _ _ _ hk hh => hk.trans (Pre.memWrite hh)) hc hw (Pre.refl _)

section block
variable {tot fuse : Bool} {ps : Nat} {cond shift : Int} {be : Bool} {sub : Analysis}
  {eb : Nat → M w Unit} {s : St w} {Q : Unit → St w → Prop}

theorem pre_lhMov (shift : Int) (s : St w) : Pre s.insts (lhMov shift s).insts := by
  unfold lhMov; split
  · exact Pre.refl _
  · exact Pre.push _ _

/-- `emitLoopIf_block_ok` as a rule: the body runs from `bodySt` and must not shrink the instruction list (so the
placeholder of the leading `brz` stays in bounds); then, for a loop, the `outer_accessed` loop runs. -/
theorem emitLoopIf_block_tr {isLoop once : Bool} (hf : (!fuse || !isLoop || !be) = true)
    (h : Tr tot (eb (bodySt isLoop once sub s).currentStart) (bodySt isLoop once sub s) (fun _ sb =>
      (bodySt isLoop once sub s).insts.size ≤ sb.insts.size ∧
      if isLoop then
        Tr tot (outerLoop ps ((lhMov shift sb).outerAccessed.size + (lhMov shift sb).ranges.size + 1)
          s.outerAccessed.size) (lhMov shift sb) (fun _ so => Q () (endSt ps isLoop once cond sub s so))
      else Q () (endSt ps isLoop once cond sub s (lhMov shift sb)))) :
    Tr tot (emitLoopIf fuse ps isLoop once cond shift be sub eb) s Q := by
  rw [tr_iff] at h ⊢
  obtain ⟨h1, h2⟩ := h
  constructor
  · rintro ⟨⟩ s' hs
    obtain ⟨sb, so, hb, ho, -, rfl⟩ := (emitLoopIf_block_ok hf).1 hs
    obtain ⟨-, hq⟩ := h1 _ _ hb
    cases isLoop
    · simp only [Bool.false_eq_true, if_false] at hq ho; rw [ho]; exact hq
    · simp only [if_true] at hq ho; exact (tr_iff.1 hq).1 _ _ ho
  · intro ht
    obtain ⟨⟨⟩, sb, hb⟩ := h2 ht
    obtain ⟨hsz, hq⟩ := h1 _ _ hb
    have hm := (pre_lhMov shift sb).1
    have hp : once = false → 0 < (bodySt isLoop once sub s).insts.size := by
      rintro rfl; exact bodySt_pos _ _ _
    cases isLoop
    · refine ⟨(), _, (emitLoopIf_block_ok hf).2 ⟨sb, _, hb, rfl, fun ho => ?_, rfl⟩⟩
      have := hp ho; simp only [Bool.false_eq_true, if_false]; omega
    · simp only [if_true] at hq
      obtain ⟨⟨⟩, so, ho⟩ := (tr_iff.1 hq).2 ht
      have hc : so.insts.size = (lhMov shift sb).insts.size :=
        congrArg (fun g => g.insts.size) (outerLoop_core _ _ _ ho).1
      refine ⟨(), _, (emitLoopIf_block_ok hf).2 ⟨sb, so, hb, ho, fun ho' => ?_, rfl⟩⟩
      have := hp ho'; simp only [if_true]; omega

theorem emitLoopIf_scan_tr (once : Bool) (hf : (!fuse || false || !be) = false)
    (h : Q () (scanSt cond shift sub once s)) :
    Tr tot (emitLoopIf fuse ps true once cond shift be sub eb) s Q :=
  Tr.of_ok ((emitLoopIf_scan_ok once hf).2 rfl) h

end block

/-- What an invariant of `emit_block` has to provide: one clause per kind of instruction, each stated on the explicit
state after the primitive (`scanSt`, `bodySt`, `lhMov`, `endSt`, …).  `J c ps a l s`: `s` is the generator state while the
block whose remaining instructions are `l` is emitted; `a` is the state of `Analysis::analyze` of that block before `l`,
`ps` the `current_start` on entry of the block, and `c` whatever the invariant wants to remember about the enclosing
blocks (the `loop`/`ifz` clauses choose the context `c'` of the body). -/
structure ClosedT {Ctx : Type} (tot fuse : Bool)
    (J : Ctx → Nat → Analysis → List (Ir.Instr w) → St w → Prop) : Prop where
  out : ∀ c ps a src rest s, J c ps a (.output src :: rest) s →
    J c ps (analyzeInstr (.output src : Ir.Instr w) a) rest { s with insts := s.insts.push (.out src) }
  inp : ∀ c ps a dst rest s, J c ps a (.input dst :: rest) s →
    J c ps (analyzeInstr (.input dst : Ir.Instr w) a) rest
      { s with values := alErase s.values (.mem dst), writes := addWrite s.writes dst s.insts.size,
               insts := s.insts.push (.inp dst) }
  calcR : ∀ c ps a calcs rest s, J c ps a (.calc calcs :: rest) s →
    Tr tot (calcValues calcs) s (fun vals s1 => Tr tot (memWrites vals) s1 (fun _ s' =>
      J c ps (analyzeInstr (.calc calcs : Ir.Instr w) a) rest s'))
  scan : ∀ c ps a cond shift once rest s, fuse = true → J c ps a (.loop cond shift [] once :: rest) s →
    J c ps (analyzeInstr (.loop cond shift [] once : Ir.Instr w) a) rest
      (scanSt cond shift (subOf shift ([] : List (Ir.Instr w))) once s)
  loop : ∀ c ps a cond shift body once rest s, (fuse && body.isEmpty) = false →
    J c ps a (.loop cond shift body once :: rest) s →
    ∃ c', J c' (bodySt true once (subOf shift body) s).currentStart Analysis.empty body
        (bodySt true once (subOf shift body) s) ∧
      ∀ sb, emitInsts fuse (bodySt true once (subOf shift body) s).currentStart body (subsOf body)
          (bodySt true once (subOf shift body) s) = .ok ((), sb) →
        J c' (bodySt true once (subOf shift body) s).currentStart (analyzeInsts body Analysis.empty) [] sb →
        Pre (bodySt true once (subOf shift body) s).insts sb.insts →
        Tr tot (outerLoop ps ((lhMov shift sb).outerAccessed.size + (lhMov shift sb).ranges.size + 1)
            s.outerAccessed.size) (lhMov shift sb) (fun _ so =>
          J c ps (analyzeInstr (.loop cond shift body once : Ir.Instr w) a) rest
            (endSt ps true once cond (subOf shift body) s so))
  ifz : ∀ c ps a cond shift body rest s, J c ps a (.ifnz cond shift body :: rest) s →
    ∃ c', J c' (bodySt false false (subOf shift body) s).currentStart Analysis.empty body
        (bodySt false false (subOf shift body) s) ∧
      ∀ sb, emitInsts fuse (bodySt false false (subOf shift body) s).currentStart body (subsOf body)
          (bodySt false false (subOf shift body) s) = .ok ((), sb) →
        J c' (bodySt false false (subOf shift body) s).currentStart (analyzeInsts body Analysis.empty) [] sb →
        Pre (bodySt false false (subOf shift body) s).insts sb.insts →
        J c ps (analyzeInstr (.ifnz cond shift body : Ir.Instr w) a) rest
          (endSt ps false false cond (subOf shift body) s (lhMov shift sb))

theorem pre_bodySt (isLoop once : Bool) (sub : Analysis) (s : St w) :
    Pre s.insts (bodySt isLoop once sub s).insts := by
  cases isLoop <;> cases once <;> first | exact Pre.refl _ | exact Pre.push _ _

theorem pre_endSt {ps : Nat} {isLoop once : Bool} {cond : Int} {sub : Analysis} {s so : St w}
    (h : Pre (bodySt isLoop once sub s).insts so.insts) :
    Pre s.insts (endSt ps isLoop once cond sub s so).insts := by
  have h0 := (pre_bodySt isLoop once sub s).trans h
  have hsz : once = false → s.insts.size ≤ (bodySt isLoop once sub s).insts.size - 1 := by
    rintro rfl; cases isLoop <;> simp [bodySt, lhHead, lhPro]
  cases isLoop <;> cases once
  · exact pre_setIfInBounds h0 (hsz rfl) _
  · exact h0
  · exact pre_setIfInBounds (h0.trans (Pre.push _ _)) (hsz rfl) _
  · exact h0.trans (Pre.push _ _)

/-- The induction over `emit_block`.  It is on a bound `n` of the size `iszL l`, because `emitInstr`/`emitInsts` recurse
into the body of a loop, which is not a sublist of `l`: no structural principle covers a body and the rest of the list.
`c'` in the `loop`/`ifz` cases is the context the invariant picks for the body. -/
theorem emitInsts_tr {Ctx : Type} {tot fuse : Bool} {J : Ctx → Nat → Analysis → List (Ir.Instr w) → St w → Prop}
    (C : ClosedT tot fuse J) : ∀ (n : Nat) (l : List (Ir.Instr w)), iszL l ≤ n →
    ∀ (c : Ctx) (a : Analysis) (ps : Nat) (s : St w), J c ps a l s →
    Tr tot (emitInsts fuse ps l (subsOf l)) s
      (fun _ s' => J c ps (analyzeInsts l a) [] s' ∧ Pre s.insts s'.insts) := by
  intro n
  induction n with
  | zero =>
    intro l hl c a ps s hJ
    cases l with
    | nil => exact Tr.of_ok (by simp only [emitInsts]; rfl) ⟨hJ, Pre.refl _⟩
    | cons i rest => cases i <;> simp [iszL, isz] at hl <;> omega
  | succ n ih =>
    intro l hl c a ps s hJ
    cases l with
    | nil => exact Tr.of_ok (by simp only [emitInsts]; rfl) ⟨hJ, Pre.refl _⟩
    | cons i rest =>
      rw [emitInsts, analyzeInsts]
      apply Tr.bind
      suffices hfirst : iszL rest ≤ n ∧ Tr tot (emitInstr fuse ps i (subsOf (i :: rest))) s (fun an' s1 =>
          an' = subsOf rest ∧ J c ps (analyzeInstr i a) rest s1 ∧ Pre s.insts s1.insts) by
        refine hfirst.2.mono ?_
        rintro an' s1 - ⟨rfl, k1, p1⟩
        exact (ih rest hfirst.1 c _ ps s1 k1).mono (fun _ s' _ h2 => ⟨h2.1, p1.trans h2.2⟩)
      cases i with
      | output src =>
        simp only [iszL, isz] at hl
        exact ⟨by omega, Tr.of_ok (by simp only [emitInstr, subsOf, pushInst_bind]; rfl)
          ⟨rfl, C.out _ _ _ _ _ _ hJ, Pre.push _ _⟩⟩
      | input dst =>
        simp only [iszL, isz] at hl
        exact ⟨by omega, Tr.of_ok (by simp only [emitInstr, subsOf, modify_bind]; rfl)
          ⟨rfl, C.inp _ _ _ _ _ _ hJ, Pre.push _ _⟩⟩
      | «calc» calcs =>
        simp only [iszL, isz] at hl
        refine ⟨by omega, ?_⟩
        simp only [emitInstr, subsOf]
        apply Tr.bind
        refine (C.calcR _ _ _ _ _ _ hJ).mono ?_
        intro vals s1 hc hm
        apply Tr.bind
        refine hm.mono ?_
        intro _ s2 hm2 hj
        exact Tr.pure ⟨rfl, hj, Pre.calc hc hm2⟩
      | loop cond shift body once =>
        simp only [iszL, isz] at hl
        refine ⟨by omega, ?_⟩
        simp only [emitInstr, subsOf]
        apply Tr.bind
        rw [subOf_subAnal]
        cases hf : (fuse && body.isEmpty) with
        | false =>
          have hf' : (!fuse || !true || !body.isEmpty) = true := by
            cases fuse <;> cases hb : body.isEmpty <;> simp_all
          apply emitLoopIf_block_tr hf'
          obtain ⟨c', j1, hexit⟩ := C.loop c ps a cond shift body once rest s hf hJ
          refine (ih body (by omega) c' _ _ _ j1).mono ?_
          rintro ⟨⟩ sb hb ⟨jb, pb⟩
          refine ⟨pb.1, ?_⟩
          simp only [if_true]
          refine (hexit sb hb jb pb).mono ?_
          intro _ so ho hj
          have hso : so.insts = (lhMov shift sb).insts := congrArg G.insts (outerLoop_core _ _ _ ho).1
          exact Tr.pure ⟨rfl, hj, pre_endSt (by rw [hso]; exact pb.trans (pre_lhMov _ _))⟩
        | true =>
          have hfu : fuse = true := by cases fuse <;> simp_all
          have hbe : body = [] := by
            cases body with
            | nil => rfl
            | cons _ _ => simp [hfu] at hf
          subst hbe
          have hf' : (!fuse || false || !([] : List (Ir.Instr w)).isEmpty) = false := by simp [hfu]
          apply emitLoopIf_scan_tr once hf'
          exact Tr.pure ⟨rfl, C.scan _ _ _ _ _ _ _ _ hfu hJ, Pre.push _ _⟩
      | ifnz cond shift body =>
        simp only [iszL, isz] at hl
        refine ⟨by omega, ?_⟩
        simp only [emitInstr, subsOf]
        apply Tr.bind
        rw [subOf_subAnal]
        apply emitLoopIf_block_tr (isLoop := false) (once := false) (by cases fuse <;> rfl)
        obtain ⟨c', j1, hexit⟩ := C.ifz c ps a cond shift body rest s hJ
        refine (ih body (by omega) c' _ _ _ j1).mono ?_
        rintro ⟨⟩ sb hb ⟨jb, pb⟩
        refine ⟨pb.1, ?_⟩
        simp only [Bool.false_eq_true, if_false]
        exact Tr.pure ⟨rfl, hexit sb hb jb pb, pre_endSt (pb.trans (pre_lhMov _ _))⟩

end C02Emit
end Hpbf
