/-
The write frame along the footprint (`FootFrameV`) and all footprint claims (`FootAll`) for `loopOrIf` with a
non-moving child.  The read footprint and the mirrored badness come from the structural pass (`FootAll.of_rd`); the
frame does not: a block known never to end once entered (`noEffect`) writes cells that are recorded nowhere, and the
frame holds because a run that mirrors a valid run and reaches the end has not entered it.  The child's own frame only
speaks of runs from VALID entry states of the child, and a head of the emitted loop need not be one; it is used
through a valid companion of each head (`HeadsV`, `child_chain`): the source head of the same round, re-coordinated
(`HeadCtx`; the route is `loopPrep_stay_heads`, `headsV_of_ctx`, `loopTail_stay_frame`).  What this file takes from
the other series: `loopTail_stay_rec` (`OptRbFoot5`), `loopOrIf_rstep` (the structural pass, `OptRbRd4`).

The two-run head kit (`JW`, `jw_round`, `heads_mirror`): the heads of a MIRROR run correspond round by round to the
heads of the valid run, agreeing with them on the child's reads and on a set `P` of protected cells; hence every mirror
head keeps the pointer and the cells that are neither keys of the child's `written` nor read by it.  The frame of the
pushed block is this at the exit head (`block_frame`, `P` = the condition cell); the claim of the recorded analysis node
is this at every head (`OptRbAnLoop1`, `P` = the condition cell and the constant keys).
-/
import Hpbf.Proofs.OptRbFoot5
import Hpbf.Proofs.OptRbRd4

namespace Hpbf
namespace OptProof
open Opt OptSem Ir

variable {w : Nat}

theorem PhysStep.footFrameV {s s' : Rebuild w} {new : List (Instr w)} (h : PhysStep s s' new)
    (V : State w → Prop) : FootFrameV V s s' new := footFrameV_of_phys h

theorem KeysMono.toPrime {s s' : Rebuild w} (h : KeysMono s s') : KeysMono' s s' := h

theorem FootAll.of_rd {V : State w → Prop} {s s' : Rebuild w} {new : List (Instr w)} (h : RdAll s s' new)
    (hV : ∀ σ, V σ → ¬ Bad new σ) (hf : FootFrameV V s s' new) (hk : KeysMono' s s') : FootAll V s s' new :=
  ⟨h.footStepV hV, footBadV_of_rdAll h V hV, hf, h.mono, hk⟩

theorem footFrame_of_phys_ex {s s' : Rebuild w}
    (h : ∃ new, s'.insts = s.insts ++ new ∧ PhysStep s s' new ∧ KeysMono s s' ∧ ReadsMono s s') :
    ∃ new, s'.insts = s.insts ++ new ∧ (∀ V, FootFrameV V s s' new) ∧ KeysMono' s s' ∧ ReadsMono s s' := by
  obtain ⟨new, e, p, k, m⟩ := h
  exact ⟨new, e, fun V => p.footFrameV V, k, m⟩

theorem rebuildInsts_straight_frameBad {ps : List (Rebuild w)} (l : List (Instr w)) (hl : StraightL l)
    {s : Rebuild w} {os os' : Orders} {s' : Rebuild w} {done : Bool} (hwf : Wf s) (hnr : s.noReturn = false)
    (hr : (rebuildInsts ps s l).run os = .ok ((s', done), os')) :
    ∃ new, s'.insts = s.insts ++ new ∧ (∀ V, FootFrameV V s s' new) ∧ (∀ V, FootBadV V s s' new) ∧
      KeysMono' s s' ∧ ReadsMono s s' := by
  obtain ⟨new, e, f⟩ := rebuildInsts_straight_all l hl hwf hnr hr
  exact ⟨new, e, fun V => f.phys.footFrameV V, fun V => footBadV_of_noBlocks f.noBlocks, f.keys, f.mono⟩

theorem exec_loop_zero {c sh : Int} {I : List (Instr w)} {once : Bool} {b bb : State w}
    (hz : b.rd c = 0#w) (hex : Exec [.loop c sh I once] b (.fin bb)) : bb = b := by
  cases hex with
  | loopSkip _ hrest => cases hrest; rfl
  | loopIter hne _ _ => exact absurd hz hne
  | loopIn _ _ hnf => simp [Out.isFin] at hnf

theorem exec_ifnz_zero {c sh : Int} {I : List (Instr w)} {b bb : State w}
    (hz : b.rd c = 0#w) (hex : Exec [.ifnz c sh I] b (.fin bb)) : bb = b := by
  cases hex with
  | ifSkip _ hrest => cases hrest; rfl
  | ifIter hne _ _ => exact absurd hz hne
  | ifIn _ _ hnf => simp [Out.isFin] at hnf

theorem ifnz_frame_aux {c : Int} {I : List (Instr w)} {P : Int → Prop} {b bb : State w}
    (hframe : b.rd c ≠ 0#w → ∀ b', Exec I b (.fin b') → b'.ptr = b.ptr ∧ ∀ v, P v → memE b' v = memE b v)
    (hex : Exec [.ifnz c 0 I] b (.fin bb)) : bb.ptr = b.ptr ∧ ∀ v, P v → memE bb v = memE b v := by
  cases hex with
  | ifSkip _ hrest => cases hrest; exact ⟨rfl, fun _ _ => rfl⟩
  | @ifIter _ _ _ _ _ σ1 _ hne hb hrest =>
    cases hrest
    obtain ⟨p1, m1⟩ := hframe hne σ1 hb
    refine ⟨?_, fun v hv => ?_⟩
    · show σ1.ptr + 0 = b.ptr
      rw [Int.add_zero, p1]
    · rw [memE_mov_zero, m1 v hv]
  | ifIn _ _ hnf => simp [Out.isFin] at hnf

theorem ifnz_bad_mirror {c : Int} {I : List (Instr w)} {a b : State w}
    (hc : a.rd c = 0#w ↔ b.rd c = 0#w) (hbad : b.rd c ≠ 0#w → Bad I b → Bad I a)
    (hb : Bad [.ifnz c 0 I] b) : Bad [.ifnz c 0 I] a := by
  cases hb with
  | ifSkip _ hb' => cases hb'
  | ifIter _ _ hb' => cases hb'
  | ifIn hne hb' => exact Bad.ifIn (fun hz => hne (hc.1 hz)) (hbad hne hb')

/-- Every head `a` (with non-zero condition cell) of the emitted loop / if started in `τ1` has a companion state
`σX` that is a valid entry state of the child and agrees with `a` on everything the child reads and on the protected
cells `P` (at least the condition cell).  (`σX` is the source head, re-coordinated.) -/
def HeadsV (Gc : State w → Prop) (shP cS : Int) (pc : List (Rebuild w)) (sub0 sub1 : Rebuild w)
    (isLoop : Bool) (P : Int → Prop) (τ1 : State w) : Prop :=
  ∀ k a, Head (cS + shP) 0 sub1.insts τ1 k a → (isLoop = false → k = 0) → a.rd (cS + shP) ≠ 0#w →
    ∃ σX, ValidG Gc shP sub0 pc σX ∧ σX.ptr = a.ptr ∧ σX.env = a.env ∧ σX.trace = a.trace ∧
      (∀ v ∈ sub1.reads, memE σX v = memE a v) ∧ (∀ v, P v → memE σX v = memE a v)

/-- The head relation between the valid run (from `τ1`) and a mirror run: `a` is the `k`-th head of the valid run,
`b` agrees with it off a set that avoids the child's reads and the protected cells. -/
def JW (sub1 : Rebuild w) (c : Int) (P : Int → Prop) (τ1 : State w) (k : Nat) (a b : State w) : Prop :=
  Head c 0 sub1.insts τ1 k a ∧
    ∃ X : Int → Prop, AgreeOff X a b ∧ (∀ v, X v → v ∉ sub1.reads) ∧ (∀ v, P v → ¬ X v)

section Round
variable {Gc : State w → Prop} {shP shC cS : Int} {pc : List (Rebuild w)} {sub0 sub1 : Rebuild w}
  {bodyS : List (Instr w)} {isLoop : Bool} {P : Int → Prop} {τ1 : State w}

theorem jw_cond (hPc : P (cS + shP)) {k : Nat} {a b : State w} (hJ : JW sub1 (cS + shP) P τ1 k a b) :
    a.rd (cS + shP) = b.rd (cS + shP) := by
  obtain ⟨_, X, hag, _, hXP⟩ := hJ
  exact hag.2.2.2 _ (hXP _ hPc)

/-- One round of the two runs: the child's footprint through the valid companion of the head (`child_chain`).  The
mirror's round keeps the pointer and the cells that are neither keys of the child's `written` nor read by it. -/
theorem jw_round (hc : ChildOk Gc shP shC pc sub0 sub1 cS bodyS)
    (hV : HeadsV Gc shP cS pc sub0 sub1 isLoop P τ1) {k : Nat} {a b : State w}
    (hJ : JW sub1 (cS + shP) P τ1 k a b) (hk : isLoop = false → k = 0) (hne : a.rd (cS + shP) ≠ 0#w) :
    Sim (fun a' b' => JW sub1 (cS + shP) P τ1 (k + 1) (a'.mov 0) (b'.mov 0) ∧ b'.ptr = b.ptr ∧
      ∀ v, v ∉ mKeys sub1.written → v ∉ sub1.reads → memE b' v = memE b v) sub1.insts sub1.insts a b := by
  obtain ⟨hh, X, hag, hXr, hXP⟩ := hJ
  obtain ⟨σX, hvX, hXp, hXe, hXt, hXrd, hXPe⟩ := hV k a hh hk hne
  obtain ⟨Sc, _, hfr⟩ := child_chain hc.foot hc.badfoot hc.frame2 hc.noShift hc.w0 hvX hXr hXp hXe hXt hXrd hag
  refine Sc.fin_strengthen.mono ?_
  rintro a' b' ⟨⟨q1, q2, q3, via, _⟩, hxa, hxb⟩
  refine ⟨⟨Head.succ hh hne hxa,
    fun v => ¬ (DefW sub1 v ∨ ¬ (memE σX v ≠ memE a v ∨ X v)), ?_, ?_, ?_⟩, hfr b' hxb⟩
  · exact AgreeOff.mov0 ⟨q1, q2, q3, fun v hv => via v (Classical.not_not.1 hv)⟩
  · intro v hv hr
    apply hv
    right
    rintro (h | h)
    · exact h (hXrd v hr)
    · exact hXr v h hr
  · intro v hp h
    apply h
    right
    rintro (h' | h')
    · exact h' (hXPe v hp)
    · exact hXP v hp h'

/-- Every head of a mirror run of the emitted loop has the head of the valid run of the same round; it keeps the
pointer and the cells that are neither keys of the child's `written` nor read by the child. -/
theorem heads_mirror (hc : ChildOk Gc shP shC pc sub0 sub1 cS bodyS)
    (hV : HeadsV Gc shP cS pc sub0 sub1 true P τ1) (hPc : P (cS + shP)) {τ2 : State w}
    (hJ0 : JW sub1 (cS + shP) P τ1 0 τ1 τ2) {k : Nat} {b : State w}
    (hh : Head (cS + shP) 0 sub1.insts τ2 k b) :
    ∃ a, JW sub1 (cS + shP) P τ1 k a b ∧ b.ptr = τ2.ptr ∧
      ∀ v, v ∉ mKeys sub1.written → v ∉ sub1.reads → memE b v = memE τ2 v := by
  refine heads_bwd (sh := 0) (body := sub1.insts) (B := fun _ => True)
    (J := fun k a b => JW sub1 (cS + shP) P τ1 k a b ∧ b.ptr = τ2.ptr ∧
      ∀ v, v ∉ mKeys sub1.written → v ∉ sub1.reads → memE b v = memE τ2 v)
    (fun _ _ => trivial) ⟨hJ0, rfl, fun _ _ _ => rfl⟩ ?_ hh trivial
  rintro k a b ⟨hJ, hp, hm⟩ _ hne
  refine (jw_round hc hV hJ (fun h => Bool.noConfusion h) (by rw [jw_cond hPc hJ]; exact hne)).mono ?_
  rintro a' b' ⟨hJ', p1, m1⟩
  refine ⟨hJ', ?_, fun v h1 h2 => ?_⟩
  · show b'.ptr + 0 = τ2.ptr
    rw [Int.add_zero, p1, hp]
  · rw [memE_mov_zero, m1 v h1 h2, hm v h1 h2]

theorem block_fin (hc : ChildOk Gc shP shC pc sub0 sub1 cS bodyS)
    (hV : HeadsV Gc shP cS pc sub0 sub1 isLoop P τ1) (hPc : P (cS + shP)) {τ2 : State w} {once : Bool}
    (hJ : JW sub1 (cS + shP) P τ1 0 τ1 τ2) :
    Sim (fun _ _ => True) [blockInstr isLoop (cS + shP) 0 sub1.insts once]
      [blockInstr isLoop (cS + shP) 0 sub1.insts once] τ1 τ2 :=
  (Sim.block (J := JW sub1 (cS + shP) P τ1) (fun _ _ _ h => jw_cond hPc h)
    (fun _ _ _ h => by obtain ⟨_, X, hab, _, _⟩ := h; exact hab.2.2.1.symm)
    (fun _ _ _ h hk hne => (jw_round hc hV h hk hne).mono (fun _ _ h' => h'.1)) hJ).mono (fun _ _ _ => trivial)

/-- The write frame of the mirror run of the pushed block. -/
theorem block_frame (hc : ChildOk Gc shP shC pc sub0 sub1 cS bodyS)
    (hV : HeadsV Gc shP cS pc sub0 sub1 isLoop P τ1) (hPc : P (cS + shP)) {τ2 bb : State w} {once : Bool}
    (hJ : JW sub1 (cS + shP) P τ1 0 τ1 τ2)
    (hex : Exec [blockInstr isLoop (cS + shP) 0 sub1.insts once] τ2 (.fin bb)) :
    bb.ptr = τ2.ptr ∧ ∀ v, v ∉ mKeys sub1.written → v ∉ sub1.reads → memE bb v = memE τ2 v := by
  cases isLoop with
  | true =>
    obtain ⟨k, hh, _⟩ := exec_loop_fin_head hex
    obtain ⟨_, _, hp, hm⟩ := heads_mirror hc hV hPc hJ hh
    exact ⟨hp, hm⟩
  | false =>
    refine ifnz_frame_aux (P := fun v => v ∉ mKeys sub1.written ∧ v ∉ sub1.reads) (fun hne b' hb' => ?_) hex
      |>.imp id (fun h v h1 h2 => h v ⟨h1, h2⟩)
    obtain ⟨_, _, _, p, m⟩ := (jw_round hc hV hJ (fun _ => rfl) (by rw [jw_cond hPc hJ]; exact hne)).finR b' hb'
    exact ⟨p, fun v hv => m v hv.1 hv.2⟩

end Round

/-- What is known at a pair (source head, emitted head) of the same round number. -/
structure HeadCtx (Gc : State w → Prop) (shP cS : Int) (pc : List (Rebuild w)) (sub0 sub1 : Rebuild w)
    (L : OptLoop w) (σk b : State w) : Prop where
  cond : b.rd (cS + shP) = σk.rd cS
  valid : σk.rd cS ≠ 0#w → Gc σk → ValidG Gc shP sub0 pc (σk.mov (-shP)) ∧ ¬ Bad sub1.insts (σk.mov (-shP))
  ptr : (σk.mov (-shP)).ptr = b.ptr
  env : (σk.mov (-shP)).env = b.env
  tr : (σk.mov (-shP)).trace = b.trace
  reads : ∀ v ∈ sub1.reads, memE (σk.mov (-shP)) v = memE b v
  maybe : L.noEffect = false → ∀ v k, (v, k) ∈ sub1.written → k.isMaybe = true →
    memE (σk.mov (-shP)) v = memE b v

/-- After the parent's preparation the condition cell holds the source's value, and every head of the emitted block
has the source head of the same round: the heads of the two runs correspond round by round (`StayJ`), and the source
head, re-coordinated, is a valid entry state of the child that agrees with the emitted head on what the child
reads. -/
theorem loopPrep_stay_heads {shP shC shS cS : Int} {bodyS : List (Instr w)}
    {s : Rebuild w} {ps : List (Rebuild w)} {sub1 : Rebuild w} {isLoop : Bool} {L : OptLoop w}
    {C : List Int} {pc : List (Rebuild w)} {sub0 : Rebuild w} {os os' : Orders}
    {r : Rebuild w × Rebuild w × List Int} {G Gc : State w → Prop}
    (hc : ChildOk Gc shP shC pc sub0 sub1 cS bodyS) (hwf : Wf s) (hwf1 : Wf sub1)
    (hns1 : (sub1.subShift || sub1.shift != s.shift) = false)
    (hsh : shC + shS = shP)
    (hGc : HeadsIn G Gc shP s ps cS shS bodyS (isLoop = false))
    (h2 : (loopPrep s ps sub1 (cS + shP) L C).run os = .ok (r, os')) :
    ∃ comps : List (List (Int × Expr w)), r.1.insts = s.insts ++ comps.map Instr.calc ∧
      ∀ M0 σ1 σS, RelAt shP s ps M0 σ1 σS → (comps.foldl doCalc σ1).rd (cS + shP) = σS.rd cS ∧
        (G σS → ∀ k b, Head (cS + shP) 0 sub1.insts (comps.foldl doCalc σ1) k b → (isLoop = false → k = 0) →
          ∃ σk, Head cS shS bodyS σS k σk ∧ HeadCtx Gc shP cS pc sub0 sub1 L σk b) := by
  obtain ⟨s3, comps, Dx, hreq, hclob, hdrop, hreads, hconstP, hdead, hminvx⟩ := loopPrep_stay hwf hns1 h2
  have e1 : r.1.insts = s3.insts := by
    rw [hreq]
    exact (condZero_same s3 _ (cS + shP)).insts
  refine ⟨comps, e1.trans hclob.insts, ?_⟩
  intro M0 σE σS hrel
  obtain ⟨_, hread', hJ0, hcondrd, hrun⟩ := stayJ_setup (isLoop := isLoop) hc hwf1 hsh hclob hdrop hreads hminvx hrel rfl
  refine ⟨(hcondrd 0 σS _ hJ0).symm, fun hG => ?_⟩
  obtain ⟨_, hheads⟩ := hrun (hGc M0 σE σS hrel hG)
  intro k b hh hk
  obtain ⟨σk, hJ⟩ := hheads k b hh hk
  refine ⟨σk, hJ.head, ?_⟩
  have hXptr : (σk.mov (-shP)).ptr = b.ptr := by
    show σk.ptr + -shP = b.ptr
    rw [hJ.ptr]; omega
  have hXS : ∀ v, memE (σk.mov (-shP)) v = memS b σk v := by
    intro v
    show σk.tape.get ((σk.mov (-shP)).ptr + v) = σk.tape.get (b.ptr + v)
    rw [hXptr]
  refine ⟨(hcondrd k σk b hJ).symm, ?_, hXptr, hJ.env, hJ.tr, ?_, ?_⟩
  · intro hne hg
    have hsm : SameMem shP σk (σk.mov (-shP)) := by
      refine ⟨rfl, rfl, ?_, by funext v; rfl⟩
      show σk.ptr = σk.ptr + -shP + shP
      omega
    obtain ⟨M0c, hre⟩ := hc.entry (σk.mov (-shP)) σk hsm hne hg
    exact ⟨⟨M0c, σk, hre, hg⟩, (hc.rep M0c _ σk hre hg).2⟩
  · intro v hv
    obtain ⟨p1, p2⟩ := hread' v (Or.inl hv)
    rw [hXS v]; exact hJ.agree v p1 p2
  · intro hnev v kk hvk hm
    rw [hXS v]
    have hkey : v ∈ mKeys sub1.written := List.mem_map.2 ⟨(v, kk), hvk, rfl⟩
    have hnd : ¬ Dx v := by
      intro hd
      obtain ⟨k', hk', hm'⟩ := hdrop.written v hd
      have g1 := mGet_of_mem hwf1.writ hvk
      have g2 := mGet_of_mem hwf1.writ hk'
      rw [g1] at g2
      cases g2
      rw [hm] at hm'
      cases hm'
    cases hC : C.contains v with
    | true => exact hJ.agree v (hconstP v hkey hC) hnd
    | false => exact hJ.agree v (hdead hnev (v, kk) hvk hC).1 hnd

/-- The companion of an emitted head is its source head, re-coordinated. -/
theorem headsV_of_ctx {Gc : State w → Prop} {shP cS shS : Int} {pc : List (Rebuild w)} {sub0 sub1 : Rebuild w}
    {L : OptLoop w} {isLoop : Bool} {bodyS : List (Instr w)} {τ1 σS : State w}
    (hH : ∀ k b, Head (cS + shP) 0 sub1.insts τ1 k b → (isLoop = false → k = 0) →
      ∃ σk, Head cS shS bodyS σS k σk ∧ HeadCtx Gc shP cS pc sub0 sub1 L σk b)
    (hGc : HeadsAt Gc cS shS bodyS (isLoop = false) σS) :
    HeadsV Gc shP cS pc sub0 sub1 isLoop (fun v => v = cS + shP) τ1 := by
  intro k a hh hk hne
  obtain ⟨σk, hhd, hx⟩ := hH k a hh hk
  have hneS : σk.rd cS ≠ 0#w := by rw [← hx.cond]; exact hne
  refine ⟨σk.mov (-shP), (hx.valid hneS (hGc k σk hhd hk hneS)).1, hx.ptr, hx.env, hx.tr, hx.reads, ?_⟩
  rintro v rfl
  show σk.tape.get (σk.ptr + -shP + (cS + shP)) = a.rd (cS + shP)
  have e : σk.ptr + -shP + (cS + shP) = σk.ptr + cS := by omega
  rw [e]; exact hx.cond.symm

/-- The write frame along the footprint of the block pushed by `loopOrIf` (non-moving child), given the
condition-cell fact and the companions of the heads of every valid run (`hVc`) and the simulation statement of
`loopOrIf_stay_ok'` (`hstep`). -/
theorem loopTail_stay_frame {shP shC shS cS : Int} {bodyS : List (Instr w)} {oS : Bool} {s : Rebuild w}
    {ps : List (Rebuild w)} {sub1 : Rebuild w} {isLoop : Bool} {L : OptLoop w} {C : List Int}
    {pc : List (Rebuild w)} {sub0 : Rebuild w} {os os' : Orders} {r : Rebuild w × Rebuild w × List Int}
    {G Gc : State w → Prop} (hflag : Bool)
    (hc : ChildOk Gc shP shC pc sub0 sub1 cS bodyS) (hwf : Wf s) (hwf1 : Wf sub1)
    (hns : (sub1.subShift || sub1.shift != s.shift) = false)
    (h2 : (loopPrep s ps sub1 (cS + shP) L C).run os = .ok (r, os'))
    {compsV : List (List (Int × Expr w))} (hcompsV : r.1.insts = s.insts ++ compsV.map Instr.calc)
    (hVc : ∀ M0 σ1 σS, RelAt shP s ps M0 σ1 σS → (compsV.foldl doCalc σ1).rd (cS + shP) = σS.rd cS ∧
      (G σS → HeadsV Gc shP cS pc sub0 sub1 isLoop (fun v => v = cS + shP) (compsV.foldl doCalc σ1)))
    (hne : L.noEffect = true → ∀ M0 σE σS, RelAt shP s ps M0 σE σS → G σS →
      σS.rd cS = 0#w ∨ ∀ x, ¬ Exec [blockInstr isLoop cS shS bodyS oS] σS (.fin x))
    {T : Rebuild w} (hT : T = loopTail r.1 r.2.1 (cS + shP) isLoop L hflag r.2.2)
    {new : List (Instr w)} (hnew : T.insts = s.insts ++ new)
    (hstep : StepNG G shP shP ps s T [blockInstr isLoop cS shS bodyS oS] new) :
    FootFrameV (ValidG G shP s ps) s T new ∧ KeysMono' s T ∧ ReadsMono s T := by
  subst hT
  obtain ⟨hsubR, acc, _, hrd, _, _⟩ := calcs_elim hcompsV (loopPrep_stay_acc hwf hwf1 hns h2) (fun _ p => p.2.1.insts)
  obtain ⟨_, hTi, hkm, hrm, htgt, hrecE⟩ := calcs_elim hcompsV
    (loopTail_stay_rec (isLoop := isLoop) hflag hwf hwf1 hns h2 rfl) (fun _ p => p.1)
  obtain ⟨_, t4, hssEq, _, _⟩ := loopTail_stay_fields (cond := cS + shP) hns hsubR acc.hdr isLoop L hflag
  have hnewEq : new = compsV.map Instr.calc ++ [blockInstr isLoop (cS + shP) 0 sub1.insts L.atLeastOnce] :=
    List.append_cancel_left (hnew.symm.trans hTi)
  subst hnewEq
  refine ⟨?_, hkm, hrm⟩
  intro hss K hK σ1 σ2 v1 hag bb hex
  have hssP : r.1.subShift = false := by rw [← hssEq]; exact hss
  -- after the preparation the two runs agree on what the child reads and on the condition cell
  have hA := prep_agree (R := fun v => v ∈ sub1.reads ∨ v = cS + shP) acc hssP (fun v hv => (hrd hssP v hv).1) K
    (fun v hv hr' => hK v hv (by rw [t4]; exact hr')) σ1 σ2 hag
  have hJ0 : JW sub1 (cS + shP) (fun v => v = cS + shP) (compsV.foldl doCalc σ1) 0 (compsV.foldl doCalc σ1)
      (compsV.foldl doCalc σ2) :=
    ⟨Head.zero, _, hA, fun v h hr' => h.1 (Or.inl hr'), fun v hv h => h.1 (Or.inr hv)⟩
  have hexL := (exec_calcs_iff compsV _ σ2 _).1 hex
  obtain ⟨pc0, mc0⟩ := phys_frame (exec_calcs_run compsV σ2) _ rfl (nsL_calcs compsV)
  -- it suffices to treat the pushed block
  suffices hloop : bb.ptr = (compsV.foldl doCalc σ2).ptr ∧
      ∀ v, v ∉ mKeys (loopTail r.1 r.2.1 (cS + shP) isLoop L hflag r.2.2).written →
        v ∉ (loopTail r.1 r.2.1 (cS + shP) isLoop L hflag r.2.2).reads →
        memE bb v = memE (compsV.foldl doCalc σ2) v by
    refine ⟨hloop.1.trans pc0, fun v hv1 hv2 => ?_⟩
    rw [hloop.2 v hv1 hv2]
    exact mc0 v (fun ht => (htgt hss v ht).elim hv1 hv2)
  obtain ⟨M0, σS, hrel, hg⟩ := v1
  obtain ⟨hcell, hV⟩ := hVc M0 σ1 σS hrel
  cases hnev : L.noEffect with
  | true =>
    -- a run that reaches the end has not entered the block
    obtain ⟨aa, hexA, _⟩ := (block_fin hc (hV hg) rfl hJ0).finR bb hexL
    obtain ⟨x, hx, _⟩ := (hstep.2 M0 σ1 σS hrel hg).1.finR aa ((exec_calcs_iff compsV _ σ1 _).2 hexA)
    have hzS : σS.rd cS = 0#w := (hne hnev M0 σ1 σS hrel hg).elim id (fun h => absurd hx (h x))
    have hz2 : (compsV.foldl doCalc σ2).rd (cS + shP) = 0#w := by
      rw [← jw_cond (P := fun v => v = cS + shP) rfl hJ0, hcell]; exact hzS
    have hbb : bb = compsV.foldl doCalc σ2 := by
      cases isLoop with
      | true => exact exec_loop_zero hz2 hexL
      | false => exact exec_ifnz_zero hz2 hexL
    rw [hbb]
    exact ⟨rfl, fun _ _ _ => rfl⟩
  | false =>
    -- what the child writes or reads is recorded by the parent
    obtain ⟨p, m⟩ := block_frame hc (hV hg) rfl hJ0 hexL
    exact ⟨p, fun v hv1 hv2 => m v (fun h => (hrecE hss hnev v (Or.inl h)).elim hv1 hv2)
      (fun h => (hrecE hss hnev v (Or.inr h)).elim hv1 hv2)⟩

theorem loopOrIf_stay_run {shP shC cS : Int} {bodyS : List (Instr w)} {s : Rebuild w} {ps : List (Rebuild w)}
    {sub : Rebuild w} {cond : Int} {isLoop : Bool} {L : OptLoop w} {C : List Int} {pc : List (Rebuild w)}
    {sub0 : Rebuild w} {os os' : Orders} {s' : Rebuild w} {Gc : State w → Prop}
    (hr : (loopOrIf s ps sub cond isLoop L C).run os = .ok (s', os'))
    (hpre : ChildPre Gc shP shC pc sub0 sub cS bodyS)
    (hns : (sub.subShift || sub.shift != s.shift) = false) :
    ∃ sub1 os1 r, ChildOk Gc shP shC pc sub0 sub1 cS bodyS ∧ Wf sub1 ∧
      (sub1.subShift || sub1.shift != s.shift) = false ∧
      (loopPrep s ps sub1 cond L C).run os1 = .ok (r, os') ∧
      s' = loopTail r.1 r.2.1 cond isLoop L (sub1.subShift || sub1.shift != s.shift) r.2.2 := by
  obtain ⟨sub1, os1, r, h1, h2, e⟩ := loopOrIf_run hr
  obtain ⟨hc, hwf1, hshift1⟩ := hpre.emit h1
  have hshEq : sub.shift = s.shift := by
    have := hns
    simp only [Bool.or_eq_false_iff, bne_eq_false_iff_eq] at this
    exact this.2
  refine ⟨sub1, os1, r, hc, hwf1, ?_, h2, e⟩
  rw [hc.noShift, hshift1, hshEq]; simp

theorem loopOrIf_stay_heads {shP shC shS cS : Int} {bodyS : List (Instr w)}
    {s : Rebuild w} {ps : List (Rebuild w)} {sub : Rebuild w} {cond : Int} {isLoop : Bool} {L : OptLoop w}
    {C : List Int} {pc : List (Rebuild w)} {sub0 : Rebuild w} {os os' : Orders} {s' : Rebuild w}
    {G Gc : State w → Prop}
    (hr : (loopOrIf s ps sub cond isLoop L C).run os = .ok (s', os'))
    (hwf : Wf s) (hpre : ChildPre Gc shP shC pc sub0 sub cS bodyS)
    (hns : (sub.subShift || sub.shift != s.shift) = false)
    (hcond : cond = cS + shP) (hsh : shC + shS = shP)
    (hGc : ∀ M0 σE σS, RelAt shP s ps M0 σE σS → G σS → ∀ k σk, Head cS shS bodyS σS k σk →
      (isLoop = false → k = 0) → σk.rd cS ≠ 0#w → Gc σk) :
    ∃ (sub1 : Rebuild w) (comps : List (List (Int × Expr w))), ChildOk Gc shP shC pc sub0 sub1 cS bodyS ∧ Wf sub1 ∧
      s'.insts = s.insts ++ (comps.map Instr.calc ++ [if isLoop then Instr.loop (cS + shP) 0 sub1.insts L.atLeastOnce
        else Instr.ifnz (cS + shP) 0 sub1.insts]) ∧
      ∀ M0 σ1 σS, RelAt shP s ps M0 σ1 σS → G σS →
        ∀ k b, Head (cS + shP) 0 sub1.insts (comps.foldl doCalc σ1) k b → (isLoop = false → k = 0) →
          ∃ σk, Head cS shS bodyS σS k σk ∧ HeadCtx Gc shP cS pc sub0 sub1 L σk b := by
  subst hcond
  obtain ⟨sub1, os1, r, hc, hwf1, hns1, h2, hT⟩ := loopOrIf_stay_run hr hpre hns
  obtain ⟨comps, e, hH⟩ := loopPrep_stay_heads hc hwf hwf1 hns1 hsh hGc h2
  refine ⟨sub1, comps, hc, hwf1, ?_, fun M0 σ1 σS hrel hG => (hH M0 σ1 σS hrel).2 hG⟩
  obtain ⟨_, hsubR, acc, _⟩ := loopPrep_stay_acc hwf hwf1 hns1 h2
  rw [hT, (loopTail_stay_fields (cond := cS + shP) hns1 hsubR acc.hdr isLoop L _).1, e, List.append_assoc]
  cases isLoop <;> rfl

theorem loopOrIf_stay_frame_of_step {shP shC shS cS : Int} {bodyS : List (Instr w)} {oS : Bool}
    {s : Rebuild w} {ps : List (Rebuild w)} {sub : Rebuild w} {cond : Int} {isLoop : Bool} {L : OptLoop w}
    {C : List Int} {pc : List (Rebuild w)} {sub0 : Rebuild w} {os os' : Orders} {s' : Rebuild w}
    {G Gc : State w → Prop}
    (hr : (loopOrIf s ps sub cond isLoop L C).run os = .ok (s', os'))
    (hwf : Wf s) (hpre : ChildPre Gc shP shC pc sub0 sub cS bodyS)
    (hns : (sub.subShift || sub.shift != s.shift) = false)
    (hcond : cond = cS + shP) (hsh : shC + shS = shP)
    (hGc : HeadsIn G Gc shP s ps cS shS bodyS (isLoop = false))
    (hne : L.noEffect = true → ∀ M0 σE σS, RelAt shP s ps M0 σE σS → G σS →
      σS.rd cS = 0#w ∨ ∀ x, ¬ Exec [blockInstr isLoop cS shS bodyS oS] σS (.fin x))
    {new : List (Instr w)} (hi : s'.insts = s.insts ++ new)
    (hst : StepNG G shP shP ps s s' [blockInstr isLoop cS shS bodyS oS] new) :
    FootFrameV (ValidG G shP s ps) s s' new ∧ KeysMono' s s' ∧ ReadsMono s s' := by
  subst hcond
  obtain ⟨sub1, os1, r, hc, hwf1, hns1, h2, hT⟩ := loopOrIf_stay_run hr hpre hns
  obtain ⟨comps, e, hH⟩ := loopPrep_stay_heads hc hwf hwf1 hns1 hsh hGc h2
  exact loopTail_stay_frame _ hc hwf hwf1 hns1 h2 e
    (fun M0 σ1 σS hrel => ⟨(hH M0 σ1 σS hrel).1,
      fun hG => headsV_of_ctx ((hH M0 σ1 σS hrel).2 hG) (hGc M0 σ1 σS hrel hG)⟩) hne hT hi hst

theorem loopOrIf_stay_footAll_of_step {shP shC shS cS : Int} {bodyS : List (Instr w)} {oS : Bool}
    {s : Rebuild w} {ps : List (Rebuild w)} {sub : Rebuild w} {cond : Int} {isLoop : Bool} {L : OptLoop w}
    {C : List Int} {pc : List (Rebuild w)} {sub0 : Rebuild w} {os os' : Orders} {s' : Rebuild w}
    {G Gc : State w → Prop}
    (hr : (loopOrIf s ps sub cond isLoop L C).run os = .ok (s', os'))
    (hwf : Wf s) (hpre : ChildPre Gc shP shC pc sub0 sub cS bodyS)
    (hns : (sub.subShift || sub.shift != s.shift) = false)
    (hcond : cond = cS + shP) (hsh : shC + shS = shP)
    (hGc : HeadsIn G Gc shP s ps cS shS bodyS (isLoop = false))
    (hne : L.noEffect = true → ∀ M0 σE σS, RelAt shP s ps M0 σE σS → G σS →
      σS.rd cS = 0#w ∨ ∀ x, ¬ Exec [blockInstr isLoop cS shS bodyS oS] σS (.fin x))
    (hch : RdSt sub) (hflag : isLoop = false → L.atLeastOnce = false)
    {new : List (Instr w)} (hi : s'.insts = s.insts ++ new)
    (hst : StepNG G shP shP ps s s' [blockInstr isLoop cS shS bodyS oS] new) :
    FootAll (ValidG G shP s ps) s s' new := by
  obtain ⟨hf, hk, _⟩ := loopOrIf_stay_frame_of_step hr hwf hpre hns hcond hsh hGc hne hi hst
  obtain ⟨newI, _, e, _, _, hall⟩ := (loopOrIf_rstep hr hwf hpre.wf hch hflag).ext
  cases List.append_cancel_left (e.symm.trans hi)
  exact FootAll.of_rd hall (fun _ => hst.notBad) hf hk

theorem loopOrIf_stay_footFrame {shP shC shS cS : Int} {bodyS : List (Instr w)} {oS : Bool}
    {s : Rebuild w} {ps : List (Rebuild w)} {sub : Rebuild w} {cond : Int} {isLoop : Bool} {L : OptLoop w}
    {C : List Int} {pc : List (Rebuild w)} {sub0 : Rebuild w} {os os' : Orders} {s' : Rebuild w}
    {G Gc : State w → Prop}
    (hr : (loopOrIf s ps sub cond isLoop L C).run os = .ok (s', os'))
    (hwf : Wf s) (hpre : ChildPre Gc shP shC pc sub0 sub cS bodyS)
    (hns : (sub.subShift || sub.shift != s.shift) = false)
    (hcond : cond = cS + shP) (hsh : shC + shS = shP)
    (hGc : ∀ M0 σE σS, RelAt shP s ps M0 σE σS → G σS → ∀ k σk, Head cS shS bodyS σS k σk →
      (isLoop = false → k = 0) → σk.rd cS ≠ 0#w → Gc σk)
    (hGcT : isLoop = true → ∀ σ, Gc σ)
    (halo : L.atLeastOnce = true → ∀ M0 σE σS, RelAt shP s ps M0 σE σS → G σS → σS.rd cS ≠ 0#w)
    (hnc : L.noContinue = true → ∀ M0 σE σS, RelAt shP s ps M0 σE σS → G σS →
      ∀ x, ¬ Exec [blockInstr isLoop cS shS bodyS oS] σS (.fin x))
    (hne : L.noEffect = true → ∀ M0 σE σS, RelAt shP s ps M0 σE σS → G σS →
      σS.rd cS = 0#w ∨ ∀ x, ¬ Exec [blockInstr isLoop cS shS bodyS oS] σS (.fin x))
    (hconst : ∀ M0 σE σS, RelAt shP s ps M0 σE σS → G σS → ∀ k σk, Head cS shS bodyS σS k σk →
      ∀ x, C.contains x = true → memS σE σk x = memS σE σS x) :
    ∃ new, s'.insts = s.insts ++ new ∧ FootFrameV (ValidG G shP s ps) s s' new := by
  obtain ⟨_, _, new, hi, hst⟩ := loopOrIf_stay_ok' (oS := oS) hr hwf hpre hns hcond hsh hGc halo hnc hne
    (fun M0 σE σS hrel hG k σk hh _ => hconst M0 σE σS hrel hG k σk hh)
  exact ⟨new, hi, (loopOrIf_stay_frame_of_step hr hwf hpre hns hcond hsh hGc hne hi hst).1⟩

theorem loopOrIf_shift_void {s : Rebuild w} {ps : List (Rebuild w)} {sub : Rebuild w} {cond : Int}
    {isLoop : Bool} {L : OptLoop w} {C : List Int} {os os' : Orders} {s' : Rebuild w}
    (hr : (loopOrIf s ps sub cond isLoop L C).run os = .ok (s', os'))
    (hwf : Wf s) (hwfc : Wf sub)
    (hshift : (sub.subShift || sub.shift != s.shift) = true) :
    ∀ (V : State w → Prop) (new : List (Instr w)),
      FootFrameV V s s' new ∧ FootBadV V s s' new ∧ KeysMono' s s' := by
  obtain ⟨h, _⟩ := loopOrIf_shift_foot hr hwf hwfc hshift
  intro V new
  refine ⟨fun h' => ?_, fun h' => ?_, fun h' => ?_⟩ <;> (rw [h] at h'; cases h')

end OptProof
end Hpbf

#print axioms Hpbf.OptProof.loopOrIf_stay_footFrame
#print axioms Hpbf.OptProof.loopOrIf_stay_footAll_of_step
#print axioms Hpbf.OptProof.loopOrIf_stay_frame_of_step
#print axioms Hpbf.OptProof.rebuildInsts_straight_frameBad
