/-
No operation on expressions that the optimizer uses invents a variable (`OptLoop.VarsIn`). `symbEvaluate`,
`reduceConst` and `splitAlong` are handled in `OptLoopExpr` / `OptLoopSplit`; here the remaining ones. Users: the
offsets walk (`OptOffs*`, the predicate being "within the bound") and `OptRbKnown` ("occurs in `e`", "is in `s.reads`").
-/
import Hpbf.Proofs.OptLoopSplit
import Hpbf.Proofs.C15Canon

namespace Hpbf.OptOffs
open Hpbf Opt Expr
open Hpbf.OptLoop (VarsIn varsIn_iff)

variable {w : Nat}

theorem varsIn_nil {S : Int → Prop} : VarsIn S ([] : Expr w) := fun _ hp => by cases hp

theorem varsIn_val {S : Int → Prop} (c : BitVec w) : VarsIn S (Expr.val c) := by
  unfold Expr.val
  split
  · exact varsIn_nil
  · intro p hp x hx
    simp only [List.mem_singleton] at hp
    subst hp; cases hx

theorem varsIn_var {S : Int → Prop} {v : Int} (hv : S v) : VarsIn S (Expr.var v : Expr w) := by
  intro p hp x hx
  simp only [Expr.var, List.mem_singleton] at hp
  subst hp
  simp only [List.mem_singleton] at hx
  subst hx; exact hv

theorem varsIn_single {S : Int → Prop} {p : Part w} (hp : ∀ x ∈ p.vars, S x) : VarsIn S [p] := by
  intro q hq
  simp only [List.mem_singleton] at hq
  subst hq; exact hp

theorem VarsIn.imp {S T : Int → Prop} {e : Expr w} (h : VarsIn S e) (hst : ∀ x, S x → T x) : VarsIn T e :=
  fun p hp x hx => hst x (h p hp x hx)

theorem varsIn_sublist {S : Int → Prop} {e e' : Expr w} (h : e'.Sublist e) (he : VarsIn S e) :
    VarsIn S e' := fun p hp x hx => he p (h.subset hp) x hx

theorem varsIn_append {S : Int → Prop} {a b : Expr w} (ha : VarsIn S a) (hb : VarsIn S b) :
    VarsIn S (a ++ b) := by
  intro p hp
  rcases List.mem_append.1 hp with h | h
  · exact ha p h
  · exact hb p h

theorem varsIn_normPhase1 {S : Int → Prop} {e : Expr w} (he : VarsIn S e) :
    VarsIn S (Expr.normPhase1 e) := by
  rcases Expr.normPhase1_cases e with h | ⟨_, hv⟩
  · rw [h]; exact he
  · intro p hp x hx
    obtain ⟨p0, hp0, hsub⟩ := hv p hp
    exact he p0 hp0 x (hsub.subset hx)

/-- `VarsIn` is a sublist-closed property of the list of `vars`. -/
theorem varsIn_normTail {S : Int → Prop} {e1 : Expr w} (he : VarsIn S e1) :
    VarsIn S (Expr.normTail e1) := by
  have key := Expr.normTail_vars (P := fun V => ∀ vs ∈ V, ∀ x ∈ vs, S x)
    (fun hs h vs hvs => h vs (hs.subset hvs)) (e1 := e1)
    (fun vs hvs x hx => by obtain ⟨p, hp, rfl⟩ := List.mem_map.1 hvs; exact he p hp x hx)
  exact fun p hp x hx => key p.vars (List.mem_map.2 ⟨p, hp, rfl⟩) x hx

theorem varsIn_normalize {S : Int → Prop} {e : Expr w} (he : VarsIn S e) :
    VarsIn S (Expr.normalize e) := by
  rw [Expr.normalize_eq]
  split
  · exact varsIn_normTail (varsIn_normPhase1 he)
  · exact he

theorem varsIn_add {S : Int → Prop} (a b : Expr w) (ha : VarsIn S a) (hb : VarsIn S b) :
    VarsIn S (Expr.add a b) := Expr.partsAll_add (Q := fun vs => ∀ x ∈ vs, S x) ha hb

theorem varsIn_mul {S : Int → Prop} (a b : Expr w) (ha : VarsIn S a) (hb : VarsIn S b) :
    VarsIn S (Expr.mul a b) := Expr.partsAll_mul (Expr.merges_in S) (fun _ h => nomatch h) ha hb

theorem varsIn_half {S : Int → Prop} {e e' : Expr w} (h : Expr.half e = some e') (he : VarsIn S e) :
    VarsIn S e' := by
  unfold Expr.half at h
  split at h
  · simp only [Option.some.injEq] at h
    subst h
    intro p hp x hx
    obtain ⟨p0, hp0, rfl⟩ := List.mem_map.1 hp
    exact he p0 hp0 x hx
  · cases h

theorem varsIn_shiftVars {S : Int → Prop} {e : Expr w} {shift : Int}
    (he : VarsIn (fun x => S (x + shift)) e) : VarsIn S (shiftVars e shift) := by
  intro p hp x hx
  unfold shiftVars at hp
  obtain ⟨p0, hp0, rfl⟩ := List.mem_map.1 hp
  simp only [List.mem_map] at hx
  obtain ⟨y, hy, rfl⟩ := hx
  exact he p0 hp0 y hy

/-- When `incOf` succeeds, a part of `e` that mentions `v` is `[v]` alone, and its filter drops exactly those parts. -/
theorem varsIn_incOf {S : Int → Prop} {e inc : Expr w} {v : Int} (h : Expr.incOf e v = some inc)
    (he : VarsIn (fun x => S x ∨ x = v) e) : VarsIn S inc := by
  unfold Expr.incOf at h
  split at h
  · rename_i hc
    simp only [Option.some.injEq] at h
    subst h
    simp only [Bool.and_eq_true, List.all_eq_true] at hc
    intro p hp x hx
    obtain ⟨hpe, hpf⟩ := List.mem_filter.1 hp
    rcases he p hpe x hx with hS | hxv
    · exact hS
    · subst hxv
      have := hc.2 p hpe
      simp only [Bool.or_eq_true, Bool.not_eq_true', beq_iff_eq] at this
      rcases this with h1 | h1
      · have : p.vars.contains x = true := List.contains_iff_mem.2 hx
        rw [h1] at this; cases this
      · exfalso
        obtain ⟨y, hy⟩ := List.length_eq_one_iff.1 h1
        rw [hy] at hx hpf
        simp only [List.mem_singleton] at hx
        subst hx
        simp at hpf
  · cases h

theorem varsIn_prodIncOf {S : Int → Prop} {e inc : Expr w} {v : Int} {mul : BitVec w}
    (h : Expr.prodIncOf e v = some (inc, mul)) (he : VarsIn S e) : VarsIn S inc := by
  unfold Expr.prodIncOf at h
  split at h
  · simp only [Option.some.injEq, Prod.mk.injEq] at h
    rw [← h.1]
    exact varsIn_sublist List.filter_sublist he
  · cases h

theorem varsIn_triStep {S : Int → Prop} (expr initial increment before : Expr w)
    (h1 : VarsIn S expr) (h2 : VarsIn S initial) (h3 : VarsIn S increment) (h4 : VarsIn S before) :
    VarsIn S (OptArith.triStep expr initial increment before).2 := by
  have hneg : VarsIn S (Expr.add expr (Expr.val (-1#w))) := varsIn_add _ _ h1 (varsIn_val _)
  unfold OptArith.triStep
  simp only
  split
  · rename_i inc hinc
    exact varsIn_add _ _ (varsIn_mul _ _ h1 h2)
      (varsIn_add _ _ h4 (varsIn_mul _ _ h1 (varsIn_mul _ _ hneg (varsIn_half hinc h3))))
  · split
    · rename_i inc hinc
      exact varsIn_add _ _ (varsIn_mul _ _ h1 h2)
        (varsIn_add _ _ h4 (varsIn_mul _ _ hneg (varsIn_mul _ _ h3 (varsIn_half hinc h1))))
    · split
      · rename_i inc hinc
        exact varsIn_add _ _ (varsIn_mul _ _ h1 h2)
          (varsIn_add _ _ h4 (varsIn_mul _ _ h1 (varsIn_mul _ _ h3 (varsIn_half hinc hneg))))
      · exact h4

end Hpbf.OptOffs
