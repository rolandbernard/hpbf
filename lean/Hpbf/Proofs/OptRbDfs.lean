/-
`gatherForEmit`: Tarjan's algorithm over the `reverse` edges (the readers of a cell), which decides which pending
calculations must be emitted, in which groups and in which order. A group is popped when `low = index`; at that
moment no entry left in `pending` reads a popped cell (`DfsLoopI.finish_pop`), so the simultaneous assignment
splits (`par_split`), whatever order the oracle gives. `dfs_spec` is the statement about one call of
`gatherToEmitDfs`, `gatherForEmit_spec` the one the rebuild proofs use.
-/
import Hpbf.Proofs.OptRbMonad

namespace Hpbf
namespace OptProof
open Opt OptSem
variable {w : Nat}

/-- One step of the loop over `order`. -/
def dfsStep (fuel : Nat) (acc : Dfs w × Nat) (n : Int) : M (Dfs w × Nat) :=
  match mGet acc.1.visited n with
  | some v => pure (acc.1, min acc.2 v)
  | none => gatherToEmitDfs fuel acc.1 n >>= fun r => pure (r.1, min acc.2 r.2)

def dfsEnter (d : Dfs w) (var : Int) : Dfs w :=
  { d with index := d.index + 1, visited := mSet d.visited var d.index }

def dfsLoop (fuel : Nat) (d : Dfs w) (var : Int) : M (Dfs w × Nat) :=
  match mGet d.s.reverse var with
  | none => pure (dfsEnter d var, d.index)
  | some next => takeOrder var next >>= fun order => order.foldlM (dfsStep fuel) (dfsEnter d var, d.index)

def dfsFinish (stackLen curIndex : Nat) (var : Int) (p : Dfs w × Nat) : M (Dfs w × Nat) :=
  if p.2 == curIndex then
    (liftM (popComp stackLen (var :: p.1.stack) p.1.s []) : M _) >>= fun r =>
      pure ({ s := r.1, index := p.1.index, visited := p.1.visited, stack := r.2.1,
                comps := if r.2.2.isEmpty then p.1.comps else p.1.comps ++ [r.2.2] }, p.2)
  else pure ({ s := p.1.s, index := p.1.index, visited := p.1.visited, stack := var :: p.1.stack,
               comps := p.1.comps }, p.2)

theorem dfs_unfold (fuel : Nat) (d : Dfs w) (var : Int) :
    gatherToEmitDfs (fuel + 1) d var = dfsLoop fuel d var >>= dfsFinish d.stack.length d.index var := by
  simp only [gatherToEmitDfs, dfsLoop, dfsEnter]
  cases mGet d.s.reverse var with
  | none => simp only [pure_bind]; rfl
  | some next => simp only [bind_assoc]; rfl


theorem dfs_zero (d : Dfs w) (var : Int) (os : Orders) (r : (Dfs w × Nat) × Orders) :
    (gatherToEmitDfs 0 d var).run os ≠ .ok r := by
  intro h; cases h

/-- `P'` is `P` without the keys of the group `G` (whose entries are entries of `P`), and no remaining entry
reads a target of `G`: the simultaneous assignment `P` is `G` followed by `P'`. -/
theorem par_split (P P' G : List (Int × Expr w))
    (hG : ∀ ke ∈ G, mGet P ke.1 = some ke.2)
    (hP' : ∀ k, mGet P' k = if k ∈ G.map (·.1) then none else mGet P k)
    (hcl : ∀ u e, mGet P' u = some e → ∀ k ∈ G.map (·.1), k ∉ Expr.variables e)
    (E : Mem w) : Mem.par P E = Mem.par P' (Mem.par G E) := by
  funext v
  by_cases hv : v ∈ G.map (·.1)
  · have h1 : mGet P' v = none := by rw [hP', if_pos hv]
    cases hg : mGet G v with
    | none => exact absurd hv ((mGet_none_iff G v).1 hg)
    | some e =>
      have h2 : mGet P v = some e := hG (v, e) (OptLoop.mem_of_mGet hg)
      rw [par_of_get P E v e h2, par_of_not_mem P' _ v h1, par_of_get G E v e hg]
  · have h1 : mGet P' v = mGet P v := by rw [hP', if_neg hv]
    have hg : mGet G v = none := (mGet_none_iff G v).2 hv
    cases hp : mGet P v with
    | none =>
      rw [par_of_not_mem P E v hp, par_of_not_mem P' _ v (h1.trans hp), par_of_not_mem G E v hg]
    | some e =>
      rw [par_of_get P E v e hp, par_of_get P' _ v e (h1.trans hp)]
      apply C01Dse.evaluate_congr
      intro x hx
      have : x ∉ G.map (·.1) := fun hxg => hcl v e (h1.trans hp) x hxg hx
      exact (par_of_not_mem G E x ((mGet_none_iff G x).2 this)).symm

theorem mGet_foldl_mErase {ν : Type} (ks : List Int) : ∀ {P : List (Int × ν)}, Sorted P → ∀ k,
    Sorted (ks.foldl mErase P) ∧ mGet (ks.foldl mErase P) k = if k ∈ ks then none else mGet P k := by
  induction ks with
  | nil => intro P h k; simpa using h
  | cons a ks ih =>
    intro P h k
    have := ih (sorted_mErase h a) k
    refine ⟨this.1, ?_⟩
    rw [List.foldl_cons, this.2, mGet_mErase h]
    by_cases h1 : k ∈ ks
    · simp [h1]
    · by_cases h2 : a = k
      · simp [h2]
      · have : ¬ k = a := fun e => h2 e.symm
        simp [h1, h2, this]

/-- `par_split` with `P'` given literally as `P` with the keys of `G` erased. -/
theorem par_split_erase (P G : List (Int × Expr w)) (hs : Sorted P)
    (hG : ∀ ke ∈ G, mGet P ke.1 = some ke.2)
    (hcl : ∀ u e, mGet ((G.map (·.1)).foldl mErase P) u = some e → ∀ k ∈ G.map (·.1), k ∉ Expr.variables e)
    (E : Mem w) : Mem.par P E = Mem.par ((G.map (·.1)).foldl mErase P) (Mem.par G E) :=
  par_split P _ G hG (fun k => (mGet_foldl_mErase (G.map (·.1)) hs k).2) hcl E

/-- One turn of the loop: the entry of `var`, if there is one, joins the group. -/
theorem popComp_cons (stackLen : Nat) (var : Int) (rest : List Int) (s : Rebuild w) (comp : List (Int × Expr w)) :
    popComp stackLen (var :: rest) s comp =
      if (var :: rest).length == stackLen then pure (s, var :: rest, comp)
      else popComp stackLen rest (removePending s var).1
        (comp ++ ((mGet s.pending var).map fun e => (var, e)).toList) := by
  rw [popComp, ← removePending_snd]
  by_cases hc : ((var :: rest).length == stackLen) = true
  · rw [if_pos hc, if_pos hc]
  · rw [if_neg hc, if_neg hc]
    rcases removePending s var with ⟨s1, _ | ex⟩
    · exact congrArg _ (List.append_nil comp).symm
    · rfl

theorem popComp_spec (stackLen : Nat) : ∀ (stack : List Int) (s : Rebuild w) (comp : List (Int × Expr w))
    (s' : Rebuild w) (stack' : List Int) (comp' : List (Int × Expr w)),
    Wf s → popComp stackLen stack s comp = .ok (s', stack', comp') →
    ∃ popped new, stack = popped ++ stack' ∧ stack'.length = stackLen ∧ comp' = comp ++ new ∧ Wf s' ∧
      SameButPend s s' ∧
      (∀ k, mGet s'.pending k = if k ∈ popped then none else mGet s.pending k) ∧
      (new.map (·.1)).Nodup ∧ (∀ ke ∈ new, ke.1 ∈ popped ∧ mGet s.pending ke.1 = some ke.2) ∧
      (∀ k ∈ popped, mGet s.pending k ≠ none → k ∈ new.map (·.1)) := by
  intro stack
  induction stack with
  | nil =>
    intro s comp s' stack' comp' hwf h
    rw [popComp] at h
    split at h
    · rename_i h0
      cases h
      refine ⟨[], [], rfl, ?_, by simp, hwf, SameButPend.refl s, by simp, by simp, by simp, by simp⟩
      simpa using h0
    · cases h
  | cons var rest ih =>
    intro s comp s' stack' comp' hwf h
    rw [popComp_cons] at h
    split at h
    · rename_i h0
      cases h
      refine ⟨[], [], rfl, ?_, by simp, hwf, SameButPend.refl s, by simp, by simp, by simp, by simp⟩
      simpa using h0
    · have hget := removePending_get hwf var
      obtain ⟨popped, new, e1, e2, e3, w', sm, g', nd, src, cov⟩ :=
        ih _ _ s' stack' comp' (removePending_wf hwf var) h
      -- entries of the remaining stack are entries of `s` at keys other than `var`
      have hold : ∀ k e, mGet (removePending s var).1.pending k = some e → var ≠ k ∧ mGet s.pending k = some e := by
        intro k e hk
        rw [hget] at hk
        by_cases hv : var = k
        · rw [if_pos hv] at hk; cases hk
        · rw [if_neg hv] at hk; exact ⟨hv, hk⟩
      refine ⟨var :: popped, ((mGet s.pending var).map fun e => (var, e)).toList ++ new, by rw [e1]; rfl, e2,
        by rw [e3, List.append_assoc], w', (removePending_same s var).trans sm, ?_, ?_, ?_, ?_⟩
      · intro k
        rw [g', hget]
        by_cases hk : var = k
        · subst hk; simp
        · have : ¬ k = var := fun e => hk e.symm
          simp [hk, this]
      · cases hp : mGet s.pending var with
        | none => simpa using nd
        | some ex =>
          rw [Option.map_some, Option.toList_some, List.singleton_append, List.map_cons, List.nodup_cons]
          refine ⟨fun hm => ?_, nd⟩
          obtain ⟨ke, hke, e⟩ := List.mem_map.1 hm
          exact (hold ke.1 ke.2 (src ke hke).2).1 e.symm
      · intro ke hke
        rcases List.mem_append.1 hke with hm | hm
        · cases hp : mGet s.pending var with
          | none => rw [hp] at hm; cases hm
          | some ex =>
            rw [hp, Option.map_some, Option.toList_some, List.mem_singleton] at hm
            subst hm
            exact ⟨List.mem_cons_self .., hp⟩
        · exact ⟨List.mem_cons_of_mem _ (src ke hm).1, (hold ke.1 ke.2 (src ke hm).2).2⟩
      · intro k hk hp
        rw [List.map_append, List.mem_append]
        by_cases hkv : var = k
        · subst hkv
          cases hx : mGet s.pending var with
          | none => exact absurd hx hp
          | some ex => exact Or.inl (by simp)
        · refine Or.inr (cov k ((List.mem_cons.1 hk).resolve_left (fun e => hkv e.symm)) ?_)
          rw [hget, if_neg hkv]
          exact hp

/-- `s'` is `s` after emitting the groups `new` (in this order). -/
structure EmitStep (s s' : Rebuild w) (new : List (List (Int × Expr w))) : Prop where
  wf : Wf s'
  same : SameButPend s s'
  sub : ∀ k e, mGet s'.pending k = some e → mGet s.pending k = some e
  nodup : ∀ g ∈ new, (g.map (·.1)).Nodup ∧ g ≠ []
  src : ∀ g ∈ new, ∀ ve ∈ g, mGet s.pending ve.1 = some ve.2
  cover : ∀ k, mGet s'.pending k = none → mGet s.pending k ≠ none → ∃ g ∈ new, k ∈ g.map (·.1)
  sem : ∀ E : Mem w, Mem.par s.pending E = Mem.par s'.pending (Mem.seq new E)

theorem EmitStep.refl {s : Rebuild w} (h : Wf s) : EmitStep s s [] :=
  ⟨h, SameButPend.refl s, fun _ _ h => h, by simp, by simp, fun k h1 h2 => absurd h1 h2, fun E => rfl⟩

theorem EmitStep.pend_none {s s' : Rebuild w} {new : List (List (Int × Expr w))} (h : EmitStep s s' new) {k : Int}
    (hk : mGet s.pending k = none) : mGet s'.pending k = none :=
  mGet_none_of_sub h.sub hk

theorem EmitStep.trans {a b c : Rebuild w} {n1 n2 : List (List (Int × Expr w))} (h1 : EmitStep a b n1)
    (h2 : EmitStep b c n2) : EmitStep a c (n1 ++ n2) := by
  refine ⟨h2.wf, h1.same.trans h2.same, fun k e h => h1.sub k e (h2.sub k e h), ?_, ?_, ?_, ?_⟩
  · intro g hg
    rcases List.mem_append.1 hg with h | h
    · exact h1.nodup g h
    · exact h2.nodup g h
  · intro g hg ve hve
    rcases List.mem_append.1 hg with h | h
    · exact h1.src g h ve hve
    · exact h1.sub _ _ (h2.src g h ve hve)
  · intro k hc ha
    cases hb : mGet b.pending k with
    | none =>
      obtain ⟨g, hg, hk⟩ := h1.cover k hb ha
      exact ⟨g, List.mem_append_left _ hg, hk⟩
    | some e =>
      obtain ⟨g, hg, hk⟩ := h2.cover k hc (by rw [hb]; simp)
      exact ⟨g, List.mem_append_right _ hg, hk⟩
  · intro E
    rw [h1.sem E, h2.sem, seq_append]

theorem EmitStep.readers_mono {s s' : Rebuild w} {new : List (List (Int × Expr w))} (hwf : Wf s) (h : EmitStep s s' new)
    {v u : Int} (hm : memR s'.reverse v u) : memR s.reverse v u := by
  rw [hwf.revOk v u]
  obtain ⟨h1, e, h2, h3⟩ := (h.wf.revOk v u).1 hm
  exact ⟨h1, e, h.sub u e h2, h3⟩

/-- One pop: the popped keys `popped`, the collected group `comp`, no remaining entry reads a key of `comp`. -/
theorem EmitStep.pop {s s' : Rebuild w} {popped : List Int} {comp : List (Int × Expr w)}
    (hwf' : Wf s') (hsame : SameButPend s s')
    (hget : ∀ k, mGet s'.pending k = if k ∈ popped then none else mGet s.pending k)
    (hnd : (comp.map (·.1)).Nodup) (hsrc : ∀ ke ∈ comp, ke.1 ∈ popped ∧ mGet s.pending ke.1 = some ke.2)
    (hcov : ∀ k ∈ popped, mGet s.pending k ≠ none → k ∈ comp.map (·.1))
    (hcl : ∀ u e, mGet s'.pending u = some e → ∀ k ∈ comp.map (·.1), k ∉ Expr.variables e) :
    EmitStep s s' (if comp.isEmpty then [] else [comp]) := by
  have hP' : ∀ k, mGet s'.pending k = if k ∈ comp.map (·.1) then none else mGet s.pending k := by
    intro k
    rw [hget]
    by_cases h1 : k ∈ popped
    · by_cases h2 : k ∈ comp.map (·.1)
      · simp [h1, h2]
      · have : mGet s.pending k = none := by
          cases h3 : mGet s.pending k with
          | none => rfl
          | some e => exact absurd (hcov k h1 (by rw [h3]; simp)) h2
        simp [h1, h2, this]
    · have h2 : k ∉ comp.map (·.1) := by
        intro h2
        obtain ⟨ke, hke, e⟩ := List.mem_map.1 h2
        exact h1 (e ▸ (hsrc ke hke).1)
      simp [h1, h2]
  have key : ∀ E : Mem w, Mem.par s.pending E = Mem.par s'.pending (Mem.par comp E) :=
    par_split _ _ comp (fun ke h => (hsrc ke h).2) hP' hcl
  have hsub : ∀ k e, mGet s'.pending k = some e → mGet s.pending k = some e := by
    intro k e h
    rw [hget] at h
    split at h
    · cases h
    · exact h
  have hcover : ∀ k, mGet s'.pending k = none → mGet s.pending k ≠ none → k ∈ comp.map (·.1) := by
    intro k h1 h2
    rw [hP'] at h1
    split at h1
    · assumption
    · exact absurd h1 h2
  cases comp with
  | nil =>
    refine ⟨hwf', hsame, hsub, by simp, by simp, ?_, ?_⟩
    · intro k h1 h2
      have := hcover k h1 h2
      simp at this
    · intro E
      have := key E
      simpa using this
  | cons c cs =>
    refine ⟨hwf', hsame, hsub, ?_, ?_, ?_, ?_⟩
    · intro g hg
      simp only [List.isEmpty_cons, Bool.false_eq_true, if_false, List.mem_singleton] at hg
      subst hg
      exact ⟨hnd, by simp⟩
    · intro g hg ve hve
      simp only [List.isEmpty_cons, Bool.false_eq_true, if_false, List.mem_singleton] at hg
      subst hg
      exact (hsrc ve hve).2
    · intro k h1 h2
      exact ⟨c :: cs, by simp, hcover k h1 h2⟩
    · intro E
      simpa using key E

structure DfsPre (d : Dfs w) (x : Int) : Prop where
  wf : Wf d.s
  fresh : mGet d.visited x = none
  bound : ∀ n i, mGet d.visited n = some i → i < d.index

/-- Postcondition of a call on `x` that returned `(d', low)`; `seg` = what the call left on the stack,
`new` = the groups it emitted. -/
structure DfsPost (d : Dfs w) (x : Int) (d' : Dfs w) (low : Nat) (seg : List Int)
    (new : List (List (Int × Expr w))) : Prop where
  old : ∀ n i, mGet d.visited n = some i → mGet d'.visited n = some i
  self : mGet d'.visited x = some d.index
  newge : ∀ n i, mGet d'.visited n = some i → mGet d.visited n = none → d.index ≤ i
  bound : ∀ n i, mGet d'.visited n = some i → i < d'.index
  stack : d'.stack = seg ++ d.stack
  newpend : ∀ n, mGet d.visited n = none → mGet d'.visited n ≠ none → n ∈ seg ∨ mGet d'.s.pending n = none
  lowle : low ≤ d.index
  /-- Tarjan's invariant: every reader of a cell on the segment is visited, and one visited before the call has
  index `≥ low`. -/
  readers : ∀ y ∈ seg, ∀ u, memR d'.s.reverse y u →
    ∃ i, mGet d'.visited u = some i ∧ (mGet d.visited u ≠ none → low ≤ i)
  rootr : ∀ u, memR d.s.reverse x u → mGet d'.visited u ≠ none
  popped : low = d.index → seg = []
  step : EmitStep d.s d'.s new
  comps : d'.comps = d.comps ++ new

/-- Invariant of the loop over `order` inside the call on `x` started in `d`: `pre` = the processed prefix,
`(dl, low)` = the loop state. -/
structure DfsLoopI (d : Dfs w) (x : Int) (pre : List Int) (dl : Dfs w) (low : Nat) (seg : List Int)
    (new : List (List (Int × Expr w))) : Prop where
  old : ∀ n i, mGet d.visited n = some i → mGet dl.visited n = some i
  self : mGet dl.visited x = some d.index
  newge : ∀ n i, mGet dl.visited n = some i → mGet d.visited n = none → d.index ≤ i
  bound : ∀ n i, mGet dl.visited n = some i → i < dl.index
  stack : dl.stack = seg ++ d.stack
  newpend : ∀ n, mGet d.visited n = none → n ≠ x → mGet dl.visited n ≠ none →
    n ∈ seg ∨ mGet dl.s.pending n = none
  lowle : low ≤ d.index
  readers : ∀ y ∈ seg, ∀ u, memR dl.s.reverse y u →
    ∃ i, mGet dl.visited u = some i ∧ (mGet d.visited u ≠ none → low ≤ i)
  done : ∀ n ∈ pre, ∃ i, mGet dl.visited n = some i ∧ (mGet d.visited n ≠ none → low ≤ i)
  step : EmitStep d.s dl.s new
  comps : dl.comps = d.comps ++ new

theorem dfsEnter_visited (d : Dfs w) (x n : Int) :
    mGet (dfsEnter d x).visited n = if x = n then some d.index else mGet d.visited n :=
  mGet_mSet d.visited x d.index n

theorem dfsLoop_init {d : Dfs w} {x : Int} (h : DfsPre d x) :
    DfsLoopI d x [] (dfsEnter d x) d.index [] [] := by
  refine ⟨?_, ?_, ?_, ?_, rfl, ?_, Nat.le_refl _, by simp, by simp, EmitStep.refl h.wf, by simp [dfsEnter]⟩
  · intro n i hn
    rw [dfsEnter_visited, if_neg]
    · exact hn
    · rintro rfl; rw [h.fresh] at hn; cases hn
  · rw [dfsEnter_visited, if_pos rfl]
  · intro n i hn h0
    rw [dfsEnter_visited] at hn
    split at hn
    · cases hn; exact Nat.le_refl _
    · rw [h0] at hn; cases hn
  · intro n i hn
    rw [dfsEnter_visited] at hn
    show i < d.index + 1
    split at hn
    · cases hn; exact Nat.lt_succ_self _
    · exact Nat.lt_succ_of_lt (h.bound n i hn)
  · intro n h0 hx hv
    rw [dfsEnter_visited, if_neg (fun e => hx e.symm)] at hv
    exact absurd h0 hv

theorem DfsLoopI.visit {d : Dfs w} {x : Int} {pre : List Int} {dl : Dfs w} {low : Nat} {seg : List Int}
    {new : List (List (Int × Expr w))} (h : DfsLoopI d x pre dl low seg new) {n : Int} {v : Nat}
    (hv : mGet dl.visited n = some v) : DfsLoopI d x (pre ++ [n]) dl (min low v) seg new := by
  refine ⟨h.old, h.self, h.newge, h.bound, h.stack, h.newpend, Nat.le_trans (Nat.min_le_left _ _) h.lowle,
    ?_, ?_, h.step, h.comps⟩
  · intro y hy u hu
    obtain ⟨i, hi, hl⟩ := h.readers y hy u hu
    exact ⟨i, hi, fun h0 => Nat.le_trans (Nat.min_le_left _ _) (hl h0)⟩
  · intro m hm
    rcases List.mem_append.1 hm with hm | hm
    · obtain ⟨i, hi, hl⟩ := h.done m hm
      exact ⟨i, hi, fun h0 => Nat.le_trans (Nat.min_le_left _ _) (hl h0)⟩
    · rw [List.mem_singleton] at hm
      subst hm
      exact ⟨v, hv, fun _ => Nat.min_le_right _ _⟩

theorem DfsLoopI.child_pre {d : Dfs w} {x : Int} {pre : List Int} {dl : Dfs w} {low : Nat} {seg : List Int}
    {new : List (List (Int × Expr w))} (h : DfsLoopI d x pre dl low seg new) {n : Int}
    (hn : mGet dl.visited n = none) : DfsPre dl n :=
  ⟨h.step.wf, hn, h.bound⟩

theorem DfsLoopI.call {d : Dfs w} {x : Int} {pre : List Int} {dl : Dfs w} {low : Nat} {seg : List Int}
    {new : List (List (Int × Expr w))} (h : DfsLoopI d x pre dl low seg new) {n : Int}
    (hn : mGet dl.visited n = none) {d2 : Dfs w} {reached : Nat} {segc : List Int}
    {newc : List (List (Int × Expr w))} (hc : DfsPost dl n d2 reached segc newc) :
    DfsLoopI d x (pre ++ [n]) d2 (min low reached) (segc ++ seg) (new ++ newc) := by
  have hvis : ∀ u, mGet d.visited u ≠ none → mGet dl.visited u ≠ none := by
    intro u h0
    cases hd : mGet d.visited u with
    | none => exact absurd hd h0
    | some j => rw [h.old u j hd]; simp
  refine ⟨fun m i hm => hc.old m i (h.old m i hm), hc.old x _ h.self, ?_, hc.bound, ?_, ?_,
    Nat.le_trans (Nat.min_le_left _ _) h.lowle, ?_, ?_, h.step.trans hc.step, ?_⟩
  · intro m i hm h0
    cases hl : mGet dl.visited m with
    | some j =>
      have := hc.old m j hl
      rw [hm] at this; cases this
      exact h.newge m i hl h0
    | none =>
      have h1 := hc.newge m i hm hl
      have h2 := h.bound x _ h.self
      omega
  · rw [hc.stack, h.stack, List.append_assoc]
  · intro m h0 hmx hv
    cases hl : mGet dl.visited m with
    | none =>
      rcases hc.newpend m hl hv with a | a
      · exact Or.inl (List.mem_append_left _ a)
      · exact Or.inr a
    | some j =>
      rcases h.newpend m h0 hmx (by rw [hl]; simp) with a | a
      · exact Or.inl (List.mem_append_right _ a)
      · exact Or.inr (hc.step.pend_none a)
  · intro y hy u hu
    rcases List.mem_append.1 hy with hy | hy
    · obtain ⟨i, hi, hl⟩ := hc.readers y hy u hu
      exact ⟨i, hi, fun h0 => Nat.le_trans (Nat.min_le_right _ _) (hl (hvis u h0))⟩
    · obtain ⟨i, hi, hl⟩ := h.readers y hy u (hc.step.readers_mono h.step.wf hu)
      exact ⟨i, hc.old u i hi, fun h0 => Nat.le_trans (Nat.min_le_left _ _) (hl h0)⟩
  · intro m hm
    rcases List.mem_append.1 hm with hm | hm
    · obtain ⟨i, hi, hl⟩ := h.done m hm
      exact ⟨i, hc.old m i hi, fun h0 => Nat.le_trans (Nat.min_le_left _ _) (hl h0)⟩
    · rw [List.mem_singleton] at hm
      subst hm
      exact ⟨dl.index, hc.self, fun h0 => absurd hn (hvis m h0)⟩
  · rw [hc.comps, h.comps, List.append_assoc]

theorem DfsLoopI.finish_nopop {d : Dfs w} {x : Int} {pre : List Int} {d2 : Dfs w} {low : Nat} {seg : List Int}
    {new : List (List (Int × Expr w))} (hpre : DfsPre d x) (h : DfsLoopI d x pre d2 low seg new)
    (hall : ∀ u, memR d.s.reverse x u → u ∈ pre) (hne : low ≠ d.index) :
    DfsPost d x { s := d2.s, index := d2.index, visited := d2.visited, stack := x :: d2.stack,
                   comps := d2.comps } low (x :: seg) new := by
  refine ⟨h.old, h.self, h.newge, h.bound, ?_, ?_, h.lowle, ?_, ?_, fun e => absurd e hne, h.step, h.comps⟩
  · show x :: d2.stack = (x :: seg) ++ d.stack
    rw [h.stack]; rfl
  · intro n h0 hv
    by_cases hx : n = x
    · left; simp [hx]
    · rcases h.newpend n h0 hx hv with a | a
      · exact Or.inl (List.mem_cons_of_mem _ a)
      · exact Or.inr a
  · intro y hy u hu
    rcases List.mem_cons.1 hy with e | e
    · rw [e] at hu
      exact h.done u (hall u (h.step.readers_mono hpre.wf hu))
    · exact h.readers y e u hu
  · intro u hu
    obtain ⟨i, hi, _⟩ := h.done u (hall u hu)
    show mGet d2.visited u ≠ none
    rw [hi]; simp

theorem DfsLoopI.finish_pop {d : Dfs w} {x : Int} {pre : List Int} {d2 : Dfs w} {low : Nat} {seg : List Int}
    {new : List (List (Int × Expr w))} (hpre : DfsPre d x) (h : DfsLoopI d x pre d2 low seg new)
    (hall : ∀ u, memR d.s.reverse x u → u ∈ pre) (heq : low = d.index)
    {s' : Rebuild w} {stack' : List Int} {comp : List (Int × Expr w)}
    (hp : popComp d.stack.length (x :: d2.stack) d2.s [] = .ok (s', stack', comp)) :
    DfsPost d x { s := s', index := d2.index, visited := d2.visited, stack := stack',
                   comps := if comp.isEmpty then d2.comps else d2.comps ++ [comp] } low []
      (new ++ if comp.isEmpty then [] else [comp]) := by
  obtain ⟨popped, newg, e1, e2, e3, wf', same, get, nd, src, cov⟩ := popComp_spec _ _ _ _ _ _ _ h.step.wf hp
  rw [h.stack] at e1
  obtain ⟨ea, eb⟩ := List.append_inj' (s₁ := x :: seg) e1 e2.symm
  subst ea; subst eb
  simp only [List.nil_append] at e3
  subst e3
  -- A remaining entry `u` that reads a popped `k` is a reader of `k`, hence visited (`readers`, `done`). Visited
  -- before this call, its index would be `≥ low = d.index`, but the indices of before are `< d.index`. Visited
  -- during the call, it is on the popped segment or no longer pending (`newpend`). So there is no such `u`.
  have hcl : ∀ u e, mGet s'.pending u = some e → ∀ k ∈ comp.map (·.1), k ∉ Expr.variables e := by
    intro u e hu k hk hkv
    obtain ⟨ke, hke, rfl⟩ := List.mem_map.1 hk
    have hkp := (src ke hke).1
    have hu2 : mGet d2.s.pending u = some e ∧ u ∉ x :: seg := by
      have := get u
      rw [hu] at this
      by_cases hup : u ∈ x :: seg
      · simp [hup] at this
      · simp only [hup, if_false] at this
        exact ⟨this.symm, hup⟩
    have hne : u ≠ ke.1 := fun e => hu2.2 (e ▸ hkp)
    have hm : memR d2.s.reverse ke.1 u := (h.step.wf.revOk ke.1 u).2 ⟨hne, e, hu2.1, hkv⟩
    have hvis : ∃ i, mGet d2.visited u = some i ∧ (mGet d.visited u ≠ none → low ≤ i) := by
      rcases List.mem_cons.1 hkp with e | e
      · rw [e] at hm
        exact h.done u (hall u (h.step.readers_mono hpre.wf hm))
      · exact h.readers _ e u hm
    obtain ⟨i, hi, hl⟩ := hvis
    cases h0 : mGet d.visited u with
    | some j =>
      have h1 := h.old u j h0
      rw [hi] at h1; cases h1
      have h2 := hpre.bound u i h0
      have h3 := hl (by rw [h0]; simp)
      omega
    | none =>
      have hux : u ≠ x := fun e => hu2.2 (by simp [e])
      rcases h.newpend u h0 hux (by rw [hi]; simp) with a | a
      · exact hu2.2 (List.mem_cons_of_mem _ a)
      · rw [hu2.1] at a; cases a
  have hstep := EmitStep.pop wf' same get nd src cov hcl
  refine ⟨h.old, h.self, h.newge, h.bound, rfl, ?_, h.lowle, by simp, ?_, fun _ => rfl, h.step.trans hstep, ?_⟩
  · intro n h0 hv
    right
    show mGet s'.pending n = none
    rw [get]
    by_cases hx : n = x
    · simp [hx]
    · rcases h.newpend n h0 hx hv with a | a
      · simp [a]
      · split
        · rfl
        · exact a
  · intro u hu
    obtain ⟨i, hi, _⟩ := h.done u (hall u hu)
    show mGet d2.visited u ≠ none
    rw [hi]; simp
  · show (if comp.isEmpty then d2.comps else d2.comps ++ [comp]) = _
    rw [h.comps]
    cases comp <;> simp

theorem takeOrder_mem {var : Int} {next : List Int} {os : Orders} {order : List Int} {os' : Orders}
    (h : (takeOrder var next).run os = .ok (order, os')) :
    (∀ u ∈ next, u ∈ order) ∧ ∀ u ∈ order, u ∈ next := by
  simp only [takeOrder, StateT.run] at h
  split at h
  · cases h
  · split at h
    · cases h
    · split at h
      · rename_i hc
        cases h
        simp only [Bool.and_eq_true, List.all_eq_true, List.contains_iff_mem] at hc
        exact ⟨hc.1.2, hc.2⟩
      · cases h

theorem dfs_spec : ∀ (fuel : Nat) (d : Dfs w) (x : Int) (os : Orders) (d' : Dfs w) (low : Nat) (os' : Orders),
    DfsPre d x → (gatherToEmitDfs fuel d x).run os = .ok ((d', low), os') →
    ∃ seg new, DfsPost d x d' low seg new := by
  intro fuel
  induction fuel with
  | zero => intro d x os d' low os' _ h; exact absurd h (dfs_zero d x os _)
  | succ fuel ih =>
    intro d x os d' low os' hpre h
    rw [dfs_unfold, run_bind_ok] at h
    obtain ⟨⟨d2, low2⟩, os1, hloop, hfin⟩ := h
    have hL : ∃ pre seg new, DfsLoopI d x pre d2 low2 seg new ∧ ∀ u, memR d.s.reverse x u → u ∈ pre := by
      unfold dfsLoop at hloop
      cases hr : mGet d.s.reverse x with
      | none =>
        rw [hr] at hloop
        simp only at hloop
        rw [run_pure] at hloop
        cases hloop
        refine ⟨[], [], [], dfsLoop_init hpre, ?_⟩
        rintro u ⟨us, h1, _⟩
        rw [hr] at h1; cases h1
      | some next =>
        rw [hr] at hloop
        simp only at hloop
        rw [run_bind_ok] at hloop
        obtain ⟨order, os2, hto, hfold⟩ := hloop
        have hstep : ∀ (pre : List Int) (b1 : Dfs w × Nat) (n : Int) (o1 : Orders) (b2 : Dfs w × Nat)
            (o2 : Orders), n ∈ order → (∃ seg new, DfsLoopI d x pre b1.1 b1.2 seg new) →
            (dfsStep fuel b1 n).run o1 = .ok (b2, o2) →
            ∃ seg new, DfsLoopI d x (pre ++ [n]) b2.1 b2.2 seg new := by
          rintro pre b1 n o1 b2 o2 _ ⟨seg, new, hI⟩ hrun
          unfold dfsStep at hrun
          cases hv : mGet b1.1.visited n with
          | some v =>
            rw [hv] at hrun
            simp only at hrun
            rw [run_pure] at hrun
            cases hrun
            exact ⟨seg, new, hI.visit hv⟩
          | none =>
            rw [hv] at hrun
            simp only at hrun
            rw [run_bind_ok] at hrun
            obtain ⟨⟨d3, reached⟩, o3, hcall, hp⟩ := hrun
            rw [run_pure] at hp
            cases hp
            obtain ⟨segc, newc, hc⟩ := ih b1.1 n o1 d3 reached _ (hI.child_pre hv) hcall
            exact ⟨_, _, hI.call hv hc⟩
        obtain ⟨seg, new, hI⟩ := foldlM_inv_prefix
          (fun pre acc _ => ∃ seg new, DfsLoopI d x pre acc.1 acc.2 seg new) (dfsStep fuel) order hstep
          (pre := []) ⟨[], [], dfsLoop_init hpre⟩ hfold
        refine ⟨_, seg, new, hI, ?_⟩
        rintro u ⟨us, h1, h2⟩
        rw [hr] at h1; cases h1
        simpa using (takeOrder_mem hto).1 u h2
    obtain ⟨pre, seg, new, hI, hall⟩ := hL
    unfold dfsFinish at hfin
    split at hfin
    · rename_i h0
      have heq : low2 = d.index := by simpa using h0
      rw [run_bind_ok] at hfin
      obtain ⟨⟨s', stack', comp⟩, os2, hpop, hp⟩ := hfin
      rw [run_monadLift_ok] at hpop
      obtain ⟨ha, e⟩ := hpop
      cases e
      rw [run_pure] at hp
      cases hp
      exact ⟨_, _, hI.finish_pop hpre hall heq ha⟩
    · rename_i h0
      have hne : low2 ≠ d.index := by simpa using h0
      rw [run_pure] at hfin
      cases hfin
      exact ⟨_, _, hI.finish_nopop hpre hall hne⟩

/-- The DFS branch of `gatherForEmit s [var]` is one root call. -/
theorem gatherForEmit_dfs_eq (s : Rebuild w) (var : Int)
    (h : ¬ ([var].all (fun v => !mHas s.reverse v)) = true) :
    gatherForEmit s [var] =
      gatherToEmitDfs (s.pending.length + s.reverse.length + [var].length + 1)
        { s := s, index := 0, visited := [], stack := [], comps := [] } var >>= fun r =>
          pure (r.1.s, r.1.comps) := by
  unfold gatherForEmit
  rw [if_neg h]
  simp only [List.foldlM_cons, List.foldlM_nil, mHas, mGet, Option.isSome_none, Bool.not_false, if_true,
    bind_assoc, pure_bind]

theorem gatherForEmit_spec {s : Rebuild w} (h : Wf s) (var : Int) {os os' : Orders} {s' : Rebuild w}
    {comps : List (List (Int × Expr w))}
    (hr : (gatherForEmit s [var]).run os = .ok ((s', comps), os')) :
    EmitStep s s' comps ∧ mGet s'.pending var = none ∧
      ∀ u e, mGet s'.pending u = some e → var ∉ Expr.variables e := by
  by_cases hc : ([var].all (fun v => !mHas s.reverse v)) = true
  · -- nobody reads `var`: just remove its entry
    have hrev : mGet s.reverse var = none := by
      rw [← mHas_false_iff]; simpa using hc
    have hnor : ∀ u e, mGet s.pending u = some e → var ∈ Expr.variables e → u = var := by
      intro u e hu hv
      apply Classical.byContradiction
      intro hne
      obtain ⟨us, h1, _⟩ := (h.revOk var u).2 ⟨hne, e, hu, hv⟩
      rw [hrev] at h1; cases h1
    unfold gatherForEmit at hr
    rw [if_pos hc, run_pure] at hr
    simp only [List.foldl_cons, List.foldl_nil] at hr
    have hsnd := removePending_snd s var
    have hget := removePending_get h var
    have hwf1 := removePending_wf h var
    have hsame := removePending_same s var
    have hnor' : ∀ u e, mGet (removePending s var).1.pending u = some e → var ∉ Expr.variables e := by
      intro u e hu hv
      rw [hget] at hu
      by_cases hk : var = u
      · simp [hk] at hu
      · simp only [hk, if_false] at hu
        exact hk (hnor u e hu hv).symm
    have hvn : mGet (removePending s var).1.pending var = none := by rw [hget]; simp
    cases hrp : removePending s var with
    | mk s1 o =>
      rw [hrp] at hsnd hget hwf1 hsame hr hnor' hvn
      simp only at hsnd hget hwf1 hsame hnor' hvn
      have hget' : ∀ k, mGet s1.pending k = if k ∈ [var] then none else mGet s.pending k := by
        intro k
        rw [hget]
        by_cases hk : var = k
        · subst hk; simp
        · have : ¬ k = var := fun e => hk e.symm
          simp [hk, this]
      cases o with
      | none =>
        simp only at hr
        cases hr
        have := EmitStep.pop (comp := []) hwf1 hsame hget' (by simp) (by simp)
          (by intro k hk hp; simp at hk; subst hk; exact absurd hsnd.symm hp) (by simp)
        exact ⟨this, hvn, hnor'⟩
      | some ex =>
        simp only [List.nil_append] at hr
        cases hr
        have := EmitStep.pop (comp := [(var, ex)]) hwf1 hsame hget' (by simp)
          (by intro ke hke; simp at hke; subst hke; exact ⟨by simp, hsnd.symm⟩)
          (by intro k hk _; simpa using hk)
          (by intro u e hu k hk; simp at hk; subst hk; exact hnor' u e hu)
        exact ⟨this, hvn, hnor'⟩
  · -- the DFS from the root `var`
    rw [gatherForEmit_dfs_eq s var hc, run_bind_ok] at hr
    obtain ⟨⟨d', low⟩, os1, hcall, hp⟩ := hr
    rw [run_pure] at hp
    cases hp
    have hpre : DfsPre ({ s := s, index := 0, visited := [], stack := [], comps := [] } : Dfs w) var :=
      ⟨h, rfl, fun n i hn => by cases hn⟩
    obtain ⟨seg, new, hpost⟩ := dfs_spec _ _ _ _ _ _ _ hpre hcall
    have hlow : low = 0 := Nat.le_zero.1 hpost.lowle
    have hseg : seg = [] := hpost.popped hlow
    subst hseg
    have hcomps : d'.comps = new := by rw [hpost.comps]; rfl
    rw [hcomps]
    have hnp : ∀ n, mGet d'.visited n ≠ none → mGet d'.s.pending n = none := by
      intro n hn
      rcases hpost.newpend n rfl hn with a | a
      · cases a
      · exact a
    have hvn : mGet d'.s.pending var = none := hnp var (by rw [hpost.self]; simp)
    refine ⟨hpost.step, hvn, ?_⟩
    intro u e hu hv
    by_cases hux : u = var
    · subst hux; rw [hvn] at hu; cases hu
    · have hm : memR d'.s.reverse var u := (hpost.step.wf.revOk var u).2 ⟨hux, e, hu, hv⟩
      have := hnp u (hpost.rootr u (hpost.step.readers_mono h hm))
      rw [hu] at this; cases this

end OptProof
end Hpbf

#print axioms Hpbf.OptProof.gatherForEmit_spec
