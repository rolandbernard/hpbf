/-
The loop as a sequence of memories, and the meaning of the results of `constantsAmong` and `linearAmong`.

A round of the loop is `m ↦ Mem.par P (body k m)`: the emitted instructions of the body (`body k`, an arbitrary
memory transformer that may differ from round to round, e.g. because it consumes input) followed by the
pending simultaneous assignment `P = sub.pending`.  `run body P m0 k` is the memory at the start of round `k`.
With `body = fun _ m => m` this is `Mem.iter P k m0` (`run_id`).

At machine level a run may be incomplete or infinite: only the rounds `0 … N-1` are real.  The statements with a
horizon `N` (`BodyFactsH`, `GetBothFactsH`, `LinSoundH`, names in `_h`) ask for every per-round hypothesis for
`k < N` only, and conclude facts about the start of a round for `k ≤ N`, about the middle of a round for `k < N`.
The statements about all rounds are their instances.

Which structure a lemma is stated on.  The proofs of the pack run on the horizon forms `BodyFactsH`, `GetBothFactsH`,
`LinSoundH`, `MotionCtxH`, on `ReadFactsAt` (the `reads` facts at one round), on `CondFacts'`, and on `MotionAllE` with
its two readings `MotionAll n` / `MotionBD`.  The all-rounds forms `BodyFacts`, `GetBothFacts`, `LinSound`, `MotionCtx`,
`ReadFacts`, `ReadFactsH`, `CondFacts` occur only in the statements of `Props/C01Loop` and `Props/C01LoopH` and in the
conversions to the forms above (`.toH`, `.at`, `.to'`).

Other suffixes.  `_c`: `compare` is assumed sound on normal forms (`Expr.Canon`) only.  `E` / `_e` (`MotionAllE`,
`motionFold_spec_e`): the after-entry of a moved cell may be absent, which is what `noEffect` does.  `At`: at one round
instead of along the run.  `CondFacts'` has the `getBoth` fact under the two conditions under which `analyzeLoop` reads it
(`CondFacts.to'`); `analyzeLoop_sound'` is the statement on `CondFacts'`, `Props/C01Loop.analyzeLoop_sound` its instance;
`Differ'` is a larger set than `Differ` (both in `OptLoopAll`).
-/
import Hpbf.Proofs.OptLoopConstFix
import Hpbf.Proofs.OptLoopExpr
import Hpbf.Props.C15

namespace Hpbf.OptLoop
open Hpbf Opt OptSem Expr

variable {w : Nat}

def run (body : Nat → Mem w → Mem w) (P : List (Int × Expr w)) (m0 : Mem w) : Nat → Mem w
  | 0 => m0
  | k + 1 => Mem.par P (body k (run body P m0 k))

/-- The memory in the middle of round `k`: after the emitted instructions, before the pending assignment. -/
def mid (body : Nat → Mem w → Mem w) (P : List (Int × Expr w)) (m0 : Mem w) (k : Nat) : Mem w :=
  body k (run body P m0 k)

@[simp] theorem run_zero (body : Nat → Mem w → Mem w) (P : List (Int × Expr w)) (m0 : Mem w) :
    run body P m0 0 = m0 := rfl

theorem run_succ (body : Nat → Mem w → Mem w) (P : List (Int × Expr w)) (m0 : Mem w) (k : Nat) :
    run body P m0 (k + 1) = Mem.par P (mid body P m0 k) := rfl

theorem run_id (P : List (Int × Expr w)) (m0 : Mem w) (k : Nat) :
    run (fun _ m => m) P m0 k = Mem.iter P k m0 := by
  induction k with
  | zero => rfl
  | succ k ih => rw [run_succ, mid, ih, iter_succ']

theorem mid_id (P : List (Int × Expr w)) (m0 : Mem w) (k : Nat) :
    mid (fun _ m => m) P m0 k = Mem.iter P k m0 := by
  rw [mid, run_id]

theorem run_pending {body : Nat → Mem w → Mem w} {P : List (Int × Expr w)} {m0 : Mem w} {v : Int}
    {e : Expr w} (h : mGet P v = some e) (k : Nat) :
    run body P m0 (k + 1) v = ev e (mid body P m0 k) := by
  rw [run_succ, par_of_get _ _ _ _ h]

theorem run_not_pending {body : Nat → Mem w → Mem w} {P : List (Int × Expr w)} {m0 : Mem w} {v : Int}
    (h : mGet P v = none) (k : Nat) :
    run body P m0 (k + 1) v = mid body P m0 k v := by
  rw [run_succ, par_of_not_mem _ _ _ h]

/-- The induction along a run that alternates between the start of a round (`A`) and its middle (`B`), up to a
horizon `N`. -/
theorem run_mid_induct {A B : Nat → Prop} {N : Nat} (h0 : A 0) (hmid : ∀ k, k < N → A k → B k)
    (hnext : ∀ k, k < N → B k → A (k + 1)) : (∀ k, k ≤ N → A k) ∧ (∀ k, k < N → B k) := by
  have hrun : ∀ k, k ≤ N → A k := by
    intro k
    induction k with
    | zero => exact fun _ => h0
    | succ k ih => exact fun hk => hnext k (by omega) (hmid k (by omega) (ih (by omega)))
  exact ⟨hrun, fun k hk => hmid k hk (hrun k (by omega))⟩

/-- What `sub.written` says about the emitted instructions of the body, along the run; a hypothesis the caller
has to provide. -/
structure BodyFacts (sub : Rebuild w) (body : Nat → Mem w → Mem w) (M : Nat → Mem w) : Prop where
  /-- a cell without an entry in `written` is not changed by the emitted instructions -/
  unwritten : ∀ k v, mGet sub.written v = none → body k (M k) v = M k v
  /-- a `known` entry is the value after the emitted instructions, over the memory at the start of the round -/
  known : ∀ k v e, mGet sub.written v = some (.known e) → body k (M k) v = ev e (M k)

structure BodyFactsH (sub : Rebuild w) (body : Nat → Mem w → Mem w) (M : Nat → Mem w) (N : Nat) : Prop where
  unwritten : ∀ k, k < N → ∀ v, mGet sub.written v = none → body k (M k) v = M k v
  known : ∀ k, k < N → ∀ v e, mGet sub.written v = some (.known e) → body k (M k) v = ev e (M k)

theorem BodyFacts.toH {sub : Rebuild w} {body : Nat → Mem w → Mem w} {M : Nat → Mem w}
    (h : BodyFacts sub body M) (N : Nat) : BodyFactsH sub body M N :=
  ⟨fun k _ => h.unwritten k, fun k _ => h.known k⟩

theorem BodyFactsH.mono {sub : Rebuild w} {body : Nat → Mem w → Mem w} {M : Nat → Mem w} {N N' : Nat}
    (h : BodyFactsH sub body M N) (hle : N' ≤ N) : BodyFactsH sub body M N' :=
  ⟨fun k hk => h.unwritten k (by omega), fun k hk => h.known k (by omega)⟩

theorem bodyFacts_id (sub : Rebuild w) (M : Nat → Mem w) (h : sub.written = []) :
    BodyFacts sub (fun _ m => m) M :=
  ⟨fun _ _ _ => rfl, fun k v e he => by rw [h] at he; cases he⟩

/-- Soundness of `Good` sets (hence of `constantsAmong`).  The soundness of `compare` (`hcmp`) is needed only for
the `known` entries of `sub.written` and the entries of `sub.pending`, which lets `constantsAmong_sound_c` ask
for it on expressions in normal form only. -/
theorem constants_sound (s : Rebuild w) (ps : List (Rebuild w)) (sub : Rebuild w) (C : List Int)
    (m0 : Mem w) (body : Nat → Mem w → Mem w) (N : Nat)
    (hgood : ∀ c ∈ C, Good s ps sub C c)
    (hcmp : ∀ v e, (mGet sub.written v = some (.known e) ∨ mGet sub.pending v = some e) →
      compare s ps (Expr.var v) e = .ok true → ev e m0 = m0 v)
    (hb : BodyFactsH sub body (run body sub.pending m0) N) :
    (∀ k, k ≤ N → ∀ c ∈ C, run body sub.pending m0 k c = m0 c) ∧
    (∀ k, k < N → ∀ c ∈ C, mid body sub.pending m0 k c = m0 c) := by
  have hmid : ∀ k, k < N → (∀ c ∈ C, run body sub.pending m0 k c = m0 c) →
      ∀ c ∈ C, mid body sub.pending m0 k c = m0 c := by
    intro k hk hA c hc
    obtain ⟨vs, hcand, hvs⟩ := hgood c hc
    cases hw : mGet sub.written c with
    | none => rw [mid, hb.unwritten k hk c hw]; exact hA c hc
    | some wv =>
      -- the known value is an expression over `c` and `C`, equal to `c` for `compare`
      obtain ⟨wr, rfl, hcw, hsub⟩ := hcand.written hw
      rw [mid, hb.known k hk c wr hw, ← hcmp c wr (Or.inl hw) hcw]
      apply ev_congr
      intro x hx
      rcases hvs x (hsub x hx) with rfl | hxC
      · exact hA x hc
      · exact hA x hxC
  have hnext : ∀ k, (∀ c ∈ C, mid body sub.pending m0 k c = m0 c) →
      ∀ c ∈ C, run body sub.pending m0 (k + 1) c = m0 c := by
    intro k hB c hc
    cases hp : mGet sub.pending c with
    | none => rw [run_not_pending hp]; exact hB c hc
    | some p =>
      obtain ⟨vs, hcand, hvs⟩ := hgood c hc
      have hpc := hcand.pending hp
      rw [run_pending hp, ← hcmp c p (Or.inr hp) hpc.1]
      apply ev_congr
      intro x hx
      rcases hvs x (hpc.2 x hx) with rfl | hxC
      · exact hB x hc
      · exact hB x hxC
  exact run_mid_induct (A := fun k => ∀ c ∈ C, run body sub.pending m0 k c = m0 c)
    (B := fun k => ∀ c ∈ C, mid body sub.pending m0 k c = m0 c) (fun _ _ => rfl) hmid (fun k _ => hnext k)

theorem constantsAmong_sound_h (s : Rebuild w) (ps : List (Rebuild w)) (sub : Rebuild w) (vars : List Int)
    (C : List Int) (m0 : Mem w) (body : Nat → Mem w → Mem w) (N : Nat)
    (hC : constantsAmong s ps sub vars = .ok C) (hnd : vars.Nodup)
    (hcmp : ∀ v e, compare s ps (Expr.var v) e = .ok true → ev e m0 = m0 v)
    (hb : BodyFactsH sub body (run body sub.pending m0) N) :
    (∀ k, k ≤ N → ∀ c ∈ C, run body sub.pending m0 k c = m0 c) ∧
    (∀ k, k < N → ∀ c ∈ C, mid body sub.pending m0 k c = m0 c) :=
  constants_sound s ps sub C m0 body N (constantsAmong_good s ps sub vars C hnd hC)
    (fun v e _ => hcmp v e) hb

theorem constantsAmong_sound_c (s : Rebuild w) (ps : List (Rebuild w)) (sub : Rebuild w) (vars : List Int)
    (C : List Int) (m0 : Mem w) (body : Nat → Mem w → Mem w) (N : Nat)
    (hC : constantsAmong s ps sub vars = .ok C) (hnd : vars.Nodup)
    (hcanon : ∀ v p, mGet sub.pending v = some p → Canon p)
    (hcanonW : ∀ v e, mGet sub.written v = some (.known e) → Canon e)
    (hcmp : ∀ v e, Canon e → compare s ps (Expr.var v) e = .ok true → ev e m0 = m0 v)
    (hb : BodyFactsH sub body (run body sub.pending m0) N) :
    (∀ k, k ≤ N → ∀ c ∈ C, run body sub.pending m0 k c = m0 c) ∧
    (∀ k, k < N → ∀ c ∈ C, mid body sub.pending m0 k c = m0 c) :=
  constants_sound s ps sub C m0 body N (constantsAmong_good s ps sub vars C hnd hC)
    (fun v e hve => hcmp v e (hve.elim (hcanonW v e) (hcanon v e))) hb

/-- The body of the loop of `linear_among` in `opt.rs`. -/
def linStep (s : Rebuild w) (ps : List (Rebuild w)) (sub : Rebuild w) (constant : List Int)
    (linear : List (Int × Expr w)) (var : Int) : List (Int × Expr w) :=
  if mHas sub.written var then linear
  else
    match getBoth sub (s :: ps) var with
    | some complete =>
      match Expr.incOf complete var with
      | some inc =>
        if (Expr.variables inc).all (fun x => constant.contains x) then mSet linear var inc else linear
      | none => linear
    | none => linear

theorem linearAmong_eq (s : Rebuild w) (ps : List (Rebuild w)) (sub : Rebuild w) (constant : List Int)
    (vars : List Int) :
    linearAmong s ps sub constant vars = vars.foldl (linStep s ps sub constant) [] := rfl

def IsLin (s : Rebuild w) (ps : List (Rebuild w)) (sub : Rebuild w) (constant : List Int) (v : Int)
    (inc : Expr w) : Prop :=
  mGet sub.written v = none ∧
  ∃ complete, getBoth sub (s :: ps) v = some complete ∧ Expr.incOf complete v = some inc ∧
    ∀ x ∈ Expr.variables inc, constant.contains x = true

theorem linFold_spec (s : Rebuild w) (ps : List (Rebuild w)) (sub : Rebuild w) (constant : List Int)
    (vars : List Int) (acc : List (Int × Expr w)) (v : Int) (inc : Expr w)
    (h : mGet (vars.foldl (linStep s ps sub constant) acc) v = some inc) :
    mGet acc v = some inc ∨ (v ∈ vars ∧ IsLin s ps sub constant v inc) := by
  induction vars generalizing acc with
  | nil => exact Or.inl h
  | cons x vars ih =>
    rw [List.foldl_cons] at h
    rcases ih _ h with h1 | h1
    · unfold linStep at h1
      split at h1
      · exact Or.inl h1
      · rename_i hw
        split at h1
        · rename_i complete hgb
          split at h1
          · rename_i inc' hinc
            split at h1
            · rename_i hall
              rcases mGet_mSet_cases h1 with ⟨rfl, rfl⟩ | ⟨_, h1⟩
              · right
                refine ⟨List.mem_cons_self, ?_, complete, hgb, hinc, fun y hy => List.all_eq_true.1 hall y hy⟩
                simp only [mHas, Bool.not_eq_true, Option.isSome_eq_false_iff, Option.isNone_iff_eq_none] at hw
                exact hw
              · exact Or.inl h1
            · exact Or.inl h1
          · exact Or.inl h1
        · exact Or.inl h1
    · exact Or.inr ⟨List.mem_cons_of_mem _ h1.1, h1.2⟩

theorem linearAmong_spec (s : Rebuild w) (ps : List (Rebuild w)) (sub : Rebuild w) (constant : List Int)
    (vars : List Int) (v : Int) (inc : Expr w)
    (h : mGet (linearAmong s ps sub constant vars) v = some inc) :
    v ∈ vars ∧ IsLin s ps sub constant v inc := by
  rw [linearAmong_eq] at h
  rcases linFold_spec s ps sub constant vars [] v inc h with h1 | h1
  · cases h1
  · exact h1

/-- What `getBoth` on the body state means along the run: the total effect of one round on a cell, over the
memory at the start of the round; the expression is in normal form.  A hypothesis the caller has to provide. -/
def GetBothFacts (s : Rebuild w) (ps : List (Rebuild w)) (sub : Rebuild w) (M : Nat → Mem w) : Prop :=
  ∀ v e, getBoth sub (s :: ps) v = some e → WeakCanon e ∧ ∀ k, M (k + 1) v = ev e (M k)

def GetBothFactsH (s : Rebuild w) (ps : List (Rebuild w)) (sub : Rebuild w) (M : Nat → Mem w) (N : Nat) :
    Prop :=
  ∀ v e, getBoth sub (s :: ps) v = some e → WeakCanon e ∧ ∀ k, k < N → M (k + 1) v = ev e (M k)

structure LinSound (sub : Rebuild w) (C : List Int) (M : Nat → Mem w) (v : Int) (inc : Expr w) : Prop where
  unwritten : mGet sub.written v = none
  overConst : ∀ x ∈ Expr.variables inc, C.contains x = true
  fresh : v ∉ Expr.variables inc
  step : ∀ k, M (k + 1) v = M k v + ev inc (M k)
  closed : ∀ k, M k v = M 0 v + BitVec.ofNat w k * ev inc (M 0)

structure LinSoundH (sub : Rebuild w) (C : List Int) (M : Nat → Mem w) (N : Nat) (v : Int) (inc : Expr w) :
    Prop where
  unwritten : mGet sub.written v = none
  overConst : ∀ x ∈ Expr.variables inc, C.contains x = true
  fresh : v ∉ Expr.variables inc
  step : ∀ k, k < N → M (k + 1) v = M k v + ev inc (M k)
  closed : ∀ k, k ≤ N → M k v = M 0 v + BitVec.ofNat w k * ev inc (M 0)

theorem linearAmong_sound_h (s : Rebuild w) (ps : List (Rebuild w)) (sub : Rebuild w) (C : List Int)
    (vars : List Int) (M : Nat → Mem w) (N : Nat)
    (hgb : GetBothFactsH s ps sub M N)
    (hconst : ∀ k, k ≤ N → ∀ c ∈ C, M k c = M 0 c)
    (v : Int) (inc : Expr w) (h : mGet (linearAmong s ps sub C vars) v = some inc) :
    LinSoundH sub C M N v inc := by
  obtain ⟨_, hw, complete, hg, hinc, hvars⟩ := linearAmong_spec s ps sub C vars v inc h
  obtain ⟨hcanon, hstep⟩ := hgb v complete hg
  have hincK : ∀ k, k ≤ N → ev inc (M k) = ev inc (M 0) := by
    intro k hk
    apply ev_congr
    intro x hx
    exact hconst k hk x (by simpa using hvars x hx)
  have hstep' : ∀ k, k < N → M (k + 1) v = M k v + ev inc (M k) := by
    intro k hk
    rw [hstep k hk]
    exact C15.incOf_recompose complete inc v (M k) hcanon hinc
  refine ⟨hw, hvars, C15.incOf_fresh complete inc v hinc, hstep', ?_⟩
  intro k
  induction k with
  | zero => simp
  | succ k ih =>
    intro hk
    rw [hstep' k (by omega), ih (by omega), hincK k (by omega)]
    generalize M 0 v = a
    generalize ev inc (M 0) = b
    bvring

end Hpbf.OptLoop
