/-
Value and variables of the expression helpers of the loop optimisations in `Hpbf/Opt.lean`: `shiftVars`,
`reduceConst` (a `symbEvaluate` with the substitution `reduceFn`), and `splitAlong`, which splits an increment
into a part over constants, linear parts (`LinPart`) and the rest; before them `groupedVars` as a `map`.

Where the model folds or maps with an anonymous function, that function gets a name here (`reduceFn`, `splitStep`; in the
later files `constStep`, `linStep`, `motionStepM`) and the model function is restated over it by an equation that holds
by `rfl` (`reduceConst_eq`, `splitAlong_eq`, `constantsAmong_eq`, `linearAmong_eq`, `finishLoop_eq`).
-/
import Hpbf.Proofs.OptLoopExpr
import Hpbf.Props.C15

namespace Hpbf.OptLoop
open Hpbf Opt OptSem Expr

variable {w : Nat}

theorem groupedVars_eq (e : Expr w) : groupedVars e = e.map (·.vars) := rfl

theorem groupedVars_length (e : Expr w) : (groupedVars e).length = e.length := by
  simp [groupedVars]

theorem shiftVars_variables (e : Expr w) (shift : Int) :
    Expr.variables (shiftVars e shift) = (Expr.variables e).map (· + shift) := by
  induction e with
  | nil => rfl
  | cons p e ih =>
    have : shiftVars (p :: e) shift
        = { p with vars := p.vars.map (· + shift) } :: shiftVars e shift := rfl
    rw [this, variables_cons, variables_cons, ih, List.map_append]

/-- The substitution `reduceConst` applies (the closure passed to `symb_evaluate` in `reduce_const`). -/
def reduceFn (s : Rebuild w) (ps : List (Rebuild w)) (constant : List Int) (i : Int) : Option (Expr w) :=
  if constant.contains i then
    match getConstant s ps i with
    | some c => some (Expr.val c)
    | none => some (Expr.var i)
  else some (Expr.var i)

theorem reduceConst_eq (s : Rebuild w) (ps : List (Rebuild w)) (e : Expr w) (constant : List Int) :
    reduceConst s ps e constant =
      if (Expr.variables e).any (fun i => constant.contains i) then
        match Expr.symbEvaluate e (reduceFn s ps constant) with
        | some e => pure e
        | none => throw "panic: reduce_const: symb_evaluate(..).unwrap()"
      else pure e := rfl

theorem reduceFn_cases (s : Rebuild w) (ps : List (Rebuild w)) (constant : List Int) (i : Int) :
    reduceFn s ps constant i = some (Expr.var i) ∨
      ∃ c, constant.contains i = true ∧ getConstant s ps i = some c ∧
        reduceFn s ps constant i = some (Expr.val c) := by
  unfold reduceFn
  split
  · rename_i hc
    cases hg : getConstant s ps i with
    | none => left; rfl
    | some c => right; exact ⟨c, hc, rfl, rfl⟩
  · left; rfl

theorem reduceConst_total (s : Rebuild w) (ps : List (Rebuild w)) (e : Expr w) (constant : List Int) :
    ∃ e', reduceConst s ps e constant = .ok e' := by
  rw [reduceConst_eq]
  split
  · have hsome : (Expr.symbEvaluate e (reduceFn s ps constant)).isSome := by
      rw [C15.symbEvaluate_defined]
      intro v _
      rcases reduceFn_cases s ps constant v with h | ⟨c, _, _, h⟩ <;> simp [h]
    cases hs : Expr.symbEvaluate e (reduceFn s ps constant) with
    | none => simp [hs] at hsome
    | some e' => exact ⟨e', rfl⟩
  · exact ⟨e, rfl⟩

theorem reduceConst_cases {s : Rebuild w} {ps : List (Rebuild w)} {e e' : Expr w} {constant : List Int}
    (h : reduceConst s ps e constant = .ok e') :
    e' = e ∨ Expr.symbEvaluate e (reduceFn s ps constant) = some e' := by
  rw [reduceConst_eq] at h
  split at h
  · cases hs : Expr.symbEvaluate e (reduceFn s ps constant) with
    | none => simp [hs] at h
    | some r =>
      simp only [hs] at h
      cases h; exact Or.inr rfl
  · cases h; exact Or.inl rfl

theorem reduceConst_value (s : Rebuild w) (ps : List (Rebuild w)) (e e' : Expr w) (constant : List Int)
    (h : reduceConst s ps e constant = .ok e') (f : Mem w)
    (hf : ∀ i ∈ Expr.variables e, constant.contains i = true →
      ∀ c, getConstant s ps i = some c → f i = c) :
    ev e' f = ev e f := by
  rcases reduceConst_cases h with rfl | hs
  · rfl
  · show evaluate e' f = evaluate e f
    rw [C15.value_symbEvaluate e e' _ f hs]
    apply C01Dse.evaluate_congr
    intro v hv
    rcases reduceFn_cases s ps constant v with hg | ⟨c, hc, hgc, hg⟩
    · simp [hg, eval_var]
    · simp only [hg, eval_val]
      exact (hf v hv hc c hgc).symm

theorem reduceConst_varsIn (s : Rebuild w) (ps : List (Rebuild w)) (e e' : Expr w) (constant : List Int)
    (h : reduceConst s ps e constant = .ok e') :
    ∀ x ∈ Expr.variables e', x ∈ Expr.variables e := by
  rcases reduceConst_cases h with rfl | hs
  · exact fun x hx => hx
  · refine varsIn_iff.1 (symbEvaluate_varsIn (S := fun x => x ∈ Expr.variables e)
      (reduceFn s ps constant) e e' ?_ hs)
    intro v hv e1 he1
    rcases reduceFn_cases s ps constant v with hg | ⟨c, _, _, hg⟩
    · rw [hg] at he1
      cases he1
      intro p hp x hx
      simp only [Expr.var, List.mem_singleton] at hp
      subst hp
      simp only [List.mem_singleton] at hx
      subst hx; exact hv
    · rw [hg] at he1
      cases he1
      intro p hp x hx
      unfold Expr.val at hp
      split at hp
      · cases hp
      · simp only [List.mem_singleton] at hp
        subst hp; cases hx

theorem reduceConst_canon (s : Rebuild w) (ps : List (Rebuild w)) (e e' : Expr w) (constant : List Int)
    (h : reduceConst s ps e constant = .ok e') (hc : Canon e) : Canon e' := by
  rcases reduceConst_cases h with rfl | hs
  · exact hc
  · apply C15.preserve_symbEvaluate (reduceFn s ps constant) _ hs
    intro v e1 he1
    rcases reduceFn_cases s ps constant v with hg | ⟨c, _, _, hg⟩
    · rw [hg] at he1; cases he1; exact C15.preserve_var v
    · rw [hg] at he1; cases he1; exact C15.preserve_val c

def sumL {α : Type} (g : α → BitVec w) : List α → BitVec w
  | [] => 0#w
  | a :: l => g a + sumL g l

@[simp] theorem sumL_nil {α : Type} (g : α → BitVec w) : sumL g [] = 0#w := rfl
@[simp] theorem sumL_cons {α : Type} (g : α → BitVec w) (a : α) (l : List α) :
    sumL g (a :: l) = g a + sumL g l := rfl

theorem sumL_congr {α : Type} {g h : α → BitVec w} {l : List α} (hgh : ∀ a ∈ l, g a = h a) :
    sumL g l = sumL h l := by
  induction l with
  | nil => rfl
  | cons a l ih =>
    rw [sumL_cons, sumL_cons, hgh a List.mem_cons_self, ih (fun b hb => hgh b (List.mem_cons_of_mem _ hb))]

theorem sumL_append {α : Type} (g : α → BitVec w) (a b : List α) :
    sumL g (a ++ b) = sumL g a + sumL g b := by
  induction a with
  | nil => simp
  | cons x a ih => simp [ih, BitVec.add_assoc]

theorem sumL_add {α : Type} (g h : α → BitVec w) (l : List α) :
    sumL (fun a => g a + h a) l = sumL g l + sumL h l := by
  induction l with
  | nil => simp
  | cons a l ih => simp only [sumL_cons, ih]; bvring

theorem accN_sumL {α : Type} (g : α → Nat → BitVec w) (l : List α) (n : Nat) :
    accN (fun k => sumL (fun a => g a k) l) n = sumL (fun a => accN (g a) n) l := by
  induction n with
  | zero =>
    simp only [accN_zero]
    induction l with
    | nil => rfl
    | cons a l ih => simp [← ih]
  | succ n ih => simp only [accN_succ, ih, sumL_add]

/-- The body of the loop of `split_along` in `opt.rs`. -/
def splitStep (constant : List Int) (linear : List (Int × Expr w))
    (acc : Expr w × Expr w × List (Expr w × Expr w)) (part : Part w) :
    Except String (Expr w × Expr w × List (Expr w × Expr w)) :=
  if part.vars.all (fun v => constant.contains v) then
    pure (acc.1 ++ [part], acc.2.1, acc.2.2)
  else if part.vars.all (fun v => constant.contains v || mHas linear v)
      && (part.vars.filter (fun x => !constant.contains x)).length == 1 then
    match part.vars.find? (fun x => !constant.contains x) with
    | none => throw "panic: split_along: find(..).unwrap()"
    | some linVar =>
      match mGet linear linVar with
      | none => throw "panic: split_along: linear[lin_var]"
      | some lin =>
        let increment : Part w := { coef := part.coef, vars := part.vars.filter (fun x => !(x == linVar)) }
        pure (acc.1, acc.2.1, acc.2.2 ++ [([part], Expr.mul [increment] lin)])
  else pure (acc.1, acc.2.1 ++ [part], acc.2.2)

theorem splitAlong_eq (e : Expr w) (constant : List Int) (linear : List (Int × Expr w)) :
    splitAlong e constant linear = e.foldlM (splitStep constant linear) ([], [], []) := rfl

/-- `part` without its variable `lv`. -/
abbrev incPart (part : Part w) (lv : Int) : Part w :=
  { coef := part.coef, vars := part.vars.filter (fun x => !(x == lv)) }

/-- A linear part `(initial, increment)` produced by `splitAlong`: the single part `part` of the
expression, which has exactly one non-constant variable `lv` (occurring once), a linear one with increment
`l`; `increment = (part / lv) * l`. -/
def LinPart (constant : List Int) (linear : List (Int × Expr w)) (e : Expr w)
    (il : Expr w × Expr w) : Prop :=
  ∃ (part : Part w) (lv : Int) (l : Expr w),
    part ∈ e ∧ il.1 = [part] ∧ lv ∈ part.vars ∧ constant.contains lv = false ∧
    mGet linear lv = some l ∧
    il.2 = Expr.mul [incPart part lv] l ∧
    (∀ x ∈ part.vars, x = lv ∨ constant.contains x = true) ∧
    (part.vars.filter (fun x => x == lv)).length = 1

theorem filter_single_of_find {vs : List Int} {q : Int → Bool} {lv : Int}
    (hlen : (vs.filter q).length = 1) (hfind : vs.find? q = some lv) : vs.filter q = [lv] := by
  have hq : q lv = true := List.find?_some hfind
  have hmem : lv ∈ vs := List.mem_of_find?_eq_some hfind
  have hm : lv ∈ vs.filter q := List.mem_filter.2 ⟨hmem, hq⟩
  obtain ⟨x, hx⟩ := List.length_eq_one_iff.1 hlen
  rw [hx] at hm ⊢
  simp only [List.mem_singleton] at hm
  rw [hm]

theorem splitStep_lin {constant : List Int} {linear : List (Int × Expr w)} {e : Expr w}
    {part : Part w} (hp : part ∈ e) {lv : Int} {l : Expr w}
    (hlen : (part.vars.filter (fun x => !constant.contains x)).length = 1)
    (hfind : part.vars.find? (fun x => !constant.contains x) = some lv)
    (hl : mGet linear lv = some l) :
    LinPart constant linear e
      ([part], Expr.mul [incPart part lv] l) := by
  have hfl := filter_single_of_find hlen hfind
  have hq : (fun x => !constant.contains x) lv = true :=
    List.find?_some (p := fun x => !constant.contains x) hfind
  have hmem : lv ∈ part.vars := List.mem_of_find?_eq_some hfind
  have hnc : constant.contains lv = false := by simpa using hq
  refine ⟨part, lv, l, hp, rfl, hmem, hnc, hl, rfl, ?_, ?_⟩
  · intro x hx
    cases hcx : constant.contains x with
    | true => right; rfl
    | false =>
      left
      have : x ∈ part.vars.filter (fun x => !constant.contains x) :=
        List.mem_filter.2 ⟨hx, by rw [hcx]; rfl⟩
      rw [hfl] at this
      simpa using this
  · have : part.vars.filter (fun x => x == lv)
        = (part.vars.filter (fun x => !constant.contains x)).filter (fun x => x == lv) := by
      rw [List.filter_filter]
      apply List.filter_congr
      intro x _
      by_cases hx : x = lv
      · subst hx; rw [hnc]; simp
      · simp [hx]
    rw [this, hfl]; simp

theorem splitStep_cases {constant : List Int} {linear : List (Int × Expr w)} {e0 : Expr w}
    {acc acc1 : Expr w × Expr w × List (Expr w × Expr w)} {part : Part w} (hp : part ∈ e0)
    (h : splitStep constant linear acc part = .ok acc1) :
    (∀ f : Mem w, ev acc1.1 f + ev acc1.2.1 f + sumL (fun il => ev il.1 f) acc1.2.2
      = (ev acc.1 f + ev acc.2.1 f + sumL (fun il => ev il.1 f) acc.2.2) + ev [part] f) ∧
    ((acc1 = (acc.1 ++ [part], acc.2.1, acc.2.2) ∧ ∀ x ∈ part.vars, constant.contains x = true) ∨
     (∃ il, acc1 = (acc.1, acc.2.1, acc.2.2 ++ [il]) ∧ LinPart constant linear e0 il) ∨
     acc1 = (acc.1, acc.2.1 ++ [part], acc.2.2)) := by
  unfold splitStep at h
  by_cases hall : (part.vars.all fun v => constant.contains v) = true
  · rw [if_pos hall] at h
    cases h
    refine ⟨fun f => ?_, Or.inl ⟨rfl, fun x hx => List.all_eq_true.1 hall x hx⟩⟩
    rw [ev_append]
    generalize ev acc.1 f = a
    generalize ev [part] f = b
    generalize ev acc.2.1 f = c
    generalize sumL (fun il => ev il.1 f) acc.2.2 = d
    bvring
  · rw [if_neg hall] at h
    by_cases hcond : (part.vars.all (fun v => constant.contains v || mHas linear v)
        && (part.vars.filter (fun x => !constant.contains x)).length == 1) = true
    · rw [if_pos hcond] at h
      simp only [Bool.and_eq_true, beq_iff_eq] at hcond
      cases hfind : part.vars.find? (fun x => !constant.contains x) with
      | none => rw [hfind] at h; cases h
      | some lv =>
        rw [hfind] at h
        dsimp only at h
        cases hl : mGet linear lv with
        | none => rw [hl] at h; cases h
        | some l =>
          rw [hl] at h
          cases h
          refine ⟨fun f => ?_, Or.inr (Or.inl ⟨_, rfl, splitStep_lin hp hcond.2 hfind hl⟩)⟩
          rw [sumL_append]
          simp only [sumL_cons, sumL_nil]
          generalize ev acc.1 f = a
          generalize ev [part] f = b
          generalize ev acc.2.1 f = c
          generalize sumL (fun il => ev il.1 f) acc.2.2 = d
          bvring
    · rw [if_neg hcond] at h
      cases h
      refine ⟨fun f => ?_, Or.inr (Or.inr rfl)⟩
      rw [ev_append]
      generalize ev acc.1 f = a
      generalize ev [part] f = b
      generalize ev acc.2.1 f = c
      generalize sumL (fun il => ev il.1 f) acc.2.2 = d
      bvring

theorem splitFold_spec (constant : List Int) (linear : List (Int × Expr w)) (e0 : Expr w) (e : Expr w)
    (he : ∀ p ∈ e, p ∈ e0)
    (acc acc' : Expr w × Expr w × List (Expr w × Expr w))
    (h : e.foldlM (splitStep constant linear) acc = .ok acc') :
    (∀ f : Mem w, ev acc'.1 f + ev acc'.2.1 f + sumL (fun il => ev il.1 f) acc'.2.2
      = (ev acc.1 f + ev acc.2.1 f + sumL (fun il => ev il.1 f) acc.2.2) + ev e f) ∧
    (∀ p ∈ acc'.1, p ∈ acc.1 ∨ (p ∈ e0 ∧ ∀ x ∈ p.vars, constant.contains x = true)) ∧
    (∀ il ∈ acc'.2.2, il ∈ acc.2.2 ∨ LinPart constant linear e0 il) ∧
    (∀ p ∈ acc'.2.1, p ∈ acc.2.1 ∨ p ∈ e0) := by
  induction e generalizing acc with
  | nil =>
    rw [List.foldlM_nil] at h
    cases h
    exact ⟨fun f => by simp, fun p hp => Or.inl hp, fun il h => Or.inl h, fun p hp => Or.inl hp⟩
  | cons part e ih =>
    rw [List.foldlM_cons] at h
    cases hstep : splitStep constant linear acc part with
    | error err => rw [hstep] at h; cases h
    | ok acc1 =>
      rw [hstep] at h
      obtain ⟨hv, h1, h3, h2⟩ := ih (fun p hp => he p (List.mem_cons_of_mem _ hp)) acc1 h
      have hpe0 : part ∈ e0 := he part List.mem_cons_self
      obtain ⟨hval, hshape⟩ := splitStep_cases hpe0 hstep
      refine ⟨fun f => by rw [hv f, hval f, ev_cons part e f, BitVec.add_assoc], ?_⟩
      rcases hshape with ⟨rfl, hall⟩ | ⟨il, rfl, hlin⟩ | rfl
      · refine ⟨fun p hp => ?_, h3, h2⟩
        rcases h1 p hp with hp1 | hp1
        · rcases List.mem_append.1 hp1 with hp2 | hp2
          · exact Or.inl hp2
          · rw [List.mem_singleton.1 hp2]; exact Or.inr ⟨hpe0, hall⟩
        · exact Or.inr hp1
      · refine ⟨h1, fun il' hil => ?_, h2⟩
        rcases h3 il' hil with hil1 | hil1
        · rcases List.mem_append.1 hil1 with hil2 | hil2
          · exact Or.inl hil2
          · rw [List.mem_singleton.1 hil2]; exact Or.inr hlin
        · exact Or.inr hil1
      · refine ⟨h1, h3, fun p hp => ?_⟩
        rcases h2 p hp with hp1 | hp1
        · rcases List.mem_append.1 hp1 with hp2 | hp2
          · exact Or.inl hp2
          · rw [List.mem_singleton.1 hp2]; exact Or.inr hpe0
        · exact Or.inr hp1

theorem splitAlong_recompose (e : Expr w) (constant : List Int) (linear : List (Int × Expr w))
    (cst other : Expr w) (lins : List (Expr w × Expr w))
    (h : splitAlong e constant linear = .ok (cst, other, lins)) :
    (∀ f : Mem w, ev e f = ev cst f + ev other f + sumL (fun il => ev il.1 f) lins) ∧
    (∀ x ∈ Expr.variables cst, constant.contains x = true) ∧
    (∀ p ∈ cst, p ∈ e) ∧ (∀ p ∈ other, p ∈ e) ∧
    (∀ il ∈ lins, LinPart constant linear e il) := by
  rw [splitAlong_eq] at h
  obtain ⟨hv, h1, h3, h2⟩ := splitFold_spec constant linear e e (fun p hp => hp) _ _ h
  refine ⟨fun f => ?_, fun x hx => ?_, fun p hp => ?_, fun p hp => ?_, fun il hil => ?_⟩
  · have := hv f
    simp only [ev_nil, sumL_nil] at this
    rw [this]; simp
  · obtain ⟨p, hp, hxp⟩ := mem_variables.1 hx
    rcases h1 p hp with h | h
    · cases h
    · exact h.2 x hxp
  · rcases h1 p hp with h | h
    · cases h
    · exact h.1
  · rcases h2 p hp with h | h
    · cases h
    · exact h
  · rcases h3 il hil with h | h
    · cases h
    · exact h

theorem mono_extract (f : Int → BitVec w) (vs : List Int) (lv : Int)
    (h : (vs.filter (fun x => x == lv)).length = 1) :
    mono f vs = f lv * mono f (vs.filter (fun x => !(x == lv))) := by
  induction vs with
  | nil => simp at h
  | cons x xs ih =>
    by_cases hx : x = lv
    · subst hx
      simp only [List.filter_cons, beq_self_eq_true, if_true, List.length_cons, Nat.add_eq_right,
        List.length_eq_zero_iff] at h
      have hnone : xs.filter (fun y => !(y == x)) = xs := by
        apply List.filter_eq_self.2
        intro y hy
        by_cases hyx : y = x
        · subst hyx
          have : y ∈ xs.filter (fun z => z == y) := List.mem_filter.2 ⟨hy, by simp⟩
          rw [h] at this; cases this
        · simp [hyx]
      simp [hnone]
    · have hb : (x == lv) = false := by simpa using hx
      simp only [List.filter_cons, hb] at h ⊢
      simp only [Bool.not_false, if_true, mono_cons]
      rw [ih h]
      bvring

theorem linPart_value {constant : List Int} {linear : List (Int × Expr w)} {e : Expr w}
    {il : Expr w × Expr w} (h : LinPart constant linear e il) :
    ∃ (part : Part w) (lv : Int) (l : Expr w),
      part ∈ e ∧ il.1 = [part] ∧ lv ∈ part.vars ∧ constant.contains lv = false ∧
      mGet linear lv = some l ∧
      (∀ x ∈ part.vars, x = lv ∨ constant.contains x = true) ∧
      ∀ f : Mem w,
        ev il.1 f = f lv * ev [incPart part lv] f ∧
        ev il.2 f = ev [incPart part lv] f * ev l f := by
  obtain ⟨part, lv, l, hp, h1, hlv, hnc, hl, h2, hall, hcnt⟩ := h
  refine ⟨part, lv, l, hp, h1, hlv, hnc, hl, hall, fun f => ⟨?_, ?_⟩⟩
  · rw [h1, ev_singleton, ev_singleton, mono_extract f part.vars lv hcnt]
    simp only
    bvring
  · rw [h2, ev_mul]

end Hpbf.OptLoop
