/-
The end of `finishLoop` (`finishEnd`), everything at once: the block-free operations moved in front of the block, then
the block directly (`loopInsideIf_all`) or inside a wrapping `if` whose child `ifState` holds the block (`wrap_prep`,
`wrap_all`).  Simulation, footprint and soundness of the recorded nodes need the same facts about the wrapping `if`
and come from one case analysis (`finishEnd_all`).
-/
import Hpbf.Proofs.OptRbAnLoop3
import Hpbf.Proofs.OptRbRd5

namespace Hpbf
namespace OptProof
open Opt OptSem Ir

variable {w : Nat}

/-- The `else` branch at the end of `finishLoop`, up to its call of `loopOrIf`: the block has been rebuilt inside a
fresh state `ifState`; what `loopOrIf` (with `ifState` as the child, body of an `if`) is told about that child. -/
theorem wrap_prep {shP shC shS cS : Int} {bodyS : List (Instr w)} {oS : Bool} {isLoop : Bool}
    {s1 : Rebuild w} {ps : List (Rebuild w)} {sub : Rebuild w} {cond : Int} {L : OptLoop w}
    {after : List (Int × Expr w)} {C : List Int} {pc : List (Rebuild w)} {sub0 : Rebuild w}
    {os os2 : Orders} {ifS : Rebuild w} {G1 Gc : State w → Prop}
    (h3 : (loopInsideIf (freshChildU s1.shift cond) [] sub cond L.toAtLeastOnce after C).run os
      = .ok (ifS, os2))
    (h : BlockCtx G1 Gc shP shC shS cS bodyS oS isLoop s1 ps sub cond L C pc sub0)
    (hafter : after ≠ [] → shP = 0 ∧ sub.shift = s1.shift)
    (hconstW : ∀ M0 σE σS, RelAt shP s1 ps M0 σE σS → G1 σS → σS.rd cS ≠ 0#w →
      ∀ σ1, Exec ([blockInstr isLoop cS shS bodyS oS] ++ [.calc after]) σS (.fin σ1) →
      ∀ x, C.contains x = true → memS σE σ1 x = memS σE σS x)
    (hA : ChildAn (ValidG Gc shP sub0 pc) sub0 sub) :
    Wf ifS ∧ RdSt ifS ∧ ShapeSt ifS ∧
    AStep (ValidG (WrapG shP s1 ps G1 cS) shP (freshChildU s1.shift cond) [])
      (freshChildU s1.shift cond) ifS ifS.insts ∧
    ∃ shC' : Int, shC' = shP + (ifS.shift - s1.shift) ∧
      ChildRep (WrapG shP s1 ps G1 cS) shP shC' [] (freshChildU s1.shift cond) [] ifS ([blockInstr isLoop cS shS bodyS oS] ++ [.calc after]) ∧
      EntryAt (WrapG shP s1 ps G1 cS) shP cS [] (freshChildU s1.shift cond) ∧
      HeadsIn G1 (WrapG shP s1 ps G1 cS) shP s1 ps cS 0 ([blockInstr isLoop cS shS bodyS oS] ++ [.calc after])
        ((false : Bool) = false) ∧
      (∀ M0 σE σS, RelAt shP s1 ps M0 σE σS → G1 σS →
        ∀ k σk, Head cS 0 ([blockInstr isLoop cS shS bodyS oS] ++ [.calc after]) σS k σk →
        ((false : Bool) = false → k ≤ 1) → ∀ x, C.contains x = true → memS σE σk x = memS σE σS x) ∧
      (ifS.subShift = false → ChildPre (WrapG shP s1 ps G1 cS) shP shC' [] (freshChildU s1.shift cond) ifS cS ([blockInstr isLoop cS shS bodyS oS] ++ [.calc after])) := by
  obtain ⟨hcond, hsh, hrep, hentry, hGc, hwfc, hpre, hkv, hF, hch⟩ := h
  have hwf0 : Wf (freshChildU s1.shift cond : Rebuild w) := wf_new _ _ _ _
  obtain ⟨wI, _, _, hrsI, shE, newI, hEs, hiI, hstI, hfI, haI⟩ :=
    loopInsideIf_all (G := WrapG shP s1 ps G1 cS) (oS := oS) h3 hwf0
      (fun _ _ => rfl)
      ⟨hcond, hsh, hrep, hentry,
        (by
          rintro M0 σE σS _ ⟨⟨M0', σE', hrel'⟩, hg, _⟩ k σk hh hk hne
          exact hGc M0' σE' σS hrel' hg k σk hh hk hne),
        hwfc, hpre, hkv, hF.wrap _, hch⟩ (fun _ => rfl) hafter hA
  have hiI' : newI = ifS.insts := by rw [hiI]; rfl
  subst hiI'
  have hifS : ShapeSt ifS :=
    (loopInsideIf_pstep h3 (wf_new _ _ _ _) hA.child hA.shape).shapeSt (shapeSt_new _ _ _ _)
  have hshC : ∃ shC' : Int, shC' = shP + (ifS.shift - s1.shift) := ⟨_, rfl⟩
  obtain ⟨shC', hshC'⟩ := hshC
  have hrepI : ChildRep (WrapG shP s1 ps G1 cS) shP shC' [] (freshChildU s1.shift cond) []
      ifS ([blockInstr isLoop cS shS bodyS oS] ++ [.calc after]) := by
    intro M0 σE σS hrel hg
    obtain ⟨hs, hb⟩ := hstI.2 M0 σE σS hrel hg
    refine ⟨hs.mono ?_, hb⟩
    rintro x y ⟨M0', hr', hk'⟩
    have : shE = shC' := by rw [hshC']; exact hEs hr'.nr
    rw [← this]
    exact ⟨M0', hr', hk'⟩
  have hentryI : EntryAt (WrapG shP s1 ps G1 cS) shP cS [] (freshChildU s1.shift cond) :=
    entry_noanal [] _ rfl rfl rfl rfl (by rw [← hcond]; rfl)
  have hGcI : HeadsIn G1 (WrapG shP s1 ps G1 cS) shP s1 ps cS 0 ([blockInstr isLoop cS shS bodyS oS] ++ [.calc after])
      ((false : Bool) = false) := by
    intro M0 σE σS hrel hG k σk hh hk hne
    have hk0 := hk rfl
    subst hk0
    cases hh
    exact ⟨⟨M0, σE, hrel⟩, hG, hne⟩
  have hconst : ∀ M0 σE σS, RelAt shP s1 ps M0 σE σS → G1 σS →
      ∀ k σk, Head cS 0 ([blockInstr isLoop cS shS bodyS oS] ++ [.calc after]) σS k σk →
      ((false : Bool) = false → k ≤ 1) → ∀ x, C.contains x = true → memS σE σk x = memS σE σS x := by
    intro M0 σE σS hrel hG k σk hh hk x hx
    cases hh with
    | zero => rfl
    | succ hprev hne' hex =>
      have := hk rfl
      rename_i k' σk' σ'
      have hk0 : k' = 0 := by omega
      subst hk0
      cases hprev
      have := hconstW M0 σE σS hrel hG hne' _ hex x hx
      rw [← this]
      rfl
  exact ⟨wI, hrsI.rdSt (rdSt_new _ _ _ _), hifS, haI, shC', hshC', hrepI, hentryI, hGcI, hconst,
    fun hss => ⟨hrepI, hfI.1, hfI.2.1, hfI.2.2.1, hss, rfl, hentryI, wI⟩⟩

/-- The `else` branch at the end of `finishLoop` (the block inside a fresh state `ifState`, which becomes the body
of an `if`): simulation, footprint and soundness of the recorded nodes. -/
theorem wrap_all {shP shC shS cS : Int} {bodyS : List (Instr w)} {oS : Bool} {isLoop : Bool}
    {s1 : Rebuild w} {ps : List (Rebuild w)} {sub : Rebuild w} {cond : Int} {L : OptLoop w}
    {after : List (Int × Expr w)} {C : List Int} {pc : List (Rebuild w)} {sub0 : Rebuild w}
    {os os2 os' : Orders} {ifS s' : Rebuild w} {G1 Gc : State w → Prop}
    (h3 : (loopInsideIf (freshChildU s1.shift cond) [] sub cond L.toAtLeastOnce after C).run os
      = .ok (ifS, os2))
    (h4 : (loopOrIf s1 ps ifS cond false L.toAtMostOnce C).run os2 = .ok (s', os'))
    (hwf : Wf s1)
    (h : BlockCtx G1 Gc shP shC shS cS bodyS oS isLoop s1 ps sub cond L C pc sub0)
    (hafter : after ≠ [] → shP = 0 ∧ sub.shift = s1.shift)
    (hnalo : L.atLeastOnce = false)
    (hconstW : ∀ M0 σE σS, RelAt shP s1 ps M0 σE σS → G1 σS → σS.rd cS ≠ 0#w →
      ∀ σ1, Exec ([blockInstr isLoop cS shS bodyS oS] ++ [.calc after]) σS (.fin σ1) →
      ∀ x, C.contains x = true → memS σE σ1 x = memS σE σS x)
    (hA : ChildAn (ValidG Gc shP sub0 pc) sub0 sub) :
    Wf s' ∧ s'.anal = s1.anal ∧ s'.cond = s1.cond ∧ s'.shift = s1.shift ∧
    ∃ new, s'.insts = s1.insts ++ new ∧
      StepNG G1 shP shP ps s1 s' [.ifnz cS 0 ([blockInstr isLoop cS shS bodyS oS] ++ [.calc after])] new ∧
      FootAll (ValidG G1 shP s1 ps) s1 s' new ∧ AStep (ValidG G1 shP s1 ps) s1 s' new := by
  obtain ⟨wI, hchI, hifS, hcAI, shC', hshC', hrepI, hentryI, hGcI, hconst, hpreI⟩ :=
    wrap_prep (oS := oS) h3 h hafter hconstW hA
  have hflagI : if (false : Bool) then (L.toAtMostOnce).atMostOnce = false
      else (L.toAtMostOnce).atLeastOnce = false := by
    simpa [OptLoop.toAtMostOnce] using hnalo
  obtain ⟨hcond, -, -, -, -, -, -, -, hF, -⟩ := h
  have halo : (L.toAtMostOnce).atLeastOnce = true → ∀ M0 σE σS, RelAt shP s1 ps M0 σE σS → G1 σS →
      σS.rd cS ≠ 0#w := by
    intro h
    have : (L.toAtMostOnce).atLeastOnce = L.atLeastOnce := rfl
    rw [this, hnalo] at h; cases h
  have hnofin : ∀ σS : State w, (∀ x, ¬ Exec [blockInstr isLoop cS shS bodyS oS] σS (.fin x)) →
      ∀ x, ¬ Exec [blockInstr false cS 0 ([blockInstr isLoop cS shS bodyS oS] ++ [.calc after]) oS] σS (.fin x) := by
    intro σS hn x hx
    by_cases hz : σS.rd cS = 0#w
    · exact hn σS (block_skip_fin hz)
    · obtain ⟨σ', _, h1, _⟩ := wrap_fin_inv hz hx
      exact hn σ' h1
  have hnc : (L.toAtMostOnce).noContinue = true → ∀ M0 σE σS, RelAt shP s1 ps M0 σE σS → G1 σS →
      ∀ x, ¬ Exec [blockInstr false cS 0 ([blockInstr isLoop cS shS bodyS oS] ++ [.calc after]) oS] σS (.fin x) :=
    fun h M0 σE σS hrel hG => hnofin σS (hF.nc h M0 σE σS hrel hG)
  have hne : (L.toAtMostOnce).noEffect = true → ∀ M0 σE σS, RelAt shP s1 ps M0 σE σS → G1 σS →
      σS.rd cS = 0#w ∨
      ∀ x, ¬ Exec [blockInstr false cS 0 ([blockInstr isLoop cS shS bodyS oS] ++ [.calc after]) oS] σS (.fin x) := by
    intro h M0 σE σS hrel hG
    rcases hF.ne h M0 σE σS hrel hG with h' | h'
    · exact Or.inl h'
    · exact Or.inr (hnofin σS h')
  cases hns : (ifS.subShift || ifS.shift != s1.shift) with
  | false =>
    have hss : ifS.subShift = false := by
      simp only [Bool.or_eq_false_iff] at hns; exact hns.1
    have hse : ifS.shift = s1.shift := by
      simp only [Bool.or_eq_false_iff, bne_eq_false_iff_eq] at hns; exact hns.2
    have hpreI := hpreI hss
    have hshI : shC' + 0 = shP := by rw [hshC', hse]; omega
    obtain ⟨w1, w2, new, hi, hst⟩ := loopOrIf_stay_ok' (oS := oS) (shS := 0) h4 hwf hpreI hns hcond hshI hGcI
      halo hnc hne hconst
    exact ⟨w1, w2.anal, w2.cond, w2.shift, new, hi, hst,
      loopOrIf_stay_footAll_of_step (shS := 0) h4 hwf hpreI hns hcond hshI hGcI hne hchI (fun _ => hnalo) hi hst,
      new_elim hi (loopOrIf_stay_an (shS := 0) h4 hwf hpreI hns hcond hshI hGcI hconst hcAI rfl hifS hflagI)⟩
  | true =>
    obtain ⟨w1, _, w3, w4, w5, new, hi, hst⟩ := loopOrIf_shift_ok (oS := oS) (shS := 0) h4 hwf wI hns hcond
      (by rw [hshC']; omega) hrepI hentryI hGcI halo hnc
    obtain ⟨g1, g2⟩ := loopOrIf_shift_foot h4 hwf wI hns
    exact ⟨w1, w3, w4, w5, new, hi, hst, FootAll.void g1 g2 new,
      new_elim hi (loopOrIf_shift_an (shS := 0) h4 hwf wI hns hcond (by rw [hshC']; omega) hrepI hentryI hGcI
        hifS hflagI rfl hcAI)⟩

/-- The end of `finishLoop`: the block-free `before` operations, then the block directly (`loopInsideIf`) or inside a
wrapping `if`. -/
theorem finishEnd_all {shP shC shS cS : Int} {bodyS : List (Instr w)} {oS : Bool} {isLoop : Bool}
    {s : Rebuild w} {ps : List (Rebuild w)} {sub : Rebuild w} {cond : Int} {L : OptLoop w}
    {before after : List (Int × Expr w)} {C : List Int} {pc : List (Rebuild w)} {sub0 : Rebuild w}
    {os os' : Orders} {s' : Rebuild w} {G G1 Gc : State w → Prop}
    (hr : (finishEnd s ps cond L (sub, before, after, C)).run os = .ok (s', os'))
    (h : EndArgs G G1 Gc shP shC shS cS bodyS oS isLoop s ps sub cond L before after C pc sub0 os)
    (hA : ChildAn (ValidG Gc shP sub0 pc) sub0 (forgetParent sub)) :
    Wf s' ∧ s'.anal = s.anal ∧ s'.cond = s.cond ∧
    ∃ shE new, (s'.noReturn = false → shE = shP + (s'.shift - s.shift)) ∧ s'.insts = s.insts ++ new ∧
      StepNG G shP shE ps s s' (endSrc isLoop cS shS bodyS oS L before after) new ∧
      FootAll (ValidG G shP s ps) s s' new ∧ AStep (ValidG G shP s ps) s s' new := by
  obtain ⟨hwf, hsf, hcond, hsh, hrep, hentry, hwfc, hch, hpre, hkv, hbefore, hafter, hG1, hF, hGc, hconstW⟩ := h
  unfold finishEnd at hr
  dsimp only at hr
  rw [run_bind_ok] at hr
  obtain ⟨s1, os1, h1, h2⟩ := hr
  obtain ⟨wf1, hdr1, _, newB, hiB, hstB⟩ := performAll0_stepN (G := G) hwf h1 hbefore
  obtain ⟨hnbB, b1, b2, b3, b4, b5⟩ := new_elim hiB (performAll_footAll (V := ValidG G shP s ps) h1 hwf)
  have hfB : FootAll (ValidG G shP s ps) s s1 newB := ⟨b1, b2, b3, b4, b5⟩
  have hval : ∀ σ σ', ValidG G shP s ps σ → Exec newB σ (.fin σ') → ValidG G1 shP s1 ps σ' :=
    fun σ σ' hv hex => hstB.valid hG1 hv hex
  have hsf1 : (forgetParent sub).subShift = false → AskStable s1 (forgetParent sub).shift :=
    fun h => (hsf h).of_hdr hdr1
  have hctx : BlockCtx G1 Gc shP shC shS cS bodyS oS isLoop s1 ps (forgetParent sub) cond L C pc sub0 :=
    ⟨hcond, by rw [hdr1.shift]; exact hsh, hrep, hentry, hGc s1, ⟨hwfc.pend, hwfc.writ, hwfc.rev, hwfc.revOk⟩, hpre, hkv,
      hF s1 os1 h1, hch.forgetParent⟩
  have n1 := performAll_nstep h1 hwf
  unfold endSrc
  split at h2
  · rename_i hdir
    rw [if_pos hdir]
    have hamoalo : L.atMostOnce = true → L.atLeastOnce = true := by
      intro ha
      rw [ha] at hdir
      simpa using hdir
    obtain ⟨w1, w2, w3, _, shE, new, hEs, hi, hst, hf, ha⟩ :=
      loopInsideIf_all (G := G1) (oS := oS) h2 wf1 hsf1 hctx hamoalo (by rw [hdr1.shift]; exact hafter) hA
    refine ⟨w1, w2.trans hdr1.anal, w3.trans hdr1.cond, shE, newB ++ new, ?_,
      by rw [hi, hiB, List.append_assoc], hstB.trans_g hst hG1, hfB.trans hf hval,
      AStep.append_noBlocks_left hnbB n1.subAnal ha b1 hval hf.2.2.2.1⟩
    intro hn
    rw [hEs hn, hdr1.shift]
  · rename_i hdir
    rw [if_neg hdir]
    have hnalo : L.atLeastOnce = false := by
      cases h : L.atLeastOnce with
      | false => rfl
      | true => rw [h] at hdir; simp at hdir
    rw [run_bind_ok] at h2
    obtain ⟨ifS, os2, h3, h4⟩ := h2
    obtain ⟨w1, w2, w3, w4, new, hi, hst, hfW, ha⟩ := wrap_all (oS := oS) h3 h4 wf1 hctx (by rw [hdr1.shift]; exact hafter) hnalo (hconstW s1) hA
    refine ⟨w1, w2.trans hdr1.anal, w3.trans hdr1.cond, shP, newB ++ new, ?_,
      by rw [hi, hiB, List.append_assoc], hstB.trans_g hst hG1, hfB.trans hfW hval,
      AStep.append_noBlocks_left hnbB n1.subAnal ha b1 hval hfW.2.2.2.1⟩
    intro _
    rw [w4, hdr1.shift]; omega

end OptProof
end Hpbf

#print axioms Hpbf.OptProof.wrap_all
#print axioms Hpbf.OptProof.finishEnd_all
