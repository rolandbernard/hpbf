/-
C02, first phase: from the simulation to statements about `Ir.run` and `Bc.run`.  `OnceOk` (`C01Exec`, where the
optimizer proofs conclude it) / `NoOnce` are the precondition on loops marked `once`; `forward_state` matches terminating IR runs with equal final STATE (not only
trace); `bcM_run` ties `Sim.run (BcM p)` to `Bc.runCfg p false`.
-/
import Hpbf.Proofs.C02EmitSim
import Hpbf.Proofs.C02Dispatch
import Hpbf.Proofs.FuelSim

namespace Hpbf
namespace C02Emit
open BcGen Bc Sim Expr

variable {w : Nat}

/-- An unlimited step is never interrupted (only a budget charge interrupts), and where it gets stuck
(branch out of range, destination `imm`, no instruction) the configuration is left as it was. -/
theorem step_unlimited (p : Bc.Program w) (c : Bc.Cfg w) :
    (∀ c', Bc.step p false c ≠ .interrupted c') ∧ (∀ c', Bc.step p false c = .bad c' → c' = c) := by
  refine ⟨fun c' h => Bool.false_ne_true (C02.step_interrupted_budget h).2, fun c' h => ?_⟩
  have hbr : ∀ taken off, C11.branch p false c taken off = .bad c' → c' = c := by
    intro taken off hb
    simp only [C11.branch, Bool.false_eq_true, false_and, if_false] at hb
    split at hb
    · split at hb
      · cases hb
      · cases hb; rfl
    · cases hb
  have har : ∀ f d a b, C11.arith c f d a b = .bad c' → c' = c := by
    intro f d a b hb
    unfold C11.arith at hb
    split at hb
    · cases hb
    · cases hb; rfl
  cases hi : p.insts[c.pc]? with
  | none =>
    simp only [Bc.step, hi] at h
    split at h
    · cases h
    · cases h; rfl
  | some ins =>
    rw [C11.step_eq hi] at h
    cases ins with
    | noop => cases h
    | mov sh => cases h
    | scan cond sh =>
      simp only [C11.stepI, Bool.false_eq_true, if_false] at h
      split at h
      · cases h
      · split at h <;> cases h
    | inp dst => simp only [C11.stepI] at h; split at h <;> cases h
    | out src => simp only [C11.stepI] at h; split at h <;> cases h
    | brz cond off => exact hbr _ _ h
    | brnz cond off => exact hbr _ _ h
    | add d a b => exact har _ _ _ _ h
    | sub d a b => exact har _ _ _ _ h
    | mul d a b => exact har _ _ _ _ h
    | copy d s =>
      simp only [C11.stepI] at h
      split at h
      · cases h
      · cases h; rfl

/-! In `obsBc`, `bad` and `interrupted` read as running out of fuel: `BcM` (`C02EmitVal`) makes them self loops, that is,
malformed bytecode counts as divergence for `Sim`. -/

def obsBc : Bc.Outcome w → Sim.Out
  | .done c => .fin true c.st.trace
  | .stopped c => .fin false c.st.trace
  | .interrupted c => .fuel c.st.trace
  | .bad c => .fuel c.st.trace
  | .outOfFuel c => .fuel c.st.trace

theorem run_self_loop {M : Mach} {c : M.C} (h : M.step c = .next c) : ∀ f, Sim.run M f c = .fuel (M.tr c) := by
  intro f
  induction f with
  | zero => rfl
  | succ f ih => rw [Sim.run, h]; exact ih

theorem bcM_run (p : Bc.Program w) : ∀ (f : Nat) (c : Bc.Cfg w),
    Sim.run (BcM p) f c = obsBc (Bc.runCfg p false f c) := by
  intro f
  induction f with
  | zero => intro c; rfl
  | succ f ih =>
    intro c
    obtain ⟨hni, hbad⟩ := step_unlimited p c
    cases hs : Bc.step p false c with
    | next c1 =>
      have : (BcM p).step c = .next c1 := by simp only [BcM, hs]
      simp only [Sim.run, this, Bc.runCfg, hs]
      exact ih c1
    | halt c1 =>
      have : (BcM p).step c = .fin true c1.st.trace := by simp only [BcM, hs]
      simp only [Sim.run, this, Bc.runCfg, hs]; rfl
    | stop c1 =>
      have : (BcM p).step c = .fin false c1.st.trace := by simp only [BcM, hs]
      simp only [Sim.run, this, Bc.runCfg, hs]; rfl
    | interrupted c1 => exact absurd hs (hni c1)
    | bad c1 =>
      have e := hbad c1 hs
      subst e
      have : (BcM p).step c1 = .next c1 := by simp only [BcM, hs]
      rw [run_self_loop this, Bc.runCfg, hs]; rfl

theorem obsBc_fin_true {o : Bc.Outcome w} {t : List Ev} (h : obsBc o = .fin true t) :
    ∃ c, o = .done c ∧ c.st.trace = t := by
  cases o <;> simp [obsBc] at h
  exact ⟨_, rfl, h⟩

theorem obsBc_fin_false {o : Bc.Outcome w} {t : List Ev} (h : obsBc o = .fin false t) :
    ∃ c, o = .stopped c ∧ c.st.trace = t := by
  cases o <;> simp [obsBc] at h
  exact ⟨_, rfl, h⟩

theorem trace_obsBc (o : Bc.Outcome w) : (obsBc o).trace = C07.traceOfBc o := by cases o <;> rfl

theorem irM_step_next {c c' : Ir.Cfg w} (h : (IrM w).step c = .next c') : Ir.step false c = .next c' := by
  rw [irM_step] at h
  cases hs : Ir.step false c with
  | next c1 => rw [hs] at h; cases h; rfl
  | halt c1 | stop c1 | interrupted c1 => rw [hs] at h; cases h

theorem ir_steps_run {n : Nat} {a a' : (IrM w).C} (h : Steps (IrM w) n a a') (f : Nat) :
    Ir.runCfg false (n + f) a = Ir.runCfg false f a' := by
  induction h with
  | refl _ => simp
  | @cons k x y z hs _ ih =>
    have e : k + 1 + f = (k + f) + 1 := by omega
    rw [e, Ir.runCfg_succ_next (irM_step_next hs)]; exact ih

theorem ir_steps_fuel {n : Nat} {a a' : Ir.Cfg w} (h : Steps (IrM w) n a a') :
    Ir.runCfg false n a = .outOfFuel a' := by
  have := ir_steps_run h 0
  simpa [Ir.runCfg] using this

/-- `BcM` turns `bad` into a self loop, so `n` steps of `BcM` are some `m` steps of `Bc.runCfg`. -/
theorem bc_steps_run {p : Bc.Program w} {n : Nat} {b b' : (BcM p).C} (h : Steps (BcM p) n b b') :
    ∃ m, ∀ f, Bc.runCfg p false (m + f) b = Bc.runCfg p false f b' := by
  induction h with
  | refl _ => exact ⟨0, fun f => by simp⟩
  | @cons k x y z hs _ ih =>
    obtain ⟨m, hm⟩ := ih
    obtain ⟨hni, hbad⟩ := step_unlimited p x
    cases hst : Bc.step p false x with
    | next c1 =>
      have : y = c1 := by
        have h' : (BcM p).step x = .next c1 := by simp only [BcM, hst]
        rw [h'] at hs; cases hs; rfl
      subst this
      refine ⟨m + 1, fun f => ?_⟩
      have e : m + 1 + f = (m + f) + 1 := by omega
      rw [e, Bc.runCfg_succ_next hst]; exact hm f
    | halt c1 => simp only [BcM, hst] at hs; cases hs
    | stop c1 => simp only [BcM, hst] at hs; cases hs
    | interrupted c1 => exact absurd hst (hni c1)
    | bad c1 =>
      -- self loop of `BcM`: `y = x`
      have : y = x := by
        have h' : (BcM p).step x = .next x := by simp only [BcM, hst]
        rw [h'] at hs; cases hs; rfl
      subst this
      exact ⟨m, hm⟩

/-- A finished IR run is answered by a bytecode run finished the same way in the same state. -/
def SameEnd : Ir.Outcome w → Bc.Outcome w → Prop
  | .done c, o => ∃ c', o = .done c' ∧ c'.st = c.st
  | .stopped c, o => ∃ c', o = .stopped c' ∧ c'.st = c.st
  | _, _ => True

theorem SameEnd.of_oof {a a' : Ir.Cfg w} {k : Nat} (h : Ir.runCfg false k a = .outOfFuel a') (o : Bc.Outcome w) :
    SameEnd (Ir.runCfg false k a) o := by rw [h]; trivial

/-- The forward direction through `FuelRun.sim` and not `Sim.Simulation.forward`: `Sim.Out` keeps only the trace, the
statement wants the final state. -/
theorem state_chunk {P : Bc.Program w} {fuse : Bool} (f : Nat) {a : Ir.Cfg w} {b : Bc.Cfg w} (h : R P fuse a b) :
    FuelRun.Chunk (Ir.runCfg false) .outOfFuel (Bc.runCfg P false) .outOfFuel (fun _ => R P fuse) SameEnd
      (fun _ _ => 0) f a b := by
  have hmid : ∀ {m : Nat} {a' : Ir.Cfg w}, Ir.runCfg false m a = .outOfFuel a' → f ≤ m →
      ∃ j, SameEnd (Ir.runCfg false f a) (Bc.runCfg P false j b) := fun hm hk =>
    have ⟨_, e⟩ := (Ir.fuelRun false).oof_of_le hm hk
    ⟨0, .of_oof e _⟩
  cases chunk h with
  | silent a' hs hR' _ _ =>
    have e := Ir.runCfg_succ_next (irM_step_next hs) 0
    exact .sync 1 0 a' b e rfl (fun _ => hR') (fun e => by cases e) fun hk => hmid e (Nat.le_of_lt hk)
  | sync m n a' b' hA hB hR' _ =>
    obtain ⟨j, hj⟩ := bc_steps_run hB
    exact .sync _ j a' b' (ir_steps_fuel hA) (hj 0) (fun _ => hR') (fun e => by cases e) fun hk => hmid (ir_steps_fuel hA) (Nat.le_of_lt hk)
  | halt ca cb h1 h2 h3 _ =>
    exact .ends (Ir.fuelRun false) (m := 0) (n := 1) (o := .done ca) (o' := .done cb)
      (by simp only [Ir.runCfg, h1]) (fun _ e => by cases e)
      (by simp only [Bc.runCfg, h2]) ⟨cb, rfl, h3⟩ (hmid (m := 0) rfl)
  | stop ca cb h1 h2 h3 _ =>
    exact .ends (Ir.fuelRun false) (m := 0) (n := 1) (o := .stopped ca) (o' := .stopped cb)
      (by simp only [Ir.runCfg, h1]) (fun _ e => by cases e)
      (by simp only [Bc.runCfg, h2]) ⟨cb, rfl, h3⟩ (hmid (m := 0) rfl)

theorem forward_state (P : Bc.Program w) (fuse : Bool) :
    ∀ (f : Nat) (a : Ir.Cfg w) (b : Bc.Cfg w), R P fuse a b →
    (∀ c, Ir.runCfg false f a = .done c → ∃ f' c', Bc.runCfg P false f' b = .done c' ∧ c'.st = c.st) ∧
    (∀ c, Ir.runCfg false f a = .stopped c → ∃ f' c', Bc.runCfg P false f' b = .stopped c' ∧ c'.st = c.st) := by
  intro f a b hR
  obtain ⟨f', h⟩ := (Ir.fuelRun false).sim (Bc.fuelRun P false) (R := fun _ => R P fuse)
    (fun f _ _ => state_chunk f) f a b hR
  constructor <;> intro c hc <;> rw [hc] at h <;> exact ⟨f', h⟩

theorem onceSafe_of_onceOk {blk : Ir.Block w} {env : Env} (h : OnceOk blk env) :
    OnceSafe (irInit blk env) := by
  intro n c' hst cond shift body rest hc
  exact h n c' (ir_steps_fuel hst) cond shift body rest hc

mutual
def noOnceI : Ir.Instr w → Bool
  | .loop _ _ body once => !once && noOnceL body
  | .ifnz _ _ body => noOnceL body
  | .output _ => true
  | .input _ => true
  | .calc _ => true
def noOnceL : List (Ir.Instr w) → Bool
  | [] => true
  | i :: is => noOnceI i && noOnceL is
end

/-- No loop of the block (at any depth) is marked `once`: everything `Program::parse` produces. -/
def NoOnce (blk : Ir.Block w) : Prop := noOnceL blk.insts = true

def noOnceK : List (Ir.Cont w) → Bool
  | [] => true
  | .loopEnd _ _ body rest :: ks => noOnceL body && noOnceL rest && noOnceK ks
  | .ifEnd _ rest :: ks => noOnceL rest && noOnceK ks

def NoOnceCfg (c : Ir.Cfg w) : Prop := noOnceL c.cur = true ∧ noOnceK c.conts = true

theorem noOnce_step {c c' : Ir.Cfg w} (h : NoOnceCfg c) (hs : Ir.step false c = .next c') : NoOnceCfg c' := by
  obtain ⟨cur, conts, bud, st⟩ := c
  obtain ⟨h1, h2⟩ := h
  simp only at h1 h2
  cases cur with
  | nil =>
    cases conts with
    | nil => simp [Ir.step] at hs
    | cons k ks =>
      cases k with
      | loopEnd cond shift body rest =>
        simp only [noOnceK, Bool.and_eq_true] at h2
        simp only [Ir.step, Bool.false_and, Bool.false_eq_true, if_false] at hs
        split at hs <;> cases hs
        · exact ⟨h2.1.1, by simp [noOnceK, h2.1.1, h2.1.2, h2.2]⟩
        · exact ⟨h2.1.2, h2.2⟩
      | ifEnd shift rest =>
        simp only [noOnceK, Bool.and_eq_true] at h2
        simp only [Ir.step, Bool.false_and, Bool.false_eq_true, if_false] at hs
        cases hs
        exact ⟨h2.1, h2.2⟩
  | cons i rest =>
    simp only [noOnceL, Bool.and_eq_true] at h1
    cases i with
    | output src | input dst =>
      simp only [Ir.step] at hs
      split at hs <;> cases hs
      exact ⟨h1.2, h2⟩
    | «calc» calcs =>
      simp only [Ir.step] at hs
      cases hs
      exact ⟨h1.2, h2⟩
    | loop cond shift body once =>
      simp only [noOnceI, Bool.and_eq_true] at h1
      simp only [Ir.step] at hs
      split at hs <;> cases hs
      · exact ⟨h1.1.2, by simp [noOnceK, h1.1.2, h1.2, h2]⟩
      · exact ⟨h1.2, h2⟩
    | ifnz cond shift body =>
      simp only [noOnceI] at h1
      simp only [Ir.step] at hs
      split at hs <;> cases hs
      · exact ⟨h1.1, by simp [noOnceK, h1.2, h2]⟩
      · exact ⟨h1.2, h2⟩

theorem onceOk_of_noOnce {blk : Ir.Block w} (h : NoOnce blk) (env : Env) : OnceOk blk env := by
  have key : ∀ (f : Nat) (a c : Ir.Cfg w), NoOnceCfg a → Ir.runCfg false f a = .outOfFuel c → NoOnceCfg c := by
    intro f
    induction f with
    | zero => intro a c ha hr; simp [Ir.runCfg] at hr; subst hr; exact ha
    | succ f ih =>
      intro a c ha hr
      simp only [Ir.runCfg] at hr
      cases hs : Ir.step false a with
      | next a1 => rw [hs] at hr; exact ih a1 c (noOnce_step ha hs) hr
      | halt a1 => rw [hs] at hr; cases hr
      | stop a1 => rw [hs] at hr; cases hr
      | interrupted a1 => rw [hs] at hr; cases hr
  intro f c hr cond shift body rest hc
  have := (key f _ c (show NoOnceCfg (irInit blk env) from ⟨h, rfl⟩) hr).1
  rw [hc] at this
  simp [noOnceL, noOnceI] at this

theorem R_init {blk : Ir.Block w} {fuse : Bool} {p : Bc.Program w} (hp : emitOnly blk fuse = .ok p)
    (env : Env) (ho : OnceOk blk env) :
    R p fuse (irInit blk env) ⟨0, [], 0, State.init env⟩ := by
  obtain ⟨s, hs, hi⟩ := emitOnly_insts hp
  have hem := em_of_emitState hs
  refine R.run hem rfl ?_ ⟨by simp [keys], fun e t h => by simp [alGet] at h⟩ (sound_nil _)
    (K.nil (by rw [hi]; rfl)) (onceSafe_of_onceOk ho)
  intro i _ _
  rw [hi]; rfl

end C02Emit
end Hpbf
