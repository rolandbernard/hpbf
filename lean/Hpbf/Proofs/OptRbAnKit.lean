/-
The toolkit for "the analysis a round records is sound for the program it emits": algebra of `AnalInL` / `AnalInI` /
`BlockIn` / `AfterG` (monotonicity, block-free lists, `++`), lemmas about the mirror guard `MirV`, and algebra of
`AStep` (block-free steps, weakening, congruence, and the composition `AStep.trans`).

First the shared definitions. The statement for one step `s → s'` of the rebuild that appends the instructions `new` and
the analysis nodes `newA` (`AStep`): `AnalInL` (Hpbf/Proofs/OptRbAnalIn.lean) holds for `new` / `newA` from every
emitted-program state that MIRRORS a valid one (`MirV`): it agrees with a state `σ1` satisfying the validity predicate
`V` (normally `ValidG G sh s ps`) except on cells in a set `K` that the code does not read (`K` is disjoint from
`s'.reads`; it is empty once the state has made an uncertain move).  Mirror states are needed because the code of a
nested block is run, inside the emitted loop of its parent, from heads that are NOT valid for the child: they differ
from a valid companion on the cells for which the parent has unmaterialized pending operations.
-/
import Hpbf.Proofs.OptRbMotionChild
import Hpbf.Proofs.OptRbAnalCheck

namespace Hpbf
namespace OptProof
open Opt OptSem Ir

variable {w : Nat}

def MirV (V : State w → Prop) (s s' : Rebuild w) : State w → Prop :=
  fun σ2 => ∃ (σ1 : State w) (K : Int → Prop), V σ1 ∧ (∀ v, K v → v ∉ s'.reads) ∧
    (s'.subShift = true → ∀ v, ¬ K v) ∧ AgreeOff (Rest K s) σ1 σ2

theorem MirV.self {V : State w → Prop} {s s' : Rebuild w} {σ : State w} (h : V σ) : MirV V s s' σ :=
  ⟨σ, fun _ => False, h, fun _ hv => hv.elim, fun _ _ hv => hv, rfl, rfl, rfl, fun _ _ => rfl⟩

/-- (A structure around one `∃`: the statement is opened where `.ext` is written, never by unification or `simp`.) -/
structure AStep (V : State w → Prop) (s s' : Rebuild w) (new : List (Instr w)) : Prop where
  ext : ∃ newA, s'.subAnal = s.subAnal ++ newA ∧ ShapeL new newA ∧ AnalInL (MirV V s s') new newA

/-- What the analysis pass knows of the rebuilt body `sub` of a block (started in the fresh state `sub0`) when the
parent takes the block over: the nodes `sub` recorded are sound for its code, and they are all the nodes it has. -/
structure ChildAn (V : State w → Prop) (sub0 sub : Rebuild w) : Prop where
  an : AStep V sub0 sub sub.insts
  sa0 : sub0.subAnal = []
  shape : ShapeSt sub
  child : Child sub

theorem blockIn_mono {G G' : State w → Prop} {isLoop : Bool} {c sh : Int} {body : List (Instr w)}
    {A : OptAnalysis w} (h : ∀ σ, G' σ → G σ) (hb : BlockIn G isLoop c sh body A) :
    BlockIn G' isLoop c sh body A :=
  blockIn_cover (fun σ hσ => ⟨G, h σ hσ, hb⟩)

theorem analInI_mono {G G' : State w → Prop} {i : Instr w} {A : OptAnalysis w} (h : ∀ σ, G' σ → G σ)
    (hi : AnalInI G i A) : AnalInI G' i A :=
  analInI_cover i A G' (fun σ hσ => ⟨G, h σ hσ, hi⟩)

theorem analInL_mono {G G' : State w → Prop} {l : List (Instr w)} {subs : List (OptAnalysis w)}
    (h : ∀ σ, G' σ → G σ) (hl : AnalInL G l subs) : AnalInL G' l subs :=
  analInL_cover l subs G' (fun σ hσ => ⟨G, h σ hσ, hl⟩)

theorem analInL_congr_guard {G G' : State w → Prop} {l : List (Instr w)} {subs : List (OptAnalysis w)}
    (h : ∀ σ, G σ ↔ G' σ) : AnalInL G l subs ↔ AnalInL G' l subs :=
  ⟨analInL_mono (fun σ hσ => (h σ).2 hσ), analInL_mono (fun σ hσ => (h σ).1 hσ)⟩

theorem analInI_congr_guard {G G' : State w → Prop} {i : Instr w} {A : OptAnalysis w}
    (h : ∀ σ, G σ ↔ G' σ) : AnalInI G i A ↔ AnalInI G' i A :=
  ⟨analInI_mono (fun σ hσ => (h σ).2 hσ), analInI_mono (fun σ hσ => (h σ).1 hσ)⟩

/-- a list without nested blocks makes no claim -/
theorem analInL_noBlocks {G : State w → Prop} {l : List (Instr w)} {subs : List (OptAnalysis w)}
    (h : ∀ i ∈ l, C01Dse.isBlock i = false) : AnalInL G l subs := by
  induction l generalizing G with
  | nil => exact analInL_nil G subs
  | cons i l ih =>
    rw [analInL_cons_nonblock G (h i (by simp))]
    exact ih (fun j hj => h j (by simp [hj]))

theorem afterG_mono {G G' : State w → Prop} {l : List (Instr w)} (h : ∀ σ, G' σ → G σ) :
    ∀ σ, AfterG G' l σ → AfterG G l σ := by
  rintro σ ⟨σ0, h0, hex⟩
  exact ⟨σ0, h σ0 h0, hex⟩

theorem afterG_nil {G : State w → Prop} (σ : State w) : AfterG G [] σ ↔ G σ := by
  constructor
  · rintro ⟨σ0, h0, hex⟩
    cases hex
    exact h0
  · intro h; exact ⟨σ, h, .nil σ⟩

theorem afterG_append {G : State w → Prop} {l1 l2 : List (Instr w)} (σ : State w) :
    AfterG G (l1 ++ l2) σ ↔ AfterG (AfterG G l1) l2 σ := by
  constructor
  · rintro ⟨σ0, h0, hex⟩
    rcases exec_append.1 hex with ⟨hnf, _⟩ | ⟨σ1, h1, h2⟩
    · cases hnf
    · exact ⟨σ1, ⟨σ0, h0, h1⟩, h2⟩
  · rintro ⟨σ1, ⟨σ0, h0, h1⟩, h2⟩
    exact ⟨σ0, h0, exec_append.2 (Or.inr ⟨σ1, h1, h2⟩)⟩

theorem afterG_cons {G : State w → Prop} {i : Instr w} {l : List (Instr w)} (σ : State w) :
    AfterG G (i :: l) σ ↔ AfterG (AfterG G [i]) l σ :=
  afterG_append (l1 := [i]) σ

/-- `AnalInL` of a concatenation (the first list is paired exactly with the first node list). -/
theorem analInL_append {G : State w → Prop} {l1 l2 : List (Instr w)} {a1 a2 : List (OptAnalysis w)}
    (hs : ShapeL l1 a1) :
    AnalInL G (l1 ++ l2) (a1 ++ a2) ↔ AnalInL G l1 a1 ∧ AnalInL (AfterG G l1) l2 a2 := by
  induction l1 generalizing G a1 with
  | nil =>
    rw [shapeL_nil_iff] at hs
    subst hs
    simp only [List.nil_append]
    rw [analInL_congr_guard (G := AfterG G []) (G' := G) afterG_nil]
    exact ⟨fun h => ⟨analInL_nil G [], h⟩, fun h => h.2⟩
  | cons i l1 ih =>
    rw [List.cons_append]
    cases hb : C01Dse.isBlock i with
    | false =>
      rw [shapeL_cons_nonblock hb] at hs
      rw [analInL_cons_nonblock G hb, analInL_cons_nonblock G hb, ih hs,
        analInL_congr_guard (G := AfterG (AfterG G [i]) l1) (G' := AfterG G (i :: l1))
          (fun σ => (afterG_cons σ).symm)]
    | true =>
      rw [shapeL_cons_block hb] at hs
      obtain ⟨A, a1', rfl, _, hr⟩ := hs
      rw [List.cons_append, analInL_cons_block G hb, analInL_cons_block G hb, ih hr,
        analInL_congr_guard (G := AfterG (AfterG G [i]) l1) (G' := AfterG G (i :: l1))
          (fun σ => (afterG_cons σ).symm), and_assoc]

/-- an `ifnz` node makes no claim of its own -/
theorem blockIn_ifnz {G : State w → Prop} {c sh : Int} {body : List (Instr w)} {A : OptAnalysis w} :
    BlockIn G false c sh body A :=
  ⟨fun _ h => (by cases h), fun _ _ h => (by cases h)⟩

/-- a `loop` node with `atMostOnce = false` only makes the `clobbered` claim -/
theorem blockIn_loop_of {G : State w → Prop} {c sh : Int} {body : List (Instr w)} {A : OptAnalysis w}
    (hamo : A.loopAnal.atMostOnce = false)
    (h : A.hasShift = false → ∀ σ, G σ → ∀ k σk, Head c sh body σ k σk →
      σk.ptr = σ.ptr ∧ ∀ x, A.clobbered.contains x = false → σk.rd x = σ.rd x) :
    BlockIn G true c sh body A :=
  ⟨fun h1 => (by rw [hamo] at h1; cases h1), fun _ h2 _ σ hσ k σk hh => h h2 σ hσ k σk hh⟩

/-- the node of an emitted loop (`ShapeI`: `atMostOnce = false`) -/
theorem analInI_loop_of_shape {G : State w → Prop} {c sh : Int} {body : List (Instr w)} {o : Bool}
    {A : OptAnalysis w} (hs : ShapeI (.loop c sh body o) A)
    (h : A.hasShift = false → ∀ σ, G σ → ∀ k σk, Head c sh body σ k σk →
      σk.ptr = σ.ptr ∧ ∀ x, A.clobbered.contains x = false → σk.rd x = σ.rd x)
    (hb : AnalInL (HeadG G true c sh body) body A.subBlocks) : AnalInI G (.loop c sh body o) A :=
  (analInI_loop G c sh body o A).2 ⟨blockIn_loop_of (shapeI_loop hs).2.1 h, hb⟩

theorem analInI_ifnz_of {G : State w → Prop} {c sh : Int} {body : List (Instr w)} {A : OptAnalysis w}
    (hb : AnalInL (HeadG G false c sh body) body A.subBlocks) : AnalInI G (.ifnz c sh body) A :=
  (analInI_ifnz G c sh body A).2 ⟨blockIn_ifnz, hb⟩

theorem headG_mono {G G' : State w → Prop} {isLoop : Bool} {c sh : Int} {body : List (Instr w)}
    (h : ∀ σ, G' σ → G σ) : ∀ σ, HeadG G' isLoop c sh body σ → HeadG G isLoop c sh body σ := by
  rintro σ ⟨hnz, σ0, h0, hh⟩
  exact ⟨hnz, σ0, h σ0 h0, hh⟩

theorem analInL_single {G : State w → Prop} {i : Instr w} {A : OptAnalysis w}
    (hb : C01Dse.isBlock i = true) : AnalInL G [i] [A] ↔ AnalInI G i A := by
  rw [analInL_cons_block G hb]
  exact ⟨fun h => h.1, fun h => ⟨h, analInL_nil _ _⟩⟩

theorem rest_eq_of_written_nil {K : Int → Prop} {s : Rebuild w} (hw : s.written = []) : Rest K s = K :=
  funext (fun v => propext (rest_fresh hw v))

theorem MirV.mono_V {V V' : State w → Prop} {s s' : Rebuild w} (hv : ∀ σ, V σ → V' σ) :
    ∀ σ, MirV V s s' σ → MirV V' s s' σ := by
  rintro σ ⟨σ1, K, h1, h2, h3, h4⟩
  exact ⟨σ1, K, hv σ1 h1, h2, h3, h4⟩

/-- a later state (more reads, possibly an uncertain move) has fewer mirrors -/
theorem MirV.mono_reads {V : State w → Prop} {s s' s'' : Rebuild w}
    (hr : ∀ v, v ∈ s'.reads → v ∈ s''.reads) (hss : s''.subShift = false → s'.subShift = false) :
    ∀ σ, MirV V s s'' σ → MirV V s s' σ := by
  rintro σ ⟨σ1, K, h1, h2, h3, h4⟩
  refine ⟨σ1, K, h1, fun v hk hm => h2 v hk (hr v hm), fun hs' => h3 ?_, h4⟩
  cases hs2 : s''.subShift with
  | true => rfl
  | false => rw [hss hs2] at hs'; cases hs'

theorem MirV.mono_readsMono {V : State w → Prop} {s s' s'' : Rebuild w} (hm : ReadsMono s' s'') :
    ∀ σ, MirV V s s'' σ → MirV V s s' σ :=
  MirV.mono_reads hm.1 hm.2

/-- only `s.written`, `s'.reads` and `s'.subShift` matter -/
theorem MirV.congr {V : State w → Prop} {s s' t t' : Rebuild w} (hw : t.written = s.written)
    (hr : t'.reads = s'.reads) (hss : t'.subShift = s'.subShift) (σ : State w) :
    MirV V t t' σ ↔ MirV V s s' σ := by
  unfold MirV
  rw [hr, hss]
  constructor
  · rintro ⟨σ1, K, h1, h2, h3, h4⟩
    exact ⟨σ1, K, h1, h2, h3, h4.congr (Rest.congr hw K)⟩
  · rintro ⟨σ1, K, h1, h2, h3, h4⟩
    exact ⟨σ1, K, h1, h2, h3, h4.congr (fun v => (Rest.congr hw K v).symm)⟩

/-- for a state that has written nothing yet: a state that agrees with a mirror outside unread cells is a mirror -/
theorem MirV.of_agree {V : State w → Prop} {s s' : Rebuild w} {X : Int → Prop} {σ2 σ3 : State w}
    (hw : s.written = []) (h : MirV V s s' σ2) (hag : AgreeOff X σ2 σ3) (hX : ∀ v, X v → v ∉ s'.reads)
    (hXs : s'.subShift = true → ∀ v, ¬ X v) : MirV V s s' σ3 := by
  obtain ⟨σ1, K, h1, h2, h3, h4⟩ := h
  refine ⟨σ1, fun v => K v ∨ X v, h1, ?_, ?_, ?_⟩
  · rintro v (hk | hx)
    · exact h2 v hk
    · exact hX v hx
  · rintro hs v (hk | hx)
    · exact h3 hs v hk
    · exact hXs hs v hx
  · refine (h4.trans' hag).mono (fun v hv => ?_)
    rw [rest_fresh hw]
    rcases hv with hv | hv
    · exact Or.inl ((rest_fresh hw v).1 hv)
    · exact Or.inr hv

theorem AgreeOff.stEq_of_empty {K : Int → Prop} {σ1 σ2 : State w} (h : AgreeOff K σ1 σ2) (hK : ∀ v, ¬ K v) :
    StEq σ1 σ2 := by
  refine ⟨h.1, h.2.1, h.2.2.1, fun i => ?_⟩
  have := h.2.2.2 (i - σ1.ptr) (hK _)
  have e1 : σ1.ptr + (i - σ1.ptr) = i := by omega
  have e2 : σ2.ptr + (i - σ1.ptr) = i := by rw [← h.1]; omega
  show σ1.tape.get i = σ2.tape.get i
  have h' : σ1.tape.get (σ1.ptr + (i - σ1.ptr)) = σ2.tape.get (σ2.ptr + (i - σ1.ptr)) := this
  rw [e1, e2] at h'
  exact h'

theorem AgreeOff.of_stEq {K : Int → Prop} {σ1 σ2 : State w} (h : StEq σ1 σ2) : AgreeOff K σ1 σ2 :=
  ⟨h.1, h.2.1, h.2.2.1, fun _ _ => by rw [h.memE]⟩

/-- a mirror of a state with an uncertain move is (up to the representation of the tape) the valid state itself -/
theorem MirV.stEq_of_subShift {V : State w → Prop} {s s' : Rebuild w} {σ2 : State w} (hs : s'.subShift = true)
    (h : MirV V s s' σ2) : ∃ σ1, V σ1 ∧ StEq σ1 σ2 := by
  obtain ⟨σ1, K, h1, _, h3, h4⟩ := h
  exact ⟨σ1, h1, h4.stEq_of_empty (fun v hv => h3 hs v hv.1)⟩

theorem AStep.refl (V : State w → Prop) (s : Rebuild w) : AStep V s s [] :=
  ⟨[], by simp, shapeL_nil, analInL_nil _ _⟩

theorem AStep.of_noBlocks {V : State w → Prop} {s s' : Rebuild w} {new : List (Instr w)}
    (hins : ∀ i ∈ new, C01Dse.isBlock i = false) (hsa : s'.subAnal = s.subAnal) : AStep V s s' new :=
  ⟨[], by simp [hsa], shapeL_nonblocks hins, analInL_noBlocks hins⟩

/-- The child's nodes fit and are sound for the child's code (child started from a state without nodes). -/
theorem AStep.child {V : State w → Prop} {sub0 sub : Rebuild w} (hsa0 : sub0.subAnal = [])
    (h : AStep V sub0 sub sub.insts) :
    ShapeL sub.insts sub.subAnal ∧ AnalInL (MirV V sub0 sub) sub.insts sub.subAnal := by
  obtain ⟨newA, eA, hs, ha⟩ := h.ext
  rw [hsa0, List.nil_append] at eA
  rw [eA]
  exact ⟨hs, ha⟩

theorem AStep.weaken {V V' : State w → Prop} {s s' : Rebuild w} {new : List (Instr w)}
    (hv : ∀ σ, V' σ → V σ) (h : AStep V s s' new) : AStep V' s s' new := by
  obtain ⟨newA, h1, h2, h3⟩ := h.ext
  exact ⟨newA, h1, h2, analInL_mono (MirV.mono_V hv) h3⟩

/-- the target state only matters through `subAnal`, `reads`, `subShift` -/
theorem AStep.congr_right {V : State w → Prop} {s s' t' : Rebuild w} {new : List (Instr w)}
    (hsa : t'.subAnal = s'.subAnal) (hr : t'.reads = s'.reads) (hss : t'.subShift = s'.subShift)
    (h : AStep V s s' new) : AStep V s t' new := by
  obtain ⟨newA, h1, h2, h3⟩ := h.ext
  refine ⟨newA, by rw [hsa, h1], h2, analInL_mono (fun σ hσ => ?_) h3⟩
  exact (MirV.congr rfl hr hss σ).1 hσ

/-- the source state only matters through `subAnal`, `written` -/
theorem AStep.congr_left {V : State w → Prop} {s t s' : Rebuild w} {new : List (Instr w)}
    (hsa : t.subAnal = s.subAnal) (hw : t.written = s.written)
    (h : AStep V s s' new) : AStep V t s' new := by
  obtain ⟨newA, h1, h2, h3⟩ := h.ext
  refine ⟨newA, by rw [hsa, h1], h2, analInL_mono (fun σ hσ => ?_) h3⟩
  exact (MirV.congr hw rfl rfl σ).1 hσ

theorem ChildAn.forgetParent {V : State w → Prop} {sub0 sub : Rebuild w} (h : ChildAn V sub0 sub) :
    ChildAn V sub0 (forgetParent sub) :=
  ⟨AStep.congr_right (s' := sub) rfl rfl rfl h.an, h.sa0, h.shape.forgetParent, h.child.forgetParent⟩

/-- The states after `n1` from mirrors of `V`-states (for the step `a → c`) are mirrors of `V'`-states (for the
step `b → c`). -/
theorem afterG_mirV {V V' : State w → Prop} {a b c : Rebuild w} {n1 : List (Instr w)}
    (hf : FootStepV V a b n1) (hv : ∀ σ σ', V σ → Exec n1 σ (.fin σ') → V' σ') (hm : ReadsMono b c) :
    ∀ σ, AfterG (MirV V a c) n1 σ → MirV V' b c σ := by
  rintro σ2' ⟨σ2, hm2, hex⟩
  cases hs : c.subShift with
  | false =>
    obtain ⟨σ1, K, h1, h2, h3, h4⟩ := hm2
    have hsim := hf (hm.2 hs) K (fun v hk hr => h2 v hk (hm.1 v hr)) σ1 σ2 h1 h4
    obtain ⟨y1, hy1, hag⟩ := hsim.finR σ2' hex
    exact ⟨y1, K, hv σ1 y1 h1 hy1, h2, h3, hag⟩
  | true =>
    obtain ⟨σ1, h1, he⟩ := hm2.stEq_of_subShift hs
    obtain ⟨y1, hy1, he'⟩ := exec_ext_fin hex he.symm
    exact ⟨y1, fun _ => False, hv σ1 y1 h1 hy1, fun _ hk => hk.elim, fun _ _ hk => hk,
      AgreeOff.of_stEq he'.symm⟩

theorem AStep.trans {V V' : State w → Prop} {a b c : Rebuild w} {n1 n2 : List (Instr w)}
    (h1 : AStep V a b n1) (h2 : AStep V' b c n2) (hf : FootStepV V a b n1)
    (hv : ∀ σ σ', V σ → Exec n1 σ (.fin σ') → V' σ') (hm : ReadsMono b c) : AStep V a c (n1 ++ n2) := by
  obtain ⟨A1, e1, s1, l1⟩ := h1.ext
  obtain ⟨A2, e2, s2, l2⟩ := h2.ext
  refine ⟨A1 ++ A2, by rw [e2, e1, List.append_assoc], shapeL_append s1 s2, ?_⟩
  rw [analInL_append s1]
  exact ⟨analInL_mono (MirV.mono_readsMono hm) l1, analInL_mono (afterG_mirV hf hv hm) l2⟩

/-- a block-free suffix (no footprint needed) -/
theorem AStep.append_noBlocks_right {V : State w → Prop} {a b c : Rebuild w} {n1 n2 : List (Instr w)}
    (h1 : AStep V a b n1) (hins : ∀ i ∈ n2, C01Dse.isBlock i = false) (hsa : c.subAnal = b.subAnal)
    (hm : ReadsMono b c) : AStep V a c (n1 ++ n2) := by
  obtain ⟨A1, e1, s1, l1⟩ := h1.ext
  refine ⟨A1 ++ [], by rw [hsa, e1, List.append_nil], shapeL_append s1 (shapeL_nonblocks hins), ?_⟩
  rw [analInL_append s1]
  exact ⟨analInL_mono (MirV.mono_readsMono hm) l1, analInL_noBlocks hins⟩

/-- a block-free prefix (e.g. emitted `calc` groups) -/
theorem AStep.append_noBlocks_left {V V' : State w → Prop} {a b c : Rebuild w} {n1 n2 : List (Instr w)}
    (hins : ∀ i ∈ n1, C01Dse.isBlock i = false) (hsa : b.subAnal = a.subAnal) (h2 : AStep V' b c n2)
    (hf : FootStepV V a b n1) (hv : ∀ σ σ', V σ → Exec n1 σ (.fin σ') → V' σ') (hm : ReadsMono b c) :
    AStep V a c (n1 ++ n2) :=
  AStep.trans (AStep.of_noBlocks hins hsa) h2 hf hv hm

#print axioms analInL_append
#print axioms MirV.of_agree
#print axioms afterG_mirV
#print axioms AStep.trans

end OptProof
end Hpbf
