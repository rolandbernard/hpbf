/-
A boolean test for the facts of `AnalSound` on runs that end within `N` steps, so that concrete instances
(satisfiability of the hypotheses, necessity witnesses) are proved by `decide`.
-/
import Hpbf.Proofs.C01DseMain

namespace Hpbf
namespace C01Dse
open Ir OptDse

variable {w : Nat} {lim : Bool} {bud : Nat} {b : Block w} {anal : DAnal} {env : Env}

def trail (lim : Bool) : Nat → Cfg w → List (Cfg w)
  | 0, _ => []
  | n + 1, c =>
    c :: (match step lim c with
      | .next c' => trail lim n c'
      | _ => [])

def endsWithin (lim : Bool) (N : Nat) (c : Cfg w) : Bool := (cfgAt lim N c).isNone

theorem mem_trail_of_cfgAt {lim : Bool} {N f : Nat} {c0 c : Cfg w} (hN : cfgAt lim N c0 = none)
    (hf : cfgAt lim f c0 = some c) : c ∈ trail lim N c0 := by
  induction N generalizing c0 f with
  | zero => simp [cfgAt] at hN
  | succ N ih =>
    cases f with
    | zero =>
      simp only [cfgAt, Option.some.injEq] at hf
      subst hf
      simp [trail]
    | succ f =>
      obtain ⟨c1, hs, hf⟩ := cfgAt_succ_some hf
      rw [cfgAt, hs] at hN
      rw [trail, hs]
      exact List.mem_cons_of_mem _ (ih hN hf)

theorem unexposed_of_noread {lim : Bool} {d : Nat} {a : Int} (n : Nat) (c : Cfg w)
    (h : ∀ c' ∈ trail lim n c, a ∉ stepReads c') : unexposedN lim d a n c = true := by
  induction n generalizing c with
  | zero => rfl
  | succ n ih =>
    refine unexposed_succ.2 (Or.inr ⟨h c (by simp [trail]), Or.inr (fun c1 hs => ih c1 (fun c' hc' => ?_))⟩)
    exact h c' (by rw [trail, hs]; exact List.mem_cons_of_mem _ hc')

theorem unexposed_le {lim : Bool} {d : Nat} {a : Int} {n N : Nat} {c : Cfg w} (hle : n ≤ N)
    (h : unexposedN lim d a N c = true) : unexposedN lim d a n c = true := by
  induction n generalizing N c with
  | zero => rfl
  | succ n ih =>
    obtain ⟨N, rfl⟩ : ∃ M, N = M + 1 := ⟨N - 1, by omega⟩
    rcases unexposed_succ.1 h with h | ⟨h1, h2⟩
    · exact unexposed_succ.2 (Or.inl h)
    · exact unexposed_succ.2 (Or.inr ⟨h1, h2.imp id (fun h3 c1 hs => ih (by omega) (h3 c1 hs))⟩)

theorem unexposed_ext {lim : Bool} {d : Nat} {a : Int} {N : Nat} (k : Nat) {c : Cfg w}
    (hN : cfgAt lim N c = none) (h : unexposedN lim d a N c = true) :
    unexposedN lim d a (N + k) c = true := by
  induction N generalizing c with
  | zero => simp [cfgAt] at hN
  | succ N ih =>
    rw [show N + 1 + k = (N + k) + 1 by omega]
    rcases unexposed_succ.1 h with h | ⟨h1, h2⟩
    · exact unexposed_succ.2 (Or.inl h)
    · refine unexposed_succ.2 (Or.inr ⟨h1, h2.imp id (fun h3 c1 hs => ih ?_ (h3 c1 hs))⟩)
      rw [cfgAt, hs] at hN; exact hN

theorem unexposed_all {lim : Bool} {d : Nat} {a : Int} {N : Nat} {c : Cfg w}
    (hN : cfgAt lim N c = none) (h : unexposedN lim d a N c = true) (n : Nat) :
    unexposedN lim d a n c = true := by
  by_cases hle : n ≤ N
  · exact unexposed_le hle h
  · have : n = N + (n - N) := by omega
    rw [this]
    exact unexposed_ext _ hN h

def chkAtLeast (anal : DAnal) (c : Cfg w) : Bool :=
  match c.cur with
  | i :: rest =>
    match blockParts i, analOf anal c.conts with
    | some (cond, _, _), some A0 =>
      match subAt A0 (nblocks rest + 1) with
      | some A1 => !A1.atLeastOnce || c.st.rd cond != 0#w
      | none => true
    | _, _ => true
  | [] => true

def chkAtMost (anal : DAnal) (c : Cfg w) : Bool :=
  match c.cur, c.conts with
  | [], .loopEnd cond shift _ _ :: _ =>
    match analOf anal c.conts with
    | some A0 => !A0.atMostOnce || (c.st.mov shift).rd cond == 0#w
    | none => true
  | _, _ => true

/-- Only addresses that some configuration of the trail reads need the test (any other is unexposed,
`unexposed_of_noread`); `endsWithin` of `c1` turns the `N`-step test into one for every `n` (`unexposed_all`). -/
def chkReads (lim : Bool) (anal : DAnal) (N : Nat) (c : Cfg w) : Bool :=
  match c.cur, c.conts with
  | [], .loopEnd cond shift _ _ :: _ =>
    match analOf anal c.conts, step lim c with
    | some A0, .next c1 =>
      A0.hasShift || (c.st.mov shift).rd cond == 0#w ||
        (endsWithin lim N c1 &&
          ((trail lim N c1).flatMap stepReads).all (fun a =>
            A0.reads.contains (a - c1.st.ptr) || unexposedN lim c.conts.length a N c1))
    | _, _ => true
  | _, _ => true

theorem atLeastFact_of_check (N : Nat)
    (hN : endsWithin lim N (initCfg b bud env) = true)
    (h : (trail lim N (initCfg b bud env)).all (chkAtLeast anal) = true) : AtLeastFact lim bud b anal env := by
  rintro c ⟨f, hf⟩ i rest cond shift body A0 A1 h1 h2 h3 h4 h5
  have hm := mem_trail_of_cfgAt (by simpa [endsWithin] using hN) hf
  have := List.all_eq_true.1 h c hm
  unfold chkAtLeast at this
  rw [h1] at this
  simp only [h2, h3, h4, h5, Bool.not_true, Bool.false_or, bne_iff_ne] at this
  exact this

theorem atMostFact_of_check (N : Nat)
    (hN : endsWithin lim N (initCfg b bud env) = true)
    (h : (trail lim N (initCfg b bud env)).all (chkAtMost anal) = true) : AtMostFact lim bud b anal env := by
  rintro c ⟨f, hf⟩ cond shift body rest ks A0 h1 h2 h3 h4
  have hm := mem_trail_of_cfgAt (by simpa [endsWithin] using hN) hf
  have := List.all_eq_true.1 h c hm
  unfold chkAtMost at this
  rw [h1, h2] at this
  simp only at this
  rw [← h2, h3] at this
  simpa [h4] using this

theorem readsFact_of_check (N : Nat)
    (hN : endsWithin lim N (initCfg b bud env) = true)
    (h : (trail lim N (initCfg b bud env)).all (chkReads lim anal N) = true) : ReadsFact lim bud b anal env := by
  rintro c ⟨f, hf⟩ cond shift body rest ks A0 c1 h1 h2 h3 h4 h5 h6 v n hv
  have hm := mem_trail_of_cfgAt (by simpa [endsWithin] using hN) hf
  have := List.all_eq_true.1 h c hm
  unfold chkReads at this
  rw [h1, h2] at this
  simp only at this
  rw [← h2, h3, h6] at this
  simp only [h4, Bool.false_or, Bool.or_eq_true, beq_iff_eq, Bool.and_eq_true, List.all_eq_true] at this
  rcases this with hz | ⟨hend, hall⟩
  · exact absurd hz h5
  · have hend' : cfgAt lim N c1 = none := by simpa [endsWithin] using hend
    by_cases hr : (c1.st.ptr + v) ∈ (trail lim N c1).flatMap stepReads
    · rcases hall _ hr with h' | h'
      · exfalso
        apply hv
        have : c1.st.ptr + v - c1.st.ptr = v := by omega
        rw [this] at h'
        simpa using h'
      · exact unexposed_all hend' h' n
    · refine unexposed_all hend' (unexposed_of_noread N c1 (fun c' hc' hmem => hr ?_)) n
      exact List.mem_flatMap.2 ⟨c', hc', hmem⟩

def checkSound (lim : Bool) (bud : Nat) (b : Block w) (anal : DAnal) (env : Env) (N : Nat) : Bool :=
  endsWithin lim N (initCfg b bud env) && shiftOkL anal b.insts &&
    (trail lim N (initCfg b bud env)).all (fun c => chkAtLeast anal c && chkAtMost anal c && chkReads lim anal N c)

theorem analSoundAt_of_check (N : Nat)
    (h : checkSound lim bud b anal env N = true) : AnalSoundAt lim bud b anal env := by
  unfold checkSound at h
  simp only [Bool.and_eq_true, List.all_eq_true] at h
  obtain ⟨⟨h1, h2⟩, h3⟩ := h
  refine ⟨h2, atLeastFact_of_check N h1 ?_, atMostFact_of_check N h1 ?_, readsFact_of_check N h1 ?_⟩
  · exact List.all_eq_true.2 (fun c hc => (h3 c hc).1.1)
  · exact List.all_eq_true.2 (fun c hc => (h3 c hc).1.2)
  · exact List.all_eq_true.2 (fun c hc => (h3 c hc).2)

end C01Dse
end Hpbf
