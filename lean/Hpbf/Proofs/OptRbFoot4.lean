/-
The footprint of the code emitted for a loop / if (`loopOrIf`).
* `loopOrIf_shift_foot`: the child moves the pointer: `subShift` becomes `true` (every footprint claim is then void:
  `RdAll.void`, `FootAll.void`).
* the child does not move the pointer: the account of the parent's preparation `loopPrep` (`loopPrep_stay_acc`) and
  its two-run reading (`prep_agree`: after the preparation two runs agree on what the child reads); the pushed block
  itself is treated in `OptRbFoot6.lean`.
* `child_chain`: one round of a child in two runs of which neither is a valid entry state of the child: a third, valid
  state mediates (used by `OptRbFoot6`, `OptRbFoot8`).
Each lemma about one run of `loopPrep` names its own `∃ comps` (the groups emitted); two lemmas about the same run mean
the same groups, and their users identify them through `insts = s.insts ++ comps.map calc` (`calcs_elim`).
-/
import Hpbf.Proofs.OptRbFoot3

namespace Hpbf
namespace OptProof
open Opt OptSem Ir

variable {w : Nat}

theorem emit_defW_mono {s : Rebuild w} (ps : List (Rebuild w)) (hwf : Wf s) (var : Int) {os os' : Orders}
    {s' : Rebuild w} (hr : (emit s ps var).run os = .ok (s', os')) (v : Int) (h : DefW s v) : DefW s' v := by
  unfold emit at hr
  split at hr
  · rw [run_bind_ok] at hr
    obtain ⟨⟨s1, toEmit⟩, os1, h1, h2⟩ := hr
    rw [run_pure] at h2
    cases h2
    obtain ⟨⟨g1, g2, _, g6, _, _, _⟩, _, _⟩ := gatherForEmit_spec hwf var h1
    rw [emitStructured_defW g1 ps toEmit (fun g hg => (g6 g hg).1) v, DefW.congr g2.written]
    exact Or.inl h
  · rw [run_pure] at hr
    cases hr
    exact h

theorem emitReadAll_reads (ps : List (Rebuild w)) (vars : List Int) {s : Rebuild w} (hwf : Wf s)
    {os os' : Orders} {s' : Rebuild w} (hr : (emitReadAll ps vars s).run os = .ok (s', os')) :
    (∀ v, DefW s v → DefW s' v) ∧ (∀ v, v ∈ s.reads → v ∈ s'.reads) ∧
    ∀ v ∈ vars, v ∈ s'.reads ∨ DefW s' v := by
  have A : Along (fun s : Rebuild w => Wf s)
      (fun s s' => Wf s' ∧ (∀ v, DefW s v → DefW s' v) ∧ ∀ v, v ∈ s.reads → v ∈ s'.reads) :=
    ⟨fun s h => ⟨h, fun _ h => h, fun _ h => h⟩,
      fun _ _ _ h1 h2 => ⟨h2.1, fun v h => h2.2.1 v (h1.2.1 v h), fun v h => h2.2.2 v (h1.2.2 v h)⟩,
      fun _ _ _ h => h.1⟩
  obtain ⟨r, p⟩ := A.foldlM_post _ vars (fun x s => x ∈ s.reads ∨ DefW s x)
    (fun x s s' h p => p.imp (h.2.2 x) (h.2.1 x)) (fun s x os s1 os1 _ hw h => by
      rw [run_bind_ok] at h
      obtain ⟨s0, os0, h3, h4⟩ := h
      rw [run_pure] at h4
      cases h4
      obtain ⟨c1, r1, f1⟩ := emit_foot ps hw x h3
      have hsr := read_same s0 x
      refine ⟨⟨hsr.wf r1.wf, fun v hv => (DefW.congr hsr.written v).2 (emit_defW_mono ps hw x h3 v hv),
        fun v hv => (read_readsMono s0 x).1 v (f1.mono.1 v hv)⟩, ?_⟩
      by_cases hd : DefW s0 x
      · exact Or.inr ((DefW.congr hsr.written x).2 hd)
      · exact Or.inl ((mem_reads_read s0 x x).2 (Or.inr ⟨rfl, hd⟩))) hwf hr
  exact ⟨r.2.1, r.2.2, p⟩

theorem AgreeOff.mov0 {X : Int → Prop} {a b : State w} (h : AgreeOff X a b) :
    AgreeOff X (a.mov 0) (b.mov 0) := by
  refine ⟨?_, h.2.1, h.2.2.1, ?_⟩
  · show a.ptr + 0 = b.ptr + 0
    rw [h.1]
  · intro v hv
    rw [memE_mov_zero, memE_mov_zero]
    exact h.2.2.2 v hv

theorem condZero_written_ne (s sub : Rebuild w) (cond v : Int) (hv : v ≠ cond) :
    mGet (condZero s sub cond).written v = mGet s.written v := by
  rcases condZero_cases s sub cond with h | ⟨h, _⟩
  · rw [h]
  · rw [h, insertWritten_written, mGet_mSet_ne _ _ _ _ (fun e => hv e.symm)]

theorem condZero_written_none (s sub : Rebuild w) (cond v : Int)
    (h : mGet (condZero s sub cond).written v = none) : mGet s.written v = none := by
  by_cases hv : v = cond
  · rcases condZero_cases s sub cond with h' | ⟨h', _⟩
    · rw [h'] at h; exact h
    · rw [h', insertWritten_written, hv, mGet_mSet_same] at h
      cases h
  · rw [← condZero_written_ne s sub cond v hv]; exact h

/-- One execution of a child along the footprint when only a THIRD state `σX` (the source memory at the emitted
program's pointer) is a valid entry state of the child: the child's footprint is used twice with `σX` as the valid
first run (against `τ1` and against `τ2`) and the two simulations are composed. -/
theorem child_chain {Gc : State w → Prop} {shP : Int} {pc : List (Rebuild w)} {sub0 sub : Rebuild w}
    (hfoot : FootStepV (ValidG Gc shP sub0 pc) sub0 sub sub.insts)
    (hbad : FootBadV (ValidG Gc shP sub0 pc) sub0 sub sub.insts)
    (hframe : FootFrameV (ValidG Gc shP sub0 pc) sub0 sub sub.insts)
    (hns : sub.subShift = false) (hw0 : sub0.written = [])
    {σX τ1 τ2 : State w} (hvX : ValidG Gc shP sub0 pc σX) {X : Int → Prop}
    (hXr : ∀ v, X v → v ∉ sub.reads)
    (hp : σX.ptr = τ1.ptr) (he : σX.env = τ1.env) (ht : σX.trace = τ1.trace)
    (hR : ∀ v ∈ sub.reads, memE σX v = memE τ1 v) (hag : AgreeOff X τ1 τ2) :
    Sim (fun a b => a.ptr = b.ptr ∧ a.env = b.env ∧ a.trace = b.trace ∧
        (∀ v, (DefW sub v ∨ ¬ (memE σX v ≠ memE τ1 v ∨ X v)) → memE a v = memE b v) ∧
        (∀ v, v ∉ mKeys sub.written → v ∉ sub.reads → memE a v = memE τ1 v ∧ memE b v = memE τ2 v))
      sub.insts sub.insts τ1 τ2 ∧
    (Bad sub.insts τ2 → Bad sub.insts σX) ∧
    (∀ b, Exec sub.insts τ2 (.fin b) →
      b.ptr = τ2.ptr ∧ ∀ v, v ∉ mKeys sub.written → v ∉ sub.reads → memE b v = memE τ2 v) := by
  have hK1r : ∀ v, memE σX v ≠ memE τ1 v → v ∉ sub.reads := fun v h hr' => h (hR v hr')
  have hK2r : ∀ v, (memE σX v ≠ memE τ1 v ∨ X v) → v ∉ sub.reads := by
    rintro v (h | h) hr'
    · exact h (hR v hr')
    · exact hXr v h hr'
  have hag1 : AgreeOff (Rest (fun v => memE σX v ≠ memE τ1 v) sub0) σX τ1 :=
    ⟨hp, he, ht, fun v hv => Classical.not_not.1 (fun h => hv ((rest_fresh hw0 v).2 h))⟩
  have hag2 : AgreeOff (Rest (fun v => memE σX v ≠ memE τ1 v ∨ X v) sub0) σX τ2 := by
    refine ⟨hp.trans hag.1, he.trans hag.2.1, ht.trans hag.2.2.1, ?_⟩
    intro v hv
    have hv' : ¬ (memE σX v ≠ memE τ1 v ∨ X v) := fun h => hv ((rest_fresh hw0 v).2 h)
    have e1 : memE σX v = memE τ1 v := Classical.not_not.1 (fun h => hv' (Or.inl h))
    rw [e1]
    exact hag.2.2.2 v (fun h => hv' (Or.inr h))
  refine ⟨?_, fun hb => hbad hns _ hK2r σX τ2 hvX hag2 hb, fun b hb => hframe hns _ hK2r σX τ2 hvX hag2 b hb⟩
  have S1 := (hfoot hns _ hK1r σX τ1 hvX hag1).fin_strengthen
  have S2 := (hfoot hns _ hK2r σX τ2 hvX hag2).fin_strengthen
  refine (Sim.trans S1.symm S2).mono ?_
  rintro a b ⟨y, ⟨hya, _, hea⟩, ⟨hyb, _, heb⟩⟩
  obtain ⟨_, fa⟩ := hframe hns _ hK1r σX τ1 hvX hag1 a hea
  obtain ⟨_, fb⟩ := hframe hns _ hK2r σX τ2 hvX hag2 b heb
  refine ⟨hya.1.symm.trans hyb.1, hya.2.1.symm.trans hyb.2.1, hya.2.2.1.symm.trans hyb.2.2.1, ?_,
    fun v h1 h2 => ⟨fa v h1 h2, fb v h1 h2⟩⟩
  intro v h
  have ha : memE y v = memE a v := by
    apply hya.2.2.2 v
    rintro ⟨hk, hnd⟩
    rcases h with h | h
    · exact hnd h
    · exact h (Or.inl hk)
  have hb : memE y v = memE b v := by
    apply hyb.2.2.2 v
    rintro ⟨hk, hnd⟩
    rcases h with h | h
    · exact hnd h
    · exact h hk
  rw [← ha, hb]

theorem loopOrIf_shift_foot {s : Rebuild w} {ps : List (Rebuild w)} {sub : Rebuild w} {cond : Int}
    {isLoop : Bool} {L : OptLoop w} {C : List Int} {os os' : Orders} {s' : Rebuild w}
    (hr : (loopOrIf s ps sub cond isLoop L C).run os = .ok (s', os'))
    (hwf : Wf s) (hwfc : Wf sub)
    (hshift : (sub.subShift || sub.shift != s.shift) = true) :
    s'.subShift = true ∧ ReadsMono s s' := by
  obtain ⟨sub1, os1, _, s1, _, _, _, _, _, h3, _, _, rfl⟩ := loopOrIf_shift_run hr hwf hwfc hshift
  obtain ⟨c, _, ft⟩ := emitAll_foot ps (pendingSorted s s) hwf h3
  obtain ⟨t1, _, _, t4, _, _, _⟩ :=
    loopTail_fields (uncertainShift s1) sub1 cond isLoop L (sub1.subShift || sub1.shift != s.shift) []
  have hsub' : (loopTail (uncertainShift s1) sub1 cond isLoop L
      (sub1.subShift || sub1.shift != s.shift) []).subShift = true := by rw [t1.2.2.2.2]; rfl
  refine ⟨hsub', fun v hv => ?_, fun h => absurd (hsub'.symm.trans h) (by simp)⟩
  rw [t4]
  show v ∈ s1.reads
  exact ft.mono.1 v hv

theorem loopPrep_stay_cut {s : Rebuild w} {ps : List (Rebuild w)} {sub1 : Rebuild w} {cond : Int}
    {L : OptLoop w} {C : List Int} (hns : (sub1.subShift || sub1.shift != s.shift) = false)
    {os os' : Orders} {r : Rebuild w × Rebuild w × List Int}
    (hr : (loopPrep s ps sub1 cond L C).run os = .ok (r, os')) :
    ∃ s1 s2 s3 os1 os2,
      (emitReadAll ps (readsSorted { sub1 with reads := sIns sub1.reads cond } s) s).run os = .ok (s1, os1) ∧
      (emitReadAll ps ((mKeys sub1.written).filter (fun var => C.contains var)) s1).run os1 = .ok (s2, os2) ∧
      (clobberPhase s2 ps { sub1 with reads := sIns sub1.reads cond } L C).run os2 = .ok (s3, os') ∧
      r = (condZero s3 { sub1 with reads := sIns sub1.reads cond } cond,
        { sub1 with reads := sIns sub1.reads cond }, (mKeys sub1.written).filter (fun var => !C.contains var)) := by
  unfold loopPrep at hr
  rw [if_neg (by rw [hns]; simp), run_bind_ok] at hr
  obtain ⟨s1, os1, h1, h2⟩ := hr
  rw [run_bind_ok] at h2
  obtain ⟨s2, os2, h3, h4⟩ := h2
  rw [run_bind_ok] at h4
  obtain ⟨s3, os3, h5, h6⟩ := h4
  rw [run_pure] at h6
  cases h6
  exact ⟨s1, s2, s3, os1, os2, h1, h3, h5, rfl⟩

theorem mem_readsSorted_child (sub1 s : Rebuild w) (cond v : Int) (hv : v ∈ sub1.reads ∨ v = cond) :
    v ∈ readsSorted { sub1 with reads := sIns sub1.reads cond } s := by
  unfold readsSorted
  rw [(Expr.stableSort_perm _ _).mem_iff]
  exact mem_sIns.2 (hv.symm.imp id id)

theorem prep_agree {s s2 : Rebuild w} {ps : List (Rebuild w)} {E R : Int → Prop}
    {comps : List (List (Int × Expr w))} (acc : ClobAcc ps E s s2 comps)
    (hs : s2.subShift = false)
    (pr : ∀ v, R v → v ∈ s2.reads ∨ DefW s v ∨ ¬ ThruC v comps)
    (K : Int → Prop) (hK : ∀ v, K v → v ∉ s2.reads) (σ1 σ2 : State w) (hag : AgreeOff (Rest K s) σ1 σ2) :
    AgreeOff (fun v => ¬ R v ∧ (Rest K s2 v ∨ (K v ∧ E v))) (comps.foldl doCalc σ1) (comps.foldl doCalc σ2) := by
  refine (acc.rd.agree_thru hs K hK σ1 σ2 hag).mono ?_
  rintro v ⟨⟨hk, hd⟩, htc⟩
  refine ⟨fun hR => ?_, ?_⟩
  · rcases pr v hR with h | h | h
    · exact hK v hk h
    · exact hd h
    · exact h htc
  · by_cases hd' : DefW s2 v
    · exact Or.inr ⟨hk, Classical.byContradiction fun hE => (acc.rd hs).2 v hd' hd hE htc⟩
    · exact Or.inl ⟨hk, hd'⟩

/-- The parent's preparation for a block that stays: the account of the emitted groups (`RdC`, exceptions: the
clobbered cells and the condition cell, which the pushed block itself touches), and where what the child reads
and writes is recorded.  The conjuncts after the account, by phase of `loopPrep`: `condZero` and the clobber phase (a
clobbered cell is definitely written afterwards only if the block runs and writes it); the first `emitReadAll` (the
child's reads and `cond`); the clobber phase (clobbered cells are keys); the second `emitReadAll` (constant keys). -/
theorem loopPrep_stay_acc {s : Rebuild w} {ps : List (Rebuild w)} {sub1 : Rebuild w} {cond : Int}
    {L : OptLoop w} {C : List Int} (hwf : Wf s) (hwf1 : Wf sub1)
    (hns : (sub1.subShift || sub1.shift != s.shift) = false)
    {os os' : Orders} {r : Rebuild w × Rebuild w × List Int}
    (hr : (loopPrep s ps sub1 cond L C).run os = .ok (r, os')) :
    ∃ comps, r.2.1 = { sub1 with reads := sIns sub1.reads cond } ∧
      ClobAcc ps (fun v => ClobSet L C sub1 v ∨ v = cond) s r.1 comps ∧
      (∀ v, v ≠ cond → ClobSet L C sub1 v → DefW r.1 v → L.atLeastOnce = true ∧ DefW sub1 v) ∧
      (r.1.subShift = false → ∀ v, (v ∈ sub1.reads ∨ v = cond) →
        (v ∈ r.1.reads ∨ DefW s v ∨ ¬ ThruC v comps) ∧ (v ∈ mKeys r.1.written ∨ v ∈ r.1.reads)) ∧
      (r.1.subShift = false → ∀ v, ClobSet L C sub1 v → v ∈ mKeys r.1.written) ∧
      (r.1.subShift = false → ∀ v ∈ mKeys sub1.written, C.contains v = true →
        (v ∈ r.1.reads ∨ DefW s v ∨ ¬ ThruC v comps) ∧ (v ∈ mKeys r.1.written ∨ v ∈ r.1.reads)) := by
  obtain ⟨s1, s2, s3, os1, os2, e1, e2, e3, rfl⟩ := loopPrep_stay_cut hns hr
  obtain ⟨c1, r1, f1⟩ := emitReadAll_foot ps _ hwf e1
  obtain ⟨_, _, k1⟩ := emitReadAll_reads ps _ hwf e1
  obtain ⟨c2, r2, f2⟩ := emitReadAll_foot ps _ r1.wf e2
  obtain ⟨_, _, k2⟩ := emitReadAll_reads ps _ r1.wf e2
  obtain ⟨c3, a3, q7, q4⟩ :=
    clobberPhase_acc ps { sub1 with reads := sIns sub1.reads cond } L C r2.wf hwf1.writ e3
  have a12 := (ClobAcc.of_emit r1 f1).trans (ClobAcc.of_emit r2 f2) (fun _ h => h.elim)
  have a123 : ClobAcc ps (ClobSet L C sub1) s s3 (c1 ++ c2 ++ c3) :=
    (a12.trans a3 (fun _ h => (h.elim id id).elim)).weaken
      (fun _ h => h.elim (fun h' => h'.elim False.elim False.elim) id)
  obtain ⟨_, _, _, _, z5, _, z7, z8, _, z10, _⟩ := condZero_same s3 { sub1 with reads := sIns sub1.reads cond } cond
  have hczk : ∀ v, v ∈ mKeys s3.written →
      v ∈ mKeys (condZero s3 { sub1 with reads := sIns sub1.reads cond } cond).written :=
    fun v hv => keys_of_none_mono (fun v h => condZero_written_none _ _ _ v h) hv
  have hdefne : ∀ v, v ≠ cond →
      (DefW (condZero s3 { sub1 with reads := sIns sub1.reads cond } cond) v ↔ DefW s3 v) :=
    fun v hv => DefW.of_get_eq (condZero_written_ne _ _ _ v hv)
  have hm : ReadsMono s3 (condZero s3 { sub1 with reads := sIns sub1.reads cond } cond) :=
    ⟨fun v hv => by rw [z7]; exact hv, fun h => by rw [← z5]; exact h⟩
  refine ⟨c1 ++ c2 ++ c3, rfl, ⟨by rw [z10]; exact a123.insts, a123.nodup, condZero_wf a123.wf _ _,
    a123.hdr.trans (condZero_same s3 _ cond).hdr, a123.mono.trans hm, a123.tgt,
    fun k e h => a123.sub k e (by rw [← z8]; exact h), ?_, ?_⟩, ?_, ?_, ?_, ?_⟩
  · intro hss
    obtain ⟨a, b⟩ := a123.frame (by rw [← z5]; exact hss)
    exact ⟨fun v hv => a v (condZero_written_none _ _ _ v hv), fun v hv => b v (condZero_written_none _ _ _ v hv)⟩
  · intro hss
    obtain ⟨rd, wq⟩ := a123.rd (by rw [← z5]; exact hss)
    refine ⟨fun v hv => rd v (by rw [← z7]; exact hv), fun v hd' hd he => ?_⟩
    have hvc : v ≠ cond := fun h => he (Or.inr h)
    exact wq v ((hdefne v hvc).1 hd') hd (fun h => he (Or.inl h))
  · intro v hv hcl hd
    exact q7 v hcl ((hdefne v hv).1 hd)
  · intro hss v hv
    have hs3 : s3.subShift = false := by rw [← z5]; exact hss
    have hs2 : s2.subShift = false := a3.mono.2 hs3
    have hs1 : s1.subShift = false := f2.mono.2 hs2
    rcases k1 v (mem_readsSorted_child sub1 s cond v hv) with h | h
    · have : v ∈ (condZero s3 { sub1 with reads := sIns sub1.reads cond } cond).reads := by
        rw [z7]; exact a3.mono.1 v (f2.mono.1 v h)
      exact ⟨Or.inl this, Or.inr this⟩
    · refine ⟨?_, Or.inl (hczk v (a3.frame.keysMono hs3 v (f2.frame.keysMono hs2 v h.mem_keys)))⟩
      by_cases hd : DefW s v
      · exact Or.inr (Or.inl hd)
      · exact Or.inr (Or.inr fun ht => (f1.rd hs1).2 v h hd id (thruC_append.1 (thruC_append.1 ht).1).1)
  · intro hss v hv
    exact hczk v (q4 (by rw [← z5]; exact hss) v hv)
  · intro hss v hv hC
    have hs3 : s3.subShift = false := by rw [← z5]; exact hss
    have hs2 : s2.subShift = false := a3.mono.2 hs3
    rcases k2 v (List.mem_filter.2 ⟨hv, hC⟩) with h | h
    · have : v ∈ (condZero s3 { sub1 with reads := sIns sub1.reads cond } cond).reads := by
        rw [z7]; exact a3.mono.1 v h
      exact ⟨Or.inl this, Or.inr this⟩
    · refine ⟨?_, Or.inl (hczk v (a3.frame.keysMono hs3 v h.mem_keys))⟩
      by_cases hd : DefW s v
      · exact Or.inr (Or.inl hd)
      · exact Or.inr (Or.inr fun ht =>
          (a12.rd hs2).2 v h hd (fun h' => h'.elim id id) (thruC_append.1 ht).1)

/-- The state after the block has been pushed onto the prepared parent `r.1` (staying child): the pushed
instruction, and how `reads`, `subShift` and `written` continue. -/
theorem loopTail_stay_fields {s sub1 : Rebuild w} {cond : Int} {r : Rebuild w × Rebuild w × List Int}
    (hns : (sub1.subShift || sub1.shift != s.shift) = false)
    (hsubR : r.2.1 = { sub1 with reads := sIns sub1.reads cond }) (hhdr : SameHdr s r.1)
    (isLoop : Bool) (L : OptLoop w) (hflag : Bool) :
    (loopTail r.1 r.2.1 cond isLoop L hflag r.2.2).insts =
      r.1.insts ++ [blockInstr isLoop cond 0 sub1.insts L.atLeastOnce] ∧
    (loopTail r.1 r.2.1 cond isLoop L hflag r.2.2).reads = r.1.reads ∧
    (loopTail r.1 r.2.1 cond isLoop L hflag r.2.2).subShift = r.1.subShift ∧
    (∀ v, v ≠ cond → mGet (loopTail r.1 r.2.1 cond isLoop L hflag r.2.2).written v = mGet r.1.written v) ∧
    (∀ v, v ∈ mKeys r.1.written → v ∈ mKeys (loopTail r.1 r.2.1 cond isLoop L hflag r.2.2).written) := by
  obtain ⟨t1, _, _, t4, t5, _, t7⟩ := loopTail_fields r.1 r.2.1 cond isLoop L hflag r.2.2
  have hbs : r.2.1.shift - r.1.shift = 0 := by
    rw [hsubR, hhdr.shift]
    show sub1.shift - s.shift = 0
    simp only [Bool.or_eq_false_iff, bne_eq_false_iff_eq] at hns
    rw [hns.2]; omega
  rw [hbs, show r.2.1.insts = sub1.insts by rw [hsubR]] at t7
  refine ⟨t7, t4, t1.2.2.2.2, fun v hv => ?_, fun v hv => ?_⟩ <;> rw [t5] <;> split
  · rw [mGet_mSet_ne _ _ _ _ (fun e => hv e.symm)]
  · rfl
  · exact (mem_keys_mSet _ _ _ _).2 (Or.inr hv)
  · exact hv

end OptProof
end Hpbf

#print axioms Hpbf.OptProof.loopOrIf_shift_foot
#print axioms Hpbf.OptProof.loopPrep_stay_acc
