/-
C02: the observations in which the pass theorems are stated (`OutRel`, `ObsEq'`, `ObsEqIO`, `Beh`), the lockstep rule
for `Bc` (`lockstep_run`), and that a run reads only `insts`. States are compared with the tape as a FUNCTION through `Tape.get`, because `Tape.set` is move-to-front and
passes may change the order of writes. `ObsEqIO` is the weaker observation: after `stopped`/`bad` it compares
only pointer, environment, trace and budget.
-/
import Hpbf.BcGen
import Hpbf.Proofs.FuelSim
import Hpbf.Proofs.C11

namespace Hpbf
namespace C02

open Bc BcWf BcGen C11

variable {w : Nat}

structure IoEq (s1 s2 : State w) : Prop where
  ptr : s1.ptr = s2.ptr
  env : s1.env = s2.env
  trace : s1.trace = s2.trace

structure StEq (s1 s2 : State w) : Prop where
  io : IoEq s1 s2
  tape : ∀ x, s1.tape.get x = s2.tape.get x

theorem IoEq.refl (s : State w) : IoEq s s := ⟨rfl, rfl, rfl⟩
theorem IoEq.symm {s1 s2 : State w} (h : IoEq s1 s2) : IoEq s2 s1 := ⟨h.1.symm, h.2.symm, h.3.symm⟩
theorem IoEq.trans {s1 s2 s3 : State w} (h : IoEq s1 s2) (g : IoEq s2 s3) : IoEq s1 s3 :=
  ⟨h.1.trans g.1, h.2.trans g.2, h.3.trans g.3⟩
theorem StEq.refl (s : State w) : StEq s s := ⟨IoEq.refl s, fun _ => rfl⟩
theorem StEq.symm {s1 s2 : State w} (h : StEq s1 s2) : StEq s2 s1 := ⟨h.1.symm, fun x => (h.2 x).symm⟩
theorem StEq.trans {s1 s2 s3 : State w} (h : StEq s1 s2) (g : StEq s2 s3) : StEq s1 s3 :=
  ⟨h.1.trans g.1, fun x => (h.2 x).trans (g.2 x)⟩

/-- Final configurations; pc and temporaries are not observed. -/
def CfgEq (c1 c2 : Cfg w) : Prop := StEq c1.st c2.st ∧ c1.budget = c2.budget
def CfgIo (c1 c2 : Cfg w) : Prop := IoEq c1.st c2.st ∧ c1.budget = c2.budget

theorem CfgEq.io {c1 c2 : Cfg w} (h : CfgEq c1 c2) : CfgIo c1 c2 := ⟨h.1.1, h.2⟩

def OutRel (G E O : Cfg w → Cfg w → Prop) : Outcome w → Outcome w → Prop
  | .done a, .done b => G a b
  | .interrupted a, .interrupted b => G a b
  | .stopped a, .stopped b => E a b
  | .bad a, .bad b => E a b
  | .outOfFuel a, .outOfFuel b => O a b
  | _, _ => False

def StepRel (R G E : Cfg w → Cfg w → Prop) : StepRes w → StepRes w → Prop
  | .next a, .next b => R a b
  | .halt a, .halt b => G a b
  | .interrupted a, .interrupted b => G a b
  | .stop a, .stop b => E a b
  | .bad a, .bad b => E a b
  | _, _ => False

theorem StepRel.of_tag {R G E : Cfg w → Cfg w → Prop} {r1 r2 : StepRes w} (ht : r1.tag = r2.tag)
    (hR : R r1.cfg r2.cfg) (hG : G r1.cfg r2.cfg) (hE : E r1.cfg r2.cfg) : StepRel R G E r1 r2 := by
  cases r1 <;> cases r2 <;> first | exact hR | exact hG | exact hE | exact absurd ht (by simp [StepRes.tag])

/-- Primed because `open C11` brings `C11.ObsEq` (equal states, tape as a list) into scope. -/
def ObsEq' : Outcome w → Outcome w → Prop := OutRel CfgEq CfgEq CfgIo
/-- Up to the tape after an error ending (`stopped` at a failing I/O operation, `bad`). -/
def ObsEqIO : Outcome w → Outcome w → Prop := OutRel CfgEq CfgIo CfgIo

theorem OutRel.mono {G E O G' E' O' : Cfg w → Cfg w → Prop} (hG : ∀ a b, G a b → G' a b)
    (hE : ∀ a b, E a b → E' a b) (hO : ∀ a b, O a b → O' a b) {o1 o2 : Outcome w}
    (h : OutRel G E O o1 o2) : OutRel G' E' O' o1 o2 := by
  cases o1 <;> cases o2 <;> simp only [OutRel] at h ⊢
  all_goals first | exact hG _ _ h | exact hE _ _ h | exact hO _ _ h

theorem OutRel.refl {G E O : Cfg w → Cfg w → Prop} (hG : ∀ a, G a a) (hE : ∀ a, E a a)
    (hO : ∀ a, O a a) (o : Outcome w) : OutRel G E O o o := by
  cases o <;> simp only [OutRel]
  all_goals first | exact hG _ | exact hE _ | exact hO _

theorem OutRel.symm {G E O : Cfg w → Cfg w → Prop} (hG : ∀ a b, G a b → G b a)
    (hE : ∀ a b, E a b → E b a) (hO : ∀ a b, O a b → O b a) {o1 o2 : Outcome w}
    (h : OutRel G E O o1 o2) : OutRel G E O o2 o1 := by
  cases o1 <;> cases o2 <;> simp only [OutRel] at h ⊢
  all_goals first | exact hG _ _ h | exact hE _ _ h | exact hO _ _ h

theorem OutRel.trans {G E O : Cfg w → Cfg w → Prop} (hG : ∀ a b c, G a b → G b c → G a c)
    (hE : ∀ a b c, E a b → E b c → E a c) (hO : ∀ a b c, O a b → O b c → O a c)
    {o1 o2 o3 : Outcome w} (h : OutRel G E O o1 o2) (g : OutRel G E O o2 o3) : OutRel G E O o1 o3 := by
  cases o1 <;> cases o2 <;> simp only [OutRel] at h <;> cases o3 <;> simp only [OutRel] at g ⊢
  all_goals first | exact hG _ _ _ h g | exact hE _ _ _ h g | exact hO _ _ _ h g

theorem CfgEq.refl (a : Cfg w) : CfgEq a a := ⟨StEq.refl _, rfl⟩
theorem CfgIo.refl (a : Cfg w) : CfgIo a a := ⟨IoEq.refl _, rfl⟩
theorem CfgEq.symm {a b : Cfg w} (h : CfgEq a b) : CfgEq b a := ⟨h.1.symm, h.2.symm⟩
theorem CfgIo.symm {a b : Cfg w} (h : CfgIo a b) : CfgIo b a := ⟨h.1.symm, h.2.symm⟩
theorem CfgEq.trans {a b c : Cfg w} (h : CfgEq a b) (g : CfgEq b c) : CfgEq a c :=
  ⟨h.1.trans g.1, h.2.trans g.2⟩
theorem CfgIo.trans {a b c : Cfg w} (h : CfgIo a b) (g : CfgIo b c) : CfgIo a c :=
  ⟨h.1.trans g.1, h.2.trans g.2⟩

theorem ObsEq'.refl (o : Outcome w) : ObsEq' o o := OutRel.refl CfgEq.refl CfgEq.refl CfgIo.refl o
theorem ObsEqIO.refl (o : Outcome w) : ObsEqIO o o := OutRel.refl CfgEq.refl CfgIo.refl CfgIo.refl o
theorem ObsEq'.symm {o1 o2 : Outcome w} (h : ObsEq' o1 o2) : ObsEq' o2 o1 :=
  OutRel.symm (fun _ _ h => CfgEq.symm h) (fun _ _ h => CfgEq.symm h) (fun _ _ h => CfgIo.symm h) h
theorem ObsEqIO.symm {o1 o2 : Outcome w} (h : ObsEqIO o1 o2) : ObsEqIO o2 o1 :=
  OutRel.symm (fun _ _ h => CfgEq.symm h) (fun _ _ h => CfgIo.symm h) (fun _ _ h => CfgIo.symm h) h
theorem ObsEq'.trans {o1 o2 o3 : Outcome w} (h : ObsEq' o1 o2) (g : ObsEq' o2 o3) : ObsEq' o1 o3 :=
  OutRel.trans (G := CfgEq) (E := CfgEq) (O := CfgIo) (fun _ _ _ h g => CfgEq.trans h g)
    (fun _ _ _ h g => CfgEq.trans h g) (fun _ _ _ h g => CfgIo.trans h g) h g
theorem ObsEqIO.trans {o1 o2 o3 : Outcome w} (h : ObsEqIO o1 o2) (g : ObsEqIO o2 o3) : ObsEqIO o1 o3 :=
  OutRel.trans (G := CfgEq) (E := CfgIo) (O := CfgIo) (fun _ _ _ h g => CfgEq.trans h g)
    (fun _ _ _ h g => CfgIo.trans h g) (fun _ _ _ h g => CfgIo.trans h g) h g
theorem ObsEq'.io {o1 o2 : Outcome w} (h : ObsEq' o1 o2) : ObsEqIO o1 o2 :=
  OutRel.mono (fun _ _ h => h) (fun _ _ h => h.io) (fun _ _ h => h) h

theorem ObsEqIO.tag_io {o1 o2 : Outcome w} (h : ObsEqIO o1 o2) :
    o1.tag = o2.tag ∧ IoEq o1.cfg.st o2.cfg.st ∧ o1.cfg.budget = o2.cfg.budget := by
  cases o1 <;> cases o2 <;> simp only [ObsEqIO, OutRel] at h
  all_goals first | exact ⟨rfl, h.1.1, h.2⟩ | exact ⟨rfl, h.1, h.2⟩

/-- Same budget `b`, some fuel `fuel'`: a pass may change the number of steps, never what is charged. -/
def Beh (Ob : Outcome w → Outcome w → Prop) (p q : Program w) : Prop :=
  ∀ (limited : Bool) (b fuel : Nat) (env : Env),
    ∃ fuel', Ob (Bc.run p limited b fuel env) (Bc.run q limited b fuel' env)

def BehEq (p q : Program w) : Prop := Beh ObsEq' p q ∧ Beh ObsEq' q p
def BehEqIO (p q : Program w) : Prop := Beh ObsEqIO p q ∧ Beh ObsEqIO q p

theorem Beh.refl {Ob : Outcome w → Outcome w → Prop} (h : ∀ o, Ob o o) (p : Program w) : Beh Ob p p :=
  fun _ _ fuel _ => ⟨fuel, h _⟩

theorem Beh.trans {Ob : Outcome w → Outcome w → Prop} (h : ∀ a b c, Ob a b → Ob b c → Ob a c)
    {p q r : Program w} (h1 : Beh Ob p q) (h2 : Beh Ob q r) : Beh Ob p r := by
  intro limited b fuel env
  obtain ⟨f1, e1⟩ := h1 limited b fuel env
  obtain ⟨f2, e2⟩ := h2 limited b f1 env
  exact ⟨f2, h _ _ _ e1 e2⟩

theorem Beh.mono {Ob Ob' : Outcome w → Outcome w → Prop} (h : ∀ a b, Ob a b → Ob' a b)
    {p q : Program w} (h1 : Beh Ob p q) : Beh Ob' p q := by
  intro limited b fuel env
  obtain ⟨f1, e1⟩ := h1 limited b fuel env
  exact ⟨f1, h _ _ e1⟩

theorem BehEq.refl (p : Program w) : BehEq p p := ⟨Beh.refl ObsEq'.refl p, Beh.refl ObsEq'.refl p⟩
theorem BehEq.symm {p q : Program w} (h : BehEq p q) : BehEq q p := ⟨h.2, h.1⟩
theorem BehEq.trans {p q r : Program w} (h : BehEq p q) (g : BehEq q r) : BehEq p r :=
  ⟨Beh.trans (Ob := ObsEq') (fun _ _ _ h g => ObsEq'.trans h g) h.1 g.1, Beh.trans (Ob := ObsEq') (fun _ _ _ h g => ObsEq'.trans h g) g.2 h.2⟩
theorem BehEqIO.refl (p : Program w) : BehEqIO p p := ⟨Beh.refl ObsEqIO.refl p, Beh.refl ObsEqIO.refl p⟩
theorem BehEqIO.symm {p q : Program w} (h : BehEqIO p q) : BehEqIO q p := ⟨h.2, h.1⟩
theorem BehEqIO.trans {p q r : Program w} (h : BehEqIO p q) (g : BehEqIO q r) : BehEqIO p r :=
  ⟨Beh.trans (Ob := ObsEqIO) (fun _ _ _ h g => ObsEqIO.trans h g) h.1 g.1, Beh.trans (Ob := ObsEqIO) (fun _ _ _ h g => ObsEqIO.trans h g) g.2 h.2⟩
theorem BehEq.io {p q : Program w} (h : BehEq p q) : BehEqIO p q :=
  ⟨Beh.mono (fun _ _ h => ObsEq'.io h) h.1, Beh.mono (fun _ _ h => ObsEq'.io h) h.2⟩

theorem beh_of_runCfg {Ob : Outcome w → Outcome w → Prop} {p q : Program w}
    (hint : ∀ c, Ob (.interrupted c) (.interrupted c))
    (h : ∀ (limited : Bool) (fuel : Nat) (c : Cfg w), c.pc = 0 →
      ∃ fuel', Ob (runCfg p limited fuel c) (runCfg q limited fuel' c)) : Beh Ob p q := by
  intro limited b fuel env
  unfold Bc.run
  by_cases hb : (limited && b == 0) = true
  · simp only [hb, if_true]
    exact ⟨0, hint _⟩
  · simp only [hb]
    exact h limited fuel _ rfl

theorem lockstep_run {p q : Program w} {limited : Bool} {R G E O : Cfg w → Cfg w → Prop}
    (hstep : ∀ c1 c2, R c1 c2 → StepRel R G E (step p limited c1) (step q limited c2))
    (hO : ∀ c1 c2, R c1 c2 → O c1 c2) :
    ∀ (fuel : Nat) (c1 c2 : Cfg w), R c1 c2 →
      OutRel G E O (runCfg p limited fuel c1) (runCfg q limited fuel c2) := by
  refine (Bc.fuelRun p limited).lockstepQ (Bc.fuelRun q limited) (fun c1 c2 h => ?_) hO
  have hs := hstep c1 c2 h
  simp only [runCfg]
  cases h1 : step p limited c1 <;> cases h2 : step q limited c2 <;> rw [h1, h2] at hs <;>
    simp only [StepRel] at hs
  all_goals first | exact .inl ⟨_, _, rfl, rfl, hs⟩ | exact .inr fun _ => hs

theorem step_insts_only {p q : Program w} (h : p.insts = q.insts) (limited : Bool) (c : Cfg w) :
    step p limited c = step q limited c := by
  unfold step
  rw [h]

theorem runCfg_insts_only {p q : Program w} (h : p.insts = q.insts) (limited : Bool) (fuel : Nat)
    (c : Cfg w) : runCfg p limited fuel c = runCfg q limited fuel c := by
  induction fuel generalizing c with
  | zero => rfl
  | succ n ih =>
    simp only [runCfg, step_insts_only h]
    cases step q limited c <;> simp only [ih]

theorem run_insts_only {p q : Program w} (h : p.insts = q.insts) (limited : Bool) (b fuel : Nat)
    (env : Env) : Bc.run p limited b fuel env = Bc.run q limited b fuel env := by
  unfold Bc.run
  simp only [runCfg_insts_only h]

theorem run_fields_irrelevant (t t' : Nat) (mn mn' mx mx' : Int) (lv lv' : Array Nat)
    (insts : Array (Instr w)) (limited : Bool) (b fuel : Nat) (env : Env) :
    Bc.run ⟨t, mn, mx, lv, insts⟩ limited b fuel env = Bc.run ⟨t', mn', mx', lv', insts⟩ limited b fuel env :=
  run_insts_only (p := ⟨t, mn, mx, lv, insts⟩) (q := ⟨t', mn', mx', lv', insts⟩) rfl limited b fuel env

theorem behEq_of_insts_eq {p q : Program w} (h : p.insts = q.insts) : BehEq p q := by
  constructor <;> intro limited b fuel env
  · exact ⟨fuel, by rw [run_insts_only h]; exact ObsEq'.refl _⟩
  · exact ⟨fuel, by rw [run_insts_only h]; exact ObsEq'.refl _⟩

theorem runCfg_next {p : Program w} {limited : Bool} {c c' : Cfg w} (h : step p limited c = .next c')
    (fuel : Nat) : runCfg p limited (fuel + 1) c = runCfg p limited fuel c' :=
  Bc.runCfg_succ_next h fuel

end C02
end Hpbf
