/-
Two totality facts of the `Loop`/`If` arm of `rebuild_block` that are not a matter of sequencing.
`constantsAmong_ok`: `constants_among` reaches none of its three panic sites (`depends_on.get_mut(..).unwrap()`,
`*v -= 1`, the fuel of the model's work loop) on a duplicate-free list of variables: a reading of
`OptLoop.constantsAmong_spec`.  `motionStepM_safe`: `remove_pending(var).unwrap()` in the loop of `finishLoop` over the
pending variables succeeds as long as `var` is still a pending key.  (That it is: `var` ranges over the distinct pending
keys and each step removes only `var`, see `OptProof.motionFold_tri`.)
-/
import Hpbf.Proofs.OptTotalPure
import Hpbf.Proofs.OptLoopTop

namespace Hpbf
namespace OptTotal

section Const
open Opt OptLoop

theorem constantsAmong_ok {w : Nat} (s : Rebuild w) (ps : List (Rebuild w)) (sub : Rebuild w)
    (vars : List Int) (hnd : vars.Nodup) (hcmp : ∀ a b : Expr w, Ok (compare s ps a b)) :
    Ok (constantsAmong s ps sub vars) := by
  rcases constantsAmong_spec s ps sub vars hnd with ⟨e, _, a, b, hab⟩ | ⟨C, hC, _⟩
  · obtain ⟨r, hr⟩ := hcmp a b
    rw [hr] at hab; cases hab
  · exact ⟨C, hC⟩

#print axioms constantsAmong_ok

end Const

open Opt OptProof

variable {w : Nat}

theorem motionStepM_safe (s : Rebuild w) (ps : List (Rebuild w)) (R C : List Int)
    (lin : List (Int × Expr w)) (pset : List Int) (L : OptLoop w)
    (acc : Rebuild w × List (Int × Expr w) × List (Int × Expr w) × List (Int × Expr w)) (var : Int)
    (hk : mHas acc.1.pending var = true) : Safe (OptLoop.motionStepM s ps R C lin pset L acc var) := by
  obtain ⟨sub, B, D, A⟩ := acc
  unfold OptLoop.motionStepM
  dsimp only
  obtain ⟨p, hp⟩ := (mHas_iff _ _).1 hk
  have hrm : (removePending sub var).2 = some p := by rw [removePending_snd]; exact hp
  rcases hrp : removePending sub var with ⟨sub', o⟩
  rw [hrp] at hrm
  dsimp only at hrm
  subst hrm
  dsimp only
  refine (Safe.monadLift (loopMotion_ok s ps var p _ R C lin pset L)).bind (fun x _ _ _ => ?_)
  obtain ⟨b, d, a⟩ := x
  exact Safe.pure _

end OptTotal
end Hpbf
