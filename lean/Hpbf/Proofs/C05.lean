/-
C05: divergence certificates for the canonical machine. A configuration reached again after `k > 0`
steps, up to the trace and the representation of the tape (`CfgEq`), never returns, because
`Bf.step` respects `CfgEq` and appends the same events on both sides. This makes Brent's search
`Cert.findCycle` sound.
-/
import Hpbf.Cert
import Hpbf.Proofs.C04

namespace Hpbf
namespace C05

variable {w : Nat}

theorem mem_insertCell {k : Int} {v : BitVec w} {l : List (Int × BitVec w)} {kv : Int × BitVec w}
    (h : kv ∈ Cert.insertCell k v l) : kv.1 = k ∨ kv ∈ l := by
  induction l with
  | nil => simp [Cert.insertCell] at h; left; rw [h]
  | cons ju rest ih =>
    obtain ⟨j, u⟩ := ju
    simp only [Cert.insertCell] at h
    split at h
    · rcases List.mem_cons.1 h with h | h
      · left; rw [h]
      · right; exact h
    · split at h
      · right; exact h
      · rcases List.mem_cons.1 h with h | h
        · right; rw [h]; simp
        · rcases ih h with h | h
          · left; exact h
          · right; simp [h]

theorem lookup_insertCell (k : Int) (v : BitVec w) (l : List (Int × BitVec w))
    (hk : ∀ kv ∈ l, kv.1 ≠ k) (i : Int) :
    Tape.lookup (Cert.insertCell k v l) i = if i = k then v else Tape.lookup l i := by
  induction l with
  | nil =>
    simp only [Cert.insertCell, Tape.lookup]
    by_cases h : i = k
    · simp [h]
    · have : ¬ k = i := fun e => h e.symm
      simp [h, this]
  | cons ju rest ih =>
    obtain ⟨j, u⟩ := ju
    have hj : j ≠ k := hk (j, u) (by simp)
    have ih := ih (fun kv hkv => hk kv (by simp [hkv]))
    simp only [Cert.insertCell]
    split
    · simp only [Tape.lookup]
      by_cases h : i = k
      · simp [h]
      · have : ¬ k = i := fun e => h e.symm
        simp [h, this]
    · have hkj : ¬ k = j := fun e => hj e.symm
      simp only [hkj, if_false, Tape.lookup, ih]
      by_cases h : j = i
      · have : ¬ i = k := fun e => hj (h.trans e)
        simp [h, this]
      · simp [h]

/-- The function folded in `Cert.normTape`, named so that `lookup_fold` can generalise the
accumulator. -/
def normStep (acc : List Int × List (Int × BitVec w)) (kv : Int × BitVec w) :
    List Int × List (Int × BitVec w) :=
  if acc.1.contains kv.1 then acc
  else (kv.1 :: acc.1, if kv.2 = 0#w then acc.2 else Cert.insertCell kv.1 kv.2 acc.2)

theorem normTape_eq (t : Tape w) : Cert.normTape t = (t.cells.foldl normStep ([], [])).2 := rfl

theorem lookup_fold (l : List (Int × BitVec w)) :
    ∀ (seen : List Int) (out : List (Int × BitVec w)), (∀ kv ∈ out, kv.1 ∈ seen) →
      ∀ i, Tape.lookup (l.foldl normStep (seen, out)).2 i =
        if i ∈ seen then Tape.lookup out i else Tape.lookup l i := by
  induction l with
  | nil =>
    intro seen out hinv i
    simp only [List.foldl, Tape.lookup]
    by_cases hi : i ∈ seen
    · simp [hi]
    · simp only [hi, if_false]
      exact C01.lookup_not_mem out i (fun kv hkv e => hi (e ▸ hinv kv hkv))
  | cons kv rest ih =>
    obtain ⟨k, v⟩ := kv
    intro seen out hinv i
    simp only [List.foldl]
    by_cases hk : k ∈ seen
    · have hs : normStep (seen, out) (k, v) = (seen, out) := by
        simp [normStep, hk]
      rw [hs, ih seen out hinv i]
      by_cases hi : i ∈ seen
      · simp [hi]
      · have : ¬ k = i := fun e => hi (e ▸ hk)
        simp [hi, Tape.lookup, this]
    · have hkout : ∀ kv ∈ out, kv.1 ≠ k := fun kv hkv e => hk (e ▸ hinv kv hkv)
      have hs : normStep (seen, out) (k, v) =
          (k :: seen, if v = 0#w then out else Cert.insertCell k v out) := by
        simp [normStep, hk]
      have hinv' : ∀ kv ∈ (if v = 0#w then out else Cert.insertCell k v out), kv.1 ∈ k :: seen := by
        intro kv hkv
        split at hkv
        · exact List.mem_cons_of_mem _ (hinv kv hkv)
        · rcases mem_insertCell hkv with h | h
          · rw [h]; simp
          · exact List.mem_cons_of_mem _ (hinv kv h)
      rw [hs, ih _ _ hinv' i]
      have hlk : Tape.lookup (if v = 0#w then out else Cert.insertCell k v out) i =
          if i = k then v else Tape.lookup out i := by
        split
        · rename_i hv
          by_cases hik : i = k
          · subst hik; simp [hv, C01.lookup_not_mem out i hkout]
          · simp [hik]
        · exact lookup_insertCell k v out hkout i
      by_cases hik : i = k
      · subst hik
        simp [hk, hlk, Tape.lookup]
      · have hki : ¬ k = i := fun e => hik e.symm
        by_cases hi : i ∈ seen
        · simp [hi, hlk, hik]
        · simp [hi, hik, hki, Tape.lookup]

theorem normTape_lookup (t : Tape w) (i : Int) : Tape.lookup (Cert.normTape t) i = t.get i := by
  rw [normTape_eq, lookup_fold t.cells [] [] (by simp) i]
  simp [Tape.get]

theorem get_eq_of_normTape_eq {s t : Tape w} (h : Cert.normTape s = Cert.normTape t) (i : Int) :
    s.get i = t.get i := by
  rw [← normTape_lookup, ← normTape_lookup, h]

/-- Everything of a state but its trace: a configuration met again has a longer trace, and the certificate compares
the rest.  (Hence not an instance of `C11.StSim`, which compares the trace.) -/
structure StEq (s t : State w) : Prop where
  ptr : s.ptr = t.ptr
  env : s.env = t.env
  tape : ∀ i, s.tape.get i = t.tape.get i

structure CfgEq (a b : Bf.Config w) : Prop where
  cur : a.cur = b.cur
  conts : a.conts = b.conts
  st : StEq a.st b.st

theorem StEq.refl (s : State w) : StEq s s := ⟨rfl, rfl, fun _ => rfl⟩
theorem StEq.symm {s t : State w} (h : StEq s t) : StEq t s :=
  ⟨h.ptr.symm, h.env.symm, fun i => (h.tape i).symm⟩
theorem StEq.trans {s t u : State w} (h : StEq s t) (h' : StEq t u) : StEq s u :=
  ⟨h.ptr.trans h'.ptr, h.env.trans h'.env, fun i => (h.tape i).trans (h'.tape i)⟩
theorem CfgEq.refl (a : Bf.Config w) : CfgEq a a := ⟨rfl, rfl, StEq.refl _⟩
theorem CfgEq.symm {a b : Bf.Config w} (h : CfgEq a b) : CfgEq b a :=
  ⟨h.cur.symm, h.conts.symm, h.st.symm⟩
theorem CfgEq.trans {a b c : Bf.Config w} (h : CfgEq a b) (h' : CfgEq b c) : CfgEq a c :=
  ⟨h.cur.trans h'.cur, h.conts.trans h'.conts, h.st.trans h'.st⟩

theorem sameCfg_cfgEq {a b : Bf.Config w} (h : Cert.sameCfg a b = true) : CfgEq a b := by
  simp only [Cert.sameCfg, Bool.and_eq_true, beq_iff_eq] at h
  obtain ⟨⟨⟨⟨h1, h2⟩, h3⟩, h4⟩, h5⟩ := h
  exact ⟨h1, h2, h3, h4, get_eq_of_normTape_eq h5⟩

theorem StEq.rd {s t : State w} (h : StEq s t) (off : Int) : s.rd off = t.rd off := by
  simp [State.rd, h.ptr, h.tape]

theorem StEq.wr {s t : State w} (h : StEq s t) (off : Int) (v : BitVec w) :
    StEq (s.wr off v) (t.wr off v) := by
  refine ⟨h.ptr, h.env, fun i => ?_⟩
  simp [State.wr, Tape.get_set, h.ptr, h.tape]

theorem StEq.mov {s t : State w} (h : StEq s t) (d : Int) : StEq (s.mov d) (t.mov d) := by
  refine ⟨?_, h.env, h.tape⟩
  simp [State.mov, h.ptr]

def IoRel (s t : State w) (rs rt : Bool × State w) : Prop :=
  rs.1 = rt.1 ∧ StEq rs.2 rt.2 ∧
    ∃ evs, rs.2.trace = evs ++ s.trace ∧ rt.2.trace = evs ++ t.trace

theorem StEq.input {s t : State w} (h : StEq s t) (off : Int) :
    IoRel s t (s.input off) (t.input off) := by
  unfold State.input
  rw [← h.env]
  cases s.env.readByte with
  | got b e =>
    exact ⟨rfl, ⟨h.ptr, rfl, (h.wr off _).tape⟩, [Ev.inp b], rfl, rfl⟩
  | failed e => exact ⟨rfl, ⟨h.ptr, rfl, h.tape⟩, [Ev.inpFail], rfl, rfl⟩
  | absent => exact ⟨rfl, h, [], rfl, rfl⟩

theorem StEq.output {s t : State w} (h : StEq s t) (off : Int) :
    IoRel s t (s.output off) (t.output off) := by
  unfold State.output
  rw [← h.env, ← h.rd off]
  simp only
  split
  · rcases hw : s.env.writeByte with ⟨ok, e⟩
    cases ok
    · exact ⟨rfl, ⟨h.ptr, rfl, h.tape⟩, [Ev.outFail _], rfl, rfl⟩
    · exact ⟨rfl, ⟨h.ptr, rfl, h.tape⟩, [Ev.out _], rfl, rfl⟩
  · exact ⟨rfl, h, [], rfl, rfl⟩

theorem StEq.applyOp {s t : State w} (h : StEq s t) (op : Op) :
    IoRel s t (Bf.applyOp op s) (Bf.applyOp op t) := by
  cases op with
  | inc => simp only [Bf.applyOp, h.rd]; exact ⟨rfl, h.wr _ _, [], rfl, rfl⟩
  | dec => simp only [Bf.applyOp, h.rd]; exact ⟨rfl, h.wr _ _, [], rfl, rfl⟩
  | left => exact ⟨rfl, h.mov _, [], rfl, rfl⟩
  | right => exact ⟨rfl, h.mov _, [], rfl, rfl⟩
  | inp => exact h.input 0
  | out => exact h.output 0

/-- The `evs` halves are what `Props/C05.step_congr` states; the proofs of this file use the `CfgEq`/`StEq` half. -/
def StepRel (a b : Bf.Config w) : Bf.StepRes w → Bf.StepRes w → Prop
  | .next a', .next b' =>
    CfgEq a' b' ∧ ∃ evs, a'.st.trace = evs ++ a.st.trace ∧ b'.st.trace = evs ++ b.st.trace
  | .halt s, .halt t =>
    StEq s t ∧ ∃ evs, s.trace = evs ++ a.st.trace ∧ t.trace = evs ++ b.st.trace
  | .stop s, .stop t =>
    StEq s t ∧ ∃ evs, s.trace = evs ++ a.st.trace ∧ t.trace = evs ++ b.st.trace
  | _, _ => False

theorem stepRel_of_cfgEq {a b : Bf.Config w} (h : CfgEq a b) : StepRel a b (Bf.step a) (Bf.step b) := by
  obtain ⟨acur, aconts, ast⟩ := a
  obtain ⟨bcur, bconts, bst⟩ := b
  obtain ⟨hc, hk, hs⟩ := h
  simp only at hc hk hs
  subst hc hk
  cases acur with
  | nil =>
    cases aconts with
    | nil => exact ⟨hs, [], rfl, rfl⟩
    | cons k ks => exact ⟨⟨rfl, rfl, hs⟩, [], rfl, rfl⟩
  | cmd op rest =>
    have hio := hs.applyOp op
    simp only [Bf.step]
    rcases ha : Bf.applyOp op ast with ⟨oka, sa⟩
    rcases hb : Bf.applyOp op bst with ⟨okb, sb⟩
    rw [ha, hb] at hio
    obtain ⟨hok, hst, hev⟩ := hio
    simp only at hok hst hev
    subst hok
    cases oka
    · exact ⟨hst, hev⟩
    · exact ⟨⟨rfl, rfl, hst⟩, hev⟩
  | loop body rest =>
    simp only [Bf.step, ← hs.rd 0]
    split
    · exact ⟨⟨rfl, rfl, hs⟩, [], rfl, rfl⟩
    · exact ⟨⟨rfl, rfl, hs⟩, [], rfl, rfl⟩

def Diverges (c : Bf.Config w) : Prop := ∀ f, ∃ c', Bf.runCfg f c = .outOfFuel c'

theorem runCfg_snoc {m : Nat} {c c' c'' : Bf.Config w} (h : Bf.runCfg m c = .outOfFuel c')
    (hs : Bf.step c' = .next c'') : Bf.runCfg (m + 1) c = .outOfFuel c'' := by
  rw [Bf.fuelRun.split h 1, Bf.runCfg_succ_next hs]
  rfl

theorem diverges_of_reach {n : Nat} {a b : Bf.Config w} (h : Bf.runCfg n a = .outOfFuel b)
    (hb : Diverges b) : Diverges a := by
  intro f
  rcases Nat.le_total f n with hle | hle
  · exact Bf.fuelRun.oof_of_le h hle
  · obtain ⟨g, rfl⟩ : ∃ g, f = n + g := ⟨f - n, by omega⟩
    rw [Bf.fuelRun.split h g]
    exact hb g

theorem runCfg_congr {f : Nat} {a b a' : Bf.Config w} (h : CfgEq a b)
    (hr : Bf.runCfg f a = .outOfFuel a') : ∃ b', Bf.runCfg f b = .outOfFuel b' ∧ CfgEq a' b' := by
  induction f generalizing a b with
  | zero =>
    simp only [Bf.runCfg] at hr
    cases hr
    exact ⟨b, rfl, h⟩
  | succ f ih =>
    have hsc := stepRel_of_cfgEq h
    cases hsa : Bf.step a with
    | next a1 =>
      cases hsb : Bf.step b with
      | next b1 =>
        rw [hsa, hsb] at hsc
        rw [Bf.runCfg_succ_next hsa] at hr
        rw [Bf.runCfg_succ_next hsb]
        exact ih hsc.1 hr
      | halt s => rw [hsa, hsb] at hsc; exact hsc.elim
      | stop s => rw [hsa, hsb] at hsc; exact hsc.elim
    | halt s => rw [Bf.runCfg_succ_halt hsa] at hr; cases hr
    | stop s => rw [Bf.runCfg_succ_stop hsa] at hr; cases hr

theorem Diverges.congr {a b : Bf.Config w} (h : CfgEq a b) (ha : Diverges a) : Diverges b := by
  intro f
  obtain ⟨a', ha'⟩ := ha f
  obtain ⟨b', hb', _⟩ := runCfg_congr h ha'
  exact ⟨b', hb'⟩

theorem diverges_of_repeat {k : Nat} {c c' : Bf.Config w} (hr : Bf.runCfg k c = .outOfFuel c')
    (hk : 0 < k) (he : CfgEq c' c) : Diverges c := by
  intro f
  induction f using Nat.strongRecOn with
  | _ f ih =>
    rcases Nat.le_total f k with hle | hle
    · exact Bf.fuelRun.oof_of_le hr hle
    · obtain ⟨g, rfl⟩ : ∃ g, f = k + g := ⟨f - k, by omega⟩
      rw [Bf.fuelRun.split hr g]
      obtain ⟨c1, hc1⟩ := ih g (by omega)
      obtain ⟨c2, hc2, _⟩ := runCfg_congr he.symm hc1
      exact ⟨c2, hc2⟩

/-- Invariant of Brent's search: the hare is `lam` steps after the tortoise. When the tortoise jumps
to the hare (`lam + 1 = power`) it holds with `lam = 0`, and divergence from there gives divergence
of the tortoise it replaces (`diverges_of_reach`). The reported `c` is the tortoise at the hit and
`per` its period. -/
theorem findCycle_diverges (fuel : Nat) :
    ∀ (tort hare : Bf.Config w) (power lam : Nat) (c : Bf.Config w) (per : Nat),
      Bf.runCfg lam tort = .outOfFuel hare →
      Cert.findCycle fuel tort hare power lam = .diverges c per →
      Diverges tort ∧ Diverges c ∧ 0 < per ∧ ∃ c', Bf.runCfg per c = .outOfFuel c' ∧ CfgEq c c' := by
  induction fuel with
  | zero => intro tort hare power lam c per _ h; simp [Cert.findCycle] at h
  | succ fuel ih =>
    intro tort hare power lam c per hreach h
    simp only [Cert.findCycle] at h
    cases hs : Bf.step hare with
    | halt s => rw [hs] at h; cases h
    | stop s => rw [hs] at h; cases h
    | next hare' =>
      rw [hs] at h
      simp only at h
      have hreach' := runCfg_snoc hreach hs
      split at h
      · rename_i hsame
        cases h
        have he := sameCfg_cfgEq hsame
        have hd := diverges_of_repeat hreach' (Nat.succ_pos _) he.symm
        exact ⟨hd, hd, Nat.succ_pos _, hare', hreach', he⟩
      · split at h
        · obtain ⟨hd, rest⟩ := ih hare' hare' (power * 2) 0 c per rfl h
          exact ⟨diverges_of_reach hreach' hd, rest⟩
        · exact ih tort hare' power (lam + 1) c per hreach' h

/-- No invariant here: a halting verdict is about the hare alone. -/
theorem findCycle_halts (fuel : Nat) :
    ∀ (tort hare : Bf.Config w) (power lam : Nat) (k : String) (s : State w),
      Cert.findCycle fuel tort hare power lam = .halts k s →
      (k = "done" ∧ ∃ f, Bf.runCfg f hare = .done s) ∨
      (k = "stopped" ∧ ∃ f, Bf.runCfg f hare = .stopped s) := by
  induction fuel with
  | zero => intro tort hare power lam k s h; simp [Cert.findCycle] at h
  | succ fuel ih =>
    intro tort hare power lam k s h
    simp only [Cert.findCycle] at h
    cases hs : Bf.step hare with
    | halt s' =>
      rw [hs] at h
      simp only [Cert.Verdict.halts.injEq] at h
      obtain ⟨rfl, rfl⟩ := h
      exact Or.inl ⟨rfl, 1, Bf.runCfg_succ_halt hs 0⟩
    | stop s' =>
      rw [hs] at h
      simp only [Cert.Verdict.halts.injEq] at h
      obtain ⟨rfl, rfl⟩ := h
      exact Or.inr ⟨rfl, 1, Bf.runCfg_succ_stop hs 0⟩
    | next hare' =>
      rw [hs] at h
      simp only at h
      have lift : ((k = "done" ∧ ∃ f, Bf.runCfg f hare' = .done s) ∨
          (k = "stopped" ∧ ∃ f, Bf.runCfg f hare' = .stopped s)) →
          ((k = "done" ∧ ∃ f, Bf.runCfg f hare = .done s) ∨
          (k = "stopped" ∧ ∃ f, Bf.runCfg f hare = .stopped s)) := by
        rintro (⟨hk, f, hf⟩ | ⟨hk, f, hf⟩)
        · exact Or.inl ⟨hk, f + 1, by rw [Bf.runCfg_succ_next hs]; exact hf⟩
        · exact Or.inr ⟨hk, f + 1, by rw [Bf.runCfg_succ_next hs]; exact hf⟩
      split at h
      · cases h
      · split at h
        · exact lift (ih _ _ _ _ k s h)
        · exact lift (ih _ _ _ _ k s h)

end C05
end Hpbf
