/-
The bridge between real executions of a balanced loop and the abstract loop model of the loop-motion pack
(`Hpbf.OptLoop.run body P m0`).  The abstract body `absBody : Nat → Mem → Mem` maps, in round `k`, the memory at the
`k`-th real head to the memory after the child's code (`RoundR`), does the same for the `k`-th head of the
transformed loop (`RoundT`), and is the identity on unwritten cells elsewhere; then the memories at the real heads
are `run absBody pending m0` (`run_real_g`).

The guard `Gc` of the child is only assumed at the heads that are entered: for a block that runs at most once
(`am = true`) at head number 0 only (`hGcH`), so the lemmas take a bound on the head number in that case.
Names: the suffix `_g` marks statements in this guarded form (there is no unguarded twin); the index `₂` marks what
is about the transformed block.
-/
import Hpbf.Proofs.OptRbMotionChild

namespace Hpbf
namespace OptProof
open Opt OptSem Ir

variable {w : Nat}

/-- What is known about a balanced, non-moving child block (`sub0` = its fresh state, `sub` = its final state with
parent chain `s :: ps`; its emitted code is `sub.insts`). -/
structure BalChild (Gc : State w → Prop) (shP shC shS cS : Int) (bodyS : List (Instr w))
    (s : Rebuild w) (ps : List (Rebuild w)) (sub0 sub : Rebuild w) : Prop where
  all : StepAll Gc shP shC (s :: ps) sub0 sub bodyS sub.insts
  w0 : sub0.written = []
  p0 : sub0.pending = []
  ns : sub.subShift = false
  sh : shC + shS = shP
  entry : ∀ σE σS : State w, SameMem shP σS σE → σS.rd cS ≠ 0#w → Gc σS →
    ∃ M0, RelAt shP sub0 (s :: ps) M0 σE σS

section Bal
variable {Gc : State w → Prop} {shP shC shS cS : Int} {bodyS : List (Instr w)}
  {s : Rebuild w} {ps : List (Rebuild w)} {sub0 sub : Rebuild w}

theorem BalChild.valid (hc : BalChild Gc shP shC shS cS bodyS s ps sub0 sub) {σk : State w} (hg : Gc σk)
    (hne : σk.rd cS ≠ 0#w) :
    RelAt shP sub0 (s :: ps) (memE (σk.mov (-shP))) (σk.mov (-shP)) σk := by
  obtain ⟨M0c, hre⟩ := hc.entry _ _ (sameMem_movNeg shP σk) hne hg
  have : M0c = memE (σk.mov (-shP)) := by
    funext v
    have := hre.inv.writ v
    rw [hc.w0] at this
    exact this.symm
  rw [← this]; exact hre

theorem BalChild.rep (hc : BalChild Gc shP shC shS cS bodyS s ps sub0 sub) {σk : State w} (hg : Gc σk)
    (hne : σk.rd cS ≠ 0#w) :
    Sim (fun a y => RelAt shC sub (s :: ps) (memE (σk.mov (-shP))) y a ∧ y.ptr = (σk.mov (-shP)).ptr)
      bodyS sub.insts σk (σk.mov (-shP)) ∧ ¬ Bad sub.insts (σk.mov (-shP)) := by
  obtain ⟨hs, hb⟩ := hc.all.step.2 _ _ _ (hc.valid hg hne) hg
  refine ⟨hs.mono ?_, hb⟩
  rintro a y ⟨M0', hr', hk'⟩
  obtain ⟨k1, k2⟩ := hk' hc.ns
  rw [← k1]
  exact ⟨hr', k2⟩

theorem BalChild.next (hc : BalChild Gc shP shC shS cS bodyS s ps sub0 sub) {σk a y : State w}
    (hr : RelAt shC sub (s :: ps) (memE (σk.mov (-shP))) y a) (hy : y.ptr = (σk.mov (-shP)).ptr) :
    ((a.mov shS).mov (-shP)).ptr = (σk.mov (-shP)).ptr ∧ (a.mov shS).trace = y.trace ∧
    (a.mov shS).env = y.env ∧ (a.mov shS).ptr = σk.ptr ∧
    memE ((a.mov shS).mov (-shP)) = Mem.par sub.pending (memE y) := by
  have hsh := hc.sh
  have hp := hr.ptr
  have hy' : y.ptr = σk.ptr + -shP := hy
  refine ⟨?_, hr.tr, hr.env, ?_, ?_⟩
  · show a.ptr + shS + -shP = σk.ptr + -shP
    omega
  · show a.ptr + shS = σk.ptr
    omega
  · rw [← hr.inv.pend]
    funext v
    show a.tape.get (a.ptr + shS + -shP + v) = a.tape.get (y.ptr + v)
    congr 1; omega

/-- `partner_mirror` at a real head `σ`, for a state `τ` that agrees with `σ.mov (-shP)` on what the child reads; `K` is
the set of cells on which the two differ. -/
theorem BalChild.mirror (hc : BalChild Gc shP shC shS cS bodyS s ps sub0 sub) {σ τ : State w} (hg : Gc σ)
    (hne : σ.rd cS ≠ 0#w) (hp : τ.ptr = (σ.mov (-shP)).ptr) (he : τ.env = σ.env) (ht : τ.trace = σ.trace)
    (hreads : ∀ r ∈ sub.reads, memE τ r = memE (σ.mov (-shP)) r) :
    Sim (AgreeOff (Rest (fun v => memE τ v ≠ memE (σ.mov (-shP)) v) sub)) sub.insts sub.insts (σ.mov (-shP)) τ ∧
    ∀ z, Exec sub.insts τ (.fin z) →
      z.ptr = τ.ptr ∧ ∀ v, v ∉ mKeys sub.written → v ∉ sub.reads → memE z v = memE τ v :=
  have h := partner_mirror hc.all hc.w0 hc.ns hg (hc.valid hg hne) (fun v => memE τ v ≠ memE (σ.mov (-shP)) v)
    (fun v hv hr => hv (hreads v hr))
    ⟨hp.symm, he.symm, ht.symm, fun v hv => (Classical.not_not.1 hv).symm⟩
  ⟨h.1, h.2.2⟩

end Bal

structure MCtx (w : Nat) where
  cS : Int
  shS : Int
  shP : Int
  bodyS : List (Instr w)
  σS : State w
  sub : Rebuild w
  D : List (Int × Expr w)
  τ0 : State w

namespace MCtx

def body₂ (c : MCtx w) : List (Instr w) := c.sub.insts ++ [.calc c.D]

def cond (c : MCtx w) : Int := c.cS + c.shP

/-- Round `k` of the real loop: its head `σk`, and the end `y` of the child's code started there (in the
coordinates of the parent state). -/
def RoundR (c : MCtx w) (k : Nat) (σk y : State w) : Prop :=
  Head c.cS c.shS c.bodyS c.σS k σk ∧ Exec c.sub.insts (σk.mov (-c.shP)) (.fin y)

/-- Round `k` of the transformed loop, for a memory `m'`: its head `τ` has memory `m'`, runs in the same
environment as the real head `σk` and agrees with it on what the child reads; `z` is the end of the child's code. -/
def RoundT (c : MCtx w) (k : Nat) (σk : State w) (m' : Mem w) (τ z : State w) : Prop :=
  Head c.cond 0 c.body₂ c.τ0 k τ ∧ Exec c.sub.insts τ (.fin z) ∧ m' = memE τ ∧
  τ.ptr = (σk.mov (-c.shP)).ptr ∧ τ.env = σk.env ∧ τ.trace = σk.trace ∧
  ∀ r ∈ c.sub.reads, memE τ r = memE (σk.mov (-c.shP)) r

theorem RoundR.det {c : MCtx w} {k : Nat} {σk y σk' y' : State w} (h : c.RoundR k σk y)
    (h' : c.RoundR k σk' y') : σk = σk' ∧ y = y' := by
  have e := head_det h.1 h'.1
  subst e
  exact ⟨rfl, exec_fin_det h.2 h'.2⟩

theorem RoundT.det {c : MCtx w} {k : Nat} {σk : State w} {m' m'' : Mem w} {τ z τ' z' : State w}
    (h : c.RoundT k σk m' τ z) (h' : c.RoundT k σk m'' τ' z') : τ = τ' ∧ z = z' := by
  have e := head_det h.1 h'.1
  subst e
  exact ⟨rfl, exec_fin_det h.2.1 h'.2.1⟩

open Classical in
/-- The last branch (`m'` is neither the memory of the real head nor that of a head of the transformed loop) is
there because the pack asks its frame hypothesis of `body k` at EVERY memory: unwritten cells keep `m'`, written
ones take the value of the real round. -/
noncomputable def absBody (c : MCtx w) (k : Nat) (m' : Mem w) : Mem w :=
  if h : ∃ p : State w × State w, c.RoundR k p.1 p.2 then
    if m' = memE ((Classical.choose h).1.mov (-c.shP)) then memE (Classical.choose h).2
    else if h2 : ∃ q : State w × State w, c.RoundT k (Classical.choose h).1 m' q.1 q.2 then
      memE (Classical.choose h2).2
    else fun v => if mGet c.sub.written v = none then m' v else memE (Classical.choose h).2 v
  else m'

theorem absBody_real {c : MCtx w} {k : Nat} {σk y : State w} (h : c.RoundR k σk y) :
    c.absBody k (memE (σk.mov (-c.shP))) = memE y := by
  have hex : ∃ p : State w × State w, c.RoundR k p.1 p.2 := ⟨(σk, y), h⟩
  obtain ⟨e1, e2⟩ := (Classical.choose_spec hex).det h
  unfold absBody
  rw [dif_pos hex, e1, e2, if_pos rfl]

theorem absBody_T {c : MCtx w} {k : Nat} {σk y τ z : State w} {m' : Mem w} (h : c.RoundR k σk y)
    (hT : c.RoundT k σk m' τ z) (hne : m' ≠ memE (σk.mov (-c.shP))) : c.absBody k m' = memE z := by
  have hex : ∃ p : State w × State w, c.RoundR k p.1 p.2 := ⟨(σk, y), h⟩
  obtain ⟨e1, e2⟩ := (Classical.choose_spec hex).det h
  unfold absBody
  rw [dif_pos hex, e1, if_neg hne]
  have hex2 : ∃ q : State w × State w, c.RoundT k σk m' q.1 q.2 := ⟨(τ, z), hT⟩
  rw [dif_pos hex2]
  rw [((Classical.choose_spec hex2).det hT).2]

theorem absBody_other {c : MCtx w} {k : Nat} {σk y : State w} {m' : Mem w} (h : c.RoundR k σk y)
    (hne : m' ≠ memE (σk.mov (-c.shP))) (hno : ¬ ∃ q : State w × State w, c.RoundT k σk m' q.1 q.2) :
    c.absBody k m' = fun v => if mGet c.sub.written v = none then m' v else memE y v := by
  have hex : ∃ p : State w × State w, c.RoundR k p.1 p.2 := ⟨(σk, y), h⟩
  obtain ⟨e1, e2⟩ := (Classical.choose_spec hex).det h
  unfold absBody
  rw [dif_pos hex, e1, e2, if_neg hne, dif_neg hno]

end MCtx

section Run
variable {Gc : State w → Prop} {shP shC shS cS : Int} {bodyS : List (Instr w)}
  {s : Rebuild w} {ps : List (Rebuild w)} {sub0 sub : Rebuild w} {σS : State w}
  (D : List (Int × Expr w)) (τ0 : State w) {am : Bool}

theorem BalChild.roundR_g (hc : BalChild Gc shP shC shS cS bodyS s ps sub0 sub)
    (hGcH : ∀ k σk, Head cS shS bodyS σS k σk → (am = true → k = 0) → σk.rd cS ≠ 0#w → Gc σk)
    {k : Nat} {σk a : State w} (hh : Head cS shS bodyS σS k σk) (hk0 : am = true → k = 0)
    (hne : σk.rd cS ≠ 0#w) (hex : Exec bodyS σk (.fin a)) :
    ∃ y, (MCtx.mk cS shS shP bodyS σS sub D τ0).RoundR k σk y ∧
      RelAt shC sub (s :: ps) (memE (σk.mov (-shP))) y a ∧ y.ptr = (σk.mov (-shP)).ptr := by
  obtain ⟨hs, _⟩ := hc.rep (hGcH k σk hh hk0 hne) hne
  obtain ⟨y, hy, hr', hyp⟩ := hs.finL a hex
  exact ⟨y, ⟨hh, hy⟩, hr', hyp⟩

theorem run_real_g (hc : BalChild Gc shP shC shS cS bodyS s ps sub0 sub)
    (hGcH : ∀ k σk, Head cS shS bodyS σS k σk → (am = true → k = 0) → σk.rd cS ≠ 0#w → Gc σk)
    {k : Nat} {σk : State w} (hh : Head cS shS bodyS σS k σk) (hkN : am = true → k ≤ 1) :
    memE (σk.mov (-shP)) = OptLoop.run (MCtx.mk cS shS shP bodyS σS sub D τ0).absBody sub.pending
      (memE (σS.mov (-shP))) k ∧ σk.ptr = σS.ptr ∧ (σk.mov (-shP)).ptr = (σS.mov (-shP)).ptr := by
  induction hh with
  | zero => exact ⟨rfl, rfl, rfl⟩
  | @succ k' σk' σ' hprev hne hex ih =>
    obtain ⟨ih1, ih2, ih3⟩ := ih (fun h => by have := hkN h; omega)
    obtain ⟨y, hR, hr', hyp⟩ := hc.roundR_g D τ0 hGcH hprev (fun h => by have := hkN h; omega) hne hex
    obtain ⟨n1, _, _, n4, n5⟩ := hc.next hr' hyp
    refine ⟨?_, n4.trans ih2, n1.trans ih3⟩
    rw [n5, OptLoop.run_succ]
    show _ = Mem.par sub.pending ((MCtx.mk cS shS shP bodyS σS sub D τ0).absBody k'
      (OptLoop.run (MCtx.mk cS shS shP bodyS σS sub D τ0).absBody sub.pending (memE (σS.mov (-shP))) k'))
    rw [← ih1, MCtx.absBody_real hR]

/-- The hypotheses of the loop-motion pack about the rounds below a real head `N`. -/
theorem motion_hyps_g (hc : BalChild Gc shP shC shS cS bodyS s ps sub0 sub) (hcs : CanonSt sub)
    (hGcH : ∀ k σk, Head cS shS bodyS σS k σk → (am = true → k = 0) → σk.rd cS ≠ 0#w → Gc σk)
    {N : Nat} {σN : State w} (hN : Head cS shS bodyS σS N σN) (hkN : am = true → N ≤ 1) :
    OptLoop.BodyFactsH sub (MCtx.mk cS shS shP bodyS σS sub D τ0).absBody
      (OptLoop.run (MCtx.mk cS shS shP bodyS σS sub D τ0).absBody sub.pending (memE (σS.mov (-shP)))) N ∧
    OptLoop.GetBothFactsH s ps sub
      (OptLoop.run (MCtx.mk cS shS shP bodyS σS sub D τ0).absBody sub.pending (memE (σS.mov (-shP)))) N ∧
    (∀ k, k < N → ∀ (m' : Mem w) (Z : Int → Prop),
      (∀ v, ¬ Z v → m' v = OptLoop.run (MCtx.mk cS shS shP bodyS σS sub D τ0).absBody sub.pending
        (memE (σS.mov (-shP))) k v) →
      ∀ v, ¬ Z v → (MCtx.mk cS shS shP bodyS σS sub D τ0).absBody k m' v =
        (MCtx.mk cS shS shP bodyS σS sub D τ0).absBody k
          (OptLoop.run (MCtx.mk cS shS shP bodyS σS sub D τ0).absBody sub.pending (memE (σS.mov (-shP))) k) v) ∧
    (∀ k, k < N → ∀ (m' : Mem w) v, mGet sub.written v = none →
      (MCtx.mk cS shS shP bodyS σS sub D τ0).absBody k m' v = m' v) := by
  have hround : ∀ k, k < N → ∃ σk a y, Head cS shS bodyS σS k σk ∧ σk.rd cS ≠ 0#w ∧
      (MCtx.mk cS shS shP bodyS σS sub D τ0).RoundR k σk y ∧
      RelAt shC sub (s :: ps) (memE (σk.mov (-shP))) y a ∧ y.ptr = (σk.mov (-shP)).ptr ∧
      memE (σk.mov (-shP)) = OptLoop.run (MCtx.mk cS shS shP bodyS σS sub D τ0).absBody sub.pending
        (memE (σS.mov (-shP))) k := by
    intro k hk
    obtain ⟨σk, a, hh, hne, hex, _⟩ := head_prefix hN k hk
    have hk0 : am = true → k = 0 := fun h => by have := hkN h; omega
    obtain ⟨y, hR, hr', hyp⟩ := hc.roundR_g D τ0 hGcH hh hk0 hne hex
    exact ⟨σk, a, y, hh, hne, hR, hr', hyp, (run_real_g D τ0 hc hGcH hh (fun h => by have := hkN h; omega)).1⟩
  have hfootT : ∀ k σk y m' τ z, k < N → Head cS shS bodyS σS k σk → σk.rd cS ≠ 0#w →
      (MCtx.mk cS shS shP bodyS σS sub D τ0).RoundR k σk y →
      (MCtx.mk cS shS shP bodyS σS sub D τ0).RoundT k σk m' τ z →
      (∀ v, memE τ v = memE (σk.mov (-shP)) v → memE y v = memE z v) ∧
      (∀ v, v ∉ mKeys sub.written → v ∉ sub.reads → memE z v = memE τ v) := by
    intro k σk y m' τ z hkl hh hne hR hT
    obtain ⟨t1, t2, t3, t4, t5, t6, t7⟩ := hT
    obtain ⟨hf, hfr⟩ := hc.mirror (hGcH k σk hh (fun h => by have := hkN h; omega) hne) hne t4 t5 t6 t7
    obtain ⟨z', hz', hq⟩ := hf.finL y hR.2
    have ez : z' = z := exec_fin_det hz' t2
    subst ez
    exact ⟨fun v hv => hq.2.2.2 v (fun h => h.1 hv), (hfr z' t2).2⟩
  refine ⟨⟨?_, ?_⟩, ?_, ?_, ?_⟩
  · intro k hk v hv
    obtain ⟨σk, a, y, _, _, hR, hr', _, hM⟩ := hround k hk
    rw [← hM, MCtx.absBody_real hR]
    exact hr'.inv.writ.absent hv
  · intro k hk v e hv
    obtain ⟨σk, a, y, _, _, hR, hr', _, hM⟩ := hround k hk
    rw [← hM, MCtx.absBody_real hR]
    exact hr'.inv.writ.known hv
  · intro v e he
    refine ⟨(getBoth_canon hcs (s :: ps) he).weak, fun k hk => ?_⟩
    obtain ⟨σk, a, y, _, _, hR, hr', _, hM⟩ := hround k hk
    rw [OptLoop.run_succ]
    show Mem.par sub.pending ((MCtx.mk cS shS shP bodyS σS sub D τ0).absBody k _) v = _
    rw [← hM, MCtx.absBody_real hR, ← hr'.inv.pend]
    exact getBoth_sound hr'.inv he
  · intro k hk m' Z hm' v hv
    obtain ⟨σk, a, y, hh, hne, hR, hr', _, hM⟩ := hround k hk
    rw [← hM]
    by_cases hme : m' = memE (σk.mov (-shP))
    · rw [hme]
    · rw [MCtx.absBody_real hR]
      by_cases hT : ∃ q : State w × State w, (MCtx.mk cS shS shP bodyS σS sub D τ0).RoundT k σk m' q.1 q.2
      · obtain ⟨⟨τ, z⟩, hT⟩ := hT
        rw [MCtx.absBody_T hR hT hme]
        refine ((hfootT k σk y m' τ z hk hh hne hR hT).1 v ?_).symm
        rw [← hT.2.2.1, hm' v hv, ← hM]
      · rw [MCtx.absBody_other hR hme hT]
        show (if mGet sub.written v = none then m' v else memE y v) = memE y v
        split
        · rename_i hw
          rw [hm' v hv, ← hM]
          exact (hr'.inv.writ.absent hw).symm
        · rfl
  · intro k hk m' v hv
    obtain ⟨σk, a, y, hh, hne, hR, hr', _, hM⟩ := hround k hk
    by_cases hme : m' = memE (σk.mov (-shP))
    · rw [hme, MCtx.absBody_real hR]
      exact hr'.inv.writ.absent hv
    · by_cases hT : ∃ q : State w × State w, (MCtx.mk cS shS shP bodyS σS sub D τ0).RoundT k σk m' q.1 q.2
      · obtain ⟨⟨τ, z⟩, hT⟩ := hT
        rw [MCtx.absBody_T hR hT hme]
        obtain ⟨f1, f2⟩ := hfootT k σk y m' τ z hk hh hne hR hT
        rw [hT.2.2.1]
        by_cases hr : v ∈ sub.reads
        · have e1 := hT.2.2.2.2.2.2 v hr
          rw [← f1 v e1, e1]
          exact hr'.inv.writ.absent hv
        · exact f2 v ((mGet_none_iff _ _).1 hv) hr
      · rw [MCtx.absBody_other hR hme hT]
        show (if mGet sub.written v = none then m' v else memE y v) = m' v
        rw [if_pos hv]

end Run

end OptProof
end Hpbf
