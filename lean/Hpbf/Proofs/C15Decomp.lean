/-
What the structural decompositions of `ir::Expr` need to recompose to the value. `prod_of` is right on
all part lists; `inc_of`, `prod_inc_of`, `constant_part` look at one part `[v]` resp. at the first part
only, so they need `WeakCanon`: a constant part only at index 0 and at most one part equal to `[v]`
for each `v`. The examples at the end show that it cannot be dropped.
The recomposition theorems themselves (`prodOf_recompose`, `incOf_recompose`, …) are proved in `Props/C15` from the
lemmas here.
-/
import Hpbf.Proofs.C15Subst

namespace Hpbf
namespace Expr
variable {w : Nat}

theorem mono_filter_ne (f : Int → BitVec w) (v : Int) (vs : List Int)
    (h : (vs.filter (· == v)).length = 1) :
    mono f vs = f v * mono f (vs.filter (· != v)) := by
  induction vs with
  | nil => simp at h
  | cons x vs ih =>
    by_cases hx : x = v
    · subst hx
      simp only [List.filter_cons, beq_self_eq_true, if_true, List.length_cons] at h
      have hnil : vs.filter (· == x) = [] := List.eq_nil_of_length_eq_zero (by omega)
      have hall : ∀ y ∈ vs, (y != x) = true := by
        intro y hy
        have := List.filter_eq_nil_iff.1 hnil y hy
        simpa using this
      have : vs.filter (· != x) = vs := List.filter_eq_self.2 hall
      simp [this]
    · have hb : (x == v) = false := by simpa using hx
      simp only [List.filter_cons, hb] at h
      have := ih (by simpa using h)
      simp only [List.filter_cons, bne, hb, Bool.not_false, if_true, mono_cons, this]
      simp only [bne] at this ⊢
      ac_rfl

theorem evaluate_divVar (f : Int → BitVec w) (v : Int) (e : Expr w)
    (hall : e.all (fun p => (p.vars.filter (· == v)).length == 1) = true) :
    evaluate e f =
      f v * evaluate (e.map (fun p => ({ coef := p.coef, vars := p.vars.filter (· != v) } : Part w))) f := by
  induction e with
  | nil => simp
  | cons p e ih =>
    simp only [List.all_cons, Bool.and_eq_true, beq_iff_eq] at hall
    simp only [List.map_cons, evaluate_cons', ih hall.2, mono_filter_ne f v p.vars hall.1]
    grind

/-- A constant part occurs only at index 0, and no two parts are the same single variable. -/
def WeakCanon (e : Expr w) : Prop :=
  e.Pairwise (fun p q => q.vars ≠ [] ∧ (q.vars.length = 1 → p.vars ≠ q.vars))

instance (e : Expr w) : Decidable (WeakCanon e) := by unfold WeakCanon; infer_instance

theorem evaluate_filter_partition (f : Int → BitVec w) (P : Part w → Bool) (e : Expr w) :
    evaluate e f = evaluate (e.filter P) f + evaluate (e.filter (fun p => !P p)) f := by
  induction e with
  | nil => simp
  | cons p e ih =>
    cases hp : P p
    · simp only [List.filter_cons, hp, Bool.not_false, if_true, evaluate_cons, ih]
      simp; ac_rfl
    · simp only [List.filter_cons, hp, Bool.not_true, if_true, evaluate_cons, ih]
      simp; ac_rfl

theorem WeakCanon.filter_single {e : Expr w} (h : WeakCanon e) (v : Int) :
    (e.filter (fun p => p.vars == [v])).length ≤ 1 := by
  induction e with
  | nil => simp
  | cons p e ih =>
    unfold WeakCanon at h
    rw [List.pairwise_cons] at h
    by_cases hp : p.vars = [v]
    · have : e.filter (fun p => p.vars == [v]) = [] := by
        rw [List.filter_eq_nil_iff]
        intro q hq hqv
        simp only [beq_iff_eq] at hqv
        exact (h.1 q hq).2 (by rw [hqv]; rfl) (hp.trans hqv.symm)
      simp [hp, this]
    · have hb : (p.vars == [v]) = false := by simpa using hp
      simp only [List.filter_cons, hb]
      exact ih h.2

theorem foldl_lastCoef_none (v : Int) (e : Expr w) (m0 : BitVec w)
    (h : e.filter (fun p => p.vars == [v]) = []) :
    e.foldl (fun m p => if p.vars == [v] then p.coef else m) m0 = m0 := by
  induction e generalizing m0 with
  | nil => rfl
  | cons p e ih =>
    have hp : (p.vars == [v]) = false := by
      have := List.filter_eq_nil_iff.1 h p (List.mem_cons_self)
      simpa using this
    have he : e.filter (fun p => p.vars == [v]) = [] := by
      simpa [List.filter_cons, hp] using h
    simp only [List.foldl_cons, hp]
    exact ih m0 he

/-- The `foldl` is the multiple that `prodIncOf` returns (coefficient of the LAST part `[v]`). -/
theorem evaluate_filter_single (f : Int → BitVec w) (v : Int) (e : Expr w)
    (h : (e.filter (fun p => p.vars == [v])).length ≤ 1) :
    evaluate (e.filter (fun p => p.vars == [v])) f
      = e.foldl (fun m p => if p.vars == [v] then p.coef else m) 0#w * f v := by
  suffices hs : ∀ m0 : BitVec w, e.foldl (fun m p => if p.vars == [v] then p.coef else m) m0 * f v
      = if e.filter (fun p => p.vars == [v]) = [] then m0 * f v
        else evaluate (e.filter (fun p => p.vars == [v])) f by
    have := hs 0#w
    split at this
    · rename_i hn; rw [hn, this]; simp
    · exact this.symm
  induction e with
  | nil => intro m0; simp
  | cons p e ih =>
    intro m0
    by_cases hp : p.vars = [v]
    · have hb : (p.vars == [v]) = true := by simpa using hp
      simp only [List.filter_cons, hb, if_true, List.length_cons] at h
      have hnil : e.filter (fun p => p.vars == [v]) = [] := List.eq_nil_of_length_eq_zero (by omega)
      simp only [List.foldl_cons, hb, if_true, List.filter_cons, hnil]
      rw [foldl_lastCoef_none v e _ hnil, evaluate_singleton, hp]
      simp
    · have hb : (p.vars == [v]) = false := by simpa using hp
      simp only [List.filter_cons, hb] at h
      simp only [List.foldl_cons, hb, List.filter_cons]
      exact ih (by simpa using h) m0

theorem not_mem_variables_filter (e : Expr w) (v : Int)
    (hall : e.all (fun p => !p.vars.contains v || p.vars.length == 1) = true) :
    v ∉ variables (e.filter (fun p => !(p.vars == [v]))) := by
  intro hv
  simp only [variables, List.mem_flatMap, List.mem_filter] at hv
  obtain ⟨p, ⟨hp, hne⟩, hvp⟩ := hv
  have := List.all_eq_true.1 hall p hp
  simp only [Bool.or_eq_true, Bool.not_eq_true', List.contains_eq_mem, decide_eq_false_iff_not,
    beq_iff_eq] at this
  rcases this with h1 | h1
  · exact h1 hvp
  · obtain ⟨x, hx⟩ := List.length_eq_one_iff.1 h1
    rw [hx] at hvp hne
    simp only [List.mem_singleton] at hvp
    subst hvp
    simp at hne

theorem mono_zero_of_ne_nil (vs : List Int) (h : vs ≠ []) : mono (fun _ => (0#w : BitVec w)) vs = 0#w := by
  cases vs with
  | nil => exact absurd rfl h
  | cons v vs => simp

theorem evaluate_zero_of_no_const (e : Expr w) (h : ∀ p ∈ e, p.vars ≠ []) :
    evaluate e (fun _ => 0#w) = 0#w := by
  induction e with
  | nil => rfl
  | cons p e ih =>
    rw [evaluate_cons', mono_zero_of_ne_nil _ (h p List.mem_cons_self),
      ih (fun q hq => h q (List.mem_cons_of_mem _ hq))]
    simp

theorem eval_constantPart (e : Expr w) (hc : WeakCanon e) :
    constantPart e = evaluate e (fun _ => 0#w) := by
  unfold constantPart
  cases e with
  | nil => rfl
  | cons p e =>
    unfold WeakCanon at hc
    rw [List.pairwise_cons] at hc
    simp only
    rw [evaluate_cons', evaluate_zero_of_no_const e (fun q hq => (hc.1 q hq).1)]
    split
    · rename_i hv
      rw [List.isEmpty_iff.1 hv]; simp
    · rename_i hv
      rw [mono_zero_of_ne_nil _ (by simpa using hv)]; simp

/-- Two parts `[5]`: `incOf` accounts for only one of them. -/
example : let e : Expr 8 := [⟨1#8, [5]⟩, ⟨1#8, []⟩, ⟨1#8, [5]⟩]
    ¬ WeakCanon e ∧ incOf e 5 = some [⟨1#8, []⟩] ∧
      evaluate e (fun _ => 1#8) ≠ 1#8 + evaluate [⟨1#8, []⟩] (fun _ => 1#8) := by decide

/-- A constant part that is not first: `constantPart` misses it. -/
example : let e : Expr 8 := [⟨1#8, [5]⟩, ⟨1#8, []⟩]
    ¬ WeakCanon e ∧ constantPart e ≠ evaluate e (fun _ => 0#8) := by decide

end Expr
end Hpbf
