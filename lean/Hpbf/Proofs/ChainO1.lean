/-
Chain, level 1: canonical Brainfuck semantics vs. every backend at optimisation level 1
(source → `Program::parse` → `Program::optimize(1)` → IR interpreter / `translate` → bytecode interpreter /
`compileX86` → machine code).

`b` = the parser's output, `orders` = an ARBITRARY oracle of hash iteration orders, `b'` the block the optimizer
model returns for it (`hopt : Opt.optimize b 1 orders = .ok b'`; that the model succeeds for THIS oracle is a
hypothesis – an oracle that does not fit gives an error; a fitting one always exists and none makes the optimizer
panic: `OptTotal.optimize_total_parse`, `OptTotal.optimize_no_panic_parse`), `p := translate b' numRegs fuse`.
Everything else is as at level 0
(`Props/ChainTotal.lean`): the ingredient is `OptProof.optimize_parse_level1` (observable equivalence of `b` and
`b'`, and `OnceOk b' env` – the `once` marks the optimizer puts on loops are justified), transported through
the generic composition (`irAgrees_of_behEq`, `bcAgrees_of_ir`, the `*_of_agrees` corollaries).

After the level-1 section, for ANY level: `translate_window_optimized`, `jitRange_window_of_length` (the window fields
of `JitRange` from the length of the source; `Opt.optimize`'s output).
-/
import Hpbf.Proofs.ChainO1Gen
import Hpbf.Props.C10Opt

namespace Hpbf
namespace Chain

open Bc BcWf BcGen C11 C02

variable {w : Nat}

section Level1
variable (hw : 0 < w) {src : List Kind} {prog : Prog} (hp : Bf.tree src = some prog)
  {b b' : Ir.Block w} (hb : Ir.parse (w := w) src = .ok b) {orders : Opt.Orders}
  (hopt : Opt.optimize b 1 orders = .ok b') (env : Env)
-- one call shape for the whole family (`X hw hp hb hopt … env`): every theorem takes these hypotheses, used or not
include hw hp hb hopt

omit hp in
/-- The `once` marks of the optimized block are justified (the hypothesis of the emitter proofs). -/
theorem onceOk_level1 : OnceOk b' env := (OptProof.optimize_parse_level1 hw hb hopt env).2

theorem irAgrees_level1 : IrAgrees prog b' env :=
  irAgrees_of_behEq (irAgrees_level0 hw hp hb env) (OptProof.optimize_parse_level1 hw hb hopt env).1

theorem bcAgrees_level1 (numRegs : Nat) (fuse : Bool) : BcAgrees prog (translate b' numRegs fuse) env :=
  bcAgrees_of_ir (irAgrees_level1 hw hp hb hopt env) (onceOk_level1 hw hb hopt env) numRegs fuse

theorem ir_level1 :
    ((∀ f (s : State w), Bf.run f prog env = .done s →
        ∃ f' c, Ir.run b' false 0 f' env = .done c ∧ c.st.trace = s.trace) ∧
     (∀ f (s : State w), Bf.run f prog env = .stopped s →
        ∃ f' c, Ir.run b' false 0 f' env = .stopped c ∧ c.st.trace = s.trace)) ∧
    ((∀ f' (c : Ir.Cfg w), Ir.run b' false 0 f' env = .done c →
        ∃ (f : Nat) (s : State w), Bf.run f prog env = .done s ∧ s.trace = c.st.trace) ∧
     (∀ f' (c : Ir.Cfg w), Ir.run b' false 0 f' env = .stopped c →
        ∃ (f : Nat) (s : State w), Bf.run f prog env = .stopped s ∧ s.trace = c.st.trace)) ∧
    ((∀ f', ∃ f, C01.traceOf (Ir.run b' false 0 f' env) = C01.traceOfBf (Bf.run (w := w) f prog env)) ∧
     (∀ f, ∃ f', C01.traceOf (Ir.run b' false 0 f' env) = C01.traceOfBf (Bf.run (w := w) f prog env))) :=
  irAgrees_level1 hw hp hb hopt env

/-- The IR interpreter in limited mode at -O1 (C07): finished ⇒ the complete canonical event sequence; always
an initial part of it; a canonically divergent program is never reported finished. -/
theorem ir_limited_level1 :
    (∀ (bd f' : Nat) (c : Ir.Cfg w), Ir.run b' true bd f' env = .done c →
      ∃ (f : Nat) (s : State w), Bf.run f prog env = .done s ∧ s.trace = c.st.trace) ∧
    (∀ (bd f' : Nat) (c : Ir.Cfg w), Ir.run b' true bd f' env = .stopped c →
      ∃ (f : Nat) (s : State w), Bf.run f prog env = .stopped s ∧ s.trace = c.st.trace) ∧
    (∀ bd f', ∃ f, ∀ g, f ≤ g →
      C07.traceOfIr (Ir.run b' true bd f' env) <:+ C01.traceOfBf (Bf.run (w := w) g prog env)) :=
  ir_limited_of_agrees (irAgrees_level1 hw hp hb hopt env)

theorem bytecode_level1 (numRegs : Nat) (fuse : Bool) :
    ((∀ f (s : State w), Bf.run f prog env = .done s →
        ∃ f' c', Bc.run (translate b' numRegs fuse) false 0 f' env = .done c' ∧ c'.st.trace = s.trace) ∧
     (∀ f (s : State w), Bf.run f prog env = .stopped s →
        ∃ f' c', Bc.run (translate b' numRegs fuse) false 0 f' env = .stopped c' ∧ c'.st.trace = s.trace)) ∧
    ((∀ f' (c' : Bc.Cfg w), Bc.run (translate b' numRegs fuse) false 0 f' env = .done c' →
        ∃ (f : Nat) (s : State w), Bf.run f prog env = .done s ∧ s.trace = c'.st.trace) ∧
     (∀ f' (c' : Bc.Cfg w), Bc.run (translate b' numRegs fuse) false 0 f' env = .stopped c' →
        ∃ (f : Nat) (s : State w), Bf.run f prog env = .stopped s ∧ s.trace = c'.st.trace)) ∧
    ((∀ f', ∃ f, C07.traceOfBc (Bc.run (translate b' numRegs fuse) false 0 f' env) =
        C01.traceOfBf (Bf.run (w := w) f prog env)) ∧
     (∀ f, ∃ f', C07.traceOfBc (Bc.run (translate b' numRegs fuse) false 0 f' env) =
        C01.traceOfBf (Bf.run (w := w) f prog env))) :=
  bcAgrees_level1 hw hp hb hopt env numRegs fuse

theorem bytecode_level1_debug (numRegs : Nat) (fuse : Bool) :
    ((∀ f (s : State w), Bf.run f prog env = .done s →
        ∃ f' c', runDebug (translate b' numRegs fuse) false 0 f' env = .done c' ∧ c'.st.trace = s.trace) ∧
     (∀ f (s : State w), Bf.run f prog env = .stopped s →
        ∃ f' c', runDebug (translate b' numRegs fuse) false 0 f' env = .stopped c' ∧ c'.st.trace = s.trace)) ∧
    ((∀ f' (c' : Bc.Cfg w), runDebug (translate b' numRegs fuse) false 0 f' env = .done c' →
        ∃ (f : Nat) (s : State w), Bf.run f prog env = .done s ∧ s.trace = c'.st.trace) ∧
     (∀ f' (c' : Bc.Cfg w), runDebug (translate b' numRegs fuse) false 0 f' env = .stopped c' →
        ∃ (f : Nat) (s : State w), Bf.run f prog env = .stopped s ∧ s.trace = c'.st.trace)) ∧
    ((∀ f', ∃ f, C07.traceOfBc (runDebug (translate b' numRegs fuse) false 0 f' env) =
        C01.traceOfBf (Bf.run (w := w) f prog env)) ∧
     (∀ f, ∃ f', C07.traceOfBc (runDebug (translate b' numRegs fuse) false 0 f' env) =
        C01.traceOfBf (Bf.run (w := w) f prog env))) :=
  bcAgrees_debug (bcAgrees_level1 hw hp hb hopt env numRegs fuse)

omit hw hp hb hopt in
/-- Never "malformed bytecode" (every mode, budget, fuel), never interrupted in unlimited mode (this holds for
the translation of EVERY block: `translate_never_bad_unconditional`). -/
theorem bytecode_level1_proper (numRegs : Nat) (fuse : Bool) :
    (∀ (l : Bool) (bd f' : Nat) (c' : Bc.Cfg w), Bc.run (translate b' numRegs fuse) l bd f' env ≠ .bad c') ∧
    (∀ (f' : Nat) (c' : Bc.Cfg w), Bc.run (translate b' numRegs fuse) false 0 f' env ≠ .interrupted c') :=
  translate_never_bad_unconditional b' numRegs fuse env

theorem bc_never_returns_level1 (numRegs : Nat) (fuse : Bool) (hdiv : C05.BfDiverges w prog env) :
    (∀ (f' : Nat) (c : Bc.Cfg w),
      Bc.run (translate b' numRegs fuse) false 0 f' env ≠ .done c ∧
      Bc.run (translate b' numRegs fuse) false 0 f' env ≠ .stopped c) ∧
    (∀ (bd f' : Nat) (c : Bc.Cfg w),
      Bc.run (translate b' numRegs fuse) true bd f' env ≠ .done c ∧
      Bc.run (translate b' numRegs fuse) true bd f' env ≠ .stopped c) :=
  bc_never_returns (bcAgrees_level1 hw hp hb hopt env numRegs fuse) hdiv

theorem bc_runs_forever_level1 (numRegs : Nat) (fuse : Bool) (hdiv : C05.BfDiverges w prog env) :
    ∀ f', ∃ c : Bc.Cfg w, Bc.run (translate b' numRegs fuse) false 0 f' env = .outOfFuel c :=
  bc_runs_forever (bcAgrees_level1 hw hp hb hopt env numRegs fuse) hdiv
    (translate_never_bad_unconditional b' numRegs fuse env).1

theorem bc_limited_interrupted_level1 (numRegs : Nat) (fuse : Bool) (hdiv : C05.BfDiverges w prog env) :
    ∀ bd, ∃ f' c, Bc.run (translate b' numRegs fuse) true bd f' env = .interrupted c :=
  bc_limited_interrupted (bcAgrees_level1 hw hp hb hopt env numRegs fuse) hdiv
    (translate_never_bad_unconditional b' numRegs fuse env).1

theorem bc_divergent_output_level1 (numRegs : Nat) (fuse : Bool) (hdiv : C05.BfDiverges w prog env) :
    (∀ f, ∃ f' c c', Bf.run (w := w) f prog env = .outOfFuel c ∧
      Bc.run (translate b' numRegs fuse) false 0 f' env = .outOfFuel c' ∧ c'.st.trace = c.st.trace) ∧
    (∀ f', ∃ f c c', Bc.run (translate b' numRegs fuse) false 0 f' env = .outOfFuel c' ∧
      Bf.run (w := w) f prog env = .outOfFuel c ∧ c'.st.trace = c.st.trace) :=
  bc_divergent_output (bcAgrees_level1 hw hp hb hopt env numRegs fuse) hdiv
    (translate_never_bad_unconditional b' numRegs fuse env).1

theorem bc_limited_finished_level1 (numRegs : Nat) (fuse : Bool) :
    (∀ (bd f' : Nat) (c : Bc.Cfg w), Bc.run (translate b' numRegs fuse) true bd f' env = .done c →
      ∃ (f : Nat) (s : State w), Bf.run f prog env = .done s ∧ s.trace = c.st.trace) ∧
    (∀ (bd f' : Nat) (c : Bc.Cfg w), Bc.run (translate b' numRegs fuse) true bd f' env = .stopped c →
      ∃ (f : Nat) (s : State w), Bf.run f prog env = .stopped s ∧ s.trace = c.st.trace) :=
  bc_limited_finished (bcAgrees_level1 hw hp hb hopt env numRegs fuse)

theorem bc_limited_prefix_level1 (numRegs : Nat) (fuse : Bool) :
    ∀ bd f', ∃ f, ∀ g, f ≤ g →
      C07.traceOfBc (Bc.run (translate b' numRegs fuse) true bd f' env) <:+
        C01.traceOfBf (Bf.run (w := w) g prog env) :=
  bc_limited_is_prefix (bcAgrees_level1 hw hp hb hopt env numRegs fuse)

theorem bc_limited_enough_level1 (numRegs : Nat) (fuse : Bool) :
    (∀ (f : Nat) (s : State w), Bf.run f prog env = .done s →
      ∃ g, ∀ bd, g ≤ bd →
        ∃ f' c, Bc.run (translate b' numRegs fuse) true bd f' env = .done c ∧ c.st.trace = s.trace) ∧
    (∀ (f : Nat) (s : State w), Bf.run f prog env = .stopped s →
      ∃ g, ∀ bd, g ≤ bd →
        ∃ f' c, Bc.run (translate b' numRegs fuse) true bd f' env = .stopped c ∧ c.st.trace = s.trace) :=
  bc_limited_enough (bcAgrees_level1 hw hp hb hopt env numRegs fuse)

theorem bc_stops_like_canonical_level1 (numRegs : Nat) (fuse : Bool) :
    ∀ (f : Nat) (s : State w), Bf.run f prog env = .stopped s →
      ∃ f' c, (∀ k, Bc.run (translate b' numRegs fuse) false 0 (f' + k) env = .stopped c) ∧
        c.st.trace = s.trace :=
  bc_stops_like_canonical (bcAgrees_level1 hw hp hb hopt env numRegs fuse)

theorem bc_stops_only_like_canonical_level1 (numRegs : Nat) (fuse : Bool) :
    ∀ (l : Bool) (bd f' : Nat) (c : Bc.Cfg w), Bc.run (translate b' numRegs fuse) l bd f' env = .stopped c →
      (l = false → bd = 0) →
      ∃ (f : Nat) (s : State w), Bf.run f prog env = .stopped s ∧ s.trace = c.st.trace :=
  bc_stops_only_like_canonical (bcAgrees_level1 hw hp hb hopt env numRegs fuse)

section Jit
open Asm JitGen X86Sem X86Prog C03
variable {sz : Size} {safe : Bool} {cfg : X86Prog.Cfg} {buf0 rsp0 ra : BitVec 64}

theorem jit_level1_forward (R : JitRange sz (translate b' 11 false) false safe cfg buf0 rsp0 ra 0 env) :
    let p := translate b' 11 false
    let s0 : PState w := initState cfg buf0 rsp0 ra p.minAcc p.maxAcc 0 env
    (∀ f (s : State w), Bf.run f prog env = .done s →
      ∃ n s', X86Prog.run cfg n s0 = .ret s' ∧ s'.regs.rax = 1 ∧ s'.trace = s.trace) ∧
    (∀ f (s : State w), Bf.run f prog env = .stopped s →
      ∃ n s', X86Prog.run cfg n s0 = .ret s' ∧ s'.regs.rax = 0 ∧ s'.trace = s.trace) :=
  jit_forward_of_agrees (bcAgrees_level1 hw hp hb hopt env 11 false)
    (jitHyps_of_range (translate_ok b' 11 false) R)

theorem jit_level1_unique (R : JitRange sz (translate b' 11 false) false safe cfg buf0 rsp0 ra 0 env) :
    let p := translate b' 11 false
    let s0 : PState w := initState cfg buf0 rsp0 ra p.minAcc p.maxAcc 0 env
    (∀ f (s : State w), Bf.run f prog env = .done s →
      ∀ n s', X86Prog.run cfg n s0 = .ret s' → s'.regs.rax = 1 ∧ s'.trace = s.trace) ∧
    (∀ f (s : State w), Bf.run f prog env = .stopped s →
      ∀ n s', X86Prog.run cfg n s0 = .ret s' → s'.regs.rax = 0 ∧ s'.trace = s.trace) :=
  jit_unique_of_agrees (bcAgrees_level1 hw hp hb hopt env 11 false)
    (jitHyps_of_range (translate_ok b' 11 false) R)

theorem jit_level1_prefix (R : JitRange sz (translate b' 11 false) false safe cfg buf0 rsp0 ra 0 env) :
    let p := translate b' 11 false
    let s0 : PState w := initState cfg buf0 rsp0 ra p.minAcc p.maxAcc 0 env
    ∀ f, ∃ n s', (steps cfg n s0 = some s' ∨ X86Prog.run cfg n s0 = .ret s') ∧
      s'.trace = C01.traceOfBf (Bf.run (w := w) f prog env) :=
  jit_prefix_of_agrees (bcAgrees_level1 hw hp hb hopt env 11 false)
    (jitHyps_of_range (translate_ok b' 11 false) R)

theorem jit_level1_divergent (R : JitRange sz (translate b' 11 false) false safe cfg buf0 rsp0 ra 0 env)
    (hdiv : C05.BfDiverges w prog env) :
    let p := translate b' 11 false
    let s0 : PState w := initState cfg buf0 rsp0 ra p.minAcc p.maxAcc 0 env
    ∀ f, ∃ n s', steps cfg n s0 = some s' ∧ s'.trace = C01.traceOfBf (Bf.run (w := w) f prog env) :=
  jit_divergent_of_agrees (bcAgrees_level1 hw hp hb hopt env 11 false)
    (jitHyps_of_range (translate_ok b' 11 false) R) hdiv

theorem jit_level1_limited {bd : Nat}
    (R : JitRange sz (translate b' 11 false) true safe cfg buf0 rsp0 ra bd env) :
    let p := translate b' 11 false
    let s0 : PState w := initState cfg buf0 rsp0 ra p.minAcc p.maxAcc bd env
    ∃ n s', X86Prog.run cfg n s0 = .ret s' ∧
      (∀ n2 s2, X86Prog.run cfg n2 s0 = .ret s2 → s2 = s') ∧
      (s'.regs.rax = 1 ∨ s'.regs.rax = 0) ∧
      (s'.regs.rax = 1 → ∃ (f : Nat) (s : State w), Bf.run f prog env = .done s ∧ s.trace = s'.trace) ∧
      (∃ f, ∀ g, f ≤ g → s'.trace <:+ C01.traceOfBf (Bf.run (w := w) g prog env)) :=
  jit_limited_of_agrees (bcAgrees_level1 hw hp hb hopt env 11 false)
    (jitHyps_of_range (translate_ok b' 11 false) R)

theorem jit_level1_limited_enough :
    let p := translate b' 11 false
    (∀ f (s : State w), Bf.run f prog env = .done s → ∃ g, ∀ bd, g ≤ bd →
      JitRange sz p true safe cfg buf0 rsp0 ra bd env →
      ∃ n s', X86Prog.run cfg n (initState (w := w) cfg buf0 rsp0 ra p.minAcc p.maxAcc bd env) = .ret s' ∧
        s'.regs.rax = 1 ∧ s'.trace = s.trace) ∧
    (∀ f (s : State w), Bf.run f prog env = .stopped s → ∃ g, ∀ bd, g ≤ bd →
      JitRange sz p true safe cfg buf0 rsp0 ra bd env →
      ∃ n s', X86Prog.run cfg n (initState (w := w) cfg buf0 rsp0 ra p.minAcc p.maxAcc bd env) = .ret s' ∧
        s'.regs.rax = 0 ∧ s'.trace = s.trace) :=
  jit_limited_enough_of_range (bcAgrees_level1 hw hp hb hopt env 11 false)

end Jit

end Level1

/-- The access window of the bytecode for the optimized block lies within `[-length, length]` of the source
(any level, any oracle, any register count, fusion on/off). -/
theorem translate_window_optimized {src : List Kind} {b b' : Ir.Block w} {level : Nat} {orders : Opt.Orders}
    (hb : Ir.parse (w := w) src = .ok b) (hopt : Opt.optimize b level orders = .ok b')
    (numRegs : Nat) (fuse : Bool) :
    -(src.length : Int) ≤ (translate b' numRegs fuse).minAcc ∧
    (translate b' numRegs fuse).maxAcc ≤ (src.length : Int) := by
  obtain ⟨h1, h2⟩ := translate_window_final b' numRegs fuse
  rw [h1, h2]
  exact OptOffs.optimized_window_le_length hb hopt

/-- Hence the four window fields of `JitRange` follow from `bytes * length < 2^31`. -/
theorem jitRange_window_of_length {src : List Kind} {b b' : Ir.Block w} {level : Nat} {orders : Opt.Orders}
    (hb : Ir.parse (w := w) src = .ok b) (hopt : Opt.optimize b level orders = .ok b')
    (numRegs : Nat) (fuse : Bool) (sz : Asm.Size) (hlen : (sz.bytes : Int) * src.length < 2147483648) :
    let p := translate b' numRegs fuse
    (-2147483648 < p.minAcc ∧ p.maxAcc < 2147483648) ∧ C03.DispOk sz p.minAcc ∧ C03.DispOk sz p.maxAcc ∧
    C03.DispOk sz (-p.minAcc) ∧ C03.DispOk sz (-p.maxAcc) :=
  jitRange_window_of_bound b' numRegs fuse sz (OptOffs.optimized_window_le_length hb hopt) hlen

/-- **Level 1, all backends.**  For every balanced source text `code` (bracket tree `prog`), every cell width
`w ≥ 1`, every environment `env`, every oracle `orders` of hash iteration orders for which the optimizer model
returns a block `b'` at level 1 (`Opt.optimize (parse code) 1 orders = .ok b'` – the ONLY hypothesis added to
`level0_all_backends`: the oracle is arbitrary, and a fitting one always exists, `OptTotal.optimize_total_parse`):
the six conjuncts of `level0_all_backends` (spelled out there and at `AllBackends`), with the IR interpreter run on
the OPTIMIZED block `b'` and the bytecode and machine code those of `translate b'`.

Only events (and the kind of ending) are compared: the optimizer does not preserve the final tape or pointer
(`OptProof.tape_not_preserved`). -/
theorem level1_all_backends (hw : 0 < w) (code : Array Kind) (prog : Prog)
    (hp : Bf.tree code.toList = some prog) (orders : Opt.Orders) (b' : Ir.Block w)
    (hopt : Opt.optimize (irOf w code.toList) 1 orders = .ok b') (numRegs : Nat) (fuse : Bool) (env : Env) :
    let canon : Nat → Fin := fun f => finBf (Bf.run (w := w) f prog env)
    let p : Bc.Program w := translate b' numRegs fuse
    let pj : Bc.Program w := translate b' 11 false
    SameResults canon (fun f => finInplace (Inplace.run (w := w) code false 0 f env)) ∧
    SameResults canon (fun f => finIr (Ir.run b' false 0 f env)) ∧
    SameResults canon (fun f => finBc (Bc.run p false 0 f env)) ∧
    SameResults canon (fun f => finBc (C02.runDebug p false 0 f env)) ∧
    (∀ (sz : Asm.Size) (safe : Bool) (cfg : X86Prog.Cfg) (buf0 rsp0 ra : BitVec 64),
      JitRange sz pj false safe cfg buf0 rsp0 ra 0 env →
      ∀ r, (∃ f, canon f = some r) →
        ∃ n, finX86 (X86Prog.run cfg n (X86Prog.initState (w := w) cfg buf0 rsp0 ra pj.minAcc pj.maxAcc 0 env))
          = some r) ∧
    (∀ (sz : Asm.Size) (safe : Bool) (cfg : X86Prog.Cfg) (buf0 rsp0 ra : BitVec 64) (bd : Nat),
      JitRange sz pj true safe cfg buf0 rsp0 ra bd env →
      ∃ n r, finX86 (X86Prog.run cfg n (X86Prog.initState (w := w) cfg buf0 rsp0 ra pj.minAcc pj.maxAcc bd env))
          = some r ∧
        (r.1 = true → ∃ f, canon f = some r) ∧
        ∃ f, ∀ g, f ≤ g → r.2 <:+ C01.traceOfBf (Bf.run (w := w) g prog env)) := by
  intro canon p pj
  have hb := parse_irOf (w := w) hp
  exact allBackends_of_agrees hp (irAgrees_level1 hw hp hb hopt env) (onceOk_level1 hw hb hopt env) numRegs fuse

end Chain
end Hpbf
