/-
C06: in the bounds-checked modes every move keeps the declared access window inside the tape
allocation (layout model `Hpbf/Window.lean`), so a run whose accesses stay in the window
(`C11.LocalFacts`) touches allocated cells only. All claims are under the range guard of C09,
`bound = 2^59` cells, on the allocation sizes along the run, the window constants and the shifts.
Between a move and its probe the pointer index can be up to `2 * bound` away from the allocation,
so the closed form of `Mem.growth` is used in the wider range `2^61` (nothing wraps below `2^63`).
-/
import Hpbf.Window
import Hpbf.Proofs.C11
import Hpbf.Proofs.C09

namespace Hpbf
namespace C06

open Window

variable {w : Nat}

/-- `2^59`, the same number as `Mem.bound` of C09.  `bound`, `SmallArg` and `Lay.Small` have the bodies of `Mem.bound`,
`Mem.SmallArg`, `Mem.Small`; `lay_of_makeAccessible'` passes the one for the other. -/
def bound : Int := 576460752303423488

theorem bound_eq : bound = 2 ^ 59 := by decide

def SmallArg (x : Int) : Prop := -bound < x ∧ x < bound

instance (x : Int) : Decidable (SmallArg x) := by unfold SmallArg; infer_instance

def _root_.Hpbf.Window.Lay.Small (l : Lay) : Prop :=
  (l.size : Int) < bound ∧ -bound < l.cur ∧ l.cur < bound

instance (l : Lay) : Decidable l.Small := by unfold Lay.Small; infer_instance

instance (l : Lay) (mn mx : Int) : Decidable (l.InWindow mn mx) := by unfold Lay.InWindow; infer_instance

/-- `4 * bound = 2^61`: after a move `cur` is up to `2 * bound` off (`wide_near`), plus an argument below `bound`; anything
that keeps `cur + a` below `2^63` would do. -/
def _root_.Hpbf.Window.Lay.Wide (l : Lay) : Prop :=
  (l.size : Int) ≤ 4 * bound ∧ -(4 * bound) ≤ l.cur ∧ l.cur ≤ 4 * bound

theorem _root_.Hpbf.Window.Lay.Small.wide {l : Lay} (h : l.Small) : l.Wide := by
  unfold Lay.Small Lay.Wide bound at *; omega

theorem SmallArg.wide {x : Int} (h : SmallArg x) : -(4 * bound) ≤ x ∧ x ≤ 4 * bound := by
  unfold SmallArg bound at *; omega

theorem window_wide {mn mx : Int} (hmn : SmallArg mn) (hmx : SmallArg mx) :
    -(4 * bound) ≤ mn ∧ mn ≤ 4 * bound ∧ -(4 * bound) ≤ mx + 1 ∧ mx + 1 ≤ 4 * bound := by
  unfold SmallArg bound at *; omega

def _root_.Hpbf.Window.Lay.ofMem (m : Mem w) : Lay := ⟨m.size, asI64 m.offset⟩

-- `needed_below`, `needed_above`, `new_size - size` and `added_below` of `Memory::make_accessible`
-- without wrap-arounds, as in C09 but over layouts.  The two closed forms rest on the same two lemmas of C09: the case
-- analysis `addedBelow_cases` and the absence of wrap-arounds `Mem.growth_eq_of_noWrap` (`growthSpec_ofMem` ties them).
def _root_.Hpbf.Window.Lay.needBelow (l : Lay) (a : Int) : Nat := (-(l.cur + a)).toNat
def _root_.Hpbf.Window.Lay.needAbove (l : Lay) (b : Int) : Nat := (l.cur + b - l.size).toNat
def _root_.Hpbf.Window.Lay.added (l : Lay) (a b : Int) : Nat :=
  max (l.size / 2) (l.needBelow a + l.needAbove b)
def _root_.Hpbf.Window.Lay.addedBelow (l : Lay) (a b : Int) : Nat :=
  if l.needBelow a = 0 then 0
  else if l.needAbove b = 0 then l.added a b
  else min (max (l.needBelow a) (l.added a b / 2)) (l.added a b - l.needAbove b)

def _root_.Hpbf.Window.Lay.NoGrowth (l : Lay) (a b : Int) : Prop := l.needBelow a = 0 ∧ l.needAbove b = 0

instance (l : Lay) (a b : Int) : Decidable (l.NoGrowth a b) := by unfold Lay.NoGrowth; infer_instance

theorem noGrowth_iff (l : Lay) (a b : Int) :
    l.NoGrowth a b ↔ 0 ≤ l.cur + a ∧ l.cur + b ≤ l.size := by
  unfold Lay.NoGrowth Lay.needBelow Lay.needAbove; omega

theorem growthSpec_ofMem (m : Mem w) (a b : Int) :
    m.growthSpec a b = ((Lay.ofMem m).needBelow a, (Lay.ofMem m).needAbove b,
      m.size + (Lay.ofMem m).added a b, (Lay.ofMem m).addedBelow a b) := by
  unfold Mem.growthSpec Mem.addedBelow
  rw [Mem.newSize_sub_size]
  rfl

theorem growth_closed {m : Mem w} {a b : Int} (hm : (Lay.ofMem m).Wide)
    (ha1 : -(4 * bound) ≤ a) (ha2 : a ≤ 4 * bound) (hb1 : -(4 * bound) ≤ b) (hb2 : b ≤ 4 * bound) :
    m.growth a b = ((Lay.ofMem m).needBelow a, (Lay.ofMem m).needAbove b,
      m.size + (Lay.ofMem m).added a b, (Lay.ofMem m).addedBelow a b) := by
  rw [← growthSpec_ofMem]
  obtain ⟨h1, h2, h3⟩ := hm
  simp only [Lay.ofMem] at h1 h2 h3
  unfold bound at *
  apply Mem.growth_eq_of_noWrap <;> omega

theorem addedBelow_bounds (l : Lay) (a b : Int) :
    l.needBelow a ≤ l.addedBelow a b ∧
    l.addedBelow a b + l.needAbove b ≤ l.added a b ∧
    (l.needBelow a = 0 → l.addedBelow a b = 0) ∧
    (l.needBelow a ≠ 0 → l.needAbove b = 0 → l.addedBelow a b = l.added a b) := by
  obtain ⟨h1, h2, h3, h4, -⟩ := addedBelow_cases (ab := l.addedBelow a b)
    (Nat.le_max_right (l.size / 2) (l.needBelow a + l.needAbove b)) rfl
  exact ⟨h1, h2, h3, h4⟩

theorem grow_eq {l : Lay} {a b : Int} (hl : l.Wide)
    (ha1 : -(4 * bound) ≤ a) (ha2 : a ≤ 4 * bound) (hb1 : -(4 * bound) ≤ b) (hb2 : b ≤ 4 * bound) :
    l.grow a b =
      if l.NoGrowth a b then l
      else { size := l.size + l.added a b, cur := l.cur + (l.addedBelow a b : Nat) } := by
  have ho : asI64 (wrapU64 l.cur) = l.cur := by
    unfold Lay.Wide bound at hl
    apply asI64_wrapU64 <;> omega
  have hof : Lay.ofMem ({ buf := #[], size := l.size, offset := wrapU64 l.cur } : Mem 8) = l := by
    unfold Lay.ofMem; rw [ho]
  have hg := growth_closed (m := ({ buf := #[], size := l.size, offset := wrapU64 l.cur } : Mem 8))
    (a := a) (b := b) (by rw [hof]; exact hl) ha1 ha2 hb1 hb2
  rw [hof] at hg
  unfold Lay.grow
  simp only [hg]
  rfl

/-- No guard needed: `new_size = size + max(..)`. -/
theorem grow_size_ge (l : Lay) (a b : Int) : l.size ≤ (l.grow a b).size := by
  unfold Lay.grow
  simp only
  split
  · exact Nat.le_refl _
  · show l.size ≤ l.size + _
    omega

theorem inBounds_iff (l : Lay) (o : Int) :
    l.inBounds o = true ↔ 0 ≤ l.cur + o ∧ l.cur + o < (l.size : Int) := by
  unfold Lay.inBounds
  simp only [Bool.and_eq_true, decide_eq_true_eq]

theorem inWindow_iff (l : Lay) (mn mx : Int) :
    l.InWindow mn mx ↔ 0 ≤ l.cur + mn ∧ l.cur + mx < (l.size : Int) := Iff.rfl

theorem grow_shape {l : Lay} {a b : Int} (hl : l.Wide)
    (ha1 : -(4 * bound) ≤ a) (ha2 : a ≤ 4 * bound) (hb1 : -(4 * bound) ≤ b) (hb2 : b ≤ 4 * bound) :
    ∃ below above : Nat,
      (l.grow a b).size = below + l.size + above ∧
      (l.grow a b).cur = l.cur + below ∧
      below = (if l.NoGrowth a b then 0 else l.addedBelow a b) ∧
      (∀ i, a ≤ i → i < b → (l.grow a b).inBounds i = true) ∧
      (∀ o, l.inBounds o = true → (l.grow a b).inBounds o = true) := by
  have hn := noGrowth_iff l a b
  obtain ⟨b1, b2, -, -⟩ := addedBelow_bounds l a b
  rw [grow_eq hl ha1 ha2 hb1 hb2]
  by_cases h : l.NoGrowth a b
  · simp only [if_pos h]
    refine ⟨0, 0, by omega, by omega, rfl, ?_, fun o ho => ho⟩
    intro i hi1 hi2
    have := hn.1 h
    rw [inBounds_iff]; omega
  · simp only [if_neg h]
    refine ⟨l.addedBelow a b, l.added a b - l.addedBelow a b, ?_, rfl, rfl, ?_, ?_⟩
    · show l.size + l.added a b = _
      omega
    · intro i hi1 hi2
      have k1 : -(l.cur + a) ≤ l.needBelow a := Int.self_le_toNat _
      have k2 : l.cur + b - l.size ≤ l.needAbove b := Int.self_le_toNat _
      rw [inBounds_iff]
      simp only
      omega
    · intro o ho
      rw [inBounds_iff] at ho ⊢
      simp only
      omega

theorem grow_inWindow {l : Lay} {mn mx : Int} (hl : l.Wide) (h0 : mn ≤ mx)
    (hmn : SmallArg mn) (hmx : SmallArg mx) : (l.grow mn (mx + 1)).InWindow mn mx := by
  obtain ⟨a1, a2, b1, b2⟩ := window_wide hmn hmx
  obtain ⟨_, _, -, -, -, h, -⟩ := grow_shape hl a1 a2 b1 b2
  have h1 := (inBounds_iff _ _).1 (h mn (Int.le_refl _) (by omega))
  have h2 := (inBounds_iff _ _).1 (h mx h0 (by omega))
  exact ⟨h1.1, h2.2⟩

/-- In the JIT's checked mode a failed probe asks `make_accessible` for the probe cell alone; the
threaded mode (`move_threaded_eq`) asks for the whole window. -/
theorem move_jit_eq (mn mx : Int) (l : Lay) (sh : Int) :
    Lay.move .jitSafe mn mx l sh =
      let l' : Lay := { l with cur := l.cur + sh }
      let probe := if sh < 0 then mn else mx
      if l'.inBounds probe then l'
      else
        let lg := ({ l' with cur := l'.cur + probe } : Lay).grow 0 1
        { lg with cur := lg.cur - probe } := rfl

theorem move_threaded_eq (mn mx : Int) (l : Lay) (sh : Int) :
    Lay.move .threadedSafe mn mx l sh =
      let l' : Lay := { l with cur := l.cur + sh }
      let probe := if sh < 0 then mn else mx
      if l'.inBounds probe then l' else l'.grow mn (mx + 1) := rfl

theorem probe_cases (mn mx sh : Int) :
    (if sh < 0 then mn else mx) = mn ∧ sh < 0 ∨ (if sh < 0 then mn else mx) = mx ∧ 0 ≤ sh := by
  split <;> omega

/-- A move to the left cannot push the upper edge of the window out and vice versa, so probing the
edge in the direction of the move is enough. -/
theorem probe_inWindow {l : Lay} {mn mx sh probe : Int} (hw : l.InWindow mn mx)
    (hpr : probe = mn ∧ sh < 0 ∨ probe = mx ∧ 0 ≤ sh)
    (hp : ({ l with cur := l.cur + sh } : Lay).inBounds probe = true) :
    ({ l with cur := l.cur + sh } : Lay).InWindow mn mx := by
  obtain ⟨w1, w2⟩ := hw
  rw [inBounds_iff] at hp
  unfold Lay.InWindow
  simp only at hp ⊢
  omega

/-- `2 * bound` covers a shift, or a shift plus a window edge. -/
theorem wide_near {l : Lay} {mn mx : Int} (hw : l.InWindow mn mx) (hs : (l.size : Int) < bound)
    (hmn : SmallArg mn) (hmx : SmallArg mx) {c : Int} (h1 : l.cur - 2 * bound ≤ c)
    (h2 : c ≤ l.cur + 2 * bound) : ({ size := l.size, cur := c } : Lay).Wide := by
  unfold Lay.InWindow SmallArg Lay.Wide bound at *
  simp only
  omega

theorem move_inWindow' {mode : Mode} (hmode : mode ≠ .unchecked) {mn mx : Int} {l : Lay} (sh : Int)
    (h0 : mn ≤ 0) (h1 : 0 ≤ mx) (hw : l.InWindow mn mx)
    (hs : (l.size : Int) < bound) (hmn : SmallArg mn) (hmx : SmallArg mx) (hsh : SmallArg sh) :
    (Lay.move mode mn mx l sh).InWindow mn mx := by
  have hpr := probe_cases mn mx sh
  cases mode with
  | unchecked => exact absurd rfl hmode
  | threadedSafe =>
    rw [move_threaded_eq]
    simp only
    generalize (if sh < 0 then mn else mx) = probe at hpr ⊢
    by_cases hp : ({ size := l.size, cur := l.cur + sh } : Lay).inBounds probe = true
    · rw [if_pos hp]
      exact probe_inWindow hw hpr hp
    · rw [if_neg hp]
      have hwide := wide_near hw hs hmn hmx (c := l.cur + sh)
        (by unfold SmallArg bound at *; omega) (by unfold SmallArg bound at *; omega)
      exact grow_inWindow hwide (by omega) hmn hmx
  | jitSafe =>
    rw [move_jit_eq]
    simp only
    generalize (if sh < 0 then mn else mx) = probe at hpr ⊢
    by_cases hp : ({ size := l.size, cur := l.cur + sh } : Lay).inBounds probe = true
    · rw [if_pos hp]
      exact probe_inWindow hw hpr hp
    · -- The probe cell is made accessible; the allocation is contiguous from there to the old
      -- window, whose far edge the move has brought further inside.
      rw [if_neg hp]
      have hwide := wide_near hw hs hmn hmx (c := l.cur + sh + probe)
        (by unfold SmallArg bound at *; omega) (by unfold SmallArg bound at *; omega)
      obtain ⟨below, above, hsz, hcur, -, hin, -⟩ := grow_shape (a := 0) (b := 1) hwide
        (by unfold bound; omega) (by unfold bound; omega) (by unfold bound; omega)
        (by unfold bound; omega)
      have h := (inBounds_iff _ _).1 (hin 0 (Int.le_refl 0) (by omega))
      obtain ⟨w1, w2⟩ := hw
      unfold Lay.InWindow
      rw [hsz, hcur] at h ⊢
      simp only at h ⊢
      omega

theorem grow_noop {l : Lay} {mn mx : Int} (hw : l.InWindow mn mx)
    (hs : (l.size : Int) < bound) (hmn : SmallArg mn) (hmx : SmallArg mx) :
    l.grow mn (mx + 1) = l := by
  obtain ⟨a1, a2, b1, b2⟩ := window_wide hmn hmx
  have hwide := wide_near hw hs hmn hmx (c := l.cur) (by unfold bound; omega) (by unfold bound; omega)
  rw [grow_eq hwide a1 a2 b1 b2, if_pos ((noGrowth_iff l mn (mx + 1)).2 ⟨hw.1, by have := hw.2; omega⟩)]

theorem lay_of_makeAccessible' {m : Mem w} {a b : Int} (hm : (Lay.ofMem m).Small)
    (ha : SmallArg a) (hb : SmallArg b) :
    Lay.ofMem (m.makeAccessible a b) = (Lay.ofMem m).grow a b := by
  have hr : Mem.RangeGuard a b := Mem.SmallArg.range ha hb
  rw [Mem.makeAccessible_eq hm hr, grow_eq hm.wide ha.wide.1 ha.wide.2 hb.wide.1 hb.wide.2]
  by_cases hn : m.NoGrowth a b
  · rw [if_pos hn, if_pos (show (Lay.ofMem m).NoGrowth a b from hn)]
  · rw [if_neg hn, if_neg (show ¬ (Lay.ofMem m).NoGrowth a b from hn)]
    have e : m.addedBelow a b = (Lay.ofMem m).addedBelow a b :=
      congrArg (·.2.2.2) (growthSpec_ofMem m a b)
    show Lay.mk _ (asI64 (wrapU64 (m.offset + m.addedBelow a b))) = _
    rw [Mem.addedBelow_offset hm hr, e]
    rfl

open Bc BcWf

def shiftOf : Instr w → Int
  | .mov sh => sh
  | .scan _ sh => sh
  | _ => 0

def SmallProg (p : Program w) : Prop :=
  SmallArg p.minAcc ∧ SmallArg p.maxAcc ∧ ∀ ins ∈ p.insts.toList, SmallArg (shiftOf ins)

instance (p : Program w) : Decidable (SmallProg p) := by unfold SmallProg; infer_instance

theorem SmallProg.shift {p : Program w} (h : SmallProg p) {i : Nat} {ins : Instr w}
    (hi : p.insts[i]? = some ins) : SmallArg (shiftOf ins) :=
  h.2.2 ins (Array.mem_toList_iff.2 (Array.mem_of_getElem? hi))

/-- Dynamic part of the range guard: the allocation size at every instruction boundary. -/
def smallRun (mode : Mode) (p : Program w) (limited : Bool) : Nat → Cfg w → Lay → Bool
  | 0, _, l => decide ((l.size : Int) < bound)
  | fuel + 1, c, l =>
    decide ((l.size : Int) < bound) &&
    match Bc.step p limited c with
    | .next c' => smallRun mode p limited fuel c' (layStep mode p c c' l)
    | _ => true

theorem move_size_ge (mode : Mode) (mn mx : Int) (l : Lay) (sh : Int) :
    l.size ≤ (Lay.move mode mn mx l sh).size := by
  cases mode with
  | unchecked => exact Nat.le_refl _
  | threadedSafe =>
    rw [move_threaded_eq]
    simp only
    generalize (if sh < 0 then mn else mx) = probe
    split
    · exact Nat.le_refl _
    · exact grow_size_ge { size := l.size, cur := l.cur + sh } mn (mx + 1)
  | jitSafe =>
    rw [move_jit_eq]
    simp only
    generalize (if sh < 0 then mn else mx) = probe
    split
    · exact Nat.le_refl _
    · exact grow_size_ge { size := l.size, cur := l.cur + sh + probe } 0 1

theorem layStep_size_ge (mode : Mode) (p : Program w) (c c' : Cfg w) (l : Lay) :
    l.size ≤ (layStep mode p c c' l).size := by
  unfold layStep
  split
  · exact move_size_ge _ _ _ _ _
  · split
    · exact move_size_ge _ _ _ _ _
    · exact Nat.le_refl _
  · exact Nat.le_refl _

theorem runLay_size_ge (mode : Mode) (p : Program w) (limited : Bool) :
    ∀ (fuel : Nat) (c : Cfg w) (l : Lay) (ok : Bool),
      l.size ≤ (runLay mode p limited fuel c l ok).lay.size := by
  intro fuel
  induction fuel with
  | zero => intro c l ok; simp only [runLay]; exact Nat.le_refl _
  | succ n ih =>
    intro c l ok
    simp only [runLay]
    cases hs : Bc.step p limited c with
    | next c' =>
      simp only
      exact Nat.le_trans (layStep_size_ge mode p c c' l) (ih _ _ _)
    | halt c' => exact Nat.le_refl _
    | stop c' => exact Nat.le_refl _
    | interrupted c' => exact Nat.le_refl _
    | bad c' => exact Nat.le_refl _

/-- Sizes are monotone, so the dynamic guard follows from a bound on the final size. -/
theorem smallRun_of_final (mode : Mode) (p : Program w) (limited : Bool) :
    ∀ (fuel : Nat) (c : Cfg w) (l : Lay) (ok : Bool),
      ((runLay mode p limited fuel c l ok).lay.size : Int) < bound →
      smallRun mode p limited fuel c l = true := by
  intro fuel
  induction fuel with
  | zero =>
    intro c l ok h
    simp only [runLay] at h
    simp only [smallRun, decide_eq_true_eq]
    exact h
  | succ n ih =>
    intro c l ok h
    have hge := runLay_size_ge mode p limited (n + 1) c l ok
    simp only [smallRun, Bool.and_eq_true, decide_eq_true_eq]
    refine ⟨by omega, ?_⟩
    simp only [runLay] at h
    cases hs : Bc.step p limited c with
    | next c' =>
      simp only [hs] at h
      simp only
      exact ih _ _ _ h
    | halt c' => rfl
    | stop c' => rfl
    | interrupted c' => rfl
    | bad c' => rfl

theorem accessOk_of_inWindow {p : Program w} (L : C11.LocalFacts p) (pc : Nat) {l : Lay}
    (hw : l.InWindow p.minAcc p.maxAcc) : accessOk p pc l = true := by
  unfold accessOk
  cases hi : p.insts[pc]? with
  | none => rfl
  | some ins =>
    simp only [List.all_eq_true]
    intro o ho
    have := L.window hi o ho
    rw [inBounds_iff]
    obtain ⟨w1, w2⟩ := hw
    omega

theorem layStep_inWindow {mode : Mode} (hmode : mode ≠ .unchecked) {p : Program w}
    (L : C11.LocalFacts p) (hp : SmallProg p) (c c' : Cfg w) {l : Lay}
    (hw : l.InWindow p.minAcc p.maxAcc) (hs : (l.size : Int) < bound) :
    (layStep mode p c c' l).InWindow p.minAcc p.maxAcc := by
  unfold layStep
  split
  · rename_i sh hi
    exact move_inWindow' hmode sh L.min0 L.max0 hw hs hp.1 hp.2.1 (hp.shift hi)
  · rename_i cond sh hi
    split
    · exact move_inWindow' hmode sh L.min0 L.max0 hw hs hp.1 hp.2.1 (hp.shift hi)
    · exact hw
  · exact hw

theorem runLay_ok {mode : Mode} (hmode : mode ≠ .unchecked) {p : Program w}
    (L : C11.LocalFacts p) (hp : SmallProg p) (limited : Bool) :
    ∀ (fuel : Nat) (c : Cfg w) (l : Lay), l.InWindow p.minAcc p.maxAcc →
      smallRun mode p limited fuel c l = true →
      (runLay mode p limited fuel c l true).ok = true ∧
      (runLay mode p limited fuel c l true).lay.InWindow p.minAcc p.maxAcc := by
  intro fuel
  induction fuel with
  | zero => intro c l hw _; simp only [runLay]; exact ⟨trivial, hw⟩
  | succ n ih =>
    intro c l hw hg
    simp only [smallRun, Bool.and_eq_true, decide_eq_true_eq] at hg
    obtain ⟨hs, hg⟩ := hg
    simp only [runLay, accessOk_of_inWindow L c.pc hw, Bool.and_self]
    cases hst : Bc.step p limited c with
    | next c' =>
      simp only [hst] at hg
      simp only
      exact ih _ _ (layStep_inWindow hmode L hp c c' hw hs) hg
    | halt c' => exact ⟨rfl, hw⟩
    | stop c' => exact ⟨rfl, hw⟩
    | interrupted c' => exact ⟨rfl, hw⟩
    | bad c' => exact ⟨rfl, hw⟩

end C06
end Hpbf
