/-
What the bytecode-to-bytecode passes and their consumers say about an instruction array as a whole: every instruction
satisfies `Q` (`AllQ`), and two arrays are related position by position (`PW r`).  A pass that keeps every
instruction in its place states once, with its own proof, the `r` that lists what it can do to one instruction;
whoever needs a fact about its output shows that `r` carries the fact (`PW.all`, `PW.mono`; `PW.trans` for a pass that is a
chain of such steps).  `TargetsOk`: every branch lands on an instruction or on the exit — the precondition of every pass.
-/
import Hpbf.Proofs.C11Basic
import Hpbf.BcGen

namespace Hpbf
namespace C02

open Bc BcWf BcGen

variable {w : Nat}

theorem getElem?_push_cases {α : Type} {a : Array α} {x y : α} {j : Nat} (h : (a.push x)[j]? = some y) :
    (j < a.size ∧ a[j]? = some y) ∨ (j = a.size ∧ y = x) := by
  rw [Array.getElem?_push] at h
  split at h
  · rename_i e; exact Or.inr ⟨e, (Option.some.inj h).symm⟩
  · exact Or.inl ⟨lt_of_getElem? h, h⟩

def AllQ (Q : Instr w → Prop) (insts : Array (Instr w)) : Prop :=
  ∀ (i : Nat) (x : Instr w), insts[i]? = some x → Q x

theorem allQ_push {Q : Instr w → Prop} {insts : Array (Instr w)} {x : Instr w} (h : AllQ Q insts)
    (hx : Q x) : AllQ Q (insts.push x) := by
  intro i y hy
  rcases getElem?_push_cases hy with ⟨_, g⟩ | ⟨_, g⟩
  · exact h i y g
  · rw [g]; exact hx

theorem allQ_set {Q : Instr w → Prop} {insts : Array (Instr w)} {x : Instr w} (h : AllQ Q insts)
    (hx : Q x) (j : Nat) : AllQ Q (insts.setIfInBounds j x) := by
  intro i y hy
  rw [Array.getElem?_setIfInBounds] at hy
  by_cases e : j = i
  · simp only [e, if_true] at hy
    split at hy
    · cases hy; exact hx
    · cases hy
  · simp only [e, if_false] at hy
    exact h i y hy

def PW (r : Instr w → Instr w → Prop) (B B' : Array (Instr w)) : Prop :=
  B'.size = B.size ∧ ∀ (i : Nat) (x' : Instr w), B'[i]? = some x' → ∃ x, B[i]? = some x ∧ r x x'

theorem PW.refl {r : Instr w → Instr w → Prop} (hr : ∀ x, r x x) (B : Array (Instr w)) : PW r B B :=
  ⟨rfl, fun _ x h => ⟨x, h, hr x⟩⟩

theorem PW.trans {r : Instr w → Instr w → Prop} (ht : ∀ x y z, r x y → r y z → r x z)
    {B1 B2 B3 : Array (Instr w)} (h1 : PW r B1 B2) (h2 : PW r B2 B3) : PW r B1 B3 := by
  refine ⟨h2.1.trans h1.1, fun i z hz => ?_⟩
  obtain ⟨y, hy, r2⟩ := h2.2 i z hz
  obtain ⟨x, hx, r1⟩ := h1.2 i y hy
  exact ⟨x, hx, ht _ _ _ r1 r2⟩

theorem PW.mono {r r' : Instr w → Instr w → Prop} (h : ∀ x y, r x y → r' x y) {B B' : Array (Instr w)}
    (hp : PW r B B') : PW r' B B' :=
  ⟨hp.1, fun i y hy => by obtain ⟨x, hx, hr⟩ := hp.2 i y hy; exact ⟨x, hx, h x y hr⟩⟩

theorem PW.all {r : Instr w → Instr w → Prop} {Q Q' : Instr w → Prop} {B B' : Array (Instr w)} (hp : PW r B B')
    (hr : ∀ x y, r x y → Q x → Q' y) (h : AllQ Q B) : AllQ Q' B' := by
  intro i y hy
  obtain ⟨x, hx, hxy⟩ := hp.2 i y hy
  exact hr x y hxy (h i x hx)

/-- Every branch of the program lands on an instruction or on the exit (`BcWf.succs … ≠ none`). -/
def TargetsOk (insts : Array (Instr w)) : Prop :=
  ∀ (i : Nat) (ins : Instr w) (off : Int), insts[i]? = some ins → branchOff? ins = some off →
    0 ≤ (i : Int) + off ∧ (i : Int) + off ≤ insts.size

theorem targetsOk_of_succs {insts : Array (Instr w)}
    (h : ∀ (i : Nat) (ins : Instr w), insts[i]? = some ins → (succs insts.size i ins).isSome = true) :
    TargetsOk insts := by
  intro i ins off hi hoff
  have hs := h i ins hi
  have key : (branchTarget i off insts.size).isSome = true := by
    cases ins <;> simp only [branchOff?, Option.some.injEq, reduceCtorEq] at hoff
    all_goals (subst hoff; simpa [succs] using hs)
  simp only [branchTarget] at key
  split at key
  · assumption
  · cases key

theorem succs_of_targetsOk {insts : Array (Instr w)} (hT : TargetsOk insts) {i : Nat} {ins : Instr w}
    (hi : insts[i]? = some ins) : (succs insts.size i ins).isSome = true := by
  cases ins <;> simp only [succs, Option.isSome_some, Option.isSome_map]
  all_goals
    have := hT i _ _ hi rfl
    simp [branchTarget, this]

theorem mem_succs {n i : Nat} {ins : Instr w} {ss : List Nat} (h : succs n i ins = some ss) {t : Nat}
    (ht : t ∈ ss) : t = i + 1 ∨ ∃ off, branchOff? ins = some off ∧ ((i : Int) + off).toNat = t := by
  have br : ∀ off, (branchTarget i off n).map (fun t => [i + 1, t]) = some ss →
      t = i + 1 ∨ ((i : Int) + off).toNat = t := by
    intro off hb
    simp only [branchTarget] at hb
    split at hb
    · cases hb
      rcases List.mem_cons.1 ht with e | e
      · exact Or.inl e
      · exact Or.inr (List.mem_singleton.1 e).symm
    · cases hb
  cases ins with
  | brz c off => exact (br off h).imp id fun e => ⟨off, rfl, e⟩
  | brnz c off => exact (br off h).imp id fun e => ⟨off, rfl, e⟩
  | _ => cases h; exact Or.inl (List.mem_singleton.1 ht)

/-- `BcGen.target`, the bounds test of the passes that follow a branch, succeeds exactly on a target inside `bound`. -/
theorem target_ok {site : String} {i : Nat} {off : Int} {bound t : Nat} :
    target site i off bound = .ok t ↔
      0 ≤ (i : Int) + off ∧ ((i : Int) + off).toNat < bound ∧ t = ((i : Int) + off).toNat := by
  unfold target
  by_cases h1 : (i : Int) + off < 0
  · simp only [h1, if_true, reduceCtorEq, false_iff]
    exact fun h => absurd h.1 (by omega)
  · by_cases h2 : ((i : Int) + off).toNat < bound
    · simp only [h1, h2, if_true, if_false, Except.ok.injEq]
      constructor
      · intro e; exact ⟨by omega, trivial, e.symm⟩
      · intro e; exact e.2.2.symm
    · simp only [h1, h2, if_false, reduceCtorEq, false_iff]
      exact fun h => h.2.1

end C02
end Hpbf
