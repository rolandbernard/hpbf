/-
C16 — the command line front end (`Hpbf/Cli.lean`, a model of `src/bin/hpbf.rs`).  The specification is
declarative: it classifies the arguments by looking one argument ahead (`roles`) and gives every field of the
resulting configuration as a function of the classified list, without mentioning `Cli.step` or a
pending-operand state.  The lemmas connect that description to the fold `List.foldl (Cli.step fs) {}`:
`step` is `apply` on the classified argument (`step_eq_apply`; for a flag because the tables share no name,
`flagNames_nodup`, the only fact used about their contents), and the fold of `apply` is the record `specCfg`
(`fold_apply`), so `parseArgs` is known in closed form (`parseArgs_spec`).
-/
import Hpbf.Cli

namespace Hpbf
namespace C16

open Cli

/-- `fileOperand` / `limitOperand` are the arguments consumed by a preceding `-f` / `--limit`. -/
inductive Role where
  | flag | fileOperand | limitOperand | code
  deriving DecidableEq, Repr, Inhabited

def flagNames : List String :=
  kindFlags.map (·.1) ++ optFlags.map (·.1) ++ bitsFlags.map (·.1) ++ helpFlags ++ fileFlags ++
    ["--limit", "--static", "--time"]

def isFlag (a : String) : Bool := flagNames.contains a
def isFileFlag (a : String) : Bool := fileFlags.contains a
def isLimitFlag (a : String) : Bool := a == "--limit"

def plainRole (a : String) : Role := if isFlag a then .flag else .code

def roles : List String → List Role
  | [] => []
  | [a] => [plainRole a]
  | a :: b :: rest =>
    if isFileFlag a then .flag :: .fileOperand :: roles rest
    else if isLimitFlag a then .flag :: .limitOperand :: roles rest
    else plainRole a :: roles (b :: rest)

def tagged (args : List String) : List (String × Role) := args.zip (roles args)

def sel (r : Role) (l : List (String × Role)) : List String := (l.filter (·.2 = r)).map (·.1)

def flagArgs (args : List String) : List String := sel .flag (tagged args)
def fileOperands (args : List String) : List String := sel .fileOperand (tagged args)
def limitOperands (args : List String) : List String := sel .limitOperand (tagged args)
def codeArgs (args : List String) : List String := sel .code (tagged args)

def contrib1 (fs : String → FileRes) : String × Role → List String
  | (a, .code) => [a]
  | (a, .fileOperand) => match fs a with
    | .ok content => [content]
    | _ => []
  | _ => []

def contrib (fs : String → FileRes) (args : List String) : List String :=
  (tagged args).flatMap (contrib1 fs)

/-- The value selected by the last argument of `flagArgs` that is in `table`; `dflt` if none is. -/
def lastOf {α : Type} (table : List (String × α)) (dflt : α) (flagArgs : List String) : α :=
  flagArgs.foldl (fun acc a => (table.lookup a).getD acc) dflt

def lastLimit (ops : List String) : Option Nat := (ops.filterMap parseUsize).getLast?

def fileFails (fs : String → FileRes) (a : String) : Bool :=
  match fs a with
  | .ok _ => false
  | _ => true

def diag1 (fs : String → FileRes) : String × Role → List String
  | (a, .fileOperand) => match fs a with
    | .ok _ => []
    | .notUtf8 => ["error: failed to read file `" ++ a ++ "`"]
    | .openFailed => ["error: failed to open file `" ++ a ++ "`"]
  | (a, .limitOperand) => match parseUsize a with
    | some _ => []
    | none => [a ++ ": ignoring invalid limit"]
  | _ => []

/-- The diagnostic for a trailing `-f` / `--limit` whose operand is missing. -/
def trailing (args : List String) : List String :=
  match (tagged args).getLast? with
  | some (a, .flag) =>
    if isFileFlag a then ["--file: ignoring missing file"]
    else if isLimitFlag a then ["--limit: ignoring missing limit"]
    else []
  | _ => []

/-- Everything the argument loop writes to stderr, oldest first. -/
def diagnostics (fs : String → FileRes) (args : List String) : List String :=
  (tagged args).flatMap (diag1 fs) ++ trailing args

theorem lookup_eq_none_of_not_mem {α : Type} {t : List (String × α)} {a : String}
    (h : a ∉ t.map (·.1)) : t.lookup a = none := by
  rw [List.lookup_eq_none_iff]
  intro p hp
  simp only [bne_iff_ne, ne_eq]
  intro e
  exact h (List.mem_map.2 ⟨p, hp, e.symm⟩)

theorem not_isFlag {a : String} (h : isFlag a = false) :
    kindFlags.lookup a = none ∧ optFlags.lookup a = none ∧ bitsFlags.lookup a = none ∧
    a ∉ helpFlags ∧ a ∉ fileFlags ∧ a ≠ "--limit" ∧ a ≠ "--static" ∧ a ≠ "--time" := by
  have hm : a ∉ flagNames := by simpa [isFlag] using h
  simp only [flagNames, List.mem_append, not_or, List.mem_cons, List.not_mem_nil, or_false] at hm
  obtain ⟨⟨⟨⟨⟨h1, h2⟩, h3⟩, h4⟩, h5⟩, h6, h7, h8⟩ := hm
  exact ⟨lookup_eq_none_of_not_mem h1, lookup_eq_none_of_not_mem h2, lookup_eq_none_of_not_mem h3,
    h4, h5, h6, h7, h8⟩

theorem isFlag_cases {a : String} (h : isFlag a = true) : a ∈ flagNames := by
  simpa [isFlag] using h

theorem isFileFlag_isFlag {a : String} (h : isFileFlag a = true) : isFlag a = true := by
  have hm : a ∈ fileFlags := by simpa [isFileFlag] using h
  simp only [isFlag, flagNames, List.contains_eq_mem, List.mem_append, decide_eq_true_eq]
  exact Or.inl (Or.inr hm)

theorem isLimitFlag_isFlag {a : String} (h : isLimitFlag a = true) : isFlag a = true := by
  have hm : a = "--limit" := by simpa [isLimitFlag] using h
  simp only [isFlag, flagNames, List.contains_eq_mem, List.mem_append, decide_eq_true_eq]
  exact Or.inr (hm ▸ List.mem_cons_self)

/-- No string is in two of the tables that `flagNames` concatenates. -/
theorem flagNames_nodup : flagNames.Nodup := by decide +kernel

theorem isFileFlag_not_limit {a : String} (h : isFileFlag a = true) : isLimitFlag a = false := by
  have hm : a ∈ fileFlags := by simpa [isFileFlag] using h
  have N := flagNames_nodup
  rw [flagNames, List.nodup_append] at N
  have := N.2.2 a (List.mem_append_right _ hm) "--limit" List.mem_cons_self
  simpa [isLimitFlag] using this

/-- Every field is updated independently of the others. -/
def apply (fs : String → FileRes) (c : Cfg) : String × Role → Cfg
  | (a, .flag) =>
    { c with
      kind := (kindFlags.lookup a).getD c.kind
      opt := (optFlags.lookup a).getD c.opt
      bits := (bitsFlags.lookup a).getD c.bits
      printHelp := c.printHelp || helpFlags.contains a
      safe := c.safe && !(a == "--static")
      time := c.time || a == "--time"
      nextIsFile := isFileFlag a
      nextIsLimit := isLimitFlag a }
  | (a, .code) => { c with code := c.code ++ a, nextIsFile := false, nextIsLimit := false }
  | (a, .fileOperand) =>
    { c with
      code := c.code ++ String.join (contrib1 fs (a, .fileOperand))
      hasError := c.hasError || fileFails fs a
      stderr := c.stderr ++ diag1 fs (a, .fileOperand)
      nextIsFile := false
      nextIsLimit := false }
  | (a, .limitOperand) =>
    { c with
      limit := (parseUsize a).or c.limit
      stderr := c.stderr ++ diag1 fs (a, .limitOperand)
      nextIsFile := false
      nextIsLimit := false }

/-- The pending operand of `Cli.step` (its `nextIsFile` / `nextIsLimit`); `role1` and `next` are the
lookahead of `roles` turned into a transition on it. -/
inductive Pend where
  | none | file | limit
  deriving DecidableEq, Repr

def pendOf (c : Cfg) : Pend :=
  if c.nextIsFile then .file else if c.nextIsLimit then .limit else .none

def role1 : Pend → String → Role
  | .file, _ => .fileOperand
  | .limit, _ => .limitOperand
  | .none, a => plainRole a

def next : Pend → String → Pend
  | .none, a => if isFileFlag a then .file else if isLimitFlag a then .limit else .none
  | _, _ => .none

def rolesP : Pend → List String → List Role
  | _, [] => []
  | p, a :: rest => role1 p a :: rolesP (next p a) rest

theorem roles_eq_rolesP (args : List String) : roles args = rolesP .none args := by
  induction args using roles.induct with
  | case1 => rfl
  | case2 a => simp [roles, rolesP, role1]
  | case3 a b rest h ih =>
    have hf := isFileFlag_isFlag h
    simp [roles, rolesP, role1, next, h, ih, plainRole, hf]
  | case4 a b rest h h' ih =>
    have hf := isLimitFlag_isFlag h'
    simp [roles, rolesP, role1, next, h, h', ih, plainRole, hf]
  | case5 a b rest h h' ih =>
    simp [roles, h, h', ih]
    simp [rolesP, role1, next, h, h']

theorem rolesP_length (p : Pend) (args : List String) : (rolesP p args).length = args.length := by
  induction args generalizing p with
  | nil => rfl
  | cons a rest ih => simp [rolesP, ih]

/-- The invariant of the loop: at most one operand is pending. -/
def Inv (c : Cfg) : Prop := c.nextIsFile = true → c.nextIsLimit = false

theorem lookup_of_mem {α : Type} {t : List (String × α)} {a : String} (h : a ∈ t.map (·.1)) :
    ∃ v, t.lookup a = some v := by
  obtain ⟨p, hp, rfl⟩ := List.mem_map.1 h
  exact Option.isSome_iff_exists.1 (List.lookup_isSome_iff.2 ⟨p, hp, by simp⟩)

/-- `step` tries the tables in the order in which `flagNames` lists them and takes the first hit; `apply`
looks into every table.  They agree because `flagNames` has no duplicates: a hit in one table excludes a
hit in every other one (`n1` … `n5`: nothing before a table shares a name with it).  The key lists are
made opaque (`K'`, `O'`, `B'`), so the proof holds for whatever the tables contain. -/
theorem step_flag (fs : String → FileRes) (c : Cfg) (a : String)
    (hf : c.nextIsFile = false) (hl : c.nextIsLimit = false) (h : a ∈ flagNames) :
    step fs c a = apply fs c (a, .flag) := by
  have N := flagNames_nodup
  simp only [flagNames, List.nodup_append, List.mem_append] at N h
  obtain ⟨⟨⟨⟨⟨-, -, n1⟩, -, n2⟩, -, n3⟩, -, n4⟩, -, n5⟩ := N
  replace n1 := fun h e => n1 a h a e rfl
  replace n2 := fun h e => n2 a h a e rfl
  replace n3 := fun h e => n3 a h a e rfl
  replace n4 := fun h e => n4 a h a e rfl
  replace n5 := fun h e => n5 a h a e rfl
  have q1 := @lookup_eq_none_of_not_mem _ kindFlags a
  have q2 := @lookup_eq_none_of_not_mem _ optFlags a
  have q3 := @lookup_eq_none_of_not_mem _ bitsFlags a
  have p1 := @lookup_of_mem _ kindFlags a
  have p2 := @lookup_of_mem _ optFlags a
  have p3 := @lookup_of_mem _ bitsFlags a
  generalize kindFlags.map (·.1) = K' at *
  generalize optFlags.map (·.1) = O' at *
  generalize bitsFlags.map (·.1) = B' at *
  unfold step
  rw [hf, hl]
  simp only [apply, isFileFlag, isLimitFlag, List.contains_eq_mem]
  -- in each arm: `m` is the one hit; it turns `n1` … `n5` into the misses everywhere else
  rcases h with ((((m | m) | m) | m) | m) | m <;>
    simp only [m, true_or, or_true, forall_const, imp_false, not_or, List.mem_cons, List.not_mem_nil,
      or_false] at n1 n2 n3 n4 n5
  · obtain ⟨v, hv⟩ := p1 m
    simp [hv, q2 n1, q3 n2, n3, n4, n5]
  · obtain ⟨v, hv⟩ := p2 m
    simp [hv, q1 n1, q3 n2, n3, n4, n5]
  · obtain ⟨v, hv⟩ := p3 m
    obtain ⟨k, o⟩ := n2
    simp [hv, q1 k, q2 o, n3, n4, n5]
  · obtain ⟨⟨k, o⟩, b⟩ := n3
    simp [m, q1 k, q2 o, q3 b, n4, n5]
  · obtain ⟨⟨⟨k, o⟩, b⟩, hh⟩ := n4
    simp [m, q1 k, q2 o, q3 b, hh, n5]
  · obtain ⟨⟨⟨⟨k, o⟩, b⟩, hh⟩, ff⟩ := n5
    simp only [List.mem_cons, List.not_mem_nil, or_false] at m
    rcases m with rfl | rfl | rfl <;> simp [q1 k, q2 o, q3 b, hh, ff]

theorem step_eq_apply (fs : String → FileRes) (c : Cfg) (a : String) (hi : Inv c) :
    step fs c a = apply fs c (a, role1 (pendOf c) a) := by
  by_cases hf : c.nextIsFile = true
  · have hl := hi hf
    obtain ⟨bits, printHelp, kind, opt, limit, safe, hasError, nf, nl, time, code, stderr⟩ := c
    simp only at hf hl
    subst hf hl
    simp only [pendOf, role1, step, apply, contrib1, diag1, fileFails, if_true]
    cases fs a <;> simp [String.join_cons, String.join_nil]
  · have hf : c.nextIsFile = false := by simpa using hf
    by_cases hl : c.nextIsLimit = true
    · obtain ⟨bits, printHelp, kind, opt, limit, safe, hasError, nf, nl, time, code, stderr⟩ := c
      simp only at hf hl
      subst hf hl
      simp only [pendOf, role1, step, apply, diag1]
      cases hp : parseUsize a <;> simp [hp]
    · have hl : c.nextIsLimit = false := by simpa using hl
      have hp : pendOf c = .none := by simp [pendOf, hf, hl]
      rw [hp]
      simp only [role1, plainRole]
      by_cases h : isFlag a = true
      · simp only [h, if_true]
        exact step_flag fs c a hf hl (isFlag_cases h)
      · have h : isFlag a = false := by simpa using h
        obtain ⟨h1, h2, h3, h4, h5, h6, h7, h8⟩ := not_isFlag h
        simp [h, step, apply, hf, hl, h1, h2, h3, h4, h5, h6, h7, h8]

theorem pendOf_apply (fs : String → FileRes) (c : Cfg) (a : String) :
    pendOf (apply fs c (a, role1 (pendOf c) a)) = next (pendOf c) a ∧
    Inv (apply fs c (a, role1 (pendOf c) a)) := by
  cases hp : pendOf c with
  | file => simp [role1, apply, next, pendOf, Inv]
  | limit => simp [role1, apply, next, pendOf, Inv]
  | none =>
    simp only [role1, plainRole]
    by_cases h : isFlag a = true
    · simp only [h, if_true, apply, next, pendOf, Inv]
      refine ⟨?_, fun h' => isFileFlag_not_limit h'⟩
      cases isFileFlag a <;> cases isLimitFlag a <;> simp
    · have h : isFlag a = false := by simpa using h
      have h1 : isFileFlag a = false := by
        cases h1 : isFileFlag a
        · rfl
        · rw [isFileFlag_isFlag h1] at h; cases h
      have h2 : isLimitFlag a = false := by
        cases h2 : isLimitFlag a
        · rfl
        · rw [isLimitFlag_isFlag h2] at h; cases h
      simp [h, apply, next, pendOf, Inv, h1, h2]

theorem foldl_step_eq (fs : String → FileRes) (args : List String) (c : Cfg) (hi : Inv c) :
    args.foldl (step fs) c = (args.zip (rolesP (pendOf c) args)).foldl (apply fs) c := by
  induction args generalizing c with
  | nil => rfl
  | cons a rest ih =>
    obtain ⟨hp, hi'⟩ := pendOf_apply fs c a
    simp only [List.foldl_cons, rolesP, List.zip_cons_cons]
    rw [step_eq_apply fs c a hi, ih _ hi', hp]

theorem loop_eq (fs : String → FileRes) (args : List String) :
    args.foldl (step fs) {} = (tagged args).foldl (apply fs) {} := by
  have := foldl_step_eq fs args {} (by simp [Inv])
  rw [this, tagged, roles_eq_rolesP]
  rfl

theorem rev_ind {α : Type} {P : List α → Prop} (nil : P [])
    (snoc : ∀ l a, P l → P (l ++ [a])) : ∀ l, P l := by
  intro l
  have : ∀ r : List α, P r.reverse := by
    intro r
    induction r with
    | nil => exact nil
    | cons a r ih => rw [List.reverse_cons]; exact snoc _ _ ih
  simpa using this l.reverse

theorem str_beq (a b : String) : (a == b) = decide (a = b) := by
  by_cases h : a = b <;> simp [h]

theorem sel_snoc (r : Role) (l : List (String × Role)) (a : String) (r' : Role) :
    sel r (l ++ [(a, r')]) = sel r l ++ (if r' = r then [a] else []) := by
  by_cases h : r' = r <;> simp [sel, List.filter_append, h]

/-- Does the last classified argument exist, is it a flag, and does `p` hold of it?  This is what is left of the
pending-operand state after the loop. -/
def lastIs (p : String → Bool) : Option (String × Role) → Bool
  | some (a, .flag) => p a
  | _ => false

/-- The configuration after the loop, every field as a function of the classified arguments. -/
def specCfg (fs : String → FileRes) (l : List (String × Role)) : Cfg where
  bits := lastOf bitsFlags 8 (sel .flag l)
  printHelp := (sel .flag l).any (helpFlags.contains ·)
  kind := lastOf kindFlags .baseJit (sel .flag l)
  opt := lastOf optFlags 2 (sel .flag l)
  limit := lastLimit (sel .limitOperand l)
  safe := !(sel .flag l).contains "--static"
  hasError := (sel .fileOperand l).any (fileFails fs)
  nextIsFile := lastIs isFileFlag l.getLast?
  nextIsLimit := lastIs isLimitFlag l.getLast?
  time := (sel .flag l).contains "--time"
  code := String.join (l.flatMap (contrib1 fs))
  stderr := l.flatMap (diag1 fs)

/-- From the right, because each field of `specCfg` is a "last …" of the list. -/
theorem fold_apply (fs : String → FileRes) (l : List (String × Role)) :
    l.foldl (apply fs) {} = specCfg fs l := by
  induction l using rev_ind with
  | nil => rfl
  | snoc l x ih =>
    obtain ⟨a, r⟩ := x
    rw [List.foldl_append, ih]
    cases r <;>
      simp [specCfg, apply, sel_snoc, lastOf, lastLimit, lastIs, List.foldl_append, List.filterMap_append,
        List.flatMap_append, String.join_append, contrib1, diag1, String.join_cons, String.join_nil,
        Bool.and_comm, Bool.or_comm, @eq_comm _ "--static", @eq_comm _ "--time", str_beq]

/-- The two diagnostics that `parseArgs` appends after the loop are `trailing`. -/
theorem trailing_eq (x : Option (String × Role)) :
    (if lastIs isFileFlag x then ["--file: ignoring missing file"] else []) ++
      (if lastIs isLimitFlag x then ["--limit: ignoring missing limit"] else []) =
    match x with
    | some (a, .flag) =>
      if isFileFlag a then ["--file: ignoring missing file"]
      else if isLimitFlag a then ["--limit: ignoring missing limit"]
      else []
    | _ => [] := by
  rcases x with _ | ⟨a, r⟩
  · rfl
  · cases r <;> try rfl
    cases h : isFileFlag a
    · simp only [lastIs, h]; rfl
    · simp [lastIs, isFileFlag_not_limit h, h]

/-- The whole result of the argument loop in closed form; a statement about one field is a projection. -/
theorem parseArgs_spec (fs : String → FileRes) (args : List String) :
    parseArgs fs args = { specCfg fs (tagged args) with stderr := diagnostics fs args } := by
  have e : parseArgs fs args = { specCfg fs (tagged args) with
      stderr := (specCfg fs (tagged args)).stderr ++
        ((if (specCfg fs (tagged args)).nextIsFile then ["--file: ignoring missing file"] else []) ++
         (if (specCfg fs (tagged args)).nextIsLimit then ["--limit: ignoring missing limit"] else [])) } := by
    unfold parseArgs
    rw [loop_eq, fold_apply]
    generalize specCfg fs (tagged args) = c
    obtain ⟨_, _, _, _, _, _, _, nf, nl, _, _, _⟩ := c
    cases nf <;> cases nl <;> simp
  rw [e]
  exact congrArg (fun t => { specCfg fs (tagged args) with stderr := (specCfg fs (tagged args)).stderr ++ t })
    (trailing_eq _)

end C16
end Hpbf
