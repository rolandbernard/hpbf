/-
The recursion of the rebuild, `rebuildInsts` / `rebuildInstr` through nested blocks: its two unfolding equations, and the
induction over it stated once, for the judgement `Tri` with a free precondition (`rebuild_tri`).  Every pass over
the rebuild (normal form, known variables, shape, offsets, totality, …) is an instance.
-/
import Hpbf.Proofs.OptRbTri

namespace Hpbf
namespace OptProof
open Opt OptSem Ir

variable {w : Nat}

theorem Tri.and {α : Type} {t : Bool} {x : M α} {P Q : α → Prop} (h1 : Tri t x P) (h2 : Tri t x Q) :
    Tri t x (fun a => P a ∧ Q a) :=
  ⟨h1.1, fun os a os' hr => ⟨h1.2 os a os' hr, h2.2 os a os' hr⟩⟩

theorem rebuildInsts_nil (ps : List (Rebuild w)) (s : Rebuild w) : rebuildInsts ps s [] = pure (s, true) := by
  rw [rebuildInsts]

theorem rebuildInsts_cons (ps : List (Rebuild w)) (s : Rebuild w) (i : Instr w) (rest : List (Instr w)) :
    rebuildInsts ps s (i :: rest) =
      if s.noReturn then pure (s, false) else rebuildInstr ps s i >>= fun s1 => rebuildInsts ps s1 rest := by
  rw [rebuildInsts]

/-- The fresh child in which the body of a block (condition cell `cond`, relative to the source pointer) is
rebuilt. -/
def blockChild (s : Rebuild w) (cond : Int) : Rebuild w :=
  reverseSubBlocks (Rebuild.new (popSubAnal s).1.shift (some (cond + s.shift)) .parent (popSubAnal s).2)

/-- The child after the body has been rebuilt: the block's own shift is applied if the body was completed. -/
def addShift (r : Rebuild w × Bool) (shift : Int) : Rebuild w :=
  if r.2 then { r.1 with shift := r.1.shift + shift } else r.1

/-- The `Loop` / `If` arm: the body is rebuilt in `blockChild`, under the parent after `popSubAnal`; then
`finishLoop`. -/
theorem rebuildInstr_block_eq {i : Instr w} {cond shift : Int} {body : List (Instr w)}
    (hp : C01Dse.blockParts i = some (cond, shift, body)) (ps : List (Rebuild w)) (s : Rebuild w) :
    ∃ isLoop, rebuildInstr ps s i =
      rebuildInsts ((popSubAnal s).1 :: ps) (blockChild s cond) body >>= fun r =>
        finishLoop (popSubAnal s).1 ps (addShift r shift) (cond + s.shift) isLoop := by
  cases i with
  | output _ => cases hp
  | input _ => cases hp
  | «calc» _ => cases hp
  | loop c sh b o => cases hp; exact ⟨true, by rw [rebuildInstr]; rfl⟩
  | ifnz c sh b => cases hp; exact ⟨false, by rw [rebuildInstr]; rfl⟩

section Induct
variable {t : Bool} {Pre : List (Rebuild w) → List (Instr w) → Rebuild w → Prop}
  {R : List (Rebuild w) → List (Instr w) → Rebuild w → Rebuild w → Prop}
  (hnil : ∀ ps l s, Pre ps l s → R ps l s s)
  (hcons : ∀ ps i rest a b c, Pre ps (i :: rest) a → R ps [i] a b → R ps rest b c → R ps (i :: rest) a c)
  (hhead : ∀ ps i rest s, Pre ps (i :: rest) s → Pre ps [i] s)
  (htail : ∀ ps i rest s s', Pre ps (i :: rest) s → R ps [i] s s' → Pre ps rest s')
  (hinstr : ∀ ps s i, C01Dse.isBlock i = false → Pre ps [i] s → Tri t (rebuildInstr ps s i) (R ps [i] s))
  (hchild : ∀ ps s i cond shift body, C01Dse.blockParts i = some (cond, shift, body) → Pre ps [i] s →
    Pre ((popSubAnal s).1 :: ps) body (blockChild s cond))
  (hblock : ∀ ps s i cond shift body isLoop r, C01Dse.blockParts i = some (cond, shift, body) → Pre ps [i] s →
    R ((popSubAnal s).1 :: ps) body (blockChild s cond) r.1 →
    Tri t (finishLoop (popSubAnal s).1 ps (addShift r shift) (cond + s.shift) isLoop) (R ps [i] s))
include hnil hcons hhead htail hinstr hchild hblock

/-- Induction over `rebuildInstr` / `rebuildInsts` through nested blocks, for a relation `R ps l s s'` ("rebuilding
`l` under the parents `ps` leads from `s` to `s'`") and a precondition `Pre ps l s`.  To be shown: `R` is reflexive
(the empty list; a state that does not return) and composes along a list, `Pre` passes to the head and, over `R`, to
the tail; the instructions that are not blocks; and for a block, that `Pre` holds of the body in the fresh child,
and what `finishLoop` does given `R` for the body. -/
theorem rebuild_tri :
    (∀ (i : Instr w) ps s, Pre ps [i] s → Tri t (rebuildInstr ps s i) (R ps [i] s)) ∧
    ∀ (l : List (Instr w)) ps s, Pre ps l s → Tri t (rebuildInsts ps s l) (fun r => R ps l s r.1) := by
  have hb : ∀ (i : Instr w) cond shift body, C01Dse.blockParts i = some (cond, shift, body) →
      (∀ ps s, Pre ps body s → Tri t (rebuildInsts ps s body) (fun r => R ps body s r.1)) →
      ∀ ps s, Pre ps [i] s → Tri t (rebuildInstr ps s i) (R ps [i] s) := by
    intro i cond shift body hp ih ps s hpre
    obtain ⟨isLoop, e⟩ := rebuildInstr_block_eq hp ps s
    rw [e]
    exact (ih _ _ (hchild ps s i cond shift body hp hpre)).bind
      (fun r hr => hblock ps s i cond shift body isLoop r hp hpre hr)
  refine instr_list_induction ?_ ?_ ?_ ?_ ?_
  · exact fun i hnb ps s hp => hinstr ps s i hnb hp
  · exact fun c sh body o ih => hb _ c sh body rfl ih
  · exact fun c sh body ih => hb _ c sh body rfl ih
  · intro ps s hp
    rw [rebuildInsts_nil]
    exact Tri.pure (hnil ps [] s hp)
  · intro i rest ihi ihr ps s hp
    rw [rebuildInsts_cons]
    split
    · exact Tri.pure (hnil ps _ s hp)
    · exact (ihi ps s (hhead ps i rest s hp)).bind (fun s1 r1 =>
        (ihr ps s1 (htail ps i rest s s1 hp r1)).mono (fun r r2 => hcons ps i rest s s1 r.1 hp r1 r2))

end Induct

end OptProof
end Hpbf
