/-
C02: trampolined (debug builds) versus tail-called (release builds) dispatch.

`src/exec/bcint/mod.rs::execute_in` runs
    `while !ip.is_null() { if limited && budget == 0 { finished = false; break }; ip = enter_ops(cxt, ip) }`.
* With debug assertions every threaded op ends in the `noop` that RETURNS the next `ip` to this loop, so the
  `budget == 0` test is executed before every op (`runCfgDebug`).
* In release builds every op tail-calls the next one; the loop body runs once on entry and once more after an
  op returned a non-null `ip`, which only `limit` does, after setting `budget = 0` (`Bc.run`: the model's
  `.interrupted` result).
Both profiles execute the same `Bc.step`.  They agree because the budget is 0 only initially or together with
`.interrupted`: `limit cost` interrupts when `budget ≤ cost` and otherwise leaves `budget - cost ≥ 1`
(`charge_pos`; `stepI_budget` is the form used below), and nothing else changes the budget.  (The debug loop also tests between the `limit` op and the
branch op it guards, and between the `brz`-skip and the `limit usize::MAX` of a stationary scan: the same
invariant covers these sub-instruction tests – after a successful `charge` the budget is positive, and the skip
does not change it.)
-/
import Hpbf.Proofs.C02Base

namespace Hpbf
namespace C02

open Bc BcWf BcGen C11

variable {w : Nat}

theorem charge_pos {c c' : Cfg w} {cost : Option Nat} (h : charge c cost = some c') : c'.budget ≠ 0 := by
  unfold charge at h
  split at h
  · split at h
    · cases h
    · cases h; simp only; omega
  · cases h

theorem copyCfg_budget (c : Cfg w) (d s : Loc w) : (copyCfg c d s).budget = c.budget := by
  simp [copyCfg, wrCfg_budget]

/-- `StepRes.tag = 3` is `.interrupted` (`C11Step`); for an `Outcome`, `.interrupted` has `tag = 2` (`C11`). -/
theorem stepI_budget (p : Program w) (limited : Bool) (c : Cfg w) (ins : Instr w) :
    ((stepI p limited c ins).tag = 3 ∧ (stepI p limited c ins).cfg.budget = 0 ∧ limited = true) ∨
    ((stepI p limited c ins).tag ≠ 3 ∧
      ((stepI p limited c ins).cfg.budget = c.budget ∨
        (limited = true ∧ 1 < c.budget ∧ (stepI p limited c ins).cfg.budget = c.budget - 1))) := by
  have hbr : ∀ taken off,
      ((branch p limited c taken off).tag = 3 ∧ (branch p limited c taken off).cfg.budget = 0 ∧ limited = true) ∨
      ((branch p limited c taken off).tag ≠ 3 ∧
        ((branch p limited c taken off).cfg.budget = c.budget ∨
          (limited = true ∧ 1 < c.budget ∧ (branch p limited c taken off).cfg.budget = c.budget - 1))) := by
    intro taken off
    unfold branch
    by_cases h : limited = true ∧ c.budget ≤ 1
    · simp only [h, and_self, if_true]
      exact Or.inl ⟨rfl, rfl, trivial⟩
    · simp only [h, if_false]
      refine Or.inr ?_
      have hb : (if limited = true then c.budget - 1 else c.budget) = c.budget ∨
          (limited = true ∧ 1 < c.budget ∧ (if limited = true then c.budget - 1 else c.budget) = c.budget - 1) := by
        by_cases hl : limited = true
        · simp only [hl, if_true]
          right
          exact ⟨trivial, by have := h; simp only [hl, true_and] at this; omega, trivial⟩
        · simp only [hl]; left; trivial
      split
      · split
        · exact ⟨by simp [StepRes.tag], hb⟩
        · exact ⟨by simp [StepRes.tag], hb⟩
      · exact ⟨by simp [StepRes.tag], hb⟩
  cases ins with
  | noop => exact Or.inr ⟨by simp [stepI, StepRes.tag], Or.inl rfl⟩
  | mov sh => exact Or.inr ⟨by simp [stepI, StepRes.tag], Or.inl rfl⟩
  | scan cond sh =>
    simp only [stepI]
    split
    · exact Or.inr ⟨by simp [StepRes.tag], Or.inl rfl⟩
    · split
      · split
        · rename_i hl; exact Or.inl ⟨rfl, rfl, hl⟩
        · exact Or.inr ⟨by simp [StepRes.tag], Or.inl rfl⟩
      · exact Or.inr ⟨by simp [StepRes.tag], Or.inl rfl⟩
  | inp m | out m =>
    simp only [stepI]
    split <;> exact Or.inr ⟨by simp [StepRes.tag], Or.inl rfl⟩
  | brz cond off => exact hbr _ _
  | brnz cond off => exact hbr _ _
  | add d a b | sub d a b | mul d a b =>
    simp only [stepI, arith]
    split
    · exact Or.inr ⟨by simp [StepRes.tag], Or.inl (binopCfg_budget _ _ _ _ _)⟩
    · exact Or.inr ⟨by simp [StepRes.tag], Or.inl rfl⟩
  | copy d s =>
    simp only [stepI]
    split
    · exact Or.inr ⟨by simp [StepRes.tag], Or.inl (copyCfg_budget _ _ _)⟩
    · exact Or.inr ⟨by simp [StepRes.tag], Or.inl rfl⟩

theorem step_budget (p : Program w) (limited : Bool) (c : Cfg w) :
    ((step p limited c).tag = 3 ∧ (step p limited c).cfg.budget = 0 ∧ limited = true) ∨
    ((step p limited c).tag ≠ 3 ∧
      ((step p limited c).cfg.budget = c.budget ∨
        (limited = true ∧ 1 < c.budget ∧ (step p limited c).cfg.budget = c.budget - 1))) := by
  cases hi : p.insts[c.pc]? with
  | some ins => rw [step_eq hi]; exact stepI_budget p limited c ins
  | none =>
    rw [step_none hi]
    split <;> exact Or.inr ⟨by simp [StepRes.tag], Or.inl rfl⟩

theorem step_budget_ne_zero {p : Program w} {limited : Bool} {c : Cfg w} (h0 : c.budget ≠ 0) :
    (step p limited c).tag ≠ 3 → (step p limited c).cfg.budget ≠ 0 := by
  intro ht
  rcases step_budget p limited c with h | ⟨_, h | ⟨_, h1, h⟩⟩
  · exact absurd h.1 ht
  · rw [h]; exact h0
  · rw [h]; omega

theorem step_next_budget_ne_zero {p : Program w} {limited : Bool} {c c' : Cfg w} (h0 : c.budget ≠ 0)
    (hs : step p limited c = .next c') : c'.budget ≠ 0 := by
  have := step_budget_ne_zero (p := p) (limited := limited) h0
  rw [hs] at this
  exact this (by simp [StepRes.tag])

theorem step_interrupted_budget {p : Program w} {limited : Bool} {c c' : Cfg w}
    (hs : step p limited c = .interrupted c') : c'.budget = 0 ∧ limited = true := by
  rcases step_budget p limited c with h | h
  · rw [hs] at h; exact ⟨h.2.1, h.2.2⟩
  · rw [hs] at h; exact absurd rfl h.1

/-- `Bc.run` guarantees `h0` in limited mode. -/
theorem budget_zero_only_initially (p : Program w) (limited : Bool) (fuel : Nat) (c : Cfg w)
    (h0 : c.budget ≠ 0) :
    ((runCfg p limited fuel c).tag = 2 ∧ (runCfg p limited fuel c).cfg.budget = 0 ∧ limited = true) ∨
    ((runCfg p limited fuel c).tag ≠ 2 ∧ (runCfg p limited fuel c).cfg.budget ≠ 0) := by
  induction fuel generalizing c with
  | zero => exact Or.inr ⟨by simp [runCfg, Outcome.tag], h0⟩
  | succ n ih =>
    simp only [runCfg]
    have hne := step_budget_ne_zero (p := p) (limited := limited) h0
    cases hs : step p limited c with
    | next c' => exact ih c' (step_next_budget_ne_zero h0 hs)
    | interrupted c' =>
      have := step_interrupted_budget hs
      exact Or.inl ⟨rfl, this.1, this.2⟩
    | halt c' => rw [hs] at hne; exact Or.inr ⟨by simp [Outcome.tag], hne (by simp [StepRes.tag])⟩
    | stop c' => rw [hs] at hne; exact Or.inr ⟨by simp [Outcome.tag], hne (by simp [StepRes.tag])⟩
    | bad c' => rw [hs] at hne; exact Or.inr ⟨by simp [Outcome.tag], hne (by simp [StepRes.tag])⟩

theorem run_budget_zero_iff (p : Program w) (b fuel : Nat) (env : Env) :
    (Bc.run p true b fuel env).cfg.budget = 0 ↔ (Bc.run p true b fuel env).tag = 2 := by
  unfold Bc.run
  by_cases hb : b = 0
  · subst hb; simp [Outcome.tag, Outcome.cfg]
  · have hb' : (true && b == 0) = false := by simp [hb]
    simp only [hb']
    rcases budget_zero_only_initially p true fuel
      ({ pc := 0, temps := [], budget := b, st := State.init env } : Cfg w) hb with h | h
    · simp [h.1, h.2.1]
    · simp [h.1, h.2]

/-- Trampolined dispatch: the `budget == 0` test of `execute_in` runs before EVERY instruction. -/
def runCfgDebug (p : Program w) (limited : Bool) : Nat → Cfg w → Outcome w
  | fuel, c =>
    if limited && c.budget == 0 then .interrupted c
    else
      match fuel with
      | 0 => .outOfFuel c
      | fuel + 1 =>
        match step p limited c with
        | .next c' => runCfgDebug p limited fuel c'
        | .halt c' => .done c'
        | .stop c' => .stopped c'
        | .interrupted c' => .interrupted c'
        | .bad c' => .bad c'

/-- `execute_in` of a debug build. -/
def runDebug (p : Program w) (limited : Bool) (budget fuel : Nat) (env : Env) : Outcome w :=
  runCfgDebug p limited fuel { pc := 0, temps := [], budget := budget, st := State.init env }

theorem runCfgDebug_eq (p : Program w) (limited : Bool) (fuel : Nat) (c : Cfg w)
    (h0 : (limited && c.budget == 0) = false) : runCfgDebug p limited fuel c = runCfg p limited fuel c := by
  induction fuel generalizing c with
  | zero => unfold runCfgDebug; simp only [h0]; rfl
  | succ n ih =>
    unfold runCfgDebug
    simp only [h0, runCfg]
    cases hs : step p limited c with
    | next c' =>
      simp only
      apply ih
      cases limited with
      | false => rfl
      | true =>
        have hc : c.budget ≠ 0 := by simpa using h0
        simpa using step_next_budget_ne_zero hc hs
    | halt c' => rfl
    | stop c' => rfl
    | interrupted c' => rfl
    | bad c' => rfl

theorem runDebug_eq_run (p : Program w) (limited : Bool) (b fuel : Nat) (env : Env) :
    runDebug p limited b fuel env = Bc.run p limited b fuel env := by
  unfold runDebug Bc.run
  by_cases hb : (limited && b == 0) = true
  · simp only [hb, if_true]
    unfold runCfgDebug
    simp only [hb, if_true]
  · simp only [hb]
    exact runCfgDebug_eq p limited fuel _ (by simpa using hb)

/-- Non-vacuity: a limited run that is interrupted inside a loop, in both profiles. -/
def exLoop : Program 8 :=
  { temps := 0, minAcc := 0, maxAcc := 0, live := #[0, 0, 0, 0],
    insts := #[.copy (.mem 0) (.imm 5#8), .brz 0 3, .add (.mem 0) (.mem 0) (.imm 255#8), .brnz 0 (-1)] }

example : (runDebug exLoop true 3 100 default).tag = 2 ∧ (Bc.run exLoop true 3 100 default).tag = 2 ∧
    (runDebug exLoop true 30 100 default).tag = 0 ∧ (runDebug exLoop true 0 100 default).tag = 2 := by
  decide +kernel

end C02
end Hpbf
