/-
C02 (`allocate_temps`): the steps of `allocStep`, each as what a successful run did (`…_ok`): 1 `drainEnds_ok`,
4 `phRewriteK_eq` over `rwInst`, 5 `freeAll_eq` over `freeOne`, 6 `phLiveK_ok`; `allocStep_ok` composes them (the
to-success halves of 1, 4, 6 are in `C02AllocTotalHeap`/`C02AllocTotalInv`).  Steps 2, 3 and 7 are walked once with `StateExcept.Tr`
(`phCanK_tr`, `phFuseK_tr`, `phDst_tr`): under `tot = true → (what the step looks up is there)` the step returns a
state described by pure functions (`fuseSrcP`, `fuseSt`, `retarget`, `allocSt`, `fwdSt`).  Read at `tot = false` this is
the relation between the states before and after a successful step (`…_ok`; `allocStep_ok` composes them), at
`tot = true` that the step reaches no panic site (`…_prog`).
-/
import Hpbf.Proofs.C02AllocMonad
import Hpbf.Proofs.C02EmitBase
set_option linter.unusedSimpArgs false

namespace Hpbf
namespace C02
namespace Alloc

open Bc BcGen
open StateExcept (Tr Tr.bind Tr.pure Tr.mono Tr.of_ok tr_iff tr_false tr_true)

variable {w : Nat}


theorem phCanK_tr {tot : Bool} {numRegs i : Nat} {atf0 : List Nat} {inst0 : Instr w} {k : Bool → A w Unit}
    {a : ASt w} {Q : Unit → ASt w → Prop}
    (ht : tot = true → ∀ t, dstTmp? inst0 = some t →
      ∃ (r : RangeInfo) (L : Nat), a.st.ranges[t]? = some r ∧ r.lastUse = some L ∧ i ≤ L)
    (hk : ∀ can, Tr tot (k can) a Q) : Tr tot (phCanK numRegs i atf0 inst0 k) a Q := by
  unfold phCanK
  cases hd : dstTmp? inst0 with
  | none => exact Tr.bind (Tr.pure (hk _))
  | some tmp =>
    dsimp only
    refine Tr.bind (tr_read (lastUseOf_ok _ _ a) (fun h => let ⟨r, L, hr, hL, _⟩ := ht h tmp hd; ⟨L, r, hr, hL⟩) ?_)
    rintro L ⟨r, hr, hL⟩
    split
    · rename_i hlt
      refine Tr.bind (tr_throw (tot_false fun h => ?_))
      obtain ⟨r', L', hr', hL', hle⟩ := ht h tmp hd
      rw [hr] at hr'; cases hr'; rw [hL] at hL'; cases hL'; omega
    · exact tr_get_bind (Tr.bind (Tr.pure (hk _)))

theorem phCanK_ok {numRegs i : Nat} {atf0 : List Nat} {inst0 : Instr w} {k : Bool → A w Unit}
    {a a' : ASt w} {u : Unit} (h : phCanK numRegs i atf0 inst0 k a = .ok (u, a')) :
    ∃ can, k can a = .ok (u, a') :=
  tr_false.1 (phCanK_tr (Q := fun u a' => ∃ can, k can a = .ok (u, a')) (fun h => by cases h)
    (fun can => tr_false.2 fun _ _ h => ⟨can, h⟩)) u a' h

theorem phCanK_prog {numRegs i : Nat} {atf0 : List Nat} {inst0 : Instr w} {k : Bool → A w Unit} {a : ASt w}
    (h : ∀ t, dstTmp? inst0 = some t →
      ∃ (r : RangeInfo) (L : Nat), a.st.ranges[t]? = some r ∧ r.lastUse = some L ∧ i ≤ L)
    (hk : ∀ can, ∃ res, k can a = .ok res) : ∃ res, phCanK numRegs i atf0 inst0 k a = .ok res :=
  tr_prog.1 (phCanK_tr (fun _ => h) (fun can => tr_prog.2 (hk can)))

/-- Step 4 as a function of the instruction. -/
def rwInst (repl : List (Nat × Loc w)) (x : Instr w) : Except String (Instr w) :=
  match x with
  | .copy d s =>
    match replSrc repl s with
    | .error e => .error e
    | .ok s' => .ok (.copy d s')
  | _ =>
    match arith? x with
    | some (op, d, s0, s1) =>
      match replSrc repl s0 with
      | .error e => .error e
      | .ok s0' =>
        match replSrc repl s1 with
        | .error e => .error e
        | .ok s1' => .ok (mkArith op d s0' s1')
    | none => .ok x

theorem setI_self {a : ASt w} {i : Nat} {x : Instr w} (h : a.st.insts[i]? = some x) : a.setI i x = a := by
  have : a.st.insts.setIfInBounds i x = a.st.insts := by
    apply Array.ext_getElem?
    intro j
    by_cases hj : i = j
    · subst hj
      rw [h]
      have := Array.getElem?_eq_some_iff.1 h
      obtain ⟨hi, _⟩ := this
      simp [Array.getElem?_setIfInBounds, hi]
    · simp [Array.getElem?_setIfInBounds, hj]
  unfold ASt.setI
  rw [this]

theorem phRewriteK_eq (i : Nat) (k : Unit → A w Unit) (a : ASt w) :
    phRewriteK i k a =
      match a.st.insts[i]? with
      | none => .error "allocate_temps:insts-index"
      | some cur =>
        match rwInst a.repl cur with
        | .error e => .error e
        | .ok new => k () (a.setI i new) := by
  have hat : instAt "allocate_temps:insts-index" i a =
      match a.st.insts[i]? with
      | none => .error "allocate_temps:insts-index"
      | some cur => .ok (cur, a) := by
    unfold instAt
    simp only [get_bind]
    cases a.st.insts[i]? <;> rfl
  unfold phRewriteK
  show (instAt "allocate_temps:insts-index" i a).bind _ = _
  rw [hat]
  cases hc : a.st.insts[i]? with
  | none => rfl
  | some cur =>
    show ((get : A w (ASt w)) >>= _) a = _
    simp only [get_bind]
    cases cur with
    | copy d s =>
      simp only [rwInst]
      cases replSrc a.repl s <;> rfl
    | add d s0 s1 | sub d s0 s1 | mul d s0 s1 =>
      simp only [rwInst, arith?]
      cases replSrc a.repl s0 with
      | error e => rfl
      | ok s0' => cases replSrc a.repl s1 <;> rfl
    | noop | scan c sh | mov sh | inp d | out d | brz c off | brnz c off =>
      -- nothing to rewrite: the instruction is stored back unchanged
      simp only [rwInst, arith?, pure_bind']
      rw [setI_self hc]

theorem phRewriteK_ok {i : Nat} {k : Unit → A w Unit} {a a' : ASt w} {u : Unit}
    (h : phRewriteK i k a = .ok (u, a')) :
    ∃ cur new, a.st.insts[i]? = some cur ∧ rwInst a.repl cur = .ok new ∧
      k () (a.setI i new) = .ok (u, a') := by
  rw [phRewriteK_eq] at h
  cases hc : a.st.insts[i]? with
  | none => rw [hc] at h; cases h
  | some cur =>
    simp only [hc] at h
    cases hn : rwInst a.repl cur with
    | error e => rw [hn] at h; cases h
    | ok new => rw [hn] at h; exact ⟨cur, new, rfl, hn, h⟩

/-- Step 6 on the state: one more entry in the column `live`. -/
def pushLive (a : ASt w) (live : Nat) : ASt w :=
  { a with st := { a.st with live := a.st.live.push live } }

theorem phLiveK_ok {numRegs : Nat} {k : Unit → A w Unit} {a a' : ASt w} {u : Unit}
    (h : phLiveK numRegs k a = .ok (u, a')) :
    ∃ live, liveMask numRegs a.freeRegs = .ok live ∧ k () (pushLive a live) = .ok (u, a') := by
  unfold phLiveK at h
  simp only [get_bind] at h
  cases hl : liveMask numRegs a.freeRegs with
  | error e => simp [hl, throw_bind, throw_run] at h
  | ok live =>
    simp only [hl, modify_bind] at h
    exact ⟨live, rfl, h⟩

def fuseSrcP (firstUse : Nat) (atf : List Nat) (l : Loc w) (a : ASt w) : Except String (List Nat × ASt w) :=
  match l with
  | .tmp t =>
    match extendTo a.st.ranges t firstUse with
    | .error e => .error e
    | .ok rs =>
      let a1 : ASt w := { a with st := { a.st with ranges := rs } }
      if atf.contains t then
        .ok (setErase atf t, { a1 with nre := nrePush (firstUse, t) a1.nre })
      else .ok (atf, a1)
  | _ => .ok (atf, a)

theorem fuseSrc_eq (firstUse : Nat) (atf : List Nat) (l : Loc w) (a : ASt w) :
    fuseSrc firstUse atf l a = fuseSrcP firstUse atf l a := by
  cases l with
  | tmp t =>
    simp only [fuseSrc, fuseSrcP, get_bind]
    cases extendTo a.st.ranges t firstUse with
    | error e => rfl
    | ok rs =>
      simp only [set_bind]
      by_cases hc : atf.contains t = true
      · simp only [hc, if_true, modify_bind]; rfl
      · simp only [hc]; rfl
  | _ => rfl

/-- The location chosen by `alloc_temp`, then the remaining `freeRegs`, `freeTemps` and the new `nextFresh`: the two
consecutive `let`s of `BcGen.allocTemp` (a register under the heuristic of `can_alloc_reg`, else a spill slot or a
fresh one) as one case tree. -/
def pickTemp (a : ASt w) (live : Nat) : Nat × List Nat × List Nat × Nat :=
  if live < 16 ∨ a.freeRegs.length > 2 then
    match a.freeRegs with
    | r :: rs => (r, rs, a.freeTemps, a.nextFresh)
    | [] =>
      match a.freeTemps with
      | t :: ts => (t, [], ts, a.nextFresh)
      | [] => (a.nextFresh, [], [], a.nextFresh + 1)
  else
    match a.freeTemps with
    | t :: ts => (t, a.freeRegs, ts, a.nextFresh)
    | [] => (a.nextFresh, a.freeRegs, [], a.nextFresh + 1)

def setDst (x : Instr w) (d : Loc w) : Instr w :=
  match x with
  | .add _ s0 s1 => .add d s0 s1
  | .sub _ s0 s1 => .sub d s0 s1
  | .mul _ s0 s1 => .mul d s0 s1
  | .copy _ s => .copy d s
  | x => x

/-- State after `alloc_temp` for the destination `old` of `insts[i] = x` whose range ends at `L`. -/
def allocSt (a : ASt w) (i old L : Nat) (x : Instr w) : ASt w :=
  { a with
    freeRegs := (pickTemp a (L - i)).2.1, freeTemps := (pickTemp a (L - i)).2.2.1,
    nextFresh := (pickTemp a (L - i)).2.2.2,
    repl := alSet a.repl old (.tmp (pickTemp a (L - i)).1),
    nre := nrePush (L, old) a.nre,
    st := { a.st with insts := a.st.insts.setIfInBounds i (setDst x (.tmp (pickTemp a (L - i)).1)) } }

theorem allocTemp_tr {tot : Bool} {i old : Nat} {a : ASt w}
    (ht : tot = true → ∃ (r : RangeInfo) (L : Nat) (x : Instr w), a.st.ranges[old]? = some r ∧ r.lastUse = some L ∧
      i ≤ L ∧ a.st.insts[i]? = some x) :
    Tr tot (allocTemp i old) a (fun _ a' => ∃ r L x, a.st.ranges[old]? = some r ∧ r.lastUse = some L ∧ i ≤ L ∧
      a.st.insts[i]? = some x ∧ a' = allocSt a i old L x) := by
  unfold allocTemp
  refine Tr.bind (tr_read (lastUseOf_ok _ _ a) (fun h => let ⟨r, L, _, hr, hL, _⟩ := ht h; ⟨L, r, hr, hL⟩) ?_)
  rintro L ⟨r, hr, hL⟩
  by_cases hlt : L < i
  · simp only [hlt, if_true]
    refine Tr.bind (tr_throw (tot_false fun h => ?_))
    obtain ⟨r', L', _, hr', hL', hle, _⟩ := ht h
    rw [hr] at hr'; cases hr'; rw [hL] at hL'; cases hL'; omega
  · simp only [hlt, if_false]
    refine tr_get_bind ?_
    refine Tr.bind (tr_read (instAt_ok _ _ a) (fun h => let ⟨_, _, x, _, _, _, hx⟩ := ht h; ⟨x, hx⟩) ?_)
    intro x hx
    refine Tr.of_ok rfl ⟨r, L, x, hr, hL, Nat.le_of_not_lt hlt, hx, ?_⟩
    unfold allocSt pickTemp setDst
    by_cases hc : L - i < 16 ∨ a.freeRegs.length > 2
    · have hc' : (decide (L - i < 16) || decide (a.freeRegs.length > 2)) = true := by simpa using hc
      simp only [hc', hc, if_true]
      cases hf : a.freeRegs with
      | cons r rs => rfl
      | nil => cases hft : a.freeTemps <;> rfl
    · have hc' : (decide (L - i < 16) || decide (a.freeRegs.length > 2)) = false := by simpa using hc
      simp only [hc', hc, if_false]
      cases hft : a.freeTemps <;> rfl

def fwdSt (a : ASt w) (i tmp lastUse : Nat) (src : Loc w) : ASt w :=
  { a with repl := alSet a.repl tmp src, nre := nrePush (lastUse, tmp) a.nre,
           st := { a.st with insts := a.st.insts.setIfInBounds i .noop } }

/-- What step 7 does with an instruction whose destination is the temporary `t`. -/
def DstCase (i : Nat) (a : ASt w) (x : Instr w) (t : Nat) (a' : ASt w) : Prop :=
  ∃ r, a.st.ranges[t]? = some r ∧
    (((r.numUses = 0 ∨ r.lastUse = none) ∧ a' = a.setI i .noop) ∨
     (∃ src L, x = .copy (.tmp t) src ∧ r.lastUse = some L ∧ r.numUses ≠ 0 ∧
        ((∃ c, src = .imm c) ∨ ∃ m, src = .mem m ∧ hasWriteInRange a.st m i L = false) ∧
        a' = fwdSt a i t L src) ∨
     (r.numUses ≠ 0 ∧ ∃ L, r.lastUse = some L ∧ i ≤ L ∧ a' = allocSt a i t L x))

def DstPost (i : Nat) (a a' : ASt w) : Prop :=
  ∃ x, a.st.insts[i]? = some x ∧ ((dstTmp? x = none ∧ a' = a) ∨ ∃ t, dstTmp? x = some t ∧ DstCase i a x t a')

/-- Step 7, walked once.  It reaches no panic site when the range of the destination (if there is one) ends at `i` or
later. -/
theorem phDst_tr {tot : Bool} {i : Nat} {can : Bool} {a : ASt w}
    (ht : tot = true → ∃ x, a.st.insts[i]? = some x ∧ ∀ t, dstTmp? x = some t →
      ∃ (r : RangeInfo) (L : Nat), a.st.ranges[t]? = some r ∧ r.lastUse = some L ∧ i ≤ L) :
    Tr tot (phDst i can) a (fun _ a' => DstPost i a a') := by
  unfold phDst
  refine Tr.bind (tr_read (instAt_ok _ _ a) (fun h => let ⟨x, hx, _⟩ := ht h; ⟨x, hx⟩) ?_)
  intro x hx
  -- what `ht` says about the destination of `x`
  have hdst : ∀ t, dstTmp? x = some t → tot = true →
      ∃ (r : RangeInfo) (L : Nat), a.st.ranges[t]? = some r ∧ r.lastUse = some L ∧ i ≤ L := by
    intro t hd h
    obtain ⟨x', hx', g⟩ := ht h
    rw [hx] at hx'; cases hx'
    exact g t hd
  have hrange : ∀ t, dstTmp? x = some t → ∀ {Q : RangeInfo → ASt w → Prop},
      (∀ r, a.st.ranges[t]? = some r → Q r a) → Tr tot (rangeAt "allocate_temps:ranges-index" t) a Q :=
    fun t hd Q hq => tr_read (rangeAt_ok _ _ a) (fun h => let ⟨r, _, hr, _⟩ := hdst t hd h; ⟨r, hr⟩) hq
  have halloc : ∀ t r, dstTmp? x = some t → a.st.ranges[t]? = some r → r.numUses ≠ 0 →
      Tr tot (allocTemp i t) a (fun _ a' => DstPost i a a') := by
    intro t r hd hr hn
    refine (allocTemp_tr (fun h => let ⟨r, L, g1, g2, g3⟩ := hdst t hd h; ⟨r, L, x, g1, g2, g3, hx⟩)).mono ?_
    rintro _ a' - ⟨r', L, x', q1, q2, q3, q4, rfl⟩
    rw [hr] at q1; cases q1
    rw [hx] at q4; cases q4
    exact ⟨x, hx, Or.inr ⟨t, hd, r, hr, Or.inr (Or.inr ⟨hn, L, q2, q3, rfl⟩)⟩⟩
  have hnoop : ∀ t r, dstTmp? x = some t → a.st.ranges[t]? = some r → (r.numUses = 0 ∨ r.lastUse = none) →
      Tr tot (setInst i .noop) a (fun _ a' => DstPost i a a') :=
    fun t r hd hr h0 => Tr.of_ok rfl ⟨x, hx, Or.inr ⟨t, hd, r, hr, Or.inl ⟨h0, rfl⟩⟩⟩
  have hnone : dstTmp? x = none → Tr tot (pure () : A w Unit) a (fun _ a' => DstPost i a a') :=
    fun hd => Tr.pure ⟨x, hx, Or.inl ⟨hd, rfl⟩⟩
  have harith : ∀ (d : Loc w), dstTmp? x = (match d with | .tmp t => some t | _ => none) →
      Tr tot (match d with
        | .tmp tmp => (do
          let r ← rangeAt "allocate_temps:ranges-index" tmp
          if r.numUses != 0 then allocTemp i tmp else setInst i .noop : A w Unit)
        | _ => pure ()) a (fun _ a' => DstPost i a a') := by
    intro d hd
    cases d with
    | tmp t =>
      refine Tr.bind (hrange t hd ?_)
      intro r hr
      by_cases hn : r.numUses = 0
      · simp only [hn, bne_self_eq_false, Bool.false_eq_true, if_false]
        exact hnoop t r hd hr (Or.inl hn)
      · have : (r.numUses != 0) = true := by simpa using hn
        simp only [this, if_true]
        exact halloc t r hd hr hn
    | _ => exact hnone hd
  cases x with
  | copy d s =>
    cases d with
    | tmp t =>
      refine Tr.bind (hrange t rfl ?_)
      intro r hr
      cases hL : r.lastUse with
      | none => exact hnoop t r rfl hr (Or.inr hL)
      | some L =>
        dsimp only
        by_cases hn : r.numUses = 0
        · simp only [hn, beq_self_eq_true, if_true]
          exact hnoop t r rfl hr (Or.inl hn)
        · have : (r.numUses == 0) = false := by simpa using hn
          simp only [this, Bool.false_eq_true, if_false]
          have hfwd : ∀ src, s = src → ((∃ c, src = .imm c) ∨ ∃ m, src = .mem m ∧ hasWriteInRange a.st m i L = false) →
              Tr tot (forward i t L src) a (fun _ a' => DstPost i a a') := by
            rintro src rfl hs
            exact Tr.of_ok rfl ⟨_, hx, Or.inr ⟨t, rfl, r, hr, Or.inr (Or.inl ⟨_, L, rfl, hL, hn, hs, rfl⟩)⟩⟩
          cases s with
          | imm c => exact hfwd _ rfl (Or.inl ⟨c, rfl⟩)
          | mem m =>
            refine tr_get_bind ?_
            by_cases hc : ((r.numUses == 1 || !can) && !hasWriteInRange a.st m i L) = true
            · simp only [hc, if_true]
              refine hfwd _ rfl (Or.inr ⟨m, rfl, ?_⟩)
              simp only [Bool.and_eq_true, Bool.not_eq_true'] at hc
              exact hc.2
            · simp only [hc, if_false]
              exact halloc t r rfl hr hn
          | tmp t' | memZero m => exact halloc t r rfl hr hn
    | mem m | memZero m | imm m => exact hnone rfl
  | add d s0 s1 | sub d s0 s1 | mul d s0 s1 =>
    simp only [arith?]
    have := harith d (by cases d <;> rfl)
    cases d <;> exact this
  | _ => exact hnone rfl

theorem phDst_ok {i : Nat} {can : Bool} {a a' : ASt w} {u : Unit} (h : phDst i can a = .ok (u, a')) :
    DstPost i a a' :=
  tr_false.1 (phDst_tr (fun h => by cases h)) u a' h

theorem phDst_prog {i : Nat} {can : Bool} {a : ASt w} {x : Instr w} (hx : a.st.insts[i]? = some x)
    (h : ∀ t, dstTmp? x = some t →
      ∃ (r : RangeInfo) (L : Nat), a.st.ranges[t]? = some r ∧ r.lastUse = some L ∧ i ≤ L) :
    ∃ res, phDst i can a = .ok res :=
  tr_prog.1 ((phDst_tr (can := can) (fun _ => ⟨x, hx, h⟩)).mono fun _ _ _ _ => trivial)

theorem phDst_none {i : Nat} {can : Bool} {a a' : ASt w} {u : Unit} {x : Instr w}
    (h : phDst i can a = .ok (u, a')) (hx : a.st.insts[i]? = some x) (hd : dstTmp? x = none) : a' = a := by
  obtain ⟨x', hx', h'⟩ := phDst_ok h
  rw [hx] at hx'; cases hx'
  rcases h' with ⟨_, e⟩ | ⟨t, ht, _⟩
  · exact e
  · rw [hd] at ht; cases ht

/-- State after a performed fusion (before the final retargeting of `insts[firstUse]`). -/
def fuseSt (a2 : ASt w) (i t L f : Nat) (m : Int) (inst0 : Instr w) : ASt w :=
  (({ a2 with repl := alSet a2.repl t (.mem m), nre := nrePush (L, t) a2.nre } : ASt w).setI f inst0).setI i .noop

def retarget (a5 : ASt w) (f : Nat) (m : Int) (x : Instr w) : ASt w :=
  match arith? x with
  | some (op, _, x0, x1) => a5.setI f (mkArith op (.mem m) x0 x1)
  | none => a5


theorem srcOk_total {a : ASt w} {i f : Nat} {l : Loc w} (h : ∀ u, l = .tmp u → ∃ v, alGet a.repl u = some v) :
    ∃ b, srcOk a i f l = .ok b := by
  cases l with
  | tmp t =>
    obtain ⟨v, hv⟩ := h t rfl
    simp only [srcOk, hv]
    cases v <;> exact ⟨_, rfl⟩
  | _ => exact ⟨_, rfl⟩

theorem fuseSrcP_total {f : Nat} {atf : List Nat} {l : Loc w} {a : ASt w}
    (h : ∀ u, l = .tmp u → ∃ ru, a.st.ranges[u]? = some ru) : ∃ atf1 a1, fuseSrcP f atf l a = .ok (atf1, a1) := by
  cases l with
  | tmp t =>
    obtain ⟨ru, hru⟩ := h t rfl
    simp only [fuseSrcP, extendTo, hru]
    split <;> exact ⟨_, _, rfl⟩
  | _ => exact ⟨_, _, rfl⟩

theorem fuseSrcP_cases {f : Nat} {atf atf' : List Nat} {l : Loc w} {a a' : ASt w}
    (h : fuseSrcP f atf l a = .ok (atf', a')) :
    ((∀ t, l ≠ .tmp t) ∧ atf' = atf ∧ a' = a) ∨
    ∃ t r, l = .tmp t ∧ a.st.ranges[t]? = some r ∧
      atf' = (if atf.contains t then setErase atf t else atf) ∧
      a' = { a with st := { a.st with ranges := a.st.ranges.setIfInBounds t (AEmit.bump r f 0) },
                    nre := if atf.contains t then nrePush (f, t) a.nre else a.nre } := by
  cases l with
  | tmp t =>
    simp only [fuseSrcP, C02Emit.extendTo_eq] at h
    cases hr : a.st.ranges[t]? with
    | none => simp [hr] at h
    | some r =>
      simp only [hr] at h
      refine Or.inr ⟨t, r, rfl, hr, ?_⟩
      split at h <;> rename_i hc <;> cases h
      · exact ⟨by rw [if_pos hc], by rw [if_pos hc]⟩
      · exact ⟨by rw [if_neg hc], by rw [if_neg hc]⟩
  | _ => cases h; exact Or.inl ⟨fun t e => (by cases e), rfl, rfl⟩

theorem fuseSrcP_sizes {f : Nat} {atf atf' : List Nat} {l : Loc w} {a a' : ASt w}
    (h : fuseSrcP f atf l a = .ok (atf', a')) :
    a'.st.insts = a.st.insts ∧ a'.st.ranges.size = a.st.ranges.size := by
  rcases fuseSrcP_cases h with ⟨_, _, rfl⟩ | ⟨t, r, _, _, _, rfl⟩
  · exact ⟨rfl, rfl⟩
  · exact ⟨rfl, by simp⟩

theorem fuseSrc_tr {tot : Bool} {f : Nat} {atf : List Nat} {l : Loc w} {a : ASt w} {Q : List Nat → ASt w → Prop}
    (ht : tot = true → ∀ u, l = .tmp u → u < a.st.ranges.size)
    (hq : ∀ atf' a', fuseSrcP f atf l a = .ok (atf', a') → Q atf' a') : Tr tot (fuseSrc f atf l) a Q := by
  unfold Tr
  rw [fuseSrc_eq]
  cases h : fuseSrcP f atf l a with
  | ok p => exact hq p.1 p.2 h
  | error e =>
    refine tot_false fun htt => ?_
    obtain ⟨atf1, a1, h1⟩ := fuseSrcP_total (f := f) (atf := atf) (l := l) (a := a)
      (fun u e => ⟨_, Array.getElem?_eq_getElem (ht htt u e)⟩)
    rw [h] at h1; cases h1

theorem fuseBlock_tr {tot : Bool} {i t L f : Nat} {m : Int} {atf0 : List Nat} {inst0 : Instr w} {s0 s1 : Loc w}
    {k : List Nat → A w Unit} {a : ASt w} {Q : Unit → ASt w → Prop}
    (ht : tot = true → (∀ u, (s0 = .tmp u ∨ s1 = .tmp u) → u < a.st.ranges.size) ∧ f < a.st.insts.size)
    (hk : ∀ atf1 a1 atf a2 x, fuseSrcP f atf0 s0 a = .ok (atf1, a1) → fuseSrcP f atf1 s1 a1 = .ok (atf, a2) →
      (fuseSt a2 i t L f m inst0).st.insts[f]? = some x →
      Tr tot (k atf) (retarget (fuseSt a2 i t L f m inst0) f m x) Q) :
    Tr tot (do
        let atf ← fuseSrc f atf0 s0
        let atf ← fuseSrc f atf s1
        modify fun a =>
          { a with repl := alSet a.repl t (.mem m), nre := nrePush (L, t) a.nre }
        setInst f inst0
        setInst i .noop
        let x ← instAt "allocate_temps:insts[first_use]-index" f
        match arith? x with
          | some (op, _, x0, x1) => do
            setInst f (mkArith op (.mem m) x0 x1)
            k atf
          | none => k atf : A w Unit) a Q := by
  refine Tr.bind (fuseSrc_tr (fun h u e => (ht h).1 u (Or.inl e)) ?_)
  intro atf1 a1 e1
  obtain ⟨i1, z1⟩ := fuseSrcP_sizes e1
  refine Tr.bind (fuseSrc_tr (fun h u e => z1 ▸ (ht h).1 u (Or.inr e)) ?_)
  intro atf a2 e2
  obtain ⟨i2, z2⟩ := fuseSrcP_sizes e2
  refine tr_modify_bind (tr_setInst_bind (tr_setInst_bind ?_))
  refine Tr.bind (tr_read (instAt_ok _ _ (fuseSt a2 i t L f m inst0)) (fun h => ?_) ?_)
  · have hflt : f < (fuseSt a2 i t L f m inst0).st.insts.size := by
      simp only [fuseSt, ASt.setI, Array.size_setIfInBounds]
      rw [i2, i1]; exact (ht h).2
    exact ⟨_, Array.getElem?_eq_getElem hflt⟩
  intro x hx
  have hF := hk atf1 a1 atf a2 x e1 e2 hx
  unfold retarget at hF
  cases hax : arith? x with
  | none => simp only [hax] at hF ⊢; exact hF
  | some q =>
    obtain ⟨op', d', x0, x1⟩ := q
    simp only [hax] at hF ⊢
    exact tr_setInst_bind hF

/-- Step 3 as a relation: either nothing happens, or the computation `inst0 = op (tmp t) s0 s1` is moved to its
first use `f` (a store `mem[m] = tmp t`). -/
def FusePhase (i : Nat) (atf0 : List Nat) (inst0 : Instr w) (a : ASt w) (atf : List Nat) (aF : ASt w) : Prop :=
  (atf = atf0 ∧ aF = a) ∨
  ∃ op t s0 s1 r L f m src atf1 a1 a2 x,
    arith? inst0 = some (op, .tmp t, s0, s1) ∧ a.st.ranges[t]? = some r ∧ r.lastUse = some L ∧
    r.firstUse = some f ∧ a.st.insts[f]? = some (.copy (.mem m) src) ∧
    hasWriteInRange a.st m (f + 1) L = false ∧
    srcOk a i f s0 = .ok true ∧ srcOk a i f s1 = .ok true ∧
    fuseSrcP f atf0 s0 a = .ok (atf1, a1) ∧ fuseSrcP f atf1 s1 a1 = .ok (atf, a2) ∧
    (fuseSt a2 i t L f m inst0).st.insts[f]? = some x ∧
    aF = retarget (fuseSt a2 i t L f m inst0) f m x

/-- Step 3 reaches no panic site: the range of the destination records a first use inside the program, and the
operands have a location and a range. -/
def FusePre (inst0 : Instr w) (a : ASt w) : Prop :=
  ∀ op t s0 s1, arith? inst0 = some (op, .tmp t, s0, s1) →
    ∃ r : RangeInfo, a.st.ranges[t]? = some r ∧
      (∀ L, r.lastUse = some L → ∃ f fi, r.firstUse = some f ∧ a.st.insts[f]? = some fi) ∧
      (∀ u, (s0 = .tmp u ∨ s1 = .tmp u) → (∃ l, alGet a.repl u = some l) ∧ u < a.st.ranges.size)

theorem phFuseK_tr {tot : Bool} {i : Nat} {can : Bool} {atf0 : List Nat} {inst0 : Instr w} {k : List Nat → A w Unit}
    {a : ASt w} {Q : Unit → ASt w → Prop} (ht : tot = true → FusePre inst0 a)
    (hk : ∀ atf aF, FusePhase i atf0 inst0 a atf aF → Tr tot (k atf) aF Q) :
    Tr tot (phFuseK i can atf0 inst0 k) a Q := by
  have hk0 : Tr tot (k atf0) a Q := hk atf0 a (Or.inl ⟨rfl, rfl⟩)
  unfold phFuseK
  dsimp only
  cases har : arith? inst0 with
  | none => exact Tr.bind (Tr.pure hk0)
  | some q =>
    obtain ⟨op, d, s0, s1⟩ := q
    cases d with
    | tmp t =>
      have hpre : tot = true → _ := fun h => ht h op t s0 s1 har
      dsimp only
      refine Tr.bind (tr_read (rangeAt_ok _ _ a) (fun h => let ⟨r, hr, _⟩ := hpre h; ⟨r, hr⟩) ?_)
      intro r hrg
      have hpre' : tot = true → (∀ L, r.lastUse = some L → ∃ f fi, r.firstUse = some f ∧ a.st.insts[f]? = some fi) ∧
          (∀ u, (s0 = .tmp u ∨ s1 = .tmp u) → (∃ l, alGet a.repl u = some l) ∧ u < a.st.ranges.size) := by
        intro h
        obtain ⟨r', hr', g⟩ := hpre h
        rw [hrg] at hr'; cases hr'; exact g
      cases hL : r.lastUse with
      | none => exact hk0
      | some L =>
        dsimp only
        cases hf : r.firstUse with
        | none =>
          refine Tr.bind (tr_throw (tot_false fun h => ?_))
          obtain ⟨f, _, g, _⟩ := (hpre' h).1 L hL
          rw [hf] at g; cases g
        | some f =>
          refine Tr.bind (Tr.pure ?_)
          refine Tr.bind (tr_read (instAt_ok _ _ a) (fun h => ?_) ?_)
          · obtain ⟨f', fi, g, hfi⟩ := (hpre' h).1 L hL
            rw [hf] at g; cases g; exact ⟨fi, hfi⟩
          intro fi hfi
          cases fi with
          | copy d src =>
            cases d with
            | mem m =>
              refine tr_get_bind ?_
              by_cases hc : ((r.numUses == 1 || !can) && !hasWriteInRange a.st m (f + 1) L) = true
              · rw [if_pos hc]
                have hw : hasWriteInRange a.st m (f + 1) L = false := by
                  simp only [Bool.and_eq_true, Bool.not_eq_true'] at hc
                  exact hc.2
                -- an operand without a location is a panic site
                have hsrc : ∀ l, (l = s0 ∨ l = s1) → ∀ e, srcOk a i f l = .error e → tot = false := by
                  intro l hl e he
                  refine tot_false fun h => ?_
                  obtain ⟨b, hb⟩ := srcOk_total (a := a) (i := i) (f := f) (l := l)
                    (fun u e => ((hpre' h).2 u (by rcases hl with rfl | rfl; exact Or.inl e; exact Or.inr e)).1)
                  rw [he] at hb; cases hb
                cases hs0 : srcOk a i f s0 with
                | error e => exact Tr.bind (tr_throw (hsrc s0 (Or.inl rfl) e hs0))
                | ok b0 =>
                  cases b0 with
                  | false => exact Tr.bind (Tr.pure hk0)
                  | true =>
                    dsimp only
                    cases hs1 : srcOk a i f s1 with
                    | error e => exact Tr.bind (tr_throw (hsrc s1 (Or.inr rfl) e hs1))
                    | ok b1 =>
                      cases b1 with
                      | false => exact Tr.bind (Tr.pure hk0)
                      | true =>
                        refine Tr.bind (Tr.pure ?_)
                        rw [if_pos rfl]
                        refine fuseBlock_tr (fun h => ⟨fun u e => ((hpre' h).2 u e).2,
                          (Array.getElem?_eq_some_iff.1 hfi).1⟩) ?_
                        intro atf1 a1 atf a2 x e1 e2 hx
                        exact hk atf _ (Or.inr ⟨op, t, s0, s1, r, L, f, m, src, atf1, a1, a2, x, har, hrg, hL, hf, hfi,
                          hw, hs0, hs1, e1, e2, hx, rfl⟩)
              · rw [if_neg hc]
                exact Tr.bind (Tr.pure hk0)
            | _ => exact hk0
          | _ => exact hk0
    | _ => exact Tr.bind (Tr.pure hk0)

theorem phFuseK_ok {i : Nat} {can : Bool} {atf0 : List Nat} {inst0 : Instr w} {k : List Nat → A w Unit}
    {a a' : ASt w} {u : Unit} (h : phFuseK i can atf0 inst0 k a = .ok (u, a')) :
    ∃ atf aF, FusePhase i atf0 inst0 a atf aF ∧ k atf aF = .ok (u, a') :=
  tr_false.1 (phFuseK_tr (Q := fun u a' => ∃ atf aF, FusePhase i atf0 inst0 a atf aF ∧ k atf aF = .ok (u, a'))
    (fun h => by cases h) (fun atf aF hF => tr_false.2 fun _ _ h => ⟨atf, aF, hF, h⟩)) u a' h

theorem phFuseK_prog {i : Nat} {can : Bool} {atf0 : List Nat} {inst0 : Instr w} {k : List Nat → A w Unit}
    {a : ASt w} (hr : FusePre inst0 a)
    (hk : ∀ atf aF, FusePhase i atf0 inst0 a atf aF → ∃ res, k atf aF = .ok res) :
    ∃ res, phFuseK i can atf0 inst0 k a = .ok res :=
  tr_prog.1 (phFuseK_tr (fun _ => hr) (fun atf aF hF => tr_prog.2 (hk atf aF hF)))

def freeOne (numRegs : Nat) (a : ASt w) (t : Nat) : ASt w :=
  match alGet a.repl t with
  | some (.tmp r) =>
    if r < numRegs then { a with repl := alErase a.repl t, freeRegs := minPush r a.freeRegs }
    else { a with repl := alErase a.repl t, freeTemps := minPush r a.freeTemps }
  | _ => { a with repl := alErase a.repl t }

/-- Step 5 on the state: the temporaries of `ts` released one after the other. -/
def freeList (numRegs : Nat) (ts : List Nat) (a : ASt w) : ASt w := ts.foldl (freeOne numRegs) a

theorem freeAll_eq (numRegs : Nat) (ts : List Nat) (a : ASt w) :
    freeAll numRegs ts a = .ok ((), freeList numRegs ts a) := by
  unfold freeList
  induction ts generalizing a with
  | nil => rfl
  | cons t ts ih =>
    simp only [freeAll, get_bind, List.foldl_cons]
    unfold freeOne
    cases hg : alGet a.repl t with
    | none => simp only [set_bind]; exact ih _
    | some l =>
      cases l with
      | tmp r =>
        simp only
        by_cases hr : r < numRegs
        · simp only [hr, if_true, set_bind]; exact ih _
        · simp only [hr, if_false, set_bind]; exact ih _
      | _ => simp only [set_bind]; exact ih _

/-- Heap entries after some rounds of `drainEnds`: an original entry, or the re-insertion of an original entry
with the (larger) current `last_use`. -/
def Ent (a : ASt w) (x : Nat × Nat) : Prop :=
  x ∈ a.nre ∨ ∃ e r, (e, x.2) ∈ a.nre ∧ a.st.ranges[x.2]? = some r ∧ r.lastUse = some x.1 ∧ e < x.1

theorem mem_nrePush {x y : Nat × Nat} {l : List (Nat × Nat)} : y ∈ nrePush x l ↔ y = x ∨ y ∈ l := by
  induction l with
  | nil => simp [nrePush]
  | cons z zs ih =>
    simp only [nrePush]
    split
    · simp only [List.mem_cons, ih]
      constructor
      · rintro (h | h | h)
        · exact Or.inr (Or.inl h)
        · exact Or.inl h
        · exact Or.inr (Or.inr h)
      · rintro (h | h | h)
        · exact Or.inr (Or.inl h)
        · exact Or.inl h
        · exact Or.inr (Or.inr h)
    · simp only [List.mem_cons]

/-- The heap list is kept in the order in which `pop` hands the entries out. -/
def SortedE (l : List (Nat × Nat)) : Prop := l.Pairwise (fun x y => x.1 ≤ y.1)

theorem nreGt_le {a b : Nat × Nat} (h : nreGt a b = true) : a.1 ≤ b.1 := by
  simp only [nreGt, Bool.or_eq_true, decide_eq_true_eq, Bool.and_eq_true, beq_iff_eq] at h
  omega

theorem not_nreGt_ge {a b : Nat × Nat} (h : ¬ nreGt a b = true) : b.1 ≤ a.1 := by
  simp only [nreGt, Bool.or_eq_true, decide_eq_true_eq, Bool.and_eq_true, beq_iff_eq, not_or] at h
  omega

theorem sortedE_nrePush {x : Nat × Nat} {l : List (Nat × Nat)} (h : SortedE l) : SortedE (nrePush x l) := by
  induction l with
  | nil => simp [nrePush, SortedE]
  | cons y ys ih =>
    unfold SortedE at h ⊢
    rw [List.pairwise_cons] at h
    simp only [nrePush]
    split
    · rename_i hg
      rw [List.pairwise_cons]
      refine ⟨?_, ih h.2⟩
      intro z hz
      rw [mem_nrePush] at hz
      rcases hz with rfl | hz
      · exact nreGt_le hg
      · exact h.1 z hz
    · rename_i hg
      rw [List.pairwise_cons]
      refine ⟨?_, List.pairwise_cons.2 h⟩
      intro z hz
      have hxy := not_nreGt_ge hg
      rcases List.mem_cons.1 hz with rfl | hz
      · exact hxy
      · exact Nat.le_trans hxy (h.1 z hz)

structure NreOnly (a a' : ASt w) : Prop where
  st : a'.st = a.st
  nextFresh : a'.nextFresh = a.nextFresh
  freeRegs : a'.freeRegs = a.freeRegs
  freeTemps : a'.freeTemps = a.freeTemps
  repl : a'.repl = a.repl

theorem drainEnds_ok {i : Nat} : ∀ (fuel : Nat) {atf atf' : List Nat} {a a' : ASt w},
    drainEnds i fuel atf a = .ok (atf', a') →
    NreOnly a a' ∧ (∀ x ∈ a'.nre, Ent a x) ∧
    (∀ t ∈ atf', t ∈ atf ∨ ∃ e r L, Ent a (e, t) ∧ e ≤ i ∧ a.st.ranges[t]? = some r ∧ r.lastUse = some L ∧ L ≤ e)
  | 0, _, _, _, _, h => by simp [drainEnds, throw_run] at h
  | fuel + 1, atf, atf', a, a', h => by
    simp only [drainEnds, get_bind] at h
    cases hn : a.nre with
    | nil =>
      simp only [hn] at h
      rw [pure_ok] at h
      obtain ⟨rfl, rfl⟩ := h
      exact ⟨⟨rfl, rfl, rfl, rfl, rfl⟩, fun x hx => Or.inl hx, fun t ht => Or.inl ht⟩
    | cons hd tl =>
      obtain ⟨e, tmp⟩ := hd
      simp only [hn] at h
      by_cases hle : e ≤ i
      · simp only [hle, if_true] at h
        rw [bind_ok] at h
        obtain ⟨L, a1, h1, h2⟩ := h
        rw [lastUseOf_ok] at h1
        obtain ⟨⟨r, hr, hL⟩, rfl⟩ := h1
        simp only [modify_bind] at h2
        have ih := drainEnds_ok fuel h2
        obtain ⟨ih1, ih2, ih3⟩ := ih
        have hmem : (e, tmp) ∈ a1.nre := by rw [hn]; exact List.mem_cons_self
        by_cases hge : e ≥ L
        · simp only [hge, if_true, List.drop_succ_cons, List.drop_zero] at ih1 ih2 ih3
          refine ⟨⟨ih1.1, ih1.2, ih1.3, ih1.4, ih1.5⟩, ?_, ?_⟩
          · intro x hx
            rcases ih2 x hx with h | ⟨e', r', h1, h2, h3, h4⟩
            · exact Or.inl (by rw [hn]; exact List.mem_cons_of_mem _ h)
            · exact Or.inr ⟨e', r', by rw [hn]; exact List.mem_cons_of_mem _ h1, h2, h3, h4⟩
          · intro t ht
            rcases ih3 t ht with h | ⟨e', r', L', h1, h2, h3, h4, h5⟩
            · simp only [setInsert] at h
              split at h
              · exact Or.inl h
              · rw [List.mem_append, List.mem_singleton] at h
                rcases h with h | rfl
                · exact Or.inl h
                · exact Or.inr ⟨e, r, L, Or.inl hmem, hle, hr, hL, hge⟩
            · refine Or.inr ⟨e', r', L', ?_, h2, h3, h4, h5⟩
              rcases h1 with h | ⟨e'', r'', g1, g2, g3, g4⟩
              · exact Or.inl (by rw [hn]; exact List.mem_cons_of_mem _ h)
              · exact Or.inr ⟨e'', r'', by rw [hn]; exact List.mem_cons_of_mem _ g1, g2, g3, g4⟩
        · simp only [hge, if_false] at ih1 ih2 ih3
          have hlt : e < L := Nat.lt_of_not_ge hge
          have hsub : ∀ x, x ∈ (nrePush (L, tmp) (a1.nre)).drop 1 → Ent a1 x := by
            intro x hx
            have := List.mem_of_mem_drop hx
            rw [mem_nrePush] at this
            rcases this with rfl | h
            · exact Or.inr ⟨e, r, hmem, hr, hL, hlt⟩
            · exact Or.inl h
          rw [← hn] at ih2 ih3
          -- an entry re-inserted here carries the current last use as its end, so it is not re-inserted a second time
          -- (`e < x.1` would be `L < L`): `Ent` needs one level only
          have hent : ∀ x, Ent ({ a1 with nre := (nrePush (L, tmp) a1.nre).drop 1 } : ASt w) x → Ent a1 x := by
            intro x hx
            rcases hx with h | ⟨e', r', h1, h2, h3, h4⟩
            · exact hsub x h
            · rcases hsub _ h1 with g | ⟨e'', r'', g1, g2, g3, g4⟩
              · exact Or.inr ⟨e', r', g, h2, h3, h4⟩
              · simp only at g2 g3 h2 h3
                rw [h2] at g2
                cases g2
                rw [h3] at g3
                cases g3
                exact absurd h4 (Nat.lt_irrefl _)
          refine ⟨⟨ih1.1, ih1.2, ih1.3, ih1.4, ih1.5⟩, fun x hx => hent x (ih2 x hx), ?_⟩
          intro t ht
          rcases ih3 t ht with h | ⟨e', r', L', h1, h2, h3, h4, h5⟩
          · exact Or.inl h
          · exact Or.inr ⟨e', r', L', hent _ h1, h2, h3, h4, h5⟩
      · simp only [hle, if_false] at h
        rw [pure_ok] at h
        obtain ⟨rfl, rfl⟩ := h
        exact ⟨⟨rfl, rfl, rfl, rfl, rfl⟩, fun x hx => Or.inl hx, fun t ht => Or.inl ht⟩

theorem allocStep_ok {numRegs i : Nat} {a a' : ASt w} {u : Unit}
    (h : allocStep numRegs i a = .ok (u, a')) :
    ∃ atf0 a1 inst0 can atf aF cur new live,
      drainEnds i (2 * a.nre.length + 2) [] a = .ok (atf0, a1) ∧
      a1.st.insts[i]? = some inst0 ∧
      FusePhase i atf0 inst0 a1 atf aF ∧
      aF.st.insts[i]? = some cur ∧ rwInst aF.repl cur = .ok new ∧
      liveMask numRegs (freeList numRegs atf (aF.setI i new)).freeRegs = .ok live ∧
      phDst i can (pushLive (freeList numRegs atf (aF.setI i new)) live) = .ok (u, a') := by
  rw [allocStep_eqK] at h
  simp only [get_bind] at h
  rw [bind_ok] at h
  obtain ⟨atf0, a1, h1, h⟩ := h
  rw [bind_ok] at h
  obtain ⟨inst0, a1', h2, h⟩ := h
  rw [instAt_ok] at h2
  obtain ⟨hi0, rfl⟩ := h2
  obtain ⟨can, h⟩ := phCanK_ok h
  obtain ⟨atf, aF, hF, h⟩ := phFuseK_ok h
  obtain ⟨cur, new, hc, hn, h⟩ := phRewriteK_ok h
  rw [bind_ok] at h
  obtain ⟨_, a5, h5, h⟩ := h
  rw [freeAll_eq] at h5
  cases h5
  obtain ⟨live, hl, h⟩ := phLiveK_ok h
  exact ⟨atf0, a1', inst0, can, atf, aF, cur, new, live, h1, hi0, hF, hc, hn, hl, h⟩

end Alloc
end C02
end Hpbf
