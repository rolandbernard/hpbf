/-
`PhysInv` (`OptRbPhys.lean`; `PhysStep`, `KeysMono` and straight-line code are in `OptRbFoot2.lean`) through the
emitting primitives and `loopOrIf`.  For `loopOrIf` with a non-moving child whose block has an effect it rests on
`loopTail_stay_rec` (what the pushed block may write is recorded), which `OptRbFoot6` also takes from here.
-/
import Hpbf.Proofs.OptRbFoot4

namespace Hpbf
namespace OptProof
open Opt OptSem Ir

variable {w : Nat}

theorem EmitFoot.physInv {ps : List (Rebuild w)} {s s' : Rebuild w} {comps : List (List (Int × Expr w))}
    (r : EmitRes ps s s' comps) (h : EmitFoot s s' comps) (hp : PhysInv s) : PhysInv s' :=
  hp.step h.physStep h.keysMono h.mono r.insts

theorem emitBoth_phys {ps : List (Rebuild w)} {s s' : Rebuild w}
    (h : ∃ comps, EmitRes ps s s' comps ∧ EmitFoot s s' comps) :
    ∃ comps : List (List (Int × Expr w)), EmitRes ps s s' comps ∧ PhysStep s s' (comps.map Instr.calc) ∧
      KeysMono s s' ∧ ReadsMono s s' := by
  obtain ⟨c, r, f⟩ := h
  exact ⟨c, r, f.physStep, f.keysMono, f.mono⟩

theorem emit_phys {s : Rebuild w} (ps : List (Rebuild w)) (hwf : Wf s) (var : Int) {os os' : Orders}
    {s' : Rebuild w} (hr : (emit s ps var).run os = .ok (s', os')) :
    ∃ comps : List (List (Int × Expr w)), EmitRes ps s s' comps ∧ PhysStep s s' (comps.map Instr.calc) ∧
      KeysMono s s' ∧ ReadsMono s s' := emitBoth_phys (emit_foot ps hwf var hr)

theorem explosionVars_phys (ps : List (Rebuild w)) (vars : List Int) (last : Option Int) {s : Rebuild w}
    (hwf : Wf s) {os os' : Orders} {s' : Rebuild w}
    (hr : (explosionVars ps vars last s).run os = .ok (s', os')) :
    ∃ comps : List (List (Int × Expr w)), EmitRes ps s s' comps ∧ PhysStep s s' (comps.map Instr.calc) ∧
      KeysMono s s' ∧ ReadsMono s s' := emitBoth_phys (explosionVars_foot ps vars last hwf hr)

theorem performCheck_phys (ps : List (Rebuild w)) (calcs : List (Int × Expr w)) {s : Rebuild w}
    (hwf : Wf s) {os os' : Orders} {s' : Rebuild w}
    (hr : (performCheck s ps calcs).run os = .ok (s', os')) :
    ∃ comps : List (List (Int × Expr w)), EmitRes ps s s' comps ∧ PhysStep s s' (comps.map Instr.calc) ∧
      KeysMono s s' ∧ ReadsMono s s' := emitBoth_phys (performCheck_foot ps calcs hwf hr)

theorem emitAll_phys (ps : List (Rebuild w)) (vars : List Int) {s : Rebuild w}
    (hwf : Wf s) {os os' : Orders} {s' : Rebuild w}
    (hr : (emitAll ps vars s).run os = .ok (s', os')) :
    ∃ comps : List (List (Int × Expr w)), EmitRes ps s s' comps ∧ PhysStep s s' (comps.map Instr.calc) ∧
      KeysMono s s' ∧ ReadsMono s s' := emitBoth_phys (emitAll_foot ps vars hwf hr)

theorem emitReadAll_phys (ps : List (Rebuild w)) (vars : List Int) {s : Rebuild w}
    (hwf : Wf s) {os os' : Orders} {s' : Rebuild w}
    (hr : (emitReadAll ps vars s).run os = .ok (s', os')) :
    ∃ comps : List (List (Int × Expr w)), EmitRes ps s s' comps ∧ PhysStep s s' (comps.map Instr.calc) ∧
      KeysMono s s' ∧ ReadsMono s s' := emitBoth_phys (emitReadAll_foot ps vars hwf hr)

theorem rebuildInsts_straight_physInv {ps : List (Rebuild w)} (l : List (Instr w)) (hl : StraightL l)
    {s : Rebuild w} {os os' : Orders} {s' : Rebuild w} {done : Bool} (hwf : Wf s) (hnr : s.noReturn = false)
    (hr : (rebuildInsts ps s l).run os = .ok ((s', done), os')) (hp : PhysInv s) : PhysInv s' := by
  obtain ⟨new, e, f⟩ := rebuildInsts_straight_all l hl hwf hnr hr
  exact hp.step f.phys f.keys f.mono e

/-- What the code pushed by `loopOrIf` (non-moving child) may write is recorded in the resulting state: the
targets of the groups always, the cells the child writes or reads when the loop has an effect. -/
theorem loopTail_stay_rec {s : Rebuild w} {ps : List (Rebuild w)} {sub1 : Rebuild w} {cond : Int}
    {isLoop : Bool} {L : OptLoop w} {C : List Int} (hflag : Bool) (hwf : Wf s) (hwf1 : Wf sub1)
    (hns : (sub1.subShift || sub1.shift != s.shift) = false)
    {os os' : Orders} {r : Rebuild w × Rebuild w × List Int}
    (hr : (loopPrep s ps sub1 cond L C).run os = .ok (r, os'))
    {T : Rebuild w} (hT : T = loopTail r.1 r.2.1 cond isLoop L hflag r.2.2) :
    ∃ comps : List (List (Int × Expr w)), r.1.insts = s.insts ++ comps.map Instr.calc ∧
      T.insts = s.insts ++ (comps.map Instr.calc ++ [blockInstr isLoop cond 0 sub1.insts L.atLeastOnce]) ∧
      KeysMono s T ∧ ReadsMono s T ∧
      (T.subShift = false → ∀ v, tgtL (comps.map Instr.calc) v → v ∈ mKeys T.written ∨ v ∈ T.reads) ∧
      (T.subShift = false → L.noEffect = false →
        ∀ v, (v ∈ mKeys sub1.written ∨ v ∈ sub1.reads) → v ∈ mKeys T.written ∨ v ∈ T.reads) := by
  subst hT
  obtain ⟨comps, hsubR, acc, _, hrd, p7, p8⟩ := loopPrep_stay_acc hwf hwf1 hns hr
  obtain ⟨t7, t4, hssEq, _, hkeys⟩ := loopTail_stay_fields (cond := cond) hns hsubR acc.hdr isLoop L hflag
  have hm : ReadsMono r.1 (loopTail r.1 r.2.1 cond isLoop L hflag r.2.2) :=
    ⟨fun v hv => by rw [t4]; exact hv, fun h => by rw [← hssEq]; exact h⟩
  have hrec : ∀ v, (v ∈ mKeys r.1.written ∨ v ∈ r.1.reads) →
      v ∈ mKeys (loopTail r.1 r.2.1 cond isLoop L hflag r.2.2).written ∨
      v ∈ (loopTail r.1 r.2.1 cond isLoop L hflag r.2.2).reads :=
    fun v h => h.imp (hkeys v) (fun h' => by rw [t4]; exact h')
  refine ⟨comps, acc.insts, by rw [t7, acc.insts, List.append_assoc], acc.frame.keysMono.trans (fun _ => hkeys) hm,
    acc.mono.trans hm, ?_, ?_⟩
  · intro hss v hv
    have hssP : r.1.subShift = false := by rw [← hssEq]; exact hss
    exact hrec v ((acc.frame.physStep hssP).2 v hv)
  · intro hss hne v hv
    have hssP : r.1.subShift = false := by rw [← hssEq]; exact hss
    rcases hv with h | h
    · cases hC : C.contains v with
      | true => exact hrec v (p8 hssP v h hC).2
      | false =>
        obtain ⟨vk, hvk, e⟩ := List.mem_map.1 h
        exact Or.inl (hkeys v (p7 hssP v ⟨hne, vk, hvk, e, hC⟩))
    · exact hrec v (hrd hssP v (Or.inl h)).2

theorem loopOrIf_stay_phys {s : Rebuild w} {ps : List (Rebuild w)} {sub : Rebuild w} {cond : Int}
    {isLoop : Bool} {L : OptLoop w} {C : List Int} {os os' : Orders} {s' : Rebuild w}
    (hr : (loopOrIf s ps sub cond isLoop L C).run os = .ok (s', os'))
    (hwf : Wf s) (hwfc : Wf sub) (hph : PhysInv sub)
    (hns : (sub.subShift || sub.shift != s.shift) = false)
    (hne : L.noEffect = false) :
    ∃ new, s'.insts = s.insts ++ new ∧ PhysStep s s' new ∧ KeysMono s s' ∧ ReadsMono s s' := by
  obtain ⟨sub1, os1, r, h1, h2, rfl⟩ := loopOrIf_run hr
  have hns' := hns
  simp only [Bool.or_eq_false_iff, bne_eq_false_iff_eq] at hns'
  obtain ⟨hss, hshEq⟩ := hns'
  have hsub1 : SameHdr sub sub1 ∧ PhysInv sub1 ∧ Wf sub1 := by
    have h1' := h1
    split at h1'
    · obtain ⟨c, res, ef⟩ := emitAll_foot [] (pendingSorted sub sub) hwfc h1'
      exact ⟨res.hdr, ef.physInv res hph, res.wf⟩
    · rw [run_pure] at h1'
      cases h1'
      exact ⟨SameHdr.refl _, hph, hwfc⟩
  obtain ⟨hhdr, hph1, hwf1⟩ := hsub1
  have hns1 : (sub1.subShift || sub1.shift != s.shift) = false := by
    rw [hhdr.subShift, hhdr.shift, hss, hshEq]; simp
  obtain ⟨comps, _, hi, hk, hm, htgt, hrec⟩ := loopTail_stay_rec (isLoop := isLoop) _ hwf hwf1 hns1 h2 rfl
  refine ⟨_, hi, ?_, hk, hm⟩
  intro hs'
  obtain ⟨nsC, tgC⟩ := hph1 (by simp only [Bool.or_eq_false_iff] at hns1; exact hns1.1)
  refine ⟨(nsL_append _ _).2 ⟨nsL_calcs comps, by cases isLoop <;> simp [blockInstr, nsL, nsI, nsC]⟩, ?_⟩
  intro v hv
  rcases (tgtL_append _ _ _).1 hv with h | h
  · exact htgt hs' v h
  · have : tgtL sub1.insts v := by cases isLoop <;> simpa [blockInstr, tgtL, tgtI] using h
    exact hrec hs' hne v (tgC v this)

theorem loopOrIf_stay_physInv {s : Rebuild w} {ps : List (Rebuild w)} {sub : Rebuild w} {cond : Int}
    {isLoop : Bool} {L : OptLoop w} {C : List Int} {os os' : Orders} {s' : Rebuild w}
    (hr : (loopOrIf s ps sub cond isLoop L C).run os = .ok (s', os'))
    (hwf : Wf s) (hwfc : Wf sub) (hph : PhysInv sub)
    (hns : (sub.subShift || sub.shift != s.shift) = false)
    (hne : L.noEffect = false)
    (hp : PhysInv s) : PhysInv s' := by
  obtain ⟨new, e, p, k, m⟩ := loopOrIf_stay_phys hr hwf hwfc hph hns hne
  exact hp.step p k m e

/-- `loopOrIf` with a moving child: `subShift` becomes `true`, `PhysInv` is void. -/
theorem loopOrIf_shift_physInv {s : Rebuild w} {ps : List (Rebuild w)} {sub : Rebuild w} {cond : Int}
    {isLoop : Bool} {L : OptLoop w} {C : List Int} {os os' : Orders} {s' : Rebuild w}
    (hr : (loopOrIf s ps sub cond isLoop L C).run os = .ok (s', os'))
    (hwf : Wf s) (hwfc : Wf sub)
    (hshift : (sub.subShift || sub.shift != s.shift) = true) : PhysInv s' := by
  obtain ⟨h, _⟩ := loopOrIf_shift_foot hr hwf hwfc hshift
  intro h'
  rw [h] at h'; cases h'

end OptProof
end Hpbf

#print axioms Hpbf.OptProof.loopOrIf_stay_phys
#print axioms Hpbf.OptProof.rebuildInsts_straight_physInv
#print axioms Hpbf.OptProof.PhysInv.step
