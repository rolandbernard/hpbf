/-
From memories to machine states.  `Rel s ps M0 σE σS` (`RelAt` with the source pointer `s.shift` cells to the
right of the emitted program's): the state `σE` of the
emitted program and the state `σS` of the source program are related through the `Rebuild` state `s`
(same events, same environment, pointers differ by `s.shift`, memories related by `MInv`).
-/
import Hpbf.Proofs.OptRbAdeq
import Hpbf.Proofs.OptRbPrim

namespace Hpbf
namespace OptProof
open Opt OptSem Ir

variable {w : Nat}

abbrev memE (σE : State w) : Mem w := memOf σE σE.ptr
/-- The memory of the source program in the same coordinates (origin = pointer of the emitted program). -/
abbrev memS (σE σS : State w) : Mem w := memOf σS σE.ptr

/-- `sh`: the source program's pointer is `sh` cells to the right of the emitted program's pointer (for the
program being rebuilt `sh = s.shift`; for intermediate programs written in the coordinates of the state it is 0).
`nr`: a state marked `noReturn` is related to nothing ("control never reaches this point"). -/
structure RelAt (sh : Int) (s : Rebuild w) (ps : List (Rebuild w)) (M0 : Mem w) (σE σS : State w) : Prop where
  tr : σS.trace = σE.trace
  env : σS.env = σE.env
  ptr : σS.ptr = σE.ptr + sh
  nr : s.noReturn = false
  inv : MInv s ps M0 (memE σE) (memS σE σS)

abbrev Rel (s : Rebuild w) (ps : List (Rebuild w)) (M0 : Mem w) (σE σS : State w) : Prop :=
  RelAt s.shift s ps M0 σE σS

theorem memOf_apply (σ : State w) (o v : Int) : memOf σ o v = σ.tape.get (o + v) := rfl

theorem rd_eq_memE (σ : State w) (off : Int) : σ.rd off = memE σ off := rfl

theorem RelAt.rdS {sh : Int} {s : Rebuild w} {ps : List (Rebuild w)} {M0 : Mem w} {σE σS : State w}
    (h : RelAt sh s ps M0 σE σS) (off : Int) : σS.rd off = memS σE σS (off + sh) := by
  show σS.tape.get (σS.ptr + off) = σS.tape.get (σE.ptr + (off + sh))
  rw [h.ptr, Int.add_assoc, Int.add_comm sh off]

theorem exec_nil_iff (σ : State w) (o : Out w) : Exec [] σ o ↔ o = .part σ.trace ∨ o = .fin σ := by
  constructor
  · intro h; cases h <;> simp
  · rintro (rfl | rfl)
    · exact Exec.cut _ _
    · exact Exec.nil _

theorem exec_output_iff (src : Int) (rest : List (Instr w)) (σ : State w) (o : Out w) :
    Exec (.output src :: rest) σ o ↔
      o = .part σ.trace ∨ ((σ.output src).1 = true ∧ Exec rest (σ.output src).2 o) ∨
      ((σ.output src).1 = false ∧ o = .stop (σ.output src).2) := by
  constructor
  · intro h
    cases h with
    | cut => exact Or.inl rfl
    | outOk h1 h2 => rw [h1]; exact Or.inr (Or.inl ⟨rfl, h2⟩)
    | outFail h1 => rw [h1]; exact Or.inr (Or.inr ⟨rfl, rfl⟩)
  · rintro (rfl | ⟨h1, h2⟩ | ⟨h1, rfl⟩)
    · exact Exec.cut _ _
    · exact Exec.outOk (σ1 := (σ.output src).2) (by rw [← h1]) h2
    · exact Exec.outFail (σ1 := (σ.output src).2) (by rw [← h1])

theorem exec_input_iff (dst : Int) (rest : List (Instr w)) (σ : State w) (o : Out w) :
    Exec (.input dst :: rest) σ o ↔
      o = .part σ.trace ∨ ((σ.input dst).1 = true ∧ Exec rest (σ.input dst).2 o) ∨
      ((σ.input dst).1 = false ∧ o = .stop (σ.input dst).2) := by
  constructor
  · intro h
    cases h with
    | cut => exact Or.inl rfl
    | inOk h1 h2 => rw [h1]; exact Or.inr (Or.inl ⟨rfl, h2⟩)
    | inFail h1 => rw [h1]; exact Or.inr (Or.inr ⟨rfl, rfl⟩)
  · rintro (rfl | ⟨h1, h2⟩ | ⟨h1, rfl⟩)
    · exact Exec.cut _ _
    · exact Exec.inOk (σ1 := (σ.input dst).2) (by rw [← h1]) h2
    · exact Exec.inFail (σ1 := (σ.input dst).2) (by rw [← h1])

/-- `is` behaves like ONE step `f` (which may fail, stopping the program): the only observations are "not
started", "done" and "stopped". -/
def Atomic (is : List (Instr w)) (f : State w → Bool × State w) : Prop :=
  ∀ σ o, Exec is σ o ↔
    o = .part σ.trace ∨ ((f σ).1 = true ∧ (o = .fin (f σ).2 ∨ o = .part (f σ).2.trace)) ∨
    ((f σ).1 = false ∧ o = .stop (f σ).2)

/-- An instruction whose observations are "not started", "the step `f` succeeded and the rest runs", "`f` failed". -/
theorem Atomic.of_step {i : Instr w} {f : State w → Bool × State w}
    (h : ∀ σ o, Exec [i] σ o ↔ o = .part σ.trace ∨ ((f σ).1 = true ∧ Exec [] (f σ).2 o) ∨
      ((f σ).1 = false ∧ o = .stop (f σ).2)) : Atomic [i] f := by
  intro σ o
  rw [h, exec_nil_iff]
  constructor
  · rintro (h | ⟨h1, h2 | h2⟩ | h)
    · exact Or.inl h
    · exact Or.inr (Or.inl ⟨h1, Or.inr h2⟩)
    · exact Or.inr (Or.inl ⟨h1, Or.inl h2⟩)
    · exact Or.inr (Or.inr h)
  · rintro (h | ⟨h1, h2 | h2⟩ | h)
    · exact Or.inl h
    · exact Or.inr (Or.inl ⟨h1, Or.inr h2⟩)
    · exact Or.inr (Or.inl ⟨h1, Or.inl h2⟩)
    · exact Or.inr (Or.inr h)

theorem atomic_output (src : Int) : Atomic [(.output src : Instr w)] (fun σ => σ.output src) :=
  .of_step (exec_output_iff src [])

theorem atomic_input (dst : Int) : Atomic [(.input dst : Instr w)] (fun σ => σ.input dst) :=
  .of_step (exec_input_iff dst [])

theorem foldl_doCalc_meta (gs : List (List (Int × Expr w))) (σ : State w) :
    (gs.foldl doCalc σ).ptr = σ.ptr ∧ (gs.foldl doCalc σ).env = σ.env ∧ (gs.foldl doCalc σ).trace = σ.trace := by
  induction gs generalizing σ with
  | nil => exact ⟨rfl, rfl, rfl⟩
  | cons g gs ih =>
    obtain ⟨a, b, c⟩ := ih (doCalc σ g)
    obtain ⟨a', b', c'⟩ := C01Dse.doCalc_meta σ g
    exact ⟨a.trans a', b.trans b', c.trans c'⟩

theorem atomic_calcs (gs : List (List (Int × Expr w))) :
    Atomic (gs.map Instr.calc) (fun σ : State w => (true, gs.foldl doCalc σ)) := by
  intro σ o
  have := exec_calcs_iff gs [] σ o
  rw [List.append_nil] at this
  rw [this, exec_nil_iff, (foldl_doCalc_meta gs σ).2.2]
  constructor
  · rintro (h | h)
    · exact Or.inl h
    · exact Or.inr (Or.inl ⟨rfl, Or.inl h⟩)
  · rintro (h | ⟨_, h | h⟩ | ⟨h, _⟩)
    · exact Or.inl h
    · exact Or.inr h
    · exact Or.inl h
    · cases h

theorem atomic_calcs_then (gs : List (List (Int × Expr w))) {is : List (Instr w)}
    {f : State w → Bool × State w} (h : Atomic is f) :
    Atomic (gs.map Instr.calc ++ is) (fun σ => f (gs.foldl doCalc σ)) := by
  intro σ o
  rw [exec_calcs_iff, h, (foldl_doCalc_meta gs σ).2.2]

theorem Fwd.of_atomic {Q : State w → State w → Prop} {a b : List (Instr w)}
    {f g : State w → Bool × State w} (ha : Atomic a f) (hb : Atomic b g) {σS σE : State w}
    (htr : σE.trace = σS.trace) (hflag : (g σE).1 = (f σS).1)
    (htr' : (g σE).2.trace = (f σS).2.trace) (henv' : (g σE).2.env = (f σS).2.env)
    (hQ : (f σS).1 = true → Q (f σS).2 (g σE).2) : Fwd Q a b σS σE := by
  intro o h
  rcases (ha σS _).1 h with rfl | ⟨h1, rfl | rfl⟩ | ⟨h1, rfl⟩
  · exact ⟨_, (hb σE _).2 (Or.inl rfl), by rw [htr]; rfl⟩
  · exact ⟨_, (hb σE _).2 (Or.inr (Or.inl ⟨by rw [hflag, h1], Or.inl rfl⟩)), _, rfl, hQ h1⟩
  · exact ⟨_, (hb σE _).2 (Or.inr (Or.inl ⟨by rw [hflag, h1], Or.inr rfl⟩)), by rw [htr']; rfl⟩
  · exact ⟨_, (hb σE _).2 (Or.inr (Or.inr ⟨by rw [hflag, h1], rfl⟩)), _, rfl, htr', henv'⟩

theorem Sim.of_atomic {Q : State w → State w → Prop} {a b : List (Instr w)}
    {f g : State w → Bool × State w} (ha : Atomic a f) (hb : Atomic b g) {σS σE : State w}
    (htr : σE.trace = σS.trace) (hflag : (g σE).1 = (f σS).1)
    (htr' : (g σE).2.trace = (f σS).2.trace) (henv' : (g σE).2.env = (f σS).2.env)
    (hQ : (f σS).1 = true → Q (f σS).2 (g σE).2) : Sim Q a b σS σE :=
  .of_fwd (.of_atomic ha hb htr hflag htr' henv' hQ)
    (.of_atomic hb ha htr.symm hflag.symm htr'.symm henv'.symm (fun h => hQ (hflag ▸ h)))

theorem memOf_wr (σ : State w) (k : Int) (x : BitVec w) (o : Int) :
    memOf (σ.wr k x) o = upd (memOf σ o) (σ.ptr - o + k) x := by
  funext v
  show (σ.tape.set (σ.ptr + k) x).get (o + v) = _
  rw [Tape.get_set]
  unfold upd
  by_cases h : v = σ.ptr - o + k
  · have e : o + v = σ.ptr + k := by omega
    rw [if_pos e, if_pos h]
  · have e : ¬ o + v = σ.ptr + k := by omega
    rw [if_neg e, if_neg h]; rfl

theorem memOf_wrAll (σ : State w) (vals : List (Int × BitVec w)) (o : Int) :
    memOf (C01Dse.wrAll σ vals) o =
      (vals.map (fun kv => (σ.ptr - o + kv.1, kv.2))).foldl (fun m kv => upd m kv.1 kv.2) (memOf σ o) := by
  unfold C01Dse.wrAll
  induction vals generalizing σ with
  | nil => rfl
  | cons kv vals ih =>
    simp only [List.foldl_cons, List.map_cons]
    rw [ih (σ.wr kv.1 kv.2), memOf_wr]
    rfl

theorem memS_doCalc {sh : Int} {s : Rebuild w} {ps : List (Rebuild w)} {M0 : Mem w} {σE σS : State w}
    (h : RelAt sh s ps M0 σE σS) (calcs : List (Int × Expr w)) :
    memS σE (doCalc σS calcs) = assignS sh calcs (memS σE σS) := by
  rw [C01Dse.doCalc_eq]
  show memOf (C01Dse.wrAll σS _) σE.ptr = _
  rw [memOf_wrAll]
  unfold assignS
  rw [List.map_map]
  have hsh : σS.ptr - σE.ptr = sh := by rw [h.ptr]; omega
  congr 1
  apply List.map_congr_left
  intro vc _
  simp only [Function.comp, hsh]
  congr 1
  apply C01Dse.evaluate_congr
  intro v _
  exact h.rdS v

theorem memE_doCalc (σ : State w) (g : List (Int × Expr w)) (hnd : (g.map (·.1)).Nodup) :
    memE (doCalc σ g) = Mem.par g (memE σ) := by
  funext v
  have hp : (doCalc σ g).ptr = σ.ptr := (C01Dse.doCalc_meta σ g).1
  show (doCalc σ g).tape.get ((doCalc σ g).ptr + v) = _
  rw [hp]
  by_cases hv : v ∈ g.map (·.1)
  · obtain ⟨ve, hve, rfl⟩ := List.mem_map.1 hv
    rw [par_of_mem hnd (show (ve.1, ve.2) ∈ g from hve)]
    exact C01Dse.doCalc_get_in σ g ve.1 ve.2 hnd hve
  · rw [par_of_notin hv]
    apply C01Dse.doCalc_get_notin
    intro ve hve e
    exact hv (List.mem_map.2 ⟨ve, hve, by omega⟩)

theorem memE_foldl_doCalc (σ : State w) (gs : List (List (Int × Expr w)))
    (hnd : ∀ g ∈ gs, (g.map (·.1)).Nodup) :
    memE (gs.foldl doCalc σ) = Mem.seq gs (memE σ) := by
  induction gs generalizing σ with
  | nil => rfl
  | cons g gs ih =>
    simp only [List.foldl_cons, seq_cons]
    rw [ih _ (fun g' hg' => hnd g' (by simp [hg'])), memE_doCalc σ g (hnd g (by simp))]

theorem memS_foldl_doCalc (σE σS : State w) (gs : List (List (Int × Expr w))) :
    memS (gs.foldl doCalc σE) σS = memS σE σS := by
  show memOf σS (gs.foldl doCalc σE).ptr = memOf σS σE.ptr
  rw [(foldl_doCalc_meta gs σE).1]

theorem output_rel {σS σE : State w} {a b : Int} (hb : σS.rd a = σE.rd b) (henv : σS.env = σE.env)
    (htr : σS.trace = σE.trace) :
    (σE.output b).1 = (σS.output a).1 ∧ (σE.output b).2.trace = (σS.output a).2.trace ∧
    (σE.output b).2.env = (σS.output a).2.env := by
  unfold State.output
  rw [hb, henv, htr]
  split
  · split <;> exact ⟨rfl, rfl, rfl⟩
  · exact ⟨rfl, htr.symm, henv.symm⟩

theorem input_rel {σS σE : State w} (a b : Int) (henv : σS.env = σE.env) (htr : σS.trace = σE.trace) :
    (σE.input b).1 = (σS.input a).1 ∧ (σE.input b).2.trace = (σS.input a).2.trace ∧
    (σE.input b).2.env = (σS.input a).2.env := by
  unfold State.input
  rw [henv, htr]
  split
  · exact ⟨rfl, rfl, rfl⟩
  · exact ⟨rfl, rfl, rfl⟩
  · exact ⟨rfl, htr.symm, henv.symm⟩

theorem input_ok_mem {σS σE : State w} (a b : Int) (henv : σS.env = σE.env)
    (hok : (σS.input a).1 = true) :
    ∃ x : BitVec w, (∀ o, memOf (σS.input a).2 o = upd (memOf σS o) (σS.ptr - o + a) x) ∧
      (∀ o, memOf (σE.input b).2 o = upd (memOf σE o) (σE.ptr - o + b) x) ∧
      (σS.input a).2.ptr = σS.ptr ∧ (σE.input b).2.ptr = σE.ptr := by
  unfold State.input at hok ⊢
  rw [← henv]
  cases hr : σS.env.readByte with
  | got byte e =>
    refine ⟨Cell.fromU8 (BitVec.ofNat 8 byte.toNat), ?_, ?_, rfl, rfl⟩
    · intro o; exact memOf_wr σS a _ o
    · intro o; exact memOf_wr σE b _ o
  | failed e => rw [hr] at hok; cases hok
  | absent => rw [hr] at hok; cases hok

end OptProof
end Hpbf
