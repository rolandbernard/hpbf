/-
`PVClean` along the rebuild (read off `BStep`, `OptRbShape3`), under `StableAsk`: the questions of the state to its
parent do not depend on the `shift` changes made meanwhile; the fresh child of a block.
-/
import Hpbf.Proofs.OptRbShape3

namespace Hpbf
namespace OptProof
open Opt OptSem Ir

variable {w : Nat}

/-- The questions of `s` to its parent do not depend on the `shift` changes made while `l` is rebuilt. -/
def StableAsk (s : Rebuild w) (l : List (Instr w)) : Prop := ShiftIndep s ∨ C01Dse.noShiftL l = true

theorem rebuildInsts_pvclean_all {ps : List (Rebuild w)} (l : List (Instr w)) {s : Rebuild w}
    {os os' : Orders} {s' : Rebuild w} {done : Bool}
    (hr : (rebuildInsts ps s l).run os = .ok ((s', done), os')) (hwf : Wf s)
    (hst : StableAsk s l) (hpv : PVClean s ps) : PVClean s' ps :=
  (rebuildInsts_b_all l hr hwf).pv hst hpv

theorem rebuildInsts_shift_const {ps : List (Rebuild w)} (l : List (Instr w)) {s : Rebuild w}
    {os os' : Orders} {s' : Rebuild w} {done : Bool}
    (hr : (rebuildInsts ps s l).run os = .ok ((s', done), os')) (hwf : Wf s)
    (hns : C01Dse.noShiftL l = true) : s'.shift = s.shift :=
  (rebuildInsts_b_all (ps := ps) l hr hwf).shift hns

theorem rebuildInsts_acore {ps : List (Rebuild w)} (l : List (Instr w)) {s : Rebuild w}
    {os os' : Orders} {s' : Rebuild w} {done : Bool}
    (hr : (rebuildInsts ps s l).run os = .ok ((s', done), os')) (hwf : Wf s) : acore s' = acore s :=
  (rebuildInsts_b_all (ps := ps) l hr hwf).core

theorem pvClean_child (sh : Int) (c : Option Int) (par : OptParent) (anal : Option (OptAnalysis w))
    (ps : List (Rebuild w)) : PVClean (reverseSubBlocks (Rebuild.new sh c par anal)) ps := by
  apply pvClean_of_pending_nil
  have hrev := reverseSubBlocks_fields (Rebuild.new sh c par anal : Rebuild w)
  rw [hrev.pending]; rfl

theorem acore_child (sh : Int) (c : Option Int) (par : OptParent) (anal : Option (OptAnalysis w)) :
    acore (reverseSubBlocks (Rebuild.new sh c par anal) : Rebuild w) =
      anal.map (fun a => (a.loopAnal.atMostOnce, a.hasShift, a.clobbered)) := by
  unfold reverseSubBlocks acore
  cases anal with
  | none => rfl
  | some a => cases a with
    | mk a b c d e => rfl

theorem stableAsk_child (sh : Int) (c : Option Int) (par : OptParent) (anal : Option (OptAnalysis w))
    (body : List (Instr w))
    (h : ∀ a, anal = some a →
      a.loopAnal.atMostOnce = true ∨ a.hasShift = true ∨ C01Dse.noShiftL body = true) :
    StableAsk (reverseSubBlocks (Rebuild.new sh c par anal) : Rebuild w) body := by
  unfold StableAsk ShiftIndep
  rw [acore_child]
  cases anal with
  | none => exact Or.inl trivial
  | some a =>
    rcases h a rfl with h1 | h1 | h1
    · exact Or.inl (Or.inl h1)
    · exact Or.inl (Or.inr h1)
    · exact Or.inr h1

theorem pvClean_addShift {s : Rebuild w} {ps : List (Rebuild w)} (x : Int) (h : ShiftIndep s ∨ x = 0)
    (hpv : PVClean s ps) : PVClean ({ s with shift := s.shift + x } : Rebuild w) ps := by
  rcases h with h | h
  · exact pvClean_setShift h _ hpv
  · subst h
    exact pv_reshift (s := s) rfl rfl rfl rfl rfl (Or.inl (Int.add_zero s.shift)) hpv

theorem noShift_of_shape :
    (∀ (i : Instr w) (a : OptAnalysis w), ShapeI i a → a.hasShift = false → C01Dse.noShiftI i = true) ∧
    ∀ (l : List (Instr w)) (subs : List (OptAnalysis w)), ShapeL l subs →
      (∀ a ∈ subs, a.hasShift = false) → C01Dse.noShiftL l = true := by
  refine instr_list_induction ?_ ?_ ?_ ?_ ?_
  · intro i hb a h _
    rw [shapeI_isBlock h] at hb
    cases hb
  · intro c sh body o ih a h hh
    obtain ⟨_, _, h3, h4⟩ := shapeI_loop h
    obtain ⟨e1, e2⟩ := h3 hh
    rw [C01Dse.noShiftI, ih _ h4 e2, e1]
    rfl
  · intro c sh body ih a h hh
    obtain ⟨_, h3, h4⟩ := shapeI_ifnz h
    obtain ⟨e1, e2⟩ := h3 hh
    rw [C01Dse.noShiftI, ih _ h4 e2, e1]
    rfl
  · intro _ _ _
    rw [C01Dse.noShiftL]
  · intro i rest ihi ihr subs h hs
    rw [C01Dse.noShiftL]
    cases hb : C01Dse.isBlock i with
    | false =>
      rw [shapeL_cons_nonblock hb] at h
      rw [ihr subs h hs, Bool.and_true]
      cases i with
      | output _ => rfl
      | input _ => rfl
      | «calc» _ => rfl
      | loop _ _ _ _ => cases hb
      | ifnz _ _ _ => cases hb
    | true =>
      rw [shapeL_cons_block hb] at h
      obtain ⟨a, subs', rfl, ha, hr⟩ := h
      rw [ihi a ha (hs a (by simp)), ihr subs' hr (fun a' h' => hs a' (by simp [h']))]
      rfl

theorem noShiftI_of_shapeI : ∀ (i : Instr w) (a : OptAnalysis w), ShapeI i a → a.hasShift = false →
    C01Dse.noShiftI i = true :=
  noShift_of_shape.1

theorem noShiftL_of_shapeL : ∀ (l : List (Instr w)) (subs : List (OptAnalysis w)), ShapeL l subs →
    (∀ a ∈ subs, a.hasShift = false) → C01Dse.noShiftL l = true :=
  noShift_of_shape.2

theorem stableAsk_child_of_shapeI {i : Instr w} {a : OptAnalysis w} (h : ShapeI i a) (sh : Int)
    (c : Option Int) (par : OptParent) {cond shift : Int} {body : List (Instr w)}
    (hp : C01Dse.blockParts i = some (cond, shift, body)) :
    StableAsk (reverseSubBlocks (Rebuild.new sh c par (some a)) : Rebuild w) body ∧
    (a.loopAnal.atMostOnce = true ∨ a.hasShift = true ∨ shift = 0) := by
  cases hh : a.hasShift with
  | true =>
    refine ⟨stableAsk_child sh c par (some a) body ?_, Or.inr (Or.inl rfl)⟩
    intro a' ha'
    cases ha'
    exact Or.inr (Or.inl hh)
  | false =>
    obtain ⟨k1, k2⟩ := noShiftI_parts hp (noShiftI_of_shapeI i a h hh)
    refine ⟨stableAsk_child sh c par (some a) body ?_, Or.inr (Or.inr k1)⟩
    intro a' _
    exact Or.inr (Or.inr k2)

#print axioms rebuildInsts_pvclean_all
#print axioms rebuildInsts_shift_const

end OptProof
end Hpbf
