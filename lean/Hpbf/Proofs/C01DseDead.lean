/-
The liveness invariant of the soundness proof: which cells may differ between the run of the original
program and the run of the program after dead store elimination (`DeadI` / `DeadK`), that
`willBeOverwritten` certifies it, and how it is transported through the instructions of a block.
-/
import Hpbf.Proofs.C01DseSem

namespace Hpbf
namespace C01Dse
open Ir OptDse

variable {w : Nat}

/-- Pass data of a nested block that is being executed. This is `C01Dse.Frame`; it shadows `Ir.Frame` (the
parser's stack entry, in scope by `open Ir`) and has nothing to do with it or with `C01.Fr`. -/
structure Frame where
  /-- pass state at the START of the block body -/
  sub : DState
  /-- pass state of the enclosing block right after the nested block (including `read cond`) -/
  par : DState

/-- `v` (offset from the current pointer) is dead at a point of a block where the pass state is `s`, given
that `K` describes deadness once the block body has finished.
The pass walks a block backwards: in the lemmas about `DeadI` the pass state of the hypothesis is the one BEFORE
an instruction in program order, that of the conclusion the one AFTER it. -/
def DeadI (s : DState) (K : Int → Prop) (v : Int) : Prop :=
  v ∈ s.written ∨ (v ∉ s.reads ∧ s.hadShift = false ∧ K v)

/-- The back edge of the block of `fr` keeps `v` dead. -/
def LoopOK (fr : Frame) (v : Int) : Prop :=
  fr.sub.anal.atMostOnce = true ∨
    (fr.sub.anal.hasShift = false ∧ (v ∉ fr.sub.anal.reads ∨ (v ∉ fr.sub.reads ∧ fr.sub.hadShift = false)))

/-- `v` (offset from the pointer at the end of the innermost body, before its `shift`) is dead when the
innermost body finishes. -/
def DeadK : List Frame → Int → Prop
  | [], _ => True
  | fr :: frs, v => LoopOK fr v ∧ DeadI fr.par (DeadK frs) (v - fr.sub.shift)

def ChainOk : DState → List Frame → Prop
  | _, [] => True
  | s, fr :: frs => s.anal = fr.sub.anal ∧ s.shift = fr.sub.shift ∧ ChainOk fr.par frs

theorem ChainOk.of_eq {s s' : DState} {frs : List Frame} (h : ChainOk s frs) (ha : s'.anal = s.anal)
    (hs : s'.shift = s.shift) : ChainOk s' frs := by
  cases frs with
  | nil => trivial
  | cons fr frs => exact ⟨ha.trans h.1, hs.trans h.2.1, h.2.2⟩

theorem wbo_dead : ∀ (frs : List Frame) (s : DState) (v : Int), ChainOk s frs →
    willBeOverwritten s (frs.map Frame.par) v = true → DeadI s (DeadK frs) v
  | [], s, v, _, h => by
    rw [List.map_nil, wbo_nil] at h
    rcases h with h | ⟨h1, h2⟩
    · exact Or.inl h
    · exact Or.inr ⟨h1, h2, trivial⟩
  | fr :: frs, s, v, hc, h => by
    rw [List.map_cons, wbo_cons] at h
    rcases h with h | ⟨h1, h2, h3, h4⟩
    · exact Or.inl h
    · refine Or.inr ⟨h1, h2, ?_, ?_⟩
      · rw [hc.1] at h3
        rcases h3 with h3 | ⟨h3, h3'⟩
        · exact Or.inl h3
        · exact Or.inr ⟨h3, Or.inl h3'⟩
      · rw [hc.2.1] at h4
        exact wbo_dead frs fr.par _ hc.2.2 h4

theorem DeadI.of_readAll {s : DState} {K : Int → Prop} {v : Int} {vs : List Int}
    (h : DeadI (readAll s vs) K v) : DeadI s K v ∧ v ∉ vs := by
  rcases h with h | ⟨h1, h2, h3⟩
  · rw [mem_readAll_written] at h
    exact ⟨Or.inl h.1, h.2⟩
  · rw [mem_readAll_reads] at h1
    rw [readAll_hadShift] at h2
    exact ⟨Or.inr ⟨fun h => h1 (Or.inr h), h2, h3⟩, fun h => h1 (Or.inl h)⟩

theorem DeadI.of_read {s : DState} {K : Int → Prop} {v x : Int}
    (h : DeadI (s.read x) K v) : DeadI s K v ∧ v ≠ x := by
  have := DeadI.of_readAll (s := s) (vs := [x]) h
  exact ⟨this.1, fun e => this.2 (by simp [e])⟩

theorem DeadI.of_writeAll {s : DState} {K : Int → Prop} {v : Int} {ws : List Int}
    (h : DeadI (writeAll s ws) K v) (hv : v ∉ ws) : DeadI s K v := by
  rcases h with h | ⟨h1, h2, h3⟩
  · rw [mem_writeAll_written] at h
    rcases h with h | h
    · exact absurd h hv
    · exact Or.inl h
  · rw [mem_writeAll_reads] at h1
    rw [writeAll_hadShift] at h2
    exact Or.inr ⟨fun h => h1 ⟨h, hv⟩, h2, h3⟩

theorem DeadI.of_write {s : DState} {K : Int → Prop} {v x : Int}
    (h : DeadI (s.write x) K v) (hv : v ≠ x) : DeadI s K v :=
  DeadI.of_writeAll (s := s) (ws := [x]) h (by simp [hv])

/-- `DState.new` is the pass state at the END of a body. -/
theorem DeadI.of_new {shift : Int} {A : DAnal} {K : Int → Prop} {v : Int}
    (h : DeadI (DState.new shift A) K v) : K v := by
  rcases h with h | ⟨_, _, h⟩
  · simp [DState.new] at h
  · exact h

theorem DeadI.new {shift : Int} {A : DAnal} {K : Int → Prop} {v : Int} (h : K v) :
    DeadI (DState.new shift A) K v :=
  Or.inr ⟨by simp [DState.new], rfl, h⟩

theorem dead_calc_other {P : List DState} {calcs : List (Int × Expr w)} {s : DState} {K : Int → Prop} {v : Int}
    (h : DeadI (readAll (calcScan P calcs s []).1
      ((keptCalcs P calcs s).flatMap (fun c => Expr.variables c.2))) K v)
    (hv : v ∉ calcs.map Prod.fst) : DeadI s K v := by
  obtain ⟨ws, hws, hsub⟩ := calcScan_state P calcs s []
  rw [hws] at h
  exact (DeadI.of_readAll h).1.of_writeAll (fun hm => hv (hsub v hm))

theorem dead_calc_noread {P : List DState} {calcs : List (Int × Expr w)} {s : DState} {K : Int → Prop} {v : Int}
    (h : DeadI (readAll (calcScan P calcs s []).1
      ((keptCalcs P calcs s).flatMap (fun c => Expr.variables c.2))) K v) :
    v ∉ (keptCalcs P calcs s).flatMap (fun c => Expr.variables c.2) :=
  (DeadI.of_readAll h).2

theorem mem_keptCalcs {P : List DState} {calcs : List (Int × Expr w)} {s : DState} {ve : Int × Expr w} :
    ve ∈ keptCalcs P calcs s ↔ ve ∈ calcs ∧ ve.1 ∉ (calcScan P calcs s []).2 := by
  unfold keptCalcs
  simp

theorem dead_calc_removed {frs : List Frame} {calcs : List (Int × Expr w)} {s : DState} {v : Int}
    (hc : ChainOk s frs) (hnd : (calcs.map Prod.fst).Nodup)
    (hv : v ∈ (calcScan (frs.map Frame.par) calcs s []).2) : DeadI s (DeadK frs) v := by
  rcases calcScan_rem (frs.map Frame.par) calcs s [] v hv with h | ⟨_, ws, _, h2, h3⟩
  · simp at h
  · have := wbo_dead frs (writeAll s ws) v (hc.of_eq (by simp) (by simp)) h3
    exact this.of_writeAll (h2 hnd)

theorem dead_skip {s sub : DState} {A1 : DAnal} {cond v : Int} {K : Int → Prop}
    (h : DeadI (absorbSub (s.read cond) sub A1 cond) K v) (hlo : A1.atLeastOnce = false) : DeadI s K v := by
  rcases h with h | ⟨h1, h2, h3⟩
  · rw [mem_absorb_written] at h
    obtain ⟨_, _, h | h⟩ := h
    · rw [hlo] at h; exact absurd h.1 (by simp)
    · have := h.2
      rw [read_written, mem_srem] at this
      exact Or.inl this.1
  · rw [mem_absorb_reads] at h1
    rw [absorb_hadShift, read_hadShift] at h2
    obtain ⟨hs, hA⟩ := Bool.or_eq_false_iff.1 h2
    refine Or.inr ⟨fun hr => h1 (Or.inr (Or.inr ⟨hA, ?_, ?_⟩)), hs, h3⟩
    · rw [read_reads, mem_sins]; exact Or.inr hr
    · rw [hlo]; simp

/-- `hst`: the static facts about a block marked `has_shift = false`. -/
theorem dead_enter {s sub : DState} {A1 : DAnal} {cond v : Int} {frs : List Frame}
    (h : DeadI (absorbSub (s.read cond) sub A1 cond) (DeadK frs) v)
    (hsa : sub.anal = A1) (hst : A1.hasShift = false → sub.shift = 0 ∧ sub.hadShift = false) :
    DeadI sub (DeadK (⟨sub, s.read cond⟩ :: frs)) v := by
  rcases h with h | ⟨h1, h2, h3⟩
  · rw [mem_absorb_written] at h
    obtain ⟨_, hnr, h | h⟩ := h
    · exact Or.inl h.2
    · obtain ⟨hsh, hhs⟩ := hst h.1
      refine Or.inr ⟨hnr, hhs, ?_, ?_⟩
      · exact Or.inr ⟨by rw [hsa]; exact h.1, Or.inr ⟨hnr, hhs⟩⟩
      · show DeadI (s.read cond) (DeadK frs) (v - sub.shift)
        rw [hsh, Int.sub_zero]
        exact Or.inl h.2
  · rw [mem_absorb_reads] at h1
    rw [absorb_hadShift, read_hadShift] at h2
    obtain ⟨hs, hA⟩ := Bool.or_eq_false_iff.1 h2
    obtain ⟨hsh, hhs⟩ := hst hA
    have hnr : v ∉ sub.reads := fun hr => h1 (Or.inr (Or.inl hr))
    by_cases hw : v ∈ sub.written
    · exact Or.inl hw
    · refine Or.inr ⟨hnr, hhs, ?_, ?_⟩
      · exact Or.inr ⟨by rw [hsa]; exact hA, Or.inr ⟨hnr, hhs⟩⟩
      · show DeadI (s.read cond) (DeadK frs) (v - sub.shift)
        rw [hsh, Int.sub_zero]
        refine Or.inr ⟨fun hr => h1 (Or.inr (Or.inr ⟨hA, hr, fun hh => hw hh.2⟩)), hs, h3⟩

theorem dead_head_ne_cond {s sub : DState} {A1 : DAnal} {cond v : Int} {K : Int → Prop}
    (h : DeadI (absorbSub (s.read cond) sub A1 cond) K v) : v ≠ cond := by
  rcases h with h | ⟨h1, _, _⟩
  · rw [mem_absorb_written] at h
    exact h.1
  · rw [mem_absorb_reads] at h1
    exact fun e => h1 (Or.inl e)

end C01Dse
end Hpbf
