/-
Composition of step lemmas, the top-level state, the bridge from
`Sim` to statements about `Ir.run`, and `rebuild_straightline`: one optimizer round preserves the behaviour of
a block without `loop` / `ifnz`.
-/
import Hpbf.Proofs.OptRbStep
import Hpbf.Proofs.OptRbAdeq2
import Hpbf.Proofs.OptRbTop

namespace Hpbf
namespace OptProof
open Opt OptSem Ir

variable {w : Nat}

theorem StepAt.refl (sh : Int) (ps : List (Rebuild w)) (s : Rebuild w) : StepAt sh sh ps s s [] := by
  refine ⟨[], by simp, fun h => h, ?_⟩
  intro M0 σE σS h
  refine ⟨Sim.nil ⟨M0, h, fun _ => ⟨rfl, rfl⟩⟩ h.tr.symm, ?_⟩
  intro hb; cases hb

theorem StepAt.trans {sh1 sh2 sh3 : Int} {ps : List (Rebuild w)} {a b c : Rebuild w} {l1 l2 : List (Instr w)}
    (h1 : StepAt sh1 sh2 ps a b l1) (h2 : StepAt sh2 sh3 ps b c l2) : StepAt sh1 sh3 ps a c (l1 ++ l2) := by
  obtain ⟨n1, e1, m1, s1⟩ := h1
  obtain ⟨n2, e2, m2, s2⟩ := h2
  refine ⟨n1 ++ n2, by rw [e2, e1, List.append_assoc], fun h => m1 (m2 h), ?_⟩
  intro M0 σE σS h
  obtain ⟨hs1, hb1⟩ := s1 M0 σE σS h
  refine ⟨Sim.append hs1 ?_, ?_⟩
  · rintro σS' σE' ⟨M0', h', hk'⟩
    refine (s2 M0' σE' σS' h').1.mono ?_
    rintro x y ⟨M0'', h'', hk''⟩
    refine ⟨M0'', h'', fun hc => ?_⟩
    obtain ⟨k1, k2⟩ := hk'' hc
    obtain ⟨k3, k4⟩ := hk' (m2 hc)
    exact ⟨k1.trans k3, k2.trans k4⟩
  · intro hb
    rcases bad_append.1 hb with hb | ⟨σ1, he, hb⟩
    · exact hb1 hb
    · obtain ⟨σS', _, M0', h', _⟩ := hs1.finR σ1 he
      exact (s2 M0' σ1 σS' h').2 hb

theorem StepOk.refl (ps : List (Rebuild w)) (s : Rebuild w) : StepOk ps s s [] := StepAt.refl _ ps s

theorem StepOk.trans {ps : List (Rebuild w)} {a b c : Rebuild w} {l1 l2 : List (Instr w)}
    (h1 : StepOk ps a b l1) (h2 : StepOk ps b c l2) : StepOk ps a c (l1 ++ l2) := StepAt.trans h1 h2

def StraightL (l : List (Instr w)) : Prop := ∀ i ∈ l, C01Dse.isBlock i = false

theorem rebuildInstr_straight {ps : List (Rebuild w)} {s : Rebuild w} (hwf : Wf s) {i : Instr w}
    (hi : C01Dse.isBlock i = false) {os os' : Orders} {s' : Rebuild w}
    (hr : (rebuildInstr ps s i).run os = .ok (s', os')) :
    Wf s' ∧ s'.noReturn = s.noReturn ∧ SameHdr s s' ∧ s'.subAnal = s.subAnal ∧ StepOk ps s s' [i] := by
  cases i with
  | output src => exact step_output hwf src hr
  | input dst => exact step_input hwf dst hr
  | «calc» calcs => exact step_calc hwf calcs hr
  | loop c sh b o => simp [C01Dse.isBlock] at hi
  | ifnz c sh b => simp [C01Dse.isBlock] at hi

theorem rebuildInsts_straight {ps : List (Rebuild w)} (l : List (Instr w)) (hl : StraightL l)
    {s : Rebuild w} {os os' : Orders} {s' : Rebuild w} {done : Bool} (hwf : Wf s) (hnr : s.noReturn = false)
    (hr : (rebuildInsts ps s l).run os = .ok ((s', done), os')) :
    Wf s' ∧ s'.noReturn = false ∧ done = true ∧ SameHdr s s' ∧ s'.subAnal = s.subAnal ∧
    StepOk ps s s' l := by
  induction l generalizing s os with
  | nil =>
    rw [rebuildInsts, run_pure] at hr
    cases hr
    exact ⟨hwf, hnr, rfl, SameHdr.refl _, rfl, StepOk.refl ps _⟩
  | cons i rest ih =>
    rw [rebuildInsts, hnr] at hr
    simp only [Bool.false_eq_true, if_false] at hr
    rw [run_bind_ok] at hr
    obtain ⟨s1, os1, h1, h2⟩ := hr
    obtain ⟨a1, a2, a3, a4, a5⟩ := rebuildInstr_straight hwf (hl i (by simp)) h1
    obtain ⟨b1, b2, b3, b4, b5, b6⟩ := ih (fun j hj => hl j (by simp [hj])) a1 (by rw [a2, hnr]) h2
    exact ⟨b1, b2, b3, a3.trans b4, b5.trans a4, a5.trans b6⟩

/-- Parent `.zero` (and no loop condition): the entry memory is the zero tape, about which every answer of the
parent interface is right. -/
theorem pk_top {s : Rebuild w} (ps : List (Rebuild w)) (hp : s.parent = .zero) (hc : s.cond = none) :
    PK s ps (fun _ => 0#w) := by
  refine ⟨?_, ?_, ?_⟩
  · intro v c h
    unfold getParentConstant at h
    rw [hp] at h
    split at h
    · simp only [Option.some.injEq] at h; exact h
    · cases h
  · intro v h
    unfold nonZeroParent at h
    rw [hp, hc] at h
    simp at h
  · intro a b ha hb h
    unfold compareParent at h
    rw [hp] at h
    split at h
    · rename_i hab
      have : a = b := by simpa using hab
      rw [this]
    · split at h
      · simp only [pure, Except.pure, Except.ok.injEq, beq_iff_eq] at h
        show Expr.evaluate a _ = Expr.evaluate b _
        rw [← Expr.eval_constantPart a ha.weak, ← Expr.eval_constantPart b hb.weak, h]
      · simp [pure, Except.pure] at h

theorem rel_init {s : Rebuild w} (ps : List (Rebuild w)) (hp : s.parent = .zero) (hc : s.cond = none)
    (hsh : s.shift = 0) (hpend : s.pending = []) (hwr : s.written = []) (hnr : s.noReturn = false)
    (env : Env) :
    Rel s ps (fun _ => 0#w) (State.init env) (State.init env) := by
  refine ⟨rfl, rfl, by rw [hsh]; rfl, hnr, ?_, ?_, pk_top ps hp hc⟩
  · rw [hpend]; simp
  · intro v
    rw [hwr]
    show (State.init env : State w).tape.get _ = 0#w
    rfl

/-- Same observable behaviour of two blocks under `env`: terminating runs correspond (same kind of ending, same
events, same environment) in both directions, and runs cut off by the fuel have the same events. -/
def BehEq (b b' : Block w) (env : Env) : Prop :=
  (∀ f c, Ir.run b false 0 f env = .done c → ∃ f' c', Ir.run b' false 0 f' env = .done c' ∧
    c'.st.trace = c.st.trace ∧ c'.st.env = c.st.env) ∧
  (∀ f c, Ir.run b false 0 f env = .stopped c → ∃ f' c', Ir.run b' false 0 f' env = .stopped c' ∧
    c'.st.trace = c.st.trace ∧ c'.st.env = c.st.env) ∧
  (∀ f' c', Ir.run b' false 0 f' env = .done c' → ∃ f c, Ir.run b false 0 f env = .done c ∧
    c'.st.trace = c.st.trace ∧ c'.st.env = c.st.env) ∧
  (∀ f' c', Ir.run b' false 0 f' env = .stopped c' → ∃ f c, Ir.run b false 0 f env = .stopped c ∧
    c'.st.trace = c.st.trace ∧ c'.st.env = c.st.env) ∧
  (∀ f', ∃ f, C01.traceOf (Ir.run b false 0 f env) = C01.traceOf (Ir.run b' false 0 f' env)) ∧
  (∀ f, ∃ f', C01.traceOf (Ir.run b' false 0 f' env) = C01.traceOf (Ir.run b false 0 f env))

theorem behEq_of_sim {Q : State w → State w → Prop} {b b' : Block w} {env : Env}
    (hQ : ∀ x y, Q x y → y.trace = x.trace ∧ y.env = x.env)
    (h : Sim Q b.insts b'.insts (State.init env) (State.init env)) : BehEq b b' env := by
  refine ⟨?_, ?_, ?_, ?_, ?_, ?_⟩
  · intro f c hc
    obtain ⟨σE', h1, h2⟩ := h.finL _ (run_done_exec hc)
    obtain ⟨f', c', h3, h4⟩ := exec_fin_run h1
    exact ⟨f', c', h3, by rw [h4]; exact (hQ _ _ h2).1, by rw [h4]; exact (hQ _ _ h2).2⟩
  · intro f c hc
    obtain ⟨σE', h1, h2, h2'⟩ := h.stopL _ (run_stopped_exec hc)
    obtain ⟨f', c', h3, h4⟩ := exec_stop_run h1
    exact ⟨f', c', h3, by rw [h4]; exact h2, by rw [h4]; exact h2'⟩
  · intro f' c' hc
    obtain ⟨σS', h1, h2⟩ := h.finR _ (run_done_exec hc)
    obtain ⟨f, c, h3, h4⟩ := exec_fin_run h1
    exact ⟨f, c, h3, by rw [h4]; exact (hQ _ _ h2).1, by rw [h4]; exact (hQ _ _ h2).2⟩
  · intro f' c' hc
    obtain ⟨σS', h1, h2, h2'⟩ := h.stopR _ (run_stopped_exec hc)
    obtain ⟨f, c, h3, h4⟩ := exec_stop_run h1
    exact ⟨f, c, h3, by rw [h4]; exact h2, by rw [h4]; exact h2'⟩
  · intro f'
    obtain ⟨o, ho, hot⟩ := run_trace_exec b' env f'
    rw [← hot]
    cases o with
    | fin σE' =>
      obtain ⟨σS', h1, h2⟩ := h.finR _ ho
      obtain ⟨f, hf⟩ := exec_trace_run h1
      exact ⟨f, by rw [hf]; exact ((hQ _ _ h2).1).symm⟩
    | stop σE' =>
      obtain ⟨σS', h1, h2, _⟩ := h.stopR _ ho
      obtain ⟨f, hf⟩ := exec_trace_run h1
      exact ⟨f, by rw [hf]; exact h2.symm⟩
    | part t =>
      obtain ⟨f, hf⟩ := exec_trace_run (h.partR _ ho)
      exact ⟨f, hf⟩
  · intro f
    obtain ⟨o, ho, hot⟩ := run_trace_exec b env f
    rw [← hot]
    cases o with
    | fin σS' =>
      obtain ⟨σE', h1, h2⟩ := h.finL _ ho
      obtain ⟨f', hf⟩ := exec_trace_run h1
      exact ⟨f', by rw [hf]; exact (hQ _ _ h2).1⟩
    | stop σS' =>
      obtain ⟨σE', h1, h2, _⟩ := h.stopL _ ho
      obtain ⟨f', hf⟩ := exec_trace_run h1
      exact ⟨f', by rw [hf]; exact h2⟩
    | part t =>
      obtain ⟨f', hf⟩ := exec_trace_run (h.partL _ ho)
      exact ⟨f', hf⟩

def StraightLine (b : Block w) : Prop := StraightL b.insts

theorem reverseSubBlocks_fields (s : Rebuild w) : SameButAnal s (reverseSubBlocks s) := by
  unfold reverseSubBlocks
  split <;> exact ⟨rfl, rfl, rfl, rfl, rfl, rfl, rfl, rfl, rfl, rfl, rfl⟩

theorem rebuild_straightline {b : Block w} (hb : StraightLine b) (prevAnal : OptAnalysis w)
    {os os' : Orders} {b' : Block w} {anal' : OptAnalysis w}
    (hr : (optimizeOnce b prevAnal).run os = .ok ((b', anal'), os')) (env : Env) : BehEq b b' env := by
  obtain ⟨st, h1, rfl, rfl⟩ := optimizeOnce_run hr
  obtain ⟨s', done, h3, rfl⟩ := rebuildBlock_run h1
  obtain ⟨f1, f2, f3, f4, f5, f6, f7, f8, f9, f10, f11⟩ :=
    reverseSubBlocks_fields (Rebuild.new 0 none .zero (some prevAnal) : Rebuild w)
  have hwf0 : Wf (reverseSubBlocks (Rebuild.new 0 none .zero (some prevAnal) : Rebuild w)) :=
    (wf_new (w := w) 0 none .zero (some prevAnal)).congr f8 f7 f9
  obtain ⟨_, _, _, _, _, new, hnew, _, hsim⟩ := rebuildInsts_straight b.insts hb hwf0 (by rw [f5]; rfl) h3
  have hrel := rel_init (w := w) (s := reverseSubBlocks (Rebuild.new 0 none .zero (some prevAnal))) []
    (by rw [f1]; rfl) (by rw [f3]; rfl) (by rw [f2]; rfl) (by rw [f8]; rfl) (by rw [f7]; rfl)
    (by rw [f5]; rfl) env
  have hS := (hsim _ _ _ hrel).1
  have hinsts : (if done = true then { s' with shift := s'.shift + b.shift } else s').insts = new := by
    have : s'.insts = new := by rw [hnew, f10]; rfl
    split <;> exact this
  refine behEq_of_sim (Q := StepQ s'.shift [] s' (fun _ => 0#w) (State.init env)) ?_ ?_
  · rintro x y ⟨M0', h, _⟩
    exact ⟨h.tr.symm, h.env.symm⟩
  · show Sim _ b.insts (if done = true then { s' with shift := s'.shift + b.shift } else s').insts _ _
    rw [hinsts]; exact hS

end OptProof
end Hpbf
