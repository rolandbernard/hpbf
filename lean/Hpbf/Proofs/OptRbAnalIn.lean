/-
Rounds that USE the analysis of the previous round.

* `BlockIn`, `AnalInI`, `AnalInL`: the semantic soundness of a previous analysis for the SOURCE program of a round,
  relative to a guard `G` on the states in which the code is entered (what really occurs): a block whose node says
  `atMostOnce` runs at most once; in a block whose node says neither `atMostOnce` nor `hasShift`, the heads keep the
  pointer and the cells outside `clobbered` keep the values they had when the block was entered.
* `entry_anal_pk` (with it `entry_anal`, the entry relation of a nested block whose fresh state carries an analysis
  node): everything the child may ask its parent is true of the memory at the head, because the askable cells still
  hold their block-entry values.
-/
import Hpbf.Proofs.OptRbEntry

namespace Hpbf
namespace OptProof
open Opt OptSem Ir

variable {w : Nat}

/-- How a parent establishes the entry relation of a nested block without analysis. (By `entry_noanal` neither hypothesis
on the parent is needed.) -/
theorem entry_l1 {s : Rebuild w} {ps : List (Rebuild w)} (hcs : CanonSt s)
    (hp : ∃ M0p Ep Sp, MInv s ps M0p Ep Sp) (shP cS : Int) :
    ∀ σE σS : State w, SameMem shP σS σE → σS.rd cS ≠ 0#w →
      ∃ M0, RelAt shP (freshChild s.shift (cS + shP)) (s :: ps) M0 σE σS :=
  fun σE σS hm hne => entry_noanal (s :: ps) (fun _ => True) rfl rfl rfl rfl rfl σE σS hm hne trivial

/-- The states in which the body of a block is entered (loop heads with non-zero condition), from guarded states. -/
def HeadG (G : State w → Prop) (isLoop : Bool) (c sh : Int) (body : List (Instr w)) : State w → Prop :=
  fun σ' => σ'.rd c ≠ 0#w ∧ ∃ σ, G σ ∧ if isLoop then ∃ k, Head c sh body σ k σ' else σ' = σ

/-- The states after a piece of code, from guarded states. -/
def AfterG (G : State w → Prop) (l : List (Instr w)) : State w → Prop :=
  fun σ' => ∃ σ, G σ ∧ Exec l σ (.fin σ')

/-- Soundness of one analysis node for a block entered from states satisfying `G`. -/
structure BlockIn (G : State w → Prop) (isLoop : Bool) (c sh : Int) (body : List (Instr w))
    (A : OptAnalysis w) : Prop where
  amo : A.loopAnal.atMostOnce = true → isLoop = true → ∀ σ, G σ → σ.rd c ≠ 0#w →
    ∀ a, Exec body σ (.fin a) → (a.mov sh).rd c = 0#w
  clob : A.loopAnal.atMostOnce = false → A.hasShift = false → isLoop = true → ∀ σ, G σ →
    ∀ k σk, Head c sh body σ k σk → σk.ptr = σ.ptr ∧ ∀ x, A.clobbered.contains x = false → σk.rd x = σ.rd x

mutual
/-- Soundness of the node paired with a block, and of the nodes below it. -/
def AnalInI (G : State w → Prop) : Instr w → OptAnalysis w → Prop
  | .loop c sh body _, A => BlockIn G true c sh body A ∧ AnalInL (HeadG G true c sh body) body A.subBlocks
  | .ifnz c sh body, A => BlockIn G false c sh body A ∧ AnalInL (HeadG G false c sh body) body A.subBlocks
  | _, _ => True
/-- Soundness of the nodes `subs` for the blocks of the list, in order (as they are popped). -/
def AnalInL (G : State w → Prop) : List (Instr w) → List (OptAnalysis w) → Prop
  | [], _ => True
  | i :: rest, subs =>
    if C01Dse.isBlock i then
      (match subs with
       | A :: subs' => AnalInI G i A ∧ AnalInL (AfterG G [i]) rest subs'
       | [] => True)
    else AnalInL (AfterG G [i]) rest subs
end

theorem analInL_nil (G : State w → Prop) (subs : List (OptAnalysis w)) : AnalInL G [] subs := by
  rw [AnalInL]; trivial

theorem analInL_cons_nonblock (G : State w → Prop) {i : Instr w} (hb : C01Dse.isBlock i = false)
    (rest : List (Instr w)) (subs : List (OptAnalysis w)) :
    AnalInL G (i :: rest) subs ↔ AnalInL (AfterG G [i]) rest subs := by
  cases subs <;> (rw [AnalInL, hb]; simp)

theorem analInL_cons_block_nil (G : State w → Prop) {i : Instr w} (hb : C01Dse.isBlock i = true)
    (rest : List (Instr w)) : AnalInL G (i :: rest) [] := by
  rw [AnalInL, hb]; simp

theorem analInL_cons_block (G : State w → Prop) {i : Instr w} (hb : C01Dse.isBlock i = true)
    (rest : List (Instr w)) (A : OptAnalysis w) (subs : List (OptAnalysis w)) :
    AnalInL G (i :: rest) (A :: subs) ↔ AnalInI G i A ∧ AnalInL (AfterG G [i]) rest subs := by
  rw [AnalInL, hb]; simp

theorem analInI_loop (G : State w → Prop) (c sh : Int) (body : List (Instr w)) (o : Bool) (A : OptAnalysis w) :
    AnalInI G (.loop c sh body o) A ↔
      BlockIn G true c sh body A ∧ AnalInL (HeadG G true c sh body) body A.subBlocks := by
  rw [AnalInI]

theorem analInI_ifnz (G : State w → Prop) (c sh : Int) (body : List (Instr w)) (A : OptAnalysis w) :
    AnalInI G (.ifnz c sh body) A ↔
      BlockIn G false c sh body A ∧ AnalInL (HeadG G false c sh body) body A.subBlocks := by
  rw [AnalInI]

/-- The fresh state of a nested block with an analysis node. -/
def freshChildA (sh : Int) (cond : Int) (A : OptAnalysis w) : Rebuild w :=
  reverseSubBlocks (Rebuild.new sh (some cond) .parent (some A))

theorem canAsk_freshChildA (sh cond : Int) (A : OptAnalysis w) (v : Int) :
    canAskParentFor (freshChildA sh cond A) v =
      (A.loopAnal.atMostOnce || (!A.clobbered.contains (v - sh) && !A.hasShift)) := by
  cases A with
  | mk la hs rd cl subs => simp [freshChildA, reverseSubBlocks, Rebuild.new, canAskParentFor,
      OptAnalysis.setSubBlocks, OptAnalysis.loopAnal, OptAnalysis.clobbered, OptAnalysis.hasShift]

theorem freshChildA_fields (sh cond : Int) (A : OptAnalysis w) :
    (freshChildA sh cond A).parent = .parent ∧ (freshChildA sh cond A).cond = some cond ∧
    (freshChildA sh cond A).noReturn = false ∧ (freshChildA sh cond A).written = [] ∧
    (freshChildA sh cond A).pending = [] := by
  obtain ⟨f1, _, f3, _, f5, _, f7, f8, _⟩ :=
    reverseSubBlocks_fields (Rebuild.new sh (some cond) .parent (some A) : Rebuild w)
  exact ⟨f1, f3, f5, f7, f8⟩

/-- What a fresh child with an analysis node knows through its parent is true at a head `σk` whose askable cells
hold their block-entry values. -/
theorem entry_anal_pk {s : Rebuild w} {ps : List (Rebuild w)} (hcs : CanonSt s) (A : OptAnalysis w) {cS : Int}
    {M0p : Mem w} {σEp σSp σk : State w} (hrelP : RelAt s.shift s ps M0p σEp σSp)
    (hag : ∀ v, canAskParentFor (freshChildA s.shift (cS + s.shift) A) v = true →
      σk.rd (v - s.shift) = σSp.rd (v - s.shift))
    (hne : σk.rd cS ≠ 0#w) :
    PK (freshChildA s.shift (cS + s.shift) A) (s :: ps) (memE (σk.mov (-s.shift))) := by
  have hmem : ∀ v, canAskParentFor (freshChildA s.shift (cS + s.shift) A) v = true →
      memE (σk.mov (-s.shift)) v = memS σEp σSp v := by
    intro v hv
    have h1 : memE (σk.mov (-s.shift)) v = σk.rd (v - s.shift) := by
      show σk.tape.get (σk.ptr + -s.shift + v) = σk.tape.get (σk.ptr + (v - s.shift))
      rw [Int.add_assoc, Int.add_comm (-s.shift) v, ← Int.sub_eq_add_neg]
    have h2 : memS σEp σSp v = σSp.rd (v - s.shift) := by
      show σSp.tape.get (σEp.ptr + v) = σSp.tape.get (σSp.ptr + (v - s.shift))
      rw [hrelP.ptr, Int.add_assoc, Int.add_comm s.shift, Int.sub_add_cancel]
    rw [h1, h2]; exact hag v hv
  obtain ⟨hpar, hcondf, _⟩ := freshChildA_fields (w := w) s.shift (cS + s.shift) A
  refine ⟨?_, ?_, ?_⟩
  · intro v c hc
    unfold getParentConstant at hc
    split at hc
    · rename_i hask
      rw [hpar] at hc
      simp only at hc
      rw [hmem v hask]; exact getConstant_sound hrelP.inv hc
    · cases hc
  · intro v hv
    unfold nonZeroParent at hv
    split at hv
    · rename_i hh
      simp only [Bool.and_eq_true, Bool.not_eq_true', beq_iff_eq] at hh
      rw [hcondf] at hh
      have : v = cS + s.shift := by have := hh.2; cases this; rfl
      rw [this]
      show σk.tape.get (σk.ptr + -s.shift + (cS + s.shift)) ≠ 0#w
      have e : σk.ptr + -s.shift + (cS + s.shift) = σk.ptr + cS := by omega
      rw [e]; exact hne
    · split at hv
      · rename_i hask
        rw [hpar] at hv
        simp only at hv
        rw [hmem v hask]; exact isNonZero_sound hrelP.inv hv
      · cases hv
  · intro a b ha hb hc
    unfold compareParent at hc
    split at hc
    · rename_i hab
      have : a = b := by simpa using hab
      rw [this]
    · split at hc
      · rename_i hall
        rw [hpar] at hc
        simp only at hc
        have hcmp := compare_sound hrelP.inv hcs ha hb hc
        have ea : ev a (memE (σk.mov (-s.shift))) = ev a (memS σEp σSp) := by
          apply C01Dse.evaluate_congr
          intro v hv
          simp only [List.all_eq_true, List.mem_append] at hall
          exact hmem v (hall v (Or.inl hv))
        have eb : ev b (memE (σk.mov (-s.shift))) = ev b (memS σEp σSp) := by
          apply C01Dse.evaluate_congr
          intro v hv
          simp only [List.all_eq_true, List.mem_append] at hall
          exact hmem v (hall v (Or.inr hv))
        rw [ea, eb]; exact hcmp
      · simp [pure, Except.pure] at hc

/-- The entry relation of a nested block with an analysis node, at a head whose askable cells hold their
block-entry values. -/
theorem entry_anal {s : Rebuild w} {ps : List (Rebuild w)} (hcs : CanonSt s) (A : OptAnalysis w) {cS : Int}
    {M0p : Mem w} {σEp σSp σk : State w} (hrelP : RelAt s.shift s ps M0p σEp σSp)
    (hptr : σk.ptr = σSp.ptr)
    (hag : ∀ v, canAskParentFor (freshChildA s.shift (cS + s.shift) A) v = true →
      σk.rd (v - s.shift) = σSp.rd (v - s.shift))
    (hne : σk.rd cS ≠ 0#w) :
    RelAt s.shift (freshChildA s.shift (cS + s.shift) A) (s :: ps) (memE (σk.mov (-s.shift)))
      (σk.mov (-s.shift)) σk := by
  obtain ⟨_, _, hnr, hwr, hpd⟩ := freshChildA_fields (w := w) s.shift (cS + s.shift) A
  refine ⟨rfl, rfl, by show σk.ptr = σk.ptr + -s.shift + s.shift; omega, hnr, ?_, ?_,
    entry_anal_pk hcs A hrelP hag hne⟩
  · rw [hpd, par_nil]; rfl
  · intro v
    rw [hwr]; rfl

end OptProof
end Hpbf
