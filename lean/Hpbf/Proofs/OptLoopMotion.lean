/-
`loopMotion` for one variable.  `MotionCase` lists its six outcomes with the conditions that select them;
`TriOk` is what the closed forms need from `OptArith.triStep` for the trip count at hand, and it holds for the
two shapes of trip-count expression `analyzeLoop` produces.  Then the fold of `triStep` over the linear parts
(`triFold_spec`), and which variables the entries of the six outcomes mention (`triFold_vars` … `motionCase_during_vars`).
-/
import Hpbf.Proofs.OptLoopSem
import Hpbf.Proofs.StateExcept
import Hpbf.Proofs.OptLoopTrip

namespace Hpbf.OptLoop
open Hpbf Opt OptSem Expr

variable {w : Nat}

/-- The body of the loop over the linear parts in `loop_motion`. -/
def triFoldStep (expr : Expr w) (ba : Expr w × Expr w) (il : Expr w × Expr w) : Expr w × Expr w :=
  let r := OptArith.triStep expr il.1 il.2 ba.1
  if r.1 == 0 then (ba.1, Expr.add ba.2 il.1) else (r.2, ba.2)

inductive MotionCase (s : Rebuild w) (ps : List (Rebuild w)) (var : Int) (p : Expr w) (complete : Bool)
    (reads C : List Int) (lin : List (Int × Expr w)) (otherPending : List Int) (L : OptLoop w) :
    Option (Expr w) × Option (Expr w) × Option (Expr w) → Prop
  /-- a constant that the emitted instructions do not write: the operation is dropped -/
  | gone : C.contains var = true → complete = true →
      MotionCase s ps var p complete reads C lin otherPending L (none, none, none)
  /-- not read in the loop (or the loop runs at most once) and computed from constants and cells without
  pending operation: performed once after the loop -/
  | after (p' : Expr w) : reduceConst s ps p C = .ok p' →
      (reads.contains var = false ∨ L.atMostOnce = true) →
      (∀ x ∈ Expr.variables p', otherPending.contains x = false ∨ C.contains x = true) →
      MotionCase s ps var p complete reads C lin otherPending L (none, none, some p')
  /-- `var += inc`: constant part times the trip count and triangular sums before the loop -/
  | tri (p' expr inc cst other : Expr w) (linears : List (Expr w × Expr w)) :
      reads.contains var = false → complete = true → C.contains var = false →
      reduceConst s ps p C = .ok p' → L.expr = some expr →
      Expr.prodIncOf p' var = some (inc, 1#w) →
      splitAlong inc C lin = .ok (cst, other, linears) →
      MotionCase s ps var p complete reads C lin otherPending L
        (some (Expr.add (Expr.var var) (linears.foldl (triFoldStep expr) (Expr.mul expr cst, other)).1),
         some (Expr.add (Expr.var var) (linears.foldl (triFoldStep expr) (Expr.mul expr cst, other)).2),
         none)
  /-- `var *= mul` with a constant trip count -/
  | geo0 (p' expr inc : Expr w) (mul c : BitVec w) :
      reads.contains var = false → complete = true → C.contains var = false →
      reduceConst s ps p C = .ok p' → L.expr = some expr →
      Expr.prodIncOf p' var = some (inc, mul) → mul ≠ 1#w → Expr.constant expr = some c → inc = [] →
      MotionCase s ps var p complete reads C lin otherPending L
        (some (Expr.mul (Expr.val (Cell.wrappingPow mul c)) (Expr.var var)), none, none)
  /-- `var = var * mul + inc` with a constant trip count and `inc` over constants -/
  | geo (p' expr inc : Expr w) (mul c : BitVec w) :
      reads.contains var = false → complete = true → C.contains var = false →
      reduceConst s ps p C = .ok p' → L.expr = some expr →
      Expr.prodIncOf p' var = some (inc, mul) → mul ≠ 1#w → Expr.constant expr = some c →
      (∀ x ∈ Expr.variables inc, C.contains x = true) →
      MotionCase s ps var p complete reads C lin otherPending L
        (some (Expr.add (Expr.mul (Expr.val (Cell.wrappingPow mul c)) (Expr.var var))
          (Expr.mul (Expr.val (OptArith.geomSum mul c)) inc)), none, none)
  /-- everything stays in the loop -/
  | stay (p' : Expr w) : reduceConst s ps p C = .ok p' →
      MotionCase s ps var p complete reads C lin otherPending L (none, some p', none)

theorem loopMotion_cases (s : Rebuild w) (ps : List (Rebuild w)) (var : Int) (p : Expr w)
    (complete : Bool) (reads C : List Int) (lin : List (Int × Expr w)) (otherPending : List Int)
    (L : OptLoop w) (r : Option (Expr w) × Option (Expr w) × Option (Expr w))
    (h : loopMotion s ps var p complete reads C lin otherPending L = .ok r) :
    MotionCase s ps var p complete reads C lin otherPending L r := by
  unfold loopMotion at h
  by_cases h1 : (C.contains var && complete) = true
  · rw [if_pos h1] at h
    simp only [Bool.and_eq_true] at h1
    cases h
    exact .gone h1.1 h1.2
  · rename' h1 => hng
    rw [if_neg hng] at h
    obtain ⟨p', hp', h⟩ := StateExcept.except_bind_ok h
    simp only at h
    by_cases h2 : ((!reads.contains var || L.atMostOnce) &&
        (Expr.variables p').all fun x => !otherPending.contains x || C.contains x) = true
    · rw [if_pos h2] at h
      simp only [Bool.and_eq_true, Bool.or_eq_true, Bool.not_eq_true', List.all_eq_true] at h2
      cases h
      exact .after p' hp' h2.1 h2.2
    · rw [if_neg h2] at h
      have hstay : ∀ r', (pure (none, some p', none) : Except String _) = .ok r' →
          MotionCase s ps var p complete reads C lin otherPending L r' := by
        intro r' hr'; cases hr'; exact .stay p' hp'
      by_cases h3 : (!reads.contains var && complete) = true
      · rw [if_pos h3] at h
        simp only [Bool.and_eq_true, Bool.not_eq_true'] at h3
        have hcv : C.contains var = false := by
          cases hc : C.contains var with
          | false => rfl
          | true => exact absurd (by rw [hc, h3.2]; rfl) hng
        cases hexpr : L.expr with
        | none => rw [hexpr] at h; exact hstay r h
        | some expr =>
          rw [hexpr] at h
          cases hpi : Expr.prodIncOf p' var with
          | none => rw [hpi] at h; exact hstay r h
          | some im =>
            obtain ⟨inc, mul⟩ := im
            rw [hpi] at h
            simp only at h
            by_cases hm1 : (mul == 1#w) = true
            · rw [if_pos hm1] at h
              have hm1' : mul = 1#w := by simpa using hm1
              subst hm1'
              obtain ⟨x, hx, h⟩ := StateExcept.except_bind_ok h
              obtain ⟨cst, other, linears⟩ := x
              cases h
              exact .tri p' expr inc cst other linears h3.1 h3.2 hcv hp' hexpr hpi hx
            · rw [if_neg hm1] at h
              have hm1' : mul ≠ 1#w := by simpa using hm1
              cases hc : Expr.constant expr with
              | none => rw [hc] at h; exact hstay r h
              | some c =>
                rw [hc] at h
                simp only at h
                by_cases hz : Expr.isZero inc = true
                · rw [if_pos hz] at h
                  cases h
                  have hz' : inc = [] := by simpa [Expr.isZero] using hz
                  exact .geo0 p' expr inc mul c h3.1 h3.2 hcv hp' hexpr hpi hm1' hc hz'
                · rw [if_neg hz] at h
                  by_cases hall : ((Expr.variables inc).all fun x => C.contains x) = true
                  · rw [if_pos hall] at h
                    cases h
                    exact .geo p' expr inc mul c h3.1 h3.2 hcv hp' hexpr hpi hm1' hc
                      (fun x hx => List.all_eq_true.1 hall x hx)
                  · rw [if_neg hall] at h
                    exact hstay r h
      · rw [if_neg h3] at h
        exact hstay r h

theorem motionCase_none {s : Rebuild w} {ps : List (Rebuild w)} {var : Int} {p : Expr w} {complete : Bool}
    {reads C : List Int} {lin : List (Int × Expr w)} {otherPending : List Int} {L : OptLoop w}
    {d a : Option (Expr w)} (h : MotionCase s ps var p complete reads C lin otherPending L (none, d, a)) :
    (d = none ∧ a = none ∧ C.contains var = true ∧ complete = true) ∨
    (∃ p', d = none ∧ a = some p' ∧ reduceConst s ps p C = .ok p' ∧
      (reads.contains var = false ∨ L.atMostOnce = true) ∧
      ∀ x ∈ Expr.variables p', otherPending.contains x = false ∨ C.contains x = true) ∨
    (∃ p', d = some p' ∧ a = none ∧ reduceConst s ps p C = .ok p') := by
  generalize hr : ((none : Option (Expr w)), d, a) = r at h
  cases h with
  | gone h1 h2 => cases hr; exact Or.inl ⟨rfl, rfl, h1, h2⟩
  | after p' hp' h1 h2 => cases hr; exact Or.inr (Or.inl ⟨p', rfl, rfl, hp', h1, h2⟩)
  | stay p' hp' => cases hr; exact Or.inr (Or.inr ⟨p', rfl, rfl, hp'⟩)
  | tri p' expr inc cst other linears => cases hr
  | geo0 p' expr inc mul c => cases hr
  | geo p' expr inc mul c => cases hr

/-- `expr` and the number of rounds `n` fit `OptArith.triStep`: whenever a linear part is moved, the new `before`
expression adds the triangular sum over `n` rounds (values in `m0`). -/
def TriOk (expr : Expr w) (n : Nat) (m0 : Mem w) : Prop :=
  ∀ initial increment before r b, OptArith.triStep expr initial increment before = (b, r) → b ≠ 0 →
    ev r m0 = ev before m0 + C01Opt.tri (ev initial m0) (ev increment m0) n

theorem triOk_of_meaning (hw : 0 < w) (e : Expr w) (cv : Nat → BitVec w) (cond : Int)
    (h : ExprMeaning e cv cond) (m0 : Mem w) (hm0 : m0 cond = cv 0) (n : Nat) (hn : RunsExactly cv n) :
    ev e m0 = BitVec.ofNat w n ∧ n < 2 ^ w ∧ TriOk e n m0 := by
  obtain ⟨hshape, hval⟩ := h
  obtain ⟨n', hn', hlt, hev⟩ := hval m0 hm0
  have : n' = n := runsExactly_unique hn' hn
  subst this
  refine ⟨hev, hlt, ?_⟩
  rcases hshape with ⟨c, rfl⟩ | ⟨inv, ho, rfl⟩
  · have hc : c.toNat = n' := by
      rw [ev_val] at hev
      rw [hev, BitVec.toNat_ofNat, Nat.mod_eq_of_lt hlt]
    rw [← hc]
    exact fun initial increment before r b h hb => C01Opt.triStep_val_sound c initial increment before r b h hb m0
  · exact fun initial increment before r b h hb =>
      C01Opt.triStep_invvar_sound hw inv cond ho initial increment before r b h hb m0 n' hev

/-- Moved parts add their triangular sum to `before`, the others stay in `during`; either way the total over `n`
rounds grows by the same triangular sum. -/
theorem triFold_spec (expr : Expr w) (n : Nat) (m0 : Mem w) (E : Nat → Mem w) (htri : TriOk expr n m0)
    (linears : List (Expr w × Expr w))
    (hlin : ∀ il ∈ linears, ∀ k, k < n → ev il.1 (E k) = ev il.1 m0 + BitVec.ofNat w k * ev il.2 m0)
    (ba0 : Expr w × Expr w) :
    ev (linears.foldl (triFoldStep expr) ba0).1 m0
        + accN (fun k => ev (linears.foldl (triFoldStep expr) ba0).2 (E k)) n
      = ev ba0.1 m0 + accN (fun k => ev ba0.2 (E k)) n
        + sumL (fun il => C01Opt.tri (ev il.1 m0) (ev il.2 m0) n) linears := by
  induction linears generalizing ba0 with
  | nil => simp
  | cons il linears ih =>
    rw [List.foldl_cons, ih (fun il' h' => hlin il' (List.mem_cons_of_mem _ h')) (triFoldStep expr ba0 il),
      sumL_cons]
    have hil := hlin il List.mem_cons_self
    unfold triFoldStep
    simp only
    split
    · simp only [ev_add]
      rw [accN_add, accN_congr (fun k => ev il.1 (E k)) _ n (fun k hk => hil k hk), accN_lin]
      generalize ev ba0.1 m0 = a
      generalize accN (fun k => ev ba0.2 (E k)) n = b
      generalize C01Opt.tri (ev il.1 m0) (ev il.2 m0) n = c
      generalize sumL (fun il => C01Opt.tri (ev il.1 m0) (ev il.2 m0) n) linears = d
      bvring
    · rename_i hb
      have hb' : (OptArith.triStep expr il.1 il.2 ba0.1).1 ≠ 0 := by simpa using hb
      rw [htri il.1 il.2 ba0.1 (OptArith.triStep expr il.1 il.2 ba0.1).2
        (OptArith.triStep expr il.1 il.2 ba0.1).1 rfl hb']
      simp only
      generalize ev ba0.1 m0 = a
      generalize accN (fun k => ev ba0.2 (E k)) n = b
      generalize C01Opt.tri (ev il.1 m0) (ev il.2 m0) n = c
      generalize sumL (fun il => C01Opt.tri (ev il.1 m0) (ev il.2 m0) n) linears = d
      bvring

theorem triFold_vars (expr : Expr w) (linears : List (Expr w × Expr w)) (ba0 : Expr w × Expr w) :
    ∀ q ∈ (linears.foldl (triFoldStep expr) ba0).2,
      (∃ t ∈ ba0.2, q.vars = t.vars) ∨ ∃ il ∈ linears, ∃ t ∈ il.1, q.vars = t.vars := by
  induction linears generalizing ba0 with
  | nil => exact fun q hq => Or.inl ⟨q, hq, rfl⟩
  | cons il linears ih =>
    rw [List.foldl_cons]
    intro q hq
    rcases ih (triFoldStep expr ba0 il) q hq with ⟨t, ht, e⟩ | ⟨il', hil', t, ht, e⟩
    · unfold triFoldStep at ht
      simp only at ht
      split at ht
      · simp only at ht
        rcases mem_add_vars ht with ⟨t', ht', e'⟩ | ⟨t', ht', e'⟩
        · exact Or.inl ⟨t', ht', e.trans e'⟩
        · exact Or.inr ⟨il, List.mem_cons_self, t', ht', e.trans e'⟩
      · exact Or.inl ⟨t, ht, e⟩
    · exact Or.inr ⟨il', List.mem_cons_of_mem _ hil', t, ht, e⟩

theorem triFold_parts_of_split {inc cst other : Expr w} {C : List Int} {lin : List (Int × Expr w)}
    {linears : List (Expr w × Expr w)} (hsplit : splitAlong inc C lin = .ok (cst, other, linears))
    (expr : Expr w) :
    ∀ q ∈ (linears.foldl (triFoldStep expr) (Expr.mul expr cst, other)).2, ∃ t ∈ inc, q.vars = t.vars := by
  obtain ⟨_, _, _, hothsub, hlinp⟩ := splitAlong_recompose inc C lin cst other linears hsplit
  intro q hq
  rcases triFold_vars expr linears (Expr.mul expr cst, other) q hq with ⟨t, ht, e⟩ | ⟨il, hil, t, ht, e⟩
  · exact ⟨t, hothsub t ht, e⟩
  · obtain ⟨part, lv, l, hpe, h1, _⟩ := hlinp il hil
    rw [h1] at ht
    simp only [List.mem_singleton] at ht
    subst ht
    exact ⟨t, hpe, e⟩

theorem prodIncOf_sub {e r : Expr w} {v : Int} {m : BitVec w} (h : Expr.prodIncOf e v = some (r, m)) :
    ∀ q ∈ r, q ∈ e := by
  unfold Expr.prodIncOf at h
  split at h
  · simp only [Option.some.injEq, Prod.mk.injEq] at h
    intro q hq
    rw [← h.1] at hq
    exact (List.mem_filter.1 hq).1
  · cases h

theorem variables_add (a b : Expr w) :
    ∀ x ∈ Expr.variables (Expr.add a b), x ∈ Expr.variables a ∨ x ∈ Expr.variables b := by
  intro x hx
  obtain ⟨q, hq, hxq⟩ := mem_variables.1 hx
  rcases mem_add_vars hq with ⟨t, ht, e⟩ | ⟨t, ht, e⟩
  · exact Or.inl (mem_variables.2 ⟨t, ht, e ▸ hxq⟩)
  · exact Or.inr (mem_variables.2 ⟨t, ht, e ▸ hxq⟩)

theorem foldl_lastCoef (e : Expr w) (v : Int) (m0 : BitVec w) :
    e.foldl (fun m p => if p.vars == [v] then p.coef else m) m0 = m0 ∨ ∃ q ∈ e, q.vars = [v] := by
  induction e generalizing m0 with
  | nil => exact Or.inl rfl
  | cons p e ih =>
    rw [List.foldl_cons]
    by_cases hp : p.vars = [v]
    · exact Or.inr ⟨p, List.mem_cons_self, hp⟩
    · have hb : (p.vars == [v]) = false := by simpa using hp
      simp only [hb, Bool.false_eq_true, if_false]
      rcases ih m0 with h | ⟨q, hq, hqv⟩
      · exact Or.inl h
      · exact Or.inr ⟨q, List.mem_cons_of_mem _ hq, hqv⟩

theorem prodIncOf_mem_of_ne_zero {e r : Expr w} {v : Int} {m : BitVec w}
    (h : Expr.prodIncOf e v = some (r, m)) (hm : m ≠ 0#w) : v ∈ Expr.variables e := by
  unfold Expr.prodIncOf at h
  split at h
  · simp only [Option.some.injEq, Prod.mk.injEq] at h
    rcases foldl_lastCoef e v 0#w with h0 | ⟨q, hq, hqv⟩
    · rw [h0] at h; exact absurd h.2.symm hm
    · exact mem_variables.2 ⟨q, hq, by rw [hqv]; exact List.mem_singleton.2 rfl⟩
  · cases h

theorem one_ne_zero_bv (hw : 0 < w) : (1#w : BitVec w) ≠ 0#w := by
  intro h
  have := congrArg BitVec.toNat h
  rw [BitVec.toNat_one hw, BitVec.toNat_zero] at this
  cases this

theorem motionCase_during_vars (hw : 0 < w) {s : Rebuild w} {ps : List (Rebuild w)} {var : Int} {p : Expr w}
    {complete : Bool} {reads C : List Int} {lin : List (Int × Expr w)} {otherPending : List Int}
    {L : OptLoop w} {b a : Option (Expr w)} {d : Expr w}
    (hcase : MotionCase s ps var p complete reads C lin otherPending L (b, some d, a)) :
    ∀ x ∈ Expr.variables d, x ∈ Expr.variables p := by
  generalize hr : (b, some d, a) = r at hcase
  cases hcase with
  | gone _ _ => simp at hr
  | after p' _ _ _ => simp at hr
  | geo0 p' expr inc mul c => simp at hr
  | geo p' expr inc mul c => simp at hr
  | stay p' hp' =>
    simp only [Prod.mk.injEq, Option.some.injEq] at hr
    obtain ⟨_, rfl, _⟩ := hr
    exact reduceConst_varsIn s ps p d C hp'
  | tri p' expr inc cst other linears h1 h2 h3 hp' hexpr hpi hsplit =>
    simp only [Prod.mk.injEq, Option.some.injEq] at hr
    obtain ⟨_, rfl, _⟩ := hr
    have hsubp : ∀ x ∈ Expr.variables p', x ∈ Expr.variables p := reduceConst_varsIn s ps p p' C hp'
    intro x hx
    rcases variables_add _ _ x hx with hxv | hxb
    · simp only [Expr.variables, Expr.var, List.flatMap_cons, List.flatMap_nil, List.append_nil,
        List.mem_singleton] at hxv
      subst hxv
      exact hsubp x (prodIncOf_mem_of_ne_zero hpi (one_ne_zero_bv hw))
    · obtain ⟨q, hq, hxq⟩ := mem_variables.1 hxb
      obtain ⟨t, ht, e⟩ := triFold_parts_of_split hsplit expr q hq
      exact hsubp x (mem_variables.2 ⟨t, prodIncOf_sub hpi t ht, e ▸ hxq⟩)

theorem motionCase_after_vars {s : Rebuild w} {ps : List (Rebuild w)} {var : Int} {p : Expr w}
    {complete : Bool} {reads C : List Int} {lin : List (Int × Expr w)} {otherPending : List Int}
    {L : OptLoop w} {b d : Option (Expr w)} {a : Expr w}
    (hcase : MotionCase s ps var p complete reads C lin otherPending L (b, d, some a)) :
    ∀ x ∈ Expr.variables a, x ∈ Expr.variables p := by
  generalize hr : (b, d, some a) = r at hcase
  cases hcase with
  | gone _ _ => simp at hr
  | stay p' _ => simp at hr
  | tri p' expr inc cst other linears => simp at hr
  | geo0 p' expr inc mul c => simp at hr
  | geo p' expr inc mul c => simp at hr
  | after p' hp' _ _ =>
    simp only [Prod.mk.injEq, Option.some.injEq] at hr
    obtain ⟨_, _, rfl⟩ := hr
    exact reduceConst_varsIn s ps p a C hp'

end Hpbf.OptLoop

#print axioms Hpbf.OptLoop.motionCase_during_vars
#print axioms Hpbf.OptLoop.motionCase_after_vars
#print axioms Hpbf.OptLoop.prodIncOf_mem_of_ne_zero
