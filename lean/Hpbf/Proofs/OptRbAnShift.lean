/-
The analysis a round records is sound for the code it emits: `loopOrIf` when the
child moves the pointer.  The node has `hasShift = true`, so it makes no claim of its own; for the nodes below it:
the heads of the emitted loop (from a state that, after an uncertain move, IS the valid state up to the
representation of the tape) correspond to the heads of the source loop with the same memory, hence are child-valid.
-/
import Hpbf.Proofs.OptRbAnInline

namespace Hpbf
namespace OptProof
open Opt OptSem Ir

variable {w : Nat}

theorem loopOrIf_shift_an {shP shC shS cS : Int} {bodyS : List (Instr w)}
    {s : Rebuild w} {ps : List (Rebuild w)} {sub : Rebuild w} {cond : Int} {isLoop : Bool} {L : OptLoop w}
    {C : List Int} {pc : List (Rebuild w)} {sub0 : Rebuild w} {os os' : Orders} {s' : Rebuild w}
    {G Gc : State w → Prop}
    (hr : (loopOrIf s ps sub cond isLoop L C).run os = .ok (s', os'))
    (hwf : Wf s) (hwfc : Wf sub)
    (hshift : (sub.subShift || sub.shift != s.shift) = true)
    (hcond : cond = cS + shP)
    (hsh : shC + shS = (sub.shift - s.shift) + shP)
    (hrep : ChildRep Gc shP shC pc sub0 [] sub bodyS)
    (hentry : EntryAt Gc shP cS pc sub0)
    (hGc : HeadsIn G Gc shP s ps cS shS bodyS (isLoop = false))
    (hshs : ShapeSt sub) (hflag : if isLoop then L.atMostOnce = false else L.atLeastOnce = false)
    (hsa0 : sub0.subAnal = [])
    (hcA : AStep (ValidG Gc shP sub0 pc) sub0 sub sub.insts) :
    ∃ new, s'.insts = s.insts ++ new ∧ AStep (ValidG G shP s ps) s s' new := by
  obtain ⟨hsub', _⟩ := loopOrIf_shift_foot hr hwf hwfc hshift
  obtain ⟨_, newI, newA, eI, eA, hshape, _⟩ := loopOrIf_pstep hr hwf hwfc hshs hflag
  subst hcond
  obtain ⟨sub1, os1, compsC, s1, compsP, h1, resC, hclC, hshift1, _, resP, hclP, rfl⟩ :=
    loopOrIf_shift_run hr hwf hwfc hshift
  have hmonoC : ReadsMono sub sub1 := by
    split at h1
    · obtain ⟨_, _, ef⟩ := emitAll_foot [] (pendingSorted sub sub) hwfc h1
      exact ef.mono
    · rw [run_pure] at h1
      cases h1
      exact ReadsMono.refl _
  have hrep1 : ChildRep Gc shP shC pc sub0 [] sub1 bodyS := hrep.emit resC
  have hcA1 : AStep (ValidG Gc shP sub0 pc) sub0 sub1 sub1.insts := by
    have := hcA.append_noBlocks_right (c := sub1) (noBlocks_calcs compsC) resC.subAnal hmonoC
    rw [← resC.insts] at this
    exact this
  obtain ⟨_, hAn1⟩ := hcA1.child hsa0
  obtain ⟨_, _, _, _, _, u6, _, u8, _, _⟩ := uncertainShift_fields s1
  obtain ⟨f1, f2, _⟩ := loopTail_shapeFields (uncertainShift s1) sub1 (cS + shP) isLoop L
    (sub1.subShift || sub1.shift != s.shift) []
  have hbs : sub1.shift - (uncertainShift s1).shift = sub.shift - s.shift := by
    rw [u6, resP.hdr.shift, resC.hdr.shift]
  rw [hbs] at f1
  have hnewI : newI = compsP.map Instr.calc ++
      [if isLoop then Instr.loop (cS + shP) (sub.shift - s.shift) sub1.insts L.atLeastOnce
        else Instr.ifnz (cS + shP) (sub.shift - s.shift) sub1.insts] := by
    apply List.append_cancel_left (as := s.insts)
    rw [← eI, f1, u8, resP.insts, List.append_assoc]
  have hnewA : newA = [OptAnalysis.mk L (sub1.subShift || sub1.shift != s.shift) sub1.reads [] sub1.subAnal] := by
    apply List.append_cancel_left (as := s.subAnal)
    rw [← eA, f2]
    show s1.subAnal ++ _ = _
    rw [resP.subAnal]
  subst hnewI
  subst hnewA
  refine ⟨_, eI, ⟨_, eA, hshape, ?_⟩⟩
  -- the emitted heads are child-valid (up to `StEq`)
  have hheads : ∀ M0 (σ1 σS : State w), RelAt shP s ps M0 σ1 σS → G σS → ∀ k h,
      Head (cS + shP) (sub.shift - s.shift) sub1.insts (compsP.foldl doCalc σ1) k h →
      (isLoop = false → k = 0) → ∃ σk, Head cS shS bodyS σS k σk ∧ SameMem shP σk h :=
    fun M0 σ1 σS hrel hg k h hhd hk0 =>
      heads_bwd (J := fun k σk h => Head cS shS bodyS σS k σk ∧ SameMem shP σk h)
        (B := fun k => isLoop = false → k = 0) (fun _ h hi => by have := h hi; omega)
        ⟨Head.zero, (resP.relAt hrel).sameMem hclP⟩
        (fun k a b ⟨hh, hm⟩ hk' hne => by
          have hil : isLoop = false → k = 0 := fun h' => by have := hk' h'; omega
          have hneS : a.rd cS ≠ 0#w := by rw [sameMem_rd hm]; exact hne
          exact (shift_round hrep1 hentry (fun h => hclC (by rw [← resC.noRet]; exact h)) hsh hm hh hneS
            (hGc M0 σ1 σS hrel hg k a hh hil hneS)).1.mono (fun x y ⟨q1, q2⟩ => ⟨q2, q1⟩)) hhd hk0
  have hmir : ∀ head, HeadG (AfterG (MirV (ValidG G shP s ps) s
      (loopTail (uncertainShift s1) sub1 (cS + shP) isLoop L (sub1.subShift || sub1.shift != s.shift) []))
        (compsP.map Instr.calc)) isLoop (cS + shP) (sub.shift - s.shift) sub1.insts head →
      MirV (ValidG Gc shP sub0 pc) sub0 sub1 head := by
    rintro head ⟨hnz, τ2, ⟨σ2, hm2, hex⟩, hk⟩
    rw [exec_calcs_fin hex] at hk
    obtain ⟨σ1, ⟨M0, σS, hrel, hg⟩, he⟩ := hm2.stEq_of_subShift hsub'
    have heτ : StEq (compsP.foldl doCalc σ2) (compsP.foldl doCalc σ1) := (he.foldl_doCalc compsP).symm
    -- the corresponding head of the run from the valid state
    have hcor : ∃ k h1, Head (cS + shP) (sub.shift - s.shift) sub1.insts (compsP.foldl doCalc σ1) k h1 ∧
        StEq head h1 ∧ (isLoop = false → k = 0) := by
      cases isLoop with
      | true =>
        simp only [if_true] at hk
        obtain ⟨k, hh2⟩ := hk
        obtain ⟨h1, hh1, heq⟩ := head_ext hh2 heτ
        exact ⟨k, h1, hh1, heq, fun h' => by cases h'⟩
      | false =>
        simp only [Bool.false_eq_true, if_false] at hk
        exact ⟨0, _, Head.zero, by rw [hk]; exact heτ, fun _ => rfl⟩
    obtain ⟨k, h1, hh1, heq, hk0⟩ := hcor
    obtain ⟨σk, hh, hm⟩ := hheads M0 σ1 σS hrel hg k h1 hh1 hk0
    have hneS : σk.rd cS ≠ 0#w := by rw [show σk.rd cS = h1.rd (cS + shP) from sameMem_rd hm, ← heq.rd]; exact hnz
    have hgc : Gc σk := hGc M0 σ1 σS hrel hg k σk hh hk0 hneS
    obtain ⟨M0c, hre⟩ := hentry h1 σk hm hneS hgc
    exact ⟨h1, fun _ => False, ⟨M0c, σk, hre, hgc⟩, fun _ h => h.elim, fun _ _ h => h,
      AgreeOff.of_stEq heq.symm⟩
  have hbody := analInL_mono hmir hAn1
  have e : [OptAnalysis.mk L (sub1.subShift || sub1.shift != s.shift) sub1.reads [] sub1.subAnal] =
      [] ++ [OptAnalysis.mk L (sub1.subShift || sub1.shift != s.shift) sub1.reads [] sub1.subAnal] := rfl
  rw [e]
  refine (analInL_append (shapeL_nonblocks (noBlocks_calcs compsP))).2 ⟨analInL_noBlocks (noBlocks_calcs compsP), ?_⟩
  cases isLoop with
  | true =>
    simp only [if_true] at hbody ⊢
    rw [analInL_single rfl, analInI_loop]
    have hamo : L.atMostOnce = false := by simpa using hflag
    refine ⟨blockIn_loop_of (show L.atMostOnce = false from hamo) ?_, hbody⟩
    intro h
    have h' : (sub1.subShift || sub1.shift != s.shift) = false := h
    rw [hshift1] at h'
    cases h'
  | false =>
    simp only [Bool.false_eq_true, if_false] at hbody ⊢
    rw [analInL_single rfl]
    exact analInI_ifnz_of hbody

end OptProof
end Hpbf

#print axioms Hpbf.OptProof.loopOrIf_shift_an
