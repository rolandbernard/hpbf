/-
C02 (`allocate_temps`): an executable checker `allocPreB` for the precondition `AllocPre`, sound by
`allocPreB_sound`; the concrete examples (`C02AllocEx`) use it through `decide +kernel`.
-/
import Hpbf.Proofs.C02AllocLemmas
set_option linter.unusedSimpArgs false

namespace Hpbf
namespace C02
namespace Alloc

open Bc BcWf BcGen C11

variable {w : Nat}

def inRangeB (s : St w) (t k : Nat) : Bool :=
  match s.ranges[t]? with
  | some r =>
    match r.lastUse with
    | some L => decide (r.created < k) && decide (k ≤ L)
    | none => false
  | none => false

theorem inRangeB_iff {s : St w} {t k : Nat} : inRangeB s t k = true ↔ InRange s t k := by
  unfold inRangeB InRange
  cases hr : s.ranges[t]? with
  | none =>
    constructor
    · intro h; cases h
    · rintro ⟨r, L, e, _⟩; cases e
  | some r =>
    cases hL : r.lastUse with
    | none =>
      constructor
      · intro h; simp only [hL] at h; cases h
      · rintro ⟨r', L', e, e', _⟩
        cases e
        rw [hL] at e'; cases e'
    | some L =>
      constructor
      · intro h
        simp only [hL, Bool.and_eq_true, decide_eq_true_eq] at h
        exact ⟨r, L, rfl, hL, h.1, h.2⟩
      · rintro ⟨r', L', e, e', h1, h2⟩
        cases e
        rw [hL] at e'; cases e'
        simp only [hL, Bool.and_eq_true, decide_eq_true_eq]
        exact ⟨h1, h2⟩

/-- The fusion candidate at `i`: temporary, first use, cell and source of the store. -/
def candOf (s : St w) (i : Nat) : Option (Nat × Nat × Int × Loc w) :=
  match s.insts[i]? with
  | some ins =>
    match arith? ins with
    | some (_, .tmp t, _, _) =>
      match s.ranges[t]? with
      | some r =>
        match r.firstUse, r.lastUse with
        | some f, some _ =>
          match s.insts[f]? with
          | some (.copy (.mem m) src) => some (t, f, m, src)
          | _ => none
        | _, _ => none
      | none => none
    | _ => none
  | none => none

theorem candOf_of_cand {s : St w} {i : Nat} {op : BcGen.Op} {t : Nat} {s0 s1 : Loc w} {f : Nat} {m : Int}
    {src : Loc w} (h : Cand s i op t s0 s1 f m src) : candOf s i = some (t, f, m, src) := by
  obtain ⟨h1, ⟨r, L, h2, h3, h4⟩, h5⟩ := h
  unfold candOf
  simp only [h1, arith?_mkArith, h2, h3, h4, h5]

def allLt (n : Nat) (p : Nat → Bool) : Bool := (List.range n).all p

theorem allLt_iff {n : Nat} {p : Nat → Bool} : allLt n p = true ↔ ∀ j, j < n → p j = true := by
  simp [allLt, List.all_eq_true]

def targetOf (s : St w) (j : Nat) : Option Nat :=
  match s.insts[j]? with
  | some x =>
    match branchOff? x with
    | some off => if 0 ≤ (j : Int) + off then some ((j : Int) + off).toNat else none
    | none => none
  | none => none

theorem targetOf_of {s : St w} {j k' : Nat} {x : Instr w} {off : Int} (hx : s.insts[j]? = some x)
    (ho : branchOff? x = some off) (hk : (j : Int) + off = (k' : Int)) : targetOf s j = some k' := by
  unfold targetOf
  simp only [hx, ho]
  have : 0 ≤ (j : Int) + off := by omega
  simp only [this, if_true, Option.some.injEq]
  omega

def chkNoZero (s : St w) : Bool := s.insts.toList.all noMemZero

def chkDefs (s : St w) : Bool :=
  allLt s.insts.size fun j =>
    match s.insts[j]? with
    | some ins => (BcWf.defs ins).all fun t =>
        match s.ranges[t]? with
        | some r => r.created == j
        | none => false
    | none => true

def chkUses (s : St w) : Bool :=
  allLt s.insts.size fun j =>
    match s.insts[j]? with
    | some ins => (BcWf.uses ins).all fun t => inRangeB s t j
    | none => true

def chkFlow (s : St w) : Bool :=
  allLt s.insts.size fun j =>
    match targetOf s j with
    | some k' => allLt s.ranges.size fun t => !inRangeB s t k' || inRangeB s t j
    | none => true

def chkPtr (s : St w) : Bool :=
  allLt s.ranges.size fun t =>
    allLt s.insts.size fun j =>
      match s.insts[j]? with
      | some ins => !inRangeB s t j || ptrStable ins
      | none => true

def chkWrites (s : St w) : Bool :=
  allLt s.insts.size fun j =>
    match s.insts[j]? with
    | some ins => (memDefs ins).all fun m =>
        match alGet s.writes m with
        | some ws => ws.contains j
        | none => false
    | none => true

def chkFirstLt (s : St w) : Bool :=
  allLt s.insts.size fun i =>
    match s.insts[i]? with
    | some ins =>
      match arith? ins with
      | some (_, .tmp t, _, _) =>
        match s.ranges[t]? with
        | some r =>
          match r.firstUse with
          | some f => decide (i < f)
          | none => true
        | none => true
      | _ => true
    | none => true

def chkFuse (s : St w) : Bool :=
  allLt s.insts.size fun i =>
    match candOf s i with
    | some (t, f, _, src) =>
      (src == .tmp t) &&
      (allLt f fun j => !(decide (i < j)) ||
        (match s.insts[j]? with
         | some x => plain x && !(BcWf.uses x).contains t
         | none => true)) &&
      (allLt s.insts.size fun j =>
        match s.insts[j]? with
        | some x =>
          match branchOff? x with
          | some off => !(decide ((i : Int) < (j : Int) + off) && decide ((j : Int) + off ≤ (f : Int)))
          | none => true
        | none => true)
    | none => true

def allocPreB (s : St w) : Bool :=
  (s.live.size == 0) && chkNoZero s && chkDefs s && chkUses s && chkFlow s && chkPtr s && chkWrites s &&
    chkFirstLt s && chkFuse s

theorem allocPreB_sound {s : St w} (h : allocPreB s = true) : AllocPre s := by
  simp only [allocPreB, Bool.and_eq_true, beq_iff_eq] at h
  obtain ⟨⟨⟨⟨⟨⟨⟨⟨h0, h1⟩, h2⟩, h3⟩, h4⟩, h5⟩, h6⟩, h7⟩, h8⟩ := h
  refine ⟨h0, ?_, ?_, ?_, ?_, ?_, ?_, ?_, ?_⟩
  · intro j ins hj
    simp only [chkNoZero, List.all_eq_true] at h1
    have hlt := lt_of_getElem? hj
    rw [Array.getElem?_eq_getElem hlt] at hj
    cases hj
    exact h1 _ (by simp)
  · intro j ins t hj ht
    have := allLt_iff.1 h2 j (lt_of_getElem? hj)
    simp only [hj, List.all_eq_true] at this
    have := this t ht
    cases hr : s.ranges[t]? with
    | none => simp [hr] at this
    | some r => simp only [hr, beq_iff_eq] at this; exact ⟨r, rfl, this⟩
  · intro j ins t hj ht
    have := allLt_iff.1 h3 j (lt_of_getElem? hj)
    simp only [hj, List.all_eq_true] at this
    exact inRangeB_iff.1 (this t ht)
  · intro j ins off k' hj ho hk t ht
    have := allLt_iff.1 h4 j (lt_of_getElem? hj)
    simp only [targetOf_of hj ho hk] at this
    obtain ⟨r, L, hr, _⟩ := ht
    have hlt := lt_of_getElem? hr
    have := allLt_iff.1 this t hlt
    simp only [Bool.or_eq_true, Bool.not_eq_true'] at this
    rcases this with h | h
    · rw [inRangeB_iff.2 ⟨r, L, hr, by assumption⟩] at h; cases h
    · exact inRangeB_iff.1 h
  · intro t j ins ht hj
    obtain ⟨r, L, hr, _⟩ := ht
    have := allLt_iff.1 (allLt_iff.1 h5 t (lt_of_getElem? hr)) j (lt_of_getElem? hj)
    simp only [hj, Bool.or_eq_true, Bool.not_eq_true'] at this
    rcases this with h | h
    · rw [inRangeB_iff.2 ⟨r, L, hr, by assumption⟩] at h; cases h
    · exact h
  · intro j ins m hj hm
    have := allLt_iff.1 h6 j (lt_of_getElem? hj)
    simp only [hj, List.all_eq_true] at this
    have := this m hm
    cases hw : alGet s.writes m with
    | none => simp [hw] at this
    | some ws =>
      simp only [hw, List.contains_eq_mem, decide_eq_true_eq] at this
      exact ⟨ws, rfl, this⟩
  · intro i op t s0 s1 r f hi hr hf
    have := allLt_iff.1 h7 i (lt_of_getElem? hi)
    simp only [hi, arith?_mkArith, hr, hf, decide_eq_true_eq] at this
    exact this
  · intro i op t s0 s1 f m src hc
    have := allLt_iff.1 h8 i (lt_of_getElem? hc.inst)
    simp only [candOf_of_cand hc, Bool.and_eq_true, beq_iff_eq] at this
    obtain ⟨⟨g1, g2⟩, g3⟩ := this
    refine ⟨g1, ?_, ?_⟩
    · intro j x hij hjf hx
      have := allLt_iff.1 g2 j hjf
      simp only [hij, decide_true, Bool.not_true, Bool.false_or, hx, Bool.and_eq_true, Bool.not_eq_true',
        List.contains_eq_mem, decide_eq_false_iff_not] at this
      exact this
    · intro j x off hx ho hcon
      have := allLt_iff.1 g3 j (lt_of_getElem? hx)
      simp only [hx, ho, Bool.not_eq_true', Bool.and_eq_false_iff, decide_eq_false_iff_not] at this
      rcases this with h | h
      · exact h hcon.1
      · exact h hcon.2

end Alloc
end C02
end Hpbf
