/-
ADEQUACY of the big-step semantics `Exec` and of `Bad` (`OptRbSem.lean`) with
respect to the continuation machine `Ir.run` in unlimited mode, and `C02Emit.OnceOk ↔ ¬ Bad`.
-/
import Hpbf.Proofs.OptRbAdeq
import Hpbf.Proofs.C01Parse
import Hpbf.Proofs.C08

namespace Hpbf
namespace OptProof
open Ir

variable {w : Nat}

open C01Dse (cfgAt cfgAt_iff)

theorem cfgAt_runCfg {lim : Bool} {n : Nat} {a b : Cfg w} (h : cfgAt lim n a = some b) (f : Nat) :
    runCfg lim (n + f) a = runCfg lim f b :=
  (Ir.fuelRun lim).split (cfgAt_iff.1 h) f

theorem runCfg_done {lim : Bool} {f : Nat} {a c : Cfg w} (h : runCfg lim f a = .done c) :
    ∃ n c1, cfgAt lim n a = some c1 ∧ step lim c1 = .halt c := by
  obtain ⟨n, c1, _, hr, hg⟩ := (Ir.fuelRun lim).last (f := f) (c := a) (fun _ e => by rw [h] at e; cases e)
  refine ⟨n, c1, cfgAt_iff.2 hr, ?_⟩
  have := hg 0
  rw [h, runCfg] at this
  cases hs : step lim c1 <;> rw [hs] at this <;> cases this
  rfl

theorem runCfg_stopped {lim : Bool} {f : Nat} {a c : Cfg w} (h : runCfg lim f a = .stopped c) :
    ∃ n c1, cfgAt lim n a = some c1 ∧ step lim c1 = .stop c := by
  obtain ⟨n, c1, _, hr, hs⟩ := C08.ir_run_stopped h
  exact ⟨n, c1, cfgAt_iff.2 hr, hs⟩

/-- The situation excluded by `OnceOk`. -/
def BadCfg (c : Cfg w) : Prop :=
  ∃ cond shift body rest, c.cur = .loop cond shift body true :: rest ∧ c.st.rd cond = 0#w

theorem bad_reaches {is : List (Instr w)} {σ : State w} (h : Bad is σ) :
    ∀ (rest : List (Instr w)) (ks : List (Cont w)) (bud : Nat), Reaches ⟨is ++ rest, ks, bud, σ⟩ BadCfg := by
  induction h with
  | here hz => intro rest ks bud; exact .here ⟨_, _, _, _, rfl, hz⟩
  | outOk h _ ih =>
    intro rest ks bud
    exact .cons (by simp [step, h]) (ih rest ks bud)
  | inOk h _ ih =>
    intro rest ks bud
    exact .cons (by simp [step, h]) (ih rest ks bud)
  | «calc» _ ih =>
    intro rest ks bud
    exact .cons (by simp [step]) (ih rest ks bud)
  | loopSkip hz _ ih =>
    intro rest ks bud
    exact .cons (by simp [step, hz]) (ih rest ks bud)
  | @loopIter cond shift body once rest' σ σ1 hnz hb _ ihl =>
    intro rest ks bud
    have hb := exec_reaches hb [] (.loopEnd cond shift body (rest' ++ rest) :: ks) bud
    rw [List.append_nil] at hb
    refine .cons (b := ⟨body, .loopEnd cond shift body (rest' ++ rest) :: ks, bud, σ⟩) (by simp [step, hnz]) ?_
    refine .trans hb ?_
    refine Reaches.transfer (step_loopEnd _ _ _ _ _ _ _ _) ?_ (ihl rest ks bud)
    rintro ⟨_, _, _, _, e, _⟩
    cases e
  | @loopIn cond shift body once rest' σ hnz _ ihb =>
    intro rest ks bud
    have hb := ihb [] (.loopEnd cond shift body (rest' ++ rest) :: ks) bud
    rw [List.append_nil] at hb
    exact .cons (b := ⟨body, .loopEnd cond shift body (rest' ++ rest) :: ks, bud, σ⟩) (by simp [step, hnz]) hb
  | ifSkip hz _ ih =>
    intro rest ks bud
    exact .cons (by simp [step, hz]) (ih rest ks bud)
  | @ifIter cond shift body rest' σ σ1 hnz hb _ ihr =>
    intro rest ks bud
    have hb := exec_reaches hb [] (.ifEnd shift (rest' ++ rest) :: ks) bud
    rw [List.append_nil] at hb
    refine .cons (b := ⟨body, .ifEnd shift (rest' ++ rest) :: ks, bud, σ⟩) (by simp [step, hnz]) ?_
    refine .trans hb ?_
    exact .cons (by simp [step]) (ihr rest ks bud)
  | @ifIn cond shift body rest' σ hnz _ ihb =>
    intro rest ks bud
    have hb := ihb [] (.ifEnd shift (rest' ++ rest) :: ks) bud
    rw [List.append_nil] at hb
    exact .cons (b := ⟨body, .ifEnd shift (rest' ++ rest) :: ks, bud, σ⟩) (by simp [step, hnz]) hb

/-!
Both `Exec · · o` (for a fixed non-`fin` observation `o`) and `Bad` are predicates `X` on (instruction list,
state) that are closed under the "backward" rules below; for such a predicate, `XC X X0 cur ks σ` says that `X`
holds of the configuration `(cur, ks, σ)`: either in `cur`, or `cur` runs to its end and `X` holds of what the
continuation stack does next (`X0`: what is required when the stack is empty). -/

structure Closed (X : List (Instr w) → State w → Prop) : Prop where
  cOut : ∀ {src : Int} {rest : List (Instr w)} {σ σ1 : State w},
    σ.output src = (true, σ1) → X rest σ1 → X (.output src :: rest) σ
  cIn : ∀ {dst : Int} {rest : List (Instr w)} {σ σ1 : State w},
    σ.input dst = (true, σ1) → X rest σ1 → X (.input dst :: rest) σ
  cCalc : ∀ {calcs : List (Int × Expr w)} {rest : List (Instr w)} {σ : State w},
    X rest (doCalc σ calcs) → X (.calc calcs :: rest) σ
  cLoopSkip : ∀ {cond shift : Int} {body : List (Instr w)} {once : Bool} {rest : List (Instr w)} {σ : State w},
    σ.rd cond = 0#w → X rest σ → X (.loop cond shift body once :: rest) σ
  cLoopIter : ∀ {cond shift : Int} {body : List (Instr w)} {once : Bool} {rest : List (Instr w)}
    {σ σ1 : State w}, σ.rd cond ≠ 0#w → Exec body σ (.fin σ1) →
    X (.loop cond shift body false :: rest) (σ1.mov shift) → X (.loop cond shift body once :: rest) σ
  cLoopIn : ∀ {cond shift : Int} {body : List (Instr w)} {once : Bool} {rest : List (Instr w)} {σ : State w},
    σ.rd cond ≠ 0#w → X body σ → X (.loop cond shift body once :: rest) σ
  cIfSkip : ∀ {cond shift : Int} {body : List (Instr w)} {rest : List (Instr w)} {σ : State w},
    σ.rd cond = 0#w → X rest σ → X (.ifnz cond shift body :: rest) σ
  cIfIter : ∀ {cond shift : Int} {body : List (Instr w)} {rest : List (Instr w)} {σ σ1 : State w},
    σ.rd cond ≠ 0#w → Exec body σ (.fin σ1) → X rest (σ1.mov shift) → X (.ifnz cond shift body :: rest) σ
  cIfIn : ∀ {cond shift : Int} {body : List (Instr w)} {rest : List (Instr w)} {σ : State w},
    σ.rd cond ≠ 0#w → X body σ → X (.ifnz cond shift body :: rest) σ

/-- `X` holds of what the continuation stack does from `σ` (the state when the current list is exhausted). -/
def XK (X : List (Instr w) → State w → Prop) (X0 : State w → Prop) : List (Cont w) → State w → Prop
  | [], σ => X0 σ
  | .loopEnd c s body rest :: ks, σ =>
    X (.loop c s body false :: rest) (σ.mov s) ∨
      ∃ σ1, Exec (.loop c s body false :: rest) (σ.mov s) (.fin σ1) ∧ XK X X0 ks σ1
  | .ifEnd s rest :: ks, σ =>
    X rest (σ.mov s) ∨ ∃ σ1, Exec rest (σ.mov s) (.fin σ1) ∧ XK X X0 ks σ1

def XC (X : List (Instr w) → State w → Prop) (X0 : State w → Prop) (cur : List (Instr w))
    (ks : List (Cont w)) (σ : State w) : Prop :=
  X cur σ ∨ ∃ σ1, Exec cur σ (.fin σ1) ∧ XK X X0 ks σ1

theorem XC.map {X : List (Instr w) → State w → Prop} {X0 : State w → Prop} {a1 a2 : List (Instr w)}
    {ks : List (Cont w)} {σ1 σ2 : State w} (g : X a1 σ1 → X a2 σ2)
    (f : ∀ σ', Exec a1 σ1 (.fin σ') → Exec a2 σ2 (.fin σ')) (h : XC X X0 a1 ks σ1) : XC X X0 a2 ks σ2 := by
  rcases h with h | ⟨σ', h1, h2⟩
  · exact Or.inl (g h)
  · exact Or.inr ⟨σ', f _ h1, h2⟩

theorem XC.loop_enter {X : List (Instr w) → State w → Prop} {X0 : State w → Prop} (hX : Closed X)
    {c s : Int} {body rest : List (Instr w)} {once : Bool} {ks : List (Cont w)} {σ : State w}
    (hnz : σ.rd c ≠ 0#w) (h : XC X X0 body (.loopEnd c s body rest :: ks) σ) :
    XC X X0 (.loop c s body once :: rest) ks σ := by
  rcases h with h | ⟨σ1, hb, hk⟩
  · exact Or.inl (hX.cLoopIn hnz h)
  · rcases hk with hk | ⟨σ2, hl, hk⟩
    · exact Or.inl (hX.cLoopIter hnz hb hk)
    · exact Or.inr ⟨σ2, .loopIter hnz hb (exec_once_irrel hl), hk⟩

theorem XC.step {X : List (Instr w) → State w → Prop} {X0 : State w → Prop} (hX : Closed X)
    {c c1 : Cfg w} (hs : Ir.step false c = .next c1) (h : XC X X0 c1.cur c1.conts c1.st) :
    XC X X0 c.cur c.conts c.st := by
  have hsh := Ir.step_shape false c
  rw [hs] at hsh
  cases hsh with
  | blockEnd k ks b st =>
    refine Or.inr ⟨st, .nil st, ?_⟩
    cases k with
    | loopEnd cond shift body rest =>
      by_cases hz : (st.mov shift).rd cond = 0#w
      · simp only [Cont.after, Cont.shift, hz, ne_eq, not_true_eq_false, if_false] at h
        exact h.map (hX.cLoopSkip hz) (fun _ hx => .loopSkip hz hx)
      · simp only [Cont.after, Cont.shift, hz, ne_eq, not_false_eq_true, if_true] at h
        exact XC.loop_enter hX hz h
    | ifEnd shift rest => exact h
  | ioOk i rest ks b st s hio =>
    rcases Ir.io?_eq hio with ⟨src, rfl, ho⟩ | ⟨dst, rfl, ho⟩
    · exact h.map (hX.cOut ho) (fun _ hx => .outOk ho hx)
    · exact h.map (hX.cIn ho) (fun _ hx => .inOk ho hx)
  | assign => exact h.map hX.cCalc (fun _ hx => .calc hx)
  | enter i rest ks b st cond body k hb hnz =>
    cases i <;> cases hb
    · exact XC.loop_enter hX hnz h
    · rcases h with h | ⟨σ1, hb, hk⟩
      · exact Or.inl (hX.cIfIn hnz h)
      · rcases hk with hk | ⟨σ2, hl, hk⟩
        · exact Or.inl (hX.cIfIter hnz hb hk)
        · exact Or.inr ⟨σ2, .ifIter hnz hb hl, hk⟩
  | skip i rest ks b st cond body k hb hz =>
    cases i <;> cases hb
    · exact h.map (hX.cLoopSkip hz) (fun _ hx => .loopSkip hz hx)
    · exact h.map (hX.cIfSkip hz) (fun _ hx => .ifSkip hz hx)

theorem XC.cfgAt {X : List (Instr w) → State w → Prop} {X0 : State w → Prop} (hX : Closed X) :
    ∀ (n : Nat) (c c' : Cfg w), C01Dse.cfgAt false n c = some c' → XC X X0 c'.cur c'.conts c'.st →
      XC X X0 c.cur c.conts c.st := by
  intro n
  induction n with
  | zero =>
    intro c c' h
    simp only [C01Dse.cfgAt, Option.some.injEq] at h
    subst h; exact id
  | succ n ih =>
    intro c c' h hx
    simp only [C01Dse.cfgAt] at h
    cases hs : Ir.step false c with
    | next c1 => rw [hs] at h; exact XC.step hX hs (ih c1 c' h hx)
    | halt _ => rw [hs] at h; cases h
    | stop _ => rw [hs] at h; cases h
    | interrupted _ => rw [hs] at h; cases h

theorem closed_exec (o : Out w) : Closed (fun l σ => o.isFin = false ∧ Exec l σ o) where
  cOut := fun h ⟨hnf, hx⟩ => ⟨hnf, .outOk h hx⟩
  cIn := fun h ⟨hnf, hx⟩ => ⟨hnf, .inOk h hx⟩
  cCalc := fun ⟨hnf, hx⟩ => ⟨hnf, .calc hx⟩
  cLoopSkip := fun hz ⟨hnf, hx⟩ => ⟨hnf, .loopSkip hz hx⟩
  cLoopIter := fun hnz hb ⟨hnf, hx⟩ => ⟨hnf, .loopIter hnz hb (exec_once_irrel hx)⟩
  cLoopIn := fun hnz ⟨hnf, hx⟩ => ⟨hnf, .loopIn hnz hx hnf⟩
  cIfSkip := fun hz ⟨hnf, hx⟩ => ⟨hnf, .ifSkip hz hx⟩
  cIfIter := fun hnz hb ⟨hnf, hx⟩ => ⟨hnf, .ifIter hnz hb hx⟩
  cIfIn := fun hnz ⟨hnf, hx⟩ => ⟨hnf, .ifIn hnz hx hnf⟩

theorem closed_bad : Closed (Bad (w := w)) where
  cOut := .outOk
  cIn := .inOk
  cCalc := .calc
  cLoopSkip := .loopSkip
  cLoopIter := .loopIter
  cLoopIn := .loopIn
  cIfSkip := .ifSkip
  cIfIter := .ifIter
  cIfIn := .ifIn

theorem exec_of_XC {o : Out w} {is : List (Instr w)} {σ : State w}
    (h : XC (fun l σ => o.isFin = false ∧ Exec l σ o) (fun σ => Exec [] σ o) is [] σ) : Exec is σ o := by
  rcases h with ⟨_, h⟩ | ⟨σ1, h1, h2⟩
  · exact h
  · have h2 : Exec [] σ1 o := h2
    cases h2 with
    | cut => exact exec_fin_part h1
    | nil => exact h1

theorem exec_of_cfgAt {o : Out w} {is : List (Instr w)} {σ : State w} {bud n : Nat} {c : Cfg w}
    (h : C01Dse.cfgAt false n ⟨is, [], bud, σ⟩ = some c)
    (hx : XC (fun l σ => o.isFin = false ∧ Exec l σ o) (fun σ => Exec [] σ o) c.cur c.conts c.st) :
    Exec is σ o :=
  exec_of_XC (XC.cfgAt (closed_exec o) n _ c h hx)

/-- Only the configuration with nothing left to do halts. -/
theorem step_halt {lim : Bool} {c c' : Cfg w} (h : Ir.step lim c = .halt c') :
    c' = c ∧ c.cur = [] ∧ c.conts = [] := by
  have hs := Ir.step_shape lim c
  rw [h] at hs
  cases hs
  exact ⟨rfl, rfl, rfl⟩

theorem step_stop {c c' : Cfg w} (h : Ir.step false c = .stop c') : Exec c.cur c.st (.stop c'.st) := by
  obtain ⟨rest, ⟨dst, hc, hi⟩ | ⟨src, hc, ho⟩⟩ := C08.ir_step_stop h
  · rw [hc]; exact .inFail hi
  · rw [hc]; exact .outFail ho

theorem run_done_exec {b : Block w} {env : Env} {f : Nat} {c : Cfg w} (h : Ir.run b false 0 f env = .done c) :
    Exec b.insts (State.init env) (.fin c.st) := by
  obtain ⟨n, c1, h1, h2⟩ := runCfg_done h
  obtain ⟨rfl, hc, hk⟩ := step_halt h2
  refine exec_of_cfgAt h1 ?_
  rw [hc, hk]
  exact Or.inr ⟨_, .nil _, .nil _⟩

theorem run_stopped_exec {b : Block w} {env : Env} {f : Nat} {c : Cfg w}
    (h : Ir.run b false 0 f env = .stopped c) : Exec b.insts (State.init env) (.stop c.st) := by
  obtain ⟨n, c1, h1, h2⟩ := runCfg_stopped h
  exact exec_of_cfgAt h1 (Or.inl ⟨rfl, step_stop h2⟩)

theorem exec_fin_run {b : Block w} {env : Env} {σ : State w} (h : Exec b.insts (State.init env) (.fin σ)) :
    ∃ f c, Ir.run b false 0 f env = .done c ∧ c.st = σ := by
  obtain ⟨n, c, h1, h2⟩ := exec_reaches h [] [] 0
  rw [List.append_nil] at h1
  have h2 : c = ⟨[], [], 0, σ⟩ := h2
  subst h2
  refine ⟨n + 1, ⟨[], [], 0, σ⟩, ?_, rfl⟩
  unfold Ir.run
  rw [cfgAt_runCfg h1]
  simp [runCfg, Ir.step]

theorem exec_stop_run {b : Block w} {env : Env} {σ : State w} (h : Exec b.insts (State.init env) (.stop σ)) :
    ∃ f c, Ir.run b false 0 f env = .stopped c ∧ c.st = σ := by
  obtain ⟨n, c, h1, h2⟩ := exec_reaches h [] [] 0
  rw [List.append_nil] at h1
  obtain ⟨c', h2, h3⟩ : ∃ c', Ir.step false c = .stop c' ∧ c'.st = σ := h2
  refine ⟨n + 1, c', ?_, h3⟩
  unfold Ir.run
  rw [cfgAt_runCfg h1]
  simp [runCfg, h2]

theorem run_trace_exec (b : Block w) (env : Env) (f : Nat) :
    ∃ o, Exec b.insts (State.init env) o ∧ o.trace = C01.traceOf (Ir.run b false 0 f env) := by
  cases h : Ir.run b false 0 f env with
  | done c => exact ⟨_, run_done_exec h, rfl⟩
  | stopped c => exact ⟨_, run_stopped_exec h, rfl⟩
  | interrupted c => exact absurd h (C01.runCfg_not_interrupted _ _ _)
  | outOfFuel c =>
    refine ⟨.part c.st.trace, ?_, rfl⟩
    exact exec_of_cfgAt (cfgAt_iff.2 h) (Or.inl ⟨rfl, .cut _ _⟩)

theorem exec_trace_run {b : Block w} {env : Env} {o : Out w} (h : Exec b.insts (State.init env) o) :
    ∃ f, C01.traceOf (Ir.run b false 0 f env) = o.trace := by
  cases o with
  | fin σ =>
    obtain ⟨f, c, h1, h2⟩ := exec_fin_run h
    exact ⟨f, by rw [h1, ← h2]; rfl⟩
  | stop σ =>
    obtain ⟨f, c, h1, h2⟩ := exec_stop_run h
    exact ⟨f, by rw [h1, ← h2]; rfl⟩
  | part t =>
    obtain ⟨n, c, h1, h2⟩ := exec_reaches h [] [] 0
    rw [List.append_nil] at h1
    have h2 : c.st.trace = t := h2
    refine ⟨n, ?_⟩
    unfold Ir.run
    rw [cfgAt_iff.1 h1, ← h2]
    rfl

theorem onceOk_iff_not_bad (b : Block w) (env : Env) : C02Emit.OnceOk b env ↔ ¬ Bad b.insts (State.init env) := by
  constructor
  · intro ho hbad
    obtain ⟨n, c, h1, cond, shift, body, rest, e, hz⟩ := bad_reaches hbad [] [] 0
    rw [List.append_nil] at h1
    exact ho n c (cfgAt_iff.1 h1) cond shift body rest e hz
  · intro hnb f c hr cond shift body rest e hz
    apply hnb
    have hx : XC Bad (fun _ => False) c.cur c.conts c.st := Or.inl (e ▸ Bad.here hz)
    rcases XC.cfgAt closed_bad f _ c (cfgAt_iff.2 hr) hx with h | ⟨_, _, h⟩
    · exact h
    · exact h.elim

#print axioms run_done_exec
#print axioms run_stopped_exec
#print axioms exec_fin_run
#print axioms exec_stop_run
#print axioms run_trace_exec
#print axioms exec_trace_run
#print axioms onceOk_iff_not_bad

end OptProof
end Hpbf
