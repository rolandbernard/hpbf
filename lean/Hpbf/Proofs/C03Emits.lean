/-
C03 (the JIT's instruction selectors): the vocabulary for what the four arithmetic / copy selectors `emitCopy`,
`emitAdd`, `emitSub`, `emitMul` emit; that they do (`copy_emits` … `mul_emits`) is read off the selectors' derivations
(`C03Sel`, `ISel.emits`) and stated next to each selector.

`Uses.imm`: every immediate a selector builds is in range by construction (tested by `fitsI32`, or a `truncImm` /
`toInt`), so `X86.fits` of an emitted instruction reduces to `fits` of its `r/m` operand.

`Hpbf.X86Prog` is imported for `rmOf` alone.
-/
import Hpbf.Proofs.C03Base
import Hpbf.X86Prog
namespace Hpbf
namespace C03
open Asm JitGen X86Prog
variable {w : Nat}

/-- `x as i<n+1>` is a value of `i<n+1>`. -/
theorem fitsS_wrapS (n : Nat) (x : Int) : fitsS (n + 1) (wrapS (n + 1) x) = true := by
  have hm : (2 : Int) ^ (n + 1) = 2 * 2 ^ n := by rw [Int.pow_succ, Int.mul_comm]
  have hp : (0 : Int) < 2 ^ n := Int.pow_pos (by decide)
  have h0 := Int.emod_nonneg x (show (2 : Int) ^ (n + 1) ≠ 0 by omega)
  have h1 := Int.emod_lt_of_pos x (show (0 : Int) < 2 ^ (n + 1) by omega)
  simp only [fitsS, wrapS, Nat.add_sub_cancel, Bool.and_eq_true, decide_eq_true_eq]
  split <;> omega

theorem fitsS32_of_fitsI32 {v : Int} (h : fitsI32 v = true) : fitsS 32 v = true := by
  simp only [fitsI32, Bool.and_eq_true, decide_eq_true_eq] at h
  rw [fitsS_32]; omega

theorem immBits_b64 : Size.b64.immBits = 32 := rfl

theorem fitsS_truncImm {sz : Size} {v : Int} (h : fitsI32 v = true) :
    fitsS sz.immBits (truncImm sz v) = true := by
  cases sz
  · exact fitsS_wrapS 7 v
  · exact fitsS_wrapS 15 v
  · exact fitsS32_of_fitsI32 h
  · exact fitsS32_of_fitsI32 h

theorem fitsS64_immI64 (c : BitVec w) : fitsS 64 (immI64 c) = true := by
  simp only [fitsS, Bool.and_eq_true, decide_eq_true_eq]
  have h1 := BitVec.two_mul_toInt_lt (x := Cell.intoI64 c)
  have h2 := BitVec.le_two_mul_toInt (x := Cell.intoI64 c)
  simp only [immI64]
  omega

theorem fits_lea1 {r : Reg} {v : Int} (h : fitsI32 v = true) : (RegMem.mem (some r) none 1 v).fits = true := by
  simp only [RegMem.fits, fitsS32_of_fitsI32 h]; rfl

inductive RmFrom (sz : Size) (L : List (Bc.Loc w)) : RegMem → Prop
  | reg (r : Reg) : RmFrom sz L (.reg r)
  | mem {idx : Int} (h : Bc.Loc.mem idx ∈ L) : RmFrom sz L (memParam sz idx)
  | tmp {t : Nat} (h : Bc.Loc.tmp t ∈ L) : RmFrom sz L (tmpParam t)

/-- An instruction built from operands of `L`: `imm` says that nothing but the `r/m` operand is left to
test for `X86.fits`. -/
structure Uses (sz : Size) (L : List (Bc.Loc w)) (x : X86) : Prop where
  rm : ∀ rm, rmOf x = some rm → RmFrom sz L rm
  imm : (∀ rm, rmOf x = some rm → rm.fits = true) → x.fits = true

def Emits (sz : Size) (L : List (Bc.Loc w)) (o : Option (List X86)) : Prop :=
  ∀ xs, o = some xs → xs ≠ [] ∧ ∀ x ∈ xs, Uses sz L x

section
variable {sz : Size} {L : List (Bc.Loc w)}

theorem Emits.ne_nil {o : Option (List X86)} {xs : List X86} (h : Emits sz L o) (e : o = some xs) : xs ≠ [] :=
  (h xs e).1

theorem Emits.uses {o : Option (List X86)} {xs : List X86} (h : Emits sz L o) (e : o = some xs) :
    ∀ x ∈ xs, Uses sz L x :=
  (h xs e).2

theorem uses_of_rm {x : X86} {rm : RegMem} (hr : rmOf x = some rm) (h : RmFrom sz L rm)
    (hi : rm.fits = true → x.fits = true) : Uses sz L x :=
  ⟨fun rm' e => by rw [hr] at e; cases e; exact h, fun hf => hi (hf rm hr)⟩

theorem uses_of_none {x : X86} (hr : rmOf x = none) (hi : x.fits = true) : Uses sz L x :=
  ⟨fun _ e => (by rw [hr] at e; cases e), fun _ => hi⟩

/-- `x.fits` is the test of the `r/m` operand and that of an immediate in range. -/
theorem uses_of_rm_imm {x : X86} {rm : RegMem} {b : Bool} (hr : rmOf x = some rm) (h : RmFrom sz L rm)
    (hx : x.fits = (rm.fits && b)) (hb : b = true) : Uses sz L x :=
  uses_of_rm hr h fun hf => by rw [hx, hf, hb]; rfl

end

end C03
end Hpbf
