/-
JIT range, the `shift` field (IR side): the DRIFT `driftL` (sum of `|shift|` over all blocks nested anywhere)
of the IR never grows under the optimizer (`Opt.optimize`, `OptFix.optimizeF`, any level, any oracle), and the
parser's output has `driftL insts + |shift| ≤ moves src`.  Every shift of a nested block is bounded by the drift
(`shiftsL_le_drift`).

That the drift does not grow along `Rounds.Steps` is the second conjunct of `steps_okL` (`Proofs/OptOffsMain.lean`:
the slack of `rebuildInsts_step` for a rebuild round, `subL_ok` for dead store elimination); the parser's bound is the
second half of `parse_measure` (`Proofs/OptOffsParse.lean`).
-/
import Hpbf.Proofs.OptFixOffs

namespace Hpbf.OptOffs
open Hpbf Opt Ir

variable {w : Nat}

mutual
def shiftsI : Instr w → List Int
  | .output _ => []
  | .input _ => []
  | .calc _ => []
  | .loop _ sh body _ => sh :: shiftsL body
  | .ifnz _ sh body => sh :: shiftsL body
def shiftsL : List (Instr w) → List Int
  | [] => []
  | i :: r => shiftsI i ++ shiftsL r
end

/-- The shift of the block and of every nested loop/if body. -/
def shiftsOf (b : Block w) : List Int := b.shift :: shiftsL b.insts

mutual
theorem shiftsI_le_drift : ∀ (i : Instr w), ∀ s ∈ shiftsI i, s.natAbs ≤ driftI i
  | .output _, s, h => by simp [shiftsI] at h
  | .input _, s, h => by simp [shiftsI] at h
  | .calc _, s, h => by simp [shiftsI] at h
  | .loop c sh body once, s, h => by
    simp only [shiftsI, List.mem_cons] at h
    simp only [driftI]
    rcases h with rfl | h
    · omega
    · have := shiftsL_le_drift body s h; omega
  | .ifnz c sh body, s, h => by
    simp only [shiftsI, List.mem_cons] at h
    simp only [driftI]
    rcases h with rfl | h
    · omega
    · have := shiftsL_le_drift body s h; omega
theorem shiftsL_le_drift : ∀ (l : List (Instr w)), ∀ s ∈ shiftsL l, s.natAbs ≤ driftL l
  | [], s, h => by simp [shiftsL] at h
  | i :: r, s, h => by
    simp only [shiftsL, List.mem_append] at h
    simp only [driftL]
    rcases h with h | h
    · have := shiftsI_le_drift i s h; omega
    · have := shiftsL_le_drift r s h; omega
end

theorem steps_drift {b b' : Block w} (h : Rounds.Steps b b') : driftL b'.insts ≤ driftL b.insts :=
  (steps_okL (okL_reach b) h).2

theorem optimize_drift {b b' : Block w} {level : Nat} {orders : Orders}
    (h : Opt.optimize b level orders = .ok b') : driftL b'.insts ≤ driftL b.insts :=
  steps_drift (Rounds.optimize_steps h)

theorem optimizeF_drift {b b' : Block w} {level : Nat} {orders : Orders}
    (h : OptFix.optimizeF b level orders = .ok b') : driftL b'.insts ≤ driftL b.insts :=
  steps_drift (Rounds.optimizeF_steps h)

theorem parse_drift_le_moves {src : List Kind} {blk : Block w} (h : parse (w := w) src = .ok blk) :
    driftL blk.insts + blk.shift.natAbs ≤ moves src := (parse_measure h).2

end Hpbf.OptOffs
