/-
The `Except` computations of the optimizer model that never fail: `evalPending` (`eval_pending … unwrap`),
`compare` / `compareParent` / `compareWritten`, `splitAlong` (`find(..).unwrap()`, `linear[lin_var]`), `loopMotion`.
-/
import Hpbf.Proofs.OptTotalDefs
import Hpbf.Proofs.OptLoopSplit
import Hpbf.Proofs.OptLoopAnalyze

namespace Hpbf
namespace OptTotal
open Opt OptProof
open OptLoop (prop_ite)

variable {w : Nat}

/-- `eval_pending`: the closure handed to `symb_evaluate` never returns `None`, so the `unwrap` cannot fail. -/
theorem evalPending_ok (s : Rebuild w) (ps : List (Rebuild w)) (shift : Int) (e : Expr w) :
    Ok (evalPending s ps shift e) := by
  unfold evalPending
  split
  · have hsome : (Expr.symbEvaluate e (fun x => some (getPending s ps (x + shift)))).isSome := by
      rw [C15.symbEvaluate_defined]
      intro v _
      rfl
    cases hs : Expr.symbEvaluate e (fun x => some (getPending s ps (x + shift))) with
    | none => rw [hs] at hsome; cases hsome
    | some e' => exact ⟨e', rfl⟩
  · split
    · exact ⟨_, rfl⟩
    · exact ⟨_, rfl⟩

theorem compare_eq (s : Rebuild w) (ps : List (Rebuild w)) (a b : Expr w) :
    Opt.compare s ps a b =
      (if a == b then pure true
      else do
        let a ← evalPending s ps 0 a
        let b ← evalPending s ps 0 b
        compareWritten s ps a b) := by
  rw [Opt.compare.eq_def]
  rfl

/-- The three comparisons call each other along the parent chain; `ih` is `compare` in the parent. -/
theorem compareParent_ok_of (s : Rebuild w) (ps : List (Rebuild w)) (a b : Expr w)
    (ih : ∀ p ps', ps = p :: ps' → Ok (Opt.compare p ps' a b)) : Ok (compareParent s ps a b) := by
  unfold compareParent
  refine prop_ite ⟨_, rfl⟩ (prop_ite ?_ ⟨_, rfl⟩)
  cases s.parent with
  | zero => exact ⟨_, rfl⟩
  | unknown => exact ⟨_, rfl⟩
  | parent =>
    cases ps with
    | nil => exact ⟨_, rfl⟩
    | cons p ps' => exact ih p ps' rfl

theorem compareWritten_ok_of (s : Rebuild w) (ps : List (Rebuild w)) (a b : Expr w)
    (ih : ∀ p ps' a b, ps = p :: ps' → Ok (Opt.compare p ps' a b)) : Ok (compareWritten s ps a b) := by
  unfold compareWritten
  refine prop_ite ⟨_, rfl⟩ ?_
  cases evalWritten s ps a with
  | none => exact ⟨_, rfl⟩
  | some a' =>
    cases evalWritten s ps b with
    | none => exact ⟨_, rfl⟩
    | some b' => exact compareParent_ok_of s ps a' b' (ih · · a' b')

theorem compare_ok_of (s : Rebuild w) (ps : List (Rebuild w)) (a b : Expr w)
    (ih : ∀ p ps' a b, ps = p :: ps' → Ok (Opt.compare p ps' a b)) : Ok (Opt.compare s ps a b) := by
  rw [compare_eq]
  refine prop_ite ⟨_, rfl⟩ ?_
  refine Ok.bind (evalPending_ok s ps 0 a) (fun a' _ => Ok.bind (evalPending_ok s ps 0 b) (fun b' _ => ?_))
  exact compareWritten_ok_of s ps a' b' ih

theorem compare_ok : ∀ (ps : List (Rebuild w)) (s : Rebuild w) (a b : Expr w), Ok (compare s ps a b) := by
  intro ps
  induction ps with
  | nil => exact fun s a b => compare_ok_of s [] a b (fun _ _ _ _ h => by cases h)
  | cons p ps ih => exact fun s a b => compare_ok_of s _ a b (fun _ _ a b h => by cases h; exact ih _ a b)

theorem compareWritten_ok (s : Rebuild w) (ps : List (Rebuild w)) (a b : Expr w) :
    Ok (compareWritten s ps a b) :=
  compareWritten_ok_of s ps a b (fun p ps' a b _ => compare_ok ps' p a b)

/-- One step of `split_along`: `find(..).unwrap()` is guarded by the count test, `linear[lin_var]` by the `all`
test. -/
theorem splitStep_ok (constant : List Int) (linear : List (Int × Expr w))
    (acc : Expr w × Expr w × List (Expr w × Expr w)) (part : Part w) :
    Ok (OptLoop.splitStep constant linear acc part) := by
  unfold OptLoop.splitStep
  split
  · exact ⟨_, rfl⟩
  · split
    · rename_i hc
      simp only [Bool.and_eq_true, beq_iff_eq] at hc
      obtain ⟨hall, hlen⟩ := hc
      split
      · rename_i hnone
        exfalso
        have hf : part.vars.filter (fun x => !constant.contains x) = [] := by
          rw [List.filter_eq_nil_iff]
          intro x hx
          have := List.find?_eq_none.1 hnone x hx
          exact this
        rw [hf] at hlen
        cases hlen
      · rename_i linVar hfind
        have hq : (!constant.contains linVar) = true :=
          List.find?_some (p := fun x => !constant.contains x) hfind
        have hmem : linVar ∈ part.vars := List.mem_of_find?_eq_some hfind
        have h1 := List.all_eq_true.1 hall linVar hmem
        have hnc : constant.contains linVar = false := by simpa using hq
        rw [hnc, Bool.false_or] at h1
        split
        · rename_i hnone
          exfalso
          unfold mHas at h1
          rw [hnone] at h1
          cases h1
        · exact ⟨_, rfl⟩
    · exact ⟨_, rfl⟩

theorem splitAlong_ok (e : Expr w) (constant : List Int) (linear : List (Int × Expr w)) :
    Ok (splitAlong e constant linear) := by
  rw [OptLoop.splitAlong_eq]
  exact (Ok.foldlM (fun _ => True) _ e (fun b x _ _ => ⟨splitStep_ok constant linear b x, fun _ _ => trivial⟩)
    trivial).1

theorem loopMotion_ok (s : Rebuild w) (ps : List (Rebuild w)) (var : Int) (p : Expr w) (complete : Bool)
    (reads C : List Int) (lin : List (Int × Expr w)) (otherPending : List Int) (L : OptLoop w) :
    Ok (loopMotion s ps var p complete reads C lin otherPending L) := by
  unfold loopMotion
  refine prop_ite ⟨_, rfl⟩ ?_
  refine Ok.bind (OptLoop.reduceConst_total s ps p C) (fun p' _ => ?_)
  refine prop_ite ⟨_, rfl⟩ (prop_ite ?_ ⟨_, rfl⟩)
  cases L.expr with
  | none => exact ⟨_, rfl⟩
  | some expr =>
    cases Expr.prodIncOf p' var with
    | none => exact ⟨_, rfl⟩
    | some im =>
      refine prop_ite ?_ ?_
      · exact Ok.bind (splitAlong_ok _ _ _) (fun x _ => ⟨_, rfl⟩)
      · cases Expr.constant expr with
        | none => exact ⟨_, rfl⟩
        | some c => exact prop_ite ⟨_, rfl⟩ (prop_ite ⟨_, rfl⟩ ⟨_, rfl⟩)

#print axioms compare_ok
#print axioms loopMotion_ok

end OptTotal
end Hpbf
