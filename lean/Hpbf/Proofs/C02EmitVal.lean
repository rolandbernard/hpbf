/-
C02, first phase: the value-numbering invariant on straight-line code.  `Sound V c`: every entry `e ↦ t` of the
table is true in the configuration (`temps[t] = den c e`).  `SL g g'`: `g'` is reached from `g` by `get_value`
calls only, and the appended code runs from `g` to `g'` keeping the machine state and `Sound`; `get_value` either
reuses an entry or defines a fresh temporary (`getValue_SL`).
-/
import Hpbf.Proofs.C02EmitBase
import Hpbf.Proofs.C01Sim
import Hpbf.Proofs.C11Step

namespace Hpbf
namespace C02Emit
open BcGen Bc Sim

variable {w : Nat}

/-! The bytecode machine as a `Sim.Mach`, in unlimited mode (`limited = false`: the scope of the emission theorems; the
budget is `C07`'s).  A step into malformed bytecode (`.bad`) and an interruption (which `step_unlimited` excludes) are
modelled as a self-loop: for `Sim` a stuck bytecode run is a run that never ends, so the backward theorem excludes it
through termination and no separate verdict is needed. -/

def BcM (p : Bc.Program w) : Sim.Mach where
  C := Bc.Cfg w
  step := fun c =>
    match Bc.step p false c with
    | .next c' => .next c'
    | .halt c' => .fin true c'.st.trace
    | .stop c' => .fin false c'.st.trace
    | .interrupted _ => .next c
    | .bad _ => .next c
  tr := fun c => c.st.trace

theorem BcM_step_of {p : Bc.Program w} {c c' : Bc.Cfg w} {ins : Bc.Instr w}
    (hi : p.insts[c.pc]? = some ins) (h : C11.stepI p false c ins = .next c') :
    (BcM p).step c = .next c' := by
  simp only [BcM, C11.step_eq hi, h]

def den (c : Bc.Cfg w) : GvnExpr w → BitVec w
  | .imm v => v
  | .mem v => c.st.rd v
  | .add a b => tget c.temps a + tget c.temps b
  | .sub a b => tget c.temps a + (- tget c.temps b)
  | .mul a b => tget c.temps a * tget c.temps b

def opsLt (n : Nat) : GvnExpr w → Prop
  | .add a b => a < n ∧ b < n
  | .sub a b => a < n ∧ b < n
  | .mul a b => a < n ∧ b < n
  | _ => True

theorem opsLt_mono {n m : Nat} (h : n ≤ m) {e : GvnExpr w} (he : opsLt n e) : opsLt m e := by
  cases e <;> simp only [opsLt] at he ⊢ <;> omega

def Sound (V : List (GvnExpr w × Nat)) (c : Bc.Cfg w) : Prop :=
  ∀ e t, alGet V e = some t → tget c.temps t = den c e

structure WfV (g : G w) : Prop where
  nodup : (keys g.values).Nodup
  lt : ∀ e t, alGet g.values e = some t → t < g.n ∧ opsLt g.n e

def gvInst (e : GvnExpr w) (t : Nat) : Bc.Instr w :=
  match e with
  | .imm v => .copy (.tmp t) (.imm v)
  | .mem v => .copy (.tmp t) (.mem v)
  | .add a b => .add (.tmp t) (.tmp a) (.tmp b)
  | .sub a b => .sub (.tmp t) (.tmp a) (.tmp b)
  | .mul a b => .mul (.tmp t) (.tmp a) (.tmp b)

theorem binopCfg_tmp (f : BitVec w → BitVec w → BitVec w) (c : Bc.Cfg w) (t a b : Nat) :
    C11.binopCfg f c (.tmp t) (.tmp a) (.tmp b)
      = { c with temps := tset c.temps t (f (tget c.temps a) (tget c.temps b)) } := by
  unfold C11.binopCfg
  by_cases h : t = a
  · subst h
    simp [sameDst, C11.wrCfg, C11.rdSt, C11.rdVal]
  · simp [sameDst, h, C11.wrCfg, C11.rdSt, C11.rdVal]

theorem step_gvInst {p : Bc.Program w} {c : Bc.Cfg w} {e : GvnExpr w} {t : Nat}
    (hi : p.insts[c.pc]? = some (gvInst e t)) :
    (BcM p).step c = .next { c with pc := c.pc + 1, temps := tset c.temps t (den c e) } := by
  apply BcM_step_of hi
  cases e with
  | imm v => simp [gvInst, C11.stepI, C11.isDst, C11.copyCfg, C11.wrCfg, C11.rdSt, C11.rdVal, den]
  | mem v => simp [gvInst, C11.stepI, C11.isDst, C11.copyCfg, C11.wrCfg, C11.rdSt, C11.rdVal, den]
  | add a b => simp [gvInst, C11.stepI, C11.arith, C11.isDst, binopCfg_tmp, den]
  | sub a b => simp [gvInst, C11.stepI, C11.arith, C11.isDst, binopCfg_tmp, den]
  | mul a b => simp [gvInst, C11.stepI, C11.arith, C11.isDst, binopCfg_tmp, den]

theorem sound_define {g : G w} (hw : WfV g) {c : Bc.Cfg w} (hs : Sound g.values c) {e : GvnExpr w}
    (he : opsLt g.n e) (pc : Nat) :
    Sound (alSet g.values e g.n) { c with pc := pc, temps := tset c.temps g.n (den c e) } := by
  intro e' t' h
  rw [alGet_alSet] at h
  have den_eq : ∀ e'' : GvnExpr w, opsLt g.n e'' →
      den { c with pc := pc, temps := tset c.temps g.n (den c e) } e'' = den c e'' := by
    intro e'' h''
    cases e'' with
    | imm v => rfl
    | mem v => rfl
    | add a b | sub a b | mul a b =>
      simp only [opsLt] at h''
      simp only [den, C11.tget_tset, Nat.ne_of_lt h''.1, Nat.ne_of_lt h''.2, if_false]
  by_cases hee : e' = e
  · subst hee
    simp only [if_true, Option.some.injEq] at h
    subst h
    rw [den_eq _ he]
    simp [C11.tget_tset]
  · simp only [hee, if_false] at h
    obtain ⟨hlt, hops⟩ := hw.lt e' t' h
    rw [den_eq _ hops]
    simp only [C11.tget_tset, Nat.ne_of_lt hlt, if_false]
    exact hs e' t' h

/-- The operands of a new expression are read one after the other. -/
def readsSt : List Nat → St w → St w
  | [], s => s
  | a :: l, s => readsSt l (useSt a 1 s)

/-- State after `get_value(e)` when `e` is not in the table: new range and expression, the operands read, the
defining instruction pushed, the table extended. -/
def newSt (e : GvnExpr w) (s : St w) : St w :=
  let s2 := readsSt (C02.AEmit.opsOf e)
    { s with ranges := s.ranges.push { created := s.insts.size, firstUse := none, lastUse := none, numUses := 0 },
             exprs := s.exprs.push e }
  { s2 with insts := s2.insts.push (gvInst e s.ranges.size), values := alSet s2.values e s.ranges.size }

theorem reads2_ok {a b : Nat} {k : M w Nat} {s s' : St w} {v : Nat} :
    (BcGen.read a >>= fun _ => BcGen.read b >>= fun _ => k) s = .ok (v, s') ↔
      (a < s.ranges.size ∧ b < s.ranges.size) ∧ k (readsSt [a, b] s) = .ok (v, s') := by
  simp only [bind_ok, read_ok, readsSt]
  constructor
  · rintro ⟨_, _, ⟨ha, rfl⟩, _, _, ⟨hb, rfl⟩, h⟩
    rw [size_useSt] at hb
    exact ⟨⟨ha, hb⟩, h⟩
  · rintro ⟨⟨ha, hb⟩, h⟩
    exact ⟨(), _, ⟨ha, rfl⟩, (), _, ⟨by rw [size_useSt]; exact hb, rfl⟩, h⟩

/-- `get_value` fails only if an operand is not a value number (the new entry is pushed before the reads, so the
new number itself would pass). -/
theorem getValue_ok {e : GvnExpr w} {s s' : St w} {v : Nat} :
    getValue e s = .ok (v, s') ↔
      (alGet s.values e = some v ∧ s' = s) ∨
      (alGet s.values e = none ∧ (∀ a ∈ C02.AEmit.opsOf e, a ≤ s.ranges.size) ∧ v = s.ranges.size ∧
        s' = newSt e s) := by
  unfold getValue
  simp only [get_bind]
  cases hv : alGet s.values e with
  | some v0 =>
    simp only [pure_ok, Option.some.injEq, reduceCtorEq, false_and, or_false]
    exact ⟨fun h => ⟨h.1.symm, h.2⟩, fun h => ⟨h.1.symm, h.2⟩⟩
  | none =>
    simp only [set_bind, reduceCtorEq, false_and, false_or, true_and]
    cases e with
    | imm c | mem c =>
      simp only [modify_bind, pure_ok, C02.AEmit.opsOf, List.not_mem_nil, false_imp_iff, implies_true, true_and]
      rfl
    | add a b | sub a b | mul a b =>
      simp only [reads2_ok, modify_bind, pure_ok, C02.AEmit.opsOf, List.mem_cons, List.not_mem_nil, or_false,
        forall_eq_or_imp, forall_eq, Array.size_push, Nat.lt_succ_iff]
      rfl

theorem core_readsSt : ∀ (l : List Nat) (s : St w), core (readsSt l s) = core s
  | [], _ => rfl
  | a :: l, s => (core_readsSt l _).trans (core_useSt a 1 s).1

theorem core_newSt (e : GvnExpr w) (s : St w) :
    core (newSt e s) =
      ⟨s.insts.push (gvInst e s.ranges.size), alSet s.values e s.ranges.size, s.exprs.push e, s.ranges.size + 1⟩ := by
  have := core_readsSt (C02.AEmit.opsOf e) { s with
    ranges := s.ranges.push { created := s.insts.size, firstUse := none, lastUse := none, numUses := 0 },
    exprs := s.exprs.push e }
  simp only [core, G.mk.injEq] at this
  simp [newSt, core, this]

theorem getValue_core {e : GvnExpr w} {s s' : St w} {t : Nat} (h : getValue e s = .ok (t, s')) :
    (alGet s.values e = some t ∧ s' = s) ∨
    (alGet s.values e = none ∧ t = s.ranges.size ∧
      core s' = ⟨s.insts.push (gvInst e t), alSet s.values e t, s.exprs.push e, s.ranges.size + 1⟩) := by
  rcases getValue_ok.1 h with h | ⟨hv, -, rfl, rfl⟩
  · exact Or.inl h
  · exact Or.inr ⟨hv, rfl, core_newSt e s⟩

/-- `a` is a prefix of `a'` (the arrays of the generator only grow, apart from the patched placeholder). -/
def Pre {α : Type} (a a' : Array α) : Prop := a.size ≤ a'.size ∧ ∀ i, i < a.size → a'[i]? = a[i]?

theorem Pre.refl {α : Type} (a : Array α) : Pre a a := ⟨Nat.le_refl _, fun _ _ => rfl⟩
theorem Pre.trans {α : Type} {a b c : Array α} (h1 : Pre a b) (h2 : Pre b c) : Pre a c :=
  ⟨Nat.le_trans h1.1 h2.1, fun i hi => (h2.2 i (Nat.lt_of_lt_of_le hi h1.1)).trans (h1.2 i hi)⟩
theorem Pre.push {α : Type} (a : Array α) (x : α) : Pre a (a.push x) :=
  ⟨by simp, fun i hi => by simp [Array.getElem?_push, Nat.ne_of_lt hi]⟩

/-- The final program `P` contains the code emitted between `g` and `g'` as it is in `g'`. -/
def Agree (P : Array (Bc.Instr w)) (g g' : G w) : Prop :=
  ∀ i, g.insts.size ≤ i → i < g'.insts.size → P[i]? = g'.insts[i]?

/-! `NewE g g' e`: `e` was pushed to `exprs` between `g` and `g'`.  Such an `e` was not in the table of `g` (`SL.fresh`):
`get_value` pushes an expression only when the lookup failed.  This is what lets `SL.trans` split the entries of the last
table into old ones and new ones. -/

def NewE (g g' : G w) (e : GvnExpr w) : Prop := ∃ i, g.exprs.size ≤ i ∧ g'.exprs[i]? = some e

theorem _root_.Hpbf.Sim.Steps.cast {M : Mach} {n m : Nat} {a b : M.C} (h : Steps M n a b) (e : n = m) : Steps M m a b :=
  e ▸ h

structure SL (g g' : G w) : Prop where
  n_le : g.n ≤ g'.n
  ext : Pre g.insts g'.insts
  eext : Pre g.exprs g'.exprs
  fresh : ∀ e, NewE g g' e → alGet g.values e = none
  wf : WfV g → WfV g'
  vals : ∀ e t, alGet g.values e = some t → alGet g'.values e = some t
  newvals : ∀ e t, alGet g'.values e = some t → alGet g.values e = some t ∨ NewE g g' e
  sem : ∀ (p : Bc.Program w) (c : Bc.Cfg w), Agree p.insts g g' → c.pc = g.insts.size → WfV g →
    Sound g.values c →
    ∃ c', Steps (BcM p) (g'.insts.size - g.insts.size) c c' ∧ c'.pc = g'.insts.size ∧ c'.st = c.st ∧
      Sound g'.values c'

theorem SL.refl (g : G w) : SL g g where
  n_le := Nat.le_refl _
  ext := Pre.refl _
  eext := Pre.refl _
  fresh := by
    rintro e ⟨i, hi, he⟩
    have : i < g.exprs.size := (Array.getElem?_eq_some_iff.1 he).1
    omega
  wf := id
  vals := fun _ _ h => h
  newvals := fun _ _ h => Or.inl h
  sem := by
    intro p c _ hpc _ hs
    exact ⟨c, by rw [Nat.sub_self]; exact Steps.refl (M := BcM p) c, hpc, rfl, hs⟩

theorem NewE.mono_right {g g1 g2 : G w} (h : Pre g1.exprs g2.exprs) {e : GvnExpr w} (he : NewE g g1 e) :
    NewE g g2 e := by
  obtain ⟨i, hi, hg⟩ := he
  have hlt : i < g1.exprs.size := (Array.getElem?_eq_some_iff.1 hg).1
  exact ⟨i, hi, (h.2 i hlt).trans hg⟩

theorem NewE.split {g g1 g2 : G w} (h : Pre g1.exprs g2.exprs) {e : GvnExpr w} (he : NewE g g2 e) :
    NewE g g1 e ∨ NewE g1 g2 e := by
  obtain ⟨i, hi, hg⟩ := he
  by_cases hlt : i < g1.exprs.size
  · left; exact ⟨i, hi, (h.2 i hlt).symm.trans hg⟩
  · right; exact ⟨i, by omega, hg⟩

theorem NewE.mono_left {g g1 g2 : G w} (h : g.exprs.size ≤ g1.exprs.size) {e : GvnExpr w}
    (he : NewE g1 g2 e) : NewE g g2 e := by
  obtain ⟨i, hi, hg⟩ := he
  exact ⟨i, by omega, hg⟩

theorem SL.trans {g g1 g2 : G w} (h1 : SL g g1) (h2 : SL g1 g2) : SL g g2 where
  n_le := Nat.le_trans h1.n_le h2.n_le
  ext := h1.ext.trans h2.ext
  eext := h1.eext.trans h2.eext
  fresh := by
    intro e he
    rcases NewE.split h2.eext he with h | h
    · exact h1.fresh e h
    · have := h2.fresh e h
      cases hv : alGet g.values e with
      | none => rfl
      | some t => rw [h1.vals e t hv] at this; cases this
  wf := fun h => h2.wf (h1.wf h)
  vals := fun e t h => h2.vals e t (h1.vals e t h)
  newvals := by
    intro e t h
    rcases h2.newvals e t h with h | h
    · rcases h1.newvals e t h with h | h
      · exact Or.inl h
      · exact Or.inr (NewE.mono_right h2.eext h)
    · exact Or.inr (NewE.mono_left h1.eext.1 h)
  sem := by
    intro p c hag hpc hw hs
    have ag1 : Agree p.insts g g1 := by
      intro i hi hlt
      rw [hag i hi (Nat.lt_of_lt_of_le hlt h2.ext.1)]
      exact h2.ext.2 i hlt
    have ag2 : Agree p.insts g1 g2 := fun i hi hlt => hag i (Nat.le_trans h1.ext.1 hi) hlt
    obtain ⟨c1, st1, pc1, e1, s1⟩ := h1.sem p c ag1 hpc hw hs
    obtain ⟨c2, st2, pc2, e2, s2⟩ := h2.sem p c1 ag2 pc1 (h1.wf hw) s1
    refine ⟨c2, (st1.trans st2).cast ?_, pc2, e2.trans e1, s2⟩
    have := h1.ext.1
    have := h2.ext.1
    omega

/-- The step taken by `get_value` when the expression is not in the table. -/
theorem SL_define {g : G w} {e : GvnExpr w} (hv : alGet g.values e = none) (he : opsLt g.n e) :
    SL g ⟨g.insts.push (gvInst e g.n), alSet g.values e g.n, g.exprs.push e, g.n + 1⟩ where
  n_le := Nat.le_succ _
  ext := Pre.push _ _
  eext := Pre.push _ _
  fresh := by
    rintro e' ⟨i, hi, hg⟩
    simp only [Array.getElem?_push] at hg
    split at hg
    · cases hg; exact hv
    · rw [Array.getElem?_eq_none (by omega)] at hg; cases hg
  wf := by
    intro hw
    refine ⟨(keys_alSet_nodup _ _ _ hw.nodup).1, ?_⟩
    intro e' t' h
    simp only [alGet_alSet] at h
    by_cases hee : e' = e
    · subst hee
      simp only [if_true, Option.some.injEq] at h
      subst h
      exact ⟨Nat.lt_succ_self _, opsLt_mono (Nat.le_succ _) he⟩
    · simp only [hee, if_false] at h
      obtain ⟨h1, h2⟩ := hw.lt e' t' h
      exact ⟨Nat.lt_succ_of_lt h1, opsLt_mono (Nat.le_succ _) h2⟩
  vals := by
    intro e' t' h
    simp only [alGet_alSet]
    by_cases hee : e' = e
    · subst hee; rw [hv] at h; cases h
    · simp only [hee, if_false]; exact h
  newvals := by
    intro e' t' h
    simp only [alGet_alSet] at h
    by_cases hee : e' = e
    · subst hee
      right
      exact ⟨g.exprs.size, Nat.le_refl _, by simp⟩
    · simp only [hee, if_false] at h
      exact Or.inl h
  sem := by
    intro p c hag hpc hw hs
    have hi : p.insts[c.pc]? = some (gvInst e g.n) := by
      rw [hpc, hag _ (Nat.le_refl _) (by simp)]
      simp
    refine ⟨_, (Steps.one (step_gvInst hi)).cast (by simp), by simp [hpc], rfl, ?_⟩
    exact sound_define hw hs he _

theorem getValue_SL {e : GvnExpr w} {s s' : St w} {t : Nat} (h : getValue e s = .ok (t, s'))
    (hw : WfV (core s)) (he : opsLt (core s).n e) :
    SL (core s) (core s') ∧ t < (core s').n ∧ alGet (core s').values e = some t := by
  rcases getValue_core h with ⟨hv, rfl⟩ | ⟨hv, rfl, hc⟩
  · exact ⟨SL.refl _, (hw.lt e t hv).1, hv⟩
  · rw [hc]
    refine ⟨SL_define (g := core s) hv he, Nat.lt_succ_self _, ?_⟩
    simp [alGet_alSet]

def Val (g : G w) (r : Nat) (F : State w → BitVec w) : Prop :=
  ∀ c : Bc.Cfg w, Sound g.values c → tget c.temps r = F c.st

theorem Val.mono {g g' : G w} (h : SL g g') {r : Nat} {F : State w → BitVec w} (hv : Val g r F) :
    Val g' r F :=
  fun c hs => hv c (fun e t he => hs e t (h.vals e t he))

theorem Val.of_get {g : G w} {e : GvnExpr w} {r : Nat} (h : alGet g.values e = some r)
    {F : State w → BitVec w} (hF : ∀ c : Bc.Cfg w, Sound g.values c → den c e = F c.st) : Val g r F :=
  fun c hs => (hs e r h).trans (hF c hs)

end C02Emit
end Hpbf
