/-
Chain, any level: canonical Brainfuck semantics vs. every backend at EVERY optimisation level
(source → `Program::parse` → `Program::optimize(level)` → IR interpreter / `translate` → bytecode interpreter /
`compileX86` → machine code).

`b` = the parser's output, `level` arbitrary (0: `optimize` is the identity; ≥ 3 behaves like 3), `orders` an
ARBITRARY oracle of hash iteration orders, `b'` the block the optimizer model returns for it
(`hopt : Opt.optimize b level orders = .ok b'`), and
    `hc : OptCheck.optimizeCheck N b level orders env = true`
the executable, proved-sound test of `Props/C01Rounds.lean` for the environment `env` (replay fuel `N`): it
re-runs the loop of `optimize` and tests, on the run from `env`, the analysis every LATER round starts from.
At levels 0 and 1 there is no later round and the test is `true` by computation (`optimizeCheck_level_le_one`),
so it is a hypothesis for levels ≥ 2 only.

Everything is an instance of the generic composition (`IrAgrees`, `BcAgrees`, `irAgrees_of_behEq`, `bcAgrees_of_ir`,
`*_of_agrees`, `allBackends_of_agrees`): the ingredients are `OptProof.optimize_preserves_of_check_light'` and
`OptProof.optimize_onceOk_of_check_light'` (level 0: the parser never sets `once`).
-/
import Hpbf.Proofs.ChainO1Gen
import Hpbf.Props.C01Rounds
import Hpbf.Proofs.OptTotalRounds

namespace Hpbf
namespace Chain

open Bc BcWf BcGen C11 C02

variable {w : Nat}

/-- At level 0 `optimize` returns its argument (and consumes no oracle entry). -/
theorem optimize_zero {b b' : Ir.Block w} {orders : Opt.Orders} (h : Opt.optimize b 0 orders = .ok b') :
    b' = b ∧ orders = [] := Rounds.pipeline_zero.1 (Rounds.optimize_eq b 0 orders ▸ h)

theorem optimize_zero_ok (b : Ir.Block w) : Opt.optimize b 0 [] = .ok b :=
  (Rounds.optimize_eq b 0 []).trans (Rounds.pipeline_zero.2 ⟨rfl, rfl⟩)

/-- **The test is void at levels 0 and 1**: it is `true` by computation, for every program, oracle, fuel and
environment. -/
theorem optimizeCheck_level_le_one (N : Nat) (b : Ir.Block w) {level : Nat} (hl : level ≤ 1)
    (orders : Opt.Orders) (env : Env) : OptCheck.optimizeCheck N b level orders env = true := by
  rw [OptProof.optimizeCheck_light']
  have : level = 0 ∨ level = 1 := by omega
  rcases this with rfl | rfl
  · rfl
  · -- the definition at level 1, written out so that `split` sees the `match`; `roundsCheck N env 0 …` is `true` by `rfl`
    show (if (1 : Nat) = 0 then true else
      match (Opt.optimizeOnce b (Opt.topAnalysis [] [])).run orders with
      | .ok ((prog, anal), os1) => OptProof.roundsCheck N env (min 1 3 - 1) prog anal os1
      | .error _ => true) = true
    simp only [Nat.one_ne_zero, if_false]
    split <;> rfl

section AnyLevel
variable (hw : 0 < w) {src : List Kind} {prog : Prog} (hp : Bf.tree src = some prog)
  {b b' : Ir.Block w} (hb : Ir.parse (w := w) src = .ok b) {level : Nat} {orders : Opt.Orders}
  (hopt : Opt.optimize b level orders = .ok b') (N : Nat) (env : Env)
  (hc : OptCheck.optimizeCheck N b level orders env = true)
-- one call shape for the whole family (`X hw hp hb hopt … env`): every theorem takes these hypotheses, used or not
include hw hb hopt hc

/-- Same observable behaviour of the parser's output and the optimizer's output. -/
theorem behEq_anylevel : OptProof.BehEq b b' env :=
  OptProof.optimize_preserves_of_check_light' hw N (OptProof.parse_canonL hb) hopt hc

/-- The `once` marks of the optimizer's output are justified (level 0: there are none). -/
theorem onceOk_anylevel : OnceOk b' env := by
  by_cases hl : level = 0
  · subst hl
    obtain ⟨rfl, _⟩ := optimize_zero hopt
    exact parse_onceOk hb env
  · exact OptProof.optimize_onceOk_of_check_light' hw N (OptProof.parse_canonL hb) hl hopt hc

include hp

theorem irAgrees_anylevel : IrAgrees prog b' env :=
  irAgrees_of_behEq (irAgrees_level0 hw hp hb env) (behEq_anylevel hw hb hopt N env hc)

theorem bcAgrees_anylevel (numRegs : Nat) (fuse : Bool) : BcAgrees prog (translate b' numRegs fuse) env :=
  bcAgrees_of_ir (irAgrees_anylevel hw hp hb hopt N env hc) (onceOk_anylevel hw hb hopt N env hc) numRegs fuse

theorem ir_anylevel :
    ((∀ f (s : State w), Bf.run f prog env = .done s →
        ∃ f' c, Ir.run b' false 0 f' env = .done c ∧ c.st.trace = s.trace) ∧
     (∀ f (s : State w), Bf.run f prog env = .stopped s →
        ∃ f' c, Ir.run b' false 0 f' env = .stopped c ∧ c.st.trace = s.trace)) ∧
    ((∀ f' (c : Ir.Cfg w), Ir.run b' false 0 f' env = .done c →
        ∃ (f : Nat) (s : State w), Bf.run f prog env = .done s ∧ s.trace = c.st.trace) ∧
     (∀ f' (c : Ir.Cfg w), Ir.run b' false 0 f' env = .stopped c →
        ∃ (f : Nat) (s : State w), Bf.run f prog env = .stopped s ∧ s.trace = c.st.trace)) ∧
    ((∀ f', ∃ f, C01.traceOf (Ir.run b' false 0 f' env) = C01.traceOfBf (Bf.run (w := w) f prog env)) ∧
     (∀ f, ∃ f', C01.traceOf (Ir.run b' false 0 f' env) = C01.traceOfBf (Bf.run (w := w) f prog env))) :=
  irAgrees_anylevel hw hp hb hopt N env hc

theorem bytecode_anylevel (numRegs : Nat) (fuse : Bool) :
    ((∀ f (s : State w), Bf.run f prog env = .done s →
        ∃ f' c', Bc.run (translate b' numRegs fuse) false 0 f' env = .done c' ∧ c'.st.trace = s.trace) ∧
     (∀ f (s : State w), Bf.run f prog env = .stopped s →
        ∃ f' c', Bc.run (translate b' numRegs fuse) false 0 f' env = .stopped c' ∧ c'.st.trace = s.trace)) ∧
    ((∀ f' (c' : Bc.Cfg w), Bc.run (translate b' numRegs fuse) false 0 f' env = .done c' →
        ∃ (f : Nat) (s : State w), Bf.run f prog env = .done s ∧ s.trace = c'.st.trace) ∧
     (∀ f' (c' : Bc.Cfg w), Bc.run (translate b' numRegs fuse) false 0 f' env = .stopped c' →
        ∃ (f : Nat) (s : State w), Bf.run f prog env = .stopped s ∧ s.trace = c'.st.trace)) ∧
    ((∀ f', ∃ f, C07.traceOfBc (Bc.run (translate b' numRegs fuse) false 0 f' env) =
        C01.traceOfBf (Bf.run (w := w) f prog env)) ∧
     (∀ f, ∃ f', C07.traceOfBc (Bc.run (translate b' numRegs fuse) false 0 f' env) =
        C01.traceOfBf (Bf.run (w := w) f prog env))) :=
  bcAgrees_anylevel hw hp hb hopt N env hc numRegs fuse

theorem bytecode_anylevel_debug (numRegs : Nat) (fuse : Bool) :
    ((∀ f (s : State w), Bf.run f prog env = .done s →
        ∃ f' c', runDebug (translate b' numRegs fuse) false 0 f' env = .done c' ∧ c'.st.trace = s.trace) ∧
     (∀ f (s : State w), Bf.run f prog env = .stopped s →
        ∃ f' c', runDebug (translate b' numRegs fuse) false 0 f' env = .stopped c' ∧ c'.st.trace = s.trace)) ∧
    ((∀ f' (c' : Bc.Cfg w), runDebug (translate b' numRegs fuse) false 0 f' env = .done c' →
        ∃ (f : Nat) (s : State w), Bf.run f prog env = .done s ∧ s.trace = c'.st.trace) ∧
     (∀ f' (c' : Bc.Cfg w), runDebug (translate b' numRegs fuse) false 0 f' env = .stopped c' →
        ∃ (f : Nat) (s : State w), Bf.run f prog env = .stopped s ∧ s.trace = c'.st.trace)) ∧
    ((∀ f', ∃ f, C07.traceOfBc (runDebug (translate b' numRegs fuse) false 0 f' env) =
        C01.traceOfBf (Bf.run (w := w) f prog env)) ∧
     (∀ f, ∃ f', C07.traceOfBc (runDebug (translate b' numRegs fuse) false 0 f' env) =
        C01.traceOfBf (Bf.run (w := w) f prog env))) :=
  bcAgrees_debug (bcAgrees_anylevel hw hp hb hopt N env hc numRegs fuse)

theorem bc_never_returns_anylevel (numRegs : Nat) (fuse : Bool) (hdiv : C05.BfDiverges w prog env) :
    (∀ (f' : Nat) (c : Bc.Cfg w),
      Bc.run (translate b' numRegs fuse) false 0 f' env ≠ .done c ∧
      Bc.run (translate b' numRegs fuse) false 0 f' env ≠ .stopped c) ∧
    (∀ (bd f' : Nat) (c : Bc.Cfg w),
      Bc.run (translate b' numRegs fuse) true bd f' env ≠ .done c ∧
      Bc.run (translate b' numRegs fuse) true bd f' env ≠ .stopped c) :=
  bc_never_returns (bcAgrees_anylevel hw hp hb hopt N env hc numRegs fuse) hdiv

theorem bc_runs_forever_anylevel (numRegs : Nat) (fuse : Bool) (hdiv : C05.BfDiverges w prog env) :
    ∀ f', ∃ c : Bc.Cfg w, Bc.run (translate b' numRegs fuse) false 0 f' env = .outOfFuel c :=
  bc_runs_forever (bcAgrees_anylevel hw hp hb hopt N env hc numRegs fuse) hdiv
    (translate_never_bad_unconditional b' numRegs fuse env).1

theorem bc_limited_interrupted_anylevel (numRegs : Nat) (fuse : Bool) (hdiv : C05.BfDiverges w prog env) :
    ∀ bd, ∃ f' c, Bc.run (translate b' numRegs fuse) true bd f' env = .interrupted c :=
  bc_limited_interrupted (bcAgrees_anylevel hw hp hb hopt N env hc numRegs fuse) hdiv
    (translate_never_bad_unconditional b' numRegs fuse env).1

theorem bc_divergent_output_anylevel (numRegs : Nat) (fuse : Bool) (hdiv : C05.BfDiverges w prog env) :
    (∀ f, ∃ f' c c', Bf.run (w := w) f prog env = .outOfFuel c ∧
      Bc.run (translate b' numRegs fuse) false 0 f' env = .outOfFuel c' ∧ c'.st.trace = c.st.trace) ∧
    (∀ f', ∃ f c c', Bc.run (translate b' numRegs fuse) false 0 f' env = .outOfFuel c' ∧
      Bf.run (w := w) f prog env = .outOfFuel c ∧ c'.st.trace = c.st.trace) :=
  bc_divergent_output (bcAgrees_anylevel hw hp hb hopt N env hc numRegs fuse) hdiv
    (translate_never_bad_unconditional b' numRegs fuse env).1

theorem bc_limited_finished_anylevel (numRegs : Nat) (fuse : Bool) :
    (∀ (bd f' : Nat) (c : Bc.Cfg w), Bc.run (translate b' numRegs fuse) true bd f' env = .done c →
      ∃ (f : Nat) (s : State w), Bf.run f prog env = .done s ∧ s.trace = c.st.trace) ∧
    (∀ (bd f' : Nat) (c : Bc.Cfg w), Bc.run (translate b' numRegs fuse) true bd f' env = .stopped c →
      ∃ (f : Nat) (s : State w), Bf.run f prog env = .stopped s ∧ s.trace = c.st.trace) :=
  bc_limited_finished (bcAgrees_anylevel hw hp hb hopt N env hc numRegs fuse)

theorem bc_limited_prefix_anylevel (numRegs : Nat) (fuse : Bool) :
    ∀ bd f', ∃ f, ∀ g, f ≤ g →
      C07.traceOfBc (Bc.run (translate b' numRegs fuse) true bd f' env) <:+
        C01.traceOfBf (Bf.run (w := w) g prog env) :=
  bc_limited_is_prefix (bcAgrees_anylevel hw hp hb hopt N env hc numRegs fuse)

theorem bc_limited_enough_anylevel (numRegs : Nat) (fuse : Bool) :
    (∀ (f : Nat) (s : State w), Bf.run f prog env = .done s →
      ∃ g, ∀ bd, g ≤ bd →
        ∃ f' c, Bc.run (translate b' numRegs fuse) true bd f' env = .done c ∧ c.st.trace = s.trace) ∧
    (∀ (f : Nat) (s : State w), Bf.run f prog env = .stopped s →
      ∃ g, ∀ bd, g ≤ bd →
        ∃ f' c, Bc.run (translate b' numRegs fuse) true bd f' env = .stopped c ∧ c.st.trace = s.trace) :=
  bc_limited_enough (bcAgrees_anylevel hw hp hb hopt N env hc numRegs fuse)

theorem bc_stops_like_canonical_anylevel (numRegs : Nat) (fuse : Bool) :
    ∀ (f : Nat) (s : State w), Bf.run f prog env = .stopped s →
      ∃ f' c, (∀ k, Bc.run (translate b' numRegs fuse) false 0 (f' + k) env = .stopped c) ∧
        c.st.trace = s.trace :=
  bc_stops_like_canonical (bcAgrees_anylevel hw hp hb hopt N env hc numRegs fuse)

theorem bc_stops_only_like_canonical_anylevel (numRegs : Nat) (fuse : Bool) :
    ∀ (l : Bool) (bd f' : Nat) (c : Bc.Cfg w), Bc.run (translate b' numRegs fuse) l bd f' env = .stopped c →
      (l = false → bd = 0) →
      ∃ (f : Nat) (s : State w), Bf.run f prog env = .stopped s ∧ s.trace = c.st.trace :=
  bc_stops_only_like_canonical (bcAgrees_anylevel hw hp hb hopt N env hc numRegs fuse)

section Jit
open Asm JitGen X86Sem X86Prog C03
variable {sz : Size} {safe : Bool} {cfg : X86Prog.Cfg} {buf0 rsp0 ra : BitVec 64}

theorem jit_anylevel_forward (R : JitRange sz (translate b' 11 false) false safe cfg buf0 rsp0 ra 0 env) :
    let p := translate b' 11 false
    let s0 : PState w := initState cfg buf0 rsp0 ra p.minAcc p.maxAcc 0 env
    (∀ f (s : State w), Bf.run f prog env = .done s →
      ∃ n s', X86Prog.run cfg n s0 = .ret s' ∧ s'.regs.rax = 1 ∧ s'.trace = s.trace) ∧
    (∀ f (s : State w), Bf.run f prog env = .stopped s →
      ∃ n s', X86Prog.run cfg n s0 = .ret s' ∧ s'.regs.rax = 0 ∧ s'.trace = s.trace) :=
  jit_forward_of_agrees (bcAgrees_anylevel hw hp hb hopt N env hc 11 false)
    (jitHyps_of_range (translate_ok b' 11 false) R)

theorem jit_anylevel_unique (R : JitRange sz (translate b' 11 false) false safe cfg buf0 rsp0 ra 0 env) :
    let p := translate b' 11 false
    let s0 : PState w := initState cfg buf0 rsp0 ra p.minAcc p.maxAcc 0 env
    (∀ f (s : State w), Bf.run f prog env = .done s →
      ∀ n s', X86Prog.run cfg n s0 = .ret s' → s'.regs.rax = 1 ∧ s'.trace = s.trace) ∧
    (∀ f (s : State w), Bf.run f prog env = .stopped s →
      ∀ n s', X86Prog.run cfg n s0 = .ret s' → s'.regs.rax = 0 ∧ s'.trace = s.trace) :=
  jit_unique_of_agrees (bcAgrees_anylevel hw hp hb hopt N env hc 11 false)
    (jitHyps_of_range (translate_ok b' 11 false) R)

theorem jit_anylevel_prefix (R : JitRange sz (translate b' 11 false) false safe cfg buf0 rsp0 ra 0 env) :
    let p := translate b' 11 false
    let s0 : PState w := initState cfg buf0 rsp0 ra p.minAcc p.maxAcc 0 env
    ∀ f, ∃ n s', (steps cfg n s0 = some s' ∨ X86Prog.run cfg n s0 = .ret s') ∧
      s'.trace = C01.traceOfBf (Bf.run (w := w) f prog env) :=
  jit_prefix_of_agrees (bcAgrees_anylevel hw hp hb hopt N env hc 11 false)
    (jitHyps_of_range (translate_ok b' 11 false) R)

theorem jit_anylevel_divergent (R : JitRange sz (translate b' 11 false) false safe cfg buf0 rsp0 ra 0 env)
    (hdiv : C05.BfDiverges w prog env) :
    let p := translate b' 11 false
    let s0 : PState w := initState cfg buf0 rsp0 ra p.minAcc p.maxAcc 0 env
    ∀ f, ∃ n s', steps cfg n s0 = some s' ∧ s'.trace = C01.traceOfBf (Bf.run (w := w) f prog env) :=
  jit_divergent_of_agrees (bcAgrees_anylevel hw hp hb hopt N env hc 11 false)
    (jitHyps_of_range (translate_ok b' 11 false) R) hdiv

theorem jit_anylevel_limited {bd : Nat}
    (R : JitRange sz (translate b' 11 false) true safe cfg buf0 rsp0 ra bd env) :
    let p := translate b' 11 false
    let s0 : PState w := initState cfg buf0 rsp0 ra p.minAcc p.maxAcc bd env
    ∃ n s', X86Prog.run cfg n s0 = .ret s' ∧
      (∀ n2 s2, X86Prog.run cfg n2 s0 = .ret s2 → s2 = s') ∧
      (s'.regs.rax = 1 ∨ s'.regs.rax = 0) ∧
      (s'.regs.rax = 1 → ∃ (f : Nat) (s : State w), Bf.run f prog env = .done s ∧ s.trace = s'.trace) ∧
      (∃ f, ∀ g, f ≤ g → s'.trace <:+ C01.traceOfBf (Bf.run (w := w) g prog env)) :=
  jit_limited_of_agrees (bcAgrees_anylevel hw hp hb hopt N env hc 11 false)
    (jitHyps_of_range (translate_ok b' 11 false) R)

theorem jit_anylevel_limited_enough :
    let p := translate b' 11 false
    (∀ f (s : State w), Bf.run f prog env = .done s → ∃ g, ∀ bd, g ≤ bd →
      JitRange sz p true safe cfg buf0 rsp0 ra bd env →
      ∃ n s', X86Prog.run cfg n (initState (w := w) cfg buf0 rsp0 ra p.minAcc p.maxAcc bd env) = .ret s' ∧
        s'.regs.rax = 1 ∧ s'.trace = s.trace) ∧
    (∀ f (s : State w), Bf.run f prog env = .stopped s → ∃ g, ∀ bd, g ≤ bd →
      JitRange sz p true safe cfg buf0 rsp0 ra bd env →
      ∃ n s', X86Prog.run cfg n (initState (w := w) cfg buf0 rsp0 ra p.minAcc p.maxAcc bd env) = .ret s' ∧
        s'.regs.rax = 0 ∧ s'.trace = s.trace) :=
  jit_limited_enough_of_range (bcAgrees_anylevel hw hp hb hopt N env hc 11 false)

end Jit

end AnyLevel

/-- Never "malformed bytecode" (every mode, budget, fuel), never interrupted in unlimited mode: this holds for the
translation of EVERY block, hence at every level, without any hypothesis. -/
theorem bytecode_anylevel_proper (b' : Ir.Block w) (numRegs : Nat) (fuse : Bool) (env : Env) :
    (∀ (l : Bool) (bd f' : Nat) (c' : Bc.Cfg w), Bc.run (translate b' numRegs fuse) l bd f' env ≠ .bad c') ∧
    (∀ (f' : Nat) (c' : Bc.Cfg w), Bc.run (translate b' numRegs fuse) false 0 f' env ≠ .interrupted c') :=
  translate_never_bad_unconditional b' numRegs fuse env

/-- **Every level, all backends.**

ASSUMED
* `code` is a balanced Brainfuck text with bracket tree `prog` (`hp`), the cell width is `w ≥ 1` (`hw`);
* `level` is any optimisation level and `orders` ANY oracle of hash iteration orders for which the optimizer
  model returns a block: `hopt : Opt.optimize (parse code) level orders = .ok b'`
  (a fitting oracle always exists and the optimizer never panics: `anylevel_exists`, `C13Opt`);
* for levels ≥ 2 only: the executable test `OptCheck.optimizeCheck N (parse code) level orders env = true` for
  THIS environment `env` and some replay fuel `N` (`hc`).  It checks, on the run from `env`, that the analysis
  each later optimizer round starts from is sound; it is proved sound (`Props/C01Rounds.lean`), can be run
  outside the kernel, and is `true` by computation at levels 0 and 1 (`optimizeCheck_level_le_one`);
* for the two machine-code conjuncts: the range conditions `JitRange` (operand displacements, frame size and
  `mov` shifts inside `i32`, code < 2^31 bytes, distinct runtime addresses, `rsp ≡ 8 mod 16`, budget a `u64`, no
  allocation beyond 2^40 cells for bounds-checked code).

CONCLUDED: `AllBackends` (spelled out at its definition) for the optimized block `b'`.
Only events and the kind of ending are compared (the optimizer does not preserve the final tape / pointer). -/
theorem anylevel_all_backends (hw : 0 < w) (code : Array Kind) (prog : Prog)
    (hp : Bf.tree code.toList = some prog) (level : Nat) (orders : Opt.Orders) (b' : Ir.Block w)
    (hopt : Opt.optimize (irOf w code.toList) level orders = .ok b') (N : Nat) (env : Env)
    (hc : 2 ≤ level → OptCheck.optimizeCheck N (irOf w code.toList) level orders env = true)
    (numRegs : Nat) (fuse : Bool) : AllBackends code prog b' numRegs fuse env := by
  have hb := parse_irOf (w := w) hp
  have hc' : OptCheck.optimizeCheck N _ level orders env = true :=
    if h : 2 ≤ level then hc h else optimizeCheck_level_le_one N _ (by omega) orders env
  exact allBackends_of_agrees hp (irAgrees_anylevel hw hp hb hopt N env hc')
    (onceOk_anylevel hw hb hopt N env hc') numRegs fuse

/-- **A fitting oracle exists.**  For every balanced source and every level there is an oracle for which the
optimizer model succeeds (and for NO oracle does it panic: an error is always an oracle mismatch); for that
oracle, in every environment in which the test passes (levels ≥ 2), all backends agree with the canonical
semantics. -/
theorem anylevel_exists (hw : 0 < w) (code : Array Kind) (prog : Prog) (hp : Bf.tree code.toList = some prog)
    (level : Nat) :
    (∀ orders e, Opt.optimize (irOf w code.toList) level orders = .error e →
      OptTotal.isOracleError e = true) ∧
    ∃ orders b', Opt.optimize (irOf w code.toList) level orders = .ok b' ∧
      ∀ (N : Nat) (env : Env),
        (2 ≤ level → OptCheck.optimizeCheck N (irOf w code.toList) level orders env = true) →
        ∀ (numRegs : Nat) (fuse : Bool), AllBackends code prog b' numRegs fuse env := by
  have hb := parse_irOf (w := w) hp
  have hcl := OptProof.parse_canonL hb
  refine ⟨fun orders e he => OptTotal.optimize_no_panic _ level orders hcl e he, ?_⟩
  obtain ⟨orders, b', hopt⟩ := OptTotal.optimize_total (irOf w code.toList) level hcl
  exact ⟨orders, b', hopt, fun N env hc numRegs fuse =>
    anylevel_all_backends hw code prog hp level orders b' hopt N env hc numRegs fuse⟩

/-- Levels 0 and 1 need no test at all. -/
theorem level_le_one_all_backends (hw : 0 < w) (code : Array Kind) (prog : Prog)
    (hp : Bf.tree code.toList = some prog) (level : Nat) (hl : level ≤ 1) (orders : Opt.Orders)
    (b' : Ir.Block w) (hopt : Opt.optimize (irOf w code.toList) level orders = .ok b') (env : Env)
    (numRegs : Nat) (fuse : Bool) : AllBackends code prog b' numRegs fuse env :=
  anylevel_all_backends hw code prog hp level orders b' hopt 0 env (fun h => by omega) numRegs fuse

end Chain
end Hpbf
