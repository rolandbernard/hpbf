/-
The invariant `Inv R g0 s` on `Rebuild` states (`g0` = drift before the first instruction of the block that `s` is
building) and the primitives that do not emit. The names kept in `pending` and in the `known` entries of `written`
are bounded at the CURRENT drift `g0 + driftL s.insts`; `pending` is strictly sorted by key so that removing a key
really removes it. `reads`, `reverse`, the keys of `written`, `cond`, the analyses and the parent chain are not
constrained: they never become names in the emitted code. `Inv.flat`: while no nested block of `s` moves the pointer
the drift of `s.insts` is zero, which is what keeps the names of an enclosing state valid when `s` is inlined into it
(`OptOffsBlock`).

Before `Inv`: two fold lemmas for the monad `M`, and facts about the list maps (`mErase` gives a sublist; `SortedK`,
which is `OptLoop.KeysAsc` and `OptProof.Sorted` written with `Pairwise` on the pairs, `sortedK_iff`).

The step relations, from the weakest: `Keep s s'`: drift, shift and `subShift` are unchanged. `PStep s s'`: only
`pending` changes, to a sublist. With `Inv` of the result: `KStep` = `Inv` + `Keep`; `EStep` (`OptOffsEmit`) = `KStep`
+ `pending` a sublist; `WStep` = `KStep` + `pending` unchanged.
-/
import Hpbf.Opt
import Hpbf.Proofs.OptRbMonad
import Hpbf.Proofs.OptLoopConstAlg
import Hpbf.Proofs.OptOffsDefs
import Hpbf.Proofs.OptOffsExpr

namespace Hpbf.OptOffs
open Hpbf Opt Ir
open Hpbf.OptLoop (VarsIn varsIn_iff mem_mSet)
open Hpbf.OptProof (run_pure run_bind run_bind_ok run_monadLift run_monadLift_ok run_throw removePending_snd)

variable {w : Nat}

section monad
variable {α β : Type}


theorem run_pure_ok {a b : α} {os os' : Orders} (h : (pure a : M α).run os = .ok (b, os')) :
    a = b ∧ os = os' := by
  cases h; exact ⟨rfl, rfl⟩

theorem foldlM_inv_except {γ ε : Type} (I : β → Prop) (f : β → γ → Except ε β) (l : List γ)
    (hstep : ∀ b x b', x ∈ l → I b → f b x = .ok b' → I b')
    {b b' : β} (h0 : I b) (hr : l.foldlM f b = .ok b') : I b' := by
  induction l generalizing b with
  | nil =>
    rw [List.foldlM_nil] at hr
    cases hr; exact h0
  | cons x l ih =>
    rw [List.foldlM_cons] at hr
    cases h1 : f b x with
    | error e => rw [h1] at hr; cases hr
    | ok b1 =>
      rw [h1] at hr
      exact ih (fun b x b' hx => hstep b x b' (List.mem_cons_of_mem _ hx)) (hstep b x b1 (by simp) h0 h1) hr

theorem foldl_inv {γ : Type} (I : β → Prop) (f : β → γ → β) (l : List γ)
    (hstep : ∀ b x, x ∈ l → I b → I (f b x)) {b : β} (h0 : I b) : I (l.foldl f b) := by
  induction l generalizing b with
  | nil => exact h0
  | cons x l ih =>
    rw [List.foldl_cons]
    exact ih (fun b x hx => hstep b x (List.mem_cons_of_mem _ hx)) (hstep b x (by simp) h0)

end monad

section maps
variable {ν : Type}

theorem mGet_eq_none_iff {m : List (Int × ν)} {k : Int} : mGet m k = none ↔ ∀ kv ∈ m, kv.1 ≠ k := by
  rw [OptProof.mGet_none_iff, mKeys, List.mem_map]
  exact ⟨fun h kv hkv e => h ⟨kv, hkv, e⟩, fun h ⟨kv, hkv, e⟩ => h kv hkv e⟩

theorem mErase_sublist (m : List (Int × ν)) (k : Int) : (mErase m k).Sublist m := by
  induction m with
  | nil => exact List.Sublist.refl _
  | cons x rest ih =>
    obtain ⟨k', v'⟩ := x
    simp only [mErase]
    split
    · exact List.sublist_cons_self _ _
    · exact List.Sublist.cons_cons _ ih

def SortedK (m : List (Int × ν)) : Prop := m.Pairwise (fun a b => a.1 < b.1)

theorem SortedK.sublist {m m' : List (Int × ν)} (h : SortedK m) (hs : m'.Sublist m) : SortedK m' :=
  List.Pairwise.sublist hs h

theorem sortedK_nil : SortedK ([] : List (Int × ν)) := List.Pairwise.nil

theorem sortedK_iff {m : List (Int × ν)} : SortedK m ↔ OptProof.Sorted m := by
  unfold SortedK OptProof.Sorted
  rw [List.pairwise_map]

theorem sortedK_mSet {m : List (Int × ν)} (h : SortedK m) (k : Int) (v : ν) : SortedK (mSet m k v) :=
  sortedK_iff.2 (OptProof.sorted_mSet (sortedK_iff.1 h) k v)

theorem mGet_mErase_self {m : List (Int × ν)} (h : SortedK m) (k : Int) : mGet (mErase m k) k = none := by
  rw [OptProof.mGet_mErase (sortedK_iff.1 h), if_pos rfl]

theorem mGet_none_of_sublist {m m' : List (Int × ν)} (hs : m'.Sublist m) {k : Int} (h : mGet m k = none) :
    mGet m' k = none := by
  rw [mGet_eq_none_iff] at *
  exact fun kv hkv => h kv (hs.subset hkv)

theorem eq_nil_of_mGet_none {m : List (Int × ν)} (h : ∀ k ∈ mKeys m, mGet m k = none) : m = [] := by
  cases m with
  | nil => rfl
  | cons x rest =>
    obtain ⟨k, v⟩ := x
    have := h k List.mem_cons_self
    rw [OptProof.mGet_cons, if_pos rfl] at this
    cases this

theorem mHas_iff {m : List (Int × ν)} {k : Int} : mHas m k = true ↔ ∃ v, mGet m k = some v :=
  OptLoop.mHas_iff m k

end maps

theorem mem_stableSort {α : Type} {le : α → α → Bool} {y : α} {l : List α}
    (h : y ∈ Expr.stableSort le l) : y ∈ l := (Expr.stableSort_perm le l).mem_iff.1 h

structure Keep (s s' : Rebuild w) : Prop where
  drift : driftL s'.insts = driftL s.insts
  shift : s'.shift = s.shift
  subShift : s'.subShift = s.subShift

theorem Keep.refl (s : Rebuild w) : Keep s s := ⟨rfl, rfl, rfl⟩
theorem Keep.trans {a b c : Rebuild w} (h1 : Keep a b) (h2 : Keep b c) : Keep a c :=
  ⟨h2.drift.trans h1.drift, h2.shift.trans h1.shift, h2.subShift.trans h1.subShift⟩

def PendOk (R g : Nat) (pending : List (Int × Expr w)) : Prop :=
  ∀ kv ∈ pending, NB R g kv.1 ∧ VarsIn (NB R g) kv.2

def WritOk (R g : Nat) (written : List (Int × OptWrite w)) : Prop :=
  ∀ kv ∈ written, ∀ e, kv.2 = .known e → VarsIn (NB R g) e

structure Inv (R g0 : Nat) (s : Rebuild w) : Prop where
  insts : OkL R g0 s.insts
  pend : PendOk R (g0 + driftL s.insts) s.pending
  writ : WritOk R (g0 + driftL s.insts) s.written
  sorted : SortedK s.pending
  flat : s.subShift = false → driftL s.insts = 0

structure PStep (s s' : Rebuild w) : Prop where
  insts : s'.insts = s.insts
  written : s'.written = s.written
  subShift : s'.subShift = s.subShift
  shift : s'.shift = s.shift
  sub : s'.pending.Sublist s.pending

theorem PStep.refl (s : Rebuild w) : PStep s s := ⟨rfl, rfl, rfl, rfl, List.Sublist.refl _⟩
theorem PStep.trans {a b c : Rebuild w} (h1 : PStep a b) (h2 : PStep b c) : PStep a c :=
  ⟨h2.insts.trans h1.insts, h2.written.trans h1.written, h2.subShift.trans h1.subShift,
   h2.shift.trans h1.shift, h2.sub.trans h1.sub⟩

theorem PStep.keep {s s' : Rebuild w} (h : PStep s s') : Keep s s' :=
  ⟨by rw [h.insts], h.shift, h.subShift⟩

theorem PStep.inv {R g0 : Nat} {s s' : Rebuild w} (h : PStep s s') (hi : Inv R g0 s) : Inv R g0 s' := by
  refine ⟨by rw [h.insts]; exact hi.insts, ?_, ?_, hi.sorted.sublist h.sub, ?_⟩
  · rw [h.insts]; exact fun kv hkv => hi.pend kv (h.sub.subset hkv)
  · rw [h.insts, h.written]; exact hi.writ
  · rw [h.insts, h.subShift]; exact hi.flat

theorem inv_new (R g0 : Nat) (shift : Int) (cond : Option Int) (par : OptParent)
    (anal : Option (OptAnalysis w)) : Inv R g0 (Rebuild.new shift cond par anal) :=
  ⟨okL_nil _ _, fun kv h => (by cases h), fun kv h => (by cases h), sortedK_nil, fun _ => rfl⟩

theorem removePending_pstep (s : Rebuild w) (var : Int) : PStep s (removePending s var).1 := by
  unfold removePending
  split
  · exact PStep.refl s
  · exact ⟨rfl, rfl, rfl, rfl, mErase_sublist _ _⟩

theorem removePending_gone {s : Rebuild w} (hs : SortedK s.pending) (var : Int) :
    mGet (removePending s var).1.pending var = none := by
  unfold removePending
  split
  · rename_i h; exact h
  · exact mGet_mErase_self hs var

theorem insertWritten_inv {R g0 : Nat} {s : Rebuild w} (hi : Inv R g0 s) (var : Int) (val : OptWrite w)
    (hv : ∀ e, val = .known e → VarsIn (NB R (g0 + driftL s.insts)) e) :
    Inv R g0 (insertWritten s var val) ∧ Keep s (insertWritten s var val) ∧
      (insertWritten s var val).pending = s.pending := by
  unfold insertWritten
  split
  · rename_i e
    refine ⟨⟨hi.insts, hi.pend, ?_, hi.sorted, hi.flat⟩, ⟨rfl, rfl, rfl⟩, rfl⟩
    intro kv hkv e' he'
    rcases mem_mSet _ _ _ _ hkv with h | h
    · subst h
      simp only [OptWrite.known.injEq] at he'
      subst he'
      exact varsIn_normalize (hv e rfl)
    · exact hi.writ kv h e' he'
  · rename_i hne
    refine ⟨⟨hi.insts, hi.pend, ?_, hi.sorted, hi.flat⟩, ⟨rfl, rfl, rfl⟩, rfl⟩
    intro kv hkv e' he'
    rcases mem_mSet _ _ _ _ hkv with h | h
    · subst h
      exact hv e' he'
    · exact hi.writ kv h e' he'

theorem getWritten_varsIn {S : Int → Prop} {s : Rebuild w} (ps : List (Rebuild w)) {var : Int} {e : Expr w}
    (hw : ∀ kv ∈ s.written, ∀ e, kv.2 = .known e → VarsIn S e) (hv : S var)
    (h : getWritten s ps var = some e) : VarsIn S e := by
  unfold getWritten at h
  split at h
  · rename_i expr hg
    simp only [Option.some.injEq] at h
    subst h
    exact hw _ (OptLoop.mem_of_mGet hg) _ rfl
  · cases h
  · split at h
    · simp only [Option.some.injEq] at h; subst h; exact varsIn_val _
    · simp only [Option.some.injEq] at h; subst h; exact varsIn_var hv

theorem getPending_varsIn {S : Int → Prop} {s : Rebuild w} (ps : List (Rebuild w)) {var : Int}
    (hp : ∀ kv ∈ s.pending, VarsIn S kv.2) (hv : S var) : VarsIn S (getPending s ps var) := by
  unfold getPending
  split
  · rename_i expr hg
    exact hp _ (OptLoop.mem_of_mGet hg)
  · split
    · exact varsIn_val _
    · exact varsIn_var hv

theorem evalWritten_varsIn {S : Int → Prop} {s : Rebuild w} (ps : List (Rebuild w)) {expr e : Expr w}
    (hw : ∀ kv ∈ s.written, ∀ e, kv.2 = .known e → VarsIn S e) (he : VarsIn S expr)
    (h : evalWritten s ps expr = some e) : VarsIn S e := by
  unfold evalWritten at h
  split at h
  · refine OptLoop.symbEvaluate_varsIn _ expr e ?_ h
    intro v hv e' he'
    exact getWritten_varsIn ps hw (varsIn_iff.1 he v hv) he'
  · simp only [Option.some.injEq] at h; subst h; exact he

theorem getBoth_varsIn {S : Int → Prop} {s : Rebuild w} (ps : List (Rebuild w)) {var : Int} {e : Expr w}
    (hp : ∀ kv ∈ s.pending, VarsIn S kv.2)
    (hw : ∀ kv ∈ s.written, ∀ e, kv.2 = .known e → VarsIn S e) (hv : S var)
    (h : getBoth s ps var = some e) : VarsIn S e := by
  unfold getBoth at h
  split at h
  · rename_i expr hg
    exact evalWritten_varsIn ps hw (hp _ (OptLoop.mem_of_mGet hg)) h
  · exact getWritten_varsIn ps hw hv h

theorem evalPending_varsIn {S : Int → Prop} {s : Rebuild w} (ps : List (Rebuild w)) {shift : Int}
    {expr e : Expr w} (hp : ∀ kv ∈ s.pending, VarsIn S kv.2) (he : VarsIn (fun x => S (x + shift)) expr)
    (h : evalPending s ps shift expr = .ok e) : VarsIn S e := by
  unfold evalPending at h
  split at h
  · split at h
    · rename_i r hr
      simp only [pure, Except.pure, Except.ok.injEq] at h
      subst h
      refine OptLoop.symbEvaluate_varsIn _ expr r ?_ hr
      intro v hv e' he'
      simp only [Option.some.injEq] at he'
      subst he'
      exact getPending_varsIn ps hp (varsIn_iff.1 he v hv)
    · cases h
  · split at h
    · simp only [pure, Except.pure, Except.ok.injEq] at h
      subst h
      exact varsIn_shiftVars he
    · rename_i hz
      simp only [pure, Except.pure, Except.ok.injEq] at h
      subst h
      have hz' : shift = 0 := by simpa using hz
      subst hz'
      exact VarsIn.imp he (fun x hx => by simpa using hx)

theorem insertPending_inv {R g0 : Nat} {s : Rebuild w} (ps : List (Rebuild w)) (hi : Inv R g0 s) {var : Int}
    {expr : Expr w} (hv : NB R (g0 + driftL s.insts) var) (he : VarsIn (NB R (g0 + driftL s.insts)) expr) :
    Inv R g0 (insertPending s ps var expr) ∧ Keep s (insertPending s ps var expr) := by
  have hp := removePending_pstep s var
  have hi1 := hp.inv hi
  unfold insertPending
  simp only
  split
  · refine ⟨⟨by simpa using hi1.insts, ?_, by simpa using hi1.writ, sortedK_mSet hi1.sorted _ _,
      by simpa using hi1.flat⟩, ⟨by simp [hp.insts], by simp [hp.shift], by simp [hp.subShift]⟩⟩
    intro kv hkv
    simp only at hkv
    rcases mem_mSet _ _ _ _ hkv with h | h
    · subst h
      simp only [hp.insts]
      exact ⟨hv, varsIn_normalize he⟩
    · exact hi1.pend kv h
  · exact ⟨hi1, hp.keep⟩

theorem read_pstep (s : Rebuild w) (var : Int) : PStep s (Opt.read s var) := by
  unfold Opt.read
  split <;> exact ⟨rfl, rfl, rfl, rfl, List.Sublist.refl _⟩

theorem read_pending (s : Rebuild w) (var : Int) : (Opt.read s var).pending = s.pending := by
  unfold Opt.read
  split <;> rfl

end Hpbf.OptOffs
