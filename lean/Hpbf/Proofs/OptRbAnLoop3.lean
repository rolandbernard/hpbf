/-
`loopInsideIf` (the block, emitted in one of three ways, followed by the block-free `after` operations), everything at
once: simulation, footprint, read-before-write account and soundness of the recorded nodes from one case analysis
(`loopInsideIf_first_all`, `loopInsideIf_all`), over `BlockCtx` (the rebuilt child as the state that pushes the block
sees it) and `ChildAn` (what the analysis pass knows of that child).
-/
import Hpbf.Proofs.OptRbAnLoop2
import Hpbf.Proofs.OptRbAnShift
import Hpbf.Proofs.OptRbFoot8

namespace Hpbf
namespace OptProof
open Opt OptSem Ir

variable {w : Nat}

/-- The first half of `loopInsideIf`: the block itself, emitted in one of three ways (inlined; `cond := 0`; `loopOrIf`):
simulation, footprint, and soundness of the recorded nodes, from one case analysis.  `hamoalo`: `finishEnd` calls
`loopInsideIf` directly only under its test `atLeastOnce || …`, and with `L.toAtLeastOnce` inside the wrapping `if`. -/
theorem loopInsideIf_first_all {shP shC shS cS : Int} {bodyS : List (Instr w)} {oS : Bool} {isLoop : Bool}
    {s : Rebuild w} {ps : List (Rebuild w)} {sub : Rebuild w} {cond : Int} {L : OptLoop w}
    {C : List Int} {pc : List (Rebuild w)} {sub0 : Rebuild w} {os os' : Orders} {s' : Rebuild w}
    {G Gc : State w → Prop}
    (hr : ((if L.atMostOnce then Opt.inline s ps sub
      else if L.finite && sub.shift == s.shift && sub.insts.isEmpty && sub.pending.length == 1
          && mHas sub.pending cond then performAll s ps 0 [(cond, Expr.val 0#w)]
      else loopOrIf s ps sub cond true L C : M (Rebuild w))).run os = .ok (s', os'))
    (hwf : Wf s) (hsf : sub.subShift = false → AskStable s sub.shift)
    (h : BlockCtx G Gc shP shC shS cS bodyS oS isLoop s ps sub cond L C pc sub0)
    (hamoalo : L.atMostOnce = true → L.atLeastOnce = true)
    (hA : ChildAn (ValidG Gc shP sub0 pc) sub0 sub) :
    Wf s' ∧ s'.anal = s.anal ∧ s'.cond = s.cond ∧ RStep s s' ∧
    ∃ shE new, (shE = shP ∨ shE = shC + shS) ∧ (s'.noReturn = false → shE = shP + (s'.shift - s.shift)) ∧
      s'.insts = s.insts ++ new ∧ StepNG G shP shE ps s s' [blockInstr isLoop cS shS bodyS oS] new ∧
      FootAll (ValidG G shP s ps) s s' new ∧ AStep (ValidG G shP s ps) s s' new := by
  obtain ⟨hcond, hsh, hrep, hentry, hGc, hwfc, hpre, hkv, hF, hch⟩ := h
  split at hr
  · -- inlined
    rename_i hamo
    have hne : ∀ M0 σE σS, RelAt shP s ps M0 σE σS → G σS → σS.rd cS ≠ 0#w := hF.alo (hamoalo hamo)
    have hGc0 : ∀ M0 σE σS, RelAt shP s ps M0 σE σS → G σS → Gc σS :=
      fun M0 σE σS hrel hg => (hGc M0 σE σS hrel hg).zero (hne M0 σE σS hrel hg)
    have hconv : ∀ {s1 : Rebuild w} {new : List (Instr w)} {M0 : Mem w} {σE σS : State w},
        RelAt shP s ps M0 σE σS → G σS →
        Sim (fun a b => StepQ (shC + shS) ps s1 M0 σE (a.mov shS) b) bodyS new σS σE →
        Sim (StepQ (shC + shS) ps s1 M0 σE) [blockInstr isLoop cS shS bodyS oS] new σS σE := by
      intro s1 new M0 σE σS hrel hG hs
      cases hil : isLoop with
      | true =>
        simp only [blockInstr, if_true]
        exact Sim.of_loop_once (hne M0 σE σS hrel hG)
          (hF.amo hamo hil M0 σE σS hrel hG (hne M0 σE σS hrel hG)) hs
      | false =>
        simp only [blockInstr, Bool.false_eq_true, if_false]
        exact Sim.of_ifnz_once (hne M0 σE σS hrel hG) hs
    cases hss : sub.subShift with
    | true =>
      obtain ⟨w1, w2, w3, w4, w5, w6, new, hi, hcore⟩ := inline_shift_ok (shS := shS) hr hwf hwfc hss hrep hentry hne
        hGc0
      obtain ⟨f1, f2⟩ := inline_shift_void hr hwf hss
      refine ⟨w1, w3, w4, inline_rstep hr hwf hwfc hch, shC + shS, new, Or.inr rfl, ?_, hi,
        ⟨fun h => absurd (w2.symm.trans h) (by simp), ?_⟩, FootAll.void f1 f2 new,
        new_elim hi (inline_shift_an hr hwf hss hentry hne hGc0 hA.sa0 hA.an)⟩
      · intro hnr
        cases hsn : sub.noReturn with
        | true => rw [w5 hsn] at hnr; cases hnr
        | false => rw [w6 hsn, hsh]; omega
      · intro M0 σE σS hrel hG
        obtain ⟨hs, hb⟩ := hcore M0 σE σS hrel hG
        exact ⟨hconv hrel hG hs, hb⟩
    | false =>
      obtain ⟨w1, w2, _, w3, w4, w5, w6, new, hi, hcore⟩ :=
        inline_stay_ok (shS := shS) hr hwf (hpre hss) (hsf hss) (hkv hss) hne
          hGc0
      have hf := inline_stay_foot hr hwf (hpre hss) hne
        hGc0 hch hi
        (fun σ ⟨M0, σS, hrel, hG⟩ => (hcore M0 σ σS hrel hG).2)
      refine ⟨w1, w3, w4, inline_rstep hr hwf hwfc hch, shC + shS, new, Or.inr rfl, ?_, hi,
        ⟨fun h => w2.symm.trans h, ?_⟩, hf, new_elim hi (inline_stay_an hr hwf (hpre hss) hne hGc0 hA.sa0 hA.an)⟩
      · intro hnr
        cases hsn : sub.noReturn with
        | true => rw [w5 hsn] at hnr; cases hnr
        | false => rw [w6 hsn, hsh]; omega
      · intro M0 σE σS hrel hG
        obtain ⟨hs, hb⟩ := hcore M0 σE σS hrel hG
        exact ⟨hconv hrel hG hs, hb⟩
  · rename_i hamo
    have hil : isLoop = true := by
      cases h : isLoop with
      | true => rfl
      | false => exact absurd (hF.ifamo h) hamo
    subst hil
    split at hr
    · -- `cond := 0`
      rename_i hc0
      simp only [Bool.and_eq_true, beq_iff_eq, List.isEmpty_iff] at hc0
      obtain ⟨⟨⟨⟨hfin, hshift⟩, hins⟩, hlen⟩, hhas⟩ := hc0
      obtain ⟨w1, w2, new, hi, hst⟩ := cond_zero_ok (shS := shS) (oS := oS) (G := G) hr hwf hins hlen hhas hrep hentry
        (fun M0 σE σS hrel hG k σk hh => hGc M0 σE σS hrel hG k σk hh (fun h => absurd h hamo)) hcond
        (by rw [hsh, hshift]; omega) (hF.fin hfin (by simpa using hamo))
      obtain ⟨hnb, a1, a2, a3, a4, a5⟩ := new_elim hi (performAll_footAll (V := ValidG G shP s ps) hr hwf)
      refine ⟨w1, w2.anal, w2.cond, performAll_rstep hr hwf, shP, new, Or.inl rfl,
        fun _ => by rw [w2.shift]; omega, hi, ?_, ⟨a1, a2, a3, a4, a5⟩,
        AStep.of_noBlocks hnb (performAll_nstep hr hwf).subAnal⟩
      simpa only [blockInstr, if_true] using hst
    · have hGc' : HeadsIn G Gc shP s ps cS shS bodyS (true = false) := hGc.mono (fun h => absurd h hamo)
      have hflag : if (true : Bool) then L.atMostOnce = false else L.atLeastOnce = false := by
        simp only [if_true]
        cases h : L.atMostOnce with
        | false => rfl
        | true => exact absurd h hamo
      cases hns : (sub.subShift || sub.shift != s.shift) with
      | true =>
        obtain ⟨w1, w2, w3, w4, w5, new, hi, hst⟩ := loopOrIf_shift_ok (oS := oS) hr hwf hwfc hns hcond hsh hrep hentry
          hGc' hF.alo hF.nc
        obtain ⟨f1, f2⟩ := loopOrIf_shift_foot hr hwf hwfc hns
        exact ⟨w1, w3, w4, loopOrIf_rstep hr hwf hwfc hch (fun h => Bool.noConfusion h), shP, new, Or.inl rfl,
          fun _ => by rw [w5]; omega, hi, hst, FootAll.void f1 f2 new,
          new_elim hi (loopOrIf_shift_an hr hwf hwfc hns hcond hsh hrep hentry hGc' hA.shape hflag hA.sa0 hA.an)⟩
      | false =>
        have hss : sub.subShift = false := by
          simp only [Bool.or_eq_false_iff] at hns; exact hns.1
        have hse : sub.shift = s.shift := by
          simp only [Bool.or_eq_false_iff, bne_eq_false_iff_eq] at hns; exact hns.2
        have hsh' : shC + shS = shP := by rw [hsh, hse]; omega
        obtain ⟨w1, w2, new, hi, hst⟩ := loopOrIf_stay_ok' (oS := oS) hr hwf (hpre hss) hns hcond
          hsh' hGc' hF.alo hF.nc hF.ne hF.const
        exact ⟨w1, w2.anal, w2.cond, loopOrIf_rstep hr hwf hwfc hch (fun h => Bool.noConfusion h), shP, new,
          Or.inl rfl, fun _ => by rw [w2.shift]; omega, hi, hst,
          loopOrIf_stay_footAll_of_step (oS := oS) hr hwf (hpre hss) hns hcond hsh' hGc'
            hF.ne hch (fun h => Bool.noConfusion h) hi hst,
          new_elim hi (loopOrIf_stay_an hr hwf (hpre hss) hns hcond hsh' hGc' hF.const hA.an hA.sa0 hA.shape hflag)⟩

/-- `loopInsideIf`: the block, then the (block-free) operations moved behind it. -/
theorem loopInsideIf_all {shP shC shS cS : Int} {bodyS : List (Instr w)} {oS : Bool} {isLoop : Bool}
    {s : Rebuild w} {ps : List (Rebuild w)} {sub : Rebuild w} {cond : Int} {L : OptLoop w}
    {after : List (Int × Expr w)}
    {C : List Int} {pc : List (Rebuild w)} {sub0 : Rebuild w} {os os' : Orders} {s' : Rebuild w}
    {G Gc : State w → Prop}
    (hr : (loopInsideIf s ps sub cond L after C).run os = .ok (s', os'))
    (hwf : Wf s) (hsf : sub.subShift = false → AskStable s sub.shift)
    (h : BlockCtx G Gc shP shC shS cS bodyS oS isLoop s ps sub cond L C pc sub0)
    (hamoalo : L.atMostOnce = true → L.atLeastOnce = true)
    (hafter : after ≠ [] → shP = 0 ∧ sub.shift = s.shift)
    (hA : ChildAn (ValidG Gc shP sub0 pc) sub0 sub) :
    Wf s' ∧ s'.anal = s.anal ∧ s'.cond = s.cond ∧ RStep s s' ∧
    ∃ shE new, (s'.noReturn = false → shE = shP + (s'.shift - s.shift)) ∧
      s'.insts = s.insts ++ new ∧
      StepNG G shP shE ps s s' ([blockInstr isLoop cS shS bodyS oS] ++ [.calc after]) new ∧
      FootAll (ValidG G shP s ps) s s' new ∧ AStep (ValidG G shP s ps) s s' new := by
  obtain ⟨s1, os1, h1, h2⟩ := loopInsideIf_run hr
  obtain ⟨w1, w2, w3, hrs1, shE, new1, hE, hEs, hi1, hst1, hf1, ha1⟩ :=
    loopInsideIf_first_all h1 hwf hsf h hamoalo hA
  have hrs := hrs1.trans (performAll_rstep h2 w1)
  obtain ⟨-, hsh, -⟩ := h
  have n2 := performAll_nstep h2 w1
  have hfoot : ∀ new2, s'.insts = s1.insts ++ new2 → FootAll (ValidG G shP s ps) s s' (new1 ++ new2) ∧
      AStep (ValidG G shP s ps) s s' (new1 ++ new2) := by
    intro new2 hi2
    obtain ⟨hnb, b1, b2, b3, b4, b5⟩ := new_elim hi2 (performAll_footAll (V := fun _ => True) h2 w1)
    exact ⟨FootAll.trans hf1 ⟨b1, b2, b3, b4, b5⟩ (fun _ _ _ _ => trivial),
      ha1.append_noBlocks_right hnb n2.subAnal b4⟩
  have hE0 : after ≠ [] → shE = 0 := by
    intro ha
    obtain ⟨a1, a2⟩ := hafter ha
    rcases hE with h | h
    · rw [h, a1]
    · rw [h, hsh, a1, a2]; omega
  obtain ⟨v1, v2, v3, new2, hi2, hst2⟩ := performAll0_stepN (G := fun _ => True) w1 h2 hE0
  exact ⟨v1, v2.anal.trans w2, v2.cond.trans w3, hrs, shE, new1 ++ new2,
    fun hn => by rw [v2.shift]; exact hEs (v3 ▸ hn), by rw [hi2, hi1, List.append_assoc],
    hst1.trans_g hst2 (fun _ _ _ _ _ _ _ => trivial), hfoot new2 hi2⟩

end OptProof
end Hpbf

#print axioms Hpbf.OptProof.loopInsideIf_all
