/-
C02 / C13 (`allocate_temps` is total): the precondition `TotalPre` (what the input must satisfy so that no lookup of
the pass fails) and the loop invariant `TInv`, which is additional to `PassInv` of `C02AllocPre`.
Before `TInv`, the progress lemmas: steps 4 and 6 of `allocStep` succeed when the table has a location for every
operand and the bitmap does not underflow.  (Steps 2, 3 and 7 are walked once, in both directions, in `C02AllocSpec`.)
-/
import Hpbf.Proofs.C02AllocTrace
import Hpbf.Proofs.C02EmitBase
import Hpbf.Proofs.C02AllocTotalHeap
set_option linter.unusedSimpArgs false

namespace Hpbf
namespace C02

open Bc BcWf BcGen C11

variable {w : Nat}

/-- The precondition for totality: `AllocPre` and
* `defd`   – a temporary written by an instruction has a first and a last use, after that instruction and inside
             the code (`can_alloc_reg:last_use.unwrap`, `first_use.unwrap`, `alloc_temp:last_use.unwrap`, the
             index `insts[first_use]`);
* `defAt`  – a temporary that is read is written by the instruction at its `created` position;
* `unread` – a temporary with use count `0` is not read (it gets no location);
* `lastLt` – recorded last uses are positions of the code;
* `mono`   – two computations that share an operand and whose first uses are stores reach those stores in the
             order of the computations (otherwise `range_extend_to` shrinks an extension,
             `alloc_shrunk_extension_panics`). -/
structure TotalPre (s : St w) : Prop where
  pre : AllocPre s
  defd : ∀ (i : Nat) (x : Instr w) (t : Nat), s.insts[i]? = some x → dstTmp? x = some t →
    ∃ (r : RangeInfo) (f L : Nat), s.ranges[t]? = some r ∧ r.firstUse = some f ∧ r.lastUse = some L ∧
      i < f ∧ f ≤ L
  defAt : ∀ (j : Nat) (x : Instr w) (t : Nat), s.insts[j]? = some x → t ∈ BcWf.uses x →
    ∃ (r : RangeInfo) (y : Instr w), s.ranges[t]? = some r ∧ s.insts[r.created]? = some y ∧ dstTmp? y = some t
  unread : ∀ (t : Nat) (r : RangeInfo), s.ranges[t]? = some r → r.numUses = 0 →
    ∀ (j : Nat) (x : Instr w), s.insts[j]? = some x → t ∉ BcWf.uses x
  lastLt : ∀ (t : Nat) (r : RangeInfo) (L : Nat), s.ranges[t]? = some r → r.lastUse = some L → L < s.insts.size
  mono : ∀ (i1 : Nat) (op1 : BcGen.Op) (t1 : Nat) (a1 b1 : Loc w) (f1 : Nat) (m1 : Int)
    (i2 : Nat) (op2 : BcGen.Op) (t2 : Nat) (a2 b2 : Loc w) (f2 : Nat) (m2 : Int) (u : Nat),
    Cand s i1 op1 t1 a1 b1 f1 m1 (.tmp t1) → Cand s i2 op2 t2 a2 b2 f2 m2 (.tmp t2) → i1 < i2 →
    (a1 = .tmp u ∨ b1 = .tmp u) → (a2 = .tmp u ∨ b2 = .tmp u) → f1 ≤ f2

namespace Alloc

theorem bind_prog {α β : Type} {m : A w α} {f : α → A w β} {a a1 : ASt w} {x : α}
    (hm : m a = .ok (x, a1)) (hf : ∃ res, f x a1 = .ok res) : ∃ res, (m >>= f) a = .ok res := by
  obtain ⟨⟨b, a2⟩, h⟩ := hf
  exact ⟨(b, a2), (bind_ok _ _ _ _ _).2 ⟨x, a1, hm, h⟩⟩

theorem phRewriteK_prog {i : Nat} {k : Unit → A w Unit} {a : ASt w} {cur new : Instr w}
    (hc : a.st.insts[i]? = some cur) (hn : rwInst a.repl cur = .ok new)
    (hk : ∃ res, k () (a.setI i new) = .ok res) : ∃ res, phRewriteK i k a = .ok res := by
  rw [phRewriteK_eq, hc]
  simp only [hn]
  exact hk

theorem rwInst_total {repl : List (Nat × Loc w)} {cur : Instr w}
    (h : ∀ u ∈ BcWf.uses cur, ∃ l, alGet repl u = some l) : ∃ new, rwInst repl cur = .ok new := by
  have key : ∀ l : Loc w, (∀ u ∈ locTmp l, ∃ v, alGet repl u = some v) → ∃ l', replSrc repl l = .ok l' := by
    intro l hl
    cases l with
    | tmp t =>
      obtain ⟨v, hv⟩ := hl t List.mem_cons_self
      exact ⟨v, by simp only [replSrc, hv]⟩
    | _ => exact ⟨_, rfl⟩
  unfold rwInst
  cases cur with
  | copy d s =>
    obtain ⟨s', hs⟩ := key s h
    simp only [hs]
    exact ⟨_, rfl⟩
  | add d s0 s1 | sub d s0 s1 | mul d s0 s1 =>
    obtain ⟨s0', h0⟩ := key s0 (fun u hu => h u (List.mem_append_left _ hu))
    obtain ⟨s1', h1⟩ := key s1 (fun u hu => h u (List.mem_append_right _ hu))
    simp only [arith?, h0, h1]
    exact ⟨_, rfl⟩
  | _ => exact ⟨_, rfl⟩

theorem phLiveK_prog {numRegs : Nat} {k : Unit → A w Unit} {a : ASt w} {live : Nat}
    (hl : liveMask numRegs a.freeRegs = .ok live) (hk : ∃ res, k () (pushLive a live) = .ok res) :
    ∃ res, phLiveK numRegs k a = .ok res := by
  unfold phLiveK
  simp only [get_bind, hl, modify_bind]
  exact hk

/-- Additional to `PassInv s k a` (state `a` before round `k`); which panic site each field excludes is told in §2 of
`Props/C02AllocTotal`. -/
structure TInv (s : St w) (numRegs k : Nat) (a : ASt w) : Prop where
  /-- every temporary read by an instruction still to be processed and created earlier has a location -/
  complete : ∀ (j : Nat) (x : Instr w) (t : Nat) (r : RangeInfo), k ≤ j → a.st.insts[j]? = some x →
    t ∈ BcWf.uses x → s.ranges[t]? = some r → r.created < k → ∃ l, alGet a.repl t = some l
  /-- the current last use of an operand of a waiting computation is not before it -/
  fusedLast : ∀ (f : Nat) (op : BcGen.Op) (m : Int) (t' : Nat) (s0 s1 : Loc w) (t : Nat),
    Fused s k a f op m t' s0 s1 → (s0 = .tmp t ∨ s1 = .tmp t) →
    ∃ (r : RangeInfo) (L : Nat), a.st.ranges[t]? = some r ∧ r.lastUse = some L ∧ f ≤ L
  heapRange : HeapRange a
  replHeap : ∀ (t : Nat) (l : Loc w), alGet a.repl t = some l → ∃ e, (e, t) ∈ a.nre
  heapBound : ∀ (e t : Nat), (e, t) ∈ a.nre → k ≤ e ∧ e < s.insts.size
  sorted : SortedE a.nre
  freeLt : ∀ r ∈ a.freeRegs, r < numRegs
  rangeLt : ∀ (t : Nat) (r : RangeInfo) (L : Nat), a.st.ranges[t]? = some r → r.lastUse = some L →
    L < s.insts.size

theorem tinv_init {s : St w} (hp : TotalPre s) (numRegs : Nat) : TInv s numRegs 0 (initASt numRegs s) := by
  refine ⟨?_, ?_, ?_, ?_, ?_, List.Pairwise.nil, ?_, hp.lastLt⟩
  · intro j x t r _ _ _ _ hc; omega
  · intro f op m t' s0 s1 t h
    exact absurd h (not_fused_init numRegs)
  · intro e t h; simp [initASt] at h
  · intro t l h; simp [initASt, alGet] at h
  · intro e t h; simp [initASt] at h
  · intro r hr
    simpa [initASt] using hr

theorem freeOne_freeRegs_lt {numRegs : Nat} {a : ASt w} (h : ∀ r ∈ a.freeRegs, r < numRegs) (t : Nat) :
    ∀ r ∈ (freeOne numRegs a t).freeRegs, r < numRegs := by
  unfold freeOne
  split
  · split
    · rename_i hlt
      intro r hr
      rcases mem_minPush.1 hr with rfl | g
      · exact hlt
      · exact h r g
    · exact h
  · exact h

theorem freeList_freeRegs_lt {numRegs : Nat} (ts : List Nat) {a : ASt w} (h : ∀ r ∈ a.freeRegs, r < numRegs) :
    ∀ r ∈ (freeList numRegs ts a).freeRegs, r < numRegs :=
  freeList_induct (P := fun b => ∀ r ∈ b.freeRegs, r < numRegs) (fun _ t h => freeOne_freeRegs_lt h t) ts h

end Alloc
end C02
end Hpbf
