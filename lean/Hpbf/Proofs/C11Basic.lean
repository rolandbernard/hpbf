/-
C11 (soundness of the bytecode contract checker `BcWf.check` with respect to `Bc.step`): the Boolean tests
`localOk` / `initOk` / `liveOk` unfolded into the `Prop` structures that the later proofs use.
-/
import Hpbf.BcWf

namespace Hpbf

theorem lt_of_getElem? {α : Type} {a : Array α} {i : Nat} {x : α} (h : a[i]? = some x) : i < a.size := by
  by_cases hi : i < a.size
  · exact hi
  · simp [Array.getElem?_eq_none (Nat.le_of_not_lt hi)] at h

namespace C11

open Bc BcWf

variable {w : Nat}

theorem subset_iff {a b : List Nat} : subset a b = true ↔ ∀ x ∈ a, x ∈ b := by
  simp [subset]

theorem mem_inter {a b : List Nat} {x : Nat} : x ∈ inter a b ↔ x ∈ a ∧ x ∈ b := by
  simp [inter]

theorem mem_union {a b : List Nat} {x : Nat} : x ∈ union a b ↔ x ∈ a ∨ x ∈ b := by
  simp only [union, List.mem_append, List.mem_filter, Bool.not_eq_true', List.contains_eq_mem,
    decide_eq_false_iff_not]
  by_cases h : x ∈ a <;> simp [h]

theorem mem_diff {a b : List Nat} {x : Nat} : x ∈ diff a b ↔ x ∈ a ∧ x ∉ b := by
  simp [diff]

theorem mem_liveIn {ins : Instr w} {out : List Nat} {x : Nat} :
    x ∈ liveIn ins out ↔ x ∈ uses ins ∨ (x ∈ out ∧ x ∉ defs ins) := by
  simp [liveIn, mem_union, mem_diff]

theorem iterate_fixed {α : Type} (f : α → α) {x : α} (h : f x = x) : ∀ k, iterate f k x = x := by
  intro k
  induction k with
  | zero => rfl
  | succ k ih => rw [iterate, h, ih]

/-- The solvers run a fixed number of rounds; a fixed point met after `k` of them is their result.  On a concrete
program this replaces the idle rounds by one check. -/
theorem iterate_eq_of_fix {α : Type} {f : α → α} {x y : α} {k : Nat} (hk : iterate f k x = y) (hy : f y = y) :
    ∀ {n}, k ≤ n → iterate f n x = y := by
  induction k generalizing x with
  | zero => intro n _; cases hk; exact iterate_fixed f hy n
  | succ k ih =>
    intro n hn
    obtain ⟨m, rfl⟩ : ∃ m, n = m + 1 := ⟨n - 1, by omega⟩
    exact ih hk (by omega)

theorem tget_tset (t : Temps w) (i j : Nat) (v : BitVec w) :
    tget (tset t i v) j = if j = i then v else tget t j := by
  induction t with
  | nil =>
    by_cases h : j = i
    · subst h; simp [tset, tget]
    · have h' : ¬ i = j := fun e => h e.symm
      simp [tset, tget, h, h']
  | cons kv rest ih =>
    obtain ⟨k, v'⟩ := kv
    by_cases hk : k = i
    · subst hk
      by_cases h : j = k
      · subst h; simp [tset, tget]
      · have h' : ¬ k = j := fun e => h e.symm
        simp [tset, tget, h, h']
    · by_cases h : j = i
      · subst h; simp [tset, tget, hk, ih]
      · simp [tset, tget, hk, ih, h]

theorem tget_tset_same (t : Temps w) (i : Nat) (v : BitVec w) : tget (tset t i v) i = v := by
  simp [tget_tset]

theorem tget_tset_ne (t : Temps w) {i j : Nat} (v : BitVec w) (h : j ≠ i) :
    tget (tset t i v) j = tget t j := by
  simp [tget_tset, h]

theorem range_all {n : Nat} {f : Nat → Bool} (h : (List.range n).all f = true) {i : Nat} (hi : i < n) :
    f i = true := by
  rw [List.all_eq_true] at h
  exact h i (List.mem_range.mpr hi)

structure LocalFacts (p : Program w) : Prop where
  min0 : p.minAcc ≤ 0
  max0 : 0 ≤ p.maxAcc
  liveSize : p.live.size = p.insts.size
  window : ∀ {i : Nat} {ins : Instr w}, p.insts[i]? = some ins → ∀ o ∈ memOps ins, p.minAcc ≤ o ∧ o ≤ p.maxAcc
  temps : ∀ {i : Nat} {ins : Instr w}, p.insts[i]? = some ins → ∀ t ∈ uses ins ++ defs ins, t < p.temps
  dst : ∀ {i : Nat} {ins : Instr w}, p.insts[i]? = some ins → dstOk ins = true
  succ : ∀ {i : Nat} {ins : Instr w}, p.insts[i]? = some ins → (succs p.insts.size i ins).isSome = true

theorem localOk_facts {p : Program w} (h : localOk p = true) : LocalFacts p := by
  simp only [localOk, Bool.and_eq_true, decide_eq_true_eq, beq_iff_eq] at h
  obtain ⟨⟨⟨h1, h2⟩, h3⟩, h4⟩ := h
  have key : ∀ {i : Nat} {ins : Instr w}, p.insts[i]? = some ins →
      (((∀ o ∈ memOps ins, p.minAcc ≤ o ∧ o ≤ p.maxAcc) ∧ (∀ t ∈ uses ins ++ defs ins, t < p.temps)) ∧
        dstOk ins = true) ∧ (succs p.insts.size i ins).isSome = true := by
    intro i ins hi
    have := range_all h4 (lt_of_getElem? hi)
    simp only [hi, Bool.and_eq_true, List.all_eq_true, decide_eq_true_eq] at this
    exact this
  exact ⟨h1, h2, h3, fun hi => (key hi).1.1.1, fun hi => (key hi).1.1.2, fun hi => (key hi).1.2,
    fun hi => (key hi).2⟩

structure InitFacts (p : Program w) (I : Array (List Nat)) : Prop where
  size : I.size = p.insts.size
  entry : BcWf.getD I 0 = []
  uses : ∀ {i : Nat} {ins : Instr w}, p.insts[i]? = some ins → ∀ t ∈ uses ins, t ∈ BcWf.getD I i
  flow : ∀ {i : Nat} {ins : Instr w}, p.insts[i]? = some ins → ∃ ss, succs p.insts.size i ins = some ss ∧
    ∀ j ∈ ss, ∀ t ∈ BcWf.getD I j, t ∈ BcWf.getD I i ∨ t ∈ defs ins

theorem getD_oob {I : Array (List Nat)} {j : Nat} (h : I.size ≤ j) : BcWf.getD I j = [] := by
  simp [BcWf.getD, Array.getElem?_eq_none h]

theorem initOk_facts {p : Program w} {I : Array (List Nat)} (h : initOk p I = true) :
    InitFacts p I := by
  simp only [initOk, Bool.and_eq_true, beq_iff_eq, Bool.or_eq_true] at h
  obtain ⟨⟨h1, h2⟩, h3⟩ := h
  refine ⟨h1, ?_, ?_, ?_⟩
  · rcases h2 with h2 | h2
    · exact getD_oob (by omega)
    · simpa using h2
  · intro i ins hi t ht
    have := range_all h3 (lt_of_getElem? hi)
    simp only [hi, Bool.and_eq_true] at this
    exact subset_iff.mp this.1 t ht
  · intro i ins hi
    have := range_all h3 (lt_of_getElem? hi)
    simp only [hi, Bool.and_eq_true] at this
    have h2' := this.2
    cases hs : succs p.insts.size i ins with
    | none => simp [hs] at h2'
    | some ss =>
      refine ⟨ss, rfl, ?_⟩
      intro j hj t ht
      simp only [hs, List.all_eq_true, Bool.or_eq_true, decide_eq_true_eq] at h2'
      rcases h2' j hj with hge | hsub
      · rw [getD_oob (by omega)] at ht
        cases ht
      · exact mem_union.mp (subset_iff.mp hsub t ht)

structure LiveFacts (p : Program w) (numRegs : Nat) (O : Array (List Nat)) : Prop where
  size : O.size = p.insts.size
  flow : ∀ {i : Nat} {ins : Instr w}, p.insts[i]? = some ins → ∃ ss, succs p.insts.size i ins = some ss ∧
    ∀ j ∈ ss, ∀ ij, p.insts[j]? = some ij → ∀ t ∈ liveIn ij (BcWf.getD O j), t ∈ BcWf.getD O i
  -- `t < 16`: `live` is a `Vec<u16>` in `src/bc.rs`, one bit for each of the temporaries 0..15.
  declared : ∀ {i : Nat} {ins : Instr w}, p.insts[i]? = some ins → isBranch ins = false →
    ∀ t ∈ BcWf.getD O i, t < numRegs → t < 16 → t ∈ defs ins ∨ ((p.live[i]?).getD 0).testBit t = true

theorem liveOk_facts {p : Program w} {numRegs : Nat} {O : Array (List Nat)}
    (h : liveOk p numRegs O = true) : LiveFacts p numRegs O := by
  simp only [liveOk, Bool.and_eq_true, beq_iff_eq] at h
  obtain ⟨h1, h3⟩ := h
  refine ⟨h1, ?_, ?_⟩
  · intro i ins hi
    have := range_all h3 (lt_of_getElem? hi)
    simp only [hi, Bool.and_eq_true] at this
    have h2' := this.1
    cases hs : succs p.insts.size i ins with
    | none => simp [hs] at h2'
    | some ss =>
      refine ⟨ss, rfl, ?_⟩
      intro j hj ij hij t ht
      simp only [hs, List.all_eq_true] at h2'
      have := h2' j hj
      simp only [hij] at this
      exact subset_iff.mp this t ht
  · intro i ins hi hb t ht hr h16
    have := range_all h3 (lt_of_getElem? hi)
    simp only [hi, Bool.and_eq_true] at this
    have h2' := this.2
    simp only [hb, Bool.false_or, List.all_eq_true] at h2'
    have := h2' t ht
    simp only [hr, h16, decide_true, Bool.and_self, Bool.not_true, Bool.false_or, Bool.or_eq_true,
      List.contains_eq_mem, decide_eq_true_eq] at this
    exact this

/-- `A i` is a set of temporaries attached to pc `i` such that an instruction only reads temporaries in
its set and the set of every successor is contained in the set of the instruction plus what it writes.
Both the definitely-initialised sets and the live-in sets have this shape. -/
structure Flow (p : Program w) (A : Nat → Nat → Prop) : Prop where
  uses : ∀ {i : Nat} {ins : Instr w}, p.insts[i]? = some ins → ∀ t ∈ uses ins, A i t
  flow : ∀ {i : Nat} {ins : Instr w}, p.insts[i]? = some ins →
    ∃ ss, succs p.insts.size i ins = some ss ∧ ∀ j ∈ ss, ∀ t, A j t → A i t ∨ t ∈ defs ins

def initSet (I : Array (List Nat)) (i t : Nat) : Prop := t ∈ BcWf.getD I i

theorem initFlow {p : Program w} {I : Array (List Nat)} (N : InitFacts p I) : Flow p (initSet I) :=
  ⟨fun hi t ht => N.uses hi t ht, fun hi => N.flow hi⟩

theorem initSet_entry {p : Program w} {I : Array (List Nat)} (N : InitFacts p I) (t : Nat) :
    ¬ initSet I 0 t := by
  simp [initSet, N.entry]

/-- Empty at the exit `i = p.insts.size`. -/
def liveSet (p : Program w) (O : Array (List Nat)) (i t : Nat) : Prop :=
  ∃ ins, p.insts[i]? = some ins ∧ t ∈ liveIn ins (BcWf.getD O i)

theorem liveFlow {p : Program w} {numRegs : Nat} {O : Array (List Nat)} (V : LiveFacts p numRegs O) :
    Flow p (liveSet p O) := by
  constructor
  · intro i ins hi t ht
    exact ⟨ins, hi, mem_liveIn.mpr (Or.inl ht)⟩
  · intro i ins hi
    obtain ⟨ss, hss, hfl⟩ := V.flow hi
    refine ⟨ss, hss, ?_⟩
    intro j hj t ht
    obtain ⟨ij, hij, htj⟩ := ht
    have hO := hfl j hj ij hij t htj
    by_cases hd : t ∈ defs ins
    · exact Or.inr hd
    · exact Or.inl ⟨ins, hi, mem_liveIn.mpr (Or.inr ⟨hO, hd⟩)⟩

end C11
end Hpbf
