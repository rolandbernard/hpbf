/-
C01, level 0: the canonical machine on a loop whose body only adds an odd constant to the
current cell (`[-]`, `[+]`, `[---]`, `[>+<->-<]`, …): it terminates with the cell zeroed, emits
nothing and changes nothing else.  The condition on the body is given twice: through the frame the parser
computes for it (`special_iter`), and on the program text for bodies of `+`/`-` only (`OnlyIncDec`, `netSum`).
First the arithmetic behind it: an odd step is a unit modulo `2^w`, so repeatedly adding it reaches zero from every
start value (`odd_step_reaches_zero`).
-/
import Hpbf.Proofs.C01Struct

namespace Hpbf
namespace C01

theorem isOdd_toNat {w : Nat} (hw : 0 < w) (k : BitVec w) (hk : Cell.isOdd k = true) :
    k.toNat % 2 = 1 := by
  unfold Cell.isOdd at hk
  have h := eq_of_beq hk
  have h2 := congrArg BitVec.toNat h
  have one_lt : 1 < 2 ^ w := Nat.one_lt_two_pow (by omega)
  simp only [BitVec.toNat_and, BitVec.toNat_ofNat, Nat.mod_eq_of_lt one_lt, Nat.and_one_is_mod] at h2
  exact h2

theorem exists_mul_add_dvd (k : Nat) (hk : k % 2 = 1) (c : Nat) :
    ∀ w : Nat, ∃ n, 2 ^ w ∣ n * k + c := by
  intro w
  induction w with
  | zero => exact ⟨0, by simp⟩
  | succ w ih =>
    obtain ⟨n, q, hq⟩ := ih
    rcases Nat.mod_two_eq_zero_or_one q with h | h
    · refine ⟨n, q / 2, ?_⟩
      have : q = 2 * (q / 2) := by omega
      rw [hq, Nat.pow_succ, Nat.mul_assoc]; congr 1
    · -- odd quotient `q`: with `n + 2 ^ w` the quotient becomes `q + k`, which is even
      refine ⟨n + 2 ^ w, (q + k) / 2, ?_⟩
      have : q + k = 2 * ((q + k) / 2) := by omega
      rw [Nat.add_mul, Nat.add_right_comm, hq, ← Nat.mul_add, Nat.pow_succ, Nat.mul_assoc]; congr 1

theorem odd_step_reaches_zero {w : Nat} (hw : 0 < w) (k x : BitVec w) (hk : Cell.isOdd k = true) :
    ∃ n, x + BitVec.ofNat w n * k = 0#w := by
  obtain ⟨n, q, hq⟩ := exists_mul_add_dvd k.toNat (isOdd_toNat hw k hk) x.toNat w
  refine ⟨n, ?_⟩
  apply BitVec.eq_of_toNat_eq
  simp only [BitVec.toNat_add, BitVec.toNat_mul, BitVec.toNat_ofNat, Nat.add_mod_mod,
    Nat.mod_mul_mod, Nat.zero_mod]
  rw [Nat.add_comm, hq]; simp

open Ir Sim

variable {w : Nat}

def ZeroedFrom (sb sb' : State w) : Prop :=
  sb'.ptr = sb.ptr ∧ sb'.env = sb.env ∧ sb'.trace = sb.trace ∧
    ∀ x, sb'.tape.get x = if x = sb.ptr then 0#w else sb.tape.get x

def AddedFrom (c : BitVec w) (sb sb' : State w) : Prop :=
  sb'.ptr = sb.ptr ∧ sb'.env = sb.env ∧ sb'.trace = sb.trace ∧
    ∀ x, sb'.tape.get x = if x = sb.ptr then sb.tape.get x + c else sb.tape.get x

theorem rd0_eq (s : State w) : s.rd 0 = s.tape.get s.ptr := by
  unfold State.rd; rw [Int.add_zero]

theorem ofNat_succ_mul (n : Nat) (c : BitVec w) :
    BitVec.ofNat w (n + 1) * c = c + BitVec.ofNat w n * c := by
  rw [BitVec.ofNat_add, BitVec.add_mul, BitVec.add_comm]
  congr 1
  by_cases hw : w = 0
  · subst hw; exact Subsingleton.elim _ _
  · simp

theorem loop_zero_of_iter (hw : 0 < w) (c : BitVec w) (hc : Cell.isOdd c = true) (b rest : Prog)
    (hiter : ∀ (ks : List Prog) (sb : State w),
      ∃ m sb', Steps (BfM w) m ⟨b, ks, sb⟩ ⟨.nil, ks, sb'⟩ ∧ AddedFrom c sb sb') :
    ∀ (ks : List Prog) (sb : State w),
      ∃ m sb', Steps (BfM w) (m + 1) ⟨.loop b rest, ks, sb⟩ ⟨rest, ks, sb'⟩ ∧ ZeroedFrom sb sb' := by
  have main : ∀ (n : Nat) (ks : List Prog) (sb : State w), sb.rd 0 + BitVec.ofNat w n * c = 0#w →
      ∃ m sb', Steps (BfM w) (m + 1) ⟨.loop b rest, ks, sb⟩ ⟨rest, ks, sb'⟩ ∧ ZeroedFrom sb sb' := by
    intro n
    have zero_case : ∀ (ks : List Prog) (sb : State w), sb.rd 0 = 0#w →
        ∃ m sb', Steps (BfM w) (m + 1) ⟨.loop b rest, ks, sb⟩ ⟨rest, ks, sb'⟩ ∧ ZeroedFrom sb sb' := by
      intro ks sb h0
      refine ⟨0, sb, Steps.one (by rw [bstep_loop, if_pos h0]), rfl, rfl, rfl, ?_⟩
      intro x
      by_cases hx : x = sb.ptr
      · rw [if_pos hx, hx, ← rd0_eq]; exact h0
      · rw [if_neg hx]
    induction n with
    | zero =>
      intro ks sb h
      apply zero_case
      simpa using h
    | succ n ih =>
      intro ks sb h
      by_cases h0 : sb.rd 0 = 0#w
      · exact zero_case ks sb h0
      · obtain ⟨m, sb1, hs1, hp1, he1, ht1, hg1⟩ := hiter (.loop b rest :: ks) sb
        have hrd1 : sb1.rd 0 = sb.rd 0 + c := by
          rw [rd0_eq, rd0_eq, hp1, hg1, if_pos rfl]
        have h' : sb1.rd 0 + BitVec.ofNat w n * c = 0#w := by
          rw [hrd1, BitVec.add_assoc, ← ofNat_succ_mul]; exact h
        obtain ⟨m2, sb', hs2, hp2, he2, ht2, hg2⟩ := ih ks sb1 h'
        have s1 : Steps (BfM w) 1 ⟨.loop b rest, ks, sb⟩ ⟨b, .loop b rest :: ks, sb⟩ :=
          Steps.one (by rw [bstep_loop, if_neg h0])
        have s3 : Steps (BfM w) 1 ⟨.nil, .loop b rest :: ks, sb1⟩ ⟨.loop b rest, ks, sb1⟩ :=
          Steps.one (bstep_nil_cons _ _ _)
        have hall := ((s1.trans hs1).trans s3).trans hs2
        refine ⟨1 + m + 1 + m2, sb', ?_, by rw [hp2, hp1], by rw [he2, he1], by rw [ht2, ht1], ?_⟩
        · have e : 1 + m + 1 + (m2 + 1) = 1 + m + 1 + m2 + 1 := by omega
          rw [← e]; exact hall
        · intro x
          rw [hg2, hp1]
          by_cases hx : x = sb.ptr
          · rw [if_pos hx, if_pos hx]
          · rw [if_neg hx, if_neg hx, hg1, if_neg hx]
  intro ks sb
  obtain ⟨n, hn⟩ := odd_step_reaches_zero hw c (sb.rd 0) hc
  exact main n ks sb hn

theorem pure_exec (q : Prog) : Pure q → ∀ {D : Int → BitVec w} {f : Fr w} {sb si : State w}
    (ks : List Prog), StRel D f sb si →
    ∃ sb', Steps (BfM w) (Prog.size q) ⟨q, ks, sb⟩ ⟨.nil, ks, sb'⟩ ∧ StRel D (comp q f).2 sb' si := by
  induction q with
  | nil => intro _ D f sb si ks h; exact ⟨sb, Steps.refl _, h⟩
  | cmd op r ih =>
    intro hp D f sb si ks h
    obtain ⟨h1, _, _, h4⟩ := h.silent op hp.1
    obtain ⟨sb', hs, hr⟩ := ih hp.2 ks h4
    refine ⟨sb', Steps.cons ?_ hs, hr⟩
    rw [bstep_cmd, if_pos h1]
  | loop b r _ _ => intro hp; exact absurd hp (by simp [Pure])

theorem special_iter {b : Prog} {sh : Int} {c : BitVec w}
    (hib : (comp (w := w) b (fresh sh)).1 = [])
    (hshift : (comp (w := w) b (fresh sh)).2.shift = sh)
    (hpend : ∀ a, pend (comp (w := w) b (fresh sh)).2.buff a = if a = sh then c else 0#w) :
    ∀ (ks : List Prog) (sb : State w),
      ∃ m sb', Steps (BfM w) m ⟨b, ks, sb⟩ ⟨.nil, ks, sb'⟩ ∧ AddedFrom c sb sb' := by
  intro ks sb
  have hpure := pure_of_comp_nil b (fresh sh) hib
  have h0 : StRel (fun _ => 0#w) (fresh sh) sb { sb with ptr := sb.ptr - sh } := by
    refine ⟨rfl, rfl, ?_, ?_⟩
    · show sb.ptr = sb.ptr - sh + sh
      omega
    · intro x; simp [fresh]
  obtain ⟨sb', hs, hr⟩ := pure_exec b hpure ks h0
  refine ⟨_, sb', hs, ?_, hr.env, hr.trace, ?_⟩
  · rw [hr.ptr, hshift]
    show sb.ptr - sh + sh = sb.ptr
    omega
  · intro x
    rw [hr.tape, hpend]
    show sb.tape.get x + (if x - (sb.ptr - sh) = sh then c else 0#w) + 0#w = _
    by_cases hx : x = sb.ptr
    · have : x - (sb.ptr - sh) = sh := by omega
      rw [if_pos this, if_pos hx]; simp
    · have : ¬ x - (sb.ptr - sh) = sh := by omega
      rw [if_neg this, if_neg hx]; simp

def OnlyIncDec : Prog → Prop
  | .nil => True
  | .cmd op r => (op = .inc ∨ op = .dec) ∧ OnlyIncDec r
  | .loop _ _ => False

/-- The last two arms are never reached under `OnlyIncDec`; they only make the function total. -/
def netSum : Prog → BitVec w
  | .nil => 0#w
  | .cmd .inc r => 1#w + netSum r
  | .cmd .dec r => (-1#w) + netSum r
  | .cmd _ r => netSum r
  | .loop _ r => netSum r

theorem incdec_exec (q : Prog) : OnlyIncDec q → ∀ (ks : List Prog) (sb : State w),
    ∃ sb', Steps (BfM w) (Prog.size q) ⟨q, ks, sb⟩ ⟨.nil, ks, sb'⟩ ∧ AddedFrom (netSum q) sb sb' := by
  induction q with
  | nil =>
    intro _ ks sb
    refine ⟨sb, Steps.refl _, rfl, rfl, rfl, ?_⟩
    intro x; simp [netSum]
  | cmd op r ih =>
    intro hp ks sb
    have key : ∀ d : BitVec w, (Bf.applyOp op sb) = (true, sb.wr 0 (sb.rd 0 + d)) →
        netSum (w := w) (.cmd op r) = d + netSum r →
        ∃ sb', Steps (BfM w) (Prog.size (.cmd op r)) ⟨.cmd op r, ks, sb⟩ ⟨.nil, ks, sb'⟩ ∧
          AddedFrom (netSum (.cmd op r)) sb sb' := by
      intro d hop hsum
      obtain ⟨sb', hs, hp', he', ht', hg'⟩ := ih hp.2 ks (sb.wr 0 (sb.rd 0 + d))
      refine ⟨sb', Steps.cons (by rw [bstep_cmd, hop]; rfl) hs, hp', he', ht', ?_⟩
      intro x
      rw [hg', tape_wr, hsum]
      have hptr : (sb.wr 0 (sb.rd 0 + d)).ptr = sb.ptr := rfl
      rw [hptr, Int.add_zero]
      by_cases hx : x = sb.ptr
      · rw [if_pos hx, if_pos hx, if_pos hx, rd0_eq, hx]; ac_rfl
      · rw [if_neg hx, if_neg hx, if_neg hx]
    rcases hp.1 with rfl | rfl
    · exact key 1#w rfl rfl
    · exact key (-1#w) rfl rfl
  | loop b r _ _ => intro hp; exact absurd hp (by simp [OnlyIncDec])

theorem onlyIncDec_of_repr {src : List Kind} {i j : Nat} {q : Prog} (h : Repr src i j q)
    (hk : ∀ m, i ≤ m → m < j →
      src[m]? = some .inc ∨ src[m]? = some .dec ∨ src[m]? = some .comment) : OnlyIncDec q := by
  induction h with
  | nil => trivial
  | comment _ hr ih => exact ih (fun m h1 h2 => hk m (by omega) h2)
  | @cmd i j k op p hc hop hr ih =>
    have hle := hr.le
    refine ⟨?_, ih (fun m h1 h2 => hk m (by omega) h2)⟩
    rcases hk i (Nat.le_refl _) (by omega) with h | h | h
    · rw [hc] at h; cases h; simp [Kind.toOp?] at hop; exact Or.inl hop.symm
    · rw [hc] at h; cases h; simp [Kind.toOp?] at hop; exact Or.inr hop.symm
    · rw [hc] at h; cases h; simp [Kind.toOp?] at hop
  | @loop i k j body rest ho hb hc hr _ _ =>
    have := hb.le
    have := hr.le
    rcases hk i (Nat.le_refl _) (by omega) with h | h | h <;> (rw [ho] at h; cases h)

end C01
end Hpbf
