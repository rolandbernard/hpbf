/-
C03 (control flow): the register file, decoding the program counter, the frame property
of `X86Sem.exec` (an instruction changes at most the tape cell / stack slot its operand denotes), the
refinement `stepPlain` ⊑ `exec` through `view`, multi-step execution of the program machine (`steps`;
`X86Prog.fuelRun` makes the generic facts about fuelled runs available for `run`), and `At cfg code pos xs`: the
machine is at byte `pos` of `code` and the instructions `xs` follow.
-/
import Hpbf.Proofs.C03
import Hpbf.Proofs.C03FlowLayout
import Hpbf.X86Prog
import Hpbf.Proofs.Fuel
namespace Hpbf
namespace C03
open Asm JitGen X86Sem X86Prog
variable {w : Nat}

@[simp] theorem regfile_ofFn_get (g : Reg → BitVec 64) : (RegFile.ofFn g).get = g := by
  funext r; cases r <;> rfl

@[simp] theorem regfile_set_get (f : RegFile) (r r' : Reg) (v : BitVec 64) :
    (f.set r v).get r' = if r' = r then v else f.get r' := by
  simp [RegFile.set]

theorem regfile_ext {f g : RegFile} (h : f.get = g.get) : f = g := by
  have h' := fun r => congrFun h r
  cases f; cases g
  have := h' .rax; have := h' .rcx; have := h' .rdx; have := h' .rbx; have := h' .rsp; have := h' .rbp
  have := h' .rsi; have := h' .rdi; have := h' .r8; have := h' .r9; have := h' .r10; have := h' .r11
  have := h' .r12; have := h' .r13; have := h' .r14; have := h' .r15
  simp_all [RegFile.get]

@[simp] theorem regfile_ofFn_get_eq (f : RegFile) : RegFile.ofFn f.get = f := regfile_ext (by simp)

theorem size_pos (x : X86) : 0 < x.size := by
  unfold X86.size
  exact List.length_pos_iff.2 (encode_ne_nil' x)

theorem fetchList_append (A : List X86) (x : X86) (B : List X86) :
    fetchList (A ++ x :: B) (sizeAll A) = some x := by
  induction A with
  | nil => simp [fetchList]
  | cons a A ih =>
    have := size_pos a
    simp only [List.cons_append, fetchList, sizeAll_cons]
    rw [if_neg (by omega), if_neg (by omega)]
    rw [show a.size + sizeAll A - a.size = sizeAll A by omega]
    exact ih

theorem fetchList_at {code A xs B : List X86} (h : code = A ++ xs ++ B) (pre : List X86) (x : X86)
    (post : List X86) (hx : xs = pre ++ x :: post) :
    fetchList code (sizeAll A + sizeAll pre) = some x := by
  subst h hx
  have : A ++ (pre ++ x :: post) ++ B = (A ++ pre) ++ x :: (post ++ B) := by simp
  rw [this, ← sizeAll_append]
  exact fetchList_append _ _ _


def FrameAt (p : Option Place) (m m' : MState w) : Prop :=
  (∀ j, p ≠ some (.cell j) → m'.tape j = m.tape j) ∧ (∀ k, p ≠ some (.slot k) → m'.stack k = m.stack k)

theorem frameAt_refl (p : Option Place) (m : MState w) : FrameAt p m m := ⟨fun _ _ => rfl, fun _ _ => rfl⟩

theorem frameAt_flags {p : Option Place} {m m' : MState w} (h : FrameAt p m m') (z c : Option Bool) :
    FrameAt p m (m'.setFlags z c) := h

theorem writeReg_frame {m m' : MState w} {sz : Size} {r : Reg} {v : BitVec 64} (p : Option Place)
    (h : writeReg m sz r v = some m') : FrameAt p m m' := by
  unfold writeReg at h
  split at h
  · cases h
  · cases h; exact frameAt_refl _ _

theorem writePlace_frame {m m' : MState w} {sz : Size} {v : BitVec 64} {pl : Place}
    (h : writePlace m sz v pl = some m') : FrameAt (some pl) m m' := by
  cases pl with
  | reg r =>
    simp only [writePlace] at h
    split at h
    · exact writeReg_frame _ h
    · cases h
  | cell i =>
    simp only [writePlace] at h
    split at h
    · cases h
      refine ⟨fun j hj => ?_, fun _ _ => rfl⟩
      have : j ≠ i := fun e => hj (by rw [e])
      simp [MState.setCell, this]
    · cases h
  | slot k =>
    simp only [writePlace] at h
    split at h
    · cases h
      refine ⟨fun _ _ => rfl, fun j hj => ?_⟩
      have : j ≠ k := fun e => hj (by rw [e])
      simp [MState.setSlot, this]
    · cases h

theorem aluRm_frame {m m' : MState w} {op : Alu} {sz : Size} {rm : RegMem} {src : BitVec 64} {k : Bool}
    (h : aluRm m op sz rm src k = some m') : FrameAt (resolve w rm) m m' := by
  unfold aluRm at h
  cases hp : resolve w rm with
  | none => simp [hp] at h
  | some p =>
    cases ha : readPlace m sz p with
    | none => simp [hp, ha] at h
    | some a =>
      simp only [hp, ha, Option.bind_eq_bind, Option.bind_some] at h
      cases hw : writePlace m sz (alu op sz.bits a src).1 p with
      | none => simp [hw] at h
      | some m1 =>
        simp only [hw, Option.bind_some, Option.some.injEq] at h
        subst h
        exact frameAt_flags (writePlace_frame hw) _ _

theorem aluR_frame {m m' : MState w} {op : Alu} {sz : Size} {r : Reg} {rm : RegMem} (p : Option Place)
    (h : aluR m op sz r rm = some m') : FrameAt p m m' := by
  unfold aluR at h
  cases hp : resolve w rm with
  | none => simp [hp] at h
  | some pl =>
    cases hb : readPlace m sz pl with
    | none => simp [hp, hb] at h
    | some b =>
      simp only [hp, hb, Option.bind_eq_bind, Option.bind_some] at h
      cases hw : writeReg m sz r (alu op sz.bits (m.regs r) b).1 with
      | none => simp [hw] at h
      | some m1 =>
        simp only [hw, Option.bind_some, Option.some.injEq] at h
        subst h
        exact frameAt_flags (writeReg_frame _ hw) _ _

theorem exec_frame {x : X86} {m m' : MState w} (h : exec x m = some m') : FrameAt (placeOf w x) m m' := by
  unfold exec at h
  by_cases hf : x.fits = true
  case neg => simp [hf] at h
  simp only [hf, if_true] at h
  unfold execCore at h
  cases x <;> simp only [placeOf, rmOf, Option.bind_some, Option.bind_none] <;> try (cases h; done)
  case addRmImm | addRmR | subRmImm | subRmR | incRm | decRm => exact aluRm_frame h
  case addRRm | subRRm => exact aluR_frame _ h
  case movRImm64 r imm => exact writeReg_frame _ h
  case lea r a =>
    cases ha : leaAddr m a with
    | none => simp [ha] at h
    | some v => simp only [ha, Option.bind_eq_bind, Option.bind_some] at h; exact writeReg_frame _ h
  case movRRm sz r rm =>
    cases hp : resolve w rm with
    | none => simp [hp] at h
    | some pl =>
      cases hv : readPlace m sz pl with
      | none => simp [hp, hv] at h
      | some v => simp only [hp, hv, Option.bind_eq_bind, Option.bind_some] at h; exact writeReg_frame _ h
  case movRmR sz rm _ | movRmImm sz rm _ =>
    cases hp : resolve w rm with
    | none => simp [hp] at h
    | some pl => simp only [hp, Option.bind_eq_bind, Option.bind_some] at h; exact writePlace_frame h
  case imulRRm r rm =>
    cases hp : resolve w rm with
    | none => simp [hp] at h
    | some pl =>
      cases hv : readPlace m .b64 pl with
      | none => simp [hp, hv] at h
      | some v =>
        simp only [hp, hv, Option.bind_eq_bind, Option.bind_some] at h
        cases hw : writeReg m .b64 r (m.regs r * v) with
        | none => simp [hw] at h
        | some m1 =>
          simp only [hw, Option.bind_some, Option.some.injEq] at h; subst h
          exact frameAt_flags (writeReg_frame _ hw) _ _
  case imulRRmImm r rm imm =>
    cases hp : resolve w rm with
    | none => simp [hp] at h
    | some pl =>
      cases hv : readPlace m .b64 pl with
      | none => simp [hp, hv] at h
      | some v =>
        simp only [hp, hv, Option.bind_eq_bind, Option.bind_some] at h
        cases hw : writeReg m .b64 r (v * immVal imm) with
        | none => simp [hw] at h
        | some m1 =>
          simp only [hw, Option.bind_some, Option.some.injEq] at h; subst h
          exact frameAt_flags (writeReg_frame _ hw) _ _


theorem mstate_ext {m m' : MState w} (h1 : m.regs = m'.regs) (h2 : m.tape = m'.tape)
    (h3 : m.stack = m'.stack) (h4 : m.zf = m'.zf) (h5 : m.cf = m'.cf) : m = m' := by
  cases m; cases m'; simp_all

/-- Everything of the state that is neither visible through `view` nor the program counter / `oob`. -/
structure SameCtl (s s' : PState w) : Prop where
  lptr : s'.lptr = s.lptr
  tapeOk : s'.tapeOk = s.tapeOk
  buf : s'.buf = s.buf
  size : s'.size = s.size
  off : s'.off = s.off
  budget : s'.budget = s.budget
  base : s'.base = s.base
  env : s'.env = s.env
  trace : s'.trace = s.trace
  len : s'.stk.length = s.stk.length

theorem SameCtl.rfl' (s : PState w) : SameCtl s s := ⟨rfl, rfl, rfl, rfl, rfl, rfl, rfl, rfl, rfl, rfl⟩

theorem SameCtl.trans {a b c : PState w} (h1 : SameCtl a b) (h2 : SameCtl b c) : SameCtl a c :=
  ⟨h2.lptr.trans h1.lptr, h2.tapeOk.trans h1.tapeOk, h2.buf.trans h1.buf, h2.size.trans h1.size,
   h2.off.trans h1.off, h2.budget.trans h1.budget, h2.base.trans h1.base, h2.env.trans h1.env,
   h2.trace.trans h1.trace, h2.len.trans h1.len⟩

/-- The slot the operand of `x` denotes, if any, belongs to the activation. -/
def SlotOk (w n : Nat) (x : X86) : Prop := ∀ k, placeOf w x = some (.slot k) → k < n

theorem stepPlain_spec {x : X86} {s : PState w} {m' : MState w} (h : exec x (view s) = some m')
    {n : Nat} (hn : n ≤ s.stk.length) (hslot' : SlotOk w n x) :
    ∃ s', stepPlain x s = .next s' ∧ view s' = m' ∧ s'.pc = s.pc + x.size ∧ SameCtl s s' ∧
      s'.stk.drop n = s.stk.drop n := by
  have hslot : SlotOk w s.stk.length x := fun k hk => Nat.lt_of_lt_of_le (hslot' k hk) hn
  -- `exec` changed tape and stack at most at the place `placeOf w x`; `stepPlain` writes back exactly that place
  have hfr := exec_frame h
  unfold stepPlain
  simp only [h]
  cases hp : placeOf w x with
  | none =>
    refine ⟨_, rfl, ?_, rfl, ⟨rfl, rfl, rfl, rfl, rfl, rfl, rfl, rfl, rfl, rfl⟩, rfl⟩
    rw [hp] at hfr
    apply mstate_ext
    · simp [view]
    · funext o; exact (hfr.1 o (by simp)).symm
    · funext k; exact (hfr.2 k (by simp)).symm
    · rfl
    · rfl
  | some pl =>
    rw [hp] at hfr
    cases pl with
    | reg r =>
      refine ⟨_, rfl, ?_, rfl, ⟨rfl, rfl, rfl, rfl, rfl, rfl, rfl, rfl, rfl, rfl⟩, rfl⟩
      apply mstate_ext
      · simp [view]
      · funext o; exact (hfr.1 o (by simp)).symm
      · funext k; exact (hfr.2 k (by simp)).symm
      · rfl
      · rfl
    | cell i =>
      refine ⟨_, rfl, ?_, rfl, ⟨rfl, rfl, rfl, rfl, rfl, rfl, rfl, rfl, rfl, rfl⟩, rfl⟩
      apply mstate_ext
      · simp [view]
      · funext o
        simp only [view]
        by_cases hsame : m'.tape i = s.tape.get (s.lptr + i)
        · rw [if_pos hsame]
          by_cases ho : o = i
          · subst ho; exact hsame.symm
          · exact (hfr.1 o (by simpa using fun e => ho e.symm)).symm
        · rw [if_neg hsame]
          simp only [Tape.get_set]
          by_cases ho : o = i
          · subst ho; simp
          · have : ¬ s.lptr + o = s.lptr + i := by omega
            rw [if_neg this]
            exact (hfr.1 o (by simpa using fun e => ho e.symm)).symm
      · funext k; exact (hfr.2 k (by simp)).symm
      · rfl
      · rfl
    | slot k =>
      have hk := hslot k hp
      simp only [hk, if_true]
      refine ⟨_, rfl, ?_, rfl, ⟨rfl, rfl, rfl, rfl, rfl, rfl, rfl, rfl, rfl, by simp⟩,
        List.drop_set_of_lt (hslot' k hp)⟩
      apply mstate_ext
      · simp [view]
      · funext o; exact (hfr.1 o (by simp)).symm
      · funext j
        simp only [view]
        by_cases hj : j = k
        · subst hj; simp [List.getD_eq_getElem?_getD, hk]
        · have := hfr.2 j (by simpa using fun e => hj e.symm)
          simp only [view] at this
          rw [this]
          simp [List.getD_eq_getElem?_getD, Ne.symm hj]
      · rfl
      · rfl

theorem resolve_none_of_cxtDisp {rm : RegMem} (h : (cxtDisp rm).isSome = true) : X86Sem.resolve w rm = none := by
  unfold cxtDisp at h
  split at h
  · rfl
  · cases h

/-- An instruction `X86Sem` accepts is none of the forms the program machine treats itself. -/
theorem stepInstr_of_exec (cfg : Cfg) {x : X86} {s : PState w} {m' : MState w}
    (h : exec x (view s) = some m') : stepInstr cfg x s = stepPlain x s := by
  have hf : x.fits = true := by
    unfold exec at h; by_cases hf : x.fits = true
    · exact hf
    · simp [hf] at h
  have hc : execCore x (view s) = some m' := by simpa [exec, hf] using h
  unfold stepInstr
  simp only [hf, Bool.not_true, Bool.false_eq_true, if_false]
  -- not closed by `rfl`: the forms `stepInstr` intercepts. On each `execCore` fails: the control instructions have
  -- no semantics there, `writeReg` refuses `rsp` / `rbp`, `resolve` refuses an operand `[rbx + d]` (`cxtDisp`)
  cases x <;> try rfl
  all_goals (try (simp [execCore] at hc; done))
  case addRmImm sz rm imm =>
    simp only
    by_cases h1 : sz = .b64 ∧ rm = .reg .rsp
    · obtain ⟨rfl, rfl⟩ := h1
      simp [execCore, aluRm, X86Sem.resolve, readPlace, writePlace, writeReg] at hc
    · by_cases h2 : sz = .b64 ∧ rm = .reg .rbp
      · obtain ⟨rfl, rfl⟩ := h2
        simp [execCore, aluRm, X86Sem.resolve, readPlace, writePlace, writeReg] at hc
      · simp [h1, h2]
  case subRmImm rm imm =>
    simp only
    by_cases h1 : rm = .reg .rsp
    · subst h1
      simp [execCore, aluRm, X86Sem.resolve, readPlace, writePlace, writeReg] at hc
    · simp [h1]
  case movRRm sz r rm =>
    simp only
    by_cases h1 : sz = .b64 ∧ r = .rbp
    · obtain ⟨rfl, rfl⟩ := h1
      simp only [execCore] at hc
      cases hp : X86Sem.resolve w rm with
      | none => simp [hp] at hc
      | some pl =>
        cases hv : readPlace (view s) .b64 pl with
        | none => simp [hp, hv] at hc
        | some v => simp [hp, writeReg] at hc
    · by_cases h2 : sz = .b64 ∧ (cxtDisp rm).isSome = true
      · obtain ⟨rfl, h2⟩ := h2
        have : X86Sem.resolve w rm = none := resolve_none_of_cxtDisp h2
        simp [execCore, this] at hc
      · simp [h1, h2]
  case lea r a =>
    simp only
    by_cases h1 : r = .rbp
    · subst h1
      simp only [execCore] at hc
      cases ha : leaAddr (view s) a with
      | none => simp [ha] at hc
      | some v => simp [ha, writeReg] at hc
    · simp [h1]
  case movRmR sz rm r =>
    simp only
    cases hd : cxtDisp rm with
    | none => rfl
    | some d =>
      have : X86Sem.resolve w rm = none := resolve_none_of_cxtDisp (by rw [hd]; rfl)
      simp [execCore, this] at hc
  case subRRm sz r rm =>
    simp only
    by_cases h2 : sz = .b64 ∧ (cxtDisp rm).isSome = true
    · obtain ⟨rfl, h2⟩ := h2
      have : X86Sem.resolve w rm = none := resolve_none_of_cxtDisp h2
      simp [execCore, aluR, this] at hc
    · simp [h2]


/-- Composes by `steps_trans`; `run` only where the function returns or where `FuelRun` is used. -/
def steps (cfg : Cfg) : Nat → PState w → Option (PState w)
  | 0, s => some s
  | n + 1, s =>
    match step cfg s with
    | .next s' => steps cfg n s'
    | _ => none

theorem _root_.Hpbf.X86Prog.fuelRun (cfg : Cfg) :
    FuelRun (fun s s' : PState w => step cfg s = .next s') .fuel (run cfg) where
  zero _ := rfl
  next h f := by rw [run, h]
  final s := by
    cases h : step cfg s with
    | next s' => exact .inl ⟨s', rfl⟩
    | ret s' => exact .inr ⟨.ret s', fun f => by rw [run, h], fun _ e => by cases e⟩
    | fault x s' => exact .inr ⟨.fault x s', fun f => by rw [run, h], fun _ e => by cases e⟩
  inj h := Outcome.fuel.inj h

/-- `steps` is "out of fuel there". -/
theorem steps_iff {cfg : Cfg} {n : Nat} {s s' : PState w} : steps cfg n s = some s' ↔ run cfg n s = .fuel s' := by
  induction n generalizing s with
  | zero => simp [steps, run]
  | succ n ih =>
    simp only [steps, run]
    cases step cfg s with
    | next s1 => exact ih
    | ret s1 => simp
    | fault f s1 => simp

theorem steps_one {cfg : Cfg} {s s' : PState w} (h : step cfg s = .next s') : steps cfg 1 s = some s' := by
  simp [steps, h]

theorem run_of_steps {cfg : Cfg} {n : Nat} {s s' : PState w} (h : steps cfg n s = some s') (k : Nat) :
    run cfg (n + k) s = run cfg k s' := (X86Prog.fuelRun cfg).split (steps_iff.1 h) k

theorem steps_trans {cfg : Cfg} {n k : Nat} {s s' s'' : PState w} (h1 : steps cfg n s = some s')
    (h2 : steps cfg k s' = some s'') : steps cfg (n + k) s = some s'' := by
  rw [steps_iff] at h2 ⊢; rw [run_of_steps h1, h2]

structure At (cfg : Cfg) (code : List X86) (pos : Nat) (xs : List X86) : Prop where
  fetch : cfg.fetch = fetchList code
  split : ∃ A B, code = A ++ xs ++ B ∧ sizeAll A = pos

theorem At.head {cfg : Cfg} {code : List X86} {pos : Nat} {x : X86} {xs : List X86}
    (h : At cfg code pos (x :: xs)) : cfg.fetch pos = some x := by
  obtain ⟨A, B, h1, h2⟩ := h.split
  rw [h.fetch, ← h2]
  have := fetchList_at h1 [] x xs rfl
  simpa using this

theorem At.tail {cfg : Cfg} {code : List X86} {pos : Nat} {x : X86} {xs : List X86}
    (h : At cfg code pos (x :: xs)) : At cfg code (pos + x.size) xs := by
  obtain ⟨A, B, h1, h2⟩ := h.split
  exact ⟨h.fetch, A ++ [x], B, by rw [h1]; simp, by simp [h2]⟩

theorem At.drop {cfg : Cfg} {code : List X86} {pos : Nat} {xs ys : List X86}
    (h : At cfg code pos (xs ++ ys)) : At cfg code (pos + sizeAll xs) ys := by
  obtain ⟨A, B, h1, h2⟩ := h.split
  exact ⟨h.fetch, A ++ xs, B, by rw [h1]; simp, by simp [h2]⟩

theorem step_at {cfg : Cfg} {code : List X86} {x : X86} {xs : List X86} {s : PState w}
    (h : At cfg code s.pc (x :: xs)) : step cfg s = stepInstr cfg x s := by
  simp [step, h.head]

end C03
end Hpbf
