/-
One judgement for the oracle monad `M`. `Tri t x Q`: every successful run of `x` ends in `Q`; in total mode
(`t = true`) moreover `x` is `Safe` (it never fails with a panic, and some oracle makes it succeed). The rules hold
for both modes at once, so a function of `Opt.lean` walked forward with `t` free yields the statement about its
successful runs (`Tri.post`) and its totality (`Tri.safe`) together. For code that leads from a rebuild state to a
rebuild state a preorder `Along I R` supplies the composition rules: a step from `s` that ends in `R s`, then a
step from there.
* `Along I R`: a relation `R`, reflexive and transitive on the states with `I`, that keeps `I`; such a relation holds
  along `explosionVars`, `performCheck`, `emitAll`, `emitReadAll`, `clobberAll` as soon as it holds along one `emit`
  (`read`, `clobber`): the rules `Along.tri_*`.  `Along.foldlM_post` is the `.ok` fold rule with a fact about each
  element of the list.
* `instr_list_induction`: induction over instructions and instruction lists together.

Which form for what. The lemmas about memories (`emit_res`, `performAll_spec`, `clobber_spec`,
`gatherForEmit_spec`, `step_*`) are in run form, `x.run os = .ok (s', os') → …`: they speak of one successful run
and take it apart with `run_bind_ok`. `Tri` is for walking a function of `Opt.lean` once for its successful runs
and its totality together, and for the rules `Along.tri_*`. A run-form lemma enters a walk by `Tri.ofRun`
(mode `false`); a walk gives a run-form fact back by `Tri.post`. The fold rules: `Tri.foldlM` (an invariant, both
modes), `Along.tri_foldlM` (the same for the relation from the start state), `Along.foldlM_post` (run form, `R`
and a fact about each element); `foldlM_inv`, `foldlM_inv_prefix` (`OptRbMonad`) are the run-form rules for an
invariant that may mention the oracle, alone and with the list of elements already processed.

`Tri` is not an instance of `StateExcept.Tr`. `Tr true` asks for success from the given state. `Tri true` is
`Safe`, and the oracle is part of the state: SOME oracle makes the run succeed, and with any other a failure is
an oracle mismatch and never a panic.
-/
import Hpbf.Proofs.OptTotalDefs
import Hpbf.Proofs.OptRbPrim

namespace Hpbf
namespace OptProof
open Opt OptSem Ir OptTotal

variable {w : Nat} {α β γ : Type}

structure Along (I : Rebuild w → Prop) (R : Rebuild w → Rebuild w → Prop) : Prop where
  refl : ∀ s, I s → R s s
  trans : ∀ a b c, R a b → R b c → R a c
  keep : ∀ s s', I s → R s s' → I s'

/-- Along a `foldlM` whose steps are `R`-steps: `R`, and every fact `P x` that the step for `x` establishes and `R` keeps. -/
theorem Along.foldlM_post {I : Rebuild w → Prop} {R : Rebuild w → Rebuild w → Prop} (A : Along I R)
    {γ : Type} (f : Rebuild w → γ → M (Rebuild w)) (l : List γ) (P : γ → Rebuild w → Prop)
    (hP : ∀ x s s', R s s' → P x s → P x s')
    (hstep : ∀ s x os s' os', x ∈ l → I s → (f s x).run os = .ok (s', os') → R s s' ∧ P x s')
    {s : Rebuild w} {os : Orders} {s' : Rebuild w} {os' : Orders} (hI : I s)
    (hr : (l.foldlM f s).run os = .ok (s', os')) : R s s' ∧ ∀ x ∈ l, P x s' := by
  induction l generalizing s os with
  | nil =>
    rw [List.foldlM_nil, run_pure] at hr
    cases hr; exact ⟨A.refl _ hI, fun _ h => by cases h⟩
  | cons x l ih =>
    rw [List.foldlM_cons, run_bind_ok] at hr
    obtain ⟨s1, os1, h1, h2⟩ := hr
    obtain ⟨r1, p1⟩ := hstep s x os s1 os1 (by simp) hI h1
    obtain ⟨r2, p2⟩ := ih (fun s x os s' os' hx => hstep s x os s' os' (List.mem_cons_of_mem _ hx))
      (A.keep _ _ hI r1) h2
    refine ⟨A.trans _ _ _ r1 r2, fun y hy => ?_⟩
    rcases List.mem_cons.1 hy with rfl | hy
    · exact hP _ _ _ r2 p1
    · exact p2 y hy

/-- Induction over instructions and instruction lists together (the recursor of `Instr`, with the instructions
that are not blocks as one case). -/
theorem instr_list_induction {P : Instr w → Prop} {Q : List (Instr w) → Prop}
    (hnb : ∀ i, C01Dse.isBlock i = false → P i)
    (hloop : ∀ c sh body o, Q body → P (.loop c sh body o))
    (hif : ∀ c sh body, Q body → P (.ifnz c sh body))
    (hnil : Q []) (hcons : ∀ i rest, P i → Q rest → Q (i :: rest)) : (∀ i, P i) ∧ ∀ l, Q l :=
  ⟨Instr.rec (motive_1 := P) (motive_2 := Q) (fun _ => hnb _ rfl) (fun _ => hnb _ rfl) (fun _ => hnb _ rfl)
      hloop hif hnil hcons,
    Instr.rec_1 (motive_1 := P) (motive_2 := Q) (fun _ => hnb _ rfl) (fun _ => hnb _ rfl) (fun _ => hnb _ rfl)
      hloop hif hnil hcons⟩

def Tri (t : Bool) (x : M α) (Q : α → Prop) : Prop :=
  (t = true → Safe x) ∧ ∀ os a os', x.run os = .ok (a, os') → Q a

theorem Tri.of {t : Bool} {x : M α} {Q : α → Prop} (hs : t = true → Safe x)
    (hp : ∀ os a os', x.run os = .ok (a, os') → Q a) : Tri t x Q := ⟨hs, hp⟩

/-- The partial mode asks for the postcondition only. -/
theorem Tri.ofRun {x : M α} {Q : α → Prop} (hp : ∀ os a os', x.run os = .ok (a, os') → Q a) : Tri false x Q :=
  ⟨fun e => Bool.noConfusion e, hp⟩

theorem Tri.safe {x : M α} {Q : α → Prop} (h : Tri true x Q) : Safe x := h.1 rfl

theorem Tri.post {t : Bool} {x : M α} {Q : α → Prop} (h : Tri t x Q) {os : Orders} {a : α} {os' : Orders}
    (hr : x.run os = .ok (a, os')) : Q a := h.2 os a os' hr

theorem Tri.pure {t : Bool} {a : α} {Q : α → Prop} (h : Q a) : Tri t (pure a : M α) Q :=
  ⟨fun _ => Safe.pure a, fun _ _ _ hr => by rw [run_pure] at hr; cases hr; exact h⟩

theorem Tri.bind {t : Bool} {x : M α} {f : α → M β} {P : α → Prop} {Q : β → Prop} (hx : Tri t x P)
    (hf : ∀ a, P a → Tri t (f a) Q) : Tri t (x >>= f) Q := by
  refine ⟨fun ht => (hx.1 ht).bind (fun a os os' h => (hf a (hx.2 os a os' h)).1 ht), fun os b os' hr => ?_⟩
  rw [run_bind_ok] at hr
  obtain ⟨a, os1, h1, h2⟩ := hr
  exact (hf a (hx.2 os a os1 h1)).2 os1 b os' h2

theorem Tri.mono {t : Bool} {x : M α} {P Q : α → Prop} (hx : Tri t x P) (h : ∀ a, P a → Q a) : Tri t x Q :=
  ⟨hx.1, fun os a os' hr => h a (hx.2 os a os' hr)⟩

/-- A computation without oracle: it must not fail in total mode. -/
theorem Tri.lift {t : Bool} {e : Except String α} {Q : α → Prop} (hok : t = true → Ok e)
    (h : ∀ a, e = .ok a → Q a) : Tri t (monadLift e : M α) Q :=
  ⟨fun ht => Safe.monadLift (hok ht), fun _ a _ hr => h a (run_monadLift_ok.1 hr).1⟩

theorem Tri.foldlM {t : Bool} (Inv : β → Prop) (f : β → γ → M β) (l : List γ)
    (hstep : ∀ b x, x ∈ l → Inv b → Tri t (f b x) Inv) {b : β} (h0 : Inv b) : Tri t (l.foldlM f b) Inv := by
  induction l generalizing b with
  | nil => rw [List.foldlM_nil]; exact Tri.pure h0
  | cons x l ih =>
    rw [List.foldlM_cons]
    exact (hstep b x (by simp) h0).bind (fun b1 h1 => ih (fun b x hx => hstep b x (List.mem_cons_of_mem _ hx)) h1)

theorem Tri.mapM {t : Bool} (f : γ → M β) (Q : γ → β → Prop) (l : List γ)
    (hstep : ∀ x, x ∈ l → Tri t (f x) (Q x)) : Tri t (l.mapM f) (All2 Q l) := by
  induction l with
  | nil => rw [List.mapM_nil]; exact Tri.pure .nil
  | cons x l ih =>
    rw [List.mapM_cons]
    exact (hstep x (by simp)).bind (fun b hb =>
      (ih (fun y hy => hstep y (List.mem_cons_of_mem _ hy))).bind (fun bs hbs => Tri.pure (.cons hb hbs)))

/-- The body of the loop of `explosionVars`. -/
def explodeOne (ps : List (Rebuild w)) (var : Int) (last : Option Int) (s : Rebuild w) : M (Rebuild w) :=
  match mGet s.pending var with
  | some expr =>
    if Expr.addCount expr > 1 || (last == some var && Expr.opCount expr > 1) then emit s ps var
    else pure s
  | none => pure s

theorem explosionVars_cons (ps : List (Rebuild w)) (var : Int) (rest : List Int) (last : Option Int)
    (s : Rebuild w) :
    explosionVars ps (var :: rest) last s =
      explodeOne ps var last s >>= fun s => explosionVars ps rest (some var) s := by
  rw [explosionVars]; unfold explodeOne
  cases mGet s.pending var with
  | none => rfl
  | some expr =>
    dsimp only
    split <;> rfl

section
variable {I : Rebuild w → Prop} {R : Rebuild w → Rebuild w → Prop} (A : Along I R) {t : Bool}
include A

theorem Along.tri_pure {s : Rebuild w} (hI : I s) : Tri t (pure s : M (Rebuild w)) (R s) := Tri.pure (A.refl s hI)

/-- A step from `s`, then a step from where that ended. -/
theorem Along.tri_bind {s : Rebuild w} {x : M (Rebuild w)} {f : Rebuild w → M (Rebuild w)} (hI : I s)
    (hx : Tri t x (R s)) (hf : ∀ s1, I s1 → Tri t (f s1) (R s1)) : Tri t (x >>= f) (R s) :=
  hx.bind (fun s1 r1 => (hf s1 (A.keep _ _ hI r1)).mono (fun _ r2 => A.trans _ _ _ r1 r2))

theorem Along.tri_foldlM (f : Rebuild w → γ → M (Rebuild w)) (l : List γ)
    (hstep : ∀ s x, x ∈ l → I s → Tri t (f s x) (R s)) {s : Rebuild w} (hI : I s) :
    Tri t (l.foldlM f s) (R s) := by
  induction l generalizing s with
  | nil => rw [List.foldlM_nil]; exact A.tri_pure hI
  | cons x l ih =>
    rw [List.foldlM_cons]
    exact A.tri_bind hI (hstep s x (by simp) hI)
      (fun s1 h1 => ih (fun s x hx => hstep s x (List.mem_cons_of_mem _ hx)) h1)

variable {ps : List (Rebuild w)}

section
variable (hgather : ∀ s var, I s → Tri t (gatherForEmit s [var]) (fun r => R s (emitStructured r.1 ps r.2)))
include hgather

/-- `emit` is an `R`-step as soon as popping the groups of one root and emitting them is one. -/
theorem Along.tri_emit (s : Rebuild w) (var : Int) (hI : I s) : Tri t (Opt.emit s ps var) (R s) := by
  unfold Opt.emit
  split
  · exact (hgather s var hI).bind (fun ⟨_, _⟩ hr => Tri.pure hr)
  · exact A.tri_pure hI

/-- `clobber` moreover drops one pending entry and marks one cell as overwritten. -/
theorem Along.tri_clobber (hdrop : ∀ s var, I s → R s (Opt.removePending s var).1)
    (hmark : ∀ s var (k : OptWrite w), (∀ e, k ≠ .known e) → I s → R s (Opt.insertWritten s var k))
    (s : Rebuild w) (var : Int) (maybe : Bool) (hI : I s) : Tri t (Opt.clobber s ps var maybe) (R s) := by
  unfold Opt.clobber
  have r0 : R s (if !maybe then (Opt.removePending s var).1 else s) := by
    split
    · exact hdrop s var hI
    · exact A.refl s hI
  dsimp only
  refine (hgather _ var (A.keep _ _ hI r0)).bind (fun ⟨_, _⟩ hr => Tri.pure ?_)
  have r1 := A.trans _ _ _ r0 hr
  exact A.trans _ _ _ r1 (hmark _ var _ (by intro e; split <;> simp) (A.keep _ _ hI r1))

end

variable (hemit : ∀ s var, I s → Tri t (emit s ps var) (R s))
include hemit

theorem Along.tri_explosionVars (vars : List Int) (last : Option Int) {s : Rebuild w} (hI : I s) :
    Tri t (Opt.explosionVars ps vars last s) (R s) := by
  induction vars generalizing s last with
  | nil => rw [Opt.explosionVars]; exact A.tri_pure hI
  | cons var rest ih =>
    rw [explosionVars_cons]
    refine A.tri_bind hI ?_ (fun s1 h1 => ih (some var) h1)
    unfold explodeOne
    split
    · split
      · exact hemit s var hI
      · exact A.tri_pure hI
    · exact A.tri_pure hI

theorem Along.tri_performCheck (calcs : List (Int × Expr w)) {s : Rebuild w} (hI : I s) :
    Tri t (OptProof.performCheck s ps calcs) (R s) := by
  unfold OptProof.performCheck
  refine A.tri_foldlM _ calcs (fun s vc _ hI' => A.tri_foldlM _ (groupedVars vc.2) (fun s vars _ hI'' => ?_) hI') hI
  split
  · exact A.tri_explosionVars hemit vars none hI''
  · exact A.tri_pure hI''

theorem Along.tri_emitAll (vars : List Int) {s : Rebuild w} (hI : I s) : Tri t (Opt.emitAll ps vars s) (R s) :=
  A.tri_foldlM _ vars (fun s var _ hI' => hemit s var hI') hI

theorem Along.tri_emitReadAll (hread : ∀ s var, I s → R s (Opt.read s var)) (vars : List Int) {s : Rebuild w}
    (hI : I s) : Tri t (Opt.emitReadAll ps vars s) (R s) :=
  A.tri_foldlM _ vars (fun s var _ hI' => A.tri_bind hI' (hemit s var hI')
    (fun s1 h1 => Tri.pure (hread s1 var h1))) hI

omit hemit in
theorem Along.tri_clobberAll (hclob : ∀ s var maybe, I s → Tri t (clobber s ps var maybe) (R s))
    (vars : List (Int × Bool)) {s : Rebuild w} (hI : I s) : Tri t (Opt.clobberAll ps vars s) (R s) :=
  A.tri_foldlM _ vars (fun s vm _ hI' => hclob s vm.1 vm.2 hI') hI

end

#print axioms Tri.bind
#print axioms Along.tri_performCheck

end OptProof
end Hpbf
