/-
C02, first phase: the certificate `Em`, a derivation that mirrors `emitInsts` and records, for every IR instruction, the
core states before and after its code; a successful run of `emitInsts` yields one (`em_of_emitInsts`). Only `Em.calc`
has a conditional premise (`WfV g → Seg …`): the certificate is built from success alone, and that the table is well
formed arrives later, along `Em.mono` (`C02EmitInv`).
-/
import Hpbf.Proofs.C02EmitWalk

namespace Hpbf
namespace C02Emit
open BcGen Bc Sim Expr

variable {w : Nat}

inductive Em (fuse : Bool) : List (Ir.Instr w) → G w → G w → Prop
  | nil (g : G w) : Em fuse [] g g
  | output {src : Int} {rest : List (Ir.Instr w)} {g g' : G w} :
      Em fuse rest (g.push (.out src)) g' → Em fuse (.output src :: rest) g g'
  | input {dst : Int} {rest : List (Ir.Instr w)} {g g' : G w} :
      Em fuse rest { g.push (.inp dst) with values := alErase g.values (.mem dst) } g' →
      Em fuse (.input dst :: rest) g g'
  | calc {calcs : List (Int × Expr w)} {rest : List (Ir.Instr w)} {g g1 g' : G w} :
      (WfV g → Seg (calcs.map (·.1)) (fun st => Ir.doCalc st calcs) g g1) → Em fuse rest g1 g' →
      Em fuse (.calc calcs :: rest) g g'
  | scan {cond shift : Int} {once : Bool} {rest : List (Ir.Instr w)} {g g' : G w} :
      fuse = true → Em fuse rest (scanEnd cond shift (subOf shift ([] : List (Ir.Instr w))) once g) g' →
      Em fuse (.loop cond shift [] once :: rest) g g'
  | loop {cond shift : Int} {body : List (Ir.Instr w)} {once : Bool} {rest : List (Ir.Instr w)}
      {g g2 g' : G w} :
      (fuse && body.isEmpty) = false →
      Em fuse body (blockStart once (headG true (subOf shift body) g)) g2 →
      Em fuse rest (blockEnd true once cond shift (subOf shift body) (headG true (subOf shift body) g) g2) g' →
      Em fuse (.loop cond shift body once :: rest) g g'
  | ifnz {cond shift : Int} {body : List (Ir.Instr w)} {rest : List (Ir.Instr w)} {g g2 g' : G w} :
      Em fuse body (blockStart false g) g2 →
      Em fuse rest (blockEnd false false cond shift (subOf shift body) g g2) g' →
      Em fuse (.ifnz cond shift body :: rest) g g'

/-- `Em` relates the state before a list to the state after it; as an invariant of the state alone it is read
backwards: what holds of every state that `Em` reaches from the beginning of the enclosing list (`c`) holds of every
state that `Em` reaches from here. -/
def EmJ (fuse : Bool) (c : G w → Prop) (_ : Nat) (_ : Analysis) (l : List (Ir.Instr w)) (s : St w) : Prop :=
  ∀ g', Em fuse l (core s) g' → c g'

theorem closedT_em (fuse : Bool) : ClosedT false fuse (EmJ (w := w) fuse) where
  out c _ _ src rest s h := fun g' he => h g' (Em.output he)
  inp c _ _ dst rest s h := fun g' he => h g' (Em.input he)
  calcR c _ _ calcs rest s h := tr_false.2 fun vals s1 hc => tr_false.2 fun _ s' hm => fun g' he =>
    h g' (Em.calc (fun hw => calc_seg hc hm hw) he)
  scan c _ _ cond shift once rest s hf h := fun g' he => h g' (Em.scan hf he)
  loop c ps _ cond shift body once rest s hf h := by
    refine ⟨fun g2 => ∀ g', Em fuse rest (blockEnd true once cond shift (subOf shift body)
      (headG true (subOf shift body) (core s)) g2) g' → c g', ?_, ?_⟩
    · intro g2 hb g' hr
      rw [core_bodySt] at hb
      exact h g' (Em.loop hf hb hr)
    · intro sb _ jb _
      refine tr_false.2 fun _ so ho => ?_
      intro g' he
      rw [core_endSt (outerLoop_core _ _ _ ho).1] at he
      exact jb _ (Em.nil _) g' he
  ifz c ps _ cond shift body rest s h := by
    refine ⟨fun g2 => ∀ g', Em fuse rest (blockEnd false false cond shift (subOf shift body) (core s) g2) g' → c g',
      ?_, ?_⟩
    · intro g2 hb g' hr
      rw [core_bodySt] at hb
      exact h g' (Em.ifnz hb hr)
    · intro sb _ jb _ g' he
      rw [core_endSt rfl] at he
      exact jb _ (Em.nil _) g' he

theorem em_of_emitInsts (fuse : Bool) (l : List (Ir.Instr w)) (ps : Nat) (s s' : St w) (u : Unit)
    (h : emitInsts fuse ps l (subsOf l) s = .ok (u, s')) : Em fuse l (core s) (core s') :=
  (tr_false.1 (emitInsts_tr (closedT_em fuse) _ l (Nat.le_refl _) (fun g' => Em fuse l (core s) g')
    Analysis.empty ps s (fun _ he => he)) u s' h).1 _ (Em.nil _)

theorem em_of_emitState {prog : Ir.Block w} {fuse : Bool} {s : St w} (h : emitState prog fuse = .ok s) :
    Em fuse prog.insts ⟨#[], [], #[], 0⟩ (core s) := by
  unfold emitState at h
  rw [analyze_subAnal] at h
  cases hr : (emitInsts fuse 0 prog.insts (subsOf prog.insts)).run ({} : St w) with
  | error e => rw [hr] at h; cases h
  | ok p =>
    obtain ⟨u, s1⟩ := p
    rw [hr] at h
    cases h
    exact em_of_emitInsts fuse prog.insts 0 {} s u hr

end C02Emit
end Hpbf
