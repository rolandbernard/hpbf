/-
`loopOrIf` when the child block does not move the pointer.  The parent materializes
what the child reads (and the cells the child writes "constantly"), clobbers the other cells the child writes, and
pushes the `Loop` / `If`; its remaining pending operations survive the loop.

First the parent's preparation: `readClobber_res` (materialize `vars`, clobber what the child writes outside `C`;
`Dx` = the cells whose pending operation is dropped), `loopPrep_stay` its instance for `loopOrIf`.  Then the loop:
`StayJ`, the relation between the `k`-th heads of source and emitted block; `stayJ_setup`, what the preparation gives
a caller who runs the heads (also used by the footprint side and by the analysis); `loopOrIf_stay_ok'`.
-/
import Hpbf.Proofs.OptRbLoopStay

namespace Hpbf
namespace OptProof
open Opt OptSem Ir

variable {w : Nat}

/-- `clobberAll` on a list whose non-`true` entries have no pending operation (what `cfold` leaves): nothing is
dropped. -/
theorem clobberAll_res (ps : List (Rebuild w)) (cl : List (Int × Bool)) {s : Rebuild w} (hwf : Wf s)
    (hkeep : ∀ vb ∈ cl, vb.2 = true ∨ mGet s.pending vb.1 = none)
    {os os' : Orders} {s' : Rebuild w} (hr : (clobberAll ps cl s).run os = .ok (s', os')) :
    ∃ comps, ClobRes ps s s' comps ∧ (∀ vb ∈ cl, Dead s' vb.1) ∧
      (∀ (D : Int → Prop) M0 E S, MInvX D s ps M0 E S → MInvX D s' ps M0 (Mem.seq comps E) S) := by
  induction cl generalizing s os with
  | nil =>
    unfold clobberAll at hr
    rw [List.foldlM_nil, run_pure] at hr
    cases hr
    exact ⟨[], ClobRes.refl ps hwf, fun _ h => absurd h (by simp), fun _ _ _ _ h => h⟩
  | cons vb rest ih =>
    unfold clobberAll at hr
    rw [List.foldlM_cons, run_bind_ok] at hr
    obtain ⟨s1, os1, h1, h2⟩ := hr
    obtain ⟨c1, r1, d1, _, k1⟩ := clobber_spec ps hwf vb.1 vb.2 h1
    have hkeep' : ∀ vb' ∈ rest, vb'.2 = true ∨ mGet s1.pending vb'.1 = none := by
      intro vb' hvb'
      rcases hkeep vb' (List.mem_cons_of_mem _ hvb') with h | h
      · exact Or.inl h
      · right
        exact mGet_none_of_sub r1.sub h
    obtain ⟨c2, r2, d2, k2⟩ := ih r1.wf hkeep' (show (clobberAll ps rest s1).run os1 = _ from h2)
    refine ⟨c1 ++ c2, r1.trans r2, ?_, ?_⟩
    · intro vb' hvb'
      rcases List.mem_cons.1 hvb' with rfl | h
      · exact r2.dead _ d1
      · exact d2 vb' h
    · intro D M0 E S hi
      rw [seq_append]
      exact k2 D M0 _ S (k1 (hkeep vb (by simp)) D M0 E S hi)

def cfold (L : OptLoop w) (C : List Int) (acc : Rebuild w × List (Int × Bool)) (vk : Int × OptWrite w) :
    Rebuild w × List (Int × Bool) :=
  if !C.contains vk.1 then
    if vk.2.isMaybe || !L.atLeastOnce then (acc.1, acc.2 ++ [(vk.1, true)])
    else ((removePending acc.1 vk.1).1, acc.2 ++ [(vk.1, false)])
  else acc

theorem clobberPhase_eq (s : Rebuild w) (ps : List (Rebuild w)) (sub : Rebuild w) (L : OptLoop w) (C : List Int) :
    clobberPhase s ps sub L C =
      if !L.noEffect then
        clobberAll ps (Expr.stableSort (fun (a b : Int × Bool) => decide (a.1 ≤ b.1))
          (sub.written.foldl (cfold L C) (s, [])).2) (sub.written.foldl (cfold L C) (s, [])).1
      else pure s := rfl

/-- The cells whose pending operation the fold drops. -/
def DropL (L : OptLoop w) (C : List Int) (l : List (Int × OptWrite w)) (s0 : Rebuild w) (v : Int) : Prop :=
  ∃ vk ∈ l, vk.1 = v ∧ C.contains v = false ∧ (vk.2.isMaybe || !L.atLeastOnce) = false ∧
    mGet s0.pending v ≠ none

theorem cfold_cases (L : OptLoop w) (C : List Int) (acc : Rebuild w × List (Int × Bool)) (vk : Int × OptWrite w) :
    (C.contains vk.1 = true ∧ cfold L C acc vk = acc) ∨
    (C.contains vk.1 = false ∧ (vk.2.isMaybe || !L.atLeastOnce) = true ∧
      cfold L C acc vk = (acc.1, acc.2 ++ [(vk.1, true)])) ∨
    (C.contains vk.1 = false ∧ (vk.2.isMaybe || !L.atLeastOnce) = false ∧
      cfold L C acc vk = ((removePending acc.1 vk.1).1, acc.2 ++ [(vk.1, false)])) := by
  unfold cfold
  cases hC : C.contains vk.1 with
  | true => exact Or.inl ⟨rfl, rfl⟩
  | false =>
    cases hm : (vk.2.isMaybe || !L.atLeastOnce) with
    | true => exact Or.inr (Or.inl ⟨rfl, rfl, rfl⟩)
    | false => exact Or.inr (Or.inr ⟨rfl, rfl, rfl⟩)

theorem cfold_spec (ps : List (Rebuild w)) (L : OptLoop w) (C : List Int) (l : List (Int × OptWrite w))
    (acc : Rebuild w × List (Int × Bool)) (hwf : Wf acc.1) :
    Wf (l.foldl (cfold L C) acc).1 ∧ SameButPend acc.1 (l.foldl (cfold L C) acc).1 ∧
    (∀ k e, mGet (l.foldl (cfold L C) acc).1.pending k = some e → mGet acc.1.pending k = some e) ∧
    (∀ vb, vb ∈ (l.foldl (cfold L C) acc).2 ↔
      vb ∈ acc.2 ∨ ∃ vk ∈ l, C.contains vk.1 = false ∧ vb = (vk.1, vk.2.isMaybe || !L.atLeastOnce)) ∧
    ((∀ vb ∈ acc.2, vb.2 = true ∨ mGet acc.1.pending vb.1 = none) →
      ∀ vb ∈ (l.foldl (cfold L C) acc).2, vb.2 = true ∨ mGet (l.foldl (cfold L C) acc).1.pending vb.1 = none) ∧
    (∀ (D : Int → Prop) M0 E S, MInvX D acc.1 ps M0 E S →
      MInvX (fun v => D v ∨ DropL L C l acc.1 v) (l.foldl (cfold L C) acc).1 ps M0 E S) ∧
    (∀ v, Dead acc.1 v → Dead (l.foldl (cfold L C) acc).1 v) := by
  induction l generalizing acc with
  | nil =>
    refine ⟨hwf, SameButPend.refl _, fun _ _ h => h, fun vb => by simp, fun h => h, ?_, fun _ h => h⟩
    intro D M0 E S hi
    exact hi.mono (fun v h => Or.inl h)
  | cons vk l ih =>
    simp only [List.foldl_cons]
    have hrm : ∀ k e, mGet (removePending acc.1 vk.1).1.pending k = some e → mGet acc.1.pending k = some e := by
      intro k e h
      rw [removePending_get hwf] at h
      split at h
      · cases h
      · exact h
    have hstep : Wf (cfold L C acc vk).1 ∧ SameButPend acc.1 (cfold L C acc vk).1 ∧
        (∀ k e, mGet (cfold L C acc vk).1.pending k = some e → mGet acc.1.pending k = some e) ∧
        (∀ vb, vb ∈ (cfold L C acc vk).2 ↔
          vb ∈ acc.2 ∨ (C.contains vk.1 = false ∧ vb = (vk.1, vk.2.isMaybe || !L.atLeastOnce))) ∧
        ((∀ vb ∈ acc.2, vb.2 = true ∨ mGet acc.1.pending vb.1 = none) →
          ∀ vb ∈ (cfold L C acc vk).2, vb.2 = true ∨ mGet (cfold L C acc vk).1.pending vb.1 = none) ∧
        (∀ (D : Int → Prop) M0 E S, MInvX D acc.1 ps M0 E S →
          MInvX (fun v => D v ∨ DropL L C [vk] acc.1 v) (cfold L C acc vk).1 ps M0 E S) := by
      rcases cfold_cases L C acc vk with ⟨hC, e⟩ | ⟨hC, hm, e⟩ | ⟨hC, hm, e⟩
      · rw [e]
        refine ⟨hwf, SameButPend.refl _, fun _ _ h => h, fun vb => ⟨Or.inl, fun h => h.elim id fun h' => ?_⟩,
          fun hk => hk, fun D M0 E S hi => hi.mono (fun v h => Or.inl h)⟩
        rw [hC] at h'; cases h'.1
      · rw [e, hm]
        refine ⟨hwf, SameButPend.refl _, fun _ _ h => h, fun vb => ?_, fun hk vb hvb => ?_,
          fun D M0 E S hi => hi.mono (fun v h => Or.inl h)⟩
        · rw [List.mem_append, List.mem_singleton]
          exact ⟨Or.imp_right fun h => ⟨hC, h⟩, Or.imp_right fun h => h.2⟩
        · rcases List.mem_append.1 hvb with h | h
          · exact hk vb h
          · rw [List.mem_singleton.1 h]; exact Or.inl rfl
      · rw [e, hm]
        refine ⟨removePending_wf hwf _, removePending_same _ _, hrm, fun vb => ?_,
          fun hk vb hvb => ?_, fun D M0 E S hi => ?_⟩
        · rw [List.mem_append, List.mem_singleton]
          exact ⟨Or.imp_right fun h => ⟨hC, h⟩, Or.imp_right fun h => h.2⟩
        · rcases List.mem_append.1 hvb with h | h
          · rcases hk vb h with h' | h'
            · exact Or.inl h'
            · right; rw [removePending_get hwf, h']; simp
          · right; rw [List.mem_singleton.1 h, removePending_get hwf]; simp
        · cases hp : mGet acc.1.pending vk.1 with
          | none =>
            rw [removePending_of_none hp]
            exact hi.mono (fun v h => Or.inl h)
          | some e =>
            refine (hi.removePending hwf vk.1).mono ?_
            rintro v (h | h)
            · exact Or.inl h
            · right
              refine ⟨vk, by simp, h.symm, by rw [h]; exact hC, hm, ?_⟩
              rw [h, hp]; simp
    obtain ⟨s1, s2, s3, s4, s5, s6⟩ := hstep
    obtain ⟨i1, i2, i3, i4, i5, i6, i7⟩ := ih (cfold L C acc vk) s1
    refine ⟨i1, s2.trans i2, fun k e h => s3 k e (i3 k e h), ?_, fun hk => i5 (s5 hk), ?_, ?_⟩
    · intro vb
      rw [i4 vb, s4 vb]
      simp only [List.mem_cons, exists_eq_or_imp]
      constructor
      · rintro ((h | h) | h)
        · exact Or.inl h
        · exact Or.inr (Or.inl h)
        · exact Or.inr (Or.inr h)
      · rintro (h | h | h)
        · exact Or.inl (Or.inl h)
        · exact Or.inl (Or.inr h)
        · exact Or.inr h
    · intro D M0 E S hi
      refine (i6 _ M0 E S (s6 D M0 E S hi)).mono ?_
      rintro v ((h | ⟨vk', hvk', e1, e2, e3, e4⟩) | ⟨vk', hvk', e1, e2, e3, e4⟩)
      · exact Or.inl h
      · simp only [List.mem_singleton] at hvk'
        subst hvk'
        exact Or.inr ⟨vk', by simp, e1, e2, e3, e4⟩
      · refine Or.inr ⟨vk', by simp [hvk'], e1, e2, e3, ?_⟩
        intro hn
        apply e4
        exact mGet_none_of_sub s3 hn
    · intro v hd
      apply i7
      obtain ⟨d1, d2, d3⟩ := hd
      exact ⟨mGet_none_of_sub s3 d1, fun u e hu => d2 u e (s3 u e hu), by rw [s2.written]; exact d3⟩

theorem clobberPhase_res {s : Rebuild w} (ps : List (Rebuild w)) (sub : Rebuild w) (L : OptLoop w)
    (C : List Int) (hwf : Wf s) {os os' : Orders} {s' : Rebuild w}
    (hr : (clobberPhase s ps sub L C).run os = .ok (s', os')) :
    ∃ comps, ClobRes ps s s' comps ∧
      (L.noEffect = false → ∀ vk ∈ sub.written, C.contains vk.1 = false → Dead s' vk.1) ∧
      (∀ (D : Int → Prop) M0 E S, MInvX D s ps M0 E S →
        MInvX (fun v => D v ∨ (L.noEffect = false ∧ DropL L C sub.written s v)) s' ps M0 (Mem.seq comps E) S) := by
  rw [clobberPhase_eq] at hr
  cases hne : L.noEffect with
  | true =>
    rw [hne] at hr
    simp only [Bool.not_true, Bool.false_eq_true, if_false] at hr
    rw [run_pure] at hr
    cases hr
    refine ⟨[], ClobRes.refl ps hwf, fun h => Bool.noConfusion h, ?_⟩
    intro D M0 E S hi
    exact hi.mono (fun v h => Or.inl h)
  | false =>
    rw [hne] at hr
    simp only [Bool.not_false, if_true] at hr
    obtain ⟨i1, i2, i3, i4, i5, i6, i7⟩ := cfold_spec ps L C sub.written (s, []) hwf
    have hperm := Expr.stableSort_perm (fun (a b : Int × Bool) => decide (a.1 ≤ b.1))
      (sub.written.foldl (cfold L C) (s, [])).2
    have hkeep := i5 (fun vb h => by cases h)
    obtain ⟨comps, r, d, k⟩ := clobberAll_res ps _ i1
      (fun vb hvb => hkeep vb (hperm.mem_iff.1 hvb)) hr
    have r0 : ClobRes ps s (sub.written.foldl (cfold L C) (s, [])).1 [] :=
      ⟨i1, by rw [i2.insts]; simp, by simp, i2.hdr, i2.noReturn, i2.subAnal, i3, i7⟩
    refine ⟨comps, by simpa using r0.trans r, ?_, ?_⟩
    · intro _ vk hvk hC
      apply d (vk.1, vk.2.isMaybe || !L.atLeastOnce)
      rw [hperm.mem_iff, i4]
      exact Or.inr ⟨vk, hvk, hC, rfl⟩
    · intro D M0 E S hi
      refine (k _ M0 E S (i6 D M0 E S hi)).mono ?_
      rintro v (h | h)
      · exact Or.inl h
      · exact Or.inr ⟨rfl, h⟩

theorem emitReadAll_pending_none (ps : List (Rebuild w)) (vars : List Int) {s : Rebuild w} (hwf : Wf s)
    {os os' : Orders} {s' : Rebuild w} (hr : (emitReadAll ps vars s).run os = .ok (s', os')) :
    ∃ comps, EmitRes ps s s' comps ∧ ∀ v ∈ vars, mGet s'.pending v = none := by
  refine foldlM_emitRes_post ps _ vars (fun v s => mGet s.pending v = none)
    (fun _ _ _ _ r h => mGet_none_of_sub r.sub h) ?_ hwf hr
  intro s v os s' os' _ hwf' h
  rw [run_bind_ok] at h
  obtain ⟨s0, os0, h1, h2⟩ := h
  rw [run_pure] at h2
  cases h2
  obtain ⟨c, r, hn⟩ := emit_res ps hwf' v h1
  have hsr := read_same s0 v
  exact ⟨c, r.of_sameButReads hsr, by rw [hsr.pending]; exact hn⟩

/-- The parent's preparation for a child that does not move the pointer, as `loopOrIf` and `inline` both do it: the
cells `vars` are materialized and recorded as read, then the cells the child writes (outside `C`) are clobbered.
`Dx`: the cells whose pending operation was dropped; its description lists the tests of `loop_or_if` (`opt.rs`) that
`clobberPhase` makes before it drops one. -/
theorem readClobber_res {s s1 s2 : Rebuild w} {ps : List (Rebuild w)} {sub : Rebuild w} {L : OptLoop w}
    {C vars : List Int} {os os1 os2 : Orders} (hwf : Wf s)
    (h1 : (emitReadAll ps vars s).run os = .ok (s1, os1))
    (h2 : (clobberPhase s1 ps sub L C).run os1 = .ok (s2, os2)) :
    ∃ comps Dx, ClobRes ps s s2 comps ∧
      (∀ v, Dx v → (∃ k, (v, k) ∈ sub.written ∧ k.isMaybe = false) ∧ C.contains v = false ∧
        L.atLeastOnce = true ∧ L.noEffect = false ∧ v ∉ vars) ∧
      (∀ v ∈ vars, mGet s2.pending v = none) ∧
      (L.noEffect = false → ∀ vk ∈ sub.written, C.contains vk.1 = false → Dead s2 vk.1) ∧
      (∀ M0 E S, MInv s ps M0 E S → MInvX Dx s2 ps M0 (Mem.seq comps E) S) := by
  obtain ⟨c1, r1, n1⟩ := emitReadAll_pending_none ps _ hwf h1
  obtain ⟨c2, r2, d2, k2⟩ := clobberPhase_res ps sub L C r1.wf h2
  refine ⟨c1 ++ c2, fun v => L.noEffect = false ∧ DropL L C sub.written s1 v, r1.clobRes.trans r2, ?_,
    fun v hv => mGet_none_of_sub r2.sub (n1 v hv), d2, fun M0 E S hi => ?_⟩
  · rintro v ⟨hne, vk, hvk, e1, e2, e3, e4⟩
    refine ⟨⟨vk.2, by rw [← e1]; exact hvk, ?_⟩, e2, ?_, hne, fun hv => e4 (n1 v hv)⟩
    · cases hm : vk.2.isMaybe with
      | false => rfl
      | true => rw [hm] at e3; simp at e3
    · cases ha : L.atLeastOnce with
      | true => rfl
      | false => rw [ha] at e3; simp at e3
  · rw [seq_append]
    exact (k2 (fun _ => False) M0 _ S ((r1.minv hi).toX _)).mono (fun v h => h.elim (fun f => f.elim) id)

/-- The set of cells whose pending operation was dropped by the parent before a non-moving loop. -/
structure DropOk (L : OptLoop w) (C : List Int) (sub1 : Rebuild w) (cond : Int) (Dx : Int → Prop) : Prop where
  written : ∀ v, Dx v → ∃ k, (v, k) ∈ sub1.written ∧ k.isMaybe = false
  notConst : ∀ v, Dx v → C.contains v = false
  alo : ∀ v, Dx v → L.atLeastOnce = true
  effect : ∀ v, Dx v → L.noEffect = false
  notRead : ∀ v, Dx v → v ∉ sub1.reads ∧ v ≠ cond

/-- The parent's preparation for a non-moving child: everything the child reads is materialized, the cells it
writes are clobbered (constant ones: materialized). -/
theorem loopPrep_stay {s : Rebuild w} {ps : List (Rebuild w)} {sub1 : Rebuild w} {cond : Int} {L : OptLoop w}
    {C : List Int} (hwf : Wf s) (hns : (sub1.subShift || sub1.shift != s.shift) = false)
    {os os' : Orders} {r : Rebuild w × Rebuild w × List Int}
    (hr : (loopPrep s ps sub1 cond L C).run os = .ok (r, os')) :
    ∃ s3 comps Dx,
      r = (condZero s3 { sub1 with reads := sIns sub1.reads cond } cond,
        { sub1 with reads := sIns sub1.reads cond }, (mKeys sub1.written).filter (fun var => !C.contains var)) ∧
      ClobRes ps s s3 comps ∧ DropOk L C sub1 cond Dx ∧
      (∀ v, (v ∈ sub1.reads ∨ v = cond) → mGet s3.pending v = none) ∧
      (∀ v ∈ mKeys sub1.written, C.contains v = true → mGet s3.pending v = none) ∧
      (L.noEffect = false → ∀ vk ∈ sub1.written, C.contains vk.1 = false → Dead s3 vk.1) ∧
      (∀ M0 E S, MInv s ps M0 E S → MInvX Dx s3 ps M0 (Mem.seq comps E) S) := by
  unfold loopPrep at hr
  rw [if_neg (by rw [hns]; simp), ← bind_assoc, run_bind_ok] at hr
  obtain ⟨s2, os2, h12, h4⟩ := hr
  rw [run_bind_ok] at h4
  obtain ⟨s3, os3, h5, h6⟩ := h4
  rw [run_pure] at h6
  cases h6
  -- the two `emitReadAll`s are one, over the concatenated list
  have h12' : (emitReadAll ps (readsSorted { sub1 with reads := sIns sub1.reads cond } s ++
      (mKeys sub1.written).filter (fun var => C.contains var)) s).run os = .ok (s2, os2) := by
    unfold emitReadAll at h12 ⊢
    rw [List.foldlM_append]; exact h12
  obtain ⟨comps, Dx, r, hDx, hn, d3, k3⟩ :=
    readClobber_res (sub := { sub1 with reads := sIns sub1.reads cond }) hwf h12' h5
  have hmem : ∀ v, (v ∈ sub1.reads ∨ v = cond) → v ∈ readsSorted { sub1 with reads := sIns sub1.reads cond } s := by
    intro v hv
    unfold readsSorted
    rw [(Expr.stableSort_perm _ _).mem_iff]
    show v ∈ sIns sub1.reads cond
    rw [mem_sIns]
    exact hv.symm
  refine ⟨s3, comps, Dx, rfl, r, ⟨fun v hd => (hDx v hd).1, fun v hd => (hDx v hd).2.1,
    fun v hd => (hDx v hd).2.2.1, fun v hd => (hDx v hd).2.2.2.1, fun v hd => ?_⟩,
    fun v hv => hn v (List.mem_append_left _ (hmem v hv)),
    fun v hv hC => hn v (List.mem_append_right _ (List.mem_filter.2 ⟨hv, hC⟩)), d3, k3⟩
  have hnv := (hDx v hd).2.2.2.2
  exact ⟨fun h => hnv (List.mem_append_left _ (hmem v (Or.inl h))),
    fun h => hnv (List.mem_append_left _ (hmem v (Or.inr h)))⟩

theorem SameHdr.symm {a b : Rebuild w} (h : SameHdr a b) : SameHdr b a :=
  ⟨h.1.symm, h.2.1.symm, h.2.2.1.symm, h.2.2.2.1.symm, h.2.2.2.2.symm⟩

theorem MInv.insertWritten_known {s : Rebuild w} {ps : List (Rebuild w)} {M0 E S : Mem w}
    (h : MInv s ps M0 E S) (v : Int) (e : Expr w) (hv : E v = ev e M0) :
    MInv (insertWritten s v (.known e)) ps M0 E S := by
  have hs := insertWritten_same s v (.known e)
  refine ⟨by rw [hs.pending]; exact h.pend, ?_, h.pk.congr hs.hdr⟩
  intro x
  rw [insertWritten_written, mGet_mSet]
  by_cases hx : v = x
  · subst hx
    simp only [if_true]
    rw [hv]
    exact (Expr.eval_normalize e M0).symm
  · simp only [hx, if_false]; exact h.writ x

theorem condZero_cases (s sub : Rebuild w) (cond : Int) :
    condZero s sub cond = s ∨
    (condZero s sub cond = insertWritten s cond (.known (Expr.val 0#w)) ∧
      ∃ e, mGet sub.written cond = some (.known e) ∧ Expr.constant e = some 0#w) := by
  unfold condZero
  split
  · rename_i e he
    split
    · rename_i hc
      exact Or.inr ⟨rfl, e, he, by simpa using hc⟩
    · exact Or.inl rfl
  · exact Or.inl rfl

/-- Loop-head relation for a non-moving child inside its parent. `k` = number of completed rounds.  The `Dx` cells
(pending operation dropped because the loop overwrites them, `atLeastOnce`) agree only from round 1 on (`later`); at
`k = 0` nothing has run (`first`).  `knownZ`: what `condZero` reads. -/
structure StayJ (shP : Int) (cS shS : Int) (bodyS : List (Instr w)) (sub1 s3 : Rebuild w) (Dx : Int → Prop)
    (σS σE3 : State w) (k : Nat) (σS' σE' : State w) : Prop where
  tr : σS'.trace = σE'.trace
  env : σS'.env = σE'.env
  ptr : σS'.ptr = σE'.ptr + shP
  ptrE : σE'.ptr = σE3.ptr
  agree : ∀ v, mGet s3.pending v = none → ¬ Dx v → memS σE' σS' v = memE σE' v
  frame : ∀ v, mGet sub1.written v = none → memE σE' v = memE σE3 v ∧ memS σE' σS' v = memS σE3 σS v
  head : Head cS shS bodyS σS k σS'
  first : k = 0 → σS' = σS ∧ σE' = σE3
  later : k ≠ 0 → ∀ v, Dx v → memS σE' σS' v = memE σE' v
  knownZ : k ≠ 0 → ∀ e, mGet sub1.written (cS + shP) = some (.known e) → Expr.constant e = some 0#w →
    memE σE' (cS + shP) = 0#w

theorem memS_mov0 (a b : State w) (sh : Int) : memS (b.mov 0) (a.mov sh) = memS b a := by
  funext v
  show a.tape.get (b.ptr + 0 + v) = a.tape.get (b.ptr + v)
  rw [Int.add_zero]

theorem MInvX.toMInv {D : Int → Prop} {s : Rebuild w} {ps : List (Rebuild w)} {M0 E S : Mem w}
    (h : MInvX D s ps M0 E S) (hD : ∀ v, ¬ D v) : MInv s ps M0 E S :=
  ⟨funext (fun v => h.pendX v (hD v)), h.writ, h.pk⟩

section Stay
variable {Gc : State w → Prop} {shP shC cS shS : Int} {pc : List (Rebuild w)} {sub0 sub1 s3 : Rebuild w}
  {bodyS : List (Instr w)}
  {Dx : Int → Prop} {σS σE3 : State w}

theorem stayJ_round (hc : ChildOk Gc shP shC pc sub0 sub1 cS bodyS) (hsh : shC + shS = shP)
    (hread : ∀ v, v ∈ sub1.reads ∨ v = cS + shP → mGet s3.pending v = none ∧ ¬ Dx v)
    (hDx : ∀ v, Dx v → DefW sub1 v)
    {k : Nat} {σS' σE' : State w} (hJ : StayJ shP cS shS bodyS sub1 s3 Dx σS σE3 k σS' σE')
    (hne : σS'.rd cS ≠ 0#w) (hg : Gc σS') :
    Sim (fun a b => StayJ shP cS shS bodyS sub1 s3 Dx σS σE3 (k + 1) (a.mov shS) (b.mov 0))
      bodyS sub1.insts σS' σE' ∧ ¬ Bad sub1.insts σE' := by
  have hK : ∀ v, (mGet s3.pending v ≠ none ∨ Dx v) → v ∉ sub1.reads := by
    intro v hv hr
    obtain ⟨h1, h2⟩ := hread v (Or.inl hr)
    rcases hv with h | h
    · exact h h1
    · exact h2 h
  have hag : ∀ v, ¬ (mGet s3.pending v ≠ none ∨ Dx v) → memS σE' σS' v = memE σE' v := by
    intro v hv
    apply hJ.agree v
    · cases hp : mGet s3.pending v with
      | none => rfl
      | some e => exact absurd (Or.inl (by rw [hp]; simp)) hv
    · exact fun h => hv (Or.inr h)
  obtain ⟨hround, hnb⟩ :=
    child_round hc (fun v => mGet s3.pending v ≠ none ∨ Dx v) hK hJ.tr hJ.env hJ.ptr hag hne hg
  refine ⟨hround.fin_strengthen.mono ?_, hnb⟩
  rintro a b ⟨⟨q1, q2, q3, q4, q5, q6, q7⟩, hea, _⟩
  refine ⟨q1, q2, ?_, ?_, ?_, ?_, Head.succ hJ.head hne hea, fun h => by omega, ?_, ?_⟩
  · show a.ptr + shS = b.ptr + 0 + shP
    rw [q3]; omega
  · show b.ptr + 0 = σE3.ptr
    rw [Int.add_zero, q4]; exact hJ.ptrE
  · intro v hp hd
    rw [memS_mov0, memE_mov_zero]
    apply q5 v
    rintro ⟨h | h, _⟩
    · exact h hp
    · exact hd h
  · intro v hv
    rw [memS_mov0, memE_mov_zero]
    obtain ⟨f1, f2⟩ := q6 v hv
    obtain ⟨g1, g2⟩ := hJ.frame v hv
    exact ⟨f1.trans g1, f2.trans g2⟩
  · intro _ v hd
    rw [memS_mov0, memE_mov_zero]
    apply q5 v
    rintro ⟨_, h⟩
    exact h (hDx v hd)
  · intro _ e he hcst
    rw [memE_mov_zero]
    apply q7 (cS + shP) e 0#w he hcst
    obtain ⟨h1, h2⟩ := hread (cS + shP) (Or.inr rfl)
    rintro (h | h)
    · exact h h1
    · exact h2 h

theorem stayJ_init {ps : List (Rebuild w)} {M0 : Mem w}
    (hX : MInvX Dx s3 ps M0 (memE σE3) (memS σE3 σS))
    (htr : σS.trace = σE3.trace) (henv : σS.env = σE3.env) (hptr : σS.ptr = σE3.ptr + shP) :
    StayJ shP cS shS bodyS sub1 s3 Dx σS σE3 0 σS σE3 := by
  refine ⟨htr, henv, hptr, rfl, ?_, fun _ _ => ⟨rfl, rfl⟩, Head.zero, fun _ => ⟨rfl, rfl⟩,
    fun h => absurd rfl h, fun h => absurd rfl h⟩
  intro v hp hd
  rw [hX.pendX v hd]
  exact par_of_not_mem _ _ _ hp

/-- What `loopPrep_stay` gives a caller who runs the heads.  `σE3` is the state after the emitted `comps`: there
`StayJ` holds at head 0 and related states read the condition cell alike; where the source heads satisfy `Gc`, a round
of the source body is a round of the child and every emitted head has its source head (`heads_bwd` with `StayJ` as
the relation and the bound `isLoop = false → k = 0`). -/
theorem stayJ_setup {s : Rebuild w} {ps : List (Rebuild w)} {M0 : Mem w} {L : OptLoop w} {C : List Int}
    {comps : List (List (Int × Expr w))} {σE : State w} {isLoop : Bool}
    (hc : ChildOk Gc shP shC pc sub0 sub1 cS bodyS) (hwf1 : Wf sub1) (hsh : shC + shS = shP)
    (hclob : ClobRes ps s s3 comps) (hdrop : DropOk L C sub1 (cS + shP) Dx)
    (hreads : ∀ v, v ∈ sub1.reads ∨ v = cS + shP → mGet s3.pending v = none)
    (hminvx : ∀ M0 E S, MInv s ps M0 E S → MInvX Dx s3 ps M0 (Mem.seq comps E) S)
    (hrel : RelAt shP s ps M0 σE σS) (hE : σE3 = comps.foldl doCalc σE) :
    MInvX Dx s3 ps M0 (memE σE3) (memS σE3 σS) ∧
    (∀ v, v ∈ sub1.reads ∨ v = cS + shP → mGet s3.pending v = none ∧ ¬ Dx v) ∧
    StayJ shP cS shS bodyS sub1 s3 Dx σS σE3 0 σS σE3 ∧
    (∀ k a b, StayJ shP cS shS bodyS sub1 s3 Dx σS σE3 k a b → a.rd cS = b.rd (cS + shP)) ∧
    (HeadsAt Gc cS shS bodyS (isLoop = false) σS →
      (∀ k a b, StayJ shP cS shS bodyS sub1 s3 Dx σS σE3 k a b → (isLoop = false → k = 0) → a.rd cS ≠ 0#w →
        Sim (fun a' b' => StayJ shP cS shS bodyS sub1 s3 Dx σS σE3 (k + 1) (a'.mov shS) (b'.mov 0))
          bodyS sub1.insts a b ∧ ¬ Bad sub1.insts b) ∧
      ∀ k b, Head (cS + shP) 0 sub1.insts σE3 k b → (isLoop = false → k = 0) →
        ∃ σk, StayJ shP cS shS bodyS sub1 s3 Dx σS σE3 k σk b) := by
  subst hE
  obtain ⟨m1, m2, m3⟩ := foldl_doCalc_meta comps σE
  have hX : MInvX Dx s3 ps M0 (memE (comps.foldl doCalc σE)) (memS (comps.foldl doCalc σE) σS) := by
    rw [memE_foldl_doCalc σE comps hclob.nodup, memS_foldl_doCalc]
    exact hminvx M0 _ _ hrel.inv
  have hJ0 : StayJ shP cS shS bodyS sub1 s3 Dx σS (comps.foldl doCalc σE) 0 σS (comps.foldl doCalc σE) :=
    stayJ_init hX (by rw [m3]; exact hrel.tr) (by rw [m2]; exact hrel.env) (by rw [m1]; exact hrel.ptr)
  have hread' : ∀ v, v ∈ sub1.reads ∨ v = cS + shP → mGet s3.pending v = none ∧ ¬ Dx v := by
    intro v hv
    refine ⟨hreads v hv, fun hd => ?_⟩
    obtain ⟨n1, n2⟩ := hdrop.notRead v hd
    rcases hv with h | h
    · exact n1 h
    · exact n2 h
  have hDx' : ∀ v, Dx v → DefW sub1 v := by
    intro v hd
    obtain ⟨kk, hkk, hm⟩ := hdrop.written v hd
    exact ⟨kk, mGet_of_mem hwf1.writ hkk, hm⟩
  have hcondrd : ∀ (k : Nat) (a b : State w),
      StayJ shP cS shS bodyS sub1 s3 Dx σS (comps.foldl doCalc σE) k a b → a.rd cS = b.rd (cS + shP) := by
    intro k a b hJ
    obtain ⟨p1, p2⟩ := hread' (cS + shP) (Or.inr rfl)
    have := hJ.agree (cS + shP) p1 p2
    show a.tape.get (a.ptr + cS) = b.tape.get (b.ptr + (cS + shP))
    rw [hJ.ptr]
    have e : b.ptr + shP + cS = b.ptr + (cS + shP) := by omega
    rw [e]; exact this
  refine ⟨hX, hread', hJ0, hcondrd, fun hg => ?_⟩
  have hround := fun k a b (hJ : StayJ shP cS shS bodyS sub1 s3 Dx σS (comps.foldl doCalc σE) k a b)
      (hk : isLoop = false → k = 0) (hne : a.rd cS ≠ 0#w) =>
    stayJ_round hc hsh hread' hDx' hJ hne (hg k a hJ.head hk hne)
  refine ⟨hround, fun k b hh hk => ?_⟩
  exact heads_bwd (B := fun k => isLoop = false → k = 0) (fun _ h hi => by have := h hi; omega) hJ0
    (fun k' a bk hJ hk' hne =>
      (hround k' a bk hJ (fun h => by have := hk' h; omega) (by rw [hcondrd k' a bk hJ]; exact hne)).1) hh hk

/-- At the exit of the loop / if the parent's invariant holds again (before the bookkeeping of `loopTail`). -/
theorem stayJ_exit_minv {ps : List (Rebuild w)} {M0 : Mem w} {L : OptLoop w} {C : List Int}
    (hX : MInvX Dx s3 ps M0 (memE σE3) (memS σE3 σS))
    (hdrop : DropOk L C sub1 (cS + shP) Dx)
    (hdead : L.noEffect = false → ∀ vk ∈ sub1.written, C.contains vk.1 = false → Dead s3 vk.1)
    (hconstP : ∀ v ∈ mKeys sub1.written, C.contains v = true → mGet s3.pending v = none)
    (halo : L.atLeastOnce = true → σS.rd cS ≠ 0#w)
    {k : Nat} {σS' σE' : State w} (hJ : StayJ shP cS shS bodyS sub1 s3 Dx σS σE3 k σS' σE')
    (hconst : ∀ x ∈ mKeys sub1.written, C.contains x = true → memS σE3 σS' x = memS σE3 σS x)
    (hk0 : k = 0 → σS.rd cS = 0#w) (hne : L.noEffect = true → k = 0) :
    MInv s3 ps M0 (memE σE') (memS σE' σS') := by
  by_cases hk : k = 0
  · obtain ⟨e1, e2⟩ := hJ.first hk
    rw [e1, e2]
    apply hX.toMInv
    intro v hd
    exact halo (hdrop.alo v hd) (hk0 hk)
  · have hnef : L.noEffect = false := by
      cases h : L.noEffect with
      | false => rfl
      | true => exact absurd (hne h) hk
    have hmemE : ∀ v, memS σE3 σS' v = memS σE' σS' v := by
      intro v
      show σS'.tape.get (σE3.ptr + v) = σS'.tape.get (σE'.ptr + v)
      rw [hJ.ptrE]
    refine (hX.mono (D' := fun v => ∃ kk, (v, kk) ∈ sub1.written ∧ C.contains v = false) ?_).havoc ?_ ?_ ?_
    · intro v hd
      obtain ⟨kk, hkk, _⟩ := hdrop.written v hd
      exact ⟨kk, hkk, hdrop.notConst v hd⟩
    · rintro v ⟨kk, hkk, hC⟩
      exact hdead hnef (v, kk) hkk hC
    · intro v hv
      cases hw : mGet sub1.written v with
      | none => exact hJ.frame v hw
      | some kk =>
        have hmem : (v, kk) ∈ sub1.written := OptLoop.mem_of_mGet hw
        have hC : C.contains v = true := by
          cases h : C.contains v with
          | true => rfl
          | false => exact absurd ⟨kk, hmem, h⟩ hv
        have hkeys : v ∈ mKeys sub1.written := List.mem_map.2 ⟨(v, kk), hmem, rfl⟩
        have hp := hconstP v hkeys hC
        have hnd : ¬ Dx v := fun hd => by
          have := hdrop.notConst v hd
          rw [hC] at this; cases this
        have h1 : memS σE' σS' v = memS σE3 σS v := by
          rw [← hmemE v]; exact hconst v hkeys hC
        have h2 : memS σE' σS' v = memE σE' v := hJ.agree v hp hnd
        have h3 : memS σE3 σS v = memE σE3 v := by
          rw [hX.pendX v hnd]; exact par_of_not_mem _ _ _ hp
        exact ⟨by rw [← h2, h1, h3], h1⟩
    · rintro v ⟨kk, hkk, hC⟩
      by_cases hd : Dx v
      · exact hJ.later hk v hd
      · exact hJ.agree v (hdead hnef (v, kk) hkk hC).1 hd

end Stay

theorem condZero_wf {s : Rebuild w} (hwf : Wf s) (sub : Rebuild w) (cond : Int) : Wf (condZero s sub cond) := by
  rcases condZero_cases s sub cond with h | ⟨h, _⟩
  · rw [h]; exact hwf
  · rw [h]; exact insertWritten_wf hwf _ _

theorem condZero_same (s sub : Rebuild w) (cond : Int) : SameButWritten s (condZero s sub cond) := by
  rcases condZero_cases s sub cond with h | ⟨h, _⟩
  · rw [h]; exact ⟨rfl, rfl, rfl, rfl, rfl, rfl, rfl, rfl, rfl, rfl, rfl⟩
  · rw [h]; exact insertWritten_same _ _ _

theorem loopOrIf_stay_ok' {shP shC shS cS : Int} {bodyS : List (Instr w)} {oS : Bool}
    {s : Rebuild w} {ps : List (Rebuild w)} {sub : Rebuild w} {cond : Int} {isLoop : Bool} {L : OptLoop w}
    {C : List Int} {pc : List (Rebuild w)} {sub0 : Rebuild w} {os os' : Orders} {s' : Rebuild w}
    {G Gc : State w → Prop}
    (hr : (loopOrIf s ps sub cond isLoop L C).run os = .ok (s', os'))
    (hwf : Wf s) (hpre : ChildPre Gc shP shC pc sub0 sub cS bodyS)
    (hns : (sub.subShift || sub.shift != s.shift) = false)
    (hcond : cond = cS + shP) (hsh : shC + shS = shP)
    (hGc : HeadsIn G Gc shP s ps cS shS bodyS (isLoop = false))
    (halo : L.atLeastOnce = true → ∀ M0 σE σS, RelAt shP s ps M0 σE σS → G σS → σS.rd cS ≠ 0#w)
    (hnc : L.noContinue = true → ∀ M0 σE σS, RelAt shP s ps M0 σE σS → G σS →
      ∀ x, ¬ Exec [blockInstr isLoop cS shS bodyS oS] σS (.fin x))
    (hne : L.noEffect = true → ∀ M0 σE σS, RelAt shP s ps M0 σE σS → G σS →
      σS.rd cS = 0#w ∨ ∀ x, ¬ Exec [blockInstr isLoop cS shS bodyS oS] σS (.fin x))
    (hconst : ∀ M0 σE σS, RelAt shP s ps M0 σE σS → G σS → ∀ k σk, Head cS shS bodyS σS k σk →
      (isLoop = false → k ≤ 1) → ∀ x, C.contains x = true → memS σE σk x = memS σE σS x) :
    Wf s' ∧ SameHdr s s' ∧
    ∃ new, s'.insts = s.insts ++ new ∧ StepNG G shP shP ps s s' [blockInstr isLoop cS shS bodyS oS] new := by
  subst hcond
  obtain ⟨sub1, os1, r, h1, h2, rfl⟩ := loopOrIf_run hr
  obtain ⟨hc, hwf1, hshift1⟩ := hpre.emit h1
  have hshEq : sub.shift = s.shift := by
    have := hns
    simp only [Bool.or_eq_false_iff, bne_eq_false_iff_eq] at this
    exact this.2
  have hns1 : (sub1.subShift || sub1.shift != s.shift) = false := by
    rw [hc.noShift, hshift1, hshEq]; simp
  obtain ⟨s3, comps, Dx, hreq, hclob, hdrop, hreads, hconstP, hdead, hminvx⟩ := loopPrep_stay hwf hns1 h2
  subst hreq
  simp only
  obtain ⟨t1, t2, t3, t4, t5, t6, t7⟩ := loopTail_fields (condZero s3 { sub1 with reads := sIns sub1.reads (cS + shP) } (cS + shP))
    { sub1 with reads := sIns sub1.reads (cS + shP) } (cS + shP) isLoop L
    (sub1.subShift || sub1.shift != s.shift) ((mKeys sub1.written).filter (fun var => !C.contains var))
  have hcz := condZero_same s3 { sub1 with reads := sIns sub1.reads (cS + shP) } (cS + shP)
  have hbs : ({ sub1 with reads := sIns sub1.reads (cS + shP) } : Rebuild w).shift -
      (condZero s3 { sub1 with reads := sIns sub1.reads (cS + shP) } (cS + shP)).shift = 0 := by
    rw [hcz.shift, hclob.hdr.shift]
    show sub1.shift - s.shift = 0
    rw [hshift1, hshEq]; omega
  rw [hbs] at t7
  refine ⟨loopTail_wf (condZero_wf hclob.wf _ _) _ _ _ _ _ _, (hclob.hdr.trans hcz.hdr).trans t1, ?_⟩
  refine ⟨comps.map Instr.calc ++ [if isLoop then Instr.loop (cS + shP) 0 sub1.insts L.atLeastOnce
      else Instr.ifnz (cS + shP) 0 sub1.insts], ?_, ?_⟩
  · rw [t7, hcz.insts, hclob.insts, List.append_assoc]
  refine ⟨fun h => ((hclob.hdr.trans hcz.hdr).trans t1).2.2.2.2.symm.trans h, ?_⟩
  intro M0 σE σS hrel hG
  obtain ⟨m1, _, _⟩ := foldl_doCalc_meta comps σE
  obtain ⟨hX, hread', hJ0, hcondrd, hrun⟩ := stayJ_setup (isLoop := isLoop) hc hwf1 hsh hclob hdrop hreads hminvx hrel rfl
  obtain ⟨hround, _⟩ := hrun (hGc M0 σE σS hrel hG)
  have hsim0 : Sim (fun a b => ∃ k, StayJ shP cS shS bodyS sub1 s3 Dx σS (comps.foldl doCalc σE) k a b ∧
        (k = 0 → σS.rd cS = 0#w) ∧ (isLoop = true → b.rd (cS + shP) = 0#w) ∧ (isLoop = false → k ≤ 1))
      [blockInstr isLoop cS shS bodyS oS]
      [blockInstr isLoop (cS + shP) 0 sub1.insts L.atLeastOnce] σS (comps.foldl doCalc σE) := by
    refine (Sim.block (J := StayJ shP cS shS bodyS sub1 s3 Dx σS (comps.foldl doCalc σE)) hcondrd
      (fun _ _ _ hJ => hJ.tr.symm) (fun k a b hJ hk hne' => (hround k a b hJ hk hne').1) hJ0).mono ?_
    rintro a b ⟨k, hJ, hl, hi⟩
    refine ⟨k, hJ, fun hk => ?_, fun e => by rw [← hcondrd k a b hJ]; exact hl e, fun e => ?_⟩
    · cases isLoop with
      | true => rw [← (hJ.first hk).1]; exact hl rfl
      | false => rcases hi rfl with ⟨_, hz⟩ | h1 <;> [exact hz; omega]
    · rcases hi e with ⟨h0, _⟩ | h1 <;> omega
  refine ⟨Sim.calcs_right comps ?_, ?_⟩
  · cases hncv : L.noContinue with
    | true => exact hsim0.of_no_fin (hnc hncv M0 σE σS hrel hG)
    | false =>
      refine hsim0.fin_strengthen.mono ?_
      rintro a b ⟨⟨k, hJ, hk0, hz, hk1⟩, hfinS, _⟩
      have hne' : L.noEffect = true → k = 0 := by
        intro hnev
        rcases hne hnev M0 σE σS hrel hG with h | h
        · exact (head_zero hJ.head h).1
        · exact absurd hfinS (h a)
      have hconst' : ∀ x ∈ mKeys sub1.written, C.contains x = true →
          memS (comps.foldl doCalc σE) a x = memS (comps.foldl doCalc σE) σS x := by
        intro x _ hx
        have := hconst M0 σE σS hrel hG k a hJ.head hk1 x hx
        show a.tape.get ((comps.foldl doCalc σE).ptr + x) = σS.tape.get ((comps.foldl doCalc σE).ptr + x)
        rw [m1]; exact this
      have hm3 := stayJ_exit_minv hX hdrop hdead hconstP (fun h => halo h M0 σE σS hrel hG) hJ hconst' hk0 hne'
      obtain ⟨p1, p2⟩ := hread' (cS + shP) (Or.inr rfl)
      have hcz0 : ∀ e, mGet sub1.written (cS + shP) = some (.known e) → Expr.constant e = some 0#w →
          memE b (cS + shP) = 0#w := by
        intro e he hcst
        cases isLoop with
        | true => exact hz rfl
        | false =>
          by_cases hk : k = 0
          · have := hk0 hk
            rw [← (hJ.first hk).1, hcondrd k a b hJ] at this
            exact this
          · exact hJ.knownZ hk e he hcst
      have hm4 : MInv (condZero s3 { sub1 with reads := sIns sub1.reads (cS + shP) } (cS + shP)) ps M0
          (memE b) (memS b a) := by
        rcases condZero_cases s3 { sub1 with reads := sIns sub1.reads (cS + shP) } (cS + shP) with h | ⟨h, e, he, hcst⟩
        · rw [h]; exact hm3
        · rw [h]
          refine hm3.insertWritten_known _ _ ?_
          rw [hcz0 e he hcst]
          exact (Expr.eval_val 0#w M0).symm
      refine ⟨M0, ⟨hJ.tr, hJ.env, hJ.ptr, ?_, ?_⟩, fun _ => ⟨rfl, hJ.ptrE.trans m1⟩⟩
      · rw [t6, hncv]
        simp only [Bool.false_eq_true, if_false]
        rw [hcz.noReturn, hclob.noRet]; exact hrel.nr
      · cases isLoop with
        | true =>
          have hm5 := hm4.insertWritten_known (cS + shP) (Expr.val 0#w) (by
            rw [show memE b (cS + shP) = 0#w from hz rfl]; exact (Expr.eval_val 0#w M0).symm)
          refine hm5.congr (by rw [t2]; exact (insertWritten_same _ _ _).pending.symm) ?_ ?_
          · rw [t5, insertWritten_written]; rfl
          · exact (SameButWritten.hdr (insertWritten_same _ _ _)).symm.trans t1
        | false =>
          refine hm4.congr t2 ?_ t1
          rw [t5]; rfl
  · rw [bad_calcs_iff]
    exact not_bad_block (J := StayJ shP cS shS bodyS sub1 s3 Dx σS (comps.foldl doCalc σE)) hcondrd hround hJ0
      (fun hal => halo hal M0 σE σS hrel hG)

end OptProof
end Hpbf
