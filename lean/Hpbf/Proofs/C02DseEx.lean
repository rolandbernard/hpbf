/-
C02, `dead_store_elim`: the precondition is decidable; non-vacuity; witnesses that
* the strong observation `ObsEq'` fails (a run that STOPS between a removed store and the overwriting one),
* the structural precondition (no `memZero`) is necessary,
* the bookkeeping precondition (`num_uses` not smaller than the number of reads) is necessary,
all by `decide`. (`Outcome.tag`, `C11`: 1 is `stopped`, 4 is `outOfFuel`.)
-/
import Hpbf.Proofs.C02DsePass

namespace Hpbf
namespace C02

open Bc BcWf BcGen C11

variable {w : Nat}

def dseDstTmpOk (n : Nat) (ins : Instr w) : Bool :=
  match arith? ins with
  | some (_, .tmp t, _, _) => decide (t < n)
  | _ => true

def dsePreCheck (s : St w) : Bool :=
  s.insts.all noMemZero &&
  (List.range s.ranges.size).all (fun t => decide (dseUseCount s.insts t ≤ dseNuse s.ranges t)) &&
  s.insts.all (fun ins => (uses ins).all (fun t => decide (t < s.ranges.size)) && dseDstTmpOk s.ranges.size ins)

theorem dse_list_sum_zero {α : Type} (f : α → Nat) : ∀ (l : List α), (∀ x ∈ l, f x = 0) → (l.map f).sum = 0 := by
  intro l
  induction l with
  | nil => intro _; rfl
  | cons a l ih =>
    intro h
    simp only [List.map_cons, List.sum_cons]
    rw [h a (by simp), ih (fun x hx => h x (by simp [hx]))]

theorem dse_useCount_zero_of_not_uses {I : Array (Instr w)} {t : Nat} (h : ∀ ins ∈ I, t ∉ uses ins) :
    dseUseCount I t = 0 := by
  unfold dseUseCount
  apply dse_list_sum_zero
  intro x hx
  exact List.count_eq_zero_of_not_mem (h x (by simpa using hx))

theorem dse_nuse_pos_lt {rs : Array RangeInfo} {t : Nat} (h : 0 < dseNuse rs t) : t < rs.size := by
  unfold dseNuse at h
  cases hr : rs[t]? with
  | none => rw [hr] at h; simp at h
  | some r => exact lt_of_getElem? hr

theorem dse_dstTmpOk_mkArith (n : Nat) (op : BcGen.Op) (t : Nat) (a b : Loc w) :
    dseDstTmpOk n (mkArith op (.tmp t) a b) = decide (t < n) := by
  cases op <;> rfl

theorem dsePre_iff_check (s : St w) : DsePre s ↔ dsePreCheck s = true := by
  unfold dsePreCheck
  simp only [Bool.and_eq_true, Array.all_eq_true', List.all_eq_true, List.mem_range, decide_eq_true_eq]
  constructor
  · intro h
    refine ⟨⟨fun ins hins => h.noZero ins hins, fun t _ => h.uses t⟩, fun ins hins => ⟨fun t ht => ?_, ?_⟩⟩
    · have h1 : 0 < dseCnt t ins := List.count_pos_iff.mpr ht
      have h2 := dse_cnt_le_useCount hins t
      have h3 := h.uses t
      exact dse_nuse_pos_lt (by omega)
    · obtain ⟨i, hi⟩ := Array.getElem?_of_mem hins
      cases ins <;> try rfl
      all_goals (rename_i d a b; cases d <;> try rfl)
      · simpa [dseDstTmpOk, arith?] using h.dst i .add _ _ _ hi
      · simpa [dseDstTmpOk, arith?] using h.dst i .sub _ _ _ hi
      · simpa [dseDstTmpOk, arith?] using h.dst i .mul _ _ _ hi
  · rintro ⟨⟨h1, h2⟩, h3⟩
    refine ⟨h1, fun t => ?_, fun i op t a b hi => ?_⟩
    · by_cases ht : t < s.ranges.size
      · exact h2 t ht
      · rw [dse_useCount_zero_of_not_uses]
        · exact Nat.zero_le _
        · intro ins hins hm
          exact ht ((h3 ins hins).1 t hm)
    · have := (h3 _ (Array.mem_of_getElem? hi)).2
      rw [dse_dstTmpOk_mkArith] at this
      simpa using this

instance (s : St w) : Decidable (DsePre s) := decidable_of_iff _ (dsePre_iff_check s).symm

def dseR (n : Nat) : RangeInfo := { created := 0, firstUse := none, lastUse := none, numUses := n }

/-- A dead store (index 1, its source temporary becomes unused), then dead code for a temporary (index 0 after
the decrement); the store at index 4 is the overwriting one; the store at index 3 is kept (cell 1 is read by
`out`); the last store is kept (the end of the program does not make stores dead). -/
def exDse : St 8 :=
  { insts := #[.add (.tmp 0) (.imm 1#8) (.imm 2#8), .copy (.mem 0) (.tmp 0), .copy (.tmp 1) (.imm 5#8),
               .copy (.mem 1) (.tmp 1), .copy (.mem 0) (.tmp 1), .out 1, .copy (.mem 2) (.imm 9#8)],
    ranges := #[dseR 1, dseR 2], live := #[] }

theorem exDse_pre : DsePre exDse := by decide +kernel

theorem exDse_result :
    (deadStoreElim exDse).toOption.map (fun s => (s.insts, s.ranges.toList.map (·.numUses))) =
      some (#[.noop, .noop, .copy (.tmp 1) (.imm 5#8), .copy (.mem 1) (.tmp 1), .copy (.mem 0) (.tmp 1), .out 1,
              .copy (.mem 2) (.imm 9#8)], [0, 2]) := by decide +kernel

def dseEnvRefuse : Env := { input := none, sink := true, outOk := some 0 }
def dseEnvSink : Env := { input := none, sink := true, outOk := none }

/-- `out 1` reads another cell, so the first store is dead; if the sink refuses the byte the run stops with
cell 0 still holding 7 in the original and 0 after the pass. -/
def exDseStop : St 8 :=
  { insts := #[.copy (.mem 0) (.imm 7#8), .out 1, .copy (.mem 0) (.imm 3#8)], live := #[] }

theorem dse_stopped_tape_differs :
    DsePre exDseStop ∧
    (deadStoreElim exDseStop).toOption.map (·.insts) = some #[.noop, .out 1, .copy (.mem 0) (.imm 3#8)] ∧
    (let o1 := Bc.run (progOf exDseStop 0 0 1) false 0 10 dseEnvRefuse
     let o2 := Bc.run ({ temps := 0, minAcc := 0, maxAcc := 1, live := #[],
                         insts := #[.noop, .out 1, .copy (.mem 0) (.imm 3#8)] } : Program 8) false 0 10
                  dseEnvRefuse
     o1.tag = 1 ∧ o2.tag = 1 ∧ o1.cfg.st.trace = [Ev.outFail 0] ∧ o2.cfg.st.trace = [Ev.outFail 0] ∧
     o1.cfg.st.tape.get 0 = 7#8 ∧ o2.cfg.st.tape.get 0 = 0#8) := by decide +kernel

theorem dse_obsEq'_stopped_tape {o1 o2 : Outcome w} (h : ObsEq' o1 o2) (ht : o1.tag = 1) (x : Int) :
    o1.cfg.st.tape.get x = o2.cfg.st.tape.get x := by
  cases o1 <;> cases o2 <;> simp only [ObsEq', OutRel] at h <;> simp only [Outcome.tag] at ht <;> try omega
  exact h.1.tape x

def exDseStopQ : Program 8 :=
  { temps := 0, minAcc := 0, maxAcc := 1, live := #[], insts := #[.noop, .out 1, .copy (.mem 0) (.imm 3#8)] }

/-- Hence `ObsEq'` (which compares the tape of `stopped` outcomes) does not hold, whatever the fuel given to the
transformed program: `BehEq` fails for this state. -/
theorem dse_not_obsEq' : ¬ ∃ fuel',
    ObsEq' (Bc.run (progOf exDseStop 0 0 1) false 0 10 dseEnvRefuse) (Bc.run exDseStopQ false 0 fuel' dseEnvRefuse) := by
  rintro ⟨fuel', h⟩
  have h1 : (Bc.run (progOf exDseStop 0 0 1) false 0 10 dseEnvRefuse).tag = 1 := by decide +kernel
  have h7 : (Bc.run (progOf exDseStop 0 0 1) false 0 10 dseEnvRefuse).cfg.st.tape.get 0 = 7#8 := by
    decide +kernel
  have h2 : (Bc.run exDseStopQ false 0 fuel' dseEnvRefuse).cfg.st.tape.get 0 = 0#8 := by
    rcases Nat.lt_or_ge fuel' 2 with hlt | hge
    · have : fuel' = 0 ∨ fuel' = 1 := by omega
      rcases this with rfl | rfl <;> decide +kernel
    · obtain ⟨g, rfl⟩ : ∃ g, fuel' = 2 + g := ⟨fuel' - 2, by omega⟩
      have ht : (Bc.run exDseStopQ false 0 2 dseEnvRefuse).tag ≠ 4 := by decide +kernel
      have e : Bc.run exDseStopQ false 0 (2 + g) dseEnvRefuse = Bc.run exDseStopQ false 0 2 dseEnvRefuse :=
        (Bc.fuelRun exDseStopQ false).add (fun c' e => ht (congrArg Outcome.tag e)) g
      rw [e]
      decide +kernel
  have := dse_obsEq'_stopped_tape h h1 0
  rw [h7, h2] at this
  exact absurd this (by decide)

/-- The same phenomenon on a state REACHABLE from emission: the IR program `[0] := 7; output [1]; [0] := 3`.
The pass removes the first store; with a sink that refuses the byte both programs stop with the same events
(`outFail 0`), but cell 0 holds 7 before the pass and 0 after it.  (Only the tape of a run that stopped at a
failing I/O operation differs; the event trace never does, see `deadStoreElim_preserves`.) -/
def exDseIr : Ir.Block 8 := { shift := 0, insts := [.load 0 7#8, .output 1, .load 0 3#8] }

def exDseIrP : Array (Instr 8) :=
  #[.copy (.tmp 0) (.imm 7#8), .copy (.mem 0) (.tmp 0), .out 1, .copy (.tmp 1) (.imm 3#8), .copy (.mem 0) (.tmp 1)]
def exDseIrQ : Array (Instr 8) :=
  #[.copy (.tmp 0) (.imm 7#8), .noop, .out 1, .copy (.tmp 1) (.imm 3#8), .copy (.mem 0) (.tmp 1)]

theorem dse_stopped_tape_differs_reachable :
    (emitState exDseIr false).toOption.map (·.insts) = some exDseIrP ∧
    ((emitState exDseIr false).toOption.bind (fun s => (deadStoreElim s).toOption)).map (·.insts)
      = some exDseIrQ ∧
    (let o1 := Bc.run ({ temps := 2, minAcc := 0, maxAcc := 1, live := #[], insts := exDseIrP } : Program 8)
        false 0 10 dseEnvRefuse
     let o2 := Bc.run ({ temps := 2, minAcc := 0, maxAcc := 1, live := #[], insts := exDseIrQ } : Program 8)
        false 0 10 dseEnvRefuse
     o1.tag = 1 ∧ o2.tag = 1 ∧ o1.cfg.st.trace = [Ev.outFail 0] ∧ o2.cfg.st.trace = [Ev.outFail 0] ∧
     o1.cfg.st.tape.get 0 = 7#8 ∧ o2.cfg.st.tape.get 0 = 0#8) := by decide +kernel

/-- Without "no `memZero`": the scan does not see that `memZero 0` is a READ of cell 0 (`remMem` only looks at
`mem`), so the store of 7 is removed and the program prints 0 instead of 7. -/
def exDseZero : St 8 :=
  { insts := #[.copy (.mem 0) (.imm 7#8), .copy (.mem 1) (.memZero 0), .copy (.mem 0) (.imm 3#8), .out 1],
    live := #[] }

theorem dse_noMemZero_necessary :
    ¬ DsePre exDseZero ∧
    (deadStoreElim exDseZero).toOption.map (·.insts) =
      some #[.noop, .copy (.mem 1) (.memZero 0), .copy (.mem 0) (.imm 3#8), .out 1] ∧
    (Bc.run (progOf exDseZero 0 0 1) false 0 10 dseEnvSink).cfg.st.trace = [Ev.out 7] ∧
    (Bc.run ({ temps := 0, minAcc := 0, maxAcc := 1, live := #[],
               insts := #[.noop, .copy (.mem 1) (.memZero 0), .copy (.mem 0) (.imm 3#8), .out 1] } : Program 8)
      false 0 10 dseEnvSink).cfg.st.trace = [Ev.out 0] := by decide +kernel

def dseErr {α : Type} : Except String α → Option String
  | .error e => some e
  | .ok _ => none

/-- Without the bookkeeping: `num_uses = 0` for a temporary that IS read removes its definition (prints 0
instead of 3); an empty `ranges` makes the pass fail (the Rust would panic on the index). -/
def exDseBook : St 8 :=
  { insts := #[.add (.tmp 0) (.imm 1#8) (.imm 2#8), .copy (.mem 0) (.tmp 0), .out 0],
    ranges := #[dseR 0], live := #[] }

theorem dse_bookkeeping_necessary :
    ¬ DsePre exDseBook ∧
    (deadStoreElim exDseBook).toOption.map (·.insts) = some #[.noop, .copy (.mem 0) (.tmp 0), .out 0] ∧
    (Bc.run (progOf exDseBook 1 0 0) false 0 10 dseEnvSink).cfg.st.trace = [Ev.out 3] ∧
    (Bc.run ({ temps := 1, minAcc := 0, maxAcc := 0, live := #[],
               insts := #[.noop, .copy (.mem 0) (.tmp 0), .out 0] } : Program 8)
      false 0 10 dseEnvSink).cfg.st.trace = [Ev.out 0] ∧
    dseErr (deadStoreElim { exDseBook with ranges := #[] }) = some "dead_store_elim:ranges-index" ∧
    -- a dead store whose source has `num_uses = 0`: the decrement underflows
    dseErr (deadStoreElim
      ({ insts := #[.copy (.mem 0) (.tmp 0), .copy (.mem 0) (.imm 1#8)], ranges := #[dseR 0] } : St 8))
      = some "dead_store_elim:num_uses-underflow" := by decide +kernel

end C02
end Hpbf
