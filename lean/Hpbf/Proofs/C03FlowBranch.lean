/-
C03 (control flow): `brz` / `brnz`, unlimited and limited (`emit_limit_check`).
-/
import Hpbf.Proofs.C03FlowExit
import Hpbf.Proofs.C11Step
namespace Hpbf
namespace C03
open Asm JitGen X86Sem X86Prog
variable {w : Nat}

/-- `emit_limit_check` with the jump to the termination label resolved to the displacement `d`. The five
instructions are 4, 4, 6, 3, 4 bytes long: the `jb` ends at byte 14, from where `d` counts, and the whole check
is 21 bytes; it takes 3 steps when the jump is taken and 5 otherwise. -/
def limitCode (d : Int) : List X86 :=
  [mov64 scr0 (.mem (some cxt) none 1 24), .cmpRmImm8 .b64 (.reg scr0) 2, .jccRel32 .below d,
   .subRmImm (.reg scr0) 1, st64 (.mem (some cxt) none 1 24) scr0]

theorem Ctx.resolve_limitCheck (K : Ctx w) {pos : Nat} {its : List Item} {xs : List X86}
    (h : resolveItems (locsOf K.p K.C.body) K.term pos (limitCheck ++ its) = some xs)
    (hpos : pos + itemsSize limitCheck ≤ K.loc K.n) :
    ∃ d ys, xs = limitCode d ++ ys ∧ (pos : Int) + 14 + d = K.term ∧ (X86.jccRel32 .below d).fits = true ∧
      resolveItems (locsOf K.p K.C.body) K.term (pos + itemsSize limitCheck) its = some ys := by
  obtain ⟨a, b, h1, h2, h3⟩ := resolveItems_append _ _ _ h
  unfold limitCheck at h1
  obtain ⟨y1, e1, h1⟩ := resolveItems_plain_cons h1
  obtain ⟨y2, e2, h1⟩ := resolveItems_plain_cons h1
  obtain ⟨y3, y4, h4, h1, e3⟩ := resolveItems_cons _ _ _ h1
  obtain ⟨y5, e5, h1⟩ := resolveItems_plain_cons h1
  obtain ⟨y6, e6, h1⟩ := resolveItems_plain_cons h1
  have e7 := resolveItems_nil' h1
  have hsz : itemsSize limitCheck = 21 := by decide
  have s1 : (mov64 scr0 (.mem (some cxt) none 1 24)).size = 4 := by decide
  have s2 : (X86.cmpRmImm8 .b64 (.reg scr0) 2).size = 4 := by decide
  rw [s1, s2] at h4
  obtain ⟨d, hd, hd', hf⟩ := K.resolve_jccTerm h4 (by omega)
  refine ⟨d, b, ?_, ?_, hf, h2⟩
  · rw [h3, e1, e2, e3, hd, e5, e6, e7]; rfl
  · push_cast at hd'; omega

/-- Outcome of the budget check: with less than two units left the code jumps to the termination label
(the budget cell is left as it is); otherwise it stores the decremented budget. Only `rax` and the flags
change besides. -/
theorem limit_check {cfg : Cfg} {code : List X86} {d : Int} {rest : List X86} {s : PState w}
    (hat : At cfg code s.pc (limitCode d ++ rest)) (hrbx : s.regs.rbx = cfg.cxtAddr)
    (hf : (X86.jccRel32 .below d).fits = true) {t : Nat} (ht : (s.pc : Int) + 14 + d = t) :
    (s.budget.toNat < 2 → ∃ s', steps cfg 3 s = some s' ∧ s'.pc = t ∧ SameTmp s s' ∧ s'.budget = s.budget ∧
        s'.off = s.off) ∧
    (2 ≤ s.budget.toNat → ∃ s', steps cfg 5 s = some s' ∧ s'.pc = s.pc + 21 ∧ SameTmp s s' ∧
        s'.budget = s.budget - 1 ∧ s'.off = s.off) := by
  -- mov rax, [rbx+24]; cmp rax, 2
  obtain ⟨s2, b2, e2⟩ : ∃ s2, Blk cfg [mov64 scr0 (.mem (some cxt) none 1 24), .cmpRmImm8 .b64 (.reg scr0) 2] s s2 ∧
      s2 = _ :=
    ⟨_, .cons (si_loadCxt (v := s.budget) (by decide) hrbx (by simp [cxtField]) (by omega)) rfl
      (.one (si_cmpRegImm (by omega)) rfl), rfl⟩
  have hcf : s2.cf = some (decide (s.budget.toNat < 2)) := by
    rw [e2]; simp [PState.adv, cmpFlags, alu, trunc64, PState.setReg, scr0, immVal]
  have hpc2 : s2.pc = s.pc + 8 := b2.pc_eq
  have h3 := si_jcc (cfg := cfg) (t := t) hf (show cond s2 .below = _ from hcf) (by rw [hpc2]; push_cast; omega)
  have hk2 : ∀ pc', SameTmp s { s2 with pc := pc' } := fun pc' => by
    rw [e2]
    exact ⟨fun r hr _ => by simp [PState.adv, cmpFlags, PState.setReg, scr0, hr], rfl, rfl, rfl, rfl, rfl, rfl,
      rfl, rfl, rfl⟩
  constructor
  · intro hlt
    simp only [hlt, decide_true, if_true] at h3
    exact ⟨_, b2.step_after hat h3, rfl, hk2 _, by rw [e2]; rfl, by rw [e2]; rfl⟩
  · intro hge
    simp only [show ¬ s.budget.toNat < 2 by omega, decide_false, Bool.false_eq_true, if_false] at h3
    -- jb (not taken); sub rax, 1; mov [rbx+24], rax
    have b5 := b2.append (.cons h3 rfl (.cons (si_sub1 (r := scr0) (by decide)) rfl
      (.one (si_storeBudget (r := scr0) (by rw [e2]; exact hrbx)) rfl)))
    refine ⟨_, (b5.steps (rest := rest) hat).1, b5.pc_eq, ?_, ?_, by rw [e2]; rfl⟩
    · rw [e2]
      exact ⟨fun r hr _ => by simp [PState.adv, cmpFlags, PState.setReg, scr0, hr], rfl, rfl, rfl, rfl, rfl, rfl,
        rfl, rfl, rfl⟩
    · rw [e2]; show (RegFile.set (RegFile.set s.regs .rax s.budget) .rax _).get .rax = _
      simp [PState.adv, cmpFlags, PState.setReg, scr0]


/-- The compare-and-branch pair. `taken` is whether the bytecode branch is taken. -/
theorem branch_tail {cfg : Cfg} {code : List X86} {sz : Size} (hsz : sz.bits = w) {idx : Int}
    (hidx : -2147483648 ≤ idx ∧ idx < 2147483648) {pr : JmpPred} {d : Int} {rest : List X86} {s : PState w}
    (hat : At cfg code s.pc ([cmpZero sz idx, .jccRel32 pr d] ++ rest))
    (hf1 : (cmpZero sz idx).fits = true) (hf2 : (X86.jccRel32 pr d).fits = true)
    (hpr : pr = .equal ∨ pr = .notEqual) {t : Nat}
    (ht : (s.pc : Int) + (cmpZero sz idx).size + 6 + d = t) :
    ∃ s', steps cfg 2 s = some s' ∧ SameBut s s' ∧
      s'.pc = if (decide ((view s).tape idx = 0#w) = (pr == .equal)) then t
              else s.pc + (cmpZero sz idx).size + 6 := by
  obtain ⟨s1, b1, e1⟩ : ∃ s1, Blk cfg [cmpZero sz idx] s s1 ∧ s1 = _ :=
    ⟨_, .one (si_cmpZero hsz hidx hf1) rfl, rfl⟩
  have hz1 : s1.zf = some (decide ((view s).tape idx = 0#w)) := by rw [e1]; exact cmpZero_zf (s := s) hsz _
  have hc : cond s1 pr = some (decide (decide ((view s).tape idx = 0#w) = (pr == .equal))) := by
    rcases hpr with rfl | rfl <;> simp [X86Prog.cond, hz1, show (JmpPred.notEqual == JmpPred.equal) = false from rfl]
  have hp1 : s1.pc = s.pc + (cmpZero sz idx).size := by rw [b1.pc_eq]; simp
  obtain ⟨s2, hs2, e2⟩ : ∃ s2, stepInstr cfg (.jccRel32 pr d) s1 = .next s2 ∧ s2 = _ :=
    ⟨_, si_jcc (t := t) hf2 hc (by rw [hp1]; push_cast; omega), rfl⟩
  refine ⟨s2, b1.step_after hat hs2, ?_, ?_⟩
  · rw [e2, e1]; exact ⟨rfl, rfl, rfl, ⟨rfl, rfl, rfl, rfl, rfl, rfl, rfl, rfl, rfl, rfl⟩⟩
  · rw [e2, hp1]; simp only [decide_eq_true_eq]

theorem mem_all_fits {its : List Item} (h : its.all Item.fits = true) {x : X86} (hx : Item.plain x ∈ its) :
    x.fits = true := by
  have := List.all_eq_true.1 h _ hx
  simpa [Item.fits] using this

/-- `brz` and `brnz` as one case, with the polarity `nz`. -/
def isBr (ins : Bc.Instr w) (nz : Bool) (cond off : Int) : Prop :=
  (nz = false ∧ ins = .brz cond off) ∨ (nz = true ∧ ins = .brnz cond off)

theorem emit_branch {sz : Size} {limited safe : Bool} {minAcc maxAcc : Int} {aE aI aO i live : Nat}
    {ins : Bc.Instr w} {nz : Bool} {cond off : Int} (hbr : isBr ins nz cond off) {its : List Item}
    (h : emitInstr sz limited safe minAcc maxAcc aE aI aO i live ins = some its) :
    its = (if limited then limitCheck else []) ++
      [.plain (cmpZero sz cond), .jccInstr (if nz then .notEqual else .equal) ((i : Int) + off)] ∧
    (cmpZero sz cond).fits = true := by
  obtain ⟨hraw, hfit⟩ := emitInstr_raw h
  have : its = (if limited then limitCheck else []) ++
      [.plain (cmpZero sz cond), .jccInstr (if nz then .notEqual else .equal) ((i : Int) + off)] := by
    rcases hbr with ⟨rfl, rfl⟩ | ⟨rfl, rfl⟩ <;> simp [emitInstrRaw] at hraw <;> exact hraw.symm
  refine ⟨this, mem_all_fits hfit (by rw [this]; simp)⟩

theorem step_branch {p : Bc.Program w} {limited : Bool} {c : Bc.Cfg w} {ins : Bc.Instr w} {nz : Bool}
    {cond off : Int} (hi : p.insts[c.pc]? = some ins) (hbr : isBr ins nz cond off) :
    Bc.step p limited c = C11.branch p limited c ((c.st.rd cond == 0#w) == !nz) off := by
  rw [C11.step_eq hi]
  rcases hbr with ⟨rfl, rfl⟩ | ⟨rfl, rfl⟩
  · simp only [C11.stepI, Bool.not_false, beq_true]
  · simp only [C11.stepI, Bool.not_true, beq_false, bne]

/-- `Inv` after a control transfer that changed nothing `Rel` or `Inv` look at, except the program
counter and possibly the budget. -/
theorem Inv.move {K : Ctx w} {fr : Frame} {c : Bc.Cfg w} {s s' : PState w} (h : Inv K fr c s)
    (hk : SameTmp s s') {pc' : Nat} {b' : Nat} (hpc : s'.pc = K.loc pc') (hb : s'.budget.toNat = b') :
    Inv K fr { c with pc := pc', budget := b' } s' :=
  (h.framed.of_sameTmp hk).inv hpc (hk.env.trans h.env) (hk.trace.trans h.trace) hb

theorem branchTarget_some {pc : Nat} {off : Int} {n t : Nat} (h : Bc.branchTarget pc off n = some t) :
    0 ≤ (pc : Int) + off ∧ t = ((pc : Int) + off).toNat ∧ t ≤ n := by
  unfold Bc.branchTarget at h
  simp only at h
  split at h
  · cases h; omega
  · cases h

/-- The compare-and-jump pair from a state `s0` that still agrees with `s` on everything `Rel` sees. -/
theorem branch_tail_inv (K : Ctx w) {fr : Frame} {c : Bc.Cfg w} {s : PState w} {nz : Bool} {cond off : Int}
    (hcond : -2147483648 ≤ cond ∧ cond < 2147483648) (hinv : Inv K fr c s) (hrel : Rel c (view s))
    (hfc : (cmpZero K.C.sz cond).fits = true) (hnext : K.loc (c.pc + 1) ≤ K.loc K.n)
    {s0 : PState w} {b : Nat} (hk : SameTmp s s0) (hb : s0.budget.toNat = b)
    {ys : List X86}
    (hres : resolveItems (locsOf K.p K.C.body) K.term s0.pc
      [.plain (cmpZero K.C.sz cond), .jccInstr (if nz then .notEqual else .equal) ((c.pc : Int) + off)] = some ys)
    (hat : At K.cfg K.code s0.pc ys) (hnx : s0.pc + (cmpZero K.C.sz cond).size + 6 = K.loc (c.pc + 1))
    {c' : Bc.Cfg w}
    (hc' : if ((c.st.rd cond == 0#w) == !nz) = true then
          ∃ t, Bc.branchTarget c.pc off K.p.insts.size = some t ∧ c' = { c with pc := t, budget := b }
        else c' = { c with pc := c.pc + 1, budget := b }) :
    ∃ s', steps K.cfg 2 s0 = some s' ∧ Inv K fr c' s' ∧ Rel c' (view s') := by
  have hszb := K.hszb
  have hpr : (if nz then JmpPred.notEqual else JmpPred.equal) = .equal ∨
      (if nz then JmpPred.notEqual else JmpPred.equal) = .notEqual := by cases nz <;> simp
  have hcmpsz : 0 < (cmpZero K.C.sz cond).size := size_pos _
  obtain ⟨y1, e1, hres⟩ := resolveItems_plain_cons hres
  obtain ⟨y2, y3, hj, hres, e2⟩ := resolveItems_cons _ _ _ hres
  have e3 := resolveItems_nil' hres
  obtain ⟨d, hd, h0, hle, hex, hfj⟩ := K.resolve_jccInstr hj (by omega)
  subst e3 hd e2 e1
  have hat' : At K.cfg K.code s0.pc
      ([cmpZero K.C.sz cond, .jccRel32 (if nz then .notEqual else .equal) d] ++ []) := by
    simpa using hat
  obtain ⟨s', hst, hsame, hpc⟩ := branch_tail hszb hcond hat' hfc hfj hpr
    (t := K.loc ((c.pc : Int) + off).toNat) (by push_cast at hex ⊢; omega)
  have hrel0 : Rel c (view s0) := hk.rel hrel
  have htape : (view s0).tape cond = c.st.rd cond := hrel0.2.2 cond
  have hk' : SameTmp s s' := hk.trans hsame.sameTmp
  have hb' : s'.budget.toNat = b := by rw [hsame.ctl.budget]; exact hb
  rw [htape] at hpc
  have hdec : (decide (c.st.rd cond = 0#w) = ((if nz then JmpPred.notEqual else JmpPred.equal) == .equal)) ↔
      ((c.st.rd cond == 0#w) == !nz) = true := by
    cases nz <;> simp [show (JmpPred.notEqual == JmpPred.equal) = false from rfl]
  by_cases htk : ((c.st.rd cond == 0#w) == !nz) = true
  · rw [if_pos htk] at hc'
    rw [if_pos (hdec.2 htk)] at hpc
    obtain ⟨t, hbt, rfl⟩ := hc'
    obtain ⟨_, rfl, _⟩ := branchTarget_some hbt
    exact ⟨s', hst, hinv.move hk' hpc hb', hk'.rel hrel⟩
  · rw [if_neg htk] at hc'
    rw [if_neg (fun h => htk (hdec.1 h))] at hpc
    subst hc'
    exact ⟨s', hst, hinv.move hk' (by rw [hpc, hnx]) hb', hk'.rel hrel⟩

/-- `brz` / `brnz`, the bytecode step continues: matched by the compare-and-jump pair (after the budget
check in limited mode). -/
theorem flow_branch_next (K : Ctx w) {fr : Frame} {c : Bc.Cfg w} {s : PState w} {ins : Bc.Instr w}
    {nz : Bool} {cond off : Int} (hi : K.p.insts[c.pc]? = some ins) (hbr : isBr ins nz cond off)
    (hcond : -2147483648 ≤ cond ∧ cond < 2147483648) (hinv : Inv K fr c s) (hrel : Rel c (view s))
    {c' : Bc.Cfg w} (hstep : Bc.step K.p K.limited c = .next c') :
    ∃ n s', steps K.cfg (n + 1) s = some s' ∧ Inv K fr c' s' ∧ Rel c' (view s') := by
  obtain ⟨lv, its, xs, hI⟩ := K.instrAt hi
  obtain ⟨hits, hfc⟩ := emit_branch hbr hI.emit
  have hnext : K.loc (c.pc + 1) ≤ K.loc K.n := K.loc_le hI.lt
  have hcmpsz : 0 < (cmpZero K.C.sz cond).size := size_pos _
  rw [step_branch hi hbr] at hstep
  obtain ⟨hni, hc'⟩ := C11.branch_next hstep
  have hres := hI.res
  have hnx := hI.next
  rw [hits] at hres hnx
  cases hlim : K.limited with
  | false =>
    simp only [hlim, Bool.false_eq_true, if_false, List.nil_append] at hres hnx hc'
    obtain ⟨s', h1, h2, h3⟩ := branch_tail_inv K hcond hinv hrel hfc hnext (SameTmp.rfl' s) hinv.budget
      (by rw [hinv.pc]; exact hres) (by rw [hinv.pc]; exact hI.at_)
      (by rw [hinv.pc, hnx]; simp [Item.size]; omega) hc'
    exact ⟨1, s', h1, h2, h3⟩
  | true =>
    simp only [hlim, if_true, true_and] at hres hnx hc' hni
    have hsz21 : itemsSize limitCheck = 21 := by decide
    obtain ⟨d, ys, hxs, hdt, hfd, hres2⟩ := K.resolve_limitCheck hres (by
      rw [itemsSize_append] at hnx; omega)
    have hat : At K.cfg K.code s.pc (limitCode d ++ ys) := by rw [hinv.pc, ← hxs]; exact hI.at_
    obtain ⟨_, hge⟩ := limit_check hat hinv.rbx hfd (t := K.term) (by rw [hinv.pc]; exact hdt)
    obtain ⟨s5, hst, hpc, hk, hbud, _⟩ := hge (by rw [hinv.budget]; omega)
    have hb5 : s5.budget.toNat = c.budget - 1 := by
      rw [hbud, BitVec.toNat_sub, hinv.budget]
      have := s.budget.isLt
      rw [hinv.budget] at this
      have e1 : (1 : BitVec 64).toNat = 1 := rfl
      rw [e1]
      omega
    have hat5 : At K.cfg K.code s5.pc ys := by
      rw [hpc]; have := hat.drop
      rwa [show sizeAll (limitCode d) = 21 from rfl] at this
    obtain ⟨s', h1, h2, h3⟩ := branch_tail_inv K hcond hinv hrel hfc hnext hk hb5
      (by rw [hpc, hinv.pc, ← hsz21]; exact hres2) hat5 (by
        rw [hpc, hinv.pc, hnx]; simp [Item.size, hsz21]; omega) hc'
    have h := steps_trans hst h1
    exact ⟨6, s', h, h2, h3⟩

/-- `brz` / `brnz` in limited mode with an exhausted budget: the code leaves through the termination label
and the function returns 0 (3 steps of the budget check, then the 9 of `exit_term`). The budget cell keeps its
value (0 or 1); the interpreter sets it to 0. -/
theorem flow_branch_interrupted (K : Ctx w) (htemps : alignedTemps K.p.temps * 8 < 2147483648)
    {fr : Frame} (h7 : fr.saved.length = 7) {c : Bc.Cfg w} {s : PState w} {ins : Bc.Instr w}
    {nz : Bool} {cond off : Int} (hi : K.p.insts[c.pc]? = some ins) (hbr : isBr ins nz cond off)
    (hinv : Inv K fr c s) {c' : Bc.Cfg w} (hstep : Bc.step K.p K.limited c = .interrupted c') (k : Nat) :
    ∃ s', run K.cfg (12 + k) s = .ret s' ∧ s'.regs.rax = 0 ∧ Returned fr K.p.temps s s' ∧
      c.budget < 2 ∧ c' = { c with budget := 0 } := by
  obtain ⟨lv, its, xs, hI⟩ := K.instrAt hi
  obtain ⟨hits, hfc⟩ := emit_branch hbr hI.emit
  have hnext : K.loc (c.pc + 1) ≤ K.loc K.n := K.loc_le hI.lt
  rw [step_branch hi hbr] at hstep
  obtain ⟨hlim, hb, rfl⟩ := C11.branch_interrupted hstep
  have hres := hI.res
  have hnx := hI.next
  rw [hits] at hres hnx
  simp only [hlim, if_true] at hres hnx
  obtain ⟨d, ys, hxs, hdt, hfd, hres2⟩ := K.resolve_limitCheck hres (by
    rw [itemsSize_append] at hnx; omega)
  have hat : At K.cfg K.code s.pc (limitCode d ++ ys) := by rw [hinv.pc, ← hxs]; exact hI.at_
  obtain ⟨hlt, _⟩ := limit_check hat hinv.rbx hfd (t := K.term) (by rw [hinv.pc]; exact hdt)
  obtain ⟨s3, hst, hpc, hk, hbud, _⟩ := hlt (by rw [hinv.budget]; omega)
  obtain ⟨s', hrun, hrax, hret⟩ := exit_term K htemps (hinv.framed.of_sameTmp hk) hpc h7 k
  refine ⟨s', ?_, hrax, ?_, by omega, rfl⟩
  · rw [show 12 + k = 3 + (9 + k) by omega, run_of_steps hst]; exact hrun
  · exact hret.of_keep ⟨hk.lptr, hk.tape, hk.env, hk.trace, hbud, hk.buf, hk.size, hk.base⟩

end C03
end Hpbf
