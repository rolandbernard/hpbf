/-
The work-list algorithm of `constantsAmong` (`checkConstant` / `constDeps` / `constLoop`). One invariant `WL`,
proved in total-correctness form: from the invariant the loops return, and what they return satisfies it again.
The counter of a variable in `dependsOn` bounds its pending occurrences in `dependents` (`tot`), so `constDeps`
finds every counter it decrements positive, and a variable whose counter reaches zero depends only on itself and
on constants (`dep`). Result `constantsAmong_spec`: `constantsAmong` fails only with an error of `compare`, and
every member of the set it returns is supported by the set (`Good`). Both the soundness of the loop analysis
(`constantsAmong_good`) and the absence of the three panic sites (`OptTotal.constantsAmong_ok`) are its readings.
-/
import Hpbf.Proofs.OptLoopConstAlg

namespace Hpbf.OptLoop
open Hpbf Opt OptSem Expr OptTotal

variable {w : Nat}

/-- `var` passed the tests of `constants_among`; `vs` are the variables handed to `check_constant`
(`[]` for a variable that is neither written nor pending). -/
def IsCand (s : Rebuild w) (ps : List (Rebuild w)) (sub : Rebuild w) (var : Int) (vs : List Int) : Prop :=
  match mGet sub.written var with
  | some (.known wr) =>
    compare s ps (Expr.var var) wr = .ok true ∧
      (match mGet sub.pending var with
       | some p => compare s ps (Expr.var var) p = .ok true ∧ vs = Expr.variables wr ++ Expr.variables p
       | none => vs = Expr.variables wr)
  | some _ => False
  | none =>
    match mGet sub.pending var with
    | some p => compare s ps (Expr.var var) p = .ok true ∧ vs = Expr.variables p
    | none => vs = []

/-- An entry of `written` for a candidate is `known`, equal to the variable for `compare`, and its variables are
among `vs`. -/
theorem IsCand.written {s : Rebuild w} {ps : List (Rebuild w)} {sub : Rebuild w} {c : Int} {vs : List Int}
    (h : IsCand s ps sub c vs) {wv : OptWrite w} (hw : mGet sub.written c = some wv) :
    ∃ wr, wv = .known wr ∧ compare s ps (Expr.var c) wr = .ok true ∧ ∀ x ∈ Expr.variables wr, x ∈ vs := by
  unfold IsCand at h
  rw [hw] at h
  cases wv with
  | known wr =>
    refine ⟨wr, rfl, h.1, ?_⟩
    cases hp : mGet sub.pending c with
    | none => simp only [hp] at h; rw [h.2]; exact fun x hx => hx
    | some p => simp only [hp] at h; rw [h.2.2]; exact fun x hx => List.mem_append_left _ hx
  | unknown => exact h.elim
  | maybe => exact h.elim

/-- The pending expression of a candidate is equal to the variable for `compare`, and its variables are among `vs`. -/
theorem IsCand.pending {s : Rebuild w} {ps : List (Rebuild w)} {sub : Rebuild w} {c : Int} {vs : List Int}
    (h : IsCand s ps sub c vs) {p : Expr w} (hp : mGet sub.pending c = some p) :
    compare s ps (Expr.var c) p = .ok true ∧ ∀ x ∈ Expr.variables p, x ∈ vs := by
  unfold IsCand at h
  cases hw : mGet sub.written c with
  | none => simp only [hw, hp] at h; exact ⟨h.1, by rw [h.2]; exact fun x hx => hx⟩
  | some wv =>
    cases wv with
    | known wr => simp only [hw, hp] at h; exact ⟨h.2.1, by rw [h.2.2]; exact fun x hx => List.mem_append_right _ hx⟩
    | unknown => simp only [hw] at h
    | maybe => simp only [hw] at h

def Closed (P : Int → List Int → Prop) (C : List Int) (c : Int) : Prop :=
  ∃ vs, P c vs ∧ ∀ x ∈ vs, x = c ∨ x ∈ C

theorem Closed.mono {P : Int → List Int → Prop} {C C' : List Int} {c : Int} (h : Closed P C c)
    (hsub : ∀ x ∈ C, x ∈ C') : Closed P C' c :=
  let ⟨vs, hc, hv⟩ := h; ⟨vs, hc, fun x hx => (hv x hx).imp id (hsub x)⟩

/-- `Closed` for the candidates of `constants_among`. -/
def Good (s : Rebuild w) (ps : List (Rebuild w)) (sub : Rebuild w) (C : List Int) (c : Int) : Prop :=
  ∃ vs, IsCand s ps sub c vs ∧ ∀ x ∈ vs, x = c ∨ x ∈ C

theorem good_iff {s : Rebuild w} {ps : List (Rebuild w)} {sub : Rebuild w} {C : List Int} {c : Int} :
    Good s ps sub C c ↔ Closed (IsCand s ps sub) C c := Iff.rfl

/-- The state of `constants_among`: `(constant, dependents, depends_on)`. -/
abbrev CState := List Int × List (Int × List Int) × List (Int × Nat)

/-- The `for v in iter().filter(x != var)` loop of `check_constant`. -/
def pushDeps (var : Int) (others : List Int) (d : List (Int × List Int)) : List (Int × List Int) :=
  others.foldl (fun d v => mSet d v (((mGet d v).getD []) ++ [var])) d

theorem pushDeps_spec (var : Int) (others : List Int) (d : List (Int × List Int)) (h : KeysAsc d) :
    KeysAsc (pushDeps var others d) ∧
    (∀ u, occ (pushDeps var others d) u = occ d u + (if u = var then others.length else 0)) ∧
    (∀ x u, u ∈ (mGet d x).getD [] → u ∈ (mGet (pushDeps var others d) x).getD []) ∧
    (∀ x ∈ others, var ∈ (mGet (pushDeps var others d) x).getD []) := by
  induction others generalizing d with
  | nil =>
    refine ⟨h, fun u => ?_, fun x u hu => hu, fun x hx => by cases hx⟩
    simp [pushDeps]
  | cons v others ih =>
    have hd1 := keysAsc_mSet d v (((mGet d v).getD []) ++ [var]) h
    obtain ⟨ha, hocc, hmono, hmem⟩ := ih (mSet d v (((mGet d v).getD []) ++ [var])) hd1
    have hpd : pushDeps var (v :: others) d
        = pushDeps var others (mSet d v (((mGet d v).getD []) ++ [var])) := rfl
    rw [hpd]
    have hstepmono : ∀ x u, u ∈ (mGet d x).getD [] →
        u ∈ (mGet (mSet d v (((mGet d v).getD []) ++ [var])) x).getD [] := by
      intro x u hu
      rw [mGet_mSet]
      split
      · rename_i hvx; subst hvx
        simp only [Option.getD_some]
        exact List.mem_append_left _ hu
      · exact hu
    refine ⟨ha, fun u => ?_, fun x u hu => hmono x u (hstepmono x u hu), fun x hx => ?_⟩
    · rw [hocc u]
      have h1 := occ_mSet d v (((mGet d v).getD []) ++ [var]) u h
      rw [List.count_append] at h1
      by_cases huv : u = var
      · subst huv
        simp only [List.count_singleton_self, if_true, List.length_cons] at h1 ⊢
        omega
      · have : List.count u [var] = 0 := by
          rw [List.count_eq_zero]; simpa using huv
        simp only [this, if_neg huv] at h1 ⊢
        omega
    · rcases List.mem_cons.1 hx with hx | hx
      · subst hx
        apply hmono
        rw [mGet_mSet, if_pos rfl]
        simp
      · exact hmem x hx

theorem checkConstant_eq (var : Int) (vs : List Int) (st : CState) :
    checkConstant var vs st =
      if vs.all (fun x => x == var || st.1.contains x) then (sIns st.1 var, st.2.1, st.2.2)
      else (st.1, pushDeps var (vs.filter (fun x => !(x == var))) st.2.1,
            mSet st.2.2 var (vs.filter (fun x => !(x == var))).length) := by
  obtain ⟨c, d, o⟩ := st
  rfl

theorem checkConstant_nil (var : Int) (st : CState) :
    checkConstant var [] st = (sIns st.1 var, st.2.1, st.2.2) := by
  rw [checkConstant_eq]
  simp

/-- The body of the first loop of `constants_among`. -/
def constStep (s : Rebuild w) (ps : List (Rebuild w)) (sub : Rebuild w) (st : CState) (var : Int) :
    Except String CState := do
  match mGet sub.written var with
  | some (.known written) =>
    if (← compare s ps (Expr.var var) written) then
      match mGet sub.pending var with
      | some pending =>
        if (← compare s ps (Expr.var var) pending) then
          pure (checkConstant var (Expr.variables written ++ Expr.variables pending) st)
        else pure st
      | none => pure (checkConstant var (Expr.variables written) st)
    else pure st
  | some _ => pure st
  | none =>
    match mGet sub.pending var with
    | some pending =>
      if (← compare s ps (Expr.var var) pending) then
        pure (checkConstant var (Expr.variables pending) st)
      else pure st
    | none => pure (sIns st.1 var, st.2.1, st.2.2)

theorem constantsAmong_eq (s : Rebuild w) (ps : List (Rebuild w)) (sub : Rebuild w) (vars : List Int) :
    constantsAmong s ps sub vars = (do
      let st ← vars.foldlM (constStep s ps sub) ([], [], [])
      constLoop (st.1.length + st.2.2.length + 1) st.1.reverse st.1 st.2.1 st.2.2) := rfl

theorem not_mem_of_occ_zero (d : List (Int × List Int)) (u x : Int) (h : occ d u = 0) :
    u ∉ (mGet d x).getD [] := by
  cases hg : mGet d x with
  | none => simp
  | some l =>
    have := count_le_occ d x l u hg
    simp only [Option.getD_some]
    intro hm
    have : 0 < l.count u := List.count_pos_iff.2 hm
    omega

/-- The work-list invariant.  `rest` is the unread part of the `dependents` list being walked (already erased
from `d`).  `tot` alone is what keeps `constDeps` from failing; with `dep` it makes a variable whose counter
reaches zero closed. -/
structure WL (P : Int → List Int → Prop) (stack constant : List Int) (d : List (Int × List Int))
    (rest : List Int) (o : List (Int × Nat)) : Prop where
  asc : KeysAsc o
  good : ∀ c ∈ constant, Closed P constant c
  stk : ∀ c ∈ stack, c ∈ constant
  dep : ∀ var k, mGet o var = some k →
    ∃ vs, P var vs ∧ ∀ x ∈ vs, x = var ∨ x ∈ constant ∨ var ∈ (mGet d x).getD []
  tot : ∀ var, rest.count var + occ d var ≤ cnt o var

variable {P : Int → List Int → Prop}

theorem WL.grow {stack constant : List Int} {d : List (Int × List Int)} {rest : List Int}
    {o : List (Int × Nat)} (h : WL P stack constant d rest o) (c : Int) (hc : Closed P (sIns constant c) c) :
    WL P (c :: stack) (sIns constant c) d rest o := by
  have hsub : ∀ x ∈ constant, x ∈ sIns constant c := fun x hx => mem_sIns.2 (Or.inr hx)
  refine ⟨h.asc, fun x hx => ?_, fun x hx => ?_, fun var k hk => ?_, h.tot⟩
  · rcases mem_sIns.1 hx with rfl | hx
    · exact hc
    · exact (h.good x hx).mono hsub
  · rcases List.mem_cons.1 hx with rfl | hx
    · exact mem_sIns.2 (Or.inl rfl)
    · exact hsub x (h.stk x hx)
  · obtain ⟨vs, hp, hv⟩ := h.dep var k hk
    exact ⟨vs, hp, fun x hx => (hv x hx).imp id (fun h => h.imp (hsub x) id)⟩

/-- Decrementing the counter of the head of `rest`. -/
theorem WL.dec {stack constant : List Int} {d : List (Int × List Int)} {dep : Int} {rest : List Int}
    {o : List (Int × Nat)} {v : Nat} (h : WL P stack constant d (dep :: rest) o)
    (hv : mGet o dep = some (v + 1)) : WL P stack constant d rest (mSet o dep v) := by
  refine ⟨keysAsc_mSet o dep v h.asc, h.good, h.stk, fun var k hk => ?_, fun var => ?_⟩
  · rcases mGet_mSet_cases hk with ⟨rfl, _⟩ | ⟨_, hk⟩
    · exact h.dep _ _ hv
    · exact h.dep var k hk
  · have h2 := h.tot var
    rw [cnt_mSet]
    split
    · rename_i he; subst he
      simp only [List.count_cons_self, cnt, hv, Option.getD_some] at h2
      omega
    · rename_i hne
      rwa [List.count_cons_of_ne hne] at h2

theorem constDeps_wl (d : List (Int × List Int)) (deps : List Int) (stack constant : List Int)
    (o : List (Int × Nat)) (h : WL P stack constant d deps o) :
    ∃ stack' constant' o', constDeps deps (stack, constant, o) = .ok (stack', constant', o') ∧
      WL P stack' constant' d [] o' ∧ (∀ x ∈ constant, x ∈ constant') ∧
      stack'.length + pos o' ≤ stack.length + pos o := by
  induction deps generalizing stack constant o with
  | nil => exact ⟨stack, constant, o, rfl, h, fun x hx => hx, Nat.le_refl _⟩
  | cons dep rest ih =>
    have h1 := h.tot dep
    simp only [List.count_cons_self, cnt] at h1
    cases hg : mGet o dep with
    | none => simp only [hg, Option.getD_none] at h1; omega
    | some k =>
      simp only [hg, Option.getD_some] at h1
      cases k with
      | zero => omega
      | succ v =>
        have hpos := pos_mSet_dec o dep v h.asc hg
        have hd := h.dec hg
        simp only [constDeps, hg]
        by_cases hv : v = 0
        · -- the counter reaches zero: no unresolved edge into `dep` is left
          subst hv
          have hocc0 : occ d dep = 0 := by omega
          obtain ⟨vs, hp, hvs⟩ := h.dep dep 1 hg
          have hcl : Closed P (sIns constant dep) dep := ⟨vs, hp, fun x hx => by
            rcases hvs x hx with h1 | h1 | h1
            · exact Or.inl h1
            · exact Or.inr (mem_sIns.2 (Or.inr h1))
            · exact absurd h1 (not_mem_of_occ_zero d dep x hocc0)⟩
          obtain ⟨stack', constant', o', hr, hw, hsub, hp⟩ :=
            ih (dep :: stack) (sIns constant dep) (mSet o dep 0) (hd.grow dep hcl)
          refine ⟨stack', constant', o', by simpa using hr, hw,
            fun x hx => hsub x (mem_sIns.2 (Or.inr hx)), ?_⟩
          simp only [List.length_cons, if_true] at hp hpos
          omega
        · obtain ⟨stack', constant', o', hr, hw, hsub, hp⟩ := ih stack constant (mSet o dep v) hd
          refine ⟨stack', constant', o', by simpa [hv] using hr, hw, hsub, ?_⟩
          rw [if_neg hv] at hpos
          omega

/-- Popping `c`: its `dependents` list becomes `rest`; the edges into `c` are resolved since `c` is constant. -/
theorem WL.pop {c : Int} {stack constant : List Int} {d : List (Int × List Int)} {deps : List Int}
    {o : List (Int × Nat)} (h : WL P (c :: stack) constant d [] o) (hdeps : mGet d c = some deps) :
    WL P stack constant (mErase d c) deps o := by
  have hc : c ∈ constant := h.stk c List.mem_cons_self
  refine ⟨h.asc, h.good, fun x hx => h.stk x (List.mem_cons_of_mem _ hx), fun var k hk => ?_, fun var => ?_⟩
  · obtain ⟨vs, hp, hvs⟩ := h.dep var k hk
    refine ⟨vs, hp, fun x hx => ?_⟩
    rcases hvs x hx with h1 | h1 | h1
    · exact Or.inl h1
    · exact Or.inr (Or.inl h1)
    · by_cases hxc : c = x
      · subst hxc; exact Or.inr (Or.inl hc)
      · rw [mGet_mErase_ne d c x hxc]; exact Or.inr (Or.inr h1)
  · have h1 := occ_mErase d c var
    rw [hdeps] at h1
    have h2 := h.tot var
    simp only [Option.getD_some, List.count_nil] at h1 h2
    omega

theorem constLoop_wl (fuel : Nat) (stack constant : List Int) (d : List (Int × List Int))
    (o : List (Int × Nat)) (h : WL P stack constant d [] o) (hfuel : stack.length + pos o < fuel) :
    ∃ C, constLoop fuel stack constant d o = .ok C ∧ (∀ c ∈ C, Closed P C c) ∧ ∀ c ∈ constant, c ∈ C := by
  induction fuel generalizing stack constant d o with
  | zero => omega
  | succ fuel ih =>
    cases stack with
    | nil => exact ⟨constant, rfl, h.good, fun c hc => hc⟩
    | cons c stack =>
      simp only [List.length_cons] at hfuel
      simp only [constLoop]
      cases hdeps : mGet d c with
      | none =>
        exact ih stack constant d o
          ⟨h.asc, h.good, fun x hx => h.stk x (List.mem_cons_of_mem _ hx), h.dep, h.tot⟩ (by omega)
      | some deps =>
        obtain ⟨stack', constant', o', hr, hw, hsub, hp⟩ :=
          constDeps_wl (mErase d c) deps stack constant o (h.pop hdeps)
        obtain ⟨C, hC, hg, hs⟩ := ih stack' constant' (mErase d c) o' hw (by omega)
        refine ⟨C, ?_, hg, fun x hx => hs x (hsub x hx)⟩
        simp only [hr, bind, Except.bind]
        exact hC

/-- The first loop: the work list is empty, the `dependents` lists of unhandled variables are. -/
structure WL1 (P : Int → List Int → Prop) (done : List Int) (st : CState) : Prop where
  wl : WL P [] st.1 st.2.1 [] st.2.2
  ascD : KeysAsc st.2.1
  fresh : ∀ u, u ∉ done → occ st.2.1 u = 0

theorem WL1.skip {done : List Int} {st : CState} (h : WL1 P done st) (var : Int) : WL1 P (var :: done) st :=
  ⟨h.wl, h.ascD, fun u hu => h.fresh u (fun hd => hu (List.mem_cons_of_mem _ hd))⟩

theorem WL1.checkConstant {done : List Int} {st : CState} (h : WL1 P done st) (var : Int)
    (hnd : var ∉ done) (vs : List Int) (hp : P var vs) : WL1 P (var :: done) (checkConstant var vs st) := by
  rw [checkConstant_eq]
  split
  · rename_i hall
    have hcl : Closed P (sIns st.1 var) var := ⟨vs, hp, fun x hx => by
      have := List.all_eq_true.1 hall x hx
      simp only [Bool.or_eq_true, beq_iff_eq, List.contains_eq_mem, decide_eq_true_eq] at this
      exact this.imp id (fun h => mem_sIns.2 (Or.inr h))⟩
    have hg := h.wl.grow var hcl
    exact WL1.skip (st := (sIns st.1 var, st.2.1, st.2.2))
      ⟨⟨hg.asc, hg.good, fun _ hx => (by cases hx), hg.dep, hg.tot⟩, h.ascD, h.fresh⟩ var
  · obtain ⟨ha, hocc, hmono, hmem⟩ := pushDeps_spec var (vs.filter (fun x => !(x == var))) st.2.1 h.ascD
    refine ⟨⟨keysAsc_mSet _ _ _ h.wl.asc, h.wl.good, fun _ hx => (by cases hx), fun v k hk => ?_, fun u => ?_⟩,
      ha, fun u hu => ?_⟩
    · rcases mGet_mSet_cases hk with ⟨rfl, _⟩ | ⟨_, hk⟩
      · refine ⟨vs, hp, fun x hx => ?_⟩
        by_cases hxv : x = var
        · exact Or.inl hxv
        · exact Or.inr (Or.inr (hmem x (List.mem_filter.2 ⟨hx, by simpa using hxv⟩)))
      · obtain ⟨vs', hp', hv'⟩ := h.wl.dep v k hk
        exact ⟨vs', hp', fun x hx => (hv' x hx).imp id (fun h => h.imp id (hmono x v))⟩
    · show [].count u + occ (pushDeps var _ st.2.1) u ≤ cnt (mSet st.2.2 var _) u
      rw [hocc u, cnt_mSet]
      by_cases hu : u = var
      · subst hu
        rw [if_pos rfl, if_pos rfl, h.fresh u hnd]
        simp
      · rw [if_neg hu, if_neg (fun he => hu he.symm)]
        exact h.wl.tot u
    · show occ (pushDeps var _ st.2.1) u = 0
      have hne : u ≠ var := fun he => hu (by rw [he]; exact List.mem_cons_self)
      rw [hocc u, if_neg hne, h.fresh u (fun hd => hu (List.mem_cons_of_mem _ hd))]

def CmpErr (s : Rebuild w) (ps : List (Rebuild w)) (e : String) : Prop :=
  ∃ a b : Expr w, compare s ps a b = .error e

/-- What one round of the first loop does: it fails with an error of `compare`, leaves the state alone, or
calls `checkConstant` for a candidate. -/
theorem constStep_cases (s : Rebuild w) (ps : List (Rebuild w)) (sub : Rebuild w) (st : CState) (var : Int) :
    (∃ e, constStep s ps sub st var = .error e ∧ CmpErr s ps e) ∨
    constStep s ps sub st var = .ok st ∨
    ∃ vs, IsCand s ps sub var vs ∧ constStep s ps sub st var = .ok (checkConstant var vs st) := by
  unfold constStep IsCand
  split
  · rename_i wr hw
    cases hb : compare s ps (Expr.var var) wr with
    | error e => exact Or.inl ⟨e, rfl, _, _, hb⟩
    | ok b =>
      cases b with
      | false => exact Or.inr (Or.inl rfl)
      | true =>
        split
        · rename_i p hp
          cases hb2 : compare s ps (Expr.var var) p with
          | error e => exact Or.inl ⟨e, rfl, _, _, hb2⟩
          | ok b2 =>
            cases b2 with
            | false => exact Or.inr (Or.inl rfl)
            | true => exact Or.inr (Or.inr ⟨_, ⟨rfl, rfl, rfl⟩, rfl⟩)
        · exact Or.inr (Or.inr ⟨_, ⟨rfl, rfl⟩, rfl⟩)
  · exact Or.inr (Or.inl rfl)
  · split
    · rename_i p hp
      cases hb : compare s ps (Expr.var var) p with
      | error e => exact Or.inl ⟨e, rfl, _, _, hb⟩
      | ok b =>
        cases b with
        | false => exact Or.inr (Or.inl rfl)
        | true => exact Or.inr (Or.inr ⟨_, ⟨rfl, rfl⟩, rfl⟩)
    · exact Or.inr (Or.inr ⟨[], rfl, by rw [checkConstant_nil]; rfl⟩)

theorem wl1_fold (s : Rebuild w) (ps : List (Rebuild w)) (sub : Rebuild w) (vars done : List Int)
    (st : CState) (h : WL1 (IsCand s ps sub) done st) (hnd : vars.Nodup) (hdis : ∀ v ∈ vars, v ∉ done) :
    (∃ e, vars.foldlM (constStep s ps sub) st = .error e ∧ CmpErr s ps e) ∨
    ∃ st' done', vars.foldlM (constStep s ps sub) st = .ok st' ∧ WL1 (IsCand s ps sub) done' st' := by
  induction vars generalizing done st with
  | nil => exact Or.inr ⟨st, done, rfl, h⟩
  | cons v vars ih =>
    rw [List.nodup_cons] at hnd
    rw [List.foldlM_cons]
    have hdis' : ∀ x ∈ vars, x ∉ v :: done := fun x hx hxd => by
      rcases List.mem_cons.1 hxd with rfl | hxd
      · exact hnd.1 hx
      · exact hdis x (List.mem_cons_of_mem _ hx) hxd
    rcases constStep_cases s ps sub st v with ⟨e, he, hc⟩ | he | ⟨vs, hp, he⟩
    · exact Or.inl ⟨e, by rw [he]; rfl, hc⟩
    · rw [he]; exact ih (v :: done) st (h.skip v) hnd.2 hdis'
    · rw [he]
      exact ih (v :: done) _ (h.checkConstant v (hdis v List.mem_cons_self) vs hp) hnd.2 hdis'

theorem constantsAmong_spec (s : Rebuild w) (ps : List (Rebuild w)) (sub : Rebuild w) (vars : List Int)
    (hnd : vars.Nodup) :
    (∃ e, constantsAmong s ps sub vars = .error e ∧ CmpErr s ps e) ∨
    ∃ C, constantsAmong s ps sub vars = .ok C ∧ ∀ c ∈ C, Good s ps sub C c := by
  rw [constantsAmong_eq]
  have h0 : WL1 (IsCand s ps sub) [] (([], [], []) : CState) :=
    ⟨⟨keysAsc_nil, fun c hc => (by cases hc), fun c hc => (by cases hc), fun var k hk => (by cases hk),
      fun var => Nat.zero_le _⟩, keysAsc_nil, fun u _ => rfl⟩
  rcases wl1_fold s ps sub vars [] _ h0 hnd (fun v _ hv => by cases hv) with ⟨e, he, hc⟩ | ⟨st, done, hf, hi⟩
  · exact Or.inl ⟨e, by rw [he]; rfl, hc⟩
  · rw [hf]
    have hw : WL (IsCand s ps sub) st.1.reverse st.1 st.2.1 [] st.2.2 :=
      ⟨hi.wl.asc, hi.wl.good, fun c hc => List.mem_reverse.1 hc, hi.wl.dep, hi.wl.tot⟩
    -- `while let … pop()` of `opt.rs` has no fuel; the model's `constLoop` has one and fails with a `model:` error
    -- when it runs out. The fuel `constantsAmong` passes exceeds the potential `stack.length + pos dependsOn`
    -- (`pos_le_length`), so that error does not occur.
    obtain ⟨C, hC, hg, _⟩ := constLoop_wl (st.1.length + st.2.2.length + 1) _ _ _ _ hw (by
      have := pos_le_length st.2.2
      rw [List.length_reverse]
      omega)
    exact Or.inr ⟨C, hC, fun c hc => good_iff.2 (hg c hc)⟩

theorem constantsAmong_good (s : Rebuild w) (ps : List (Rebuild w)) (sub : Rebuild w) (vars : List Int)
    (C : List Int) (hnd : vars.Nodup) (h : constantsAmong s ps sub vars = .ok C) :
    ∀ c ∈ C, Good s ps sub C c := by
  rcases constantsAmong_spec s ps sub vars hnd with ⟨e, he, _⟩ | ⟨C', hC', hg⟩
  · rw [h] at he; cases he
  · rw [h] at hC'; cases hC'; exact hg

end Hpbf.OptLoop
