/-
The account of `clobberAll` and of the `clobber` phase of `loopOrIf` / `inline` (`ClobAcc`, `OptRbFoot2.lean`): the
groups emitted while cells are clobbered.  After a cell has been clobbered its old value is dead: no pending operation
uses it (`NoUse`), so the groups emitted afterwards neither read nor write it, while it is already recorded as written
(the set `E` of `RdC`).
-/
import Hpbf.Proofs.OptRbLoopStay2
import Hpbf.Proofs.OptRbFoot2

namespace Hpbf
namespace OptProof
open Opt OptSem Ir

variable {w : Nat}

theorem ClobAcc.of_emit {ps : List (Rebuild w)} {s s' : Rebuild w} {comps : List (List (Int × Expr w))}
    (r : EmitRes ps s s' comps) (f : EmitFoot s s' comps) :
    ClobAcc ps (fun _ => False) s s' comps :=
  ⟨r.insts, r.nodup, r.wf, r.hdr, f.mono, r.tgt, r.sub, f.frame, f.rd⟩

theorem ClobAcc.weaken {ps : List (Rebuild w)} {E E' : Int → Prop} {s s' : Rebuild w}
    {comps : List (List (Int × Expr w))} (h : ClobAcc ps E s s' comps) (hE : ∀ v, E v → E' v) :
    ClobAcc ps E' s s' comps :=
  ⟨h.insts, h.nodup, h.wf, h.hdr, h.mono, h.tgt, h.sub, h.frame, h.rd.weaken hE⟩

theorem clobberAll_acc (ps : List (Rebuild w)) (cl : List (Int × Bool)) {s : Rebuild w} (hwf : Wf s)
    (hnd : (cl.map (·.1)).Nodup)
    {os os' : Orders} {s' : Rebuild w} (hr : (clobberAll ps cl s).run os = .ok (s', os')) :
    ∃ comps, ClobAcc ps (fun v => v ∈ cl.map (·.1)) s s' comps ∧
      (∀ vb ∈ cl, vb.2 = true → ¬ DefW s' vb.1) ∧
      (∀ v, v ∉ cl.map (·.1) → mGet s.pending v = none → mGet s'.written v = mGet s.written v) ∧
      (s'.subShift = false → ∀ vb ∈ cl, vb.1 ∈ mKeys s'.written) := by
  induction cl generalizing s os with
  | nil =>
    unfold clobberAll at hr
    rw [List.foldlM_nil, run_pure] at hr
    cases hr
    exact ⟨[], ClobAcc.refl ps _ hwf, by simp, fun _ _ _ => rfl, fun _ _ h => absurd h (by simp)⟩
  | cons vb rest ih =>
    unfold clobberAll at hr
    rw [List.foldlM_cons, run_bind_ok] at hr
    obtain ⟨s1, os1, h1, h2⟩ := hr
    simp only [List.map_cons, List.nodup_cons] at hnd
    obtain ⟨c1, a, a8, a10, a11⟩ := clobber_acc h1 hwf
    obtain ⟨c2, b, b9, b10, b11⟩ := ih a.wf hnd.2 (show (clobberAll ps rest s1).run os1 = _ from h2)
    refine ⟨c1 ++ c2, ?_, ?_, ?_, ?_⟩
    · refine (a.trans b (fun v h => h ▸ a8)).weaken ?_
      rintro v (h | h)
      · rw [h]; simp
      · simp only [List.map_cons, List.mem_cons]; exact Or.inr h
    · intro vb' hvb' hflag
      rcases List.mem_cons.1 hvb' with e | e
      · subst e
        have hw1 : mGet s1.written vb'.1 = some OptWrite.maybe := by rw [a10, hflag]; rfl
        have := b10 vb'.1 hnd.1 a8.1
        rintro ⟨k, hk, hm⟩
        rw [this, hw1] at hk
        cases hk; cases hm
      · exact b9 vb' e hflag
    · intro v hv hp
      simp only [List.map_cons, List.mem_cons, not_or] at hv
      have hp1 : mGet s1.pending v = none := by
        cases hq : mGet s1.pending v with
        | none => rfl
        | some e => rw [a.sub v e hq] at hp; cases hp
      rw [b10 v hv.2 hp1]
      apply a11 v hv.1
      intro g hg hvg
      obtain ⟨ve, hve, e⟩ := List.mem_map.1 hvg
      have := a.tgt g hg ve hve
      rw [e, hp] at this; cases this
    · intro hs vb' hvb'
      rcases List.mem_cons.1 hvb' with e | e
      · rw [e]; exact b.frame.keysMono hs _ (OptLoop.mem_mKeys_of_mGet a10)
      · exact b11 hs vb' e

/-- Along any list of clobbers `reads` only grows (no condition on the list). -/
theorem clobberAll_readsMono (ps : List (Rebuild w)) (cl : List (Int × Bool)) {s : Rebuild w} (hwf : Wf s)
    {os os' : Orders} {s' : Rebuild w} (hr : (clobberAll ps cl s).run os = .ok (s', os')) :
    Wf s' ∧ ReadsMono s s' :=
  (Along.tri_clobberAll (t := false) (I := fun s : Rebuild w => Wf s) (R := fun s s' => Wf s' ∧ ReadsMono s s')
    ⟨fun s h => ⟨h, ReadsMono.refl s⟩, fun _ _ _ h1 h2 => ⟨h2.1, h1.2.trans h2.2⟩, fun _ _ _ h => h.1⟩
    (fun s var maybe hwf' => .of nofun fun os s' os' h => by
      obtain ⟨_, a, _⟩ := clobber_acc h hwf'
      exact ⟨a.wf, a.mono⟩) cl hwf).post hr

theorem cfold_snd (L : OptLoop w) (C : List Int) (l : List (Int × OptWrite w))
    (acc : Rebuild w × List (Int × Bool)) :
    (l.foldl (cfold L C) acc).2 =
      acc.2 ++ (l.filter (fun vk => !C.contains vk.1)).map (fun vk => (vk.1, vk.2.isMaybe || !L.atLeastOnce)) := by
  induction l generalizing acc with
  | nil => simp
  | cons vk l ih =>
    simp only [List.foldl_cons]
    rw [ih]
    unfold cfold
    cases hC : C.contains vk.1 with
    | true =>
      rw [List.filter_cons_of_neg (by rw [hC]; simp)]
      simp only [Bool.not_true, Bool.false_eq_true, if_false]
    | false =>
      rw [List.filter_cons_of_pos (by rw [hC]; simp)]
      cases hm : (vk.2.isMaybe || !L.atLeastOnce) with
      | true => simp only [Bool.not_false, if_true, List.map_cons, hm, List.append_assoc, List.singleton_append]
      | false =>
        simp only [Bool.not_false, if_true, Bool.false_eq_true, if_false, List.map_cons, hm, List.append_assoc,
          List.singleton_append]

/-- The cells clobbered before a non-moving block: `loop_or_if` (opt.rs, under `if !loop_anal.no_effect`) collects the
keys of the child's `written` that are not constant into the vector `clobber`, flagged `maybe` iff the entry is `Maybe`
or the block need not run (`cfold`, `OptRbLoopStay`; flag `isMaybe || !atLeastOnce`), sorts it (`Expr.stableSort … (a.1
≤ b.1)` is that `sort()`; the keys are distinct) and calls `clobber` on each.  `cfold_snd`, `cfold_list`: the vector is
this set with these flags. -/
def ClobSet (L : OptLoop w) (C : List Int) (sub : Rebuild w) (v : Int) : Prop :=
  L.noEffect = false ∧ ∃ vk ∈ sub.written, vk.1 = v ∧ C.contains v = false

theorem cfold_list (L : OptLoop w) (C : List Int) (sub s : Rebuild w) (hsw : Sorted sub.written) :
    ((Expr.stableSort (fun (a b : Int × Bool) => decide (a.1 ≤ b.1))
      (sub.written.foldl (cfold L C) (s, [])).2).map (·.1)).Nodup ∧
    ∀ vb, vb ∈ Expr.stableSort (fun (a b : Int × Bool) => decide (a.1 ≤ b.1))
        (sub.written.foldl (cfold L C) (s, [])).2 ↔
      ∃ vk ∈ sub.written, C.contains vk.1 = false ∧ vb = (vk.1, vk.2.isMaybe || !L.atLeastOnce) := by
  have hperm := Expr.stableSort_perm (fun (a b : Int × Bool) => decide (a.1 ≤ b.1))
    (sub.written.foldl (cfold L C) (s, [])).2
  have hsnd := cfold_snd L C sub.written (s, [])
  simp only [List.nil_append] at hsnd
  refine ⟨(List.Perm.nodup_iff (hperm.map _)).2 ?_, fun vb => ?_⟩
  · rw [hsnd, List.map_map]
    have : ((fun x : Int × Bool => x.1) ∘ fun vk : Int × OptWrite w =>
        (vk.1, vk.2.isMaybe || !L.atLeastOnce)) = (fun vk : Int × OptWrite w => vk.1) := rfl
    rw [this]
    exact List.Nodup.sublist (List.Sublist.map _ List.filter_sublist) (nodup_keys_of_sorted hsw)
  · rw [hperm.mem_iff, hsnd]
    simp only [List.mem_map, List.mem_filter, Bool.not_eq_true']
    constructor
    · rintro ⟨vk, ⟨h1, h2⟩, h3⟩; exact ⟨vk, h1, h2, h3.symm⟩
    · rintro ⟨vk, h1, h2, h3⟩; exact ⟨vk, ⟨h1, h2⟩, h3.symm⟩

/-- The `clobber` phase: the exceptions `E` are the clobbered cells (the pushed block or the spliced code writes
them); a clobbered cell is definitely written afterwards only if the block is known to run and the child definitely
writes it. -/
theorem clobberPhase_acc {s : Rebuild w} (ps : List (Rebuild w)) (sub : Rebuild w) (L : OptLoop w)
    (C : List Int) (hwf : Wf s) (hsw : Sorted sub.written) {os os' : Orders} {s' : Rebuild w}
    (hr : (clobberPhase s ps sub L C).run os = .ok (s', os')) :
    ∃ comps, ClobAcc ps (ClobSet L C sub) s s' comps ∧
      (∀ v, ClobSet L C sub v → DefW s' v → L.atLeastOnce = true ∧ DefW sub v) ∧
      (s'.subShift = false → ∀ v, ClobSet L C sub v → v ∈ mKeys s'.written) := by
  rw [clobberPhase_eq] at hr
  cases hne : L.noEffect with
  | true =>
    rw [hne] at hr
    simp only [Bool.not_true, Bool.false_eq_true, if_false] at hr
    rw [run_pure] at hr
    cases hr
    refine ⟨[], ClobAcc.refl ps _ hwf, ?_, ?_⟩
    · rintro _ ⟨h, _⟩
      rw [hne] at h; cases h
    · rintro _ _ ⟨h, _⟩
      rw [hne] at h; cases h
  | false =>
    rw [hne] at hr
    simp only [Bool.not_false, if_true] at hr
    obtain ⟨i1, i2, i3, _⟩ := cfold_spec ps L C sub.written (s, []) hwf
    obtain ⟨hnd, hmem⟩ := cfold_list L C sub s hsw
    obtain ⟨comps, b, b9, _, b11⟩ := clobberAll_acc ps _ i1 hnd hr
    have hw0 : (sub.written.foldl (cfold L C) (s, [])).1.written = s.written := i2.written
    have hin : ∀ v, ClobSet L C sub v → ∃ vk ∈ sub.written, vk.1 = v ∧
        (vk.1, vk.2.isMaybe || !L.atLeastOnce) ∈ Expr.stableSort
          (fun (a b : Int × Bool) => decide (a.1 ≤ b.1)) (sub.written.foldl (cfold L C) (s, [])).2 := by
      rintro v ⟨_, vk, hvk, e, hC⟩
      exact ⟨vk, hvk, e, (hmem _).2 ⟨vk, hvk, by rw [e]; exact hC, rfl⟩⟩
    refine ⟨comps, ⟨by rw [b.insts, i2.insts], b.nodup, b.wf, i2.hdr.trans b.hdr, ?_,
      fun g hg ve hve => i3 _ _ (b.tgt g hg ve hve), fun k e h => i3 k e (b.sub k e h),
      b.frame.congr_left hw0, (b.rd.congr_left hw0).weaken ?_⟩, ?_, ?_⟩
    · exact ⟨fun v hv => b.mono.1 v (by rw [i2.reads]; exact hv),
        fun h => by rw [← i2.subShift]; exact b.mono.2 h⟩
    · intro v hm
      obtain ⟨vb, hvb, e'⟩ := List.mem_map.1 hm
      obtain ⟨vk, hvk, hC, e''⟩ := (hmem vb).1 hvb
      exact ⟨hne, vk, hvk, by rw [← e', e''], by rw [← e', e'']; exact hC⟩
    · intro v hcl hdef
      obtain ⟨vk, hvk, e, hin'⟩ := hin v hcl
      cases hflag : (vk.2.isMaybe || !L.atLeastOnce) with
      | true => exact absurd (e ▸ hdef) (b9 _ hin' hflag)
      | false =>
        simp only [Bool.or_eq_false_iff, Bool.not_eq_false'] at hflag
        exact ⟨hflag.2, vk.2, by rw [← e]; exact mGet_of_mem hsw hvk, hflag.1⟩
    · intro hs v hcl
      obtain ⟨vk, _, e, hin'⟩ := hin v hcl
      exact e ▸ b11 hs _ hin'

end OptProof
end Hpbf

#print axioms Hpbf.OptProof.clobberPhase_acc
