/-
C03 (control flow): the prologue from the state `enter_jit_code` sets up (`prologue_run`), and the bytecode
configuration a machine state stands for (`shadowTemps`, `rel_shadow`).
-/
import Hpbf.Proofs.C03FlowCall
namespace Hpbf
namespace C03
open Asm JitGen X86Sem X86Prog
variable {w : Nat}

def shadowTemps (m : MState w) (n : Nat) : Bc.Temps w := (List.range n).map (fun t => (t, lo (tmpVal m t)))

theorem tget_append_map (f : Nat → BitVec w) (l : List Nat) (T : Bc.Temps w) (t : Nat) :
    Bc.tget (l.map (fun t => (t, f t)) ++ T) t = if t ∈ l then f t else Bc.tget T t := by
  induction l with
  | nil => simp
  | cons a l ih =>
    simp only [List.map_cons, List.cons_append, Bc.tget, List.mem_cons]
    by_cases h : a = t
    · subst h; simp
    · have h' : ¬ t = a := fun e => h e.symm
      simp only [h, if_false, ih, h', false_or]

theorem tget_shadow (m : MState w) (n t : Nat) :
    Bc.tget (shadowTemps m n) t = if t < n then lo (tmpVal m t) else 0#w := by
  unfold shadowTemps
  rw [← List.append_nil (List.map _ _), tget_append_map]
  simp [List.mem_range, Bc.tget]

theorem rel_shadow {m : MState w} {n : Nat} (hn : 11 ≤ n) (hstack : ∀ t, n ≤ t → m.stack t = 0)
    {pc b : Nat} {st : State w} (htape : ∀ o, m.tape o = st.rd o) :
    Rel { pc := pc, temps := shadowTemps m n, budget := b, st := st } m := by
  refine ⟨fun t r htr => ?_, fun t ht => ?_, htape⟩
  · obtain ⟨hlt, rfl⟩ := tmpReg_eq_some.1 htr
    show _ = Bc.tget (shadowTemps m n) t
    rw [tget_shadow, if_pos (by omega), ← regs_treg m hlt]
  · show _ = Bc.tget (shadowTemps m n) t
    rw [tget_shadow]
    split
    · simp [tmpVal, tmpReg_ge ht]
    · rw [hstack t (by omega)]; simp [lo]

/-- What `enter_jit_code` guarantees when it calls the compiled function. -/
structure Entry (K : Ctx w) (s0 : PState w) (ra : BitVec 64) : Prop where
  pc : s0.pc = 0
  stk : s0.stk = [ra]
  rdi : s0.regs.rdi = K.cfg.cxtAddr
  align : s0.regs.rsp.toNat % 16 = 8
  /-- `rsi` points at a cell of the buffer -/
  ptr : ((s0.regs.rsi - s0.buf).toInt) % cellBytes w = 0
  fresh : ∀ a, s0.tape.get a = 0#w

def frameOf (K : Ctx w) (s0 : PState w) (ra : BitVec 64) : Frame :=
  { rsp := s0.regs.rsp - BitVec.ofNat 64 (8 * 6) - BitVec.ofNat 64 (alignedTemps K.p.temps * 8)
    saved := [s0.regs.r15, s0.regs.r14, s0.regs.r13, s0.regs.r12, s0.regs.rbx, s0.regs.rbp, ra] }

theorem alignedTemps_odd (t : Nat) : alignedTemps t % 2 = 1 := by
  unfold alignedTemps; split <;> simp_all <;> omega

/-- Nine steps: the six pushes, `sub rsp, N` and the two `mov` of `prologue`. -/
theorem prologue_run (K : Ctx w) (htemps : alignedTemps K.p.temps * 8 < 2147483648) (hw : 8 ≤ w ∧ w ≤ 64)
    {s0 : PState w} {ra : BitVec 64} (hE : Entry K s0 ra) (env : Env) (henv : s0.env = env)
    (htr : s0.trace = []) :
    ∃ s T, steps K.cfg 9 s0 = some s ∧
      Inv K (frameOf K s0 ra) { pc := 0, temps := T, budget := s0.budget.toNat, st := State.init env } s ∧
      Rel { pc := 0, temps := T, budget := s0.budget.toNat, st := State.init env } (view s) ∧
      s.buf = s0.buf ∧ s.size = s0.size ∧ s.base = s0.base := by
  have hN : i32 ((alignedTemps K.p.temps * 8 : Nat) : Int) = ((alignedTemps K.p.temps * 8 : Nat) : Int) :=
    i32_nat (by omega)
  have hcode : ∃ B, K.code = [] ++ prologue K.p.temps ++ B :=
    ⟨K.C.rcode ++ (epilogueHead ++ epilogueTail K.p.temps), by have := K.C.hcode; simpa using this⟩
  obtain ⟨B, hB⟩ := hcode
  have hat : At K.cfg K.code s0.pc (prologue K.p.temps) := by
    rw [hE.pc]; exact ⟨K.hfetch, [], B, hB, rfl⟩
  unfold prologue at hat
  rw [hN] at hat
  -- six pushes
  have hat1 : At K.cfg K.code s0.pc ([Reg.rbp, .rbx, .r12, .r13, .r14, .r15].map X86.push ++
      [.subRmImm (.reg .rsp) ((alignedTemps K.p.temps * 8 : Nat) : Int), mov64 cxt (.reg .rdi),
       mov64 memr (.reg .rsi)]) := by simpa using hat
  obtain ⟨s1, b1, hstk1, hregs1, hrsp1, hk1⟩ := push_all (cfg := K.cfg) [Reg.rbp, .rbx, .r12, .r13, .r14, .r15]
    (by decide) s0
  -- sub rsp, N; mov rbx, rdi
  obtain ⟨s3, b3, e3⟩ : ∃ s3, Blk K.cfg [.subRmImm (.reg .rsp) ((alignedTemps K.p.temps * 8 : Nat) : Int),
      mov64 cxt (.reg .rdi)] s1 s3 ∧ s3 = _ :=
    ⟨_, .cons (si_subRsp (by omega) (by omega) (by omega)) rfl (.one (si_mov64Reg (by decide)) rfl), rfl⟩
  -- mov rbp, rsi
  have hrsi3 : s3.regs.get .rsi = s0.regs.rsi := by
    rw [e3]; simp [cxt]; exact hregs1 .rsi (by decide)
  have hbuf3 : s3.buf = s0.buf := by rw [e3]; exact hk1.buf
  have hb0 : cellBytes w ≠ 0 := by unfold cellBytes; omega
  have hl : loadRbp s3 (s3.regs.get .rsi) = some { s3 with
      regs := s3.regs.set .rbp s0.regs.rsi,
      lptr := s3.base + (s0.regs.rsi - s0.buf).toInt / cellBytes w, tapeOk := true } := by
    unfold loadRbp
    simp only [hrsi3, hbuf3, hb0, ne_eq, not_false_eq_true, hE.ptr, and_self, if_true]
  obtain ⟨s4, b4, e4⟩ : ∃ s4, Blk K.cfg [mov64 memr (.reg .rsi)] s3 s4 ∧ s4 = _ := ⟨_, .one (si_loadRbpReg hl) rfl, rfl⟩
  have b := b1.append (b3.append b4)
  have hdiv : (((alignedTemps K.p.temps * 8 : Nat) : Int) / 8).toNat = alignedTemps K.p.temps := by omega
  have hstk4 : s4.stk = List.replicate (alignedTemps K.p.temps) (K.cfg.junk .rsp) ++
      [s0.regs.r15, s0.regs.r14, s0.regs.r13, s0.regs.r12, s0.regs.rbx, s0.regs.rbp, ra] := by
    rw [e4, e3]; simp only [PState.adv, hdiv, hstk1, hE.stk]; rfl
  obtain ⟨T, hT⟩ : ∃ T, T = shadowTemps (view s4) (max 11 s4.stk.length) := ⟨_, rfl⟩
  refine ⟨s4, T, ?_, ?_, ?_, ?_, ?_, ?_⟩
  · exact (b.steps (rest := []) (by simpa using hat1)).1
  · refine { pc := ?pc, rbx := ?rbx, env := ?env, trace := ?trace, budget := ?budget, tapeOk := ?tapeOk,
             rsp := ?rsp, align := ?align, len := ?len, saved := ?saved, phys := ?phys }
    case pc =>
      show s4.pc = K.loc 0
      rw [b.pc_eq, hE.pc]
      simp only [Ctx.loc, locOf, offAt, startOf, prologue, hN, List.take_zero, List.flatten_nil,
        itemsSize_nil, sizeAll_append, sizeAll_cons, sizeAll_nil, List.map_cons, List.map_nil, Nat.zero_add,
        Nat.add_zero]
      omega
    case rbx =>
      show s4.regs.get .rbx = _
      rw [e4, e3]; simp [PState.adv, cxt, memr]
      rw [hregs1 .rdi (by decide)]; exact hE.rdi
    case env => rw [e4, e3]; exact hk1.env.trans henv
    case trace => rw [e4, e3]; exact hk1.trace.trans htr
    case budget =>
      show s4.budget.toNat = s0.budget.toNat
      rw [e4, e3]; simp only [PState.adv]; rw [hk1.budget]
    case tapeOk => rw [e4]; rfl
    case rsp =>
      show s4.regs.get .rsp = _
      rw [e4, e3]; simp [PState.adv, cxt, memr]
      have : s1.regs.rsp = s1.regs.get .rsp := rfl
      rw [this, hrsp1, immVal]
      have : ((alignedTemps K.p.temps : Int) * 8) = ((alignedTemps K.p.temps * 8 : Nat) : Int) := by
        push_cast; rfl
      rw [this, BitVec.ofInt_natCast]; rfl
    case align => exact frame_align hE.align (alignedTemps_odd K.p.temps)
    case len => rw [hstk4]; simp [frameOf]
    case saved => rw [hstk4]; simp [frameOf]
    case phys =>
      unfold Phys
      have e1 : s4.regs.rbp = s0.regs.rsi := by
        show s4.regs.get .rbp = _
        rw [e4]; simp [PState.adv]
      have e2 : s4.buf = s0.buf := by rw [e4]; exact hbuf3
      have e3 : s4.lptr - s4.base = (s0.regs.rsi - s0.buf).toInt / cellBytes w := by
        rw [e4]; simp only [PState.adv]; omega
      rw [e1, e2, e3, Int.mul_ediv_cancel' (Int.dvd_of_emod_eq_zero hE.ptr), BitVec.ofInt_toInt,
        BitVec.add_comm, BitVec.sub_add_cancel]
  · rw [hT]
    refine rel_shadow (Nat.le_max_left _ _) ?_ ?_
    · intro t ht
      simp only [view]
      rw [List.getD_eq_getElem?_getD, List.getElem?_eq_none (by omega)]; rfl
    · intro o
      simp only [view]
      have : s4.tape = s0.tape := by rw [e4, e3]; exact hk1.tape
      rw [this, hE.fresh]; rfl
  · rw [e4, e3]; exact hk1.buf
  · rw [e4, e3]; exact hk1.size
  · rw [e4, e3]; exact hk1.base

end C03
end Hpbf
