/-
The lockstep invariant between the run of a program and the run of its image under the dead store
elimination: matching continuation stacks (`MatchK`), the set of cells on which the two tapes may differ
(`DC`: certified by the pass data, `DeadI`, or protected by the `reads` fact during a re-entered loop
iteration, `Prot`), and the invariant `Inv`.
-/
import Hpbf.Proofs.C01DseDead

namespace Hpbf
namespace C01Dse
open Ir OptDse

variable {w : Nat} {lim : Bool} {bud : Nat} {b : Block w} {anal : DAnal} {env : Env}

/-- The syntactic hypotheses of the theorem (`ShiftFact`, `NoDupTargets`) for the remaining instructions `l` of a
block whose analysis node is `A`. -/
def Static (A : DAnal) (l : List (Instr w)) : Prop := shiftOkL A l = true ∧ noDupL l = true

theorem Static.tail {A : DAnal} {i : Instr w} {l : List (Instr w)} (h : Static A (i :: l)) : Static A l := by
  obtain ⟨h1, h2⟩ := h
  rw [shiftOkL, Bool.and_eq_true] at h1
  rw [noDupL, Bool.and_eq_true] at h2
  exact ⟨h1.2, h2.2⟩

theorem Static.calc_nodup {A : DAnal} {calcs : List (Int × Expr w)} {l : List (Instr w)}
    (h : Static A (.calc calcs :: l)) : (calcs.map Prod.fst).Nodup := by
  obtain ⟨_, h2⟩ := h
  rw [noDupL, Bool.and_eq_true, noDupI] at h2
  simpa using h2.1

theorem Static.block {A A1 : DAnal} {i : Instr w} {cond shift : Int} {body : List (Instr w)}
    (hp : blockParts i = some (cond, shift, body)) {l : List (Instr w)} (h : Static A (i :: l))
    (hA : subAt A (nblocks l + 1) = some A1) :
    Static A1 body ∧ (A1.hasShift = false →
      shift = 0 ∧ (usedSubs A1 (nblocks body)).all (fun a => !a.hasShift) = true) := by
  obtain ⟨h1, h2⟩ := h
  rw [shiftOkL, Bool.and_eq_true] at h1
  rw [noDupL, Bool.and_eq_true] at h2
  cases i <;> cases hp
  all_goals
    rw [shiftOkI, hA] at h1
    rw [noDupI] at h2
    simp only [Bool.and_eq_true, Bool.or_eq_true, beq_iff_eq] at h1
    refine ⟨⟨h1.1.2, h2.1⟩, fun hs => ?_⟩
    rcases h1.1.1 with h | h
    · rw [hs] at h; exact absurd h (by simp)
    · exact h

theorem body_noShift {P : List DState} {body body' : List (Instr w)} {shift : Int} {A1 : DAnal}
    {sub : DState} {idx1 : Nat}
    (hb : elimInsts P body (DState.new shift A1) A1.subs.length = some (body', sub, idx1))
    (hst : Static A1 body) (hu : (usedSubs A1 (nblocks body)).all (fun a => !a.hasShift) = true) :
    sub.hadShift = false ∧ noShiftL body = true := by
  refine ⟨bodyStart_hadShift hb hu, ?_⟩
  have hshape := shape_of_elim_both.2 body P (DState.new shift A1) _ hb
  exact noShift_of_both.2 body A1 (nblocks body) hshape hst.1 (Nat.le_refl _) hu

/-- `MatchK top ks ks' frs A sh`: `ks'` is the image of `ks` under the pass, `frs` the pass data of the blocks
being executed (innermost first), `A` / `sh` the analysis node / shift of the innermost one. -/
inductive MatchK (top : DAnal) : List (Cont w) → List (Cont w) → List Frame → DAnal → Int → Prop
  | nil : MatchK top [] [] [] top 0
  | loopEnd {ks ks' : List (Cont w)} {frs : List Frame} {A : DAnal} {sh cond shift : Int}
      {body body' rest rest' : List (Instr w)} {s : DState} {idx : Nat} {A1 : DAnal} {sub : DState}
      {idx1 : Nat} (once : Bool)
      (hk : MatchK top ks ks' frs A sh)
      (hrest : elimInsts (frs.map Frame.par) rest (DState.new sh A) A.subs.length = some (rest', s, idx))
      (hA1 : subAt A (nblocks rest + 1) = some A1)
      (hbody : elimInsts (s.read cond :: frs.map Frame.par) body (DState.new shift A1) A1.subs.length
        = some (body', sub, idx1))
      (hst : Static A (.loop cond shift body once :: rest)) :
      MatchK top (.loopEnd cond shift body rest :: ks) (.loopEnd cond shift body' rest' :: ks')
        (⟨sub, s.read cond⟩ :: frs) A1 shift
  | ifEnd {ks ks' : List (Cont w)} {frs : List Frame} {A : DAnal} {sh shift : Int}
      {body body' rest rest' : List (Instr w)} {s : DState} {idx : Nat} {A1 : DAnal} {sub : DState}
      {idx1 : Nat} (cond : Int)
      (hk : MatchK top ks ks' frs A sh)
      (hrest : elimInsts (frs.map Frame.par) rest (DState.new sh A) A.subs.length = some (rest', s, idx))
      (hA1 : subAt A (nblocks rest + 1) = some A1)
      (hbody : elimInsts (s.read cond :: frs.map Frame.par) body (DState.new shift A1) A1.subs.length
        = some (body', sub, idx1))
      (hst : Static A (.ifnz cond shift body :: rest)) :
      MatchK top (.ifEnd shift rest :: ks) (.ifEnd shift rest' :: ks') (⟨sub, s.read cond⟩ :: frs) A1 shift

theorem MatchK.length {top : DAnal} {ks ks' : List (Cont w)} {frs : List Frame} {A : DAnal} {sh : Int}
    (h : MatchK top ks ks' frs A sh) : ks.length = frs.length ∧ ks'.length = frs.length := by
  induction h with
  | nil => exact ⟨rfl, rfl⟩
  | loopEnd _ _ _ _ _ _ ih | ifEnd _ _ _ _ _ _ ih => simp [ih.1, ih.2]

/-- Entering the nested block `i`: both `MatchK` constructors at once. -/
theorem MatchK.enter {top : DAnal} {ks ks' : List (Cont w)} {frs : List Frame} {A : DAnal} {sh : Int}
    {i : Instr w} {cond shift : Int} {body body' rest rest' : List (Instr w)} {s : DState} {idx : Nat}
    {A1 : DAnal} {sub : DState} {idx1 : Nat} (hp : blockParts i = some (cond, shift, body))
    (hk : MatchK top ks ks' frs A sh)
    (hrest : elimInsts (frs.map Frame.par) rest (DState.new sh A) A.subs.length = some (rest', s, idx))
    (hA1 : subAt A (nblocks rest + 1) = some A1)
    (hbody : elimInsts (s.read cond :: frs.map Frame.par) body (DState.new shift A1) A1.subs.length
      = some (body', sub, idx1))
    (hst : Static A (i :: rest)) :
    MatchK top (contOf i rest :: ks) (contOf (withBody i body') rest' :: ks') (⟨sub, s.read cond⟩ :: frs)
      A1 shift := by
  cases i <;> cases hp
  · exact MatchK.loopEnd _ hk hrest hA1 hbody hst
  · exact MatchK.ifEnd _ hk hrest hA1 hbody hst

theorem MatchK.analOf {top : DAnal} {ks ks' : List (Cont w)} {frs : List Frame} {A : DAnal} {sh : Int}
    (h : MatchK top ks ks' frs A sh) : analOf top ks = some A := by
  induction h with
  | nil => rfl
  | loopEnd _ _ _ hA1 _ _ ih | ifEnd _ _ _ hA1 _ _ ih => simp only [C01Dse.analOf, ih, contRest, hA1]

theorem MatchK.shifts {top : DAnal} {ks ks' : List (Cont w)} {frs : List Frame} {A : DAnal} {sh : Int}
    (h : MatchK top ks ks' frs A sh) : ks'.map Cont.shift = ks.map Cont.shift := by
  induction h with
  | nil => rfl
  | loopEnd _ _ _ _ _ _ ih | ifEnd _ _ _ _ _ _ ih => simp [ih, Cont.shift]

theorem MatchK.chain {top : DAnal} {ks ks' : List (Cont w)} {frs : List Frame} {A : DAnal} {sh : Int}
    (h : MatchK top ks ks' frs A sh) : ∀ s0 : DState, s0.anal = A → s0.shift = sh → ChainOk s0 frs := by
  induction h with
  | nil => intro _ _ _; trivial
  | loopEnd _ _ hrest _ hbody _ ih | ifEnd _ _ hrest _ hbody _ ih =>
    intro s0 h1 h2
    obtain ⟨a1, a2, _⟩ := elimInsts_meta hrest
    obtain ⟨b1, b2, _⟩ := elimInsts_meta hbody
    refine ⟨h1.trans b1.symm, h2.trans b2.symm, ih _ ?_ ?_⟩
    · rw [read_anal]; exact a1
    · rw [read_shift]; exact a2

/-- `a` is protected by the `reads` fact of the loop of `fr` (whose body has been re-entered and whose nested
blocks do not move the pointer; `frs`: the enclosing frames) until the running iteration is over, and dead
afterwards. -/
structure ProtW (lim : Bool) (c : Cfg w) (fr : Frame) (frs : List Frame) (a : Int) : Prop where
  cur : noShiftL c.cur = true
  conts : nsAbove c.conts (frs.length + 1) = true
  unexp : ∀ n, unexposedN lim (frs.length + 1) a n c = true
  noShift : fr.sub.anal.hasShift = false
  shift0 : fr.sub.shift = 0
  notRead : (a - c.st.ptr) ∉ fr.sub.anal.reads
  after : DeadI fr.par (DeadK frs) (a - c.st.ptr)

/-- The protecting loop is that of SOME frame of the stack, not necessarily the innermost: its running iteration
may have entered nested blocks since. -/
def Prot (lim : Bool) (c : Cfg w) (frames : List Frame) (a : Int) : Prop :=
  ∃ fr frs, (fr :: frs) <:+ frames ∧ ProtW lim c fr frs a

/-- The tapes of the two runs may differ at address `a`. -/
def DC (lim : Bool) (c : Cfg w) (frames : List Frame) (s : DState) (a : Int) : Prop :=
  DeadI s (DeadK frames) (a - c.st.ptr) ∨ Prot lim c frames a

theorem ProtW.noread {lim : Bool} {c : Cfg w} {fr : Frame} {frs : List Frame} {a : Int}
    (hp : ProtW lim c fr frs a) (hne : ¬ (c.cur = [] ∧ c.conts.length ≤ frs.length + 1)) :
    a ∉ stepReads c :=
  unexposed_noread hp.unexp hne

theorem ProtW.next {lim : Bool} {c c1 : Cfg w} {fr : Frame} {frs : List Frame} {a : Int}
    (hp : ProtW lim c fr frs a) (hd : frs.length + 1 ≤ c.conts.length)
    (hne : ¬ (c.cur = [] ∧ c.conts.length ≤ frs.length + 1))
    (hs : step lim c = .next c1) (hw : a ∉ stepWrites c) : ProtW lim c1 fr frs a := by
  obtain ⟨n1, n2, _, n4⟩ := noShift_step hp.cur hp.conts hd hne hs
  refine ⟨n1, n2, unexposed_next hp.unexp hne hs hw, hp.noShift, hp.shift0, ?_, ?_⟩
  · rw [n4]; exact hp.notRead
  · rw [n4]; exact hp.after

/-- When the protecting iteration is over: dead by the pass data. -/
theorem ProtW.ended {lim : Bool} {c : Cfg w} {fr : Frame} {frs : List Frame} {a : Int} (shift : Int)
    (A : DAnal) (hp : ProtW lim c fr frs a) :
    DeadI (DState.new shift A) (DeadK (fr :: frs)) (a - c.st.ptr) := by
  refine DeadI.new ⟨Or.inr ⟨hp.noShift, Or.inl hp.notRead⟩, ?_⟩
  rw [hp.shift0, Int.sub_zero]
  exact hp.after

theorem Prot.noread {lim : Bool} {c : Cfg w} {frames : List Frame} {a : Int}
    (hp : Prot lim c frames a) (hcur : c.cur ≠ []) : a ∉ stepReads c := by
  obtain ⟨fr, frs, _, hw⟩ := hp
  exact hw.noread (fun h => hcur h.1)

theorem Prot.next {lim : Bool} {c c1 : Cfg w} {frames frames1 : List Frame} {a : Int}
    (hp : Prot lim c frames a) (hlen : c.conts.length = frames.length) (hcur : c.cur ≠ [])
    (hs : step lim c = .next c1) (hw : a ∉ stepWrites c)
    (hsuf : ∀ l : List Frame, l <:+ frames → l <:+ frames1) : Prot lim c1 frames1 a := by
  obtain ⟨fr, frs, hsf, hpw⟩ := hp
  have hd : frs.length + 1 ≤ c.conts.length := by
    have := hsf.length_le
    simp only [List.length_cons] at this
    omega
  exact ⟨fr, frs, hsuf _ hsf, hpw.next hd (fun h => hcur h.1) hs hw⟩

/-- At the end of a body (`cur = []`): either the protecting iteration is the one that ends, or the
protection continues. -/
theorem DC.at_end {lim : Bool} {c : Cfg w} {f0 : Frame} {frames : List Frame} {a : Int} {shift : Int}
    {A : DAnal} (h : DC lim c (f0 :: frames) (DState.new shift A) a)
    (hlen : c.conts.length = frames.length + 1) :
    DeadK (f0 :: frames) (a - c.st.ptr) ∨
      (a ∉ stepReads c ∧
        (∀ c1, step lim c = .next c1 → a ∉ stepWrites c → c1.conts.length = frames.length → Prot lim c1 frames a) ∧
        (∀ c1, step lim c = .next c1 → a ∉ stepWrites c → c1.conts.length = frames.length + 1 →
          Prot lim c1 (f0 :: frames) a)) := by
  rcases h with h | ⟨fr, frs, hsf, hpw⟩
  · exact Or.inl h.of_new
  · by_cases hl : frames.length ≤ frs.length
    · have heq : fr :: frs = f0 :: frames := hsf.eq_of_length_le (by simpa using hl)
      rw [← heq]
      exact Or.inl (hpw.ended shift A).of_new
    · have hd : frs.length + 1 ≤ c.conts.length := by omega
      have hne : ¬ (c.cur = [] ∧ c.conts.length ≤ frs.length + 1) := by
        rintro ⟨_, h2⟩; omega
      have hsf' : (fr :: frs) <:+ frames := by
        rcases List.suffix_cons_iff.1 hsf with h | h
        · have := congrArg List.length h
          simp only [List.length_cons] at this
          omega
        · exact h
      exact Or.inr ⟨hpw.noread hne, fun c1 hs hw _ => ⟨fr, frs, hsf', hpw.next hd hne hs hw⟩,
        fun c1 hs hw _ => ⟨fr, frs, hsf, hpw.next hd hne hs hw⟩⟩

/-- The running block ends and is left (`c1` is in the enclosing block, after it): what may differ is dead after
the block, or still protected by an enclosing loop. -/
theorem DC.leave {lim : Bool} {c c1 : Cfg w} {sub s : DState} {cond : Int} {frames : List Frame} {a : Int}
    {shift : Int} {A : DAnal} (h : DC lim c (⟨sub, s.read cond⟩ :: frames) (DState.new shift A) a)
    (hlen : c.conts.length = frames.length + 1) (hs : step lim c = .next c1) (hw : a ∉ stepWrites c)
    (hc1 : c1.conts.length = frames.length) (hp : c1.st.ptr = c.st.ptr + sub.shift) :
    DC lim c1 frames s a := by
  rcases DC.at_end h hlen with hd | ⟨_, pexit, _⟩
  · refine Or.inl ?_
    rw [show a - c1.st.ptr = a - c.st.ptr - sub.shift by omega]
    exact (DeadI.of_read hd.2).1
  · exact Or.inr (pexit _ hs hw hc1)

/-- `c`: a configuration of the run of `b`; `c'`: that of the run of the pass's output after the same number of
steps. Everything observable agrees; the tapes agree except on the cells in `DC`. `c'.cur` is what the pass
makes of `c.cur`, and `s` is the pass state at that point (the pass walks backwards, so it has seen exactly
`c.cur` of the running block). -/
structure Inv (lim : Bool) (bud : Nat) (b : Block w) (anal : DAnal) (env : Env) (c c' : Cfg w) : Prop where
  reach : Reach lim bud b env c
  ex : ∃ frs A sh s idx, MatchK anal c.conts c'.conts frs A sh ∧
      elimInsts (frs.map Frame.par) c.cur (DState.new sh A) A.subs.length = some (c'.cur, s, idx) ∧
      Static A c.cur ∧
      ∀ a, c.st.tape.get a = c'.st.tape.get a ∨ DC lim c frs s a
  budget : c'.budget = c.budget
  ptr : c'.st.ptr = c.st.ptr
  env : c'.st.env = c.st.env
  trace : c'.st.trace = c.st.trace

/-- `s1` / `s0`: the pass states before / after the pass has treated `i`, i.e. those AFTER / BEFORE `i` in
program order. -/
theorem Inv.head {i : Instr w}
    {rest cur' : List (Instr w)} {conts conts' : List (Cont w)} {budget budget' : Nat} {st st' : State w}
    (h : Inv lim bud b anal env ⟨i :: rest, conts, budget, st⟩ ⟨cur', conts', budget', st'⟩) :
    ∃ frs A sh rest' s1 idx1 i' s0 idx0, cur' = i' :: rest' ∧ MatchK anal conts conts' frs A sh ∧
      elimInsts (frs.map Frame.par) rest (DState.new sh A) A.subs.length = some (rest', s1, idx1) ∧
      elimInstr (frs.map Frame.par) i s1 idx1 = some (i', s0, idx0) ∧ Static A (i :: rest) ∧
      (∀ a, st.tape.get a = st'.tape.get a ∨ DC lim ⟨i :: rest, conts, budget, st⟩ frs s0 a) ∧
      Reach lim bud b env ⟨i :: rest, conts, budget, st⟩ ∧ budget' = budget ∧ st'.ptr = st.ptr ∧
      st'.env = st.env ∧ st'.trace = st.trace := by
  obtain ⟨hreach, ⟨frs, A, sh, s0, idx0, hK, hcur, hst, htape⟩, hbud, hptr, henv, htr⟩ := h
  obtain ⟨rest', s1, idx1, i', s0', idx0', h1, h2, hr⟩ := elimInsts_cons_some hcur
  simp only [Prod.mk.injEq] at hr
  obtain ⟨rfl, rfl, rfl⟩ := hr
  exact ⟨frs, A, sh, rest', s1, idx1, i', _, _, rfl, hK, h1, h2, hst, htape, hreach, hbud, hptr, henv, htr⟩

theorem Inv.atEnd
    {cur' : List (Instr w)} {conts conts' : List (Cont w)} {budget budget' : Nat} {st st' : State w}
    (h : Inv lim bud b anal env ⟨[], conts, budget, st⟩ ⟨cur', conts', budget', st'⟩) :
    cur' = [] ∧ ∃ frs A sh, MatchK anal conts conts' frs A sh ∧
      (∀ a, st.tape.get a = st'.tape.get a ∨ DC lim ⟨[], conts, budget, st⟩ frs (DState.new sh A) a) ∧
      Reach lim bud b env ⟨[], conts, budget, st⟩ ∧ budget' = budget ∧ st'.ptr = st.ptr ∧
      st'.env = st.env ∧ st'.trace = st.trace := by
  obtain ⟨hreach, ⟨frs, A, sh, s0, idx0, hK, hcur, _, htape⟩, hbud, hptr, henv, htr⟩ := h
  rw [elimInsts_nil] at hcur
  simp only [Option.some.injEq, Prod.mk.injEq] at hcur
  obtain ⟨rfl, rfl, _⟩ := hcur
  exact ⟨rfl, frs, A, sh, hK, htape, hreach, hbud, hptr, henv, htr⟩

def StepRel (lim : Bool) (bud : Nat) (b : Block w) (anal : DAnal) (env : Env) : StepRes w → StepRes w → Prop
  | .next c1, .next c1' => Inv lim bud b anal env c1 c1'
  | .halt c1, .halt c1' => Obs c1 c1'
  | .stop c1, .stop c1' => Obs c1 c1'
  | .interrupted c1, .interrupted c1' => Obs c1 c1'
  | _, _ => False

end C01Dse
end Hpbf
