/-
C03 / C13 (the JIT's instruction selector is total on generator output): the instruction SHAPES that
reach `parameter_reordering` when `translate` runs without fusion: no `scan`, no `memZero` operand, destinations
are cells or temporaries, sources cells, temporaries or immediates (`shape`).  Through the emission phase
(`emit_allQ` of `C02AllocEmitI`, an instance of the induction principle `ClosedI`), `dead_store_elim` (only blanks instructions) and
`allocate_temps` (`allocateTemps_shape`, from the phase decomposition `allocStep_ok`); the same induction bounds
the live bitmaps (`liveMask_lt`).

`shape` is the first instance of the general invariant of the emission phase, `EmitClosed fuse R Q` (`C02AllocEmitI`; with
`ExprClosed Q` for the code of a `calc`), `MovOk B` of `JitShiftBc` the second.
-/
import Hpbf.Proofs.C02AllocEmitI
import Hpbf.Proofs.C02AllocDse
import Hpbf.Proofs.C02EmitExpr
import Hpbf.Proofs.C02AllocTrace
import Hpbf.Proofs.C03TotalForm
namespace Hpbf
namespace C03
open Bc BcWf BcGen C11 C02 C02Emit C02.AEmit C02.Alloc
variable {w : Nat}

def shape : Instr w → Bool
  | .scan _ _ => false
  | .copy d s => isMT d && isMTI s
  | .add d a b => isMT d && isMTI a && isMTI b
  | .sub d a b => isMT d && isMTI a && isMTI b
  | .mul d a b => isMT d && isMTI a && isMTI b
  | _ => true

abbrev AllS (insts : Array (Instr w)) : Prop := AllQ (fun x => shape x = true) insts

def ReplOk (repl : List (Nat × Loc w)) : Prop := ∀ p ∈ repl, isMTI p.2 = true

theorem replOk_get {repl : List (Nat × Loc w)} (h : ReplOk repl) {t : Nat} {l : Loc w}
    (hg : alGet repl t = some l) : isMTI l = true :=
  h (t, l) (C02Emit.mem_of_alGet hg)

theorem replOk_set {repl : List (Nat × Loc w)} (h : ReplOk repl) (t : Nat) {l : Loc w} (hl : isMTI l = true) :
    ReplOk (alSet repl t l) := by
  intro p hp
  rcases C02Emit.mem_alSet hp with rfl | hp
  · exact hl
  · exact h p hp

theorem replOk_erase {repl : List (Nat × Loc w)} (h : ReplOk repl) (t : Nat) : ReplOk (alErase repl t) :=
  fun p hp => h p (C02Emit.mem_alErase hp)

def LivesLt (B : Nat) (live : Array Nat) : Prop := ∀ (j l : Nat), live[j]? = some l → l < B

structure AInv (B : Nat) (a : ASt w) : Prop where
  insts : AllS a.st.insts
  repl : ReplOk a.repl
  lives : LivesLt B a.st.live

theorem AInv.setI {B : Nat} {a : ASt w} (h : AInv B a) (i : Nat) {x : Instr w} (hx : shape x = true) :
    AInv B (a.setI i x) :=
  ⟨allQ_set h.insts hx i, h.repl, h.lives⟩

theorem replSrc_ok {repl : List (Nat × Loc w)} (h : ReplOk repl) {l l' : Loc w} (hl : isMTI l = true)
    (hr : replSrc repl l = .ok l') : isMTI l' = true := by
  cases l with
  | tmp t =>
    simp only [replSrc] at hr
    cases hg : alGet repl t with
    | none => simp [hg] at hr
    | some v => simp only [hg, Except.ok.injEq] at hr; subst hr; exact replOk_get h hg
  | mem m => simp only [replSrc, Except.ok.injEq] at hr; subst hr; rfl
  | imm c => simp only [replSrc, Except.ok.injEq] at hr; subst hr; rfl
  | memZero m => cases hl

theorem rwInst_shape {repl : List (Nat × Loc w)} (h : ReplOk repl) {x y : Instr w} (hx : shape x = true)
    (hr : rwInst repl x = .ok y) : shape y = true := by
  cases x with
  | copy d s =>
    simp only [rwInst] at hr
    simp only [shape, Bool.and_eq_true] at hx
    cases h1 : replSrc repl s with
    | error e => simp [h1] at hr
    | ok s' =>
      simp only [h1, Except.ok.injEq] at hr; subst hr
      simp only [shape, Bool.and_eq_true]; exact ⟨hx.1, replSrc_ok h hx.2 h1⟩
  | add d a b | sub d a b | mul d a b =>
    simp only [rwInst, arith?] at hr
    simp only [shape, Bool.and_eq_true] at hx
    cases h1 : replSrc repl a with
    | error e => simp [h1] at hr
    | ok a' =>
      cases h2 : replSrc repl b with
      | error e => simp [h1, h2] at hr
      | ok b' =>
        simp only [h1, h2, Except.ok.injEq] at hr; subst hr
        simp only [mkArith, shape, Bool.and_eq_true]
        exact ⟨⟨hx.1.1, replSrc_ok h hx.1.2 h1⟩, replSrc_ok h hx.2 h2⟩
  | scan c s => cases hx
  | noop | mov | inp | out | brz | brnz => simp only [rwInst, arith?, Except.ok.injEq] at hr; subst hr; rfl

theorem setDst_shape {x : Instr w} (hx : shape x = true) (t : Nat) : shape (setDst x (.tmp t)) = true := by
  cases x <;> simp_all [setDst, shape, isMT]

theorem freeOne_inv {B : Nat} (numRegs : Nat) {a : ASt w} (h : AInv B a) (t : Nat) :
    AInv B (freeOne numRegs a t) := by
  unfold freeOne
  split
  · split <;> exact ⟨h.insts, replOk_erase h.repl t, h.lives⟩
  · exact ⟨h.insts, replOk_erase h.repl t, h.lives⟩

/-- The bitmap starts with the `min numRegs 16` low bits set and only loses bits. -/
def liveBound (numRegs : Nat) : Nat := if numRegs < 16 then 2 ^ numRegs else 65536

theorem liveMask_lt {numRegs : Nat} {F : List Nat} {live : Nat} (h : liveMask numRegs F = .ok live) :
    live < liveBound numRegs := by
  unfold liveMask at h
  have key : ∀ (F : List Nat) (b live : Nat), F.foldlM (fun live var =>
      if var < 16 then
        if live < 2 ^ var then (Except.error "allocate_temps:live-underflow" : Except String Nat)
        else .ok (live - 2 ^ var)
      else .ok live) b = .ok live → live ≤ b := by
    intro F
    induction F with
    | nil => intro b live h; simp only [List.foldlM_nil] at h; cases h; exact Nat.le_refl _
    | cons v F ih =>
      intro b live h
      simp only [List.foldlM_cons] at h
      by_cases hv : v < 16
      · simp only [hv, if_true] at h
        by_cases hb : b < 2 ^ v
        · simp only [hb, if_true] at h; cases h
        · simp only [hb, if_false] at h
          exact Nat.le_trans (ih _ _ h) (Nat.sub_le _ _)
      · simp only [hv, if_false] at h
        exact ih _ _ h
  have := key F _ live h
  unfold liveBound
  split
  · rename_i hn
    simp only [hn, if_true] at this
    have : 0 < 2 ^ numRegs := Nat.pow_pos (by decide)
    omega
  · rename_i hn
    simp only [hn, if_false] at this
    omega

theorem freeFold_inv {B : Nat} (numRegs : Nat) : ∀ (ts : List Nat) {a : ASt w}, AInv B a →
    AInv B (ts.foldl (freeOne numRegs) a)
  | [], _, h => h
  | t :: ts, _, h => freeFold_inv numRegs ts (freeOne_inv numRegs h t)

theorem allocStep_inv {numRegs i : Nat} {a a' : ASt w} {u : Unit} (h : allocStep numRegs i a = .ok (u, a'))
    (hI : AInv (liveBound numRegs) a) : AInv (liveBound numRegs) a' := by
  obtain ⟨atf0, a1, inst0, can, atf, aF, cur, new, live, h1, h2, h3, h4, h5, h6, h7⟩ := allocStep_ok h
  obtain ⟨n1, _, _⟩ := drainEnds_ok _ h1
  have I1 : AInv (liveBound numRegs) a1 :=
    ⟨by rw [n1.st]; exact hI.insts, by rw [n1.repl]; exact hI.repl, by rw [n1.st]; exact hI.lives⟩
  have hs0 : shape inst0 = true := I1.insts i inst0 h2
  have IF : AInv (liveBound numRegs) aF := by
    rcases h3.moved h2 with ⟨_, rfl⟩ | ⟨op, t, s0, s1, L, f, m, src, M⟩
    · exact I1
    · -- the moved computation keeps its shape with the cell as destination; its old place holds a `noop`
      refine ⟨fun j x hx => ?_, M.repl ▸ replOk_set I1.repl t rfl, M.live ▸ I1.lives⟩
      rw [M.insts j] at hx
      split at hx
      · cases hx
        have := I1.insts i _ M.inst
        cases op <;> simpa [mkArith, shape, isMT] using this
      · split at hx
        · cases hx; rfl
        · exact I1.insts j x hx
  have hcur : shape cur = true := IF.insts i cur h4
  have hnew : shape new = true := rwInst_shape IF.repl hcur h5
  have I5 : AInv (liveBound numRegs) (pushLive (atf.foldl (freeOne numRegs) (aF.setI i new)) live) := by
    have := freeFold_inv numRegs atf (IF.setI i hnew)
    refine ⟨this.insts, this.repl, ?_⟩
    intro j l hl
    simp only [pushLive] at hl
    rcases getElem?_push_cases hl with ⟨_, g⟩ | ⟨_, g⟩
    · exact this.lives j l g
    · rw [g]; exact liveMask_lt h6
  obtain ⟨x, hx, hd⟩ := phDst_ok h7
  have hsx : shape x = true := I5.insts i x hx
  rcases hd with ⟨_, rfl⟩ | ⟨t, _, r, _, hcase⟩
  · exact I5
  · rcases hcase with ⟨_, rfl⟩ | ⟨src, L, _, _, _, hsrc, rfl⟩ | ⟨_, L', _, _, rfl⟩
    · exact I5.setI i rfl
    · refine ⟨allQ_set I5.insts rfl i, replOk_set I5.repl t ?_, I5.lives⟩
      rcases hsrc with ⟨c, rfl⟩ | ⟨m, rfl, _⟩ <;> rfl
    · exact ⟨allQ_set I5.insts (setDst_shape hsx _) i, replOk_set I5.repl t rfl, I5.lives⟩

theorem allocateTemps_shape {numRegs : Nat} {s s' : St w} (h : allocateTemps numRegs s = .ok s')
    (hs : AllS s.insts) (hl : s.live.size = 0) : AllS s'.insts ∧ LivesLt (liveBound numRegs) s'.live := by
  obtain ⟨tr, T, rfl⟩ := trace_of_allocateTemps h
  have key := T.induct (P := fun _ => AInv (liveBound numRegs))
    ⟨hs, fun p hp => by simp [initASt] at hp, fun j l hj => by
      have : j < s.live.size := (Array.getElem?_eq_some_iff.1 hj).1
      omega⟩
    (fun k hk ih => by obtain ⟨u, hstep⟩ := T.step k hk; exact allocStep_inv hstep ih) _ (Nat.le_refl _)
  exact ⟨key.insts, key.lives⟩

end C03
end Hpbf
