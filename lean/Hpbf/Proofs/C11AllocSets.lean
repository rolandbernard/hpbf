/-
C11 for the output of `allocate_temps` (namespace `Hpbf.C02.Alloc`): the set of physical temporaries that hold a
needed value.  `Held s tr k r`: before instruction `k`, the replacement table maps some virtual temporary that is
still needed (`LiveAt`) to the physical temporary `r`; `tr k` is the allocator's state BEFORE round `k`, which is why
`held_succ` ("after ⊆ before ∪ defs") reads `stepKind_repl` backwards.  The `held_*` lemmas are the clauses of `InitFacts` and
`LiveFacts` for this set on the output code.
-/
import Hpbf.Proofs.C02AllocSim2
import Hpbf.Proofs.C11AllocMask

namespace Hpbf
namespace C02
namespace Alloc

open Bc BcWf BcGen C11

variable {w : Nat} {s : St w} {numRegs : Nat} {tr : Nat → ASt w}

def Held (s : St w) (tr : Nat → ASt w) (k r : Nat) : Prop :=
  ∃ t, alGet (tr k).repl t = some (.tmp r) ∧ LiveAt s k (tr k) t

theorem uses_of_not_plain {x : Instr w} (h : plain x = false) : BcWf.uses x = [] := by
  cases x <;> first | rfl | cases h

theorem defs_of_not_plain {x : Instr w} (h : plain x = false) : BcWf.defs x = [] := by
  cases x <;> first | rfl | cases h

theorem uses_setDst (x : Instr w) (d : Loc w) : BcWf.uses (setDst x d) = BcWf.uses x := by
  cases x <;> rfl

theorem defs_setDst {x : Instr w} {t : Nat} (h : dstTmp? x = some t) (r : Nat) :
    BcWf.defs (setDst x (.tmp r)) = [r] := by
  cases x <;> first | rfl | (simp [dstTmp?] at h)

theorem uses_rwInst {repl : List (Nat × Loc w)} {cur new : Instr w} (h : rwInst repl cur = .ok new) {r : Nat}
    (hr : r ∈ BcWf.uses new) : ∃ u, u ∈ BcWf.uses cur ∧ alGet repl u = some (.tmp r) := by
  have key : ∀ {l l' : Loc w}, replSrc repl l = .ok l' → r ∈ locTmp l' →
      ∃ u, u ∈ locTmp l ∧ alGet repl u = some (.tmp r) := by
    intro l l' hl hm
    rcases replSrc_ok hl with ⟨u, rfl, hu⟩ | ⟨hnt, rfl⟩
    · cases l' with
      | tmp r' =>
        simp only [locTmp, List.mem_singleton] at hm
        subst hm
        exact ⟨u, by simp [locTmp], hu⟩
      | _ => simp [locTmp] at hm
    · cases l' with
      | tmp i => exact absurd rfl (hnt i)
      | _ => simp [locTmp] at hm
  rcases rwInst_cases h with ⟨d, src, src', rfl, g, rfl⟩ | ⟨op, d, s0, s1, s0', s1', rfl, g0, g1, rfl⟩ |
      ⟨hc, rfl⟩ | ⟨rfl, rfl⟩
  · exact key g hr
  · rw [uses_mkArith] at hr ⊢
    rcases List.mem_append.1 hr with h0 | h1
    · obtain ⟨u, hu, hg⟩ := key g0 h0
      exact ⟨u, List.mem_append_left _ hu, hg⟩
    · obtain ⟨u, hu, hg⟩ := key g1 h1
      exact ⟨u, List.mem_append_right _ hu, hg⟩
  · rw [uses_of_not_plain hc] at hr; cases hr
  · cases hr

theorem liveAt_back (hp : AllocPre s) {k : Nat} {a a' : ASt w} (K : StepKind s k a a') {t : Nat}
    (h : LiveAt s (k + 1) a' t) : LiveAt s k a t := by
  rcases h with ⟨r, L, g1, g2, g3⟩ | ⟨f, op, m, t'', s0, s1, hf, hs⟩
  · exact Or.inl ⟨r, L, g1, g2, by omega⟩
  · rcases stepKind_fused_back K hf with h | ⟨hPk, _, _⟩
    · exact Or.inr ⟨f, op, m, t'', s0, s1, h, hs⟩
    · obtain ⟨r, L, g1, g2, _, g4⟩ := hp.uses k _ t hPk (by
        rw [uses_mkArith]; rcases hs with rfl | rfl <;> simp [locTmp])
      exact Or.inl ⟨r, L, g1, g2, g4⟩

section
variable (hp : AllocPre s) (T : Trace s numRegs tr)
include hp T

theorem final_inst {k : Nat} (hk : k < s.insts.size) :
    (tr s.insts.size).st.insts[k]? = (tr (k + 1)).st.insts[k]? :=
  trace_insts_final hp T s.insts.size (by omega) (Nat.le_refl _)

omit hp in
theorem held_zero (r : Nat) : ¬ Held s tr 0 r := by
  rintro ⟨t, h, _⟩
  rw [T.init] at h
  simp [initASt, alGet] at h

theorem held_uses {k : Nat} (hk : k < s.insts.size) {q : Instr w} (hq : (tr (k + 1)).st.insts[k]? = some q)
    {r : Nat} (hr : r ∈ BcWf.uses q) : Held s tr k r := by
  have hI := trace_inv hp T k (by omega)
  have K := (trace_sum hp T hk).kind
  cases K with
  | other x hx hpl hq' hi hr' =>
    rw [hq] at hq'; cases hq'
    rw [uses_of_not_plain hpl] at hr; cases hr
  | fuse op t s0 s1 f m hx hPk hkf hPf hfa hq' hf hi hnone hr' =>
    rw [hq] at hq'; cases hq'
    cases hr
  | rw cur new q' hx hpl hn hq' hi hd =>
    rw [hq] at hq'; cases hq'
    have hrn : r ∈ BcWf.uses new := by
      rcases hd with ⟨_, e, _⟩ | ⟨t, _, _, _, ⟨e, _⟩ | ⟨_, _, _, e, _⟩ | ⟨r0, e, _⟩⟩
      · rw [e] at hr; exact hr
      · rw [e] at hr; cases hr
      · rw [e] at hr; cases hr
      · rw [e, uses_setDst] at hr; exact hr
    obtain ⟨u, hu, hg⟩ := uses_rwInst hn hrn
    refine ⟨u, hg, ?_⟩
    rcases hI.fut k (Nat.le_refl _) with hsame | ⟨op, m, t, s0, s1, hF⟩
    · have hx' : s.insts[k]? = some cur := by rw [← hsame]; exact hx
      exact (opnd_live_a hp hI hx' hx hu).1
    · have h2 := hF.2.2
      rw [hx] at h2; cases h2
      rw [uses_mkArith] at hu
      refine (opnd_live_b hp hI hF (u := u) ?_).1
      rcases List.mem_append.1 hu with h0 | h1
      · left
        cases s0 with
        | tmp i => simp only [locTmp, List.mem_singleton] at h0; rw [h0]
        | _ => simp [locTmp] at h0
      · right
        cases s1 with
        | tmp i => simp only [locTmp, List.mem_singleton] at h1; rw [h1]
        | _ => simp [locTmp] at h1

theorem held_succ {k : Nat} (hk : k < s.insts.size) {q : Instr w} (hq : (tr (k + 1)).st.insts[k]? = some q)
    {r : Nat} (h : Held s tr (k + 1) r) : Held s tr k r ∨ r ∈ BcWf.defs q := by
  have K := (trace_sum hp T hk).kind
  obtain ⟨t, hv, hlive⟩ := h
  rcases stepKind_repl hp K hv with hold | ⟨hnone, -⟩
  · exact Or.inl ⟨t, hold, liveAt_back hp K hlive⟩
  · right
    cases K with
    | other x hx hpl hq' hi hr' =>
      rw [hr' t _ hv] at hnone; cases hnone
    | fuse op t0 s0 s1 f m hx hPk hkf hPf hfa hq' hf hi hnone' hr' =>
      rcases hr'.2 t _ hv with ⟨_, e⟩ | h
      · cases e
      · rw [h] at hnone; cases hnone
    | rw cur new q' hx hpl hn hq' hi hd =>
      rw [hq] at hq'; cases hq'
      rcases hd with ⟨_, _, h⟩ | ⟨t0, ht0, _, _, ⟨_, h⟩ | ⟨src, _, hsrc, _, h⟩ | ⟨r0, e, h⟩⟩
      · rw [h t _ hv] at hnone; cases hnone
      · rw [h t _ hv] at hnone; cases hnone
      · rcases h.2 t _ hv with ⟨_, e⟩ | h'
        · rcases hsrc with ⟨c, hc⟩ | ⟨m, hm⟩
          · rw [hc] at e; cases e
          · rw [hm] at e; cases e
        · rw [h'] at hnone; cases hnone
      · rcases h.2 t _ hv with ⟨_, e'⟩ | h'
        · cases e'
          rw [e, defs_setDst ht0]; simp
        · rw [h'] at hnone; cases hnone

theorem held_jump {k k' : Nat} (hk : k < s.insts.size) (hk' : k' ≤ s.insts.size) {x : Instr w} {off : Int}
    (hx : s.insts[k]? = some x) (hoff : branchOff? x = some off) (hkk : (k : Int) + off = (k' : Int))
    {r : Nat} (h : Held s tr k' r) : Held s tr k r := by
  have hI' := trace_inv hp T k' hk'
  obtain ⟨t, hv, hlive⟩ := h
  rcases hlive with ⟨r0, L, g1, g2, g3⟩ | ⟨f, op, m, t', s0, s1, hf, _⟩
  · obtain ⟨_, r', q1, q2⟩ := hI'.replDom t _ hv
    rw [g1] at q1; cases q1
    obtain ⟨r1, L1, p1, p2, p3, p4⟩ := hp.flow k x off k' hx hoff hkk t ⟨r0, L, g1, g2, q2, g3⟩
    rw [g1] at p1; cases p1
    rw [g2] at p2; cases p2
    have hv' : alGet (tr k).repl t = some (.tmp r) := by
      by_cases hle : k ≤ k'
      · rw [← repl_stable hp T g1 g2 p3 k' hle g3 hk']; exact hv
      · rw [repl_stable hp T g1 g2 q2 k (by omega) p4 (by omega)]; exact hv
    exact ⟨t, hv', Or.inl ⟨r0, L, g1, g2, p4⟩⟩
  · exact (fused_nojump hp hI' hf hx hoff hkk).elim

theorem live_final {k : Nat} (hk : k < s.insts.size) :
    ∀ n, k < n → n ≤ s.insts.size → (tr n).st.live[k]? = (tr (k + 1)).st.live[k]? := by
  intro n
  induction n with
  | zero => intro h; omega
  | succ n ih =>
    intro h1 h2
    by_cases e : n = k
    · subst e; rfl
    · obtain ⟨c, live, e1, _⟩ := (trace_sum hp T (k := n) (by omega)).mask
      rw [e1, Array.getElem?_push]
      have hsz := trace_live_size hp T n (by omega)
      have : ¬ k = (tr n).st.live.size := by omega
      simp only [this, if_false]
      exact ih (by omega) (by omega)

/-- `r < 16` as in `BcWf.liveOk`: `live` is a `Vec<u16>` in `src/bc.rs`. -/
theorem held_mask {k : Nat} (hk : k < s.insts.size) {q : Instr w} (hq : (tr (k + 1)).st.insts[k]? = some q)
    {r : Nat} (h : Held s tr (k + 1) r) (h1 : r < numRegs) (h2 : r < 16) :
    r ∈ BcWf.defs q ∨ (((tr s.insts.size).st.live[k]?).getD 0).testBit r = true := by
  obtain ⟨c, live, e1, e2, e3, e4⟩ := (trace_sum hp T hk).mask
  obtain ⟨t, hv, _⟩ := h
  rcases e4 t r hv with hc | ⟨new, hd, hq'⟩
  · right
    rw [live_final hp T hk s.insts.size hk (Nat.le_refl _), e1, Array.getElem?_push]
    have hsz := trace_live_size hp T k (by omega)
    simp only [hsz, if_true, Option.getD_some]
    exact liveMask_testBit e2 e3.freeRegsNodup h1 h2 (e3.notFree t r hc).1
  · left
    rw [hq] at hq'; cases hq'
    rw [defs_setDst hd]; simp

end

end Alloc
end C02
end Hpbf
