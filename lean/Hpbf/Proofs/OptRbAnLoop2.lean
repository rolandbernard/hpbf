/-
`loopOrIf` with a non-moving child: the agreement of two runs after the parent's preparation (including the constant
keys, which count as read by the block), and `loopOrIf_stay_an`.
-/
import Hpbf.Proofs.OptRbAnLoop1

namespace Hpbf
namespace OptProof
open Opt OptSem Ir

variable {w : Nat}

/-- After the parent's preparation a mirror run agrees with the valid run off a set that avoids the child's reads
and the protected cells: all of them are recorded as read, definitely written before, or touched by the groups. -/
theorem loopPrep_stay_agreeW {s : Rebuild w} {ps : List (Rebuild w)} {sub1 : Rebuild w} {cond : Int}
    {L : OptLoop w} {C : List Int} (hwf : Wf s) (hwf1 : Wf sub1)
    (hns : (sub1.subShift || sub1.shift != s.shift) = false)
    {os os' : Orders} {r : Rebuild w × Rebuild w × List Int}
    (hr : (loopPrep s ps sub1 cond L C).run os = .ok (r, os')) :
    ∃ comps : List (List (Int × Expr w)), r.1.insts = s.insts ++ comps.map Instr.calc ∧
      r.2.2 = (mKeys sub1.written).filter (fun var => !C.contains var) ∧
      ∀ (K : Int → Prop), (r.1.subShift = true → ∀ v, ¬ K v) → (∀ v, K v → v ∉ r.1.reads) →
        ∀ σ1 σ2 : State w, AgreeOff (Rest K s) σ1 σ2 →
        ∃ H : Int → Prop, AgreeOff H (comps.foldl doCalc σ1) (comps.foldl doCalc σ2) ∧
          (∀ v, H v → v ∉ sub1.reads) ∧ (∀ v, ProtP sub1 C cond v → ¬ H v) := by
  obtain ⟨comps, _, acc, _, hrd, _, hck⟩ := loopPrep_stay_acc hwf hwf1 hns hr
  obtain ⟨_, _, _, _, _, _, _, _, hr22⟩ := loopPrep_stay_cut hns hr
  refine ⟨comps, acc.insts, by rw [hr22], ?_⟩
  intro K hKs hK σ1 σ2 hag
  cases hss : r.1.subShift with
  | true =>
    have hst : StEq σ1 σ2 := hag.stEq_of_empty (fun v hv => hKs hss v hv.1)
    exact ⟨fun _ => False, AgreeOff.of_stEq (hst.foldl_doCalc comps), fun _ h => h.elim, fun _ _ h => h⟩
  | false =>
    refine ⟨_, prep_agree (R := fun v => v ∈ sub1.reads ∨ ProtP sub1 C cond v) acc hss ?_ K hK σ1 σ2 hag,
      fun v h hr' => h.1 (Or.inl hr'), fun v hp h => h.1 (Or.inr hp)⟩
    rintro v (h | h | ⟨h, hC⟩)
    · exact (hrd hss v (Or.inl h)).1
    · exact (hrd hss v (Or.inr h)).1
    · exact (hck hss v h hC).1

/-- `loopOrIf`, non-moving child: the recorded node is sound for the emitted block (from every mirror of a valid
state), and so are the child's nodes for the body. -/
theorem loopOrIf_stay_an {shP shC shS cS : Int} {bodyS : List (Instr w)}
    {s : Rebuild w} {ps : List (Rebuild w)} {sub : Rebuild w} {cond : Int} {isLoop : Bool} {L : OptLoop w}
    {C : List Int} {pc : List (Rebuild w)} {sub0 : Rebuild w} {os os' : Orders} {s' : Rebuild w}
    {G Gc : State w → Prop}
    (hr : (loopOrIf s ps sub cond isLoop L C).run os = .ok (s', os'))
    (hwf : Wf s) (hpre : ChildPre Gc shP shC pc sub0 sub cS bodyS)
    (hns : (sub.subShift || sub.shift != s.shift) = false)
    (hcond : cond = cS + shP) (hsh : shC + shS = shP)
    (hGc : HeadsIn G Gc shP s ps cS shS bodyS (isLoop = false))
    (hconst : ∀ M0 σE σS, RelAt shP s ps M0 σE σS → G σS → ∀ k σk, Head cS shS bodyS σS k σk →
      (isLoop = false → k ≤ 1) → ∀ x, C.contains x = true → memS σE σk x = memS σE σS x)
    (hcA : AStep (ValidG Gc shP sub0 pc) sub0 sub sub.insts) (hsa0 : sub0.subAnal = [])
    (hshs : ShapeSt sub) (hflag : if isLoop then L.atMostOnce = false else L.atLeastOnce = false) :
    ∃ new, s'.insts = s.insts ++ new ∧ AStep (ValidG G shP s ps) s s' new := by
  subst hcond
  obtain ⟨sub1, os1, r, h1, h2, rfl⟩ := loopOrIf_run hr
  obtain ⟨hc, hwf1, hshift1⟩ := hpre.emit h1
  have hshEq : sub.shift = s.shift := by
    have := hns
    simp only [Bool.or_eq_false_iff, bne_eq_false_iff_eq] at this
    exact this.2
  have hns1 : (sub1.subShift || sub1.shift != s.shift) = false := by
    rw [hc.noShift, hshift1, hshEq]; simp
  have hsub1 : ∃ cc : List (List (Int × Expr w)), sub1.insts = sub.insts ++ cc.map Instr.calc ∧
      sub1.subAnal = sub.subAnal ∧ ReadsMono sub sub1 ∧ ShapeSt sub1 := by
    split at h1
    · obtain ⟨c, res, ef⟩ := emitAll_foot [] (pendingSorted sub sub) hpre.wf h1
      exact ⟨c, res.insts, res.subAnal, ef.mono, (emitAll_nstep [] _ h1 hpre.wf).shapeSt hshs⟩
    · rw [run_pure] at h1
      cases h1
      exact ⟨[], by simp, rfl, ReadsMono.refl _, hshs⟩
  obtain ⟨cc, hi1, ha1, hr1, hsh1⟩ := hsub1
  have hcA1 : AStep (ValidG Gc shP sub0 pc) sub0 sub1 sub1.insts := by
    have := hcA.append_noBlocks_right (c := sub1) (noBlocks_calcs cc) ha1 hr1
    rw [← hi1] at this
    exact this
  obtain ⟨_, hAn1⟩ := hcA1.child hsa0
  obtain ⟨comps, eH, hWall⟩ :=
    loopPrep_stay_headsW (isLoop := isLoop) (G := G) hc hwf hwf1 hns1 hsh hGc hconst h2
  obtain ⟨eA, hr22, hagree⟩ :=
    calcs_elim eH (loopPrep_stay_agreeW (L := L) (C := C) hwf hwf1 hns1 h2) (fun _ p => p.1)
  obtain ⟨n, ei, ea, es, _⟩ := loopPrep_nstep h2 hwf
  obtain ⟨f1, f2, f3⟩ :=
    loopTail_shapeFields r.1 r.2.1 (cS + shP) isLoop L (sub1.subShift || sub1.shift != s.shift) r.2.2
  obtain ⟨_, _, _, t4, _, _, _⟩ := loopTail_fields r.1 r.2.1 (cS + shP) isLoop L
    (sub1.subShift || sub1.shift != s.shift) r.2.2
  have hbs : r.2.1.shift - r.1.shift = 0 := by
    rw [es, n.shift, hshift1, hshEq]; omega
  rw [hbs, ei] at f1
  have f2' : (loopTail r.1 r.2.1 (cS + shP) isLoop L (sub1.subShift || sub1.shift != s.shift) r.2.2).subAnal =
      s.subAnal ++ [OptAnalysis.mk L false r.2.1.reads
        ((mKeys sub1.written).filter (fun var => !C.contains var)) sub1.subAnal] := by
    rw [f2, ea, hns1, hr22, n.subAnal]
  have hI : ShapeI (if isLoop then Ir.Instr.loop (cS + shP) 0 sub1.insts L.atLeastOnce
      else Ir.Instr.ifnz (cS + shP) 0 sub1.insts)
      (OptAnalysis.mk L false r.2.1.reads ((mKeys sub1.written).filter (fun var => !C.contains var))
        sub1.subAnal) := by
    have hnode : (false : Bool) = false → (0 : Int) = 0 ∧ ∀ a ∈ sub1.subAnal, a.hasShift = false :=
      fun _ => ⟨rfl, hsh1.noShift hc.noShift⟩
    cases isLoop with
    | true =>
      simp only [if_true] at hflag ⊢
      rw [ShapeI]
      exact ⟨rfl, hflag, hnode, hsh1.shape⟩
    | false =>
      simp only [Bool.false_eq_true, if_false] at hflag ⊢
      rw [ShapeI]
      exact ⟨hflag, hnode, hsh1.shape⟩
  have hnb := noBlocks_calcs comps
  refine ⟨comps.map Instr.calc ++ [if isLoop then Ir.Instr.loop (cS + shP) 0 sub1.insts L.atLeastOnce
      else Ir.Instr.ifnz (cS + shP) 0 sub1.insts], by rw [f1, eH, List.append_assoc],
    ⟨[] ++ [OptAnalysis.mk L false r.2.1.reads ((mKeys sub1.written).filter (fun var => !C.contains var))
        sub1.subAnal], by rw [f2']; rfl, shapeL_append (shapeL_nonblocks hnb) (shapeL_single hI), ?_⟩⟩
  rw [analInL_append (shapeL_nonblocks hnb)]
  refine ⟨analInL_noBlocks hnb, ?_⟩
  rw [analInL_single (shapeI_isBlock hI)]
  -- every entry state of the block mirrors a valid entry state
  have hentry : ∀ τ2, AfterG (MirV (ValidG G shP s ps) s
        (loopTail r.1 r.2.1 (cS + shP) isLoop L (sub1.subShift || sub1.shift != s.shift) r.2.2))
        (comps.map Instr.calc) τ2 →
      ∃ τ1, HeadsW Gc shP cS pc sub0 sub1 isLoop (ProtP sub1 C (cS + shP)) (KeepQ sub1 C) τ1 ∧
        JW sub1 (cS + shP) (ProtP sub1 C (cS + shP)) τ1 0 τ1 τ2 := by
    rintro τ2 ⟨σ2, ⟨σ1, K, ⟨M0, σS, hrel, hg⟩, hK, hKs, hag⟩, hex⟩
    rw [exec_calcs_fin hex]
    obtain ⟨H, hagH, hHr, hHP⟩ := hagree K (fun h => hKs (by rw [f3]; exact h))
      (fun v hv => by rw [← t4]; exact hK v hv) σ1 σ2 hag
    exact ⟨comps.foldl doCalc σ1, hWall M0 σ1 σS hrel hg, Head.zero, H, hagH, hHr, hHP⟩
  have hPc : ProtP sub1 C (cS + shP) (cS + shP) := Or.inl rfl
  -- the heads at which the body is entered mirror child-valid states
  have hbody : ∀ b, HeadG (AfterG (MirV (ValidG G shP s ps) s
        (loopTail r.1 r.2.1 (cS + shP) isLoop L (sub1.subShift || sub1.shift != s.shift) r.2.2))
        (comps.map Instr.calc)) isLoop (cS + shP) 0 sub1.insts b →
      MirV (ValidG Gc shP sub0 pc) sub0 sub1 b := by
    rintro b ⟨hnz, τ2, hG2, hh⟩
    obtain ⟨τ1, hW, hJ0⟩ := hentry τ2 hG2
    cases hil : isLoop with
    | true =>
      rw [hil] at hh hW
      simp only [if_true] at hh
      obtain ⟨k, hh⟩ := hh
      obtain ⟨a, hJ, _, _⟩ := heads_mirror hc hW.headsV hPc hJ0 hh
      exact jw_mirV hc hW hPc (fun h => Bool.noConfusion h) hJ hnz
    | false =>
      rw [hil] at hh hW
      simp only [Bool.false_eq_true, if_false] at hh
      subst hh
      exact jw_mirV hc hW hPc (fun _ => rfl) hJ0 hnz
  have hnested : AnalInL (HeadG (AfterG (MirV (ValidG G shP s ps) s
        (loopTail r.1 r.2.1 (cS + shP) isLoop L (sub1.subShift || sub1.shift != s.shift) r.2.2))
        (comps.map Instr.calc)) isLoop (cS + shP) 0 sub1.insts) sub1.insts sub1.subAnal :=
    analInL_mono hbody hAn1
  cases isLoop with
  | true =>
    simp only [if_true] at hflag hI hnested ⊢
    refine analInI_loop_of_shape hI ?_ hnested
    intro _ τ2 hG2 k b hh
    obtain ⟨τ1, hW, hJ0⟩ := hentry τ2 hG2
    obtain ⟨hp, hq⟩ := heads_mirror_clob hc hW hPc hJ0
      (fun v hv hkey => by
        rcases hv with h | h
        · exact absurd hkey h
        · exact Or.inr ⟨hkey, h⟩) hh
    refine ⟨hp, fun x hx => hq x ?_⟩
    have hx' : ((mKeys sub1.written).filter (fun var => !C.contains var)).contains x = false := hx
    by_cases hkey : x ∈ mKeys sub1.written
    · right
      cases hC : C.contains x with
      | true => rfl
      | false =>
        have : x ∈ (mKeys sub1.written).filter (fun var => !C.contains var) :=
          List.mem_filter.2 ⟨hkey, by rw [hC]; rfl⟩
        rw [List.contains_eq_mem, decide_eq_false_iff_not] at hx'
        exact absurd this hx'
    · exact Or.inl hkey
  | false =>
    simp only [Bool.false_eq_true, if_false] at hnested ⊢
    exact analInI_ifnz_of hnested

end OptProof
end Hpbf

#print axioms Hpbf.OptProof.loopOrIf_stay_an
