/-
The normal-form invariant: the results of the loop analysis
(`analyzeLoop`, `linearAmong`, `loopMotion`) are canonical.
-/
import Hpbf.Proofs.OptRbCanon2
import Hpbf.Proofs.OptLoopMotion

namespace Hpbf
namespace OptProof
open Opt OptSem Ir

variable {w : Nat}

def LoopCanon (L : OptLoop w) : Prop := ∀ e, L.expr = some e → Expr.Canon e

theorem loopCanon_ofExpr {e : Expr w} (h : Expr.Canon e) : LoopCanon (OptLoop.ofExpr e) := by
  intro e' he'
  simp only [OptLoop.ofExpr, Option.some.injEq] at he'
  subst he'; exact h

theorem loopCanon_noReturn (b : Bool) : LoopCanon (OptLoop.noReturn b : OptLoop w) := by
  intro e' he'
  simp only [OptLoop.noReturn] at he'
  split at he'
  · simp only [Option.some.injEq] at he'
    subst he'; exact Expr.canon_val _
  · cases he'

theorem loopCanon_infinite (b : Bool) : LoopCanon (OptLoop.infinite b : OptLoop w) := by
  intro e' he'; simp [OptLoop.infinite] at he'

theorem loopCanon_unknown (b : Bool) : LoopCanon (OptLoop.unknown b : OptLoop w) := by
  intro e' he'; simp [OptLoop.unknown] at he'

theorem loopCanon_atMostOnceOf (b : Bool) : LoopCanon (OptLoop.atMostOnceOf b : OptLoop w) := by
  unfold OptLoop.atMostOnceOf
  split
  · exact loopCanon_ofExpr (Expr.canon_val _)
  · intro e' he'; simp at he'

theorem loopCanon_toAtLeastOnce {L : OptLoop w} (h : LoopCanon L) : LoopCanon L.toAtLeastOnce := h

theorem loopCanon_toAtMostOnce (L : OptLoop w) : LoopCanon L.toAtMostOnce := by
  intro e' he'; simp [OptLoop.toAtMostOnce] at he'

theorem analyzeLoop_canon (s : Rebuild w) (ps : List (Rebuild w)) (sub : Rebuild w) (cond : Int)
    (isLoop : Bool) : LoopCanon (analyzeLoop s ps sub cond isLoop) :=
  OptLoop.analyzeLoop_cases (P := LoopCanon) s ps sub cond isLoop (fun _ => loopCanon_ofExpr (Expr.canon_val _))
    (fun _ => loopCanon_ofExpr (Expr.canon_mul (Expr.canon_val _) (Expr.canon_var _))) loopCanon_noReturn
    loopCanon_atMostOnceOf loopCanon_infinite loopCanon_unknown

theorem linearAmong_canon {s : Rebuild w} {ps : List (Rebuild w)} {sub : Rebuild w} (hc : CanonSt sub)
    (C vars : List Int) :
    ∀ v inc, (v, inc) ∈ linearAmong s ps sub C vars → Expr.Canon inc := by
  have H : ∀ kv ∈ linearAmong s ps sub C vars, Expr.Canon kv.2 := by
    unfold linearAmong
    refine foldl_keeps (fun lin : List (Int × Expr w) => ∀ kv ∈ lin, Expr.Canon kv.2) _ ?_ vars []
      (fun kv hkv => by cases hkv)
    intro linear var hacc
    refine OptLoop.prop_ite (P := fun lin : List (Int × Expr w) => ∀ kv ∈ lin, Expr.Canon kv.2) hacc ?_
    cases hgb : getBoth sub (s :: ps) var with
    | none => exact hacc
    | some complete =>
      dsimp only
      cases hinc : Expr.incOf complete var with
      | none => exact hacc
      | some inc =>
        dsimp only
        refine OptLoop.prop_ite (P := fun lin : List (Int × Expr w) => ∀ kv ∈ lin, Expr.Canon kv.2) ?_ hacc
        intro kv hkv
        rcases OptLoop.mem_mSet _ _ _ _ hkv with h | h
        · rw [h]; exact Expr.canon_incOf (getBoth_canon hc (s :: ps) hgb) hinc
        · exact hacc kv h
  exact fun v inc h => H (v, inc) h

theorem linearAmong_canon_get {s : Rebuild w} {ps : List (Rebuild w)} {sub : Rebuild w} (hc : CanonSt sub)
    (C vars : List Int) {v : Int} {inc : Expr w} (h : mGet (linearAmong s ps sub C vars) v = some inc) :
    Expr.Canon inc :=
  linearAmong_canon hc C vars v inc (OptLoop.mem_of_mGet h)

theorem canon_single {p : Part w} (h : Expr.SortedVars p.vars) : Expr.Canon [p] :=
  Expr.canon_cons.2 ⟨h, by simp, Expr.canon_nil⟩

theorem triStep_canon {expr initial increment before : Expr w} (he : Expr.Canon expr)
    (hi : Expr.Canon initial) (hinc : Expr.Canon increment) (hb : Expr.Canon before) :
    Expr.Canon (OptArith.triStep expr initial increment before).2 := by
  have hneg : Expr.Canon (Expr.add expr (Expr.val (-1#w))) := Expr.canon_add he (Expr.canon_val _)
  unfold OptArith.triStep
  simp only []
  split
  · rename_i inc h1
    exact Expr.canon_add (Expr.canon_mul he hi)
      (Expr.canon_add hb (Expr.canon_mul he (Expr.canon_mul hneg (Expr.canon_half hinc h1))))
  · split
    · rename_i inc h2
      exact Expr.canon_add (Expr.canon_mul he hi)
        (Expr.canon_add hb (Expr.canon_mul hneg (Expr.canon_mul hinc (Expr.canon_half he h2))))
    · split
      · rename_i inc h3
        exact Expr.canon_add (Expr.canon_mul he hi)
          (Expr.canon_add hb (Expr.canon_mul he (Expr.canon_mul hinc (Expr.canon_half hneg h3))))
      · exact hb

theorem triFold_canon {expr : Expr w} (he : Expr.Canon expr) (linears : List (Expr w × Expr w))
    (hl : ∀ il ∈ linears, Expr.Canon il.1 ∧ Expr.Canon il.2) (ba : Expr w × Expr w)
    (h1 : Expr.Canon ba.1) (h2 : Expr.Canon ba.2) :
    Expr.Canon (linears.foldl (OptLoop.triFoldStep expr) ba).1 ∧
    Expr.Canon (linears.foldl (OptLoop.triFoldStep expr) ba).2 := by
  induction linears generalizing ba with
  | nil => exact ⟨h1, h2⟩
  | cons il linears ih =>
    simp only [List.foldl_cons]
    obtain ⟨a1, a2⟩ := hl il (by simp)
    have hstep : Expr.Canon (OptLoop.triFoldStep expr ba il).1 ∧
        Expr.Canon (OptLoop.triFoldStep expr ba il).2 := by
      unfold OptLoop.triFoldStep
      simp only []
      split
      · exact ⟨h1, Expr.canon_add h2 a1⟩
      · exact ⟨triStep_canon he a1 a2 h1, h2⟩
    exact ih (fun il' h' => hl il' (by simp [h'])) _ hstep.1 hstep.2

theorem splitStep_shape {C : List Int} {lin : List (Int × Expr w)}
    {acc acc1 : Expr w × Expr w × List (Expr w × Expr w)} {part : Part w}
    (h : OptLoop.splitStep C lin acc part = .ok acc1) :
    (acc1.1 = acc.1 ++ [part] ∧ acc1.2.1 = acc.2.1) ∨ (acc1.1 = acc.1 ∧ acc1.2.1 = acc.2.1) ∨
      (acc1.1 = acc.1 ∧ acc1.2.1 = acc.2.1 ++ [part]) := by
  unfold OptLoop.splitStep at h
  by_cases h1 : (part.vars.all (fun v => C.contains v)) = true
  · rw [if_pos h1] at h
    cases h
    exact Or.inl ⟨rfl, rfl⟩
  · rw [if_neg h1] at h
    by_cases h2 : (part.vars.all (fun v => C.contains v || mHas lin v)
        && (part.vars.filter (fun x => !C.contains x)).length == 1) = true
    · rw [if_pos h2] at h
      generalize part.vars.find? (fun x => !C.contains x) = fv at h
      cases fv with
      | none => cases h
      | some lv =>
        dsimp only at h
        generalize mGet lin lv = gl at h
        cases gl with
        | none => cases h
        | some l =>
          cases h
          exact Or.inr (Or.inl ⟨rfl, rfl⟩)
    · rw [if_neg h2] at h
      cases h
      exact Or.inr (Or.inr ⟨rfl, rfl⟩)

theorem splitFold_sublist (C : List Int) (lin : List (Int × Expr w)) (e : Expr w)
    (acc acc' : Expr w × Expr w × List (Expr w × Expr w))
    (h : e.foldlM (OptLoop.splitStep C lin) acc = .ok acc') :
    ∃ e1 e2, e1.Sublist e ∧ e2.Sublist e ∧ acc'.1 = acc.1 ++ e1 ∧ acc'.2.1 = acc.2.1 ++ e2 := by
  induction e generalizing acc with
  | nil =>
    rw [List.foldlM_nil] at h
    cases h
    exact ⟨[], [], List.Sublist.refl _, List.Sublist.refl _, by simp, by simp⟩
  | cons part e ih =>
    rw [List.foldlM_cons] at h
    cases hstep : OptLoop.splitStep C lin acc part with
    | error err => rw [hstep] at h; cases h
    | ok acc1 =>
      rw [hstep] at h
      obtain ⟨e1, e2, s1, s2, q1, q2⟩ := ih acc1 h
      rcases splitStep_shape hstep with ⟨a1, a2⟩ | ⟨a1, a2⟩ | ⟨a1, a2⟩
      · exact ⟨part :: e1, e2, s1.cons_cons part, s2.cons part, by rw [q1, a1]; simp, by rw [q2, a2]⟩
      · exact ⟨e1, e2, s1.cons part, s2.cons part, by rw [q1, a1], by rw [q2, a2]⟩
      · exact ⟨e1, part :: e2, s1.cons part, s2.cons_cons part, by rw [q1, a1], by rw [q2, a2]; simp⟩

theorem splitAlong_canon {e : Expr w} {C : List Int} {lin : List (Int × Expr w)} {cst other : Expr w}
    {lins : List (Expr w × Expr w)} (h : splitAlong e C lin = .ok (cst, other, lins))
    (he : Expr.Canon e) (hlin : ∀ v l, mGet lin v = some l → Expr.Canon l) :
    Expr.Canon cst ∧ Expr.Canon other ∧ ∀ il ∈ lins, Expr.Canon il.1 ∧ Expr.Canon il.2 := by
  obtain ⟨_, _, _, _, hLin⟩ := OptLoop.splitAlong_recompose e C lin cst other lins h
  rw [OptLoop.splitAlong_eq] at h
  obtain ⟨e1, e2, s1, s2, q1, q2⟩ := splitFold_sublist C lin e _ _ h
  simp only [List.nil_append] at q1 q2
  refine ⟨by rw [q1]; exact he.sublist s1, by rw [q2]; exact he.sublist s2, ?_⟩
  intro il hil
  obtain ⟨part, lv, l, hp, i1, _, _, hl, i2, _, _⟩ := hLin il hil
  have hsv : Expr.SortedVars part.vars := he.inner part hp
  constructor
  · rw [i1]; exact canon_single hsv
  · rw [i2]
    refine Expr.canon_mul (canon_single ?_) (hlin lv l hl)
    exact Expr.sortedVars_sublist List.filter_sublist hsv

theorem loopMotion_canon {s : Rebuild w} {ps : List (Rebuild w)} {var : Int} {p : Expr w}
    {complete : Bool} {reads C : List Int} {lin : List (Int × Expr w)} {otherPending : List Int}
    {L : OptLoop w} {b d a : Option (Expr w)}
    (h : loopMotion s ps var p complete reads C lin otherPending L = .ok (b, d, a))
    (hp : Expr.Canon p) (hlin : ∀ v l, mGet lin v = some l → Expr.Canon l)
    (hL : LoopCanon L) :
    (∀ e, b = some e → Expr.Canon e) ∧ (∀ e, d = some e → Expr.Canon e) ∧
    (∀ e, a = some e → Expr.Canon e) := by
  have hcase := OptLoop.loopMotion_cases s ps var p complete reads C lin otherPending L (b, d, a) h
  have hnone : ∀ e : Expr w, (none : Option (Expr w)) = some e → Expr.Canon e := fun e h => by cases h
  have hsome : ∀ {x : Expr w}, Expr.Canon x → ∀ e : Expr w, some x = some e → Expr.Canon e :=
    fun hx e h => by cases h; exact hx
  cases hcase with
  | gone _ _ => exact ⟨hnone, hnone, hnone⟩
  | after p' hp' _ _ =>
    exact ⟨hnone, hnone, hsome (OptLoop.reduceConst_canon s ps p p' C hp' hp)⟩
  | tri p' expr inc cst other linears _ _ _ hp' hexpr hpi hsplit =>
    have hpc := OptLoop.reduceConst_canon s ps p p' C hp' hp
    have hinc := Expr.canon_prodIncOf hpc hpi
    have hex := hL expr hexpr
    obtain ⟨c1, c2, c3⟩ := splitAlong_canon hsplit hinc hlin
    obtain ⟨f1, f2⟩ := triFold_canon hex linears c3 (Expr.mul expr cst, other)
      (Expr.canon_mul hex c1) c2
    exact ⟨hsome (Expr.canon_add (Expr.canon_var var) f1),
      hsome (Expr.canon_add (Expr.canon_var var) f2), hnone⟩
  | geo0 p' expr inc mul c _ _ _ hp' hexpr hpi _ _ _ =>
    exact ⟨hsome (Expr.canon_mul (Expr.canon_val _) (Expr.canon_var var)), hnone, hnone⟩
  | geo p' expr inc mul c _ _ _ hp' hexpr hpi _ _ _ =>
    have hpc := OptLoop.reduceConst_canon s ps p p' C hp' hp
    have hinc := Expr.canon_prodIncOf hpc hpi
    exact ⟨hsome (Expr.canon_add (Expr.canon_mul (Expr.canon_val _) (Expr.canon_var var))
      (Expr.canon_mul (Expr.canon_val _) hinc)), hnone, hnone⟩
  | stay p' hp' =>
    exact ⟨hnone, hsome (OptLoop.reduceConst_canon s ps p p' C hp' hp), hnone⟩

#print axioms loopMotion_canon

end OptProof
end Hpbf
