/-
Membership characterisations of the sets the dead store elimination pass computes, the unfolding equations of
the pass, and the vocabulary (`withBody`, `contOf`, `block_induction`, over `blockParts` of C01DseDefs) by which
`loop` and `ifnz` are one case, "nested block", in everything that follows.
-/
import Hpbf.Proofs.C01DseDefs
import Hpbf.Proofs.IrStep

namespace Hpbf
namespace C01Dse
open Ir OptDse

variable {w : Nat}

theorem mem_sins {s : List Int} {v x : Int} : x ∈ sins s v ↔ x = v ∨ x ∈ s := by
  unfold sins
  split
  · rename_i h
    have hv : v ∈ s := by simpa using h
    constructor
    · intro hx; exact Or.inr hx
    · rintro (rfl | hx)
      · exact hv
      · exact hx
  · simp

theorem mem_srem {s : List Int} {v x : Int} : x ∈ srem s v ↔ x ∈ s ∧ x ≠ v := by
  unfold srem
  simp

theorem contains_iff {s : List Int} {v : Int} : s.contains v = true ↔ v ∈ s := by simp

theorem contains_false_iff {s : List Int} {v : Int} : s.contains v = false ↔ v ∉ s := by simp

@[simp] theorem read_reads (s : DState) (v : Int) : (s.read v).reads = sins s.reads v := rfl
@[simp] theorem read_written (s : DState) (v : Int) : (s.read v).written = srem s.written v := rfl
@[simp] theorem read_hadShift (s : DState) (v : Int) : (s.read v).hadShift = s.hadShift := rfl
@[simp] theorem read_anal (s : DState) (v : Int) : (s.read v).anal = s.anal := rfl
@[simp] theorem read_shift (s : DState) (v : Int) : (s.read v).shift = s.shift := rfl
@[simp] theorem write_reads (s : DState) (v : Int) : (s.write v).reads = srem s.reads v := rfl
@[simp] theorem write_written (s : DState) (v : Int) : (s.write v).written = sins s.written v := rfl
@[simp] theorem write_hadShift (s : DState) (v : Int) : (s.write v).hadShift = s.hadShift := rfl
@[simp] theorem write_anal (s : DState) (v : Int) : (s.write v).anal = s.anal := rfl
@[simp] theorem write_shift (s : DState) (v : Int) : (s.write v).shift = s.shift := rfl

@[simp] theorem readAll_nil (s : DState) : readAll s [] = s := rfl
@[simp] theorem readAll_cons (s : DState) (v : Int) (vs : List Int) :
    readAll s (v :: vs) = readAll (s.read v) vs := rfl
@[simp] theorem writeAll_nil (s : DState) : writeAll s [] = s := rfl
@[simp] theorem writeAll_cons (s : DState) (v : Int) (vs : List Int) :
    writeAll s (v :: vs) = writeAll (s.write v) vs := rfl

theorem readAll_append (s : DState) (a b : List Int) : readAll s (a ++ b) = readAll (readAll s a) b := by
  unfold readAll; rw [List.foldl_append]

theorem mem_readAll_reads {s : DState} {vs : List Int} {x : Int} :
    x ∈ (readAll s vs).reads ↔ x ∈ vs ∨ x ∈ s.reads := by
  induction vs generalizing s with
  | nil => simp
  | cons v vs ih =>
    rw [readAll_cons, ih, read_reads, mem_sins, List.mem_cons, or_assoc]
    exact or_left_comm

theorem mem_readAll_written {s : DState} {vs : List Int} {x : Int} :
    x ∈ (readAll s vs).written ↔ x ∈ s.written ∧ x ∉ vs := by
  induction vs generalizing s with
  | nil => simp
  | cons v vs ih =>
    rw [readAll_cons, ih, read_written, mem_srem, List.mem_cons, not_or, and_assoc]

@[simp] theorem readAll_hadShift (s : DState) (vs : List Int) : (readAll s vs).hadShift = s.hadShift := by
  induction vs generalizing s with
  | nil => rfl
  | cons v vs ih => rw [readAll_cons, ih, read_hadShift]
@[simp] theorem readAll_anal (s : DState) (vs : List Int) : (readAll s vs).anal = s.anal := by
  induction vs generalizing s with
  | nil => rfl
  | cons v vs ih => rw [readAll_cons, ih, read_anal]
@[simp] theorem readAll_shift (s : DState) (vs : List Int) : (readAll s vs).shift = s.shift := by
  induction vs generalizing s with
  | nil => rfl
  | cons v vs ih => rw [readAll_cons, ih, read_shift]

theorem mem_writeAll_written {s : DState} {vs : List Int} {x : Int} :
    x ∈ (writeAll s vs).written ↔ x ∈ vs ∨ x ∈ s.written := by
  induction vs generalizing s with
  | nil => simp
  | cons v vs ih =>
    rw [writeAll_cons, ih, write_written, mem_sins, List.mem_cons, or_assoc]
    exact or_left_comm

theorem mem_writeAll_reads {s : DState} {vs : List Int} {x : Int} :
    x ∈ (writeAll s vs).reads ↔ x ∈ s.reads ∧ x ∉ vs := by
  induction vs generalizing s with
  | nil => simp
  | cons v vs ih =>
    rw [writeAll_cons, ih, write_reads, mem_srem, List.mem_cons, not_or, and_assoc]

@[simp] theorem writeAll_hadShift (s : DState) (vs : List Int) : (writeAll s vs).hadShift = s.hadShift := by
  induction vs generalizing s with
  | nil => rfl
  | cons v vs ih => rw [writeAll_cons, ih, write_hadShift]
@[simp] theorem writeAll_anal (s : DState) (vs : List Int) : (writeAll s vs).anal = s.anal := by
  induction vs generalizing s with
  | nil => rfl
  | cons v vs ih => rw [writeAll_cons, ih, write_anal]
@[simp] theorem writeAll_shift (s : DState) (vs : List Int) : (writeAll s vs).shift = s.shift := by
  induction vs generalizing s with
  | nil => rfl
  | cons v vs ih => rw [writeAll_cons, ih, write_shift]

theorem writeAll_append (s : DState) (a b : List Int) : writeAll s (a ++ b) = writeAll (writeAll s a) b := by
  unfold writeAll; rw [List.foldl_append]

theorem foldl_readAll_eq {α : Type} (f : α → List Int) (l : List α) (s : DState) :
    l.foldl (fun s c => readAll s (f c)) s = readAll s (l.flatMap f) := by
  induction l generalizing s with
  | nil => rfl
  | cons a l ih => rw [List.foldl_cons, ih, List.flatMap_cons, readAll_append]

theorem absorb_hadShift (s sub : DState) (A : DAnal) (cond : Int) :
    (absorbSub s sub A cond).hadShift = (s.hadShift || A.hasShift) := by
  unfold absorbSub
  cases hA : A.hasShift <;> cases hL : A.atLeastOnce <;> simp

@[simp] theorem absorb_anal (s sub : DState) (A : DAnal) (cond : Int) :
    (absorbSub s sub A cond).anal = s.anal := by
  unfold absorbSub
  cases hA : A.hasShift <;> cases hL : A.atLeastOnce <;> simp

@[simp] theorem absorb_shift (s sub : DState) (A : DAnal) (cond : Int) :
    (absorbSub s sub A cond).shift = s.shift := by
  unfold absorbSub
  cases hA : A.hasShift <;> cases hL : A.atLeastOnce <;> simp

theorem mem_absorb_written {s sub : DState} {A : DAnal} {cond x : Int} :
    x ∈ (absorbSub s sub A cond).written ↔
      x ≠ cond ∧ x ∉ sub.reads ∧
        ((A.atLeastOnce = true ∧ x ∈ sub.written) ∨ (A.hasShift = false ∧ x ∈ s.written)) := by
  unfold absorbSub
  cases hA : A.hasShift <;> cases hL : A.atLeastOnce <;>
    simp [mem_srem, mem_readAll_written, mem_writeAll_written] <;> grind

theorem mem_absorb_reads {s sub : DState} {A : DAnal} {cond x : Int} :
    x ∈ (absorbSub s sub A cond).reads ↔
      x = cond ∨ x ∈ sub.reads ∨
        (A.hasShift = false ∧ x ∈ s.reads ∧ ¬ (A.atLeastOnce = true ∧ x ∈ sub.written)) := by
  unfold absorbSub
  cases hA : A.hasShift <;> cases hL : A.atLeastOnce <;>
    simp [mem_sins, mem_readAll_reads, mem_writeAll_reads]

theorem wbo_nil (s : DState) (v : Int) :
    willBeOverwritten s [] v = true ↔ (v ∈ s.written ∨ (v ∉ s.reads ∧ s.hadShift = false)) := by
  unfold willBeOverwritten
  by_cases h1 : v ∈ s.written
  · simp [h1]
  · by_cases h2 : v ∈ s.reads
    · simp [h1, h2]
    · cases h3 : s.hadShift <;> simp [h1, h2]

theorem wbo_cons (s p : DState) (rest : List DState) (v : Int) :
    willBeOverwritten s (p :: rest) v = true ↔
      (v ∈ s.written ∨ (v ∉ s.reads ∧ s.hadShift = false ∧
        (s.anal.atMostOnce = true ∨ (s.anal.hasShift = false ∧ v ∉ s.anal.reads)) ∧
        willBeOverwritten p rest (v - s.shift) = true)) := by
  rw [willBeOverwritten]
  by_cases h1 : v ∈ s.written
  · simp [h1]
  · by_cases h2 : v ∈ s.reads
    · simp [h1, h2]
    · cases h3 : s.hadShift
      · cases h4 : s.anal.atMostOnce
        · cases h5 : s.anal.hasShift
          · by_cases h6 : v ∈ s.anal.reads <;> simp [h1, h2, h6]
          · simp [h1, h2]
        · simp [h1, h2]
      · simp [h1, h2]

theorem calcScan_state (P : List DState) (l : List (Int × Expr w)) (s : DState) (rem : List Int) :
    ∃ ws, (calcScan P l s rem).1 = writeAll s ws ∧ ∀ x ∈ ws, x ∈ l.map Prod.fst := by
  induction l generalizing s rem with
  | nil => exact ⟨[], rfl, by simp⟩
  | cons ve rest ih =>
    obtain ⟨v, e⟩ := ve
    rw [calcScan]
    split
    · obtain ⟨ws, h1, h2⟩ := ih s (sins rem v)
      exact ⟨ws, h1, fun x hx => by simp [h2 x hx]⟩
    · obtain ⟨ws, h1, h2⟩ := ih (s.write v) rem
      refine ⟨v :: ws, h1, fun x hx => ?_⟩
      rcases List.mem_cons.1 hx with rfl | hx
      · simp
      · have := h2 x hx
        simp only [List.map_cons, List.mem_cons]
        exact Or.inr this

/-- A variable that ends up in the removal set was judged `willBeOverwritten` in a state that differs from
the initial one by writes of OTHER targets only (given that targets are not repeated). -/
theorem calcScan_rem (P : List DState) (l : List (Int × Expr w)) (s : DState) (rem : List Int) (v : Int)
    (hv : v ∈ (calcScan P l s rem).2) :
    v ∈ rem ∨ (v ∈ l.map Prod.fst ∧ ∃ ws, (∀ x ∈ ws, x ∈ l.map Prod.fst) ∧
      ((l.map Prod.fst).Nodup → v ∉ ws) ∧ willBeOverwritten (writeAll s ws) P v = true) := by
  induction l generalizing s rem with
  | nil => exact Or.inl hv
  | cons ue rest ih =>
    obtain ⟨u, e⟩ := ue
    rw [calcScan] at hv
    split at hv
    · rename_i hw
      rcases ih s (sins rem u) hv with h | ⟨hm, ws, h1, h2, h3⟩
      · rcases mem_sins.1 h with rfl | h
        · exact Or.inr ⟨List.mem_cons_self, [], ⟨fun _ h => absurd h List.not_mem_nil, fun _ => List.not_mem_nil, hw⟩⟩
        · exact Or.inl h
      · refine Or.inr ⟨by simp [hm], ws, fun x hx => by simp [h1 x hx], fun hnd => ?_, h3⟩
        exact h2 (List.nodup_cons.1 hnd).2
    · rcases ih (s.write u) rem hv with h | ⟨hm, ws, h1, h2, h3⟩
      · exact Or.inl h
      · refine Or.inr ⟨by simp [hm], u :: ws, ?_, fun hnd => ?_, h3⟩
        · intro x hx
          rcases List.mem_cons.1 hx with rfl | hx
          · simp
          · have := h1 x hx
            simp only [List.map_cons, List.mem_cons]
            exact Or.inr this
        · have hnd' : u ∉ rest.map Prod.fst ∧ (rest.map Prod.fst).Nodup := List.nodup_cons.1 hnd
          intro hmem
          rcases List.mem_cons.1 hmem with rfl | hmem
          · exact hnd'.1 hm
          · exact h2 hnd'.2 hmem

theorem calcScan_rem_sub (P : List DState) (l : List (Int × Expr w)) (s : DState) (rem : List Int) (v : Int)
    (hv : v ∈ (calcScan P l s rem).2) : v ∈ rem ∨ v ∈ l.map Prod.fst := by
  rcases calcScan_rem P l s rem v hv with h | ⟨h, _⟩
  · exact Or.inl h
  · exact Or.inr h

theorem elimInsts_nil (P : List DState) (s : DState) (idx : Nat) :
    elimInsts (w := w) P [] s idx = some ([], s, idx) := by
  rw [elimInsts]

theorem elimInsts_cons_some {P : List DState} {i : Instr w} {rest : List (Instr w)} {s : DState} {idx : Nat}
    {r : List (Instr w) × DState × Nat} (h : elimInsts P (i :: rest) s idx = some r) :
    ∃ rest' s1 idx1 i' s0 idx0, elimInsts P rest s idx = some (rest', s1, idx1) ∧
      elimInstr P i s1 idx1 = some (i', s0, idx0) ∧ r = (i' :: rest', s0, idx0) := by
  rw [elimInsts] at h
  split at h
  · exact absurd h (by simp)
  · rename_i rest' s1 idx1 h1
    split at h
    · exact absurd h (by simp)
    · rename_i i' s0 idx0 h2
      refine ⟨rest', s1, idx1, i', s0, idx0, h1, h2, ?_⟩
      simpa using h.symm

theorem elimInsts_cons_of {P : List DState} {i : Instr w} {rest : List (Instr w)} {s : DState} {idx : Nat}
    {rest' : List (Instr w)} {s1 : DState} {idx1 : Nat} {i' : Instr w} {s0 : DState} {idx0 : Nat}
    (h1 : elimInsts P rest s idx = some (rest', s1, idx1))
    (h2 : elimInstr P i s1 idx1 = some (i', s0, idx0)) :
    elimInsts P (i :: rest) s idx = some (i' :: rest', s0, idx0) := by
  rw [elimInsts, h1]
  simp only [h2]

theorem elimInstr_output (P : List DState) (src : Int) (s : DState) (idx : Nat) :
    elimInstr (w := w) P (.output src) s idx = some (.output src, s.read src, idx) := by
  rw [elimInstr]

theorem elimInstr_input (P : List DState) (dst : Int) (s : DState) (idx : Nat) :
    elimInstr (w := w) P (.input dst) s idx = some (.input dst, s.write dst, idx) := by
  rw [elimInstr]

def keptCalcs (P : List DState) (calcs : List (Int × Expr w)) (s : DState) : List (Int × Expr w) :=
  calcs.filter (fun c => !(calcScan P calcs s []).2.contains c.1)

theorem elimInstr_calc (P : List DState) (calcs : List (Int × Expr w)) (s : DState) (idx : Nat) :
    elimInstr P (.calc calcs) s idx =
      some (.calc (keptCalcs P calcs s),
        readAll (calcScan P calcs s []).1 ((keptCalcs P calcs s).flatMap (fun c => Expr.variables c.2)), idx) := by
  rw [elimInstr]
  simp only [keptCalcs, foldl_readAll_eq]

def withBody : Instr w → List (Instr w) → Instr w
  | .loop cond shift _ once, body => .loop cond shift body once
  | .ifnz cond shift _, body => .ifnz cond shift body
  | i, _ => i

/-- The continuation pushed when the nested block `i`, followed by `rest`, is entered. The last arm is junk:
`contOf` is only applied to an `i` with `blockParts i ≠ none`. -/
def contOf : Instr w → List (Instr w) → Cont w
  | .loop cond shift body _, rest => .loopEnd cond shift body rest
  | .ifnz _ shift _, rest => .ifEnd shift rest
  | _, rest => .ifEnd 0 rest

theorem blockParts_withBody {i : Instr w} {cond shift : Int} {body : List (Instr w)}
    (hp : blockParts i = some (cond, shift, body)) (body' : List (Instr w)) :
    blockParts (withBody i body') = some (cond, shift, body') := by
  cases i <;> cases hp <;> rfl

theorem isBlock_of_parts {i : Instr w} {p : Int × Int × List (Instr w)} (hp : blockParts i = some p) :
    isBlock i = true := by
  cases i <;> cases hp <;> rfl

theorem isBlock_of_noParts {i : Instr w} (hp : blockParts i = none) : isBlock i = false := by
  cases i with
  | loop _ _ _ _ => cases hp
  | ifnz _ _ _ => cases hp
  | _ => rfl

/-- `Ir.Shape` speaks of a block through `Instr.block?`; here it is `blockParts` with `contOf`. -/
theorem block?_eq (i : Instr w) (rest : List (Instr w)) :
    i.block? rest = (blockParts i).map fun p => (p.1, p.2.2, contOf i rest) := by
  cases i <;> rfl

/-- Induction over instructions and instruction lists together, with ONE case for a nested block (`loop` or `ifnz`,
through `blockParts`). -/
theorem block_induction {P : Instr w → Prop} {Q : List (Instr w) → Prop}
    (plain : ∀ i, blockParts i = none → P i)
    (block : ∀ i cond shift body, blockParts i = some (cond, shift, body) → Q body → P i)
    (nil : Q []) (cons : ∀ i rest, P i → Q rest → Q (i :: rest)) : (∀ i, P i) ∧ ∀ l, Q l :=
  ⟨Instr.rec (motive_1 := P) (motive_2 := Q) (fun _ => plain _ rfl) (fun _ => plain _ rfl) (fun _ => plain _ rfl)
      (fun c sh body _ ih => block _ c sh body rfl ih) (fun c sh body ih => block _ c sh body rfl ih) nil cons,
    Instr.rec_1 (motive_1 := P) (motive_2 := Q) (fun _ => plain _ rfl) (fun _ => plain _ rfl) (fun _ => plain _ rfl)
      (fun c sh body _ ih => block _ c sh body rfl ih) (fun c sh body ih => block _ c sh body rfl ih) nil cons⟩

theorem elimInstr_block_some {P : List DState} {i : Instr w} {cond shift : Int} {body : List (Instr w)}
    (hp : blockParts i = some (cond, shift, body)) {s : DState} {idx : Nat} {r : Instr w × DState × Nat}
    (h : elimInstr P i s idx = some r) :
    ∃ k A1 body' sub idx1, idx = k + 1 ∧ s.anal.subs[k]? = some A1 ∧
      elimInsts (s.read cond :: P) body (DState.new shift A1) A1.subs.length = some (body', sub, idx1) ∧
      r = (withBody i body', absorbSub (s.read cond) sub A1 cond, k) := by
  cases i <;> cases hp
  -- the two arms of `elimInstr` differ in the constructor only
  all_goals
    cases idx with
    | zero => rw [elimInstr] at h; exact absurd h (by simp)
    | succ k =>
      rw [elimInstr] at h
      simp only [read_anal] at h
      split at h
      · exact absurd h (by simp)
      · rename_i A1 hA
        split at h
        · exact absurd h (by simp)
        · rename_i body' sub idx1 hb
          exact ⟨k, A1, body', sub, idx1, rfl, hA, hb, by simpa [withBody] using h.symm⟩

theorem elimInstr_block_of {P : List DState} {i : Instr w} {cond shift : Int} {body : List (Instr w)}
    (hp : blockParts i = some (cond, shift, body)) {s : DState} {k : Nat} {A1 : DAnal}
    {body' : List (Instr w)} {sub : DState} {idx1 : Nat} (hA : s.anal.subs[k]? = some A1)
    (hb : elimInsts (s.read cond :: P) body (DState.new shift A1) A1.subs.length = some (body', sub, idx1)) :
    elimInstr P i s (k + 1) = some (withBody i body', absorbSub (s.read cond) sub A1 cond, k) := by
  cases i <;> cases hp
  all_goals
    rw [elimInstr]
    simp only [read_anal, hA, hb, withBody]

end C01Dse
end Hpbf
