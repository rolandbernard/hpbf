/-
The access window of `BcGen.analyze` is TIGHT — if `0` and every offset of the block lie in `[lo, hi]` then so do
`minAcc` and `maxAcc` (the converse of `Local.analyze_covers`).
-/
import Hpbf.BcGen
import Hpbf.Proofs.C10Parse

namespace Hpbf.OptOffs
open Hpbf Ir BcGen

variable {w : Nat}

/-- The window of `a` lies in `[lo, hi]`. `minAcc ≤ maxAcc` and the bound on `writes` are carried because `absorb`
feeds a sub-block's `minAcc`, `maxAcc` and `writes` back into `accessed` / `written`. -/
def WB (lo hi : Int) (a : Analysis) : Prop :=
  lo ≤ a.minAcc ∧ a.maxAcc ≤ hi ∧ a.minAcc ≤ a.maxAcc ∧ ∀ v ∈ a.writes, lo ≤ v ∧ v ≤ hi

theorem wb_accessed {lo hi : Int} {a : Analysis} {v : Int} (h : WB lo hi a) (hv : lo ≤ v ∧ v ≤ hi) :
    WB lo hi (a.accessed v) := by
  obtain ⟨h1, h2, h4, h3⟩ := h
  unfold WB Analysis.accessed
  by_cases c1 : a.minAcc > v <;> by_cases c2 : a.maxAcc < v <;>
    simp only [c1, c2, if_true, if_false] <;> exact ⟨by omega, by omega, by omega, h3⟩

theorem wb_written {lo hi : Int} {a : Analysis} {v : Int} (h : WB lo hi a) (hv : lo ≤ v ∧ v ≤ hi) :
    WB lo hi (a.written v) := by
  have h' := wb_accessed h hv
  unfold Analysis.written
  simp only
  split
  · refine ⟨h'.1, h'.2.1, h'.2.2.1, ?_⟩
    intro x hx
    simp only [setInsert] at hx
    split at hx
    · exact h'.2.2.2 x hx
    · rcases List.mem_append.1 hx with e | e
      · exact h'.2.2.2 x e
      · simp only [List.mem_singleton] at e; subst e; exact hv
  · exact h'

theorem wb_foldl {lo hi : Int} {f : Analysis → Int → Analysis}
    (hf : ∀ a v, WB lo hi a → lo ≤ v ∧ v ≤ hi → WB lo hi (f a v)) (vs : List Int) :
    ∀ (a : Analysis), WB lo hi a → (∀ v ∈ vs, lo ≤ v ∧ v ≤ hi) → WB lo hi (vs.foldl f a) := by
  induction vs with
  | nil => intro a h _; exact h
  | cons x xs ih =>
    intro a h hv
    exact ih _ (hf a x h (hv x List.mem_cons_self)) (fun v hv' => hv v (List.mem_cons_of_mem _ hv'))

theorem wb_calc {lo hi : Int} (calcs : List (Int × Expr w)) :
    ∀ (a : Analysis), WB lo hi a →
      (∀ o ∈ calcs.flatMap (fun ve => ve.1 :: Expr.variables ve.2), lo ≤ o ∧ o ≤ hi) →
      WB lo hi (a.calc calcs) := by
  induction calcs with
  | nil => intro a h _; exact h
  | cons c cs ih =>
    intro a h ho
    have e : a.calc (c :: cs) =
        Analysis.calc (((Expr.variables c.2).foldl Analysis.accessed a).written c.1) cs := rfl
    rw [e]
    simp only [List.flatMap_cons, List.mem_append, List.mem_cons] at ho
    apply ih
    · apply wb_written
      · exact wb_foldl (fun _ _ => wb_accessed) _ _ h (fun v hv => ho v (Or.inl (Or.inr hv)))
      · exact ho c.1 (Or.inl (Or.inl rfl))
    · intro o ho'
      exact ho o (Or.inr ho')

theorem wb_close {lo hi : Int} {a : Analysis} (h : WB lo hi a) (shift : Int) : WB lo hi (a.close shift) := by
  unfold Analysis.close; split <;> exact h

theorem wb_absorb {lo hi : Int} {a sub : Analysis} {cond : Int} (h : WB lo hi a) (hs : WB lo hi sub)
    (hc : lo ≤ cond ∧ cond ≤ hi) : WB lo hi (a.absorb cond sub) := by
  have h1 := wb_accessed h hc
  have h2 := wb_accessed h1 (v := sub.minAcc) ⟨hs.1, by have := hs.2.1; have := hs.2.2.1; omega⟩
  have h3 := wb_accessed h2 (v := sub.maxAcc) ⟨by have := hs.1; have := hs.2.2.1; omega, hs.2.1⟩
  unfold Analysis.absorb
  simp only
  split
  · exact ⟨h3.1, h3.2.1, h3.2.2.1, fun v hv => by cases hv⟩
  · split
    · have := wb_foldl (fun _ _ => wb_written) sub.writes _ h3 hs.2.2.2
      exact ⟨this.1, this.2.1, this.2.2.1, this.2.2.2⟩
    · exact ⟨h3.1, h3.2.1, h3.2.2.1, h3.2.2.2⟩

theorem wb_empty {lo hi : Int} (h0 : lo ≤ 0 ∧ 0 ≤ hi) : WB lo hi Analysis.empty :=
  ⟨h0.1, h0.2, Int.le_refl _, fun v hv => by cases hv⟩

mutual
theorem wb_analyzeInstr : ∀ (i : Instr w) (lo hi : Int) (a : Analysis), lo ≤ 0 ∧ 0 ≤ hi → WB lo hi a →
    (∀ o ∈ i.offsets, lo ≤ o ∧ o ≤ hi) → WB lo hi (analyzeInstr i a)
  | .output src, lo, hi, a, _, h, ho => by
    simp only [analyzeInstr]; exact wb_accessed h (ho src (by simp [Instr.offsets]))
  | .input dst, lo, hi, a, _, h, ho => by
    simp only [analyzeInstr]; exact wb_written h (ho dst (by simp [Instr.offsets]))
  | .calc calcs, lo, hi, a, _, h, ho => by
    simp only [analyzeInstr]; exact wb_calc calcs a h (by simpa [Instr.offsets] using ho)
  | .loop cond shift body once, lo, hi, a, h0, h, ho => by
    simp only [analyzeInstr]
    simp only [Instr.offsets, List.mem_cons, forall_eq_or_imp] at ho
    have hb := wb_analyzeInsts body lo hi Analysis.empty h0 (wb_empty h0) ho.2
    exact wb_absorb h (wb_close hb shift) ho.1
  | .ifnz cond shift body, lo, hi, a, h0, h, ho => by
    simp only [analyzeInstr]
    simp only [Instr.offsets, List.mem_cons, forall_eq_or_imp] at ho
    have hb := wb_analyzeInsts body lo hi Analysis.empty h0 (wb_empty h0) ho.2
    exact wb_absorb h (wb_close hb shift) ho.1
theorem wb_analyzeInsts : ∀ (l : List (Instr w)) (lo hi : Int) (a : Analysis), lo ≤ 0 ∧ 0 ≤ hi → WB lo hi a →
    (∀ o ∈ offsets l, lo ≤ o ∧ o ≤ hi) → WB lo hi (analyzeInsts l a)
  | [], _, _, a, _, h, _ => by simp only [analyzeInsts]; exact h
  | i :: r, lo, hi, a, h0, h, ho => by
    simp only [analyzeInsts]
    simp only [offsets, List.mem_append] at ho
    have h1 := wb_analyzeInstr i lo hi a h0 h (fun o hi' => ho o (Or.inl hi'))
    exact wb_analyzeInsts r lo hi _ h0 h1 (fun o hi' => ho o (Or.inr hi'))
end

theorem analyze_tight (b : Block w) (lo hi : Int) (h0 : lo ≤ 0 ∧ 0 ≤ hi)
    (ho : ∀ o ∈ offsets b.insts, lo ≤ o ∧ o ≤ hi) :
    lo ≤ (analyze b).minAcc ∧ (analyze b).maxAcc ≤ hi := by
  have := wb_close (wb_analyzeInsts b.insts lo hi Analysis.empty h0 (wb_empty h0) ho) b.shift
  exact ⟨this.1, this.2.1⟩

end Hpbf.OptOffs
