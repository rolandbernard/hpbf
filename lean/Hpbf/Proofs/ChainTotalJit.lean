/-
Chain: the JIT statements under `JitRange`, and the headline.

* `JitRange`, `jitCode`, `jitHyps_of_range` (below); `rangeCheck` / `jitRange_exCfg`: `JitRange` on a concrete program
  by evaluation; `jitRange_window_of_bound`: its window fields from a bound on the access window;
* `Fin`, `finBf … finX86`, `SameResults`: the finished result of a run as a value, and "two machines have the same
  finished results"; `same_*_of_agrees`, `jit_*_fin_of_agrees`: agreement in that form;
* `AllBackends`, the conclusion of the headline theorems, derived once from an agreement `IrAgrees prog b' env` with
  justified `once` marks (`allBackends_of_agrees`), and its level-0 instance `level0_all_backends`.

`JitRange sz p limited safe cfg buf0 rsp0 ra budget env` is what remains of `JitHyps` for `p = translate blk 11
false` once `compileX86 … = some code` (`C03.translate_compile_of_localOk`) and `BcWf.check p 11 = true`
(`C02.translateE_check`) are theorems; the code is `jitCode p limited safe cfg`, THE value `compileX86` returns.
-/
import Hpbf.Proofs.ChainTotal
import Hpbf.Proofs.ChainJit
import Hpbf.Props.C03Total

namespace Hpbf
namespace Chain

open Asm JitGen X86Sem X86Prog C03 BcGen

variable {w : Nat}

/-- The machine code `compile_program` produces (`[]` if it produced none – excluded by `jitCode_spec`). -/
def jitCode (p : Bc.Program w) (limited safe : Bool) (cfg : X86Prog.Cfg) : List X86 :=
  (compileX86 w p limited safe cfg.aE.toNat cfg.aI.toNat cfg.aO.toNat).getD []

/-- The genuine range hypotheses.
* `width`   – the cell width is one the JIT supports (8, 16, 32, 64 bits), `sz` its operand size;
* `fetch`   – the machine decodes the generated code;
* `small`   – the code is shorter than `2^31` bytes (`rel32` displacements do not wrap);
* `addr*`   – the three runtime entry points (`extend`, `input`, `output`) have distinct addresses;
* `win`     – the access window lies strictly inside `i32`; `dispMin`/`dispMax` – `bytes * minAcc`,
              `bytes * maxAcc` are `i32`s; `dispNeg` – (bounds-checked code) so are their negations (the probe);
* `temps`   – the frame (`8 *` aligned number of temporaries) is an `i32`;
* `shift`   – `bytes * shift` of every `mov` is an `i32`;
* `rsp`     – stack alignment at entry (`rsp ≡ 8 mod 16`, as after a `call`);
* `budgetLt`, `lim` – the budget is a `u64`; not (limited with budget 0);
* `noOOM`   – (bounds-checked code) the tape allocation stays below `2^40` cells in every reached state. -/
structure JitRange (sz : Size) (p : Bc.Program w) (limited safe : Bool) (cfg : X86Prog.Cfg)
    (buf0 rsp0 ra : BitVec 64) (budget : Nat) (env : Env) : Prop where
  width : Size.ofBits? w = some sz
  fetch : cfg.fetch = fetchFast (fetchTable (jitCode p limited safe cfg))
  small : sizeAll (jitCode p limited safe cfg) < 2 ^ 31
  addrIO : cfg.aI ≠ cfg.aO
  addrEI : cfg.aE ≠ cfg.aI
  addrEO : cfg.aE ≠ cfg.aO
  win : -2147483648 < p.minAcc ∧ p.maxAcc < 2147483648
  dispMin : DispOk sz p.minAcc
  dispMax : DispOk sz p.maxAcc
  dispNeg : safe = true → DispOk sz (-p.minAcc) ∧ DispOk sz (-p.maxAcc)
  temps : alignedTemps p.temps * 8 < 2147483648
  shift : ∀ (i : Nat) (sh : Int), p.insts[i]? = some (Bc.Instr.mov sh) → DispOk sz sh
  rsp : rsp0.toNat % 16 = 8
  budgetLt : budget < 2 ^ 64
  lim : (limited && budget == 0) = false
  noOOM : safe = true → ∀ n s',
    steps cfg n (initState (w := w) cfg buf0 rsp0 ra p.minAcc p.maxAcc budget env) = some s' → Bnd s'

section
variable {blk : Ir.Block w} {p : Bc.Program w} {sz : Size} {limited safe : Bool} {cfg : X86Prog.Cfg}
  {buf0 rsp0 ra : BitVec 64} {budget : Nat} {env : Env}

/-- Compilation of `translate` output succeeds under the range hypotheses: `jitCode` is the compiled code. -/
theorem jitCode_spec (ht : translateE blk 11 false = .ok p)
    (R : JitRange sz p limited safe cfg buf0 rsp0 ra budget env) :
    compileX86 w p limited safe cfg.aE.toNat cfg.aI.toNat cfg.aO.toNat = some (jitCode p limited safe cfg) := by
  have htemps : 8 * p.temps < 2147483648 := by
    have := alignedTemps_ge p.temps
    have := R.temps
    omega
  obtain ⟨code, hc⟩ := translate_compile_of_localOk ht (C02.translateE_localOk ht) limited safe
    cfg.aE.toNat cfg.aI.toNat cfg.aO.toNat R.width R.dispMin R.dispMax htemps R.shift R.dispNeg
  unfold jitCode
  rw [hc]; rfl

/-- **`JitRange` gives all hypotheses of `C03.prog_run`.**  Its `shift` (`bytes * sh` is an `i32`, what the assembler
needs) is stronger than that of `JitHyps` (`sh` is an `i32`): `dispOk_range`. -/
theorem jitHyps_of_range (ht : translateE blk 11 false = .ok p)
    (R : JitRange sz p limited safe cfg buf0 rsp0 ra budget env) :
    JitHyps p limited safe cfg (jitCode p limited safe cfg) buf0 rsp0 ra budget env :=
  { comp := jitCode_spec ht R, fetch := R.fetch, small := R.small, addrIO := R.addrIO, addrEI := R.addrEI,
    addrEO := R.addrEO, check := C02.translateE_check ht, win := R.win, temps := R.temps,
    shift := fun i sh h => dispOk_range (R.shift i sh h), rsp := R.rsp, budgetLt := R.budgetLt, lim := R.lim,
    noOOM := R.noOOM }

end

/-- `JitRange` on a concrete program, for the machine configuration `exCfg` of `Props/C03Flow.lean` (distinct
runtime addresses, the generated code as the fetch table), an aligned stack (of the three addresses `buf0 rsp0 ra` below
only `rsp0 % 16 = 8` matters) and code without bounds checks (so `dispNeg` and `noOOM` are void): what remains is decidable, and one evaluation of `translate` and `compileX86`
settles it. -/
def rangeCheck (sz : Size) (p : Bc.Program w) (limited : Bool) (budget : Nat) : Prop :=
  sizeAll ((compileX86 w p limited false 0x7f0000001000 0x7f0000002000 0x7f0000003000).getD []) < 2 ^ 31 ∧
  (-2147483648 < p.minAcc ∧ p.maxAcc < 2147483648) ∧
  (-2147483648 ≤ (sz.bytes : Int) * p.minAcc ∧ (sz.bytes : Int) * p.minAcc < 2147483648) ∧
  (-2147483648 ≤ (sz.bytes : Int) * p.maxAcc ∧ (sz.bytes : Int) * p.maxAcc < 2147483648) ∧
  alignedTemps p.temps * 8 < 2147483648 ∧
  noMov p = true ∧
  budget < 2 ^ 64 ∧ (limited && budget == 0) = false

instance (sz : Size) (p : Bc.Program w) (limited : Bool) (budget : Nat) : Decidable (rangeCheck sz p limited budget) := by
  unfold rangeCheck; infer_instance

theorem jitRange_exCfg {sz : Size} {p : Bc.Program w} {limited : Bool} {budget : Nat} (env : Env)
    (hsz : Size.ofBits? w = some sz) (h : rangeCheck sz p limited budget) :
    JitRange sz p limited false
      (exCfg ((compileX86 w p limited false 0x7f0000001000 0x7f0000002000 0x7f0000003000).getD []))
      0x560000000000 0x7ffd00000ff8 0x555500001234 budget env :=
  { width := hsz, fetch := rfl, small := h.1,
    addrIO := by show (0x7f0000002000 : BitVec 64) ≠ 0x7f0000003000; decide,
    addrEI := by show (0x7f0000001000 : BitVec 64) ≠ 0x7f0000002000; decide,
    addrEO := by show (0x7f0000001000 : BitVec 64) ≠ 0x7f0000003000; decide,
    win := h.2.1, dispMin := h.2.2.1, dispMax := h.2.2.2.1, dispNeg := fun h => (by cases h),
    temps := h.2.2.2.2.1,
    shift := fun i sh hi => absurd hi (no_mov_of_all h.2.2.2.2.2.1 i sh),
    rsp := by decide, budgetLt := h.2.2.2.2.2.2.1, lim := h.2.2.2.2.2.2.2, noOOM := fun h => by cases h }

/-- The access window of a translated program is the window `BcGen.analyze` computes for the block. -/
theorem translate_window_final (b' : Ir.Block w) (numRegs : Nat) (fuse : Bool) :
    (translate b' numRegs fuse).minAcc = (analyze b').minAcc ∧
    (translate b' numRegs fuse).maxAcc = (analyze b').maxAcc := by
  obtain ⟨_, _, h1, h2, _⟩ := translate_shape (translate_ok b' numRegs fuse)
  exact ⟨h1, h2⟩

/-- A displacement of absolute value at most `n` is encodable once `bytes * n` is an `i32`. -/
theorem dispOk_of_natAbs_le {sz : Size} {x : Int} {n : Nat} (h : x.natAbs ≤ n)
    (hlen : (sz.bytes : Int) * n < 2147483648) : DispOk sz x := by
  have hk : (0 : Int) ≤ sz.bytes := Int.natCast_nonneg _
  have a := Int.mul_le_mul_of_nonneg_left (show x ≤ n by omega) hk
  have b := Int.mul_le_mul_of_nonneg_left (show -(n : Int) ≤ x by omega) hk
  rw [Int.mul_neg] at b
  exact ⟨by omega, by omega⟩

/-- The window fields of `JitRange` (`win`, `dispMin`, `dispMax`, both parts of `dispNeg`) for `translate b'`, from
a bound `n` on the window of `b'` with `bytes * n < 2^31`: the window contains 0 (`C02.Local.analyze_covers`), so its
two ends have absolute value at most `n`. -/
theorem jitRange_window_of_bound (b' : Ir.Block w) (numRegs : Nat) (fuse : Bool) (sz : Size) {n : Nat}
    (hwin : -(n : Int) ≤ (analyze b').minAcc ∧ (analyze b').maxAcc ≤ (n : Int))
    (hlen : (sz.bytes : Int) * n < 2147483648) :
    let p := translate b' numRegs fuse
    (-2147483648 < p.minAcc ∧ p.maxAcc < 2147483648) ∧ DispOk sz p.minAcc ∧ DispOk sz p.maxAcc ∧
    DispOk sz (-p.minAcc) ∧ DispOk sz (-p.maxAcc) := by
  intro p
  obtain ⟨e1, e2⟩ := translate_window_final b' numRegs fuse
  obtain ⟨h0, h1, _⟩ := C02.Local.analyze_covers b'
  have hmin : p.minAcc = (analyze b').minAcc := e1
  have hmax : p.maxAcc = (analyze b').maxAcc := e2
  rw [hmin, hmax]
  have a : (analyze b').minAcc.natAbs ≤ n := by omega
  have b : (analyze b').maxAcc.natAbs ≤ n := by omega
  have hn : 1 * (n : Int) ≤ sz.bytes * n :=
    Int.mul_le_mul_of_nonneg_right (by cases sz <;> decide) (Int.natCast_nonneg n)
  exact ⟨⟨by omega, by omega⟩, dispOk_of_natAbs_le a hlen, dispOk_of_natAbs_le b hlen,
    dispOk_of_natAbs_le (by rw [Int.natAbs_neg]; exact a) hlen,
    dispOk_of_natAbs_le (by rw [Int.natAbs_neg]; exact b) hlen⟩

/-- **Limited mode, enough budget**, under `JitRange`: if the canonical run terminates, there is a bound `g` such
that with every budget `b ≥ g` (for which the range hypotheses hold) the function returns 1 resp. 0 with the
complete canonical event sequence. -/
theorem jit_limited_enough_of_range {prog : Prog} {blk : Ir.Block w} {env : Env}
    (A : BcAgrees prog (translate blk 11 false) env)
    {sz : Size} {safe : Bool} {cfg : X86Prog.Cfg} {buf0 rsp0 ra : BitVec 64} :
    let p := translate blk 11 false
    (∀ f (s : State w), Bf.run f prog env = .done s → ∃ g, ∀ b, g ≤ b →
      JitRange sz p true safe cfg buf0 rsp0 ra b env →
      ∃ n s', X86Prog.run cfg n (initState (w := w) cfg buf0 rsp0 ra p.minAcc p.maxAcc b env) = .ret s' ∧
        s'.regs.rax = 1 ∧ s'.trace = s.trace) ∧
    (∀ f (s : State w), Bf.run f prog env = .stopped s → ∃ g, ∀ b, g ≤ b →
      JitRange sz p true safe cfg buf0 rsp0 ra b env →
      ∃ n s', X86Prog.run cfg n (initState (w := w) cfg buf0 rsp0 ra p.minAcc p.maxAcc b env) = .ret s' ∧
        s'.regs.rax = 0 ∧ s'.trace = s.trace) := by
  intro p
  have E := jit_limited_enough_of_agrees A (safe := safe) (cfg := cfg) (code := jitCode p true safe cfg)
    (buf0 := buf0) (rsp0 := rsp0) (ra := ra)
  have ht := translate_ok blk 11 false
  exact ⟨fun f s hs => (E.1 f s hs).imp fun g hg b hgb R => hg b hgb (jitHyps_of_range ht R),
    fun f s hs => (E.2 f s hs).imp fun g hg b hgb R => hg b hgb (jitHyps_of_range ht R)⟩

section Level0
variable (hw : 0 < w) {src : List Kind} {prog : Prog} (hp : Bf.tree src = some prog)
  {blk : Ir.Block w} (hb : Ir.parse (w := w) src = .ok blk)
  {sz : Size} {safe : Bool} {cfg : X86Prog.Cfg} {buf0 rsp0 ra : BitVec 64} (env : Env)
include hw hp hb

theorem jit_level0_forward_unconditional
    (R : JitRange sz (translate blk 11 false) false safe cfg buf0 rsp0 ra 0 env) :
    let p := translate blk 11 false
    let s0 : PState w := initState cfg buf0 rsp0 ra p.minAcc p.maxAcc 0 env
    (∀ f (s : State w), Bf.run f prog env = .done s →
      ∃ n s', X86Prog.run cfg n s0 = .ret s' ∧ s'.regs.rax = 1 ∧ s'.trace = s.trace) ∧
    (∀ f (s : State w), Bf.run f prog env = .stopped s →
      ∃ n s', X86Prog.run cfg n s0 = .ret s' ∧ s'.regs.rax = 0 ∧ s'.trace = s.trace) :=
  jit_level0_forward hw hp hb (translate_ok blk 11 false) env (jitHyps_of_range (translate_ok blk 11 false) R)

theorem jit_level0_unique_unconditional
    (R : JitRange sz (translate blk 11 false) false safe cfg buf0 rsp0 ra 0 env) :
    let p := translate blk 11 false
    let s0 : PState w := initState cfg buf0 rsp0 ra p.minAcc p.maxAcc 0 env
    (∀ f (s : State w), Bf.run f prog env = .done s →
      ∀ n s', X86Prog.run cfg n s0 = .ret s' → s'.regs.rax = 1 ∧ s'.trace = s.trace) ∧
    (∀ f (s : State w), Bf.run f prog env = .stopped s →
      ∀ n s', X86Prog.run cfg n s0 = .ret s' → s'.regs.rax = 0 ∧ s'.trace = s.trace) :=
  jit_level0_unique hw hp hb (translate_ok blk 11 false) env (jitHyps_of_range (translate_ok blk 11 false) R)

theorem jit_level0_prefix_unconditional
    (R : JitRange sz (translate blk 11 false) false safe cfg buf0 rsp0 ra 0 env) :
    let p := translate blk 11 false
    let s0 : PState w := initState cfg buf0 rsp0 ra p.minAcc p.maxAcc 0 env
    ∀ f, ∃ n s', (steps cfg n s0 = some s' ∨ X86Prog.run cfg n s0 = .ret s') ∧
      s'.trace = C01.traceOfBf (Bf.run (w := w) f prog env) :=
  jit_level0_prefix hw hp hb (translate_ok blk 11 false) env (jitHyps_of_range (translate_ok blk 11 false) R)

theorem jit_level0_divergent_unconditional
    (R : JitRange sz (translate blk 11 false) false safe cfg buf0 rsp0 ra 0 env)
    (hdiv : C05.BfDiverges w prog env) :
    let p := translate blk 11 false
    let s0 : PState w := initState cfg buf0 rsp0 ra p.minAcc p.maxAcc 0 env
    ∀ f, ∃ n s', steps cfg n s0 = some s' ∧ s'.trace = C01.traceOfBf (Bf.run (w := w) f prog env) :=
  jit_level0_divergent hw hp hb (translate_ok blk 11 false) env
    (jitHyps_of_range (translate_ok blk 11 false) R) hdiv

theorem jit_level0_limited_unconditional {b : Nat}
    (R : JitRange sz (translate blk 11 false) true safe cfg buf0 rsp0 ra b env) :
    let p := translate blk 11 false
    let s0 : PState w := initState cfg buf0 rsp0 ra p.minAcc p.maxAcc b env
    ∃ n s', X86Prog.run cfg n s0 = .ret s' ∧
      (∀ n2 s2, X86Prog.run cfg n2 s0 = .ret s2 → s2 = s') ∧
      (s'.regs.rax = 1 ∨ s'.regs.rax = 0) ∧
      (s'.regs.rax = 1 → ∃ (f : Nat) (s : State w), Bf.run f prog env = .done s ∧ s.trace = s'.trace) ∧
      (∃ f, ∀ g, f ≤ g → s'.trace <:+ C01.traceOfBf (Bf.run (w := w) g prog env)) :=
  jit_level0_limited hw hp hb (translate_ok blk 11 false) env (jitHyps_of_range (translate_ok blk 11 false) R)

theorem jit_level0_limited_enough_unconditional :
    let p := translate blk 11 false
    (∀ f (s : State w), Bf.run f prog env = .done s → ∃ g, ∀ b, g ≤ b →
      JitRange sz p true safe cfg buf0 rsp0 ra b env →
      ∃ n s', X86Prog.run cfg n (initState (w := w) cfg buf0 rsp0 ra p.minAcc p.maxAcc b env) = .ret s' ∧
        s'.regs.rax = 1 ∧ s'.trace = s.trace) ∧
    (∀ f (s : State w), Bf.run f prog env = .stopped s → ∃ g, ∀ b, g ≤ b →
      JitRange sz p true safe cfg buf0 rsp0 ra b env →
      ∃ n s', X86Prog.run cfg n (initState (w := w) cfg buf0 rsp0 ra p.minAcc p.maxAcc b env) = .ret s' ∧
        s'.regs.rax = 0 ∧ s'.trace = s.trace) :=
  jit_limited_enough_of_range (bytecode_level0_unconditional hw hp hb 11 false env)

end Level0

/-- The result of a run that has finished: `(true, events)` – ran off the end of the program; `(false, events)`
– stopped at a failing I/O operation; `none` – not finished with that fuel (or, for the backends, interrupted /
an error outcome).  Events most recent first. -/
abbrev Fin := Option (Bool × List Ev)

def finBf : Bf.Outcome w → Fin
  | .done s => some (true, s.trace)
  | .stopped s => some (false, s.trace)
  | .outOfFuel _ => none

def finInplace : Inplace.Outcome w → Fin
  | .finished c => some (true, c.st.trace)
  | .stopped c => some (false, c.st.trace)
  | _ => none

def finIr : Ir.Outcome w → Fin
  | .done c => some (true, c.st.trace)
  | .stopped c => some (false, c.st.trace)
  | _ => none

def finBc : Bc.Outcome w → Fin
  | .done c => some (true, c.st.trace)
  | .stopped c => some (false, c.st.trace)
  | _ => none

/-- The compiled function has returned: `rax = 1` reads as "ran off the end". -/
def finX86 : X86Prog.Outcome w → Fin
  | .ret s => some (s.regs.rax == 1, s.trace)
  | _ => none

/-- Two machines (fuel ↦ result) have the same finished results: each terminates iff the other does, with the
same kind of ending and the same events. -/
def SameResults (A B : Nat → Fin) : Prop := ∀ r, (∃ f, A f = some r) ↔ (∃ f, B f = some r)

theorem finBf_some {o : Bf.Outcome w} {r : Bool × List Ev} (h : finBf o = some r) :
    (∃ s, o = .done s ∧ r = (true, s.trace)) ∨ (∃ s, o = .stopped s ∧ r = (false, s.trace)) := by
  cases o <;> simp only [finBf, Option.some.injEq] at h
  · exact Or.inl ⟨_, rfl, h.symm⟩
  · exact Or.inr ⟨_, rfl, h.symm⟩
  · cases h

theorem finBc_some {o : Bc.Outcome w} {r : Bool × List Ev} (h : finBc o = some r) :
    (∃ c, o = .done c ∧ r = (true, c.st.trace)) ∨ (∃ c, o = .stopped c ∧ r = (false, c.st.trace)) := by
  cases o <;> simp only [finBc, Option.some.injEq] at h
  · exact Or.inl ⟨_, rfl, h.symm⟩
  · exact Or.inr ⟨_, rfl, h.symm⟩
  all_goals cases h

theorem finIr_some {o : Ir.Outcome w} {r : Bool × List Ev} (h : finIr o = some r) :
    (∃ c, o = .done c ∧ r = (true, c.st.trace)) ∨ (∃ c, o = .stopped c ∧ r = (false, c.st.trace)) := by
  cases o <;> simp only [finIr, Option.some.injEq] at h
  · exact Or.inl ⟨_, rfl, h.symm⟩
  · exact Or.inr ⟨_, rfl, h.symm⟩
  all_goals cases h

theorem finInplace_some {o : Inplace.Outcome w} {r : Bool × List Ev} (h : finInplace o = some r) :
    (∃ c, o = .finished c ∧ r = (true, c.st.trace)) ∨ (∃ c, o = .stopped c ∧ r = (false, c.st.trace)) := by
  cases o <;> simp only [finInplace, Option.some.injEq] at h
  · exact Or.inl ⟨_, rfl, h.symm⟩
  · exact Or.inr ⟨_, rfl, h.symm⟩
  all_goals cases h

/-- canonical ≡ in-place interpreter (C04). -/
theorem same_inplace (code : Array Kind) {prog : Prog} (hp : Bf.tree code.toList = some prog) (env : Env) (b : Nat) :
    SameResults (fun f => finBf (Bf.run (w := w) f prog env))
      (fun f => finInplace (Inplace.run (w := w) code false b f env)) := by
  intro r
  constructor
  · rintro ⟨f, hf⟩
    rcases finBf_some hf with ⟨s, hs, rfl⟩ | ⟨s, hs, rfl⟩
    · obtain ⟨f', c, hc, hst⟩ := C04.inplace_forward code prog hp env b f s hs
      exact ⟨f', by simp only [hc, finInplace, hst]⟩
    · obtain ⟨f', c, hc, hst⟩ := C04.inplace_forward_stopped code prog hp env b f s hs
      exact ⟨f', by simp only [hc, finInplace, hst]⟩
  · rintro ⟨f', hf'⟩
    rcases finInplace_some hf' with ⟨c, hc, rfl⟩ | ⟨c, hc, rfl⟩
    · obtain ⟨f, hf⟩ := C04.inplace_backward code prog hp env b f' c hc
      exact ⟨f, by simp only [hf, finBf]⟩
    · obtain ⟨f, hf⟩ := C04.inplace_backward_stopped code prog hp env b f' c hc
      exact ⟨f, by simp only [hf, finBf]⟩

/-- Agreement in `SameResults` form. -/
theorem same_bc_of_agrees {prog : Prog} {p : Bc.Program w} {env : Env} (A : BcAgrees prog p env) :
    SameResults (fun f => finBf (Bf.run (w := w) f prog env)) (fun f => finBc (Bc.run p false 0 f env)) := by
  intro r
  constructor
  · rintro ⟨f, hf⟩
    rcases finBf_some hf with ⟨s, hs, rfl⟩ | ⟨s, hs, rfl⟩
    · obtain ⟨f', c, hc, htr⟩ := A.done hs
      exact ⟨f', by simp only [hc, finBc, htr]⟩
    · obtain ⟨f', c, hc, htr⟩ := A.stopped hs
      exact ⟨f', by simp only [hc, finBc, htr]⟩
  · rintro ⟨f', hf'⟩
    rcases finBc_some hf' with ⟨c, hc, rfl⟩ | ⟨c, hc, rfl⟩
    · obtain ⟨f, s, hs, htr⟩ := A.ofDone hc
      exact ⟨f, by simp only [hs, finBf, htr]⟩
    · obtain ⟨f, s, hs, htr⟩ := A.ofStopped hc
      exact ⟨f, by simp only [hs, finBf, htr]⟩

theorem same_ir_of_agrees {prog : Prog} {blk : Ir.Block w} {env : Env} (I : IrAgrees prog blk env) :
    SameResults (fun f => finBf (Bf.run (w := w) f prog env)) (fun f => finIr (Ir.run blk false 0 f env)) := by
  intro r
  constructor
  · rintro ⟨f, hf⟩
    rcases finBf_some hf with ⟨s, hs, rfl⟩ | ⟨s, hs, rfl⟩
    · obtain ⟨f', c, hc, htr⟩ := I.done hs
      exact ⟨f', by simp only [hc, finIr, htr]⟩
    · obtain ⟨f', c, hc, htr⟩ := I.stopped hs
      exact ⟨f', by simp only [hc, finIr, htr]⟩
  · rintro ⟨f', hf'⟩
    rcases finIr_some hf' with ⟨c, hc, rfl⟩ | ⟨c, hc, rfl⟩
    · obtain ⟨f, s, hs, htr⟩ := I.ofDone hc
      exact ⟨f, by simp only [hs, finBf, htr]⟩
    · obtain ⟨f, s, hs, htr⟩ := I.ofStopped hc
      exact ⟨f, by simp only [hs, finBf, htr]⟩

section
variable {prog : Prog} {p : Bc.Program w} {env : Env} (A : BcAgrees prog p env)
  {safe : Bool} {cfg : X86Prog.Cfg} {code : List X86} {buf0 rsp0 ra : BitVec 64}
include A

theorem jit_forward_fin_of_agrees (H : JitHyps p false safe cfg code buf0 rsp0 ra 0 env)
    (r : Bool × List Ev) (hr : ∃ f, finBf (Bf.run (w := w) f prog env) = some r) :
    ∃ n, finX86 (X86Prog.run cfg n (initState (w := w) cfg buf0 rsp0 ra p.minAcc p.maxAcc 0 env)) = some r := by
  have F := jit_forward_of_agrees A H
  obtain ⟨f, hf⟩ := hr
  rcases finBf_some hf with ⟨s, hs, rfl⟩ | ⟨s, hs, rfl⟩
  · obtain ⟨n, s', h1, h2, h3⟩ := F.1 f s hs
    refine ⟨n, ?_⟩
    rw [h1]
    simp only [finX86, h2, h3, beq_self_eq_true]
  · obtain ⟨n, s', h1, h2, h3⟩ := F.2 f s hs
    refine ⟨n, ?_⟩
    rw [h1]
    have : ((0 : BitVec 64) == 1) = false := by decide
    simp only [finX86, h2, h3, this]

theorem jit_limited_fin_of_agrees {b : Nat} (H : JitHyps p true safe cfg code buf0 rsp0 ra b env) :
    ∃ n r, finX86 (X86Prog.run cfg n (initState (w := w) cfg buf0 rsp0 ra p.minAcc p.maxAcc b env)) = some r ∧
      (r.1 = true → ∃ f, finBf (Bf.run (w := w) f prog env) = some r) ∧
      ∃ f, ∀ g, f ≤ g → r.2 <:+ C01.traceOfBf (Bf.run (w := w) g prog env) := by
  obtain ⟨n, s', h1, _, _, h4, h5⟩ := jit_limited_of_agrees A H
  refine ⟨n, (s'.regs.rax == 1, s'.trace), by rw [h1]; rfl, ?_, h5⟩
  intro hrax
  have hrax' : s'.regs.rax = 1 := by simpa using hrax
  obtain ⟨f, s, hs, htr⟩ := h4 hrax'
  exact ⟨f, by simp only [hs, finBf, htr, hrax', beq_self_eq_true]⟩

end

/-- The conclusion of the headline theorems: with `canon f` the result of the canonical run with fuel `f`
(`some (true, events)`: ran off the end; `some (false, events)`: stopped at a failing I/O operation; `none`:
still running), the in-place interpreter on the text, the IR interpreter on `b'`, and the bytecode interpreter
on `translate b' numRegs fuse` in both dispatch modes have exactly the canonical finished results; the machine
code for `translate b' 11 false` returns the canonical result whenever there is one (unlimited mode), and in
limited mode returns, with "finished" only for the canonical result and always an initial part of the canonical
events – both under `JitRange`.  `11` and `false` are what the JIT passes (`translate(&program, 11, false)`,
`/repo/src/exec/basejit/mod.rs:137`); `numRegs` and `fuse` are free for the interpreter, which is called with `(2, true)`
(`bcint/mod.rs:163`) and by the binary also with `(12, false)`. -/
def AllBackends (code : Array Kind) (prog : Prog) (b' : Ir.Block w) (numRegs : Nat) (fuse : Bool) (env : Env) :
    Prop :=
  let canon : Nat → Fin := fun f => finBf (Bf.run (w := w) f prog env)
  let p : Bc.Program w := translate b' numRegs fuse
  let pj : Bc.Program w := translate b' 11 false
  SameResults canon (fun f => finInplace (Inplace.run (w := w) code false 0 f env)) ∧
  SameResults canon (fun f => finIr (Ir.run b' false 0 f env)) ∧
  SameResults canon (fun f => finBc (Bc.run p false 0 f env)) ∧
  SameResults canon (fun f => finBc (C02.runDebug p false 0 f env)) ∧
  (∀ (sz : Asm.Size) (safe : Bool) (cfg : X86Prog.Cfg) (buf0 rsp0 ra : BitVec 64),
    JitRange sz pj false safe cfg buf0 rsp0 ra 0 env →
    ∀ r, (∃ f, canon f = some r) →
      ∃ n, finX86 (X86Prog.run cfg n (X86Prog.initState (w := w) cfg buf0 rsp0 ra pj.minAcc pj.maxAcc 0 env))
        = some r) ∧
  (∀ (sz : Asm.Size) (safe : Bool) (cfg : X86Prog.Cfg) (buf0 rsp0 ra : BitVec 64) (bd : Nat),
    JitRange sz pj true safe cfg buf0 rsp0 ra bd env →
    ∃ n r, finX86 (X86Prog.run cfg n (X86Prog.initState (w := w) cfg buf0 rsp0 ra pj.minAcc pj.maxAcc bd env))
        = some r ∧
      (r.1 = true → ∃ f, canon f = some r) ∧
      ∃ f, ∀ g, f ≤ g → r.2 <:+ C01.traceOfBf (Bf.run (w := w) g prog env))

/-- All backends from agreement of the IR block with the canonical semantics and justified `once` marks. -/
theorem allBackends_of_agrees {code : Array Kind} {prog : Prog} (hp : Bf.tree code.toList = some prog)
    {b' : Ir.Block w} {env : Env} (I : IrAgrees prog b' env) (ho : C02.OnceOk b' env) (numRegs : Nat)
    (fuse : Bool) : AllBackends code prog b' numRegs fuse env := by
  have A := bcAgrees_of_ir I ho numRegs fuse
  have Aj := bcAgrees_of_ir I ho 11 false
  refine ⟨same_inplace code hp env 0, same_ir_of_agrees I, same_bc_of_agrees A, ?_, ?_, ?_⟩
  · show SameResults _ (fun f => finBc (C02.runDebug (translate b' numRegs fuse) false 0 f env))
    simp only [C02.runDebug_eq_run]
    exact same_bc_of_agrees A
  · intro sz safe cfg buf0 rsp0 ra R r hr
    exact jit_forward_fin_of_agrees Aj (jitHyps_of_range (translate_ok b' 11 false) R) r hr
  · intro sz safe cfg buf0 rsp0 ra bd R
    exact jit_limited_fin_of_agrees Aj (jitHyps_of_range (translate_ok b' 11 false) R)

section All
variable (hw : 0 < w) (code : Array Kind) {prog : Prog} (hp : Bf.tree code.toList = some prog) (env : Env)
include hw hp

theorem same_ir :
    SameResults (fun f => finBf (Bf.run (w := w) f prog env))
      (fun f => finIr (Ir.run (irOf w code.toList) false 0 f env)) :=
  same_ir_of_agrees (irAgrees_level0 hw hp (parse_irOf hp) env)

theorem same_bc (numRegs : Nat) (fuse : Bool) :
    SameResults (fun f => finBf (Bf.run (w := w) f prog env))
      (fun f => finBc (Bc.run (translate (irOf w code.toList) numRegs fuse) false 0 f env)) :=
  same_bc_of_agrees (bytecode_level0_unconditional hw hp (parse_irOf hp) numRegs fuse env)

theorem same_bc_debug (numRegs : Nat) (fuse : Bool) :
    SameResults (fun f => finBf (Bf.run (w := w) f prog env))
      (fun f => finBc (C02.runDebug (translate (irOf w code.toList) numRegs fuse) false 0 f env)) := by
  simp only [C02.runDebug_eq_run]
  exact same_bc hw code hp env numRegs fuse

theorem jit_forward_fin {sz : Size} {safe : Bool} {cfg : X86Prog.Cfg} {buf0 rsp0 ra : BitVec 64}
    (R : JitRange sz (translate (irOf w code.toList) 11 false) false safe cfg buf0 rsp0 ra 0 env)
    (r : Bool × List Ev) (hr : ∃ f, finBf (Bf.run (w := w) f prog env) = some r) :
    ∃ n, finX86 (X86Prog.run cfg n (initState (w := w) cfg buf0 rsp0 ra
      (translate (irOf w code.toList) 11 false).minAcc (translate (irOf w code.toList) 11 false).maxAcc 0 env))
      = some r :=
  jit_forward_fin_of_agrees (bytecode_level0_unconditional hw hp (parse_irOf hp) 11 false env)
    (jitHyps_of_range (translate_ok _ 11 false) R) r hr

theorem jit_limited_fin {sz : Size} {safe : Bool} {cfg : X86Prog.Cfg} {buf0 rsp0 ra : BitVec 64} {b : Nat}
    (R : JitRange sz (translate (irOf w code.toList) 11 false) true safe cfg buf0 rsp0 ra b env) :
    ∃ n r, finX86 (X86Prog.run cfg n (initState (w := w) cfg buf0 rsp0 ra
        (translate (irOf w code.toList) 11 false).minAcc (translate (irOf w code.toList) 11 false).maxAcc b env))
        = some r ∧
      (r.1 = true → ∃ f, finBf (Bf.run (w := w) f prog env) = some r) ∧
      ∃ f, ∀ g, f ≤ g → r.2 <:+ C01.traceOfBf (Bf.run (w := w) g prog env) :=
  jit_limited_fin_of_agrees (bytecode_level0_unconditional hw hp (parse_irOf hp) 11 false env)
    (jitHyps_of_range (translate_ok _ 11 false) R)

end All

/-- **Level 0, all backends.**  For every balanced source text `code` (bracket tree `prog`), every cell width
`w ≥ 1` and every environment `env` (input replies incl. EOF and errors, absent source, absent or refusing sink):
the six conjuncts of `AllBackends` (told at its definition) for the parser's output, spelled out.

No hypothesis on the generator remains: it is total (`C02.translateE_total`), its output passes the contract
checker (`C02.translateE_check`) and is compiled by the JIT's selector (`C03.translate_compile_of_localOk`). -/
theorem level0_all_backends (hw : 0 < w) (code : Array Kind) (prog : Prog)
    (hp : Bf.tree code.toList = some prog) (numRegs : Nat) (fuse : Bool) (env : Env) :
    let canon : Nat → Fin := fun f => finBf (Bf.run (w := w) f prog env)
    let blk : Ir.Block w := irOf w code.toList
    let p : Bc.Program w := translate blk numRegs fuse
    let pj : Bc.Program w := translate blk 11 false
    SameResults canon (fun f => finInplace (Inplace.run (w := w) code false 0 f env)) ∧
    SameResults canon (fun f => finIr (Ir.run blk false 0 f env)) ∧
    SameResults canon (fun f => finBc (Bc.run p false 0 f env)) ∧
    SameResults canon (fun f => finBc (C02.runDebug p false 0 f env)) ∧
    (∀ (sz : Size) (safe : Bool) (cfg : X86Prog.Cfg) (buf0 rsp0 ra : BitVec 64),
      JitRange sz pj false safe cfg buf0 rsp0 ra 0 env →
      ∀ r, (∃ f, canon f = some r) →
        ∃ n, finX86 (X86Prog.run cfg n (initState (w := w) cfg buf0 rsp0 ra pj.minAcc pj.maxAcc 0 env)) = some r) ∧
    (∀ (sz : Size) (safe : Bool) (cfg : X86Prog.Cfg) (buf0 rsp0 ra : BitVec 64) (b : Nat),
      JitRange sz pj true safe cfg buf0 rsp0 ra b env →
      ∃ n r, finX86 (X86Prog.run cfg n (initState (w := w) cfg buf0 rsp0 ra pj.minAcc pj.maxAcc b env)) = some r ∧
        (r.1 = true → ∃ f, canon f = some r) ∧
        ∃ f, ∀ g, f ≤ g → r.2 <:+ C01.traceOfBf (Bf.run (w := w) g prog env)) := by
  intro canon blk p pj
  exact allBackends_of_agrees hp (irAgrees_level0 hw hp (parse_irOf hp) env) (parse_onceOk (parse_irOf hp) env)
    numRegs fuse

end Chain
end Hpbf
