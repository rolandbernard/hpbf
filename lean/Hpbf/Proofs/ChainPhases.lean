/-
Chain: the phases of `BcGen.translateE` composed.

* `emit_targetsOk`      – every branch of the code produced by the emission phase lands in `[0, n]`
                          (from two structural invariants of the emission: `FCore.backLe` for `brnz`,
                          `VG.fw` for `brz`);
* `translateE_phases`   – `translateE … = .ok p` splits into the four successful phases;
* `translate_behEqIO`   – the program after the emission phase (`emitOnly`) and the final program are
                          `BehEqIO`.  The strong `BehEq` is not available for either value of `fuse`:
                          `dead_store_elim` (always) and `zeroing_move_detection` (`fuse`) only give `BehEqIO`
                          (the tape after a run that STOPS at a failing I/O operation may differ).
-/
import Hpbf.Proofs.C02EmitRun
import Hpbf.Proofs.C02DseEmit
import Hpbf.Proofs.C02AllocEmitAll
import Hpbf.Proofs.C02Passes

namespace Hpbf
namespace Chain

open Bc BcWf BcGen C11 C02 C02Emit
open StateExcept (except_bind_ok)

variable {w : Nat}

theorem emit_brnz_target {prog : Ir.Block w} {fuse : Bool} {s : St w} (h : emitState prog fuse = .ok s)
    {j : Nat} {cnd off : Int} (hj : s.insts[j]? = some (.brnz cnd off)) :
    0 ≤ (j : Int) + off ∧ off ≤ 0 := by
  have hF : AEmit.FInv [((0 : Nat), (0 : Nat))] 0 s :=
    AEmit.closedI_emitState (AEmit.closedI_finv fuse) h _ AEmit.finv_init
  exact hF.core.backLe j cnd off hj

theorem emit_brz_target {prog : Ir.Block w} {fuse : Bool} {s : St w} (h : emitState prog fuse = .ok s)
    {j : Nat} {cnd off : Int} (hj : s.insts[j]? = some (.brz cnd off)) :
    0 < off ∧ (j : Int) + off ≤ s.insts.size := by
  have hV := (AEmit.vinv_of_emit h).vk.vg
  obtain ⟨q1, q2, _⟩ := hV.fw j cnd off hj
  exact ⟨q1, q2⟩

theorem emit_targetsOk {prog : Ir.Block w} {fuse : Bool} {s : St w} (h : emitState prog fuse = .ok s) :
    TargetsOk s.insts := by
  intro i ins off hi hoff
  have hlt : i < s.insts.size := (Array.getElem?_eq_some_iff.1 hi).1
  cases ins with
  | brz cnd o =>
    simp only [branchOff?, Option.some.injEq] at hoff
    subst hoff
    obtain ⟨q1, q2⟩ := emit_brz_target h hi
    exact ⟨by omega, q2⟩
  | brnz cnd o =>
    simp only [branchOff?, Option.some.injEq] at hoff
    subst hoff
    obtain ⟨q1, q2⟩ := emit_brnz_target h hi
    exact ⟨q1, by omega⟩
  | _ => simp [branchOff?] at hoff

theorem emit_live0 {prog : Ir.Block w} {fuse : Bool} {s : St w} (h : emitState prog fuse = .ok s) :
    s.live.size = 0 := (AEmit.allocPre_of_emitState h).live0

/-- The packaging step at the end of `translateE`. -/
def package (prog : Ir.Block w) (s : St w) : Bc.Program w :=
  { temps := countTemps s.insts, minAcc := (analyze prog).minAcc, maxAcc := (analyze prog).maxAcc,
    live := s.live, insts := s.insts }

theorem package_eq_progOf (prog : Ir.Block w) (s : St w) :
    package prog s = progOf s (countTemps s.insts) (analyze prog).minAcc (analyze prog).maxAcc := rfl

theorem translateE_chain (prog : Ir.Block w) (numRegs : Nat) (fuse : Bool) :
    translateE prog numRegs fuse = (do
      let s ← emitState prog fuse
      let s ← deadStoreElim s
      let s ← allocateTemps numRegs s
      let s ← latePasses fuse s
      pure (package prog s)) := by
  rw [BcGen.translateE_factors]
  unfold latePasses package
  cases fuse <;> simp only [bind_assoc, pure_bind, if_true, Bool.false_eq_true, if_false]

theorem translateE_phases {prog : Ir.Block w} {numRegs : Nat} {fuse : Bool} {p : Bc.Program w}
    (h : translateE prog numRegs fuse = .ok p) :
    ∃ s1 s2 s3 s4, emitState prog fuse = .ok s1 ∧ deadStoreElim s1 = .ok s2 ∧
      allocateTemps numRegs s2 = .ok s3 ∧ latePasses fuse s3 = .ok s4 ∧ p = package prog s4 := by
  rw [translateE_chain] at h
  obtain ⟨s1, h1, h⟩ := except_bind_ok h
  obtain ⟨s2, h2, h⟩ := except_bind_ok h
  obtain ⟨s3, h3, h⟩ := except_bind_ok h
  obtain ⟨s4, h4, h⟩ := except_bind_ok h
  cases h
  exact ⟨s1, s2, s3, s4, h1, h2, h3, h4, rfl⟩

/-- Once the emission succeeded, `dead_store_elim` and the late passes succeed on generator output, so the
translation succeeds whenever `allocate_temps` does (that it always does is `C02.allocateTemps_total_of_emit`). -/
theorem translateE_ok_of_alloc {prog : Ir.Block w} {numRegs : Nat} {fuse : Bool} {s1 : St w}
    (h1 : emitState prog fuse = .ok s1) :
    ∃ s2, deadStoreElim s1 = .ok s2 ∧
      ∀ s3, allocateTemps numRegs s2 = .ok s3 → ∃ p, translateE prog numRegs fuse = .ok p := by
  obtain ⟨s2, h2, _, _, _, hT, _⟩ := deadStoreElim_preserves_of_emit h1
  refine ⟨s2, h2, fun s3 h3 => ?_⟩
  have hpre := AEmit.allocPre_of_emit h1 h2
  have hlate := allocateTemps_latePre s2 s3 numRegs hpre (hT (emit_targetsOk h1)) h3
  obtain ⟨s4, h4, _⟩ := late_passes_preserve s3 hlate fuse
  refine ⟨package prog s4, ?_⟩
  rw [translateE_chain, h1]
  simp only [bind, Except.bind, h2, h3, h4, pure, Except.pure]

theorem passes_behEqIO {prog : Ir.Block w} {numRegs : Nat} {fuse : Bool} {s1 s2 s3 s4 : St w}
    (h1 : emitState prog fuse = .ok s1) (h2 : deadStoreElim s1 = .ok s2)
    (h3 : allocateTemps numRegs s2 = .ok s3) (h4 : latePasses fuse s3 = .ok s4) :
    LatePre s3 ∧ s4.live.size = s4.insts.size ∧ (∀ x ∈ s4.insts, isNoop x = false) ∧
    ∀ (t t' : Nat) (mn mx : Int), BehEqIO (progOf s1 t mn mx) (progOf s4 t' mn mx) := by
  obtain ⟨s2', h2', _, _, _, hT, hB12⟩ := deadStoreElim_preserves_of_emit h1
  rw [h2] at h2'; cases h2'
  have hpre := AEmit.allocPre_of_emit h1 h2
  have hT2 := hT (emit_targetsOk h1)
  have hlate := allocateTemps_latePre s2 s3 numRegs hpre hT2 h3
  obtain ⟨_, _, _, _, hB23⟩ := allocateTemps_preserves s2 s3 numRegs hpre h3
  obtain ⟨s4', h4', e1, e2, hB34, _⟩ := late_passes_preserve s3 hlate fuse
  rw [h4] at h4'; cases h4'
  exact ⟨hlate, e1, e2, fun t t' mn mx =>
    ((hB12 t mn mx).trans (hB23 t t' mn mx).io).trans (hB34 t' mn mx)⟩

/-- **Emission output vs. final program**: same behaviour up to the tape after an error ending. -/
theorem translate_behEqIO {prog : Ir.Block w} {numRegs : Nat} {fuse : Bool} {p : Bc.Program w}
    (h : translateE prog numRegs fuse = .ok p) :
    ∃ p0, emitOnly prog fuse = .ok p0 ∧ BehEqIO p0 p := by
  obtain ⟨s1, s2, s3, s4, h1, h2, h3, h4, rfl⟩ := translateE_phases h
  refine ⟨_, by unfold emitOnly; rw [h1], ?_⟩
  have hB := (passes_behEqIO h1 h2 h3 h4).2.2.2 s1.ranges.size (countTemps s4.insts)
    (analyze prog).minAcc (analyze prog).maxAcc
  refine BehEqIO.trans (behEq_of_insts_eq ?_).io hB
  rfl

theorem translate_shape {prog : Ir.Block w} {numRegs : Nat} {fuse : Bool} {p : Bc.Program w}
    (h : translateE prog numRegs fuse = .ok p) :
    p.live.size = p.insts.size ∧ (∀ x ∈ p.insts, isNoop x = false) ∧
    p.minAcc = (analyze prog).minAcc ∧ p.maxAcc = (analyze prog).maxAcc ∧ p.temps = countTemps p.insts := by
  obtain ⟨s1, s2, s3, s4, h1, h2, h3, h4, rfl⟩ := translateE_phases h
  obtain ⟨_, e1, e2, _⟩ := passes_behEqIO h1 h2 h3 h4
  exact ⟨e1, e2, rfl, rfl, rfl⟩

end Chain
end Hpbf
