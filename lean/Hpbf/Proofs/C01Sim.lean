/-
Generic part of the C01 level-0 proof: two deterministic step machines that emit events, a
simulation relation "up to chunks" (the first machine may take silent steps on its own, otherwise
both machines advance by at least one step to the next synchronisation point, or both terminate),
and its consequences: terminating runs are preserved and reflected, and whatever one machine has
emitted when its fuel runs out the other emits with suitable fuel (both directions).  The consequences are
instances of `FuelRun.sim` for `runC` (the run that keeps the configuration where the fuel ends), once with
each machine driving, for the relation `Match` between results.
-/
import Hpbf.Proofs.FuelSim

namespace Hpbf
namespace Sim

inductive Res (C : Type) where
  | next (c : C)
  | fin (ok : Bool) (t : List Ev)     -- `ok = true`: ran off the end; `false`: stopped at failing I/O

/-- `tr`: the events so far, most recent first. -/
structure Mach where
  C : Type
  step : C → Res C
  tr : C → List Ev

inductive Out where
  | fin (ok : Bool) (t : List Ev)
  | fuel (t : List Ev)
  deriving DecidableEq

def Out.trace : Out → List Ev
  | .fin _ t => t
  | .fuel t => t

def run (M : Mach) : Nat → M.C → Out
  | 0, c => .fuel (M.tr c)
  | f + 1, c =>
    match M.step c with
    | .next c' => run M f c'
    | .fin ok t => .fin ok t

inductive Steps (M : Mach) : Nat → M.C → M.C → Prop
  | refl (c : M.C) : Steps M 0 c c
  | cons {n : Nat} {c c' c'' : M.C} : M.step c = .next c' → Steps M n c' c'' → Steps M (n + 1) c c''

def Term (M : Mach) (n : Nat) (c : M.C) (ok : Bool) (t : List Ev) : Prop :=
  ∃ c', Steps M n c c' ∧ M.step c' = .fin ok t

structure Mono (M : Mach) : Prop where
  next : ∀ {c c'}, M.step c = .next c' → M.tr c <:+ M.tr c'
  fin : ∀ {c ok t}, M.step c = .fin ok t → M.tr c <:+ t

variable {M : Mach}

theorem Steps.trans {m n : Nat} {a b c : M.C} (h1 : Steps M m a b) (h2 : Steps M n b c) :
    Steps M (m + n) a c := by
  induction h1 with
  | refl _ => simpa using h2
  | @cons k x y z hs _ ih =>
    have := Steps.cons hs (ih h2)
    have e : k + 1 + n = k + n + 1 := by omega
    rw [e]; exact this

theorem Steps.one {a b : M.C} (h : M.step a = .next b) : Steps M 1 a b :=
  Steps.cons h (Steps.refl _)

theorem Steps.snoc {n : Nat} {a b c : M.C} (h1 : Steps M n a b) (h2 : M.step b = .next c) :
    Steps M (n + 1) a c := h1.trans (Steps.one h2)

theorem Steps.mono (hM : Mono M) {n : Nat} {a b : M.C} (h : Steps M n a b) : M.tr a <:+ M.tr b := by
  induction h with
  | refl _ => exact List.suffix_refl _
  | cons hs _ ih => exact (hM.next hs).trans ih

theorem Term.mono (hM : Mono M) {n : Nat} {a : M.C} {ok : Bool} {t : List Ev}
    (h : Term M n a ok t) : M.tr a <:+ t := by
  obtain ⟨c', hs, hf⟩ := h
  exact (hs.mono hM).trans (hM.fin hf)

theorem Term.prepend {m n : Nat} {a b : M.C} {ok : Bool} {t : List Ev}
    (h1 : Steps M m a b) (h2 : Term M n b ok t) : Term M (m + n) a ok t := by
  obtain ⟨c', hs, hf⟩ := h2
  exact ⟨c', h1.trans hs, hf⟩

theorem sandwich {s t' t : List Ev} (h1 : s <:+ t') (h2 : t' <:+ t) (hl : t.length ≤ s.length + 1) :
    t' = s ∨ t' = t := by
  have l1 := h1.length_le
  have l2 := h2.length_le
  by_cases h : t'.length = s.length
  · left; exact (h1.eq_of_length h.symm).symm
  · right; exact h2.eq_of_length (by omega)

def runC (M : Mach) : Nat → M.C → Res M.C
  | 0, c => .next c
  | f + 1, c =>
    match M.step c with
    | .next c' => runC M f c'
    | .fin ok t => .fin ok t

def Res.out (M : Mach) : Res M.C → Out
  | .next c => .fuel (M.tr c)
  | .fin ok t => .fin ok t

variable {N : Mach}

theorem run_eq (M : Mach) (f : Nat) (c : M.C) : run M f c = (runC M f c).out M := by
  induction f generalizing c with
  | zero => rfl
  | succ f ih =>
    rw [run, runC]
    cases M.step c with
    | next c' => exact ih c'
    | fin ok t => rfl

theorem fuelRun (M : Mach) : FuelRun (fun c c' => M.step c = .next c') .next (runC M) where
  zero _ := rfl
  next h f := by simp only [runC, h]
  final c := by
    cases h : M.step c with
    | next c' => exact .inl ⟨c', rfl⟩
    | fin ok t => exact .inr ⟨.fin ok t, fun f => by simp only [runC, h], fun _ e => by cases e⟩
  inj h := Res.next.inj h

theorem Steps.runC {n : Nat} {a a' : M.C} (h : Steps M n a a') : runC M n a = .next a' := by
  induction h with
  | refl _ => rfl
  | cons hs _ ih => rw [(fuelRun M).next hs]; exact ih

theorem Term.runC {n : Nat} {a : M.C} {ok : Bool} {t : List Ev} (h : Term M n a ok t) :
    Sim.runC M (n + 1) a = .fin ok t := by
  obtain ⟨c, hs, hf⟩ := h
  rw [(fuelRun M).split hs.runC 1]; simp only [Sim.runC, hf]

theorem Steps.cut {m : Nat} {a a' : M.C} (h : Steps M m a a') :
    ∀ k, k ≤ m → ∃ c, Steps M k a c ∧ Steps M (m - k) c a' := by
  induction h with
  | refl c => intro k hk; obtain rfl : k = 0 := by omega
              exact ⟨c, .refl c, .refl c⟩
  | @cons n x y z hs hr ih =>
    intro k hk
    cases k with
    | zero => exact ⟨x, .refl x, .cons hs hr⟩
    | succ k =>
      obtain ⟨c, h1, h2⟩ := ih k (by omega)
      exact ⟨c, .cons hs h1, by rwa [Nat.add_sub_add_right]⟩

/-- How a run of `M` is answered by one of `N`: a finished run by a finished run with the same result, and
in any case with the same events. -/
def Match (M N : Mach) (o : Res M.C) (o' : Res N.C) : Prop :=
  (∀ ok t, o = .fin ok t → o' = .fin ok t) ∧ (o'.out N).trace = (o.out M).trace

theorem Match.next {c : M.C} {c' : N.C} (e : M.tr c = N.tr c') : Match M N (.next c) (.next c') :=
  ⟨(fun _ _ e => by cases e), e.symm⟩

theorem Match.refl_fin (ok : Bool) (t : List Ev) : Match M N (.fin ok t) (.fin ok t) :=
  ⟨fun _ _ e => by cases e; rfl, rfl⟩

/-- A run cut short inside a pair of chunks that emits at most one event shows the events of one of the two
ends, where the other machine answers. -/
theorem mid_steps (hM : Mono M) {m n : Nat} {a a' : M.C} {b b' : N.C} (hA : Steps M m a a')
    (hB : Steps N n b b') (e : M.tr a = N.tr b) (e' : M.tr a' = N.tr b')
    (hl : (M.tr a').length ≤ (M.tr a).length + 1) {k : Nat} (hk : k ≤ m) :
    ∃ j, Match M N (runC M k a) (runC N j b) := by
  obtain ⟨c, h1, h2⟩ := hA.cut k hk
  rw [h1.runC]
  rcases sandwich (h1.mono hM) (h2.mono hM) hl with h | h
  · exact ⟨0, .next (h.trans e)⟩
  · exact ⟨n, by rw [hB.runC]; exact .next (h.trans e')⟩

theorem mid_term (hM : Mono M) {m n : Nat} {a : M.C} {b : N.C} {ok : Bool} {t : List Ev}
    (hA : Term M m a ok t) (hB : Term N n b ok t) (e : M.tr a = N.tr b)
    (hl : t.length ≤ (M.tr a).length + 1) {k : Nat} (hk : k ≤ m) :
    ∃ j, Match M N (runC M k a) (runC N j b) := by
  obtain ⟨a', hs, hf⟩ := hA
  obtain ⟨c, h1, h2⟩ := hs.cut k hk
  rw [h1.runC]
  rcases sandwich (h1.mono hM) ((h2.mono hM).trans (hM.fin hf)) hl with h | h
  · exact ⟨0, .next (h.trans e)⟩
  · exact ⟨n + 1, by rw [hB.runC]; exact ⟨(fun _ _ e => by cases e), h.symm⟩⟩

/-- `μ` decreases on the steps `A` takes alone, so `A` cannot go on silently for ever while `B` waits.  The `+ 1`
bounds say that a chunk emits at most one event: a run cut off inside the chunk then shows the trace of one of its
two ends (`sandwich`), which the other machine shows at the corresponding end of its own chunk (`mid_steps`,
`mid_term`). -/
inductive Chunk (A B : Mach) (R : A.C → B.C → Prop) (μ : A.C → Nat) (a : A.C) (b : B.C) : Prop
  | silent (a' : A.C) : A.step a = .next a' → R a' b → μ a' < μ a → A.tr a' = A.tr a →
      Chunk A B R μ a b
  | sync (m n : Nat) (a' : A.C) (b' : B.C) : Steps A (m + 1) a a' → Steps B (n + 1) b b' → R a' b' →
      (A.tr a').length ≤ (A.tr a).length + 1 → Chunk A B R μ a b
  | fin (m n : Nat) (ok : Bool) (t : List Ev) : Term A m a ok t → Term B n b ok t →
      t.length ≤ (A.tr a).length + 1 → Chunk A B R μ a b

structure Simulation (A B : Mach) (R : A.C → B.C → Prop) (μ : A.C → Nat) : Prop where
  monoA : Mono A
  monoB : Mono B
  tr_eq : ∀ {a b}, R a b → A.tr a = B.tr b
  chunk : ∀ {a b}, R a b → Chunk A B R μ a b

variable {A B : Mach} {R : A.C → B.C → Prop} {μ : A.C → Nat}

theorem Simulation.chunkAB (S : Simulation A B R μ) (f : Nat) {a : A.C} {b : B.C} (h : R a b) :
    FuelRun.Chunk (runC A) .next (runC B) .next (fun _ => R) (Match A B) (fun a _ => μ a) f a b := by
  cases S.chunk h with
  | silent a' hs hR' _ _ =>
    refine .sync 1 0 a' b ((fuelRun A).one hs) rfl (fun _ => hR') nofun fun hk => ⟨0, ?_⟩
    obtain rfl : f = 0 := by omega
    exact .next (S.tr_eq h)
  | sync m n a' b' hA hB hR' hl =>
    exact .sync _ _ a' b' hA.runC hB.runC (fun _ => hR') nofun
      fun hk => mid_steps S.monoA hA hB (S.tr_eq h) (S.tr_eq hR') hl (Nat.le_of_lt hk)
  | fin m n ok t hA hB hl =>
    exact .ends (fuelRun A) hA.runC nofun hB.runC (Match.refl_fin ok t)
      fun hk => mid_term S.monoA hA hB (S.tr_eq h) hl hk

/-- With `B` driving, a silent step of `A` is a chunk in which `B` does not move: this is where `μ` is needed. -/
theorem Simulation.chunkBA (S : Simulation A B R μ) (f : Nat) {a : A.C} {b : B.C} (h : R a b) :
    FuelRun.Chunk (runC B) .next (runC A) .next (fun _ b a => R a b) (Match B A) (fun _ a => μ a) f b a := by
  cases S.chunk h with
  | silent a' hs hR' hμ _ => exact .sync 0 1 b a' rfl ((fuelRun A).one hs) (fun _ => hR') (fun _ => hμ) nofun
  | sync m n a' b' hA hB hR' hl =>
    rw [S.tr_eq h, S.tr_eq hR'] at hl
    exact .sync _ _ b' a' hB.runC hA.runC (fun _ => hR') nofun
      fun hk => mid_steps S.monoB hB hA (S.tr_eq h).symm (S.tr_eq hR').symm hl (Nat.le_of_lt hk)
  | fin m n ok t hA hB hl =>
    rw [S.tr_eq h] at hl
    exact .ends (fuelRun B) hB.runC nofun hA.runC (Match.refl_fin ok t)
      fun hk => mid_term S.monoB hB hA (S.tr_eq h).symm hl hk

theorem Simulation.matchAB (S : Simulation A B R μ) :
    ∀ f a b, R a b → ∃ f', Match A B (runC A f a) (runC B f' b) :=
  (fuelRun A).sim (fuelRun B) (R := fun _ => R) fun f _ _ h => S.chunkAB f h

theorem Simulation.matchBA (S : Simulation A B R μ) :
    ∀ f' b a, R a b → ∃ f, Match B A (runC B f' b) (runC A f a) :=
  (fuelRun B).sim (fuelRun A) (R := fun _ b a => R a b) fun f _ _ h => S.chunkBA f h

theorem Match.fin {o : Res M.C} {o' : Res N.C} (h : Match M N o o') {ok : Bool} {t : List Ev}
    (e : o.out M = .fin ok t) : o'.out N = .fin ok t := by
  cases o with
  | next c => cases e
  | fin ok' t' => cases e; rw [h.1 _ _ rfl]; rfl

theorem Simulation.forward (S : Simulation A B R μ) :
    ∀ f a b, R a b → ∀ ok t, run A f a = .fin ok t → ∃ f', run B f' b = .fin ok t := by
  intro f a b h ok t hr
  obtain ⟨f', hm⟩ := S.matchAB f a b h
  exact ⟨f', by rw [run_eq] at hr ⊢; exact hm.fin hr⟩

/-- The measure (`k`, `μ a = k`) plays no part in this direction: `matchBA` needs none. -/
theorem Simulation.backward (S : Simulation A B R μ) :
    ∀ f' k a b, μ a = k → R a b → ∀ ok t, run B f' b = .fin ok t → ∃ f, run A f a = .fin ok t := by
  intro f' _ a b _ h ok t hr
  obtain ⟨f, hm⟩ := S.matchBA f' b a h
  exact ⟨f, by rw [run_eq] at hr ⊢; exact hm.fin hr⟩

theorem Simulation.prefixAB (S : Simulation A B R μ) :
    ∀ f a b, R a b → ∃ f', (run B f' b).trace = (run A f a).trace := by
  intro f a b h
  obtain ⟨f', hm⟩ := S.matchAB f a b h
  exact ⟨f', by rw [run_eq, run_eq]; exact hm.2⟩

theorem Simulation.prefixBA (S : Simulation A B R μ) :
    ∀ f' a b, R a b → ∃ f, (run A f a).trace = (run B f' b).trace := by
  intro f' a b h
  obtain ⟨f, hm⟩ := S.matchBA f' b a h
  exact ⟨f, by rw [run_eq, run_eq]; exact hm.2⟩

end Sim
end Hpbf
