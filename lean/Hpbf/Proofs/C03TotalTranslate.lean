/-
C03 / C13 (the JIT's instruction selector is total on generator output): `parameter_reordering` maps
every shape to a form with a selector arm (`reorderInst_jitForm`), `strip_noops` keeps the forms, and hence
every instruction of a program translated WITHOUT fusion (the JIT's setting) has a selector arm, every live
bitmap is below `liveBound numRegs` (`2^numRegs` up to 16 registers), and every branch stays inside the program
(`translate_jitForm'`).
-/
import Hpbf.Proofs.C03TotalShape
import Hpbf.Proofs.C11AllocStrip
import Hpbf.Proofs.ChainPhases
namespace Hpbf
namespace C03
open Bc BcWf BcGen C11 C02 C02Emit C02.AEmit C02.Alloc Chain
variable {w : Nat}

/-- `shape` admits everything the emission phase produces without fusion. -/
theorem emitClosed_shape : EmitClosed false (fun _ => True) (fun x : Instr w => shape x = true) where
  tail := id
  noop := rfl
  out := fun _ => rfl
  inp := fun _ => rfl
  expr := fun _ => ExprClosed.allQ ⟨fun _ _ => rfl, fun _ _ => rfl, fun _ _ _ => rfl, fun _ _ _ => rfl,
    fun _ _ _ => rfl, fun _ _ => rfl⟩
  scan := fun h => Bool.noConfusion h
  loop := fun _ => ⟨rfl, fun _ => rfl, fun _ => rfl, trivial⟩
  ifnz := fun _ => ⟨rfl, fun _ => rfl, trivial⟩

/-- The last step of `reorderComm`. -/
theorem commForm_swap (d x y : Loc w) (h1 : commForm d x y = true)
    (h2 : d = y → commForm d y x = true) :
    commForm d (if d = y then (y, x) else (x, y)).1 (if d = y then (y, x) else (x, y)).2 = true := by
  by_cases e : d = y
  · simp only [e, if_true]; rw [← e]; exact e ▸ h2 e
  · simp only [e, if_false]; exact h1

/-- The order the first two steps of `reorderComm` establish: cells, then temporaries, then an immediate. -/
def ordered : Loc w → Loc w → Bool
  | .mem _, y => isMTI y
  | .tmp _, .tmp _ | .tmp _, .imm _ => true
  | _, _ => false

theorem reorderComm_ordered {a b : Loc w} (ha : isMTI a = true) (hb : isMTI b = true)
    (hn : ¬ (isImm a = true ∧ isImm b = true)) (d : Loc w) :
    ∃ x y, ordered x y = true ∧ reorderComm d a b = if d = y then (y, x) else (x, y) := by
  cases a with
  | memZero => cases ha
  | mem m =>
    cases b with
    | memZero => cases hb
    | mem m' => exact ⟨.mem m, .mem m', rfl, rfl⟩
    | tmp t => exact ⟨.mem m, .tmp t, rfl, rfl⟩
    | imm c => exact ⟨.mem m, .imm c, rfl, rfl⟩
  | tmp t =>
    cases b with
    | memZero => cases hb
    | mem m => exact ⟨.mem m, .tmp t, rfl, rfl⟩
    | tmp t' =>
      by_cases hlt : t' < t
      · exact ⟨.tmp t', .tmp t, rfl, by simp only [reorderComm, hlt, if_true]; rfl⟩
      · exact ⟨.tmp t, .tmp t', rfl, by simp only [reorderComm, hlt, if_false]; rfl⟩
    | imm c => exact ⟨.tmp t, .imm c, rfl, rfl⟩
  | imm c =>
    cases b with
    | memZero => cases hb
    | mem m => exact ⟨.mem m, .imm c, rfl, rfl⟩
    | tmp t => exact ⟨.tmp t, .imm c, rfl, rfl⟩
    | imm c' => exact absurd ⟨rfl, rfl⟩ hn

theorem commForm_of_ordered {d x y : Loc w} (hd : isMT d = true) (h : ordered x y = true) :
    commForm d x y = true := by
  cases d with
  | mem | tmp =>
    cases x with
    | mem => exact h
    | tmp => cases y with
      | tmp | imm => rfl
      | _ => cases h
    | _ => cases h
  | _ => cases hd

/-- The selector also has the two-operand forms `d = d ∘ x`, for which the last step gives up the order. -/
theorem commForm_self {d x : Loc w} (hd : isMT d = true) (h : ordered x d = true) : commForm d d x = true := by
  cases d with
  | mem => cases x with
    | mem => rfl
    | _ => cases h
  | tmp t => cases x with
    | mem => exact beq_self_eq_true t
    | tmp => rfl
    | _ => cases h
  | _ => cases hd

theorem commForm_reorderComm (d a b : Loc w) (hd : isMT d = true) (ha : isMTI a = true) (hb : isMTI b = true)
    (hn : ¬ (isImm a = true ∧ isImm b = true)) :
    commForm d (reorderComm d a b).1 (reorderComm d a b).2 = true := by
  obtain ⟨x, y, ho, e⟩ := reorderComm_ordered ha hb hn d
  rw [e]
  exact commForm_swap d x y (commForm_of_ordered hd ho) (fun e => e ▸ commForm_self hd (e ▸ ho))

theorem reorderInst_sub_imm (d a : Loc w) (c : BitVec w) :
    reorderInst (.sub d a (.imm c)) = reorderInst (.add d a (.imm (-c))) := by
  cases a <;> rfl

theorem reorderInst_sub (d a b : Loc w) (hb : isMT b = true) : reorderInst (.sub d a b) = .sub d a b := by
  cases b with
  | mem | tmp => cases a <;> rfl
  | _ => cases hb

theorem eq_imm_of_isImm {a : Loc w} (h : isImm a = true) : ∃ c, a = .imm c := by
  cases a with
  | imm c => exact ⟨c, rfl⟩
  | _ => cases h

/-- `add` and `mul`, the two commutative operations, are reordered alike. -/
theorem reorderInst_comm_jitForm {mk : Loc w → Loc w → Loc w → Instr w} (hmk : mk = .add ∨ mk = .mul)
    {d a b : Loc w} (hd : isMT d = true) (ha : isMTI a = true) (hb : isMTI b = true) :
    JitForm (reorderInst (mk d a b)) = true := by
  by_cases hi : isImm a = true ∧ isImm b = true
  · -- two immediates are folded into a `copy`
    obtain ⟨⟨ca, rfl⟩, cb, rfl⟩ := And.intro (eq_imm_of_isImm hi.1) (eq_imm_of_isImm hi.2)
    rcases hmk with rfl | rfl <;> exact (Bool.and_true _).trans hd
  · have e : reorderInst (mk d a b) = mk d (reorderComm d a b).1 (reorderComm d a b).2 := by
      rcases hmk with rfl | rfl <;> cases a <;> cases b <;> first | rfl | exact absurd ⟨rfl, rfl⟩ hi
    rw [e]
    rcases hmk with rfl | rfl <;> exact commForm_reorderComm d a b hd ha hb hi

theorem reorderInst_jitForm {x : Instr w} (h : shape x = true) : JitForm (reorderInst x) = true := by
  cases x with
  | noop | mov | inp | out | brz | brnz => rfl
  | scan => cases h
  | copy => exact h
  | add d a b =>
    simp only [shape, Bool.and_eq_true] at h
    exact reorderInst_comm_jitForm (.inl rfl) h.1.1 h.1.2 h.2
  | mul d a b =>
    simp only [shape, Bool.and_eq_true] at h
    exact reorderInst_comm_jitForm (.inr rfl) h.1.1 h.1.2 h.2
  | sub d a b =>
    simp only [shape, Bool.and_eq_true] at h
    obtain ⟨⟨hd, ha⟩, hb⟩ := h
    cases b with
    | imm c =>
      -- subtracting an immediate is adding its negation
      rw [reorderInst_sub_imm]
      exact reorderInst_comm_jitForm (.inl rfl) hd ha rfl
    | memZero => cases hb
    | mem | tmp =>
      rw [reorderInst_sub d a _ rfl]
      show (isMT d && isMTI a && true) = true
      rw [hd, ha]; rfl

theorem fixInst_jitForm (B : Array (Instr w)) (i : Nat) (x : Instr w) : JitForm (fixInst B i x) = JitForm x := by
  cases x <;> rfl

theorem stripNoops_live_mem {s s' : St w} (h : stripNoops s = .ok s') : ∀ l ∈ s'.live.toList, l ∈ s.live.toList := by
  unfold stripNoops at h
  split at h
  · cases h
  · split at h
    · cases h
    · simp only [Except.ok.injEq] at h
      subst h
      intro l hl
      simp only [List.mem_map, List.mem_filter] at hl
      obtain ⟨p, ⟨hp, _⟩, rfl⟩ := hl
      exact (List.of_mem_zip hp).1

theorem translate_jitForm' {blk : Ir.Block w} {numRegs : Nat} {p : Program w}
    (h : translateE blk numRegs false = .ok p) :
    (∀ (i : Nat) (ins : Instr w), p.insts[i]? = some ins → JitForm ins = true) ∧
    (∀ (j l : Nat), p.live[j]? = some l → l < liveBound numRegs) ∧
    C02.TargetsOk p.insts := by
  obtain ⟨s1, s2, s3, s4, h1, h2, h3, h4, rfl⟩ := translateE_phases h
  obtain ⟨hlate, _, _, _⟩ := passes_behEqIO h1 h2 h3 h4
  have hS1 : AllS s1.insts := emit_allQ emitClosed_shape h1 trivial
  have hD := C02.Alloc.deadStoreElim_dseLike h2
  have hS2 : AllS s2.insts := allQ_dseLike (Q := fun x => shape x = true) rfl hD hS1
  have hl2 : s2.live.size = 0 := by rw [hD.live]; exact emit_live0 h1
  obtain ⟨hS3, hL3⟩ := allocateTemps_shape h3 hS2 hl2
  obtain ⟨s3', e, _, hlv, hT, _, hs3, _⟩ := latePasses_stages hlate false
  obtain rfl := hs3 rfl
  have h4' : stripNoops (parameterReordering s3) = .ok s4 := e ▸ h4
  have R := C02.Alloc.stripNoops_rel _ _ hlv hT h4' 0 0 0 0 0 0
  refine ⟨?_, ?_, (C02.Local.targetsOk_strip R :)⟩
  · exact R.stripped.all (Q := fun x => JitForm x = true) (fun A i x h => (fixInst_jitForm A i x).trans h)
      (allQ_parameterReordering (fun x => reorderInst_jitForm) hS3)
  · intro j l hj
    have hm : l ∈ s4.live.toList := by
      have hj' : s4.live[j]? = some l := hj
      have : s4.live.toList[j]? = some l := by simpa using hj'
      exact List.mem_of_getElem? this
    have := stripNoops_live_mem h4' l hm
    rw [parameterReordering_live] at this
    obtain ⟨j', hj'⟩ := List.getElem?_of_mem this
    exact hL3 j' l (by simpa using hj')

end C03
end Hpbf
