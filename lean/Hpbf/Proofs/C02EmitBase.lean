/-
C02, first phase of the bytecode generator (`emit_block` with global value numbering): the generator run cut
before `dead_store_elim` (`emitState`, `emitOnly`), and `G` / `core`, the part of the generator state that decides
the semantics of the emitted code (instructions, value-numbering table, numbered expressions, number of value
numbers); `read`, `rangeExtend`, `outerLoop` only touch the live ranges and leave it unchanged. `rangeExtend` and
`read` succeed iff the index test does, with the explicit state `useSt` (`rangeExtend_ok`, `read_ok`);
`translateE_factors`; the facts about `alGet` / `alSet` / `alErase` used by every C02 group.
-/
import Hpbf.BcGen
import Hpbf.Proofs.StateExcept

namespace Hpbf
namespace BcGen

variable {w : Nat}

/-- The generator state after `emit_block` on the whole program, before `dead_store_elim`. -/
def emitState (prog : Ir.Block w) (fuse : Bool) : Except String (St w) :=
  match (emitInsts fuse 0 prog.insts (analyze prog).subAnal).run ({} : St w) with
  | .ok (_, s) => .ok s
  | .error e => .error e

/-- The first phase packaged as a program: temporaries are the value numbers. -/
def emitOnly (prog : Ir.Block w) (fuse : Bool) : Except String (Bc.Program w) :=
  match emitState prog fuse with
  | .ok s =>
    .ok { temps := s.ranges.size, minAcc := (analyze prog).minAcc, maxAcc := (analyze prog).maxAcc,
          live := #[], insts := s.insts }
  | .error e => .error e

theorem translateE_factors (prog : Ir.Block w) (numRegs : Nat) (fuse : Bool) :
    translateE prog numRegs fuse = (do
      let s ← emitState prog fuse
      let s ← deadStoreElim s
      let s ← allocateTemps numRegs s
      let s := parameterReordering s
      let s ← if fuse then (do let s ← recordBranchTargets s; zeroingMoveDetection s) else pure s
      let s ← stripNoops s
      pure { temps := countTemps s.insts, minAcc := (analyze prog).minAcc,
             maxAcc := (analyze prog).maxAcc, live := s.live, insts := s.insts }) := by
  unfold translateE emitState
  dsimp only
  generalize (emitInsts fuse 0 prog.insts (analyze prog).subAnal).run ({} : St w) = r
  cases r with
  | error e => rfl
  | ok p => obtain ⟨u, s⟩ := p; rfl

theorem emitOnly_insts {prog : Ir.Block w} {fuse : Bool} {p : Bc.Program w}
    (h : emitOnly prog fuse = .ok p) : ∃ s, emitState prog fuse = .ok s ∧ p.insts = s.insts := by
  unfold emitOnly at h
  cases hs : emitState prog fuse with
  | error e => rw [hs] at h; cases h
  | ok s => rw [hs] at h; cases h; exact ⟨s, rfl, rfl⟩

end BcGen

/-! `bump` and `opsOf` are the vocabulary of the explicit states below; they keep the names under which the statements
about register allocation of emitted code (`C02AllocEmit*`) use them. -/
namespace C02
namespace AEmit
variable {w : Nat}

/-- The range entry after a use at position `to` (`inc` = 1 for a counted read). -/
def bump (r : BcGen.RangeInfo) (to inc : Nat) : BcGen.RangeInfo :=
  { created := r.created, firstUse := (if r.firstUse.isNone then some to else r.firstUse),
    lastUse := some to, numUses := r.numUses + inc }

/-- The value numbers `get_value` reads when the expression is new. -/
def opsOf : BcGen.GvnExpr w → List Nat
  | .add a b => [a, b]
  | .sub a b => [a, b]
  | .mul a b => [a, b]
  | _ => []

end AEmit
end C02

namespace C02Emit
open BcGen

variable {w : Nat}

export StateExcept (bind_ok pure_ok modify_ok throw_ok get_bind set_bind modify_bind pure_bind' ite_run)

theorem get_ok (a s s' : St w) : (get : M w (St w)) s = .ok (a, s') ↔ a = s ∧ s' = s := StateExcept.get_ok a s s'

theorem set_ok (x s s' : St w) (u : Unit) : (set x : M w Unit) s = .ok (u, s') ↔ s' = x :=
  StateExcept.set_ok x s s' u

theorem throw_run {α : Type} (e : String) (s : St w) : (throw e : M w α) s = .error e := rfl

theorem pushInst_bind {β : Type} (i : Bc.Instr w) (f : Unit → M w β) (s : St w) :
    (pushInst i >>= f) s = f () { s with insts := s.insts.push i } := by cases s; rfl

/-- The elaborator turns `if c then m; k` into `if c then m >>= k else k`; this puts the optional step
back in sequence, so that a `do` block with several of them is unfolded without a case split each. -/
theorem ite_seq {β : Type} (c : Prop) [Decidable c] (m : M w Unit) (k : M w β) :
    (if c then (m >>= fun _ => k) else k) = ((if c then m else pure ()) >>= fun _ => k) := by
  split
  · rfl
  · funext s; cases s; rfl

theorem ite_bind_same {α β : Type} (c : Prop) [Decidable c] (m1 m2 : M w α) (k : α → M w β) :
    (if c then m1 >>= k else m2 >>= k) = ((if c then m1 else m2) >>= k) := by
  split <;> rfl

theorem ite_throw_bind {β : Type} (c : Prop) [Decidable c] (e : String) (f : Unit → M w β) (s : St w) :
    ((if c then throw e else pure ()) >>= f) s = if c then .error e else f () s := by
  split <;> cases s <;> rfl

theorem ite_error_ok {α : Type} (c : Prop) [Decidable c] (e : String) (x : Except String α) (r : α) :
    (if c then Except.error e else x) = .ok r ↔ ¬ c ∧ x = .ok r := by
  by_cases h : c
  · simp [h]
  · simp [h]

theorem pushInst_ok (i : Bc.Instr w) (s s' : St w) (u : Unit) :
    pushInst i s = .ok (u, s') ↔ s' = { s with insts := s.insts.push i } := by
  unfold pushInst; exact modify_ok _ _ _ _

structure G (w : Nat) where
  insts : Array (Bc.Instr w)
  values : List (GvnExpr w × Nat)
  exprs : Array (GvnExpr w)
  n : Nat

def core (s : St w) : G w := ⟨s.insts, s.values, s.exprs, s.ranges.size⟩

@[simp] theorem core_insts (s : St w) : (core s).insts = s.insts := rfl
@[simp] theorem core_values (s : St w) : (core s).values = s.values := rfl
@[simp] theorem core_exprs (s : St w) : (core s).exprs = s.exprs := rfl
@[simp] theorem core_n (s : St w) : (core s).n = s.ranges.size := rfl

theorem extendTo_eq (rs : Array RangeInfo) (v to : Nat) :
    extendTo rs v to = match rs[v]? with
      | none => .error "range_extend_to:ranges-index"
      | some r => .ok (rs.setIfInBounds v (C02.AEmit.bump r to 0)) := by
  unfold extendTo
  cases rs[v]? with
  | none => rfl
  | some r => obtain ⟨c, f, l, n⟩ := r; cases f <;> rfl

/-- Not used inside the current loop yet: `last_use.map_or(true, |l| l < current_start)`. -/
def staleL (cs : Nat) (r : RangeInfo) : Bool :=
  match r.lastUse with
  | none => true
  | some l => decide (l < cs)

/-- The test of `range_extend`: created before the current loop and not used inside it yet. -/
def staleB (cs : Nat) (r : RangeInfo) : Bool := decide (r.created < cs) && staleL cs r

/-- State after `range_extend(v)` (`inc = 0`) or `read(v)` (`inc = 1`). -/
def useSt (v inc : Nat) (s : St w) : St w :=
  match s.ranges[v]? with
  | none => s
  | some r =>
    { s with
      ranges := s.ranges.setIfInBounds v (C02.AEmit.bump r s.insts.size inc)
      outerAccessed := if staleB s.currentStart r then s.outerAccessed.push v else s.outerAccessed }

theorem rangeExtend_ok {v : Nat} {s s' : St w} {u : Unit} :
    rangeExtend v s = .ok (u, s') ↔ v < s.ranges.size ∧ s' = useSt v 0 s := by
  unfold rangeExtend useSt
  simp only [get_bind]
  cases hr : s.ranges[v]? with
  | none =>
    have : ¬ v < s.ranges.size := fun h => by simp [Array.getElem?_eq_getElem h] at hr
    simp [throw_ok, this]
  | some r =>
    have hlt : v < s.ranges.size := (Array.getElem?_eq_some_iff.1 hr).1
    simp only [ite_run, modify_bind, rangeExtendTo, extendTo_eq, hr, hlt, true_and, staleB, staleL]
    split <;> split <;> simp only [Except.ok.injEq, Prod.mk.injEq, true_and, if_true, if_false, *] <;> exact eq_comm

theorem read_ok {v : Nat} {s s' : St w} {u : Unit} :
    BcGen.read v s = .ok (u, s') ↔ v < s.ranges.size ∧ s' = useSt v 1 s := by
  unfold BcGen.read
  simp only [bind_ok, rangeExtend_ok, modify_ok]
  have key : ∀ hv : v < s.ranges.size, (match (useSt v 0 s).ranges[v]? with
      | some r => { useSt v 0 s with
          ranges := (useSt v 0 s).ranges.setIfInBounds v { r with numUses := r.numUses + 1 } }
      | none => useSt v 0 s) = useSt v 1 s := by
    intro hv
    simp only [useSt, Array.getElem?_eq_getElem hv, Array.getElem?_setIfInBounds, hv, if_true,
      Array.setIfInBounds_setIfInBounds, C02.AEmit.bump]
  constructor
  · rintro ⟨_, s1, ⟨hv, rfl⟩, rfl⟩; exact ⟨hv, key hv⟩
  · rintro ⟨hv, rfl⟩; exact ⟨(), _, ⟨hv, rfl⟩, (key hv).symm⟩

theorem size_useSt (v inc : Nat) (s : St w) : (useSt v inc s).ranges.size = s.ranges.size := by
  unfold useSt; split <;> simp

theorem core_useSt (v inc : Nat) (s : St w) :
    core (useSt v inc s) = core s ∧ (useSt v inc s).currentStart = s.currentStart := by
  unfold useSt; split <;> simp [core]

theorem read_core {v : Nat} {s s' : St w} {u : Unit}
    (h : BcGen.read v s = .ok (u, s')) : core s' = core s ∧ s'.currentStart = s.currentStart := by
  rw [(read_ok.1 h).2]; exact core_useSt v 1 s

/-- `swap_remove` only removes. -/
theorem mem_swapRemove {α : Type} {a : Array α} {i : Nat} {last x : α} (hl : a.back? = some last)
    (hx : x ∈ ((a.setIfInBounds i last).pop).toList) : x ∈ a.toList := by
  have h1 : x ∈ (a.setIfInBounds i last).toList := by
    rw [Array.toList_pop] at hx
    exact List.dropLast_subset _ hx
  rw [Array.toList_setIfInBounds] at h1
  rcases List.mem_or_eq_of_mem_set h1 with e | e
  · exact e
  · subst e
    rw [Array.back?_eq_getElem?] at hl
    exact Array.mem_toList_iff.2 (Array.mem_of_getElem? hl)

/-- `outerLoop` is a sequence of extensions without a read (`range_extend`) of values on `outerAccessed`, each followed
by a removal from `outerAccessed`: what these two steps keep, it keeps. -/
theorem outerLoop_keeps (ps : Nat) {P : St w → Prop}
    (hext : ∀ (s : St w) (v : Nat), P s → v ∈ s.outerAccessed.toList → v < s.ranges.size → P (useSt v 0 s))
    (hoa : ∀ (s : St w) (oa : Array Nat), P s → (∀ v ∈ oa.toList, v ∈ s.outerAccessed.toList) →
      P { s with outerAccessed := oa }) :
    ∀ (fuel i : Nat) {s s' : St w} {u : Unit}, outerLoop ps fuel i s = .ok (u, s') → P s → P s' := by
  intro fuel
  induction fuel with
  | zero => intro i s s' u h; simp only [outerLoop, throw_ok] at h
  | succ fuel ih =>
    intro i s s' u h hP
    simp only [outerLoop, get_bind] at h
    split at h
    · cases ho : s.outerAccessed[i]? with
      | none => simp only [ho, throw_ok] at h
      | some var =>
        simp only [ho] at h
        cases hr : s.ranges[var]? with
        | none => simp only [hr, throw_ok] at h
        | some r =>
          simp only [hr] at h
          split at h
          · exact ih _ h hP
          · simp only [bind_ok, modify_ok] at h
            obtain ⟨_, s2, h2, _, s3, rfl, h⟩ := h
            obtain ⟨hv, rfl⟩ := rangeExtend_ok.1 h2
            have p2 := hext s var hP (Array.mem_toList_iff.2 (Array.mem_of_getElem? ho)) hv
            cases hb : (useSt var 0 s).outerAccessed.back? with
            | none => rw [hb] at h; exact ih _ h p2
            | some last => rw [hb] at h; exact ih _ h (hoa _ _ p2 fun v hv => mem_swapRemove hb hv)
    · simp only [pure_ok] at h
      rw [h.2]; exact hP

theorem outerLoop_core (ps : Nat) (fuel i : Nat) {s s' : St w} {u : Unit}
    (h : outerLoop ps fuel i s = .ok (u, s')) : core s' = core s ∧ s'.currentStart = s.currentStart :=
  outerLoop_keeps ps (P := fun x => core x = core s ∧ x.currentStart = s.currentStart)
    (fun x v hx _ _ => ⟨(core_useSt v 0 x).1.trans hx.1, (core_useSt v 0 x).2.trans hx.2⟩)
    (fun _ _ hx _ => hx) fuel i h ⟨rfl, rfl⟩

theorem mem_setInsert {s : List Int} {k x : Int} : x ∈ setInsert s k ↔ x ∈ s ∨ x = k := by
  unfold setInsert
  split
  · rename_i h
    constructor
    · exact Or.inl
    · rintro (h' | rfl)
      · exact h'
      · simpa using h
  · simp

section AL
variable {κ ν : Type} [DecidableEq κ]

def keys (l : List (κ × ν)) : List κ := l.map (·.1)

theorem alGet_alSet (l : List (κ × ν)) (k k' : κ) (v : ν) :
    alGet (alSet l k v) k' = if k' = k then some v else alGet l k' := by
  induction l with
  | nil =>
    simp only [alSet, alGet]
    by_cases h : k' = k
    · subst h; simp
    · have : ¬ k = k' := fun e => h e.symm
      simp [h, this]
  | cons p rest ih =>
    obtain ⟨k0, v0⟩ := p
    simp only [alSet]
    by_cases h0 : k0 = k
    · subst h0
      simp only [if_true, alGet]
      by_cases h : k' = k0
      · subst h; simp
      · have : ¬ k0 = k' := fun e => h e.symm
        simp [h, this]
    · simp only [h0, if_false, alGet, ih]
      by_cases h : k' = k
      · subst h; simp [h0]
      · simp [h]

theorem alGet_alSet_self (l : List (κ × ν)) (k : κ) (v : ν) : alGet (alSet l k v) k = some v := by
  rw [alGet_alSet, if_pos rfl]

theorem alGet_alSet_ne (l : List (κ × ν)) {k k' : κ} (v : ν) (h : k ≠ k') :
    alGet (alSet l k v) k' = alGet l k' := by
  rw [alGet_alSet, if_neg (fun e => h e.symm)]

theorem alGet_none_iff (l : List (κ × ν)) (k : κ) : alGet l k = none ↔ k ∉ keys l := by
  induction l with
  | nil => simp [alGet, keys]
  | cons p rest ih =>
    obtain ⟨k0, v0⟩ := p
    simp only [alGet, keys, List.map_cons, List.mem_cons, not_or]
    by_cases h : k0 = k
    · subst h; simp
    · have : ¬ k = k0 := fun e => h e.symm
      simp only [h, if_false, this, not_false_eq_true, true_and]
      exact ih

theorem keys_alSet_nodup (l : List (κ × ν)) (k : κ) (v : ν) (h : (keys l).Nodup) :
    (keys (alSet l k v)).Nodup ∧ ∀ x, x ∈ keys (alSet l k v) ↔ x = k ∨ x ∈ keys l := by
  induction l with
  | nil => simp [alSet, keys]
  | cons p rest ih =>
    obtain ⟨k0, v0⟩ := p
    simp only [keys, List.map_cons, List.nodup_cons] at h
    obtain ⟨ihn, ihm⟩ := ih h.2
    simp only [alSet]
    by_cases h0 : k0 = k
    · subst h0
      simp only [if_true, keys, List.map_cons, List.nodup_cons, List.mem_cons]
      refine ⟨h, fun x => ?_⟩
      constructor
      · intro hx; rcases hx with hx | hx
        · exact Or.inl hx
        · exact Or.inr (Or.inr hx)
      · intro hx; rcases hx with hx | hx | hx
        · exact Or.inl hx
        · exact Or.inl hx
        · exact Or.inr hx
    · simp only [h0, if_false, keys, List.map_cons, List.nodup_cons, List.mem_cons]
      refine ⟨⟨?_, ihn⟩, fun x => ?_⟩
      · intro hm
        rcases (ihm k0).1 hm with e | e
        · exact h0 e
        · exact h.1 e
      · have := ihm x
        simp only [keys] at this
        rw [this]
        constructor
        · intro hx; rcases hx with hx | hx | hx
          · exact Or.inr (Or.inl hx)
          · exact Or.inl hx
          · exact Or.inr (Or.inr hx)
        · intro hx; rcases hx with hx | hx | hx
          · exact Or.inr (Or.inl hx)
          · exact Or.inl hx
          · exact Or.inr (Or.inr hx)

theorem keys_alErase_sub (l : List (κ × ν)) (k : κ) : ∀ x, x ∈ keys (alErase l k) → x ∈ keys l := by
  induction l with
  | nil => intro x hx; simp [alErase, keys] at hx
  | cons p rest ih =>
    obtain ⟨k0, v0⟩ := p
    intro x hx
    simp only [alErase] at hx
    by_cases h0 : k0 = k
    · simp only [h0, if_true] at hx
      simp only [keys, List.map_cons, List.mem_cons]
      exact Or.inr hx
    · simp only [h0, if_false, keys, List.map_cons, List.mem_cons] at hx ⊢
      rcases hx with hx | hx
      · exact Or.inl hx
      · exact Or.inr (ih x hx)

theorem keys_alErase_nodup (l : List (κ × ν)) (k : κ) (h : (keys l).Nodup) :
    (keys (alErase l k)).Nodup := by
  induction l with
  | nil => simp [alErase, keys]
  | cons p rest ih =>
    obtain ⟨k0, v0⟩ := p
    simp only [keys, List.map_cons, List.nodup_cons] at h
    simp only [alErase]
    by_cases h0 : k0 = k
    · simp only [h0, if_true]; exact h.2
    · simp only [h0, if_false, keys, List.map_cons, List.nodup_cons]
      exact ⟨fun hm => h.1 (keys_alErase_sub rest k k0 hm), ih h.2⟩

theorem alGet_alErase (l : List (κ × ν)) (k k' : κ) (h : (keys l).Nodup) :
    alGet (alErase l k) k' = if k' = k then none else alGet l k' := by
  induction l with
  | nil => simp [alErase, alGet]
  | cons p rest ih =>
    obtain ⟨k0, v0⟩ := p
    simp only [keys, List.map_cons, List.nodup_cons] at h
    simp only [alErase]
    by_cases h0 : k0 = k
    · subst h0
      simp only [if_true, alGet]
      by_cases hk : k' = k0
      · subst hk
        simp only [if_true]
        exact (alGet_none_iff rest k').2 h.1
      · have : ¬ k0 = k' := fun e => hk e.symm
        simp [hk, this]
    · simp only [h0, if_false, alGet, ih h.2]
      by_cases hk : k' = k
      · subst hk; simp [h0]
      · simp [hk]

theorem mem_of_alGet {l : List (κ × ν)} {k : κ} {v : ν}
    (h : alGet l k = some v) : (k, v) ∈ l := by
  induction l with
  | nil => simp [alGet] at h
  | cons p rest ih =>
    obtain ⟨k0, v0⟩ := p
    simp only [alGet] at h
    split at h
    · rename_i hk; cases h; subst hk; exact List.mem_cons_self ..
    · exact List.mem_cons_of_mem _ (ih h)

theorem mem_alSet {l : List (κ × ν)} {k : κ} {v : ν} {p : κ × ν}
    (h : p ∈ alSet l k v) : p = (k, v) ∨ p ∈ l := by
  induction l with
  | nil => simp only [alSet, List.mem_singleton] at h; exact Or.inl h
  | cons q rest ih =>
    obtain ⟨k0, v0⟩ := q
    simp only [alSet] at h
    split at h
    · rename_i e
      rcases List.mem_cons.1 h with e' | e'
      · exact Or.inl (by rw [e', e])
      · exact Or.inr (List.mem_cons_of_mem _ e')
    · rcases List.mem_cons.1 h with e' | e'
      · exact Or.inr (by rw [e']; exact List.mem_cons_self)
      · rcases ih e' with g | g
        · exact Or.inl g
        · exact Or.inr (List.mem_cons_of_mem _ g)

theorem mem_alErase {l : List (κ × ν)} {k : κ} {p : κ × ν}
    (h : p ∈ alErase l k) : p ∈ l := by
  induction l with
  | nil => simp [alErase] at h
  | cons q rest ih =>
    obtain ⟨k0, v0⟩ := q
    simp only [alErase] at h
    split at h
    · exact List.mem_cons_of_mem _ h
    · rcases List.mem_cons.1 h with h | h
      · rw [h]; exact List.mem_cons_self ..
      · exact List.mem_cons_of_mem _ (ih h)

end AL

theorem mem_eraseFold {V : List (GvnExpr w × Nat)} {es : List (GvnExpr w)} {p : GvnExpr w × Nat}
    (h : p ∈ es.foldl (fun vs e => alErase vs e) V) : p ∈ V := by
  induction es generalizing V with
  | nil => exact h
  | cons e es ih => exact mem_alErase (ih h)

theorem mem_removeMems {V : List (GvnExpr w × Nat)} {vars : List Int} {p : GvnExpr w × Nat}
    (h : p ∈ removeMems V vars) : p ∈ V := by
  unfold removeMems at h
  induction vars generalizing V with
  | nil => exact h
  | cons v vars ih => exact mem_alErase (ih h)

end C02Emit
end Hpbf
