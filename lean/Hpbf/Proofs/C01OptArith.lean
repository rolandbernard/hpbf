/-
C01, optimiser arithmetic — meaning of the arithmetic modelled in `Hpbf/OptArith.lean`
(`src/opt.rs`: trip counts of counting loops in `analyze_loop`, closed forms of `loop_motion`).
Definitions of the reference semantics (`iter`, `geo`, `tri`), the theorems about `iter` and the
trip-count inverse, and helper lemmas; the other property theorems, the examples and the audit are in
`Hpbf/Props/C01Opt.lean`.

* `iter inc k m = m + k * inc`; `tripCount` is `wrappingDiv m (-inc)`, whose contract
  (`C14.div_some_iff`: the SMALLEST root of `x * (-inc) = m`) is exactly "first `k` with
  `iter inc k m = 0`".  With an odd step `-inc` is invertible, the root is unique and equals
  `inv * x`.
* `geo mul (a + b) = geo mul a * mul ^ b + geo mul b`; the fold of `geomStep` over the bits
  `w-1 … 0` of `n` keeps `(geo mul p, mul ^ p)` with `p = n.toNat / 2 ^ j` (`j` bits left).
* `tri I D N = N * I + (N * (N - 1) / 2) * D`; the three halving alternatives of `triStep` are the
  three ways of dividing `N * (N - 1) * D` by two: halve `D`, halve `N`, halve `N - 1`.
-/
import Mathlib.Data.BitVec
import Mathlib.Tactic.Ring
import Hpbf.OptArith
import Hpbf.Props.C14

namespace Hpbf.C01Opt
open Hpbf

variable {w : Nat}

/-- Counter value after `k` rounds of a loop body that adds `inc` to the counter cell
(`k`-fold application of `(· + inc)` to the initial value `m`). -/
def iter (inc : BitVec w) (k : Nat) (m : BitVec w) : BitVec w := (· + inc)^[k] m

/-- `1 + mul + … + mul^(k-1)`. -/
def geo (mul : BitVec w) : Nat → BitVec w
  | 0 => 0#w
  | k + 1 => geo mul k * mul + 1#w

/-- Total added to an accumulator by `k` rounds when the addend starts at `I` and grows by `D`
each round: `I + (I + D) + … + (I + (k-1) * D)`. -/
def tri (I D : BitVec w) : Nat → BitVec w
  | 0 => 0#w
  | k + 1 => tri I D k + (I + BitVec.ofNat w k * D)

namespace Lemmas

theorem ofNat_eq_cast (k : Nat) : BitVec.ofNat w k = (k : BitVec w) := rfl

theorem ofNat_toNat_self (c : BitVec w) : BitVec.ofNat w c.toNat = c := by
  rw [BitVec.ofNat_toNat, BitVec.setWidth_eq]

/-- Commutative-ring normalisation on `BitVec w` (Mathlib instance), after turning the literals
`k#w` / `BitVec.ofNat w k` into casts. -/
macro "bvring" : tactic =>
  `(tactic| ((try simp only [ofNat_eq_cast]); (try push_cast); ring))

end Lemmas
open Lemmas

@[simp] theorem iter_zero (inc m : BitVec w) : iter inc 0 m = m := rfl

theorem iter_succ (inc m : BitVec w) (k : Nat) : iter inc (k + 1) m = iter inc k m + inc := by
  unfold iter
  rw [Function.iterate_succ_apply']

theorem iter_eq (inc m : BitVec w) (k : Nat) : iter inc k m = m + BitVec.ofNat w k * inc := by
  induction k with
  | zero => rw [iter_zero]; bvring
  | succ k ih => rw [iter_succ, ih]; bvring

theorem iter_mod (inc m : BitVec w) (k : Nat) : iter inc (k % 2 ^ w) m = iter inc k m := by
  rw [iter_eq, iter_eq]
  congr 2
  apply BitVec.eq_of_toNat_eq
  simp

theorem root_of_iter_zero (inc m : BitVec w) (k : Nat) (h0 : iter inc k m = 0#w) :
    BitVec.ofNat w k * (-inc) = m := by
  rw [iter_eq] at h0
  calc BitVec.ofNat w k * (-inc) = m + -(m + BitVec.ofNat w k * inc) := by bvring
    _ = m := by rw [h0]; bvring

theorem iter_zero_of_root (inc m y : BitVec w) (h : y * (-inc) = m) :
    iter inc y.toNat m = 0#w := by
  rw [iter_eq, ofNat_toNat_self, ← h]; bvring

theorem isOdd_width_zero (x : BitVec 0) : Cell.isOdd x = true := by
  rw [BitVec.eq_nil x]; decide

theorem tripInv_mul (hw : 0 < w) (inc inv : BitVec w) (h : OptArith.tripInv inc = some inv) :
    inv * (-inc) = 1#w := by
  unfold OptArith.tripInv at h
  rw [← C14.inv_mul hw _ _ h]; bvring

theorem tripInv_some_odd (inc inv : BitVec w) (h : OptArith.tripInv inc = some inv) :
    Cell.isOdd inv = true := by
  rcases Nat.eq_zero_or_pos w with rfl | hw
  · exact isOdd_width_zero inv
  · have h1 := tripInv_mul hw inc inv h
    rw [← C14.inv_isSome_iff hw inv]
    cases hi : Cell.wrappingInv inv with
    | some y => rfl
    | none => exact absurd ⟨_, h1⟩ ((C14.inv_none_iff hw inv).1 hi)

/-- The two analyses agree: `inv * x` is what `tripCount` computes for the constant `x`. -/
theorem tripInv_tripCount (hw : 0 < w) (inc inv : BitVec w)
    (h : OptArith.tripInv inc = some inv) (x : BitVec w) :
    OptArith.tripCount x inc = some (inv * x) := by
  have h1 := tripInv_mul hw inc inv h
  unfold OptArith.tripCount
  refine (C14.div_some_iff hw x (-inc) _).2 ⟨?_, fun y hy => ?_⟩
  · calc inv * x * (-inc) = x * (inv * (-inc)) := by bvring
      _ = x := by rw [h1]; bvring
  · have : y = inv * x := by
      calc y = y * (inv * (-inc)) := by rw [h1]; bvring
        _ = inv * (y * (-inc)) := by bvring
        _ = inv * x := by rw [hy]
    rw [this]
    exact BitVec.le_refl _

end Hpbf.C01Opt
