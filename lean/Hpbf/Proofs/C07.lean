/-
Limited (budgeted) against unlimited execution, IR interpreter and bytecode machine.  A limited step is an
interruption that leaves the events alone, or the unlimited step on the configuration with the budget erased.
Only loop/if ends and branches are charged, so the potential that makes limited runs return counts the
uncharged steps too; a moving `scan` is uncharged and ends since a tape has finitely many non-zero cells.
-/
import Hpbf.Proofs.C11Step
import Hpbf.Proofs.IrStep

namespace Hpbf
namespace C07

variable {w : Nat}

/-- The same function as `C01.traceOf`; `Chain.traceOfIr_eq` goes between. -/
def traceOfIr : Ir.Outcome w → List Ev
  | .done c => c.st.trace
  | .stopped c => c.st.trace
  | .interrupted c => c.st.trace
  | .outOfFuel c => c.st.trace

def irErase (c : Ir.Cfg w) : Ir.Cfg w := { c with budget := 0 }

@[simp] theorem irErase_st (c : Ir.Cfg w) : (irErase c).st = c.st := rfl
@[simp] theorem irErase_cur (c : Ir.Cfg w) : (irErase c).cur = c.cur := rfl
@[simp] theorem irErase_conts (c : Ir.Cfg w) : (irErase c).conts = c.conts := rfl

def irMapRes (f : Ir.Cfg w → Ir.Cfg w) : Ir.StepRes w → Ir.StepRes w
  | .next c => .next (f c)
  | .halt c => .halt (f c)
  | .stop c => .stop (f c)
  | .interrupted c => .interrupted (f c)

/-- `rT` is the limited step from `c`, `rF` the unlimited step from `irErase c`. -/
structure IrSame (c : Ir.Cfg w) (rT rF : Ir.StepRes w) : Prop where
  noInt : ∀ c', rT ≠ .interrupted c'
  erase : rF = irMapRes irErase rT
  budget : ∀ c', rT = .next c' → c.budget ≤ c'.budget + 1

namespace IrSame

theorem next {c c1 : Ir.Cfg w} (h : c.budget ≤ c1.budget + 1) :
    IrSame c (.next c1) (.next (irErase c1)) :=
  ⟨fun _ e => (nomatch e), rfl, fun _ e => by cases e; exact h⟩

theorem stop {c c1 : Ir.Cfg w} : IrSame c (.stop c1) (.stop (irErase c1)) :=
  ⟨fun _ e => (nomatch e), rfl, fun _ e => (nomatch e)⟩

theorem halt {c c1 : Ir.Cfg w} : IrSame c (.halt c1) (.halt (irErase c1)) :=
  ⟨fun _ e => (nomatch e), rfl, fun _ e => (nomatch e)⟩

end IrSame

/-- At an interruption only the TRACE is kept: the interpreter applies the shifts of the enclosing blocks on the way out
(`Ir.unwind`).  By cases on the configuration, not on `Ir.step_shape`: two steps are compared, and a shape of the first
says nothing about the second. -/
theorem ir_step_erase (c : Ir.Cfg w) :
    (∃ c', Ir.step true c = .interrupted c' ∧ c.budget = 0 ∧ c'.st.trace = c.st.trace) ∨
    IrSame c (Ir.step true c) (Ir.step false (irErase c)) := by
  obtain ⟨cur, conts, budget, st⟩ := c
  have same : budget ≤ budget + 1 := Nat.le_succ _
  cases cur with
  | nil =>
    cases conts with
    | nil => exact Or.inr .halt
    | cons k ks =>
      cases budget with
      | zero =>
        left
        cases k <;> exact ⟨_, rfl, rfl, Ir.unwind_trace ks _⟩
      | succ b =>
        right
        have charged : b + 1 ≤ b + 1 := Nat.le_refl _
        cases k with
        | loopEnd cond shift body rest =>
          by_cases hz : (st.mov shift).rd cond = 0#w
          · simp only [Ir.step, irErase, hz, ne_eq, not_true_eq_false, if_false]; exact .next charged
          · simp only [Ir.step, irErase, hz, ne_eq, not_false_eq_true, if_true]; exact .next charged
        | ifEnd shift rest => exact .next charged
  | cons i rest =>
    right
    cases i with
    | output src =>
      simp only [Ir.step, irErase]
      rcases st.output src with ⟨_ | _, s⟩
      · exact .stop
      · exact .next same
    | input dst =>
      simp only [Ir.step, irErase]
      rcases st.input dst with ⟨_ | _, s⟩
      · exact .stop
      · exact .next same
    | «calc» calcs => exact .next same
    | loop cond shift body once | ifnz cond shift body =>
      by_cases hz : st.rd cond = 0#w
      · simp only [Ir.step, irErase, hz, ne_eq, not_true_eq_false, if_false]; exact .next same
      · simp only [Ir.step, irErase, hz, ne_eq, not_false_eq_true, if_true]; exact .next same

theorem ir_step_false_budget (c : Ir.Cfg w) (c' : Ir.Cfg w) (h : Ir.step false c = .next c') :
    c'.budget = c.budget := by
  have hs := Ir.step_shape false c
  rw [h] at hs
  clear h
  cases hs <;> rfl

def irMapOut (f : Ir.Cfg w → Ir.Cfg w) : Ir.Outcome w → Ir.Outcome w
  | .done c => .done (f c)
  | .stopped c => .stopped (f c)
  | .interrupted c => .interrupted (f c)
  | .outOfFuel c => .outOfFuel (f c)

/-- At an interruption only the events agree with the unlimited machine (`ir_step_erase`). -/
def IrLimRel (f : Nat) (c : Ir.Cfg w) : Ir.Outcome w → Prop
  | .interrupted c' =>
    ∃ g c'', g < f ∧ Ir.runCfg false g (irErase c) = .outOfFuel c'' ∧ c''.st.trace = c'.st.trace
  | o => Ir.runCfg false f (irErase c) = irMapOut irErase o

theorem ir_lim_rel (f : Nat) : ∀ c : Ir.Cfg w, IrLimRel f c (Ir.runCfg true f c) := by
  induction f with
  | zero => intro c; exact rfl
  | succ f ih =>
    intro c
    rcases ir_step_erase c with ⟨c', hs, _, ht⟩ | ⟨hni, he, _⟩
    · rw [Ir.runCfg_succ_interrupted hs]
      exact ⟨0, irErase c, Nat.succ_pos _, rfl, ht.symm⟩
    · cases hs : Ir.step true c with
      | next c1 =>
        rw [hs] at he
        rw [Ir.runCfg_succ_next hs]
        have := ih c1
        cases hr : Ir.runCfg true f c1 with
        | interrupted c' =>
          rw [hr] at this
          obtain ⟨g, c'', hg, hrun, ht⟩ := this
          exact ⟨g + 1, c'', by omega, by rw [Ir.runCfg_succ_next he]; exact hrun, ht⟩
        | _ => rw [hr] at this; simp only [IrLimRel] at this ⊢; rw [Ir.runCfg_succ_next he]; exact this
      | interrupted c1 => exact (hni c1 hs).elim
      | _ => rw [hs] at he; simp only [Ir.runCfg, hs, he, IrLimRel, irMapRes, irMapOut]

theorem ir_not_interrupted (f : Nat) :
    ∀ c : Ir.Cfg w, f ≤ c.budget → ∀ c', Ir.runCfg true f c ≠ .interrupted c' := by
  induction f with
  | zero => intro c _ c'; simp [Ir.runCfg]
  | succ f ih =>
    intro c hb c'
    rcases ir_step_erase c with ⟨c1, _, hz, _⟩ | ⟨hni, _, hbud⟩
    · omega
    · cases hs : Ir.step true c with
      | next c1 =>
        rw [Ir.runCfg_succ_next hs]
        exact ih c1 (by have := hbud c1 hs; omega) c'
      | interrupted c1 => exact (hni c1 hs).elim
      | _ => simp [Ir.runCfg, hs]

theorem ir_enough {g : Nat} {c : Ir.Cfg w} (hb : g ≤ c.budget) :
    Ir.runCfg false g (irErase c) = irMapOut irErase (Ir.runCfg true g c) := by
  have hrel := ir_lim_rel g c
  cases hr : Ir.runCfg true g c with
  | interrupted c' => exact (ir_not_interrupted g c hb c' hr).elim
  | _ => rw [hr] at hrel; exact hrel

mutual
def irSize : Ir.Instr w → Nat
  | .loop _ _ body _ => 1 + irSizeL body
  | .ifnz _ _ body => 1 + irSizeL body
  | .output _ => 1
  | .input _ => 1
  | .calc _ => 1
def irSizeL : List (Ir.Instr w) → Nat
  | [] => 0
  | i :: is => irSize i + irSizeL is
end

def contW : List (Ir.Cont w) → Nat
  | [] => 0
  | k :: ks => irSizeL k.rest + contW ks

/-- Re-entering the body of any suspended loop stays within `N` instructions. -/
def contGood (N : Nat) : List (Ir.Cont w) → Prop
  | [] => True
  | k :: ks => irSizeL k.body + contW (k :: ks) ≤ N ∧ contGood N ks

/-- Falls with every uncharged step; a charged step (a loop/if end) may raise it, under `IrInv` to at most `N`. -/
def irMu (c : Ir.Cfg w) : Nat := irSizeL c.cur + contW c.conts

def IrInv (N : Nat) (c : Ir.Cfg w) : Prop := irMu c ≤ N ∧ contGood N c.conts

/-- A budget unit weighs `N + 1`, more than `irMu` can be after the step that spends it. -/
def irPhi (N : Nat) (c : Ir.Cfg w) : Nat := irMu c + c.budget * (N + 1)

theorem measure_uncharged {N : Nat} {c c1 : Ir.Cfg w} (h : irMu c ≤ N) (hg : contGood N c1.conts)
    (hb : c1.budget = c.budget) (hmu : irMu c1 < irMu c) : IrInv N c1 ∧ irPhi N c1 < irPhi N c := by
  refine ⟨⟨by omega, hg⟩, ?_⟩
  unfold irPhi
  rw [hb]
  exact Nat.add_lt_add_right hmu _

theorem measure_charged {N : Nat} {c c1 : Ir.Cfg w} (hg : contGood N c1.conts)
    (hb : c.budget = c1.budget + 1) (hmu : irMu c1 ≤ N) : IrInv N c1 ∧ irPhi N c1 < irPhi N c := by
  refine ⟨⟨hmu, hg⟩, ?_⟩
  unfold irPhi
  rw [hb, Nat.succ_mul]
  omega

theorem irSize_pos (i : Ir.Instr w) : 0 < irSize i := by
  cases i <;> simp only [irSize] <;> omega

theorem block?_size {i : Ir.Instr w} {rest body : List (Ir.Instr w)} {cond : Int} {k : Ir.Cont w}
    (h : i.block? rest = some (cond, body, k)) :
    irSize i = 1 + irSizeL body ∧ k.rest = rest ∧ irSizeL k.body ≤ irSizeL body := by
  cases i <;> simp only [Ir.Instr.block?, Option.some.injEq, Prod.mk.injEq, reduceCtorEq] at h
  all_goals obtain ⟨_, rfl, rfl⟩ := h
  · exact ⟨rfl, rfl, Nat.le_refl _⟩
  · exact ⟨rfl, rfl, Nat.zero_le _⟩

theorem ir_step_measure {N : Nat} {c c1 : Ir.Cfg w} (hinv : IrInv N c)
    (hs : Ir.step true c = .next c1) : IrInv N c1 ∧ irPhi N c1 < irPhi N c := by
  have h := Ir.step_shape true c
  rw [hs] at h
  clear hs
  obtain ⟨hmu, hgood⟩ := hinv
  cases h with
  | blockEnd k ks b st hb =>
    obtain ⟨b, rfl⟩ : ∃ b', b = b' + 1 := ⟨b - 1, by have : b ≠ 0 := fun e => hb ⟨rfl, e⟩; omega⟩
    have hmu : contW (k :: ks) ≤ N := by rwa [irMu, irSizeL, Nat.zero_add] at hmu
    rcases k.after_cases ks (st.mov k.shift) with e | e <;> rw [e]
    · exact measure_charged hgood rfl hgood.1
    · exact measure_charged hgood.2 rfl (by simp only [irMu, contW] at hmu ⊢; omega)
  | ioOk i rest ks b st s hio =>
    have := irSize_pos i
    exact measure_uncharged hmu hgood rfl (by simp only [irMu, irSizeL]; omega)
  | assign calcs rest ks b st =>
    exact measure_uncharged hmu hgood rfl (by simp only [irMu, irSizeL, irSize]; omega)
  | enter i rest ks b st cond body k hk hz =>
    obtain ⟨e1, e2, e3⟩ := block?_size hk
    have hmu' := hmu
    simp only [irMu, irSizeL, e1] at hmu'
    exact measure_uncharged hmu ⟨by simp only [contW, e2]; omega, hgood⟩ rfl
      (by simp only [irMu, irSizeL, e1, contW, e2]; omega)
  | skip i rest ks b st cond body k hk hz =>
    have := irSize_pos i
    exact measure_uncharged hmu hgood rfl (by simp only [irMu, irSizeL]; omega)

theorem ir_limited_halts (N : Nat) (f : Nat) :
    ∀ c : Ir.Cfg w, IrInv N c → irPhi N c < f → ∀ c', Ir.runCfg true f c ≠ .outOfFuel c' :=
  fun _ hi hf c' => (Ir.fuelRun true).halts (I := IrInv N) (μ := irPhi N) ir_step_measure hi hf c'

def traceOfBc : Bc.Outcome w → List Ev
  | .done c => c.st.trace
  | .stopped c => c.st.trace
  | .interrupted c => c.st.trace
  | .bad c => c.st.trace
  | .outOfFuel c => c.st.trace

def bcErase (c : Bc.Cfg w) : Bc.Cfg w := { c with budget := 0 }

@[simp] theorem bcErase_st (c : Bc.Cfg w) : (bcErase c).st = c.st := rfl
@[simp] theorem bcErase_pc (c : Bc.Cfg w) : (bcErase c).pc = c.pc := rfl
@[simp] theorem bcErase_temps (c : Bc.Cfg w) : (bcErase c).temps = c.temps := rfl

def bcMapRes (f : Bc.Cfg w → Bc.Cfg w) : Bc.StepRes w → Bc.StepRes w
  | .next c => .next (f c)
  | .halt c => .halt (f c)
  | .stop c => .stop (f c)
  | .interrupted c => .interrupted (f c)
  | .bad c => .bad (f c)

theorem branchTarget_le {pc : Nat} {off : Int} {n t : Nat} (h : Bc.branchTarget pc off n = some t) :
    t ≤ n := by
  unfold Bc.branchTarget at h
  simp only at h
  split at h
  · cases h; omega
  · cases h

/-- Uncharged step to the next instruction; charged branch; moving scan on a non-zero cell (uncharged, `pc` stays). -/
def BcNextShape (p : Bc.Program w) (c c1 : Bc.Cfg w) : Prop :=
  (c1.budget = c.budget ∧ c1.pc = c.pc + 1 ∧ c.pc < p.insts.size) ∨
  (c1.budget + 1 = c.budget ∧ c1.pc ≤ p.insts.size) ∨
  (∃ cond sh, p.insts[c.pc]? = some (.scan cond sh) ∧ sh ≠ 0 ∧ c.st.rd cond ≠ 0#w ∧
    c1 = { c with st := c.st.mov sh })

/-- A stationary scan on a non-zero cell interrupts whatever the budget; a branch interrupts already at a budget of 1. -/
def BcIntShape (p : Bc.Program w) (c : Bc.Cfg w) : Prop :=
  (∃ cond, p.insts[c.pc]? = some (.scan cond 0) ∧ c.st.rd cond ≠ 0#w) ∨
  (c.budget ≤ 1 ∧ ((∃ c1, Bc.step p false (bcErase c) = .next c1) ∨
    (∃ c1, Bc.step p false (bcErase c) = .bad c1)))

/-- `rT` is the limited step from `c`, `rF` the unlimited step from `bcErase c`. -/
structure BcSame (p : Bc.Program w) (c : Bc.Cfg w) (rT rF : Bc.StepRes w) : Prop where
  noInt : ∀ c', rT ≠ .interrupted c'
  erase : rF = bcMapRes bcErase rT
  shape : ∀ c1, rT = .next c1 → BcNextShape p c c1

namespace BcSame

theorem next {p : Bc.Program w} {c c1 : Bc.Cfg w} (h : BcNextShape p c c1) :
    BcSame p c (.next c1) (.next (bcErase c1)) :=
  ⟨fun _ e => (nomatch e), rfl, fun _ e => by cases e; exact h⟩

theorem nxt {p : Bc.Program w} {c : Bc.Cfg w} (hlt : c.pc < p.insts.size)
    (temps : Bc.Temps w) (st : State w) :
    BcSame p c (.next ⟨c.pc + 1, temps, c.budget, st⟩) (.next ⟨c.pc + 1, temps, 0, st⟩) :=
  .next (Or.inl ⟨rfl, rfl, hlt⟩)

theorem halt {p : Bc.Program w} {c c' : Bc.Cfg w} : BcSame p c (.halt c') (.halt (bcErase c')) :=
  ⟨fun _ e => (nomatch e), rfl, fun _ e => (nomatch e)⟩
theorem stop {p : Bc.Program w} {c c' : Bc.Cfg w} : BcSame p c (.stop c') (.stop (bcErase c')) :=
  ⟨fun _ e => (nomatch e), rfl, fun _ e => (nomatch e)⟩
theorem bad {p : Bc.Program w} {c c' : Bc.Cfg w} : BcSame p c (.bad c') (.bad (bcErase c')) :=
  ⟨fun _ e => (nomatch e), rfl, fun _ e => (nomatch e)⟩

theorem ite {p : Bc.Program w} {c : Bc.Cfg w} {P : Prop} [Decidable P] {a a' b b' : Bc.StepRes w}
    (h1 : BcSame p c a a') (h2 : BcSame p c b b') :
    BcSame p c (if P then a else b) (if P then a' else b') := by
  split
  · exact h1
  · exact h2

theorem compute {p : Bc.Program w} {c c1 : Bc.Cfg w} (hlt : c.pc < p.insts.size)
    (hb : c1.budget = c.budget) (d : Bc.Loc w) :
    BcSame p c (if C11.isDst d then .next { c1 with pc := c.pc + 1 } else .bad c)
      (if C11.isDst d then .next { bcErase c1 with pc := c.pc + 1 } else .bad (bcErase c)) :=
  ite (.next (Or.inl ⟨hb, rfl, hlt⟩)) .bad

end BcSame

theorem binopCfg_erase (f : BitVec w → BitVec w → BitVec w) (c : Bc.Cfg w) (d a b : Bc.Loc w) :
    C11.binopCfg f (bcErase c) d a b = bcErase (C11.binopCfg f c d a b) := by
  unfold C11.binopCfg
  split <;> cases d <;> rfl

theorem copyCfg_erase (c : Bc.Cfg w) (d s : Bc.Loc w) :
    C11.copyCfg (bcErase c) d s = bcErase (C11.copyCfg c d s) := by
  cases d <;> rfl

theorem branch_erase (p : Bc.Program w) (c : Bc.Cfg w) (hlt : c.pc < p.insts.size) (taken : Bool)
    (off : Int) :
    (c.budget ≤ 1 ∧ C11.branch p true c taken off = .interrupted { c with budget := 0 } ∧
      ((∃ c1, C11.branch p false (bcErase c) taken off = .next c1) ∨
        ∃ c1, C11.branch p false (bcErase c) taken off = .bad c1)) ∨
    BcSame p c (C11.branch p true c taken off) (C11.branch p false (bcErase c) taken off) := by
  have hF : ¬ (false = true ∧ (bcErase c).budget ≤ 1) := fun h => nomatch h.1
  unfold C11.branch
  rw [if_neg hF]
  by_cases hb : c.budget ≤ 1
  · rw [if_pos ⟨rfl, hb⟩]
    refine Or.inl ⟨hb, rfl, ?_⟩
    cases taken with
    | false => exact Or.inl ⟨_, rfl⟩
    | true =>
      cases Bc.branchTarget (bcErase c).pc off p.insts.size with
      | none => exact Or.inr ⟨_, rfl⟩
      | some t => exact Or.inl ⟨_, rfl⟩
  · rw [if_neg fun h => hb h.2]
    right
    have charged : (c.budget - 1) + 1 = c.budget := by omega
    cases taken with
    | false => exact .next (Or.inr (Or.inl ⟨charged, hlt⟩))
    | true =>
      show BcSame p c (match Bc.branchTarget c.pc off p.insts.size with | some t => _ | none => _)
        (match Bc.branchTarget c.pc off p.insts.size with | some t => _ | none => _)
      cases ht : Bc.branchTarget c.pc off p.insts.size with
      | none => exact .bad
      | some t => exact .next (Or.inr (Or.inl ⟨charged, branchTarget_le ht⟩))

theorem bc_step_erase (p : Bc.Program w) (c : Bc.Cfg w) :
    (∃ c', Bc.step p true c = .interrupted c' ∧ c'.st = c.st ∧ BcIntShape p c) ∨
    BcSame p c (Bc.step p true c) (Bc.step p false (bcErase c)) := by
  cases hi : p.insts[c.pc]? with
  | none =>
    right
    rw [C11.step_none hi, C11.step_none (c := bcErase c) hi]
    exact BcSame.ite .halt .bad
  | some ins =>
    have hlt : c.pc < p.insts.size := (Array.getElem?_eq_some_iff.mp hi).1
    have hi' : p.insts[(bcErase c).pc]? = some ins := hi
    rw [C11.step_eq hi, C11.step_eq hi']
    cases ins with
    | noop | mov sh => exact .inr (.nxt hlt _ _)
    | scan cond sh =>
      by_cases hz : c.st.rd cond = 0#w
      · right
        simp only [C11.stepI, bcErase_st, hz, if_true]
        exact .nxt hlt _ _
      · by_cases hsh : sh = 0
        · subst hsh
          exact .inl ⟨{ c with budget := 0 }, by simp only [C11.stepI, hz, if_true, if_false], rfl,
            .inl ⟨cond, hi, hz⟩⟩
        · right
          simp only [C11.stepI, bcErase_st, hz, hsh, if_false]
          exact .next (.inr (.inr ⟨cond, sh, hi, hsh, hz, rfl⟩))
    | inp dst | out src => exact .inr (BcSame.ite (.nxt hlt _ _) .stop)
    | brz cond off | brnz cond off =>
      rcases branch_erase p c hlt _ off with ⟨hb, hs, hu⟩ | h
      · exact .inl ⟨_, hs, rfl, .inr ⟨hb, by rw [C11.step_eq hi']; exact hu⟩⟩
      · exact .inr h
    | add d a b | sub d a b | mul d a b =>
      right
      simp only [C11.stepI, C11.arith, binopCfg_erase]
      exact BcSame.compute hlt (C11.binopCfg_budget _ c d a b) d
    | copy d s =>
      right
      simp only [C11.stepI, copyCfg_erase]
      exact BcSame.compute (c1 := C11.copyCfg c d s) hlt (C11.wrCfg_budget _ _ d) d

theorem bc_stationary_scan_step {p : Bc.Program w} {c : Bc.Cfg w} {cond : Int}
    (hi : p.insts[c.pc]? = some (.scan cond 0)) (hz : c.st.rd cond ≠ 0#w) :
    Bc.step p false c = .next c ∧ Bc.step p true c = .interrupted { c with budget := 0 } := by
  simp [Bc.step, hi, hz]

theorem bc_stationary_scan_spins {p : Bc.Program w} {c : Bc.Cfg w} {cond : Int}
    (hi : p.insts[c.pc]? = some (.scan cond 0)) (hz : c.st.rd cond ≠ 0#w) (f : Nat) :
    Bc.runCfg p false f c = .outOfFuel c := by
  induction f with
  | zero => rfl
  | succ f ih => rw [Bc.runCfg_succ_next (bc_stationary_scan_step hi hz).1]; exact ih

def bcMapOut (f : Bc.Cfg w → Bc.Cfg w) : Bc.Outcome w → Bc.Outcome w
  | .done c => .done (f c)
  | .stopped c => .stopped (f c)
  | .interrupted c => .interrupted (f c)
  | .bad c => .bad (f c)
  | .outOfFuel c => .outOfFuel (f c)

/-- As `IrLimRel`; the bytecode machine has nothing to unwind, so the whole state agrees at an interruption. -/
def BcLimRel (p : Bc.Program w) (f : Nat) (c : Bc.Cfg w) : Bc.Outcome w → Prop
  | .interrupted c' =>
    ∃ g c'', g < f ∧ Bc.runCfg p false g (bcErase c) = .outOfFuel c'' ∧ c''.st = c'.st
  | o => Bc.runCfg p false f (bcErase c) = bcMapOut bcErase o

theorem bc_lim_rel (p : Bc.Program w) (f : Nat) :
    ∀ c : Bc.Cfg w, BcLimRel p f c (Bc.runCfg p true f c) := by
  induction f with
  | zero => intro c; exact rfl
  | succ f ih =>
    intro c
    rcases bc_step_erase p c with ⟨c', hs, ht, _⟩ | ⟨hni, he, _⟩
    · rw [Bc.runCfg_succ_interrupted hs]
      exact ⟨0, bcErase c, Nat.succ_pos _, rfl, ht.symm⟩
    · cases hs : Bc.step p true c with
      | next c1 =>
        rw [hs] at he
        rw [Bc.runCfg_succ_next hs]
        have := ih c1
        cases hr : Bc.runCfg p true f c1 with
        | interrupted c' =>
          rw [hr] at this
          obtain ⟨g, c'', hg, hrun, ht⟩ := this
          exact ⟨g + 1, c'', by omega, by rw [Bc.runCfg_succ_next he]; exact hrun, ht⟩
        | _ => rw [hr] at this; simp only [BcLimRel] at this ⊢; rw [Bc.runCfg_succ_next he]; exact this
      | interrupted c1 => exact (hni c1 hs).elim
      | _ => rw [hs] at he; simp only [Bc.runCfg, hs, he, BcLimRel, bcMapRes, bcMapOut]

theorem BcNextShape.budget {p : Bc.Program w} {c c1 : Bc.Cfg w} (h : BcNextShape p c c1) :
    c.budget ≤ c1.budget + 1 := by
  rcases h with ⟨h, _⟩ | ⟨h, _⟩ | ⟨_, _, _, _, _, rfl⟩
  · omega
  · omega
  · simp

/-- The second case: a branch interrupts already at a budget of 1, where the unlimited step may be `.bad`
(target outside the program). -/
theorem bc_interrupted_unlimited (p : Bc.Program w) (f : Nat) :
    ∀ (c c' : Bc.Cfg w), f ≤ c.budget → Bc.runCfg p true f c = .interrupted c' →
      (∃ c'', Bc.runCfg p false f (bcErase c) = .outOfFuel c'') ∨
      (¬ f < c.budget ∧ ∃ c'', Bc.runCfg p false f (bcErase c) = .bad c'') := by
  induction f with
  | zero => intro c c' _ h; simp [Bc.runCfg] at h
  | succ f ih =>
    intro c c' hb hr
    rcases bc_step_erase p c with ⟨c1, hs, _, hshape⟩ | ⟨hni, he, hnext⟩
    · rcases hshape with ⟨cond, hi, hz⟩ | ⟨hb1, hu⟩
      · exact Or.inl ⟨_, bc_stationary_scan_spins (c := bcErase c) hi hz (f + 1)⟩
      · have hf : f = 0 := by omega
        subst hf
        rcases hu with ⟨c2, h2⟩ | ⟨c2, h2⟩
        · exact Or.inl ⟨c2, by rw [Bc.runCfg_succ_next h2]; rfl⟩
        · exact Or.inr ⟨by omega, c2, Bc.runCfg_succ_bad h2 0⟩
    · cases hs : Bc.step p true c with
      | next c1 =>
        rw [hs] at he
        rw [Bc.runCfg_succ_next hs] at hr
        have hbud := (hnext c1 hs).budget
        rw [Bc.runCfg_succ_next he]
        rcases ih c1 c' (by omega) hr with h | ⟨hlt, h⟩
        · exact Or.inl h
        · exact Or.inr ⟨by omega, h⟩
      | interrupted c1 => exact (hni c1 hs).elim
      | _ => simp only [Bc.runCfg, hs] at hr; cases hr

/-- `hbad`: a branch needs a budget of 2, so with `g = c.budget` the last limited step can be interrupted
where the unlimited one is `.bad`. -/
theorem bc_enough (p : Bc.Program w) {g : Nat} {c : Bc.Cfg w} (hb : g ≤ c.budget)
    (hret : ∀ c', Bc.runCfg p false g (bcErase c) ≠ .outOfFuel c')
    (hbad : g < c.budget ∨ ∀ c', Bc.runCfg p false g (bcErase c) ≠ .bad c') :
    Bc.runCfg p false g (bcErase c) = bcMapOut bcErase (Bc.runCfg p true g c) := by
  have hrel := bc_lim_rel p g c
  cases hr : Bc.runCfg p true g c with
  | interrupted c' =>
    rcases bc_interrupted_unlimited p g c c' hb hr with ⟨c'', h⟩ | ⟨hn, c'', h⟩
    · exact (hret c'' h).elim
    · rcases hbad with hlt | hnb
      · exact (hn hlt).elim
      · exact (hnb c'' h).elim
  | _ => rw [hr] at hrel; exact hrel

theorem tape_bounded (t : Tape w) : ∃ m M : Int, ∀ i, t.get i ≠ 0#w → m ≤ i ∧ i ≤ M := by
  obtain ⟨cells⟩ := t
  induction cells with
  | nil => exact ⟨0, 0, fun i h => (h rfl).elim⟩
  | cons kv rest ih =>
    obtain ⟨k, v⟩ := kv
    obtain ⟨m, M, h⟩ := ih
    refine ⟨min m k, max M k, fun i hi => ?_⟩
    simp only [Tape.get, Tape.lookup] at hi h
    by_cases hk : k = i
    · subst hk; omega
    · simp only [hk, if_false] at hi
      have := h i hi
      omega

theorem bc_scan_terminates (p : Bc.Program w) (l : Bool) (c : Bc.Cfg w) {cond sh : Int}
    (hi : p.insts[c.pc]? = some (.scan cond sh)) (hsh : sh ≠ 0) :
    ∃ k c2, (∀ f, Bc.runCfg p l (k + f) c = Bc.runCfg p l f c2) ∧ c2.pc = c.pc + 1 ∧
      c2.budget = c.budget := by
  obtain ⟨m, M, hbnd⟩ := tape_bounded c.st.tape
  have leave : ∀ ptr : Int, c.st.tape.get (ptr + cond) = 0#w →
      ∃ k c2, (∀ f, Bc.runCfg p l (k + f) { c with st := { c.st with ptr := ptr } } =
        Bc.runCfg p l f c2) ∧ c2.pc = c.pc + 1 ∧ c2.budget = c.budget := fun ptr hz =>
    ⟨1, { c with pc := c.pc + 1, st := { c.st with ptr := ptr } }, fun f => by
      rw [Nat.add_comm]
      exact Bc.runCfg_succ_next (by simp [Bc.step, hi, State.rd, hz]) f, rfl, rfl⟩
  -- `d` bounds the distance of the tested cell to the end of the non-zero part of the tape
  have key : ∀ (d : Nat) (ptr : Int), ((0 < sh → M - (ptr + cond) < d) ∧ (sh < 0 → (ptr + cond) - m < d)) →
      ∃ k c2, (∀ f, Bc.runCfg p l (k + f) { c with st := { c.st with ptr := ptr } } =
        Bc.runCfg p l f c2) ∧ c2.pc = c.pc + 1 ∧ c2.budget = c.budget := by
    intro d
    induction d with
    | zero =>
      intro ptr hd
      refine leave ptr (Classical.byContradiction fun hne => ?_)
      have := hbnd _ hne
      rcases Int.lt_or_gt_of_ne hsh with h | h
      · have := hd.2 h; omega
      · have := hd.1 h; omega
    | succ d ih =>
      intro ptr hd
      by_cases hz : c.st.tape.get (ptr + cond) = 0#w
      · exact leave ptr hz
      · obtain ⟨k, c2, hk, h2⟩ := ih (ptr + sh) ⟨fun h => by have := hd.1 h; omega,
          fun h => by have := hd.2 h; omega⟩
        refine ⟨k + 1, c2, fun f => ?_, h2⟩
        have e : k + 1 + f = (k + f) + 1 := by omega
        rw [e, ← hk f]
        apply Bc.runCfg_succ_next
        simp [Bc.step, hi, State.rd, hz, hsh, State.mov]
  exact key ((M - (c.st.ptr + cond)).toNat + ((c.st.ptr + cond) - m).toNat + 1) c.st.ptr
    ⟨fun _ => by omega, fun _ => by omega⟩

/-- The first summand falls with every uncharged step other than a moving scan and is at most `size + 1`
(`pc = size` is reachable); a budget unit weighs more, `size + 2`, since a branch can reset `pc` to 0. -/
def bcPhi (p : Bc.Program w) (c : Bc.Cfg w) : Nat :=
  (p.insts.size + 1 - c.pc) + c.budget * (p.insts.size + 2)

theorem bcPhi_lt_of_shape {p : Bc.Program w} {c c1 : Bc.Cfg w}
    (h : (c1.budget = c.budget ∧ c1.pc = c.pc + 1 ∧ c.pc < p.insts.size) ∨
      (c1.budget + 1 = c.budget ∧ c1.pc ≤ p.insts.size)) : bcPhi p c1 < bcPhi p c := by
  unfold bcPhi
  rcases h with ⟨h1, h2, h3⟩ | ⟨h1, h2⟩
  · rw [h1, h2]; omega
  · rw [← h1, Nat.succ_mul]; omega

/-- Only moving scans are excluded. -/
def ScanFree (p : Bc.Program w) : Prop :=
  ∀ (i : Nat) (cond sh : Int), p.insts[i]? = some (Bc.Instr.scan cond sh) → sh = 0

theorem bc_limited_halts_scanfree {p : Bc.Program w} (hsf : ScanFree p) (f : Nat) :
    ∀ c : Bc.Cfg w, bcPhi p c < f → ∀ c', Bc.runCfg p true f c ≠ .outOfFuel c' :=
  fun _ hf c' => (Bc.fuelRun p true).halts (I := fun _ => True) (μ := bcPhi p) (fun {c c1} _ hs => by
    rcases bc_step_erase p c with ⟨c2, hs2, _⟩ | ⟨_, _, hnext⟩
    · rw [hs] at hs2; cases hs2
    · rcases hnext c1 hs with h | h | ⟨cond, sh, hi, hsh, _⟩
      · exact ⟨trivial, bcPhi_lt_of_shape (Or.inl h)⟩
      · exact ⟨trivial, bcPhi_lt_of_shape (Or.inr h)⟩
      · exact (hsh (hsf _ _ _ hi)).elim) trivial hf c'

theorem bc_limited_halts (p : Bc.Program w) (n : Nat) :
    ∀ c : Bc.Cfg w, bcPhi p c < n → ∃ f, ∀ c', Bc.runCfg p true f c ≠ .outOfFuel c' := by
  induction n with
  | zero => intro c h; omega
  | succ n ih =>
    intro c hphi
    cases hs : Bc.step p true c with
    | next c1 =>
      rcases bc_step_erase p c with ⟨c2, hs2, _⟩ | ⟨_, _, hnext⟩
      · rw [hs] at hs2; cases hs2
      · rcases hnext c1 hs with h | h | ⟨cond, sh, hi, hsh, _⟩
        · obtain ⟨f, hf⟩ := ih c1 (by have := bcPhi_lt_of_shape (Or.inl h); omega)
          exact ⟨f + 1, fun c' => by rw [Bc.runCfg_succ_next hs]; exact hf c'⟩
        · obtain ⟨f, hf⟩ := ih c1 (by have := bcPhi_lt_of_shape (Or.inr h); omega)
          exact ⟨f + 1, fun c' => by rw [Bc.runCfg_succ_next hs]; exact hf c'⟩
        -- a moving scan: all its `k` steps at once (to `pc + 1`, same budget), whence `∃ f` and no bound in the budget
        · obtain ⟨k, c2, hk, hpc, hbud⟩ := bc_scan_terminates p true c hi hsh
          have hlt := (Array.getElem?_eq_some_iff.mp hi).1
          obtain ⟨f, hf⟩ := ih c2 (by
            have := bcPhi_lt_of_shape (p := p) (c := c) (c1 := c2) (Or.inl ⟨hbud, hpc, hlt⟩); omega)
          exact ⟨k + f, fun c' => by rw [hk f]; exact hf c'⟩
    | _ => exact ⟨1, fun c' => by simp [Bc.runCfg, hs]⟩

theorem ir_trace_add (l : Bool) (f g : Nat) (c : Ir.Cfg w) :
    traceOfIr (Ir.runCfg l f c) <:+ traceOfIr (Ir.runCfg l (f + g) c) :=
  (Ir.fuelRun l).obs_add traceOfIr (fun c => by
    have := Ir.step_trace l c
    rw [Ir.runCfg]
    cases hs : Ir.step l c <;> rw [hs] at this <;> exact this) f g c

theorem wrCfg_trace (c : Bc.Cfg w) (v : BitVec w) (l : Bc.Loc w) :
    (C11.wrCfg c v l).st.trace = c.st.trace := by
  cases l <;> rfl

theorem rdSt_trace (s : State w) (l : Bc.Loc w) : (C11.rdSt s l).trace = s.trace := by
  cases l <;> rfl

theorem arith_trace (c : Bc.Cfg w) (f : BitVec w → BitVec w → BitVec w) (d a b : Bc.Loc w) :
    (C11.arith c f d a b).cfg.st.trace = c.st.trace := by
  unfold C11.arith C11.binopCfg
  split
  · split <;> simp only [Bc.StepRes.cfg, wrCfg_trace, rdSt_trace]
  · rfl

theorem bc_step_trace (p : Bc.Program w) (l : Bool) (c : Bc.Cfg w) :
    c.st.trace <:+ (Bc.step p l c).cfg.st.trace := by
  cases hi : p.insts[c.pc]? with
  | none =>
    rw [C11.step_none hi]
    split <;> exact List.suffix_refl _
  | some ins =>
    rw [C11.step_eq hi]
    have same : ∀ {r : Bc.StepRes w}, r.cfg.st.trace = c.st.trace → c.st.trace <:+ r.cfg.st.trace := by
      intro r h
      cases r <;> exact h ▸ List.suffix_refl _
    cases ins with
    | noop | mov sh => exact List.suffix_refl _
    | scan cond sh => rcases C11.scan_cases p l c cond sh with h | h | h | h <;> rw [h] <;> exact List.suffix_refl _
    | inp dst =>
      simp only [C11.stepI]
      split <;> exact C01.input_trace c.st dst
    | out src =>
      simp only [C11.stepI]
      split <;> exact C01.output_trace c.st src
    | brz cond off | brnz cond off => exact same (congrArg State.trace (C11.branch_st p l c _ off).1)
    | add d a b | sub d a b | mul d a b => exact same (arith_trace c _ d a b)
    | copy d s =>
      simp only [C11.stepI]
      split
      · exact same (by simp only [Bc.StepRes.cfg, C11.copyCfg, wrCfg_trace, rdSt_trace])
      · exact List.suffix_refl _

theorem bc_trace_add (p : Bc.Program w) (l : Bool) (f g : Nat) (c : Bc.Cfg w) :
    traceOfBc (Bc.runCfg p l f c) <:+ traceOfBc (Bc.runCfg p l (f + g) c) :=
  (Bc.fuelRun p l).obs_add traceOfBc (fun c => by
    have := bc_step_trace p l c
    rw [Bc.runCfg]
    cases hs : Bc.step p l c <;> rw [hs] at this <;> exact this) f g c

end C07
end Hpbf
