/-
C03 (the JIT's instruction selectors): the code of a selector arm as a DERIVATION. Every arm of
`emitCopy/Add/Sub/Mul` is built by a few rules (choose an accumulator, load, combine, write the destination);
`ISel sz live c Ls d v xs` says that `xs` is built by these rules from operands among `Ls` and the destination
`d`, and computes `v`. A selector is traversed once, for `emitX … = some xs → ISel … xs`
(`emitCopy_sel` … `emitMul_sel`, next to the selectors' other theorems). What holds of every arm is read off the
derivation:

* `ISel.impl`: the code performs `d := v` (one case per rule, over the vocabulary of `C03Base`; what the rules ask
  of the operands, `LocOk` and `SrcOk`, is asked once, of `Ls`);
* `ISel.emits`: the code is not empty and every instruction `Uses` the operands `d :: Ls` (`C03Emits`).

What a derivation records beyond the code: the accumulator (`AccK`) and with it the temporary whose register is
overwritten (`ex`); a later temporary operand has to be another one (`Apart`), which is the selector's own test.

How the traversals `emitX_sel` are written: the case analysis is the selector's own (`split` on its `match`/`if`s,
in the order of the source); each arm names the accumulator it uses (`.scr0`: `rax`, also inside `.viaScr0`;
`.dst`: the destination's register; `.dead`: the register of a temporary that is not live) and the forms of its
load and combine steps; the store is determined by the destination. Names bound by `next`: `i…` cell offsets,
`t…` temporaries, `v` an immediate, in the order destination, operands.
-/
import Hpbf.Proofs.C03Emits

namespace Hpbf
namespace C03

open Asm JitGen X86Sem X86Prog

variable {w : Nat}

/-- The choice of the accumulator `r` for destination `d`, and the temporary whose register it is (`ex`;
that temporary is overwritten): a scratch register, the destination's own register, or the register of a
temporary that is not live. -/
inductive AccK (live : Nat) : Bc.Loc w → Option Nat → Reg → Prop
  | scr0 {d : Bc.Loc w} : AccK live d none scr0
  | dst {t0 : Nat} {r : Reg} (h : tmpReg t0 = some r) : AccK live (.tmp t0) (some t0) r
  | dead {d : Bc.Loc w} {ts : Nat} {r : Reg} (h : tmpReg ts = some r) (hs : canScratch live ts = true) :
      AccK live d (some ts) r

/-- The register temporaries that still agree once the register of `ex` is overwritten: the `S'` of
`AccFor` / `Produces`. -/
def exS (S : Nat → Prop) : Option Nat → Nat → Prop
  | none => S
  | some e => fun t => S t ∧ t ≠ e

/-- The operand `b` is not the temporary `ex`. -/
def Apart : Option Nat → Bc.Loc w → Prop
  | some e, .tmp t => t ≠ e
  | _, _ => True

theorem AccK.reg {live : Nat} {d : Bc.Loc w} {t : Nat} {r : Reg} (k : AccK live d (some t) r) :
    tmpReg t = some r := by
  cases k <;> assumption

theorem AccK.accFor {S : Nat → Prop} {live : Nat} {d : Bc.Loc w} {ex : Option Nat} {r : Reg}
    (k : AccK live d ex r) : AccFor S live d (exS S ex) r := by
  cases k with
  | scr0 => exact accFor_scr0
  | dst h => exact accFor_dst h
  | dead h hs => exact accFor_dead h hs

theorem Apart.srcOk {S : Nat → Prop} {ex : Option Nat} {b : Bc.Loc w} (h : Apart ex b) (hs : SrcOk S b) :
    SrcOk (exS S ex) b := by
  cases ex with
  | none => exact hs
  | some e =>
    cases b with
    | tmp t => exact fun ht => ⟨hs ht, h⟩
    | _ => trivial

section
variable (sz : Size) (live : Nat) (c : Bc.Cfg w) (Ls : List (Bc.Loc w)) (d : Bc.Loc w)

/-- `xs` brings `v` into the accumulator `r`. -/
inductive PSel : Option Nat → Reg → BitVec w → List X86 → Prop
  /-- `r := a`. -/
  | load {ex : Option Nat} {r : Reg} {a : Bc.Loc w} {x : X86} (k : AccK live d ex r) (ha : a ∈ Ls)
      (hl : Loads sz r a x) : PSel ex r (rv c a) [x]
  /-- `…; r := f r b`. -/
  | op {ex : Option Nat} {r : Reg} {y : BitVec w} {xs : List X86} {b : Bc.Loc w} {x : X86}
      {f : BitVec w → BitVec w → BitVec w} (hp : PSel ex r y xs) (hb : b ∈ Ls) (ho : Combines sz r f b x)
      (hna : Apart ex b) : PSel ex r (f y (rv c b)) (xs ++ [x])
  /-- The first operand is in its register `r`, which may be overwritten: `r := f r b`; `b` may be the same
  temporary. -/
  | srcOp {ts : Nat} {r : Reg} {b : Bc.Loc w} {x : X86} {f : BitVec w → BitVec w → BitVec w}
      (k : AccK live d (some ts) r) (ha : Bc.Loc.tmp ts ∈ Ls) (hb : b ∈ Ls) (ho : Combines sz r f b x) :
      PSel (some ts) r (f (rv c (.tmp ts)) (rv c b)) [x]
  /-- `lea r, [r1 + v]`. -/
  | lea1 {ex : Option Nat} {r r1 : Reg} {t1 : Nat} (k : AccK live d ex r) (h1 : tmpReg t1 = some r1)
      (ha : Bc.Loc.tmp t1 ∈ Ls) (v : BitVec w) (hv : fitsI32 (immI64 v) = true) :
      PSel ex r (rv c (.tmp t1) + v) [.lea r (.mem (some r1) none 1 (immI64 v))]
  /-- `lea r, [r0 + r1]`. -/
  | lea2 {ex : Option Nat} {r r0 r1 : Reg} {t0 t1 : Nat} (k : AccK live d ex r) (h0 : tmpReg t0 = some r0)
      (h1 : tmpReg t1 = some r1) (ha : Bc.Loc.tmp t0 ∈ Ls) (hb : Bc.Loc.tmp t1 ∈ Ls) :
      PSel ex r (rv c (.tmp t0) + rv c (.tmp t1)) [.lea r (.mem (some r0) (some r1) 1 0)]
  /-- `imul r, t, v`. -/
  | imul3 {ex : Option Nat} {r : Reg} {t : Nat} (k : AccK live d ex r) (ha : Bc.Loc.tmp t ∈ Ls) (v : BitVec w)
      (hv : fitsI32 (immI64 v) = true) :
      PSel ex r (rv c (.tmp t) * v) [.imulRRmImm r (tmpParam t) (immI64 v)]
  /-- `…; r2 := b; r := r * r2`: the second factor goes through a scratch register. -/
  | mulVia {ex : Option Nat} {r r2 : Reg} {y : BitVec w} {xs : List X86} {b : Bc.Loc w} {x : X86}
      (hp : PSel ex r y xs) (hb : b ∈ Ls) (hl : Loads sz r2 b x) (h2 : r2 = scr0 ∨ r2 = scr1) (hne : r ≠ r2)
      (hna : Apart ex b) : PSel ex r (y * rv c b) (xs ++ [x, .imulRRm r (.reg r2)])
  /-- The first factor is in its register `r`, which may be overwritten: `r2 := b; r := r * r2`. -/
  | srcVia {ts : Nat} {r r2 : Reg} {b : Bc.Loc w} {x : X86} (k : AccK live d (some ts) r)
      (ha : Bc.Loc.tmp ts ∈ Ls) (hb : b ∈ Ls) (hl : Loads sz r2 b x) (h2 : r2 = scr0 ∨ r2 = scr1) (hne : r ≠ r2)
      (hna : Apart (some ts) b) : PSel (some ts) r (rv c (.tmp ts) * rv c b) [x, .imulRRm r (.reg r2)]
end

section
variable (sz : Size) (live : Nat) (c : Bc.Cfg w) (Ls : List (Bc.Loc w))

/-- `xs` performs `d := v`. -/
inductive ISel : Bc.Loc w → BitVec w → List X86 → Prop
  /-- `…; d := r`. -/
  | st {d : Bc.Loc w} {ex : Option Nat} {r : Reg} {v : BitVec w} {xs : List X86}
      (hp : PSel sz live c Ls d ex r v xs) : ISel d v (xs ++ [.movRmR (dstSz sz d) (dstRm sz d) r])
  /-- The accumulator is the destination's register: no store. -/
  | dst {t0 : Nat} {r : Reg} {v : BitVec w} {xs : List X86} (hp : PSel sz live c Ls (.tmp t0) (some t0) r v xs) :
      ISel (.tmp t0) v xs
  /-- `d := v` for an immediate the instruction can hold. -/
  | movImm {d : Bc.Loc w} (v : BitVec w) (hv : fitsI32 (immI64 v) = true) :
      ISel d v [.movRmImm (dstSz sz d) (dstRm sz d) (truncImm (dstSz sz d) (immI64 v))]
  /-- The source is in a register: `d := r`. -/
  | stSrc {d : Bc.Loc w} {t : Nat} {r : Reg} (ht : tmpReg t = some r) (ha : Bc.Loc.tmp t ∈ Ls) :
      ISel d (rv c (.tmp t)) [.movRmR (dstSz sz d) (dstRm sz d) r]
  /-- `d := d + v` for an immediate the instruction can hold. -/
  | addImm {d : Bc.Loc w} (hd : d ∈ Ls) (v : BitVec w) (hv : fitsI32 (immI64 v) = true) :
      ISel d (rv c d + v) [.addRmImm (dstSz sz d) (dstRm sz d) (truncImm (dstSz sz d) (immI64 v))]
  /-- `…; d := f d r`. -/
  | accum {d : Bc.Loc w} {ex : Option Nat} {r : Reg} {y : BitVec w} {xs : List X86}
      (hp : PSel sz live c Ls d ex r y xs) (op : Alu) (hd : d ∈ Ls) (hna : Apart ex d) :
      ISel d (aluF op (rv c d) y) (xs ++ [rmr op (dstSz sz d) (dstRm sz d) r])
  /-- The second operand is in a register: `d := f d r`. -/
  | acc {d : Bc.Loc w} {t : Nat} {r : Reg} (ht : tmpReg t = some r) (op : Alu) (hb : Bc.Loc.tmp t ∈ Ls)
      (hd : d ∈ Ls) : ISel d (aluF op (rv c d) (rv c (.tmp t))) [rmr op (dstSz sz d) (dstRm sz d) r]
end

section
variable {sz : Size} {live : Nat} {c : Bc.Cfg w} {Ls : List (Bc.Loc w)} {d : Bc.Loc w}

/-- The commonest arm: `rax := a; rax := f rax b; d := rax`. -/
theorem ISel.viaScr0 {a b : Bc.Loc w} {x1 x2 : X86} {f : BitVec w → BitVec w → BitVec w} (ha : a ∈ Ls)
    (hl : Loads sz scr0 a x1) (hb : b ∈ Ls) (ho : Combines sz scr0 f b x2) :
    ISel sz live c Ls d (f (rv c a) (rv c b)) [x1, x2, .movRmR (dstSz sz d) (dstRm sz d) scr0] :=
  .st (.op (.load .scr0 ha hl) hb ho trivial)

theorem PSel.reg {ex : Option Nat} {t : Nat} {r : Reg} {v : BitVec w} {xs : List X86}
    (h : PSel sz live c Ls d ex r v xs) (e : ex = some t) : tmpReg t = some r := by
  induction h with
  | load k | lea1 k | lea2 k | imul3 k => subst e; exact k.reg
  | srcOp k | srcVia k => cases e; exact k.reg
  | op _ _ _ _ ih | mulVia _ _ _ _ _ _ ih => exact ih e

theorem PSel.ne_nil {ex : Option Nat} {r : Reg} {v : BitVec w} {xs : List X86}
    (h : PSel sz live c Ls d ex r v xs) : xs ≠ [] := by
  cases h <;> simp

/-- One instruction that puts `v` into the chosen accumulator. -/
theorem AccK.prod (hsz : sz.bits = w) {S : Nat → Prop} {ex : Option Nat} {r : Reg} {v : BitVec w} {x : X86}
    (k : AccK live d ex r)
    (hs : Writable r → ∀ m : MState w, RelOn S c m → ∃ V, StepTo x m (m.setReg r V) ∧ lo V = v) :
    Produces sz S live d (exS S ex) c r v [x] :=
  have hA := k.accFor (S := S)
  ⟨hsz, hA, fun m hrel => by
    obtain ⟨V, hs, hv⟩ := hs hA.acc.2 m hrel
    exact runs_setReg hs hA.acc hA.sub hrel hv⟩

theorem PSel.prod (hsz : sz.bits = w) {S : Nat → Prop} (hL : ∀ l ∈ Ls, LocOk l ∧ SrcOk S l) {ex : Option Nat}
    {r : Reg} {v : BitVec w} {xs : List X86} (h : PSel sz live c Ls d ex r v xs) :
    Produces sz S live d (exS S ex) c r v xs := by
  have hw := sz_le hsz
  induction h with
  | load k ha hl => exact k.prod hsz fun hr _ hrel => hl.step hsz (hL _ ha).1 (hL _ ha).2 hr hrel
  | op _ hb ho hna ih =>
    exact ⟨hsz, ih.acc, fun _ hrel => (ih.runs hrel).append fun _ h =>
      ho.runs hsz (hL _ hb).1 (fun _ e => rel_tmpVal h.1 (e ▸ hna.srcOk (hL _ hb).2)) ih.acc.acc
        (fun t h => (ih.acc.sub t h).2) h⟩
  | @srcOp ts _ _ _ _ k ha hb ho =>
    have hA := k.accFor (S := S)
    refine ⟨hsz, hA, fun m hrel => ?_⟩
    have h := holds_src hrel k.reg (hL _ ha).2 fun t h => (hA.sub t h).1
    refine ho.runs hsz (hL _ hb).1 (fun t e => ?_) hA.acc (fun t h => (hA.sub t h).2) h
    subst e
    -- the same temporary: `r` still holds it
    by_cases e : t = ts
    · subst e; simpa only [tmpVal, k.reg, rv] using h.2
    · exact rel_tmpVal h.1 fun hlt => ⟨(hL _ hb).2 hlt, e⟩
  | lea1 k h1 ha v _ =>
    exact k.prod hsz fun hr m hrel => ⟨_, stepTo_lea1 hr _ _ m, by
      rw [lo_add hw, (holds_src hrel h1 (hL _ ha).2 fun _ h => h).2, lo_immI64 hw]⟩
  | lea2 k h0 h1 ha hb =>
    exact k.prod hsz fun hr m hrel => ⟨_, stepTo_lea2 hr _ (acc_tmp h1).2.1 m, by
      rw [lo_add hw, (holds_src hrel h0 (hL _ ha).2 fun _ h => h).2,
        (holds_src hrel h1 (hL _ hb).2 fun _ h => h).2]⟩
  | imul3 k ha v _ =>
    exact k.prod hsz fun hr m hrel => ⟨_, stepTo_imulImm hr (operand_tmp (hL _ ha).1 m) _, by
      rw [lo_mul hw, rel_tmpVal hrel (hL _ ha).2, lo_immI64 hw]; rfl⟩
  | mulVia _ hb hl h2 hne hna ih => exact ih.mulVia hl h2 hne (hL _ hb).1 (hna.srcOk (hL _ hb).2)
  | srcVia k ha hb hl h2 hne hna =>
    exact (prod_src hsz k.accFor k.reg (hL _ ha).2).mulVia hl h2 hne (hL _ hb).1 (hna.srcOk (hL _ hb).2)

theorem ISel.impl (hsz : sz.bits = w) {S : Nat → Prop} (hL : ∀ l ∈ Ls, LocOk l ∧ SrcOk S l) {v : BitVec w}
    {xs : List X86} (h : ISel sz live c Ls d v xs) (hd : LocOk d) : Impl S live c d v xs := by
  have hw := sz_le hsz
  intro m hrel c' hc
  cases h with
  | st hp =>
    have P := hp.prod hsz hL
    exact (P.runs hrel).append fun _ h => (runs_st hsz hd h hc).mono fun _ h => relOn_mono h P.acc.post
  | dst hp =>
    have P := hp.prod hsz hL
    exact (P.runs hrel).mono fun _ h => relOn_mono (h.relOn_dst (hp.reg rfl) hc) P.acc.post
  | movImm v _ =>
    obtain ⟨a, wr, ho, -, -, -, hwr⟩ := operand_dst hsz hd hrel hc
    have hV : lo (immVal (truncImm (dstSz sz d) (immI64 v))) = v := by rw [truncImm_dst hsz, lo_immI64 hw]
    exact .step (stepTo_movRmImm _ ho) (hwr _ hV).2 fun _ _ => .nil (relOn_post (hwr _ hV).1)
  | stSrc ht ha =>
    exact (runs_st hsz hd (holds_src hrel ht (hL _ ha).2 fun _ h => h) hc).mono fun _ h => relOn_post h
  | addImm hd' v _ =>
    obtain ⟨a, wr, ho, hn, hn', ha, hwr⟩ := operand_dst hsz hd hrel hc
    have hV : lo (alu .add (dstSz sz d).bits a (immVal (truncImm (dstSz sz d) (immI64 v)))).1 = rv c d + v := by
      rw [lo_alu .add hn hn', ha (hL _ hd').2, truncImm_dst hsz, lo_immI64 hw]; rfl
    exact .step (stepTo_addRmImm _ ho) (hwr _ hV).2 fun _ _ => .nil (relOn_post (hwr _ hV).1)
  | accum hp op hd' hna =>
    have P := hp.prod hsz hL
    exact (P.runs hrel).append fun _ h =>
      (runs_accum hsz op hd (hna.srcOk (hL _ hd').2) h hc).mono fun _ h => relOn_mono h P.acc.post
  | acc ht op hb hd' =>
    exact (runs_accum hsz op hd (hL _ hd').2 (holds_src hrel ht (hL _ hb).2 fun _ h => h) hc).mono fun _ h =>
      relOn_post h

theorem rmFrom_dst : RmFrom sz (d :: Ls) (dstRm sz d) := by
  cases d with
  | mem i => exact .mem List.mem_cons_self
  | tmp t => exact .tmp List.mem_cons_self
  | _ => exact .reg _

theorem uses_rrm {L : List (Bc.Loc w)} {rm : RegMem} (op : Alu) {s : Size} {r : Reg} (h : RmFrom sz L rm) :
    Uses sz L (rrm op s r rm) := by
  cases op <;> exact uses_of_rm rfl h id

theorem uses_rmr {L : List (Bc.Loc w)} {rm : RegMem} (op : Alu) {s : Size} {r : Reg} (h : RmFrom sz L rm) :
    Uses sz L (rmr op s rm r) := by
  cases op <;> exact uses_of_rm rfl h id

theorem Loads.uses {L : List (Bc.Loc w)} {r : Reg} {a : Bc.Loc w} {x : X86} (hl : Loads sz r a x) (ha : a ∈ L) :
    Uses sz L x := by
  cases hl with
  | mem i => exact uses_of_rm rfl (.mem ha) id
  | tmp t => exact uses_of_rm rfl (.tmp ha) id
  | imm v => exact uses_of_none rfl (fitsS64_immI64 v)

theorem Combines.uses {L : List (Bc.Loc w)} {r : Reg} {b : Bc.Loc w} {x : X86}
    {f : BitVec w → BitVec w → BitVec w} (ho : Combines sz r f b x) (hb : b ∈ L) : Uses sz L x := by
  cases ho with
  | mem op i => exact uses_rrm op (.mem hb)
  | tmp op t => exact uses_rrm op (.tmp hb)
  | addImm v hv => exact uses_of_rm_imm (b := fitsS 32 (immI64 v)) rfl (.reg r) rfl (fitsS32_of_fitsI32 hv)
  | mulTmp t => exact uses_of_rm rfl (.tmp hb) id
  | mulImm v hv => exact uses_of_rm_imm (b := fitsS 32 (immI64 v)) rfl (.reg r) rfl (fitsS32_of_fitsI32 hv)

theorem PSel.uses {ex : Option Nat} {r : Reg} {v : BitVec w} {xs : List X86}
    (h : PSel sz live c Ls d ex r v xs) : ∀ x ∈ xs, Uses sz (d :: Ls) x := by
  have mem {l : Bc.Loc w} (h : l ∈ Ls) : l ∈ d :: Ls := List.mem_cons_of_mem _ h
  have one {x : X86} (h : Uses sz (d :: Ls) x) : ∀ y ∈ [x], Uses sz (d :: Ls) y := List.forall_mem_singleton.2 h
  have imul (r r2 : Reg) : Uses sz (d :: Ls) (.imulRRm r (.reg r2)) := uses_of_rm rfl (.reg _) id
  induction h with
  | load _ ha hl => exact one (hl.uses (mem ha))
  | op _ hb ho _ ih => exact List.forall_mem_append.2 ⟨ih, one (ho.uses (mem hb))⟩
  | srcOp _ _ hb ho => exact one (ho.uses (mem hb))
  | @lea1 _ _ r1 _ _ _ _ _ hv => exact one (uses_of_none rfl (fits_lea1 (r := r1) hv))
  | lea2 => exact one (uses_of_none rfl rfl)
  | imul3 _ ha _ hv => exact one (uses_of_rm_imm rfl (.tmp (mem ha)) rfl (fitsS32_of_fitsI32 hv))
  | mulVia _ hb hl _ _ _ ih =>
    exact List.forall_mem_append.2 ⟨ih, List.forall_mem_cons.2 ⟨hl.uses (mem hb), one (imul _ _)⟩⟩
  | srcVia _ _ hb hl => exact List.forall_mem_cons.2 ⟨hl.uses (mem hb), one (imul _ _)⟩

theorem ISel.emits {v : BitVec w} {xs : List X86} (h : ISel sz live c Ls d v xs) :
    xs ≠ [] ∧ ∀ x ∈ xs, Uses sz (d :: Ls) x := by
  have one {x : X86} (h : Uses sz (d :: Ls) x) : ∀ y ∈ [x], Uses sz (d :: Ls) y := List.forall_mem_singleton.2 h
  have rm : RmFrom sz (d :: Ls) (dstRm sz d) := rmFrom_dst
  cases h with
  | st hp => exact ⟨by simp, List.forall_mem_append.2 ⟨hp.uses, one (uses_of_rm rfl rm id)⟩⟩
  | dst hp => exact ⟨hp.ne_nil, hp.uses⟩
  | movImm v hv => exact ⟨by simp, one (uses_of_rm_imm rfl rm rfl (fitsS_truncImm hv))⟩
  | stSrc => exact ⟨by simp, one (uses_of_rm rfl rm id)⟩
  | addImm _ v hv => exact ⟨by simp, one (uses_of_rm_imm rfl rm rfl (fitsS_truncImm hv))⟩
  | accum hp op => exact ⟨by simp, List.forall_mem_append.2 ⟨hp.uses, one (uses_rmr op rm)⟩⟩
  | acc _ op => exact ⟨by simp, one (uses_rmr op rm)⟩

/-- A selector whose every answer is a derivation. Any configuration will do for `c`: it occurs only in the
value index of `ISel`, which `ISel.emits` ignores. -/
theorem emits_of_sel {o : Option (List X86)} {v : Bc.Cfg w → BitVec w}
    (h : ∀ c xs, o = some xs → ISel sz live c Ls d (v c) xs) : Emits sz (d :: Ls) o :=
  fun xs e => (h ⟨0, [], 0, State.init default⟩ xs e).emits

/-- The side conditions of `ISel.impl` for two operands. -/
theorem srcs_ok {S : Nat → Prop} {a b : Bc.Loc w} (ha : LocOk a) (hb : LocOk b) (hsa : SrcOk S a)
    (hsb : SrcOk S b) : ∀ l ∈ [a, b], LocOk l ∧ SrcOk S l :=
  List.forall_mem_cons.2 ⟨⟨ha, hsa⟩, List.forall_mem_singleton.2 ⟨hb, hsb⟩⟩

end

end C03
end Hpbf
