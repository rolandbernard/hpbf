/-
C11 (local clauses) for `translate`, in namespace `Hpbf.C02.Local`: the access window computed by
`Analysis::analyze` covers every tape operand of the code emitted by `emit_block`, and every destination of that
code is a cell or a temporary.  `irOffsL l` are all tape offsets mentioned by the IR instructions `l` (operands of
`output`/`input`, targets and variables of `calc`, conditions of loops and `if`s, recursively); bytecode operands
are, like IR offsets, relative to the current pointer, so no translation is involved.  `emit_allGood` is an instance of
`EmitClosed` (`C02AllocEmitI`); its clause for a `calc` is the walk over the expression code generator of `C02EmitWalk`
with the cells the code may name.
-/
import Hpbf.Proofs.C02AllocEmitI

namespace Hpbf
namespace C02

open Bc BcWf BcGen C11 C02Emit AEmit

variable {w : Nat}

namespace Local

mutual
def irOffs : Ir.Instr w → List Int
  | .output src => [src]
  | .input dst => [dst]
  | .calc calcs => calcs.flatMap (fun c => c.1 :: Expr.variables c.2)
  | .loop cond _ body _ => cond :: irOffsL body
  | .ifnz cond _ body => cond :: irOffsL body
def irOffsL : List (Ir.Instr w) → List Int
  | [] => []
  | i :: rest => irOffs i ++ irOffsL rest
end

def Cov (a : Analysis) (o : Int) : Prop := a.minAcc ≤ o ∧ o ≤ a.maxAcc
def LeW (a b : Analysis) : Prop := b.minAcc ≤ a.minAcc ∧ a.maxAcc ≤ b.maxAcc

theorem LeW.refl (a : Analysis) : LeW a a := ⟨Int.le_refl _, Int.le_refl _⟩
theorem LeW.trans {a b c : Analysis} (h1 : LeW a b) (h2 : LeW b c) : LeW a c :=
  ⟨Int.le_trans h2.1 h1.1, Int.le_trans h1.2 h2.2⟩
theorem Cov.mono {a b : Analysis} {o : Int} (h : Cov a o) (hl : LeW a b) : Cov b o :=
  ⟨Int.le_trans hl.1 h.1, Int.le_trans h.2 hl.2⟩

theorem accessed_spec (a : Analysis) (v : Int) : LeW a (a.accessed v) ∧ Cov (a.accessed v) v := by
  unfold LeW Cov
  by_cases h1 : a.minAcc > v <;> by_cases h2 : a.maxAcc < v <;>
    simp only [Analysis.accessed, h1, h2, if_true, if_false] <;> omega

theorem written_spec (a : Analysis) (v : Int) : LeW a (a.written v) ∧ Cov (a.written v) v := by
  obtain ⟨h1, h2⟩ := accessed_spec a v
  unfold Analysis.written
  dsimp only
  split
  · exact ⟨h1, h2⟩
  · exact ⟨h1, h2⟩

theorem foldl_accessed_spec : ∀ (vs : List Int) (a : Analysis),
    LeW a (vs.foldl Analysis.accessed a) ∧ ∀ v ∈ vs, Cov (vs.foldl Analysis.accessed a) v := by
  intro vs
  induction vs with
  | nil => intro a; exact ⟨LeW.refl _, fun v hv => by cases hv⟩
  | cons x xs ih =>
    intro a
    obtain ⟨h1, h2⟩ := ih (a.accessed x)
    obtain ⟨g1, g2⟩ := accessed_spec a x
    refine ⟨g1.trans h1, ?_⟩
    intro v hv
    rcases List.mem_cons.1 hv with rfl | hv
    · exact g2.mono h1
    · exact h2 v hv

theorem foldl_written_leW : ∀ (vs : List Int) (a : Analysis), LeW a (vs.foldl Analysis.written a) := by
  intro vs
  induction vs with
  | nil => intro a; exact LeW.refl _
  | cons x xs ih => intro a; exact (written_spec a x).1.trans (ih _)

theorem calc_spec : ∀ (calcs : List (Int × Expr w)) (a : Analysis),
    LeW a (a.calc calcs) ∧ ∀ o ∈ calcs.flatMap (fun c => c.1 :: Expr.variables c.2), Cov (a.calc calcs) o := by
  intro calcs
  induction calcs with
  | nil => intro a; exact ⟨LeW.refl _, fun o ho => by cases ho⟩
  | cons c cs ih =>
    intro a
    obtain ⟨f1, f2⟩ := foldl_accessed_spec (Expr.variables c.2) a
    obtain ⟨w1, w2⟩ := written_spec ((Expr.variables c.2).foldl Analysis.accessed a) c.1
    obtain ⟨i1, i2⟩ := ih (((Expr.variables c.2).foldl Analysis.accessed a).written c.1)
    have e : a.calc (c :: cs) =
        Analysis.calc (((Expr.variables c.2).foldl Analysis.accessed a).written c.1) cs := rfl
    rw [e]
    refine ⟨(f1.trans w1).trans i1, ?_⟩
    intro o ho
    simp only [List.flatMap_cons, List.mem_append, List.mem_cons] at ho
    rcases ho with (rfl | ho) | ho
    · exact w2.mono i1
    · exact ((f2 o ho).mono w1).mono i1
    · exact i2 o ho

theorem absorb_spec (a : Analysis) (cond : Int) (sub : Analysis) :
    LeW a (a.absorb cond sub) ∧ Cov (a.absorb cond sub) cond ∧ LeW sub (a.absorb cond sub) := by
  obtain ⟨a1, a2⟩ := accessed_spec a cond
  obtain ⟨b1, b2⟩ := accessed_spec (a.accessed cond) sub.minAcc
  obtain ⟨c1, c2⟩ := accessed_spec ((a.accessed cond).accessed sub.minAcc) sub.maxAcc
  have hlast : LeW (((a.accessed cond).accessed sub.minAcc).accessed sub.maxAcc) (a.absorb cond sub) := by
    unfold Analysis.absorb
    dsimp only
    split
    · exact LeW.refl _
    · split
      · exact foldl_written_leW _ _
      · exact LeW.refl _
  refine ⟨((a1.trans b1).trans c1).trans hlast, ((a2.mono b1).mono c1).mono hlast, ?_⟩
  have h1 := (b2.mono c1).mono hlast
  have h2 := c2.mono hlast
  exact ⟨h1.1, h2.2⟩

theorem close_window (a : Analysis) (shift : Int) :
    (a.close shift).minAcc = a.minAcc ∧ (a.close shift).maxAcc = a.maxAcc := by
  unfold Analysis.close; split <;> exact ⟨rfl, rfl⟩

theorem analyzeInsts_spec : ∀ (n : Nat) (l : List (Ir.Instr w)), iszL l ≤ n → ∀ a : Analysis,
    LeW a (analyzeInsts l a) ∧ ∀ o ∈ irOffsL l, Cov (analyzeInsts l a) o := by
  intro n
  induction n with
  | zero =>
    intro l hl a
    cases l with
    | nil => simp only [analyzeInsts, irOffsL]; exact ⟨LeW.refl _, fun o ho => by cases ho⟩
    | cons i rest => cases i <;> simp [iszL, isz] at hl <;> omega
  | succ n ih =>
    intro l hl a
    cases l with
    | nil => simp only [analyzeInsts, irOffsL]; exact ⟨LeW.refl _, fun o ho => by cases ho⟩
    | cons i rest =>
      rw [analyzeInsts, irOffsL]
      have hblock : ∀ (cond shift : Int) (body : List (Ir.Instr w)), iszL body ≤ n →
          LeW a (a.absorb cond ((analyzeInsts body Analysis.empty).close shift)) ∧
          ∀ o ∈ cond :: irOffsL body, Cov (a.absorb cond ((analyzeInsts body Analysis.empty).close shift)) o := by
        intro cond shift body hb
        obtain ⟨_, hbody⟩ := ih body hb Analysis.empty
        obtain ⟨cm, cM⟩ := close_window (analyzeInsts body Analysis.empty) shift
        obtain ⟨h1, h2, h3⟩ := absorb_spec a cond ((analyzeInsts body Analysis.empty).close shift)
        refine ⟨h1, ?_⟩
        intro o ho
        rcases List.mem_cons.1 ho with rfl | ho
        · exact h2
        · have := hbody o ho
          exact Cov.mono (a := (analyzeInsts body Analysis.empty).close shift) ⟨by rw [cm]; exact this.1,
            by rw [cM]; exact this.2⟩ h3
      have hi : LeW a (analyzeInstr i a) ∧ ∀ o ∈ irOffs i, Cov (analyzeInstr i a) o := by
        cases i with
        | output src =>
          simp only [analyzeInstr, irOffs, List.mem_singleton]
          exact ⟨(accessed_spec a src).1, fun o ho => ho ▸ (accessed_spec a src).2⟩
        | input dst =>
          simp only [analyzeInstr, irOffs, List.mem_singleton]
          exact ⟨(written_spec a dst).1, fun o ho => ho ▸ (written_spec a dst).2⟩
        | «calc» calcs =>
          simp only [analyzeInstr, irOffs]
          exact calc_spec calcs a
        | loop cond shift body once | ifnz cond shift body =>
          simp only [analyzeInstr, irOffs]
          simp only [iszL, isz] at hl
          exact hblock cond shift body (by omega)
      have hrest := ih rest (by
        have : 0 < isz i := by cases i <;> simp [isz] <;> omega
        simp only [iszL] at hl; omega) (analyzeInstr i a)
      refine ⟨hi.1.trans hrest.1, ?_⟩
      intro o ho
      rcases List.mem_append.1 ho with h | h
      · exact (hi.2 o h).mono hrest.1
      · exact hrest.2 o h

theorem analyze_covers (prog : Ir.Block w) :
    (analyze prog).minAcc ≤ 0 ∧ 0 ≤ (analyze prog).maxAcc ∧ ∀ o ∈ irOffsL prog.insts, Cov (analyze prog) o := by
  obtain ⟨h1, h2⟩ := analyzeInsts_spec _ prog.insts (Nat.le_refl _) Analysis.empty
  obtain ⟨cm, cM⟩ := close_window (analyzeInsts prog.insts Analysis.empty) prog.shift
  unfold analyze Cov
  rw [cm, cM]
  exact ⟨h1.1, h1.2, h2⟩

def GoodI (P : Int → Prop) (x : Instr w) : Prop := (∀ o ∈ memOps x, P o) ∧ dstOk x = true

abbrev AllGood (P : Int → Prop) (insts : Array (Instr w)) : Prop := AllQ (GoodI P) insts

theorem allGood_mono {P Q : Int → Prop} (h : ∀ o, P o → Q o) {insts : Array (Instr w)} (hg : AllGood P insts) :
    AllGood Q insts := fun i x hx => ⟨fun o ho => h o ((hg i x hx).1 o ho), (hg i x hx).2⟩

variable {P : Int → Prop}

theorem goodI_cell {x : Instr w} {m : Int} (hm : memOps x = [m]) (hd : dstOk x = true) (h : P m) :
    GoodI P x :=
  ⟨fun o ho => by rw [hm, List.mem_singleton] at ho; rw [ho]; exact h, hd⟩

theorem goodI_noop (P : Int → Prop) : GoodI P (.noop : Instr w) := ⟨(fun o ho => by cases ho), rfl⟩
theorem goodI_mov (P : Int → Prop) (sh : Int) : GoodI P (.mov sh : Instr w) := ⟨(fun o ho => by cases ho), rfl⟩

theorem good_getValue {e : GvnExpr w} {s s' : St w} {v : Nat} (h : AllGood P s.insts)
    (he : ∀ m, e = .mem m → P m) (hg : getValue e s = .ok (v, s')) : AllGood P s'.insts := by
  rcases getValue_spec hg with ⟨_, rfl⟩ | ⟨_, N⟩
  · exact h
  · obtain ⟨s2, h2, rfl⟩ := N.reads
    have hi := readsSpec_insts _ h2
    simp only at hi ⊢
    rw [hi]
    apply allQ_push h
    cases e with
    | mem m => exact goodI_cell rfl rfl (he m rfl)
    | imm c | add a b | sub a b | mul a b =>
      exact ⟨fun o ho => by simp [gvInst, memOps, locMem] at ho, rfl⟩

/-! `AllGood P` is an invariant of the walk over the expression code generator (`C02EmitWalk`), `P` being the cells the
code may name: a requested `mem m` is a variable of the expression, a written cell a target of the `calc`. -/

theorem good_calcValues {calcs : List (Int × Expr w)} {s s' : St w} {vals : List (Int × Nat)}
    (h : calcValues calcs s = .ok (vals, s')) (hv : ∀ c ∈ calcs, ∀ v ∈ Expr.variables c.2, P v)
    (hk : AllGood P s.insts) : AllGood P s'.insts :=
  (tr_false.1 (calcValues_trC (K := fun a => AllGood P a.insts) (V := fun _ _ => True) (Un := fun _ _ => False)
    (fun _ _ he hk _ => tr_false.2 fun _ _ h =>
      ⟨good_getValue hk he h, fun _ _ => trivial, fun _ _ => trivial, fun _ f => f.elim⟩) calcs hv hk) vals s' h).k

theorem good_memWrites {vals : List (Int × Nat)} {s s' : St w} {u : Unit} (h : memWrites vals s = .ok (u, s'))
    (hv : ∀ p ∈ vals, P p.1) (hk : AllGood P s.insts) : AllGood P s'.insts :=
  (tr_false.1 (memWrites_trC (K := fun a => AllGood P a.insts) (V := fun _ _ => True) (Un := fun _ _ => False)
    (fun var x s hp hk _ => tr_false.2 fun _ _ h => by
      refine ⟨?_, fun _ h => (by cases h), fun _ _ => trivial, fun _ f => f.elim⟩
      obtain ⟨s0, e0, rfl⟩ := memWrite_spec h
      simp only
      rw [e0.insts]
      exact allQ_push hk (goodI_cell rfl rfl hp)) vals hv hk (fun _ _ => trivial)) u s' h).k

theorem calcValues_keys : ∀ (calcs : List (Int × Expr w)) {s s' : St w} {vals : List (Int × Nat)},
    calcValues calcs s = .ok (vals, s') → vals.map (·.1) = calcs.map (·.1)
  | [], s, s', vals, h => by
    simp only [calcValues, pure_ok] at h
    rw [h.1]; rfl
  | (v, e) :: rest, s, s', vals, h => by
    simp only [calcValues, bind_ok, pure_ok] at h
    obtain ⟨x, s1, h1, r, s2, h2, rfl, rfl⟩ := h
    simp only [List.map_cons, calcValues_keys rest h2]

theorem gj_tail {i : Ir.Instr w} {rest : List (Ir.Instr w)}
    (h : ∀ o ∈ irOffsL (i :: rest), P o) : (∀ o ∈ irOffs i, P o) ∧ ∀ o ∈ irOffsL rest, P o := by
  rw [irOffsL] at h
  exact ⟨fun o ho => h o (List.mem_append_left _ ho), fun o ho => h o (List.mem_append_right _ ho)⟩

/-- The offsets of the IR still to be translated vouch for the cells of the code emitted for it. -/
theorem emitClosed_good (fuse : Bool) (P : Int → Prop) :
    EmitClosed fuse (fun l : List (Ir.Instr w) => ∀ o ∈ irOffsL l, P o) (GoodI P) where
  tail := fun h => (gj_tail h).2
  noop := goodI_noop P
  out := fun h => goodI_cell rfl rfl ((gj_tail h).1 _ (by simp [irOffs]))
  inp := fun h => goodI_cell rfl rfl ((gj_tail h).1 _ (by simp [irOffs]))
  expr := fun {calcs _ _ _ _ vals _} h hk hc hm => by
    have h1 := (gj_tail h).1
    have hmem : ∀ c ∈ calcs, P c.1 ∧ ∀ v ∈ Expr.variables c.2, P v := by
      intro c hc
      have hsub : ∀ o ∈ c.1 :: Expr.variables c.2, o ∈ irOffs (.calc calcs : Ir.Instr w) := by
        intro o ho
        simp only [irOffs, List.mem_flatMap]
        exact ⟨c, hc, ho⟩
      exact ⟨h1 _ (hsub _ List.mem_cons_self), fun v hv => h1 _ (hsub _ (List.mem_cons_of_mem _ hv))⟩
    refine good_memWrites hm ?_ (good_calcValues hc (fun c hc => (hmem c hc).2) hk)
    intro p hp
    have : p.1 ∈ vals.map (·.1) := List.mem_map.2 ⟨p, hp, rfl⟩
    rw [calcValues_keys calcs hc] at this
    obtain ⟨c, hc, e⟩ := List.mem_map.1 this
    rw [← e]; exact (hmem c hc).1
  scan := fun _ {_ _ _ _} h => goodI_cell rfl rfl ((gj_tail h).1 _ (by simp [irOffs]))
  loop := fun {c _ _ _ _} h =>
    have hc : P c := (gj_tail h).1 c (by simp [irOffs])
    ⟨goodI_mov P _, fun _ => goodI_cell rfl rfl hc, fun _ => goodI_cell rfl rfl hc,
      fun o ho => (gj_tail h).1 o (by simp [irOffs, ho])⟩
  ifnz := fun {c _ _ _} h =>
    ⟨goodI_mov P _, fun _ => goodI_cell rfl rfl ((gj_tail h).1 c (by simp [irOffs])),
      fun o ho => (gj_tail h).1 o (by simp [irOffs, ho])⟩

theorem emit_allGood {prog : Ir.Block w} {fuse : Bool} {s : St w} (h : emitState prog fuse = .ok s) :
    AllGood (fun o => o ∈ irOffsL prog.insts) s.insts :=
  emit_allQ (emitClosed_good fuse _) h fun _ ho => ho

end Local
end C02
end Hpbf
