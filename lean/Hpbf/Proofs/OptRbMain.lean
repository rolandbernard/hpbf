/-
The induction over `rebuildInstr` / `rebuildInsts` (`rebuildInsts_one`): every instruction list is simulated by the
code the rebuild emits for it (`StepAll`: simulation, footprints, frame), and the analysis nodes recorded on the way
are sound for that code (`AStep`).  Both are carried together as `StepAn`, because composing `AStep` needs exactly
the footprint and the validity transfer of the `StepAll` beside it.

The nodes of a previous analysis are OPTIONAL (`Prev`): either the state has none left (the first round; every child
of a block without node: `popSubAnal` yields `none` and the child asks its parent nothing), or there is one per
block and the nodes are sound for the runs from the guarded states.  The child of a block is entered at the heads
`HeadV G s ps …` of the block in both cases.

What the static passes say about the run at hand enters as ONE record, `Static ps l s s'` (`rebuildInsts_static`, first
section).
-/
import Hpbf.Proofs.OptRbAnFinishLoop
import Hpbf.Proofs.OptRbSubs
import Hpbf.Proofs.OptRbAnalCheck
import Hpbf.Proofs.OptRbEntry
import Hpbf.Proofs.OptRbRd5

namespace Hpbf
namespace OptProof
open Opt OptSem Ir

variable {w : Nat}

/-- Everything the static passes say about one run: normal form and well-formedness, known variables and `reads`
(`SK`), the recorded analysis tree and what the state may ask its parent (`BStep`, which extends `PStep`; under the
condition that the rebuilt code does not move the pointer). -/
structure Static (ps : List (Rebuild w)) (l : List (Instr w)) (s s' : Rebuild w) : Prop where
  sk : SK True s s'
  b : BStep ps s s' (C01Dse.noShiftL l = true)

theorem rebuildInsts_static {ps : List (Rebuild w)} (l : List (Instr w)) {s : Rebuild w}
    {os os' : Orders} {s' : Rebuild w} {done : Bool}
    (hr : (rebuildInsts ps s l).run os = .ok ((s', done), os')) (hwf : Wf s) (hc : CanonSt s)
    (hcl : CanonL l) : Static ps l s s' :=
  ⟨rebuildInsts_sk_all l hr hwf hc hcl, rebuildInsts_b_all l hr hwf⟩

theorem rebuildInstr_static {ps : List (Rebuild w)} {s : Rebuild w} (i : Instr w) {os os' : Orders}
    {s' : Rebuild w} (hr : (rebuildInstr ps s i).run os = .ok (s', os')) (hwf : Wf s) (hc : CanonSt s)
    (hci : CanonL [i]) : Static ps [i] s s' :=
  ⟨rebuildInstr_sk_all i hr hwf hc hci, (rebuild_b_tri.1 i ps s hwf).post hr⟩

theorem invA_child (sh : Int) (c : Option Int) (par : OptParent) (anal : Option (OptAnalysis w)) :
    InvA (reverseSubBlocks (Rebuild.new sh c par anal) : Rebuild w) := by
  have hch : Child (reverseSubBlocks (Rebuild.new sh c par anal) : Rebuild w) :=
    (child_new _ _ _ _).reverseSubBlocks
  obtain ⟨_, _, _, f4, _, f6, f7, _, _, f10, f11⟩ := reverseSubBlocks_fields (Rebuild.new sh c par anal : Rebuild w)
  refine ⟨hch.wf, hch.canon, ?_, ?_, hch.good, (shapeSt_new _ _ _ _).of_same f10 f11 f4⟩
  · intro _ v e hv
    rw [f7] at hv
    simp [Rebuild.new, mGet] at hv
  · rw [f6]
    exact List.Pairwise.nil

theorem InvA.step {ps : List (Rebuild w)} {l : List (Instr w)} {s s' : Rebuild w} (h : InvA s)
    (st : Static ps l s s') : InvA s' :=
  ⟨st.sk.c.wf, st.sk.c.canon, st.sk.known h.known, st.sk.sasc h.reads, (h.child.step st.sk.c).good, st.b.shapeSt h.shape⟩

/-- Code after a state that does not return is never reached: the source may be extended by anything. -/
theorem StepAll.extend_nofin {G : State w → Prop} {sh sh' : Int} {ps : List (Rebuild w)} {a b : Rebuild w}
    {src new : List (Instr w)} (h : StepAll G sh sh' ps a b src new) (hnr : b.noReturn = true)
    (rest : List (Instr w)) (sh'' : Int) : StepAll G sh sh'' ps a b (src ++ rest) new := by
  refine ⟨h.insts, h.wf, ⟨h.step.1, ?_⟩, h.foot, h.bad, h.frame, h.mono, h.keys⟩
  intro M0 σE σS hrel hG
  obtain ⟨hs, hb⟩ := h.step.2 M0 σE σS hrel hG
  have hq : ∀ x y, ¬ StepQ sh' ps b M0 σE x y := by
    rintro x y ⟨M0', hr', _⟩
    have := hr'.nr
    rw [hnr] at this; cases this
  refine ⟨⟨?_, ?_, ?_, ?_, ?_, ?_⟩, hb⟩
  · intro x hx
    rcases exec_append.1 hx with ⟨hnf, _⟩ | ⟨σ1, h1, _⟩
    · cases hnf
    · obtain ⟨y, _, hq'⟩ := hs.finL σ1 h1
      exact absurd hq' (hq σ1 y)
  · intro x hx
    rcases exec_append.1 hx with ⟨_, h1⟩ | ⟨σ1, h1, _⟩
    · exact hs.stopL x h1
    · obtain ⟨y, _, hq'⟩ := hs.finL σ1 h1
      exact absurd hq' (hq σ1 y)
  · intro t ht
    rcases exec_append.1 ht with ⟨_, h1⟩ | ⟨σ1, h1, _⟩
    · exact hs.partL t h1
    · obtain ⟨y, _, hq'⟩ := hs.finL σ1 h1
      exact absurd hq' (hq σ1 y)
  · intro y hy
    obtain ⟨x, _, hq'⟩ := hs.finR y hy
    exact absurd hq' (hq x y)
  · intro y hy
    obtain ⟨x, hx, hq'⟩ := hs.stopR y hy
    exact ⟨x, exec_append.2 (Or.inl ⟨rfl, hx⟩), hq'⟩
  · intro t ht
    exact exec_append.2 (Or.inl ⟨rfl, hs.partR t ht⟩)

/-- The child as `finishLoop` sees it (its shift installed or not): `StepAll` is kept when the result state is
retargeted. -/
theorem StepAll.retarget {G : State w → Prop} {sh shE shE' : Int} {ps : List (Rebuild w)} {a b b' : Rebuild w}
    {src new : List (Instr w)} (h : StepAll G sh shE ps a b src new)
    (hb' : b' = b ∨ ∃ x, b' = { b with shift := x } ∧ AskStable b x)
    (hoff : b.noReturn = false → shE' = shE) :
    StepAll G sh shE' ps a b' src new := by
  have hpk : ∀ M0, PK b ps M0 → PK b' ps M0 := by
    intro M0 hp
    rcases hb' with rfl | ⟨x, rfl, hx⟩
    · exact hp
    · exact hp.shift hx
  have f1 : b'.insts = b.insts := by rcases hb' with rfl | ⟨x, rfl, _⟩ <;> rfl
  have f2 : b'.subShift = b.subShift := by rcases hb' with rfl | ⟨x, rfl, _⟩ <;> rfl
  have f3 : b'.reads = b.reads := by rcases hb' with rfl | ⟨x, rfl, _⟩ <;> rfl
  have f4 : b'.written = b.written := by rcases hb' with rfl | ⟨x, rfl, _⟩ <;> rfl
  have f5 : b'.pending = b.pending := by rcases hb' with rfl | ⟨x, rfl, _⟩ <;> rfl
  have f6 : b'.noReturn = b.noReturn := by rcases hb' with rfl | ⟨x, rfl, _⟩ <;> rfl
  have f7 : b'.reverse = b.reverse := by rcases hb' with rfl | ⟨x, rfl, _⟩ <;> rfl
  have hfa : FootAll (ValidG G sh a ps) a b' new :=
    (FootAll.congr (V := ValidG G sh a ps) ⟨h.foot, h.bad, h.frame, h.mono, h.keys⟩ rfl rfl rfl f2 f3 f4)
  refine ⟨by rw [f1]; exact h.insts, ⟨by rw [f5]; exact h.wf.pend, by rw [f4]; exact h.wf.writ,
    by rw [f7]; exact h.wf.rev, by rw [f5, f7]; exact h.wf.revOk⟩, ⟨by rw [f2]; exact h.step.1, ?_⟩,
    hfa.1, hfa.2.1, hfa.2.2.1, hfa.2.2.2.1, hfa.2.2.2.2⟩
  intro M0 σE σS hrel hG
  obtain ⟨hs, hb⟩ := h.step.2 M0 σE σS hrel hG
  refine ⟨hs.mono ?_, hb⟩
  rintro x y ⟨M0', hr', hk'⟩
  have := hoff hr'.nr
  subst this
  refine ⟨M0', ⟨hr'.tr, hr'.env, hr'.ptr, by rw [f6]; exact hr'.nr, ?_⟩, by rw [f2]; exact hk'⟩
  exact ⟨by rw [f5]; exact hr'.inv.pend, hr'.inv.writ.of_written_eq f4, hpk M0' hr'.inv.pk⟩

theorem rebuildInsts_noReturn {ps : List (Rebuild w)} {s s' : Rebuild w} {l : List (Instr w)} {os os' : Orders}
    {done : Bool} (hnr : s.noReturn = true) (h : (rebuildInsts ps s l).run os = .ok ((s', done), os')) :
    s' = s := by
  cases l with
  | nil =>
    rw [rebuildInsts, run_pure] at h
    cases h; rfl
  | cons j rest =>
    rw [rebuildInsts, hnr] at h
    simp only [if_true] at h
    rw [run_pure] at h
    cases h; rfl

/-- Everything the induction delivers for one step: simulation and footprints (`StepAll`) and soundness of the nodes
recorded on the way (`AStep`). -/
structure StepAn (G : State w → Prop) (sh sh' : Int) (ps : List (Rebuild w)) (s s' : Rebuild w)
    (src new : List (Instr w)) : Prop where
  all : StepAll G sh sh' ps s s' src new
  an : AStep (ValidG G sh s ps) s s' new

theorem StepAn.refl (G : State w → Prop) (sh : Int) (ps : List (Rebuild w)) {s : Rebuild w} (hwf : Wf s) :
    StepAn G sh sh ps s s [] [] :=
  ⟨StepAll.refl G sh ps hwf, AStep.refl _ _⟩

theorem StepAn.trans {G G2 : State w → Prop} {sh1 sh2 sh3 : Int} {ps : List (Rebuild w)} {a b c : Rebuild w}
    {l1 l2 n1 n2 : List (Instr w)} (h1 : StepAn G sh1 sh2 ps a b l1 n1) (h2 : StepAn G2 sh2 sh3 ps b c l2 n2)
    (hg : ∀ M0 σE σS σS', RelAt sh1 a ps M0 σE σS → G σS → Exec l1 σS (.fin σS') → G2 σS') :
    StepAn G sh1 sh3 ps a c (l1 ++ l2) (n1 ++ n2) :=
  ⟨h1.all.trans h2.all hg,
    AStep.trans h1.an h2.an h1.all.foot (fun _ _ hv he => h1.all.step.valid hg hv he) h2.all.mono⟩

theorem stepAn_straight {G : State w → Prop} {ps : List (Rebuild w)} {s : Rebuild w} (hwf : Wf s)
    {i : Instr w} (hi : C01Dse.isBlock i = false) {os os' : Orders} {s' : Rebuild w}
    (hr : (rebuildInstr ps s i).run os = .ok (s', os')) :
    s'.noReturn = s.noReturn ∧ SameHdr s s' ∧ ∃ new, StepAn G s.shift s'.shift ps s s' [i] new := by
  obtain ⟨a1, a2, a3, _, new, hn, hsub, hst⟩ := rebuildInstr_straight hwf hi hr
  have f := new_elim hn (rebuildInstr_straight_all hwf hi hr)
  have n := rebuildInstr_nstep hr hwf hi
  exact ⟨a2, a3, _, ⟨hn, a1, ⟨hsub, fun M0 σE σS hrel _ => hst M0 σE σS hrel⟩, f.foot.toV _,
    footBadV_of_noBlocks f.noBlocks, f.phys.footFrameV _, f.mono, f.keys⟩, AStep.of_noBlocks f.noBlocks n.subAnal⟩

/-- Without nodes nothing is claimed. -/
theorem analInL_no_nodes : ∀ (l : List (Instr w)) (G : State w → Prop), AnalInL G l []
  | [], G => analInL_nil G []
  | i :: rest, G => by
    cases hb : C01Dse.isBlock i with
    | false => rw [analInL_cons_nonblock G hb]; exact analInL_no_nodes rest _
    | true => exact analInL_cons_block_nil G hb rest

/-- What is assumed about the previous analysis when `l` is rebuilt from `s`.  The nodes are optional: none is left
(every `popSubAnal` yields `none` and the child of a block asks its parent nothing), or there is one per block. -/
def Prev (G : State w → Prop) (ps : List (Rebuild w)) (s : Rebuild w) (l : List (Instr w)) : Prop :=
  (subsOf s = [] ∨ ShapeL l (subsOf s)) ∧ AnalInL G l (subsOf s) ∧ StableAsk s l ∧ PVClean s ps

def ListRes (G : State w → Prop) (ps : List (Rebuild w)) (s s' : Rebuild w) (done : Bool)
    (l : List (Instr w)) : Prop :=
  s'.cond = s.cond ∧
  ∃ shE new, StepAn G s.shift shE ps s s' l new ∧ (s'.noReturn = false → shE = s'.shift ∧ done = true)

def ListStmt (l : List (Instr w)) : Prop :=
  ∀ (G : State w → Prop) (ps : List (Rebuild w)) (s : Rebuild w) (os os' : Orders) (s' : Rebuild w)
    (done : Bool),
    (rebuildInsts ps s l).run os = .ok ((s', done), os') → InvA s → CanonL l → s.noReturn = false →
    Prev G ps s l → ListRes G ps s s' done l

def InstrRes (G : State w → Prop) (ps : List (Rebuild w)) (s s' : Rebuild w) (i : Instr w) : Prop :=
  s'.cond = s.cond ∧ subsOf s' = (if C01Dse.isBlock i then (subsOf s).tail else subsOf s) ∧
  ∃ shE, (s'.noReturn = false → shE = s'.shift) ∧ ∃ new, StepAn G s.shift shE ps s s' [i] new

/-- The statement for one instruction takes the parts of `Prev` it needs, for the list `i :: rest` the instruction
heads: the arm of a block pops its node from the nodes of the whole list, and shows `PVClean` of the child itself. -/
def InstrStmt (i : Instr w) : Prop :=
  ∀ (G : State w → Prop) (ps : List (Rebuild w)) (s : Rebuild w) (os os' : Orders) (s' : Rebuild w)
    (rest : List (Instr w)),
    (rebuildInstr ps s i).run os = .ok (s', os') → InvA s → CanonL [i] →
    (subsOf s = [] ∨ ShapeL (i :: rest) (subsOf s)) → AnalInL G (i :: rest) (subsOf s) → StableAsk s [i] →
    InstrRes G ps s s' i

/-- A property of the rebuilt child that does not look at `shift` holds of the child as `finishLoop` gets it. -/
theorem addShift_ind {P : Rebuild w → Prop} {r : Rebuild w} (completed : Bool) (shift : Int) (h : P r)
    (hs : ∀ x, P { r with shift := x }) : P (addShift (r, completed) shift) := by
  unfold addShift
  split
  · exact hs _
  · exact h

/-- The `Loop` / `If` arm once the body has been rebuilt from the fresh child `sub0` into `subR`: what `finishLoop`
asks of the child is read off the child's `StepAn` and the static passes.  `haskR`, `hpvSub`, `hsf`: adding the
block's shift to the child does not change what the child may ask its parent, nor what the parent may ask. -/
theorem blockArm_finish (hw : 0 < w) {G Gc : State w → Prop} {ps : List (Rebuild w)} {s sub0 subR : Rebuild w}
    {c shS : Int} {body : List (Instr w)} {isLoop oS completed : Bool} {os os1 os' : Orders} {s' : Rebuild w}
    (h1 : (rebuildInsts (s :: ps) sub0 body).run os = .ok ((subR, completed), os1))
    (h2 : (finishLoop s ps (addShift (subR, completed) shS) (c + s.shift) isLoop).run os1 = .ok (s', os'))
    (hwf : Wf s) (hcs : CanonSt s) (hinv0 : InvA sub0) (hcb : CanonL body) (st : Static (s :: ps) body sub0 subR)
    (hi0 : sub0.insts = []) (hw0 : sub0.written = []) (hp0 : sub0.pending = []) (hsa0 : sub0.subAnal = [])
    (hrd0 : RdSt sub0)
    {shE : Int} {newC : List (Instr w)} (hanR : StepAn Gc s.shift shE (s :: ps) sub0 subR body newC)
    (hoffR : subR.noReturn = false → shE = subR.shift ∧ completed = true)
    (haskR : AskStable subR (subR.shift + shS))
    (hpvSub : PVClean (addShift (subR, completed) shS) (s :: ps))
    (hcondR : subR.cond = some (c + s.shift))
    (hsf : (addShift (subR, completed) shS).subShift = false → AskStable s (addShift (subR, completed) shS).shift)
    (hentry : EntryAt Gc s.shift c (s :: ps) sub0)
    (hGcH : HeadsIn G Gc s.shift s ps c shS body (isLoop = false)) :
    s'.anal = s.anal ∧ s'.cond = s.cond ∧
    ∃ shE', (s'.noReturn = false → shE' = s'.shift) ∧
      ∃ new, StepAn G s.shift shE' ps s s' [blockInstr isLoop c shS body oS] new := by
  have hallR := hanR.all
  have hinvR : InvA subR := hinv0.step st
  have hchR : Child subR := hinvR.child
  have hsubEq : addShift (subR, completed) shS = subR ∨
      ∃ x, addShift (subR, completed) shS = { subR with shift := x } ∧ AskStable subR x := by
    unfold addShift
    split
    · exact Or.inr ⟨_, rfl, haskR⟩
    · exact Or.inl rfl
  -- (`shC` as a variable: the terms below stay small)
  obtain ⟨shC, hshC'⟩ : ∃ shC : Int,
      shC = (addShift (subR, completed) shS).shift - shS := ⟨_, rfl⟩
  have hall : StepAll Gc s.shift shC (s :: ps) sub0 (addShift (subR, completed) shS) body newC := by
    refine hallR.retarget hsubEq ?_
    intro hnr
    obtain ⟨e1, e2⟩ := hoffR hnr
    rw [hshC', e2, e1]
    show subR.shift + shS - shS = subR.shift
    omega
  have hinstsC : (addShift (subR, completed) shS).insts = newC := by
    rw [hall.insts, hi0]; rfl
  have hiR : subR.insts = newC := by rw [hallR.insts, hi0]; rfl
  rw [← hinstsC] at hall
  have hrdSt : RdSt subR := (rebuildInsts_rstep_all body h1 hinv0.wf hinv0.canon hcb).rdSt hrd0
  have hch := addShift_ind (P := RdSt) completed shS hrdSt (fun _ => hrdSt.of_same rfl rfl rfl (fun _ h => h) rfl)
  have hcan := addShift_ind (P := CanonSt) completed shS hinvR.canon (fun _ => hinvR.canon)
  have hkv := addShift_ind (P := KnownVars) completed shS hinvR.known (fun _ => hinvR.known)
  have hrd := addShift_ind (P := fun r => OptLoop.SAsc r.reads) completed shS hinvR.reads (fun _ => hinvR.reads)
  have hcf := addShift_ind (P := fun r => r.cond = some (c + s.shift)) completed shS hcondR (fun _ => hcondR)
  obtain ⟨w1, w2, w3, shE', new, hEs, hi, hstep, hfootA, hA⟩ :=
    finishLoop_all_g (G := G) (Gc := Gc) (cS := c) (shP := s.shift) (shC := shC)
      (shS := shS) (bodyS := body) (oS := oS) hw h2 hwf hcs hsf rfl
      (by rw [hshC']; omega) hall hi0 hw0 hp0 hentry hGcH hcan hkv hrd hch hpvSub hcf
      (addShift_ind (P := ChildAn (ValidG Gc s.shift sub0 (s :: ps)) sub0) _ _ ⟨by rw [hiR]; exact hanR.an, hsa0, hinvR.shape, hchR⟩
        (fun _ => ⟨AStep.congr_right (s' := subR) rfl rfl rfl (by rw [hiR]; exact hanR.an), hsa0,
          hinvR.shape.of_same rfl rfl rfl, hchR.of_fields rfl rfl rfl rfl⟩))
  exact ⟨w2, w3, shE', fun hn => by rw [hEs hn]; omega, new,
    ⟨hi, w1, hstep, hfootA.1, hfootA.2.1, hfootA.2.2.1, hfootA.2.2.2.1, hfootA.2.2.2.2⟩, hA⟩

/-- Under `atMostOnce` the only head at which the body is entered is head `0`. -/
theorem head_amo_zero {G : State w → Prop} {c sh : Int} {body : List (Instr w)} {A : OptAnalysis w}
    (hB : BlockIn G true c sh body A) (hamo : A.loopAnal.atMostOnce = true) {σ σk : State w} (hG : G σ)
    {k : Nat} (hh : Head c sh body σ k σk) (hne : σk.rd c ≠ 0#w) : σk = σ := by
  cases k with
  | zero => exact head_zero_inv hh
  | succ j =>
    exfalso
    obtain ⟨hnz, σ1, hex, hh1⟩ := head_uncons hh
    have hz := hB.amo hamo rfl σ hG hnz σ1 hex
    cases j with
    | zero =>
      have := head_zero_inv hh1
      rw [this] at hne
      exact hne hz
    | succ j' =>
      obtain ⟨hnz', _⟩ := head_uncons hh1
      exact hnz' hz

/-- The child of a block with a node `A` is entered at the heads `HeadV`: what the node allows it to ask its parent
holds there (`entry_anal_pk`). -/
theorem entry_headV {G : State w → Prop} {s : Rebuild w} {ps : List (Rebuild w)} (hcs : CanonSt s)
    {isLoop : Bool} {c shS : Int} {body : List (Instr w)} {A : OptAnalysis w}
    (hB : BlockIn G isLoop c shS body A) :
    EntryAt (HeadV G s ps isLoop c shS body) s.shift c (s :: ps) (freshChildA s.shift (c + s.shift) A) := by
  intro σE σk hm _ hgc
  obtain ⟨hne, M0p, σEp, σSp, hrelP, hG, hk⟩ := hgc
  obtain ⟨m1, m2, m3, m4⟩ := hm
  have hag : ∀ v, canAskParentFor (freshChildA s.shift (c + s.shift) A) v = true →
      σk.rd (v - s.shift) = σSp.rd (v - s.shift) := by
    intro v hv
    cases isLoop with
    | false =>
      simp only [Bool.false_eq_true, if_false] at hk
      rw [hk]
    | true =>
      simp only [if_true] at hk
      obtain ⟨k, hh⟩ := hk
      cases hamo : A.loopAnal.atMostOnce with
      | true => rw [head_amo_zero hB hamo hG hh hne]
      | false =>
        rw [canAsk_freshChildA, hamo] at hv
        simp only [Bool.false_or, Bool.and_eq_true, Bool.not_eq_true'] at hv
        exact (hB.clob hamo hv.2 rfl σSp hG k σk hh).2 _ hv.1
  have hpk := entry_anal_pk hcs A (cS := c) hrelP hag hne
  have hmem : memE (σk.mov (-s.shift)) = memE σE := by
    rw [← m4]
    funext v
    show σk.tape.get (σk.ptr + -s.shift + v) = σk.tape.get (σE.ptr + v)
    rw [m3]; congr 1; omega
  rw [hmem] at hpk
  obtain ⟨_, _, _, _, f5, _, f7, f8, _⟩ :=
    reverseSubBlocks_fields (Rebuild.new s.shift (some (c + s.shift)) .parent (some A) : Rebuild w)
  refine ⟨memE σE, m1, m2, m3, by unfold freshChildA; rw [f5]; rfl, ?_, ?_, hpk⟩
  · have : (freshChildA s.shift (c + s.shift) A : Rebuild w).pending = [] := by
      unfold freshChildA; rw [f8]; rfl
    rw [this, par_nil]; exact m4
  · intro v
    have : (freshChildA s.shift (c + s.shift) A : Rebuild w).written = [] := by
      unfold freshChildA; rw [f7]; rfl
    rw [this]; rfl

/-- `HeadV` is the guard that holds at the heads at which the body of the block is entered. -/
theorem headsIn_headV (G : State w → Prop) (s : Rebuild w) (ps : List (Rebuild w)) (isLoop : Bool) (c shS : Int)
    (body : List (Instr w)) :
    HeadsIn G (HeadV G s ps isLoop c shS body) s.shift s ps c shS body (isLoop = false) := by
  intro M0 σE σS hrel hG k σk hh hk0 hne
  refine ⟨hne, M0, σE, σS, hrel, hG, ?_⟩
  cases isLoop with
  | true => exact ⟨k, hh⟩
  | false =>
    have := hk0 rfl
    subst this
    exact head_zero_inv hh

/-- The node `popSubAnal` hands to the child of a block is absent, or fits the block and is sound. -/
def NodeOk (G : State w → Prop) (s : Rebuild w) (isLoop : Bool) (c shS : Int) (body : List (Instr w)) (oS : Bool)
    (subs' : List (OptAnalysis w)) : Prop :=
  (subsOf s = [] ∧ subs' = []) ∨
  ∃ A, subsOf s = A :: subs' ∧ ShapeI (blockInstr isLoop c shS body oS) A ∧ BlockIn G isLoop c shS body A ∧
    AnalInL (HeadG G isLoop c shS body) body A.subBlocks

theorem blockParts_blockInstr (isLoop : Bool) (c shS : Int) (body : List (Instr w)) (oS : Bool) :
    C01Dse.blockParts (blockInstr isLoop c shS body oS) = some (c, shS, body) := by
  cases isLoop <;> simp [blockInstr, C01Dse.blockParts]

theorem shapeI_blockInstr {isLoop : Bool} {c shS : Int} {body : List (Instr w)} {oS : Bool}
    {A : OptAnalysis w} (h : ShapeI (blockInstr isLoop c shS body oS) A) : ShapeL body A.subBlocks := by
  cases isLoop with
  | true =>
    have h' : ShapeI (.loop c shS body oS) A := by simpa [blockInstr] using h
    exact (shapeI_loop h').2.2.2
  | false =>
    have h' : ShapeI (.ifnz c shS body) A := by simpa [blockInstr] using h
    exact (shapeI_ifnz h').2.2

theorem nodeOk_of_prev {G : State w → Prop} {s : Rebuild w} {isLoop : Bool} {c shS : Int}
    {body rest : List (Instr w)} {oS : Bool}
    (hfit : subsOf s = [] ∨ ShapeL (blockInstr isLoop c shS body oS :: rest) (subsOf s))
    (han : AnalInL G (blockInstr isLoop c shS body oS :: rest) (subsOf s)) :
    NodeOk G s isLoop c shS body oS (subsOf s).tail := by
  have hbl : C01Dse.isBlock (blockInstr isLoop c shS body oS) = true := by cases isLoop <;> rfl
  rcases hfit with h | h
  · exact Or.inl ⟨h, by rw [h]; rfl⟩
  · rw [shapeL_cons_block hbl] at h
    obtain ⟨A, subs', hsubs, hshape, _⟩ := h
    rw [hsubs, analInL_cons_block G hbl] at han
    refine Or.inr ⟨A, by rw [hsubs]; rfl, hshape, ?_⟩
    cases isLoop with
    | true => exact (analInI_loop G c shS body oS A).1 han.1
    | false => exact (analInI_ifnz G c shS body A).1 han.1

/-- The `Loop` / `If` arm (`rebuildInstr_block_eq`): the body is rebuilt in the fresh child `blockChild s c` under the
parent after the pop, then `finishLoop` gets the child with the block's shift added.  The child is entered at the heads `HeadV` of the block; without a node it asks its parent nothing
(`entry_noanal`), with a node the node is sound at those heads (`entry_headV`). -/
theorem blockArm (hw : 0 < w) {G : State w → Prop} {ps : List (Rebuild w)} {s : Rebuild w}
    {c shS : Int} {body : List (Instr w)} {isLoop oS : Bool}
    (IH : ListStmt body) {os os1 os' : Orders} {subR s' : Rebuild w} {completed : Bool}
    (h1 : (rebuildInsts ((popSubAnal s).1 :: ps) (blockChild s c) body).run os = .ok ((subR, completed), os1))
    (h2 : (finishLoop (popSubAnal s).1 ps (addShift (subR, completed) shS) (c + s.shift) isLoop).run os1
      = .ok (s', os'))
    (hinv : InvA s) (hcb : CanonL body) {subs' : List (OptAnalysis w)}
    (hnode : NodeOk G s isLoop c shS body oS subs')
    (hst : StableAsk s [blockInstr isLoop c shS body oS]) :
    s'.cond = s.cond ∧ subsOf s' = subs' ∧
    ∃ shE, (s'.noReturn = false → shE = s'.shift) ∧
      ∃ new, StepAn G s.shift shE ps s s' [blockInstr isLoop c shS body oS] new := by
  -- the state `s1` after the pop (only `anal` differs from `s`) and the node `sa` handed to the child
  obtain ⟨s1, hs1⟩ : ∃ s1, (popSubAnal s).1 = s1 := ⟨_, rfl⟩
  obtain ⟨sa, hsa⟩ : ∃ sa, (popSubAnal s).2 = sa := ⟨_, rfl⟩
  unfold blockChild at h1
  rw [hs1] at h1 h2
  rw [hsa] at h1
  obtain ⟨p1, p2, p3, p4, p5, p6, p7, p8, p9, p10, p11⟩ := hs1 ▸ popSubAnal_same s
  have hinv1 : InvA s1 := hs1 ▸ popSubAnal_invA hinv
  have hst1 : StableAsk s1 [blockInstr isLoop c shS body oS] :=
    stableAsk_of_core hst (hs1 ▸ acore_popSubAnal s)
  have hrelpop : ∀ (sh : Int) (M0 : Mem w) (σE σS : State w),
      RelAt sh s1 ps M0 σE σS ↔ RelAt sh s ps M0 σE σS := fun _ _ _ _ => hs1 ▸ relAt_pop
  have hpop : (sa = none ∧ subsOf s = []) ∨ ∃ A, sa = some A ∧ subsOf s = A :: subs' := by
    rcases hnode with ⟨h, rfl⟩ | ⟨A, h, _⟩
    · rw [popSubAnal_nil h] at hsa; exact Or.inl ⟨hsa.symm, h⟩
    · exact Or.inr ⟨A, hsa.symm.trans (popSubAnal_cons h).1, h⟩
  have hpop1 : subsOf s1 = subs' := by
    rcases hnode with ⟨h, rfl⟩ | ⟨A, h, _⟩
    · rw [popSubAnal_nil h] at hs1; rw [← hs1]; exact h
    · rw [← hs1]; exact (popSubAnal_cons h).2
  rw [← p2] at h1 h2
  have hp := blockParts_blockInstr isLoop c shS body oS
  have hinv0 : InvA (reverseSubBlocks (Rebuild.new s1.shift (some (c + s1.shift)) .parent sa) : Rebuild w) :=
    invA_child _ _ _ _
  obtain ⟨_, f2, f3, f4, f5, f6, f7, f8, _, f10, f11⟩ :=
    reverseSubBlocks_fields (Rebuild.new s1.shift (some (c + s1.shift)) .parent sa : Rebuild w)
  have st := rebuildInsts_static (ps := s1 :: ps) body h1 hinv0.wf hinv0.canon hcb
  have hcoreR : acore subR = sa.map (fun a => (a.loopAnal.atMostOnce, a.hasShift, a.clobbered)) :=
    st.b.core.trans (acore_child _ _ _ _)
  -- what depends on the node: the hypothesis for the body, the entry relation, the shifts that may be installed
  have hnodeC : Prev (HeadV G s1 ps isLoop c shS body) (s1 :: ps)
        (reverseSubBlocks (Rebuild.new s1.shift (some (c + s1.shift)) .parent sa)) body ∧
      EntryAt (HeadV G s1 ps isLoop c shS body) s1.shift c (s1 :: ps)
        (reverseSubBlocks (Rebuild.new s1.shift (some (c + s1.shift)) .parent sa)) ∧
      AskStable subR (subR.shift + shS) ∧
      PVClean (addShift (subR, completed) shS) (s1 :: ps) := by
    rcases hnode with ⟨hnil, _⟩ | ⟨A, hsubs, hshape, hB, hAn⟩
    · rcases hpop with ⟨rfl, _⟩ | ⟨A, _, h⟩
      swap
      · rw [hnil] at h; cases h
      have hindR : ShiftIndep subR := by unfold ShiftIndep; rw [hcoreR]; trivial
      have hpvR : PVClean subR (s1 :: ps) :=
        st.b.pv (Or.inl (by unfold ShiftIndep; rw [acore_child]; trivial)) (pvClean_child _ _ _ _ _)
      refine ⟨⟨Or.inl (subsOf_new_none _ _ _), by rw [subsOf_new_none]; exact analInL_no_nodes _ _,
        stableAsk_child _ _ _ _ _ (fun _ h => by cases h), pvClean_child _ _ _ _ _⟩,
        entry_noanal (s1 :: ps) _ rfl rfl rfl rfl rfl, askStable_of_shiftIndep hindR _,
        addShift_ind (P := fun r => PVClean r (s1 :: ps)) _ _ hpvR (fun _ => pvClean_setShift hindR _ hpvR)⟩
    · rcases hpop with ⟨_, h⟩ | ⟨A', rfl, h⟩
      · rw [hsubs] at h; cases h
      obtain rfl : A' = A := by rw [hsubs] at h; cases h; rfl
      obtain ⟨_, hpvSub, hstC⟩ := child_pv hshape hp s1.shift (c + s1.shift) (s1 :: ps) h1
      have hsub0 : subsOf (reverseSubBlocks (Rebuild.new s1.shift (some (c + s1.shift)) .parent (some A')) :
          Rebuild w) = A'.subBlocks := subsOf_child _ _ _ _
      have hflag := (stableAsk_child_of_shapeI hshape s1.shift (some (c + s1.shift)) .parent hp).2
      refine ⟨⟨Or.inr (by rw [hsub0]; exact shapeI_blockInstr hshape), ?_, hstC, pvClean_child _ _ _ _ _⟩,
        entry_headV hinv1.canon hB, ?_, hpvSub⟩
      · rw [hsub0]
        exact analInL_cover body A'.subBlocks _ (fun σ hσ => ⟨_, hσ.headG, hAn⟩)
      · rcases hflag with h | h | h
        · exact askStable_of_shiftIndep (by unfold ShiftIndep; rw [hcoreR]; exact Or.inl h) _
        · exact askStable_of_shiftIndep (by unfold ShiftIndep; rw [hcoreR]; exact Or.inr h) _
        · exact AskStable.of_eq (by rw [h]; omega)
  obtain ⟨hprevC, hentry, haskR, hpvSub⟩ := hnodeC
  obtain ⟨hcondR, shE, newC, hanR, hoffR⟩ :=
    IH (HeadV G s1 ps isLoop c shS body) (s1 :: ps) _ os os1 subR completed h1 hinv0 hcb (by rw [f5]; rfl) hprevC
  rw [show (reverseSubBlocks (Rebuild.new s1.shift (some (c + s1.shift)) .parent sa) : Rebuild w).shift = s1.shift
    from f2] at hanR
  have hsf : (addShift (subR, completed) shS).subShift = false →
      AskStable s1 (addShift (subR, completed) shS).shift := by
    intro _
    obtain ⟨a1, a2⟩ := askStable_block (s := s1) (s1 := s1) (ps := ps) hst1 hp h1 (by rw [f2]; rfl)
      hinv0.wf
    unfold addShift
    split
    · exact a2
    · exact a1
  obtain ⟨w2, w3, shE', hEs, new, hstep⟩ :=
    blockArm_finish (G := G) (Gc := HeadV G s1 ps isLoop c shS body) (oS := oS) hw h1 h2 hinv1.wf hinv1.canon
      hinv0 hcb st (by rw [f10]; rfl) (by rw [f7]; rfl) (by rw [f8]; rfl) (by rw [f11]; rfl) (rdSt_fresh _ _ _ _)
      hanR hoffR haskR hpvSub
      (hcondR.trans (by rw [f3]; rfl)) hsf hentry (headsIn_headV G s1 ps isLoop c shS body)
  have hV : ValidG G s1.shift s1 ps = ValidG G s.shift s ps := by
    funext σ
    apply propext
    unfold ValidG
    constructor
    · rintro ⟨M0, σS, hr', hg⟩
      exact ⟨M0, σS, by rw [← p2]; exact (hrelpop _ _ _ _).1 hr', hg⟩
    · rintro ⟨M0, σS, hr', hg⟩
      exact ⟨M0, σS, (hrelpop _ _ _ _).2 (by rw [p2]; exact hr'), hg⟩
  have hall := hstep.all
  have hfootS : FootAll (ValidG G s.shift s ps) s s' new := by
    rw [← hV]
    exact FootAll.congr (V := ValidG G s1.shift s1 ps) ⟨hall.foot, hall.bad, hall.frame, hall.mono, hall.keys⟩
      p4.symm p6.symm p7.symm rfl rfl rfl
  refine ⟨w3.trans p3, (subsOf_congr w2).trans hpop1, shE', hEs, new,
    ⟨by rw [hall.insts, p10], hall.wf, ⟨fun h => by rw [← p4]; exact hall.step.1 h, ?_⟩, hfootS.1, hfootS.2.1,
      hfootS.2.2.1, hfootS.2.2.2.1, hfootS.2.2.2.2⟩, ?_⟩
  · intro M0 σE σS hrel hG
    exact hall.step.2 M0 σE σS ((hrelpop _ _ _ _).2 (by rw [p2]; exact hrel)) hG
  · rw [← hV]
    exact AStep.congr_left p11.symm p7.symm hstep.an

theorem stableAsk_head {s : Rebuild w} {i : Instr w} {rest : List (Instr w)} (h : StableAsk s (i :: rest)) :
    StableAsk s [i] := by
  rcases h with h | h
  · exact Or.inl h
  · rw [C01Dse.noShiftL] at h
    simp only [Bool.and_eq_true] at h
    refine Or.inr ?_
    rw [C01Dse.noShiftL, h.1]; rfl

/-- The hypothesis on the previous analysis passes to the rest of the list, for the states after the first
instruction. -/
theorem Prev.rest {G : State w → Prop} {ps : List (Rebuild w)} {s s1 : Rebuild w} {i : Instr w}
    {rest : List (Instr w)} (hprev : Prev G ps s (i :: rest)) (st : Static ps [i] s s1)
    (hsubs1 : subsOf s1 = (if C01Dse.isBlock i then (subsOf s).tail else subsOf s)) :
    Prev (AfterG G [i]) ps s1 rest := by
  obtain ⟨hfit, han, hst, hpv⟩ := hprev
  refine ⟨?_, ?_, stableAsk_tail hst st.b.core, st.b.pv (stableAsk_head hst) hpv⟩
  · rcases hfit with h | hsh
    · exact Or.inl (by rw [hsubs1, h]; simp)
    · refine Or.inr ?_
      rw [hsubs1]
      cases hbl : C01Dse.isBlock i with
      | false => exact (shapeL_cons_nonblock hbl).1 hsh
      | true =>
        rw [shapeL_cons_block hbl] at hsh
        obtain ⟨A, subs', hsubs, _, hrest⟩ := hsh
        rw [hsubs]; exact hrest
  · rw [hsubs1]
    cases hbl : C01Dse.isBlock i with
    | false => exact (analInL_cons_nonblock G hbl rest _).1 han
    | true =>
      simp only [if_true]
      cases hsubs : subsOf s with
      | nil => exact analInL_no_nodes _ _
      | cons A subs' =>
        rw [hsubs, analInL_cons_block G hbl] at han
        exact han.2

/-- One instruction and one list, by the recursion of `Instr`. -/
theorem rebuild_one (hw : 0 < w) : (∀ i : Instr w, InstrStmt i) ∧ ∀ l : List (Instr w), ListStmt l := by
  refine instr_list_induction ?_ ?_ ?_ ?_ ?_
  · intro i hnb G ps s os os' s' rest hr hinv _ _ _ _
    obtain ⟨_, hdr, new, hstep⟩ := stepAn_straight (G := G) hinv.wf hnb hr
    exact ⟨hdr.cond, by rw [hnb]; exact subsOf_congr hdr.anal, s'.shift, fun _ => rfl, new, hstep⟩
  · intro c sh body o IH G ps s os os' s' rest hr hinv hci hfit han hst
    rw [rebuildInstr, run_bind_ok] at hr
    obtain ⟨⟨subR, completed⟩, os1, h1, h2⟩ := hr
    exact blockArm (G := G) (isLoop := true) (oS := o) hw IH h1 h2 hinv (canonL_loop.1 hci)
      (nodeOk_of_prev (isLoop := true) hfit han) hst
  · intro c sh body IH G ps s os os' s' rest hr hinv hci hfit han hst
    rw [rebuildInstr, run_bind_ok] at hr
    obtain ⟨⟨subR, completed⟩, os1, h1, h2⟩ := hr
    exact blockArm (G := G) (isLoop := false) (oS := false) hw IH h1 h2 hinv (canonL_ifnz.1 hci)
      (nodeOk_of_prev (isLoop := false) hfit han) hst
  · intro G ps s os os' s' done hr hinv _ _ _
    rw [rebuildInsts, run_pure] at hr
    cases hr
    exact ⟨rfl, s.shift, [], StepAn.refl _ _ ps hinv.wf, fun _ => ⟨rfl, rfl⟩⟩
  · intro i rest ihi ihl G ps s os os' s' done hr hinv hcl hnr hprev
    rw [canonL_cons] at hcl
    have hci : CanonL [i] := canonL_single.2 hcl.1
    rw [rebuildInsts, hnr] at hr
    simp only [Bool.false_eq_true, if_false] at hr
    rw [run_bind_ok] at hr
    obtain ⟨s1, os1, h1, h2⟩ := hr
    obtain ⟨hc1, hsubs1, shE1, hoff1, new1, hstep1⟩ :=
      ihi G ps s os os1 s1 rest h1 hinv hci hprev.1 hprev.2.1 (stableAsk_head hprev.2.2.1)
    have st := rebuildInstr_static i h1 hinv.wf hinv.canon hci
    cases hnr1 : s1.noReturn with
    | true =>
      obtain rfl : s' = s1 := rebuildInsts_noReturn hnr1 h2
      refine ⟨hc1, shE1, new1, ⟨?_, hstep1.an⟩, fun h => by rw [hnr1] at h; cases h⟩
      simpa using hstep1.all.extend_nofin hnr1 rest shE1
    | false =>
      obtain rfl := hoff1 hnr1
      obtain ⟨hc2, shE2, new2, hstep2, hoff2⟩ :=
        ihl (AfterG G [i]) ps s1 os1 os' s' done h2 (hinv.step st) hcl.2 hnr1 (hprev.rest st hsubs1)
      refine ⟨hc2.trans hc1, shE2, new1 ++ new2, ?_, hoff2⟩
      simpa using hstep1.trans hstep2 (fun _ _ σS σS' _ hG hex => ⟨σS, hG, hex⟩)

/-- Every instruction list is simulated by the code the rebuild emits for it, and the nodes recorded on the way
are sound for that code: for the runs that start in guarded states for which the nodes of the previous analysis
(if the state has any) are sound. -/
theorem rebuildInsts_one (hw : 0 < w) (l : List (Instr w)) : ListStmt l := (rebuild_one hw).2 l

#print axioms rebuildInsts_one

end OptProof
end Hpbf
