/-
C02: `parameter_reordering` preserves the semantics of every single instruction EXACTLY, provided no operand is
`Loc.memZero`. That location is read-AND-CLEAR, so the order in which the two sources of `add`/`mul` are read is
observable (`memZero_order_matters`); the generator runs `parameter_reordering` BEFORE `zeroing_move_detection`,
the only pass that creates `memZero`. Without it every read is pure, so the two-operand form chosen by `sameDst`
(reads `src1` FIRST, then `dst`) and the three-operand form (reads `src0` first) compute the same value
(`binopCfg_pure`), and `sub x imm ↦ add x (-imm)` is `x + (-imm)` in the model as in
`wrapping_sub`/`wrapping_add (wrapping_neg)`.
-/
import Hpbf.Proofs.C02Base
import Hpbf.Proofs.C02Shape

namespace Hpbf
namespace C02

open Bc BcWf BcGen C11

variable {w : Nat}

def locNoZero : Loc w → Bool
  | .memZero _ => false
  | _ => true

def noMemZero : Instr w → Bool
  | .add d a b => locNoZero d && locNoZero a && locNoZero b
  | .sub d a b => locNoZero d && locNoZero a && locNoZero b
  | .mul d a b => locNoZero d && locNoZero a && locNoZero b
  | .copy d s => locNoZero d && locNoZero s
  | _ => true

abbrev NoMemZero (ins : Instr w) : Prop := noMemZero ins = true

theorem rdSt_noZero (s : State w) {l : Loc w} (h : locNoZero l = true) : rdSt s l = s := by
  cases l <;> simp_all [rdSt, locNoZero]

theorem rdVal_st (c : Cfg w) (l : Loc w) : rdVal { c with st := c.st } l = rdVal c l := rfl

theorem binopCfg_pure (f : BitVec w → BitVec w → BitVec w) (c : Cfg w) (d a b : Loc w)
    (ha : locNoZero a = true) (hb : locNoZero b = true) :
    binopCfg f c d a b = wrCfg c (f (rdVal c a) (rdVal c b)) d := by
  unfold binopCfg
  by_cases h : sameDst d a = true
  · have hd := sameDst_eq h
    subst hd
    simp only [h, if_true, rdSt_noZero _ ha, rdSt_noZero _ hb]
  · simp only [h, rdSt_noZero _ ha, rdSt_noZero _ hb]
    rfl

theorem binopCfg_comm (f : BitVec w → BitVec w → BitVec w) (hf : ∀ x y, f x y = f y x) (c : Cfg w)
    (d a b : Loc w) (ha : locNoZero a = true) (hb : locNoZero b = true) :
    binopCfg f c d b a = binopCfg f c d a b := by
  rw [binopCfg_pure f c d a b ha hb, binopCfg_pure f c d b a hb ha, hf]

theorem reorderComm_cases (d a b : Loc w) :
    reorderComm d a b = (a, b) ∨ reorderComm d a b = (b, a) := by
  have sw : ∀ (c : Prop) [Decidable c] {x y : Loc w}, ((x, y) = (a, b) ∨ (x, y) = (b, a)) →
      ((if c then (y, x) else (x, y)) = (a, b) ∨ (if c then (y, x) else (x, y)) = (b, a)) := by
    intro c _ x y h
    split
    · rcases h with h | h <;> cases h
      · exact Or.inr rfl
      · exact Or.inl rfl
    · exact h
  unfold reorderComm
  split
  rename_i s0 s1 h1
  have e1 : (s0, s1) = (a, b) ∨ (s0, s1) = (b, a) := by
    rw [← h1]
    split
    · exact sw _ (Or.inl rfl)
    · exact Or.inr rfl
    · exact Or.inl rfl
  have e2 := sw (isImm s0 = true) e1
  clear h1 e1
  split
  rename_i t0 t1 h2
  rw [h2] at e2
  exact sw _ e2

theorem arith_comm (f : BitVec w → BitVec w → BitVec w) (hf : ∀ x y, f x y = f y x) (c : Cfg w)
    (d a b : Loc w) (ha : locNoZero a = true) (hb : locNoZero b = true) :
    arith c f d (reorderComm d a b).1 (reorderComm d a b).2 = arith c f d a b := by
  rcases reorderComm_cases d a b with h | h <;> rw [h]
  simp only [arith, binopCfg_comm f hf c d a b ha hb]

theorem stepI_size {p q : Program w} (h : q.insts.size = p.insts.size) (limited : Bool) (c : Cfg w)
    (ins : Instr w) : stepI q limited c ins = stepI p limited c ins := by
  cases ins <;> simp only [stepI, branch, h]

theorem arith_imm_imm (f : BitVec w → BitVec w → BitVec w) (c : Cfg w) (d : Loc w) (x y : BitVec w) :
    arith c f d (.imm x) (.imm y) =
      (if isDst d then .next { copyCfg c d (.imm (f x y)) with pc := c.pc + 1 } else .bad c) := by
  simp only [arith, binopCfg_pure f c d (.imm x) (.imm y) rfl rfl, copyCfg, rdVal, rdSt]

theorem arith_sub_imm (c : Cfg w) (d a : Loc w) (k : BitVec w) (ha : locNoZero a = true) :
    arith c (fun x y => x + (-y)) d a (.imm k) = arith c (· + ·) d a (.imm (-k)) := by
  simp only [arith, binopCfg_pure _ c d a (.imm k) ha rfl, binopCfg_pure _ c d a (.imm (-k)) ha rfl, rdVal]

theorem reorderInst_add (d a b : Loc w) : reorderInst (.add d a b) =
    match a, b with
    | .imm x, .imm y => .copy d (.imm (x + y))
    | _, _ => .add d (reorderComm d a b).1 (reorderComm d a b).2 := by
  cases a <;> cases b <;> rfl

theorem reorderInst_mul (d a b : Loc w) : reorderInst (.mul d a b) =
    match a, b with
    | .imm x, .imm y => .copy d (.imm (x * y))
    | _, _ => .mul d (reorderComm d a b).1 (reorderComm d a b).2 := by
  cases a <;> cases b <;> rfl

theorem reorderInst_sub (d a b : Loc w) : reorderInst (.sub d a b) =
    match a, b with
    | .imm x, .imm y => .copy d (.imm (x + (-y)))
    | _, .imm y => .add d (reorderComm d a (.imm (-y))).1 (reorderComm d a (.imm (-y))).2
    | _, _ => .sub d a b := by
  cases a <;> cases b <;> rfl

/-- What `reorderInst` does: nothing; or it folds two immediate sources into a `copy`; or it swaps the sources of
an `add`/`mul`; or it turns `sub d a (imm c)` into the `add` of `imm (-c)`, sources in either order. -/
theorem reorderInst_cases (x : Instr w) :
    reorderInst x = x ∨
    (∃ op d a b v, x = mkArith op d (.imm a) (.imm b) ∧ reorderInst x = .copy d (.imm v)) ∨
    (∃ d a b, x = .add d a b ∧ reorderInst x = .add d b a) ∨
    (∃ d a b, x = .mul d a b ∧ reorderInst x = .mul d b a) ∨
    (∃ d a c, x = .sub d a (.imm c) ∧
      (reorderInst x = .add d a (.imm (-c)) ∨ reorderInst x = .add d (.imm (-c)) a)) := by
  cases x with
  | add d a b =>
    rw [reorderInst_add]
    split
    · exact Or.inr (Or.inl ⟨.add, d, _, _, _, rfl, rfl⟩)
    · rcases reorderComm_cases d a b with e | e <;> rw [e]
      · exact Or.inl rfl
      · exact Or.inr (Or.inr (Or.inl ⟨d, a, b, rfl, rfl⟩))
  | mul d a b =>
    rw [reorderInst_mul]
    split
    · exact Or.inr (Or.inl ⟨.mul, d, _, _, _, rfl, rfl⟩)
    · rcases reorderComm_cases d a b with e | e <;> rw [e]
      · exact Or.inl rfl
      · exact Or.inr (Or.inr (Or.inr (Or.inl ⟨d, a, b, rfl, rfl⟩)))
  | sub d a b =>
    rw [reorderInst_sub]
    split
    · exact Or.inr (Or.inl ⟨.sub, d, _, _, _, rfl, rfl⟩)
    · rename_i c _
      refine Or.inr (Or.inr (Or.inr (Or.inr ⟨d, a, c, rfl, ?_⟩)))
      rcases reorderComm_cases d a (.imm (-c)) with e | e <;> rw [e]
      · exact Or.inl rfl
      · exact Or.inr rfl
    · exact Or.inl rfl
  | _ => exact Or.inl rfl

theorem stepI_reorderInst (p : Program w) (limited : Bool) (c : Cfg w) (ins : Instr w)
    (hz : NoMemZero ins) : stepI p limited c (reorderInst ins) = stepI p limited c ins := by
  cases ins with
  | add d a b =>
    simp only [NoMemZero, noMemZero, Bool.and_eq_true] at hz
    rw [reorderInst_add]
    split
    · simp only [stepI, arith_imm_imm]
    · exact arith_comm (· + ·) BitVec.add_comm c d a b hz.1.2 hz.2
  | mul d a b =>
    simp only [NoMemZero, noMemZero, Bool.and_eq_true] at hz
    rw [reorderInst_mul]
    split
    · simp only [stepI, arith_imm_imm]
    · exact arith_comm (· * ·) BitVec.mul_comm c d a b hz.1.2 hz.2
  | sub d a b =>
    simp only [NoMemZero, noMemZero, Bool.and_eq_true] at hz
    rw [reorderInst_sub]
    split
    · simp only [stepI, arith_imm_imm]
    · exact (arith_comm (· + ·) BitVec.add_comm c d a _ hz.1.2 rfl).trans (arith_sub_imm c d a _ hz.1.2).symm
    · rfl
  | _ => rfl

theorem noMemZero_reorderInst {ins : Instr w} (hz : NoMemZero ins) : NoMemZero (reorderInst ins) := by
  have comm : ∀ d a b : Loc w, locNoZero d = true → locNoZero a = true → locNoZero b = true →
      (locNoZero d && locNoZero (reorderComm d a b).1 && locNoZero (reorderComm d a b).2) = true := by
    intro d a b hd ha hb
    rcases reorderComm_cases d a b with h | h <;> rw [h] <;> simp [hd, ha, hb]
  cases ins with
  | copy d s => exact hz
  | add d a b =>
    simp only [NoMemZero, noMemZero, Bool.and_eq_true] at hz
    rw [reorderInst_add]
    split
    · simp only [NoMemZero, noMemZero, hz.1.1]; rfl
    · exact comm d a b hz.1.1 hz.1.2 hz.2
  | mul d a b =>
    simp only [NoMemZero, noMemZero, Bool.and_eq_true] at hz
    rw [reorderInst_mul]
    split
    · simp only [NoMemZero, noMemZero, hz.1.1]; rfl
    · exact comm d a b hz.1.1 hz.1.2 hz.2
  | sub d a b =>
    rw [reorderInst_sub]
    split
    · simp only [NoMemZero, noMemZero, Bool.and_eq_true] at hz
      simp only [NoMemZero, noMemZero, hz.1.1]; rfl
    · simp only [NoMemZero, noMemZero, Bool.and_eq_true] at hz
      exact comm d a _ hz.1.1 hz.1.2 rfl
    · exact hz
  | _ => rfl

theorem getElem?_none_of_size {α : Type} {a b : Array α} (h : a.size = b.size) {i : Nat}
    (hi : a[i]? = none) : b[i]? = none := by
  rw [Array.getElem?_eq_none_iff] at hi ⊢
  omega

theorem reorderInst_step (p : Program w) (limited : Bool) (c : Cfg w) (i : Nat) (ins : Instr w)
    (hi : p.insts[i]? = some ins) (hz : NoMemZero ins) :
    step { p with insts := p.insts.setIfInBounds i (reorderInst ins) } limited c = step p limited c := by
  have hsz : (p.insts.setIfInBounds i (reorderInst ins)).size = p.insts.size := Array.size_setIfInBounds ..
  cases hpc : p.insts[c.pc]? with
  | none =>
    have hq : (p.insts.setIfInBounds i (reorderInst ins))[c.pc]? = none :=
      getElem?_none_of_size hsz.symm hpc
    rw [step_none hpc, step_none hq, hsz]
  | some ins' =>
    have hlt : c.pc < p.insts.size := lt_of_getElem? hpc
    by_cases hci : i = c.pc
    · subst hci
      have : ins' = ins := by rw [hi] at hpc; exact (Option.some.inj hpc).symm
      subst this
      have hq : ({ p with insts := p.insts.setIfInBounds c.pc (reorderInst ins') } : Program w).insts[c.pc]?
          = some (reorderInst ins') := by
        simp [hlt]
      rw [step_eq hq, step_eq hpc, stepI_size (p := p) hsz, stepI_reorderInst p limited c ins' hz]
    · have hq : ({ p with insts := p.insts.setIfInBounds i (reorderInst ins) } : Program w).insts[c.pc]?
          = some ins' := by
        simp [hci, hpc]
      rw [step_eq hq, step_eq hpc, stepI_size (p := p) hsz]

theorem map_reorderInst_step (p q : Program w) (hq : q.insts = p.insts.map reorderInst)
    (hz : ∀ ins ∈ p.insts, NoMemZero ins) (limited : Bool) (c : Cfg w) :
    step q limited c = step p limited c := by
  have hsz : q.insts.size = p.insts.size := by rw [hq, Array.size_map]
  cases hpc : p.insts[c.pc]? with
  | none =>
    have hq' : q.insts[c.pc]? = none := getElem?_none_of_size hsz.symm hpc
    rw [step_none hpc, step_none hq', hsz]
  | some ins =>
    have hq' : q.insts[c.pc]? = some (reorderInst ins) := by
      rw [hq, Array.getElem?_map, hpc]; rfl
    rw [step_eq hq', step_eq hpc, stepI_size hsz,
      stepI_reorderInst p limited c ins (hz ins (Array.mem_of_getElem? hpc))]

theorem map_reorderInst_run (p q : Program w) (hq : q.insts = p.insts.map reorderInst)
    (hz : ∀ ins ∈ p.insts, NoMemZero ins) (limited : Bool) (b fuel : Nat) (env : Env) :
    Bc.run q limited b fuel env = Bc.run p limited b fuel env := by
  have hrun : ∀ (fuel : Nat) (c : Cfg w), runCfg q limited fuel c = runCfg p limited fuel c := by
    intro fuel
    induction fuel with
    | zero => intro c; rfl
    | succ n ih =>
      intro c
      simp only [runCfg, map_reorderInst_step p q hq hz]
      cases step p limited c <;> simp only [ih]
  unfold Bc.run
  simp only [hrun]

/-- The generator state seen as a program (the other fields are irrelevant: `run_fields_irrelevant`). -/
def progOf (s : St w) (temps : Nat) (minAcc maxAcc : Int) : Program w :=
  { temps := temps, minAcc := minAcc, maxAcc := maxAcc, live := s.live, insts := s.insts }

/-- Stronger than `BehEq`: the runs are EQUAL (same fuel, same outcome including pc and temporaries). -/
theorem parameterReordering_run_eq (s : St w) (hz : ∀ ins ∈ s.insts, NoMemZero ins) (t : Nat)
    (mn mx : Int) (limited : Bool) (b fuel : Nat) (env : Env) :
    Bc.run (progOf (parameterReordering s) t mn mx) limited b fuel env
      = Bc.run (progOf s t mn mx) limited b fuel env :=
  map_reorderInst_run (progOf s t mn mx) (progOf (parameterReordering s) t mn mx) rfl hz limited b fuel env

theorem parameterReordering_preserves (s : St w) (hz : ∀ ins ∈ s.insts, NoMemZero ins) (t : Nat)
    (mn mx : Int) : BehEq (progOf s t mn mx) (progOf (parameterReordering s) t mn mx) := by
  constructor <;> intro limited b fuel env <;> refine ⟨fuel, ?_⟩
  · rw [parameterReordering_run_eq s hz]; exact ObsEq'.refl _
  · rw [parameterReordering_run_eq s hz]; exact ObsEq'.refl _

theorem parameterReordering_noMemZero (s : St w) (hz : ∀ ins ∈ s.insts, NoMemZero ins) :
    ∀ ins ∈ (parameterReordering s).insts, NoMemZero ins := by
  intro ins hin
  simp only [parameterReordering, Array.mem_map] at hin
  obtain ⟨a, ha, rfl⟩ := hin
  exact noMemZero_reorderInst (hz a ha)

theorem parameterReordering_live (s : St w) : (parameterReordering s).live = s.live := rfl
theorem parameterReordering_size (s : St w) : (parameterReordering s).insts.size = s.insts.size := by
  simp [parameterReordering]

/-- With a read-and-clear operand the read order is observable: the two orders of the same two sources
give different results (`[0] = 3`: `3 + 0` versus `3 + 3`). -/
def exOrderA : Program 8 :=
  { temps := 1, minAcc := 0, maxAcc := 0, live := #[0, 0],
    insts := #[.copy (.mem 0) (.imm 3#8), .add (.tmp 0) (.memZero 0) (.mem 0)] }
def exOrderB : Program 8 :=
  { exOrderA with insts := #[.copy (.mem 0) (.imm 3#8), .add (.tmp 0) (.mem 0) (.memZero 0)] }

def finalTmp0 (o : Outcome 8) : BitVec 8 := tget o.cfg.temps 0

theorem memZero_order_matters :
    finalTmp0 (Bc.run exOrderA false 0 5 default) = 3#8 ∧
    finalTmp0 (Bc.run exOrderB false 0 5 default) = 6#8 := by decide +kernel

/-- … and `reorderInst` does swap such operands (a `tmp` first source is moved behind a non-`tmp` one). -/
example : reorderInst (.add (.tmp 1) (.tmp 0) (.memZero 0) : Instr 8) = .add (.tmp 1) (.memZero 0) (.tmp 0) := by
  decide

example : reorderInst (.add (.mem 0) (.imm 3#8) (.imm 4#8) : Instr 8) = .copy (.mem 0) (.imm 7#8) := by decide
example : reorderInst (.sub (.mem 0) (.mem 0) (.imm 1#8) : Instr 8) = .add (.mem 0) (.mem 0) (.imm 255#8) := by
  decide
example : reorderInst (.add (.mem 0) (.tmp 1) (.mem 0) : Instr 8) = .add (.mem 0) (.mem 0) (.tmp 1) := by decide
example : reorderInst (.mul (.tmp 2) (.tmp 1) (.tmp 0) : Instr 8) = .mul (.tmp 2) (.tmp 0) (.tmp 1) := by decide
example : reorderInst (.add (.tmp 0) (.imm 1#8) (.tmp 0) : Instr 8) = .add (.tmp 0) (.tmp 0) (.imm 1#8) := by
  decide

end C02
end Hpbf
