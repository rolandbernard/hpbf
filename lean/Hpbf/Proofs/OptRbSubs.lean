/-
Bookkeeping for the nodes of the previous analysis.  `subsOf` and `popSubAnal`,
the rebuild relation does not see the pop (`relAt_pop`), `AskStable` from `StableAsk`, the child of a block
under the previous round's shape.
-/
import Hpbf.Proofs.OptRbGDefs
import Hpbf.Proofs.OptRbDseShape
import Hpbf.Proofs.OptRbInline2

namespace Hpbf
namespace OptProof
open Opt OptSem Ir

variable {w : Nat}

theorem subsOf_child (sh : Int) (c : Option Int) (par : OptParent) (A : OptAnalysis w) :
    subsOf (reverseSubBlocks (Rebuild.new sh c par (some A)) : Rebuild w) = A.subBlocks := by
  cases A with
  | mk a b c d e =>
    simp [subsOf, reverseSubBlocks, Rebuild.new, OptAnalysis.setSubBlocks, OptAnalysis.subBlocks]

theorem subsOf_new_none (sh : Int) (c : Option Int) (par : OptParent) :
    subsOf (reverseSubBlocks (Rebuild.new sh c par none) : Rebuild w) = [] := by
  simp [subsOf, reverseSubBlocks, Rebuild.new]

theorem subsOf_congr {s s' : Rebuild w} (h : s'.anal = s.anal) : subsOf s' = subsOf s := by
  unfold subsOf; rw [h]

theorem popSubAnal_cons {s : Rebuild w} {A : OptAnalysis w} {rest : List (OptAnalysis w)}
    (h : subsOf s = A :: rest) : (popSubAnal s).2 = some A ∧ subsOf (popSubAnal s).1 = rest := by
  unfold subsOf at h
  cases ha : s.anal with
  | none => rw [ha] at h; cases h
  | some a =>
    rw [ha] at h
    simp only at h
    have hsb : a.subBlocks = rest.reverse ++ [A] := by
      have := congrArg List.reverse h
      simpa using this
    unfold popSubAnal
    rw [ha]
    simp only
    have hl : a.subBlocks.getLast? = some A := by rw [hsb]; simp
    rw [hl]
    refine ⟨rfl, ?_⟩
    cases a with
    | mk a1 a2 a3 a4 a5 =>
      simp only [OptAnalysis.subBlocks] at hsb
      subst hsb
      simp [subsOf, OptAnalysis.setSubBlocks, OptAnalysis.subBlocks]

theorem popSubAnal_nil {s : Rebuild w} (h : subsOf s = []) : popSubAnal s = (s, none) := by
  unfold subsOf at h
  unfold popSubAnal
  cases ha : s.anal with
  | none => rfl
  | some a =>
    rw [ha] at h
    simp only at h ⊢
    have : a.subBlocks = [] := by simpa using h
    rw [this]
    rfl

theorem popSubAnal_pvClean {s : Rebuild w} {ps : List (Rebuild w)} :
    PVClean (popSubAnal s).1 ps ↔ PVClean s ps := by
  have hpop := popSubAnal_same s
  constructor
  · exact pv_reshift hpop.pending.symm hpop.written.symm (acore_popSubAnal s).symm hpop.subShift.symm
      hpop.parent.symm (Or.inl hpop.shift.symm)
  · exact pv_reshift hpop.pending hpop.written (acore_popSubAnal s) hpop.subShift hpop.parent (Or.inl hpop.shift)

theorem popSubAnal_shapeSt {s : Rebuild w} : ShapeSt (popSubAnal s).1 ↔ ShapeSt s := by
  have hpop := popSubAnal_same s
  constructor
  · intro h; exact h.of_same hpop.insts.symm hpop.subAnal.symm hpop.subShift.symm
  · intro h; exact h.of_same hpop.insts hpop.subAnal hpop.subShift

theorem popSubAnal_invA {s : Rebuild w} (h : InvA s) : InvA (popSubAnal s).1 :=
  have r := popSubAnal_sk (H := True) h.wf h.canon
  ⟨r.wf, r.canon, r.known h.known, r.sasc h.reads, by rw [(popSubAnal_same s).insts]; exact h.good,
    popSubAnal_shapeSt.2 h.shape⟩

theorem nonZeroParent_of_core {s s' : Rebuild w} (hcore : acore s' = acore s)
    (hsub : s'.subShift = s.subShift) (hpar : s'.parent = s.parent) (hcond : s'.cond = s.cond)
    (hsh : s'.shift = s.shift ∨ ShiftIndep s) (ps : List (Rebuild w)) (x : Int) :
    nonZeroParent s' ps x = nonZeroParent s ps x := by
  unfold nonZeroParent
  rw [canAskParentFor_of_core hcore hsub hsh, hpar, hcond, hsub]

theorem compareParent_of_core {s s' : Rebuild w} (hcore : acore s' = acore s)
    (hsub : s'.subShift = s.subShift) (hpar : s'.parent = s.parent)
    (hsh : s'.shift = s.shift ∨ ShiftIndep s) (ps : List (Rebuild w)) (a b : Expr w) :
    compareParent s' ps a b = compareParent s ps a b := by
  unfold compareParent
  have : (fun x => canAskParentFor s' x) = (fun x => canAskParentFor s x) := by
    funext x; exact canAskParentFor_of_core hcore hsub hsh x
  rw [this, hpar]

theorem PK.of_core {s s' : Rebuild w} {ps : List (Rebuild w)} {M0 : Mem w} (h : PK s ps M0)
    (hcore : acore s' = acore s) (hsub : s'.subShift = s.subShift) (hpar : s'.parent = s.parent)
    (hcond : s'.cond = s.cond) (hsh : s'.shift = s.shift ∨ ShiftIndep s) : PK s' ps M0 :=
  ⟨fun v c hc => h.const v c (by rw [← getParentConstant_of_core hcore hsub hpar hsh]; exact hc),
   fun v hv => h.nz v (by rw [← nonZeroParent_of_core hcore hsub hpar hcond hsh]; exact hv),
   fun a b ha hb hc => h.cmp a b ha hb (by rw [← compareParent_of_core hcore hsub hpar hsh]; exact hc)⟩

theorem RelAt.of_core {sh : Int} {s s' : Rebuild w} {ps : List (Rebuild w)} {M0 : Mem w} {σE σS : State w}
    (h : RelAt sh s ps M0 σE σS) (hcore : acore s' = acore s) (hpar : s'.parent = s.parent)
    (hshift : s'.shift = s.shift) (hcond : s'.cond = s.cond) (hsub : s'.subShift = s.subShift)
    (hnr : s'.noReturn = s.noReturn) (hw : s'.written = s.written) (hp : s'.pending = s.pending) :
    RelAt sh s' ps M0 σE σS := by
  refine ⟨h.tr, h.env, h.ptr, by rw [hnr]; exact h.nr, ?_, ?_, ?_⟩
  · rw [hp]; exact h.inv.pend
  · have := h.inv.writ
    unfold WrOk at this ⊢
    rw [hw]; exact this
  · exact h.inv.pk.of_core hcore hsub hpar hcond (Or.inl hshift)

theorem relAt_pop {sh : Int} {s : Rebuild w} {ps : List (Rebuild w)} {M0 : Mem w} {σE σS : State w} :
    RelAt sh (popSubAnal s).1 ps M0 σE σS ↔ RelAt sh s ps M0 σE σS := by
  have hpop := popSubAnal_same s
  have hc := acore_popSubAnal s
  exact ⟨fun h => h.of_core hc.symm hpop.parent.symm hpop.shift.symm hpop.cond.symm hpop.subShift.symm
      hpop.noReturn.symm hpop.written.symm hpop.pending.symm,
    fun h => h.of_core hc hpop.parent hpop.shift hpop.cond hpop.subShift hpop.noReturn hpop.written hpop.pending⟩

theorem askStable_of_shiftIndep {s : Rebuild w} (h : ShiftIndep s) (x : Int) : AskStable s x :=
  fun v => canAskParentFor_of_core (s := s) (s' := { s with shift := x }) rfl rfl (Or.inr h) v

theorem stableAsk_of_core {s s' : Rebuild w} {l : List (Instr w)} (h : StableAsk s l)
    (hc : acore s' = acore s) : StableAsk s' l := by
  rcases h with h | h
  · exact Or.inl (h.of_core hc)
  · exact Or.inr h

theorem stableAsk_tail {s s' : Rebuild w} {i : Instr w} {rest : List (Instr w)}
    (h : StableAsk s (i :: rest)) (hc : acore s' = acore s) : StableAsk s' rest := by
  rcases h with h | h
  · exact Or.inl (h.of_core hc)
  · exact Or.inr (C01Dse.noShiftL_cons h).2

theorem askStable_block {s s1 : Rebuild w} {ps : List (Rebuild w)} {i : Instr w} {rest : List (Instr w)}
    {c shS : Int} {body : List (Instr w)} (hst : StableAsk s (i :: rest))
    (hp : C01Dse.blockParts i = some (c, shS, body)) {sub0 subR : Rebuild w} {completed : Bool}
    {os os1 : Orders} (h1 : (rebuildInsts (s1 :: ps) sub0 body).run os = .ok ((subR, completed), os1))
    (hsh0 : sub0.shift = s.shift) (hwf0 : Wf sub0) :
    AskStable s subR.shift ∧ AskStable s (subR.shift + shS) := by
  rcases hst with h | h
  · exact ⟨askStable_of_shiftIndep h _, askStable_of_shiftIndep h _⟩
  · obtain ⟨e0, hns⟩ := noShiftI_parts hp (C01Dse.noShiftL_cons h).1
    have e : subR.shift = s.shift := (rebuildInsts_shift_const body h1 hwf0 hns).trans hsh0
    exact ⟨AskStable.of_eq e, AskStable.of_eq (by rw [e0, e]; omega)⟩

theorem child_pv {i : Instr w} {a : OptAnalysis w} (hs : ShapeI i a) {c shS : Int} {body : List (Instr w)}
    (hp : C01Dse.blockParts i = some (c, shS, body)) (sh cond : Int) (ps : List (Rebuild w))
    {subR : Rebuild w} {completed : Bool} {os os1 : Orders}
    (h1 : (rebuildInsts ps (reverseSubBlocks (Rebuild.new sh (some cond) .parent (some a))) body).run os
      = .ok ((subR, completed), os1)) :
    PVClean subR ps ∧
    PVClean (if completed then { subR with shift := subR.shift + shS } else subR) ps ∧
    StableAsk (reverseSubBlocks (Rebuild.new sh (some cond) .parent (some a)) : Rebuild w) body := by
  obtain ⟨hst, hflag⟩ := stableAsk_child_of_shapeI hs sh (some cond) .parent hp
  have hch0 : Child (reverseSubBlocks (Rebuild.new sh (some cond) .parent (some a)) : Rebuild w) :=
    (child_new _ _ _ _).reverseSubBlocks
  have hpv : PVClean subR ps :=
    rebuildInsts_pvclean_all body h1 hch0.wf hst (pvClean_child _ _ _ _ ps)
  have hcore : acore subR = some (a.loopAnal.atMostOnce, a.hasShift, a.clobbered) := by
    rw [rebuildInsts_acore (ps := ps) body h1 hch0.wf, acore_child]
    rfl
  have hadd : ShiftIndep subR ∨ shS = 0 := by
    rcases hflag with h | h | h
    · left; unfold ShiftIndep; rw [hcore]; exact Or.inl h
    · left; unfold ShiftIndep; rw [hcore]; exact Or.inr h
    · exact Or.inr h
  refine ⟨hpv, ?_, hst⟩
  split
  · exact pvClean_addShift shS hadd hpv
  · exact hpv

#print axioms relAt_pop
#print axioms askStable_block
#print axioms child_pv

end OptProof
end Hpbf
