/-
`SK` through the operations that merge the state `sub` of a rebuilt block body into its parent: `inline`,
`loopOrIf`, `loopInsideIf`, walked forward over their definitions in `Tri t` (`inline_eq`, `loopOrIf_eq`,
`loopInsideIf_eq` of `OptRbLoopCut`).  What the parent needs of the child: `Child` (well-formed, canonical, good code)
and, for `KnownVars`, `ChildK`.  `RemPend` describes the folds that drop pending operations.
-/
import Hpbf.Proofs.OptRbCanon3
import Hpbf.Proofs.OptRbLoopCut

namespace Hpbf
namespace OptProof
open Opt OptSem Ir

variable {w : Nat}

inductive RemPend : Rebuild w → Rebuild w → Prop
  | refl (s : Rebuild w) : RemPend s s
  | step {s a : Rebuild w} (k : Int) : RemPend s a → RemPend s (removePending a k).1

theorem foldl_remPend {α β : Type} (f : Rebuild w × β → α → Rebuild w × β)
    (hf : ∀ acc x, (f acc x).1 = acc.1 ∨ ∃ k, (f acc x).1 = (removePending acc.1 k).1)
    {s : Rebuild w} (l : List α) (acc : Rebuild w × β) (h : RemPend s acc.1) :
    RemPend s (l.foldl f acc).1 := by
  induction l generalizing acc with
  | nil => exact h
  | cons x l ih =>
    simp only [List.foldl_cons]
    apply ih
    rcases hf acc x with e | ⟨k, e⟩
    · rw [e]; exact h
    · rw [e]; exact h.step k

theorem RemPend.wf {s a : Rebuild w} (h : RemPend s a) (hwf : Wf s) : Wf a := by
  induction h with
  | refl => exact hwf
  | step k _ ih => exact removePending_wf ih k

structure Child (sub : Rebuild w) : Prop where
  wf : Wf sub
  canon : CanonSt sub
  good : GoodL sub.insts

theorem Child.step {a b : Rebuild w} (h : Child a) (r : CStep a b) : Child b := by
  obtain ⟨new, e, g⟩ := r.insts
  exact ⟨r.wf, r.canon, by rw [e]; exact goodL_append.2 ⟨h.good, g⟩⟩

theorem Child.of_fields {a b : Rebuild w} (h : Child a) (hp : b.pending = a.pending)
    (hw : b.written = a.written) (hr : b.reverse = a.reverse) (hi : b.insts = a.insts) : Child b :=
  h.step ((CStep.refl h.wf h.canon).of_fields hp hw hr hi)

theorem child_new (shift : Int) (cond : Option Int) (par : OptParent) (anal : Option (OptAnalysis w)) :
    Child (Rebuild.new shift cond par anal) :=
  ⟨wf_new _ _ _ _, canonSt_new _ _ _ _, goodL_nil⟩

theorem Child.forgetParent {a : Rebuild w} (h : Child a) : Child (forgetParent a) :=
  h.of_fields rfl rfl rfl rfl

theorem popSubAnal_same (s : Rebuild w) : SameButAnal s (popSubAnal s).1 := by
  unfold popSubAnal
  split
  · split <;> exact ⟨rfl, rfl, rfl, rfl, rfl, rfl, rfl, rfl, rfl, rfl, rfl⟩
  · exact ⟨rfl, rfl, rfl, rfl, rfl, rfl, rfl, rfl, rfl, rfl, rfl⟩

theorem reverseSubBlocks_cstep {s : Rebuild w} (hwf : Wf s) (hc : CanonSt s) :
    CStep s (reverseSubBlocks s) := by
  have hrev := reverseSubBlocks_fields s
  exact (CStep.refl hwf hc).of_fields hrev.pending hrev.written hrev.reverse hrev.insts

theorem Child.reverseSubBlocks {a : Rebuild w} (h : Child a) : Child (reverseSubBlocks a) :=
  h.step (reverseSubBlocks_cstep h.wf h.canon)

theorem forgetParent_cstep {s : Rebuild w} (hwf : Wf s) (hc : CanonSt s) : CStep s (forgetParent s) :=
  (CStep.refl hwf hc).of_fields rfl rfl rfl rfl

theorem takeInlineOrder_mem {P l : List (Int × Expr w)} {os os' : Orders}
    (h : (takeInlineOrder P).run os = .ok (l, os')) : ∀ ve ∈ l, ve ∈ P := by
  have h' : takeInlineOrder P os = .ok (l, os') := h
  unfold takeInlineOrder at h'
  split at h'
  · cases h'; exact fun ve hve => hve
  · split at h'
    · dsimp only at h'
      split at h'
      · cases h'
        intro ve hve
        obtain ⟨k, _, hk⟩ := List.mem_filterMap.1 hve
        cases hg : mGet P k with
        | none => rw [hg] at hk; cases hk
        | some e =>
          rw [hg] at hk
          simp only [Option.map_some, Option.some.injEq] at hk
          rw [← hk]; exact OptLoop.mem_of_mGet hg
      · cases h'
    · cases h'

theorem Child.pending_calcs {sub : Rebuild w} (h : Child sub) {l : List (Int × Expr w)}
    (hl : ∀ ve ∈ l, ve ∈ sub.pending) : CanonCalcs l :=
  fun ve hve => h.canon.1 ve.1 ve.2 (mGet_of_mem h.wf.pend (hl ve hve))

abbrev knownCalcs (sub : Rebuild w) : List (Int × Expr w) :=
  sub.written.filterMap (fun vk =>
    match vk.2 with
    | .known e => some (vk.1, e)
    | _ => none)

theorem Child.written_calcs {sub : Rebuild w} (h : Child sub) : CanonCalcs (knownCalcs sub) := by
  intro ve hve
  obtain ⟨vk, hvk, e1⟩ := List.mem_filterMap.1 hve
  obtain ⟨k, v⟩ := vk
  cases v with
  | known e =>
    simp only [Option.some.injEq] at e1
    rw [← e1]
    exact h.canon.2 k e (mGet_of_mem h.wf.writ hvk)
  | unknown => cases e1
  | maybe => cases e1

/-- `loopTail` in steps: the block is pushed, `cond = 0` is recorded after a loop, `noReturn` is set if the
loop never ends, the analysis node is appended. -/
theorem loopTail_ind {P : Rebuild w → Prop} (s1 sub : Rebuild w) (cond : Int) (isLoop : Bool) (L : OptLoop w)
    (hasShift : Bool) (clobbered : List Int)
    (hpush : P ({ s1 with insts := s1.insts ++
      [if isLoop then Ir.Instr.loop cond (sub.shift - s1.shift) sub.insts L.atLeastOnce
       else Ir.Instr.ifnz cond (sub.shift - s1.shift) sub.insts] } : Rebuild w))
    (hins : ∀ X, P X → P (insertWritten X cond (.known (Expr.val 0#w))))
    (hnr : ∀ X : Rebuild w, P X → P { X with noReturn := true })
    (hsa : ∀ (X : Rebuild w) a, P X → P { X with subAnal := X.subAnal ++ a }) :
    P (loopTail s1 sub cond isLoop L hasShift clobbered) := by
  unfold loopTail
  refine hsa _ _ (OptLoop.prop_ite (hnr _ ?_) ?_) <;> cases isLoop
  · exact hpush
  · exact hins _ hpush
  · exact hpush
  · exact hins _ hpush

theorem RemPend.sk {H : Prop} {s0 s a : Rebuild w} (h : RemPend s a) (h0 : SK H s0 s) : SK H s0 a := by
  induction h with
  | refl => exact h0
  | step k _ ih => exact ih.removePending k

theorem mem_readsSorted (s su : Rebuild w) (x : Int) : x ∈ readsSorted s su ↔ x ∈ s.reads :=
  (Expr.stableSort_perm _ _).mem_iff

/-- What a parent knows of the state in which the body of a block has been rebuilt: it is a good child and (under
`H`, see `SK`) it has `KnownVars`. -/
structure ChildK (H : Prop) (sub : Rebuild w) : Prop extends Child sub where
  known : H → KnownVars sub

theorem Child.toK {sub : Rebuild w} (h : Child sub) : ChildK False sub := ⟨h, nofun⟩

section
variable {H : Prop}

theorem ChildK.step {a b : Rebuild w} (h : ChildK H a) (r : SK H a b) : ChildK H b :=
  ⟨h.toChild.step r.c, fun hH => (r.k hH).known (h.known hH)⟩

theorem ChildK.of_fields {a b : Rebuild w} (h : ChildK H a) (hp : b.pending = a.pending)
    (hw : b.written = a.written) (hr : b.reverse = a.reverse) (hi : b.insts = a.insts)
    (hs : b.subShift = a.subShift) (hrd : b.reads = a.reads) : ChildK H b :=
  h.step ((SK.refl h.wf h.canon).fields hp hw hr hi hs hrd)

theorem childK_new (shift : Int) (cond : Option Int) (par : OptParent) (anal : Option (OptAnalysis w)) :
    ChildK H (Rebuild.new shift cond par anal) :=
  ⟨child_new _ _ _ _, fun _ => knownVars_new _ _ _ _⟩

theorem ChildK.forgetParent {a : Rebuild w} (h : ChildK H a) : ChildK H (forgetParent a) :=
  h.of_fields rfl rfl rfl rfl rfl rfl

variable (t : Bool) {ps : List (Rebuild w)}

theorem takeInlineOrder_tri (pending : List (Int × Expr w)) :
    Tri t (takeInlineOrder pending) (fun r => ∀ ve ∈ r, ve ∈ pending) :=
  Tri.of (fun _ => OptTotal.takeInlineOrder_safe pending) (fun _ _ _ hr => takeInlineOrder_mem hr)

theorem clobberAll_rem_tri {s s0 : Rebuild w} (vars : List (Int × Bool)) (hrem : RemPend s s0) (hwf : Wf s)
    (hc : CanonSt s) : Tri t (clobberAll ps vars s0) (SK H s) :=
  have r := hrem.sk (SK.refl hwf hc (H := H))
  (clobberAll_tri t ps vars ⟨r.wf, r.canon⟩).mono (fun _ r2 => r.trans r2)

/-- `hcov`: the cells the child read have been read, or written, by the parent. -/
theorem inlineRest_tri {s sub : Rebuild w} (hwf : Wf s) (hc : CanonSt s) (hsub : ChildK H sub)
    (hcov : H → s.subShift = false → sub.subShift = false ∧ ∀ x ∈ sub.reads, Cov s x) :
    Tri t (inlineRest s ps sub) (SK H s) := by
  unfold inlineRest
  dsimp only
  refine Tri.bind (clobberAll_rem_tri t _ (foldl_remPend _ ?_ _ _ (RemPend.refl s)) hwf hc (H := H))
    (fun s2 r2 => ?_)
  · intro acc x
    split
    · exact Or.inl rfl
    · exact Or.inr ⟨_, rfl⟩
  have r3 := r2.push hsub.good
  have r4 : SK H s (writtenCalcs ({ s2 with insts := s2.insts ++ sub.insts } : Rebuild w) ps (knownCalcs sub)) :=
    -- the child's known values mention only cells the child read (`ChildK.known`), which the parent has covered
    -- (`hcov`)
    ⟨r3.c.writtenCalcs ps hsub.toChild.written_calcs, fun hH => (r3.k hH).trans (writtenCalcs_kstep _ ps _ (by
      intro hss vc hvc x hx
      obtain ⟨hsf, hc0⟩ := hcov hH ((r3.k hH).sub hss)
      obtain ⟨vk, hvk, e1⟩ := List.mem_filterMap.1 hvc
      obtain ⟨k, v⟩ := vk
      cases v with
      | known e =>
        simp only [Option.some.injEq] at e1
        subst e1
        exact (r3.k hH).cov hss (hc0 x (hsub.known hH hsf k e (mGet_of_mem hsub.wf.writ hvk) x hx))
      | unknown => cases e1
      | maybe => cases e1)), r3.r.trans (writtenCalcs_rs _ ps _)⟩
  split
  -- a `let x ← pure …` after an `if` is a bind of `pure` in the `do` block; it is walked as such, so that
  -- `inline_eq` and `finishLoop_cut` stay `rfl`
  · exact Tri.bind (P := SK H s) (Tri.pure (r4.fields rfl rfl rfl rfl rfl rfl))
      (fun _ r => Tri.pure (r.fields rfl rfl rfl rfl rfl rfl))
  · exact (takeInlineOrder_tri t _).bind (fun pend hmem =>
      (performAll_tri t ps 0 r4.wf r4.canon (hsub.toChild.pending_calcs hmem) (H := H)).bind (fun s4 r5 =>
        Tri.bind (P := SK H s) (Tri.pure ((r4.trans r5).fields rfl rfl rfl rfl rfl rfl))
          (fun _ r => Tri.pure (r.fields rfl rfl rfl rfl rfl rfl))))

theorem inline_tri {s sub : Rebuild w} (hwf : Wf s) (hc : CanonSt s) (hsub : ChildK H sub) :
    Tri t (Opt.inline s ps sub) (SK H s) := by
  rw [inline_eq]
  split
  · refine (emitAll_tri t ps _ ⟨hwf, hc⟩ (H := H)).bind (fun s1 r1 => ?_)
    refine Tri.bind (P := fun s2 => SK H s s2 ∧ s2.subShift = true) (Tri.pure ⟨r1.uncertainShift, rfl⟩)
      (fun s2 r2 => ?_)
    exact (inlineRest_tri t r2.1.wf r2.1.canon hsub (fun _ h => by rw [r2.2] at h; cases h)).mono
      (fun _ r => r2.1.trans r)
  · rename_i hns
    refine (emitReadAll_tri_cov t ps _ ⟨hwf, hc⟩ (H := H)).bind (fun s1 r1 => ?_)
    exact (inlineRest_tri t r1.1.wf r1.1.canon hsub (fun hH h =>
      ⟨by simpa using hns, fun x hx => r1.2 hH h x ((mem_readsSorted sub s x).2 hx)⟩)).mono
      (fun _ r => r1.1.trans r)

theorem clobberPhase_tri {s sub : Rebuild w} {L : OptLoop w} {C : List Int} (hwf : Wf s) (hc : CanonSt s) :
    Tri t (clobberPhase s ps sub L C) (SK H s) := by
  unfold clobberPhase
  by_cases hne : (!L.noEffect) = true
  · rw [if_pos hne]
    refine clobberAll_rem_tri t _ (foldl_remPend _ ?_ _ _ (RemPend.refl s)) hwf hc
    intro acc x
    by_cases h1 : (!C.contains x.1) = true
    · by_cases h2 : (x.2.isMaybe || !L.atLeastOnce) = true
      · exact Or.inl (by rw [if_pos h1, if_pos h2])
      · exact Or.inr ⟨x.1, by rw [if_pos h1, if_neg h2]⟩
    · exact Or.inl (by rw [if_neg h1])
  · rw [if_neg hne]
    exact Tri.pure (SK.refl hwf hc)

omit t in
theorem condZero_sk {s s1 : Rebuild w} (h : SK H s s1) (sub : Rebuild w) (cond : Int) :
    SK H s (condZero s1 sub cond) := by
  unfold condZero
  split
  · split
    · exact h.setVal _ _
    · exact h
  · exact h

theorem loopPrep_tri {s sub : Rebuild w} {cond : Int} {L : OptLoop w} {C : List Int} (hwf : Wf s)
    (hc : CanonSt s) :
    Tri t (loopPrep s ps sub cond L C) (fun r => SK H s r.1 ∧ r.2.1.insts = sub.insts) := by
  unfold loopPrep
  split
  · exact (emitAll_tri t ps _ ⟨hwf, hc⟩ (H := H)).bind (fun s1 r1 => Tri.pure ⟨r1.uncertainShift, rfl⟩)
  · dsimp only
    exact (emitReadAll_tri t ps _ ⟨hwf, hc⟩ (H := H)).bind (fun s1 r1 =>
      (emitReadAll_tri t ps _ ⟨r1.wf, r1.canon⟩ (H := H)).bind (fun s2 r2 =>
        (clobberPhase_tri t (r1.trans r2).wf (r1.trans r2).canon (H := H)).bind (fun s3 r3 =>
          Tri.pure ⟨condZero_sk ((r1.trans r2).trans r3) _ _, rfl⟩)))

omit t in
theorem loopTail_sk {s s1 : Rebuild w} (h : SK H s s1) {sub : Rebuild w} (hg : GoodL sub.insts)
    (cond : Int) (isLoop : Bool) (L : OptLoop w) (hasShift : Bool) (clobbered : List Int) :
    SK H s (loopTail s1 sub cond isLoop L hasShift clobbered) := by
  refine loopTail_ind (P := SK H s) s1 sub cond isLoop L hasShift clobbered (h.push ?_)
    (fun X hX => hX.setVal _ _) (fun X hX => hX.fields rfl rfl rfl rfl rfl rfl)
    (fun X a hX => hX.fields rfl rfl rfl rfl rfl rfl)
  cases isLoop
  · exact goodL_ifnz.2 hg
  · exact goodL_loop.2 hg

theorem loopOrIf_tri {s sub : Rebuild w} {cond : Int} {isLoop : Bool} {L : OptLoop w} {C : List Int}
    (hwf : Wf s) (hc : CanonSt s) (hsub : Child sub) : Tri t (loopOrIf s ps sub cond isLoop L C) (SK H s) := by
  rw [loopOrIf_eq]
  refine Tri.bind (P := Child) ?_ (fun sub1 hsub1 => (loopPrep_tri t hwf hc (H := H)).bind (fun r hr =>
    Tri.pure (loopTail_sk hr.1 (by rw [hr.2]; exact hsub1.good) _ _ _ _ _)))
  split
  · exact (emitAll_tri t [] _ ⟨hsub.wf, hsub.canon⟩ (H := True)).mono (fun _ r => hsub.step r.c)
  · exact Tri.pure hsub

omit t in
theorem canonCalcs_condZero (cond : Int) : CanonCalcs [(cond, Expr.val (0#w))] := by
  intro ve hve
  simp only [List.mem_singleton] at hve
  subst hve; exact Expr.canon_val (0#w)

theorem loopInsideIf_tri {s sub : Rebuild w} {cond : Int} {L : OptLoop w} {after : List (Int × Expr w)}
    {C : List Int} (hwf : Wf s) (hc : CanonSt s) (hsub : ChildK H sub) (hafter : CanonCalcs after) :
    Tri t (loopInsideIf s ps sub cond L after C) (SK H s) := by
  rw [loopInsideIf_eq]
  refine (sk_along H).tri_bind (s := s) ⟨hwf, hc⟩ ?_ (fun s1 h1 => performAll_tri t ps 0 h1.1 h1.2 hafter)
  unfold liiHead
  split
  · exact inline_tri t hwf hc hsub
  · split
    · exact performAll_tri t ps 0 hwf hc (canonCalcs_condZero cond)
    · exact loopOrIf_tri t hwf hc hsub.toChild

end

theorem inline_canon {s : Rebuild w} {ps : List (Rebuild w)} {sub : Rebuild w} {os os' : Orders}
    {s' : Rebuild w} (hr : (Opt.inline s ps sub).run os = .ok (s', os')) (hwf : Wf s) (hc : CanonSt s)
    (hsub : Child sub) : CStep s s' :=
  ((inline_tri false hwf hc hsub.toK).post hr).c

theorem loopOrIf_canon {s : Rebuild w} {ps : List (Rebuild w)} {sub : Rebuild w} {cond : Int}
    {isLoop : Bool} {L : OptLoop w} {C : List Int} {os os' : Orders} {s' : Rebuild w}
    (hr : (loopOrIf s ps sub cond isLoop L C).run os = .ok (s', os')) (hwf : Wf s) (hc : CanonSt s)
    (hsub : Child sub) : CStep s s' :=
  ((loopOrIf_tri false hwf hc hsub (H := True)).post hr).c

#print axioms inline_tri

end OptProof
end Hpbf
