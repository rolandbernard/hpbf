/-
The measure for the offsets of optimized IR. IR offsets are relative to the CURRENT pointer, which only moves when
a nested block ends (by the block's `shift`). What the parser establishes and the optimizer preserves is not
"every offset is small" but `drift + |offset| ≤ R` (`NB R drift offset`), the drift of a mention being the sum of `|shift|` of all nested
blocks that END textually before it: inlining an at-most-once block adds its shift to every later offset, so an
offset may GROW, but only by what the absorbed block's shift contributed to the drift before.
-/
import Hpbf.Ir
import Hpbf.Proofs.C10Parse

namespace Hpbf.OptOffs
open Hpbf Ir

variable {w : Nat}

mutual
def driftI : Instr w → Nat
  | .output _ => 0
  | .input _ => 0
  | .calc _ => 0
  | .loop _ sh body _ => driftL body + sh.natAbs
  | .ifnz _ sh body => driftL body + sh.natAbs
def driftL : List (Instr w) → Nat
  | [] => 0
  | i :: r => driftI i + driftL r
end

mutual
def tagI (g : Nat) : Instr w → List (Nat × Int)
  | .output o => [(g, o)]
  | .input o => [(g, o)]
  | .calc cs => cs.flatMap (fun ve => (g, ve.1) :: (Expr.variables ve.2).map (fun x => (g, x)))
  | .loop c _ body _ => (g, c) :: tagL g body
  | .ifnz c _ body => (g, c) :: tagL g body
/-- The mentions are those of `Ir.offsets`, each tagged with its drift (counted from `g`). -/
def tagL (g : Nat) : List (Instr w) → List (Nat × Int)
  | [] => []
  | i :: r => tagI g i ++ tagL (g + driftI i) r
end

def NB (R g : Nat) (x : Int) : Prop := g + x.natAbs ≤ R

def OkI (R g : Nat) (i : Instr w) : Prop := ∀ p ∈ tagI g i, NB R p.1 p.2
def OkL (R g : Nat) (l : List (Instr w)) : Prop := ∀ p ∈ tagL g l, NB R p.1 p.2

def maxL : List Nat → Nat
  | [] => 0
  | x :: xs => max x (maxL xs)

def reachL (l : List (Instr w)) : Nat := maxL ((tagL 0 l).map (fun p => p.1 + p.2.natAbs))

def reach (b : Block w) : Nat := reachL b.insts

theorem NB.mono {R R' g : Nat} {x : Int} (h : NB R g x) (hR : R ≤ R') : NB R' g x := by
  unfold NB at *; omega

theorem NB.anti {R g g' : Nat} {x : Int} (h : NB R g' x) (hg : g ≤ g') : NB R g x := by
  unfold NB at *; omega

theorem maxL_le {l : List Nat} {R : Nat} : maxL l ≤ R ↔ ∀ x ∈ l, x ≤ R := by
  induction l with
  | nil => simp [maxL]
  | cons x xs ih =>
    simp only [maxL, List.mem_cons, forall_eq_or_imp]
    rw [← ih]; omega

theorem okL_iff_reach {R : Nat} {l : List (Instr w)} : OkL R 0 l ↔ reachL l ≤ R := by
  unfold reachL OkL NB
  rw [maxL_le]
  simp only [List.mem_map, forall_exists_index, and_imp]
  constructor
  · intro h x p hp e; subst e; exact h p hp
  · intro h p hp; exact h _ p hp rfl

theorem okL_reach (b : Block w) : OkL (reach b) 0 b.insts := okL_iff_reach.2 (Nat.le_refl _)

@[simp] theorem okL_nil (R g : Nat) : OkL R g ([] : List (Instr w)) := by
  intro p hp; simp [tagL] at hp

theorem okL_cons {R g : Nat} {i : Instr w} {r : List (Instr w)} :
    OkL R g (i :: r) ↔ OkI R g i ∧ OkL R (g + driftI i) r := by
  unfold OkL OkI
  simp only [tagL, List.mem_append]
  constructor
  · intro h; exact ⟨fun p hp => h p (Or.inl hp), fun p hp => h p (Or.inr hp)⟩
  · rintro ⟨h1, h2⟩ p (hp | hp)
    · exact h1 p hp
    · exact h2 p hp

theorem okI_output {R g : Nat} {o : Int} : OkI R g (.output o : Instr w) ↔ NB R g o := by
  simp [OkI, tagI]

theorem okI_input {R g : Nat} {o : Int} : OkI R g (.input o : Instr w) ↔ NB R g o := by
  simp [OkI, tagI]

theorem okI_calc {R g : Nat} {cs : List (Int × Expr w)} :
    OkI R g (.calc cs) ↔ ∀ ve ∈ cs, NB R g ve.1 ∧ ∀ x ∈ Expr.variables ve.2, NB R g x := by
  unfold OkI
  simp only [tagI, List.mem_flatMap, List.mem_cons, List.mem_map]
  constructor
  · intro h ve hve
    refine ⟨h (g, ve.1) ⟨ve, hve, Or.inl rfl⟩, fun x hx => h (g, x) ⟨ve, hve, Or.inr ⟨x, hx, rfl⟩⟩⟩
  · rintro h p ⟨ve, hve, hp | ⟨x, hx, hp⟩⟩
    · subst hp; exact (h ve hve).1
    · subst hp; exact (h ve hve).2 x hx

theorem okI_loop {R g : Nat} {c sh : Int} {body : List (Instr w)} {once : Bool} :
    OkI R g (.loop c sh body once) ↔ NB R g c ∧ OkL R g body := by
  unfold OkI OkL
  simp only [tagI, List.mem_cons, forall_eq_or_imp]

theorem okI_ifnz {R g : Nat} {c sh : Int} {body : List (Instr w)} :
    OkI R g (.ifnz c sh body) ↔ NB R g c ∧ OkL R g body := by
  unfold OkI OkL
  simp only [tagI, List.mem_cons, forall_eq_or_imp]

theorem driftL_append (a b : List (Instr w)) : driftL (a ++ b) = driftL a + driftL b := by
  induction a with
  | nil => simp [driftL]
  | cons i a ih => simp only [List.cons_append, driftL, ih]; omega

theorem okL_append {R g : Nat} {a b : List (Instr w)} :
    OkL R g (a ++ b) ↔ OkL R g a ∧ OkL R (g + driftL a) b := by
  induction a generalizing g with
  | nil => simp [driftL]
  | cons i a ih =>
    simp only [List.cons_append, okL_cons, ih, driftL, Nat.add_assoc, and_assoc]

theorem okL_snoc {R g : Nat} {a : List (Instr w)} {i : Instr w} :
    OkL R g (a ++ [i]) ↔ OkL R g a ∧ OkI R (g + driftL a) i := by
  rw [okL_append, okL_cons]
  simp

theorem okL_single {R g : Nat} {i : Instr w} : OkL R g [i] ↔ OkI R g i := by
  rw [okL_cons]; exact ⟨fun h => h.1, fun h => ⟨h, okL_nil _ _⟩⟩

theorem driftL_single (i : Instr w) : driftL [i] = driftI i := by simp [driftL]

theorem driftL_snoc (a : List (Instr w)) (i : Instr w) : driftL (a ++ [i]) = driftL a + driftI i := by
  rw [driftL_append]; simp [driftL]

theorem driftL_reverse (a : List (Instr w)) : driftL a.reverse = driftL a := by
  induction a with
  | nil => rfl
  | cons i a ih => rw [List.reverse_cons, driftL_snoc, ih, driftL]; omega

theorem OkL.mono {R R' g : Nat} {l : List (Instr w)} (h : OkL R g l) (hR : R ≤ R') : OkL R' g l :=
  fun p hp => (h p hp).mono hR

theorem OkI.mono {R R' g : Nat} {i : Instr w} (h : OkI R g i) (hR : R ≤ R') : OkI R' g i :=
  fun p hp => (h p hp).mono hR

mutual
theorem okI_anti : ∀ (i : Instr w) (R g k : Nat), OkI R (g + k) i → OkI R g i
  | .output o, R, g, k, h => by rw [okI_output] at *; exact h.anti (Nat.le_add_right _ _)
  | .input o, R, g, k, h => by rw [okI_input] at *; exact h.anti (Nat.le_add_right _ _)
  | .calc cs, R, g, k, h => by
    rw [okI_calc] at *
    exact fun ve hve => ⟨(h ve hve).1.anti (Nat.le_add_right _ _),
      fun x hx => ((h ve hve).2 x hx).anti (Nat.le_add_right _ _)⟩
  | .loop c sh body once, R, g, k, h => by
    rw [okI_loop] at *
    exact ⟨h.1.anti (Nat.le_add_right _ _), okL_anti body R g k h.2⟩
  | .ifnz c sh body, R, g, k, h => by
    rw [okI_ifnz] at *
    exact ⟨h.1.anti (Nat.le_add_right _ _), okL_anti body R g k h.2⟩
theorem okL_anti : ∀ (l : List (Instr w)) (R g k : Nat), OkL R (g + k) l → OkL R g l
  | [], _, _, _, _ => okL_nil _ _
  | i :: r, R, g, k, h => by
    rw [okL_cons] at *
    refine ⟨okI_anti i R g k h.1, okL_anti r R (g + driftI i) k ?_⟩
    have : g + driftI i + k = g + k + driftI i := by omega
    rw [this]; exact h.2
end

theorem OkL.anti {R g g' : Nat} {l : List (Instr w)} (h : OkL R g' l) (hg : g ≤ g') : OkL R g l := by
  obtain ⟨k, rfl⟩ := Nat.exists_eq_add_of_le hg
  exact okL_anti l R g k h

mutual
theorem offsI_tagged : ∀ (i : Instr w) (g : Nat) (o : Int), o ∈ i.offsets → ∃ d, (d, o) ∈ tagI g i
  | .output s, g, o, h => by
    simp only [Instr.offsets, List.mem_singleton] at h; subst h; exact ⟨g, by simp [tagI]⟩
  | .input s, g, o, h => by
    simp only [Instr.offsets, List.mem_singleton] at h; subst h; exact ⟨g, by simp [tagI]⟩
  | .calc cs, g, o, h => by
    simp only [Instr.offsets, List.mem_flatMap, List.mem_cons] at h
    obtain ⟨ve, hve, h⟩ := h
    refine ⟨g, ?_⟩
    simp only [tagI, List.mem_flatMap, List.mem_cons, List.mem_map]
    rcases h with h | h
    · exact ⟨ve, hve, Or.inl (by rw [h])⟩
    · exact ⟨ve, hve, Or.inr ⟨o, h, rfl⟩⟩
  | .loop c sh body once, g, o, h => by
    simp only [Instr.offsets, List.mem_cons] at h
    rcases h with h | h
    · subst h; exact ⟨g, by simp [tagI]⟩
    · obtain ⟨d, hd⟩ := offsL_tagged body g o h
      exact ⟨d, by simp [tagI, hd]⟩
  | .ifnz c sh body, g, o, h => by
    simp only [Instr.offsets, List.mem_cons] at h
    rcases h with h | h
    · subst h; exact ⟨g, by simp [tagI]⟩
    · obtain ⟨d, hd⟩ := offsL_tagged body g o h
      exact ⟨d, by simp [tagI, hd]⟩
theorem offsL_tagged : ∀ (l : List (Instr w)) (g : Nat) (o : Int), o ∈ offsets l → ∃ d, (d, o) ∈ tagL g l
  | [], _, _, h => by simp [offsets] at h
  | i :: r, g, o, h => by
    simp only [offsets, List.mem_append] at h
    rcases h with h | h
    · obtain ⟨d, hd⟩ := offsI_tagged i g o h
      exact ⟨d, by simp [tagL, hd]⟩
    · obtain ⟨d, hd⟩ := offsL_tagged r (g + driftI i) o h
      exact ⟨d, by simp [tagL, hd]⟩
end

theorem okL_offsets {R g : Nat} {l : List (Instr w)} (h : OkL R g l) :
    ∀ o ∈ offsets l, o.natAbs ≤ R := by
  intro o ho
  obtain ⟨d, hd⟩ := offsL_tagged l g o ho
  have := h _ hd
  unfold NB at this
  simp only at this
  omega

theorem offsets_le_reach (b : Block w) : ∀ o ∈ offsets b.insts, o.natAbs ≤ reach b :=
  okL_offsets (okL_reach b)

end Hpbf.OptOffs
