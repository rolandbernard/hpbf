/-
C03 (control flow): the static context of a compiled program (`Ctx`), where the code of each
bytecode instruction sits (`InstrAt`), the invariant that holds at instruction boundaries (`Inv`) and its part about
the activation record (`Framed`), which is what code between two boundaries has to preserve.

The relations "`s'` is `s` except …" on machine states, by the fields of `PState` each leaves FREE (it keeps the
others):
* `SameCtl` (`C03FlowBase`): what `view` shows (registers, flags, tape, the contents of `stk`, not its length),
  `pc`, `oob`;
* `SameBut`: flags, `pc`, `oob`;
* `SameTmp`: `rax`, `rcx`, flags, `pc`, `oob`, `budget`, `off`;
* `ExitKeep` (`C03FlowExit`): registers, flags, `stk`, `tapeOk`, `off`, `pc`, `oob`;
* `StackKeep` (`C03FlowCall`): registers, flags, `stk`, `pc`, `oob` (`SameCtl` with the tape for the length of `stk`);
* `Moved s s' sh` (`C03FlowStraight`): `rax`, `rcx`, flags, `pc`, `oob`, `off`; `lptr` and `rbp` move by `sh` cells.
Around a runtime call (`C03FlowIO`), with the return value, environment and trace as parameters:
* `CxtKeep` keeps the context fields `tapeOk`, `buf`, `size`, `off`, `base` and says nothing else;
* `CallCore`, right after the `call`: registers clobbered, `pc` behind the call; keeps `stk`, `tape`, `lptr`,
  `budget`; nothing on the context fields, flags, `oob`;
* `AfterCore rs`, after the restoring code: `rax` is the return value; keeps `stk`, `tape`, `lptr`, `budget`, the
  registers `rs` and `rbx rsp rbp r12 r13 r14 r15`; nothing on the other registers, the context fields, flags, `pc`,
  `oob`;
* `AfterCall` is `AfterCore` and `CxtKeep`.
-/
import Hpbf.Proofs.C03FlowBase
namespace Hpbf
namespace C03
open Asm JitGen X86Sem X86Prog
variable {w : Nat}

/-- `hsmall`: the `rel32` displacements of relocation are exact (`resolve_jccInstr`, `resolve_jccTerm`);
`hIO`, `hEI`, `hEO`: `call` dispatches on the address (`call_output`, `call_extend`). -/
structure Ctx (w : Nat) where
  p : Bc.Program w
  limited : Bool
  safe : Bool
  cfg : Cfg
  code : List X86
  C : Compiled p limited safe cfg.aE.toNat cfg.aI.toNat cfg.aO.toNat code
  hfetch : cfg.fetch = fetchList code
  hsmall : sizeAll code < 2 ^ 31
  hIO : cfg.aI ≠ cfg.aO
  hEI : cfg.aE ≠ cfg.aI
  hEO : cfg.aE ≠ cfg.aO
  hlive : p.live.size = p.insts.size

namespace Ctx
variable (K : Ctx w)

def loc (i : Nat) : Nat := locOf K.p K.C.body i
def term : Nat := termOf K.p K.C.body
def n : Nat := K.p.insts.size

theorem hszb : K.C.sz.bits = w := ofBits_eq.1 K.C.hsz

theorem body_length : K.C.body.length = K.n := emitProgram_length K.C.hbody K.hlive

end Ctx

structure InstrAt (K : Ctx w) (i : Nat) (ins : Bc.Instr w) (lv : Nat) (its : List Item) (xs : List X86) :
    Prop where
  live : K.p.live[i]? = some lv
  emit : emitInstr K.C.sz K.limited K.safe K.p.minAcc K.p.maxAcc K.cfg.aE.toNat K.cfg.aI.toNat
    K.cfg.aO.toNat i lv ins = some its
  body : K.C.body[i]? = some its
  res : resolveItems (locsOf K.p K.C.body) K.term (K.loc i) its = some xs
  at_ : At K.cfg K.code (K.loc i) xs
  next : K.loc (i + 1) = K.loc i + itemsSize its
  lt : i < K.n

theorem Ctx.instrAt (K : Ctx w) {i : Nat} {ins : Bc.Instr w} (hi : K.p.insts[i]? = some ins) :
    ∃ lv its xs, InstrAt K i ins lv its xs := by
  have hlt : i < K.p.insts.size := by
    rcases Nat.lt_or_ge i K.p.insts.size with h | h
    · exact h
    · rw [Array.getElem?_eq_none h] at hi; cases hi
  have hlv : ∃ lv, K.p.live[i]? = some lv := ⟨K.p.live[i]'(by rw [K.hlive]; exact hlt), by
    rw [Array.getElem?_eq_getElem]⟩
  obtain ⟨lv, hlv⟩ := hlv
  obtain ⟨its, hb, he⟩ := emitProgram_getElem? K.C.hbody hi hlv
  obtain ⟨cpre, xs, cpost, h1, h2, h3⟩ := layout_at K.C hb
  exact ⟨lv, its, xs, hlv, he, hb, h3, ⟨K.hfetch, cpre, cpost, h1, h2⟩, offAt_succ _ _ hb, hlt⟩

theorem Ctx.at_end (K : Ctx w) : At K.cfg K.code (K.loc K.n) (epilogueHead ++ epilogueTail K.p.temps) := by
  obtain ⟨cpre, h1, h2⟩ := layout_end K.C
  refine ⟨K.hfetch, cpre, [], by rw [h1]; simp, ?_⟩
  rw [h2, Ctx.loc, K.body_length]

theorem Ctx.term_eq (K : Ctx w) : K.term = K.loc K.n + sizeAll epilogueHead := by
  simp [Ctx.term, termOf, Ctx.loc, K.body_length]

theorem Ctx.at_term (K : Ctx w) : At K.cfg K.code K.term (epilogueTail K.p.temps) := by
  rw [K.term_eq]; exact K.at_end.drop

/-- The activation record of the compiled function: the value of `rsp` in the body and the slots above the
temporaries: seven in the only frame built (`frameOf` of `C03FlowEntry`: `r15 r14 r13 r12 rbx rbp` of the caller,
return address); the exits take `saved.length = 7` as a hypothesis. -/
structure Frame where
  rsp : BitVec 64
  saved : List (BitVec 64)

/-- `rbp` is where the machine's bookkeeping says it is: `buffer + cell size * (lptr - base)`. -/
def Phys (s : PState w) : Prop :=
  s.regs.rbp = s.buf + BitVec.ofInt 64 (cellBytes w * (s.lptr - s.base))

theorem Phys.of_eq {s s' : PState w} (h : Phys s) (h1 : s'.regs.get .rbp = s.regs.get .rbp)
    (h2 : s'.buf = s.buf) (h3 : s'.lptr = s.lptr) (h4 : s'.base = s.base) : Phys s' := by
  unfold Phys at *
  have : s'.regs.rbp = s'.regs.get .rbp := rfl
  rw [this, h1, h2, h3, h4]; exact h

/-- Everything but the register/stack/tape agreement (`Rel`), which the theorems state separately. -/
structure Inv (K : Ctx w) (fr : Frame) (c : Bc.Cfg w) (s : PState w) : Prop where
  pc : s.pc = K.loc c.pc
  rbx : s.regs.rbx = K.cfg.cxtAddr
  env : s.env = c.st.env
  trace : s.trace = c.st.trace
  budget : s.budget.toNat = c.budget
  tapeOk : s.tapeOk = true
  rsp : s.regs.rsp = fr.rsp
  align : fr.rsp.toNat % 16 = 0
  len : s.stk.length = alignedTemps K.p.temps + fr.saved.length
  saved : s.stk.drop (alignedTemps K.p.temps) = fr.saved
  phys : Phys s


/-- `s'` is `s` except for flags, `pc` and `oob`. -/
structure SameBut (s s' : PState w) : Prop where
  regs : s'.regs = s.regs
  tape : s'.tape = s.tape
  stk : s'.stk = s.stk
  ctl : SameCtl s s'

theorem SameBut.rfl' (s : PState w) : SameBut s s := ⟨rfl, rfl, rfl, SameCtl.rfl' s⟩

theorem SameBut.trans {a b c : PState w} (h1 : SameBut a b) (h2 : SameBut b c) : SameBut a c :=
  ⟨h2.regs.trans h1.regs, h2.tape.trans h1.tape, h2.stk.trans h1.stk, h1.ctl.trans h2.ctl⟩

theorem rel_pc {c : Bc.Cfg w} {m : MState w} (h : Rel c m) (n : Nat) : Rel { c with pc := n } m := h

theorem Ctx.loc_le (K : Ctx w) {i : Nat} (h : i ≤ K.n) : K.loc i ≤ K.loc K.n := by
  have := locOf_le (p := K.p) K.C.body (i := i) (by rw [K.body_length]; exact h)
  rwa [K.body_length] at this

theorem Ctx.size_eq (K : Ctx w) : sizeAll K.code = K.term + sizeAll (epilogueTail K.p.temps) := code_size K.C

theorem Ctx.resolve_jccInstr (K : Ctx w) {pos : Nat} {pr : JmpPred} {tgt : Int} {xs : List X86}
    (h : JitGen.resolve (locsOf K.p K.C.body) K.term pos (.jccInstr pr tgt) = some xs)
    (hpos : pos + 6 ≤ K.loc K.n) :
    ∃ d, xs = [.jccRel32 pr d] ∧ 0 ≤ tgt ∧ tgt.toNat ≤ K.n ∧ (pos : Int) + 6 + d = K.loc tgt.toNat ∧
      (X86.jccRel32 pr d).fits = true := by
  simp only [JitGen.resolve] at h
  split at h
  · cases h
  · rename_i hneg
    rw [locsOf_getElem?] at h
    by_cases hle : tgt.toNat ≤ K.C.body.length
    · simp only [hle, if_true, Option.some.injEq] at h
      subst h
      have hsz := K.size_eq
      have hsm := K.hsmall
      have hT := K.term_eq
      have hl := K.loc_le (i := tgt.toNat) (by rw [← K.body_length]; exact hle)
      refine ⟨_, rfl, by omega, by rw [← K.body_length]; exact hle, ?_⟩
      simp only [Ctx.loc] at *
      rw [i32_eq (by push_cast; omega) (by push_cast; omega)]
      refine ⟨by push_cast; omega, ?_⟩
      simp only [X86.fits, fitsS, Bool.and_eq_true, decide_eq_true_eq]
      constructor <;> (push_cast; omega)
    · simp [hle] at h

theorem Ctx.resolve_jccTerm (K : Ctx w) {pos : Nat} {pr : JmpPred} {xs : List X86}
    (h : JitGen.resolve (locsOf K.p K.C.body) K.term pos (.jccTerm pr) = some xs)
    (hpos : pos + 6 ≤ K.loc K.n) :
    ∃ d, xs = [.jccRel32 pr d] ∧ (pos : Int) + 6 + d = K.term ∧ (X86.jccRel32 pr d).fits = true := by
  simp only [JitGen.resolve, Option.some.injEq] at h
  subst h
  have hsz := K.size_eq
  have hsm := K.hsmall
  have hT := K.term_eq
  refine ⟨_, rfl, ?_⟩
  rw [i32_eq (by push_cast; omega) (by push_cast; omega)]
  refine ⟨by push_cast; omega, ?_⟩
  simp only [X86.fits, fitsS, Bool.and_eq_true, decide_eq_true_eq]
  constructor <;> (push_cast; omega)

theorem resolveItems_plain_cons {locs : Array Nat} {term pos : Nat} {x : X86} {its : List Item}
    {xs : List X86} (h : resolveItems locs term pos (.plain x :: its) = some xs) :
    ∃ ys, xs = x :: ys ∧ resolveItems locs term (pos + x.size) its = some ys := by
  obtain ⟨a, b, h1, h2, h3⟩ := resolveItems_cons _ _ _ h
  simp only [JitGen.resolve, Option.some.injEq] at h1
  subst h1
  exact ⟨b, by simpa using h3, h2⟩

theorem resolveItems_plains {locs : Array Nat} {term pos : Nat} {ps : List X86} {its : List Item}
    {xs : List X86} (h : resolveItems locs term pos (plains ps ++ its) = some xs) :
    ∃ ys, xs = ps ++ ys ∧ resolveItems locs term (pos + sizeAll ps) its = some ys := by
  induction ps generalizing pos xs with
  | nil => exact ⟨xs, rfl, by simpa [plains] using h⟩
  | cons p ps ih =>
    simp only [plains, List.map_cons, List.cons_append] at h
    obtain ⟨ys, h1, h2⟩ := resolveItems_plain_cons h
    obtain ⟨zs, h3, h4⟩ := ih (by simpa [plains] using h2)
    exact ⟨zs, by rw [h1, h3]; rfl, by rw [sizeAll_cons, ← Nat.add_assoc]; exact h4⟩

theorem resolveItems_nil' {locs : Array Nat} {term pos : Nat} {xs : List X86}
    (h : resolveItems locs term pos [] = some xs) : xs = [] := by
  simp [resolveItems] at h; exact h


/-- An instruction whose items are plain code around one exit jump: its resolved code, where the jump
leads, and where the next instruction begins. -/
theorem InstrAt.jccTerm {K : Ctx w} {i lv : Nat} {ins : Bc.Instr w} {its : List Item} {xs : List X86}
    (hI : InstrAt K i ins lv its xs) {P Q : List X86} {pr : JmpPred}
    (hits : its = plains P ++ .jccTerm pr :: plains Q) :
    ∃ d, At K.cfg K.code (K.loc i) (P ++ .jccRel32 pr d :: Q) ∧
      ((K.loc i + sizeAll P : Nat) : Int) + 6 + d = K.term ∧ (X86.jccRel32 pr d).fits = true ∧
      K.loc (i + 1) = K.loc i + sizeAll P + 6 + sizeAll Q := by
  subst hits
  have hnx := hI.next
  simp only [itemsSize_append, itemsSize_plains, itemsSize_cons, Item.size] at hnx
  have hle : K.loc (i + 1) ≤ K.loc K.n := K.loc_le hI.lt
  obtain ⟨ys, hxs, h2⟩ := resolveItems_plains hI.res
  obtain ⟨y1, y2, hj, h3, ey⟩ := resolveItems_cons _ _ _ h2
  obtain ⟨y3, e3, h4⟩ := resolveItems_plains (its := []) (by simpa using h3)
  obtain ⟨d, hd, hdt, hfd⟩ := K.resolve_jccTerm hj (by omega)
  have hat := hI.at_
  rw [hxs, ey, hd, e3, resolveItems_nil' h4] at hat
  exact ⟨d, by simpa using hat, hdt, hfd, by omega⟩

/-- `s'` agrees with `s` on every register but the scratch registers `rax`, `rcx`, on tape and stack and
on the layout of the tape; flags, `pc`, `oob`, `budget` and `off` are free. -/
structure SameTmp (s s' : PState w) : Prop where
  regs : ∀ r, r ≠ .rax → r ≠ .rcx → s'.regs.get r = s.regs.get r
  tape : s'.tape = s.tape
  stk : s'.stk = s.stk
  lptr : s'.lptr = s.lptr
  tapeOk : s'.tapeOk = s.tapeOk
  buf : s'.buf = s.buf
  size : s'.size = s.size
  base : s'.base = s.base
  env : s'.env = s.env
  trace : s'.trace = s.trace

theorem SameTmp.rfl' (s : PState w) : SameTmp s s := ⟨fun _ _ _ => rfl, rfl, rfl, rfl, rfl, rfl, rfl, rfl, rfl, rfl⟩

theorem SameTmp.trans {a b c : PState w} (h1 : SameTmp a b) (h2 : SameTmp b c) : SameTmp a c :=
  ⟨fun r hr hr' => (h2.regs r hr hr').trans (h1.regs r hr hr'), h2.tape.trans h1.tape, h2.stk.trans h1.stk,
   h2.lptr.trans h1.lptr, h2.tapeOk.trans h1.tapeOk, h2.buf.trans h1.buf, h2.size.trans h1.size,
   h2.base.trans h1.base, h2.env.trans h1.env, h2.trace.trans h1.trace⟩

theorem SameBut.sameTmp {s s' : PState w} (h : SameBut s s') : SameTmp s s' :=
  ⟨fun r _ _ => by rw [h.regs], h.tape, h.stk, h.ctl.lptr, h.ctl.tapeOk, h.ctl.buf, h.ctl.size, h.ctl.base,
   h.ctl.env, h.ctl.trace⟩

/-- Agreement on `S` survives a step that keeps the stack and the registers of the temporaries in `S`; the tape is
left to the caller. -/
theorem RelOn.of_kept {S : Nat → Prop} {c c' : Bc.Cfg w} {s s' : PState w} (hr : RelOn S c (view s))
    (hreg : ∀ t, t < 11 → S t → s'.regs.get (treg t) = s.regs.get (treg t)) (hstk : s'.stk = s.stk)
    (htemps : c'.temps = c.temps) (htape : ∀ o, (view s').tape o = c'.st.rd o) : RelOn S c' (view s') := by
  refine ⟨fun t r htr hS => ?_, fun t ht => ?_, htape⟩
  · obtain ⟨hlt, rfl⟩ := tmpReg_eq_some.1 htr
    have := hr.1 t _ htr hS
    simp only [view] at this ⊢
    rw [htemps, hreg t hlt hS]; exact this
  · have := hr.2.1 t ht
    simp only [view] at this ⊢
    rw [htemps, hstk]; exact this

/-- The tape part of `RelOn.of_kept` when tape and pointer are unchanged. -/
theorem RelOn.tape_kept {S : Nat → Prop} {c : Bc.Cfg w} {s s' : PState w} (hr : RelOn S c (view s))
    (htape : s'.tape = s.tape) (hlptr : s'.lptr = s.lptr) (o : Int) : (view s').tape o = c.st.rd o := by
  have := hr.2.2 o
  simp only [view] at this ⊢
  rw [htape, hlptr]; exact this

theorem SameTmp.relOn {s s' : PState w} (h : SameTmp s s') {S : Nat → Prop} {c : Bc.Cfg w}
    (hr : RelOn S c (view s)) : RelOn S c (view s') :=
  hr.of_kept (fun _ hlt _ => h.regs _ (treg_ne hlt).1 (treg_ne hlt).2.1) h.stk rfl (hr.tape_kept h.tape h.lptr)

theorem SameTmp.rel {s s' : PState w} (h : SameTmp s s') {c : Bc.Cfg w} (hr : Rel c (view s)) :
    Rel c (view s') := (rel_iff_relOn ..).2 (h.relOn ((rel_iff_relOn ..).1 hr))

theorem SameBut.rel {s s' : PState w} (h : SameBut s s') {c : Bc.Cfg w} (hr : Rel c (view s)) :
    Rel c (view s') := h.sameTmp.rel hr

/-- The activation record is intact: what `Inv` says beyond `pc`, environment, trace and budget. It depends on
`rbx`, `rsp`, `rbp`, the stack above the temporaries, `tapeOk` and the three fields of `Phys` only. -/
structure Framed (K : Ctx w) (fr : Frame) (s : PState w) : Prop where
  rbx : s.regs.rbx = K.cfg.cxtAddr
  tapeOk : s.tapeOk = true
  rsp : s.regs.rsp = fr.rsp
  align : fr.rsp.toNat % 16 = 0
  len : s.stk.length = alignedTemps K.p.temps + fr.saved.length
  saved : s.stk.drop (alignedTemps K.p.temps) = fr.saved
  phys : Phys s

theorem Inv.framed {K : Ctx w} {fr : Frame} {c : Bc.Cfg w} {s : PState w} (h : Inv K fr c s) : Framed K fr s :=
  ⟨h.rbx, h.tapeOk, h.rsp, h.align, h.len, h.saved, h.phys⟩

theorem Framed.inv {K : Ctx w} {fr : Frame} {c : Bc.Cfg w} {s : PState w} (h : Framed K fr s)
    (hpc : s.pc = K.loc c.pc) (henv : s.env = c.st.env) (htr : s.trace = c.st.trace)
    (hb : s.budget.toNat = c.budget) : Inv K fr c s :=
  ⟨hpc, h.rbx, henv, htr, hb, h.tapeOk, h.rsp, h.align, h.len, h.saved, h.phys⟩

theorem Framed.of_eq {K : Ctx w} {fr : Frame} {s s' : PState w} (h : Framed K fr s)
    (hr : ∀ r, r = .rbx ∨ r = .rsp ∨ r = .rbp → s'.regs.get r = s.regs.get r)
    (hlen : s'.stk.length = s.stk.length)
    (hdrop : s'.stk.drop (alignedTemps K.p.temps) = s.stk.drop (alignedTemps K.p.temps))
    (htok : s'.tapeOk = s.tapeOk) (hbuf : s'.buf = s.buf) (hlptr : s'.lptr = s.lptr) (hbase : s'.base = s.base) :
    Framed K fr s' :=
  ⟨(hr .rbx (by simp)).trans h.rbx, htok.trans h.tapeOk, (hr .rsp (by simp)).trans h.rsp, h.align,
   hlen.trans h.len, hdrop.trans h.saved, h.phys.of_eq (hr .rbp (by simp)) hbuf hlptr hbase⟩

theorem Framed.of_sameTmp {K : Ctx w} {fr : Frame} {s s' : PState w} (h : Framed K fr s) (hk : SameTmp s s') :
    Framed K fr s' :=
  h.of_eq (fun r hr => hk.regs r (by rcases hr with rfl | rfl | rfl <;> decide)
    (by rcases hr with rfl | rfl | rfl <;> decide)) (by rw [hk.stk]) (by rw [hk.stk]) hk.tapeOk hk.buf hk.lptr hk.base

theorem Framed.of_sameBut {K : Ctx w} {fr : Frame} {s s' : PState w} (h : Framed K fr s) (hk : SameBut s s') :
    Framed K fr s' := h.of_sameTmp hk.sameTmp

end C03
end Hpbf
