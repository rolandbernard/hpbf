/-
C02 (`allocate_temps`): the local invariant `LInv` of the first phase.  It holds for the generator state
after `emit_block` (`linv_of_emit`) and yields (`allocPre_of_linv`, `C02AllocEmitAll`) the components `live0`, `noZero`,
`defs`, `uses`, `writes`, `firstLt` of `AllocPre` and the first half of `fuse` (the recorded first use reads the
temporary and nothing before it does).  `PushStep`: what one emitted instruction does to the tables; `outerLoop_inv`:
what the loop that extends ranges at the end of a loop body keeps beside `LInv`.
-/
import Hpbf.Proofs.C02AllocEmitI
set_option linter.unusedSimpArgs false

namespace Hpbf
namespace C02
namespace AEmit

open Bc BcWf BcGen C11 C02Emit

variable {w : Nat}

/-- `rwf`: the range table is well formed; `oa`: the entries of `outer_accessed` have a first use (`outerLoop` extends them
with `inc = 0`, and with a first use recorded `bump` changes only `lastUse`: `linv_extend`). -/
structure LInv (s : St w) : Prop where
  live : s.live = #[]
  noZero : ∀ (j : Nat) (x : Instr w), s.insts[j]? = some x → NoMemZero x
  vals : ∀ p ∈ s.values, p.2 < s.ranges.size
  rwf : ∀ (t : Nat) (r : RangeInfo), s.ranges[t]? = some r →
    r.created < s.insts.size ∧ (∀ L, r.lastUse = some L → L ≤ s.insts.size) ∧
    (∀ f, r.firstUse = some f → r.created < f ∧ ∃ x, s.insts[f]? = some x ∧ t ∈ BcWf.uses x)
  defs : ∀ (j : Nat) (x : Instr w) (t : Nat), s.insts[j]? = some x → t ∈ BcWf.defs x →
    ∃ r : RangeInfo, s.ranges[t]? = some r ∧ r.created = j
  uses : ∀ (j : Nat) (x : Instr w) (t : Nat), s.insts[j]? = some x → t ∈ BcWf.uses x →
    ∃ (r : RangeInfo) (L f : Nat), s.ranges[t]? = some r ∧ r.lastUse = some L ∧ r.created < j ∧ j ≤ L ∧
      r.firstUse = some f ∧ f ≤ j
  writes : ∀ (j : Nat) (x : Instr w) (m : Int), s.insts[j]? = some x → m ∈ memDefs x →
    ∃ ws, alGet s.writes m = some ws ∧ j ∈ ws
  oa : ∀ v ∈ s.outerAccessed.toList, ∃ (r : RangeInfo) (f : Nat), s.ranges[v]? = some r ∧ r.firstUse = some f

theorem linv_init : LInv ({} : St w) := by
  refine ⟨rfl, ?_, ?_, ?_, ?_, ?_, ?_, ?_⟩
  · intro j x h; simp at h
  · intro p h; cases h
  · intro t r h; simp at h
  · intro j x t h; simp at h
  · intro j x t h; simp at h
  · intro j x m h; simp at h
  · intro v h; simp at h

/-- `r'` is `r` after a use at position `n`. -/
structure Bumped (n : Nat) (r r' : RangeInfo) : Prop where
  created : r'.created = r.created
  last : r'.lastUse = some n
  firstNone : r.firstUse = none → r'.firstUse = some n
  firstSome : ∀ f, r.firstUse = some f → r'.firstUse = some f

theorem bumped_bump (r : RangeInfo) (n inc : Nat) : Bumped n r (bump r n inc) := by
  refine ⟨rfl, rfl, ?_, ?_⟩
  · intro h; simp [bump, h]
  · intro f h; simp [bump, h]

theorem Bumped.trans {n : Nat} {r r' r'' : RangeInfo} (h : Bumped n r r') (g : Bumped n r' r'') :
    Bumped n r r'' := by
  refine ⟨g.created.trans h.created, g.last, ?_, ?_⟩
  · intro e; exact g.firstSome n (h.firstNone e)
  · intro f e; exact g.firstSome f (h.firstSome f e)

theorem ext_ranges {v inc : Nat} {s s' : St w} (E : ExtSpec v inc s s') :
    (∃ r, s.ranges[v]? = some r ∧ s'.ranges[v]? = some (bump r s.insts.size inc)) ∧
    ∀ t, t ≠ v → s'.ranges[t]? = s.ranges[t]? := by
  obtain ⟨r, hr, h⟩ := E.entry
  have hlt : v < s.ranges.size := lt_of_getElem? hr
  refine ⟨⟨r, hr, ?_⟩, ?_⟩
  · rw [h, Array.getElem?_setIfInBounds]; simp [hlt]
  · intro t ht
    rw [h, Array.getElem?_setIfInBounds]
    simp [Ne.symm ht]

/-- The state after the reads: only the entries of the operands and `outerAccessed` change. -/
structure ReadsFacts (l : List Nat) (s s' : St w) : Prop where
  hit : ∀ t ∈ l, ∃ r r', s.ranges[t]? = some r ∧ s'.ranges[t]? = some r' ∧ Bumped s.insts.size r r'
  miss : ∀ t, t ∉ l → s'.ranges[t]? = s.ranges[t]?
  outer : ∀ v ∈ s'.outerAccessed.toList, v ∈ s.outerAccessed.toList ∨ v ∈ l
  writes : s'.writes = s.writes
  exprs : s'.exprs = s.exprs
  values : s'.values = s.values
  insts : s'.insts = s.insts
  live : s'.live = s.live
  size : s'.ranges.size = s.ranges.size

theorem readsFacts : ∀ (l : List Nat) {s s' : St w}, ReadsSpec l s s' → ReadsFacts l s s'
  | [], s, s', h => by
    rw [h]
    exact ⟨(fun t ht => by cases ht), fun _ _ => rfl, fun v hv => Or.inl hv, rfl, rfl, rfl, rfl, rfl, rfl⟩
  | a :: rest, s, s', ⟨s1, h1, h2⟩ => by
    have F := readsFacts rest h2
    obtain ⟨⟨ra, hra, hra'⟩, hother⟩ := ext_ranges h1
    have hn : s1.insts.size = s.insts.size := by rw [h1.insts]
    refine ⟨?_, ?_, ?_, F.writes.trans h1.writes, F.exprs.trans h1.exprs, F.values.trans h1.values,
      F.insts.trans h1.insts, F.live.trans h1.live, F.size.trans (extSpec_size h1)⟩
    · intro t ht
      by_cases hta : t = a
      · subst hta
        by_cases htr : t ∈ rest
        · obtain ⟨r, r', g1, g2, g3⟩ := F.hit t htr
          rw [hra'] at g1; cases g1
          rw [hn] at g3
          exact ⟨ra, r', hra, g2, (bumped_bump ra _ 1).trans g3⟩
        · exact ⟨ra, _, hra, by rw [F.miss t htr]; exact hra', bumped_bump ra _ 1⟩
      · have htr : t ∈ rest := by
          rcases List.mem_cons.1 ht with e | e
          · exact absurd e hta
          · exact e
        obtain ⟨r, r', g1, g2, g3⟩ := F.hit t htr
        rw [hother t hta] at g1
        rw [hn] at g3
        exact ⟨r, r', g1, g2, g3⟩
    · intro t ht
      simp only [List.mem_cons, not_or] at ht
      rw [F.miss t ht.2, hother t ht.1]
    · intro v hv
      rcases F.outer v hv with h | h
      · rcases h1.outer with ⟨e, _⟩ | ⟨e, _⟩
        · rw [e] at h; exact Or.inl h
        · rw [e] at h
          simp only [Array.toList_push, List.mem_append, List.mem_singleton] at h
          rcases h with h | rfl
          · exact Or.inl h
          · exact Or.inr List.mem_cons_self
      · exact Or.inr (List.mem_cons_of_mem _ h)

theorem getElem?_push_lt' {α : Type} (a : Array α) (x : α) {j : Nat} (h : j < a.size) :
    (a.push x)[j]? = a[j]? := by
  rw [Array.getElem?_push]; simp [Nat.ne_of_lt h]

theorem getElem?_setIfInBounds_cases {α : Type} {a : Array α} {i j : Nat} {y z : α}
    (h : (a.setIfInBounds i y)[j]? = some z) : (j = i ∧ z = y) ∨ (j ≠ i ∧ a[j]? = some z) := by
  rw [Array.getElem?_setIfInBounds] at h
  split at h
  · rename_i e
    split at h
    · exact Or.inl ⟨e.symm, (Option.some.inj h).symm⟩
    · cases h
  · rename_i e
    exact Or.inr ⟨fun e' => e e'.symm, h⟩

/-- `s'` is `s` after the operands `ops` have been read at position `s.insts.size`, possibly a new value `nv`
has been created there, and `inst` has been appended. -/
structure PushStep (s s' : St w) (ops : List Nat) (inst : Instr w) (nv : Option Nat) : Prop where
  hops : ∀ a ∈ ops, a < s.ranges.size
  hinsts : s'.insts = s.insts.push inst
  hlive : s'.live = s.live
  huses : ∀ t, t ∈ BcWf.uses inst ↔ t ∈ ops
  hdefs : ∀ t, t ∈ BcWf.defs inst → nv = some t
  hz : NoMemZero inst
  hhit : ∀ t ∈ ops, ∃ r r', s.ranges[t]? = some r ∧ s'.ranges[t]? = some r' ∧ Bumped s.insts.size r r'
  hmiss : ∀ t, t ∉ ops → t < s.ranges.size → s'.ranges[t]? = s.ranges[t]?
  hsize : s'.ranges.size = s.ranges.size + (if nv.isSome then 1 else 0)
  hnew : ∀ v, nv = some v → v = s.ranges.size ∧
    s'.ranges[v]? = some { created := s.insts.size, firstUse := none, lastUse := none, numUses := 0 }
  houter : ∀ v ∈ s'.outerAccessed.toList, v ∈ s.outerAccessed.toList ∨ v ∈ ops
  hwrites : ∀ m ws, alGet s.writes m = some ws → ∃ ws', alGet s'.writes m = some ws' ∧ ∀ j ∈ ws, j ∈ ws'
  hwnew : ∀ m ∈ memDefs inst, ∃ ws, alGet s'.writes m = some ws ∧ s.insts.size ∈ ws

namespace PushStep

theorem ent {s s' : St w} {ops : List Nat} {inst : Instr w} {nv : Option Nat}
    (P : PushStep s s' ops inst nv) {t : Nat} {r' : RangeInfo} (hr' : s'.ranges[t]? = some r') :
    (t ∈ ops ∧ ∃ r, s.ranges[t]? = some r ∧ Bumped s.insts.size r r') ∨
    (t ∉ ops ∧ t < s.ranges.size ∧ s.ranges[t]? = some r') ∨
    (nv = some t ∧ t = s.ranges.size ∧
      r' = { created := s.insts.size, firstUse := none, lastUse := none, numUses := 0 }) := by
  by_cases hto : t ∈ ops
  · obtain ⟨r, q, g1, g2, g3⟩ := P.hhit t hto
    rw [hr'] at g2; cases g2
    exact Or.inl ⟨hto, r, g1, g3⟩
  · by_cases hlt : t < s.ranges.size
    · exact Or.inr (Or.inl ⟨hto, hlt, by rw [← P.hmiss t hto hlt]; exact hr'⟩)
    · have hlt' : t < s'.ranges.size := lt_of_getElem? hr'
      cases hnv : nv with
      | none => rw [P.hsize, hnv] at hlt'; simp at hlt'; omega
      | some v =>
        obtain ⟨e1, e2⟩ := P.hnew v hnv
        have : t = v := by rw [P.hsize, hnv] at hlt'; simp at hlt'; omega
        subst this
        rw [hr'] at e2
        exact Or.inr (Or.inr ⟨rfl, e1, Option.some.inj e2⟩)

theorem lastLt {s s' : St w} {ops : List Nat} {inst : Instr w} {nv : Option Nat}
    (P : PushStep s s' ops inst nv)
    (h : ∀ (t : Nat) (r : RangeInfo) (L : Nat), s.ranges[t]? = some r → r.lastUse = some L → L < s.insts.size) :
    ∀ (t : Nat) (r : RangeInfo) (L : Nat), s'.ranges[t]? = some r → r.lastUse = some L → L < s'.insts.size := by
  intro t r' L hr' hL
  rw [P.hinsts, Array.size_push]
  rcases P.ent hr' with ⟨_, r, _, g2⟩ | ⟨_, _, g1⟩ | ⟨_, _, rfl⟩
  · rw [g2.last] at hL; cases hL; omega
  · have := h t r' L g1 hL; omega
  · cases hL

theorem linv {s s' : St w} {ops : List Nat} {inst : Instr w} {nv : Option Nat}
    (P : PushStep s s' ops inst nv) (h : LInv s) (hvals : ∀ p ∈ s'.values, p ∈ s.values ∨ p.2 < s'.ranges.size) :
    LInv s' := by
  have hent := fun t r' => P.ent (t := t) (r' := r')
  obtain ⟨hops, hinsts, hlive, huses, hdefs, hz, hhit, hmiss, hsize, hnew, houter, hwrites, hwnew⟩ := P
  have hsz : s'.insts.size = s.insts.size + 1 := by rw [hinsts]; simp
  have hle : s.ranges.size ≤ s'.ranges.size := by rw [hsize]; omega
  have hold : ∀ t r, s.ranges[t]? = some r → ∃ r', s'.ranges[t]? = some r' ∧ r'.created = r.created ∧
      (∀ f, r.firstUse = some f → r'.firstUse = some f) ∧
      ((t ∈ ops ∧ Bumped s.insts.size r r') ∨ (t ∉ ops ∧ r' = r)) := by
    intro t r hr
    by_cases hto : t ∈ ops
    · obtain ⟨r0, r', g1, g2, g3⟩ := hhit t hto
      rw [hr] at g1; cases g1
      exact ⟨r', g2, g3.created, g3.firstSome, Or.inl ⟨hto, g3⟩⟩
    · exact ⟨r, by rw [hmiss t hto (lt_of_getElem? hr)]; exact hr, rfl, fun f e => e, Or.inr ⟨hto, rfl⟩⟩
  refine ⟨by rw [hlive]; exact h.live, ?_, ?_, ?_, ?_, ?_, ?_, ?_⟩
  · intro j x hx
    rw [hinsts] at hx
    rcases getElem?_push_cases hx with ⟨_, e⟩ | ⟨_, rfl⟩
    · exact h.noZero j x e
    · exact hz
  · intro p hp
    rcases hvals p hp with e | e
    · exact Nat.lt_of_lt_of_le (h.vals p e) hle
    · exact e
  · intro t r' hr'
    rcases hent t r' hr' with ⟨hto, r, g1, g2⟩ | ⟨_, _, g1⟩ | ⟨_, _, rfl⟩
    · obtain ⟨q1, q2, q3⟩ := h.rwf t r g1
      refine ⟨by rw [g2.created, hsz]; omega, ?_, ?_⟩
      · intro L hL; rw [g2.last] at hL; cases hL; omega
      · intro f hf
        cases hfo : r.firstUse with
        | none =>
          rw [g2.firstNone hfo] at hf; cases hf
          rw [g2.created]
          refine ⟨q1, inst, by rw [hinsts]; simp, (huses t).2 hto⟩
        | some f0 =>
          rw [g2.firstSome f0 hfo] at hf; cases hf
          obtain ⟨p1, x, p2, p3⟩ := q3 f hfo
          rw [g2.created]
          exact ⟨p1, x, by rw [hinsts, getElem?_push_lt' _ _ (lt_of_getElem? p2)]; exact p2, p3⟩
    · obtain ⟨q1, q2, q3⟩ := h.rwf t r' g1
      refine ⟨by rw [hsz]; omega, fun L hL => by have := q2 L hL; omega, ?_⟩
      intro f hf
      obtain ⟨p1, x, p2, p3⟩ := q3 f hf
      exact ⟨p1, x, by rw [hinsts, getElem?_push_lt' _ _ (lt_of_getElem? p2)]; exact p2, p3⟩
    · exact ⟨by simp only; omega, (fun L hL => by cases hL), (fun f hf => by cases hf)⟩
  · intro j x t hx ht
    rw [hinsts] at hx
    rcases getElem?_push_cases hx with ⟨_, e⟩ | ⟨rfl, rfl⟩
    · obtain ⟨r, g1, g2⟩ := h.defs j x t e ht
      obtain ⟨r', q1, q2, _⟩ := hold t r g1
      exact ⟨r', q1, by rw [q2, g2]⟩
    · obtain ⟨_, e2⟩ := hnew t (hdefs t ht)
      exact ⟨_, e2, rfl⟩
  · intro j x t hx ht
    rw [hinsts] at hx
    rcases getElem?_push_cases hx with ⟨hj, e⟩ | ⟨rfl, rfl⟩
    · obtain ⟨r, L, f, g1, g2, g3, g4, g5, g6⟩ := h.uses j x t e ht
      obtain ⟨r', q1, q2, q3, q4⟩ := hold t r g1
      rcases q4 with ⟨_, hb⟩ | ⟨_, rfl⟩
      · exact ⟨r', s.insts.size, f, q1, hb.last, by rw [q2]; exact g3, by omega, q3 f g5, g6⟩
      · exact ⟨r', L, f, q1, g2, g3, g4, g5, g6⟩
    · have hto := (huses t).1 ht
      obtain ⟨r, r', g1, g2, g3⟩ := hhit t hto
      obtain ⟨q1, q2, q3⟩ := h.rwf t r g1
      cases hfo : r.firstUse with
      | none =>
        exact ⟨r', s.insts.size, s.insts.size, g2, g3.last, by rw [g3.created]; exact q1, Nat.le_refl _,
          g3.firstNone hfo, Nat.le_refl _⟩
      | some f0 =>
        obtain ⟨p1, x, p2, p3⟩ := q3 f0 hfo
        exact ⟨r', s.insts.size, f0, g2, g3.last, by rw [g3.created]; exact q1, Nat.le_refl _,
          g3.firstSome f0 hfo, Nat.le_of_lt (lt_of_getElem? p2)⟩
  · intro j x m hx hm
    rw [hinsts] at hx
    rcases getElem?_push_cases hx with ⟨_, e⟩ | ⟨rfl, rfl⟩
    · obtain ⟨ws, g1, g2⟩ := h.writes j x m e hm
      obtain ⟨ws', q1, q2⟩ := hwrites m ws g1
      exact ⟨ws', q1, q2 j g2⟩
    · exact hwnew m hm
  · intro v hv
    rcases houter v hv with e | e
    · obtain ⟨r, f, g1, g2⟩ := h.oa v e
      obtain ⟨r', q1, _, q3, _⟩ := hold v r g1
      exact ⟨r', f, q1, q3 f g2⟩
    · obtain ⟨r, r', g1, g2, g3⟩ := hhit v e
      cases hfo : r.firstUse with
      | none => exact ⟨r', _, g2, g3.firstNone hfo⟩
      | some f0 => exact ⟨r', f0, g2, g3.firstSome f0 hfo⟩

end PushStep

theorem addWrite_self (ws : List (Int × List Nat)) (var : Int) (pos : Nat) :
    ∃ l, alGet (addWrite ws var pos) var = some l ∧ pos ∈ l := by
  unfold addWrite
  cases hg : alGet ws var with
  | none => exact ⟨[pos], by rw [alGet_alSet]; simp, by simp⟩
  | some l =>
    simp only
    refine ⟨if l.contains pos then l else pos :: l, by rw [alGet_alSet]; simp, ?_⟩
    split
    · rename_i hc; simpa using hc
    · simp

theorem addWrite_mono (ws : List (Int × List Nat)) (var : Int) (pos : Nat) {m : Int} {l : List Nat}
    (h : alGet ws m = some l) : ∃ l', alGet (addWrite ws var pos) m = some l' ∧ ∀ j ∈ l, j ∈ l' := by
  by_cases hm : m = var
  · subst hm
    unfold addWrite
    simp only [h]
    refine ⟨if l.contains pos then l else pos :: l, by rw [alGet_alSet]; simp, ?_⟩
    intro j hj
    split
    · exact hj
    · exact List.mem_cons_of_mem _ hj
  · refine ⟨l, ?_, fun j hj => hj⟩
    unfold addWrite
    cases hg : alGet ws var with
    | none => simp only; rw [alGet_alSet]; simp [hm, h]
    | some l0 => simp only; rw [alGet_alSet]; simp [hm, h]

theorem linv_frame {s s' : St w} (h : LInv s) (e1 : s'.writes = s.writes) (e2 : s'.ranges = s.ranges)
    (e3 : s'.insts = s.insts) (e4 : s'.live = s.live) (e5 : ∀ p ∈ s'.values, p ∈ s.values)
    (e6 : ∀ v ∈ s'.outerAccessed.toList, v ∈ s.outerAccessed.toList) : LInv s' := by
  refine ⟨by rw [e4]; exact h.live, by rw [e3]; exact h.noZero, ?_, by rw [e2, e3]; exact h.rwf,
    by rw [e2, e3]; exact h.defs, by rw [e2, e3]; exact h.uses, by rw [e1, e3]; exact h.writes, ?_⟩
  · intro p hp; rw [e2]; exact h.vals p (e5 p hp)
  · intro v hv; rw [e2]; exact h.oa v (e6 v hv)

theorem uses_defs_ctl {x : Instr w} (h : isCtl x = true) :
    BcWf.uses x = [] ∧ BcWf.defs x = [] ∧ memDefs x = [] ∧ NoMemZero x := by
  cases x <;> simp [isCtl] at h <;> exact ⟨rfl, rfl, rfl, rfl⟩

theorem linv_push {s : St w} (h : LInv s) {x : Instr w} (hx : isCtl x = true) :
    LInv { s with insts := s.insts.push x } := by
  obtain ⟨u1, u2, u3, u4⟩ := uses_defs_ctl hx
  refine PushStep.linv (ops := []) (inst := x) (nv := none) ⟨(fun a ha => by cases ha), rfl, rfl,
    (fun t => by rw [u1]), (fun t ht => by rw [u2] at ht; cases ht), u4, (fun t ht => by cases ht),
    (fun t _ _ => rfl), rfl, (fun v hv => by cases hv), (fun v hv => Or.inl hv),
    (fun m ws hw => ⟨ws, hw, fun j hj => hj⟩), (fun m hm => by rw [u3] at hm; cases hm)⟩ h (fun p hp => Or.inl hp)

theorem linv_inp {s : St w} (h : LInv s) (d : Int) :
    LInv { s with writes := addWrite s.writes d s.insts.size, insts := s.insts.push (.inp d) } := by
  refine PushStep.linv (ops := []) (inst := .inp d) (nv := none) ⟨(fun a ha => by cases ha), rfl, rfl,
    (fun t => by simp [BcWf.uses]), (fun t ht => by simp [BcWf.defs] at ht), rfl, (fun t ht => by cases ht),
    (fun t _ _ => rfl), rfl, (fun v hv => by cases hv), (fun v hv => Or.inl hv),
    (fun m ws hw => addWrite_mono _ _ _ hw), ?_⟩ h (fun p hp => Or.inl hp)
  intro m hm
  simp only [memDefs, List.mem_singleton] at hm
  subst hm
  exact addWrite_self _ _ _

theorem linv_patch {s : St w} (h : LInv s) {i : Nat} (c off : Int) (hi : s.insts[i]? = some .noop) :
    LInv { s with insts := s.insts.setIfInBounds i (.brz c off) } := by
  have hget : ∀ j x, (s.insts.setIfInBounds i (.brz c off))[j]? = some x →
      (j = i ∧ x = .brz c off) ∨ (j ≠ i ∧ s.insts[j]? = some x) := fun _ _ => getElem?_setIfInBounds_cases
  refine ⟨h.live, ?_, h.vals, ?_, ?_, ?_, ?_, h.oa⟩
  · intro j x hx
    rcases hget j x hx with ⟨_, rfl⟩ | ⟨_, e⟩
    · rfl
    · exact h.noZero j x e
  · intro t r hr
    obtain ⟨q1, q2, q3⟩ := h.rwf t r hr
    refine ⟨by simpa using q1, by simpa using q2, ?_⟩
    intro f hf
    obtain ⟨p1, x, p2, p3⟩ := q3 f hf
    refine ⟨p1, x, ?_, p3⟩
    show (s.insts.setIfInBounds i _)[f]? = some x
    rw [Array.getElem?_setIfInBounds]
    have : ¬ i = f := by
      intro e; subst e
      rw [hi] at p2; cases p2
      simp [BcWf.uses] at p3
    simp only [this, false_and, if_false]
    exact p2
  · intro j x t hx ht
    rcases hget j x hx with ⟨_, rfl⟩ | ⟨_, e⟩
    · simp [BcWf.defs] at ht
    · exact h.defs j x t e ht
  · intro j x t hx ht
    rcases hget j x hx with ⟨_, rfl⟩ | ⟨_, e⟩
    · simp [BcWf.uses] at ht
    · exact h.uses j x t e ht
  · intro j x m hx hm
    rcases hget j x hx with ⟨_, rfl⟩ | ⟨_, e⟩
    · simp [memDefs] at hm
    · exact h.writes j x m e hm

/-- Extending the range of a value that has already been read. -/
theorem linv_extend {s s' : St w} (h : LInv s) {v : Nat} (E : ExtSpec v 0 s s')
    (hf : ∃ (r : RangeInfo) (f : Nat), s.ranges[v]? = some r ∧ r.firstUse = some f) : LInv s' := by
  obtain ⟨⟨r, hr, hr'⟩, hother⟩ := ext_ranges E
  obtain ⟨r0, f, hr0, hf0⟩ := hf
  rw [hr] at hr0; cases hr0
  have hb : bump r s.insts.size 0 = { r with lastUse := some s.insts.size } := by
    simp [bump, hf0]
  have hent : ∀ t q, s'.ranges[t]? = some q →
      (t = v ∧ q = { r with lastUse := some s.insts.size }) ∨ (t ≠ v ∧ s.ranges[t]? = some q) := by
    intro t q hq
    by_cases e : t = v
    · subst e; rw [hr', hb] at hq; exact Or.inl ⟨rfl, (Option.some.inj hq).symm⟩
    · rw [hother t e] at hq; exact Or.inr ⟨e, hq⟩
  have hold : ∀ t q, s.ranges[t]? = some q → ∃ q', s'.ranges[t]? = some q' ∧ q'.created = q.created ∧
      q'.firstUse = q.firstUse ∧ (q'.lastUse = q.lastUse ∨ (t = v ∧ q'.lastUse = some s.insts.size)) := by
    intro t q hq
    by_cases e : t = v
    · subst e
      rw [hr] at hq; cases hq
      exact ⟨_, hr', by rw [hb], by rw [hb], Or.inr ⟨rfl, by rw [hb]⟩⟩
    · exact ⟨q, by rw [hother t e]; exact hq, rfl, rfl, Or.inl rfl⟩
  refine ⟨by rw [E.live]; exact h.live, by rw [E.insts]; exact h.noZero, ?_, ?_, ?_, ?_,
    by rw [E.writes, E.insts]; exact h.writes, ?_⟩
  · intro p hp
    rw [E.values] at hp
    rw [extSpec_size E]; exact h.vals p hp
  · intro t q hq
    rw [E.insts]
    rcases hent t q hq with ⟨rfl, rfl⟩ | ⟨_, e⟩
    · obtain ⟨q1, q2, q3⟩ := h.rwf t r hr
      exact ⟨q1, fun L hL => by cases hL; exact Nat.le_refl _, q3⟩
    · exact h.rwf t q e
  · intro j x t hx ht
    rw [E.insts] at hx
    obtain ⟨q, g1, g2⟩ := h.defs j x t hx ht
    obtain ⟨q', p1, p2, _⟩ := hold t q g1
    exact ⟨q', p1, by rw [p2, g2]⟩
  · intro j x t hx ht
    rw [E.insts] at hx
    obtain ⟨q, L, f', g1, g2, g3, g4, g5, g6⟩ := h.uses j x t hx ht
    obtain ⟨q', p1, p2, p3, p4⟩ := hold t q g1
    rcases p4 with e | ⟨_, e⟩
    · exact ⟨q', L, f', p1, by rw [e]; exact g2, by rw [p2]; exact g3, g4, by rw [p3]; exact g5, g6⟩
    · exact ⟨q', s.insts.size, f', p1, e, by rw [p2]; exact g3, Nat.le_of_lt (lt_of_getElem? hx),
        by rw [p3]; exact g5, g6⟩
  · intro u hu
    have : u ∈ s.outerAccessed.toList ∨ u = v := by
      rcases E.outer with ⟨e, _⟩ | ⟨e, _⟩
      · rw [e] at hu; exact Or.inl hu
      · rw [e] at hu
        simp only [Array.toList_push, List.mem_append, List.mem_singleton] at hu
        exact hu
    rcases this with e | rfl
    · obtain ⟨q, f', g1, g2⟩ := h.oa u e
      obtain ⟨q', p1, _, p3, _⟩ := hold u q g1
      exact ⟨q', f', p1, by rw [p3]; exact g2⟩
    · exact ⟨_, f, hr', by rw [hb]; exact hf0⟩

/-- `outerLoop_keeps` (`C02EmitBase`) with `LInv` carried along: `outerLoop` keeps `LInv`, and with it every `P` that
an extension without a read and a removal from `outerAccessed` keep under `LInv`. -/
theorem outerLoop_inv (ps : Nat) {P : St w → Prop}
    (hext : ∀ (s s' : St w) (v : Nat), LInv s → P s → v ∈ s.outerAccessed.toList → ExtSpec v 0 s s' → P s')
    (hoa : ∀ (s : St w) (oa : Array Nat), LInv s → P s → (∀ v ∈ oa.toList, v ∈ s.outerAccessed.toList) →
      P { s with outerAccessed := oa }) :
    ∀ (fuel i : Nat) {s s' : St w} {u : Unit}, outerLoop ps fuel i s = .ok (u, s') → LInv s → P s →
      LInv s' ∧ P s' := by
  intro fuel i s s' u h hJ hP
  refine outerLoop_keeps ps (P := fun s => LInv s ∧ P s) ?_ ?_ fuel i h ⟨hJ, hP⟩
  · intro s v ⟨hJ, hP⟩ hmem hv
    exact ⟨linv_extend hJ (extSpec_useSt hv 0) (hJ.oa v hmem), hext s _ v hJ hP hmem (extSpec_useSt hv 0)⟩
  · intro s oa ⟨hJ, hP⟩ hsub
    exact ⟨linv_frame hJ rfl rfl rfl rfl (fun p hp => hp) hsub, hoa s oa hJ hP hsub⟩

theorem linv_outer (ps : Nat) (fuel i : Nat) {s s' : St w} {u : Unit}
    (h : outerLoop ps fuel i s = .ok (u, s')) (hJ : LInv s) : LInv s' :=
  (outerLoop_inv ps (P := fun _ => True) (fun _ _ _ _ _ _ _ => trivial) (fun _ _ _ _ _ => trivial) fuel i h hJ
    trivial).1

theorem uses_gvInst (e : GvnExpr w) (v : Nat) (t : Nat) : t ∈ BcWf.uses (gvInst e v) ↔ t ∈ opsOf e := by
  cases e <;> simp [gvInst, opsOf, BcWf.uses, locTmp]
theorem defs_gvInst (e : GvnExpr w) (v : Nat) : BcWf.defs (gvInst e v) = [v] := by
  cases e <;> rfl
theorem memDefs_gvInst (e : GvnExpr w) (v : Nat) : memDefs (gvInst e v) = [] := by
  cases e <;> rfl
theorem noZero_gvInst (e : GvnExpr w) (v : Nat) : NoMemZero (gvInst e v) := by
  cases e <;> rfl

theorem pushStep_getValue {e : GvnExpr w} {s s' : St w} (hops : ∀ a ∈ opsOf e, a < s.ranges.size)
    (N : NewSpec e s s') :
    PushStep s s' (opsOf e) (gvInst e s.ranges.size) (some s.ranges.size) ∧
      s'.values = alSet s.values e s.ranges.size := by
  obtain ⟨s2, h2, rfl⟩ := N.reads
  have F := readsFacts _ h2
  have hsz2 : s2.ranges.size = s.ranges.size + 1 := by rw [F.size]; simp
  have hpush : ∀ t, t < s.ranges.size → ∀ (x : RangeInfo), (s.ranges.push x)[t]? = s.ranges[t]? :=
    fun t ht x => getElem?_push_lt' _ _ ht
  refine ⟨⟨hops, (by simp only; rw [F.insts]), (by simp only; rw [F.live]), uses_gvInst e _,
    (fun t ht => by rw [defs_gvInst] at ht; simp at ht; rw [ht]), noZero_gvInst e _, ?_, ?_,
    (by simp only [Option.isSome_some, if_true]; exact hsz2), ?_, (fun v hv => F.outer v hv), ?_, ?_⟩,
    by simp only; rw [F.values]⟩
  · intro t ht
    obtain ⟨r, r', g1, g2, g3⟩ := F.hit t ht
    simp only at g1 g3
    rw [hpush t (hops t ht)] at g1
    exact ⟨r, r', g1, g2, g3⟩
  · intro t ht hlt
    have := F.miss t ht
    simp only at this ⊢
    rw [this, hpush t hlt]
  · intro v hv
    cases hv
    refine ⟨rfl, ?_⟩
    have hno : s.ranges.size ∉ opsOf e := fun hm => Nat.lt_irrefl _ (hops _ hm)
    have := F.miss _ hno
    simp only at this ⊢
    rw [this]
    simp
  · intro m ws hw
    exact ⟨ws, by simp only; rw [F.writes]; exact hw, fun j hj => hj⟩
  · intro m hm
    rw [memDefs_gvInst] at hm; cases hm

theorem pushStep_memWrite {var : Int} {x : Nat} {s s' : St w} {u : Unit} (hx : x < s.ranges.size)
    (hm : memWrite var x s = .ok (u, s')) :
    PushStep s s' [x] (.copy (.mem var) (.tmp x)) none ∧ s'.values = alSet s.values (.mem var) x := by
  obtain ⟨s1, h1, rfl⟩ := memWrite_spec hm
  have F : ReadsFacts [x] s s1 := readsFacts [x] ⟨s1, h1, rfl⟩
  refine ⟨⟨(fun a ha => by simp at ha; rw [ha]; exact hx), (by simp only; rw [F.insts]), (by simp only; rw [F.live]),
    (fun t => by simp [BcWf.uses, locTmp]), (fun t ht => by simp [BcWf.defs, locTmp] at ht), rfl, F.hit,
    (fun t ht _ => F.miss t ht), (by simp only [Option.isSome_none, Bool.false_eq_true, if_false]; exact F.size),
    (fun v hv => by cases hv), F.outer, ?_, ?_⟩, by simp only; rw [F.values]⟩
  · intro m ws hw
    simp only
    rw [F.writes]
    exact addWrite_mono _ _ _ hw
  · intro m hm'
    simp only [memDefs, locMem, List.mem_singleton] at hm'
    subst hm'
    simp only
    rw [F.insts]
    exact addWrite_self _ _ _

theorem linv_getValue {e : GvnExpr w} {s s' : St w} {v : Nat} (h : LInv s)
    (hops : ∀ a ∈ opsOf e, a < s.ranges.size) (hg : getValue e s = .ok (v, s')) :
    LInv s' ∧ v < s'.ranges.size := by
  rcases getValue_spec hg with ⟨hv, rfl⟩ | ⟨rfl, N⟩
  · exact ⟨h, h.vals _ (mem_of_alGet hv)⟩
  · obtain ⟨P, hv⟩ := pushStep_getValue hops N
    have hsz : s.ranges.size < s'.ranges.size := by rw [P.hsize]; simp
    refine ⟨P.linv h ?_, hsz⟩
    intro p hp
    rw [hv] at hp
    rcases mem_alSet hp with rfl | hp
    · exact Or.inr hsz
    · exact Or.inl hp

theorem linv_memWrite {var : Int} {x : Nat} {s s' : St w} {u : Unit} (h : LInv s) (hx : x < s.ranges.size)
    (hm : memWrite var x s = .ok (u, s')) : LInv s' := by
  obtain ⟨P, hv⟩ := pushStep_memWrite hx hm
  refine P.linv h ?_
  intro p hp
  rw [hv] at hp
  rcases mem_alSet hp with rfl | hp
  · exact Or.inr (by rw [P.hsize]; simpa using hx)
  · exact Or.inl hp

theorem closed_linv : Closed (LInv (w := w)) where
  values := fun s vs h hsub => linv_frame h rfl rfl rfl rfl hsub (fun v hv => hv)
  start := fun s c h => linv_frame h rfl rfl rfl rfl (fun p hp => hp) (fun v hv => hv)
  push := fun s x h hx => linv_push h hx
  inp := fun s d h => linv_inp h d
  patch := fun s i c off h hi => linv_patch h c off hi
  outer := fun ps fuel i s s' u h ho => linv_outer ps fuel i ho h
  getValue := fun e s v s' h ho hg => linv_getValue h ho hg
  memWrite := fun var x s s' u h hx hm => linv_memWrite h hx hm

theorem linv_of_emit {prog : Ir.Block w} {fuse : Bool} {s : St w} (h : emitState prog fuse = .ok s) : LInv s :=
  closed_emitState closed_linv h linv_init

end AEmit
end C02
end Hpbf
