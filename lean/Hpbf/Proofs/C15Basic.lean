/-
C15, expression arithmetic (`Hpbf.Expr`, model of `impl Expr<C>` in `src/ir.rs`): `evaluate` is a sum
of monomials and invariant under permutation of the parts and of the variables of a part, so sorting
and hash-map order do not matter for the value. Everything here holds for ALL part lists (no
invariant) and all widths `w` (including 0).
-/
import Hpbf.Expr
import Hpbf.Proofs.CellBasic

namespace Hpbf
namespace Expr
variable {w : Nat}

def mono (f : Int → BitVec w) : List Int → BitVec w
  | [] => 1#w
  | v :: vs => f v * mono f vs

@[simp] theorem mono_nil (f : Int → BitVec w) : mono f [] = 1#w := rfl
@[simp] theorem mono_cons (f : Int → BitVec w) (v vs) : mono f (v :: vs) = f v * mono f vs := rfl

theorem mono_append (f : Int → BitVec w) (a b : List Int) :
    mono f (a ++ b) = mono f a * mono f b := by
  induction a with
  | nil => simp
  | cons v a ih => simp [ih, BitVec.mul_assoc]

theorem mono_perm (f : Int → BitVec w) {a b : List Int} (h : a.Perm b) : mono f a = mono f b := by
  induction h with
  | nil => rfl
  | cons x _ ih => simp [ih]
  | swap x y l => simp only [mono_cons]; ac_rfl
  | trans _ _ ih1 ih2 => exact ih1.trans ih2

theorem foldl_mul (f : Int → BitVec w) (vs : List Int) (c : BitVec w) :
    vs.foldl (fun acc v => acc * f v) c = c * mono f vs := by
  induction vs generalizing c with
  | nil => simp
  | cons v vs ih => simp only [List.foldl_cons, ih, mono_cons, BitVec.mul_assoc]

theorem evalPart_eq (f : Int → BitVec w) (p : Part w) :
    evalPart f p = p.coef * mono f p.vars := foldl_mul f p.vars p.coef

theorem foldl_add (f : Int → BitVec w) (e : Expr w) (c : BitVec w) :
    e.foldl (fun acc p => acc + evalPart f p) c = c + evaluate e f := by
  unfold evaluate
  induction e generalizing c with
  | nil => simp
  | cons p e ih =>
    simp only [List.foldl_cons]
    rw [ih (c + evalPart f p), ih (0#w + evalPart f p)]
    ac_rfl

@[simp] theorem evaluate_nil (f : Int → BitVec w) : evaluate ([] : Expr w) f = 0#w := rfl

theorem evaluate_cons (f : Int → BitVec w) (p : Part w) (e : Expr w) :
    evaluate (p :: e) f = evalPart f p + evaluate e f := by
  show List.foldl _ _ (p :: e) = _
  rw [List.foldl_cons, foldl_add]; ac_rfl

theorem evaluate_cons' (f : Int → BitVec w) (p : Part w) (e : Expr w) :
    evaluate (p :: e) f = p.coef * mono f p.vars + evaluate e f := by
  rw [evaluate_cons, evalPart_eq]

theorem evaluate_singleton (f : Int → BitVec w) (p : Part w) :
    evaluate [p] f = p.coef * mono f p.vars := by
  rw [evaluate_cons', evaluate_nil]; simp

theorem evaluate_append (f : Int → BitVec w) (a b : Expr w) :
    evaluate (a ++ b) f = evaluate a f + evaluate b f := by
  induction a with
  | nil => simp
  | cons p a ih => simp only [List.cons_append, evaluate_cons, ih, BitVec.add_assoc]

theorem evaluate_perm (f : Int → BitVec w) {a b : Expr w} (h : a.Perm b) :
    evaluate a f = evaluate b f := by
  induction h with
  | nil => rfl
  | cons x _ ih => simp only [evaluate_cons, ih]
  | swap x y l => simp only [evaluate_cons]; ac_rfl
  | trans _ _ ih1 ih2 => exact ih1.trans ih2

theorem evaluate_filter_coef (f : Int → BitVec w) (e : Expr w) :
    evaluate (e.filter (fun p => p.coef != 0#w)) f = evaluate e f := by
  induction e with
  | nil => rfl
  | cons p e ih =>
    by_cases hp : p.coef = 0#w
    · simp [hp, evaluate_cons', ih]
    · simp [hp, evaluate_cons', ih]

theorem evaluate_map (f : Int → BitVec w) (e : Expr w) (g : Part w → Part w) :
    evaluate (e.map g) f = (e.map (fun p => evalPart f (g p))).foldr (· + ·) 0#w := by
  induction e with
  | nil => rfl
  | cons p e ih => simp [evaluate_cons, ih]

theorem cmpVars_eq_iff {a b : List Int} : cmpVars a b = .eq ↔ a = b := by
  induction a generalizing b with
  | nil => cases b <;> simp [cmpVars]
  | cons x a ih =>
    cases b with
    | nil => simp [cmpVars]
    | cons y b =>
      simp only [cmpVars]
      split
      · simp; omega
      · split
        · simp; omega
        · rw [ih]; simp; omega

theorem cmpVars_self (a : List Int) : cmpVars a a = .eq := cmpVars_eq_iff.2 rfl

theorem cmpVars_swap {a b : List Int} : cmpVars a b = .lt ↔ cmpVars b a = .gt := by
  induction a generalizing b with
  | nil => cases b <;> simp [cmpVars]
  | cons x a ih =>
    cases b with
    | nil => simp [cmpVars]
    | cons y b =>
      simp only [cmpVars]
      by_cases h1 : x < y
      · have : ¬ y < x := by omega
        simp [h1, this]
      · by_cases h2 : y < x
        · simp [h1, h2]
        · simp [h1, h2, ih]

theorem cmpVars_lt_trans {a b c : List Int} (h1 : cmpVars a b = .lt) (h2 : cmpVars b c = .lt) :
    cmpVars a c = .lt := by
  induction a generalizing b c with
  | nil =>
    cases c with
    | nil => cases b <;> simp [cmpVars] at h1 h2
    | cons _ _ => simp [cmpVars]
  | cons x a ih =>
    cases b with
    | nil => simp [cmpVars] at h1
    | cons y b =>
      cases c with
      | nil => simp [cmpVars] at h2
      | cons z c =>
        simp only [cmpVars] at h1 h2 ⊢
        by_cases hxy : x < y
        · by_cases hyz : y < z
          · have : x < z := by omega
            simp [this]
          · by_cases hzy : z < y
            · simp [hyz, hzy] at h2
            · have : x < z := by omega
              simp [this]
        · by_cases hyx : y < x
          · simp [hxy, hyx] at h1
          · simp only [hxy, hyx, if_false] at h1
            by_cases hyz : y < z
            · have : x < z := by omega
              simp [this]
            · by_cases hzy : z < y
              · simp [hyz, hzy] at h2
              · simp only [hyz, hzy, if_false] at h2
                have e1 : ¬ x < z := by omega
                have e2 : ¬ z < x := by omega
                simp only [e1, e2, if_false]
                exact ih h1 h2

theorem cmpVars_lt_irrefl {a : List Int} : cmpVars a a ≠ .lt := by
  rw [cmpVars_self]; decide

theorem cmpVars_lt_ne {a b : List Int} (h : cmpVars a b = .lt) : a ≠ b := by
  intro e; subst e; exact cmpVars_lt_irrefl h

theorem cmpVars_nil_right {a : List Int} : cmpVars a [] ≠ .lt := by
  cases a <;> simp [cmpVars]

theorem leVars_iff {a b : List Int} : leVars a b = true ↔ (cmpVars a b = .lt ∨ a = b) := by
  unfold leVars
  rw [← cmpVars_eq_iff]
  cases cmpVars a b <;> simp

theorem leVars_total (a b : List Int) : leVars a b = false → leVars b a = true := by
  intro h
  have : cmpVars a b = .gt := by
    unfold leVars at h
    cases hc : cmpVars a b <;> simp [hc] at h ⊢
  rw [leVars_iff]; left; exact cmpVars_swap.2 this

theorem leVars_trans {a b c : List Int} (h1 : leVars a b = true) (h2 : leVars b c = true) :
    leVars a c = true := by
  rw [leVars_iff] at *
  rcases h1 with h1 | rfl
  · rcases h2 with h2 | rfl
    · left; exact cmpVars_lt_trans h1 h2
    · left; exact h1
  · exact h2

theorem leVars_antisymm {a b : List Int} (h1 : leVars a b = true) (h2 : leVars b a = true) : a = b := by
  rcases leVars_iff.1 h1 with h | h
  · rcases leVars_iff.1 h2 with h' | h'
    · have := cmpVars_swap.1 h
      rw [h'] at this; cases this
    · exact h'.symm
  · exact h

theorem cmpVars_lt_of_le_of_lt {a b c : List Int} (h1 : leVars a b = true) (h2 : cmpVars b c = .lt) :
    cmpVars a c = .lt := by
  rcases leVars_iff.1 h1 with h | rfl
  · exact cmpVars_lt_trans h h2
  · exact h2

theorem insertSorted_perm {α : Type} (le : α → α → Bool) (x : α) (l : List α) :
    (insertSorted le x l).Perm (x :: l) := by
  induction l with
  | nil => exact List.Perm.refl _
  | cons y ys ih =>
    simp only [insertSorted]
    split
    · exact (List.Perm.cons y ih).trans (List.Perm.swap x y ys)
    · exact List.Perm.refl _

theorem stableSort_perm {α : Type} (le : α → α → Bool) (l : List α) : (stableSort le l).Perm l := by
  unfold stableSort
  suffices h : ∀ acc : List α, (l.foldl (fun acc x => insertSorted le x acc) acc).Perm (l.reverse ++ acc) by
    simpa using (h []).trans ((List.reverse_perm l).append_right [])
  induction l with
  | nil => intro acc; exact List.Perm.refl _
  | cons x l ih =>
    intro acc
    simp only [List.foldl_cons, List.reverse_cons, List.append_assoc, List.singleton_append]
    exact (ih _).trans (List.Perm.append_left _ (insertSorted_perm le x acc))

theorem insertSorted_sorted {α : Type} (le : α → α → Bool)
    (total : ∀ a b, le a b = false → le b a = true)
    (trans : ∀ a b c, le a b = true → le b c = true → le a c = true)
    (x : α) (l : List α) (h : l.Pairwise (fun a b => le a b = true)) :
    (insertSorted le x l).Pairwise (fun a b => le a b = true) := by
  induction l with
  | nil => simp [insertSorted]
  | cons y ys ih =>
    simp only [insertSorted]
    rw [List.pairwise_cons] at h
    split
    · rename_i hyx
      rw [List.pairwise_cons]
      refine ⟨?_, ih h.2⟩
      intro z hz
      have := (insertSorted_perm le x ys).mem_iff.1 hz
      rcases List.mem_cons.1 this with rfl | hz'
      · exact hyx
      · exact h.1 z hz'
    · rename_i hyx
      have hxy : le x y = true := total y x (by simpa using hyx)
      rw [List.pairwise_cons]
      refine ⟨?_, List.pairwise_cons.2 h⟩
      intro z hz
      rcases List.mem_cons.1 hz with rfl | hz'
      · exact hxy
      · exact trans _ _ _ hxy (h.1 z hz')

theorem stableSort_sorted {α : Type} (le : α → α → Bool)
    (total : ∀ a b, le a b = false → le b a = true)
    (trans : ∀ a b c, le a b = true → le b c = true → le a c = true) (l : List α) :
    (stableSort le l).Pairwise (fun a b => le a b = true) := by
  unfold stableSort
  suffices h : ∀ acc : List α, acc.Pairwise (fun a b => le a b = true) →
      (l.foldl (fun acc x => insertSorted le x acc) acc).Pairwise (fun a b => le a b = true) from
    h [] List.Pairwise.nil
  induction l with
  | nil => intro acc h; exact h
  | cons x l ih =>
    intro acc h
    exact ih _ (insertSorted_sorted le total trans x acc h)

theorem sortVars_perm (vs : List Int) : (sortVars vs).Perm vs := stableSort_perm _ vs

theorem mono_sortVars (f : Int → BitVec w) (vs : List Int) : mono f (sortVars vs) = mono f vs :=
  mono_perm f (sortVars_perm vs)

/-- Value of a key ↦ coefficient table as `accum` builds it. -/
def evalM (f : Int → BitVec w) : List (List Int × BitVec w) → BitVec w
  | [] => 0#w
  | kc :: m => kc.2 * mono f kc.1 + evalM f m

@[simp] theorem evalM_nil (f : Int → BitVec w) : evalM f [] = 0#w := rfl
@[simp] theorem evalM_cons (f : Int → BitVec w) (kc m) :
    evalM f (kc :: m) = kc.2 * mono f kc.1 + evalM f m := rfl

theorem evalM_accum (f : Int → BitVec w) (m : List (List Int × BitVec w)) (k : List Int) (c : BitVec w) :
    evalM f (accum m k c) = evalM f m + c * mono f k := by
  induction m with
  | nil => simp [accum]
  | cons kc m ih =>
    obtain ⟨k', c'⟩ := kc
    simp only [accum]
    split
    · rename_i h; subst h; simp only [evalM_cons]; grind
    · simp only [evalM_cons, ih]; ac_rfl

theorem evalM_foldl_accum {α : Type} (f : Int → BitVec w) (K : α → List Int) (C : α → BitVec w)
    (l : List α) (m : List (List Int × BitVec w)) :
    evalM f (l.foldl (fun m x => accum m (K x) (C x)) m)
      = evalM f m + (l.map (fun x => C x * mono f (K x))).foldr (· + ·) 0#w := by
  induction l generalizing m with
  | nil => simp
  | cons x l ih => simp only [List.foldl_cons, ih, evalM_accum, List.map_cons, List.foldr_cons]; ac_rfl

theorem evaluate_ofTable (f : Int → BitVec w) (m : List (List Int × BitVec w)) :
    evaluate ((m.filter (fun kc => kc.2 != 0#w)).map (fun kc => ({ coef := kc.2, vars := kc.1 } : Part w))) f
      = evalM f m := by
  induction m with
  | nil => rfl
  | cons kc m ih =>
    by_cases h : kc.2 = 0#w
    · simp [h, ih]
    · simp [h, ih, evaluate_cons']

theorem evaluate_finish (f : Int → BitVec w) (m : List (List Int × BitVec w)) :
    evaluate (finish m) f = evalM f m := by
  unfold finish
  rw [evaluate_perm f (stableSort_perm _ _), evaluate_ofTable]

theorem evaluate_eq_foldr (f : Int → BitVec w) (e : Expr w) :
    evaluate e f = (e.map (fun p => p.coef * mono f p.vars)).foldr (· + ·) 0#w := by
  induction e with
  | nil => rfl
  | cons p e ih => simp [evaluate_cons', ih]

theorem eval_val (c : BitVec w) (f : Int → BitVec w) : evaluate (val c) f = c := by
  unfold val
  split
  · rename_i h; simp [h]
  · simp [evaluate_singleton]

theorem eval_var (v : Int) (f : Int → BitVec w) : evaluate (var v : Expr w) f = f v := by
  simp [var, evaluate_singleton]

theorem eval_add (a b : Expr w) (f : Int → BitVec w) :
    evaluate (add a b) f = evaluate a f + evaluate b f := by
  fun_induction add a b with
  | case1 b => simp
  | case2 a _ => simp
  | case3 p ps q qs h ih => simp only [evaluate_cons, ih]; ac_rfl
  | case4 p ps q qs h ih => simp only [evaluate_cons, ih]; ac_rfl
  | case5 p ps q qs h c hc ih =>
    have hv : p.vars = q.vars := cmpVars_eq_iff.1 h
    simp only [evaluate_cons', ih, c, hv]; grind
  | case6 p ps q qs h c hc ih =>
    have hv : p.vars = q.vars := cmpVars_eq_iff.1 h
    have hc0 : p.coef + q.coef = 0#w := by simpa [c] using hc
    simp only [evaluate_cons', ih, hv]
    have : p.coef * mono f q.vars + q.coef * mono f q.vars = 0#w := by
      rw [← BitVec.add_mul, hc0]; simp
    grind

/-- `s` is `sortVars` for the fast paths of `mul`/`mulParts` and `id` for `scaleAppendOrig`. -/
theorem evaluate_scaleWith (f : Int → BitVec w) (s : List Int → List Int)
    (hs : ∀ vs, mono f (s vs) = mono f vs) (e : Expr w) (p : Part w) :
    evaluate ((e.map (fun q => ({ coef := q.coef * p.coef, vars := s (q.vars ++ p.vars) } : Part w))).filter
      (fun q => q.coef != 0#w)) f = evaluate e f * evalPart f p := by
  rw [evaluate_filter_coef]
  induction e with
  | nil => simp
  | cons q e ih =>
    simp only [List.map_cons, evaluate_cons', ih, hs, mono_append, evalPart_eq]; grind

theorem eval_scaleAppendOrig (e : Expr w) (p : Part w) (f : Int → BitVec w) :
    evaluate (scaleAppendOrig e p) f = evaluate e f * evalPart f p :=
  evaluate_scaleWith f id (fun _ => rfl) e p

theorem evaluate_scaleMap (e : Expr w) (p : Part w) (f : Int → BitVec w) :
    evaluate ((e.map (fun q => ({ coef := q.coef * p.coef, vars := sortVars (q.vars ++ p.vars) } : Part w))).filter
      (fun q => q.coef != 0#w)) f = evaluate e f * evalPart f p :=
  evaluate_scaleWith f sortVars (mono_sortVars f) e p

theorem eval_scaleAppend (e : Expr w) (p : Part w) (f : Int → BitVec w) :
    evaluate (scaleAppend e p) f = evaluate e f * evalPart f p := by
  unfold scaleAppend
  rw [evaluate_perm f (stableSort_perm _ _), evaluate_scaleMap]

theorem foldr_pairProducts (f : Int → BitVec w) (sp : Part w) (b : Expr w) :
    (b.map (fun op : Part w => sp.coef * op.coef * mono f (sortVars (sp.vars ++ op.vars)))).foldr
        (· + ·) 0#w = sp.coef * mono f sp.vars * evaluate b f := by
  induction b with
  | nil => simp
  | cons op b ihb =>
    simp only [mono_sortVars, mono_append] at ihb ⊢
    simp only [List.map_cons, List.foldr_cons, ihb, evaluate_cons']
    grind

theorem evalM_mulLoop (f : Int → BitVec w) (a b : Expr w) (m : List (List Int × BitVec w)) :
    evalM f (a.foldl (fun m sp =>
        b.foldl (fun m op => accum m (sortVars (sp.vars ++ op.vars)) (sp.coef * op.coef)) m) m)
      = evalM f m + evaluate a f * evaluate b f := by
  induction a generalizing m with
  | nil => simp
  | cons sp a ih =>
    simp only [List.foldl_cons, ih]
    rw [evalM_foldl_accum f (fun op : Part w => sortVars (sp.vars ++ op.vars)) (fun op => sp.coef * op.coef)]
    rw [foldr_pairProducts, evaluate_cons']; grind

theorem eval_mul (a b : Expr w) (f : Int → BitVec w) :
    evaluate (mul a b) f = evaluate a f * evaluate b f := by
  unfold mul
  split
  · simp [eval_val]
  · simp [eval_val]
  · rw [eval_scaleAppend, evaluate_singleton, evalPart_eq]; ac_rfl
  · rw [eval_scaleAppend, evaluate_singleton, evalPart_eq]
  · rw [evaluate_finish, evalM_mulLoop]; simp

theorem eval_mulParts (l r : Expr w) (f : Int → BitVec w) :
    evaluate (mulParts l r) f = evaluate l f * evaluate r f := by
  unfold mulParts
  split
  · simp
  · simp
  · rw [evaluate_scaleMap, evaluate_singleton, evalPart_eq]; ac_rfl
  · rw [evaluate_scaleMap, evaluate_singleton, evalPart_eq]
  · rw [evaluate_ofTable, evalM_mulLoop]; simp; ac_rfl

end Expr
end Hpbf
