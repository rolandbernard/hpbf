/-
C02: `strip_noops` preserves behaviour. Program counters are mapped by `pos insts i` = number of non-`noop`
instructions among the first `i` (`= i - cum_noop[i]`): a `noop` maps to the position of the next real
instruction, and `fixBranches` turns the offset `off` of a branch at `i` with target `t = i + off` into
`off - (cum[t] - cum[i])`, i.e. `pos i + off' = pos t`.
-/
import Hpbf.Proofs.FuelSim
import Hpbf.Proofs.C02Reorder

namespace Hpbf
namespace C02

open Bc BcWf BcGen C11

variable {w : Nat}

def keep (x : Instr w) : Bool := !isNoop x

def pos (insts : Array (Instr w)) (i : Nat) : Nat := (insts.toList.take i).countP keep

theorem pos_zero (insts : Array (Instr w)) : pos insts 0 = 0 := by simp [pos]

theorem pos_succ {insts : Array (Instr w)} {i : Nat} {x : Instr w} (h : insts[i]? = some x) :
    pos insts (i + 1) = pos insts i + (if keep x then 1 else 0) := by
  have h' : insts.toList[i]? = some x := by simpa using h
  simp only [pos, List.take_add_one, h', List.countP_append, Option.toList_some, List.countP_singleton]

theorem pos_mono (insts : Array (Instr w)) {i j : Nat} (h : i ≤ j) : pos insts i ≤ pos insts j := by
  unfold pos
  apply List.Sublist.countP_le
  exact (List.take_prefix_take_left (l := insts.toList) h).sublist

theorem pos_size (insts : Array (Instr w)) :
    pos insts insts.size = (insts.filter keep).size := by
  unfold pos
  have : insts.toList.take insts.size = insts.toList := by
    rw [← Array.length_toList]; exact List.take_length
  rw [this, List.countP_eq_length_filter, ← Array.toList_filter, Array.length_toList]

theorem pos_le_size (insts : Array (Instr w)) (i : Nat) : pos insts i ≤ (insts.filter keep).size := by
  rw [← Array.length_toList, Array.toList_filter, ← List.countP_eq_length_filter]
  exact (List.take_sublist i _).countP_le

theorem count_noop_add_pos (insts : Array (Instr w)) {i : Nat} (h : i ≤ insts.size) :
    (insts.toList.take i).countP isNoop + pos insts i = i := by
  unfold pos
  have hk : (keep : Instr w → Bool) = fun x => !isNoop x := rfl
  have := List.length_eq_countP_add_countP (isNoop : Instr w → Bool) (l := insts.toList.take i)
  rw [hk]
  simp only [List.length_take, Array.length_toList, Nat.min_eq_left h, Bool.not_eq_true] at this
  have e : (fun a : Instr w => decide (isNoop a = false)) = fun x => !isNoop x := by
    funext a; cases isNoop a <;> rfl
  rw [e] at this
  omega

theorem filter_getElem?_pos {α : Type} (P : α → Bool) :
    ∀ (l : List α) (i : Nat) (x : α), l[i]? = some x → P x = true →
      (l.filter P)[(l.take i).countP P]? = some x := by
  intro l
  induction l with
  | nil => intro i x h; simp at h
  | cons y ys ih =>
    intro i x h hx
    cases i with
    | zero =>
      simp only [List.getElem?_cons_zero, Option.some.injEq] at h
      subst h
      simp [hx]
    | succ j =>
      simp only [List.getElem?_cons_succ] at h
      have := ih j x h hx
      by_cases hy : P y = true
      · simp only [List.take_succ_cons, List.countP_cons, hy, if_true, List.filter_cons]
        simpa using this
      · simp only [List.take_succ_cons, List.countP_cons, hy, List.filter_cons]
        simpa using this

theorem countP_take_congr {α : Type} (P : α → Bool) :
    ∀ (l1 l2 : List α), l1.length = l2.length →
      (∀ (j : Nat) (x y : α), l1[j]? = some x → l2[j]? = some y → P x = P y) →
      ∀ i, (l1.take i).countP P = (l2.take i).countP P := by
  intro l1
  induction l1 with
  | nil => intro l2 hl _ i; cases l2 <;> simp_all
  | cons a as ih =>
    intro l2 hl hp i
    cases l2 with
    | nil => simp at hl
    | cons b bs =>
      cases i with
      | zero => simp
      | succ j =>
        have hab : P a = P b := hp 0 a b (by simp) (by simp)
        have := ih bs (by simpa using hl) (fun j x y hx hy => hp (j + 1) x y (by simpa using hx) (by simpa using hy)) j
        simp only [List.take_succ_cons, List.countP_cons, this, hab]

/-- The running counts pushed by the fold in `cumNoop`. -/
def cumL : List (Instr w) → Int → List Int
  | [], _ => []
  | x :: xs, c => (if isNoop x then c + 1 else c) :: cumL xs (if isNoop x then c + 1 else c)

theorem cumNoop_fold (l : List (Instr w)) (arr : Array Int) (c : Int) :
    ((l.foldl (fun (acc : Array Int × Int) x =>
      let c := if isNoop x then acc.2 + 1 else acc.2
      (acc.1.push c, c)) (arr, c)).1).toList = arr.toList ++ cumL l c := by
  induction l generalizing arr c with
  | nil => simp [cumL]
  | cons x xs ih =>
    simp only [List.foldl_cons, cumL]
    rw [ih]
    simp

theorem cumL_getElem? (l : List (Instr w)) (c : Int) (k : Nat) (hk : k < l.length) :
    (cumL l c)[k]? = some (c + ((l.take (k + 1)).countP isNoop : Nat)) := by
  induction l generalizing c k with
  | nil => simp at hk
  | cons x xs ih =>
    cases k with
    | zero =>
      simp only [cumL, List.getElem?_cons_zero, List.take_succ_cons, List.take_zero, List.countP_cons,
        List.countP_nil]
      cases isNoop x <;> simp
    | succ j =>
      simp only [cumL, List.getElem?_cons_succ]
      rw [ih _ j (by simpa using hk)]
      simp only [List.take_succ_cons, List.countP_cons]
      by_cases hx : isNoop x = true
      · simp only [hx, if_true]; congr 1; push_cast; omega
      · simp [hx]

theorem cumL_length (l : List (Instr w)) (c : Int) : (cumL l c).length = l.length := by
  induction l generalizing c with
  | nil => rfl
  | cons x xs ih => simp [cumL, ih]

theorem cumNoop_toList (insts : Array (Instr w)) : (cumNoop insts).toList = 0 :: cumL insts.toList 0 := by
  unfold cumNoop
  rw [← Array.foldl_toList, cumNoop_fold]
  rfl

theorem cumNoop_size (insts : Array (Instr w)) : (cumNoop insts).size = insts.size + 1 := by
  rw [← Array.length_toList, cumNoop_toList]
  simp [cumL_length]

theorem cumNoop_getElem? (insts : Array (Instr w)) {k : Nat} (hk : k ≤ insts.size) :
    (cumNoop insts)[k]? = some ((k : Int) - pos insts k) := by
  have hc := count_noop_add_pos insts hk
  rw [← Array.getElem?_toList, cumNoop_toList]
  cases k with
  | zero => simp [pos_zero]
  | succ j =>
    simp only [List.getElem?_cons_succ]
    rw [cumL_getElem? _ _ _ (by simp; omega)]
    congr 1
    omega

/-- The offset written by `fixBranches`: the distance between the new positions. -/
def newOff (insts : Array (Instr w)) (i : Nat) (off : Int) : Int :=
  (pos insts ((i : Int) + off).toNat : Int) - (pos insts i : Int)

def fixInst (insts : Array (Instr w)) (i : Nat) : Instr w → Instr w
  | .brz c off => .brz c (newOff insts i off)
  | .brnz c off => .brnz c (newOff insts i off)
  | x => x

theorem keep_fixInst (insts : Array (Instr w)) (i : Nat) (x : Instr w) :
    keep (fixInst insts i x) = keep x := by
  cases x <;> rfl

theorem fixBranches_succ {insts : Array (Instr w)} (hT : TargetsOk insts) (k : Nat)
    (acc : Array (Instr w)) (hk : k + 1 ≤ insts.size) {inst : Instr w}
    (hi : insts[insts.size - (k + 1)]? = some inst) :
    fixBranches (cumNoop insts) insts (k + 1) acc =
      fixBranches (cumNoop insts) insts k (acc.push (fixInst insts (insts.size - (k + 1)) inst)) := by
  rw [fixBranches]
  simp only [hi]
  have hbr : ∀ off : Int, branchOff? inst = some off →
      target "strip_noops:cum_noop-index" (insts.size - (k + 1)) off (cumNoop insts).size
        = .ok (((insts.size - (k + 1) : Nat) : Int) + off).toNat ∧
      off - (((cumNoop insts)[(((insts.size - (k + 1) : Nat) : Int) + off).toNat]?).getD 0 -
          ((cumNoop insts)[insts.size - (k + 1)]?).getD 0) = newOff insts (insts.size - (k + 1)) off := by
    intro off hoff
    have ht := hT _ _ _ hi hoff
    constructor
    · exact target_ok.2 ⟨ht.1, by rw [cumNoop_size]; omega, rfl⟩
    · rw [cumNoop_getElem? insts (k := (((insts.size - (k + 1) : Nat) : Int) + off).toNat) (by omega),
        cumNoop_getElem? insts (k := insts.size - (k + 1)) (by omega)]
      simp only [Option.getD_some, newOff]
      have : (((((insts.size - (k + 1) : Nat) : Int) + off).toNat : Nat) : Int)
          = ((insts.size - (k + 1) : Nat) : Int) + off := Int.toNat_of_nonneg ht.1
      omega
  cases inst with
  | brz c off | brnz c off =>
    obtain ⟨h1, h2⟩ := hbr off rfl
    simp only [branchOff?, h1, h2, fixInst]
  | _ => simp only [branchOff?, fixInst]

theorem fixBranches_spec {insts : Array (Instr w)} (hT : TargetsOk insts) :
    ∀ (k : Nat) (acc : Array (Instr w)), k ≤ insts.size →
      ∃ r, fixBranches (cumNoop insts) insts k acc = .ok r ∧ r.size = acc.size + k ∧
        (∀ j, j < acc.size → r[j]? = acc[j]?) ∧
        (∀ j, j < k → r[acc.size + j]? =
          (insts[insts.size - k + j]?).map (fixInst insts (insts.size - k + j))) := by
  intro k
  induction k with
  | zero =>
    intro acc _
    exact ⟨acc, rfl, rfl, fun _ _ => rfl, fun j hj => absurd hj (Nat.not_lt_zero j)⟩
  | succ k ih =>
    intro acc hk
    have hlt : insts.size - (k + 1) < insts.size := by omega
    have hi : insts[insts.size - (k + 1)]? = some insts[insts.size - (k + 1)] :=
      Array.getElem?_eq_getElem hlt
    rw [fixBranches_succ hT k acc hk hi]
    obtain ⟨r, h1, h2, h3, h4⟩ := ih (acc.push (fixInst insts (insts.size - (k + 1)) insts[insts.size - (k + 1)]))
      (by omega)
    refine ⟨r, h1, by rw [h2, Array.size_push]; omega, ?_, ?_⟩
    · intro j hj
      rw [h3 j (by rw [Array.size_push]; omega), Array.getElem?_push_lt hj, Array.getElem?_eq_getElem hj]
    · intro j hj
      cases j with
      | zero =>
        rw [Nat.add_zero, Nat.add_zero, h3 acc.size (by rw [Array.size_push]; omega), hi]
        simp
      | succ j =>
        have := h4 j (by omega)
        rw [Array.size_push] at this
        have e1 : acc.size + (j + 1) = acc.size + 1 + j := by omega
        have e2 : insts.size - (k + 1) + (j + 1) = insts.size - k + j := by omega
        rw [e1, e2, this]

/-- What the stripped instruction array satisfies (all the semantic proof needs). -/
structure Stripped (insts qi : Array (Instr w)) : Prop where
  size : qi.size = pos insts insts.size
  get : ∀ (i : Nat) (ins : Instr w), insts[i]? = some ins → keep ins = true →
    qi[pos insts i]? = some (fixInst insts i ins)
  noNoop : ∀ x ∈ qi, isNoop x = false

theorem pos_fixed {insts fixed : Array (Instr w)} (hsz : fixed.size = insts.size)
    (hget : ∀ j, j < insts.size → fixed[j]? = (insts[j]?).map (fixInst insts j)) (i : Nat) :
    pos fixed i = pos insts i := by
  apply countP_take_congr keep fixed.toList insts.toList (by simpa using hsz)
  intro j x y hx hy
  have hx' : fixed[j]? = some x := by simpa using hx
  have hy' : insts[j]? = some y := by simpa using hy
  have hj : j < insts.size := lt_of_getElem? hy'
  rw [hget j hj, hy'] at hx'
  simp only [Option.map_some, Option.some.injEq] at hx'
  rw [← hx', keep_fixInst]

theorem stripped_of_fixed {insts fixed : Array (Instr w)} (hsz : fixed.size = insts.size)
    (hget : ∀ j, j < insts.size → fixed[j]? = (insts[j]?).map (fixInst insts j)) :
    Stripped insts (fixed.filter keep) := by
  have hcongr := pos_fixed hsz hget
  refine ⟨?_, ?_, ?_⟩
  · rw [← pos_size, hsz, hcongr]
  · intro i ins hi hk
    have hlt : i < insts.size := lt_of_getElem? hi
    have hf : fixed.toList[i]? = some (fixInst insts i ins) := by
      rw [Array.getElem?_toList, hget i hlt, hi]; rfl
    have := filter_getElem?_pos keep fixed.toList i _ hf (by rw [keep_fixInst]; exact hk)
    rw [← hcongr i]
    unfold pos
    rw [← Array.getElem?_toList, Array.toList_filter]
    exact this
  · intro x hx
    have := (Array.mem_filter.mp hx).2
    simpa [keep] using this

theorem exists_kept_of_lt_pos (B : Array (Instr w)) {m : Nat} : ∀ k, k ≤ B.size → m < pos B k →
    ∃ i x, i < k ∧ B[i]? = some x ∧ keep x = true ∧ pos B i = m := by
  intro k
  induction k with
  | zero => intro _ h; rw [pos_zero] at h; omega
  | succ k ih =>
    intro hk hm
    have hget : B[k]? = some B[k] := Array.getElem?_eq_getElem (by omega)
    rw [pos_succ hget] at hm
    by_cases h1 : m < pos B k
    · obtain ⟨i, x, g1, g2⟩ := ih (by omega) h1
      exact ⟨i, x, by omega, g2⟩
    · cases hkp : keep B[k] with
      | true => exact ⟨k, B[k], by omega, hget, hkp, by rw [hkp] at hm; simp at hm; omega⟩
      | false => rw [hkp] at hm; simp at hm; omega

theorem stripped_inst {B qi : Array (Instr w)} (hS : Stripped B qi) {m : Nat} {y : Instr w} (hy : qi[m]? = some y) :
    ∃ i x, B[i]? = some x ∧ keep x = true ∧ pos B i = m ∧ y = fixInst B i x := by
  have hm : m < pos B B.size := by rw [← hS.size]; exact lt_of_getElem? hy
  obtain ⟨i, x, _, g2, g3, g4⟩ := exists_kept_of_lt_pos B B.size (Nat.le_refl _) hm
  have := hS.get i x g2 g3
  rw [g4, hy] at this
  exact ⟨i, x, g2, g3, g4, Option.some.inj this⟩

theorem Stripped.all {B qi : Array (Instr w)} (hS : Stripped B qi) {Q : Instr w → Prop}
    (hfix : ∀ A i x, Q x → Q (fixInst A i x)) (h : AllQ Q B) : AllQ Q qi := by
  intro m y hy
  obtain ⟨i, x, g1, _, _, rfl⟩ := stripped_inst hS hy
  exact hfix _ _ x (h i x g1)

def relabel (g : Nat → Nat) (c : Cfg w) : Cfg w := { c with pc := g c.pc }

def relabelRes (g : Nat → Nat) : StepRes w → StepRes w
  | .next c => .next (relabel g c)
  | .halt c => .halt (relabel g c)
  | .stop c => .stop (relabel g c)
  | .interrupted c => .interrupted (relabel g c)
  | .bad c => .bad (relabel g c)

def relabelOut (g : Nat → Nat) : Outcome w → Outcome w
  | .done c => .done (relabel g c)
  | .stopped c => .stopped (relabel g c)
  | .interrupted c => .interrupted (relabel g c)
  | .bad c => .bad (relabel g c)
  | .outOfFuel c => .outOfFuel (relabel g c)

theorem obsEq_relabelOut (g : Nat → Nat) (o : Outcome w) : ObsEq' o (relabelOut g o) := by
  cases o <;> simp only [relabelOut, ObsEq', OutRel, relabel]
  all_goals first | exact CfgEq.refl _ | exact ⟨IoEq.refl _, rfl⟩

theorem rdVal_relabel (g : Nat → Nat) (c : Cfg w) (l : Loc w) : rdVal (relabel g c) l = rdVal c l := by
  cases l <;> rfl

theorem wrCfg_relabel (g : Nat → Nat) (c : Cfg w) (v : BitVec w) (l : Loc w) :
    wrCfg (relabel g c) v l = { wrCfg c v l with pc := g c.pc } := by
  cases l <;> rfl

theorem binopCfg_relabel (g : Nat → Nat) (f : BitVec w → BitVec w → BitVec w) (c : Cfg w) (d a b : Loc w) :
    binopCfg f (relabel g c) d a b = { binopCfg f c d a b with pc := g c.pc } := by
  unfold binopCfg
  split
  · cases d <;> rfl
  · cases d <;> rfl

theorem copyCfg_relabel (g : Nat → Nat) (c : Cfg w) (d s : Loc w) :
    copyCfg (relabel g c) d s = { copyCfg c d s with pc := g c.pc } := by
  unfold copyCfg
  cases d <;> rfl

theorem stepI_relabel_nonbranch (p q : Program w) (limited : Bool) (g : Nat → Nat) (c : Cfg w)
    (ins : Instr w) (hnb : branchOff? ins = none) (hg : g (c.pc + 1) = g c.pc + 1) :
    stepI q limited (relabel g c) ins = relabelRes g (stepI p limited c ins) := by
  cases ins with
  | brz _ _ | brnz _ _ => simp [branchOff?] at hnb
  | noop | mov sh => simp only [stepI, relabelRes, relabel, hg]
  | scan cond sh =>
    by_cases h1 : c.st.rd cond = 0#w
    · simp [stepI, relabel, h1, relabelRes, hg]
    · by_cases h2 : sh = 0
      · cases limited <;> simp [stepI, relabel, h1, h2, relabelRes]
      · simp [stepI, relabel, h1, h2, relabelRes]
  | inp dst =>
    cases h : (c.st.input dst).1 <;> simp [stepI, relabel, h, relabelRes, hg]
  | out src =>
    cases h : (c.st.output src).1 <;> simp [stepI, relabel, h, relabelRes, hg]
  | add d a b | sub d a b | mul d a b =>
    simp only [stepI, arith, binopCfg_relabel]
    split <;> simp only [relabelRes, relabel, hg]
  | copy d s =>
    simp only [stepI, copyCfg_relabel]
    split <;> simp only [relabelRes, relabel, hg]

theorem branch_relabel (p q : Program w) (limited : Bool) (g : Nat → Nat) (c : Cfg w) (taken : Bool)
    (off off' : Int) (t : Nat) (hg : g (c.pc + 1) = g c.pc + 1)
    (hp : branchTarget c.pc off p.insts.size = some t)
    (hq : branchTarget (g c.pc) off' q.insts.size = some (g t)) :
    branch q limited (relabel g c) taken off' = relabelRes g (branch p limited c taken off) := by
  unfold branch
  simp only [relabel, hp, hq]
  split
  · rfl
  · split
    · simp only [relabelRes, relabel]
    · simp only [relabelRes, relabel, hg]

theorem step_exit {p : Program w} {limited : Bool} {c : Cfg w} (hi : p.insts[c.pc]? = none)
    (hpc : c.pc = p.insts.size) : step p limited c = .halt c := by
  rw [step_none hi, if_pos hpc]

section sim
variable {p q : Program w} (hS : Stripped p.insts q.insts) (hT : TargetsOk p.insts)
include hS hT

theorem strip_step_real (limited : Bool) (c : Cfg w) {ins : Instr w} (hi : p.insts[c.pc]? = some ins)
    (hk : keep ins = true) :
    step q limited (relabel (pos p.insts) c) = relabelRes (pos p.insts) (step p limited c) := by
  have hlt : c.pc < p.insts.size := lt_of_getElem? hi
  have hq : q.insts[(relabel (pos p.insts) c).pc]? = some (fixInst p.insts c.pc ins) := hS.get _ _ hi hk
  have hg : pos p.insts (c.pc + 1) = pos p.insts c.pc + 1 := by rw [pos_succ hi, hk]; rfl
  rw [step_eq hq, step_eq hi]
  have hbr : ∀ (taken : Bool) (off : Int), branchOff? ins = some off →
      branch q limited (relabel (pos p.insts) c) taken (newOff p.insts c.pc off)
        = relabelRes (pos p.insts) (branch p limited c taken off) := by
    intro taken off hoff
    have ht := hT _ _ _ hi hoff
    apply branch_relabel p q limited (pos p.insts) c taken off _ ((c.pc : Int) + off).toNat hg
    · simp only [branchTarget, ht, and_self, if_true]
    · have h1 : (pos p.insts c.pc : Int) + newOff p.insts c.pc off = pos p.insts ((c.pc : Int) + off).toNat := by
        unfold newOff; omega
      have h2 : pos p.insts ((c.pc : Int) + off).toNat ≤ q.insts.size := by
        rw [hS.size]; exact pos_mono _ (by omega)
      simp only [branchTarget, h1]
      have h3 : (0 : Int) ≤ (pos p.insts ((c.pc : Int) + off).toNat : Int) ∧
          (pos p.insts ((c.pc : Int) + off).toNat : Int) ≤ (q.insts.size : Int) := by omega
      simp only [h3, and_self, if_true, Int.toNat_natCast]
  cases ins with
  | brz cond off => exact hbr _ off rfl
  | brnz cond off => exact hbr _ off rfl
  | _ => exact stepI_relabel_nonbranch p q limited _ c _ rfl hg

omit hS hT in
theorem strip_step_noop (limited : Bool) (c : Cfg w) (hi : p.insts[c.pc]? = some .noop) :
    step p limited c = .next { c with pc := c.pc + 1 } ∧
    relabel (pos p.insts) { c with pc := c.pc + 1 } = relabel (pos p.insts) c := by
  refine ⟨by rw [step_eq hi]; rfl, ?_⟩
  have : pos p.insts (c.pc + 1) = pos p.insts c.pc := by rw [pos_succ hi]; rfl
  simp only [relabel, this]

omit hT in
theorem strip_step_exit (limited : Bool) (c : Cfg w) (hle : c.pc ≤ p.insts.size) (hi : p.insts[c.pc]? = none) :
    step p limited c = .halt c ∧
    step q limited (relabel (pos p.insts) c) = .halt (relabel (pos p.insts) c) := by
  have hpc : c.pc = p.insts.size := by
    rw [Array.getElem?_eq_none_iff] at hi; omega
  constructor
  · exact step_exit hi hpc
  · have hq : (relabel (pos p.insts) c).pc = q.insts.size := by
      simp only [relabel, hpc, hS.size]
    have hnone : q.insts[(relabel (pos p.insts) c).pc]? = none := by
      rw [Array.getElem?_eq_none_iff]; omega
    exact step_exit hnone hq

omit hS in
theorem strip_next_pc_le (limited : Bool) {c c' : Cfg w}
    (hs : step p limited c = .next c') : c'.pc ≤ p.insts.size := by
  cases hi : p.insts[c.pc]? with
  | none =>
    unfold step at hs; simp only [hi] at hs
    split at hs <;> cases hs
  | some ins =>
    have hlt : c.pc < p.insts.size := lt_of_getElem? hi
    obtain ⟨ss, hss⟩ := Option.isSome_iff_exists.mp (succs_of_targetsOk hT hi)
    rw [step_eq hi] at hs
    rcases stepI_pc hss hs with h | h
    · exact succs_le hlt hss _ h
    · omega

/-- A step of `p` inside the program is a `noop`, which `q` does not have, or the same step of `q`. -/
theorem strip_step (limited : Bool) (c : Cfg w) (hle : c.pc ≤ p.insts.size) :
    (∃ c', step p limited c = .next c' ∧ relabel (pos p.insts) c' = relabel (pos p.insts) c ∧
      c'.pc ≤ p.insts.size ∧ p.insts.size - c'.pc < p.insts.size - c.pc) ∨
    (step q limited (relabel (pos p.insts) c) = relabelRes (pos p.insts) (step p limited c) ∧
      ∀ c', step p limited c = .next c' → c'.pc ≤ p.insts.size) := by
  cases hi : p.insts[c.pc]? with
  | none =>
    obtain ⟨h1, h2⟩ := strip_step_exit hS limited c hle hi
    exact .inr ⟨by rw [h1, h2]; rfl, fun c' h => by rw [h1] at h; cases h⟩
  | some ins =>
    by_cases hk : keep ins = true
    · exact .inr ⟨strip_step_real hS hT limited c hi hk, fun c' h => strip_next_pc_le hT limited h⟩
    · have hn : ins = .noop := by cases ins <;> simp_all [keep, isNoop]
      subst hn
      obtain ⟨h1, h2⟩ := strip_step_noop limited c hi
      have := lt_of_getElem? hi
      exact .inl ⟨_, h1, h2, by simp only; omega, by simp only; omega⟩

/-- A `noop` of `p` is a step of `p` alone (`.sync 1 0`); every other step is taken by both (`.sync 1 1`). -/
theorem strip_forward (limited : Bool) (fuel : Nat) (c : Cfg w) (hle : c.pc ≤ p.insts.size) :
    ∃ fuel', runCfg q limited fuel' (relabel (pos p.insts) c) = relabelOut (pos p.insts) (runCfg p limited fuel c) := by
  refine (Bc.fuelRun p limited).sim (Bc.fuelRun q limited) (μ := fun _ _ => 0)
    (R := fun _ c c' => c' = relabel (pos p.insts) c ∧ c.pc ≤ p.insts.size)
    (Q := fun o o' => o' = relabelOut (pos p.insts) o) (fun f c c' h => ?_) fuel c _ ⟨rfl, hle⟩
  obtain ⟨rfl, hle⟩ := h
  have h0 : f < 1 → ∃ j, runCfg q limited j (relabel (pos p.insts) c) = relabelOut (pos p.insts) (runCfg p limited f c) :=
    fun hf => ⟨0, by obtain rfl : f = 0 := by omega
                     rfl⟩
  rcases strip_step hS hT limited c hle with ⟨c1, h1, h2, h3, _⟩ | ⟨hst, hpc⟩
  · exact .sync 1 0 c1 _ ((Bc.fuelRun p limited).one h1) rfl (fun _ => ⟨h2.symm, h3⟩) nofun h0
  · cases hs : step p limited c with
    | next c1 =>
      rw [hs] at hst
      exact .sync 1 1 c1 _ ((Bc.fuelRun p limited).one hs) ((Bc.fuelRun q limited).one (by rw [hst]; rfl))
        (fun _ => ⟨rfl, hpc c1 hs⟩) nofun h0
    | halt c1 | stop c1 | interrupted c1 | bad c1 =>
      rw [hs] at hst
      refine .last ⟨f, ?_⟩
      cases f with
      | zero => rfl
      | succ k => simp only [runCfg, hs, hst, relabelRes, relabelOut]

/-- Conversely `q` waits while `p` consumes its `noop`s (`.sync 0 1`); they are consumed left to right, so the distance
`size - pc` to the end of `p` is the measure that bounds the waiting. -/
theorem strip_backward (limited : Bool) (fuel : Nat) (c : Cfg w) (hle : c.pc ≤ p.insts.size) :
    ∃ fuel', runCfg q limited fuel (relabel (pos p.insts) c) = relabelOut (pos p.insts) (runCfg p limited fuel' c) := by
  refine (Bc.fuelRun q limited).sim (Bc.fuelRun p limited) (μ := fun _ c => p.insts.size - c.pc)
    (R := fun _ c' c => c' = relabel (pos p.insts) c ∧ c.pc ≤ p.insts.size)
    (Q := fun o' o => o' = relabelOut (pos p.insts) o) (fun f c' c h => ?_) fuel _ c ⟨rfl, hle⟩
  obtain ⟨rfl, hle⟩ := h
  rcases strip_step hS hT limited c hle with ⟨c1, h1, h2, h3, h4⟩ | ⟨hst, hpc⟩
  · exact .sync 0 1 _ c1 rfl ((Bc.fuelRun p limited).one h1) (fun _ => ⟨h2.symm, h3⟩) (fun _ => h4) nofun
  · cases hs : step p limited c with
    | next c1 =>
      rw [hs] at hst
      exact .sync 1 1 _ c1 ((Bc.fuelRun q limited).one (by rw [hst]; rfl)) ((Bc.fuelRun p limited).one hs)
        (fun _ => ⟨rfl, hpc c1 hs⟩) nofun fun hf => by
          obtain rfl : f = 0 := by omega
          exact ⟨0, rfl⟩
    | halt c1 | stop c1 | interrupted c1 | bad c1 =>
      rw [hs] at hst
      refine .last ⟨f, ?_⟩
      cases f with
      | zero => rfl
      | succ k => simp only [runCfg, hs, hst, relabelRes, relabelOut]

theorem strip_behEq : BehEq p q := by
  have h0 : ∀ c : Cfg w, c.pc = 0 → relabel (pos p.insts) c = c := by
    intro c hc
    simp only [relabel, hc, pos_zero]
    cases c; simp_all
  constructor
  · apply beh_of_runCfg (fun c => ObsEq'.refl _)
    intro limited fuel c hc
    obtain ⟨f', e⟩ := strip_forward hS hT limited fuel c (by omega)
    refine ⟨f', ?_⟩
    rw [h0 c hc] at e
    rw [e]
    exact obsEq_relabelOut _ _
  · apply beh_of_runCfg (fun c => ObsEq'.refl _)
    intro limited fuel c hc
    obtain ⟨f', e⟩ := strip_backward hS hT limited fuel c (by omega)
    refine ⟨f', ?_⟩
    rw [h0 c hc] at e
    rw [e]
    exact (obsEq_relabelOut _ _).symm

end sim

theorem zip_filter_length {α β : Type} (P : β → Bool) :
    ∀ (a : List α) (b : List β), a.length = b.length →
      (((a.zip b).filter (fun li => P li.2)).map (·.1)).length = (b.filter P).length := by
  intro a
  induction a with
  | nil => intro b h; cases b <;> simp_all
  | cons x xs ih =>
    intro b h
    cases b with
    | nil => simp at h
    | cons y ys =>
      have := ih ys (by simpa using h)
      simp only [List.zip_cons_cons, List.filter_cons]
      by_cases hy : P y = true
      · simp only [hy, if_true, List.map_cons, List.length_cons, this]
      · simp only [hy, Bool.false_eq_true, if_false, this]

/-- `strip_noops` in closed form: the branch offsets are fixed in place (`fixed`), then the `noop`s go, each with
its entry of `live`.  Without `hT` it panics (last example of this file); `hl` is used as `live.size ≤ insts.size`. -/
theorem stripNoops_eq (s : St w) (hl : s.live.size = s.insts.size) (hT : TargetsOk s.insts) :
    ∃ fixed : Array (Instr w), fixed.size = s.insts.size ∧
      (∀ j, j < s.insts.size → fixed[j]? = (s.insts[j]?).map (fixInst s.insts j)) ∧
      stripNoops s = .ok { s with
        live := (((s.live.toList.zip fixed.toList).filter (fun li => !isNoop li.2)).map (·.1)).toArray,
        insts := fixed.filter (fun x => !isNoop x) } := by
  obtain ⟨fixed, hfix, hsz, _, hget⟩ := fixBranches_spec hT s.insts.size (Array.mkEmpty s.insts.size)
    (Nat.le_refl _)
  have hsz' : fixed.size = s.insts.size := by simpa using hsz
  refine ⟨fixed, hsz', fun j hj => by simpa using hget j hj, ?_⟩
  have hlive : ¬ (s.live.size > fixed.size) := by omega
  unfold stripNoops
  simp only [hfix, hlive, if_false]

theorem stripNoops_preserves (s : St w) (hl : s.live.size = s.insts.size) (hT : TargetsOk s.insts) :
    ∃ s', stripNoops s = .ok s' ∧ Stripped s.insts s'.insts ∧ s'.live.size = s'.insts.size ∧
      s'.isTarget = s.isTarget ∧
      ∀ (t : Nat) (mn mx : Int), BehEq (progOf s t mn mx) (progOf s' t mn mx) := by
  obtain ⟨fixed, hsz, hget, hform⟩ := stripNoops_eq s hl hT
  have hS : Stripped s.insts (fixed.filter keep) := stripped_of_fixed hsz hget
  refine ⟨_, hform, hS, ?_, rfl, fun t mn mx => strip_behEq (p := progOf s t mn mx) (q := progOf _ t mn mx) hS hT⟩
  simp only [List.size_toArray]
  rw [zip_filter_length (fun x : Instr w => !isNoop x) s.live.toList fixed.toList (by simp; omega)]
  rw [← Array.toList_filter, Array.length_toList]

/-- A loop with `noop`s inside and in front of it, a forward branch over a `noop` to the exit and a backward
branch to an instruction preceded by a `noop`. -/
def exStrip : St 8 :=
  { insts := #[.noop, .copy (.mem 0) (.imm 3#8), .noop, .brz 0 6, .noop, .out 0, .noop,
               .add (.mem 0) (.mem 0) (.imm 255#8), .brnz 0 (-4), .noop],
    live := #[0, 1, 2, 3, 4, 5, 6, 7, 8, 9] }

example : (stripNoops exStrip).toOption.map (fun s => (s.insts, s.live)) =
    some (#[.copy (.mem 0) (.imm 3#8), .brz 0 4, .out 0, .add (.mem 0) (.mem 0) (.imm 255#8), .brnz 0 (-2)],
          #[1, 3, 5, 7, 8]) := by decide +kernel

example : TargetsOk exStrip.insts := by
  apply targetsOk_of_succs
  intro i ins hi
  have hlt : i < 10 := lt_of_getElem? hi
  have : ∀ i : Fin 10, ∀ ins, exStrip.insts[i.val]? = some ins → (succs 10 i.val ins).isSome = true := by
    decide +kernel
  exact this ⟨i, hlt⟩ ins hi

/-- Without the precondition the pass panics (index out of bounds in `cum_noop[target]`). -/
example : (stripNoops ({ insts := #[.brz 0 5], live := #[0] } : St 8)).toOption = none := by decide +kernel

end C02
end Hpbf
