/-
C03: every arm of `JitGen.emitAdd` is a derivation (`emitAdd_sel`); that it performs the bytecode instruction
(`emitAdd_impl`) and what it emits (`add_emits`) are read off it. An arm that loads `b` first is a derivation of
`rv c b + rv c a`: hence the `rw [BitVec.add_comm]` before it.
-/
import Hpbf.Proofs.C03Sel

namespace Hpbf
namespace C03

open Asm JitGen X86Sem

variable {w : Nat}

theorem emitAdd_sel (sz : Size) (live : Nat) (c : Bc.Cfg w) {d a b : Bc.Loc w} {xs : List X86}
    (h : emitAdd sz live d a b = some xs) : ISel sz live c [a, b] d (rv c a + rv c b) xs := by
  have ha : a ∈ [a, b] := List.mem_cons_self
  have hb : b ∈ [a, b] := List.mem_cons_of_mem _ List.mem_cons_self
  unfold emitAdd at h
  split at h
  next i0 i1 v =>
    dsimp only at h
    split at h
    next e =>
      cases eq_of_beq e
      split at h <;> cases h
      · exact .addImm ha v ‹_›
      · exact .accum (.load .scr0 hb (.imm v)) .add ha trivial
    next =>
      split at h <;> cases h
      · exact .viaScr0 ha (.mem i1) hb (.addImm v ‹_›)
      -- the selector loads the SECOND operand first here
      · rw [BitVec.add_comm]
        exact .viaScr0 hb (.imm v) ha (.mem .add i1)
  next i0 i1 t =>
    split at h
    next e =>
      cases eq_of_beq e
      split at h <;> cases h
      next r hr => exact .acc hr .add hb ha
      next => exact .accum (.load .scr0 hb (.tmp t)) .add ha trivial
    next =>
      rw [BitVec.add_comm]
      split at h
      next hs =>
        obtain ⟨r, hr, rfl⟩ := Option.map_eq_some_iff.1 h
        exact .st (.srcOp (.dead hr hs) hb ha (.mem .add i1))
      next =>
        cases h
        exact .viaScr0 hb (.tmp t) ha (.mem .add i1)
  next i0 i1 i2 =>
    split at h <;> cases h
    next e =>
      cases eq_of_beq e
      exact .accum (.load .scr0 hb (.mem i2)) .add ha trivial
    next =>
      rw [BitVec.add_comm]
      exact .viaScr0 hb (.mem i2) ha (.mem .add i1)
  next i t v =>
    dsimp only at h
    split at h
    next =>
      split at h
      next r hr =>
        split at h <;> cases h
        next hs =>
          exact .st (.srcOp (.dead hr hs) ha hb (.addImm v ‹_›))
        next => exact .st (.lea1 .scr0 hr ha v ‹_›)
      next =>
        cases h
        exact .viaScr0 ha (.tmp t) hb (.addImm v ‹_›)
    next =>
      cases h
      rw [BitVec.add_comm]
      exact .viaScr0 hb (.imm v) ha (.tmp .add t)
  next i t0 t1 =>
    split at h
    next hs0 =>
      obtain ⟨r0, h0, rfl⟩ := Option.map_eq_some_iff.1 h
      exact .st (.srcOp (.dead h0 hs0) ha hb (.tmp .add t1))
    next hs0 =>
      split at h
      next hs1 =>
        obtain ⟨r1, h1, rfl⟩ := Option.map_eq_some_iff.1 h
        rw [BitVec.add_comm]
        exact .st (.srcOp (.dead h1 hs1) hb ha (.tmp .add t0))
      next =>
        cases h
        split
        next r0 r1 h0 h1 => exact .st (.lea2 .scr0 h0 h1 ha hb)
        next r0 h0 _ =>
          rw [← tmpParam_reg h0]
          exact .viaScr0 ha (.tmp t0) hb (.tmp .add t1)
        next =>
          rw [BitVec.add_comm]
          exact .viaScr0 hb (.tmp t1) ha (.tmp .add t0)
  next t i v =>
    dsimp only at h
    split at h
    next r hr =>
      split at h <;> cases h
      · exact .dst (.op (.load (.dst hr) ha (.mem i)) hb (.addImm v ‹_›) trivial)
      · rw [BitVec.add_comm]
        exact .dst (.op (.load (.dst hr) hb (.imm v)) ha (.mem .add i) trivial)
    next =>
      cases h
      rw [BitVec.add_comm]
      exact .viaScr0 hb (.imm v) ha (.mem .add i)
  next t0 i t1 =>
    rw [BitVec.add_comm]
    split at h <;> cases h
    next r0 h0 =>
      exact .dst (.op (.load (.dst h0) hb (.tmp t1)) ha (.mem .add i) trivial)
    next =>
      exact .viaScr0 hb (.tmp t1) ha (.mem .add i)
  next t i0 i1 =>
    split at h <;> cases h
    next r hr =>
      exact .dst (.op (.load (.dst hr) ha (.mem i0)) hb (.mem .add i1) trivial)
    next =>
      exact .viaScr0 ha (.mem i0) hb (.mem .add i1)
  next t0 t1 v =>
    dsimp only at h
    split at h
    next e =>
      cases eq_of_beq e
      split at h <;> cases h
      · exact .addImm ha v ‹_›
      · exact .accum (.load .scr0 hb (.imm v)) .add ha trivial
    next e =>
      have e : t1 ≠ t0 := fun e' => e (beq_iff_eq.2 e'.symm)
      split at h
      next =>
        split at h <;> cases h
        next r0 r1 h0 h1 => exact .dst (.lea1 (.dst h0) h1 ha v ‹_›)
        next r0 h0 _ =>
          exact .dst (.op (.load (.dst h0) ha (.tmp t1)) hb (.addImm v ‹_›) trivial)
        next =>
          exact .viaScr0 ha (.tmp t1) hb (.addImm v ‹_›)
      next =>
        rw [BitVec.add_comm]
        split at h <;> cases h
        next r0 h0 =>
          exact .dst (.op (.load (.dst h0) hb (.imm v)) ha (.tmp .add t1) e)
        next =>
          exact .viaScr0 hb (.imm v) ha (.tmp .add t1)
  next t0 t1 t2 =>
    split at h
    next e =>
      cases eq_of_beq e
      split at h <;> cases h
      next r0 h0 =>
        exact .dst (.srcOp (.dst h0) ha hb (.tmp .add t2))
      next => exact .accum (.load .scr0 hb (.tmp t2)) .add ha trivial
    next e =>
      have e : t1 ≠ t0 := fun e' => e (beq_iff_eq.2 e'.symm)
      split at h
      next r0 r1 r2 h0 h1 h2 =>
        cases h
        exact .dst (.lea2 (.dst h0) h1 h2 ha hb)
      next r0 h0 _ =>
        split at h <;> cases h
        next e2 =>
          simp only [Bool.and_eq_true, bne_iff_ne, ne_eq] at e2
          exact .dst (.op (.load (.dst h0) ha (.tmp t1)) hb (.tmp .add t2) (fun e' => e2.2 e'.symm))
        next =>
          rw [BitVec.add_comm]
          exact .dst (.op (.load (.dst h0) hb (.tmp t2)) ha (.tmp .add t1) e)
      next =>
        cases h
        exact .viaScr0 ha (.tmp t1) hb (.tmp .add t2)
      next =>
        cases h
        rw [BitVec.add_comm]
        exact .viaScr0 hb (.tmp t2) ha (.tmp .add t1)
  next t0 t1 i =>
    split at h
    next e =>
      cases eq_of_beq e
      split at h <;> cases h
      next r0 h0 => exact .dst (.srcOp (.dst h0) ha hb (.mem .add i))
      next => exact .accum (.load .scr0 hb (.mem i)) .add ha trivial
    next => cases h
  next => cases h


theorem emitAdd_impl {sz : Size} (hsz : sz.bits = w) (S : Nat → Prop) (live : Nat) (c : Bc.Cfg w)
    {d a b : Bc.Loc w} {xs : List X86} (h : emitAdd sz live d a b = some xs) (hd : LocOk d)
    (ha : LocOk a) (hb : LocOk b) (hsa : SrcOk S a) (hsb : SrcOk S b) :
    Impl S live c d (rv c a + rv c b) xs :=
  (emitAdd_sel sz live c h).impl hsz (srcs_ok ha hb hsa hsb) hd

theorem add_emits (sz : Size) (live : Nat) (d a b : Bc.Loc w) : Emits sz [d, a, b] (emitAdd sz live d a b) :=
  emits_of_sel fun c _ => emitAdd_sel sz live c

end C03
end Hpbf
