/-
AGREEMENT of two big-step runs of the same code from states that differ only on addresses
that the run does not expose (`Exposes`, `Thru`: `OptRbRd1.lean`).

`AgreeAbs Kd σ1 σ2`: same pointer, environment, trace, and the same tape outside the set `Kd` of absolute addresses.
If no address of `Kd` is exposed by the run of `l` from `σ1`, the runs of `l` from `σ1` and `σ2` mirror each other
(`sim_of_unexposed`), and at the end the tapes agree outside the addresses of `Kd` that were not touched at all
(a touched unexposed address is written before it is read).
-/
import Hpbf.Proofs.OptRbRd1
import Hpbf.Proofs.StateAgree

namespace Hpbf
namespace OptProof
open Opt OptSem Ir

variable {w : Nat}

/-- Equality of states up to the representation of the tape (an association list): `AgreeAbs` for the empty set
(`AgreeAbs.stEq`, `AgreeAbs.of_stEq`). -/
def StEq (σ σ' : State w) : Prop :=
  σ.ptr = σ'.ptr ∧ σ.env = σ'.env ∧ σ.trace = σ'.trace ∧ ∀ i : Int, σ.tape.get i = σ'.tape.get i

def AgreeAbs (Kd : Int → Prop) (σ1 σ2 : State w) : Prop :=
  σ1.ptr = σ2.ptr ∧ σ1.env = σ2.env ∧ σ1.trace = σ2.trace ∧ ∀ a, ¬ Kd a → σ1.tape.get a = σ2.tape.get a

theorem AgreeAbs.mono {Kd Kd' : Int → Prop} {σ1 σ2 : State w} (h : AgreeAbs Kd σ1 σ2)
    (hk : ∀ a, Kd a → Kd' a) : AgreeAbs Kd' σ1 σ2 :=
  ⟨h.1, h.2.1, h.2.2.1, fun a ha => h.2.2.2 a (fun hk' => ha (hk a hk'))⟩

theorem AgreeAbs.symm {Kd : Int → Prop} {σ1 σ2 : State w} (h : AgreeAbs Kd σ1 σ2) : AgreeAbs Kd σ2 σ1 :=
  ⟨h.1.symm, h.2.1.symm, h.2.2.1.symm, fun a ha => (h.2.2.2 a ha).symm⟩

theorem AgreeAbs.of_stEq {Kd : Int → Prop} {σ1 σ2 : State w} (h : StEq σ1 σ2) : AgreeAbs Kd σ1 σ2 :=
  ⟨h.1, h.2.1, h.2.2.1, fun a _ => h.2.2.2 a⟩

theorem AgreeAbs.stEq {σ1 σ2 : State w} (h : AgreeAbs (fun _ => False) σ1 σ2) : StEq σ1 σ2 :=
  ⟨h.1, h.2.1, h.2.2.1, fun a => h.2.2.2 a (fun hf => hf)⟩

theorem AgreeAbs.mov {Kd : Int → Prop} {σ1 σ2 : State w} (h : AgreeAbs Kd σ1 σ2) (d : Int) :
    AgreeAbs Kd (σ1.mov d) (σ2.mov d) :=
  ⟨by show σ1.ptr + d = σ2.ptr + d; rw [h.1], h.2.1, h.2.2.1, h.2.2.2⟩

theorem AgreeAbs.rd {Kd : Int → Prop} {σ1 σ2 : State w} (h : AgreeAbs Kd σ1 σ2) {v : Int}
    (hv : ¬ Kd (σ1.ptr + v)) : σ1.rd v = σ2.rd v := by
  show σ1.tape.get (σ1.ptr + v) = σ2.tape.get (σ2.ptr + v)
  rw [← h.1]; exact h.2.2.2 _ hv

/-- `AgreeAbs Kd` is agreement on the complement of `Kd`. -/
theorem AgreeAbs.toSim {Kd : Int → Prop} {σ1 σ2 : State w} (h : AgreeAbs Kd σ1 σ2) :
    C11.StSim (fun a => ¬ Kd a) σ1 σ2 := ⟨h.1, h.2.1, h.2.2.1, h.2.2.2⟩

theorem AgreeAbs.of_sim {Kd X : Int → Prop} {σ1 σ2 : State w} (h : C11.StSim X σ1 σ2) (hx : ∀ a, ¬ Kd a → X a) :
    AgreeAbs Kd σ1 σ2 := ⟨h.ptr, h.env, h.trace, fun a ha => h.tape a (hx a ha)⟩

theorem AgreeAbs.doCalc {Kd : Int → Prop} {σ1 σ2 : State w} (h : AgreeAbs Kd σ1 σ2) (g : List (Int × Expr w))
    (hr : ∀ ve ∈ g, ∀ v ∈ Expr.variables ve.2, ¬ Kd (σ1.ptr + v)) :
    AgreeAbs (fun a => Kd a ∧ ∀ ve ∈ g, σ1.ptr + ve.1 ≠ a) (Ir.doCalc σ1 g) (Ir.doCalc σ2 g) :=
  .of_sim (h.toSim.doCalc g hr) fun a ha => by
    by_cases hx : ∃ ve ∈ g, a = σ1.ptr + ve.1
    · exact .inr hx
    · exact .inl fun hk => ha ⟨hk, fun ve hve e => hx ⟨ve, hve, e.symm⟩⟩

theorem AgreeAbs.output {Kd : Int → Prop} {σ1 σ2 : State w} (h : AgreeAbs Kd σ1 σ2) {src : Int}
    (hp : ¬ Kd (σ1.ptr + src)) :
    (σ1.output src).1 = (σ2.output src).1 ∧ AgreeAbs Kd (σ1.output src).2 (σ2.output src).2 :=
  let ⟨h1, h2⟩ := h.toSim.output hp
  ⟨h1, .of_sim h2 fun _ => id⟩

theorem AgreeAbs.output_fwd {Kd : Int → Prop} {σ1 σ2 σ1' : State w} (h : AgreeAbs Kd σ1 σ2) {src : Int}
    (hp : ¬ Kd (σ1.ptr + src)) {b : Bool} (ho : σ1.output src = (b, σ1')) :
    ∃ σ2', σ2.output src = (b, σ2') ∧ AgreeAbs Kd σ1' σ2' := by
  obtain ⟨h1, h2⟩ := h.output hp
  rw [ho] at h1 h2
  cases hx : σ2.output src with
  | mk b' s' =>
    rw [hx] at h1 h2
    cases (h1 : b = b')
    exact ⟨s', rfl, h2⟩

theorem AgreeAbs.input {Kd : Int → Prop} {σ1 σ2 : State w} (h : AgreeAbs Kd σ1 σ2) (dst : Int) :
    (σ1.input dst).1 = (σ2.input dst).1 ∧
      AgreeAbs (fun a => Kd a ∧ ((σ1.input dst).1 = true → a ≠ σ1.ptr + dst))
        (σ1.input dst).2 (σ2.input dst).2 :=
  let ⟨h1, h2⟩ := h.toSim.input dst
  ⟨h1, .of_sim h2 fun a ha => by
    by_cases e : (σ1.input dst).1 = true ∧ a = σ1.ptr + dst
    · exact .inr e
    · exact .inl fun hk => ha ⟨hk, fun hf hap => e ⟨hf, hap⟩⟩⟩

theorem AgreeAbs.input_fwd {Kd : Int → Prop} {σ1 σ2 σ1' : State w} (h : AgreeAbs Kd σ1 σ2) {dst : Int}
    {b : Bool} (ho : σ1.input dst = (b, σ1')) :
    ∃ σ2', σ2.input dst = (b, σ2') ∧ AgreeAbs (fun a => Kd a ∧ (b = true → a ≠ σ1.ptr + dst)) σ1' σ2' := by
  obtain ⟨h1, h2⟩ := h.input dst
  rw [ho] at h1 h2
  cases hx : σ2.input dst with
  | mk b' s' =>
    rw [hx] at h1 h2
    cases (h1 : b = b')
    exact ⟨s', rfl, h2⟩

theorem Match.mono {Q Q' : State w → State w → Prop} {o o' : Out w} (h : Match Q o o')
    (hq : ∀ x y, Q x y → Q' x y) : Match Q' o o' := by
  cases o with
  | fin x => obtain ⟨y, e, hxy⟩ := h; exact ⟨y, e, hq _ _ hxy⟩
  | stop x => exact h
  | part t => exact h

/-- `Match` with a relation between the stopped states as well. -/
def MatchK (Q Qs : State w → State w → Prop) : Out w → Out w → Prop
  | .fin a, o' => ∃ b, o' = .fin b ∧ Q a b
  | .stop a, o' => ∃ b, o' = .stop b ∧ Qs a b
  | .part t, o' => o' = .part t

theorem MatchK.mono {Q Q' Qs Qs' : State w → State w → Prop} {o o' : Out w} (h : MatchK Q Qs o o')
    (hq : ∀ x y, Q x y → Q' x y) (hs : ∀ x y, Qs x y → Qs' x y) : MatchK Q' Qs' o o' := by
  cases o with
  | fin x => obtain ⟨y, e, hxy⟩ := h; exact ⟨y, e, hq _ _ hxy⟩
  | stop x => obtain ⟨y, e, hxy⟩ := h; exact ⟨y, e, hs _ _ hxy⟩
  | part t => exact h

theorem MatchK.nonfin {Q Q' Qs : State w → State w → Prop} {o o' : Out w} (h : MatchK Q Qs o o')
    (hnf : o.isFin = false) : MatchK Q' Qs o o' ∧ o'.isFin = false := by
  cases o with
  | fin x => cases hnf
  | stop x => obtain ⟨y, rfl, hxy⟩ := h; exact ⟨⟨y, rfl, hxy⟩, rfl⟩
  | part t => cases (h : o' = .part t); exact ⟨rfl, rfl⟩

/-- No address of `Kd` is exposed by both runs. Under `AgreeAbs Kd σ σ'` one run exposes such an address iff the
other does (`exposes_agree`); with the disjunction every statement below is symmetric in the two states, so that a
run from either state is mirrored from the other by the same lemma. -/
def Unexposed (Kd : Int → Prop) (l : List (Instr w)) (σ σ' : State w) : Prop :=
  ∀ a, Kd a → ¬ Exposes a l σ ∨ ¬ Exposes a l σ'

theorem Unexposed.not_here {Kd : Int → Prop} {l : List (Instr w)} {σ σ' : State w} (h : Unexposed Kd l σ σ')
    {a : Int} (h1 : Exposes a l σ) (h2 : Exposes a l σ') : ¬ Kd a :=
  fun hk => (h a hk).elim (fun n => n h1) (fun n => n h2)

theorem Unexposed.step {Kd Kd' : Int → Prop} {l l' : List (Instr w)} {σ σ' τ τ' : State w}
    (h : Unexposed Kd l σ σ') (hk : ∀ a, Kd' a → Kd a) (f : ∀ a, Kd' a → Exposes a l' τ → Exposes a l σ)
    (g : ∀ a, Kd' a → Exposes a l' τ' → Exposes a l σ') : Unexposed Kd' l' τ τ' :=
  fun a ha => (h a (hk a ha)).imp (mt (f a ha)) (mt (g a ha))

/-- The step with the same `Kd`: an exposure in the rest of a run is an exposure in the run. -/
theorem Unexposed.next {Kd : Int → Prop} {l l' : List (Instr w)} {σ σ' τ τ' : State w} (h : Unexposed Kd l σ σ')
    (f : ∀ {a}, Exposes a l' τ → Exposes a l σ) (g : ∀ {a}, Exposes a l' τ' → Exposes a l σ') :
    Unexposed Kd l' τ τ' :=
  h.step (fun _ hk => hk) (fun _ _ => f) (fun _ _ => g)

/-- The cell tested at the head of the code is outside `Kd`, so both states hold the same value there. -/
theorem AgreeAbs.head {Kd : Int → Prop} {l : List (Instr w)} {σ σ' : State w} {c : Int} (hag : AgreeAbs Kd σ σ')
    (hne : Unexposed Kd l σ σ') (h1 : Exposes (σ.ptr + c) l σ) (h2 : Exposes (σ'.ptr + c) l σ') :
    ¬ Kd (σ.ptr + c) ∧ σ'.rd c = σ.rd c :=
  have hp := hne.not_here h1 (hag.1 ▸ h2)
  ⟨hp, (hag.rd hp).symm⟩

theorem AgreeAbs.calc_reads {Kd : Int → Prop} {g : List (Int × Expr w)} {rest : List (Instr w)} {σ σ' : State w}
    (hag : AgreeAbs Kd σ σ') (hne : Unexposed Kd (.calc g :: rest) σ σ') :
    ∀ ve ∈ g, ∀ v ∈ Expr.variables ve.2, ¬ Kd (σ.ptr + v) := fun ve hve v hv =>
  hne.not_here (.calcHere ⟨ve, hve, v, hv, rfl⟩) (.calcHere ⟨ve, hve, v, hv, by rw [hag.1]⟩)

/-- The relation at the end of mirrored runs: the tapes agree outside the addresses of `Kd` that neither run
touched. -/
def EndRel (Kd : Int → Prop) (l : List (Instr w)) (σ σ' : State w) (x y : State w) : Prop :=
  AgreeAbs (fun a => Kd a ∧ Thru a l σ x ∧ Thru a l σ' y) x y

theorem agree_execK {l : List (Instr w)} {σ : State w} {o : Out w} (h : Exec l σ o) :
    ∀ (Kd : Int → Prop) (σ' : State w), AgreeAbs Kd σ σ' → Unexposed Kd l σ σ' →
      ∃ o', Exec l σ' o' ∧ MatchK (EndRel Kd l σ σ') (AgreeAbs Kd) o o' := by
  induction h with
  | cut l σ =>
    intro Kd σ' hag _
    refine ⟨.part σ'.trace, .cut _ _, ?_⟩
    show Out.part σ'.trace = Out.part σ.trace
    rw [hag.2.2.1]
  | nil σ =>
    intro Kd σ' hag _
    exact ⟨.fin σ', .nil _, σ', rfl, hag.mono (fun a ha => ⟨ha, .nil _, .nil _⟩)⟩
  | @outOk src rest σ σ1 o ho _ ih =>
    intro Kd σ' hag hne
    have hpt : σ'.ptr = σ.ptr := hag.1.symm
    have hp : ¬ Kd (σ.ptr + src) := hne.not_here (.outHere rfl) (.outHere (by rw [hpt]))
    obtain ⟨σ1', ho', hag1⟩ := hag.output_fwd hp ho
    obtain ⟨o', hex, hm⟩ := ih Kd σ1' hag1
      (hne.next (.outNext ho) (.outNext ho'))
    refine ⟨o', .outOk ho' hex, hm.mono (fun x y hxy => hxy.mono (fun a hk => ⟨hk.1, ?_, ?_⟩))
      (fun _ _ h => h)⟩
    · exact .outOk ho (fun e => hp (e ▸ hk.1)) hk.2.1
    · exact .outOk ho' (fun e => hp (hpt ▸ e ▸ hk.1)) hk.2.2
  | @outFail src rest σ σ1 ho =>
    intro Kd σ' hag hne
    have hp : ¬ Kd (σ.ptr + src) := hne.not_here (.outHere rfl) (.outHere (by rw [hag.1]))
    obtain ⟨σ1', ho', hag1⟩ := hag.output_fwd hp ho
    exact ⟨.stop σ1', .outFail ho', σ1', rfl, hag1⟩
  | @inOk dst rest σ σ1 o ho _ ih =>
    intro Kd σ' hag hne
    have hpt : σ'.ptr = σ.ptr := hag.1.symm
    obtain ⟨σ1', ho', hag1⟩ := hag.input_fwd ho
    obtain ⟨o', hex, hm⟩ := ih _ σ1' hag1
      (hne.step (fun _ hk => hk.1) (fun _ hk => .inNext ho (fun e => hk.2 rfl e.symm))
        (fun _ hk => .inNext ho' (fun e => hk.2 rfl (hpt ▸ e.symm))))
    refine ⟨o', .inOk ho' hex, hm.mono (fun x y hxy => hxy.mono (fun a hk => ⟨hk.1.1, ?_, ?_⟩))
      (fun _ _ h => h.mono fun _ hk => hk.1)⟩
    · exact .inOk ho (fun e => hk.1.2 rfl e.symm) hk.2.1
    · exact .inOk ho' (fun e => hk.1.2 rfl (hpt ▸ e.symm)) hk.2.2
  | @inFail dst rest σ σ1 ho =>
    intro Kd σ' hag hne
    obtain ⟨σ1', ho', hag1⟩ := hag.input_fwd ho
    exact ⟨.stop σ1', .inFail ho', σ1', rfl, hag1.mono fun _ hk => hk.1⟩
  | @«calc» g rest σ o _ ih =>
    intro Kd σ' hag hne
    have hpt : σ'.ptr = σ.ptr := hag.1.symm
    have hr := hag.calc_reads hne
    obtain ⟨o', hex, hm⟩ := ih _ _ (hag.doCalc g hr)
      (hne.step (fun _ hk => hk.1) (fun _ hk => .calcNext hk.2) (fun _ hk => .calcNext (hpt ▸ hk.2)))
    refine ⟨o', .calc hex, hm.mono (fun x y hxy => hxy.mono (fun a hk => ⟨hk.1.1, ?_, ?_⟩))
      (fun _ _ h => h.mono fun _ hk => hk.1)⟩
    · exact .calc hk.1.2 (fun ve hve v hv e => hr ve hve v hv (e ▸ hk.1.1)) hk.2.1
    · exact .calc (hpt ▸ hk.1.2) (fun ve hve v hv e => hr ve hve v hv (hpt ▸ e ▸ hk.1.1)) hk.2.2
  | @loopSkip c sh body once rest σ o hz _ ih =>
    intro Kd σ' hag hne
    have hpt : σ'.ptr = σ.ptr := hag.1.symm
    obtain ⟨hp, hc⟩ := hag.head hne (.loopHere rfl) (.loopHere rfl)
    have hz' : σ'.rd c = 0#w := hc.trans hz
    obtain ⟨o', hex, hm⟩ := ih Kd σ' hag
      (hne.next (.loopSkip hz) (.loopSkip hz'))
    refine ⟨o', .loopSkip hz' hex, hm.mono (fun x y hxy => hxy.mono (fun a hk => ⟨hk.1, ?_, ?_⟩))
      (fun _ _ h => h)⟩
    · exact .loopSkip hz (fun e => hp (e ▸ hk.1)) hk.2.1
    · exact .loopSkip hz' (fun e => hp (hpt ▸ e ▸ hk.1)) hk.2.2
  | @loopIter c sh body once rest σ σm o hnz _ _ ihb ihl =>
    intro Kd σ' hag hne
    have hpt : σ'.ptr = σ.ptr := hag.1.symm
    obtain ⟨hp, hc⟩ := hag.head hne (.loopHere rfl) (.loopHere rfl)
    have hnz' : σ'.rd c ≠ 0#w := hc ▸ hnz
    obtain ⟨ob, hexb, σm', rfl, hagm⟩ := ihb Kd σ' hag
      (hne.next (.loopIn hnz) (.loopIn hnz'))
    obtain ⟨o', hex, hm⟩ := ihl _ (σm'.mov sh) (AgreeAbs.mov hagm sh)
      (hne.step (fun _ hk => hk.1) (fun _ hk => .loopIter hnz hk.2.1) (fun _ hk => .loopIter hnz' hk.2.2))
    refine ⟨o', .loopIter hnz' hexb hex, hm.mono (fun x y hxy => hxy.mono (fun a hk => ⟨hk.1.1, ?_, ?_⟩))
      (fun _ _ h => h.mono fun _ hk => hk.1)⟩
    · exact .loopIter hnz (fun e => hp (e ▸ hk.1.1)) hk.1.2.1 hk.2.1
    · exact .loopIter hnz' (fun e => hp (hpt ▸ e ▸ hk.1.1)) hk.1.2.2 hk.2.2
  | @loopIn c sh body once rest σ o hnz _ hnf ihb =>
    intro Kd σ' hag hne
    obtain ⟨hp, hc⟩ := hag.head hne (.loopHere rfl) (.loopHere rfl)
    have hnz' : σ'.rd c ≠ 0#w := hc ▸ hnz
    obtain ⟨o', hexb, hm⟩ := ihb Kd σ' hag
      (hne.next (.loopIn hnz) (.loopIn hnz'))
    obtain ⟨hm', hnf'⟩ := hm.nonfin (Q' := EndRel Kd (.loop c sh body once :: rest) σ σ') hnf
    exact ⟨o', .loopIn hnz' hexb hnf', hm'⟩
  | @ifSkip c sh body rest σ o hz _ ih =>
    intro Kd σ' hag hne
    have hpt : σ'.ptr = σ.ptr := hag.1.symm
    obtain ⟨hp, hc⟩ := hag.head hne (.ifHere rfl) (.ifHere rfl)
    have hz' : σ'.rd c = 0#w := hc.trans hz
    obtain ⟨o', hex, hm⟩ := ih Kd σ' hag
      (hne.next (.ifSkip hz) (.ifSkip hz'))
    refine ⟨o', .ifSkip hz' hex, hm.mono (fun x y hxy => hxy.mono (fun a hk => ⟨hk.1, ?_, ?_⟩))
      (fun _ _ h => h)⟩
    · exact .ifSkip hz (fun e => hp (e ▸ hk.1)) hk.2.1
    · exact .ifSkip hz' (fun e => hp (hpt ▸ e ▸ hk.1)) hk.2.2
  | @ifIter c sh body rest σ σm o hnz _ _ ihb ihr =>
    intro Kd σ' hag hne
    have hpt : σ'.ptr = σ.ptr := hag.1.symm
    obtain ⟨hp, hc⟩ := hag.head hne (.ifHere rfl) (.ifHere rfl)
    have hnz' : σ'.rd c ≠ 0#w := hc ▸ hnz
    obtain ⟨ob, hexb, σm', rfl, hagm⟩ := ihb Kd σ' hag
      (hne.next (.ifIn hnz) (.ifIn hnz'))
    obtain ⟨o', hex, hm⟩ := ihr _ (σm'.mov sh) (AgreeAbs.mov hagm sh)
      (hne.step (fun _ hk => hk.1) (fun _ hk => .ifIter hnz hk.2.1) (fun _ hk => .ifIter hnz' hk.2.2))
    refine ⟨o', .ifIter hnz' hexb hex, hm.mono (fun x y hxy => hxy.mono (fun a hk => ⟨hk.1.1, ?_, ?_⟩))
      (fun _ _ h => h.mono fun _ hk => hk.1)⟩
    · exact .ifIter hnz (fun e => hp (e ▸ hk.1.1)) hk.1.2.1 hk.2.1
    · exact .ifIter hnz' (fun e => hp (hpt ▸ e ▸ hk.1.1)) hk.1.2.2 hk.2.2
  | @ifIn c sh body rest σ o hnz _ hnf ihb =>
    intro Kd σ' hag hne
    obtain ⟨hp, hc⟩ := hag.head hne (.ifHere rfl) (.ifHere rfl)
    have hnz' : σ'.rd c ≠ 0#w := hc ▸ hnz
    obtain ⟨o', hexb, hm⟩ := ihb Kd σ' hag
      (hne.next (.ifIn hnz) (.ifIn hnz'))
    obtain ⟨hm', hnf'⟩ := hm.nonfin (Q' := EndRel Kd (.ifnz c sh body :: rest) σ σ') hnf
    exact ⟨o', .ifIn hnz' hexb hnf', hm'⟩

theorem agree_exec {l : List (Instr w)} {σ : State w} {o : Out w} (h : Exec l σ o) :
    ∀ (Kd : Int → Prop) (σ' : State w), AgreeAbs Kd σ σ' → Unexposed Kd l σ σ' →
      ∃ o', Exec l σ' o' ∧ Match (EndRel Kd l σ σ') o o' := by
  intro Kd σ' hag hne
  obtain ⟨o', h1, h2⟩ := agree_execK h Kd σ' hag hne
  refine ⟨o', h1, ?_⟩
  cases o with
  | fin x => exact h2
  | stop x => obtain ⟨y, e, hxy⟩ := h2; exact ⟨y, e, hxy.2.2.1.symm, hxy.2.1.symm⟩
  | part t => exact h2

theorem sim_of_unexposed (l : List (Instr w)) (σ1 σ2 : State w) (Kd : Int → Prop) (hag : AgreeAbs Kd σ1 σ2)
    (hne : ∀ a, Kd a → ¬ Exposes a l σ1) :
    Sim (fun x y => AgreeAbs (fun a => Kd a ∧ Thru a l σ1 x) x y) l l σ1 σ2 := by
  refine Sim.of_fwd (fun _ ho => ?_) (fun _ ho => ?_)
  · obtain ⟨o', h1, h2⟩ := agree_exec ho Kd σ2 hag (fun a hk => .inl (hne a hk))
    exact ⟨o', h1, h2.mono (fun x y hxy => hxy.mono (fun a hk => ⟨hk.1, hk.2.1⟩))⟩
  · obtain ⟨o, h1, h2⟩ := agree_exec ho Kd σ1 hag.symm (fun a hk => .inr (hne a hk))
    exact ⟨o, h1, h2.mono (fun y x hyx => hyx.symm.mono (fun a hk => ⟨hk.1, hk.2.2⟩))⟩

theorem bad_agree {l : List (Instr w)} {σ : State w} (h : Bad l σ) :
    ∀ (Kd : Int → Prop) (σ' : State w), AgreeAbs Kd σ σ' → Unexposed Kd l σ σ' → Bad l σ' := by
  induction h with
  | @here c sh body rest σ hz =>
    intro Kd σ' hag hne
    exact .here ((hag.head hne (.loopHere rfl) (.loopHere rfl)).2.trans hz)
  | @outOk src rest σ σ1 ho _ ih =>
    intro Kd σ' hag hne
    have hp : ¬ Kd (σ.ptr + src) := hne.not_here (.outHere rfl) (.outHere (by rw [hag.1]))
    obtain ⟨σ1', ho', hag1⟩ := hag.output_fwd hp ho
    exact .outOk ho' (ih Kd σ1' hag1 (hne.next (.outNext ho) (.outNext ho')))
  | @inOk dst rest σ σ1 ho _ ih =>
    intro Kd σ' hag hne
    have hpt : σ'.ptr = σ.ptr := hag.1.symm
    obtain ⟨σ1', ho', hag1⟩ := hag.input_fwd ho
    exact .inOk ho' (ih _ σ1' hag1
      (hne.step (fun _ hk => hk.1) (fun _ hk => .inNext ho (fun e => hk.2 rfl e.symm))
        (fun _ hk => .inNext ho' (fun e => hk.2 rfl (hpt ▸ e.symm)))))
  | @«calc» g rest σ _ ih =>
    intro Kd σ' hag hne
    have hpt : σ'.ptr = σ.ptr := hag.1.symm
    have hr := hag.calc_reads hne
    exact .calc (ih _ _ (hag.doCalc g hr)
      (hne.step (fun _ hk => hk.1) (fun _ hk => .calcNext hk.2) (fun _ hk => .calcNext (hpt ▸ hk.2))))
  | @loopSkip c sh body once rest σ hz _ ih =>
    intro Kd σ' hag hne
    obtain ⟨hp, hc⟩ := hag.head hne (.loopHere rfl) (.loopHere rfl)
    have hz' : σ'.rd c = 0#w := hc.trans hz
    exact .loopSkip hz' (ih Kd σ' hag (hne.next (.loopSkip hz) (.loopSkip hz')))
  | @loopIter c sh body once rest σ σm hnz hb _ ihl =>
    intro Kd σ' hag hne
    obtain ⟨hp, hc⟩ := hag.head hne (.loopHere rfl) (.loopHere rfl)
    have hnz' : σ'.rd c ≠ 0#w := hc ▸ hnz
    obtain ⟨ob, hexb, σm', rfl, hagm⟩ := agree_exec hb Kd σ' hag
      (hne.next (.loopIn hnz) (.loopIn hnz'))
    exact .loopIter hnz' hexb (ihl _ (σm'.mov sh) (AgreeAbs.mov hagm sh)
      (hne.step (fun _ hk => hk.1) (fun _ hk he => .loopIter hnz hk.2.1 (exposes_once_irrel he))
        (fun _ hk he => .loopIter hnz' hk.2.2 (exposes_once_irrel he))))
  | @loopIn c sh body once rest σ hnz _ ihb =>
    intro Kd σ' hag hne
    obtain ⟨hp, hc⟩ := hag.head hne (.loopHere rfl) (.loopHere rfl)
    have hnz' : σ'.rd c ≠ 0#w := hc ▸ hnz
    exact .loopIn hnz' (ihb Kd σ' hag (hne.next (.loopIn hnz) (.loopIn hnz')))
  | @ifSkip c sh body rest σ hz _ ih =>
    intro Kd σ' hag hne
    obtain ⟨hp, hc⟩ := hag.head hne (.ifHere rfl) (.ifHere rfl)
    have hz' : σ'.rd c = 0#w := hc.trans hz
    exact .ifSkip hz' (ih Kd σ' hag (hne.next (.ifSkip hz) (.ifSkip hz')))
  | @ifIter c sh body rest σ σm hnz hb _ ihr =>
    intro Kd σ' hag hne
    obtain ⟨hp, hc⟩ := hag.head hne (.ifHere rfl) (.ifHere rfl)
    have hnz' : σ'.rd c ≠ 0#w := hc ▸ hnz
    obtain ⟨ob, hexb, σm', rfl, hagm⟩ := agree_exec hb Kd σ' hag
      (hne.next (.ifIn hnz) (.ifIn hnz'))
    exact .ifIter hnz' hexb (ihr _ (σm'.mov sh) (AgreeAbs.mov hagm sh)
      (hne.step (fun _ hk => hk.1) (fun _ hk => .ifIter hnz hk.2.1) (fun _ hk => .ifIter hnz' hk.2.2)))
  | @ifIn c sh body rest σ hnz _ ihb =>
    intro Kd σ' hag hne
    obtain ⟨hp, hc⟩ := hag.head hne (.ifHere rfl) (.ifHere rfl)
    have hnz' : σ'.rd c ≠ 0#w := hc ▸ hnz
    exact .ifIn hnz' (ihb Kd σ' hag (hne.next (.ifIn hnz) (.ifIn hnz')))

theorem bad_of_unexposed {l : List (Instr w)} {σ2 : State w} (h : Bad l σ2) :
    ∀ (Kd : Int → Prop) (σ1 : State w), AgreeAbs Kd σ1 σ2 → (∀ a, Kd a → ¬ Exposes a l σ1) → Bad l σ1 :=
  fun Kd σ1 hag hne => bad_agree h Kd σ1 hag.symm (fun a hk => .inr (hne a hk))

/-- the converse of `bad_of_unexposed` -/
theorem bad_of_unexposed' {l : List (Instr w)} {σ1 : State w} (h : Bad l σ1) :
    ∀ (Kd : Int → Prop) (σ2 : State w), AgreeAbs Kd σ1 σ2 → (∀ a, Kd a → ¬ Exposes a l σ1) → Bad l σ2 :=
  fun Kd σ2 hag hne => bad_agree h Kd σ2 hag (fun a hk => .inl (hne a hk))

theorem thru_agree {b : Int} {l : List (Instr w)} {σ x : State w} (h : Thru b l σ x) :
    ∀ (Kd : Int → Prop) (σ' : State w), AgreeAbs Kd σ σ' → Unexposed Kd l σ σ' →
      ∃ y, Thru b l σ' y ∧ EndRel Kd l σ σ' x y := by
  induction h with
  | nil σ =>
    intro Kd σ' hag _
    exact ⟨σ', .nil _, hag.mono (fun a ha => ⟨ha, .nil _, .nil _⟩)⟩
  | @outOk src rest σ σ1 x ho hb _ ih =>
    intro Kd σ' hag hne
    have hpt : σ'.ptr = σ.ptr := hag.1.symm
    have hp : ¬ Kd (σ.ptr + src) := hne.not_here (.outHere rfl) (.outHere (by rw [hpt]))
    obtain ⟨σ1', ho', hag1⟩ := hag.output_fwd hp ho
    obtain ⟨y, hy, hxy⟩ := ih Kd σ1' hag1
      (hne.next (.outNext ho) (.outNext ho'))
    refine ⟨y, .outOk ho' (hpt ▸ hb) hy, hxy.mono (fun a hk => ⟨hk.1, ?_, ?_⟩)⟩
    · exact .outOk ho (fun e => hp (e ▸ hk.1)) hk.2.1
    · exact .outOk ho' (fun e => hp (hpt ▸ e ▸ hk.1)) hk.2.2
  | @inOk dst rest σ σ1 x ho hb _ ih =>
    intro Kd σ' hag hne
    have hpt : σ'.ptr = σ.ptr := hag.1.symm
    obtain ⟨σ1', ho', hag1⟩ := hag.input_fwd ho
    obtain ⟨y, hy, hxy⟩ := ih _ σ1' hag1
      (hne.step (fun _ hk => hk.1) (fun _ hk => .inNext ho (fun e => hk.2 rfl e.symm))
        (fun _ hk => .inNext ho' (fun e => hk.2 rfl (hpt ▸ e.symm))))
    refine ⟨y, .inOk ho' (hpt ▸ hb) hy, hxy.mono (fun a hk => ⟨hk.1.1, ?_, ?_⟩)⟩
    · exact .inOk ho (fun e => hk.1.2 rfl e.symm) hk.2.1
    · exact .inOk ho' (fun e => hk.1.2 rfl (hpt ▸ e.symm)) hk.2.2
  | @«calc» g rest σ x hw hrb _ ih =>
    intro Kd σ' hag hne
    have hpt : σ'.ptr = σ.ptr := hag.1.symm
    have hr := hag.calc_reads hne
    obtain ⟨y, hy, hxy⟩ := ih _ _ (hag.doCalc g hr)
      (hne.step (fun _ hk => hk.1) (fun _ hk => .calcNext hk.2) (fun _ hk => .calcNext (hpt ▸ hk.2)))
    refine ⟨y, .calc (hpt ▸ hw) (hpt ▸ hrb) hy, hxy.mono (fun a hk => ⟨hk.1.1, ?_, ?_⟩)⟩
    · exact .calc hk.1.2 (fun ve hve v hv e => hr ve hve v hv (e ▸ hk.1.1)) hk.2.1
    · exact .calc (hpt ▸ hk.1.2) (fun ve hve v hv e => hr ve hve v hv (hpt ▸ e ▸ hk.1.1)) hk.2.2
  | @loopSkip c sh body once rest σ x hz hb _ ih =>
    intro Kd σ' hag hne
    have hpt : σ'.ptr = σ.ptr := hag.1.symm
    obtain ⟨hp, hc⟩ := hag.head hne (.loopHere rfl) (.loopHere rfl)
    have hz' : σ'.rd c = 0#w := hc.trans hz
    obtain ⟨y, hy, hxy⟩ := ih Kd σ' hag
      (hne.next (.loopSkip hz) (.loopSkip hz'))
    refine ⟨y, .loopSkip hz' (hpt ▸ hb) hy, hxy.mono (fun a hk => ⟨hk.1, ?_, ?_⟩)⟩
    · exact .loopSkip hz (fun e => hp (e ▸ hk.1)) hk.2.1
    · exact .loopSkip hz' (fun e => hp (hpt ▸ e ▸ hk.1)) hk.2.2
  | @loopIter c sh body once rest σ σm x hnz hb _ _ ihb ihl =>
    intro Kd σ' hag hne
    have hpt : σ'.ptr = σ.ptr := hag.1.symm
    obtain ⟨hp, hc⟩ := hag.head hne (.loopHere rfl) (.loopHere rfl)
    have hnz' : σ'.rd c ≠ 0#w := hc ▸ hnz
    obtain ⟨ym, hym, hagm⟩ := ihb Kd σ' hag
      (hne.next (.loopIn hnz) (.loopIn hnz'))
    obtain ⟨y, hy, hxy⟩ := ihl _ (ym.mov sh) (AgreeAbs.mov hagm sh)
      (hne.step (fun _ hk => hk.1) (fun _ hk => .loopIter hnz hk.2.1) (fun _ hk => .loopIter hnz' hk.2.2))
    refine ⟨y, .loopIter hnz' (hpt ▸ hb) hym hy, hxy.mono (fun a hk => ⟨hk.1.1, ?_, ?_⟩)⟩
    · exact .loopIter hnz (fun e => hp (e ▸ hk.1.1)) hk.1.2.1 hk.2.1
    · exact .loopIter hnz' (fun e => hp (hpt ▸ e ▸ hk.1.1)) hk.1.2.2 hk.2.2
  | @ifSkip c sh body rest σ x hz hb _ ih =>
    intro Kd σ' hag hne
    have hpt : σ'.ptr = σ.ptr := hag.1.symm
    obtain ⟨hp, hc⟩ := hag.head hne (.ifHere rfl) (.ifHere rfl)
    have hz' : σ'.rd c = 0#w := hc.trans hz
    obtain ⟨y, hy, hxy⟩ := ih Kd σ' hag
      (hne.next (.ifSkip hz) (.ifSkip hz'))
    refine ⟨y, .ifSkip hz' (hpt ▸ hb) hy, hxy.mono (fun a hk => ⟨hk.1, ?_, ?_⟩)⟩
    · exact .ifSkip hz (fun e => hp (e ▸ hk.1)) hk.2.1
    · exact .ifSkip hz' (fun e => hp (hpt ▸ e ▸ hk.1)) hk.2.2
  | @ifIter c sh body rest σ σm x hnz hb _ _ ihb ihr =>
    intro Kd σ' hag hne
    have hpt : σ'.ptr = σ.ptr := hag.1.symm
    obtain ⟨hp, hc⟩ := hag.head hne (.ifHere rfl) (.ifHere rfl)
    have hnz' : σ'.rd c ≠ 0#w := hc ▸ hnz
    obtain ⟨ym, hym, hagm⟩ := ihb Kd σ' hag
      (hne.next (.ifIn hnz) (.ifIn hnz'))
    obtain ⟨y, hy, hxy⟩ := ihr _ (ym.mov sh) (AgreeAbs.mov hagm sh)
      (hne.step (fun _ hk => hk.1) (fun _ hk => .ifIter hnz hk.2.1) (fun _ hk => .ifIter hnz' hk.2.2))
    refine ⟨y, .ifIter hnz' (hpt ▸ hb) hym hy, hxy.mono (fun a hk => ⟨hk.1.1, ?_, ?_⟩)⟩
    · exact .ifIter hnz (fun e => hp (e ▸ hk.1.1)) hk.1.2.1 hk.2.1
    · exact .ifIter hnz' (fun e => hp (hpt ▸ e ▸ hk.1.1)) hk.1.2.2 hk.2.2

theorem exposes_agree {b : Int} {l : List (Instr w)} {σ : State w} (h : Exposes b l σ) :
    ∀ (Kd : Int → Prop) (σ' : State w), AgreeAbs Kd σ σ' → Unexposed Kd l σ σ' → Exposes b l σ' := by
  induction h with
  | @outHere src rest σ hp =>
    intro Kd σ' hag _
    exact .outHere (by rw [← hag.1]; exact hp)
  | @outNext src rest σ σ1 ho _ ih =>
    intro Kd σ' hag hne
    have hp : ¬ Kd (σ.ptr + src) := hne.not_here (.outHere rfl) (.outHere (by rw [hag.1]))
    obtain ⟨σ1', ho', hag1⟩ := hag.output_fwd hp ho
    exact .outNext ho' (ih Kd σ1' hag1 (hne.next (.outNext ho) (.outNext ho')))
  | @inNext dst rest σ σ1 ho hb _ ih =>
    intro Kd σ' hag hne
    have hpt : σ'.ptr = σ.ptr := hag.1.symm
    obtain ⟨σ1', ho', hag1⟩ := hag.input_fwd ho
    exact .inNext ho' (hpt ▸ hb) (ih _ σ1' hag1
      (hne.step (fun _ hk => hk.1) (fun _ hk => .inNext ho (fun e => hk.2 rfl e.symm))
        (fun _ hk => .inNext ho' (fun e => hk.2 rfl (hpt ▸ e.symm)))))
  | @calcHere g rest σ hr =>
    intro Kd σ' hag _
    exact .calcHere (by rw [← hag.1]; exact hr)
  | @calcNext g rest σ hw _ ih =>
    intro Kd σ' hag hne
    have hpt : σ'.ptr = σ.ptr := hag.1.symm
    have hr := hag.calc_reads hne
    exact .calcNext (hpt ▸ hw) (ih _ _ (hag.doCalc g hr)
      (hne.step (fun _ hk => hk.1) (fun _ hk => .calcNext hk.2) (fun _ hk => .calcNext (hpt ▸ hk.2))))
  | @loopHere c sh body once rest σ hp =>
    intro Kd σ' hag _
    exact .loopHere (by rw [← hag.1]; exact hp)
  | @loopSkip c sh body once rest σ hz _ ih =>
    intro Kd σ' hag hne
    obtain ⟨hp, hc⟩ := hag.head hne (.loopHere rfl) (.loopHere rfl)
    have hz' : σ'.rd c = 0#w := hc.trans hz
    exact .loopSkip hz' (ih Kd σ' hag (hne.next (.loopSkip hz) (.loopSkip hz')))
  | @loopIn c sh body once rest σ hnz _ ihb =>
    intro Kd σ' hag hne
    obtain ⟨hp, hc⟩ := hag.head hne (.loopHere rfl) (.loopHere rfl)
    have hnz' : σ'.rd c ≠ 0#w := hc ▸ hnz
    exact .loopIn hnz' (ihb Kd σ' hag (hne.next (.loopIn hnz) (.loopIn hnz')))
  | @loopIter c sh body once rest σ σm hnz ht _ ihl =>
    intro Kd σ' hag hne
    obtain ⟨hp, hc⟩ := hag.head hne (.loopHere rfl) (.loopHere rfl)
    have hnz' : σ'.rd c ≠ 0#w := hc ▸ hnz
    obtain ⟨ym, hym, hagm⟩ := thru_agree ht Kd σ' hag
      (hne.next (.loopIn hnz) (.loopIn hnz'))
    exact .loopIter hnz' hym (ihl _ (ym.mov sh) (AgreeAbs.mov hagm sh)
      (hne.step (fun _ hk => hk.1) (fun _ hk => .loopIter hnz hk.2.1) (fun _ hk => .loopIter hnz' hk.2.2)))
  | @ifHere c sh body rest σ hp =>
    intro Kd σ' hag _
    exact .ifHere (by rw [← hag.1]; exact hp)
  | @ifSkip c sh body rest σ hz _ ih =>
    intro Kd σ' hag hne
    obtain ⟨hp, hc⟩ := hag.head hne (.ifHere rfl) (.ifHere rfl)
    have hz' : σ'.rd c = 0#w := hc.trans hz
    exact .ifSkip hz' (ih Kd σ' hag (hne.next (.ifSkip hz) (.ifSkip hz')))
  | @ifIn c sh body rest σ hnz _ ihb =>
    intro Kd σ' hag hne
    obtain ⟨hp, hc⟩ := hag.head hne (.ifHere rfl) (.ifHere rfl)
    have hnz' : σ'.rd c ≠ 0#w := hc ▸ hnz
    exact .ifIn hnz' (ihb Kd σ' hag (hne.next (.ifIn hnz) (.ifIn hnz')))
  | @ifIter c sh body rest σ σm hnz ht _ ihr =>
    intro Kd σ' hag hne
    obtain ⟨hp, hc⟩ := hag.head hne (.ifHere rfl) (.ifHere rfl)
    have hnz' : σ'.rd c ≠ 0#w := hc ▸ hnz
    obtain ⟨ym, hym, hagm⟩ := thru_agree ht Kd σ' hag
      (hne.next (.ifIn hnz) (.ifIn hnz'))
    exact .ifIter hnz' hym (ihr _ (ym.mov sh) (AgreeAbs.mov hagm sh)
      (hne.step (fun _ hk => hk.1) (fun _ hk => .ifIter hnz hk.2.1) (fun _ hk => .ifIter hnz' hk.2.2)))

/-- The hypothesis of `sim_of_unexposed` is symmetric: the run from `σ2` does not expose `Kd` either. -/
theorem not_exposes_right {l : List (Instr w)} {σ1 σ2 : State w} {Kd : Int → Prop}
    (hag : AgreeAbs Kd σ1 σ2) (hne : ∀ a, Kd a → ¬ Exposes a l σ1) : ∀ a, Kd a → ¬ Exposes a l σ2 :=
  fun a hk he => hne a hk (exposes_agree he Kd σ1 hag.symm (fun a hk => .inr (hne a hk)))

/-- The mirrored end states are run through for the same addresses. -/
theorem thru_iff_of_unexposed {l : List (Instr w)} {σ1 σ2 x y : State w} {Kd : Int → Prop}
    (hag : AgreeAbs Kd σ1 σ2) (hne : ∀ a, Kd a → ¬ Exposes a l σ1)
    (hx : Exec l σ1 (.fin x)) (hy : Exec l σ2 (.fin y)) (b : Int) : Thru b l σ1 x ↔ Thru b l σ2 y := by
  constructor
  · intro h
    obtain ⟨y', hy', _⟩ := thru_agree h Kd σ2 hag (fun a hk => .inl (hne a hk))
    cases exec_fin_det (thru_exec hy') hy
    exact hy'
  · intro h
    obtain ⟨x', hx', _⟩ := thru_agree h Kd σ1 hag.symm (fun a hk => .inr (hne a hk))
    cases exec_fin_det (thru_exec hx') hx
    exact hx'

/-- `sim_of_unexposed` with the `Thru` clause in the end relation. -/
theorem sim_of_unexposed_thru (l : List (Instr w)) (σ1 σ2 : State w) (Kd : Int → Prop)
    (hag : AgreeAbs Kd σ1 σ2) (hne : ∀ a, Kd a → ¬ Exposes a l σ1) :
    Sim (fun x y => AgreeAbs (fun a => Kd a ∧ Thru a l σ1 x) x y ∧
        ∀ a, Kd a → (Thru a l σ1 x ↔ Thru a l σ2 y)) l l σ1 σ2 := by
  have hs := sim_of_unexposed l σ1 σ2 Kd hag hne
  refine ⟨?_, hs.stopL, hs.partL, ?_, hs.stopR, hs.partR⟩
  · intro x hx
    obtain ⟨y, hy, hq⟩ := hs.finL x hx
    exact ⟨y, hy, hq, fun a _ => thru_iff_of_unexposed hag hne hx hy a⟩
  · intro y hy
    obtain ⟨x, hx, hq⟩ := hs.finR y hy
    exact ⟨x, hx, hq, fun a _ => thru_iff_of_unexposed hag hne hx hy a⟩

#print axioms agree_exec
#print axioms sim_of_unexposed
#print axioms bad_of_unexposed
#print axioms bad_of_unexposed'
#print axioms thru_iff_of_unexposed
#print axioms exposes_agree
#print axioms not_exposes_right
#print axioms sim_of_unexposed_thru

end OptProof
end Hpbf
