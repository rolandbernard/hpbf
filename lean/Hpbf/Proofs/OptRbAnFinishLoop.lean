/-
`finishLoop`, everything at once (`finishLoop_all_g`): the block is simulated by the code `finishLoop` appends, with
its footprint, and the nodes it records are sound for that code.  Over the three cases of `finishLoop_prep_g` (never
entered / the child moves the pointer / balanced child with loop motion) and `finishEnd_all`.  In the
last case the child of the transformed loop has the same code and nodes as the real child, and its mirror states are
mirror states of the real child (through the real partner).
-/
import Hpbf.Proofs.OptRbAnLoop4
import Hpbf.Proofs.OptRbFinishLoop

namespace Hpbf
namespace OptProof
open Opt OptSem Ir

variable {w : Nat}

section FinishLoop
variable {G Gc : State w → Prop} {shP shC shS cS : Int} {bodyS : List (Instr w)} {isLoop oS : Bool}
  {s : Rebuild w} {ps : List (Rebuild w)} {sub0 sub : Rebuild w} {cond : Int} {os os' : Orders} {s' : Rebuild w}

theorem finishLoop_all_g (hw : 0 < w)
    (hr : (finishLoop s ps sub cond isLoop).run os = .ok (s', os'))
    (hwf : Wf s) (hcs : CanonSt s) (hsf : sub.subShift = false → AskStable s sub.shift)
    (hcond : cond = cS + shP)
    (hsh : shC + shS = (sub.shift - s.shift) + shP)
    (hall : StepAll Gc shP shC (s :: ps) sub0 sub bodyS sub.insts)
    (hi0 : sub0.insts = []) (hw0 : sub0.written = []) (hp0 : sub0.pending = [])
    (hentry : EntryAt Gc shP cS (s :: ps) sub0)
    (hGcH : HeadsIn G Gc shP s ps cS shS bodyS (isLoop = false))
    (hcsub : CanonSt sub) (hkvs : KnownVars sub) (hreads : OptLoop.SAsc sub.reads)
    (hch : RdSt sub)
    (hpv : PVClean sub (s :: ps)) (hcf : sub.cond = some cond)
    (hA : ChildAn (ValidG Gc shP sub0 (s :: ps)) sub0 sub) :
    Wf s' ∧ s'.anal = s.anal ∧ s'.cond = s.cond ∧
    ∃ shE new, (s'.noReturn = false → shE = shP + (s'.shift - s.shift)) ∧ s'.insts = s.insts ++ new ∧
      StepNG G shP shE ps s s' [blockInstr isLoop cS shS bodyS oS] new ∧
      FootAll (ValidG G shP s ps) s s' new ∧ AStep (ValidG G shP s ps) s s' new := by
  rcases finishLoop_prep_g (G := G) hw hr hwf hcs hsf hcond hsh hall hi0 hw0 hp0 hentry hGcH hcsub hkvs hreads
      hch hpv hcf oS with
    ⟨hz, rfl⟩ | ⟨h2, hE⟩ |
    ⟨hns, hse, C, sub1, B, D, A, os2, sub', os3, md, hwf1, hsame1, hpend1, h5, hss', h6, hAt, hE⟩
  · -- never entered
    refine ⟨hwf, rfl, rfl, shP, [], fun _ => by omega, by simp, ⟨fun h => h, ?_⟩, ?_, AStep.refl _ _⟩
    · intro M0 σE σS hrel hG
      refine ⟨Sim.src_block_skip (hz M0 σE σS hrel hG) ⟨M0, hrel, fun _ => ⟨rfl, rfl⟩⟩
        hrel.tr.symm, fun hb => by cases hb⟩
    · have := StepAll.refl G shP ps hwf
      exact ⟨this.foot, this.bad, this.frame, this.mono, this.keys⟩
  · -- the child moves the pointer: no loop motion
    have hV : ∀ σ, ValidG G shP s ps σ → ValidG (fun σ => G σ ∧ ∃ M0 σE, RelAt shP s ps M0 σE σ) shP s ps σ := by
      rintro σ ⟨M0, σS, hrel, hG⟩
      exact ⟨M0, σS, hrel, hG, M0, σ, hrel⟩
    obtain ⟨w1, w2, w3, shE, new, hEs, hi, hst, hfootF, haF⟩ := finishEnd_all h2 hE hA.forgetParent
    refine ⟨w1, w2, w3, shE, new, hEs, hi, ⟨hst.1, ?_⟩, hfootF.weaken hV, haF.weaken hV⟩
    intro M0 σE σS hrel hG
    obtain ⟨hs, hb⟩ := hst.2 M0 σE σS hrel ⟨hG, M0, σE, hrel⟩
    refine ⟨((endSrc_nil_sim isLoop cS shS bodyS oS _ σS).trans hs).mono ?_, hb⟩
    rintro a b ⟨y, rfl, hq⟩
    exact hq
  · -- balanced child: loop motion
    have hV : ∀ σ, ValidG G shP s ps σ →
        ValidG (fun σ0 => ∃ σS M0 σE, RelAt shP s ps M0 σE σS ∧ G σS ∧ σ0 = σS.mov (-shP)) 0 s ps σ := by
      rintro σ ⟨M0, σS, hrel, hG⟩
      exact ⟨M0, σS.mov (-shP), relAt_unshift_coord hrel, σS, M0, σ, hrel, hG, rfl⟩
    obtain ⟨_, _, hsame', _⟩ := performAll_spec_c hwf1 hpend1 h5
    have hsa' : sub'.subAnal = sub.subAnal := hsame'.subAnal.trans hsame1.subAnal
    have hrd' : sub'.reads = sub.reads := hsame'.reads.trans hsame1.reads
    have hin' : sub'.insts = sub.insts := hsame'.insts.trans hsame1.insts
    obtain ⟨newA, hnA, hshA, hanA⟩ := hA.an.ext
    rw [hA.sa0, List.nil_append] at hnA
    have hcA₂ : AStep (ValidG (PartnerG Gc shP cS (sIns (possibleReads sub) (cS + shP))) 0
        (freshChildU sub0.shift (cS + shP)) []) (freshChildU sub0.shift (cS + shP)) (forgetParent sub')
        sub'.insts := by
      refine ⟨newA, ?_, by rw [hin']; exact hshA, ?_⟩
      · show sub'.subAnal = [] ++ newA
        rw [hsa', hnA]; rfl
      · rw [hin']
        refine analInL_mono ?_ hanA
        rintro σ3 ⟨σ1', K, ⟨M0, τ, hrelU, hpart⟩, hK, hKs, hag⟩
        obtain ⟨hst, _⟩ := relAt_freshU hrelU
        obtain ⟨σ, hg, hne, hagP, hrelP, _⟩ := partner_ctx hall hw0 hentry hpart
        have hm0 : MirV (ValidG Gc shP sub0 (s :: ps)) sub0 sub (σ.mov (-shP)) :=
          MirV.self ⟨_, σ, hrelP, hg⟩
        have hm1 := MirV.of_agree hw0 hm0 hagP
          (fun v hv hr => hv (List.contains_iff_mem.1 (OptLoop.reads_possibleReads sub (cS + shP) v hr)))
          (fun h => by rw [hns] at h; cases h)
        have hm2 := MirV.of_agree hw0 hm1 (AgreeOff.of_stEq (K := fun _ => False) hst)
          (fun _ h => h.elim) (fun _ _ h => h)
        have hagK : AgreeOff K σ1' σ3 := by
          have : Rest K (freshChildU sub0.shift (cS + shP) : Rebuild w) = K := rest_eq_of_written_nil rfl
          rw [this] at hag; exact hag
        exact MirV.of_agree hw0 hm2 hagK (fun v hv => by rw [← hrd']; exact hK v hv)
          (fun h => by rw [hns] at h; cases h)
    have hshs' : ShapeSt sub' := hA.shape.of_same hin' hsa' (hss'.trans hns.symm)
    -- `finishLoop_prep_g` hands over `Wf` and `SameButPend` only; `Child` (what `ChildAn` asks for) follows the
    -- loop-motion fold from `hA.child`, by the fold's invariant `MotionInv`
    have hchild' : Child sub' := by
      have hinv : MotionInv (sub1, B, D, A) := by
        refine foldlM_inv (fun acc _ => MotionInv acc) _ (pendingSorted sub sub) ?_
          (b := (sub, [], [], [])) (os := os) ?_ md.hfold
        · intro acc x os acc' os' _ hi hstep
          exact motionStepM_canon (fun v l h => linearAmong_canon_get hA.child.canon _ _ h)
            (analyzeLoop_canon s ps sub cond isLoop) hi hstep
        · exact ⟨hA.child, canonCalcs_nil, canonCalcs_nil, canonCalcs_nil⟩
      obtain ⟨hch, _, hD, _⟩ := hinv
      exact hch.step (performAll_canon h5 hch.wf hch.canon hD)
    obtain ⟨w1, w2, w3, shE, new, hEs, hi, hst, hfootF, haF⟩ :=
      finishEnd_all h6 hE ⟨hcA₂, rfl, hshs'.forgetParent, hchild'.forgetParent⟩
    refine ⟨w1, w2, w3, shE + shP, new, fun hn => by rw [hEs hn]; omega, hi, ⟨hst.1, ?_⟩, hfootF.weaken hV,
      haF.weaken hV⟩
    intro M0 σE σS hrel hG
    have hrel0 : RelAt 0 s ps M0 σE (σS.mov (-shP)) := relAt_unshift_coord hrel
    obtain ⟨hs, hb⟩ := hst.2 M0 σE _ hrel0 ⟨σS, M0, σE, hrel, hG, rfl⟩
    refine ⟨(((hAt M0 σE σS hrel hG).sim hw).trans hs).mono ?_, hb⟩
    rintro a b ⟨y, ⟨q1, q2, q3, q4, _, _⟩, M0', hr', hk'⟩
    refine ⟨M0', ⟨q1.trans hr'.tr, q2.trans hr'.env, by rw [q3, hr'.ptr]; omega, hr'.nr, ?_⟩, hk'⟩
    have hmem : memS b a = memS b y := by
      funext v
      show a.tape.get (b.ptr + v) = y.tape.get (b.ptr + v)
      have := congrFun q4 (b.ptr + v - y.ptr)
      have e1 : memE (a.mov (-shP)) (b.ptr + v - y.ptr) = a.tape.get (b.ptr + v) := by
        show a.tape.get (a.ptr + -shP + (b.ptr + v - y.ptr)) = _
        congr 1; omega
      have e2 : memE y (b.ptr + v - y.ptr) = y.tape.get (b.ptr + v) := by
        show y.tape.get (y.ptr + (b.ptr + v - y.ptr)) = _
        congr 1; omega
      rw [← e1, ← e2]; exact this
    rw [hmem]; exact hr'.inv

end FinishLoop

end OptProof
end Hpbf

#print axioms Hpbf.OptProof.finishLoop_all_g
