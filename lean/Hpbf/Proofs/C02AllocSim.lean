/-
C02 (`allocate_temps`): the simulation relation between a run of the input program (virtual temporaries) and a run
of the output program (physical temporaries, forwarded operands, moved computations), and its preservation by one
instruction that falls through (`relV_succ`).
-/
import Hpbf.Proofs.C02AllocTrace
set_option linter.unusedSimpArgs false

namespace Hpbf
namespace C02
namespace Alloc

open Bc BcWf BcGen C11

variable {w : Nat} {s : St w}

/-- `t` is the destination of a computation that has been moved and not yet executed. -/
def PendDst (s : St w) (k : Nat) (a : ASt w) (t : Nat) : Prop :=
  ∃ f op m s0 s1, Fused s k a f op m t s0 s1

/-- The value of `t` is still needed at `k`: inside the recorded range, or as operand of a moved computation. -/
def LiveAt (s : St w) (k : Nat) (a : ASt w) (t : Nat) : Prop :=
  (∃ (r : RangeInfo) (L : Nat), s.ranges[t]? = some r ∧ r.lastUse = some L ∧ k ≤ L) ∨
  (∃ f op m t' s0 s1, Fused s k a f op m t' s0 s1 ∧ (s0 = .tmp t ∨ s1 = .tmp t))

/-- The temporaries of the two runs at position `k` (`a` = state of the pass before round `k`). -/
structure RelV (s : St w) (k : Nat) (a : ASt w) (c1 c2 : Cfg w) : Prop where
  val : ∀ t l, alGet a.repl t = some l → LiveAt s k a t → ¬ PendDst s k a t → tget c1.temps t = rdVal c2 l
  pend : ∀ f op m t s0 s1, Fused s k a f op m t s0 s1 →
    tget c1.temps t = opFun op (rdVal c1 s0) (rdVal c1 s1)

theorem fused_plain (hp : AllocPre s) {k : Nat} {a : ASt w} (hI : PassInv s k a) {f : Nat} {op : BcGen.Op}
    {m : Int} {t : Nat} {s0 s1 : Loc w} (h : Fused s k a f op m t s0 s1) {x : Instr w}
    (hx : s.insts[k]? = some x) : plain x = true := by
  obtain ⟨i, hik, hc, _⟩ := fused_cand hI h
  obtain ⟨_, hreg, _⟩ := hp.fuse _ _ _ _ _ _ _ _ hc
  by_cases hkf : k = f
  · subst hkf
    rw [h.2.1] at hx; cases hx; rfl
  · exact (hreg k x hik (Nat.lt_of_le_of_ne h.1 hkf) hx).1

theorem fused_nojump (hp : AllocPre s) {k' : Nat} {a : ASt w} (hI : PassInv s k' a) {f : Nat} {op : BcGen.Op}
    {m : Int} {t : Nat} {s0 s1 : Loc w} (h : Fused s k' a f op m t s0 s1) {j : Nat} {x : Instr w} {off : Int}
    (hx : s.insts[j]? = some x) (hoff : branchOff? x = some off) (hk : (j : Int) + off = (k' : Int)) : False := by
  obtain ⟨i, hik, hc, _⟩ := fused_cand hI h
  obtain ⟨_, _, hnj⟩ := hp.fuse _ _ _ _ _ _ _ _ hc
  apply hnj j x off hx hoff
  rw [hk]
  have := h.1
  omega

theorem stepKind_fused_fwd {k : Nat} {a a' : ASt w} (K : StepKind s k a a') {f : Nat} {op : BcGen.Op} {m : Int}
    {t : Nat} {s0 s1 : Loc w} (h : Fused s k a f op m t s0 s1) (hkf : k < f) :
    Fused s (k + 1) a' f op m t s0 s1 := by
  refine fused_mono h hkf ?_
  cases K with
  | other x hx hpl hq hi hr => exact hi f (by omega)
  | fuse op' t' s0' s1' f' m' hx hPk hkf' hPf hfa hq hf hi hnone hr =>
    by_cases e : f = f'
    · subst e
      exact absurd hfa (Fused.ne_copy h)
    · exact hi f (by omega) e
  | rw cur new q hx hpl hn hq hi hd => exact hi f (by omega)

theorem stepKind_fused_back {k : Nat} {a a' : ASt w} (K : StepKind s k a a') {f : Nat} {op : BcGen.Op} {m : Int}
    {t : Nat} {s0 s1 : Loc w} (h : Fused s (k + 1) a' f op m t s0 s1) :
    Fused s k a f op m t s0 s1 ∨
    (s.insts[k]? = some (mkArith op (.tmp t) s0 s1) ∧ a.st.insts[k]? = some (mkArith op (.tmp t) s0 s1) ∧
      alGet a.repl t = none) := by
  have hk : k ≤ f := Nat.le_of_succ_le h.1
  have hne : f ≠ k := Nat.ne_of_gt h.1
  cases K with
  | other x hx hpl hq hi hr => exact Or.inl (fused_mono h hk (hi f hne).symm)
  | fuse op' t' s0' s1' f' m' hx hPk hkf' hPf hfa hq hf hi hnone hr =>
    by_cases e : f = f'
    · subst e
      have h2 := h.2.2
      rw [hf] at h2
      obtain ⟨rfl, hm, rfl, rfl⟩ := mkArith_inj (Option.some.inj h2)
      have h1 := h.2.1
      rw [hPf] at h1
      simp only [Option.some.injEq, Instr.copy.injEq, Loc.tmp.injEq] at h1
      obtain ⟨_, rfl⟩ := h1
      exact Or.inr ⟨hPk, hx, hnone⟩
    · exact Or.inl (fused_mono h hk (hi f hne e).symm)
  | rw cur new q hx hpl hn hq hi hd => exact Or.inl (fused_mono h hk (hi f hne).symm)

theorem rdVal_of_eq {c c' : Cfg w} (l : Loc w) (ht : ∀ i, l = .tmp i → tget c'.temps i = tget c.temps i)
    (hm : ∀ o, (l = .mem o ∨ l = .memZero o) → c'.st.rd o = c.st.rd o) : rdVal c' l = rdVal c l := by
  cases l with
  | tmp i => exact ht i rfl
  | mem o => exact hm o (Or.inl rfl)
  | memZero o => exact hm o (Or.inr rfl)
  | imm v => rfl

/-- `c1'`, `c2'` are the configurations after instruction `k` (`x` in the input);
the hypotheses say which temporaries and cells the two instructions may have changed. -/
theorem relV_succ (hp : AllocPre s) {k : Nat} {a a' : ASt w} (hI : PassInv s k a) (hI' : PassInv s (k + 1) a')
    (K : StepKind s k a a') {x : Instr w} (hx : s.insts[k]? = some x)
    {c1 c2 c1' c2' : Cfg w} (hR : RelV s k a c1 c2) (hst : c2.st = c1.st) (hst' : c2'.st = c1'.st)
    (hmem : ∀ m', m' ∉ memDefs x → c1'.st.rd m' = c1.st.rd m')
    (ht1 : ∀ t', t' ∉ BcWf.defs x → tget c1'.temps t' = tget c1.temps t')
    (ht2 : ∀ t' r', alGet a'.repl t' = some (.tmp r') → alGet a.repl t' = some (.tmp r') →
      tget c2'.temps r' = tget c2.temps r')
    (hnew : ∀ t' v, alGet a'.repl t' = some v → alGet a.repl t' = none → ¬ PendDst s (k + 1) a' t' →
      tget c1'.temps t' = rdVal c2' v)
    (hexec : ∀ op m t s0 s1, Fused s k a k op m t s0 s1 → tget c1.temps t = c2'.st.rd m)
    (hnewF : ∀ op t s0 s1, s.insts[k]? = some (mkArith op (.tmp t) s0 s1) → alGet a.repl t = none →
      tget c1'.temps t = opFun op (rdVal c1 s0) (rdVal c1 s1)) :
    RelV s (k + 1) a' c1' c2' := by
  have hkeep : ∀ t' (r : RangeInfo), s.ranges[t']? = some r → r.created < k →
      tget c1'.temps t' = tget c1.temps t' := by
    intro t' r hr hc
    apply ht1
    intro hd
    obtain ⟨r', g1, g2⟩ := hp.defs k x t' hx hd
    rw [hr] at g1; cases g1
    omega
  have hkeepR : ∀ t' v, alGet a.repl t' = some v → tget c1'.temps t' = tget c1.temps t' := by
    intro t' v hv
    obtain ⟨_, r, g1, g2⟩ := hI.replDom t' v hv
    exact hkeep t' r g1 g2
  -- cells read by values that stay live are not written by `x`
  have hM : ∀ t' m', alGet a'.repl t' = some (.mem m') → alGet a.repl t' = some (.mem m') →
      LiveAt s (k + 1) a' t' → ¬ PendDst s (k + 1) a' t' → ¬ PendDst s k a t' → m' ∉ memDefs x := by
    intro t' m' hv' hv hlive hnp' hnp
    rcases hlive with ⟨r, L, g1, g2, g3⟩ | ⟨f, op, m, t'', s0, s1, hf, hs⟩
    · rcases hI.fwdMem t' m' hv with ⟨f, op, s0, s1, g⟩ | ⟨r1, L1, lo, q1, q2, q3, q4⟩
      · exact absurd ⟨f, op, m', s0, s1, g⟩ hnp
      · rw [g1] at q1; cases q1
        rw [g2] at q2; cases q2
        exact no_write_of_check hp q4 q3 (by omega) hx
    · obtain ⟨i, r, L, g1, g2, g3, g4, g5, g6, g7, g8, g9, g10⟩ := hI'.fused _ _ _ _ _ _ hf
      have hsf : SrcFacts s a' i f (.tmp t') := by
        rcases hs with rfl | rfl
        · exact g9
        · exact g10
      exact no_write_of_check hp (hsf m' hv') (by omega) (by have := hf.1; omega) hx
  have hS : ∀ f op m t s0 s1, Fused s (k + 1) a' f op m t s0 s1 → ∀ l, (l = s0 ∨ l = s1) →
      rdVal c1' l = rdVal c1 l := by
    intro f op m t s0 s1 hf l hl
    obtain ⟨i, r, L, g1, g2, g3, g4, g5, g6, g7, g8, g9, g10⟩ := hI'.fused _ _ _ _ _ _ hf
    have hz := (hI'.skel f _ hf.2.2).1
    rw [noMemZero_mkArith] at hz
    have hsf : SrcFacts s a' i f l := by
      rcases hl with rfl | rfl
      · exact g9
      · exact g10
    have hlz : locNoZero l = true := by rcases hl with rfl | rfl; exact hz.2.1; exact hz.2.2
    apply rdVal_of_eq
    · intro u e; subst e
      obtain ⟨ru, gu, gc⟩ := fused_src_created hp hI' hf (u := u) (by
        rcases hl with e | e
        · exact Or.inl e.symm
        · exact Or.inr e.symm)
      exact hkeep u ru gu (by omega)
    · intro o e
      rcases e with rfl | rfl
      · exact hmem o (no_write_of_check hp hsf (by omega) (by have := hf.1; omega) hx)
      · cases hlz
  have hLive : ∀ t', LiveAt s (k + 1) a' t' → LiveAt s k a t' := by
    intro t' h
    rcases h with ⟨r, L, g1, g2, g3⟩ | ⟨f, op, m, t'', s0, s1, hf, hs⟩
    · exact Or.inl ⟨r, L, g1, g2, by omega⟩
    · rcases stepKind_fused_back K hf with h | ⟨hPk, _, _⟩
      · exact Or.inr ⟨f, op, m, t'', s0, s1, h, hs⟩
      · obtain ⟨r, L, g1, g2, _, g4⟩ := hp.uses k _ t' hPk (by
          rw [uses_mkArith]; rcases hs with rfl | rfl <;> simp [locTmp])
        exact Or.inl ⟨r, L, g1, g2, g4⟩
  constructor
  · intro t' v hv hlive hnp'
    rcases stepKind_repl hp K hv with hold | ⟨hnone, -⟩
    · by_cases hpd : PendDst s k a t'
      · obtain ⟨f, op, m, s0, s1, hf⟩ := hpd
        by_cases hfk : f = k
        · subst hfk
          obtain ⟨i, r, L, g1, g2, g3, g4, g5, g6, g7, _⟩ := hI.fused _ _ _ _ _ _ hf
          have := g7 v hold
          subst this
          show tget c1'.temps t' = c2'.st.rd m
          rw [hkeepR t' _ hold]
          exact hexec op m t' s0 s1 hf
        · exact absurd ⟨f, op, m, s0, s1, stepKind_fused_fwd K hf (Nat.lt_of_le_of_ne hf.1 (Ne.symm hfk))⟩ hnp'
      · have h0 := hR.val t' v hold (hLive t' hlive) hpd
        rw [hkeepR t' v hold, h0]
        symm
        apply rdVal_of_eq
        · intro i e; subst e; exact ht2 t' i hv hold
        · intro o e
          have hz := (hI.replDom t' v hold).1
          rcases e with rfl | rfl
          · rw [hst', hst]
            exact hmem o (hM t' o hv hold hlive hnp' hpd)
          · cases hz
    · exact hnew t' v hv hnone hnp'
  · intro f op m t s0 s1 hf
    rw [hS f op m t s0 s1 hf s0 (Or.inl rfl), hS f op m t s0 s1 hf s1 (Or.inr rfl)]
    rcases stepKind_fused_back K hf with hold | ⟨hPk, _, hnone⟩
    · have h0 := hR.pend f op m t s0 s1 hold
      obtain ⟨i, r, L, g1, g2, g3, g4, _⟩ := hI.fused _ _ _ _ _ _ hold
      rw [hkeep t r g2 (by omega), h0]
    · exact hnewF op t s0 s1 hPk hnone

end Alloc
end C02
end Hpbf
