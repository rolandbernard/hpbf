/-
The rounds of `Program::optimize`.

First: the hypothesis `C01Dse.AnalSound` of the dead-store-elimination theorem holds for the output of EVERY round whose
`once` marks are justified (`OnceOk`), in particular — unconditionally — for the output of the first round.  Hence
"first round; dead store elimination" preserves the observable behaviour, and the correctness of `Program::optimize` at
every level is reduced to ONE obligation about the later rounds (`LaterRoundsOk`, `optimize_preserves_of_laterRounds`).

Then: `Program::optimize` at EVERY level under an executable test.

A later round works on the dead-store-eliminated output `prog1` of the previous round with the analysis `anal`
that round recorded.  `PrevAnalSound env prog1 anal` is the semantic soundness of that analysis for `prog1` on the
run from `env` (`AnalInL`, Hpbf/Proofs/OptRbAnalIn.lean); it is implied by the executable test
`checkAnalIn N prog1 anal env = true` (Hpbf/Proofs/OptRbAnalCheck.lean).  Under it the round preserves the
observable behaviour and justifies its `once` marks (`laterRound_ok`, from `optimizeOnce_preserves_g` /
`optimizeOnce_onceOk_g`), so all levels are correct for every run on which the test `optimizeCheck` passes.
-/
import Hpbf.Proofs.OptRbAnalCheck
import Hpbf.Proofs.OptRbDseShape
import Hpbf.Proofs.OptRbRounds
import Hpbf.Proofs.OptRbRdAdeq

namespace Hpbf
namespace OptProof
open Opt OptSem Ir Rounds

variable {w : Nat}

theorem optimizeOnce_analSound {b : Block w} {prevAnal : OptAnalysis w} {os os' : Orders} {b' : Block w}
    {anal' : OptAnalysis w} (hr : (optimizeOnce b prevAnal).run os = .ok ((b', anal'), os'))
    (hcl : CanonL b.insts) {env : Env} (ho : C02Emit.OnceOk b' env) :
    C01Dse.AnalSound b' anal'.toDAnal env :=
  ⟨optimizeOnce_shiftFact hr, optimizeOnce_atLeastFact hr ho, optimizeOnce_atMostFact hr env,
   optimizeOnce_readsFact hr hcl (optimizeOnce_rdOk hr hcl) ho⟩

theorem round_dse_behEq {b : Block w} {prevAnal : OptAnalysis w} {os os' : Orders} {b1 b2 : Block w}
    {anal1 : OptAnalysis w} (hr : (optimizeOnce b prevAnal).run os = .ok ((b1, anal1), os'))
    (hcl : CanonL b.insts) {env : Env} (ho : C02Emit.OnceOk b1 env)
    (hd : deadStoreElimination b1 anal1 = .ok b2) : BehEq b1 b2 env :=
  behEq_of_eliminate (deadStoreElimination_ok hd) (optimizeOnce_noDupTargets hr hcl)
    (optimizeOnce_analSound hr hcl ho)

/-- The state of the loop of `optimize` after a round: `(prog, anal)` is the output of a round on a canonical
program, and the `once` marks of `prog` are justified. -/
def AfterRound (env : Env) (prog : Block w) (anal : OptAnalysis w) : Prop :=
  C02Emit.OnceOk prog env ∧
  ∃ (b : Block w) (prev : OptAnalysis w) (os os' : Orders), CanonL b.insts ∧
    (optimizeOnce b prev).run os = .ok ((prog, anal), os')

/-- The state after dead store elimination: the input of a later round. -/
def AfterDse (env : Env) (prog1 : Block w) (anal : OptAnalysis w) : Prop :=
  ∃ prog, AfterRound env prog anal ∧ deadStoreElimination prog anal = .ok prog1

/-- The ONE remaining obligation: a round that uses the analysis of the previous round, on the
dead-store-eliminated output of that round. -/
def LaterRoundsOk (w : Nat) (env : Env) : Prop :=
  ∀ (prog1 : Block w) (anal : OptAnalysis w) (prog2 : Block w) (anal2 : OptAnalysis w) (os os2 : Orders),
    AfterDse env prog1 anal → (optimizeOnce prog1 anal).run os = .ok ((prog2, anal2), os2) →
    CanonL prog1.insts ∧ BehEq prog1 prog2 env ∧ C02Emit.OnceOk prog2 env

theorem optimize_preserves_of_laterRounds (hw : 0 < w) {env : Env} (hL : LaterRoundsOk w env)
    {b b' : Block w} (hcl : CanonL b.insts) {level : Nat} {orders : Orders}
    (h : Opt.optimize b level orders = .ok b') : BehEq b b' env := by
  refine optimize_preserves_of_steps hw (P := AfterRound env) (P1 := AfterDse env) ?_ ?_ ?_ hcl h
  · intro b b1 anal1 os os1 hc hr
    exact ⟨optimizeOnce_onceOk_l1 hw hc hr env, b, _, os, os1, hc, hr⟩
  · rintro prog anal prog1 ⟨ho, b0, prev, os, os', hc, hr⟩ hd
    exact ⟨round_dse_behEq hr hc ho hd, prog, ⟨ho, b0, prev, os, os', hc, hr⟩, hd⟩
  · intro prog1 anal prog2 anal2 os os2 hp hr
    obtain ⟨hc, hb, ho⟩ := hL prog1 anal prog2 anal2 os os2 hp hr
    exact ⟨hb, ho, prog1, anal, os, os2, hc, hr⟩

def PrevAnalSound (env : Env) (prog1 : Block w) (anal : OptAnalysis w) : Prop :=
  AnalInL (fun σ => σ = State.init env) prog1.insts anal.subBlocks

theorem prevAnalSound_of_check {env : Env} {prog1 : Block w} {anal : OptAnalysis w} (N : Nat)
    (h : checkAnalIn N prog1 anal env = true) : PrevAnalSound env prog1 anal :=
  analIn_of_check N h

theorem optimizeOnce_anal_amo {b : Block w} {prevAnal : OptAnalysis w} {os os' : Orders} {b' : Block w}
    {anal' : OptAnalysis w} (hr : (optimizeOnce b prevAnal).run os = .ok ((b', anal'), os')) :
    anal'.loopAnal.atMostOnce = true := by
  obtain ⟨st, _, _, rfl⟩ := optimizeOnce_run hr
  exact atMostOnceOf_amo true

theorem laterRound_ok (hw : 0 < w) {env : Env} {prog1 : Block w} {anal : OptAnalysis w} {prog2 : Block w}
    {anal2 : OptAnalysis w} {os os2 : Orders} (hp : AfterDse env prog1 anal)
    (ha : PrevAnalSound env prog1 anal)
    (hr : (optimizeOnce prog1 anal).run os = .ok ((prog2, anal2), os2)) :
    CanonL prog1.insts ∧ BehEq prog1 prog2 env ∧ C02Emit.OnceOk prog2 env := by
  obtain ⟨prog, ⟨_, b0, prev, os0, os0', hcl0, hr0⟩, hd⟩ := hp
  obtain ⟨_, hcl1, _, hs1, _, _⟩ := round_then_dse hr0 hcl0 hd
  have hamo := optimizeOnce_anal_amo hr0
  exact ⟨hcl1, optimizeOnce_preserves_g hw hcl1 hamo hs1 ha hr, optimizeOnce_onceOk_g hw hcl1 hamo hs1 ha hr⟩

/-- The test for the rounds after the first: before each round, the analysis it uses is replayed on the program it is used
on (`checkAnalIn`).  A failing pass counts as `true`: the theorems speak about `.ok` runs only.  The same function as
`OptCheck.roundsCheck` of the model (`OptRbCheckEq`). -/
def roundsCheck (N : Nat) (env : Env) : Nat → Block w → OptAnalysis w → Orders → Bool
  | 0, _, _, _ => true
  | n + 1, prog, anal, os =>
    match deadStoreElimination prog anal with
    | .ok prog1 =>
      checkAnalIn N prog1 anal env &&
        (match (optimizeOnce prog1 anal).run os with
         | .ok ((prog2, anal2), os2) => roundsCheck N env n prog2 anal2 os2
         | .error _ => true)
    | .error _ => true

/-- The test for a whole run of `optimize`: fuel `N` for each replay of a program from `env`. -/
def optimizeCheck (N : Nat) (b : Block w) (level : Nat) (orders : Orders) (env : Env) : Bool :=
  if level = 0 then true
  else
    match (optimizeOnce b (topAnalysis [] [])).run orders with
    | .ok ((prog, anal), os1) => roundsCheck N env (min level 3 - 1) prog anal os1
    | .error _ => true

/-- Every level under the test: same observable behaviour, and (levels ≥ 1) justified `once` marks.  The invariant
of the rounds: the program so far behaves like the input, it is the output of a round with justified `once` marks,
and the test passes on the rounds and orders that are left. -/
theorem optimize_checked (hw : 0 < w) {env : Env} (N : Nat) {b b' : Block w}
    (hcl : CanonL b.insts) {level : Nat} {orders : Orders}
    (h : Opt.optimize b level orders = .ok b') (hc : optimizeCheck N b level orders env = true) :
    BehEq b b' env ∧ (level ≠ 0 → C02Emit.OnceOk b' env) := by
  rw [optimize_eq] at h
  refine (pipeline_ind (fun n p a os => BehEq b p env ∧ AfterRound env p a ∧ roundsCheck N env n p a os = true)
    h ?_ ?_).elim ?_ ?_
  · intro b1 a1 os1 hl h1
    unfold optimizeCheck at hc
    simp only [hl, if_false, h1] at hc
    exact ⟨optimizeOnce_preserves_l1 hw hcl h1 env, ⟨optimizeOnce_onceOk_l1 hw hcl h1 env, b, _, orders, os1, hcl, h1⟩,
      hc⟩
  · rintro n p a os p1 p2 a2 os2 ⟨e, ⟨ho, b0, prev, os0, os0', hcl0, hr0⟩, hc⟩ hd h3
    rw [roundsCheck, hd] at hc
    simp only [h3, Bool.and_eq_true] at hc
    obtain ⟨hcl1, e2, ho2⟩ := laterRound_ok hw ⟨p, ⟨ho, b0, prev, os0, os0', hcl0, hr0⟩, hd⟩
      (prevAnalSound_of_check N hc.1) h3
    exact ⟨(e.trans (round_dse_behEq hr0 hcl0 ho hd)).trans e2, ⟨ho2, p1, a, os, os2, hcl1, h3⟩, hc.2⟩
  · rintro ⟨h0, rfl⟩; exact ⟨BehEq.refl _ _, fun hl => absurd h0 hl⟩
  · rintro ⟨_, _, e, ho, _⟩; exact ⟨e, fun _ => ho.1⟩

theorem optimize_preserves_of_check (hw : 0 < w) {env : Env} (N : Nat) {b b' : Block w}
    (hcl : CanonL b.insts) {level : Nat} {orders : Orders}
    (h : Opt.optimize b level orders = .ok b') (hc : optimizeCheck N b level orders env = true) :
    BehEq b b' env :=
  (optimize_checked hw N hcl h hc).1

theorem optimize_onceOk_of_check (hw : 0 < w) {env : Env} (N : Nat) {b b' : Block w}
    (hcl : CanonL b.insts) {level : Nat} (hl : level ≠ 0) {orders : Orders}
    (h : Opt.optimize b level orders = .ok b') (hc : optimizeCheck N b level orders env = true) :
    C02Emit.OnceOk b' env :=
  (optimize_checked hw N hcl h hc).2 hl

end OptProof
end Hpbf

#print axioms Hpbf.OptProof.laterRound_ok
#print axioms Hpbf.OptProof.optimize_preserves_of_check
#print axioms Hpbf.OptProof.optimize_onceOk_of_check
#print axioms Hpbf.OptProof.optimizeOnce_analSound
#print axioms Hpbf.OptProof.optimize_preserves_of_laterRounds
