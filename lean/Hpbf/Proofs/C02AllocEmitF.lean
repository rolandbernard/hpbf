/-
C02 (`allocate_temps`): loop back edges.  The bookkeeping of `outer_accessed` guarantees that a value
created before a loop and read inside it has its range extended to the end of the loop (`outerLoop`); values
created before the ENCLOSING loop as well stay in the list and are extended when that loop ends.
-/
import Hpbf.Proofs.C02AllocEmitR
set_option linter.unusedSimpArgs false

namespace Hpbf
namespace C02
namespace AEmit

open Bc BcWf BcGen C11 C02Emit

variable {w : Nat}

def InOA (oa : Array Nat) (lo : Nat) (v : Nat) : Prop := ∃ idx, lo ≤ idx ∧ oa[idx]? = some v

theorem InOA.mono {oa : Array Nat} {lo lo' v : Nat} (h : InOA oa lo v) (hl : lo' ≤ lo) : InOA oa lo' v := by
  obtain ⟨idx, h1, h2⟩ := h
  exact ⟨idx, by omega, h2⟩

theorem inOA_push {oa : Array Nat} {lo v x : Nat} :
    InOA (oa.push x) lo v ↔ InOA oa lo v ∨ (lo ≤ oa.size ∧ v = x) := by
  constructor
  · rintro ⟨idx, h1, h2⟩
    rcases getElem?_push_cases h2 with ⟨_, e⟩ | ⟨e, e'⟩
    · exact Or.inl ⟨idx, h1, e⟩
    · exact Or.inr ⟨by omega, e'⟩
  · rintro (⟨idx, h1, h2⟩ | ⟨h1, rfl⟩)
    · exact ⟨idx, h1, by rw [getElem?_push_lt' _ _ (lt_of_getElem? h2)]; exact h2⟩
    · exact ⟨oa.size, h1, by simp⟩

theorem inOA_succ {oa : Array Nat} {i v x : Nat} (hx : oa[i]? = some x) :
    InOA oa i v ↔ v = x ∨ InOA oa (i + 1) v := by
  constructor
  · rintro ⟨idx, h1, h2⟩
    by_cases e : idx = i
    · subst e; rw [hx] at h2; exact Or.inl (Option.some.inj h2).symm
    · exact Or.inr ⟨idx, by omega, h2⟩
  · rintro (rfl | ⟨idx, h1, h2⟩)
    · exact ⟨i, Nat.le_refl _, hx⟩
    · exact ⟨idx, by omega, h2⟩

/-- `Vec::swap_remove(i)` as `outerLoop` models it: `setIfInBounds i last`, then `pop`. -/
theorem swapRemove_get {a : Array Nat} {i : Nat} {last : Nat} (hl : a.back? = some last) (hi : i < a.size)
    (idx : Nat) : ((a.setIfInBounds i last).pop)[idx]? =
      if idx < a.size - 1 then (if idx = i then some last else a[idx]?) else none := by
  rw [Array.getElem?_pop]
  simp only [Array.size_setIfInBounds]
  by_cases h1 : idx < a.size - 1
  · simp only [h1, if_true]
    rw [Array.getElem?_setIfInBounds]
    by_cases h2 : idx = i
    · subst h2; simp [hi]
    · have : ¬ i = idx := fun e => h2 e.symm
      simp [h2, this]
  · simp [h1]

theorem swapRemove_inOA {a : Array Nat} {i : Nat} {last : Nat} (hl : a.back? = some last) (hi : i < a.size)
    (v : Nat) : InOA ((a.setIfInBounds i last).pop) i v ↔ InOA a (i + 1) v := by
  have hlast : a[a.size - 1]? = some last := by rw [← Array.back?_eq_getElem?]; exact hl
  constructor
  · rintro ⟨idx, h1, h2⟩
    rw [swapRemove_get hl hi] at h2
    split at h2
    · rename_i hlt
      split at h2
      · rename_i e
        cases h2
        exact ⟨a.size - 1, by omega, hlast⟩
      · exact ⟨idx, by omega, h2⟩
    · cases h2
  · rintro ⟨idx, h1, h2⟩
    have hlt : idx < a.size := lt_of_getElem? h2
    by_cases e : idx = a.size - 1
    · subst e
      rw [hlast] at h2; cases h2
      refine ⟨i, Nat.le_refl _, ?_⟩
      rw [swapRemove_get hl hi]
      have : i < a.size - 1 := by omega
      simp [this]
    · refine ⟨idx, by omega, ?_⟩
      rw [swapRemove_get hl hi]
      have h3 : idx < a.size - 1 := by omega
      have h4 : ¬ idx = i := by omega
      simp [h3, h4, h2]

theorem swapRemove_prefix {a : Array Nat} {i : Nat} {last : Nat} (hl : a.back? = some last) (hi : i < a.size)
    {idx : Nat} (h : idx < i) : ((a.setIfInBounds i last).pop)[idx]? = a[idx]? := by
  rw [swapRemove_get hl hi]
  have h1 : idx < a.size - 1 := by omega
  have h2 : ¬ idx = i := by omega
  simp [h1, h2]

/-- What `outerLoop prevStart · i` does: the entries from index `i` on whose value was created at or after
`prevStart` are extended to the current position and removed; the others stay. -/
structure OLRes (ps i : Nat) (s s' : St w) : Prop where
  insts : s'.insts = s.insts
  writes : s'.writes = s.writes
  exprs : s'.exprs = s.exprs
  values : s'.values = s.values
  live : s'.live = s.live
  currentStart : s'.currentStart = s.currentStart
  pre : ∀ idx : Nat, idx < i → s'.outerAccessed[idx]? = s.outerAccessed[idx]?
  kept : ∀ v : Nat, InOA s'.outerAccessed i v →
    InOA s.outerAccessed i v ∧ ∃ r : RangeInfo, s.ranges[v]? = some r ∧ r.created < ps
  keptAll : ∀ (v : Nat) (r : RangeInfo), InOA s.outerAccessed i v → s.ranges[v]? = some r → r.created < ps →
    InOA s'.outerAccessed i v
  fwd : ∀ (t : Nat) (r : RangeInfo), s.ranges[t]? = some r → ∃ r' : RangeInfo, s'.ranges[t]? = some r' ∧
    r'.created = r.created ∧ r'.firstUse = r.firstUse ∧
    ((InOA s.outerAccessed i t ∧ ps ≤ r.created ∧ r'.lastUse = some s.insts.size) ∨ r'.lastUse = r.lastUse)
  extAll : ∀ (t : Nat) (r : RangeInfo), InOA s.outerAccessed i t → s.ranges[t]? = some r → ps ≤ r.created →
    ∃ r' : RangeInfo, s'.ranges[t]? = some r' ∧ r'.lastUse = some s.insts.size
  bwd : ∀ (t : Nat) (r' : RangeInfo), s'.ranges[t]? = some r' → ∃ r : RangeInfo, s.ranges[t]? = some r

theorem olres_stop (ps : Nat) {i : Nat} {s : St w} (h : s.outerAccessed.size ≤ i) : OLRes ps i s s := by
  have hno : ∀ v, ¬ InOA s.outerAccessed i v := by
    rintro v ⟨idx, h1, h2⟩
    have := lt_of_getElem? h2
    omega
  exact ⟨rfl, rfl, rfl, rfl, rfl, rfl, fun _ _ => rfl, fun v hv => absurd hv (hno v),
    fun v r hv _ _ => absurd hv (hno v), fun t r hr => ⟨r, hr, rfl, rfl, Or.inr rfl⟩,
    fun t r hv _ _ => absurd hv (hno t), fun t r' h => ⟨r', h⟩⟩

/-- The entries from `i` on have been read inside the current loop (so `rangeExtend` does not append them
again) and have a first use. -/
def OLPre (i : Nat) (s : St w) : Prop :=
  ∀ v, InOA s.outerAccessed i v → ∃ (r : RangeInfo) (L f : Nat), s.ranges[v]? = some r ∧ r.lastUse = some L ∧
    s.currentStart ≤ L ∧ r.firstUse = some f

/-- A second induction over `outerLoop`, not an instance of `outerLoop_keeps` (`C02EmitBase`): the result is indexed by the
position `i` in `outer_accessed`, which `swap_remove` keeps fixed while the list shrinks. -/
theorem outerLoop_res (ps : Nat) : ∀ (fuel i : Nat) {s s' : St w} {u : Unit},
    outerLoop ps fuel i s = .ok (u, s') → OLPre i s → s.currentStart ≤ s.insts.size → OLRes ps i s s' := by
  intro fuel
  induction fuel with
  | zero => intro i s s' u h; simp only [outerLoop, throw_ok] at h
  | succ fuel ih =>
    intro i s s' u h hpre hcs
    simp only [outerLoop, get_bind] at h
    split at h
    · rename_i hlt
      cases ho : s.outerAccessed[i]? with
      | none => simp only [ho, throw_ok] at h
      | some var =>
        simp only [ho] at h
        cases hr : s.ranges[var]? with
        | none => simp only [hr, throw_ok] at h
        | some r =>
          simp only [hr] at h
          split at h
          · -- the value is older than the enclosing loop: it stays
            rename_i hc
            have hpre' : OLPre (i + 1) s := fun v hv => hpre v (hv.mono (Nat.le_succ i))
            have R := ih (i + 1) h hpre' hcs
            have hsplit := fun v => inOA_succ (v := v) ho
            refine ⟨R.insts, R.writes, R.exprs, R.values, R.live, R.currentStart,
              fun idx hidx => R.pre idx (by omega), ?_, ?_, ?_, ?_, R.bwd⟩
            · intro v hv
              have hi' : s'.outerAccessed[i]? = some var := by rw [R.pre i (Nat.lt_succ_self i)]; exact ho
              rcases (inOA_succ hi').1 hv with rfl | hv'
              · exact ⟨⟨i, Nat.le_refl _, ho⟩, r, hr, hc⟩
              · obtain ⟨g1, g2⟩ := R.kept v hv'
                exact ⟨g1.mono (Nat.le_succ i), g2⟩
            · intro v rv hv hrv hcv
              have hi' : s'.outerAccessed[i]? = some var := by rw [R.pre i (Nat.lt_succ_self i)]; exact ho
              rcases (hsplit v).1 hv with rfl | hv'
              · exact ⟨i, Nat.le_refl _, hi'⟩
              · exact (R.keptAll v rv hv' hrv hcv).mono (Nat.le_succ i)
            · intro t rt hrt
              obtain ⟨r', g1, g2, g3, g4⟩ := R.fwd t rt hrt
              refine ⟨r', g1, g2, g3, ?_⟩
              rcases g4 with ⟨q1, q2, q3⟩ | q
              · exact Or.inl ⟨q1.mono (Nat.le_succ i), q2, q3⟩
              · exact Or.inr q
            · intro t rt hv hrt hct
              rcases (hsplit t).1 hv with rfl | hv'
              · rw [hr] at hrt; cases hrt; omega
              · exact R.extAll t rt hv' hrt hct
          · -- the range is extended and the entry removed
            rename_i hc
            simp only [bind_ok, modify_ok] at h
            obtain ⟨_, s2, h2, _, s3, rfl, h⟩ := h
            have E := rangeExtend_spec h2
            obtain ⟨⟨r0, hr0, hr0'⟩, hother⟩ := ext_ranges E
            rw [hr] at hr0; cases hr0
            -- `rangeExtend` does not append
            obtain ⟨rv, Lv, fv, p1, p2, p3, p4⟩ := hpre var ⟨i, Nat.le_refl _, ho⟩
            rw [hr] at p1; cases p1
            have hoa2 : s2.outerAccessed = s.outerAccessed := by
              rcases E.outer with ⟨e, _⟩ | ⟨_, r1, q1, _, q3⟩
              · exact e
              · rw [hr] at q1; cases q1
                have := q3 Lv p2
                omega
            have hb : bump r s.insts.size 0 = { r with lastUse := some s.insts.size } := by
              simp [bump, p4]
            have hback : s2.outerAccessed.back? ≠ none := by
              rw [hoa2, Array.back?_eq_getElem?]
              intro e
              have := Array.getElem?_eq_none_iff.1 e
              omega
            cases hbk : s2.outerAccessed.back? with
            | none => exact absurd hbk hback
            | some last =>
              simp only [hbk] at h
              rw [hoa2] at hbk
              have hpre3 : OLPre i ({ s2 with outerAccessed := (s2.outerAccessed.setIfInBounds i last).pop } : St w) := by
                intro v hv
                simp only at hv
                rw [hoa2, swapRemove_inOA hbk hlt] at hv
                obtain ⟨rv', Lv', fv', q1, q2, q3, q4⟩ := hpre v (hv.mono (Nat.le_succ i))
                by_cases e : v = var
                · subst e
                  rw [hr] at q1; cases q1
                  refine ⟨_, s.insts.size, fv', hr0', by rw [hb], ?_, by rw [hb]; exact q4⟩
                  show s2.currentStart ≤ _
                  rw [E.currentStart]; exact hcs
                · refine ⟨rv', Lv', fv', by show s2.ranges[v]? = _; rw [hother v e]; exact q1, q2, ?_, q4⟩
                  show s2.currentStart ≤ _
                  rw [E.currentStart]; exact q3
              have R := ih i h hpre3 (by
                show s2.currentStart ≤ s2.insts.size
                rw [E.currentStart, E.insts]; exact hcs)
              have hins2 : s2.insts.size = s.insts.size := by rw [E.insts]
              refine ⟨R.insts.trans E.insts, R.writes.trans E.writes, R.exprs.trans E.exprs,
                R.values.trans E.values, R.live.trans E.live, R.currentStart.trans E.currentStart, ?_, ?_, ?_, ?_, ?_, ?_⟩
              · intro idx hidx
                rw [R.pre idx hidx]
                simp only
                rw [hoa2]
                exact swapRemove_prefix hbk hlt hidx
              · intro v hv
                obtain ⟨g1, rv', g2, g3⟩ := R.kept v hv
                simp only at g1 g2
                rw [hoa2, swapRemove_inOA hbk hlt] at g1
                refine ⟨g1.mono (Nat.le_succ i), ?_⟩
                by_cases e : v = var
                · subst e
                  rw [hr0', hb] at g2; cases g2
                  exact ⟨r, hr, g3⟩
                · rw [hother v e] at g2
                  exact ⟨rv', g2, g3⟩
              · intro v rv' hv hrv hcv
                have hne : v ≠ var := by
                  intro e; subst e; rw [hr] at hrv; cases hrv; omega
                have hv' : InOA s.outerAccessed (i + 1) v := by
                  rcases (inOA_succ ho).1 hv with e | e
                  · exact absurd e hne
                  · exact e
                refine R.keptAll v rv' ?_ (by simp only; rw [hother v hne]; exact hrv) hcv
                simp only
                rw [hoa2, swapRemove_inOA hbk hlt]
                exact hv'
              · intro t rt hrt
                by_cases e : t = var
                · subst e
                  rw [hr] at hrt; cases hrt
                  obtain ⟨r', g1, g2, g3, g4⟩ := R.fwd t _ (by simp only; exact hr0')
                  refine ⟨r', g1, by rw [g2, hb], by rw [g3, hb], Or.inl ⟨⟨i, Nat.le_refl _, ho⟩, Nat.le_of_not_lt hc, ?_⟩⟩
                  rcases g4 with ⟨_, _, q⟩ | q
                  · rw [q]; simp only; rw [hins2]
                  · rw [q, hb]
                · obtain ⟨r', g1, g2, g3, g4⟩ := R.fwd t rt (by simp only; rw [hother t e]; exact hrt)
                  refine ⟨r', g1, g2, g3, ?_⟩
                  rcases g4 with ⟨q1, q2, q3⟩ | q
                  · simp only at q1 q3
                    rw [hoa2, swapRemove_inOA hbk hlt] at q1
                    exact Or.inl ⟨q1.mono (Nat.le_succ i), q2, by rw [q3, hins2]⟩
                  · exact Or.inr q
              · intro t rt hv hrt hct
                by_cases e : t = var
                · subst e
                  obtain ⟨r', g1, _, _, g4⟩ := R.fwd t _ (by simp only; exact hr0')
                  refine ⟨r', g1, ?_⟩
                  rcases g4 with ⟨_, _, q⟩ | q
                  · rw [q]; simp only; rw [hins2]
                  · rw [q, hb]
                · have hv' : InOA s.outerAccessed (i + 1) t := by
                    rcases (inOA_succ ho).1 hv with e' | e'
                    · exact absurd e' e
                    · exact e'
                  obtain ⟨r', g1, g2⟩ := R.extAll t rt (by
                    simp only; rw [hoa2, swapRemove_inOA hbk hlt]; exact hv')
                    (by simp only; rw [hother t e]; exact hrt) hct
                  exact ⟨r', g1, by rw [g2]; simp only; rw [hins2]⟩
              · intro t r' hr'
                obtain ⟨r2, g⟩ := R.bwd t r' hr'
                simp only at g
                by_cases e : t = var
                · subst e; exact ⟨r, hr⟩
                · rw [hother t e] at g; exact ⟨r2, g⟩
    · rename_i hlt
      simp only [pure_ok] at h
      rw [h.2]
      exact olres_stop ps (Nat.le_of_not_lt hlt)

theorem olres_rng {ps N : Nat} {sm so : St w} (R : OLRes ps N sm so) :
    ∀ (t : Nat) (r' : RangeInfo), so.ranges[t]? = some r' → ∃ r : RangeInfo, sm.ranges[t]? = some r ∧
      r'.created = r.created ∧
      ((InOA sm.outerAccessed N t ∧ ps ≤ r.created ∧ r'.lastUse = some sm.insts.size) ∨ r'.lastUse = r.lastUse) := by
  intro t r' hr'
  obtain ⟨r, hr⟩ := R.bwd t r' hr'
  obtain ⟨r'', g1, g2, _, g4⟩ := R.fwd t r hr
  rw [hr'] at g1; cases g1
  exact ⟨r, hr, g2, g4⟩

theorem olres_size {ps N : Nat} {sm so : St w} (R : OLRes ps N sm so) : so.ranges.size = sm.ranges.size := by
  apply Nat.le_antisymm
  · apply Nat.le_of_not_lt
    intro hlt
    obtain ⟨r, hr⟩ := R.bwd sm.ranges.size so.ranges[sm.ranges.size] (Array.getElem?_eq_getElem hlt)
    have := lt_of_getElem? hr
    omega
  · apply Nat.le_of_not_lt
    intro hlt
    obtain ⟨r', hr', _⟩ := R.fwd so.ranges.size sm.ranges[so.ranges.size] (Array.getElem?_eq_getElem hlt)
    have := lt_of_getElem? hr'
    omega

theorem olres_core {ps N : Nat} {sm so : St w} (R : OLRes ps N sm so) : core so = core sm := by
  unfold core
  rw [R.insts, R.values, R.exprs, olres_size R]

theorem olres_lastLt {ps N : Nat} {sm so : St w} (R : OLRes ps N sm so)
    (hl : ∀ (t : Nat) (r : RangeInfo) (L : Nat), sm.ranges[t]? = some r → r.lastUse = some L → L < sm.insts.size) :
    ∀ (t : Nat) (r : RangeInfo) (L : Nat), so.ranges[t]? = some r → r.lastUse = some L → L < sm.insts.size + 1 := by
  intro t r' L' hr' hL'
  obtain ⟨r, hr, _, g⟩ := olres_rng R t r' hr'
  rcases g with ⟨_, _, g⟩ | g
  · rw [g] at hL'; cases hL'; omega
  · rw [g] at hL'
    have := hl t r L' hr hL'; omega

theorem olres_numLe {ps N : Nat} {sm so : St w} (R : OLRes ps N sm so) (h : N ≤ sm.outerAccessed.size) :
    N ≤ so.outerAccessed.size := by
  by_cases h0 : N = 0
  · omega
  · have h1 := R.pre (N - 1) (by omega)
    have h2 : (N - 1) < sm.outerAccessed.size := by omega
    rw [Array.getElem?_eq_getElem h2] at h1
    have := lt_of_getElem? h1
    omega

/-- An enclosing loop: position of the first instruction of its body, length of `outer_accessed` on entry. -/
abbrev Frame := Nat × Nat

/-- `oaLast`: an entry of `outer_accessed` from a frame's entry length on was last used inside that loop; `complete`:
conversely every value created before a loop and used inside it is in the list from that length on (this is why
`outerLoop` finds it and extends its range to the end of the loop); `backLe`, `back`: the statement `flow` of `AllocPre`
for the back edges `brnz`, with the deferral "or created before an enclosing frame that starts at or before the target"
(such a value is extended when that frame is left). -/
structure FCore (c : List Frame) (s : St w) : Prop where
  startLe : ∀ f ∈ c, f.1 ≤ s.insts.size
  numLe : ∀ f ∈ c, f.2 ≤ s.outerAccessed.size
  oaLast : ∀ f ∈ c, ∀ v, InOA s.outerAccessed f.2 v →
    ∃ (r : RangeInfo) (L : Nat), s.ranges[v]? = some r ∧ r.lastUse = some L ∧ f.1 ≤ L
  complete : ∀ f ∈ c, ∀ (t : Nat) (r : RangeInfo) (L : Nat), s.ranges[t]? = some r → r.lastUse = some L →
    r.created < f.1 → f.1 ≤ L → InOA s.outerAccessed f.2 t
  backLe : ∀ (e : Nat) (cnd off : Int), s.insts[e]? = some (.brnz cnd off) → 0 ≤ (e : Int) + off ∧ off ≤ 0
  back : ∀ (e : Nat) (cnd off : Int) (b1 : Nat), s.insts[e]? = some (.brnz cnd off) →
    (e : Int) + off = (b1 : Int) → ∀ (t : Nat) (r : RangeInfo) (L : Nat), s.ranges[t]? = some r →
    r.lastUse = some L → r.created < b1 → b1 ≤ L → e ≤ L ∨ ∃ f ∈ c, r.created < f.1 ∧ f.1 ≤ b1

/-- `hd`: the innermost frame is the current loop (`ps` = `current_start`); `sorted`: the enclosing loops start at or
before it. -/
structure FInv (c : List Frame) (ps : Nat) (s : St w) : Prop where
  cs : s.currentStart = ps
  hd : ∃ N rest, c = (ps, N) :: rest
  sorted : ∀ f ∈ c, f.1 ≤ ps
  linv : LInv s
  lastLt : ∀ (t : Nat) (r : RangeInfo) (L : Nat), s.ranges[t]? = some r → r.lastUse = some L → L < s.insts.size
  core : FCore c s

theorem FInv.ps_le {c : List Frame} {ps : Nat} {s : St w} (h : FInv c ps s) : ps ≤ s.insts.size := by
  obtain ⟨N0, rest, hc⟩ := h.hd
  exact h.core.startLe (ps, N0) (by rw [hc]; exact List.mem_cons_self)

theorem fcore_ext {c : List Frame} {ps : Nat} {s s' : St w} {v inc : Nat} (h : FCore c s)
    (E : ExtSpec v inc s s') (hcs : s.currentStart = ps) (hso : ∀ f ∈ c, f.1 ≤ ps) : FCore c s' := by
  obtain ⟨⟨r, hr, hr'⟩, hother⟩ := ext_ranges E
  have hbL : (bump r s.insts.size inc).lastUse = some s.insts.size := rfl
  have hbC : (bump r s.insts.size inc).created = r.created := rfl
  have hoa : ∀ lo u, InOA s.outerAccessed lo u → InOA s'.outerAccessed lo u := by
    intro lo u hu
    rcases E.outer with ⟨e, _⟩ | ⟨e, _⟩
    · rw [e]; exact hu
    · rw [e]; exact inOA_push.2 (Or.inl hu)
  have hoa' : ∀ lo u, InOA s'.outerAccessed lo u → InOA s.outerAccessed lo u ∨ u = v := by
    intro lo u hu
    rcases E.outer with ⟨e, _⟩ | ⟨e, _⟩
    · rw [e] at hu; exact Or.inl hu
    · rw [e] at hu
      rcases inOA_push.1 hu with g | ⟨_, g⟩
      · exact Or.inl g
      · exact Or.inr g
  refine ⟨by rw [E.insts]; exact h.startLe, ?_, ?_, ?_, by rw [E.insts]; exact h.backLe, ?_⟩
  · intro f hf
    have := h.numLe f hf
    rcases E.outer with ⟨e, _⟩ | ⟨e, _⟩
    · rw [e]; exact this
    · rw [e]; simp; omega
  · intro f hf u hu
    by_cases e : u = v
    · subst e
      exact ⟨_, _, hr', hbL, h.startLe f hf⟩
    · rcases hoa' _ _ hu with g | g
      · obtain ⟨q, L, g1, g2, g3⟩ := h.oaLast f hf u g
        exact ⟨q, L, by rw [hother u e]; exact g1, g2, g3⟩
      · exact absurd g e
  · intro f hf t q L hq hL hc hle
    by_cases e : t = v
    · subst e
      rw [hr'] at hq; cases hq
      rcases E.outer with ⟨e1, r1, g1, g2⟩ | ⟨e1, _⟩
      · rw [e1]
        rw [hr] at g1; cases g1
        rcases g2 with g2 | ⟨L0, g2, g3⟩
        · have := hso f hf
          rw [hbC] at hc
          omega
        · exact h.complete f hf t r L0 hr g2 (by rw [hbC] at hc; exact hc) (by have := hso f hf; omega)
      · rw [e1]
        exact inOA_push.2 (Or.inr ⟨h.numLe f hf, rfl⟩)
    · rw [hother t e] at hq
      exact hoa _ _ (h.complete f hf t q L hq hL hc hle)
  · intro e cnd off b1 he hb t q L hq hL hc hle
    rw [E.insts] at he
    by_cases e' : t = v
    · subst e'
      rw [hr'] at hq; cases hq
      rw [hbL] at hL; cases hL
      exact Or.inl (Nat.le_of_lt (lt_of_getElem? he))
    · rw [hother t e'] at hq
      exact h.back e cnd off b1 he hb t q L hq hL hc hle

theorem fcore_reads {c : List Frame} {ps : Nat} : ∀ (l : List Nat) {s s' : St w}, ReadsSpec l s s' → FCore c s →
    s.currentStart = ps → (∀ f ∈ c, f.1 ≤ ps) → FCore c s'
  | [], s, s', h, hc, _, _ => by rw [h]; exact hc
  | a :: rest, s, s', ⟨s1, h1, h2⟩, hc, hcs, hso =>
    fcore_reads rest h2 (fcore_ext hc h1 hcs hso) (by rw [h1.currentStart]; exact hcs) hso

theorem fcore_frame {c : List Frame} {s s' : St w} (h : FCore c s) (e1 : s'.outerAccessed = s.outerAccessed)
    (e2 : s.insts.size ≤ s'.insts.size)
    (e3 : ∀ (e : Nat) (cnd off : Int), s'.insts[e]? = some (.brnz cnd off) → s.insts[e]? = some (.brnz cnd off))
    (e4 : ∀ (t : Nat) (r : RangeInfo) (L : Nat), s'.ranges[t]? = some r → r.lastUse = some L → s.ranges[t]? = some r)
    (e5 : ∀ (t : Nat) (r : RangeInfo), s.ranges[t]? = some r → s'.ranges[t]? = some r) : FCore c s' := by
  refine ⟨fun f hf => Nat.le_trans (h.startLe f hf) e2, by rw [e1]; exact h.numLe, ?_, ?_, ?_, ?_⟩
  · intro f hf v hv
    rw [e1] at hv
    obtain ⟨r, L, g1, g2, g3⟩ := h.oaLast f hf v hv
    exact ⟨r, L, e5 v r g1, g2, g3⟩
  · intro f hf t r L hr hL hc hle
    rw [e1]
    exact h.complete f hf t r L (e4 t r L hr hL) hL hc hle
  · intro e cnd off he
    exact h.backLe e cnd off (e3 e cnd off he)
  · intro e cnd off b1 he hb t r L hr hL hc hle
    exact h.back e cnd off b1 (e3 e cnd off he) hb t r L (e4 t r L hr hL) hL hc hle

theorem push_brnz_old {a : Array (Instr w)} {x : Instr w} (hx : ∀ cnd off, x ≠ .brnz cnd off) {e : Nat}
    {cnd off : Int} (h : (a.push x)[e]? = some (.brnz cnd off)) : a[e]? = some (.brnz cnd off) := by
  rcases getElem?_push_cases h with ⟨_, g⟩ | ⟨_, g⟩
  · exact g
  · exact absurd g.symm (hx cnd off)

theorem gvInst_ne_brnz (e : GvnExpr w) (v : Nat) (cnd off : Int) : gvInst e v ≠ .brnz cnd off := by
  cases e <;> simp [gvInst]

theorem finv_getValue {c : List Frame} {ps : Nat} {e : GvnExpr w} {s s' : St w} {v : Nat} (h : FInv c ps s)
    (hops : ∀ a ∈ opsOf e, a < s.ranges.size) (hg : getValue e s = .ok (v, s')) :
    FInv c ps s' ∧ v < s'.ranges.size := by
  obtain ⟨hl', hv⟩ := linv_getValue h.linv hops hg
  refine ⟨?_, hv⟩
  rcases getValue_spec hg with ⟨_, rfl⟩ | ⟨rfl, N⟩
  · exact h
  · obtain ⟨s2, h2, rfl⟩ := N.reads
    have hcs2 : s2.currentStart = ps := by
      rw [readsSpec_currentStart _ h2]; exact h.cs
    -- the new entry has no last use
    have hc2 : FCore c s2 := by
      refine fcore_reads _ h2 (fcore_frame h.core rfl (Nat.le_refl _) (fun _ _ _ g => g) ?_ ?_) h.cs h.sorted
      · intro t r L hr hL
        simp only at hr
        rcases getElem?_push_cases hr with ⟨_, g⟩ | ⟨_, g⟩
        · exact g
        · rw [g] at hL; cases hL
      · intro t r hr
        show (s.ranges.push _)[t]? = some r
        rw [getElem?_push_lt' _ _ (lt_of_getElem? hr)]; exact hr
    refine ⟨hcs2, h.hd, h.sorted, hl', (pushStep_getValue hops ⟨N.miss, s2, h2, rfl⟩).1.lastLt h.lastLt, ?_⟩
    · refine fcore_frame hc2 rfl (by simp only [Array.size_push]; omega) ?_ (fun _ _ _ g _ => g) (fun _ _ g => g)
      intro e' cnd off he
      exact push_brnz_old (gvInst_ne_brnz _ _) he

theorem finv_memWrite {c : List Frame} {ps : Nat} {var : Int} {x : Nat} {s s' : St w} {u : Unit} (h : FInv c ps s)
    (hx : x < s.ranges.size) (hm : memWrite var x s = .ok (u, s')) : FInv c ps s' := by
  have hl' := linv_memWrite h.linv hx hm
  obtain ⟨s1, h1, rfl⟩ := memWrite_spec hm
  have hc1 := fcore_ext h.core h1 h.cs h.sorted
  refine ⟨by show s1.currentStart = ps; rw [h1.currentStart]; exact h.cs, h.hd, h.sorted, hl',
    (pushStep_memWrite hx hm).1.lastLt h.lastLt, ?_⟩
  · refine fcore_frame hc1 rfl (by simp only [Array.size_push]; omega) ?_ (fun _ _ _ g _ => g) (fun _ _ g => g)
    intro e' cnd off he
    exact push_brnz_old (by intro cnd off; simp) he

theorem finv_append {c : List Frame} {ps : Nat} {s s' : St w} (h : FInv c ps s) {x : Instr w} (hl' : LInv s')
    (e1 : s'.insts = s.insts.push x) (e2 : s'.ranges = s.ranges) (e3 : s'.outerAccessed = s.outerAccessed)
    (e4 : s'.currentStart = s.currentStart) (hx : ∀ cnd off, x ≠ .brnz cnd off) : FInv c ps s' := by
  refine ⟨by rw [e4]; exact h.cs, h.hd, h.sorted, hl', ?_, ?_⟩
  · intro t r L hr hL
    rw [e2] at hr
    have := h.lastLt t r L hr hL
    rw [e1]; simp; omega
  · refine fcore_frame h.core e3 (by rw [e1]; simp) ?_ (fun t r L g _ => by rw [← e2]; exact g)
      (fun t r g => by rw [e2]; exact g)
    intro e cnd off he
    rw [e1] at he
    exact push_brnz_old hx he

theorem finv_values {c : List Frame} {ps : Nat} {s : St w} (h : FInv c ps s) (vs : List (GvnExpr w × Nat))
    (hsub : ∀ p ∈ vs, p ∈ s.values) : FInv c ps { s with values := vs } :=
  ⟨h.cs, h.hd, h.sorted, closed_linv.values _ _ h.linv hsub, h.lastLt,
    fcore_frame h.core rfl (Nat.le_refl _) (fun _ _ _ g => g) (fun _ _ _ g _ => g) (fun _ _ g => g)⟩

theorem lhHead_finv {c : List Frame} {ps : Nat} (isLoop : Bool) (sub : Analysis) {s : St w} (h : FInv c ps s) :
    FInv c ps (lhHead isLoop sub s) :=
  lhHead_J (fun _ vs h hs => finv_values h vs hs) isLoop sub h

theorem lhExit_finv {c : List Frame} {ps : Nat} (once : Bool) (sub : Analysis) (pe : Nat) {s : St w}
    (h : FInv c ps s) : FInv c ps (lhExit once sub pe s) :=
  lhExit_J (fun _ vs h hs => finv_values h vs hs) once sub pe h

theorem finv_patch {c : List Frame} {ps : Nat} {s : St w} (h : FInv c ps s) {i : Nat} (cnd off : Int)
    (hi : s.insts[i]? = some .noop) : FInv c ps { s with insts := s.insts.setIfInBounds i (.brz cnd off) } := by
  refine ⟨h.cs, h.hd, h.sorted, linv_patch h.linv cnd off hi, by simpa using h.lastLt, ?_⟩
  refine fcore_frame h.core rfl (by simp) ?_ (fun _ _ _ g _ => g) (fun _ _ g => g)
  intro e c' o' he
  rcases getElem?_setIfInBounds_cases he with ⟨_, e'⟩ | ⟨_, g⟩
  · cases e'
  · exact g

theorem mem_toList_of_inOA {oa : Array Nat} {lo v : Nat} (h : InOA oa lo v) : v ∈ oa.toList := by
  obtain ⟨idx, _, h2⟩ := h
  exact Array.mem_toList_iff.2 (Array.mem_of_getElem? h2)

theorem finv_enter {c : List Frame} {ps : Nat} {s : St w} (h : FInv c ps s) :
    FInv ((s.insts.size, s.outerAccessed.size) :: c) s.insts.size { s with currentStart := s.insts.size } := by
  obtain ⟨N0, rest, hc⟩ := h.hd
  have hps : ps ≤ s.insts.size := h.ps_le
  refine ⟨rfl, ⟨_, _, rfl⟩, ?_, closed_linv.start _ _ h.linv, h.lastLt, ?_⟩
  · intro f hf
    rcases List.mem_cons.1 hf with rfl | hf
    · exact Nat.le_refl _
    · exact Nat.le_trans (h.sorted f hf) hps
  · refine ⟨?_, ?_, ?_, ?_, h.core.backLe, ?_⟩
    · intro f hf
      rcases List.mem_cons.1 hf with rfl | hf
      · exact Nat.le_refl _
      · exact h.core.startLe f hf
    · intro f hf
      rcases List.mem_cons.1 hf with rfl | hf
      · exact Nat.le_refl _
      · exact h.core.numLe f hf
    · intro f hf v hv
      rcases List.mem_cons.1 hf with rfl | hf
      · obtain ⟨idx, h1, h2⟩ := hv
        have := lt_of_getElem? h2
        simp only at h1 this; omega
      · exact h.core.oaLast f hf v hv
    · intro f hf t r L hr hL hcr hle
      rcases List.mem_cons.1 hf with rfl | hf
      · have := h.lastLt t r L hr hL
        simp only at hle; omega
      · exact h.core.complete f hf t r L hr hL hcr hle
    · intro e cnd off b1 he hb t r L hr hL hcr hle
      rcases h.core.back e cnd off b1 he hb t r L hr hL hcr hle with g | ⟨f, hf, g⟩
      · exact Or.inl g
      · exact Or.inr ⟨f, List.mem_cons_of_mem _ hf, g⟩

/-- `so` is the state after `outerLoop`, then the `brnz` is appended. -/
theorem finv_leave {c : List Frame} {ps b1 N : Nat} {sm so : St w} {cond : Int}
    (hm : FInv ((b1, N) :: c) b1 sm) (hc : ∃ N1 rest, c = (ps, N1) :: rest) (hso : ∀ f ∈ c, f.1 ≤ ps)
    (hN : ∀ f ∈ c, f.2 ≤ N) (hpb : ps ≤ b1)
    (R : OLRes ps N sm so) (hl : LInv (lhBrnz cond b1 so)) :
    FInv c ps { lhBrnz cond b1 so with currentStart := ps } := by
  have C := hm.core
  have hfr : ((b1, N) : Frame) ∈ (b1, N) :: c := List.mem_cons_self
  have hsub : ∀ f ∈ c, f ∈ (b1, N) :: c := fun f hf => List.mem_cons_of_mem _ hf
  have hb1 : b1 ≤ sm.insts.size := C.startLe _ hfr
  have hNsm : N ≤ sm.outerAccessed.size := C.numLe _ hfr
  have hNso : N ≤ so.outerAccessed.size := olres_numLe R hNsm
  have hoaBack : ∀ f ∈ c, ∀ v, InOA so.outerAccessed f.2 v → InOA sm.outerAccessed f.2 v := by
    intro f hf v ⟨idx, h1, h2⟩
    by_cases hi : idx < N
    · exact ⟨idx, h1, by rw [← R.pre idx hi]; exact h2⟩
    · exact ((R.kept v ⟨idx, by omega, h2⟩).1).mono (hN f hf)
  have hoaFwd : ∀ f ∈ c, ∀ (t : Nat) (r : RangeInfo), InOA sm.outerAccessed f.2 t → sm.ranges[t]? = some r →
      r.created < ps → InOA so.outerAccessed f.2 t := by
    intro f hf t r ⟨idx, h1, h2⟩ hr hcr
    by_cases hi : idx < N
    · exact ⟨idx, h1, by rw [R.pre idx hi]; exact h2⟩
    · exact (R.keptAll t r ⟨idx, by omega, h2⟩ hr hcr).mono (hN f hf)
  have hrng := olres_rng R
  obtain ⟨N1, rest, hceq⟩ := hc
  have hhead : ((ps, N1) : Frame) ∈ c := by rw [hceq]; exact List.mem_cons_self
  have hsz : (lhBrnz cond b1 so).insts.size = sm.insts.size + 1 := by simp [lhBrnz, R.insts]
  have hget : ∀ (e : Nat) (cnd off : Int), (lhBrnz cond b1 so).insts[e]? = some (.brnz cnd off) →
      (e < sm.insts.size ∧ sm.insts[e]? = some (.brnz cnd off)) ∨
      (e = sm.insts.size ∧ off = (b1 : Int) - (sm.insts.size : Int)) := by
    intro e cnd off he
    simp only [lhBrnz] at he
    rcases getElem?_push_cases he with ⟨g1, g2⟩ | ⟨g1, g2⟩
    · rw [R.insts] at g1 g2; exact Or.inl ⟨g1, g2⟩
    · rw [R.insts] at g1
      simp only [Instr.brnz.injEq] at g2
      rw [R.insts] at g2
      exact Or.inr ⟨g1, g2.2⟩
  refine ⟨rfl, ⟨N1, rest, hceq⟩, hso, closed_linv.start _ _ hl, ?_, ?_⟩
  · intro t r' L' hr' hL'
    show L' < (lhBrnz cond b1 so).insts.size
    rw [hsz]
    obtain ⟨r, hr, _, g⟩ := hrng t r' hr'
    rcases g with ⟨_, _, g⟩ | g
    · rw [g] at hL'; cases hL'; omega
    · rw [g] at hL'
      have := hm.lastLt t r L' hr hL'; omega
  · refine ⟨?_, ?_, ?_, ?_, ?_, ?_⟩
    · intro f hf
      show f.1 ≤ (lhBrnz cond b1 so).insts.size
      rw [hsz]
      have := C.startLe f (hsub f hf); omega
    · intro f hf
      exact Nat.le_trans (hN f hf) hNso
    · intro f hf v hv
      obtain ⟨r, L, g1, g2, g3⟩ := C.oaLast f (hsub f hf) v (hoaBack f hf v hv)
      obtain ⟨r', q1, _, _, q4⟩ := R.fwd v r g1
      rcases q4 with ⟨_, _, q⟩ | q
      · exact ⟨r', sm.insts.size, q1, q, by have := C.startLe f (hsub f hf); omega⟩
      · exact ⟨r', L, q1, by rw [q]; exact g2, g3⟩
    · intro f hf t r' L' hr' hL' hcr hle
      obtain ⟨r, hr, g2, g⟩ := hrng t r' hr'
      rw [g2] at hcr
      rcases g with ⟨_, g, _⟩ | g
      · have := hso f hf; omega
      · rw [g] at hL'
        exact hoaFwd f hf t r (C.complete f (hsub f hf) t r L' hr hL' hcr hle) hr (by have := hso f hf; omega)
    · intro e cnd off he
      rcases hget e cnd off he with ⟨_, g⟩ | ⟨g1, g2⟩
      · exact C.backLe e cnd off g
      · subst g1 g2; constructor <;> omega
    · intro e cnd off b1' he hb t r' L' hr' hL' hcr hle
      replace hr' : so.ranges[t]? = some r' := hr'
      obtain ⟨r, hr, g2, g⟩ := hrng t r' hr'
      rw [g2] at hcr
      -- a value that was created before the loop and is still in the list
      have hdefer : r.created < b1 → b1 ≤ b1' → (∃ L0, r.lastUse = some L0 ∧ b1 ≤ L0) →
          e ≤ sm.insts.size → e ≤ L' ∨ ∃ f ∈ c, r'.created < f.1 ∧ f.1 ≤ b1' := by
        intro h1 h2 ⟨L0, h3, h4⟩ h5
        have hin := C.complete _ hfr t r L0 hr h3 h1 h4
        by_cases hps : ps ≤ r.created
        · obtain ⟨r'', q1, q2⟩ := R.extAll t r hin hr hps
          rw [hr'] at q1; cases q1
          rw [q2] at hL'; cases hL'
          exact Or.inl h5
        · exact Or.inr ⟨(ps, N1), hhead, by rw [g2]; simp only; omega, by simp only; omega⟩
      rcases hget e cnd off he with ⟨he1, he2⟩ | ⟨he1, he2⟩
      · rcases g with ⟨_, _, g⟩ | g
        · rw [g] at hL'; cases hL'; exact Or.inl (Nat.le_of_lt he1)
        · rw [g] at hL'
          rcases C.back e cnd off b1' he2 hb t r L' hr hL' hcr hle with q | ⟨f, hf, q1, q2⟩
          · exact Or.inl q
          · rcases List.mem_cons.1 hf with rfl | hf
            · exact hdefer q1 q2 ⟨L', hL', by simp only at q2; omega⟩ (Nat.le_of_lt he1)
            · exact Or.inr ⟨f, hf, by rw [g2]; exact q1, q2⟩
      · subst he1 he2
        have hbb : b1' = b1 := by omega
        subst hbb
        rcases g with ⟨_, _, g⟩ | g
        · rw [g] at hL'; cases hL'; exact Or.inl (Nat.le_refl _)
        · rw [g] at hL'
          exact hdefer hcr (Nat.le_refl _) ⟨L', hL', hle⟩ (Nat.le_refl _)

abbrev FJ (c : List Frame) (ps : Nat) (_a : Analysis) (_l : List (Ir.Instr w)) (s : St w) : Prop := FInv c ps s

theorem finv_calc {c : List Frame} {ps : Nat} {calcs : List (Int × Expr w)} {s s1 s' : St w}
    {vals : List (Int × Nat)} {u : Unit} (h : FInv c ps s) (hc : calcValues calcs s = .ok (vals, s1))
    (hm : memWrites vals s1 = .ok (u, s')) : FInv c ps s' := by
  obtain ⟨k1, v1, _⟩ := calcValues_pres (K := FInv c ps)
    (fun e a v a' hk ho hh => finv_getValue hk ho hh) calcs hc h
  exact memWrites_pres (K := FInv c ps) (fun var x a a' u hk hx hh => finv_memWrite hk hx hh) vals hm k1 v1

theorem finv_lhMov {c : List Frame} {ps : Nat} {sb : St w} (hb : FInv c ps sb) (shift : Int) :
    FInv c ps (lhMov shift sb) := by
  unfold lhMov
  split
  · exact hb
  · exact finv_append (x := .mov shift) hb (linv_push hb.linv rfl) rfl rfl rfl rfl (by intro cnd off; simp)

theorem finv_loop_enter {c : List Frame} {ps : Nat} {s : St w} (h : FInv c ps s) (once : Bool) (sub : Analysis) :
    FInv (((lhPro true once (lhHead true sub s)).insts.size, s.outerAccessed.size) :: c)
      (lhPro true once (lhHead true sub s)).insts.size (lhPro true once (lhHead true sub s)) ∧
    (lhPro true once (lhHead true sub s)).currentStart = (lhPro true once (lhHead true sub s)).insts.size ∧
    ps ≤ (lhPro true once (lhHead true sub s)).insts.size := by
  have h0 := lhHead_finv true sub h
  have hoa0 : (lhHead true sub s).outerAccessed = s.outerAccessed := by rw [lhHead_eq]
  have hP : ∃ sP : St w, FInv c ps sP ∧ sP.outerAccessed = s.outerAccessed ∧
      lhPro true once (lhHead true sub s) = { sP with currentStart := sP.insts.size } := by
    cases once with
    | false =>
      refine ⟨{ lhHead true sub s with insts := (lhHead true sub s).insts.push .noop }, ?_, hoa0, rfl⟩
      exact finv_append (x := .noop) h0 (linv_push h0.linv rfl) rfl rfl rfl rfl (by intro cnd off; simp)
    | true => exact ⟨lhHead true sub s, h0, hoa0, rfl⟩
  obtain ⟨sP, hsP, hoaP, hpro⟩ := hP
  have henter := finv_enter hsP
  have hoaSz : sP.outerAccessed.size = s.outerAccessed.size := by rw [hoaP]
  rw [hoaSz] at henter
  obtain ⟨N0, rest0, hc0⟩ := h.hd
  have hpb : ps ≤ sP.insts.size := hsP.ps_le
  rw [hpro]
  exact ⟨henter, rfl, hpb⟩

theorem finv_loop_exit {c : List Frame} {ps : Nat} {s sb so : St w} (h : FInv c ps s) {once : Bool}
    {sub : Analysis} {cond shift : Int} {fuel : Nat} {u2 : Unit}
    (hb : FInv (((lhPro true once (lhHead true sub s)).insts.size, s.outerAccessed.size) :: c)
      (lhPro true once (lhHead true sub s)).insts.size sb)
    (hpre : Pre (lhPro true once (lhHead true sub s)).insts sb.insts)
    (ho : outerLoop ps fuel s.outerAccessed.size (lhMov shift sb) = .ok (u2, so)) :
    FInv c ps (loopEnd once cond sub ps s (lhPro true once (lhHead true sub s)) so) ∧
    OLRes ps s.outerAccessed.size (lhMov shift sb) so ∧
    FInv (((lhPro true once (lhHead true sub s)).insts.size, s.outerAccessed.size) :: c)
      (lhPro true once (lhHead true sub s)).insts.size (lhMov shift sb) := by
  obtain ⟨_, _, hpb⟩ := finv_loop_enter h once sub
  generalize hb1 : (lhPro true once (lhHead true sub s)).insts.size = b1 at hb hpre hpb ⊢
  have hm : FInv ((b1, s.outerAccessed.size) :: c) b1 (lhMov shift sb) := finv_lhMov hb shift
  have hfr : ((b1, s.outerAccessed.size) : Frame) ∈ (b1, s.outerAccessed.size) :: c := List.mem_cons_self
  have hpreOL : OLPre s.outerAccessed.size (lhMov shift sb) := by
    intro v hv
    obtain ⟨r, L, g1, g2, g3⟩ := hm.core.oaLast _ hfr v hv
    obtain ⟨r', f, q1, q2⟩ := hm.linv.oa v (mem_toList_of_inOA hv)
    rw [g1] at q1; cases q1
    exact ⟨r, L, f, g1, g2, by rw [hm.cs]; exact g3, q2⟩
  have R := outerLoop_res ps fuel _ ho hpreOL (by rw [hm.cs]; exact hm.core.startLe _ hfr)
  have hlo := linv_outer ps fuel _ ho hm.linv
  have hlz : LInv (lhBrnz cond b1 so) := linv_push hlo rfl
  have hleave := finv_leave (cond := cond) hm h.hd h.sorted (fun f hf => h.core.numLe f hf) hpb R hlz
  refine ⟨?_, R, hm⟩
  unfold loopEnd
  refine lhExit_finv _ _ _ ?_
  rw [hb1]
  cases once with
  | true => simp only [if_true]; exact hleave
  | false =>
    simp only [Bool.false_eq_true, if_false]
    have hnoop : (lhBrnz cond b1 so).insts[b1 - 1]? = some .noop := by
      rw [← hb1]; exact placeholder_noop true _ (hpre.trans (pre_lhBrnz R.insts cond _))
    exact finv_patch hleave cond (((lhBrnz cond b1 so).insts.size : Int) - ((b1 - 1 : Nat) : Int)) hnoop

theorem finv_if_enter {c : List Frame} {ps : Nat} {s : St w} (h : FInv c ps s) : FInv c ps (lhPro false false s) := by
  unfold lhPro
  simp only [Bool.false_eq_true, if_false]
  exact finv_append (x := .noop) h (linv_push h.linv rfl) rfl rfl rfl rfl (by intro cnd off; simp)

theorem finv_if_exit {c : List Frame} {ps : Nat} {s sb : St w} {sub : Analysis} {cond shift : Int}
    (hb : FInv c ps sb) (hpre : Pre (lhPro false false s).insts sb.insts) :
    FInv c ps (ifEnd cond shift sub ps s (lhPro false false s) sb) ∧ FInv c ps (lhMov shift sb) := by
  have hm : FInv c ps (lhMov shift sb) := finv_lhMov hb shift
  refine ⟨?_, hm⟩
  unfold ifEnd
  refine lhExit_finv _ _ _ ?_
  have hnoop := placeholder_noop false s (hpre.trans (pre_lhMov shift sb))
  have hp := finv_patch hm cond
    (((lhMov shift sb).insts.size : Int) - (((lhPro false false s).insts.size - 1 : Nat) : Int)) hnoop
  have : ({ lhPatch cond (lhPro false false s).insts.size (lhMov shift sb) with currentStart := ps } : St w) =
      lhPatch cond (lhPro false false s).insts.size (lhMov shift sb) := by
    have e : (lhMov shift sb).currentStart = ps := hm.cs
    simp only [lhPatch]
    rw [← e]
  rw [this]
  exact hp

theorem closedI_finv (fuse : Bool) : ClosedI fuse (FJ (w := w)) where
  out := fun c ps a src rest s h =>
    finv_append (x := .out src) h (linv_push h.linv rfl) rfl rfl rfl rfl (by intro cnd off; simp)
  inp := fun c ps a dst rest s h =>
    finv_append (x := .inp dst) h
      (closed_linv.values _ _ (linv_inp h.linv dst) (fun p hp => mem_alErase hp)) rfl rfl rfl rfl
      (by intro cnd off; simp)
  calcR := fun c ps a calcs rest s vals s1 s' u h hc hm => finv_calc h hc hm
  scan := fun c ps a cond shift once rest s _ h => by
    have h0 := lhHead_finv true (subOf shift ([] : List (Ir.Instr w))) h
    have h1 := finv_append (x := .scan cond shift)
      (s' := { lhHead true (subOf shift ([] : List (Ir.Instr w))) s with
        insts := (lhHead true (subOf shift ([] : List (Ir.Instr w))) s).insts.push (.scan cond shift) })
      h0 (linv_push h0.linv rfl) rfl rfl rfl rfl (by intro cnd off; simp)
    exact lhExit_finv once _ _ h1
  loop := fun c ps a cond shift body once rest s _ h => by
    obtain ⟨e1, e2, _⟩ := finv_loop_enter h once (subOf shift body)
    refine ⟨_, by rw [e2]; exact e1, ?_⟩
    intro sb so u1 u2 fuel _ hb hpre ho
    rw [e2] at hb
    exact (finv_loop_exit h hb hpre ho).1
  ifz := fun c ps a cond shift body rest s h => by
    have h1 := finv_if_enter h
    have hcs : (lhPro false false s).currentStart = ps := h.cs
    refine ⟨c, by rw [hcs]; exact h1, ?_⟩
    intro sb u1 _ hb hpre
    rw [hcs] at hb
    exact (finv_if_exit hb hpre).1

theorem finv_init : FInv [((0 : Nat), (0 : Nat))] 0 ({} : St w) := by
  refine ⟨rfl, ⟨0, [], rfl⟩, ?_, linv_init, ?_, ?_⟩
  · intro f hf; simp at hf; subst hf; exact Nat.le_refl _
  · intro t r L hr; simp at hr
  · refine ⟨?_, ?_, ?_, ?_, ?_, ?_⟩
    · intro f hf; simp at hf; subst hf; exact Nat.le_refl _
    · intro f hf; simp at hf; subst hf; exact Nat.le_refl _
    · intro f hf v ⟨idx, _, h2⟩; simp at h2
    · intro f hf t r L hr; simp at hr
    · intro e cnd off he; simp at he
    · intro e cnd off b1 he; simp at he

/-- A value that is in range at the head of a loop is in range at its `brnz`. -/
theorem flowBack_of_emit {prog : Ir.Block w} {fuse : Bool} {s : St w} (h : emitState prog fuse = .ok s)
    (j : Nat) (cnd off : Int) (k' : Nat) (hj : s.insts[j]? = some (.brnz cnd off))
    (hk : (j : Int) + off = (k' : Int)) (t : Nat) (ht : InRange s t k') : InRange s t j := by
  have hF : FInv [((0 : Nat), (0 : Nat))] 0 s := closedI_emitState (closedI_finv fuse) h _ finv_init
  obtain ⟨r, L, g1, g2, g3, g4⟩ := ht
  have hle := hF.core.backLe j cnd off hj
  rcases hF.core.back j cnd off k' hj hk t r L g1 g2 g3 g4 with q | ⟨f, hf, q1, _⟩
  · exact ⟨r, L, g1, g2, by omega, q⟩
  · simp only [List.mem_singleton] at hf
    subst hf
    simp at q1

end AEmit
end C02
end Hpbf
