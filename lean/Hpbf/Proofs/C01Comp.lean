/-
C01, level 0: `Ir.parse` on a bracket-balanced text is a structural recursion over the bracket
tree.  `comp q f` returns the instructions the parser emits for the program `q` when its top frame is
`f` (without the instruction list) together with the frame afterwards; `block q f` is the whole rest
of a block (including the final flush of pending increments).  Last, the algebra of the parser's buffer of
pending increments (`keys`, `pend` under `bset`, `bsorted`, `flushOneI`, `flushManyI`).
-/
import Hpbf.Ir
import Hpbf.Proofs.Tree
import Hpbf.Proofs.C15Basic

namespace Hpbf
namespace C01
open Ir

variable {w : Nat}

/-- A parser frame (`Ir.Frame`) without its instruction list. -/
structure Fr (w : Nat) where
  shift : Int
  moved : Bool
  buff : List (Int × BitVec w)

/-- `r` is reversed, as `Frame.rinsts` is. -/
def toFrame (f : Fr w) (r : List (Instr w)) : Frame w :=
  { shift := f.shift, moved := f.moved, rinsts := r, buff := f.buff }

/-- The frame pushed at `'['`: it inherits the shift of its parent. -/
def fresh (sh : Int) : Fr w := { shift := sh, moved := false, buff := [] }

/-- Pending increment of the cell at offset `a`. -/
def pend (b : List (Int × BitVec w)) (a : Int) : BitVec w := (bget b a).getD 0#w

def addsOf (vars : List (Int × BitVec w)) : List (Instr w) :=
  vars.filterMap (fun kv => if kv.2 != 0#w then some (Instr.add kv.1 kv.2) else none)

theorem addsOf_cons_zero (k : Int) (l : List (Int × BitVec w)) : addsOf ((k, 0#w) :: l) = addsOf l := by
  simp [addsOf]

theorem addsOf_cons_ne (k : Int) {v : BitVec w} (hv : v ≠ 0#w) (l : List (Int × BitVec w)) :
    addsOf ((k, v) :: l) = Instr.add k v :: addsOf l := by
  simp [addsOf, hv]

theorem pushAdds_eq (vars : List (Int × BitVec w)) : ∀ r : List (Instr w),
    pushAdds r vars = (addsOf vars).reverse ++ r := by
  induction vars with
  | nil => intro r; rfl
  | cons kv vs ih =>
    intro r
    unfold pushAdds at ih ⊢
    simp only [List.foldl_cons]
    rw [ih]
    unfold addsOf
    by_cases h : kv.2 = 0#w
    · simp [h]
    · simp [h]

/-- `flushOne` on the buffer alone, with the emitted instructions in program order.  An absent key gets the
entry `0` (`buff.entry(k).or_insert(C::ZERO)` in `Program::parse`) while a present `0` leaves the buffer as
it is.  The entry is not noise: `closeLoop` flushes the parent at every key of the body's buffer. -/
def flushOneI (b : List (Int × BitVec w)) (k : Int) : List (Instr w) × List (Int × BitVec w) :=
  match bget b k with
  | none => ([], bset b k 0#w)
  | some v => if v != 0#w then ([Instr.add k v], bset b k 0#w) else ([], b)

def flushManyI (b : List (Int × BitVec w)) : List Int → List (Instr w) × List (Int × BitVec w)
  | [] => ([], b)
  | k :: ks => ((flushOneI b k).1 ++ (flushManyI (flushOneI b k).2 ks).1, (flushManyI (flushOneI b k).2 ks).2)

theorem flushOne_eq (F : Frame w) (k : Int) :
    flushOne F k =
      { F with rinsts := (flushOneI F.buff k).1.reverse ++ F.rinsts, buff := (flushOneI F.buff k).2 } := by
  unfold flushOne flushOneI
  cases bget F.buff k with
  | none => rfl
  | some v =>
    by_cases h : (v != 0#w) = true
    · simp [h]
    · simp [h]

theorem flushMany_eq (ks : List (Int × BitVec w)) : ∀ F : Frame w,
    ks.foldl (fun p kv => flushOne p kv.1) F =
      { F with rinsts := (flushManyI F.buff (ks.map (·.1))).1.reverse ++ F.rinsts,
               buff := (flushManyI F.buff (ks.map (·.1))).2 } := by
  induction ks with
  | nil => intro F; rfl
  | cons kv ks ih =>
    intro F
    simp only [List.foldl_cons, List.map_cons, flushManyI]
    rw [flushOne_eq, ih]
    simp [List.append_assoc]

def compOp (op : Op) (f : Fr w) : List (Instr w) × Fr w :=
  match op with
  | .right => ([], { f with shift := f.shift + 1 })
  | .left => ([], { f with shift := f.shift - 1 })
  | .inc => ([], { f with buff := bset f.buff f.shift (pend f.buff f.shift + 1#w) })
  | .dec => ([], { f with buff := bset f.buff f.shift (pend f.buff f.shift + (-1#w)) })
  | .out => ((flushOneI f.buff f.shift).1 ++ [.output f.shift], { f with buff := (flushOneI f.buff f.shift).2 })
  | .inp => ([.input f.shift], { f with buff := bset f.buff f.shift 0#w })

/-- The loop body (end frame `fb`, entered from `par`) does not return to the cell it started at, or contains
a loop that does not: the parser then flushes everything pending in the parent and marks the parent `moved`. -/
def unb (fb par : Fr w) : Bool := fb.moved || fb.shift != par.shift

def bodyInsts (ib : List (Instr w)) (fb : Fr w) : List (Instr w) := ib ++ addsOf (bsorted fb.buff)

/-- The test under which `closeLoop` emits `load 0` in place of the loop (`[-]`, `[+]`, `[---]`, …). -/
def isSpecial (ib : List (Instr w)) (fb par : Fr w) : Bool :=
  !fb.moved && fb.shift == par.shift && isOddStep (bodyInsts ib fb) par.shift

/-- `closeLoop` on `Fr`: instructions pushed on the parent, in program order, and the parent frame afterwards. -/
def closeI (ib : List (Instr w)) (fb par : Fr w) : List (Instr w) × Fr w :=
  if isSpecial ib fb par then
    ([Instr.load par.shift 0#w], { par with buff := bset par.buff par.shift 0#w })
  else
    let r1 := flushManyI par.buff ((bsorted fb.buff).map (·.1))
    let i2 := if unb fb par then addsOf (bsorted r1.2) else []
    let b2 := if unb fb par then r1.2.map (fun kv => (kv.1, 0#w)) else r1.2
    let mv := if unb fb par then true else par.moved
    let r3 := flushOneI b2 par.shift
    (r1.1 ++ i2 ++ r3.1 ++ [.loop par.shift (fb.shift - par.shift) (bodyInsts ib fb) false],
      { shift := par.shift, moved := mv, buff := r3.2 })

theorem closeLoop_eq (ib : List (Instr w)) (fb par : Fr w) (r : List (Instr w)) :
    closeLoop (toFrame fb ib.reverse) (toFrame par r) =
      toFrame (closeI ib fb par).2 ((closeI ib fb par).1.reverse ++ r) := by
  unfold closeLoop closeI isSpecial bodyInsts unb
  simp only [toFrame, pushAdds_eq, List.reverse_append, List.reverse_reverse, flushMany_eq]
  split
  · rfl
  · split <;> simp [flushOne_eq, List.append_assoc]

def comp : Prog → Fr w → List (Instr w) × Fr w
  | .nil, f => ([], f)
  | .cmd op r, f => ((compOp op f).1 ++ (comp r (compOp op f).2).1, (comp r (compOp op f).2).2)
  | .loop b r, f =>
    let sub := comp b (fresh f.shift)
    let cl := closeI sub.1 sub.2 f
    (cl.1 ++ (comp r cl.2).1, (comp r cl.2).2)

def block (q : Prog) (f : Fr w) : List (Instr w) :=
  (comp q f).1 ++ addsOf (bsorted (comp q f).2.buff)

theorem parseStep_op {k : Kind} {op : Op} (hk : Kind.toOp? k = some op) (f : Fr w)
    (r : List (Instr w)) (rest : List (Frame w)) (pos : List Nat) (i : Nat) :
    parseStep { top := toFrame f r, rest := rest, positions := pos } i k =
      .ok { top := toFrame (compOp op f).2 ((compOp op f).1.reverse ++ r), rest := rest, positions := pos } := by
  cases k <;> simp [Kind.toOp?] at hk <;> subst hk
  · simp [parseStep, compOp, bump, toFrame, pend]
  · simp [parseStep, compOp, bump, toFrame, pend]
  · simp [parseStep, compOp, toFrame]
  · simp [parseStep, compOp, toFrame]
  · simp [parseStep, compOp, toFrame]
  · simp [parseStep, compOp, toFrame, flushOne_eq]

theorem drop_of_getElem? {src : List Kind} {i : Nat} {k : Kind} (h : src[i]? = some k) :
    src.drop i = k :: src.drop (i + 1) := by
  obtain ⟨hi, hk⟩ := List.getElem?_eq_some_iff.mp h
  rw [List.drop_eq_getElem_cons hi, hk]

theorem parseLoop_repr {src : List Kind} {i j : Nat} {q : Prog} (h : Repr src i j q) :
    ∀ (f : Fr w) (r : List (Instr w)) (rest : List (Frame w)) (pos : List Nat),
      parseLoop (src.drop i) i { top := toFrame f r, rest := rest, positions := pos } =
        parseLoop (src.drop j) j
          { top := toFrame (comp q f).2 ((comp q f).1.reverse ++ r), rest := rest, positions := pos } := by
  induction h with
  | nil i _ => intro f r rest pos; simp [comp]
  | comment hc _ ih =>
    intro f r rest pos
    rw [drop_of_getElem? hc, parseLoop]
    simp only [parseStep]
    exact ih f r rest pos
  | cmd hc hop _ ih =>
    intro f r rest pos
    rw [drop_of_getElem? hc, parseLoop, parseStep_op hop]
    simp only
    rw [ih]
    simp [comp, List.append_assoc]
  | @loop i k j body rst ho hb hk hr ih1 ih2 =>
    intro f r rest pos
    rw [drop_of_getElem? ho, parseLoop]
    simp only [parseStep]
    have e : ({ shift := (toFrame f r).shift, moved := false, rinsts := [], buff := [] } : Frame w) =
        toFrame (fresh f.shift) [] := rfl
    rw [e, ih1, drop_of_getElem? hk, parseLoop]
    simp only [parseStep, List.append_nil]
    rw [closeLoop_eq, ih2]
    simp [comp, List.append_assoc]

theorem parse_of_tree {src : List Kind} {p : Prog} (hp : Bf.tree src = some p) :
    Ir.parse (w := w) src =
      .ok { shift := (comp (w := w) p (fresh 0)).2.shift, insts := block p (fresh 0) } := by
  have h := parseLoop_repr (w := w) (tree_sound hp) (fresh 0) [] [] []
  unfold parse
  have e : ({ shift := 0, moved := false, rinsts := [], buff := [] } : Frame w) = toFrame (fresh 0) [] := rfl
  simp only [List.drop_zero] at h
  rw [e, h]
  simp [parseLoop, block, pushAdds_eq, toFrame]

def keys (b : List (Int × BitVec w)) : List Int := b.map (·.1)

theorem bget_bset (b : List (Int × BitVec w)) (k a : Int) (v : BitVec w) :
    bget (bset b k v) a = if a = k then some v else bget b a := by
  induction b with
  | nil =>
    simp only [bset, bget]
    by_cases h : a = k
    · simp [h]
    · have : ¬ k = a := fun e => h e.symm
      simp [h, this]
  | cons kv rest ih =>
    obtain ⟨k', v'⟩ := kv
    simp only [bset]
    by_cases hk : k' = k
    · subst hk
      simp only [if_true, bget]
      by_cases h : a = k'
      · subst h; simp
      · have : ¬ k' = a := fun e => h e.symm
        simp [h, this]
    · simp only [hk, if_false, bget, ih]
      by_cases h : a = k
      · subst h; simp [hk]
      · simp [h]

theorem pend_bset (b : List (Int × BitVec w)) (k a : Int) (v : BitVec w) :
    pend (bset b k v) a = if a = k then v else pend b a := by
  unfold pend; rw [bget_bset]; by_cases h : a = k <;> simp [h]

@[simp] theorem pend_nil (a : Int) : pend ([] : List (Int × BitVec w)) a = 0#w := rfl

theorem mem_keys_bset (b : List (Int × BitVec w)) (k a : Int) (v : BitVec w) :
    a ∈ keys (bset b k v) ↔ a = k ∨ a ∈ keys b := by
  induction b with
  | nil => simp [bset, keys]
  | cons kv rest ih =>
    obtain ⟨k', v'⟩ := kv
    simp only [bset]
    by_cases hk : k' = k
    · subst hk; simp [keys]
    · simp only [hk, if_false]
      simp only [keys, List.map_cons, List.mem_cons] at ih ⊢
      rw [ih]
      exact or_left_comm

theorem nodup_keys_bset (b : List (Int × BitVec w)) (k : Int) (v : BitVec w) (h : (keys b).Nodup) :
    (keys (bset b k v)).Nodup := by
  induction b with
  | nil => simp [bset, keys]
  | cons kv rest ih =>
    obtain ⟨k', v'⟩ := kv
    simp only [bset]
    by_cases hk : k' = k
    · subst hk; simpa [keys] using h
    · simp only [hk, if_false]
      simp only [keys, List.map_cons, List.nodup_cons] at h ⊢
      refine ⟨?_, ih h.2⟩
      intro hm
      have := (mem_keys_bset rest k k' v).mp hm
      rcases this with h1 | h1
      · exact hk h1
      · exact h.1 h1

theorem bget_eq_none_iff (b : List (Int × BitVec w)) (a : Int) : bget b a = none ↔ a ∉ keys b := by
  induction b with
  | nil => simp [bget, keys]
  | cons kv rest ih =>
    obtain ⟨k', v'⟩ := kv
    simp only [bget, keys, List.map_cons, List.mem_cons, not_or]
    by_cases hk : k' = a
    · subst hk; simp
    · have : ¬ a = k' := fun e => hk e.symm
      simp only [hk, if_false, this, not_false_eq_true, true_and]
      exact ih

theorem pend_of_not_mem {b : List (Int × BitVec w)} {a : Int} (h : a ∉ keys b) : pend b a = 0#w := by
  unfold pend; rw [(bget_eq_none_iff b a).mpr h]; rfl

theorem bget_eq_some_iff {b : List (Int × BitVec w)} (hn : (keys b).Nodup) (a : Int) (v : BitVec w) :
    bget b a = some v ↔ (a, v) ∈ b := by
  induction b with
  | nil => simp [bget]
  | cons kv rest ih =>
    obtain ⟨k', v'⟩ := kv
    simp only [keys, List.map_cons, List.nodup_cons] at hn
    simp only [bget, List.mem_cons, Prod.mk.injEq]
    by_cases hk : k' = a
    · subst hk
      simp only [if_true, Option.some.injEq, true_and]
      constructor
      · intro h; exact Or.inl h.symm
      · rintro (h | h)
        · exact h.symm
        · exact absurd (List.mem_map_of_mem (f := (·.1)) h) hn.1
    · have : ¬ a = k' := fun e => hk e.symm
      simp only [hk, if_false, this, false_and, false_or]
      exact ih hn.2

theorem pend_perm {b b' : List (Int × BitVec w)} (hp : b.Perm b') (hn : (keys b).Nodup) (a : Int) :
    pend b a = pend b' a := by
  have hn' : (keys b').Nodup := by
    unfold keys at hn ⊢; exact (hp.map _).nodup_iff.mp hn
  unfold pend
  cases h : bget b a with
  | some v =>
    have := (bget_eq_some_iff hn' a v).mpr (hp.mem_iff.mp ((bget_eq_some_iff hn a v).mp h))
    rw [this]
  | none =>
    have h1 := (bget_eq_none_iff b a).mp h
    have h2 : a ∉ keys b' := by
      unfold keys at h1 ⊢; exact fun hm => h1 ((hp.map _).mem_iff.mpr hm)
    rw [(bget_eq_none_iff b' a).mpr h2]

theorem bsorted_perm (b : List (Int × BitVec w)) : (bsorted b).Perm b := Expr.stableSort_perm _ b

theorem pend_bsorted {b : List (Int × BitVec w)} (hn : (keys b).Nodup) (a : Int) :
    pend (bsorted b) a = pend b a :=
  (pend_perm (bsorted_perm b).symm hn a).symm

theorem nodup_keys_bsorted {b : List (Int × BitVec w)} (hn : (keys b).Nodup) : (keys (bsorted b)).Nodup :=
  by unfold keys at hn ⊢; exact ((bsorted_perm b).map _).nodup_iff.mpr hn

theorem mem_keys_bsorted (b : List (Int × BitVec w)) (a : Int) : a ∈ keys (bsorted b) ↔ a ∈ keys b :=
  by unfold keys; exact ((bsorted_perm b).map _).mem_iff

theorem keys_map_zero (b : List (Int × BitVec w)) : keys (b.map (fun kv => (kv.1, 0#w))) = keys b := by
  simp [keys, List.map_map, Function.comp_def]

theorem pend_map_zero (b : List (Int × BitVec w)) (a : Int) : pend (b.map (fun kv => (kv.1, 0#w))) a = 0#w := by
  induction b with
  | nil => rfl
  | cons kv rest ih =>
    unfold pend at ih ⊢
    simp only [List.map_cons, bget]
    split
    · rfl
    · exact ih

theorem flushOneI_cases (b : List (Int × BitVec w)) (k : Int) :
    (bget b k = some 0#w ∧ flushOneI b k = ([], b)) ∨
      flushOneI b k = (addsOf [(k, pend b k)], bset b k 0#w) := by
  unfold flushOneI pend addsOf
  cases h : bget b k with
  | none => right; simp
  | some v =>
    by_cases hv : v = 0#w
    · left; subst hv; simp
    · right; simp [hv]

theorem pend_flushOneI (b : List (Int × BitVec w)) (k a : Int) :
    pend (flushOneI b k).2 a = if a = k then 0#w else pend b a := by
  rcases flushOneI_cases b k with ⟨h0, h⟩ | h
  · rw [h]
    by_cases ha : a = k
    · subst ha; simp [pend, h0]
    · simp [ha]
  · rw [h]; exact pend_bset b k a 0#w

theorem mem_keys_flushOneI (b : List (Int × BitVec w)) (k a : Int) :
    a ∈ keys (flushOneI b k).2 ↔ a = k ∨ a ∈ keys b := by
  rcases flushOneI_cases b k with ⟨h0, h⟩ | h
  · rw [h]
    have hk : k ∈ keys b := by
      apply Classical.byContradiction
      intro hn
      rw [(bget_eq_none_iff b k).mpr hn] at h0; cases h0
    exact ⟨Or.inr, fun h => h.elim (fun e => e ▸ hk) id⟩
  · rw [h]; exact mem_keys_bset b k a 0#w

theorem nodup_flushOneI (b : List (Int × BitVec w)) (k : Int) (hn : (keys b).Nodup) :
    (keys (flushOneI b k).2).Nodup := by
  rcases flushOneI_cases b k with ⟨_, h⟩ | h
  · rw [h]; exact hn
  · rw [h]; exact nodup_keys_bset b k _ hn

theorem pend_flushManyI (ks : List Int) : ∀ (b : List (Int × BitVec w)) (a : Int),
    pend (flushManyI b ks).2 a = if a ∈ ks then 0#w else pend b a := by
  induction ks with
  | nil => intro b a; simp [flushManyI]
  | cons k ks ih =>
    intro b a
    simp only [flushManyI, ih, pend_flushOneI, List.mem_cons]
    by_cases h1 : a ∈ ks
    · simp [h1]
    · by_cases h2 : a = k
      · simp [h2]
      · simp [h1, h2]

theorem mem_keys_flushManyI (ks : List Int) : ∀ (b : List (Int × BitVec w)) (a : Int),
    a ∈ keys (flushManyI b ks).2 ↔ a ∈ ks ∨ a ∈ keys b := by
  induction ks with
  | nil => intro b a; simp [flushManyI]
  | cons k ks ih =>
    intro b a
    simp only [flushManyI, ih, mem_keys_flushOneI, List.mem_cons, or_assoc]
    exact or_left_comm

theorem nodup_flushManyI (ks : List Int) : ∀ (b : List (Int × BitVec w)), (keys b).Nodup →
    (keys (flushManyI b ks).2).Nodup := by
  induction ks with
  | nil => intro b h; exact h
  | cons k ks ih => intro b h; exact ih _ (nodup_flushOneI b k h)

end C01
end Hpbf
