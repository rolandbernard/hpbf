/-
The account of `clobber` (`ClobAcc`), of the three non-loop arms of `rebuildInstr` (`output`, `input`, `calc`) and of
instruction lists without `loop` / `ifnz`: all claims at once (`StraightFoot`).
`PhysStep` (for `PhysInv`, `OptRbPhys.lean`): every cell the emitted code may physically write is recorded in
`written` or `reads`, and no nested block moves the pointer.
-/
import Hpbf.Proofs.OptRbFoot
import Hpbf.Proofs.OptRbPhys

namespace Hpbf
namespace OptProof
open Opt OptSem Ir

variable {w : Nat}

def PhysStep (_s s' : Rebuild w) (new : List (Instr w)) : Prop :=
  s'.subShift = false → nsL new ∧ ∀ v, tgtL new v → v ∈ mKeys s'.written ∨ v ∈ s'.reads

def KeysMono (s s' : Rebuild w) : Prop :=
  s'.subShift = false → ∀ v, v ∈ mKeys s.written → v ∈ mKeys s'.written

theorem PhysInv.step {s s' : Rebuild w} {new : List (Instr w)} (h : PhysInv s) (hp : PhysStep s s' new)
    (hk : KeysMono s s') (hm : ReadsMono s s') (hi : s'.insts = s.insts ++ new) : PhysInv s' := by
  intro hs
  obtain ⟨n0, t0⟩ := h (hm.2 hs)
  obtain ⟨n1, t1⟩ := hp hs
  rw [hi]
  refine ⟨(nsL_append _ _).2 ⟨n0, n1⟩, ?_⟩
  intro v hv
  rcases (tgtL_append _ _ _).1 hv with hv | hv
  · rcases t0 v hv with h' | h'
    · exact Or.inl (hk hs v h')
    · exact Or.inr (hm.1 v h')
  · exact t1 v hv

theorem KeysMono.refl (s : Rebuild w) : KeysMono s s := fun _ _ h => h

theorem KeysMono.trans {a b c : Rebuild w} (h1 : KeysMono a b) (h2 : KeysMono b c) (hm : ReadsMono b c) :
    KeysMono a c := fun hs v hv => h2 hs v (h1 (hm.2 hs) v hv)

theorem keys_of_none_mono {ν : Type} {a b : List (Int × ν)} (h : ∀ v, mGet b v = none → mGet a v = none)
    {v : Int} (hv : v ∈ mKeys a) : v ∈ mKeys b := by
  apply Classical.byContradiction
  intro hn
  exact (mGet_none_iff a v).1 (h v ((mGet_none_iff b v).2 hn)) hv

theorem DefW.mem_keys {s : Rebuild w} {v : Int} (h : DefW s v) : v ∈ mKeys s.written := by
  obtain ⟨k, hk, _⟩ := h
  exact OptLoop.mem_mKeys_of_mGet hk

theorem CalcFrame.keysMono {s s' : Rebuild w} {comps : List (List (Int × Expr w))} (h : CalcFrame s s' comps) :
    KeysMono s s' := fun hs _ hv => keys_of_none_mono (h hs).1 hv

/-- The syntactic write account of code without blocks: every cell the instructions `new` may physically write is a
key of `written`.  (Emitted blocks need `PhysStep`: what a child writes may be recorded in `reads` only.) -/
def TgtStep (s' : Rebuild w) (new : List (Instr w)) : Prop :=
  s'.subShift = false → nsL new ∧ ∀ v, tgtL new v → v ∈ mKeys s'.written

theorem TgtStep.refl (s : Rebuild w) : TgtStep s [] :=
  fun _ => ⟨by simp [nsL], fun v hv => absurd hv (tgtL_nil v)⟩

theorem TgtStep.trans {b c : Rebuild w} {n1 n2 : List (Instr w)} (h1 : TgtStep b n1) (h2 : TgtStep c n2)
    (hk : KeysMono b c) (hm : ReadsMono b c) : TgtStep c (n1 ++ n2) := by
  intro hs
  obtain ⟨x1, y1⟩ := h1 (hm.2 hs)
  obtain ⟨x2, y2⟩ := h2 hs
  refine ⟨(nsL_append _ _).2 ⟨x1, x2⟩, fun v hv => ?_⟩
  rcases (tgtL_append _ _ _).1 hv with hv | hv
  · exact hk hs v (y1 v hv)
  · exact y2 v hv

theorem TgtStep.physStep {s s' : Rebuild w} {new : List (Instr w)} (h : TgtStep s' new) : PhysStep s s' new :=
  fun hs => ⟨(h hs).1, fun v hv => Or.inl ((h hs).2 v hv)⟩

theorem TgtStep.frameStep {s s' : Rebuild w} {new : List (Instr w)} (h : TgtStep s' new) (hk : KeysMono s s') :
    FrameStep s s' new := by
  intro hs
  obtain ⟨hns, ht⟩ := h hs
  refine ⟨fun v hv => (mGet_none_iff _ v).2 (fun hm => (mGet_none_iff _ v).1 hv (hk hs v hm)), fun σ σ' hex => ?_⟩
  obtain ⟨p, m⟩ := phys_frame hex σ' rfl hns
  exact ⟨p, fun v hv => m v (fun htg => (mGet_none_iff _ v).1 hv (ht v htg))⟩

theorem CalcFrame.tgtStep {s s' : Rebuild w} {comps : List (List (Int × Expr w))} (h : CalcFrame s s' comps) :
    TgtStep s' (comps.map Instr.calc) := by
  intro hs
  refine ⟨nsL_calcs comps, ?_⟩
  intro v hv
  obtain ⟨g, hg, hvg⟩ := (tgtL_calcs comps v).1 hv
  apply Classical.byContradiction
  intro hn
  exact (h hs).2 v ((mGet_none_iff _ v).2 hn) g hg hvg

theorem CalcFrame.physStep {s s' : Rebuild w} {comps : List (List (Int × Expr w))} (h : CalcFrame s s' comps) :
    PhysStep s s' (comps.map Instr.calc) := h.tgtStep.physStep

theorem CalcFrame.congr_left {s s0 s' : Rebuild w} {comps : List (List (Int × Expr w))}
    (hw : s0.written = s.written) (h : CalcFrame s0 s' comps) : CalcFrame s s' comps := by
  intro hs
  obtain ⟨a, b⟩ := h hs
  exact ⟨fun v hv => by rw [← hw]; exact a v hv, b⟩

theorem EmitFoot.physStep {s s' : Rebuild w} {comps : List (List (Int × Expr w))} (h : EmitFoot s s' comps) :
    PhysStep s s' (comps.map Instr.calc) := h.frame.physStep

theorem EmitFoot.keysMono {s s' : Rebuild w} {comps : List (List (Int × Expr w))} (h : EmitFoot s s' comps) :
    KeysMono s s' := h.frame.keysMono

theorem noBlocks_append {a b : List (Instr w)} (ha : ∀ i ∈ a, C01Dse.isBlock i = false)
    (hb : ∀ i ∈ b, C01Dse.isBlock i = false) : ∀ i ∈ a ++ b, C01Dse.isBlock i = false := by
  intro i hi
  rcases List.mem_append.1 hi with h | h
  · exact ha i h
  · exact hb i h

/-- All claims about the instructions `new` appended for instructions that are not blocks: the read-before-write
account (hence the read footprint for every start state, `StraightFoot.foot`), the syntactic write account (hence the
write footprint `StraightFoot.frame` and the physical frame `StraightFoot.phys`), and that `new` contains no block. -/
structure StraightFoot (s s' : Rebuild w) (new : List (Instr w)) : Prop where
  rd : RdAll s s' new
  tgt : TgtStep s' new
  keys : KeysMono s s'
  noBlocks : ∀ j ∈ new, C01Dse.isBlock j = false

theorem StraightFoot.frame {s s' : Rebuild w} {new : List (Instr w)} (h : StraightFoot s s' new) :
    FrameStep s s' new := h.tgt.frameStep h.keys

theorem StraightFoot.phys {s s' : Rebuild w} {new : List (Instr w)} (h : StraightFoot s s' new) :
    PhysStep s s' new := h.tgt.physStep

theorem StraightFoot.mono {s s' : Rebuild w} {new : List (Instr w)} (h : StraightFoot s s' new) :
    ReadsMono s s' := h.rd.mono

theorem StraightFoot.foot {s s' : Rebuild w} {new : List (Instr w)} (h : StraightFoot s s' new) :
    FootStep s s' new := h.rd.footStep h.noBlocks

theorem StraightFoot.refl (s : Rebuild w) : StraightFoot s s [] :=
  ⟨RdAll.refl s, TgtStep.refl s, KeysMono.refl s, fun _ h => by cases h⟩

theorem StraightFoot.trans {a b c : Rebuild w} {n1 n2 : List (Instr w)} (h1 : StraightFoot a b n1)
    (h2 : StraightFoot b c n2) : StraightFoot a c (n1 ++ n2) :=
  ⟨h1.rd.trans h2.rd, h1.tgt.trans h2.tgt h2.keys h2.mono, h1.keys.trans h2.keys h2.mono,
    noBlocks_append h1.noBlocks h2.noBlocks⟩

theorem EmitFoot.straight {s s' : Rebuild w} {comps : List (List (Int × Expr w))}
    (h : EmitFoot s s' comps) : StraightFoot s s' (comps.map Instr.calc) :=
  ⟨RdAll.of_rdC h.rd h.mono, h.frame.tgtStep, h.keysMono, noBlocks_calcs comps⟩

theorem clobber_run {s : Rebuild w} {ps : List (Rebuild w)} {var : Int} {maybe : Bool} {os os' : Orders}
    {s' : Rebuild w} (hr : (clobber s ps var maybe).run os = .ok (s', os')) (hwf : Wf s) :
    ∃ s0 s2 toEmit, Wf s0 ∧ SameButPend s s0 ∧
      (∀ k e, mGet s0.pending k = some e → mGet s.pending k = some e) ∧
      (gatherForEmit s0 [var]).run os = .ok ((s2, toEmit), os') ∧
      s' = insertWritten (emitStructured s2 ps toEmit) var (if maybe then .maybe else .unknown) ∧
      ∀ v, mGet s'.written v = if var = v then some (if maybe then OptWrite.maybe else OptWrite.unknown)
        else mGet (emitStructured s2 ps toEmit).written v := by
  unfold clobber at hr
  rw [run_bind_ok] at hr
  obtain ⟨⟨s2, toEmit⟩, os1, h1, h2⟩ := hr
  rw [run_pure] at h2
  cases h2
  have hk : ∀ e, (if maybe then OptWrite.maybe else OptWrite.unknown : OptWrite w) ≠ .known e := by
    intro e; split <;> simp
  refine ⟨_, s2, toEmit, ?_, ?_, ?_, h1, rfl, ?_⟩
  · split
    · exact removePending_wf hwf var
    · exact hwf
  · split
    · exact removePending_same s var
    · exact SameButPend.refl s
  · split
    · intro k e h
      rw [removePending_get hwf] at h
      split at h
      · cases h
      · exact h
    · exact fun _ _ h => h
  · intro v
    rw [insertWritten_written, normW_nonknown _ hk, mGet_mSet]

/-- What `clobber` does to the account: the emitted groups, and that `var` is recorded as written BEFORE the
instruction that writes it runs (the exception `v = var` of `RdC`). -/
structure ClobAcc (ps : List (Rebuild w)) (E : Int → Prop) (s s' : Rebuild w)
    (comps : List (List (Int × Expr w))) : Prop where
  insts : s'.insts = s.insts ++ comps.map Instr.calc
  nodup : ∀ g ∈ comps, (g.map (·.1)).Nodup
  wf : Wf s'
  hdr : SameHdr s s'
  mono : ReadsMono s s'
  tgt : ∀ g ∈ comps, ∀ ve ∈ g, mGet s.pending ve.1 = some ve.2
  sub : ∀ k e, mGet s'.pending k = some e → mGet s.pending k = some e
  frame : CalcFrame s s' comps
  rd : RdC E s s' comps

theorem clobber_acc {s : Rebuild w} {ps : List (Rebuild w)} {var : Int} {maybe : Bool} {os os' : Orders}
    {s' : Rebuild w} (hr : (clobber s ps var maybe).run os = .ok (s', os')) (hwf : Wf s) :
    ∃ comps, ClobAcc ps (fun v => v = var) s s' comps ∧ NoUse s' var ∧
      mGet s'.written var = some (if maybe then OptWrite.maybe else OptWrite.unknown) ∧
      (∀ v, v ≠ var → (∀ g ∈ comps, v ∉ g.map (·.1)) → mGet s'.written v = mGet s.written v) := by
  obtain ⟨_, ⟨p1, _, _, p4, _, _, p7, _⟩, p8, _⟩ := clobber_spec ps hwf var maybe hr
  obtain ⟨s0, s2, toEmit, hwf0, hsame0, hsub0, h1, rfl, hwr⟩ := clobber_run hr hwf
  obtain ⟨r, _, _⟩ := gatherEmit_res ps hwf0 var h1
  have hf : EmitFoot s (emitStructured s2 ps toEmit) toEmit :=
    (gatherEmit_foot ps hwf0 var h1).of_sameButPend_left hsame0
  obtain ⟨_, _, _, _, i5, _, i7, _, _, i10, _⟩ :=
    insertWritten_same (emitStructured s2 ps toEmit) var (if maybe then .maybe else .unknown)
  have hinsts : (insertWritten (emitStructured s2 ps toEmit) var (if maybe then .maybe else .unknown)).insts =
      s.insts ++ toEmit.map Instr.calc := by
    rw [i10, r.insts, hsame0.insts]
  have hne : ∀ v, v ≠ var → mGet (insertWritten (emitStructured s2 ps toEmit) var
      (if maybe then .maybe else .unknown)).written v = mGet (emitStructured s2 ps toEmit).written v := by
    intro v hv
    rw [hwr, if_neg (fun e => hv e.symm)]
  have hnone : ∀ v, mGet (insertWritten (emitStructured s2 ps toEmit) var
      (if maybe then .maybe else .unknown)).written v = none →
      mGet (emitStructured s2 ps toEmit).written v = none := by
    intro v hv
    rw [hwr] at hv
    split at hv
    · cases hv
    · exact hv
  refine ⟨toEmit, ⟨hinsts, r.nodup, p1, p4, ?_, fun g hg ve hve => hsub0 _ _ (r.tgt g hg ve hve), p7, ?_, ?_⟩,
    ⟨p8.1, p8.2.1⟩, by rw [hwr, if_pos rfl], ?_⟩
  · exact ⟨fun v hv => by rw [i7]; exact hf.mono.1 v hv, fun h => hf.mono.2 (by rw [← i5]; exact h)⟩
  · intro hss
    obtain ⟨a, b⟩ := hf.frame (by rw [← i5]; exact hss)
    exact ⟨fun v hv => a v (hnone v hv), fun v hv => b v (hnone v hv)⟩
  · intro hss
    obtain ⟨rd, wq⟩ := hf.rd (by rw [← i5]; exact hss)
    refine ⟨fun v hv => rd v (by rw [← i7]; exact hv), fun v h1' h2' hne' => ?_⟩
    exact wq v ((DefW.of_get_eq (hne v hne')).1 h1') h2' id
  · intro v hv hnt
    rw [hne v hv, r.wr v hnt, hsame0.written]

theorem ClobAcc.refl (ps : List (Rebuild w)) (E : Int → Prop) {s : Rebuild w} (hwf : Wf s) :
    ClobAcc ps E s s [] :=
  ⟨(List.append_nil _).symm, (fun _ h => nomatch h), hwf, SameHdr.refl _, ReadsMono.refl _, (fun _ h => nomatch h),
    fun _ _ h => h, CalcFrame.refl _, RdC.refl _ _⟩

/-- `hE`: a cell recorded early by the first step is used by no pending operation afterwards, so the groups of the
second step (which are taken from the pending operations) do not read it. -/
theorem ClobAcc.trans {ps : List (Rebuild w)} {E1 E2 : Int → Prop} {a b c : Rebuild w}
    {c1 c2 : List (List (Int × Expr w))} (h1 : ClobAcc ps E1 a b c1) (h2 : ClobAcc ps E2 b c c2)
    (hE : ∀ v, E1 v → NoUse b v) : ClobAcc ps (fun v => E1 v ∨ E2 v) a c (c1 ++ c2) := by
  refine ⟨by rw [h2.insts, h1.insts]; simp, ?_, h2.wf, h1.hdr.trans h2.hdr, h1.mono.trans h2.mono, ?_,
    fun k e h => h1.sub k e (h2.sub k e h), h1.frame.trans h2.frame h2.mono,
    h1.rd.trans h2.rd h2.mono (fun v hv => not_exposesC_of_noUse h2.tgt (hE v hv))⟩
  · intro g hg
    rcases List.mem_append.1 hg with h | h
    · exact h1.nodup g h
    · exact h2.nodup g h
  · intro g hg ve hve
    rcases List.mem_append.1 hg with h | h
    · exact h1.tgt g h ve hve
    · exact h1.sub _ _ (h2.tgt g h ve hve)

theorem output_rdAll (s : Rebuild w) (x : Int) :
    RdAll s ({ Opt.read s x with insts := (Opt.read s x).insts ++ [Instr.output x] } : Rebuild w)
      [.output x] := by
  have hsame := read_same s x
  have hw : (Opt.read s x).written = s.written := hsame.written
  refine ⟨read_readsMono s x, fun _ => by simp [nsL, nsI], ?_, ?_⟩
  · intro _ σ _ v hv hd hex
    cases hex with
    | outHere hp =>
      have : x = v := ptr_add_inj.1 hp
      subst this
      exact hv ((mem_reads_read s x x).2 (Or.inr ⟨rfl, hd⟩))
    | outNext _ hrest => cases hrest
  · intro _ σ σ1 _ v hd' hd _
    exact hd ((DefW.congr (s' := { Opt.read s x with insts := (Opt.read s x).insts ++ [Instr.output x] })
      (s := s) hw v).1 hd')

theorem output_straight (s : Rebuild w) (x : Int) :
    StraightFoot s ({ Opt.read s x with insts := (Opt.read s x).insts ++ [Instr.output x] } : Rebuild w)
      [.output x] := by
  have hw : (Opt.read s x).written = s.written := (read_same s x).written
  refine ⟨output_rdAll s x, ?_, ?_, by simp [C01Dse.isBlock]⟩
  · intro _
    refine ⟨by simp [nsL, nsI], ?_⟩
    intro v hv
    simp [tgtL, tgtI] at hv
  · intro _ v hv
    show v ∈ mKeys (Opt.read s x).written
    rw [hw]; exact hv

theorem step_output_straight {ps : List (Rebuild w)} {s : Rebuild w} (hwf : Wf s) (src : Int) {os os' : Orders}
    {s' : Rebuild w} (hr : (rebuildInstr ps s (.output src)).run os = .ok (s', os')) :
    ∃ new, s'.insts = s.insts ++ new ∧ StraightFoot s s' new := by
  rw [rebuildInstr] at hr
  split at hr
  · rename_i x hx
    rw [run_pure] at hr
    cases hr
    refine ⟨[.output x], ?_, output_straight s x⟩
    show (Opt.read s x).insts ++ _ = _
    rw [(read_same s x).insts]
  · rw [run_bind_ok] at hr
    obtain ⟨s1, os1, h1, h2⟩ := hr
    rw [run_pure] at h2
    cases h2
    obtain ⟨comps, res, ft⟩ := emit_foot ps hwf (src + s.shift) h1
    refine ⟨comps.map Instr.calc ++ [.output (src + s.shift)], ?_,
      ft.straight.trans (output_straight s1 (src + s.shift))⟩
    show (Opt.read s1 (src + s.shift)).insts ++ _ = _
    rw [(read_same s1 (src + s.shift)).insts, res.insts, List.append_assoc]

theorem step_input_straight {ps : List (Rebuild w)} {s : Rebuild w} (hwf : Wf s) (dst : Int) {os os' : Orders}
    {s' : Rebuild w} (hr : (rebuildInstr ps s (.input dst)).run os = .ok (s', os')) :
    ∃ new, s'.insts = s.insts ++ new ∧ StraightFoot s s' new := by
  rw [rebuildInstr, run_bind_ok] at hr
  obtain ⟨s1, os1, h1, h2⟩ := hr
  rw [run_pure] at h2
  cases h2
  obtain ⟨comps, acc, _, a10, _⟩ := clobber_acc h1 hwf
  have hdef : DefW s1 (dst + s.shift) := ⟨OptWrite.unknown, a10, rfl⟩
  have hm : ReadsMono s1 ({ s1 with insts := s1.insts ++ [Instr.input (dst + s.shift)] } : Rebuild w) :=
    ⟨fun _ h => h, fun h => h⟩
  have hk : KeysMono s1 ({ s1 with insts := s1.insts ++ [Instr.input (dst + s.shift)] } : Rebuild w) :=
    fun _ _ h => h
  -- the groups, then `input`, which writes the cell recorded by `clobber`
  have hall : RdAll s ({ s1 with insts := s1.insts ++ [Instr.input (dst + s.shift)] } : Rebuild w)
      (comps.map Instr.calc ++ [.input (dst + s.shift)]) := by
    refine RdAll.calcs_then acc.rd acc.mono hm (fun _ => by simp [nsL, nsI]) ?_ ?_
    · intro _ τ _ v _ _ _ hex
      cases hex with
      | inNext _ _ hrest => cases hrest
    · intro _ τ τ1 _ v hd' _ hor _ ht
      rcases hor with h | h
      · exact h hd'
      · cases ht with
        | inOk _ hp _ => exact hp (by rw [h])
  have hp : TgtStep ({ s1 with insts := s1.insts ++ [Instr.input (dst + s.shift)] } : Rebuild w)
      [Instr.input (dst + s.shift)] := by
    intro _
    refine ⟨by simp [nsL, nsI], fun v hv => ?_⟩
    have : v = dst + s.shift := by simpa [tgtL, tgtI] using hv
    rw [this]
    exact hdef.mem_keys
  refine ⟨comps.map Instr.calc ++ [.input (dst + s.shift)], ?_,
    ⟨hall, acc.frame.tgtStep.trans hp hk hm, acc.frame.keysMono.trans hk hm, noBlocks_calcs_then comps _ rfl⟩⟩
  show s1.insts ++ _ = _
  rw [acc.insts, List.append_assoc]

theorem step_calc_straight {ps : List (Rebuild w)} {s : Rebuild w} (hwf : Wf s) (calcs : List (Int × Expr w))
    {os os' : Orders} {s' : Rebuild w} (hr : (rebuildInstr ps s (.calc calcs)).run os = .ok (s', os')) :
    ∃ new, s'.insts = s.insts ++ new ∧ StraightFoot s s' new := by
  rw [rebuildInstr] at hr
  obtain ⟨comps, _, _, _, _, hi, hnd, hf⟩ := performAll_foot hr hwf
  exact ⟨comps.map Instr.calc, hi, hf.straight⟩

theorem rebuildInstr_straight_all {ps : List (Rebuild w)} {s : Rebuild w} (hwf : Wf s) {i : Instr w}
    (hi : C01Dse.isBlock i = false) {os os' : Orders} {s' : Rebuild w}
    (hr : (rebuildInstr ps s i).run os = .ok (s', os')) :
    ∃ new, s'.insts = s.insts ++ new ∧ StraightFoot s s' new := by
  cases i with
  | output src => exact step_output_straight hwf src hr
  | input dst => exact step_input_straight hwf dst hr
  | «calc» calcs => exact step_calc_straight hwf calcs hr
  | loop c sh b o => simp [C01Dse.isBlock] at hi
  | ifnz c sh b => simp [C01Dse.isBlock] at hi

theorem rebuildInsts_straight_all {ps : List (Rebuild w)} (l : List (Instr w)) (hl : StraightL l)
    {s : Rebuild w} {os os' : Orders} {s' : Rebuild w} {done : Bool} (hwf : Wf s) (hnr : s.noReturn = false)
    (hr : (rebuildInsts ps s l).run os = .ok ((s', done), os')) :
    ∃ new, s'.insts = s.insts ++ new ∧ StraightFoot s s' new := by
  induction l generalizing s os with
  | nil =>
    rw [rebuildInsts, run_pure] at hr
    cases hr
    exact ⟨[], by simp, StraightFoot.refl _⟩
  | cons i rest ih =>
    rw [rebuildInsts, hnr] at hr
    simp only [Bool.false_eq_true, if_false] at hr
    rw [run_bind_ok] at hr
    obtain ⟨s1, os1, h1, h2⟩ := hr
    obtain ⟨a1, a2, _, _, _⟩ := rebuildInstr_straight hwf (hl i (by simp)) h1
    obtain ⟨n1, e1, f1⟩ := rebuildInstr_straight_all hwf (hl i (by simp)) h1
    obtain ⟨n2, e2, f2⟩ := ih (fun j hj => hl j (by simp [hj])) a1 (by rw [a2, hnr]) h2
    exact ⟨n1 ++ n2, by rw [e2, e1, List.append_assoc], f1.trans f2⟩

theorem rebuildInsts_straight_foot {ps : List (Rebuild w)} (l : List (Instr w)) (hl : StraightL l)
    {s : Rebuild w} {os os' : Orders} {s' : Rebuild w} {done : Bool} (hwf : Wf s) (hnr : s.noReturn = false)
    (hr : (rebuildInsts ps s l).run os = .ok ((s', done), os')) :
    ∃ new, s'.insts = s.insts ++ new ∧ FootStep s s' new ∧ FrameStep s s' new ∧ ReadsMono s s' := by
  obtain ⟨new, e, f⟩ := rebuildInsts_straight_all l hl hwf hnr hr
  exact ⟨new, e, f.foot, f.frame, f.mono⟩

end OptProof
end Hpbf

#print axioms Hpbf.OptProof.step_input_straight
#print axioms Hpbf.OptProof.rebuildInsts_straight_foot
#print axioms Hpbf.OptProof.clobber_acc
