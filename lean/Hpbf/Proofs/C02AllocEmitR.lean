/-
C02 (`allocate_temps`): the component `region` of `EmitRest` (`C02AllocEmitAll`) for generator output.

Between the instructions of the IR program every computed value has been read (`cinv_no_un`): a value created by
`getValue (.add a b)` is an operand of the next value or the result of its `calc` entry, and all results are
stored before the `calc` ends.  Hence the code between a computation and its first use lies inside one `calc`:
it is straight-line and contains no branch target.
-/
import Hpbf.Proofs.C02AllocEmitL
import Hpbf.Proofs.C02AllocLemmas
set_option linter.unusedSimpArgs false

namespace Hpbf
namespace C02
namespace AEmit

open Bc BcWf BcGen C11 C02Emit

variable {w : Nat}


/-- Computational instructions (what `getValue` and `memWrite` emit). -/
def isComp : Instr w → Bool
  | .add _ _ _ => true
  | .sub _ _ _ => true
  | .mul _ _ _ => true
  | .copy _ _ => true
  | _ => false

def ArithAt (s : St w) (t : Nat) (r : RangeInfo) : Prop :=
  ∃ op a b, s.insts[r.created]? = some (mkArith op (.tmp t) a b)

/-- `t` is a computed value that has not been read yet. -/
def Un (s : St w) (t : Nat) : Prop :=
  ∃ r : RangeInfo, s.ranges[t]? = some r ∧ r.firstUse = none ∧ ArithAt s t r

/-- `n0` = position at which the current `calc` started; `bs` = starts of the enclosing loops.  `kv`: the operands of
the expressions in the table have been read (so a table hit reads nothing unread); `compNew`, `unNew`: from `n0` on there
are only computations, and every unread computed value was created there; `comp`, `nojump`: between a computed value and
its first use there are only computations, and no branch lands there (the statement `fuse` of `AllocPre`); `tgt`: every
branch target is at most `n0`; `starts`: at the start of an enclosing loop every computed value created before it had
been read – this is what excludes the back edge `brnz` in `nojump`. -/
structure CInv (n0 : Nat) (bs : List Nat) (s : St w) : Prop where
  linv : LInv s
  kv : ∀ p ∈ s.values, ∀ o ∈ opsOf p.1, ∃ (r : RangeInfo) (f : Nat), s.ranges[o]? = some r ∧ r.firstUse = some f
  n0le : n0 ≤ s.insts.size
  compNew : ∀ (j : Nat) (x : Instr w), n0 ≤ j → s.insts[j]? = some x → isComp x = true
  unNew : ∀ (t : Nat) (r : RangeInfo), s.ranges[t]? = some r → r.firstUse = none → ArithAt s t r → n0 ≤ r.created
  comp : ∀ (t : Nat) (r : RangeInfo) (f : Nat), s.ranges[t]? = some r → r.firstUse = some f → ArithAt s t r →
    ∀ (j : Nat) (x : Instr w), r.created < j → j < f → s.insts[j]? = some x → isComp x = true
  nojump : ∀ (t : Nat) (r : RangeInfo) (f : Nat), s.ranges[t]? = some r → r.firstUse = some f → ArithAt s t r →
    ∀ (j : Nat) (x : Instr w) (off : Int), s.insts[j]? = some x → branchOff? x = some off →
      ¬ ((r.created : Int) < (j : Int) + off ∧ (j : Int) + off ≤ (f : Int))
  tgt : ∀ (j : Nat) (x : Instr w) (off : Int), s.insts[j]? = some x → branchOff? x = some off →
    (j : Int) + off ≤ (n0 : Int)
  starts : ∀ b ∈ bs, b ≤ n0 ∧ ∀ (t : Nat) (r : RangeInfo), s.ranges[t]? = some r → ArithAt s t r →
    r.created < b → ∃ f, r.firstUse = some f ∧ f < b

theorem cinv_advance {n0 : Nat} {bs : List Nat} {s : St w} (h : CInv n0 bs s) (hu : ∀ t, ¬ Un s t) :
    CInv s.insts.size bs s := by
  refine ⟨h.linv, h.kv, Nat.le_refl _, ?_, ?_, h.comp, h.nojump, ?_, ?_⟩
  · intro j x hj hx
    have := lt_of_getElem? hx
    omega
  · intro t r hr hf ha
    exact absurd ⟨r, hr, hf, ha⟩ (hu t)
  · intro j x off hx ho
    have := h.tgt j x off hx ho
    have := h.n0le
    omega
  · intro b hb
    obtain ⟨g1, g2⟩ := h.starts b hb
    exact ⟨Nat.le_trans g1 h.n0le, g2⟩

theorem cinv_no_un {bs : List Nat} {s : St w} (h : CInv s.insts.size bs s) (t : Nat) : ¬ Un s t := by
  rintro ⟨r, hr, hf, ha⟩
  have := h.unNew t r hr hf ha
  have := (h.linv.rwf t r hr).1
  omega

theorem cinv_pushStep {n0 : Nat} {bs : List Nat} {s s' : St w} {ops : List Nat} {inst : Instr w} {nv : Option Nat}
    (P : PushStep s s' ops inst nv) (h : CInv n0 bs s)
    (hvals : ∀ p ∈ s'.values, p ∈ s.values ∨ (p.2 < s'.ranges.size ∧ ∀ o ∈ opsOf p.1, o ∈ ops))
    (hcomp : isComp inst = true) (hbr : branchOff? inst = none) :
    CInv n0 bs s' ∧ ∀ t, Un s' t → (Un s t ∧ t ∉ ops) ∨ nv = some t := by
  have hl' : LInv s' := P.linv h.linv (fun p hp => (hvals p hp).imp id (fun g => g.1))
  have hn : s'.insts.size = s.insts.size + 1 := by rw [P.hinsts]; simp
  have hget : ∀ j x, s'.insts[j]? = some x → (j < s.insts.size ∧ s.insts[j]? = some x) ∨ (j = s.insts.size ∧ x = inst) := by
    intro j x hx; rw [P.hinsts] at hx; exact getElem?_push_cases hx
  have hgetlt : ∀ j, j < s.insts.size → s'.insts[j]? = s.insts[j]? := by
    intro j hj; rw [P.hinsts]; exact getElem?_push_lt' _ _ hj
  have harith : ∀ (t : Nat) (r r' : RangeInfo), s.ranges[t]? = some r → r'.created = r.created →
      ArithAt s' t r' → ArithAt s t r := by
    intro t r r' hr hc ⟨op, a, b, hx⟩
    rw [hc] at hx
    have hlt := (h.linv.rwf t r hr).1
    rw [hgetlt _ hlt] at hx
    exact ⟨op, a, b, hx⟩
  have hfirstSome : ∀ (t : Nat) (r : RangeInfo), s.ranges[t]? = some r → ∀ f, r.firstUse = some f →
      ∃ r' : RangeInfo, s'.ranges[t]? = some r' ∧ r'.firstUse = some f := by
    intro t r hr f hf
    by_cases hto : t ∈ ops
    · obtain ⟨r0, r', g1, g2, g3⟩ := P.hhit t hto
      rw [hr] at g1; cases g1
      exact ⟨r', g2, g3.firstSome f hf⟩
    · exact ⟨r, by rw [P.hmiss t hto (lt_of_getElem? hr)]; exact hr, hf⟩
  refine ⟨⟨hl', ?_, by have := h.n0le; omega, ?_, ?_, ?_, ?_, ?_, ?_⟩, ?_⟩
  · intro p hp o ho
    rcases hvals p hp with e | ⟨_, e⟩
    · obtain ⟨r, f, g1, g2⟩ := h.kv p e o ho
      obtain ⟨r', q1, q2⟩ := hfirstSome o r g1 f g2
      exact ⟨r', f, q1, q2⟩
    · obtain ⟨r, r', g1, g2, g3⟩ := P.hhit o (e o ho)
      cases hfo : r.firstUse with
      | none => exact ⟨r', _, g2, g3.firstNone hfo⟩
      | some f0 => exact ⟨r', f0, g2, g3.firstSome f0 hfo⟩
  · intro j x hj hx
    rcases hget j x hx with ⟨_, e⟩ | ⟨_, rfl⟩
    · exact h.compNew j x hj e
    · exact hcomp
  · intro t r' hr' hf ha
    rcases P.ent hr' with ⟨_, r, g1, g2⟩ | ⟨_, _, g1⟩ | ⟨_, _, rfl⟩
    · cases hfo : r.firstUse with
      | none => rw [g2.firstNone hfo] at hf; cases hf
      | some f0 => rw [g2.firstSome f0 hfo] at hf; cases hf
    · exact h.unNew t r' g1 hf (harith t r' r' g1 rfl ha)
    · exact h.n0le
  · intro t r' f hr' hf ha j x hij hjf hx
    have hflt : f < s'.insts.size := by
      obtain ⟨_, y, hy, _⟩ := (hl'.rwf t r' hr').2.2 f hf
      exact lt_of_getElem? hy
    have hxs : s.insts[j]? = some x := by rw [← hgetlt j (by omega)]; exact hx
    rcases P.ent hr' with ⟨_, r, g1, g2⟩ | ⟨_, _, g1⟩ | ⟨_, _, rfl⟩
    · have ha' := harith t r r' g1 g2.created ha
      cases hfo : r.firstUse with
      | none =>
        rw [g2.firstNone hfo] at hf; cases hf
        have := h.unNew t r g1 hfo ha'
        rw [g2.created] at hij
        exact h.compNew j x (by omega) hxs
      | some f0 =>
        rw [g2.firstSome f0 hfo] at hf; cases hf
        rw [g2.created] at hij
        exact h.comp t r f g1 hfo ha' j x hij hjf hxs
    · exact h.comp t r' f g1 hf (harith t r' r' g1 rfl ha) j x hij hjf hxs
    · cases hf
  · intro t r' f hr' hf ha j x off hx ho
    have hxs : s.insts[j]? = some x := by
      rcases hget j x hx with ⟨_, e⟩ | ⟨_, rfl⟩
      · exact e
      · rw [hbr] at ho; cases ho
    rcases P.ent hr' with ⟨_, r, g1, g2⟩ | ⟨_, _, g1⟩ | ⟨_, _, rfl⟩
    · have ha' := harith t r r' g1 g2.created ha
      cases hfo : r.firstUse with
      | none =>
        have := h.unNew t r g1 hfo ha'
        have := h.tgt j x off hxs ho
        rw [g2.created]
        omega
      | some f0 =>
        rw [g2.firstSome f0 hfo] at hf; cases hf
        rw [g2.created]
        exact h.nojump t r f g1 hfo ha' j x off hxs ho
    · exact h.nojump t r' f g1 hf (harith t r' r' g1 rfl ha) j x off hxs ho
    · cases hf
  · intro j x off hx ho
    rcases hget j x hx with ⟨_, e⟩ | ⟨_, rfl⟩
    · exact h.tgt j x off e ho
    · rw [hbr] at ho; cases ho
  · intro b hb
    obtain ⟨g1, g2⟩ := h.starts b hb
    refine ⟨g1, ?_⟩
    intro t r' hr' ha hc
    rcases P.ent hr' with ⟨_, r, q1, q2⟩ | ⟨_, _, q1⟩ | ⟨_, _, rfl⟩
    · obtain ⟨f, p1, p2⟩ := g2 t r q1 (harith t r r' q1 q2.created ha) (by rw [← q2.created]; exact hc)
      exact ⟨f, q2.firstSome f p1, p2⟩
    · exact g2 t r' q1 (harith t r' r' q1 rfl ha) hc
    · simp only at hc
      have := h.n0le
      omega
  · intro t ⟨r', hr', hf, ha⟩
    rcases P.ent hr' with ⟨_, r, g1, g2⟩ | ⟨hto, _, g1⟩ | ⟨e, _, _⟩
    · cases hfo : r.firstUse with
      | none => rw [g2.firstNone hfo] at hf; cases hf
      | some f0 => rw [g2.firstSome f0 hfo] at hf; cases hf
    · exact Or.inl ⟨⟨r', g1, hf, harith t r' r' g1 rfl ha⟩, hto⟩
    · exact Or.inr e

theorem isComp_gvInst (e : GvnExpr w) (v : Nat) : isComp (gvInst e v) = true := by cases e <;> rfl
theorem branchOff?_gvInst (e : GvnExpr w) (v : Nat) : branchOff? (gvInst e v) = none := by cases e <;> rfl

theorem cinv_getValue {n0 : Nat} {bs : List Nat} {e : GvnExpr w} {s s' : St w} {v : Nat} (h : CInv n0 bs s)
    (hops : ∀ a ∈ opsOf e, a < s.ranges.size) (hg : getValue e s = .ok (v, s')) :
    CInv n0 bs s' ∧ v < s'.ranges.size ∧ ∀ t, Un s' t → (Un s t ∧ t ∉ opsOf e) ∨ t = v := by
  rcases getValue_spec hg with ⟨hv, rfl⟩ | ⟨rfl, N⟩
  · refine ⟨h, h.linv.vals _ (mem_of_alGet hv), ?_⟩
    intro t ht
    refine Or.inl ⟨ht, ?_⟩
    intro hto
    obtain ⟨r, f, g1, g2⟩ := h.kv _ (mem_of_alGet hv) t hto
    obtain ⟨r', q1, q2, _⟩ := ht
    rw [g1] at q1; cases q1
    rw [g2] at q2; cases q2
  · obtain ⟨P, hvals⟩ := pushStep_getValue hops N
    obtain ⟨c1, c2⟩ := cinv_pushStep P h (by
      intro p hp
      rw [hvals] at hp
      rcases mem_alSet hp with rfl | hp
      · exact Or.inr ⟨by rw [P.hsize]; simp, fun o ho => ho⟩
      · exact Or.inl hp) (isComp_gvInst _ _) (branchOff?_gvInst _ _)
    refine ⟨c1, by rw [P.hsize]; simp, ?_⟩
    intro t ht
    rcases c2 t ht with g | g
    · exact Or.inl g
    · exact Or.inr (Option.some.inj g).symm

theorem cinv_memWrite {n0 : Nat} {bs : List Nat} {var : Int} {x : Nat} {s s' : St w} {u : Unit}
    (h : CInv n0 bs s) (hx : x < s.ranges.size) (hm : memWrite var x s = .ok (u, s')) :
    CInv n0 bs s' ∧ ∀ t, Un s' t → Un s t ∧ t ≠ x := by
  obtain ⟨P, hvals⟩ := pushStep_memWrite hx hm
  obtain ⟨c1, c2⟩ := cinv_pushStep P h (by
    intro p hp
    rw [hvals] at hp
    rcases mem_alSet hp with rfl | hp
    · exact Or.inr ⟨by rw [P.hsize]; simpa using hx, fun o ho => by simp [opsOf] at ho⟩
    · exact Or.inl hp) rfl rfl
  refine ⟨c1, ?_⟩
  intro t ht
  rcases c2 t ht with ⟨g1, g2⟩ | g
  · exact ⟨g1, by simpa using g2⟩
  · cases g

theorem cinv_calc {bs : List Nat} {calcs : List (Int × Expr w)} {s s1 s' : St w} {vals : List (Int × Nat)}
    {u : Unit} (h : CInv s.insts.size bs s) (hc : calcValues calcs s = .ok (vals, s1))
    (hm : memWrites vals s1 = .ok (u, s')) : CInv s'.insts.size bs s' := by
  obtain ⟨k1, v1, _, f1⟩ := calcValues_walk (K := CInv s.insts.size bs) (V := fun a x => x < a.ranges.size)
    (Un := Un)
    (fun e a v a' hk ho hh =>
      ⟨(cinv_getValue hk ho hh).1, (cinv_getValue hk ho hh).2.1, lt_size_mono (getValue_size hh),
        (cinv_getValue hk ho hh).2.2⟩) calcs hc h
  obtain ⟨k2, _, f2⟩ := memWrites_walk (K := CInv s.insts.size bs) (V := fun a x => x < a.ranges.size) (Un := Un)
    (fun var x a a' u hk hx hh =>
      ⟨(cinv_memWrite hk hx hh).1, lt_size_mono (Nat.le_of_eq (memWrite_size hh).symm), (cinv_memWrite hk hx hh).2⟩)
    vals hm k1 v1
  refine cinv_advance k2 ?_
  intro t ht
  obtain ⟨g1, g2⟩ := f2 t ht
  rcases f1 t g1 with q | ⟨p, hp, e⟩
  · exact cinv_no_un h t q
  · exact g2 p hp e

theorem arithAt_frame {s s' : St w} {t : Nat} {r : RangeInfo}
    (hi : ∀ j, j < s.insts.size → s'.insts[j]? = s.insts[j]?) (hc : r.created < s.insts.size) :
    ArithAt s' t r ↔ ArithAt s t r := by
  unfold ArithAt; rw [hi _ hc]

theorem first_lt {s : St w} (h : LInv s) {t : Nat} {r : RangeInfo} {f : Nat} (hr : s.ranges[t]? = some r)
    (hf : r.firstUse = some f) : f < s.insts.size := by
  obtain ⟨_, y, hy, _⟩ := (h.rwf t r hr).2.2 f hf
  exact lt_of_getElem? hy

/-- Appending an instruction between two IR instructions (the range table is unchanged); a branch jumps to a
recorded loop start. -/
theorem cinv_append {bs : List Nat} {s s' : St w} (h : CInv s.insts.size bs s) {x : Instr w} (hl' : LInv s')
    (e1 : s'.insts = s.insts.push x) (e2 : s'.ranges = s.ranges) (e3 : ∀ p ∈ s'.values, p ∈ s.values)
    (hbr : ∀ off, branchOff? x = some off → ∃ b ∈ bs, (s.insts.size : Int) + off = (b : Int)) :
    CInv s'.insts.size bs s' := by
  have hsz : s'.insts.size = s.insts.size + 1 := by rw [e1]; simp
  have hget : ∀ j y, s'.insts[j]? = some y →
      (j < s.insts.size ∧ s.insts[j]? = some y) ∨ (j = s.insts.size ∧ y = x) :=
    fun j y hy => getElem?_push_cases (by rw [← e1]; exact hy)
  have hlt : ∀ j, j < s.insts.size → s'.insts[j]? = s.insts[j]? :=
    fun j hj => by rw [e1]; exact getElem?_push_lt' _ _ hj
  have har : ∀ (t : Nat) (r : RangeInfo), s.ranges[t]? = some r → (ArithAt s' t r ↔ ArithAt s t r) :=
    fun t r hr => arithAt_frame hlt (h.linv.rwf t r hr).1
  refine ⟨hl', ?_, Nat.le_refl _, ?_, ?_, ?_, ?_, ?_, ?_⟩
  · intro p hp o ho; rw [e2]; exact h.kv p (e3 p hp) o ho
  · intro j y hj hy
    have := lt_of_getElem? hy
    omega
  · intro t r hr hf ha
    rw [e2] at hr
    exact absurd ⟨r, hr, hf, (har t r hr).1 ha⟩ (cinv_no_un h t)
  · intro t r f hr hf ha j y hij hjf hy
    rw [e2] at hr
    have := first_lt h.linv hr hf
    exact h.comp t r f hr hf ((har t r hr).1 ha) j y hij hjf (by rw [← hlt j (by omega)]; exact hy)
  · intro t r f hr hf ha j y off hy ho
    rw [e2] at hr
    rcases hget j y hy with ⟨_, e⟩ | ⟨rfl, rfl⟩
    · exact h.nojump t r f hr hf ((har t r hr).1 ha) j y off e ho
    · obtain ⟨b, hb, hbe⟩ := hbr off ho
      obtain ⟨_, g2⟩ := h.starts b hb
      intro hcon
      rw [hbe] at hcon
      obtain ⟨f', p1, p2⟩ := g2 t r hr ((har t r hr).1 ha) (by omega)
      rw [hf] at p1; cases p1
      omega
  · intro j y off hy ho
    rcases hget j y hy with ⟨_, e⟩ | ⟨rfl, rfl⟩
    · have := h.tgt j y off e ho
      omega
    · obtain ⟨b, hb, hbe⟩ := hbr off ho
      have := (h.starts b hb).1
      omega
  · intro b hb
    obtain ⟨g1, g2⟩ := h.starts b hb
    exact ⟨by omega, fun t r hr ha hc => by
      rw [e2] at hr; exact g2 t r hr ((har t r hr).1 ha) hc⟩

theorem cinv_ctl {bs : List Nat} {s : St w} (h : CInv s.insts.size bs s) {x : Instr w} (hx : isCtl x = true)
    (hbr : ∀ off, branchOff? x = some off → ∃ b ∈ bs, (s.insts.size : Int) + off = (b : Int)) :
    CInv (s.insts.push x).size bs { s with insts := s.insts.push x } :=
  cinv_append (s' := { s with insts := s.insts.push x }) h (linv_push h.linv hx) rfl rfl
    (fun p hp => hp) hbr

theorem cinv_ranges {n0 : Nat} {bs : List Nat} {s s' : St w} (h : CInv n0 bs s) (hl' : LInv s')
    (e2 : s'.insts = s.insts) (e3 : ∀ p ∈ s'.values, p ∈ s.values)
    (hb : ∀ (t : Nat) (r' : RangeInfo), s'.ranges[t]? = some r' →
      ∃ r : RangeInfo, s.ranges[t]? = some r ∧ r'.created = r.created ∧ r'.firstUse = r.firstUse)
    (hf : ∀ (t : Nat) (r : RangeInfo), s.ranges[t]? = some r →
      ∃ r' : RangeInfo, s'.ranges[t]? = some r' ∧ r'.created = r.created ∧ r'.firstUse = r.firstUse) :
    CInv n0 bs s' := by
  have har : ∀ (t : Nat) (r r' : RangeInfo), r'.created = r.created → (ArithAt s' t r' ↔ ArithAt s t r) := by
    intro t r r' hc; unfold ArithAt; rw [e2, hc]
  refine ⟨hl', ?_, by rw [e2]; exact h.n0le, by rw [e2]; exact h.compNew, ?_, ?_, ?_, by rw [e2]; exact h.tgt, ?_⟩
  · intro p hp o ho
    obtain ⟨r, f, g1, g2⟩ := h.kv p (e3 p hp) o ho
    obtain ⟨r', q1, _, q3⟩ := hf o r g1
    exact ⟨r', f, q1, by rw [q3]; exact g2⟩
  · intro t r' hr' hfn ha
    obtain ⟨r, g1, g2, g3⟩ := hb t r' hr'
    rw [g2]
    exact h.unNew t r g1 (by rw [← g3]; exact hfn) ((har t r r' g2).1 ha)
  · intro t r' f hr' hfs ha
    obtain ⟨r, g1, g2, g3⟩ := hb t r' hr'
    rw [g2, e2]
    exact h.comp t r f g1 (by rw [← g3]; exact hfs) ((har t r r' g2).1 ha)
  · intro t r' f hr' hfs ha
    obtain ⟨r, g1, g2, g3⟩ := hb t r' hr'
    rw [g2, e2]
    exact h.nojump t r f g1 (by rw [← g3]; exact hfs) ((har t r r' g2).1 ha)
  · intro b hbm
    obtain ⟨q1, q2⟩ := h.starts b hbm
    refine ⟨q1, ?_⟩
    intro t r' hr' ha hc
    obtain ⟨r, g1, g2, g3⟩ := hb t r' hr'
    obtain ⟨f, p1, p2⟩ := q2 t r g1 ((har t r r' g2).1 ha) (by rw [← g2]; exact hc)
    exact ⟨f, by rw [g3]; exact p1, p2⟩

theorem cinv_frame {n0 : Nat} {bs : List Nat} {s s' : St w} (h : CInv n0 bs s) (hl' : LInv s')
    (e1 : s'.ranges = s.ranges) (e2 : s'.insts = s.insts) (e3 : ∀ p ∈ s'.values, p ∈ s.values) :
    CInv n0 bs s' :=
  cinv_ranges h hl' e2 e3 (fun t r' g => ⟨r', e1 ▸ g, rfl, rfl⟩) (fun t r g => ⟨r, e1.symm ▸ g, rfl, rfl⟩)

theorem cinv_patch {bs : List Nat} {s : St w} (h : CInv s.insts.size bs s) {i : Nat} (c off : Int)
    (hi : s.insts[i]? = some .noop) (ht : (i : Int) + off = (s.insts.size : Int)) :
    CInv s.insts.size bs { s with insts := s.insts.setIfInBounds i (.brz c off) } := by
  have hl' := linv_patch h.linv c off hi
  have hlt : i < s.insts.size := lt_of_getElem? hi
  have hget : ∀ j x, (s.insts.setIfInBounds i (.brz c off))[j]? = some x →
      (j = i ∧ x = .brz c off) ∨ (j ≠ i ∧ s.insts[j]? = some x) := fun _ _ => getElem?_setIfInBounds_cases
  have har : ∀ t r, ArithAt { s with insts := s.insts.setIfInBounds i (.brz c off) } t r → ArithAt s t r := by
    intro t r ⟨op, a, b, hx⟩
    rcases hget _ _ hx with ⟨_, e⟩ | ⟨_, e⟩
    · cases op <;> cases e
    · exact ⟨op, a, b, e⟩
  refine ⟨hl', h.kv, by simp, ?_, ?_, ?_, ?_, ?_, ?_⟩
  · intro j y hj hy
    have := lt_of_getElem? hy
    simp at this; omega
  · intro t r hr hf ha
    exact h.unNew t r hr hf (har t r ha)
  · intro t r f hr hf ha j y hij hjf hy
    rcases hget j y hy with ⟨rfl, _⟩ | ⟨_, e⟩
    · have := h.comp t r f hr hf (har t r ha) j .noop hij hjf hi
      cases this
    · exact h.comp t r f hr hf (har t r ha) j y hij hjf e
  · intro t r f hr hf ha j y off' hy ho
    rcases hget j y hy with ⟨rfl, rfl⟩ | ⟨_, e⟩
    · simp only [branchOff?, Option.some.injEq] at ho
      subst ho
      have := first_lt h.linv hr hf
      omega
    · exact h.nojump t r f hr hf (har t r ha) j y off' e ho
  · intro j y off' hy ho
    rcases hget j y hy with ⟨rfl, rfl⟩ | ⟨_, e⟩
    · simp only [branchOff?, Option.some.injEq] at ho
      subst ho
      omega
    · exact h.tgt j y off' e ho
  · intro b hb
    obtain ⟨g1, g2⟩ := h.starts b hb
    exact ⟨g1, fun t r hr ha hc => g2 t r hr (har t r ha) hc⟩

theorem cinv_extend {n0 : Nat} {bs : List Nat} {s s' : St w} (h : CInv n0 bs s) {v : Nat} (E : ExtSpec v 0 s s')
    (hf : ∃ (r : RangeInfo) (f : Nat), s.ranges[v]? = some r ∧ r.firstUse = some f) : CInv n0 bs s' := by
  obtain ⟨⟨r, hr, hr'⟩, hother⟩ := ext_ranges E
  obtain ⟨r0, f, hr0, hf0⟩ := hf
  rw [hr] at hr0; cases hr0
  have hb : bump r s.insts.size 0 = { r with lastUse := some s.insts.size } := by
    simp [bump, hf0]
  refine cinv_ranges h (linv_extend h.linv E ⟨r, f, hr, hf0⟩) E.insts (by rw [E.values]; exact fun p hp => hp) ?_ ?_
  · intro t q hq
    by_cases e : t = v
    · subst e
      rw [hr', hb] at hq
      cases hq
      exact ⟨r, hr, rfl, rfl⟩
    · rw [hother t e] at hq; exact ⟨q, hq, rfl, rfl⟩
  · intro t q hq
    by_cases e : t = v
    · subst e
      rw [hr] at hq; cases hq
      exact ⟨_, hr', by rw [hb], by rw [hb]⟩
    · exact ⟨q, by rw [hother t e]; exact hq, rfl, rfl⟩

theorem cinv_outer {n0 : Nat} {bs : List Nat} (ps : Nat) (fuel i : Nat) {s s' : St w} {u : Unit}
    (h : outerLoop ps fuel i s = .ok (u, s')) (hJ : CInv n0 bs s) : CInv n0 bs s' :=
  (outerLoop_inv ps (P := CInv n0 bs)
    (fun s s2 v hl hc hv E => cinv_extend hc E (hl.oa v hv))
    (fun s oa hl hc hsub => cinv_frame hc (linv_frame hl rfl rfl rfl rfl (fun p hp => hp) hsub) rfl rfl
      (fun p hp => hp))
    fuel i h hJ.linv hJ).2

/-- `c` = starts of the enclosing loops, `ps` = start of the innermost one. -/
def RInv (c : List Nat) (ps : Nat) (_a : Analysis) (_l : List (Ir.Instr w)) (s : St w) : Prop :=
  s.currentStart = ps ∧ CInv s.insts.size (ps :: c) s

theorem cinv_sub {n0 : Nat} {bs bs' : List Nat} {s : St w} (h : CInv n0 bs s) (hs : ∀ b ∈ bs', b ∈ bs) :
    CInv n0 bs' s :=
  ⟨h.linv, h.kv, h.n0le, h.compNew, h.unNew, h.comp, h.nojump, h.tgt, fun b hb => h.starts b (hs b hb)⟩

/-- Entering a loop: its start is a position at which everything has been read. -/
theorem cinv_enter {bs : List Nat} {s : St w} (h : CInv s.insts.size bs s) :
    CInv s.insts.size (s.insts.size :: bs) s := by
  refine ⟨h.linv, h.kv, h.n0le, h.compNew, h.unNew, h.comp, h.nojump, h.tgt, ?_⟩
  intro b hb
  rcases List.mem_cons.1 hb with rfl | hb
  · refine ⟨Nat.le_refl _, ?_⟩
    intro t r hr ha _
    cases hf : r.firstUse with
    | none => exact absurd ⟨r, hr, hf, ha⟩ (cinv_no_un h t)
    | some f => exact ⟨f, rfl, first_lt h.linv hr hf⟩
  · exact h.starts b hb

theorem cinv_values {n0 : Nat} {bs : List Nat} {s : St w} (h : CInv n0 bs s) (vs : List (GvnExpr w × Nat))
    (hsub : ∀ p ∈ vs, p ∈ s.values) : CInv n0 bs { s with values := vs } :=
  cinv_frame h (closed_linv.values _ _ h.linv hsub) rfl rfl hsub

theorem lhExit_cinv {n0 : Nat} {bs : List Nat} (once : Bool) (sub : Analysis) (pe : Nat) {s : St w}
    (h : CInv n0 bs s) : CInv n0 bs (lhExit once sub pe s) :=
  lhExit_J (fun _ vs h hs => cinv_values h vs hs) once sub pe h

theorem lhHead_cinv {n0 : Nat} {bs : List Nat} (isLoop : Bool) (sub : Analysis) {s : St w}
    (h : CInv n0 bs s) : CInv n0 bs (lhHead isLoop sub s) :=
  lhHead_J (fun _ vs h hs => cinv_values h vs hs) isLoop sub h

theorem readsSpec_currentStart : ∀ (l : List Nat) {s s' : St w}, ReadsSpec l s s' →
    s'.currentStart = s.currentStart
  | [], s, s', h => by rw [h]
  | a :: rest, s, s', ⟨s1, h1, h2⟩ => by rw [readsSpec_currentStart rest h2, h1.currentStart]

theorem lhExit_currentStart (once : Bool) (sub : Analysis) (pe : Nat) (s : St w) :
    (lhExit once sub pe s).currentStart = s.currentStart := by
  rw [lhExit_eq]
theorem lhHead_currentStart (isLoop : Bool) (sub : Analysis) (s : St w) :
    (lhHead isLoop sub s).currentStart = s.currentStart := by
  rw [lhHead_eq]

theorem cinv_lhMov {bs : List Nat} {sb : St w} (hb : CInv sb.insts.size bs sb) (shift : Int) :
    CInv (lhMov shift sb).insts.size bs (lhMov shift sb) := by
  unfold lhMov
  split
  · exact hb
  · exact cinv_ctl (x := .mov shift) hb rfl (fun off ho => by cases ho)

theorem cinv_start {n0 : Nat} {bs : List Nat} {s : St w} (h : CInv n0 bs s) (c : Nat) :
    CInv n0 bs { s with currentStart := c } :=
  cinv_frame h (closed_linv.start _ _ h.linv) rfl rfl (fun p hp => hp)

/-- The placeholder before the block becomes the `brz` to the current end. -/
theorem cinv_lhPatch {bs : List Nat} {s : St w} (h : CInv s.insts.size bs s) (cond : Int) {start : Nat}
    (hn : s.insts[start - 1]? = some .noop) :
    CInv (lhPatch cond start s).insts.size bs (lhPatch cond start s) := by
  have hp := cinv_patch h cond ((s.insts.size : Int) - ((start - 1 : Nat) : Int)) hn (by omega)
  simpa [lhPatch] using hp

theorem closedI_rinv (fuse : Bool) : ClosedI fuse (RInv (w := w)) where
  out := fun c ps a src rest s h =>
    ⟨h.1, cinv_ctl (x := .out src) h.2 rfl (fun off ho => by cases ho)⟩
  inp := fun c ps a dst rest s h =>
    ⟨h.1, cinv_append (x := .inp dst) h.2
      (closed_linv.values _ _ (linv_inp (CInv.linv h.2) dst) (fun p hp => mem_alErase hp)) rfl rfl
      (fun p hp => mem_alErase hp) (fun off ho => by cases ho)⟩
  calcR := fun c ps a calcs rest s vals s1 s' u h hc hm => by
    refine ⟨?_, cinv_calc h.2 hc hm⟩
    have h1 : s1.currentStart = s.currentStart :=
      calcValues_pres0 (K := fun x => x.currentStart = s.currentStart)
        (fun e x v x' hk hh => by
          rcases getValue_spec hh with ⟨_, rfl⟩ | ⟨_, N⟩
          · exact hk
          · obtain ⟨s2, h2, rfl⟩ := N.reads
            have := readsSpec_currentStart _ h2
            simp only at this ⊢
            rw [this]; exact hk) calcs hc rfl
    have h2 : s'.currentStart = s1.currentStart :=
      memWrites_pres0 (K := fun x => x.currentStart = s1.currentStart)
        (fun var y x x' u hk hh => by
          obtain ⟨s2, h2, rfl⟩ := memWrite_spec hh
          simp only
          rw [h2.currentStart]; exact hk) vals hm rfl
    rw [h2, h1]; exact h.1
  scan := fun c ps a cond shift once rest s _ h => by
    have h0 := lhHead_cinv true (subOf shift ([] : List (Ir.Instr w))) h.2
    rw [← lhHead_insts true (subOf shift ([] : List (Ir.Instr w))) s] at h0
    have h1 := cinv_ctl (x := .scan cond shift) h0 rfl (fun off ho => by cases ho)
    have h2 := lhExit_cinv once (subOf shift ([] : List (Ir.Instr w))) s.exprs.size h1
    refine ⟨?_, ?_⟩
    · rw [lhExit_currentStart]
      exact (lhHead_currentStart true (subOf shift ([] : List (Ir.Instr w))) s).trans h.1
    · rw [lhExit_insts]
      exact h2
  loop := fun c ps a cond shift body once rest s _ h => by
    have h0 := lhHead_cinv true (subOf shift body) h.2
    rw [← lhHead_insts true (subOf shift body) s] at h0
    have h1 : CInv (lhPro true once (lhHead true (subOf shift body) s)).insts.size
        ((lhPro true once (lhHead true (subOf shift body) s)).insts.size :: ps :: c)
        (lhPro true once (lhHead true (subOf shift body) s)) := by
      unfold lhPro
      cases once with
      | false =>
        simp only [Bool.false_eq_true, if_false, if_true]
        have := cinv_ctl (x := .noop) h0 rfl (fun off ho => by cases ho)
        have h2 := cinv_enter (s := { lhHead true (subOf shift body) s with
          insts := (lhHead true (subOf shift body) s).insts.push .noop }) this
        exact cinv_start h2 _
      | true =>
        simp only [if_true]
        have h2 := cinv_enter h0
        exact cinv_start h2 _
    have hcs : (lhPro true once (lhHead true (subOf shift body) s)).currentStart =
        (lhPro true once (lhHead true (subOf shift body) s)).insts.size := by
      unfold lhPro; cases once <;> rfl
    refine ⟨ps :: c, ⟨rfl, by rw [hcs]; exact h1⟩, ?_⟩
    intro sb so u1 u2 fuel _ hb hpre ho
    have hb := hb.2
    rw [hcs] at hb
    -- after the body: `mov`, `outerLoop`, `brnz`, the patch
    have hm := cinv_lhMov hb shift
    have hoI : so.insts = (lhMov shift sb).insts := by
      have := (outerLoop_core _ _ _ ho).1
      exact congrArg G.insts this
    have hso := cinv_outer ps fuel _ ho hm
    rw [← hoI] at hso
    have hz : CInv (lhBrnz cond (lhPro true once (lhHead true (subOf shift body) s)).insts.size so).insts.size
        ((lhPro true once (lhHead true (subOf shift body) s)).insts.size :: ps :: c)
        (lhBrnz cond (lhPro true once (lhHead true (subOf shift body) s)).insts.size so) := by
      have := cinv_ctl (x := .brnz cond (((lhPro true once (lhHead true (subOf shift body) s)).insts.size : Int) -
        (so.insts.size : Int))) hso rfl (fun off ho' => by
          simp only [branchOff?, Option.some.injEq] at ho'
          exact ⟨_, List.mem_cons_self, by omega⟩)
      exact this
    unfold RInv loopEnd
    refine ⟨by rw [lhExit_currentStart], ?_⟩
    rw [lhExit_insts]
    refine lhExit_cinv _ _ _ ?_
    cases once with
    | true =>
      simp only [if_true]
      exact cinv_start (cinv_sub hz (fun b hb' => List.mem_cons_of_mem _ hb')) _
    | false =>
      simp only [Bool.false_eq_true, if_false]
      have hnoop := placeholder_noop true _ (hpre.trans (pre_lhBrnz hoI cond
        (lhPro true false (lhHead true (subOf shift body) s)).insts.size))
      have hp' := cinv_lhPatch hz cond hnoop
      exact cinv_start (cinv_sub hp' (fun b hb' => List.mem_cons_of_mem _ hb')) _
  ifz := fun c ps a cond shift body rest s h => by
    have h1 : CInv (lhPro false false s).insts.size (ps :: c) (lhPro false false s) := by
      unfold lhPro
      simp only [Bool.false_eq_true, if_false]
      exact cinv_ctl (x := .noop) h.2 rfl (fun off ho => by cases ho)
    have hcs : (lhPro false false s).currentStart = ps := h.1
    refine ⟨c, ⟨rfl, by rw [hcs]; exact h1⟩, ?_⟩
    intro sb u1 _ hb hpre
    have hb := hb.2
    rw [hcs] at hb
    have hm := cinv_lhMov hb shift
    unfold RInv ifEnd
    refine ⟨by rw [lhExit_currentStart], ?_⟩
    rw [lhExit_insts]
    refine lhExit_cinv _ _ _ ?_
    have pm := pre_lhMov shift sb
    have hnoop := placeholder_noop false s (hpre.trans pm)
    exact cinv_start (cinv_lhPatch hm cond hnoop) _

theorem rinv_init (l : List (Ir.Instr w)) : RInv ([] : List Nat) 0 Analysis.empty l ({} : St w) := by
  refine ⟨rfl, linv_init, ?_, Nat.le_refl _, ?_, ?_, ?_, ?_, ?_, ?_⟩
  · intro p hp; cases hp
  · intro j x _ hx; simp at hx
  · intro t r hr; simp at hr
  · intro t r f hr; simp at hr
  · intro t r f hr; simp at hr
  · intro j x off hx; simp at hx
  · intro b hb
    simp only [List.mem_singleton] at hb
    subst hb
    exact ⟨Nat.le_refl _, fun t r hr => by simp at hr⟩

/-- Between a computation and its recorded first use the emitted code is straight-line. -/
theorem region_of_emit {prog : Ir.Block w} {fuse : Bool} {s : St w} (h : emitState prog fuse = .ok s)
    (i : Nat) (op : BcGen.Op) (t : Nat) (s0 s1 : Loc w) (f : Nat) (m : Int) (src : Loc w)
    (hc : Cand s i op t s0 s1 f m src) :
    (∀ (j : Nat) (x : Instr w), i < j → j < f → s.insts[j]? = some x → plain x = true) ∧
    (∀ (j : Nat) (x : Instr w) (off : Int), s.insts[j]? = some x → branchOff? x = some off →
      ¬ ((i : Int) < (j : Int) + off ∧ (j : Int) + off ≤ (f : Int))) := by
  have hR := (closedI_emitState (closedI_rinv fuse) h [] (rinv_init _)).2
  obtain ⟨c1, ⟨r, L, c2, c3, c4⟩, c5⟩ := hc
  obtain ⟨r0, g1, g2⟩ := hR.linv.defs i _ t c1 (by rw [Alloc.defs_mkArith]; simp [locTmp])
  rw [c2] at g1; cases g1
  have ha : ArithAt s t r := ⟨op, s0, s1, by rw [g2]; exact c1⟩
  constructor
  · intro j x hij hjf hx
    have := hR.comp t r f c2 c3 ha j x (by omega) hjf hx
    cases x <;> simp [isComp] at this <;> rfl
  · intro j x off hx ho
    have := hR.nojump t r f c2 c3 ha j x off hx ho
    rw [g2] at this
    exact this

end AEmit
end C02
end Hpbf
