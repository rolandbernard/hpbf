/-
Property C11.  "For every valid program, width, level and generator setting, the bytecode program is
self-consistent: every branch lands on an instruction boundary inside the program, every tape operand
lies inside the declared access window (which contains 0), every temporary index is below the declared
count, no temporary is read before it is written on any path, and every register temporary whose value
is still needed after a non-branch instruction (the ones that may call the runtime or reuse an operand
register) is declared live across it."

The contract is decided per bytecode program by the executable checker `BcWf.check p numRegs`
(`Hpbf/BcWf.lean`; run on the output of the real generator by the `bcwf` suite).  This file proves the
checker SOUND with respect to the execution semantics `Bc.step` / `Bc.runCfg` / `Bc.run`
(`Hpbf/Bc.lean`, validated against the threaded interpreter): `check p numRegs = true` implies the
contract on EVERY execution path, for every initial temporaries (the JIT starts with garbage
registers), budget, state/environment, fuel and mode (`limited`).

Vocabulary (defined in `Hpbf/Proofs/C11.lean`, `C11Basic.lean`, `C11Step.lean`, `C11Agree.lean`):
* `Reach p limited c`   – `c` is reachable by `Bc.step p limited` (`.next`) from some
                          `{pc := 0, temps := t0, budget := b, st := s}` (all four arbitrary).
* `Wr p limited c W`    – the same, instrumented with the list `W` of temporaries written so far.
* `Bc.touched ins`      – `= BcWf.memOps ins`, the tape offsets of the instruction.
* `StepRes.cfg/.tag`, `Outcome.cfg/.tag` – configuration carried by a result and its constructor.
* `ObsEq o1 o2`         – same outcome constructor, same final pc, `st` (tape, ptr, env, trace), budget.
* `Sim A c1 c2`         – equal pc/st/budget, temporaries agree on the set `A`.
* `liveSet p O pc`      – `liveIn (p.insts[pc]) (O[pc])`, empty at the exit.
* `TapeSim X c1 c2`     – equal pc/temps/budget/ptr/env/trace, tapes agree on the address set `X`.
The theorems are proved for ARBITRARY solution arrays accepted by `initOk` / `liveOk`
(`*_of_initOk`, `*_of_liveOk`) and then instantiated with the computed ones tested by `check`.
-/
import Hpbf.Proofs.C11

namespace Hpbf
namespace C11

open Bc BcWf

variable {w : Nat} {p : Program w} {numRegs : Nat} {limited : Bool}

/-! The observation vocabulary is transparent: -/
example (o1 o2 : Outcome w) : ObsEq o1 o2 ↔
    (o1.tag = o2.tag ∧ o1.cfg.pc = o2.cfg.pc ∧ o1.cfg.st = o2.cfg.st ∧ o1.cfg.budget = o2.cfg.budget) :=
  Iff.rfl
example (c : Cfg w) : (Outcome.done c).tag = 0 ∧ (Outcome.stopped c).tag = 1 ∧
    (Outcome.interrupted c).tag = 2 ∧ (Outcome.bad c).tag = 3 ∧ (Outcome.outOfFuel c).tag = 4 :=
  ⟨rfl, rfl, rfl, rfl, rfl⟩
example (c : Cfg w) : (Outcome.done c).cfg = c ∧ (Outcome.stopped c).cfg = c ∧
    (Outcome.interrupted c).cfg = c ∧ (Outcome.bad c).cfg = c ∧ (Outcome.outOfFuel c).cfg = c :=
  ⟨rfl, rfl, rfl, rfl, rfl⟩
example (c : Cfg w) : (StepRes.next c).tag = 0 ∧ (StepRes.halt c).tag = 1 ∧ (StepRes.stop c).tag = 2 ∧
    (StepRes.interrupted c).tag = 3 ∧ (StepRes.bad c).tag = 4 := ⟨rfl, rfl, rfl, rfl, rfl⟩
example (c : Cfg w) : (StepRes.next c).cfg = c ∧ (StepRes.halt c).cfg = c ∧ (StepRes.stop c).cfg = c ∧
    (StepRes.interrupted c).cfg = c ∧ (StepRes.bad c).cfg = c := ⟨rfl, rfl, rfl, rfl, rfl⟩
example (ins : Instr w) : Bc.touched ins = memOps ins := rfl
example (A : Nat → Prop) (c1 c2 : Cfg w) : Sim A c1 c2 ↔
    (c1.pc = c2.pc ∧ c1.st = c2.st ∧ c1.budget = c2.budget ∧
      ∀ t, A t → tget c1.temps t = tget c2.temps t) :=
  ⟨fun h => ⟨h.pc, h.st, h.budget, h.temps⟩, fun ⟨a, b, c, d⟩ => ⟨a, b, c, d⟩⟩
example (O : Array (List Nat)) (i t : Nat) : liveSet p O i t ↔
    ∃ ins, p.insts[i]? = some ins ∧ t ∈ liveIn ins (BcWf.getD O i) := Iff.rfl
/-- Reachability and the instrumented run describe the same configurations. -/
theorem reach_iff_wr {c : Cfg w} : Reach p limited c ↔ ∃ W, Wr p limited c W :=
  ⟨Reach.wr, fun ⟨_, h⟩ => h.reach⟩

/-- What `check` establishes: the three groups of facts the soundness proofs use. -/
theorem check_facts (h : check p numRegs = true) :
    LocalFacts p ∧ InitFacts p (initSolve p) ∧ LiveFacts p numRegs (liveSolve p) := by
  simp only [check, Bool.and_eq_true] at h
  exact ⟨localOk_facts h.1.1, initOk_facts h.1.2, liveOk_facts h.2⟩

/-! Branches land inside the program; nothing malformed is ever executed. -/

/-- Static form: the target of every branch is an instruction index or the exit. -/
theorem check_branch_target (h : check p numRegs = true) {i : Nat} {cond off : Int}
    (hi : p.insts[i]? = some (.brz cond off) ∨ p.insts[i]? = some (.brnz cond off)) :
    0 ≤ (i : Int) + off ∧ (i : Int) + off ≤ p.insts.size := by
  have L := (check_facts h).1
  have key : (branchTarget i off p.insts.size).isSome = true := by
    rcases hi with hi | hi
    · simpa [succs] using L.succ hi
    · simpa [succs] using L.succ hi
  simp only [branchTarget] at key
  split at key
  · assumption
  · cases key

theorem check_pc_le (h : check p numRegs = true) {c : Cfg w} (hr : Reach p limited c) :
    c.pc ≤ p.insts.size :=
  reach_pc_le (check_facts h).1 hr

theorem check_no_bad (h : check p numRegs = true) {c : Cfg w} (hr : Reach p limited c) :
    ∀ c', Bc.step p limited c ≠ .bad c' :=
  reach_no_bad (check_facts h).1 hr

theorem check_runCfg_not_bad (h : check p numRegs = true) {c : Cfg w} (hr : Reach p limited c)
    (fuel : Nat) : ∀ c', Bc.runCfg p limited fuel c ≠ .bad c' :=
  runCfg_not_bad (check_facts h).1 fuel hr

theorem check_run_not_bad (h : check p numRegs = true) (limited : Bool) (b fuel : Nat) (env : Env) :
    ∀ c', Bc.run p limited b fuel env ≠ .bad c' :=
  run_not_bad (check_facts h).1 limited b fuel env

/-! Tape operands lie in the declared window; a step touches nothing else. -/

theorem check_window (h : check p numRegs = true) {i : Nat} {ins : Instr w} {o : Int}
    (hi : p.insts[i]? = some ins) (ho : o ∈ memOps ins) : p.minAcc ≤ o ∧ o ≤ p.maxAcc :=
  (check_facts h).1.window hi o ho

theorem check_window_zero (h : check p numRegs = true) : p.minAcc ≤ 0 ∧ 0 ≤ p.maxAcc :=
  ⟨(check_facts h).1.min0, (check_facts h).1.max0⟩

/-- Frame lemma (holds for every program): a step changes no tape cell other than `ptr + o` with
`o ∈ touched ins`, whatever its result (`.next`, `.stop`, …); `mov`/`scan` move the pointer only. -/
theorem step_frame_any {c : Cfg w} {ins : Instr w} (hi : p.insts[c.pc]? = some ins) {x : Int}
    (hx : ∀ o ∈ Bc.touched ins, x ≠ c.st.ptr + o) :
    (Bc.step p limited c).cfg.st.tape.get x = c.st.tape.get x := by
  rw [step_eq hi]
  exact stepI_frame p limited c ins hx

theorem step_frame_next {c c' : Cfg w} {ins : Instr w} (hi : p.insts[c.pc]? = some ins)
    (hs : Bc.step p limited c = .next c') :
    ∀ x, (∀ o ∈ memOps ins, x ≠ c.st.ptr + o) → c'.st.tape.get x = c.st.tape.get x := by
  intro x hx
  have := step_frame_any (limited := limited) hi hx
  rw [hs] at this
  exact this

/-- Past the end of the program nothing changes at all. -/
theorem step_frame_exit {c : Cfg w} (hi : p.insts[c.pc]? = none) : (Bc.step p limited c).cfg = c := by
  rw [step_none hi]
  split <;> rfl

/-- The pointer is moved by `mov`/`scan` only, by their shift. -/
theorem step_ptr {c : Cfg w} {ins : Instr w} (hi : p.insts[c.pc]? = some ins) :
    (Bc.step p limited c).cfg.st.ptr = c.st.ptr ∨
    (∃ sh, ins = .mov sh ∧ (Bc.step p limited c).cfg.st.ptr = c.st.ptr + sh) ∨
    (∃ cond sh, ins = .scan cond sh ∧ (Bc.step p limited c).cfg.st.ptr = c.st.ptr + sh) := by
  rw [step_eq hi]
  exact stepI_ptr p limited c ins

example (X : Int → Prop) (c1 c2 : Cfg w) : TapeSim X c1 c2 ↔
    (c1.pc = c2.pc ∧ c1.temps = c2.temps ∧ c1.budget = c2.budget ∧ c1.st.ptr = c2.st.ptr ∧
      c1.st.env = c2.st.env ∧ c1.st.trace = c2.st.trace ∧
      ∀ x, X x → c1.st.tape.get x = c2.st.tape.get x) :=
  ⟨fun h => ⟨h.pc, h.temps, h.budget, h.st.ptr, h.st.env, h.st.trace, h.st.tape⟩,
   fun ⟨a, b, c, d, e, f, g⟩ => ⟨a, b, c, ⟨d, e, f, g⟩⟩⟩

/-- Read set (holds for every program): the step depends on the tape only through the cells `ptr + o`,
`o ∈ touched ins`.  Two configurations whose tapes agree on a set `X` of addresses containing the touched
cells (and are otherwise equal) step to results with the same constructor that again agree on `X`
(and are otherwise equal). -/
theorem step_reads_touched {X : Int → Prop} {c1 c2 : Cfg w} {ins : Instr w}
    (hi : p.insts[c1.pc]? = some ins) (hsim : TapeSim X c1 c2)
    (hX : ∀ o ∈ Bc.touched ins, X (c1.st.ptr + o)) :
    (Bc.step p limited c1).tag = (Bc.step p limited c2).tag ∧
    TapeSim X (Bc.step p limited c1).cfg (Bc.step p limited c2).cfg :=
  step_tape hi hsim hX

/-- … in particular with `X` exactly the touched cells. -/
theorem step_touched_only {c1 c2 : Cfg w} {ins : Instr w} (hi : p.insts[c1.pc]? = some ins)
    (hsim : TapeSim (fun x => ∃ o ∈ Bc.touched ins, x = c1.st.ptr + o) c1 c2) :
    (Bc.step p limited c1).tag = (Bc.step p limited c2).tag ∧
    TapeSim (fun x => ∃ o ∈ Bc.touched ins, x = c1.st.ptr + o)
      (Bc.step p limited c1).cfg (Bc.step p limited c2).cfg :=
  step_tape hi hsim (fun o ho => ⟨o, ho, rfl⟩)

/-- Dynamic reading of the window: a step of a checked program changes no tape cell outside
`[ptr + minAcc, ptr + maxAcc]` (the pointer taken before the step). -/
theorem check_step_window (h : check p numRegs = true) (c : Cfg w) {x : Int}
    (hx : x < c.st.ptr + p.minAcc ∨ c.st.ptr + p.maxAcc < x) :
    (Bc.step p limited c).cfg.st.tape.get x = c.st.tape.get x := by
  cases hi : p.insts[c.pc]? with
  | none => rw [step_frame_exit hi]
  | some ins =>
    apply step_frame_any hi
    intro o ho
    have := check_window h hi ho
    omega

/-! Temporary indices are below the declared count. -/

theorem check_temps_lt (h : check p numRegs = true) {i : Nat} {ins : Instr w} {t : Nat}
    (hi : p.insts[i]? = some ins) (ht : t ∈ uses ins ++ defs ins) : t < p.temps :=
  (check_facts h).1.temps hi t ht

/-! No temporary is read before it is written, on any path. -/

/-- For an arbitrary accepted solution `I`: the definitely-initialised set of the current pc has been
written on the path actually taken. -/
theorem init_inv_of_initOk {I : Array (List Nat)} (hI : initOk p I = true) {c : Cfg w} {W : List Nat}
    (hw : Wr p limited c W) : ∀ t ∈ BcWf.getD I c.pc, t ∈ W :=
  init_inv (initOk_facts hI) hw

theorem check_init_of_initOk {I : Array (List Nat)} (hI : initOk p I = true) {c : Cfg w} {W : List Nat}
    {ins : Instr w} (hw : Wr p limited c W) (hi : p.insts[c.pc]? = some ins) :
    ∀ t ∈ uses ins, t ∈ W :=
  init_sound (initOk_facts hI) hw hi

theorem check_init (h : check p numRegs = true) {c : Cfg w} {W : List Nat} {ins : Instr w}
    (hw : Wr p limited c W) (hi : p.insts[c.pc]? = some ins) : ∀ t ∈ uses ins, t ∈ W :=
  init_sound (check_facts h).2.1 hw hi

/-- Consequence: the run does not depend on the initial contents of the temporaries. -/
theorem check_init_independent (h : check p numRegs = true) (limited : Bool) (fuel b : Nat)
    (s : State w) (t0 t0' : Temps w) :
    ObsEq (Bc.runCfg p limited fuel { pc := 0, temps := t0, budget := b, st := s })
      (Bc.runCfg p limited fuel { pc := 0, temps := t0', budget := b, st := s }) :=
  init_independent (check_facts h).2.1 limited fuel b s t0 t0'

/-- In particular the zero-initialised run of the interpreter (`Bc.run`) and a run from arbitrary
register contents are observationally equal. -/
theorem check_run_independent (h : check p numRegs = true) (limited : Bool) (fuel b : Nat) (env : Env)
    (t0 : Temps w) (hb : (limited && b == 0) = false) :
    ObsEq (Bc.run p limited b fuel env)
      (Bc.runCfg p limited fuel { pc := 0, temps := t0, budget := b, st := State.init env }) := by
  unfold Bc.run
  simp only [hb]
  exact check_init_independent h limited fuel b _ _ _

/-- General noninterference lemma, for an arbitrary accepted solution `O`. -/
theorem live_step_of_liveOk {O : Array (List Nat)} (hl : localOk p = true)
    (hO : liveOk p numRegs O = true) {c1 c2 : Cfg w} (hsim : Sim (liveSet p O c1.pc) c1 c2) :
    (Bc.step p limited c1).tag = (Bc.step p limited c2).tag ∧
    (Bc.step p limited c1).cfg.pc = (Bc.step p limited c2).cfg.pc ∧
    (Bc.step p limited c1).cfg.st = (Bc.step p limited c2).cfg.st ∧
    (Bc.step p limited c1).cfg.budget = (Bc.step p limited c2).cfg.budget ∧
    ∀ c1' c2', Bc.step p limited c1 = .next c1' → Bc.step p limited c2 = .next c2' →
      Sim (liveSet p O c1'.pc) c1' c2' := by
  obtain ⟨h1, ⟨h2, h3, h4⟩, h5⟩ := live_step (liveOk_facts hO) (limited := limited) hsim
  exact ⟨h1, h2, h3, h4, h5⟩

theorem check_live_step (h : check p numRegs = true) {c1 c2 : Cfg w}
    (hsim : Sim (liveSet p (liveSolve p) c1.pc) c1 c2) :
    (Bc.step p limited c1).tag = (Bc.step p limited c2).tag ∧
    (Bc.step p limited c1).cfg.pc = (Bc.step p limited c2).cfg.pc ∧
    (Bc.step p limited c1).cfg.st = (Bc.step p limited c2).cfg.st ∧
    (Bc.step p limited c1).cfg.budget = (Bc.step p limited c2).cfg.budget ∧
    ∀ c1' c2', Bc.step p limited c1 = .next c1' → Bc.step p limited c2 = .next c2' →
      Sim (liveSet p (liveSolve p) c1'.pc) c1' c2' := by
  simp only [check, Bool.and_eq_true] at h
  exact live_step_of_liveOk h.1.1 h.2 hsim

theorem check_live_run (h : check p numRegs = true) (fuel : Nat) {c1 c2 : Cfg w}
    (hsim : Sim (liveSet p (liveSolve p) c1.pc) c1 c2) :
    ObsEq (Bc.runCfg p limited fuel c1) (Bc.runCfg p limited fuel c2) :=
  live_run (check_facts h).2.2 fuel hsim

/-- A register temporary that is neither written by the non-branch instruction `i` nor declared live
across it is DEAD after it: overwriting it with any value right after the instruction changes nothing
observable (outcome constructor, final state, budget), for every fuel.  For an arbitrary accepted `O`.
`h16`: `live` holds one `u16` bitmap per instruction, so only temporaries below 16 have a bit. -/
theorem live_dead_of_liveOk {O : Array (List Nat)} (hl : localOk p = true)
    (hO : liveOk p numRegs O = true) {i : Nat} {ins : Instr w} {t : Nat}
    (hi : p.insts[i]? = some ins) (hb : isBranch ins = false) (hr : t < numRegs) (h16 : t < 16)
    (hd : t ∉ defs ins) (hbit : ((p.live[i]?).getD 0).testBit t = false)
    {c c' : Cfg w} (hpc : c.pc = i) (hs : Bc.step p limited c = .next c')
    (v : BitVec w) (fuel : Nat) :
    ObsEq (Bc.runCfg p limited fuel c')
      (Bc.runCfg p limited fuel { c' with temps := tset c'.temps t v }) := by
  subst hpc
  have hn := not_live_after (liveOk_facts hO) hi hb hr h16 hd hbit hs
  apply live_run (liveOk_facts hO) fuel
  refine ⟨rfl, rfl, rfl, ?_⟩
  intro t' ht'
  have hne : t' ≠ t := fun e => hn (e ▸ ht')
  exact (tget_tset_ne _ _ hne).symm

theorem check_live_dead (h : check p numRegs = true) {i : Nat} {ins : Instr w} {t : Nat}
    (hi : p.insts[i]? = some ins) (hb : isBranch ins = false) (hr : t < numRegs) (h16 : t < 16)
    (hd : t ∉ defs ins) (hbit : ((p.live[i]?).getD 0).testBit t = false)
    {c c' : Cfg w} (_hc : Reach p limited c) (hpc : c.pc = i) (hs : Bc.step p limited c = .next c')
    (v : BitVec w) (fuel : Nat) :
    ObsEq (Bc.runCfg p limited fuel c')
      (Bc.runCfg p limited fuel { c' with temps := tset c'.temps t v }) := by
  simp only [check, Bool.and_eq_true] at h
  exact live_dead_of_liveOk h.1.1 h.2 hi hb hr h16 hd hbit hpc hs v fuel

/-- `t0 := [0]; while [0] { out [0]; [0] -= 1; [1] += t0 }; [2] := t0` – a loop, `t0` kept across the
`out` (and the two `add`s), live bits set exactly there. -/
def exGood : Program 8 :=
  { temps := 1, minAcc := 0, maxAcc := 2,
    live := #[0, 0, 1, 1, 1, 0, 0],
    insts := #[.copy (.tmp 0) (.mem 0), .brz 0 5, .out 0, .add (.mem 0) (.mem 0) (.imm 255#8),
               .add (.mem 1) (.mem 1) (.tmp 0), .brnz 0 (-3), .copy (.mem 2) (.tmp 0)] }

/- The solvers reach their fixed points on `exGood` after two rounds; everything below about `exGood` and its
variants is read off these two arrays. -/
theorem exGood_initSolve : initSolve exGood = #[[], [0], [0], [0], [0], [0], [0]] :=
  iterate_eq_of_fix (k := 2) (by decide +kernel) (by decide +kernel) (by decide)
theorem exGood_liveSolve : liveSolve exGood = #[[0], [0], [0], [0], [0], [0], []] :=
  iterate_eq_of_fix (k := 2) (by decide +kernel) (by decide +kernel) (by decide)
theorem exGood_check : check exGood 2 = true := by
  rw [check, exGood_initSolve, exGood_liveSolve]
  decide +kernel

example : check exGood 2 = true := exGood_check
example : initSolve exGood = #[[], [0], [0], [0], [0], [0], [0]] := exGood_initSolve
example : liveSolve exGood = #[[0], [0], [0], [0], [0], [0], []] := exGood_liveSolve

/-- The same program without the initialising `copy`: `t0` is read uninitialised. -/
def exUninit : Program 8 := { exGood with insts := exGood.insts.set! 0 .noop }
theorem exUninit_initOk : localOk exUninit = true ∧ initOk exUninit (initSolve exUninit) = false := by
  rw [show initSolve exUninit = #[[], [], [], [], [], [], []] from
    iterate_eq_of_fix (k := 2) (by decide +kernel) (by decide +kernel) (by decide)]
  decide +kernel
example : check exUninit 2 = false := by
  rw [check, exUninit_initOk.1, exUninit_initOk.2]
  rfl
example : localOk exUninit = true ∧ initOk exUninit (initSolve exUninit) = false := exUninit_initOk

/-- Initialised on one path only (the `copy` is skipped when the cell is zero). -/
def exUninitPath : Program 8 :=
  { temps := 1, minAcc := 0, maxAcc := 1, live := #[0, 0, 0],
    insts := #[.brz 0 2, .copy (.tmp 0) (.mem 0), .copy (.mem 1) (.tmp 0)] }
example : localOk exUninitPath = true ∧ initOk exUninitPath (initSolve exUninitPath) = false := by
  decide +kernel

/-- `exGood` with the live bit of `t0` across the `out` cleared: rejected by the liveness condition only. -/
def exDead : Program 8 := { exGood with live := #[0, 0, 0, 1, 1, 0, 0] }
/-- The solvers do not look at `live`. -/
theorem exDead_solve : initSolve exDead = initSolve exGood ∧ liveSolve exDead = liveSolve exGood := ⟨rfl, rfl⟩
example : check exDead 2 = false := by
  rw [check, exDead_solve.1, exDead_solve.2, exGood_initSolve, exGood_liveSolve]
  decide +kernel
example : localOk exDead = true ∧ initOk exDead (initSolve exDead) = true ∧
    liveOk exDead 2 (liveSolve exDead) = false := by
  rw [exDead_solve.1, exDead_solve.2, exGood_initSolve, exGood_liveSolve]
  decide +kernel
/-- With no register temporaries (`numRegs = 0`, everything on the stack) the bitmap is irrelevant. -/
example : check exDead 0 = true := by
  rw [check, exDead_solve.1, exDead_solve.2, exGood_initSolve, exGood_liveSolve]
  decide +kernel

/-- A branch out of the program and an operand outside the window are rejected (`localOk`). -/
example : check ({ exGood with insts := exGood.insts.set! 5 (.brnz 0 (-6)) } : Program 8) 2 = false := by
  decide +kernel
example : check ({ exGood with maxAcc := 1 } : Program 8) 2 = false := by decide +kernel

/-- The soundness theorems apply to `exGood`: e.g. its run never reaches `.bad`. -/
example (limited : Bool) (b fuel : Nat) (env : Env) (c' : Cfg 8) :
    Bc.run exGood limited b fuel env ≠ .bad c' :=
  check_run_not_bad exGood_check limited b fuel env c'

end C11
end Hpbf

#print axioms Hpbf.C11.reach_iff_wr
#print axioms Hpbf.C11.check_facts
#print axioms Hpbf.C11.check_branch_target
#print axioms Hpbf.C11.check_pc_le
#print axioms Hpbf.C11.check_no_bad
#print axioms Hpbf.C11.check_runCfg_not_bad
#print axioms Hpbf.C11.check_run_not_bad
#print axioms Hpbf.C11.check_window
#print axioms Hpbf.C11.check_window_zero
#print axioms Hpbf.C11.step_frame_any
#print axioms Hpbf.C11.step_frame_next
#print axioms Hpbf.C11.step_frame_exit
#print axioms Hpbf.C11.step_ptr
#print axioms Hpbf.C11.step_reads_touched
#print axioms Hpbf.C11.step_touched_only
#print axioms Hpbf.C11.check_step_window
#print axioms Hpbf.C11.check_temps_lt
#print axioms Hpbf.C11.init_inv_of_initOk
#print axioms Hpbf.C11.check_init_of_initOk
#print axioms Hpbf.C11.check_init
#print axioms Hpbf.C11.check_init_independent
#print axioms Hpbf.C11.check_run_independent
#print axioms Hpbf.C11.live_step_of_liveOk
#print axioms Hpbf.C11.check_live_step
#print axioms Hpbf.C11.check_live_run
#print axioms Hpbf.C11.live_dead_of_liveOk
#print axioms Hpbf.C11.check_live_dead
