/-
Property C01 (part: `Program::optimize` at levels 2 and 3 = first round, then (dead store elimination; a round that
uses the analysis of the previous round) once resp. twice; model `Hpbf/Opt.lean` `optimizeRounds`).

What is proved here, for EVERY oracle:
* the analysis a round records matches the blocks it emits, node by node (`optimizeOnce_shape'`), hence dead store
  elimination NEVER FAILS (the Rust never panics) on a round's output (`dse_total_after_round'`);
* **the analysis a round records is SOUND for the program it emits** — all four clauses of the hypothesis
  `C01Dse.AnalSound` of the DSE theorem — for EVERY round (any previous analysis) whose `once` marks are justified
  (`OnceOk`): `optimizeOnce_analSound'`.  (`ShiftFact`, `AtMostFact` always; `AtLeastFact` from `OnceOk`;
  `ReadsFact` — in later iterations of a non-shifting loop a cell outside the recorded `reads` is not read before
  it is written — from the structural pass `optimizeOnce_rdOk'` + adequacy w.r.t. the small-step semantics.)
  For the first round `OnceOk` is proved in `C01Rebuild`, so: `analSound_round1'` (no hypothesis);
* hence **first round, then dead store elimination, preserves the observable behaviour**: `round1_dse_behEq'`;
  and dead store elimination after any round does, given `OnceOk` of that round's output: `round_dse_behEq'`;
* composition: `Program::optimize` preserves the observable behaviour at EVERY level given the single obligation
  `LaterRoundsOk` (a round that uses the previous analysis preserves behaviour and justifies its `once` marks):
  `optimize_preserves_of_laterRounds'`; the more general `optimize_preserves_of_steps'` for arbitrary invariants.
* **rounds that USE the previous analysis** (levels 2 and 3): such a round preserves the observable behaviour and
  justifies its `once` marks under the SEMANTIC hypothesis `PrevAnalSound env prog1 anal` (= `AnalInL`: on the run
  of the round's input `prog1` from `env`, every loop whose node says `atMostOnce` runs at most once, and at every
  head of a loop whose node says neither `atMostOnce` nor `hasShift` the pointer and the cells outside `clobbered`
  have their block-entry values) plus facts that are PROVED for the pipeline (`ShapeL`, `CanonL`):
  `optimizeOnce_preserves_g'`, `optimizeOnce_onceOk_g'`, `laterRound_ok'` (this discharges `LaterRoundsOk`);
* `PrevAnalSound` has an EXECUTABLE, PROVED-SOUND test `checkAnalIn N prog1 anal env` (a big-step replay with
  fuel `N`; `prevAnalSound_of_check'`), and `optimizeCheck N b level orders env` replays the loop of `optimize`
  and applies the test to the input of every later round:
  **`optimize_preserves_of_check'`: `Program::optimize` preserves the observable behaviour at EVERY level on every
  run (program, oracle, environment) for which `optimizeCheck` returns `true`**; `optimize_onceOk_of_check'`: the
  `once` marks of the result are justified.  `optimize_preserves_of_prevAnalSound'` is the same with the semantic
  hypothesis.  An instance is checked by `decide +kernel` at the end of this file.  The test is also available from
  the light module `Hpbf/OptCheck.lean` (`optimize_preserves_of_check_light'`; `OptCheck.checkReport` for drivers).
`PrevAnalSound` is NOT a theorem about the pipeline (that every recorded analysis is sound for the dead-store-
eliminated program it is used on): it fails on some runs, and there the theorems are silent.  A cell that a loop
restores to a known constant is not recorded as clobbered, and dead store elimination removes the restoring store
when the cell is dead at the loop end: this is defect F13 (`Props/C01Full.lean`; the test is false on its witness,
`f13_check_false'`).  The repaired optimizer `OptFix.optimizeF` is correct at every level with no hypothesis on the
run: `optimizeF_preserves_all_levels'` (`Props/C01Full.lean`), restated with the rest in `Props/C01Fixed.lean`.
(`analSound_after_round1'`, `round1_dse_preserves'` state the first round with the fact about `reads`, `ReadsFact`, as a
hypothesis; `analSound_round1'`, `round1_dse_behEq'` are the same results without it, `ReadsFact` being a theorem for every
round: `optimizeOnce_analSound`.)
-/
import Hpbf.Proofs.OptRbCheckEq

namespace Hpbf
namespace OptProof
open Opt OptSem Ir

variable {w : Nat}

/-- The recorded analysis matches the emitted blocks. (`ShapeL`/`ShapeI`: `Hpbf/Proofs/OptRbShape.lean`.) -/
theorem optimizeOnce_shape' {b : Block w} {prevAnal : OptAnalysis w} {os os' : Orders} {b' : Block w}
    {anal' : OptAnalysis w} (hr : (optimizeOnce b prevAnal).run os = .ok ((b', anal'), os'))
    (hcl : CanonL b.insts) : ShapeL b'.insts anal'.subBlocks :=
  optimizeOnce_shape hr

example (c sh : Int) (body : List (Instr w)) (once : Bool) (a : OptAnalysis w)
    (h : ShapeI (.loop c sh body once) a) :
    once = a.loopAnal.atLeastOnce ∧ a.loopAnal.atMostOnce = false ∧
      (a.hasShift = false → sh = 0 ∧ ∀ a' ∈ a.subBlocks, a'.hasShift = false) ∧ ShapeL body a.subBlocks :=
  shapeI_loop h

theorem optimizeOnce_shapeOk' {b : Block w} {prevAnal : OptAnalysis w} {os os' : Orders} {b' : Block w}
    {anal' : OptAnalysis w} (hr : (optimizeOnce b prevAnal).run os = .ok ((b', anal'), os'))
    (hcl : CanonL b.insts) : C01Dse.ShapeOk b' anal'.toDAnal ∧ C01Dse.ShiftFact b' anal'.toDAnal ∧
      C01Dse.NoDupTargets b' :=
  ⟨optimizeOnce_shapeOk hr, optimizeOnce_shiftFact hr, optimizeOnce_noDupTargets hr hcl⟩

theorem dse_total_after_round' {b : Block w} {prevAnal : OptAnalysis w} {os os' : Orders} {b1 : Block w}
    {anal1 : OptAnalysis w} (hr : (optimizeOnce b prevAnal).run os = .ok ((b1, anal1), os'))
    (hcl : CanonL b.insts) : ∃ b2, deadStoreElimination b1 anal1 = .ok b2 :=
  dse_total_after_round hr hcl

theorem optimizeOnce_atMost_atLeast {b : Block w} {prevAnal : OptAnalysis w} {os os' : Orders} {b' : Block w}
    {anal' : OptAnalysis w} (hr : (optimizeOnce b prevAnal).run os = .ok ((b', anal'), os'))
    (hcl : CanonL b.insts) (env : Env) :
    C01Dse.AtMostFact false 0 b' anal'.toDAnal env ∧
    (C02Emit.OnceOk b' env → C01Dse.AtLeastFact false 0 b' anal'.toDAnal env) :=
  ⟨optimizeOnce_atMostFact hr env, fun ho => optimizeOnce_atLeastFact hr ho⟩

theorem analSound_after_round1' (hw : 0 < w) {b : Block w} (hcl : CanonL b.insts) {os os' : Orders}
    {b1 : Block w} {anal1 : OptAnalysis w}
    (hr : (optimizeOnce b (topAnalysis [] [])).run os = .ok ((b1, anal1), os')) (env : Env)
    (hreads : C01Dse.ReadsFact false 0 b1 anal1.toDAnal env) : C01Dse.AnalSound b1 anal1.toDAnal env :=
  ⟨optimizeOnce_shiftFact hr,
   optimizeOnce_atLeastFact hr (optimizeOnce_onceOk_l1 hw hcl hr env),
   optimizeOnce_atMostFact hr env, hreads⟩

theorem round1_dse_preserves' (hw : 0 < w) {b : Block w} (hcl : CanonL b.insts) {os os' : Orders}
    {b1 b2 : Block w} {anal1 : OptAnalysis w}
    (hr : (optimizeOnce b (topAnalysis [] [])).run os = .ok ((b1, anal1), os'))
    (hd : deadStoreElimination b1 anal1 = .ok b2) (env : Env)
    (hreads : C01Dse.ReadsFact false 0 b1 anal1.toDAnal env) : BehEq b b2 env :=
  (optimizeOnce_preserves_l1 hw hcl hr env).trans
    (behEq_of_eliminate (deadStoreElimination_ok hd) (optimizeOnce_noDupTargets hr hcl)
      (analSound_after_round1' hw hcl hr env hreads))

theorem optimize_preserves_of_steps' (hw : 0 < w) {P P1 : Block w → OptAnalysis w → Prop} {env : Env}
    (hFirst : ∀ (b b1 : Block w) anal1 os os1, CanonL b.insts →
      (optimizeOnce b (topAnalysis [] [])).run os = .ok ((b1, anal1), os1) → P b1 anal1)
    (hDse : ∀ prog anal prog1, P prog anal → deadStoreElimination prog anal = .ok prog1 →
      BehEq prog prog1 env ∧ P1 prog1 anal)
    (hRound : ∀ prog1 anal prog2 anal2 os os2, P1 prog1 anal →
      (optimizeOnce prog1 anal).run os = .ok ((prog2, anal2), os2) → BehEq prog1 prog2 env ∧ P prog2 anal2)
    {b b' : Block w} (hcl : CanonL b.insts) {level : Nat} {orders : Orders}
    (h : Opt.optimize b level orders = .ok b') : BehEq b b' env :=
  optimize_preserves_of_steps hw hFirst hDse hRound hcl h

/-- The structural read-before-write property of a round's output (`RdOkL`/`RdOkI`: `Hpbf/Proofs/OptRbRd1.lean`):
for a non-shifting emitted loop with node `a`, from every state with non-zero condition in which the body does
not reach an unjustified `once` mark, the body does not read a cell outside `a.reads` before writing it. -/
theorem optimizeOnce_rdOk' {b : Block w} {prevAnal : OptAnalysis w} {os os' : Orders} {b' : Block w}
    {anal' : OptAnalysis w} (hr : (optimizeOnce b prevAnal).run os = .ok ((b', anal'), os'))
    (hcl : CanonL b.insts) : RdOkL b'.insts anal'.subBlocks :=
  optimizeOnce_rdOk hr hcl

example (c sh : Int) (body : List (Instr w)) (once : Bool) (a : OptAnalysis w)
    (h : RdOkI (.loop c sh body once) a) :
    (a.hasShift = false → ∀ σ : State w, σ.rd c ≠ 0#w → ¬ Bad body σ → ∀ v, v ∉ a.reads →
      ¬ Exposes (σ.ptr + v) body σ) ∧ RdOkL body a.subBlocks :=
  rdOkI_loop h

theorem optimizeOnce_analSound' {b : Block w} {prevAnal : OptAnalysis w} {os os' : Orders} {b' : Block w}
    {anal' : OptAnalysis w} (hr : (optimizeOnce b prevAnal).run os = .ok ((b', anal'), os'))
    (hcl : CanonL b.insts) {env : Env} (ho : C02Emit.OnceOk b' env) :
    C01Dse.AnalSound b' anal'.toDAnal env :=
  optimizeOnce_analSound hr hcl ho

theorem round_dse_behEq' {b : Block w} {prevAnal : OptAnalysis w} {os os' : Orders} {b1 b2 : Block w}
    {anal1 : OptAnalysis w} (hr : (optimizeOnce b prevAnal).run os = .ok ((b1, anal1), os'))
    (hcl : CanonL b.insts) {env : Env} (ho : C02Emit.OnceOk b1 env)
    (hd : deadStoreElimination b1 anal1 = .ok b2) : BehEq b1 b2 env :=
  round_dse_behEq hr hcl ho hd

theorem analSound_round1' (hw : 0 < w) {b : Block w} (hcl : CanonL b.insts) {os os' : Orders}
    {b1 : Block w} {anal1 : OptAnalysis w}
    (hr : (optimizeOnce b (topAnalysis [] [])).run os = .ok ((b1, anal1), os')) (env : Env) :
    C01Dse.AnalSound b1 anal1.toDAnal env :=
  optimizeOnce_analSound hr hcl (optimizeOnce_onceOk_l1 hw hcl hr env)

theorem round1_dse_behEq' (hw : 0 < w) {b : Block w} (hcl : CanonL b.insts) {os os' : Orders}
    {b1 b2 : Block w} {anal1 : OptAnalysis w}
    (hr : (optimizeOnce b (topAnalysis [] [])).run os = .ok ((b1, anal1), os'))
    (hd : deadStoreElimination b1 anal1 = .ok b2) (env : Env) : BehEq b b2 env :=
  (optimizeOnce_preserves_l1 hw hcl hr env).trans
    (round_dse_behEq hr hcl (optimizeOnce_onceOk_l1 hw hcl hr env) hd)

example (env : Env) : LaterRoundsOk w env ↔
    ∀ (prog1 : Block w) (anal : OptAnalysis w) (prog2 : Block w) (anal2 : OptAnalysis w) (os os2 : Orders),
      (∃ prog, (C02Emit.OnceOk prog env ∧ ∃ (b : Block w) (prev : OptAnalysis w) (os os' : Orders),
          CanonL b.insts ∧ (optimizeOnce b prev).run os = .ok ((prog, anal), os')) ∧
        deadStoreElimination prog anal = .ok prog1) →
      (optimizeOnce prog1 anal).run os = .ok ((prog2, anal2), os2) →
      CanonL prog1.insts ∧ BehEq prog1 prog2 env ∧ C02Emit.OnceOk prog2 env := Iff.rfl

theorem optimize_preserves_of_laterRounds' (hw : 0 < w) {env : Env} (hL : LaterRoundsOk w env)
    {b b' : Block w} (hcl : CanonL b.insts) {level : Nat} {orders : Orders}
    (h : Opt.optimize b level orders = .ok b') : BehEq b b' env :=
  optimize_preserves_of_laterRounds hw hL hcl h

example (env : Env) (prog1 : Block w) (anal : OptAnalysis w) :
    PrevAnalSound env prog1 anal ↔ AnalInL (fun σ => σ = State.init env) prog1.insts anal.subBlocks := Iff.rfl

/-- What `AnalInL` says about one loop (`BlockIn`, `HeadG`: Hpbf/Proofs/OptRbAnalIn.lean). -/
example (G : State w → Prop) (c sh : Int) (body : List (Instr w)) (o : Bool) (A : OptAnalysis w) :
    AnalInI G (.loop c sh body o) A ↔
      ((A.loopAnal.atMostOnce = true → true = true → ∀ σ, G σ → σ.rd c ≠ 0#w →
          ∀ a, Exec body σ (.fin a) → (a.mov sh).rd c = 0#w) ∧
       (A.loopAnal.atMostOnce = false → A.hasShift = false → true = true → ∀ σ, G σ →
          ∀ k σk, Head c sh body σ k σk → σk.ptr = σ.ptr ∧
            ∀ x, A.clobbered.contains x = false → σk.rd x = σ.rd x)) ∧
      AnalInL (HeadG G true c sh body) body A.subBlocks := by
  rw [analInI_loop]
  constructor
  · rintro ⟨⟨h1, h2⟩, h3⟩; exact ⟨⟨h1, h2⟩, h3⟩
  · rintro ⟨⟨h1, h2⟩, h3⟩; exact ⟨⟨h1, h2⟩, h3⟩

theorem prevAnalSound_of_check' {env : Env} {prog1 : Block w} {anal : OptAnalysis w} (N : Nat)
    (h : checkAnalIn N prog1 anal env = true) : PrevAnalSound env prog1 anal :=
  prevAnalSound_of_check N h

/-- One round with an arbitrary previous analysis whose top node says `atMostOnce` (what `optimize_once`
returns), whose nodes fit the blocks of the program (`ShapeL`) and are semantically sound on the run from `env`. -/
theorem optimizeOnce_preserves_g' (hw : 0 < w) {b : Block w} (hcl : CanonL b.insts) {prevAnal : OptAnalysis w}
    (hamo : prevAnal.loopAnal.atMostOnce = true) {env : Env} (hs : ShapeL b.insts prevAnal.subBlocks)
    (ha : AnalInL (fun σ => σ = State.init env) b.insts prevAnal.subBlocks)
    {os os' : Orders} {b' : Block w} {anal' : OptAnalysis w}
    (hr : (optimizeOnce b prevAnal).run os = .ok ((b', anal'), os')) : BehEq b b' env :=
  optimizeOnce_preserves_g hw hcl hamo hs ha hr

theorem optimizeOnce_onceOk_g' (hw : 0 < w) {b : Block w} (hcl : CanonL b.insts) {prevAnal : OptAnalysis w}
    (hamo : prevAnal.loopAnal.atMostOnce = true) {env : Env} (hs : ShapeL b.insts prevAnal.subBlocks)
    (ha : AnalInL (fun σ => σ = State.init env) b.insts prevAnal.subBlocks)
    {os os' : Orders} {b' : Block w} {anal' : OptAnalysis w}
    (hr : (optimizeOnce b prevAnal).run os = .ok ((b', anal'), os')) : C02Emit.OnceOk b' env :=
  optimizeOnce_onceOk_g hw hcl hamo hs ha hr

/-- A later round of `optimize`, under `PrevAnalSound`: exactly the obligation `LaterRoundsOk`. -/
theorem laterRound_ok' (hw : 0 < w) {env : Env} {prog1 : Block w} {anal : OptAnalysis w} {prog2 : Block w}
    {anal2 : OptAnalysis w} {os os2 : Orders} (hp : AfterDse env prog1 anal)
    (ha : PrevAnalSound env prog1 anal)
    (hr : (optimizeOnce prog1 anal).run os = .ok ((prog2, anal2), os2)) :
    CanonL prog1.insts ∧ BehEq prog1 prog2 env ∧ C02Emit.OnceOk prog2 env :=
  laterRound_ok hw hp ha hr

example (N : Nat) (b : Block w) (level : Nat) (orders : Orders) (env : Env) :
    optimizeCheck N b level orders env =
      (if level = 0 then true
       else
         match (optimizeOnce b (topAnalysis [] [])).run orders with
         | .ok ((prog, anal), os1) => roundsCheck N env (min level 3 - 1) prog anal os1
         | .error _ => true) := rfl

example (N : Nat) (env : Env) (n : Nat) (prog : Block w) (anal : OptAnalysis w) (os : Orders) :
    roundsCheck N env (n + 1) prog anal os =
      (match deadStoreElimination prog anal with
       | .ok prog1 =>
         checkAnalIn N prog1 anal env &&
           (match (optimizeOnce prog1 anal).run os with
            | .ok ((prog2, anal2), os2) => roundsCheck N env n prog2 anal2 os2
            | .error _ => true)
       | .error _ => true) := rfl

theorem optimize_preserves_of_check' (hw : 0 < w) {env : Env} (N : Nat) {b b' : Block w}
    (hcl : CanonL b.insts) {level : Nat} {orders : Orders}
    (h : Opt.optimize b level orders = .ok b') (hc : optimizeCheck N b level orders env = true) :
    BehEq b b' env :=
  optimize_preserves_of_check hw N hcl h hc

theorem optimize_onceOk_of_check' (hw : 0 < w) {env : Env} (N : Nat) {b b' : Block w}
    (hcl : CanonL b.insts) {level : Nat} (hl : level ≠ 0) {orders : Orders}
    (h : Opt.optimize b level orders = .ok b') (hc : optimizeCheck N b level orders env = true) :
    C02Emit.OnceOk b' env :=
  optimize_onceOk_of_check hw N hcl hl h hc

theorem optimize_preserves_of_prevAnalSound' (hw : 0 < w) {env : Env}
    (hA : ∀ (prog1 : Block w) (anal : OptAnalysis w), AfterDse env prog1 anal → PrevAnalSound env prog1 anal)
    {b b' : Block w} (hcl : CanonL b.insts) {level : Nat} {orders : Orders}
    (h : Opt.optimize b level orders = .ok b') : BehEq b b' env :=
  optimize_preserves_of_laterRounds hw
    (fun prog1 anal _ _ _ _ hp hr => laterRound_ok hw hp (hA prog1 anal hp) hr) hcl h

/-- The same test from the LIGHT module `Hpbf/OptCheck.lean` (imports only `Hpbf.Opt`; compile this one for
sampling): it is the same function. -/
theorem optimizeCheck_light' : @OptCheck.optimizeCheck w = optimizeCheck := optimizeCheck_light

theorem optimize_preserves_of_check_light' (hw : 0 < w) {env : Env} (N : Nat) {b b' : Block w}
    (hcl : CanonL b.insts) {level : Nat} {orders : Orders}
    (h : Opt.optimize b level orders = .ok b') (hc : OptCheck.optimizeCheck N b level orders env = true) :
    BehEq b b' env :=
  optimize_preserves_of_check hw N hcl h (by rw [← optimizeCheck_light]; exact hc)

theorem optimize_onceOk_of_check_light' (hw : 0 < w) {env : Env} (N : Nat) {b b' : Block w}
    (hcl : CanonL b.insts) {level : Nat} (hl : level ≠ 0) {orders : Orders}
    (h : Opt.optimize b level orders = .ok b') (hc : OptCheck.optimizeCheck N b level orders env = true) :
    C02Emit.OnceOk b' env :=
  optimize_onceOk_of_check hw N hcl hl h (by rw [← optimizeCheck_light]; exact hc)

namespace RoundsEx

/-- An instance: multiplication `,>,<[>[>+>+<<-]>>[<<+>>-]<<<-]>>.`, at level 3. -/
def mulSrc : List Kind :=
  [.inp, .right, .inp, .left, .open, .right, .open, .right, .inc, .right, .inc, .left, .left, .dec, .close,
   .right, .right, .open, .left, .left, .inc, .right, .right, .dec, .close, .left, .left, .left, .dec, .close,
   .right, .right, .out]

def mulEnv : Env := { input := some [.byte 3, .byte 2, .eof], sink := true, outOk := none }

def mulBlock : Block 8 := match Ir.parse (w := 8) mulSrc with | .ok b => b | .error _ => { shift := 0, insts := [] }

/-- The three rounds succeed with the empty oracle and the test passes, hence (by the theorem) the level-3 result
has the observable behaviour of the source on `mulEnv`. -/
example : ∃ b', Opt.optimize mulBlock 3 [] = .ok b' ∧ BehEq mulBlock b' mulEnv := by
  have hcl : CanonL mulBlock.insts := by
    unfold mulBlock
    split
    · rename_i b hb; exact parse_canonL hb
    · rw [CanonL]; trivial
  -- one evaluation: the kernel shares the rounds between `optimize` and the test
  have hc : ((match Opt.optimize mulBlock 3 [] with | .ok _ => true | .error _ => false) &&
      optimizeCheck 400 mulBlock 3 [] mulEnv) = true := by decide +kernel
  rw [Bool.and_eq_true] at hc
  cases h : Opt.optimize mulBlock 3 [] with
  | error e => rw [h] at hc; cases hc.1
  | ok b' => exact ⟨b', rfl, optimize_preserves_of_check' (by decide) 400 hcl h hc.2⟩

end RoundsEx

end OptProof
end Hpbf

#print axioms Hpbf.OptProof.optimizeOnce_shape'
#print axioms Hpbf.OptProof.optimizeOnce_shapeOk'
#print axioms Hpbf.OptProof.dse_total_after_round'
#print axioms Hpbf.OptProof.optimizeOnce_atMost_atLeast
#print axioms Hpbf.OptProof.analSound_after_round1'
#print axioms Hpbf.OptProof.round1_dse_preserves'
#print axioms Hpbf.OptProof.optimize_preserves_of_steps'
#print axioms Hpbf.OptProof.optimizeOnce_rdOk'
#print axioms Hpbf.OptProof.optimizeOnce_analSound'
#print axioms Hpbf.OptProof.round_dse_behEq'
#print axioms Hpbf.OptProof.analSound_round1'
#print axioms Hpbf.OptProof.round1_dse_behEq'
#print axioms Hpbf.OptProof.optimize_preserves_of_laterRounds'
#print axioms Hpbf.OptProof.optimizeOnce_preserves_g'
#print axioms Hpbf.OptProof.optimizeOnce_onceOk_g'
#print axioms Hpbf.OptProof.laterRound_ok'
#print axioms Hpbf.OptProof.prevAnalSound_of_check'
#print axioms Hpbf.OptProof.optimize_preserves_of_check'
#print axioms Hpbf.OptProof.optimize_onceOk_of_check'
#print axioms Hpbf.OptProof.optimize_preserves_of_prevAnalSound'
#print axioms Hpbf.OptProof.optimizeCheck_light'
#print axioms Hpbf.OptProof.optimize_preserves_of_check_light'
#print axioms Hpbf.OptProof.optimize_onceOk_of_check_light'
