/-
C15. "For all expressions built through the public expression API and every assignment of cell
values, the value of a sum, product, negation, halving, normalisation or substitution result equals the
corresponding arithmetic on the operand values modulo 2^width, and each structural decomposition
(increment-of, multiple-of, product-of, constant part) recomposes to the original value."

The model is `Hpbf/Expr.lean` (`impl Expr<C>` in `src/ir.rs`). An expression is a list of parts
`coef * x_{v1} * x_{v2} …`; `evaluate e f : BitVec w` is its value under the assignment
`f : Int → BitVec w`, so all equations are modulo `2^w`. Everything is for arbitrary `w` (including
`w = 0`).

The arithmetic half holds for ALL part lists (no invariant), and so do `constant identity constIncOf
prodOf`. `incOf prodIncOf constantPart` need `WeakCanon` (constant part only at index 0, at most one
part `[v]` per `v`), which follows from the normal form `Canon` (each `vars` ascending, parts strictly
increasing by `cmpVars`) that every expression-returning API function keeps; hence `Built e → Canon e`.
Upstream hpbf does not sort in the one-term fast paths of `mul` and in `prod_of`; that breaks the
normal form and leads to wrong decompositions (`mul_original_breaks_normal_form`, w = 8). The verified
source (/repo/src/ir.rs:223,227,518) sorts, and that is what `mul` and `prodOf` model.
-/
import Hpbf.Proofs.C15
import Hpbf.Proofs.C15Orig

namespace Hpbf
namespace C15
open Expr

variable {w : Nat}

theorem value_val (c : BitVec w) (f : Int → BitVec w) : evaluate (val c) f = c :=
  eval_val c f

theorem value_var (v : Int) (f : Int → BitVec w) : evaluate (var v : Expr w) f = f v :=
  eval_var v f

theorem value_add (a b : Expr w) (f : Int → BitVec w) :
    evaluate (add a b) f = evaluate a f + evaluate b f :=
  eval_add a b f

/-- All five code paths of `mul` (empty operands, the two one-term fast paths, hash-accumulate). -/
theorem value_mul (a b : Expr w) (f : Int → BitVec w) :
    evaluate (mul a b) f = evaluate a f * evaluate b f :=
  eval_mul a b f

theorem value_neg (a : Expr w) (f : Int → BitVec w) : evaluate (neg a) f = - evaluate a f := by
  unfold neg
  induction a with
  | nil => simp
  | cons p a ih => simp only [List.map_cons, evaluate_cons', ih]; grind

theorem value_half (a h : Expr w) (f : Int → BitVec w) (hh : half a = some h) :
    evaluate a f = evaluate h f + evaluate h f := by
  unfold half at hh
  split at hh
  · rename_i hall
    simp only [Option.some.injEq] at hh
    subst hh
    induction a with
    | nil => simp
    | cons p a ih =>
      simp only [List.all_cons, Bool.and_eq_true, Bool.not_eq_true'] at hall
      simp only [List.map_cons, evaluate_cons', ih hall.2]
      have := Cell.even_eq_double p.coef hall.1
      generalize Cell.wshr p.coef 1 = c at this
      rw [this]; grind
  · cases hh

theorem value_normalize (e : Expr w) (f : Int → BitVec w) :
    evaluate (normalize e) f = evaluate e f :=
  eval_normalize e f

/-- A `some` result already implies that `g` defines every variable of `e` (`symbEvaluate_defined`),
so no side condition is needed and the default 0 is never read. -/
theorem value_symbEvaluate (e e' : Expr w) (g : Int → Option (Expr w)) (f : Int → BitVec w)
    (h : symbEvaluate e g = some e') :
    evaluate e' f = evaluate e (fun v => match g v with
      | some ev => evaluate ev f
      | none => 0#w) :=
  eval_symbEvaluate e e' g f h

/-- The identity and constant shortcuts of `symb_evaluate` included. -/
theorem symbEvaluate_defined (e : Expr w) (g : Int → Option (Expr w)) :
    (symbEvaluate e g).isSome ↔ ∀ v ∈ variables e, (g v).isSome :=
  symbEvaluate_isSome e g

theorem symbEvaluate_none_iff (e : Expr w) (g : Int → Option (Expr w)) :
    symbEvaluate e g = none ↔ ∃ v ∈ variables e, g v = none := by
  have := symbEvaluate_isSome e g
  constructor
  · intro hn
    rw [hn] at this
    simp only [Option.isSome_none, Bool.false_eq_true, false_iff] at this
    apply Classical.byContradiction
    intro hex
    apply this
    intro v hv
    cases hg : g v with
    | none => exact absurd ⟨v, hv, hg⟩ hex
    | some _ => rfl
  · rintro ⟨v, hv, hg⟩
    cases hs : symbEvaluate e g with
    | none => rfl
    | some r =>
      rw [hs] at this
      have := this.1 rfl v hv
      simp [hg] at this

/-- The internal `mul_parts`. -/
theorem value_mulParts (l r : Expr w) (f : Int → BitVec w) :
    evaluate (mulParts l r) f = evaluate l f * evaluate r f :=
  eval_mulParts l r f

theorem constant_recompose (e : Expr w) (c : BitVec w) (f : Int → BitVec w)
    (h : constant e = some c) : evaluate e f = c :=
  eval_constant e c f h

theorem identity_recompose (e : Expr w) (v : Int) (f : Int → BitVec w)
    (h : identity e = some v) : evaluate e f = f v :=
  eval_identity e v f h

theorem constIncOf_recompose (e : Expr w) (v : Int) (c : BitVec w) (f : Int → BitVec w)
    (h : constIncOf e v = some c) : evaluate e f = c + f v := by
  unfold constIncOf at h
  split at h
  · rename_i p
    split at h
    · rename_i hc
      simp only [Bool.and_eq_true, decide_eq_true_eq, beq_iff_eq] at hc
      simp only [Option.some.injEq] at h
      subst h
      rw [evaluate_singleton, hc.1, hc.2]; simp
    · cases h
  · rename_i p0 p1
    split at h
    · rename_i hc
      simp only [Bool.and_eq_true, decide_eq_true_eq, beq_iff_eq, List.isEmpty_iff] at hc
      simp only [Option.some.injEq] at h
      subst h
      rw [evaluate_cons', evaluate_singleton, hc.1.1, hc.1.2, hc.2]; simp
    · cases h
  · cases h

theorem prodOf_recompose (e r : Expr w) (v : Int) (f : Int → BitVec w)
    (h : prodOf e v = some r) : evaluate e f = f v * evaluate r f := by
  unfold prodOf at h
  split at h
  · rename_i hall
    simp only [Option.some.injEq] at h
    subst h
    rw [evaluate_perm f (stableSort_perm _ _)]
    exact evaluate_divVar f v e hall
  · cases h

theorem incOf_recompose (e r : Expr w) (v : Int) (f : Int → BitVec w)
    (hc : WeakCanon e) (h : incOf e v = some r) : evaluate e f = f v + evaluate r f := by
  unfold incOf at h
  split at h
  · rename_i hcond
    simp only [Bool.and_eq_true] at hcond
    obtain ⟨hany, hall⟩ := hcond
    simp only [Option.some.injEq] at h
    subst h
    rw [evaluate_filter_partition f (fun p => p.vars == [v]) e]
    congr 1
    obtain ⟨p, hp, hpc⟩ := List.any_eq_true.1 hany
    simp only [Bool.and_eq_true, decide_eq_true_eq] at hpc
    have hmem : p ∈ e.filter (fun p => p.vars == [v]) := List.mem_filter.2 ⟨hp, hpc.2⟩
    have hlen := hc.filter_single v
    have : e.filter (fun p => p.vars == [v]) = [p] := by
      generalize e.filter (fun p => p.vars == [v]) = l at hmem hlen
      match l, hmem, hlen with
      | [], hmem, _ => simp at hmem
      | [q], hmem, _ =>
        simp only [List.mem_singleton] at hmem
        rw [hmem]
      | _ :: _ :: _, _, hlen => simp at hlen
    rw [this, evaluate_singleton, hpc.1, beq_iff_eq.1 hpc.2]; simp
  · cases h

theorem prodIncOf_recompose (e r : Expr w) (v : Int) (m : BitVec w) (f : Int → BitVec w)
    (hc : WeakCanon e) (h : prodIncOf e v = some (r, m)) :
    evaluate e f = m * f v + evaluate r f := by
  unfold prodIncOf at h
  split at h
  · simp only [Option.some.injEq, Prod.mk.injEq] at h
    obtain ⟨rfl, rfl⟩ := h
    rw [evaluate_filter_partition f (fun p => p.vars == [v]) e,
      evaluate_filter_single f v e (hc.filter_single v)]
  · cases h

theorem constantPart_recompose (e : Expr w) (hc : WeakCanon e) :
    constantPart e = evaluate e (fun _ => 0#w) :=
  eval_constantPart e hc

theorem incOf_fresh (e r : Expr w) (v : Int) (h : incOf e v = some r) : v ∉ variables r := by
  unfold incOf at h
  split at h
  · rename_i hcond
    simp only [Bool.and_eq_true] at hcond
    simp only [Option.some.injEq] at h
    subst h
    exact not_mem_variables_filter e v hcond.2
  · cases h

theorem prodIncOf_fresh (e r : Expr w) (v : Int) (m : BitVec w)
    (h : prodIncOf e v = some (r, m)) : v ∉ variables r := by
  unfold prodIncOf at h
  split at h
  · rename_i hall
    simp only [Option.some.injEq, Prod.mk.injEq] at h
    obtain ⟨rfl, rfl⟩ := h
    exact not_mem_variables_filter e v hall
  · cases h

theorem canon_implies_weakCanon {e : Expr w} (h : Canon e) : WeakCanon e := h.weak

theorem preserve_val (c : BitVec w) : Canon (val c) := canon_val c
theorem preserve_var (v : Int) : Canon (var v : Expr w) := canon_var v
theorem preserve_add {a b : Expr w} (ha : Canon a) (hb : Canon b) : Canon (add a b) := canon_add ha hb
theorem preserve_mul {a b : Expr w} (ha : Canon a) (hb : Canon b) : Canon (mul a b) := canon_mul ha hb
theorem preserve_neg {a : Expr w} (h : Canon a) : Canon (neg a) := canon_neg h
theorem preserve_half {a r : Expr w} (h : Canon a) (hh : half a = some r) : Canon r := canon_half h hh
theorem preserve_normalize {e : Expr w} (h : Canon e) : Canon (normalize e) := canon_normalize h
theorem preserve_symbEvaluate {e r : Expr w} (g : Int → Option (Expr w))
    (hg : ∀ v e', g v = some e' → Canon e') (h : symbEvaluate e g = some r) : Canon r :=
  canon_symbEvaluate g hg h
theorem preserve_prodOf {e r : Expr w} {v : Int} (h : Canon e) (hp : prodOf e v = some r) : Canon r :=
  canon_prodOf h hp
theorem preserve_incOf {e r : Expr w} {v : Int} (h : Canon e) (hi : incOf e v = some r) : Canon r :=
  canon_incOf h hi
theorem preserve_prodIncOf {e r : Expr w} {v : Int} {m : BitVec w} (h : Canon e)
    (hi : prodIncOf e v = some (r, m)) : Canon r :=
  canon_prodIncOf h hi

theorem built_canon {e : Expr w} (h : Built e) : Canon e := h.canon

/-- C15, arithmetic half: for all part lists and all assignments. -/
theorem C15_arithmetic (a b : Expr w) (f : Int → BitVec w) :
    (∀ c : BitVec w, evaluate (val c) f = c) ∧
    (∀ v : Int, evaluate (var v : Expr w) f = f v) ∧
    evaluate (add a b) f = evaluate a f + evaluate b f ∧
    evaluate (mul a b) f = evaluate a f * evaluate b f ∧
    evaluate (neg a) f = - evaluate a f ∧
    (∀ h, half a = some h → evaluate a f = evaluate h f + evaluate h f) ∧
    evaluate (normalize a) f = evaluate a f ∧
    (∀ g r, symbEvaluate a g = some r →
      evaluate r f = evaluate a (fun v => match g v with
        | some ev => evaluate ev f
        | none => 0#w)) :=
  ⟨fun c => eval_val c f, fun v => eval_var v f, eval_add a b f, eval_mul a b f, value_neg a f,
    fun h hh => value_half a h f hh, eval_normalize a f, fun g r h => eval_symbEvaluate a r g f h⟩

/-- C15, decomposition half: for every API-built expression, every assignment and every variable. -/
theorem C15_decompositions {e : Expr w} (hb : Built e) (f : Int → BitVec w) (v : Int) :
    (∀ c, constant e = some c → evaluate e f = c) ∧
    (identity e = some v → evaluate e f = f v) ∧
    (∀ c, constIncOf e v = some c → evaluate e f = c + f v) ∧
    (∀ r, prodOf e v = some r → evaluate e f = f v * evaluate r f) ∧
    (∀ r, incOf e v = some r → evaluate e f = f v + evaluate r f ∧ v ∉ variables r) ∧
    (∀ r m, prodIncOf e v = some (r, m) → evaluate e f = m * f v + evaluate r f ∧ v ∉ variables r) ∧
    constantPart e = evaluate e (fun _ => 0#w) := by
  have hc : WeakCanon e := hb.canon.weak
  exact ⟨fun c h => eval_constant e c f h, fun h => eval_identity e v f h,
    fun c h => constIncOf_recompose e v c f h, fun r h => prodOf_recompose e r v f h,
    fun r h => ⟨incOf_recompose e r v f hc h, incOf_fresh e r v h⟩,
    fun r m h => ⟨prodIncOf_recompose e r v m f hc h, prodIncOf_fresh e r v m h⟩,
    eval_constantPart e hc⟩

/-- Defect of upstream hpbf. With its one-term fast path of `mul` (`mulOrig`: variables appended
unsorted, parts not re-sorted) and its `prod_of` (`prodOfOrig`: not re-sorted), `x7*(1+x5)` is out
of order, `x7*(1+x5) + x7*x5` has two parts with equal variables, its quotient by `x7` is
`[1*[5], 1*[], 1*[5]]` (value `2*x5 + 1`), and `constantPart`, `incOf`, `prodIncOf` of that quotient
recompose to wrong values (0 instead of 1; `x5 + 1` instead of `2*x5 + 1`). -/
theorem mul_original_breaks_normal_form :
    let e : Expr 8 := add (mulOrig (var 7) (add (val 1#8) (var 5))) (mulOrig (var 7) (var 5))
    let one : Int → BitVec 8 := fun _ => 1#8
    ¬ Canon (mulOrig (var 7 : Expr 8) (add (val 1#8) (var 5))) ∧
    ¬ (e.map (·.vars)).Nodup ∧
    ∃ q, prodOfOrig e 7 = some q ∧
      constantPart q ≠ evaluate q (fun _ => 0#8) ∧
      (∃ r, incOf q 5 = some r ∧ evaluate q one ≠ one 5 + evaluate r one) ∧
      (∃ r m, prodIncOf q 5 = some (r, m) ∧ evaluate q one ≠ m * one 5 + evaluate r one) :=
  ⟨orig_fastPath_not_canon, orig_add_duplicates, origQuot, origWitness_prodOf,
    orig_witness_constantPart, orig_witness_incOf, orig_witness_prodIncOf⟩

/-- The unsorted fast path still computes the right value. -/
theorem value_mulOrig (a b : Expr w) (f : Int → BitVec w) :
    evaluate (mulOrig a b) f = evaluate a f * evaluate b f := by
  unfold mulOrig
  split
  · simp [eval_val]
  · simp [eval_val]
  · rw [eval_scaleAppendOrig, evaluate_singleton, evalPart_eq]; ac_rfl
  · rw [eval_scaleAppendOrig, evaluate_singleton, evalPart_eq]
  · rw [evaluate_finish, evalM_mulLoop]; simp

/-- Apart from `prod_of`, the constructors of upstream hpbf keep an invariant (`SCanon`) strong enough
for the decompositions, so the defect is not reachable through `val var add mul neg half normalize
symb_evaluate` alone. -/
theorem original_constructors_keep_SCanon :
    (∀ c : BitVec w, SCanon (val c)) ∧ (∀ v : Int, SCanon (var v : Expr w)) ∧
    (∀ a b : Expr w, SCanon a → SCanon b → SCanon (add a b)) ∧
    (∀ a b : Expr w, SCanon a → SCanon b → SCanon (mulOrig a b)) ∧
    (∀ a : Expr w, SCanon a → SCanon (neg a)) ∧
    (∀ a r : Expr w, SCanon a → half a = some r → SCanon r) ∧
    (∀ a : Expr w, SCanon a → SCanon (normalize a)) ∧
    (∀ (e r : Expr w) (g : Int → Option (Expr w)), (∀ v e', g v = some e' → SCanon e') →
      symbEvaluate e g = some r → SCanon r) ∧
    (∀ e : Expr w, SCanon e → WeakCanon e) :=
  ⟨scanon_val, scanon_var, fun _ _ => scanon_add, fun _ _ => scanon_mulOrig, fun _ => scanon_neg,
    fun _ _ => scanon_half, fun _ => scanon_normalize, fun _ _ g hg h => scanon_symbEvaluate g hg h,
    fun _ h => h.weak⟩

section Examples

private def e13 : Expr 8 := [⟨1#8, []⟩, ⟨1#8, [3]⟩]
private def e534 : Expr 8 := [⟨5#8, []⟩, ⟨3#8, [3]⟩, ⟨1#8, [4]⟩]
private def g8 : Int → Option (Expr 8) := fun v =>
  if v = 3 then some [⟨1#8, []⟩, ⟨1#8, [5]⟩] else if v = 4 then some [⟨1#8, [5]⟩] else none

example : mul e13 [⟨2#8, []⟩, ⟨1#8, [3]⟩] = [⟨2#8, []⟩, ⟨3#8, [3]⟩, ⟨1#8, [3, 3]⟩] := by decide
example : mul (var 7 : Expr 8) e13 = [⟨1#8, [3, 7]⟩, ⟨1#8, [7]⟩] := by decide
example : half ([⟨2#8, [3]⟩, ⟨254#8, []⟩] : Expr 8) = some [⟨1#8, [3]⟩, ⟨127#8, []⟩] := by decide
example : half e13 = none := by decide
example : symbEvaluate ([⟨2#8, [3]⟩, ⟨1#8, [3, 4]⟩] : Expr 8) g8
    = some [⟨2#8, []⟩, ⟨3#8, [5]⟩, ⟨1#8, [5, 5]⟩] := by decide
example : symbEvaluate ([⟨2#8, [3]⟩, ⟨1#8, [3, 6]⟩] : Expr 8) g8 = none := by decide
-- `128*x + 129*x*x` normalises to `x*x` (phase 2), `128*x*x + x` to `129*x` (phase 1);
-- `dedupVars`/`mergeChunks` are defined by well-founded recursion, hence kernel evaluation
example : normalize ([⟨128#8, [3]⟩, ⟨129#8, [3, 3]⟩] : Expr 8) = [⟨1#8, [3, 3]⟩] := by decide +kernel
example : normalize ([⟨128#8, [3, 3]⟩, ⟨1#8, [3]⟩] : Expr 8) = [⟨129#8, [3]⟩] := by decide +kernel

-- the decompositions, on expressions in normal form
example : Canon e13 ∧ Canon e534 ∧ WeakCanon e534 := by decide
example : constant ([⟨9#8, []⟩] : Expr 8) = some 9#8 := by decide
example : identity ([⟨1#8, [3]⟩] : Expr 8) = some 3 := by decide
example : constIncOf e13 3 = some 1#8 := by decide
example : prodOf ([⟨2#8, [3]⟩, ⟨1#8, [3, 4]⟩] : Expr 8) 3 = some [⟨2#8, []⟩, ⟨1#8, [4]⟩] := by decide
example : incOf e534 4 = some [⟨5#8, []⟩, ⟨3#8, [3]⟩] := by decide
example : prodIncOf e534 3 = some ([⟨5#8, []⟩, ⟨1#8, [4]⟩], 3#8) := by decide
example : constantPart e534 = 5#8 := by decide
example : Built (mul (var 7 : Expr 8) (add (val 1#8) (var 5))) :=
  .mul (.var 7) (.add (.val 1#8) (.var 5))

end Examples

end C15
end Hpbf

#print axioms Hpbf.C15.value_val
#print axioms Hpbf.C15.value_var
#print axioms Hpbf.C15.value_add
#print axioms Hpbf.C15.value_mul
#print axioms Hpbf.C15.value_neg
#print axioms Hpbf.C15.value_half
#print axioms Hpbf.C15.value_normalize
#print axioms Hpbf.C15.value_symbEvaluate
#print axioms Hpbf.C15.symbEvaluate_defined
#print axioms Hpbf.C15.symbEvaluate_none_iff
#print axioms Hpbf.C15.value_mulParts
#print axioms Hpbf.C15.constant_recompose
#print axioms Hpbf.C15.identity_recompose
#print axioms Hpbf.C15.constIncOf_recompose
#print axioms Hpbf.C15.prodOf_recompose
#print axioms Hpbf.C15.incOf_recompose
#print axioms Hpbf.C15.prodIncOf_recompose
#print axioms Hpbf.C15.constantPart_recompose
#print axioms Hpbf.C15.incOf_fresh
#print axioms Hpbf.C15.prodIncOf_fresh
#print axioms Hpbf.C15.canon_implies_weakCanon
#print axioms Hpbf.C15.preserve_add
#print axioms Hpbf.C15.preserve_mul
#print axioms Hpbf.C15.preserve_normalize
#print axioms Hpbf.C15.preserve_symbEvaluate
#print axioms Hpbf.C15.preserve_prodOf
#print axioms Hpbf.C15.built_canon
#print axioms Hpbf.C15.C15_arithmetic
#print axioms Hpbf.C15.C15_decompositions
#print axioms Hpbf.C15.mul_original_breaks_normal_form
#print axioms Hpbf.C15.value_mulOrig
#print axioms Hpbf.C15.original_constructors_keep_SCanon
