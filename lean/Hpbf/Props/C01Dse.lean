/-
Property C01 (part: the optimiser's IR-level DEAD STORE ELIMINATION, `src/opt.rs` `OptDseState`,
`Program::dead_store_elimination`; model `Hpbf/OptDse.lean`, tied to the Rust by the suite `optdse`).

The pass runs between two optimiser rounds (levels ≥ 2).  It consumes facts of the analysis left by the
previous round (`DAnal`: `at_most_once`, `at_least_once`, `has_shift`, `reads`, one node per nested block).
In the theorems here the soundness of these facts is the HYPOTHESIS `AnalSound`, stated as weakly as the proof
allows (each clause is what the pass USES the fact for).  For the facts that a round of the optimiser model
(`Hpbf/Opt.lean`) records, `AnalSound` is proved: `OptProof.optimizeOnce_analSound` in `Proofs/OptRbRounds3.lean`.

* `eliminate_preserves`: if the pass succeeds on `b` with analysis `anal`, no `calc` of `b` assigns a cell twice
  (`NoDupTargets`), and the facts are sound for the run of `b` under `env`, then `b` and the result `b'` have
  the same observable behaviour under `env`: finished / stopped runs correspond (same events, environment,
  pointer; the final TAPE may differ – `tape_may_differ`), and runs cut off by fuel have the same events.
  In fact the two runs are in LOCKSTEP (`eliminate_lockstep`): same fuel, same mode, same budget – the pass
  keeps every instruction (a `calc` may become empty) – so limited mode comes for free
  (`eliminate_preserves_limited`: facts sound for the unlimited run are sound for every limited run).
* `eliminate_total` / `eliminate_none_iff`: the pass fails (the Rust panics) exactly when some nested block has
  no analysis node (`ShapeOk`).
* `eliminate_shape`: the result is the input with some assignments deleted.
* Every hypothesis is necessary: for each one a program + analysis + environment violating ONLY it, on which
  the pass changes the output (`*_necessary`).  In particular the pass is WRONG on a `calc` with a repeated
  target (`duplicate_targets_unsound`) – such `calc`s are not produced by the optimiser.
* `analSound_of_check`: for runs that end within `N` steps the hypothesis is a boolean test; it is used for the
  examples here and by the harness suite `dsefacts` on the analyses of real optimiser runs.

What the pass needs of each fact (`AnalSoundAt`, four clauses; `c` ranges over the configurations REACHED by the
run of `b` under `env`; the analysis node of a nested block is found from the continuation stack, `analOf`):
* `has_shift = false` (syntactic): the block's `shift` is `0` and its nested blocks are marked `has_shift = false`;
* `at_least_once = true`: whenever the run reaches the loop / if, its condition cell is non-zero;
* `at_most_once = true`: whenever an iteration of the loop ends, the re-tested condition is zero (nothing for an
  `if`);
* `reads` (needed only with `has_shift = false`, only for loops, only for the SECOND and later iterations):
  whenever an iteration ends and another one starts, a cell not in `reads` is not read during that new iteration
  before it has been written (the re-test of the condition at the end of the iteration is NOT counted).
-/
import Hpbf.Proofs.C01DseEx
import Hpbf.Proofs.C01DseStraight
import Hpbf.Proofs.C01Parse

namespace Hpbf
namespace C01Dse
open Ir OptDse

variable {w : Nat}

/- The vocabulary of the statements below, unfolded. -/

example (A : DAnal) (k : Nat) :
    subAt A k = if k ≤ A.subs.length then A.subs[A.subs.length - k]? else none := rfl
example (top : DAnal) : analOf (w := w) top [] = some top := rfl
example (top : DAnal) (k : Cont w) (ks : List (Cont w)) :
    analOf top (k :: ks) =
      (match analOf top ks with
       | some A => subAt A (nblocks (contRest k) + 1)
       | none => none) := rfl
example (l : List (Instr w)) : nblocks l = l.countP isBlock := rfl

example (lim : Bool) (bud : Nat) (b : Block w) (env : Env) (c : Cfg w) :
    Reach lim bud b env c ↔ ∃ f, cfgAt lim f ⟨b.insts, [], bud, State.init env⟩ = some c := Iff.rfl
example (lim : Bool) (c : Cfg w) : cfgAt lim 0 c = some c := rfl
example (lim : Bool) (f : Nat) (c : Cfg w) :
    cfgAt lim (f + 1) c = (match step lim c with | .next c' => cfgAt lim f c' | _ => none) := rfl

example (b : Block w) (anal : DAnal) : ShiftFact b anal ↔ shiftOkL anal b.insts = true := Iff.rfl
example (lim : Bool) (bud : Nat) (b : Block w) (anal : DAnal) (env : Env) :
    AtLeastFact lim bud b anal env ↔
      ∀ (c : Cfg w), Reach lim bud b env c →
        ∀ (i : Instr w) (rest : List (Instr w)) (cond shift : Int) (body : List (Instr w)) (A0 A1 : DAnal),
          c.cur = i :: rest → blockParts i = some (cond, shift, body) →
          analOf anal c.conts = some A0 → subAt A0 (nblocks rest + 1) = some A1 →
          A1.atLeastOnce = true → c.st.rd cond ≠ 0#w := Iff.rfl
example (lim : Bool) (bud : Nat) (b : Block w) (anal : DAnal) (env : Env) :
    AtMostFact lim bud b anal env ↔
      ∀ (c : Cfg w), Reach lim bud b env c →
        ∀ (cond shift : Int) (body rest : List (Instr w)) (ks : List (Cont w)) (A0 : DAnal),
          c.cur = [] → c.conts = .loopEnd cond shift body rest :: ks →
          analOf anal c.conts = some A0 → A0.atMostOnce = true → (c.st.mov shift).rd cond = 0#w := Iff.rfl
example (lim : Bool) (bud : Nat) (b : Block w) (anal : DAnal) (env : Env) :
    ReadsFact lim bud b anal env ↔
      ∀ (c : Cfg w), Reach lim bud b env c →
        ∀ (cond shift : Int) (body rest : List (Instr w)) (ks : List (Cont w)) (A0 : DAnal) (c1 : Cfg w),
          c.cur = [] → c.conts = .loopEnd cond shift body rest :: ks →
          analOf anal c.conts = some A0 → A0.hasShift = false → (c.st.mov shift).rd cond ≠ 0#w →
          step lim c = .next c1 →
          ∀ (v : Int) (n : Nat), v ∉ A0.reads →
            unexposedN lim c.conts.length (c1.st.ptr + v) n c1 = true := Iff.rfl
example (lim : Bool) (bud : Nat) (b : Block w) (anal : DAnal) (env : Env) :
    AnalSoundAt lim bud b anal env ↔
      (ShiftFact b anal ∧ AtLeastFact lim bud b anal env ∧ AtMostFact lim bud b anal env ∧
        ReadsFact lim bud b anal env) :=
  ⟨fun h => ⟨h.shift, h.atLeast, h.atMost, h.reads⟩, fun ⟨a, b, c, d⟩ => ⟨a, b, c, d⟩⟩
example (b : Block w) (anal : DAnal) (env : Env) : AnalSound b anal env ↔ AnalSoundAt false 0 b anal env := Iff.rfl

/-- "Not read before written until the iteration running at depth `d` is over". -/
example (lim : Bool) (d : Nat) (a : Int) (c : Cfg w) : unexposedN lim d a 0 c = true := rfl
example (lim : Bool) (d : Nat) (a : Int) (n : Nat) (c : Cfg w) :
    unexposedN lim d a (n + 1) c =
      (if c.cur.isEmpty && decide (c.conts.length ≤ d) then true
       else !(stepReads c).contains a &&
         ((stepWrites c).contains a ||
           match step lim c with
           | .next c' => unexposedN lim d a n c'
           | _ => true)) := rfl

/-- The syntactic part: `has_shift = false` means shift `0`, recursively. -/
example (A : DAnal) (cond shift : Int) (body : List (Instr w)) (once : Bool) (k : Nat) :
    shiftOkI A (.loop cond shift body once) k =
      (match subAt A k with
       | some A1 =>
         (A1.hasShift || (shift == 0 && (usedSubs A1 (nblocks body)).all (fun a => !a.hasShift)))
           && shiftOkL A1 body
       | none => true) := by rw [shiftOkI]; cases subAt A k <;> rfl
example (A : DAnal) (i : Instr w) (rest : List (Instr w)) :
    shiftOkL A (i :: rest) = (shiftOkI A i (nblocks rest + 1) && shiftOkL A rest) := by rw [shiftOkL]
example (A : DAnal) (n : Nat) : usedSubs A n = A.subs.drop (A.subs.length - n) := rfl

example (b : Block w) : NoDupTargets b ↔ noDupL b.insts = true := Iff.rfl
example (calcs : List (Int × Expr w)) : noDupI (.calc calcs) = decide ((calcs.map Prod.fst).Nodup) := by
  rw [noDupI]
example (b : Block w) (anal : DAnal) : ShapeOk b anal ↔ shapeOkL anal b.insts = true := Iff.rfl

example (c c' : Cfg w) : Obs c c' ↔
    (c'.st.trace = c.st.trace ∧ c'.st.env = c.st.env ∧ c'.st.ptr = c.st.ptr ∧ c'.budget = c.budget) := Iff.rfl
example (c c' : Cfg w) : ObsEq (.done c) (.done c') = Obs c c' := rfl
example (c c' : Cfg w) : ObsEq (.stopped c) (.stopped c') = Obs c c' := rfl
example (c c' : Cfg w) : ObsEq (.interrupted c) (.interrupted c') = Obs c c' := rfl
example (c c' : Cfg w) : ObsEq (.outOfFuel c) (.outOfFuel c') = Obs c c' := rfl
example (c c' : Cfg w) : ObsEq (.done c) (.stopped c') = False := rfl
/-- `traceOf` (C01DseDefs) and `C01.traceOf` (C01Parse) are one function under two names. -/
theorem traceOf_eq_c01 : @traceOf w = @C01.traceOf w := by funext o; cases o <;> rfl
example : @traceOf w = @C01.traceOf w := traceOf_eq_c01

/-- LOCKSTEP, any mode: same fuel, same budget, same kind of ending, same events / environment / pointer /
remaining budget. -/
theorem eliminate_lockstep {lim : Bool} {bud : Nat} {b b' : Block w} {anal : DAnal} {env : Env}
    (hE : eliminate b anal = some b') (hnd : NoDupTargets b) (hS : AnalSoundAt lim bud b anal env)
    (f : Nat) : ObsEq (run b lim bud f env) (run b' lim bud f env) :=
  inv_run hS f (inv_init hE hnd hS)

/-- Unlimited mode: forward, backward, prefix. -/
theorem eliminate_preserves {b b' : Block w} {anal : DAnal} {env : Env}
    (hE : eliminate b anal = some b') (hnd : NoDupTargets b) (hS : AnalSound b anal env) :
    (∀ f c, run b false 0 f env = .done c → ∃ f' c', run b' false 0 f' env = .done c' ∧
      c'.st.trace = c.st.trace ∧ c'.st.env = c.st.env ∧ c'.st.ptr = c.st.ptr) ∧
    (∀ f c, run b false 0 f env = .stopped c → ∃ f' c', run b' false 0 f' env = .stopped c' ∧
      c'.st.trace = c.st.trace ∧ c'.st.env = c.st.env ∧ c'.st.ptr = c.st.ptr) ∧
    (∀ f' c', run b' false 0 f' env = .done c' → ∃ f c, run b false 0 f env = .done c ∧
      c'.st.trace = c.st.trace ∧ c'.st.env = c.st.env ∧ c'.st.ptr = c.st.ptr) ∧
    (∀ f' c', run b' false 0 f' env = .stopped c' → ∃ f c, run b false 0 f env = .stopped c ∧
      c'.st.trace = c.st.trace ∧ c'.st.env = c.st.env ∧ c'.st.ptr = c.st.ptr) ∧
    (∀ f', ∃ f, C01.traceOf (run b false 0 f env) = C01.traceOf (run b' false 0 f' env)) ∧
    (∀ f, ∃ f', C01.traceOf (run b' false 0 f' env) = C01.traceOf (run b false 0 f env)) := by
  have L := eliminate_lockstep hE hnd hS
  refine ⟨fun f c h => ?_, fun f c h => ?_, fun f c' h => ?_, fun f c' h => ?_, fun f => ⟨f, ?_⟩,
    fun f => ⟨f, ?_⟩⟩
  · obtain ⟨c', h1, h2⟩ := (L f).done_left h
    exact ⟨f, c', h1, h2.1, h2.2.1, h2.2.2.1⟩
  · obtain ⟨c', h1, h2⟩ := (L f).stopped_left h
    exact ⟨f, c', h1, h2.1, h2.2.1, h2.2.2.1⟩
  · obtain ⟨c, h1, h2⟩ := (L f).done_right h
    exact ⟨f, c, h1, h2.1, h2.2.1, h2.2.2.1⟩
  · obtain ⟨c, h1, h2⟩ := (L f).stopped_right h
    exact ⟨f, c, h1, h2.1, h2.2.1, h2.2.2.1⟩
  · rw [← traceOf_eq_c01]; exact (traceOf_eq_of_obsEq (L f)).symm
  · rw [← traceOf_eq_c01]; exact traceOf_eq_of_obsEq (L f)

/-- Facts that are sound for the unlimited run are sound for every limited run (it is a prefix of it). -/
theorem analSound_limited {b : Block w} {anal : DAnal} {env : Env} (h : AnalSound b anal env) (bud : Nat) :
    AnalSoundAt true bud b anal env := by
  have hreach : ∀ c, Reach true bud b env c → Reach false 0 b env (C07.irErase c) := by
    rintro c ⟨f, hf⟩
    exact ⟨f, cfgAt_erase hf⟩
  refine ⟨h.shift, ?_, ?_, ?_⟩
  · intro c hc i rest cond shift body A0 A1 h1 h2 h3 h4 h5
    exact h.atLeast (C07.irErase c) (hreach c hc) i rest cond shift body A0 A1 h1 h2 h3 h4 h5
  · intro c hc cond shift body rest ks A0 h1 h2 h3 h4
    exact h.atMost (C07.irErase c) (hreach c hc) cond shift body rest ks A0 h1 h2 h3 h4
  · intro c hc cond shift body rest ks A0 c1 h1 h2 h3 h4 h5 h6 v n hv
    have := h.reads (C07.irErase c) (hreach c hc) cond shift body rest ks A0 (C07.irErase c1) h1 h2 h3 h4 h5
      (step_erase h6) v n hv
    exact unexposed_erase this

/-- Limited mode: the pass does not change the number of loop / if iterations, which is what the budget
counts; interrupted runs correspond too (same events, environment, pointer after unwinding). -/
theorem eliminate_preserves_limited {b b' : Block w} {anal : DAnal} {env : Env}
    (hE : eliminate b anal = some b') (hnd : NoDupTargets b) (hS : AnalSound b anal env) (bud f : Nat) :
    ObsEq (run b true bud f env) (run b' true bud f env) :=
  eliminate_lockstep hE hnd (analSound_limited hS bud) f

/-- The unlimited interpreter is never interrupted (so `eliminate_preserves` covers all its endings). -/
theorem never_interrupted (b : Block w) (f : Nat) (env : Env) (c : Cfg w) :
    run b false 0 f env ≠ .interrupted c :=
  C01.runCfg_not_interrupted _ _ _

/-- The final tape may differ: a trailing store is deleted. -/
theorem tape_may_differ : ∃ (b b' : Block 8) (anal : DAnal) (env : Env),
    eliminate b anal = some b' ∧ NoDupTargets b ∧ AnalSound b anal env ∧
    ∃ c c', run b false 0 5 env = .done c ∧ run b' false 0 5 env = .done c' ∧
      c.st.tape.get 0 = 5#8 ∧ c'.st.tape.get 0 = 0#8 :=
  ⟨Ex.exTape, Ex.exTape', Ex.top [], Ex.envO, Ex.exTape_elim, by decide, Ex.exTape_sound, Ex.exTape_differs⟩

theorem eliminate_total {b : Block w} {anal : DAnal} (h : ShapeOk b anal) :
    ∃ b', eliminate b anal = some b' := by
  obtain ⟨⟨insts, s, idx⟩, he⟩ := elim_total_both.2 b.insts [] (DState.new 0 anal) h
  have he' : elimInsts [] b.insts (DState.new 0 anal) anal.subs.length = some (insts, s, idx) := he
  exact ⟨{ b with insts := insts }, by unfold eliminate; rw [he']⟩

theorem eliminate_none_iff {b : Block w} {anal : DAnal} : eliminate b anal = none ↔ ¬ ShapeOk b anal := by
  constructor
  · intro h hs
    obtain ⟨b', hb'⟩ := eliminate_total hs
    rw [h] at hb'; exact absurd hb' (by simp)
  · intro h
    cases he : eliminate b anal with
    | none => rfl
    | some b' => exact absurd (shapeOk_of_eliminate he) h

example : eliminate Ex.exAM (Ex.top []) = none ∧ ¬ ShapeOk Ex.exAM (Ex.top []) := Ex.exShape

/-- Programs without loops / ifs: NO analysis hypothesis (pure backward liveness with "nothing runs after the
end of the program"); the pass always succeeds on them. -/
theorem eliminate_preserves_straightline {b : Block w} (anal : DAnal) (hb : StraightLine b)
    (hnd : NoDupTargets b) :
    ∃ b', eliminate b anal = some b' ∧
      ∀ (lim : Bool) (bud f : Nat) (env : Env), ObsEq (run b lim bud f env) (run b' lim bud f env) := by
  obtain ⟨b', hb'⟩ := eliminate_total (b := b) (anal := anal) (shapeOkL_straight anal b.insts hb)
  exact ⟨b', hb', fun lim bud f env => eliminate_lockstep hb' hnd (analSound_straight lim bud anal env hb) f⟩
example (b : Block w) : StraightLine b ↔ ∀ i ∈ b.insts, isBlock i = false := Iff.rfl

/-- Same loops / ifs / inputs / outputs in the same order (same conditions, shifts, `once` flags); every `calc`
is a sub-list of the original one. -/
theorem eliminate_shape {b b' : Block w} {anal : DAnal} (h : eliminate b anal = some b') :
    b'.shift = b.shift ∧ SubL b.insts b'.insts :=
  eliminate_sub h

example (src : Int) : SubI (w := w) (.output src) (.output src) := .output src
example (dst : Int) : SubI (w := w) (.input dst) (.input dst) := .input dst
example (calcs calcs' : List (Int × Expr w)) (h : calcs'.Sublist calcs) : SubI (.calc calcs) (.calc calcs') :=
  .calc h
example (cond shift : Int) (body body' : List (Instr w)) (once : Bool) (h : SubL body body') :
    SubI (.loop cond shift body once) (.loop cond shift body' once) := .loop cond shift once h
example (cond shift : Int) (body body' : List (Instr w)) (h : SubL body body') :
    SubI (.ifnz cond shift body) (.ifnz cond shift body') := .ifnz cond shift h
example : SubL (w := w) [] [] := .nil
example (i i' : Instr w) (l l' : List (Instr w)) (h1 : SubI i i') (h2 : SubL l l') : SubL (i :: l) (i' :: l') :=
  .cons h1 h2

theorem analSound_of_check {lim : Bool} {bud : Nat} {b : Block w} {anal : DAnal} {env : Env} (N : Nat)
    (h : checkSound lim bud b anal env N = true) : AnalSoundAt lim bud b anal env :=
  analSoundAt_of_check N h

/- The hypotheses are satisfiable (a loop whose back edge is looked through; two deletions). -/

example : eliminate Ex.exMain Ex.anMain = some Ex.exMain' := Ex.exMain_elim
example : NoDupTargets Ex.exMain ∧ AnalSound Ex.exMain Ex.anMain Ex.envO ∧
    AnalSound Ex.exMain Ex.anMain Ex.envRefuse :=
  ⟨Ex.exMain_nodup, Ex.exMain_sound, Ex.exMain_sound_refuse⟩
example : Ex.doneWith Ex.exMain Ex.exMain' Ex.envO 40 [.out 2, .out 3] [.out 2, .out 3] := Ex.exMain_runs
example : ∃ c c', run Ex.exMain false 0 40 Ex.envRefuse = .stopped c ∧
    run Ex.exMain' false 0 40 Ex.envRefuse = .stopped c' ∧ c.st.trace = [.outFail 2, .out 3] ∧
    c'.st.trace = [.outFail 2, .out 3] := Ex.exMain_stops

/-- `at_least_once` claimed for an `if` that is not entered: the output changes (7 becomes 0). -/
theorem atLeast_necessary : ∃ (b b' : Block 8) (anal : DAnal) (env : Env),
    eliminate b anal = some b' ∧ NoDupTargets b ∧ ShiftFact b anal ∧ AtMostFact false 0 b anal env ∧
    ReadsFact false 0 b anal env ∧ Ex.doneWith b b' env 10 [.out 7] [.out 0] :=
  ⟨Ex.exAL, Ex.exAL', Ex.anAL, Ex.envO, Ex.exAL_elim, Ex.exAL_others.1, Ex.exAL_others.2.1,
    Ex.exAL_others.2.2.1, Ex.exAL_others.2.2.2, Ex.exAL_differs⟩

/-- `at_most_once` claimed for a loop with two iterations. -/
theorem atMost_necessary : ∃ (b b' : Block 8) (anal : DAnal) (env : Env),
    eliminate b anal = some b' ∧ NoDupTargets b ∧ ShiftFact b anal ∧ AtLeastFact false 0 b anal env ∧
    ReadsFact false 0 b anal env ∧ Ex.doneWith b b' env 20 [.out 5, .out 0] [.out 0, .out 0] :=
  ⟨Ex.exAM, Ex.exAM', Ex.anAM, Ex.envO, Ex.exAM_elim, Ex.exAM_others.1, Ex.exAM_others.2.1,
    Ex.exAM_others.2.2.1, Ex.exAM_others.2.2.2, Ex.exAM_differs⟩

/-- A cell read at the start of the second iteration is missing from `reads`. -/
theorem reads_necessary : ∃ (b b' : Block 8) (anal : DAnal) (env : Env),
    eliminate b anal = some b' ∧ NoDupTargets b ∧ ShiftFact b anal ∧ AtLeastFact false 0 b anal env ∧
    AtMostFact false 0 b anal env ∧ Ex.doneWith b b' env 20 [.out 5, .out 0] [.out 0, .out 0] :=
  ⟨Ex.exAM, Ex.exAM', Ex.anRD, Ex.envO, Ex.exRD_elim, Ex.exRD_others.1, Ex.exRD_others.2.1,
    Ex.exRD_others.2.2.1, Ex.exRD_others.2.2.2, Ex.exAM_differs⟩

/-- `has_shift = false` on a block with `shift = 1`. -/
theorem shift_necessary : ∃ (b b' : Block 8) (anal : DAnal) (env : Env),
    eliminate b anal = some b' ∧ NoDupTargets b ∧ AtLeastFact false 0 b anal env ∧
    AtMostFact false 0 b anal env ∧ ReadsFact false 0 b anal env ∧ Ex.doneWith b b' env 10 [.out 7] [.out 0] :=
  ⟨Ex.exSA, Ex.exSA', Ex.anSA, Ex.envO, Ex.exSA_elim, Ex.exSA_others.1, Ex.exSA_others.2.1,
    Ex.exSA_others.2.2.1, Ex.exSA_others.2.2.2, Ex.exSA_differs⟩

/-- `has_shift = false` on a block with `shift = 0` that contains a block marked `has_shift = true`. -/
theorem shift_rec_necessary : ∃ (b b' : Block 8) (anal : DAnal) (env : Env),
    eliminate b anal = some b' ∧ NoDupTargets b ∧ AtLeastFact false 0 b anal env ∧
    AtMostFact false 0 b anal env ∧ ReadsFact false 0 b anal env ∧ Ex.doneWith b b' env 10 [.out 7] [.out 0] :=
  ⟨Ex.exSB, Ex.exSB', Ex.anSB, Ex.envO, Ex.exSB_elim, Ex.exSB_others.1, Ex.exSB_others.2.1,
    Ex.exSB_others.2.2.1, Ex.exSB_others.2.2.2, Ex.exSB_differs⟩

/-- On a `calc` that assigns a cell twice the pass deletes BOTH assignments although the cell is read
afterwards (`(x0, x0) := (1, 2); out x0` prints 2, after the pass 0), with a sound analysis (there is no nested
block).  `calcScan` treats the second occurrence as "will be overwritten" because the first one has just been
recorded as a write, and `retain` removes by variable. -/
theorem duplicate_targets_unsound : ∃ (b b' : Block 8) (anal : DAnal) (env : Env),
    eliminate b anal = some b' ∧ AnalSound b anal env ∧ ¬ NoDupTargets b ∧
    Ex.doneWith b b' env 5 [.out 2] [.out 0] :=
  ⟨Ex.exDup, Ex.exDup', Ex.top [], Ex.envO, Ex.exDup_elim, Ex.exDup_sound, by decide, Ex.exDup_differs⟩

end C01Dse
end Hpbf

#print axioms Hpbf.C01Dse.eliminate_lockstep
#print axioms Hpbf.C01Dse.eliminate_preserves
#print axioms Hpbf.C01Dse.analSound_limited
#print axioms Hpbf.C01Dse.eliminate_preserves_limited
#print axioms Hpbf.C01Dse.eliminate_preserves_straightline
#print axioms Hpbf.C01Dse.never_interrupted
#print axioms Hpbf.C01Dse.tape_may_differ
#print axioms Hpbf.C01Dse.eliminate_total
#print axioms Hpbf.C01Dse.eliminate_none_iff
#print axioms Hpbf.C01Dse.eliminate_shape
#print axioms Hpbf.C01Dse.analSound_of_check
#print axioms Hpbf.C01Dse.atLeast_necessary
#print axioms Hpbf.C01Dse.atMost_necessary
#print axioms Hpbf.C01Dse.reads_necessary
#print axioms Hpbf.C01Dse.shift_necessary
#print axioms Hpbf.C01Dse.shift_rec_necessary
#print axioms Hpbf.C01Dse.duplicate_targets_unsound
