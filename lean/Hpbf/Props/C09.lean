/-
C09 — "For every sequence of pointer moves, writes, reads, accessibility requests and bounds
queries on a tape object, each read returns the value most recently written to that logical cell
(0 if never written), reads never allocate, a requested range is reported accessible afterwards,
and growth in either direction preserves both contents and the logical pointer."

The model of `runtime::Memory<C>` is `Hpbf/Mem.lean`.  All claims are made under the range guard (`Small`,
`SmallArg`, `GuardAll`: sizes, offsets as `isize` and arguments below `2^59` cells in absolute value);
outside it no claim is made (the model says what wraps there).  Why `2^59` covers what the real code can
reach before the allocator fails is explained at `Mem.bound` in `Proofs/C09.lean`.
-/
import Hpbf.Proofs.C09

namespace Hpbf.C09
open Hpbf Hpbf.Mem

variable {w : Nat}

/-- `Memory::<u8>::new()` after `write(-100, 1)`: size 100, offset 100. -/
def witness : Mem 8 := (Mem.new : Mem 8).write (-100) 1#8

example : witness.size = 100 ∧ witness.offset = 100 ∧ WF witness ∧ Small witness := by decide

/-- C09, a read returns the logical cell (`0` outside the allocation). -/
theorem read_eq_cell {m : Mem w} {off : Int} (hs : Small m) (ho : SmallArg off) :
    m.read off = m.cell off := by
  unfold Mem.read cell
  simp only
  by_cases h : 0 ≤ asI64 m.offset + off ∧ asI64 m.offset + off < m.size
  · rw [if_pos ((wrap_lt_size_iff hs ho).2 h), if_pos h, wrap_eq_toNat hs ho h.1]
  · rw [if_neg (fun h' => h ((wrap_lt_size_iff hs ho).1 h')), if_neg h]

example : Small witness ∧ SmallArg (-100) := by decide
example : Small witness ∧ SmallArg 1000000000000 := by decide

/-- C09, reads never allocate.  `Mem.read : Mem w → Int → BitVec w` is a pure function that returns only a
value, so there is no state it could change; stated on the step function of the history theorem: the state
after a `read` step (and after a `check` step) is the state before it. -/
theorem read_no_alloc (m : Mem w) (off : Int) :
    (m.apply (.read off)).1 = m ∧ (m.apply (.check off)).1 = m :=
  ⟨rfl, rfl⟩

/-- `check` answers exactly "the logical position is inside the allocation". -/
theorem check_iff {m : Mem w} {off : Int} (hs : Small m) (ho : SmallArg off) :
    m.check off = true ↔ 0 ≤ asI64 m.offset + off ∧ asI64 m.offset + off < m.size := by
  unfold check
  rw [decide_eq_true_iff]
  exact wrap_lt_size_iff hs ho

example : Small witness ∧ SmallArg (-101) := by decide

/-- C09, moving the pointer by `d` shifts the logical view by `d` (for every `off`, however far). -/
theorem mov_cell {m : Mem w} {d : Int} (hs : Small m) (hd : SmallArg d) (off : Int) :
    (m.mov d).cell off = m.cell (off + d) := by
  have h := mov_offset hs hd
  unfold cell
  rw [h]
  have e : asI64 m.offset + d + off = asI64 m.offset + (off + d) := by omega
  rw [e]
  rfl

theorem mov_wf {m : Mem w} (d : Int) (hwf : WF m) : WF (m.mov d) :=
  ⟨hwf.1, wrapU64_lt _⟩

example : WF witness ∧ Small witness ∧ SmallArg (-123456789012345) := by decide

/-- C09, a write changes exactly the addressed logical cell; every other cell and the logical pointer are
preserved, whether or not the write had to grow the allocation (`write_out_of_bounds`). -/
theorem write_cell {m : Mem w} {off : Int} (v : BitVec w) (hwf : WF m) (hs : Small m)
    (ho : SmallArg off) (off' : Int) :
    (m.write off v).cell off' = if off' = off then v else m.cell off' := by
  unfold write
  simp only
  split
  · rename_i h
    have h' := (wrap_lt_size_iff hs ho).1 h
    rw [wrap_eq_toNat hs ho h'.1]
    exact cell_set hwf v h'.1 h'.2 off'
  · have hr := ho.cellRange
    have W := makeAccessible_wf' hwf hs hr
    obtain ⟨p1, p2, p3⟩ := makeAccessible_inside (i := off) hwf hs hr (by omega) (by omega)
    rw [p3, cell_set W v p1 p2 off', makeAccessible_cell' hwf hs hr]

theorem write_wf {m : Mem w} {off : Int} (v : BitVec w) (hwf : WF m) (hs : Small m)
    (ho : SmallArg off) : WF (m.write off v) := by
  unfold write
  simp only
  split
  · exact ⟨by simp [hwf.1], hwf.2⟩
  · have W := makeAccessible_wf' hwf hs ho.cellRange
    exact ⟨by simp [W.1], W.2⟩

-- an out-of-bounds write above and one below the allocation of the witness state
example : WF witness ∧ Small witness ∧ SmallArg 5000 ∧ witness.check 5000 = false := by decide
example : WF witness ∧ Small witness ∧ SmallArg (-5000) ∧ witness.check (-5000) = false := by decide

/-- Under the guard the numbers computed by the model's `make_accessible` are the wrap-free ones. -/
theorem makeAccessible_growth {m : Mem w} {a b : Int} (hs : Small m)
    (ha : SmallArg a) (hb : SmallArg b) :
    m.growth a b = (m.neededBelow a, m.neededAbove b, m.newSize a b, m.addedBelow a b) :=
  growth_eq hs (ha.range hb)

/-- C09, growth in either or both directions preserves the contents: every logical cell. -/
theorem makeAccessible_cell {m : Mem w} {a b : Int} (hwf : WF m) (hs : Small m)
    (ha : SmallArg a) (hb : SmallArg b) (off : Int) :
    (m.makeAccessible a b).cell off = m.cell off :=
  makeAccessible_cell' hwf hs (ha.range hb) off

/-- C09, growth preserves the logical pointer: the physical offset moves up by exactly the number of cells
added below (`0` when nothing is needed). -/
theorem makeAccessible_offset {m : Mem w} {a b : Int} (hwf : WF m) (hs : Small m)
    (ha : SmallArg a) (hb : SmallArg b) :
    asI64 (m.makeAccessible a b).offset =
      asI64 m.offset + (if NoGrowth m a b then 0 else m.addedBelow a b : Nat) :=
  (makeAccessible_grown hwf hs (ha.range hb)).offset

theorem makeAccessible_wf {m : Mem w} {a b : Int} (hwf : WF m) (hs : Small m)
    (ha : SmallArg a) (hb : SmallArg b) : WF (m.makeAccessible a b) :=
  makeAccessible_wf' hwf hs (ha.range hb)

/-- C09, a requested range is reported accessible afterwards. -/
theorem makeAccessible_check {m : Mem w} {a b i : Int} (hwf : WF m) (hs : Small m)
    (ha : SmallArg a) (hb : SmallArg b) (hi1 : a ≤ i) (hi2 : i < b) :
    (m.makeAccessible a b).check i = true := by
  obtain ⟨p1, p2, p3⟩ := makeAccessible_inside hwf hs (ha.range hb) hi1 hi2
  unfold check
  rw [decide_eq_true_iff, p3]
  omega

/-- The growth policy of `make_accessible`: nothing when nothing is needed (`noGrowth_iff`), otherwise what
is needed and at least half the size. -/
theorem makeAccessible_size {m : Mem w} {a b : Int} (hs : Small m)
    (ha : SmallArg a) (hb : SmallArg b) :
    (m.makeAccessible a b).size =
      if NoGrowth m a b then m.size
      else m.size + max (m.size / 2) (m.neededBelow a + m.neededAbove b) := by
  rw [makeAccessible_eq hs (ha.range hb)]
  split <;> rfl

/-- Unchanged, or at least `size + max (size / 2) (needed)`. -/
theorem makeAccessible_size_ge {m : Mem w} {a b : Int} (hs : Small m)
    (ha : SmallArg a) (hb : SmallArg b) :
    (NoGrowth m a b ∧ (m.makeAccessible a b).size = m.size) ∨
    (¬ NoGrowth m a b ∧
      (m.makeAccessible a b).size ≥ m.size + max (m.size / 2) (m.neededBelow a + m.neededAbove b)) := by
  rw [makeAccessible_size hs ha hb]
  by_cases h : NoGrowth m a b
  · exact Or.inl ⟨h, by rw [if_pos h]⟩
  · exact Or.inr ⟨h, by rw [if_neg h]; exact Nat.le_refl _⟩

/-- What the three-case `match` for `added_below` guarantees (no hypotheses: pure arithmetic on the
wrap-free quantities). -/
theorem makeAccessible_addedBelow (m : Mem w) (a b : Int) :
    m.neededBelow a ≤ m.addedBelow a b ∧
    m.addedBelow a b + m.neededAbove b ≤ m.newSize a b - m.size ∧
    (m.neededBelow a = 0 → m.addedBelow a b = 0) ∧
    (m.neededBelow a ≠ 0 → m.neededAbove b = 0 → m.addedBelow a b = m.newSize a b - m.size) ∧
    (m.neededBelow a ≠ 0 → m.neededAbove b ≠ 0 →
      m.addedBelow a b = max (m.neededBelow a) ((m.newSize a b - m.size) / 2) ∨
      m.addedBelow a b = m.newSize a b - m.size - m.neededAbove b) :=
  addedBelow_bounds m a b

-- a range that extends below and above the allocation of the witness state at once
example : WF witness ∧ Small witness ∧ SmallArg (-3000) ∧ SmallArg 7000 ∧
    witness.neededBelow (-3000) = 2900 ∧ witness.neededAbove 7000 = 7000 ∧
    ¬ NoGrowth witness (-3000) 7000 ∧ witness.addedBelow (-3000) 7000 = 2900 := by decide
-- a range that needs nothing
example : NoGrowth witness (-100) 0 := by decide

/-- `set_current_ptr(current_ptr())` is the identity, for the four Rust cell widths. -/
theorem setCurrentPtr_currentPtr {m : Mem w} (hw : w = 8 ∨ w = 16 ∨ w = 32 ∨ w = 64)
    (hwf : WF m) (hs : Small m) :
    m.setCurrentPtr m.currentPtr = m :=
  setCurrentPtr_currentPtr' (cellBytes_range hw) hwf hs

/-- `check_ptr(current_ptr().wrapping_offset(off))` is `check(off)`. -/
theorem checkPtr_currentPtr {m : Mem w} {off : Int} (hw : w = 8 ∨ w = 16 ∨ w = 32 ∨ w = 64)
    (hwf : WF m) (hs : Small m) (ho : SmallArg off) :
    m.checkPtr (wrapU64 ((m.currentPtr : Int) + off * (cellBytes w : Int))) = m.check off :=
  checkPtr_currentPtr' (cellBytes_range hw) hs ho

-- a state with a negative `offset as isize` (pointer moved far below the allocation), 64-bit cells
example : let m : Mem 64 := ((Mem.new : Mem 64).write 3 5#64).mov (-1000000)
    WF m ∧ Small m ∧ asI64 m.offset = -1000000 ∧ m.size = 4 ∧ SmallArg (-77) := by decide

-- the guard is not gratuitous: with 8-byte cells and `offset = 2^60` the byte pointer wraps in an
-- `isize` and `set_current_ptr(current_ptr())` lands on a different offset (`2^64 - 2^60`)
example : let m : Mem 64 := { buf := #[], size := 0, offset := 2 ^ 60 }
    WF m ∧ ¬ Small m ∧ (m.setCurrentPtr m.currentPtr).offset = 2 ^ 64 - 2 ^ 60 := by decide

theorem step_refines {m : Mem w} {s : Spec w} (op : MemOp w) (hwf : WF m) (habs : Abs m s)
    (hg : Guard m op) :
    (m.apply op).2 = (s.apply op).2 ∧ Abs (m.apply op).1 (s.apply op).1 ∧ WF (m.apply op).1 := by
  obtain ⟨hs, ha⟩ := hg
  cases op with
  | mov d =>
    refine ⟨rfl, ?_, mov_wf d hwf⟩
    intro off
    show (m.mov d).cell off = s.tape (s.ptr + d + off)
    rw [mov_cell hs ha, habs]
    congr 1; omega
  | read off =>
    refine ⟨?_, habs, hwf⟩
    show some (m.read off) = some (s.tape (s.ptr + off))
    rw [read_eq_cell hs ha, habs]
  | write off v =>
    refine ⟨rfl, ?_, write_wf v hwf hs ha⟩
    intro off'
    show (m.write off v).cell off' = if s.ptr + off' = s.ptr + off then v else s.tape (s.ptr + off')
    rw [write_cell v hwf hs ha, habs]
    by_cases e : off' = off
    · subst e; simp
    · rw [if_neg e, if_neg (by omega)]
  | makeAccessible a b =>
    have hr := ha.1.range ha.2
    simp only [Mem.apply, Spec.apply]
    exact ⟨trivial, fun off => (makeAccessible_cell' hwf hs hr off).trans (habs off), makeAccessible_wf' hwf hs hr⟩
  | check off => exact ⟨rfl, habs, hwf⟩

theorem history_refines' (ops : List (MemOp w)) (m : Mem w) (s : Spec w)
    (hwf : WF m) (habs : Abs m s) (hg : GuardAll m ops) :
    (m.run ops).2 = (s.run ops).2 ∧ Abs (m.run ops).1 (s.run ops).1 ∧ WF (m.run ops).1 := by
  induction ops generalizing m s with
  | nil => exact ⟨rfl, habs, hwf⟩
  | cons op ops ih =>
    obtain ⟨g1, g2⟩ := hg
    obtain ⟨e, a, wf⟩ := step_refines op hwf habs g1
    obtain ⟨e', a', wf'⟩ := ih _ _ wf a g2
    refine ⟨?_, a', wf'⟩
    show (m.apply op).2 :: ((m.apply op).1.run ops).2 = (s.apply op).2 :: ((s.apply op).1.run ops).2
    rw [e, e']

/-- C09, every call history: along any finite sequence of mov / read / write / make_accessible / check calls
whose intermediate states and arguments stay inside the range guard, the model of `Memory` refines the
abstract unbounded tape: the outputs (one slot per call, the value for reads) are equal, the final states are
related, and the representation invariant holds. -/
theorem history_refines (ops : List (MemOp w)) (m : Mem w) (s : Spec w)
    (hwf : WF m) (habs : Abs m s) (hg : GuardAll m ops) :
    let (m', outs) := m.run ops
    let (s', outs') := s.run ops
    outs = outs' ∧ Abs m' s' ∧ WF m' :=
  history_refines' ops m s hwf habs hg

/-- C09, from `Memory::new()`: every read returns the value most recently written to that logical cell, `0`
if it was never written.  `pre` is the history before the read, `post` anything after it (unconstrained);
`MemOp.ptrAfter 0 pre` is the logical pointer (sum of the moves) and `MemOp.lastWrite 0 pos pre` the last
value written to logical position `pos` by `pre`, if any. -/
theorem history_reads (pre post : List (MemOp w)) (off : Int)
    (hg : GuardAll (Mem.new : Mem w) (pre ++ [MemOp.read off])) :
    ((Mem.new : Mem w).run (pre ++ MemOp.read off :: post)).2[pre.length]? =
      some (some ((MemOp.lastWrite 0 (MemOp.ptrAfter 0 pre + off) pre).getD 0#w)) := by
  have e : pre ++ MemOp.read off :: post = (pre ++ [MemOp.read off]) ++ post := by simp
  rw [e, run_prefix_out _ _ _ _ (by simp)]
  rw [(history_refines' _ _ _ wf_new abs_new hg).1]
  exact Spec.run_read_out pre [] off

/-- A history with growth below, far moves, growth on both sides at once, and revisits. -/
def sampleOps : List (MemOp 8) :=
  [.write (-100) 1#8, .mov 1000000, .read (-1000100), .makeAccessible (-2000000) 50, .check (-5),
   .write 7 3#8, .mov (-1000000), .read 1000007, .read (-100), .mov (-123456789012345), .read 9]

example : WF (Mem.new : Mem 8) ∧ Abs (Mem.new : Mem 8) Spec.zero ∧
    GuardAll (Mem.new : Mem 8) sampleOps :=
  ⟨wf_new, abs_new, by decide⟩

-- what the abstract side says about that history (reads: 1, 3, 1, 0)
example : ((Spec.zero : Spec 8).run sampleOps).2 =
    [none, none, some 1#8, none, none, none, none, some 3#8, some 1#8, none, some 0#8] := by decide

end Hpbf.C09

#print axioms Hpbf.C09.read_eq_cell
#print axioms Hpbf.C09.read_no_alloc
#print axioms Hpbf.C09.check_iff
#print axioms Hpbf.C09.mov_cell
#print axioms Hpbf.C09.mov_wf
#print axioms Hpbf.C09.write_cell
#print axioms Hpbf.C09.write_wf
#print axioms Hpbf.C09.makeAccessible_growth
#print axioms Hpbf.C09.makeAccessible_cell
#print axioms Hpbf.C09.makeAccessible_offset
#print axioms Hpbf.C09.makeAccessible_wf
#print axioms Hpbf.C09.makeAccessible_check
#print axioms Hpbf.C09.makeAccessible_size
#print axioms Hpbf.C09.makeAccessible_size_ge
#print axioms Hpbf.C09.makeAccessible_addedBelow
#print axioms Hpbf.C09.setCurrentPtr_currentPtr
#print axioms Hpbf.C09.checkPtr_currentPtr
#print axioms Hpbf.C09.history_refines
#print axioms Hpbf.C09.history_reads
