/-
Property C08.  "If the output sink refuses a byte, or the input source is absent or returns an error,
then under every backend the program stops at that operation: the events before it equal the canonical
sequence, no later event happens, nothing panics or crashes, and the call returns normally.  End of
input is not a failure and reads as 0."

`Env` models `runtime::Context` minus the tape: `input = none` absent source, `some replies` the
replies of the source to successive one-byte reads (`byte b`, `eof` = read returned 0 bytes, `err` =
read returned an error), after which the source is at end of input forever; `sink = false` absent
sink; `outOk = some k` the sink accepts `k` more bytes and refuses the next, `none` never refuses.
`State.input` / `State.output` model `Context::input` / `Context::output` applied to a cell; their
Boolean result `false` means "the program stops here".

Covered: in every machine (canonical `Bf`, in-place interpreter, IR interpreter, bytecode machine, both
modes) a stop step ends the run with the state of that step (the outcome is `.stopped`, never `.bad`) and
comes only from an `inp`/`out` whose `State.input/output` returned `false`; on the canonical machine the
events before a refused byte, and the byte itself, are those of the run with a sink that never refuses;
the in-place interpreter (by C04) and the IR interpreter at level 0 (by C01) stop with the same events as
the canonical machine in the same faulty environment.  Cell width `w` arbitrary (the IR corollaries need
`0 < w`, as C01 does).
-/
import Hpbf.Proofs.C08
import Hpbf.Props.C04
import Hpbf.Props.C01
import Hpbf.Props.C07

namespace Hpbf
namespace C08

variable {w : Nat}

/-- The byte sent by `.` is the low 8 bits of the cell. -/
theorem outByte_low8 (s : State w) (off : Int) : (outByte s off).toNat = (s.rd off).toNat % 256 := by
  simp only [outByte, UInt8.toNat_ofNat', intoU8_toNat]
  omega

/-- C08, end of input is not a failure and reads as 0: the read succeeds, is logged as `inp 0`, and leaves
the environment as it is. -/
theorem eof_reads_zero (s : State w) (off : Int) (h : s.env.input = some []) :
    s.input off = (true, { s.wr off 0#w with trace := Ev.inp 0 :: s.trace }) ∧
    (s.input off).2.rd off = 0#w ∧ (s.input off).2.ptr = s.ptr ∧ (s.input off).2.env = s.env ∧
    (s.input off).2.trace = Ev.inp 0 :: s.trace := by
  rw [input_eof s off h]
  refine ⟨rfl, ?_, rfl, rfl, rfl⟩
  simp [State.rd, State.wr]

theorem eof_sticky (s : State w) (off : Int) (h : s.env.input = some []) :
    (s.input off).2.env.input = some [] := by
  rw [input_eof s off h]; exact h

/-- A read that returns 0 bytes (not necessarily for ever, e.g. a terminal) also reads as 0. -/
theorem eof_reply_reads_zero (s : State w) (off : Int) (rest : List InResp)
    (h : s.env.input = some (.eof :: rest)) :
    s.input off = (true, { s.wr off 0#w with env := { s.env with input := some rest },
                                              trace := Ev.inp 0 :: s.trace }) :=
  input_eof_reply s off rest h

/-- C08, a read error: the program stops; tape and pointer untouched; the failed request is logged. -/
theorem input_error_stops (s : State w) (off : Int) (rest : List InResp)
    (h : s.env.input = some (.err :: rest)) :
    s.input off = (false, { s with env := { s.env with input := some rest },
                                   trace := Ev.inpFail :: s.trace }) ∧
    (s.input off).1 = false ∧ (s.input off).2.tape = s.tape ∧ (s.input off).2.ptr = s.ptr ∧
    (s.input off).2.trace = Ev.inpFail :: s.trace := by
  rw [input_err s off rest h]
  exact ⟨rfl, rfl, rfl, rfl, rfl⟩

/-- C08, an absent source: the program stops; nothing changes and no request is made. -/
theorem input_absent_stops (s : State w) (off : Int) (h : s.env.input = none) :
    s.input off = (false, s) :=
  input_absent s off h

/-- C08, a refusing sink: the program stops; tape, pointer, environment untouched; the refused byte (the
low 8 bits of the cell) is logged. -/
theorem output_refused_stops (s : State w) (off : Int) (hs : s.env.sink = true)
    (h : s.env.outOk = some 0) :
    s.output off = (false, { s with trace := Ev.outFail (outByte s off) :: s.trace }) ∧
    (s.output off).1 = false ∧ (s.output off).2.tape = s.tape ∧ (s.output off).2.ptr = s.ptr ∧
    (s.output off).2.trace = Ev.outFail (outByte s off) :: s.trace := by
  rw [output_refused s off hs h]
  exact ⟨rfl, rfl, rfl, rfl, rfl⟩

/-- An absent sink accepts silently. -/
theorem output_absent_sink_ok (s : State w) (off : Int) (h : s.env.sink = false) :
    s.output off = (true, s) :=
  output_no_sink s off h

/-- The only two ways input fails. -/
theorem input_fails_iff (s t : State w) (off : Int) :
    s.input off = (false, t) ↔
      (s.env.input = none ∧ t = s) ∨
      (∃ rest, s.env.input = some (.err :: rest) ∧
        t = { s with env := { s.env with input := some rest }, trace := Ev.inpFail :: s.trace }) := by
  constructor
  · exact input_false
  · rintro (⟨h, rfl⟩ | ⟨rest, h, rfl⟩)
    · exact input_absent t off h
    · exact input_err s off rest h

/-- The only way output fails. -/
theorem output_fails_iff (s t : State w) (off : Int) :
    s.output off = (false, t) ↔
      s.env.sink = true ∧ s.env.outOk = some 0 ∧
        t = { s with trace := Ev.outFail (outByte s off) :: s.trace } := by
  constructor
  · exact output_false
  · rintro ⟨hs, h, rfl⟩
    exact output_refused s off hs h

/-- C08, no later event and a normal return: once a step stops, every longer run returns `.stopped` with
exactly that state.  Likewise `inplace_stop_final`, `ir_stop_final`, `bc_stop_final`. -/
theorem bf_stop_final {n : Nat} {c0 c : Bf.Config w} {s : State w}
    (hreach : Bf.runCfg n c0 = .outOfFuel c) (hstop : Bf.step c = .stop s) :
    ∀ f, n < f → Bf.runCfg f c0 = .stopped s := by
  intro f hf
  obtain ⟨m, rfl⟩ : ∃ m, f = n + (m + 1) := ⟨f - n - 1, by omega⟩
  rw [Bf.fuelRun.split hreach, Bf.runCfg_succ_stop hstop]

theorem bf_stops_only_at_io {f : Nat} {c0 : Bf.Config w} {s : State w}
    (h : Bf.runCfg f c0 = .stopped s) :
    ∃ n c rest, n < f ∧ Bf.runCfg n c0 = .outOfFuel c ∧
      ((c.cur = .cmd .inp rest ∧ c.st.input 0 = (false, s)) ∨
       (c.cur = .cmd .out rest ∧ c.st.output 0 = (false, s))) := by
  obtain ⟨n, c, hn, hr, hs⟩ := bf_run_stopped h
  obtain ⟨rest, hat⟩ := bf_step_stop hs
  exact ⟨n, c, rest, hn, hr, hat⟩

theorem inplace_stop_final {code : Array Kind} {l : Bool} {n : Nat} {c0 c c' : Inplace.Cfg w}
    (hreach : Inplace.runCfg code l n c0 = .outOfFuel c) (hstop : Inplace.step code l c = .stopped c') :
    ∀ f, n < f → Inplace.runCfg code l f c0 = .stopped c' := by
  intro f hf
  obtain ⟨m, rfl⟩ : ∃ m, f = n + (m + 1) := ⟨f - n - 1, by omega⟩
  rw [inplace_run_split hreach, Inplace.runCfg_succ_stopped hstop]

theorem inplace_stops_only_at_io {code : Array Kind} {l : Bool} {b f : Nat} {env : Env}
    {c' : Inplace.Cfg w} (h : Inplace.run code l b f env = .stopped c') :
    ∃ n c, n < f ∧ Inplace.run code l b n env = .outOfFuel c ∧
      ((code[c.pc]? = some .inp ∧ c.st.input 0 = (false, c'.st)) ∨
       (code[c.pc]? = some .out ∧ c.st.output 0 = (false, c'.st))) := by
  obtain ⟨n, c, hn, hr, hs⟩ := inplace_run_stopped h
  exact ⟨n, c, hn, hr, inplace_step_stop hs⟩

theorem ir_stop_final {l : Bool} {n : Nat} {c0 c c' : Ir.Cfg w}
    (hreach : Ir.runCfg l n c0 = .outOfFuel c) (hstop : Ir.step l c = .stop c') :
    ∀ f, n < f → Ir.runCfg l f c0 = .stopped c' := by
  intro f hf
  obtain ⟨m, rfl⟩ : ∃ m, f = n + (m + 1) := ⟨f - n - 1, by omega⟩
  rw [(Ir.fuelRun _).split hreach]
  simp [Ir.runCfg, hstop]

theorem ir_stops_only_at_io {blk : Ir.Block w} {l : Bool} {b f : Nat} {env : Env} {c' : Ir.Cfg w}
    (h : Ir.run blk l b f env = .stopped c') :
    ∃ n c rest, n < f ∧ Ir.run blk l b n env = .outOfFuel c ∧
      ((∃ dst, c.cur = .input dst :: rest ∧ c.st.input dst = (false, c'.st)) ∨
       (∃ src, c.cur = .output src :: rest ∧ c.st.output src = (false, c'.st))) := by
  obtain ⟨n, c, hn, hr, hs⟩ := ir_run_stopped h
  obtain ⟨rest, hat⟩ := ir_step_stop hs
  exact ⟨n, c, rest, hn, hr, hat⟩

/-- The outcome is `.stopped` (normal return), not `.bad`. -/
theorem bc_stop_final {p : Bc.Program w} {l : Bool} {n : Nat} {c0 c c' : Bc.Cfg w}
    (hreach : Bc.runCfg p l n c0 = .outOfFuel c) (hstop : Bc.step p l c = .stop c') :
    ∀ f, n < f → Bc.runCfg p l f c0 = .stopped c' := by
  intro f hf
  obtain ⟨m, rfl⟩ : ∃ m, f = n + (m + 1) := ⟨f - n - 1, by omega⟩
  rw [(Bc.fuelRun _ _).split hreach]
  simp [Bc.runCfg, hstop]

theorem bc_stops_only_at_io {p : Bc.Program w} {l : Bool} {b f : Nat} {env : Env} {c' : Bc.Cfg w}
    (h : Bc.run p l b f env = .stopped c') :
    ∃ n c, n < f ∧ Bc.run p l b n env = .outOfFuel c ∧
      ((∃ dst, p.insts[c.pc]? = some (.inp dst) ∧ c.st.input dst = (false, c'.st)) ∨
       (∃ src, p.insts[c.pc]? = some (.out src) ∧ c.st.output src = (false, c'.st))) := by
  unfold Bc.run at h ⊢
  simp only at h ⊢
  split at h
  · cases h
  · rename_i hb
    obtain ⟨n, c, hn, hr, hs⟩ := bc_run_stopped h
    refine ⟨n, c, hn, ?_, (bc_step_stop hs).1⟩
    rw [if_neg hb]; exact hr

def neverRefuse (env : Env) : Env := { env with outOk := none }

theorem agreeC_init (p : Prog) (env : Env) :
    AgreeC (w := w) ⟨p, [], State.init env⟩ ⟨p, [], State.init (neverRefuse env)⟩ :=
  ⟨rfl, rfl, rfl, rfl, rfl, rfl, rfl, rfl, fun _ h => by cases h⟩

/-- Against the run whose sink never refuses (same fuel): the same outcome with the same events, pointer and
tape, or the first run stopped at a refused byte `b` after events `t` and the second has produced exactly
`t` followed by `out b`. -/
theorem refusal_cases (p : Prog) (env : Env) (f : Nat) :
    match Bf.run (w := w) f p env with
    | .done s => ∃ s', Bf.run (w := w) f p (neverRefuse env) = .done s' ∧
        s'.trace = s.trace ∧ s'.tape = s.tape ∧ s'.ptr = s.ptr
    | .outOfFuel c => ∃ c', Bf.run (w := w) f p (neverRefuse env) = .outOfFuel c' ∧
        c'.st.trace = c.st.trace ∧ c'.st.tape = c.st.tape ∧ c'.st.ptr = c.st.ptr
    | .stopped s =>
      (∃ s', Bf.run (w := w) f p (neverRefuse env) = .stopped s' ∧ s'.trace = s.trace ∧
        ∀ b, Ev.outFail b ∉ s.trace) ∨
      (∃ g b t c', g ≤ f ∧ s.trace = Ev.outFail b :: t ∧
        Bf.run (w := w) g p (neverRefuse env) = .outOfFuel c' ∧ c'.st.trace = Ev.out b :: t) := by
  have := agree_run f (agreeC_init (w := w) p env)
  unfold Bf.run
  cases hr : Bf.runCfg f (⟨p, [], State.init env⟩ : Bf.Config w) with
  | done s =>
    rw [hr] at this
    obtain ⟨s', hs', hag⟩ := this
    exact ⟨s', hs', hag.trace.symm, hag.tape.symm, hag.ptr.symm⟩
  | outOfFuel c =>
    rw [hr] at this
    obtain ⟨c', hs', hag⟩ := this
    exact ⟨c', hs', hag.st.trace.symm, hag.st.tape.symm, hag.st.ptr.symm⟩
  | stopped s =>
    rw [hr] at this
    rcases this with ⟨s', hs', hag⟩ | h
    · exact Or.inl ⟨s', hs', hag.trace.symm, fun b => by rw [hag.trace]; exact hag.clean b⟩
    · exact Or.inr h

/-- C08, the events before the failing operation equal the canonical sequence: after some `g ≤ f` steps the events of
the fault-free run are exactly those before the refused byte and the byte itself, `out b :: t`; every longer fault-free
run extends them. -/
theorem refusal_is_canonical_prefix_exact (p : Prog) (env : Env) (f : Nat) (s : State w) (b : UInt8)
    (t : List Ev) (hrun : Bf.run f p env = .stopped s) (htr : s.trace = Ev.outFail b :: t) :
    ∃ g, g ≤ f ∧ C04.traceOfBf (Bf.run (w := w) g p (neverRefuse env)) = Ev.out b :: t ∧
      ∀ g', g ≤ g' → (Ev.out b :: t) <:+ C04.traceOfBf (Bf.run (w := w) g' p (neverRefuse env)) := by
  have := refusal_cases (w := w) p env f
  rw [hrun] at this
  rcases this with ⟨s', _, _, hclean⟩ | ⟨g, b', t', c', hg, htr', hrun', hc'⟩
  · exact absurd (by rw [htr]; simp) (hclean b)
  · rw [htr] at htr'
    cases htr'
    have he : C04.traceOfBf (Bf.run (w := w) g p (neverRefuse env)) = Ev.out b :: t := by
      rw [hrun']; simp [C04.traceOfBf, hc']
    refine ⟨g, hg, he, fun g' hg' => ?_⟩
    rw [← he]
    exact C04.bf_trace_mono hg' _

/-- In particular they are an initial part of the fault-free run's events. -/
theorem refusal_is_canonical_prefix (p : Prog) (env : Env) (f : Nat) (s : State w) (b : UInt8)
    (t : List Ev) (hrun : Bf.run f p env = .stopped s) (htr : s.trace = Ev.outFail b :: t) :
    ∃ g, (Ev.out b :: t) <:+ C04.traceOfBf (Bf.run (w := w) g p (neverRefuse env)) :=
  let ⟨g, _, _, h⟩ := refusal_is_canonical_prefix_exact p env f s b t hrun htr
  ⟨g, h g (Nat.le_refl _)⟩

/-- A refusal that is never reached changes nothing. -/
theorem unreached_refusal_harmless (p : Prog) (env : Env) (f : Nat) (s : State w)
    (hrun : Bf.run f p env = .done s) :
    ∃ s', Bf.run (w := w) f p (neverRefuse env) = .done s' ∧ s'.trace = s.trace ∧ s'.tape = s.tape ∧
      s'.ptr = s.ptr := by
  have := refusal_cases (w := w) p env f
  rw [hrun] at this
  exact this

/-- A stop that is not a refusal (failing input) happens in the fault-free-sink run as well. -/
theorem input_failure_independent_of_sink (p : Prog) (env : Env) (f : Nat) (s : State w)
    (hrun : Bf.run f p env = .stopped s) (hne : ∀ b t, s.trace ≠ Ev.outFail b :: t) :
    ∃ s', Bf.run (w := w) f p (neverRefuse env) = .stopped s' ∧ s'.trace = s.trace := by
  have := refusal_cases (w := w) p env f
  rw [hrun] at this
  rcases this with ⟨s', hs', ht, _⟩ | ⟨g, b, t, c', _, htr, _, _⟩
  · exact ⟨s', hs', ht⟩
  · exact (hne b t htr).elim

section Backends
variable (code : Array Kind) (p : Prog) (h : Bf.tree code.toList = some p) (env : Env)
include h

/-- C08 under the in-place interpreter, unlimited: same stop, same state (events, tape, pointer, environment). -/
theorem inplace_stops_like_canonical (b : Nat) :
    ∀ (f : Nat) (s : State w), Bf.run f p env = .stopped s →
      ∃ f' c, Inplace.run code false b f' env = .stopped c ∧ c.st = s :=
  C04.inplace_forward_stopped code p h env b

/-- Limited, with a budget that suffices to get there. -/
theorem inplace_limited_stops_like_canonical :
    ∀ (f : Nat) (s : State w), Bf.run f p env = .stopped s → ∀ b, f ≤ b →
      ∃ c, Inplace.run code true b ((b + 1) * (code.size + 2)) env = .stopped c ∧ c.st = s :=
  C04.inplace_limited_enough_stopped code p h env

/-- The in-place interpreter stops only where the canonical machine stops (either mode). -/
theorem inplace_stops_only_like_canonical :
    ∀ (l : Bool) (b f' : Nat) (c : Inplace.Cfg w), Inplace.run code l b f' env = .stopped c →
      ∃ f, Bf.run f p env = .stopped c.st := by
  intro l b f' c hr
  cases l with
  | false => exact C04.inplace_backward_stopped code p h env b f' c hr
  | true =>
    have := C04.inplace_limited (w := w) code p h env b f'
    rw [hr] at this
    exact this

/-- C08 under the IR interpreter (level 0), unlimited: same stop, same events. -/
theorem ir_stops_like_canonical (hw : 0 < w) {blk : Ir.Block w}
    (hb : Ir.parse (w := w) code.toList = .ok blk) :
    ∀ (f : Nat) (s : State w), Bf.run f p env = .stopped s →
      ∃ f' c, Ir.run blk false 0 f' env = .stopped c ∧ c.st.trace = s.trace :=
  (C01.parse_forward hw h hb env).2

/-- Limited, with any sufficiently large budget. -/
theorem ir_limited_stops_like_canonical (hw : 0 < w) {blk : Ir.Block w}
    (hb : Ir.parse (w := w) code.toList = .ok blk) :
    ∀ (f : Nat) (s : State w), Bf.run f p env = .stopped s →
      ∃ g, ∀ b, g ≤ b → ∃ f' c, Ir.run blk true b f' env = .stopped c ∧ c.st.trace = s.trace := by
  intro f s hr
  obtain ⟨g, c, hc, ht⟩ := ir_stops_like_canonical code p h env hw hb f s hr
  refine ⟨g, fun b hgb => ?_⟩
  obtain ⟨f', c', hc', hst⟩ := C07.ir_limited_enough_stopped blk env g c hc b hgb
  exact ⟨f', c', hc', by rw [hst]; exact ht⟩

/-- The IR interpreter stops only where the canonical machine stops. -/
theorem ir_stops_only_like_canonical (hw : 0 < w) {blk : Ir.Block w}
    (hb : Ir.parse (w := w) code.toList = .ok blk) :
    ∀ (f' : Nat) (c : Ir.Cfg w), Ir.run blk false 0 f' env = .stopped c →
      ∃ (f : Nat) (s : State w), Bf.run f p env = .stopped s ∧ s.trace = c.st.trace :=
  (C01.parse_backward hw h hb env).2

/-- A refused byte: canonical machine, in-place interpreter and IR interpreter all stop with the events `t`
followed by the refused byte, and `t`, `out b` is what the fault-free run prints. -/
theorem refused_byte_all_backends (hw : 0 < w) {blk : Ir.Block w}
    (hb : Ir.parse (w := w) code.toList = .ok blk) (f : Nat) (s : State w) (b : UInt8) (t : List Ev)
    (hrun : Bf.run f p env = .stopped s) (htr : s.trace = Ev.outFail b :: t) :
    (∃ f' c, Inplace.run (w := w) code false 0 f' env = .stopped c ∧ c.st.trace = Ev.outFail b :: t) ∧
    (∃ f' c, Ir.run blk false 0 f' env = .stopped c ∧ c.st.trace = Ev.outFail b :: t) ∧
    (∃ g, (Ev.out b :: t) <:+ C04.traceOfBf (Bf.run (w := w) g p (neverRefuse env))) := by
  refine ⟨?_, ?_, refusal_is_canonical_prefix p env f s b t hrun htr⟩
  · obtain ⟨f', c, hc, hs⟩ := inplace_stops_like_canonical code p h env 0 f s hrun
    exact ⟨f', c, hc, by rw [hs, htr]⟩
  · obtain ⟨f', c, hc, hs⟩ := ir_stops_like_canonical code p h env hw hb f s hrun
    exact ⟨f', c, hc, by rw [hs, htr]⟩

end Backends

-- The hypotheses are satisfiable: concrete programs, by kernel evaluation.

def env0 : Env := { input := none, sink := true, outOk := none }
/-- `+[.]` -/
def pPrint : Prog := .cmd .inc (.loop (.cmd .out .nil) .nil)
def cPrint : Array Kind := #[.inc, .open, .out, .close]
/-- `,[.,]` -/
def pCat : Prog := .cmd .inp (.loop (.cmd .out (.cmd .inp .nil)) .nil)
def cCat : Array Kind := #[.inp, .open, .out, .inp, .close]
/-- `,.` -/
def pEcho : Prog := .cmd .inp (.cmd .out .nil)

def bfKind : Bf.Outcome w → String
  | .done _ => "done" | .stopped _ => "stopped" | .outOfFuel _ => "outOfFuel"

example : Bf.tree cPrint.toList = some pPrint := by decide
example : Bf.tree cCat.toList = some pCat := by decide

-- `+[.]` with a sink that accepts two bytes stops at the third, after exactly two bytes
example : bfKind (Bf.run (w := 8) 20 pPrint { env0 with outOk := some 2 }) = "stopped" := by decide
example : C04.traceOfBf (Bf.run (w := 8) 20 pPrint { env0 with outOk := some 2 }) =
    [Ev.outFail 1, Ev.out 1, Ev.out 1] := by decide
-- ... and the fault-free run prints those two bytes and then the refused one
example : C04.traceOfBf (Bf.run (w := 8) 9 pPrint (neverRefuse { env0 with outOk := some 2 })) =
    [Ev.out 1, Ev.out 1, Ev.out 1] := by decide
-- the in-place interpreter and the IR interpreter do the same
example : C04.traceOf (Inplace.run (w := 8) cPrint false 0 20 { env0 with outOk := some 2 }) =
    [Ev.outFail 1, Ev.out 1, Ev.out 1] := by decide
example : (match Ir.parse (w := 8) cPrint.toList with
    | .ok blk => C01.traceOf (Ir.run blk false 0 20 { env0 with outOk := some 2 })
    | .error _ => []) = [Ev.outFail 1, Ev.out 1, Ev.out 1] := by decide
-- absent source: `,[.,]` stops at once, no event
example : bfKind (Bf.run (w := 8) 20 pCat env0) = "stopped" := by decide
example : C04.traceOfBf (Bf.run (w := 8) 20 pCat env0) = [] := by decide
-- read error after one byte: the byte is echoed, then the failed request is logged and the run stops
example : C04.traceOfBf (Bf.run (w := 8) 20 pCat { env0 with input := some [.byte 65, .err, .byte 66] }) =
    [Ev.inpFail, Ev.out 65, Ev.inp 65] := by decide
example : bfKind (Bf.run (w := 8) 20 pCat { env0 with input := some [.byte 65, .err, .byte 66] }) =
    "stopped" := by decide
-- end of input is not a failure: `,.` at end of input reads 0, prints 0, and finishes
example : bfKind (Bf.run (w := 8) 20 pEcho { env0 with input := some [] }) = "done" := by decide
example : C04.traceOfBf (Bf.run (w := 8) 20 pEcho { env0 with input := some [] }) =
    [Ev.out 0, Ev.inp 0] := by decide
-- absent sink: output succeeds silently
example : C04.traceOfBf (Bf.run (w := 8) 9 pPrint { env0 with sink := false, outOk := some 0 }) = [] := by
  decide
-- an unreached refusal: `,.` with `outOk = some 1`
example : bfKind (Bf.run (w := 8) 20 pEcho { input := some [.byte 7], sink := true, outOk := some 1 }) =
    "done" := by decide
-- bytecode: `out 0` on a refusing sink stops (not `.bad`)
example : C07.bcKind (Bc.run (w := 8)
    { temps := 0, minAcc := 0, maxAcc := 0, live := #[], insts := #[.out 0, .out 0] }
    false 0 5 { env0 with outOk := some 1 }) = "stopped" := by decide
example : C07.traceOfBc (Bc.run (w := 8)
    { temps := 0, minAcc := 0, maxAcc := 0, live := #[], insts := #[.out 0, .out 0] }
    true 9 5 { env0 with outOk := some 1 }) = [Ev.outFail 0, Ev.out 0] := by decide

end C08
end Hpbf

#print axioms Hpbf.C08.outByte_low8
#print axioms Hpbf.C08.eof_reads_zero
#print axioms Hpbf.C08.eof_sticky
#print axioms Hpbf.C08.eof_reply_reads_zero
#print axioms Hpbf.C08.input_error_stops
#print axioms Hpbf.C08.input_absent_stops
#print axioms Hpbf.C08.output_refused_stops
#print axioms Hpbf.C08.output_absent_sink_ok
#print axioms Hpbf.C08.input_fails_iff
#print axioms Hpbf.C08.output_fails_iff
#print axioms Hpbf.C08.bf_stop_final
#print axioms Hpbf.C08.bf_stops_only_at_io
#print axioms Hpbf.C08.inplace_stop_final
#print axioms Hpbf.C08.inplace_stops_only_at_io
#print axioms Hpbf.C08.ir_stop_final
#print axioms Hpbf.C08.ir_stops_only_at_io
#print axioms Hpbf.C08.bc_stop_final
#print axioms Hpbf.C08.bc_stops_only_at_io
#print axioms Hpbf.C08.refusal_cases
#print axioms Hpbf.C08.refusal_is_canonical_prefix
#print axioms Hpbf.C08.refusal_is_canonical_prefix_exact
#print axioms Hpbf.C08.unreached_refusal_harmless
#print axioms Hpbf.C08.input_failure_independent_of_sink
#print axioms Hpbf.C08.inplace_stops_like_canonical
#print axioms Hpbf.C08.inplace_limited_stops_like_canonical
#print axioms Hpbf.C08.inplace_stops_only_like_canonical
#print axioms Hpbf.C08.ir_stops_like_canonical
#print axioms Hpbf.C08.ir_limited_stops_like_canonical
#print axioms Hpbf.C08.ir_stops_only_like_canonical
#print axioms Hpbf.C08.refused_byte_all_backends
