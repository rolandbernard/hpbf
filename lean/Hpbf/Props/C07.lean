/-
Property C07.  "For every program, input and budget, limited execution returns in time bounded by
the budget; if it reports 'finished' its input/output events equal the complete canonical sequence,
otherwise they are a prefix of it.  With an effectively unlimited budget every canonically terminating
program reports 'finished', and a canonically divergent program never does."

Here for the IR interpreter (`Ir.run blk limited budget fuel env`, model of `execute_block::<LIMITED>`) and
the bytecode machine (`Bc.run p limited budget fuel env`, model of the threaded interpreter; also malformed
bytecode), every cell width, environment and budget; the in-place interpreter is covered by C04
(`inplace_limited`, `inplace_limited_terminates`, `inplace_limited_enough`).  The limited run is related to
the unlimited run (`limited = false`, budget `0`) of the same program, which C01 / C02 tie to the canonical
semantics.  "Finished" is `.done`, `.stopped` (a failing I/O operation) or `.bad` (malformed bytecode).
`fuel` only bounds the number of machine steps of the model; `.outOfFuel` means "has not returned yet".
-/
import Hpbf.Proofs.C07

namespace Hpbf
namespace C07

variable {w : Nat}

example (c : Ir.Cfg w) : traceOfIr (.done c) = c.st.trace := rfl
example (c : Ir.Cfg w) : traceOfIr (.stopped c) = c.st.trace := rfl
example (c : Ir.Cfg w) : traceOfIr (.interrupted c) = c.st.trace := rfl
example (c : Ir.Cfg w) : traceOfIr (.outOfFuel c) = c.st.trace := rfl

def irInit (blk : Ir.Block w) (b : Nat) (env : Env) : Ir.Cfg w :=
  { cur := blk.insts, conts := [], budget := b, st := State.init env }

theorem ir_run_eq (blk : Ir.Block w) (l : Bool) (b f : Nat) (env : Env) :
    Ir.run blk l b f env = Ir.runCfg l f (irInit blk b env) := rfl

section Ir
variable (blk : Ir.Block w) (env : Env)

/-- `Ir.run blk false 0 f env` is `Ir.runCfg false f (irInit blk 0 env)`, and `irErase (irInit blk b env)` is that start
configuration up to unfolding; hence `exact` here and `erw` below. -/
theorem ir_limited_ret {b f : Nat} {o : Ir.Outcome w} (h : Ir.run blk true b f env = o)
    (hni : ∀ c, o ≠ .interrupted c) : Ir.run blk false 0 f env = irMapOut irErase o := by
  have := ir_lim_rel f (irInit blk b env)
  rw [ir_run_eq] at h
  rw [h] at this
  cases o with
  | interrupted c => exact (hni c rfl).elim
  | _ => exact this

/-- C07, "finished" means complete: a limited run that runs off the end ends in the state of the unlimited run. -/
theorem ir_limited_done :
    ∀ (b f : Nat) (c : Ir.Cfg w), Ir.run blk true b f env = .done c →
      ∃ g c', Ir.run blk false 0 g env = .done c' ∧ c'.st = c.st :=
  fun _ f c h => ⟨f, irErase c, ir_limited_ret blk env h (fun _ e => nomatch e), rfl⟩

/-- The same for a limited run that stops at a failing I/O operation. -/
theorem ir_limited_stopped :
    ∀ (b f : Nat) (c : Ir.Cfg w), Ir.run blk true b f env = .stopped c →
      ∃ g c', Ir.run blk false 0 g env = .stopped c' ∧ c'.st = c.st :=
  fun _ f c h => ⟨f, irErase c, ir_limited_ret blk env h (fun _ e => nomatch e), rfl⟩

/-- C07, prefix: whatever the limited run has emitted (finished, interrupted or not yet returned) is what the
unlimited run has emitted after some `g ≤ f` steps. -/
theorem ir_limited_prefix :
    ∀ b f, ∃ g, g ≤ f ∧
      traceOfIr (Ir.run blk true b f env) = traceOfIr (Ir.run (w := w) blk false 0 g env) := by
  intro b f
  have := ir_lim_rel f (irInit blk b env)
  rw [ir_run_eq]
  cases hr : Ir.runCfg true f (irInit blk b env) with
  | interrupted c =>
    rw [hr] at this
    obtain ⟨g, c'', hg, hrun, ht⟩ := this
    exact ⟨g, by omega, by rw [ir_run_eq]; erw [hrun]; exact ht.symm⟩
  | _ => rw [hr] at this; exact ⟨f, Nat.le_refl _, by rw [ir_run_eq]; erw [this]; rfl⟩

/-- C07, literally a prefix of the unlimited run's events after every sufficiently large number of steps
(traces are most recent first, so "initial part" is `<:+`). -/
theorem ir_limited_is_prefix :
    ∀ b f, ∃ g, ∀ g', g ≤ g' →
      traceOfIr (Ir.run blk true b f env) <:+ traceOfIr (Ir.run (w := w) blk false 0 g' env) := by
  intro b f
  obtain ⟨g, _, hg⟩ := ir_limited_prefix blk env b f
  refine ⟨g, fun g' hg' => ?_⟩
  obtain ⟨k, rfl⟩ : ∃ k, g' = g + k := ⟨g' - g, by omega⟩
  rw [hg]
  exact ir_trace_add false g k _

/-- C07, effectively unlimited budget: if the unlimited run runs off the end within `g` steps, every budget
`b ≥ g` is enough. -/
theorem ir_limited_enough :
    ∀ (g : Nat) (c : Ir.Cfg w), Ir.run blk false 0 g env = .done c → ∀ b, g ≤ b →
      ∃ f c', Ir.run blk true b f env = .done c' ∧ c'.st = c.st := by
  intro g c h b hb
  have e : Ir.run blk false 0 g env = irMapOut irErase (Ir.run blk true b g env) :=
    ir_enough (c := irInit blk b env) hb
  rw [h] at e
  cases hr : Ir.run blk true b g env <;> rw [hr] at e <;> cases e
  exact ⟨g, _, hr, rfl⟩

/-- The same for an unlimited run that stops at a failing I/O operation. -/
theorem ir_limited_enough_stopped :
    ∀ (g : Nat) (c : Ir.Cfg w), Ir.run blk false 0 g env = .stopped c → ∀ b, g ≤ b →
      ∃ f c', Ir.run blk true b f env = .stopped c' ∧ c'.st = c.st := by
  intro g c h b hb
  have e : Ir.run blk false 0 g env = irMapOut irErase (Ir.run blk true b g env) :=
    ir_enough (c := irInit blk b env) hb
  rw [h] at e
  cases hr : Ir.run blk true b g env <;> rw [hr] at e <;> cases e
  exact ⟨g, _, hr, rfl⟩

/-- C07, returns in time bounded by the budget: within `(b + 1) * (size + 1)` steps, `size` the number of
instructions counted recursively; every loop/if end consumes one unit of budget and fewer than `size + 1`
steps happen between two of them. -/
theorem ir_limited_terminates :
    ∀ (b f : Nat), (b + 1) * (irSizeL blk.insts + 1) ≤ f →
      ∀ c, Ir.run blk true b f env ≠ .outOfFuel c := by
  intro b f hf c
  rw [ir_run_eq]
  refine ir_limited_halts (irSizeL blk.insts) f (irInit blk b env) ⟨?_, trivial⟩ ?_ c
  · simp [irMu, irInit, contW]
  · have : (b + 1) * (irSizeL blk.insts + 1) = b * (irSizeL blk.insts + 1) + (irSizeL blk.insts + 1) :=
      Nat.succ_mul _ _
    simp only [irPhi, irMu, irInit, contW]
    omega

/-- C07, a divergent program never reports "finished". -/
theorem ir_divergent_never_finished
    (hdiv : ∀ g, ∃ c, Ir.run blk false 0 g env = .outOfFuel c) :
    ∀ (b f : Nat) (c : Ir.Cfg w),
      Ir.run blk true b f env ≠ .done c ∧ Ir.run blk true b f env ≠ .stopped c := by
  intro b f c
  constructor
  · intro h
    obtain ⟨g, c', hg, _⟩ := ir_limited_done blk env b f c h
    obtain ⟨c'', hc''⟩ := hdiv g
    rw [hg] at hc''; cases hc''
  · intro h
    obtain ⟨g, c', hg, _⟩ := ir_limited_stopped blk env b f c h
    obtain ⟨c'', hc''⟩ := hdiv g
    rw [hg] at hc''; cases hc''

end Ir

example (c : Bc.Cfg w) : traceOfBc (.done c) = c.st.trace := rfl
example (c : Bc.Cfg w) : traceOfBc (.stopped c) = c.st.trace := rfl
example (c : Bc.Cfg w) : traceOfBc (.interrupted c) = c.st.trace := rfl
example (c : Bc.Cfg w) : traceOfBc (.bad c) = c.st.trace := rfl
example (c : Bc.Cfg w) : traceOfBc (.outOfFuel c) = c.st.trace := rfl

def bcInit (b : Nat) (env : Env) : Bc.Cfg w :=
  { pc := 0, temps := [], budget := b, st := State.init env }

theorem bc_run_unlimited (p : Bc.Program w) (b f : Nat) (env : Env) :
    Bc.run p false b f env = Bc.runCfg p false f (bcInit b env) := by
  simp [Bc.run, bcInit]

theorem bc_run_limited (p : Bc.Program w) {b : Nat} (hb : b ≠ 0) (f : Nat) (env : Env) :
    Bc.run p true b f env = Bc.runCfg p true f (bcInit b env) := by
  simp [Bc.run, bcInit, hb]

/-- Budget 0: interrupted before anything runs. -/
theorem bc_run_limited_zero (p : Bc.Program w) (f : Nat) (env : Env) :
    Bc.run p true 0 f env = .interrupted (bcInit 0 env) := by
  simp [Bc.run, bcInit]

section Bc
variable (p : Bc.Program w) (env : Env)

theorem bc_limited_ret {b f : Nat} {o : Bc.Outcome w} (h : Bc.run p true b f env = o)
    (hni : ∀ c, o ≠ .interrupted c) : Bc.run p false 0 f env = bcMapOut bcErase o := by
  by_cases hb : b = 0
  · subst hb
    rw [bc_run_limited_zero] at h
    exact (hni _ h.symm).elim
  · rw [bc_run_limited p hb] at h
    have := bc_lim_rel p f (bcInit b env)
    rw [h] at this
    rw [bc_run_unlimited]
    cases o with
    | interrupted c => exact (hni c rfl).elim
    | _ => exact this

/-- C07, "finished" means complete: a limited run that reaches the end of the code ends in the state of the
unlimited run. -/
theorem bc_limited_done :
    ∀ (b f : Nat) (c : Bc.Cfg w), Bc.run p true b f env = .done c →
      ∃ g c', Bc.run p false 0 g env = .done c' ∧ c'.st = c.st := by
  intro b f c h
  exact ⟨f, _, bc_limited_ret p env h (fun _ e => nomatch e), rfl⟩

/-- The same for a limited run that stops at a failing I/O operation. -/
theorem bc_limited_stopped :
    ∀ (b f : Nat) (c : Bc.Cfg w), Bc.run p true b f env = .stopped c →
      ∃ g c', Bc.run p false 0 g env = .stopped c' ∧ c'.st = c.st := by
  intro b f c h
  exact ⟨f, _, bc_limited_ret p env h (fun _ e => nomatch e), rfl⟩

/-- The same for a limited run that hits malformed bytecode: so does the unlimited run, in the same state. -/
theorem bc_limited_bad :
    ∀ (b f : Nat) (c : Bc.Cfg w), Bc.run p true b f env = .bad c →
      ∃ g c', Bc.run p false 0 g env = .bad c' ∧ c'.st = c.st := by
  intro b f c h
  exact ⟨f, _, bc_limited_ret p env h (fun _ e => nomatch e), rfl⟩

/-- C07, prefix: whatever the limited run has emitted is what the unlimited run has emitted after some
`g ≤ f` steps. -/
theorem bc_limited_prefix :
    ∀ b f, ∃ g, g ≤ f ∧
      traceOfBc (Bc.run p true b f env) = traceOfBc (Bc.run (w := w) p false 0 g env) := by
  intro b f
  by_cases hb : b = 0
  · subst hb
    exact ⟨0, Nat.zero_le _, by rw [bc_run_limited_zero, bc_run_unlimited]; rfl⟩
  · rw [bc_run_limited p hb]
    have := bc_lim_rel p f (bcInit b env)
    cases hr : Bc.runCfg p true f (bcInit b env) with
    | interrupted c =>
      rw [hr] at this
      obtain ⟨g, c'', hg, hrun, ht⟩ := this
      exact ⟨g, by omega, by rw [bc_run_unlimited]; erw [hrun]; simp [traceOfBc, ht]⟩
    | _ => rw [hr] at this; exact ⟨f, Nat.le_refl _, by rw [bc_run_unlimited]; erw [this]; rfl⟩

/-- C07, literally a prefix (see `ir_limited_is_prefix`). -/
theorem bc_limited_is_prefix :
    ∀ b f, ∃ g, ∀ g', g ≤ g' →
      traceOfBc (Bc.run p true b f env) <:+ traceOfBc (Bc.run (w := w) p false 0 g' env) := by
  intro b f
  obtain ⟨g, _, hg⟩ := bc_limited_prefix p env b f
  refine ⟨g, fun g' hg' => ?_⟩
  obtain ⟨k, rfl⟩ : ∃ k, g' = g + k := ⟨g' - g, by omega⟩
  rw [hg, bc_run_unlimited, bc_run_unlimited]
  exact bc_trace_add p false g k _

/-- The three `bc_limited_enough*` in one statement; `b > g` is needed if the run ends in malformed code. -/
theorem bc_enough_run {g b : Nat} (hgb : g ≤ b) {o : Bc.Outcome w} (h : Bc.run p false 0 g env = o)
    (hret : ∀ c, o ≠ .outOfFuel c) (hbad : g < b ∨ ∀ c, o ≠ .bad c) :
    o = bcMapOut bcErase (Bc.run p true b g env) := by
  subst h
  have hb : b ≠ 0 := by
    rintro rfl
    have : g = 0 := by omega
    subst this
    exact hret _ rfl
  rw [bc_run_limited p hb, bc_run_unlimited] at *
  exact bc_enough p (c := bcInit b env) hgb hret hbad

/-- C07, effectively unlimited budget: if the unlimited run reaches the end of the code within `g` steps,
every budget `b ≥ g` is enough. -/
theorem bc_limited_enough :
    ∀ (g : Nat) (c : Bc.Cfg w), Bc.run p false 0 g env = .done c → ∀ b, g ≤ b →
      ∃ f c', Bc.run p true b f env = .done c' ∧ c'.st = c.st := by
  intro g c h b hgb
  have e := bc_enough_run p env hgb h (fun _ h0 => nomatch h0) (.inr fun _ h0 => nomatch h0)
  cases hr : Bc.run p true b g env <;> rw [hr] at e <;> cases e
  exact ⟨g, _, hr, rfl⟩

/-- The same for an unlimited run that stops at a failing I/O operation. -/
theorem bc_limited_enough_stopped :
    ∀ (g : Nat) (c : Bc.Cfg w), Bc.run p false 0 g env = .stopped c → ∀ b, g ≤ b →
      ∃ f c', Bc.run p true b f env = .stopped c' ∧ c'.st = c.st := by
  intro g c h b hgb
  have e := bc_enough_run p env hgb h (fun _ h0 => nomatch h0) (.inr fun _ h0 => nomatch h0)
  cases hr : Bc.run p true b g env <;> rw [hr] at e <;> cases e
  exact ⟨g, _, hr, rfl⟩

/-- Malformed bytecode reached by the unlimited run within `g` steps is reached by the limited run with
every budget `b > g` (a branch needs a budget of at least 2 to be executed). -/
theorem bc_limited_enough_bad :
    ∀ (g : Nat) (c : Bc.Cfg w), Bc.run p false 0 g env = .bad c → ∀ b, g < b →
      ∃ f c', Bc.run p true b f env = .bad c' ∧ c'.st = c.st := by
  intro g c h b hgb
  have e := bc_enough_run p env (Nat.le_of_lt hgb) h (fun _ h0 => nomatch h0) (.inl hgb)
  cases hr : Bc.run p true b g env <;> rw [hr] at e <;> cases e
  exact ⟨g, _, hr, rfl⟩

/-- C07, returns in time bounded by the budget: a program without a moving scan returns within
`(b + 1) * (size + 2)` steps; every branch consumes one unit of budget and between two branches the program
counter only grows. -/
theorem bc_limited_terminates_scanfree (hsf : ScanFree p) :
    ∀ (b f : Nat), (b + 1) * (p.insts.size + 2) ≤ f →
      ∀ c, Bc.run p true b f env ≠ .outOfFuel c := by
  intro b f hf c
  by_cases hb : b = 0
  · subst hb; rw [bc_run_limited_zero]; simp
  · rw [bc_run_limited p hb]
    refine bc_limited_halts_scanfree hsf f (bcInit b env) ?_ c
    have : (b + 1) * (p.insts.size + 2) = b * (p.insts.size + 2) + (p.insts.size + 2) :=
      Nat.succ_mul _ _
    simp only [bcPhi, bcInit]
    omega

/-- C07, every program returns in limited mode, without a bound in terms of the budget alone: a moving scan
is not charged, but it leaves the finite non-zero part of the tape after finitely many steps. -/
theorem bc_limited_terminates :
    ∀ b, ∃ f, ∀ c, Bc.run p true b f env ≠ .outOfFuel c := by
  intro b
  by_cases hb : b = 0
  · subst hb; exact ⟨0, fun c => by rw [bc_run_limited_zero]; simp⟩
  · obtain ⟨f, hf⟩ := bc_limited_halts p (bcPhi p (bcInit b env) + 1) (bcInit b env) (Nat.lt_succ_self _)
    exact ⟨f, fun c => by rw [bc_run_limited p hb]; exact hf c⟩

/-- C07, a divergent program never reports "finished". -/
theorem bc_divergent_never_finished
    (hdiv : ∀ g, ∃ c, Bc.run p false 0 g env = .outOfFuel c) :
    ∀ (b f : Nat) (c : Bc.Cfg w),
      Bc.run p true b f env ≠ .done c ∧ Bc.run p true b f env ≠ .stopped c ∧
      Bc.run p true b f env ≠ .bad c := by
  intro b f c
  refine ⟨?_, ?_, ?_⟩
  · intro h
    obtain ⟨g, c', hg, _⟩ := bc_limited_done p env b f c h
    obtain ⟨c'', hc''⟩ := hdiv g
    rw [hg] at hc''; cases hc''
  · intro h
    obtain ⟨g, c', hg, _⟩ := bc_limited_stopped p env b f c h
    obtain ⟨c'', hc''⟩ := hdiv g
    rw [hg] at hc''; cases hc''
  · intro h
    obtain ⟨g, c', hg, _⟩ := bc_limited_bad p env b f c h
    obtain ⟨c'', hc''⟩ := hdiv g
    rw [hg] at hc''; cases hc''

end Bc

-- The hypotheses are satisfiable: concrete programs, by kernel evaluation.

/-- no source, present sink that never refuses -/
def exEnv0 : Env := { input := none, sink := true, outOk := none }

/-- IR of `+++[-.]` : prints 2, 1, 0 -/
def exIrCount : Ir.Block 8 :=
  { shift := 0, insts := [Ir.Instr.add 0 3#8, .loop 0 0 [Ir.Instr.add 0 (-1#8), .output 0] false] }
/-- IR of `+[.]` : prints 1 forever -/
def exIrSpin : Ir.Block 8 :=
  { shift := 0, insts := [Ir.Instr.add 0 1#8, .loop 0 0 [.output 0] false] }

def irKind : Ir.Outcome w → String
  | .done _ => "done" | .stopped _ => "stopped" | .interrupted _ => "interrupted"
  | .outOfFuel _ => "outOfFuel"

-- the unlimited run of `exIrCount` runs off the end after 13 steps; budget 13 is enough
example : irKind (Ir.run exIrCount false 0 13 exEnv0) = "done" := by decide
example : irKind (Ir.run exIrCount true 13 13 exEnv0) = "done" := by decide
example : traceOfIr (Ir.run exIrCount true 13 13 exEnv0) = [Ev.out 0, Ev.out 1, Ev.out 2] := by decide
-- with budget 1 the run is interrupted having printed a proper prefix
example : irKind (Ir.run exIrCount true 1 13 exEnv0) = "interrupted" := by decide
example : traceOfIr (Ir.run exIrCount true 1 13 exEnv0) = [Ev.out 1, Ev.out 2] := by decide
-- size 4, budget 2: returns within (2+1)*(4+1) steps
example : irSizeL exIrCount.insts = 4 := by decide
example : irKind (Ir.run exIrCount true 2 ((2 + 1) * (4 + 1)) exEnv0) = "interrupted" := by decide
-- `+[.]` never returns in unlimited mode (here: not within 40 steps), interrupted with budget 5
example : irKind (Ir.run exIrSpin false 0 40 exEnv0) = "outOfFuel" := by decide
example : irKind (Ir.run exIrSpin true 5 40 exEnv0) = "interrupted" := by decide
-- a refusing sink: stopped, in limited mode too
example : irKind (Ir.run exIrSpin true 5 40 { exEnv0 with outOk := some 2 }) = "stopped" := by decide

/-- bytecode of `+++[-.]`: add; brz; sub; out; brnz -/
def exBcCount : Bc.Program 8 :=
  { temps := 0, minAcc := 0, maxAcc := 0, live := #[],
    insts := #[.add (.mem 0) (.mem 0) (.imm 3#8), .brz 0 4, .sub (.mem 0) (.mem 0) (.imm 1#8), .out 0,
               .brnz 0 (-2)] }
/-- bytecode `+; scan 0 0` (a stationary scan on a non-zero cell) -/
def exBcSpin : Bc.Program 8 :=
  { temps := 0, minAcc := 0, maxAcc := 0, live := #[],
    insts := #[.add (.mem 0) (.mem 0) (.imm 1#8), .scan 0 0] }
/-- a branch out of the program -/
def exBcBad : Bc.Program 8 :=
  { temps := 0, minAcc := 0, maxAcc := 0, live := #[], insts := #[.brz 0 7] }

def bcKind : Bc.Outcome w → String
  | .done _ => "done" | .stopped _ => "stopped" | .interrupted _ => "interrupted" | .bad _ => "bad"
  | .outOfFuel _ => "outOfFuel"

example : bcKind (Bc.run exBcCount false 0 12 exEnv0) = "done" := by decide
example : bcKind (Bc.run exBcCount true 12 12 exEnv0) = "done" := by decide
example : traceOfBc (Bc.run exBcCount true 12 12 exEnv0) = [Ev.out 0, Ev.out 1, Ev.out 2] := by decide
example : bcKind (Bc.run exBcCount true 3 12 exEnv0) = "interrupted" := by decide
example : traceOfBc (Bc.run exBcCount true 3 12 exEnv0) = [Ev.out 1, Ev.out 2] := by decide
example : bcKind (Bc.run exBcCount true 0 12 exEnv0) = "interrupted" := by decide
example : ScanFree exBcCount := by
  intro i cond sh h
  have hi : i < 5 := (Array.getElem?_eq_some_iff.mp h).1
  have : i = 0 ∨ i = 1 ∨ i = 2 ∨ i = 3 ∨ i = 4 := by omega
  rcases this with rfl | rfl | rfl | rfl | rfl <;> simp [exBcCount] at h
example : bcKind (Bc.run exBcCount true 3 ((3 + 1) * (5 + 2)) exEnv0) = "interrupted" := by decide
example : bcKind (Bc.run exBcSpin false 0 40 exEnv0) = "outOfFuel" := by decide
example : bcKind (Bc.run exBcSpin true 1000 40 exEnv0) = "interrupted" := by decide
example : bcKind (Bc.run exBcBad false 0 1 exEnv0) = "bad" := by decide
example : bcKind (Bc.run exBcBad true 2 1 exEnv0) = "bad" := by decide
-- budget = number of steps is not enough for `.bad` (hence `g < b` in `bc_limited_enough_bad`)
example : bcKind (Bc.run exBcBad true 1 1 exEnv0) = "interrupted" := by decide

end C07
end Hpbf

#print axioms Hpbf.C07.ir_limited_done
#print axioms Hpbf.C07.ir_limited_stopped
#print axioms Hpbf.C07.ir_limited_prefix
#print axioms Hpbf.C07.ir_limited_is_prefix
#print axioms Hpbf.C07.ir_limited_enough
#print axioms Hpbf.C07.ir_limited_enough_stopped
#print axioms Hpbf.C07.ir_limited_terminates
#print axioms Hpbf.C07.ir_divergent_never_finished
#print axioms Hpbf.C07.bc_limited_done
#print axioms Hpbf.C07.bc_limited_stopped
#print axioms Hpbf.C07.bc_limited_bad
#print axioms Hpbf.C07.bc_limited_prefix
#print axioms Hpbf.C07.bc_limited_is_prefix
#print axioms Hpbf.C07.bc_limited_enough
#print axioms Hpbf.C07.bc_limited_enough_stopped
#print axioms Hpbf.C07.bc_limited_enough_bad
#print axioms Hpbf.C07.bc_limited_terminates_scanfree
#print axioms Hpbf.C07.bc_limited_terminates
#print axioms Hpbf.C07.bc_divergent_never_finished
