/-
Property C03, the converse direction for the baseline JIT: "the machine code returns ⇒ the bytecode run has
ended (with the corresponding verdict)", and "a bytecode run that never ends is executed by machine code that never
returns".  `Props/C03Flow.lean` (`prog_run`) gives the forward direction; its `.outOfFuel` clause only exhibits
SOME reachable machine state, without a lower bound on the number of machine steps.  Here the bound is supplied:
every continuing bytecode step costs the machine at least one step (`conv_progress`), the machine is
deterministic, hence `f` bytecode steps need at least `f` machine steps (`conv_steps`), and the two statements
follow (`conv_diverges`, `conv_run`).

Hypotheses: those of `prog_run`, plus `NoNoop p` – the program contains no `noop` (a `noop` is compiled to no
code, so a step over it costs the machine nothing; every program `translate` returns is `noop`-free:
`Chain.translate_shape`).  Both limited and unlimited mode are covered.

Progress is in the statements of the forward direction: every `flow_*` lemma runs at least one machine instruction
(`sim_next_pos`); only `noop` is compiled to nothing, hence `NoNoop`.  A measure on the bytecode side would not do:
the empty loop `[]`, compiled without fusion, is `brz c 2; brnz c 0` – on a non-zero cell the `brnz` jumps to itself
and the bytecode configuration does not change at all (unlimited mode), while the machine executes `cmp; jne` over
and over.

Proofs: `Hpbf/Proofs/C03ConvRun.lean`.
-/
import Hpbf.Proofs.C03ConvRun

namespace Hpbf
namespace C03

open Asm JitGen X86Sem X86Prog

variable {w : Nat}

example (p : Bc.Program w) : NoNoop p ↔ ∀ i : Nat, p.insts[i]? ≠ some Bc.Instr.noop := Iff.rfl
example (cfg : Cfg) (n : Nat) (s : PState w) : Running cfg n s ↔ ∃ x, run cfg n s = .fuel x := Iff.rfl
example (cfg : Cfg) (n : Nat) (s : PState w) :
    Running cfg n s ↔ ((∀ r, run cfg n s ≠ .ret r) ∧ ∀ f r, run cfg n s ≠ .fault f r) := running_iff

/-- Only `noop` is compiled to nothing; the code of every other instruction occupies at least one byte. -/
theorem conv_code_nonempty (K : Ctx w) {i : Nat} {ins : Bc.Instr w} (hi : K.p.insts[i]? = some ins)
    (hn : ins ≠ .noop) : K.loc i < K.loc (i + 1) := by
  obtain ⟨lv, its, xs, hI⟩ := K.instrAt hi
  have := itemsSize_pos (emitInstrRaw_ne_nil (emitInstr_raw hI.emit).1 hn)
  rw [hI.next]; omega

/-- The `.next` clause of `prog_simulation` with AT LEAST ONE machine step. -/
theorem conv_progress (K : Ctx w) (G : Good K) (hnn : NoNoop K.p) {fr : Frame} (h7 : fr.saved.length = 7)
    {c : Bc.Cfg w} {s : PState w} (hbnd : K.safe = true → Bnd s) (hsh : Sh K fr c s) {c' : Bc.Cfg w}
    (hstep : Bc.step K.p K.limited c = .next c') :
    ∃ n s', 0 < n ∧ steps K.cfg n s = some s' ∧ Sh K fr c' s' := conv_progress' K G hnn h7 hbnd hsh hstep

/-- Without the hypothesis the claim is false: a `noop` is compiled to nothing (`locs[i + 1] = locs[i]`). -/
example (sz : Size) (limited safe : Bool) (mn mx : Int) (aE aI aO i live : Nat) :
    emitInstrRaw (w := w) sz limited safe mn mx aE aI aO i live .noop = some [] := rfl

/-- The machine is deterministic: a return is unique and stable under more fuel, and a run that ends within `m`
steps cannot make `m` or more continuing steps. -/
theorem conv_ret_unique {cfg : Cfg} {n1 n2 : Nat} {s a b : PState w} (h1 : run cfg n1 s = .ret a)
    (h2 : run cfg n2 s = .ret b) : a = b := run_ret_unique h1 h2
theorem conv_run_more {cfg : Cfg} (n : Nat) {s r : PState w} (j : Nat) (h : run cfg n s = .ret r) :
    run cfg (n + j) s = .ret r := by
  rw [(X86Prog.fuelRun cfg).add (by rw [h]; intro _ e; cases e), h]
theorem conv_steps_lt {cfg : Cfg} (n : Nat) {m : Nat} {s s' : PState w} (h : steps cfg n s = some s')
    (hr : ∀ x, run cfg m s ≠ .fuel x) : n < m := steps_lt_of_run n h hr

/-- `f` continuing bytecode steps need at least `f` machine steps. -/
theorem conv_steps (K : Ctx w) (G : Good K) (hnn : NoNoop K.p) {fr : Frame} (h7 : fr.saved.length = 7)
    (f : Nat) {c cf : Bc.Cfg w} {s : PState w} (hoom : NoOOM K s) (hsh : Sh K fr c s)
    (h : Bc.runCfg K.p K.limited f c = .outOfFuel cf) :
    ∃ n s', f ≤ n ∧ steps K.cfg n s = some s' ∧ Sh K fr cf s' := conv_steps_ge K G hnn h7 f hoom hsh h

/-- If the compiled function, called as `enter_jit_code` calls it, returns, then the bytecode run
(`Bc.run`: the threaded interpreter from zeroed temporaries) ends for some fuel – normally iff `rax = 1`, by a
failing I/O operation or an exhausted budget iff `rax = 0` – with the same event trace, environment, tape and
budget cell (`Result`), the callee-saved registers restored. -/
theorem conv_run (p : Bc.Program w) (limited safe : Bool) (cfg : Cfg) {code : List X86}
    (hcomp : compileX86 w p limited safe cfg.aE.toNat cfg.aI.toNat cfg.aO.toNat = some code)
    (hfetch : cfg.fetch = fetchFast (fetchTable code)) (hsmall : sizeAll code < 2 ^ 31)
    (hIO : cfg.aI ≠ cfg.aO) (hEI : cfg.aE ≠ cfg.aI) (hEO : cfg.aE ≠ cfg.aO)
    (hchk : BcWf.check p 11 = true) (hwin : -2147483648 < p.minAcc ∧ p.maxAcc < 2147483648)
    (htemps : alignedTemps p.temps * 8 < 2147483648)
    (hshift : ∀ (i : Nat) (sh : Int), p.insts[i]? = some (Bc.Instr.mov sh) → -2147483648 ≤ sh ∧ sh < 2147483648)
    (hnn : NoNoop p)
    (buf0 rsp0 ra : BitVec 64) (hrsp : rsp0.toNat % 16 = 8)
    (budget : Nat) (hb : budget < 2 ^ 64) (hlim : (limited && budget == 0) = false) (env : Env)
    (hoom : safe = true → ∀ n s', steps cfg n (initState (w := w) cfg buf0 rsp0 ra p.minAcc p.maxAcc budget env)
      = some s' → Bnd s')
    {n : Nat} {s' : PState w}
    (hret : run cfg n (initState cfg buf0 rsp0 ra p.minAcc p.maxAcc budget env) = .ret s') :
    ∃ fuel c',
      ((Bc.run p limited budget fuel env = .done c' ∧ s'.regs.rax = 1 ∧ s'.budget.toNat = c'.budget) ∨
       (Bc.run p limited budget fuel env = .stopped c' ∧ s'.regs.rax = 0 ∧ s'.budget.toNat = c'.budget) ∨
       (Bc.run p limited budget fuel env = .interrupted c' ∧ s'.regs.rax = 0 ∧ s'.budget.toNat < 2 ∧
          c'.budget = 0)) ∧
      Result (initState cfg buf0 rsp0 ra p.minAcc p.maxAcc budget env) s' c' := by
  obtain ⟨K, rfl, rfl, rfl, rfl, G⟩ := ctx_of_compiled p limited safe cfg hcomp hfetch hsmall hIO hEI hEO hchk hwin
    htemps hshift
  obtain ⟨hE, henv, htr, hbud⟩ := initState_entry K ⟨G.L.min0, G.L.max0⟩ ⟨Int.le_of_lt hwin.1, hwin.2⟩ buf0 rsp0 ra
    hrsp budget hb env
  exact conv_run' K G hnn hE henv htr hbud hlim hoom hret

/-- In particular the traces agree (`Result.trace`), and in unlimited mode a returned 1 means the bytecode run
ran to its end: -/
example (s0 s' : PState w) (c' : Bc.Cfg w) (h : Result s0 s' c') :
    s'.trace = c'.st.trace ∧ s'.env = c'.st.env ∧ s'.regs.rsp = s0.regs.rsp + 8 ∧ s'.regs.rbx = s0.regs.rbx :=
  ⟨h.trace, h.env, h.rsp, h.rbx⟩

/-- If the bytecode run is `.outOfFuel` for every fuel, the machine code is still running after
every number of steps: it never returns and never leaves the modelled subset. -/
theorem conv_diverges (p : Bc.Program w) (limited safe : Bool) (cfg : Cfg) {code : List X86}
    (hcomp : compileX86 w p limited safe cfg.aE.toNat cfg.aI.toNat cfg.aO.toNat = some code)
    (hfetch : cfg.fetch = fetchFast (fetchTable code)) (hsmall : sizeAll code < 2 ^ 31)
    (hIO : cfg.aI ≠ cfg.aO) (hEI : cfg.aE ≠ cfg.aI) (hEO : cfg.aE ≠ cfg.aO)
    (hchk : BcWf.check p 11 = true) (hwin : -2147483648 < p.minAcc ∧ p.maxAcc < 2147483648)
    (htemps : alignedTemps p.temps * 8 < 2147483648)
    (hshift : ∀ (i : Nat) (sh : Int), p.insts[i]? = some (Bc.Instr.mov sh) → -2147483648 ≤ sh ∧ sh < 2147483648)
    (hnn : NoNoop p)
    (buf0 rsp0 ra : BitVec 64) (hrsp : rsp0.toNat % 16 = 8)
    (budget : Nat) (hb : budget < 2 ^ 64) (hlim : (limited && budget == 0) = false) (env : Env)
    (hoom : safe = true → ∀ n s', steps cfg n (initState (w := w) cfg buf0 rsp0 ra p.minAcc p.maxAcc budget env)
      = some s' → Bnd s')
    (hdiv : ∀ fuel, ∃ c, Bc.run p limited budget fuel env = .outOfFuel c) (n : Nat) :
    (∀ r, run cfg n (initState (w := w) cfg buf0 rsp0 ra p.minAcc p.maxAcc budget env) ≠ .ret r) ∧
    (∀ f r, run cfg n (initState (w := w) cfg buf0 rsp0 ra p.minAcc p.maxAcc budget env) ≠ .fault f r) := by
  obtain ⟨K, rfl, rfl, rfl, rfl, G⟩ := ctx_of_compiled p limited safe cfg hcomp hfetch hsmall hIO hEI hEO hchk hwin
    htemps hshift
  obtain ⟨hE, henv, htr, hbud⟩ := initState_entry K ⟨G.L.min0, G.L.max0⟩ ⟨Int.le_of_lt hwin.1, hwin.2⟩ buf0 rsp0 ra
    hrsp budget hb env
  exact running_iff.1 (conv_diverges' K G hnn hE henv htr hbud hlim hoom hdiv n)

/-- The versions for an arbitrary entry state (`Entry`), as `prog_run'`. -/
theorem conv_run_entry (K : Ctx w) (G : Good K) (hnn : NoNoop K.p) {s0 : PState w} {ra : BitVec 64}
    (hE : Entry K s0 ra) {env : Env} (henv : s0.env = env) (htr : s0.trace = []) {budget : Nat}
    (hb : s0.budget.toNat = budget) (hlim : (K.limited && budget == 0) = false) (hoom : NoOOM K s0)
    {n : Nat} {s' : PState w} (hret : run K.cfg n s0 = .ret s') :
    ∃ fuel c',
      ((Bc.run K.p K.limited budget fuel env = .done c' ∧ s'.regs.rax = 1 ∧ s'.budget.toNat = c'.budget) ∨
       (Bc.run K.p K.limited budget fuel env = .stopped c' ∧ s'.regs.rax = 0 ∧ s'.budget.toNat = c'.budget) ∨
       (Bc.run K.p K.limited budget fuel env = .interrupted c' ∧ s'.regs.rax = 0 ∧ s'.budget.toNat < 2 ∧
          c'.budget = 0)) ∧
      Result s0 s' c' := conv_run' K G hnn hE henv htr hb hlim hoom hret

theorem conv_diverges_entry (K : Ctx w) (G : Good K) (hnn : NoNoop K.p) {s0 : PState w} {ra : BitVec 64}
    (hE : Entry K s0 ra) {env : Env} (henv : s0.env = env) (htr : s0.trace = []) {budget : Nat}
    (hb : s0.budget.toNat = budget) (hlim : (K.limited && budget == 0) = false) (hoom : NoOOM K s0)
    (hdiv : ∀ fuel, ∃ c, Bc.run K.p K.limited budget fuel env = .outOfFuel c) (n : Nat) :
    Running K.cfg n s0 := conv_diverges' K G hnn hE henv htr hb hlim hoom hdiv n

/-- The empty loop without fusion: `brz 0 2; brnz 0 0` – a branch to itself. On a non-zero cell the bytecode
configuration is a fixed point of `Bc.step` in unlimited mode, which is why progress needs an argument. -/
def exSelfLoop : Bc.Program 8 :=
  { temps := 0, minAcc := 0, maxAcc := 0, live := #[0, 0, 0],
    insts := #[.copy (.mem 0) (.imm 1#8), .brz 0 2, .brnz 0 0] }

example : BcWf.check exSelfLoop 11 = true := by decide +kernel
example : NoNoop exSelfLoop := by
  intro i h
  rcases i with _|_|_|i <;> simp [exSelfLoop] at h
/-- The bytecode run never ends (the configuration after the first two steps repeats) … -/
example : (match Bc.runCfg exSelfLoop false 7 { pc := 0, temps := [], budget := 0, st := State.init default } with
    | .outOfFuel c => c.pc == 2
    | _ => false) = true := by decide +kernel
/-- … and the compiled code is the two-instruction loop `cmp byte [rbp], 0; jne -10` after the store. -/
example : ((compileX86 8 exSelfLoop false false 1 2 3).map fun code => (code.drop 10).take 4) =
    some [cmpZero .b8 0, .jccRel32 .equal 10, cmpZero .b8 0, .jccRel32 .notEqual (-10)] := by decide +kernel

end C03
end Hpbf

#print axioms Hpbf.C03.conv_code_nonempty
#print axioms Hpbf.C03.conv_progress
#print axioms Hpbf.C03.conv_ret_unique
#print axioms Hpbf.C03.conv_run_more
#print axioms Hpbf.C03.conv_steps_lt
#print axioms Hpbf.C03.conv_steps
#print axioms Hpbf.C03.conv_run
#print axioms Hpbf.C03.conv_diverges
#print axioms Hpbf.C03.conv_run_entry
#print axioms Hpbf.C03.conv_diverges_entry
