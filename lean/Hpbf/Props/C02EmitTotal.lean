/-
C02 / C13: the emission phase of the bytecode generator (`bc::CodeGen::emit_block` with global value
numbering, up to and excluding `dead_store_elim`) is TOTAL: for every IR block, at every cell width and
for both values of `fuse`, none of its modelled panic sites is reachable.

The proof is the induction over `emitInsts` (`C02Emit.emitInsts_tr`, in its totality mode) with the success invariant
`emitTotal_Inv`: every value number recorded in the table `values` or in `outer_accessed` is below `ranges.len()`, and
`current_start ≤ insts.len()`.

The panic sites of the emission phase in `BcGen.lean` and how each is discharged:
* `range_extend_to:ranges-index`, `range_extend:ranges-index` – `read`/`range_extend` are only called
  with operands of a GVN expression, with results of `calcValues`, or with entries of `outer_accessed`;
  all are below `ranges.len()` (`emitTotal_rangeExtend`, `emitTotal_read`, `emitTotal_getValue`,
  `emitTotal_memWrite`, carried through `Expr::codegen` by `emitTotal_calc`);
* `emit_block:outer_accessed-loop-fuel` – the potential `(|outer_accessed| - i) + #stale values`
  decreases in every iteration (`emitTotal_outerLoop`), so `|outer_accessed| + |ranges| + 1` suffices;
* `emit_block:outer_accessed-index` – guarded by `i < len`; `emit_block:ranges-index` – invariant;
* `emit_block:start_instr-1-underflow` – the placeholder has just been pushed (`C02Emit.emitLoopIf_block_tr`);
* `emit_block:insts-index` – the instruction list only grows during the body;
* `emit_block:sub_anal-index` – `Analysis::analyze` records one entry per loop/if (`analyze_subAnal`).
-/
import Hpbf.Proofs.C02EmitTotal
import Hpbf.Props.C02Emit

namespace Hpbf
namespace C02
open BcGen C02Emit

variable {w : Nat}

/-- The invariant holds in the state handed to `dead_store_elim`: every value number in `values` and
`outer_accessed` exists, and `current_start ≤ insts.len()`. -/
theorem emit_total_inv (blk : Ir.Block w) (fuse : Bool) :
    ∃ s, emitState blk fuse = .ok s ∧ (∀ p ∈ s.values, p.2 < s.ranges.size) ∧
      (∀ (i x : Nat), s.outerAccessed[i]? = some x → x < s.ranges.size) ∧ s.currentStart ≤ s.insts.size := by
  obtain ⟨s', h, hi⟩ := emitTotal_emitInsts fuse blk.insts 0 ({} : St w) emitTotal_init (Nat.zero_le _)
  refine ⟨s', ?_, hi.vals, hi.oa, hi.cs⟩
  unfold emitState
  rw [analyze_subAnal]
  have : (emitInsts fuse 0 blk.insts (subsOf blk.insts)).run ({} : St w) = .ok ((), s') := h
  rw [this]

/-- `emit_block` on a whole program never panics. -/
theorem emit_total (blk : Ir.Block w) (fuse : Bool) : ∃ s, emitState blk fuse = .ok s :=
  let ⟨s, h, _⟩ := emit_total_inv blk fuse
  ⟨s, h⟩

theorem emitOnly_total (blk : Ir.Block w) (fuse : Bool) : ∃ p, emitOnly blk fuse = .ok p := by
  obtain ⟨s, hs⟩ := emit_total blk fuse
  exact ⟨_, by unfold emitOnly; rw [hs]⟩

theorem emit_total_full_holds : emit_total_full := fun _ blk fuse => emitOnly_total blk fuse

/-- In terms of the generator itself: the run of `emitInsts` that `translateE` starts with succeeds. -/
theorem emit_total_run (blk : Ir.Block w) (fuse : Bool) :
    ∃ s, (emitInsts fuse 0 blk.insts (analyze blk).subAnal).run ({} : St w) = .ok ((), s) := by
  obtain ⟨s, hs⟩ := emit_total blk fuse
  unfold emitState at hs
  cases hr : (emitInsts fuse 0 blk.insts (analyze blk).subAnal).run ({} : St w) with
  | error e => rw [hr] at hs; cases hs
  | ok p => exact ⟨p.2, rfl⟩

/-! The semantic theorems without the success hypothesis. -/

theorem emit_forward' (blk : Ir.Block w) (fuse : Bool) (env : Env) (ho : OnceOk blk env) :
    ∃ p, emitOnly blk fuse = .ok p ∧
    (∀ f (c : Ir.Cfg w), Ir.run blk false 0 f env = .done c →
      ∃ f' c', Bc.run p false 0 f' env = .done c' ∧ c'.st.trace = c.st.trace ∧
        (∀ i, c'.st.tape.get i = c.st.tape.get i) ∧ c'.st.ptr = c.st.ptr ∧ c'.st.env = c.st.env) ∧
    (∀ f (c : Ir.Cfg w), Ir.run blk false 0 f env = .stopped c →
      ∃ f' c', Bc.run p false 0 f' env = .stopped c' ∧ c'.st.trace = c.st.trace ∧
        (∀ i, c'.st.tape.get i = c.st.tape.get i) ∧ c'.st.ptr = c.st.ptr ∧ c'.st.env = c.st.env) := by
  obtain ⟨p, hp⟩ := emitOnly_total blk fuse
  exact ⟨p, hp, emit_forward env hp ho⟩

theorem emit_backward' (blk : Ir.Block w) (fuse : Bool) (env : Env) (ho : OnceOk blk env) :
    ∃ p, emitOnly blk fuse = .ok p ∧
    (∀ f' (c' : Bc.Cfg w), Bc.run p false 0 f' env = .done c' →
      ∃ f c, Ir.run blk false 0 f env = .done c ∧ c.st.trace = c'.st.trace ∧
        (∀ i, c.st.tape.get i = c'.st.tape.get i) ∧ c.st.ptr = c'.st.ptr ∧ c.st.env = c'.st.env) ∧
    (∀ f' (c' : Bc.Cfg w), Bc.run p false 0 f' env = .stopped c' →
      ∃ f c, Ir.run blk false 0 f env = .stopped c ∧ c.st.trace = c'.st.trace ∧
        (∀ i, c.st.tape.get i = c'.st.tape.get i) ∧ c.st.ptr = c'.st.ptr ∧ c.st.env = c'.st.env) := by
  obtain ⟨p, hp⟩ := emitOnly_total blk fuse
  exact ⟨p, hp, emit_backward env hp ho⟩

theorem emit_prefix' (blk : Ir.Block w) (fuse : Bool) (env : Env) (ho : OnceOk blk env) :
    ∃ p, emitOnly blk fuse = .ok p ∧
    (∀ f', ∃ f, C01.traceOf (Ir.run blk false 0 f env) = C07.traceOfBc (Bc.run p false 0 f' env)) ∧
    (∀ f, ∃ f', C07.traceOfBc (Bc.run p false 0 f' env) = C01.traceOf (Ir.run blk false 0 f env)) := by
  obtain ⟨p, hp⟩ := emitOnly_total blk fuse
  exact ⟨p, hp, emit_prefix env hp ho⟩

end C02
end Hpbf

#print axioms Hpbf.C02.emit_total
#print axioms Hpbf.C02.emitOnly_total
#print axioms Hpbf.C02.emit_total_full_holds
#print axioms Hpbf.C02.emit_total_run
#print axioms Hpbf.C02.emit_total_inv
#print axioms Hpbf.C02.emit_forward'
#print axioms Hpbf.C02.emit_backward'
#print axioms Hpbf.C02.emit_prefix'
