/-
C06 — "In the default (bounds-checked) mode, for every program and input, no backend reads or writes a
byte outside the tape allocation it currently owns, and cells keep their values across any number of
tape reallocations in either direction, so the observable behaviour equals that of an unbounded
zero-initialised tape."

The address discipline being verified is `Hpbf/Window.lean` (layout `Lay` = allocation size + physical index
of the tape pointer; `Lay.grow` = layout effect of `Memory::make_accessible`; `Lay.move` = a pointer move followed by the bounds handling
of the threaded interpreter (`threadedSafe`: probe one edge, grow the whole window) or of the baseline
JIT (`jitSafe`: probe one edge, make the probe cell accessible); `Window.run` = the bytecode machine
`Bc.step` instrumented with the layout and the flag "every tape access so far was inside the
allocation").

WHAT IS ASSUMED (range guard, the same `2^59` as C09; outside it no claim is made, the model says what
wraps there):
* `l.Small`            – a layout with `size < 2^59` and `-2^59 < cur < 2^59`;
* `SmallArg x`         – `-2^59 < x < 2^59` (a window constant or a shift);
* `SmallProg p`        – `minAcc`, `maxAcc` and the shift of every `mov`/`scan` of `p` are `SmallArg`
                         (static, decidable);
* `smallRun mode p limited fuel c l = true` – defined by recursion along `runLay`: the allocation is
  smaller than `2^59` cells at every instruction boundary of the run (decidable).  Because sizes only
  grow (`size_monotone`) this follows from `final size < 2^59` (`safe_run_no_oob_final`).
Between a move and its probe the pointer index may be `2 * 2^59` away from the allocation; the closed
forms of `make_accessible` are therefore proved up to `2^61` in `Proofs/C06.lean`.
The contract on the program is `BcWf.localOk p = true` (operands inside the declared window, window
contains 0), the first conjunct of the verified checker `BcWf.check` of C11.
-/
import Hpbf.Proofs.C06
import Hpbf.Props.C09

namespace Hpbf.C06
open Hpbf Hpbf.Window Hpbf.Bc

variable {w : Nat}

/-- C06, `make_accessible` on layouts: `below` is `0` if nothing was needed and C09's three-case
`added_below` otherwise; the requested offsets are in bounds afterwards and no offset that was in
bounds falls out. -/
theorem grow_spec {l : Lay} {a b : Int} (hl : l.Small) (ha : SmallArg a) (hb : SmallArg b) :
    ∃ below above : Nat,
      (l.grow a b).size = below + l.size + above ∧
      (l.grow a b).cur = l.cur + below ∧
      below = (if l.NoGrowth a b then 0 else l.addedBelow a b) ∧
      (∀ i, a ≤ i → i < b → (l.grow a b).inBounds i = true) ∧
      (∀ o, l.inBounds o = true → (l.grow a b).inBounds o = true) :=
  grow_shape hl.wide ha.wide.1 ha.wide.2 hb.wide.1 hb.wide.2

/-- No guard needed. -/
theorem grow_size_le (l : Lay) (a b : Int) : l.size ≤ (l.grow a b).size := grow_size_ge l a b

-- growth on both sides at once from a pointer far below a 100-cell allocation
example : let l : Lay := ⟨100, -5000⟩
    l.Small ∧ SmallArg (-3) ∧ SmallArg 7000 ∧ l.grow (-3) 7000 = ⟨5003 + 100 + 1900, -5000 + 5003⟩ := by
  decide
-- nothing to do
example : (⟨100, 50⟩ : Lay).grow (-50) 50 = ⟨100, 50⟩ := by decide

/-- The link to the tape object of C09 (layout = size and `offset as isize`). -/
theorem lay_of_makeAccessible {m : Mem w} {a b : Int} (hs : Mem.Small m)
    (ha : Mem.SmallArg a) (hb : Mem.SmallArg b) :
    Lay.ofMem (m.makeAccessible a b) = (Lay.ofMem m).grow a b :=
  lay_of_makeAccessible' hs ha hb

/-- C06, cells keep their values across reallocations: C09 applies to every growth the machine
performs (`Mem.cell off` is the logical cell at `off` from the pointer). -/
theorem growth_preserves_cells {m : Mem w} {a b : Int} (hwf : Mem.WF m) (hs : Mem.Small m)
    (ha : Mem.SmallArg a) (hb : Mem.SmallArg b) :
    Lay.ofMem (m.makeAccessible a b) = (Lay.ofMem m).grow a b ∧
    Mem.WF (m.makeAccessible a b) ∧
    ∀ off, (m.makeAccessible a b).cell off = m.cell off :=
  ⟨lay_of_makeAccessible hs ha hb, C09.makeAccessible_wf hwf hs ha hb,
    C09.makeAccessible_cell hwf hs ha hb⟩

example : Mem.WF C09.witness ∧ Mem.Small C09.witness ∧ Mem.SmallArg (-3000) ∧ Mem.SmallArg 7000 ∧
    Lay.ofMem C09.witness = ⟨100, 100⟩ := by decide

/-- C06, a move in either checked mode by ANY shift (also far beyond the allocation, either sign)
keeps the window `[mn, mx]` inside the allocation. A move to the left cannot push the upper edge out
and vice versa, so probing one edge suffices; the JIT makes only the probe cell accessible, but the
allocation is contiguous from there to the window. -/
theorem move_inWindow {mode : Mode} (hmode : mode = .threadedSafe ∨ mode = .jitSafe)
    {mn mx : Int} {l : Lay} (sh : Int) (h0 : mn ≤ 0) (h1 : 0 ≤ mx) (hw : l.InWindow mn mx)
    (hs : (l.size : Int) < bound) (hmn : SmallArg mn) (hmx : SmallArg mx) (hsh : SmallArg sh) :
    (Lay.move mode mn mx l sh).InWindow mn mx :=
  move_inWindow' (by rcases hmode with h | h <;> simp [h]) sh h0 h1 hw hs hmn hmx hsh

/-- Entry (`enter_ops` / `enter_jit_code`) establishes the window from ANY layout in the guard. -/
theorem enter_inWindow {mode : Mode} (hmode : mode = .threadedSafe ∨ mode = .jitSafe)
    {mn mx : Int} {l : Lay} (h0 : mn ≤ 0) (h1 : 0 ≤ mx) (hl : l.Small)
    (hmn : SmallArg mn) (hmx : SmallArg mx) :
    (l.enter mode mn mx).InWindow mn mx := by
  rcases hmode with rfl | rfl
  · exact grow_inWindow hl.wide (by omega) hmn hmx
  · exact grow_inWindow hl.wide (by omega) hmn hmx

/-- The trampolined dispatcher of debug builds calls `enter_ops` again after every instruction:
under the invariant this changes nothing (any mode). -/
theorem re_enter_noop (mode : Mode) {l : Lay} {mn mx : Int} (hw : l.InWindow mn mx) (h0 : mn ≤ mx)
    (hs : (l.size : Int) < bound) (hmn : SmallArg mn) (hmx : SmallArg mx) :
    l.enter mode mn mx = l := by
  cases mode with
  | unchecked => rfl
  | threadedSafe => exact grow_noop hw hs hmn hmx
  | jitSafe => exact grow_noop hw hs hmn hmx

-- fresh context, then moves far beyond the allocation in both directions, both modes
example : (⟨0, 0⟩ : Lay).Small ∧ SmallArg (-2) ∧ SmallArg 3 ∧ SmallArg (-100000) ∧
    (⟨0, 0⟩ : Lay).enter .threadedSafe (-2) 3 = ⟨6, 2⟩ ∧
    (⟨6, 2⟩ : Lay).InWindow (-2) 3 := by decide
example : Lay.move .threadedSafe (-2) 3 ⟨6, 2⟩ (-100000) = ⟨100006, 2⟩ ∧
    Lay.move .jitSafe (-2) 3 ⟨6, 2⟩ (-100000) = ⟨100006, 2⟩ ∧
    Lay.move .threadedSafe (-2) 3 ⟨6, 2⟩ 100000 = ⟨100006, 100002⟩ ∧
    Lay.move .jitSafe (-2) 3 ⟨6, 2⟩ 100000 = ⟨100006, 100002⟩ ∧
    -- a short move: the threaded interpreter grows by half, the JIT too (one cell needed)
    Lay.move .threadedSafe (-2) 3 ⟨6, 2⟩ 1 = ⟨9, 3⟩ ∧ Lay.move .jitSafe (-2) 3 ⟨6, 2⟩ 1 = ⟨9, 3⟩ ∧
    Lay.move .jitSafe (-2) 3 ⟨6, 2⟩ (-1) = ⟨9, 4⟩ := by decide
-- the unchecked mode does not keep the invariant (that is C10's subject)
example : ¬ (Lay.move .unchecked (-2) 3 ⟨6, 2⟩ 1).InWindow (-2) 3 := by decide

def SmallRun (mode : Mode) (p : Program w) (limited : Bool) (budget fuel : Nat) (env : Env) (l0 : Lay) :
    Prop :=
  smallRun mode p limited fuel { pc := 0, temps := [], budget := budget, st := State.init env }
    (l0.enter mode p.minAcc p.maxAcc) = true

instance (mode : Mode) (p : Program w) (limited : Bool) (budget fuel : Nat) (env : Env) (l0 : Lay) :
    Decidable (SmallRun mode p limited budget fuel env l0) := by unfold SmallRun; infer_instance

/-- C06, main theorem: in both checked modes, for every program satisfying the local contract, every
`limited`, budget, fuel, environment and starting layout inside the guard, every tape access of every
executed instruction is inside the allocation. -/
theorem safe_run_no_oob {mode : Mode} (hmode : mode = .threadedSafe ∨ mode = .jitSafe)
    {p : Program w} (hl : BcWf.localOk p = true) (hp : SmallProg p)
    (limited : Bool) (budget fuel : Nat) (env : Env) {l0 : Lay} (h0 : l0.Small)
    (hg : SmallRun mode p limited budget fuel env l0) :
    (Window.run mode p limited budget fuel env l0).ok = true := by
  have L := C11.localOk_facts hl
  have hne : mode ≠ .unchecked := by rcases hmode with h | h <;> simp [h]
  unfold Window.run
  simp only
  split
  · rfl
  · exact (runLay_ok hne L hp limited fuel _ _
      (enter_inWindow hmode L.min0 L.max0 h0 hp.1 hp.2.1) hg).1

/-- The window is inside the allocation when the run ends or pauses (needed to resume, e.g. after an
interrupt). -/
theorem safe_run_inWindow {mode : Mode} (hmode : mode = .threadedSafe ∨ mode = .jitSafe)
    {p : Program w} (hl : BcWf.localOk p = true) (hp : SmallProg p)
    (limited : Bool) (budget fuel : Nat) (env : Env) {l0 : Lay} (h0 : l0.Small)
    (hg : SmallRun mode p limited budget fuel env l0)
    (hb : (limited && budget == 0) = false) :
    (Window.run mode p limited budget fuel env l0).lay.InWindow p.minAcc p.maxAcc := by
  have L := C11.localOk_facts hl
  have hne : mode ≠ .unchecked := by rcases hmode with h | h <;> simp [h]
  unfold Window.run
  simp only [hb]
  exact (runLay_ok hne L hp limited fuel _ _
    (enter_inWindow hmode L.min0 L.max0 h0 hp.1 hp.2.1) hg).2

/-- The allocation only grows along a run (all modes, no guard), from every intermediate
configuration and layout to the end. -/
theorem size_monotone_from (mode : Mode) (p : Program w) (limited : Bool) (fuel : Nat) (c : Cfg w)
    (l : Lay) (ok : Bool) : l.size ≤ (runLay mode p limited fuel c l ok).lay.size :=
  runLay_size_ge mode p limited fuel c l ok

theorem size_monotone (mode : Mode) (p : Program w) (limited : Bool) (budget fuel : Nat) (env : Env)
    (l0 : Lay) : l0.size ≤ (Window.run mode p limited budget fuel env l0).lay.size := by
  unfold Window.run
  simp only
  split
  · exact Nat.le_refl _
  · refine Nat.le_trans ?_ (runLay_size_ge _ _ _ _ _ _ _)
    cases mode with
    | unchecked => exact Nat.le_refl _
    | threadedSafe => exact grow_size_ge _ _ _
    | jitSafe => exact grow_size_ge _ _ _

theorem size_monotone_step (mode : Mode) (p : Program w) (c c' : Cfg w) (l : Lay) :
    l.size ≤ (layStep mode p c c' l).size := layStep_size_ge mode p c c' l

/-- The dynamic guard is implied by a bound on the final allocation size alone: as long as the tape
has not reached `2^59` cells, no access was out of bounds. -/
theorem safe_run_no_oob_final {mode : Mode} (hmode : mode = .threadedSafe ∨ mode = .jitSafe)
    {p : Program w} (hl : BcWf.localOk p = true) (hp : SmallProg p)
    (limited : Bool) (budget fuel : Nat) (env : Env) {l0 : Lay} (h0 : l0.Small)
    (hfin : ((Window.run mode p limited budget fuel env l0).lay.size : Int) < bound) :
    (Window.run mode p limited budget fuel env l0).ok = true := by
  by_cases hb : (limited && budget == 0) = true
  · unfold Window.run; simp only [hb]; rfl
  · apply safe_run_no_oob hmode hl hp limited budget fuel env h0
    unfold SmallRun
    apply smallRun_of_final _ _ _ _ _ _ true
    unfold Window.run at hfin
    simp only [hb] at hfin
    exact hfin

/-- With the full checker of C11 instead of its first conjunct. -/
theorem safe_run_no_oob_of_check {mode : Mode} (hmode : mode = .threadedSafe ∨ mode = .jitSafe)
    {p : Program w} {numRegs : Nat} (hc : BcWf.check p numRegs = true) (hp : SmallProg p)
    (limited : Bool) (budget fuel : Nat) (env : Env) {l0 : Lay} (h0 : l0.Small)
    (hfin : ((Window.run mode p limited budget fuel env l0).lay.size : Int) < bound) :
    (Window.run mode p limited budget fuel env l0).ok = true := by
  simp only [BcWf.check, Bool.and_eq_true] at hc
  exact safe_run_no_oob_final hmode hc.1.1 hp limited budget fuel env h0 hfin

/-- `mov 1000; [3] += 1; mov -5000; [-2] += 1; [0] := 1; scan-right-by-997` (both window edges are
written right after a far move in either direction; kept tiny so that `decide` can run it). -/
def roam : Program 8 :=
  { temps := 0, minAcc := -2, maxAcc := 3, live := #[0, 0, 0, 0, 0, 0],
    insts := #[.mov 1000, .add (.mem 3) (.mem 3) (.imm 1#8), .mov (-5000),
               .add (.mem (-2)) (.mem (-2)) (.imm 1#8), .copy (.mem 0) (.imm 1#8), .scan 0 997] }

def env0 : Env := { input := none, sink := false, outOk := none }

example : BcWf.localOk roam = true ∧ SmallProg roam ∧ (⟨0, 0⟩ : Lay).Small := by decide

example : SmallRun .threadedSafe roam false 0 20 env0 ⟨0, 0⟩ ∧
    SmallRun .jitSafe roam false 0 20 env0 ⟨0, 0⟩ := by decide +kernel

-- the final layouts (the program has walked 1000 right, 5000 left, then scanned right again)
example : (Window.run .threadedSafe roam false 0 20 env0 ⟨0, 0⟩).lay = ⟨5006, 999⟩ ∧
    (Window.run .jitSafe roam false 0 20 env0 ⟨0, 0⟩).lay = ⟨5006, 999⟩ ∧
    (Window.run .threadedSafe roam false 0 20 env0 ⟨0, 0⟩).ok = true := by decide +kernel
-- the same program without checks, from a fresh context, does access outside the allocation
example : (Window.run .unchecked roam false 0 20 env0 ⟨0, 0⟩).ok = false := by decide +kernel

end Hpbf.C06

#print axioms Hpbf.C06.grow_spec
#print axioms Hpbf.C06.grow_size_le
#print axioms Hpbf.C06.lay_of_makeAccessible
#print axioms Hpbf.C06.growth_preserves_cells
#print axioms Hpbf.C06.move_inWindow
#print axioms Hpbf.C06.enter_inWindow
#print axioms Hpbf.C06.re_enter_noop
#print axioms Hpbf.C06.safe_run_no_oob
#print axioms Hpbf.C06.safe_run_inWindow
#print axioms Hpbf.C06.size_monotone_from
#print axioms Hpbf.C06.size_monotone
#print axioms Hpbf.C06.size_monotone_step
#print axioms Hpbf.C06.safe_run_no_oob_final
#print axioms Hpbf.C06.safe_run_no_oob_of_check
