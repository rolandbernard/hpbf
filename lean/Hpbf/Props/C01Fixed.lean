/-
Property C01 for the REPAIRED optimizer `OptFix.optimizeF` (`Hpbf/OptFix.lean`; the function the Rust is tied to:
`optimize_once` followed by `recompute_clobbered`, the repair of defect F13): everything that is registered for
`Opt.optimize` (C01Rebuild, C01Rounds, C01Full, C13Opt, C10Opt), restated for `optimizeF`, with NO per-run hypothesis.

1. `optimizeF_level_le_one'`: at levels 0 and 1 `optimizeF` IS `Opt.optimize` (the post-pass only changes the
   analysis, which nothing consumes there).
2. correctness, every level, every oracle, every environment: `optimizeF_preserves_all_levels''`,
   `optimizeF_onceOk_all_levels''`, from source `optimizeF_parse'`; round by round: `optimizeOnceF_round1'`,
   `optimizeOnceF_analIn'` (the recorded analysis is sound for the emitted program, for every state),
   `optimizeOnceF_analSound'` (what DSE consumes), `dse_after_roundF'`, `optimizeOnceF_later'`.
3. totality / no panic: `optimizeF_no_panic'`, `optimizeF_never_panics'`, `optimizeF_total'`, `optimizeF_canonL'`;
   for parser output `optimizeF_no_panic_parse'`, `optimizeF_total_parse'`.
4. offsets: `optimizeF_reach'`, `optimizeF_offsets'`, `optimizeF_keeps_bound'`, `optimizedF_window_le_length'`,
   `optimizedF_window_le_moves'`, `optimizedF_shift_le_length'`.
Proofs: Hpbf/Proofs/OptRbFull.lean, OptTotalRounds.lean, OptFixOffs.lean; the round-by-round facts of item 2 are proved here
(a repaired round emits the program of `optimizeOnce`; its analysis differs only in `clobbered`).
-/
import Hpbf.Proofs.OptRbFull
import Hpbf.Proofs.OptTotalRounds
import Hpbf.Proofs.OptFixOffs

namespace Hpbf
namespace OptProof
open Opt OptSem Ir

variable {w : Nat}

theorem optimizeF_level_le_one' (b : Block w) {level : Nat} (h : level ≤ 1) (orders : Orders) :
    OptFix.optimizeF b level orders = Opt.optimize b level orders := by
  unfold OptFix.optimizeF Opt.optimize
  rw [Rounds.optimizeMF_run_le_one b h orders]
  cases (optimizeM b level).run orders with
  | error e => rfl
  | ok v =>
    obtain ⟨p, os⟩ := v
    cases os <;> rfl

theorem optimizeF_preserves_all_levels'' (hw : 0 < w) {b b' : Block w} (hcl : CanonL b.insts) {level : Nat}
    {orders : Orders} (h : OptFix.optimizeF b level orders = .ok b') (env : Env) : BehEq b b' env :=
  optimizeF_preserves_all_levels hw hcl h env

theorem optimizeF_onceOk_all_levels'' (hw : 0 < w) {b b' : Block w} (hcl : CanonL b.insts) {level : Nat}
    (hl : level ≠ 0) {orders : Orders} (h : OptFix.optimizeF b level orders = .ok b') (env : Env) :
    C02Emit.OnceOk b' env :=
  optimizeF_onceOk_all_levels hw hcl hl h env

theorem optimizeF_parse' (hw : 0 < w) {src : List Kind} {b b' : Block w} (hp : Ir.parse (w := w) src = .ok b)
    {level : Nat} {orders : Orders} (h : OptFix.optimizeF b level orders = .ok b') (env : Env) :
    BehEq b b' env ∧ (level ≠ 0 → C02Emit.OnceOk b' env) :=
  ⟨optimizeF_preserves_all_levels hw (parse_canonL hp) h env,
   fun hl => optimizeF_onceOk_all_levels hw (parse_canonL hp) hl h env⟩

theorem optimizeOnceF_round1' (hw : 0 < w) {b : Block w} (hcl : CanonL b.insts) {os os' : Orders}
    {b' : Block w} {anal' : OptAnalysis w}
    (hr : (OptFix.optimizeOnceF b (topAnalysis [] [])).run os = .ok ((b', anal'), os')) (env : Env) :
    BehEq b b' env ∧ C02Emit.OnceOk b' env := by
  obtain ⟨a0, h0, _⟩ := optimizeOnceF_ok.1 hr
  exact ⟨optimizeOnce_preserves_l1 hw hcl h0 env, optimizeOnce_onceOk_l1 hw hcl h0 env⟩

/-- The analysis a repaired round records is sound for the program it emits, from EVERY state, and fits its blocks. -/
theorem optimizeOnceF_analIn' {b : Block w} {prevAnal : OptAnalysis w} {os os' : Orders} {b' : Block w}
    {anal' : OptAnalysis w} (hr : (OptFix.optimizeOnceF b prevAnal).run os = .ok ((b', anal'), os'))
    (hcl : CanonL b.insts) (G : State w → Prop) :
    AnalInL G b'.insts anal'.subBlocks ∧ ShapeL b'.insts anal'.subBlocks := by
  obtain ⟨a0, h0, rfl⟩ := optimizeOnceF_ok.1 hr
  obtain ⟨h1, h2, _⟩ := tgtOkL_round h0 hcl
  exact ⟨analInL_of_tgtOk _ _ G h1, h2⟩

theorem optimizeOnceF_analSound' {b : Block w} {prevAnal : OptAnalysis w} {os os' : Orders} {b' : Block w}
    {anal' : OptAnalysis w} (hr : (OptFix.optimizeOnceF b prevAnal).run os = .ok ((b', anal'), os'))
    (hcl : CanonL b.insts) {env : Env} (ho : C02Emit.OnceOk b' env) :
    C01Dse.AnalSound b' anal'.toDAnal env := by
  obtain ⟨a0, h0, rfl⟩ := optimizeOnceF_ok.1 hr
  rw [fixClob_toDAnal]
  exact optimizeOnce_analSound h0 hcl ho

theorem dse_after_roundF' {b : Block w} {prevAnal : OptAnalysis w} {os os' : Orders} {b1 : Block w}
    {anal1 : OptAnalysis w} (hr : (OptFix.optimizeOnceF b prevAnal).run os = .ok ((b1, anal1), os'))
    (hcl : CanonL b.insts) :
    (∃ b2, deadStoreElimination b1 anal1 = .ok b2) ∧
    ∀ b2 env, C02Emit.OnceOk b1 env → deadStoreElimination b1 anal1 = .ok b2 → BehEq b1 b2 env := by
  obtain ⟨a0, h0, rfl⟩ := optimizeOnceF_ok.1 hr
  refine ⟨?_, fun b2 env ho hd => ?_⟩
  · obtain ⟨b2, h2⟩ := dse_total_after_round h0 hcl
    exact ⟨b2, by rw [dse_fixClob]; exact h2⟩
  · rw [dse_fixClob] at hd
    exact round_dse_behEq h0 hcl ho hd

/-- A later round of the repaired pipeline: no hypothesis on the run. -/
theorem optimizeOnceF_later' (hw : 0 < w) {b0 : Block w} {prev0 : OptAnalysis w} {os0 os0' : Orders}
    {prog prog1 prog2 : Block w} {anal anal2 : OptAnalysis w} {os os2 : Orders}
    (hr0 : (OptFix.optimizeOnceF b0 prev0).run os0 = .ok ((prog, anal), os0')) (hcl0 : CanonL b0.insts)
    {env : Env} (ho : C02Emit.OnceOk prog env) (hd : deadStoreElimination prog anal = .ok prog1)
    (hr : (OptFix.optimizeOnceF prog1 anal).run os = .ok ((prog2, anal2), os2)) :
    BehEq prog prog2 env ∧ C02Emit.OnceOk prog2 env ∧ CanonL prog1.insts := by
  obtain ⟨a0, h0, rfl⟩ := optimizeOnceF_ok.1 hr0
  obtain ⟨e, ho2, b, prev, a2, os', os'', hcl1, _, _⟩ :=
    laterRoundF_ok hw ⟨ho, b0, prev0, a0, os0, os0', hcl0, h0, rfl⟩ hd hr
  exact ⟨e, ho2, (tgtOkL_dse (optimizeOnce_shape h0) (optimizeOnce_canonL h0 hcl0) hd).2.2⟩

theorem optimizeF_no_panic' (b : Block w) (level : Nat) (orders : Orders) (hcl : CanonL b.insts) :
    ∀ e, OptFix.optimizeF b level orders = .error e → OptTotal.isOracleError e = true :=
  OptTotal.optimizeF_no_panic b level orders hcl

theorem optimizeF_never_panics' (b : Block w) (level : Nat) (orders : Orders) (hcl : CanonL b.insts) (e : String)
    (h : OptFix.optimizeF b level orders = .error e) :
    "panic: ".toList.isPrefixOf e.toList = false ∧ "model: ".toList.isPrefixOf e.toList = false :=
  OptTotal.optimizeF_never_panics b level orders hcl e h

theorem optimizeF_total' (b : Block w) (level : Nat) (hcl : CanonL b.insts) :
    ∃ orders b', OptFix.optimizeF b level orders = .ok b' :=
  OptTotal.optimizeF_total b level hcl

theorem optimizeF_canonL' {b b' : Block w} {level : Nat} {orders : Orders} (hcl : CanonL b.insts)
    (h : OptFix.optimizeF b level orders = .ok b') : CanonL b'.insts :=
  OptTotal.optimizeF_canonL hcl h

theorem optimizeF_no_panic_parse' {src : List Kind} {b : Block w} (hp : Ir.parse (w := w) src = .ok b)
    (level : Nat) (orders : Orders) :
    ∀ e, OptFix.optimizeF b level orders = .error e → OptTotal.isOracleError e = true :=
  OptTotal.optimizeF_no_panic b level orders (parse_canonL hp)

theorem optimizeF_total_parse' {src : List Kind} {b : Block w} (hp : Ir.parse (w := w) src = .ok b)
    (level : Nat) : ∃ orders b', OptFix.optimizeF b level orders = .ok b' :=
  OptTotal.optimizeF_total b level (parse_canonL hp)

theorem optimizeF_reach' {b b' : Block w} {level : Nat} {orders : Orders}
    (h : OptFix.optimizeF b level orders = .ok b') : OptOffs.reach b' ≤ OptOffs.reach b :=
  OptOffs.optimizeF_reach h

theorem optimizeF_offsets' {b b' : Block w} {level : Nat} {orders : Orders}
    (h : OptFix.optimizeF b level orders = .ok b') :
    ∀ o ∈ Ir.offsets b'.insts, o.natAbs ≤ OptOffs.reach b :=
  OptOffs.optimizeF_offsets h

theorem optimizeF_keeps_bound' {R : Nat} {b b' : Block w} {level : Nat} {orders : Orders}
    (hb : ∀ p ∈ OptOffs.tagL 0 b.insts, p.1 + p.2.natAbs ≤ R)
    (h : OptFix.optimizeF b level orders = .ok b') : ∀ p ∈ OptOffs.tagL 0 b'.insts, p.1 + p.2.natAbs ≤ R :=
  OptOffs.optimizeF_ok hb h

theorem optimizedF_window_le_length' {src : List Kind} {b b' : Block w} {level : Nat} {orders : Orders}
    (hp : Ir.parse (w := w) src = .ok b) (h : OptFix.optimizeF b level orders = .ok b') :
    -(src.length : Int) ≤ (BcGen.analyze b').minAcc ∧ (BcGen.analyze b').maxAcc ≤ (src.length : Int) :=
  OptOffs.optimizedF_window_le_length hp h

theorem optimizedF_window_le_moves' {src : List Kind} {b b' : Block w} {level : Nat} {orders : Orders}
    (hp : Ir.parse (w := w) src = .ok b) (h : OptFix.optimizeF b level orders = .ok b') :
    -(Ir.moves src : Int) ≤ (BcGen.analyze b').minAcc ∧
      (BcGen.analyze b').maxAcc ≤ (Ir.moves src : Int) :=
  OptOffs.steps_window_le_moves hp (Rounds.optimizeF_steps h)

theorem optimizedF_shift_le_length' {src : List Kind} {b b' : Block w} {level : Nat} {orders : Orders}
    (hp : Ir.parse (w := w) src = .ok b) (h : OptFix.optimizeF b level orders = .ok b') :
    b'.shift.natAbs ≤ src.length :=
  OptOffs.steps_shift_le_length hp (Rounds.optimizeF_steps h)

end OptProof
end Hpbf

#print axioms Hpbf.OptProof.optimizeF_level_le_one'
#print axioms Hpbf.OptProof.optimizeF_preserves_all_levels''
#print axioms Hpbf.OptProof.optimizeF_onceOk_all_levels''
#print axioms Hpbf.OptProof.optimizeF_parse'
#print axioms Hpbf.OptProof.optimizeOnceF_analIn'
#print axioms Hpbf.OptProof.optimizeOnceF_analSound'
#print axioms Hpbf.OptProof.dse_after_roundF'
#print axioms Hpbf.OptProof.optimizeOnceF_later'
#print axioms Hpbf.OptProof.optimizeF_no_panic'
#print axioms Hpbf.OptProof.optimizeF_never_panics'
#print axioms Hpbf.OptProof.optimizeF_total'
#print axioms Hpbf.OptProof.optimizeF_canonL'
#print axioms Hpbf.OptProof.optimizeF_reach'
#print axioms Hpbf.OptProof.optimizeF_offsets'
#print axioms Hpbf.OptProof.optimizeF_keeps_bound'
#print axioms Hpbf.OptProof.optimizedF_window_le_length'
#print axioms Hpbf.OptProof.optimizedF_window_le_moves'
#print axioms Hpbf.OptProof.optimizedF_shift_le_length'
