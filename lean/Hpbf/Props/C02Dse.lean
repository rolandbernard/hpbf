/-
Property C02 (part: the pass `dead_store_elim` of the bytecode generator, `BcGen.deadStoreElim`).

The pass scans the code backwards with a set `dead` of tape offsets that are certainly overwritten before any
read, branch, `mov`, `scan`, or the end; a store (`copy`/`add`/`sub`/`mul` with a `mem` destination) into a dead
cell becomes `noop` and the `num_uses` of its source temporaries are decremented; an arithmetic instruction whose
destination temporary has `num_uses == 0` becomes `noop` as well.  `dead` is reset at every branch, `mov`, `scan`
(NOT at branch targets – none is needed: the tapes are equal whenever a branch executes) and starts EMPTY at the
end of the program (the end does not make stores dead: `done` outcomes have the same tape).

(A) `deadStoreElim_preserves`: for every generator state satisfying `DsePre`, the pass succeeds, changes only
    `insts` and `ranges` (sizes unchanged; every instruction is kept or replaced by `noop`), re-establishes
    `DsePre` (so: no `memZero`), keeps branch targets in range, and the program before and after are `BehEqIO` –
    in fact they run in LOCKSTEP: the same fuel and the same budget on both sides (`noop` costs one step of fuel
    and no budget, exactly like the store it replaces; only branches and stationary scans touch the budget).
    `BehEqIO`, not `BehEq`: a run that STOPS at a failing I/O operation (or is cut by fuel) between a removed store
    and the overwriting one has the same events, pointer and environment but a different tape
    (`dse_stopped_tape_differs`, also on a state reachable from emission; `dse_not_obsEq'`).
(B) `dsePre_of_emit`: the state produced by the emission phase satisfies `DsePre` – both the structural part and
    the `ranges` bookkeeping part (the `num_uses` counters dominate the actual number of reads).
(C) Both parts of `DsePre` are necessary (`dse_noMemZero_necessary`, `dse_bookkeeping_necessary`): without them
    the pass changes the OUTPUT of a program, or fails.

The proofs are in `Hpbf/Proofs/C02Dse{Sim,Pass,Ex,Emit}.lean`; the theorems below are those theorems (same names,
namespace `Hpbf.C02`), restated as `example`s so that the exact statements are checked in this file.
-/
import Hpbf.Proofs.C02DseEmit
import Hpbf.Proofs.C02DseEx

namespace Hpbf
namespace C02

open Bc BcWf BcGen C11

variable {w : Nat}

/-- `DsePre`: (structural) no `memZero` operand; (bookkeeping) for every temporary `t` the number of source
operands `tmp t` in the code, with multiplicity, is at most `ranges[t].numUses` (0 outside the table), and the
destination temporaries of arithmetic instructions index `ranges`. -/
example (s : St w) : DsePre s ↔
    ((∀ ins ∈ s.insts, NoMemZero ins) ∧
     (∀ t, dseUseCount s.insts t ≤ dseNuse s.ranges t) ∧
     (∀ (i : Nat) (op : BcGen.Op) (t : Nat) (a b : Loc w),
        s.insts[i]? = some (mkArith op (.tmp t) a b) → t < s.ranges.size)) :=
  ⟨fun h => ⟨h.noZero, h.uses, h.dst⟩, fun ⟨a, b, c⟩ => ⟨a, b, c⟩⟩
example (I : Array (Instr w)) (t : Nat) : dseUseCount I t = (I.toList.map (fun ins => (uses ins).count t)).sum := rfl
example (rs : Array RangeInfo) (t : Nat) :
    dseNuse rs t = (match rs[t]? with | some r => r.numUses | none => 0) := rfl
/-- It is decidable (a boolean test over the finitely many instructions and table entries). -/
example (s : St w) : DsePre s ↔ dsePreCheck s = true := dsePre_iff_check s
example (s : St w) : Decidable (DsePre s) := inferInstance

/-! ### (A) the pass preserves behaviour -/

example (s : St w) (h : DsePre s) :
    ∃ s', deadStoreElim s = .ok s' ∧ s'.insts.size = s.insts.size ∧ s'.ranges.size = s.ranges.size ∧
      s' = { s with insts := s'.insts, ranges := s'.ranges } ∧ s'.live = s.live ∧
      (∀ (j : Nat) (ins' : Instr w), s'.insts[j]? = some ins' → ins' = .noop ∨ s.insts[j]? = some ins') ∧
      DsePre s' ∧ (∀ ins ∈ s'.insts, NoMemZero ins) ∧ (TargetsOk s.insts → TargetsOk s'.insts) ∧
      (∀ (t : Nat) (mn mx : Int), BehEqIO (progOf s t mn mx) (progOf s' t mn mx)) ∧
      ∀ (t : Nat) (mn mx : Int) (limited : Bool) (b fuel : Nat) (env : Env),
        ObsEqIO (Bc.run (progOf s t mn mx) limited b fuel env) (Bc.run (progOf s' t mn mx) limited b fuel env) :=
  deadStoreElim_preserves s h

/-- The semantic core: a certificate `D` (dead offsets per pc) with a local condition at every index. -/
example (P Q : Program w) (D : Nat → List Int) (hc : DseCert P.insts Q.insts D) (limited : Bool) (b fuel : Nat)
    (env : Env) : ObsEqIO (Bc.run P limited b fuel env) (Bc.run Q limited b fuel env) :=
  dse_run hc limited b fuel env
example (P Q : Array (Instr w)) (D : Nat → List Int) : DseCert P Q D ↔
    (Q.size = P.size ∧ (∀ ins ∈ P, NoMemZero ins) ∧ D P.size = [] ∧
     ∀ (i : Nat) (ins ins' : Instr w), P[i]? = some ins → Q[i]? = some ins' →
       DseStepOk Q ins ins' (D i) (D (i + 1))) :=
  ⟨fun h => ⟨h.size, h.noZero, h.last, h.step⟩, fun ⟨a, b, c, d⟩ => ⟨a, b, c, d⟩⟩
example (Q : Array (Instr w)) (ins ins' : Instr w) (Db Da : List Int) : DseStepOk Q ins ins' Db Da ↔
    ((ins' = ins ∧ (∀ o ∈ dseReadMems ins, o ∉ Db) ∧ (dseIsCtl ins = true → Db = []) ∧
      (∀ o ∈ Db, o ∈ Da ∨ o ∈ dseWriteMems ins)) ∨
     (ins' = .noop ∧ Db = Da ∧ ∃ d, DseKillOf ins d ∧
      ((∃ m, d = .mem m ∧ m ∈ Da) ∨
       (∃ t, d = .tmp t ∧ ¬ ∃ (j : Nat) (x : Instr w), Q[j]? = some x ∧ t ∈ uses x)))) := Iff.rfl
example (s : St w) (h : DsePre s) :
    ∃ (I' : Array (Instr w)) (R' : Array RangeInfo),
      deadStoreElim s = .ok { s with ranges := R', insts := I' } ∧ I'.size = s.insts.size ∧
      R'.size = s.ranges.size ∧ DseInv I' R' ∧
      (∀ (j : Nat) (ins' : Instr w), I'[j]? = some ins' → ins' = .noop ∨ s.insts[j]? = some ins') ∧
      ∃ D, DseCert s.insts I' D := deadStoreElim_cert s h

/-! ### (B) the emission phase establishes the precondition -/

example (prog : Ir.Block w) (fuse : Bool) (s : St w) (h : emitState prog fuse = .ok s) : DsePre s :=
  dsePre_of_emit h

example (prog : Ir.Block w) (fuse : Bool) (s : St w) (h : emitState prog fuse = .ok s) :
    ∃ s', deadStoreElim s = .ok s' ∧ s'.insts.size = s.insts.size ∧ s'.live = s.live ∧ DsePre s' ∧
      (TargetsOk s.insts → TargetsOk s'.insts) ∧
      ∀ (t : Nat) (mn mx : Int), BehEqIO (progOf s t mn mx) (progOf s' t mn mx) :=
  deadStoreElim_preserves_of_emit h

example : DsePre exDse := exDse_pre
example : (deadStoreElim exDse).toOption.map (fun s => (s.insts, s.ranges.toList.map (·.numUses))) =
    some (#[.noop, .noop, .copy (.tmp 1) (.imm 5#8), .copy (.mem 1) (.tmp 1), .copy (.mem 0) (.tmp 1), .out 1,
            .copy (.mem 2) (.imm 9#8)], [0, 2]) := exDse_result

/-- `ObsEq'`/`BehEq` fail: a refused output between the removed store and the overwriting one. -/
example : DsePre exDseStop ∧
    (deadStoreElim exDseStop).toOption.map (·.insts) = some #[.noop, .out 1, .copy (.mem 0) (.imm 3#8)] ∧
    (let o1 := Bc.run (progOf exDseStop 0 0 1) false 0 10 dseEnvRefuse
     let o2 := Bc.run ({ temps := 0, minAcc := 0, maxAcc := 1, live := #[],
                         insts := #[.noop, .out 1, .copy (.mem 0) (.imm 3#8)] } : Program 8) false 0 10
                  dseEnvRefuse
     o1.tag = 1 ∧ o2.tag = 1 ∧ o1.cfg.st.trace = [Ev.outFail 0] ∧ o2.cfg.st.trace = [Ev.outFail 0] ∧
     o1.cfg.st.tape.get 0 = 7#8 ∧ o2.cfg.st.tape.get 0 = 0#8) := dse_stopped_tape_differs
example : ¬ ∃ fuel', ObsEq' (Bc.run (progOf exDseStop 0 0 1) false 0 10 dseEnvRefuse)
    (Bc.run exDseStopQ false 0 fuel' dseEnvRefuse) := dse_not_obsEq'
/-- … and on the state emitted for the IR program `[0] := 7; output [1]; [0] := 3`. -/
example : (emitState exDseIr false).toOption.map (·.insts) = some exDseIrP ∧
    ((emitState exDseIr false).toOption.bind (fun s => (deadStoreElim s).toOption)).map (·.insts)
      = some exDseIrQ ∧
    (let o1 := Bc.run ({ temps := 2, minAcc := 0, maxAcc := 1, live := #[], insts := exDseIrP } : Program 8)
        false 0 10 dseEnvRefuse
     let o2 := Bc.run ({ temps := 2, minAcc := 0, maxAcc := 1, live := #[], insts := exDseIrQ } : Program 8)
        false 0 10 dseEnvRefuse
     o1.tag = 1 ∧ o2.tag = 1 ∧ o1.cfg.st.trace = [Ev.outFail 0] ∧ o2.cfg.st.trace = [Ev.outFail 0] ∧
     o1.cfg.st.tape.get 0 = 7#8 ∧ o2.cfg.st.tape.get 0 = 0#8) := dse_stopped_tape_differs_reachable

/-- (C) without "no `memZero`" the pass changes the output (7 ↦ 0). -/
example : ¬ DsePre exDseZero ∧
    (deadStoreElim exDseZero).toOption.map (·.insts) =
      some #[.noop, .copy (.mem 1) (.memZero 0), .copy (.mem 0) (.imm 3#8), .out 1] ∧
    (Bc.run (progOf exDseZero 0 0 1) false 0 10 dseEnvSink).cfg.st.trace = [Ev.out 7] ∧
    (Bc.run ({ temps := 0, minAcc := 0, maxAcc := 1, live := #[],
               insts := #[.noop, .copy (.mem 1) (.memZero 0), .copy (.mem 0) (.imm 3#8), .out 1] } : Program 8)
      false 0 10 dseEnvSink).cfg.st.trace = [Ev.out 0] := dse_noMemZero_necessary

/-- (C) without the bookkeeping the pass changes the output (3 ↦ 0) or fails. -/
example : ¬ DsePre exDseBook ∧
    (deadStoreElim exDseBook).toOption.map (·.insts) = some #[.noop, .copy (.mem 0) (.tmp 0), .out 0] ∧
    (Bc.run (progOf exDseBook 1 0 0) false 0 10 dseEnvSink).cfg.st.trace = [Ev.out 3] ∧
    (Bc.run ({ temps := 1, minAcc := 0, maxAcc := 0, live := #[],
               insts := #[.noop, .copy (.mem 0) (.tmp 0), .out 0] } : Program 8)
      false 0 10 dseEnvSink).cfg.st.trace = [Ev.out 0] ∧
    dseErr (deadStoreElim { exDseBook with ranges := #[] }) = some "dead_store_elim:ranges-index" ∧
    dseErr (deadStoreElim
      ({ insts := #[.copy (.mem 0) (.tmp 0), .copy (.mem 0) (.imm 1#8)], ranges := #[dseR 0] } : St 8))
      = some "dead_store_elim:num_uses-underflow" := dse_bookkeeping_necessary

end C02
end Hpbf

#print axioms Hpbf.C02.dse_run
#print axioms Hpbf.C02.dse_behEqIO
#print axioms Hpbf.C02.deadStoreElim_cert
#print axioms Hpbf.C02.deadStoreElim_preserves
#print axioms Hpbf.C02.dsePre_iff_check
#print axioms Hpbf.C02.dsePre_of_emit
#print axioms Hpbf.C02.deadStoreElim_preserves_of_emit
#print axioms Hpbf.C02.exDse_pre
#print axioms Hpbf.C02.exDse_result
#print axioms Hpbf.C02.dse_stopped_tape_differs
#print axioms Hpbf.C02.dse_not_obsEq'
#print axioms Hpbf.C02.dse_stopped_tape_differs_reachable
#print axioms Hpbf.C02.dse_noMemZero_necessary
#print axioms Hpbf.C02.dse_bookkeeping_necessary
