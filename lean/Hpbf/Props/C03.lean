/-
Property C03.  "For every valid program, input stream, cell width and optimisation level, the x86-64
baseline JIT produces exactly the input/output event sequence of canonical Brainfuck semantics whenever
the canonical run terminates, including programs that keep more values alive than there are registers and
programs whose constants do not fit a 32-bit immediate."

This file: the per-instruction simulation theorem for the ARITHMETIC / COPY forms of the instruction
selector (`Instr::Copy/Add/Sub/Mul` arms of `emit_program`), the part where the two clauses "more values
alive than there are registers" (destination / source temporaries on the stack) and "constants that do
not fit a 32-bit immediate" (`mov r, imm64` forms) are decided.

Models (tied to the Rust by differential suites): `Hpbf/Asm.lean` (`X86`, `encode`),
`Hpbf/JitGen.lean` (`emitCopy/emitAdd/emitSub/emitMul`, `emitInstr`: byte-for-byte equal to
`codegen.rs` + `asm.rs` on the `jitgen` suite), `Hpbf/Bc.lean` (`Bc.step`, `binop`, `readLoc`, `writeLoc`:
the threaded interpreter, `bcrun` suite). Instruction semantics: `Hpbf/X86Sem.lean` (`exec`, `execAll`),
tied to the PROCESSOR by the `jitsem` request (`Hpbf/Driver6.lean`): the harness runs `encode (emit…)` on
the CPU for every operand-kind combination of the four operations (22 864 experiments, 4 widths, all
sources live / nothing live, small / negative / > 32-bit immediates, memory / register / stack operands)
and the replies of `execAll` on the same abstract instructions are compared line by line.

Vocabulary (`Hpbf/Proofs/C03Base.lean`), all transparent (see the `example`s below):
* `lo v`            – the low `w` bits of a 64-bit value.
* `Rel c m`         – bytecode configuration `c` and machine state `m` agree on every register temporary
                      (`t < 11`, low `w` bits of `tmpReg t`), every stack temporary (`t ≥ 11`, low `w` bits
                      of the slot `[rsp + 8t]`) and every tape cell (offset `o` from the pointer = cell `o`
                      relative to `rbp`).
* `Rel' live d c m` – the same, except that register temporaries that are neither declared live
                      (`live.testBit t`) nor the destination `d` are unconstrained: the selector may use
                      them as scratch (`can_use_as_scratch`).
* `RelOn S c m`     – the general form: agreement on the register temporaries in the set `S`, all stack
                      temporaries, the tape. `Rel = RelOn (fun _ => True)`, `Rel' live d = RelOn (live ∪ {d})`.
                      `Post S live d` = `(S ∩ live) ∪ {d}` is the set after an instruction; `SrcOk S l`:
                      a source operand that is a register temporary is in `S`. With these the theorems
                      compose along straight-line code (`block_sound`).
* `LocOk l`         – a tape offset / temporary number is a value of `i32` (so `idx as i32` and
                      `tmp as i32` in `mem_param` / `tmp_param` do not wrap); no condition on immediates.
* hypotheses of every theorem: the selector produced code (`emit… = some xs`), every emitted instruction
  has operands inside the emitter's parameter types (`xs.all X86.fits`; `emitInstr` tests exactly this,
  so at the `emitInstr` level the hypothesis disappears), operands `LocOk`, `Rel c m`, and the bytecode
  instruction executes (`Bc.binop … = some c'` / `Bc.step … = .next c'`). `memZero` operands need no
  hypothesis: the selectors have no arm for them (`emit… = none`).
* conclusion: the code runs inside the modelled subset (`execAll xs m = some m'`), `Rel' live d c' m'`,
  and `rbx`, `rbp`, `rsp` are unchanged.
-/
import Hpbf.Proofs.C03

namespace Hpbf
namespace C03

open Asm JitGen X86Sem

variable {w : Nat}

example (v : BitVec 64) : (lo v : BitVec w) = v.setWidth w := rfl

example (c : Bc.Cfg w) (m : MState w) : Rel c m ↔
    ((∀ t r, tmpReg t = some r → (m.regs r).setWidth w = Bc.tget c.temps t) ∧
     (∀ t, 11 ≤ t → (m.stack t).setWidth w = Bc.tget c.temps t) ∧
     (∀ o, m.tape o = c.st.rd o)) := Iff.rfl

example (live : Nat) (d : Bc.Loc w) (c : Bc.Cfg w) (m : MState w) : Rel' live d c m ↔
    ((∀ t r, tmpReg t = some r → (live.testBit t = true ∨ d = .tmp t) →
        (m.regs r).setWidth w = Bc.tget c.temps t) ∧
     (∀ t, 11 ≤ t → (m.stack t).setWidth w = Bc.tget c.temps t) ∧
     (∀ o, m.tape o = c.st.rd o)) := Iff.rfl

/-- The register temporaries are exactly the temporaries below 11. -/
example (t : Nat) : (∃ r, tmpReg t = some r) ↔ t < 11 :=
  ⟨fun ⟨_, h⟩ => (tmpReg_eq_some.1 h).1, fun h => ⟨_, tmpReg_lt h⟩⟩

/-- The temporaries `Rel'` leaves unconstrained are those the selector may clobber. -/
example (live t : Nat) (d : Bc.Loc w) (r : Reg) (h : tmpReg t = some r) :
    (live.testBit t = true ∨ d = .tmp t) ↔ (canScratch live t = false ∨ d = .tmp t) := by
  have := (tmpReg_eq_some.1 h).1
  simp [canScratch, this]

example (idx : Int) : LocOk (w := w) (.mem idx) ↔ (-2147483648 ≤ idx ∧ idx < 2147483648) := Iff.rfl
example (t : Nat) : LocOk (w := w) (.tmp t) ↔ t < 2147483648 := Iff.rfl
example (v : BitVec w) : LocOk (.imm v) ↔ True := Iff.rfl

example (live : Nat) (d : Bc.Loc w) (c' : Bc.Cfg w) (m : MState w) (xs : List X86) : Sim live d c' m xs ↔
    ∃ m', execAll xs m = some m' ∧ Rel' live d c' m' ∧
      m'.regs .rbx = m.regs .rbx ∧ m'.regs .rbp = m.regs .rbp ∧ m'.regs .rsp = m.regs .rsp := Iff.rfl

example (S : Nat → Prop) (c : Bc.Cfg w) (m : MState w) : RelOn S c m ↔
    ((∀ t r, tmpReg t = some r → S t → (m.regs r).setWidth w = Bc.tget c.temps t) ∧
     (∀ t, 11 ≤ t → (m.stack t).setWidth w = Bc.tget c.temps t) ∧
     (∀ o, m.tape o = c.st.rd o)) := Iff.rfl
example (S : Nat → Prop) (live t : Nat) (d : Bc.Loc w) :
    Post S live d t ↔ ((S t ∧ live.testBit t = true) ∨ d = .tmp t) := Iff.rfl
example (S : Nat → Prop) (t : Nat) : SrcOk (w := w) S (.tmp t) ↔ (t < 11 → S t) := Iff.rfl
example (S : Nat → Prop) (i : Int) : SrcOk (w := w) S (.mem i) ↔ True := Iff.rfl
example (S : Nat → Prop) (v : BitVec w) : SrcOk S (.imm v) ↔ True := Iff.rfl
example (c : Bc.Cfg w) (m : MState w) : Rel c m ↔ RelOn (fun _ => True) c m := rel_iff_relOn c m
example (live : Nat) (d : Bc.Loc w) (c : Bc.Cfg w) (m : MState w) :
    Rel' live d c m ↔ RelOn (fun t => live.testBit t = true ∨ d = .tmp t) c m := Iff.rfl
example (S : Nat → Prop) (live : Nat) (d : Bc.Loc w) (c' : Bc.Cfg w) (m : MState w) (xs : List X86) :
    SimOn S live d c' m xs ↔
    ∃ m', execAll xs m = some m' ∧ RelOn (Post S live d) c' m' ∧
      m'.regs .rbx = m.regs .rbx ∧ m'.regs .rbp = m.regs .rbp ∧ m'.regs .rsp = m.regs .rsp := Iff.rfl

/-- `Rel` is satisfiable for every configuration. -/
theorem rel_satisfiable (hw : w ≤ 64) (c : Bc.Cfg w) : ∃ m : MState w, Rel c m := ⟨_, rel_stateOf hw c⟩

/-- With all eleven register temporaries live `Rel'` is `Rel`. -/
theorem rel'_iff_rel_all_live (d : Bc.Loc w) (c : Bc.Cfg w) (m : MState w) : Rel' 2047 d c m ↔ Rel c m := by
  have all : ∀ t, t < 11 → (2047 : Nat).testBit t = true := by decide
  exact ⟨fun h => ⟨fun t r htr => h.1 t r htr (Or.inl (all t (tmpReg_eq_some.1 htr).1)), h.2.1, h.2.2⟩,
    fun h => ⟨fun t r htr _ => h.1 t r htr, h.2.1, h.2.2⟩⟩

theorem selector_sound_copy {sz : Size} (hsz : Size.ofBits? w = some sz) (live : Nat) (d s : Bc.Loc w)
    {xs : List X86} (h : emitCopy sz d s = some xs) (hfit : xs.all X86.fits = true)
    (hd : LocOk d) (hs : LocOk s)
    {c : Bc.Cfg w} {m : MState w} (hrel : Rel c m) {c' : Bc.Cfg w}
    (hc : Bc.writeLoc (Bc.readLoc c s).2 (Bc.readLoc c s).1 d = some c') :
    ∃ m', execAll xs m = some m' ∧ Rel' live d c' m' ∧
      m'.regs .rbx = m.regs .rbx ∧ m'.regs .rbp = m.regs .rbp ∧ m'.regs .rsp = m.regs .rsp :=
  sim_of_simOn (arith_sound (ofBits_eq.1 hsz) _ live (.copy d s) ⟨hd, hs⟩ (srcOk_true _) (fits_bind h hfit)
    ((rel_iff_relOn ..).1 hrel) hc)

/-- `Instr::Add`: all arms (including the scratch-register arms selected by the live bitmap). -/
theorem selector_sound_add {sz : Size} (hsz : Size.ofBits? w = some sz) (live : Nat) (d a b : Bc.Loc w)
    {xs : List X86} (h : emitAdd sz live d a b = some xs) (hfit : xs.all X86.fits = true)
    (hd : LocOk d) (ha : LocOk a) (hb : LocOk b)
    {c : Bc.Cfg w} {m : MState w} (hrel : Rel c m) {c' : Bc.Cfg w}
    (hc : Bc.binop (· + ·) c d a b = some c') :
    ∃ m', execAll xs m = some m' ∧ Rel' live d c' m' ∧
      m'.regs .rbx = m.regs .rbx ∧ m'.regs .rbp = m.regs .rbp ∧ m'.regs .rsp = m.regs .rsp :=
  sim_of_simOn (arith_sound (ofBits_eq.1 hsz) _ live (.add d a b) ⟨hd, ha, hb⟩ ⟨srcOk_true _, srcOk_true _⟩
    (fits_bind h hfit) ((rel_iff_relOn ..).1 hrel) hc)

theorem selector_sound_sub {sz : Size} (hsz : Size.ofBits? w = some sz) (live : Nat) (d a b : Bc.Loc w)
    {xs : List X86} (h : emitSub sz live d a b = some xs) (hfit : xs.all X86.fits = true)
    (hd : LocOk d) (ha : LocOk a) (hb : LocOk b)
    {c : Bc.Cfg w} {m : MState w} (hrel : Rel c m) {c' : Bc.Cfg w}
    (hc : Bc.binop (fun x y => x + (-y)) c d a b = some c') :
    ∃ m', execAll xs m = some m' ∧ Rel' live d c' m' ∧
      m'.regs .rbx = m.regs .rbx ∧ m'.regs .rbp = m.regs .rbp ∧ m'.regs .rsp = m.regs .rsp :=
  sim_of_simOn (arith_sound (ofBits_eq.1 hsz) _ live (.sub d a b) ⟨hd, ha, hb⟩ ⟨srcOk_true _, srcOk_true _⟩
    (fits_bind h hfit) ((rel_iff_relOn ..).1 hrel) hc)

theorem selector_sound_mul {sz : Size} (hsz : Size.ofBits? w = some sz) (live : Nat) (d a b : Bc.Loc w)
    {xs : List X86} (h : emitMul sz live d a b = some xs) (hfit : xs.all X86.fits = true)
    (hd : LocOk d) (ha : LocOk a) (hb : LocOk b)
    {c : Bc.Cfg w} {m : MState w} (hrel : Rel c m) {c' : Bc.Cfg w}
    (hc : Bc.binop (· * ·) c d a b = some c') :
    ∃ m', execAll xs m = some m' ∧ Rel' live d c' m' ∧
      m'.regs .rbx = m.regs .rbx ∧ m'.regs .rbp = m.regs .rbp ∧ m'.regs .rsp = m.regs .rsp :=
  sim_of_simOn (arith_sound (ofBits_eq.1 hsz) _ live (.mul d a b) ⟨hd, ha, hb⟩ ⟨srcOk_true _, srcOk_true _⟩
    (fits_bind h hfit) ((rel_iff_relOn ..).1 hrel) hc)

example (d s : Bc.Loc w) : ArithOk (.copy d s) ↔ (LocOk d ∧ LocOk s) := Iff.rfl
example (d a b : Bc.Loc w) : ArithOk (.add d a b) ↔ (LocOk d ∧ LocOk a ∧ LocOk b) := Iff.rfl
example (d a b : Bc.Loc w) : ArithOk (.sub d a b) ↔ (LocOk d ∧ LocOk a ∧ LocOk b) := Iff.rfl
example (d a b : Bc.Loc w) : ArithOk (.mul d a b) ↔ (LocOk d ∧ LocOk a ∧ LocOk b) := Iff.rfl
example (i : Int) : ¬ ArithOk (w := w) (.out i) := id
example (d a b : Bc.Loc w) : dstOf (.add d a b) = d := rfl

/-- The combined statement at the level of `emit_program`'s loop body and `Bc.step`: whenever the JIT
produces code for an arithmetic / copy instruction (for any mode, shim addresses and instruction index)
and the threaded interpreter executes that instruction from `c` to `c'`, the code consists of plain
instructions that run from any related machine state to one related to `c'`. The `fits` hypothesis is
discharged by `emitInstr`'s own test. -/
theorem selector_sound {sz : Size} (hsz : Size.ofBits? w = some sz) (limited safe : Bool)
    (minAcc maxAcc : Int) (addrExtend addrInput addrOutput i live : Nat) (ins : Bc.Instr w)
    (hok : ArithOk ins) {its : List Item}
    (h : emitInstr sz limited safe minAcc maxAcc addrExtend addrInput addrOutput i live ins = some its)
    (p : Bc.Program w) (lim : Bool) {c : Bc.Cfg w} (hins : p.insts[c.pc]? = some ins)
    {m : MState w} (hrel : Rel c m) {c' : Bc.Cfg w} (hstep : Bc.step p lim c = .next c') :
    ∃ xs, its = plains xs ∧ ∃ m', execAll xs m = some m' ∧ Rel' live (dstOf ins) c' m' ∧
      m'.regs .rbx = m.regs .rbx ∧ m'.regs .rbp = m.regs .rbp ∧ m'.regs .rsp = m.regs .rsp :=
  sel_instr (ofBits_eq.1 hsz) limited safe minAcc maxAcc addrExtend addrInput addrOutput i live ins hok h
    p lim hins hrel hstep

example (c : Bc.Cfg w) (d s : Bc.Loc w) :
    arith c (.copy d s) = Bc.writeLoc (Bc.readLoc c s).2 (Bc.readLoc c s).1 d := rfl
example (c : Bc.Cfg w) (d a b : Bc.Loc w) : arith c (.add d a b) = Bc.binop (· + ·) c d a b := rfl
example (c : Bc.Cfg w) (d a b : Bc.Loc w) :
    arith c (.sub d a b) = Bc.binop (fun x y => x + (-y)) c d a b := rfl
example (c : Bc.Cfg w) (d a b : Bc.Loc w) : arith c (.mul d a b) = Bc.binop (· * ·) c d a b := rfl
example (sz : Size) (live : Nat) (d a b : Bc.Loc w) : emitArith sz live (.add d a b) =
    (emitAdd sz live d a b).bind fun xs => if xs.all X86.fits then some xs else none := rfl
example (S : Nat → Prop) (d a b : Bc.Loc w) : SrcsOk S (.add d a b) ↔ (SrcOk S a ∧ SrcOk S b) := Iff.rfl
example (S : Nat → Prop) (d s : Bc.Loc w) : SrcsOk S (.copy d s) ↔ SrcOk S s := Iff.rfl

theorem step_is_arith (p : Bc.Program w) (lim : Bool) {c : Bc.Cfg w} {ins : Bc.Instr w}
    (hins : p.insts[c.pc]? = some ins) (hok : ArithOk ins) :
    Bc.step p lim c =
      match arith c ins with
      | some c' => .next { c' with pc := c'.pc + 1 }
      | none => .bad c := step_arith p lim hins hok

/-- All four selectors, with agreement required only on the register temporaries in `S` (which must
contain the register temporaries the instruction reads): afterwards the live ones of `S` and the
destination agree. -/
theorem selector_sound_on {sz : Size} (hsz : Size.ofBits? w = some sz) (S : Nat → Prop) (live : Nat)
    (ins : Bc.Instr w) (hok : ArithOk ins) (hsrc : SrcsOk S ins) {xs : List X86}
    (h : emitArith sz live ins = some xs)
    {c : Bc.Cfg w} {m : MState w} (hrel : RelOn S c m) {c' : Bc.Cfg w} (hc : arith c ins = some c') :
    ∃ m', execAll xs m = some m' ∧ RelOn (Post S live (dstOf ins)) c' m' ∧
      m'.regs .rbx = m.regs .rbx ∧ m'.regs .rbp = m.regs .rbp ∧ m'.regs .rsp = m.regs .rsp :=
  arith_sound (ofBits_eq.1 hsz) S live ins hok hsrc h hrel hc

example (S : Nat → Prop) (ins : Bc.Instr w) (live : Nat) (rest : List (Bc.Instr w × Nat)) :
    Chain S ((ins, live) :: rest) ↔
      (ArithOk ins ∧ SrcsOk S ins ∧ Chain (Post S live (dstOf ins)) rest) := Iff.rfl
example (S : Nat → Prop) (ins : Bc.Instr w) (live : Nat) (rest : List (Bc.Instr w × Nat)) :
    SetAfter S ((ins, live) :: rest) = SetAfter (Post S live (dstOf ins)) rest := rfl
example (sz : Size) (ins : Bc.Instr w) (live : Nat) (rest : List (Bc.Instr w × Nat)) :
    blockCode sz ((ins, live) :: rest) =
      (emitArith sz live ins).bind fun xs => (blockCode sz rest).map fun ys => xs ++ ys := rfl
example (c : Bc.Cfg w) (ins : Bc.Instr w) (live : Nat) (rest : List (Bc.Instr w × Nat)) :
    arithAll ((ins, live) :: rest) c = (arith c ins).bind (arithAll rest) := rfl

theorem execAll_app (xs ys : List X86) (m : MState w) :
    execAll (xs ++ ys) m = (execAll xs m).bind (execAll ys) := by
  induction xs generalizing m with
  | nil => rfl
  | cons x xs ih =>
    simp only [List.cons_append, execAll]
    cases exec x m with
    | none => rfl
    | some m' => exact ih m'

/-- Straight-line blocks: if every instruction reads only register temporaries that were written or kept
live since the block started from the set `S` (`Chain`: the liveness contract), the concatenated code
simulates the block, with temporaries spilled to the stack and clobbered scratch registers alike. -/
theorem block_sound {sz : Size} (hsz : Size.ofBits? w = some sz) (prog : List (Bc.Instr w × Nat))
    (S : Nat → Prop) (hchain : Chain S prog) {code : List X86} (hcode : blockCode sz prog = some code)
    {c : Bc.Cfg w} {m : MState w} (hrel : RelOn S c m) {c' : Bc.Cfg w} (hc : arithAll prog c = some c') :
    ∃ m', execAll code m = some m' ∧ RelOn (SetAfter S prog) c' m' ∧
      m'.regs .rbx = m.regs .rbx ∧ m'.regs .rbp = m.regs .rbp ∧ m'.regs .rsp = m.regs .rsp := by
  induction prog generalizing S code c m with
  | nil =>
    cases hcode
    cases hc
    exact ⟨m, rfl, hrel, rfl, rfl, rfl⟩
  | cons il rest ih =>
    obtain ⟨ins, live⟩ := il
    obtain ⟨hok, hsrc, hrest⟩ := hchain
    simp only [blockCode, Option.bind_eq_some_iff, Option.map_eq_some_iff] at hcode
    obtain ⟨xs, hxs, ys, hys, rfl⟩ := hcode
    simp only [arithAll, Option.bind_eq_some_iff] at hc
    obtain ⟨c1, hc1, hc2⟩ := hc
    obtain ⟨m1, hx1, hr1, hb1, hp1, hs1⟩ := selector_sound_on hsz S live ins hok hsrc hxs hrel hc1
    obtain ⟨m2, hx2, hr2, hb2, hp2, hs2⟩ := ih _ hrest hys hr1 hc2
    refine ⟨m2, ?_, hr2, hb2.trans hb1, hp2.trans hp1, hs2.trans hs1⟩
    rw [execAll_app, hx1]
    exact hx2

theorem encode_ne_nil (x : X86) : encode x ≠ [] := encode_ne_nil' x

/-! ### The repaired defect (finding F6): the ORIGINAL arms do not simulate the instruction

The five arms of `codegen.rs` before the fix `f9fc599`, as functions of their operands, and for each a
concrete related pair (`cfgOf temps cells`, `stateOf` of it: `Rel` by `rel_stateOf`) from which the
original code ends in a state that is NOT related to the bytecode result, while the arm of the (repaired)
model does. -/

/-- `Add(Tmp t0, Tmp t1, Imm v)`, `t0 ≠ t1`, `v` an `i32`, `t0` on the stack: `add [t0], rax`. -/
def origAddStackImm (t0 t1 : Nat) (v : Int) : List X86 :=
  [mov64 scr0 (tmpParam t1), addImm64 (.reg scr0) v, .addRmR .b64 (tmpParam t0) scr0]

/-- `Add(Tmp t0, Tmp t1, Imm v)`, `t0 ≠ t1`, `v` outside `i32`, `t0` in register `r0`: `mov; mov`. -/
def origAddBigImmReg (r0 : Reg) (t1 : Nat) (v : Int) : List X86 :=
  [.movRImm64 r0 v, mov64 r0 (tmpParam t1)]

/-- The same with `t0` on the stack. -/
def origAddBigImmStack (t0 t1 : Nat) (v : Int) : List X86 :=
  [.movRImm64 scr0 v, mov64 scr0 (tmpParam t1), st64 (tmpParam t0) scr0]

/-- `Mul(Tmp t, Mem idx0, Mem idx1)`, `t` on the stack: `idx0` loaded twice. -/
def origMulStackMemMem (sz : Size) (t : Nat) (idx0 _idx1 : Int) : List X86 :=
  [load sz idx0 scr0, load sz idx0 scr1, .imulRRm scr0 (.reg scr1), st64 (tmpParam t) scr0]

/-- `Mul(Tmp t0, Tmp t0, Tmp t2)`, `t0` on the stack: `add` instead of `imul`. -/
def origMulStackSelf (t0 t2 : Nat) : List X86 :=
  [mov64 scr0 (tmpParam t2), .addRmR .b64 (tmpParam t0) scr0]

/-- `add t11 t0 7` at width 8 with `t11 = 1`, `t0 = 0`: the original leaves `8` in `t11`. -/
theorem f6_add_stack_imm_wrong :
    ∃ c', Bc.binop (· + ·) (cfgOf [(11, 1#8)] []) (.tmp 11) (.tmp 0) (.imm 7#8) = some c' ∧
      ¬ Sim 0 (.tmp 11) c' (stateOf (cfgOf [(11, 1#8)] [])) (origAddStackImm 11 0 7) :=
  ⟨_, rfl, not_sim_of_stack 11 (by decide) 8#8 (by decide) (by decide)⟩

/-- `add t0 t4 4886718345` at width 64 with `t4 = 5`: the original leaves `5` in `t0`. -/
theorem f6_add_big_imm_reg_wrong :
    ∃ c', Bc.binop (· + ·) (cfgOf [(4, 5#64)] []) (.tmp 0) (.tmp 4) (.imm 4886718345#64) = some c' ∧
      ¬ Sim 0 (.tmp 0) c' (stateOf (cfgOf [(4, 5#64)] [])) (origAddBigImmReg .r12 4 4886718345) :=
  ⟨_, rfl, not_sim_of_dst_reg 0 .r12 rfl 5#64 (by decide) (by decide)⟩

/-- `add t11 t4 4886718345` at width 64 with `t4 = 5`: the original leaves `5` in `t11`. -/
theorem f6_add_big_imm_stack_wrong :
    ∃ c', Bc.binop (· + ·) (cfgOf [(4, 5#64)] []) (.tmp 11) (.tmp 4) (.imm 4886718345#64) = some c' ∧
      ¬ Sim 0 (.tmp 11) c' (stateOf (cfgOf [(4, 5#64)] [])) (origAddBigImmStack 11 4 4886718345) :=
  ⟨_, rfl, not_sim_of_stack 11 (by decide) 5#64 (by decide) (by decide)⟩

/-- `mul t11 m0 m3` at width 8 with cells `2` and `3`: the original leaves `4` in `t11`. -/
theorem f6_mul_stack_mem_mem_wrong :
    ∃ c', Bc.binop (· * ·) (cfgOf [] [(0, 2#8), (3, 3#8)]) (.tmp 11) (.mem 0) (.mem 3) = some c' ∧
      ¬ Sim 0 (.tmp 11) c' (stateOf (cfgOf [] [(0, 2#8), (3, 3#8)])) (origMulStackMemMem .b8 11 0 3) :=
  ⟨_, rfl, not_sim_of_stack 11 (by decide) 4#8 (by decide) (by decide)⟩

/-- `mul t11 t11 t0` at width 8 with `t11 = 2`, `t0 = 3`: the original leaves `5` in `t11`. -/
theorem f6_mul_stack_self_wrong :
    ∃ c', Bc.binop (· * ·) (cfgOf [(11, 2#8), (0, 3#8)] []) (.tmp 11) (.tmp 11) (.tmp 0) = some c' ∧
      ¬ Sim 0 (.tmp 11) c' (stateOf (cfgOf [(11, 2#8), (0, 3#8)] [])) (origMulStackSelf 11 0) :=
  ⟨_, rfl, not_sim_of_stack 11 (by decide) 5#8 (by decide) (by decide)⟩

/-- The model's (repaired) arms for the same five instructions differ from the originals exactly as the
fix commit does … -/
example : emitAdd .b8 0 (.tmp 11) (.tmp 0) (.imm 7#8) =
    some [mov64 scr0 (tmpParam 0), addImm64 (.reg scr0) 7, st64 (tmpParam 11) scr0] := by decide
example : emitAdd .b64 0 (.tmp 0) (.tmp 4) (.imm 4886718345#64) =
    some [.movRImm64 .r12 4886718345, add64 .r12 (tmpParam 4)] := by decide
example : emitAdd .b64 0 (.tmp 11) (.tmp 4) (.imm 4886718345#64) =
    some [.movRImm64 scr0 4886718345, add64 scr0 (tmpParam 4), st64 (tmpParam 11) scr0] := by decide
example : emitMul (w := 8) .b8 0 (.tmp 11) (.mem 0) (.mem 3) =
    some [load .b8 0 scr0, load .b8 3 scr1, .imulRRm scr0 (.reg scr1), st64 (tmpParam 11) scr0] := by
  decide
example : emitMul (w := 8) .b8 0 (.tmp 11) (.tmp 11) (.tmp 0) =
    some [mov64 scr0 (tmpParam 0), .imulRRm scr0 (tmpParam 11), st64 (tmpParam 11) scr0] := by decide

/-- … and from the same states they end with the value of the bytecode instruction. -/
example : (execAll ((emitAdd .b8 0 (.tmp 11) (.tmp 0) (.imm 7#8)).getD [])
    (stateOf (cfgOf [(11, 1#8)] []))).map (fun m' => (lo (m'.stack 11) : BitVec 8)) = some 7#8 := by decide
example : (execAll ((emitAdd .b64 0 (.tmp 0) (.tmp 4) (.imm 4886718345#64)).getD [])
    (stateOf (cfgOf [(4, 5#64)] []))).map (fun m' => (lo (m'.regs .r12) : BitVec 64)) =
    some 4886718350#64 := by decide
example : (execAll ((emitAdd .b64 0 (.tmp 11) (.tmp 4) (.imm 4886718345#64)).getD [])
    (stateOf (cfgOf [(4, 5#64)] []))).map (fun m' => (lo (m'.stack 11) : BitVec 64)) =
    some 4886718350#64 := by decide
example : (execAll ((emitMul (w := 8) .b8 0 (.tmp 11) (.mem 0) (.mem 3)).getD [])
    (stateOf (cfgOf [] [(0, 2#8), (3, 3#8)]))).map (fun m' => (lo (m'.stack 11) : BitVec 8)) =
    some 6#8 := by decide
example : (execAll ((emitMul (w := 8) .b8 0 (.tmp 11) (.tmp 11) (.tmp 0)).getD [])
    (stateOf (cfgOf [(11, 2#8), (0, 3#8)] []))).map (fun m' => (lo (m'.stack 11) : BitVec 8)) =
    some 6#8 := by decide

/-- A concrete instance of every hypothesis of `selector_sound_sub`, hence of its conclusion: 16-bit
`sub m1 t3 t12` with `t3 = 5` (not live: used as scratch), `t12 = 7` on the stack. -/
example : ∃ m', execAll [sub64 .r15 (tmpParam 12), storeReg .b16 1 .r15]
      (stateOf (cfgOf [(3, 5#16), (12, 7#16)] [])) = some m' ∧
    m'.tape 1 = 65534#16 ∧ (lo (m'.stack 12) : BitVec 16) = 7#16 := by
  have h : emitSub (w := 16) .b16 0 (.mem 1) (.tmp 3) (.tmp 12) =
      some [sub64 .r15 (tmpParam 12), storeReg .b16 1 .r15] := by decide
  obtain ⟨c', hc⟩ : ∃ c', Bc.binop (fun x y => x + (-y)) (cfgOf [(3, 5#16), (12, 7#16)] [])
      (.mem 1) (.tmp 3) (.tmp 12) = some c' := ⟨_, rfl⟩
  obtain ⟨m', hx, hr, -⟩ := selector_sound_sub (w := 16) rfl 0 _ _ _ h (by decide)
    (by simp [LocOk]) (by simp [LocOk]) (by simp [LocOk]) (rel_stateOf (by decide) _) hc
  refine ⟨m', hx, ?_, ?_⟩
  · rw [hr.2.2 1]; cases hc; decide
  · rw [hr.2.1 12 (by decide)]; cases hc; decide

/-- One evaluation per operation (width 32, destination cell 2, sources a stack temporary and an
immediate / cell), checked against the bytecode value. -/
example : (execAll ((emitCopy (w := 32) .b32 (.mem 2) (.tmp 13)).getD [])
    (stateOf (cfgOf [(13, 4000000000#32)] []))).map (fun m' => m'.tape 2) = some 4000000000#32 := by decide
example : (execAll ((emitAdd (w := 32) .b32 2047 (.mem 2) (.tmp 13) (.imm 4000000000#32)).getD [])
    (stateOf (cfgOf [(13, 4000000000#32)] []))).map (fun m' => m'.tape 2) =
    some (4000000000#32 + 4000000000#32) := by decide
example : (execAll ((emitSub (w := 32) .b32 2047 (.mem 2) (.imm 1#32) (.tmp 13)).getD [])
    (stateOf (cfgOf [(13, 4000000000#32)] []))).map (fun m' => m'.tape 2) =
    some (1#32 - 4000000000#32) := by decide
example : (execAll ((emitMul (w := 32) .b32 2047 (.mem 2) (.mem 0) (.tmp 13)).getD [])
    (stateOf (cfgOf [(13, 4000000000#32)] [(0, 3#32)]))).map (fun m' => m'.tape 2) =
    some (3#32 * 4000000000#32) := by decide

/-- `block_sound` on a two-instruction block at width 8 starting from NO agreeing register temporary
except `t0`, `t1`: `add m0 t0 t1` with only `t1` live (so `t0`'s register is used as scratch and then
dropped from the set), then `copy m1 t1`. -/
example : ∃ m', execAll [add64 .r12 (tmpParam 1), storeReg .b8 0 .r12, storeReg .b8 1 .r13]
      (stateOf (cfgOf [(0, 200#8), (1, 100#8)] [])) = some m' ∧
    m'.tape 0 = 44#8 ∧ m'.tape 1 = 100#8 := by
  let prog : List (Bc.Instr 8 × Nat) := [(.add (.mem 0) (.tmp 0) (.tmp 1), 2), (.copy (.mem 1) (.tmp 1), 0)]
  have hcode : blockCode .b8 prog =
      some [add64 .r12 (tmpParam 1), storeReg .b8 0 .r12, storeReg .b8 1 .r13] := by decide
  have hchain : Chain (fun t => t = 0 ∨ t = 1) prog := by
    refine ⟨⟨by simp [LocOk], by simp [LocOk], by simp [LocOk]⟩, ⟨fun _ => Or.inl rfl, fun _ => Or.inr rfl⟩,
      ⟨by simp [LocOk], by simp [LocOk]⟩, fun _ => Or.inl ⟨Or.inr rfl, by decide⟩, trivial⟩
  obtain ⟨c', hc⟩ : ∃ c', arithAll prog (cfgOf [(0, 200#8), (1, 100#8)] []) = some c' := ⟨_, rfl⟩
  obtain ⟨m', hx, hr, -⟩ := block_sound (w := 8) rfl prog _ hchain hcode
    (relOn_mono ((rel_iff_relOn ..).1 (rel_stateOf (by decide) _)) (fun _ _ => trivial)) hc
  refine ⟨m', hx, ?_, ?_⟩
  · rw [hr.2.2 0]; cases hc; decide
  · rw [hr.2.2 1]; cases hc; decide

/-- Outside the subset the semantics answers `none` (it does not silently accept): a write to `rbp`, an
access to the context, a tape access of the wrong size, an unencodable displacement. -/
example : exec (w := 8) (addImm64 (.reg .rbp) 1) MState.zero = none := rfl
example : exec (w := 8) (mov64 .rax (.mem (some .rbx) none 1 24)) MState.zero = none := rfl
example : exec (w := 8) (load .b16 0 .rax) MState.zero = none := rfl
example : exec (w := 16) (load .b16 1073741824 .rax) MState.zero = none := by decide

end C03
end Hpbf

#print axioms Hpbf.C03.selector_sound_copy
#print axioms Hpbf.C03.selector_sound_add
#print axioms Hpbf.C03.selector_sound_sub
#print axioms Hpbf.C03.selector_sound_mul
#print axioms Hpbf.C03.selector_sound
#print axioms Hpbf.C03.selector_sound_on
#print axioms Hpbf.C03.block_sound
#print axioms Hpbf.C03.step_is_arith
#print axioms Hpbf.C03.rel_satisfiable
#print axioms Hpbf.C03.rel'_iff_rel_all_live
#print axioms Hpbf.C03.execAll_app
#print axioms Hpbf.C03.encode_ne_nil
#print axioms Hpbf.C03.f6_add_stack_imm_wrong
#print axioms Hpbf.C03.f6_add_big_imm_reg_wrong
#print axioms Hpbf.C03.f6_add_big_imm_stack_wrong
#print axioms Hpbf.C03.f6_mul_stack_mem_mem_wrong
#print axioms Hpbf.C03.f6_mul_stack_self_wrong
