/-
Property C02 (part: the pass `allocate_temps` of the bytecode generator).
"For every valid program, input stream, cell width and optimisation level, the bytecode interpreter produces
exactly the input/output event sequence of canonical Brainfuck semantics whenever the canonical run terminates."

`BcGen.translateE` (an exact port of `bc::CodeGen::translate`) is
    emission ; `deadStoreElim` ; `allocateTemps numRegs` ; late passes
(`translateE_factors`, `translateE_eq_latePasses`).  The emission is covered by `Props/C02Emit.lean`, the late
passes by `Props/C02.lean`.  This file states that `allocateTemps` – physical temporaries for the virtual ones
(registers and spill slots from min-heaps, released at the recorded end of the range), forwarding of copied
operands, moving a computation to the store that is its first use, the `live` bitmaps – preserves the behaviour
of the program under `Bc.step`/`Bc.run` for EVERY generator state that satisfies the explicit precondition
`AllocPre` (not only for generator output), in limited and unlimited mode, whenever the pass does not hit one
of its (modelled) panic sites.  The proofs are in `Hpbf/Proofs/C02Alloc*.lean`; the theorems below are those
theorems (namespaces `Hpbf.C02`, `Hpbf.C02.Alloc`, `Hpbf.C02.AEmit`), restated as `example`s so that the exact
statements are checked here.

Vocabulary: `StEq`, `ObsEq'`, `BehEq`, `progOf`, `TargetsOk`, `NoMemZero`, `LatePre` as in `Props/C02.lean`.

`AllocPre s` (everything about the INPUT of the pass; `InRange s t k` := the range table has an entry for `t`
with `created < k ≤ lastUse`):
* `live0`   – no bitmap recorded yet;
* `noZero`  – no read-and-clear operand;
* `defs`    – a temporary is written only by the instruction at its `created` position;
* `uses`    – an instruction at `j` reads `t` only if `InRange s t j`;
* `flow`    – for every branch `j → k'`: `InRange s t k' → InRange s t j`  (back edge: a value that enters a loop
              body stays in range up to the loop end – this is what `outerLoop`/`rangeExtend` provide; forward
              edge: a value created in the skipped region is not in range after it);
* `ptr`     – no `mov` and no moving `scan` at a position where some temporary is in range;
* `writes`  – every instruction at `j` that writes cell `m` is listed in `writes[m]`;
* `firstLt` – the recorded first use of a computed value lies after the computation;
* `fuse`    – if the recorded first use `f` of `insts[i] = op (tmp t) a b` is a store `copy (mem m) src`, then
              `src = tmp t`, the instructions strictly between are straight-line (`plain`) and do not read `t`,
              and no branch lands in `(i, f]`.
Use counts (`numUses`) do not occur: they only steer heuristics, and a wrong count makes the pass fail
(`replacements.get.unwrap`), not produce wrong code.  Every component except `live0`, `noZero`, `defs`, `uses`
is shown necessary by a concrete state on which the pass succeeds and changes the behaviour (§3).

`alloc_shrunk_extension_panics`: `range_extend_to` OVERWRITES `last_use`; when two computations that share an
operand are moved to stores in the opposite order, the second move shrinks the extension made by the first, the
operand is released too early, and rewriting the moved instruction panics.  The state is not reachable from
`emit_block` (computations of one `calc` precede its stores, in the same order); the theorem shows that this
can only end in a panic, never in wrong code.

`AllocPre` is PROVED for the input the pass receives in `translateE` (§4): for every IR program and both values
of `fuse`, the state after `emitState` and `deadStoreElim` satisfies it (`allocPre_of_emit`), so in the pipeline
the pass preserves behaviour unconditionally (`allocateTemps_of_emit`).  No hypothesis on the IR program is
needed (no well-formedness, no bound).  The proof goes through invariants of the emission:
`LInv` (local facts), `RInv` (every computed value is read before its `calc` ends; straight-line region),
`FInv` (loop frames and `outer_accessed`: back edges), `VInv` (only values that are visible – created after
the last table reset, not inside a closed conditional block, after every pointer move – are ever read: forward
edges and pointer moves).
-/
import Hpbf.Proofs.C02AllocEx
import Hpbf.Proofs.C02AllocEmitAll

namespace Hpbf
namespace C02

open Bc BcWf BcGen C11 Alloc

variable {w : Nat}

/-! ### 0. The precondition is transparent -/

example (s : St w) (t k : Nat) : InRange s t k ↔
    ∃ (r : RangeInfo) (L : Nat), s.ranges[t]? = some r ∧ r.lastUse = some L ∧ r.created < k ∧ k ≤ L := Iff.rfl

example (s : St w) (i : Nat) (op : BcGen.Op) (t : Nat) (s0 s1 : Loc w) (f : Nat) (m : Int) (src : Loc w) :
    Cand s i op t s0 s1 f m src ↔
      (s.insts[i]? = some (mkArith op (.tmp t) s0 s1) ∧
       (∃ (r : RangeInfo) (L : Nat), s.ranges[t]? = some r ∧ r.firstUse = some f ∧ r.lastUse = some L) ∧
       s.insts[f]? = some (.copy (.mem m) src)) :=
  ⟨fun h => ⟨h.inst, h.first, h.store⟩, fun ⟨a, b, c⟩ => ⟨a, b, c⟩⟩

example (s : St w) : AllocPre s ↔
    (s.live.size = 0 ∧
     (∀ (j : Nat) (ins : Instr w), s.insts[j]? = some ins → NoMemZero ins) ∧
     (∀ (j : Nat) (ins : Instr w) (t : Nat), s.insts[j]? = some ins → t ∈ BcWf.defs ins →
        ∃ r : RangeInfo, s.ranges[t]? = some r ∧ r.created = j) ∧
     (∀ (j : Nat) (ins : Instr w) (t : Nat), s.insts[j]? = some ins → t ∈ BcWf.uses ins → InRange s t j) ∧
     (∀ (j : Nat) (ins : Instr w) (off : Int) (k' : Nat), s.insts[j]? = some ins → branchOff? ins = some off →
        (j : Int) + off = (k' : Int) → ∀ t, InRange s t k' → InRange s t j) ∧
     (∀ (t j : Nat) (ins : Instr w), InRange s t j → s.insts[j]? = some ins → ptrStable ins = true) ∧
     (∀ (j : Nat) (ins : Instr w) (m : Int), s.insts[j]? = some ins → m ∈ memDefs ins →
        ∃ ws, alGet s.writes m = some ws ∧ j ∈ ws) ∧
     (∀ (i : Nat) (op : BcGen.Op) (t : Nat) (s0 s1 : Loc w) (r : RangeInfo) (f : Nat),
        s.insts[i]? = some (mkArith op (.tmp t) s0 s1) → s.ranges[t]? = some r → r.firstUse = some f → i < f) ∧
     (∀ (i : Nat) (op : BcGen.Op) (t : Nat) (s0 s1 : Loc w) (f : Nat) (m : Int) (src : Loc w),
        Cand s i op t s0 s1 f m src →
        src = .tmp t ∧
        (∀ (j : Nat) (x : Instr w), i < j → j < f → s.insts[j]? = some x → plain x = true ∧ t ∉ BcWf.uses x) ∧
        (∀ (j : Nat) (x : Instr w) (off : Int), s.insts[j]? = some x → branchOff? x = some off →
          ¬ ((i : Int) < (j : Int) + off ∧ (j : Int) + off ≤ (f : Int))))) :=
  ⟨fun h => ⟨h.live0, h.noZero, h.defs, h.uses, h.flow, h.ptr, h.writes, h.firstLt, h.fuse⟩,
   fun ⟨a, b, c, d, e, f, g, h, i⟩ => ⟨a, b, c, d, e, f, g, h, i⟩⟩

example (x : Instr w) : plain x = true ↔
    (x = .noop ∨ (∃ d a b, x = .add d a b) ∨ (∃ d a b, x = .sub d a b) ∨ (∃ d a b, x = .mul d a b) ∨
      ∃ d a, x = .copy d a) := by
  cases x <;> simp [plain]
example (sh : Int) (c : Int) : ptrStable (.mov sh : Instr w) = false ∧
    (ptrStable (.scan c sh : Instr w) = true ↔ sh = 0) ∧ ptrStable (.inp c : Instr w) = true := by
  simp [ptrStable]
example (d a b : Loc w) (m : Int) : memDefs (.add d a b) = locMem d ∧ memDefs (.copy d a) = locMem d ∧
    memDefs (.inp m : Instr w) = [m] ∧ memDefs (.out m : Instr w) = [] := ⟨rfl, rfl, rfl, rfl⟩

/-- The precondition can be checked by running `allocPreB`. -/
example (s : St w) (h : allocPreB s = true) : AllocPre s := allocPreB_sound h

/-! ### 1. `allocate_temps` preserves behaviour -/

example (s s' : St w) (numRegs : Nat) (hp : AllocPre s) (h : allocateTemps numRegs s = .ok s') :
    s'.insts.size = s.insts.size ∧ s'.live.size = s'.insts.size ∧
    (TargetsOk s.insts → TargetsOk s'.insts) ∧ (∀ ins ∈ s'.insts, NoMemZero ins) ∧
    ∀ (t t' : Nat) (mn mx : Int), BehEq (progOf s t mn mx) (progOf s' t' mn mx) :=
  allocateTemps_preserves s s' numRegs hp h

/-- The output can be handed to the late passes (`late_passes_preserve`). -/
example (s s' : St w) (numRegs : Nat) (hp : AllocPre s) (hT : TargetsOk s.insts)
    (h : allocateTemps numRegs s = .ok s') : LatePre s' := allocateTemps_latePre s s' numRegs hp hT h

/-- The two runs proceed in lockstep (same fuel): the simulation relation `Rel` relates configurations with the
same pc, state and budget whose temporaries correspond through the replacement table of the pass. -/
example (s : St w) (numRegs : Nat) (tr : Nat → ASt w) (hp : AllocPre s) (T : Trace s numRegs tr)
    (P Q : Program w) (hP : P.insts = s.insts) (hQ : Q.insts = (tr s.insts.size).st.insts) (lim : Bool)
    (c1 c2 : Cfg w) (hR : Rel s tr c1 c2) :
    StepRel (Rel s tr) CfgEq CfgEq (step P lim c1) (step Q lim c2) := sim_step hp T hP hQ lim c1 c2 hR

example (s : St w) (tr : Nat → ASt w) (c1 c2 : Cfg w) : Rel s tr c1 c2 ↔
    (c2.pc = c1.pc ∧ c1.pc ≤ s.insts.size ∧ c2.st = c1.st ∧ c2.budget = c1.budget ∧
     (∀ t l, alGet (tr c1.pc).repl t = some l → LiveAt s c1.pc (tr c1.pc) t → ¬ PendDst s c1.pc (tr c1.pc) t →
        tget c1.temps t = rdVal c2 l) ∧
     (∀ f op m t s0 s1, Fused s c1.pc (tr c1.pc) f op m t s0 s1 →
        tget c1.temps t = opFun op (rdVal c1 s0) (rdVal c1 s1))) :=
  ⟨fun h => ⟨h.pc, h.le, h.st, h.budget, h.v.val, h.v.pend⟩, fun ⟨a, b, c, d, e, f⟩ => ⟨a, b, c, d, ⟨e, f⟩⟩⟩

/-! ### 2. The loop invariant -/

/-- The sequence of states before each round of the loop. -/
example (s s' : St w) (numRegs : Nat) (h : allocateTemps numRegs s = .ok s') :
    ∃ tr, Trace s numRegs tr ∧ (tr s.insts.size).st = s' := trace_of_allocateTemps h

example (s : St w) (numRegs : Nat) (tr : Nat → ASt w) (hp : AllocPre s) (T : Trace s numRegs tr) (k : Nat)
    (hk : k ≤ s.insts.size) : PassInv s k (tr k) := trace_inv hp T k hk

/-- The part of the invariant that excludes two live values in one physical temporary. -/
example (s : St w) (k : Nat) (a : ASt w) (h : PassInv s k a) (t t' r : Nat)
    (h1 : alGet a.repl t = some (.tmp r)) (h2 : alGet a.repl t' = some (.tmp r)) : t = t' :=
  h.regs.inj t t' r h1 h2
example (s : St w) (k : Nat) (a : ASt w) (h : PassInv s k a) (t r : Nat)
    (h1 : alGet a.repl t = some (.tmp r)) : r ∉ a.freeRegs ∧ r ∉ a.freeTemps ∧ r < a.nextFresh :=
  h.regs.notFree t r h1

/-- The location of a temporary is the same at all positions of its range. -/
example (s : St w) (numRegs : Nat) (tr : Nat → ASt w) (hp : AllocPre s) (T : Trace s numRegs tr) (t : Nat)
    (r : RangeInfo) (L : Nat) (hr : s.ranges[t]? = some r) (hL : r.lastUse = some L) (k1 k2 : Nat)
    (h1 : r.created < k1) (h12 : k1 ≤ k2) (h2 : k2 ≤ L) (hn : k2 ≤ s.insts.size) :
    alGet (tr k2).repl t = alGet (tr k1).repl t := repl_stable hp T hr hL h1 k2 h12 h2 hn

/-! ### 3. Non-vacuity and necessity of the precondition (all by evaluation) -/

example : AllocPre exFlowGood := exFlowGood_pre
example : AllocPre exWritesGood := exWritesGood_pre
example : AllocPre exFuseGood := exFuseGood_pre
/-- On `exFuseGood` the pass allocates, forwards and moves a computation. -/
example : allocInsts 0 exFuseGood = some #[.noop, .noop, .add (.mem 0) (.mem 1) (.imm 5), .noop,
    .add (.mem 2) (.mem 0) (.mem 1), .out 0, .out 2] := exFuseGood_out0
example : allocInsts 2 exFuseGood = some #[.copy (.tmp 0) (.mem 1), .add (.tmp 1) (.tmp 0) (.imm 5),
    .copy (.mem 0) (.tmp 1), .noop, .add (.mem 2) (.tmp 1) (.tmp 0), .out 0, .out 2] := exFuseGood_out2

/-- `comps s` lists the results of the component checks
`[live0, noZero, defs, uses, flow, ptr, writes, firstLt, fuse]`. -/
example (s : St 8) : comps s = [s.live.size == 0, chkNoZero s, chkDefs s, chkUses s, chkFlow s, chkPtr s,
    chkWrites s, chkFirstLt s, chkFuse s] := rfl

/-- `flow`: a value used inside a loop whose range is not extended to the loop end loses its register. -/
example : comps exFlowBad = [true, true, true, true, false, true, true, true, true] ∧
    traceOf exFlowBad.insts = [Ev.out 10] ∧ (allocInsts 1 exFlowBad).map traceOf = some [Ev.out 6] ∧
    (allocInsts 1 exFlowGood).map traceOf = some [Ev.out 10] := alloc_flow_necessary
/-- `ptr`: a forwarded memory operand is read after a pointer move. -/
example : comps exPtrBad = [true, true, true, true, true, false, true, true, true] ∧
    allocInsts 2 exPtrBad = some #[.copy (.mem 1) (.imm 7), .noop, .mov 1, .copy (.mem 0) (.mem 1), .out 0] ∧
    traceOf exPtrBad.insts = [Ev.out 7] ∧ (allocInsts 2 exPtrBad).map traceOf = some [Ev.out 0] :=
  alloc_ptr_necessary
/-- `writes`: a forwarded memory operand is read after an unrecorded write. -/
example : comps exWritesBad = [true, true, true, true, true, true, false, true, true] ∧
    traceOf exWritesBad.insts = [Ev.out 7] ∧ (allocInsts 2 exWritesBad).map traceOf = some [Ev.out 9] ∧
    (allocInsts 2 exWritesGood).map traceOf = some [Ev.out 7] := alloc_writes_necessary
/-- `fuse` (first use): the moved computation is read before its new position. -/
example : comps exFuseBad = [true, true, true, true, true, true, true, true, false] ∧
    allocInsts 0 exFuseBad = some #[.noop, .add (.mem 2) (.mem 0) (.imm 1), .add (.mem 0) (.mem 1) (.imm 5), .out 2,
      .out 0] ∧
    traceOf exFuseBad.insts = [Ev.out 5, Ev.out 6] ∧
    (allocInsts 0 exFuseBad).map traceOf = some [Ev.out 5, Ev.out 1] := alloc_fuse_first_use_necessary
/-- `fuse` (no branch into the region): the moved computation is repeated in a loop. -/
example : comps exJumpBad = [true, true, true, true, true, true, true, true, false] ∧
    traceOf exJumpBad.insts = [Ev.out 5] ∧ (allocInsts 2 exJumpBad).map traceOf = some [Ev.out 6] :=
  alloc_fuse_nojump_necessary
/-- `firstLt`: the pass overwrites an instruction it has already finished. -/
example : chkFirstLt exFirstBad = false ∧
    allocInsts 2 exFirstBad = some #[.add (.mem 0) (.mem 1) (.imm 5), .noop, .copy (.mem 2) (.mem 0), .out 0, .out 2] ∧
    traceOf exFirstBad.insts = [Ev.out 5, Ev.out 3] ∧
    (allocInsts 2 exFirstBad).map traceOf = some [Ev.out 5, Ev.out 5] := alloc_firstLt_necessary
/-- `range_extend_to` (`exMonoBad`): a panic, although `AllocPre` holds. -/
example : AllocPre exMonoBad := exMonoBad_pre
example : allocErr 1 exMonoBad = some "allocate_temps:replace:replacements.get.unwrap" :=
  alloc_shrunk_extension_panics

/-! ### 4. The precondition holds in the pipeline -/

section pipeline
open AEmit

/-- `dead_store_elim` only blanks straight-line instructions and changes use counts … -/
example (s s' : St w) (h : deadStoreElim s = .ok s') :
    s'.live = s.live ∧ s'.writes = s.writes ∧
    (∀ j : Nat, s'.insts[j]? = s.insts[j]? ∨
      (s'.insts[j]? = some Instr.noop ∧ ∃ x, s.insts[j]? = some x ∧ plain x = true)) ∧
    (∀ t : Nat, (s'.ranges[t]? = none ∧ s.ranges[t]? = none) ∨
      ∃ r r', s.ranges[t]? = some r ∧ s'.ranges[t]? = some r' ∧
        r'.created = r.created ∧ r'.firstUse = r.firstUse ∧ r'.lastUse = r.lastUse) :=
  let d := deadStoreElim_dseLike h
  ⟨d.live, d.writes, d.insts, d.ranges⟩
/-- … and such changes keep `AllocPre`. -/
example (s s' : St w) (hp : AllocPre s) (h : DseLike s s') : AllocPre s' := allocPre_of_dseLike hp h

/-- Loop back edges (`brnz`) of generator output. -/
example (prog : Ir.Block w) (fuse : Bool) (s : St w) (h : emitState prog fuse = .ok s) (j : Nat) (cnd off : Int)
    (k' : Nat) (hj : s.insts[j]? = some (.brnz cnd off)) (hk : (j : Int) + off = (k' : Int)) (t : Nat)
    (ht : InRange s t k') : InRange s t j := flowBack_of_emit h j cnd off k' hj hk t ht
/-- Forward edges (`brz`) of generator output. -/
example (prog : Ir.Block w) (fuse : Bool) (s : St w) (h : emitState prog fuse = .ok s) (j : Nat) (cnd off : Int)
    (k' : Nat) (hj : s.insts[j]? = some (.brz cnd off)) (hk : (j : Int) + off = (k' : Int)) (t : Nat)
    (ht : InRange s t k') : InRange s t j := flowFwd_of_emit h j cnd off k' hj hk t ht
/-- No temporary is in range at a pointer move of generator output. -/
example (prog : Ir.Block w) (fuse : Bool) (s : St w) (h : emitState prog fuse = .ok s) (t j : Nat) (ins : Instr w)
    (ht : InRange s t j) (hj : s.insts[j]? = some ins) : ptrStable ins = true := ptr_of_emit h t j ins ht hj
/-- Between a computation and the store that is its recorded first use there is only straight-line code, and no
branch lands there. -/
example (prog : Ir.Block w) (fuse : Bool) (s : St w) (h : emitState prog fuse = .ok s)
    (i : Nat) (op : BcGen.Op) (t : Nat) (s0 s1 : Loc w) (f : Nat) (m : Int) (src : Loc w)
    (hc : Cand s i op t s0 s1 f m src) :
    (∀ (j : Nat) (x : Instr w), i < j → j < f → s.insts[j]? = some x → plain x = true) ∧
    (∀ (j : Nat) (x : Instr w) (off : Int), s.insts[j]? = some x → branchOff? x = some off →
      ¬ ((i : Int) < (j : Int) + off ∧ (j : Int) + off ≤ (f : Int))) :=
  region_of_emit h i op t s0 s1 f m src hc

/-- Generator output satisfies the precondition, before … -/
example (prog : Ir.Block w) (fuse : Bool) (s : St w) (h : emitState prog fuse = .ok s) : AllocPre s :=
  allocPre_of_emitState h
/-- … and after `dead_store_elim`. -/
example (prog : Ir.Block w) (fuse : Bool) (s1 s2 : St w) (h1 : emitState prog fuse = .ok s1)
    (h2 : deadStoreElim s1 = .ok s2) : AllocPre s2 := allocPre_of_emit h1 h2

/-- `allocate_temps` as used by `translateE` preserves behaviour, for every IR program. -/
example (prog : Ir.Block w) (fuse : Bool) (numRegs : Nat) (s1 s2 s3 : St w)
    (h1 : emitState prog fuse = .ok s1) (h2 : deadStoreElim s1 = .ok s2)
    (h3 : allocateTemps numRegs s2 = .ok s3) :
    s3.insts.size = s2.insts.size ∧ s3.live.size = s3.insts.size ∧ (∀ ins ∈ s3.insts, NoMemZero ins) ∧
    (TargetsOk s2.insts → TargetsOk s3.insts) ∧
    ∀ (t t' : Nat) (mn mx : Int), BehEq (progOf s2 t mn mx) (progOf s3 t' mn mx) :=
  allocateTemps_of_emit h1 h2 h3

end pipeline

end C02
end Hpbf

#print axioms Hpbf.C02.allocateTemps_preserves
#print axioms Hpbf.C02.allocateTemps_latePre
#print axioms Hpbf.C02.Alloc.sim_step
#print axioms Hpbf.C02.Alloc.trace_of_allocateTemps
#print axioms Hpbf.C02.Alloc.trace_inv
#print axioms Hpbf.C02.Alloc.repl_stable
#print axioms Hpbf.C02.Alloc.allocPreB_sound
#print axioms Hpbf.C02.Alloc.exFlowGood_pre
#print axioms Hpbf.C02.Alloc.exWritesGood_pre
#print axioms Hpbf.C02.Alloc.exFuseGood_pre
#print axioms Hpbf.C02.Alloc.exFuseGood_out0
#print axioms Hpbf.C02.Alloc.exFuseGood_out2
#print axioms Hpbf.C02.Alloc.alloc_flow_necessary
#print axioms Hpbf.C02.Alloc.alloc_ptr_necessary
#print axioms Hpbf.C02.Alloc.alloc_writes_necessary
#print axioms Hpbf.C02.Alloc.alloc_fuse_first_use_necessary
#print axioms Hpbf.C02.Alloc.alloc_fuse_nojump_necessary
#print axioms Hpbf.C02.Alloc.alloc_firstLt_necessary
#print axioms Hpbf.C02.Alloc.exMonoBad_pre
#print axioms Hpbf.C02.Alloc.alloc_shrunk_extension_panics
#print axioms Hpbf.C02.Alloc.allocPre_of_dseLike
#print axioms Hpbf.C02.Alloc.deadStoreElim_dseLike
#print axioms Hpbf.C02.AEmit.linv_of_emit
#print axioms Hpbf.C02.AEmit.region_of_emit
#print axioms Hpbf.C02.AEmit.flowBack_of_emit
#print axioms Hpbf.C02.AEmit.flowFwd_of_emit
#print axioms Hpbf.C02.AEmit.ptr_of_emit
#print axioms Hpbf.C02.AEmit.emitRest_of_emit
#print axioms Hpbf.C02.AEmit.allocPre_of_emitState
#print axioms Hpbf.C02.AEmit.allocPre_of_emit
#print axioms Hpbf.C02.AEmit.allocateTemps_of_emit
