/-
C10 for optimized code: every tape offset of the IR after `Opt.optimize` (any level, any oracle, any cell width)
and the access window of `BcGen.analyze` lie in `[-src.length, src.length]`, as `Props/C10.lean` shows for parser
output. The optimizer does NOT keep "max |offset|": inlining an at-most-once block adds its shift to the later
offsets (`+[>>>[-]]>>>.` becomes `output 6`). What it keeps is `reach`, the largest `drift + |offset|`, where the
drift of a mention is the sum of `|shift|` over all blocks that END textually before it; the parser's `reach` is
at most the number of `<`/`>`.
-/
import Hpbf.Proofs.OptOffsMain
import Hpbf.Proofs.OptOffsParse
import Hpbf.Proofs.OptOffsWindow
import Hpbf.Proofs.C11LocalEmit

namespace Hpbf.OptOffs
open Hpbf Ir

variable {w : Nat}

theorem drift_unfold (o c sh : Int) (cs : List (Int × Expr w)) (body rest : List (Instr w)) (once : Bool)
    (i : Instr w) :
    driftI (.output o : Instr w) = 0 ∧ driftI (.input o : Instr w) = 0 ∧ driftI (.calc cs) = 0 ∧
    driftI (.loop c sh body once) = driftL body + sh.natAbs ∧
    driftI (.ifnz c sh body) = driftL body + sh.natAbs ∧
    driftL ([] : List (Instr w)) = 0 ∧ driftL (i :: rest) = driftI i + driftL rest := by
  refine ⟨?_, ?_, ?_, ?_, ?_, ?_, ?_⟩ <;> simp [driftI, driftL]

theorem tag_unfold (g : Nat) (o c sh : Int) (cs : List (Int × Expr w)) (body rest : List (Instr w))
    (once : Bool) (i : Instr w) :
    tagI g (.output o : Instr w) = [(g, o)] ∧ tagI g (.input o : Instr w) = [(g, o)] ∧
    tagI g (.calc cs) = cs.flatMap (fun ve => (g, ve.1) :: (Expr.variables ve.2).map (fun x => (g, x))) ∧
    tagI g (.loop c sh body once) = (g, c) :: tagL g body ∧
    tagI g (.ifnz c sh body) = (g, c) :: tagL g body ∧
    tagL g ([] : List (Instr w)) = [] ∧ tagL g (i :: rest) = tagI g i ++ tagL (g + driftI i) rest := by
  refine ⟨?_, ?_, ?_, ?_, ?_, ?_, ?_⟩ <;> simp [tagI, tagL]

theorem reach_le_iff (b : Block w) (R : Nat) :
    reach b ≤ R ↔ ∀ p ∈ tagL 0 b.insts, p.1 + p.2.natAbs ≤ R := okL_iff_reach.symm

/-- The tagged mentions cover `Ir.offsets`, the notion of offset of `Props/C10.lean`. -/
theorem tags_are_offsets (b : Block w) : ∀ o ∈ offsets b.insts, ∃ d, (d, o) ∈ tagL 0 b.insts :=
  offsL_tagged b.insts 0

mutual
theorem irOffs_eq : ∀ (i : Instr w), C02.Local.irOffs i = i.offsets
  | .output _ => rfl
  | .input _ => rfl
  | .calc _ => rfl
  | .loop c _ body _ => by rw [C02.Local.irOffs, Instr.offsets, irOffsL_eq body]
  | .ifnz c _ body => by rw [C02.Local.irOffs, Instr.offsets, irOffsL_eq body]
/-- `Ir.offsets` is `Local.irOffsL` of C11 (the tape operands of the generated bytecode). -/
theorem irOffsL_eq : ∀ (l : List (Instr w)), C02.Local.irOffsL l = offsets l
  | [] => rfl
  | i :: r => by rw [C02.Local.irOffsL, offsets, irOffs_eq i, irOffsL_eq r]
end

theorem offsets_le_reach' (b : Block w) : ∀ o ∈ offsets b.insts, o.natAbs ≤ reach b := offsets_le_reach b

theorem parse_reach_le_moves' {src : List Kind} {b : Block w} (h : parse (w := w) src = .ok b) :
    reach b ≤ moves src := parse_reach_le_moves h

theorem parse_reach_le_length' {src : List Kind} {b : Block w} (h : parse (w := w) src = .ok b) :
    reach b ≤ src.length :=
  Nat.le_trans (parse_reach_le_moves h) (C10.moves_le_length src)

/-- `C10.parse_offsets_le_moves` (level 0) as a corollary of the `reach` bound. -/
theorem parse_offsets_le_moves_again {src : List Kind} {b : Block w} (h : parse (w := w) src = .ok b) :
    ∀ o ∈ offsets b.insts, o.natAbs ≤ moves src :=
  fun o ho => Nat.le_trans (offsets_le_reach b o ho) (parse_reach_le_moves h)

/-! What the optimizer keeps is stated for `Rounds.Steps b b'`, the blocks either pipeline can return from `b`;
the theorems about `Opt.optimize` (here) and about `OptFix.optimizeF` (`Proofs/OptFixOffs.lean`) are its readings. -/

/-- `offsets` covers conditions, `calc` targets, variables inside expressions and input/output cells, at any
nesting depth. -/
theorem steps_offsets {b b' : Block w} (h : Rounds.Steps b b') : ∀ o ∈ offsets b'.insts, o.natAbs ≤ reach b :=
  fun o ho => Nat.le_trans (offsets_le_reach b' o ho) (steps_reach h)

theorem steps_offsets_le_length {src : List Kind} {b b' : Block w} (hp : parse (w := w) src = .ok b)
    (h : Rounds.Steps b b') :
    (∀ o ∈ C02.Local.irOffsL b'.insts, o.natAbs ≤ moves src) ∧
    (∀ o ∈ C02.Local.irOffsL b'.insts, o.natAbs ≤ src.length) := by
  have h1 : ∀ o ∈ C02.Local.irOffsL b'.insts, o.natAbs ≤ moves src :=
    fun o ho => Nat.le_trans (steps_offsets h o (irOffsL_eq _ ▸ ho)) (parse_reach_le_moves hp)
  exact ⟨h1, fun o ho => Nat.le_trans (h1 o ho) (C10.moves_le_length src)⟩

theorem steps_window_le_length {src : List Kind} {b b' : Block w} (hp : parse (w := w) src = .ok b)
    (h : Rounds.Steps b b') :
    -(src.length : Int) ≤ (BcGen.analyze b').minAcc ∧ (BcGen.analyze b').maxAcc ≤ (src.length : Int) := by
  apply analyze_tight b' _ _ ⟨by omega, by omega⟩
  intro o ho
  rw [← irOffsL_eq] at ho
  have := (steps_offsets_le_length hp h).2 o ho
  omega

theorem steps_window_le_moves {src : List Kind} {b b' : Block w} (hp : parse (w := w) src = .ok b)
    (h : Rounds.Steps b b') :
    -(moves src : Int) ≤ (BcGen.analyze b').minAcc ∧ (BcGen.analyze b').maxAcc ≤ (moves src : Int) := by
  apply analyze_tight b' _ _ ⟨by omega, by omega⟩
  intro o ho
  rw [← irOffsL_eq] at ho
  have := (steps_offsets_le_length hp h).1 o ho
  omega

theorem steps_shift_le_length {src : List Kind} {b b' : Block w} (hp : parse (w := w) src = .ok b)
    (h : Rounds.Steps b b') : b'.shift.natAbs ≤ src.length := by
  rcases steps_shift h with e | e
  · rw [e]
    have h1 := (C10.parse_bd hp).1
    have h2 := C10.moves_le_length src
    unfold C10.Bd at h1
    omega
  · rw [e]; exact Nat.zero_le _

theorem optimize_reach' {b b' : Block w} {level : Nat} {orders : Opt.Orders}
    (h : Opt.optimize b level orders = .ok b') : reach b' ≤ reach b := optimize_reach h

theorem optimize_tags {b b' : Block w} {level : Nat} {orders : Opt.Orders}
    (h : Opt.optimize b level orders = .ok b') : ∀ p ∈ tagL 0 b'.insts, p.1 + p.2.natAbs ≤ reach b :=
  (reach_le_iff b' (reach b)).1 (optimize_reach h)

theorem optimize_offsets {b b' : Block w} {level : Nat} {orders : Opt.Orders}
    (h : Opt.optimize b level orders = .ok b') : ∀ o ∈ offsets b'.insts, o.natAbs ≤ reach b :=
  steps_offsets (Rounds.optimize_steps h)

theorem optimize_irOffs {b b' : Block w} {level : Nat} {orders : Opt.Orders}
    (h : Opt.optimize b level orders = .ok b') : ∀ o ∈ C02.Local.irOffsL b'.insts, o.natAbs ≤ reach b := by
  rw [irOffsL_eq]; exact optimize_offsets h

theorem optimize_keeps_bound {R : Nat} {b b' : Block w} {level : Nat} {orders : Opt.Orders}
    (hb : ∀ p ∈ tagL 0 b.insts, p.1 + p.2.natAbs ≤ R) (h : Opt.optimize b level orders = .ok b') :
    ∀ p ∈ tagL 0 b'.insts, p.1 + p.2.natAbs ≤ R := optimize_ok hb h

theorem optimizeOnce_reach {b b' : Block w} {anal anal' : Opt.OptAnalysis w} {os os' : Opt.Orders}
    (h : (Opt.optimizeOnce b anal).run os = .ok ((b', anal'), os')) : reach b' ≤ reach b :=
  okL_iff_reach.1 (optimizeOnce_ok (okL_reach b) h).1

theorem deadStoreElimination_reach {b b' : Block w} {anal : Opt.OptAnalysis w}
    (h : Opt.deadStoreElimination b anal = .ok b') : reach b' ≤ reach b :=
  okL_iff_reach.1 (dse_ok (okL_reach b) h).1

/-- C10 for optimized IR: every offset is bounded by the number of `<`/`>` characters of the source, hence by its
length. -/
theorem optimized_offsets_le_length {src : List Kind} {b b' : Block w} {level : Nat} {orders : Opt.Orders}
    (hp : parse (w := w) src = .ok b) (h : Opt.optimize b level orders = .ok b') :
    (∀ o ∈ C02.Local.irOffsL b'.insts, o.natAbs ≤ moves src) ∧
    (∀ o ∈ C02.Local.irOffsL b'.insts, o.natAbs ≤ src.length) :=
  steps_offsets_le_length hp (Rounds.optimize_steps h)

/-- C10 for optimized bytecode: the access window that `BcGen.analyze` computes for the optimized block (the
`minAcc`/`maxAcc` of the generated bytecode program) lies within `[-length, length]`. -/
theorem optimized_window_le_length {src : List Kind} {b b' : Block w} {level : Nat} {orders : Opt.Orders}
    (hp : parse (w := w) src = .ok b) (h : Opt.optimize b level orders = .ok b') :
    -(src.length : Int) ≤ (BcGen.analyze b').minAcc ∧ (BcGen.analyze b').maxAcc ≤ (src.length : Int) :=
  steps_window_le_length hp (Rounds.optimize_steps h)

theorem optimized_window_le_moves {src : List Kind} {b b' : Block w} {level : Nat} {orders : Opt.Orders}
    (hp : parse (w := w) src = .ok b) (h : Opt.optimize b level orders = .ok b') :
    -(moves src : Int) ≤ (BcGen.analyze b').minAcc ∧ (BcGen.analyze b').maxAcc ≤ (moves src : Int) :=
  steps_window_le_moves hp (Rounds.optimize_steps h)

/-- The final shift of the optimized top-level block (the counterpart of the second half of
`C10.parse_offsets_le_length`). -/
theorem optimized_shift_le_length {src : List Kind} {b b' : Block w} {level : Nat} {orders : Opt.Orders}
    (hp : parse (w := w) src = .ok b) (h : Opt.optimize b level orders = .ok b') :
    b'.shift.natAbs ≤ src.length :=
  steps_shift_le_length hp (Rounds.optimize_steps h)

/-- The invariant behind `optimize_reach'`, by induction over the input of `rebuild_block`: the state `s`
(`Inv R g0 s`: its instructions respect `R` from drift `g0`; at its current drift all keys and variables of
`pending` and all variables of the `known` entries of `written` respect `R`) rebuilds a list `l` that respects `R` from INPUT drift `gi`, where
the output is behind the input by at least the absorbed shift: `g0 + driftL s.insts + W ≤ gi`, `|s.shift| ≤ W`.
Then `Inv` holds afterwards and the slack is kept: what the output drift and the absorbed shift grew by is
paid for by the drift of `l`. -/
theorem rebuild_invariant (l : List (Instr w)) (ps : List (Opt.Rebuild w)) (s : Opt.Rebuild w)
    (os os' : Opt.Orders) (s' : Opt.Rebuild w) (c : Bool) (R g0 W gi : Nat)
    (hi : Inv R g0 s) (hW : s.shift.natAbs ≤ W) (hg : g0 + driftL s.insts + W ≤ gi) (hl : OkL R gi l)
    (h : (Opt.rebuildInsts ps s l).run os = .ok ((s', c), os')) :
    Inv R g0 s' ∧ g0 + driftL s'.insts + W + (s'.shift - s.shift).natAbs ≤ gi + driftL l :=
  rebuildInsts_step l ps s os os' s' c R g0 W gi hi hW hg hl h

/-- The `Loop`/`If` arm: whatever is done with the rebuilt body `sub` (dropped, inlined, turned into an
assignment, emitted as a loop, wrapped into an `if`), the new output drift plus the shift absorbed into later
names is bounded by the drift of the body plus the shift of the block. -/
theorem finishLoop_invariant {R g0 : Nat} {s sub : Opt.Rebuild w} (ps : List (Opt.Rebuild w)) {cond : Int}
    (isLoop : Bool) (hi : Inv R g0 s) (hsub : Inv R (g0 + driftL s.insts) sub)
    (hc : NB R (g0 + driftL s.insts) cond) {os os' : Opt.Orders} {s' : Opt.Rebuild w}
    (h : (Opt.finishLoop s ps sub cond isLoop).run os = .ok (s', os')) :
    Inv R g0 s' ∧ driftL s'.insts + (s'.shift - s.shift).natAbs
      ≤ driftL s.insts + driftL sub.insts + (sub.shift - s.shift).natAbs :=
  ⟨(finishLoop_step ps isLoop hi hsub hc h).inv, (finishLoop_step ps isLoop hi hsub hc h).slack⟩

/-- Emitting everything that is pending leaves nothing pending — the reason why a block with a shift may be
emitted afterwards without invalidating a name kept in the state. -/
theorem emitAll_leaves_nothing {R g0 : Nat} (ps : List (Opt.Rebuild w)) {s : Opt.Rebuild w} (hi : Inv R g0 s)
    {os os' : Opt.Orders} {s' : Opt.Rebuild w}
    (h : (Opt.emitAll ps (Opt.pendingSorted s s) s).run os = .ok (s', os')) : s'.pending = [] :=
  emitAll_pending_empty ps hi h

/-- Converse of `Local.analyze_covers`. -/
theorem analyze_window_tight (b : Block w) (lo hi : Int) (h0 : lo ≤ 0 ∧ 0 ≤ hi)
    (ho : ∀ o ∈ C02.Local.irOffsL b.insts, lo ≤ o ∧ o ≤ hi) :
    lo ≤ (BcGen.analyze b).minAcc ∧ (BcGen.analyze b).maxAcc ≤ hi :=
  analyze_tight b lo hi h0 (by rw [← irOffsL_eq]; exact ho)

def kinds (s : String) : List Kind := s.toList.map Kind.ofChar

/-- offsets / reach of the parsed and of the optimized IR, and the number of moves -/
def report (s : String) (level : Nat) (orders : Opt.Orders) : Option (List Int × Nat × List Int × Nat × Nat) :=
  match parse (w := 8) (kinds s) with
  | .error _ => none
  | .ok b =>
    match Opt.optimize b level orders with
    | .error _ => none
    | .ok b' => some (offsets b.insts, reach b, offsets b'.insts, reach b', moves (kinds s))

/-- The optimizer DOES produce offsets larger than every offset of its input — the at-most-once block
`[>>>[-]]` is inlined and its shift `3` is added to the offset `3` of `.`: `output 6`. The bound
`reach = 6 = moves` is kept. -/
example : report "+[>>>[-]]>>>." 1 [] = some ([0, 0, 0, 3, 3], 6, [6], 6, 6) := by decide +kernel

-- two inlined blocks: `output 3`, `output 6`, `output 7`
example : report "+[>>>.>>>.[-]]>." 2 [] = some ([0, 0, 0, 3, 6, 6, 1], 7, [3, 6, 7], 7, 7) := by
  decide +kernel

-- a block with a shift that stays a loop: later offsets are unchanged, `reach` counts the drift
example : report ">+[<<<]>>>>." 2 [] = some ([1, 1, 1, 5], 8, [1, 1, 5], 8, 8) := by decide +kernel

example : (match parse (w := 8) (kinds "+[>>>[-]]>>>.") with
    | .ok b => (match Opt.optimize b 3 [] with
      | .ok b' => some ((BcGen.analyze b').minAcc, (BcGen.analyze b').maxAcc)
      | .error _ => none)
    | .error _ => none) = some (0, 6) := by decide +kernel

example : driftL ([.loop 0 3 [.loop 1 (-2) [] false] false, .output 4] : List (Instr 8)) = 5 ∧
    tagL 0 ([.loop 0 3 [.loop 1 (-2) [] false] false, .output 4] : List (Instr 8)) = [(0, 0), (0, 1), (5, 4)] ∧
    reachL ([.loop 0 3 [.loop 1 (-2) [] false] false, .output 4] : List (Instr 8)) = 9 := by decide

end Hpbf.OptOffs

#print axioms Hpbf.OptOffs.reach_le_iff
#print axioms Hpbf.OptOffs.tags_are_offsets
#print axioms Hpbf.OptOffs.irOffsL_eq
#print axioms Hpbf.OptOffs.offsets_le_reach'
#print axioms Hpbf.OptOffs.parse_reach_le_moves'
#print axioms Hpbf.OptOffs.parse_reach_le_length'
#print axioms Hpbf.OptOffs.parse_offsets_le_moves_again
#print axioms Hpbf.OptOffs.optimize_reach'
#print axioms Hpbf.OptOffs.optimize_tags
#print axioms Hpbf.OptOffs.optimize_offsets
#print axioms Hpbf.OptOffs.optimize_irOffs
#print axioms Hpbf.OptOffs.optimize_keeps_bound
#print axioms Hpbf.OptOffs.optimizeOnce_reach
#print axioms Hpbf.OptOffs.deadStoreElimination_reach
#print axioms Hpbf.OptOffs.optimized_offsets_le_length
#print axioms Hpbf.OptOffs.optimized_window_le_length
#print axioms Hpbf.OptOffs.optimized_window_le_moves
#print axioms Hpbf.OptOffs.optimized_shift_le_length
#print axioms Hpbf.OptOffs.rebuild_invariant
#print axioms Hpbf.OptOffs.finishLoop_invariant
#print axioms Hpbf.OptOffs.emitAll_leaves_nothing
#print axioms Hpbf.OptOffs.analyze_window_tight
