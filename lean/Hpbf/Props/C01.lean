/-
C01 (level-0 part: the IR produced by `Program::parse`, unoptimised).
"For every valid program, input stream and cell width, running it through the IR interpreter yields
exactly the interleaved sequence of one-byte input requests and output bytes that canonical Brainfuck
semantics yields, whenever the canonical run terminates" — plus reflection of termination and the
prefix property (needed for the divergence property C05).

The proof is a simulation "up to chunks" between the two continuation machines (`Proofs/C01Sim.lean` the
generic part, `Proofs/C01Rel.lean` the relation on states, `Proofs/C01Parse.lean` the relation on configurations and
the case analysis).

Conventions: `src : List Kind` classified source text, `p` its bracket tree (`Bf.tree`), `b` the
block returned by `Ir.parse` at cell width `w > 0`; the IR interpreter runs unlimited
(`limited = false`, budget `0`); `env` is an arbitrary environment (input replies incl. EOF and errors,
absent source, absent/refusing sink).  Traces are lists of events, most recent first.
-/
import Hpbf.Proofs.C01Parse

namespace Hpbf
namespace C01
open Ir

variable {w : Nat}

theorem C01_parse_ok_of_tree {src : List Kind} {p : Prog} (hp : Bf.tree src = some p) :
    ∃ b, Ir.parse (w := w) src = .ok b :=
  ⟨_, parse_of_tree hp⟩

/-- Same events, same kind of ending (ran off the end / stopped at a failing I/O operation). -/
theorem parse_forward (hw : 0 < w) {src : List Kind} {p : Prog} (hp : Bf.tree src = some p)
    {b : Block w} (hb : Ir.parse (w := w) src = .ok b) (env : Env) :
    (∀ f (s : State w), Bf.run f p env = .done s →
      ∃ f' c, Ir.run b false 0 f' env = .done c ∧ c.st.trace = s.trace) ∧
    (∀ f (s : State w), Bf.run f p env = .stopped s →
      ∃ f' c, Ir.run b false 0 f' env = .stopped c ∧ c.st.trace = s.trace) :=
  ⟨fun f s h => by
      obtain ⟨f', hf'⟩ := forward_obs hw hp hb env f true s.trace (by rw [h]; rfl)
      obtain ⟨c, hc, ht⟩ := obsIr_fin_true hf' (fun c => runCfg_not_interrupted _ _ c)
      exact ⟨f', c, hc, ht⟩,
    fun f s h => by
      obtain ⟨f', hf'⟩ := forward_obs hw hp hb env f false s.trace (by rw [h]; rfl)
      obtain ⟨c, hc, ht⟩ := obsIr_fin_false hf'
      exact ⟨f', c, hc, ht⟩⟩

theorem parse_backward (hw : 0 < w) {src : List Kind} {p : Prog} (hp : Bf.tree src = some p)
    {b : Block w} (hb : Ir.parse (w := w) src = .ok b) (env : Env) :
    (∀ f' (c : Ir.Cfg w), Ir.run b false 0 f' env = .done c →
      ∃ (f : Nat) (s : State w), Bf.run f p env = .done s ∧ s.trace = c.st.trace) ∧
    (∀ f' (c : Ir.Cfg w), Ir.run b false 0 f' env = .stopped c →
      ∃ (f : Nat) (s : State w), Bf.run f p env = .stopped s ∧ s.trace = c.st.trace) :=
  ⟨fun f' c h => by
      obtain ⟨f, hf⟩ := backward_obs hw hp hb env f' true c.st.trace (by rw [h]; rfl)
      obtain ⟨s, hs, ht⟩ := obsBf_fin hf
      exact ⟨f, s, hs, ht⟩,
    fun f' c h => by
      obtain ⟨f, hf⟩ := backward_obs hw hp hb env f' false c.st.trace (by rw [h]; rfl)
      obtain ⟨s, hs, ht⟩ := obsBf_fin hf
      exact ⟨f, s, hs, ht⟩⟩

theorem parse_never_interrupted (b : Block w) (f' : Nat) (env : Env) (c : Ir.Cfg w) :
    Ir.run b false 0 f' env ≠ .interrupted c :=
  runCfg_not_interrupted _ _ _

/-- Cut off anywhere, neither machine has emitted anything the other does not emit. -/
theorem parse_prefix (hw : 0 < w) {src : List Kind} {p : Prog} (hp : Bf.tree src = some p)
    {b : Block w} (hb : Ir.parse (w := w) src = .ok b) (env : Env) :
    (∀ f', ∃ f, traceOf (Ir.run b false 0 f' env) = traceOfBf (Bf.run (w := w) f p env)) ∧
    (∀ f, ∃ f', traceOf (Ir.run b false 0 f' env) = traceOfBf (Bf.run (w := w) f p env)) :=
  ⟨prefix_ir_bf hw hp hb env, prefix_bf_ir hw hp hb env⟩

/-- An odd step is a unit modulo `2^w`: `while x ≠ 0 { x += k }` reaches `x = 0` from every `x`. -/
theorem C01_odd_step_reaches_zero (hw : 0 < w) (k x : BitVec w) (hk : Cell.isOdd k = true) :
    ∃ n, x + BitVec.ofNat w n * k = 0#w :=
  odd_step_reaches_zero hw k x hk

/-- The canonical side of folding `[-]`, `[+]`, `[---]`, … into `load 0`: `body` of `+`/`-` only (comments are
not part of the tree) with odd net sum. -/
theorem canonical_odd_loop_zeroes (hw : 0 < w) (body rest : Prog) (hb : OnlyIncDec body)
    (hodd : Cell.isOdd (netSum (w := w) body) = true) (ks : List Prog) (sb : State w) :
    ∃ m sb', Sim.Steps (BfM w) (m + 1) ⟨.loop body rest, ks, sb⟩ ⟨rest, ks, sb'⟩ ∧
      sb'.ptr = sb.ptr ∧ sb'.env = sb.env ∧ sb'.trace = sb.trace ∧
      ∀ x, sb'.tape.get x = if x = sb.ptr then 0#w else sb.tape.get x :=
  loop_zero_of_iter hw (netSum body) hodd body rest
    (fun ks sb => by
      obtain ⟨sb', hs, ha⟩ := incdec_exec body hb ks sb
      exact ⟨_, sb', hs, ha⟩) ks sb

/-- Source-level form: the text `src[i..j)` of the body consists of `+`, `-` and comments only. -/
theorem canonical_odd_loop_zeroes_src (hw : 0 < w) {src : List Kind} {i j : Nat} {body : Prog}
    (hrepr : Repr src i j body)
    (hchars : ∀ m, i ≤ m → m < j →
      src[m]? = some .inc ∨ src[m]? = some .dec ∨ src[m]? = some .comment)
    (rest : Prog) (hodd : Cell.isOdd (netSum (w := w) body) = true) (ks : List Prog) (sb : State w) :
    ∃ m sb', Sim.Steps (BfM w) (m + 1) ⟨.loop body rest, ks, sb⟩ ⟨rest, ks, sb'⟩ ∧
      sb'.ptr = sb.ptr ∧ sb'.env = sb.env ∧ sb'.trace = sb.trace ∧
      ∀ x, sb'.tape.get x = if x = sb.ptr then 0#w else sb.tape.get x :=
  canonical_odd_loop_zeroes hw body rest (onlyIncDec_of_repr hrepr hchars) hodd ks sb

/-- The same for the bodies the parser actually folds (no I/O, no loops, no net movement, only the
loop cell changes, by an odd amount `c`): stated via the frame computed by the parser. -/
theorem canonical_folded_loop_zeroes (hw : 0 < w) (body rest : Prog) (sh : Int) (c : BitVec w)
    (hodd : Cell.isOdd c = true)
    (hib : (comp (w := w) body (fresh sh)).1 = [])
    (hshift : (comp (w := w) body (fresh sh)).2.shift = sh)
    (hpend : ∀ a, pend (comp (w := w) body (fresh sh)).2.buff a = if a = sh then c else 0#w)
    (ks : List Prog) (sb : State w) :
    ∃ m sb', Sim.Steps (BfM w) (m + 1) ⟨.loop body rest, ks, sb⟩ ⟨rest, ks, sb'⟩ ∧ ZeroedFrom sb sb' :=
  loop_zero_of_iter hw c hodd body rest (special_iter hib hshift hpend) ks sb

-- Examples: the hypotheses are satisfiable and both machines agree.

def agrees (w : Nat) (src : List Kind) (env : Env) (fuel : Nat) : Bool :=
  match Bf.tree src, Ir.parse (w := w) src with
  | some p, .ok b =>
    match Bf.run (w := w) fuel p env, Ir.run b false 0 fuel env with
    | .done s, .done c => decide (s.trace = c.st.trace)
    | .stopped s, .stopped c => decide (s.trace = c.st.trace)
    | _, _ => false
  | _, _ => false

def envAB : Env := { input := some [.byte 65, .byte 66, .eof], sink := true, outOk := none }
def envRefuse : Env := { input := some [.byte 65, .byte 66, .eof], sink := true, outOk := some 1 }

/-- `+[-]` -/
def ex1 : List Kind := [.inc, .open, .dec, .close]
/-- `,[.,]` -/
def ex2 : List Kind := [.inp, .open, .out, .inp, .close]
/-- `+[>+<-]>.` -/
def ex3 : List Kind := [.inc, .open, .right, .inc, .left, .dec, .close, .right, .out]

example : Bf.tree ex1 = some (.cmd .inc (.loop (.cmd .dec .nil) .nil)) := by decide
example : ∃ b, Ir.parse (w := 8) ex1 = .ok b := ⟨_, rfl⟩
example : agrees 8 ex1 envAB 50 = true := by decide
example : agrees 8 ex2 envAB 50 = true := by decide
example : agrees 8 ex2 envRefuse 50 = true := by decide
example : agrees 16 ex3 envAB 50 = true := by decide
example : (match Ir.parse (w := 8) ex3 with
    | .ok b => traceOf (Ir.run b false 0 50 envAB) | .error _ => []) = [Ev.out 1] := by decide
example : (match Ir.parse (w := 8) ex2 with
    | .ok b => traceOf (Ir.run b false 0 50 envAB) | .error _ => []) =
    [Ev.inp 0, Ev.out 66, Ev.inp 66, Ev.out 65, Ev.inp 65] := by decide
/-- The folded loop is a single `load 0` (the pending `+` is dropped: it is overwritten). -/
example : (match Ir.parse (w := 8) ex1 with | .ok b => b.insts.length | .error _ => 0) = 1 := by
  decide

end C01
end Hpbf

#print axioms Hpbf.C01.C01_parse_ok_of_tree
#print axioms Hpbf.C01.parse_forward
#print axioms Hpbf.C01.parse_backward
#print axioms Hpbf.C01.parse_never_interrupted
#print axioms Hpbf.C01.parse_prefix
#print axioms Hpbf.C01.C01_odd_step_reaches_zero
#print axioms Hpbf.C01.canonical_odd_loop_zeroes
#print axioms Hpbf.C01.canonical_odd_loop_zeroes_src
#print axioms Hpbf.C01.canonical_folded_loop_zeroes
