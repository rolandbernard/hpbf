/-
C02 / C13: the pass `allocate_temps` – and therefore the whole bytecode generator `translate` – is TOTAL.
"Compilation is total: for every IR block, every number of registers and both fusion settings none of the modelled
panic sites of the generator is reachable."

`Props/C02EmitTotal.lean` shows this for the emission phase, `Chain.translateE_ok_of_alloc` that `allocate_temps`
is the only other phase that can fail.  Here:

    allocateTemps_total_of_emit :  emitState prog fuse = .ok s1 → deadStoreElim s1 = .ok s2 →
                                     ∃ s3, allocateTemps numRegs s2 = .ok s3          (every `numRegs`, also 0 and > 16)
    translateE_total            :  ∃ p, translateE prog numRegs fuse = .ok p
    translateE_total_check      :  ∃ p, translateE prog numRegs fuse = .ok p ∧ BcWf.check p numRegs = true

so no end-to-end theorem needs the hypothesis `translateE … = .ok p`.  No bound on `numRegs` is needed
(`alloc_total_any_numRegs`).

§1  `TotalPre s`, the precondition under which the pass is total on ANY state (`allocateTemps_total_of_pre`):
    `AllocPre` and five more components, each shown necessary by a state that satisfies `AllocPre`, violates it and
    makes the pass panic (§4):
    * `defd`   – a written temporary has a first and a last use after the write
                 (`can_alloc_reg:last_use.unwrap`, `first_use.unwrap`, `alloc_temp:last_use.unwrap`);
    * `defAt`  – a read temporary is written at its `created` position (`replace:replacements.get.unwrap`);
    * `unread` – use count `0` ⇒ not read (`fusion:replacements.get.unwrap`);
    * `lastLt` – last uses are positions of the code (`assert-replacements-empty`);
    * `mono`   – moved computations that share an operand reach their stores in order
                 (`alloc_shrunk_extension_panics`, `Proofs/C02AllocEx.lean`).
§2  the panic sites of `allocStep` and how each is excluded (proof: the loop invariant `TInv` next to `PassInv`):
    * `next_range_end-loop-fuel`: every round of `drainEnds` removes an entry or re-inserts it once with its
      (later) current last use; `2·|heap| + 2` rounds suffice (`drainEnds_total`, potential `muE`);
    * `peek:last_use.unwrap`: temporaries on the heap have a recorded last use (`TInv.heapRange`);
    * `insts-index`, `insts[first_use]-index`, `ranges-index`: `defd`, `lastLt`, the size of `insts` is constant;
    * `can_alloc_reg…underflow`, `alloc_temp…underflow`: `created < firstUse ≤ lastUse`;
    * `fusion:`/`replace:replacements.get.unwrap`: every temporary read by a pending instruction and created earlier
      has a location (`TInv.complete`): a location is released only when the heap entry's end `e ≤ k` is at least the
      CURRENT last use, the original last use is at most `e` (`PassInv.heap`), and the current last use of an operand
      of a waiting moved computation is not before it (`TInv.fusedLast`, kept by `mono`);
    * `live-underflow`: the free registers are distinct and below `numRegs` (`liveMask_total`);
    * `assert-replacements-empty`: every location has a heap entry, the heap is sorted, after round `k` all ends
      are `> k` and `< n` (`TInv.replHeap/heapBound/sorted`).
§3  `TotalPre` for generator output (`totalPre_of_emit`), from invariants of the emission and of
    `dead_store_elim`: use counts dominate the occurrences (`CountInv`; on emitted code this is `dsePre_of_emit`
    of `C02DseEmit`), definitions at `created` (`DefAtP`),
    first/last use recorded together (`FL`), every value read at instruction boundaries (`NoUn`), and the ORDER
    invariant `OrdInv` – if the first use of `t2` is a store, every value created before `t2` was first used
    before it (all computations of a `calc` precede its stores, and the stores follow the order of computation).
No panic is reachable from any IR block.

Proofs: `Hpbf/Proofs/C02AllocTotal{Heap,Inv,Step,Count,Dse,Ord,Emit,Ex}.lean`.
-/
import Hpbf.Proofs.C02AllocTotalEx

namespace Hpbf
namespace C02

open Bc BcWf BcGen C11 Alloc AEmit

variable {w : Nat}

/-! ### 1. The precondition and totality on arbitrary states -/

example (s : St w) : TotalPre s ↔
    (AllocPre s ∧
     (∀ (i : Nat) (x : Instr w) (t : Nat), s.insts[i]? = some x → dstTmp? x = some t →
        ∃ (r : RangeInfo) (f L : Nat), s.ranges[t]? = some r ∧ r.firstUse = some f ∧ r.lastUse = some L ∧
          i < f ∧ f ≤ L) ∧
     (∀ (j : Nat) (x : Instr w) (t : Nat), s.insts[j]? = some x → t ∈ BcWf.uses x →
        ∃ (r : RangeInfo) (y : Instr w), s.ranges[t]? = some r ∧ s.insts[r.created]? = some y ∧
          dstTmp? y = some t) ∧
     (∀ (t : Nat) (r : RangeInfo), s.ranges[t]? = some r → r.numUses = 0 →
        ∀ (j : Nat) (x : Instr w), s.insts[j]? = some x → t ∉ BcWf.uses x) ∧
     (∀ (t : Nat) (r : RangeInfo) (L : Nat), s.ranges[t]? = some r → r.lastUse = some L → L < s.insts.size) ∧
     (∀ (i1 : Nat) (op1 : BcGen.Op) (t1 : Nat) (a1 b1 : Loc w) (f1 : Nat) (m1 : Int)
        (i2 : Nat) (op2 : BcGen.Op) (t2 : Nat) (a2 b2 : Loc w) (f2 : Nat) (m2 : Int) (u : Nat),
        Cand s i1 op1 t1 a1 b1 f1 m1 (.tmp t1) → Cand s i2 op2 t2 a2 b2 f2 m2 (.tmp t2) → i1 < i2 →
        (a1 = .tmp u ∨ b1 = .tmp u) → (a2 = .tmp u ∨ b2 = .tmp u) → f1 ≤ f2)) :=
  ⟨fun h => ⟨h.pre, h.defd, h.defAt, h.unread, h.lastLt, h.mono⟩, fun ⟨a, b, c, d, e, f⟩ => ⟨a, b, c, d, e, f⟩⟩

example (s : St w) (hp : TotalPre s) (numRegs : Nat) : ∃ s', allocateTemps numRegs s = .ok s' :=
  allocateTemps_total_of_pre hp numRegs

/-! ### 2. One round -/

example (s : St w) (numRegs k : Nat) (a : ASt w) : TInv s numRegs k a ↔
    ((∀ (j : Nat) (x : Instr w) (t : Nat) (r : RangeInfo), k ≤ j → a.st.insts[j]? = some x →
        t ∈ BcWf.uses x → s.ranges[t]? = some r → r.created < k → ∃ l, alGet a.repl t = some l) ∧
     (∀ (f : Nat) (op : BcGen.Op) (m : Int) (t' : Nat) (s0 s1 : Loc w) (t : Nat),
        Fused s k a f op m t' s0 s1 → (s0 = .tmp t ∨ s1 = .tmp t) →
        ∃ (r : RangeInfo) (L : Nat), a.st.ranges[t]? = some r ∧ r.lastUse = some L ∧ f ≤ L) ∧
     (∀ e t, (e, t) ∈ a.nre → ∃ (r : RangeInfo) (L : Nat), a.st.ranges[t]? = some r ∧ r.lastUse = some L) ∧
     (∀ (t : Nat) (l : Loc w), alGet a.repl t = some l → ∃ e, (e, t) ∈ a.nre) ∧
     (∀ (e t : Nat), (e, t) ∈ a.nre → k ≤ e ∧ e < s.insts.size) ∧
     a.nre.Pairwise (fun x y => x.1 ≤ y.1) ∧ (∀ r ∈ a.freeRegs, r < numRegs) ∧
     (∀ (t : Nat) (r : RangeInfo) (L : Nat), a.st.ranges[t]? = some r → r.lastUse = some L → L < s.insts.size)) :=
  ⟨fun h => ⟨h.complete, h.fusedLast, h.heapRange, h.replHeap, h.heapBound, h.sorted, h.freeLt, h.rangeLt⟩,
   fun ⟨a, b, c, d, e, f, g, h⟩ => ⟨a, b, c, d, e, f, g, h⟩⟩

example (s : St w) (hp : TotalPre s) (numRegs : Nat) : TInv s numRegs 0 (initASt numRegs s) := tinv_init hp numRegs

/-- No lookup of round `k` fails. -/
example (s : St w) (hp : TotalPre s) (numRegs k : Nat) (a : ASt w) (hk : k < s.insts.size) (hI : PassInv s k a)
    (hT : TInv s numRegs k a) : ∃ u a', allocStep numRegs k a = .ok (u, a') := alloc_step_total hp numRegs hk hI hT
example (s : St w) (hp : TotalPre s) (numRegs k : Nat) (a a' : ASt w) (u : Unit) (hk : k < s.insts.size)
    (hI : PassInv s k a) (hT : TInv s numRegs k a) (h : allocStep numRegs k a = .ok (u, a')) :
    TInv s numRegs (k + 1) a' := tinv_step hp hI hT h

example (i fuel : Nat) (atf0 : List Nat) (a : ASt w) (hs : SortedE a.nre) (hr : HeapRange a)
    (hm : muE i (luOf a) a.nre < fuel) :
    ∃ atf a1, drainEnds i fuel atf0 a = .ok (atf, a1) ∧ SortedE a1.nre ∧ (∀ e t, (e, t) ∈ a1.nre → i < e) ∧
      (∀ e t, (e, t) ∈ a.nre → (∃ e', (e', t) ∈ a1.nre) ∨ t ∈ atf) ∧ (∀ t ∈ atf0, t ∈ atf) :=
  drainEnds_total fuel atf0 a hs hr hm
example (i : Nat) (lu : Nat → Nat) (l : List (Nat × Nat)) : muE i lu l ≤ 2 * l.length := muE_le i lu l
example (numRegs : Nat) (F : List Nat) (hn : F.Nodup) (hlt : ∀ r ∈ F, r < numRegs) :
    ∃ live, liveMask numRegs F = .ok live := liveMask_total hn hlt

/-! ### 3. Generator output -/

example (prog : Ir.Block w) (fuse : Bool) (s : St w) (h : emitState prog fuse = .ok s) :
    (∀ (t : Nat) (r : RangeInfo), s.ranges[t]? = some r → occ t s.insts ≤ r.numUses) ∧
    (∀ (t : Nat) (r : RangeInfo), s.ranges[t]? = some r →
      ∃ y, s.insts[r.created]? = some y ∧ dstTmp? y = some t) ∧
    (∀ (t : Nat) (r : RangeInfo), s.ranges[t]? = some r →
      (∀ f, r.firstUse = some f → ∃ L, r.lastUse = some L ∧ f ≤ L) ∧
      (∀ L, r.lastUse = some L → ∃ f, r.firstUse = some f)) :=
  ⟨countInv_of_emit h, (xinv_of_emit h).defAt, (xinv_of_emit h).fl⟩
example (t : Nat) (insts : Array (Instr w)) :
    occ t insts = (insts.toList.map (fun x => (BcWf.uses x).count t)).sum := rfl

/-- Every value has been read, and first uses that are stores respect the order of creation. -/
example (prog : Ir.Block w) (fuse : Bool) (s : St w) (h : emitState prog fuse = .ok s) :
    (∀ (t : Nat) (r : RangeInfo), s.ranges[t]? = some r → r.firstUse ≠ none) ∧
    (∀ (t1 t2 : Nat) (r1 r2 : RangeInfo) (f2 : Nat) (m : Int), s.ranges[t1]? = some r1 → s.ranges[t2]? = some r2 →
      r1.created < r2.created → r2.firstUse = some f2 → s.insts[f2]? = some (.copy (.mem m) (.tmp t2)) →
      ∃ f1, r1.firstUse = some f1 ∧ f1 < f2) := by
  obtain ⟨h1, h2⟩ := oi_of_emit h
  exact ⟨fun t r hr hn => h1 t ⟨r, hr, hn⟩,
    fun t1 t2 r1 r2 f2 m a b c d e => h2 t1 t2 r1 r2 f2 _ a b c d e ⟨m, rfl⟩⟩

/-- `dead_store_elim` keeps the use counts above the occurrences and the definitions of what is still read. -/
example (s s' : St w) (hI : DInv s) (h : deadStoreElim s = .ok s') : DInv s' := deadStoreElim_dinv hI h

example (prog : Ir.Block w) (fuse : Bool) (s1 s2 : St w) (h1 : emitState prog fuse = .ok s1)
    (h2 : deadStoreElim s1 = .ok s2) : TotalPre s2 := totalPre_of_emit h1 h2

/-- `allocate_temps` never panics in the pipeline. -/
example (prog : Ir.Block w) (fuse : Bool) (s1 s2 : St w) (numRegs : Nat) (h1 : emitState prog fuse = .ok s1)
    (h2 : deadStoreElim s1 = .ok s2) : ∃ s3, allocateTemps numRegs s2 = .ok s3 :=
  allocateTemps_total_of_emit numRegs h1 h2

/-- `translate` is total. -/
example (prog : Ir.Block w) (numRegs : Nat) (fuse : Bool) : ∃ p, translateE prog numRegs fuse = .ok p :=
  translateE_total prog numRegs fuse

/-- … and its result is accepted by the bytecode checker. -/
example (prog : Ir.Block w) (numRegs : Nat) (fuse : Bool) :
    ∃ p, translateE prog numRegs fuse = .ok p ∧ BcWf.check p numRegs = true :=
  translateE_total_check prog numRegs fuse

/-! ### 4. Necessity of the components, and `numRegs` -/

example : allocPreB exNoUse = true ∧ allocErr 2 exNoUse = some "allocate_temps:can_alloc_reg:last_use.unwrap" :=
  alloc_total_defd_necessary
example : allocPreB exNoDef = true ∧ allocErr 2 exNoDef = some "allocate_temps:replace:replacements.get.unwrap" :=
  alloc_total_defAt_necessary
example : allocPreB exCount = true ∧ allocErr 2 exCount = some "allocate_temps:fusion:replacements.get.unwrap" :=
  alloc_total_unread_necessary
example : allocPreB exLast = true ∧ allocErr 2 exLast = some "allocate_temps:assert-replacements-empty" :=
  alloc_total_lastLt_necessary
/-- `mono`: `exMonoBad`, see the head of `Props/C02Alloc.lean`. -/
example : AllocPre exMonoBad ∧ allocErr 1 exMonoBad = some "allocate_temps:replace:replacements.get.unwrap" :=
  ⟨exMonoBad_pre, alloc_shrunk_extension_panics⟩
example : allocErr 0 exFuseGood = none ∧ allocErr 1 exFuseGood = none ∧ allocErr 17 exFuseGood = none ∧
    allocErr 0 exFlowGood = none ∧ allocErr 40 exFlowGood = none := alloc_total_any_numRegs

end C02
end Hpbf

#print axioms Hpbf.C02.Alloc.drainEnds_total
#print axioms Hpbf.C02.Alloc.liveMask_total
#print axioms Hpbf.C02.Alloc.tinv_init
#print axioms Hpbf.C02.Alloc.alloc_step_total
#print axioms Hpbf.C02.Alloc.tinv_step
#print axioms Hpbf.C02.allocateTemps_total_of_pre
#print axioms Hpbf.C02.AEmit.xinv_of_emit
#print axioms Hpbf.C02.AEmit.oi_of_emit
#print axioms Hpbf.C02.AEmit.deadStoreElim_dinv
#print axioms Hpbf.C02.totalPre_of_emit
#print axioms Hpbf.C02.allocateTemps_total_of_emit
#print axioms Hpbf.C02.translateE_total
#print axioms Hpbf.C02.translateE_total_check
#print axioms Hpbf.C02.Alloc.alloc_total_defd_necessary
#print axioms Hpbf.C02.Alloc.alloc_total_defAt_necessary
#print axioms Hpbf.C02.Alloc.alloc_total_unread_necessary
#print axioms Hpbf.C02.Alloc.alloc_total_lastLt_necessary
#print axioms Hpbf.C02.Alloc.alloc_total_any_numRegs
