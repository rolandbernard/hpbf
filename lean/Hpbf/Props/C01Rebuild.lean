/-
Property C01 (part: the optimiser's REBUILD ROUND, `src/opt.rs` `OptRebuild`, `Program::optimize_once`,
`Program::optimize`; model `Hpbf/Opt.lean`, an exact port tied to the Rust on ~290 000 programs).

The optimizer re-executes the IR symbolically (`written` / `pending` / `reverse` maps) and emits a new IR.  The
hash-iteration orders the Rust uses are an ORACLE argument (`orders`): every theorem holds for EVERY oracle for
which the function returns `.ok`.

What is preserved is the OBSERVABLE BEHAVIOUR (`BehEq`): terminating runs correspond in both directions (same
kind of ending, same events, same environment), and runs that are cut off by the fuel have the same events.  The
final TAPE and POINTER are not preserved (pending operations at the end of the program are dropped,
`Program { shift: 0 }`): see `tape_not_preserved`.

Blocks without `loop` / `ifnz`:
* `optimizeOnce_straightline` : one round, any previous analysis, any oracle.
* `optimize_straightline_level1` : `Opt.optimize b 1 orders = .ok b'`.

ALL blocks, one round started WITHOUT previous analysis (`topAnalysis [] []`), which is what
`Program::optimize` does first and all it does at level 1.  Hypotheses: the cell width is not `0`, and the
right-hand sides of the source block are in normal form (`CanonL`), which holds for the parser's output
(`parse_canonL`) and for the optimizer's own output (`optimizeOnce_canonL'`).
* `optimizeOnce_preserves_level1`, `optimize_preserves_level1'` : same observable behaviour.
* `optimizeOnce_onceOk_level1`, `optimize_onceOk_level1'` : the `once` marks the optimizer puts on loops
  (`Loop { at_least_once }`, which the emitters turn into do-while loops) are justified: no run of the emitted
  block reaches a marked loop with a zero condition cell (`C02Emit.OnceOk`, the hypothesis of the emitter proofs).
* `optimize_parse_level1` : both, from Brainfuck source.
This covers nesting, `loop_or_if` (shifting and non-shifting children), `inline`, `loop_inside_if` (with the
`cond := 0` shortcut), the wrapping `if`, `analyze_loop`, `constants_among`, `linear_among`, `loop_motion`
(through the loop lemmas `Hpbf/Proofs/OptLoop*.lean`).
Rounds 2 and 3 (levels 2 and 3), where the round uses the analysis of the previous round and is preceded by dead
store elimination: `Props/C01Rounds.lean`, `Props/C01Full.lean`, `Props/C01Fixed.lean`.

Defects the proof ran into (both confirmed on the binary from Brainfuck source; /repo and the model have the
corrected `loop_or_if`):
* F11: `loop_or_if` skipped the cells that the loop body writes but that `constants_among` had classified as
  constant: pending operations of the parent on such a cell were neither emitted nor dropped although the emitted
  loop overwrites the cell (all levels ≥ 1).
* F12: completion of F11: the cell has to be emitted AND read (`emit(var); read(var)`), otherwise a grandparent
  that knows the cell as a constant keeps forwarding the old value (levels 2, 3).

The proofs are in `Hpbf/Proofs/OptRb*.lean` (map: `Hpbf/Proofs/OptRb.README.md`).
-/
import Hpbf.Proofs.OptRbEx
import Hpbf.Proofs.OptRbTop1

namespace Hpbf
namespace OptProof
open Opt OptSem Ir

variable {w : Nat}

example (b b' : Block w) (env : Env) : BehEq b b' env ↔
    ((∀ f c, Ir.run b false 0 f env = .done c → ∃ f' c', Ir.run b' false 0 f' env = .done c' ∧
      c'.st.trace = c.st.trace ∧ c'.st.env = c.st.env) ∧
    (∀ f c, Ir.run b false 0 f env = .stopped c → ∃ f' c', Ir.run b' false 0 f' env = .stopped c' ∧
      c'.st.trace = c.st.trace ∧ c'.st.env = c.st.env) ∧
    (∀ f' c', Ir.run b' false 0 f' env = .done c' → ∃ f c, Ir.run b false 0 f env = .done c ∧
      c'.st.trace = c.st.trace ∧ c'.st.env = c.st.env) ∧
    (∀ f' c', Ir.run b' false 0 f' env = .stopped c' → ∃ f c, Ir.run b false 0 f env = .stopped c ∧
      c'.st.trace = c.st.trace ∧ c'.st.env = c.st.env) ∧
    (∀ f', ∃ f, C01.traceOf (Ir.run b false 0 f env) = C01.traceOf (Ir.run b' false 0 f' env)) ∧
    (∀ f, ∃ f', C01.traceOf (Ir.run b' false 0 f' env) = C01.traceOf (Ir.run b false 0 f env))) := Iff.rfl

example (b : Block w) : StraightLine b ↔ ∀ i ∈ b.insts, C01Dse.isBlock i = false := Iff.rfl

theorem optimizeOnce_straightline {b : Block w} (hb : StraightLine b) (prevAnal : OptAnalysis w)
    {os os' : Orders} {b' : Block w} {anal' : OptAnalysis w}
    (hr : (optimizeOnce b prevAnal).run os = .ok ((b', anal'), os')) (env : Env) : BehEq b b' env :=
  rebuild_straightline hb prevAnal hr env

theorem optimize_straightline_level1 {b b' : Block w} (hb : StraightLine b) {orders : Orders}
    (h : Opt.optimize b 1 orders = .ok b') (env : Env) : BehEq b b' env := by
  rw [optimize_ok_iff, optimizeM_one_ok] at h
  obtain ⟨anal, h⟩ := h
  exact rebuild_straightline hb _ h env

theorem optimizeOnce_canonL' {b : Block w} {prevAnal : OptAnalysis w} {os os' : Orders} {b' : Block w}
    {anal' : OptAnalysis w} (hr : (optimizeOnce b prevAnal).run os = .ok ((b', anal'), os'))
    (hcl : CanonL b.insts) : CanonL b'.insts :=
  optimizeOnce_canonL hr hcl

theorem optimizeOnce_preserves_level1 (hw : 0 < w) {b : Block w} (hcl : CanonL b.insts)
    {os os' : Orders} {b' : Block w} {anal' : OptAnalysis w}
    (hr : (optimizeOnce b (topAnalysis [] [])).run os = .ok ((b', anal'), os')) (env : Env) :
    BehEq b b' env :=
  optimizeOnce_preserves_l1 hw hcl hr env

theorem optimizeOnce_onceOk_level1 (hw : 0 < w) {b : Block w} (hcl : CanonL b.insts)
    {os os' : Orders} {b' : Block w} {anal' : OptAnalysis w}
    (hr : (optimizeOnce b (topAnalysis [] [])).run os = .ok ((b', anal'), os')) (env : Env) :
    C02Emit.OnceOk b' env :=
  optimizeOnce_onceOk_l1 hw hcl hr env

theorem optimize_preserves_level1' (hw : 0 < w) {b b' : Block w} (hcl : CanonL b.insts) {orders : Orders}
    (h : Opt.optimize b 1 orders = .ok b') (env : Env) : BehEq b b' env :=
  optimize_preserves_level1 hw hcl h env

theorem optimize_onceOk_level1' (hw : 0 < w) {b b' : Block w} (hcl : CanonL b.insts) {orders : Orders}
    (h : Opt.optimize b 1 orders = .ok b') (env : Env) : C02Emit.OnceOk b' env :=
  optimize_onceOk_level1 hw hcl h env

theorem optimize_parse_level1 (hw : 0 < w) {src : List Kind} {b b' : Block w}
    (hp : Ir.parse (w := w) src = .ok b) {orders : Orders} (h : Opt.optimize b 1 orders = .ok b')
    (env : Env) : BehEq b b' env ∧ C02Emit.OnceOk b' env :=
  ⟨optimize_preserves_level1 hw (parse_canonL hp) h env, optimize_onceOk_level1 hw (parse_canonL hp) h env⟩

section Examples

/-- `+>,<.>+.<+.` -/
def exSrc : List Kind := [.inc, .right, .inp, .left, .out, .right, .inc, .out, .left, .inc, .out]

def exB : Block 8 :=
  { shift := 0,
    insts := [.input 1, .calc [(0, [⟨1#8, []⟩, ⟨1#8, [0]⟩])], .output 0,
              .calc [(1, [⟨1#8, []⟩, ⟨1#8, [1]⟩])], .output 1,
              .calc [(0, [⟨1#8, []⟩, ⟨1#8, [0]⟩])], .output 0] }

/-- The optimizer has folded the constants: cell 0 is known to be 1, then 2. -/
def exB' : Block 8 :=
  { shift := 0,
    insts := [.input 1, .calc [(0, [⟨1#8, []⟩])], .output 0,
              .calc [(1, [⟨1#8, []⟩, ⟨1#8, [1]⟩])], .output 1,
              .calc [(0, [⟨2#8, []⟩])], .output 0] }

def envAB : Env := { input := some [.byte 65, .byte 66, .eof], sink := true, outOk := none }

instance (b : Block w) : Decidable (StraightLine b) := by
  unfold StraightLine StraightL; infer_instance

theorem exB_optimize : Opt.optimize exB 1 [] = .ok exB' := optimize_of_check (by decide +kernel)

example : Ir.parse (w := 8) exSrc = .ok exB := parse_of_check (by decide +kernel)
example : StraightLine exB := by decide
example : Opt.optimize exB 1 [] = .ok exB' := exB_optimize
example : BehEq exB exB' envAB :=
  optimize_straightline_level1 (orders := []) (by decide) exB_optimize _
example : C01.traceOf (Ir.run exB false 0 20 envAB) = [.out 2, .out 66, .out 1, .inp 65] := by decide
example : C01.traceOf (Ir.run exB' false 0 20 envAB) = [.out 2, .out 66, .out 1, .inp 65] := by decide

/-- `,[->++<]>.` : the multiplication loop is replaced by `x1 := 2 * x0` (loop motion, then the `cond := 0`
shortcut; the final `x0 := 0` stays pending and is dropped). -/
def exMulSrc : List Kind := [.inp, .open, .dec, .right, .inc, .inc, .left, .close, .right, .out]

def exMul : Block 8 :=
  { shift := 1,
    insts := [.input 0,
      .loop 0 0 [.calc [(0, [⟨0xff#8, []⟩, ⟨1#8, [0]⟩])], .calc [(1, [⟨2#8, []⟩, ⟨1#8, [1]⟩])]] false,
      .output 1] }

def exMul' : Block 8 :=
  { shift := 0, insts := [.input 0, .calc [(1, [⟨2#8, [0]⟩])], .output 1] }

theorem exMul_parse : Ir.parse (w := 8) exMulSrc = .ok exMul := parse_of_check (by decide +kernel)

theorem exMul_optimize : Opt.optimize exMul 1 [] = .ok exMul' := optimize_of_check (by decide +kernel)

/-- A run that passes this test has ended regularly, with trace `t` and `v` in cell 0. -/
theorem done_of_check {o : Outcome 8} {t : List Ev} {v : BitVec 8}
    (h : (match o with | .done c => c.st.trace == t && c.st.tape.get 0 == v | _ => false) = true) :
    ∃ c, o = .done c ∧ c.st.trace = t ∧ c.st.tape.get 0 = v := by
  cases o with
  | done c =>
    simp only [Bool.and_eq_true, beq_iff_eq] at h
    exact ⟨c, rfl, h.1, h.2⟩
  | stopped _ | interrupted _ | outOfFuel _ => cases h

theorem exMul_run : ∃ c, Ir.run exMul false 0 400 envAB = .done c ∧ c.st.trace = [.out 130, .inp 65] ∧
    c.st.tape.get 0 = 0#8 := done_of_check (by decide +kernel)

theorem exMul'_run : ∃ c, Ir.run exMul' false 0 400 envAB = .done c ∧ c.st.trace = [.out 130, .inp 65] ∧
    c.st.tape.get 0 = 65#8 := done_of_check (by decide +kernel)

example : Ir.parse (w := 8) exMulSrc = .ok exMul := exMul_parse
example : Opt.optimize exMul 1 [] = .ok exMul' := exMul_optimize
example : BehEq exMul exMul' envAB ∧ C02Emit.OnceOk exMul' envAB :=
  optimize_parse_level1 (by decide) (src := exMulSrc) exMul_parse (orders := []) exMul_optimize _
example : C01.traceOf (Ir.run exMul false 0 400 envAB) = [.out 130, .inp 65] := by
  obtain ⟨c, h, ht, _⟩ := exMul_run
  rw [h]; exact ht
example : C01.traceOf (Ir.run exMul' false 0 400 envAB) = [.out 130, .inp 65] := by
  obtain ⟨c, h, ht, _⟩ := exMul'_run
  rw [h]; exact ht

/-- The final tape is NOT preserved: the source program ends with `x0 = 0`, the optimized one with `x0 = 65`. -/
theorem tape_not_preserved : ∃ (b b' : Block 8) (env : Env) (c c' : Cfg 8),
    Opt.optimize b 1 [] = .ok b' ∧ Ir.run b false 0 400 env = .done c ∧ Ir.run b' false 0 400 env = .done c' ∧
    c.st.tape.get 0 = 0#8 ∧ c'.st.tape.get 0 = 65#8 := by
  obtain ⟨c, h, _, hc⟩ := exMul_run
  obtain ⟨c', h', _, hc'⟩ := exMul'_run
  exact ⟨exMul, exMul', envAB, c, c', exMul_optimize, h, h', hc, hc'⟩

end Examples

end OptProof
end Hpbf

#print axioms Hpbf.OptProof.optimizeOnce_straightline
#print axioms Hpbf.OptProof.optimize_straightline_level1
#print axioms Hpbf.OptProof.optimizeOnce_preserves_level1
#print axioms Hpbf.OptProof.optimizeOnce_onceOk_level1
#print axioms Hpbf.OptProof.optimize_preserves_level1'
#print axioms Hpbf.OptProof.optimize_onceOk_level1'
#print axioms Hpbf.OptProof.optimize_parse_level1
#print axioms Hpbf.OptProof.tape_not_preserved
