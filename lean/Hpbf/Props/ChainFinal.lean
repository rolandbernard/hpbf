/-
ChainFinal: the end-to-end statements at EVERY optimisation level for the REPAIRED optimizer, WITHOUT test

    source text ──parse──▶ b ──OptFix.optimizeF(level) (oracle `orders`)──▶ b' ──IR interpreter
                                                                           └─translate──▶ bytecode interpreter
                                                                                          └─compileX86──▶ x86-64

against canonical Brainfuck semantics, and the headline `all_levels_all_backends`.
`OptFix.optimizeF` (`Hpbf/OptFix.lean`) models `opt.rs` as it is in /repo, with the repair of defect F13
(`Props/C01Full.lean`): `Opt.optimizeOnce` followed by `fixClob`.  Property theorems only,
restated as `example`s; proofs in `Hpbf/Proofs/ChainFinal.lean` (instances of the generic composition,
see `Proofs/ChainO1Gen.lean`; `allBackends_of_agrees` of `Proofs/ChainTotalJit.lean`).

Ingredients: `OptProof.optimizeF_preserves_all_levels'`, `OptProof.optimizeF_onceOk_all_levels'`
(`Props/C01Full.lean`), and everything `Props/ChainOn.lean` uses except the test.

Hypotheses that REMAIN:
* `0 < w`, balancedness of the source;
* `hopt : OptFix.optimizeF b level orders = .ok b'` – success of the model of the repaired optimizer for the given
  oracle; the oracle is ARBITRARY (universally quantified).  Totality / panic-freedom of `optimizeF`
  (`Props/C01Fixed.lean`: `optimizeF_total_parse'`, `optimizeF_no_panic_parse'`) and the corollary "a fitting oracle exists, no
  oracle makes it panic" are in `Props/ChainFinal2.lean` (`all_levels_exists_final2`); for the unrepaired model the
  corresponding facts are `OptTotal.optimize_total`, `optimize_no_panic` (`anylevel_exists`).
* `JitRange` for the two machine-code conjuncts.
Not needed, unlike in `Props/ChainOn.lean`: the per-environment test `OptCheck.optimizeCheck … = true` (levels ≥ 2).
Level 0 needs no separate treatment: `OptFix.optimizeF b 0 orders = .ok b'` forces `b' = b` (`optimizeF_zero`).
-/
import Hpbf.Proofs.ChainFinal

namespace Hpbf
namespace Chain

open Asm JitGen X86Sem X86Prog C03 BcGen C02

variable {w : Nat}

/-! ## Level 0 -/

example (b b' : Ir.Block w) (orders : Opt.Orders) (h : OptFix.optimizeF b 0 orders = .ok b') :
    b' = b ∧ orders = [] := optimizeF_zero h
example (b : Ir.Block w) : OptFix.optimizeF b 0 [] = .ok b := optimizeF_zero_ok b

section Final
variable (hw : 0 < w) (src : List Kind) (prog : Prog) (hp : Bf.tree src = some prog)
  (b b' : Ir.Block w) (hb : Ir.parse (w := w) src = .ok b) (level : Nat) (orders : Opt.Orders)
  (hopt : OptFix.optimizeF b level orders = .ok b') (env : Env) (numRegs : Nat) (fuse : Bool)

/-! ## The IR block, the IR interpreter, the bytecode interpreter -/

example : OptProof.BehEq b b' env := behEq_final hw hb hopt env
example : OnceOk b' env := onceOk_final hw hb hopt env
example : IrAgrees prog b' env := irAgrees_final hw hp hb hopt env
example : BcAgrees prog (translate b' numRegs fuse) env := bcAgrees_final hw hp hb hopt env numRegs fuse

example :
    ((∀ f (s : State w), Bf.run f prog env = .done s →
        ∃ f' c, Ir.run b' false 0 f' env = .done c ∧ c.st.trace = s.trace) ∧
     (∀ f (s : State w), Bf.run f prog env = .stopped s →
        ∃ f' c, Ir.run b' false 0 f' env = .stopped c ∧ c.st.trace = s.trace)) ∧
    ((∀ f' (c : Ir.Cfg w), Ir.run b' false 0 f' env = .done c →
        ∃ (f : Nat) (s : State w), Bf.run f prog env = .done s ∧ s.trace = c.st.trace) ∧
     (∀ f' (c : Ir.Cfg w), Ir.run b' false 0 f' env = .stopped c →
        ∃ (f : Nat) (s : State w), Bf.run f prog env = .stopped s ∧ s.trace = c.st.trace)) ∧
    ((∀ f', ∃ f, C01.traceOf (Ir.run b' false 0 f' env) = C01.traceOfBf (Bf.run (w := w) f prog env)) ∧
     (∀ f, ∃ f', C01.traceOf (Ir.run b' false 0 f' env) = C01.traceOfBf (Bf.run (w := w) f prog env))) :=
  ir_final hw hp hb hopt env

example :
    ((∀ f (s : State w), Bf.run f prog env = .done s →
        ∃ f' c', Bc.run (translate b' numRegs fuse) false 0 f' env = .done c' ∧ c'.st.trace = s.trace) ∧
     (∀ f (s : State w), Bf.run f prog env = .stopped s →
        ∃ f' c', Bc.run (translate b' numRegs fuse) false 0 f' env = .stopped c' ∧ c'.st.trace = s.trace)) ∧
    ((∀ f' (c' : Bc.Cfg w), Bc.run (translate b' numRegs fuse) false 0 f' env = .done c' →
        ∃ (f : Nat) (s : State w), Bf.run f prog env = .done s ∧ s.trace = c'.st.trace) ∧
     (∀ f' (c' : Bc.Cfg w), Bc.run (translate b' numRegs fuse) false 0 f' env = .stopped c' →
        ∃ (f : Nat) (s : State w), Bf.run f prog env = .stopped s ∧ s.trace = c'.st.trace)) ∧
    ((∀ f', ∃ f, C07.traceOfBc (Bc.run (translate b' numRegs fuse) false 0 f' env) =
        C01.traceOfBf (Bf.run (w := w) f prog env)) ∧
     (∀ f, ∃ f', C07.traceOfBc (Bc.run (translate b' numRegs fuse) false 0 f' env) =
        C01.traceOfBf (Bf.run (w := w) f prog env))) :=
  bytecode_final hw hp hb hopt env numRegs fuse

example :
    ((∀ f (s : State w), Bf.run f prog env = .done s →
        ∃ f' c', runDebug (translate b' numRegs fuse) false 0 f' env = .done c' ∧ c'.st.trace = s.trace) ∧
     (∀ f (s : State w), Bf.run f prog env = .stopped s →
        ∃ f' c', runDebug (translate b' numRegs fuse) false 0 f' env = .stopped c' ∧ c'.st.trace = s.trace)) ∧
    ((∀ f' (c' : Bc.Cfg w), runDebug (translate b' numRegs fuse) false 0 f' env = .done c' →
        ∃ (f : Nat) (s : State w), Bf.run f prog env = .done s ∧ s.trace = c'.st.trace) ∧
     (∀ f' (c' : Bc.Cfg w), runDebug (translate b' numRegs fuse) false 0 f' env = .stopped c' →
        ∃ (f : Nat) (s : State w), Bf.run f prog env = .stopped s ∧ s.trace = c'.st.trace)) ∧
    ((∀ f', ∃ f, C07.traceOfBc (runDebug (translate b' numRegs fuse) false 0 f' env) =
        C01.traceOfBf (Bf.run (w := w) f prog env)) ∧
     (∀ f, ∃ f', C07.traceOfBc (runDebug (translate b' numRegs fuse) false 0 f' env) =
        C01.traceOfBf (Bf.run (w := w) f prog env))) :=
  bytecode_final_debug hw hp hb hopt env numRegs fuse

/-- Never malformed bytecode, never interrupted when unlimited: `translate_never_bad_unconditional` (every block, no
hypothesis). -/
example :
    (∀ (l : Bool) (bd f' : Nat) (c' : Bc.Cfg w), Bc.run (translate b' numRegs fuse) l bd f' env ≠ .bad c') ∧
    (∀ (f' : Nat) (c' : Bc.Cfg w), Bc.run (translate b' numRegs fuse) false 0 f' env ≠ .interrupted c') :=
  translate_never_bad_unconditional b' numRegs fuse env

/-! ### C05 / C07 / C08 -/

example (hdiv : C05.BfDiverges w prog env) :
    (∀ (f' : Nat) (c : Bc.Cfg w),
      Bc.run (translate b' numRegs fuse) false 0 f' env ≠ .done c ∧
      Bc.run (translate b' numRegs fuse) false 0 f' env ≠ .stopped c) ∧
    (∀ (bd f' : Nat) (c : Bc.Cfg w),
      Bc.run (translate b' numRegs fuse) true bd f' env ≠ .done c ∧
      Bc.run (translate b' numRegs fuse) true bd f' env ≠ .stopped c) :=
  bc_never_returns_final hw hp hb hopt env numRegs fuse hdiv

example (hdiv : C05.BfDiverges w prog env) :
    ∀ f', ∃ c : Bc.Cfg w, Bc.run (translate b' numRegs fuse) false 0 f' env = .outOfFuel c :=
  bc_runs_forever_final hw hp hb hopt env numRegs fuse hdiv

example (hdiv : C05.BfDiverges w prog env) :
    ∀ bd, ∃ f' c, Bc.run (translate b' numRegs fuse) true bd f' env = .interrupted c :=
  bc_limited_interrupted_final hw hp hb hopt env numRegs fuse hdiv

example (hdiv : C05.BfDiverges w prog env) :
    (∀ f, ∃ f' c c', Bf.run (w := w) f prog env = .outOfFuel c ∧
      Bc.run (translate b' numRegs fuse) false 0 f' env = .outOfFuel c' ∧ c'.st.trace = c.st.trace) ∧
    (∀ f', ∃ f c c', Bc.run (translate b' numRegs fuse) false 0 f' env = .outOfFuel c' ∧
      Bf.run (w := w) f prog env = .outOfFuel c ∧ c'.st.trace = c.st.trace) :=
  bc_divergent_output_final hw hp hb hopt env numRegs fuse hdiv

example :
    (∀ (bd f' : Nat) (c : Bc.Cfg w), Bc.run (translate b' numRegs fuse) true bd f' env = .done c →
      ∃ (f : Nat) (s : State w), Bf.run f prog env = .done s ∧ s.trace = c.st.trace) ∧
    (∀ (bd f' : Nat) (c : Bc.Cfg w), Bc.run (translate b' numRegs fuse) true bd f' env = .stopped c →
      ∃ (f : Nat) (s : State w), Bf.run f prog env = .stopped s ∧ s.trace = c.st.trace) :=
  bc_limited_finished_final hw hp hb hopt env numRegs fuse

example : ∀ bd f', ∃ f, ∀ g, f ≤ g →
    C07.traceOfBc (Bc.run (translate b' numRegs fuse) true bd f' env) <:+
      C01.traceOfBf (Bf.run (w := w) g prog env) :=
  bc_limited_prefix_final hw hp hb hopt env numRegs fuse

example :
    (∀ (f : Nat) (s : State w), Bf.run f prog env = .done s →
      ∃ g, ∀ bd, g ≤ bd →
        ∃ f' c, Bc.run (translate b' numRegs fuse) true bd f' env = .done c ∧ c.st.trace = s.trace) ∧
    (∀ (f : Nat) (s : State w), Bf.run f prog env = .stopped s →
      ∃ g, ∀ bd, g ≤ bd →
        ∃ f' c, Bc.run (translate b' numRegs fuse) true bd f' env = .stopped c ∧ c.st.trace = s.trace) :=
  bc_limited_enough_final hw hp hb hopt env numRegs fuse

example : ∀ (f : Nat) (s : State w), Bf.run f prog env = .stopped s →
    ∃ f' c, (∀ k, Bc.run (translate b' numRegs fuse) false 0 (f' + k) env = .stopped c) ∧
      c.st.trace = s.trace :=
  bc_stops_like_canonical_final hw hp hb hopt env numRegs fuse

example : ∀ (l : Bool) (bd f' : Nat) (c : Bc.Cfg w),
    Bc.run (translate b' numRegs fuse) l bd f' env = .stopped c → (l = false → bd = 0) →
    ∃ (f : Nat) (s : State w), Bf.run f prog env = .stopped s ∧ s.trace = c.st.trace :=
  bc_stops_only_like_canonical_final hw hp hb hopt env numRegs fuse

/-! ## `jit_final_*` (`JitRange` as in `Props/ChainTotal.lean`) -/

variable (sz : Size) (safe : Bool) (cfg : X86Prog.Cfg) (buf0 rsp0 ra : BitVec 64)

example (R : JitRange sz (translate b' 11 false) false safe cfg buf0 rsp0 ra 0 env) :
    let p := translate b' 11 false
    let s0 : PState w := initState cfg buf0 rsp0 ra p.minAcc p.maxAcc 0 env
    (∀ f (s : State w), Bf.run f prog env = .done s →
      ∃ n s', X86Prog.run cfg n s0 = .ret s' ∧ s'.regs.rax = 1 ∧ s'.trace = s.trace) ∧
    (∀ f (s : State w), Bf.run f prog env = .stopped s →
      ∃ n s', X86Prog.run cfg n s0 = .ret s' ∧ s'.regs.rax = 0 ∧ s'.trace = s.trace) :=
  jit_final_forward hw hp hb hopt env R

example (R : JitRange sz (translate b' 11 false) false safe cfg buf0 rsp0 ra 0 env) :
    let p := translate b' 11 false
    let s0 : PState w := initState cfg buf0 rsp0 ra p.minAcc p.maxAcc 0 env
    (∀ f (s : State w), Bf.run f prog env = .done s →
      ∀ n s', X86Prog.run cfg n s0 = .ret s' → s'.regs.rax = 1 ∧ s'.trace = s.trace) ∧
    (∀ f (s : State w), Bf.run f prog env = .stopped s →
      ∀ n s', X86Prog.run cfg n s0 = .ret s' → s'.regs.rax = 0 ∧ s'.trace = s.trace) :=
  jit_final_unique hw hp hb hopt env R

example (R : JitRange sz (translate b' 11 false) false safe cfg buf0 rsp0 ra 0 env) :
    let p := translate b' 11 false
    let s0 : PState w := initState cfg buf0 rsp0 ra p.minAcc p.maxAcc 0 env
    ∀ f, ∃ n s', (steps cfg n s0 = some s' ∨ X86Prog.run cfg n s0 = .ret s') ∧
      s'.trace = C01.traceOfBf (Bf.run (w := w) f prog env) :=
  jit_final_prefix hw hp hb hopt env R

example (R : JitRange sz (translate b' 11 false) false safe cfg buf0 rsp0 ra 0 env)
    (hdiv : C05.BfDiverges w prog env) :
    let p := translate b' 11 false
    let s0 : PState w := initState cfg buf0 rsp0 ra p.minAcc p.maxAcc 0 env
    ∀ f, ∃ n s', steps cfg n s0 = some s' ∧ s'.trace = C01.traceOfBf (Bf.run (w := w) f prog env) :=
  jit_final_divergent hw hp hb hopt env R hdiv

example (bd : Nat) (R : JitRange sz (translate b' 11 false) true safe cfg buf0 rsp0 ra bd env) :
    let p := translate b' 11 false
    let s0 : PState w := initState cfg buf0 rsp0 ra p.minAcc p.maxAcc bd env
    ∃ n s', X86Prog.run cfg n s0 = .ret s' ∧
      (∀ n2 s2, X86Prog.run cfg n2 s0 = .ret s2 → s2 = s') ∧
      (s'.regs.rax = 1 ∨ s'.regs.rax = 0) ∧
      (s'.regs.rax = 1 → ∃ (f : Nat) (s : State w), Bf.run f prog env = .done s ∧ s.trace = s'.trace) ∧
      (∃ f, ∀ g, f ≤ g → s'.trace <:+ C01.traceOfBf (Bf.run (w := w) g prog env)) :=
  jit_final_limited hw hp hb hopt env R

example :
    let p := translate b' 11 false
    (∀ f (s : State w), Bf.run f prog env = .done s → ∃ g, ∀ bd, g ≤ bd →
      JitRange sz p true safe cfg buf0 rsp0 ra bd env →
      ∃ n s', X86Prog.run cfg n (initState (w := w) cfg buf0 rsp0 ra p.minAcc p.maxAcc bd env) = .ret s' ∧
        s'.regs.rax = 1 ∧ s'.trace = s.trace) ∧
    (∀ f (s : State w), Bf.run f prog env = .stopped s → ∃ g, ∀ bd, g ≤ bd →
      JitRange sz p true safe cfg buf0 rsp0 ra bd env →
      ∃ n s', X86Prog.run cfg n (initState (w := w) cfg buf0 rsp0 ra p.minAcc p.maxAcc bd env) = .ret s' ∧
        s'.regs.rax = 0 ∧ s'.trace = s.trace) :=
  jit_final_limited_enough hw hp hb hopt env

end Final

/-! ## The headline -/

/-- **`all_levels_all_backends`** (ASSUMED / CONCLUDED docstring at the theorem, `Proofs/ChainFinal.lean`;
`AllBackends` is spelled out in `Props/ChainOn.lean`). -/
example (hw : 0 < w) (code : Array Kind) (prog : Prog) (hp : Bf.tree code.toList = some prog) (level : Nat)
    (orders : Opt.Orders) (b' : Ir.Block w)
    (hopt : OptFix.optimizeF (irOf w code.toList) level orders = .ok b') (env : Env)
    (numRegs : Nat) (fuse : Bool) : AllBackends code prog b' numRegs fuse env :=
  all_levels_all_backends hw code prog hp level orders b' hopt env numRegs fuse

/-- The conclusion once more, in full. -/
example (hw : 0 < w) (code : Array Kind) (prog : Prog) (hp : Bf.tree code.toList = some prog) (level : Nat)
    (orders : Opt.Orders) (b' : Ir.Block w)
    (hopt : OptFix.optimizeF (irOf w code.toList) level orders = .ok b') (env : Env)
    (numRegs : Nat) (fuse : Bool) :
    let canon : Nat → Fin := fun f => finBf (Bf.run (w := w) f prog env)
    let p : Bc.Program w := translate b' numRegs fuse
    let pj : Bc.Program w := translate b' 11 false
    SameResults canon (fun f => finInplace (Inplace.run (w := w) code false 0 f env)) ∧
    SameResults canon (fun f => finIr (Ir.run b' false 0 f env)) ∧
    SameResults canon (fun f => finBc (Bc.run p false 0 f env)) ∧
    SameResults canon (fun f => finBc (C02.runDebug p false 0 f env)) ∧
    (∀ (sz : Size) (safe : Bool) (cfg : X86Prog.Cfg) (buf0 rsp0 ra : BitVec 64),
      JitRange sz pj false safe cfg buf0 rsp0 ra 0 env →
      ∀ r, (∃ f, canon f = some r) →
        ∃ n, finX86 (X86Prog.run cfg n (initState (w := w) cfg buf0 rsp0 ra pj.minAcc pj.maxAcc 0 env))
          = some r) ∧
    (∀ (sz : Size) (safe : Bool) (cfg : X86Prog.Cfg) (buf0 rsp0 ra : BitVec 64) (bd : Nat),
      JitRange sz pj true safe cfg buf0 rsp0 ra bd env →
      ∃ n r, finX86 (X86Prog.run cfg n (initState (w := w) cfg buf0 rsp0 ra pj.minAcc pj.maxAcc bd env))
          = some r ∧
        (r.1 = true → ∃ f, canon f = some r) ∧
        ∃ f, ∀ g, f ≤ g → r.2 <:+ C01.traceOfBf (Bf.run (w := w) g prog env)) :=
  all_levels_all_backends hw code prog hp level orders b' hopt env numRegs fuse

/-! ## Non-vacuity (kernel evaluation): the F13 witness, a 481-character Brainfuck program that the
UNREPAIRED optimizer miscompiles at level 2 -/

def finCode : Array Kind := OptProof.F13.f13Bf.toArray
def finProg : Prog := (Bf.tree finCode.toList).getD .nil
/-- input 3, 2 -/
def finEnv : Env := OptProof.F13.f13Env
def finB (level : Nat) : Ir.Block 8 :=
  match OptFix.optimizeF (irOf 8 finCode.toList) level [] with
  | .ok b => b
  | .error _ => ⟨0, []⟩
/-- The canonical events (most recent first). -/
def finTrace : List Ev :=
  [.out 1, .out 3, .out 0, .out 0, .out 1, .out 3, .out 0, .out 0, .inp 2, .inp 3, .out 3]


theorem fin_tree : Bf.tree finCode.toList = some finProg := by
  have h : (Bf.tree finCode.toList).isSome = true := by decide +kernel
  unfold finProg
  cases ht : Bf.tree finCode.toList with
  | none => rw [ht] at h; cases h
  | some p => rfl

theorem fin_parse : Ir.parse (w := 8) OptProof.F13.f13Bf = .ok (irOf 8 finCode.toList) := parse_irOf fin_tree

/-- What `OptProof.F13.f13_bf_eval` (the one kernel evaluation of the optimizers on the witness, with the empty
oracle) says through the bytecode interpreter, for the parser's output as `irOf` names it: the repaired optimizer
succeeds at level 2 and the bytecode of its output runs off the end with the canonical events; it succeeds at level
3; the bytecode of the unrepaired optimizer's level-2 output prints `1` where the canonical run prints `3`. -/
theorem fin_eval :
    OptProof.F13.bcDoneIs (OptFix.optimizeF (irOf 8 finCode.toList) 2 []) OptProof.F13.bfSrcTrace = true ∧
    OptProof.F13.succeeds (OptFix.optimizeF (irOf 8 finCode.toList) 3 []) = true ∧
    OptProof.F13.bcTraceIs (Opt.optimize (irOf 8 finCode.toList) 2 []) OptProof.F13.bfOutTrace = true := by
  have h := OptProof.F13.f13_bf_eval.2
  unfold OptProof.F13.bfBcCheck at h
  rw [fin_parse] at h
  simpa only [Bool.and_eq_true, and_assoc] using h

-- `level` stays a variable so that unfolding `finB` does not evaluate the optimizer
theorem fin_opt (level : Nat)
    (h : OptProof.F13.succeeds (OptFix.optimizeF (irOf 8 finCode.toList) level []) = true) :
    OptFix.optimizeF (irOf 8 finCode.toList) level [] = .ok (finB level) := by
  unfold finB
  cases ho : OptFix.optimizeF (irOf 8 finCode.toList) level [] with
  | error e => rw [ho] at h; cases h
  | ok b => rfl

/-- The repaired optimizer succeeds at levels 2 and 3 with the empty oracle. -/
theorem fin_opt2 : OptFix.optimizeF (irOf 8 finCode.toList) 2 [] = .ok (finB 2) :=
  fin_opt 2 (OptProof.F13.succeeds_of_bcDoneIs fin_eval.1)
theorem fin_opt3 : OptFix.optimizeF (irOf 8 finCode.toList) 3 [] = .ok (finB 3) := fin_opt 3 fin_eval.2.1

theorem fin_canon : finBf (Bf.run (w := 8) 3000 finProg finEnv) = some (true, finTrace) := by decide +kernel

/-- By the theorem: at levels 2 and 3 the IR interpreter and the bytecode interpreter (both dispatch modes) on the
code the repaired optimizer produces give exactly the canonical result … -/
example :
    (∃ f, finIr (Ir.run (finB 2) false 0 f finEnv) = some (true, finTrace)) ∧
    (∃ f, finBc (Bc.run (translate (finB 2) 4 true) false 0 f finEnv) = some (true, finTrace)) ∧
    (∃ f, finBc (C02.runDebug (translate (finB 3) 11 false) false 0 f finEnv) = some (true, finTrace)) := by
  have A := all_levels_all_backends (w := 8) (by decide) finCode finProg fin_tree 2 [] _ fin_opt2 finEnv 4 true
  have B := all_levels_all_backends (w := 8) (by decide) finCode finProg fin_tree 3 [] _ fin_opt3 finEnv 11 false
  exact ⟨(A.2.1 _).1 ⟨3000, fin_canon⟩, (A.2.2.1 _).1 ⟨3000, fin_canon⟩, (B.2.2.2.1 _).1 ⟨3000, fin_canon⟩⟩

/-- … also by evaluation … -/
example : finBc (Bc.run (translate (finB 2) 4 true) false 0 2000 finEnv) = some (true, finTrace) := by
  have h := fin_eval.1
  rw [fin_opt2] at h
  obtain ⟨c, hc, ht⟩ := OptProof.F13.bcDoneIs_ok h
  show finBc (Bc.run (translate (finB 2) 4 true) false 0 2000 OptProof.F13.f13Env) = _
  rw [hc, finBc, ht]
  rfl

/-- … whereas the UNREPAIRED optimizer's level-2 code prints `1` where the canonical run prints `3` (defect F13,
`OptProof.f13_miscompile_bf'`): the hypothesis `optimizeF` (not `Opt.optimize`) of the headline theorem matters. -/
example : (match Opt.optimize (irOf 8 finCode.toList) 2 [] with
    | .ok b => C07.traceOfBc (Bc.run (translate b 4 true) false 0 2000 finEnv)
    | .error _ => []) =
    [.out 1, .out 1, .out 0, .out 0, .out 1, .out 3, .out 0, .out 0, .inp 2, .inp 3, .out 3] := by
  have h := fin_eval.2.2
  generalize Opt.optimize (irOf 8 finCode.toList) 2 [] = r at h ⊢
  cases r with
  | error e => cases h
  | ok b =>
    show C07.traceOfBc (Bc.run (translate b 4 true) false 0 2000 OptProof.F13.f13Env) = OptProof.F13.bfOutTrace
    simp only [OptProof.F13.bcTraceIs, beq_iff_eq] at h
    generalize Bc.run (translate b 4 true) false 0 2000 OptProof.F13.f13Env = o at h ⊢
    cases o <;> exact h

end Chain
end Hpbf

#print axioms Hpbf.Chain.optimizeF_zero
#print axioms Hpbf.Chain.behEq_final
#print axioms Hpbf.Chain.onceOk_final
#print axioms Hpbf.Chain.irAgrees_final
#print axioms Hpbf.Chain.bcAgrees_final
#print axioms Hpbf.Chain.ir_final
#print axioms Hpbf.Chain.bytecode_final
#print axioms Hpbf.Chain.bytecode_final_debug
#print axioms Hpbf.Chain.bc_never_returns_final
#print axioms Hpbf.Chain.bc_runs_forever_final
#print axioms Hpbf.Chain.bc_limited_interrupted_final
#print axioms Hpbf.Chain.bc_divergent_output_final
#print axioms Hpbf.Chain.bc_limited_finished_final
#print axioms Hpbf.Chain.bc_limited_prefix_final
#print axioms Hpbf.Chain.bc_limited_enough_final
#print axioms Hpbf.Chain.bc_stops_like_canonical_final
#print axioms Hpbf.Chain.bc_stops_only_like_canonical_final
#print axioms Hpbf.Chain.jit_final_forward
#print axioms Hpbf.Chain.jit_final_unique
#print axioms Hpbf.Chain.jit_final_prefix
#print axioms Hpbf.Chain.jit_final_divergent
#print axioms Hpbf.Chain.jit_final_limited
#print axioms Hpbf.Chain.jit_final_limited_enough
#print axioms Hpbf.Chain.all_levels_all_backends
#print axioms Hpbf.Chain.fin_opt2
#print axioms Hpbf.Chain.fin_opt3
#print axioms Hpbf.Chain.fin_canon
