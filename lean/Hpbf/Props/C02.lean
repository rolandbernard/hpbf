/-
Property C02 (part: the LATE PASSES of the bytecode generator and the two dispatch profiles).
"For every valid program, input stream, cell width and optimisation level, the bytecode interpreter produces
exactly the input/output event sequence of canonical Brainfuck semantics whenever the canonical run terminates.
This holds both for builds with debug assertions (trampolined dispatch) and for release builds (tail-called
dispatch)."

`BcGen.translateE` (an exact port of `bc::CodeGen::translate`) ends with
    `parameterReordering`; if `fuse`: `recordBranchTargets`, `zeroingMoveDetection`; `stripNoops`
(`translateE_eq_latePasses`).  This file states that these passes preserve the behaviour of the bytecode program
under `Bc.step`/`Bc.run` for EVERY generator state satisfying the pass's precondition (not just generator
output), in limited and unlimited mode, and that the debug-build dispatch loop equals the release-build one.
The proofs are in `Hpbf/Proofs/C02*.lean`; the theorems below are those theorems (same names, namespace
`Hpbf.C02`), restated here as `example`s so that the exact statements are checked in this file.

Vocabulary (`Proofs/C02Base.lean`)
* `StEq s1 s2`   – same pointer, environment, trace, and the same tape AS A FUNCTION (`Tape.get`); `IoEq` – without
                   the tape.
* `ObsEq' o1 o2` – same outcome constructor; `done/stopped/interrupted/bad`: `StEq` and equal budget;
                   `outOfFuel`: `IoEq` and equal budget (pc and temporaries are never compared).
* `ObsEqIO`      – as `ObsEq'` except that `stopped` and `bad` only require `IoEq` and equal budget.
* `BehEq p q`    – for all `limited b fuel env` there is `fuel'` with
                   `ObsEq' (Bc.run p limited b fuel env) (Bc.run q limited b fuel' env)`, and the same with `p`, `q`
                   exchanged.  `BehEqIO` – the same with `ObsEqIO`.  Both are equivalence relations, `BehEq ⊆ BehEqIO`.
* `progOf s t mn mx` – the generator state `s` as a program (`insts`, `live` from `s`; the other fields arbitrary).
* `NoMemZero ins` – no operand of `ins` is a `memZero`; `TargetsOk insts` – every branch lands in `[0, n]`
                   (equivalently `BcWf.succs … ≠ none`, `targetsOk_of_succs`).

Finding recorded here (`zmd_stopped_tape_differs`): after `zeroing_move_detection` a run that STOPS at a failing
I/O operation between a fused read-and-clear and its blanked zeroing copy has the same events, pointer and
environment but a different tape (the cell is already 0).  Hence the pass (and the composition with `fuse = true`)
is proved for `BehEqIO`; the I/O event sequence – what C02 is about – is covered by both relations.
-/
import Hpbf.Proofs.C02Passes

namespace Hpbf
namespace C02

open Bc BcWf BcGen C11

variable {w : Nat}

/-! The vocabulary is transparent: -/
example (s1 s2 : State w) : IoEq s1 s2 ↔ (s1.ptr = s2.ptr ∧ s1.env = s2.env ∧ s1.trace = s2.trace) :=
  ⟨fun h => ⟨h.ptr, h.env, h.trace⟩, fun ⟨a, b, c⟩ => ⟨a, b, c⟩⟩
example (s1 s2 : State w) : StEq s1 s2 ↔ (IoEq s1 s2 ∧ ∀ x, s1.tape.get x = s2.tape.get x) :=
  ⟨fun h => ⟨h.io, h.tape⟩, fun ⟨a, b⟩ => ⟨a, b⟩⟩
example (c1 c2 : Cfg w) :
    (ObsEq' (.done c1) (.done c2) ↔ (StEq c1.st c2.st ∧ c1.budget = c2.budget)) ∧
    (ObsEq' (.stopped c1) (.stopped c2) ↔ (StEq c1.st c2.st ∧ c1.budget = c2.budget)) ∧
    (ObsEq' (.interrupted c1) (.interrupted c2) ↔ (StEq c1.st c2.st ∧ c1.budget = c2.budget)) ∧
    (ObsEq' (.bad c1) (.bad c2) ↔ (StEq c1.st c2.st ∧ c1.budget = c2.budget)) ∧
    (ObsEq' (.outOfFuel c1) (.outOfFuel c2) ↔ (IoEq c1.st c2.st ∧ c1.budget = c2.budget)) ∧
    ¬ ObsEq' (.done c1) (.stopped c2) ∧ ¬ ObsEq' (.done c1) (.outOfFuel c2) ∧ ¬ ObsEq' (.outOfFuel c1) (.done c2) :=
  ⟨Iff.rfl, Iff.rfl, Iff.rfl, Iff.rfl, Iff.rfl, id, id, id⟩
example (c1 c2 : Cfg w) :
    (ObsEqIO (.done c1) (.done c2) ↔ (StEq c1.st c2.st ∧ c1.budget = c2.budget)) ∧
    (ObsEqIO (.interrupted c1) (.interrupted c2) ↔ (StEq c1.st c2.st ∧ c1.budget = c2.budget)) ∧
    (ObsEqIO (.stopped c1) (.stopped c2) ↔ (IoEq c1.st c2.st ∧ c1.budget = c2.budget)) ∧
    (ObsEqIO (.bad c1) (.bad c2) ↔ (IoEq c1.st c2.st ∧ c1.budget = c2.budget)) ∧
    (ObsEqIO (.outOfFuel c1) (.outOfFuel c2) ↔ (IoEq c1.st c2.st ∧ c1.budget = c2.budget)) ∧
    ¬ ObsEqIO (.done c1) (.stopped c2) ∧ ¬ ObsEqIO (.stopped c1) (.outOfFuel c2) :=
  ⟨Iff.rfl, Iff.rfl, Iff.rfl, Iff.rfl, Iff.rfl, id, id⟩
example (p q : Program w) : BehEq p q ↔
    ((∀ limited b fuel env, ∃ fuel', ObsEq' (Bc.run p limited b fuel env) (Bc.run q limited b fuel' env)) ∧
     (∀ limited b fuel env, ∃ fuel', ObsEq' (Bc.run q limited b fuel env) (Bc.run p limited b fuel' env))) :=
  Iff.rfl
example (p q : Program w) : BehEqIO p q ↔
    ((∀ limited b fuel env, ∃ fuel', ObsEqIO (Bc.run p limited b fuel env) (Bc.run q limited b fuel' env)) ∧
     (∀ limited b fuel env, ∃ fuel', ObsEqIO (Bc.run q limited b fuel env) (Bc.run p limited b fuel' env))) :=
  Iff.rfl
example (s : St w) (t : Nat) (mn mx : Int) :
    progOf s t mn mx = { temps := t, minAcc := mn, maxAcc := mx, live := s.live, insts := s.insts } := rfl
example (ins : Instr w) : NoMemZero ins ↔ noMemZero ins = true := Iff.rfl
example (insts : Array (Instr w)) : TargetsOk insts ↔
    ∀ (i : Nat) (ins : Instr w) (off : Int), insts[i]? = some ins → branchOff? ins = some off →
      0 ≤ (i : Int) + off ∧ (i : Int) + off ≤ insts.size := Iff.rfl
/-- `BehEqIO` (hence `BehEq`) gives what C02 needs: same ending, same events, same environment. -/
example (o1 o2 : Outcome w) (h : ObsEqIO o1 o2) :
    o1.tag = o2.tag ∧ o1.cfg.st.trace = o2.cfg.st.trace ∧ o1.cfg.st.env = o2.cfg.st.env :=
  ⟨h.tag_io.1, h.tag_io.2.1.trace, h.tag_io.2.1.env⟩

/-! ### 0. Behaviour depends on the instructions only -/

example (t t' : Nat) (mn mn' mx mx' : Int) (lv lv' : Array Nat) (insts : Array (Instr w)) (limited : Bool)
    (b fuel : Nat) (env : Env) :
    Bc.run ⟨t, mn, mx, lv, insts⟩ limited b fuel env = Bc.run ⟨t', mn', mx', lv', insts⟩ limited b fuel env :=
  run_fields_irrelevant t t' mn mn' mx mx' lv lv' insts limited b fuel env

/-! ### 1. `parameter_reordering` -/

/-- Single instruction: exactly the same `StepRes` (constant folding into `copy`, `sub x imm ↦ add x (-imm)`, the
commutative swaps, the choice between the two- and three-operand form made by `sameDst`). -/
example (p : Program w) (limited : Bool) (c : Cfg w) (ins : Instr w) (hz : NoMemZero ins) :
    stepI p limited c (reorderInst ins) = stepI p limited c ins := stepI_reorderInst p limited c ins hz

example (p : Program w) (limited : Bool) (c : Cfg w) (i : Nat) (ins : Instr w)
    (hi : p.insts[i]? = some ins) (hz : NoMemZero ins) :
    step { p with insts := p.insts.setIfInBounds i (reorderInst ins) } limited c = step p limited c :=
  reorderInst_step p limited c i ins hi hz

/-- The hypothesis is necessary: with a read-and-clear operand the read order is observable, and `reorderInst`
does swap such operands. -/
example : finalTmp0 (Bc.run exOrderA false 0 5 default) = 3#8 ∧
    finalTmp0 (Bc.run exOrderB false 0 5 default) = 6#8 := memZero_order_matters

example (s : St w) (hz : ∀ ins ∈ s.insts, NoMemZero ins) (t : Nat) (mn mx : Int) :
    BehEq (progOf s t mn mx) (progOf (parameterReordering s) t mn mx) :=
  parameterReordering_preserves s hz t mn mx

/-- Even: the runs are equal. -/
example (s : St w) (hz : ∀ ins ∈ s.insts, NoMemZero ins) (t : Nat) (mn mx : Int) (limited : Bool)
    (b fuel : Nat) (env : Env) :
    Bc.run (progOf (parameterReordering s) t mn mx) limited b fuel env
      = Bc.run (progOf s t mn mx) limited b fuel env :=
  parameterReordering_run_eq s hz t mn mx limited b fuel env

/-! ### 2. `strip_noops` -/

example (s : St w) (hl : s.live.size = s.insts.size) (hT : TargetsOk s.insts) :
    ∃ s', stripNoops s = .ok s' ∧ Stripped s.insts s'.insts ∧ s'.live.size = s'.insts.size ∧
      s'.isTarget = s.isTarget ∧
      ∀ (t : Nat) (mn mx : Int), BehEq (progOf s t mn mx) (progOf s' t mn mx) :=
  stripNoops_preserves s hl hT

/-- The index map `i ↦ pos insts i` (number of non-`noop`s before `i`, `= i - cum_noop[i]`). -/
example (insts qi : Array (Instr w)) (h : Stripped insts qi) :
    qi.size = pos insts insts.size ∧
    (∀ (i : Nat) (ins : Instr w), insts[i]? = some ins → keep ins = true →
      qi[pos insts i]? = some (fixInst insts i ins)) ∧
    (∀ x ∈ qi, isNoop x = false) := ⟨h.size, h.get, h.noNoop⟩
example (insts : Array (Instr w)) (i : Nat) (c off : Int) :
    fixInst insts i (.brz c off) = .brz c ((pos insts ((i : Int) + off).toNat : Int) - (pos insts i : Int)) := rfl

/-! ### 3. `zeroing_move_detection` -/

example (s s1 : St w) (hr : recordBranchTargets s = .ok s1) (hz : ∀ ins ∈ s.insts, NoMemZero ins) :
    ∃ s', zeroingMoveDetection s1 = .ok s' ∧ s'.live = s.live ∧ s'.insts.size = s.insts.size ∧
      TargetsOk s'.insts ∧ ∀ (t : Nat) (mn mx : Int), BehEqIO (progOf s t mn mx) (progOf s' t mn mx) :=
  zeroingMoveDetection_preserves s s1 hr hz

/-- General precondition: `is_target` has `n + 1` entries, all branches land in `[0, n]` with their targets marked,
no `memZero` yet. -/
example (s : St w) : ZmdPre s ↔
    ((s.isTarget.size = s.insts.size + 1 ∧ TargetsOk s.insts ∧
      ∀ (i : Nat) (ins : Instr w) (off : Int), s.insts[i]? = some ins → branchOff? ins = some off →
        s.isTarget[((i : Int) + off).toNat]? = some true) ∧
     ∀ ins ∈ s.insts, NoMemZero ins) :=
  ⟨fun h => ⟨⟨h.glob.tgsize, h.glob.targets, h.glob.marked⟩, h.noZero⟩,
   fun ⟨⟨a, b, c⟩, d⟩ => ⟨⟨a, b, c⟩, d⟩⟩
example (s : St w) (h : ZmdPre s) :
    ∃ s', zeroingMoveDetection s = .ok s' ∧ s'.live = s.live ∧ s'.isTarget = s.isTarget ∧
      s'.insts.size = s.insts.size ∧ TargetsOk s'.insts ∧
      ∀ (t : Nat) (mn mx : Int), BehEqIO (progOf s t mn mx) (progOf s' t mn mx) :=
  zeroingMoveDetection_preserves_of_pre s h

/-- `record_branch_targets` is a pure analysis that succeeds exactly when all branches land in `[0, n]`. -/
example (s : St w) (hT : TargetsOk s.insts) :
    ∃ tg, recordBranchTargets s = .ok { s with isTarget := tg } ∧ ZGlob tg s.insts :=
  recordBranchTargets_spec s hT
example (s s1 : St w) (h : recordBranchTargets s = .ok s1) :
    TargetsOk s.insts ∧ ∃ tg, s1 = { s with isTarget := tg } ∧ ZGlob tg s.insts := recordBranchTargets_ok h

/-- The semantic core: ONE fusion `(r, m, j)` with the same fuel on both sides. -/
example (P Q : Program w) (r j : Nat) (m : Int) (a a' : Instr w) (h : FuseCond P r j m a a')
    (hQ : Q.insts = fuseInsts P.insts r j a') (limited : Bool) (b fuel : Nat) (env : Env) :
    ObsEqIO (Bc.run P limited b fuel env) (Bc.run Q limited b fuel env) := fuse_run h hQ limited b fuel env

/-! ### 4. The composition -/

example (prog : Ir.Block w) (numRegs : Nat) (fuse : Bool) :
    translateE prog numRegs fuse =
      (do
        let analysis := analyze prog
        let (_, s) ← (emitInsts fuse 0 prog.insts analysis.subAnal).run ({} : St w)
        let s ← deadStoreElim s
        let s ← allocateTemps numRegs s
        let s ← latePasses fuse s
        pure { temps := countTemps s.insts, minAcc := analysis.minAcc, maxAcc := analysis.maxAcc,
               live := s.live, insts := s.insts }) := translateE_eq_latePasses prog numRegs fuse

example (s : St w) : LatePre s ↔
    (s.live.size = s.insts.size ∧ TargetsOk s.insts ∧ ∀ ins ∈ s.insts, NoMemZero ins) :=
  ⟨fun h => ⟨h.live, h.targets, h.noZero⟩, fun ⟨a, b, c⟩ => ⟨a, b, c⟩⟩

example (s : St w) (h : LatePre s) (fuse : Bool) :
    ∃ s', latePasses fuse s = .ok s' ∧ s'.live.size = s'.insts.size ∧ (∀ x ∈ s'.insts, isNoop x = false) ∧
      (∀ (t : Nat) (mn mx : Int), BehEqIO (progOf s t mn mx) (progOf s' t mn mx)) ∧
      (fuse = false → ∀ (t : Nat) (mn mx : Int), BehEq (progOf s t mn mx) (progOf s' t mn mx)) :=
  late_passes_preserve s h fuse

/-! ### 5. Trampolined (debug) versus tail-called (release) dispatch -/

example (p : Program w) (limited : Bool) (fuel : Nat) (c : Cfg w) (h0 : c.budget ≠ 0) :
    ((runCfg p limited fuel c).tag = 2 ∧ (runCfg p limited fuel c).cfg.budget = 0 ∧ limited = true) ∨
    ((runCfg p limited fuel c).tag ≠ 2 ∧ (runCfg p limited fuel c).cfg.budget ≠ 0) :=
  budget_zero_only_initially p limited fuel c h0

example (p : Program w) (limited : Bool) (c c' : Cfg w) (h0 : c.budget ≠ 0)
    (hs : step p limited c = .next c') : c'.budget ≠ 0 := step_next_budget_ne_zero h0 hs

example (p : Program w) (b fuel : Nat) (env : Env) :
    (Bc.run p true b fuel env).cfg.budget = 0 ↔ (Bc.run p true b fuel env).tag = 2 :=
  run_budget_zero_iff p b fuel env

/-- The debug-build loop: the `budget == 0` test before EVERY instruction. -/
example (p : Program w) (limited : Bool) (fuel : Nat) (c : Cfg w) :
    runCfgDebug p limited (fuel + 1) c =
      if limited && c.budget == 0 then .interrupted c
      else match step p limited c with
        | .next c' => runCfgDebug p limited fuel c'
        | .halt c' => .done c'
        | .stop c' => .stopped c'
        | .interrupted c' => .interrupted c'
        | .bad c' => .bad c' := by rw [runCfgDebug]; rfl
example (p : Program w) (limited : Bool) (c : Cfg w) :
    runCfgDebug p limited 0 c = if limited && c.budget == 0 then .interrupted c else .outOfFuel c := by
  rw [runCfgDebug]

example (p : Program w) (limited : Bool) (b fuel : Nat) (env : Env) :
    runDebug p limited b fuel env = Bc.run p limited b fuel env := runDebug_eq_run p limited b fuel env

example (s : St w) (h : LatePre s) (fuse : Bool) :
    ∃ s', latePasses fuse s = .ok s' ∧
      ∀ (t : Nat) (mn mx : Int) (limited : Bool) (b fuel : Nat) (env : Env),
        ∃ fuel', ObsEqIO (runDebug (progOf s t mn mx) limited b fuel env)
          (runDebug (progOf s' t mn mx) limited b fuel' env) := late_passes_preserve_debug s h fuse

/-! ### 6. Non-vacuity and the two counterexamples -/

example : LatePre exLate := exLate_pre
example : zmdInsts exStop = some exStopFused ∧
    (let o1 := Bc.run (progOf exStop 0 0 1) false 0 10 envRefuse
     let o2 := Bc.run ({ temps := 0, minAcc := 0, maxAcc := 1, live := exStop.live, insts := exStopFused } : Program 8)
        false 0 10 envRefuse
     o1.tag = 1 ∧ o2.tag = 1 ∧ o1.cfg.st.trace = [Ev.outFail 7] ∧ o2.cfg.st.trace = [Ev.outFail 7] ∧
     o1.cfg.st.tape.get 0 = 7#8 ∧ o2.cfg.st.tape.get 0 = 0#8) := zmd_stopped_tape_differs
example : zmdInsts exJoin = some exJoin.insts ∧
    (zeroingMoveDetection { exJoin with isTarget := Array.replicate 6 false }).toOption.map (·.insts)
      = some exJoinBad ∧
    (Bc.run (progOf exJoin 0 0 1) false 0 10 envSink).cfg.st.trace = [Ev.out 0] ∧
    (Bc.run ({ temps := 0, minAcc := 0, maxAcc := 1, live := exJoin.live, insts := exJoinBad } : Program 8)
      false 0 10 envSink).cfg.st.trace = [Ev.out 7] := zmd_target_guard_necessary

/-- Not part of this file: that the state handed over by `allocate_temps` satisfies `LatePre` for every IR
program, and that the EARLY passes (`emit_block` with GVN, `dead_store_elim`, `allocate_temps`) preserve
behaviour.  Both are theorems: `passes_behEqIO` (`Proofs/ChainPhases.lean`, restated in `Props/Chain.lean`) gives
`LatePre` of the allocation output and `BehEqIO` from the emission output to the final state; the emission against
the IR is `Props/C02Emit.lean`.  The statement below (the `LatePre` half) is used by nothing. -/
def early_passes_full : Prop :=
  ∀ (w : Nat) (prog : Ir.Block w) (numRegs : Nat) (fuse : Bool) (s1 s2 s3 : St w) (u : Unit),
    (emitInsts fuse 0 prog.insts (analyze prog).subAnal).run ({} : St w) = .ok (u, s1) →
    deadStoreElim s1 = .ok s2 → allocateTemps numRegs s2 = .ok s3 → LatePre s3

end C02
end Hpbf

#print axioms Hpbf.C02.run_fields_irrelevant
#print axioms Hpbf.C02.stepI_reorderInst
#print axioms Hpbf.C02.reorderInst_step
#print axioms Hpbf.C02.memZero_order_matters
#print axioms Hpbf.C02.parameterReordering_preserves
#print axioms Hpbf.C02.parameterReordering_run_eq
#print axioms Hpbf.C02.stripNoops_preserves
#print axioms Hpbf.C02.fuse_run
#print axioms Hpbf.C02.recordBranchTargets_spec
#print axioms Hpbf.C02.recordBranchTargets_ok
#print axioms Hpbf.C02.zeroingMoveDetection_preserves_of_pre
#print axioms Hpbf.C02.zeroingMoveDetection_preserves
#print axioms Hpbf.C02.zmd_stopped_tape_differs
#print axioms Hpbf.C02.zmd_target_guard_necessary
#print axioms Hpbf.C02.translateE_eq_latePasses
#print axioms Hpbf.C02.late_passes_preserve
#print axioms Hpbf.C02.late_passes_preserve_debug
#print axioms Hpbf.C02.budget_zero_only_initially
#print axioms Hpbf.C02.step_next_budget_ne_zero
#print axioms Hpbf.C02.run_budget_zero_iff
#print axioms Hpbf.C02.runDebug_eq_run
#print axioms Hpbf.C02.exLate_pre
