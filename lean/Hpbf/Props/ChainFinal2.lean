/-
ChainFinal2: the two things `Props/ChainFinal.lean` leaves open.

(a) CONVERSE for the machine code in unlimited mode (`C03.conv_run`, `C03.conv_diverges`, `Props/C03Conv.lean`; their
    extra hypothesis `NoNoop` holds for every `translate` output: `noNoop_translate`): if the compiled function
    returns, the canonical run terminates with that verdict and those events (`jit_final_converse`); on a canonically
    divergent program it never returns and never faults (`jit_final_never_returns`).  Hence the unlimited-mode
    machine-code conjunct of the headline becomes an equivalence: `AllBackends2`, `all_levels_all_backends_final2`.
(b) TOTALITY of the repaired optimizer (`Props/C01Fixed.lean`): for every balanced source and level a fitting oracle
    exists, no oracle makes `OptFix.optimizeF` panic, and for every oracle for which it succeeds all backends agree
    (`all_levels_exists_final2`); the window fields of `JitRange` follow from `bytes * length(source) < 2^31`
    (`jitRange_window_of_length_final2`).
Property theorems only, restated as `example`s; proofs in `Hpbf/Proofs/ChainFinal2.lean`.

Hypotheses that REMAIN in the final statements:
* `0 < w`, balancedness of the source;
* the oracle: every statement is for EVERY oracle for which `OptFix.optimizeF` returns a block; that such an oracle
  exists and that the other oracles only produce "order-mismatch" errors is a theorem (`all_levels_exists_final2`);
* `JitRange` for the machine-code conjuncts: cell width 8/16/32/64; the machine decodes the generated code; code
  < 2^31 bytes; three distinct runtime addresses; frame size and `mov` shifts inside `i32`; `rsp ≡ 8 (mod 16)`; budget a
  `u64`, not (limited ∧ 0); no allocation beyond 2^40 cells for bounds-checked code; and the window fields, which
  follow from the length of the text.
Nothing about the machine code is left one-directional in unlimited mode; in limited mode the statement of
`Props/ChainFinal.lean` is complete (`jit_final_limited`).
-/
import Hpbf.Proofs.ChainFinal2
import Hpbf.Props.ChainTotal
import Hpbf.Props.ChainFinal

namespace Hpbf
namespace Chain

open Asm JitGen X86Sem X86Prog C03 BcGen C02

variable {w : Nat}

/-! ## `NoNoop` -/

example (p : Bc.Program w) : NoNoop p ↔ ∀ i : Nat, p.insts[i]? ≠ some Bc.Instr.noop := Iff.rfl
example (blk : Ir.Block w) (numRegs : Nat) (fuse : Bool) : NoNoop (translate blk numRegs fuse) :=
  noNoop_translate blk numRegs fuse

/-! ## The generic converse (any program that agrees with the canonical semantics) -/

example (prog : Prog) (p : Bc.Program w) (env : Env) (A : BcAgrees prog p env) (safe : Bool) (cfg : X86Prog.Cfg)
    (code : List X86) (buf0 rsp0 ra : BitVec 64) (H : JitHyps p false safe cfg code buf0 rsp0 ra 0 env)
    (hnn : NoNoop p) :
    SameResults (fun f => finBf (Bf.run (w := w) f prog env))
      (fun n => finX86 (X86Prog.run cfg n (initState (w := w) cfg buf0 rsp0 ra p.minAcc p.maxAcc 0 env))) :=
  same_jit_of_agrees A H hnn

section Final2
variable (hw : 0 < w) (src : List Kind) (prog : Prog) (hp : Bf.tree src = some prog)
  (b b' : Ir.Block w) (hb : Ir.parse (w := w) src = .ok b) (level : Nat) (orders : Opt.Orders)
  (hopt : OptFix.optimizeF b level orders = .ok b') (env : Env)
  (sz : Size) (safe : Bool) (cfg : X86Prog.Cfg) (buf0 rsp0 ra : BitVec 64)

/-! ## The converse for the machine code, unlimited mode -/

example (R : JitRange sz (translate b' 11 false) false safe cfg buf0 rsp0 ra 0 env) (n : Nat) (s' : PState w)
    (hret : X86Prog.run cfg n (initState (w := w) cfg buf0 rsp0 ra (translate b' 11 false).minAcc
      (translate b' 11 false).maxAcc 0 env) = .ret s') :
    ∃ f, finBf (Bf.run (w := w) f prog env) = some (s'.regs.rax == 1, s'.trace) :=
  jit_final_converse hw hp hb hopt env R hret

example (R : JitRange sz (translate b' 11 false) false safe cfg buf0 rsp0 ra 0 env)
    (hdiv : C05.BfDiverges w prog env) (n : Nat) :
    (∀ r, X86Prog.run cfg n (initState (w := w) cfg buf0 rsp0 ra (translate b' 11 false).minAcc
      (translate b' 11 false).maxAcc 0 env) ≠ .ret r) ∧
    (∀ f r, X86Prog.run cfg n (initState (w := w) cfg buf0 rsp0 ra (translate b' 11 false).minAcc
      (translate b' 11 false).maxAcc 0 env) ≠ .fault f r) :=
  jit_final_never_returns hw hp hb hopt env R hdiv n

/-- Both directions at once. -/
example (R : JitRange sz (translate b' 11 false) false safe cfg buf0 rsp0 ra 0 env) :
    SameResults (fun f => finBf (Bf.run (w := w) f prog env))
      (fun n => finX86 (X86Prog.run cfg n (initState (w := w) cfg buf0 rsp0 ra (translate b' 11 false).minAcc
        (translate b' 11 false).maxAcc 0 env))) :=
  jit_final_same hw hp hb hopt env R

/-! ## The window fields of `JitRange` from the length of the text -/

example (numRegs : Nat) (fuse : Bool) :
    -(src.length : Int) ≤ (translate b' numRegs fuse).minAcc ∧
    (translate b' numRegs fuse).maxAcc ≤ (src.length : Int) :=
  translate_window_final2 hb hopt numRegs fuse

example (numRegs : Nat) (fuse : Bool) (hlen : (sz.bytes : Int) * src.length < 2147483648) :
    let p := translate b' numRegs fuse
    (-2147483648 < p.minAcc ∧ p.maxAcc < 2147483648) ∧ DispOk sz p.minAcc ∧ DispOk sz p.maxAcc ∧
    DispOk sz (-p.minAcc) ∧ DispOk sz (-p.maxAcc) :=
  jitRange_window_of_length_final2 hb hopt numRegs fuse sz hlen

end Final2

/-! ## `AllBackends2` and the headline -/

example (code : Array Kind) (prog : Prog) (b' : Ir.Block w) (numRegs : Nat) (fuse : Bool) (env : Env) :
    AllBackends2 code prog b' numRegs fuse env ↔
    (let canon : Nat → Fin := fun f => finBf (Bf.run (w := w) f prog env)
     let p : Bc.Program w := translate b' numRegs fuse
     let pj : Bc.Program w := translate b' 11 false
     SameResults canon (fun f => finInplace (Inplace.run (w := w) code false 0 f env)) ∧
     SameResults canon (fun f => finIr (Ir.run b' false 0 f env)) ∧
     SameResults canon (fun f => finBc (Bc.run p false 0 f env)) ∧
     SameResults canon (fun f => finBc (C02.runDebug p false 0 f env)) ∧
     (∀ (sz : Size) (safe : Bool) (cfg : X86Prog.Cfg) (buf0 rsp0 ra : BitVec 64),
       JitRange sz pj false safe cfg buf0 rsp0 ra 0 env →
       SameResults canon (fun n => finX86
         (X86Prog.run cfg n (initState (w := w) cfg buf0 rsp0 ra pj.minAcc pj.maxAcc 0 env)))) ∧
     (∀ (sz : Size) (safe : Bool) (cfg : X86Prog.Cfg) (buf0 rsp0 ra : BitVec 64) (bd : Nat),
       JitRange sz pj true safe cfg buf0 rsp0 ra bd env →
       ∃ n r, finX86 (X86Prog.run cfg n (initState (w := w) cfg buf0 rsp0 ra pj.minAcc pj.maxAcc bd env))
           = some r ∧
         (r.1 = true → ∃ f, canon f = some r) ∧
         ∃ f, ∀ g, f ≤ g → r.2 <:+ C01.traceOfBf (Bf.run (w := w) g prog env))) := Iff.rfl

/-- It implies `AllBackends`. -/
example (code : Array Kind) (prog : Prog) (b' : Ir.Block w) (numRegs : Nat) (fuse : Bool) (env : Env)
    (h : AllBackends2 code prog b' numRegs fuse env) : AllBackends code prog b' numRegs fuse env :=
  h.toAllBackends

example (hw : 0 < w) (code : Array Kind) (prog : Prog) (hp : Bf.tree code.toList = some prog) (level : Nat)
    (orders : Opt.Orders) (b' : Ir.Block w)
    (hopt : OptFix.optimizeF (irOf w code.toList) level orders = .ok b') (env : Env)
    (numRegs : Nat) (fuse : Bool) : AllBackends2 code prog b' numRegs fuse env :=
  all_levels_all_backends_final2 hw code prog hp level orders b' hopt env numRegs fuse

/-! ## Totality -/

example (hw : 0 < w) (code : Array Kind) (prog : Prog) (hp : Bf.tree code.toList = some prog) (level : Nat) :
    (∀ orders e, OptFix.optimizeF (irOf w code.toList) level orders = .error e →
      OptTotal.isOracleError e = true) ∧
    (∃ orders b', OptFix.optimizeF (irOf w code.toList) level orders = .ok b') ∧
    (∀ orders b', OptFix.optimizeF (irOf w code.toList) level orders = .ok b' →
      ∀ (env : Env) (numRegs : Nat) (fuse : Bool), AllBackends2 code prog b' numRegs fuse env) :=
  all_levels_exists_final2 hw code prog hp level
example (e : String) : OptTotal.isOracleError e = "order-mismatch ".toList.isPrefixOf e.toList := rfl

/-! ## Non-vacuity (kernel evaluation) -/


/-- `,[.,]` with the `JitRange` instance `totRange` of `Props/ChainTotal.lean` (level 0, where `optimizeF` is the
identity): EVERY return of the compiled function carries a canonical result … -/
example (n : Nat) (s' : PState 8)
    (hret : X86Prog.run (exCfg totCode) n (initState (w := 8) (exCfg totCode) 0x560000000000 0x7ffd00000ff8
      0x555500001234 totPj.minAcc totPj.maxAcc 0 totEnv) = .ret s') :
    ∃ f, finBf (Bf.run (w := 8) f totProg totEnv) = some (s'.regs.rax == 1, s'.trace) :=
  jit_final_converse (w := 8) (by decide) totCat_tree (parse_irOf totCat_tree) (optimizeF_zero_ok _) totEnv
    totRange hret

/-- … and the two machines have the same finished results. -/
example : SameResults (fun f => finBf (Bf.run (w := 8) f totProg totEnv))
    (fun n => finX86 (X86Prog.run (exCfg totCode) n (initState (w := 8) (exCfg totCode) 0x560000000000
      0x7ffd00000ff8 0x555500001234 totPj.minAcc totPj.maxAcc 0 totEnv))) :=
  (all_levels_all_backends_final2 (w := 8) (by decide) totCat totProg totCat_tree 0 [] _ (optimizeF_zero_ok _)
    totEnv 4 true).2.2.2.2.1 .b8 false (exCfg totCode) _ _ _ totRange

/-- `+[]` : canonically divergent. -/
def spinCode : Array Kind := #[.inc, .open, .close]
def spinPj : Bc.Program 8 := translate (irOf 8 spinCode.toList) 11 false
def spinX : List X86 := (compileX86 8 spinPj false false 0x7f0000001000 0x7f0000002000 0x7f0000003000).getD []

theorem spin_tree : Bf.tree spinCode.toList = some C05.pSpin := by decide
theorem spin_diverges : C05.BfDiverges 8 C05.pSpin C05.env0 := C05.diverges_of_isDiverges (fuel := 20) (by decide)

theorem spinRange : JitRange .b8 spinPj false false (exCfg spinX) 0x560000000000 0x7ffd00000ff8 0x555500001234 0
    C05.env0 :=
  jitRange_exCfg C05.env0 rfl (by unfold rangeCheck; decide +kernel)

/-- The machine code of `+[]` (at level 0; `cmp; jne` to itself) is still running after ANY number of steps: it
never returns and never faults. -/
example (n : Nat) :
    (∀ r, X86Prog.run (exCfg spinX) n (initState (w := 8) (exCfg spinX) 0x560000000000 0x7ffd00000ff8
      0x555500001234 spinPj.minAcc spinPj.maxAcc 0 C05.env0) ≠ .ret r) ∧
    (∀ f r, X86Prog.run (exCfg spinX) n (initState (w := 8) (exCfg spinX) 0x560000000000 0x7ffd00000ff8
      0x555500001234 spinPj.minAcc spinPj.maxAcc 0 C05.env0) ≠ .fault f r) :=
  jit_final_never_returns (w := 8) (by decide) spin_tree (parse_irOf spin_tree) (optimizeF_zero_ok _) C05.env0
    spinRange spin_diverges n

/-- Totality on an instance: at level 3 some oracle fits the F13 witness (481 characters), and none panics. -/
example : (∀ orders e, OptFix.optimizeF (irOf 8 OptProof.F13.f13Bf.toArray.toList) 3 orders = .error e →
      OptTotal.isOracleError e = true) ∧
    ∃ orders b', OptFix.optimizeF (irOf 8 OptProof.F13.f13Bf.toArray.toList) 3 orders = .ok b' := by
  have := all_levels_exists_final2 (w := 8) (by decide) finCode finProg fin_tree 3
  exact ⟨this.1, this.2.1⟩

end Chain
end Hpbf

#print axioms Hpbf.Chain.noNoop_translate
#print axioms Hpbf.Chain.jit_converse_of_agrees
#print axioms Hpbf.Chain.jit_never_returns_of_agrees
#print axioms Hpbf.Chain.same_jit_of_agrees
#print axioms Hpbf.Chain.allBackends2_of_agrees
#print axioms Hpbf.Chain.AllBackends2.toAllBackends
#print axioms Hpbf.Chain.jit_final_converse
#print axioms Hpbf.Chain.jit_final_never_returns
#print axioms Hpbf.Chain.jit_final_same
#print axioms Hpbf.Chain.translate_window_final2
#print axioms Hpbf.Chain.jitRange_window_of_length_final2
#print axioms Hpbf.Chain.all_levels_all_backends_final2
#print axioms Hpbf.Chain.all_levels_exists_final2
#print axioms Hpbf.Chain.spin_diverges
#print axioms Hpbf.Chain.spinRange
