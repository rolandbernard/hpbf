/-
C16 — "The hpbf binary executes the concatenation, in order, of all code given by -f files and bare
arguments, with the cell width, backend, optimisation level, limit and static mode selected by its
flags (defaults: 8 bit, baseline JIT on x86-64, level 2), reading stdin and writing stdout as the
canonical run does. It exits 0 on success, exits 1 with a diagnostic on stderr when a parsing back end
is given unbalanced brackets or a file cannot be read, and the print options print without executing
or consuming input."

The model of `src/bin/hpbf.rs` is `Hpbf/Cli.lean` (`Cli.step` = one iteration of the argument loop,
`Cli.parseArgs` = the loop plus the two trailing diagnostics, `Cli.action` = what `main` does afterwards).
`Hpbf/Gen/CliTable.lean` is regenerated from the Rust source on every check run.

Scope.  This file is about the front end: which code, which executor and which options are handed to
`execute_code`, what is written to stderr by the argument loop, and the dispatch on help / file error /
print / execute.  That the selected executor then behaves as the canonical run (stdin, stdout, bracket
errors of the parsing back ends) is the subject of the executor properties (C01, C05 …); the model only
records which kinds parse up front (`Cli.parses`) and the text of the two bracket diagnostics
(`Cli.bracketDiag`).
-/
import Hpbf.Proofs.C16
import Hpbf.Gen.CliTable

namespace Hpbf.C16
open Hpbf Hpbf.Cli

/-- The option tables of the model are the ones the translator extracts from `hpbf.rs`.  Proved by
evaluation: a regenerated, different table breaks this theorem. -/
theorem table_matches_source :
    Cli.kindFlags = Gen.kindFlags ∧ Cli.optFlags = Gen.optFlags ∧ Cli.bitsFlags = Gen.bitsFlags ∧
    Cli.helpFlags = Gen.helpFlags ∧ Cli.fileFlags = Gen.fileFlags := by
  decide +kernel

theorem defaults_match_source :
    ({} : Cli.Cfg).bits = Gen.defaultBits ∧ ({} : Cli.Cfg).opt = Gen.defaultOpt ∧
    ({} : Cli.Cfg).kind = Gen.defaultKind ∧ ({} : Cli.Cfg).safe = Gen.defaultSafe := by
  decide

/-- The only two `exit(..)` calls in the source. -/
theorem exit_codes_in_source : Gen.exitCodes = [1, 0] := by decide

theorem bits_table : Cli.bitsFlags = [("-i8", 8), ("-i16", 16), ("-i32", 32), ("-i64", 64)] := rfl

theorem opt_table :
    Cli.optFlags = [("-O0", 0), ("-O1", 1), ("-O2", 2), ("-O3", 3), ("-O4", 4), ("-O5", 5)] := rfl

theorem kind_table :
    Cli.kindFlags =
      [("--print-ir", .printIr), ("--print-bc", .printBc), ("--print-jit-bc", .printBc2),
       ("--inplace", .inplace), ("--ir-int", .irInt), ("--bc-int", .bcInt),
       ("--print-jit-mc", .printMc), ("--base-jit", .baseJit)] := rfl

theorem help_file_tables :
    Cli.helpFlags = ["-h", "-help", "--help"] ∧ Cli.fileFlags = ["-f", "-file", "--file"] :=
  ⟨rfl, rfl⟩

theorem defaults :
    ({} : Cli.Cfg).bits = 8 ∧ ({} : Cli.Cfg).kind = .baseJit ∧ ({} : Cli.Cfg).opt = 2 ∧
    ({} : Cli.Cfg).safe = true ∧ ({} : Cli.Cfg).limit = none ∧ ({} : Cli.Cfg).code = "" :=
  ⟨rfl, rfl, rfl, rfl, rfl, rfl⟩

theorem no_args (fs : String → FileRes) : Cli.parseArgs fs [] = {} := rfl

theorem flagNames_eq :
    flagNames =
      ["--print-ir", "--print-bc", "--print-jit-bc", "--inplace", "--ir-int", "--bc-int",
       "--print-jit-mc", "--base-jit", "-O0", "-O1", "-O2", "-O3", "-O4", "-O5",
       "-i8", "-i16", "-i32", "-i64", "-h", "-help", "--help", "-f", "-file", "--file",
       "--limit", "--static", "--time"] := by
  decide +kernel

/-- No string is in two tables, so the order of the `match` arms in the source is immaterial. -/
theorem flag_tables_disjoint : flagNames.Nodup := flagNames_nodup

theorem roles_nil : roles [] = [] := rfl

theorem roles_single (a : String) : roles [a] = [if isFlag a then .flag else .code] := rfl

/-- Whatever follows a file flag is a file name, even if it looks like a flag. -/
theorem roles_file (a b : String) (rest : List String) (h : a ∈ Cli.fileFlags) :
    roles (a :: b :: rest) = .flag :: .fileOperand :: roles rest := by
  simp [roles, isFileFlag, h]

theorem roles_limit (b : String) (rest : List String) :
    roles ("--limit" :: b :: rest) = .flag :: .limitOperand :: roles rest := by
  have h1 : isFileFlag "--limit" = false := by decide
  have h2 : isLimitFlag "--limit" = true := by decide
  simp [roles, h1, h2]

/-- Any other known option is a flag; anything else, including `-O9` or `-x`, is code. -/
theorem roles_plain (a : String) (rest : List String) (h1 : a ∉ Cli.fileFlags) (h2 : a ≠ "--limit") :
    roles (a :: rest) = (if a ∈ flagNames then .flag else .code) :: roles rest := by
  cases rest with
  | nil => simp [roles, plainRole, isFlag]
  | cons b rest => simp [roles, isFileFlag, isLimitFlag, h1, h2, plainRole, isFlag]

theorem roles_length (args : List String) : (roles args).length = args.length := by
  rw [roles_eq_rolesP, rolesP_length]

example : isFlag "-O9" = false ∧ isFlag "-x" = false ∧ isFlag "-O5" = true := by decide +kernel

/-- C16: the executed code is the concatenation, in order, of the `-f` file contents and the bare
arguments. -/
theorem code_is_concat (fs : String → FileRes) (args : List String) :
    (Cli.parseArgs fs args).code = String.join (contrib fs args) := by
  rw [parseArgs_spec]
  rfl

theorem lastOf_is_last {α : Type} (table : List (String × α)) (dflt : α) (l : List String) :
    lastOf table dflt l = ((l.filterMap (table.lookup ·)).getLast?).getD dflt := by
  induction l using rev_ind with
  | nil => rfl
  | snoc l a ih =>
    simp only [lastOf] at ih
    simp only [lastOf, List.foldl_append, List.filterMap_append, List.getLast?_append, ih]
    cases table.lookup a <;> simp

theorem last_flag_wins (fs : String → FileRes) (args : List String) :
    (Cli.parseArgs fs args).kind = lastOf Cli.kindFlags .baseJit (flagArgs args) ∧
    (Cli.parseArgs fs args).opt = lastOf Cli.optFlags 2 (flagArgs args) ∧
    (Cli.parseArgs fs args).bits = lastOf Cli.bitsFlags 8 (flagArgs args) := by
  rw [parseArgs_spec]
  exact ⟨rfl, rfl, rfl⟩

/-- The limit is the last limit operand that parses as a `usize`; operands that do not parse are
ignored (with a diagnostic, see `stderr_spec`). -/
theorem limit_spec (fs : String → FileRes) (args : List String) :
    (Cli.parseArgs fs args).limit = lastLimit (limitOperands args) := by
  rw [parseArgs_spec]
  rfl

theorem safe_spec (fs : String → FileRes) (args : List String) :
    (Cli.parseArgs fs args).safe = false ↔ "--static" ∈ flagArgs args := by
  rw [parseArgs_spec]
  simp [specCfg, flagArgs]

theorem help_spec (fs : String → FileRes) (args : List String) :
    (Cli.parseArgs fs args).printHelp = true ↔ ∃ a ∈ flagArgs args, a ∈ Cli.helpFlags := by
  rw [parseArgs_spec]
  simp [specCfg, flagArgs]

theorem time_spec (fs : String → FileRes) (args : List String) :
    (Cli.parseArgs fs args).time = true ↔ "--time" ∈ flagArgs args := by
  rw [parseArgs_spec]
  simp [specCfg, flagArgs]

theorem hasError_iff (fs : String → FileRes) (args : List String) :
    (Cli.parseArgs fs args).hasError = true ↔
      ∃ a ∈ fileOperands args, ∀ content, fs a ≠ .ok content := by
  rw [parseArgs_spec]
  simp only [specCfg, List.any_eq_true, fileOperands]
  constructor
  · rintro ⟨a, ha, hf⟩
    refine ⟨a, ha, fun content hc => ?_⟩
    simp [fileFails, hc] at hf
  · rintro ⟨a, ha, hf⟩
    refine ⟨a, ha, ?_⟩
    unfold fileFails
    cases h : fs a with
    | ok content => exact absurd h (hf content)
    | openFailed => rfl
    | notUtf8 => rfl

theorem diagnostics_def (fs : String → FileRes) (args : List String) :
    diagnostics fs args =
      ((args.zip (roles args)).flatMap fun
        | (a, .fileOperand) => match fs a with
          | .ok _ => []
          | .notUtf8 => ["error: failed to read file `" ++ a ++ "`"]
          | .openFailed => ["error: failed to open file `" ++ a ++ "`"]
        | (a, .limitOperand) => match Cli.parseUsize a with
          | some _ => []
          | none => [a ++ ": ignoring invalid limit"]
        | _ => []) ++
      (match (args.zip (roles args)).getLast? with
        | some (a, .flag) =>
          if a ∈ Cli.fileFlags then ["--file: ignoring missing file"]
          else if a = "--limit" then ["--limit: ignoring missing limit"]
          else []
        | _ => []) := by
  unfold diagnostics trailing tagged
  refine congr (congrArg HAppend.hAppend ?_) ?_
  · refine congrArg (fun f => List.flatMap f (args.zip (roles args))) ?_
    funext x
    obtain ⟨a, r⟩ := x
    cases r <;> rfl
  · generalize (args.zip (roles args)).getLast? = x
    rcases x with _ | ⟨a, r⟩
    · rfl
    · cases r <;> simp [isFileFlag, isLimitFlag]

/-- Everything the argument loop writes to stderr: every unreadable file contributes exactly its
message, every unparsable limit `<arg>: ignoring invalid limit`, in argument order, followed by the
diagnostic for a trailing `-f` / `--limit` without operand. -/
theorem stderr_spec (fs : String → FileRes) (args : List String) :
    (Cli.parseArgs fs args).stderr = diagnostics fs args := by
  rw [parseArgs_spec]

theorem action_spec (c : Cli.Cfg) :
    (c.printHelp = true → Cli.action c = .help (if c.hasError then 1 else 0)) ∧
    (c.printHelp = false → c.hasError = true → Cli.action c = .nothing 1) ∧
    (c.printHelp = false → c.hasError = false → Cli.isPrint c.kind = true →
      Cli.action c = .print c.kind) ∧
    (c.printHelp = false → c.hasError = false → Cli.isPrint c.kind = false →
      Cli.action c = .exec c.kind c.bits c.opt c.limit c.safe) := by
  refine ⟨?_, ?_, ?_, ?_⟩ <;> intros <;> simp_all [Cli.action]

theorem print_kinds_do_not_execute (c : Cli.Cfg) (h : Cli.isPrint c.kind = true) :
    ∀ k b o l s, Cli.action c ≠ .exec k b o l s := by
  intro k b o l s
  unfold Cli.action
  rw [if_pos h]
  split
  · simp
  · split <;> simp

theorem isPrint_iff (k : Cli.Kind) :
    Cli.isPrint k = true ↔ k = .printIr ∨ k = .printBc ∨ k = .printBc2 ∨ k = .printMc := by
  cases k <;> simp [Cli.isPrint]

theorem help_or_error_does_nothing (c : Cli.Cfg) (h : c.printHelp = true ∨ c.hasError = true) :
    (∀ k b o l s, Cli.action c ≠ .exec k b o l s) ∧ (∀ k, Cli.action c ≠ .print k) := by
  unfold Cli.action
  rcases h with h | h
  · simp [h]
  · cases c.printHelp <;> simp [h]

/-- Every exit code the dispatch produces before running an executor is one of the two `exit(..)`
calls of the source, and it is 1 exactly when a file could not be read. -/
theorem action_exit_codes (c : Cli.Cfg) (n : Nat)
    (h : Cli.action c = .help n ∨ Cli.action c = .nothing n) :
    n ∈ Gen.exitCodes ∧ (n = 1 ↔ c.hasError = true) ∧ (n = 0 ↔ c.hasError = false) := by
  unfold Cli.action at h
  by_cases hp : c.printHelp = true
  · simp only [hp, if_true] at h
    cases he : c.hasError <;> simp [he] at h <;> subst h <;> simp [Gen.exitCodes]
  · rw [if_neg hp] at h
    by_cases he : c.hasError = true
    · simp [he] at h
      subst h
      simp [Gen.exitCodes, he]
    · rw [if_neg he] at h
      split at h <;> simp at h

/-- End to end: with no help flag and every named file readable, the front end hands exactly the
concatenated code to exactly the selected executor with the selected options; a print kind prints
and runs nothing. -/
theorem dispatch_spec (fs : String → FileRes) (args : List String)
    (hh : ∀ a ∈ flagArgs args, a ∉ Cli.helpFlags)
    (hf : ∀ a ∈ fileOperands args, ∃ content, fs a = .ok content) :
    let k := lastOf Cli.kindFlags .baseJit (flagArgs args)
    (Cli.parseArgs fs args).code = String.join (contrib fs args) ∧
    Cli.action (Cli.parseArgs fs args) =
      if Cli.isPrint k then .print k
      else .exec k (lastOf Cli.bitsFlags 8 (flagArgs args)) (lastOf Cli.optFlags 2 (flagArgs args))
        (lastLimit (limitOperands args)) (!(flagArgs args).contains "--static") := by
  intro k
  have h1 : (sel .flag (tagged args)).any (helpFlags.contains ·) = false := by
    rw [List.any_eq_false]; intro a ha; simpa using hh a ha
  have h2 : (sel .fileOperand (tagged args)).any (fileFails fs) = false := by
    rw [List.any_eq_false]; intro a ha
    obtain ⟨content, hc⟩ := hf a ha
    simp [fileFails, hc]
  rw [parseArgs_spec]
  exact ⟨rfl, by simp only [action, specCfg, h1, h2]; rfl⟩

/-- A file that cannot be read: nothing runs, exit status 1 (or the help text with status 1), and the
diagnostic is on stderr. -/
theorem file_error_spec (fs : String → FileRes) (args : List String) (a : String)
    (ha : a ∈ fileOperands args) (hf : ∀ content, fs a ≠ .ok content) :
    (Cli.action (Cli.parseArgs fs args) = .nothing 1 ∨ Cli.action (Cli.parseArgs fs args) = .help 1) ∧
    (("error: failed to open file `" ++ a ++ "`") ∈ (Cli.parseArgs fs args).stderr ∨
     ("error: failed to read file `" ++ a ++ "`") ∈ (Cli.parseArgs fs args).stderr) := by
  have he : (Cli.parseArgs fs args).hasError = true := (hasError_iff fs args).2 ⟨a, ha, hf⟩
  constructor
  · cases hp : (Cli.parseArgs fs args).printHelp <;> simp [Cli.action, hp, he]
  · rw [stderr_spec]
    simp only [fileOperands, sel, List.mem_map, List.mem_filter] at ha
    obtain ⟨⟨a', r⟩, ⟨hm, hr⟩, rfl⟩ := ha
    simp only [decide_eq_true_eq] at hr
    subst hr
    simp only [diagnostics, List.mem_append, List.mem_flatMap]
    cases h : fs a' with
    | ok content => exact absurd h (hf content)
    | openFailed => exact Or.inl (Or.inl ⟨_, hm, by simp [diag1, h]⟩)
    | notUtf8 => exact Or.inr (Or.inl ⟨_, hm, by simp [diag1, h]⟩)

/-- Every kind except the in-place interpreter parses the source up front. -/
theorem parses_iff (k : Cli.Kind) : Cli.parses k = true ↔ k ≠ .inplace := by
  cases k <;> simp [Cli.parses]

theorem bracketDiag_text :
    Cli.bracketDiag true = "error: unbalances brackets, loop not closed" ∧
    Cli.bracketDiag false = "error: unbalanced brackets, loop not opened" :=
  ⟨rfl, rfl⟩

section examples

/-- A file system with a single readable file, perversely named `-i8`, and one that is not UTF-8. -/
def fsEx : String → FileRes := fun p =>
  if p = "-i8" then .ok ",[.,]" else if p = "bin" then .notUtf8 else .openFailed

def argsEx : List String := ["-i16", "-f", "-i8", "+.", "--limit", "x", "-O1", "-O3"]

theorem roles_eq_map_tagged (args : List String) : roles args = (tagged args).map (·.2) := by
  rw [tagged, List.map_snd_zip]
  rw [roles_length]; exact Nat.le_refl _

/-- The classification of `argsEx`, evaluated once (each argument is compared with every flag name) and read
by what follows. -/
theorem tagged_argsEx : tagged argsEx =
    [("-i16", .flag), ("-f", .flag), ("-i8", .fileOperand), ("+.", .code), ("--limit", .flag),
     ("x", .limitOperand), ("-O1", .flag), ("-O3", .flag)] := by decide +kernel

example : roles argsEx = [.flag, .flag, .fileOperand, .code, .flag, .limitOperand, .flag, .flag] := by
  rw [roles_eq_map_tagged, tagged_argsEx]; rfl

theorem sel_argsEx : flagArgs argsEx = ["-i16", "-f", "--limit", "-O1", "-O3"] ∧
    fileOperands argsEx = ["-i8"] ∧ limitOperands argsEx = ["x"] ∧ codeArgs argsEx = ["+."] := by
  simp only [flagArgs, fileOperands, limitOperands, codeArgs, tagged_argsEx]
  exact ⟨rfl, rfl, rfl, rfl⟩

example : flagArgs argsEx = ["-i16", "-f", "--limit", "-O1", "-O3"] ∧
    fileOperands argsEx = ["-i8"] ∧ limitOperands argsEx = ["x"] ∧ codeArgs argsEx = ["+."] := sel_argsEx

theorem fsEx_i8 : fsEx "-i8" = .ok ",[.,]" := by decide +kernel

theorem contrib_argsEx : contrib fsEx argsEx = [",[.,]", "+."] := by
  simp only [contrib, tagged_argsEx, List.flatMap_cons, List.flatMap_nil, contrib1, fsEx_i8]
  rfl

example : contrib fsEx argsEx = [",[.,]", "+."] := contrib_argsEx

/-- `parseUsize` does not reduce in the kernel (it goes through `String.Slice` iterators), so the
configuration for `argsEx` (which contains `--limit x`) is computed by rewriting; the spec-side
quantities above are computed by `decide`. -/
theorem parseUsize_x : Cli.parseUsize "x" = none := by simp [Cli.parseUsize]

example : (Cli.parseArgs fsEx argsEx).code = ",[.,]+." := by
  rw [code_is_concat, contrib_argsEx]; decide +kernel

theorem lastOf_argsEx : lastOf Cli.kindFlags .baseJit (flagArgs argsEx) = .baseJit ∧
    lastOf Cli.optFlags 2 (flagArgs argsEx) = 3 ∧ lastOf Cli.bitsFlags 8 (flagArgs argsEx) = 16 := by
  rw [sel_argsEx.1]; decide +kernel

example : (Cli.parseArgs fsEx argsEx).bits = 16 ∧ (Cli.parseArgs fsEx argsEx).opt = 3 ∧
    (Cli.parseArgs fsEx argsEx).kind = .baseJit := by
  obtain ⟨hk, ho, hb⟩ := last_flag_wins fsEx argsEx
  rw [hk, ho, hb]
  exact ⟨lastOf_argsEx.2.2, lastOf_argsEx.2.1, lastOf_argsEx.1⟩

example : lastOf Cli.optFlags 2 (flagArgs argsEx) = 3 ∧ lastOf Cli.bitsFlags 8 (flagArgs argsEx) = 16 :=
  lastOf_argsEx.2

example : diagnostics fsEx argsEx = ["x: ignoring invalid limit"] := by
  have h3 : isFileFlag "-O3" = false ∧ isLimitFlag "-O3" = false := by decide +kernel
  simp [diagnostics, trailing, tagged_argsEx, diag1, parseUsize_x, fsEx_i8, h3]

/-- The whole configuration, directly from the model (not through the specification). -/
theorem parseArgs_argsEx : Cli.parseArgs fsEx argsEx =
    { bits := 16, opt := 3, code := ",[.,]+.", stderr := ["x: ignoring invalid limit"] } := by
  simp [Cli.parseArgs, argsEx, Cli.step, Cli.kindFlags, Cli.optFlags, Cli.bitsFlags, Cli.helpFlags,
    Cli.fileFlags, List.lookup, parseUsize_x, fsEx_i8]

example : Cli.parseArgs fsEx argsEx =
    { bits := 16, opt := 3, code := ",[.,]+.", stderr := ["x: ignoring invalid limit"] } :=
  parseArgs_argsEx

example : Cli.action (Cli.parseArgs fsEx argsEx) = .exec .baseJit 16 3 none true := by
  rw [parseArgs_argsEx]; decide +kernel

/-- Unreadable files, a help flag, unknown options as code, a trailing `-f`: everything by kernel
evaluation of the model. -/
def argsEx2 : List String := ["--bc-int", "-f", "gone", "-O9", "--file", "bin", "-x", "--static", "-f"]

/-- The run of the model on `argsEx2`, evaluated once. -/
theorem parseArgs_argsEx2 : Cli.parseArgs fsEx argsEx2 =
    { kind := .bcInt, safe := false, hasError := true, nextIsFile := true, code := "-O9-x",
      stderr := ["error: failed to open file `gone`", "error: failed to read file `bin`",
                 "--file: ignoring missing file"] } := by
  decide +kernel

example : Cli.parseArgs fsEx argsEx2 =
    { kind := .bcInt, safe := false, hasError := true, nextIsFile := true, code := "-O9-x",
      stderr := ["error: failed to open file `gone`", "error: failed to read file `bin`",
                 "--file: ignoring missing file"] } := parseArgs_argsEx2

example : roles argsEx2 =
    [.flag, .flag, .fileOperand, .code, .flag, .fileOperand, .code, .flag, .flag] := by
  decide +kernel

example : diagnostics fsEx argsEx2 =
    ["error: failed to open file `gone`", "error: failed to read file `bin`",
     "--file: ignoring missing file"] := by
  rw [← stderr_spec, parseArgs_argsEx2]

example : Cli.action (Cli.parseArgs fsEx argsEx2) = .nothing 1 := by rw [parseArgs_argsEx2]; rfl
example : Cli.action (Cli.parseArgs fsEx ("-h" :: argsEx2)) = .help 1 := by decide +kernel
example : Cli.action (Cli.parseArgs fsEx ["--help", "+"]) = .help 0 := by decide +kernel
example : Cli.action (Cli.parseArgs fsEx ["--print-ir", "-i32", "+", "--print-bc"]) = .print .printBc := by
  decide +kernel
example : Cli.action (Cli.parseArgs fsEx ["-i64", "--inplace", "-O0", ",.", "--static"]) =
    .exec .inplace 64 0 none false := by decide +kernel
example : (Cli.parseArgs fsEx ["+", "--limit"]).stderr = ["--limit: ignoring missing limit"] := by
  decide +kernel

end examples

#print axioms table_matches_source
#print axioms defaults_match_source
#print axioms exit_codes_in_source
#print axioms bits_table
#print axioms opt_table
#print axioms kind_table
#print axioms defaults
#print axioms flagNames_eq
#print axioms flag_tables_disjoint
#print axioms roles_file
#print axioms roles_limit
#print axioms roles_plain
#print axioms roles_length
#print axioms code_is_concat
#print axioms lastOf_is_last
#print axioms last_flag_wins
#print axioms limit_spec
#print axioms safe_spec
#print axioms help_spec
#print axioms time_spec
#print axioms hasError_iff
#print axioms diagnostics_def
#print axioms stderr_spec
#print axioms action_spec
#print axioms print_kinds_do_not_execute
#print axioms help_or_error_does_nothing
#print axioms action_exit_codes
#print axioms dispatch_spec
#print axioms file_error_spec
#print axioms parses_iff
#print axioms isPrint_iff
#print axioms no_args
#print axioms help_file_tables
#print axioms bracketDiag_text

end Hpbf.C16
