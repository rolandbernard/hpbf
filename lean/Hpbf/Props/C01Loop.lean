/-
Part of C01 (the optimizer preserves meaning): the property statements of the loop analysis of `Hpbf/Opt.lean`
(`analyzeLoop`, `constantsAmong`, `linearAmong`, `loopMotion`, `splitAlong`, `reduceConst`, and the loop of
`finishLoop` that calls them), over memories `Mem w = Int → BitVec w` and simultaneous assignments, for runs in
which every round is real.  Definitions and proofs are in `Hpbf/Proofs/OptLoop*.lean` (namespace `Hpbf.OptLoop`);
the vocabulary is restated here by its defining equations.  Nothing imports this file: the `OptRb` proofs use
`Hpbf/Proofs/OptLoopTop.lean` directly.
-/
import Hpbf.Proofs.OptLoopTop
import Hpbf.Proofs.OptLoopAnalyze

namespace Hpbf.C01Loop
open Hpbf Opt OptSem Expr OptLoop

variable {w : Nat}

theorem run_zero (body : Nat → Mem w → Mem w) (P : List (Int × Expr w)) (m0 : Mem w) :
    run body P m0 0 = m0 := rfl
theorem run_succ (body : Nat → Mem w → Mem w) (P : List (Int × Expr w)) (m0 : Mem w) (k : Nat) :
    run body P m0 (k + 1) = Mem.par P (body k (run body P m0 k)) := rfl
theorem mid_eq (body : Nat → Mem w → Mem w) (P : List (Int × Expr w)) (m0 : Mem w) (k : Nat) :
    mid body P m0 k = body k (run body P m0 k) := rfl
theorem run_id (P : List (Int × Expr w)) (m0 : Mem w) (k : Nat) :
    run (fun _ m => m) P m0 k = Mem.iter P k m0 := OptLoop.run_id P m0 k

theorem runsExactly_iff (cv : Nat → BitVec w) (n : Nat) :
    RunsExactly cv n ↔ (∀ k, k < n → cv k ≠ 0#w) ∧ cv n = 0#w := Iff.rfl
theorem diverges_iff (cv : Nat → BitVec w) : Diverges cv ↔ ∀ k, cv k ≠ 0#w := Iff.rfl
theorem live_iff (cv : Nat → BitVec w) (k : Nat) : Live cv k ↔ ∀ j, j ≤ k → cv j ≠ 0#w := Iff.rfl
theorem runsExactly_unique {cv : Nat → BitVec w} {n n' : Nat} (h : RunsExactly cv n)
    (h' : RunsExactly cv n') : n = n' := OptLoop.runsExactly_unique h h'

theorem accN_zero (g : Nat → BitVec w) : accN g 0 = 0#w := rfl
theorem accN_succ (g : Nat → BitVec w) (n : Nat) : accN g (n + 1) = accN g n + g n := rfl
theorem sumL_nil {α : Type} (g : α → BitVec w) : sumL g [] = 0#w := rfl
theorem sumL_cons {α : Type} (g : α → BitVec w) (a : α) (l : List α) :
    sumL g (a :: l) = g a + sumL g l := rfl

theorem ev_congr (e : Expr w) (m m' : Mem w) (h : ∀ v ∈ Expr.variables e, m v = m' v) :
    ev e m = ev e m' := OptLoop.ev_congr e m m' h

theorem symbEvaluate_varsIn {S : Int → Prop} (g : Int → Option (Expr w)) (e r : Expr w)
    (hg : ∀ v ∈ Expr.variables e, ∀ e', g v = some e' → ∀ x ∈ Expr.variables e', S x)
    (h : symbEvaluate e g = some r) : ∀ x ∈ Expr.variables r, S x :=
  varsIn_iff.1 (OptLoop.symbEvaluate_varsIn g e r (fun v hv e' he' => varsIn_iff.2 (hg v hv e' he')) h)

theorem groupedVars_eq (e : Expr w) : groupedVars e = e.map (·.vars) := rfl
theorem mem_variables_iff_groupedVars (e : Expr w) (v : Int) :
    v ∈ Expr.variables e ↔ ∃ g ∈ groupedVars e, v ∈ g := by
  simp [Expr.variables, groupedVars, List.mem_flatMap]

theorem shiftVars_value (e : Expr w) (shift : Int) (m : Mem w) :
    ev (shiftVars e shift) m = ev e (fun v => m (v + shift)) := OptSem.shiftVars_value e shift m
theorem shiftVars_variables (e : Expr w) (shift : Int) :
    Expr.variables (shiftVars e shift) = (Expr.variables e).map (· + shift) :=
  OptLoop.shiftVars_variables e shift
theorem shiftVars_zero (e : Expr w) : shiftVars e 0 = e := by
  induction e with
  | nil => rfl
  | cons p e ih =>
    have : shiftVars (p :: e) 0 = { p with vars := p.vars.map (· + 0) } :: shiftVars e 0 := rfl
    rw [this, ih]; simp

theorem reduceConst_total (s : Rebuild w) (ps : List (Rebuild w)) (e : Expr w) (constant : List Int) :
    ∃ e', reduceConst s ps e constant = .ok e' := OptLoop.reduceConst_total s ps e constant
theorem reduceConst_value (s : Rebuild w) (ps : List (Rebuild w)) (e e' : Expr w) (constant : List Int)
    (h : reduceConst s ps e constant = .ok e') (f : Mem w)
    (hf : ∀ i ∈ Expr.variables e, constant.contains i = true →
      ∀ c, getConstant s ps i = some c → f i = c) :
    ev e' f = ev e f := OptLoop.reduceConst_value s ps e e' constant h f hf
theorem reduceConst_varsIn (s : Rebuild w) (ps : List (Rebuild w)) (e e' : Expr w) (constant : List Int)
    (h : reduceConst s ps e constant = .ok e') :
    ∀ x ∈ Expr.variables e', x ∈ Expr.variables e := OptLoop.reduceConst_varsIn s ps e e' constant h
theorem reduceConst_canon (s : Rebuild w) (ps : List (Rebuild w)) (e e' : Expr w) (constant : List Int)
    (h : reduceConst s ps e constant = .ok e') (hc : Canon e) : Canon e' :=
  OptLoop.reduceConst_canon s ps e e' constant h hc

theorem splitAlong_recompose (e : Expr w) (constant : List Int) (linear : List (Int × Expr w))
    (cst other : Expr w) (lins : List (Expr w × Expr w))
    (h : splitAlong e constant linear = .ok (cst, other, lins)) :
    (∀ f : Mem w, ev e f = ev cst f + ev other f + sumL (fun il => ev il.1 f) lins) ∧
    (∀ x ∈ Expr.variables cst, constant.contains x = true) ∧
    (∀ p ∈ cst, p ∈ e) ∧ (∀ p ∈ other, p ∈ e) ∧
    (∀ il ∈ lins, LinPart constant linear e il) :=
  OptLoop.splitAlong_recompose e constant linear cst other lins h

theorem linPart_value {constant : List Int} {linear : List (Int × Expr w)} {e : Expr w}
    {il : Expr w × Expr w} (h : LinPart constant linear e il) :
    ∃ (part : Part w) (lv : Int) (l : Expr w),
      part ∈ e ∧ il.1 = [part] ∧ lv ∈ part.vars ∧ constant.contains lv = false ∧
      mGet linear lv = some l ∧
      (∀ x ∈ part.vars, x = lv ∨ constant.contains x = true) ∧
      ∀ f : Mem w,
        ev il.1 f = f lv * ev [incPart part lv] f ∧
        ev il.2 f = ev [incPart part lv] f * ev l f := OptLoop.linPart_value h

theorem tripCount_runs (hw : 0 < w) (cv : Nat → BitVec w) (inc n : BitVec w)
    (hrec : ∀ k, Live cv k → cv (k + 1) = cv k + inc)
    (h : OptArith.tripCount (cv 0) inc = some n) : RunsExactly cv n.toNat :=
  OptLoop.tripCount_runs hw cv inc n hrec h

theorem tripCount_diverges (hw : 0 < w) (cv : Nat → BitVec w) (inc : BitVec w)
    (hrec : ∀ k, Live cv k → cv (k + 1) = cv k + inc)
    (h : OptArith.tripCount (cv 0) inc = none) : Diverges cv :=
  OptLoop.tripCount_diverges hw cv inc hrec h

theorem tripInv_runs (hw : 0 < w) (cv : Nat → BitVec w) (inc inv : BitVec w)
    (hrec : ∀ k, Live cv k → cv (k + 1) = cv k + inc)
    (h : OptArith.tripInv inc = some inv) : RunsExactly cv (inv * cv 0).toNat :=
  OptLoop.tripInv_runs hw cv inc inv hrec h

/-- `tripCount_runs` for a balanced loop without emitted instructions (`Mem.iter`). -/
theorem tripCount_iter (hw : 0 < w) (P : List (Int × Expr w)) (cond : Int) (c n : BitVec w) (m0 : Mem w)
    (hstep : ∀ m : Mem w, Mem.par P m cond = m cond + c)
    (h : OptArith.tripCount (m0 cond) c = some n) :
    RunsExactly (fun k => Mem.iter P k m0 cond) n.toNat :=
  OptLoop.tripCount_runs hw (fun k => Mem.iter P k m0 cond) c n
    (fun k _ => by show Mem.iter P (k + 1) m0 cond = _; rw [iter_succ', hstep]) h
theorem tripCount_iter_none (hw : 0 < w) (P : List (Int × Expr w)) (cond : Int) (c : BitVec w) (m0 : Mem w)
    (hstep : ∀ m : Mem w, Mem.par P m cond = m cond + c)
    (h : OptArith.tripCount (m0 cond) c = none) :
    Diverges (fun k => Mem.iter P k m0 cond) :=
  OptLoop.tripCount_diverges hw (fun k => Mem.iter P k m0 cond) c
    (fun k _ => by show Mem.iter P (k + 1) m0 cond = _; rw [iter_succ', hstep]) h
theorem tripInv_iter (hw : 0 < w) (P : List (Int × Expr w)) (cond : Int) (c inv : BitVec w) (m0 : Mem w)
    (hstep : ∀ m : Mem w, Mem.par P m cond = m cond + c)
    (h : OptArith.tripInv c = some inv) :
    RunsExactly (fun k => Mem.iter P k m0 cond) (inv * m0 cond).toNat :=
  OptLoop.tripInv_runs hw (fun k => Mem.iter P k m0 cond) c inv
    (fun k _ => by show Mem.iter P (k + 1) m0 cond = _; rw [iter_succ', hstep]) h

theorem loopMeaning_iff (L : OptLoop w) (cv : Nat → BitVec w) (cond : Int) :
    LoopMeaning L cv cond ↔
      (L.never = true → cv 0 = 0#w) ∧
      (L.atLeastOnce = true → cv 0 ≠ 0#w) ∧
      (L.atMostOnce = true → cv 0 = 0#w ∨ cv 1 = 0#w) ∧
      (L.finite = true → ∃ n, RunsExactly cv n) ∧
      (L.noContinue = true → Diverges cv) ∧
      (L.noEffect = true → cv 0 = 0#w ∨ Diverges cv) ∧
      (∀ e, L.expr = some e →
        ((∃ c, e = Expr.val c) ∨
          (∃ inv, Cell.isOdd inv = true ∧ e = Expr.mul (Expr.val inv) (Expr.var cond))) ∧
        ∀ m0 : Mem w, m0 cond = cv 0 →
          ∃ n, RunsExactly cv n ∧ n < 2 ^ w ∧ ev e m0 = BitVec.ofNat w n) :=
  ⟨fun h => ⟨h.never, h.atLeastOnce, h.atMostOnce, h.finite, h.noContinue, h.noEffect, h.expr⟩,
   fun h => ⟨h.1, h.2.1, h.2.2.1, h.2.2.2.1, h.2.2.2.2.1, h.2.2.2.2.2.1, h.2.2.2.2.2.2⟩⟩

/-- `analyzeLoop` is sound for a loop (or `if`) whose body returns, given the meaning of its queries
(`CondFacts`: `getConstant`/`isNonZero` on the parent at loop entry, `getConstant`/`getBoth` on the body state
for the condition cell). -/
theorem analyzeLoop_sound (hw : 0 < w) (s : Rebuild w) (ps : List (Rebuild w)) (sub : Rebuild w)
    (cond : Int) (isLoop : Bool) (cv : Nat → BitVec w) (hf : CondFacts s ps sub cond isLoop cv)
    (hnr : sub.noReturn = false) :
    LoopMeaning (analyzeLoop s ps sub cond isLoop) cv cond :=
  analyzeLoop_sound' hw s ps sub cond isLoop cv hf.to' hnr

theorem condFacts_iff (s : Rebuild w) (ps : List (Rebuild w)) (sub : Rebuild w) (cond : Int) (isLoop : Bool)
    (cv : Nat → BitVec w) :
    CondFacts s ps sub cond isLoop cv ↔
      (∀ c, getConstant s ps cond = some c → cv 0 = c) ∧
      (isNonZero s ps cond = true → cv 0 ≠ 0#w) ∧
      (isLoop = false → cv 0 ≠ 0#w → cv 1 = 0#w) ∧
      (∀ c, getConstant sub (s :: ps) (cond + sub.shift - s.shift) = some c →
        ∀ k, Live cv k → cv (k + 1) = c) ∧
      (∀ e, getBoth sub (s :: ps) (cond + sub.shift - s.shift) = some e →
        ∀ k, Live cv k → ∃ f : Mem w, f cond = cv k ∧ cv (k + 1) = ev e f) :=
  ⟨fun h => ⟨h.init, h.nz, h.ifOnce, h.stored, h.both⟩,
   fun h => ⟨h.1, h.2.1, h.2.2.1, h.2.2.2.1, h.2.2.2.2⟩⟩

theorem analyzeLoop_noReturn (s : Rebuild w) (ps : List (Rebuild w)) (sub : Rebuild w)
    (cond : Int) (isLoop : Bool) (hnr : sub.noReturn = true) :
    (getConstant s ps cond = some 0#w ∧ analyzeLoop s ps sub cond isLoop = OptLoop.ofExpr (Expr.val 0#w)) ∨
    (getConstant s ps cond ≠ some 0#w ∧
      analyzeLoop s ps sub cond isLoop = OptLoop.noReturn (isNonZero s ps cond)) :=
  OptLoop.analyzeLoop_noReturn s ps sub cond isLoop hnr

/-- `finishLoop` uses `toAtLeastOnce` for the loop inside the `if` it builds. -/
theorem toAtLeastOnce_meaning {L : OptLoop w} {cv : Nat → BitVec w} {cond : Int}
    (h : LoopMeaning L cv cond) (h0 : cv 0 ≠ 0#w) : LoopMeaning L.toAtLeastOnce cv cond :=
  ⟨h.never, fun _ => h0, h.atMostOnce, h.finite, h.noContinue, h.noEffect, h.expr⟩

/-- From the meaning of the analysis to the trip-count hypotheses of `loopMotion_all_sound`. -/
theorem tripFacts_of_meaning (hw : 0 < w) {L : OptLoop w} {cv : Nat → BitVec w} {cond : Int}
    (h : LoopMeaning L cv cond) (m0 : Mem w) (hm0 : m0 cond = cv 0) (n : Nat) (hn : RunsExactly cv n) :
    TripFacts L n m0 ∧ (L.atMostOnce = true → n ≤ 1) ∧ (L.noEffect = true → n = 0) :=
  OptLoop.tripFacts_of_meaning hw h m0 hm0 n hn

theorem tripFacts_iff (L : OptLoop w) (n : Nat) (m0 : Mem w) :
    TripFacts L n m0 ↔ ∀ expr, L.expr = some expr →
      ev expr m0 = BitVec.ofNat w n ∧ n < 2 ^ w ∧
      ∀ initial increment before r b, OptArith.triStep expr initial increment before = (b, r) → b ≠ 0 →
        ev r m0 = ev before m0 + C01Opt.tri (ev initial m0) (ev increment m0) n := Iff.rfl

theorem good_iff (s : Rebuild w) (ps : List (Rebuild w)) (sub : Rebuild w) (C : List Int) (c : Int) :
    Good s ps sub C c ↔ ∃ vs, IsCand s ps sub c vs ∧ ∀ x ∈ vs, x = c ∨ x ∈ C := Iff.rfl

theorem isCand_iff (s : Rebuild w) (ps : List (Rebuild w)) (sub : Rebuild w) (var : Int) (vs : List Int) :
    IsCand s ps sub var vs ↔
      match mGet sub.written var with
      | some (.known wr) =>
        compare s ps (Expr.var var) wr = .ok true ∧
          (match mGet sub.pending var with
           | some p => compare s ps (Expr.var var) p = .ok true ∧ vs = Expr.variables wr ++ Expr.variables p
           | none => vs = Expr.variables wr)
      | some _ => False
      | none =>
        match mGet sub.pending var with
        | some p => compare s ps (Expr.var var) p = .ok true ∧ vs = Expr.variables p
        | none => vs = [] := Iff.rfl

theorem constantsAmong_good (s : Rebuild w) (ps : List (Rebuild w)) (sub : Rebuild w) (vars : List Int)
    (C : List Int) (hnd : vars.Nodup) (h : constantsAmong s ps sub vars = .ok C) :
    ∀ c ∈ C, Good s ps sub C c := OptLoop.constantsAmong_good s ps sub vars C hnd h

/-- Every variable of the result of `constantsAmong` has, at the start and in the middle of every round, the
value it has at loop entry.  Assumed: `compare s ps (var v) e = ok true` means that `e` has the value of `v` at
loop entry (`hcmp`), and `sub.written` is right about the emitted instructions (`BodyFacts`). -/
theorem constantsAmong_sound (s : Rebuild w) (ps : List (Rebuild w)) (sub : Rebuild w) (vars : List Int)
    (C : List Int) (m0 : Mem w) (body : Nat → Mem w → Mem w)
    (hC : constantsAmong s ps sub vars = .ok C) (hnd : vars.Nodup)
    (hcmp : ∀ v e, compare s ps (Expr.var v) e = .ok true → ev e m0 = m0 v)
    (hb : BodyFacts sub body (run body sub.pending m0)) :
    ∀ k, ∀ c ∈ C, run body sub.pending m0 k c = m0 c ∧ mid body sub.pending m0 k c = m0 c := by
  intro k c hc
  obtain ⟨hrun, hmid⟩ := constantsAmong_sound_h s ps sub vars C m0 body (k + 1) hC hnd hcmp (hb.toH _)
  exact ⟨hrun k (by omega) c hc, hmid k (by omega) c hc⟩

theorem bodyFacts_iff (sub : Rebuild w) (body : Nat → Mem w → Mem w) (M : Nat → Mem w) :
    BodyFacts sub body M ↔
      (∀ k v, mGet sub.written v = none → body k (M k) v = M k v) ∧
      (∀ k v e, mGet sub.written v = some (.known e) → body k (M k) v = ev e (M k)) :=
  ⟨fun h => ⟨h.unwritten, h.known⟩, fun h => ⟨h.1, h.2⟩⟩

/-- `constantsAmong_sound` without emitted instructions: `n`-fold repetition of the pending assignment. -/
theorem constantsAmong_sound_iter (s : Rebuild w) (ps : List (Rebuild w)) (sub : Rebuild w)
    (vars : List Int) (C : List Int) (m0 : Mem w)
    (hC : constantsAmong s ps sub vars = .ok C) (hnd : vars.Nodup) (hwr : sub.written = [])
    (hcmp : ∀ v e, compare s ps (Expr.var v) e = .ok true → ev e m0 = m0 v) :
    ∀ n, ∀ c ∈ C, Mem.iter sub.pending n m0 c = m0 c := by
  intro n c hc
  rw [← OptLoop.run_id]
  exact (constantsAmong_sound s ps sub vars C m0 (fun _ m => m) hC hnd hcmp (bodyFacts_id sub _ hwr) n c hc).1

theorem linearAmong_spec (s : Rebuild w) (ps : List (Rebuild w)) (sub : Rebuild w) (constant : List Int)
    (vars : List Int) (v : Int) (inc : Expr w)
    (h : mGet (linearAmong s ps sub constant vars) v = some inc) :
    v ∈ vars ∧ mGet sub.written v = none ∧
    ∃ complete, getBoth sub (s :: ps) v = some complete ∧ Expr.incOf complete v = some inc ∧
      ∀ x ∈ Expr.variables inc, constant.contains x = true :=
  OptLoop.linearAmong_spec s ps sub constant vars v inc h

/-- A linear variable is not written by the emitted instructions, its increment is over constants and does not
mention it, and `k` rounds add `k` times the value of the increment at loop entry.  Assumed: `getBoth` on the body
state is the total effect of a round (`hgb`, i.e. `GetBothFacts`) and the constants are constant (`hconst`). -/
theorem linearAmong_sound (s : Rebuild w) (ps : List (Rebuild w)) (sub : Rebuild w) (C : List Int)
    (vars : List Int) (M : Nat → Mem w)
    (hgb : ∀ v e, getBoth sub (s :: ps) v = some e → WeakCanon e ∧ ∀ k, M (k + 1) v = ev e (M k))
    (hconst : ∀ k, ∀ c ∈ C, M k c = M 0 c)
    (v : Int) (inc : Expr w) (h : mGet (linearAmong s ps sub C vars) v = some inc) :
    mGet sub.written v = none ∧
    (∀ x ∈ Expr.variables inc, C.contains x = true) ∧
    v ∉ Expr.variables inc ∧
    (∀ k, M (k + 1) v = M k v + ev inc (M k)) ∧
    (∀ k, M k v = M 0 v + BitVec.ofNat w k * ev inc (M 0)) :=
  have r := fun N => linearAmong_sound_h s ps sub C vars M N
    (fun v e he => ⟨(hgb v e he).1, fun k _ => (hgb v e he).2 k⟩) (fun k _ => hconst k) v inc h
  ⟨(r 0).unwritten, (r 0).overConst, (r 0).fresh, fun k => (r (k + 1)).step k (Nat.lt_succ_self k),
    fun k => (r k).closed k (Nat.le_refl k)⟩

theorem loopMotion_cases (s : Rebuild w) (ps : List (Rebuild w)) (var : Int) (p : Expr w)
    (complete : Bool) (reads C : List Int) (lin : List (Int × Expr w)) (otherPending : List Int)
    (L : OptLoop w) (r : Option (Expr w) × Option (Expr w) × Option (Expr w))
    (h : loopMotion s ps var p complete reads C lin otherPending L = .ok r) :
    MotionCase s ps var p complete reads C lin otherPending L r :=
  OptLoop.loopMotion_cases s ps var p complete reads C lin otherPending L r h

theorem triFold_spec (expr : Expr w) (n : Nat) (m0 : Mem w) (E : Nat → Mem w) (htri : TriOk expr n m0)
    (linears : List (Expr w × Expr w))
    (hlin : ∀ il ∈ linears, ∀ k, ev il.1 (E k) = ev il.1 m0 + BitVec.ofNat w k * ev il.2 m0)
    (ba0 : Expr w × Expr w) :
    ev (linears.foldl (triFoldStep expr) ba0).1 m0
        + accN (fun k => ev (linears.foldl (triFoldStep expr) ba0).2 (E k)) n
      = ev ba0.1 m0 + accN (fun k => ev ba0.2 (E k)) n
        + sumL (fun il => C01Opt.tri (ev il.1 m0) (ev il.2 m0) n) linears :=
  OptLoop.triFold_spec expr n m0 E htri linears (fun il hil k _ => hlin il hil k) ba0

theorem movedSem_iff (sub : Rebuild w) (body : Nat → Mem w → Mem w) (m0 : Mem w) (n : Nat) (var : Int)
    (p b : Expr w) (d : Option (Expr w)) :
    MovedSem sub body m0 n var p b d ↔
      ∃ dinc : Expr w,
        (d = some (Expr.add (Expr.var var) dinc) ∨ (d = none ∧ dinc = [])) ∧
        (∀ x ∈ Expr.variables dinc, x ∈ Expr.variables p ∧ x ≠ var) ∧
        ev b m0 + accN (fun k => ev dinc (mid body sub.pending m0 k)) n
          = run body sub.pending m0 n var := Iff.rfl

/-- One variable, every outcome of `loopMotion` with a `before` expression (constant part times the trip count,
triangular sums, geometric closed forms): the value after `n` rounds of the original loop is `before` evaluated
at loop entry plus what `during` still adds, summed over the rounds. -/
theorem loopMotion_sound (hw : 0 < w) {s : Rebuild w} {ps : List (Rebuild w)} {sub : Rebuild w}
    {C : List Int} {lin : List (Int × Expr w)} {m0 : Mem w} {body : Nat → Mem w → Mem w}
    (ctx : MotionCtx s ps sub C lin m0 body) {var : Int}
    {p : Expr w} {complete : Bool} {reads otherPending : List Int} {L : OptLoop w} {n : Nat}
    {b : Expr w} {d a : Option (Expr w)}
    (hp : mGet sub.pending var = some p) (hcomp : complete = true → mGet sub.written var = none)
    (hcanon : Canon p) (htrip : TripFacts L n m0)
    (h : loopMotion s ps var p complete reads C lin otherPending L = .ok (some b, d, a)) :
    a = none ∧ reads.contains var = false ∧ complete = true ∧ C.contains var = false ∧
      MovedSem sub body m0 n var p b d :=
  loopMotion_moved_sound hw (ctx.toH n) (Nat.le_refl n) hp hcomp hcanon htrip
    (OptLoop.loopMotion_cases s ps var p complete reads C lin otherPending L _ h)

theorem motionCtx_iff (s : Rebuild w) (ps : List (Rebuild w)) (sub : Rebuild w) (C : List Int)
    (lin : List (Int × Expr w)) (m0 : Mem w) (body : Nat → Mem w → Mem w) :
    MotionCtx s ps sub C lin m0 body ↔
      (∀ k c, C.contains c = true →
        run body sub.pending m0 k c = m0 c ∧ mid body sub.pending m0 k c = m0 c) ∧
      (∀ i c, C.contains i = true → getConstant s ps i = some c → m0 i = c) ∧
      (∀ v inc, mGet lin v = some inc → LinSound sub C (run body sub.pending m0) v inc) ∧
      BodyFacts sub body (run body sub.pending m0) :=
  ⟨fun h => ⟨h.const, h.known, h.lin, h.body⟩, fun h => ⟨h.1, h.2.1, h.2.2.1, h.2.2.2⟩⟩

/-- All pending variables at once.  Original loop `M k = run body P m0 k` (`P = sub.pending`); new loop
`M' k = run body D (Mem.par B m0) k`.  The runs agree on everything that is read and on every cell that is
neither moved nor (non-constant and) assigned after the loop; after `n ≥ 1` rounds `Mem.par A (M' n) = M n`; if the loop is not entered, `before` changes nothing. -/
theorem loopMotion_all_sound (hw : 0 < w) {s : Rebuild w} {ps : List (Rebuild w)} {sub : Rebuild w}
    {reads C : List Int} {lin : List (Int × Expr w)} {otherPending : List Int} {L : OptLoop w} {n : Nat}
    {B D A : List (Int × Expr w)} {m0 : Mem w} {body : Nat → Mem w → Mem w}
    (ctx : MotionCtx s ps sub C lin m0 body)
    (htrip : TripFacts L n m0)
    (hcanon : ∀ v p, mGet sub.pending v = some p → Canon p)
    (hall : MotionAll s ps sub reads C lin otherPending L n B D A)
    (hrf : ReadFacts sub reads body (run body sub.pending m0))
    (hop : ∀ x, otherPending.contains x = false → mGet sub.pending x = none ∨ C.contains x = true)
    (hamo : L.atMostOnce = true → n ≤ 1) :
    (∀ k, k < n → ∀ r, reads.contains r = true →
      run body D (Mem.par B m0) k r = run body sub.pending m0 k r) ∧
    (∀ k, k ≤ n → ∀ v, ¬ (mGet B v ≠ none ∨ (mGet A v ≠ none ∧ C.contains v = false)) →
      run body D (Mem.par B m0) k v = run body sub.pending m0 k v) ∧
    (∀ v, mGet A v = none → run body D (Mem.par B m0) n v = run body sub.pending m0 n v) ∧
    (0 < n → Mem.par A (run body D (Mem.par B m0) n) = run body sub.pending m0 n) ∧
    (n = 0 → Mem.par B m0 = m0) :=
  let ⟨h1, h2, _, h3⟩ := loopMotion_all_sound_h hw (ctx.toH n) (Nat.le_refl n) htrip hcanon hall ((hrf.toH n).at _)
    hop hamo
  ⟨h1, h2, h3⟩

theorem readFacts_iff (sub : Rebuild w) (reads : List Int) (body : Nat → Mem w → Mem w) (M : Nat → Mem w) :
    ReadFacts sub reads body M ↔
      (∀ v p x, mGet sub.pending v = some p → x ∈ Expr.variables p → x ≠ v → reads.contains x = true) ∧
      (∀ k (m' : Mem w) (Z : Int → Prop), (∀ z, Z z → reads.contains z = false) →
        (∀ v, ¬ Z v → m' v = M k v) → ∀ v, ¬ Z v → body k m' v = body k (M k) v) ∧
      (∀ k (m' : Mem w) v, mGet sub.written v = none → body k m' v = m' v) :=
  ⟨fun h => ⟨h.pendReads, h.bodyNI, h.frame⟩, fun h => ⟨h.1, h.2.1, h.2.2⟩⟩

theorem motionAll_iff (s : Rebuild w) (ps : List (Rebuild w)) (sub : Rebuild w) (reads C : List Int)
    (lin : List (Int × Expr w)) (otherPending : List Int) (L : OptLoop w) (n : Nat)
    (B D A : List (Int × Expr w)) :
    MotionAll s ps sub reads C lin otherPending L n B D A ↔
      (∀ var p, mGet sub.pending var = some p →
        ∃ b d a, MotionCase s ps var p (!mHas sub.written var) reads C lin otherPending L (b, d, a) ∧
          mGet B var = b ∧ mGet D var = d ∧ (mGet A var = a ∨ (n = 0 ∧ mGet A var = none))) ∧
      (∀ var, mGet sub.pending var = none →
        mGet B var = none ∧ mGet D var = none ∧ mGet A var = none) :=
  ⟨fun h => ⟨h.pend, h.nopend⟩, fun h => ⟨h.1, h.2⟩⟩

/-- The loop of `finishLoop` over the pending variables (`motionStepM`, see `OptLoop.finishLoop_eq`) yields
`MotionAll`, and does not consume the oracle. -/
theorem motionFold_spec (s : Rebuild w) (ps : List (Rebuild w)) (sub : Rebuild w) (R C : List Int)
    (lin : List (Int × Expr w)) (pset : List Int) (L : OptLoop w) (pending : List Int) (n : Nat)
    (sub' : Rebuild w) (B D A : List (Int × Expr w)) (os os' : Orders)
    (hnd : pending.Nodup) (hkeys : ∀ v p, mGet sub.pending v = some p → v ∈ pending)
    (hne : L.noEffect = true → n = 0)
    (h : pending.foldlM (motionStepM s ps R C lin pset L) (sub, [], [], []) os = .ok ((sub', B, D, A), os')) :
    os' = os ∧ MotionAll s ps sub R C lin pset L n B D A :=
  let ⟨h1, h2⟩ := motionFold_spec_e s ps sub R C lin pset L pending sub' B D A os os' hnd hkeys h
  ⟨h1, h2.toAll n hne⟩

/-- `loopMotion_all_sound` at the values `finishLoop` computes. -/
theorem finishLoop_motion_sound (hw : 0 < w) (s : Rebuild w) (ps : List (Rebuild w)) (sub sub' : Rebuild w)
    (cond : Int) (L : OptLoop w) (C : List Int) (B D A : List (Int × Expr w)) (os os' : Orders)
    (m0 : Mem w) (body : Nat → Mem w → Mem w) (n : Nat)
    (hC : constantsAmong s ps sub (sIns (possibleReads sub) cond ++
      (pendingSorted sub sub).filter (fun x => !(sIns (possibleReads sub) cond).contains x)) = .ok C)
    (hfold : (pendingSorted sub sub).foldlM
      (motionStepM s ps (sIns (possibleReads sub) cond) C
        (linearAmong s ps sub C (sIns (possibleReads sub) cond ++ pendingSorted sub sub))
        ((pendingSorted sub sub).filter (fun x => !C.contains x)) L) (sub, [], [], []) os
      = .ok ((sub', B, D, A), os'))
    (hreadsAsc : sub.reads.Pairwise (· < ·)) (hpendAsc : (sub.pending.map (·.1)).Pairwise (· < ·))
    (hcanon : ∀ v p, mGet sub.pending v = some p → Canon p)
    (hcmp : ∀ v e, compare s ps (Expr.var v) e = .ok true → ev e m0 = m0 v)
    (hknown : ∀ i c, getConstant s ps i = some c → m0 i = c)
    (hbody : BodyFacts sub body (run body sub.pending m0))
    (hgb : ∀ v e, getBoth sub (s :: ps) v = some e →
      WeakCanon e ∧ ∀ k, run body sub.pending m0 (k + 1) v = ev e (run body sub.pending m0 k))
    (hNI : ∀ k (m' : Mem w) (Z : Int → Prop),
      (∀ z, Z z → (sIns (possibleReads sub) cond).contains z = false) →
      (∀ v, ¬ Z v → m' v = run body sub.pending m0 k v) →
      ∀ v, ¬ Z v → body k m' v = body k (run body sub.pending m0 k) v)
    (hframe : ∀ k (m' : Mem w) v, mGet sub.written v = none → body k m' v = m' v)
    (htrip : TripFacts L n m0) (hamo : L.atMostOnce = true → n ≤ 1) (hne : L.noEffect = true → n = 0) :
    os' = os ∧
    (∀ k, k < n → ∀ r, (sIns (possibleReads sub) cond).contains r = true →
      run body D (Mem.par B m0) k r = run body sub.pending m0 k r) ∧
    (∀ k, k ≤ n → ∀ v, ¬ (mGet B v ≠ none ∨ (mGet A v ≠ none ∧ C.contains v = false)) →
      run body D (Mem.par B m0) k v = run body sub.pending m0 k v) ∧
    (∀ v, mGet A v = none → run body D (Mem.par B m0) n v = run body sub.pending m0 n v) ∧
    (0 < n → Mem.par A (run body D (Mem.par B m0) n) = run body sub.pending m0 n) ∧
    (n = 0 → Mem.par B m0 = m0) :=
  let ⟨h0, h1, h2, _, h3⟩ := finishLoop_motion hw
    (finishLoop_ctx_h s ps sub cond C m0 body n hC hreadsAsc hpendAsc hcmp hknown (hbody.toH n)
      (fun v e he => ⟨(hgb v e he).1, fun k _ => (hgb v e he).2 k⟩))
    hfold hpendAsc hcanon (fun k _ Z hz h => hNI k _ Z hz h) (fun k _ v hv => hframe k _ v hv) (Nat.le_refl n) htrip
    hamo hne
  ⟨h0, h1, h2, h3⟩

theorem pendReads_possibleReads (sub : Rebuild w) (cond : Int) (v : Int) (p : Expr w) (x : Int)
    (hp : mGet sub.pending v = some p) (hx : x ∈ Expr.variables p) (hne : x ≠ v) :
    (sIns (possibleReads sub) cond).contains x = true :=
  OptLoop.pendReads_possibleReads sub cond v p x hp hx hne
theorem reads_possibleReads (sub : Rebuild w) (cond : Int) (x : Int) (hx : x ∈ sub.reads) :
    (sIns (possibleReads sub) cond).contains x = true := OptLoop.reads_possibleReads sub cond x hx
theorem cond_possibleReads (sub : Rebuild w) (cond : Int) :
    (sIns (possibleReads sub) cond).contains cond = true := OptLoop.cond_possibleReads sub cond
theorem pendingSet_spec (sub : Rebuild w) (C : List Int) (x : Int)
    (h : ((pendingSorted sub sub).filter (fun x => !C.contains x)).contains x = false) :
    mGet sub.pending x = none ∨ C.contains x = true := OptLoop.pendingSet_spec sub C x h

/-! Examples at `w = 8`: the loop with pending assignment `x0 -= 1; x1 += x2; x2 += 2`, three rounds from
`x0 = 3, x1 = 5, x2 = 7`. -/

section Examples

private def s0 : Rebuild 8 := Rebuild.new 0 none .unknown none
private def P1 : List (Int × Expr 8) :=
  [(0, Expr.add (Expr.var 0) (Expr.val 255#8)), (1, Expr.add (Expr.var 1) (Expr.var 2)),
   (2, Expr.add (Expr.var 2) (Expr.val 2#8))]
private def sub1 : Rebuild 8 := { (Rebuild.new 0 (some 0) .parent none : Rebuild 8) with pending := P1 }
/-- trip count `1 * x0` (step `-1`) -/
private def L1 : OptLoop 8 := OptLoop.ofExpr (Expr.mul (Expr.val 1#8) (Expr.var 0))
private def lin1 : List (Int × Expr 8) := [(0, [⟨255#8, []⟩]), (2, [⟨2#8, []⟩])]
private def m1 : Mem 8 := fun v => if v = 0 then 3#8 else if v = 1 then 5#8 else if v = 2 then 7#8 else 0#8
/-- `x1 + x0*x2 + x0*(x0 - 1)` -/
private def before1 : Expr 8 := [⟨255#8, [0]⟩, ⟨1#8, [0, 0]⟩, ⟨1#8, [0, 2]⟩, ⟨1#8, [1]⟩]

/- the analysis of this loop, and its three rounds -/
example : (analyzeLoop s0 [] sub1 0 true).expr = some (Expr.mul (Expr.val 1#8) (Expr.var 0)) := by
  decide +kernel
example : RunsExactly (fun k => Mem.iter P1 k m1 0) 3 :=
  tripInv_iter (by decide) P1 0 255#8 1#8 m1
    (fun m => by rw [par_of_get P1 m 0 _ rfl, ev_add, ev_var, ev_val]) (by decide)
example : Mem.iter P1 3 m1 0 = 0#8 ∧ Mem.iter P1 2 m1 0 ≠ 0#8 := by decide +kernel

/- nothing pending is constant; a cell without operation is; `x0` and `x2` are linear -/
example : constantsAmong s0 [] sub1 [0, 2, 1, 5] = .ok [5] := by decide +kernel
example : linearAmong s0 [] sub1 [] [0, 2, 0, 1, 2] = lin1 := by decide +kernel

/- the increment `x2` of `x1` is one linear part with increment `1 * 2` -/
example : splitAlong (Expr.var 2 : Expr 8) [] lin1
    = .ok ([], [], [(Expr.var 2, Expr.mul [⟨1#8, []⟩] [⟨2#8, []⟩])]) := by decide +kernel
example : reduceConst s0 [] (Expr.var 2 : Expr 8) [] = .ok (Expr.var 2) := by decide +kernel

/- `x1` is moved (triangular sum, alternative 1 of `triStep`), `x2` stays -/
example : loopMotion s0 [] 1 (Expr.add (Expr.var 1) (Expr.var 2)) true [0, 2] [] lin1 [0, 1, 2] L1
    = .ok (some before1, some (Expr.var 1), none) := by decide +kernel
example : loopMotion s0 [] 2 (Expr.add (Expr.var 2) (Expr.val 2#8)) true [0, 2] [] lin1 [0, 1, 2] L1
    = .ok (none, some (Expr.add (Expr.var 2) (Expr.val 2#8)), none) := by decide +kernel
/- 5 + 7 + 9 + 11 -/
example : Mem.iter P1 3 m1 1 = 32#8 ∧ ev before1 m1 = 32#8 := by decide +kernel

/- geometric closed form: `x3 = 3*x3 + 1`, four rounds from `x3 = 2`: `81*2 + 40 = 202` -/
private def P2 : List (Int × Expr 8) :=
  [(0, Expr.add (Expr.var 0) (Expr.val 255#8)),
   (3, Expr.add (Expr.mul (Expr.val 3#8) (Expr.var 3)) (Expr.val 1#8))]
private def m2 : Mem 8 := fun v => if v = 0 then 4#8 else if v = 3 then 2#8 else 0#8
example : loopMotion s0 [] 3 (Expr.add (Expr.mul (Expr.val 3#8) (Expr.var 3)) (Expr.val 1#8)) true [0] [] []
    [0, 3] (OptLoop.ofExpr (Expr.val 4#8))
    = .ok (some [⟨40#8, []⟩, ⟨81#8, [3]⟩], none, none) := by decide +kernel
example : Mem.iter P2 4 m2 3 = 202#8 ∧ ev ([⟨40#8, []⟩, ⟨81#8, [3]⟩] : Expr 8) m2 = 202#8 := by
  decide +kernel

/- computed from a constant (`x5`) only and not read in the loop: performed after the loop -/
example : loopMotion s0 [] 4 (Expr.add (Expr.var 5) (Expr.val 1#8)) true [0] [5] [] [0, 4]
    (OptLoop.ofExpr (Expr.var 0))
    = .ok (none, none, some (Expr.add (Expr.var 5) (Expr.val 1#8))) := by decide +kernel

end Examples

end Hpbf.C01Loop

#print axioms Hpbf.C01Loop.ev_congr
#print axioms Hpbf.C01Loop.symbEvaluate_varsIn
#print axioms Hpbf.C01Loop.shiftVars_value
#print axioms Hpbf.C01Loop.reduceConst_total
#print axioms Hpbf.C01Loop.reduceConst_value
#print axioms Hpbf.C01Loop.reduceConst_varsIn
#print axioms Hpbf.C01Loop.reduceConst_canon
#print axioms Hpbf.C01Loop.splitAlong_recompose
#print axioms Hpbf.C01Loop.linPart_value
#print axioms Hpbf.C01Loop.tripCount_runs
#print axioms Hpbf.C01Loop.tripCount_diverges
#print axioms Hpbf.C01Loop.tripInv_runs
#print axioms Hpbf.C01Loop.tripCount_iter
#print axioms Hpbf.C01Loop.tripCount_iter_none
#print axioms Hpbf.C01Loop.tripInv_iter
#print axioms Hpbf.C01Loop.analyzeLoop_sound
#print axioms Hpbf.C01Loop.analyzeLoop_noReturn
#print axioms Hpbf.C01Loop.tripFacts_of_meaning
#print axioms Hpbf.C01Loop.constantsAmong_good
#print axioms Hpbf.C01Loop.constantsAmong_sound
#print axioms Hpbf.C01Loop.constantsAmong_sound_iter
#print axioms Hpbf.C01Loop.linearAmong_spec
#print axioms Hpbf.C01Loop.linearAmong_sound
#print axioms Hpbf.C01Loop.loopMotion_cases
#print axioms Hpbf.C01Loop.triFold_spec
#print axioms Hpbf.C01Loop.loopMotion_sound
#print axioms Hpbf.C01Loop.loopMotion_all_sound
#print axioms Hpbf.C01Loop.motionFold_spec
#print axioms Hpbf.C01Loop.finishLoop_motion_sound
#print axioms Hpbf.OptLoop.finishLoop_eq
#print axioms Hpbf.C01Loop.pendReads_possibleReads
#print axioms Hpbf.C01Loop.pendingSet_spec
