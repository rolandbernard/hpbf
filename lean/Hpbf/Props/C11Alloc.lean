/-
Property C11 (part: the clauses of the bytecode contract that `allocate_temps` is responsible for).
"… no temporary is read before it is written on any path, and every register temporary whose value is still
needed after a non-branch instruction (the ones that may call the runtime or reuse an operand register) is declared
live across it."

`BcWf.check p numRegs = localOk p && initOk p (initSolve p) && liveOk p numRegs (liveSolve p)` decides the contract
per program (`Props/C11.lean` proves the checker sound).  This file proves that the second and the third conjunct
are `true` for every program the generator produces, so they need not be tested per program:

* §1  the dataflow solvers of the checker are COMPLETE: if any array is accepted by `initOk` (`liveOk`), the computed
      array `initSolve p` (`liveSolve p`) is accepted, provided the temporaries read by `p` are below `p.temps`
      (fixpoint iteration: greatest / least solution, reached within the fixed number of rounds);
* §2  the solution for the output of `allocate_temps`: `Held s tr k r` – before instruction `k` the replacement
      table of the pass maps a still needed virtual temporary to the physical temporary `r` – is closed under the
      control flow of the OUTPUT code, contains everything the output instruction reads, is empty at the entry, and
      the registers in it after a non-branch instruction are in the bitmap pushed in that round or written by it;
* §3  hence `initOk` and `liveOk` (with the checker's own arrays) hold for the output of the pass on every input
      satisfying `AllocPre` whose branches stay inside the code, in particular in the pipeline
      (`emitState` ; `deadStoreElim` ; `allocateTemps`, all IR programs, both values of `fuse`, every `numRegs`);
* §4  the late passes carry solutions along (`parameter_reordering`, `zeroing_move_detection`: same positions,
      each instruction reads a subset and writes the same temporaries; `strip_noops`: the solution restricted to the
      kept positions), so
* §5  `translateE prog numRegs fuse = .ok p → initOk p (initSolve p) = true ∧ liveOk p numRegs (liveSolve p) = true`,
      and, semantically, no instruction of `p` ever reads a temporary that was not written before on the path taken.
* §6  evaluation on concrete outputs, and a witness that the precondition (`flow`) is needed for the liveness
      clause.

The theorems below are those of `Hpbf/Proofs/C11Alloc*.lean`, restated as `example`s.  `localOk` (operand window,
declared counts, destination kinds, branch targets) is not treated here, except for the declared temporary count
(`translateE_temps_lt`).
-/
import Hpbf.Proofs.C11AllocEx

namespace Hpbf
namespace C02

open Bc BcWf BcGen C11 Alloc Alloc.Wf

variable {w : Nat}

/-! ### 1. The solvers of the checker are complete -/

/-- `initOk` / `liveOk` are exactly the fact bundles used by the soundness proofs of `Props/C11.lean`. -/
example (p : Program w) (I : Array (List Nat)) : initOk p I = true ↔ InitFacts p I :=
  ⟨initOk_facts, alloc_initOk_of_facts⟩
example (p : Program w) (numRegs : Nat) (O : Array (List Nat)) : liveOk p numRegs O = true ↔ LiveFacts p numRegs O :=
  ⟨liveOk_facts, alloc_liveOk_of_facts⟩

example (p : Program w) (T : Nat) : UsesLt p T ↔
    ∀ (i : Nat) (ins : Instr w), p.insts[i]? = some ins → ∀ t ∈ BcWf.uses ins, t < T := Iff.rfl

example (p : Program w) (I : Array (List Nat)) (hI : initOk p I = true) (hu : UsesLt p p.temps) :
    initOk p (initSolve p) = true := alloc_initOk_of_facts (alloc_initSolve_facts' (initOk_facts hI) hu)
example (p : Program w) (I : Array (List Nat)) (hI : initOk p I = true)
    (hb : ∀ i t, t ∈ BcWf.getD I i → t < p.temps) : initOk p (initSolve p) = true :=
  alloc_initSolve_complete hI hb
example (p : Program w) (numRegs : Nat) (O : Array (List Nat)) (hO : liveOk p numRegs O = true)
    (hu : UsesLt p p.temps) : liveOk p numRegs (liveSolve p) = true := alloc_liveSolve_complete hO hu

/-! ### 2. The sets of physical temporaries that hold a needed value -/

example (s : St w) (tr : Nat → ASt w) (k r : Nat) : Held s tr k r ↔
    ∃ t, alGet (tr k).repl t = some (.tmp r) ∧ LiveAt s k (tr k) t := Iff.rfl
example (s : St w) (k : Nat) (a : ASt w) (t : Nat) : LiveAt s k a t ↔
    ((∃ (r : RangeInfo) (L : Nat), s.ranges[t]? = some r ∧ r.lastUse = some L ∧ k ≤ L) ∨
     (∃ f op m t' s0 s1, Fused s k a f op m t' s0 s1 ∧ (s0 = .tmp t ∨ s1 = .tmp t))) := Iff.rfl

section
variable {s : St w} {numRegs : Nat} {tr : Nat → ASt w} (hp : AllocPre s) (T : Trace s numRegs tr)
include hp T

/-- `q` is the final instruction at `k` (`final_inst`: the one left by round `k`). -/
example {k : Nat} (hk : k < s.insts.size) : (tr s.insts.size).st.insts[k]? = (tr (k + 1)).st.insts[k]? :=
  final_inst hp T hk
example (r : Nat) : ¬ Held s tr 0 r := held_zero T r
example {k : Nat} (hk : k < s.insts.size) {q : Instr w} (hq : (tr (k + 1)).st.insts[k]? = some q) {r : Nat}
    (hr : r ∈ BcWf.uses q) : Held s tr k r := held_uses hp T hk hq hr
example {k : Nat} (hk : k < s.insts.size) {q : Instr w} (hq : (tr (k + 1)).st.insts[k]? = some q) {r : Nat}
    (h : Held s tr (k + 1) r) : Held s tr k r ∨ r ∈ BcWf.defs q := held_succ hp T hk hq h
example {k k' : Nat} (hk : k < s.insts.size) (hk' : k' ≤ s.insts.size) {x : Instr w} {off : Int}
    (hx : s.insts[k]? = some x) (hoff : branchOff? x = some off) (hkk : (k : Int) + off = (k' : Int)) {r : Nat}
    (h : Held s tr k' r) : Held s tr k r := held_jump hp T hk hk' hx hoff hkk h
/-- The bitmap: a register held after instruction `k` is written by it or has its bit set in `live[k]`. -/
example {k : Nat} (hk : k < s.insts.size) {q : Instr w} (hq : (tr (k + 1)).st.insts[k]? = some q) {r : Nat}
    (h : Held s tr (k + 1) r) (h1 : r < numRegs) (h2 : r < 16) :
    r ∈ BcWf.defs q ∨ (((tr s.insts.size).st.live[k]?).getD 0).testBit r = true := held_mask hp T hk hq h h1 h2
end

/-- `liveMask`: the bit of every register below `min numRegs 16` that is not free is set. -/
example (numRegs : Nat) (F : List Nat) (live : Nat) (h : liveMask numRegs F = .ok live) (hn : F.Nodup) (r : Nat)
    (h1 : r < numRegs) (h2 : r < 16) (hr : r ∉ F) : live.testBit r = true := liveMask_testBit h hn h1 h2 hr

/-! ### 3. The output of `allocate_temps` -/

example (insts : Array (Instr w)) (Tn : Nat) : TempsBelow insts Tn ↔
    ∀ (i : Nat) (q : Instr w), insts[i]? = some q → ∀ t ∈ BcWf.uses q, t < Tn := Iff.rfl
example (insts : Array (Instr w)) : TempsBelow insts (countTemps insts) := tempsBelow_countTemps insts

/-- For EVERY input satisfying `AllocPre` whose branches stay inside the code. -/
example (s s' : St w) (numRegs : Nat) (hp : AllocPre s) (hT : TargetsOk s.insts)
    (h : allocateTemps numRegs s = .ok s') (Tn : Nat) (mn mx : Int) (hb : TempsBelow s'.insts Tn) :
    initOk (progOf s' Tn mn mx) (initSolve (progOf s' Tn mn mx)) = true :=
  allocateTemps_initOk s s' numRegs hp hT h Tn mn mx hb
example (s s' : St w) (numRegs : Nat) (hp : AllocPre s) (hT : TargetsOk s.insts)
    (h : allocateTemps numRegs s = .ok s') (Tn : Nat) (mn mx : Int) (hb : TempsBelow s'.insts Tn) :
    liveOk (progOf s' Tn mn mx) numRegs (liveSolve (progOf s' Tn mn mx)) = true :=
  allocateTemps_liveOk s s' numRegs hp hT h Tn mn mx hb

/-- In the pipeline: every IR program, both values of `fuse`, every `numRegs`. -/
example (prog : Ir.Block w) (fuse : Bool) (numRegs : Nat) (s1 s2 s3 : St w)
    (h1 : emitState prog fuse = .ok s1) (h2 : deadStoreElim s1 = .ok s2)
    (h3 : allocateTemps numRegs s2 = .ok s3) (Tn : Nat) (mn mx : Int) (hb : TempsBelow s3.insts Tn) :
    initOk (progOf s3 Tn mn mx) (initSolve (progOf s3 Tn mn mx)) = true :=
  allocateTemps_initOk_of_emit h1 h2 h3 Tn mn mx hb
example (prog : Ir.Block w) (fuse : Bool) (numRegs : Nat) (s1 s2 s3 : St w)
    (h1 : emitState prog fuse = .ok s1) (h2 : deadStoreElim s1 = .ok s2)
    (h3 : allocateTemps numRegs s2 = .ok s3) (Tn : Nat) (mn mx : Int) (hb : TempsBelow s3.insts Tn) :
    liveOk (progOf s3 Tn mn mx) numRegs (liveSolve (progOf s3 Tn mn mx)) = true :=
  allocateTemps_liveOk_of_emit h1 h2 h3 Tn mn mx hb
example (prog : Ir.Block w) (fuse : Bool) (numRegs : Nat) (s1 s2 s3 : St w)
    (h1 : emitState prog fuse = .ok s1) (h2 : deadStoreElim s1 = .ok s2)
    (h3 : allocateTemps numRegs s2 = .ok s3) (mn mx : Int) :
    initOk (progOf s3 (countTemps s3.insts) mn mx) (initSolve (progOf s3 (countTemps s3.insts) mn mx)) = true ∧
    liveOk (progOf s3 (countTemps s3.insts) mn mx) numRegs (liveSolve (progOf s3 (countTemps s3.insts) mn mx)) = true :=
  allocateTemps_contract_of_emit h1 h2 h3 mn mx

/-! ### 4. The late passes -/

example (x x' : Instr w) : TmpSim x x' ↔
    ((∀ t, t ∈ BcWf.uses x' → t ∈ BcWf.uses x) ∧ (∀ t, t ∈ BcWf.defs x' ↔ t ∈ BcWf.defs x) ∧
     isBranch x' = isBranch x ∧ ∀ n i, BcWf.succs n i x' = BcWf.succs n i x) :=
  ⟨fun h => ⟨h.uses, h.defs, h.branch, h.succs⟩, fun ⟨a, b, c, d⟩ => ⟨a, b, c, d⟩⟩
example (B B' : Array (Instr w)) : InstsSim B B' ↔
    (B'.size = B.size ∧ ∀ (i : Nat) (x' : Instr w), B'[i]? = some x' → ∃ x, B[i]? = some x ∧ TmpSim x x') := Iff.rfl
example (x : Instr w) : TmpSim x (reorderInst x) := tmpSim_reorderInst x
example (s : St w) : InstsSim s.insts (parameterReordering s).insts := instsSim_parameterReordering s
example (s : St w) (h : ZmdPre s) (s' : St w) (hz : zeroingMoveDetection s = .ok s') :
    InstsSim s.insts s'.insts ∧ s'.live = s.live := zeroingMoveDetection_sim s h hz
example (p p' : Program w) (I : Array (List Nat)) (h : InitFacts p I) (hs : InstsSim p.insts p'.insts) :
    InitFacts p' I := initFacts_of_sim h hs
example (p p' : Program w) (numRegs : Nat) (O : Array (List Nat)) (h : LiveFacts p numRegs O)
    (hs : InstsSim p.insts p'.insts) (hl : p'.live = p.live) : LiveFacts p' numRegs O := liveFacts_of_sim h hs hl

/-- `strip_noops`: instructions as in `Stripped`, and the bitmaps move with the instructions. -/
example (s s' : St w) (hl : s.live.size = s.insts.size) (hT : TargetsOk s.insts) (h : stripNoops s = .ok s')
    (i : Nat) (x : Instr w) (hx : s.insts[i]? = some x) (hk : keep x = true) :
    s'.live[pos s.insts i]? = s.live[i]? :=
  (stripNoops_rel s s' hl hT h 0 0 0 0 0 0).live i x hx hk
example (p q : Program w) (R : StripRel p q) (I : Array (List Nat)) (h : InitFacts p I) :
    InitFacts q (stripArr I p.insts) := initFacts_strip R h
example (p q : Program w) (numRegs : Nat) (R : StripRel p q) (O : Array (List Nat)) (h : LiveFacts p numRegs O) :
    LiveFacts q numRegs (stripArr O p.insts) := liveFacts_strip R h

example (s s4 : St w) (h : LatePre s) (fuse : Bool) (h4 : latePasses fuse s = .ok s4) (t : Nat) (mn mx : Int)
    (I : Array (List Nat)) (hI : InitFacts (progOf s t mn mx) I) (t' : Nat) (mn' mx' : Int) :
    ∃ I', InitFacts (progOf s4 t' mn' mx') I' := latePasses_initFacts s s4 h fuse h4 hI t' mn' mx'
example (s s4 : St w) (h : LatePre s) (fuse : Bool) (h4 : latePasses fuse s = .ok s4) (numRegs t : Nat)
    (mn mx : Int) (O : Array (List Nat)) (hO : LiveFacts (progOf s t mn mx) numRegs O) (t' : Nat) (mn' mx' : Int) :
    ∃ O', LiveFacts (progOf s4 t' mn' mx') numRegs O' := latePasses_liveFacts s s4 h fuse h4 hO t' mn' mx'

/-! ### 5. The program returned by `translate` -/

example (prog : Ir.Block w) (numRegs : Nat) (fuse : Bool) (p : Program w)
    (h : translateE prog numRegs fuse = .ok p) :
    initOk p (initSolve p) = true ∧ liveOk p numRegs (liveSolve p) = true := translateE_initOk_liveOk h

/-- Hence `check` reduces to `localOk`. -/
example (prog : Ir.Block w) (numRegs : Nat) (fuse : Bool) (p : Program w)
    (h : translateE prog numRegs fuse = .ok p) : check p numRegs = localOk p := by
  obtain ⟨h1, h2⟩ := translateE_initOk_liveOk h
  simp [check, h1, h2]

example (prog : Ir.Block w) (numRegs : Nat) (fuse : Bool) (p : Program w)
    (h : translateE prog numRegs fuse = .ok p) (limited : Bool) (c : Cfg w) (W : List Nat) (ins : Instr w)
    (hw : Wr p limited c W) (hi : p.insts[c.pc]? = some ins) : ∀ t ∈ BcWf.uses ins, t ∈ W :=
  translateE_no_uninit_read h hw hi
example (prog : Ir.Block w) (numRegs : Nat) (fuse : Bool) (p : Program w)
    (h : translateE prog numRegs fuse = .ok p) (i : Nat) (ins : Instr w) (hi : p.insts[i]? = some ins) :
    ∀ t ∈ BcWf.uses ins ++ BcWf.defs ins, t < p.temps := translateE_temps_lt h hi

/-! ### 6. Evaluation -/

example (numRegs : Nat) (s : St 8) : allocContract numRegs s =
    (allocateTemps numRegs s).toOption.map (fun s' =>
      (initOk (progOf s' (countTemps s'.insts) (-8) 8) (initSolve (progOf s' (countTemps s'.insts) (-8) 8)),
       liveOk (progOf s' (countTemps s'.insts) (-8) 8) numRegs (liveSolve (progOf s' (countTemps s'.insts) (-8) 8)))) :=
  rfl
example : allocContract 2 exFuseGood = some (true, true) ∧ allocContract 0 exFuseGood = some (true, true) ∧
    allocContract 1 exFlowGood = some (true, true) := alloc_contract_examples
/-- Without `flow` the liveness clause fails (the pass succeeds and the checker rejects its output). -/
example : comps exFlowBad = [true, true, true, true, false, true, true, true, true] ∧
    allocContract 1 exFlowBad = some (true, false) := alloc_flow_needed_for_liveOk
example (numRegs : Nat) (s' : St 8) (h : allocateTemps numRegs exFuseGood = .ok s') :
    initOk (progOf s' (countTemps s'.insts) 0 0) (initSolve (progOf s' (countTemps s'.insts) 0 0)) = true ∧
    liveOk (progOf s' (countTemps s'.insts) 0 0) numRegs (liveSolve (progOf s' (countTemps s'.insts) 0 0)) = true :=
  alloc_contract_exFuseGood numRegs s' h

end C02
end Hpbf

#print axioms Hpbf.C02.Alloc.alloc_initOk_of_facts
#print axioms Hpbf.C02.Alloc.alloc_liveOk_of_facts
#print axioms Hpbf.C02.Alloc.alloc_initSolve_complete
#print axioms Hpbf.C02.Alloc.alloc_initSolve_facts'
#print axioms Hpbf.C02.Alloc.alloc_liveSolve_complete
#print axioms Hpbf.C02.Alloc.liveMask_testBit
#print axioms Hpbf.C02.Alloc.alloc_step_mask
#print axioms Hpbf.C02.Alloc.held_zero
#print axioms Hpbf.C02.Alloc.held_uses
#print axioms Hpbf.C02.Alloc.held_succ
#print axioms Hpbf.C02.Alloc.held_jump
#print axioms Hpbf.C02.Alloc.held_mask
#print axioms Hpbf.C02.Alloc.held_flow
#print axioms Hpbf.C02.Alloc.alloc_initFacts
#print axioms Hpbf.C02.Alloc.alloc_liveFacts
#print axioms Hpbf.C02.allocateTemps_initOk
#print axioms Hpbf.C02.allocateTemps_liveOk
#print axioms Hpbf.C02.allocateTemps_initOk_of_emit
#print axioms Hpbf.C02.allocateTemps_liveOk_of_emit
#print axioms Hpbf.C02.allocateTemps_contract_of_emit
#print axioms Hpbf.C02.Alloc.tmpSim_reorderInst
#print axioms Hpbf.C02.Alloc.zeroingMoveDetection_sim
#print axioms Hpbf.C02.Alloc.initFacts_of_sim
#print axioms Hpbf.C02.Alloc.liveFacts_of_sim
#print axioms Hpbf.C02.Alloc.stripNoops_rel
#print axioms Hpbf.C02.Alloc.initFacts_strip
#print axioms Hpbf.C02.Alloc.liveFacts_strip
#print axioms Hpbf.C02.latePasses_initFacts
#print axioms Hpbf.C02.latePasses_liveFacts
#print axioms Hpbf.C02.translateE_initOk_liveOk
#print axioms Hpbf.C02.translateE_no_uninit_read
#print axioms Hpbf.C02.translateE_temps_lt
#print axioms Hpbf.C02.alloc_contract_examples
#print axioms Hpbf.C02.alloc_flow_needed_for_liveOk
#print axioms Hpbf.C02.alloc_contract_exFuseGood
