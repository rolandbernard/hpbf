/-
C13 ("compilation is total") for the optimizer `Program::optimize` (`src/opt.rs`, model `Hpbf/Opt.lean`).

The model turns every Rust panic site into `Except.error "panic: …"`, the two fuel-bounded recursions into
`"model: …"`, and a non-fitting oracle of hash iteration orders into `"order-mismatch …"`. For every IR block with
canonical right-hand sides (`CanonL b.insts`: parser output and optimizer output), every level and EVERY oracle,
an error of `optimize` is an `order-mismatch` (`optimize_no_panic'`), and some oracle succeeds (`optimize_total'`).

Since the iteration order a real hash set yields is SOME permutation of its elements, and the oracle check accepts
every permutation, the Rust optimizer cannot panic (modulo what the port does not model: `isize`/`usize` overflow
checks of a debug build on offsets near 2^63, `Opt.README.md` §2 last row).

Error sites of `Hpbf/Opt.lean` (all of them: `grep 'throw\|\.error' Hpbf/Opt.lean`) and what excludes them:

| site (Opt.lean)                    | Rust                                        | excluded by                                         |
|------------------------------------|---------------------------------------------|-----------------------------------------------------|
| `splitAlong` find                  | ir.rs `find(..).unwrap()`                   | local: the `count == 1` test (`splitStep_ok`)       |
| `splitAlong` linear                | ir.rs `linear[lin_var]`                     | local: the `all(constant ∨ linear)` test            |
| `evalPending`                      | `symb_evaluate(..).unwrap()` (600)          | closure never `None` (`evalPending_ok`)             |
| `reduceConst`                      | `symb_evaluate(..).unwrap()` (573)          | same (`OptLoop.reduceConst_total`)                  |
| `compare*`                         | only through `evalPending`                  | `compare_ok` (recursion along the parent chain)     |
| `popComp`                          | `stack.pop().unwrap()` (431)                | the DFS stack never shrinks below the caller's length (`popComp_total`, `DStep`) |
| `gatherToEmitDfs` fuel             | — (model)                                   | `Wf`: users in `reverse` are pending keys; every call visits an unvisited key or root: `mu ≤ fuel` (`dfs_ok`) |
| `constDeps` get_mut                | `depends_on.get_mut(&dep).unwrap()` (1118)  | counting invariant `count + occ ≤ cnt` (`WL.tot`, `constDeps_wl`); needs `vars.Nodup` (`nodup_constVars`: `reads` ascending, pending keys distinct) |
| `constDeps` underflow              | `*v -= 1` (1119, debug build; defect F3)    | same                                                |
| `constLoop` fuel                   | — (model)                                   | potential `stack.length + #positive counters` (`constLoop_wl`) |
| `finishLoop` removePending         | `remove_pending(var).unwrap()` (1286)       | `var` ranges over the distinct pending keys, each step removes only `var` (`motionStepM_safe`, `motionFold_tri`) |
| `loopMotion`                       | only `reduceConst`, `splitAlong`            | `loopMotion_ok`                                     |
| `popSubAnal`                       | `sub_blocks.pop()` → `None`                 | no error site (less precise, never a panic)         |
| `deadStoreElimination`             | `sub_blocks[block_idx]` (1418)              | `eliminate = none` only on shape mismatch; a round's analysis matches its output (`dse_total_after_round`) |
| `takeOrder`, `takeInlineOrder`, `optimize` "unused" | — (oracle diagnostics)     | these ARE the oracle errors (`order-mismatch …`)    |
-/
import Hpbf.Proofs.OptTotalRounds
import Hpbf.Proofs.OptRbEx
import Hpbf.Props.C02AllocTotal
import Hpbf.Props.C03Total
import Hpbf.Props.C12

namespace Hpbf
namespace OptTotal
open Opt OptProof Ir

variable {w : Nat}

/-- Oracle errors are recognised by the literal prefix of the diagnostics of `takeOrder` / `takeInlineOrder` /
the final "all orders consumed" check. -/
example (e : String) : isOracleError e = "order-mismatch ".toList.isPrefixOf e.toList := rfl

example : isOracleError "order-mismatch missing 1" = true := (isOracleError_ofList _).trans (by decide +kernel)
example : isOracleError "order-mismatch set 1 model [2] recorded [3]" = true :=
  (isOracleError_ofList _).trans (by decide +kernel)
example : isOracleError "order-mismatch unused inline" = true := (isOracleError_ofList _).trans (by decide +kernel)
/-- None of the panic / fuel messages of the model is an oracle error. -/
example :
    isOracleError "panic: split_along: find(..).unwrap()" = false ∧
    isOracleError "panic: split_along: linear[lin_var]" = false ∧
    isOracleError "panic: eval_pending: symb_evaluate(..).unwrap()" = false ∧
    isOracleError "panic: reduce_const: symb_evaluate(..).unwrap()" = false ∧
    isOracleError "panic: gather_to_emit_dfs: stack.pop().unwrap()" = false ∧
    isOracleError "model: gather_to_emit_dfs fuel" = false ∧
    isOracleError "panic: constants_among: depends_on.get_mut(&dep).unwrap()" = false ∧
    isOracleError "panic: constants_among: *v -= 1 underflow" = false ∧
    isOracleError "model: constants_among fuel" = false ∧
    isOracleError "panic: rebuild_block: remove_pending(var).unwrap()" = false ∧
    isOracleError "panic: eliminate_in_block: sub_blocks index" = false := by
  refine ⟨?_, ?_, ?_, ?_, ?_, ?_, ?_, ?_, ?_, ?_, ?_⟩ <;> exact (isOracleError_ofList _).trans (by decide +kernel)

theorem oracle_error_not_panic (e : String) (h : isOracleError e = true) :
    "panic: ".toList.isPrefixOf e.toList = false ∧ "model: ".toList.isPrefixOf e.toList = false :=
  isOracle_not_panic e h

example {α : Type} (x : M α) : NoPanic x ↔ ∀ os e, x.run os = .error e → isOracleError e = true := Iff.rfl
example {α : Type} (x : M α) : Total x ↔ ∃ pre a, ∀ rest, x.run (pre ++ rest) = .ok (a, rest) := Iff.rfl
example {α : Type} (x : M α) : Safe x ↔ NoPanic x ∧ Total x := ⟨fun h => ⟨h.1, h.2⟩, fun h => ⟨h.1, h.2⟩⟩

/-- The syntactic precondition: every right-hand side of every `calc` (at any depth) is in normal form. -/
example (g : List (Int × Expr w)) : CanonL [Instr.calc g] ↔ ∀ ve ∈ g, Expr.Canon ve.2 := canonL_calc
example (c sh : Int) (body : List (Instr w)) (o : Bool) : CanonL [Instr.loop c sh body o] ↔ CanonL body :=
  canonL_loop
example (i : Instr w) (l : List (Instr w)) : CanonL (i :: l) ↔ CanonI i ∧ CanonL l := canonL_cons

theorem parse_canonL' {src : List Kind} {b : Block w} (h : Ir.parse (w := w) src = .ok b) : CanonL b.insts :=
  parse_canonL h

/-- The precondition `CanonL` is kept, so the theorems below apply to optimizer output as well. -/
theorem optimize_canonL' {b b' : Block w} {level : Nat} {orders : Orders} (hcl : CanonL b.insts)
    (h : Opt.optimize b level orders = .ok b') : CanonL b'.insts :=
  steps_canonL hcl (Rounds.optimize_steps h)

theorem optimizeOnce_safe' (b : Block w) (prevAnal : OptAnalysis w) (hcl : CanonL b.insts) :
    Safe (optimizeOnce b prevAnal) :=
  optimizeOnce_safe b prevAnal hcl

theorem optimizeM_safe' (b : Block w) (level : Nat) (hcl : CanonL b.insts) : Safe (optimizeM b level) :=
  optimizeM_safe b level hcl

/-- C13 for the optimizer: for every block with canonical right-hand sides, every level and EVERY oracle, an
error of `optimize` is an oracle error ("the supplied orders do not fit"). -/
theorem optimize_no_panic' (b : Block w) (level : Nat) (orders : Orders) (hcl : CanonL b.insts) :
    ∀ e, Opt.optimize b level orders = .error e → isOracleError e = true :=
  optimize_no_panic b level orders hcl

theorem optimize_never_panics (b : Block w) (level : Nat) (orders : Orders) (hcl : CanonL b.insts) (e : String)
    (h : Opt.optimize b level orders = .error e) :
    "panic: ".toList.isPrefixOf e.toList = false ∧ "model: ".toList.isPrefixOf e.toList = false :=
  isOracle_not_panic e (optimize_no_panic b level orders hcl e h)

theorem optimize_no_panic_parse {src : List Kind} {b : Block w} (hp : Ir.parse (w := w) src = .ok b)
    (level : Nat) (orders : Orders) :
    ∀ e, Opt.optimize b level orders = .error e → isOracleError e = true :=
  optimize_no_panic b level orders (parse_canonL hp)

/-- The fitting oracle answers every query with the model's own set, in the model's ascending order
(`takeOrder_safe`, `takeInlineOrder_safe`). -/
theorem optimize_total' (b : Block w) (level : Nat) (hcl : CanonL b.insts) :
    ∃ orders b', Opt.optimize b level orders = .ok b' :=
  optimize_total b level hcl

theorem optimize_total_parse {src : List Kind} {b : Block w} (hp : Ir.parse (w := w) src = .ok b) (level : Nat) :
    ∃ orders b', Opt.optimize b level orders = .ok b' :=
  optimize_total b level (parse_canonL hp)

example (var : Int) (next : List Int) (rest : Orders) :
    (takeOrder var next).run ((toString var, next) :: rest) = .ok (next, rest) := by
  simp [StateT.run, takeOrder]

section pieces
open OptLoop in
example (s : Rebuild w) (ps : List (Rebuild w)) (shift : Int) (e : Expr w) : Ok (evalPending s ps shift e) :=
  evalPending_ok s ps shift e
example (s : Rebuild w) (ps : List (Rebuild w)) (a b : Expr w) : Ok (Opt.compare s ps a b) := compare_ok ps s a b
example (e : Expr w) (C : List Int) (lin : List (Int × Expr w)) : Ok (splitAlong e C lin) := splitAlong_ok e C lin
example (s : Rebuild w) (ps : List (Rebuild w)) (var : Int) (p : Expr w) (complete : Bool) (reads C : List Int)
    (lin : List (Int × Expr w)) (other : List Int) (L : OptLoop w) :
    Ok (loopMotion s ps var p complete reads C lin other L) := loopMotion_ok s ps var p complete reads C lin other L
/-- `constants_among` needs a duplicate-free list (defect F3 of `opt.rs` is a violation of exactly this). -/
example (s : Rebuild w) (ps : List (Rebuild w)) (sub : Rebuild w) (vars : List Int) (hnd : vars.Nodup) :
    Ok (constantsAmong s ps sub vars) := constantsAmong_ok s ps sub vars hnd (compare_ok ps s)
example {s : Rebuild w} (hwf : Wf s) (emit : List Int) : Safe (gatherForEmit s emit) := gatherForEmit_safe hwf emit
example {s : Rebuild w} {ps : List (Rebuild w)} {sub : Rebuild w} {cond : Int} {isLoop : Bool} (hwf : Wf s)
    (hc : CanonSt s) (hsub : Child sub) (hr : OptLoop.SAsc sub.reads) : Safe (finishLoop s ps sub cond isLoop) :=
  finishLoop_safe hwf hc hsub hr
example {b : Block w} {prevAnal : OptAnalysis w} {os os' : Orders} {b1 : Block w} {anal1 : OptAnalysis w}
    (hr : (optimizeOnce b prevAnal).run os = .ok ((b1, anal1), os')) (hcl : CanonL b.insts) :
    Ok (deadStoreElimination b1 anal1) := dse_total_after_round hr hcl
end pieces

/-- C13 for the whole pipeline. For a bracket-balanced source and every optimization level: the parser
accepts; the optimizer never panics (every oracle) and succeeds for some oracle; every block it returns is
translated by the bytecode generator (any number of registers, both fusion settings) to a program that passes the
bytecode contract check; and the baseline JIT (`translate(.., 11, false)`) generates machine code as soon as the
operand ranges fit (`DispOk`: `bytes * offset` is an `i32`). -/
theorem compile_pipeline_no_panic (src : List Kind) (hbal : C12.Balanced src) (level : Nat) :
    ∃ b : Block w, Ir.parse (w := w) src = .ok b ∧
      (∀ orders e, Opt.optimize b level orders = .error e → isOracleError e = true) ∧
      (∃ orders b', Opt.optimize b level orders = .ok b') ∧
      (∀ orders b', Opt.optimize b level orders = .ok b' →
        (∀ numRegs fuse, ∃ p, BcGen.translateE b' numRegs fuse = .ok p ∧ BcWf.check p numRegs = true) ∧
        (∃ p, BcGen.translateE b' 11 false = .ok p ∧ BcWf.check p 11 = true ∧
          ∀ (limited safe : Bool) (aE aI aO : Nat) (sz : Asm.Size), Asm.Size.ofBits? w = some sz →
            C03.DispOk sz p.minAcc → C03.DispOk sz p.maxAcc → 8 * p.temps < 2147483648 →
            (∀ (i : Nat) (sh : Int), p.insts[i]? = some (.mov sh) → C03.DispOk sz sh) →
            (safe = true → C03.DispOk sz (-p.minAcc) ∧ C03.DispOk sz (-p.maxAcc)) →
            ∃ code, JitGen.compileX86 w p limited safe aE aI aO = some code)) := by
  obtain ⟨b, hp⟩ := (C12.parse_ok_iff_balanced (w := w) src).2 hbal
  refine ⟨b, hp, optimize_no_panic_parse hp level, optimize_total_parse hp level, ?_⟩
  intro orders b' _
  refine ⟨fun numRegs fuse => C02.translateE_total_check b' numRegs fuse, ?_⟩
  obtain ⟨p, hpt, hchk⟩ := C02.translateE_total_check b' 11 false
  refine ⟨p, hpt, hchk, ?_⟩
  intro limited safe aE aI aO sz hsz hlo hhi htemps hmov hneg
  have hloc : BcWf.localOk p = true := by
    unfold BcWf.check at hchk
    simp only [Bool.and_eq_true] at hchk
    exact hchk.1.1
  exact C03.translate_compile_of_localOk hpt hloc limited safe aE aI aO hsz hlo hhi htemps hmov hneg

namespace Examples

/-- `,>,<[>[->+<]<-]>>.` : the inner loop's pending operations depend on each other, so `gather_to_emit_dfs`
consults the oracle once (variable 1, users `{2}`). -/
def exSrc : List Kind :=
  [.inp, .right, .inp, .left, .open, .right, .open, .dec, .right, .inc, .left, .close, .left, .dec, .close,
   .right, .right, .out]

def exB : Block 8 :=
  { shift := 2,
    insts := [.input 0, .input 1,
      .loop 0 0 [.loop 1 0 [.calc [(1, [⟨0xff#8, []⟩, ⟨1#8, [1]⟩])], .calc [(2, [⟨1#8, []⟩, ⟨1#8, [2]⟩])]] false,
                 .calc [(0, [⟨0xff#8, []⟩, ⟨1#8, [0]⟩])]] false,
      .output 2] }

def exB' : Block 8 :=
  { shift := 0,
    insts := [.input 0, .input 1, .calc [(2, [])],
      .loop 0 0 [.calc [(2, [⟨1#8, [1]⟩, ⟨1#8, [2]⟩])], .calc [(1, [])],
                 .calc [(0, [⟨0xff#8, []⟩, ⟨1#8, [0]⟩])]] false,
      .output 2] }

def optimizeErr (b : Block w) (level : Nat) (orders : Orders) : Option String :=
  match Opt.optimize b level orders with
  | .error e => some e
  | .ok _ => none

example : Ir.parse (w := 8) exSrc = .ok exB := parse_of_check (by decide +kernel)
example : Opt.optimize exB 1 [("1", [2])] = .ok exB' := optimize_of_check (by decide +kernel)
/-- Without the fitting oracle, with a wrong set, or with a superfluous entry: an oracle error, never a panic. -/
example : (optimizeErr exB 1 []).map isOracleError = some true := by decide +kernel
example : (optimizeErr exB 1 [("1", [3])]).map isOracleError = some true := by decide +kernel
example : (optimizeErr exB 1 [("1", [2]), ("2", [1])]).map isOracleError = some true := by decide +kernel
example : (optimizeErr exB 3 [("1", [2])]).map isOracleError = some true := by decide +kernel

end Examples

end OptTotal
end Hpbf

#print axioms Hpbf.OptTotal.oracle_error_not_panic
#print axioms Hpbf.OptTotal.parse_canonL'
#print axioms Hpbf.OptTotal.optimize_canonL'
#print axioms Hpbf.OptTotal.optimizeOnce_safe'
#print axioms Hpbf.OptTotal.optimizeM_safe'
#print axioms Hpbf.OptTotal.optimize_no_panic'
#print axioms Hpbf.OptTotal.optimize_never_panics
#print axioms Hpbf.OptTotal.optimize_no_panic_parse
#print axioms Hpbf.OptTotal.optimize_total'
#print axioms Hpbf.OptTotal.optimize_total_parse
#print axioms Hpbf.OptTotal.compile_pipeline_no_panic
