/-
C17 — when growing the tape fails to allocate, hpbf aborts (`handle_alloc_error`) instead of touching memory.
Model: `Hpbf/Alloc.lean`. In `makeAccessible fixed allocOk`, `allocOk = false` is a null result of
`alloc_zeroed`; `fixed = true` is `Memory::make_accessible` with its null check, `fixed = false` the same
code without the check.
-/
import Hpbf.Alloc

namespace Hpbf
namespace C17

open Alloc

variable {w : Nat}

def NeedsGrowth (m : Mem w) (a b : Int) : Prop := ¬ ((m.growth a b).1 = 0 ∧ (m.growth a b).2.1 = 0)

/-- C17: with the null check a failed allocation ends in `.aborted`: no memory state is returned, so
nothing can be read or written afterwards. -/
theorem alloc_fail_aborts (m : Mem w) (a b : Int) (h : NeedsGrowth m a b) :
    makeAccessible true false m a b = .aborted := by
  unfold makeAccessible
  simp only [NeedsGrowth] at h
  simp [h]

theorem write_alloc_fail_aborts (m : Mem w) (off : Int) (v : BitVec w)
    (hoob : ¬ wrapU64 (m.offset + off) < m.size) (h : NeedsGrowth m off (off + 1)) :
    write true false m off v = .aborted := by
  unfold write
  simp [hoob, alloc_fail_aborts m off (off + 1) h]

theorem no_growth_no_alloc (fixed allocOk : Bool) (m : Mem w) (a b : Int) (h : ¬ NeedsGrowth m a b) :
    makeAccessible fixed allocOk m a b = .ok m := by
  unfold makeAccessible
  simp only [NeedsGrowth, Classical.not_not] at h
  simp [h]

theorem alloc_ok_eq (fixed : Bool) (m : Mem w) (a b : Int) :
    makeAccessible fixed true m a b = .ok (m.makeAccessible a b) := by
  unfold makeAccessible Mem.makeAccessible
  by_cases h : (m.growth a b).1 = 0 ∧ (m.growth a b).2.1 = 0
  · simp [h]
  · simp [h]

def isUb : Outcome w → Bool | .ub => true | _ => false
def isAborted : Outcome w → Bool | .aborted => true | _ => false

/-- Without the null check a failed growth of a non-empty tape copies the old contents through a
null-derived pointer. Witness: an 8-bit tape of one cell, growing to the right. -/
theorem original_code_ub :
    isUb (makeAccessible (w := 8) false false (Mem.new.write 0 1#8) 1 2) = true := by decide

theorem repaired_code_aborts :
    isAborted (makeAccessible (w := 8) true false (Mem.new.write 0 1#8) 1 2) = true := by decide

example : NeedsGrowth (w := 8) (Mem.new.write 0 1#8) 1 2 := by unfold NeedsGrowth; decide

end C17
end Hpbf

#print axioms Hpbf.C17.alloc_fail_aborts
#print axioms Hpbf.C17.write_alloc_fail_aborts
#print axioms Hpbf.C17.no_growth_no_alloc
#print axioms Hpbf.C17.alloc_ok_eq
#print axioms Hpbf.C17.original_code_ub
#print axioms Hpbf.C17.repaired_code_aborts
