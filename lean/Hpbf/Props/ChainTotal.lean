/-
ChainTotal: the end-to-end statements of `Props/Chain.lean` WITHOUT the hypotheses that are
theorems, for the total function `BcGen.translate`, and the headline theorem `level0_all_backends`.

Discharged here (compared with `Props/Chain.lean`):
* `translateE blk numRegs fuse = .ok p`      – by `C02.translateE_total` (`Props/C02AllocTotal.lean`):
  `translate_ok : translateE blk numRegs fuse = .ok (translate blk numRegs fuse)`, i.e. the sentinel program that
  `BcGen.translate` returns on a modelled panic is never returned;
* `BcWf.check p n = true`                     – by `C02.translateE_check` (`Props/C11Full.lean`); so "malformed
  bytecode" is excluded for EVERY run, and the divergence corollaries need no checker hypothesis;
* `compileX86 … = some code` and `BcWf.check p 11 = true` in the JIT statements – by
  `C03.translate_compile_of_localOk` (`Props/C03Total.lean`); the code is `jitCode p limited safe cfg`, the value
  `compileX86` returns.
What REMAINS:
* `0 < w` and balancedness of the source (`Bf.tree src = some prog`) – the domain of the statements (C01);
* `OnceOk blk env` in `translate_refines_unconditional` – for arbitrary IR the emitted do-while form of a loop
  marked `once` differs from the IR interpreter when the loop is reached with a zero cell
  (`C02.once_needs_hypothesis`); the parser never sets `once`, so level 0 needs nothing;
* `JitRange` – genuine range conditions on the compiled program and the machine state: cell width one of
  8/16/32/64, operand displacements / frame size / `mov` shifts inside `i32` (otherwise the assembler's
  `bytes * offset` overflows, a debug-build panic or a silently wrapped displacement), code shorter than 2^31
  bytes, three distinct runtime addresses, `rsp ≡ 8 (mod 16)` at entry, budget a `u64` and not (limited ∧ 0),
  and for bounds-checked code no tape allocation beyond 2^40 cells (`NoOOM`);
* the unlimited-mode converse for the JIT ("the function returns ⇒ the canonical run terminates") is not stated in
  this file (`prog_run` gives no lower bound on machine steps); it is `jit_final_converse`
  (`Proofs/ChainFinal2.lean`, from `C03.conv_run`).
Proofs: `Hpbf/Proofs/ChainTotal.lean`, `Hpbf/Proofs/ChainTotalJit.lean`.
-/
import Hpbf.Proofs.ChainTotalJit

namespace Hpbf
namespace Chain

open Asm JitGen X86Sem X86Prog C03 BcGen C02

variable {w : Nat}

/-! ## `translate` and `translateE` -/

example (prog : Ir.Block w) (numRegs : Nat) (fuse : Bool) : translate prog numRegs fuse =
    (match translateE prog numRegs fuse with
     | .ok p => p
     | .error _ => { temps := 999999, minAcc := 1, maxAcc := 0, live := #[], insts := #[] }) := rfl

/-- The sentinel is never returned. -/
example (blk : Ir.Block w) (numRegs : Nat) (fuse : Bool) :
    translateE blk numRegs fuse = .ok (translate blk numRegs fuse) := translate_ok blk numRegs fuse
example (blk : Ir.Block w) (numRegs : Nat) (fuse : Bool) :
    BcWf.check (translate blk numRegs fuse) numRegs = true := translate_check blk numRegs fuse

/-- The parser's result as a function of the text. -/
example (src : List Kind) : irOf w src =
    (match Ir.parse (w := w) src with | .ok b => b | .error _ => ⟨0, []⟩) := rfl
example (src : List Kind) (prog : Prog) (hp : Bf.tree src = some prog) :
    Ir.parse (w := w) src = .ok (irOf w src) := parse_irOf hp

/-! ## `translate` refines the IR, every block -/

example (blk : Ir.Block w) (numRegs : Nat) (fuse : Bool) (env : Env) (ho : OnceOk blk env) :
    ((∀ f (c : Ir.Cfg w), Ir.run blk false 0 f env = .done c →
      ∃ f' c', Bc.run (translate blk numRegs fuse) false 0 f' env = .done c' ∧ c'.st.trace = c.st.trace ∧
        (∀ i, c'.st.tape.get i = c.st.tape.get i) ∧ c'.st.ptr = c.st.ptr ∧ c'.st.env = c.st.env) ∧
     (∀ f (c : Ir.Cfg w), Ir.run blk false 0 f env = .stopped c →
      ∃ f' c', Bc.run (translate blk numRegs fuse) false 0 f' env = .stopped c' ∧ c'.st.trace = c.st.trace ∧
        c'.st.ptr = c.st.ptr ∧ c'.st.env = c.st.env)) ∧
    ((∀ f' (c' : Bc.Cfg w), Bc.run (translate blk numRegs fuse) false 0 f' env = .done c' →
      ∃ f c, Ir.run blk false 0 f env = .done c ∧ c.st.trace = c'.st.trace ∧
        (∀ i, c.st.tape.get i = c'.st.tape.get i) ∧ c.st.ptr = c'.st.ptr ∧ c.st.env = c'.st.env) ∧
     (∀ f' (c' : Bc.Cfg w), Bc.run (translate blk numRegs fuse) false 0 f' env = .stopped c' →
      ∃ f c, Ir.run blk false 0 f env = .stopped c ∧ c.st.trace = c'.st.trace ∧
        c.st.ptr = c'.st.ptr ∧ c.st.env = c'.st.env)) ∧
    ((∀ f', ∃ f, C01.traceOf (Ir.run blk false 0 f env) =
        C07.traceOfBc (Bc.run (translate blk numRegs fuse) false 0 f' env)) ∧
     (∀ f, ∃ f', C07.traceOfBc (Bc.run (translate blk numRegs fuse) false 0 f' env) =
        C01.traceOf (Ir.run blk false 0 f env))) :=
  translate_refines_unconditional blk numRegs fuse env ho

/-- Never "malformed bytecode" – for non-terminating runs too, every mode and budget – and never interrupted
in unlimited mode. -/
example (blk : Ir.Block w) (numRegs : Nat) (fuse : Bool) (env : Env) :
    (∀ (l : Bool) (b f' : Nat) (c' : Bc.Cfg w), Bc.run (translate blk numRegs fuse) l b f' env ≠ .bad c') ∧
    (∀ (f' : Nat) (c' : Bc.Cfg w), Bc.run (translate blk numRegs fuse) false 0 f' env ≠ .interrupted c') :=
  translate_never_bad_unconditional blk numRegs fuse env

/-! ## Level 0, bytecode interpreter -/

section Level0
variable (hw : 0 < w) (src : List Kind) (prog : Prog) (hp : Bf.tree src = some prog)
  (blk : Ir.Block w) (hb : Ir.parse (w := w) src = .ok blk) (numRegs : Nat) (fuse : Bool) (env : Env)

/-- **Release dispatch.** -/
example :
    ((∀ f (s : State w), Bf.run f prog env = .done s →
        ∃ f' c', Bc.run (translate blk numRegs fuse) false 0 f' env = .done c' ∧ c'.st.trace = s.trace) ∧
     (∀ f (s : State w), Bf.run f prog env = .stopped s →
        ∃ f' c', Bc.run (translate blk numRegs fuse) false 0 f' env = .stopped c' ∧ c'.st.trace = s.trace)) ∧
    ((∀ f' (c' : Bc.Cfg w), Bc.run (translate blk numRegs fuse) false 0 f' env = .done c' →
        ∃ (f : Nat) (s : State w), Bf.run f prog env = .done s ∧ s.trace = c'.st.trace) ∧
     (∀ f' (c' : Bc.Cfg w), Bc.run (translate blk numRegs fuse) false 0 f' env = .stopped c' →
        ∃ (f : Nat) (s : State w), Bf.run f prog env = .stopped s ∧ s.trace = c'.st.trace)) ∧
    ((∀ f', ∃ f, C07.traceOfBc (Bc.run (translate blk numRegs fuse) false 0 f' env) =
        C01.traceOfBf (Bf.run (w := w) f prog env)) ∧
     (∀ f, ∃ f', C07.traceOfBc (Bc.run (translate blk numRegs fuse) false 0 f' env) =
        C01.traceOfBf (Bf.run (w := w) f prog env))) :=
  bytecode_level0_unconditional hw hp hb numRegs fuse env

/-- **Debug dispatch.** -/
example :
    ((∀ f (s : State w), Bf.run f prog env = .done s →
        ∃ f' c', runDebug (translate blk numRegs fuse) false 0 f' env = .done c' ∧ c'.st.trace = s.trace) ∧
     (∀ f (s : State w), Bf.run f prog env = .stopped s →
        ∃ f' c', runDebug (translate blk numRegs fuse) false 0 f' env = .stopped c' ∧ c'.st.trace = s.trace)) ∧
    ((∀ f' (c' : Bc.Cfg w), runDebug (translate blk numRegs fuse) false 0 f' env = .done c' →
        ∃ (f : Nat) (s : State w), Bf.run f prog env = .done s ∧ s.trace = c'.st.trace) ∧
     (∀ f' (c' : Bc.Cfg w), runDebug (translate blk numRegs fuse) false 0 f' env = .stopped c' →
        ∃ (f : Nat) (s : State w), Bf.run f prog env = .stopped s ∧ s.trace = c'.st.trace)) ∧
    ((∀ f', ∃ f, C07.traceOfBc (runDebug (translate blk numRegs fuse) false 0 f' env) =
        C01.traceOfBf (Bf.run (w := w) f prog env)) ∧
     (∀ f, ∃ f', C07.traceOfBc (runDebug (translate blk numRegs fuse) false 0 f' env) =
        C01.traceOfBf (Bf.run (w := w) f prog env))) :=
  bytecode_level0_debug_unconditional hw hp hb numRegs fuse env

/-- With the parser's result as a function of the text: only `0 < w` and balancedness. -/
example :
    ((∀ f (s : State w), Bf.run f prog env = .done s →
        ∃ f' c', Bc.run (translate (irOf w src) numRegs fuse) false 0 f' env = .done c' ∧
          c'.st.trace = s.trace) ∧
     (∀ f (s : State w), Bf.run f prog env = .stopped s →
        ∃ f' c', Bc.run (translate (irOf w src) numRegs fuse) false 0 f' env = .stopped c' ∧
          c'.st.trace = s.trace)) ∧
    ((∀ f' (c' : Bc.Cfg w), Bc.run (translate (irOf w src) numRegs fuse) false 0 f' env = .done c' →
        ∃ (f : Nat) (s : State w), Bf.run f prog env = .done s ∧ s.trace = c'.st.trace) ∧
     (∀ f' (c' : Bc.Cfg w), Bc.run (translate (irOf w src) numRegs fuse) false 0 f' env = .stopped c' →
        ∃ (f : Nat) (s : State w), Bf.run f prog env = .stopped s ∧ s.trace = c'.st.trace)) ∧
    ((∀ f', ∃ f, C07.traceOfBc (Bc.run (translate (irOf w src) numRegs fuse) false 0 f' env) =
        C01.traceOfBf (Bf.run (w := w) f prog env)) ∧
     (∀ f, ∃ f', C07.traceOfBc (Bc.run (translate (irOf w src) numRegs fuse) false 0 f' env) =
        C01.traceOfBf (Bf.run (w := w) f prog env))) :=
  bytecode_level0_source hw hp numRegs fuse env

/-! ### C05, without the checker hypothesis -/

example (hdiv : C05.BfDiverges w prog env) :
    (∀ (f' : Nat) (c : Bc.Cfg w),
      Bc.run (translate blk numRegs fuse) false 0 f' env ≠ .done c ∧
      Bc.run (translate blk numRegs fuse) false 0 f' env ≠ .stopped c) ∧
    (∀ (b f' : Nat) (c : Bc.Cfg w),
      Bc.run (translate blk numRegs fuse) true b f' env ≠ .done c ∧
      Bc.run (translate blk numRegs fuse) true b f' env ≠ .stopped c) :=
  bc_never_returns_unconditional hw hp hb numRegs fuse env hdiv

example (hdiv : C05.BfDiverges w prog env) :
    ∀ f', ∃ c : Bc.Cfg w, Bc.run (translate blk numRegs fuse) false 0 f' env = .outOfFuel c :=
  bc_runs_forever_unconditional hw hp hb numRegs fuse env hdiv

example (hdiv : C05.BfDiverges w prog env) :
    ∀ b, ∃ f' c, Bc.run (translate blk numRegs fuse) true b f' env = .interrupted c :=
  bc_limited_interrupted_unconditional hw hp hb numRegs fuse env hdiv

example (hdiv : C05.BfDiverges w prog env) :
    (∀ f, ∃ f' c c', Bf.run (w := w) f prog env = .outOfFuel c ∧
      Bc.run (translate blk numRegs fuse) false 0 f' env = .outOfFuel c' ∧ c'.st.trace = c.st.trace) ∧
    (∀ f', ∃ f c c', Bc.run (translate blk numRegs fuse) false 0 f' env = .outOfFuel c' ∧
      Bf.run (w := w) f prog env = .outOfFuel c ∧ c'.st.trace = c.st.trace) :=
  bc_divergent_output_unconditional hw hp hb numRegs fuse env hdiv

example :
    (∀ (f : Nat) (s : State w), Bf.run f prog env = .done s →
      ∃ f' c, Bc.run (translate blk numRegs fuse) false 0 f' env = .done c ∧ c.st.trace = s.trace) ∧
    (∀ (f : Nat) (s : State w), Bf.run f prog env = .stopped s →
      ∃ f' c, Bc.run (translate blk numRegs fuse) false 0 f' env = .stopped c ∧ c.st.trace = s.trace) ∧
    (∀ (f : Nat) (s : State w), Bf.run f prog env = .done s →
      ∃ g, ∀ b, g ≤ b →
        ∃ f' c, Bc.run (translate blk numRegs fuse) true b f' env = .done c ∧ c.st.trace = s.trace) :=
  bc_terminates_unconditional hw hp hb numRegs fuse env

/-! ### C07 -/

example :
    (∀ (b f' : Nat) (c : Bc.Cfg w), Bc.run (translate blk numRegs fuse) true b f' env = .done c →
      ∃ (f : Nat) (s : State w), Bf.run f prog env = .done s ∧ s.trace = c.st.trace) ∧
    (∀ (b f' : Nat) (c : Bc.Cfg w), Bc.run (translate blk numRegs fuse) true b f' env = .stopped c →
      ∃ (f : Nat) (s : State w), Bf.run f prog env = .stopped s ∧ s.trace = c.st.trace) :=
  bc_limited_finished_unconditional hw hp hb numRegs fuse env

example : ∀ b f', ∃ f, ∀ g, f ≤ g →
    C07.traceOfBc (Bc.run (translate blk numRegs fuse) true b f' env) <:+
      C01.traceOfBf (Bf.run (w := w) g prog env) :=
  bc_limited_is_prefix_unconditional hw hp hb numRegs fuse env

example :
    (∀ (f : Nat) (s : State w), Bf.run f prog env = .done s →
      ∃ g, ∀ b, g ≤ b →
        ∃ f' c, Bc.run (translate blk numRegs fuse) true b f' env = .done c ∧ c.st.trace = s.trace) ∧
    (∀ (f : Nat) (s : State w), Bf.run f prog env = .stopped s →
      ∃ g, ∀ b, g ≤ b →
        ∃ f' c, Bc.run (translate blk numRegs fuse) true b f' env = .stopped c ∧ c.st.trace = s.trace) :=
  bc_limited_enough_unconditional hw hp hb numRegs fuse env

/-- Limited mode in one statement: the call returns – interrupted, or finished / stopped with the complete
canonical event sequence of a canonical run that ends the same way; never "malformed bytecode". -/
example (b : Nat) :
    ∃ f', (∃ c, Bc.run (translate blk numRegs fuse) true b f' env = .interrupted c) ∨
      (∃ (c : Bc.Cfg w) (f : Nat) (s : State w), Bc.run (translate blk numRegs fuse) true b f' env = .done c ∧
        Bf.run f prog env = .done s ∧ s.trace = c.st.trace) ∨
      (∃ (c : Bc.Cfg w) (f : Nat) (s : State w), Bc.run (translate blk numRegs fuse) true b f' env = .stopped c ∧
        Bf.run f prog env = .stopped s ∧ s.trace = c.st.trace) :=
  bc_limited_total_unconditional hw hp hb numRegs fuse env b

/-! ### C08 -/

example : ∀ (f : Nat) (s : State w), Bf.run f prog env = .stopped s →
    ∃ f' c, (∀ k, Bc.run (translate blk numRegs fuse) false 0 (f' + k) env = .stopped c) ∧
      c.st.trace = s.trace :=
  bc_stops_like_canonical_unconditional hw hp hb numRegs fuse env

example : ∀ (l : Bool) (b f' : Nat) (c : Bc.Cfg w),
    Bc.run (translate blk numRegs fuse) l b f' env = .stopped c → (l = false → b = 0) →
    ∃ (f : Nat) (s : State w), Bf.run f prog env = .stopped s ∧ s.trace = c.st.trace :=
  bc_stops_only_like_canonical_unconditional hw hp hb numRegs fuse env

/-! ## Level 0, machine code of the baseline JIT -/

example (p : Bc.Program w) (limited safe : Bool) (cfg : X86Prog.Cfg) : jitCode p limited safe cfg =
    (compileX86 w p limited safe cfg.aE.toNat cfg.aI.toNat cfg.aO.toNat).getD [] := rfl

/-- **What `JitRange` contains.** -/
example (sz : Size) (p : Bc.Program w) (limited safe : Bool) (cfg : X86Prog.Cfg) (buf0 rsp0 ra : BitVec 64)
    (budget : Nat) :
    JitRange sz p limited safe cfg buf0 rsp0 ra budget env ↔
    (Size.ofBits? w = some sz ∧
     cfg.fetch = fetchFast (fetchTable (jitCode p limited safe cfg)) ∧
     sizeAll (jitCode p limited safe cfg) < 2 ^ 31 ∧
     cfg.aI ≠ cfg.aO ∧ cfg.aE ≠ cfg.aI ∧ cfg.aE ≠ cfg.aO ∧
     (-2147483648 < p.minAcc ∧ p.maxAcc < 2147483648) ∧
     DispOk sz p.minAcc ∧ DispOk sz p.maxAcc ∧
     (safe = true → DispOk sz (-p.minAcc) ∧ DispOk sz (-p.maxAcc)) ∧
     alignedTemps p.temps * 8 < 2147483648 ∧
     (∀ (i : Nat) (sh : Int), p.insts[i]? = some (Bc.Instr.mov sh) → DispOk sz sh) ∧
     rsp0.toNat % 16 = 8 ∧ budget < 2 ^ 64 ∧ (limited && budget == 0) = false ∧
     (safe = true → ∀ n s',
        steps cfg n (initState (w := w) cfg buf0 rsp0 ra p.minAcc p.maxAcc budget env) = some s' → Bnd s')) :=
  ⟨fun h => ⟨h.width, h.fetch, h.small, h.addrIO, h.addrEI, h.addrEO, h.win, h.dispMin, h.dispMax, h.dispNeg,
      h.temps, h.shift, h.rsp, h.budgetLt, h.lim, h.noOOM⟩,
   fun ⟨a, b, c, d, e, f, g, h, i, j, k, l, m, n, o, q⟩ => ⟨a, b, c, d, e, f, g, h, i, j, k, l, m, n, o, q⟩⟩
example (sz : Size) (idx : Int) : DispOk sz idx ↔
    (-2147483648 ≤ (sz.bytes : Int) * idx ∧ (sz.bytes : Int) * idx < 2147483648) := Iff.rfl
example : (∃ sz, Size.ofBits? w = some sz) ↔ (w = 8 ∨ w = 16 ∨ w = 32 ∨ w = 64) := by
  unfold Size.ofBits?
  constructor
  · rintro ⟨sz, h⟩; split at h <;> first | omega | cases h
  · rintro (rfl | rfl | rfl | rfl) <;> exact ⟨_, rfl⟩

/-- Under `JitRange`, compilation of `translate` output succeeds and all hypotheses of `C03.prog_run` hold. -/
example (p : Bc.Program w) (sz : Size) (limited safe : Bool) (cfg : X86Prog.Cfg) (buf0 rsp0 ra : BitVec 64)
    (budget : Nat) (ht : translateE blk 11 false = .ok p)
    (R : JitRange sz p limited safe cfg buf0 rsp0 ra budget env) :
    compileX86 w p limited safe cfg.aE.toNat cfg.aI.toNat cfg.aO.toNat = some (jitCode p limited safe cfg) ∧
    JitHyps p limited safe cfg (jitCode p limited safe cfg) buf0 rsp0 ra budget env :=
  ⟨jitCode_spec ht R, jitHyps_of_range ht R⟩

variable (sz : Size) (safe : Bool) (cfg : X86Prog.Cfg) (buf0 rsp0 ra : BitVec 64)

/-- **Forward** (unlimited mode). -/
example (R : JitRange sz (translate blk 11 false) false safe cfg buf0 rsp0 ra 0 env) :
    let p := translate blk 11 false
    let s0 : PState w := initState cfg buf0 rsp0 ra p.minAcc p.maxAcc 0 env
    (∀ f (s : State w), Bf.run f prog env = .done s →
      ∃ n s', X86Prog.run cfg n s0 = .ret s' ∧ s'.regs.rax = 1 ∧ s'.trace = s.trace) ∧
    (∀ f (s : State w), Bf.run f prog env = .stopped s →
      ∃ n s', X86Prog.run cfg n s0 = .ret s' ∧ s'.regs.rax = 0 ∧ s'.trace = s.trace) :=
  jit_level0_forward_unconditional hw hp hb env R

/-- **Uniqueness.** -/
example (R : JitRange sz (translate blk 11 false) false safe cfg buf0 rsp0 ra 0 env) :
    let p := translate blk 11 false
    let s0 : PState w := initState cfg buf0 rsp0 ra p.minAcc p.maxAcc 0 env
    (∀ f (s : State w), Bf.run f prog env = .done s →
      ∀ n s', X86Prog.run cfg n s0 = .ret s' → s'.regs.rax = 1 ∧ s'.trace = s.trace) ∧
    (∀ f (s : State w), Bf.run f prog env = .stopped s →
      ∀ n s', X86Prog.run cfg n s0 = .ret s' → s'.regs.rax = 0 ∧ s'.trace = s.trace) :=
  jit_level0_unique_unconditional hw hp hb env R

/-- **Prefix.** -/
example (R : JitRange sz (translate blk 11 false) false safe cfg buf0 rsp0 ra 0 env) :
    let p := translate blk 11 false
    let s0 : PState w := initState cfg buf0 rsp0 ra p.minAcc p.maxAcc 0 env
    ∀ f, ∃ n s', (steps cfg n s0 = some s' ∨ X86Prog.run cfg n s0 = .ret s') ∧
      s'.trace = C01.traceOfBf (Bf.run (w := w) f prog env) :=
  jit_level0_prefix_unconditional hw hp hb env R

example (R : JitRange sz (translate blk 11 false) false safe cfg buf0 rsp0 ra 0 env)
    (hdiv : C05.BfDiverges w prog env) :
    let p := translate blk 11 false
    let s0 : PState w := initState cfg buf0 rsp0 ra p.minAcc p.maxAcc 0 env
    ∀ f, ∃ n s', steps cfg n s0 = some s' ∧ s'.trace = C01.traceOfBf (Bf.run (w := w) f prog env) :=
  jit_level0_divergent_unconditional hw hp hb env R hdiv

/-- **Limited mode.** -/
example (b : Nat) (R : JitRange sz (translate blk 11 false) true safe cfg buf0 rsp0 ra b env) :
    let p := translate blk 11 false
    let s0 : PState w := initState cfg buf0 rsp0 ra p.minAcc p.maxAcc b env
    ∃ n s', X86Prog.run cfg n s0 = .ret s' ∧
      (∀ n2 s2, X86Prog.run cfg n2 s0 = .ret s2 → s2 = s') ∧
      (s'.regs.rax = 1 ∨ s'.regs.rax = 0) ∧
      (s'.regs.rax = 1 → ∃ (f : Nat) (s : State w), Bf.run f prog env = .done s ∧ s.trace = s'.trace) ∧
      (∃ f, ∀ g, f ≤ g → s'.trace <:+ C01.traceOfBf (Bf.run (w := w) g prog env)) :=
  jit_level0_limited_unconditional hw hp hb env R

example :
    let p := translate blk 11 false
    (∀ f (s : State w), Bf.run f prog env = .done s → ∃ g, ∀ b, g ≤ b →
      JitRange sz p true safe cfg buf0 rsp0 ra b env →
      ∃ n s', X86Prog.run cfg n (initState (w := w) cfg buf0 rsp0 ra p.minAcc p.maxAcc b env) = .ret s' ∧
        s'.regs.rax = 1 ∧ s'.trace = s.trace) ∧
    (∀ f (s : State w), Bf.run f prog env = .stopped s → ∃ g, ∀ b, g ≤ b →
      JitRange sz p true safe cfg buf0 rsp0 ra b env →
      ∃ n s', X86Prog.run cfg n (initState (w := w) cfg buf0 rsp0 ra p.minAcc p.maxAcc b env) = .ret s' ∧
        s'.regs.rax = 0 ∧ s'.trace = s.trace) :=
  jit_level0_limited_enough_unconditional hw hp hb env

end Level0

/-! ## All backends -/

/-- The vocabulary of the headline theorem (all transparent). -/
example : Fin = Option (Bool × List Ev) := rfl
example (s : State w) (c : Bf.Config w) :
    finBf (.done s) = some (true, s.trace) ∧ finBf (.stopped s) = some (false, s.trace) ∧
    finBf (.outOfFuel c) = none := ⟨rfl, rfl, rfl⟩
example (c : Inplace.Cfg w) (pos : Nat) :
    finInplace (.finished c) = some (true, c.st.trace) ∧ finInplace (.stopped c) = some (false, c.st.trace) ∧
    finInplace (.interrupted c) = none ∧ finInplace (.notOpened pos c) = none ∧
    finInplace (.outOfFuel c) = none := ⟨rfl, rfl, rfl, rfl, rfl⟩
example (c : Ir.Cfg w) :
    finIr (.done c) = some (true, c.st.trace) ∧ finIr (.stopped c) = some (false, c.st.trace) ∧
    finIr (.interrupted c) = none ∧ finIr (.outOfFuel c) = none := ⟨rfl, rfl, rfl, rfl⟩
example (c : Bc.Cfg w) :
    finBc (.done c) = some (true, c.st.trace) ∧ finBc (.stopped c) = some (false, c.st.trace) ∧
    finBc (.interrupted c) = none ∧ finBc (.bad c) = none ∧ finBc (.outOfFuel c) = none :=
  ⟨rfl, rfl, rfl, rfl, rfl⟩
example (s : PState w) (f : Fault) :
    finX86 (.ret s) = some (s.regs.rax == 1, s.trace) ∧ finX86 (.fault f s) = none ∧
    finX86 (.fuel s) = none := ⟨rfl, rfl, rfl⟩
example (A B : Nat → Fin) : SameResults A B ↔ ∀ r, (∃ f, A f = some r) ↔ (∃ f, B f = some r) := Iff.rfl

/-- **`level0_all_backends`** (docstring at the theorem, `Proofs/ChainTotalJit.lean`). -/
example (hw : 0 < w) (code : Array Kind) (prog : Prog) (hp : Bf.tree code.toList = some prog)
    (numRegs : Nat) (fuse : Bool) (env : Env) :
    let canon : Nat → Fin := fun f => finBf (Bf.run (w := w) f prog env)
    let blk : Ir.Block w := irOf w code.toList
    let p : Bc.Program w := translate blk numRegs fuse
    let pj : Bc.Program w := translate blk 11 false
    SameResults canon (fun f => finInplace (Inplace.run (w := w) code false 0 f env)) ∧
    SameResults canon (fun f => finIr (Ir.run blk false 0 f env)) ∧
    SameResults canon (fun f => finBc (Bc.run p false 0 f env)) ∧
    SameResults canon (fun f => finBc (C02.runDebug p false 0 f env)) ∧
    (∀ (sz : Size) (safe : Bool) (cfg : X86Prog.Cfg) (buf0 rsp0 ra : BitVec 64),
      JitRange sz pj false safe cfg buf0 rsp0 ra 0 env →
      ∀ r, (∃ f, canon f = some r) →
        ∃ n, finX86 (X86Prog.run cfg n (initState (w := w) cfg buf0 rsp0 ra pj.minAcc pj.maxAcc 0 env))
          = some r) ∧
    (∀ (sz : Size) (safe : Bool) (cfg : X86Prog.Cfg) (buf0 rsp0 ra : BitVec 64) (b : Nat),
      JitRange sz pj true safe cfg buf0 rsp0 ra b env →
      ∃ n r, finX86 (X86Prog.run cfg n (initState (w := w) cfg buf0 rsp0 ra pj.minAcc pj.maxAcc b env))
          = some r ∧
        (r.1 = true → ∃ f, canon f = some r) ∧
        ∃ f, ∀ g, f ≤ g → r.2 <:+ C01.traceOfBf (Bf.run (w := w) g prog env)) :=
  level0_all_backends hw code prog hp numRegs fuse env

/-- The in-place conjunct holds for every budget argument of the unlimited run, not only `0`. -/
example (code : Array Kind) (prog : Prog) (hp : Bf.tree code.toList = some prog) (env : Env) (b : Nat) :
    SameResults (fun f => finBf (Bf.run (w := w) f prog env))
      (fun f => finInplace (Inplace.run (w := w) code false b f env)) := same_inplace code hp env b

/-! ## Non-vacuity (kernel evaluation): `,[.,]` through every backend -/

/-- `,[.,]` -/
def totCat : Array Kind := #[.inp, .open, .out, .inp, .close]
def totProg : Prog := .cmd .inp (.loop (.cmd .out (.cmd .inp .nil)) .nil)
def totEnv : Env := { input := some [.byte 65, .byte 66, .eof], sink := true, outOk := none }
def totEnvRefuse : Env := { input := some [.byte 65, .byte 66, .eof], sink := true, outOk := some 1 }
/-- The bytecode the JIT compiles. -/
def totPj : Bc.Program 8 := translate (irOf 8 totCat.toList) 11 false
def totCode : List X86 := (compileX86 8 totPj false false 0x7f0000001000 0x7f0000002000 0x7f0000003000).getD []
def totCodeL : List X86 := (compileX86 8 totPj true false 0x7f0000001000 0x7f0000002000 0x7f0000003000).getD []


theorem totCat_tree : Bf.tree totCat.toList = some totProg := by decide

/-- The bytecode, the size of its machine code, and the decidable part of `JitRange` in unlimited mode and in
limited mode with budget 3: one kernel evaluation of `translate` and `compileX86`. -/
theorem totPj_eval : totPj.insts = #[.inp 0, .brz 0 4, .out 0, .inp 0, .brnz 0 (-2)] ∧
    (totCode.length, sizeAll totCode) = (42, 152) ∧ rangeCheck .b8 totPj false 0 ∧ rangeCheck .b8 totPj true 3 := by
  unfold rangeCheck; decide +kernel

example : totPj.insts = #[.inp 0, .brz 0 4, .out 0, .inp 0, .brnz 0 (-2)] := totPj_eval.1
example : (totCode.length, sizeAll totCode) = (42, 152) := totPj_eval.2.1

/-- The canonical results on input `AB`, with a sink that never refuses / that refuses the second byte. -/
theorem totCat_canon : finBf (Bf.run (w := 8) 60 totProg totEnv) =
    some (true, [Ev.inp 0, Ev.out 66, Ev.inp 66, Ev.out 65, Ev.inp 65]) := by decide +kernel
theorem totCat_canon_refuse : finBf (Bf.run (w := 8) 60 totProg totEnvRefuse) =
    some (false, [Ev.outFail 66, Ev.inp 66, Ev.out 65, Ev.inp 65]) := by decide +kernel

/-- The four interpreters give that result (by the theorem) … -/
example :
    (∃ f, finInplace (Inplace.run (w := 8) totCat false 0 f totEnv) =
      some (true, [Ev.inp 0, Ev.out 66, Ev.inp 66, Ev.out 65, Ev.inp 65])) ∧
    (∃ f, finIr (Ir.run (irOf 8 totCat.toList) false 0 f totEnv) =
      some (true, [Ev.inp 0, Ev.out 66, Ev.inp 66, Ev.out 65, Ev.inp 65])) ∧
    (∃ f, finBc (Bc.run (translate (irOf 8 totCat.toList) 4 true) false 0 f totEnvRefuse) =
      some (false, [Ev.outFail 66, Ev.inp 66, Ev.out 65, Ev.inp 65])) ∧
    (∃ f, finBc (C02.runDebug (translate (irOf 8 totCat.toList) 4 true) false 0 f totEnvRefuse) =
      some (false, [Ev.outFail 66, Ev.inp 66, Ev.out 65, Ev.inp 65])) := by
  have A := level0_all_backends (w := 8) (by decide) totCat totProg totCat_tree 4 true totEnv
  have B := level0_all_backends (w := 8) (by decide) totCat totProg totCat_tree 4 true totEnvRefuse
  exact ⟨(A.1 _).1 ⟨60, totCat_canon⟩, (A.2.1 _).1 ⟨60, totCat_canon⟩,
    (B.2.2.1 _).1 ⟨60, totCat_canon_refuse⟩, (B.2.2.2.1 _).1 ⟨60, totCat_canon_refuse⟩⟩

/-- … and by evaluation. -/
example : finBc (Bc.run (translate (irOf 8 totCat.toList) 4 true) false 0 60 totEnvRefuse) =
    some (false, [Ev.outFail 66, Ev.inp 66, Ev.out 65, Ev.inp 65]) := by decide +kernel

/-- `JitRange` is satisfiable: unlimited mode, code generation without bounds checks (so `NoOOM` is void). -/
theorem totRange : JitRange .b8 totPj false false (exCfg totCode) 0x560000000000 0x7ffd00000ff8 0x555500001234 0
    totEnv :=
  jitRange_exCfg totEnv rfl totPj_eval.2.2.1

/-- Hence the compiled function returns "finished" with exactly the canonical events. -/
example : ∃ n, finX86 (X86Prog.run (exCfg totCode) n
    (initState (w := 8) (exCfg totCode) 0x560000000000 0x7ffd00000ff8 0x555500001234 totPj.minAcc totPj.maxAcc 0
      totEnv)) = some (true, [Ev.inp 0, Ev.out 66, Ev.inp 66, Ev.out 65, Ev.inp 65]) :=
  (level0_all_backends (w := 8) (by decide) totCat totProg totCat_tree 4 true totEnv).2.2.2.2.1
    .b8 false (exCfg totCode) _ _ _ totRange _ ⟨60, totCat_canon⟩

/-- Limited mode with budget 3 (the loop `,[.,]` needs more): `JitRange` holds, the function returns, and
whatever it reports is an initial part of the canonical events. -/
theorem totRangeL : JitRange .b8 totPj true false (exCfg totCodeL) 0x560000000000 0x7ffd00000ff8 0x555500001234 3
    totEnv :=
  jitRange_exCfg totEnv rfl totPj_eval.2.2.2

example : ∃ n r, finX86 (X86Prog.run (exCfg totCodeL) n
      (initState (w := 8) (exCfg totCodeL) 0x560000000000 0x7ffd00000ff8 0x555500001234 totPj.minAcc totPj.maxAcc
        3 totEnv)) = some r ∧
    (r.1 = true → ∃ f, finBf (Bf.run (w := 8) f totProg totEnv) = some r) ∧
    ∃ f, ∀ g, f ≤ g → r.2 <:+ C01.traceOfBf (Bf.run (w := 8) g totProg totEnv) :=
  (level0_all_backends (w := 8) (by decide) totCat totProg totCat_tree 4 true totEnv).2.2.2.2.2
    .b8 false (exCfg totCodeL) _ _ _ 3 totRangeL

end Chain
end Hpbf

#print axioms Hpbf.Chain.translate_ok
#print axioms Hpbf.Chain.translate_check
#print axioms Hpbf.Chain.parse_irOf
#print axioms Hpbf.Chain.translate_refines_unconditional
#print axioms Hpbf.Chain.translate_refines_noOnce_unconditional
#print axioms Hpbf.Chain.translate_never_bad_unconditional
#print axioms Hpbf.Chain.bytecode_level0_unconditional
#print axioms Hpbf.Chain.bytecode_level0_debug_unconditional
#print axioms Hpbf.Chain.bytecode_level0_source
#print axioms Hpbf.Chain.bc_never_returns_unconditional
#print axioms Hpbf.Chain.bc_runs_forever_unconditional
#print axioms Hpbf.Chain.bc_limited_interrupted_unconditional
#print axioms Hpbf.Chain.bc_divergent_output_unconditional
#print axioms Hpbf.Chain.bc_terminates_unconditional
#print axioms Hpbf.Chain.bc_limited_finished_unconditional
#print axioms Hpbf.Chain.bc_limited_is_prefix_unconditional
#print axioms Hpbf.Chain.bc_limited_enough_unconditional
#print axioms Hpbf.Chain.bc_limited_total_unconditional
#print axioms Hpbf.Chain.bc_stops_like_canonical_unconditional
#print axioms Hpbf.Chain.bc_stops_only_like_canonical_unconditional
#print axioms Hpbf.Chain.jitCode_spec
#print axioms Hpbf.Chain.jitHyps_of_range
#print axioms Hpbf.Chain.jit_level0_forward_unconditional
#print axioms Hpbf.Chain.jit_level0_unique_unconditional
#print axioms Hpbf.Chain.jit_level0_prefix_unconditional
#print axioms Hpbf.Chain.jit_level0_divergent_unconditional
#print axioms Hpbf.Chain.jit_level0_limited_unconditional
#print axioms Hpbf.Chain.jit_level0_limited_enough_unconditional
#print axioms Hpbf.Chain.same_inplace
#print axioms Hpbf.Chain.same_ir
#print axioms Hpbf.Chain.same_bc
#print axioms Hpbf.Chain.same_bc_debug
#print axioms Hpbf.Chain.jit_forward_fin
#print axioms Hpbf.Chain.jit_limited_fin
#print axioms Hpbf.Chain.level0_all_backends
#print axioms Hpbf.Chain.totCat_canon
#print axioms Hpbf.Chain.totRange
#print axioms Hpbf.Chain.totRangeL
