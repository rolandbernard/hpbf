/-
ChainO1: the end-to-end statements at optimisation LEVEL 1

    source text ──parse──▶ b ──Program::optimize(1) (oracle `orders`)──▶ b' ──IR interpreter
                                                                        └─translate──▶ bytecode
                                                                                       └─compileX86──▶ x86-64

against canonical Brainfuck semantics (`Bf.run`), and the headline theorem `level1_all_backends`.
Property theorems only, restated as `example`s; proofs in `Hpbf/Proofs/ChainO1.lean`, instances of the composition,
generic in the IR block (`IrAgrees`, `BcAgrees`: `Proofs/ChainLevel0.lean`, `ChainJit.lean`, `ChainTotalJit.lean`,
`ChainO1Gen.lean`).

Ingredients: `OptProof.optimize_parse_level1` (`Props/C01Rebuild.lean`: `b` and `b'` have the same observable
behaviour, and the `once` marks of `b'` are justified: `OnceOk b' env`), `translate_refines_unconditional`
(`Proofs/ChainTotal.lean`; needs exactly that `OnceOk`), C01, C04, C07, C11, `C03.prog_run` via `JitRange`,
`OptOffs.optimized_window_le_length` (`Props/C10Opt.lean`).

Hypotheses that REMAIN, compared with level 0 (`Props/ChainTotal.lean`):
* `Opt.optimize b 1 orders = .ok b'` – success of the optimizer model for the given oracle.  The oracle (the
  hash iteration orders the Rust happens to use) is ARBITRARY: every statement holds for every oracle for which
  the model returns a block.  A fitting oracle always exists and no oracle makes the optimizer panic
  (`OptTotal.optimize_total_parse`, `OptTotal.optimize_no_panic_parse`: `Props/C13Opt.lean`).
* as at level 0: `0 < w`, balancedness, and `JitRange` for the machine-code statements (its four window fields
  follow from `bytes * length(source) < 2^31`: `jitRange_window_of_length`).
Observables: events and the kind of ending only – the optimizer drops pending operations at the end of the program
(`OptProof.tape_not_preserved`), so the final tape / pointer of the IR, bytecode and machine code are those of
`b'`, not of the canonical run.
-/
import Hpbf.Proofs.ChainO1

namespace Hpbf
namespace Chain

open Asm JitGen X86Sem X86Prog C03 BcGen C02

variable {w : Nat}

/-! ## The generic composition -/

example (prog : Prog) (blk : Ir.Block w) (env : Env) : IrAgrees prog blk env ↔
    (((∀ f (s : State w), Bf.run f prog env = .done s →
        ∃ f' c, Ir.run blk false 0 f' env = .done c ∧ c.st.trace = s.trace) ∧
     (∀ f (s : State w), Bf.run f prog env = .stopped s →
        ∃ f' c, Ir.run blk false 0 f' env = .stopped c ∧ c.st.trace = s.trace)) ∧
    ((∀ f' (c : Ir.Cfg w), Ir.run blk false 0 f' env = .done c →
        ∃ (f : Nat) (s : State w), Bf.run f prog env = .done s ∧ s.trace = c.st.trace) ∧
     (∀ f' (c : Ir.Cfg w), Ir.run blk false 0 f' env = .stopped c →
        ∃ (f : Nat) (s : State w), Bf.run f prog env = .stopped s ∧ s.trace = c.st.trace)) ∧
    ((∀ f', ∃ f, C01.traceOf (Ir.run blk false 0 f' env) = C01.traceOfBf (Bf.run (w := w) f prog env)) ∧
     (∀ f, ∃ f', C01.traceOf (Ir.run blk false 0 f' env) = C01.traceOfBf (Bf.run (w := w) f prog env)))) :=
  Iff.rfl

/-- Agreement with the canonical semantics is transported along an optimizer round … -/
example (prog : Prog) (b b' : Ir.Block w) (env : Env) (h0 : IrAgrees prog b env)
    (hB : OptProof.BehEq b b' env) : IrAgrees prog b' env := irAgrees_of_behEq h0 hB
/-- … and through `translate`, for every block whose `once` marks are justified. -/
example (prog : Prog) (blk : Ir.Block w) (env : Env) (hI : IrAgrees prog blk env) (ho : OnceOk blk env)
    (numRegs : Nat) (fuse : Bool) : BcAgrees prog (translate blk numRegs fuse) env :=
  bcAgrees_of_ir hI ho numRegs fuse

section Level1
variable (hw : 0 < w) (src : List Kind) (prog : Prog) (hp : Bf.tree src = some prog)
  (b b' : Ir.Block w) (hb : Ir.parse (w := w) src = .ok b) (orders : Opt.Orders)
  (hopt : Opt.optimize b 1 orders = .ok b') (env : Env) (numRegs : Nat) (fuse : Bool)

example : OnceOk b' env := onceOk_level1 hw hb hopt env

/-! ## `ir_level1` -/

example :
    ((∀ f (s : State w), Bf.run f prog env = .done s →
        ∃ f' c, Ir.run b' false 0 f' env = .done c ∧ c.st.trace = s.trace) ∧
     (∀ f (s : State w), Bf.run f prog env = .stopped s →
        ∃ f' c, Ir.run b' false 0 f' env = .stopped c ∧ c.st.trace = s.trace)) ∧
    ((∀ f' (c : Ir.Cfg w), Ir.run b' false 0 f' env = .done c →
        ∃ (f : Nat) (s : State w), Bf.run f prog env = .done s ∧ s.trace = c.st.trace) ∧
     (∀ f' (c : Ir.Cfg w), Ir.run b' false 0 f' env = .stopped c →
        ∃ (f : Nat) (s : State w), Bf.run f prog env = .stopped s ∧ s.trace = c.st.trace)) ∧
    ((∀ f', ∃ f, C01.traceOf (Ir.run b' false 0 f' env) = C01.traceOfBf (Bf.run (w := w) f prog env)) ∧
     (∀ f, ∃ f', C01.traceOf (Ir.run b' false 0 f' env) = C01.traceOfBf (Bf.run (w := w) f prog env))) :=
  ir_level1 hw hp hb hopt env

/-- The IR interpreter in limited mode at -O1. -/
example :
    (∀ (bd f' : Nat) (c : Ir.Cfg w), Ir.run b' true bd f' env = .done c →
      ∃ (f : Nat) (s : State w), Bf.run f prog env = .done s ∧ s.trace = c.st.trace) ∧
    (∀ (bd f' : Nat) (c : Ir.Cfg w), Ir.run b' true bd f' env = .stopped c →
      ∃ (f : Nat) (s : State w), Bf.run f prog env = .stopped s ∧ s.trace = c.st.trace) ∧
    (∀ bd f', ∃ f, ∀ g, f ≤ g →
      C07.traceOfIr (Ir.run b' true bd f' env) <:+ C01.traceOfBf (Bf.run (w := w) g prog env)) :=
  ir_limited_level1 hw hp hb hopt env

/-! ## `bytecode_level1` -/

/-- **Release dispatch.** -/
example :
    ((∀ f (s : State w), Bf.run f prog env = .done s →
        ∃ f' c', Bc.run (translate b' numRegs fuse) false 0 f' env = .done c' ∧ c'.st.trace = s.trace) ∧
     (∀ f (s : State w), Bf.run f prog env = .stopped s →
        ∃ f' c', Bc.run (translate b' numRegs fuse) false 0 f' env = .stopped c' ∧ c'.st.trace = s.trace)) ∧
    ((∀ f' (c' : Bc.Cfg w), Bc.run (translate b' numRegs fuse) false 0 f' env = .done c' →
        ∃ (f : Nat) (s : State w), Bf.run f prog env = .done s ∧ s.trace = c'.st.trace) ∧
     (∀ f' (c' : Bc.Cfg w), Bc.run (translate b' numRegs fuse) false 0 f' env = .stopped c' →
        ∃ (f : Nat) (s : State w), Bf.run f prog env = .stopped s ∧ s.trace = c'.st.trace)) ∧
    ((∀ f', ∃ f, C07.traceOfBc (Bc.run (translate b' numRegs fuse) false 0 f' env) =
        C01.traceOfBf (Bf.run (w := w) f prog env)) ∧
     (∀ f, ∃ f', C07.traceOfBc (Bc.run (translate b' numRegs fuse) false 0 f' env) =
        C01.traceOfBf (Bf.run (w := w) f prog env))) :=
  bytecode_level1 hw hp hb hopt env numRegs fuse

/-- **Debug dispatch.** -/
example :
    ((∀ f (s : State w), Bf.run f prog env = .done s →
        ∃ f' c', runDebug (translate b' numRegs fuse) false 0 f' env = .done c' ∧ c'.st.trace = s.trace) ∧
     (∀ f (s : State w), Bf.run f prog env = .stopped s →
        ∃ f' c', runDebug (translate b' numRegs fuse) false 0 f' env = .stopped c' ∧ c'.st.trace = s.trace)) ∧
    ((∀ f' (c' : Bc.Cfg w), runDebug (translate b' numRegs fuse) false 0 f' env = .done c' →
        ∃ (f : Nat) (s : State w), Bf.run f prog env = .done s ∧ s.trace = c'.st.trace) ∧
     (∀ f' (c' : Bc.Cfg w), runDebug (translate b' numRegs fuse) false 0 f' env = .stopped c' →
        ∃ (f : Nat) (s : State w), Bf.run f prog env = .stopped s ∧ s.trace = c'.st.trace)) ∧
    ((∀ f', ∃ f, C07.traceOfBc (runDebug (translate b' numRegs fuse) false 0 f' env) =
        C01.traceOfBf (Bf.run (w := w) f prog env)) ∧
     (∀ f, ∃ f', C07.traceOfBc (runDebug (translate b' numRegs fuse) false 0 f' env) =
        C01.traceOfBf (Bf.run (w := w) f prog env))) :=
  bytecode_level1_debug hw hp hb hopt env numRegs fuse

example :
    (∀ (l : Bool) (bd f' : Nat) (c' : Bc.Cfg w), Bc.run (translate b' numRegs fuse) l bd f' env ≠ .bad c') ∧
    (∀ (f' : Nat) (c' : Bc.Cfg w), Bc.run (translate b' numRegs fuse) false 0 f' env ≠ .interrupted c') :=
  bytecode_level1_proper env numRegs fuse

/-! ## C05 / C07 / C08 for the bytecode interpreter at -O1 -/

example (hdiv : C05.BfDiverges w prog env) :
    (∀ (f' : Nat) (c : Bc.Cfg w),
      Bc.run (translate b' numRegs fuse) false 0 f' env ≠ .done c ∧
      Bc.run (translate b' numRegs fuse) false 0 f' env ≠ .stopped c) ∧
    (∀ (bd f' : Nat) (c : Bc.Cfg w),
      Bc.run (translate b' numRegs fuse) true bd f' env ≠ .done c ∧
      Bc.run (translate b' numRegs fuse) true bd f' env ≠ .stopped c) :=
  bc_never_returns_level1 hw hp hb hopt env numRegs fuse hdiv

example (hdiv : C05.BfDiverges w prog env) :
    ∀ f', ∃ c : Bc.Cfg w, Bc.run (translate b' numRegs fuse) false 0 f' env = .outOfFuel c :=
  bc_runs_forever_level1 hw hp hb hopt env numRegs fuse hdiv

example (hdiv : C05.BfDiverges w prog env) :
    ∀ bd, ∃ f' c, Bc.run (translate b' numRegs fuse) true bd f' env = .interrupted c :=
  bc_limited_interrupted_level1 hw hp hb hopt env numRegs fuse hdiv

example (hdiv : C05.BfDiverges w prog env) :
    (∀ f, ∃ f' c c', Bf.run (w := w) f prog env = .outOfFuel c ∧
      Bc.run (translate b' numRegs fuse) false 0 f' env = .outOfFuel c' ∧ c'.st.trace = c.st.trace) ∧
    (∀ f', ∃ f c c', Bc.run (translate b' numRegs fuse) false 0 f' env = .outOfFuel c' ∧
      Bf.run (w := w) f prog env = .outOfFuel c ∧ c'.st.trace = c.st.trace) :=
  bc_divergent_output_level1 hw hp hb hopt env numRegs fuse hdiv

example :
    (∀ (bd f' : Nat) (c : Bc.Cfg w), Bc.run (translate b' numRegs fuse) true bd f' env = .done c →
      ∃ (f : Nat) (s : State w), Bf.run f prog env = .done s ∧ s.trace = c.st.trace) ∧
    (∀ (bd f' : Nat) (c : Bc.Cfg w), Bc.run (translate b' numRegs fuse) true bd f' env = .stopped c →
      ∃ (f : Nat) (s : State w), Bf.run f prog env = .stopped s ∧ s.trace = c.st.trace) :=
  bc_limited_finished_level1 hw hp hb hopt env numRegs fuse

example : ∀ bd f', ∃ f, ∀ g, f ≤ g →
    C07.traceOfBc (Bc.run (translate b' numRegs fuse) true bd f' env) <:+
      C01.traceOfBf (Bf.run (w := w) g prog env) :=
  bc_limited_prefix_level1 hw hp hb hopt env numRegs fuse

example :
    (∀ (f : Nat) (s : State w), Bf.run f prog env = .done s →
      ∃ g, ∀ bd, g ≤ bd →
        ∃ f' c, Bc.run (translate b' numRegs fuse) true bd f' env = .done c ∧ c.st.trace = s.trace) ∧
    (∀ (f : Nat) (s : State w), Bf.run f prog env = .stopped s →
      ∃ g, ∀ bd, g ≤ bd →
        ∃ f' c, Bc.run (translate b' numRegs fuse) true bd f' env = .stopped c ∧ c.st.trace = s.trace) :=
  bc_limited_enough_level1 hw hp hb hopt env numRegs fuse

example : ∀ (f : Nat) (s : State w), Bf.run f prog env = .stopped s →
    ∃ f' c, (∀ k, Bc.run (translate b' numRegs fuse) false 0 (f' + k) env = .stopped c) ∧
      c.st.trace = s.trace :=
  bc_stops_like_canonical_level1 hw hp hb hopt env numRegs fuse

example : ∀ (l : Bool) (bd f' : Nat) (c : Bc.Cfg w),
    Bc.run (translate b' numRegs fuse) l bd f' env = .stopped c → (l = false → bd = 0) →
    ∃ (f : Nat) (s : State w), Bf.run f prog env = .stopped s ∧ s.trace = c.st.trace :=
  bc_stops_only_like_canonical_level1 hw hp hb hopt env numRegs fuse

/-! ## `jit_level1_*` (`JitRange` as in `Props/ChainTotal.lean`) -/

variable (sz : Size) (safe : Bool) (cfg : X86Prog.Cfg) (buf0 rsp0 ra : BitVec 64)

example (R : JitRange sz (translate b' 11 false) false safe cfg buf0 rsp0 ra 0 env) :
    let p := translate b' 11 false
    let s0 : PState w := initState cfg buf0 rsp0 ra p.minAcc p.maxAcc 0 env
    (∀ f (s : State w), Bf.run f prog env = .done s →
      ∃ n s', X86Prog.run cfg n s0 = .ret s' ∧ s'.regs.rax = 1 ∧ s'.trace = s.trace) ∧
    (∀ f (s : State w), Bf.run f prog env = .stopped s →
      ∃ n s', X86Prog.run cfg n s0 = .ret s' ∧ s'.regs.rax = 0 ∧ s'.trace = s.trace) :=
  jit_level1_forward hw hp hb hopt env R

example (R : JitRange sz (translate b' 11 false) false safe cfg buf0 rsp0 ra 0 env) :
    let p := translate b' 11 false
    let s0 : PState w := initState cfg buf0 rsp0 ra p.minAcc p.maxAcc 0 env
    (∀ f (s : State w), Bf.run f prog env = .done s →
      ∀ n s', X86Prog.run cfg n s0 = .ret s' → s'.regs.rax = 1 ∧ s'.trace = s.trace) ∧
    (∀ f (s : State w), Bf.run f prog env = .stopped s →
      ∀ n s', X86Prog.run cfg n s0 = .ret s' → s'.regs.rax = 0 ∧ s'.trace = s.trace) :=
  jit_level1_unique hw hp hb hopt env R

example (R : JitRange sz (translate b' 11 false) false safe cfg buf0 rsp0 ra 0 env) :
    let p := translate b' 11 false
    let s0 : PState w := initState cfg buf0 rsp0 ra p.minAcc p.maxAcc 0 env
    ∀ f, ∃ n s', (steps cfg n s0 = some s' ∨ X86Prog.run cfg n s0 = .ret s') ∧
      s'.trace = C01.traceOfBf (Bf.run (w := w) f prog env) :=
  jit_level1_prefix hw hp hb hopt env R

example (R : JitRange sz (translate b' 11 false) false safe cfg buf0 rsp0 ra 0 env)
    (hdiv : C05.BfDiverges w prog env) :
    let p := translate b' 11 false
    let s0 : PState w := initState cfg buf0 rsp0 ra p.minAcc p.maxAcc 0 env
    ∀ f, ∃ n s', steps cfg n s0 = some s' ∧ s'.trace = C01.traceOfBf (Bf.run (w := w) f prog env) :=
  jit_level1_divergent hw hp hb hopt env R hdiv

example (bd : Nat) (R : JitRange sz (translate b' 11 false) true safe cfg buf0 rsp0 ra bd env) :
    let p := translate b' 11 false
    let s0 : PState w := initState cfg buf0 rsp0 ra p.minAcc p.maxAcc bd env
    ∃ n s', X86Prog.run cfg n s0 = .ret s' ∧
      (∀ n2 s2, X86Prog.run cfg n2 s0 = .ret s2 → s2 = s') ∧
      (s'.regs.rax = 1 ∨ s'.regs.rax = 0) ∧
      (s'.regs.rax = 1 → ∃ (f : Nat) (s : State w), Bf.run f prog env = .done s ∧ s.trace = s'.trace) ∧
      (∃ f, ∀ g, f ≤ g → s'.trace <:+ C01.traceOfBf (Bf.run (w := w) g prog env)) :=
  jit_level1_limited hw hp hb hopt env R

example :
    let p := translate b' 11 false
    (∀ f (s : State w), Bf.run f prog env = .done s → ∃ g, ∀ bd, g ≤ bd →
      JitRange sz p true safe cfg buf0 rsp0 ra bd env →
      ∃ n s', X86Prog.run cfg n (initState (w := w) cfg buf0 rsp0 ra p.minAcc p.maxAcc bd env) = .ret s' ∧
        s'.regs.rax = 1 ∧ s'.trace = s.trace) ∧
    (∀ f (s : State w), Bf.run f prog env = .stopped s → ∃ g, ∀ bd, g ≤ bd →
      JitRange sz p true safe cfg buf0 rsp0 ra bd env →
      ∃ n s', X86Prog.run cfg n (initState (w := w) cfg buf0 rsp0 ra p.minAcc p.maxAcc bd env) = .ret s' ∧
        s'.regs.rax = 0 ∧ s'.trace = s.trace) :=
  jit_level1_limited_enough hw hp hb hopt env

/-- The window part of `JitRange` from the length of the text (any level, any oracle). -/
example (level : Nat) (hopt' : Opt.optimize b level orders = .ok b')
    (hlen : (sz.bytes : Int) * src.length < 2147483648) :
    let p := translate b' numRegs fuse
    (-2147483648 < p.minAcc ∧ p.maxAcc < 2147483648) ∧ DispOk sz p.minAcc ∧ DispOk sz p.maxAcc ∧
    DispOk sz (-p.minAcc) ∧ DispOk sz (-p.maxAcc) :=
  jitRange_window_of_length hb hopt' numRegs fuse sz hlen
example (level : Nat) (hopt' : Opt.optimize b level orders = .ok b') :
    -(src.length : Int) ≤ (translate b' numRegs fuse).minAcc ∧
    (translate b' numRegs fuse).maxAcc ≤ (src.length : Int) :=
  translate_window_optimized hb hopt' numRegs fuse

end Level1

/-! ## `level1_all_backends` (docstring at the theorem, `Proofs/ChainO1.lean`) -/

example (hw : 0 < w) (code : Array Kind) (prog : Prog) (hp : Bf.tree code.toList = some prog)
    (orders : Opt.Orders) (b' : Ir.Block w) (hopt : Opt.optimize (irOf w code.toList) 1 orders = .ok b')
    (numRegs : Nat) (fuse : Bool) (env : Env) :
    let canon : Nat → Fin := fun f => finBf (Bf.run (w := w) f prog env)
    let p : Bc.Program w := translate b' numRegs fuse
    let pj : Bc.Program w := translate b' 11 false
    SameResults canon (fun f => finInplace (Inplace.run (w := w) code false 0 f env)) ∧
    SameResults canon (fun f => finIr (Ir.run b' false 0 f env)) ∧
    SameResults canon (fun f => finBc (Bc.run p false 0 f env)) ∧
    SameResults canon (fun f => finBc (C02.runDebug p false 0 f env)) ∧
    (∀ (sz : Size) (safe : Bool) (cfg : X86Prog.Cfg) (buf0 rsp0 ra : BitVec 64),
      JitRange sz pj false safe cfg buf0 rsp0 ra 0 env →
      ∀ r, (∃ f, canon f = some r) →
        ∃ n, finX86 (X86Prog.run cfg n (initState (w := w) cfg buf0 rsp0 ra pj.minAcc pj.maxAcc 0 env))
          = some r) ∧
    (∀ (sz : Size) (safe : Bool) (cfg : X86Prog.Cfg) (buf0 rsp0 ra : BitVec 64) (bd : Nat),
      JitRange sz pj true safe cfg buf0 rsp0 ra bd env →
      ∃ n r, finX86 (X86Prog.run cfg n (initState (w := w) cfg buf0 rsp0 ra pj.minAcc pj.maxAcc bd env))
          = some r ∧
        (r.1 = true → ∃ f, canon f = some r) ∧
        ∃ f, ∀ g, f ≤ g → r.2 <:+ C01.traceOfBf (Bf.run (w := w) g prog env)) :=
  level1_all_backends hw code prog hp orders b' hopt numRegs fuse env

/-! ## Non-vacuity (kernel evaluation): `,[->++<]>.` – the loop becomes `x1 := 2 * x0` -/

/-- `,[->++<]>.` -/
def o1Code : Array Kind := #[.inp, .open, .dec, .right, .inc, .inc, .left, .close, .right, .out]
def o1Prog : Prog :=
  .cmd .inp (.loop (.cmd .dec (.cmd .right (.cmd .inc (.cmd .inc (.cmd .left .nil))))) (.cmd .right (.cmd .out .nil)))
def o1Env : Env := { input := some [.byte 65, .byte 66, .eof], sink := true, outOk := none }
/-- The bytecode the JIT compiles at -O1. -/
def o1Pj : Bc.Program 8 := translate OptProof.exMul' 11 false
def o1CodeX : List X86 := (compileX86 8 o1Pj false false 0x7f0000001000 0x7f0000002000 0x7f0000003000).getD []


theorem o1_tree : Bf.tree o1Code.toList = some o1Prog := by decide
theorem o1_parse : irOf 8 o1Code.toList = OptProof.exMul :=
  irOf_eq_of_ok (OptProof.parse_of_check (by decide +kernel))
/-- The optimizer model (empty oracle: no hash iteration is consulted) returns `input 0; x1 := 2*x0; output 1`. -/
theorem o1_opt : Opt.optimize (irOf 8 o1Code.toList) 1 [] = .ok OptProof.exMul' := by
  rw [o1_parse]; exact OptProof.optimize_of_check (by decide +kernel)

/-- The bytecode before and after optimisation and the run of the latter, in one kernel evaluation (`translate` of
the optimized block runs once). -/
theorem o1_eval :
    ((translate OptProof.exMul 4 true).insts.size = 6 ∧
      (translate OptProof.exMul' 4 true).insts = #[.inp 0, .mul (.mem 1) (.mem 0) (.imm 2#8), .out 1]) ∧
    finBc (Bc.run (translate OptProof.exMul' 4 true) false 0 4 o1Env) =
      some (true, [Ev.out 130, Ev.inp 65]) := by
  decide +kernel

/-- Level 0 keeps the loop, level 1 has no branch left. -/
example : (translate OptProof.exMul 4 true).insts.size = 6 ∧
    (translate OptProof.exMul' 4 true).insts = #[.inp 0, .mul (.mem 1) (.mem 0) (.imm 2#8), .out 1] := o1_eval.1

/-- The canonical run needs 65 loop iterations. -/
theorem o1_canon : finBf (Bf.run (w := 8) 600 o1Prog o1Env) = some (true, [Ev.out 130, Ev.inp 65]) := by
  decide +kernel

/-- By the theorem: the IR interpreter and the bytecode interpreter (both dispatch modes) on the optimized code
produce exactly that … -/
example :
    (∃ f, finIr (Ir.run OptProof.exMul' false 0 f o1Env) = some (true, [Ev.out 130, Ev.inp 65])) ∧
    (∃ f, finBc (Bc.run (translate OptProof.exMul' 4 true) false 0 f o1Env) =
      some (true, [Ev.out 130, Ev.inp 65])) ∧
    (∃ f, finBc (C02.runDebug (translate OptProof.exMul' 4 true) false 0 f o1Env) =
      some (true, [Ev.out 130, Ev.inp 65])) := by
  have A := level1_all_backends (w := 8) (by decide) o1Code o1Prog o1_tree [] _ o1_opt 4 true o1Env
  exact ⟨(A.2.1 _).1 ⟨600, o1_canon⟩, (A.2.2.1 _).1 ⟨600, o1_canon⟩, (A.2.2.2.1 _).1 ⟨600, o1_canon⟩⟩
/-- … and by evaluation (4 steps instead of ~460). -/
example : finBc (Bc.run (translate OptProof.exMul' 4 true) false 0 4 o1Env) =
    some (true, [Ev.out 130, Ev.inp 65]) := o1_eval.2

/-- `JitRange` is satisfiable for the optimized program. -/
theorem o1Range : JitRange .b8 o1Pj false false (exCfg o1CodeX) 0x560000000000 0x7ffd00000ff8 0x555500001234 0
    o1Env :=
  jitRange_exCfg o1Env rfl (by unfold rangeCheck; decide +kernel)

/-- Hence the machine code compiled from the optimized program returns "finished" with the canonical events. -/
example : ∃ n, finX86 (X86Prog.run (exCfg o1CodeX) n
    (initState (w := 8) (exCfg o1CodeX) 0x560000000000 0x7ffd00000ff8 0x555500001234 o1Pj.minAcc o1Pj.maxAcc 0
      o1Env)) = some (true, [Ev.out 130, Ev.inp 65]) :=
  (level1_all_backends (w := 8) (by decide) o1Code o1Prog o1_tree [] _ o1_opt 4 true o1Env).2.2.2.2.1
    .b8 false (exCfg o1CodeX) _ _ _ o1Range _ ⟨600, o1_canon⟩

end Chain
end Hpbf

#print axioms Hpbf.Chain.irAgrees_level0
#print axioms Hpbf.Chain.irAgrees_of_behEq
#print axioms Hpbf.Chain.bcAgrees_of_ir
#print axioms Hpbf.Chain.onceOk_level1
#print axioms Hpbf.Chain.irAgrees_level1
#print axioms Hpbf.Chain.bcAgrees_level1
#print axioms Hpbf.Chain.ir_level1
#print axioms Hpbf.Chain.ir_limited_level1
#print axioms Hpbf.Chain.bytecode_level1
#print axioms Hpbf.Chain.bytecode_level1_debug
#print axioms Hpbf.Chain.bytecode_level1_proper
#print axioms Hpbf.Chain.bc_never_returns_level1
#print axioms Hpbf.Chain.bc_runs_forever_level1
#print axioms Hpbf.Chain.bc_limited_interrupted_level1
#print axioms Hpbf.Chain.bc_divergent_output_level1
#print axioms Hpbf.Chain.bc_limited_finished_level1
#print axioms Hpbf.Chain.bc_limited_prefix_level1
#print axioms Hpbf.Chain.bc_limited_enough_level1
#print axioms Hpbf.Chain.bc_stops_like_canonical_level1
#print axioms Hpbf.Chain.bc_stops_only_like_canonical_level1
#print axioms Hpbf.Chain.jit_level1_forward
#print axioms Hpbf.Chain.jit_level1_unique
#print axioms Hpbf.Chain.jit_level1_prefix
#print axioms Hpbf.Chain.jit_level1_divergent
#print axioms Hpbf.Chain.jit_level1_limited
#print axioms Hpbf.Chain.jit_level1_limited_enough
#print axioms Hpbf.Chain.translate_window_optimized
#print axioms Hpbf.Chain.jitRange_window_of_length
#print axioms Hpbf.Chain.level1_all_backends
#print axioms Hpbf.Chain.o1_opt
#print axioms Hpbf.Chain.o1_canon
#print axioms Hpbf.Chain.o1Range
