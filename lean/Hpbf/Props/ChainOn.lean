/-
ChainOn: the end-to-end statements at EVERY optimisation level

    source text ──parse──▶ b ──Program::optimize(level) (oracle `orders`)──▶ b' ──IR interpreter
                                                                            └─translate──▶ bytecode interpreter
                                                                                           └─compileX86──▶ x86-64

against canonical Brainfuck semantics, and the headline theorems `anylevel_all_backends`, `anylevel_exists`.
Property theorems only, restated as `example`s; proofs in `Hpbf/Proofs/ChainOn.lean` (instances of the generic
composition, see `Proofs/ChainO1Gen.lean`).

Ingredients: `OptProof.optimize_preserves_of_check_light'`, `OptProof.optimize_onceOk_of_check_light'`,
`OptProof.optimizeCheck_light'` (`Props/C01Rounds.lean`), `OptTotal.optimize_total`,
`OptTotal.optimize_no_panic` (`Proofs/OptTotalRounds.lean`), and everything `Props/ChainO1.lean` uses.

Hypotheses that REMAIN:
* `0 < w`, balancedness of the source;
* `hopt : Opt.optimize b level orders = .ok b'` – success of the optimizer model for the given (arbitrary)
  oracle.  By C13Opt the model never panics on parser output, an error is always an oracle mismatch, and a fitting
  oracle exists for every level (`anylevel_exists`);
* `hc : OptCheck.optimizeCheck N b level orders env = true` – the per-environment test, a hypothesis for levels ≥ 2
  only: at levels 0 and 1 it is `true` by computation (`optimizeCheck_level_le_one`), and the headline theorem takes
  it in the form `2 ≤ level → …`.  It stands for the one fact that does not hold for every run of the unrepaired
  optimizer (`PrevAnalSound`: the analysis a later round starts from is sound for the dead-store-eliminated program on
  the run from `env`; defect F13, witness in `Props/ChainFinal.lean`); where the test fails the theorems are silent.
* `JitRange` for the machine-code statements.
Level 0 needs no separate treatment: `Opt.optimize b 0 orders = .ok b'` forces `b' = b` (and `orders = []`,
`optimize_zero`), the test is `true`, and `OnceOk` comes from `parse_noOnce`; the statements then coincide with
those of `Props/ChainTotal.lean`.
-/
import Hpbf.Proofs.ChainOn

namespace Hpbf
namespace Chain

open Asm JitGen X86Sem X86Prog C03 BcGen C02

variable {w : Nat}

/-! ## Levels 0 and 1, and the test -/

example (b b' : Ir.Block w) (orders : Opt.Orders) (h : Opt.optimize b 0 orders = .ok b') :
    b' = b ∧ orders = [] := optimize_zero h
example (b : Ir.Block w) : Opt.optimize b 0 [] = .ok b := optimize_zero_ok b

/-- `OptCheck.optimizeCheck` unfolded: -/
example (N : Nat) (b : Ir.Block w) (level : Nat) (orders : Opt.Orders) (env : Env) :
    OptCheck.optimizeCheck N b level orders env =
      (if level = 0 then true
       else
         match (Opt.optimizeOnce b (Opt.topAnalysis [] [])).run orders with
         | .ok ((prog, anal), os1) => OptProof.roundsCheck N env (min level 3 - 1) prog anal os1
         | .error _ => true) := by
  rw [OptProof.optimizeCheck_light']; rfl

/-- … and void at levels 0 and 1. -/
example (N : Nat) (b : Ir.Block w) (level : Nat) (hl : level ≤ 1) (orders : Opt.Orders) (env : Env) :
    OptCheck.optimizeCheck N b level orders env = true := optimizeCheck_level_le_one N b hl orders env

section AnyLevel
variable (hw : 0 < w) (src : List Kind) (prog : Prog) (hp : Bf.tree src = some prog)
  (b b' : Ir.Block w) (hb : Ir.parse (w := w) src = .ok b) (level : Nat) (orders : Opt.Orders)
  (hopt : Opt.optimize b level orders = .ok b') (N : Nat) (env : Env)
  (hc : OptCheck.optimizeCheck N b level orders env = true) (numRegs : Nat) (fuse : Bool)

/-! ## The IR block, the IR interpreter, the bytecode interpreter -/

example : OptProof.BehEq b b' env := behEq_anylevel hw hb hopt N env hc
example : OnceOk b' env := onceOk_anylevel hw hb hopt N env hc
example : IrAgrees prog b' env := irAgrees_anylevel hw hp hb hopt N env hc
example : BcAgrees prog (translate b' numRegs fuse) env := bcAgrees_anylevel hw hp hb hopt N env hc numRegs fuse

example :
    ((∀ f (s : State w), Bf.run f prog env = .done s →
        ∃ f' c, Ir.run b' false 0 f' env = .done c ∧ c.st.trace = s.trace) ∧
     (∀ f (s : State w), Bf.run f prog env = .stopped s →
        ∃ f' c, Ir.run b' false 0 f' env = .stopped c ∧ c.st.trace = s.trace)) ∧
    ((∀ f' (c : Ir.Cfg w), Ir.run b' false 0 f' env = .done c →
        ∃ (f : Nat) (s : State w), Bf.run f prog env = .done s ∧ s.trace = c.st.trace) ∧
     (∀ f' (c : Ir.Cfg w), Ir.run b' false 0 f' env = .stopped c →
        ∃ (f : Nat) (s : State w), Bf.run f prog env = .stopped s ∧ s.trace = c.st.trace)) ∧
    ((∀ f', ∃ f, C01.traceOf (Ir.run b' false 0 f' env) = C01.traceOfBf (Bf.run (w := w) f prog env)) ∧
     (∀ f, ∃ f', C01.traceOf (Ir.run b' false 0 f' env) = C01.traceOfBf (Bf.run (w := w) f prog env))) :=
  ir_anylevel hw hp hb hopt N env hc

example :
    ((∀ f (s : State w), Bf.run f prog env = .done s →
        ∃ f' c', Bc.run (translate b' numRegs fuse) false 0 f' env = .done c' ∧ c'.st.trace = s.trace) ∧
     (∀ f (s : State w), Bf.run f prog env = .stopped s →
        ∃ f' c', Bc.run (translate b' numRegs fuse) false 0 f' env = .stopped c' ∧ c'.st.trace = s.trace)) ∧
    ((∀ f' (c' : Bc.Cfg w), Bc.run (translate b' numRegs fuse) false 0 f' env = .done c' →
        ∃ (f : Nat) (s : State w), Bf.run f prog env = .done s ∧ s.trace = c'.st.trace) ∧
     (∀ f' (c' : Bc.Cfg w), Bc.run (translate b' numRegs fuse) false 0 f' env = .stopped c' →
        ∃ (f : Nat) (s : State w), Bf.run f prog env = .stopped s ∧ s.trace = c'.st.trace)) ∧
    ((∀ f', ∃ f, C07.traceOfBc (Bc.run (translate b' numRegs fuse) false 0 f' env) =
        C01.traceOfBf (Bf.run (w := w) f prog env)) ∧
     (∀ f, ∃ f', C07.traceOfBc (Bc.run (translate b' numRegs fuse) false 0 f' env) =
        C01.traceOfBf (Bf.run (w := w) f prog env))) :=
  bytecode_anylevel hw hp hb hopt N env hc numRegs fuse

example :
    ((∀ f (s : State w), Bf.run f prog env = .done s →
        ∃ f' c', runDebug (translate b' numRegs fuse) false 0 f' env = .done c' ∧ c'.st.trace = s.trace) ∧
     (∀ f (s : State w), Bf.run f prog env = .stopped s →
        ∃ f' c', runDebug (translate b' numRegs fuse) false 0 f' env = .stopped c' ∧ c'.st.trace = s.trace)) ∧
    ((∀ f' (c' : Bc.Cfg w), runDebug (translate b' numRegs fuse) false 0 f' env = .done c' →
        ∃ (f : Nat) (s : State w), Bf.run f prog env = .done s ∧ s.trace = c'.st.trace) ∧
     (∀ f' (c' : Bc.Cfg w), runDebug (translate b' numRegs fuse) false 0 f' env = .stopped c' →
        ∃ (f : Nat) (s : State w), Bf.run f prog env = .stopped s ∧ s.trace = c'.st.trace)) ∧
    ((∀ f', ∃ f, C07.traceOfBc (runDebug (translate b' numRegs fuse) false 0 f' env) =
        C01.traceOfBf (Bf.run (w := w) f prog env)) ∧
     (∀ f, ∃ f', C07.traceOfBc (runDebug (translate b' numRegs fuse) false 0 f' env) =
        C01.traceOfBf (Bf.run (w := w) f prog env))) :=
  bytecode_anylevel_debug hw hp hb hopt N env hc numRegs fuse

example :
    (∀ (l : Bool) (bd f' : Nat) (c' : Bc.Cfg w), Bc.run (translate b' numRegs fuse) l bd f' env ≠ .bad c') ∧
    (∀ (f' : Nat) (c' : Bc.Cfg w), Bc.run (translate b' numRegs fuse) false 0 f' env ≠ .interrupted c') :=
  bytecode_anylevel_proper b' numRegs fuse env

/-! ### C05 / C07 / C08 -/

example (hdiv : C05.BfDiverges w prog env) :
    (∀ (f' : Nat) (c : Bc.Cfg w),
      Bc.run (translate b' numRegs fuse) false 0 f' env ≠ .done c ∧
      Bc.run (translate b' numRegs fuse) false 0 f' env ≠ .stopped c) ∧
    (∀ (bd f' : Nat) (c : Bc.Cfg w),
      Bc.run (translate b' numRegs fuse) true bd f' env ≠ .done c ∧
      Bc.run (translate b' numRegs fuse) true bd f' env ≠ .stopped c) :=
  bc_never_returns_anylevel hw hp hb hopt N env hc numRegs fuse hdiv

example (hdiv : C05.BfDiverges w prog env) :
    ∀ f', ∃ c : Bc.Cfg w, Bc.run (translate b' numRegs fuse) false 0 f' env = .outOfFuel c :=
  bc_runs_forever_anylevel hw hp hb hopt N env hc numRegs fuse hdiv

example (hdiv : C05.BfDiverges w prog env) :
    ∀ bd, ∃ f' c, Bc.run (translate b' numRegs fuse) true bd f' env = .interrupted c :=
  bc_limited_interrupted_anylevel hw hp hb hopt N env hc numRegs fuse hdiv

example (hdiv : C05.BfDiverges w prog env) :
    (∀ f, ∃ f' c c', Bf.run (w := w) f prog env = .outOfFuel c ∧
      Bc.run (translate b' numRegs fuse) false 0 f' env = .outOfFuel c' ∧ c'.st.trace = c.st.trace) ∧
    (∀ f', ∃ f c c', Bc.run (translate b' numRegs fuse) false 0 f' env = .outOfFuel c' ∧
      Bf.run (w := w) f prog env = .outOfFuel c ∧ c'.st.trace = c.st.trace) :=
  bc_divergent_output_anylevel hw hp hb hopt N env hc numRegs fuse hdiv

example :
    (∀ (bd f' : Nat) (c : Bc.Cfg w), Bc.run (translate b' numRegs fuse) true bd f' env = .done c →
      ∃ (f : Nat) (s : State w), Bf.run f prog env = .done s ∧ s.trace = c.st.trace) ∧
    (∀ (bd f' : Nat) (c : Bc.Cfg w), Bc.run (translate b' numRegs fuse) true bd f' env = .stopped c →
      ∃ (f : Nat) (s : State w), Bf.run f prog env = .stopped s ∧ s.trace = c.st.trace) :=
  bc_limited_finished_anylevel hw hp hb hopt N env hc numRegs fuse

example : ∀ bd f', ∃ f, ∀ g, f ≤ g →
    C07.traceOfBc (Bc.run (translate b' numRegs fuse) true bd f' env) <:+
      C01.traceOfBf (Bf.run (w := w) g prog env) :=
  bc_limited_prefix_anylevel hw hp hb hopt N env hc numRegs fuse

example :
    (∀ (f : Nat) (s : State w), Bf.run f prog env = .done s →
      ∃ g, ∀ bd, g ≤ bd →
        ∃ f' c, Bc.run (translate b' numRegs fuse) true bd f' env = .done c ∧ c.st.trace = s.trace) ∧
    (∀ (f : Nat) (s : State w), Bf.run f prog env = .stopped s →
      ∃ g, ∀ bd, g ≤ bd →
        ∃ f' c, Bc.run (translate b' numRegs fuse) true bd f' env = .stopped c ∧ c.st.trace = s.trace) :=
  bc_limited_enough_anylevel hw hp hb hopt N env hc numRegs fuse

example : ∀ (f : Nat) (s : State w), Bf.run f prog env = .stopped s →
    ∃ f' c, (∀ k, Bc.run (translate b' numRegs fuse) false 0 (f' + k) env = .stopped c) ∧
      c.st.trace = s.trace :=
  bc_stops_like_canonical_anylevel hw hp hb hopt N env hc numRegs fuse

example : ∀ (l : Bool) (bd f' : Nat) (c : Bc.Cfg w),
    Bc.run (translate b' numRegs fuse) l bd f' env = .stopped c → (l = false → bd = 0) →
    ∃ (f : Nat) (s : State w), Bf.run f prog env = .stopped s ∧ s.trace = c.st.trace :=
  bc_stops_only_like_canonical_anylevel hw hp hb hopt N env hc numRegs fuse

/-! ## `jit_anylevel_*` (`JitRange` as in `Props/ChainTotal.lean`) -/

variable (sz : Size) (safe : Bool) (cfg : X86Prog.Cfg) (buf0 rsp0 ra : BitVec 64)

example (R : JitRange sz (translate b' 11 false) false safe cfg buf0 rsp0 ra 0 env) :
    let p := translate b' 11 false
    let s0 : PState w := initState cfg buf0 rsp0 ra p.minAcc p.maxAcc 0 env
    (∀ f (s : State w), Bf.run f prog env = .done s →
      ∃ n s', X86Prog.run cfg n s0 = .ret s' ∧ s'.regs.rax = 1 ∧ s'.trace = s.trace) ∧
    (∀ f (s : State w), Bf.run f prog env = .stopped s →
      ∃ n s', X86Prog.run cfg n s0 = .ret s' ∧ s'.regs.rax = 0 ∧ s'.trace = s.trace) :=
  jit_anylevel_forward hw hp hb hopt N env hc R

example (R : JitRange sz (translate b' 11 false) false safe cfg buf0 rsp0 ra 0 env) :
    let p := translate b' 11 false
    let s0 : PState w := initState cfg buf0 rsp0 ra p.minAcc p.maxAcc 0 env
    (∀ f (s : State w), Bf.run f prog env = .done s →
      ∀ n s', X86Prog.run cfg n s0 = .ret s' → s'.regs.rax = 1 ∧ s'.trace = s.trace) ∧
    (∀ f (s : State w), Bf.run f prog env = .stopped s →
      ∀ n s', X86Prog.run cfg n s0 = .ret s' → s'.regs.rax = 0 ∧ s'.trace = s.trace) :=
  jit_anylevel_unique hw hp hb hopt N env hc R

example (R : JitRange sz (translate b' 11 false) false safe cfg buf0 rsp0 ra 0 env) :
    let p := translate b' 11 false
    let s0 : PState w := initState cfg buf0 rsp0 ra p.minAcc p.maxAcc 0 env
    ∀ f, ∃ n s', (steps cfg n s0 = some s' ∨ X86Prog.run cfg n s0 = .ret s') ∧
      s'.trace = C01.traceOfBf (Bf.run (w := w) f prog env) :=
  jit_anylevel_prefix hw hp hb hopt N env hc R

example (R : JitRange sz (translate b' 11 false) false safe cfg buf0 rsp0 ra 0 env)
    (hdiv : C05.BfDiverges w prog env) :
    let p := translate b' 11 false
    let s0 : PState w := initState cfg buf0 rsp0 ra p.minAcc p.maxAcc 0 env
    ∀ f, ∃ n s', steps cfg n s0 = some s' ∧ s'.trace = C01.traceOfBf (Bf.run (w := w) f prog env) :=
  jit_anylevel_divergent hw hp hb hopt N env hc R hdiv

example (bd : Nat) (R : JitRange sz (translate b' 11 false) true safe cfg buf0 rsp0 ra bd env) :
    let p := translate b' 11 false
    let s0 : PState w := initState cfg buf0 rsp0 ra p.minAcc p.maxAcc bd env
    ∃ n s', X86Prog.run cfg n s0 = .ret s' ∧
      (∀ n2 s2, X86Prog.run cfg n2 s0 = .ret s2 → s2 = s') ∧
      (s'.regs.rax = 1 ∨ s'.regs.rax = 0) ∧
      (s'.regs.rax = 1 → ∃ (f : Nat) (s : State w), Bf.run f prog env = .done s ∧ s.trace = s'.trace) ∧
      (∃ f, ∀ g, f ≤ g → s'.trace <:+ C01.traceOfBf (Bf.run (w := w) g prog env)) :=
  jit_anylevel_limited hw hp hb hopt N env hc R

example :
    let p := translate b' 11 false
    (∀ f (s : State w), Bf.run f prog env = .done s → ∃ g, ∀ bd, g ≤ bd →
      JitRange sz p true safe cfg buf0 rsp0 ra bd env →
      ∃ n s', X86Prog.run cfg n (initState (w := w) cfg buf0 rsp0 ra p.minAcc p.maxAcc bd env) = .ret s' ∧
        s'.regs.rax = 1 ∧ s'.trace = s.trace) ∧
    (∀ f (s : State w), Bf.run f prog env = .stopped s → ∃ g, ∀ bd, g ≤ bd →
      JitRange sz p true safe cfg buf0 rsp0 ra bd env →
      ∃ n s', X86Prog.run cfg n (initState (w := w) cfg buf0 rsp0 ra p.minAcc p.maxAcc bd env) = .ret s' ∧
        s'.regs.rax = 0 ∧ s'.trace = s.trace) :=
  jit_anylevel_limited_enough hw hp hb hopt N env hc

end AnyLevel

/-! ## All backends -/

/-- The conclusion, spelled out. -/
example (code : Array Kind) (prog : Prog) (b' : Ir.Block w) (numRegs : Nat) (fuse : Bool) (env : Env) :
    AllBackends code prog b' numRegs fuse env ↔
    (let canon : Nat → Fin := fun f => finBf (Bf.run (w := w) f prog env)
     let p : Bc.Program w := translate b' numRegs fuse
     let pj : Bc.Program w := translate b' 11 false
     SameResults canon (fun f => finInplace (Inplace.run (w := w) code false 0 f env)) ∧
     SameResults canon (fun f => finIr (Ir.run b' false 0 f env)) ∧
     SameResults canon (fun f => finBc (Bc.run p false 0 f env)) ∧
     SameResults canon (fun f => finBc (C02.runDebug p false 0 f env)) ∧
     (∀ (sz : Size) (safe : Bool) (cfg : X86Prog.Cfg) (buf0 rsp0 ra : BitVec 64),
       JitRange sz pj false safe cfg buf0 rsp0 ra 0 env →
       ∀ r, (∃ f, canon f = some r) →
         ∃ n, finX86 (X86Prog.run cfg n (initState (w := w) cfg buf0 rsp0 ra pj.minAcc pj.maxAcc 0 env))
           = some r) ∧
     (∀ (sz : Size) (safe : Bool) (cfg : X86Prog.Cfg) (buf0 rsp0 ra : BitVec 64) (bd : Nat),
       JitRange sz pj true safe cfg buf0 rsp0 ra bd env →
       ∃ n r, finX86 (X86Prog.run cfg n (initState (w := w) cfg buf0 rsp0 ra pj.minAcc pj.maxAcc bd env))
           = some r ∧
         (r.1 = true → ∃ f, canon f = some r) ∧
         ∃ f, ∀ g, f ≤ g → r.2 <:+ C01.traceOfBf (Bf.run (w := w) g prog env))) := Iff.rfl

/-- **`anylevel_all_backends`** (docstring at the theorem, `Proofs/ChainOn.lean`). -/
example (hw : 0 < w) (code : Array Kind) (prog : Prog) (hp : Bf.tree code.toList = some prog) (level : Nat)
    (orders : Opt.Orders) (b' : Ir.Block w)
    (hopt : Opt.optimize (irOf w code.toList) level orders = .ok b') (N : Nat) (env : Env)
    (hc : 2 ≤ level → OptCheck.optimizeCheck N (irOf w code.toList) level orders env = true)
    (numRegs : Nat) (fuse : Bool) : AllBackends code prog b' numRegs fuse env :=
  anylevel_all_backends hw code prog hp level orders b' hopt N env hc numRegs fuse

/-- **`anylevel_exists`**: the optimizer never panics, a fitting oracle exists, and for it all backends agree
wherever the test passes. -/
example (hw : 0 < w) (code : Array Kind) (prog : Prog) (hp : Bf.tree code.toList = some prog) (level : Nat) :
    (∀ orders e, Opt.optimize (irOf w code.toList) level orders = .error e →
      OptTotal.isOracleError e = true) ∧
    ∃ orders b', Opt.optimize (irOf w code.toList) level orders = .ok b' ∧
      ∀ (N : Nat) (env : Env),
        (2 ≤ level → OptCheck.optimizeCheck N (irOf w code.toList) level orders env = true) →
        ∀ (numRegs : Nat) (fuse : Bool), AllBackends code prog b' numRegs fuse env :=
  anylevel_exists hw code prog hp level
example (e : String) : OptTotal.isOracleError e = "order-mismatch ".toList.isPrefixOf e.toList := rfl

/-- Levels 0 and 1: no test. -/
example (hw : 0 < w) (code : Array Kind) (prog : Prog) (hp : Bf.tree code.toList = some prog) (level : Nat)
    (hl : level ≤ 1) (orders : Opt.Orders) (b' : Ir.Block w)
    (hopt : Opt.optimize (irOf w code.toList) level orders = .ok b') (env : Env) (numRegs : Nat) (fuse : Bool) :
    AllBackends code prog b' numRegs fuse env :=
  level_le_one_all_backends hw code prog hp level hl orders b' hopt env numRegs fuse

/-! ## Non-vacuity (kernel evaluation): multiplication `,>,<[>[>+>+<<-]>>[<<+>>-]<<<-]>>.` at LEVEL 3 -/

def onCode : Array Kind := OptProof.RoundsEx.mulSrc.toArray
def onProg : Prog := (Bf.tree onCode.toList).getD .nil
/-- input 3, 2 -/
def onEnv : Env := OptProof.RoundsEx.mulEnv
def onB3 : Ir.Block 8 :=
  match Opt.optimize (irOf 8 onCode.toList) 3 [] with
  | .ok b => b
  | .error _ => ⟨0, []⟩


theorem on_tree : Bf.tree onCode.toList = some onProg := by
  have h : (Bf.tree onCode.toList).isSome = true := by decide +kernel
  unfold onProg
  cases ht : Bf.tree onCode.toList with
  | none => rw [ht] at h; cases h
  | some p => rfl

/-- Level 3 with the empty oracle, in one kernel evaluation (the three facts replay the same optimizer rounds, which
the kernel reduces once within a declaration): all three rounds succeed; the bytecode interpreter on the result
gives the canonical output; the test passes for the environment "input 3, 2" (replay fuel 400). -/
theorem on_run3 :
    (match Opt.optimize (irOf 8 onCode.toList) 3 [] with
      | .ok b => decide (finBc (Bc.run (translate b 4 true) false 0 100 onEnv) =
          some (true, [Ev.out 6, Ev.inp 2, Ev.inp 3]))
      | .error _ => false) = true ∧
    OptCheck.optimizeCheck 400 (irOf 8 onCode.toList) 3 [] onEnv = true := by
  decide +kernel

/-- All three rounds succeed with the empty oracle … -/
theorem on_opt : Opt.optimize (irOf 8 onCode.toList) 3 [] = .ok onB3 := by
  have h := on_run3.1
  unfold onB3
  cases ho : Opt.optimize (irOf 8 onCode.toList) 3 [] with
  | error e => rw [ho] at h; cases h
  | ok b => rfl

/-- … and the test passes for the environment "input 3, 2" (replay fuel 400). -/
theorem on_check : OptCheck.optimizeCheck 400 (irOf 8 onCode.toList) 3 [] onEnv = true := on_run3.2

/-- The canonical run: reads 3 and 2, prints 6. -/
theorem on_canon : finBf (Bf.run (w := 8) 300 onProg onEnv) = some (true, [Ev.out 6, Ev.inp 2, Ev.inp 3]) := by
  decide +kernel

/-- By the theorem: the IR interpreter on the level-3 block and the bytecode interpreter (both dispatch modes)
on its translation produce exactly that. -/
example :
    (∃ f, finIr (Ir.run onB3 false 0 f onEnv) = some (true, [Ev.out 6, Ev.inp 2, Ev.inp 3])) ∧
    (∃ f, finBc (Bc.run (translate onB3 4 true) false 0 f onEnv) =
      some (true, [Ev.out 6, Ev.inp 2, Ev.inp 3])) ∧
    (∃ f, finBc (C02.runDebug (translate onB3 4 true) false 0 f onEnv) =
      some (true, [Ev.out 6, Ev.inp 2, Ev.inp 3])) := by
  have A := anylevel_all_backends (w := 8) (by decide) onCode onProg on_tree 3 [] onB3 on_opt 400 onEnv
    (fun _ => on_check) 4 true
  exact ⟨(A.2.1 _).1 ⟨300, on_canon⟩, (A.2.2.1 _).1 ⟨300, on_canon⟩, (A.2.2.2.1 _).1 ⟨300, on_canon⟩⟩

/-- … and by evaluation. -/
example : finBc (Bc.run (translate onB3 4 true) false 0 100 onEnv) =
    some (true, [Ev.out 6, Ev.inp 2, Ev.inp 3]) := by
  have h := on_run3.1
  rw [on_opt] at h
  exact of_decide_eq_true h

/-- The same source at level 0 and level 1 needs no test (here by `level_le_one_all_backends`). -/
example : ∃ f, finBc (Bc.run (translate (irOf 8 onCode.toList) 4 false) false 0 f onEnv) =
    some (true, [Ev.out 6, Ev.inp 2, Ev.inp 3]) :=
  ((level_le_one_all_backends (w := 8) (by decide) onCode onProg on_tree 0 (by decide) [] _
    (optimize_zero_ok _) onEnv 4 false).2.2.1 _).1 ⟨300, on_canon⟩

end Chain
end Hpbf

#print axioms Hpbf.Chain.optimize_zero
#print axioms Hpbf.Chain.optimizeCheck_level_le_one
#print axioms Hpbf.Chain.behEq_anylevel
#print axioms Hpbf.Chain.onceOk_anylevel
#print axioms Hpbf.Chain.irAgrees_anylevel
#print axioms Hpbf.Chain.bcAgrees_anylevel
#print axioms Hpbf.Chain.ir_anylevel
#print axioms Hpbf.Chain.bytecode_anylevel
#print axioms Hpbf.Chain.bytecode_anylevel_debug
#print axioms Hpbf.Chain.bytecode_anylevel_proper
#print axioms Hpbf.Chain.bc_never_returns_anylevel
#print axioms Hpbf.Chain.bc_runs_forever_anylevel
#print axioms Hpbf.Chain.bc_limited_interrupted_anylevel
#print axioms Hpbf.Chain.bc_divergent_output_anylevel
#print axioms Hpbf.Chain.bc_limited_finished_anylevel
#print axioms Hpbf.Chain.bc_limited_prefix_anylevel
#print axioms Hpbf.Chain.bc_limited_enough_anylevel
#print axioms Hpbf.Chain.bc_stops_like_canonical_anylevel
#print axioms Hpbf.Chain.bc_stops_only_like_canonical_anylevel
#print axioms Hpbf.Chain.jit_anylevel_forward
#print axioms Hpbf.Chain.jit_anylevel_unique
#print axioms Hpbf.Chain.jit_anylevel_prefix
#print axioms Hpbf.Chain.jit_anylevel_divergent
#print axioms Hpbf.Chain.jit_anylevel_limited
#print axioms Hpbf.Chain.jit_anylevel_limited_enough
#print axioms Hpbf.Chain.allBackends_of_agrees
#print axioms Hpbf.Chain.anylevel_all_backends
#print axioms Hpbf.Chain.anylevel_exists
#print axioms Hpbf.Chain.level_le_one_all_backends
#print axioms Hpbf.Chain.on_opt
#print axioms Hpbf.Chain.on_check
#print axioms Hpbf.Chain.on_canon
