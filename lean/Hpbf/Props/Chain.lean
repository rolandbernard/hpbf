/-
Chain: the per-stage theorems composed into END-TO-END statements at optimisation level 0 (where the optimizer
is the identity):

    source text ──Program::parse──▶ IR ──translate──▶ bytecode ──threaded interpreter        (§4, §5)
                                                              └──compileX86──▶ x86-64 code    (§6)

against canonical Brainfuck semantics (`Bf.run`).  Property theorems only; the proofs are in
`Hpbf/Proofs/Chain{Phases,Refine,Level0,Jit}.lean`; the theorems below are those theorems (namespace
`Hpbf.Chain`), restated as `example`s so that the exact statements are checked in this file (§5: the corollaries
`bc_*` hold for every bytecode program that agrees with the canonical one, `BcAgrees`; here at `bytecode_level0`).

Ingredients: C01 (`parse_forward/backward/prefix`: canonical vs. `Ir.run (parse src)`), C02Emit (`emit_*`: IR vs.
the code after the emission phase), C02Dse (`deadStoreElim_preserves_of_emit`), C02Alloc (`allocPre_of_emit`,
`allocateTemps_preserves`, `allocateTemps_latePre`), C02 (`late_passes_preserve`, `runDebug_eq_run`), C07
(`bc_limited_*`), C11 (`check_run_not_bad`), C03Flow (`prog_run`).

Conventions: `src : List Kind` classified source text; `prog` its bracket tree (`Bf.tree src = some prog` – the
text is balanced); `blk` the block returned by `Ir.parse` at cell width `w`, `0 < w` (as C01 needs); `p` the
program returned by `translateE blk numRegs fuse`; `env` an arbitrary environment (input replies incl. EOF and
errors, absent source, absent/refusing sink); unlimited runs are `limited = false`, budget `0`.  Traces are
lists of events, most recent first.

What is composed unconditionally, and what is a hypothesis of the statements in this file.
* Proved: `TargetsOk` of the emission output (`emit_targetsOk`), hence `LatePre` of the allocation output,
  the `live` sizes, `OnceOk` (the parser never sets `once`: `parse_noOnce`), and success of `dead_store_elim`
  and of the late passes on generator output (`translateE_ok_of_alloc`).
* Hypothesis: `translateE blk numRegs fuse = .ok p`.  It always holds (`C02.emitOnly_total` for the emission phase,
  `C02.translateE_total` for the whole generator); `Props/ChainTotal.lean` has the statements for the total function
  `translate` without it.
* Hypothesis (only where stated): `BcWf.check p n = true` to exclude the outcome "malformed bytecode" for runs that
  do not terminate (the simulation of the emission phase treats `bad` like divergence); for terminating runs it is
  excluded unconditionally (`bytecode_level0_proper`).  It holds for every output of `translateE`
  (`C02.translateE_check`).
* Hypothesis: all hypotheses of `C03.prog_run`, bundled in `JitHyps` (§6).
Observables lost on the way: C01 compares events only, so every end-to-end statement is about events (plus the
kind of ending).  Inside `translate` (§2) a run that ends normally keeps tape, pointer and environment; a run
that STOPS at a failing I/O operation keeps pointer, environment and events but not the tape (`BehEqIO`:
`dead_store_elim` always, `zeroing_move_detection` with `fuse`).
-/
import Hpbf.Proofs.ChainJit

namespace Hpbf
namespace Chain

open Asm JitGen X86Sem X86Prog C03 BcGen C02

variable {w : Nat}

/-! ## 1. Links between the phases of `translateE` -/

/-- The code produced by the emission phase has all branch targets in `[0, n]` … -/
example (prog : Ir.Block w) (fuse : Bool) (s : St w) (h : emitState prog fuse = .ok s) :
    TargetsOk s.insts := emit_targetsOk h
/-- … more precisely: `brnz` jumps backwards (not before the start), `brz` forwards (at most to the end). -/
example (prog : Ir.Block w) (fuse : Bool) (s : St w) (h : emitState prog fuse = .ok s) (j : Nat)
    (cnd off : Int) (hj : s.insts[j]? = some (.brnz cnd off)) : 0 ≤ (j : Int) + off ∧ off ≤ 0 :=
  emit_brnz_target h hj
example (prog : Ir.Block w) (fuse : Bool) (s : St w) (h : emitState prog fuse = .ok s) (j : Nat)
    (cnd off : Int) (hj : s.insts[j]? = some (.brz cnd off)) : 0 < off ∧ (j : Int) + off ≤ s.insts.size :=
  emit_brz_target h hj
example (prog : Ir.Block w) (fuse : Bool) (s : St w) (h : emitState prog fuse = .ok s) : s.live.size = 0 :=
  emit_live0 h

/-- A successful translation is a successful run of each phase (`latePasses` and `package` are transparent). -/
example (prog : Ir.Block w) (numRegs : Nat) (fuse : Bool) (p : Bc.Program w)
    (h : translateE prog numRegs fuse = .ok p) :
    ∃ s1 s2 s3 s4, emitState prog fuse = .ok s1 ∧ deadStoreElim s1 = .ok s2 ∧
      allocateTemps numRegs s2 = .ok s3 ∧ latePasses fuse s3 = .ok s4 ∧ p = package prog s4 :=
  translateE_phases h
example (prog : Ir.Block w) (s : St w) : package prog s =
    { temps := countTemps s.insts, minAcc := (analyze prog).minAcc, maxAcc := (analyze prog).maxAcc,
      live := s.live, insts := s.insts } := rfl

/-- Once the emission succeeded, the translation succeeds whenever `allocate_temps` does. -/
example (prog : Ir.Block w) (numRegs : Nat) (fuse : Bool) (s1 : St w) (h1 : emitState prog fuse = .ok s1) :
    ∃ s2, deadStoreElim s1 = .ok s2 ∧
      ∀ s3, allocateTemps numRegs s2 = .ok s3 → ∃ p, translateE prog numRegs fuse = .ok p :=
  translateE_ok_of_alloc h1

/-- The passes after the emission: the allocation output satisfies `LatePre`, the final state has a `live`
bitmap per instruction and no `noop`, and the states before and after are `BehEqIO` (whatever the fields
`temps`, `minAcc`, `maxAcc` of the packaged programs). -/
example (prog : Ir.Block w) (numRegs : Nat) (fuse : Bool) (s1 s2 s3 s4 : St w)
    (h1 : emitState prog fuse = .ok s1) (h2 : deadStoreElim s1 = .ok s2)
    (h3 : allocateTemps numRegs s2 = .ok s3) (h4 : latePasses fuse s3 = .ok s4) :
    LatePre s3 ∧ s4.live.size = s4.insts.size ∧ (∀ x ∈ s4.insts, BcGen.isNoop x = false) ∧
    ∀ (t t' : Nat) (mn mx : Int), BehEqIO (progOf s1 t mn mx) (progOf s4 t' mn mx) :=
  passes_behEqIO h1 h2 h3 h4

/-- Emission output vs. final program (limited and unlimited mode, every budget, every environment). -/
example (prog : Ir.Block w) (numRegs : Nat) (fuse : Bool) (p : Bc.Program w)
    (h : translateE prog numRegs fuse = .ok p) : ∃ p0, emitOnly prog fuse = .ok p0 ∧ BehEqIO p0 p :=
  translate_behEqIO h

example (prog : Ir.Block w) (numRegs : Nat) (fuse : Bool) (p : Bc.Program w)
    (h : translateE prog numRegs fuse = .ok p) :
    p.live.size = p.insts.size ∧ (∀ x ∈ p.insts, BcGen.isNoop x = false) ∧
    p.minAcc = (analyze prog).minAcc ∧ p.maxAcc = (analyze prog).maxAcc ∧ p.temps = countTemps p.insts :=
  translate_shape h

/-! ## 2. `translate` refines the IR (every IR block, every `numRegs`, both values of `fuse`) -/

/-- Forward / backward / prefix.  `done`: events, tape (as a function), pointer, environment; `stopped`: events,
pointer, environment (the tape is lost at `BehEqIO`); cut-off runs: events. -/
example (blk : Ir.Block w) (numRegs : Nat) (fuse : Bool) (p : Bc.Program w) (env : Env)
    (hp : translateE blk numRegs fuse = .ok p) (ho : OnceOk blk env) :
    ((∀ f (c : Ir.Cfg w), Ir.run blk false 0 f env = .done c →
      ∃ f' c', Bc.run p false 0 f' env = .done c' ∧ c'.st.trace = c.st.trace ∧
        (∀ i, c'.st.tape.get i = c.st.tape.get i) ∧ c'.st.ptr = c.st.ptr ∧ c'.st.env = c.st.env) ∧
     (∀ f (c : Ir.Cfg w), Ir.run blk false 0 f env = .stopped c →
      ∃ f' c', Bc.run p false 0 f' env = .stopped c' ∧ c'.st.trace = c.st.trace ∧
        c'.st.ptr = c.st.ptr ∧ c'.st.env = c.st.env)) ∧
    ((∀ f' (c' : Bc.Cfg w), Bc.run p false 0 f' env = .done c' →
      ∃ f c, Ir.run blk false 0 f env = .done c ∧ c.st.trace = c'.st.trace ∧
        (∀ i, c.st.tape.get i = c'.st.tape.get i) ∧ c.st.ptr = c'.st.ptr ∧ c.st.env = c'.st.env) ∧
     (∀ f' (c' : Bc.Cfg w), Bc.run p false 0 f' env = .stopped c' →
      ∃ f c, Ir.run blk false 0 f env = .stopped c ∧ c.st.trace = c'.st.trace ∧
        c.st.ptr = c'.st.ptr ∧ c.st.env = c'.st.env)) ∧
    ((∀ f', ∃ f, C01.traceOf (Ir.run blk false 0 f env) = C07.traceOfBc (Bc.run p false 0 f' env)) ∧
     (∀ f, ∃ f', C07.traceOfBc (Bc.run p false 0 f' env) = C01.traceOf (Ir.run blk false 0 f env))) :=
  translate_refines env hp ho

/-- The version for IR without `once` loops (all that `Program::parse` produces), every environment. -/
example (blk : Ir.Block w) (numRegs : Nat) (fuse : Bool) (p : Bc.Program w) (env : Env)
    (hp : translateE blk numRegs fuse = .ok p) (hn : NoOnce blk) :
    ((∀ f (c : Ir.Cfg w), Ir.run blk false 0 f env = .done c →
      ∃ f' c', Bc.run p false 0 f' env = .done c' ∧ c'.st.trace = c.st.trace ∧
        (∀ i, c'.st.tape.get i = c.st.tape.get i) ∧ c'.st.ptr = c.st.ptr ∧ c'.st.env = c.st.env) ∧
     (∀ f (c : Ir.Cfg w), Ir.run blk false 0 f env = .stopped c →
      ∃ f' c', Bc.run p false 0 f' env = .stopped c' ∧ c'.st.trace = c.st.trace ∧
        c'.st.ptr = c.st.ptr ∧ c'.st.env = c.st.env)) ∧
    ((∀ f' (c' : Bc.Cfg w), Bc.run p false 0 f' env = .done c' →
      ∃ f c, Ir.run blk false 0 f env = .done c ∧ c.st.trace = c'.st.trace ∧
        (∀ i, c.st.tape.get i = c'.st.tape.get i) ∧ c.st.ptr = c'.st.ptr ∧ c.st.env = c'.st.env) ∧
     (∀ f' (c' : Bc.Cfg w), Bc.run p false 0 f' env = .stopped c' →
      ∃ f c, Ir.run blk false 0 f env = .stopped c ∧ c.st.trace = c'.st.trace ∧
        c.st.ptr = c'.st.ptr ∧ c.st.env = c'.st.env)) ∧
    ((∀ f', ∃ f, C01.traceOf (Ir.run blk false 0 f env) = C07.traceOfBc (Bc.run p false 0 f' env)) ∧
     (∀ f, ∃ f', C07.traceOfBc (Bc.run p false 0 f' env) = C01.traceOf (Ir.run blk false 0 f env))) :=
  translate_refines_noOnce env hp hn

/-- Never interrupted (unlimited mode); never "malformed bytecode" once the IR run terminates. -/
example (p : Bc.Program w) (f' : Nat) (env : Env) (c' : Bc.Cfg w) :
    Bc.run p false 0 f' env ≠ .interrupted c' := translate_never_interrupted p f' env c'
example (blk : Ir.Block w) (numRegs : Nat) (fuse : Bool) (p : Bc.Program w) (env : Env)
    (hp : translateE blk numRegs fuse = .ok p) (ho : OnceOk blk env) (f : Nat) (c : Ir.Cfg w)
    (hc : Ir.run blk false 0 f env = .done c ∨ Ir.run blk false 0 f env = .stopped c)
    (f' : Nat) (c' : Bc.Cfg w) : Bc.run p false 0 f' env ≠ .bad c' :=
  translate_not_bad_of_terminates env hp ho hc f' c'

/-! ## 3. The parser never sets `once` -/

example (src : List Kind) (blk : Ir.Block w) (h : Ir.parse (w := w) src = .ok blk) : NoOnce blk :=
  parse_noOnce h
example (src : List Kind) (blk : Ir.Block w) (h : Ir.parse (w := w) src = .ok blk) (env : Env) :
    OnceOk blk env := parse_onceOk h env

/-! ## 4. Level 0: canonical semantics vs. the bytecode interpreter -/

section Level0
variable (hw : 0 < w) (src : List Kind) (prog : Prog) (hp : Bf.tree src = some prog)
  (blk : Ir.Block w) (hb : Ir.parse (w := w) src = .ok blk)
  (numRegs : Nat) (fuse : Bool) (p : Bc.Program w) (ht : translateE blk numRegs fuse = .ok p) (env : Env)

/-- **Release build (tail-called dispatch).**  Forward: canonical termination ⇒ the bytecode run terminates the
same way with the same events.  Backward: the bytecode run terminates only if the canonical run does, same
events.  Prefix: cut off anywhere, neither has emitted anything the other does not emit. -/
example :
    ((∀ f (s : State w), Bf.run f prog env = .done s →
        ∃ f' c', Bc.run p false 0 f' env = .done c' ∧ c'.st.trace = s.trace) ∧
     (∀ f (s : State w), Bf.run f prog env = .stopped s →
        ∃ f' c', Bc.run p false 0 f' env = .stopped c' ∧ c'.st.trace = s.trace)) ∧
    ((∀ f' (c' : Bc.Cfg w), Bc.run p false 0 f' env = .done c' →
        ∃ (f : Nat) (s : State w), Bf.run f prog env = .done s ∧ s.trace = c'.st.trace) ∧
     (∀ f' (c' : Bc.Cfg w), Bc.run p false 0 f' env = .stopped c' →
        ∃ (f : Nat) (s : State w), Bf.run f prog env = .stopped s ∧ s.trace = c'.st.trace)) ∧
    ((∀ f', ∃ f, C07.traceOfBc (Bc.run p false 0 f' env) = C01.traceOfBf (Bf.run (w := w) f prog env)) ∧
     (∀ f, ∃ f', C07.traceOfBc (Bc.run p false 0 f' env) = C01.traceOfBf (Bf.run (w := w) f prog env))) :=
  bytecode_level0 hw hp hb ht env

/-- **Debug build (trampolined dispatch, `budget == 0` test before every instruction).** -/
example :
    ((∀ f (s : State w), Bf.run f prog env = .done s →
        ∃ f' c', runDebug p false 0 f' env = .done c' ∧ c'.st.trace = s.trace) ∧
     (∀ f (s : State w), Bf.run f prog env = .stopped s →
        ∃ f' c', runDebug p false 0 f' env = .stopped c' ∧ c'.st.trace = s.trace)) ∧
    ((∀ f' (c' : Bc.Cfg w), runDebug p false 0 f' env = .done c' →
        ∃ (f : Nat) (s : State w), Bf.run f prog env = .done s ∧ s.trace = c'.st.trace) ∧
     (∀ f' (c' : Bc.Cfg w), runDebug p false 0 f' env = .stopped c' →
        ∃ (f : Nat) (s : State w), Bf.run f prog env = .stopped s ∧ s.trace = c'.st.trace)) ∧
    ((∀ f', ∃ f, C07.traceOfBc (runDebug p false 0 f' env) = C01.traceOfBf (Bf.run (w := w) f prog env)) ∧
     (∀ f, ∃ f', C07.traceOfBc (runDebug p false 0 f' env) = C01.traceOfBf (Bf.run (w := w) f prog env))) :=
  bytecode_level0_debug hw hp hb ht env

/-- Never interrupted; never "malformed bytecode" once the canonical run terminates. -/
example :
    (∀ f' c', Bc.run p false 0 f' env ≠ .interrupted c') ∧
    (∀ f (s : State w), (Bf.run f prog env = .done s ∨ Bf.run f prog env = .stopped s) →
      ∀ f' c', Bc.run p false 0 f' env ≠ .bad c') := bytecode_level0_proper hw hp hb ht env

/-! ## 5. Corollaries for the bytecode interpreter at level 0 -/

/-! ### C05: divergence / termination -/

example (hdiv : C05.BfDiverges w prog env) :
    (∀ (f' : Nat) (c : Bc.Cfg w),
      Bc.run p false 0 f' env ≠ .done c ∧ Bc.run p false 0 f' env ≠ .stopped c) ∧
    (∀ (b f' : Nat) (c : Bc.Cfg w),
      Bc.run p true b f' env ≠ .done c ∧ Bc.run p true b f' env ≠ .stopped c) :=
  bc_never_returns (bytecode_level0 hw hp hb ht env) hdiv

example (hdiv : C05.BfDiverges w prog env) :
    ∀ f', (∃ c : Bc.Cfg w, Bc.run p false 0 f' env = .outOfFuel c) ∨
      (∃ c : Bc.Cfg w, Bc.run p false 0 f' env = .bad c) := bc_runs_forever_or_bad hw hp hb ht env hdiv

/-- With the contract checker's verdict: still running after any number of steps … -/
example (hdiv : C05.BfDiverges w prog env) (n : Nat) (hchk : BcWf.check p n = true) :
    ∀ f', ∃ c : Bc.Cfg w, Bc.run p false 0 f' env = .outOfFuel c :=
  bc_runs_forever (bytecode_level0 hw hp hb ht env) hdiv
    (fun l b f c => C11.check_run_not_bad hchk l b f env c)
/-- … and limited mode comes back with "budget exhausted". -/
example (hdiv : C05.BfDiverges w prog env) (n : Nat) (hchk : BcWf.check p n = true) :
    ∀ b, ∃ f' c, Bc.run p true b f' env = .interrupted c :=
  bc_limited_interrupted (bytecode_level0 hw hp hb ht env) hdiv
    (fun l b f c => C11.check_run_not_bad hchk l b f env c)

example :
    (∀ (f : Nat) (s : State w), Bf.run f prog env = .done s →
      ∃ f' c, Bc.run p false 0 f' env = .done c ∧ c.st.trace = s.trace) ∧
    (∀ (f : Nat) (s : State w), Bf.run f prog env = .stopped s →
      ∃ f' c, Bc.run p false 0 f' env = .stopped c ∧ c.st.trace = s.trace) ∧
    (∀ (f : Nat) (s : State w), Bf.run f prog env = .done s →
      ∃ g, ∀ b, g ≤ b → ∃ f' c, Bc.run p true b f' env = .done c ∧ c.st.trace = s.trace) :=
  bc_terminates hw hp hb ht env

example (hdiv : C05.BfDiverges w prog env) (n : Nat) (hchk : BcWf.check p n = true) :
    (∀ f, ∃ f' c c', Bf.run (w := w) f prog env = .outOfFuel c ∧
      Bc.run p false 0 f' env = .outOfFuel c' ∧ c'.st.trace = c.st.trace) ∧
    (∀ f', ∃ f c c', Bc.run p false 0 f' env = .outOfFuel c' ∧
      Bf.run (w := w) f prog env = .outOfFuel c ∧ c'.st.trace = c.st.trace) :=
  bc_divergent_output (bytecode_level0 hw hp hb ht env) hdiv
    (fun l b f c => C11.check_run_not_bad hchk l b f env c)

/-! ### C07: limited mode -/

/-- "Finished" ⇒ the complete canonical event sequence, same kind of ending. -/
example :
    (∀ (b f' : Nat) (c : Bc.Cfg w), Bc.run p true b f' env = .done c →
      ∃ (f : Nat) (s : State w), Bf.run f prog env = .done s ∧ s.trace = c.st.trace) ∧
    (∀ (b f' : Nat) (c : Bc.Cfg w), Bc.run p true b f' env = .stopped c →
      ∃ (f : Nat) (s : State w), Bf.run f prog env = .stopped s ∧ s.trace = c.st.trace) :=
  bc_limited_finished (bytecode_level0 hw hp hb ht env)

/-- Otherwise (any outcome) a prefix of it. -/
example : ∀ b f', ∃ f,
    C07.traceOfBc (Bc.run p true b f' env) = C01.traceOfBf (Bf.run (w := w) f prog env) :=
  bc_limited_prefix (bytecode_level0 hw hp hb ht env)
example : ∀ b f', ∃ f, ∀ g, f ≤ g →
    C07.traceOfBc (Bc.run p true b f' env) <:+ C01.traceOfBf (Bf.run (w := w) g prog env) :=
  bc_limited_is_prefix (bytecode_level0 hw hp hb ht env)

/-- A large enough budget is "effectively unlimited". -/
example :
    (∀ (f : Nat) (s : State w), Bf.run f prog env = .done s →
      ∃ g, ∀ b, g ≤ b → ∃ f' c, Bc.run p true b f' env = .done c ∧ c.st.trace = s.trace) ∧
    (∀ (f : Nat) (s : State w), Bf.run f prog env = .stopped s →
      ∃ g, ∀ b, g ≤ b → ∃ f' c, Bc.run p true b f' env = .stopped c ∧ c.st.trace = s.trace) :=
  bc_limited_enough (bytecode_level0 hw hp hb ht env)

/-! ### C08: I/O failure -/

/-- Stops where the canonical machine stops, with the canonical events, no later event, normal return. -/
example : ∀ (f : Nat) (s : State w), Bf.run f prog env = .stopped s →
    ∃ f' c, (∀ k, Bc.run p false 0 (f' + k) env = .stopped c) ∧ c.st.trace = s.trace :=
  bc_stops_like_canonical (bytecode_level0 hw hp hb ht env)
example : ∀ (f : Nat) (s : State w), Bf.run f prog env = .stopped s →
    ∃ g, ∀ b, g ≤ b → ∃ f' c, (∀ k, Bc.run p true b (f' + k) env = .stopped c) ∧ c.st.trace = s.trace :=
  bc_limited_stops_like_canonical hw hp hb ht env
/-- … and only there (either mode; the unlimited run is the one with budget 0). -/
example : ∀ (l : Bool) (b f' : Nat) (c : Bc.Cfg w), Bc.run p l b f' env = .stopped c → (l = false → b = 0) →
    ∃ (f : Nat) (s : State w), Bf.run f prog env = .stopped s ∧ s.trace = c.st.trace :=
  bc_stops_only_like_canonical (bytecode_level0 hw hp hb ht env)
example (f : Nat) (s : State w) (b : UInt8) (t : List Ev)
    (hrun : Bf.run f prog env = .stopped s) (htr : s.trace = Ev.outFail b :: t) :
    ∃ f' c, Bc.run p false 0 f' env = .stopped c ∧ c.st.trace = Ev.outFail b :: t :=
  bc_refused_byte hw hp hb ht env f s b t hrun htr

/-! ## 6. Level 0: canonical semantics vs. the machine code of the baseline JIT -/

/-- The hypotheses of `C03.prog_run`. -/
example (limited safe : Bool) (cfg : X86Prog.Cfg) (code : List X86) (buf0 rsp0 ra : BitVec 64) (budget : Nat) :
    JitHyps p limited safe cfg code buf0 rsp0 ra budget env ↔
    (compileX86 w p limited safe cfg.aE.toNat cfg.aI.toNat cfg.aO.toNat = some code ∧
     cfg.fetch = fetchFast (fetchTable code) ∧ sizeAll code < 2 ^ 31 ∧
     cfg.aI ≠ cfg.aO ∧ cfg.aE ≠ cfg.aI ∧ cfg.aE ≠ cfg.aO ∧
     BcWf.check p 11 = true ∧ (-2147483648 < p.minAcc ∧ p.maxAcc < 2147483648) ∧
     alignedTemps p.temps * 8 < 2147483648 ∧
     (∀ (i : Nat) (sh : Int), p.insts[i]? = some (Bc.Instr.mov sh) → -2147483648 ≤ sh ∧ sh < 2147483648) ∧
     rsp0.toNat % 16 = 8 ∧ budget < 2 ^ 64 ∧ (limited && budget == 0) = false ∧
     (safe = true → ∀ n s',
        steps cfg n (initState (w := w) cfg buf0 rsp0 ra p.minAcc p.maxAcc budget env) = some s' → Bnd s')) :=
  ⟨fun h => ⟨h.comp, h.fetch, h.small, h.addrIO, h.addrEI, h.addrEO, h.check, h.win, h.temps, h.shift, h.rsp,
      h.budgetLt, h.lim, h.noOOM⟩,
   fun ⟨a, b, c, d, e, f, g, h, i, j, k, l, m, n⟩ => ⟨a, b, c, d, e, f, g, h, i, j, k, l, m, n⟩⟩

variable (safe : Bool) (cfg : X86Prog.Cfg) (code : List X86) (buf0 rsp0 ra : BitVec 64)

/-- `prog_run` in elementary terms (any program `p`, any mode). -/
example (limited : Bool) (budget : Nat) (H : JitHyps p limited safe cfg code buf0 rsp0 ra budget env)
    (fuel : Nat) :
    let s0 : PState w := initState cfg buf0 rsp0 ra p.minAcc p.maxAcc budget env
    match Bc.run p limited budget fuel env with
    | .done c' => ∃ n s', X86Prog.run cfg n s0 = .ret s' ∧ s'.regs.rax = 1 ∧ s'.trace = c'.st.trace ∧
        s'.env = c'.st.env ∧ (∀ o, s'.tape.get (s'.lptr + o) = c'.st.rd o) ∧ s'.budget.toNat = c'.budget
    | .stopped c' => ∃ n s', X86Prog.run cfg n s0 = .ret s' ∧ s'.regs.rax = 0 ∧ s'.trace = c'.st.trace ∧
        s'.env = c'.st.env ∧ s'.budget.toNat = c'.budget
    | .interrupted c' => ∃ n s', X86Prog.run cfg n s0 = .ret s' ∧ s'.regs.rax = 0 ∧ s'.trace = c'.st.trace ∧
        s'.env = c'.st.env ∧ (∀ o, s'.tape.get (s'.lptr + o) = c'.st.rd o)
    | .bad _ => False
    | .outOfFuel c' => ∃ n s', steps cfg n s0 = some s' ∧ s'.trace = c'.st.trace ∧ s'.env = c'.st.env :=
  jit_of_bc H fuel

/-- The program machine is deterministic: a return is stable under more fuel, hence unique. -/
example (n1 n2 : Nat) (s a b : PState w) (h1 : X86Prog.run cfg n1 s = .ret a)
    (h2 : X86Prog.run cfg n2 s = .ret b) : a = b := x86_ret_unique cfg h1 h2

/-- **Forward** (unlimited mode): canonical termination ⇒ the compiled function returns 1 (ran off the end)
resp. 0 (I/O failure) with exactly the canonical events. -/
example (H : JitHyps p false safe cfg code buf0 rsp0 ra 0 env) :
    let s0 : PState w := initState cfg buf0 rsp0 ra p.minAcc p.maxAcc 0 env
    (∀ f (s : State w), Bf.run f prog env = .done s →
      ∃ n s', X86Prog.run cfg n s0 = .ret s' ∧ s'.regs.rax = 1 ∧ s'.trace = s.trace) ∧
    (∀ f (s : State w), Bf.run f prog env = .stopped s →
      ∃ n s', X86Prog.run cfg n s0 = .ret s' ∧ s'.regs.rax = 0 ∧ s'.trace = s.trace) :=
  jit_level0_forward hw hp hb ht env H

/-- **Uniqueness**: under canonical termination every return of the function is that one. -/
example (H : JitHyps p false safe cfg code buf0 rsp0 ra 0 env) :
    let s0 : PState w := initState cfg buf0 rsp0 ra p.minAcc p.maxAcc 0 env
    (∀ f (s : State w), Bf.run f prog env = .done s →
      ∀ n s', X86Prog.run cfg n s0 = .ret s' → s'.regs.rax = 1 ∧ s'.trace = s.trace) ∧
    (∀ f (s : State w), Bf.run f prog env = .stopped s →
      ∀ n s', X86Prog.run cfg n s0 = .ret s' → s'.regs.rax = 0 ∧ s'.trace = s.trace) :=
  jit_level0_unique hw hp hb ht env H

/-- **Prefix**: every canonical event prefix is the trace of a state the machine reaches. -/
example (H : JitHyps p false safe cfg code buf0 rsp0 ra 0 env) :
    let s0 : PState w := initState cfg buf0 rsp0 ra p.minAcc p.maxAcc 0 env
    ∀ f, ∃ n s', (steps cfg n s0 = some s' ∨ X86Prog.run cfg n s0 = .ret s') ∧
      s'.trace = C01.traceOfBf (Bf.run (w := w) f prog env) := jit_level0_prefix hw hp hb ht env H

example (H : JitHyps p false safe cfg code buf0 rsp0 ra 0 env) (hdiv : C05.BfDiverges w prog env) :
    let s0 : PState w := initState cfg buf0 rsp0 ra p.minAcc p.maxAcc 0 env
    ∀ f, ∃ n s', steps cfg n s0 = some s' ∧ s'.trace = C01.traceOfBf (Bf.run (w := w) f prog env) :=
  jit_level0_divergent hw hp hb ht env H hdiv

/-- **Limited mode** (C07 for the JIT): the function returns, uniquely, with 0 or 1; 1 ⇒ the canonical run ran
off the end and the events are its complete sequence; always an initial part of the canonical sequence. -/
example (b : Nat) (H : JitHyps p true safe cfg code buf0 rsp0 ra b env) :
    let s0 : PState w := initState cfg buf0 rsp0 ra p.minAcc p.maxAcc b env
    ∃ n s', X86Prog.run cfg n s0 = .ret s' ∧
      (∀ n2 s2, X86Prog.run cfg n2 s0 = .ret s2 → s2 = s') ∧
      (s'.regs.rax = 1 ∨ s'.regs.rax = 0) ∧
      (s'.regs.rax = 1 → ∃ (f : Nat) (s : State w), Bf.run f prog env = .done s ∧ s.trace = s'.trace) ∧
      (∃ f, ∀ g, f ≤ g → s'.trace <:+ C01.traceOfBf (Bf.run (w := w) g prog env)) :=
  jit_level0_limited hw hp hb ht env H

example :
    (∀ f (s : State w), Bf.run f prog env = .done s → ∃ g, ∀ b, g ≤ b →
      JitHyps p true safe cfg code buf0 rsp0 ra b env →
      ∃ n s', X86Prog.run cfg n (initState (w := w) cfg buf0 rsp0 ra p.minAcc p.maxAcc b env) = .ret s' ∧
        s'.regs.rax = 1 ∧ s'.trace = s.trace) ∧
    (∀ f (s : State w), Bf.run f prog env = .stopped s → ∃ g, ∀ b, g ≤ b →
      JitHyps p true safe cfg code buf0 rsp0 ra b env →
      ∃ n s', X86Prog.run cfg n (initState (w := w) cfg buf0 rsp0 ra p.minAcc p.maxAcc b env) = .ret s' ∧
        s'.regs.rax = 0 ∧ s'.trace = s.trace) :=
  jit_level0_limited_enough hw hp hb ht env

end Level0

/-! ## 7. Non-vacuity: every hypothesis is satisfiable, on concrete programs (kernel evaluation) -/

/-- `,[.,]` -/
def exCat : List Kind := [.inp, .open, .out, .inp, .close]
/-- `++[>+++<-]>.` (prints 6) -/
def exMul : List Kind := [.inc, .inc, .open, .right, .inc, .inc, .inc, .left, .dec, .close, .right, .out]

def exBlk (src : List Kind) : Ir.Block 8 :=
  match Ir.parse (w := 8) src with
  | .ok b => b
  | .error _ => ⟨0, []⟩

/-- `translate` with 4 registers. -/
def exProg (src : List Kind) (fuse : Bool) : Bc.Program 8 := translate (exBlk src) 4 fuse

def exEnvAB : Env := { input := some [.byte 65, .byte 66, .eof], sink := true, outOk := none }
def exEnvRefuse : Env := { input := some [.byte 65, .byte 66, .eof], sink := true, outOk := some 1 }


theorem exCat_tree : Bf.tree exCat = some (.cmd .inp (.loop (.cmd .out (.cmd .inp .nil)) .nil)) := by decide

theorem ex_parse (src : List Kind) (h : (Ir.parse (w := 8) src).toOption.isSome = true) :
    Ir.parse (w := 8) src = .ok (exBlk src) := by
  unfold exBlk
  cases hr : Ir.parse (w := 8) src with
  | error e => rw [hr] at h; cases h
  | ok b => rfl

theorem ex_translate (src : List Kind) (fuse : Bool)
    (h : (translateE (exBlk src) 4 fuse).toOption.isSome = true) :
    translateE (exBlk src) 4 fuse = .ok (exProg src fuse) := by
  unfold exProg translate
  cases hr : translateE (exBlk src) 4 fuse with
  | error e => rw [hr] at h; cases h
  | ok b => rfl

theorem exCat_parse : Ir.parse (w := 8) exCat = .ok (exBlk exCat) := ex_parse _ (by decide +kernel)
theorem exMul_parse : Ir.parse (w := 8) exMul = .ok (exBlk exMul) := ex_parse _ (by decide +kernel)
/-- "Both runs finish within `fuel` steps with the same kind of ending and the same events." -/
def agreesBc (src : List Kind) (fuse : Bool) (env : Env) (fuel : Nat) : Bool :=
  match Bf.tree src with
  | some prog =>
    match Bf.run (w := 8) fuel prog env, Bc.run (exProg src fuse) false 0 fuel env with
    | .done s, .done c => decide (s.trace = c.st.trace)
    | .stopped s, .stopped c => decide (s.trace = c.st.trace)
    | _, _ => false
  | none => false

/-- Everything the kernel evaluates about `translate` of `exMul`, with fusion off and on, in one declaration (the
generator runs once per setting, and the two settings share the phases before fusion): it succeeds, its output
passes the contract checker, and the bytecode run on input `AB` agrees with the canonical one and prints 6. -/
theorem exMul_eval : ∀ fuse : Bool,
    (translateE (exBlk exMul) 4 fuse).toOption.isSome = true ∧ BcWf.check (exProg exMul fuse) 11 = true ∧
    agreesBc exMul fuse exEnvAB 60 = true ∧
    C07.traceOfBc (Bc.run (exProg exMul fuse) false 0 60 exEnvAB) = [Ev.out 6] := by
  decide +kernel

theorem exMul_translate (fuse : Bool) : translateE (exBlk exMul) 4 fuse = .ok (exProg exMul fuse) :=
  ex_translate _ _ (exMul_eval fuse).1

/-- Everything the kernel evaluates about `,[.,]`, in one declaration (`translate` runs once per fusion setting):
the generator succeeds; for the unfused program the hypotheses of §6 about the program itself, the instructions, the
runs on input `AB` with a sink that never refuses / refuses the second byte, the absence of `mov`, and the size of
the machine code; for the fused program the run with the refusing sink. -/
theorem exCat_eval :
    (∀ fuse, (translateE (exBlk exCat) 4 fuse).toOption.isSome = true) ∧
    (BcWf.check (exProg exCat false) 11 = true ∧
      (-2147483648 < (exProg exCat false).minAcc ∧ (exProg exCat false).maxAcc < 2147483648) ∧
      alignedTemps (exProg exCat false).temps * 8 < 2147483648) ∧
    (exProg exCat false).insts = #[.inp 0, .brz 0 4, .out 0, .inp 0, .brnz 0 (-2)] ∧
    agreesBc exCat false exEnvAB 60 = true ∧
    agreesBc exCat true exEnvRefuse 60 = true ∧
    C07.traceOfBc (Bc.run (exProg exCat false) false 0 60 exEnvAB) =
      [Ev.inp 0, Ev.out 66, Ev.inp 66, Ev.out 65, Ev.inp 65] ∧
    C07.traceOfBc (Bc.run (exProg exCat false) false 0 60 exEnvRefuse) =
      [Ev.outFail 66, Ev.inp 66, Ev.out 65, Ev.inp 65] ∧
    noMov (exProg exCat false) = true ∧
    (match compileX86 8 (exProg exCat false) false false 0x7f0000001000 0x7f0000002000 0x7f0000003000 with
      | some c => decide (sizeAll c < 2 ^ 31)
      | none => false) = true := by
  decide +kernel

theorem exCat_translate (fuse : Bool) : translateE (exBlk exCat) 4 fuse = .ok (exProg exCat fuse) :=
  ex_translate _ _ (exCat_eval.1 fuse)

example : (exProg exCat false).insts = #[.inp 0, .brz 0 4, .out 0, .inp 0, .brnz 0 (-2)] := exCat_eval.2.2.1
example : NoOnce (exBlk exCat) ∧ NoOnce (exBlk exMul) := ⟨parse_noOnce exCat_parse, parse_noOnce exMul_parse⟩
example : BcWf.check (exProg exCat false) 11 = true ∧ BcWf.check (exProg exMul false) 11 = true ∧
    BcWf.check (exProg exMul true) 11 = true :=
  ⟨exCat_eval.2.1.1, (exMul_eval false).2.1, (exMul_eval true).2.1⟩

example : agreesBc exCat false exEnvAB 60 = true := exCat_eval.2.2.2.1
example : agreesBc exCat true exEnvRefuse 60 = true := exCat_eval.2.2.2.2.1
example : agreesBc exMul false exEnvAB 60 = true := (exMul_eval false).2.2.1
example : agreesBc exMul true exEnvAB 60 = true := (exMul_eval true).2.2.1
example : C07.traceOfBc (Bc.run (exProg exCat false) false 0 60 exEnvAB) =
    [Ev.inp 0, Ev.out 66, Ev.inp 66, Ev.out 65, Ev.inp 65] := exCat_eval.2.2.2.2.2.1
example : C07.traceOfBc (Bc.run (exProg exCat false) false 0 60 exEnvRefuse) =
    [Ev.outFail 66, Ev.inp 66, Ev.out 65, Ev.inp 65] := exCat_eval.2.2.2.2.2.2.1
example : C07.traceOfBc (Bc.run (exProg exMul true) false 0 60 exEnvAB) = [Ev.out 6] := (exMul_eval true).2.2.2

/-- The canonical run of `,[.,]` on input `AB`: five events, then it runs off the end. -/
def exCatDone (o : Bf.Outcome 8) : Bool :=
  match o with
  | .done s => decide (s.trace = [Ev.inp 0, Ev.out 66, Ev.inp 66, Ev.out 65, Ev.inp 65])
  | _ => false

theorem exCat_no_mov (i : Nat) (sh : Int) : (exProg exCat false).insts[i]? ≠ some (Bc.Instr.mov sh) :=
  no_mov_of_all exCat_eval.2.2.2.2.2.2.2.1 i sh

/-- All hypotheses of §6 hold for `,[.,]` (unlimited mode, code generation without bounds checks so that the
`NoOOM` hypothesis is void), hence by `jit_level0_forward` the compiled function returns 1 after finitely many
machine steps with exactly the canonical events. -/
example : ∃ code, compileX86 8 (exProg exCat false) false false 0x7f0000001000 0x7f0000002000 0x7f0000003000
      = some code ∧
    JitHyps (exProg exCat false) false false (exCfg code) code 0x560000000000 0x7ffd00000ff8 0x555500001234 0
      exEnvAB ∧
    ∃ n, ∃ s' : PState 8, X86Prog.run (exCfg code) n
        (initState (exCfg code) 0x560000000000 0x7ffd00000ff8 0x555500001234
          (exProg exCat false).minAcc (exProg exCat false).maxAcc 0 exEnvAB) = .ret s' ∧
      s'.regs.rax = 1 ∧ s'.trace = [Ev.inp 0, Ev.out 66, Ev.inp 66, Ev.out 65, Ev.inp 65] := by
  have hcode := exCat_eval.2.2.2.2.2.2.2.2
  cases hc : compileX86 8 (exProg exCat false) false false 0x7f0000001000 0x7f0000002000 0x7f0000003000 with
  | none => rw [hc] at hcode; cases hcode
  | some code =>
    rw [hc] at hcode
    have H : JitHyps (exProg exCat false) false false (exCfg code) code 0x560000000000 0x7ffd00000ff8
        0x555500001234 0 exEnvAB :=
      { comp := hc, fetch := rfl, small := of_decide_eq_true hcode,
        addrIO := by show (0x7f0000002000 : BitVec 64) ≠ 0x7f0000003000; decide,
        addrEI := by show (0x7f0000001000 : BitVec 64) ≠ 0x7f0000002000; decide,
        addrEO := by show (0x7f0000001000 : BitVec 64) ≠ 0x7f0000003000; decide,
        check := exCat_eval.2.1.1, win := exCat_eval.2.1.2.1, temps := exCat_eval.2.1.2.2,
        shift := fun i sh h => absurd h (exCat_no_mov i sh),
        rsp := by decide, budgetLt := by decide, lim := rfl, noOOM := fun h => by cases h }
    refine ⟨code, rfl, H, ?_⟩
    have hcan : exCatDone (Bf.run (w := 8) 60 (.cmd .inp (.loop (.cmd .out (.cmd .inp .nil)) .nil)) exEnvAB)
        = true := by decide +kernel
    cases hr : Bf.run (w := 8) 60 (.cmd .inp (.loop (.cmd .out (.cmd .inp .nil)) .nil)) exEnvAB with
    | done s =>
      rw [hr] at hcan
      simp only [exCatDone, decide_eq_true_eq] at hcan
      obtain ⟨n, s', h1, h2, h3⟩ :=
        (jit_level0_forward (by decide) exCat_tree exCat_parse (exCat_translate false) exEnvAB H).1 60 s hr
      exact ⟨n, s', h1, h2, h3.trans hcan⟩
    | stopped s => rw [hr] at hcan; cases hcan
    | outOfFuel c => rw [hr] at hcan; cases hcan

end Chain
end Hpbf

#print axioms Hpbf.Chain.emit_targetsOk
#print axioms Hpbf.Chain.emit_brnz_target
#print axioms Hpbf.Chain.emit_brz_target
#print axioms Hpbf.Chain.emit_live0
#print axioms Hpbf.Chain.translateE_phases
#print axioms Hpbf.Chain.translateE_ok_of_alloc
#print axioms Hpbf.Chain.passes_behEqIO
#print axioms Hpbf.Chain.translate_behEqIO
#print axioms Hpbf.Chain.translate_shape
#print axioms Hpbf.Chain.translate_forward
#print axioms Hpbf.Chain.translate_backward
#print axioms Hpbf.Chain.translate_prefix
#print axioms Hpbf.Chain.translate_refines
#print axioms Hpbf.Chain.translate_refines_noOnce
#print axioms Hpbf.Chain.translate_never_interrupted
#print axioms Hpbf.Chain.translate_not_bad_of_terminates
#print axioms Hpbf.Chain.parse_noOnce
#print axioms Hpbf.Chain.parse_onceOk
#print axioms Hpbf.Chain.bytecode_level0_forward
#print axioms Hpbf.Chain.bytecode_level0_backward
#print axioms Hpbf.Chain.bytecode_level0_prefix
#print axioms Hpbf.Chain.bytecode_level0
#print axioms Hpbf.Chain.bytecode_level0_debug
#print axioms Hpbf.Chain.bytecode_level0_proper
#print axioms Hpbf.Chain.bc_never_returns
#print axioms Hpbf.Chain.bc_runs_forever
#print axioms Hpbf.Chain.bc_runs_forever_or_bad
#print axioms Hpbf.Chain.bc_limited_interrupted
#print axioms Hpbf.Chain.bc_terminates
#print axioms Hpbf.Chain.bc_divergent_output
#print axioms Hpbf.Chain.bc_limited_finished
#print axioms Hpbf.Chain.bc_limited_prefix
#print axioms Hpbf.Chain.bc_limited_is_prefix
#print axioms Hpbf.Chain.bc_limited_enough
#print axioms Hpbf.Chain.bc_stops_like_canonical
#print axioms Hpbf.Chain.bc_limited_stops_like_canonical
#print axioms Hpbf.Chain.bc_stops_only_like_canonical
#print axioms Hpbf.Chain.bc_refused_byte
#print axioms Hpbf.Chain.x86_ret_unique
#print axioms Hpbf.Chain.jit_of_bc
#print axioms Hpbf.Chain.jit_level0_forward
#print axioms Hpbf.Chain.jit_level0_unique
#print axioms Hpbf.Chain.jit_level0_prefix
#print axioms Hpbf.Chain.jit_level0_divergent
#print axioms Hpbf.Chain.jit_level0_limited
#print axioms Hpbf.Chain.jit_level0_limited_enough
#print axioms Hpbf.Chain.exCat_parse
#print axioms Hpbf.Chain.exCat_translate
