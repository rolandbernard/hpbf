/-
Property C01, every level without a hypothesis on the run.

(A) PROVED (`OptRbAn*`, `OptRbMain`, `OptRbTop1`; every oracle, every environment): **the analysis a rebuild round RECORDS is sound, in the
    `AnalInL` sense of `Hpbf/Props/C01Rounds.lean` (`PrevAnalSound`), for the program it EMITS, on that program's own
    run from `State.init env`** — for the first round (`optimizeOnce_analIn_l1'`) and for every later round whose own
    input analysis is sound (`optimizeOnce_analIn_g'`), so the property iterates along rounds.  In particular the
    recorded `clobbered` ("written but constant" cells are exempt) is right for the emitted loop: proof by a pass over
    all constructs parallel to the footprint pass, with "mirror states" (`MirV`, Hpbf/Proofs/OptRbAnKit.lean) for the
    code of nested blocks, which runs from loop heads that are not valid for the rebuild relation.
(B) The transfer of (A) across dead store elimination is FALSE for the optimizer as it stands: DEFECT F13 (real
    miscompile at -O2 and -O3 reachable from Brainfuck source): DSE deletes the store that restores a
    constant-but-written cell (emitted undemanded by the explosion check of `perform_all`), the recorded claim
    becomes false for the DSE'd program, and the next round drops a store because of it.  The executable hypothesis of `C01Rounds.optimize_preserves_of_check'` is (correctly)
    false on that run.
    Kernel-checked witnesses below: `f13_miscompile'` (IR-level source), `f13_miscompile_bf'` (Brainfuck source),
    `f13b_miscompile'` (second path: the store IN FRONT of an at-least-once loop is deleted, so adding the exempted
    cells to the node's `reads` alone would not be a fix).
(C) PROVED for the FIXED optimizer (`Hpbf/OptFix.lean`: a round records as `clobbered` of a non-moving block ALL
    store/input targets of the emitted body, recursively; modelled as the post-pass `fixClob`; nothing else changes):
    **`optimizeF_preserves_all_levels'` and `optimizeF_onceOk_all_levels'`: every level, every oracle, every
    environment, NO hypothesis on the run.**  With the fix "a cell outside `clobbered` keeps its value at the heads"
    is a syntactic fact (`TgtOkL`), true for every state and stable under dead store elimination.  The fixed optimizer
    is right on the three witnesses (examples at the end).
-/
import Hpbf.Proofs.OptRbTop1
import Hpbf.Proofs.OptRbFull
import Hpbf.Proofs.OptRbF13

namespace Hpbf
namespace OptProof
open Opt OptSem Ir

variable {w : Nat}

/-- (A), first round. -/
theorem optimizeOnce_analIn_l1' (hw : 0 < w) {b : Block w} (hcl : CanonL b.insts) {os os' : Orders}
    {b' : Block w} {anal' : OptAnalysis w}
    (hr : (optimizeOnce b (topAnalysis [] [])).run os = .ok ((b', anal'), os')) (env : Env) :
    AnalInL (fun σ => σ = State.init env) b'.insts anal'.subBlocks :=
  (optimizeOnce_one_l1 hw hcl hr env).2.2

/-- (A), a round that uses a previous analysis which is itself sound for the round's input. -/
theorem optimizeOnce_analIn_g' (hw : 0 < w) {b : Block w} (hcl : CanonL b.insts) {prevAnal : OptAnalysis w}
    (hamo : prevAnal.loopAnal.atMostOnce = true) {env : Env} (hs : ShapeL b.insts prevAnal.subBlocks)
    (ha : AnalInL (fun σ => σ = State.init env) b.insts prevAnal.subBlocks)
    {os os' : Orders} {b' : Block w} {anal' : OptAnalysis w}
    (hr : (optimizeOnce b prevAnal).run os = .ok ((b', anal'), os')) :
    AnalInL (fun σ => σ = State.init env) b'.insts anal'.subBlocks :=
  (optimizeOnce_one_g hw hcl hamo hs ha hr).2.2

/-- Level 2 changes the observable behaviour of an IR program (source `F13.f13Src`, input 3, 2). -/
theorem f13_miscompile' : ∃ (b b' : Block 8) (orders : Orders) (env : Env) (c c' : Cfg 8),
    Opt.optimize b 2 orders = .ok b' ∧ Ir.run b false 0 400 env = .done c ∧
    Ir.run b' false 0 400 env = .done c' ∧ c.st.trace ≠ c'.st.trace := by
  obtain ⟨b', c, c', h⟩ := F13.witness_miscompile F13.f13_witness (by decide)
  exact ⟨F13.f13Src, b', [], F13.f13Env, c, c', h⟩

/-- The same from Brainfuck source (`F13.f13Bf`, 481 characters). -/
theorem f13_miscompile_bf' : ∃ (b b' : Block 8) (c c' : Cfg 8),
    Ir.parse (w := 8) F13.f13Bf = .ok b ∧ Opt.optimize b 2 [] = .ok b' ∧
    Ir.run b false 0 600 F13.f13Env = .done c ∧ Ir.run b' false 0 600 F13.f13Env = .done c' ∧
    c.st.trace ≠ c'.st.trace := by
  have h := F13.f13_bf_check
  unfold F13.bfCheck at h
  cases hp : Ir.parse (w := 8) F13.f13Bf with
  -- `simp only [hp]` reduces the `match`; `rw [hp] at h; cases h` is slow to check here (it runs round 1 again)
  | error e => simp only [hp] at h; cases h
  | ok b =>
    simp only [hp] at h
    obtain ⟨b', c, c', hb⟩ := F13.witness_miscompile h (by decide)
    exact ⟨b, b', c, c', rfl, hb⟩

/-- The second path (the deleted store is the one in front of the loop). -/
theorem f13b_miscompile' : ∃ (b' : Block 8) (c c' : Cfg 8),
    Opt.optimize F13.f13bSrc 2 [] = .ok b' ∧ Ir.run F13.f13bSrc false 0 400 F13.f13bEnv = .done c ∧
    Ir.run b' false 0 400 F13.f13bEnv = .done c' ∧ c.st.trace ≠ c'.st.trace :=
  F13.witness_miscompile F13.f13b_check (by decide)

/-- The executable hypothesis of `C01Rounds.optimize_preserves_of_check'` is false on the witness (and the analysis
round 1 records is sound for its own output, false after DSE: `F13.f13_check_before_dse`, `F13.f13_check_after_dse`). -/
theorem f13_check_false' : OptCheck.optimizeCheck 400 F13.f13Src 2 F13.f13Orders F13.f13Env = false := by
  obtain ⟨_, _, _, _, -, -, -, -, -, hc, -⟩ := F13.witness_spec F13.f13_witness
  exact hc

example (b : Block w) (anal : OptAnalysis w) :
    OptFix.fixClob b anal = anal.setSubBlocks (OptFix.fixSubs b.insts anal.subBlocks) := rfl

example (b : Block w) (prev : OptAnalysis w) :
    OptFix.optimizeOnceF b prev = (do
      let (prog, anal) ← optimizeOnce b prev
      pure (prog, OptFix.fixClob prog anal)) := rfl

/-- Dead store elimination does not see the fix. -/
theorem dse_fixClob' (b b0 : Block w) (a : OptAnalysis w) :
    deadStoreElimination b (OptFix.fixClob b0 a) = deadStoreElimination b a :=
  dse_fixClob b b0 a

/-- The fixed analysis of a round's output is sound for EVERY guard, also after dead store elimination. -/
theorem fixed_analysis_sound {b : Block w} {prevAnal : OptAnalysis w} {os os' : Orders} {b1 b2 : Block w}
    {anal1 : OptAnalysis w} (hr : (optimizeOnce b prevAnal).run os = .ok ((b1, anal1), os'))
    (hcl : CanonL b.insts) (hd : deadStoreElimination b1 (OptFix.fixClob b1 anal1) = .ok b2)
    (G : State w → Prop) : AnalInL G b2.insts (OptFix.fixClob b1 anal1).subBlocks :=
  analInL_of_tgtOk _ _ G (tgtOkL_dse (optimizeOnce_shape hr) (optimizeOnce_canonL hr hcl) hd).1

theorem optimizeF_preserves_all_levels' (hw : 0 < w) {b b' : Block w} (hcl : CanonL b.insts) {level : Nat}
    {orders : Orders} (h : OptFix.optimizeF b level orders = .ok b') (env : Env) : BehEq b b' env :=
  optimizeF_preserves_all_levels hw hcl h env

theorem optimizeF_onceOk_all_levels' (hw : 0 < w) {b b' : Block w} (hcl : CanonL b.insts) {level : Nat}
    (hl : level ≠ 0) {orders : Orders} (h : OptFix.optimizeF b level orders = .ok b') (env : Env) :
    C02Emit.OnceOk b' env :=
  optimizeF_onceOk_all_levels hw hcl hl h env

/-- The fixed optimizer on the witnesses: same trace as the source (also a non-vacuity check of `optimizeF`). -/
theorem optimizeF_f13 :
    ((match OptFix.optimizeF F13.f13Src 2 [] with
      | .ok b' => F13.doneTrace (Ir.run b' false 0 400 F13.f13Env) == some F13.srcTrace
      | .error _ => false) &&
     (match OptFix.optimizeF F13.f13Src 3 [] with
      | .ok b' => F13.doneTrace (Ir.run b' false 0 400 F13.f13Env) == some F13.srcTrace
      | .error _ => false)) = true := by
  -- the runs are evaluated in `F13.f13_eval`; the optimizer's result is made a variable before the two forms of the
  -- test are compared, so that nothing is evaluated here
  have h := F13.f13_eval.2
  rw [Bool.and_eq_true] at h ⊢
  obtain ⟨h2, h3⟩ := h
  constructor
  · generalize OptFix.optimizeF F13.f13Src 2 [] = r at h2 ⊢
    cases r <;> exact h2
  · generalize OptFix.optimizeF F13.f13Src 3 [] = r at h3 ⊢
    cases r <;> exact h3

example : (match OptFix.optimizeF F13.f13Src 2 [] with
    | .ok b' => F13.doneTrace (Ir.run b' false 0 400 F13.f13Env) == some F13.srcTrace
    | .error _ => false) = true := (Bool.and_eq_true _ _ ▸ optimizeF_f13).1

example : (match OptFix.optimizeF F13.f13Src 3 [] with
    | .ok b' => F13.doneTrace (Ir.run b' false 0 400 F13.f13Env) == some F13.srcTrace
    | .error _ => false) = true := (Bool.and_eq_true _ _ ▸ optimizeF_f13).2

example : (match OptFix.optimizeF F13.f13bSrc 2 [] with
    | .ok b' => F13.doneTrace (Ir.run b' false 0 400 F13.f13bEnv) == some F13.bSrcTrace
    | .error _ => false) = true := by
  have h := F13.f13b_eval.2
  generalize OptFix.optimizeF F13.f13bSrc 2 [] = r at h ⊢
  cases r <;> exact h

end OptProof
end Hpbf

#print axioms Hpbf.OptProof.optimizeOnce_analIn_l1'
#print axioms Hpbf.OptProof.optimizeOnce_analIn_g'
#print axioms Hpbf.OptProof.f13_miscompile'
#print axioms Hpbf.OptProof.f13_miscompile_bf'
#print axioms Hpbf.OptProof.f13b_miscompile'
#print axioms Hpbf.OptProof.f13_check_false'
#print axioms Hpbf.OptProof.fixed_analysis_sound
#print axioms Hpbf.OptProof.optimizeF_preserves_all_levels'
#print axioms Hpbf.OptProof.optimizeF_onceOk_all_levels'
