/-
C18 — "For every sequence of pushes, extends, clears, retains, dedups, sorts, clones, comparisons,
by-value and by-reference iteration (including abandoning a by-value iterator midway), the inline
small vector exposes the same contents as a standard vector subjected to the same sequence, and every
element is dropped exactly once."

Model: `Hpbf/SmallVec.lean` (ownership explicit: reading an uninitialised / moved-out slot is
`Except.error`, overwriting an initialised slot is reported in `leaked`, every operation reports
what it drops).

All theorems are for an arbitrary element type, an arbitrary inline capacity `N = s.cap` and an
arbitrary state satisfying the representation invariant `SV.Inv` (inline or heap), so histories cross
the inline/heap boundary wherever the code does.  `retainMut true` / `dedup true` is `src/smallvec.rs`,
where a rejected element gets `assume_init_drop`; without that drop (`false`) the property is false:
`retain_original_leaks`, `dedup_original_leaks`.

"Dropped exactly once" is read as: along any history nothing is ever leaked, no uninitialised slot
is ever read (no double drop / use after move: that would be `Except.error`), and the drop log of
the small vector (including the final `Drop`, or the by-value iterator's yields and `Drop`) is
*equal, element for element and in order*, to the drop log of the `Vec` run; the `Vec` run's log
plus final contents is a permutation of everything that was ever put in.
-/
import Hpbf.Proofs.C18

namespace Hpbf
namespace SmallVec

variable {α : Type}

/-- `mapSlice g` is any length-preserving rewrite of the slice obtained through `DerefMut` (`sort`,
`sort_by`, `swap`, `reverse`, `iter_mut` assignments, …). -/
inductive Op (α : Type) where
  | push (x : α)
  | extend (xs : List α)
  | clear
  | retainMut (f : α → α × Bool)
  | dedup (eq : α → α → Bool)
  | mapSlice (g : List α → List α) (hg : ∀ l, (g l).length = l.length)

def SV.step (s : SV α) : Op α → Except UB (R α)
  | .push x => push s x
  | .extend xs => extend s xs
  | .clear => clear s
  | .retainMut f => retainMut true s f
  | .dedup eq => dedup true s eq
  | .mapSlice g _ =>
    match mapSlice s g with
    | .error e => .error e
    | .ok s' => .ok { sv := s' }

/-- The same operation on a standard vector: (new contents, values dropped in order). -/
def specStep (l : List α) : Op α → List α × List α
  | .push x => (l ++ [x], [])
  | .extend xs => (l ++ xs, [])
  | .clear => ([], l)
  | .retainMut f => vecRetainMut f l
  | .dedup eq => vecDedup eq l
  | .mapSlice g _ => (g l, [])

/-- Run a history on the small vector: final vector, accumulated drop log, accumulated leaks. -/
def runOps (s : SV α) : List (Op α) → Except UB (SV α × List α × List α)
  | [] => .ok (s, [], [])
  | op :: ops =>
    match s.step op with
    | .error e => .error e
    | .ok r =>
      match runOps r.sv ops with
      | .error e => .error e
      | .ok (s', d, lk) => .ok (s', r.dropped ++ d, r.leaked ++ lk)

/-- Run a history on a standard vector: final contents and accumulated drop log. -/
def specRun (l : List α) : List (Op α) → List α × List α
  | [] => (l, [])
  | op :: ops =>
    ((specRun (specStep l op).1 ops).1, (specStep l op).2 ++ (specRun (specStep l op).1 ops).2)

def Op.inserted : Op α → List α
  | .push x => [x]
  | .extend xs => xs
  | _ => []

def inserted : List (Op α) → List α
  | [] => []
  | op :: ops => op.inserted ++ inserted ops

/-- The contents as seen by an operation after its own in-place mutation: `retain_mut`'s predicate
may rewrite each element before deciding, a slice rewrite replaces `l` by `g l`. -/
def Op.mutated : Op α → List α → List α
  | .retainMut f, l => l.map (fun x => (f x).1)
  | .mapSlice g _, l => g l
  | _, l => l

/-- Operations that do not change element identities: `retain` (non-mutating predicate) and slice
rewrites that are permutations (`sort`, `swap`, `reverse`, …). -/
def Op.Pure : Op α → Prop
  | .retainMut f => ∀ x, (f x).1 = x
  | .mapSlice g _ => ∀ l, (g l).Perm l
  | _ => True

/-- Any read-only use of the slice (`==`, `cmp`, `hash`, `len`, indexing, `iter()`, `for x in &v`). -/
def viewWith {β : Type} (k : List α → β) (s : SV α) : Except UB β :=
  match view s with
  | .error e => .error e
  | .ok l => .ok (k l)

/-- Any read-only use of two slices (`PartialEq::eq`, `Ord::cmp`). -/
def viewWith₂ {β : Type} (k : List α → List α → β) (s t : SV α) : Except UB β :=
  match view s, view t with
  | .error e, _ => .error e
  | _, .error e => .error e
  | .ok a, .ok b => .ok (k a b)

theorem sv_constructors (cap n : Nat) (v : List α) :
    ((new cap : SV α).Inv ∧ (new cap : SV α).toList = []) ∧
    ((fromVec cap v).Inv ∧ (fromVec cap v).toList = v) ∧
    ((withCapacity cap n : SV α).Inv ∧ (withCapacity cap n : SV α).toList = []) :=
  ⟨⟨(new_spec cap).1, (new_spec cap).2.1⟩, ⟨inv_fromVec _ _, toList_fromVec _ _⟩,
   ⟨(withCapacity_spec cap n).1, (withCapacity_spec cap n).2.1⟩⟩

/-- `as_slice` reads no uninitialised slot and exposes exactly the abstract contents. -/
theorem sv_view_eq {s : SV α} (h : s.Inv) : view s = .ok s.toList := view_eq h

theorem sv_step_refines {s : SV α} (h : s.Inv) (op : Op α) :
    ∃ r, s.step op = .ok r ∧ r.sv.Inv ∧ r.sv.cap = s.cap ∧
      r.sv.toList = (specStep s.toList op).1 ∧ r.dropped = (specStep s.toList op).2 ∧
      r.leaked = [] := by
  cases op with
  | push x => exact push_spec h x
  | extend xs => exact extend_spec xs h
  | clear => exact clear_spec h
  | retainMut f => exact retainMut_spec h f
  | dedup eq => exact dedup_spec h eq
  | mapSlice g hg =>
    obtain ⟨s', hs', hinv, hcap, hl⟩ := mapSlice_spec h g (hg _)
    exact ⟨{ sv := s' }, by simp only [SV.step, hs'], hinv, hcap, hl, rfl, rfl⟩

/-- **C18, contents.**  For every history and every start state satisfying the invariant (any `N`,
inline or heap): the run hits no UB, leaks nothing, keeps the invariant, and the final contents,
the slice view and the drop log (in order) are exactly those of the `Vec` run. -/
theorem sv_refines_vec (ops : List (Op α)) : ∀ (s : SV α), s.Inv →
    ∃ s' dropped, runOps s ops = .ok (s', dropped, []) ∧ s'.Inv ∧ s'.cap = s.cap ∧
      s'.toList = (specRun s.toList ops).1 ∧ view s' = .ok (specRun s.toList ops).1 ∧
      dropped = (specRun s.toList ops).2 := by
  induction ops with
  | nil => intro s h; exact ⟨s, [], rfl, h, rfl, rfl, view_eq h, rfl⟩
  | cons op ops ih =>
    intro s h
    obtain ⟨r, hr, hinv, hcap, hl, hd, hk⟩ := sv_step_refines h op
    obtain ⟨s', d, hrun, hinv', hcap', hl', hv', hd'⟩ := ih r.sv hinv
    refine ⟨s', r.dropped ++ d, ?_, hinv', by rw [hcap', hcap], ?_, ?_, ?_⟩
    · simp only [runOps, hr, hrun, hk, List.append_nil]
    · rw [hl', hl]; rfl
    · rw [hv', hl]; rfl
    · rw [hd', hd, hl]; rfl

theorem specStep_conserves (l : List α) (op : Op α) :
    ((specStep l op).2 ++ (specStep l op).1).Perm (op.mutated l ++ op.inserted) := by
  cases op with
  | push x => exact List.Perm.refl _
  | extend xs => exact List.Perm.refl _
  | clear => simp [specStep, Op.mutated, Op.inserted]
  | retainMut f => simpa [specStep, Op.mutated, Op.inserted] using vecRetainMut_perm f l
  | dedup eq => simpa [specStep, Op.mutated, Op.inserted] using vecDedup_perm eq l
  | mapSlice g hg => simp [specStep, Op.mutated, Op.inserted]

theorem specRun_conserves (ops : List (Op α)) : ∀ (l : List α), (∀ op ∈ ops, op.Pure) →
    ((specRun l ops).2 ++ (specRun l ops).1).Perm (l ++ inserted ops) := by
  induction ops with
  | nil => intro l _; simp [specRun, inserted]
  | cons op ops ih =>
    intro l hp
    have hstep : ((specStep l op).2 ++ (specStep l op).1).Perm (l ++ op.inserted) := by
      have h := specStep_conserves l op
      have hpure := hp op (by simp)
      cases op with
      | retainMut f =>
        have : l.map (fun x => (f x).1) = l := by
          simp only [Op.Pure] at hpure
          simp [hpure]
        simpa [Op.mutated, this] using h
      | mapSlice g hg =>
        exact h.trans (List.Perm.append_right _ (hpure l))
      | push x => exact h
      | extend xs => exact h
      | clear => exact h
      | dedup eq => exact h
    have hrest := ih (specStep l op).1 (fun o ho => hp o (by simp [ho]))
    simp only [specRun, inserted]
    calc ((specStep l op).2 ++ (specRun (specStep l op).1 ops).2) ++ (specRun (specStep l op).1 ops).1
        = (specStep l op).2 ++ ((specRun (specStep l op).1 ops).2 ++ (specRun (specStep l op).1 ops).1) := by
          simp
      _ |>.Perm ((specStep l op).2 ++ ((specStep l op).1 ++ inserted ops)) := List.Perm.append_left _ hrest
      _ = ((specStep l op).2 ++ (specStep l op).1) ++ inserted ops := by simp
      _ |>.Perm ((l ++ op.inserted) ++ inserted ops) := List.Perm.append_right _ hstep
      _ = l ++ (op.inserted ++ inserted ops) := by simp

/-- **C18, drops (exact form).**  Run any history, then drop the vector: no UB, nothing leaked at
any point, nothing owned afterwards, and the complete drop log is the `Vec` run's drop log followed
by the `Vec`'s final contents — each element the `Vec` would drop is dropped, once, in the same order. -/
theorem sv_drop_once_exact (ops : List (Op α)) (s : SV α) (h : s.Inv) :
    ∃ s' dropped rf, runOps s ops = .ok (s', dropped, []) ∧ dropAll s' = .ok rf ∧
      rf.leaked = [] ∧ rf.sv.Inv ∧ rf.sv.toList = [] ∧
      dropped ++ rf.dropped = (specRun s.toList ops).2 ++ (specRun s.toList ops).1 := by
  obtain ⟨s', d, hrun, hinv, _, hl, _, hd⟩ := sv_refines_vec ops s h
  obtain ⟨rf, hrf, hinvf, -, hlf, hdf, hkf⟩ := dropAll_spec hinv
  exact ⟨s', d, rf, hrun, hrf, hkf, hinvf, hlf, by rw [hd, hdf, hl]⟩

/-- **C18, drops.**  For histories of identity-preserving operations (`retain` rather than a
mutating `retain_mut`; `sort`/permutations as slice rewrites), the complete drop log after the final
`Drop` is a permutation of the initial contents plus everything inserted: every element exactly
once, none leaked.  (For mutating `retain_mut` see `specStep_conserves` and `sv_drop_once_exact`:
the element dropped is the mutated one.) -/
theorem sv_drop_once (ops : List (Op α)) (s : SV α) (h : s.Inv) (hp : ∀ op ∈ ops, op.Pure) :
    ∃ s' dropped rf, runOps s ops = .ok (s', dropped, []) ∧ dropAll s' = .ok rf ∧
      rf.leaked = [] ∧ rf.sv.toList = [] ∧
      (dropped ++ rf.dropped).Perm (s.toList ++ inserted ops) := by
  obtain ⟨s', d, rf, hrun, hrf, hk, _, hl, heq⟩ := sv_drop_once_exact ops s h
  exact ⟨s', d, rf, hrun, hrf, hk, hl, heq ▸ specRun_conserves ops s.toList hp⟩

/-- Turn a vector into a by-value iterator, call `next` any number `n` of times, then drop the
iterator: no UB; the calls yield exactly the first `n` elements in order (and nothing else, nothing
after exhaustion); the iterator's `Drop` drops exactly the remaining ones and leaks nothing.  So
yielded ++ dropped is the contents: each element is handed out or dropped exactly once. -/
theorem sv_into_iter (s : SV α) (h : s.Inv) (n : Nat) :
    ∃ it', Iter.nexts n (intoIter s) = .ok (s.toList.take n, it') ∧
      it'.dropRest = .ok (s.toList.drop n, []) ∧
      s.toList.take n ++ s.toList.drop n = s.toList := by
  obtain ⟨it', h1, h2⟩ := Iter.nexts_owns n (intoIter_owns h)
  exact ⟨it', h1, Iter.dropRest_owns h2, List.take_append_drop n _⟩

/-- History, then by-value iteration abandoned after `n` calls: the drop log of the history, the
yielded elements and the iterator's drops together are the `Vec` run's drop log and final contents. -/
theorem sv_history_then_iter (ops : List (Op α)) (s : SV α) (h : s.Inv) (n : Nat) :
    ∃ s' dropped it' yielded rest, runOps s ops = .ok (s', dropped, []) ∧
      Iter.nexts n (intoIter s') = .ok (yielded, it') ∧ it'.dropRest = .ok (rest, []) ∧
      yielded = (specRun s.toList ops).1.take n ∧
      dropped ++ (yielded ++ rest) = (specRun s.toList ops).2 ++ (specRun s.toList ops).1 := by
  obtain ⟨s', d, hrun, hinv, _, hl, _, hd⟩ := sv_refines_vec ops s h
  obtain ⟨it', h1, h2, h3⟩ := sv_into_iter s' hinv n
  exact ⟨s', d, it', _, _, hrun, h1, h2, by rw [hl], by rw [h3, hd, hl]⟩

theorem sv_clone {s : SV α} (h : s.Inv) (cl : α → α) :
    ∃ r, clone s cl = .ok r ∧ r.sv.Inv ∧ r.sv.cap = s.cap ∧ r.sv.toList = s.toList.map cl ∧
      view r.sv = .ok (s.toList.map cl) ∧ r.dropped = [] ∧ r.leaked = [] ∧
      view s = .ok s.toList := by
  obtain ⟨r, hr, hinv, hcap, hl, hd, hk⟩ := clone_spec h cl
  exact ⟨r, hr, hinv, hcap, hl, hl ▸ view_eq hinv, hd, hk, view_eq h⟩

/-- Anything computed from the slice (`hash`, `len`, indexing, `iter()`, `for x in &v`) is computed
from the abstract contents. -/
theorem sv_viewWith {β : Type} (k : List α → β) {s : SV α} (h : s.Inv) :
    viewWith k s = .ok (k s.toList) := by
  simp only [viewWith, view_eq h]

/-- `==` / `cmp` on two small vectors (of possibly different representations) agree with the same
function on the two `Vec`s. -/
theorem sv_viewWith₂ {β : Type} (k : List α → List α → β) {s t : SV α} (hs : s.Inv) (ht : t.Inv) :
    viewWith₂ k s t = .ok (k s.toList t.toList) := by
  simp only [viewWith₂, view_eq hs, view_eq ht]

/-- `retain`/`retain_mut` without the drop of rejected elements (`dropRejected = false`): on the inline
vector `[1, 2]` (`N = 2`) with a predicate rejecting everything, the two elements are neither in the
result nor in the drop log; they stay in slots `≥ size`, the result violates the invariant, and the
vector's own `Drop` does not drop them either (the model reports them as leaked there).  With the drop
(`true`) both are dropped. -/
theorem retain_original_leaks :
    ∃ (s : SV Nat) (f : Nat → Nat × Bool) (r : R Nat), s.Inv ∧ s.toList = [1, 2] ∧
      retainMut false s f = .ok r ∧ r.sv.toList = [] ∧ r.dropped = [] ∧
      r.sv.arr = [some 1, some 2] ∧ ¬ r.sv.Inv ∧
      (∃ rf, dropAll r.sv = .ok rf ∧ rf.dropped = [] ∧ rf.leaked = [1, 2]) ∧
      (∃ r', retainMut true s f = .ok r' ∧ r'.sv.toList = [] ∧ r'.dropped = [1, 2] ∧ r'.leaked = []) := by
  refine ⟨leakWitness, fun x => (x, false),
    { sv := { cap := 2, size := 0, arr := [some 1, some 2], vec := [] } },
    leakWitness_inv, rfl, rfl, rfl, rfl, rfl, ?_, ⟨_, rfl, rfl, rfl⟩, ⟨_, rfl, rfl, rfl, rfl⟩⟩
  exact not_inv_of_dead_slot (v := 1) 0 (Nat.le_refl _) (by decide) rfl

/-- `dedup` without that drop: on the inline vector `[1, 1]` (`N = 2`) the duplicate is neither kept nor
dropped.  With it (`true`) the duplicate is dropped. -/
theorem dedup_original_leaks :
    ∃ (s : SV Nat) (r : R Nat), s.Inv ∧ s.toList = [1, 1] ∧
      dedup false s (fun a b => a == b) = .ok r ∧ r.sv.toList = [1] ∧ r.dropped = [] ∧
      r.sv.arr = [some 1, some 1] ∧ ¬ r.sv.Inv ∧
      (∃ rf, dropAll r.sv = .ok rf ∧ rf.dropped = [1] ∧ rf.leaked = [1]) ∧
      (∃ r', dedup true s (fun a b => a == b) = .ok r' ∧ r'.sv.toList = [1] ∧ r'.dropped = [1] ∧
        r'.leaked = []) := by
  refine ⟨leakWitnessDedup,
    { sv := { cap := 2, size := 1, arr := [some 1, some 1], vec := [] } },
    leakWitnessDedup_inv, rfl, rfl, rfl, rfl, rfl, ?_, ⟨_, rfl, rfl, rfl⟩, ⟨_, rfl, rfl, rfl, rfl⟩⟩
  exact not_inv_of_dead_slot (v := 1) 1 (Nat.le_refl _) (by decide) rfl

/-- `N = 1`: `push 5; push 6` crosses from inline to heap. -/
example : runOps (new 1 : SV Nat) [.push 5, .push 6] = .ok (fromVec 1 [5, 6], [], []) := rfl
example : (new 1 : SV Nat).Inv ∧ (fromVec 1 [5, 6] : SV Nat).Inv := ⟨(new_spec 1).1, inv_fromVec _ _⟩
example : isInline (new 1 : SV Nat) = true ∧ isInline (fromVec 1 [5, 6] : SV Nat) = false := by decide
/-- `N = 2`: a history staying inline, with drops. -/
example : runOps (new 2 : SV Nat) [.push 1, .push 1, .dedup (· == ·), .push 3, .retainMut (fun x => (x + 1, x != 1))]
    = .ok (inl 2 [4], [1, 2], []) := rfl
/-- `N = 1`: crossing, then `retain` and `clear` on the heap representation. -/
example : runOps (new 1 : SV Nat) [.extend [1, 2, 3], .retainMut (fun x => (x, x != 2)), .clear]
    = .ok (fromVec 1 [], [2, 1, 3], []) := by
  simp [runOps, SV.step, extend, push, new, slotWrite, slotsTake, slotTake, retainMut, vecRetainMut, clear, fromVec]
/-- Heap back to inline: cloning a heap vector with few elements gives an inline vector. -/
example : (clone (fromVec 1 [5] : SV Nat) id).map (·.sv) = .ok (inl 1 [5]) := rfl
/-- Abandoning a by-value iterator midway (`N = 2`, inline `[1, 2]`): one element yielded, one dropped. -/
example : (Iter.nexts 1 (intoIter (inl 2 [1, 2] : SV Nat))).map (·.1) = .ok [1] := rfl
example : Iter.dropRest (.small [none, some 2] 1 2 : Iter Nat) = .ok ([2], []) := rfl
/-- UB is observable in the model: reading a moved-out slot is an error. -/
example : view ({ cap := 1, size := 1, arr := [none], vec := [] } : SV Nat) = .error (.readUninit 0) := rfl

end SmallVec
end Hpbf

#print axioms Hpbf.SmallVec.sv_constructors
#print axioms Hpbf.SmallVec.sv_view_eq
#print axioms Hpbf.SmallVec.sv_step_refines
#print axioms Hpbf.SmallVec.sv_refines_vec
#print axioms Hpbf.SmallVec.specStep_conserves
#print axioms Hpbf.SmallVec.specRun_conserves
#print axioms Hpbf.SmallVec.sv_drop_once_exact
#print axioms Hpbf.SmallVec.sv_drop_once
#print axioms Hpbf.SmallVec.sv_into_iter
#print axioms Hpbf.SmallVec.sv_history_then_iter
#print axioms Hpbf.SmallVec.sv_clone
#print axioms Hpbf.SmallVec.sv_viewWith
#print axioms Hpbf.SmallVec.sv_viewWith₂
#print axioms Hpbf.SmallVec.retain_original_leaks
#print axioms Hpbf.SmallVec.dedup_original_leaks
