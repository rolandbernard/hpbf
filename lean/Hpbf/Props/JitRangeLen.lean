/-
JitRangeLen: the `shift` field of `JitRange` follows from the length of the source text.

`JitRange` (`Proofs/ChainTotalJit.lean`) is the bundle of range hypotheses of the end-to-end machine-code theorems
(`Props/ChainFinal2.lean`).  Its window fields `win`, `dispMin`, `dispMax`, `dispNeg` follow from
`bytes * length(source) < 2^31` (`jitRange_window_of_length_final2`).  This file derives the remaining
length-dependent field

    shift : ∀ i sh, p.insts[i]? = some (Bc.Instr.mov sh) → DispOk sz sh

from the same hypothesis, for EVERY optimisation level, every oracle, both optimizers (`OptFix.optimizeF`, the one the
final theorems use, and `Opt.optimize`), every register count, fusion on or off.

How:
1. `OptOffs.shiftsOf b` = the shift of `b` and of every loop/if block nested anywhere in it;
2. `translateE_mov_is_block_shift`: every `mov sh` of `translateE b' numRegs fuse` has `sh ∈ shiftsOf b'` (indeed one of
   the NESTED shifts; the top-level shift is never emitted) — the predicate "every `mov` carries a shift satisfying
   `B`" pushed through emission (`ClosedI`), `dead_store_elim`, `allocate_temps`, `parameter_reordering`,
   `zeroing_move_detection`, `strip_noops` (`Proofs/JitShiftBc.lean`);
3. `optimizedF_shifts_le_length`: every element of `shiftsOf b'` is at most `length src`: the nested ones are bounded by
   the drift `driftL` (sum of `|shift|` over all nested blocks), the drift never grows under the optimizer (the slack
   conjunct of `rebuildInsts_step`; dead store elimination keeps it) and is at most the number of `<`/`>` for the
   parser's output (`Proofs/JitShiftIr.lean`); the top-level one is `steps_shift_le_length` of `Props/C10Opt`.
Also: `jitRange_fields_of_length` (all five length-dependent fields from `hlen`), `jitRange_of_length` (a `JitRange`
from `hlen` and the length-independent fields only).
The two halves are proved in `Hpbf/Proofs/JitShift{Ir,Bc}.lean` and put together here.
-/
import Hpbf.Proofs.JitShiftBc
import Hpbf.Proofs.ChainFinal2
import Hpbf.Props.C10Opt

namespace Hpbf
namespace Chain

open Bc BcGen C02 C03 OptOffs Asm

variable {w : Nat}

example (sz : Size) (x : Int) :
    DispOk sz x ↔ (-2147483648 ≤ (sz.bytes : Int) * x ∧ (sz.bytes : Int) * x < 2147483648) := Iff.rfl

example (c sh : Int) (body rest : List (Ir.Instr w)) (once : Bool) (o : Int) (cs : List (Int × Expr w))
    (i : Ir.Instr w) (b : Ir.Block w) :
    shiftsI (.loop c sh body once) = sh :: shiftsL body ∧ shiftsI (.ifnz c sh body) = sh :: shiftsL body ∧
    shiftsI (.output o : Ir.Instr w) = [] ∧ shiftsI (.input o : Ir.Instr w) = [] ∧
    shiftsI (.calc cs : Ir.Instr w) = [] ∧
    shiftsL ([] : List (Ir.Instr w)) = [] ∧ shiftsL (i :: rest) = shiftsI i ++ shiftsL rest ∧
    shiftsOf b = b.shift :: shiftsL b.insts := by
  refine ⟨?_, ?_, ?_, ?_, ?_, ?_, ?_, ?_⟩ <;> simp [shiftsI, shiftsL, shiftsOf]

/-- Every `mov sh` of a translated program (any register count, fusion on/off) carries the shift of a block of the
IR it was translated from. -/
theorem translateE_mov_is_block_shift {blk : Ir.Block w} {numRegs : Nat} {fuse : Bool} {p : Bc.Program w}
    (ht : translateE blk numRegs fuse = .ok p) :
    ∀ (i : Nat) (sh : Int), p.insts[i]? = some (Bc.Instr.mov sh) → sh ∈ shiftsOf blk :=
  fun i sh hi => List.mem_cons_of_mem _ (C03.translateE_mov_mem ht i sh hi)

/-- The `shift` field from ANY bound `R` on the block shifts of the IR (no parser, no optimizer). -/
theorem jitRange_shift_of_shiftBound {blk : Ir.Block w} {numRegs : Nat} {fuse : Bool} {p : Bc.Program w}
    {sz : Size} {R : Nat} (ht : translateE blk numRegs fuse = .ok p)
    (hs : ∀ s ∈ shiftsOf blk, s.natAbs ≤ R) (hR : (sz.bytes : Int) * R < 2147483648) :
    ∀ (i : Nat) (sh : Int), p.insts[i]? = some (Bc.Instr.mov sh) → DispOk sz sh :=
  fun i sh hi => dispOk_of_natAbs_le (hs sh (translateE_mov_is_block_shift ht i sh hi)) hR

/-- Along the optimizer's rounds (either optimizer) every block shift stays below the length of the source. -/
theorem steps_shifts_le_length {src : List Kind} {b b' : Ir.Block w} (hp : Ir.parse (w := w) src = .ok b)
    (h : Rounds.Steps b b') : ∀ s ∈ shiftsOf b', s.natAbs ≤ src.length := by
  intro s hs
  simp only [shiftsOf, List.mem_cons] at hs
  rcases hs with rfl | hs
  · exact steps_shift_le_length hp h
  · have h1 := shiftsL_le_drift b'.insts s hs
    have h2 := steps_drift h
    have h2' := parse_drift_le_moves hp
    have h3 := C10.moves_le_length src
    omega

theorem optimizedF_shifts_le_length {src : List Kind} {b b' : Ir.Block w} {level : Nat} {orders : Opt.Orders}
    (hp : Ir.parse (w := w) src = .ok b) (h : OptFix.optimizeF b level orders = .ok b') :
    ∀ s ∈ shiftsOf b', s.natAbs ≤ src.length :=
  steps_shifts_le_length hp (Rounds.optimizeF_steps h)

theorem optimized_shifts_le_length {src : List Kind} {b b' : Ir.Block w} {level : Nat} {orders : Opt.Orders}
    (hp : Ir.parse (w := w) src = .ok b) (h : Opt.optimize b level orders = .ok b') :
    ∀ s ∈ shiftsOf b', s.natAbs ≤ src.length :=
  steps_shifts_le_length hp (Rounds.optimize_steps h)

/-- The measure behind it: the drift (sum of `|shift|` over all nested blocks) never grows under either optimizer and
is, together with the final shift, at most the number of `<`/`>` for the parser's output. -/
example {b b' : Ir.Block w} {level : Nat} {orders : Opt.Orders} (h : OptFix.optimizeF b level orders = .ok b') :
    driftL b'.insts ≤ driftL b.insts := optimizeF_drift h
example {b b' : Ir.Block w} {level : Nat} {orders : Opt.Orders} (h : Opt.optimize b level orders = .ok b') :
    driftL b'.insts ≤ driftL b.insts := optimize_drift h
example {src : List Kind} {b : Ir.Block w} (h : Ir.parse (w := w) src = .ok b) :
    driftL b.insts + b.shift.natAbs ≤ src.length :=
  Nat.le_trans (parse_drift_le_moves h) (C10.moves_le_length src)
example (l : List (Ir.Instr w)) : ∀ s ∈ shiftsL l, s.natAbs ≤ driftL l := shiftsL_le_drift l

/-- The optimizer `OptFix.optimizeF` (the one of `Props/ChainFinal2.lean`), any level, any oracle, any register
count, fusion on/off: `bytes * length(source) < 2^31` makes `bytes * shift` of every `mov` an `i32`. -/
theorem jitRange_shift_of_length {src : List Kind} {b b' : Ir.Block w} {level : Nat} {orders : Opt.Orders}
    {p : Bc.Program w} {numRegs : Nat} {fuse : Bool} {sz : Size}
    (hp : Ir.parse (w := w) src = .ok b) (h : OptFix.optimizeF b level orders = .ok b')
    (ht : translateE b' numRegs fuse = .ok p)
    (hlen : (sz.bytes : Int) * src.length < 2147483648) :
    ∀ (i : Nat) (sh : Int), p.insts[i]? = some (Bc.Instr.mov sh) → DispOk sz sh :=
  jitRange_shift_of_shiftBound ht (optimizedF_shifts_le_length hp h) hlen

/-- The same for the original optimizer `Opt.optimize`. -/
theorem jitRange_shift_of_length_opt {src : List Kind} {b b' : Ir.Block w} {level : Nat} {orders : Opt.Orders}
    {p : Bc.Program w} {numRegs : Nat} {fuse : Bool} {sz : Size}
    (hp : Ir.parse (w := w) src = .ok b) (h : Opt.optimize b level orders = .ok b')
    (ht : translateE b' numRegs fuse = .ok p)
    (hlen : (sz.bytes : Int) * src.length < 2147483648) :
    ∀ (i : Nat) (sh : Int), p.insts[i]? = some (Bc.Instr.mov sh) → DispOk sz sh :=
  jitRange_shift_of_shiftBound ht (optimized_shifts_le_length hp h) hlen

/-- The form for the total generator `translate`. -/
theorem jitRange_shift_of_length_translate {src : List Kind} {b b' : Ir.Block w} {level : Nat}
    {orders : Opt.Orders} (numRegs : Nat) (fuse : Bool) {sz : Size}
    (hp : Ir.parse (w := w) src = .ok b) (h : OptFix.optimizeF b level orders = .ok b')
    (hlen : (sz.bytes : Int) * src.length < 2147483648) :
    ∀ (i : Nat) (sh : Int), (translate b' numRegs fuse).insts[i]? = some (Bc.Instr.mov sh) → DispOk sz sh :=
  jitRange_shift_of_length hp h (translate_ok b' numRegs fuse) hlen

/-- `win`, `dispMin`, `dispMax`, both parts of `dispNeg`, and `shift`. -/
theorem jitRange_fields_of_length {src : List Kind} {b b' : Ir.Block w} {level : Nat} {orders : Opt.Orders}
    {p : Bc.Program w} {numRegs : Nat} {fuse : Bool} {sz : Size}
    (hp : Ir.parse (w := w) src = .ok b) (h : OptFix.optimizeF b level orders = .ok b')
    (ht : translateE b' numRegs fuse = .ok p) (hlen : (sz.bytes : Int) * src.length < 2147483648) :
    (-2147483648 < p.minAcc ∧ p.maxAcc < 2147483648) ∧ DispOk sz p.minAcc ∧ DispOk sz p.maxAcc ∧
    (DispOk sz (-p.minAcc) ∧ DispOk sz (-p.maxAcc)) ∧
    ∀ (i : Nat) (sh : Int), p.insts[i]? = some (Bc.Instr.mov sh) → DispOk sz sh := by
  have e : p = translate b' numRegs fuse := by
    have := translate_ok b' numRegs fuse
    rw [ht] at this; cases this; rfl
  obtain ⟨a1, a2, a3, a4, a5⟩ := jitRange_window_of_length_final2 hp h numRegs fuse sz hlen
  rw [← e] at a1 a2 a3 a4 a5
  exact ⟨a1, a2, a3, ⟨a4, a5⟩, jitRange_shift_of_length hp h ht hlen⟩

section
open JitGen X86Sem X86Prog

/-- A `JitRange` from `hlen` and the length-INDEPENDENT fields only: cell width, decoding, code size, the three
runtime addresses, frame size, stack alignment, budget, and (bounds-checked code) no allocation beyond `2^40` cells. -/
theorem jitRange_of_length {src : List Kind} {b b' : Ir.Block w} {level : Nat} {orders : Opt.Orders}
    {p : Bc.Program w} {numRegs : Nat} {fuse : Bool} {sz : Size}
    (hp : Ir.parse (w := w) src = .ok b) (h : OptFix.optimizeF b level orders = .ok b')
    (ht : translateE b' numRegs fuse = .ok p) (hlen : (sz.bytes : Int) * src.length < 2147483648)
    {limited safe : Bool} {cfg : X86Prog.Cfg} {buf0 rsp0 ra : BitVec 64} {budget : Nat} {env : Env}
    (width : Size.ofBits? w = some sz)
    (fetch : cfg.fetch = fetchFast (fetchTable (jitCode p limited safe cfg)))
    (small : sizeAll (jitCode p limited safe cfg) < 2 ^ 31)
    (addrIO : cfg.aI ≠ cfg.aO) (addrEI : cfg.aE ≠ cfg.aI) (addrEO : cfg.aE ≠ cfg.aO)
    (temps : alignedTemps p.temps * 8 < 2147483648)
    (rsp : rsp0.toNat % 16 = 8) (budgetLt : budget < 2 ^ 64) (lim : (limited && budget == 0) = false)
    (noOOM : safe = true → ∀ n s',
      steps cfg n (initState (w := w) cfg buf0 rsp0 ra p.minAcc p.maxAcc budget env) = some s' → Bnd s') :
    JitRange sz p limited safe cfg buf0 rsp0 ra budget env := by
  obtain ⟨a1, a2, a3, a4, a5⟩ := jitRange_fields_of_length hp h ht hlen
  exact { width := width, fetch := fetch, small := small, addrIO := addrIO, addrEI := addrEI, addrEO := addrEO,
          win := a1, dispMin := a2, dispMax := a3, dispNeg := fun _ => a4, temps := temps, shift := a5,
          rsp := rsp, budgetLt := budgetLt, lim := lim, noOOM := noOOM }

end

def okE {ε α : Type} : Except ε α → Bool
  | .ok _ => true
  | .error _ => false

def exIr (s : String) : Ir.Block 8 :=
  match Ir.parse (w := 8) (OptOffs.kinds s) with
  | .ok b => b
  | .error _ => { shift := 0, insts := [] }

def exOpt (s : String) (level : Nat) : Ir.Block 8 :=
  match OptFix.optimizeF (exIr s) level [] with
  | .ok b => b
  | .error _ => exIr s

theorem parse_exIr {s : String} (h : okE (Ir.parse (w := 8) (OptOffs.kinds s)) = true) :
    Ir.parse (w := 8) (OptOffs.kinds s) = .ok (exIr s) := by
  unfold exIr
  cases hq : Ir.parse (w := 8) (OptOffs.kinds s) with
  | ok b => rfl
  | error e => rw [hq] at h; cases h

theorem opt_exOpt {s : String} {level : Nat} (h : okE (OptFix.optimizeF (exIr s) level []) = true) :
    OptFix.optimizeF (exIr s) level [] = .ok (exOpt s level) := by
  unfold exOpt
  cases hq : OptFix.optimizeF (exIr s) level [] with
  | ok b => rfl
  | error e => rw [hq] at h; cases h

/-- `>+[>+<-]` (its loop has shift 0, so there is no `mov`): the parser and the optimizer at levels 0 and 1 succeed. -/
theorem exFlat_eval : okE (Ir.parse (w := 8) (OptOffs.kinds ">+[>+<-]")) = true ∧
    okE (OptFix.optimizeF (exIr ">+[>+<-]") 0 []) = true ∧ okE (OptFix.optimizeF (exIr ">+[>+<-]") 1 []) = true := by
  decide +kernel

/-- Level 0 and level 1: all hypotheses of `jitRange_shift_of_length` hold, so does its conclusion. -/
example : ∀ (i : Nat) (sh : Int),
    (translate (exOpt ">+[>+<-]" 0) 11 false).insts[i]? = some (Bc.Instr.mov sh) → DispOk Size.b8 sh :=
  jitRange_shift_of_length (src := OptOffs.kinds ">+[>+<-]") (level := 0) (orders := [])
    (parse_exIr exFlat_eval.1) (opt_exOpt exFlat_eval.2.1) (translate_ok _ 11 false) (by decide)

example : ∀ (i : Nat) (sh : Int),
    (translate (exOpt ">+[>+<-]" 1) 11 false).insts[i]? = some (Bc.Instr.mov sh) → DispOk Size.b8 sh :=
  jitRange_shift_of_length (src := OptOffs.kinds ">+[>+<-]") (level := 1) (orders := [])
    (parse_exIr exFlat_eval.1) (opt_exOpt exFlat_eval.2.2) (translate_ok _ 11 false) (by decide)

/-- `+[>+[>>]<]`: the inner block has shift `2`, the outer one `0` (`>` … `<`; the inner block's shift is not counted),
the top level `0`.  The IR has these shifts, the bytecode has a `mov 2`, and the theorem bounds it.  One kernel
evaluation of parser, optimizer and generator. -/
theorem exNest_eval : okE (Ir.parse (w := 8) (OptOffs.kinds "+[>+[>>]<]")) = true ∧
    okE (OptFix.optimizeF (exIr "+[>+[>>]<]") 0 []) = true ∧
    shiftsOf (exOpt "+[>+[>>]<]" 0) = [0, 0, 2] ∧
    (translate (exOpt "+[>+[>>]<]" 0) 11 false).insts.toList.contains (Bc.Instr.mov 2) = true := by
  decide +kernel

example : shiftsOf (exOpt "+[>+[>>]<]" 0) = [0, 0, 2] := exNest_eval.2.2.1

example : (translate (exOpt "+[>+[>>]<]" 0) 11 false).insts.toList.contains (Bc.Instr.mov 2) = true :=
  exNest_eval.2.2.2

example : ∀ (i : Nat) (sh : Int),
    (translate (exOpt "+[>+[>>]<]" 0) 11 false).insts[i]? = some (Bc.Instr.mov sh) → DispOk Size.b64 sh :=
  jitRange_shift_of_length (src := OptOffs.kinds "+[>+[>>]<]") (level := 0) (orders := [])
    (parse_exIr exNest_eval.1) (opt_exOpt exNest_eval.2.1) (translate_ok _ 11 false) (by decide)

/-- `>+[>+<-]>[>>>]` (the program above followed by a block with shift `3`) at level 3, empty oracle: the
optimizer succeeds, the optimized IR keeps a block with shift `3`, the unfused bytecode has a `mov 3` (fused: a
`scan 2 3`), and the theorem bounds it.  One kernel evaluation. -/
theorem exTail_eval : okE (Ir.parse (w := 8) (OptOffs.kinds ">+[>+<-]>[>>>]")) = true ∧
    okE (OptFix.optimizeF (exIr ">+[>+<-]>[>>>]") 3 []) = true ∧
    shiftsOf (exOpt ">+[>+<-]>[>>>]" 3) = [0, 3] ∧
    (translate (exOpt ">+[>+<-]>[>>>]" 3) 11 false).insts.toList.contains (Bc.Instr.mov 3) = true := by
  decide +kernel

example : shiftsOf (exOpt ">+[>+<-]>[>>>]" 3) = [0, 3] := exTail_eval.2.2.1

example : (translate (exOpt ">+[>+<-]>[>>>]" 3) 11 false).insts.toList.contains (Bc.Instr.mov 3) = true :=
  exTail_eval.2.2.2

example : ∀ (i : Nat) (sh : Int),
    (translate (exOpt ">+[>+<-]>[>>>]" 3) 11 false).insts[i]? = some (Bc.Instr.mov sh) → DispOk Size.b8 sh :=
  jitRange_shift_of_length (src := OptOffs.kinds ">+[>+<-]>[>>>]") (level := 3) (orders := [])
    (parse_exIr exTail_eval.1) (opt_exOpt exTail_eval.2.1) (translate_ok _ 11 false) (by decide)

end Chain
end Hpbf

#print axioms Hpbf.Chain.translateE_mov_is_block_shift
#print axioms Hpbf.Chain.jitRange_shift_of_shiftBound
#print axioms Hpbf.Chain.optimizedF_shifts_le_length
#print axioms Hpbf.Chain.optimized_shifts_le_length
#print axioms Hpbf.Chain.jitRange_shift_of_length
#print axioms Hpbf.Chain.jitRange_shift_of_length_opt
#print axioms Hpbf.Chain.jitRange_shift_of_length_translate
#print axioms Hpbf.Chain.jitRange_fields_of_length
#print axioms Hpbf.Chain.jitRange_of_length
