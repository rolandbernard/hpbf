/-
Property C11, in full, for the bytecode generator.
"For every valid program, width, level and generator setting, the bytecode program is self-consistent: every
branch lands on an instruction boundary inside the program, every tape operand lies inside the declared access
window (which contains 0), every temporary index is below the declared count, no temporary is read before it is
written on any path, and every register temporary whose value is still needed after a non-branch instruction is
declared live across it."

`Props/C11.lean` proves the executable checker `BcWf.check` sound.  This file proves that the checker ACCEPTS every
program the generator returns:

    translateE prog numRegs fuse = .ok p  →  BcWf.check p numRegs = true        (`translateE_check`)

for every IR block `prog` (not only parser output: no well-formedness or size hypothesis), every `numRegs`, both
values of `fuse`.  With `Props/C11Alloc.lean` (`initOk`, `liveOk`) what is added here is `localOk`:
* the access window `[minAcc, maxAcc]` of `Analysis::analyze` contains `0` and every tape offset the IR mentions
  (`analyze_covers`; `irOffsL`: operands of `output`/`input`, targets and variables of `calc`, loop/`if` conditions,
  recursively – bytecode operands are relative to the current pointer exactly like IR offsets, and a sub-block's
  window is absorbed unchanged into the enclosing one);
* every tape operand of the emitted code is such an offset and every destination is a cell or a temporary
  (`emit_allGood`), and `dead_store_elim`, `allocate_temps` (operands only move between instructions: forwarded
  `mem` sources, the cell of a store that receives a moved computation), `parameter_reordering`,
  `zeroing_move_detection` (`mem ↦ memZero` of the same cell) and `strip_noops` keep this (`AllGood`);
* the branches of the final program stay inside it (`targetsOk_strip` with `Chain.emit_targetsOk` and the passes);
* one bitmap per instruction (`Chain.translate_shape`), temporaries below `count_temps` (`translateE_temps_lt`).
The window clause holds for ALL IR blocks.  The consequences at the end of the file are the theorems of
`Props/C11.lean` without the hypothesis `check p numRegs = true`.  The theorems themselves are declared in
`Proofs/C11LocalPasses.lean` (`translateE_check`, `translateE_localFacts`) and `Proofs/C11AllocStrip.lean`
(`targetsOk_strip`); this file restates them as `example`s.
-/
import Hpbf.Proofs.C11LocalPasses
import Hpbf.Props.C11

namespace Hpbf
namespace C02

open Bc BcWf BcGen C11 Alloc Local

variable {w : Nat}

/-! The checker accepts the output of `translate`. -/

example (src dst cond shift : Int) (calcs : List (Int × Expr w)) (body rest : List (Ir.Instr w)) (once : Bool)
    (i : Ir.Instr w) :
    irOffs (.output src : Ir.Instr w) = [src] ∧ irOffs (.input dst : Ir.Instr w) = [dst] ∧
    irOffs (.calc calcs) = calcs.flatMap (fun c => c.1 :: Expr.variables c.2) ∧
    irOffs (.loop cond shift body once) = cond :: irOffsL body ∧
    irOffs (.ifnz cond shift body) = cond :: irOffsL body ∧
    irOffsL ([] : List (Ir.Instr w)) = [] ∧ irOffsL (i :: rest) = irOffs i ++ irOffsL rest := by
  refine ⟨?_, ?_, ?_, ?_, ?_, ?_, ?_⟩ <;> simp [irOffs, irOffsL]

example (prog : Ir.Block w) :
    (analyze prog).minAcc ≤ 0 ∧ 0 ≤ (analyze prog).maxAcc ∧
    ∀ o ∈ irOffsL prog.insts, (analyze prog).minAcc ≤ o ∧ o ≤ (analyze prog).maxAcc := analyze_covers prog

example (P : Int → Prop) (insts : Array (Instr w)) : AllGood P insts ↔
    ∀ (i : Nat) (x : Instr w), insts[i]? = some x → (∀ o ∈ memOps x, P o) ∧ dstOk x = true := Iff.rfl

example (prog : Ir.Block w) (fuse : Bool) (s : St w) (h : emitState prog fuse = .ok s) :
    AllGood (fun o => o ∈ irOffsL prog.insts) s.insts := emit_allGood h
example (P : Int → Prop) (s s' : St w) (numRegs : Nat) (hp : AllocPre s) (h : allocateTemps numRegs s = .ok s')
    (hg : AllGood P s.insts) : AllGood P s'.insts := allGood_allocateTemps hp h hg
example (P : Int → Prop) (s s4 : St w) (h : LatePre s) (fuse : Bool) (h4 : latePasses fuse s = .ok s4)
    (hg : AllGood P s.insts) : AllGood P s4.insts ∧ TargetsOk s4.insts := latePasses_good s s4 h fuse h4 hg

example (p : Program w) : localOk p = true ↔ LocalFacts p := ⟨localOk_facts, local_localOk_of_facts⟩

example (prog : Ir.Block w) (numRegs : Nat) (fuse : Bool) (p : Program w)
    (h : translateE prog numRegs fuse = .ok p) : LocalFacts p := translateE_localFacts h
example (prog : Ir.Block w) (numRegs : Nat) (fuse : Bool) (p : Program w)
    (h : translateE prog numRegs fuse = .ok p) : localOk p = true := translateE_localOk h

/-- **C11 for the generator.** -/
example (prog : Ir.Block w) (numRegs : Nat) (fuse : Bool) (p : Program w)
    (h : translateE prog numRegs fuse = .ok p) : check p numRegs = true := translateE_check h

/-! Consequences: the theorems of `Props/C11.lean` for generator output. -/

section
variable {prog : Ir.Block w} {numRegs : Nat} {fuse : Bool} {p : Program w}
  (h : translateE prog numRegs fuse = .ok p)
include h

/-- Never "malformed bytecode", for every fuel, budget, mode and environment. -/
example (limited : Bool) (b fuel : Nat) (env : Env) : ∀ c', Bc.run p limited b fuel env ≠ .bad c' :=
  check_run_not_bad (translateE_check h) limited b fuel env
example {i : Nat} {cond off : Int}
    (hi : p.insts[i]? = some (.brz cond off) ∨ p.insts[i]? = some (.brnz cond off)) :
    0 ≤ (i : Int) + off ∧ (i : Int) + off ≤ p.insts.size := check_branch_target (translateE_check h) hi
example {i : Nat} {ins : Instr w} {o : Int} (hi : p.insts[i]? = some ins) (ho : o ∈ memOps ins) :
    p.minAcc ≤ o ∧ o ≤ p.maxAcc := check_window (translateE_check h) hi ho
example : p.minAcc ≤ 0 ∧ 0 ≤ p.maxAcc := check_window_zero (translateE_check h)
/-- A step changes no cell outside `[ptr + minAcc, ptr + maxAcc]`. -/
example (limited : Bool) (c : Cfg w) {x : Int} (hx : x < c.st.ptr + p.minAcc ∨ c.st.ptr + p.maxAcc < x) :
    (Bc.step p limited c).cfg.st.tape.get x = c.st.tape.get x := check_step_window (translateE_check h) c hx
/-- The run does not depend on the initial contents of the temporaries (the JIT starts with garbage registers). -/
example (limited : Bool) (fuel b : Nat) (s : State w) (t0 t0' : Temps w) :
    ObsEq (Bc.runCfg p limited fuel { pc := 0, temps := t0, budget := b, st := s })
      (Bc.runCfg p limited fuel { pc := 0, temps := t0', budget := b, st := s }) :=
  check_init_independent (translateE_check h) limited fuel b s t0 t0'
/-- A register that is neither written by a non-branch instruction nor in its bitmap is dead after it. -/
example {limited : Bool} {i : Nat} {ins : Instr w} {t : Nat} (hi : p.insts[i]? = some ins)
    (hb : isBranch ins = false) (hr : t < numRegs) (h16 : t < 16) (hd : t ∉ defs ins)
    (hbit : ((p.live[i]?).getD 0).testBit t = false) {c c' : Cfg w} (hc : Reach p limited c) (hpc : c.pc = i)
    (hs : Bc.step p limited c = .next c') (v : BitVec w) (fuel : Nat) :
    ObsEq (Bc.runCfg p limited fuel c') (Bc.runCfg p limited fuel { c' with temps := tset c'.temps t v }) :=
  check_live_dead (translateE_check h) hi hb hr h16 hd hbit hc hpc hs v fuel
end

end C02
end Hpbf

#print axioms Hpbf.C02.Local.analyze_covers
#print axioms Hpbf.C02.Local.emit_allGood
#print axioms Hpbf.C02.Local.allGood_dseLike
#print axioms Hpbf.C02.Local.allGood_allocateTemps
#print axioms Hpbf.C02.Local.allGood_parameterReordering
#print axioms Hpbf.C02.Local.allGood_zeroingMoveDetection
#print axioms Hpbf.C02.Local.allGood_strip
#print axioms Hpbf.C02.Local.targetsOk_strip
#print axioms Hpbf.C02.Local.latePasses_good
#print axioms Hpbf.C02.local_localOk_of_facts
#print axioms Hpbf.C02.translateE_localFacts
#print axioms Hpbf.C02.translateE_localOk
#print axioms Hpbf.C02.translateE_check
