/-
C10 — "For every program whose canonical run keeps the pointer inside a pre-allocated region with a
margin of the program's length on each side, executing without bounds checks produces the canonical
input/output events and touches no byte outside that region."

The model is `Hpbf/Window.lean` (`Mode.unchecked`: `SAFE = false` in the threaded interpreter, no probes
in the JIT; `Lay.move .unchecked` just adds the shift, `Lay.enter .unchecked` does nothing – the caller
has pre-grown the tape, `l0` below).

* `Window.run mode p limited b fuel env l0` – bytecode run instrumented with the layout; `.out` the
  outcome of the bytecode machine, `.lay` the final layout, `.ok` "every tape access was inside the
  allocation".
* `ptrRange` – a decidable way to get the excursion hypothesis of `unchecked_region` for a terminating
  run.
* `Ir.offsets` – all tape offsets occurring in an IR instruction list (sources, destinations,
  variables of expressions, loop conditions, recursively; block shifts are NOT offsets);
  `Ir.moves src` – number of `<`/`>` characters.
* Guard (only for `unchecked_eq_safe`, which talks about the checked mode): `SmallProg p` and
  `l0.size < 2^59` as in C06.  `mode_irrelevant_for_outcome`, `unchecked_region` and
  `parse_offsets_le_length` need no guard (the unchecked mode performs no wrapping arithmetic in the
  layout model: the physical index is an `Int`).
-/
import Hpbf.Props.C06
import Hpbf.Proofs.C10
import Hpbf.Proofs.C10Parse
import Hpbf.Proofs.OptOffsParse

namespace Hpbf.C10
open Hpbf Hpbf.Window Hpbf.Bc Hpbf.C06

variable {w : Nat}

/-- C10, "produces the canonical input/output events": the outcome (final configuration: tape,
pointer, environment, trace of I/O events, budget; and how the run ended) does not depend on the mode
or on the starting layout: it is `Bc.run`. -/
theorem mode_irrelevant_for_outcome (mode : Mode) (p : Program w) (limited : Bool) (b fuel : Nat)
    (env : Env) (l0 : Lay) :
    (Window.run mode p limited b fuel env l0).out = Bc.run p limited b fuel env := by
  unfold Window.run Bc.run
  simp only
  split
  · rfl
  · exact runLay_out mode p limited fuel _ _ _

theorem mode_irrelevant (mode mode' : Mode) (p : Program w) (limited : Bool) (b fuel : Nat)
    (env : Env) (l0 l0' : Lay) :
    (Window.run mode p limited b fuel env l0).out = (Window.run mode' p limited b fuel env l0').out := by
  rw [mode_irrelevant_for_outcome, mode_irrelevant_for_outcome]

theorem move_eq_of_no_growth {mn mx : Int} {l : Lay} {sh : Int} (h0 : mn ≤ 0) (h1 : 0 ≤ mx)
    (hw : l.InWindow mn mx) (hs : (l.size : Int) < bound) (hmn : SmallArg mn) (hmx : SmallArg mx)
    (hsh : SmallArg sh) (hsz : (Lay.move .threadedSafe mn mx l sh).size = l.size) :
    Lay.move .threadedSafe mn mx l sh = Lay.move .unchecked mn mx l sh :=
  move_no_growth hw hs hmn hmx hsh hsz

/-- C10 against the checked mode.  `l0` is a pre-grown layout containing the window.  If the
bounds-checked run from `l0` never grows the allocation (by `C06.size_monotone` it is enough that its
final size is the initial size), then the unchecked run from `l0` is the same run and every access is
inside the pre-allocated region. -/
theorem unchecked_eq_safe {p : Program w} (hl : BcWf.localOk p = true) (hp : SmallProg p)
    (limited : Bool) (b fuel : Nat) (env : Env) {l0 : Lay}
    (hw : l0.InWindow p.minAcc p.maxAcc) (hs : (l0.size : Int) < bound)
    (hng : (Window.run .threadedSafe p limited b fuel env l0).lay.size = l0.size) :
    Window.run .unchecked p limited b fuel env l0 = Window.run .threadedSafe p limited b fuel env l0 ∧
    (Window.run .unchecked p limited b fuel env l0).lay =
      (Window.run .threadedSafe p limited b fuel env l0).lay ∧
    (Window.run .unchecked p limited b fuel env l0).lay.size = l0.size ∧
    (Window.run .unchecked p limited b fuel env l0).ok = true := by
  have L := C11.localOk_facts hl
  have hsmall : l0.Small := by
    have := L.min0; have := L.max0
    obtain ⟨w1, w2⟩ := hw
    unfold Lay.Small; omega
  have hok := safe_run_no_oob_final (mode := .threadedSafe) (Or.inl rfl) hl hp limited b fuel env hsmall
    (by rw [hng]; exact hs)
  have heq : Window.run .unchecked p limited b fuel env l0 =
      Window.run .threadedSafe p limited b fuel env l0 := by
    have hent : l0.enter .threadedSafe p.minAcc p.maxAcc = l0 :=
      re_enter_noop .threadedSafe hw (by have := L.min0; have := L.max0; omega) hs hp.1 hp.2.1
    unfold Window.run at hng ⊢
    simp only at hng ⊢
    split
    · rfl
    · rename_i hb
      simp only [hb] at hng
      rw [hent] at hng ⊢
      exact runLay_unchecked_eq L hp limited fuel _ l0 true hw hs hng
  rw [heq]
  exact ⟨rfl, rfl, hng, hok⟩

/-- C10, "touches no byte outside that region".  If the logical pointer of every configuration
reachable from the start lies in `[lo, hi]` and the pre-grown layout `l0` (`l0.cur` = physical index of
logical pointer 0) contains `[lo + minAcc, hi + maxAcc]`, then the unchecked run touches only cells of
the pre-allocated region (and never changes the allocation). -/
theorem unchecked_region {p : Program w} (hl : BcWf.localOk p = true) (limited : Bool) (b fuel : Nat)
    (env : Env) {l0 : Lay} (lo hi : Int)
    (hreach : ∀ c, ReachFrom p limited { pc := 0, temps := [], budget := b, st := State.init env } c →
      lo ≤ c.st.ptr ∧ c.st.ptr ≤ hi)
    (hlo : 0 ≤ l0.cur + lo + p.minAcc) (hhi : l0.cur + hi + p.maxAcc < l0.size) :
    (Window.run .unchecked p limited b fuel env l0).ok = true ∧
    (Window.run .unchecked p limited b fuel env l0).lay.size = l0.size := by
  have L := C11.localOk_facts hl
  unfold Window.run
  simp only
  split
  · exact ⟨rfl, rfl⟩
  · exact runLay_unchecked_region L limited _ lo hi l0.cur l0.size hreach hlo hhi fuel _ _
      ReachFrom.refl rfl (by simp [Lay.enter, State.init])

/-- The excursion hypothesis can be computed for a run that ends within the fuel. -/
theorem reach_of_ptrRange {p : Program w} {limited : Bool} {b fuel : Nat} {env : Env} {lo hi : Int}
    (h : ptrRange p limited fuel { pc := 0, temps := [], budget := b, st := State.init env } (0, 0) =
      some (lo, hi)) :
    ∀ c, ReachFrom p limited { pc := 0, temps := [], budget := b, st := State.init env } c →
      lo ≤ c.st.ptr ∧ c.st.ptr ≤ hi :=
  (ptrRange_sound p limited fuel _ _ lo hi h).2.2

/-- C10, "a margin of the program's length", at optimisation level 0.  Every tape offset occurring
anywhere in the parsed IR is bounded in magnitude by the number of `<`/`>` characters of the source … -/
theorem parse_offsets_le_moves {src : List Kind} {blk : Ir.Block w}
    (h : Ir.parse (w := w) src = .ok blk) :
    ∀ o ∈ Ir.offsets blk.insts, o.natAbs ≤ Ir.moves src := by
  intro o ho
  have := (parse_bd h).2 o ho
  unfold Bd at this
  omega

/-- … hence by the length of the source.  (Also the final shift of the top-level block.) -/
theorem parse_offsets_le_length {src : List Kind} {blk : Ir.Block w}
    (h : Ir.parse (w := w) src = .ok blk) :
    (∀ o ∈ Ir.offsets blk.insts, o.natAbs ≤ src.length) ∧ blk.shift.natAbs ≤ src.length := by
  have hm := moves_le_length src
  refine ⟨fun o ho => Nat.le_trans (parse_offsets_le_moves h o ho) hm, ?_⟩
  have := (parse_bd h).1
  unfold Bd at this
  omega

-- The hypotheses of `unchecked_eq_safe` and `unchecked_region` are satisfiable:

/-- `>>> [3]+=1 <<<<< [-2]+=1 > [0]:=1 scan-right-by-2` on a pre-grown tape. -/
def wander : Program 8 :=
  { temps := 0, minAcc := -2, maxAcc := 3, live := #[0, 0, 0, 0, 0, 0, 0],
    insts := #[.mov 3, .add (.mem 3) (.mem 3) (.imm 1#8), .mov (-5),
               .add (.mem (-2)) (.mem (-2)) (.imm 1#8), .mov 1, .copy (.mem 0) (.imm 1#8), .scan 0 2] }

def env0 : Env := { input := none, sink := false, outOk := none }

/-- A pre-grown layout: 64 cells, logical pointer 0 at physical index 32. -/
def pre : Lay := ⟨64, 32⟩

example : BcWf.localOk wander = true ∧ SmallProg wander ∧ pre.InWindow wander.minAcc wander.maxAcc ∧
    (pre.size : Int) < bound := by decide

-- the checked run from `pre` does not grow …
example : (Window.run .threadedSafe wander false 0 20 env0 pre).lay.size = pre.size := by
  decide +kernel
-- … so `unchecked_eq_safe` applies; and indeed
example : (Window.run .unchecked wander false 0 20 env0 pre).lay = ⟨64, 33⟩ ∧
    (Window.run .unchecked wander false 0 20 env0 pre).ok = true := by decide +kernel

-- the excursion of that run is `[-2, 3]` (computed), and `pre` contains `[-2 + -2, 3 + 3]`
example : ptrRange wander false 20 { pc := 0, temps := [], budget := 0, st := State.init env0 } (0, 0) =
    some (-2, 3) := by decide +kernel
example : 0 ≤ pre.cur + (-2) + wander.minAcc ∧ pre.cur + 3 + wander.maxAcc < pre.size := by decide

example : (Window.run .unchecked wander false 0 20 env0 pre).ok = true :=
  (unchecked_region (by decide) false 0 20 env0 (-2) 3 (reach_of_ptrRange (fuel := 20) (by decide +kernel))
    (by decide) (by decide)).1

-- too small a region: the unchecked run does leave it (the flag notices)
example : (Window.run .unchecked wander false 0 20 env0 ⟨6, 2⟩).ok = false := by decide +kernel

-- the outcome is the same in all modes, e.g. the final pointer
example : (match (Window.run .unchecked wander false 0 20 env0 pre).out with
    | .done c => c.st.ptr | _ => 0) = 1 := by decide +kernel

-- parser: `+>>+<<<[->+<]` has 7 moves; the offsets of its IR lie in `[-1, 2]`
example : (match Ir.parse (w := 8) ("+>>+<<<[->+<]".toList.map Kind.ofChar) with
    | .ok blk => Ir.offsets blk.insts | .error _ => []) = [0, 0, -1, -1, -1, 0, 0, 2, 2] ∧
    Ir.moves ("+>>+<<<[->+<]".toList.map Kind.ofChar) = 7 := by decide +kernel

end Hpbf.C10

#print axioms Hpbf.C10.mode_irrelevant_for_outcome
#print axioms Hpbf.C10.mode_irrelevant
#print axioms Hpbf.C10.move_eq_of_no_growth
#print axioms Hpbf.C10.unchecked_eq_safe
#print axioms Hpbf.C10.unchecked_region
#print axioms Hpbf.C10.reach_of_ptrRange
#print axioms Hpbf.C10.parse_offsets_le_moves
#print axioms Hpbf.C10.parse_offsets_le_length
