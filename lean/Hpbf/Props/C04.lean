/-
Property C04.  "For every valid program, input stream and cell width, the in-place interpreter
produces exactly the input/output event sequence of canonical Brainfuck semantics whenever the
canonical run terminates."

`code : Array Kind` is the classified source text, valid = `Bf.tree code.toList = some p`
(bracket-balanced; `p` is the bracket tree), `w` the cell width, `env` the environment (input
stream, sink behaviour).  `Inplace.run code limited budget fuel env` models
`InplaceInterpreter::execute_in::<LIMITED>`, `Bf.run fuel p env` is the canonical semantics.
The states of the two machines (tape, pointer, environment, events so far) are *equal*, not merely
the event sequences.
-/
import Hpbf.Proofs.C04

namespace Hpbf
namespace C04

variable {w : Nat}

-- `traceOf` / `traceOfBf` (from `Proofs/C04.lean`) spelled out; traces are most recent first.
example (c : Inplace.Cfg w) : traceOf (.finished c) = c.st.trace := rfl
example (c : Inplace.Cfg w) : traceOf (.stopped c) = c.st.trace := rfl
example (c : Inplace.Cfg w) : traceOf (.interrupted c) = c.st.trace := rfl
example (c : Inplace.Cfg w) (pos : Nat) : traceOf (.notOpened pos c) = c.st.trace := rfl
example (c : Inplace.Cfg w) : traceOf (.outOfFuel c) = c.st.trace := rfl
example (s : State w) : traceOfBf (.done s) = s.trace := rfl
example (s : State w) : traceOfBf (.stopped s) = s.trace := rfl
example (c : Bf.Config w) : traceOfBf (.outOfFuel c) = c.st.trace := rfl

/-- `+[-]` -/
def exClear : Array Kind := #[.inc, .open, .dec, .close]
/-- `,[.,]` -/
def exCat : Array Kind := #[.inp, .open, .out, .inp, .close]
/-- `+[]` (diverges) -/
def exSpin : Array Kind := #[.inc, .open, .close]
/-- no source, present sink that never refuses -/
def exEnv0 : Env := { input := none, sink := true, outOk := none }
/-- input `A`, then end of input -/
def exEnvA : Env := { input := some [.byte 65], sink := true, outOk := none }

def isDone : Bf.Outcome w → Bool
  | .done _ => true
  | _ => false
def isStopped : Bf.Outcome w → Bool
  | .stopped _ => true
  | _ => false
def isFinished : Inplace.Outcome w → Bool
  | .finished _ => true
  | _ => false
def isStoppedI : Inplace.Outcome w → Bool
  | .stopped _ => true
  | _ => false
def isInterrupted : Inplace.Outcome w → Bool
  | .interrupted _ => true
  | _ => false

example : Bf.tree exClear.toList = some (.cmd .inc (.loop (.cmd .dec .nil) .nil)) := by decide
example : Bf.tree exCat.toList =
    some (.cmd .inp (.loop (.cmd .out (.cmd .inp .nil)) .nil)) := by decide
example : Bf.tree exSpin.toList = some (.cmd .inc (.loop .nil .nil)) := by decide

section
variable (code : Array Kind) (p : Prog) (h : Bf.tree code.toList = some p) (env : Env)
include h

/-- C04, forward: a canonical run that ends normally is matched by `execute` reaching the end of the
text in the same state. -/
theorem inplace_forward (b : Nat) :
    ∀ (f : Nat) (s : State w), Bf.run f p env = .done s →
      ∃ f' c, Inplace.run code false b f' env = .finished c ∧ c.st = s := by
  intro f s hr
  have := fwd_run (w := w) h false b f env (by simp)
  rw [hr] at this
  exact this

/-- The same for a canonical run that stops at a failing I/O operation. -/
theorem inplace_forward_stopped (b : Nat) :
    ∀ (f : Nat) (s : State w), Bf.run f p env = .stopped s →
      ∃ f' c, Inplace.run code false b f' env = .stopped c ∧ c.st = s := by
  intro f s hr
  have := fwd_run (w := w) h false b f env (by simp)
  rw [hr] at this
  exact this

/-- C04 as worded: whenever the canonical run terminates, the in-place interpreter terminates with
exactly the same event sequence. -/
theorem inplace_events_eq (b : Nat) :
    ∀ (f : Nat), (∃ s, Bf.run (w := w) f p env = .done s) ∨ (∃ s, Bf.run (w := w) f p env = .stopped s) →
      ∃ f', (Inplace.run (w := w) code false b f' env).Halted ∧
        traceOf (Inplace.run (w := w) code false b f' env) = traceOfBf (Bf.run (w := w) f p env) := by
  intro f hr
  rcases hr with ⟨s, hr⟩ | ⟨s, hr⟩
  · obtain ⟨f', c, hc, hs⟩ := inplace_forward code p h env b f s hr
    exact ⟨f', by rw [hc]; trivial, by rw [hc, hr]; simp [traceOf, traceOfBf, hs]⟩
  · obtain ⟨f', c, hc, hs⟩ := inplace_forward_stopped code p h env b f s hr
    exact ⟨f', by rw [hc]; trivial, by rw [hc, hr]; simp [traceOf, traceOfBf, hs]⟩

/-- C04, termination reflection: `execute` reaches the end of the text only if the canonical run
ends normally, in the same state. -/
theorem inplace_backward (b : Nat) :
    ∀ (f' : Nat) (c : Inplace.Cfg w), Inplace.run code false b f' env = .finished c →
      ∃ f, Bf.run f p env = .done c.st := by
  intro f' c hr
  have := back_run (w := w) h false b f' env
  rw [hr] at this
  exact this

/-- The same for a stop at a failing I/O operation. -/
theorem inplace_backward_stopped (b : Nat) :
    ∀ (f' : Nat) (c : Inplace.Cfg w), Inplace.run code false b f' env = .stopped c →
      ∃ f, Bf.run f p env = .stopped c.st := by
  intro f' c hr
  have := back_run (w := w) h false b f' env
  rw [hr] at this
  exact this

/-- On a balanced program the in-place interpreter never reports `LoopNotOpened`, in either mode. -/
theorem inplace_never_notOpened :
    ∀ (limited : Bool) (b f' pos : Nat) (c : Inplace.Cfg w),
      Inplace.run code limited b f' env ≠ .notOpened pos c := by
  intro limited b f' pos c hr
  have := back_run (w := w) h limited b f' env
  rw [hr] at this
  exact this

/-- `execute_in::<false>` never returns `Ok(false)` (budget exhausted). -/
theorem inplace_never_interrupted_unlimited :
    ∀ (b f' : Nat) (c : Inplace.Cfg w), Inplace.run code false b f' env ≠ .interrupted c := by
  intro b f' c hr
  have := back_run (w := w) h false b f' env
  rw [hr] at this
  exact Bool.noConfusion this.1

/-- Nothing extra is ever printed: what the in-place interpreter has done after any number of steps,
also when it has not returned, the canonical run has done after some number of steps. -/
theorem inplace_prefix (b : Nat) :
    ∀ f', ∃ f, traceOf (Inplace.run (w := w) code false b f' env) =
      traceOfBf (Bf.run (w := w) f p env) := by
  intro f'
  have hb := back_run (w := w) h false b f' env
  unfold Bf.run
  cases hr : Inplace.run (w := w) code false b f' env with
  | finished c => rw [hr] at hb; obtain ⟨f, hf⟩ := hb; exact ⟨f, by rw [hf]; rfl⟩
  | stopped c => rw [hr] at hb; obtain ⟨f, hf⟩ := hb; exact ⟨f, by rw [hf]; rfl⟩
  | interrupted c => rw [hr] at hb; exact Bool.noConfusion hb.1
  | notOpened pos c => rw [hr] at hb; exact hb.elim
  | outOfFuel c =>
    rw [hr] at hb
    obtain ⟨f, c', hf, hrel⟩ := hb
    exact ⟨f, by rw [hf]; simp [traceOf, traceOfBf, hrel.1]⟩

/-- Conversely, nothing is withheld. -/
theorem inplace_prefix_conv (b : Nat) :
    ∀ f, ∃ f', traceOfBf (Bf.run (w := w) f p env) =
      traceOf (Inplace.run (w := w) code false b f' env) := by
  intro f
  have hf := fwd_run (w := w) h false b f env (by simp)
  cases hr : Bf.run (w := w) f p env with
  | _ =>
    rw [hr] at hf
    obtain ⟨f', c, hc, hs⟩ := hf
    exact ⟨f', by rw [hc]; simp [traceOf, traceOfBf, hs]⟩

/-- Literally a prefix (`<:+`, traces being most recent first) of the canonical event sequence after
`g` steps for every sufficiently large `g`; in particular of the complete event sequence of a
terminating canonical run. -/
theorem inplace_output_is_canonical_prefix (b : Nat) :
    ∀ f', ∃ f, ∀ g, f ≤ g →
      traceOf (Inplace.run (w := w) code false b f' env) <:+ traceOfBf (Bf.run (w := w) g p env) := by
  intro f'
  obtain ⟨f, hf⟩ := inplace_prefix code p h env b f'
  refine ⟨f, fun g hg => ?_⟩
  obtain ⟨k, rfl⟩ : ∃ k, g = f + k := ⟨g - f, by omega⟩
  rw [hf]
  exact bf_trace_add f k _

/-- `execute_limited`: every outcome, `Ok(false)` (budget exhausted) included, is a canonical outcome
or has the event sequence of a canonical prefix. -/
theorem inplace_limited :
    ∀ (b f' : Nat),
      match Inplace.run (w := w) code true b f' env with
      | .finished c => ∃ f, Bf.run f p env = .done c.st
      | .stopped c => ∃ f, Bf.run f p env = .stopped c.st
      | .interrupted c => ∃ f, traceOfBf (Bf.run (w := w) f p env) = c.st.trace
      | .notOpened _ _ => False
      | .outOfFuel c => ∃ f, traceOfBf (Bf.run (w := w) f p env) = c.st.trace := by
  intro b f'
  have hb := back_run (w := w) h true b f' env
  unfold Bf.run
  cases hr : Inplace.run (w := w) code true b f' env with
  | finished c => rw [hr] at hb; exact hb
  | stopped c => rw [hr] at hb; exact hb
  | interrupted c =>
    rw [hr] at hb
    obtain ⟨_, f, c', hf, hs⟩ := hb
    exact ⟨f, by rw [hf]; simp [traceOfBf, hs]⟩
  | notOpened pos c => rw [hr] at hb; exact hb
  | outOfFuel c =>
    rw [hr] at hb
    obtain ⟨f, c', hf, hrel⟩ := hb
    exact ⟨f, by rw [hf]; simp [traceOfBf, hrel.1]⟩

/-- `execute_limited` always returns: within `(b + 1) * (code.size + 2)` steps of the model. -/
theorem inplace_limited_terminates :
    ∀ (b f' : Nat), (b + 1) * (code.size + 2) ≤ f' →
      ∀ c, Inplace.run (w := w) code true b f' env ≠ .outOfFuel c := by
  intro b f' hf c hr
  have := limited_run_halted (w := w) h b f' env hf
  rw [hr] at this
  exact this

theorem limited_run_at_bound {b f' : Nat} {r : Inplace.Outcome w}
    (hr : Inplace.run code true b f' env = r) (hh : r.Halted) :
    Inplace.run code true b ((b + 1) * (code.size + 2)) env = r := by
  subst hr
  exact Inplace.runCfg_det (limited_run_halted (w := w) h b _ env (Nat.le_refl _)) hh

/-- A budget of at least the number `f` of canonical steps is enough for `execute_limited` to
complete, in the same state. -/
theorem inplace_limited_enough :
    ∀ (f : Nat) (s : State w), Bf.run f p env = .done s → ∀ b, f ≤ b →
      ∃ c, Inplace.run code true b ((b + 1) * (code.size + 2)) env = .finished c ∧ c.st = s := by
  intro f s hr b hb
  have hf := fwd_run (w := w) h true b f env (fun _ => hb)
  rw [hr] at hf
  obtain ⟨f', c, hc, hs⟩ := hf
  exact ⟨c, limited_run_at_bound code p h env hc trivial, hs⟩

/-- The same for a canonical run that stops at a failing I/O operation. -/
theorem inplace_limited_enough_stopped :
    ∀ (f : Nat) (s : State w), Bf.run f p env = .stopped s → ∀ b, f ≤ b →
      ∃ c, Inplace.run code true b ((b + 1) * (code.size + 2)) env = .stopped c ∧ c.st = s := by
  intro f s hr b hb
  have hf := fwd_run (w := w) h true b f env (fun _ => hb)
  rw [hr] at hf
  obtain ⟨f', c, hc, hs⟩ := hf
  exact ⟨c, limited_run_at_bound code p h env hc trivial, hs⟩

end

-- The hypotheses of the theorems above are satisfiable (kernel evaluation).
-- `inplace_forward`: the canonical run of `+[-]` ends normally after 6 steps ...
example : isDone (Bf.run (w := 8) 6 (.cmd .inc (.loop (.cmd .dec .nil) .nil)) exEnv0) = true := by
  decide
-- ... and the in-place run finishes after 5.
example : isFinished (Inplace.run (w := 8) exClear false 0 5 exEnv0) = true := by decide
-- `inplace_forward_stopped` / `inplace_backward_stopped`: `,[.,]` without an input source stops.
example : isStopped (Bf.run (w := 8) 1 (.cmd .inp (.loop (.cmd .out (.cmd .inp .nil)) .nil))
    exEnv0) = true := by decide
example : isStoppedI (Inplace.run (w := 8) exCat false 0 1 exEnv0) = true := by decide
-- `,[.,]` on input `A`: both print `A` (events: read 65, write 65, read 0 at end of input).
example : traceOfBf (Bf.run (w := 8) 8 (.cmd .inp (.loop (.cmd .out (.cmd .inp .nil)) .nil))
    exEnvA) = [Ev.inp 0, Ev.out 65, Ev.inp 65] := by decide
example : traceOf (Inplace.run (w := 8) exCat false 0 6 exEnvA) =
    [Ev.inp 0, Ev.out 65, Ev.inp 65] := by decide
example : isFinished (Inplace.run (w := 8) exCat false 0 6 exEnvA) = true := by decide
-- `inplace_limited`: `+[]` with budget 2 is interrupted; `+[-]` with budget 6 completes.
example : isInterrupted (Inplace.run (w := 8) exSpin true 2 7 exEnv0) = true := by decide
example : isFinished (Inplace.run (w := 8) exClear true 6 ((6 + 1) * (exClear.size + 2)) exEnv0)
    = true := by decide

-- Fuel monotonicity and determinism of the two machines (`FuelRun.mono`, `.det`, `.obs_add`) as statements of the property.
theorem bf_fuel_mono {f f' : Nat} {c : Bf.Config w} {r : Bf.Outcome w}
    (hr : Bf.runCfg f c = r) (hne : ∀ c', r ≠ .outOfFuel c') (hf : f ≤ f') :
    Bf.runCfg f' c = r := by
  subst hr
  exact Bf.fuelRun.mono hne hf

theorem bf_deterministic {f f' : Nat} {c : Bf.Config w} {r r' : Bf.Outcome w}
    (hr : Bf.runCfg f c = r) (hne : ∀ c', r ≠ .outOfFuel c')
    (hr' : Bf.runCfg f' c = r') (hne' : ∀ c', r' ≠ .outOfFuel c') : r = r' := by
  subst hr hr'
  exact Bf.fuelRun.det hne hne'

theorem bf_trace_mono {f f' : Nat} (hf : f ≤ f') (c : Bf.Config w) :
    traceOfBf (Bf.runCfg f c) <:+ traceOfBf (Bf.runCfg f' c) := by
  obtain ⟨k, rfl⟩ : ∃ k, f' = f + k := ⟨f' - f, by omega⟩
  exact bf_trace_add f k c

theorem inplace_fuel_mono {code : Array Kind} {limited : Bool} {f f' : Nat} {c : Inplace.Cfg w}
    {r : Inplace.Outcome w} (hr : Inplace.runCfg code limited f c = r)
    (hne : ∀ c', r ≠ .outOfFuel c') (hf : f ≤ f') : Inplace.runCfg code limited f' c = r := by
  subst hr
  exact (Inplace.fuelRun code limited).mono hne hf

theorem inplace_deterministic {code : Array Kind} {limited : Bool} {f f' : Nat}
    {c : Inplace.Cfg w} {r r' : Inplace.Outcome w}
    (hr : Inplace.runCfg code limited f c = r) (hne : ∀ c', r ≠ .outOfFuel c')
    (hr' : Inplace.runCfg code limited f' c = r') (hne' : ∀ c', r' ≠ .outOfFuel c') : r = r' := by
  subst hr hr'
  exact (Inplace.fuelRun code limited).det hne hne'

end C04
end Hpbf

#print axioms Hpbf.C04.inplace_forward
#print axioms Hpbf.C04.inplace_forward_stopped
#print axioms Hpbf.C04.inplace_events_eq
#print axioms Hpbf.C04.inplace_backward
#print axioms Hpbf.C04.inplace_backward_stopped
#print axioms Hpbf.C04.inplace_never_notOpened
#print axioms Hpbf.C04.inplace_never_interrupted_unlimited
#print axioms Hpbf.C04.inplace_prefix
#print axioms Hpbf.C04.inplace_prefix_conv
#print axioms Hpbf.C04.inplace_output_is_canonical_prefix
#print axioms Hpbf.C04.inplace_limited
#print axioms Hpbf.C04.inplace_limited_terminates
#print axioms Hpbf.C04.inplace_limited_enough
#print axioms Hpbf.C04.inplace_limited_enough_stopped
#print axioms Hpbf.C04.bf_fuel_mono
#print axioms Hpbf.C04.bf_deterministic
#print axioms Hpbf.C04.bf_trace_mono
#print axioms Hpbf.C04.inplace_fuel_mono
#print axioms Hpbf.C04.inplace_deterministic
