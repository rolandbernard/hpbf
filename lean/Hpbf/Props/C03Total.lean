/-
Property C03 / C13, "compilation is total" for the baseline JIT: the instruction selector of `emit_program`
(`src/exec/basejit/codegen.rs`, ported as `JitGen.emitInstrRaw`) has an arm for every instruction the bytecode
generator produces in the JIT's setting (`translate(&program, 11, false)`: eleven register temporaries, no
fusion), so `compile_program` never reaches `unimplemented!(..)`, never panics in `emit_pre_call`
(`Reg::tmp(l).unwrap()`), and `fix_relocations` never indexes outside `locations`.  What remains of the
hypothesis `compileX86 … = some code` is the operand-range test (`X86.fits`: a debug build's "attempt to multiply
with overflow" on offsets beyond ±2^28), stated as an arithmetic condition on the program.

Models: `Hpbf/JitGen.lean`, `Hpbf/BcGen.lean` (`translateE`), `Hpbf/BcWf.lean`.  Proofs:
`Hpbf/Proofs/C03Total{Form,Shape,Translate,Fits,Compile}.lean`.

Vocabulary (transparent, see the `example`s):
* `JitForm ins`   – the instruction forms with a selector arm (independent of width, live bitmap, offsets):
  everything except `scan`; `copy`: destination cell/temporary, source cell/temporary/immediate; `sub`:
  destination cell/temporary, first source cell/temporary/immediate, second source cell/temporary; `add`/`mul`
  (`commForm`): the first source is a cell or a temporary, an immediate only as second source, and
  `(tmp, cell)` sources only together with a cell destination … precisely the table below; no `memZero` anywhere.
* `needsCall safe ins` – `inp`, `out`, and `mov` in bounds-checked mode: the instructions that save registers.
* `shape ins`     – the forms present BEFORE `parameter_reordering` (no `scan`, no `memZero`, destination
  cell/temporary, sources cell/temporary/immediate).
* `InstrFits sz safe minAcc maxAcc ins` – the operand-range condition: `bytes * offset` of every tape operand and
  `8 * t` of every temporary are `i32`s; for `mov`, `bytes * shift` and (bounds-checked) `± bytes * probe`.
-/
import Hpbf.Proofs.C03TotalCompile

namespace Hpbf
namespace C03

open Asm JitGen

variable {w : Nat}

example (m : Int) (t : Nat) (c : BitVec w) :
    isMT (.mem m : Bc.Loc w) = true ∧ isMT (.tmp t : Bc.Loc w) = true ∧ isMT (.imm c) = false ∧
    isMT (.memZero m : Bc.Loc w) = false ∧ isMTI (.imm c) = true ∧ isMTI (.memZero m : Bc.Loc w) = false :=
  ⟨rfl, rfl, rfl, rfl, rfl, rfl⟩
example (d s : Bc.Loc w) : JitForm (.copy d s) = (isMT d && isMTI s) := rfl
example (d a b : Bc.Loc w) : JitForm (.sub d a b) = (isMT d && isMTI a && isMT b) := rfl
example (d a b : Bc.Loc w) : JitForm (.add d a b) = commForm d a b ∧ JitForm (.mul d a b) = commForm d a b :=
  ⟨rfl, rfl⟩
/-- The table of `Add` / `Mul`. -/
example (m m' m'' : Int) (t t' t'' : Nat) (c : BitVec w) :
    commForm (.mem m) (.mem m') (.mem m'' : Bc.Loc w) = true ∧ commForm (.mem m) (.mem m') (.tmp t : Bc.Loc w) = true ∧
    commForm (.mem m) (.mem m') (.imm c) = true ∧ commForm (.mem m) (.tmp t) (.tmp t' : Bc.Loc w) = true ∧
    commForm (.mem m) (.tmp t) (.imm c) = true ∧ commForm (.mem m) (.tmp t) (.mem m' : Bc.Loc w) = false ∧
    commForm (.tmp t) (.mem m) (.mem m' : Bc.Loc w) = true ∧ commForm (.tmp t) (.mem m) (.tmp t' : Bc.Loc w) = true ∧
    commForm (.tmp t) (.mem m) (.imm c) = true ∧ commForm (.tmp t) (.tmp t') (.tmp t'' : Bc.Loc w) = true ∧
    commForm (.tmp t) (.tmp t') (.imm c) = true ∧
    commForm (.tmp t) (.tmp t') (.mem m : Bc.Loc w) = (t == t') ∧
    commForm (.mem m) (.imm c) (.mem m') = false ∧ commForm (.tmp t) (.imm c) (.tmp t') = false :=
  ⟨rfl, rfl, rfl, rfl, rfl, rfl, rfl, rfl, rfl, rfl, rfl, rfl, rfl, rfl⟩
example (c s : Int) : JitForm (.scan c s : Bc.Instr w) = false := rfl
example (c o : Int) : JitForm (.brz c o : Bc.Instr w) = true ∧ JitForm (.brnz c o : Bc.Instr w) = true ∧
    JitForm (.mov c : Bc.Instr w) = true ∧ JitForm (.inp c : Bc.Instr w) = true ∧
    JitForm (.out c : Bc.Instr w) = true ∧ JitForm (.noop : Bc.Instr w) = true := ⟨rfl, rfl, rfl, rfl, rfl, rfl⟩
example (safe : Bool) (m : Int) : needsCall safe (.inp m : Bc.Instr w) = true ∧
    needsCall safe (.out m : Bc.Instr w) = true ∧ needsCall safe (.mov m : Bc.Instr w) = safe ∧
    needsCall safe (.brz m m : Bc.Instr w) = false := ⟨rfl, rfl, rfl, rfl⟩

/-- The four selectors are defined exactly on their tables (every width, every live bitmap). -/
theorem total_emitCopy (sz : Size) (d s : Bc.Loc w) : (emitCopy sz d s).isSome = (isMT d && isMTI s) :=
  emitCopy_isSome sz d s
theorem total_emitAdd (sz : Size) (live : Nat) (d a b : Bc.Loc w) :
    (emitAdd sz live d a b).isSome = commForm d a b := (arith_isSome sz live d a b).1
theorem total_emitSub (sz : Size) (live : Nat) (d a b : Bc.Loc w) :
    (emitSub sz live d a b).isSome = subForm d a b := (arith_isSome sz live d a b).2.1
theorem total_emitMul (sz : Size) (live : Nat) (d a b : Bc.Loc w) :
    (emitMul sz live d a b).isSome = commForm d a b := (arith_isSome sz live d a b).2.2

/-- **`JitForm` is exact.** The loop body of `emit_program` (before the operand-range test) succeeds iff the
instruction is a `JitForm` and, if it saves registers, `emit_pre_call` finds a register for every live bit
4..15 (`savedRegs`). -/
theorem total_selector_iff (sz : Size) (limited safe : Bool) (mn mx : Int) (aE aI aO i live : Nat)
    (ins : Bc.Instr w) :
    (emitInstrRaw sz limited safe mn mx aE aI aO i live ins).isSome =
      (JitForm ins && (!needsCall safe ins || (savedRegs live).isSome)) := by
  cases ins with
  | noop | scan | brz | brnz => rfl
  | mov sh =>
    cases safe with
    | false => rfl
    | true => exact prePost_isSome live _
  | inp d => exact prePost_isSome live _
  | out d => exact prePost_isSome live _
  | copy d s => simp [emitInstrRaw, JitForm, needsCall, emitCopy_isSome]
  | add d a b => simp [emitInstrRaw, JitForm, needsCall, (arith_isSome sz live d a b).1]
  | sub d a b => simp [emitInstrRaw, JitForm, needsCall, (arith_isSome sz live d a b).2.1]
  | mul d a b => simp [emitInstrRaw, JitForm, needsCall, (arith_isSome sz live d a b).2.2]

/-- A live bitmap below `2^11` (the JIT has eleven register temporaries) never makes `emit_pre_call` panic. -/
theorem total_savedRegs {live : Nat} (h : live < 2 ^ 11) : (savedRegs live).isSome = true := by
  unfold savedRegs
  apply mapM_opt_some
  intro l hl
  simp only [List.mem_filter, List.mem_range, Bool.and_eq_true, decide_eq_true_eq] at hl
  have : l < 11 := by
    rcases Nat.lt_or_ge l 11 with h' | h'
    · exact h'
    · have : live.testBit l = false := Nat.testBit_lt_two_pow (Nat.lt_of_lt_of_le h (Nat.pow_le_pow_right (by decide) h'))
      rw [this] at hl; exact absurd hl.2.2 (by decide)
  rw [tmpReg_lt this]; rfl

/-- Every `JitForm` has an arm, for every width, mode, window, runtime addresses, position
and every live bitmap below `2^11`. -/
theorem selector_total {ins : Bc.Instr w} (hf : JitForm ins = true) {live : Nat} (hl : live < 2 ^ 11)
    (sz : Size) (limited safe : Bool) (mn mx : Int) (aE aI aO i : Nat) :
    emitInstrRaw sz limited safe mn mx aE aI aO i live ins ≠ none := by
  intro h
  have := total_selector_iff sz limited safe mn mx aE aI aO i live ins
  rw [h, hf, total_savedRegs hl] at this
  simp at this

/-- … and conversely: the loop body fails only on a non-`JitForm`, or in `emit_pre_call`. -/
theorem selector_total_converse (sz : Size) (limited safe : Bool) (mn mx : Int) (aE aI aO i live : Nat)
    (ins : Bc.Instr w) :
    emitInstrRaw sz limited safe mn mx aE aI aO i live ins = none ↔
      (JitForm ins = false ∨ (needsCall safe ins = true ∧ savedRegs live = none)) := by
  rw [← Option.not_isSome_iff_eq_none, total_selector_iff]
  cases JitForm ins <;> cases needsCall safe ins <;> cases savedRegs live <;> simp

/-- A live bit 11..15 does make `emit_pre_call` panic (`Reg::tmp(11).unwrap()`). -/
example : savedRegs (2 ^ 11) = none := by decide

example (x : Bc.Instr w) : shape x =
    (match x with
     | .scan _ _ => false
     | .copy d s => isMT d && isMTI s
     | .add d a b => isMT d && isMTI a && isMTI b
     | .sub d a b => isMT d && isMTI a && isMTI b
     | .mul d a b => isMT d && isMTI a && isMTI b
     | _ => true) := by cases x <;> rfl

/-- The emission phase without fusion produces shapes only (in particular no `scan`: `emit_block` emits it only
when `fuse`) … -/
theorem total_emit_shape {prog : Ir.Block w} {s : BcGen.St w} (h : BcGen.emitState prog false = Except.ok s) :
    ∀ (i : Nat) (x : Bc.Instr w), s.insts[i]? = some x → shape x = true := C02.AEmit.emit_allQ emitClosed_shape h trivial

/-- … `allocate_temps` keeps them (operands are replaced by cells, temporaries and immediates only), and
records live bitmaps below `liveBound numRegs` (`2^numRegs` up to 16 registers); … -/
theorem total_alloc_shape {numRegs : Nat} {s s' : BcGen.St w} (h : BcGen.allocateTemps numRegs s = .ok s')
    (hs : ∀ (i : Nat) (x : Bc.Instr w), s.insts[i]? = some x → shape x = true) (hl : s.live.size = 0) :
    (∀ (i : Nat) (x : Bc.Instr w), s'.insts[i]? = some x → shape x = true) ∧
    ∀ (j l : Nat), s'.live[j]? = some l → l < (if numRegs < 16 then 2 ^ numRegs else 65536) :=
  allocateTemps_shape h hs hl

/-- … and `parameter_reordering` (constants folded into `copy`, `sub x imm ↦ add x (-imm)`, immediates second,
a temporary before a cell only with an equal destination) maps every shape to a `JitForm`. -/
theorem total_reorder_jitForm {x : Bc.Instr w} (h : shape x = true) : JitForm (BcGen.reorderInst x) = true :=
  reorderInst_jitForm h

/-- Without the reordering pass the selector would NOT be total: shapes the allocation produces that have no arm. -/
example : shape (.add (.mem 0) (.imm 1#8) (.mem 1) : Bc.Instr 8) = true ∧
    JitForm (.add (.mem 0) (.imm 1#8) (.mem 1) : Bc.Instr 8) = false ∧
    shape (.sub (.mem 0) (.mem 1) (.imm 1#8) : Bc.Instr 8) = true ∧
    JitForm (.sub (.mem 0) (.mem 1) (.imm 1#8) : Bc.Instr 8) = false ∧
    shape (.add (.mem 0) (.tmp 0) (.mem 1) : Bc.Instr 8) = true ∧
    JitForm (.add (.mem 0) (.tmp 0) (.mem 1) : Bc.Instr 8) = false := ⟨rfl, rfl, rfl, rfl, rfl, rfl⟩

/-- For every IR block, in the JIT's setting. Also: every live bitmap is below `2^11` and
every branch target lies in `[0, n]` (`TargetsOk` of the FINAL program, from `emit_targetsOk` and the
preservation lemmas of the later passes). -/
theorem translate_jitForm {blk : Ir.Block w} {p : Bc.Program w} (h : BcGen.translateE blk 11 false = .ok p) :
    (∀ (i : Nat) (ins : Bc.Instr w), p.insts[i]? = some ins → JitForm ins = true) ∧
    (∀ (j l : Nat), p.live[j]? = some l → l < 2 ^ 11) ∧
    (∀ (i : Nat) (ins : Bc.Instr w) (off : Int), p.insts[i]? = some ins → BcGen.branchOff? ins = some off →
      0 ≤ (i : Int) + off ∧ (i : Int) + off ≤ p.insts.size) := by
  obtain ⟨h1, h2, h3⟩ := translate_jitForm' h
  exact ⟨h1, fun j l hj => by have := h2 j l hj; simpa [liveBound] using this, h3⟩

/-- The general form (every `numRegs`; the fusing setting `fuse = true` of the threaded interpreter does produce
`scan` and `memZero`, which the JIT has no arm for – it never asks for it). -/
theorem translate_jitForm_numRegs {blk : Ir.Block w} {numRegs : Nat} {p : Bc.Program w}
    (h : BcGen.translateE blk numRegs false = .ok p) :
    (∀ (i : Nat) (ins : Bc.Instr w), p.insts[i]? = some ins → JitForm ins = true) ∧
    (∀ (j l : Nat), p.live[j]? = some l → l < (if numRegs < 16 then 2 ^ numRegs else 65536)) ∧
    C02.TargetsOk p.insts := translate_jitForm' h

example (sz : Size) (idx : Int) : DispOk sz idx ↔
    (-2147483648 ≤ (sz.bytes : Int) * idx ∧ (sz.bytes : Int) * idx < 2147483648) := Iff.rfl
example (sz : Size) (m : Int) (t : Nat) (c : BitVec w) :
    (LocFits sz (.mem m : Bc.Loc w) ↔ DispOk sz m) ∧ (LocFits sz (.tmp t : Bc.Loc w) ↔ 8 * t < 2147483648) ∧
    (LocFits sz (.imm c) ↔ True) := ⟨Iff.rfl, Iff.rfl, Iff.rfl⟩
example (sz : Size) (safe : Bool) (mn mx : Int) (d a b : Bc.Loc w) (m o sh : Int) :
    (InstrFits sz safe mn mx (.add d a b) ↔ (LocFits sz d ∧ LocFits sz a ∧ LocFits sz b)) ∧
    (InstrFits sz safe mn mx (.copy d a) ↔ (LocFits sz d ∧ LocFits sz a)) ∧
    (InstrFits sz safe mn mx (.brz m o : Bc.Instr w) ↔ DispOk sz m) ∧
    (InstrFits sz safe mn mx (.inp m : Bc.Instr w) ↔ DispOk sz m) ∧
    (InstrFits sz safe mn mx (.mov sh : Bc.Instr w) ↔ (DispOk sz sh ∧
      (safe = true → DispOk sz (if sh < 0 then mn else mx) ∧ DispOk sz (-(if sh < 0 then mn else mx))))) :=
  ⟨Iff.rfl, Iff.rfl, Iff.rfl, Iff.rfl, Iff.rfl⟩

/-- The four arithmetic / copy selectors emit only encodable operands when the bytecode operands are. -/
theorem total_arith_fits (sz : Size) (live : Nat) {d a b : Bc.Loc w} {xs : List X86} (hd : LocFits sz d)
    (ha : LocFits sz a) (hb : LocFits sz b) :
    (emitCopy sz d a = some xs → xs.all X86.fits = true) ∧ (emitAdd sz live d a b = some xs → xs.all X86.fits = true) ∧
    (emitSub sz live d a b = some xs → xs.all X86.fits = true) ∧
    (emitMul sz live d a b = some xs → xs.all X86.fits = true) :=
  ⟨fun h => emitCopy_fits sz h hd ha, fun h => emitAdd_fits sz live h hd ha hb,
   fun h => emitSub_fits sz live h hd ha hb, fun h => emitMul_fits sz live h hd ha hb⟩

/-- One instruction: form, live bitmap and operand ranges give a successful `emitInstr`. -/
theorem total_emitInstr {sz : Size} {limited safe : Bool} {mn mx : Int} {aE aI aO i live : Nat}
    {ins : Bc.Instr w} (hform : JitForm ins = true) (hlive : live < 2 ^ 11)
    (hfit : InstrFits sz safe mn mx ins) :
    (emitInstr sz limited safe mn mx aE aI aO i live ins).isSome = true := by
  cases hraw : emitInstrRaw sz limited safe mn mx aE aI aO i live ins with
  | none => exact absurd hraw (selector_total hform hlive sz limited safe mn mx aE aI aO i)
  | some its => simp [emitInstr, hraw, emitInstrRaw_fits hraw hfit]

/-- `TargetsOk` makes relocation succeed: `jccInstr` items come only from
`brz`/`brnz`, with target `i + off`. -/
theorem compile_total_modulo_fits (p : Bc.Program w) (limited safe : Bool) (aE aI aO : Nat) {sz : Size}
    (hsz : Size.ofBits? w = some sz) (hsize : p.live.size = p.insts.size)
    (hform : ∀ (i : Nat) (ins : Bc.Instr w), p.insts[i]? = some ins → JitForm ins = true)
    (hlive : ∀ (j l : Nat), p.live[j]? = some l → l < 2 ^ 11)
    (hT : C02.TargetsOk p.insts)
    (hfit : ∀ (i : Nat) (ins : Bc.Instr w), p.insts[i]? = some ins → InstrFits sz safe p.minAcc p.maxAcc ins) :
    ∃ code, compileX86 w p limited safe aE aI aO = some code :=
  compile_total_of p limited safe aE aI aO hsz hsize
    (fun i ins lv hi hl => total_emitInstr (hform i ins hi) (hlive i lv hl) (hfit i ins hi)) hT

example (w : Nat) : (∃ sz, Size.ofBits? w = some sz) ↔ (w = 8 ∨ w = 16 ∨ w = 32 ∨ w = 64) := by
  unfold Size.ofBits?
  constructor
  · rintro ⟨sz, h⟩; split at h <;> first | omega | cases h
  · rintro (rfl | rfl | rfl | rfl) <;> exact ⟨_, rfl⟩

/-- The arithmetic condition on the program that gives `InstrFits` for its instructions. -/
theorem total_fits_of_bounds {sz : Size} {safe : Bool} (p : Bc.Program w) {ins : Bc.Instr w}
    (hlo : DispOk sz p.minAcc) (hhi : DispOk sz p.maxAcc)
    (hwin : ∀ o ∈ BcWf.memOps ins, p.minAcc ≤ o ∧ o ≤ p.maxAcc)
    (htmp : ∀ t ∈ BcWf.uses ins ++ BcWf.defs ins, t < p.temps) (htemps : 8 * p.temps < 2147483648)
    (hmov : ∀ sh, ins = .mov sh → DispOk sz sh)
    (hneg : safe = true → DispOk sz (-p.minAcc) ∧ DispOk sz (-p.maxAcc)) :
    InstrFits sz safe p.minAcc p.maxAcc ins := instrFits_of_bounds p hlo hhi hwin htmp htemps hmov hneg

/-- For `translate` output nothing but the operand-range condition remains. -/
theorem translate_compile {blk : Ir.Block w} {p : Bc.Program w}
    (h : BcGen.translateE blk 11 false = .ok p) (limited safe : Bool) (aE aI aO : Nat) {sz : Size}
    (hsz : Size.ofBits? w = some sz)
    (hfit : ∀ (i : Nat) (ins : Bc.Instr w), p.insts[i]? = some ins → InstrFits sz safe p.minAcc p.maxAcc ins) :
    ∃ code, compileX86 w p limited safe aE aI aO = some code := by
  obtain ⟨hform, hlive, hT⟩ := translate_jitForm h
  exact compile_total_modulo_fits p limited safe aE aI aO hsz (Chain.translate_shape h).1 hform hlive hT hfit

/-- With the window clause of the bytecode contract (`BcWf.localOk`, part of `BcWf.check`): the condition is on
`minAcc`, `maxAcc`, `temps` and the `mov` shifts only. -/
theorem translate_compile_of_localOk {blk : Ir.Block w} {p : Bc.Program w}
    (h : BcGen.translateE blk 11 false = .ok p) (hloc : BcWf.localOk p = true) (limited safe : Bool)
    (aE aI aO : Nat) {sz : Size} (hsz : Size.ofBits? w = some sz)
    (hlo : DispOk sz p.minAcc) (hhi : DispOk sz p.maxAcc) (htemps : 8 * p.temps < 2147483648)
    (hmov : ∀ (i : Nat) (sh : Int), p.insts[i]? = some (.mov sh) → DispOk sz sh)
    (hneg : safe = true → DispOk sz (-p.minAcc) ∧ DispOk sz (-p.maxAcc)) :
    ∃ code, compileX86 w p limited safe aE aI aO = some code := by
  have L := C11.localOk_facts hloc
  refine translate_compile h limited safe aE aI aO hsz ?_
  intro i ins hi
  exact instrFits_of_bounds p hlo hhi (fun o ho => L.window hi o ho) (fun t ht => L.temps hi t ht) htemps
    (fun sh e => hmov i sh (e ▸ hi)) hneg

/-- `,[. x -= 1; y += 3x]` as IR: input, output, a loop, sums and a product that need temporaries. -/
def exBlk : Ir.Block 8 :=
  { shift := 0,
    insts := [.input 0,
      .loop 0 0 [.output 0,
        .calc [(0, [{ coef := 1#8, vars := [0] }, { coef := 255#8, vars := [] }]),
               (1, [{ coef := 1#8, vars := [1] }, { coef := 3#8, vars := [0] }])]] false] }

/-- The translation succeeds, every instruction is a `JitForm`, and the JIT compiles it (by evaluation) – as the
theorems say. -/
example : ((BcGen.translateE exBlk 11 false).toOption.map fun p =>
    (p.insts.size, p.insts.toList.all JitForm, p.live.toList.all (· < 2 ^ 11),
     (compileX86 8 p true true 1 2 3).isSome)) = some (8, true, true, true) := by decide +kernel

/-- With fusion (the threaded interpreter's setting) the same source produces a `scan`, for which the JIT has no
arm; the JIT never translates with fusion. -/
example : ((BcGen.translateE ({ shift := 0, insts := [.loop 0 1 [] false] } : Ir.Block 8) 11 true).toOption.map
    fun p => p.insts.toList.all JitForm) = some false := by decide +kernel
example : ((BcGen.translateE ({ shift := 0, insts := [.loop 0 1 [] false] } : Ir.Block 8) 11 false).toOption.map
    fun p => p.insts.toList.all JitForm) = some true := by decide +kernel

end C03
end Hpbf

#print axioms Hpbf.C03.total_emitCopy
#print axioms Hpbf.C03.total_emitAdd
#print axioms Hpbf.C03.total_emitSub
#print axioms Hpbf.C03.total_emitMul
#print axioms Hpbf.C03.total_selector_iff
#print axioms Hpbf.C03.selector_total
#print axioms Hpbf.C03.selector_total_converse
#print axioms Hpbf.C03.total_savedRegs
#print axioms Hpbf.C03.total_emit_shape
#print axioms Hpbf.C03.total_alloc_shape
#print axioms Hpbf.C03.total_reorder_jitForm
#print axioms Hpbf.C03.translate_jitForm
#print axioms Hpbf.C03.translate_jitForm_numRegs
#print axioms Hpbf.C03.total_arith_fits
#print axioms Hpbf.C03.total_emitInstr
#print axioms Hpbf.C03.compile_total_modulo_fits
#print axioms Hpbf.C03.total_fits_of_bounds
#print axioms Hpbf.C03.translate_compile
#print axioms Hpbf.C03.translate_compile_of_localOk
