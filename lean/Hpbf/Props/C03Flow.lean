/-
Property C03, control flow.  "… the x86-64 baseline JIT produces exactly the input/output event sequence of
canonical Brainfuck semantics whenever the canonical run terminates …" – the part of the argument that is
about CONTROL FLOW and the non-arithmetic instructions of the generated code: layout and relocation of
`JitGen.compileX86`, and a program-level machine `X86Prog` that runs the generated code, with the
simulation of the bytecode semantics `Bc.step` / `Bc.run` by that machine. (`Props/C03.lean` is the
per-instruction simulation of the arithmetic / copy selector arms, which this file lifts to whole programs.)

Models: `Hpbf/JitGen.lean`, `Hpbf/Asm.lean` (byte-for-byte equal to `codegen.rs` / `asm.rs` on the
`jitgen` suite), `Hpbf/Bc.lean` (`bcrun` suite), `Hpbf/X86Sem.lean` (`jitsem` suite, against the processor),
`Hpbf/BcWf.lean` (the contract of C11), `Hpbf/X86Prog.lean` – tied to the PROCESSOR by the `x86prog` request of
`Hpbf/Driver7.lean` (same arguments as `jitrun`: the replies of the machine are compared with the replies of the
real JIT, replayed on the CPU with `verif-harness replay jitrun`).

Vocabulary (all transparent, see the `example`s):
* `sizeAll xs` / `itemsSize its`      – byte sizes (JitGen); `offAt start body i`, `locOf p body i`,
  `termOf p body`, `locsOf p body`    – `self.locations[i]`, `self.term`, the array `fix_relocations` indexes.
* `Compiled p lim safe aE aI aO code` – the facts `compileX86 … = some code` consists of.
* `At cfg code pos xs`                – `cfg` decodes `code`, and the instructions `xs` start at byte `pos`.
* `steps cfg n s = some s'`           – `n` machine steps, all `.next`; `run cfg n s` (X86Prog) – up to `ret`.
* `view s`                            – the machine state as `X86Sem` / `Props/C03.lean` see it, so `Rel c (view s)`
  is the relation of `Props/C03.lean`.
* `Ctx w`                             – program + compilation + machine parameters + the side conditions
  "code shorter than 2^31 bytes", "the three runtime addresses are distinct", "live.size = insts.size".
* `Inv K fr c s`                      – at an instruction boundary: `pc = locs[c.pc]`, `rbx` = context, environment
  and trace equal, `[rbx+24]` = budget, `rbp` current, `rsp` = frame pointer `fr.rsp` (16-byte aligned), the
  activation has `alignedTemps + 7` slots and the seven above the temporaries are `fr.saved`, and
  `rbp = buffer + cell size * (lptr - base)` (the register agrees with the machine's bookkeeping).
* `Final fr temps c' s'` / `Result s0 s' c'` – after `ret`: callee-saved registers and `rsp` restored, trace,
  environment and tape (relative to the pointer) those of `c'`.
* `Good K`                            – hypotheses on the program, see there.
* `Bnd s` / `NoOOM K s`               – (bounds-checked code only) the tape allocation stays below 2^40 cells in
  every state the machine reaches, so the 64-bit index arithmetic of the probe does not wrap.

Covered: `brz`/`brnz` (unlimited and limited = `emit_limit_check`), `noop`, `mov` without AND with bounds check,
`copy/add/sub/mul` (lifted from `Props/C03.lean`), `inp`, `out`, prologue, both exits, relocation; `scan` has no
selector arm (`compileX86 = none`). Not covered: nothing of the generated code; the hypotheses are listed at
`prog_run`.

The `flow_*` lemmas of `Proofs` conclude `steps (n + 1)`: at least one machine step, on which `sim_next_pos` and the
converse (`Props/C03Conv.lean`) rest; the statements here keep the form `steps n`.
-/
import Hpbf.Proofs.C03FlowProg

namespace Hpbf
namespace C03

open Asm JitGen X86Sem X86Prog

variable {w : Nat}

example (xs : List X86) : sizeAll xs = xs.foldl (fun n x => n + x.size) 0 := rfl
example (start : Nat) (body : List (List Item)) (i : Nat) :
    offAt start body i = start + itemsSize (body.take i).flatten := rfl
example (p : Bc.Program w) (body : List (List Item)) (i : Nat) :
    locOf p body i = sizeAll (prologue p.temps) + itemsSize (body.take i).flatten := rfl
example (p : Bc.Program w) (body : List (List Item)) :
    termOf p body = locOf p body body.length + sizeAll epilogueHead := rfl
example (p : Bc.Program w) (body : List (List Item)) :
    locsOf p body = (locations (sizeAll (prologue p.temps)) body).toArray := rfl

/-- `compileX86` succeeds exactly when the selector produces items for every instruction and relocation
finds every branch target; the code is prologue ++ resolved items ++ epilogueHead ++ epilogueTail. -/
theorem layout_decompose {p : Bc.Program w} {limited safe : Bool} {aE aI aO : Nat} {code : List X86} :
    compileX86 w p limited safe aE aI aO = some code ↔
      ∃ sz body rcode, Size.ofBits? w = some sz ∧ emitProgram sz p limited safe aE aI aO = some body ∧
        resolveItems (locsOf p body) (termOf p body) (sizeAll (prologue p.temps)) body.flatten = some rcode ∧
        code = prologue p.temps ++ rcode ++ epilogueHead ++ epilogueTail p.temps := by
  constructor
  · intro h
    obtain ⟨C⟩ := compileX86_some h
    exact ⟨C.sz, C.body, C.rcode, C.hsz, C.hbody, C.hres, C.hcode⟩
  · rintro ⟨sz, body, rcode, h1, h2, h3, h4⟩
    exact compileX86_of ⟨sz, h1, body, h2, rcode, h3, h4⟩

/-- `self.locations[i]` is the byte offset of the first resolved instruction of bytecode instruction `i`
(`i = body.length`: of the epilogue). -/
theorem layout_locs (p : Bc.Program w) (body : List (List Item)) (i : Nat) :
    (locsOf p body)[i]? = if i ≤ body.length then some (locOf p body i) else none :=
  locsOf_getElem? p body i

/-- The resolved code of instruction `i` sits at byte offset `locs[i]` of the final code. -/
theorem layout_instr_at {p : Bc.Program w} {limited safe : Bool} {aE aI aO : Nat} {code : List X86}
    (C : Compiled p limited safe aE aI aO code) {i : Nat} {its : List Item} (hi : C.body[i]? = some its) :
    ∃ cpre xs cpost, code = cpre ++ xs ++ cpost ∧ sizeAll cpre = locOf p C.body i ∧
      resolveItems (locsOf p C.body) (termOf p C.body) (locOf p C.body i) its = some xs :=
  layout_at C hi

/-- … and after the last one come the two parts of the epilogue. -/
theorem layout_epilogue_at {p : Bc.Program w} {limited safe : Bool} {aE aI aO : Nat} {code : List X86}
    (C : Compiled p limited safe aE aI aO code) :
    ∃ cpre, code = cpre ++ epilogueHead ++ epilogueTail p.temps ∧
      sizeAll cpre = locOf p C.body C.body.length := layout_end C

/-- A `jccInstr pr target` placed at byte offset `pos = locs[i] + size of the items before it` is
resolved to `jccRel32 pr d` with `pos + 6 + d = locs[target]` AS INTEGERS (no `i32` wrap), provided the code
is shorter than `2^31` bytes; `0 ≤ target ≤ n` is a consequence of successful relocation. -/
theorem layout_jcc_target {p : Bc.Program w} {limited safe : Bool} {aE aI aO : Nat} {code : List X86}
    (C : Compiled p limited safe aE aI aO code) (hsmall : sizeAll code < 2 ^ 31)
    {i : Nat} {pre post : List Item} {pr : JmpPred} {target : Int}
    (hi : C.body[i]? = some (pre ++ .jccInstr pr target :: post)) :
    ∃ cpre cpost d, code = cpre ++ .jccRel32 pr d :: cpost ∧
      sizeAll cpre = locOf p C.body i + itemsSize pre ∧
      0 ≤ target ∧ target ≤ C.body.length ∧
      (sizeAll cpre : Int) + 6 + d = locOf p C.body target.toNat := by
  obtain ⟨cpre, xs, cpost, h1, h2, h3, h4⟩ := layout_item C hi
  simp only [JitGen.resolve] at h3
  split at h3
  · cases h3
  · rename_i hneg
    rw [locsOf_getElem?] at h3
    by_cases hle : target.toNat ≤ C.body.length
    · simp only [hle, if_true, Option.some.injEq] at h3
      subst h3
      have hsz := code_size C
      have hl := locOf_le (p := p) C.body hle
      simp only [Item.size] at h4
      have hT : termOf p C.body = locOf p C.body C.body.length + sizeAll epilogueHead := rfl
      refine ⟨cpre, cpost, _, by rw [h1, List.append_assoc]; rfl, h2, by omega, by omega, ?_⟩
      rw [i32_eq (by push_cast; omega) (by push_cast; omega), h2]
      omega
    · simp [hle] at h3

/-- A `jccTerm pr` is resolved to a jump to the termination label. -/
theorem layout_term_target {p : Bc.Program w} {limited safe : Bool} {aE aI aO : Nat} {code : List X86}
    (C : Compiled p limited safe aE aI aO code) (hsmall : sizeAll code < 2 ^ 31)
    {i : Nat} {pre post : List Item} {pr : JmpPred}
    (hi : C.body[i]? = some (pre ++ .jccTerm pr :: post)) :
    ∃ cpre cpost d, code = cpre ++ .jccRel32 pr d :: cpost ∧
      sizeAll cpre = locOf p C.body i + itemsSize pre ∧
      (sizeAll cpre : Int) + 6 + d = termOf p C.body := by
  obtain ⟨cpre, xs, cpost, h1, h2, h3, h4⟩ := layout_item C hi
  simp only [JitGen.resolve, Option.some.injEq] at h3
  subst h3
  have hsz := code_size C
  simp only [Item.size] at h4
  have hT : termOf p C.body = locOf p C.body C.body.length + sizeAll epilogueHead := rfl
  refine ⟨cpre, cpost, _, by rw [h1, List.append_assoc]; rfl, h2, ?_⟩
  rw [i32_eq (by push_cast; omega) (by push_cast; omega), h2]
  omega

/-- The epilogue: the fall-through exit sets `rax = 1` and its `jmp rel8 6` skips exactly the 6-byte
`mov rax, 0` the termination label starts with – so the function returns 1 when the program ran to its end
and 0 when it left through the termination label. -/
theorem layout_epilogue (temps : Nat) :
    epilogueHead = [.movRImm64 .rax 1, .jmpRel8 6] ∧
    (∃ rest, epilogueTail temps = .movRImm64 .rax 0 :: rest) ∧ (X86.movRImm64 .rax 0).size = 6 ∧
    sizeAll epilogueHead = 8 :=
  ⟨epilogueHead_eq, ⟨_, rfl⟩, by decide, by decide⟩

/-- Every `skip8 pr body` the selector produces (only the bounds-checked `mov`) has a body of at most 76
bytes, for EVERY live bitmap for which the register saving code exists, every width, runtime address, shift
and probe: the `rel8` displacement `(len - jmp_start) as u8` does not wrap. -/
theorem layout_skip8 {sz : Size} {limited safe : Bool} {minAcc maxAcc : Int} {aE aI aO i live : Nat}
    {ins : Bc.Instr w} {its : List Item}
    (h : emitInstr sz limited safe minAcc maxAcc aE aI aO i live ins = some its)
    {pr : JmpPred} {body : List X86} (hm : Item.skip8 pr body ∈ its) :
    sizeAll body ≤ 76 ∧ i8 (sizeAll body) = sizeAll body := skip8_body_le h hm

/-- The bound is attained (all seven caller-saved temporaries live, a 64-bit runtime address, 64-bit cells,
a four-byte probe displacement), so there are 51 bytes of slack. -/
example : sizeAll (movBody .b64 0x7f0000000000 (-100)
    ((preCall 2032).getD []) ((postCall 2032).getD [])) = 76 := by decide

/-- At most the seven caller-saved temporaries are saved, in at most 11 bytes of pushes (pops). -/
theorem layout_saved_regs {live : Nat} {rs : List Reg} (h : savedRegs live = some rs) :
    rs.length ≤ 7 ∧ sizeAll (rs.map .push) ≤ 11 ∧ sizeAll (rs.map .pop) ≤ 11 := savedRegs_bounds h

/-- `Item.size` is the size of the resolved item, so the offsets `locations` computes before relocation
are the offsets of the final code. -/
theorem layout_item_size {locs : Array Nat} {term pos : Nat} {it : Item} {xs : List X86}
    (h : JitGen.resolve locs term pos it = some xs) : sizeAll xs = it.size := resolve_size h

theorem layout_items_size {locs : Array Nat} {term : Nat} {its : List Item} {pos : Nat} {code : List X86}
    (h : resolveItems locs term pos its = some code) : sizeAll code = itemsSize its := resolveItems_size h

/-- The fast decoder `Driver7` uses is the specification decoder. -/
theorem prog_fetch_fast (code : List X86) : fetchFast (fetchTable code) = fetchList code := fetchFast_eq code

/-- Decoding: the instruction after the instructions `A` starts at byte `sizeAll A`. -/
theorem prog_fetch (A : List X86) (x : X86) (B : List X86) : fetchList (A ++ x :: B) (sizeAll A) = some x :=
  fetchList_append A x B

example (s : PState w) : view s =
    { regs := s.regs.get, tape := fun o => s.tape.get (s.lptr + o), stack := fun k => s.stk.getD k 0,
      zf := s.zf, cf := s.cf } := rfl
example (cfg : Cfg) (s : PState w) : steps cfg 0 s = some s := rfl
example (cfg : Cfg) (n : Nat) (s : PState w) : steps cfg (n + 1) s =
    match step cfg s with | .next s' => steps cfg n s' | _ => none := rfl
example (cfg : Cfg) (code : List X86) (pos : Nat) (xs : List X86) : At cfg code pos xs ↔
    (cfg.fetch = fetchList code ∧ ∃ A B, code = A ++ xs ++ B ∧ sizeAll A = pos) :=
  ⟨fun h => ⟨h.fetch, h.split⟩, fun h => ⟨h.1, h.2⟩⟩
example (K : Ctx w) (i : Nat) : K.loc i = locOf K.p K.C.body i := rfl
example (K : Ctx w) : K.term = termOf K.p K.C.body := rfl
example (K : Ctx w) : K.n = K.p.insts.size := rfl
example (K : Ctx w) (fr : Frame) (c : Bc.Cfg w) (s : PState w) : Inv K fr c s ↔
    (s.pc = K.loc c.pc ∧ s.regs.rbx = K.cfg.cxtAddr ∧ s.env = c.st.env ∧ s.trace = c.st.trace ∧
     s.budget.toNat = c.budget ∧ s.tapeOk = true ∧ s.regs.rsp = fr.rsp ∧ fr.rsp.toNat % 16 = 0 ∧
     s.stk.length = alignedTemps K.p.temps + fr.saved.length ∧
     s.stk.drop (alignedTemps K.p.temps) = fr.saved ∧
     s.regs.rbp = s.buf + BitVec.ofInt 64 (cellBytes w * (s.lptr - s.base))) :=
  ⟨fun h => ⟨h.pc, h.rbx, h.env, h.trace, h.budget, h.tapeOk, h.rsp, h.align, h.len, h.saved, h.phys⟩,
   fun ⟨a, b, c, d, e, f, g, h, i, j, k⟩ => ⟨a, b, c, d, e, f, g, h, i, j, k⟩⟩
example (fr : Frame) (temps : Nat) (c' : Bc.Cfg w) (s' : PState w) : Final fr temps c' s' ↔
    ((∃ ra, fr.saved = [s'.regs.r15, s'.regs.r14, s'.regs.r13, s'.regs.r12, s'.regs.rbx, s'.regs.rbp, ra]) ∧
     s'.regs.rsp = fr.rsp + BitVec.ofNat 64 (alignedTemps temps * 8) + 56 ∧ s'.stk = [] ∧
     s'.env = c'.st.env ∧ s'.trace = c'.st.trace ∧ ∀ o, s'.tape.get (s'.lptr + o) = c'.st.rd o) :=
  ⟨fun h => ⟨h.saved, h.rsp, h.stk, h.env, h.trace, h.tape⟩, fun ⟨a, b, c, d, e, f⟩ => ⟨a, b, c, d, e, f⟩⟩
example (K : Ctx w) (fr : Frame) (c : Bc.Cfg w) (s : PState w) : Sh K fr c s ↔
    ∃ c2, C11.Sim (C11.liveSet K.p (BcWf.liveSolve K.p) c.pc) c c2 ∧ Inv K fr c2 s ∧ Rel c2 (view s) := Iff.rfl
example (K : Ctx w) (fr : Frame) (s : PState w) (ret : BitVec 64) (c' : Bc.Cfg w) (P : PState w → Prop) :
    Exits K fr s ret c' P ↔
    ∀ k, ∃ n s', run K.cfg (n + k) s = .ret s' ∧ s'.regs.rax = ret ∧ Final fr K.p.temps c' s' ∧ P s' := Iff.rfl
example (K : Ctx w) (s0 : PState w) (ret : BitVec 64) (c' : Bc.Cfg w) (P : PState w → Prop) :
    Returns K s0 ret c' P ↔
    ∀ k, ∃ n s', run K.cfg (n + k) s0 = .ret s' ∧ s'.regs.rax = ret ∧ Result s0 s' c' ∧ P s' := Iff.rfl
example (ins : Bc.Instr w) (nz : Bool) (cond off : Int) : isBr ins nz cond off ↔
    ((nz = false ∧ ins = .brz cond off) ∨ (nz = true ∧ ins = .brnz cond off)) := Iff.rfl

/-- Straight-line code inside `X86Sem`'s subset runs on the program machine exactly as `execAll` says
(`n` bounds the stack slots touched: they must belong to the activation). This is how the selector theorems (`sel_instr`) are lifted. -/
theorem flow_plain_block {cfg : Cfg} {code : List X86} {xs : List X86} {s : PState w}
    (hat : At cfg code s.pc xs) {m' : MState w} (hx : execAll xs (view s) = some m')
    {n : Nat} (hn : n ≤ s.stk.length) (hslots : ∀ x ∈ xs, SlotOk w n x) :
    ∃ s', steps cfg xs.length s = some s' ∧ view s' = m' ∧ s'.pc = s.pc + sizeAll xs ∧ SameCtl s s' ∧
      s'.stk.drop n = s.stk.drop n := by
  obtain ⟨s', b, h1, h2, h3⟩ := plain_blk (cfg := cfg) hx hn hslots
  exact ⟨s', (b.steps (rest := []) (by simpa using hat)).1, h1, b.pc_eq, h2, h3⟩

/-- The code of the arithmetic / copy selectors touches only stack slots of temporaries of the instruction. -/
theorem flow_arith_slots {sz : Size} {live : Nat} {ins : Bc.Instr w} {xs : List X86}
    (h : emitArith sz live ins = some xs) (hok : ArithOk ins) {n : Nat}
    (htmps : ∀ t ∈ insTmps ins, t < n) : ∀ x ∈ xs, SlotOk w n x := emitArith_slotOk h hok htmps

/-- `brz` / `brnz`, unlimited and limited mode, the bytecode step continues. -/
theorem flow_brz_brnz (K : Ctx w) {fr : Frame} {c : Bc.Cfg w} {s : PState w} {ins : Bc.Instr w}
    {nz : Bool} {cond off : Int} (hi : K.p.insts[c.pc]? = some ins) (hbr : isBr ins nz cond off)
    (hcond : -2147483648 ≤ cond ∧ cond < 2147483648) (hinv : Inv K fr c s) (hrel : Rel c (view s))
    {c' : Bc.Cfg w} (hstep : Bc.step K.p K.limited c = .next c') :
    ∃ n s', steps K.cfg n s = some s' ∧ Inv K fr c' s' ∧ Rel c' (view s') :=
  let ⟨n, r⟩ := flow_branch_next K hi hbr hcond hinv hrel hstep
  ⟨n + 1, r⟩

/-- `brz` / `brnz` in limited mode with an exhausted budget (`emit_limit_check`): exit through the
termination label, `rax = 0`. The budget cell keeps its value (`< 2`); the interpreter stores 0. -/
theorem flow_limit_interrupted (K : Ctx w) (htemps : alignedTemps K.p.temps * 8 < 2147483648)
    {fr : Frame} (h7 : fr.saved.length = 7) {c : Bc.Cfg w} {s : PState w} {ins : Bc.Instr w}
    {nz : Bool} {cond off : Int} (hi : K.p.insts[c.pc]? = some ins) (hbr : isBr ins nz cond off)
    (hinv : Inv K fr c s) {c' : Bc.Cfg w} (hstep : Bc.step K.p K.limited c = .interrupted c') (k : Nat) :
    ∃ s', run K.cfg (12 + k) s = .ret s' ∧ s'.regs.rax = 0 ∧ Returned fr K.p.temps s s' ∧
      c.budget < 2 ∧ c' = { c with budget := 0 } :=
  flow_branch_interrupted K htemps h7 hi hbr hinv hstep k

theorem flow_mov (K : Ctx w) (hsafe : K.safe = false) {fr : Frame} {c : Bc.Cfg w} {s : PState w}
    {shift : Int} (hi : K.p.insts[c.pc]? = some (.mov shift))
    (hsh : -2147483648 ≤ shift ∧ shift < 2147483648) (hinv : Inv K fr c s) (hrel : Rel c (view s))
    {c' : Bc.Cfg w} (hstep : Bc.step K.p K.limited c = .next c') :
    ∃ n s', steps K.cfg n s = some s' ∧ Inv K fr c' s' ∧ Rel c' (view s') :=
  let ⟨n, r⟩ := flow_mov_unchecked K hsafe hi hsh hinv hrel hstep
  ⟨n + 1, r⟩

/-- `mov` WITH bounds check: the probe (`lea; sub; [sar;] cmp; jb rel8`) and, when the probe cell is outside
the allocation, the body (`hpbf_context_extend(cxt, 0, 1)` between register saving and restoring, then the
tape pointer is reloaded from the new buffer). `Bnd s`: the allocation is below `2^40` cells, so the 64-bit
index arithmetic does not wrap. -/
theorem flow_mov_safe (K : Ctx w) (hsafe : K.safe = true) {fr : Frame} {c : Bc.Cfg w} {s : PState w}
    {shift : Int} (hi : K.p.insts[c.pc]? = some (.mov shift))
    (hsh : -2147483648 ≤ shift ∧ shift < 2147483648)
    (hwin : -2147483648 < K.p.minAcc ∧ K.p.minAcc < 2147483648 ∧ -2147483648 < K.p.maxAcc ∧
      K.p.maxAcc < 2147483648)
    (hbnd : Bnd s) (hinv : Inv K fr c s) (hrel : Rel c (view s))
    {c' : Bc.Cfg w} (hstep : Bc.step K.p K.limited c = .next c') :
    ∃ lv n s', K.p.live[c.pc]? = some lv ∧ steps K.cfg n s = some s' ∧ Inv K fr c' s' ∧
      RelOn (fun t => lv.testBit t = true) c' (view s') :=
  let ⟨lv, n, r⟩ := flow_mov_checked K hsafe hi hsh hwin hbnd hinv hrel hstep
  ⟨lv, n + 1, r⟩

theorem flow_arith_instr (K : Ctx w) {fr : Frame} {c : Bc.Cfg w} {s : PState w} {ins : Bc.Instr w}
    (hi : K.p.insts[c.pc]? = some ins) (hok : ArithOk ins)
    (htmps : ∀ t ∈ insTmps ins, t < alignedTemps K.p.temps)
    (hinv : Inv K fr c s) (hrel : Rel c (view s))
    {c' : Bc.Cfg w} (hstep : Bc.step K.p K.limited c = .next c') :
    ∃ lv n s', K.p.live[c.pc]? = some lv ∧ steps K.cfg n s = some s' ∧ Inv K fr c' s' ∧
      Rel' lv (dstOf ins) c' (view s') :=
  let ⟨lv, n, r⟩ := flow_arith K hi hok htmps hinv hrel hstep
  ⟨lv, n + 1, r⟩

/-- `inp`: register saving, `hpbf_context_input`, restoring, `cmp rax, -1; je term`, store. A failed
request leaves through the termination label (`rax = 0`) with the failed request in the trace. -/
theorem flow_input (K : Ctx w) (htemps : alignedTemps K.p.temps * 8 < 2147483648)
    {fr : Frame} (h7 : fr.saved.length = 7) {c : Bc.Cfg w} {s : PState w} {dst : Int}
    (hi : K.p.insts[c.pc]? = some (.inp dst)) (hdst : -2147483648 ≤ dst ∧ dst < 2147483648) (hw8 : 8 ≤ w)
    (hinv : Inv K fr c s) (hrel : Rel c (view s)) :
    (∀ c', Bc.step K.p K.limited c = .next c' → ∃ lv n s', K.p.live[c.pc]? = some lv ∧
      steps K.cfg n s = some s' ∧ Inv K fr c' s' ∧ RelOn (fun t => lv.testBit t = true) c' (view s')) ∧
    (∀ c', Bc.step K.p K.limited c = .stop c' → ∀ k, ∃ n s', run K.cfg (n + k) s = .ret s' ∧
      s'.regs.rax = 0 ∧ Final fr K.p.temps c' s' ∧ s'.budget = s.budget) :=
  have h := flow_inp K htemps h7 hi hdst hw8 hinv hrel
  ⟨fun c' hc' => let ⟨lv, n, r⟩ := h.1 c' hc'; ⟨lv, n + 1, r⟩, h.2⟩

/-- `out`: likewise with `hpbf_context_output`, `test al, al; jne term`. -/
theorem flow_output (K : Ctx w) (htemps : alignedTemps K.p.temps * 8 < 2147483648)
    {fr : Frame} (h7 : fr.saved.length = 7) {c : Bc.Cfg w} {s : PState w} {src : Int}
    (hi : K.p.insts[c.pc]? = some (.out src)) (hsrc : -2147483648 ≤ src ∧ src < 2147483648)
    (hinv : Inv K fr c s) (hrel : Rel c (view s)) :
    (∀ c', Bc.step K.p K.limited c = .next c' → ∃ lv n s', K.p.live[c.pc]? = some lv ∧
      steps K.cfg n s = some s' ∧ Inv K fr c' s' ∧ RelOn (fun t => lv.testBit t = true) c' (view s')) ∧
    (∀ c', Bc.step K.p K.limited c = .stop c' → ∀ k, ∃ n s', run K.cfg (n + k) s = .ret s' ∧
      s'.regs.rax = 0 ∧ Final fr K.p.temps c' s' ∧ s'.budget = s.budget) :=
  have h := flow_out K htemps h7 hi hsrc hinv hrel
  ⟨fun c' hc' => let ⟨lv, n, r⟩ := h.1 c' hc'; ⟨lv, n + 1, r⟩, h.2⟩

/-- Which registers the call sequences save: those of the live temporaries 4..10 (`rsi rdi rdx r8–r11`). -/
theorem flow_saved_regs {live : Nat} {rs : List Reg} (h : savedRegs live = some rs) (r : Reg) :
    r ∈ rs ↔ ∃ t, 4 ≤ t ∧ t < 11 ∧ live.testBit t = true ∧ tmpReg t = some r := savedRegs_mem h r

/-- The prologue, from the state `enter_jit_code` calls the function in. -/
theorem flow_prologue (K : Ctx w) (htemps : alignedTemps K.p.temps * 8 < 2147483648) (hw : 8 ≤ w ∧ w ≤ 64)
    {s0 : PState w} {ra : BitVec 64} (hE : Entry K s0 ra) (env : Env) (henv : s0.env = env)
    (htr : s0.trace = []) :
    ∃ s T, steps K.cfg 9 s0 = some s ∧
      Inv K (frameOf K s0 ra) { pc := 0, temps := T, budget := s0.budget.toNat, st := State.init env } s ∧
      Rel { pc := 0, temps := T, budget := s0.budget.toNat, st := State.init env } (view s) ∧
      s.buf = s0.buf ∧ s.size = s0.size ∧ s.base = s0.base := prologue_run K htemps hw hE env henv htr

/-- The fall-through exit: `rax = 1`, callee-saved registers restored. -/
theorem flow_epilogue (K : Ctx w) (htemps : alignedTemps K.p.temps * 8 < 2147483648)
    {fr : Frame} (h7 : fr.saved.length = 7) {c : Bc.Cfg w} {s : PState w}
    (hpc : c.pc = K.n) (hinv : Inv K fr c s) (hrel : Rel c (view s)) (k : Nat) :
    ∃ s', run K.cfg (10 + k) s = .ret s' ∧ s'.regs.rax = 1 ∧ Final fr K.p.temps c s' ∧
      s'.budget = s.budget := flow_halt K htemps h7 hpc hinv hrel k

/-- The state `Driver7` starts the machine in is an entry state. -/
theorem flow_init_state (K : Ctx w) (h0 : K.p.minAcc ≤ 0 ∧ 0 ≤ K.p.maxAcc)
    (hr : -2147483648 ≤ K.p.minAcc ∧ K.p.maxAcc < 2147483648) (buf0 rsp0 ra : BitVec 64)
    (hrsp : rsp0.toNat % 16 = 8) (budget : Nat) (hb : budget < 2 ^ 64) (env : Env) :
    let s0 : PState w := initState K.cfg buf0 rsp0 ra K.p.minAcc K.p.maxAcc budget env
    Entry K s0 ra ∧ s0.env = env ∧ s0.trace = [] ∧ s0.budget.toNat = budget :=
  initState_entry K h0 hr buf0 rsp0 ra hrsp budget hb env

example (K : Ctx w) : Good K ↔
    (BcWf.check K.p 11 = true ∧ (-2147483648 < K.p.minAcc ∧ K.p.maxAcc < 2147483648) ∧
     alignedTemps K.p.temps * 8 < 2147483648 ∧
     (∀ (i : Nat) (sh : Int), K.p.insts[i]? = some (Bc.Instr.mov sh) → -2147483648 ≤ sh ∧ sh < 2147483648)) :=
  ⟨fun h => ⟨h.check, h.win, h.temps, h.shift⟩, fun ⟨a, b, c, d⟩ => ⟨a, b, c, d⟩⟩
example (s : PState w) : Bnd s ↔
    (s.size.toNat < 2 ^ 40 ∧ -(2 ^ 40) < s.lptr - s.base ∧ s.lptr - s.base < 2 ^ 40) := Iff.rfl
example (K : Ctx w) (s : PState w) : NoOOM K s ↔
    (K.safe = true → ∀ n s', steps K.cfg n s = some s' → Bnd s') := Iff.rfl

/-- Every bytecode step from a related state is matched by finitely many machine steps
to a related state (`.next`), or by a return of the function with the result the Rust expects (`.halt`: 1,
`.stop` / `.interrupted`: 0). `.bad` does not occur for checked programs (C11). -/
theorem prog_simulation (K : Ctx w) (G : Good K) {fr : Frame} (h7 : fr.saved.length = 7) {c : Bc.Cfg w}
    {s : PState w} (hbnd : K.safe = true → Bnd s) (hsh : Sh K fr c s) :
    match Bc.step K.p K.limited c with
    | .next c' => ∃ n s', steps K.cfg n s = some s' ∧ Sh K fr c' s'
    | .halt c' => Exits K fr s 1 c' (fun s' => s'.budget.toNat = c'.budget)
    | .stop c' => Exits K fr s 0 c' (fun s' => s'.budget.toNat = c'.budget)
    | .interrupted c' => Exits K fr s 0 c' (fun s' => s'.budget.toNat < 2 ∧ c'.budget = 0)
    | .bad _ => True := prog_step K G h7 hbnd hsh

theorem prog_run_from (K : Ctx w) (G : Good K) {fr : Frame} (h7 : fr.saved.length = 7) (fuel : Nat)
    {c : Bc.Cfg w} {s : PState w} (hoom : NoOOM K s) (hsh : Sh K fr c s) :
    match Bc.runCfg K.p K.limited fuel c with
    | .done c' => Exits K fr s 1 c' (fun s' => s'.budget.toNat = c'.budget)
    | .stopped c' => Exits K fr s 0 c' (fun s' => s'.budget.toNat = c'.budget)
    | .interrupted c' => Exits K fr s 0 c' (fun s' => s'.budget.toNat < 2 ∧ c'.budget = 0)
    | .bad _ => True
    | .outOfFuel c' => ∃ n s', steps K.cfg n s = some s' ∧ Sh K fr c' s' := prog_runCfg K G h7 fuel hoom hsh

/-- The compiled function, called as `enter_jit_code` calls it, against `Bc.run` (the threaded
interpreter from zeroed temporaries): finished runs return with the same event trace (and environment,
tape, budget) and the result the Rust expects; unfinished ones have reached a state with the same trace. -/
theorem prog_run (p : Bc.Program w) (limited safe : Bool) (cfg : Cfg) {code : List X86}
    (hcomp : compileX86 w p limited safe cfg.aE.toNat cfg.aI.toNat cfg.aO.toNat = some code)
    (hfetch : cfg.fetch = fetchFast (fetchTable code))
    (hsmall : sizeAll code < 2 ^ 31)
    (hIO : cfg.aI ≠ cfg.aO) (hEI : cfg.aE ≠ cfg.aI) (hEO : cfg.aE ≠ cfg.aO)
    (hchk : BcWf.check p 11 = true)
    (hwin : -2147483648 < p.minAcc ∧ p.maxAcc < 2147483648)
    (htemps : alignedTemps p.temps * 8 < 2147483648)
    (hshift : ∀ (i : Nat) (sh : Int), p.insts[i]? = some (Bc.Instr.mov sh) → -2147483648 ≤ sh ∧ sh < 2147483648)
    (buf0 rsp0 ra : BitVec 64) (hrsp : rsp0.toNat % 16 = 8)
    (budget : Nat) (hb : budget < 2 ^ 64) (hlim : (limited && budget == 0) = false) (env : Env)
    (hoom : safe = true → ∀ n s', steps cfg n (initState (w := w) cfg buf0 rsp0 ra p.minAcc p.maxAcc budget env)
      = some s' → Bnd s') (fuel : Nat) :
    ∃ K : Ctx w, K.p = p ∧ K.cfg = cfg ∧ K.limited = limited ∧
      let s0 : PState w := initState cfg buf0 rsp0 ra p.minAcc p.maxAcc budget env
      match Bc.run p limited budget fuel env with
      | .done c' => Returns K s0 1 c' (fun s' => s'.budget.toNat = c'.budget)
      | .stopped c' => Returns K s0 0 c' (fun s' => s'.budget.toNat = c'.budget)
      | .interrupted c' => Returns K s0 0 c' (fun s' => s'.budget.toNat < 2 ∧ c'.budget = 0)
      | .bad _ => False
      | .outOfFuel c' => ∃ n s', steps cfg n s0 = some s' ∧ s'.trace = c'.st.trace ∧ s'.env = c'.st.env := by
  obtain ⟨K, rfl, rfl, rfl, rfl, G⟩ := ctx_of_compiled p limited safe cfg hcomp hfetch hsmall hIO hEI hEO hchk hwin
    htemps hshift
  refine ⟨K, rfl, rfl, rfl, ?_⟩
  intro s0
  obtain ⟨hE, henv, htr, hbud⟩ := initState_entry K ⟨G.L.min0, G.L.max0⟩ ⟨Int.le_of_lt hwin.1, hwin.2⟩ buf0 rsp0 ra
    hrsp budget hb env
  exact prog_run' K G hE henv htr hbud hlim hoom fuel

/-- `inp m0; t0 := m0; while m0 { out m0; m0 -= 1; m1 += t0 }; m2 := t0` – input, output, a loop with both
branch forms, a temporary that is live across the `out` call (bit 0 of the live bitmaps). -/
def exFlow : Bc.Program 8 :=
  { temps := 1, minAcc := 0, maxAcc := 2,
    live := #[0, 0, 0, 1, 1, 1, 0, 0],
    insts := #[.inp 0, .copy (.tmp 0) (.mem 0), .brz 0 5, .out 0, .add (.mem 0) (.mem 0) (.imm 255#8),
               .add (.mem 1) (.mem 1) (.tmp 0), .brnz 0 (-3), .copy (.mem 2) (.tmp 0)] }

def exCfg (code : List X86) : Cfg :=
  { fetch := fetchFast (fetchTable code), aE := 0x7f0000001000, aI := 0x7f0000002000, aO := 0x7f0000003000,
    cxtAddr := 0x7ffd00001000, junk := fun _ => 0xBAD0BAD0BAD00000, newBuf := fun b => b + 0x10000000 }

/-- The three runtime addresses of `exCfg` are distinct. -/
theorem exCfg_addrs (code : List X86) :
    (exCfg code).aI ≠ (exCfg code).aO ∧ (exCfg code).aE ≠ (exCfg code).aI ∧ (exCfg code).aE ≠ (exCfg code).aO := by
  refine ⟨?_, ?_, ?_⟩ <;> simp only [exCfg] <;> decide

theorem exFlow_no_mov (i : Nat) (sh : Int) : exFlow.insts[i]? ≠ some (Bc.Instr.mov sh) := by
  intro h
  rcases i with _|_|_|_|_|_|_|_|i <;> simp [exFlow] at h

def exEnv : Env := { input := some [.byte 3], sink := true, outOk := none }

theorem exFlow_check : BcWf.check exFlow 11 = true := by decide +kernel

example : BcWf.check exFlow 11 = true := exFlow_check
example : ((compileX86 8 exFlow true false 0x7f0000001000 0x7f0000002000 0x7f0000003000).map
    (fun code => (code.length, sizeAll code))) = some (50, 182) := by decide +kernel
/-- "The run finished normally with this trace and budget." -/
def doneWith (o : Bc.Outcome 8) (tr : List Ev) (b : Nat) : Bool :=
  match o with
  | .done c' => c'.st.trace == tr && c'.budget == b
  | _ => false

theorem exFlow_run : doneWith (Bc.run exFlow true 10 100 exEnv) [.out 1, .out 2, .out 3, .inp 3] 6 = true := by
  decide +kernel

/-- The bytecode run in limited mode with budget 10: finished, three output events after the input. -/
example : doneWith (Bc.run exFlow true 10 100 exEnv) [.out 1, .out 2, .out 3, .inp 3] 6 = true := exFlow_run

/-- Every hypothesis of `prog_run` holds for this program (limited mode, code generation without bounds
checks so that the `NoOOM` hypothesis is void, budget 10), hence the compiled function returns 1 after finitely many machine steps with exactly the event
trace of the bytecode run and 6 in the budget cell, all callee-saved registers restored. -/
example : ∃ code, compileX86 8 exFlow true false 0x7f0000001000 0x7f0000002000 0x7f0000003000 = some code ∧
    ∃ n, ∃ s' : PState 8, run (exCfg code) n
        (initState (exCfg code) 0x560000000000 0x7ffd00000ff8 0x555500001234 0 2 10 exEnv) = .ret s' ∧
      s'.regs.rax = 1 ∧ s'.trace = [.out 1, .out 2, .out 3, .inp 3] ∧ s'.budget.toNat = 6 ∧
      s'.regs.rsp = 0x7ffd00000ff8 + 8 ∧ s'.regs.rbx = 0xBAD0BAD0BAD00000 := by
  -- one evaluation: the compilation succeeds and the code is short
  have hev : ((compileX86 8 exFlow true false 0x7f0000001000 0x7f0000002000 0x7f0000003000).map
      (fun c => decide (sizeAll c < 2 ^ 31))) = some true := by decide +kernel
  cases hc : compileX86 8 exFlow true false 0x7f0000001000 0x7f0000002000 0x7f0000003000 with
  | none => rw [hc] at hev; cases hev
  | some code =>
    refine ⟨code, rfl, ?_⟩
    have hsmall : sizeAll code < 2 ^ 31 := by rw [hc] at hev; simpa using hev
    obtain ⟨K, hp, hcfg, hlim, hrun⟩ := prog_run exFlow true false (exCfg code) hc rfl hsmall
      (exCfg_addrs code).1 (exCfg_addrs code).2.1 (exCfg_addrs code).2.2
      exFlow_check (by decide) (by decide)
      (fun i sh h => absurd h (exFlow_no_mov i sh))
      0x560000000000 0x7ffd00000ff8 0x555500001234 (by decide) 10 (by decide) (by decide) exEnv (fun h => by cases h) 100
    have hb := exFlow_run
    simp only at hrun
    cases hr : Bc.run exFlow true 10 100 exEnv with
    | done c' =>
      rw [hr] at hrun hb
      obtain ⟨n, s', h1, h2, h3, h4⟩ := hrun 0
      simp only [doneWith, Bool.and_eq_true, beq_iff_eq] at hb
      have h4 : s'.budget.toNat = c'.budget := h4
      refine ⟨n + 0, s', ?_, h2, by rw [h3.trace, hb.1], by rw [h4, hb.2], h3.rsp, h3.rbx⟩
      rw [hcfg] at h1; exact h1
    | _ => rw [hr] at hb; cases hb

end C03
end Hpbf

#print axioms Hpbf.C03.layout_decompose
#print axioms Hpbf.C03.layout_locs
#print axioms Hpbf.C03.layout_instr_at
#print axioms Hpbf.C03.layout_epilogue_at
#print axioms Hpbf.C03.layout_jcc_target
#print axioms Hpbf.C03.layout_term_target
#print axioms Hpbf.C03.layout_epilogue
#print axioms Hpbf.C03.layout_skip8
#print axioms Hpbf.C03.layout_saved_regs
#print axioms Hpbf.C03.layout_item_size
#print axioms Hpbf.C03.layout_items_size
#print axioms Hpbf.C03.prog_fetch_fast
#print axioms Hpbf.C03.prog_fetch
#print axioms Hpbf.C03.flow_plain_block
#print axioms Hpbf.C03.flow_arith_slots
#print axioms Hpbf.C03.flow_brz_brnz
#print axioms Hpbf.C03.flow_limit_interrupted
#print axioms Hpbf.C03.flow_mov
#print axioms Hpbf.C03.flow_mov_safe
#print axioms Hpbf.C03.flow_arith_instr
#print axioms Hpbf.C03.flow_input
#print axioms Hpbf.C03.flow_output
#print axioms Hpbf.C03.flow_saved_regs
#print axioms Hpbf.C03.flow_prologue
#print axioms Hpbf.C03.flow_epilogue
#print axioms Hpbf.C03.flow_init_state
#print axioms Hpbf.C03.prog_simulation
#print axioms Hpbf.C03.prog_run_from
#print axioms Hpbf.C03.prog_run
