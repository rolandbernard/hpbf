/-
C02, first phase of the bytecode generator (`bc::CodeGen::emit_block` with global value numbering,
`Expr::codegen`, `get_value`, `mem_write`): the instruction list it produces, run by the bytecode
machine, behaves like the IR run by the IR interpreter.

Conventions: `blk` an arbitrary IR block at an arbitrary width `w` (`w = 0` included), `fuse` the
zeroing-move/scan flag of `translate`, `env` an arbitrary environment, both machines unlimited
(`limited = false`, budget `0`).  `emitOnly blk fuse = .ok p` says that the first phase did not hit a
modelled panic; `p.insts` are the instructions before `dead_store_elim` (temporaries = value numbers).

Precondition.  For a loop marked `once` the generator omits the leading `brz` (do-while) while
`Ir.step` tests the condition first.  `OnceOk blk env`: whenever the IR interpreter reaches a loop marked
`once` its condition cell is non-zero.  `NoOnce blk` (no loop is marked `once`, which is all that
`Program::parse` produces) implies `OnceOk blk env` for every `env`.
-/
import Hpbf.Proofs.C02EmitRun

namespace Hpbf
namespace C02
open BcGen C02Emit Sim

variable {w : Nat}

/-- `translateE` as the sequence of its phases, read off `BcGen`.  `translateE_eq_latePasses` (`Proofs/C02Passes.lean`,
restated in `Props/C02`) is the same equation with the tail after `allocate_temps` named `latePasses`. -/
theorem translateE_factors (prog : Ir.Block w) (numRegs : Nat) (fuse : Bool) :
    translateE prog numRegs fuse = (do
      let s ← emitState prog fuse
      let s ← deadStoreElim s
      let s ← allocateTemps numRegs s
      let s := parameterReordering s
      let s ← if fuse then (do let s ← recordBranchTargets s; zeroingMoveDetection s) else pure s
      let s ← stripNoops s
      pure { temps := countTemps s.insts, minAcc := (analyze prog).minAcc,
             maxAcc := (analyze prog).maxAcc, live := s.live, insts := s.insts }) :=
  BcGen.translateE_factors prog numRegs fuse

/-- `emitOnly` packages the state `emitState` that `translateE` hands to `dead_store_elim`. -/
theorem emitOnly_eq (prog : Ir.Block w) (fuse : Bool) :
    emitOnly prog fuse = (emitState prog fuse).map (fun s =>
      { temps := s.ranges.size, minAcc := (analyze prog).minAcc, maxAcc := (analyze prog).maxAcc,
        live := #[], insts := s.insts }) := by
  unfold emitOnly
  cases emitState prog fuse <;> rfl

/-- Whenever the IR interpreter reaches `loop cond shift body (once := true)` the cell `cond` is
non-zero. -/
abbrev OnceOk (blk : Ir.Block w) (env : Env) : Prop := C02Emit.OnceOk blk env

/-- No loop at any depth is marked `once` (decidable: `noOnceL blk.insts = true`). -/
abbrev NoOnce (blk : Ir.Block w) : Prop := C02Emit.NoOnce blk

instance (blk : Ir.Block w) : Decidable (NoOnce blk) := by
  unfold NoOnce C02Emit.NoOnce; infer_instance

theorem onceOk_def (blk : Ir.Block w) (env : Env) :
    OnceOk blk env ↔
      ∀ (f : Nat) (c : Ir.Cfg w),
        Ir.runCfg false f ⟨blk.insts, [], 0, State.init env⟩ = .outOfFuel c →
        ∀ cond shift body rest, c.cur = .loop cond shift body true :: rest → c.st.rd cond ≠ 0#w :=
  Iff.rfl

theorem noOnce_onceOk {blk : Ir.Block w} (h : NoOnce blk) (env : Env) : OnceOk blk env :=
  onceOk_of_noOnce h env

/-! Forward: terminating IR runs are reproduced, with the same final state. -/

theorem emit_bc_run_unlimited (p : Bc.Program w) (f : Nat) (env : Env) :
    Bc.run p false 0 f env = Bc.runCfg p false f ⟨0, [], 0, State.init env⟩ := rfl

theorem emit_forward {blk : Ir.Block w} {fuse : Bool} {p : Bc.Program w} (env : Env)
    (hp : emitOnly blk fuse = .ok p) (ho : OnceOk blk env) :
    (∀ f (c : Ir.Cfg w), Ir.run blk false 0 f env = .done c →
      ∃ f' c', Bc.run p false 0 f' env = .done c' ∧ c'.st.trace = c.st.trace ∧
        (∀ i, c'.st.tape.get i = c.st.tape.get i) ∧ c'.st.ptr = c.st.ptr ∧ c'.st.env = c.st.env) ∧
    (∀ f (c : Ir.Cfg w), Ir.run blk false 0 f env = .stopped c →
      ∃ f' c', Bc.run p false 0 f' env = .stopped c' ∧ c'.st.trace = c.st.trace ∧
        (∀ i, c'.st.tape.get i = c.st.tape.get i) ∧ c'.st.ptr = c.st.ptr ∧ c'.st.env = c.st.env) := by
  have hR := R_init hp env ho
  constructor
  · intro f c hc
    obtain ⟨f', c', h1, h2⟩ := (forward_state p fuse f _ _ hR).1 c hc
    exact ⟨f', c', h1, by rw [h2], fun i => by rw [h2], by rw [h2], by rw [h2]⟩
  · intro f c hc
    obtain ⟨f', c', h1, h2⟩ := (forward_state p fuse f _ _ hR).2 c hc
    exact ⟨f', c', h1, by rw [h2], fun i => by rw [h2], by rw [h2], by rw [h2]⟩

/-- The version for the IR the parser produces. -/
theorem emit_forward_noOnce {blk : Ir.Block w} {fuse : Bool} {p : Bc.Program w} (env : Env)
    (hp : emitOnly blk fuse = .ok p) (hn : NoOnce blk) :
    (∀ f (c : Ir.Cfg w), Ir.run blk false 0 f env = .done c →
      ∃ f' c', Bc.run p false 0 f' env = .done c' ∧ c'.st.trace = c.st.trace ∧
        (∀ i, c'.st.tape.get i = c.st.tape.get i) ∧ c'.st.ptr = c.st.ptr ∧ c'.st.env = c.st.env) ∧
    (∀ f (c : Ir.Cfg w), Ir.run blk false 0 f env = .stopped c →
      ∃ f' c', Bc.run p false 0 f' env = .stopped c' ∧ c'.st.trace = c.st.trace ∧
        (∀ i, c'.st.tape.get i = c.st.tape.get i) ∧ c'.st.ptr = c.st.ptr ∧ c'.st.env = c.st.env) :=
  emit_forward env hp (noOnce_onceOk hn env)

/-! Backward: the bytecode terminates only if the IR does, with the same final state. -/

theorem emit_bc_run_det (p : Bc.Program w) (l : Bool) {f1 f2 : Nat} {c : Bc.Cfg w} {o1 o2 : Bc.Outcome w}
    (h1 : Bc.runCfg p l f1 c = o1) (h2 : Bc.runCfg p l f2 c = o2)
    (n1 : ∀ x, o1 ≠ .outOfFuel x) (n2 : ∀ x, o2 ≠ .outOfFuel x) : o1 = o2 := by
  subst h1 h2; exact (Bc.fuelRun p l).det n1 n2

theorem emit_backward {blk : Ir.Block w} {fuse : Bool} {p : Bc.Program w} (env : Env)
    (hp : emitOnly blk fuse = .ok p) (ho : OnceOk blk env) :
    (∀ f' (c' : Bc.Cfg w), Bc.run p false 0 f' env = .done c' →
      ∃ f c, Ir.run blk false 0 f env = .done c ∧ c.st.trace = c'.st.trace ∧
        (∀ i, c.st.tape.get i = c'.st.tape.get i) ∧ c.st.ptr = c'.st.ptr ∧ c.st.env = c'.st.env) ∧
    (∀ f' (c' : Bc.Cfg w), Bc.run p false 0 f' env = .stopped c' →
      ∃ f c, Ir.run blk false 0 f env = .stopped c ∧ c.st.trace = c'.st.trace ∧
        (∀ i, c.st.tape.get i = c'.st.tape.get i) ∧ c.st.ptr = c'.st.ptr ∧ c.st.env = c'.st.env) := by
  have hR := R_init hp env ho
  have S := simulation p fuse
  constructor
  · intro f' c' hc'
    rw [emit_bc_run_unlimited] at hc'
    have hr : Sim.run (BcM p) f' ⟨0, [], 0, State.init env⟩ = .fin true c'.st.trace := by
      rw [bcM_run, hc']; rfl
    obtain ⟨f, hf⟩ := S.backward f' _ _ _ rfl hR _ _ hr
    rw [C01.run_IrM] at hf
    obtain ⟨c, hc, _⟩ := C01.obsIr_fin_true hf (fun x => C01.runCfg_not_interrupted _ _ x)
    obtain ⟨f'', c'', h1, h2⟩ := (forward_state p fuse f _ _ hR).1 c hc
    have e := emit_bc_run_det p false hc' h1 (by intro x; simp) (by intro x; simp)
    cases e
    exact ⟨f, c, hc, by rw [h2], fun i => by rw [h2], by rw [h2], by rw [h2]⟩
  · intro f' c' hc'
    rw [emit_bc_run_unlimited] at hc'
    have hr : Sim.run (BcM p) f' ⟨0, [], 0, State.init env⟩ = .fin false c'.st.trace := by
      rw [bcM_run, hc']; rfl
    obtain ⟨f, hf⟩ := S.backward f' _ _ _ rfl hR _ _ hr
    rw [C01.run_IrM] at hf
    obtain ⟨c, hc, _⟩ := C01.obsIr_fin_false hf
    obtain ⟨f'', c'', h1, h2⟩ := (forward_state p fuse f _ _ hR).2 c hc
    have e := emit_bc_run_det p false hc' h1 (by intro x; simp) (by intro x; simp)
    cases e
    exact ⟨f, c, hc, by rw [h2], fun i => by rw [h2], by rw [h2], by rw [h2]⟩

/-! Prefix: cut off anywhere, neither machine has emitted anything the other does not emit. -/

theorem emit_prefix {blk : Ir.Block w} {fuse : Bool} {p : Bc.Program w} (env : Env)
    (hp : emitOnly blk fuse = .ok p) (ho : OnceOk blk env) :
    (∀ f', ∃ f, C01.traceOf (Ir.run blk false 0 f env) = C07.traceOfBc (Bc.run p false 0 f' env)) ∧
    (∀ f, ∃ f', C07.traceOfBc (Bc.run p false 0 f' env) = C01.traceOf (Ir.run blk false 0 f env)) := by
  have hR := R_init hp env ho
  have S := simulation p fuse
  constructor
  · intro f'
    obtain ⟨f, hf⟩ := S.prefixBA f' _ _ hR
    rw [C01.run_IrM, bcM_run, C01.trace_obsIr, trace_obsBc] at hf
    exact ⟨f, hf⟩
  · intro f
    obtain ⟨f', hf'⟩ := S.prefixAB f _ _ hR
    rw [C01.run_IrM, bcM_run, C01.trace_obsIr, trace_obsBc] at hf'
    exact ⟨f', hf'⟩

/-- An unlimited run never ends `interrupted` (any program).  That the emitted code does not end `bad` when the IR run
ends is part of `emit_forward`/`emit_backward`. -/
theorem emit_never_interrupted (p : Bc.Program w) (f : Nat) (env : Env) (c : Bc.Cfg w) :
    Bc.run p false 0 f env ≠ .interrupted c := by
  rw [emit_bc_run_unlimited]
  generalize (⟨0, [], 0, State.init env⟩ : Bc.Cfg w) = c0
  induction f generalizing c0 with
  | zero => simp [Bc.runCfg]
  | succ f ih =>
    simp only [Bc.runCfg]
    cases hs : Bc.step p false c0 with
    | next c1 => exact ih c1
    | halt c1 => simp
    | stop c1 => simp
    | interrupted c1 => exact absurd hs ((step_unlimited p c0).1 c1)
    | bad c1 => simp

/-- The first phase never hits one of its modelled panic sites (listed, with what discharges each, at the head of
`Props/C02EmitTotal.lean`).  All theorems above take `emitOnly blk fuse = .ok p` as a hypothesis; it is
discharged in `Props/C02EmitTotal.lean` (`emit_total_full_holds`).  The argument is about the bookkeeping
that is irrelevant for the semantics (`ranges`, `outer_accessed`): every value number handed to `read` is
below `ranges.len()`, and the fuel of the model's `outerLoop` suffices. -/
def emit_total_full : Prop :=
  ∀ (w : Nat) (blk : Ir.Block w) (fuse : Bool), ∃ p, emitOnly blk fuse = .ok p

/-- NOT proved (and not required): agreement of the two machines on the budget in limited mode; they
charge differently (`Ir.step` per block end, `Bc.step` per branch). -/
def emit_limited_full : Prop :=
  ∀ (w : Nat) (blk : Ir.Block w) (fuse : Bool) (p : Bc.Program w) (env : Env) (b f : Nat) (c : Ir.Cfg w),
    emitOnly blk fuse = .ok p → OnceOk blk env → Ir.run blk true b f env = .done c →
    ∃ b' f' c', Bc.run p true b' f' env = .done c' ∧ c'.st.trace = c.st.trace

/-! Examples: the hypotheses are satisfiable, and `OnceOk` cannot be dropped. -/

/-- Both runs finish within `fuel` steps with the same kind of ending, events and pointer. -/
def agreesEmit (w : Nat) (blk : Ir.Block w) (fuse : Bool) (env : Env) (fuel : Nat) : Bool :=
  match emitOnly blk fuse with
  | .ok p =>
    match Ir.run blk false 0 fuel env, Bc.run p false 0 fuel env with
    | .done c, .done c' => decide (c.st.trace = c'.st.trace) && decide (c.st.ptr = c'.st.ptr)
    | .stopped c, .stopped c' => decide (c.st.trace = c'.st.trace)
    | _, _ => false
  | .error _ => false

def emitEnvAB : Env := { input := some [.byte 65, .byte 66, .eof], sink := true, outOk := none }
def emitEnvRefuse : Env := { input := some [.byte 65, .byte 66, .eof], sink := true, outOk := some 1 }

/-- `,[.,]` -/
def emitExEcho : Ir.Block 8 := ⟨0, [.input 0, .loop 0 0 [.output 0, .input 0] false]⟩
/-- `,` then an `if` that moves the pointer, a fusable scan `[>]`, `.` -/
def emitExIf : Ir.Block 8 :=
  ⟨0, [.input 0, .ifnz 0 1 [.output (-1)], .loop 0 1 [] false, .output (-1)]⟩
/-- A loop marked `once` reached with a zero cell. -/
def emitExOnce : Ir.Block 8 := ⟨0, [.loop 0 0 [.output 0] true]⟩

example : NoOnce emitExEcho := by decide
example : NoOnce emitExIf := by decide
example : ¬ NoOnce emitExOnce := by decide

set_option maxRecDepth 8000 in
example : agreesEmit 8 emitExEcho false emitEnvAB 60 = true := by decide +kernel
set_option maxRecDepth 8000 in
example : agreesEmit 8 emitExEcho true emitEnvRefuse 60 = true := by decide +kernel
set_option maxRecDepth 8000 in
example : agreesEmit 8 emitExIf true emitEnvAB 40 = true := by decide +kernel
set_option maxRecDepth 8000 in
example : agreesEmit 8 emitExIf false emitEnvAB 40 = true := by decide +kernel

/-- Without `OnceOk` the statement is false: the emitted do-while loop runs its body once. -/
theorem once_needs_hypothesis :
    (match emitOnly emitExOnce false with
      | .ok p => C07.traceOfBc (Bc.run p false 0 10 emitEnvAB)
      | .error _ => []) = [Ev.out 0] ∧
    C01.traceOf (Ir.run emitExOnce false 0 10 emitEnvAB) = [] := by
  decide

end C02
end Hpbf

#print axioms Hpbf.C02.translateE_factors
#print axioms Hpbf.C02.emitOnly_eq
#print axioms Hpbf.C02.noOnce_onceOk
#print axioms Hpbf.C02.emit_forward
#print axioms Hpbf.C02.emit_forward_noOnce
#print axioms Hpbf.C02.emit_backward
#print axioms Hpbf.C02.emit_prefix
#print axioms Hpbf.C02.emit_never_interrupted
#print axioms Hpbf.C02.once_needs_hypothesis
