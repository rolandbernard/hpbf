/-
C12. "Every executor that parses its source accepts a string iff its brackets are balanced; otherwise
it reports 'loop not opened' at the character index of the first unmatched ']' or else 'loop not
closed' at the character index of the innermost unclosed '['. Inserting or deleting non-command
characters (including multi-byte UTF-8) never changes acceptance or the behaviour of any back end, and
no source string of moderate nesting depth makes parsing or the in-place interpreter panic."

The bracket spec (`depthScan`, `Balanced`, `firstUnmatchedClose`, `innermostUnclosed`, `strip`) is
defined in `Hpbf/Proofs/C12.lean`.
`src : List Kind` is the list of classified CHARACTERS of the source (`Kind.ofChar`), so positions are
character indices, as in `program.chars().enumerate()` of `Program::parse`. Arbitrary cell width `w`.
-/
import Hpbf.Proofs.C12

namespace Hpbf
namespace C12
open Ir

variable {w : Nat}

-- The spec is the intended one: positional readings of the three spec functions, without the parser.

theorem spec_balanced_iff (src : List Kind) :
    Balanced src ↔ firstUnmatchedClose src = none ∧ innermostUnclosed src = none := by
  have h := spec_consistent src 0 []
  unfold Balanced firstUnmatchedClose innermostUnclosed
  split at h
  · rename_i st' heq
    obtain ⟨h1, h2⟩ := h
    simp only [List.length_nil] at h1 h2
    rw [h1, h2, heq]
    cases st' <;> simp
  · rename_i heq
    obtain ⟨h1, h2⟩ := h
    simp only [List.length_nil] at h1 h2
    rw [h1, heq]
    cases hf : firstUnmatchedCloseFrom src 0 0 <;> simp_all

/-- `firstUnmatchedClose` is the FIRST `]` without partner. -/
theorem spec_firstUnmatchedClose (src : List Kind) (i : Nat) :
    firstUnmatchedClose src = some i ↔ src[i]? = some Kind.close ∧ Balanced (src.take i) :=
  fuc_iff src 0 i

/-- `innermostUnclosed` is the LAST `[` that is never closed. -/
theorem spec_innermostUnclosed (src : List Kind) (j : Nat) (h : firstUnmatchedClose src = none) :
    innermostUnclosed src = some j ↔ src[j]? = some Kind.open ∧ Balanced (src.drop (j + 1)) := by
  constructor
  · intro h
    unfold innermostUnclosed at h
    split at h
    · rename_i p rest heq
      simp only [Option.some.injEq] at h
      subst h
      have := openStack_final src.reverse (p :: rest) (by rwa [List.reverse_reverse]) 0 p rfl
      rwa [List.reverse_reverse] at this
    · simp at h
  · rintro ⟨hj, hb⟩
    obtain ⟨hlt, hget⟩ := List.getElem?_eq_some_iff.mp hj
    have hsplit : src = src.take j ++ Kind.open :: src.drop (j + 1) := by
      rw [← hget, ← List.drop_eq_getElem_cons hlt, List.take_append_drop]
    have hc := spec_consistent src 0 []
    unfold firstUnmatchedClose at h
    unfold innermostUnclosed
    cases hS : openStack src 0 [] with
    | none => rw [hS] at hc; simp [h] at hc
    | some S =>
      rw [hsplit, openStack_append] at hS
      cases hA : openStack (src.take j) 0 [] with
      | none => rw [hA] at hS; simp at hS
      | some sta =>
        rw [hA] at hS
        simp only [Option.bind_some, Nat.zero_add, List.length_take, Nat.min_eq_left (Nat.le_of_lt hlt),
          openStack] at hS
        obtain ⟨st1', hl, hst⟩ := openStack_of_depthScan (src.drop (j + 1)) (j + 1) [] 0 hb
        have hnil : st1' = [] := List.eq_nil_of_length_eq_zero hl
        subst hnil
        have := hst (j :: sta)
        simp only [List.nil_append] at this
        rw [this] at hS
        simp only [Option.some.injEq] at hS
        subst hS
        rfl

/-- C12, acceptance: `Program::parse` accepts exactly the balanced texts. -/
theorem parse_ok_iff_balanced (src : List Kind) :
    (∃ b, Ir.parse (w := w) src = .ok b) ↔ Balanced src := by
  have h := parse_spec (w := w) src
  cases hp : Ir.parse (w := w) src with
  | ok b => rw [hp] at h; simpa using h
  | error e => rw [hp] at h; simpa using h.1

/-- C12, acceptance: the canonical bracket tree (the program of the reference semantics) is defined
exactly for the balanced texts. -/
theorem tree_isSome_iff_balanced (src : List Kind) : (Bf.tree src).isSome ↔ Balanced src := by
  unfold Bf.tree Balanced
  rw [treeRev_isSome]
  exact (depthScan_reverse src 0 0).symm

theorem parse_ok_iff_tree_isSome (src : List Kind) :
    (∃ b, Ir.parse (w := w) src = .ok b) ↔ (Bf.tree src).isSome := by
  rw [parse_ok_iff_balanced, tree_isSome_iff_balanced]

/-- C12, the reported error: `loopNotOpened` at the first unmatched `]` if there is one, else
`loopNotClosed` at the innermost unclosed `[`. -/
theorem parse_error_spec (src : List Kind) (e : ParseErr) (h : Ir.parse (w := w) src = .error e) :
    match firstUnmatchedClose src with
    | some i => e = ⟨.loopNotOpened, i⟩
    | none => ∃ j, innermostUnclosed src = some j ∧ e = ⟨.loopNotClosed, j⟩ := by
  have hs := parse_spec (w := w) src
  rw [h] at hs
  exact hs.2.2

theorem parse_error_of_unbalanced (src : List Kind) (h : ¬ Balanced src) :
    Ir.parse (w := w) src = .error (specError src) := by
  have hs := parse_spec (w := w) src
  cases hp : Ir.parse (w := w) src with
  | ok b => rw [hp] at hs; exact absurd hs h
  | error e => rw [hp] at hs; rw [hs.2.1]

theorem parse_error_iff (src : List Kind) (e : ParseErr) :
    Ir.parse (w := w) src = .error e ↔ ¬ Balanced src ∧ e = specError src := by
  constructor
  · intro h
    have hs := parse_spec (w := w) src
    rw [h] at hs
    exact ⟨hs.1, hs.2.1⟩
  · rintro ⟨h, rfl⟩
    exact parse_error_of_unbalanced src h

/-- C12, comment insensitivity: removing all non-command characters yields the SAME block … -/
theorem parse_strip_ok (src : List Kind) (b : Block w) :
    Ir.parse (w := w) (strip src) = .ok b ↔ Ir.parse src = .ok b := by
  rw [parse_strip]
  cases Ir.parse (w := w) src <;> simp [mapErr]

/-- … and the same error kind; the position moves by the number of removed characters before it. -/
theorem parse_strip_err (src : List Kind) (k : ErrKind) (i : Nat)
    (h : Ir.parse (w := w) src = .error ⟨k, i⟩) :
    Ir.parse (w := w) (strip src) = .error ⟨k, (strip (src.take i)).length⟩ := by
  rw [parse_strip, h]
  rfl

theorem parse_strip_eq (src : List Kind) :
    Ir.parse (w := w) (strip src) =
      match Ir.parse (w := w) src with
      | .ok b => .ok b
      | .error e => .error ⟨e.kind, (strip (src.take e.position)).length⟩ := by
  rw [parse_strip]
  cases Ir.parse (w := w) src <;> rfl

theorem tree_strip (src : List Kind) : Bf.tree (strip src) = Bf.tree src := by
  unfold Bf.tree
  rw [← strip_reverse, treeRev_strip]

/-- C12: inserting / deleting non-command characters anywhere (two texts with the same command
skeleton) gives the same acceptance and IR block, the same error kind (`parse_err_kind_congr`), the
same canonical tree (`tree_congr`). -/
theorem parse_ok_congr (a b : List Kind) (h : strip a = strip b) (blk : Block w) :
    Ir.parse (w := w) a = .ok blk ↔ Ir.parse b = .ok blk := by
  rw [← parse_strip_ok a, ← parse_strip_ok b, h]

theorem parse_err_kind_congr (a b : List Kind) (h : strip a = strip b) (k : ErrKind) :
    (∃ i, Ir.parse (w := w) a = .error ⟨k, i⟩) ↔ (∃ i, Ir.parse (w := w) b = .error ⟨k, i⟩) := by
  rw [parse_err_kind_strip a, parse_err_kind_strip b, h]

theorem tree_congr (a b : List Kind) (h : strip a = strip b) : Bf.tree a = Bf.tree b := by
  rw [← tree_strip a, ← tree_strip b, h]

/-- No byte of a multi-byte UTF-8 sequence is classified as a command, and an ASCII character
classifies identically as a byte. -/
theorem utf8_kinds_char' (c : Char) :
    strip ((String.utf8EncodeChar c).map Kind.ofByte) = strip [Kind.ofChar c] :=
  utf8_kinds_char c

/-- C12, UTF-8: the bytes the in-place interpreter reads and the characters the parser reads have the
same command skeleton. -/
theorem utf8_kinds (s : String) :
    strip ((s.toUTF8.toList).map Kind.ofByte) = strip (s.toList.map Kind.ofChar) := by
  rw [toUTF8_toList, utf8_kinds_list]

/-- So the canonical program of the byte view (what the in-place interpreter executes, by C04) is the
canonical program of the character view (what the parser compiles). -/
theorem tree_bytes_eq_tree_chars (s : String) :
    Bf.tree ((s.toUTF8.toList).map Kind.ofByte) = Bf.tree (s.toList.map Kind.ofChar) :=
  tree_congr _ _ (utf8_kinds s)

/-
C12, no panic.
`Ir.parse : List Kind → Except ParseErr (Block w)` and `Inplace.run` are total Lean functions; their
result types have no panic outcome (`ParseErr.kind` is one of the two `ErrKind`s; `Inplace.Outcome` is
finished / stopped / interrupted / notOpened / outOfFuel). What has to be checked is that the two arms
of the model standing for `stack.pop().unwrap()` / `stack.last_mut().unwrap()` on an empty frame stack
and `positions.last().unwrap()` on an empty `positions` are never taken: -/

/-- One suspended frame per recorded open position, along `parseLoop`. -/
theorem parse_invariant (src : List Kind) (i : Nat) (ps ps' : PState w)
    (h : ps.positions.length = ps.rest.length) (hl : parseLoop src i ps = .ok ps') :
    ps'.positions.length = ps'.rest.length :=
  (parseLoop_inv (Eq.symm h) hl).symm

/-- The state in which the parser meets the character at index `n` never selects the arm
`| _ :: _, []` of `parseStep` (`stack.pop().unwrap()` with only the root frame left). -/
theorem parseStep_unreachable_arm (src : List Kind) (n : Nat) (ps : PState w)
    (h : parseLoop (src.take n) 0 (ps0 : PState w) = .ok ps) :
    ¬ (ps.positions ≠ [] ∧ ps.rest = []) := by
  have hi : ps.rest.length = ps.positions.length := parseLoop_inv inv_ps0 h
  rintro ⟨h1, h2⟩
  rw [h2] at hi
  exact h1 (List.eq_nil_of_length_eq_zero hi.symm)

/-- The final state never selects the arm `| _ :: _, []` of `parse`
(`positions.last().unwrap()` on an empty vector). -/
theorem parse_unreachable_arm (src : List Kind) (ps : PState w)
    (h : parseLoop src 0 (ps0 : PState w) = .ok ps) :
    ¬ (ps.rest ≠ [] ∧ ps.positions = []) := by
  have hi : ps.rest.length = ps.positions.length := parseLoop_inv inv_ps0 h
  rintro ⟨h1, h2⟩
  rw [h2] at hi
  exact h1 (List.eq_nil_of_length_eq_zero hi)

example : kindsOfString "a[b]c" = [.comment, .open, .comment, .close, .comment] := by decide
example : errOf (Ir.parse (w := 8) (kindsOfString "+[>")) = some ⟨.loopNotClosed, 1⟩ := by decide
example : errOf (Ir.parse (w := 8) (kindsOfString "][")) = some ⟨.loopNotOpened, 0⟩ := by decide
example : errOf (Ir.parse (w := 8) (kindsOfString "a[b]c")) = none := by decide
example : errOf (Ir.parse (w := 8) (kindsOfString "é[[]")) = some ⟨.loopNotClosed, 1⟩ := by decide
example : errOf (Ir.parse (w := 8) (kindsOfString "[[]")) = some ⟨.loopNotClosed, 0⟩ := by decide
example : errOf (Ir.parse (w := 8) (kindsOfString "[[]]]é]")) = some ⟨.loopNotOpened, 4⟩ := by decide
example : ¬ Balanced (kindsOfString "+[>") := by decide
example : ¬ Balanced (kindsOfString "][") := by decide
example : Balanced (kindsOfString "a[b]c") := by decide
example : firstUnmatchedClose (kindsOfString "][") = some 0 := by decide
example : innermostUnclosed (kindsOfString "+[>") = some 1 := by decide
example : innermostUnclosed (kindsOfString "[a[b[]") = some 2 := by decide
example : Bf.tree (kindsOfString "a[b]c") = some (.loop .nil .nil) := by decide
example : Bf.tree (kindsOfString "][") = none := by decide
example : strip (kindsOfString "a[bé]c") = [.open, .close] := by decide
example : strip (kindsOfBytes "a[bé]c") = [.open, .close] := by
  unfold kindsOfBytes; rw [utf8_kinds]; decide

end C12
end Hpbf

#print axioms Hpbf.C12.spec_balanced_iff
#print axioms Hpbf.C12.spec_firstUnmatchedClose
#print axioms Hpbf.C12.spec_innermostUnclosed
#print axioms Hpbf.C12.parse_ok_iff_balanced
#print axioms Hpbf.C12.tree_isSome_iff_balanced
#print axioms Hpbf.C12.parse_ok_iff_tree_isSome
#print axioms Hpbf.C12.parse_error_spec
#print axioms Hpbf.C12.parse_error_of_unbalanced
#print axioms Hpbf.C12.parse_error_iff
#print axioms Hpbf.C12.parse_strip_ok
#print axioms Hpbf.C12.parse_strip_err
#print axioms Hpbf.C12.parse_strip_eq
#print axioms Hpbf.C12.tree_strip
#print axioms Hpbf.C12.parse_ok_congr
#print axioms Hpbf.C12.parse_err_kind_congr
#print axioms Hpbf.C12.tree_congr
#print axioms Hpbf.C12.utf8_kinds_char'
#print axioms Hpbf.C12.utf8_kinds
#print axioms Hpbf.C12.tree_bytes_eq_tree_chars
#print axioms Hpbf.C12.parse_invariant
#print axioms Hpbf.C12.parseStep_unreachable_arm
#print axioms Hpbf.C12.parse_unreachable_arm
