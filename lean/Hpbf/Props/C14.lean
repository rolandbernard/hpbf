/-
C14 — cell arithmetic helpers meet their algebraic contracts at every width.

"For every cell width and all operands, the modular division helper returns the smallest x with
x*d = n (mod 2^width) and 'none' exactly when no such x exists; the modular inverse exists exactly
for odd values and multiplies back to 1; modular power equals repeated multiplication; zero/sign
extension and truncation conversions round-trip as documented."

Model: `Hpbf.Cell` (`Hpbf/Cell.lean`, mirrors `trait CellType` in `src/lib.rs`).  Cells are
`BitVec w`; `*`, `+` on `BitVec w` are Rust's `wrapping_mul` / `wrapping_add`; `≤` is the unsigned
order; `b ^ k` (`k : Nat`) is repeated multiplication (`BitVec.pow_zero`, `BitVec.pow_succ`).
All arithmetic theorems hold for every `w` with `0 < w`; the conversion theorems for `w ≤ 64`
(plus the stated lower bounds).
-/
import Hpbf.Proofs.C14

namespace Hpbf.C14
open Hpbf Lemmas

variable {w : Nat}

/-- C14: `wrapping_pow` is repeated multiplication; in particular `w` loop iterations suffice. -/
theorem pow_spec (hw : 0 < w) (b e : BitVec w) : Cell.wrappingPow b e = b ^ e.toNat :=
  Lemmas.pow_spec hw b e

example : Cell.wrappingPow (3#8) (5#8) = 243#8 := by decide
example : Cell.wrappingPow (3#16) (65535#16) = 43691#16 := by decide
example : Cell.wrappingPow (2#8) (255#8) = 0#8 := by decide
example : Cell.wrappingPow (0#8) (0#8) = 1#8 := by decide

theorem isOdd_iff (hw : 0 < w) (x : BitVec w) : Cell.isOdd x = true ↔ x.toNat % 2 = 1 :=
  Cell.isOdd_iff hw x

example : Cell.isOdd (7#8) = true ∧ (7#8).toNat % 2 = 1 := by decide
example : Cell.isOdd (6#8) = false ∧ (6#8).toNat % 2 = 0 := by decide

/-- `2^(w-1)` is the order of the group of units modulo `2^w` (`odd_pow_totient`). -/
theorem inv_eq_pow (hw : 0 < w) (x : BitVec w) :
    Cell.wrappingInv x = if Cell.isOdd x then some (x ^ (2 ^ (w - 1) - 1)) else none := by
  unfold Cell.wrappingInv
  simp only [pow_spec hw, toNat_tot hw (w - 1) (by omega)]

theorem odd_pow_totient (hw : 0 < w) (x : BitVec w) (hx : x.toNat % 2 = 1) :
    x ^ (2 ^ (w - 1)) = 1#w := by
  apply BitVec.eq_of_toNat_eq
  rw [toNat_pow, BitVec.toNat_one hw]
  have := odd_pow_two_pow_modEq x.toNat hx (w - 1)
  rw [show w - 1 + 1 = w by omega] at this
  rw [this]
  exact Nat.mod_eq_of_lt (Nat.one_lt_two_pow (by omega))

example : (3#8) ^ (2 ^ (8 - 1)) = 1#8 := odd_pow_totient (by decide) _ (by decide)

/-- C14: the inverse exists exactly for odd values. -/
theorem inv_isSome_iff (hw : 0 < w) (x : BitVec w) :
    (Cell.wrappingInv x).isSome = Cell.isOdd x := by
  rw [inv_eq_pow hw]; cases Cell.isOdd x <;> simp

/-- C14: the returned inverse multiplies back to one. -/
theorem inv_mul (hw : 0 < w) (x y : BitVec w) :
    Cell.wrappingInv x = some y → x * y = 1#w := by
  intro h
  rw [inv_eq_pow hw] at h
  cases ho : Cell.isOdd x <;> rw [ho] at h <;> simp at h
  subst h
  rw [pow_pred_mul]
  exact odd_pow_totient hw x ((isOdd_iff hw x).1 ho)

example : Cell.wrappingInv (7#8) = some (183#8) ∧ (7#8) * (183#8) = 1#8 := by decide
example : Cell.wrappingInv (5#8) = some (205#8) ∧ (5#8) * (205#8) = 1#8 := by decide
example : Cell.wrappingInv (0xDEADBEEF#32) = some (0x904B300F#32) := by decide
example : Cell.wrappingInv (1#1) = some (1#1) := by decide

/-- C14: `none` exactly when no inverse exists (even numbers have no inverse mod `2^w`). -/
theorem inv_none_iff (hw : 0 < w) (x : BitVec w) :
    Cell.wrappingInv x = none ↔ ¬ ∃ y, x * y = 1#w := by
  constructor
  · intro h ⟨y, hy⟩
    rw [inv_eq_pow hw] at h
    cases ho : Cell.isOdd x <;> rw [ho] at h <;> simp at h
    exact even_no_inv hw x y ((Cell.isOdd_eq_false_iff hw x).1 ho) hy
  · intro h
    cases hi : Cell.wrappingInv x with
    | none => rfl
    | some y => exact absurd ⟨y, inv_mul hw x y hi⟩ h

example : Cell.wrappingInv (64#8) = none := by decide
example : Cell.wrappingInv (0#8) = none := by decide
example : ¬ ∃ y, (64#8) * y = 1#8 := by decide +kernel

/-- As Rust's `trailing_zeros`: the width on zero. -/
theorem trailingZeros_zero : Cell.trailingZeros (0#w) = w := by
  have h1 := Lemmas.trailingZeros_le (0#w)
  by_contra hne
  have := trailingZeros_bit (0#w) (by omega)
  simp at this

theorem trailingZeros_le (x : BitVec w) : Cell.trailingZeros x ≤ w := Lemmas.trailingZeros_le x

theorem trailingZeros_lt (x : BitVec w) (hx : x ≠ 0#w) : Cell.trailingZeros x < w :=
  Lemmas.trailingZeros_lt x hx

theorem two_pow_dvd_iff_le_trailingZeros (x : BitVec w) (hx : x ≠ 0#w) (k : Nat) :
    2 ^ k ∣ x.toNat ↔ k ≤ Cell.trailingZeros x :=
  Lemmas.two_pow_dvd_iff_le_trailingZeros x hx k

theorem trailingZeros_spec (x : BitVec w) (hx : x ≠ 0#w) :
    2 ^ Cell.trailingZeros x ∣ x.toNat ∧ ¬ 2 ^ (Cell.trailingZeros x + 1) ∣ x.toNat := by
  refine ⟨(two_pow_dvd_iff_le_trailingZeros x hx _).2 (Nat.le_refl _), fun h => ?_⟩
  have := (two_pow_dvd_iff_le_trailingZeros x hx _).1 h
  omega

example : Cell.trailingZeros (0#8) = 8 := by decide
example : Cell.trailingZeros (40#8) = 3 ∧ 2 ^ 3 ∣ (40#8).toNat ∧ ¬ 2 ^ 4 ∣ (40#8).toNat := by decide
example : Cell.trailingZeros (128#8) = 7 := by decide
example : Cell.trailingZeros (1#8) = 0 := by decide

/-- C14: `wrapping_div n d` returns the smallest `x` (unsigned order) with `x * d = n`. -/
theorem div_some_iff (hw : 0 < w) (n d x : BitVec w) :
    Cell.wrappingDiv n d = some x ↔ (x * d = n ∧ ∀ y, y * d = n → x ≤ y) := by
  rcases wrappingDiv_cases hw n d with ⟨rfl, h⟩ | ⟨_, _, r, hr, hsol, hmin⟩ | ⟨_, _, h, hno⟩
  · rw [h, Option.some.injEq]
    constructor
    · rintro rfl; exact ⟨by simp, fun y _ => by rw [BitVec.le_def]; simp⟩
    · rintro ⟨_, h2⟩
      have := h2 (0#w) (by simp)
      rw [BitVec.le_def] at this
      exact (BitVec.eq_of_toNat_eq (by simp at this ⊢; omega)).symm
  · rw [hr, Option.some.injEq]
    constructor
    · rintro rfl; exact ⟨hsol, hmin⟩
    · rintro ⟨h1, h2⟩
      have a := hmin x h1
      have b := h2 r hsol
      rw [BitVec.le_def] at a b
      exact BitVec.eq_of_toNat_eq (by omega)
  · rw [h]
    simp only [reduceCtorEq, false_iff]
    exact fun h1 => hno x h1.1

example : Cell.wrappingDiv (8#8) (7#8) = some (184#8) ∧ (184#8) * (7#8) = 8#8 := by decide
example : Cell.wrappingDiv (32#8) (4#8) = some (8#8) := by decide
/- several roots (3, 131 with `d = 2`): the smallest is returned -/
example : Cell.wrappingDiv (6#8) (2#8) = some (3#8) ∧ (131#8) * (2#8) = 6#8 ∧ (3#8) * (2#8) = 6#8 := by
  decide
example : ∀ y : BitVec 8, y * (2#8) = 6#8 → (3#8) ≤ y :=
  ((div_some_iff (by decide) (6#8) (2#8) (3#8)).1 (by decide)).2
/- `0 / 0 = 0`, and `0 / d = 0` -/
example : Cell.wrappingDiv (0#8) (0#8) = some (0#8) := by decide
/- `s = 0` uses the `1 << w = 0` mask path; `d = 128` uses the `tot = 1 << 0` path -/
example : Cell.wrappingDiv (5#8) (1#8) = some (5#8) := by decide
example : Cell.wrappingDiv (128#8) (128#8) = some (1#8) := by decide

/-- C14: `none` exactly when the equation `y * d = n` has no solution. -/
theorem div_none_iff (hw : 0 < w) (n d : BitVec w) :
    Cell.wrappingDiv n d = none ↔ ¬ ∃ y, y * d = n := by
  rcases wrappingDiv_cases hw n d with ⟨rfl, h⟩ | ⟨_, _, r, hr, hsol, _⟩ | ⟨_, _, h, hno⟩
  · simp only [h, reduceCtorEq, false_iff, not_not]; exact ⟨0#w, by simp⟩
  · simp only [hr, reduceCtorEq, false_iff, not_not]; exact ⟨r, hsol⟩
  · simp only [h, true_iff]; exact fun ⟨y, hy⟩ => hno y hy

example : Cell.wrappingDiv (5#8) (2#8) = none := by decide
example : Cell.wrappingDiv (32#8) (64#8) = none := by decide
example : Cell.wrappingDiv (1#8) (0#8) = none := by decide
example : ¬ ∃ y, y * (64#8) = 32#8 := by decide +kernel

theorem div_isSome_iff (hw : 0 < w) (n d : BitVec w) :
    (Cell.wrappingDiv n d).isSome ↔ (n = 0#w ∨ Cell.trailingZeros d ≤ Cell.trailingZeros n) := by
  rcases wrappingDiv_cases hw n d with ⟨hn, h⟩ | ⟨_, hs, r, hr, _⟩ | ⟨hn, hs, h, _⟩
  · subst hn; simp [h]
  · simp [hr, hs]
  · simp [h, hn]; omega

/-- C14, conversions: truncating the zero extension gives the cell back. -/
theorem fromU64_intoU64 (h : w ≤ 64) (x : BitVec w) : Cell.fromU64 (Cell.intoU64 x) = x := by
  unfold Cell.fromU64 Cell.intoU64
  rw [BitVec.setWidth_setWidth_of_le x h, BitVec.setWidth_eq]

example : Cell.fromU64 (Cell.intoU64 (200#8)) = 200#8 := by decide

/-- `into_u64` is zero extension: the unsigned value is preserved. -/
theorem toNat_intoU64 (h : w ≤ 64) (x : BitVec w) : (Cell.intoU64 x).toNat = x.toNat :=
  BitVec.toNat_setWidth_of_le h

example : (Cell.intoU64 (200#8)).toNat = 200 := by decide

/-- `into_i64` is sign extension: the signed value is preserved. -/
theorem toInt_intoI64 (h : w ≤ 64) (x : BitVec w) : (Cell.intoI64 x).toInt = x.toInt :=
  BitVec.toInt_signExtend_of_le h

example : (Cell.intoI64 (200#8)).toInt = -56 ∧ (200#8).toInt = -56 := by decide

/-- `from_u8` is zero extension (`8 ≤ w`). -/
theorem toNat_fromU8 (h : 8 ≤ w) (b : BitVec 8) : (Cell.fromU8 b : BitVec w).toNat = b.toNat := by
  rw [toNat_fromU8_general]
  exact Nat.mod_eq_of_lt (Nat.lt_of_lt_of_le b.isLt (Nat.pow_le_pow_right (by omega) h))

example : (Cell.fromU8 (200#8) : BitVec 16).toNat = 200 := by decide

theorem intoU8_fromU8 (h : 8 ≤ w) (b : BitVec 8) : Cell.intoU8 (Cell.fromU8 b : BitVec w) = b := by
  apply BitVec.eq_of_toNat_eq
  unfold Cell.intoU8 Cell.intoU64
  rw [BitVec.toNat_setWidth, BitVec.toNat_setWidth, toNat_fromU8 h]
  have := b.isLt
  omega

example : Cell.intoU8 (Cell.fromU8 (200#8) : BitVec 32) = 200#8 := by decide

/-- `from_i16` preserves the signed value for `16 ≤ w ≤ 64`. -/
theorem toInt_fromI16 (h16 : 16 ≤ w) (h : w ≤ 64) (v : BitVec 16) :
    (Cell.fromI16 v : BitVec w).toInt = v.toInt := by
  rw [fromI16_eq_signExtend h, BitVec.toInt_signExtend_of_le h16]

example : (Cell.fromI16 (0xFF80#16) : BitVec 32) = 0xFFFFFF80#32 := by decide
example : (Cell.fromI16 (0xFF80#16) : BitVec 32).toInt = -128 := by decide

/-- `from_i16` is truncation for `w ≤ 16`, in particular for 8-bit cells. -/
theorem fromI16_eq_setWidth (h : w ≤ 16) (v : BitVec 16) :
    (Cell.fromI16 v : BitVec w) = v.setWidth w := by
  rw [fromI16_eq_signExtend (by omega), BitVec.signExtend_eq_setWidth_of_le v h]

theorem fromI16_u8 (v : BitVec 16) : (Cell.fromI16 v : BitVec 8) = v.setWidth 8 :=
  fromI16_eq_setWidth (by omega) v

example : (Cell.fromI16 (0x1234#16) : BitVec 8) = 0x34#8 := by decide

/-- `try_into_i16` succeeds exactly when the signed value fits in an `i16`, returning it. -/
theorem tryIntoI16_some_iff (h : w ≤ 64) (x : BitVec w) (v : BitVec 16) :
    Cell.tryIntoI16 x = some v ↔ v.toInt = x.toInt := by
  unfold Cell.tryIntoI16
  simp only [toInt_intoI64 h]
  constructor
  · intro hh
    split at hh
    · rename_i hr
      rw [Option.some.injEq] at hh
      subst hh
      exact BitVec.toInt_ofInt_eq_self (by omega) (by norm_num; omega) (by norm_num; omega)
    · cases hh
  · intro hv
    have hb := toInt_i16_bounds v
    rw [if_pos (by omega), ← hv, BitVec.ofInt_toInt]

example : Cell.tryIntoI16 (0xFFFFFFFF#32) = some (0xFFFF#16) ∧
    (0xFFFF#16).toInt = (0xFFFFFFFF#32).toInt := by decide
example : Cell.tryIntoI16 (200#8) = some (0xFFC8#16) := by decide

theorem tryIntoI16_none_iff (h : w ≤ 64) (x : BitVec w) :
    Cell.tryIntoI16 x = none ↔ x.toInt < -32768 ∨ 32767 < x.toInt := by
  unfold Cell.tryIntoI16
  simp only [toInt_intoI64 h]
  split
  · simp only [reduceCtorEq, false_iff]; omega
  · simp only [true_iff]; omega

example : Cell.tryIntoI16 (40000#32) = none ∧ 32767 < (40000#32).toInt := by decide
example : Cell.tryIntoI16 (0x8000#16) = some (0x8000#16) := by decide
example : Cell.tryIntoI16 (0xFFFF7FFF#32) = none ∧ (0xFFFF7FFF#32).toInt < -32768 := by decide

/-- Round trip: a successful `try_into_i16` is undone by `from_i16`. -/
theorem fromI16_of_tryIntoI16 (h : w ≤ 64) (x : BitVec w) (v : BitVec 16) :
    Cell.tryIntoI16 x = some v → (Cell.fromI16 v : BitVec w) = x := by
  intro hv
  rw [tryIntoI16_some_iff h] at hv
  rw [fromI16_eq_signExtend h, ← BitVec.toInt_inj]
  by_cases h16 : 16 ≤ w
  · rw [BitVec.toInt_signExtend_of_le h16, hv]
  · rw [BitVec.toInt_signExtend_eq_toInt_bmod_of_le v (by omega), hv, toInt_bmod_self]

example : (Cell.fromI16 (0xFFC8#16) : BitVec 8) = 200#8 := by decide

/-- Round trip the other way (`16 ≤ w ≤ 64`). -/
theorem tryIntoI16_fromI16 (h16 : 16 ≤ w) (h : w ≤ 64) (v : BitVec 16) :
    Cell.tryIntoI16 (Cell.fromI16 v : BitVec w) = some v := by
  rw [tryIntoI16_some_iff h, toInt_fromI16 h16 h]

example : Cell.tryIntoI16 (Cell.fromI16 (0x8000#16) : BitVec 64) = some (0x8000#16) := by decide

-- The four instances of `CellType` in hpbf: `u8`, `u16`, `u32`, `u64`.

theorem pow_spec_u8 (b e : BitVec 8) : Cell.wrappingPow b e = b ^ e.toNat := pow_spec (by decide) b e
theorem pow_spec_u16 (b e : BitVec 16) : Cell.wrappingPow b e = b ^ e.toNat := pow_spec (by decide) b e
theorem pow_spec_u32 (b e : BitVec 32) : Cell.wrappingPow b e = b ^ e.toNat := pow_spec (by decide) b e
theorem pow_spec_u64 (b e : BitVec 64) : Cell.wrappingPow b e = b ^ e.toNat := pow_spec (by decide) b e

theorem inv_mul_u8 (x y : BitVec 8) : Cell.wrappingInv x = some y → x * y = 1#8 := inv_mul (by decide) x y
theorem inv_mul_u16 (x y : BitVec 16) : Cell.wrappingInv x = some y → x * y = 1#16 := inv_mul (by decide) x y
theorem inv_mul_u32 (x y : BitVec 32) : Cell.wrappingInv x = some y → x * y = 1#32 := inv_mul (by decide) x y
theorem inv_mul_u64 (x y : BitVec 64) : Cell.wrappingInv x = some y → x * y = 1#64 := inv_mul (by decide) x y

theorem div_some_iff_u8 (n d x : BitVec 8) :
    Cell.wrappingDiv n d = some x ↔ (x * d = n ∧ ∀ y, y * d = n → x ≤ y) := div_some_iff (by decide) n d x
theorem div_some_iff_u16 (n d x : BitVec 16) :
    Cell.wrappingDiv n d = some x ↔ (x * d = n ∧ ∀ y, y * d = n → x ≤ y) := div_some_iff (by decide) n d x
theorem div_some_iff_u32 (n d x : BitVec 32) :
    Cell.wrappingDiv n d = some x ↔ (x * d = n ∧ ∀ y, y * d = n → x ≤ y) := div_some_iff (by decide) n d x
theorem div_some_iff_u64 (n d x : BitVec 64) :
    Cell.wrappingDiv n d = some x ↔ (x * d = n ∧ ∀ y, y * d = n → x ≤ y) := div_some_iff (by decide) n d x

theorem div_none_iff_u8 (n d : BitVec 8) :
    Cell.wrappingDiv n d = none ↔ ¬ ∃ y, y * d = n := div_none_iff (by decide) n d
theorem div_none_iff_u16 (n d : BitVec 16) :
    Cell.wrappingDiv n d = none ↔ ¬ ∃ y, y * d = n := div_none_iff (by decide) n d
theorem div_none_iff_u32 (n d : BitVec 32) :
    Cell.wrappingDiv n d = none ↔ ¬ ∃ y, y * d = n := div_none_iff (by decide) n d
theorem div_none_iff_u64 (n d : BitVec 64) :
    Cell.wrappingDiv n d = none ↔ ¬ ∃ y, y * d = n := div_none_iff (by decide) n d

#print axioms pow_spec
#print axioms isOdd_iff
#print axioms inv_isSome_iff
#print axioms inv_mul
#print axioms inv_none_iff
#print axioms inv_eq_pow
#print axioms odd_pow_totient
#print axioms trailingZeros_zero
#print axioms trailingZeros_le
#print axioms trailingZeros_lt
#print axioms two_pow_dvd_iff_le_trailingZeros
#print axioms trailingZeros_spec
#print axioms div_some_iff
#print axioms div_none_iff
#print axioms div_isSome_iff
#print axioms fromU64_intoU64
#print axioms toNat_intoU64
#print axioms toInt_intoI64
#print axioms toNat_fromU8
#print axioms intoU8_fromU8
#print axioms toInt_fromI16
#print axioms fromI16_eq_setWidth
#print axioms fromI16_u8
#print axioms tryIntoI16_some_iff
#print axioms tryIntoI16_none_iff
#print axioms fromI16_of_tryIntoI16
#print axioms tryIntoI16_fromI16
#print axioms pow_spec_u8
#print axioms pow_spec_u16
#print axioms pow_spec_u32
#print axioms pow_spec_u64
#print axioms inv_mul_u8
#print axioms inv_mul_u16
#print axioms inv_mul_u32
#print axioms inv_mul_u64
#print axioms div_some_iff_u8
#print axioms div_some_iff_u16
#print axioms div_some_iff_u32
#print axioms div_some_iff_u64
#print axioms div_none_iff_u8
#print axioms div_none_iff_u16
#print axioms div_none_iff_u32
#print axioms div_none_iff_u64

end Hpbf.C14
