/-
Part of C01 (the optimizer preserves meaning): the property statements of `Hpbf/Props/C01Loop.lean` with a
horizon.  At machine level a loop run may be incomplete (a round stops at a failing I/O operation, diverges in a
nested loop, or the run is cut off) or infinite: only the rounds `0 … N-1` are real.  Every per-round hypothesis
is required for `k < N` only; facts about the start of a round are concluded for `k ≤ N`, about the middle of a
round for `k < N`, exit conclusions for a trip count `n ≤ N`; the prefix theorems need no trip count.
Proofs are in `Hpbf/Proofs/OptLoop*.lean`.  Nothing imports this file: the `OptRb` proofs use
`Hpbf/Proofs/OptLoopTop.lean` directly.
-/
import Hpbf.Proofs.OptLoopTop
import Hpbf.Proofs.OptLoopAnalyze

namespace Hpbf.C01Loop
open Hpbf Opt OptSem Expr OptLoop

variable {w : Nat}

theorem bodyFactsH_iff (sub : Rebuild w) (body : Nat → Mem w → Mem w) (M : Nat → Mem w) (N : Nat) :
    BodyFactsH sub body M N ↔
      (∀ k, k < N → ∀ v, mGet sub.written v = none → body k (M k) v = M k v) ∧
      (∀ k, k < N → ∀ v e, mGet sub.written v = some (.known e) → body k (M k) v = ev e (M k)) :=
  ⟨fun h => ⟨h.unwritten, h.known⟩, fun h => ⟨h.1, h.2⟩⟩

theorem getBothFactsH_iff (s : Rebuild w) (ps : List (Rebuild w)) (sub : Rebuild w) (M : Nat → Mem w)
    (N : Nat) :
    GetBothFactsH s ps sub M N ↔
      ∀ v e, getBoth sub (s :: ps) v = some e → WeakCanon e ∧ ∀ k, k < N → M (k + 1) v = ev e (M k) :=
  Iff.rfl

theorem linSoundH_iff (sub : Rebuild w) (C : List Int) (M : Nat → Mem w) (N : Nat) (v : Int) (inc : Expr w) :
    LinSoundH sub C M N v inc ↔
      mGet sub.written v = none ∧
      (∀ x ∈ Expr.variables inc, C.contains x = true) ∧
      v ∉ Expr.variables inc ∧
      (∀ k, k < N → M (k + 1) v = M k v + ev inc (M k)) ∧
      (∀ k, k ≤ N → M k v = M 0 v + BitVec.ofNat w k * ev inc (M 0)) :=
  ⟨fun h => ⟨h.unwritten, h.overConst, h.fresh, h.step, h.closed⟩,
   fun h => ⟨h.1, h.2.1, h.2.2.1, h.2.2.2.1, h.2.2.2.2⟩⟩

theorem motionCtxH_iff (s : Rebuild w) (ps : List (Rebuild w)) (sub : Rebuild w) (C : List Int)
    (lin : List (Int × Expr w)) (m0 : Mem w) (body : Nat → Mem w → Mem w) (N : Nat) :
    MotionCtxH s ps sub C lin m0 body N ↔
      (∀ k, k ≤ N → ∀ c, C.contains c = true → run body sub.pending m0 k c = m0 c) ∧
      (∀ k, k < N → ∀ c, C.contains c = true → mid body sub.pending m0 k c = m0 c) ∧
      (∀ i c, C.contains i = true → getConstant s ps i = some c → m0 i = c) ∧
      (∀ v inc, mGet lin v = some inc → LinSoundH sub C (run body sub.pending m0) N v inc) ∧
      BodyFactsH sub body (run body sub.pending m0) N :=
  ⟨fun h => ⟨h.constRun, h.constMid, h.known, h.lin, h.body⟩,
   fun h => ⟨h.1, h.2.1, h.2.2.1, h.2.2.2.1, h.2.2.2.2⟩⟩

theorem readFactsH_iff (sub : Rebuild w) (reads : List Int) (body : Nat → Mem w → Mem w) (M : Nat → Mem w)
    (N : Nat) :
    ReadFactsH sub reads body M N ↔
      (∀ v p x, mGet sub.pending v = some p → x ∈ Expr.variables p → x ≠ v → reads.contains x = true) ∧
      (∀ k, k < N → ∀ (m' : Mem w) (Z : Int → Prop), (∀ z, Z z → reads.contains z = false) →
        (∀ v, ¬ Z v → m' v = M k v) → ∀ v, ¬ Z v → body k m' v = body k (M k) v) ∧
      (∀ k, k < N → ∀ (m' : Mem w) v, mGet sub.written v = none → body k m' v = m' v) :=
  ⟨fun h => ⟨h.pendReads, h.bodyNI, h.frame⟩, fun h => ⟨h.1, h.2.1, h.2.2⟩⟩

theorem motionBD_iff (s : Rebuild w) (ps : List (Rebuild w)) (sub : Rebuild w) (reads C : List Int)
    (lin : List (Int × Expr w)) (otherPending : List Int) (L : OptLoop w) (B D : List (Int × Expr w)) :
    MotionBD s ps sub reads C lin otherPending L B D ↔
      (∀ var p, mGet sub.pending var = some p →
        ∃ b d a, MotionCase s ps var p (!mHas sub.written var) reads C lin otherPending L (b, d, a) ∧
          mGet B var = b ∧ mGet D var = d) ∧
      (∀ var, mGet sub.pending var = none → mGet B var = none ∧ mGet D var = none) :=
  ⟨fun h => ⟨h.pend, h.nopend⟩, fun h => ⟨h.1, h.2⟩⟩

theorem motionAllE_iff (s : Rebuild w) (ps : List (Rebuild w)) (sub : Rebuild w) (reads C : List Int)
    (lin : List (Int × Expr w)) (otherPending : List Int) (L : OptLoop w) (B D A : List (Int × Expr w)) :
    MotionAllE s ps sub reads C lin otherPending L B D A ↔
      (∀ var p, mGet sub.pending var = some p →
        ∃ b d a, MotionCase s ps var p (!mHas sub.written var) reads C lin otherPending L (b, d, a) ∧
          mGet B var = b ∧ mGet D var = d ∧
          (mGet A var = a ∨ (L.noEffect = true ∧ mGet A var = none))) ∧
      (∀ var, mGet sub.pending var = none →
        mGet B var = none ∧ mGet D var = none ∧ mGet A var = none) :=
  ⟨fun h => ⟨h.pend, h.nopend⟩, fun h => ⟨h.1, h.2⟩⟩

theorem differ'_iff (C : List Int) (B D P : List (Int × Expr w)) (v : Int) :
    Differ' C B D P v ↔
      mGet B v ≠ none ∨ (mGet P v ≠ none ∧ mGet D v = none ∧ C.contains v = false) := Iff.rfl

theorem motionCtx_toH {s : Rebuild w} {ps : List (Rebuild w)} {sub : Rebuild w} {C : List Int}
    {lin : List (Int × Expr w)} {m0 : Mem w} {body : Nat → Mem w → Mem w}
    (h : MotionCtx s ps sub C lin m0 body) (N : Nat) : MotionCtxH s ps sub C lin m0 body N := h.toH N
theorem motionAllE_toAll {s : Rebuild w} {ps : List (Rebuild w)} {sub : Rebuild w} {reads C : List Int}
    {lin : List (Int × Expr w)} {otherPending : List Int} {L : OptLoop w} {B D A : List (Int × Expr w)}
    (h : MotionAllE s ps sub reads C lin otherPending L B D A) (n : Nat)
    (hne : L.noEffect = true → n = 0) : MotionAll s ps sub reads C lin otherPending L n B D A :=
  h.toAll n hne
theorem motionAllE_toBD {s : Rebuild w} {ps : List (Rebuild w)} {sub : Rebuild w} {reads C : List Int}
    {lin : List (Int × Expr w)} {otherPending : List Int} {L : OptLoop w} {B D A : List (Int × Expr w)}
    (h : MotionAllE s ps sub reads C lin otherPending L B D A) :
    MotionBD s ps sub reads C lin otherPending L B D := h.toBD

theorem constantsAmong_sound_h (s : Rebuild w) (ps : List (Rebuild w)) (sub : Rebuild w) (vars : List Int)
    (C : List Int) (m0 : Mem w) (body : Nat → Mem w → Mem w) (N : Nat)
    (hC : constantsAmong s ps sub vars = .ok C) (hnd : vars.Nodup)
    (hcmp : ∀ v e, compare s ps (Expr.var v) e = .ok true → ev e m0 = m0 v)
    (hb : BodyFactsH sub body (run body sub.pending m0) N) :
    (∀ k, k ≤ N → ∀ c ∈ C, run body sub.pending m0 k c = m0 c) ∧
    (∀ k, k < N → ∀ c ∈ C, mid body sub.pending m0 k c = m0 c) :=
  OptLoop.constantsAmong_sound_h s ps sub vars C m0 body N hC hnd hcmp hb

theorem linearAmong_sound_h (s : Rebuild w) (ps : List (Rebuild w)) (sub : Rebuild w) (C : List Int)
    (vars : List Int) (M : Nat → Mem w) (N : Nat)
    (hgb : GetBothFactsH s ps sub M N)
    (hconst : ∀ k, k ≤ N → ∀ c ∈ C, M k c = M 0 c)
    (v : Int) (inc : Expr w) (h : mGet (linearAmong s ps sub C vars) v = some inc) :
    LinSoundH sub C M N v inc :=
  OptLoop.linearAmong_sound_h s ps sub C vars M N hgb hconst v inc h

theorem loopMotion_sound_h (hw : 0 < w) {s : Rebuild w} {ps : List (Rebuild w)} {sub : Rebuild w}
    {C : List Int} {lin : List (Int × Expr w)} {m0 : Mem w} {body : Nat → Mem w → Mem w} {N : Nat}
    (ctx : MotionCtxH s ps sub C lin m0 body N) {var : Int}
    {p : Expr w} {complete : Bool} {reads otherPending : List Int} {L : OptLoop w} {n : Nat}
    {b : Expr w} {d a : Option (Expr w)} (hnN : n ≤ N)
    (hp : mGet sub.pending var = some p) (hcomp : complete = true → mGet sub.written var = none)
    (hcanon : Canon p) (htrip : TripFacts L n m0)
    (h : loopMotion s ps var p complete reads C lin otherPending L = .ok (some b, d, a)) :
    a = none ∧ reads.contains var = false ∧ complete = true ∧ C.contains var = false ∧
      MovedSem sub body m0 n var p b d :=
  loopMotion_moved_sound hw ctx hnN hp hcomp hcanon htrip
    (OptLoop.loopMotion_cases s ps var p complete reads C lin otherPending L _ h)

/-- No trip count, hence usable for incomplete and infinite runs: the original and the new run agree on
everything read at the start of every round `k < N'` and, for `k ≤ N'`, on every cell outside `Differ'` (moved
cells; non-constant pending cells not performed by the new loop). -/
theorem loopMotion_prefix_sound {s : Rebuild w} {ps : List (Rebuild w)} {sub : Rebuild w}
    {reads C : List Int} {lin : List (Int × Expr w)} {otherPending : List Int} {L : OptLoop w}
    {B D : List (Int × Expr w)} {m0 : Mem w} {body : Nat → Mem w → Mem w} {N : Nat}
    (ctx : MotionCtxH s ps sub C lin m0 body N)
    (hbd : MotionBD s ps sub reads C lin otherPending L B D)
    (hrf : ReadFactsH sub reads body (run body sub.pending m0) N)
    (N' : Nat) (hN' : N' ≤ N) (hamo : L.atMostOnce = true → N' ≤ 1) :
    (∀ k, k < N' → ∀ r, reads.contains r = true →
      run body D (Mem.par B m0) k r = run body sub.pending m0 k r) ∧
    (∀ k, k ≤ N' → ∀ v, ¬ Differ' C B D sub.pending v →
      run body D (Mem.par B m0) k v = run body sub.pending m0 k v) ∧
    (∀ k, k < N' →
      (∀ v, run body D (Mem.par B m0) k v = run body sub.pending m0 k v →
        mid body D (Mem.par B m0) k v = mid body sub.pending m0 k v) ∧
      (∀ r, reads.contains r = true →
        mid body D (Mem.par B m0) k r = mid body sub.pending m0 k r)) :=
  OptLoop.loopMotion_prefix_sound ctx hbd (hrf.at _) N' hN' hamo

theorem loopMotion_all_sound_h (hw : 0 < w) {s : Rebuild w} {ps : List (Rebuild w)} {sub : Rebuild w}
    {reads C : List Int} {lin : List (Int × Expr w)} {otherPending : List Int} {L : OptLoop w}
    {B D A : List (Int × Expr w)} {m0 : Mem w} {body : Nat → Mem w → Mem w} {N : Nat}
    (ctx : MotionCtxH s ps sub C lin m0 body N) {n : Nat}
    (hnN : n ≤ N) (htrip : TripFacts L n m0)
    (hcanon : ∀ v p, mGet sub.pending v = some p → Canon p)
    (hall : MotionAll s ps sub reads C lin otherPending L n B D A)
    (hrf : ReadFactsH sub reads body (run body sub.pending m0) N)
    (hop : ∀ x, otherPending.contains x = false → mGet sub.pending x = none ∨ C.contains x = true)
    (hamo : L.atMostOnce = true → n ≤ 1) :
    (∀ k, k < n → ∀ r, reads.contains r = true →
      run body D (Mem.par B m0) k r = run body sub.pending m0 k r) ∧
    (∀ k, k ≤ n → ∀ v, ¬ (mGet B v ≠ none ∨ (mGet A v ≠ none ∧ C.contains v = false)) →
      run body D (Mem.par B m0) k v = run body sub.pending m0 k v) ∧
    (∀ k, k ≤ n → ∀ v, ¬ Differ' C B D sub.pending v →
      run body D (Mem.par B m0) k v = run body sub.pending m0 k v) ∧
    (∀ v, mGet A v = none → run body D (Mem.par B m0) n v = run body sub.pending m0 n v) ∧
    (0 < n → Mem.par A (run body D (Mem.par B m0) n) = run body sub.pending m0 n) ∧
    (n = 0 → Mem.par B m0 = m0) :=
  OptLoop.loopMotion_all_sound_h hw ctx hnN htrip hcanon hall (hrf.at _) hop hamo

theorem motionFold_spec_e (s : Rebuild w) (ps : List (Rebuild w)) (sub : Rebuild w) (R C : List Int)
    (lin : List (Int × Expr w)) (pset : List Int) (L : OptLoop w) (pending : List Int)
    (sub' : Rebuild w) (B D A : List (Int × Expr w)) (os os' : Orders)
    (hnd : pending.Nodup) (hkeys : ∀ v p, mGet sub.pending v = some p → v ∈ pending)
    (h : pending.foldlM (motionStepM s ps R C lin pset L) (sub, [], [], []) os = .ok ((sub', B, D, A), os')) :
    os' = os ∧ MotionAllE s ps sub R C lin pset L B D A :=
  OptLoop.motionFold_spec_e s ps sub R C lin pset L pending sub' B D A os os' hnd hkeys h

/-- `loopMotion_prefix_sound` at the values `finishLoop` computes. -/
theorem finishLoop_prefix_sound (s : Rebuild w) (ps : List (Rebuild w)) (sub sub' : Rebuild w)
    (cond : Int) (L : OptLoop w) (C : List Int) (B D A : List (Int × Expr w)) (os os' : Orders)
    (m0 : Mem w) (body : Nat → Mem w → Mem w) (N N' : Nat)
    (hC : constantsAmong s ps sub (sIns (possibleReads sub) cond ++
      (pendingSorted sub sub).filter (fun x => !(sIns (possibleReads sub) cond).contains x)) = .ok C)
    (hfold : (pendingSorted sub sub).foldlM
      (motionStepM s ps (sIns (possibleReads sub) cond) C
        (linearAmong s ps sub C (sIns (possibleReads sub) cond ++ pendingSorted sub sub))
        ((pendingSorted sub sub).filter (fun x => !C.contains x)) L) (sub, [], [], []) os
      = .ok ((sub', B, D, A), os'))
    (hreadsAsc : sub.reads.Pairwise (· < ·)) (hpendAsc : (sub.pending.map (·.1)).Pairwise (· < ·))
    (hcmp : ∀ v e, compare s ps (Expr.var v) e = .ok true → ev e m0 = m0 v)
    (hknown : ∀ i c, getConstant s ps i = some c → m0 i = c)
    (hbody : BodyFactsH sub body (run body sub.pending m0) N)
    (hgb : GetBothFactsH s ps sub (run body sub.pending m0) N)
    (hNI : ∀ k, k < N → ∀ (m' : Mem w) (Z : Int → Prop),
      (∀ z, Z z → (sIns (possibleReads sub) cond).contains z = false) →
      (∀ v, ¬ Z v → m' v = run body sub.pending m0 k v) →
      ∀ v, ¬ Z v → body k m' v = body k (run body sub.pending m0 k) v)
    (hframe : ∀ k, k < N → ∀ (m' : Mem w) v, mGet sub.written v = none → body k m' v = m' v)
    (hN' : N' ≤ N) (hamo : L.atMostOnce = true → N' ≤ 1) :
    os' = os ∧
    MotionAllE s ps sub (sIns (possibleReads sub) cond) C
      (linearAmong s ps sub C (sIns (possibleReads sub) cond ++ pendingSorted sub sub))
      ((pendingSorted sub sub).filter (fun x => !C.contains x)) L B D A ∧
    (∀ k, k < N' → ∀ r, (sIns (possibleReads sub) cond).contains r = true →
      run body D (Mem.par B m0) k r = run body sub.pending m0 k r) ∧
    (∀ k, k ≤ N' → ∀ v, ¬ Differ' C B D sub.pending v →
      run body D (Mem.par B m0) k v = run body sub.pending m0 k v) :=
  let ⟨h1, h2, h3, h4, _⟩ := finishLoop_prefix
    (finishLoop_ctx_h s ps sub cond C m0 body N hC hreadsAsc hpendAsc hcmp hknown hbody hgb)
    hfold hpendAsc (fun k hk Z hz h => hNI k hk _ Z hz h) (fun k hk v hv => hframe k hk _ v hv) hN' hamo
  ⟨h1, h2, h3, h4⟩

/-- `loopMotion_all_sound_h` at the values `finishLoop` computes. -/
theorem finishLoop_motion_sound_h (hw : 0 < w) (s : Rebuild w) (ps : List (Rebuild w))
    (sub sub' : Rebuild w) (cond : Int) (L : OptLoop w) (C : List Int) (B D A : List (Int × Expr w))
    (os os' : Orders) (m0 : Mem w) (body : Nat → Mem w → Mem w) (N n : Nat)
    (hC : constantsAmong s ps sub (sIns (possibleReads sub) cond ++
      (pendingSorted sub sub).filter (fun x => !(sIns (possibleReads sub) cond).contains x)) = .ok C)
    (hfold : (pendingSorted sub sub).foldlM
      (motionStepM s ps (sIns (possibleReads sub) cond) C
        (linearAmong s ps sub C (sIns (possibleReads sub) cond ++ pendingSorted sub sub))
        ((pendingSorted sub sub).filter (fun x => !C.contains x)) L) (sub, [], [], []) os
      = .ok ((sub', B, D, A), os'))
    (hreadsAsc : sub.reads.Pairwise (· < ·)) (hpendAsc : (sub.pending.map (·.1)).Pairwise (· < ·))
    (hcanon : ∀ v p, mGet sub.pending v = some p → Canon p)
    (hcmp : ∀ v e, compare s ps (Expr.var v) e = .ok true → ev e m0 = m0 v)
    (hknown : ∀ i c, getConstant s ps i = some c → m0 i = c)
    (hbody : BodyFactsH sub body (run body sub.pending m0) N)
    (hgb : GetBothFactsH s ps sub (run body sub.pending m0) N)
    (hNI : ∀ k, k < N → ∀ (m' : Mem w) (Z : Int → Prop),
      (∀ z, Z z → (sIns (possibleReads sub) cond).contains z = false) →
      (∀ v, ¬ Z v → m' v = run body sub.pending m0 k v) →
      ∀ v, ¬ Z v → body k m' v = body k (run body sub.pending m0 k) v)
    (hframe : ∀ k, k < N → ∀ (m' : Mem w) v, mGet sub.written v = none → body k m' v = m' v)
    (hnN : n ≤ N) (htrip : TripFacts L n m0) (hamo : L.atMostOnce = true → n ≤ 1)
    (hne : L.noEffect = true → n = 0) :
    os' = os ∧
    (∀ k, k < n → ∀ r, (sIns (possibleReads sub) cond).contains r = true →
      run body D (Mem.par B m0) k r = run body sub.pending m0 k r) ∧
    (∀ k, k ≤ n → ∀ v, ¬ (mGet B v ≠ none ∨ (mGet A v ≠ none ∧ C.contains v = false)) →
      run body D (Mem.par B m0) k v = run body sub.pending m0 k v) ∧
    (∀ k, k ≤ n → ∀ v, ¬ Differ' C B D sub.pending v →
      run body D (Mem.par B m0) k v = run body sub.pending m0 k v) ∧
    (∀ v, mGet A v = none → run body D (Mem.par B m0) n v = run body sub.pending m0 n v) ∧
    (0 < n → Mem.par A (run body D (Mem.par B m0) n) = run body sub.pending m0 n) ∧
    (n = 0 → Mem.par B m0 = m0) :=
  finishLoop_motion hw
    (finishLoop_ctx_h s ps sub cond C m0 body N hC hreadsAsc hpendAsc hcmp hknown hbody hgb)
    hfold hpendAsc hcanon (fun k hk Z hz h => hNI k hk _ Z hz h) (fun k hk v hv => hframe k hk _ v hv) hnN htrip hamo hne

/-! `compare` ends by comparing `Expr.constantPart`s, which says something about values only for expressions in
normal form (`Canon`); the `_c` variant needs its soundness for `Canon` expressions only, and the `known` written
and the pending expressions of the body state in normal form.  It is used through `OptLoop.finishLoop_prefix` /
`OptLoop.finishLoop_motion` with the context `OptLoop.finishLoop_ctx_c`. -/

theorem constantsAmong_sound_c (s : Rebuild w) (ps : List (Rebuild w)) (sub : Rebuild w) (vars : List Int)
    (C : List Int) (m0 : Mem w) (body : Nat → Mem w → Mem w) (N : Nat)
    (hC : constantsAmong s ps sub vars = .ok C) (hnd : vars.Nodup)
    (hcanon : ∀ v p, mGet sub.pending v = some p → Canon p)
    (hcanonW : ∀ v e, mGet sub.written v = some (.known e) → Canon e)
    (hcmp : ∀ v e, Canon e → compare s ps (Expr.var v) e = .ok true → ev e m0 = m0 v)
    (hb : BodyFactsH sub body (run body sub.pending m0) N) :
    (∀ k, k ≤ N → ∀ c ∈ C, run body sub.pending m0 k c = m0 c) ∧
    (∀ k, k < N → ∀ c ∈ C, mid body sub.pending m0 k c = m0 c) :=
  OptLoop.constantsAmong_sound_c s ps sub vars C m0 body N hC hnd hcanon hcanonW hcmp hb

theorem condFacts'_iff (s : Rebuild w) (ps : List (Rebuild w)) (sub : Rebuild w) (cond : Int) (isLoop : Bool)
    (cv : Nat → BitVec w) :
    CondFacts' s ps sub cond isLoop cv ↔
      (∀ c, getConstant s ps cond = some c → cv 0 = c) ∧
      (isNonZero s ps cond = true → cv 0 ≠ 0#w) ∧
      (isLoop = false → cv 0 ≠ 0#w → cv 1 = 0#w) ∧
      (∀ c, getConstant sub (s :: ps) (cond + sub.shift - s.shift) = some c →
        ∀ k, Live cv k → cv (k + 1) = c) ∧
      (∀ e, getConstant sub (s :: ps) (cond + sub.shift - s.shift) = none → sub.subShift = false →
        getBoth sub (s :: ps) (cond + sub.shift - s.shift) = some e →
        ∀ k, Live cv k → ∃ f : Mem w, f cond = cv k ∧ cv (k + 1) = ev e f) :=
  ⟨fun h => ⟨h.init, h.nz, h.ifOnce, h.stored, h.both⟩,
   fun h => ⟨h.1, h.2.1, h.2.2.1, h.2.2.2.1, h.2.2.2.2⟩⟩

/-- `analyzeLoop_sound` needing the `getBoth` fact only where `analyzeLoop` consults `getBoth`. -/
theorem analyzeLoop_sound' (hw : 0 < w) (s : Rebuild w) (ps : List (Rebuild w)) (sub : Rebuild w)
    (cond : Int) (isLoop : Bool) (cv : Nat → BitVec w) (hf : CondFacts' s ps sub cond isLoop cv)
    (hnr : sub.noReturn = false) :
    LoopMeaning (analyzeLoop s ps sub cond isLoop) cv cond :=
  OptLoop.analyzeLoop_sound' hw s ps sub cond isLoop cv hf hnr

theorem motionFold_keys (s : Rebuild w) (ps : List (Rebuild w)) (sub : Rebuild w) (R C : List Int)
    (lin : List (Int × Expr w)) (pset : List Int) (L : OptLoop w) (pending : List Int)
    (sub' : Rebuild w) (B D A : List (Int × Expr w)) (os os' : Orders)
    (h : pending.foldlM (motionStepM s ps R C lin pset L) (sub, [], [], []) os = .ok ((sub', B, D, A), os')) :
    (B.map (·.1)).Sublist pending ∧ (D.map (·.1)).Sublist pending ∧ (A.map (·.1)).Sublist pending :=
  OptLoop.motionFold_keys s ps sub R C lin pset L pending sub' B D A os os' h

section Examples

private def s0 : Rebuild 8 := Rebuild.new 0 none .unknown none
private def P1 : List (Int × Expr 8) :=
  [(0, Expr.add (Expr.var 0) (Expr.val 255#8)), (1, Expr.add (Expr.var 1) (Expr.val 3#8))]
private def sub1 : Rebuild 8 := { (Rebuild.new 0 (some 0) .parent none : Rebuild 8) with pending := P1 }

/- `x1 += 3` in a loop with trip count `x0`: before `x1 += 3*x0`, the counter stays -/
example : (match (pendingSorted sub1 sub1).foldlM
    (motionStepM s0 [] [0] [] [] [0, 1] (OptLoop.ofExpr (Expr.mul (Expr.val 1#8) (Expr.var 0))))
    (sub1, [], [], []) [] with
  | .ok r =>
    r.1.2.1 == [(1, ([⟨3#8, [0]⟩, ⟨1#8, [1]⟩] : Expr 8))] &&
    r.1.2.2.1 == [(0, Expr.add (Expr.var 0) (Expr.val 255#8)), (1, (Expr.var 1 : Expr 8))] &&
    r.1.2.2.2.isEmpty && r.2.isEmpty
  | .error _ => false) = true := by
  decide +kernel

end Examples

end Hpbf.C01Loop

#print axioms Hpbf.C01Loop.constantsAmong_sound_h
#print axioms Hpbf.C01Loop.linearAmong_sound_h
#print axioms Hpbf.C01Loop.loopMotion_sound_h
#print axioms Hpbf.C01Loop.loopMotion_prefix_sound
#print axioms Hpbf.C01Loop.loopMotion_all_sound_h
#print axioms Hpbf.C01Loop.motionFold_spec_e
#print axioms Hpbf.C01Loop.finishLoop_prefix_sound
#print axioms Hpbf.C01Loop.finishLoop_motion_sound_h
#print axioms Hpbf.C01Loop.constantsAmong_sound_c
#print axioms Hpbf.OptLoop.finishLoop_ctx_c
#print axioms Hpbf.C01Loop.analyzeLoop_sound'
#print axioms Hpbf.C01Loop.motionFold_keys
#print axioms Hpbf.OptLoop.motionFold_keys_nodup
#print axioms Hpbf.OptLoop.motionAllE_D_facts
#print axioms Hpbf.OptLoop.motionAllE_A_facts
