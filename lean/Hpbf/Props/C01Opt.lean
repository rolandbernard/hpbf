/-
C01, optimiser arithmetic — the MEANING of the arithmetic of `src/opt.rs` as modelled in
`Hpbf/OptArith.lean` (trip counts in `analyze_loop`; powers, geometric and triangular sums in
`loop_motion`).  The reference semantics and the theorems proved together with their lemmas are in
`Hpbf/Proofs/C01OptArith.lean` (`iter_*`, `tripInv_mul`, `tripInv_some_odd`, `tripInv_tripCount`),
`C01OptGeom.lean` (`geo_zero`, `geo_succ`) and `C01OptTri.lean` (`tri_zero`, `tri_succ`, `tri_closed`,
`triStep_cases`, `triStep_branch1/2/3`, `triStep_oddpart_no_half`, `invvar_eq`, `triStep_invvar_no_half`,
`triStep_invvar_sound`), under the same namespace; here are the other property theorems, the `example`s that
instantiate all of them on concrete values, and the axiom audit.

Cells are `BitVec w`, `+` and `*` wrap.  Reference semantics (defined in `Proofs/C01OptArith.lean`,
with their defining equations `iter_zero … tri_succ`):

* `iter inc k m` — the counter after `k` rounds of a body that adds `inc` to it: `(· + inc)^[k] m`.
* `geo mul k`    — `1 + mul + … + mul^(k-1)`:   `geo mul 0 = 0`, `geo mul (k+1) = geo mul k * mul + 1`.
* `tri I D k`    — `I + (I+D) + … + (I+(k-1)D)`: `tri I D 0 = 0`,
                   `tri I D (k+1) = tri I D k + (I + k * D)`.

Every implication is followed by `example`s that instantiate it on concrete values.
-/
import Hpbf.Proofs.C01OptArith
import Hpbf.Proofs.C01OptGeom
import Hpbf.Proofs.C01OptTri

namespace Hpbf.C01Opt
open Hpbf

variable {w : Nat}

theorem geo_succ' (mul : BitVec w) (k : Nat) : geo mul (k + 1) = 1#w + mul * geo mul k := by
  induction k with
  | zero => rw [geo_succ, geo_zero]; bvring
  | succ k ih => rw [geo_succ mul (k + 1), ih]; bvring
/-- The textbook closed form, without the division. -/
theorem geo_mul_pred (mul : BitVec w) (k : Nat) : (mul - 1#w) * geo mul k = mul ^ k - 1#w := by
  induction k with
  | zero => rw [geo_zero]; bvring
  | succ k ih =>
    have : (mul - 1#w) * geo mul (k + 1) = (mul - 1#w) * geo mul k * mul + (mul - 1#w) := by
      rw [geo_succ]; bvring
    rw [this, ih]; bvring

/-- `tri` is what the loop it replaces computes: `k` rounds of `acc += add; add += D` from
`(B, I)` leave `B + tri I D k` in the accumulator. -/
theorem tri_loop (B I D : BitVec w) (k : Nat) :
    (fun s : BitVec w × BitVec w => (s.1 + s.2, s.2 + D))^[k] (B, I)
      = (B + tri I D k, I + BitVec.ofNat w k * D) := by
  induction k with
  | zero => rw [Function.iterate_zero_apply, tri_zero]; refine Prod.ext ?_ ?_ <;> (simp only; bvring)
  | succ k ih =>
    rw [Function.iterate_succ_apply', ih, tri_succ]
    refine Prod.ext ?_ ?_ <;> (simp only; bvring)
example : iter (254#8) 3 (6#8) = 0#8 := by decide
example : geo (3#8) 5 = 121#8 := by decide
example : tri (1#8) (2#8) 5 = 25#8 := by decide

/-- `tripCount m inc = some n`: the loop `while c ≠ 0 { c += inc }` started at `c = m` leaves
after exactly `n.toNat` rounds. -/
theorem tripCount_some (hw : 0 < w) (m inc n : BitVec w)
    (h : OptArith.tripCount m inc = some n) :
    iter inc n.toNat m = 0#w ∧ ∀ k : Nat, k < n.toNat → iter inc k m ≠ 0#w := by
  unfold OptArith.tripCount at h
  obtain ⟨h1, h2⟩ := (C14.div_some_iff hw m (-inc) n).1 h
  refine ⟨iter_zero_of_root inc m n h1, fun k hk h0 => ?_⟩
  have hle := h2 _ (root_of_iter_zero inc m k h0)
  rw [BitVec.le_def, BitVec.toNat_ofNat] at hle
  have := Nat.mod_le k (2 ^ w)
  omega

example : OptArith.tripCount (6#8) (254#8) = some (3#8) := by decide
example : iter (254#8) 3 (6#8) = 0#8 ∧ ∀ k : Nat, k < 3 → iter (254#8) k (6#8) ≠ 0#8 :=
  tripCount_some (by decide) (6#8) (254#8) (3#8) (by decide)
/- several roots of `x * 2 = 6` (3 and 131): the loop leaves at the first -/
example : iter (254#8) 131 (6#8) = 0#8 := by rw [iter_eq]; decide
/- counting up: 250, 253, 0 -/
example : OptArith.tripCount (250#8) (3#8) = some (2#8) := by decide
example : OptArith.tripCount (0#8) (0#8) = some (0#8) := by decide

/-- `tripCount m inc = none`: the loop never leaves. -/
theorem tripCount_none (hw : 0 < w) (m inc : BitVec w)
    (h : OptArith.tripCount m inc = none) (k : Nat) : iter inc k m ≠ 0#w := by
  unfold OptArith.tripCount at h
  intro h0
  exact (C14.div_none_iff hw m (-inc)).1 h ⟨_, root_of_iter_zero inc m k h0⟩

example : OptArith.tripCount (5#8) (254#8) = none := by decide
example : ∀ k : Nat, iter (254#8) k (5#8) ≠ 0#8 :=
  tripCount_none (by decide) (5#8) (254#8) (by decide)
example : OptArith.tripCount (1#8) (0#8) = none := by decide

/-- Converse (so `tripCount` is complete): if the loop leaves first after `k` rounds then
`k < 2 ^ w` and `tripCount` returns `k`. -/
theorem tripCount_complete (hw : 0 < w) (m inc : BitVec w) (k : Nat)
    (h0 : iter inc k m = 0#w) (hmin : ∀ j : Nat, j < k → iter inc j m ≠ 0#w) :
    OptArith.tripCount m inc = some (BitVec.ofNat w k) ∧ k < 2 ^ w := by
  have hk : k < 2 ^ w := by
    by_contra hge
    have hlt : k % 2 ^ w < k := by
      have := Nat.mod_lt k (Nat.two_pow_pos w)
      omega
    exact hmin _ hlt (by rw [iter_mod]; exact h0)
  refine ⟨?_, hk⟩
  unfold OptArith.tripCount
  refine (C14.div_some_iff hw m (-inc) _).2 ⟨root_of_iter_zero inc m k h0, fun y hy => ?_⟩
  rw [BitVec.le_def, BitVec.toNat_ofNat, Nat.mod_eq_of_lt hk]
  by_contra hlt
  exact hmin _ (by omega) (iter_zero_of_root inc m y hy)

example : OptArith.tripCount (6#8) (254#8) = some (BitVec.ofNat 8 3) ∧ 3 < 2 ^ 8 :=
  tripCount_complete (by decide) (6#8) (254#8) 3 (by decide) (by decide)

/-- With `tripInv inc = some inv` the trip count from ANY initial value `x` is `(inv * x).toNat`. -/
theorem tripInv_some (hw : 0 < w) (inc inv : BitVec w) (h : OptArith.tripInv inc = some inv)
    (x : BitVec w) :
    iter inc (inv * x).toNat x = 0#w ∧ ∀ k : Nat, k < (inv * x).toNat → iter inc k x ≠ 0#w :=
  tripCount_some hw x inc (inv * x) (tripInv_tripCount hw inc inv h x)

example : OptArith.tripInv (253#8) = some (171#8) := by decide
/- step `-3` from 10: 174 rounds (`174 * 3 = 522 = 2 * 256 + 10`, wrapping twice) -/
example : (171#8 * 10#8).toNat = 174 := by decide
example : iter (253#8) 174 (10#8) = 0#8 ∧ ∀ k : Nat, k < 174 → iter (253#8) k (10#8) ≠ 0#8 :=
  tripInv_some (by decide) (253#8) (171#8) (by decide) (10#8)
example : OptArith.tripInv (255#8) = some (1#8) := by decide

example : OptArith.tripCount (10#8) (253#8) = some (171#8 * 10#8) :=
  tripInv_tripCount (by decide) (253#8) (171#8) (by decide) (10#8)

example : 171#8 * (-(253#8)) = 1#8 := tripInv_mul (by decide) (253#8) (171#8) (by decide)

example : Cell.isOdd (171#8) = true := tripInv_some_odd (253#8) (171#8) (by decide)

theorem isOdd_neg (x : BitVec w) : Cell.isOdd (-x) = Cell.isOdd x := by
  rcases Nat.eq_zero_or_pos w with rfl | hw
  · rw [isOdd_width_zero, isOdd_width_zero]
  · -- `(-x).toNat + x.toNat` is `(-x + x).toNat = 0` modulo `2 ^ w`, hence even
    have h : Even ((-x).toNat + x.toNat) := by
      rw [Nat.even_iff, ← Nat.mod_mod_of_dvd _ (dvd_pow_self 2 (by omega : w ≠ 0)),
        ← BitVec.toNat_add, neg_add_cancel]
      rfl
    rw [Bool.eq_iff_iff, C14.isOdd_iff hw, C14.isOdd_iff hw, ← Nat.odd_iff, ← Nat.odd_iff,
      ← Nat.not_even_iff_odd, ← Nat.not_even_iff_odd, not_iff_not]
    exact Nat.even_add.1 h

theorem tripInv_none_iff (inc : BitVec w) :
    OptArith.tripInv inc = none ↔ Cell.isOdd inc = false := by
  unfold OptArith.tripInv Cell.wrappingInv
  rw [isOdd_neg]
  cases Cell.isOdd inc <;> simp

theorem tripInv_isSome (inc : BitVec w) : (OptArith.tripInv inc).isSome = Cell.isOdd inc := by
  unfold OptArith.tripInv Cell.wrappingInv
  rw [isOdd_neg]
  cases Cell.isOdd inc <;> simp

example : OptArith.tripInv (254#8) = none ∧ Cell.isOdd (254#8) = false := by decide
example : OptArith.tripInv (0#8) = none := by decide

/-- With an odd step every loop terminates. -/
theorem tripCount_isSome_of_odd (hw : 0 < w) (m inc : BitVec w) (h : Cell.isOdd inc = true) :
    (OptArith.tripCount m inc).isSome = true := by
  have := tripInv_isSome inc
  rw [h] at this
  obtain ⟨inv, hinv⟩ := Option.isSome_iff_exists.1 this
  rw [tripInv_tripCount hw inc inv hinv m]; rfl

example : (OptArith.tripCount (77#8) (5#8)).isSome = true :=
  tripCount_isSome_of_odd (by decide) (77#8) (5#8) (by decide)

theorem geomSum_fold (mul n : BitVec w) :
    (List.range w).reverse.foldl (OptArith.geomStep mul n) (0#w, 1#w)
      = (geo mul n.toNat, mul ^ n.toNat) := by
  have h0 : n.toNat / 2 ^ w = 0 := Nat.div_eq_of_lt n.isLt
  have := geom_fold mul n w (Nat.le_refl w)
  rw [h0] at this
  exact this

/-- `wrapping_geometric_sum(mul, n) = 1 + mul + … + mul^(n-1)` (all widths). -/
theorem geomSum_spec (mul n : BitVec w) : OptArith.geomSum mul n = geo mul n.toNat := by
  unfold OptArith.geomSum
  rw [geomSum_fold]

example : OptArith.geomSum (3#8) (5#8) = 121#8 ∧ geo (3#8) (5#8).toNat = 121#8 := by decide
example : OptArith.geomSum (2#8) (255#8) = 255#8 := by decide
example : OptArith.geomSum (7#8) (0#8) = 0#8 := by decide
example : OptArith.geomSum (1#16) (1000#16) = 1000#16 := by decide

theorem affine_iter (mul c x0 : BitVec w) (k : Nat) :
    (fun x => x * mul + c)^[k] x0 = x0 * mul ^ k + c * geo mul k := by
  induction k with
  | zero => rw [Function.iterate_zero_apply, geo_zero]; bvring
  | succ k ih => rw [Function.iterate_succ_apply', ih, geo_succ]; bvring

example : (fun x => x * 3#8 + 2#8)^[5] (1#8) = 1#8 * (3#8) ^ 5 + 2#8 * geo (3#8) 5 :=
  affine_iter (3#8) (2#8) (1#8) 5
example : (fun x => x * 3#8 + 2#8)^[5] (1#8) = 229#8 := by decide

/-- What the optimiser puts in place of the loop: `n` rounds of `x = x * mul + c` are
`x0 * wrapping_pow(mul, n) + c * wrapping_geometric_sum(mul, n)`. -/
theorem affine_loop (hw : 0 < w) (mul c x0 n : BitVec w) :
    (fun x => x * mul + c)^[n.toNat] x0
      = x0 * Cell.wrappingPow mul n + c * OptArith.geomSum mul n := by
  rw [affine_iter, C14.pow_spec hw, geomSum_spec]

example : 1#8 * Cell.wrappingPow (3#8) (5#8) + 2#8 * OptArith.geomSum (3#8) (5#8) = 229#8 := by
  decide

/-- Alternative 0: nothing is moved. -/
theorem triStep_branch0 (expr initial increment before r : Expr w) (b : Nat)
    (h : OptArith.triStep expr initial increment before = (b, r)) (hb : b = 0) : r = before := by
  rcases triStep_cases expr initial increment before r b h with
    ⟨h1, _⟩ | ⟨h2, _⟩ | ⟨h3, _⟩ | ⟨_, _, _, _, hr⟩
  · omega
  · omega
  · omega
  · exact hr

/- trip count `3 * x0`, odd increment: nothing can be halved -/
example : OptArith.triStep (Expr.mul (Expr.val 3#8) (Expr.var 0)) (Expr.var 1) (Expr.val 1#8)
    (Expr.var 2) = (0, Expr.var 2) := by decide +kernel

example :
    Expr.evaluate (OptArith.triStep (Expr.var 0) (Expr.val 1#8) (Expr.val 2#8) (Expr.var 1)).2
        (fun _ => 5#8)
      = Expr.evaluate (Expr.var 1) (fun _ => 5#8)
        + tri (Expr.evaluate (Expr.val 1#8) (fun _ => 5#8))
            (Expr.evaluate (Expr.val 2#8) (fun _ => 5#8)) 5 :=
  triStep_branch1 (Expr.var 0) (Expr.val 1#8) (Expr.val 2#8) (Expr.var 1) _ _ rfl (by decide)
    (fun _ => 5#8) 5 (by decide)
/- 1 + 3 + 5 + 7 + 9 on top of 5 -/
example :
    Expr.evaluate (OptArith.triStep (Expr.var 0) (Expr.val 1#8) (Expr.val 2#8) (Expr.var 1)).2
        (fun _ => 5#8) = 30#8 := by decide +kernel

/-- In particular for the number of rounds the loop really runs, `(evaluate expr f).toNat`. -/
theorem triStep_branch1_toNat (expr initial increment before r : Expr w) (b : Nat)
    (h : OptArith.triStep expr initial increment before = (b, r)) (hb : b = 1)
    (f : Int → BitVec w) :
    Expr.evaluate r f = Expr.evaluate before f
      + tri (Expr.evaluate initial f) (Expr.evaluate increment f) (Expr.evaluate expr f).toNat :=
  triStep_branch1 expr initial increment before r b h hb f _
    (by rw [BitVec.ofNat_toNat, BitVec.setWidth_eq])

example (f : Int → BitVec 8) :
    Expr.evaluate (OptArith.triStep (Expr.var 0) (Expr.val 1#8) (Expr.val 2#8) (Expr.var 1)).2 f
      = Expr.evaluate (Expr.var 1) f
        + tri (Expr.evaluate (Expr.val 1#8) f) (Expr.evaluate (Expr.val 2#8) f)
            (Expr.evaluate (Expr.var 0) f).toNat :=
  triStep_branch1_toNat (Expr.var 0) (Expr.val 1#8) (Expr.val 2#8) (Expr.var 1) _ _ rfl
    (by decide) f

example :
    Expr.evaluate (OptArith.triStep (Expr.val 6#8) (Expr.var 0) (Expr.val 1#8) (Expr.var 1)).2
        (fun _ => 5#8)
      = Expr.evaluate (Expr.var 1) (fun _ => 5#8)
        + tri (Expr.evaluate (Expr.var 0) (fun _ => 5#8))
            (Expr.evaluate (Expr.val 1#8) (fun _ => 5#8)) 6 :=
  triStep_branch2 (Expr.val 6#8) (Expr.var 0) (Expr.val 1#8) (Expr.var 1) _ _ rfl (by decide)
    (fun _ => 5#8) 6 (Expr.val 3#8) (by decide) (by decide)

example :
    Expr.evaluate (OptArith.triStep (Expr.val 7#8) (Expr.var 0) (Expr.val 1#8) (Expr.var 1)).2
        (fun _ => 5#8)
      = Expr.evaluate (Expr.var 1) (fun _ => 5#8)
        + tri (Expr.evaluate (Expr.var 0) (fun _ => 5#8))
            (Expr.evaluate (Expr.val 1#8) (fun _ => 5#8)) 7 :=
  triStep_branch3 (Expr.val 7#8) (Expr.var 0) (Expr.val 1#8) (Expr.var 1) _ _ rfl
    (by decide +kernel) (fun _ => 5#8) 7 (Expr.val 3#8) (by decide +kernel) (by decide)

/-- A constant trip count `c` (the only way the optimiser reaches alternatives 2 and 3): whatever
alternative is taken, the moved expression is right for `N = c.toNat` (all widths). -/
theorem triStep_val_sound (c : BitVec w) (initial increment before r : Expr w) (b : Nat)
    (h : OptArith.triStep (Expr.val c) initial increment before = (b, r)) (hb : b ≠ 0)
    (f : Int → BitVec w) :
    Expr.evaluate r f = Expr.evaluate before f
      + tri (Expr.evaluate initial f) (Expr.evaluate increment f) c.toNat := by
  rcases triStep_cases _ initial increment before r b h with
    ⟨b1, _⟩ | ⟨b2, _, hx, h2, _⟩ | ⟨b3, _, hnone, hx, h3, _⟩ | ⟨h0, _⟩
  · refine triStep_branch1 _ initial increment before r b h b1 f c.toNat ?_
    rw [C15.value_val, BitVec.ofNat_toNat, BitVec.setWidth_eq]
  · exact triStep_branch2 _ initial increment before r b h b2 f c.toNat hx h2
      (half_val_toNat c hx f h2)
  · have hc : c ≠ 0#w := by
      rintro rfl
      simp [Expr.val, Expr.half] at hnone
    refine triStep_branch3 _ initial increment before r b h b3 f c.toNat hx h3 ?_
    rw [add_val_val] at h3
    rw [half_val_toNat _ hx f h3]
    exact toNat_pred c hc
  · exact absurd h0 hb

/- all three alternatives occur with constant trip counts -/
example : (OptArith.triStep (Expr.val 9#8) (Expr.var 0) (Expr.var 3) (Expr.var 1)).1 = 3 := by
  decide +kernel
example : (OptArith.triStep (Expr.val 10#8) (Expr.var 0) (Expr.var 3) (Expr.var 1)).1 = 2 := by
  decide +kernel
example : (OptArith.triStep (Expr.val 9#8) (Expr.var 0) (Expr.val 4#8) (Expr.var 1)).1 = 1 := by
  decide +kernel
example (f : Int → BitVec 8) :
    Expr.evaluate (OptArith.triStep (Expr.val 9#8) (Expr.var 0) (Expr.var 3) (Expr.var 1)).2 f
      = Expr.evaluate (Expr.var 1) f
        + tri (Expr.evaluate (Expr.var 0) f) (Expr.evaluate (Expr.var 3) f) (9#8).toNat :=
  triStep_val_sound (9#8) (Expr.var 0) (Expr.var 3) (Expr.var 1) _ _ rfl (by decide +kernel) f

example : (OptArith.triStep (Expr.mul (Expr.val 171#8) (Expr.var 0)) (Expr.var 1) (Expr.val 2#8)
    (Expr.var 2)).1 = 1 := by decide +kernel
example : (OptArith.triStep (Expr.mul (Expr.val 171#8) (Expr.var 0)) (Expr.var 1) (Expr.val 1#8)
    (Expr.var 2)).1 = 0 := by decide +kernel
/- `0 < w` is needed: at width 0 the product is the empty expression, which can be "halved" -/
example : (OptArith.triStep (Expr.mul (Expr.val 0#0) (Expr.var 0)) (Expr.var 1) (Expr.var 1)
    (Expr.var 2)).1 = 2 := by decide +kernel

/- step `-3` from `x0 = 10`: trip count `171 * 10 = 174 (mod 256)` -/
example :
    Expr.evaluate (OptArith.triStep (Expr.mul (Expr.val 171#8) (Expr.var 0)) (Expr.var 1)
        (Expr.val 2#8) (Expr.var 2)).2 (fun _ => 10#8)
      = Expr.evaluate (Expr.var 2) (fun _ => 10#8)
        + tri (Expr.evaluate (Expr.var 1) (fun _ => 10#8))
            (Expr.evaluate (Expr.val 2#8) (fun _ => 10#8)) 174 :=
  triStep_invvar_sound (by decide) (171#8) 0 (by decide) (Expr.var 1) (Expr.val 2#8) (Expr.var 2)
    _ _ rfl (by decide +kernel) (fun _ => 10#8) 174 (by decide)

/-- The side condition of `triStep_branch2` cannot be dropped.  Trip count `2 * x0` with
`x0 = 200` at width 8: the loop runs `N = 144` rounds (`400 mod 256`), alternative 2 is taken with
the half `x0 = 200 ≠ 72`, and the moved expression is NOT `before + tri initial increment 144`
(it is `… + tri … 400`).  The optimiser is safe only because the trip counts it builds are
constants (`triStep_val_sound`) or `inv * x` with `inv` odd (`triStep_invvar_no_half`). -/
theorem triStep_branch2_needs_exact_half :
    let expr : Expr 8 := Expr.mul (Expr.val 2#8) (Expr.var 0)
    let initial : Expr 8 := Expr.var 1
    let increment : Expr 8 := Expr.val 1#8
    let before : Expr 8 := Expr.var 2
    let f : Int → BitVec 8 := fun _ => 200#8
    let res := OptArith.triStep expr initial increment before
    res.1 = 2 ∧ Expr.half expr = some (Expr.var 0) ∧
    Expr.evaluate expr f = BitVec.ofNat 8 144 ∧ (Expr.evaluate expr f).toNat = 144 ∧
    (Expr.evaluate (Expr.var 0 : Expr 8) f).toNat * 2 = 400 ∧
    Expr.evaluate res.2 f
      ≠ Expr.evaluate before f + tri (Expr.evaluate initial f) (Expr.evaluate increment f) 144 := by
  decide +kernel

/- for the representative `N = 400 = 2 * 200` of the same cell value the equation holds -/
example :
    Expr.evaluate (OptArith.triStep (Expr.mul (Expr.val 2#8) (Expr.var 0)) (Expr.var 1)
        (Expr.val 1#8) (Expr.var 2)).2 (fun _ => 200#8)
      = Expr.evaluate (Expr.var 2) (fun _ => 200#8)
        + tri (Expr.evaluate (Expr.var 1) (fun _ => 200#8))
            (Expr.evaluate (Expr.val 1#8) (fun _ => 200#8)) 400 :=
  triStep_branch2 (Expr.mul (Expr.val 2#8) (Expr.var 0)) (Expr.var 1) (Expr.val 1#8) (Expr.var 2)
    _ _ rfl (by decide +kernel) (fun _ => 200#8) 400 (Expr.var 0) (by decide +kernel) (by decide)

#print axioms iter_succ
#print axioms iter_eq
#print axioms geo_succ'
#print axioms geo_mul_pred
#print axioms tri_loop
#print axioms tri_closed
#print axioms tripCount_some
#print axioms tripCount_none
#print axioms tripCount_complete
#print axioms tripInv_some
#print axioms tripInv_tripCount
#print axioms tripInv_mul
#print axioms tripInv_some_odd
#print axioms tripInv_none_iff
#print axioms tripInv_isSome
#print axioms isOdd_neg
#print axioms tripCount_isSome_of_odd
#print axioms geomSum_spec
#print axioms geomSum_fold
#print axioms affine_iter
#print axioms affine_loop
#print axioms triStep_cases
#print axioms triStep_branch0
#print axioms triStep_branch1
#print axioms triStep_branch1_toNat
#print axioms triStep_branch2
#print axioms triStep_branch3
#print axioms triStep_val_sound
#print axioms triStep_oddpart_no_half
#print axioms invvar_eq
#print axioms triStep_invvar_no_half
#print axioms triStep_invvar_sound
#print axioms triStep_branch2_needs_exact_half

end Hpbf.C01Opt
